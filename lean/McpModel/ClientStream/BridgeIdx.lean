import McpModel.ClientStream.BridgeBody
/-!
The monitor reads the log through indices (`s.items[i]?`); the body lemma (`processBody_exchange`) speaks about the
slice of completely received items.  `itemsAt` turns a list of indices into the items there; for the indices of a
body that is the slice (`itemsAt_idxOf`), and each function of the monitor has one lemma that restates it on items.
-/
namespace ClientStream
open Generated.ClientStream

variable {L : Type}

theorem sublist_range' (l : List Nat) (a n : Nat) (hp : l.Pairwise (· < ·)) (hb : ∀ i ∈ l, a ≤ i ∧ i < a + n) :
    l.Sublist (List.range' a n) := by
  induction n generalizing a l with
  | zero =>
    cases l with
    | nil => exact .slnil
    | cons x xs => have := hb x (List.mem_cons_self ..); omega
  | succ n ih =>
    rw [List.range'_succ]
    cases l with
    | nil => exact List.nil_sublist _
    | cons x xs =>
      obtain ⟨hx, hxs⟩ := List.pairwise_cons.1 hp
      by_cases hxa : x = a
      · subst hxa
        apply List.Sublist.cons_cons
        apply ih _ _ hxs
        intro i hi
        have := hb i (List.mem_cons_of_mem _ hi)
        have := hx i hi
        omega
      · apply List.Sublist.cons
        apply ih _ _ hp
        intro i hi
        have h1 := hb i hi
        rcases List.mem_cons.1 hi with rfl | hi'
        · omega
        · have := hx i hi'
          have := hb x (List.mem_cons_self ..)
          omega

theorem sublist_range (l : List Nat) (n : Nat) (hp : l.Pairwise (· < ·)) (hb : ∀ i ∈ l, i < n) :
    l.Sublist (List.range n) := by
  rw [List.range_eq_range']
  exact sublist_range' l 0 n hp (fun i hi => ⟨Nat.zero_le _, by have := hb i hi; omega⟩)

theorem pairwise_range'_filter (p : Nat → Bool) (f k : Nat) : ((List.range' f k).filter p).Pairwise (· < ·) :=
  (List.pairwise_lt_range').sublist (List.filter_sublist)

def itemsAt (s : Scn L) (idx : List Nat) : List (LItem L) := idx.filterMap (s.items[·]?)

theorem itemsAt_cons (s : Scn L) (i : Nat) (idx : List Nat) :
    itemsAt s (i :: idx) = (match s.items[i]? with | some it => [it] | none => []) ++ itemsAt s idx := by
  unfold itemsAt
  rw [List.filterMap_cons]
  cases s.items[i]? <;> rfl

theorem mem_itemsAt {s : Scn L} {idx : List Nat} {it : LItem L} (h : it ∈ itemsAt s idx) : it ∈ s.items :=
  let ⟨_, _, hi⟩ := List.mem_filterMap.1 h
  List.mem_of_getElem? hi

theorem itemsAt_range' (items : List (LItem L)) (f k : Nat) :
    (List.range' f k).filterMap (items[·]?) = (items.drop f).take k := by
  induction k generalizing f with
  | zero => simp
  | succ k ih =>
    rw [List.range'_succ, List.filterMap_cons, ih]
    cases h : items[f]? with
    | none =>
      have : items.length ≤ f := by simpa using h
      simp [List.drop_eq_nil_iff.2 this, List.drop_eq_nil_iff.2 (Nat.le_succ_of_le this)]
    | some it =>
      have hf : f < items.length := (List.getElem?_eq_some_iff.1 h).1
      rw [List.drop_eq_getElem_cons hf, List.take_succ_cons]
      simp [(List.getElem?_eq_some_iff.1 h).2]

/-- the indices of the completely received items of a body -/
def idxOf (s : Scn L) (f c : Nat) : List Nat := completeIdx (s.items.drop f) f c

theorem idxOf_eq (s : Scn L) (f c : Nat) : idxOf s f c = List.range' f (ccount (s.items.drop f) c) :=
  completeIdx_eq _ _ _

theorem itemsAt_idxOf (s : Scn L) (f c : Nat) : itemsAt s (idxOf s f c) = sliceOf s f c := by
  rw [idxOf_eq]; exact itemsAt_range' s.items f _

theorem idxOf_mem (s : Scn L) (f c i : Nat) (h : i ∈ idxOf s f c) : f ≤ i ∧ i < s.items.length := by
  rw [idxOf_eq] at h
  have hm := List.mem_range'_1.1 h
  have := ccount_le (s.items.drop f) c
  rw [List.length_drop] at this
  omega

def carriesIdx (s : Scn L) (i : Nat) : Bool :=
  match s.items[i]? with
  | some it => carries it
  | none => false

def idOfIdx (s : Scn L) (i : Nat) : Bytes := (s.items[i]?).map (·.ev.id) |>.getD []

/-- the cursor after receiving the items `idx` completely, starting from `cur` -/
def lastIdIdx (s : Scn L) (cur : Bytes) (idx : List Nat) : Bytes :=
  idx.foldl (fun c i => if s.hasId i then idOfIdx s i else c) cur

theorem cursor_match_eq (s : Scn L) (cur : Bytes) (idx : List Nat) :
    (match (idx.filter s.hasId).getLast? with
      | some i => (s.items[i]?).map (·.ev.id) |>.getD []
      | none => cur) = lastIdIdx s cur idx := by
  induction idx generalizing cur with
  | nil => simp [lastIdIdx]
  | cons i rest ih =>
    simp only [lastIdIdx, List.foldl_cons, List.filter_cons]
    by_cases h : s.hasId i = true
    · simp only [h, if_true]
      rw [← lastIdIdx, ← ih, List.getLast?_cons]
      cases (rest.filter s.hasId).getLast? <;> simp [idOfIdx]
    · simp only [h, Bool.false_eq_true, if_false]
      exact ih cur

theorem cursorOf_snoc_lastIdIdx (s : Scn L) (ex : List Exch) (e : Exch) :
    cursorOf s (ex ++ [e]) = lastIdIdx s (cursorOf s ex) e.complete := by
  rw [cursorOf_snoc]
  exact cursor_match_eq s (cursorOf s ex) e.complete

theorem any_itemsAt (s : Scn L) (g : LItem L → Bool) (idx : List Nat) :
    idx.any (fun i => match s.items[i]? with | some it => g it | none => false) = (itemsAt s idx).any g := by
  induction idx with
  | nil => rfl
  | cons i rest ih =>
    rw [List.any_cons, itemsAt_cons, List.any_append, ih]
    cases s.items[i]? <;> simp

theorem itemsAt_filter (s : Scn L) (g : LItem L → Bool) (idx : List Nat) :
    itemsAt s (idx.filter fun i => match s.items[i]? with | some it => g it | none => false) = (itemsAt s idx).filter g := by
  induction idx with
  | nil => rfl
  | cons i rest ih =>
    rw [List.filter_cons, itemsAt_cons, List.filter_append, ← ih]
    cases h : s.items[i]? with
    | none => rfl
    | some it => cases hg : g it <;> simp [itemsAt_cons, h, hg]

section facts
variable (s : Scn L) (hs : ScnOK s) (f c : Nat)
include hs

theorem hasId_item (it : LItem L) (h : it ∈ s.items) : (!it.raw && it.ev.id != []) = (it.ev.id != []) := by
  cases hr : it.raw with
  | false => simp
  | true => have := (hs.item it h).raw hr; simp [this]

theorem labelsOf_items (idx : List Nat) : labelsOf s idx = (slMsgs (itemsAt s idx)).filter s.lab.isNotif := by
  unfold labelsOf slMsgs
  rw [List.filter_filterMap, itemsAt, List.filterMap_filterMap]
  congr 1
  funext i
  cases hi : s.items[i]? with
  | none => rfl
  | some it =>
    have hl := (hs.item it (List.mem_of_getElem? hi)).lab
    cases hn : s.lab.isNotif it.label with
    | true => simp [hn, show carries it = true by rw [hl, hn]; rfl, Option.filter]
    | false => cases hc : carries it <;> simp [hn, hc, Option.filter]

theorem hintOfIdx_items (idx : List Nat) : hintOfIdx s idx = hintFold 0 ((itemsAt s idx).map (·.ev)) := by
  unfold hintOfIdx hintFold
  generalize (0 : Int) = h
  induction idx generalizing h with
  | nil => rfl
  | cons i rest ih =>
    rw [List.foldl_cons, itemsAt_cons]
    cases hi : s.items[i]? with
    | none => exact ih h
    | some it =>
      rw [List.singleton_append, List.map_cons, List.foldl_cons, ih]
      congr 1
      unfold hintStep
      cases hr : it.raw with
      | true => simp [hr, (hs.item it (List.mem_of_getElem? hi)).raw hr]
      | false => by_cases hre : it.ev.retry = [] <;> simp [hr, hre]

theorem lastIdIdx_items (cur : Bytes) (idx : List Nat) :
    lastIdIdx s cur idx = lastIdOf cur ((itemsAt s idx).map (·.ev)) := by
  unfold lastIdIdx
  induction idx generalizing cur with
  | nil => rfl
  | cons i rest ih =>
    rw [List.foldl_cons, itemsAt_cons, ih]
    unfold Scn.hasId idOfIdx
    cases hi : s.items[i]? with
    | none => rfl
    | some it =>
      rw [List.singleton_append, List.map_cons, lastIdOf_cons]
      congr 1
      simp only [hasId_item s hs it (List.mem_of_getElem? hi), Option.map_some, Option.getD_some]
      by_cases hid : it.ev.id = [] <;> simp [hid]

theorem anyHasId_items (idx : List Nat) : idx.any s.hasId = (itemsAt s idx).any (fun it => it.ev.id != []) := by
  rw [show idx.any s.hasId = _ from any_itemsAt s (fun it => !it.raw && it.ev.id != []) idx, Bool.eq_iff_iff,
    List.any_eq_true, List.any_eq_true]
  exact exists_congr fun it => and_congr_right fun hit => by rw [hasId_item s hs it (mem_itemsAt hit)]

theorem slice_anyId : (idxOf s f c).any s.hasId = (sliceOf s f c).any (fun it => it.ev.id != []) := by
  rw [anyHasId_items s hs, itemsAt_idxOf]

end facts

end ClientStream
