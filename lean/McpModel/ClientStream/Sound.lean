import McpModel.Base.Logic
import McpModel.ClientStream.MonLemmas
import McpModel.ClientStream.Examples
/-!
Clause soundness of the C09 monitor (E6).  For every clause the monitor can report (`Clause`) the corresponding clause of the property is stated
as a predicate `P_…` on observation traces — the records of a case after its `scn` record, i.e. what
the scripted server owns and served (ground truth: `hist`, the exchanges with the items completely
received in each, from the byte lengths) and what the IMPLEMENTATION did (the Last-Event-ID of every
attempt, the delivered messages, how the call ended).  The predicates quantify over positions of the
trace and do not mention the monitor's state or the model.  `sound_<clause>`: whenever the monitor
reports the clause at the step that extends `tr` by `r`, the predicate fails on `tr ++ [r]`.

The monitor's state is history: `monAfter_exch` (its exchange list is `hist`), `lost_of_flag` /
`wrong_of_flag` (its two flags were raised by a past reconnect that dropped / falsified the cursor),
`ctx_flag_iff` (its `ctxEnded` flag says exactly that the caller's context has ended:
a `cancel` record or an exchange of kind `ctx` lies in the past).
-/
-- several theorems below carry the section's `[BEq L] [LawfulBEq L]` without using both
set_option linter.unusedSectionVars false
namespace ClientStream
open Generated.ClientStream

variable {L : Type} [BEq L] [LawfulBEq L]

abbrev Trace (L : Type) := List (Rec L)

/-- the exchanges so far (the record of exchange 0 starts the stream) -/
def stepExch (s : Scn L) (ex : List Exch) : Rec L → List Exch
  | .x r => if r.k = 0 then [exchOf s r] else ex ++ [exchOf s r]
  | _ => ex

def hist (s : Scn L) (tr : Trace L) : List Exch := tr.foldl (stepExch s) []

/-- the exchanges before record `i` -/
def histAt (s : Scn L) (tr : Trace L) (i : Nat) : List Exch := hist s (tr.take i)

/-- the resume cursor a correct client holds before record `i`: the id of the last event received
completely that has one (`[]`: none) -/
def cursorAtRec (s : Scn L) (tr : Trace L) (i : Nat) : Bytes := cursorOf s (histAt s tr i)

/-- some reconnect before the end of `tr` went out without Last-Event-ID although a cursor existed -/
def Lost (s : Scn L) (tr : Trace L) : Prop :=
  ∃ (i : Nat) (r : XRec), tr[i]? = some (Rec.x r) ∧ r.k ≠ 0 ∧ r.hdr = none ∧ cursorAtRec s tr i ≠ []

/-- some reconnect carried a Last-Event-ID that is not the cursor -/
def Wrong (s : Scn L) (tr : Trace L) : Prop :=
  ∃ (i : Nat) (r : XRec), tr[i]? = some (Rec.x r) ∧ r.k ≠ 0 ∧ r.hdr ≠ none ∧ r.hdr ≠ hdrOf (cursorAtRec s tr i)

/-- the server's messages, in the order of the log -/
def allMsgs (s : Scn L) : List L := labelsOf s (List.range s.items.length)

/-- the delivered list skips one of the server's messages -/
def Gap (s : Scn L) (ls : List L) : Prop := ls ≠ (allMsgs s).take ls.length

theorem monAfter_snoc (s : Scn L) (m : Mon) (tr : Trace L) (r : Rec L) :
    monAfter s m (tr ++ [r]) = (monStep s (monAfter s m tr) r).1 := by
  simp [monAfter, List.foldl_append]

theorem monStep_exch (s : Scn L) (m : Mon) (r : Rec L) : (monStep s m r).1.exch = stepExch s m.exch r := by
  cases r with
  | x r => simp only [monStep, stepExch]; split <;> rfl
  | _ => rfl

theorem monAfter_exch_from (s : Scn L) (m : Mon) (tr : Trace L) :
    (monAfter s m tr).exch = tr.foldl (stepExch s) m.exch :=
  (List.foldl_hom (·.exch) fun m r => (monStep_exch s m r).symm).symm

theorem monAfter_exch (s : Scn L) (tr : Trace L) : (monAfter s {} tr).exch = hist s tr :=
  monAfter_exch_from s {} tr

theorem histAt_snoc_len (s : Scn L) (tr : Trace L) (r : Rec L) : histAt s (tr ++ [r]) tr.length = hist s tr := by
  unfold histAt; rw [List.take_left]

theorem pos_snoc (s : Scn L) (tr : Trace L) (r : Rec L) {i : Nat} {a : Rec L} (hi : tr[i]? = some a) :
    (tr ++ [r])[i]? = some a ∧ histAt s (tr ++ [r]) i = histAt s tr i := by
  have hlt : i < tr.length := (List.getElem?_eq_some_iff.1 hi).1
  refine ⟨by rw [List.getElem?_append_left hlt]; exact hi, ?_⟩
  unfold histAt
  rw [List.take_append_of_le_length (Nat.le_of_lt hlt)]

theorem Lost.snoc {s : Scn L} {tr : Trace L} (h : Lost s tr) (r : Rec L) : Lost s (tr ++ [r]) := by
  obtain ⟨i, x, hi, hk, hh, hc⟩ := h
  obtain ⟨hi', hh'⟩ := pos_snoc s tr r hi
  exact ⟨i, x, hi', hk, hh, by unfold cursorAtRec at hc ⊢; rw [hh']; exact hc⟩

theorem Wrong.snoc {s : Scn L} {tr : Trace L} (h : Wrong s tr) (r : Rec L) : Wrong s (tr ++ [r]) := by
  obtain ⟨i, x, hi, hk, hh, hc⟩ := h
  obtain ⟨hi', hh'⟩ := pos_snoc s tr r hi
  exact ⟨i, x, hi', hk, hh, by unfold cursorAtRec at hc ⊢; rw [hh']; exact hc⟩

theorem monStep_flags (s : Scn L) (m : Mon) (r : Rec L) :
    ((monStep s m r).1.cursorLost = true → m.cursorLost = true ∨
      ∃ x, r = .x x ∧ x.k ≠ 0 ∧ x.hdr = none ∧ cursorOf s m.exch ≠ []) ∧
    ((monStep s m r).1.wrongCursor = true → m.wrongCursor = true ∨
      ∃ x, r = .x x ∧ x.k ≠ 0 ∧ x.hdr ≠ none ∧ x.hdr ≠ hdrOf (cursorOf s m.exch)) := by
  cases r with
  | x x =>
    simp only [monStep]
    by_cases hk : x.k = 0
    · rw [if_pos hk]; exact ⟨.inl, .inl⟩
    · rw [if_neg hk]
      simp only [Bool.or_eq_true, Bool.and_eq_true, beq_iff_eq, bne_iff_ne, ne_eq]
      exact ⟨.imp_right fun h => ⟨x, rfl, hk, h⟩, .imp_right fun h => ⟨x, rfl, hk, h⟩⟩
  | _ => exact ⟨.inl, .inl⟩

theorem lost_of_flag (s : Scn L) (tr : Trace L) (h : (monAfter s {} tr).cursorLost = true) : Lost s tr := by
  induction tr using List.snoc_induction with
  | nil => cases h
  | snoc tr r ih =>
    rw [monAfter_snoc] at h
    rcases (monStep_flags s _ r).1 h with h | ⟨x, rfl, hk, hh, hc⟩
    · exact (ih h).snoc _
    · refine ⟨tr.length, x, List.getElem?_concat_length, hk, hh, ?_⟩
      unfold cursorAtRec
      rw [histAt_snoc_len, ← monAfter_exch]; exact hc

theorem wrong_of_flag (s : Scn L) (tr : Trace L) (h : (monAfter s {} tr).wrongCursor = true) : Wrong s tr := by
  induction tr using List.snoc_induction with
  | nil => cases h
  | snoc tr r ih =>
    rw [monAfter_snoc] at h
    rcases (monStep_flags s _ r).2 h with h | ⟨x, rfl, hk, hh, hc⟩
    · exact (ih h).snoc _
    · refine ⟨tr.length, x, List.getElem?_concat_length, hk, hh, ?_⟩
      unfold cursorAtRec
      rw [histAt_snoc_len, ← monAfter_exch]; exact hc

/-- the caller's own context has ended somewhere in `tr`: it was cancelled while no request was in
flight (a `cancel` record), or it ended while a reconnect attempt was in flight (an exchange of kind `ctx`) -/
def CtxEnded (tr : Trace L) : Prop :=
  ∃ i : Nat, (∃ t : Nat, tr[i]? = some (Rec.cancel t)) ∨ (∃ r : XRec, tr[i]? = some (Rec.x r) ∧ r.k ≠ 0 ∧ r.kind = .ctx)

omit [BEq L] [LawfulBEq L] in
theorem ctxEnded_snoc_iff {tr : Trace L} {r : Rec L} :
    CtxEnded (tr ++ [r]) ↔
      CtxEnded tr ∨ (∃ t, r = .cancel t) ∨ (∃ x : XRec, r = .x x ∧ x.k ≠ 0 ∧ x.kind = .ctx) := by
  constructor
  · rintro ⟨i, h⟩
    have hi : i < tr.length ∨ i = tr.length := by
      have : i < (tr ++ [r]).length := by
        rcases h with ⟨t, h⟩ | ⟨x, h, _⟩ <;> exact (List.getElem?_eq_some_iff.1 h).1
      rw [List.length_append, List.length_singleton] at this
      omega
    rcases hi with hlt | rfl
    · rw [List.getElem?_append_left hlt] at h
      exact .inl ⟨i, h⟩
    · rw [List.getElem?_concat_length] at h
      rcases h with ⟨t, h⟩ | ⟨x, h, hk, hc⟩
      · exact .inr (.inl ⟨t, Option.some.inj h⟩)
      · exact .inr (.inr ⟨x, Option.some.inj h, hk, hc⟩)
  · rintro (⟨i, h⟩ | ⟨t, rfl⟩ | ⟨x, rfl, hk, hc⟩)
    · have hlt : i < tr.length := by
        rcases h with ⟨t, h⟩ | ⟨x, h, _⟩ <;> exact (List.getElem?_eq_some_iff.1 h).1
      exact ⟨i, by rw [List.getElem?_append_left hlt]; exact h⟩
    · exact ⟨tr.length, .inl ⟨t, List.getElem?_concat_length⟩⟩
    · exact ⟨tr.length, .inr ⟨x, List.getElem?_concat_length, hk, hc⟩⟩

omit [LawfulBEq L] in
theorem monStep_ctxEnded (s : Scn L) (m : Mon) (r : Rec L) :
    (monStep s m r).1.ctxEnded = true ↔
      m.ctxEnded = true ∨ (∃ t, r = .cancel t) ∨ (∃ x : XRec, r = .x x ∧ x.k ≠ 0 ∧ x.kind = .ctx) := by
  cases r with
  | x x =>
    simp only [monStep]
    by_cases hk : x.k = 0
    · rw [if_pos hk]; simp [hk]
    · rw [if_neg hk]; simp [hk]
  | cancel t => simp [monStep]
  | _ => simp [monStep]

theorem ctx_flag_iff (s : Scn L) (tr : Trace L) : (monAfter s {} tr).ctxEnded = true ↔ CtxEnded tr := by
  induction tr using List.snoc_induction with
  | nil => exact ⟨nofun, fun ⟨i, h⟩ => by simp at h⟩
  | snoc tr r ih => rw [monAfter_snoc, monStep_ctxEnded, ih, ctxEnded_snoc_iff]

theorem ctx_of_flag (s : Scn L) (tr : Trace L) (h : (monAfter s {} tr).ctxEnded = true) : CtxEnded tr :=
  (ctx_flag_iff s tr).1 h

/-- (read the name from right to left) flag down → the caller's context has not ended -/
theorem flag_of_noctx (s : Scn L) (tr : Trace L) (h : (monAfter s {} tr).ctxEnded = false) : ¬ CtxEnded tr := by
  intro hc
  rw [(ctx_flag_iff s tr).2 hc] at h
  cases h

/-! ### reconnect attempts: "resumes with the id of the last event it received completely" -/

/-- **The resume request.** Every reconnect carries exactly the id of the last completely received
event that has one, and no Last-Event-ID when there is none. -/
def P_lastId (s : Scn L) (tr : Trace L) : Prop :=
  ∀ (i : Nat) (r : XRec), tr[i]? = some (Rec.x r) → r.k ≠ 0 → r.hdr = hdrOf (cursorAtRec s tr i)

/-- (F18) once an event with an id has been received completely, every reconnect carries a Last-Event-ID -/
def P_f18NoHeader (s : Scn L) (tr : Trace L) : Prop :=
  ∀ (i : Nat) (r : XRec), tr[i]? = some (Rec.x r) → r.k ≠ 0 → cursorAtRec s tr i ≠ [] → r.hdr ≠ none

/-- (F5) every Last-Event-ID sent is the id of an event of the stream -/
def P_f5UnknownId (s : Scn L) (tr : Trace L) : Prop :=
  ∀ (i : Nat) (r : XRec) (h : Bytes), tr[i]? = some (Rec.x r) → r.k ≠ 0 → r.hdr = some h → ∃ it ∈ s.items, it.raw = false ∧ it.ev.id = h

/-- (F5) the event the server finds under a Last-Event-ID sent was received completely before -/
def P_f5IncompleteId (s : Scn L) (tr : Trace L) : Prop :=
  ∀ (i : Nat) (r : XRec) (h : Bytes), tr[i]? = some (Rec.x r) → r.k ≠ 0 → r.hdr = some h →
    ∃ j, s.items.findIdx? (fun it => !it.raw && it.ev.id == h) = some j ∧ j ∈ gotOf (histAt s tr i)

/-- a call stream is never reconnected while no event id has been received completely (it cannot be
resumed: the call is failed instead) -/
def P_unresumableReconnect (s : Scn L) (tr : Trace L) : Prop :=
  ∀ (i : Nat) (r : XRec), tr[i]? = some (Rec.x r) → r.k ≠ 0 → s.sa = false → cursorAtRec s tr i ≠ []

/-- after a response whose status fails the connection (session gone, 4xx, 5xx) nothing is attempted -/
def P_afterStatus (s : Scn L) (tr : Trace L) : Prop :=
  ∀ (i : Nat) (r : XRec), tr[i]? = some (Rec.x r) → r.k ≠ 0 → (histAt s tr i).any (·.isSt) = false

/-- at most `maxRetries` bodies in a row without a completely received event id are followed by
another reconnect -/
def P_fruitlessExceeded (s : Scn L) (tr : Trace L) : Prop :=
  ∀ (i : Nat) (r : XRec), tr[i]? = some (Rec.x r) → r.k ≠ 0 → fruitlessOf s (histAt s tr i) ≤ s.mr

/-- at most `maxRetries` attempts in a row fail in the transport -/
def P_connectExceeded (s : Scn L) (tr : Trace L) : Prop :=
  ∀ (i : Nat) (r : XRec), tr[i]? = some (Rec.x r) → r.k ≠ 0 → trailingTerr (histAt s tr i) < s.mr

/-- the time between the end of an exchange and the next attempt is the retry hint of the last
completely received event that carries one (first attempt), else the back-off with its jitter
(1 µs of tolerance for the rounding of the recorded times) -/
def P_delay (s : Scn L) (tr : Trace L) : Prop :=
  ∀ (i : Nat) (r : XRec), tr[i]? = some (Rec.x r) → r.k ≠ 0 →
    let ex := histAt s tr i
    let attempt := trailingTerr ex + 1
    let w := delayWindow (if attempt = 1 then lastHint s ex else 0) attempt
    let d := (r.tStart - (ex.getLast?.map (·.tEnd)).getD 0) * 1000
    w.1 ≤ d + 1000 ∧ d < w.2 + 1000

/-- the retry loop stops with the caller: once the caller's context has ended no further attempt is made -/
def P_afterCancel (_s : Scn L) (tr : Trace L) : Prop :=
  ∀ (i : Nat) (r : XRec), tr[i]? = some (Rec.x r) → r.k ≠ 0 → ¬ CtxEnded (tr.take i)

/-! ### delivery: "every server message exactly once and in order, never a truncated event" -/

/-- everything delivered is one of the server's messages -/
def P_foreign (s : Scn L) (tr : Trace L) : Prop :=
  ∀ (i : Nat) (ls : List L), tr[i]? = some (Rec.delivered ls) → ∀ l ∈ ls, l ∈ allMsgs s

/-- the delivered messages are a subsequence of the server's sequence: none twice, none out of order -/
def P_dupOrOrder (s : Scn L) (tr : Trace L) : Prop :=
  ∀ (i : Nat) (ls : List L), tr[i]? = some (Rec.delivered ls) → ls.Sublist (allMsgs s)

/-- (F5) a message is delivered only if its event was received completely -/
def P_f5Truncated (s : Scn L) (tr : Trace L) : Prop :=
  ∀ (i : Nat) (ls : List L), tr[i]? = some (Rec.delivered ls) → ∀ l ∈ ls, l ∈ labelsOf s (gotOf (histAt s tr i))

/-- every message whose event was received completely is delivered -/
def P_missing (s : Scn L) (tr : Trace L) : Prop :=
  ∀ (i : Nat) (ls : List L), tr[i]? = some (Rec.delivered ls) → ∀ l ∈ labelsOf s (gotOf (histAt s tr i)), l ∈ ls

/-- (F18) no server message is skipped after a reconnect that dropped an existing cursor -/
def P_f18Lost (s : Scn L) (tr : Trace L) : Prop :=
  ∀ (i : Nat) (ls : List L), tr[i]? = some (Rec.delivered ls) → Gap s ls → ¬ Lost s (tr.take i)

/-- (F5) no server message is skipped after a reconnect that sent a Last-Event-ID other than the cursor -/
def P_f5Lost (s : Scn L) (tr : Trace L) : Prop :=
  ∀ (i : Nat) (ls : List L), tr[i]? = some (Rec.delivered ls) → Gap s ls → ¬ Wrong s (tr.take i)

/-! ### the end of the pending call: "the server's real response, or an error instead of hanging" -/

/-- a property of the `end` observation and the history before it -/
def EndP (s : Scn L) (tr : Trace L) (p : EndObs → List Exch → Prop) : Prop :=
  ∀ (i : Nat) (o : EndObs), tr[i]? = some (Rec.fin o) → p o (histAt s tr i)

def P_hang (s : Scn L) (tr : Trace L) : Prop := EndP s tr fun o _ => o ≠ .hang
/-- (F5) the connection is never failed with a decoding error (the server's messages decode; only a
truncated event does not) -/
def P_f5Decode (s : Scn L) (tr : Trace L) : Prop := EndP s tr fun o _ => o ≠ .decode
/-- (F5) … nor with "malformed line" (the server's lines are well formed; only a cut line is not) -/
def P_f5Malformed (s : Scn L) (tr : Trace L) : Prop := EndP s tr fun o _ => o ≠ .malformed
/-- the probe of a standalone-stream scenario is a ping: it has no tool result -/
def P_probeResult (s : Scn L) (tr : Trace L) : Prop := EndP s tr fun o _ => s.sa = true → ∀ b, o ≠ .result b
/-- a call that completes with a result completes with the server's real response -/
def P_notServerResponse (s : Scn L) (tr : Trace L) : Prop := EndP s tr fun o _ => ∀ b, o = .result b → b = true
/-- (F5) … and only once the response event was received completely -/
def P_f5ResponseIncomplete (s : Scn L) (tr : Trace L) : Prop :=
  EndP s tr fun o ex => s.sa = false → o = .result true → gotReply s ex = true
/-- a call scenario does not end with the probe's outcome -/
def P_probeOutcomeForCall (s : Scn L) (tr : Trace L) : Prop := EndP s tr fun o _ => s.sa = false → o ≠ .ok
/-- once the response event was received completely the call completes with it (or the standalone probe succeeds) -/
def P_replyNotCompleted (s : Scn L) (tr : Trace L) : Prop :=
  EndP s tr fun o ex => gotReply s ex = true →
    (∃ b, o = .result b) ∨ o = .ok ∨ o = .hang ∨ o = .decode ∨ o = .malformed
/-- the synthetic "request terminated without response" error exists only for a pending call -/
def P_syntheticNoCall (s : Scn L) (tr : Trace L) : Prop := EndP s tr fun o _ => o = .synthetic → s.sa = false
/-- (F18) a call is failed as unresumable only if no event id was received completely -/
def P_f18Synthetic (s : Scn L) (tr : Trace L) : Prop := EndP s tr fun o ex => o = .synthetic → cursorOf s ex = []
/-- "exceeded retries without progress" only after more than `maxRetries` fruitless bodies in a row -/
def P_exceededEarly (s : Scn L) (tr : Trace L) : Prop := EndP s tr fun o ex => o = .exceeded → fruitlessOf s ex > s.mr
/-- "failed to reconnect" only after `maxRetries` transport errors in a row (or with no retries allowed) -/
def P_reconnectEarly (s : Scn L) (tr : Trace L) : Prop :=
  EndP s tr fun o ex => o = .reconnect → s.mr = 0 ∨ trailingTerr ex ≥ s.mr
/-- the session-missing error only after a 404 -/
def P_sessionMissingNo404 (s : Scn L) (tr : Trace L) : Prop :=
  EndP s tr fun o ex => o = .sessionMissing → lastIsStatus ex sessionGoneStatus = true
/-- a status error only for the status the last exchange returned -/
def P_statusNotReturned (s : Scn L) (tr : Trace L) : Prop :=
  EndP s tr fun o ex => ∀ c, o = .st (some c) → lastIsStatus ex c = true
/-- the error is one of the clean errors the client reports (harness classification) -/
def P_unclassified (s : Scn L) (tr : Trace L) : Prop := EndP s tr fun o _ => o ≠ .st none
def P_unexpectedError (s : Scn L) (tr : Trace L) : Prop := EndP s tr fun o _ => o ≠ .other

/-- the call returns the error of the caller's context only if that context has ended -/
def P_ctxLive (_s : Scn L) (tr : Trace L) : Prop :=
  ∀ (i : Nat), tr[i]? = some (Rec.fin .ctx) → CtxEnded (tr.take i)

/-- after Close no goroutine of the client stays blocked for ever -/
def P_leak (_s : Scn L) (tr : Trace L) : Prop := ∀ (i : Nat) (b : Bool), tr[i]? = some (Rec.leak b) → b = false

/-! ### `P_lastId` gives the F18 clause

Of the four Last-Event-ID clauses, `f18NoHeader` and `notLast` are refuted against `P_lastId`; the two
F5 clauses are refuted against predicates of their own (`P_f5UnknownId`, `P_f5IncompleteId`). -/

omit [BEq L] [LawfulBEq L] in
theorem P_lastId_f18 (s : Scn L) (tr : Trace L) (h : P_lastId s tr) : P_f18NoHeader s tr := by
  intro i r hi hk hc hn
  have := h i r hi hk
  rw [hn] at this
  simp [hdrOf, hc] at this

/-- the condition under which `monAttempt` can report a clause, read off the checks -/
def AttemptFires (s : Scn L) (ex : List Exch) (hdr : Option Bytes) (tS : Nat) : Clause → Prop
  | .f18NoHeader => hdr = none ∧ cursorOf s ex ≠ []
  | .f5UnknownId => ∃ h, hdr = some h ∧ s.items.findIdx? (fun it => !it.raw && it.ev.id == h) = none
  | .notLast => hdr ≠ hdrOf (cursorOf s ex)
  | .f5IncompleteId => ∃ h j, hdr = some h ∧ s.items.findIdx? (fun it => !it.raw && it.ev.id == h) = some j ∧ j ∉ gotOf ex
  | .unresumableReconnect => s.sa = false ∧ cursorOf s ex = []
  | .afterStatus => ex.any (·.isSt) = true
  | .fruitlessExceeded => fruitlessOf s ex > s.mr
  | .connectExceeded => trailingTerr ex ≥ s.mr
  | .delay d lo hi _ _ =>
    d = (tS - (ex.getLast?.map (·.tEnd)).getD 0) * 1000 ∧
    (lo, hi) = delayWindow (if trailingTerr ex + 1 = 1 then lastHint s ex else 0) (trailingTerr ex + 1) ∧
    (d + 1000 < lo ∨ d ≥ hi + 1000)
  | _ => False

omit [BEq L] [LawfulBEq L] in
theorem attempt_fires (s : Scn L) (ex : List Exch) (hdr : Option Bytes) (tS : Nat) (c : Clause)
    (h : monAttempt s ex hdr tS = some c) : AttemptFires s ex hdr tS c := by
  simp only [monAttempt, ite_eq_some_iff, Option.some.injEq, reduceCtorEq, and_false, or_false] at h
  rcases h with ⟨hne, h⟩ | ⟨_, ⟨hc, rfl⟩ | ⟨_, ⟨hc, rfl⟩ | ⟨_, ⟨hc, rfl⟩ | ⟨_, ⟨hc, rfl⟩ | ⟨_, hc, rfl⟩⟩⟩⟩⟩
  · -- a Last-Event-ID other than the cursor: which clause depends on what the server finds under it
    cases hdr with
    | none => cases h; exact ⟨rfl, fun hc => hne (by simp [hdrOf, hc])⟩
    | some hd =>
      dsimp only at h
      cases hf : s.items.findIdx? (fun it => !it.raw && it.ev.id == hd) with
      | none => rw [hf] at h; cases h; exact ⟨hd, rfl, hf⟩
      | some j =>
        rw [hf] at h
        rcases ite_some_eq_some.1 h with ⟨_, rfl⟩ | ⟨hj, h⟩
        · exact hne
        · cases h; exact ⟨hd, j, rfl, hf, by simpa using hj⟩
  · simp only [Bool.and_eq_true, Bool.not_eq_true', decide_eq_true_eq] at hc; exact hc
  · exact hc
  · exact hc
  · exact hc
  · exact ⟨rfl, rfl, hc⟩

def DeliveredFires (s : Scn L) (m : Mon) (ls : List L) : Clause → Prop
  | .foreign => ∃ l ∈ ls, l ∉ allMsgs s
  | .dupOrOrder => ¬ ls.Sublist (allMsgs s)
  | .f5Truncated => ∃ l ∈ ls, l ∉ labelsOf s (gotOf m.exch)
  | .missing => ∃ l ∈ labelsOf s (gotOf m.exch), l ∉ ls
  | .f18Lost => Gap s ls ∧ m.cursorLost = true
  | .f5Lost => Gap s ls ∧ m.wrongCursor = true
  | _ => False

theorem any_not_contains (a b : List L) : (a.any fun l => !b.contains l) = true ↔ ∃ l ∈ a, l ∉ b := by
  simp only [List.any_eq_true, Bool.not_eq_true', List.contains_eq_mem, decide_eq_false_iff_not]

theorem delivered_fires (s : Scn L) (m : Mon) (ls : List L) (c : Clause)
    (h : monDelivered s m ls = some c) : DeliveredFires s m ls c := by
  simp only [monDelivered, ite_eq_some_iff, Option.some.injEq, reduceCtorEq, and_false, or_false] at h
  rcases h with ⟨hc, rfl⟩ | ⟨_, ⟨hc, rfl⟩ | ⟨_, ⟨hc, rfl⟩ | ⟨_, ⟨hc, rfl⟩ | ⟨_, hg, ⟨hl, rfl⟩ | ⟨_, hw, rfl⟩⟩⟩⟩⟩
  · exact (any_not_contains _ _).1 hc
  · exact fun hsub => by rw [allMsgs] at hsub; rw [(isSublistInOrder_iff _ _).2 hsub] at hc; cases hc
  · exact (any_not_contains _ _).1 hc
  · exact (any_not_contains _ _).1 hc
  · exact ⟨bne_iff_ne.1 hg, hl⟩
  · exact ⟨bne_iff_ne.1 hg, hw⟩

def EndFires (s : Scn L) (ex : List Exch) (ce : Bool) (o : EndObs) : Clause → Prop
  | .hang => o = .hang
  | .f5Decode => o = .decode
  | .f5Malformed => o = .malformed
  | .probeResult => s.sa = true ∧ ∃ b, o = .result b
  | .notServerResponse => o = .result false
  | .f5ResponseIncomplete => s.sa = false ∧ o = .result true ∧ gotReply s ex = false
  | .probeOutcomeForCall => s.sa = false ∧ o = .ok
  | .replyNotCompleted => gotReply s ex = true ∧ (∀ b, o ≠ .result b) ∧ o ≠ .ok ∧ o ≠ .hang ∧ o ≠ .decode ∧ o ≠ .malformed
  | .syntheticNoCall => s.sa = true ∧ o = .synthetic
  | .f18Synthetic => o = .synthetic ∧ cursorOf s ex ≠ []
  | .exceededEarly => o = .exceeded ∧ ¬ fruitlessOf s ex > s.mr
  | .reconnectEarly => o = .reconnect ∧ ¬ (s.mr = 0 ∨ trailingTerr ex ≥ s.mr)
  | .sessionMissingNo404 => o = .sessionMissing ∧ lastIsStatus ex sessionGoneStatus = false
  | .statusNotReturned => ∃ c, o = .st (some c) ∧ lastIsStatus ex c = false
  | .unclassified => o = .st none
  | .unexpectedError => o = .other
  | .ctxLive => o = .ctx ∧ ce = false
  | _ => False

omit [BEq L] [LawfulBEq L] in
theorem end_fires (s : Scn L) (ex : List Exch) (ce : Bool) (o : EndObs) (c : Clause)
    (h : monEnd s ex ce o = some c) : EndFires s ex ce o c := by
  rcases o with _ | _ | _ | b | _ | _ | _ | _ | _ | (_ | c') | _ | _ <;>
    simp only [monEnd, ite_eq_some_iff, Option.some.injEq, reduceCtorEq, and_false, or_false, false_or, Bool.not_eq_true,
      Bool.not_eq_true', bne_iff_ne, ne_eq] at h
  case hang | decode | malformed => cases h; rfl
  case result =>
    rcases h with ⟨hs, rfl⟩ | ⟨hs, ⟨rfl, rfl⟩ | ⟨hb, hg, rfl⟩⟩
    · exact ⟨hs, b, rfl⟩
    · rfl
    · exact ⟨hs, by rw [(Bool.not_eq_false _).mp hb], hg⟩
  case ok => obtain ⟨hs, rfl⟩ := h; exact ⟨hs, rfl⟩
  -- every other outcome first passes the check that the response has not been received
  all_goals
    rcases h with ⟨hg, rfl⟩ | ⟨_, h⟩
    · exact ⟨hg, by simp⟩
  case synthetic =>
    rcases h with ⟨hs, rfl⟩ | ⟨_, hc, rfl⟩
    · exact ⟨hs, rfl⟩
    · exact ⟨rfl, hc⟩
  case st.none => cases h; rfl
  case st.some => obtain ⟨hc, rfl⟩ := h; exact ⟨c', rfl, hc⟩
  case other => cases h; rfl
  all_goals obtain ⟨hc, rfl⟩ := h; exact ⟨rfl, hc⟩

section sound
variable (s : Scn L) (tr : Trace L)

/-! `attempt_fires`, `delivered_fires`, `end_fires` above are about the three check functions on any
state; `fires_x_any`, `fires_delivered`, `fires_fin` are the same read at the monitor's state after
`tr`, with its exchange list replaced by `hist s tr`. -/

theorem fires_x_any (r : XRec) (c : Clause) (h : (monStep s (monAfter s {} tr) (.x r)).2 = some c) :
    r.k ≠ 0 ∧ ((monAfter s {} tr).ctxEnded = true ∧ c = .afterCancel ∨
      (monAfter s {} tr).ctxEnded = false ∧ AttemptFires s (hist s tr) r.hdr r.tStart c) := by
  simp only [monStep] at h
  split at h
  · cases h
  · rename_i hk
    refine ⟨hk, ?_⟩
    split at h
    · rename_i hc; cases h; exact .inl ⟨hc, rfl⟩
    · rename_i hc
      exact .inr ⟨by simpa using hc, by rw [← monAfter_exch]; exact attempt_fires s _ _ _ c h⟩

/-- a clause of `monAttempt` reported for the record that extends `tr`, read at that record's position
in the extended trace (the form the `P_…` predicates speak in) -/
theorem x_at (r : XRec) (c : Clause) (h : (monStep s (monAfter s {} tr) (.x r)).2 = some c) (hne : c ≠ .afterCancel) :
    (tr ++ [.x r])[tr.length]? = some (.x r) ∧ r.k ≠ 0 ∧
      AttemptFires s (histAt s (tr ++ [.x r]) tr.length) r.hdr r.tStart c := by
  rw [histAt_snoc_len]
  obtain ⟨hk, h⟩ := fires_x_any s tr r c h
  exact ⟨List.getElem?_concat_length, hk, h.elim (fun hc => absurd hc.2 hne) (·.2)⟩

theorem fires_delivered (ls : List L) (c : Clause) (h : (monStep s (monAfter s {} tr) (.delivered ls)).2 = some c) :
    DeliveredFires s (monAfter s {} tr) ls c := delivered_fires s _ ls c h

theorem fires_fin (o : EndObs) (c : Clause) (h : (monStep s (monAfter s {} tr) (.fin o)).2 = some c) :
    EndFires s (hist s tr) (monAfter s {} tr).ctxEnded o c := by
  rw [← monAfter_exch]; exact end_fires s _ _ o c h

theorem sound_f18NoHeader (r : XRec) (h : (monStep s (monAfter s {} tr) (.x r)).2 = some .f18NoHeader) :
    ¬ P_f18NoHeader s (tr ++ [.x r]) ∧ ¬ P_lastId s (tr ++ [.x r]) := by
  obtain ⟨hi, hk, hn, hc⟩ := x_at s tr r _ h nofun
  have h1 : ¬ P_f18NoHeader s (tr ++ [.x r]) := fun hP => hP tr.length r hi hk hc hn
  exact ⟨h1, fun hP => h1 (P_lastId_f18 s _ hP)⟩

theorem sound_f5UnknownId (r : XRec) (h : (monStep s (monAfter s {} tr) (.x r)).2 = some .f5UnknownId) :
    ¬ P_f5UnknownId s (tr ++ [.x r]) := by
  obtain ⟨hi, hk, hd, hhd, hf⟩ := x_at s tr r _ h nofun
  intro hP
  obtain ⟨it, hit, hraw, hid⟩ := hP tr.length r hd hi hk hhd
  have := List.findIdx?_eq_none_iff.1 hf it hit
  simp [hraw, hid] at this

theorem sound_notLast (r : XRec) (h : (monStep s (monAfter s {} tr) (.x r)).2 = some .notLast) :
    ¬ P_lastId s (tr ++ [.x r]) := by
  obtain ⟨hi, hk, hne⟩ := x_at s tr r _ h nofun
  exact fun hP => hne (hP tr.length r hi hk)

theorem sound_f5IncompleteId (r : XRec) (h : (monStep s (monAfter s {} tr) (.x r)).2 = some .f5IncompleteId) :
    ¬ P_f5IncompleteId s (tr ++ [.x r]) := by
  obtain ⟨hi, hk, hd, j, hhd, hf, hnj⟩ := x_at s tr r _ h nofun
  intro hP
  obtain ⟨j', hf', hj'⟩ := hP tr.length r hd hi hk hhd
  cases hf.symm.trans hf'
  exact hnj hj'

theorem sound_unresumableReconnect (r : XRec)
    (h : (monStep s (monAfter s {} tr) (.x r)).2 = some .unresumableReconnect) :
    ¬ P_unresumableReconnect s (tr ++ [.x r]) := by
  obtain ⟨hi, hk, hsa, hc⟩ := x_at s tr r _ h nofun
  exact fun hP => hP tr.length r hi hk hsa hc

theorem sound_afterStatus (r : XRec) (h : (monStep s (monAfter s {} tr) (.x r)).2 = some .afterStatus) :
    ¬ P_afterStatus s (tr ++ [.x r]) := by
  obtain ⟨hi, hk, hc⟩ := x_at s tr r _ h nofun
  exact fun hP => Bool.noConfusion (hc.symm.trans (hP tr.length r hi hk))

theorem sound_fruitlessExceeded (r : XRec) (h : (monStep s (monAfter s {} tr) (.x r)).2 = some .fruitlessExceeded) :
    ¬ P_fruitlessExceeded s (tr ++ [.x r]) := by
  obtain ⟨hi, hk, hc⟩ := x_at s tr r _ h nofun
  exact fun hP => Nat.lt_irrefl _ (Nat.lt_of_lt_of_le hc (hP tr.length r hi hk))

theorem sound_connectExceeded (r : XRec) (h : (monStep s (monAfter s {} tr) (.x r)).2 = some .connectExceeded) :
    ¬ P_connectExceeded s (tr ++ [.x r]) := by
  obtain ⟨hi, hk, hc⟩ := x_at s tr r _ h nofun
  exact fun hP => Nat.lt_irrefl _ (Nat.lt_of_lt_of_le (hP tr.length r hi hk) hc)

theorem sound_delay (r : XRec) (d lo hi attempt : Nat) (hint : Int)
    (h : (monStep s (monAfter s {} tr) (.x r)).2 = some (.delay d lo hi attempt hint)) :
    ¬ P_delay s (tr ++ [.x r]) := by
  obtain ⟨hi', hk, hd, hw, hc⟩ := x_at s tr r _ h nofun
  intro hP
  have := hP tr.length r hi' hk
  simp only [← hw, ← hd] at this
  omega

theorem sound_afterCancel (r : XRec) (h : (monStep s (monAfter s {} tr) (.x r)).2 = some .afterCancel) :
    ¬ P_afterCancel s (tr ++ [.x r]) := by
  obtain ⟨hk, h⟩ := fires_x_any s tr r _ h
  rcases h with ⟨hc, _⟩ | ⟨_, hf⟩
  · intro hP
    have := hP tr.length r (List.getElem?_concat_length) hk
    rw [List.take_left] at this
    exact this (ctx_of_flag s tr hc)
  · exact hf.elim

theorem sound_foreign (ls : List L) (h : (monStep s (monAfter s {} tr) (.delivered ls)).2 = some .foreign) :
    ¬ P_foreign s (tr ++ [.delivered ls]) := by
  obtain ⟨l, hl, hn⟩ := fires_delivered s tr ls _ h
  intro hP
  exact hn (hP tr.length ls (List.getElem?_concat_length) l hl)

theorem sound_dupOrOrder (ls : List L) (h : (monStep s (monAfter s {} tr) (.delivered ls)).2 = some .dupOrOrder) :
    ¬ P_dupOrOrder s (tr ++ [.delivered ls]) := by
  have hn := fires_delivered s tr ls _ h
  intro hP
  exact hn (hP tr.length ls (List.getElem?_concat_length))

theorem sound_f5Truncated (ls : List L) (h : (monStep s (monAfter s {} tr) (.delivered ls)).2 = some .f5Truncated) :
    ¬ P_f5Truncated s (tr ++ [.delivered ls]) := by
  obtain ⟨l, hl, hn⟩ := fires_delivered s tr ls _ h
  intro hP
  apply hn
  have := hP tr.length ls (List.getElem?_concat_length) l hl
  rw [histAt_snoc_len, ← monAfter_exch] at this
  exact this

theorem sound_missing (ls : List L) (h : (monStep s (monAfter s {} tr) (.delivered ls)).2 = some .missing) :
    ¬ P_missing s (tr ++ [.delivered ls]) := by
  obtain ⟨l, hl, hn⟩ := fires_delivered s tr ls _ h
  intro hP
  apply hn
  apply hP tr.length ls (List.getElem?_concat_length) l
  rw [histAt_snoc_len, ← monAfter_exch]
  exact hl

theorem sound_f18Lost (ls : List L) (h : (monStep s (monAfter s {} tr) (.delivered ls)).2 = some .f18Lost) :
    ¬ P_f18Lost s (tr ++ [.delivered ls]) := by
  obtain ⟨hg, hl⟩ := fires_delivered s tr ls _ h
  intro hP
  have := hP tr.length ls (List.getElem?_concat_length) hg
  rw [List.take_left] at this
  exact this (lost_of_flag s tr hl)

theorem sound_f5Lost (ls : List L) (h : (monStep s (monAfter s {} tr) (.delivered ls)).2 = some .f5Lost) :
    ¬ P_f5Lost s (tr ++ [.delivered ls]) := by
  obtain ⟨hg, hl⟩ := fires_delivered s tr ls _ h
  intro hP
  have := hP tr.length ls (List.getElem?_concat_length) hg
  rw [List.take_left] at this
  exact this (wrong_of_flag s tr hl)

theorem endP_at (o : EndObs) (p : EndObs → List Exch → Prop) (hP : EndP s (tr ++ [.fin o]) p) : p o (hist s tr) := by
  have := hP tr.length o (List.getElem?_concat_length)
  rwa [histAt_snoc_len] at this

theorem sound_hang (o : EndObs) (h : (monStep s (monAfter s {} tr) (.fin o)).2 = some .hang) :
    ¬ P_hang s (tr ++ [.fin o]) := fun hP => endP_at s tr o _ hP (fires_fin s tr o _ h)

theorem sound_f5Decode (o : EndObs) (h : (monStep s (monAfter s {} tr) (.fin o)).2 = some .f5Decode) :
    ¬ P_f5Decode s (tr ++ [.fin o]) := fun hP => endP_at s tr o _ hP (fires_fin s tr o _ h)

theorem sound_f5Malformed (o : EndObs) (h : (monStep s (monAfter s {} tr) (.fin o)).2 = some .f5Malformed) :
    ¬ P_f5Malformed s (tr ++ [.fin o]) := fun hP => endP_at s tr o _ hP (fires_fin s tr o _ h)

theorem sound_probeResult (o : EndObs) (h : (monStep s (monAfter s {} tr) (.fin o)).2 = some .probeResult) :
    ¬ P_probeResult s (tr ++ [.fin o]) := by
  obtain ⟨hsa, b, hb⟩ := fires_fin s tr o _ h
  exact fun hP => endP_at s tr o _ hP hsa b hb

theorem sound_notServerResponse (o : EndObs) (h : (monStep s (monAfter s {} tr) (.fin o)).2 = some .notServerResponse) :
    ¬ P_notServerResponse s (tr ++ [.fin o]) := by
  have hb := fires_fin s tr o _ h
  intro hP
  have := endP_at s tr o _ hP false hb
  cases this

theorem sound_f5ResponseIncomplete (o : EndObs)
    (h : (monStep s (monAfter s {} tr) (.fin o)).2 = some .f5ResponseIncomplete) :
    ¬ P_f5ResponseIncomplete s (tr ++ [.fin o]) := by
  obtain ⟨hsa, ho, hg⟩ := fires_fin s tr o _ h
  intro hP
  have := endP_at s tr o _ hP hsa ho
  rw [hg] at this
  cases this

theorem sound_probeOutcomeForCall (o : EndObs)
    (h : (monStep s (monAfter s {} tr) (.fin o)).2 = some .probeOutcomeForCall) :
    ¬ P_probeOutcomeForCall s (tr ++ [.fin o]) := by
  obtain ⟨hsa, ho⟩ := fires_fin s tr o _ h
  exact fun hP => endP_at s tr o _ hP hsa ho

theorem sound_replyNotCompleted (o : EndObs)
    (h : (monStep s (monAfter s {} tr) (.fin o)).2 = some .replyNotCompleted) :
    ¬ P_replyNotCompleted s (tr ++ [.fin o]) := by
  obtain ⟨hg, h1, h2, h3, h4, h5⟩ := fires_fin s tr o _ h
  intro hP
  rcases endP_at s tr o _ hP hg with ⟨b, hb⟩ | hb | hb | hb | hb
  · exact h1 b hb
  · exact h2 hb
  · exact h3 hb
  · exact h4 hb
  · exact h5 hb

theorem sound_syntheticNoCall (o : EndObs) (h : (monStep s (monAfter s {} tr) (.fin o)).2 = some .syntheticNoCall) :
    ¬ P_syntheticNoCall s (tr ++ [.fin o]) := by
  obtain ⟨hsa, ho⟩ := fires_fin s tr o _ h
  intro hP
  have := endP_at s tr o _ hP ho
  rw [hsa] at this
  cases this

theorem sound_f18Synthetic (o : EndObs) (h : (monStep s (monAfter s {} tr) (.fin o)).2 = some .f18Synthetic) :
    ¬ P_f18Synthetic s (tr ++ [.fin o]) := by
  obtain ⟨ho, hc⟩ := fires_fin s tr o _ h
  exact fun hP => hc (endP_at s tr o _ hP ho)

theorem sound_exceededEarly (o : EndObs) (h : (monStep s (monAfter s {} tr) (.fin o)).2 = some .exceededEarly) :
    ¬ P_exceededEarly s (tr ++ [.fin o]) := by
  obtain ⟨ho, hc⟩ := fires_fin s tr o _ h
  exact fun hP => hc (endP_at s tr o _ hP ho)

theorem sound_reconnectEarly (o : EndObs) (h : (monStep s (monAfter s {} tr) (.fin o)).2 = some .reconnectEarly) :
    ¬ P_reconnectEarly s (tr ++ [.fin o]) := by
  obtain ⟨ho, hc⟩ := fires_fin s tr o _ h
  exact fun hP => hc (endP_at s tr o _ hP ho)

theorem sound_sessionMissingNo404 (o : EndObs)
    (h : (monStep s (monAfter s {} tr) (.fin o)).2 = some .sessionMissingNo404) :
    ¬ P_sessionMissingNo404 s (tr ++ [.fin o]) := by
  obtain ⟨ho, hc⟩ := fires_fin s tr o _ h
  intro hP
  have := endP_at s tr o _ hP ho
  rw [hc] at this
  cases this

theorem sound_statusNotReturned (o : EndObs)
    (h : (monStep s (monAfter s {} tr) (.fin o)).2 = some .statusNotReturned) :
    ¬ P_statusNotReturned s (tr ++ [.fin o]) := by
  obtain ⟨c, ho, hc⟩ := fires_fin s tr o _ h
  intro hP
  have := endP_at s tr o _ hP c ho
  rw [hc] at this
  cases this

theorem sound_unclassified (o : EndObs) (h : (monStep s (monAfter s {} tr) (.fin o)).2 = some .unclassified) :
    ¬ P_unclassified s (tr ++ [.fin o]) := fun hP => endP_at s tr o _ hP (fires_fin s tr o _ h)

theorem sound_unexpectedError (o : EndObs) (h : (monStep s (monAfter s {} tr) (.fin o)).2 = some .unexpectedError) :
    ¬ P_unexpectedError s (tr ++ [.fin o]) := fun hP => endP_at s tr o _ hP (fires_fin s tr o _ h)

theorem sound_ctxLive (o : EndObs) (h : (monStep s (monAfter s {} tr) (.fin o)).2 = some .ctxLive) :
    ¬ P_ctxLive s (tr ++ [.fin o]) := by
  obtain ⟨ho, hc⟩ := fires_fin s tr o _ h
  subst ho
  intro hP
  have := hP tr.length (List.getElem?_concat_length)
  rw [List.take_left] at this
  exact flag_of_noctx s tr hc this

theorem sound_leak (b : Bool) (h : (monStep s (monAfter s {} tr) (.leak b)).2 = some .leak) :
    ¬ P_leak s (tr ++ [.leak b]) := by
  intro hP
  have := hP tr.length b (List.getElem?_concat_length)
  subst this
  simp [monStep] at h

/-- every clause is reported by the record kind it belongs to, and by no other -/
theorem clause_kinds (r : Rec L) (c : Clause) (h : (monStep s (monAfter s {} tr) r).2 = some c) :
    match r with
    | .x x => x.k ≠ 0 ∧ (CtxEnded tr ∧ c = .afterCancel ∨ ¬ CtxEnded tr ∧ AttemptFires s (hist s tr) x.hdr x.tStart c)
    | .cancel _ => False
    | .delivered ls => DeliveredFires s (monAfter s {} tr) ls c
    | .fin o => EndFires s (hist s tr) (monAfter s {} tr).ctxEnded o c
    | .leak b => b = true ∧ c = .leak := by
  cases r with
  | x x =>
    obtain ⟨hk, h⟩ := fires_x_any s tr x c h
    refine ⟨hk, ?_⟩
    rcases h with ⟨hc, he⟩ | ⟨hc, hf⟩
    · exact .inl ⟨ctx_of_flag s tr hc, he⟩
    · exact .inr ⟨flag_of_noctx s tr hc, hf⟩
  | cancel t => simp [monStep] at h
  | delivered ls => exact fires_delivered s tr ls c h
  | fin o => exact fires_fin s tr o c h
  | leak b =>
    simp only [monStep] at h
    split at h
    · cases h; rename_i hb; exact ⟨hb, rfl⟩
    · cases h

end sound

/-! ## non-vacuity: every clause can be reported

One trace per clause on which the monitor reports it (the hypothesis of the `sound_…` theorem).
`exScn`: a call stream, events "1" (notification 1, 16 bytes) and "22" (the response, 17 bytes),
budget 2; `exScnSa`, `exScn3`: standalone streams. -/

/-- exchange 0: the first `c` bytes of the stream, then a read error, over at 1000 µs -/
def x0 (c : Nat) : Rec Nat := .x { k := 0, kind := .ok c .err, from_ := some 0, tStart := 0, tEnd := 1000, hdr := none }
/-- a reconnect attempt that went out at `t` µs -/
def xk (k : Nat) (kind : AKind) (f : Option Nat) (t : Nat) (hdr : Option Bytes) : Rec Nat :=
  .x { k := k, kind := kind, from_ := f, tStart := t, tEnd := t, hdr := hdr }

def fired (s : Scn Nat) (tr : Trace Nat) (r : Rec Nat) : Option Clause := (monStep s (monAfter s {} tr) r).2

example : fired exScn [x0 16] (xk 1 (.terr {}) none 1501000 none) = some .f18NoHeader := by decide +kernel
example : fired exScn [x0 16] (xk 1 (.terr {}) none 1501000 (some [50])) = some .f5UnknownId := by decide +kernel
example : fired exScn [x0 33] (xk 1 (.terr {}) none 1501000 (some [49])) = some .notLast := by decide +kernel
example : fired exScn [x0 16] (xk 1 (.terr {}) none 1501000 (some [50, 50])) = some .f5IncompleteId := by decide +kernel
example : fired exScn [x0 10] (xk 1 (.terr {}) none 1501000 none) = some .unresumableReconnect := by decide +kernel
example : fired exScn [x0 16, xk 1 (.st 503) none 1501000 (some [49])] (xk 2 (.terr {}) none 3001000 (some [49])) =
    some .afterStatus := by decide +kernel
example : fired exScn [x0 16, xk 1 (.ok 0 .eof) (some 1) 1501000 (some [49]), xk 2 (.ok 0 .eof) (some 1) 3001000 (some [49]),
    xk 3 (.ok 0 .eof) (some 1) 4501000 (some [49])] (xk 4 (.terr {}) none 6001000 (some [49])) = some .fruitlessExceeded := by decide +kernel
example : fired exScn [x0 16, xk 1 (.terr {}) none 1501000 (some [49]), xk 2 (.terr {}) none 3501000 (some [49])]
    (xk 3 (.terr {}) none 7001000 (some [49])) = some .connectExceeded := by decide +kernel
example : fired exScn [x0 16] (xk 1 (.terr {}) none 1010 (some [49])) =
    some (.delay 10000 1000000000 2000000000 1 0) := by decide +kernel
example : fired exScn [x0 16, xk 1 .ctx none 1501000 (some [49])] (xk 2 (.ok 100 .eof) (some 1) 3501000 (some [49])) =
    some .afterCancel := by decide +kernel
example : fired exScn [x0 16, .cancel 2000] (xk 1 (.terr { isDeadline := true }) none 1501000 (some [49])) =
    some .afterCancel := by decide +kernel
example : fired exScn [x0 16] (.delivered [7]) = some .foreign := by decide +kernel
example : fired exScn [x0 16] (.delivered [1, 1]) = some .dupOrOrder := by decide +kernel
example : fired exScnSa [x0 8] (.delivered [1]) = some .f5Truncated := by decide +kernel
example : fired exScn [x0 16] (.delivered []) = some .missing := by decide +kernel
example : fired exScn3 [x0 20, xk 1 (.ok 100 .open) (some 2) 1501000 none] (.delivered [1, 3]) = some .f18Lost := by decide +kernel
example : fired exScn3 [x0 16, xk 1 (.ok 100 .open) (some 2) 1501000 (some [50, 50])] (.delivered [1, 3]) =
    some .f5Lost := by decide +kernel
example : fired exScn [x0 16] (.fin .hang) = some .hang := by decide +kernel
example : fired exScn [x0 16] (.fin .decode) = some .f5Decode := by decide +kernel
example : fired exScn [x0 16] (.fin .malformed) = some .f5Malformed := by decide +kernel
example : fired exScnSa [x0 8] (.fin (.result true)) = some .probeResult := by decide +kernel
example : fired exScn [x0 16] (.fin (.result false)) = some .notServerResponse := by decide +kernel
example : fired exScn [x0 16] (.fin (.result true)) = some .f5ResponseIncomplete := by decide +kernel
example : fired exScn [x0 16] (.fin .ok) = some .probeOutcomeForCall := by decide +kernel
example : fired exScn [x0 33] (.fin .synthetic) = some .replyNotCompleted := by decide +kernel
example : fired exScnSa [x0 8] (.fin .synthetic) = some .syntheticNoCall := by decide +kernel
example : fired exScn [x0 16] (.fin .synthetic) = some .f18Synthetic := by decide +kernel
example : fired exScn [x0 16] (.fin .exceeded) = some .exceededEarly := by decide +kernel
example : fired exScn [x0 16] (.fin .reconnect) = some .reconnectEarly := by decide +kernel
example : fired exScn [x0 16] (.fin .sessionMissing) = some .sessionMissingNo404 := by decide +kernel
example : fired exScn [x0 16] (.fin (.st (some 503))) = some .statusNotReturned := by decide +kernel
example : fired exScn [x0 16] (.fin (.st none)) = some .unclassified := by decide +kernel
example : fired exScn [x0 16] (.fin .other) = some .unexpectedError := by decide +kernel
example : fired exScn [x0 16] (.fin .ctx) = some .ctxLive := by decide +kernel
example : fired exScn [x0 16, .cancel 2000] (.fin .ctx) = none := by decide +kernel
example : fired exScn [x0 16, .cancel 2000] (.fin .hang) = some .hang := by decide +kernel
example : fired exScn [x0 16] (.leak true) = some .leak := by decide +kernel

/-- … and the predicates are not trivially false: they hold on the empty trace and, e.g., `P_lastId`
on a trace with a correct resume request -/
example : P_lastId exScn [x0 16, xk 1 (.terr {}) none 1501000 (some [49])] := by
  intro i r hi hk
  match i, hi with
  | 0, hi => simp [x0] at hi; subst hi; exact absurd rfl hk
  | 1, hi => simp [xk] at hi; subst hi; decide
  | n + 2, hi => simp at hi

end ClientStream
