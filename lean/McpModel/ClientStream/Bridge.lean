import McpModel.ClientStream.BridgeInv
import McpModel.ClientStream.LoopLemmas
import McpModel.ClientStream.Examples
/-!
The bridge between the C09 monitor and the model (E6): `monitor_accepts_model`, the typed monitor (`monStep`, evaluated by
the driver on the IMPLEMENTATION's observations) raises no clause on any behaviour the model allows.
The invariant is `SimInv` (the monitor's history against the model's loop state, `PhaseRel`).

The records of a model behaviour (`modelTrace`) are what the harness prints when the implementation
does what the model does: the Last-Event-ID of each attempt is the model's `lastID`, the delivered
list the model's messages, the `end` observation the model's final phase.  Together with the driver's
comparison of the implementation's observation with the model's (`A` = equal) this says: on a case
the driver answers `A` throughout, the monitor ran on a model trace and cannot have fired; a `V`
always comes with a `D`.
-/
-- several theorems below carry the section's `[BEq L] [LawfulBEq L]` without using both
set_option linter.unusedSectionVars false
namespace ClientStream
open Generated.ClientStream

variable {L : Type}

/-- one HTTP attempt of a behaviour of the model -/
structure MAtt where
  /-- what the script says: transport error (of some kind), the caller's context ending while the request
  is in flight, status, or a 200 body cut after `cut` bytes -/
  kind : AKind
  /-- instead of an attempt: the caller's context is cancelled during the wait, no request goes out
  (`kind` is ignored; the harness prints a `c` record) -/
  cancelWait : Bool := false
  /-- (200) the log item the faithful server starts the body with -/
  from_ : Nat := 0
  /-- ns of virtual time at which the request goes out -/
  ts : Nat := 0
  /-- ns of virtual time at which the exchange is over for the client -/
  te : Nat := 0

/-- the `x` record the harness prints for attempt number `k` when the client sends `lastID` -/
def modelX (k : Nat) (a : MAtt) (lastID : Bytes) : XRec :=
  { k := k, kind := a.kind,
    from_ := (match a.kind with | .ok _ _ => some a.from_ | _ => none),
    tStart := a.ts / 1000, tEnd := a.te / 1000, hdr := hdrOf lastID }

def modelRec (k : Nat) (a : MAtt) (lastID : Bytes) : Rec L :=
  if a.cancelWait then .cancel (a.ts / 1000) else .x (modelX k a lastID)

def modelAtt (s : Scn L) (k : Nat) (a : MAtt) (lastID : Bytes) : Attempt :=
  if a.cancelWait then .ctxEnded false else attemptOfX s (modelX k a lastID)

/-- the ground-truth history of exchanges after the step -/
def exAfter (s : Scn L) (ex : List Exch) (k : Nat) (a : MAtt) (lastID : Bytes) : List Exch :=
  if a.cancelWait then ex else ex ++ [exchOf s (modelX k a lastID)]

/-- when the last exchange was over, after the step -/
def teAfter (tePrev : Nat) (a : MAtt) : Nat := if a.cancelWait then tePrev else a.te

/-- where the faithful scripted server starts the body of a reconnect: after the item whose id the
request names; a request without Last-Event-ID on the standalone stream attaches a fresh stream that
serves only what was not handed out before (and is refused on a call stream) -/
def SrvFrom (s : Scn L) (got : List Nat) (hdr : Bytes) (f : Nat) : Prop :=
  if hdr = [] then s.sa = true ∧ ∀ j ∈ got, j < f
  else (s.items.findIdx? (fun it => !it.raw && it.ev.id == hdr)).map (· + 1) = some f

/-- the attempt is one the environment of the model can produce in the state where the client holds
`lastID`, waits according to `hint`/`attempt`, and the previous exchange ended at `tePrev` -/
def ValidAtt (s : Scn L) (got : List Nat) (tePrev : Nat) (lastID : Bytes) (hint : Int) (attempt : Nat) (a : MAtt) : Prop :=
  a.cancelWait = true ∨
  tePrev ≤ a.ts ∧ (delayWindow hint attempt).1 ≤ a.ts - tePrev ∧ a.ts - tePrev < (delayWindow hint attempt).2 ∧
  match a.kind with
  | .terr _ => True
  | .ctx => True
  | .st c => (checkResponse c).isSome = true
  | .ok _ t => SrvFrom s got lastID a.from_ ∧ (s.sa = false → t ≠ .open)

instance (s : Scn L) (got : List Nat) (hdr : Bytes) (f : Nat) : Decidable (SrvFrom s got hdr f) := by
  unfold SrvFrom; infer_instance

instance (s : Scn L) (got : List Nat) (tePrev : Nat) (lastID : Bytes) (hint : Int) (attempt : Nat) (a : MAtt) :
    Decidable (ValidAtt s got tePrev lastID hint attempt a) := by
  unfold ValidAtt
  have : Decidable (match a.kind with
      | .terr _ => True
      | .ctx => True
      | .st c => (checkResponse c).isSome = true
      | .ok _ t => SrvFrom s got lastID a.from_ ∧ (s.sa = false → t ≠ .open)) := by
    split <;> infer_instance
  infer_instance

/-- the `x` records of the reconnect attempts, as long as the model's loop is running -/
def modelXs (s : Scn L) : Run L → Nat → List MAtt → List (Rec L)
  | _, _, [] => []
  | run, k, a :: as =>
    match run.phase with
    | .ended _ => []
    | .reconnecting _ _ lastID _ _ =>
      modelRec k a lastID :: modelXs s (step s.cfg run (modelAtt s k a lastID)) (k + 1) as

def modelRun (s : Scn L) : Run L → Nat → List MAtt → Run L
  | run, _, [] => run
  | run, k, a :: as =>
    match run.phase with
    | .ended _ => run
    | .reconnecting _ _ lastID _ _ => modelRun s (step s.cfg run (modelAtt s k a lastID)) (k + 1) as

/-- every attempt is valid in the state it is made in (`ex`: the ground-truth history of exchanges) -/
def ValidFrom (s : Scn L) : Run L → List Exch → Nat → Nat → List MAtt → Prop
  | _, _, _, _, [] => True
  | run, ex, tePrev, k, a :: as =>
    match run.phase with
    | .ended _ => True
    | .reconnecting _ _ lastID hint attempt =>
      ValidAtt s (gotOf ex) tePrev lastID hint attempt a ∧
      ValidFrom s (step s.cfg run (modelAtt s k a lastID)) (exAfter s ex k a lastID) (teAfter tePrev a) (k + 1) as

instance instDecidableValidFrom (s : Scn L) : (run : Run L) → (ex : List Exch) → (tePrev k : Nat) → (as : List MAtt) →
    Decidable (ValidFrom s run ex tePrev k as)
  | _, _, _, _, [] => isTrue trivial
  | run, ex, tePrev, k, a :: as =>
    match h : run.phase with
    | .ended _ => isTrue (by simp [ValidFrom, h])
    | .reconnecting _ _ lastID hint attempt =>
      have := instDecidableValidFrom s (step s.cfg run (modelAtt s k a lastID))
        (exAfter s ex k a lastID) (teAfter tePrev a) (k + 1) as
      decidable_of_iff (ValidAtt s (gotOf ex) tePrev lastID hint attempt a ∧
        ValidFrom s (step s.cfg run (modelAtt s k a lastID)) (exAfter s ex k a lastID) (teAfter tePrev a) (k + 1) as)
        (by simp [ValidFrom, h])

def modelStart (s : Scn L) (first : MAtt) : Run L :=
  match scanOfX s (modelX 0 first []) with
  | some so => start s.cfg so
  | none => { phase := .ended .streaming, msgs := [], headers := [] }

/-- the records that close a case: what was delivered, how the call ended, nothing leaked -/
def modelClose (s : Scn L) (run : Run L) : List (Rec L) :=
  .delivered (run.msgs.filter s.lab.isNotif) ::
    (match run.phase with
     | .ended e => [.fin (endObsOf s.sa e), .leak false]
     | .reconnecting .. => [])

/-- all records of a case in which the implementation behaves as the model -/
def modelTrace (s : Scn L) (first : MAtt) (script : List MAtt) : List (Rec L) :=
  .x (modelX 0 first []) :: (modelXs s (modelStart s first) 1 script ++
    modelClose s (modelRun s (modelStart s first) 1 script))

/-- the first exchange is a 200 body (on a call stream: one that ends) and the script is valid -/
def ValidCase (s : Scn L) (first : MAtt) (script : List MAtt) : Prop :=
  (∃ c t, first.kind = .ok c t ∧ (s.sa = false → t ≠ .open)) ∧
  ValidFrom s (modelStart s first) [exchOf s (modelX 0 first [])] first.te 1 script

/-- The simulation invariant between the model's loop state `run` and the monitor's state `m` after the
same records; `tePrev`: when the last exchange was over (ns).  `lost`, `wrong`: the monitor's two cursor
flags are down.  `valid`, `incC`, `incI`: the indices received so far exist, and those that carry a
message, and those that carry an id, came in increasing order — what `body_rel` needs to add a body.
`msgs`: the notifications the model delivered are the labels of the items received.  `phase`: `PhaseRel`.
`time`: the monitor's clock (µs) is the model's (ns).  `ctx`: the monitor's context flag is up exactly when
the model stopped with the caller's context. -/
structure SimInv [BEq L] (s : Scn L) (run : Run L) (m : Mon) (tePrev : Nat) : Prop where
  lost : m.cursorLost = false
  wrong : m.wrongCursor = false
  valid : ∀ i ∈ gotOf m.exch, i < s.items.length
  incC : ((gotOf m.exch).filter (carriesIdx s)).Pairwise (· < ·)
  incI : ((gotOf m.exch).filter s.hasId).Pairwise (· < ·)
  msgs : run.msgs.filter s.lab.isNotif = labelsOf s (gotOf m.exch)
  phase : PhaseRel s m.exch run.phase
  time : (m.exch.getLast?.map (·.tEnd)).getD 0 = tePrev / 1000
  ctx : m.ctxEnded = true ↔ run.phase = .ended .cancelled

/-! ### the faithful server resumes beyond everything that was received -/

theorem frontier_of_srv (s : Scn L) (hs : ScnOK s) (ex : List Exch) (f : Nat)
    (hincI : ((gotOf ex).filter s.hasId).Pairwise (· < ·))
    (h : SrvFrom s (gotOf ex) (cursorOf s ex) f) : Frontier s (gotOf ex) f := by
  unfold SrvFrom at h
  by_cases hc : cursorOf s ex = []
  · rw [if_pos hc] at h
    intro j hj _
    exact h.2 j hj
  · rw [if_neg hc] at h
    obtain ⟨i, hfind, rfl⟩ := Option.map_eq_some_iff.1 h
    rcases cursor_cases s ex with h0 | ⟨ci, hlast, hci, hcid, hce⟩
    · exact absurd h0 hc
    · obtain ⟨hlt, hp, hmin⟩ := List.findIdx?_eq_some_iff_getElem.1 hfind
      -- the cursor item satisfies the server's search predicate
      have hciItem : ∃ it, s.items[ci]? = some it ∧ it.raw = false ∧ it.ev.id = cursorOf s ex := by
        unfold Scn.hasId at hcid
        unfold idOfIdx at hce
        cases hi : s.items[ci]? with
        | none => simp [hi] at hcid
        | some it =>
          simp only [hi, Bool.and_eq_true, Bool.not_eq_true'] at hcid
          simp only [hi, Option.map_some, Option.getD_some] at hce
          exact ⟨it, rfl, hcid.1, hce⟩
      obtain ⟨it, hit, hraw, hid⟩ := hciItem
      have hcilt : ci < s.items.length := (List.getElem?_eq_some_iff.1 hit).1
      have hle : i ≤ ci := by
        rcases Nat.lt_or_ge ci i with h | h
        · exfalso
          apply hmin ci h
          rw [List.getElem?_eq_getElem hcilt] at hit
          cases hit
          simp [hraw, hid]
        · exact h
      have hici : i = ci := by
        rcases Nat.lt_or_ge i ci with h | h
        · exfalso
          have hidi : s.hasId i = true := by
            simp only [Bool.and_eq_true, Bool.not_eq_true', beq_iff_eq] at hp
            simp [Scn.hasId, List.getElem?_eq_getElem hlt, hp.1, hp.2, hc]
          have := ids_distinct_idx s hs i ci h hidi
          apply this
          simp only [Bool.and_eq_true, Bool.not_eq_true', beq_iff_eq] at hp
          rw [hce]
          simp [idOfIdx, List.getElem?_eq_getElem hlt, hp.2]
        · omega
      subst hici
      have hmax := le_last_of_pairwise _ i hincI hlast
      intro j hj hcj
      have hidj : s.hasId j = true := by
        rcases hcj with hcj | hcj
        · rcases carries_hasId_or_noIds s hs j hcj with h | h
          · exact h
          · exfalso
            apply hc
            rw [← hid]
            exact h it (List.mem_of_getElem? hit)
        · exact hcj
      have := hmax j (List.mem_filter.2 ⟨hj, hidj⟩)
      omega

variable [BEq L] [LawfulBEq L]

theorem checkResponse_200 : checkResponse 200 = none := by decide +kernel

/-- what the monitor books for a transport error or a status -/
def failExch (k : AKind) (tE : Nat) : Exch := { kind := k, from_ := none, complete := [], tEnd := tE }

omit [BEq L] [LawfulBEq L] in
theorem exchOf_modelX (s : Scn L) (k : Nat) (a : MAtt) (lastID : Bytes) :
    exchOf s (modelX k a lastID) =
      match a.kind with
      | .ok c t => okExch s a.from_ c t (a.te / 1000)
      | kd => failExch kd (a.te / 1000) := by
  obtain ⟨kd, cw, f, ts, te⟩ := a
  cases kd <;> rfl

omit [BEq L] [LawfulBEq L] in
theorem attemptOfX_modelX (s : Scn L) (k : Nat) (a : MAtt) (lastID : Bytes) :
    attemptOfX s (modelX k a lastID) =
      match a.kind with
      | .terr e => .terr e
      | .ctx => .ctxEnded true
      | .st c => .resp c (fun _ => ⟨[], .clean⟩)
      | .ok c t => .resp 200 (fun _ => scanBytes ((bodyFrom s.items a.from_).take c) t) := by
  obtain ⟨kd, cw, f, ts, te⟩ := a
  cases kd <;> rfl

omit [BEq L] [LawfulBEq L] in
/-- a body never ends the loop as "cancelled": only the caller's context does -/
theorem afterBody_ne_cancelled {M} (cfg : Cfg M) (prev : Bytes) (retries : Nat) (b : BodyOut M) :
    afterBody cfg prev retries b ≠ .ended .cancelled := by
  rcases afterBody_cases cfg prev retries b with ⟨e, he, hne, _⟩ | ⟨p, r, he, _⟩ <;> rw [he]
  · exact fun h => hne (Phase.ended.inj h)
  · nofun

omit [LawfulBEq L] in
theorem sim_start (s : Scn L) (hs : ScnOK s) (first : MAtt) (c : Nat) (t : Term)
    (hk : first.kind = .ok c t) (hopen : s.sa = false → t ≠ .open) (m0 : Mon)
    (hl : m0.cursorLost = false) (hw : m0.wrongCursor = false) (hc0 : m0.ctxEnded = false) :
    (monStep s m0 (.x (modelX 0 first []))).2 = none ∧
    SimInv s (modelStart s first) (monStep s m0 (.x (modelX 0 first []))).1 first.te := by
  have hex : exchOf s (modelX 0 first []) = okExch s first.from_ c t (first.te / 1000) := by
    rw [exchOf_modelX, hk]
  have hscan : scanOfX s (modelX 0 first []) = some (scanBytes ((bodyFrom s.items first.from_).take c) t) := by
    simp [scanOfX, modelX, hk]
  have hb := body_rel s hs [] [] 0 first.from_ c t (first.te / 1000)
    (by simp [gotOf]) (by simp [gotOf]) (by simp [gotOf]) (by simp [gotOf, labelsOf]) (by simp [fruitlessOf, fruitlessGo])
    (by simp) (by unfold gotReply; cases s.items.findIdx? _ <;> simp [gotOf])
    (by intro j hj; simp [gotOf] at hj) hopen
  obtain ⟨h1, h2, h3, h4, h5⟩ := hb
  refine ⟨by simp [monStep, modelX], ?_⟩
  have hm : (monStep s m0 (.x (modelX 0 first []))).1 = { m0 with exch := [okExch s first.from_ c t (first.te / 1000)] } := by
    simp [monStep, modelX, ← hex]
  rw [hm]
  have hrun : modelStart s first =
      { phase := afterBody s.cfg [] 0 (processBody s.cfg [] (scanBytes ((bodyFrom s.items first.from_).take c) t)),
        msgs := (processBody s.cfg [] (scanBytes ((bodyFrom s.items first.from_).take c) t)).msgs, headers := [] } := by
    simp [modelStart, hscan, start]
  rw [hrun]
  exact ⟨hl, hw, h2, h3, h4, h5, h1, by simp [okExch],
    ⟨fun h => by simp [hc0] at h, fun h => absurd h (afterBody_ne_cancelled _ _ _ _)⟩⟩

omit [BEq L] [LawfulBEq L] in
theorem gotOf_failExch (ex : List Exch) (k : AKind) (tE : Nat) : gotOf (ex ++ [failExch k tE]) = gotOf ex := by
  rw [gotOf_snoc]; exact List.append_nil _

omit [BEq L] [LawfulBEq L] in
theorem gotReply_failExch (s : Scn L) (ex : List Exch) (k : AKind) (tE : Nat) :
    gotReply s (ex ++ [failExch k tE]) = gotReply s ex := by
  unfold gotReply; rw [gotOf_failExch]

omit [LawfulBEq L] in
theorem SimInv.fail {s : Scn L} {run : Run L} {m : Mon} {tePrev : Nat} (inv : SimInv s run m tePrev)
    (k : AKind) (te : Nat) (run' : Run L) (hmsgs : run'.msgs = run.msgs)
    (hphase : PhaseRel s (m.exch ++ [failExch k (te / 1000)]) run'.phase)
    (hctx : (k == .ctx) = true ↔ run'.phase = .ended .cancelled) :
    SimInv s run'
      { exch := m.exch ++ [failExch k (te / 1000)], cursorLost := false, wrongCursor := false,
        ctxEnded := k == .ctx } te :=
  { lost := rfl
    wrong := rfl
    valid := by rw [gotOf_failExch]; exact inv.valid
    incC := by rw [gotOf_failExch]; exact inv.incC
    incI := by rw [gotOf_failExch]; exact inv.incI
    msgs := by rw [gotOf_failExch, hmsgs]; exact inv.msgs
    phase := hphase
    time := by rw [List.getLast?_concat]; rfl
    ctx := hctx }

/-- The records carry µs, the schedule is in ns: a delay inside the window `[lo, hi)` is, after both
instants were rounded down to µs, still inside the monitor's window, which is 1000 ns wider on each side. -/
theorem delay_ok (ts te lo hi : Nat) (h0 : te ≤ ts) (h1 : lo ≤ ts - te) (h2 : ts - te < hi) :
    ¬ ((ts / 1000 - te / 1000) * 1000 + 1000 < lo ∨ (ts / 1000 - te / 1000) * 1000 ≥ hi + 1000) := by
  omega

omit [LawfulBEq L] in
/-- What `monStep` does with the record of a model attempt made in a `PhaseRel` state inside the delay
window: it books the exchange and reports nothing. -/
theorem sim_mon (s : Scn L) (m : Mon) (tePrev k : Nat) (a : MAtt) (hk : k ≠ 0)
    (retries : Nat) (lastID : Bytes) (hint : Int) (attempt : Nat)
    (hrel : PhaseRel s m.exch (.reconnecting lastID retries lastID hint attempt))
    (hl : m.cursorLost = false) (hw : m.wrongCursor = false) (hc : m.ctxEnded = false)
    (htime : (m.exch.getLast?.map (·.tEnd)).getD 0 = tePrev / 1000)
    (ht0 : tePrev ≤ a.ts) (hlo : (delayWindow hint attempt).1 ≤ a.ts - tePrev)
    (hhi : a.ts - tePrev < (delayWindow hint attempt).2) :
    monStep s m (.x (modelX k a lastID)) =
      ({ exch := m.exch ++ [exchOf s (modelX k a lastID)], cursorLost := false, wrongCursor := false,
         ctxEnded := a.kind == .ctx }, none) := by
  obtain ⟨hcur, _, hret, hatt, hhint, hst, hne, hrmr, hamr, _⟩ := hrel
  have hhdr : (modelX k a lastID).hdr = hdrOf (cursorOf s m.exch) := by rw [← hcur]; rfl
  simp only [monStep, if_neg (show ¬ (modelX k a lastID).k = 0 from hk), hl, hw, hc, Bool.false_or, hhdr]
  refine Prod.ext ?_ ?_
  · simp only [bne_self_eq_false, Bool.and_false]
    congr 1
    cases hl : cursorOf s m.exch with
    | nil => rfl
    | cons x xs => rfl
  · simp only [Bool.false_eq_true, if_false]
    unfold monAttempt
    simp only [ne_eq, not_true_eq_false, if_false]
    have h2 : ¬ ((!s.sa && decide (cursorOf s m.exch = [])) = true) := by
      cases hsa : s.sa with
      | true => nofun
      | false => rw [← hcur]; simp [hne hsa]
    have hwin : delayWindow (if trailingTerr m.exch + 1 = 1 then lastHint s m.exch else 0) (trailingTerr m.exch + 1) =
        delayWindow hint attempt := by
      rw [← hatt]
      by_cases h1 : attempt = 1
      · rw [if_pos h1, hhint h1]
      · simp [delayWindow, h1]
    rw [if_neg h2, if_neg (by rw [hst]; nofun), if_neg (by rw [← hret]; omega), if_neg (by omega), hwin, htime]
    exact if_neg (delay_ok a.ts tePrev _ _ ht0 hlo hhi)

theorem sim_step (s : Scn L) (hs : ScnOK s) (run : Run L) (m : Mon) (tePrev k : Nat) (a : MAtt)
    (inv : SimInv s run m tePrev) (hk : k ≠ 0)
    (prev : Bytes) (retries : Nat) (lastID : Bytes) (hint : Int) (attempt : Nat)
    (hph : run.phase = .reconnecting prev retries lastID hint attempt)
    (hv : ValidAtt s (gotOf m.exch) tePrev lastID hint attempt a) :
    (monStep s m (modelRec k a lastID)).2 = none ∧
    (monStep s m (modelRec k a lastID)).1.exch = exAfter s m.exch k a lastID ∧
    SimInv s (step s.cfg run (modelAtt s k a lastID)) (monStep s m (modelRec k a lastID)).1 (teAfter tePrev a) := by
  have hrel := inv.phase
  rw [hph] at hrel
  have hctx0 : m.ctxEnded = false := by
    cases hc : m.ctxEnded with
    | false => rfl
    | true => have := inv.ctx.1 hc; rw [hph] at this; cases this
  by_cases hw : a.cancelWait = true
  · -- the caller's context is cancelled during the wait: no request, the loop stops
    simp only [modelRec, modelAtt, exAfter, teAfter, hw, if_true]
    rw [step_ctxEnded s.cfg hph]
    exact ⟨rfl, rfl, inv.lost, inv.wrong, inv.valid, inv.incC, inv.incI, inv.msgs, hrel.2.2.2.2.2.2.2.2.2, inv.time,
      ⟨fun _ => rfl, fun _ => rfl⟩⟩
  obtain ⟨ht0, hlo, hhi, hkind⟩ := hv.resolve_left hw
  rw [Bool.not_eq_true] at hw
  simp only [modelRec, modelAtt, exAfter, teAfter, hw, Bool.false_eq_true, if_false]
  obtain rfl : lastID = prev := hrel.2.1.symm
  rw [sim_mon s m tePrev k a hk retries lastID hint attempt hrel inv.lost inv.wrong hctx0 inv.time ht0 hlo hhi]
  refine ⟨rfl, rfl, ?_⟩
  obtain ⟨hcur, _, hret, hatt, hhint, hst, hne, hrmr, hamr, hrep⟩ := hrel
  rw [exchOf_modelX, attemptOfX_modelX]
  cases hak : a.kind with
  | terr te =>
    dsimp only
    rw [step_terr s.cfg hph]
    have ht' : trailingTerr (m.exch ++ [failExch (.terr te) (a.te / 1000)]) = attempt := by
      rw [trailingTerr_snoc, hatt]; rfl
    have hr' := (gotReply_failExch s m.exch (.terr te) (a.te / 1000)).trans hrep
    by_cases hc : errStops te = true ∨ attempt + 1 > s.cfg.maxRetries
    · rw [if_pos hc]
      have hc : attempt + 1 > s.mr := hc.resolve_left (by rw [errStops_never]; nofun)
      exact inv.fail _ _ _ rfl ⟨hr', .inr (by rw [ht']; exact Nat.le_of_lt_succ hc)⟩ ⟨nofun, nofun⟩
    · rw [if_neg hc]
      refine inv.fail _ _ _ rfl ⟨by unfold cursorOf at hcur ⊢; rw [gotOf_failExch]; exact hcur, rfl, by rw [fruitlessOf_snoc]; exact hret,
        by rw [ht'], fun h => ?_, by rw [anySt_snoc, hst]; rfl, hne, hrmr, Nat.le_of_not_gt (not_or.1 hc).2, hr'⟩
        ⟨nofun, nofun⟩
      rw [hatt] at h; cases h
  | ctx =>
    dsimp only
    rw [step_ctxEnded s.cfg hph]
    exact inv.fail _ _ _ rfl (by rw [PhaseRel, gotReply_failExch]; exact hrep) ⟨fun _ => rfl, fun _ => rfl⟩
  | st code =>
    rw [hak] at hkind
    obtain ⟨fl, hfl⟩ := Option.isSome_iff_exists.1 hkind
    dsimp only
    rw [step_resp s.cfg hph, hfl]
    have hr' := (gotReply_failExch s m.exch (.st code) (a.te / 1000)).trans hrep
    have hls : lastIsStatus (m.exch ++ [failExch (.st code) (a.te / 1000)]) code = true := by
      rw [lastIsStatus_snoc]; simp [failExch]
    refine inv.fail _ _ _ rfl ?_ ⟨nofun, nofun⟩
    rcases checkResponse_some hfl with rfl | ⟨rfl, rfl⟩ | rfl <;> exact ⟨hr', hls⟩
  | ok c t =>
    rw [hak] at hkind
    obtain ⟨hsrv, hopen⟩ := hkind
    dsimp only
    rw [step_resp s.cfg hph, checkResponse_200]
    rw [hcur] at hsrv
    have hfr := frontier_of_srv s hs m.exch a.from_ inv.incI hsrv
    obtain ⟨h1, h2, h3, h4, h5⟩ := body_rel s hs m.exch run.msgs retries a.from_ c t (a.te / 1000)
      inv.valid inv.incC inv.incI inv.msgs hret hst hrep hfr hopen
    rw [← hcur] at h1 h5
    exact ⟨rfl, rfl, h2, h3, h4, h5, h1, by rw [List.getLast?_concat]; rfl,
      ⟨nofun, fun h => absurd h (afterBody_ne_cancelled _ _ _ _)⟩⟩

theorem labelsOf_filter_carries (s : Scn L) (hs : ScnOK s) (got : List Nat) :
    labelsOf s (got.filter (carriesIdx s)) = labelsOf s got := by
  have h : itemsAt s (got.filter (carriesIdx s)) = (itemsAt s got).filter carries := itemsAt_filter s carries got
  rw [labelsOf_items s hs, labelsOf_items s hs, h, slMsgs, slMsgs, List.filterMap_filter]
  congr 2
  funext it
  cases carries it <;> rfl

theorem sim_delivered (s : Scn L) (hs : ScnOK s) (run : Run L) (m : Mon) (te : Nat) (inv : SimInv s run m te) :
    monDelivered s m (run.msgs.filter s.lab.isNotif) = none := by
  have hsub : (labelsOf s (gotOf m.exch)).Sublist (labelsOf s (List.range s.items.length)) := by
    rw [← labelsOf_filter_carries s hs]
    unfold labelsOf
    apply List.Sublist.filterMap
    apply sublist_range _ _ inv.incC
    intro i hi
    exact inv.valid i (List.mem_filter.1 hi).1
  unfold monDelivered
  rw [inv.msgs]
  simp only
  rw [if_neg, if_neg, if_neg, if_neg]
  · simp [inv.lost, inv.wrong]
  · simp
  · simp
  · have := (isSublistInOrder_iff _ _).2 hsub
    simp [this]
  · simp only [List.any_eq_true, Bool.not_eq_true', not_exists, not_and]
    intro l hl
    simpa using hsub.subset hl

omit [LawfulBEq L] in
theorem sim_end (s : Scn L) (run : Run L) (m : Mon) (te : Nat) (inv : SimInv s run m te)
    (e : Ended) (he : run.phase = .ended e) : monEnd s m.exch m.ctxEnded (endObsOf s.sa e) = none := by
  have hrel := inv.phase
  rw [he] at hrel
  cases e with
  | replied => obtain ⟨h1, h2⟩ := hrel; simp [endObsOf, monEnd, h1, h2]
  | synthetic => obtain ⟨h1, h2, h3⟩ := hrel; simp [endObsOf, monEnd, h1, h2, h3]
  | streaming => have h1 : s.sa = true := hrel; simp [endObsOf, monEnd, h1]
  | cancelled => have h1 : gotReply s m.exch = false := hrel; simp [endObsOf, monEnd, h1, inv.ctx.2 he]
  | failed f =>
    cases f with
    | decode => exact hrel.elim
    | malformed => exact hrel.elim
    | exceeded => obtain ⟨h1, h2⟩ := hrel; simp [endObsOf, monEnd, h1, h2]
    | connect =>
      obtain ⟨h1, h2⟩ := hrel
      simp only [endObsOf, monEnd, h1, Bool.false_eq_true, if_false]
      exact if_pos h2
    | rejected c => obtain ⟨h1, h2⟩ := hrel; simp [endObsOf, monEnd, h1, h2]
    | sessionGone => obtain ⟨h1, h2⟩ := hrel; simp [endObsOf, monEnd, h1, h2]
    | status c => obtain ⟨h1, h2⟩ := hrel; simp [endObsOf, monEnd, h1, h2]

theorem sim_close (s : Scn L) (hs : ScnOK s) (run : Run L) (m : Mon) (te : Nat) (inv : SimInv s run m te) :
    runMon s m (modelClose s run) = none := by
  unfold modelClose
  simp only [runMon, monStep, sim_delivered s hs run m te inv]
  cases he : run.phase with
  | reconnecting => simp [runMon]
  | ended e => simp [runMon, monStep, sim_end s run m te inv e he]

omit [LawfulBEq L] in
theorem runMon_append_none (s : Scn L) (m : Mon) (a b : List (Rec L)) (ha : runMon s m a = none)
    (hb : runMon s (monAfter s m a) b = none) : runMon s m (a ++ b) = none := by
  induction a generalizing m with
  | nil => simpa [monAfter] using hb
  | cons r rest ih =>
    simp only [List.cons_append, runMon] at ha ⊢
    cases h : (monStep s m r).2 with
    | some c => simp [h] at ha
    | none =>
      simp only [h] at ha ⊢
      exact ih _ ha (by simpa [monAfter] using hb)

theorem sim_run (s : Scn L) (hs : ScnOK s) (as : List MAtt) :
    ∀ (run : Run L) (m : Mon) (te k : Nat), SimInv s run m te → k ≠ 0 → ValidFrom s run m.exch te k as →
      runMon s m (modelXs s run k as ++ modelClose s (modelRun s run k as)) = none := by
  induction as with
  | nil => intro run m te k inv _ _; simpa [modelXs, modelRun] using sim_close s hs run m te inv
  | cons a as ih =>
    intro run m te k inv hk hv
    cases hph : run.phase with
    | ended e =>
      have h1 : modelXs s run k (a :: as) = [] := by simp [modelXs, hph]
      have h2 : modelRun s run k (a :: as) = run := by simp [modelRun, hph]
      rw [h1, h2]
      simpa using sim_close s hs run m te inv
    | reconnecting prev retries lastID hint attempt =>
      have h1 : modelXs s run k (a :: as) = modelRec k a lastID ::
          modelXs s (step s.cfg run (modelAtt s k a lastID)) (k + 1) as := by simp [modelXs, hph]
      have h2 : modelRun s run k (a :: as) =
          modelRun s (step s.cfg run (modelAtt s k a lastID)) (k + 1) as := by simp [modelRun, hph]
      simp only [ValidFrom, hph] at hv
      obtain ⟨hva, hvr⟩ := hv
      obtain ⟨hnone, hexch, inv'⟩ := sim_step s hs run m te k a inv hk prev retries lastID hint attempt hph hva
      rw [h1, h2, List.cons_append, runMon, hnone]
      simp only
      apply ih _ _ (teAfter te a) (k + 1) inv' (by omega)
      rw [hexch]
      exact hvr

/-- No false alarm.  For every scenario of a faithful server, every cut of
the first body, every valid script of reconnect outcomes and every timing inside the model's back-off
window: the C09 monitor raises no clause on the records of the model's behaviour — the `x` record of
every exchange, the `delivered` record, and (when the model's loop has ended) the `end` and `leak`
records. -/
theorem monitor_accepts_model (s : Scn L) (hs : ScnOK s) (first : MAtt) (script : List MAtt)
    (hv : ValidCase s first script) : runMon s {} (modelTrace s first script) = none := by
  obtain ⟨⟨c, t, hk, hopen⟩, hvs⟩ := hv
  obtain ⟨hnone, inv⟩ := sim_start s hs first c t hk hopen {} rfl rfl rfl
  unfold modelTrace
  rw [runMon, hnone]
  simp only
  apply sim_run s hs script _ _ first.te 1 inv (by omega)
  have : (monStep s {} (.x (modelX 0 first []))).1.exch = [exchOf s (modelX 0 first [])] := by
    simp [monStep, modelX]
  rw [this]
  exact hvs

/-- … and on every prefix of the exchanges: whatever was delivered so far is accepted as well. -/
theorem monitor_accepts_model_prefix (s : Scn L) (hs : ScnOK s) (first : MAtt) (script : List MAtt)
    (hv : ValidCase s first script) (n : Nat) :
    runMon s {} (modelTrace s first (script.take n)) = none := by
  apply monitor_accepts_model s hs first _
  obtain ⟨h1, h2⟩ := hv
  refine ⟨h1, ?_⟩
  generalize modelStart s first = run at h2
  generalize [exchOf s (modelX 0 first [])] = ex at h2
  generalize first.te = te at h2
  generalize (1 : Nat) = k at h2
  induction script generalizing n run ex te k with
  | nil => simpa using h2
  | cons a as ih =>
    cases n with
    | zero => simp [ValidFrom]
    | succ n =>
      simp only [List.take_succ_cons, ValidFrom] at h2 ⊢
      cases hph : run.phase with
      | ended e => simp
      | reconnecting prev retries lastID hint attempt =>
        simp only [hph] at h2 ⊢
        exact ⟨h2.1, ih n _ _ _ _ h2.2⟩

/-! ### non-vacuity: the hypotheses are satisfiable, the traces are not empty -/

theorem exScn_ok : ScnOK exScn := by decide +kernel

def exFirst : MAtt := { kind := .ok 16 .err, from_ := 0, ts := 0, te := 1000000 }
def exScript : List MAtt :=
  [ { kind := .terr { isDeadline := true, isTimeout := true }, ts := 1001500000, te := 1006500000 },
    { kind := .ok 0 .eof, from_ := 1, ts := 3001500000, te := 3002500000 },
    { kind := .ok 100 .eof, from_ := 1, ts := 4502500000, te := 4503500000 } ]

theorem exCase_valid : ValidCase exScn exFirst exScript := by
  refine ⟨⟨16, .err, rfl, by decide⟩, ?_⟩
  decide +kernel

/-- the behaviour: cut after the first event by a read error (call stream), one transport error after
the back-off, an empty resumed body, then the rest: 4 exchanges, then delivered / end / leak -/
example : (modelTrace exScn exFirst exScript).length = 7 := by decide +kernel
example : (modelRun exScn (modelStart exScn exFirst) 1 exScript).phase = .ended .replied ∧
    (modelRun exScn (modelStart exScn exFirst) 1 exScript).msgs = [1, 100] := by decide +kernel
example : runMon exScn {} (modelTrace exScn exFirst exScript) = none :=
  monitor_accepts_model exScn exScn_ok exFirst exScript exCase_valid

/-- the control: after a dial timeout (an error that answers `Is(DeadlineExceeded)`) the caller's
context ends while the second attempt is in flight; what the script says afterwards is never reached:
3 exchanges, then delivered / end (`err:ctx`) / leak -/
def exScriptCtx : List MAtt :=
  [ { kind := .terr { isDeadline := true, isTimeout := true }, ts := 1001500000, te := 1006500000 },
    { kind := .ctx, ts := 3001500000, te := 3002500000 },
    { kind := .ok 100 .eof, from_ := 1, ts := 4502500000, te := 4503500000 } ]

theorem exCaseCtx_valid : ValidCase exScn exFirst exScriptCtx := by
  refine ⟨⟨16, .err, rfl, by decide⟩, ?_⟩
  decide +kernel

example : (modelRun exScn (modelStart exScn exFirst) 1 exScriptCtx).phase = .ended .cancelled ∧
    (modelTrace exScn exFirst exScriptCtx).length = 6 := by decide +kernel
example : runMon exScn {} (modelTrace exScn exFirst exScriptCtx) = none :=
  monitor_accepts_model exScn exScn_ok exFirst exScriptCtx exCaseCtx_valid

/-- … and cancelled during the first wait: a `cancel` record instead of an exchange -/
def exScriptWait : List MAtt :=
  [ { kind := .ctx, cancelWait := true, ts := 2000000 },
    { kind := .ok 100 .eof, from_ := 1, ts := 4502500000, te := 4503500000 } ]

theorem exCaseWait_valid : ValidCase exScn exFirst exScriptWait := by
  refine ⟨⟨16, .err, rfl, by decide⟩, ?_⟩
  decide +kernel

example : (modelRun exScn (modelStart exScn exFirst) 1 exScriptWait).phase = .ended .cancelled ∧
    (modelRun exScn (modelStart exScn exFirst) 1 exScriptWait).headers = [] ∧
    (modelTrace exScn exFirst exScriptWait).length = 5 := by decide +kernel
example : runMon exScn {} (modelTrace exScn exFirst exScriptWait) = none :=
  monitor_accepts_model exScn exScn_ok exFirst exScriptWait exCaseWait_valid

theorem exScnSa_ok : ScnOK exScnSa := by decide +kernel

def exFirstSa : MAtt := { kind := .ok 8 .eof, from_ := 0, ts := 0, te := 1000000 }
def exScriptSa : List MAtt := [ { kind := .ok 100 .open, from_ := 2, ts := 1500000000, te := 1500000000 } ]

theorem exCaseSa_valid : ValidCase exScnSa exFirstSa exScriptSa := by
  refine ⟨⟨8, .eof, rfl, by decide⟩, ?_⟩
  decide +kernel

example : (modelRun exScnSa (modelStart exScnSa exFirstSa) 1 exScriptSa).phase = .ended .streaming ∧
    (modelRun exScnSa (modelStart exScnSa exFirstSa) 1 exScriptSa).msgs = [2] ∧
    (modelTrace exScnSa exFirstSa exScriptSa).length = 5 := by decide +kernel
example : runMon exScnSa {} (modelTrace exScnSa exFirstSa exScriptSa) = none :=
  monitor_accepts_model exScnSa exScnSa_ok exFirstSa exScriptSa exCaseSa_valid

/-! ### the hypotheses are about the environment, and each is needed

`ScnOK` and `ValidCase` restrict the scripted SERVER (C08's guarantees and the harness's script
vocabulary), not the client.  Without them the monitor does report clauses on behaviours of the
model; the harness generates none of these. -/

/-- a server that stalls a call stream for ever (body left open without the response): the model's
call stays pending and the monitor reports the hang — `ValidCase` demands that bodies of a call
stream end -/
example : runMon exScn {} (modelTrace exScn { kind := .ok 16 .open } []) = some .hang := by decide +kernel

/-- a "status" attempt with a 2xx code: the model treats it as an empty body and reconnects, the
monitor books a failing status — `ValidAtt` demands `checkResponse c ≠ none` for `st c` -/
example : runMon exScn {} (modelTrace exScn exFirst
    [ { kind := .st 204, ts := 1001500000, te := 1001500000 },
      { kind := .terr {}, ts := 2003000000, te := 2003000000 } ]) = some .afterStatus := by decide +kernel

/-- a server that sends a notification AFTER the call's response on the call's stream: the model's
client stops at the response, the monitor misses the notification — `ScnOK.replyLast` -/
def exScnBadOrder : Scn Nat :=
  { exScn with items := [
      { raw := false, ev := { id := [50, 50], data := [66, 66] }, label := 100,
        bytes := serializeLines (writeEvent { id := [50, 50], data := [66, 66] }) },
      { raw := false, ev := { id := [49], data := [65, 65] }, label := 1,
        bytes := serializeLines (writeEvent { id := [49], data := [65, 65] }) }] }
example : runMon exScnBadOrder {} (modelTrace exScnBadOrder { kind := .ok 100 .eof } []) = some .missing := by decide +kernel

/-- a server that gives ids to some messages only: resuming after "1" replays the id-less
notification 2, which the model's client delivers twice — `ScnOK.idsAllOrNone` -/
def exScnMixed : Scn Nat :=
  { exScn3 with items := [
      { raw := false, ev := { id := [49], data := [65, 65] }, label := 1,
        bytes := serializeLines (writeEvent { id := [49], data := [65, 65] }) },
      { raw := false, ev := { data := [66, 66] }, label := 2,
        bytes := serializeLines (writeEvent { data := [66, 66] }) },
      { raw := false, ev := { id := [51, 51, 51], data := [67, 67] }, label := 3,
        bytes := serializeLines (writeEvent { id := [51, 51, 51], data := [67, 67] }) }] }
example : runMon exScnMixed {} (modelTrace exScnMixed { kind := .ok 30 .err, te := 1000000 }
    [ { kind := .ok 100 .open, from_ := 1, ts := 1500000000, te := 1500000000 } ]) = some .dupOrOrder := by decide +kernel

end ClientStream
