import McpModel.ClientStream.Lemmas
/-!
E6 (C09): the reconnect loop against a faithful server (C08's guarantee), and the retry accounting.
-/
namespace ClientStream
open Generated.ClientStream

/-- The server's log of one stream: well-formed blocks, every event with an id, ids pairwise
distinct (C08's guarantee for the streamable server with an event store, on a log without comment blocks). -/
structure Faithful (log : List Block) : Prop where
  good : ∀ b ∈ log, ∀ l ∈ b, goodLine l = true
  hasId : ∀ b ∈ log, (eventOf b).id ≠ []
  nodup : (log.map (fun b => (eventOf b).id)).Nodup

/-- the blocks after the one whose event id is `h` -/
def after : List Block → Bytes → List Block
  | [], _ => []
  | b :: bs, h => if (eventOf b).id = h then bs else after bs h

/-- what a faithful server sends on a (re)connection carrying `Last-Event-ID: hdr` (`[]` = none) -/
def serve (log : List Block) (hdr : Bytes) : List Block := if hdr = [] then log else after log hdr

/-- the resume cursor a correct client holds after receiving the first `n` events completely -/
def cursorAt (log : List Block) (n : Nat) : Bytes := lastIdOf [] (eventsOf (log.take n))

/-- one HTTP attempt against the faithful server: a transport error, or a response with a status
whose body is the first `cut` bytes of what the server would send, ended by `t` -/
inductive FAttempt where
  | terr (e : TErr)
  | ctxEnded (sent : Bool)
  | resp (code cut : Nat) (t : Term)

def toAttempt (log : List Block) : FAttempt → Attempt
  | .terr e => .terr e
  | .ctxEnded sent => .ctxEnded sent
  | .resp code cut t => .resp code (fun hdr => scanBytes ((serialize (serve log hdr)).take cut) t)

theorem isEmpty_of_id {e : Event} (h : e.id ≠ []) : e.isEmpty = false := by
  cases hid : e.id with
  | nil => exact absurd hid h
  | cons a b => simp [Event.isEmpty, hid]

theorem Faithful.sub {log : List Block} (hf : Faithful log) (l : List Block) (hsub : ∀ b ∈ l, b ∈ log) :
    eventsOf l = l.map eventOf ∧ ∀ e ∈ l.map eventOf, e.id ≠ [] := by
  constructor
  · unfold eventsOf
    apply List.filter_eq_self.2
    intro e he
    obtain ⟨b, hb, rfl⟩ := List.mem_map.1 he
    simp [isEmpty_of_id (hf.hasId b (hsub b hb))]
  · intro e he
    obtain ⟨b, hb, rfl⟩ := List.mem_map.1 he
    exact hf.hasId b (hsub b hb)

theorem Faithful.tail {b : Block} {bs : List Block} (hf : Faithful (b :: bs)) : Faithful bs :=
  ⟨fun b' h => hf.good b' (List.mem_cons_of_mem _ h), fun b' h => hf.hasId b' (List.mem_cons_of_mem _ h),
   (List.nodup_cons.1 (by have := hf.nodup; rwa [List.map_cons] at this)).2⟩

theorem after_getElem (log : List Block) (hf : Faithful log) (m : Nat) (hm : m < log.length) :
    after log (eventOf log[m]).id = log.drop (m + 1) := by
  induction log generalizing m with
  | nil => simp at hm
  | cons b bs ih =>
    cases m with
    | zero => simp [after]
    | succ m =>
      have hm' : m < bs.length := by simpa using hm
      have hne : (eventOf b).id ≠ (eventOf bs[m]).id := by
        have hnd := (List.nodup_cons.1 (by have := hf.nodup; rwa [List.map_cons] at this)).1
        intro heq
        apply hnd
        rw [heq]
        exact List.mem_map.2 ⟨bs[m], List.getElem_mem hm', rfl⟩
      simp only [List.getElem_cons_succ, after, if_neg hne]
      rw [ih hf.tail m hm']
      simp

theorem cursorAt_zero (log : List Block) : cursorAt log 0 = [] := by simp [cursorAt, eventsOf, lastIdOf]

theorem cursorAt_succ (log : List Block) (hf : Faithful log) (m : Nat) (hm : m < log.length) :
    cursorAt log (m + 1) = (eventOf log[m]).id := by
  unfold cursorAt
  rw [List.take_add_one, eventsOf_append, lastIdOf_append]
  have : log[m]? = some log[m] := by simp [hm]
  rw [this]
  have hne := hf.hasId log[m] (List.getElem_mem hm)
  simp [eventsOf, isEmpty_of_id hne, lastIdOf, hne]

theorem serve_cursor (log : List Block) (hf : Faithful log) (n : Nat) (hn : n ≤ log.length) :
    serve log (cursorAt log n) = log.drop n := by
  cases n with
  | zero => simp [serve, cursorAt_zero]
  | succ m =>
    have hm : m < log.length := hn
    rw [cursorAt_succ log hf m hm]
    unfold serve
    rw [if_neg (hf.hasId _ (List.getElem_mem hm)), after_getElem log hf m hm]

theorem cursor_step (log : List Block) (n k : Nat) :
    lastIdOf (cursorAt log n) (eventsOf ((log.drop n).take k)) = cursorAt log (n + k) := by
  unfold cursorAt
  rw [← lastIdOf_append, ← eventsOf_append, List.take_add]

theorem cursor_step_fresh (log : List Block) (hf : Faithful log) (n k : Nat) (hk : 0 < k) (hnk : n + k ≤ log.length) :
    lastIdOf [] (eventsOf ((log.drop n).take k)) = cursorAt log (n + k) := by
  rw [← cursor_step]
  have hsub : ∀ b ∈ (log.drop n).take k, b ∈ log := fun b hb => List.mem_of_mem_drop (List.mem_of_mem_take hb)
  obtain ⟨he, hids⟩ := hf.sub _ hsub
  rw [he]
  apply lastIdOf_allIds _ _ _ _ hids
  intro h
  have : ((log.drop n).take k).length = 0 := by simpa using congrArg List.length h
  simp at this
  omega

theorem afterBody_cases {M} (cfg : Cfg M) (prev : Bytes) (retries : Nat) (b : BodyOut M) :
    (∃ e, afterBody cfg prev retries b = .ended e ∧ e ≠ .cancelled ∧ (e = .streaming → b.fin = .streaming)) ∨
    (∃ p r, afterBody cfg prev retries b = .reconnecting p r b.lastID b.hint 1 ∧
      r ≤ cfg.maxRetries ∧ 1 ≤ cfg.maxRetries) := by
  unfold afterBody
  cases hf : b.fin with
  | replied => exact .inl ⟨_, rfl, nofun, nofun⟩
  | failed f => exact .inl ⟨_, rfl, nofun, nofun⟩
  | streaming => exact .inl ⟨_, rfl, nofun, fun _ => rfl⟩
  | interrupted =>
    dsimp only
    by_cases h1 : b.lastID = [] ∧ cfg.forCall = true
    · rw [if_pos h1]; exact .inl ⟨_, rfl, nofun, nofun⟩
    rw [if_neg h1]
    by_cases h2 : b.lastID ≠ [] ∧ b.lastID ≠ prev
    · rw [if_pos h2]
      by_cases h3 : cfg.maxRetries = 0
      · rw [if_pos h3]; exact .inl ⟨_, rfl, nofun, nofun⟩
      · rw [if_neg h3]; exact .inr ⟨_, _, rfl, Nat.zero_le _, Nat.pos_of_ne_zero h3⟩
    · rw [if_neg h2]
      by_cases h3 : retries + 1 > cfg.maxRetries
      · rw [if_pos h3]; exact .inl ⟨_, rfl, nofun, nofun⟩
      · rw [if_neg h3]; exact .inr ⟨_, _, rfl, Nat.le_of_not_gt h3, by omega⟩

theorem checkResponse_some {code : Nat} {f : Fail} (h : checkResponse code = some f) :
    f = .rejected code ∨ (f = .sessionGone ∧ code = sessionGoneStatus) ∨ f = .status code := by
  unfold checkResponse at h
  by_cases h1 : isTransient code = true
  · rw [if_pos h1] at h; exact .inl (Option.some.inj h).symm
  rw [if_neg h1] at h
  by_cases h2 : code = sessionGoneStatus
  · rw [if_pos h2] at h; exact .inr (.inl ⟨(Option.some.inj h).symm, h2⟩)
  rw [if_neg h2] at h
  by_cases h3 : code < 200 ∨ code ≥ 300
  · rw [if_pos h3] at h; exact .inr (.inr (Option.some.inj h).symm)
  · rw [if_neg h3] at h; cases h

section step
variable {M : Type} (cfg : Cfg M) {r : Run M} {p : Bytes} {rt : Nat} {l : Bytes} {hnt : Int} {a : Nat}

theorem step_ended {e : Ended} (h : r.phase = .ended e) (at' : Attempt) : step cfg r at' = r := by
  unfold step; rw [h]

theorem step_terr (h : r.phase = .reconnecting p rt l hnt a) (e : TErr) :
    step cfg r (.terr e) =
      { r with
        phase := if errStops e = true ∨ a + 1 > cfg.maxRetries then .ended (.failed .connect)
          else .reconnecting p rt l hnt (a + 1),
        headers := r.headers ++ [l] } := by
  unfold step; rw [h]; dsimp only
  by_cases h1 : errStops e = true
  · rw [if_pos h1, if_pos (.inl h1)]
  · by_cases h2 : a + 1 > cfg.maxRetries
    · rw [if_neg h1, if_pos h2, if_pos (.inr h2)]
    · rw [if_neg h1, if_neg h2, if_neg (not_or.2 ⟨h1, h2⟩)]

theorem step_ctxEnded (h : r.phase = .reconnecting p rt l hnt a) (sent : Bool) :
    step cfg r (.ctxEnded sent) =
      { r with phase := .ended .cancelled, headers := if sent then r.headers ++ [l] else r.headers } := by
  unfold step; rw [h]

theorem step_resp (h : r.phase = .reconnecting p rt l hnt a) (code : Nat) (body : Bytes → ScanOut) :
    step cfg r (.resp code body) =
      match checkResponse code with
      | some f => { r with phase := .ended (.failed f), headers := r.headers ++ [l] }
      | none =>
        { phase := afterBody cfg p rt (processBody cfg (resumeOf cfg p) (body l)),
          msgs := r.msgs ++ (processBody cfg (resumeOf cfg p) (body l)).msgs,
          headers := r.headers ++ [l] } := by
  unfold step; rw [h]; rfl

end step

/-- **The retry loop never stops on a property of the attempt's error.**  Read off the code on every
run (`Generated.ClientStream.stopOn…`: the tests of the error under which the branch taken when
`client.Do` fails leaves the loop): whatever the error answers to `errors.Is(context.Canceled)`,
`errors.Is(context.DeadlineExceeded)` or `Timeout()`, the branch stores it and goes on. -/
theorem errStops_never (e : TErr) : errStops e = false := by
  cases e; rfl

/-- the run of `handleSSE` against the faithful server for `log`: first body cut at `cut0`/`t0` -/
def runF {M} (cfg : Cfg M) (log : List Block) (cut0 : Nat) (t0 : Term) (script : List FAttempt) : Run M :=
  run cfg (scanBytes ((serialize log).take cut0) t0) (script.map (toAttempt log))

/-- the invariant of the loop: the session has seen exactly the messages of the first `n` events of
the log, every Last-Event-ID sent was a cursor of the log, and while reconnecting the client holds
the cursor of exactly those `n` events -/
def Inv {M} (cfg : Cfg M) (log : List Block) (r : Run M) : Prop :=
  ∃ n, n ≤ log.length ∧ r.msgs = specMsgs cfg (eventsOf (log.take n)) ∧
    (∀ h ∈ r.headers, ∃ j, j ≤ log.length ∧ h = cursorAt log j) ∧
    (match r.phase with
     | .reconnecting prev _ lastID _ _ =>
        stops cfg (eventsOf (log.take n)) = false ∧ lastID = cursorAt log n ∧ (cfg.keepCursor = true → prev = lastID)
     | .ended .replied => ∃ m ∈ r.msgs, cfg.isReply m = true
     | .ended _ => True)

theorem afterBody_inv {M} (cfg : Cfg M) (hd : cfg.dropUnterminated = true) (log : List Block) (hf : Faithful log)
    (n : Nat) (hn : n ≤ log.length) (hs : stops cfg (eventsOf (log.take n)) = false)
    (headers : List Bytes) (hh : ∀ h ∈ headers, ∃ j, j ≤ log.length ∧ h = cursorAt log j)
    (prev resume : Bytes) (retries : Nat)
    (hk : cfg.keepCursor = true → resume = cursorAt log n ∧ prev = cursorAt log n)
    (hnk : cfg.keepCursor = false → resume = [] ∧ cfg.forCall = true)
    (cut : Nat) (t : Term) :
    Inv cfg log
      { phase := afterBody cfg prev retries (processBody cfg resume (scanBytes ((serialize (log.drop n)).take cut) t)),
        msgs := specMsgs cfg (eventsOf (log.take n)) ++
          (processBody cfg resume (scanBytes ((serialize (log.drop n)).take cut) t)).msgs,
        headers := headers } := by
  have hgood : ∀ b ∈ log.drop n, ∀ l ∈ b, goodLine l = true := fun b hb => hf.good b (List.mem_of_mem_drop hb)
  rw [processBody_prefix cfg hd resume _ hgood cut t]
  unfold completeEvents
  have hkle := completeCount_le (log.drop n) cut
  generalize completeCount (log.drop n) cut = k at hkle
  have hnk' : n + k ≤ log.length := by simp at hkle; omega
  have htake : eventsOf (log.take n) ++ eventsOf ((log.drop n).take k) = eventsOf (log.take (n + k)) := by
    rw [← eventsOf_append, List.take_add]
  have hmsgs : specMsgs cfg (eventsOf (log.take n)) ++ specMsgs cfg (eventsOf ((log.drop n).take k)) =
      specMsgs cfg (eventsOf (log.take (n + k))) := by
    rw [← specMsgs_append cfg _ _ hs, htake]
  have hstops : stops cfg (eventsOf (log.take (n + k))) = stops cfg (eventsOf ((log.drop n).take k)) := by
    rw [← htake, stops_append cfg _ _ hs]
  generalize hb : processBody cfg resume ⟨terminatedItems (eventsOf ((log.drop n).take k)), endOf t⟩ = b
  obtain ⟨hm, hns, hst⟩ := processBody_complete cfg resume _ t b hb
  refine ⟨n + k, hnk', by rw [hm, hmsgs], hh, ?_⟩
  cases hstop : stopOf cfg (eventsOf ((log.drop n).take k)) with
  | some e =>
    have hfin := hst e hstop
    rcases stopOf_some cfg _ e hstop with ⟨rfl, m, hmem, hrep⟩ | rfl
    · simp only [afterBody, hfin]
      exact ⟨m, by rw [hm]; exact List.mem_append_right _ hmem, hrep⟩
    · simp only [afterBody, hfin]
  | none =>
    obtain ⟨hfin, hid, _⟩ := hns hstop
    have hstop := (stopOf_eq_none cfg _).1 hstop
    by_cases hopen : t = .open
    · simp only [hopen, if_true] at hfin
      simp only [afterBody, hfin]
    · simp only [hopen, if_false] at hfin
      have hcur : b.lastID = [] ∧ cfg.forCall = true ∨ b.lastID = cursorAt log (n + k) := by
        cases hkc : cfg.keepCursor with
        | true =>
          right
          rw [hid, (hk hkc).1, cursor_step]
        | false =>
          obtain ⟨hr, hfc⟩ := hnk hkc
          by_cases hk0 : k = 0
          · left; subst hk0; simp [hid, hr, eventsOf, lastIdOf, hfc]
          · right; rw [hid, hr, cursor_step_fresh log hf n k (Nat.pos_of_ne_zero hk0) hnk']
      simp only [afterBody, hfin]
      by_cases hsyn : b.lastID = [] ∧ cfg.forCall = true
      · rw [if_pos hsyn]; trivial
      · rw [if_neg hsyn]
        have hcur := hcur.resolve_left hsyn
        by_cases hprog : b.lastID ≠ [] ∧ b.lastID ≠ prev
        · rw [if_pos hprog]
          by_cases hmr : cfg.maxRetries = 0
          · rw [if_pos hmr]; trivial
          · rw [if_neg hmr]
            exact ⟨by rw [hstops, hstop], hcur, fun _ => rfl⟩
        · rw [if_neg hprog]
          by_cases hex : retries + 1 > cfg.maxRetries
          · rw [if_pos hex]; trivial
          · rw [if_neg hex]
            refine ⟨by rw [hstops, hstop], hcur, fun hkc => ?_⟩
            -- no progress while the cursor is kept: the cursor is unchanged
            obtain ⟨hr, hp⟩ := hk hkc
            by_cases hnil : b.lastID = []
            · have : resume = [] := lastIdOf_eq_nil _ _ (by rw [← hid]; exact hnil)
              rw [hnil, hp, ← hr, this]
            · have : ¬ (b.lastID ≠ prev) := fun h => hprog ⟨hnil, h⟩
              exact (Classical.not_not.1 this).symm

/-- `hH`, here and in `step_inv`, `runF_inv`: after a body that brought no id a call's stream ends with the
synthetic error, and a client with `keepCursor` resumes from the cursor it had.  A standalone stream
without `keepCursor` sends no header after such a body, and `lastID = cursorAt log n` is lost (F18). -/
theorem start_inv {M} (cfg : Cfg M) (hd : cfg.dropUnterminated = true) (hH : cfg.forCall = true ∨ cfg.keepCursor = true)
    (log : List Block) (hf : Faithful log) (cut0 : Nat) (t0 : Term) :
    Inv cfg log (start cfg (scanBytes ((serialize log).take cut0) t0)) := by
  have h := afterBody_inv cfg hd log hf 0 (Nat.zero_le _) (by simp [eventsOf, stops]) [] (by simp) [] [] 0
    (fun _ => ⟨(cursorAt_zero log).symm, (cursorAt_zero log).symm⟩)
    (fun hk => ⟨rfl, by rcases hH with h | h; exact h; rw [h] at hk; cases hk⟩) cut0 t0
  simpa [start, eventsOf, specMsgs] using h

theorem step_inv {M} (cfg : Cfg M) (hd : cfg.dropUnterminated = true) (hH : cfg.forCall = true ∨ cfg.keepCursor = true)
    (log : List Block) (hf : Faithful log) (r : Run M) (hr : Inv cfg log r) (fa : FAttempt) :
    Inv cfg log (step cfg r (toAttempt log fa)) := by
  obtain ⟨n, hn, hmsgs, hh, hph⟩ := hr
  cases hphase : r.phase with
  | ended e => rw [step_ended cfg hphase]; exact ⟨n, hn, hmsgs, hh, hph⟩
  | reconnecting prev retries lastID hint attempt =>
    rw [hphase] at hph
    obtain ⟨hs, hl, hp⟩ := hph
    have hh' : ∀ h ∈ r.headers ++ [lastID], ∃ j, j ≤ log.length ∧ h = cursorAt log j := by
      intro h hm
      rcases List.mem_append.1 hm with hm | hm
      · exact hh h hm
      · exact ⟨n, hn, by rw [List.mem_singleton.1 hm, hl]⟩
    cases fa with
    | terr e =>
      rw [toAttempt, step_terr cfg hphase]
      refine ⟨n, hn, hmsgs, hh', ?_⟩
      dsimp only
      by_cases hc : errStops e = true ∨ attempt + 1 > cfg.maxRetries
      · rw [if_pos hc]; trivial
      · rw [if_neg hc]; exact ⟨hs, hl, hp⟩
    | ctxEnded sent =>
      rw [toAttempt, step_ctxEnded cfg hphase]
      refine ⟨n, hn, hmsgs, ?_, trivial⟩
      cases sent
      · exact hh
      · exact hh'
    | resp code cut t =>
      rw [toAttempt, step_resp cfg hphase]
      cases hc : checkResponse code with
      | some f => exact ⟨n, hn, hmsgs, hh', trivial⟩
      | none =>
        dsimp only
        subst hl
        rw [serve_cursor log hf n hn, hmsgs]
        apply afterBody_inv cfg hd log hf n hn hs _ hh'
        · intro hk; simp [resumeOf, hk, hp hk]
        · intro hk
          refine ⟨by simp [resumeOf, hk], ?_⟩
          rcases hH with h | h
          · exact h
          · rw [h] at hk; cases hk

theorem runF_inv {M} (cfg : Cfg M) (hd : cfg.dropUnterminated = true) (hH : cfg.forCall = true ∨ cfg.keepCursor = true)
    (log : List Block) (hf : Faithful log) (cut0 : Nat) (t0 : Term) (script : List FAttempt) :
    Inv cfg log (runF cfg log cut0 t0 script) := by
  unfold runF run
  rw [List.foldl_map]
  exact List.foldlRecOn script _ (start_inv cfg hd hH log hf cut0 t0) fun r hr a _ => step_inv cfg hd hH log hf r hr a

def WFPhase {M} (cfg : Cfg M) : Phase → Prop
  | .reconnecting _ retries _ _ attempt => retries ≤ cfg.maxRetries ∧ 1 ≤ attempt ∧ attempt ≤ cfg.maxRetries
  | .ended _ => True

theorem afterBody_wf {M} (cfg : Cfg M) (prev : Bytes) (retries : Nat) (b : BodyOut M) :
    WFPhase cfg (afterBody cfg prev retries b) := by
  rcases afterBody_cases cfg prev retries b with ⟨e, he, _⟩ | ⟨p, r, he, hr, h1⟩ <;> rw [he]
  · trivial
  · exact ⟨hr, Nat.le_refl 1, h1⟩

theorem step_wf {M} (cfg : Cfg M) (r : Run M) (a : Attempt) (h : WFPhase cfg r.phase) :
    WFPhase cfg (step cfg r a).phase := by
  cases hp : r.phase with
  | ended e => rw [step_ended cfg hp, hp]; trivial
  | reconnecting prev retries lastID hint attempt =>
    rw [hp] at h
    cases a with
    | terr e =>
      rw [step_terr cfg hp]
      dsimp only
      by_cases hc : errStops e = true ∨ attempt + 1 > cfg.maxRetries
      · rw [if_pos hc]; trivial
      · rw [if_neg hc]; exact ⟨h.1, Nat.le_add_left 1 attempt, Nat.le_of_not_gt (not_or.1 hc).2⟩
    | ctxEnded sent => rw [step_ctxEnded cfg hp]; trivial
    | resp code body =>
      rw [step_resp cfg hp]
      cases checkResponse code with
      | some f => trivial
      | none => exact afterBody_wf ..

theorem run_wf {M} (cfg : Cfg M) (first : ScanOut) (script : List Attempt) :
    WFPhase cfg (run cfg first script).phase :=
  List.foldlRecOn (motive := fun r => WFPhase cfg r.phase) script _ (afterBody_wf ..) fun r hr a _ => step_wf cfg r a hr

theorem run_append {M} (cfg : Cfg M) (first : ScanOut) (pre post : List Attempt) :
    run cfg first (pre ++ post) = post.foldl (step cfg) (run cfg first pre) :=
  List.foldl_append

theorem foldl_step_ended {M} (cfg : Cfg M) (r : Run M) (e : Ended) (h : r.phase = .ended e) (script : List Attempt) :
    script.foldl (step cfg) r = r :=
  List.foldlRecOn (motive := (· = r)) script _ rfl fun _ hq a _ => hq ▸ step_ended cfg h a

/-- The attempt, made in phase `ph`, brings no progress: a transport error, an attempt that the caller's
context ends, a response whose status fails the connection, a body that fails the connection, or a
body that is interrupted without a new event id.  (The monitor's `fruitlessOf` is a number, not this
predicate: the most recent 200 bodies in a row that brought no new id, `retriesWithoutProgress` of the code.) -/
def fruitless {M} (cfg : Cfg M) (ph : Phase) (a : Attempt) : Bool :=
  match ph, a with
  | .reconnecting prev _ lastID _ _, .resp code body =>
    match checkResponse code with
    | some _ => true
    | none =>
      let b := processBody cfg (resumeOf cfg prev) (body lastID)
      match b.fin with
      | .interrupted => decide (b.lastID = [] ∨ b.lastID = prev)
      | .failed _ => true
      | _ => false
  | _, _ => true

def allFruitless {M} (cfg : Cfg M) : Run M → List Attempt → Bool
  | _, [] => true
  | r, a :: as => fruitless cfg r.phase a && allFruitless cfg (step cfg r a) as

def bodies : List Attempt → Nat
  | [] => 0
  | .terr _ :: as => bodies as
  | .ctxEnded _ :: as => bodies as
  | .resp .. :: as => bodies as + 1

/-- the pending call has been failed: synthetic error response, the connection was failed, or the
caller's own context ended (the call returns the context's error) -/
def Ended.isFailure : Ended → Bool
  | .synthetic => true
  | .failed _ => true
  | .cancelled => true
  | _ => false

theorem afterBody_fruitless {M} (cfg : Cfg M) (prev : Bytes) (retries : Nat) (b : BodyOut M)
    (h : (match b.fin with
          | .interrupted => decide (b.lastID = [] ∨ b.lastID = prev)
          | .failed _ => true
          | _ => false) = true) :
    (∃ e, afterBody cfg prev retries b = .ended e ∧ e.isFailure = true) ∨
    (∃ l hnt a, afterBody cfg prev retries b = .reconnecting prev (retries + 1) l hnt a) := by
  unfold afterBody
  cases hf : b.fin with
  | replied => rw [hf] at h; cases h
  | streaming => rw [hf] at h; cases h
  | failed f => exact .inl ⟨_, rfl, rfl⟩
  | interrupted =>
    rw [hf] at h
    have hnp : ¬ (b.lastID ≠ [] ∧ b.lastID ≠ prev) := fun ⟨h1, h2⟩ => (of_decide_eq_true h).elim h1 h2
    dsimp only
    by_cases h1 : b.lastID = [] ∧ cfg.forCall = true
    · rw [if_pos h1]; exact .inl ⟨_, rfl, rfl⟩
    rw [if_neg h1, if_neg hnp]
    by_cases h3 : retries + 1 > cfg.maxRetries
    · rw [if_pos h3]; exact .inl ⟨_, rfl, rfl⟩
    · rw [if_neg h3]; exact .inr ⟨_, _, _, rfl⟩

theorem fruitless_bound {M} (cfg : Cfg M) (script : List Attempt) :
    ∀ (r : Run M) (prev : Bytes) (retries : Nat) (lastID : Bytes) (hint : Int) (attempt : Nat),
      r.phase = .reconnecting prev retries lastID hint attempt →
      allFruitless cfg r script = true →
      (∃ e, (script.foldl (step cfg) r).phase = .ended e ∧ e.isFailure = true) ∨
      (∃ l h a, (script.foldl (step cfg) r).phase = .reconnecting prev (retries + bodies script) l h a) := by
  induction script with
  | nil => intro r prev retries lastID hint attempt hp _; right; exact ⟨lastID, hint, attempt, by simpa [bodies] using hp⟩
  | cons a as ih =>
    intro r prev retries lastID hint attempt hp hfr
    simp only [allFruitless, Bool.and_eq_true] at hfr
    obtain ⟨hfa, hfas⟩ := hfr
    simp only [List.foldl_cons]
    have hstep : (∃ e, (step cfg r a).phase = .ended e ∧ e.isFailure = true) ∨
        (∃ l h at', (step cfg r a).phase = .reconnecting prev (retries + bodies [a]) l h at') := by
      cases a with
      | terr e =>
        rw [step_terr cfg hp]
        dsimp only
        by_cases hc : errStops e = true ∨ attempt + 1 > cfg.maxRetries
        · rw [if_pos hc]; exact .inl ⟨_, rfl, rfl⟩
        · rw [if_neg hc]; exact .inr ⟨lastID, hint, attempt + 1, rfl⟩
      | ctxEnded sent => rw [step_ctxEnded cfg hp]; exact .inl ⟨_, rfl, rfl⟩
      | resp code body =>
        rw [step_resp cfg hp]
        rw [hp] at hfa
        simp only [fruitless] at hfa
        cases hc : checkResponse code with
        | some f => exact .inl ⟨_, rfl, rfl⟩
        | none => rw [hc] at hfa; exact afterBody_fruitless cfg prev retries _ hfa
    rcases hstep with ⟨e, he, hfe⟩ | ⟨l, h, at', he⟩
    · left
      rw [foldl_step_ended cfg _ e he]
      exact ⟨e, he, hfe⟩
    · rcases ih (step cfg r a) prev (retries + bodies [a]) l h at' he hfas with h1 | ⟨l', h', a', h2⟩
      · left; exact h1
      · right
        refine ⟨l', h', a', ?_⟩
        rw [h2]
        cases a <;> simp [bodies] <;> omega

end ClientStream
