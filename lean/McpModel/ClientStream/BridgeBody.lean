import McpModel.ClientStream.MonLemmas
import McpModel.ClientStream.ScnOK
import McpModel.ClientStream.Lemmas
/-!
What the model's `processStream` makes of the body of one exchange — the first `cut` bytes of what the
scripted server serves from log item `from` on — expressed in the vocabulary of the monitor: the
completely received items `(items.drop from).take (ccount …)`, their labels, ids and retry hints.
Hypotheses on the scenario: `ScnOK` (`ScnOK.lean`; decidable, evaluated by the driver on every `scn`
record; non-vacuity examples in `Bridge.lean`).
-/
namespace ClientStream
open Generated.ClientStream

variable {L : Type}

def blocksOf (l : List (LItem L)) : List Block := l.map itemBlock

theorem bodyFrom_blocks (s : Scn L) (l : List (LItem L)) (h : ∀ it ∈ l, ItemOK s it) :
    (l.map (·.bytes)).flatten = serialize (blocksOf l) := by
  induction l with
  | nil => simp [blocksOf, serialize, streamLines, serializeLines]
  | cons it rest ih =>
    have h1 := (h it (List.mem_cons_self ..)).bytes
    have h2 := ih (fun x hx => h x (List.mem_cons_of_mem _ hx))
    simp only [blocksOf, List.map_cons, List.flatten_cons] at h2 ⊢
    rw [serialize_cons, ← h1, h2]

theorem completeCount_blocks (s : Scn L) (l : List (LItem L)) (h : ∀ it ∈ l, ItemOK s it) (c : Nat) :
    completeCount (blocksOf l) c = ccount l c := by
  induction l generalizing c with
  | nil => simp [blocksOf, completeCount, ccount]
  | cons it rest ih =>
    have h1 := (h it (List.mem_cons_self ..)).bytes
    have hl : blockLen (itemBlock it) = it.bytes.length := by rw [blockLen_eq, ← h1]
    have h2 := ih (fun x hx => h x (List.mem_cons_of_mem _ hx))
    simp only [blocksOf, List.map_cons, completeCount, ccount, hl] at h2 ⊢
    split
    · rw [h2]
    · rfl

theorem eventsOf_blocks (s : Scn L) (l : List (LItem L)) (h : ∀ it ∈ l, ItemOK s it) :
    eventsOf (blocksOf l) = (l.map (·.ev)).filter (fun e => !e.isEmpty) := by
  unfold eventsOf blocksOf
  rw [List.map_map]
  congr 1
  apply List.map_congr_left
  intro it hit
  exact (h it hit).ev

def slMsgs (sl : List (LItem L)) : List L := sl.filterMap (fun it => if carries it then some it.label else none)

/-- the body contains the response of the pending call -/
def slReplies (s : Scn L) (sl : List (LItem L)) : Bool := !s.sa && sl.any (fun it => s.lab.isReply it.label)

theorem isEmpty_fields {e : Event} (h : e.isEmpty = true) : e.id = [] ∧ e.data = [] ∧ e.retry = [] := by
  simp only [Event.isEmpty, Bool.and_eq_true, List.isEmpty_iff] at h
  exact ⟨h.1.1.2, h.1.2, h.2⟩

theorem payload_item (s : Scn L) (it : LItem L) (hit : ItemOK s it) :
    payload s.cfg it.ev =
      if carries it then (if !s.sa && s.lab.isReply it.label then .reply it.label else .msg it.label) else .none := by
  unfold payload
  by_cases hc : carries it = true
  · have hc' := of_decide_eq_true hc
    rw [if_pos hc, if_neg hc'.1, if_neg hc'.2, hit.dec hc]
    rfl
  · rw [if_neg hc]
    by_cases hd : it.ev.data = []
    · rw [if_pos hd]
    · rw [if_neg hd, if_pos (Classical.not_not.1 fun hn => hc (decide_eq_true ⟨hd, hn⟩))]

/-- empty events are not dispatched by the scanner; the loop of `processStream` would not notice them either -/
theorem processItems_filter_empty {M} (cfg : Cfg M) (a : Acc M) (es : List Event) :
    processItems cfg a (terminatedItems (es.filter fun e => !e.isEmpty)) = processItems cfg a (terminatedItems es) := by
  induction es generalizing a with
  | nil => rfl
  | cons e es ih =>
    rw [terminatedItems_cons, processItems_kept _ _ _ _ (Bool.and_false _)]
    cases hE : e.isEmpty with
    | true =>
      obtain ⟨e1, e2, e3⟩ := isEmpty_fields hE
      have hn : noteEvent a e = a := by simp [noteEvent, e1, e3]
      rw [List.filter_cons_of_neg (by simp [hE]), ih, payload, if_pos e2, hn]
    | false =>
      rw [List.filter_cons_of_pos (by simp [hE]), terminatedItems_cons, processItems_kept _ _ _ _ (Bool.and_false _)]
      cases payload cfg e with
      | none => exact ih _
      | undecodable => rfl
      | reply m => rfl
      | msg m => exact ih _

theorem specMsgs_slice (s : Scn L) (sl : List (LItem L)) (hok : ∀ it ∈ sl, ItemOK s it)
    (hrl : sl.Pairwise (fun a b => s.lab.isReply a.label = true → carries b = false)) :
    specMsgs s.cfg (sl.map (·.ev)) = slMsgs sl := by
  induction sl with
  | nil => rfl
  | cons it rest ih =>
    obtain ⟨hhead, hrl'⟩ := List.pairwise_cons.1 hrl
    have ih := ih (fun x hx => hok x (List.mem_cons_of_mem _ hx)) hrl'
    rw [List.map_cons, specMsgs_cons, payload_item s it (hok it (List.mem_cons_self ..))]
    unfold slMsgs at ih ⊢
    rw [List.filterMap_cons]
    cases hc : carries it with
    | false => exact ih
    | true =>
      cases hr : (!s.sa && s.lab.isReply it.label) with
      | false => exact congrArg (it.label :: ·) ih
      | true =>
        -- the call's response: nothing that carries a message follows
        refine congrArg (it.label :: ·) (Eq.symm (List.filterMap_eq_nil_iff.2 fun x hx => ?_))
        rw [hhead x hx ((Bool.and_eq_true _ _ ▸ hr).2)]
        rfl

theorem stopOf_slice (s : Scn L) (sl : List (LItem L)) (hok : ∀ it ∈ sl, ItemOK s it) :
    stopOf s.cfg (sl.map (·.ev)) = if slReplies s sl then some .replied else none := by
  induction sl with
  | nil => rw [slReplies, List.any_nil, Bool.and_false]; rfl
  | cons it rest ih =>
    have ih := ih (fun x hx => hok x (List.mem_cons_of_mem _ hx))
    have hit := hok it (List.mem_cons_self ..)
    have hrep : slReplies s (it :: rest) = ((!s.sa && s.lab.isReply it.label) || slReplies s rest) := by
      simp only [slReplies, List.any_cons]
      cases s.sa <;> simp
    rw [List.map_cons, stopOf, payload_item s it hit, hrep]
    cases hc : carries it with
    | false =>
      have hnr : s.lab.isReply it.label = false := by
        have hlab := hit.lab
        rw [hc] at hlab
        exact (Bool.or_eq_false_iff.1 hlab.symm).2
      rw [hnr, Bool.and_false, Bool.false_or]
      exact ih
    | true =>
      cases hr : (!s.sa && s.lab.isReply it.label) with
      | false => rw [Bool.false_or]; exact ih
      | true => rfl

/-- the completely received items of a body served from item `f` and cut after `c` bytes -/
def sliceOf (s : Scn L) (f c : Nat) : List (LItem L) := (s.items.drop f).take (ccount (s.items.drop f) c)

theorem pairwise_slice {R : LItem L → LItem L → Prop} (s : Scn L) (h : s.items.Pairwise R) (f c : Nat) :
    (sliceOf s f c).Pairwise R :=
  (h.sublist (List.drop_sublist _ _)).sublist (List.take_sublist _ _)

theorem mem_slice (s : Scn L) (f c : Nat) (it : LItem L) (h : it ∈ sliceOf s f c) : it ∈ s.items :=
  List.mem_of_mem_drop (List.mem_of_mem_take h)

theorem processBody_exchange (s : Scn L) (hs : ScnOK s) (resume : Bytes) (f c : Nat) (t : Term) :
    (processBody s.cfg resume (scanBytes ((bodyFrom s.items f).take c) t)).msgs = slMsgs (sliceOf s f c) ∧
    (slReplies s (sliceOf s f c) = true →
      (processBody s.cfg resume (scanBytes ((bodyFrom s.items f).take c) t)).fin = .replied) ∧
    (slReplies s (sliceOf s f c) = false →
      (processBody s.cfg resume (scanBytes ((bodyFrom s.items f).take c) t)).fin =
        (if t = .open then .streaming else .interrupted) ∧
      (processBody s.cfg resume (scanBytes ((bodyFrom s.items f).take c) t)).lastID =
        lastIdOf resume ((sliceOf s f c).map (·.ev)) ∧
      (processBody s.cfg resume (scanBytes ((bodyFrom s.items f).take c) t)).hint =
        hintFold 0 ((sliceOf s f c).map (·.ev))) := by
  have hdrop : ∀ it ∈ s.items.drop f, ItemOK s it := fun it h => hs.item it (List.mem_of_mem_drop h)
  have hbody : bodyFrom s.items f = serialize (blocksOf (s.items.drop f)) := bodyFrom_blocks s _ hdrop
  have hgood : ∀ b ∈ blocksOf (s.items.drop f), ∀ l ∈ b, goodLine l = true := by
    intro b hb
    obtain ⟨it, hit, rfl⟩ := List.mem_map.1 hb
    exact (hdrop it hit).good
  have hev : completeEvents (blocksOf (s.items.drop f)) c =
      ((sliceOf s f c).map (·.ev)).filter (fun e => !e.isEmpty) := by
    unfold completeEvents
    rw [completeCount_blocks s _ hdrop]
    have : (blocksOf (s.items.drop f)).take (ccount (s.items.drop f) c) = blocksOf (sliceOf s f c) := by
      simp [blocksOf, sliceOf, List.map_take]
    rw [this]
    exact eventsOf_blocks s _ (fun it h => hs.item it (mem_slice s f c it h))
  have hsl : ∀ it ∈ sliceOf s f c, ItemOK s it := fun it h => hs.item it (mem_slice s f c it h)
  have hfil : ∀ es : List Event, processBody s.cfg resume ⟨terminatedItems (es.filter fun e => !e.isEmpty), endOf t⟩ =
      processBody s.cfg resume ⟨terminatedItems es, endOf t⟩ := fun es => by
    unfold processBody
    simp only [processItems_filter_empty]
  rw [hbody, processBody_prefix s.cfg rfl resume _ hgood c t, hev, hfil]
  obtain ⟨h1, h2, h3⟩ := processBody_complete s.cfg resume ((sliceOf s f c).map (·.ev)) t _ rfl
  rw [specMsgs_slice s _ hsl (pairwise_slice s hs.replyLast f c)] at h1
  rw [stopOf_slice s _ hsl] at h2 h3
  exact ⟨h1, fun h => h3 _ (if_pos h), fun h => h2 (if_neg (by rw [h]; nofun))⟩

end ClientStream
