import McpModel.Generated.ClientStreamGen
/-
E6 — model of the streamable client's SSE body processing and reconnect loop.  Serves C09 and the client side of C01.

Code: mcp/event.go `scanEvents` / `scanEventsT` (one loop; the second also says whether an event was
terminated by a blank line and whether a malformed line was cut by the end of input), mcp/streamable.go
`handleSSE`, `checkResponse`, `processStream` / `processStreamFrom` (the body loop), `connectSSE`.

Modelling decisions:
* a body is a list of complete lines (bytes without the '\n') plus the bytes after the last '\n'
  (`bufio.Reader.ReadBytes('\n')` does that splitting; `splitLines` is its model) plus how the
  body ended: `eof` (clean end of input), `err` (a read error), `open` (nothing more has arrived);
* field keys are byte lists regenerated from the Go constants;
* JSON decoding is a parameter `decode : Bytes → Option M` (Go: `jsonrpc.DecodeMessage`, trusted);
* one `step` of the loop = one HTTP attempt of `connectSSE` together with everything `handleSSE`
  does until the next attempt (these run on one goroutine; nothing else touches their variables).
* a failed attempt carries what its error answers to the tests a retry loop could apply to it (`TErr`);
  the tests under which `connectSSE` leaves the loop on the ERROR are regenerated from the code
  (`stopOnIsCanceled` … — none as built); the end of the CALLER's context while the loop is reconnecting
  is an input of its own (`Attempt.ctxEnded`: `connectSSE` returns `ctx.Err()`, `handleSSE` returns
  without failing the connection, the call completes with the context's error in the layer above).
Not modelled: the first test of `checkResponse` (a non-2xx answer whose body is a JSON-RPC error response is wrapped
in ErrRejected before the transient / 404 tests: `checkResponse` below starts at the second test), the end of the
caller's context while a BODY is processed and `Close` of the connection
(the `ctx.Err() != nil` arm of `processStream` and the `<-c.done` arms), Unicode white space in
`TrimSpace` (ASCII only), the overflow of `time.Duration(n) * time.Millisecond`.
`dropUnterminated = false` and `keepCursor = false` describe the code without the repairs of F5 and
F18; the counter-example theorems are about these values.
Core Lean only (linked into the driver).
-/
namespace ClientStream
open Generated.ClientStream

abbrev Bytes := List UInt8

def nl : UInt8 := 10
def colon : UInt8 := 58
def sp : UInt8 := 32

/-- An SSE event (`mcp.Event`). -/
structure Event where
  name  : Bytes := []
  id    : Bytes := []
  data  : Bytes := []
  retry : Bytes := []
deriving DecidableEq, Repr

/-- `Event.Empty` -/
def Event.isEmpty (e : Event) : Bool :=
  e.name.isEmpty && e.id.isEmpty && e.data.isEmpty && e.retry.isEmpty

/-! ### bytes helpers -/

/-- remove the trailing bytes satisfying `p` (`bytes.TrimRight`) -/
def dropTrailing (p : UInt8 → Bool) : Bytes → Bytes
  | [] => []
  | b :: bs =>
    match dropTrailing p bs with
    | [] => if p b then [] else [b]
    | r => b :: r

def isEOL (b : UInt8) : Bool := b == 13 || b == 10
/-- ASCII white space of `unicode.IsSpace` -/
def isSpace (b : UInt8) : Bool := b == 32 || b == 9 || b == 10 || b == 11 || b == 12 || b == 13

/-- `bytes.TrimRight(line, "\r\n")` -/
def trimEOL (l : Bytes) : Bytes := dropTrailing isEOL l
/-- `bytes.TrimSpace` / `strings.TrimSpace` (ASCII) -/
def trimSpace (v : Bytes) : Bytes := dropTrailing isSpace (v.dropWhile isSpace)

/-- `bytes.Cut(line, ":")` -/
def cutColon : Bytes → Option (Bytes × Bytes)
  | [] => none
  | b :: bs =>
    if b = colon then some ([], bs) else
      match cutColon bs with
      | some (k, v) => some (b :: k, v)
      | none => none

/-- What `bufio.Reader.ReadBytes('\n')` makes of a byte string: the complete lines (without their
'\n') and what follows the last '\n'. -/
def splitLines : Bytes → List Bytes × Bytes
  | [] => ([], [])
  | b :: bs =>
    let r := splitLines bs
    if b = nl then ([] :: r.1, r.2)
    else match r.1 with
      | [] => ([], b :: r.2)
      | l :: ls => ((b :: l) :: ls, r.2)

/-! ### the scanner -/

/-- scanner state: the event under construction and `dataBuf != nil` -/
structure Cur where
  ev : Event := {}
  hasData : Bool := false
deriving DecidableEq, Repr

/-- the `switch` on the field key -/
def applyField (c : Cur) (k v : Bytes) : Cur :=
  if k = eventKey then { c with ev := { c.ev with name := trimSpace v } }
  else if k = idKey then { c with ev := { c.ev with id := trimSpace v } }
  else if k = retryKey then { c with ev := { c.ev with retry := trimSpace v } }
  else if k = dataKey then
    { ev := { c.ev with data := if c.hasData then c.ev.data ++ nl :: trimSpace v else trimSpace v },
      hasData := true }
  else c

/-- a non-blank line; `none` = "malformed line" (no colon) -/
def fieldLine (c : Cur) (line : Bytes) : Option Cur :=
  match cutColon line with
  | none => none
  | some (k, v) => some (applyField c k v)

/-- how a body ended -/
inductive Term where
  | eof   -- clean end of input
  | err   -- read error
  | open  -- nothing more has arrived (yet)
deriving DecidableEq, Repr

/-- a yielded event, and whether a blank line terminated it -/
structure Item where
  ev : Event
  terminated : Bool
deriving DecidableEq, Repr

inductive ScanEnd where
  | clean                       -- end of input
  | readErr                     -- "error reading event"
  | malformed (atEOF : Bool)    -- "malformed line"; `atEOF`: the line was ended by the end of input
  | stillOpen
deriving DecidableEq, Repr

structure ScanOut where
  items : List Item
  fin : ScanEnd
deriving DecidableEq, Repr

/-- `yieldEvent` -/
def dispatch (c : Cur) (terminated : Bool) : List Item :=
  if c.ev.isEmpty then [] else [⟨c.ev, terminated⟩]

/-- the `for` loop of `scanEvents(T)` over the complete lines, then the end of the body -/
def scanFrom (c : Cur) : List Bytes → Bytes → Term → ScanOut
  | [], _, .err => ⟨[], .readErr⟩
  | [], _, .open => ⟨[], .stillOpen⟩
  | [], tail, .eof =>
    let l := trimEOL tail
    if l = [] then ⟨dispatch c false, .clean⟩
    else match fieldLine c l with
      | none => ⟨[], .malformed true⟩
      | some c' => ⟨dispatch c' false, .clean⟩
  | raw :: ls, tail, t =>
    let l := trimEOL raw
    if l = [] then
      let r := scanFrom {} ls tail t
      ⟨dispatch c true ++ r.items, r.fin⟩
    else match fieldLine c l with
      | none => ⟨[], .malformed false⟩
      | some c' => scanFrom c' ls tail t

/-- the scanner on the bytes of a body -/
def scanBytes (bs : Bytes) (t : Term) : ScanOut :=
  scanFrom {} (splitLines bs).1 (splitLines bs).2 t

/-- what the exported `scanEvents` yields: the same events without the flags -/
def scanEventsPublic (bs : Bytes) (t : Term) : List Event × ScanEnd :=
  ((scanBytes bs t).items.map (·.ev), (scanBytes bs t).fin)

/-! ### the writer (`writeEvent`) and well-formed streams -/

def field (k v : Bytes) : Bytes := k ++ colon :: sp :: v

/-- the lines `writeEvent` writes for one event, including the terminating blank line -/
def writeEvent (e : Event) : List Bytes :=
  (if e.name = [] then [] else [field eventKey e.name]) ++
  (if e.id = [] then [] else [field idKey e.id]) ++
  (if e.retry = [] then [] else [field retryKey e.retry]) ++
  [field dataKey e.data, []]

def serializeLines (ls : List Bytes) : Bytes := ls.flatMap (· ++ [nl])

/-- A block: the non-blank lines of one event (or comment); it is terminated by a blank line. -/
abbrev Block := List Bytes

def blockLines (b : Block) : List Bytes := b ++ [[]]
def streamLines (bs : List Block) : List Bytes := bs.flatMap blockLines
/-- the bytes of a well-formed event stream -/
def serialize (bs : List Block) : Bytes := serializeLines (streamLines bs)

/-- a line of a block: one line (no '\n'), not blank, with a colon -/
def goodLine (l : Bytes) : Bool :=
  !l.contains nl && !(trimEOL l).isEmpty && (cutColon (trimEOL l)).isSome

def goodBlock (b : Block) : Bool := b.all goodLine

/-- the scanner state after the lines of a block -/
def curOf : Cur → Block → Cur
  | c, [] => c
  | c, l :: ls =>
    match fieldLine c (trimEOL l) with
    | some c' => curOf c' ls
    | none => c
/-- the event a block denotes -/
def eventOf (b : Block) : Event := (curOf {} b).ev

/-- number of bytes of a block on the wire -/
def blockLen (b : Block) : Nat := (serialize [b]).length

/-- how many blocks lie wholly inside the first `n` bytes of the stream -/
def completeCount : List Block → Nat → Nat
  | [], _ => 0
  | b :: bs, n => if blockLen b ≤ n then completeCount bs (n - blockLen b) + 1 else 0

/-- the events of the blocks that the scanner reports (empty ones are never dispatched) -/
def eventsOf (bs : List Block) : List Event := (bs.map eventOf).filter (fun e => !e.isEmpty)

/-! ### `processStream` -/

inductive Fail where
  | decode                    -- "failed to decode event"
  | malformed                 -- "malformed line in SSE stream"
  | exceeded                  -- "exceeded N retries without progress"
  | connect                   -- "failed to reconnect": every attempt of connectSSE failed (or none was allowed)
  | rejected (status : Nat)   -- transient status (wrapped in ErrRejected), connection failed all the same
  | sessionGone               -- ErrSessionMissing
  | status (code : Nat)       -- any other non-2xx
deriving DecidableEq, Repr

inductive BodyEnd where
  | replied          -- the pending call's response was forwarded: `return "", 0, true`
  | failed (f : Fail)
  | interrupted      -- the loop ended: reconnect logic applies
  | streaming        -- the body is still open
deriving DecidableEq, Repr

structure Cfg (M : Type) where
  decode : Bytes → Option M
  /-- a response carrying the id of the pending call -/
  isReply : M → Bool
  /-- `forCall != nil` -/
  forCall : Bool
  maxRetries : Nat
  /-- unterminated events are dropped, a line cut by the end of input is an interruption (the code with F5 repaired) -/
  dropUnterminated : Bool := true
  /-- `handleSSE` hands `prevLastEventID` to `processStream` -/
  keepCursor : Bool := resumeKeepsCursor

structure Acc (M : Type) where
  msgs : List M := []
  lastID : Bytes := []
  hint : Int := 0
deriving Repr

/-- `strconv.ParseInt(s, 10, 64)` -/
def digitsVal : Bytes → Nat → Option Nat
  | [], acc => some acc
  | b :: bs, acc => if 48 ≤ b.toNat ∧ b.toNat ≤ 57 then digitsVal bs (acc * 10 + (b.toNat - 48)) else none

def parseInt64 (s : Bytes) : Option Int :=
  let go (neg : Bool) (r : Bytes) : Option Int :=
    if r = [] then none else
    match digitsVal r 0 with
    | none => none
    | some n =>
      if neg then (if n ≤ 9223372036854775808 then some (-(n : Int)) else none)
      else (if n < 9223372036854775808 then some (n : Int) else none)
  match s with
  | 45 :: r => go true r
  | 43 :: r => go false r
  | r => go false r

/-- the per-event bookkeeping before the data is looked at -/
def noteEvent {M} (a : Acc M) (e : Event) : Acc M :=
  { a with
    lastID := if e.id = [] then a.lastID else e.id,
    hint := if e.retry = [] then a.hint else (match parseInt64 e.retry with | some n => n | none => a.hint) }

/-- the body of the `for evt := range scanEvents(T)` loop; `some end` = the loop was left early -/
def processItems {M} (cfg : Cfg M) : Acc M → List Item → Acc M × Option BodyEnd
  | a, [] => (a, none)
  | a, it :: rest =>
    if cfg.dropUnterminated && !it.terminated then (a, some .interrupted)
    else
      let a := noteEvent a it.ev
      if it.ev.data = [] then processItems cfg a rest
      else if it.ev.name ≠ [] ∧ it.ev.name ≠ messageName then processItems cfg a rest
      else match cfg.decode it.ev.data with
        | none => (a, some (.failed .decode))
        | some m =>
          let a := { a with msgs := a.msgs ++ [m] }
          if cfg.forCall && cfg.isReply m then (a, some .replied) else processItems cfg a rest

structure BodyOut (M : Type) where
  msgs : List M          -- forwarded to `c.incoming`, in order
  lastID : Bytes         -- returned `lastEventID`
  hint : Int             -- returned `reconnectDelay`, ms
  fin : BodyEnd
  synthetic : Bool       -- the synthetic "request terminated without response" was sent
deriving Repr

def bodyEnd {M} (cfg : Cfg M) (early : Option BodyEnd) (fin : ScanEnd) : BodyEnd :=
  match early with
  | some e => e
  | none =>
    match fin with
    | .clean => .interrupted
    | .readErr => .interrupted
    | .malformed atEOF => if cfg.dropUnterminated && atEOF then .interrupted else .failed .malformed
    | .stillOpen => .streaming

/-- what `processStream` returns (and whether it sent the synthetic error) once its loop is over -/
def mkBody {M} (cfg : Cfg M) (a : Acc M) (e : BodyEnd) : BodyOut M :=
  match e with
  | .interrupted =>
    { msgs := a.msgs, lastID := a.lastID, hint := a.hint, fin := .interrupted,
      synthetic := a.lastID.isEmpty && cfg.forCall }
  | .streaming => { msgs := a.msgs, lastID := a.lastID, hint := a.hint, fin := .streaming, synthetic := false }
  | e => { msgs := a.msgs, lastID := [], hint := 0, fin := e, synthetic := false }

/-- `processStream` on one response body; `resume` is the initial value of `lastEventID`
(`prevLastEventID` with `keepCursor`, `""` without: `resumeOf`) -/
def processBody {M} (cfg : Cfg M) (resume : Bytes) (out : ScanOut) : BodyOut M :=
  let r := processItems cfg { lastID := resume } out.items
  mkBody cfg r.1 (bodyEnd cfg r.2 out.fin)

/-! ### `handleSSE` / `connectSSE` / `checkResponse` -/

inductive Ended where
  | replied          -- the call's own response reached the session
  | synthetic        -- unresumable: the synthetic error response reached the session
  | failed (f : Fail)  -- `c.fail(err)`: the connection is broken, every pending call fails
  | streaming        -- the body stays open
  | cancelled        -- the caller's context ended while reconnecting: the loop stops, the connection is not failed
deriving DecidableEq, Repr

inductive Phase where
  /-- inside `connectSSE`, about to make attempt number `attempt` (1-based); `prev` = `prevLastEventID` (the cursor),
  `lastID` = the `Last-Event-ID` header about to be sent — they differ only when `keepCursor = false` —, `retries` = the
  fruitless reconnects so far, `hint` = the server's `retry:` value -/
  | reconnecting (prev : Bytes) (retries : Nat) (lastID : Bytes) (hint : Int) (attempt : Nat)
  | ended (e : Ended)
deriving DecidableEq, Repr

structure Run (M : Type) where
  phase : Phase
  msgs : List M            -- everything forwarded to the session so far
  headers : List Bytes     -- Last-Event-ID of every reconnect attempt so far ([] = header absent)
deriving Repr

/-- the part of the `handleSSE` loop between `processStream` and the first attempt of `connectSSE` -/
def afterBody {M} (cfg : Cfg M) (prev : Bytes) (retries : Nat) (b : BodyOut M) : Phase :=
  match b.fin with
  | .replied => .ended .replied
  | .failed f => .ended (.failed f)
  | .streaming => .ended .streaming
  | .interrupted =>
    if b.lastID = [] ∧ cfg.forCall = true then .ended .synthetic
    else if b.lastID ≠ [] ∧ b.lastID ≠ prev then
      -- progress; connectSSE: `for attempt := 1; attempt <= maxRetries`
      if cfg.maxRetries = 0 then .ended (.failed .connect) else .reconnecting b.lastID 0 b.lastID b.hint 1
    else if retries + 1 > cfg.maxRetries then .ended (.failed .exceeded)
    else .reconnecting prev (retries + 1) b.lastID b.hint 1   -- (maxRetries ≥ 1 here)

/-- What the error of a failed `client.Do` answers to the tests a retry loop could apply to it.  Every
timeout of `net` and `net/http` (dial "i/o timeout", "timeout awaiting response headers",
`http.Client.Timeout`) answers `errors.Is(err, context.DeadlineExceeded)` and `Timeout()`, an error of a
request whose OWN context (not the caller's) was cancelled answers `errors.Is(err, context.Canceled)` —
all while the caller's context is live. -/
structure TErr where
  isCanceled : Bool := false
  isDeadline : Bool := false
  isTimeout : Bool := false
deriving DecidableEq, Repr

/-- does the branch taken when `client.Do` fails leave the retry loop on this error? (regenerated tests) -/
def errStops (e : TErr) : Bool :=
  (stopOnIsCanceled && e.isCanceled) || (stopOnIsDeadline && e.isDeadline) || (stopOnTimeout && e.isTimeout) ||
    stopOnOtherTest

/-- one HTTP attempt of `connectSSE` -/
inductive Attempt where
  /-- `client.Do` failed with an error of kind `e`; the caller's context is live -/
  | terr (e : TErr)
  /-- the caller's context ended: while the request was in flight (`sent`: `client.Do` fails with the
  context's error) or during the wait before it (no request goes out) -/
  | ctxEnded (sent : Bool)
  | resp (code : Nat) (body : Bytes → ScanOut)   -- a response; the body may depend on the Last-Event-ID sent

def isTransient (code : Nat) : Bool := transientStatuses.contains code

/-- `checkResponse` -/
def checkResponse (code : Nat) : Option Fail :=
  if isTransient code then some (.rejected code)
  else if code = sessionGoneStatus then some .sessionGone
  else if code < 200 ∨ code ≥ 300 then some (.status code)
  else none

def resumeOf {M} (cfg : Cfg M) (prev : Bytes) : Bytes := if cfg.keepCursor then prev else []

def step {M} (cfg : Cfg M) (r : Run M) (a : Attempt) : Run M :=
  match r.phase with
  | .ended _ => r
  | .reconnecting prev retries lastID hint attempt =>
    let hs := r.headers ++ [lastID]
    match a with
    | .terr e =>
      -- an early exit on the error (none as built): `handleSSE` finds the caller's context live and fails the connection
      if errStops e then { r with phase := .ended (.failed .connect), headers := hs }
      else if attempt + 1 > cfg.maxRetries then { r with phase := .ended (.failed .connect), headers := hs }
      else { r with phase := .reconnecting prev retries lastID hint (attempt + 1), headers := hs }
    | .ctxEnded sent =>
      -- `select { case <-ctx.Done(): return nil, ctx.Err() }`; `handleSSE`: `ctx.Err() != nil`, plain return
      { r with phase := .ended .cancelled, headers := if sent then hs else r.headers }
    | .resp code body =>
      match checkResponse code with
      | some f => { r with phase := .ended (.failed f), headers := hs }
      | none =>
        let b := processBody cfg (resumeOf cfg prev) (body lastID)
        { phase := afterBody cfg prev retries b, msgs := r.msgs ++ b.msgs, headers := hs }

/-- the first body: the POST's response stream, or the initial GET of the standalone stream -/
def start {M} (cfg : Cfg M) (first : ScanOut) : Run M :=
  let b := processBody cfg [] first
  { phase := afterBody cfg [] 0 b, msgs := b.msgs, headers := [] }

def run {M} (cfg : Cfg M) (first : ScanOut) (script : List Attempt) : Run M :=
  script.foldl (step cfg) (start cfg first)

/-! ### the back-off schedule (`calculateReconnectDelay`), for the timing monitor -/

/-- `reconnectInitialDelay * growFactor^(attempt-1)` capped at `reconnectMaxDelay`, in ns -/
def backoffNs (attempt : Nat) : Nat :=
  if attempt = 0 then 0
  else min (initialDelayNs * growNum ^ (attempt - 1) / growDen ^ (attempt - 1)) maxDelayNs

/-- the delay before attempt `attempt`: exactly the server's hint for the first attempt when there is
one, else the back-off plus a jitter in `[0, backoff)`; `(lo, hi)` inclusive-exclusive, ns -/
def delayWindow (hint : Int) (attempt : Nat) : Nat × Nat :=
  if attempt = 1 ∧ hint > 0 then (hint.toNat * 1000000, hint.toNat * 1000000 + 1)
  else (backoffNs attempt, 2 * backoffNs attempt)

end ClientStream
