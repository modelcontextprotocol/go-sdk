import McpModel.ClientStream.Model
/-!
# The typed C09 monitor (E6)

The code that decides, from the IMPLEMENTATION's observations, which clause of C09 is violated.
`Driver.lean` parses the harness's records into the typed data of this file (`Scn`, `XRec`, `Rec`,
`EndObs`), calls `monStep`, and renders the `Clause` it returns (`Clause.text`, in the driver); nothing
else of the monitor lives in the string layer.  `Bridge.lean` proves that the monitor raises no
clause on any behaviour of the model (`monitor_accepts_model`), `Sound.lean` that every clause it can
raise contradicts the corresponding clause of the property, stated on observation traces.

The monitor's checks run neither the scanner nor the loop of the model: their ground truth is the log
(the items the faithful scripted server owns), the byte length of each item on the wire, and for every
exchange where the served body started (`from`) and how many bytes of it were served (`cut`).  An item
was *completely received* iff all its bytes (including the terminating blank line) were served.  Of
`Model.lean` the checks use `delayWindow` (the back-off schedule) and `parseInt64` (a `retry:` value).
The file also holds what turns the same records into inputs of the model — `Scn.cfg`, `endObsOf`,
`scanOfX`, `attemptOfX` — for the driver, which runs the model next to the monitor, and for
`Bridge.lean`; `monStep` uses none of the four.
The labels of the server's messages are an abstract type `L` (the driver: `String`).
Core Lean only (linked into the driver).
-/
namespace ClientStream

/-! ### the scenario -/

/-- how the labels of the log items are read (driver: `n<k>` a notification, `r` the call's
response, `-` no message) -/
structure Labels (L : Type) where
  isNotif : L → Bool
  isReply : L → Bool
  isNone : L → Bool

/-- one item of the scripted server's log -/
structure LItem (L : Type) where
  raw : Bool           -- a block written as it is (comment lines, `: ping`), not an event: `ev = {}` (`ItemOK.raw`)
  ev : Event
  label : L
  bytes : Bytes        -- on the wire (model's `writeEvent`, or the raw bytes)

/-- the `scn` record: what the scripted server owns and how the client was configured -/
structure Scn (L : Type) where
  lab : Labels L
  /-- the stream under test is the standalone GET stream (else: the response stream of a call) -/
  sa : Bool := false
  /-- the effective retry budget (`maxRetriesOf` of the transport's field) -/
  mr : Nat := 0
  items : List (LItem L) := []

/-- the model's parameters for the scenario: a payload decodes to the label of the first log item that
carries a message with that payload -/
def Scn.cfg {L} (s : Scn L) : Cfg L :=
  { decode := fun bs => (s.items.find? (fun it => !it.raw && !s.lab.isNone it.label && it.ev.data == bs)).map (·.label),
    isReply := s.lab.isReply,
    forCall := !s.sa,
    maxRetries := s.mr }

inductive AKind where
  /-- `client.Do` failed; `e`: what the error answers to `errors.Is(context.Canceled)` /
  `errors.Is(context.DeadlineExceeded)` / `Timeout()`, measured by the harness on the error value.  The
  monitor does not look at `e`: the property speaks of "transient failures", whatever their kind. -/
  | terr (e : TErr)
  /-- the caller's own context ended while the request was in flight -/
  | ctx
  | st (code : Nat)
  | ok (cut : Nat) (t : Term)
deriving DecidableEq, Repr

/-- an `x` record: one HTTP exchange on the stream, as scripted (`kind`), as answered by the faithful
server (`from_`: index of the first log item of the served body; `none` for an `ok` attempt = the
server refused the Last-Event-ID with 400), when it started and was over for the client (µs of
virtual time), and the IMPLEMENTATION's observation: the Last-Event-ID header it sent -/
structure XRec where
  k : Nat              -- number of the exchange on its stream; 0 is the first body, which no clause judges
  kind : AKind
  from_ : Option Nat
  tStart : Nat
  tEnd : Nat
  hdr : Option Bytes
deriving DecidableEq, Repr

/-- the `end` record: how the pending call (standalone stream: the probe) ended -/
inductive EndObs where
  /-- the call stayed blocked until the harness's deadline with no attempt in flight -/
  | hang
  | decode
  | malformed
  /-- the call returned a result; `isR`: it is the server's response to the call -/
  | result (isR : Bool)
  /-- standalone stream: the probe (a ping) succeeded -/
  | ok
  | synthetic
  | exceeded
  | reconnect
  | sessionMissing
  /-- the error names an HTTP status (`none`: the number in the record does not parse) -/
  | st (code : Option Nat)
  /-- the call returned the error of the caller's own context (cancelled / deadline exceeded) -/
  | ctx
  /-- any other error -/
  | other
deriving DecidableEq, Repr

/-- the model's `end` observation: how the pending call (the probe) ends in the model -/
def endObsOf (sa : Bool) : Ended → EndObs
  | .replied => .result true
  | .synthetic => .synthetic
  | .failed .decode => .decode
  | .failed .malformed => .malformed
  | .failed .exceeded => .exceeded
  | .failed .connect => .reconnect
  | .failed (.rejected c) => .st (some c)
  | .failed .sessionGone => .sessionMissing
  | .failed (.status c) => .st (some c)
  | .streaming => if sa then .ok else .hang
  | .cancelled => .ctx

/-- a record of a case after its `scn` record -/
inductive Rec (L : Type) where
  | x (r : XRec)
  /-- the caller's context was cancelled while no request was in flight (at `t` µs) -/
  | cancel (t : Nat)
  | delivered (ls : List L)
  | fin (o : EndObs)
  | leak (leaked : Bool)

/-! ### ground truth -/

def bodyFrom {L} (items : List (LItem L)) (from_ : Nat) : Bytes := ((items.drop from_).map (·.bytes)).flatten

/-- ground truth: indices (starting at `i`) of the items whose bytes all lie within the first `cut` bytes -/
def completeIdx {L} : List (LItem L) → Nat → Nat → List Nat
  | [], _, _ => []
  | it :: rest, i, cut => if it.bytes.length ≤ cut then i :: completeIdx rest (i + 1) (cut - it.bytes.length) else []

/-- what the monitor keeps of an exchange -/
structure Exch where
  kind : AKind
  from_ : Option Nat      -- index of the first log item of the served body (ok only)
  complete : List Nat     -- log indices completely received in this exchange
  tEnd : Nat              -- µs: when the exchange was over for the client
deriving DecidableEq, Repr

def Exch.isOk (e : Exch) : Bool := match e.kind with | .ok _ _ => true | _ => false
def Exch.isTerr (e : Exch) : Bool := match e.kind with | .terr _ => true | _ => false
def Exch.isSt (e : Exch) : Bool := match e.kind with | .st _ => true | _ => false

/-- the exchange as the monitor books it: the completely received items from the byte lengths; an
`ok` attempt whose Last-Event-ID the scripted server did not know was answered with 400 -/
def exchOf {L} (s : Scn L) (r : XRec) : Exch :=
  { kind := (match r.kind, r.from_ with
      | .ok _ _, none => .st 400
      | a, _ => a),
    from_ := r.from_,
    complete := (match r.kind, r.from_ with
      | .ok c _, some f => completeIdx (s.items.drop f) f c
      | _, _ => []),
    tEnd := r.tEnd }

/-- the body the model's client scans in this exchange (as the faithful server serves it) -/
def scanOfX {L} (s : Scn L) (r : XRec) : Option ScanOut :=
  match r.kind, r.from_ with
  | .ok c t, some f => some (scanBytes ((bodyFrom s.items f).take c) t)
  | _, _ => none

/-- the exchange as an attempt of the model's reconnect loop -/
def attemptOfX {L} (s : Scn L) (r : XRec) : Attempt :=
  match r.kind with
  | .terr e => .terr e
  | .ctx => .ctxEnded true
  | .st c => .resp c (fun _ => ⟨[], .clean⟩)
  | .ok _ _ =>
    match scanOfX s r with
    | some so => .resp 200 (fun _ => so)
    | none => .resp 400 (fun _ => ⟨[], .clean⟩)    -- the scripted server refuses an unknown Last-Event-ID

/-- the monitor's bookkeeping: the history of exchanges and two flags about past resume requests -/
structure Mon where
  exch : List Exch := []
  /-- some reconnect went out without Last-Event-ID although a cursor existed (F18) -/
  cursorLost : Bool := false
  /-- some reconnect carried a Last-Event-ID other than the id of the last completely received event -/
  wrongCursor : Bool := false
  /-- the caller's own context has ended (a `cancel` record, or an exchange of kind `ctx`) -/
  ctxEnded : Bool := false
deriving Repr

def gotOf (ex : List Exch) : List Nat := ex.flatMap (·.complete)

def Scn.hasId {L} (s : Scn L) (i : Nat) : Bool :=
  match s.items[i]? with
  | some it => !it.raw && it.ev.id != []
  | none => false

/-- the id of the last event received completely (in arrival order), `[]` if none had an id -/
def cursorOf {L} (s : Scn L) (ex : List Exch) : Bytes :=
  match ((gotOf ex).filter s.hasId).getLast? with
  | some i => (s.items[i]?).map (·.ev.id) |>.getD []
  | none => []

def hdrOf (cur : Bytes) : Option Bytes := if cur = [] then none else some cur

/-- over the exchanges, most recent first: number of consecutive bodies that brought no complete event
with an id (transport errors in between do not count and do not reset) -/
def fruitlessGo {L} (s : Scn L) : List Exch → Nat
  | [] => 0
  | e :: rest =>
    if e.isTerr then fruitlessGo s rest
    else if e.isOk && !(e.complete.any s.hasId) then fruitlessGo s rest + 1
    else 0

def fruitlessOf {L} (s : Scn L) (ex : List Exch) : Nat := fruitlessGo s ex.reverse

/-- number of consecutive most recent transport errors -/
def trailingTerr (ex : List Exch) : Nat := (ex.reverse.takeWhile (·.isTerr)).length

/-- the retry hint of a list of completely received items: the last parsable `retry:` -/
def hintOfIdx {L} (s : Scn L) (idx : List Nat) : Int :=
  idx.foldl (fun h i =>
    match s.items[i]? with
    | some it => if it.raw || it.ev.retry == [] then h else (parseInt64 it.ev.retry).getD h
    | none => h) 0

/-- the retry hint a correct client holds after the last body: the last parsable `retry:` among
the events it received completely in that body -/
def lastHint {L} (s : Scn L) (ex : List Exch) : Int :=
  match (ex.filter (·.isOk)).getLast? with
  | none => 0
  | some e => hintOfIdx s e.complete

def labelsOf {L} (s : Scn L) (idx : List Nat) : List L :=
  idx.filterMap (fun i => (s.items[i]?).bind (fun it => if s.lab.isNotif it.label then some it.label else none))

def isSublistInOrder {L} [BEq L] : List L → List L → Bool
  | [], _ => true
  | _ :: _, [] => false
  | a :: as, b :: bs => if a == b then isSublistInOrder as bs else isSublistInOrder (a :: as) bs

/-! ### the clauses -/

/-- What the monitor can report, grouped by the record that raises it.  The sentence of each clause is
`Clause.text` (`Driver.lean`); the clause of the property it contradicts is `P_<clause>`
(`Sound.lean`). -/
inductive Clause where
  -- an `x k` record, k ≥ 1
  | f18NoHeader
  | f5UnknownId
  | notLast
  | f5IncompleteId
  | unresumableReconnect
  | afterStatus
  | fruitlessExceeded
  | connectExceeded
  | delay (delay lo hi attempt : Nat) (hint : Int)
  | afterCancel
  -- the `delivered` record
  | foreign
  | dupOrOrder
  | f5Truncated
  | missing
  | f18Lost
  | f5Lost
  -- the `end` record
  | hang
  | f5Decode
  | f5Malformed
  | probeResult
  | notServerResponse
  | f5ResponseIncomplete
  | probeOutcomeForCall
  | replyNotCompleted
  | syntheticNoCall
  | f18Synthetic
  | exceededEarly
  | reconnectEarly
  | sessionMissingNo404
  | statusNotReturned
  | unclassified
  | unexpectedError
  | ctxLive
  -- the `leak` record
  | leak
deriving DecidableEq, Repr

/-! ### the monitor -/

/-- clauses for an `x k` record (k ≥ 1): the implementation made another HTTP attempt on the stream -/
def monAttempt {L} (s : Scn L) (ex : List Exch) (hdr : Option Bytes) (tStart : Nat) : Option Clause :=
  let cur := cursorOf s ex
  let lastEnd := (ex.getLast?.map (·.tEnd)).getD 0
  let delay := (tStart - lastEnd) * 1000     -- ns
  let attempt := trailingTerr ex + 1
  let hint := if attempt = 1 then lastHint s ex else 0
  let w := delayWindow hint attempt
  if hdr ≠ hdrOf cur then
    match hdr with
    | none => some .f18NoHeader
    | some h =>
      match s.items.findIdx? (fun it => !it.raw && it.ev.id == h) with
      | none => some .f5UnknownId
      | some j => if (gotOf ex).contains j then some .notLast else some .f5IncompleteId
  else if !s.sa && cur = [] then some .unresumableReconnect
  else if ex.any (·.isSt) then some .afterStatus
  else if fruitlessOf s ex > s.mr then some .fruitlessExceeded
  else if trailingTerr ex ≥ s.mr then some .connectExceeded
  else if delay + 1000 < w.1 ∨ delay ≥ w.2 + 1000 then some (.delay delay w.1 w.2 attempt (lastHint s ex))
  else none

def monDelivered {L} [BEq L] (s : Scn L) (m : Mon) (impl : List L) : Option Clause :=
  let all := labelsOf s (List.range s.items.length)
  let must := labelsOf s (gotOf m.exch)          -- what was received completely, in arrival order
  if impl.any (fun l => !all.contains l) then some .foreign
  else if !isSublistInOrder impl all then some .dupOrOrder
  else if impl.any (fun l => !must.contains l) then some .f5Truncated
  else if must.any (fun l => !impl.contains l) then some .missing
  else if impl != all.take impl.length then
    -- a gap in the server's sequence: the scripted server skipped what the client's resume request told it to skip
    if m.cursorLost then some .f18Lost
    else if m.wrongCursor then some .f5Lost
    else none   -- no event id had ever been received: nothing to resume from (standalone stream)
  else none

def gotReply {L} (s : Scn L) (ex : List Exch) : Bool :=
  match s.items.findIdx? (fun it => s.lab.isReply it.label) with
  | some i => (gotOf ex).contains i
  | none => false

def lastIsStatus (ex : List Exch) (c : Nat) : Bool :=
  match ex.getLast? with
  | some e => (match e.kind with | .st c' => c == c' | _ => false)
  | none => false

def monEnd {L} (s : Scn L) (ex : List Exch) (ctxEnded : Bool) : EndObs → Option Clause
  | .hang => some .hang
  | .decode => some .f5Decode
  | .malformed => some .f5Malformed
  | .result isR =>
    if s.sa then some .probeResult
    else if !isR then some .notServerResponse
    else if !gotReply s ex then some .f5ResponseIncomplete
    else none
  | .ok => if s.sa then none else some .probeOutcomeForCall
  | o =>
    if gotReply s ex then some .replyNotCompleted
    else match o with
    | .synthetic =>
      if s.sa then some .syntheticNoCall
      else if cursorOf s ex != [] then some .f18Synthetic
      else none
    | .exceeded => if fruitlessOf s ex > s.mr then none else some .exceededEarly
    | .reconnect => if s.mr = 0 ∨ trailingTerr ex ≥ s.mr then none else some .reconnectEarly
    | .sessionMissing =>
      if lastIsStatus ex Generated.ClientStream.sessionGoneStatus then none else some .sessionMissingNo404
    | .st (some c) => if lastIsStatus ex c then none else some .statusNotReturned
    | .st none => some .unclassified
    | .ctx => if ctxEnded then none else some .ctxLive
    | _ => some .unexpectedError

/-- one record: the new bookkeeping and the clause raised, if any -/
def monStep {L} [BEq L] (s : Scn L) (m : Mon) : Rec L → Mon × Option Clause
  | .x r =>
    if r.k = 0 then ({ m with exch := [exchOf s r] }, none)   -- the first body of the stream
    else
      let cur := cursorOf s m.exch
      ({ exch := m.exch ++ [exchOf s r],
         cursorLost := m.cursorLost || (r.hdr == none && cur != []),
         wrongCursor := m.wrongCursor || (r.hdr != none && r.hdr != hdrOf cur),
         ctxEnded := m.ctxEnded || r.kind == .ctx },
       -- the retry loop must stop with the caller: no attempt once the caller's context has ended
       if m.ctxEnded then some .afterCancel else monAttempt s m.exch r.hdr r.tStart)
  | .cancel _ => ({ m with ctxEnded := true }, none)
  | .delivered ls => (m, monDelivered s m ls)
  | .fin o => (m, monEnd s m.exch m.ctxEnded o)
  | .leak b => (m, if b then some .leak else none)

/-- the bookkeeping after a list of records -/
def monAfter {L} [BEq L] (s : Scn L) (m : Mon) (tr : List (Rec L)) : Mon :=
  tr.foldl (fun m r => (monStep s m r).1) m

/-- the first clause raised along a list of records -/
def runMon {L} [BEq L] (s : Scn L) (m : Mon) : List (Rec L) → Option Clause
  | [] => none
  | r :: tr =>
    match (monStep s m r).2 with
    | some c => some c
    | none => runMon s (monStep s m r).1 tr

end ClientStream
