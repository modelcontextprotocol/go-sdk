import McpModel.ClientStream.LoopLemmas
/-!
C09 — "Streamable client survives stream cuts: exactly-once delivery, or a clean error".
The property theorems, each with the few lemmas that only it uses next to it, and three definitions that
only statements of this file need (`withFaults`, `SameButHeaders`, `withFaultsF`).  Model: `ClientStream/Model.lean`;
vocabulary of the statements: `Tail`, `terminatedItems`, `endOf`, `completeEvents`, `specMsgs`, `stops`,
`lastIdOf` in `Lemmas.lean`; `Faithful`, `serve`, `cursorAt`, `FAttempt`, `runF`, `fruitless`,
`allFruitless`, `bodies`, `Ended.isFailure` in `LoopLemmas.lean`.

Everything is quantified over ALL well-formed streams, ALL byte offsets `n`, ALL termination kinds
`t`, ALL reconnect outcome scripts; nothing is bounded.  The statements are about the consumer with `dropUnterminated = true` (an event
the body's end cut off is not delivered; finding F5) and `keepCursor = true` (a reconnect that receives
no id resumes from the cursor it had; finding F18 — the extractor reads this one off the code as
`Generated.ClientStream.resumeKeepsCursor`).  What the consumer does with either set to `false` is
stated as counter-example theorems.
-/
namespace ClientStream
open Generated.ClientStream

/-- For every well-formed event stream (`blocks`: any field
lines, each block ended by a blank line), every byte offset `n` and either way the body ends (`t`):
the events the scanner yields *as terminated* are exactly the events of the blocks wholly contained
in the first `n` bytes, in order (`completeCount` counts them from the byte lengths alone); they are
followed by at most one further event, flagged unterminated, and only at a clean end of input
(`Tail`); and the scanner never reports corruption (`malformed false`) — a line cut by the end of
input is reported as such (`malformed true`). -/
theorem scan_prefix_terminated_are_complete (blocks : List Block)
    (hg : ∀ b ∈ blocks, ∀ l ∈ b, goodLine l = true) (n : Nat) (t : Term) :
    ∃ rest fin,
      scanBytes ((serialize blocks).take n) t =
        ⟨terminatedItems (completeEvents blocks n) ++ rest, fin⟩ ∧
      Tail ⟨rest, fin⟩ t :=
  scan_prefix blocks hg n t

/-- the line splitting itself: the bytes of complete lines followed by a newline-free rest split
into exactly those lines and that rest (`bufio.Reader.ReadBytes`) -/
theorem split_lines_of_prefix (ls : List Bytes) (h : ∀ l ∈ ls, nl ∉ l) (rest : Bytes) (hr : nl ∉ rest) :
    splitLines (serializeLines ls ++ rest) = (ls, rest) := by
  rw [splitLines_serialize ls h, splitLines_noNl rest hr]; simp

/-- On every byte prefix of a well-formed stream, with either
termination kind, the client's body processing does exactly what it does on the completely received
events alone followed by a plain end of the body: it forwards no message, records no id and takes no
retry hint from an unterminated event, and a line cut by the end of input is an interruption, not
corruption.  (Equality of the whole result: messages, lastEventID, retry hint, outcome, synthetic.) -/
theorem process_ignores_unterminated {M} (cfg : Cfg M) (hd : cfg.dropUnterminated = true) (resume : Bytes)
    (blocks : List Block) (hg : ∀ b ∈ blocks, ∀ l ∈ b, goodLine l = true) (n : Nat) (t : Term) :
    processBody cfg resume (scanBytes ((serialize blocks).take n) t) =
      processBody cfg resume ⟨terminatedItems (completeEvents blocks n), endOf t⟩ :=
  processBody_prefix cfg hd resume blocks hg n t

/-- consequence: a cut is never "malformed event" (the connection is not failed for it) -/
theorem cut_is_never_corruption {M} (cfg : Cfg M) (hd : cfg.dropUnterminated = true) (resume : Bytes)
    (blocks : List Block) (hg : ∀ b ∈ blocks, ∀ l ∈ b, goodLine l = true) (n : Nat) (t : Term) :
    (processBody cfg resume (scanBytes ((serialize blocks).take n) t)).fin ≠ .failed .malformed := by
  rw [process_ignores_unterminated cfg hd resume blocks hg n t]
  obtain ⟨_, hns, hst⟩ := processBody_complete cfg resume (completeEvents blocks n) t _ rfl
  cases hs : stopOf cfg (completeEvents blocks n) with
  | none => rw [(hns hs).1]; split <;> simp
  | some e => rw [hst e hs]; rcases stopOf_some cfg _ e hs with ⟨rfl, _⟩ | rfl <;> simp

/-- Whenever the body ends with an interruption (or is still open),
the `lastEventID` the client holds is the id of the last *completely received* event that has one —
and the cursor it started with if no complete event has one. -/
theorem last_id_is_last_complete {M} (cfg : Cfg M) (hd : cfg.dropUnterminated = true) (resume : Bytes)
    (blocks : List Block) (hg : ∀ b ∈ blocks, ∀ l ∈ b, goodLine l = true) (n : Nat) (t : Term)
    (h : (processBody cfg resume (scanBytes ((serialize blocks).take n) t)).fin = .interrupted ∨
         (processBody cfg resume (scanBytes ((serialize blocks).take n) t)).fin = .streaming) :
    (processBody cfg resume (scanBytes ((serialize blocks).take n) t)).lastID =
      lastIdOf resume (completeEvents blocks n) := by
  rw [process_ignores_unterminated cfg hd resume blocks hg n t] at h ⊢
  obtain ⟨_, hns, hst⟩ := processBody_complete cfg resume (completeEvents blocks n) t _ rfl
  cases hs : stopOf cfg (completeEvents blocks n) with
  | none => exact (hns hs).2.1
  | some e =>
    rw [hst e hs] at h
    rcases stopOf_some cfg _ e hs with ⟨rfl, _⟩ | rfl <;> simp at h

/-- Every message forwarded to the session is the decoding of the data of
an event wholly contained in the received prefix; more precisely the forwarded messages are exactly
`specMsgs` of the completely received events (each message-carrying event once, in order, up to the
pending call's own response). -/
theorem no_truncated_message {M} (cfg : Cfg M) (hd : cfg.dropUnterminated = true) (resume : Bytes)
    (blocks : List Block) (hg : ∀ b ∈ blocks, ∀ l ∈ b, goodLine l = true) (n : Nat) (t : Term) :
    (processBody cfg resume (scanBytes ((serialize blocks).take n) t)).msgs =
        specMsgs cfg (completeEvents blocks n) ∧
    ∀ m ∈ (processBody cfg resume (scanBytes ((serialize blocks).take n) t)).msgs,
      ∃ b ∈ blocks.take (completeCount blocks n), cfg.decode (eventOf b).data = some m := by
  rw [process_ignores_unterminated cfg hd resume blocks hg n t]
  have hm := (processBody_complete cfg resume (completeEvents blocks n) t _ rfl).1
  refine ⟨hm, ?_⟩
  rw [hm]
  -- every element of specMsgs is the decoding of some event's data
  have key : ∀ es : List Event, ∀ m ∈ specMsgs cfg es, ∃ e ∈ es, cfg.decode e.data = some m := by
    intro es
    induction es with
    | nil => intro m hmem; cases hmem
    | cons e es ih =>
      intro m hmem
      rw [specMsgs_cons] at hmem
      have htail : m ∈ specMsgs cfg es → ∃ e' ∈ e :: es, cfg.decode e'.data = some m := fun h =>
        let ⟨e', he', hd'⟩ := ih m h
        ⟨e', List.mem_cons_of_mem _ he', hd'⟩
      cases hp : payload cfg e with
      | none => rw [hp] at hmem; exact htail hmem
      | undecodable => rw [hp] at hmem; cases hmem
      | reply m' =>
        rw [hp] at hmem
        cases List.mem_singleton.1 hmem
        exact ⟨e, List.mem_cons_self .., payload_decode cfg e m (.inl hp)⟩
      | msg m' =>
        rw [hp] at hmem
        rcases List.mem_cons.1 hmem with rfl | h
        · exact ⟨e, List.mem_cons_self .., payload_decode cfg e m (.inr hp)⟩
        · exact htail h
  intro m hmem
  obtain ⟨e, he, hdec⟩ := key _ m hmem
  unfold completeEvents eventsOf at he
  obtain ⟨b, hb, rfl⟩ := List.mem_map.1 (List.mem_filter.1 he).1
  exact ⟨b, hb, hdec⟩

/-- what `specMsgs` means when nothing stops the processing: every message-carrying event, once,
in order -/
theorem specMsgs_is_each_once_in_order {M} (cfg : Cfg M) (es : List Event) (h : stops cfg es = false) :
    specMsgs cfg es =
      es.filterMap (fun e => if e.data = [] ∨ (e.name ≠ [] ∧ e.name ≠ messageName) then none else cfg.decode e.data) := by
  induction es with
  | nil => rfl
  | cons e es ih =>
    rw [stops_cons] at h
    rw [specMsgs_cons, List.filterMap_cons, decode_eq_payload]
    cases hp : payload cfg e with
    | none => rw [hp] at h; exact ih h
    | undecodable => rw [hp] at h; cases h
    | reply m => rw [hp] at h; cases h
    | msg m => rw [hp] at h; exact congrArg (m :: ·) (ih h)

/-- The server is faithful (C08: every event has an id, ids
are distinct, a request carrying `Last-Event-ID: x` is answered with the events after `x`).  The
first body is cut at ANY byte offset `cut0` in either way, and then ANY finite sequence of reconnect
outcomes follows — transport errors, responses with any status, 200 responses whose body is again
cut at any offset in either way.  Then at every moment there is an `n` such that the session has
received exactly the messages of the first `n` events of the server's log — each once, in order, none
truncated (`specMsgs`) —; every `Last-Event-ID` the client ever sent is the cursor of a prefix of the
log (never a truncated or foreign id); while it is reconnecting the id it will send is the id of the
last completely received event (`cursorAt log n`); and if the call has completed normally, the
server's real response is among the delivered messages.

`hcur` is `hH` of `start_inv` (LoopLemmas.lean), explained there; without it: `cursor_lost_standalone_drops_header`. -/
theorem delivered_exactly_once_in_order {M} (cfg : Cfg M) (hd : cfg.dropUnterminated = true)
    (hcur : cfg.forCall = true ∨ cfg.keepCursor = true)
    (log : List Block) (hf : Faithful log) (cut0 : Nat) (t0 : Term) (script : List FAttempt) :
    ∃ n, n ≤ log.length ∧
      (runF cfg log cut0 t0 script).msgs = specMsgs cfg (eventsOf (log.take n)) ∧
      (∀ h ∈ (runF cfg log cut0 t0 script).headers, ∃ j, j ≤ log.length ∧ h = cursorAt log j) ∧
      ((runF cfg log cut0 t0 script).phase = .ended .replied →
        ∃ m ∈ (runF cfg log cut0 t0 script).msgs, cfg.isReply m = true) ∧
      (∀ p r l h a, (runF cfg log cut0 t0 script).phase = .reconnecting p r l h a →
        l = cursorAt log n ∧ stops cfg (eventsOf (log.take n)) = false) := by
  obtain ⟨n, hn, hm, hh, hph⟩ := runF_inv cfg hd hcur log hf cut0 t0 script
  refine ⟨n, hn, hm, hh, ?_, ?_⟩
  · intro he; rw [he] at hph; exact hph
  · intro p r l h a he; rw [he] at hph; exact ⟨hph.2.1, hph.1⟩

/-- while reconnecting, `retriesWithoutProgress ≤ maxRetries` and `connectSSE`'s attempt counter is
within `1 … maxRetries` — for every first body and every sequence of attempts, of any server -/
theorem retry_counters_within_budget {M} (cfg : Cfg M) (first : ScanOut) (script : List Attempt)
    (p : Bytes) (r : Nat) (l : Bytes) (h : Int) (a : Nat)
    (hp : (run cfg first script).phase = .reconnecting p r l h a) :
    r ≤ cfg.maxRetries ∧ 1 ≤ a ∧ a ≤ cfg.maxRetries := by
  have := run_wf cfg first script
  rw [hp] at this
  exact this

/-- From any reachable reconnecting state, any sequence of fruitless
attempts (transport errors; statuses or bodies that fail the connection; bodies that end without a
new event id; also attempts that the caller's context ends) that contains `maxRetries + 1` responses
ends the loop in a failure (`Ended.isFailure`): the synthetic error response, a failed connection, or —
if one of the attempts was ended by the caller's context — `.cancelled`.  So there are at most
`maxRetries + 1` reconnects without progress. -/
theorem bounded_fruitless_retries {M} (cfg : Cfg M) (first : ScanOut) (pre fr : List Attempt)
    (p : Bytes) (r : Nat) (l : Bytes) (h : Int) (a : Nat)
    (hp : (run cfg first pre).phase = .reconnecting p r l h a)
    (hfr : allFruitless cfg (run cfg first pre) fr = true)
    (hn : bodies fr ≥ cfg.maxRetries + 1) :
    ∃ e, (run cfg first (pre ++ fr)).phase = .ended e ∧ e.isFailure = true := by
  have hrun := run_append cfg first pre fr
  rcases fruitless_bound cfg fr (run cfg first pre) p r l h a hp hfr with hE | ⟨l', h', a', hR⟩
  · rw [hrun]; exact hE
  · -- impossible: the retry counter would exceed the budget
    have hwf := run_wf cfg first (pre ++ fr)
    rw [hrun, hR] at hwf
    simp only [WFPhase] at hwf
    omega

/-- `connectSSE` gives up after `maxRetries` transport errors in a row — of ANY kinds —: the
connection is failed -/
theorem connect_attempts_bounded {M} (cfg : Cfg M) (first : ScanOut) (pre : List Attempt) (es : List TErr)
    (hes : es.length = cfg.maxRetries)
    (p : Bytes) (r : Nat) (l : Bytes) (h : Int) (a : Nat)
    (hp : (run cfg first pre).phase = .reconnecting p r l h a) :
    ∃ e, (run cfg first (pre ++ es.map .terr)).phase = .ended e ∧ e.isFailure = true := by
  rw [run_append]
  have hwf := run_wf cfg first pre
  rw [hp] at hwf
  -- k transport errors from attempt a: ended if a + k > maxRetries
  have key : ∀ (es : List TErr) (rn : Run M) (a : Nat), rn.phase = .reconnecting p r l h a → a ≤ cfg.maxRetries →
      a + es.length > cfg.maxRetries →
      ∃ e, ((es.map Attempt.terr).foldl (step cfg) rn).phase = .ended e ∧ e.isFailure = true := by
    intro es
    induction es with
    | nil => intro rn a _ hle hk; simp at hk; omega
    | cons e es ih =>
      intro rn a hph hle hk
      simp only [List.map_cons, List.foldl_cons]
      have hs := congrArg Run.phase (step_terr cfg hph e)
      dsimp only at hs
      by_cases hlast : errStops e = true ∨ a + 1 > cfg.maxRetries
      · rw [if_pos hlast] at hs
        rw [foldl_step_ended cfg _ _ hs]
        exact ⟨_, hs, rfl⟩
      · rw [if_neg hlast] at hs
        exact ih _ (a + 1) hs (Nat.le_of_not_gt (not_or.1 hlast).2) (by simp at hk; omega)
  exact key es _ a hp hwf.2.2 (by have := hwf.2.1; omega)

/-! ## the KIND of a transport error does not matter: only the caller's context stops the loop -/

/-- a failed attempt within the budget, of any kind, changes nothing but the attempt counter (and the
list of headers sent) -/
theorem terr_within_budget {M} (cfg : Cfg M) (r : Run M) (e : TErr)
    (p : Bytes) (rt : Nat) (l : Bytes) (h : Int) (a : Nat)
    (hp : r.phase = .reconnecting p rt l h a) (hb : a + 1 ≤ cfg.maxRetries) :
    (step cfg r (.terr e)).phase = .reconnecting p rt l h (a + 1) ∧ (step cfg r (.terr e)).msgs = r.msgs := by
  rw [step_terr cfg hp, if_neg (not_or.2 ⟨by rw [errStops_never]; nofun, by omega⟩)]
  exact ⟨rfl, rfl⟩

theorem terrs_within_budget {M} (cfg : Cfg M) (es : List TErr) :
    ∀ (r : Run M) (p : Bytes) (rt : Nat) (l : Bytes) (h : Int) (a : Nat),
      r.phase = .reconnecting p rt l h a → a + es.length ≤ cfg.maxRetries →
      ((es.map Attempt.terr).foldl (step cfg) r).phase = .reconnecting p rt l h (a + es.length) ∧
      ((es.map Attempt.terr).foldl (step cfg) r).msgs = r.msgs := by
  induction es with
  | nil => intro r p rt l h a hp _; exact ⟨by simpa using hp, rfl⟩
  | cons e es ih =>
    intro r p rt l h a hp hb
    simp only [List.length_cons] at hb
    obtain ⟨h1, h2⟩ := terr_within_budget cfg r e p rt l h a hp (by omega)
    obtain ⟨h3, h4⟩ := ih _ p rt l h (a + 1) h1 (by omega)
    simp only [List.map_cons, List.foldl_cons, List.length_cons]
    exact ⟨by rw [h3]; congr 1; omega, by rw [h4, h2]⟩

/-- every body is followed by attempt number 1 -/
theorem afterBody_attempt_one {M} (cfg : Cfg M) (prev : Bytes) (retries : Nat) (b : BodyOut M)
    (p : Bytes) (rt : Nat) (l : Bytes) (h : Int) (a : Nat)
    (hp : afterBody cfg prev retries b = .reconnecting p rt l h a) : a = 1 := by
  rcases afterBody_cases cfg prev retries b with ⟨e, he, _⟩ | ⟨p', r', he, _⟩ <;> rw [he] at hp <;> cases hp
  rfl

/-- a script in which every response is preceded by a list of failed attempts -/
def withFaults (script : List (List TErr × Attempt)) : List Attempt :=
  script.flatMap (fun p => p.1.map Attempt.terr ++ [p.2])

/-- two loop states that differ in the headers sent only, about to make attempt number 1 -/
def SameButHeaders {M} (r r' : Run M) : Prop :=
  r.phase = r'.phase ∧ r.msgs = r'.msgs ∧ ∀ p rt l h a, r.phase = .reconnecting p rt l h a → a = 1

theorem step_resp_same {M} (cfg : Cfg M) (r r' : Run M) (code : Nat) (body : Bytes → ScanOut) (es : List TErr)
    (hs : SameButHeaders r r') (hb : es.length < cfg.maxRetries) :
    SameButHeaders (step cfg ((es.map Attempt.terr).foldl (step cfg) r) (.resp code body)) (step cfg r' (.resp code body)) := by
  obtain ⟨hph, hm, h1⟩ := hs
  cases hp : r.phase with
  | ended e =>
    rw [foldl_step_ended cfg r e hp]
    have hp' : r'.phase = .ended e := by rw [← hph, hp]
    rw [step_ended cfg hp, step_ended cfg hp']
    exact ⟨hph, hm, h1⟩
  | reconnecting p rt l h a =>
    have ha : a = 1 := h1 p rt l h a hp
    subst ha
    obtain ⟨h3, h4⟩ := terrs_within_budget cfg es r p rt l h 1 hp (by omega)
    have hp' : r'.phase = .reconnecting p rt l h 1 := by rw [← hph, hp]
    generalize (es.map Attempt.terr).foldl (step cfg) r = q at h3 h4
    rw [step_resp cfg h3, step_resp cfg hp']
    cases hc : checkResponse code with
    | some f => exact ⟨rfl, by rw [h4, hm], fun _ _ _ _ _ hx => by cases hx⟩
    | none =>
      refine ⟨rfl, by rw [h4, hm], fun p' rt' l' h' a' hx => ?_⟩
      exact afterBody_attempt_one cfg _ _ _ _ _ _ _ _ hx

/-- **Transient failures within the budget are invisible.**  For ANY server and ANY first body: put
before every response of a script any list of failed attempts — of ANY kinds: plain errors, dial
timeouts, "timeout awaiting response headers", `http.Client.Timeout`, errors that answer
`errors.Is(context.Canceled)` — shorter than the budget (`maxRetries`).  The loop ends up in the same
state (phase, retry counter, cursor) and has forwarded the same messages as without the failures. -/
theorem transient_failures_within_budget_invisible {M} (cfg : Cfg M) (first : ScanOut)
    (script : List (List TErr × Attempt))
    (hb : ∀ p ∈ script, p.1.length < cfg.maxRetries)
    (hr : ∀ p ∈ script, ∃ code body, p.2 = .resp code body) :
    (run cfg first (withFaults script)).phase = (run cfg first (script.map (·.2))).phase ∧
    (run cfg first (withFaults script)).msgs = (run cfg first (script.map (·.2))).msgs := by
  unfold run withFaults
  suffices h : ∀ r r' : Run M, SameButHeaders r r' →
      SameButHeaders ((script.flatMap (fun p => p.1.map Attempt.terr ++ [p.2])).foldl (step cfg) r)
        ((script.map (·.2)).foldl (step cfg) r') by
    have h0 : SameButHeaders (start cfg first) (start cfg first) :=
      ⟨rfl, rfl, fun p rt l h a hx => afterBody_attempt_one cfg _ _ _ _ _ _ _ _ hx⟩
    exact ⟨(h _ _ h0).1, (h _ _ h0).2.1⟩
  induction script with
  | nil => intro r r' hs; simpa using hs
  | cons pr rest ih =>
    intro r r' hs
    obtain ⟨code, body, hresp⟩ := hr pr (List.mem_cons_self ..)
    simp only [List.flatMap_cons, List.map_cons, List.foldl_append, List.foldl_cons, List.foldl_nil, hresp]
    apply ih (fun p hp => hb p (List.mem_cons_of_mem _ hp)) (fun p hp => hr p (List.mem_cons_of_mem _ hp))
    exact step_resp_same cfg r r' code body pr.1 hs (hb pr (List.mem_cons_self ..))

/-- the same against the faithful server -/
def withFaultsF (script : List (List TErr × FAttempt)) : List FAttempt :=
  script.flatMap (fun p => p.1.map (fun e => FAttempt.terr e) ++ [p.2])

/-- Against a faithful server, with the first
body cut anywhere in either way: whatever failed attempts — of any kinds, fewer than the budget in a row
— precede the responses of a script, if the exchange without them completes the pending call with the
server's real response, so does the exchange with them; the session receives exactly the same
messages (each message of a prefix of the server's log once, in order, none truncated), the server's
response among them. -/
theorem transient_failures_within_budget_complete_the_call {M} (cfg : Cfg M) (hd : cfg.dropUnterminated = true)
    (hcur : cfg.forCall = true ∨ cfg.keepCursor = true)
    (log : List Block) (hf : Faithful log) (cut0 : Nat) (t0 : Term)
    (script : List (List TErr × FAttempt))
    (hb : ∀ p ∈ script, p.1.length < cfg.maxRetries)
    (hr : ∀ p ∈ script, ∃ code cut t, p.2 = .resp code cut t)
    (hdone : (runF cfg log cut0 t0 (script.map (·.2))).phase = .ended .replied) :
    (runF cfg log cut0 t0 (withFaultsF script)).phase = .ended .replied ∧
    (runF cfg log cut0 t0 (withFaultsF script)).msgs = (runF cfg log cut0 t0 (script.map (·.2))).msgs ∧
    (∃ n, n ≤ log.length ∧ (runF cfg log cut0 t0 (withFaultsF script)).msgs = specMsgs cfg (eventsOf (log.take n))) ∧
    ∃ m ∈ (runF cfg log cut0 t0 (withFaultsF script)).msgs, cfg.isReply m = true := by
  have e1 : withFaults (script.map (fun p => (p.1, toAttempt log p.2))) = (withFaultsF script).map (toAttempt log) := by
    simp [withFaults, withFaultsF, List.map_flatMap, List.flatMap_map, toAttempt, Function.comp_def]
  have e2 : (script.map (fun p => (p.1, toAttempt log p.2))).map (·.2) = (script.map (·.2)).map (toAttempt log) := by
    simp [List.map_map, Function.comp_def]
  have key := transient_failures_within_budget_invisible cfg (scanBytes ((serialize log).take cut0) t0)
    (script.map (fun p => (p.1, toAttempt log p.2)))
    (by intro p hp; obtain ⟨q, hq, rfl⟩ := List.mem_map.1 hp; exact hb q hq)
    (by
      intro p hp; obtain ⟨q, hq, rfl⟩ := List.mem_map.1 hp
      obtain ⟨code, cut, t, h⟩ := hr q hq
      exact ⟨code, fun hdr => scanBytes ((serialize (serve log hdr)).take cut) t, by simp only [h, toAttempt]⟩)
  rw [e1, e2] at key
  have hph : (runF cfg log cut0 t0 (withFaultsF script)).phase = .ended .replied := by
    unfold runF at hdone ⊢; rw [key.1]; exact hdone
  have hms : (runF cfg log cut0 t0 (withFaultsF script)).msgs = (runF cfg log cut0 t0 (script.map (·.2))).msgs := by
    unfold runF; exact key.2
  obtain ⟨n, hn, hm, _, hrep, _⟩ := delivered_exactly_once_in_order cfg hd hcur log hf cut0 t0 (withFaultsF script)
  exact ⟨hph, hms, ⟨n, hn, hm⟩, hrep hph⟩

/-- (the control) When the CALLER's context ends while the loop
is reconnecting — during the wait, or with a request in flight — the loop stops there: no further
attempt is made whatever follows, nothing more is forwarded, the connection is not failed (the call
completes with the context's error in the layer above: C01/C04). -/
theorem caller_context_end_stops_the_loop {M} (cfg : Cfg M) (first : ScanOut) (pre post : List Attempt) (sent : Bool)
    (p : Bytes) (r : Nat) (l : Bytes) (h : Int) (a : Nat)
    (hp : (run cfg first pre).phase = .reconnecting p r l h a) :
    (run cfg first (pre ++ .ctxEnded sent :: post)).phase = .ended .cancelled ∧
    (run cfg first (pre ++ .ctxEnded sent :: post)).msgs = (run cfg first pre).msgs ∧
    (run cfg first (pre ++ .ctxEnded sent :: post)).headers =
      (run cfg first pre).headers ++ (if sent then [l] else []) := by
  rw [run_append, List.foldl_cons, step_ctxEnded cfg hp, foldl_step_ended cfg _ .cancelled rfl post]
  refine ⟨rfl, rfl, ?_⟩
  cases sent <;> simp

/-! ## the handler of a call's stream never goes quiet (the client side of C01) -/

theorem processItems_early {M} (cfg : Cfg M) (a : Acc M) (items : List Item) (e : BodyEnd)
    (h : (processItems cfg a items).2 = some e) : e ≠ .streaming := by
  induction items generalizing a with
  | nil => cases h
  | cons it rest ih =>
    cases h0 : (cfg.dropUnterminated && !it.terminated) with
    | true => rw [processItems_dropped cfg a it _ h0] at h; cases h; nofun
    | false =>
      rw [processItems_kept cfg a it _ h0] at h
      cases hp : payload cfg it.ev with
      | none => rw [hp] at h; exact ih _ h
      | undecodable => rw [hp] at h; cases h; nofun
      | reply m => rw [hp] at h; cases h; nofun
      | msg m => rw [hp] at h; exact ih _ h

/-- a body that has ended is never reported as still streaming -/
theorem processBody_not_streaming {M} (cfg : Cfg M) (resume : Bytes) (out : ScanOut) (h : out.fin ≠ .stillOpen) :
    (processBody cfg resume out).fin ≠ .streaming := by
  unfold processBody
  simp only
  have hb : bodyEnd cfg (processItems cfg { lastID := resume } out.items).2 out.fin ≠ .streaming := by
    unfold bodyEnd
    cases he : (processItems cfg { lastID := resume } out.items).2 with
    | some e => exact processItems_early cfg _ _ e he
    | none =>
      simp only
      cases hf : out.fin with
      | clean => simp
      | readErr => simp
      | malformed b => simp only; split <;> simp
      | stillOpen => exact absurd hf h
  generalize bodyEnd cfg (processItems cfg { lastID := resume } out.items).2 out.fin = e at hb
  cases e <;> simp_all [mkBody]

/-- As long as every body the server sends ends (by a clean end of
input, a read error or a malformed line — anything but staying open), after ANY first body and ANY
sequence of attempts (failed ones of any kinds, responses with any status, the caller's context
ending) the handler of a call's stream is in one of these states and in no other: it has forwarded the
call's response, it has sent the synthetic error response for the call, it has failed the connection
(every pending call then fails with the connection's error: C01, conn engine), it has stopped because
the caller's own context ended (the call returns that error), or it is about to make a further
attempt.  It never returns silently while the call is pending. -/
theorem call_stream_never_goes_quiet {M} (cfg : Cfg M) (first : ScanOut) (script : List Attempt)
    (h0 : first.fin ≠ .stillOpen)
    (hs : ∀ code body, Attempt.resp code body ∈ script → ∀ hdr, (body hdr).fin ≠ .stillOpen) :
    (run cfg first script).phase ≠ .ended .streaming := by
  have hab : ∀ prev retries (b : BodyOut M), b.fin ≠ .streaming → afterBody cfg prev retries b ≠ .ended .streaming := by
    intro prev retries b hb
    rcases afterBody_cases cfg prev retries b with ⟨e, he, _, hst⟩ | ⟨p, r, he, _⟩ <;> rw [he]
    · exact fun h => hb (hst (Phase.ended.inj h))
    · nofun
  refine List.foldlRecOn (motive := fun r : Run M => r.phase ≠ .ended .streaming) script _
    (hab _ _ _ (processBody_not_streaming cfg [] first h0)) fun r hr a ha => ?_
  cases hp : r.phase with
  | ended e => rw [step_ended cfg hp]; exact hr
  | reconnecting prev retries lastID hint attempt =>
    cases a with
    | terr e =>
      rw [step_terr cfg hp]
      dsimp only
      by_cases hc : errStops e = true ∨ attempt + 1 > cfg.maxRetries
      · rw [if_pos hc]; nofun
      · rw [if_neg hc]; nofun
    | ctxEnded sent => rw [step_ctxEnded cfg hp]; nofun
    | resp code body =>
      rw [step_resp cfg hp]
      cases checkResponse code with
      | some f => nofun
      | none => exact hab _ _ _ (processBody_not_streaming cfg _ _ (hs code body ha lastID))

/-- A call stream whose first body ends without the client holding any
event id cannot be resumed: the synthetic error response ("request terminated without response") is
sent for the call, no reconnect is ever attempted, and nothing that happens afterwards changes that. -/
theorem unresumable_fails_call {M} (cfg : Cfg M) (hcall : cfg.forCall = true) (first : ScanOut)
    (hfin : (processBody cfg [] first).fin = .interrupted) (hid : (processBody cfg [] first).lastID = [])
    (script : List Attempt) :
    (run cfg first script).phase = .ended .synthetic ∧
    (run cfg first script).headers = [] ∧
    (run cfg first script).msgs = (processBody cfg [] first).msgs ∧
    (processBody cfg [] first).synthetic = true := by
  have hstart : (start cfg first).phase = .ended .synthetic := by
    simp [start, afterBody, hfin, hid, hcall]
  have hrun : run cfg first script = start cfg first := foldl_step_ended cfg _ _ hstart script
  rw [hrun]
  refine ⟨hstart, rfl, rfl, ?_⟩
  simp only [processBody] at hfin hid ⊢
  have he : bodyEnd cfg (processItems cfg { lastID := [] } first.items).2 first.fin = .interrupted := by
    generalize bodyEnd cfg (processItems cfg { lastID := [] } first.items).2 first.fin = e at hfin
    cases e <;> simp [mkBody] at hfin ⊢
  rw [he] at hid ⊢
  simp only [mkBody] at hid ⊢
  simp [hid, hcall]

/-- byte level: a prefix none of whose complete events has an id (e.g. a server without an event
store), cut by an error or a clean end before the call's response: the call fails at once. -/
theorem no_ids_unresumable {M} (cfg : Cfg M) (hd : cfg.dropUnterminated = true) (hcall : cfg.forCall = true)
    (blocks : List Block) (hg : ∀ b ∈ blocks, ∀ l ∈ b, goodLine l = true) (n : Nat) (t : Term) (ht : t ≠ .open)
    (hnoid : ∀ e ∈ completeEvents blocks n, e.id = []) (hns : stops cfg (completeEvents blocks n) = false)
    (script : List Attempt) :
    (run cfg (scanBytes ((serialize blocks).take n) t) script).phase = .ended .synthetic ∧
    (run cfg (scanBytes ((serialize blocks).take n) t) script).headers = [] := by
  have hb := process_ignores_unterminated cfg hd [] blocks hg n t
  obtain ⟨_, hc, _⟩ := processBody_complete cfg [] (completeEvents blocks n) t _ rfl
  obtain ⟨hf, hl, _⟩ := hc ((stopOf_eq_none cfg _).2 hns)
  have hnil : lastIdOf [] (completeEvents blocks n) = [] := by
    generalize completeEvents blocks n = es at hnoid
    induction es with
    | nil => rfl
    | cons e es ih =>
      rw [lastIdOf_cons, if_pos (hnoid e (List.mem_cons_self ..))]
      exact ih (fun e' h' => hnoid e' (List.mem_cons_of_mem _ h'))
  have h := unresumable_fails_call cfg hcall (scanBytes ((serialize blocks).take n) t)
    (by rw [hb, hf, if_neg ht]) (by rw [hb, hl, hnil]) script
  exact ⟨h.1, h.2.1⟩

/-! ## non-vacuity, and the unrepaired behaviours as counter-examples -/

/-- "id: 1\ndata: AA\n\n" ++ "id: 22\ndata: BB\n\n" -/
def exBlocks : List Block := [[[105, 100, 58, 32, 49], [100, 97, 116, 97, 58, 32, 65, 65]], [[105, 100, 58, 32, 50, 50], [100, 97, 116, 97, 58, 32, 66, 66]]]
def exStream : Bytes := [105, 100, 58, 32, 49, 10, 100, 97, 116, 97, 58, 32, 65, 65, 10, 10, 105, 100, 58, 32, 50, 50, 10, 100, 97, 116, 97, 58, 32, 66, 66, 10, 10]

/-- `dropUnterminated = fix`; decodes exactly "AA" ↦ 1 and "BB" ↦ 2; message 2 is the call's response -/
def exCfg (fix keep : Bool) : Cfg Nat :=
  { decode := fun d => if d = [65, 65] then some 1 else if d = [66, 66] then some 2 else none,
    isReply := fun m => m == 2, forCall := true, maxRetries := 2, dropUnterminated := fix, keepCursor := keep }

example : serialize exBlocks = exStream := by decide +kernel
theorem exBlocks_faithful : Faithful exBlocks := ⟨by decide, by decide, by decide⟩
example : exStream.length = 33 := by decide +kernel

/-- non-vacuity of the end-to-end statement: cut after the first event by a read error, one transport
error, an empty resumed body, then the rest: both messages, each once; headers all "1" -/
example :
    (runF (exCfg true true) exBlocks 16 .err [.terr {}, .resp 200 0 .eof, .resp 200 100 .eof]).msgs = [1, 2] ∧
    (runF (exCfg true true) exBlocks 16 .err [.terr {}, .resp 200 0 .eof, .resp 200 100 .eof]).headers = [[49], [49], [49]] ∧
    (runF (exCfg true true) exBlocks 16 .err [.terr {}, .resp 200 0 .eof, .resp 200 100 .eof]).phase = .ended .replied := by
  decide +kernel

/-- non-vacuity: the first body cut after event "1" by a read error; a dial timeout (answers
`Is(DeadlineExceeded)` and `Timeout()`) before an empty resumed body, an error that answers
`Is(Canceled)` before the rest: the call completes with both messages, as without the failures -/
example :
    (runF (exCfg true true) exBlocks 16 .err (withFaultsF
      [([{ isDeadline := true, isTimeout := true }], .resp 200 0 .eof), ([{ isCanceled := true }], .resp 200 100 .eof)])).phase
        = .ended .replied ∧
    (runF (exCfg true true) exBlocks 16 .err (withFaultsF
      [([{ isDeadline := true, isTimeout := true }], .resp 200 0 .eof), ([{ isCanceled := true }], .resp 200 100 .eof)])).msgs
        = [1, 2] ∧
    (runF (exCfg true true) exBlocks 16 .err [.resp 200 0 .eof, .resp 200 100 .eof]).phase = .ended .replied := by
  decide +kernel

/-- the bound is needed: `maxRetries` (= 2) failed attempts in a row fail the connection although the
server would have answered the third -/
example :
    (runF (exCfg true true) exBlocks 16 .err (withFaultsF
      [([{ isDeadline := true }, { isTimeout := true }], .resp 200 100 .eof)])).phase = .ended (.failed .connect) := by
  decide +kernel

/-- the hypothesis is needed: a server that leaves the body of a call open without sending the
response keeps the call pending -/
example : (runF (exCfg true true) exBlocks 16 .open []).phase = .ended .streaming := by decide +kernel

/-- the scanner itself (and therefore the exported `scanEvents`, whose dispatch at the end of input is
pinned by `TestScanEvents`) does yield the trailing incomplete event at a clean end of input: here the
second event with a truncated payload "B" -/
theorem scanner_dispatches_unterminated_at_eof :
    scanEventsPublic (exStream.take 30) .eof =
      ([{ id := [49], data := [65, 65] }, { id := [50, 50], data := [66] }], .clean) := by decide +kernel

/-- F5, unrepaired consumer, cut inside `data:`: the truncated payload reaches the decoder and the
connection is failed permanently; the repaired consumer sees an interruption after event "1" -/
theorem unrepaired_surfaces_truncated_data :
    (processBody (exCfg false false) [] (scanBytes (exStream.take 30) .eof)).fin = .failed .decode ∧
    (processBody (exCfg true false) [] (scanBytes (exStream.take 30) .eof)).fin = .interrupted ∧
    (processBody (exCfg true false) [] (scanBytes (exStream.take 30) .eof)).lastID = [49] := by decide +kernel

/-- F5, cut right after the `id:` line: the unrepaired consumer records id "22" although its data
never arrived (a resumption from "22" skips message 2) -/
theorem unrepaired_records_id_without_data :
    (processBody (exCfg false false) [] (scanBytes (exStream.take 23) .eof)).lastID = [50, 50] ∧
    (processBody (exCfg false false) [] (scanBytes (exStream.take 23) .eof)).msgs = [1] ∧
    (processBody (exCfg true false) [] (scanBytes (exStream.take 23) .eof)).lastID = [49] := by decide +kernel

/-- F5, cut inside the `id:` value: a truncated Last-Event-ID "2" -/
theorem unrepaired_records_truncated_id :
    (processBody (exCfg false false) [] (scanBytes (exStream.take 21) .eof)).lastID = [50] ∧
    (processBody (exCfg true false) [] (scanBytes (exStream.take 21) .eof)).lastID = [49] := by decide +kernel

/-- F5, cut inside a field name: "malformed line", a hard failure of the connection -/
theorem unrepaired_fails_on_truncated_line :
    (processBody (exCfg false false) [] (scanBytes (exStream.take 18) .eof)).fin = .failed .malformed ∧
    (processBody (exCfg true false) [] (scanBytes (exStream.take 18) .eof)).fin = .interrupted := by decide +kernel

/-- so `process_ignores_unterminated` is false for the unrepaired consumer -/
theorem process_ignores_unterminated_fails_unrepaired :
    ¬ (∀ (n : Nat) (t : Term),
        processBody (exCfg false false) [] (scanBytes ((serialize exBlocks).take n) t) =
        processBody (exCfg false false) [] ⟨terminatedItems (completeEvents exBlocks n), endOf t⟩) := by
  intro h
  have := congrArg (·.lastID) (h 23 .eof)
  revert this
  decide

/-- F18, the cursor is not kept (`keepCursor = false`): a resumed body that ends before its first
complete event makes the client fail a perfectly resumable call (synthetic error after ONE fruitless
reconnect, whatever `maxRetries`); with the cursor kept it asks again with the same id and completes -/
theorem cursor_lost_fails_resumable_call :
    (runF (exCfg true false) exBlocks 16 .err [.resp 200 0 .eof, .resp 200 100 .eof]).phase = .ended .synthetic ∧
    (runF (exCfg true true) exBlocks 16 .err [.resp 200 0 .eof, .resp 200 100 .eof]).phase = .ended .replied ∧
    (runF (exCfg true true) exBlocks 16 .err [.resp 200 0 .eof, .resp 200 100 .eof]).msgs = [1, 2] := by decide +kernel

/-- F18 on the standalone stream (`forCall = false`): after the event-less body the next request goes
out WITHOUT Last-Event-ID (`[]`), and a faithful server answers from the start: message 1 twice (a
real server attaches a fresh standalone stream instead and the messages in between are lost) -/
theorem cursor_lost_standalone_drops_header :
    (runF { exCfg true false with forCall := false } exBlocks 16 .err [.resp 200 0 .eof, .resp 200 100 .open]).headers = [[49], []] ∧
    (runF { exCfg true false with forCall := false } exBlocks 16 .err [.resp 200 0 .eof, .resp 200 100 .open]).msgs = [1, 1, 2] ∧
    (runF { exCfg true true with forCall := false } exBlocks 16 .err [.resp 200 0 .eof, .resp 200 100 .open]).headers = [[49], [49]] ∧
    (runF { exCfg true true with forCall := false } exBlocks 16 .err [.resp 200 0 .eof, .resp 200 100 .open]).msgs = [1, 2] := by decide +kernel

/-- non-vacuity of `bounded_fruitless_retries`: three (= maxRetries + 1) event-less bodies after a
cut: "exceeded retries without progress" -/
example :
    (runF (exCfg true true) exBlocks 16 .err [.resp 200 0 .eof, .resp 200 0 .err, .resp 200 0 .eof]).phase
      = .ended (.failed .exceeded) := by decide +kernel

/-- non-vacuity of `unresumable_fails_call`: a cut before the first complete event -/
example : (runF (exCfg true true) exBlocks 10 .eof [.resp 200 100 .eof]).phase = .ended .synthetic ∧
    (runF (exCfg true true) exBlocks 10 .eof [.resp 200 100 .eof]).headers = [] := by decide +kernel

/-- the MaxRetries defaulting (regenerated table) -/
theorem maxRetries_defaulting : maxRetriesOf 0 = 5 ∧ maxRetriesOf (-1) = 0 ∧ maxRetriesOf 3 = 3 := by decide +kernel
/-- the status classes the loop depends on (regenerated tables) -/
theorem reconnect_statuses :
    checkResponse 200 = none ∧ checkResponse 404 = some .sessionGone ∧ checkResponse 503 = some (.rejected 503) ∧
    checkResponse 400 = some (.status 400) := by decide +kernel

end ClientStream
