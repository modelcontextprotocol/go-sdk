import McpModel.ClientStream.Props
/-!
C09 — the end-to-end statement for the standalone stream AS BUILT: the property theorem that names the regenerated flag
`Generated.ClientStream.resumeKeepsCursor` (does `handleSSE` hand `prevLastEventID` to the body processing? — F18) in its
proof.  On a tree in which the flag is `false` this module does not build (the monitor's `C09: F18 …` clauses give the
concrete failing input).  It is not the only place a regenerated flag enters: `errStops_never` and what rests on it read
the `stopOn…` flags, and the bridge uses `resumeKeepsCursor` through the default value of `Cfg.keepCursor` (`Scn.cfg`,
the `ok` case of `sim_step` closes because `resumeOf s.cfg prev` reduces to `prev`).
-/
namespace ClientStream
open Generated.ClientStream

/-- The standalone stream of the code as it is built: the cursor survives event-less bodies
(`resumeKeepsCursor`, regenerated from `handleSSE`), so the end-to-end statement holds for it too.
This theorem stops compiling when the regenerated flag is `false` (fix F18 absent). -/
theorem standalone_stream_exactly_once {M} (decode : Bytes → Option M) (maxRetries : Nat)
    (log : List Block) (hf : Faithful log) (cut0 : Nat) (t0 : Term) (script : List FAttempt) :
    let cfg : Cfg M := { decode := decode, isReply := fun _ => false, forCall := false, maxRetries := maxRetries }
    ∃ n, n ≤ log.length ∧ (runF cfg log cut0 t0 script).msgs = specMsgs cfg (eventsOf (log.take n)) := by
  intro cfg
  obtain ⟨n, hn, hm, _⟩ := delivered_exactly_once_in_order cfg rfl (Or.inr (show resumeKeepsCursor = true by decide)) log hf cut0 t0 script
  exact ⟨n, hn, hm⟩

end ClientStream
