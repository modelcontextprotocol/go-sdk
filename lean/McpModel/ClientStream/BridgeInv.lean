import McpModel.ClientStream.BridgeIdx
/-!
`PhaseRel` relates the phase of the model's reconnect loop to the history of exchanges the monitor
keeps; `body_rel` shows that it is re-established by every response body, whatever the cut.
-/
namespace ClientStream
open Generated.ClientStream

variable {L : Type}

def replyIdx (s : Scn L) (i : Nat) : Bool :=
  match s.items[i]? with
  | some it => s.lab.isReply it.label
  | none => false

/-- the relation between the model's loop state and the monitor's history.  The last two cases are
`False`: against an `ScnOK` server the client with `dropUnterminated` never fails with a decode or a
malformed-line error (every complete item is well-formed and decodes, an incomplete one is dropped). -/
def PhaseRel (s : Scn L) (ex : List Exch) : Phase → Prop
  | .reconnecting prev retries lastID hint attempt =>
    lastID = cursorOf s ex ∧ prev = lastID ∧ retries = fruitlessOf s ex ∧ attempt = trailingTerr ex + 1 ∧
    (attempt = 1 → hint = lastHint s ex) ∧ ex.any (·.isSt) = false ∧ (s.sa = false → lastID ≠ []) ∧
    retries ≤ s.mr ∧ attempt ≤ s.mr ∧ gotReply s ex = false
  | .ended .replied => s.sa = false ∧ gotReply s ex = true
  | .ended .synthetic => s.sa = false ∧ cursorOf s ex = [] ∧ gotReply s ex = false
  | .ended .streaming => s.sa = true
  | .ended .cancelled => gotReply s ex = false
  | .ended (.failed .exceeded) => gotReply s ex = false ∧ fruitlessOf s ex > s.mr
  | .ended (.failed .connect) => gotReply s ex = false ∧ (s.mr = 0 ∨ trailingTerr ex ≥ s.mr)
  | .ended (.failed (.rejected c)) => gotReply s ex = false ∧ lastIsStatus ex c = true
  | .ended (.failed (.status c)) => gotReply s ex = false ∧ lastIsStatus ex c = true
  | .ended (.failed .sessionGone) => gotReply s ex = false ∧ lastIsStatus ex sessionGoneStatus = true
  | .ended (.failed .decode) => False
  | .ended (.failed .malformed) => False

/-- everything received so far that carries a message or an id lies before item `f` -/
def Frontier (s : Scn L) (got : List Nat) (f : Nat) : Prop :=
  ∀ j ∈ got, (carriesIdx s j = true ∨ s.hasId j = true) → j < f

theorem labelsOf_append (s : Scn L) (a b : List Nat) : labelsOf s (a ++ b) = labelsOf s a ++ labelsOf s b := by
  simp [labelsOf, List.filterMap_append]

theorem lastIdIdx_noId (s : Scn L) (cur : Bytes) (idx : List Nat) (h : idx.any s.hasId = false) :
    lastIdIdx s cur idx = cur := by
  induction idx generalizing cur with
  | nil => rfl
  | cons i rest ih =>
    simp only [List.any_cons, Bool.or_eq_false_iff] at h
    simp only [lastIdIdx, List.foldl_cons, h.1, Bool.false_eq_true, if_false]
    exact ih cur h.2

theorem lastIdIdx_someId (s : Scn L) (cur : Bytes) (idx : List Nat) (h : idx.any s.hasId = true) :
    ∃ i ∈ idx, s.hasId i = true ∧ lastIdIdx s cur idx = idOfIdx s i := by
  induction idx generalizing cur with
  | nil => simp at h
  | cons i rest ih =>
    simp only [lastIdIdx, List.foldl_cons]
    by_cases hr : rest.any s.hasId = true
    · obtain ⟨j, hj, hid, he⟩ := ih (if s.hasId i = true then idOfIdx s i else cur) hr
      exact ⟨j, List.mem_cons_of_mem _ hj, hid, he⟩
    · have hr' : rest.any s.hasId = false := by simpa using hr
      have hi : s.hasId i = true := by
        simp only [List.any_cons, Bool.or_eq_true] at h
        rcases h with h | h
        · exact h
        · exact absurd h hr
      refine ⟨i, List.mem_cons_self .., hi, ?_⟩
      rw [if_pos hi]
      exact lastIdIdx_noId s _ rest hr'

theorem hasId_id_ne (s : Scn L) (i : Nat) (h : s.hasId i = true) : idOfIdx s i ≠ [] := by
  unfold Scn.hasId at h
  unfold idOfIdx
  cases hi : s.items[i]? with
  | none => simp [hi] at h
  | some it => simp [hi] at h ⊢; exact h.2

theorem cursor_cases (s : Scn L) (ex : List Exch) :
    cursorOf s ex = [] ∨
    ∃ ci, ((gotOf ex).filter s.hasId).getLast? = some ci ∧ ci ∈ gotOf ex ∧ s.hasId ci = true ∧
      idOfIdx s ci = cursorOf s ex := by
  unfold cursorOf
  cases h : ((gotOf ex).filter s.hasId).getLast? with
  | none => left; rfl
  | some ci =>
    right
    have hm := List.mem_of_getLast? h
    rw [List.mem_filter] at hm
    exact ⟨ci, rfl, hm.1, hm.2, rfl⟩

theorem le_last_of_pairwise (l : List Nat) (m : Nat) (hp : l.Pairwise (· < ·)) (hl : l.getLast? = some m) :
    ∀ j ∈ l, j ≤ m := by
  induction l with
  | nil => simp
  | cons a rest ih =>
    obtain ⟨ha, hr⟩ := List.pairwise_cons.1 hp
    intro j hj
    cases rest with
    | nil =>
      simp at hl hj
      omega
    | cons b rest' =>
      have hl' : (b :: rest').getLast? = some m := by simpa [List.getLast?_cons_cons] using hl
      rcases List.mem_cons.1 hj with rfl | hj'
      · have := ha m (List.mem_of_getLast? hl')
        omega
      · exact ih hr hl' j hj'

theorem pairwise_getElem? {α} {R : α → α → Prop} {l : List α} (h : l.Pairwise R) {i j : Nat} (hij : i < j) {a b : α}
    (hi : l[i]? = some a) (hj : l[j]? = some b) : R a b := by
  obtain ⟨hil, rfl⟩ := List.getElem?_eq_some_iff.1 hi
  obtain ⟨hjl, rfl⟩ := List.getElem?_eq_some_iff.1 hj
  exact List.pairwise_iff_getElem.1 h i j hil hjl hij

section ok
variable (s : Scn L) (hs : ScnOK s)
include hs

theorem ids_distinct_idx (i j : Nat) (hij : i < j) (hi : s.hasId i = true) : idOfIdx s i ≠ idOfIdx s j := by
  have hne := hasId_id_ne s i hi
  unfold idOfIdx at hne ⊢
  cases hj : s.items[j]? with
  | none => simpa [hj] using hne
  | some b =>
    cases hia : s.items[i]? with
    | none => simp [hia] at hne
    | some a =>
      simp only [hia, Option.map_some, Option.getD_some] at hne ⊢
      exact pairwise_getElem? hs.idsDistinct hij hia hj hne

theorem carries_hasId_or_noIds (j : Nat) (hc : carriesIdx s j = true) :
    s.hasId j = true ∨ ∀ it ∈ s.items, it.ev.id = [] := by
  unfold carriesIdx at hc
  cases hj : s.items[j]? with
  | none => simp [hj] at hc
  | some it =>
    simp only [hj] at hc
    have hmem : it ∈ s.items := List.mem_of_getElem? hj
    rcases hs.idsAllOrNone with h | h
    · left
      have hid := h it hmem hc
      have hraw : it.raw = false := by
        cases hr : it.raw with
        | false => rfl
        | true =>
          have := (hs.item it hmem).raw hr
          simp [carries, this] at hc
      simp [Scn.hasId, hj, hraw, hid]
    · right; exact h

theorem reply_unique (i j : Nat) (hi : replyIdx s i = true) (hj : replyIdx s j = true) : i = j := by
  have key : ∀ i j, i < j → replyIdx s i = true → replyIdx s j = true → False := by
    intro i j hij hi hj
    unfold replyIdx at hi hj
    cases hia : s.items[i]? with
    | none => simp [hia] at hi
    | some a =>
      cases hjb : s.items[j]? with
      | none => simp [hjb] at hj
      | some b =>
        simp only [hia, hjb] at hi hj
        have hcf := pairwise_getElem? hs.replyLast hij hia hjb hi
        have hl := (hs.item _ (List.mem_of_getElem? hjb)).lab
        rw [hcf, hj] at hl
        simp at hl
  rcases Nat.lt_trichotomy i j with h | h | h
  · exact (key i j h hi hj).elim
  · exact h
  · exact (key j i h hj hi).elim

theorem gotReply_eq_any (ex : List Exch) : gotReply s ex = (gotOf ex).any (replyIdx s) := by
  unfold gotReply
  cases hf : s.items.findIdx? (fun it => s.lab.isReply it.label) with
  | none =>
    rw [List.findIdx?_eq_none_iff] at hf
    symm
    rw [List.any_eq_false]
    intro i _
    unfold replyIdx
    cases hi : s.items[i]? with
    | none => simp
    | some it => simpa using hf it (List.mem_of_getElem? hi)
  | some i0 =>
    simp only
    obtain ⟨hlt, hp, _⟩ := List.findIdx?_eq_some_iff_getElem.1 hf
    have h0 : replyIdx s i0 = true := by simp [replyIdx, List.getElem?_eq_getElem hlt, hp]
    cases hany : (gotOf ex).any (replyIdx s) with
    | true =>
      obtain ⟨i, hi, hri⟩ := List.any_eq_true.1 hany
      have := reply_unique s hs i i0 hri h0
      subst this
      simpa using hi
    | false =>
      rw [List.any_eq_false] at hany
      cases hc : (gotOf ex).contains i0 with
      | false => rfl
      | true =>
        have := hany i0 (by simpa using hc)
        exact absurd h0 this

theorem noReply_sa (hsa : s.sa = true) (i : Nat) : replyIdx s i = false := by
  unfold replyIdx
  cases hi : s.items[i]? with
  | none => rfl
  | some it => exact (hs.item it (List.mem_of_getElem? hi)).noReplySa hsa

end ok

/-- what the monitor books for a 200 exchange served from item `f` and cut after `c` bytes -/
def okExch (s : Scn L) (f c : Nat) (t : Term) (tE : Nat) : Exch :=
  { kind := .ok c t, from_ := some f, complete := idxOf s f c, tEnd := tE }

theorem keepCursor_cfg (s : Scn L) : s.cfg.keepCursor = true := rfl

/-- One 200 body, served from item `f` and cut after `c` bytes, re-establishes `PhaseRel` and the list
facts of `SimInv` (`valid`, `incC`, `incI`, `msgs`; here `M` is the list of messages delivered so far)
for the history extended by that exchange.  `hfr`: the server resumed beyond everything received.
`hopen`: the body of a call's stream ends — one of the environment hypotheses of `ValidCase`. -/
theorem body_rel (s : Scn L) (hs : ScnOK s) (ex : List Exch) (M : List L) (retries f c : Nat) (t : Term) (tE : Nat)
    (hvalid : ∀ i ∈ gotOf ex, i < s.items.length)
    (hincC : ((gotOf ex).filter (carriesIdx s)).Pairwise (· < ·))
    (hincI : ((gotOf ex).filter s.hasId).Pairwise (· < ·))
    (hmsgs : M.filter s.lab.isNotif = labelsOf s (gotOf ex))
    (hret : retries = fruitlessOf s ex)
    (hst : ex.any (·.isSt) = false)
    (hrep : gotReply s ex = false)
    (hfr : Frontier s (gotOf ex) f)
    (hopen : s.sa = false → t ≠ .open) :
    PhaseRel s (ex ++ [okExch s f c t tE])
      (afterBody s.cfg (cursorOf s ex) retries
        (processBody s.cfg (cursorOf s ex) (scanBytes ((bodyFrom s.items f).take c) t))) ∧
    (∀ i ∈ gotOf (ex ++ [okExch s f c t tE]), i < s.items.length) ∧
    ((gotOf (ex ++ [okExch s f c t tE])).filter (carriesIdx s)).Pairwise (· < ·) ∧
    ((gotOf (ex ++ [okExch s f c t tE])).filter s.hasId).Pairwise (· < ·) ∧
    (M ++ (processBody s.cfg (cursorOf s ex) (scanBytes ((bodyFrom s.items f).take c) t)).msgs).filter s.lab.isNotif =
      labelsOf s (gotOf (ex ++ [okExch s f c t tE])) := by
  obtain ⟨hm, hR, hN⟩ := processBody_exchange s hs (cursorOf s ex) f c t
  generalize processBody s.cfg (cursorOf s ex) (scanBytes ((bodyFrom s.items f).take c) t) = b at hm hR hN
  have hgot : gotOf (ex ++ [okExch s f c t tE]) = gotOf ex ++ idxOf s f c := gotOf_snoc ex _
  have hidx := idxOf_mem s f c
  have hinc : ∀ (p : Nat → Bool), (∀ j ∈ gotOf ex, p j = true → j < f) → ((gotOf ex).filter p).Pairwise (· < ·) →
      ((gotOf ex ++ idxOf s f c).filter p).Pairwise (· < ·) := by
    intro p hp h1
    rw [List.filter_append, List.pairwise_append]
    refine ⟨h1, by rw [idxOf_eq]; exact pairwise_range'_filter p _ _, ?_⟩
    intro a ha b' hb
    rw [List.mem_filter] at ha hb
    have := hp a ha.1 ha.2
    have := (hidx b' hb.1).1
    omega
  -- the reply flag in the monitor's terms
  have hanyR : (idxOf s f c).any (replyIdx s) = (sliceOf s f c).any (fun it => s.lab.isReply it.label) :=
    (any_itemsAt s (fun it => s.lab.isReply it.label) _).trans (by rw [itemsAt_idxOf])
  have hrep' : gotReply s (ex ++ [okExch s f c t tE]) = (sliceOf s f c).any (fun it => s.lab.isReply it.label) := by
    rw [gotReply_eq_any s hs, hgot, List.any_append, ← gotReply_eq_any s hs, hrep, hanyR]; rfl
  refine ⟨?_, ?_, ?_, ?_, ?_⟩
  ·
    cases hr : slReplies s (sliceOf s f c) with
    | true =>
      simp only [slReplies, Bool.and_eq_true, Bool.not_eq_true'] at hr
      simp only [afterBody, hR (by simp [slReplies, hr.1, hr.2])]
      exact ⟨hr.1, by rw [hrep']; exact hr.2⟩
    | false =>
      obtain ⟨hfin, hlast, hhint⟩ := hN hr
      have hnoR : gotReply s (ex ++ [okExch s f c t tE]) = false := by
        rw [hrep']
        cases hsa : s.sa with
        | false => simpa [slReplies, hsa] using hr
        | true =>
          rw [← hanyR, List.any_eq_false]
          intro i _
          simp [noReply_sa s hs hsa i]
      by_cases hto : t = .open
      · rw [if_pos hto] at hfin
        simp only [afterBody, hfin]
        show s.sa = true
        cases hsa : s.sa with
        | true => rfl
        | false => exact absurd hto (hopen hsa)
      · rw [if_neg hto] at hfin
        have hbl : b.lastID = lastIdIdx s (cursorOf s ex) (idxOf s f c) := by
          rw [hlast, lastIdIdx_items s hs, itemsAt_idxOf]
        have hcur : b.lastID = cursorOf s (ex ++ [okExch s f c t tE]) := by
          rw [cursorOf_snoc_lastIdIdx]; exact hbl
        have hhint' : b.hint = lastHint s (ex ++ [okExch s f c t tE]) := by
          rw [hhint, lastHint_snoc, ← itemsAt_idxOf, ← hintOfIdx_items s hs]; rfl
        have htt : trailingTerr (ex ++ [okExch s f c t tE]) = 0 := by rw [trailingTerr_snoc]; rfl
        have hst' : (ex ++ [okExch s f c t tE]).any (·.isSt) = false := by rw [anySt_snoc, hst]; rfl
        have hfru : fruitlessOf s (ex ++ [okExch s f c t tE]) =
            if (idxOf s f c).any s.hasId then 0 else fruitlessOf s ex + 1 := by
          rw [fruitlessOf_snoc]
          show (if (okExch s f c t tE).isTerr = true then _ else _) = _
          simp only [okExch, Exch.isTerr, Exch.isOk, Bool.false_eq_true, if_false, Bool.true_and]
          cases (idxOf s f c).any s.hasId <;> simp
        -- progress iff a completely received event carried an id
        have hprog : (idxOf s f c).any s.hasId = true → b.lastID ≠ [] ∧ b.lastID ≠ cursorOf s ex := by
          intro hany
          obtain ⟨i, hi, hid, he⟩ := lastIdIdx_someId s (cursorOf s ex) _ hany
          rw [hbl, he]
          refine ⟨hasId_id_ne s i hid, ?_⟩
          rcases cursor_cases s ex with h0 | ⟨ci, _, hci, hcid, hce⟩
          · rw [h0]; exact hasId_id_ne s i hid
          · rw [← hce]
            have h1 := hfr ci hci (.inr hcid)
            have h2 := (hidx i hi).1
            exact (ids_distinct_idx s hs ci i (by omega) hcid).symm
        have hnoprog : (idxOf s f c).any s.hasId = false → b.lastID = cursorOf s ex := by
          intro hany
          rw [hbl]; exact lastIdIdx_noId s _ _ hany
        simp only [afterBody, hfin]
        by_cases h1 : b.lastID = [] ∧ s.cfg.forCall = true
        · rw [if_pos h1]
          have hsa : s.sa = false := by have := h1.2; simpa [Scn.cfg] using this
          exact ⟨hsa, by rw [← hcur]; exact h1.1, hnoR⟩
        · rw [if_neg h1]
          have hne : s.sa = false → b.lastID ≠ [] := by
            intro hsa hnil
            exact h1 ⟨hnil, by simp [Scn.cfg, hsa]⟩
          by_cases h2 : b.lastID ≠ [] ∧ b.lastID ≠ cursorOf s ex
          · rw [if_pos h2]
            have hany : (idxOf s f c).any s.hasId = true := by
              cases h : (idxOf s f c).any s.hasId with
              | true => rfl
              | false => exact absurd (hnoprog h) h2.2
            by_cases h3 : s.cfg.maxRetries = 0
            · rw [if_pos h3]
              exact ⟨hnoR, .inl h3⟩
            · rw [if_neg h3]
              have h3' : s.mr ≠ 0 := h3
              refine ⟨hcur, rfl, ?_, ?_, fun _ => hhint', hst', hne, Nat.zero_le _, ?_, hnoR⟩
              · rw [hfru, hany]; rfl
              · rw [htt]
              · omega
          · rw [if_neg h2]
            have hany : (idxOf s f c).any s.hasId = false := by
              cases h : (idxOf s f c).any s.hasId with
              | false => rfl
              | true => exact absurd (hprog h) h2
            have hfru' : fruitlessOf s (ex ++ [okExch s f c t tE]) = retries + 1 := by
              rw [hfru, hany, hret]; rfl
            by_cases h3 : retries + 1 > s.cfg.maxRetries
            · rw [if_pos h3]
              exact ⟨hnoR, by rw [hfru']; exact h3⟩
            · rw [if_neg h3]
              have h3' : retries + 1 ≤ s.mr := Nat.le_of_not_gt h3
              refine ⟨hcur, (hnoprog hany).symm, hfru'.symm, ?_, fun _ => hhint', hst', hne, h3', ?_, hnoR⟩
              · rw [htt]
              · omega
  · intro i hi
    rw [hgot, List.mem_append] at hi
    rcases hi with hi | hi
    · exact hvalid i hi
    · exact (hidx i hi).2
  · rw [hgot]; exact hinc _ (fun j hj hp => hfr j hj (.inl hp)) hincC
  · rw [hgot]; exact hinc _ (fun j hj hp => hfr j hj (.inr hp)) hincI
  · rw [List.filter_append, hmsgs, hm, hgot, labelsOf_append, labelsOf_items s hs (idxOf s f c), itemsAt_idxOf]

end ClientStream
