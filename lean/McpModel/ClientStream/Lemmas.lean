import McpModel.ClientStream.Model
import McpModel.Wire.LemmasFrame
/-!
Helper lemmas for E6 (C09): line splitting of byte prefixes, the scanner on complete and partial
blocks, `processItems` over concatenations and over completely received events (`processBody_complete`).
-/
namespace ClientStream
open Generated.ClientStream

/-- The model's line splitter is the one of the wire engine (and `serializeLines` is `Wire.frame`, by `rfl`): its lemmas
are those of `Wire/LemmasFrame.lean`. -/
theorem splitLines_eq_wire (bs : Bytes) : splitLines bs = Wire.splitLines bs := by
  induction bs with
  | nil => rfl
  | cons b t ih => simp only [splitLines, Wire.splitLines, ih]; rfl

theorem splitLines_noNl (t : Bytes) (h : nl ∉ t) : splitLines t = ([], t) :=
  splitLines_eq_wire t ▸ Wire.L.splitLines_of_noLF t h

theorem splitLines_line (l r : Bytes) (h : nl ∉ l) :
    splitLines (l ++ nl :: r) = (l :: (splitLines r).1, (splitLines r).2) := by
  simp only [splitLines_eq_wire]; exact Wire.L.splitLines_line l r h

theorem splitLines_serialize (ls : List Bytes) (h : ∀ l ∈ ls, nl ∉ l) (r : Bytes) :
    splitLines (serializeLines ls ++ r) = (ls ++ (splitLines r).1, (splitLines r).2) := by
  simp only [splitLines_eq_wire]; exact Wire.L.splitLines_frame_append ls r h

/-- What may follow the events that are wholly contained in a prefix: at most one further event,
flagged unterminated, only at a clean end of input; and the end of the body is never "corruption". -/
structure Tail (out : ScanOut) (t : Term) : Prop where
  unterminated : ∀ i ∈ out.items, i.terminated = false
  atMostOne : out.items.length ≤ 1
  onlyAtEOF : out.items ≠ [] → t = .eof
  finErr : t = .err → out.fin = .readErr
  finOpen : t = .open → out.fin = .stillOpen
  finEOF : t = .eof → out.fin = .clean ∨ out.fin = .malformed true

theorem tail_dispatch (c : Cur) : Tail ⟨dispatch c false, .clean⟩ .eof := by
  unfold dispatch
  split <;> constructor <;> simp

theorem scanFrom_end (c : Cur) (tail : Bytes) (t : Term) : Tail (scanFrom c [] tail t) t := by
  cases t with
  | err => constructor <;> simp [scanFrom]
  | «open» => constructor <;> simp [scanFrom]
  | eof =>
    simp only [scanFrom]
    split
    · exact tail_dispatch c
    · split
      · constructor <;> simp
      · exact tail_dispatch _

theorem goodLine_iff (l : Bytes) :
    goodLine l = true ↔ nl ∉ l ∧ trimEOL l ≠ [] ∧ (cutColon (trimEOL l)).isSome = true := by
  simp [goodLine, and_assoc]

theorem fieldLine_isSome (c : Cur) (l : Bytes) (h : (cutColon l).isSome = true) :
    ∃ c', fieldLine c l = some c' := by
  unfold fieldLine
  cases hc : cutColon l with
  | none => simp [hc] at h
  | some kv => exact ⟨_, rfl⟩

theorem scanFrom_good (c : Cur) (l : Bytes) (ls : List Bytes) (tail : Bytes) (t : Term)
    (hg : goodLine l = true) :
    ∃ c', fieldLine c (trimEOL l) = some c' ∧ scanFrom c (l :: ls) tail t = scanFrom c' ls tail t := by
  obtain ⟨_, hne, hc⟩ := (goodLine_iff l).1 hg
  obtain ⟨c', hc'⟩ := fieldLine_isSome c _ hc
  refine ⟨c', hc', ?_⟩
  simp [scanFrom, hne, hc']

theorem curOf_good (c : Cur) (l : Bytes) (b : Block) (c' : Cur)
    (h : fieldLine c (trimEOL l) = some c') : curOf c (l :: b) = curOf c' b := by
  simp [curOf, h]

theorem scanFrom_block (c : Cur) (b : Block) (ls : List Bytes) (tail : Bytes) (t : Term)
    (hb : ∀ l ∈ b, goodLine l = true) :
    scanFrom c (b ++ [] :: ls) tail t =
      ⟨dispatch (curOf c b) true ++ (scanFrom {} ls tail t).items, (scanFrom {} ls tail t).fin⟩ := by
  induction b generalizing c with
  | nil => simp [scanFrom, curOf, trimEOL, dropTrailing]
  | cons l b ih =>
    obtain ⟨c', hc', hs⟩ := scanFrom_good c l (b ++ [] :: ls) tail t (hb l (List.mem_cons_self ..))
    rw [List.cons_append, hs, ih c' (fun x hx => hb x (List.mem_cons_of_mem _ hx)), curOf_good c l b c' hc']

theorem scanFrom_partial (c : Cur) (b : Block) (hb : ∀ l ∈ b, goodLine l = true) (n : Nat)
    (hn : n < (serializeLines (blockLines b)).length) (t : Term) :
    Tail (scanFrom c (splitLines ((serializeLines (blockLines b)).take n)).1
            (splitLines ((serializeLines (blockLines b)).take n)).2 t) t := by
  induction b generalizing c n with
  | nil =>
    have : n = 0 := by simp [blockLines, serializeLines] at hn; omega
    subst this
    simpa [splitLines] using scanFrom_end c [] t
  | cons l b ih =>
    have hgl := hb l (List.mem_cons_self ..)
    obtain ⟨hnl, _, _⟩ := (goodLine_iff l).1 hgl
    have hser : serializeLines (blockLines (l :: b)) = l ++ nl :: serializeLines (blockLines b) := by
      simp [blockLines, serializeLines]
    rw [hser] at hn ⊢
    by_cases hle : n ≤ l.length
    · -- the cut is inside (or right after) the first line
      rw [List.take_append_of_le_length hle]
      have hnl' : nl ∉ l.take n := fun m => hnl (List.mem_of_mem_take m)
      rw [splitLines_noNl _ hnl']
      exact scanFrom_end c _ t
    · have hgt : l.length < n := Nat.lt_of_not_le hle
      have e : (l ++ nl :: serializeLines (blockLines b)).take n =
          l ++ nl :: (serializeLines (blockLines b)).take (n - l.length - 1) := by
        rw [List.take_append, List.take_of_length_le (Nat.le_of_lt hgt)]
        congr 1
        obtain ⟨m, hm⟩ : ∃ m, n - l.length = m + 1 := ⟨n - l.length - 1, by omega⟩
        rw [hm]; simp
      rw [e, splitLines_line _ _ hnl]
      obtain ⟨c', _, hs⟩ := scanFrom_good c l
        (splitLines ((serializeLines (blockLines b)).take (n - l.length - 1))).1
        (splitLines ((serializeLines (blockLines b)).take (n - l.length - 1))).2 t hgl
      simp only
      rw [hs]
      apply ih c' (fun x hx => hb x (List.mem_cons_of_mem _ hx))
      simp at hn; omega

theorem serialize_cons (b : Block) (bs : List Block) :
    serialize (b :: bs) = serializeLines (blockLines b) ++ serialize bs := by
  simp [serialize, streamLines, serializeLines]

theorem blockLen_eq (b : Block) : blockLen b = (serializeLines (blockLines b)).length := by
  simp [blockLen, serialize, streamLines]

theorem blockLines_noNl (b : Block) (hb : ∀ l ∈ b, goodLine l = true) : ∀ l ∈ blockLines b, nl ∉ l := by
  intro l hl
  simp only [blockLines, List.mem_append, List.mem_singleton] at hl
  rcases hl with h | h
  · exact ((goodLine_iff l).1 (hb l h)).1
  · subst h; simp

theorem eventsOf_cons (b : Block) (bs : List Block) :
    eventsOf (b :: bs) = (if (eventOf b).isEmpty then [] else [eventOf b]) ++ eventsOf bs := by
  unfold eventsOf
  by_cases h : (eventOf b).isEmpty <;> simp [h]

theorem dispatch_eventOf (b : Block) :
    dispatch (curOf {} b) true = (if (eventOf b).isEmpty then [] else [eventOf b]).map (fun e => ⟨e, true⟩) := by
  unfold dispatch eventOf
  split <;> simp

/-- read in `Props.lean`, where it is the property `scan_prefix_terminated_are_complete` -/
theorem scan_prefix (blocks : List Block) (hg : ∀ b ∈ blocks, ∀ l ∈ b, goodLine l = true) (n : Nat) (t : Term) :
    ∃ rest fin,
      scanBytes ((serialize blocks).take n) t =
        ⟨(eventsOf (blocks.take (completeCount blocks n))).map (fun e => ⟨e, true⟩) ++ rest, fin⟩ ∧
      Tail ⟨rest, fin⟩ t := by
  induction blocks generalizing n with
  | nil =>
    refine ⟨(scanFrom {} [] [] t).items, (scanFrom {} [] [] t).fin, ?_, scanFrom_end {} [] t⟩
    simp [scanBytes, serialize, streamLines, serializeLines, splitLines, completeCount, eventsOf]
  | cons b bs ih =>
    have hb : ∀ l ∈ b, goodLine l = true := hg b (List.mem_cons_self ..)
    have hbs : ∀ b' ∈ bs, ∀ l ∈ b', goodLine l = true := fun b' h' => hg b' (List.mem_cons_of_mem _ h')
    rw [serialize_cons]
    by_cases hle : blockLen b ≤ n
    · -- the whole block lies inside the prefix
      obtain ⟨rest, fin, hscan, htail⟩ := ih hbs (n - blockLen b)
      refine ⟨rest, fin, ?_, htail⟩
      have e : (serializeLines (blockLines b) ++ serialize bs).take n =
          serializeLines (blockLines b) ++ (serialize bs).take (n - blockLen b) := by
        rw [List.take_append, List.take_of_length_le (by rw [← blockLen_eq]; exact hle), blockLen_eq]
      unfold scanBytes at hscan ⊢
      rw [e, splitLines_serialize _ (blockLines_noNl b hb)]
      simp only [blockLines, List.append_assoc, List.singleton_append]
      rw [scanFrom_block _ _ _ _ _ hb, hscan]
      simp [completeCount, hle, eventsOf_cons, dispatch_eventOf]
    · -- the prefix ends inside this block
      have hlt : n < (serializeLines (blockLines b)).length := by rw [← blockLen_eq]; omega
      refine ⟨_, _, ?_, scanFrom_partial {} b hb n hlt t⟩
      unfold scanBytes
      rw [List.take_append_of_le_length (Nat.le_of_lt hlt)]
      simp [completeCount, hle, eventsOf]

/-- how the scanner reports the end of a body that ended between events -/
def endOf : Term → ScanEnd
  | .eof => .clean
  | .err => .readErr
  | .open => .stillOpen

def terminatedItems (es : List Event) : List Item := es.map (fun e => ⟨e, true⟩)

/-- the events of the blocks wholly contained in the first `n` bytes of the stream -/
def completeEvents (blocks : List Block) (n : Nat) : List Event :=
  eventsOf (blocks.take (completeCount blocks n))

/-- the id of the last event that has one (`resume` if none has) -/
def lastIdOf (resume : Bytes) (es : List Event) : Bytes :=
  es.foldl (fun acc e => if e.id = [] then acc else e.id) resume

/-- The messages the session must see for a list of completely received events: each event that
carries a message (non-empty data, name "" or "message") contributes its decoded message, once, in
order; nothing after the pending call's own response (or after an undecodable event: the connection
is failed there). -/
def specMsgs {M} (cfg : Cfg M) : List Event → List M
  | [] => []
  | e :: es =>
    if e.data = [] then specMsgs cfg es
    else if e.name ≠ [] ∧ e.name ≠ messageName then specMsgs cfg es
    else match cfg.decode e.data with
      | none => []
      | some m => if cfg.forCall && cfg.isReply m then [m] else m :: specMsgs cfg es

/-- processing stops inside these events: they contain the call's response or an undecodable event -/
def stops {M} (cfg : Cfg M) : List Event → Bool
  | [] => false
  | e :: es =>
    if e.data = [] then stops cfg es
    else if e.name ≠ [] ∧ e.name ≠ messageName then stops cfg es
    else match cfg.decode e.data with
      | none => true
      | some m => if cfg.forCall && cfg.isReply m then true else stops cfg es

/-- `specMsgs`, `stops` and `processItems` look at an event in the same way; `payload` names what they find. -/
inductive Payload (M : Type) where
  /-- no data, or an event name other than "message": nothing to forward -/
  | none
  | undecodable
  | reply (m : M)
  | msg (m : M)

def payload {M} (cfg : Cfg M) (e : Event) : Payload M :=
  if e.data = [] then .none
  else if e.name ≠ [] ∧ e.name ≠ messageName then .none
  else match cfg.decode e.data with
    | none => .undecodable
    | some m => if cfg.forCall && cfg.isReply m then .reply m else .msg m

theorem payload_elim {M α} (cfg : Cfg M) (e : Event) (x u : α) (r m : M → α) :
    (if e.data = [] then x
     else if e.name ≠ [] ∧ e.name ≠ messageName then x
     else match cfg.decode e.data with
       | none => u
       | some v => if cfg.forCall && cfg.isReply v then r v else m v) =
      match payload cfg e with
      | .none => x
      | .undecodable => u
      | .reply v => r v
      | .msg v => m v := by
  unfold payload
  by_cases h1 : e.data = []
  · rw [if_pos h1, if_pos h1]
  · by_cases h2 : e.name ≠ [] ∧ e.name ≠ messageName
    · rw [if_neg h1, if_neg h1, if_pos h2, if_pos h2]
    · rw [if_neg h1, if_neg h1, if_neg h2, if_neg h2]
      cases cfg.decode e.data with
      | none => rfl
      | some v => dsimp only; cases (cfg.forCall && cfg.isReply v) <;> rfl

theorem specMsgs_cons {M} (cfg : Cfg M) (e : Event) (es : List Event) :
    specMsgs cfg (e :: es) =
      match payload cfg e with
      | .none => specMsgs cfg es
      | .undecodable => []
      | .reply m => [m]
      | .msg m => m :: specMsgs cfg es :=
  payload_elim cfg e _ _ _ _

theorem stops_cons {M} (cfg : Cfg M) (e : Event) (es : List Event) :
    stops cfg (e :: es) =
      match payload cfg e with
      | .none => stops cfg es
      | .undecodable => true
      | .reply _ => true
      | .msg _ => stops cfg es :=
  payload_elim cfg e _ _ _ _

/-- where the loop over complete events is left early: at the pending call's response, or at an undecodable event
(`stops` says whether) -/
def stopOf {M} (cfg : Cfg M) : List Event → Option BodyEnd
  | [] => none
  | e :: es =>
    match payload cfg e with
    | .none => stopOf cfg es
    | .undecodable => some (.failed .decode)
    | .reply _ => some .replied
    | .msg _ => stopOf cfg es

theorem stopOf_eq_none {M} (cfg : Cfg M) (es : List Event) : stopOf cfg es = none ↔ stops cfg es = false := by
  induction es with
  | nil => exact ⟨fun _ => rfl, fun _ => rfl⟩
  | cons e es ih =>
    rw [stopOf, stops_cons]
    cases payload cfg e with
    | none => exact ih
    | undecodable => exact ⟨nofun, nofun⟩
    | reply m => exact ⟨nofun, nofun⟩
    | msg m => exact ih

def hintStep (h : Int) (e : Event) : Int := if e.retry = [] then h else (parseInt64 e.retry).getD h
def hintFold (h : Int) (es : List Event) : Int := es.foldl hintStep h

theorem noteEvent_hint {M} (a : Acc M) (e : Event) : (noteEvent a e).hint = hintStep a.hint e := by
  unfold noteEvent hintStep
  simp only
  split
  · rfl
  · cases parseInt64 e.retry <;> rfl

/-- With `dropUnterminated`, an unterminated item ends the loop: nothing of it is delivered. -/
theorem processItems_dropped {M} (cfg : Cfg M) (a : Acc M) (it : Item) (rest : List Item)
    (h : (cfg.dropUnterminated && !it.terminated) = true) : processItems cfg a (it :: rest) = (a, some .interrupted) := by
  rw [processItems, if_pos h]

theorem processItems_kept {M} (cfg : Cfg M) (a : Acc M) (it : Item) (rest : List Item)
    (h : (cfg.dropUnterminated && !it.terminated) = false) :
    processItems cfg a (it :: rest) =
      match payload cfg it.ev with
      | .none => processItems cfg (noteEvent a it.ev) rest
      | .undecodable => (noteEvent a it.ev, some (.failed .decode))
      | .reply m => ({ noteEvent a it.ev with msgs := (noteEvent a it.ev).msgs ++ [m] }, some .replied)
      | .msg m => processItems cfg { noteEvent a it.ev with msgs := (noteEvent a it.ev).msgs ++ [m] } rest := by
  rw [← payload_elim, processItems, if_neg (by rw [h]; nofun)]
  rfl

theorem terminatedItems_cons (e : Event) (es : List Event) :
    terminatedItems (e :: es) = ⟨e, true⟩ :: terminatedItems es := rfl

theorem processItems_append {M} (cfg : Cfg M) (a : Acc M) (xs ys : List Item) :
    processItems cfg a (xs ++ ys) =
      match processItems cfg a xs with
      | (a', some e) => (a', some e)
      | (a', none) => processItems cfg a' ys := by
  induction xs generalizing a with
  | nil => rfl
  | cons x xs ih =>
    rw [List.cons_append]
    cases h0 : (cfg.dropUnterminated && !x.terminated) with
    | true => rw [processItems_dropped cfg a x _ h0, processItems_dropped cfg a x _ h0]
    | false =>
      rw [processItems_kept cfg a x _ h0, processItems_kept cfg a x _ h0]
      cases payload cfg x.ev with
      | none => exact ih _
      | undecodable => rfl
      | reply m => rfl
      | msg m => exact ih _

theorem lastIdOf_cons (r : Bytes) (e : Event) (es : List Event) :
    lastIdOf r (e :: es) = lastIdOf (if e.id = [] then r else e.id) es := rfl

theorem processItems_terminated {M} (cfg : Cfg M) (a : Acc M) (es : List Event) (r : Acc M × Option BodyEnd)
    (hr : processItems cfg a (terminatedItems es) = r) :
    r.1.msgs = a.msgs ++ specMsgs cfg es ∧ r.2 = stopOf cfg es ∧
    (stopOf cfg es = none → r.1.lastID = lastIdOf a.lastID es ∧ r.1.hint = hintFold a.hint es) := by
  subst hr
  induction es generalizing a with
  | nil => exact ⟨(List.append_nil _).symm, rfl, fun _ => ⟨rfl, rfl⟩⟩
  | cons e es ih =>
    rw [terminatedItems_cons, processItems_kept _ _ _ _ (Bool.and_false _), specMsgs_cons, stopOf, lastIdOf_cons,
      hintFold, List.foldl_cons, ← noteEvent_hint]
    cases payload cfg e with
    | none => exact ih (noteEvent a e)
    | undecodable => exact ⟨(List.append_nil _).symm, rfl, nofun⟩
    | reply m => exact ⟨rfl, rfl, nofun⟩
    | msg m =>
      obtain ⟨h1, h2⟩ := ih { noteEvent a e with msgs := (noteEvent a e).msgs ++ [m] }
      exact ⟨by rw [h1, List.append_assoc]; rfl, h2⟩

theorem bodyEnd_tail {M} (cfg : Cfg M) (hd : cfg.dropUnterminated = true) (rest : List Item) (fin : ScanEnd) (t : Term)
    (ht : Tail ⟨rest, fin⟩ t) (a : Acc M) :
    (processItems cfg a rest).1 = a ∧
    bodyEnd cfg (processItems cfg a rest).2 fin = bodyEnd cfg none (endOf t) := by
  have h1 := ht.atMostOne
  match rest, ht with
  | [], ht =>
    refine ⟨by simp [processItems], ?_⟩
    simp only [processItems]
    cases t with
    | err => have h := ht.finErr rfl; simp at h; simp [h, endOf]
    | «open» => have h := ht.finOpen rfl; simp at h; simp [h, endOf]
    | eof =>
      rcases ht.finEOF rfl with h | h <;> simp at h <;> simp [h, endOf, bodyEnd, hd]
  | [i], ht =>
    have hi : i.terminated = false := ht.unterminated i (by simp)
    have ht' : t = .eof := ht.onlyAtEOF (by simp)
    obtain ⟨e, f⟩ := i
    simp only at hi
    subst hi ht'
    rw [processItems_dropped _ _ _ _ (by rw [hd]; rfl)]
    simp [bodyEnd, endOf]
  | _ :: _ :: _, _ => simp at h1

/-- read in `Props.lean`, where it is the property `process_ignores_unterminated` -/
theorem processBody_prefix {M} (cfg : Cfg M) (hd : cfg.dropUnterminated = true) (resume : Bytes)
    (blocks : List Block) (hg : ∀ b ∈ blocks, ∀ l ∈ b, goodLine l = true) (n : Nat) (t : Term) :
    processBody cfg resume (scanBytes ((serialize blocks).take n) t) =
      processBody cfg resume ⟨terminatedItems (completeEvents blocks n), endOf t⟩ := by
  obtain ⟨rest, fin, hscan, htail⟩ := scan_prefix blocks hg n t
  rw [hscan]
  unfold processBody
  simp only [terminatedItems, completeEvents]
  rw [processItems_append]
  generalize processItems cfg { lastID := resume } ((eventsOf (blocks.take (completeCount blocks n))).map fun e => ⟨e, true⟩) = r
  obtain ⟨a', early⟩ := r
  cases early with
  | some e => simp [bodyEnd]
  | none =>
    obtain ⟨h1, h2⟩ := bodyEnd_tail cfg hd rest fin t htail a'
    simp only
    rw [h1, h2]

theorem specMsgs_append {M} (cfg : Cfg M) (es1 es2 : List Event) (h : stops cfg es1 = false) :
    specMsgs cfg (es1 ++ es2) = specMsgs cfg es1 ++ specMsgs cfg es2 := by
  induction es1 with
  | nil => rfl
  | cons e es ih =>
    rw [stops_cons] at h
    rw [List.cons_append, specMsgs_cons, specMsgs_cons]
    cases hp : payload cfg e with
    | none => rw [hp] at h; exact ih h
    | undecodable => rw [hp] at h; cases h
    | reply m => rw [hp] at h; cases h
    | msg m => rw [hp] at h; exact congrArg (m :: ·) (ih h)

theorem stops_append {M} (cfg : Cfg M) (es1 es2 : List Event) (h : stops cfg es1 = false) :
    stops cfg (es1 ++ es2) = stops cfg es2 := by
  induction es1 with
  | nil => rfl
  | cons e es ih =>
    rw [stops_cons] at h
    rw [List.cons_append, stops_cons]
    cases hp : payload cfg e with
    | none => rw [hp] at h; exact ih h
    | undecodable => rw [hp] at h; cases h
    | reply m => rw [hp] at h; cases h
    | msg m => rw [hp] at h; exact ih h

theorem eventsOf_append (a b : List Block) : eventsOf (a ++ b) = eventsOf a ++ eventsOf b := by
  simp [eventsOf]

theorem completeCount_le (bs : List Block) (n : Nat) : completeCount bs n ≤ bs.length := by
  induction bs generalizing n with
  | nil => simp [completeCount]
  | cons b bs ih =>
    simp only [completeCount]
    split
    · have := ih (n - blockLen b); simp; omega
    · simp

theorem lastIdOf_append (r : Bytes) (a b : List Event) : lastIdOf r (a ++ b) = lastIdOf (lastIdOf r a) b := by
  simp [lastIdOf, List.foldl_append]

theorem lastIdOf_eq_nil (r : Bytes) (es : List Event) (h : lastIdOf r es = []) : r = [] := by
  induction es generalizing r with
  | nil => simpa [lastIdOf] using h
  | cons e es ih =>
    rw [lastIdOf_cons] at h
    have := ih _ h
    by_cases he : e.id = []
    · simpa [he] using this
    · simp [he] at this

theorem lastIdOf_allIds (r r' : Bytes) (es : List Event) (hne : es ≠ []) (h : ∀ e ∈ es, e.id ≠ []) :
    lastIdOf r es = lastIdOf r' es := by
  induction es generalizing r r' with
  | nil => exact absurd rfl hne
  | cons e es ih =>
    have he : e.id ≠ [] := h e (List.mem_cons_self ..)
    simp [lastIdOf_cons, he]

theorem decode_eq_payload {M} (cfg : Cfg M) (e : Event) :
    (if e.data = [] ∨ (e.name ≠ [] ∧ e.name ≠ messageName) then none else cfg.decode e.data) =
      match payload cfg e with
      | .none => none
      | .undecodable => none
      | .reply m => some m
      | .msg m => some m := by
  unfold payload
  by_cases h1 : e.data = []
  · rw [if_pos (.inl h1), if_pos h1]
  · by_cases h2 : e.name ≠ [] ∧ e.name ≠ messageName
    · rw [if_pos (.inr h2), if_neg h1, if_pos h2]
    · rw [if_neg (not_or.2 ⟨h1, h2⟩), if_neg h1, if_neg h2]
      cases cfg.decode e.data with
      | none => rfl
      | some m => dsimp only; cases (cfg.forCall && cfg.isReply m) <;> rfl

theorem payload_decode {M} (cfg : Cfg M) (e : Event) (m : M) (h : payload cfg e = .reply m ∨ payload cfg e = .msg m) :
    cfg.decode e.data = some m := by
  have hd := decode_eq_payload cfg e
  have : (match payload cfg e with | .none => none | .undecodable => none | .reply m => some m | .msg m => some m) = some m := by
    rcases h with h | h <;> rw [h]
  rw [this] at hd
  split at hd
  · cases hd
  · exact hd

theorem payload_reply {M} (cfg : Cfg M) (e : Event) (m : M) (h : payload cfg e = .reply m) : cfg.isReply m = true := by
  have hd := payload_decode cfg e m (.inl h)
  unfold payload at h
  rw [hd] at h
  by_cases hr : (cfg.forCall && cfg.isReply m) = true
  · exact ((Bool.and_eq_true _ _).mp hr).2
  · simp only [hr] at h
    split at h
    · cases h
    · split at h <;> cases h

theorem stopOf_some {M} (cfg : Cfg M) (es : List Event) (e : BodyEnd) (h : stopOf cfg es = some e) :
    e = .replied ∧ (∃ m ∈ specMsgs cfg es, cfg.isReply m = true) ∨ e = .failed .decode := by
  induction es with
  | nil => cases h
  | cons e0 es ih =>
    rw [stopOf] at h
    rw [specMsgs_cons]
    cases hp : payload cfg e0 with
    | none => rw [hp] at h; exact ih h
    | undecodable => rw [hp] at h; exact .inr (Option.some.inj h).symm
    | reply m =>
      rw [hp] at h
      exact .inl ⟨(Option.some.inj h).symm, m, List.mem_singleton.2 rfl, payload_reply cfg e0 m hp⟩
    | msg m =>
      rw [hp] at h
      exact (ih h).imp_left fun ⟨he, m', hm', hr⟩ => ⟨he, m', List.mem_cons_of_mem _ hm', hr⟩

/-- The body loop on complete events `es`: it forwards `specMsgs cfg es`; if nothing stops it (`stopOf`: the
reply, or an undecodable payload) it ends as the body ends, holding the last id and the retry hint of
`es`; else it ends with what stopped it. -/
theorem processBody_complete {M} (cfg : Cfg M) (resume : Bytes) (es : List Event) (t : Term) (b : BodyOut M)
    (hb : processBody cfg resume ⟨terminatedItems es, endOf t⟩ = b) :
    b.msgs = specMsgs cfg es ∧
    (stopOf cfg es = none →
      b.fin = (if t = .open then .streaming else .interrupted) ∧ b.lastID = lastIdOf resume es ∧ b.hint = hintFold 0 es) ∧
    (∀ e, stopOf cfg es = some e → b.fin = e) := by
  subst hb
  obtain ⟨hm, hstop, hid⟩ := processItems_terminated cfg { lastID := resume } es _ rfl
  unfold processBody
  simp only
  generalize processItems cfg { lastID := resume } (terminatedItems es) = r at hm hstop hid
  obtain ⟨a, early⟩ := r
  dsimp only at hm hstop hid
  have hmsgs : ∀ e, (mkBody cfg a e).msgs = a.msgs := by intro e; cases e <;> rfl
  refine ⟨by rw [hmsgs, hm]; rfl, fun hs => ?_, fun e hs => ?_⟩
  · obtain ⟨h1, h2⟩ := hid hs
    rw [hs] at hstop; subst hstop
    cases t <;> exact ⟨rfl, h1, h2⟩
  · rw [hs] at hstop; subst hstop
    rcases stopOf_some cfg es e hs with ⟨rfl, _⟩ | rfl <;> rfl

end ClientStream
