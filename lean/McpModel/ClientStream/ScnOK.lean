import McpModel.ClientStream.Monitor
/-!
The hypotheses of the bridge theorem (`Bridge.lean`) on the scenario — what the scripted server owns.
They are decidable; the driver evaluates them on every `scn` record (`bad-scn` if one fails), so on
the records the driver accepts they hold.  Core Lean only (linked into the driver).
-/
namespace ClientStream
open Generated.ClientStream

variable {L : Type}

/-- the block (non-blank lines) an item's bytes consist of -/
def itemBlock (it : LItem L) : Block := (splitLines it.bytes).1.dropLast

/-- the item carries a message: `processStream` hands its data to the decoder -/
def carries (it : LItem L) : Bool :=
  decide (it.ev.data ≠ [] ∧ ¬ (it.ev.name ≠ [] ∧ it.ev.name ≠ messageName))

/-- a log item is what it says: its bytes are one well-formed block that denotes its event; it
carries a message iff it is labelled as one, and the message then decodes to its label -/
structure ItemOK (s : Scn L) (it : LItem L) : Prop where
  bytes : it.bytes = serializeLines (blockLines (itemBlock it))
  good : ∀ l ∈ itemBlock it, goodLine l = true
  ev : eventOf (itemBlock it) = it.ev
  raw : it.raw = true → it.ev = {}
  lab : carries it = (s.lab.isNotif it.label || s.lab.isReply it.label)
  dec : carries it = true → s.cfg.decode it.ev.data = some it.label
  noReplySa : s.sa = true → s.lab.isReply it.label = false

/-- the scenarios the bridge covers: a scripted server whose event ids are distinct and all-or-none (with an event store
every message has one, without one none has), raw items allowed — weaker than `Faithful` of the property theorems, in
which every event has an id -/
structure ScnOK (s : Scn L) : Prop where
  item : ∀ it ∈ s.items, ItemOK s it
  idsDistinct : s.items.Pairwise (fun a b => a.ev.id ≠ [] → a.ev.id ≠ b.ev.id)
  /-- a server with an event store gives every message an id; one without gives none -/
  idsAllOrNone : (∀ it ∈ s.items, carries it = true → it.ev.id ≠ []) ∨ (∀ it ∈ s.items, it.ev.id = [])
  /-- nothing follows the call's response on its stream -/
  replyLast : s.items.Pairwise (fun a b => s.lab.isReply a.label = true → carries b = false)

theorem itemOK_iff (s : Scn L) (it : LItem L) :
    ItemOK s it ↔
      (it.bytes = serializeLines (blockLines (itemBlock it)) ∧ (∀ l ∈ itemBlock it, goodLine l = true) ∧
       eventOf (itemBlock it) = it.ev ∧ (it.raw = true → it.ev = {}) ∧
       carries it = (s.lab.isNotif it.label || s.lab.isReply it.label) ∧
       (carries it = true → s.cfg.decode it.ev.data = some it.label) ∧
       (s.sa = true → s.lab.isReply it.label = false)) :=
  ⟨fun h => ⟨h.bytes, h.good, h.ev, h.raw, h.lab, h.dec, h.noReplySa⟩,
   fun ⟨a, b, c, d, e, f, g⟩ => ⟨a, b, c, d, e, f, g⟩⟩

instance [DecidableEq L] (s : Scn L) (it : LItem L) : Decidable (ItemOK s it) :=
  decidable_of_iff _ (itemOK_iff s it).symm

theorem scnOK_iff (s : Scn L) :
    ScnOK s ↔
      ((∀ it ∈ s.items, ItemOK s it) ∧
       s.items.Pairwise (fun a b => a.ev.id ≠ [] → a.ev.id ≠ b.ev.id) ∧
       ((∀ it ∈ s.items, carries it = true → it.ev.id ≠ []) ∨ (∀ it ∈ s.items, it.ev.id = [])) ∧
       s.items.Pairwise (fun a b => s.lab.isReply a.label = true → carries b = false)) :=
  ⟨fun h => ⟨h.item, h.idsDistinct, h.idsAllOrNone, h.replyLast⟩, fun ⟨a, b, c, d⟩ => ⟨a, b, c, d⟩⟩

instance [DecidableEq L] (s : Scn L) : Decidable (ScnOK s) :=
  decidable_of_iff _ (scnOK_iff s).symm

end ClientStream
