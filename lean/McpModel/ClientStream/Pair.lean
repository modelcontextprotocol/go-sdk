/-!
Two call streams of one connection cut at once (harness axis `bg=call`): the SECOND stream's part of the property,
as a typed monitor on what the harness saw of it.  The stream under test keeps its own model and monitor
(`ClientStream.run`, `monStep`): the streams of a connection share nothing, so its run is the same function of its own
exchanges whatever the other stream does.  Core Lean only.
-/
namespace ClientStream

/-- what the session got from the second stream: the notifications handed to the handler, in order, and how the
second call ended (`true`: with the second call's own response) -/
structure BgObs where
  got : List String
  own : Bool
  deriving DecidableEq, Repr

inductive BgClause
  | order   -- a message of the second stream was lost, duplicated, reordered, or a foreign one was delivered under its labels
  | reply   -- the second call did not complete with its own response
  deriving DecidableEq, Repr

/-- C09 for the second stream: every message the server sent on it reached the session exactly once, in order (so no
event of a resumed GET went to the other call), and the call completed with its own response -/
def BgSpec (sent : List String) (o : BgObs) : Prop := o.got = sent ∧ o.own = true

instance (sent : List String) (o : BgObs) : Decidable (BgSpec sent o) := by unfold BgSpec; infer_instance

def bgMon (sent : List String) (o : BgObs) : Option BgClause :=
  if o.got ≠ sent then some .order else if o.own ≠ true then some .reply else none

theorem bgMon_none_iff (sent : List String) (o : BgObs) : bgMon sent o = none ↔ BgSpec sent o := by
  unfold bgMon BgSpec
  by_cases h1 : o.got = sent <;> by_cases h2 : o.own = true <;> simp [h1, h2]

theorem sound_bgOrder (sent : List String) (o : BgObs) (h : bgMon sent o = some .order) : o.got ≠ sent := by
  unfold bgMon at h; split at h <;> simp_all

theorem sound_bgReply (sent : List String) (o : BgObs) (h : bgMon sent o = some .reply) : o.got = sent ∧ o.own = false := by
  unfold bgMon at h
  split at h
  · simp at h
  · split at h <;> simp_all

theorem bgMon_accepts_faithful (sent : List String) : bgMon sent { got := sent, own := true } = none := by
  simp [bgMon]

end ClientStream
