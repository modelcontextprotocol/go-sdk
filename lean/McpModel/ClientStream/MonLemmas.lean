import McpModel.ClientStream.Monitor
/-!
List lemmas about the bookkeeping of the C09 monitor (`Monitor.lean`): how each derived quantity
changes when one exchange is appended to the history.  Before them `ccount`, the number that
`completeIdx` lists (`completeIdx_eq`); at the end `isSublistInOrder_iff`: the order check of the
`delivered` record is `List.Sublist`.
-/
namespace ClientStream

variable {L : Type}

/-- number of leading items whose bytes all lie within the first `cut` bytes -/
def ccount : List (LItem L) → Nat → Nat
  | [], _ => 0
  | it :: rest, cut => if it.bytes.length ≤ cut then ccount rest (cut - it.bytes.length) + 1 else 0

theorem ccount_le (l : List (LItem L)) (c : Nat) : ccount l c ≤ l.length := by
  induction l generalizing c with
  | nil => simp [ccount]
  | cons it rest ih =>
    simp only [ccount]
    split
    · have := ih (c - it.bytes.length); simp; omega
    · simp

theorem completeIdx_eq (l : List (LItem L)) (i c : Nat) : completeIdx l i c = List.range' i (ccount l c) := by
  induction l generalizing i c with
  | nil => simp [completeIdx, ccount]
  | cons it rest ih =>
    simp only [completeIdx, ccount]
    split
    · rw [ih, List.range'_succ]
    · simp

theorem gotOf_snoc (ex : List Exch) (e : Exch) : gotOf (ex ++ [e]) = gotOf ex ++ e.complete := by
  simp [gotOf]

theorem trailingTerr_snoc (ex : List Exch) (e : Exch) :
    trailingTerr (ex ++ [e]) = if e.isTerr then trailingTerr ex + 1 else 0 := by
  unfold trailingTerr
  rw [List.reverse_append]
  simp only [List.reverse_cons, List.reverse_nil, List.nil_append, List.singleton_append, List.takeWhile_cons]
  split <;> simp

theorem fruitlessOf_snoc (s : Scn L) (ex : List Exch) (e : Exch) :
    fruitlessOf s (ex ++ [e]) =
      if e.isTerr then fruitlessOf s ex
      else if e.isOk && !(e.complete.any s.hasId) then fruitlessOf s ex + 1 else 0 := by
  unfold fruitlessOf
  rw [List.reverse_append]
  simp [fruitlessGo]

theorem lastHint_snoc (s : Scn L) (ex : List Exch) (e : Exch) :
    lastHint s (ex ++ [e]) = if e.isOk then hintOfIdx s e.complete else lastHint s ex := by
  unfold lastHint
  rw [List.filter_append]
  by_cases h : e.isOk = true
  · simp [h]
  · simp [h]

theorem cursorOf_snoc (s : Scn L) (ex : List Exch) (e : Exch) :
    cursorOf s (ex ++ [e]) =
      match (e.complete.filter s.hasId).getLast? with
      | some i => (s.items[i]?).map (·.ev.id) |>.getD []
      | none => cursorOf s ex := by
  unfold cursorOf
  rw [gotOf_snoc, List.filter_append, List.getLast?_append]
  cases h : (e.complete.filter s.hasId).getLast? <;> simp

theorem lastIsStatus_snoc (ex : List Exch) (e : Exch) (c : Nat) :
    lastIsStatus (ex ++ [e]) c = (match e.kind with | .st c' => c == c' | _ => false) := by
  simp only [lastIsStatus, List.getLast?_concat]
  cases e.kind <;> rfl

theorem anySt_snoc (ex : List Exch) (e : Exch) : (ex ++ [e]).any (·.isSt) = (ex.any (·.isSt) || e.isSt) := by
  simp

theorem isSublistInOrder_iff [BEq L] [LawfulBEq L] (a b : List L) : isSublistInOrder a b = true ↔ a.Sublist b := by
  induction b generalizing a with
  | nil =>
    cases a with
    | nil => simp [isSublistInOrder]
    | cons x xs => simp [isSublistInOrder]
  | cons y ys ih =>
    cases a with
    | nil => simp [isSublistInOrder]
    | cons x xs =>
      simp only [isSublistInOrder]
      by_cases hxy : x = y
      · subst hxy
        simp only [beq_self_eq_true, if_true]
        rw [ih]
        exact ⟨fun h => h.cons_cons x, fun h => (List.cons_sublist_cons.1 h)⟩
      · have : (x == y) = false := by simpa using hxy
        simp only [this, Bool.false_eq_true, if_false]
        rw [ih]
        constructor
        · exact fun h => h.cons y
        · intro h
          cases h with
          | cons _ h => exact h
          | cons_cons _ h => exact absurd rfl hxy

end ClientStream
