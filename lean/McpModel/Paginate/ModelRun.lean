import McpModel.Paginate.Monitor
/-!
E13 (C17): the MODEL's side of a record, typed.  `modStep` replays one record on the model (`FS` with
its lazily rebuilt index, `paginate`; for the iterators the monitor's `pullMany`/`iterAll` of Monitor.lean run on the
model's server `modelOracle`, and `Model.drain` for a whole iteration against a script) and returns the same record
carrying the observation the MODEL makes.  The driver renders that observation and compares it with
the implementation's; `Accept.monitor_accepts_model` feeds it to the monitor.  The model never reads
the monitor's state.  Core Lean only (linked into the driver).
-/
namespace Paginate

/-- The model's part of one feature kind. -/
structure ModKind where
  fs : FS K String := FS.empty
  mit : Option (Iter K String DCur) := none   -- the open iterator
  script : Option Script := none               -- the list method is played by a scripted foreign server

structure ModState where
  p : Nat := Generated.Paginate.defaultPageSize
  tools : ModKind := {}
  prompts : ModKind := {}
  resources : ModKind := {}
  templates : ModKind := {}

def ModState.get (s : ModState) : Kind → ModKind
  | .tools => s.tools
  | .prompts => s.prompts
  | .resources => s.resources
  | .templates => s.templates

def ModState.set (s : ModState) (kind : Kind) (k : ModKind) : ModState :=
  match kind with
  | .tools => { s with tools := k }
  | .prompts => { s with prompts := k }
  | .resources => { s with resources := k }
  | .templates => { s with templates := k }

/-- The oracle the model server offers the model iterator. -/
def modelOracle (p : Nat) (fs : FS K String) : Nat → DCur → Res K String DCur :=
  fun _ c => (paginate dcodec p fs c).2

/-- The longest page of a script. -/
def maxPage : Script → Nat
  | [] => 0
  | (_, .page items _) :: r => max items.length (maxPage r)
  | _ :: r => maxPage r

/-- Pulls that suffice to drain an iteration against a script whose manual paging ends within
`sc.length + 2` requests (`Accept.drain_eq_manual_of_le`). -/
def scriptSteps (sc : Script) : Nat := (sc.length + 2) * maxPage sc + (sc.length + 2) + 1

/-- A whole iteration of the model iterator (a consumer that never breaks). -/
def drainAll (o : Nat → DCur → Res K String DCur) (cur : DCur) (steps : Nat) : IObs :=
  let r := drain DCur.nil o steps (Iter.start cur)
  ⟨r.1, endOf r.2⟩

/-- What the harness prints when `ipull` finds no open iterator. -/
def noIter : IObs := ⟨[], .other⟩

/-- One record on the model; the record returned carries the model's observation. -/
def modStep (s : ModState) : Rec → ModState × Rec
  | .reset => ({}, .reset)
  | .server n => ({ p := pageSizeOf n }, .server n)
  | .add kind fs _ =>
    let k := s.get kind
    (s.set kind { k with fs := k.fs.add fs }, .add kind fs true)
  | .remove kind ks =>
    let k := s.get kind
    (s.set kind { k with fs := (k.fs.remove ks).1 }, .remove kind ks)
  | .script kind sc => (s.set kind { s.get kind with script := some sc }, .script kind sc)
  | .unscript kind => (s.set kind { s.get kind with script := none }, .unscript kind)
  | .list kind cur follow _ =>
    let k := s.get kind
    match k.script with
    | some sc => (s, .list kind cur follow (LObs.ofRes (scriptedOracle kind sc 0 cur)))
    | none =>
      let r := paginate dcodec s.p k.fs cur
      (s.set kind { k with fs := r.1 }, .list kind cur follow (LObs.ofRes r.2))
  | .tbegin kind => (s, .tbegin kind)
  | .tend kind => (s, .tend kind)
  | .iopen kind cur => (s.set kind { s.get kind with mit := some (Iter.start cur) }, .iopen kind cur)
  | .ipull kind m _ =>
    let k := s.get kind
    match k.mit with
    | none => (s, .ipull kind m noIter)
    | some mit =>
      match k.script with
      | some sc =>
        -- the iterator machine against the foreign server; any number of empty pages in a row
        let r := pullMany (scriptedOracle kind sc) (sc.length + 3) m mit []
        (s.set kind { k with mit := some r.1 }, .ipull kind m r.2)
      | none =>
        -- the iterator machine against the model server (whose index cache it fills)
        let r := pullMany (modelOracle s.p k.fs) 3 m mit []
        (s.set kind { k with fs := k.fs.sortKeys, mit := some r.1 }, .ipull kind m r.2)
  | .iclose kind => (s.set kind { s.get kind with mit := none }, .iclose kind)
  | .iterall kind cur _ =>
    let k := s.get kind
    match k.script with
    | some sc => (s, .iterall kind cur (drainAll (scriptedOracle kind sc) cur (scriptSteps sc)))
    | none =>
      (s.set kind { k with fs := k.fs.sortKeys },
        .iterall kind cur (iterAll (modelOracle s.p k.fs) cur (2 * k.fs.feats.length + 8)))
  | .roundtrip _ => (s, .roundtrip true)
  | .codec _ => (s, .codec true)
  | .readonly touch =>
    -- `lookupResourceHandler` walks `resourceTemplates.all()`, which (re)builds the sorted index
    match touch with
    | some kind => (s.set kind { s.get kind with fs := (s.get kind).fs.sortKeys }, .readonly touch)
    | none => (s, .readonly touch)

end Paginate
