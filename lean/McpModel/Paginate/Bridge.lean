import McpModel.Paginate.Model
/-!
E13 (C17): `trav` (manual paging against the concrete model server under a mutation history) *is*
`manual` against the oracle that history induces — so the iterator theorems, stated for arbitrary
oracles, apply to the concrete server.
-/
set_option linter.unusedSectionVars false
namespace Paginate
variable {κ ν C : Type} [KOrd κ] [DecidableEq κ] [DecidableEq C]

/-- The answer of the model server to the `i`-th list request of a traversal, when the batches of
`hist` are applied between consecutive requests (no more mutations once `hist` is used up). -/
def serverOracle (cod : Codec κ C) (p : Nat) : List (List (Mut κ ν)) → FS κ ν → Nat → C → Res κ ν C
  | _, s, 0, c => (paginate cod p s c).2
  | [], s, _ + 1, c => (paginate cod p s c).2
  | b :: rest, s, i + 1, c => serverOracle cod p rest (applyBatch s.sortKeys b) i c

def Trav.ending (t : Trav κ ν) : Ending :=
  if t.failed then .error else if t.done then .done else .running

theorem paginate_state_of_page (cod : Codec κ C) (p : Nat) (s : FS κ ν) (cur : C)
    (items : List (κ × ν)) (next : C) (h : (paginate cod p s cur).2 = .page items next) :
    (paginate cod p s cur).1 = s.sortKeys := by
  unfold paginate at h ⊢
  by_cases hc : cur = cod.nil
  · simp only [hc, if_true] at h ⊢
    split <;> (try rfl)
    split <;> (try rfl)
    split <;> rfl
  · simp only [hc, if_false] at h ⊢
    cases hd : cod.dec cur with
    | none => simp [hd] at h
    | some uid =>
      simp only [hd] at h ⊢
      split <;> (try rfl)
      split <;> (try rfl)
      split <;> rfl

theorem manual_shift (nil : C) (o o' : Nat → C → Res κ ν C) (h : ∀ j c, o (j + 1) c = o' j c) (f : Nat) :
    ∀ (i : Nat) (c : C), manual nil o f (i + 1) c = manual nil o' f i c := by
  induction f with
  | zero => intro i c; rfl
  | succ f ih =>
    intro i c
    simp only [manual, h i c]
    cases o' i c with
    | page items next => simp only [ih (i + 1) next]
    | invalidParams => rfl
    | panic => rfl

theorem manual_page_more (nil : C) (o : Nat → C → Res κ ν C) (f i : Nat) (cur next : C) (items : List (κ × ν))
    (h : o i cur = .page items next) (hn : next ≠ nil) :
    manual nil o (f + 1) i cur =
      (items :: (manual nil o f (i + 1) next).1, (manual nil o f (i + 1) next).2) := by
  simp [manual, h, hn]

theorem trav_eq_manual (cod : Codec κ C) (p : Nat) (hist : List (List (Mut κ ν))) :
    ∀ (s : FS κ ν) (cur : C),
      manual cod.nil (serverOracle cod p hist s) (hist.length + 1) 0 cur =
        ((trav cod p hist s cur).pages, (trav cod p hist s cur).ending) := by
  induction hist with
  | nil =>
    intro s cur
    cases hp : paginate cod p s cur with
    | mk s' r =>
      have ho : serverOracle cod p ([] : List (List (Mut κ ν))) s 0 cur = r := by
        simp [serverOracle, hp]
      cases r with
      | page items next =>
        by_cases hn : next = cod.nil
        · simp [manual, ho, trav, hp, hn, Trav.ending]
        · simp [manual, ho, trav, hp, hn, Trav.ending]
      | invalidParams => simp [manual, ho, trav, hp, Trav.ending]
      | panic => simp [manual, ho, trav, hp, Trav.ending]
  | cons b rest ih =>
    intro s cur
    cases hp : paginate cod p s cur with
    | mk s' r =>
      have ho : serverOracle cod p (b :: rest) s 0 cur = r := by
        simp [serverOracle, hp]
      cases r with
      | page items next =>
        have hs' : s' = s.sortKeys := by
          have := paginate_state_of_page cod p s cur items next (by rw [hp])
          rw [hp] at this; exact this
        by_cases hn : next = cod.nil
        · simp [manual, ho, trav, hp, hn, Trav.ending]
        · have hshift := manual_shift cod.nil (serverOracle cod p (b :: rest) s)
            (serverOracle cod p rest (applyBatch s.sortKeys b)) (by intro j c; rfl) (rest.length + 1) 0 next
          have IH := ih (applyBatch s.sortKeys b) next
          rw [List.length_cons, manual_page_more cod.nil _ _ 0 cur next items ho hn, hshift, IH]
          simp [trav, hp, hn, hs', Trav.cons, Trav.ending]
      | invalidParams => simp [manual, ho, trav, hp, Trav.ending]
      | panic => simp [manual, ho, trav, hp, Trav.ending]

end Paginate
