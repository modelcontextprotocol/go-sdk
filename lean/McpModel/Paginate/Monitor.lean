import McpModel.Paginate.Model
import McpModel.Generated.PaginateGen
/-!
E13 — the typed core of the C17 monitor.

The driver (Driver.lean) parses a harness record into a `Rec` (the operation with the
IMPLEMENTATION's observation as typed data: `LObs` for a list answer, `IObs` for what an iterator
handed out), calls `monStep`, and renders the `Clause` it returns.  Everything that decides WHICH
clause of C17 is violated lives here, on typed data, so that Accept.lean (`monitor_accepts_model`: no
clause on any behaviour of the model) and Sound.lean (a clause is reported only if the property clause
it names fails on the observed trace) can reason about it.  The string layer — token parser,
renderer, clause texts — stays in Driver.lean.

The monitor keeps its own registry per feature kind (a plain association list, no index, no cache:
`regAdd`, `regRemove`, `sortReg` are the three-line specification of "registered") and judges:
* `monList`: a page is exactly the first `p` registered entries strictly above the cursor's key,
  ascending, `NextCursor` empty exactly when nothing is left and otherwise decoding to the last key
  of the page; a cursor that does not decode is answered with invalid params;
* `monTend`: per traversal (`tbegin` … `tend`) that follows cursors from the first page (`chain`) and
  never failed: keys strictly ascending overall; once the empty cursor was reached every key
  registered at every fetch was received; without mutations the pages are exactly the registered set
  in `max 1 ⌈n/p⌉` pages;
* iterators: what the consumer was handed is what a lazy pager (`pull`: one request when the consumer
  wants an element and the page is used up) / manual paging (`manual`) yields against the registry,
  or against the scripted foreign server.
It never reads `paginate` (the model of the server).  Core Lean only (linked into the driver).
-/
namespace Paginate

abbrev K := List Nat
abbrev Item := K × String

/-- A cursor as the implementation's own `decodeCursor` classifies it. -/
inductive DCur
  | nil
  | good (uid : K)
  | bad
deriving DecidableEq, Repr

/-- The canonical image of the codec: `enc k` is "a cursor that decodes to `k`". -/
def dcodec : Codec K DCur where
  nil := .nil
  enc k := .good k
  dec c := match c with
    | .good k => some k
    | _ => none
  dec_enc _ := rfl
  enc_ne_nil _ := by intro h; cases h

inductive Kind | tools | prompts | resources | templates
deriving DecidableEq, Repr

/-- What the implementation answered to a list request. -/
inductive LObs
  | page (items : List Item) (next : DCur)
  | invalid     -- invalid params (-32602)
  | other       -- anything else: another error, a crash, an unreadable answer
deriving DecidableEq, Repr

def LObs.ofRes : Res K String DCur → LObs
  | .page items next => .page items next
  | .invalidParams => .invalid
  | .panic => .other

/-- How an iterator observation ends: `more` (the consumer stopped asking), `fin` (the iterator
returned), `err` (it yielded invalid params), the two give-ups of the reference machines, anything else. -/
inductive IEnd | more | fin | err | stuck | runaway | other
deriving DecidableEq, Repr

/-- What an iterator handed to its consumer. -/
structure IObs where
  items : List Item
  ending : IEnd
deriving DecidableEq, Repr

/-! ### the monitor's registry (the three-line specification) -/

def insSorted (f : Item) : List Item → List Item
  | [] => [f]
  | g :: r => if ltBytes f.1 g.1 then f :: g :: r else g :: insSorted f r

/-- The listing order: ascending by key (byte-wise, Go's string order). -/
def sortReg (reg : List Item) : List Item := reg.foldr insSorted []

/-- Register (or replace) one feature. -/
def regAdd (reg : List Item) (f : Item) : List Item :=
  reg.filter (fun g => g.1 ≠ f.1) ++ [f]

def regRemove (reg : List Item) (ks : List K) : List Item :=
  reg.filter (fun g => !ks.contains g.1)

/-- Is the entry strictly above the cursor's key (every entry, for the empty cursor)? -/
def above (cur : DCur) (f : Item) : Bool :=
  match cur with
  | .good uid => ltBytes uid f.1
  | _ => true

def specRest (reg : List Item) (cur : DCur) : List Item := (sortReg reg).filter (above cur)

def specItems (reg : List Item) (p : Nat) (cur : DCur) : List Item := (specRest reg cur).take p

def specNext (reg : List Item) (p : Nat) (cur : DCur) : DCur :=
  if (specRest reg cur).length ≤ p then .nil
  else match (specItems reg p cur).getLast? with
    | some l => .good l.1
    | none => .nil

/-- The answer the property demands for a list request. -/
def specPage (reg : List Item) (p : Nat) (cur : DCur) : Res K String DCur :=
  match cur with
  | .bad => .invalidParams
  | _ => .page (specItems reg p cur) (specNext reg p cur)

/-! ### scripted (foreign) servers -/

/-- A foreign server's list method: cursor received ↦ answer (`Model.scriptOracle`). -/
abbrev Script := List (DCur × Res K String DCur)

/-- What `filterValidTools` keeps (only `ListTools` filters): a value ending in `!` marks a tool
with an invalid x-mcp-header annotation. -/
def keepItem (kind : Kind) (f : Item) : Bool := !(kind == .tools && f.2.endsWith "!")

/-- The server as the client's `ListX` sees it: the script, then `ListTools`' per-page filter. -/
def scriptedOracle (kind : Kind) (sc : Script) : Nat → DCur → Res K String DCur :=
  filterOracle (keepItem kind) (scriptOracle sc)

/-- The registry as a server: answers every request as the property demands. -/
def specOracle (reg : List Item) (p : Nat) : Nat → DCur → Res K String DCur :=
  fun _ c => specPage reg p c

/-! ### reference machines for the iterators -/

def endOf : Ending → IEnd
  | .done => .fin
  | .error => .err
  | .running => .runaway

/-- Manual paging (`Model.manual`) as an iterator observation. -/
def manualAll (o : Nat → DCur → Res K String DCur) (cur : DCur) (fuel : Nat) : IObs × Ending :=
  let r := manual DCur.nil o fuel 0 cur
  (⟨r.1.flatten, endOf r.2⟩, r.2)

/-- Pull until an element, the end or an error (`rounds` bounds the empty pages in a row; `again`
beyond that is reported as `stuck`). -/
def pullEvent (o : Nat → DCur → Res K String DCur) : Nat → Iter K String DCur → Iter K String DCur × Event K String
  | 0, it => (it, .again)
  | f + 1, it =>
    match pull DCur.nil o it with
    | (it', .again) => pullEvent o f it'
    | r => r

/-- The consumer asks for (up to) `m` elements. -/
def pullMany (o : Nat → DCur → Res K String DCur) (rounds : Nat) : Nat → Iter K String DCur → List Item → Iter K String DCur × IObs
  | 0, it, acc => (it, ⟨acc.reverse, .more⟩)
  | m + 1, it, acc =>
    match pullEvent o rounds it with
    | (it', .item x) => pullMany o rounds m it' (x :: acc)
    | (it', .stop) => (it', ⟨acc.reverse, .fin⟩)
    | (it', .err) => (it', ⟨acc.reverse, .err⟩)
    | (it', .again) => (it', ⟨acc.reverse, .stuck⟩)

def iterGo (o : Nat → DCur → Res K String DCur) (rounds : Nat) : Nat → Iter K String DCur → List Item → IObs
  | 0, _, acc => ⟨acc.reverse, .runaway⟩
  | f + 1, it, acc =>
    match pullEvent o rounds it with
    | (it', .item x) => iterGo o rounds f it' (x :: acc)
    | (_, .stop) => ⟨acc.reverse, .fin⟩
    | (_, .err) => ⟨acc.reverse, .err⟩
    | (_, .again) => ⟨acc.reverse, .stuck⟩

/-- A consumer that never breaks. -/
def iterAll (o : Nat → DCur → Res K String DCur) (cur : DCur) (fuel : Nat) (rounds : Nat := 3) : IObs :=
  iterGo o rounds fuel (Iter.start cur) []

/-! ### clauses -/

inductive Clause
  | malformedNotRefused     -- malformed cursor not answered with invalid params
  | listFailed              -- list request crashed or failed on a well-formed cursor
  | pageWrong               -- page is not the first p registered entries above the cursor
  | nextUndecodable         -- issued NextCursor refused by the server's own decodeCursor
  | nextWrong               -- NextCursor wrong
  | foreignPage             -- ListX result is not the page the (foreign) server sent
  | addFailed               -- registering a feature failed
  | followRefused           -- the server refused the NextCursor it had just issued
  | travOrder | travMiss | travNotExact | travPages
  | iterForeign | iterManual
  | codecLaw | codecCrash
deriving DecidableEq, Repr

/-- Monitor of one list answer against the registry. -/
def monList (reg : List Item) (p : Nat) (cur : DCur) (obs : LObs) : Option Clause :=
  if obs = LObs.ofRes (specPage reg p cur) then none
  else match cur, obs with
    | .bad, _ => some .malformedNotRefused
    | _, .page items next =>
      if items ≠ specItems reg p cur then some .pageWrong
      else if next = .bad then some .nextUndecodable
      else some .nextWrong
    | _, _ => some .listFailed

/-! ### traversals -/

/-- One list request of a traversal: the registry at that moment, the cursor sent, the answer. -/
structure Fetch where
  reg : List Item
  cur : DCur
  obs : LObs

structure TravMon where
  fetches : List Fetch := []
  mutated : Bool := false

def Fetch.isPage (f : Fetch) : Bool := match f.obs with | .page _ _ => true | _ => false

def Fetch.keys (f : Fetch) : List K := match f.obs with | .page items _ => items.map (·.1) | _ => []

def Fetch.regKeys (f : Fetch) : List K := f.reg.map (·.1)

/-- The traversal follows cursors: the first request carries `c`, every later one the non-empty
`NextCursor` of the answer before it (nothing is requested after the empty cursor). -/
def chain : DCur → List Fetch → Bool
  | _, [] => true
  | c, [f] => f.cur == c
  | c, f :: g :: r =>
    f.cur == c && (match f.obs with
      | .page _ n => n != .nil && chain n (g :: r)
      | _ => false)

def strictlyAscending : List K → Bool
  | [] => true
  | [_] => true
  | a :: b :: r => ltBytes a b && strictlyAscending (b :: r)

def pagesFor' (n p : Nat) : Nat := max 1 ((n + p - 1) / p)

/-- Keys received, in order. -/
def travItems (fs : List Fetch) : List K := fs.flatMap Fetch.keys

/-- Keys registered at every fetch. -/
def travStable : List Fetch → List K
  | [] => []
  | f :: r => f.regKeys.filter (fun k => r.all (fun g => g.regKeys.contains k))

/-- The last answer carried the empty cursor. -/
def travFinished (fs : List Fetch) : Bool :=
  match fs.getLast? with
  | some f => (match f.obs with | .page _ n => n == .nil | _ => false)
  | none => false

/-- Registry at the first fetch. -/
def travFirst (fs : List Fetch) : List Item :=
  match fs with
  | f :: _ => f.reg
  | [] => []

def monTend (t : TravMon) (p : Nat) : Option Clause :=
  if !t.fetches.all Fetch.isPage then none   -- a fetch failed: already reported at the failing fetch
  else if !chain .nil t.fetches then none     -- not a traversal that follows cursors from the first page
  else if !strictlyAscending (travItems t.fetches) then some .travOrder
  else if travFinished t.fetches && !(travStable t.fetches).all (fun k => (travItems t.fetches).contains k) then
    some .travMiss
  else if travFinished t.fetches && !t.mutated && travItems t.fetches != (sortReg (travFirst t.fetches)).map (·.1) then
    some .travNotExact
  else if travFinished t.fetches && !t.mutated && t.fetches.length != pagesFor' (travFirst t.fetches).length p then
    some .travPages
  else none

/-! ### records and state -/

/-- One harness record, typed. `list`'s `follow`: the request carries, byte for byte, the `NextCursor`
of the previous answer for this kind. -/
inductive Rec
  | reset
  | server (n : Nat)                 -- `PageSize: n` (0: the default)
  | add (kind : Kind) (fs : List Item) (ok : Bool)
  | remove (kind : Kind) (ks : List K)
  | script (kind : Kind) (sc : Script)
  | unscript (kind : Kind)
  | list (kind : Kind) (cur : DCur) (follow : Bool) (obs : LObs)
  | tbegin (kind : Kind)
  | tend (kind : Kind)
  | iopen (kind : Kind) (cur : DCur)
  | ipull (kind : Kind) (m : Nat) (obs : IObs)
  | iclose (kind : Kind)
  | iterall (kind : Kind) (cur : DCur) (obs : IObs)
  | roundtrip (same : Bool)
  | codec (ok : Bool)
  /-- a read-only request between the others (resources/read, tools/call, prompts/get, completion,
  ping); `touch`: the feature set whose sorted index the request walks (template lookup), if any -/
  | readonly (touch : Option Kind)

structure MKind where
  reg : List Item := []
  script : Option Script := none   -- `some`: the list method is played by a scripted foreign server
  sit : Option (Iter K String DCur) := none   -- reference iterator of the open pull session
  tr : Option TravMon := none

structure MState where
  p : Nat := Generated.Paginate.defaultPageSize
  tools : MKind := {}
  prompts : MKind := {}
  resources : MKind := {}
  templates : MKind := {}

def MState.get (s : MState) : Kind → MKind
  | .tools => s.tools
  | .prompts => s.prompts
  | .resources => s.resources
  | .templates => s.templates

def MState.set (s : MState) (kind : Kind) (k : MKind) : MState :=
  match kind with
  | .tools => { s with tools := k }
  | .prompts => { s with prompts := k }
  | .resources => { s with resources := k }
  | .templates => { s with templates := k }

/-- `NewServer` replaces page size 0 by the default. -/
def pageSizeOf (n : Nat) : Nat := if n == 0 then Generated.Paginate.defaultPageSize else n

def markMutated (k : MKind) : MKind :=
  { k with tr := k.tr.map (fun t => { t with mutated := true }) }

def monListRec (s : MState) (kind : Kind) (cur : DCur) (follow : Bool) (obs : LObs) : MState × Option Clause :=
  let k := s.get kind
  match k.script with
  | some sc =>
    -- foreign server: `ListX` must hand over the page it was sent (minus dropped tools)
    (s, if obs = LObs.ofRes (scriptedOracle kind sc 0 cur) then none else some .foreignPage)
  | none =>
    let viol := monList k.reg s.p cur obs
    let tr' := k.tr.map (fun t => { t with fetches := t.fetches ++ [⟨k.reg, cur, obs⟩] })
    let viol := if follow && obs = .invalid && viol.isNone then some .followRefused else viol
    (s.set kind { k with tr := tr' }, viol)

/-- **The C17 monitor**: one record. -/
def monStep (s : MState) : Rec → MState × Option Clause
  | .reset => ({}, none)
  | .server n => ({ p := pageSizeOf n }, none)
  | .add kind fs ok =>
    let k := s.get kind
    (s.set kind (markMutated { k with reg := fs.foldl regAdd k.reg }), if ok then none else some .addFailed)
  | .remove kind ks =>
    let k := s.get kind
    (s.set kind (markMutated { k with reg := regRemove k.reg ks }), none)
  | .script kind sc => (s.set kind { s.get kind with script := some sc }, none)
  | .unscript kind => (s.set kind { s.get kind with script := none }, none)
  | .list kind cur follow obs => monListRec s kind cur follow obs
  | .tbegin kind => (s.set kind { s.get kind with tr := some {} }, none)
  | .tend kind =>
    let k := s.get kind
    (s.set kind { k with tr := none }, k.tr.bind (fun t => monTend t s.p))
  | .iopen kind cur => (s.set kind { s.get kind with sit := some (Iter.start cur) }, none)
  | .ipull kind m obs =>
    let k := s.get kind
    match k.sit with
    | none => (s, none)
    | some sit =>
      match k.script with
      | some sc =>
        -- the lazy pager against the foreign server; any number of empty pages in a row
        let r := pullMany (scriptedOracle kind sc) (sc.length + 3) m sit []
        (s.set kind { k with sit := some r.1 }, if obs = r.2 then none else some .iterForeign)
      | none =>
        let r := pullMany (specOracle k.reg s.p) 3 m sit []
        (s.set kind { k with sit := some r.1 }, if obs = r.2 then none else some .iterManual)
  | .iclose kind => (s.set kind { s.get kind with sit := none }, none)
  | .iterall kind cur obs =>
    let k := s.get kind
    match k.script with
    | some sc =>
      -- manual paging, literally (`Model.manual`); a cyclic script has no finite manual listing:
      -- nothing to compare with
      let r := manualAll (scriptedOracle kind sc) cur (sc.length + 2)
      (s, if obs = r.1 || r.2 == .running then none else some .iterForeign)
    | none =>
      (s, if obs = iterAll (specOracle k.reg s.p) cur (2 * k.reg.length + 8) then none else some .iterManual)
  | .roundtrip same => (s, if same then none else some .codecLaw)
  | .codec ok => (s, if ok then none else some .codecCrash)
  | .readonly _ => (s, none)   -- what is registered, and hence every later answer, is unaffected

/-- Run the monitor over a trace: the first record (index) at which a clause is reported. -/
def runMonFrom : MState → Nat → List Rec → Option (Nat × Clause)
  | _, _, [] => none
  | s, i, r :: tr =>
    match (monStep s r).2 with
    | some cl => some (i, cl)
    | none => runMonFrom (monStep s r).1 (i + 1) tr

def runMon (tr : List Rec) : Option (Nat × Clause) := runMonFrom {} 0 tr

/-- The monitor state after a trace. -/
def stateAfter (tr : List Rec) : MState := tr.foldl (fun s r => (monStep s r).1) {}

end Paginate
