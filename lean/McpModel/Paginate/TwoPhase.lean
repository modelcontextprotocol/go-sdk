import McpModel.Paginate.Props
import McpModel.Paginate.Accept
/-!
# C17 — registrations that are not one atomic step, and registrations that are refused

`Server.AddTool` is two sections: it first VALIDATES the tool (tool name, input / output schema — this
marshals the schemas it was given, i.e. runs user code — and the x-mcp-header annotations) without
holding `Server.mu` and without reading any server state (structural fact `paginate.add_sections`),
and then REGISTERS it (`changeAndNotify`: `tools.add` under `Server.mu`).  Anything can happen on the
server between the two: the tool of that name removed, other tools added, the listing traversed (which
rebuilds the sorted index).  `AddResource` / `AddResourceTemplate` validate inside their registering
section, and every `Add*` refuses (panics) before `featureSet.add` when validation fails.

Labels (`Op2`): everything `Op` has, `validate f` (the first section: no effect), `commit f` (the
second: `add [f]`), `refused f` (a registration that panics: no effect).  The harness records them as
`addhold` / `addrelease` / `addbad`; the driver maps the first and the last to `Rec.readonly none` and
`addrelease` to `Rec.add`, which is exactly `stepOp2` (`stepOp2_validate`, `stepOp2_refused`,
`stepOp2_commit`).
-/
set_option linter.unusedSectionVars false
namespace Paginate
variable {κ ν C : Type} [KOrd κ] [DecidableEq κ] [DecidableEq C]

inductive Op2 (κ ν C : Type)
  | op (o : Op κ ν C)
  | validate (f : κ × ν)
  | commit (f : κ × ν)
  | refused (f : κ × ν)

def stepOp2 (cod : Codec κ C) (s : FS κ ν) : Op2 κ ν C → FS κ ν
  | .op o => stepOp cod s o
  | .validate _ => s
  | .commit f => s.add [f]
  | .refused _ => s

def op2OK : Op2 κ ν C → Prop
  | .op o => opOK o
  | _ => True

theorem stepOp2_validate (cod : Codec κ C) (s : FS κ ν) (f : κ × ν) : stepOp2 cod s (.validate f) = s := rfl
theorem stepOp2_refused (cod : Codec κ C) (s : FS κ ν) (f : κ × ν) : stepOp2 cod s (.refused f) = s := rfl
theorem stepOp2_commit (cod : Codec κ C) (s : FS κ ν) (f : κ × ν) :
    stepOp2 cod s (.commit f) = stepOp cod s (.add [f]) := rfl

/-- Reachability with registrations in flight: after any sequence of registrations (atomic, or split
into validation and registering sections with anything in between, any number of them in flight at
once), refused registrations, removals and list requests the index invariant holds. -/
theorem wf_reachable2 (cod : Codec κ C) (ops : List (Op2 κ ν C)) (hp : ∀ op ∈ ops, op2OK op) :
    WF (ops.foldl (stepOp2 cod) (FS.empty : FS κ ν)) := by
  refine List.foldlRecOn (motive := WF) ops _ wf_empty fun s h op ho => ?_
  have hop := hp op ho
  cases op with
  | op o => exact wf_stepOp cod s o h hop
  | commit f => exact wf_add s [f] h
  | validate f | refused f => exact h

theorem held_ops_ok (f : κ × ν) (pre mid : List (Op2 κ ν C)) (hpre : ∀ op ∈ pre, op2OK op)
    (hmid : ∀ op ∈ mid, op2OK op) : ∀ op ∈ pre ++ [Op2.validate f] ++ mid ++ [Op2.commit f], op2OK op := by
  intro op ho
  simp only [List.mem_append, List.mem_singleton] at ho
  rcases ho with ((h | h) | h) | h
  · exact hpre op h
  · subst h; trivial
  · exact hmid op h
  · subst h; trivial

/-- **held_add_registered.** Whatever happened before the validation section of a registration of `f`
(`pre`) and between it and its registering section (`mid`: the same name removed, replaced, other
registrations — atomic, split or refused —, list requests with any cursor, which rebuild the index):
once the registering section has run, a traversal from the first page (any page size ≥ 1) reaches the
empty cursor without failing, and returns exactly the registered entries, `f` — with the value given to
THIS registration — among them. -/
theorem held_add_registered (cod : Codec κ C) (p : Nat) (hp : 1 ≤ p) (f : κ × ν)
    (pre mid : List (Op2 κ ν C)) (hpre : ∀ op ∈ pre, op2OK op) (hmid : ∀ op ∈ mid, op2OK op)
    (m : Nat) :
    let s := (pre ++ [Op2.validate f] ++ mid ++ [Op2.commit f]).foldl (stepOp2 cod) (FS.empty : FS κ ν)
    s.feats.length ≤ m * p + p →
    WF s ∧ f ∈ s.feats ∧
    (trav cod p (List.replicate m []) s cod.nil).done = true ∧
    (trav cod p (List.replicate m []) s cod.nil).failed = false ∧
    (trav cod p (List.replicate m []) s cod.nil).pages.flatten = s.feats ∧
    f ∈ (trav cod p (List.replicate m []) s cod.nil).pages.flatten := by
  intro s hm
  have hwf : WF s := wf_reachable2 cod _ (held_ops_ok f pre mid hpre hmid)
  have hmem : f ∈ s.feats := by
    show f ∈ ((pre ++ [Op2.validate f] ++ mid ++ [Op2.commit f]).foldl (stepOp2 cod) (FS.empty : FS κ ν)).feats
    rw [List.foldl_append]
    simp only [List.foldl_cons, List.foldl_nil, stepOp2, FS.add]
    exact mem_insF_self f.1 f.2 _
  have t := traversal_is_sorted_keys cod p hp s hwf m hm
  exact ⟨hwf, hmem, t.1, t.2.1, t.2.2.1, by rw [t.2.2.1]; exact hmem⟩

/-- **held_add_stable.** The same with mutations going on after the registering section (any history of
batches between the page fetches of the traversal): if this registration's name stays registered at
every fetch, a traversal that reaches the empty cursor has returned it exactly once; nothing is returned
twice and no fetch fails. -/
theorem held_add_stable (cod : Codec κ C) (p : Nat) (hp : 1 ≤ p) (f : κ × ν)
    (pre mid : List (Op2 κ ν C)) (hpre : ∀ op ∈ pre, op2OK op) (hmid : ∀ op ∈ mid, op2OK op)
    (hist : List (List (Mut κ ν))) :
    let s := (pre ++ [Op2.validate f] ++ mid ++ [Op2.commit f]).foldl (stepOp2 cod) (FS.empty : FS κ ν)
    let t := trav cod p hist s cod.nil
    (keys t.items).Nodup ∧ t.failed = false ∧
    (t.done = true → (∀ st ∈ t.states, f.1 ∈ keys st.feats) → (keys t.items).count f.1 = 1) := by
  intro s t
  have hwf : WF s := wf_reachable2 cod _ (held_ops_ok f pre mid hpre hmid)
  have e := stable_items_exactly_once cod p hp s hwf hist
  exact ⟨e.2.1, e.2.2.1, fun hd hk => e.2.2.2.2.2 hd f.1 hk⟩

/-- **release_demands_listing.** What the monitor demands after the registering section: the registry it
judges every later page against (`regAdd`) lists the tool — with this registration's value, once — from
the first page on, whatever was registered, removed or listed before. -/
theorem release_demands_listing (reg : List Item) (f : Item) :
    f ∈ specRest (regAdd reg f) .nil ∧ ∀ g ∈ specRest (regAdd reg f) .nil, g.1 = f.1 → g = f := by
  constructor
  · simp [specRest, above, mem_sortReg, mem_regAdd]
  · intro g hg hk
    simp only [specRest, List.mem_filter, mem_sortReg, mem_regAdd] at hg
    rcases hg.1 with ⟨_, hne⟩ | h
    · exact absurd hk hne
    · exact h

/-- A registering section that keeps the sorted index because "the name was registered when I looked"
(decided in the validation section). -/
def FS.replaceKeep (s : FS κ ν) (f : κ × ν) : FS κ ν := { feats := insF f.1 f.2 s.feats, cache := s.cache }

/-- **commit_needs_invalidation.** The registering section must not rely on anything the validation
section saw: tools 1 2 3, a replacement of 2 validated, 2 removed, the listing fetched (index rebuilt:
1 3), then the replacement stored with the index kept — 2 is registered and no traversal returns it. -/
theorem commit_needs_invalidation :
    let s0 := (FS.empty : FS Nat Nat).add [(1, 10), (2, 20), (3, 30)]
    let s1 := (paginate natCodec 2 (s0.remove [2]).1 0).1
    let s2 := s1.replaceKeep (2, 21)
    (2, 21) ∈ s2.feats ∧ (trav natCodec 2 [[], []] s2 0).done = true ∧
      (2, 21) ∉ (trav natCodec 2 [[], []] s2 0).pages.flatten ∧
      (2, 21) ∈ (trav natCodec 2 [[], []] (s1.add [(2, 21)]) 0).pages.flatten := by decide +kernel

/-- Page size 1, a replacement of `2` validated, `2` removed and the listing walked in between: three
pages, the replacement's value listed. -/
example : (trav natCodec 1 (List.replicate 2 [])
    (([Op2.op (.add [(1, 10), (2, 20), (3, 30)]), .validate (2, 21), .op (.remove [2]), .op (.list 1 0), .op (.list 1 2),
      .commit (2, 21)] : List (Op2 Nat Nat Nat)).foldl (stepOp2 natCodec) FS.empty) 0).pages
    = [[(1, 10)], [(2, 21)], [(3, 30)]] := by decide +kernel

/-- **sections_are_records.** The records the driver makes of the sections: `addhold` (validation) and
`addbad` (refused) are `Rec.readonly none` — the model's state and the monitor's state stay as they are,
no clause —, `addrelease` is `Rec.add` of the one tool: the model runs `FS.add [f]` (= `stepOp2 … (.commit f)`),
the monitor's registry `regAdd`. -/
theorem sections_are_records (ms : ModState) (s : MState) (kind : Kind) (f : Item) (ok : Bool) :
    modStep ms (.readonly none) = (ms, .readonly none) ∧ monStep s (.readonly none) = (s, none) ∧
    ((modStep ms (.add kind [f] ok)).1.get kind).fs = stepOp2 dcodec (ms.get kind).fs (.commit f) ∧
    ((monStep s (.add kind [f] ok)).1.get kind).reg = regAdd (s.get kind).reg f := by
  refine ⟨rfl, rfl, ?_, ?_⟩ <;> cases kind <;> rfl

end Paginate
