import McpModel.Paginate.IterSpec
import McpModel.Base.FirstReport
import McpModel.Base.Logic
/-!
# Clause soundness of the C17 monitor (E13)

For every clause the monitor can report (`Clause`) the corresponding clause of the property is stated
as a predicate `P_…` on observation traces — a trace is the list of typed records of one case: what
the harness did and what the IMPLEMENTATION answered (`LObs`, `IObs`) — written from the property text,
with quantifiers over positions of the trace; no monitor state, no `paginate`.  `sound_<clause>`:
whenever the monitor run reports the clause at record `j` (`FiresAt`), the predicate fails on the trace.
`monitor_sound` packages them, `monitor_complete` is the converse (silence ⇒ every predicate holds),
`model_satisfies_P` combines it with `monitor_accepts_model`.
-/
namespace Paginate

abbrev Trace := List Rec

/-! What a history says, read backwards (latest record first). -/

def pageSizeRev : List Rec → Nat
  | [] => Generated.Paginate.defaultPageSize
  | .reset :: _ => Generated.Paginate.defaultPageSize
  | .server n :: _ => pageSizeOf n
  | _ :: h => pageSizeRev h

def registryRev (kind : Kind) : List Rec → List Item
  | [] => []
  | .reset :: _ => []
  | .server _ :: _ => []
  | .add k fs _ :: h => if k = kind then fs.foldl regAdd (registryRev kind h) else registryRev kind h
  | .remove k ks :: h => if k = kind then regRemove (registryRev kind h) ks else registryRev kind h
  | _ :: h => registryRev kind h

def scriptRev (kind : Kind) : List Rec → Option Script
  | [] => none
  | .reset :: _ => none
  | .server _ :: _ => none
  | .script k sc :: h => if k = kind then some sc else scriptRev kind h
  | .unscript k :: h => if k = kind then none else scriptRev kind h
  | _ :: h => scriptRev kind h

def pageSize (h : Trace) : Nat := pageSizeRev h.reverse
def registry (kind : Kind) (h : Trace) : List Item := registryRev kind h.reverse
def script (kind : Kind) (h : Trace) : Option Script := scriptRev kind h.reverse

/-- The server the client talks to after history `h`: the script (through `ListX`'s filter), or a
server that answers as the property demands for the registry. -/
def serverAfter (kind : Kind) (h : Trace) : Nat → DCur → Res K String DCur :=
  match script kind h with
  | some sc => scriptedOracle kind sc
  | none => specOracle (registry kind h) (pageSize h)

/-- The empty pages in a row `monStep` lets one pull walk through before it reports `stuck`.  A conforming server sends
none (`NoEmptyMore`), so 3 is slack there; against a script it is more than the script has entries. -/
def roundsAfter (kind : Kind) (h : Trace) : Nat :=
  match script kind h with
  | some sc => sc.length + 3
  | none => 3

/-- The lazy pager of the open iterator session: the property's "manual paging" done by a consumer that asks for one
element at a time (`Model.pull`); drained, it is manual paging (`iterator_equals_manual_paging`, `iterator_prefix`). -/
def pagerRev (kind : Kind) : List Rec → Option (Iter K String DCur)
  | [] => none
  | .reset :: _ => none
  | .server _ :: _ => none
  | .iopen k cur :: h => if k = kind then some (Iter.start cur) else pagerRev kind h
  | .iclose k :: h => if k = kind then none else pagerRev kind h
  | .ipull k m _ :: h =>
    if k = kind then
      (pagerRev kind h).map (fun it => (pullMany (serverAfter kind h.reverse) (roundsAfter kind h.reverse) m it []).1)
    else pagerRev kind h
  | _ :: h => pagerRev kind h

def pager (kind : Kind) (h : Trace) : Option (Iter K String DCur) := pagerRev kind h.reverse

theorem stateAfter_snoc (h : Trace) (r : Rec) : stateAfter (h ++ [r]) = (monStep (stateAfter h) r).1 :=
  FirstReport.after_snoc _ h r

theorem monListRec_fst (s : MState) (kind : Kind) (cur : DCur) (fl : Bool) (obs : LObs) :
    (monListRec s kind cur fl obs).1 =
      match (s.get kind).script with
      | some _ => s
      | none => s.set kind { s.get kind with
          tr := (s.get kind).tr.map (fun t => { t with fetches := t.fetches ++ [⟨(s.get kind).reg, cur, obs⟩] }) } := by
  cases h : (s.get kind).script with
  | some sc => simp [monListRec, h]
  | none => simp [monListRec, h]

theorem registryRev_regOK (kind : Kind) : ∀ (h : List Rec), RegOK (registryRev kind h)
  | [] => regOK_nil
  | r :: h => by
    have ih := registryRev_regOK kind h
    cases r <;> simp only [registryRev] <;> first | exact regOK_nil | exact ih | skip
    · split
      · exact regOK_foldl_regAdd _ _ ih
      · exact ih
    · split
      · exact regOK_regRemove _ _ ih
      · exact ih

theorem registry_regOK (kind : Kind) (h : Trace) : RegOK (registry kind h) := registryRev_regOK kind _

theorem pageSizeRev_pos : ∀ (h : List Rec), 1 ≤ pageSizeRev h
  | [] => by decide
  | r :: h => by
    have ih := pageSizeRev_pos h
    cases r <;> simp only [pageSizeRev] <;> first | exact ih | exact pageSizeOf_pos _ | decide

theorem pageSize_pos (h : Trace) : 1 ≤ pageSize h := pageSizeRev_pos _

def FiresAt (tr : Trace) (j : Nat) (cl : Clause) : Prop :=
  ∃ r, tr[j]? = some r ∧ (monStep (stateAfter (tr.take j)) r).2 = some cl

/-- Monitor.lean is linked into the driver and imports nothing of Base, so it has its own run; this is the link. -/
theorem runMonFrom_eq : ∀ (tr : Trace) (s : MState) (i : Nat), runMonFrom s i tr = FirstReport.first monStep s i tr
  | [], _, _ => rfl
  | r :: tr, s, i => by
    simp only [runMonFrom, FirstReport.first]
    cases (monStep s r).2 <;> simp only [runMonFrom_eq tr]

theorem runMon_fires {tr : Trace} {j : Nat} {cl : Clause} (h : runMon tr = some (j, cl)) : FiresAt tr j cl := by
  obtain ⟨k, r, hj, hk, hr, -⟩ := FirstReport.first_eq_some.1 ((runMonFrom_eq tr {} 0).symm.trans h)
  rw [Nat.zero_add] at hj
  exact hj ▸ ⟨r, hk, hr⟩

theorem runMon_none {tr : Trace} (h : runMon tr = none) :
    ∀ j r, tr[j]? = some r → (monStep (stateAfter (tr.take j)) r).2 = none :=
  FirstReport.first_eq_none.1 ((runMonFrom_eq tr {} 0).symm.trans h)

/-- `L` is the registered entries, each once, ascending by key: the listing order. -/
def Listing (reg L : List Item) : Prop := Sorted (keys L) ∧ ∀ x, x ∈ L ↔ x ∈ reg

/-- `items` is the first `p` entries of the listing strictly above the cursor's key. -/
def IsPage (reg : List Item) (p : Nat) (cur : DCur) (items : List Item) : Prop :=
  ∃ L, Listing reg L ∧ items = (L.filter (above cur)).take p

/-- `NextCursor` is empty exactly when nothing is left above the page, and otherwise decodes to the
last key of the page. -/
def NextOk (reg : List Item) (p : Nat) (cur : DCur) (items : List Item) (next : DCur) : Prop :=
  ∃ L, Listing reg L ∧
    ((L.filter (above cur)).length ≤ p → next = .nil) ∧
    (p < (L.filter (above cur)).length → ∃ l, items.getLast? = some l ∧ next = .good l.1)

def ListAt (tr : Trace) (j : Nat) (kind : Kind) (cur : DCur) (fl : Bool) (obs : LObs) : Prop :=
  tr[j]? = some (Rec.list kind cur fl obs) ∧ script kind (tr.take j) = none

/-- "A malformed cursor is rejected with invalid-params". -/
def P_malformed_cursor_invalid_params (tr : Trace) : Prop :=
  ∀ j kind fl obs, ListAt tr j kind .bad fl obs → obs = .invalid

/-- "no cursor value can crash the server": a request with a well-formed cursor (empty, issued, stale,
forged) is answered with a page. -/
def P_any_cursor_answered (tr : Trace) : Prop :=
  ∀ j kind cur fl obs, ListAt tr j kind cur fl obs → cur ≠ .bad → ∃ items next, obs = .page items next

/-- "returns every registered item exactly once, in one stable order": a page is the first `p`
registered entries strictly above the cursor, in listing order. -/
def P_page_is_first_p_above (tr : Trace) : Prop :=
  ∀ j kind cur fl items next, ListAt tr j kind cur fl (.page items next) → cur ≠ .bad →
    IsPage (registry kind (tr.take j)) (pageSize (tr.take j)) cur items

/-- "following cursors": a `NextCursor` the server issues is one its own decoder accepts. -/
def P_next_cursor_decodes (tr : Trace) : Prop :=
  ∀ j kind cur fl items next, ListAt tr j kind cur fl (.page items next) → next ≠ .bad

/-- "ending with an empty cursor": the cursor is empty exactly on the last page. -/
def P_next_cursor_right (tr : Trace) : Prop :=
  ∀ j kind cur fl items next, ListAt tr j kind cur fl (.page items next) → cur ≠ .bad →
    NextOk (registry kind (tr.take j)) (pageSize (tr.take j)) cur items next

/-- What `ListX` must hand over when a foreign server sent `sc`'s answer for the cursor. -/
def ForeignAnswer (kind : Kind) (sc : Script) (cur : DCur) : LObs :=
  match sc.lookup cur with
  | some (.page items n) => .page (items.filter (keepItem kind)) n
  | some .panic => .other
  | _ => .invalid

/-- `ListX` against a foreign server hands over the page it was sent: items in order, `NextCursor`
unchanged; `ListTools` minus the tools with invalid annotations. -/
def P_foreign_page_handed_over (tr : Trace) : Prop :=
  ∀ (j : Nat) kind cur fl obs sc, tr[j]? = some (Rec.list kind cur fl obs) → script kind (tr.take j) = some sc →
    obs = ForeignAnswer kind sc cur

/-- A registration by the harness (valid features only) succeeds. -/
def P_registration_succeeds (tr : Trace) : Prop :=
  ∀ (j : Nat) kind fs ok, tr[j]? = some (Rec.add kind fs ok) → ok = true

/-- A request that carries the `NextCursor` of the previous answer is not refused as invalid params. -/
def P_issued_cursor_accepted (tr : Trace) : Prop :=
  ∀ j kind cur obs, ListAt tr j kind cur true obs → obs ≠ .invalid

/-- `roundtrip`: the harness encoded a key with the server's `encodeCursor` and decoded it again — same key back, cursor
non-empty. -/
def P_codec_law (tr : Trace) : Prop := ∀ (j : Nat) same, tr[j]? = some (Rec.roundtrip same) → same = true

/-- `codec`: the harness fed `decodeCursor` an arbitrary string — no crash. -/
def P_codec_total (tr : Trace) : Prop := ∀ (j : Nat) ok, tr[j]? = some (Rec.codec ok) → ok = true

/-- No bracket of this kind, no new server, inside the segment. -/
def NoBracket (kind : Kind) (seg : List Rec) : Prop :=
  ∀ r ∈ seg, r ≠ .tbegin kind ∧ r ≠ .tend kind ∧ r ≠ .reset ∧ ∀ n, r ≠ .server n

def fetchOf (kind : Kind) (h : Trace) : Rec → List Fetch
  | .list k cur _ obs => if k = kind ∧ script kind h = none then [⟨registry kind h, cur, obs⟩] else []
  | _ => []

def segFetches (kind : Kind) : Trace → List Rec → List Fetch
  | _, [] => []
  | h, r :: seg => fetchOf kind h r ++ segFetches kind (h ++ [r]) seg

def mutatesB (kind : Kind) : Rec → Bool
  | .add k _ _ => k == kind
  | .remove k _ => k == kind
  | _ => false

def Mutates (kind : Kind) (seg : List Rec) : Prop := ∃ r ∈ seg, mutatesB kind r = true

/-- The trace reads `h ++ tbegin kind :: seg ++ tend kind :: …`. -/
def IsTrav (tr : Trace) (kind : Kind) (h : Trace) (seg : List Rec) : Prop :=
  (∃ post, tr = h ++ .tbegin kind :: seg ++ .tend kind :: post) ∧ NoBracket kind seg

/-- The requests follow cursors from `c`. -/
inductive Follows : DCur → List Fetch → Prop
  | nil (c) : Follows c []
  | single (f : Fetch) : Follows f.cur [f]
  | cons (f g : Fetch) (r : List Fetch) (items : List Item) (n : DCur) :
      f.obs = .page items n → n ≠ .nil → Follows n (g :: r) → Follows f.cur (f :: g :: r)

/-- A traversal "following cursors from the first page" in which no request failed. -/
def GoodTrav (fs : List Fetch) : Prop := Follows .nil fs ∧ ∀ f ∈ fs, f.isPage = true

def Finished (fs : List Fetch) : Prop := ∃ pre f items, fs = pre ++ [f] ∧ f.obs = .page items .nil

/-- "in one stable order": the keys received over a traversal are strictly ascending — no key twice,
finished or not, whatever is added or removed between the pages. -/
def P_traversal_ascending (tr : Trace) : Prop :=
  ∀ kind h seg, IsTrav tr kind h seg → GoodTrav (segFetches kind (h ++ [.tbegin kind]) seg) →
    Sorted (travItems (segFetches kind (h ++ [.tbegin kind]) seg))

/-- "items that stay registered throughout a traversal appear exactly once" (at least once here; at
most once is `P_traversal_ascending`). -/
def P_traversal_stable_items (tr : Trace) : Prop :=
  ∀ kind h seg, IsTrav tr kind h seg → GoodTrav (segFetches kind (h ++ [.tbegin kind]) seg) →
    Finished (segFetches kind (h ++ [.tbegin kind]) seg) →
    ∀ k, (∀ f ∈ segFetches kind (h ++ [.tbegin kind]) seg, k ∈ f.regKeys) →
      k ∈ travItems (segFetches kind (h ++ [.tbegin kind]) seg)

/-- "following cursors from the first page returns every registered item exactly once": without
mutations the keys received are exactly the listing. -/
def P_traversal_static_exact (tr : Trace) : Prop :=
  ∀ kind h seg, IsTrav tr kind h seg → GoodTrav (segFetches kind (h ++ [.tbegin kind]) seg) →
    Finished (segFetches kind (h ++ [.tbegin kind]) seg) → ¬ Mutates kind seg →
    ∀ L, Listing (travFirst (segFetches kind (h ++ [.tbegin kind]) seg)) L →
      travItems (segFetches kind (h ++ [.tbegin kind]) seg) = keys L

/-- "any page size": `n` registered entries take `max 1 ⌈n/p⌉` pages. -/
def P_traversal_static_pages (tr : Trace) : Prop :=
  ∀ kind h seg, IsTrav tr kind h seg → GoodTrav (segFetches kind (h ++ [.tbegin kind]) seg) →
    Finished (segFetches kind (h ++ [.tbegin kind]) seg) → ¬ Mutates kind seg →
    (segFetches kind (h ++ [.tbegin kind]) seg).length =
      max 1 (((travFirst (segFetches kind (h ++ [.tbegin kind]) seg)).length + pageSize (h ++ .tbegin kind :: seg) - 1) /
        pageSize (h ++ .tbegin kind :: seg))

/-- "the client-side iterators yield the same sequence as manual paging", pull by pull: what the
consumer is handed is what the lazy pager of the session hands out against the server as it stands. -/
def P_iterator_pull_eq_manual (tr : Trace) : Prop :=
  ∀ (j : Nat) kind m obs it, tr[j]? = some (Rec.ipull kind m obs) → pager kind (tr.take j) = some it →
    script kind (tr.take j) = none →
    obs = (pullMany (specOracle (registry kind (tr.take j)) (pageSize (tr.take j))) 3 m it []).2

/-- The same against a foreign server. -/
def P_iterator_pull_foreign (tr : Trace) : Prop :=
  ∀ (j : Nat) kind m obs it sc, tr[j]? = some (Rec.ipull kind m obs) → pager kind (tr.take j) = some it →
    script kind (tr.take j) = some sc →
    obs = (pullMany (scriptedOracle kind sc) (sc.length + 3) m it []).2

/-- … and for a whole iteration: exactly the concatenated pages of manual paging (`Model.manual`)
against a server that answers as the property demands, ending the same way. -/
def P_iterator_all_eq_manual (tr : Trace) : Prop :=
  ∀ (j : Nat) kind cur obs, tr[j]? = some (Rec.iterall kind cur obs) → script kind (tr.take j) = none →
    obs = (manualAll (specOracle (registry kind (tr.take j)) (pageSize (tr.take j))) cur
      ((registry kind (tr.take j)).length + 1)).1

/-- … against a foreign server, whenever manual paging ends (within `|script| + 2` requests). -/
def P_iterator_all_foreign (tr : Trace) : Prop :=
  ∀ (j : Nat) kind cur obs sc, tr[j]? = some (Rec.iterall kind cur obs) → script kind (tr.take j) = some sc →
    (manualAll (scriptedOracle kind sc) cur (sc.length + 2)).2 ≠ .running →
    obs = (manualAll (scriptedOracle kind sc) cur (sc.length + 2)).1

def P_of : Clause → Trace → Prop
  | .malformedNotRefused => P_malformed_cursor_invalid_params
  | .listFailed => P_any_cursor_answered
  | .pageWrong => P_page_is_first_p_above
  | .nextUndecodable => P_next_cursor_decodes
  | .nextWrong => P_next_cursor_right
  | .foreignPage => P_foreign_page_handed_over
  | .addFailed => P_registration_succeeds
  | .followRefused => P_issued_cursor_accepted
  | .travOrder => P_traversal_ascending
  | .travMiss => P_traversal_stable_items
  | .travNotExact => P_traversal_static_exact
  | .travPages => P_traversal_static_pages
  | .iterForeign => fun tr => P_iterator_pull_foreign tr ∧ P_iterator_all_foreign tr
  | .iterManual => fun tr => P_iterator_pull_eq_manual tr ∧ P_iterator_all_eq_manual tr
  | .codecLaw => P_codec_law
  | .codecCrash => P_codec_total

theorem listing_sortReg (reg : List Item) (h : RegOK reg) : Listing reg (sortReg reg) :=
  ⟨sorted_sortReg reg h, mem_sortReg reg⟩

theorem listing_unique {reg L : List Item} (h : RegOK reg) (hl : Listing reg L) : L = sortReg reg :=
  sortReg_unique reg L h hl.1 hl.2

theorem isPage_iff {reg : List Item} (h : RegOK reg) (p : Nat) (cur : DCur) (items : List Item) :
    IsPage reg p cur items ↔ items = specItems reg p cur := by
  constructor
  · rintro ⟨L, hl, rfl⟩
    rw [listing_unique h hl]; rfl
  · intro e
    exact ⟨sortReg reg, listing_sortReg reg h, e⟩

theorem nextOk_iff {reg : List Item} (h : RegOK reg) (p : Nat) (hp : 1 ≤ p) (cur : DCur) (next : DCur) :
    NextOk reg p cur (specItems reg p cur) next ↔ next = specNext reg p cur := by
  have key : ∀ L, Listing reg L → L.filter (above cur) = specRest reg cur := by
    intro L hl; rw [listing_unique h hl]; rfl
  unfold specNext
  constructor
  · rintro ⟨L, hl, h1, h2⟩
    rw [key L hl] at h1 h2
    by_cases hle : (specRest reg cur).length ≤ p
    · simp [hle, h1 hle]
    · obtain ⟨l, hl1, hl2⟩ := h2 (by omega)
      simp [hle, hl1, hl2]
  · intro e
    refine ⟨sortReg reg, listing_sortReg reg h, ?_, ?_⟩
    · intro hle
      have hle' : (specRest reg cur).length ≤ p := hle
      simp [e, hle']
    · intro hlt
      have hlt' : ¬ (specRest reg cur).length ≤ p := by
        have : p < (specRest reg cur).length := hlt
        omega
      obtain ⟨l, hg⟩ := getLast?_take hp (show p < (specRest reg cur).length from hlt)
      exact ⟨l, hg, by simp [e, hlt', specItems, hg]⟩

theorem foreignAnswer_eq (kind : Kind) (sc : Script) (cur : DCur) :
    LObs.ofRes (scriptedOracle kind sc 0 cur) = ForeignAnswer kind sc cur := by
  simp only [scriptedOracle, filterOracle, scriptOracle, ForeignAnswer]
  cases sc.lookup cur with
  | none => rfl
  | some r => cases r <;> rfl

theorem ofRes_specPage (reg : List Item) (p : Nat) {cur : DCur} (hb : cur ≠ .bad) :
    LObs.ofRes (specPage reg p cur) = .page (specItems reg p cur) (specNext reg p cur) := by
  rw [specPage_page reg p hb]; rfl

/-- Why `monList` reports a clause.  The clause is an index: a case analysis at a given clause leaves
only that clause's reason. -/
inductive ListFires (reg : List Item) (p : Nat) : DCur → LObs → Clause → Prop
  | malformed {obs} : obs ≠ .invalid → ListFires reg p .bad obs .malformedNotRefused
  | listFailed {cur obs} : cur ≠ .bad → (∀ items next, obs ≠ .page items next) → ListFires reg p cur obs .listFailed
  | pageWrong {cur items next} : cur ≠ .bad → items ≠ specItems reg p cur →
      ListFires reg p cur (.page items next) .pageWrong
  | nextUndecodable {cur items} : ListFires reg p cur (.page items .bad) .nextUndecodable
  | nextWrong {cur next} : cur ≠ .bad → next ≠ specNext reg p cur →
      ListFires reg p cur (.page (specItems reg p cur) next) .nextWrong

theorem monList_some {reg : List Item} {p : Nat} {cur : DCur} {obs : LObs} {cl : Clause}
    (h : monList reg p cur obs = some cl) : ListFires reg p cur obs cl := by
  unfold monList at h
  split at h
  · cases h
  rename_i hne
  split at h
  · cases h; exact .malformed hne
  · rename_i items next hb
    have hb' : cur ≠ .bad := fun e => hb e
    rw [ofRes_specPage reg p hb'] at hne
    split at h
    · cases h; exact .pageWrong hb' ‹_›
    · rename_i hi
      have hi' : items = specItems reg p cur := by simpa using hi
      subst hi'
      split at h
      · rename_i hn; subst hn; cases h; exact .nextUndecodable
      · cases h; exact .nextWrong hb' (fun e => hne (by rw [e]))
  · rename_i hb hno
    cases h
    exact .listFailed (fun e => hb e) (fun items next e => hno items next e)

theorem monList_none {reg : List Item} {p : Nat} {cur : DCur} {obs : LObs} :
    monList reg p cur obs = none ↔ obs = LObs.ofRes (specPage reg p cur) := by
  constructor
  · intro h
    unfold monList at h
    split at h
    · assumption
    · split at h
      · cases h
      · split at h
        · cases h
        · split at h <;> cases h
      · cases h
  · intro e; rw [e]; exact monList_conform reg p cur

theorem monListRec_none {s : MState} {kind : Kind} {cur : DCur} {fl : Bool} {obs : LObs}
    (h : (monListRec s kind cur fl obs).2 = none) :
    (∀ sc, (s.get kind).script = some sc → obs = LObs.ofRes (scriptedOracle kind sc 0 cur)) ∧
    ((s.get kind).script = none → monList (s.get kind).reg s.p cur obs = none ∧ ¬ (fl = true ∧ obs = .invalid)) := by
  unfold monListRec at h
  cases hsc : (s.get kind).script with
  | some sc =>
    simp only [hsc] at h
    refine ⟨?_, (by intro e; cases e)⟩
    intro sc' e
    cases e
    exact (ite_none_eq_none.1 h).resolve_right nofun
  | none =>
    simp only [hsc] at h
    refine ⟨(by intro sc e; cases e), fun _ => ?_⟩
    split at h
    · cases h
    · rename_i hc
      simp only [Bool.and_eq_true, decide_eq_true_eq, Option.isNone_iff_eq_none, not_and] at hc
      refine ⟨h, ?_⟩
      rintro ⟨h1, h2⟩
      exact hc ⟨h1, h2⟩ h

inductive TendFires (t : TravMon) (p : Nat) : Clause → Prop
  | travOrder : strictlyAscending (travItems t.fetches) = false → TendFires t p .travOrder
  | travMiss : travFinished t.fetches = true →
      (travStable t.fetches).all (fun k => (travItems t.fetches).contains k) = false → TendFires t p .travMiss
  | travNotExact : travFinished t.fetches = true → t.mutated = false →
      travItems t.fetches ≠ (sortReg (travFirst t.fetches)).map (·.1) → TendFires t p .travNotExact
  | travPages : travFinished t.fetches = true → t.mutated = false →
      t.fetches.length ≠ pagesFor' (travFirst t.fetches).length p → TendFires t p .travPages

theorem monTend_some {t : TravMon} {p : Nat} {cl : Clause} (h : monTend t p = some cl) :
    t.fetches.all Fetch.isPage = true ∧ chain .nil t.fetches = true ∧ TendFires t p cl := by
  unfold monTend at h
  obtain ⟨h1, h⟩ := Option.ite_none_left_eq_some.mp h
  obtain ⟨h2, h⟩ := Option.ite_none_left_eq_some.mp h
  refine ⟨by simpa using h1, by simpa using h2, ?_⟩
  rcases ite_some_eq_some.1 h with ⟨h3, rfl⟩ | ⟨-, h⟩
  · exact .travOrder (by simpa using h3)
  rcases ite_some_eq_some.1 h with ⟨h4, rfl⟩ | ⟨-, h⟩
  · simp only [Bool.and_eq_true, Bool.not_eq_true'] at h4
    exact .travMiss h4.1 h4.2
  rcases ite_some_eq_some.1 h with ⟨h5, rfl⟩ | ⟨-, h⟩
  · simp only [Bool.and_eq_true, Bool.not_eq_true', bne_iff_ne, ne_eq] at h5
    exact .travNotExact h5.1.1 h5.1.2 h5.2
  rcases ite_some_eq_some.1 h with ⟨h6, rfl⟩ | ⟨-, h⟩
  · simp only [Bool.and_eq_true, Bool.not_eq_true', bne_iff_ne, ne_eq] at h6
    exact .travPages h6.1.1 h6.1.2 h6.2
  · cases h

inductive Fired (s : MState) : Rec → Clause → Prop
  | add (kind : Kind) (fs : List Item) : Fired s (.add kind fs false) .addFailed
  | list (kind : Kind) (cur : DCur) (fl : Bool) (obs : LObs) (cl : Clause) :
      (monListRec s kind cur fl obs).2 = some cl → Fired s (.list kind cur fl obs) cl
  | tend (kind : Kind) (t : TravMon) (cl : Clause) :
      (s.get kind).tr = some t → monTend t s.p = some cl → Fired s (.tend kind) cl
  | ipullF (kind : Kind) (m : Nat) (obs : IObs) (it : Iter K String DCur) (sc : Script) :
      (s.get kind).sit = some it → (s.get kind).script = some sc →
      obs ≠ (pullMany (scriptedOracle kind sc) (sc.length + 3) m it []).2 → Fired s (.ipull kind m obs) .iterForeign
  | ipullM (kind : Kind) (m : Nat) (obs : IObs) (it : Iter K String DCur) :
      (s.get kind).sit = some it → (s.get kind).script = none →
      obs ≠ (pullMany (specOracle (s.get kind).reg s.p) 3 m it []).2 → Fired s (.ipull kind m obs) .iterManual
  | iterallF (kind : Kind) (cur : DCur) (obs : IObs) (sc : Script) :
      (s.get kind).script = some sc → obs ≠ (manualAll (scriptedOracle kind sc) cur (sc.length + 2)).1 →
      (manualAll (scriptedOracle kind sc) cur (sc.length + 2)).2 ≠ .running → Fired s (.iterall kind cur obs) .iterForeign
  | iterallM (kind : Kind) (cur : DCur) (obs : IObs) :
      (s.get kind).script = none →
      obs ≠ iterAll (specOracle (s.get kind).reg s.p) cur (2 * (s.get kind).reg.length + 8) →
      Fired s (.iterall kind cur obs) .iterManual
  | roundtrip : Fired s (.roundtrip false) .codecLaw
  | codec : Fired s (.codec false) .codecCrash

theorem monStep_fired {s : MState} {r : Rec} {cl : Clause} (h : (monStep s r).2 = some cl) : Fired s r cl := by
  cases r with
  | reset | server _ | remove _ _ | script _ _ | unscript _ | tbegin _ | iopen _ _ | iclose _ | readonly _ => cases h
  | add kind fs ok =>
    obtain ⟨hok, h⟩ := Option.ite_none_left_eq_some.mp h
    rw [Bool.not_eq_true] at hok; subst hok; cases h; exact .add kind fs
  | roundtrip same =>
    obtain ⟨hok, h⟩ := Option.ite_none_left_eq_some.mp h
    rw [Bool.not_eq_true] at hok; subst hok; cases h; exact .roundtrip
  | codec ok =>
    obtain ⟨hok, h⟩ := Option.ite_none_left_eq_some.mp h
    rw [Bool.not_eq_true] at hok; subst hok; cases h; exact .codec
  | list kind cur fl obs => exact .list kind cur fl obs cl h
  | tend kind =>
    simp only [monStep] at h
    cases ht : (s.get kind).tr with
    | none => rw [ht] at h; cases h
    | some t => rw [ht] at h; exact .tend kind t cl ht h
  | ipull kind m obs =>
    simp only [monStep] at h
    cases hs : (s.get kind).sit with
    | none => rw [hs] at h; cases h
    | some it =>
      rw [hs] at h
      cases hsc : (s.get kind).script <;> rw [hsc] at h <;> obtain ⟨hne, ⟨⟩⟩ := Option.ite_none_left_eq_some.mp h
      · exact .ipullM kind m obs it hs hsc hne
      · exact .ipullF kind m obs it _ hs hsc hne
  | iterall kind cur obs =>
    simp only [monStep] at h
    cases hsc : (s.get kind).script <;> rw [hsc] at h <;> obtain ⟨hne, ⟨⟩⟩ := Option.ite_none_left_eq_some.mp h
    · exact .iterallM kind cur obs hsc hne
    · simp only [Bool.or_eq_true, decide_eq_true_eq, beq_iff_eq, not_or] at hne
      exact .iterallF kind cur obs _ hsc hne.1 hne.2

/-- Records after which an open traversal of `kind` is still the same traversal. -/
def neutral (kind : Kind) : Rec → Bool
  | .reset => false
  | .server _ => false
  | .tbegin k => k != kind
  | .tend k => k != kind
  | _ => true

/-- The open traversal of `kind` after a history (read backwards): opened by `tbegin kind`, extended by every record
that leaves it open, dropped by `tend kind` and by a new server. -/
def travRev (kind : Kind) : List Rec → Option TravMon
  | [] => none
  | r :: h =>
    if neutral kind r then
      (travRev kind h).map fun t => ⟨t.fetches ++ fetchOf kind h.reverse r, t.mutated || mutatesB kind r⟩
    else match r with
      | .tbegin _ => some {}
      | _ => none

/-- What the monitor holds for a kind after a history. -/
def kindRev (kind : Kind) (hr : List Rec) : MKind :=
  ⟨registryRev kind hr, scriptRev kind hr, pagerRev kind hr, travRev kind hr⟩

theorem map_noop (o : Option TravMon) :
    o.map (fun t => ({ fetches := t.fetches ++ [], mutated := t.mutated || false } : TravMon)) = o := by
  cases o <;> simp

attribute [local simp] kindRev registryRev scriptRev pagerRev travRev neutral fetchOf mutatesB map_noop in
/-- The step of `kindBook`.  Each `…Rev` function is the monitor's step on that component read off the history, so every
case is `simp` with their equations (local simp lemmas here).  `ipull`: `pagerRev` advances the pager by `pullMany` against
`serverAfter` with `roundsAfter`, which are the two branches of `monStep` on that record (script / registry). -/
theorem kind_step (s : MState) (hr : List Rec) (r : Rec) (ihp : s.p = pageSizeRev hr)
    (ihk : ∀ kind, s.get kind = kindRev kind hr) :
    (monStep s r).1.p = pageSizeRev (r :: hr) ∧ ∀ kind, (monStep s r).1.get kind = kindRev kind (r :: hr) := by
  cases r with
  | reset | server n => exact ⟨rfl, fun kind => by cases kind <;> rfl⟩
  | add k0 _ _ | remove k0 _ | script k0 _ | unscript k0 | tbegin k0 | tend k0 | iopen k0 _ | iclose k0 =>
    refine ⟨by simpa [monStep, pageSizeRev] using ihp, fun kind => ?_⟩
    by_cases e : k0 = kind
    · subst e; simp [monStep, markMutated, ihk]
    · have eb : (k0 == kind) = false := by simpa using e
      simp [monStep, MState.get_set, e, eb, ihk]
  | iterall k0 _ _ =>
    simp only [monStep]
    cases (s.get k0).script <;> exact ⟨ihp, fun kind => by simp [ihk]⟩
  | roundtrip _ | codec _ | readonly _ => exact ⟨ihp, fun kind => by simp [monStep, ihk]⟩
  | list k0 cur fl obs =>
    simp only [monStep, monListRec_fst, ihk k0, kindRev]
    refine ⟨by cases scriptRev k0 hr <;> simpa [pageSizeRev] using ihp, fun kind => ?_⟩
    by_cases e : k0 = kind
    · subst e; cases hsc : scriptRev k0 hr <;> simp [ihk, hsc, script, registry]
    · cases scriptRev k0 hr <;> simp [MState.get_set, ihk, e]
  | ipull k0 m obs =>
    simp only [monStep, ihk k0, kindRev]
    refine ⟨by cases pagerRev k0 hr <;> cases scriptRev k0 hr <;> simpa [pageSizeRev] using ihp, fun kind => ?_⟩
    by_cases e : k0 = kind
    · subst e
      cases hsit : pagerRev k0 hr <;> cases hsc : scriptRev k0 hr <;>
        simp [ihk, hsit, hsc, serverAfter, roundsAfter, script, registry, pageSize, ihp]
    · cases pagerRev k0 hr <;> cases scriptRev k0 hr <;> simp [MState.get_set, ihk, e]

theorem kindBook (h : Trace) :
    (stateAfter h).p = pageSizeRev h.reverse ∧ ∀ kind, (stateAfter h).get kind = kindRev kind h.reverse := by
  refine List.snoc_induction (P := fun h => (stateAfter h).p = pageSizeRev h.reverse ∧
    ∀ kind, (stateAfter h).get kind = kindRev kind h.reverse) ⟨rfl, fun kind => by cases kind <;> rfl⟩ ?_ h
  intro h r ih
  rw [stateAfter_snoc, List.reverse_append]
  exact kind_step _ _ r ih.1 ih.2

/-- The monitor's page size, registries, scripts and reference pagers are what the history says. -/
def Book (h : Trace) : Prop :=
  (stateAfter h).p = pageSize h ∧
  ∀ kind, ((stateAfter h).get kind).reg = registry kind h ∧ ((stateAfter h).get kind).script = script kind h ∧
    ((stateAfter h).get kind).sit = pager kind h

theorem book (h : Trace) : Book h := by
  refine ⟨(kindBook h).1, fun kind => ?_⟩
  rw [(kindBook h).2 kind]
  exact ⟨rfl, rfl, rfl⟩

theorem travRev_snoc (kind : Kind) (h : Trace) (r : Rec) (hn : neutral kind r = true) :
    travRev kind (h ++ [r]).reverse = (travRev kind h.reverse).map fun t =>
      ⟨t.fetches ++ fetchOf kind h r, t.mutated || mutatesB kind r⟩ := by
  simp [travRev, hn]

theorem segFetches_snoc (kind : Kind) : ∀ (seg : List Rec) (h : Trace) (r : Rec),
    segFetches kind h (seg ++ [r]) = segFetches kind h seg ++ fetchOf kind (h ++ seg) r
  | [], h, r => by simp [segFetches]
  | x :: seg, h, r => by
    simp [segFetches, segFetches_snoc kind seg (h ++ [x]) r]

theorem neutral_iff (kind : Kind) (r : Rec) :
    neutral kind r = true ↔ r ≠ .tbegin kind ∧ r ≠ .tend kind ∧ r ≠ .reset ∧ ∀ n, r ≠ .server n := by
  cases r <;> simp [neutral]

theorem noBracket_snoc {kind : Kind} {seg : List Rec} {r : Rec} (h : NoBracket kind seg) (hn : neutral kind r = true) :
    NoBracket kind (seg ++ [r]) := by
  intro x hx
  rcases List.mem_append.1 hx with hx | hx
  · exact h x hx
  · rw [List.mem_singleton.1 hx]; exact (neutral_iff kind r).1 hn

theorem mutates_snoc (kind : Kind) (seg : List Rec) (r : Rec) :
    Mutates kind (seg ++ [r]) ↔ Mutates kind seg ∨ mutatesB kind r = true := by
  simp only [Mutates, List.mem_append, List.mem_singleton]
  constructor
  · rintro ⟨x, hx | rfl, hm⟩
    · exact Or.inl ⟨x, hx, hm⟩
    · exact Or.inr hm
  · rintro (⟨x, hx, hm⟩ | hm)
    · exact ⟨x, Or.inl hx, hm⟩
    · exact ⟨r, Or.inr rfl, hm⟩

/-- The open traversal the monitor holds for `kind` after history `h` is the segment since the last
`tbegin kind`: same fetches, mutated flag = a registration or removal of the kind inside. -/
def TravBook (h : Trace) : Prop :=
  ∀ kind t, ((stateAfter h).get kind).tr = some t →
    ∃ pre seg, h = pre ++ .tbegin kind :: seg ∧ NoBracket kind seg ∧
      t.fetches = segFetches kind (pre ++ [.tbegin kind]) seg ∧ (t.mutated = true ↔ Mutates kind seg)

theorem travBook (h : Trace) : TravBook h := by
  intro kind t
  rw [(kindBook h).2 kind]
  show travRev kind h.reverse = some t → _
  refine List.snoc_induction (P := fun h => ∀ t, travRev kind h.reverse = some t → ∃ pre seg, h = pre ++ .tbegin kind :: seg ∧
    NoBracket kind seg ∧ t.fetches = segFetches kind (pre ++ [.tbegin kind]) seg ∧ (t.mutated = true ↔ Mutates kind seg))
    (fun t ht => nomatch ht) ?_ h t
  intro h r ih t ht
  cases hn : neutral kind r with
  | true =>
    rw [travRev_snoc kind h r hn] at ht
    obtain ⟨t0, ht0, rfl⟩ := Option.map_eq_some_iff.1 ht
    obtain ⟨pre, seg, rfl, hnb, hfs, hmu⟩ := ih t0 ht0
    refine ⟨pre, seg ++ [r], by simp, noBracket_snoc hnb hn, ?_, ?_⟩
    · rw [segFetches_snoc]; simp [hfs]
    · rw [mutates_snoc, ← hmu]; simp
  | false =>
    -- of the records that end an open traversal only `tbegin kind` opens a new one
    cases r <;> simp [neutral] at hn <;> simp [travRev, neutral, hn] at ht
    subst hn ht
    exact ⟨h, [], rfl, fun x hx => (nomatch hx), rfl, by simp [Mutates]⟩

theorem follows_iff_chain : ∀ (fs : List Fetch) (c : DCur), chain c fs = true ↔ Follows c fs
  | [], c => by simp [chain]; exact .nil c
  | [f], c => by
    simp only [chain, beq_iff_eq]
    constructor
    · rintro rfl; exact .single f
    · intro h; cases h; rfl
  | f :: g :: r, c => by
    constructor
    · intro h
      obtain ⟨rfl, items, n, ho, hn, hc⟩ := chain_cons_cons h
      exact .cons f g r items n ho hn ((follows_iff_chain (g :: r) n).1 hc)
    · intro h
      cases h with
      | cons _ _ _ items n ho hn hf =>
        simp only [chain, beq_self_eq_true, Bool.true_and, ho, Bool.and_eq_true, bne_iff_ne, ne_eq]
        exact ⟨hn, (follows_iff_chain (g :: r) n).2 hf⟩

theorem goodTrav_iff (fs : List Fetch) : GoodTrav fs ↔ (fs.all Fetch.isPage = true ∧ chain .nil fs = true) := by
  unfold GoodTrav
  rw [← follows_iff_chain, List.all_eq_true]
  exact And.comm

theorem finished_iff (fs : List Fetch) : travFinished fs = true ↔ Finished fs := by
  unfold travFinished Finished
  constructor
  · intro h
    cases hg : fs.getLast? with
    | none => rw [hg] at h; cases h
    | some f =>
      rw [hg] at h
      simp only at h
      obtain ⟨pre, rfl⟩ := List.getLast?_eq_some_iff.1 hg
      cases ho : f.obs with
      | page items n =>
        rw [ho] at h
        simp only [beq_iff_eq] at h
        exact ⟨pre, f, items, rfl, by rw [ho, h]⟩
      | invalid => rw [ho] at h; cases h
      | other => rw [ho] at h; cases h
  · rintro ⟨pre, f, items, rfl, ho⟩
    simp [ho]

theorem trav_at {tr : Trace} {j : Nat} {kind : Kind} {t : TravMon} (hj : tr[j]? = some (.tend kind))
    (ht : ((stateAfter (tr.take j)).get kind).tr = some t) :
    ∃ h seg, IsTrav tr kind h seg ∧ tr.take j = h ++ .tbegin kind :: seg ∧
      t.fetches = segFetches kind (h ++ [.tbegin kind]) seg ∧ (t.mutated = true ↔ Mutates kind seg) := by
  obtain ⟨pre, seg, hpre, hnb, hfs, hmu⟩ := travBook (tr.take j) kind t ht
  refine ⟨pre, seg, ⟨⟨tr.drop (j + 1), ?_⟩, hnb⟩, hpre, hfs, hmu⟩
  obtain ⟨hlt, hget⟩ := List.getElem?_eq_some_iff.1 hj
  have e1 : tr = tr.take j ++ tr.drop j := (List.take_append_drop j tr).symm
  rw [List.drop_eq_getElem_cons hlt, hget, hpre] at e1
  simpa using e1

theorem segFetches_regOK (kind : Kind) : ∀ (seg : List Rec) (h0 : Trace), ∀ f ∈ segFetches kind h0 seg, RegOK f.reg := by
  intro seg
  induction seg with
  | nil => intro h0 f hf; cases hf
  | cons x seg ih =>
    intro h0 f hf
    simp only [segFetches, List.mem_append] at hf
    rcases hf with hf | hf
    · cases x <;> simp only [fetchOf, List.not_mem_nil] at hf
      split at hf
      · simp only [List.mem_singleton] at hf; subst hf; exact registry_regOK kind _
      · cases hf
    · exact ih _ f hf

theorem travFirst_regOK (kind : Kind) (seg : List Rec) (h0 : Trace) : RegOK (travFirst (segFetches kind h0 seg)) := by
  cases hseg : segFetches kind h0 seg with
  | nil => exact regOK_nil
  | cons f r => exact segFetches_regOK kind seg h0 f (by rw [hseg]; simp)

/-- The step that reports the clause says why (`monStep_fired`, `monList_some`, `monTend_some`); the
bookkeeping (`book`, `trav_at`) turns that into a statement about the trace, which is the negation of
an instance of the property clause. -/
theorem fires_sound {tr : Trace} {j : Nat} {cl : Clause} (hf : FiresAt tr j cl) : ¬ P_of cl tr := by
  obtain ⟨r, hj, hc⟩ := hf
  obtain ⟨bp, bk⟩ := book (tr.take j)
  intro hP
  cases monStep_fired hc with
  | add kind fs => exact Bool.noConfusion (hP j kind fs false hj)
  | roundtrip => exact Bool.noConfusion (hP j false hj)
  | codec => exact Bool.noConfusion (hP j false hj)
  | list kind cur fl obs _ h =>
    obtain ⟨br, bs, _⟩ := bk kind
    unfold monListRec at h
    cases hsc : ((stateAfter (tr.take j)).get kind).script with
    | some sc =>
      simp only [hsc] at h
      obtain ⟨hne, ⟨⟩⟩ := Option.ite_none_left_eq_some.mp h
      exact hne (by rw [foreignAnswer_eq]; exact hP j kind cur fl obs sc hj (by rw [← bs, hsc]))
    | none =>
      have hl : ListAt tr j kind cur fl obs := ⟨hj, by rw [← bs, hsc]⟩
      simp only [hsc] at h
      rcases ite_some_eq_some.1 h with ⟨hfr, rfl⟩ | ⟨-, h2⟩
      · simp only [Bool.and_eq_true, decide_eq_true_eq] at hfr
        obtain ⟨⟨rfl, rfl⟩, -⟩ := hfr
        exact hP j kind cur _ hl rfl
      rw [br, bp] at h2
      cases monList_some h2 with
      | malformed hne => exact hne (hP j kind fl obs hl)
      | listFailed hb hno => obtain ⟨items, next, e⟩ := hP j kind cur fl obs hl hb; exact hno items next e
      | pageWrong hb hne => exact hne ((isPage_iff (registry_regOK kind _) _ cur _).1 (hP j kind cur fl _ _ hl hb))
      | nextUndecodable => exact hP j kind cur fl _ _ hl rfl
      | nextWrong hb hne =>
        exact hne ((nextOk_iff (registry_regOK kind _) _ (pageSize_pos _) cur _).1 (hP j kind cur fl _ _ hl hb))
  | tend kind t _ ht hm =>
    obtain ⟨h, seg, hT, htake, hfs, hmu⟩ := trav_at hj ht
    obtain ⟨h1, h2, h3⟩ := monTend_some hm
    obtain ⟨fs, m⟩ := t
    simp only at hfs hmu h1 h2
    subst hfs
    have hg := (goodTrav_iff _).2 ⟨h1, h2⟩
    cases h3 with
    | travOrder hs => rw [(strictlyAscending_iff _).2 (hP kind h seg hT hg)] at hs; cases hs
    | travMiss hfin hall =>
      have := hP kind h seg hT hg ((finished_iff _).1 hfin)
      rw [List.all_eq_true.2 (fun k hk => List.contains_iff_mem.2 (this k (mem_travStable _ k hk)))] at hall
      cases hall
    | travNotExact hfin hmf hne =>
      have hnm : ¬ Mutates kind seg := fun hx => by rw [hmu.2 hx] at hmf; cases hmf
      exact hne (hP kind h seg hT hg ((finished_iff _).1 hfin) hnm _ (listing_sortReg _ (travFirst_regOK kind seg _)))
    | travPages hfin hmf hne =>
      have hnm : ¬ Mutates kind seg := fun hx => by rw [hmu.2 hx] at hmf; cases hmf
      rw [bp, htake] at hne
      exact hne (hP kind h seg hT hg ((finished_iff _).1 hfin) hnm)
  | ipullF kind m obs it sc hs hsc hne =>
    obtain ⟨_, bs, bg⟩ := bk kind
    exact hne (hP.1 j kind m obs it sc hj (by rw [← bg, hs]) (by rw [← bs, hsc]))
  | ipullM kind m obs it hs hsc hne =>
    obtain ⟨br, bs, bg⟩ := bk kind
    rw [br, bp] at hne
    exact hne (hP.1 j kind m obs it hj (by rw [← bg, hs]) (by rw [← bs, hsc]))
  | iterallF kind cur obs sc hsc hne hrun =>
    obtain ⟨_, bs, _⟩ := bk kind
    exact hne (hP.2 j kind cur obs sc hj (by rw [← bs, hsc]) hrun)
  | iterallM kind cur obs hsc hne =>
    obtain ⟨br, bs, _⟩ := bk kind
    rw [br, bp, iterAll_spec_eq_manualAll _ (registry_regOK kind _) _ (pageSize_pos _)] at hne
    exact hne (hP.2 j kind cur obs hj (by rw [← bs, hsc]))

theorem sound_malformedNotRefused (tr : Trace) (j : Nat) (hf : FiresAt tr j .malformedNotRefused) :
    ¬ P_malformed_cursor_invalid_params tr :=
  fires_sound hf

theorem sound_listFailed (tr : Trace) (j : Nat) (hf : FiresAt tr j .listFailed) : ¬ P_any_cursor_answered tr :=
  fires_sound hf

theorem sound_pageWrong (tr : Trace) (j : Nat) (hf : FiresAt tr j .pageWrong) : ¬ P_page_is_first_p_above tr :=
  fires_sound hf

theorem sound_nextUndecodable (tr : Trace) (j : Nat) (hf : FiresAt tr j .nextUndecodable) : ¬ P_next_cursor_decodes tr :=
  fires_sound hf

theorem sound_nextWrong (tr : Trace) (j : Nat) (hf : FiresAt tr j .nextWrong) : ¬ P_next_cursor_right tr :=
  fires_sound hf

theorem sound_foreignPage (tr : Trace) (j : Nat) (hf : FiresAt tr j .foreignPage) : ¬ P_foreign_page_handed_over tr :=
  fires_sound hf

theorem sound_addFailed (tr : Trace) (j : Nat) (hf : FiresAt tr j .addFailed) : ¬ P_registration_succeeds tr :=
  fires_sound hf

theorem sound_followRefused (tr : Trace) (j : Nat) (hf : FiresAt tr j .followRefused) : ¬ P_issued_cursor_accepted tr :=
  fires_sound hf

theorem sound_codecLaw (tr : Trace) (j : Nat) (hf : FiresAt tr j .codecLaw) : ¬ P_codec_law tr :=
  fires_sound hf

theorem sound_codecCrash (tr : Trace) (j : Nat) (hf : FiresAt tr j .codecCrash) : ¬ P_codec_total tr :=
  fires_sound hf

theorem sound_travOrder (tr : Trace) (j : Nat) (hf : FiresAt tr j .travOrder) : ¬ P_traversal_ascending tr :=
  fires_sound hf

theorem sound_travMiss (tr : Trace) (j : Nat) (hf : FiresAt tr j .travMiss) : ¬ P_traversal_stable_items tr :=
  fires_sound hf

theorem sound_travNotExact (tr : Trace) (j : Nat) (hf : FiresAt tr j .travNotExact) : ¬ P_traversal_static_exact tr :=
  fires_sound hf

theorem sound_travPages (tr : Trace) (j : Nat) (hf : FiresAt tr j .travPages) : ¬ P_traversal_static_pages tr :=
  fires_sound hf

theorem sound_iterManual (tr : Trace) (j : Nat) (hf : FiresAt tr j .iterManual) :
    ¬ (P_iterator_pull_eq_manual tr ∧ P_iterator_all_eq_manual tr) :=
  fires_sound hf

theorem sound_iterForeign (tr : Trace) (j : Nat) (hf : FiresAt tr j .iterForeign) :
    ¬ (P_iterator_pull_foreign tr ∧ P_iterator_all_foreign tr) :=
  fires_sound hf

theorem monitor_sound (tr : Trace) (j : Nat) (cl : Clause) (h : runMon tr = some (j, cl)) : ¬ P_of cl tr :=
  fires_sound (runMon_fires h)

theorem travBook_conv (kind : Kind) (h : Trace) (seg : List Rec) (hnb : NoBracket kind seg) :
    ∃ t, ((stateAfter (h ++ .tbegin kind :: seg)).get kind).tr = some t ∧
      t.fetches = segFetches kind (h ++ [.tbegin kind]) seg ∧ (t.mutated = true ↔ Mutates kind seg) := by
  rw [(kindBook _).2 kind]
  show ∃ t, travRev kind (h ++ .tbegin kind :: seg).reverse = some t ∧ _
  revert hnb
  refine List.snoc_induction (P := fun seg => NoBracket kind seg → ∃ t, travRev kind (h ++ .tbegin kind :: seg).reverse = some t ∧
      t.fetches = segFetches kind (h ++ [.tbegin kind]) seg ∧ (t.mutated = true ↔ Mutates kind seg)) ?_ ?_ seg
  · exact fun _ => ⟨{}, by simp [travRev, neutral], rfl, by simp [Mutates]⟩
  · intro seg r ih hnb
    obtain ⟨t, ht, hfs, hmu⟩ := ih fun x hx => hnb x (List.mem_append_left _ hx)
    have e : h ++ Rec.tbegin kind :: (seg ++ [r]) = (h ++ Rec.tbegin kind :: seg) ++ [r] := by simp
    rw [e, travRev_snoc _ _ r ((neutral_iff kind r).2 (hnb r (by simp))), ht]
    exact ⟨_, rfl, by simp [hfs, segFetches_snoc], by simp [mutates_snoc, ← hmu]⟩

theorem silent_tend {tr : Trace} (hs : runMon tr = none) {kind : Kind} {h : Trace} {seg : List Rec}
    (hT : IsTrav tr kind h seg) (hg : GoodTrav (segFetches kind (h ++ [.tbegin kind]) seg)) :
    strictlyAscending (travItems (segFetches kind (h ++ [.tbegin kind]) seg)) = true ∧
    (Finished (segFetches kind (h ++ [.tbegin kind]) seg) →
      (travStable (segFetches kind (h ++ [.tbegin kind]) seg)).all
        (fun k => (travItems (segFetches kind (h ++ [.tbegin kind]) seg)).contains k) = true ∧
      (¬ Mutates kind seg →
        travItems (segFetches kind (h ++ [.tbegin kind]) seg) =
          (sortReg (travFirst (segFetches kind (h ++ [.tbegin kind]) seg))).map (·.1) ∧
        (segFetches kind (h ++ [.tbegin kind]) seg).length =
          pagesFor' (travFirst (segFetches kind (h ++ [.tbegin kind]) seg)).length (pageSize (h ++ .tbegin kind :: seg)))) := by
  obtain ⟨⟨post, htr⟩, hnb⟩ := hT
  obtain ⟨⟨fs, m⟩, ht, hfs, hmu⟩ := travBook_conv kind h seg hnb
  simp only at hfs hmu
  subst hfs
  have := runMon_none hs (h ++ .tbegin kind :: seg).length (.tend kind)
    (by rw [htr, List.getElem?_append_right (Nat.le_refl _)]; simp)
  rw [htr, List.take_left' rfl] at this
  simp only [monStep, ht, Option.bind_some, (book _).1] at this
  obtain ⟨g1, g2⟩ := (goodTrav_iff _).1 hg
  unfold monTend at this
  rw [if_neg (by simp [g1]), if_neg (by simp [g2])] at this
  obtain ⟨h3, this⟩ := ite_some_eq_none.1 this
  obtain ⟨h4, this⟩ := ite_some_eq_none.1 this
  obtain ⟨h5, this⟩ := ite_some_eq_none.1 this
  obtain ⟨h6, -⟩ := ite_some_eq_none.1 this
  refine ⟨by simpa using h3, fun hfin => ?_⟩
  have hf := (finished_iff _).2 hfin
  refine ⟨by simpa [hf] using h4, fun hnm => ?_⟩
  have hm : m = false := by
    cases hb : m with
    | false => rfl
    | true => exact absurd (hmu.1 hb) hnm
  exact ⟨by simpa [hf, hm] using h5, by simpa [hf, hm] using h6⟩

theorem silent_list {tr : Trace} (hs : runMon tr = none) {j : Nat} {kind : Kind} {cur : DCur} {fl : Bool} {obs : LObs}
    (hl : ListAt tr j kind cur fl obs) :
    obs = LObs.ofRes (specPage (registry kind (tr.take j)) (pageSize (tr.take j)) cur) ∧ ¬ (fl = true ∧ obs = .invalid) := by
  have := runMon_none hs j _ hl.1
  simp only [monStep] at this
  obtain ⟨bp, bk⟩ := book (tr.take j)
  obtain ⟨br, bs, _⟩ := bk kind
  obtain ⟨h1, h2⟩ := (monListRec_none this).2 (by rw [bs]; exact hl.2)
  rw [br, bp] at h1
  exact ⟨monList_none.1 h1, h2⟩

theorem silent_page {tr : Trace} (hs : runMon tr = none) {j : Nat} {kind : Kind} {cur : DCur} {fl : Bool}
    {items : List Item} {next : DCur} (hl : ListAt tr j kind cur fl (.page items next)) :
    cur ≠ .bad ∧ items = specItems (registry kind (tr.take j)) (pageSize (tr.take j)) cur ∧
      next = specNext (registry kind (tr.take j)) (pageSize (tr.take j)) cur := by
  have := (silent_list hs hl).1
  have hb : cur ≠ .bad := by rintro rfl; cases this
  rw [ofRes_specPage _ _ hb] at this
  injection this with h1 h2
  exact ⟨hb, h1, h2⟩

theorem monitor_complete (tr : Trace) (hs : runMon tr = none) (cl : Clause) : P_of cl tr := by
  cases cl with
  | malformedNotRefused =>
    intro j kind fl obs hl
    rw [(silent_list hs hl).1]; rfl
  | listFailed =>
    intro j kind cur fl obs hl hb
    rw [(silent_list hs hl).1, ofRes_specPage _ _ hb]
    exact ⟨_, _, rfl⟩
  | pageWrong =>
    intro j kind cur fl items next hl _
    exact (isPage_iff (registry_regOK kind _) _ cur items).2 (silent_page hs hl).2.1
  | nextUndecodable =>
    intro j kind cur fl items next hl
    rw [(silent_page hs hl).2.2]
    exact specNext_ne_bad _ _ _
  | nextWrong =>
    intro j kind cur fl items next hl _
    obtain ⟨_, hi, hn⟩ := silent_page hs hl
    rw [hi]
    exact (nextOk_iff (registry_regOK kind _) _ (pageSize_pos _) cur next).2 hn
  | foreignPage =>
    intro j kind cur fl obs sc hj hsc
    have := runMon_none hs j _ hj
    rw [← foreignAnswer_eq]
    exact (monListRec_none this).1 sc (by rw [((book (tr.take j)).2 kind).2.1]; exact hsc)
  | addFailed =>
    intro j kind fs ok hj
    exact (ite_none_eq_none.1 (runMon_none hs j _ hj)).resolve_right nofun
  | followRefused =>
    intro j kind cur obs hl ho
    exact (silent_list hs hl).2 ⟨rfl, ho⟩
  | travOrder =>
    intro kind h seg hT hg
    exact (strictlyAscending_iff _).1 (silent_tend hs hT hg).1
  | travMiss =>
    intro kind h seg hT hg hfin k hk
    have hne : segFetches kind (h ++ [.tbegin kind]) seg ≠ [] := by
      obtain ⟨pre, f, _, e, _⟩ := hfin
      rw [e]; simp
    exact List.contains_iff_mem.1
      (List.all_eq_true.1 ((silent_tend hs hT hg).2 hfin).1 k (travStable_of_mem _ k hne hk))
  | travNotExact =>
    intro kind h seg hT hg hfin hnm L hL
    rw [(((silent_tend hs hT hg).2 hfin).2 hnm).1, listing_unique (travFirst_regOK kind seg _) hL]
    rfl
  | travPages =>
    intro kind h seg hT hg hfin hnm
    exact (((silent_tend hs hT hg).2 hfin).2 hnm).2
  | iterForeign =>
    refine ⟨?_, ?_⟩
    · intro j kind m obs it sc hj hpg hsc
      have := runMon_none hs j _ hj
      obtain ⟨_, bs, bg⟩ := (book (tr.take j)).2 kind
      simp only [monStep, bg, hpg, bs, hsc] at this
      exact (ite_none_eq_none.1 this).resolve_right nofun
    · intro j kind cur obs sc hj hsc hrun
      have := runMon_none hs j _ hj
      obtain ⟨_, bs, _⟩ := (book (tr.take j)).2 kind
      simp only [monStep, bs, hsc] at this
      have hc := (ite_none_eq_none.1 this).resolve_right nofun
      simp only [Bool.or_eq_true, decide_eq_true_eq, beq_iff_eq] at hc
      exact hc.resolve_right hrun
  | iterManual =>
    refine ⟨?_, ?_⟩
    · intro j kind m obs it hj hpg hsc
      have := runMon_none hs j _ hj
      obtain ⟨bp, bk⟩ := book (tr.take j)
      obtain ⟨br, bs, bg⟩ := bk kind
      simp only [monStep, bg, hpg, bs, hsc, br, bp] at this
      exact (ite_none_eq_none.1 this).resolve_right nofun
    · intro j kind cur obs hj hsc
      have := runMon_none hs j _ hj
      obtain ⟨bp, bk⟩ := book (tr.take j)
      obtain ⟨br, bs, _⟩ := bk kind
      simp only [monStep, bs, hsc, br, bp] at this
      rw [← iterAll_spec_eq_manualAll _ (registry_regOK kind _) _ (pageSize_pos _)]
      exact (ite_none_eq_none.1 this).resolve_right nofun
  | codecLaw =>
    intro j same hj
    exact (ite_none_eq_none.1 (runMon_none hs j _ hj)).resolve_right nofun
  | codecCrash =>
    intro j ok hj
    exact (ite_none_eq_none.1 (runMon_none hs j _ hj)).resolve_right nofun

theorem model_satisfies_P (rs : List Rec) (hf : FollowDecodes rs) (cl : Clause) : P_of cl (modelTrace {} rs) :=
  monitor_complete _ (monitor_accepts_model rs hf) cl

/-! ## Non-vacuity: every clause can be reported

For each clause of a single record a short trace on which the monitor run reports exactly that clause (so the
hypothesis `FiresAt` of its `sound_…` theorem is satisfiable); for the four traversal clauses an open traversal
(`TravMon`) on which `monTend` reports it, not a whole trace; and a trace of the model on which all predicates hold.  Three tools `a < b < c`, page size 2. -/

section Witness

def w3 : List Item := [([1], "a"), ([2], "b"), ([3], "c")]
def wSetup : List Rec := [.server 2, .add .tools w3 true]

example : runMon (wSetup ++ [.list .tools .bad false (.page [] .nil)]) = some (2, .malformedNotRefused) := by decide +kernel
example : runMon (wSetup ++ [.list .tools .nil false .other]) = some (2, .listFailed) := by decide +kernel
example : runMon (wSetup ++ [.list .tools .nil false (.page [([1], "a"), ([3], "c")] (.good [3]))]) = some (2, .pageWrong) := by decide +kernel
example : runMon (wSetup ++ [.list .tools .nil false (.page [([1], "a"), ([2], "b")] .bad)]) = some (2, .nextUndecodable) := by decide +kernel
example : runMon (wSetup ++ [.list .tools .nil false (.page [([1], "a"), ([2], "b")] .nil)]) = some (2, .nextWrong) := by decide +kernel
example : runMon [.script .prompts [(.nil, .page [([1], "a")] .nil)], .list .prompts .nil false (.page [] .nil)]
    = some (1, .foreignPage) := by decide +kernel
example : runMon [.add .tools w3 false] = some (0, .addFailed) := by decide +kernel
example : runMon (wSetup ++ [.list .tools .bad true .invalid]) = some (2, .followRefused) := by decide +kernel
example : (monTend ⟨[⟨w3, .nil, .page [([1], "a"), ([2], "b")] (.good [2])⟩, ⟨w3, .good [2], .page [([2], "b")] .nil⟩], true⟩ 2)
    = some .travOrder := by decide +kernel
example : (monTend ⟨[⟨w3, .nil, .page [([1], "a"), ([2], "b")] (.good [2])⟩, ⟨w3, .good [2], .page [] .nil⟩], true⟩ 2)
    = some .travMiss := by decide +kernel
example : (monTend ⟨[⟨w3, .nil, .page [([1], "a"), ([2], "b"), ([3], "c"), ([4], "d")] .nil⟩], false⟩ 2) = some .travNotExact := by decide +kernel
example : (monTend ⟨[⟨w3, .nil, .page [([1], "a"), ([2], "b"), ([3], "c")] .nil⟩], false⟩ 2) = some .travPages := by decide +kernel
example : runMon (wSetup ++ [.iterall .tools .nil ⟨[([1], "a"), ([2], "b")], .fin⟩]) = some (2, .iterManual) := by decide +kernel
example : runMon (wSetup ++ [.iopen .tools .nil, .ipull .tools 1 ⟨[([2], "b")], .more⟩]) = some (3, .iterManual) := by decide +kernel
example : runMon [.script .prompts [(.nil, .page [] (.good [7])), (.good [7], .page [([1], "a")] .nil)],
    .iterall .prompts .nil ⟨[], .fin⟩] = some (1, .iterForeign) := by decide +kernel
example : runMon [.roundtrip false] = some (0, .codecLaw) := by decide +kernel
example : runMon [.codec false] = some (0, .codecCrash) := by decide +kernel

/-- The model's run of a traversal with a mutation between the pages, an iterator session and a whole
iteration: nothing is reported (an instance of `monitor_accepts_model`, evaluated). -/
example : runMon (modelTrace {} (wSetup ++ [.tbegin .tools, .list .tools .nil false .other, .remove .tools [[1]],
    .list .tools (.good [2]) true .other, .tend .tools, .iopen .tools .nil, .ipull .tools 2 noIter,
    .add .tools [([4], "d")] true, .ipull .tools 5 noIter, .iterall .tools (.good [1]) noIter])) = none := by decide +kernel

/-- **Why `monTend` tests `chain`.**  A monitor that judged every `tbegin … tend` segment would raise a false
alarm on a segment that does NOT follow cursors — the first page requested twice: the model's own
(correct) answers repeat a key, and "traversal repeats or reorders keys" would be reported although the
property speaks of "following cursors from the first page".  The harness never produces such a segment. -/
theorem nonfollowing_segment_not_judged :
    let tr := modelTrace {} (wSetup ++ [.tbegin .tools, .list .tools .nil false .other, .list .tools .nil false .other, .tend .tools])
    runMon tr = none ∧
    ∃ t, ((stateAfter (tr.take 5)).get .tools).tr = some t ∧ strictlyAscending (travItems t.fetches) = false := by
  refine ⟨by decide +kernel, ⟨_, rfl, by decide +kernel⟩⟩

end Witness

end Paginate
