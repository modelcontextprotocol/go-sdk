import McpModel.Paginate.ModelRun
import McpModel.Paginate.TravLemmas
import McpModel.Paginate.IterLemmas
/-!
# E13 (C17): the monitor accepts the model

`monitor_accepts_model`: feed the typed C17 monitor (`Monitor.monStep`) the records of ANY operation
sequence with the observations the MODEL makes (`ModelRun.modStep`: `paginate` with its lazily rebuilt
index, the iterator machine) — it reports no clause.  So a clause on the implementation's observation
is never an artefact of the monitor disagreeing with the model.

Invariant (`Inv`): per kind the model's feature set holds exactly the monitor's registry (`Rel`, hence the two servers
answer every cursor alike: `rel_page`), and every fetch recorded for the open traversal conforms.

One hypothesis on the operation sequence, `FollowDecodes`: a request marked `follow` (the harness saw
it carry, byte for byte, the `NextCursor` of the previous answer) does not carry an undecodable
cursor.  The flag is the harness's word; on the model's behaviour it holds because the model's `NextCursor` is
the monitor's `specNext` (`rel_page`), which is never undecodable (`specNext_ne_bad`).  It is needed:
`follow_flag_needed`.
-/
namespace Paginate

def Rel (fs : FS K String) (reg : List Item) : Prop := WF fs ∧ RegOK reg ∧ ∀ x, x ∈ fs.feats ↔ x ∈ reg

theorem rel_empty : Rel (FS.empty : FS K String) [] :=
  ⟨wf_empty, regOK_nil, by intro x; simp [FS.empty]⟩

theorem rel_feats {fs : FS K String} {reg : List Item} (h : Rel fs reg) : fs.feats = sortReg reg :=
  sortReg_unique reg fs.feats h.2.1 h.1.1 h.2.2

theorem rel_add {fs : FS K String} {reg : List Item} (h : Rel fs reg) (items : List Item) :
    Rel (fs.add items) (items.foldl regAdd reg) := by
  refine ⟨wf_add fs items h.1, regOK_foldl_regAdd items reg h.2.1, ?_⟩
  simp only [FS.add]
  have : ∀ (items : List Item) (m reg : List Item), Sorted (keys m) → (∀ x, x ∈ m ↔ x ∈ reg) →
      ∀ x, x ∈ items.foldl (fun m f => insF f.1 f.2 m) m ↔ x ∈ items.foldl regAdd reg := by
    intro items
    induction items with
    | nil => intro m reg _ hm; simpa using hm
    | cons f r ih =>
      intro m reg hs hm
      simp only [List.foldl_cons]
      apply ih _ _ (sorted_insF _ _ _ hs)
      intro x
      rw [mem_insF_iff hs, mem_regAdd, hm]
  exact this items fs.feats reg h.1.1 h.2.2

theorem rel_remove {fs : FS K String} {reg : List Item} (h : Rel fs reg) (ks : List K) :
    Rel (fs.remove ks).1 (regRemove reg ks) := by
  refine ⟨wf_remove fs ks h.1, regOK_regRemove reg ks h.2.1, fun x => ?_⟩
  simp [FS.remove, removeLoop_fst, regRemove, h.2.2 x]

theorem rel_sortKeys {fs : FS K String} {reg : List Item} (h : Rel fs reg) : Rel fs.sortKeys reg := by
  obtain ⟨w1, w2, _⟩ := wf_sortKeys fs h.1
  exact ⟨w1, h.2.1, by rw [w2]; exact h.2.2⟩

/-- **The model server and the registry answer every cursor alike.** -/
theorem rel_page {fs : FS K String} {reg : List Item} (h : Rel fs reg) (p : Nat) (hp : 1 ≤ p) (cur : DCur) :
    (paginate dcodec p fs cur).2 = specPage reg p cur ∧ Rel (paginate dcodec p fs cur).1 reg := by
  obtain ⟨w1, w2, hspec⟩ := paginate_spec dcodec p hp fs h.1 cur
  refine ⟨?_, ⟨w1, h.2.1, by rw [w2]; exact h.2.2⟩⟩
  rcases hspec with ⟨hc, hd, hres⟩ | ⟨hcur, hres⟩
  · cases cur with
    | nil => exact absurd rfl hc
    | good u => simp [dcodec] at hd
    | bad => rw [hres]; rfl
  · have hb : cur ≠ .bad := by
      rintro rfl
      rcases hcur with h1 | h1
      · cases h1
      · simp [dcodec] at h1
    rw [hres, specPage_eq _ _ _ hb, loC_eq, rel_feats h]

theorem rel_oracle {fs : FS K String} {reg : List Item} (h : Rel fs reg) (p : Nat) (hp : 1 ≤ p) :
    modelOracle p fs = specOracle reg p := by
  funext i c
  exact (rel_page h p hp c).1

theorem drain_eq_manual_of_le {κ ν C : Type} [DecidableEq C] (nil : C) (o : Nat → C → Res κ ν C) (f : Nat) (cur : C)
    (hend : (manual nil o f 0 cur).2 ≠ .running) (steps : Nat)
    (hs : (manual nil o f 0 cur).1.flatten.length + f + 1 ≤ steps) :
    drain nil o steps (Iter.start cur) = ((manual nil o f 0 cur).1.flatten, (manual nil o f 0 cur).2) :=
  drain_owed nil o steps f (Iter.start cur) (by simpa [owed, Iter.start] using hend) (by simpa [owed, Iter.start] using hs)

theorem lookup_page_le_maxPage : ∀ (sc : Script) (c : DCur) (items : List Item) (n : DCur),
    sc.lookup c = some (.page items n) → items.length ≤ maxPage sc
  | [], _, _, _, h => by simp at h
  | (c', r) :: sc, c, items, n, h => by
    simp only [List.lookup] at h
    cases hc : c == c' with
    | true =>
      rw [hc] at h
      simp only [Option.some.injEq] at h
      subst h
      simp only [maxPage]; omega
    | false =>
      rw [hc] at h
      have := lookup_page_le_maxPage sc c items n h
      cases r with
      | page its nx => simp only [maxPage]; omega
      | invalidParams => simpa [maxPage] using this
      | panic => simpa [maxPage] using this

theorem scriptedOracle_page_le (kind : Kind) (sc : Script) (i : Nat) (c : DCur) (items : List Item) (n : DCur)
    (h : scriptedOracle kind sc i c = .page items n) : items.length ≤ maxPage sc := by
  simp only [scriptedOracle, filterOracle, scriptOracle] at h
  cases hl : sc.lookup c with
  | none => rw [hl] at h; simp [filterRes] at h
  | some r =>
    rw [hl] at h
    cases r with
    | page its nx =>
      simp only [filterRes, Res.page.injEq] at h
      have := lookup_page_le_maxPage sc c its nx hl
      rw [← h.1]
      exact Nat.le_trans (List.length_filter_le _ _) this
    | invalidParams => simp [filterRes] at h
    | panic => simp [filterRes] at h

/-- The model's whole iteration against a script is manual paging, whenever manual paging ends.  Against a script the
model runs the iterator machine of Model.lean (`drain`) and the monitor compares with manual paging, so this is what
acceptance needs; against the SDK server model and monitor both run the monitor's `iterAll`, on oracles that are equal
(`rel_oracle`).  `scriptSteps` is the bound of `drain_owed` for `sc.length + 2` requests of pages of at most `maxPage sc`. -/
theorem drainAll_eq_manualAll (kind : Kind) (sc : Script) (cur : DCur)
    (h : (manualAll (scriptedOracle kind sc) cur (sc.length + 2)).2 ≠ .running) :
    drainAll (scriptedOracle kind sc) cur (scriptSteps sc) = (manualAll (scriptedOracle kind sc) cur (sc.length + 2)).1 := by
  simp only [manualAll] at h ⊢
  have hb := manual_flatten_le DCur.nil (scriptedOracle kind sc) (maxPage sc)
    (scriptedOracle_page_le kind sc) (sc.length + 2) 0 cur
  have := drain_eq_manual_of_le DCur.nil (scriptedOracle kind sc) (sc.length + 2) cur h (scriptSteps sc)
    (by simp only [scriptSteps]; omega)
  simp only [drainAll, this]

@[simp] theorem ModState.get_set_same (s : ModState) (kind : Kind) (k : ModKind) : (s.set kind k).get kind = k := by
  cases kind <;> rfl

theorem ModState.get_set_other (s : ModState) {kind kind' : Kind} (k : ModKind) (h : kind' ≠ kind) :
    (s.set kind k).get kind' = s.get kind' := by
  cases kind <;> cases kind' <;> first | rfl | exact absurd rfl h

@[simp] theorem ModState.p_set (s : ModState) (kind : Kind) (k : ModKind) : (s.set kind k).p = s.p := by
  cases kind <;> rfl

theorem ModState.set_get_self (s : ModState) (kind : Kind) : s.set kind (s.get kind) = s := by
  cases kind <;> rfl

/-- Per kind: same registered entries, same open iterator, same script; every fetch recorded for the open traversal is
the page the property demands for the registry of its moment, and while the traversal is unmutated that registry is
the present one (what `monTend`'s exactness clauses compare with). -/
structure KInv (p : Nat) (mk : ModKind) (k : MKind) : Prop where
  rel : Rel mk.fs k.reg
  it : mk.mit = k.sit
  sc : mk.script = k.script
  tr : ∀ t, k.tr = some t →
    (∀ f ∈ t.fetches, Conform p f) ∧ (t.mutated = false → ∀ f ∈ t.fetches, f.reg = k.reg)

structure Inv (ms : ModState) (s : MState) : Prop where
  p : ms.p = s.p
  pos : 1 ≤ s.p
  kinds : ∀ kind, KInv s.p (ms.get kind) (s.get kind)

theorem kinv_empty (p : Nat) : KInv p {} {} :=
  ⟨rel_empty, rfl, rfl, by intro t h; cases h⟩

theorem kinv_mutated {p : Nat} {mk : ModKind} {k : MKind} (hk : KInv p mk k) {fs : FS K String} {reg : List Item}
    (hrel : Rel fs reg) : KInv p { mk with fs := fs } (markMutated { k with reg := reg }) := by
  refine ⟨hrel, hk.it, hk.sc, fun t ht => ?_⟩
  obtain ⟨t0, htr, rfl⟩ := Option.map_eq_some_iff.1 ht
  exact ⟨(hk.tr t0 htr).1, by intro hm; cases hm⟩

theorem inv_init (p : Nat) (hp : 1 ≤ p) : Inv { p := p } { p := p } :=
  ⟨rfl, hp, by intro kind; cases kind <;> exact kinv_empty p⟩

theorem inv_set {ms : ModState} {s : MState} (h : Inv ms s) (kind : Kind) {mk : ModKind} {k : MKind}
    (hk : KInv s.p mk k) : Inv (ms.set kind mk) (s.set kind k) := by
  refine ⟨by simp [h.p], by simp [h.pos], ?_⟩
  intro kind'
  by_cases e : kind' = kind
  · subst e; simpa using hk
  · rw [MState.get_set_other _ _ e, ModState.get_set_other _ _ e]; simpa using h.kinds kind'

theorem inv_set_mon {ms : ModState} {s : MState} (h : Inv ms s) (kind : Kind) {k : MKind}
    (hk : KInv s.p (ms.get kind) k) : Inv ms (s.set kind k) := by
  have := inv_set h kind hk; rwa [ModState.set_get_self] at this

theorem inv_set_mod {ms : ModState} {s : MState} (h : Inv ms s) (kind : Kind) {mk : ModKind}
    (hk : KInv s.p mk (s.get kind)) : Inv (ms.set kind mk) s := by
  have := inv_set h kind hk; rwa [MState.set_get_self] at this

def FollowDecodes (rs : List Rec) : Prop :=
  ∀ r ∈ rs, match r with
    | .list _ cur true _ => cur ≠ .bad
    | _ => True

theorem specNext_ne_bad (reg : List Item) (p : Nat) (cur : DCur) : specNext reg p cur ≠ .bad := by
  unfold specNext
  split
  · intro h; cases h
  · split <;> (intro h; cases h)

theorem monList_conform (reg : List Item) (p : Nat) (cur : DCur) :
    monList reg p cur (LObs.ofRes (specPage reg p cur)) = none := by
  simp [monList]

theorem step_ok {ms : ModState} {s : MState} (h : Inv ms s) (r : Rec)
    (hr : match r with | .list _ cur true _ => cur ≠ .bad | _ => True) :
    (monStep s (modStep ms r).2).2 = none ∧ Inv (modStep ms r).1 (monStep s (modStep ms r).2).1 := by
  cases r with
  | reset => exact ⟨rfl, inv_init _ (by decide)⟩
  | server n => exact ⟨rfl, inv_init _ (pageSizeOf_pos n)⟩
  | add kind fs ok => exact ⟨rfl, inv_set h kind (kinv_mutated (h.kinds kind) (rel_add (h.kinds kind).rel fs))⟩
  | remove kind ks => exact ⟨rfl, inv_set h kind (kinv_mutated (h.kinds kind) (rel_remove (h.kinds kind).rel ks))⟩
  | script kind sc =>
    have hk := h.kinds kind
    exact ⟨rfl, inv_set h kind ⟨hk.rel, hk.it, rfl, hk.tr⟩⟩
  | unscript kind =>
    have hk := h.kinds kind
    exact ⟨rfl, inv_set h kind ⟨hk.rel, hk.it, rfl, hk.tr⟩⟩
  | list kind cur follow obs =>
    have hk := h.kinds kind
    simp only [modStep]
    cases hsc : (ms.get kind).script with
    | some sc =>
      have hsc' : (s.get kind).script = some sc := by rw [← hk.sc]; exact hsc
      simp only [monStep, monListRec, hsc', if_true]
      exact ⟨trivial, h⟩
    | none =>
      have hsc' : (s.get kind).script = none := by rw [← hk.sc]; exact hsc
      obtain ⟨e1, e2⟩ := rel_page hk.rel s.p h.pos cur
      simp only [monStep, monListRec, hsc', h.p, e1, monList_conform]
      refine ⟨?_, ?_⟩
      · cases follow with
        | false => simp
        | true =>
          have hb : cur ≠ .bad := hr
          cases cur with
          | bad => exact absurd rfl hb
          | nil => simp [specPage, LObs.ofRes]
          | good u => simp [specPage, LObs.ofRes]
      · rw [← h.p] at e2 ⊢
        apply inv_set h kind
        refine ⟨e2, hk.it, rfl, ?_⟩
        · intro t ht
          obtain ⟨t0, htr, rfl⟩ := Option.map_eq_some_iff.1 ht
          obtain ⟨c1, c2⟩ := hk.tr t0 htr
          refine ⟨fun f hf => ?_, fun hm f hf => ?_⟩
          · rcases List.mem_append.1 hf with hf | hf
            · exact c1 f hf
            · rw [List.mem_singleton.1 hf]; exact ⟨hk.rel.2.1, by rw [h.p]⟩
          · rcases List.mem_append.1 hf with hf | hf
            · exact c2 hm f hf
            · rw [List.mem_singleton.1 hf]
  | tbegin kind =>
    have hk := h.kinds kind
    refine ⟨rfl, inv_set_mon h kind ⟨hk.rel, hk.it, hk.sc, fun t ht => ?_⟩⟩
    cases ht
    exact ⟨fun f hf => (nomatch hf), fun _ f hf => (nomatch hf)⟩
  | tend kind =>
    have hk := h.kinds kind
    refine ⟨?_, ?_⟩
    · simp only [modStep, monStep]
      cases htr : (s.get kind).tr with
      | none => rfl
      | some t =>
        obtain ⟨c1, c2⟩ := hk.tr t htr
        simp only [Option.bind_some]
        apply monTend_conform h.pos t c1
        intro hm f hf
        rw [c2 hm f hf]
        cases hfs : t.fetches with
        | nil => rw [hfs] at hf; cases hf
        | cons g r => simp only [travFirst]; exact (c2 hm g (by rw [hfs]; simp)).symm
    · exact inv_set_mon h kind ⟨hk.rel, hk.it, hk.sc, fun t ht => nomatch ht⟩
  | iopen kind cur =>
    have hk := h.kinds kind
    exact ⟨rfl, inv_set h kind ⟨hk.rel, rfl, hk.sc, hk.tr⟩⟩
  | ipull kind m obs =>
    have hk := h.kinds kind
    simp only [modStep]
    cases hit : (ms.get kind).mit with
    | none =>
      have hit' : (s.get kind).sit = none := by rw [← hk.it]; exact hit
      simp only [monStep, hit']
      exact ⟨trivial, h⟩
    | some it =>
      have hit' : (s.get kind).sit = some it := by rw [← hk.it]; exact hit
      cases hsc : (ms.get kind).script with
      | some sc =>
        have hsc' : (s.get kind).script = some sc := by rw [← hk.sc]; exact hsc
        simp only [monStep, hit', hsc', if_true]
        exact ⟨trivial, inv_set h kind ⟨hk.rel, rfl, rfl, hk.tr⟩⟩
      | none =>
        have hsc' : (s.get kind).script = none := by rw [← hk.sc]; exact hsc
        have ho : modelOracle ms.p (ms.get kind).fs = specOracle (s.get kind).reg s.p := by
          rw [h.p]; exact rel_oracle hk.rel s.p h.pos
        simp only [monStep, hit', hsc', ho, if_true]
        exact ⟨trivial, inv_set h kind ⟨rel_sortKeys hk.rel, rfl, rfl, hk.tr⟩⟩
  | iclose kind =>
    have hk := h.kinds kind
    exact ⟨rfl, inv_set h kind ⟨hk.rel, rfl, hk.sc, hk.tr⟩⟩
  | iterall kind cur obs =>
    have hk := h.kinds kind
    simp only [modStep]
    cases hsc : (ms.get kind).script with
    | some sc =>
      have hsc' : (s.get kind).script = some sc := by rw [← hk.sc]; exact hsc
      simp only [monStep, hsc']
      refine ⟨?_, h⟩
      by_cases hrun : (manualAll (scriptedOracle kind sc) cur (sc.length + 2)).2 = .running
      · simp [hrun]
      · simp [drainAll_eq_manualAll kind sc cur hrun]
    | none =>
      have hsc' : (s.get kind).script = none := by rw [← hk.sc]; exact hsc
      have ho : modelOracle ms.p (ms.get kind).fs = specOracle (s.get kind).reg s.p := by
        rw [h.p]; exact rel_oracle hk.rel s.p h.pos
      have hl : (ms.get kind).fs.feats.length = (s.get kind).reg.length := by
        rw [rel_feats hk.rel, length_sortReg]
      simp only [monStep, hsc', ho, hl, if_true]
      exact ⟨trivial, inv_set_mod h kind ⟨rel_sortKeys hk.rel, hk.it, hsc'.symm, hk.tr⟩⟩
  | roundtrip same => exact ⟨rfl, h⟩
  | codec ok => exact ⟨rfl, h⟩
  | readonly touch =>
    cases touch with
    | none => exact ⟨rfl, h⟩
    | some kind =>
      have hk := h.kinds kind
      exact ⟨rfl, inv_set_mod h kind ⟨rel_sortKeys hk.rel, hk.it, hk.sc, hk.tr⟩⟩

/-- The records of an operation sequence with the MODEL's observations. -/
def modelTrace : ModState → List Rec → List Rec
  | _, [] => []
  | ms, r :: rs => (modStep ms r).2 :: modelTrace (modStep ms r).1 rs

theorem runMonFrom_model : ∀ (rs : List Rec) (ms : ModState) (s : MState) (i : Nat), Inv ms s → FollowDecodes rs →
    runMonFrom s i (modelTrace ms rs) = none
  | [], _, _, _, _, _ => rfl
  | r :: rs, ms, s, i, h, hf => by
    obtain ⟨h1, h2⟩ := step_ok h r (hf r (by simp))
    simp only [modelTrace, runMonFrom, h1]
    exact runMonFrom_model rs _ _ _ h2 (fun x hx => hf x (List.mem_cons_of_mem _ hx))

theorem monitor_accepts_model (rs : List Rec) (hf : FollowDecodes rs) : runMon (modelTrace {} rs) = none :=
  runMonFrom_model rs {} {} 0 (inv_init _ (by decide)) hf

/-- The hypothesis is needed: on a request that carries an undecodable cursor the model answers
invalid params, and with the `follow` flag set the monitor reads that as "refused the cursor it had
just issued". -/
theorem follow_flag_needed :
    runMon (modelTrace {} [.list .tools .bad true .other]) = some (0, .followRefused) := by decide +kernel

/-- …and satisfiable: a traversal of three registered tools with page size 2. -/
example : FollowDecodes [.server 2, .add .tools [([1], "a"), ([2], "b"), ([3], "c")] true, .tbegin .tools,
    .list .tools .nil false .other, .list .tools (.good [2]) true .other, .tend .tools] := by
  intro r hr
  simp only [List.mem_cons, List.mem_nil_iff, or_false] at hr
  rcases hr with rfl | rfl | rfl | rfl | rfl | rfl <;> simp

end Paginate
