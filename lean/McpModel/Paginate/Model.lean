/-
E13 — model of keyset pagination: `mcp/features.go` (featureSet), `mcp/server.go` `paginateList`
+ cursor codec (abstract), `mcp/client.go` `paginate` (the client iterators).  Serves C17.

Transliteration contract
* `FS.feats` is Go's `map[string]T` in canonical form (ascending by key, one entry per key); a Go map
  has no observable order except through `slices.Sorted(maps.Keys(m))`, which is `feats.map (·.1)`.
* `FS.cache` is `sortedKeys` (`none` = nil).  `add` always drops it, `remove` drops it iff something
  was removed, `sortKeys` rebuilds it iff it is nil.  (`slices.Sorted` of an empty map returns nil, so
  Go rebuilds an empty index every time; `some []` and `none` are not distinguishable from outside.)
* `lowerBound` is what `slices.BinarySearch` returns on a sorted slice (smallest index whose key is
  not below the target); on unsorted input Go's result is unspecified — `WF` rules that out.
* `paginate` = `paginateList` inside `listTools`/`listPrompts`/`listResources`/`listResourceTemplates`
  (each holds `Server.mu` for its whole body: one atomic step).  `.panic` models the two ways the Go
  code can crash: dereferencing the zero feature read through a stale `sortedKeys` entry, and
  `features[len(features)-1]` with page size 0.  Both are proved unreachable (`Props`).
* The cursor codec (gob + base64) is abstract: `Codec` assumes only `dec (enc k) = some k` and that an
  issued cursor is not the empty string (`nil`), which `paginateList` and the client both read as
  "first page" / "no more pages".
* `Iter`/`pull` = the loop of `paginate` in client.go seen from the consumer: one `pull` is one
  request for the next element; at most one `listFunc` call per pull.
Core Lean only (linked into the driver).
-/
namespace Paginate

/-- Strict total order on keys.  Go compares strings byte-wise; the driver instantiates this with
byte strings (`List Nat`, `ltBytes`), so non-ASCII keys are ordered exactly as Go orders them. -/
class KOrd (κ : Type) where
  lt : κ → κ → Bool
  irrefl : ∀ a, lt a a = false
  trans : ∀ {a b c}, lt a b = true → lt b c = true → lt a c = true
  tri : ∀ {a b}, lt a b = false → lt b a = false → a = b

export KOrd (lt)

/-- The opaque cursor codec (`encodeCursor`/`decodeCursor`). `nil` is the empty string. -/
structure Codec (κ C : Type) where
  nil : C
  enc : κ → C
  dec : C → Option κ
  dec_enc : ∀ k, dec (enc k) = some k
  enc_ne_nil : ∀ k, enc k ≠ nil

structure FS (κ ν : Type) where
  feats : List (κ × ν)
  cache : Option (List κ)
deriving Repr

variable {κ ν C : Type} [KOrd κ] [DecidableEq κ] [DecidableEq C]

def FS.empty : FS κ ν := { feats := [], cache := none }

/-- `s.features[uid] = f` on the canonical form. -/
def insF (k : κ) (v : ν) : List (κ × ν) → List (κ × ν)
  | [] => [(k, v)]
  | (k', v') :: r =>
    if lt k k' then (k, v) :: (k', v') :: r
    else if lt k' k then (k', v') :: insF k v r
    else (k, v) :: r

def hasF (k : κ) (m : List (κ × ν)) : Bool := m.any (fun f => f.1 = k)

def delF (k : κ) (m : List (κ × ν)) : List (κ × ν) := m.filter (fun f => f.1 ≠ k)

def lookupF (k : κ) : List (κ × ν) → Option ν
  | [] => none
  | (k', v) :: r => if k' = k then some v else lookupF k r

/-- `featureSet.add(fs...)`: insert or replace each, then `sortedKeys = nil`. -/
def FS.add (s : FS κ ν) (fs : List (κ × ν)) : FS κ ν :=
  { feats := fs.foldl (fun m f => insF f.1 f.2 m) s.feats, cache := none }

def removeLoop : List κ → List (κ × ν) × Bool → List (κ × ν) × Bool
  | [], acc => acc
  | uid :: r, (m, ch) => if hasF uid m then removeLoop r (delF uid m, true) else removeLoop r (m, ch)

/-- `featureSet.remove(uids...)`: delete the present ones; `sortedKeys = nil` iff something changed. -/
def FS.remove (s : FS κ ν) (uids : List κ) : FS κ ν × Bool :=
  let r := removeLoop uids (s.feats, false)
  ({ feats := r.1, cache := if r.2 then none else s.cache }, r.2)

/-- `featureSet.sortKeys`. -/
def FS.sortKeys (s : FS κ ν) : FS κ ν :=
  match s.cache with
  | some _ => s
  | none => { s with cache := some (s.feats.map (·.1)) }

/-- `slices.BinarySearch(sortedKeys, uid)`'s index on a sorted slice. -/
def lowerBound (uid : κ) : List κ → Nat
  | [] => 0
  | k :: r => if lt k uid then lowerBound uid r + 1 else 0

/-- `featureSet.above`: index of the first key yielded (`index++` when found). -/
def aboveIdx (uid : κ) (keys : List κ) : Nat :=
  let i := lowerBound uid keys
  if keys[i]? = some uid then i + 1 else i

/-- `s.features[s.sortedKeys[i]]` for each yielded index; `none` = a zero (nil) feature, whose
dereference in `setFunc`/`uniqueID` panics. -/
def lookupAll (m : List (κ × ν)) : List κ → Option (List (κ × ν))
  | [] => some []
  | k :: r =>
    match lookupF k m, lookupAll m r with
    | some v, some t => some ((k, v) :: t)
    | _, _ => none

inductive Res (κ ν C : Type)
  | page (items : List (κ × ν)) (next : C)
  | invalidParams
  | panic
deriving Repr

/-- `paginateList` (with `pageSize = p`, `*params.cursorPtr() = cur`, nil pointer ↦ `nil`). -/
def paginate (cod : Codec κ C) (p : Nat) (s : FS κ ν) (cur : C) : FS κ ν × Res κ ν C :=
  let start : Option (FS κ ν × Nat) :=
    if cur = cod.nil then some (s.sortKeys, 0)
    else match cod.dec cur with
      | none => none
      | some uid => some (s.sortKeys, aboveIdx uid (s.sortKeys.cache.getD []))
  match start with
  | none => (s, .invalidParams)
  | some (s', idx) =>
    let seq := (s'.cache.getD []).drop idx
    match lookupAll s'.feats (seq.take p) with
    | none => (s', .panic)
    | some items =>
      if seq.length < p + 1 then (s', .page items cod.nil)
      else match items.getLast? with
        | none => (s', .panic)
        | some l => (s', .page items (cod.enc l.1))

/-! ### Mutations between page fetches -/

inductive Mut (κ ν : Type)
  | add (fs : List (κ × ν))
  | remove (uids : List κ)
deriving Repr

def applyMut (s : FS κ ν) : Mut κ ν → FS κ ν
  | .add fs => s.add fs
  | .remove uids => (s.remove uids).1

def applyBatch (s : FS κ ν) (b : List (Mut κ ν)) : FS κ ν := b.foldl applyMut s

/-- A traversal by manual paging: the pages received, the server state at each fetch, whether the
empty cursor was reached, whether a fetch failed. -/
structure Trav (κ ν : Type) where
  pages : List (List (κ × ν))
  states : List (FS κ ν)
  done : Bool
  failed : Bool

def Trav.cons (items : List (κ × ν)) (s : FS κ ν) (t : Trav κ ν) : Trav κ ν :=
  { pages := items :: t.pages, states := s :: t.states, done := t.done, failed := t.failed }

/-- Follow cursors from `cur`; `hist` gives the batch of mutations applied after each page (the
traversal stops when the history is used up — quantifying over all histories, including ones padded
with empty batches, covers every traversal). -/
def trav (cod : Codec κ C) (p : Nat) : List (List (Mut κ ν)) → FS κ ν → C → Trav κ ν
  | [], s, cur =>
    match paginate cod p s cur with
    | (_, .page items next) => { pages := [items], states := [s], done := next = cod.nil, failed := false }
    | _ => { pages := [], states := [s], done := false, failed := true }
  | b :: rest, s, cur =>
    match paginate cod p s cur with
    | (s', .page items next) =>
      if next = cod.nil then { pages := [items], states := [s], done := true, failed := false }
      else Trav.cons items s (trav cod p rest (applyBatch s' b) next)
    | _ => { pages := [], states := [s], done := false, failed := true }

/-! ### Client side: manual paging and the iterator, over an arbitrary server

`o i cur` is the server's answer to the `i`-th list request when asked with cursor `cur` (any
mutation history, any server). -/

inductive Ending | done | error | running
deriving DecidableEq, Repr

/-- Manual paging: call, keep the page, follow `NextCursor` until it is empty. -/
def manual (nil : C) (o : Nat → C → Res κ ν C) : Nat → Nat → C → List (List (κ × ν)) × Ending
  | 0, _, _ => ([], .running)
  | f + 1, i, cur =>
    match o i cur with
    | .page items next =>
      if next = nil then ([items], .done)
      else ((items :: (manual nil o f (i + 1) next).1), (manual nil o f (i + 1) next).2)
    | _ => ([], .error)

/-- State of `paginate` (client.go) between two elements handed to the consumer. -/
structure Iter (κ ν C : Type) where
  buf : List (κ × ν)   -- rest of `items(res)`
  next : C             -- `*params.cursorPtr()` for the next call / `NextCursor` of the current page
  started : Bool       -- a page has been fetched
  n : Nat              -- number of list calls made
  fin : Bool           -- the iterator function has returned

def Iter.start (cur : C) : Iter κ ν C := { buf := [], next := cur, started := false, n := 0, fin := false }

inductive Event (κ ν : Type)
  | item (x : κ × ν)
  | stop
  | err
  | again     -- an empty page with a non-empty cursor was received: the loop goes round
deriving Repr

def pull (nil : C) (o : Nat → C → Res κ ν C) (it : Iter κ ν C) : Iter κ ν C × Event κ ν :=
  if it.fin then (it, .stop) else
  match it.buf with
  | x :: r => ({ it with buf := r }, .item x)
  | [] =>
    if it.started ∧ it.next = nil then ({ it with fin := true }, .stop)
    else match o it.n it.next with
      | .page items next =>
        match items with
        | x :: r => ({ buf := r, next := next, started := true, n := it.n + 1, fin := false }, .item x)
        | [] =>
          if next = nil then ({ buf := [], next := next, started := true, n := it.n + 1, fin := true }, .stop)
          else ({ buf := [], next := next, started := true, n := it.n + 1, fin := false }, .again)
      | _ => ({ it with fin := true }, .err)

/-- Pull `steps` times (a consumer that never breaks), collecting the elements. -/
def drain (nil : C) (o : Nat → C → Res κ ν C) : Nat → Iter κ ν C → List (κ × ν) × Ending
  | 0, _ => ([], .running)
  | n + 1, it =>
    match pull nil o it with
    | (it', .item x) => (x :: (drain nil o n it').1, (drain nil o n it').2)
    | (it', .again) => drain nil o n it'
    | (_, .stop) => ([], .done)
    | (_, .err) => ([], .error)

/-! ### Foreign servers and the client-side page filter

The client iterators and `ListX` talk to *any* server.  A foreign server is an oracle `o`; three
concrete shapes are used by the driver and the theorems:
* `scriptOracle tbl`: a table from the cursor received to the answer; an unknown cursor is refused;
* `pagesOracle pages`: a listing cut into the given pages — any of them may be empty — linked by the
  cursors `1, 2, …` (`0` is the empty cursor);
* `filterOracle keep o`: `o` as seen through `ClientSession.ListTools`, which drops from every page
  the tools that `filterValidTools` rejects and leaves `NextCursor` alone. -/

def scriptOracle (tbl : List (C × Res κ ν C)) : Nat → C → Res κ ν C :=
  fun _ c => match tbl.lookup c with
    | some r => r
    | none => .invalidParams

def filterRes (keep : κ × ν → Bool) : Res κ ν C → Res κ ν C
  | .page items next => .page (items.filter keep) next
  | r => r

def filterOracle (keep : κ × ν → Bool) (o : Nat → C → Res κ ν C) : Nat → C → Res κ ν C :=
  fun i c => filterRes keep (o i c)

/-- Request with cursor `c` (0 = first page) is answered with page number `c`; the next cursor is
`c + 1` unless that was the last page. A cursor beyond the listing is refused. -/
def pagesOracle (pages : List (List (κ × ν))) : Nat → Nat → Res κ ν Nat :=
  fun _ c => match pages[c]? with
    | some items => .page items (if c + 1 < pages.length then c + 1 else 0)
    | none => .invalidParams

end Paginate

namespace Paginate
/-- Lean `String` order (lexicographic on code points) is an instance too; the driver uses the
byte-string instance below, which is Go's order even on invalid UTF-8. -/
instance : KOrd String where
  lt a b := decide (a < b)
  irrefl a := by simp
  trans := by intro a b c h1 h2; simp only [decide_eq_true_eq] at *; exact String.lt_trans h1 h2
  tri := by
    intro a b h1 h2
    simp only [decide_eq_false_iff_not, String.not_lt] at h1 h2
    exact String.le_antisymm h2 h1

/-- Go's string order: lexicographic on byte values. -/
def ltBytes : List Nat → List Nat → Bool
  | _, [] => false
  | [], _ :: _ => true
  | a :: as, b :: bs => if a < b then true else if b < a then false else ltBytes as bs

theorem ltBytes_irrefl : ∀ a, ltBytes a a = false
  | [] => rfl
  | a :: as => by simp [ltBytes, ltBytes_irrefl as]

theorem ltBytes_trans : ∀ {a b c}, ltBytes a b = true → ltBytes b c = true → ltBytes a c = true
  | [], [], _ => by intro h; simp [ltBytes] at h
  | _ :: _, [], _ => by intro h; simp [ltBytes] at h
  | _, _ :: _, [] => by intro _ h; simp [ltBytes] at h
  | [], _ :: _, _ :: _ => by intros; simp [ltBytes]
  | a :: as, b :: bs, c :: cs => by
    intro h1 h2
    simp only [ltBytes] at h1 h2 ⊢
    split at h1
    · split at h2
      · have : a < c := by omega
        simp [this]
      · split at h2
        · cases h2
        · have : a < c := by omega
          simp [this]
    · split at h1
      · cases h1
      · split at h2
        · have : a < c := by omega
          simp [this]
        · split at h2
          · cases h2
          · have h3 : ¬ a < c := by omega
            have h4 : ¬ c < a := by omega
            simp only [h3, h4, if_false]
            exact ltBytes_trans h1 h2

theorem ltBytes_tri : ∀ {a b}, ltBytes a b = false → ltBytes b a = false → a = b
  | [], [] => by intros; rfl
  | [], _ :: _ => by intro h; simp [ltBytes] at h
  | _ :: _, [] => by intro _ h; simp [ltBytes] at h
  | a :: as, b :: bs => by
    intro h1 h2
    simp only [ltBytes] at h1 h2
    split at h1
    · cases h1
    · split at h1
      · rename_i hba; simp [hba] at h2
      · rename_i hab hba
        simp only [hba, hab, if_false] at h2
        have : a = b := by omega
        rw [this, ltBytes_tri h1 h2]

instance : KOrd (List Nat) where
  lt := ltBytes
  irrefl := ltBytes_irrefl
  trans := ltBytes_trans
  tri := ltBytes_tri
end Paginate
