import McpModel.Paginate.Model
/-!
E13 (C17): the client against foreign servers — listings cut into arbitrary pages (`pagesOracle`,
any page may be empty) and servers seen through `ListTools`' per-page filter (`filterOracle`).
-/
namespace Paginate
variable {κ ν C : Type} [DecidableEq C]

theorem manual_filter (nil : C) (keep : κ × ν → Bool) (o : Nat → C → Res κ ν C) (f : Nat) :
    ∀ (i : Nat) (cur : C),
      manual nil (filterOracle keep o) f i cur =
        ((manual nil o f i cur).1.map (·.filter keep), (manual nil o f i cur).2) := by
  induction f with
  | zero => intro i cur; rfl
  | succ f ih =>
    intro i cur
    cases ho : o i cur with
    | page items next =>
      have hf : filterOracle keep o i cur = .page (items.filter keep) next := by
        simp [filterOracle, ho, filterRes]
      by_cases hn : next = nil
      · simp only [manual, hf, ho, hn, if_true, List.map_cons, List.map_nil]
      · simp only [manual, hf, ho, hn, if_false, ih (i + 1) next, List.map_cons]
    | invalidParams =>
      have hf : filterOracle keep o i cur = .invalidParams := by simp [filterOracle, ho, filterRes]
      simp only [manual, hf, ho, List.map_nil]
    | panic =>
      have hf : filterOracle keep o i cur = .panic := by simp [filterOracle, ho, filterRes]
      simp only [manual, hf, ho, List.map_nil]

theorem flatten_map_filter (keep : κ × ν → Bool) (pages : List (List (κ × ν))) :
    (pages.map (·.filter keep)).flatten = pages.flatten.filter keep := by
  induction pages with
  | nil => rfl
  | cons p r ih => simp only [List.map_cons, List.flatten_cons, List.filter_append, ih]

theorem manual_pagesOracle (pages : List (List (κ × ν))) :
    ∀ (f c i : Nat), c < pages.length → pages.length ≤ c + f →
      manual 0 (pagesOracle pages) f i c = (pages.drop c, .done) := by
  intro f
  induction f with
  | zero => intro c i hc hf; omega
  | succ f ih =>
    intro c i hc hf
    have hget : pages[c]? = some pages[c] := List.getElem?_eq_getElem hc
    by_cases hlast : c + 1 < pages.length
    · have ho : pagesOracle pages i c = .page pages[c] (c + 1) := by
        simp [pagesOracle, hget, hlast]
      have hne : (c + 1 : Nat) ≠ 0 := by omega
      have hrec := ih (c + 1) (i + 1) hlast (by omega)
      simp only [manual, ho, hne, if_false, hrec]
      rw [List.drop_eq_getElem_cons hc]
    · have ho : pagesOracle pages i c = .page pages[c] 0 := by
        simp [pagesOracle, hget, hlast]
      simp only [manual, ho, if_true]
      have hd : pages.drop c = [pages[c]] := by
        rw [List.drop_eq_getElem_cons hc]
        have : pages.drop (c + 1) = [] := List.drop_eq_nil_of_le (by omega)
        rw [this]
      rw [hd]

end Paginate
