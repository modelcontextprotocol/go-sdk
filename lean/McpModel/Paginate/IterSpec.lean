import McpModel.Paginate.Accept
/-!
E13 (C17): the monitor's reference for a whole iteration against the registry, `iterAll (specOracle
reg p) cur _` (the lazy pager run by a consumer that never breaks), IS manual paging against a server
that answers as the property demands (`iterAll_spec_eq_manualAll`), and that manual paging is the
registered entries above the cursor, in listing order, ending normally — or the invalid-params error
at once for a malformed cursor (`manualAll_spec`).
-/
namespace Paginate

/-- The server never answers an empty page with a non-empty cursor. -/
def NoEmptyMore (o : Nat → DCur → Res K String DCur) : Prop := ∀ i c n, o i c = .page [] n → n = .nil

theorem pull_no_again {o : Nat → DCur → Res K String DCur} (h : NoEmptyMore o) (it : Iter K String DCur) :
    ∀ it', pull DCur.nil o it ≠ (it', .again) := by
  intro it' he
  unfold pull at he
  split at he
  · cases he
  · split at he
    · cases he
    · split at he
      · cases he
      · split at he
        · rename_i items next ho
          split at he
          · cases he
          · split at he
            · cases he
            · rename_i hn
              exact hn (h _ _ _ ho)
        · cases he

theorem pullEvent_eq_pull {o : Nat → DCur → Res K String DCur} (h : NoEmptyMore o) (r : Nat) (it : Iter K String DCur) :
    pullEvent o (r + 1) it = pull DCur.nil o it := by
  simp only [pullEvent]
  cases hp : pull DCur.nil o it with
  | mk it' ev =>
    cases ev with
    | again => exact absurd hp (pull_no_again h it it')
    | item x => rfl
    | stop => rfl
    | err => rfl

theorem iterGo_eq_drain {o : Nat → DCur → Res K String DCur} (h : NoEmptyMore o) (r : Nat) : ∀ (n : Nat) (it : Iter K String DCur),
    (drain DCur.nil o n it).2 ≠ .running → ∀ (fuel : Nat), n ≤ fuel → ∀ acc,
    iterGo o (r + 1) fuel it acc = ⟨acc.reverse ++ (drain DCur.nil o n it).1, endOf (drain DCur.nil o n it).2⟩
  | 0, _, hr, _, _, _ => by simp [drain] at hr
  | n + 1, it, hr, fuel, hf, acc => by
    obtain ⟨fuel', rfl⟩ : ∃ f', fuel = f' + 1 := ⟨fuel - 1, by omega⟩
    simp only [iterGo, pullEvent_eq_pull h]
    cases hp : pull DCur.nil o it with
    | mk it' ev =>
      cases ev with
      | again => exact absurd hp (pull_no_again h it it')
      | item x =>
        rw [drain_item DCur.nil o n it it' x hp] at hr ⊢
        simp only
        rw [iterGo_eq_drain h r n it' hr fuel' (by omega) (x :: acc)]
        simp
      | stop => rw [drain_stop DCur.nil o n it it' hp]; simp [endOf]
      | err => rw [drain_err DCur.nil o n it it' hp]; simp [endOf]

theorem specOracle_noEmptyMore (reg : List Item) (p : Nat) (hp : 1 ≤ p) : NoEmptyMore (specOracle reg p) := by
  intro i c n ho
  simp only [specOracle] at ho
  have hb : c ≠ .bad := by rintro rfl; simp [specPage] at ho
  rw [specPage_page reg p hb] at ho
  injection ho with h1 h2
  rw [← h2]
  unfold specNext
  have : (specRest reg c).length ≤ p := by
    have := congrArg List.length h1
    simp only [specItems, List.length_take, List.length_nil] at this
    omega
  simp [this]

/-- Manual paging against a server that answers as the property demands: from a decodable cursor it
collects exactly the listing above the cursor and reaches the empty cursor. -/
theorem manual_spec (reg : List Item) (hr : RegOK reg) (p : Nat) (hp : 1 ≤ p) : ∀ (f i : Nat) (c : DCur), c ≠ .bad →
    (rest (loC c) (sortReg reg)).length + 1 ≤ f →
    (manual DCur.nil (specOracle reg p) f i c).2 = .done ∧
    (manual DCur.nil (specOracle reg p) f i c).1.flatten = rest (loC c) (sortReg reg)
  | 0, _, _, _, hf => by omega
  | f + 1, i, c, hc, hf => by
    have ho : specOracle reg p i c = .page ((rest (loC c) (sortReg reg)).take p) (nextOf dcodec p (rest (loC c) (sortReg reg))) := by
      simp only [specOracle]; exact specPage_eq reg p c hc
    rcases nextOf_cases dcodec p hp (rest (loC c) (sortReg reg)) with ⟨h1, h2⟩ | ⟨h1, l, h2, h3⟩
    · rw [h2] at ho
      have hn : dcodec.nil = DCur.nil := rfl
      simp only [manual, ho, hn, if_true, List.flatten_cons, List.flatten_nil, List.append_nil]
      exact ⟨trivial, List.take_of_length_le h1⟩
    · rw [h3] at ho
      have hne : dcodec.enc l.1 ≠ DCur.nil := by intro e; cases e
      have hR : rest (loC (dcodec.enc l.1)) (sortReg reg) = (rest (loC c) (sortReg reg)).drop p :=
        rest_after_cut _ _ p l (sorted_sortReg reg hr) h2
      have IH := manual_spec reg hr p hp f (i + 1) (dcodec.enc l.1) (by intro e; cases e)
        (by rw [hR, List.length_drop]; omega)
      simp only [manual, ho, hne, if_false, List.flatten_cons]
      refine ⟨IH.1, ?_⟩
      rw [IH.2, hR, List.take_append_drop]

theorem manual_spec_bad (reg : List Item) (p : Nat) (f i : Nat) :
    manual DCur.nil (specOracle reg p) (f + 1) i .bad = ([], .error) := by
  simp [manual, specOracle, specPage]

/-- **What manual paging against a conforming server yields** (closed form). -/
theorem manualAll_spec (reg : List Item) (hr : RegOK reg) (p : Nat) (hp : 1 ≤ p) (cur : DCur) :
    (manualAll (specOracle reg p) cur (reg.length + 1)) =
      (match cur with
       | .bad => (⟨[], .err⟩, .error)
       | c => (⟨rest (loC c) (sortReg reg), .fin⟩, .done)) := by
  have hlen : ∀ c, (rest (loC c) (sortReg reg)).length ≤ reg.length := by
    intro c
    rw [← length_sortReg reg]
    exact (rest_sublist _ _).length_le
  by_cases hb : cur = .bad
  · subst hb; simp [manualAll, manual_spec_bad, endOf]
  · obtain ⟨h1, h2⟩ := manual_spec reg hr p hp (reg.length + 1) 0 cur hb (by have := hlen cur; omega)
    cases cur <;> first | exact absurd rfl hb | simp only [manualAll, h1, h2, endOf]

/-- **The monitor's reference for a whole iteration is manual paging.**  The monitor's constants are slack: the proof
needs fuel `2n + 2` (one pull per element, one per request, one for the end: `drain_owed`, with at most `n + 1` requests)
and one round (a conforming server sends no empty page with a cursor: `NoEmptyMore`); the monitor gives `2n + 8` and 3. -/
theorem iterAll_spec_eq_manualAll (reg : List Item) (hr : RegOK reg) (p : Nat) (hp : 1 ≤ p) (cur : DCur) :
    iterAll (specOracle reg p) cur (2 * reg.length + 8) = (manualAll (specOracle reg p) cur (reg.length + 1)).1 := by
  have hm := manualAll_spec reg hr p hp cur
  have hend : (manual DCur.nil (specOracle reg p) (reg.length + 1) 0 cur).2 ≠ .running := by
    have := congrArg Prod.snd hm
    simp only [manualAll] at this
    rw [this]
    cases cur <;> (intro e; cases e)
  have hfl : (manual DCur.nil (specOracle reg p) (reg.length + 1) 0 cur).1.flatten.length ≤ reg.length := by
    have h1 := congrArg (fun x => x.1.items) hm
    simp only [manualAll] at h1
    rw [h1]
    cases cur with
    | bad => simp
    | nil => simp only; rw [← length_sortReg reg]; exact (rest_sublist _ _).length_le
    | good u => simp only; rw [← length_sortReg reg]; exact (rest_sublist _ _).length_le
  have hd := drain_eq_manual_of_le DCur.nil (specOracle reg p) (reg.length + 1) cur hend (2 * reg.length + 2) (by omega)
  have hg := iterGo_eq_drain (specOracle_noEmptyMore reg p hp) 2 (2 * reg.length + 2) (Iter.start cur)
    (by rw [hd]; exact hend) (2 * reg.length + 8) (by omega) []
  simp only [iterAll, manualAll]
  rw [hg, hd]
  simp

end Paginate
