import McpModel.Paginate.Model
/-!
E13 (C17): the canonical map operations keep the index invariant `WF`; on a well-formed state one list request is a cut of
the listing above the cursor's key (`paginate_spec`); what following cursors through changing listings yields (`Cuts`),
read off for the model's traversal (`trav_cuts`, `TravOK`, `trav_ok`; without mutations `trav_static`).
-/
set_option linter.unusedSectionVars false
namespace Paginate
variable {κ ν C : Type} [KOrd κ] [DecidableEq κ] [DecidableEq C]

theorem lt_asymm {a b : κ} (h : lt a b = true) : lt b a = false := by
  cases hb : lt b a with
  | false => rfl
  | true => have := KOrd.trans h hb; rw [KOrd.irrefl] at this; cases this

theorem lt_ne {a b : κ} (h : lt a b = true) : a ≠ b := by
  intro e; subst e; rw [KOrd.irrefl] at h; cases h

def Sorted (l : List κ) : Prop := l.Pairwise (fun a b => lt a b = true)

def keys (m : List (κ × ν)) : List κ := m.map (·.1)

@[simp] theorem keys_nil : keys ([] : List (κ × ν)) = [] := rfl
@[simp] theorem keys_cons (f : κ × ν) (m : List (κ × ν)) : keys (f :: m) = f.1 :: keys m := rfl

/-- Well-formed state: the canonical form is ascending and the cached index, when present, is current. -/
def WF (s : FS κ ν) : Prop := Sorted (keys s.feats) ∧ ∀ c, s.cache = some c → c = keys s.feats

theorem sorted_nodup {l : List κ} (h : Sorted l) : l.Nodup := by
  unfold Sorted at h
  exact h.imp (fun {a b} hab => lt_ne hab)

theorem lookupF_none_iff (m : List (κ × ν)) (k : κ) : lookupF k m = none ↔ k ∉ keys m := by
  induction m with
  | nil => simp [lookupF]
  | cons f r ih =>
    obtain ⟨k', v'⟩ := f
    simp only [lookupF]
    split
    · rename_i hk; subst hk; simp
    · rename_i hk
      rw [ih]; simp only [keys_cons, List.mem_cons, not_or]
      constructor
      · intro h; exact ⟨fun e => hk e.symm, h⟩
      · exact fun h => h.2

theorem lookupF_insF (k : κ) (v : ν) (m : List (κ × ν)) (x : κ) :
    lookupF x (insF k v m) = if x = k then some v else lookupF x m := by
  induction m with
  | nil =>
    simp only [insF, lookupF]
    by_cases h : x = k
    · subst h; simp
    · simp [h, Ne.symm h]
  | cons f r ih =>
    obtain ⟨k', v'⟩ := f
    simp only [insF]
    split
    · simp only [lookupF]
      by_cases h : x = k
      · subst h; simp
      · simp [h, Ne.symm h]
    · split
      · rename_i h1 h2
        simp only [lookupF, ih]
        have hne : k' ≠ k := lt_ne h2
        by_cases h : k' = x
        · subst h; simp [hne]
        · simp [h]
      · rename_i h1 h2
        have : k = k' := KOrd.tri (by simpa using h1) (by simpa using h2)
        subst this
        simp only [lookupF]
        by_cases h : x = k
        · subst h; simp
        · simp [h, Ne.symm h]

theorem mem_insF_self (k : κ) (v : ν) : ∀ (m : List (κ × ν)), (k, v) ∈ insF k v m
  | [] => by simp [insF]
  | (k', v') :: r => by
    simp only [insF]
    split
    · simp
    · split
      · exact List.mem_cons_of_mem _ (mem_insF_self k v r)
      · simp

theorem mem_keys_insF (k : κ) (v : ν) (m : List (κ × ν)) (x : κ) :
    x ∈ keys (insF k v m) ↔ x = k ∨ x ∈ keys m := by
  rw [← Decidable.not_iff_not, ← lookupF_none_iff, lookupF_insF]
  by_cases h : x = k <;> simp [h, lookupF_none_iff]

theorem sorted_insF (k : κ) (v : ν) (m : List (κ × ν)) (h : Sorted (keys m)) :
    Sorted (keys (insF k v m)) := by
  induction m with
  | nil => simp [insF, Sorted]
  | cons f r ih =>
    obtain ⟨k', v'⟩ := f
    simp only [Sorted, keys_cons, List.pairwise_cons] at h
    obtain ⟨h1, h2⟩ := h
    simp only [insF]
    split
    · rename_i hk
      simp only [Sorted, keys_cons, List.pairwise_cons, List.mem_cons]
      refine ⟨?_, h1, h2⟩
      rintro a (rfl | ha)
      · exact hk
      · exact KOrd.trans hk (h1 a ha)
    · split
      · rename_i hk
        simp only [Sorted, keys_cons, List.pairwise_cons]
        refine ⟨?_, ih h2⟩
        intro a ha
        rcases (mem_keys_insF k v r a).1 ha with rfl | ha
        · exact hk
        · exact h1 a ha
      · rename_i hk1 hk2
        have : k = k' := KOrd.tri (by simpa using hk1) (by simpa using hk2)
        subst this
        simp only [Sorted, keys_cons, List.pairwise_cons]
        exact ⟨h1, h2⟩

theorem lookupF_eq_some_iff (m : List (κ × ν)) (hs : Sorted (keys m)) (k : κ) (v : ν) :
    lookupF k m = some v ↔ (k, v) ∈ m := by
  induction m with
  | nil => simp [lookupF]
  | cons f r ih =>
    obtain ⟨k', v'⟩ := f
    simp only [Sorted, keys_cons, List.pairwise_cons] at hs
    simp only [lookupF]
    split
    · rename_i hk
      subst hk
      constructor
      · intro h; simp at h; subst h; simp
      · intro h
        simp only [List.mem_cons, Prod.mk.injEq, true_and] at h
        rcases h with h | h
        · simp [h]
        · have : k' ∈ keys r := List.mem_map.2 ⟨_, h, rfl⟩
          have := hs.1 _ this
          rw [KOrd.irrefl] at this; cases this
    · rename_i hk
      rw [ih hs.2]
      simp only [List.mem_cons, Prod.mk.injEq]
      constructor
      · exact Or.inr
      · rintro (⟨h, _⟩ | h)
        · exact absurd h.symm hk
        · exact h

theorem foldl_insF_sorted (fs : List (κ × ν)) (m : List (κ × ν)) (h : Sorted (keys m)) :
    Sorted (keys (fs.foldl (fun m f => insF f.1 f.2 m) m)) :=
  List.foldlRecOn (motive := fun m => Sorted (keys m)) fs _ h fun _ hm _ _ => sorted_insF _ _ _ hm

theorem mem_keys_foldl_insF (fs : List (κ × ν)) (m : List (κ × ν)) (x : κ) :
    x ∈ keys (fs.foldl (fun m f => insF f.1 f.2 m) m) ↔ x ∈ keys fs ∨ x ∈ keys m := by
  induction fs generalizing m with
  | nil => simp
  | cons f r ih =>
    simp only [List.foldl_cons, ih, mem_keys_insF, keys_cons, List.mem_cons]
    constructor
    · rintro (h | h | h) <;> simp [h]
    · rintro ((h | h) | h) <;> simp [h]

theorem wf_add (s : FS κ ν) (fs : List (κ × ν)) (h : WF s) : WF (s.add fs) :=
  ⟨foldl_insF_sorted fs s.feats h.1, by intro c hc; simp [FS.add] at hc⟩

theorem mem_keys_add (s : FS κ ν) (fs : List (κ × ν)) (x : κ) :
    x ∈ keys (s.add fs).feats ↔ x ∈ keys fs ∨ x ∈ keys s.feats :=
  mem_keys_foldl_insF fs s.feats x

theorem sorted_sublist {a b : List κ} (h : a.Sublist b) (hb : Sorted b) : Sorted a :=
  List.Pairwise.sublist h hb

theorem sorted_filter (p : κ × ν → Bool) (m : List (κ × ν)) (h : Sorted (keys m)) : Sorted (keys (m.filter p)) :=
  sorted_sublist (List.filter_sublist.map _) h

theorem mem_sorted_iff_lookup {m : List (κ × ν)} (hs : Sorted (keys m)) (x : κ × ν) :
    x ∈ m ↔ lookupF x.1 m = some x.2 := by
  rw [lookupF_eq_some_iff m hs]

theorem mem_insF_iff {m : List (κ × ν)} (hs : Sorted (keys m)) (k : κ) (v : ν) (x : κ × ν) :
    x ∈ insF k v m ↔ (x ∈ m ∧ x.1 ≠ k) ∨ x = (k, v) := by
  rw [mem_sorted_iff_lookup (sorted_insF k v m hs), lookupF_insF, mem_sorted_iff_lookup hs]
  obtain ⟨a, b⟩ := x
  by_cases e : a = k
  · subst e
    simp only [if_true, Option.some.injEq, ne_eq, not_true_eq_false, and_false, false_or, Prod.mk.injEq, true_and]
    exact eq_comm
  · simp [e]

theorem hasF_iff (k : κ) (m : List (κ × ν)) : hasF k m = true ↔ k ∈ keys m := by
  simp only [hasF, keys, List.any_eq_true, decide_eq_true_eq, List.mem_map]

theorem removeLoop_fst (uids : List κ) : ∀ (m : List (κ × ν)) (ch : Bool),
    (removeLoop uids (m, ch)).1 = m.filter (fun f => !uids.contains f.1) := by
  induction uids with
  | nil => intro m ch; exact (List.filter_eq_self.2 fun _ _ => rfl).symm
  | cons u r ih =>
    intro m ch
    simp only [removeLoop]
    split
    · rw [ih, delF, List.filter_filter]
      apply List.filter_congr
      intro f _
      by_cases e : f.1 = u <;> simp [e]
    · rename_i hu
      rw [ih]
      apply List.filter_congr
      intro f hf
      have : f.1 ≠ u := fun e => hu ((hasF_iff u m).2 (e ▸ List.mem_map_of_mem hf))
      simp [this]

theorem removeLoop_snd (uids : List κ) : ∀ (m : List (κ × ν)),
    (removeLoop uids (m, true)).2 = true ∧
    ((removeLoop uids (m, false)).2 = false → (removeLoop uids (m, false)).1 = m) := by
  induction uids with
  | nil => intro m; exact ⟨rfl, fun _ => rfl⟩
  | cons u r ih =>
    intro m
    simp only [removeLoop]
    split
    · exact ⟨(ih _).1, fun h => by rw [(ih _).1] at h; cases h⟩
    · exact ih m

theorem wf_remove (s : FS κ ν) (uids : List κ) (h : WF s) : WF (s.remove uids).1 := by
  refine ⟨by simp only [FS.remove, removeLoop_fst]; exact sorted_filter _ _ h.1, ?_⟩
  intro c hc
  simp only [FS.remove] at hc ⊢
  cases hch : (removeLoop uids (s.feats, false)).2 with
  | true => simp [hch] at hc
  | false => simp only [hch] at hc; rw [(removeLoop_snd uids s.feats).2 hch]; exact h.2 c (by simpa using hc)

theorem mem_keys_remove (s : FS κ ν) (uids : List κ) (h : WF s) (x : κ) :
    x ∈ keys (s.remove uids).1.feats ↔ x ∈ keys s.feats ∧ x ∉ uids := by
  simp only [FS.remove, removeLoop_fst, keys, List.mem_map, List.mem_filter, Bool.not_eq_true']
  constructor
  · rintro ⟨f, ⟨h1, h2⟩, rfl⟩; exact ⟨⟨f, h1, rfl⟩, by simpa using h2⟩
  · rintro ⟨⟨f, h1, rfl⟩, h2⟩; exact ⟨f, ⟨h1, by simpa using h2⟩, rfl⟩
theorem wf_sortKeys (s : FS κ ν) (h : WF s) :
    WF s.sortKeys ∧ s.sortKeys.feats = s.feats ∧ s.sortKeys.cache.getD [] = keys s.feats := by
  cases hc : s.cache with
  | none =>
    have e : s.sortKeys = { s with cache := some (keys s.feats) } := by simp [FS.sortKeys, hc, keys]
    rw [e]
    exact ⟨⟨h.1, by intro c hc'; simp at hc'; exact hc'.symm⟩, rfl, rfl⟩
  | some c =>
    have e : s.sortKeys = s := by simp [FS.sortKeys, hc]
    rw [e]
    exact ⟨h, rfl, by simp [hc, h.2 c hc]⟩

/-- On an ascending key list, the suffix `above` yields is exactly the keys strictly above `uid`
— whether or not `uid` itself is (still) a key. -/
theorem drop_aboveIdx (uid : κ) (ks : List κ) (h : Sorted ks) :
    ks.drop (aboveIdx uid ks) = ks.filter (fun k => lt uid k) := by
  induction ks with
  | nil => simp [aboveIdx, lowerBound]
  | cons k r ih =>
    simp only [Sorted, List.pairwise_cons] at h
    obtain ⟨h1, h2⟩ := h
    have ih := ih h2
    by_cases hk : lt k uid = true
    · have e : aboveIdx uid (k :: r) = aboveIdx uid r + 1 := by
        simp only [aboveIdx, lowerBound, hk, if_true, List.getElem?_cons_succ]
        split <;> rfl
      rw [e, List.drop_succ_cons, ih, List.filter_cons, lt_asymm hk]
      simp
    · have hk' : lt k uid = false := by simpa using hk
      by_cases he : k = uid
      · subst he
        have e : aboveIdx k (k :: r) = 1 := by simp [aboveIdx, lowerBound, KOrd.irrefl]
        rw [e, List.filter_cons, KOrd.irrefl]
        simp only [List.drop_succ_cons, List.drop_zero, Bool.false_eq_true, if_false]
        exact (List.filter_eq_self.2 h1).symm
      · have hgt : lt uid k = true := by
          cases hu : lt uid k with
          | true => rfl
          | false => exact absurd (KOrd.tri hk' hu) he
        have e : aboveIdx uid (k :: r) = 0 := by
          simp [aboveIdx, lowerBound, hk', he]
        rw [e, List.drop_zero]
        exact (List.filter_eq_self.2 (by
          intro a ha
          rcases List.mem_cons.1 ha with rfl | ha
          · exact hgt
          · exact KOrd.trans hgt (h1 a ha))).symm

theorem lookupAll_sublist (m sub : List (κ × ν)) (hs : Sorted (keys m)) (h : sub.Sublist m) :
    lookupAll m (keys sub) = some sub := by
  induction sub with
  | nil => rfl
  | cons f r ih =>
    obtain ⟨k, v⟩ := f
    have hr : r.Sublist m := (List.sublist_cons_self _ _).trans h
    have hmem : (k, v) ∈ m := h.subset (List.mem_cons_self ..)
    simp only [keys_cons, lookupAll, (lookupF_eq_some_iff m hs k v).2 hmem]
    have := ih hr
    simp only [keys] at this
    simp [keys, this]

theorem keys_filter_gt (uid : κ) (m : List (κ × ν)) :
    (keys m).filter (fun k => lt uid k) = keys (m.filter (fun f => lt uid f.1)) := by
  simp only [keys, List.filter_map]; rfl

theorem keys_take (n : Nat) (m : List (κ × ν)) : (keys m).take n = keys (m.take n) := by
  simp [keys, List.map_take]

/-- The entries a request with lower bound `lo` (`loOf` of its cursor) still has to see: everything for `none`, the
entries strictly above the key otherwise. -/
def rest (lo : Option κ) (m : List (κ × ν)) : List (κ × ν) :=
  match lo with
  | none => m
  | some uid => m.filter (fun f => lt uid f.1)

theorem rest_sublist (lo : Option κ) (m : List (κ × ν)) : (rest lo m).Sublist m := by
  cases lo <;> simp [rest]

def loOf (cod : Codec κ C) (cur : C) : Option κ := if cur = cod.nil then none else cod.dec cur

/-- `NextCursor` of a page cut from `R`. -/
def nextOf (cod : Codec κ C) (p : Nat) (R : List (κ × ν)) : C :=
  if R.length ≤ p then cod.nil else
    match (R.take p).getLast? with
    | some l => cod.enc l.1
    | none => cod.nil

theorem getLast?_take {α : Type} {p : Nat} (hp : 1 ≤ p) {R : List α} (hl : p < R.length) :
    ∃ l, (R.take p).getLast? = some l := by
  cases hg : (R.take p).getLast? with
  | some l => exact ⟨l, rfl⟩
  | none =>
    have := congrArg List.length (List.getLast?_eq_none_iff.1 hg)
    simp only [List.length_take, List.length_nil] at this
    omega

theorem paginate_spec (cod : Codec κ C) (p : Nat) (hp : 1 ≤ p) (s : FS κ ν) (h : WF s) (cur : C) :
    WF (paginate cod p s cur).1 ∧ (paginate cod p s cur).1.feats = s.feats ∧
    ((cur ≠ cod.nil ∧ cod.dec cur = none ∧ (paginate cod p s cur).2 = .invalidParams) ∨
     ((cur = cod.nil ∨ (cod.dec cur).isSome) ∧
       (paginate cod p s cur).2 =
         .page ((rest (loOf cod cur) s.feats).take p) (nextOf cod p (rest (loOf cod cur) s.feats)))) := by
  obtain ⟨w1, w2, w3⟩ := wf_sortKeys s h
  -- common tail once the start index is known: the tail of `Model.paginate`, verbatim (it has to follow a change there)
  have tail : ∀ (lo : Option κ) (idx : Nat), (keys s.feats).drop idx = keys (rest lo s.feats) →
      (match (some (s.sortKeys, idx) : Option (FS κ ν × Nat)) with
        | none => (s, Res.invalidParams)
        | some (s', idx) =>
          let seq := (s'.cache.getD []).drop idx
          match lookupAll s'.feats (seq.take p) with
          | none => (s', .panic)
          | some items =>
            if seq.length < p + 1 then (s', .page items cod.nil)
            else match items.getLast? with
              | none => (s', .panic)
              | some l => (s', .page items (cod.enc l.1))) =
      (s.sortKeys, Res.page ((rest lo s.feats).take p) (nextOf cod p (rest lo s.feats))) := by
    intro lo idx hidx
    simp only [w3, w2, hidx, keys_take, nextOf]
    rw [lookupAll_sublist s.feats _ h.1 ((List.take_sublist _ _).trans (rest_sublist lo s.feats))]
    simp only [keys, List.length_map]
    by_cases hl : (rest lo s.feats).length ≤ p
    · simp [hl, Nat.lt_succ_of_le hl]
    · have : ¬ (rest lo s.feats).length < p + 1 := by omega
      simp only [this, if_false, hl]
      obtain ⟨l, hg⟩ := getLast?_take hp (show p < (rest lo s.feats).length by omega)
      rw [hg]
  by_cases hc : cur = cod.nil
  · have e : paginate cod p s cur =
        (s.sortKeys, Res.page ((rest none s.feats).take p) (nextOf cod p (rest none s.feats))) := by
      unfold paginate
      simp only [hc, if_true]
      exact tail none 0 (by simp [rest])
    have hlo : loOf cod cur = none := by simp [loOf, hc]
    rw [e, hlo]
    exact ⟨w1, w2, Or.inr ⟨Or.inl hc, rfl⟩⟩
  · cases hd : cod.dec cur with
    | none =>
      have e : paginate cod p s cur = (s, Res.invalidParams) := by
        unfold paginate; simp [hc, hd]
      rw [e]
      exact ⟨h, rfl, Or.inl ⟨hc, rfl, rfl⟩⟩
    | some uid =>
      have e : paginate cod p s cur =
          (s.sortKeys, Res.page ((rest (some uid) s.feats).take p) (nextOf cod p (rest (some uid) s.feats))) := by
        unfold paginate
        simp only [hc, if_false, hd]
        apply tail (some uid)
        rw [w3, drop_aboveIdx uid _ h.1, keys_filter_gt]
        rfl
      have hlo : loOf cod cur = some uid := by simp [loOf, hc, hd]
      rw [e, hlo]
      exact ⟨w1, w2, Or.inr ⟨Or.inr rfl, rfl⟩⟩

theorem wf_empty : WF (FS.empty : FS κ ν) := ⟨by simp [FS.empty, Sorted], by intro c hc; simp [FS.empty] at hc⟩

theorem wf_applyMut (s : FS κ ν) (m : Mut κ ν) (h : WF s) : WF (applyMut s m) := by
  cases m with
  | add fs => exact wf_add s fs h
  | remove uids => exact wf_remove s uids h

theorem wf_applyBatch (s : FS κ ν) (b : List (Mut κ ν)) (h : WF s) : WF (applyBatch s b) := by
  induction b generalizing s with
  | nil => exact h
  | cons m r ih => exact ih _ (wf_applyMut s m h)

theorem loOf_enc (cod : Codec κ C) (k : κ) : loOf cod (cod.enc k) = some k := by
  simp [loOf, cod.enc_ne_nil, cod.dec_enc]

theorem loOf_nil (cod : Codec κ C) : loOf cod cod.nil = none := by simp [loOf]

theorem keys_append (a b : List (κ × ν)) : keys (a ++ b) = keys a ++ keys b := by simp [keys]

theorem mem_keys {m : List (κ × ν)} {k : κ} : k ∈ keys m ↔ ∃ v, (k, v) ∈ m := by
  simp only [keys, List.mem_map]
  constructor
  · rintro ⟨⟨a, b⟩, h, rfl⟩; exact ⟨b, h⟩
  · rintro ⟨v, h⟩; exact ⟨(k, v), h, rfl⟩

theorem rest_sorted (lo : Option κ) (m : List (κ × ν)) (h : Sorted (keys m)) : Sorted (keys (rest lo m)) :=
  sorted_sublist ((rest_sublist lo m).map _) h

theorem mem_rest (lo : Option κ) (m : List (κ × ν)) (f : κ × ν) :
    f ∈ rest lo m ↔ f ∈ m ∧ ∀ uid, lo = some uid → lt uid f.1 = true := by
  cases lo with
  | none => simp [rest]
  | some u => simp [rest, List.mem_filter]

theorem nextOf_cases (cod : Codec κ C) (p : Nat) (hp : 1 ≤ p) (R : List (κ × ν)) :
    (R.length ≤ p ∧ nextOf cod p R = cod.nil) ∨
    (p < R.length ∧ ∃ l, (R.take p).getLast? = some l ∧ nextOf cod p R = cod.enc l.1) := by
  by_cases hl : R.length ≤ p
  · exact Or.inl ⟨hl, by simp [nextOf, hl]⟩
  · refine Or.inr ⟨by omega, ?_⟩
    obtain ⟨l, hg⟩ := getLast?_take hp (show p < R.length by omega)
    exact ⟨l, hg, by simp [nextOf, hl, hg]⟩

theorem cut_bounds (R : List (κ × ν)) (p : Nat) (l : κ × ν) (hs : Sorted (keys R))
    (hl : (R.take p).getLast? = some l) :
    (∀ x ∈ R.take p, x.1 = l.1 ∨ lt x.1 l.1 = true) ∧ (∀ y ∈ R.drop p, lt l.1 y.1 = true) ∧ l ∈ R.take p := by
  obtain ⟨ys, hys⟩ := List.getLast?_eq_some_iff.1 hl
  have hR : R = (ys ++ [l]) ++ R.drop p := by rw [← hys, List.take_append_drop]
  rw [hR, keys_append, keys_append] at hs
  unfold Sorted at hs
  rw [List.pairwise_append] at hs
  obtain ⟨h1, _, h3⟩ := hs
  rw [List.pairwise_append] at h1
  obtain ⟨_, _, h13⟩ := h1
  refine ⟨?_, ?_, ?_⟩
  · intro x hx
    rw [hys, List.mem_append] at hx
    rcases hx with hx | hx
    · exact Or.inr (h13 x.1 (List.mem_map.2 ⟨x, hx, rfl⟩) l.1 (by simp [keys]))
    · simp at hx; exact Or.inl (by rw [hx])
  · intro y hy
    exact h3 l.1 (by simp [keys]) y.1 (List.mem_map.2 ⟨y, hy, rfl⟩)
  · rw [hys]; simp

theorem rest_after_cut (lo : Option κ) (m : List (κ × ν)) (p : Nat) (l : κ × ν) (hs : Sorted (keys m))
    (hl : ((rest lo m).take p).getLast? = some l) :
    rest (some l.1) m = (rest lo m).drop p := by
  obtain ⟨c1, c2, c3⟩ := cut_bounds _ p l (rest_sorted lo m hs) hl
  have hlR := (mem_rest _ _ _).1 (List.mem_of_mem_take c3)
  have e1 : rest (some l.1) m = (rest lo m).filter (fun f => lt l.1 f.1) := by
    cases lo with
    | none => simp [rest]
    | some u =>
      simp only [rest, List.filter_filter]
      apply List.filter_congr
      intro x _
      cases hx : lt l.1 x.1 with
      | false => simp
      | true => simp [KOrd.trans (hlR.2 u rfl) hx]
  rw [e1]
  conv => lhs; rw [← List.take_append_drop p (rest lo m)]
  rw [List.filter_append]
  have t1 : ((rest lo m).take p).filter (fun f => lt l.1 f.1) = [] := by
    rw [List.filter_eq_nil_iff]
    intro x hx
    rcases c1 x hx with e | e
    · rw [e, KOrd.irrefl]; simp
    · rw [lt_asymm e]; simp
  have t2 : ((rest lo m).drop p).filter (fun f => lt l.1 f.1) = (rest lo m).drop p :=
    List.filter_eq_self.2 (fun y hy => c2 y hy)
  rw [t1, t2]; rfl

/-- Number of pages for `n` remaining entries. -/
def pagesFor (n p : Nat) : Nat := max 1 ((n + p - 1) / p)

theorem pagesFor_small (n p : Nat) (hp : 1 ≤ p) (h : n ≤ p) : pagesFor n p = 1 := by
  unfold pagesFor
  have : (n + p - 1) / p ≤ 1 := by
    apply Nat.le_of_lt_succ
    rw [Nat.div_lt_iff_lt_mul (by omega)]
    omega
  omega

theorem pagesFor_big (n p : Nat) (hp : 1 ≤ p) (h : p < n) : pagesFor n p = pagesFor (n - p) p + 1 := by
  unfold pagesFor
  have e : n + p - 1 = (n - p + p - 1) + p := by omega
  rw [e, Nat.add_div_right _ (by omega : 0 < p)]
  have : 1 ≤ (n - p + p - 1) / p := by
    rw [Nat.le_div_iff_mul_le (by omega)]
    omega
  omega

def Above (lo : Option κ) (k : κ) : Prop := ∀ u, lo = some u → lt u k = true

/-- Successive cuts of changing ascending listings `Ls`: page `i` is the first `p` entries of `L_i` above the
bound `lo_i`; the next bound is the last key of page `i`; `d`: the last listing had nothing left above its page.
The keyset-pagination argument is made once, about these; the model's traversal (`trav_cuts`) and the monitor's chain of
fetches (`cuts_of_chain`) are its two instances. -/
inductive Cuts (p : Nat) : Option κ → List (List (κ × ν)) → List (List (κ × ν)) → Bool → Prop
  | last {lo : Option κ} {L : List (κ × ν)} {d : Bool} : Sorted (keys L) → (d = true → (rest lo L).length ≤ p) →
      Cuts p lo [L] [(rest lo L).take p] d
  | more {lo : Option κ} {L : List (κ × ν)} {l : κ × ν} {Ls pgs : List (List (κ × ν))} {d : Bool} :
      Sorted (keys L) → p < (rest lo L).length → ((rest lo L).take p).getLast? = some l →
      Cuts p (some l.1) Ls pgs d → Cuts p lo (L :: Ls) ((rest lo L).take p :: pgs) d

theorem cut_sorted_above (lo : Option κ) {L : List (κ × ν)} (hL : Sorted (keys L)) (p : Nat) :
    Sorted (keys ((rest lo L).take p)) ∧ ∀ k ∈ keys ((rest lo L).take p), Above lo k := by
  have hsub : ((rest lo L).take p).Sublist L := (List.take_sublist _ _).trans (rest_sublist _ _)
  refine ⟨sorted_sublist (hsub.map _) hL, fun k hk u hu => ?_⟩
  obtain ⟨v, hv⟩ := mem_keys.1 hk
  exact ((mem_rest _ _ _).1 (List.mem_of_mem_take hv)).2 u hu

theorem Cuts.sorted {p : Nat} {lo : Option κ} {Ls pgs : List (List (κ × ν))} {d : Bool} (h : Cuts p lo Ls pgs d) :
    Sorted (keys pgs.flatten) ∧ ∀ x ∈ keys pgs.flatten, Above lo x := by
  induction h with
  | last hL _ => simpa using cut_sorted_above _ hL p
  | @more lo L l Ls pgs d hL _ hl _ ih =>
    obtain ⟨s1, a1⟩ := cut_sorted_above lo hL p
    obtain ⟨c1, _, c3⟩ := cut_bounds _ p l (rest_sorted lo L hL) hl
    have hlR := ((mem_rest _ _ _).1 (List.mem_of_mem_take c3)).2
    have hab : ∀ b ∈ keys pgs.flatten, lt l.1 b = true := fun b hb => ih.2 b hb l.1 rfl
    rw [List.flatten_cons, keys_append]
    refine ⟨List.pairwise_append.2 ⟨s1, ih.1, fun a ha b hb => ?_⟩, fun x hx => ?_⟩
    · obtain ⟨va, hva⟩ := mem_keys.1 ha
      rcases c1 _ hva with e | e
      · simp only at e; rw [e]; exact hab b hb
      · exact KOrd.trans e (hab b hb)
    · rcases List.mem_append.1 hx with hx | hx
      · exact a1 x hx
      · exact fun u hu => KOrd.trans (hlR u hu) (hab x hx)

theorem Cuts.complete {p : Nat} {lo : Option κ} {Ls pgs : List (List (κ × ν))} {d : Bool} (h : Cuts p lo Ls pgs d)
    (hd : d = true) {k : κ} (hk : ∀ L ∈ Ls, k ∈ keys L) (ha : Above lo k) : k ∈ keys pgs.flatten := by
  induction h with
  | @last lo L d _ hlen =>
    obtain ⟨v, hv⟩ := mem_keys.1 (hk L (by simp))
    rw [List.take_of_length_le (hlen hd)]
    simpa using mem_keys.2 ⟨v, (mem_rest _ _ _).2 ⟨hv, ha⟩⟩
  | @more lo L l Ls pgs d hL _ hl _ ih =>
    obtain ⟨_, c2, _⟩ := cut_bounds _ p l (rest_sorted lo L hL) hl
    obtain ⟨v, hv⟩ := mem_keys.1 (hk L (by simp))
    have hkR : (k, v) ∈ rest lo L := (mem_rest _ _ _).2 ⟨hv, ha⟩
    rw [← List.take_append_drop p (rest lo L), List.mem_append] at hkR
    rw [List.flatten_cons, keys_append, List.mem_append]
    rcases hkR with h1 | h2
    · exact .inl (mem_keys.2 ⟨v, h1⟩)
    · exact .inr (ih hd (fun L hL => hk L (List.mem_cons_of_mem _ hL)) (fun u hu => by cases hu; exact c2 _ h2))

theorem Cuts.static {p : Nat} (hp : 1 ≤ p) {lo : Option κ} {Ls pgs : List (List (κ × ν))} {d : Bool} (h : Cuts p lo Ls pgs d)
    (hd : d = true) {L0 : List (κ × ν)} (hL0 : ∀ L ∈ Ls, L = L0) :
    pgs.flatten = rest lo L0 ∧ pgs.length = pagesFor (rest lo L0).length p := by
  induction h with
  | @last lo L d _ hlen =>
    cases hL0 L (by simp)
    simp [List.take_of_length_le (hlen hd), pagesFor_small _ _ hp (hlen hd)]
  | @more lo L l Ls pgs d hL hlt hl _ ih =>
    cases hL0 L (by simp)
    obtain ⟨i1, i2⟩ := ih hd (fun L hL => hL0 L (List.mem_cons_of_mem _ hL))
    rw [rest_after_cut _ _ p l hL hl] at i1 i2
    exact ⟨by rw [List.flatten_cons, i1, List.take_append_drop],
      by rw [List.length_cons, i2, List.length_drop, pagesFor_big _ _ hp hlt]⟩

theorem Cuts.sub {p : Nat} {lo : Option κ} {Ls pgs : List (List (κ × ν))} {d : Bool} (h : Cuts p lo Ls pgs d) :
    (∀ x ∈ pgs.zip Ls, x.1.Sublist x.2) ∧ ∀ pg ∈ pgs, pg.length ≤ p := by
  have one : ∀ (lo : Option κ) (L : List (κ × ν)), ((rest lo L).take p).Sublist L ∧ ((rest lo L).take p).length ≤ p :=
    fun lo L => ⟨(List.take_sublist _ _).trans (rest_sublist _ _), by rw [List.length_take]; omega⟩
  induction h with
  | last => simpa using one _ _
  | more _ _ _ _ ih =>
    refine ⟨fun x hx => ?_, fun pg hpg => ?_⟩
    · rcases List.mem_cons.1 hx with rfl | hx
      · exact (one _ _).1
      · exact ih.1 x hx
    · rcases List.mem_cons.1 hpg with rfl | hpg
      · exact (one _ _).2
      · exact ih.2 pg hpg

/-- What a traversal guarantees (for any start cursor). -/
structure TravOK (cod : Codec κ C) (p : Nat) (cur : C) (t : Trav κ ν) : Prop where
  sorted : Sorted (keys t.pages.flatten)
  above : ∀ uid, loOf cod cur = some uid → ∀ x ∈ keys t.pages.flatten, lt uid x = true
  complete : t.done = true → ∀ k, (∀ st ∈ t.states, k ∈ keys st.feats) →
    (∀ uid, loOf cod cur = some uid → lt uid k = true) → k ∈ keys t.pages.flatten
  registered : ∀ x ∈ t.pages.zip t.states, ∀ f ∈ x.1, f ∈ x.2.feats
  nofail : (cur = cod.nil ∨ (cod.dec cur).isSome) → t.failed = false
  wf : ∀ st ∈ t.states, WF st
  pagesize : ∀ pg ∈ t.pages, pg.length ≤ p

theorem trav_fail (cod : Codec κ C) (p : Nat) (hist : List (List (Mut κ ν))) (s : FS κ ν) (cur : C)
    (h : (paginate cod p s cur).2 = .invalidParams) :
    trav cod p hist s cur = { pages := [], states := [s], done := false, failed := true } := by
  cases hpg : paginate cod p s cur with
  | mk s' r =>
    rw [hpg] at h; simp only at h; subst h
    cases hist <;> simp [trav, hpg]

theorem travOK_failed (cod : Codec κ C) (p : Nat) (s : FS κ ν) (h : WF s) (cur : C)
    (hc : cur ≠ cod.nil) (hd : cod.dec cur = none) :
    TravOK cod p cur { pages := [], states := [s], done := false, failed := true } := by
  refine ⟨by simp [Sorted], by simp, by simp, by simp, ?_, ?_, by simp⟩
  · rintro (h1 | h1)
    · exact absurd h1 hc
    · simp [hd] at h1
  · intro st hst; simp only [List.mem_singleton] at hst; subst hst; exact h

theorem trav_step (cod : Codec κ C) (p : Nat) (hp : 1 ≤ p) (hist : List (List (Mut κ ν))) (s : FS κ ν) (cur : C)
    (h : WF s) (hcur : cur = cod.nil ∨ (cod.dec cur).isSome) :
    ((rest (loOf cod cur) s.feats).length ≤ p ∧ trav cod p hist s cur =
        { pages := [(rest (loOf cod cur) s.feats).take p], states := [s], done := true, failed := false }) ∨
    (p < (rest (loOf cod cur) s.feats).length ∧ ∃ l, ((rest (loOf cod cur) s.feats).take p).getLast? = some l ∧
      trav cod p hist s cur = match hist with
        | [] => { pages := [(rest (loOf cod cur) s.feats).take p], states := [s], done := false, failed := false }
        | b :: hist' => Trav.cons ((rest (loOf cod cur) s.feats).take p) s
            (trav cod p hist' (applyBatch (paginate cod p s cur).1 b) (cod.enc l.1))) := by
  obtain ⟨_, _, ⟨hc, hd, _⟩ | ⟨_, hres⟩⟩ := paginate_spec cod p hp s h cur
  · rcases hcur with h1 | h1
    · exact absurd h1 hc
    · simp [hd] at h1
  cases hpg : paginate cod p s cur with
  | mk s' r =>
    rw [hpg] at hres
    simp only at hres
    subst hres
    rcases nextOf_cases cod p hp (rest (loOf cod cur) s.feats) with ⟨h1, h2⟩ | ⟨h1, l, h2, h3⟩
    · exact .inl ⟨h1, by cases hist <;> simp [trav, hpg, h2]⟩
    · exact .inr ⟨h1, l, h2, by cases hist <;> simp [trav, hpg, h3, cod.enc_ne_nil]⟩

theorem trav_cuts (cod : Codec κ C) (p : Nat) (hp : 1 ≤ p) (hist : List (List (Mut κ ν))) :
    ∀ (s : FS κ ν) (cur : C), WF s → (cur = cod.nil ∨ (cod.dec cur).isSome) →
      Cuts p (loOf cod cur) ((trav cod p hist s cur).states.map (·.feats)) (trav cod p hist s cur).pages
        (trav cod p hist s cur).done ∧
      (trav cod p hist s cur).failed = false ∧ ∀ st ∈ (trav cod p hist s cur).states, WF st := by
  induction hist with
  | nil =>
    intro s cur h hcur
    rcases trav_step cod p hp [] s cur h hcur with ⟨h1, e⟩ | ⟨_, l, _, e⟩ <;> rw [e]
    · exact ⟨.last h.1 fun _ => h1, rfl, by simpa using h⟩
    · exact ⟨.last h.1 nofun, rfl, by simpa using h⟩
  | cons b hist' ih =>
    intro s cur h hcur
    rcases trav_step cod p hp (b :: hist') s cur h hcur with ⟨h1, e⟩ | ⟨h1, l, h2, e⟩ <;> rw [e]
    · exact ⟨.last h.1 fun _ => h1, rfl, by simpa using h⟩
    · obtain ⟨i1, i2, i3⟩ := ih _ (cod.enc l.1) (wf_applyBatch _ b (paginate_spec cod p hp s h cur).1)
        (.inr (by simp [cod.dec_enc]))
      rw [loOf_enc] at i1
      exact ⟨.more h.1 h1 h2 i1, i2, by simpa [Trav.cons] using ⟨h, i3⟩⟩

theorem trav_ok (cod : Codec κ C) (p : Nat) (hp : 1 ≤ p) (hist : List (List (Mut κ ν))) :
    ∀ (s : FS κ ν) (cur : C), WF s → TravOK cod p cur (trav cod p hist s cur) := by
  intro s cur h
  by_cases hcur : cur = cod.nil ∨ (cod.dec cur).isSome
  · obtain ⟨hc, hnf, hwf⟩ := trav_cuts cod p hp hist s cur h hcur
    refine ⟨hc.sorted.1, fun uid hu x hx => hc.sorted.2 x hx uid hu, fun hd k hk => hc.complete hd fun L hL => ?_,
      fun x hx => ?_, fun _ => hnf, hwf, hc.sub.2⟩
    · obtain ⟨st, hst, rfl⟩ := List.mem_map.1 hL
      exact hk st hst
    · have := hc.sub.1 (x.1, x.2.feats) (by rw [List.zip_map_right]; exact List.mem_map.2 ⟨x, hx, rfl⟩)
      exact fun f hf => this.subset hf
  · obtain ⟨_, _, ⟨hc, hd, hres⟩ | ⟨hok, _⟩⟩ := paginate_spec cod p hp s h cur
    · rw [trav_fail cod p hist s cur hres]; exact travOK_failed cod p s h cur hc hd
    · exact absurd hok hcur

/-- What this adds to `Cuts.static`: `m` further fetch slots suffice (`done`); the induction carries that count. -/
theorem trav_static (cod : Codec κ C) (p : Nat) (hp : 1 ≤ p) (m : Nat) :
    ∀ (s : FS κ ν) (cur : C), WF s → (cur = cod.nil ∨ (cod.dec cur).isSome) →
      (rest (loOf cod cur) s.feats).length ≤ m * p + p →
      (trav cod p (List.replicate m []) s cur).done = true ∧
      (trav cod p (List.replicate m []) s cur).failed = false ∧
      (trav cod p (List.replicate m []) s cur).pages.flatten = rest (loOf cod cur) s.feats ∧
      (trav cod p (List.replicate m []) s cur).pages.length = pagesFor (rest (loOf cod cur) s.feats).length p := by
  induction m with
  | zero =>
    intro s cur h hcur hlen
    rcases trav_step cod p hp [] s cur h hcur with ⟨h1, e⟩ | ⟨h1, _⟩
    · simp [e, List.take_of_length_le h1, pagesFor_small _ _ hp h1]
    · omega
  | succ m ih =>
    intro s cur h hcur hlen
    rcases trav_step cod p hp ([] :: List.replicate m []) s cur h hcur with ⟨h1, e⟩ | ⟨h1, l, h2, e⟩ <;>
      rw [List.replicate_succ, e]
    · simp [List.take_of_length_le h1, pagesFor_small _ _ hp h1]
    · obtain ⟨hw', hf', _⟩ := paginate_spec cod p hp s h cur
      have hR : rest (loOf cod (cod.enc l.1)) (paginate cod p s cur).1.feats = (rest (loOf cod cur) s.feats).drop p := by
        rw [hf', loOf_enc]; exact rest_after_cut _ _ p l h.1 h2
      obtain ⟨i1, i2, i3, i4⟩ := ih (paginate cod p s cur).1 (cod.enc l.1) hw' (.inr (by simp [cod.dec_enc]))
        (by rw [hR, List.length_drop]; have : (m + 1) * p = m * p + p := Nat.succ_mul m p; omega)
      exact ⟨i1, i2, by simp only [Trav.cons, applyBatch, List.foldl_nil, List.flatten_cons, i3, hR, List.take_append_drop],
        by simp only [Trav.cons, applyBatch, List.foldl_nil, List.length_cons, i4, hR, List.length_drop, pagesFor_big _ _ hp h1]⟩

end Paginate
