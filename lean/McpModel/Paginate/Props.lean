import McpModel.Paginate.Lemmas
import McpModel.Paginate.IterLemmas
import McpModel.Paginate.Bridge
import McpModel.Paginate.ForeignLemmas
import McpModel.Generated.PaginateGen
/-!
# C17 — property theorems for keyset pagination (model: `Paginate.paginate`, `trav`, `pull`)

All theorems quantify over *every* key type with a strict total order (`KOrd`; the driver uses
byte strings, `List Nat` ordered by `ltBytes`, instance in `Model`), every value type, every cursor codec satisfying
`dec (enc k) = some k` and `enc k ≠ ""`, every page size `p ≥ 1`, every reachable server state
(`WF`, shown to hold after any sequence of add/remove/list operations: `wf_reachable`), every cursor
value and every history of mutation batches between page fetches.  Nothing is bounded.
-/
set_option linter.unusedSectionVars false
namespace Paginate
variable {κ ν C : Type} [KOrd κ] [DecidableEq κ] [DecidableEq C]

/-- What happens to one feature set of a server: registrations, removals, list requests (`stepOp`); `opOK`: a list
request has page size ≥ 1, as `NewServer` guarantees. -/
inductive Op (κ ν C : Type)
  | add (fs : List (κ × ν))
  | remove (uids : List κ)
  | list (p : Nat) (cur : C)

def stepOp (cod : Codec κ C) (s : FS κ ν) : Op κ ν C → FS κ ν
  | .add fs => s.add fs
  | .remove uids => (s.remove uids).1
  | .list p cur => (paginate cod p s cur).1

def opOK : Op κ ν C → Prop
  | .list p _ => 1 ≤ p
  | _ => True

theorem wf_stepOp (cod : Codec κ C) (s : FS κ ν) (op : Op κ ν C) (h : WF s) (hop : opOK op) : WF (stepOp cod s op) := by
  cases op with
  | add fs => exact wf_add s fs h
  | remove uids => exact wf_remove s uids h
  | list p cur => exact (paginate_spec cod p hop s h cur).1

/-- Reachability: after any sequence of registrations, removals and list requests (any page sizes
≥ 1, any cursors) the index invariant holds: the map's canonical form is ascending and `sortedKeys`,
when non-nil, is the current sorted key list — i.e. every mutation invalidated it. -/
theorem wf_reachable (cod : Codec κ C) (ops : List (Op κ ν C)) (hp : ∀ op ∈ ops, opOK op) :
    WF (ops.foldl (stepOp cod) (FS.empty : FS κ ν)) :=
  List.foldlRecOn ops _ wf_empty fun s h op ho => wf_stepOp cod s op h (hp op ho)

/-- The page size the server really uses is ≥ 1: `NewServer` panics on a negative `PageSize` and
replaces 0 by `DefaultPageSize` (regenerated constant; structural fact `paginate.pagesize_guard`). -/
theorem defaultPageSize_pos : 1 ≤ Generated.Paginate.defaultPageSize := by decide

/-- **any_cursor_total.** No cursor value — issued, stale (its key since removed), or arbitrary —
crashes a list request on a reachable state; the answer is invalid-params exactly when the cursor is
non-empty and does not decode, and otherwise it is exactly the first `p` registered entries strictly
above the decoded key (all entries for the empty cursor), with the next cursor empty iff nothing is
left and otherwise encoding the last returned key. -/
theorem any_cursor_total (cod : Codec κ C) (p : Nat) (hp : 1 ≤ p) (s : FS κ ν) (h : WF s) (cur : C) :
    (paginate cod p s cur).2 ≠ .panic ∧
    ((paginate cod p s cur).2 = .invalidParams ↔ (cur ≠ cod.nil ∧ cod.dec cur = none)) ∧
    (¬ (cur ≠ cod.nil ∧ cod.dec cur = none) →
      (paginate cod p s cur).2 = .page ((rest (loOf cod cur) s.feats).take p)
        (nextOf cod p (rest (loOf cod cur) s.feats))) := by
  obtain ⟨_, _, hspec⟩ := paginate_spec cod p hp s h cur
  rcases hspec with ⟨hc, hd, hres⟩ | ⟨hcur, hres⟩
  · refine ⟨(by rw [hres]; intro e; cases e), ⟨fun _ => ⟨hc, hd⟩, fun _ => hres⟩, fun hn => absurd ⟨hc, hd⟩ hn⟩
  · refine ⟨(by rw [hres]; intro e; cases e), ⟨?_, ?_⟩, fun _ => hres⟩
    · rw [hres]; intro e; cases e
    · rintro ⟨hc, hd⟩
      rcases hcur with h1 | h1
      · exact absurd h1 hc
      · simp [hd] at h1

/-- **malformed_cursor_invalid_params.** A non-empty cursor that does not decode is answered with
invalid params, in every state (well-formed or not), for every page size, and the registered set
is untouched. -/
theorem malformed_cursor_invalid_params (cod : Codec κ C) (p : Nat) (s : FS κ ν) (cur : C)
    (hc : cur ≠ cod.nil) (hd : cod.dec cur = none) :
    paginate cod p s cur = (s, .invalidParams) := by
  unfold paginate; simp [hc, hd]

/-- **traversal_is_sorted_keys.** For every registered set and page size `p ≥ 1`, following cursors
from the first page (no mutations; `m` fetch slots with `n ≤ (m+1)·p`) reaches the empty cursor,
never fails, the concatenated pages are exactly the registered entries — each once, ascending by key
— and the number of pages is `max 1 ⌈n/p⌉`. -/
theorem traversal_is_sorted_keys (cod : Codec κ C) (p : Nat) (hp : 1 ≤ p) (s : FS κ ν) (h : WF s)
    (m : Nat) (hm : s.feats.length ≤ m * p + p) :
    (trav cod p (List.replicate m []) s cod.nil).done = true ∧
    (trav cod p (List.replicate m []) s cod.nil).failed = false ∧
    (trav cod p (List.replicate m []) s cod.nil).pages.flatten = s.feats ∧
    Sorted (keys s.feats) ∧ (keys s.feats).Nodup ∧
    (trav cod p (List.replicate m []) s cod.nil).pages.length = pagesFor s.feats.length p := by
  have := trav_static cod p hp m s cod.nil h (Or.inl rfl) (by simpa [loOf_nil, rest] using hm)
  simp only [loOf_nil, rest] at this
  exact ⟨this.1, this.2.1, this.2.2.1, h.1, sorted_nodup h.1, this.2.2.2⟩

def Trav.items (t : Trav κ ν) : List (κ × ν) := t.pages.flatten

/-- **stable_items_exactly_once.** For every history of mutation batches (add / replace / remove, any
number, any content) interleaved between the page fetches of a traversal from the first page:
the keys received are strictly ascending overall (so no key is ever received twice, finished or not),
every received entry was registered — with that value — at the moment its page was fetched, no
fetch fails, every page has at most `p` entries, and once the empty cursor is reached every key that
was registered at every fetch of the traversal has been received exactly once. -/
theorem stable_items_exactly_once (cod : Codec κ C) (p : Nat) (hp : 1 ≤ p) (s : FS κ ν) (h : WF s)
    (hist : List (List (Mut κ ν))) :
    let t := trav cod p hist s cod.nil
    Sorted (keys t.items) ∧ (keys t.items).Nodup ∧ t.failed = false ∧
    (∀ x ∈ t.pages.zip t.states, ∀ f ∈ x.1, f ∈ x.2.feats) ∧
    (∀ pg ∈ t.pages, pg.length ≤ p) ∧
    (t.done = true → ∀ k, (∀ st ∈ t.states, k ∈ keys st.feats) → (keys t.items).count k = 1) := by
  intro t
  have ok := trav_ok cod p hp hist s cod.nil h
  refine ⟨ok.sorted, sorted_nodup ok.sorted, ok.nofail (Or.inl rfl), ok.registered, ok.pagesize, ?_⟩
  intro hd k hk
  have hmem := ok.complete hd k hk (by intro uid hu; simp [loOf_nil] at hu)
  show List.count k (keys (trav cod p hist s _).pages.flatten) = 1
  rw [(sorted_nodup ok.sorted).count]; simp [hmem]

/-- The same from an arbitrary (issued, stale or forged-but-decodable) start cursor: everything
received lies strictly above the cursor's key, ascending; stable keys above it are received once. -/
theorem stable_items_from_cursor (cod : Codec κ C) (p : Nat) (hp : 1 ≤ p) (s : FS κ ν) (h : WF s)
    (hist : List (List (Mut κ ν))) (cur : C) (uid : κ) (hcur : cur ≠ cod.nil) (hd : cod.dec cur = some uid) :
    let t := trav cod p hist s cur
    Sorted (keys t.items) ∧ t.failed = false ∧ (∀ x ∈ keys t.items, lt uid x = true) ∧
    (t.done = true → ∀ k, (∀ st ∈ t.states, k ∈ keys st.feats) → lt uid k = true →
      (keys t.items).count k = 1) := by
  intro t
  have ok := trav_ok cod p hp hist s cur h
  have hlo : loOf cod cur = some uid := by simp [loOf, hcur, hd]
  refine ⟨ok.sorted, ok.nofail (Or.inr (by simp [hd])), ok.above uid hlo, ?_⟩
  intro hdone k hk hgt
  have hmem := ok.complete hdone k hk (by intro u hu; rw [hlo] at hu; cases hu; exact hgt)
  show List.count k (keys (trav cod p hist s _).pages.flatten) = 1
  rw [(sorted_nodup ok.sorted).count]; simp [hmem]

/-- **iterator_equals_manual_paging.** Against *any* server behaviour `o` (the answer to the `i`-th
list request as a function of the cursor sent — hence any registered set, page size and mutation
history) and from any start cursor: if manual paging ends within `f` requests (empty cursor, or an
error), then the iterator run to completion hands its consumer exactly the concatenation of the
manual pages, in order, and ends the same way (normally, or by yielding the error). -/
theorem iterator_equals_manual_paging (nil : C) (o : Nat → C → Res κ ν C) (f : Nat) (cur : C)
    (hend : (manual nil o f 0 cur).2 ≠ .running) :
    ∃ steps, drain nil o steps (Iter.start cur) = ((manual nil o f 0 cur).1.flatten, (manual nil o f 0 cur).2) :=
  ⟨_, drain_owed nil o _ f (Iter.start cur) (by simpa [owed, Iter.start] using hend) (Nat.le_refl _)⟩

/-- **iterator_prefix** (consumer breaks early). After any number of pulls, what the iterator has
handed out is a prefix of what manual paging collects in `steps` requests (each pull makes at most one
request, so that many are enough to compare with). -/
theorem iterator_prefix (nil : C) (o : Nat → C → Res κ ν C) (steps : Nat) (cur : C) :
    (drain nil o steps (Iter.start cur)).1 <+: (manual nil o steps 0 cur).1.flatten := by
  simpa [owed, Iter.start] using drain_prefix nil o steps steps (Iter.start cur) (Nat.le_refl _)

/-- **iterator_on_server.** The two halves put together for the concrete server: for every mutation
history (batches applied between consecutive list requests), state, start cursor and page size, if
the manual traversal `trav` ends (empty cursor or error), the client iterator run against the same
server hands out exactly the concatenation of `trav`'s pages and ends the same way
(`trav_eq_manual` in `Bridge`: `trav` is `manual` against `serverOracle`). -/
theorem iterator_on_server (cod : Codec κ C) (p : Nat) (hist : List (List (Mut κ ν))) (s : FS κ ν) (cur : C)
    (hend : (trav cod p hist s cur).ending ≠ .running) :
    ∃ steps, drain cod.nil (serverOracle cod p hist s) steps (Iter.start cur) =
      ((trav cod p hist s cur).pages.flatten, (trav cod p hist s cur).ending) := by
  have e := trav_eq_manual cod p hist s cur
  have := iterator_equals_manual_paging cod.nil (serverOracle cod p hist s) (hist.length + 1) cur
    (by rw [e]; exact hend)
  rw [e] at this
  exact this

/-- **issued_cursor_accepted.** Whatever the registered names are (the key type is arbitrary: any
length, any bytes): when a list request on a reachable state answers with a non-empty `NextCursor`,
that cursor decodes — by the server's own `dec` — to the key of the last entry of the page, and no
later request carrying it (any reachable state, any page size ≥ 1: the entry may have been removed,
the set emptied) is refused as invalid params or crashes.  A traversal can therefore never die on a
cursor the server handed out itself. -/
theorem issued_cursor_accepted (cod : Codec κ C) (p : Nat) (hp : 1 ≤ p) (s : FS κ ν) (h : WF s) (cur : C)
    (items : List (κ × ν)) (next : C)
    (hres : (paginate cod p s cur).2 = .page items next) (hn : next ≠ cod.nil) :
    (∃ l, items.getLast? = some l ∧ cod.dec next = some l.1) ∧
    ∀ (p' : Nat), 1 ≤ p' → ∀ (s' : FS κ ν), WF s' →
      (paginate cod p' s' next).2 ≠ .invalidParams ∧ (paginate cod p' s' next).2 ≠ .panic := by
  obtain ⟨_, hinv, hpage⟩ := any_cursor_total cod p hp s h cur
  have hdec : ∃ l, items.getLast? = some l ∧ cod.dec next = some l.1 := by
    by_cases hbad : cur ≠ cod.nil ∧ cod.dec cur = none
    · have := hinv.2 hbad
      rw [this] at hres; cases hres
    · have hp' := hpage hbad
      rw [hp'] at hres
      injection hres with hi hx
      subst hi
      unfold nextOf at hx
      split at hx
      · exact absurd hx.symm hn
      · split at hx
        · rename_i l hl
          exact ⟨l, hl, by rw [← hx]; exact cod.dec_enc _⟩
        · exact absurd hx.symm hn
  refine ⟨hdec, ?_⟩
  intro p' hp' s' h'
  obtain ⟨l, _, hd⟩ := hdec
  obtain ⟨hnp, hinv', _⟩ := any_cursor_total cod p' hp' s' h' next
  refine ⟨?_, hnp⟩
  intro e
  have := (hinv'.1 e).2
  rw [hd] at this; cases this

/-- **iterator_through_filter.** `ClientSession.ListTools` drops, page by page, the tools rejected by
`filterValidTools` (`filterOracle keep`); `NextCursor` is left alone.  Against any server `o` and
from any start cursor: if manual paging of the *unfiltered* listing ends within `f` requests, the
`Tools` iterator hands out exactly the kept entries of the whole listing, in order, and ends the
same way — in particular a page on which every entry is dropped (which reaches the iterator empty,
with a cursor) does not end the iteration. -/
theorem iterator_through_filter (nil : C) (keep : κ × ν → Bool) (o : Nat → C → Res κ ν C) (f : Nat) (cur : C)
    (hend : (manual nil o f 0 cur).2 ≠ .running) :
    ∃ steps, drain nil (filterOracle keep o) steps (Iter.start cur) =
      ((manual nil o f 0 cur).1.flatten.filter keep, (manual nil o f 0 cur).2) := by
  have e := manual_filter nil keep o f 0 cur
  have := iterator_equals_manual_paging nil (filterOracle keep o) f cur (by rw [e]; exact hend)
  rw [e, flatten_map_filter] at this
  exact this

/-- **iterator_yields_whole_listing.** A foreign server may cut its listing into pages any way it
likes — empty pages at the start, in the middle, several in a row, at the end (`pagesOracle`; the
cursor is the only end-of-list signal).  For every such cut: manual paging receives exactly these
pages and ends normally; the iterator hands out every entry of every page, in order, and ends
normally; and so does the filtering iterator for the kept entries. -/
theorem iterator_yields_whole_listing (pages : List (List (κ × ν))) (hne : pages ≠ []) (keep : κ × ν → Bool) :
    manual 0 (pagesOracle pages) pages.length 0 0 = (pages, .done) ∧
    (∃ steps, drain 0 (pagesOracle pages) steps (Iter.start 0) = (pages.flatten, .done)) ∧
    (∃ steps, drain 0 (filterOracle keep (pagesOracle pages)) steps (Iter.start 0) =
      (pages.flatten.filter keep, .done)) := by
  have hlen : 0 < pages.length := List.length_pos_iff.mpr hne
  have hm := manual_pagesOracle pages pages.length 0 0 hlen (by omega)
  rw [List.drop_zero] at hm
  refine ⟨hm, ?_, ?_⟩
  · have := iterator_equals_manual_paging 0 (pagesOracle pages) pages.length 0 (by rw [hm]; intro e; cases e)
    rw [hm] at this; exact this
  · have := iterator_through_filter 0 keep (pagesOracle pages) pages.length 0 (by rw [hm]; intro e; cases e)
    rw [hm] at this; exact this

/-- **readonly_ops_preserve_listing.** A read-only request (`resources/read`, `tools/call`, `prompts/get`,
…) at most (re)builds the sorted index of a feature set (`lookupResourceHandler` walks
`resourceTemplates.all()`): the index invariant is kept, nothing registered changes, and EVERY later
list request — any page size ≥ 1, any cursor — is answered exactly as it would have been without it.
(The code side: structural fact `paginate.sortedKeys_uses` — no function lets the index escape or
re-sorts it.) -/
theorem readonly_ops_preserve_listing (cod : Codec κ C) (s : FS κ ν) (h : WF s) :
    WF s.sortKeys ∧ s.sortKeys.feats = s.feats ∧
    ∀ (p : Nat), 1 ≤ p → ∀ cur, (paginate cod p s.sortKeys cur).2 = (paginate cod p s cur).2 := by
  obtain ⟨w1, w2, _⟩ := wf_sortKeys s h
  refine ⟨w1, w2, ?_⟩
  intro p hp cur
  obtain ⟨_, _, h1⟩ := paginate_spec cod p hp s h cur
  obtain ⟨_, _, h2⟩ := paginate_spec cod p hp s.sortKeys w1 cur
  rw [w2] at h2
  rcases h1 with ⟨a1, a2, e1⟩ | ⟨a1, e1⟩ <;> rcases h2 with ⟨b1, b2, e2⟩ | ⟨b1, e2⟩
  · rw [e1, e2]
  · exfalso; rcases b1 with b | b
    · exact a1 b
    · rw [a2] at b; cases b
  · exfalso; rcases a1 with a | a
    · exact b1 a
    · rw [b2] at a; cases a
  · rw [e1, e2]

instance : KOrd Nat where
  lt a b := decide (a < b)
  irrefl a := by simp
  trans := by intro a b c h1 h2; simp at *; omega
  tri := by intro a b h1 h2; simp at *; omega

def natCodec : Codec Nat Nat where
  nil := 0
  enc k := k + 1
  dec c := if c = 0 then none else some (c - 1)
  dec_enc k := by simp
  enc_ne_nil k := by simp

/-- Five entries, page size 2: three pages, all entries once in order. -/
example : (trav natCodec 2 (List.replicate 3 [])
    ((FS.empty : FS Nat Nat).add [(5, 50), (1, 10), (3, 30), (2, 20), (4, 40)]) 0).pages
    = [[(1, 10), (2, 20)], [(3, 30), (4, 40)], [(5, 50)]] := by decide +kernel

/-- With mutations between fetches (remove an already-seen key, add a key below the cursor and one
above it): the stable keys 2,3,5 come exactly once; the late key 0 is missed, the late key 4 is seen. -/
example : (trav natCodec 2 [[.remove [1], .add [(0, 0), (4, 40)]], [], []]
    ((FS.empty : FS Nat Nat).add [(5, 50), (1, 10), (3, 30), (2, 20)]) 0).pages
    = [[(1, 10), (2, 20)], [(3, 30), (4, 40)], [(5, 50)]] := by decide +kernel

/-- A foreign listing `[a b] / [] / [c] / [d]`: the iterator walks past the empty page. -/
example : drain 0 (pagesOracle [[(1, 10), (2, 20)], [], [(3, 30)], [(4, 40)]]) 8 (Iter.start 0)
    = ([(1, 10), (2, 20), (3, 30), (4, 40)], .done) := by decide +kernel

/-- `ListTools` drops every tool of the first page (odd keys): the later pages are still yielded. -/
example : drain 0 (filterOracle (fun f => f.1 % 2 == 0) (pagesOracle [[(1, 10), (3, 30)], [(2, 20), (4, 40)]])) 5
    (Iter.start 0) = ([(2, 20), (4, 40)], .done) := by decide +kernel

/-- Long names as the last entry of non-final pages: their cursors are accepted on the next request. -/
example : (trav natCodec 1 (List.replicate 3 [])
    ((FS.empty : FS Nat Nat).add [(7, 70), (123456789012345678901234567890, 1), (123456789012345678901234567891, 2)]) 0).pages
    = [[(7, 70)], [(123456789012345678901234567890, 1)], [(123456789012345678901234567891, 2)]] := by decide +kernel

end Paginate
