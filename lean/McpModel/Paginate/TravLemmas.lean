import McpModel.Paginate.MonLemmas
/-!
E13 (C17): what a traversal that follows cursors receives when every answer is the page the property demands (`Conform`),
at the level of the monitor's data, with the registry changing arbitrarily between the fetches: the keys received are
strictly ascending and above the start cursor (`trav_sorted`); once the empty cursor is reached every key registered at
every fetch was received (`trav_complete`); with one registry throughout they are exactly the listing, in `max 1 ⌈n/p⌉`
pages (`trav_static_spec`).  Such a chain of fetches is a chain of cuts of the listings `sortReg f.reg` (`cuts_of_chain`),
so all three are read off `Cuts`; consequently `monTend` reports nothing on it (`monTend_conform`).
-/
namespace Paginate

/-- The answer is the one the property demands for this registry and cursor. -/
def Conform (p : Nat) (f : Fetch) : Prop := RegOK f.reg ∧ f.obs = LObs.ofRes (specPage f.reg p f.cur)

/-- `Above (loC c) k` in the monitor's types. -/
def AboveK (c : DCur) (k : K) : Prop := ∀ u, loC c = some u → lt u k = true

theorem conform_cut {p : Nat} (hp : 1 ≤ p) {f : Fetch} {items : List Item} {n : DCur} (hc : Conform p f)
    (ho : f.obs = .page items n) :
    items = (rest (loC f.cur) (sortReg f.reg)).take p ∧
    ((n = .nil ∧ (rest (loC f.cur) (sortReg f.reg)).length ≤ p) ∨
     (p < (rest (loC f.cur) (sortReg f.reg)).length ∧
      ∃ l, ((rest (loC f.cur) (sortReg f.reg)).take p).getLast? = some l ∧ n = .good l.1)) := by
  have hpg := hc.2
  have hb : f.cur ≠ .bad := by
    intro e
    rw [e, ho] at hpg
    cases hpg
  rw [ho, specPage_eq _ _ _ hb] at hpg
  injection hpg with h1 h2
  refine ⟨h1, ?_⟩
  rcases nextOf_cases dcodec p hp (rest (loC f.cur) (sortReg f.reg)) with ⟨h3, h4⟩ | ⟨h3, l, h4, h5⟩
  · exact .inl ⟨by rw [h2, h4]; rfl, h3⟩
  · exact .inr ⟨h3, l, h4, by rw [h2, h5]; rfl⟩

theorem fetch_keys_of_page {f : Fetch} {items : List Item} {n : DCur} (h : f.obs = .page items n) :
    f.keys = keys items := by
  simp [Fetch.keys, h, keys]

theorem travItems_cons (f : Fetch) (r : List Fetch) : travItems (f :: r) = f.keys ++ travItems r := by
  simp [travItems]

theorem strictlyAscending_iff : ∀ (l : List K), strictlyAscending l = true ↔ Sorted l
  | [] => by simp [strictlyAscending, Sorted]
  | [a] => by simp [strictlyAscending, Sorted]
  | a :: b :: r => by
    have ih := strictlyAscending_iff (b :: r)
    simp only [strictlyAscending, Bool.and_eq_true, ih]
    unfold Sorted
    constructor
    · rintro ⟨h1, h2⟩
      refine List.pairwise_cons.2 ⟨?_, h2⟩
      intro y hy
      rcases List.mem_cons.1 hy with e | hy
      · rw [e]; exact h1
      · exact KOrd.trans h1 ((List.pairwise_cons.1 h2).1 y hy)
    · intro h
      have := List.pairwise_cons.1 h
      exact ⟨this.1 b (by simp), this.2⟩

theorem chain_cons_cons {c : DCur} {f g : Fetch} {r : List Fetch} (h : chain c (f :: g :: r) = true) :
    f.cur = c ∧ ∃ items n, f.obs = .page items n ∧ n ≠ .nil ∧ chain n (g :: r) = true := by
  simp only [chain, Bool.and_eq_true, beq_iff_eq] at h
  refine ⟨h.1, ?_⟩
  cases ho : f.obs with
  | page items n =>
    rw [ho] at h
    simp only [Bool.and_eq_true, bne_iff_ne, ne_eq] at h
    exact ⟨items, n, rfl, h.2.1, h.2.2⟩
  | invalid => rw [ho] at h; simp at h
  | other => rw [ho] at h; simp at h

theorem chain_head {c : DCur} {f : Fetch} {r : List Fetch} (h : chain c (f :: r) = true) : f.cur = c := by
  cases r with
  | nil => simpa [chain] using h
  | cons g r => exact (chain_cons_cons h).1

theorem travFinished_cons_cons (f g : Fetch) (r : List Fetch) :
    travFinished (f :: g :: r) = travFinished (g :: r) := by
  simp [travFinished, List.getLast?_cons_cons]

theorem isPage_of_finished {fs : List Fetch} (hf : travFinished fs = true) : ∀ f, fs.getLast? = some f → f.isPage = true := by
  intro f hl
  simp only [travFinished, hl] at hf
  simp only [Fetch.isPage]
  split <;> simp_all

theorem ne_nil_of_finished {fs : List Fetch} (hf : travFinished fs = true) : fs ≠ [] := by
  rintro rfl; simp [travFinished] at hf

theorem cuts_of_chain {p : Nat} (hp : 1 ≤ p) : ∀ (fs : List Fetch) (c : DCur),
    (∀ f ∈ fs, Conform p f) → (∀ f, fs.getLast? = some f → f.isPage = true) → chain c fs = true → fs ≠ [] →
    ∃ pgs, Cuts p (loC c) (fs.map (fun f => sortReg f.reg)) pgs (travFinished fs) ∧ keys pgs.flatten = travItems fs ∧
      pgs.length = fs.length
  | [], _, _, _, _, h => absurd rfl h
  | [f], c, hc, hl, hch, _ => by
    have hcf := hc f (by simp)
    cases chain_head hch
    cases ho : f.obs with
    | page items n =>
      obtain ⟨rfl, hn⟩ := conform_cut hp hcf ho
      refine ⟨[(rest (loC f.cur) (sortReg f.reg)).take p], .last (sorted_sortReg _ hcf.1) (fun hd => ?_), ?_, rfl⟩
      · rcases hn with ⟨_, h⟩ | ⟨_, l, _, rfl⟩
        · exact h
        · simp [travFinished, ho] at hd
      · simp [travItems, fetch_keys_of_page ho]
    | invalid => have := hl f rfl; simp [Fetch.isPage, ho] at this
    | other => have := hl f rfl; simp [Fetch.isPage, ho] at this
  | f :: g :: r, c, hc, hl, hch, _ => by
    obtain ⟨rfl, items, n, ho, hn, hch'⟩ := chain_cons_cons hch
    have hcf := hc f (by simp)
    obtain ⟨rfl, ⟨rfl, _⟩ | ⟨hlen, l, hl', rfl⟩⟩ := conform_cut hp hcf ho
    · exact absurd rfl hn
    obtain ⟨pgs, h1, h2, h3⟩ := cuts_of_chain hp (g :: r) _ (fun x hx => hc x (List.mem_cons_of_mem _ hx))
      (by simpa using hl) hch' (by simp)
    refine ⟨(rest (loC f.cur) (sortReg f.reg)).take p :: pgs, ?_, ?_, by simp [h3]⟩
    · rw [travFinished_cons_cons]; exact .more (sorted_sortReg _ hcf.1) hlen hl' h1
    · rw [travItems_cons, fetch_keys_of_page ho, List.flatten_cons, keys_append, h2]

theorem trav_sorted {p : Nat} (hp : 1 ≤ p) : ∀ (fs : List Fetch) (c : DCur),
    (∀ f ∈ fs, Conform p f) → fs.all Fetch.isPage = true → chain c fs = true →
    Sorted (travItems fs) ∧ ∀ k ∈ travItems fs, AboveK c k := by
  intro fs c hc hpg hch
  by_cases hne : fs = []
  · subst hne; simp [travItems, Sorted]
  · obtain ⟨pgs, h, e, _⟩ := cuts_of_chain hp fs c hc
      (fun f hl => List.all_eq_true.1 hpg f (List.mem_of_getLast? hl)) hch hne
    rw [← e]; exact h.sorted

theorem trav_complete {p : Nat} (hp : 1 ≤ p) : ∀ (fs : List Fetch) (c : DCur),
    (∀ f ∈ fs, Conform p f) → chain c fs = true → travFinished fs = true →
    ∀ k, (∀ f ∈ fs, k ∈ f.regKeys) → AboveK c k → k ∈ travItems fs := by
  intro fs c hc hch hf k hk hab
  obtain ⟨pgs, h, e, _⟩ := cuts_of_chain hp fs c hc (isPage_of_finished hf) hch (ne_nil_of_finished hf)
  rw [← e]
  refine h.complete hf (fun L hL => ?_) hab
  obtain ⟨f, hfm, rfl⟩ := List.mem_map.1 hL
  exact (mem_keys_sortReg _ _).2 (hk f hfm)

theorem pagesFor'_eq (n p : Nat) : pagesFor' n p = pagesFor n p := rfl

theorem trav_static_spec {p : Nat} (hp : 1 ≤ p) (reg : List Item) (hr : RegOK reg) : ∀ (fs : List Fetch) (c : DCur),
    (∀ f ∈ fs, Conform p f) → (∀ f ∈ fs, f.reg = reg) → chain c fs = true → travFinished fs = true →
    travItems fs = keys (rest (loC c) (sortReg reg)) ∧
    fs.length = pagesFor' (rest (loC c) (sortReg reg)).length p := by
  intro fs c hc hreg hch hf
  obtain ⟨pgs, h, e, el⟩ := cuts_of_chain hp fs c hc (isPage_of_finished hf) hch (ne_nil_of_finished hf)
  obtain ⟨s1, s2⟩ := h.static hp hf (L0 := sortReg reg) fun L hL => by
    obtain ⟨f, hfm, rfl⟩ := List.mem_map.1 hL
    rw [hreg f hfm]
  exact ⟨by rw [← e, s1], by rw [← el, s2, pagesFor'_eq]⟩

theorem mem_travStable : ∀ (fs : List Fetch) (k : K), k ∈ travStable fs → ∀ f ∈ fs, k ∈ f.regKeys
  | [], _, h, _, _ => by simp [travStable] at h
  | f :: r, k, h, x, hx => by
    simp only [travStable, List.mem_filter, List.all_eq_true, List.contains_iff_mem] at h
    rcases List.mem_cons.1 hx with e | hx
    · rw [e]; exact h.1
    · exact h.2 x hx

theorem travStable_of_mem : ∀ (fs : List Fetch) (k : K), fs ≠ [] → (∀ f ∈ fs, k ∈ f.regKeys) → k ∈ travStable fs
  | [], _, h, _ => absurd rfl h
  | f :: r, k, _, h => by
    simp only [travStable, List.mem_filter, List.all_eq_true, List.contains_iff_mem]
    exact ⟨h f (by simp), fun x hx => h x (List.mem_cons_of_mem _ hx)⟩

/-- (`hm`: `t.mutated = false` only if the registry was the same at every fetch.) -/
theorem monTend_conform {p : Nat} (hp : 1 ≤ p) (t : TravMon) (hc : ∀ f ∈ t.fetches, Conform p f)
    (hm : t.mutated = false → ∀ f ∈ t.fetches, f.reg = travFirst t.fetches) : monTend t p = none := by
  unfold monTend
  by_cases h1 : t.fetches.all Fetch.isPage = true
  · by_cases h2 : chain .nil t.fetches = true
    · have hs := trav_sorted hp t.fetches .nil hc h1 h2
      have e3 : strictlyAscending (travItems t.fetches) = true := (strictlyAscending_iff _).2 hs.1
      simp only [h1, h2, e3, Bool.not_true, Bool.false_eq_true, if_false]
      by_cases hf : travFinished t.fetches = true
      · have hcomp := trav_complete hp t.fetches .nil hc h2 hf
        have e4 : (travStable t.fetches).all (fun k => (travItems t.fetches).contains k) = true := by
          rw [List.all_eq_true]
          intro k hk
          rw [List.contains_iff_mem]
          exact hcomp k (mem_travStable _ k hk) (by intro u hu; simp [loC] at hu)
        simp only [hf, e4, Bool.not_true, Bool.and_false, Bool.false_eq_true, if_false, Bool.true_and]
        cases hmu : t.mutated with
        | true => simp
        | false =>
          have hregs := hm hmu
          have hne : t.fetches ≠ [] := by intro e; rw [e] at hf; simp [travFinished] at hf
          have hfirst : RegOK (travFirst t.fetches) := by
            cases hfs : t.fetches with
            | nil => exact absurd hfs hne
            | cons f r => simp only [travFirst]; exact (hc f (by rw [hfs]; simp)).1
          obtain ⟨s1, s2⟩ := trav_static_spec hp (travFirst t.fetches) hfirst t.fetches .nil hc hregs h2 hf
          simp only [loC, rest] at s1 s2
          rw [length_sortReg] at s2
          have e5 : (travItems t.fetches != (sortReg (travFirst t.fetches)).map (·.1)) = false := by
            rw [s1]; simp [keys]
          have e6 : (t.fetches.length != pagesFor' (travFirst t.fetches).length p) = false := by
            rw [← s2]; simp
          simp [e5, e6]
      · have hf' : travFinished t.fetches = false := by simpa using hf
        simp [hf']
    · have : chain .nil t.fetches = false := by simpa using h2
      simp [h1, this]
  · have : t.fetches.all Fetch.isPage = false := by simpa using h1
    simp [this]

end Paginate
