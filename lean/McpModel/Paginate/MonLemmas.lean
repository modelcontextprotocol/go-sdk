import McpModel.Paginate.Monitor
import McpModel.Paginate.Lemmas
/-!
E13 (C17): the monitor's registry keeps one entry per key, `sortReg` is THE ascending listing of it (`sorted_ext`: there
is only one), and `specPage` is "the first `p` entries of the listing above the cursor" in the vocabulary of Lemmas.lean
(`rest`, `nextOf`).  "The page the property demands" has three vocabularies: `rest`/`nextOf`/`loOf` (Lemmas.lean, any key
type), `specRest`/`specItems`/`specNext`/`loC` (the monitor), `Listing`/`IsPage`/`NextOk` (Sound.lean, the property's words);
the links are `specRest_eq`, `specNext_eq`, `specPage_eq`, `loC_eq` here and `isPage_iff`, `nextOk_iff` in Sound.lean.
-/
namespace Paginate

/-- One entry per key. -/
def RegOK (reg : List Item) : Prop := (keys reg).Nodup

theorem regOK_nil : RegOK [] := by simp [RegOK]

theorem sorted_head_min {κ ν : Type} [KOrd κ] {f : κ × ν} {l : List (κ × ν)} (h : Sorted (keys (f :: l))) :
    ∀ x ∈ l, lt f.1 x.1 = true := by
  intro x hx
  simp only [keys_cons, Sorted, List.pairwise_cons] at h
  exact h.1 x.1 (List.mem_map.2 ⟨x, hx, rfl⟩)

/-- Ascending lists have no entry twice, so two with the same entries are permutations of each other, and
an order admits only one ascending arrangement. -/
theorem sorted_ext {κ ν : Type} [KOrd κ] [DecidableEq κ] (a b : List (κ × ν)) (ha : Sorted (keys a)) (hb : Sorted (keys b))
    (h : ∀ x, x ∈ a ↔ x ∈ b) : a = b := by
  have pw : ∀ {l : List (κ × ν)}, Sorted (keys l) → l.Pairwise (fun x y => lt x.1 y.1 = true) := List.pairwise_map.1
  have nd : ∀ {l : List (κ × ν)}, Sorted (keys l) → l.Nodup := fun hl =>
    (pw hl).imp fun {x y} hxy e => lt_ne hxy (congrArg Prod.fst e)
  exact List.Perm.eq_of_pairwise (le := fun x y => lt x.1 y.1 = true)
    (fun x y _ _ h1 h2 => by rw [lt_asymm h1] at h2; cases h2) (pw ha) (pw hb)
    ((List.perm_ext_iff_of_nodup (nd ha) (nd hb)).2 h)

theorem mem_insSorted (f : Item) (l : List Item) (x : Item) : x ∈ insSorted f l ↔ x = f ∨ x ∈ l := by
  induction l with
  | nil => simp [insSorted]
  | cons g r ih =>
    simp only [insSorted]
    split
    · simp
    · simp only [List.mem_cons, ih]
      constructor
      · rintro (h | h | h) <;> simp [h]
      · rintro (h | h | h) <;> simp [h]

theorem length_insSorted (f : Item) (l : List Item) : (insSorted f l).length = l.length + 1 := by
  induction l with
  | nil => simp [insSorted]
  | cons g r ih =>
    simp only [insSorted]
    split <;> simp [ih]

theorem sorted_insSorted (f : Item) (l : List Item) (h : Sorted (keys l)) (hf : f.1 ∉ keys l) :
    Sorted (keys (insSorted f l)) := by
  induction l with
  | nil => simp [insSorted, Sorted]
  | cons g r ih =>
    have hgr := sorted_head_min h
    have hr : Sorted (keys r) := by
      simp only [keys_cons, Sorted, List.pairwise_cons] at h; exact h.2
    simp only [insSorted]
    split
    · rename_i hlt
      show List.Pairwise _ (f.1 :: keys (g :: r))
      refine List.pairwise_cons.2 ⟨?_, h⟩
      intro y hy
      rcases List.mem_cons.1 hy with e | hy
      · rw [e]; exact hlt
      · obtain ⟨z, hz, rfl⟩ := List.mem_map.1 hy
        exact KOrd.trans hlt (hgr z hz)
    · rename_i hlt
      have hne : f.1 ≠ g.1 := by intro e; apply hf; simp [e]
      have hgf : lt g.1 f.1 = true := by
        cases hc : lt g.1 f.1 with
        | true => rfl
        | false =>
          exact absurd (KOrd.tri (Bool.eq_false_iff.2 hlt) hc) hne
      have hf' : f.1 ∉ keys r := by intro hm; apply hf; simp [hm]
      have IH := ih hr hf'
      show List.Pairwise _ (g.1 :: keys (insSorted f r))
      refine List.pairwise_cons.2 ⟨?_, IH⟩
      intro y hy
      obtain ⟨z, hz, rfl⟩ := List.mem_map.1 hy
      rcases (mem_insSorted f r z).1 hz with e | hz
      · rw [e]; exact hgf
      · exact hgr z hz

theorem mem_sortReg (reg : List Item) (x : Item) : x ∈ sortReg reg ↔ x ∈ reg := by
  induction reg with
  | nil => simp [sortReg]
  | cons f r ih =>
    have : sortReg (f :: r) = insSorted f (sortReg r) := rfl
    rw [this, mem_insSorted, ih]; simp

theorem length_sortReg (reg : List Item) : (sortReg reg).length = reg.length := by
  induction reg with
  | nil => simp [sortReg]
  | cons f r ih =>
    have : sortReg (f :: r) = insSorted f (sortReg r) := rfl
    rw [this, length_insSorted, ih]; simp

theorem mem_keys_sortReg (reg : List Item) (k : K) : k ∈ keys (sortReg reg) ↔ k ∈ keys reg := by
  simp only [keys, List.mem_map]
  constructor
  · rintro ⟨x, hx, rfl⟩; exact ⟨x, (mem_sortReg reg x).1 hx, rfl⟩
  · rintro ⟨x, hx, rfl⟩; exact ⟨x, (mem_sortReg reg x).2 hx, rfl⟩

theorem sorted_sortReg (reg : List Item) (h : RegOK reg) : Sorted (keys (sortReg reg)) := by
  induction reg with
  | nil => simp [sortReg, Sorted]
  | cons f r ih =>
    have e : sortReg (f :: r) = insSorted f (sortReg r) := rfl
    simp only [RegOK, keys_cons, List.nodup_cons] at h
    rw [e]
    apply sorted_insSorted f _ (ih h.2)
    rw [mem_keys_sortReg]; exact h.1

theorem sortReg_unique (reg L : List Item) (h : RegOK reg) (hs : Sorted (keys L)) (hm : ∀ x, x ∈ L ↔ x ∈ reg) :
    L = sortReg reg :=
  sorted_ext L (sortReg reg) hs (sorted_sortReg reg h) (fun x => by rw [hm, mem_sortReg])

theorem mem_regAdd (reg : List Item) (f x : Item) : x ∈ regAdd reg f ↔ (x ∈ reg ∧ x.1 ≠ f.1) ∨ x = f := by
  simp [regAdd, List.mem_filter]

theorem regOK_regAdd (reg : List Item) (f : Item) (h : RegOK reg) : RegOK (regAdd reg f) := by
  unfold RegOK regAdd at *
  rw [keys_append, List.nodup_append]
  refine ⟨(h.sublist ((List.filter_sublist (l := reg)).map _)), by simp [keys], ?_⟩
  intro a ha b hb
  simp only [keys, List.map_cons, List.map_nil, List.mem_singleton] at hb
  subst hb
  obtain ⟨z, hz, rfl⟩ := List.mem_map.1 ha
  simpa using (List.mem_filter.1 hz).2

theorem regOK_foldl_regAdd (fs : List Item) (reg : List Item) (h : RegOK reg) : RegOK (fs.foldl regAdd reg) :=
  List.foldlRecOn fs regAdd h fun reg hr f _ => regOK_regAdd reg f hr

theorem regOK_regRemove (reg : List Item) (ks : List K) (h : RegOK reg) : RegOK (regRemove reg ks) := by
  unfold RegOK regRemove at *
  exact h.sublist ((List.filter_sublist (l := reg)).map _)

/-- The lower bound a cursor stands for. -/
def loC : DCur → Option K
  | .good u => some u
  | _ => none

theorem loC_eq (cur : DCur) : loC cur = loOf dcodec cur := by
  cases cur <;> simp [loC, loOf, dcodec]

theorem specRest_eq (reg : List Item) (cur : DCur) : specRest reg cur = rest (loC cur) (sortReg reg) := by
  cases cur <;> simp [specRest, above, rest, loC] <;> rfl

theorem specNext_eq (reg : List Item) (p : Nat) (cur : DCur) :
    specNext reg p cur = nextOf dcodec p (rest (loC cur) (sortReg reg)) := by
  simp only [specNext, specItems, specRest_eq, nextOf, dcodec]
  split
  · rfl
  · cases (List.take p (rest (loC cur) (sortReg reg))).getLast? <;> rfl

theorem specPage_page (reg : List Item) (p : Nat) {cur : DCur} (h : cur ≠ .bad) :
    specPage reg p cur = .page (specItems reg p cur) (specNext reg p cur) := by
  cases cur <;> first | rfl | exact absurd rfl h

theorem specPage_eq (reg : List Item) (p : Nat) (cur : DCur) (h : cur ≠ .bad) :
    specPage reg p cur = .page ((rest (loC cur) (sortReg reg)).take p) (nextOf dcodec p (rest (loC cur) (sortReg reg))) := by
  rw [specPage_page reg p h, specItems, specRest_eq, specNext_eq]

@[simp] theorem MState.get_set_same (s : MState) (kind : Kind) (k : MKind) : (s.set kind k).get kind = k := by
  cases kind <;> rfl

theorem MState.get_set_other (s : MState) {kind kind' : Kind} (k : MKind) (h : kind' ≠ kind) :
    (s.set kind k).get kind' = s.get kind' := by
  cases kind <;> cases kind' <;> first | rfl | exact absurd rfl h

theorem MState.get_set (s : MState) (k0 kind : Kind) (k : MKind) :
    (s.set k0 k).get kind = if k0 = kind then k else s.get kind := by
  cases k0 <;> cases kind <;> rfl

@[simp] theorem MState.p_set (s : MState) (kind : Kind) (k : MKind) : (s.set kind k).p = s.p := by
  cases kind <;> rfl

theorem MState.set_get_self (s : MState) (kind : Kind) : s.set kind (s.get kind) = s := by
  cases kind <;> rfl

theorem pageSizeOf_pos (n : Nat) : 1 ≤ pageSizeOf n := by
  unfold pageSizeOf
  split
  · decide
  · rename_i h; simp at h; omega

end Paginate
