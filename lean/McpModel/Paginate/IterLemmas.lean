import McpModel.Paginate.Model
/-!
E13 (C17): the client iterator (`paginate` in client.go, as the pull machine `Iter`/`pull`) against
manual paging, over an arbitrary server `o`.
-/
namespace Paginate
variable {κ ν C : Type} [DecidableEq C]

theorem drain_item (nil : C) (o : Nat → C → Res κ ν C) (n : Nat) (it it' : Iter κ ν C) (x : κ × ν)
    (h : pull nil o it = (it', .item x)) :
    drain nil o (n + 1) it = (x :: (drain nil o n it').1, (drain nil o n it').2) := by
  simp [drain, h]

theorem drain_again (nil : C) (o : Nat → C → Res κ ν C) (n : Nat) (it it' : Iter κ ν C)
    (h : pull nil o it = (it', .again)) : drain nil o (n + 1) it = drain nil o n it' := by
  simp [drain, h]

theorem drain_stop (nil : C) (o : Nat → C → Res κ ν C) (n : Nat) (it it' : Iter κ ν C)
    (h : pull nil o it = (it', .stop)) : drain nil o (n + 1) it = ([], .done) := by
  simp [drain, h]

theorem drain_err (nil : C) (o : Nat → C → Res κ ν C) (n : Nat) (it it' : Iter κ ν C)
    (h : pull nil o it = (it', .err)) : drain nil o (n + 1) it = ([], .error) := by
  simp [drain, h]

/-- What the iterator still owes its consumer and how it will end, by manual paging with `f` requests.  One `pull` takes
the head off it or spends a request (`owed_pull`); the theorems about `drain` are inductions over that.  `owed_pull` needs to know that a request it spends is among the
`f`: either what is owed is known to end (then `f` was enough) or `0 < f`. -/
def owed (nil : C) (o : Nat → C → Res κ ν C) (f : Nat) (it : Iter κ ν C) : List (κ × ν) × Ending :=
  if it.fin then ([], .done)
  else if it.started ∧ it.next = nil then (it.buf, .done)
  else (it.buf ++ (manual nil o f it.n it.next).1.flatten, (manual nil o f it.n it.next).2)

theorem owed_pull (nil : C) (o : Nat → C → Res κ ν C) (f : Nat) (it : Iter κ ν C) (hfin : it.fin = false)
    (hf : (owed nil o f it).2 ≠ .running ∨ 0 < f) :
    match pull nil o it with
    | (it', .item x) => ∃ f', f ≤ f' + 1 ∧ f' ≤ f ∧ owed nil o f it = (x :: (owed nil o f' it').1, (owed nil o f' it').2)
    | (it', .again) => ∃ f', f = f' + 1 ∧ owed nil o f it = owed nil o f' it'
    | (_, .stop) => owed nil o f it = ([], .done)
    | (_, .err) => owed nil o f it = ([], .error) := by
  obtain ⟨buf, next, started, k, fin⟩ := it
  cases hfin
  cases buf with
  | cons x r =>
    refine ⟨f, by omega, Nat.le_refl _, ?_⟩
    simp only [owed, Bool.false_eq_true, if_false]
    split <;> rfl
  | nil =>
    by_cases hc : started = true ∧ next = nil
    · simp [pull, owed, hc]
    · cases f with
      | zero => simp [owed, hc, manual] at hf
      | succ f =>
        simp only [pull, owed, hc, Bool.false_eq_true, if_false, manual, List.nil_append]
        cases o k next with
        | invalidParams => rfl
        | panic => rfl
        | page items nx =>
          cases items with
          | cons x r =>
            refine ⟨f, by omega, by omega, ?_⟩
            by_cases hn : nx = nil <;> simp [hn]
          | nil =>
            by_cases hn : nx = nil
            · simp [hn]
            · simp only [hn, if_false]
              exact ⟨f, rfl, by simp⟩

/-- The bound: one pull per element, one per request, one for the end. -/
theorem drain_owed (nil : C) (o : Nat → C → Res κ ν C) : ∀ (steps f : Nat) (it : Iter κ ν C),
    (owed nil o f it).2 ≠ .running → (owed nil o f it).1.length + f + 1 ≤ steps →
    drain nil o steps it = owed nil o f it
  | 0, _, _, _, h => by omega
  | n + 1, f, it, hrun, hle => by
    cases hfin : it.fin with
    | true => simp [drain, pull, owed, hfin]
    | false =>
      have hp := owed_pull nil o f it hfin (.inl hrun)
      cases h : pull nil o it with
      | mk it' ev =>
        rw [h] at hp
        cases ev with
        | item x =>
          obtain ⟨f', _, _, e⟩ := hp
          rw [e] at hrun hle ⊢
          rw [drain_item nil o n it it' x h, drain_owed nil o n f' it' hrun (by simp only [List.length_cons] at hle; omega)]
        | again =>
          obtain ⟨f', rfl, e⟩ := hp
          rw [e] at hrun hle ⊢
          rw [drain_again nil o n it it' h, drain_owed nil o n f' it' hrun (by omega)]
        | stop => rw [drain_stop nil o n it it' h, hp]
        | err => rw [drain_err nil o n it it' h, hp]

/-- Each pull makes at most one request, so `steps` requests of manual paging suffice. -/
theorem drain_prefix (nil : C) (o : Nat → C → Res κ ν C) : ∀ (steps f : Nat) (it : Iter κ ν C), steps ≤ f →
    (drain nil o steps it).1 <+: (owed nil o f it).1
  | 0, _, _, _ => by simp [drain]
  | n + 1, f, it, hle => by
    cases hfin : it.fin with
    | true => simp [drain, pull, hfin]
    | false =>
      have hp := owed_pull nil o f it hfin (.inr (by omega))
      cases h : pull nil o it with
      | mk it' ev =>
        rw [h] at hp
        cases ev with
        | item x =>
          obtain ⟨f', _, _, e⟩ := hp
          rw [e, drain_item nil o n it it' x h]
          exact List.cons_prefix_cons.2 ⟨rfl, drain_prefix nil o n f' it' (by omega)⟩
        | again =>
          obtain ⟨f', rfl, e⟩ := hp
          rw [e, drain_again nil o n it it' h]
          exact drain_prefix nil o n f' it' (by omega)
        | stop => rw [drain_stop nil o n it it' h]; exact List.nil_prefix
        | err => rw [drain_err nil o n it it' h]; exact List.nil_prefix

theorem manual_flatten_le {κ ν C : Type} [DecidableEq C] (nil : C) (o : Nat → C → Res κ ν C) (M : Nat)
    (hM : ∀ i c items n, o i c = .page items n → items.length ≤ M) : ∀ (f i : Nat) (cur : C),
    (manual nil o f i cur).1.flatten.length ≤ f * M
  | 0, _, _ => by simp [manual]
  | f + 1, i, cur => by
    cases ho : o i cur with
    | page items next =>
      have h1 := hM i cur items next ho
      have e : (f + 1) * M = f * M + M := Nat.succ_mul f M
      by_cases hn : next = nil
      · simp only [manual, ho, hn, if_true, List.flatten_cons, List.flatten_nil, List.append_nil]
        omega
      · have ih := manual_flatten_le nil o M hM f (i + 1) next
        simp only [manual, ho, hn, if_false, List.flatten_cons, List.length_append]
        omega
    | invalidParams => simp [manual, ho]
    | panic => simp [manual, ho]

end Paginate
