/-
Typed monitor of the session-level stream `sess` (two REAL sessions; zz_verif_sesslevel_test.go), part 1:
the lifecycle clauses of C05 — "closes the transport only after running handlers have returned",
"the session is removed from its Client or Server", onClose exactly once, both halves of an
IOTransport closed.  The Go harness only RECORDS the counters below (`SessObs`, printed as `k=v`
tokens after `##` in the observation field); the clauses are decided here.  Core Lean only (linked
into drv_conn).  Theorems: `SessClose/MonitorProps.lean`.

The per-call clauses of C01/C04, the wire clauses of C02 and the order clauses of C03 are decided by the other two
parts of this monitor (`SessClose/Calls.lean`, `SessClose/Wire.lean`); the Go harness itself judges the `setup`
verdicts, a transport Write that failed without an injected fault, hangs and their classification, goroutine leaks and
panics (its verdict text travels before `##`), and computes the classifications the clauses here take as inputs
(`disturbed`, `lateExempt`, `reason`).
-/
namespace SessMon

inductive Side where | client | server
deriving DecidableEq, Repr, Inhabited

def Side.name : Side → String
  | .client => "client" | .server => "server"
def Side.sess : Side → String
  | .client => "ClientSession" | .server => "ServerSession"

/-- What the harness counted for one side of the case. -/
structure SideObs where
  connected : Bool := false      -- the side's transport was connected at all
  tc : Nat := 0                  -- Close calls on the side's transport (the fault-injecting wrapper counts them)
  runAtClose : Nat := 0          -- max over those Close calls, of the side's user handlers still running at the call, counting only calls made while the transport had not failed
  rc : Nat := 0                  -- IOTransport: Close calls on the Reader half the user handed in
  wc : Nat := 0                  -- IOTransport: Close calls on the Writer half
  onClose : Nat := 0             -- runs of the session's onClose hook
  closeReturned : Bool := false  -- some Close call of the session has returned
deriving DecidableEq, Repr, Inhabited

structure SessObs where
  hang : Bool := false           -- something was still blocked at the end (judged separately; the counters are then not final)
  pipe : Bool := false           -- the case ran over IOTransport (two io.Pipes) rather than the in-memory transport
  client : SideObs := {}
  server : SideObs := {}
  serverSessions : Nat := 0      -- sessions Server.Sessions() still yields at the end
  clientSessions : Nat := 0      -- sessions the Client still holds
  subsLeft : Nat := 0            -- subscriptions of the ended session the Server still remembers
  viaRun : Bool := false         -- the server side of the case was started with Server.Run(ctx, transport)
  runReturned : Bool := false    -- that Server.Run call has returned
deriving DecidableEq, Repr, Inhabited

def SessObs.side (o : SessObs) : Side → SideObs
  | .client => o.client | .server => o.server

/-- The violated clause, as data. -/
inductive SClause where
  | tcNotOnce (sd : Side) (n : Nat)
  | closedRunning (sd : Side) (n : Nat)
  | halfOpen (sd : Side) (rc wc : Nat)
  | onCloseTwice (sd : Side) (n : Nat)
  | onCloseMissed (sd : Side)
  | serverSessionsLeft (n : Nat)
  | clientSessionsLeft (n : Nat)
  | subsLeft (n : Nat)
  | runNotReturned
deriving DecidableEq, Repr, Inhabited

/-! ## the property clauses as predicates on the record -/

/-- Each transport is closed exactly once when the session has ended. -/
def P_tcOnce (hang : Bool) (o : SideObs) : Prop := o.connected = true → hang = false → o.tc = 1
/-- No handler of the side was running when its (unfailed) transport was closed. -/
def P_closedIdle (o : SideObs) : Prop := o.connected = true → o.runAtClose = 0
/-- Closing an IOTransport closes both halves the user handed in. -/
def P_bothHalves (hang pipe : Bool) (o : SideObs) : Prop :=
  o.connected = true → pipe = true → hang = false → 0 < o.tc → 0 < o.rc ∧ 0 < o.wc
/-- onClose runs at most once … -/
def P_onCloseOnce (o : SideObs) : Prop := o.connected = true → o.onClose ≤ 1
/-- … and has run when Close returns. -/
def P_onCloseRan (o : SideObs) : Prop := o.connected = true → o.closeReturned = true → 0 < o.onClose

def SideOK (hang pipe : Bool) (o : SideObs) : Prop :=
  P_tcOnce hang o ∧ P_closedIdle o ∧ P_bothHalves hang pipe o ∧ P_onCloseOnce o ∧ P_onCloseRan o

/-- The session is removed from its Client / Server, and the Server forgets its subscriptions. -/
def P_removed (o : SessObs) : Prop :=
  o.hang = false → o.serverSessions = 0 ∧ o.clientSessions = 0 ∧ o.subsLeft = 0

/-- `Server.Run` returns once its session has ended (nothing of the server is left running). -/
def P_runReturns (o : SessObs) : Prop := o.viaRun = true → o.hang = false → o.runReturned = true

/-- The lifecycle part of C05 on one case record. -/
def SessOK (o : SessObs) : Prop :=
  SideOK o.hang o.pipe o.client ∧ SideOK o.hang o.pipe o.server ∧ P_removed o ∧ P_runReturns o

/-! ## the monitor -/

def sideChecks (hang pipe : Bool) (sd : Side) (o : SideObs) : List SClause :=
  if !o.connected then [] else
  (if !hang && o.tc != 1 then [.tcNotOnce sd o.tc] else []) ++
  (if o.runAtClose != 0 then [.closedRunning sd o.runAtClose] else []) ++
  (if pipe && !hang && o.tc != 0 && (o.rc == 0 || o.wc == 0) then [.halfOpen sd o.rc o.wc] else []) ++
  (if 1 < o.onClose then [.onCloseTwice sd o.onClose] else []) ++
  (if o.closeReturned && o.onClose == 0 then [.onCloseMissed sd] else [])

def globalChecks (o : SessObs) : List SClause :=
  if o.hang then [] else
  (if o.serverSessions != 0 then [.serverSessionsLeft o.serverSessions] else []) ++
  (if o.clientSessions != 0 then [.clientSessionsLeft o.clientSessions] else []) ++
  (if o.subsLeft != 0 then [.subsLeft o.subsLeft] else [])

def runChecks (o : SessObs) : List SClause :=
  if o.viaRun && !o.hang && !o.runReturned then [.runNotReturned] else []

/-- Every violated lifecycle clause of the record. -/
def sessMon (o : SessObs) : List SClause :=
  sideChecks o.hang o.pipe .client (o.side .client) ++ sideChecks o.hang o.pipe .server (o.side .server) ++ globalChecks o ++ runChecks o

/-- What a clause claims about the record (its meaning, independent of the monitor): the clause of
the property it names is false on the record, and the numbers it quotes are the record's. -/
def SClause.holdsOf (o : SessObs) : SClause → Prop
  | .tcNotOnce sd n => ¬ P_tcOnce o.hang (o.side sd) ∧ n = (o.side sd).tc
  | .closedRunning sd n => ¬ P_closedIdle (o.side sd) ∧ n = (o.side sd).runAtClose
  | .halfOpen sd rc wc => ¬ P_bothHalves o.hang o.pipe (o.side sd) ∧ rc = (o.side sd).rc ∧ wc = (o.side sd).wc
  | .onCloseTwice sd n => ¬ P_onCloseOnce (o.side sd) ∧ n = (o.side sd).onClose
  | .onCloseMissed sd => ¬ P_onCloseRan (o.side sd)
  | .serverSessionsLeft n => ¬ P_removed o ∧ n = o.serverSessions ∧ n ≠ 0
  | .clientSessionsLeft n => ¬ P_removed o ∧ n = o.clientSessions ∧ n ≠ 0
  | .subsLeft n => ¬ P_removed o ∧ n = o.subsLeft ∧ n ≠ 0
  | .runNotReturned => ¬ P_runReturns o

/-! ## string layer (trusted; the driver echoes `render (parse x)` as the model's observation, so a
token the parser drops or misreads shows as a difference `D`) -/

def SClause.text : SClause → String
  | .tcNotOnce sd n => s!"C05: the {sd.name}'s transport was closed {n} times (want exactly once)"
  | .closedRunning sd n => s!"C05: the {sd.name}'s transport was closed while {n} of its handlers were still running and the transport had not failed"
  | .halfOpen sd rc wc => s!"C05: the {sd.name}'s session over IOTransport has ended and its transport was closed, but not both halves the user handed in were closed (Reader.Close calls {rc}, Writer.Close calls {wc}): a reader that is never closed leaves the transport's read loop, blocked in Read, behind for ever"
  | .onCloseTwice sd n => s!"C05: {sd.sess}'s onClose ran {n} times"
  | .onCloseMissed sd => s!"C05: {sd.sess}.Close returned without running onClose"
  | .serverSessionsLeft n => s!"C05: Server.Sessions() still yields {n} session(s) after the session ended"
  | .clientSessionsLeft n => s!"C05: the Client still holds {n} session(s) after the session ended"
  | .subsLeft n => s!"C05: the Server still remembers {n} subscription(s) of the ended session"
  | .runNotReturned => "C05: Server.Run has not returned although its session has ended and every Close and Wait returned"

def b01 (b : Bool) : String := if b then "1" else "0"

def renderSide (p : String) (o : SideObs) : String :=
  s!"{p}conn={b01 o.connected} {p}tc={o.tc} {p}run={o.runAtClose} {p}rc={o.rc} {p}wc={o.wc} {p}oc={o.onClose} {p}cr={b01 o.closeReturned}"

def render (o : SessObs) : String :=
  s!"hang={b01 o.hang} pipe={b01 o.pipe} {renderSide "c." o.client} {renderSide "s." o.server} ssess={o.serverSessions} csess={o.clientSessions} subs={o.subsLeft} viarun={b01 o.viaRun} runret={b01 o.runReturned}"

def parseSide (get : String → Option String) (p : String) : Option SideObs := do
  let nat := fun k => (get (p ++ k)).bind (·.toNat?)
  let bit := fun k => (get (p ++ k)).map (· == "1")
  pure { connected := ← bit "conn", tc := ← nat "tc", runAtClose := ← nat "run", rc := ← nat "rc", wc := ← nat "wc",
         onClose := ← nat "oc", closeReturned := ← bit "cr" }

def parse (rec : String) : Option SessObs := do
  let kv := (rec.splitOn " ").filterMap fun t =>
    match t.splitOn "=" with
    | [k, v] => some (k, v)
    | _ => none
  let get := fun k => kv.lookup k
  let nat := fun k => (get k).bind (·.toNat?)
  let bit := fun k => (get k).map (· == "1")
  pure { hang := ← bit "hang", pipe := ← bit "pipe", client := ← parseSide get "c.", server := ← parseSide get "s.",
         serverSessions := ← nat "ssess", clientSessions := ← nat "csess", subsLeft := ← nat "subs",
         viaRun := ← bit "viarun", runReturned := ← bit "runret" }

end SessMon
