import McpModel.Base.Proto
/-
Typed monitors of the session-level stream `sess`, part 3: per-call outcomes (C01, C04) and dispatch
order per sender goroutine (C03) on two REAL sessions.  The Go harness RECORDS one `CallObs` per
finished call (what it returned, what the peer's handler produced for it, how it relates to
termination, and - for a call whose context the harness cancelled - what was observed around the
cancellation) and one `GorObs` per sender goroutine (the messages it issued in sequence with the
start and end event numbers of their handlers); the clauses are decided here: each clause of the property
is a decidable predicate `P_…` on the record and the monitor reports exactly the records on which it
is false.  The last part of the file does the same for the handler runs (C02: one run per message; C05:
a graceful Close cancels no running handler) and for calls started after termination (C01): `ExtraObs`,
`extraMon`.  Core Lean only (linked into drv_conn).  Theorems: `SessClose/CallsProps.lean`.
-/
namespace SessMon

/-- What the peer's handler produced for the call (the payload the caller must get back). -/
inductive Want where
  | none                      -- nothing to compare (ping, subscribe, …)
  | missing                   -- no handler produced a result for this call
  | exact (s : String)        -- the handler of THIS call produced `s` (tool / sample / elicit echo the call's token; roots: the fixed root)
  | names (l : List String)   -- ListTools: every name returned must be a tool that existed at some time
deriving DecidableEq, Repr, Inhabited

/-- Observations around the cancellation of a call's context by the harness. -/
structure CancelObs where
  timing : String := "during"   -- during | race (cancel racing the handler's release) | after (the call had already returned)
  healthy : Bool := true         -- both sessions healthy (no fault, no Close begun, cancel notice not lost) at that moment
  stalled : Bool := false        -- the caller was still inside the transport's Write of its own request (C04 speaks of requests already sent)
  returned : Bool := true        -- the call had returned at the latest 100 ms of virtual time after the cancellation
  delay : Nat := 0               -- virtual ms between the cancellation and the return
  hParked : Bool := false        -- the peer's handler of this call was parked (running) at the cancellation
  hSaw : Bool := false           -- … and saw its context cancelled
  tok : String := ""             -- the call's token; its own handlers are `tok` and `tok/…`
  touched : List (String × List String) := []  -- per check point: handlers running with a live context before whose context is cancelled now
deriving DecidableEq, Repr, Inhabited

structure CallObs where
  name : String := ""            -- "<Session> <kind>", for the clause text
  followUp : Bool := false       -- issued right after a cancellation on a healthy session ("a later call must still work")
  errNil : Bool := true
  errClass : String := ""        -- class of the error, for the clause text
  errClosed : Bool := false      -- errors.Is(err, ErrConnectionClosed)
  errCanceled : Bool := false    -- errors.Is(err, context.Canceled)
  got : String := ""
  want : Want := .none
  afterDone : Bool := false      -- started when the session's connection had already terminated
  notify : Bool := false
  lateExempt : Bool := false     -- a method that is refused before it reaches the connection (version / capability checks)
  dur : Nat := 0                 -- virtual ms from start to return
  cancelled : Bool := false      -- the harness cancelled its context
  disturbed : Bool := false      -- the pair of sessions was not healthy when it returned (fault injected / Close begun)
  reason : Bool := false         -- the error is the one the scenario asked for (failing tool, removed tool, request forbidden by the version, handler's own context cancelled)
  cx : Option CancelObs := none
deriving DecidableEq, Repr, Inhabited

/-! ## C01 / C04 per call -/

def gotNames (s : String) : List String := (s.splitOn ",").filter (· ≠ "")

/-- C01: a call that succeeds returns what the peer's handler produced for THAT call. -/
def P_own (c : CallObs) : Prop :=
  c.errNil = true →
    match c.want with
    | .none => True
    | .missing => False
    | .exact s => c.got = s
    | .names l => ∀ n ∈ gotNames c.got, n ∈ l

/-- C01: a call started after the connection terminated fails at once with the closed-connection error
(or with its own context's error if that was cancelled). -/
def P_late (c : CallObs) : Prop :=
  c.afterDone = true → c.notify = false → c.lateExempt = false →
    (c.errClosed = true ∨ (c.cancelled = true ∧ c.errCanceled = true)) ∧ c.dur = 0

/-- C01 (C04 for a follow-up call): on a healthy pair of sessions a call fails only for the reason the
scenario asked for. -/
def P_reason (c : CallObs) : Prop :=
  (c.afterDone = true ∧ c.notify = false) ∨ c.errNil = true ∨ c.cancelled = true ∨ c.disturbed = true ∨ c.reason = true

def isOwn (tok h : String) : Bool := h == tok || (tok ++ "/").isPrefixOf h

/-- C04: nobody but the handlers of the cancelled call has its context cancelled. -/
def P_touched (x : CancelObs) : Prop := ∀ e ∈ x.touched, ∀ h ∈ e.2, isOwn x.tok h = true

/-- C04: a cancelled call returns promptly with its context's error, its peer handler sees the
cancellation, and no other handler is touched. -/
def P_cancel (c : CallObs) : Prop :=
  match c.cx with
  | none => True
  | some x =>
    if x.timing = "after" then P_touched x
    else if x.stalled = true then True
    else x.returned = true ∧ x.delay = 0 ∧
      (x.timing = "during" → x.healthy = true → c.errCanceled = true ∧ (x.hParked = true → x.hSaw = true)) ∧
      (x.healthy = true → P_touched x)

def CallRecOK (c : CallObs) : Prop := P_own c ∧ P_late c ∧ P_reason c ∧ P_cancel c

instance (c : CallObs) : Decidable (P_own c) := by
  unfold P_own; cases c.want <;> infer_instance
instance (c : CallObs) : Decidable (P_late c) := by unfold P_late; infer_instance
instance (c : CallObs) : Decidable (P_reason c) := by unfold P_reason; infer_instance
instance (x : CancelObs) : Decidable (P_touched x) := by unfold P_touched; infer_instance
instance (c : CallObs) : Decidable (P_cancel c) := by
  unfold P_cancel; cases c.cx <;> infer_instance

inductive CKind where | own | late | reason | cancel
deriving DecidableEq, Repr, Inhabited

def chkCall (c : CallObs) : List CKind :=
  (if P_own c then [] else [.own]) ++ (if P_late c then [] else [.late]) ++
  (if P_reason c then [] else [.reason]) ++ (if P_cancel c then [] else [.cancel])

/-- Every (violated clause, call) of the case. -/
def callMon (calls : List CallObs) : List (CKind × CallObs) := calls.flatMap fun c => (chkCall c).map (·, c)

def CallOK (calls : List CallObs) : Prop := ∀ c ∈ calls, CallRecOK c

/-- What a reported kind claims about the call: that clause of the property is false on it. -/
def CKind.holdsOf (c : CallObs) : CKind → Prop
  | .own => ¬ P_own c | .late => ¬ P_late c | .reason => ¬ P_reason c | .cancel => ¬ P_cancel c

/-! ## C03 per sender goroutine -/

/-- One run of a user handler. -/
structure HObs where
  side : Nat := 0
  startSeq : Nat := 0       -- event number of its start
  finished : Bool := false
  endSeq : Nat := 0        -- event number of its return
deriving DecidableEq, Repr, Inhabited

/-- One message a goroutine issued; `h` = the peer's handler run for it, if one started. -/
structure Issued where
  notif : Bool := false
  kind : String := ""
  h : Option HObs := none
deriving DecidableEq, Repr, Inhabited

structure GorObs where
  gor : String := ""
  items : List Issued := []
deriving DecidableEq, Repr, Inhabited

/-- A notification `a` issued before `b` by the same goroutine (its `Notify` had returned) is handled,
to the end, before the handler of `b` starts (when both are handled by the same side). -/
def Before (a b : Issued) : Prop :=
  a.notif = true → ∀ ha ∈ a.h, ∀ hb ∈ b.h, ha.side = hb.side →
    ha.startSeq ≤ hb.startSeq ∧ ha.finished = true ∧ ha.endSeq ≤ hb.startSeq

instance (a b : Issued) : Decidable (Before a b) := by unfold Before; infer_instance

def P_order (g : GorObs) : Prop := g.items.Pairwise Before

instance (g : GorObs) : Decidable (P_order g) := by unfold P_order; infer_instance

def orderMon (gs : List GorObs) : List GorObs := gs.filter fun g => !decide (P_order g)

def OrderOK (gs : List GorObs) : Prop := ∀ g ∈ gs, P_order g


/-! ## handler runs (C02: one run per message; C05: a graceful Close cancels no running handler) and
probes started after termination (C01) -/

/-- One user handler, identified by the token of the message it handles. -/
structure HandObs where
  side : String := ""
  kind : String := ""
  runs : Nat := 1            -- how often the handler of this ONE message ran
  cancelled : Bool := false  -- its context was cancelled when it returned
  cause : String := ""       -- class of context.Cause
  bothOpen : Bool := false   -- at its return: neither transport had been closed or had failed
deriving DecidableEq, Repr, Inhabited

/-- A call started after both Waits had returned. -/
structure ProbeObs where
  name : String := ""
  finished : Bool := false
  closed : Bool := false     -- errors.Is(err, ErrConnectionClosed)
  cls : String := ""
deriving DecidableEq, Repr, Inhabited

structure ExtraObs where
  faultEver : Bool := false  -- a transport fault was injected at some time in the case
  hands : List HandObs := []
  probes : List ProbeObs := []
deriving DecidableEq, Repr, Inhabited

/-- C02: the handler of one message runs once. -/
def P_runsOnce (h : HandObs) : Prop := h.runs ≤ 1
/-- C05: without an injected fault, while both transports are open a handler's context is cancelled only by
its caller (cause context.Canceled): a graceful Close lets running handlers finish. -/
def P_graceful (fe : Bool) (h : HandObs) : Prop :=
  fe = false → h.cancelled = true → h.bothOpen = true → h.cause = "context-canceled"
/-- C01: a call started after termination fails at once with the closed-connection error. -/
def P_probe (p : ProbeObs) : Prop := p.finished = true ∧ p.closed = true

def ExtraOK (o : ExtraObs) : Prop :=
  (∀ h ∈ o.hands, P_runsOnce h ∧ P_graceful o.faultEver h) ∧ ∀ p ∈ o.probes, P_probe p

instance (h : HandObs) : Decidable (P_runsOnce h) := by unfold P_runsOnce; infer_instance
instance (fe : Bool) (h : HandObs) : Decidable (P_graceful fe h) := by unfold P_graceful; infer_instance
instance (p : ProbeObs) : Decidable (P_probe p) := by unfold P_probe; infer_instance

inductive EClause where
  | ranTwice (h : HandObs) | ungraceful (h : HandObs) | probe (p : ProbeObs)
deriving DecidableEq, Repr, Inhabited

def extraMon (o : ExtraObs) : List EClause :=
  (o.hands.filter fun h => !decide (P_runsOnce h)).map .ranTwice ++
  (o.hands.filter fun h => !decide (P_graceful o.faultEver h)).map .ungraceful ++
  (o.probes.filter fun p => !decide (P_probe p)).map .probe

/-- What a reported clause claims about the record: the handler or probe it quotes is in the record and
that clause of the property is false on it. -/
def EClause.holdsOf (o : ExtraObs) : EClause → Prop
  | .ranTwice h => h ∈ o.hands ∧ ¬ P_runsOnce h
  | .ungraceful h => h ∈ o.hands ∧ ¬ P_graceful o.faultEver h
  | .probe p => p ∈ o.probes ∧ ¬ P_probe p

/-! ## string layer (trusted) -/
open Proto

def callText (k : CKind) (c : CallObs) : String :=
  match k with
  | .own =>
    match c.want with
    | .missing => s!"C01: {c.name} succeeded although no handler produced a result for it (got \"{c.got}\")"
    | .exact s => s!"C01: {c.name} returned \"{c.got}\" but the handler of that call produced \"{s}\""
    | _ => s!"C01: {c.name} returned \"{c.got}\", which names something that never existed"
  | .late =>
    if c.errClosed || (c.cancelled && c.errCanceled) then s!"C01: {c.name} started after the connection had terminated took {c.dur}ms to fail"
    else s!"C01: {c.name} started after the connection had terminated ended with {c.errClass}, not with ErrConnectionClosed"
  | .reason =>
    if c.followUp then s!"C04: {c.name} failed with {c.errClass} although it was issued after a cancellation on a healthy session (a later call must still work)"
    else s!"C01: {c.name} failed with {c.errClass} on a healthy pair of sessions"
  | .cancel =>
    match c.cx with
    | none => "C04: ?"
    | some x =>
      if x.timing ≠ "after" && !x.returned then s!"C04: {c.name} did not return after its context was cancelled ({x.timing})"
      else if x.timing ≠ "after" && x.delay ≠ 0 then s!"C04: {c.name} returned only {x.delay}ms after its context was cancelled"
      else if x.timing == "during" && x.healthy && !c.errCanceled then s!"C04: cancelled {c.name} returned {c.errClass} instead of the context's error"
      else if x.timing == "during" && x.healthy && x.hParked && !x.hSaw then s!"C04: the peer's handler of the cancelled {c.name} did not see its context cancelled"
      else
        let bad := x.touched.filterMap fun e => (e.2.find? fun h => !isOwn x.tok h).map fun h => (e.1, h)
        match bad with
        | (w, h) :: _ => s!"C04: cancelling {c.name} {w} also cancelled the context of another handler ({h})"
        | [] => s!"C04: cancellation of {c.name} violated"

def orderText (g : GorObs) : String :=
  s!"C03: a later message of sender goroutine {g.gor} was handled before (or while) an earlier notification of that goroutine was handled: " ++
    " ".intercalate (g.items.map fun i => match i.h with
      | some h => s!"{i.kind}[{h.startSeq}-{if h.finished then toString h.endSeq else "…"}@{h.side}]"
      | none => s!"{i.kind}[-]")

def bitAt (s : String) (i : Nat) : Bool := s.toList.getD i '0' == '1'

def parseWant (s : String) : Option Want :=
  if s == "-" then some .none else if s == "m" then some .missing
  else match s.splitOn ":" with
    | ["e", h] => (hexToString h).map .exact
    | ["n", h] => (hexToString h).map fun t => .names (gotNames t)
    | _ => none

/-- `<timing>:<bits healthy stalled returned hParked hSaw>:<delay>:<tokHex>:<touched>`; touched =
`<whenHex>=<tokHex>+<tokHex>…` joined by `/`. -/
def parseCx (s : String) : Option (Option CancelObs) :=
  if s == "-" then some none else
  match s.splitOn ":" with
  | [tm, bits, d, tk, tch] => do
    let delay ← d.toNat?
    let tok ← hexToString tk
    let touched ← ((tch.splitOn "/").filter (· ≠ "")).mapM fun e =>
      match e.splitOn "=" with
      | [w, hs] => do
        let w ← hexToString w
        let hs ← ((hs.splitOn "+").filter (· ≠ "")).mapM hexToString
        pure (w, hs)
      | _ => none
    pure (some { timing := tm, healthy := bitAt bits 0, stalled := bitAt bits 1, returned := bitAt bits 2,
                 hParked := bitAt bits 3, hSaw := bitAt bits 4, delay := delay, tok := tok, touched := touched })
  | _ => none

/-- `<nameHex>,<bits followUp errNil errClosed errCanceled afterDone notify lateExempt cancelled disturbed reason>,<errClassHex>,<gotHex>,<want>,<dur>,<cx>` -/
def parseCall (s : String) : Option CallObs :=
  match s.splitOn "," with
  | [nm, bits, ec, got, want, dur, cx] => do
    let name ← hexToString nm
    let errClass ← hexToString ec
    let got ← hexToString got
    let want ← parseWant want
    let dur ← dur.toNat?
    let cx ← parseCx cx
    pure { name := name, followUp := bitAt bits 0, errNil := bitAt bits 1, errClosed := bitAt bits 2, errCanceled := bitAt bits 3,
           afterDone := bitAt bits 4, notify := bitAt bits 5, lateExempt := bitAt bits 6, cancelled := bitAt bits 7,
           disturbed := bitAt bits 8, reason := bitAt bits 9, errClass := errClass, got := got, want := want, dur := dur, cx := cx }
  | _ => none

def parseCalls (s : String) : Option (List CallObs) := ((s.splitOn " ").filter fun t => t ≠ "" && t ≠ "-").mapM parseCall

/-- item: `<n|c>:<kindHex>:<-|side.startSeq.fin.endSeq>`; goroutine: `<gorHex>;item;item…`. -/
def parseIssued (s : String) : Option Issued :=
  match s.splitOn ":" with
  | [n, k, h] => do
    let kind ← hexToString k
    let ho ← if h == "-" then some none else
      match h.splitOn "." with
      | [sd, st, fin, sp] => do pure (some { side := ← sd.toNat?, startSeq := ← st.toNat?, finished := fin == "1", endSeq := ← sp.toNat? })
      | _ => none
    pure { notif := n == "n", kind := kind, h := ho }
  | _ => none

def parseGor (s : String) : Option GorObs :=
  match s.splitOn ";" with
  | g :: items => do pure { gor := ← hexToString g, items := ← (items.filter (· ≠ "")).mapM parseIssued }
  | _ => none

def parseGors (s : String) : Option (List GorObs) := ((s.splitOn " ").filter fun t => t ≠ "" && t ≠ "-").mapM parseGor

def EClause.text : EClause → String
  | .ranTwice h => s!"C02: the handler of one message ({h.side} {h.kind}) ran {h.runs} times"
  | .ungraceful h => s!"C05: the context of a running {h.side} handler ({h.kind}) was cancelled with cause {h.cause} while both transports were open and no fault was injected: a graceful Close must let running handlers finish"
  | .probe p =>
    if p.finished then s!"C01: {p.name} started after Wait had returned ended with {p.cls}, not with ErrConnectionClosed"
    else s!"C01: {p.name} started after Wait had returned is blocked instead of failing at once"

/-- `fe=<0|1>`, `h:<sideHex>:<kindHex>:<runs>:<cancelled>:<causeHex>:<bothOpen>`, `p:<nameHex>:<finished>:<closed>:<classHex>`. -/
def parseExtra (s : String) : Option ExtraObs :=
  ((s.splitOn " ").filter fun t => t ≠ "" && t ≠ "-").foldlM (init := ({} : ExtraObs)) fun o t =>
    match t.splitOn ":" with
    | ["h", sd, k, r, c, cs, bo] => do
      let h : HandObs := { side := ← hexToString sd, kind := ← hexToString k, runs := ← r.toNat?, cancelled := c == "1",
                           cause := ← hexToString cs, bothOpen := bo == "1" }
      pure { o with hands := o.hands ++ [h] }
    | ["p", n, f, c, cl] => do
      let p : ProbeObs := { name := ← hexToString n, finished := f == "1", closed := c == "1", cls := ← hexToString cl }
      pure { o with probes := o.probes ++ [p] }
    | _ => match t.splitOn "=" with
      | ["fe", v] => some { o with faultEver := v == "1" }
      | _ => none

end SessMon
