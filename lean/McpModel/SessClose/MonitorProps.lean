import McpModel.SessClose.Monitor
import McpModel.SessClose.Props
/-!
Theorems about the typed monitor of stream `sess` (lifecycle clauses of C05, `SessClose/Monitor.lean`):
soundness and completeness, and that the two onClose clauses accept every run of the session-close model
`SessClose.srun` (the other counters of the record have no counterpart in that model).
-/
namespace SessMon

theorem mem_ite_single {α : Type} {p : Prop} [Decidable p] {x c : α} : c ∈ (if p then [x] else []) ↔ p ∧ c = x := by
  by_cases hp : p
  · rw [if_pos hp, List.mem_singleton]; exact ⟨fun h => ⟨hp, h⟩, fun h => h.2⟩
  · rw [if_neg hp]; exact ⟨nofun, fun h => absurd h.1 hp⟩

theorem sideChecks_holds {o : SessObs} {sd : Side} {c : SClause}
    (h : c ∈ sideChecks o.hang o.pipe sd (o.side sd)) : c.holdsOf o := by
  unfold sideChecks at h
  by_cases hc : (o.side sd).connected = true
  · simp only [hc, Bool.not_true, Bool.false_eq_true, if_false, List.mem_append, mem_ite_single, Bool.and_eq_true,
      Bool.or_eq_true, Bool.not_eq_true', bne_iff_ne, ne_eq, beq_iff_eq] at h
    rcases h with (((⟨⟨hh, hn⟩, rfl⟩ | ⟨hn, rfl⟩) | ⟨⟨⟨⟨hp, hh⟩, ht⟩, hr⟩, rfl⟩) | ⟨hn, rfl⟩) | ⟨⟨hr, hn⟩, rfl⟩
    · exact ⟨fun P => hn (P hc hh), rfl⟩
    · exact ⟨fun P => hn (P hc), rfl⟩
    · refine ⟨fun P => ?_, rfl, rfl⟩
      have := P hc hp hh (Nat.pos_of_ne_zero ht)
      omega
    · exact ⟨fun P => Nat.not_le_of_lt hn (P hc), rfl⟩
    · exact fun P => Nat.ne_of_gt (P hc hr) hn
  · rw [if_pos (by simpa using hc)] at h; cases h

theorem globalChecks_holds {o : SessObs} {c : SClause} (h : c ∈ globalChecks o) : c.holdsOf o := by
  unfold globalChecks at h
  by_cases hh : o.hang = true
  · rw [if_pos hh] at h; cases h
  · rw [Bool.not_eq_true] at hh
    simp only [hh, Bool.false_eq_true, if_false, List.mem_append, mem_ite_single, bne_iff_ne, ne_eq] at h
    rcases h with (⟨hn, rfl⟩ | ⟨hn, rfl⟩) | ⟨hn, rfl⟩
    · exact ⟨fun P => hn (P hh).1, rfl, hn⟩
    · exact ⟨fun P => hn (P hh).2.1, rfl, hn⟩
    · exact ⟨fun P => hn (P hh).2.2, rfl, hn⟩

theorem sessMon_sound (o : SessObs) (c : SClause) (h : c ∈ sessMon o) : c.holdsOf o := by
  unfold sessMon at h
  simp only [List.mem_append] at h
  rcases h with ((h | h) | h) | h
  · exact sideChecks_holds h
  · exact sideChecks_holds h
  · exact globalChecks_holds h
  · unfold runChecks at h
    split at h
    · rename_i hx
      simp only [Bool.and_eq_true, Bool.not_eq_true'] at hx
      simp only [List.mem_singleton] at h
      subst h
      intro P
      have := P hx.1.1 hx.1.2
      rw [hx.2] at this; cases this
    · simp at h

/-! per-clause corollaries (the form registered in engines/conn.json) -/

theorem sound_sClosedRunning (o : SessObs) (sd : Side) (n : Nat) (h : .closedRunning sd n ∈ sessMon o) :
    ¬ P_closedIdle (o.side sd) := (sessMon_sound o _ h).1
theorem sound_sTcNotOnce (o : SessObs) (sd : Side) (n : Nat) (h : .tcNotOnce sd n ∈ sessMon o) :
    ¬ P_tcOnce o.hang (o.side sd) := (sessMon_sound o _ h).1
theorem sound_sHalfOpen (o : SessObs) (sd : Side) (rc wc : Nat) (h : .halfOpen sd rc wc ∈ sessMon o) :
    ¬ P_bothHalves o.hang o.pipe (o.side sd) := (sessMon_sound o _ h).1
theorem sound_sOnCloseTwice (o : SessObs) (sd : Side) (n : Nat) (h : .onCloseTwice sd n ∈ sessMon o) :
    ¬ P_onCloseOnce (o.side sd) := (sessMon_sound o _ h).1
theorem sound_sOnCloseMissed (o : SessObs) (sd : Side) (h : .onCloseMissed sd ∈ sessMon o) :
    ¬ P_onCloseRan (o.side sd) := sessMon_sound o _ h
theorem sound_sRunNotReturned (o : SessObs) (h : .runNotReturned ∈ sessMon o) : ¬ P_runReturns o :=
  sessMon_sound o _ h
theorem sound_sNotRemoved (o : SessObs) (n : Nat)
    (h : .serverSessionsLeft n ∈ sessMon o ∨ .clientSessionsLeft n ∈ sessMon o ∨ .subsLeft n ∈ sessMon o) :
    ¬ P_removed o := by
  rcases h with h | h | h <;> exact (sessMon_sound o _ h).1

theorem single_else_nil_eq_nil {α : Type} {c : Prop} [Decidable c] {x : α} : (if c then [x] else []) = [] ↔ ¬ c := by
  split <;> simp [*]

theorem sideChecks_nil_iff (hang pipe : Bool) (sd : Side) (o : SideObs) :
    sideChecks hang pipe sd o = [] ↔ SideOK hang pipe o := by
  unfold sideChecks SideOK P_tcOnce P_closedIdle P_bothHalves P_onCloseOnce P_onCloseRan
  by_cases hc : o.connected = true
  · simp only [hc, Bool.not_true, Bool.false_eq_true, if_false, List.append_eq_nil_iff, forall_const, single_else_nil_eq_nil,
      and_assoc]
    refine and_congr ?_ (and_congr ?_ (and_congr ?_ (and_congr ?_ ?_)))
    · cases hang <;> simp
    · simp
    · cases hang <;> cases pipe <;> simp; omega
    · exact Nat.not_lt
    · cases o.closeReturned <;> simp; omega
  · have hc' : o.connected = false := by simpa using hc
    simp [hc']

theorem globalChecks_nil_iff (o : SessObs) : globalChecks o = [] ↔ P_removed o := by
  unfold globalChecks P_removed
  cases hh : o.hang
  · simp only [Bool.false_eq_true, if_false, List.append_eq_nil_iff, forall_const, single_else_nil_eq_nil]
    simp; omega
  · simp

theorem runChecks_nil_iff (o : SessObs) : runChecks o = [] ↔ P_runReturns o := by
  unfold runChecks P_runReturns
  cases o.viaRun <;> cases o.hang <;> cases o.runReturned <;> simp

theorem sessMon_complete (o : SessObs) : sessMon o = [] ↔ SessOK o := by
  unfold sessMon SessOK
  simp only [List.append_eq_nil_iff, sideChecks_nil_iff, globalChecks_nil_iff, runChecks_nil_iff, SessObs.side, and_assoc]

/-! Non-vacuity: a clean record (`okSide` on both sides), and one record per clause on which exactly that clause fires. -/

def okSide : SideObs := { connected := true, tc := 1, rc := 1, wc := 1, onClose := 1, closeReturned := true }
example : sessMon { pipe := true, client := okSide, server := okSide } = [] := by decide +kernel
example : SessOK { pipe := true, client := okSide, server := okSide } := (sessMon_complete _).mp (by decide)
example : sessMon { client := okSide, server := { okSide with runAtClose := 1 } } = [.closedRunning .server 1] := by decide +kernel
example : sessMon { pipe := true, client := okSide, server := { okSide with rc := 0 } } = [.halfOpen .server 0 1] := by decide +kernel
example : sessMon { client := { okSide with tc := 2 }, server := okSide } = [.tcNotOnce .client 2] := by decide +kernel
example : sessMon { client := okSide, server := { okSide with onClose := 2 } } = [.onCloseTwice .server 2] := by decide +kernel
example : sessMon { client := okSide, server := { okSide with onClose := 0 } } = [.onCloseMissed .server] := by decide +kernel
example : sessMon { client := okSide, server := okSide, serverSessions := 1 } = [.serverSessionsLeft 1] := by decide +kernel
example : sessMon { client := okSide, server := okSide, viaRun := true } = [.runNotReturned] := by decide +kernel
example : sessMon { client := okSide, server := okSide, viaRun := true, runReturned := true } = [] := by decide +kernel

/-- On any record whose server-side onClose counters are those of a
state the session-close model reaches (`SessClose.srun`, any number of concurrent Close calls, with or
without the closing check), neither onClose clause fires. -/
theorem onClose_clauses_accept_model (checks : Bool) (ls : List SessClose.SLabel) (s : SessClose.Srv)
    (h : SessClose.srun checks {} ls = some s) (o : SessObs)
    (h1 : o.server.onClose = s.onCloseCalls) (h2 : o.server.closeReturned = s.calledOnClose) (n : Nat) :
    SClause.onCloseTwice .server n ∉ sessMon o ∧ SClause.onCloseMissed .server ∉ sessMon o := by
  have once := (SessClose.sinv_run ls (SessClose.sinv_init checks) h).once
  constructor
  · intro hm
    have := (sessMon_sound o _ hm).1
    apply this
    intro _
    show o.server.onClose ≤ 1
    rw [h1, once]; split <;> omega
  · intro hm
    have := sessMon_sound o _ hm
    apply this
    intro _ hr
    show 0 < o.server.onClose
    have hr' : o.server.closeReturned = true := hr
    rw [h2] at hr'
    rw [h1, once, hr']; simp

end SessMon
