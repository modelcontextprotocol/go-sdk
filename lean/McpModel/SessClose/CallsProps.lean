import McpModel.SessClose.Calls
/-!
Theorems about the per-call monitor (C01, C04) and the order monitor (C03) of stream `sess`
(`SessClose/Calls.lean`): `callMon_complete` (`callMon o = [] ↔ CallOK o`), `callMon_sound` (a reported
(clause, call) is a call of the record on which that clause of the property is false; per clause
`sound_cOwn`, `sound_cLate`, `sound_cReason`, `sound_cCancel`), `orderMon_complete`, `orderMon_sound`,
`not_order_witness` (a goroutine on which the order clause is false has two messages that show it),
and for the handler runs and late probes `extraMon_complete`, `extraMon_sound`.
-/
namespace SessMon

theorem nil_else_single_eq_nil {α : Type} {p : Prop} [Decidable p] {x : α} : (if p then [] else [x]) = [] ↔ p := by
  split <;> simp [*]

theorem chkCall_nil_iff (c : CallObs) : chkCall c = [] ↔ CallRecOK c := by
  unfold chkCall CallRecOK
  simp only [List.append_eq_nil_iff, nil_else_single_eq_nil, and_assoc]

theorem callMon_complete (calls : List CallObs) : callMon calls = [] ↔ CallOK calls := by
  unfold callMon CallOK
  simp only [List.flatMap_eq_nil_iff, List.map_eq_nil_iff, chkCall_nil_iff]

theorem mem_chkCall {c : CallObs} {k : CKind} (h : k ∈ chkCall c) : k.holdsOf c := by
  unfold chkCall at h
  simp only [List.mem_append] at h
  rcases h with ((h | h) | h) | h <;> (split at h <;> simp at h) <;> (subst h; assumption)

theorem callMon_sound (calls : List CallObs) (k : CKind) (c : CallObs) (h : (k, c) ∈ callMon calls) :
    c ∈ calls ∧ k.holdsOf c := by
  unfold callMon at h
  simp only [List.mem_flatMap, List.mem_map, Prod.mk.injEq] at h
  obtain ⟨c', hc', k', hk', rfl, rfl⟩ := h
  exact ⟨hc', mem_chkCall hk'⟩

theorem sound_cOwn (calls : List CallObs) (c : CallObs) (h : (.own, c) ∈ callMon calls) : ¬ P_own c :=
  (callMon_sound calls _ _ h).2
theorem sound_cLate (calls : List CallObs) (c : CallObs) (h : (.late, c) ∈ callMon calls) : ¬ P_late c :=
  (callMon_sound calls _ _ h).2
theorem sound_cReason (calls : List CallObs) (c : CallObs) (h : (.reason, c) ∈ callMon calls) : ¬ P_reason c :=
  (callMon_sound calls _ _ h).2
theorem sound_cCancel (calls : List CallObs) (c : CallObs) (h : (.cancel, c) ∈ callMon calls) : ¬ P_cancel c :=
  (callMon_sound calls _ _ h).2

theorem orderMon_complete (gs : List GorObs) : orderMon gs = [] ↔ OrderOK gs := by
  unfold orderMon OrderOK
  simp [List.filter_eq_nil_iff]

theorem orderMon_sound (gs : List GorObs) (g : GorObs) (h : g ∈ orderMon gs) : g ∈ gs ∧ ¬ P_order g := by
  unfold orderMon at h
  simpa [List.mem_filter] using h

/-- What a violated `P_order` means: two messages of the goroutine, the earlier a notification, both
handled by the same side, the later one's handler started before the earlier one's had returned. -/
theorem not_order_witness (g : GorObs) (h : ¬ P_order g) :
    ∃ a b, [a, b].Sublist g.items ∧ ¬ Before a b := by
  unfold P_order at h
  rw [List.pairwise_iff_forall_sublist] at h
  simp only [Classical.not_forall] at h
  obtain ⟨a, b, hs, hn⟩ := h
  exact ⟨a, b, hs, hn⟩

def okCall : CallObs := { name := "ClientSession tool", got := "echo:t1:7", want := .exact "echo:t1:7" }
example : callMon [okCall] = [] := by decide +kernel
example : (callMon [{ okCall with got := "echo:t2:9" }]).map (·.1) = [.own] := by decide +kernel
example : (callMon [{ okCall with errNil := false, want := .none }]).map (·.1) = [.reason] := by decide +kernel
example : (callMon [{ okCall with errNil := false, afterDone := true }]).map (·.1) = [.late] := by decide +kernel
-- (`isOwn` uses `String.isPrefixOf`, which the kernel does not evaluate: the examples keep `touched` empty;
-- the touched-clause is exercised through the driver)
def cxBad : CancelObs := { tok := "t1", hParked := true, hSaw := false }
def cxGood : CancelObs := { tok := "t1", hParked := true, hSaw := true }
def cancelledCall (x : CancelObs) : CallObs :=
  { name := "ClientSession tool", errNil := false, cancelled := true, errCanceled := true, cx := some x }
example : (callMon [cancelledCall cxBad]).map (·.1) = [.cancel] := by decide +kernel
example : callMon [cancelledCall cxGood] = [] := by decide +kernel
example : orderMon [{ gor := "g", items := [{ notif := true, h := some { startSeq := 3, finished := true, endSeq := 5 } },
    { h := some { startSeq := 6 } }] }] = [] := by decide +kernel
example : (orderMon [{ gor := "g", items := [{ notif := true, h := some { startSeq := 7, finished := true, endSeq := 9 } },
    { h := some { startSeq := 6 } }] }]).length = 1 := by decide +kernel

theorem extraMon_complete (o : ExtraObs) : extraMon o = [] ↔ ExtraOK o := by
  unfold extraMon ExtraOK
  simp only [List.append_eq_nil_iff, List.map_eq_nil_iff, List.filter_eq_nil_iff, Bool.not_eq_true', decide_eq_false_iff_not,
    Decidable.not_not]
  constructor
  · rintro ⟨⟨h1, h2⟩, h3⟩; exact ⟨fun h hh => ⟨h1 h hh, h2 h hh⟩, h3⟩
  · rintro ⟨h1, h3⟩; exact ⟨⟨fun h hh => (h1 h hh).1, fun h hh => (h1 h hh).2⟩, h3⟩

theorem extraMon_sound (o : ExtraObs) (c : EClause) (h : c ∈ extraMon o) : c.holdsOf o := by
  unfold extraMon at h
  simp only [List.mem_append, List.mem_map, List.mem_filter, Bool.not_eq_true', decide_eq_false_iff_not] at h
  rcases h with (⟨x, hx, rfl⟩ | ⟨x, hx, rfl⟩) | ⟨x, hx, rfl⟩ <;> exact hx

example : extraMon { hands := [{ side := "server", kind := "tool" }], probes := [{ finished := true, closed := true }] } = [] := by decide +kernel
example : (extraMon { hands := [{ runs := 2 }] }).length = 1 := by decide +kernel
example : (extraMon { hands := [{ cancelled := true, bothOpen := true, cause := "connection-closed" }] }).length = 1 := by decide +kernel
example : (extraMon { probes := [{ finished := false }] }).length = 1 := by decide +kernel

end SessMon
