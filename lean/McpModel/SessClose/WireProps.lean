import McpModel.SessClose.Wire
/-!
Theorems about the wire monitor of stream `sess` (C02; `SessClose/Wire.lean`): `wireMon_complete`
(the monitor is silent exactly on the taps that satisfy the three wire clauses `WireOK`) and per-clause
soundness `sound_wRespNoCall`, `sound_wRespTwice`, `sound_wUnanswered` (a reported clause refutes the
clause of the property it names).
-/
namespace SessMon

theorem chkNoCall_nil_iff (evs : List WEv) : ∀ seen : List String,
    chkNoCall seen evs = [] ↔
      ∀ pre id post, evs = pre ++ .wroteResp id :: post → id ≠ "" ∧ (id ∈ seen ∨ ∃ s l, WEv.readCall id s l ∈ pre) := by
  induction evs with
  | nil => intro seen; simp [chkNoCall]
  | cons e t ih =>
    intro seen
    cases e with
    | readCall rid s l =>
      simp only [chkNoCall]
      rw [ih]
      constructor
      · intro h pre id post heq
        cases pre with
        | nil => simp at heq
        | cons p pre' =>
          simp only [List.cons_append, List.cons.injEq] at heq
          obtain ⟨rfl, heq⟩ := heq
          obtain ⟨h1, h2⟩ := h pre' id post heq
          refine ⟨h1, ?_⟩
          rcases h2 with h2 | ⟨s', l', h2⟩
          · rcases List.mem_cons.mp h2 with rfl | h2
            · exact .inr ⟨s, l, by simp⟩
            · exact .inl h2
          · exact .inr ⟨s', l', List.mem_cons_of_mem _ h2⟩
      · intro h pre id post heq
        obtain ⟨h1, h2⟩ := h (.readCall rid s l :: pre) id post (by simp [heq])
        refine ⟨h1, ?_⟩
        rcases h2 with h2 | ⟨s', l', h2⟩
        · exact .inl (List.mem_cons_of_mem _ h2)
        · rcases List.mem_cons.mp h2 with h2 | h2
          · cases h2; exact .inl (by simp)
          · exact .inr ⟨s', l', h2⟩
    | wroteResp rid =>
      simp only [chkNoCall, List.append_eq_nil_iff]
      rw [ih]
      constructor
      · rintro ⟨h0, h⟩ pre id post heq
        cases pre with
        | nil =>
          simp only [List.nil_append, List.cons.injEq, WEv.wroteResp.injEq] at heq
          obtain ⟨rfl, _⟩ := heq
          by_cases hc : rid = "" ∨ rid ∉ seen
          · simp [hc] at h0
          · have : rid ≠ "" ∧ rid ∈ seen := by
              constructor
              · intro h'; exact hc (.inl h')
              · exact Decidable.byContradiction fun h' => hc (.inr h')
            exact ⟨this.1, .inl this.2⟩
        | cons p pre' =>
          simp only [List.cons_append, List.cons.injEq] at heq
          obtain ⟨rfl, heq⟩ := heq
          obtain ⟨h1, h2⟩ := h pre' id post heq
          refine ⟨h1, ?_⟩
          rcases h2 with h2 | ⟨s', l', h2⟩
          · exact .inl h2
          · exact .inr ⟨s', l', List.mem_cons_of_mem _ h2⟩
      · intro h
        constructor
        · obtain ⟨h1, h2⟩ := h [] rid t rfl
          have : ¬ (rid = "" ∨ rid ∉ seen) := by
            rintro (h' | h')
            · exact h1 h'
            · rcases h2 with h2 | ⟨_, _, h2⟩
              · exact h' h2
              · simp at h2
          simp [this]
        · intro pre id post heq
          obtain ⟨h1, h2⟩ := h (.wroteResp rid :: pre) id post (by simp [heq])
          refine ⟨h1, ?_⟩
          rcases h2 with h2 | ⟨s', l', h2⟩
          · exact .inl h2
          · rcases List.mem_cons.mp h2 with h2 | h2
            · cases h2
            · exact .inr ⟨s', l', h2⟩

theorem chkTwice_nil_iff (l : List String) : chkTwice l = [] ↔ l.Nodup := by
  induction l with
  | nil => simp [chkTwice]
  | cons a t ih =>
    simp only [chkTwice, List.append_eq_nil_iff, ih, List.nodup_cons]
    by_cases h : a ∈ t <;> simp [h]

theorem chkAnswered_nil_iff (o : WireObs) : chkAnswered o = [] ↔ P_answered o := by
  unfold chkAnswered P_answered
  cases hj : o.judgeAnswered
  · simp
  · simp only [if_true, List.map_eq_nil_iff, List.filter_eq_nil_iff, forall_const]
    constructor
    · intro h x hx h1 h2
      have := h x hx
      simp only [h1, h2, decide_true, Bool.not_false, Bool.and_self, Bool.true_and, Bool.not_eq_true',
        decide_eq_false_iff_not, Decidable.not_not] at this
      exact this
    · intro h x hx hc
      simp only [Bool.and_eq_true, decide_eq_true_eq, Bool.not_eq_true', decide_eq_false_iff_not] at hc
      exact hc.2 (h x hx hc.1.1 hc.1.2)

theorem wireMon_complete (o : WireObs) : wireMon o = [] ↔ WireOK o := by
  unfold wireMon WireOK P_answersCall P_once
  simp only [List.append_eq_nil_iff, chkTwice_nil_iff, chkAnswered_nil_iff, and_assoc]
  rw [chkNoCall_nil_iff]
  simp


theorem chkNoCall_kind {seen : List String} {evs : List WEv} {c : WClause} (h : c ∈ chkNoCall seen evs) :
    ∃ id, c = .respNoCall id := by
  induction evs generalizing seen with
  | nil => simp [chkNoCall] at h
  | cons e t ih =>
    cases e with
    | readCall rid s l => exact ih h
    | wroteResp rid =>
      simp only [chkNoCall, List.mem_append] at h
      rcases h with h | h
      · split at h
        · simp at h; exact ⟨rid, h⟩
        · simp at h
      · exact ih h

theorem chkTwice_kind {l : List String} {c : WClause} (h : c ∈ chkTwice l) : ∃ id, c = .respTwice id := by
  induction l with
  | nil => simp [chkTwice] at h
  | cons a t ih =>
    simp only [chkTwice, List.mem_append] at h
    rcases h with h | h
    · split at h
      · simp at h; exact ⟨a, h⟩
      · simp at h
    · exact ih h

theorem chkAnswered_kind {o : WireObs} {c : WClause} (h : c ∈ chkAnswered o) : ∃ id, c = .unanswered id := by
  unfold chkAnswered at h
  split at h
  · simp only [List.mem_map] at h
    obtain ⟨x, _, rfl⟩ := h
    exact ⟨x.1, rfl⟩
  · simp at h

theorem sound_wRespNoCall (o : WireObs) (id : String) (h : .respNoCall id ∈ wireMon o) : ¬ P_answersCall o.evs := by
  intro P
  have hn : chkNoCall [] o.evs = [] := (chkNoCall_nil_iff o.evs []).mpr (by
    intro pre id' post heq
    obtain ⟨h1, h2⟩ := P pre id' post heq
    exact ⟨h1, .inr h2⟩)
  unfold wireMon at h
  simp only [List.mem_append, hn, List.not_mem_nil, false_or] at h
  rcases h with h | h
  · obtain ⟨_, hc⟩ := chkTwice_kind h; cases hc
  · obtain ⟨_, hc⟩ := chkAnswered_kind h; cases hc

theorem sound_wRespTwice (o : WireObs) (id : String) (h : .respTwice id ∈ wireMon o) : ¬ P_once o.evs := by
  intro P
  have hn : chkTwice (respIds o.evs) = [] := (chkTwice_nil_iff _).mpr P
  unfold wireMon at h
  simp only [List.mem_append, hn, List.not_mem_nil, or_false] at h
  rcases h with h | h
  · obtain ⟨_, hc⟩ := chkNoCall_kind h; cases hc
  · obtain ⟨_, hc⟩ := chkAnswered_kind h; cases hc

theorem sound_wUnanswered (o : WireObs) (id : String) (h : .unanswered id ∈ wireMon o) : ¬ P_answered o := by
  intro P
  have hn : chkAnswered o = [] := (chkAnswered_nil_iff o).mpr P
  unfold wireMon at h
  simp only [List.mem_append, hn, List.not_mem_nil, or_false] at h
  rcases h with h | h
  · obtain ⟨_, hc⟩ := chkNoCall_kind h; cases hc
  · obtain ⟨_, hc⟩ := chkTwice_kind h; cases hc

example : wireMon { evs := [.readCall "1" 3 false, .wroteResp "1"], judgeAnswered := true, qSeq := 9 } = [] := by decide +kernel
example : wireMon { evs := [.readCall "1" 3 false, .wroteResp "1", .wroteResp "1"] } = [.respTwice "1"] := by decide +kernel
example : wireMon { evs := [.wroteResp "7"] } = [.respNoCall "7"] := by decide +kernel
example : wireMon { evs := [.readCall "1" 3 false, .readCall "2" 4 true], judgeAnswered := true, qSeq := 9 } = [.unanswered "1"] := by decide +kernel

end SessMon
