/-
Session-level close protocol of `mcp.ServerSession` and `mcp.ClientSession` (C05 mechanism "session
Close: stop keepalive, cancel listens/subscriptions, close conn, onClose once"): what must be cancelled
*before* `conn.Close()` so that the jsonrpc2 drain (modelled in `McpModel.Conn`) can finish, and why a
long-parked `subscriptions/listen` can neither survive nor slip in behind a Close.

One label = one critical section under `ss.mu` / `cs.resourceSubsMu`, or one lock-free step between them.
The two flags `serverChecksClosing` / `clientChecksClosed` are REGENERATED from the source
(`Generated/SessCloseGen.lean`): they say whether the handler / Subscribe consult the closing flag under
the same lock in which Close sets it (the F25 / F24 repairs).  No driver links this file: the model is proved about
(`SessClose/Props.lean`), never run beside the implementation.
-/
namespace SessClose

/-! ## server side: `ServerSession.handle` (listen registration) against `ServerSession.Close` -/

structure Srv where
  closing : Bool := false            -- ss.closing (set by Close under ss.mu)
  listenIDs : List Nat := []         -- ss.listenIDs: parked listens a future Close must cancel
  queued : List Nat := []            -- listen requests read but not yet dispatched to `handle`
  parked : List Nat := []            -- listen handlers blocked on <-ctx.Done()
  refused : List Nat := []           -- listen requests answered "session is closing"
  toCancel : List (List Nat) := []   -- per Close call that passed its critical section: ids still to cancel
  cancelled : List Nat := []         -- ids whose context was cancelled (conn.Cancel)
  returned : List Nat := []          -- listen handlers that have returned
  keepaliveStops : Nat := 0          -- written by `closeBegin`, read by nothing: it stands for the head comment's "stop keepalive" (C13 has that part)
  connCloseCalls : Nat := 0          -- Close calls that have reached conn.Close()
  onCloseCalls : Nat := 0
  calledOnClose : Bool := false
deriving Repr, Inhabited, DecidableEq

inductive SLabel where
  | arrive (id : Nat)        -- the reader accepts a subscriptions/listen call
  | dispatch                 -- the dispatcher hands the oldest queued listen to `handle` (critical section under ss.mu)
  | closeBegin               -- Close: keepaliveCancel(); lock; closing := true; ids := listenIDs; listenIDs := nil; unlock
  | closeCancel (k : Nat)    -- Close number k: conn.Cancel(id) for its first remaining id
  | ctxDone (id : Nat)       -- a parked handler sees its cancelled context and returns
  | connClose (k : Nat)      -- Close number k has cancelled all its ids and calls conn.Close()
  | onClose                  -- after conn.Close() returned: CompareAndSwap(false,true) then onClose()
deriving Repr, DecidableEq

/-- `checks` = the handler consults `ss.closing` under `ss.mu` (regenerated flag). -/
def sstep (checks : Bool) (s : Srv) : SLabel → Option Srv
  | .arrive id =>
    if id ∈ s.queued ∨ id ∈ s.parked ∨ id ∈ s.refused ∨ id ∈ s.returned then none
    else some { s with queued := s.queued ++ [id] }
  | .dispatch =>
    match s.queued with
    | [] => none
    | id :: rest =>
      if checks && s.closing then some { s with queued := rest, refused := s.refused ++ [id] }
      else if id ∈ s.cancelled then
        -- registered, but its context is already cancelled: the handler returns at once
        some { s with queued := rest, listenIDs := s.listenIDs ++ [id], returned := s.returned ++ [id] }
      else some { s with queued := rest, listenIDs := s.listenIDs ++ [id], parked := s.parked ++ [id] }
  | .closeBegin =>
    some { s with closing := true, keepaliveStops := s.keepaliveStops + 1,
                  toCancel := s.toCancel ++ [s.listenIDs], listenIDs := [] }
  | .closeCancel k =>
    match s.toCancel[k]? with
    | some (id :: rest) => some { s with toCancel := s.toCancel.set k rest, cancelled := s.cancelled ++ [id] }
    | _ => none
  | .ctxDone id =>
    if id ∈ s.parked ∧ id ∈ s.cancelled then
      some { s with parked := s.parked.erase id, returned := s.returned ++ [id] }
    else none
  | .connClose k =>
    match s.toCancel[k]? with
    | some [] => some { s with connCloseCalls := s.connCloseCalls + 1 }
    | _ => none
  | .onClose =>
    -- conn.Close() returns only when nothing is in flight: no parked and no queued listen
    if s.connCloseCalls = 0 ∨ s.parked ≠ [] ∨ s.queued ≠ [] then none
    else if s.calledOnClose then some s
    else some { s with calledOnClose := true, onCloseCalls := s.onCloseCalls + 1 }

def srun (checks : Bool) (s : Srv) : List SLabel → Option Srv
  | [] => some s
  | l :: ls => match sstep checks s l with
    | none => none
    | some s' => srun checks s' ls

/-! ## client side: `ClientSession.Subscribe` (2026-07-28: opens a listen stream) against `ClientSession.Close` -/

structure Cli where
  closed : Bool := false              -- cs.resourceSubsClosed
  subs : List (Nat × Nat) := []       -- cs.resourceSubs: uri ↦ the listen stream (its cancel func) that Close must cancel
  streams : List Nat := []            -- listen goroutines (callSubscriptionsListen) that are running, by stream number
  next : Nat := 0                     -- next stream number
  refused : List Nat := []            -- uris whose Subscribe was refused because the session is closed
  toCancel : List (List Nat) := []    -- per Close call: streams still to cancel
  cancelled : List Nat := []          -- streams whose context was cancelled
  ended : List Nat := []
  connCloseCalls : Nat := 0
deriving Repr, Inhabited, DecidableEq

inductive CLabel where
  | subscribe (uri : Nat)     -- critical section of Subscribe under resourceSubsMu (+ spawn of the listen stream)
  | unsubscribe (uri : Nat)   -- critical section of Unsubscribe, then cancel()
  | closeBegin                -- cancelAllResourceSubscriptions: lock; subs := nil; closed := true; unlock
  | closeCancel (k : Nat)     -- Close number k: cancel() of its first remaining stream
  | streamEnds (sid : Nat)    -- the listen goroutine sees its cancelled context, retires its call and exits
  | connClose (k : Nat)       -- Close number k has cancelled everything and calls conn.Close()
deriving Repr, DecidableEq

/-- `checks` = Subscribe consults `resourceSubsClosed` under `resourceSubsMu` (regenerated flag). -/
def cstep (checks : Bool) (s : Cli) : CLabel → Option Cli
  | .subscribe u =>
    if checks && s.closed then some { s with refused := s.refused ++ [u] }
    else if (s.subs.lookup u).isSome then some s            -- already subscribed: no new stream
    else some { s with subs := s.subs ++ [(u, s.next)], streams := s.streams ++ [s.next], next := s.next + 1 }
  | .unsubscribe u =>
    match s.subs.lookup u with
    | some sid => some { s with subs := s.subs.filter (fun p => !decide (p.1 = u)), cancelled := s.cancelled ++ [sid] }
    | none => some s
  | .closeBegin => some { s with closed := true, toCancel := s.toCancel ++ [s.subs.map (·.2)], subs := [] }
  | .closeCancel k =>
    match s.toCancel[k]? with
    | some (sid :: rest) => some { s with toCancel := s.toCancel.set k rest, cancelled := s.cancelled ++ [sid] }
    | _ => none
  | .streamEnds sid =>
    if sid ∈ s.streams ∧ sid ∈ s.cancelled then some { s with streams := s.streams.erase sid, ended := s.ended ++ [sid] }
    else none
  | .connClose k =>
    match s.toCancel[k]? with
    | some [] => some { s with connCloseCalls := s.connCloseCalls + 1 }
    | _ => none

def crun (checks : Bool) (s : Cli) : List CLabel → Option Cli
  | [] => some s
  | l :: ls => match cstep checks s l with
    | none => none
    | some s' => crun checks s' ls

end SessClose
