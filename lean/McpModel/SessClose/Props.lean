import McpModel.SessClose.Model
import McpModel.Generated.SessCloseGen
import McpModel.Base.Logic
/-!
Theorems about the session-level close protocol (C05): for ALL label lists.
The flags `Generated.SessClose.serverChecksClosing` / `clientChecksClosed` are regenerated from the source;
the theorems need them to be `true` (`decide` on the regenerated constant): remove the check from the code
and these proofs no longer check.
-/
namespace SessClose

/-- `id` is in one of the lists (`Srv.toCancel`: one list of ids still to cancel per call of Close). -/
def inSome (ll : List (List Nat)) (id : Nat) : Prop := ∃ (k : Nat) (l : List Nat), ll[k]? = some l ∧ id ∈ l

theorem inSome_iff {ll : List (List Nat)} {id : Nat} : inSome ll id ↔ ∃ l ∈ ll, id ∈ l :=
  ⟨fun ⟨_, l, hk, hm⟩ => ⟨l, List.mem_of_getElem? hk, hm⟩,
   fun ⟨l, hl, hm⟩ => (List.mem_iff_getElem?.1 hl).elim fun k hk => ⟨k, l, hk, hm⟩⟩

theorem inSome_append {ll : List (List Nat)} {l : List Nat} {id : Nat} :
    inSome (ll ++ [l]) id ↔ inSome ll id ∨ id ∈ l := by
  simp only [inSome_iff, List.mem_append, List.mem_singleton]
  exact ⟨fun ⟨l', h, hm⟩ => h.elim (fun h => .inl ⟨l', h, hm⟩) (fun h => .inr (h ▸ hm)),
    fun h => h.elim (fun ⟨l', h, hm⟩ => ⟨l', .inl h, hm⟩) (fun hm => ⟨l, .inr rfl, hm⟩)⟩

theorem inSome_set_tail {ll : List (List Nat)} {k : Nat} {x : Nat} {rest : List Nat} (hk : ll[k]? = some (x :: rest))
    {id : Nat} (h : inSome ll id) : inSome (ll.set k rest) id ∨ id = x := by
  obtain ⟨j, l, hj, hm⟩ := h
  by_cases hjk : j = k
  · subst hjk
    rw [hk] at hj; cases hj
    rcases List.mem_cons.mp hm with rfl | hm
    · exact Or.inr rfl
    · refine Or.inl ⟨j, rest, ?_, hm⟩
      have := (List.getElem?_eq_some_iff.mp hk).1
      simp [this]
  · refine Or.inl ⟨j, l, ?_, hm⟩
    rw [List.getElem?_set]; simp [Ne.symm hjk, hj]

structure SInv (checks : Bool) (s : Srv) : Prop where
  /-- every parked listen is tracked: a future Close will pick it up, a Close in progress will cancel it,
  or it has been cancelled already -/
  tracked : ∀ id ∈ s.parked, id ∈ s.listenIDs ∨ id ∈ s.cancelled ∨ inSome s.toCancel id
  /-- with the closing check, nothing registers after Close's critical section -/
  none_after : checks = true → s.closing = true → s.listenIDs = []
  once : s.onCloseCalls = if s.calledOnClose then 1 else 0

theorem sinv_init (checks : Bool) : SInv checks {} := ⟨by simp, by simp, by simp⟩

theorem sinv_step {checks : Bool} {s s' : Srv} {l : SLabel} (i : SInv checks s) (h : sstep checks s l = some s') :
    SInv checks s' := by
  cases l <;> simp only [sstep] at h
  case arrive id =>
    split at h
    · cases h
    · cases h; exact ⟨i.tracked, i.none_after, i.once⟩
  case dispatch =>
    split at h
    · cases h
    · rename_i id rest hq
      split at h
      · cases h; exact ⟨i.tracked, i.none_after, i.once⟩
      · rename_i hc
        have hnc : checks = true → s.closing = false := by
          intro hch; cases hcl : s.closing
          · rfl
          · simp [hch, hcl] at hc
        split at h <;> cases h
        · refine ⟨fun x hx => ?_, fun hch hcl => ?_, i.once⟩
          · rcases i.tracked x hx with h1 | h1 | h1
            · exact Or.inl (by simp [h1])
            · exact Or.inr (Or.inl h1)
            · exact Or.inr (Or.inr h1)
          · have := hnc hch; simp [this] at hcl
        · refine ⟨fun x hx => ?_, fun hch hcl => ?_, i.once⟩
          · simp only [List.mem_append, List.mem_singleton] at hx
            rcases hx with hx | rfl
            · rcases i.tracked x hx with h1 | h1 | h1
              · exact Or.inl (by simp [h1])
              · exact Or.inr (Or.inl h1)
              · exact Or.inr (Or.inr h1)
            · exact Or.inl (by simp)
          · have := hnc hch; simp [this] at hcl
  case closeBegin =>
    cases h
    refine ⟨fun x hx => ?_, fun _ _ => rfl, i.once⟩
    rcases i.tracked x hx with h1 | h1 | h1
    · exact Or.inr (Or.inr (inSome_append.mpr (Or.inr h1)))
    · exact Or.inr (Or.inl h1)
    · exact Or.inr (Or.inr (inSome_append.mpr (Or.inl h1)))
  case closeCancel k =>
    split at h
    · rename_i id rest hk
      cases h
      refine ⟨fun x hx => ?_, i.none_after, i.once⟩
      rcases i.tracked x hx with h1 | h1 | h1
      · exact Or.inl h1
      · exact Or.inr (Or.inl (by simp [h1]))
      · rcases inSome_set_tail hk h1 with h2 | rfl
        · exact Or.inr (Or.inr h2)
        · exact Or.inr (Or.inl (by simp))
    · cases h
  case ctxDone id =>
    split at h
    · cases h
      exact ⟨fun x hx => i.tracked x (List.mem_of_mem_erase hx), i.none_after, i.once⟩
    · cases h
  case connClose k =>
    split at h
    · cases h; exact ⟨i.tracked, i.none_after, i.once⟩
    · cases h
  case onClose =>
    split at h
    · cases h
    · split at h <;> cases h
      · exact i
      · rename_i hc
        refine ⟨i.tracked, i.none_after, ?_⟩
        have := i.once
        simp only [Bool.not_eq_true] at hc
        simp [hc] at this ⊢; omega

theorem sinv_run {checks : Bool} {s s' : Srv} (ls : List SLabel) (i : SInv checks s) (h : srun checks s ls = some s') :
    SInv checks s' := by
  induction ls generalizing s with
  | nil => simp [srun] at h; exact h ▸ i
  | cons l ls ih =>
    simp only [srun] at h
    split at h
    · cases h
    · rename_i s1 h1; exact ih (sinv_step i h1) h

/-- the regenerated flag: the handler checks `ss.closing` -/
theorem server_checks_closing : Generated.SessClose.serverChecksClosing = true := by decide
/-- the regenerated flag: Subscribe checks `resourceSubsClosed` -/
theorem client_checks_closed : Generated.SessClose.clientChecksClosed = true := by decide

/-- After `ServerSession.Close` has passed its critical section, every
parked `subscriptions/listen` handler has been cancelled or is in the list some Close call is still
working through — so each of them returns, for ALL interleavings of arrivals, dispatches and Close calls
(also several concurrent Close calls, also listens that were queued behind another handler when Close
began: those are refused at dispatch). -/
theorem close_unblocks_every_listen (ls : List SLabel) (s : Srv)
    (h : srun Generated.SessClose.serverChecksClosing {} ls = some s) (hc : s.closing = true) :
    ∀ id ∈ s.parked, id ∈ s.cancelled ∨ inSome s.toCancel id := by
  have i := sinv_run ls (sinv_init _) h
  intro id hid
  have hnil := i.none_after server_checks_closing hc
  rcases i.tracked id hid with h1 | h1
  · rw [hnil] at h1; cases h1
  · exact h1

/-- While Close is in progress and a listen is still parked or queued, one of the
steps that empties them is enabled: the drain that `conn.Close()` waits for cannot get stuck. -/
theorem close_drain_progress (ls : List SLabel) (s : Srv)
    (h : srun Generated.SessClose.serverChecksClosing {} ls = some s) (hc : s.closing = true)
    (hw : s.parked ≠ [] ∨ s.queued ≠ []) :
    (sstep Generated.SessClose.serverChecksClosing s .dispatch).isSome = true ∨
    (∃ k, (sstep Generated.SessClose.serverChecksClosing s (.closeCancel k)).isSome = true) ∨
    (∃ id, (sstep Generated.SessClose.serverChecksClosing s (.ctxDone id)).isSome = true) := by
  by_cases hq : s.queued = []
  · have hp : s.parked ≠ [] := by rcases hw with h1 | h1; exact h1; exact absurd hq h1
    obtain ⟨id, hid⟩ := List.exists_mem_of_ne_nil _ hp
    rcases close_unblocks_every_listen ls s h hc id hid with h1 | ⟨k, l, hk, hm⟩
    · exact Or.inr (Or.inr ⟨id, by simp [sstep, hid, h1]⟩)
    · refine Or.inr (Or.inl ⟨k, ?_⟩)
      cases l with
      | nil => cases hm
      | cons x rest => simp [sstep, hk]
  · left
    cases hqq : s.queued with
    | nil => exact absurd hqq hq
    | cons id rest =>
      simp only [sstep, hqq]
      split
      · rfl
      · split <;> rfl

theorem sum_set_tail (ll : List (List Nat)) (k : Nat) (x : Nat) (rest : List Nat) (hk : ll[k]? = some (x :: rest)) :
    (List.map List.length (ll.set k rest)).sum + 1 = (List.map List.length ll).sum := by
  induction ll generalizing k with
  | nil => simp at hk
  | cons a t ih =>
    cases k with
    | zero => simp at hk; subst hk; simp [List.set]; omega
    | succ k =>
      simp at hk
      have := ih k hk
      simp [List.set] at this ⊢; omega

/-- Measure of the work Close still has to wait for. -/
def smu (s : Srv) : Nat := 2 * s.queued.length + s.parked.length + (s.toCancel.map List.length).sum

/-- With the closing check, while Close is in progress each of the draining
steps strictly decreases the measure (a dispatched listen is refused, not parked). -/
theorem close_drain_decreases (s s' : Srv) (l : SLabel) (hc : s.closing = true)
    (hl : l = .dispatch ∨ (∃ k, l = .closeCancel k) ∨ (∃ id, l = .ctxDone id))
    (h : sstep true s l = some s') : smu s' < smu s ∧ s'.closing = true := by
  rcases hl with rfl | ⟨k, rfl⟩ | ⟨id, rfl⟩ <;> simp only [sstep] at h
  · split at h
    · cases h
    · rename_i id rest hq
      simp [hc] at h; subst h
      refine ⟨?_, rfl⟩
      simp [smu, hq]
  · split at h
    · rename_i id rest hk
      cases h
      refine ⟨?_, hc⟩
      have hlen := (List.getElem?_eq_some_iff.mp hk).1
      have : (List.map List.length (s.toCancel.set k rest)).sum + 1 = (List.map List.length s.toCancel).sum :=
        sum_set_tail s.toCancel k id rest hk
      simp only [smu]; omega
    · cases h
  · split at h
    · rename_i hm
      cases h
      refine ⟨?_, hc⟩
      have := List.length_erase_of_mem hm.1
      have hpos : 0 < s.parked.length := List.length_pos_of_mem hm.1
      simp only [smu]; omega
    · cases h

/-- However many Close calls run concurrently, the session's `onClose` hook
(which removes the session from its Server) runs at most once. -/
theorem onClose_at_most_once (checks : Bool) (ls : List SLabel) (s : Srv) (h : srun checks {} ls = some s) :
    s.onCloseCalls ≤ 1 := by
  have := (sinv_run ls (sinv_init checks) h).once
  split at this <;> omega

/-- **F25 (unrepaired code).** Without the closing check a listen that was queued when Close began registers
itself after Close emptied the list: it is parked, nobody will cancel it, and `conn.Close()` waits for ever. -/
theorem f25_unrepaired_parks_forever :
    ∃ s, srun false {} [.arrive 8, .closeBegin, .dispatch] = some s ∧ s.closing = true ∧ s.parked = [8] ∧
      sstep false s (.ctxDone 8) = none ∧ (∀ k, sstep false s (.closeCancel k) = none) ∧ sstep false s .dispatch = none := by
  refine ⟨_, rfl, rfl, rfl, rfl, ?_, rfl⟩
  intro k
  cases k with
  | zero => rfl
  | succ k => rfl

/-- … and the same schedule with the check: the listen is refused. -/
example : ∃ s, srun true {} [.arrive 8, .closeBegin, .dispatch] = some s ∧ s.parked = [] ∧ s.refused = [8] := ⟨_, rfl, rfl, rfl⟩

/-- Non-vacuity: Close with a parked listen — cancelled, returns, conn.Close, onClose. -/
example : ∃ s, srun true {} [.arrive 3, .dispatch, .closeBegin, .closeCancel 0, .ctxDone 3, .connClose 0, .onClose, .closeBegin, .connClose 1, .onClose] = some s ∧
    s.closing = true ∧ s.parked = [] ∧ s.onCloseCalls = 1 := ⟨_, rfl, rfl, rfl, rfl⟩

structure CInv (checks : Bool) (s : Cli) : Prop where
  /-- every running listen stream is tracked: in the subscription table (a future Close or Unsubscribe cancels
  it), in the list of a Close in progress, or already cancelled -/
  tracked : ∀ sid ∈ s.streams, (∃ u, (u, sid) ∈ s.subs) ∨ sid ∈ s.cancelled ∨ inSome s.toCancel sid
  none_after : checks = true → s.closed = true → s.subs = []
  keys : (s.subs.map (·.1)).Nodup

theorem cinv_init (checks : Bool) : CInv checks {} := ⟨by simp, by simp, by simp⟩

theorem cinv_step {checks : Bool} {s s' : Cli} {l : CLabel} (i : CInv checks s) (h : cstep checks s l = some s') :
    CInv checks s' := by
  cases l <;> simp only [cstep] at h
  case subscribe u =>
    split at h
    · cases h; exact ⟨i.tracked, i.none_after, i.keys⟩
    · rename_i hc
      have hnc : checks = true → s.closed = false := by
        intro hch; cases hcl : s.closed
        · rfl
        · simp [hch, hcl] at hc
      split at h <;> cases h
      · exact i
      · rename_i hl
        refine ⟨fun x hx => ?_, fun hch hcl => ?_, ?_⟩
        · simp only [List.mem_append, List.mem_singleton] at hx
          rcases hx with hx | rfl
          · rcases i.tracked x hx with ⟨u', h1⟩ | h1 | h1
            · exact Or.inl ⟨u', by simp [h1]⟩
            · exact Or.inr (Or.inl h1)
            · exact Or.inr (Or.inr h1)
          · exact Or.inl ⟨u, by simp⟩
        · have := hnc hch; simp [this] at hcl
        · have hnk : u ∉ s.subs.map (·.1) := by
            intro hm
            obtain ⟨⟨a, b⟩, hp, rfl⟩ := List.mem_map.1 hm
            have : ∀ x, (a, x) ∉ s.subs := by simpa using hl
            exact this b hp
          rw [List.map_append, List.nodup_append]
          refine ⟨i.keys, by simp, ?_⟩
          intro a ha b hb
          simp at hb; subst hb
          intro e; subst e; exact hnk ha
  case unsubscribe u =>
    split at h
    · rename_i sid hl
      cases h
      refine ⟨fun x hx => ?_, fun hch hcl => ?_, ?_⟩
      · rcases i.tracked x hx with ⟨u', h1⟩ | h1 | h1
        · by_cases hu : u' = u
          · subst hu
            have := List.lookup_of_mem_nodup i.keys h1
            rw [hl] at this; cases this
            exact Or.inr (Or.inl (by simp))
          · exact Or.inl ⟨u', by simp [List.mem_filter, h1, hu]⟩
        · exact Or.inr (Or.inl (by simp [h1]))
        · exact Or.inr (Or.inr h1)
      · have := i.none_after hch hcl; simp [this]
      · exact (List.Nodup.sublist (List.Sublist.map _ (List.filter_sublist)) i.keys)
    · cases h; exact i
  case closeBegin =>
    cases h
    refine ⟨fun x hx => ?_, fun _ _ => rfl, by simp⟩
    rcases i.tracked x hx with ⟨u', h1⟩ | h1 | h1
    · exact Or.inr (Or.inr (inSome_append.mpr (Or.inr (List.mem_map.mpr ⟨(u', x), h1, rfl⟩))))
    · exact Or.inr (Or.inl h1)
    · exact Or.inr (Or.inr (inSome_append.mpr (Or.inl h1)))
  case closeCancel k =>
    split at h
    · rename_i sid rest hk
      cases h
      refine ⟨fun x hx => ?_, i.none_after, i.keys⟩
      rcases i.tracked x hx with h1 | h1 | h1
      · exact Or.inl h1
      · exact Or.inr (Or.inl (by simp [h1]))
      · rcases inSome_set_tail hk h1 with h2 | rfl
        · exact Or.inr (Or.inr h2)
        · exact Or.inr (Or.inl (by simp))
    · cases h
  case streamEnds sid =>
    split at h
    · cases h
      exact ⟨fun x hx => i.tracked x (List.mem_of_mem_erase hx), i.none_after, i.keys⟩
    · cases h
  case connClose k =>
    split at h
    · cases h; exact ⟨i.tracked, i.none_after, i.keys⟩
    · cases h

theorem cinv_run {checks : Bool} {s s' : Cli} (ls : List CLabel) (i : CInv checks s) (h : crun checks s ls = some s') :
    CInv checks s' := by
  induction ls generalizing s with
  | nil => simp [crun] at h; exact h ▸ i
  | cons l ls ih =>
    simp only [crun] at h
    split at h
    · cases h
    · rename_i s1 h1; exact ih (cinv_step i h1) h

/-- After `ClientSession.Close` has run `cancelAllResourceSubscriptions`,
every listen stream that is still running has been cancelled or is in the list a Close call is still working
through — for ALL interleavings of Subscribe, Unsubscribe and (several) Close calls: a Subscribe that comes
after Close is refused and opens no stream. -/
theorem close_cancels_every_listen_stream (ls : List CLabel) (s : Cli)
    (h : crun Generated.SessClose.clientChecksClosed {} ls = some s) (hc : s.closed = true) :
    ∀ sid ∈ s.streams, sid ∈ s.cancelled ∨ inSome s.toCancel sid := by
  have i := cinv_run ls (cinv_init _) h
  intro sid hs
  have hnil := i.none_after client_checks_closed hc
  rcases i.tracked sid hs with ⟨u, h1⟩ | h1
  · rw [hnil] at h1; cases h1
  · exact h1

/-- While Close is in progress and a listen stream is still running, a cancelling
or ending step is enabled: the outgoing listen calls that `conn.Close()` waits for are retired. -/
theorem client_close_progress (ls : List CLabel) (s : Cli)
    (h : crun Generated.SessClose.clientChecksClosed {} ls = some s) (hc : s.closed = true) (hw : s.streams ≠ []) :
    (∃ k, (cstep Generated.SessClose.clientChecksClosed s (.closeCancel k)).isSome = true) ∨
    (∃ sid, (cstep Generated.SessClose.clientChecksClosed s (.streamEnds sid)).isSome = true) := by
  obtain ⟨sid, hs⟩ := List.exists_mem_of_ne_nil _ hw
  rcases close_cancels_every_listen_stream ls s h hc sid hs with h1 | ⟨k, l, hk, hm⟩
  · exact Or.inr ⟨sid, by simp [cstep, hs, h1]⟩
  · refine Or.inl ⟨k, ?_⟩
    cases l with
    | nil => cases hm
    | cons x rest => simp [cstep, hk]

/-- **F24 (unrepaired code).** Without the closed check a Subscribe after Close opens a listen stream that is
in no list anybody will cancel: its goroutine (and its never-answered call) stays for ever. -/
theorem f24_unrepaired_stream_leaks :
    ∃ s, crun false {} [.closeBegin, .connClose 0, .subscribe 5] = some s ∧ s.closed = true ∧ s.streams = [0] ∧
      cstep false s (.streamEnds 0) = none ∧ (∀ k, cstep false s (.closeCancel k) = none) := by
  refine ⟨_, rfl, rfl, rfl, rfl, ?_⟩
  intro k
  cases k with
  | zero => rfl
  | succ k => rfl

example : ∃ s, crun true {} [.closeBegin, .connClose 0, .subscribe 5] = some s ∧ s.streams = [] ∧ s.refused = [5] := ⟨_, rfl, rfl, rfl⟩

/-- Non-vacuity: two subscriptions, Close cancels both streams, they end, conn.Close. -/
example : ∃ s, crun true {} [.subscribe 1, .subscribe 2, .subscribe 1, .closeBegin, .closeCancel 0, .closeCancel 0,
    .streamEnds 0, .streamEnds 1, .connClose 0] = some s ∧ s.closed = true ∧ s.streams = [] ∧ s.connCloseCalls = 1 :=
  ⟨_, rfl, rfl, rfl, rfl⟩

end SessClose
