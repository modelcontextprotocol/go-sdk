import McpModel.ClientWrite.Monitor
/-!
ClientSession.Close while a message is on its way (a POST in flight, a JSON body / an event stream pending, a
reconnection waiting or in flight, an authorization running).  As built (jsonrpc2 Connection.Close): Close refuses new
calls at once, cancels nothing and WAITS for the message; the transport is closed afterwards.  The property clauses on
what the harness saw, the monitor, and what the model says.  Core Lean only.
-/
namespace ClientWrite

inductive CProbe
  | closed | ok | err | skipped
  deriving DecidableEq, Repr

/-- what the harness saw of a case in which Close was called -/
structure CObs where
  at1m : Bool      -- Close had returned one virtual minute after it was called
  final : Bool     -- Close had returned at the end (two virtual hours)
  leak : Bool      -- goroutines remained blocked for ever (the bubble could not exit)
  end_ : EndObs    -- how the message ended
  probe : CProbe   -- a call started after Close (made once the message had ended)
  deriving DecidableEq, Repr

/-- Close returns once the message that was on its way has ended -/
def PCReturns (_ : Scn) (o : CObs) : Prop := o.end_ ≠ .hang → o.final = true
/-- C01: once the caller's context has ended nothing keeps Close (or the caller) waiting -/
def PCCtx (s : Scn) (o : CObs) : Prop := s.cancel = true → (o.final = true ∧ o.end_ ≠ .hang)
/-- C01: a call started after Close fails at once with an error that identifies the connection as closed -/
def PCLate (_ : Scn) (o : CObs) : Prop := o.probe ≠ .ok ∧ o.probe ≠ .err
/-- C01+C09: no goroutine of the client remains -/
def PCLeak (_ : Scn) (o : CObs) : Prop := o.leak = false

instance (s : Scn) (o : CObs) : Decidable (PCReturns s o) := by unfold PCReturns; infer_instance
instance (s : Scn) (o : CObs) : Decidable (PCCtx s o) := by unfold PCCtx; infer_instance
instance (s : Scn) (o : CObs) : Decidable (PCLate s o) := by unfold PCLate; infer_instance
instance (s : Scn) (o : CObs) : Decidable (PCLeak s o) := by unfold PCLeak; infer_instance

def CSpec (s : Scn) (o : CObs) : Prop := PCReturns s o ∧ PCCtx s o ∧ PCLate s o ∧ PCLeak s o

inductive CClause
  | returns | ctx | late | leak
  deriving DecidableEq, Repr

def cmonitor (s : Scn) (o : CObs) : Option CClause :=
  if ¬ PCReturns s o then some .returns
  else if ¬ PCCtx s o then some .ctx
  else if ¬ PCLate s o then some .late
  else if ¬ PCLeak s o then some .leak
  else none

/-- what the harness would see of the model.  `at1m` (has Close returned after one virtual minute) is computed with
`cancel := false`: the caller's context ends after one virtual hour, so at one minute it is live.  No clause of `CSpec`
reads `at1m`; the driver compares it between model and implementation. -/
def cobsOf (s : Scn) : CObs :=
  let r := run s
  { at1m := closeReturns (run { s with cancel := false }),
    final := closeReturns r,
    leak := false,
    end_ := (obsOf r).end_,
    probe := if closeReturns r then .closed else .skipped }

end ClientWrite
