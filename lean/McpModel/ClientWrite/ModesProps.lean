import McpModel.ClientWrite.Modes
import McpModel.ClientWrite.CloseProps
/-!
Theorems about the modes (Modes.lean).  A `…_M` theorem is the theorem of that name without the suffix, applied to the
normalised scenario `s.norm m`; then what the modes change: no mismatch and no DELETE without a session, and what
`strict` refuses (the examples at the end).
-/
namespace ClientWrite

theorem norm_cancel (m : Modes) (s : Scn) : (s.norm m).cancel = s.cancel := rfl
theorem norm_default (s : Scn) : s.norm {} = s := by
  rcases s with ⟨k, au, ts, c, cl, a1, a2⟩
  cases a1 <;> cases a2 <;> simp [Scn.norm, normAns]

theorem never_blocked_after_ctx_end_M (m : Modes) (s : Scn) (h : s.cancel = true) : (runM m s).end_ ≠ .blocked :=
  never_blocked_after_ctx_end (s.norm m) h

theorem monitor_accepts_model_M (m : Modes) (s : Scn) : monitor (s.norm m) (obsOf (runM m s)) = none :=
  monitor_accepts_model (s.norm m)

theorem cmonitor_accepts_model_M (m : Modes) (s : Scn) : cmonitor (s.norm m) (cobsOf (s.norm m)) = none :=
  cmonitor_accepts_model (s.norm m)

theorem attempt_mismatch (e cn : Bool) (k : Kind) (a : Ans) (h : (attempt e cn k a).1 = .err .mismatch) :
    ∃ p, a = .ok p false := by
  cases a with
  | terr => simp [attempt] at h
  | hang => cases e <;> simp [attempt] at h
  | st c rpc =>
    simp only [attempt, afterResponse] at h
    split at h <;> (try split at h) <;> (try split at h) <;> simp at h
  | ok p sid =>
    cases sid
    · exact ⟨p, rfl⟩
    · have ha : attempt e cn k (.ok p true) = afterResponse cn k (.ok p true) := rfl
      rw [ha] at h
      rcases afterResponse_own cn k p with ⟨_, _, hr⟩ | ⟨_, _, hr⟩ | ⟨_, _, ek, hne, hr⟩ <;> rw [hr] at h
      · cases k <;> cases h
      · cases cn <;> cases h
      · cases h; exact absurd rfl hne

theorem normAns_no_foreign (m : Modes) (k : Kind) (a : Ans) (hm : m.sessionless = true) :
    ∀ p, normAns m k a ≠ .ok p false := by
  intro p
  cases a with
  | ok q sid => simp only [normAns, hm, Bool.or_true]; split <;> simp
  | _ => simp [normAns]

/-- Without a session there is no "mismatching session IDs": an id that comes with an answer is adopted. -/
theorem sessionless_no_mismatch (m : Modes) (s : Scn) (hm : m.sessionless = true) :
    (runM m s).end_ ≠ .err .mismatch := by
  intro h
  unfold runM at h
  rcases run_eq (s.norm m) with ⟨_, hr⟩ | ⟨_, ⟨_, _, hr⟩ | ⟨_, _, _, hr⟩ | ⟨_, _, _, hr⟩ | ⟨_, _, hr⟩ | ⟨_, hr⟩⟩ <;>
    rw [hr] at h <;> simp at h
  · obtain ⟨p, hp⟩ := attempt_mismatch _ _ _ _ h
    exact normAns_no_foreign m s.kind s.a2 hm p hp
  · obtain ⟨p, hp⟩ := attempt_mismatch _ _ _ _ h
    exact normAns_no_foreign m s.kind s.a1 hm p hp

/-- Without a session Close sends no DELETE, unless an answer brought a session id.  Stated for scenarios in which
NEITHER answer brings one (`foreignSid` false of both: more than `adopted m s = false`, which looks at the last POST only). -/
theorem sessionless_no_delete_unless_adopted (m : Modes) (s : Scn) (hm : m.sessionless = true)
    (h1 : foreignSid s.a1 = false) (h2 : foreignSid s.a2 = false) : deleteAtCloseM m s = false := by
  simp only [deleteAtCloseM, hm, if_true, adopted]
  split <;> simp [h1, h2]

theorem session_delete (m : Modes) (s : Scn) (hm : m.sessionless = false) :
    deleteAtCloseM m s = deleteAtClose (runM m s) := by
  simp [deleteAtCloseM, hm]

example : (runM { sessionless := true } { a1 := .ok .json false }).end_ = .result := by decide
example : (runM {} { a1 := .ok .json false }).end_ = .err .mismatch := by decide
example : (runM { strict := true } { kind := .notif, a1 := .ok .json true }).end_ = .err .unexpectedStatus := by decide
example : (runM { strict := true } { kind := .notif, a1 := .ok .accepted true }).end_ = .done := by decide

end ClientWrite
