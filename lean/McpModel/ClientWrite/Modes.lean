import McpModel.ClientWrite.Model
/-!
The modes of the streamable client that change what an answer means to `Write`, as a normalisation of the scenario:

* sessionless (protocol 2026-07-28 after `server/discover`: the client holds no session id): an answer that carries a
  session id is not a mismatch — the id is adopted (`hadSessionID == ""`); Close sends a DELETE only if one was adopted;
* strict (`StreamableClientTransport.strict`): a notification answered with a status other than 202/204 is an error.

`runM m s = run (s.norm m)`: every theorem about `run` and `monitor` holds of the normalised scenario — none of them has a
hypothesis on the answers (`ScnOK` is the driver's input check only), so there is nothing to show of `norm`.  Core Lean only.
-/
namespace ClientWrite

structure Modes where
  sessionless : Bool := false
  strict : Bool := false
  deriving DecidableEq, Repr

/-- The answer as `Write` reads it in mode `m`: sessionless, any session id is the session's; strict, a notification
answered with a 2xx status other than 202/204 (`p != .accepted`: `Payload.accepted` is the 202 without a body) becomes
`.strictRefused`. -/
def normAns (m : Modes) (k : Kind) : Ans → Ans
  | .ok p sid =>
    let sid' := sid || m.sessionless
    if sid' && m.strict && k == .notif && p != .accepted then .ok .strictRefused true else .ok p sid'
  | a => a

def Scn.norm (m : Modes) (s : Scn) : Scn := { s with a1 := normAns m s.kind s.a1, a2 := normAns m s.kind s.a2 }

def runM (m : Modes) (s : Scn) : Out := run (s.norm m)

/-- the answer carries a session id that is not the session's -/
def foreignSid : Ans → Bool
  | .ok _ false => true
  | _ => false

/-- sessionless: the last answer that reached Write's session-id check carried an id: it is adopted -/
def adopted (m : Modes) (s : Scn) : Bool :=
  match (runM m s).posts with
  | 2 => foreignSid s.a2
  | 1 => foreignSid s.a1
  | _ => false

/-- Close: with a session, DELETE unless the server said that the session is gone; without one, only if an id was adopted -/
def deleteAtCloseM (m : Modes) (s : Scn) : Bool :=
  if m.sessionless then adopted m s else deleteAtClose (runM m s)

end ClientWrite
