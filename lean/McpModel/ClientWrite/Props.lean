import McpModel.ClientWrite.Monitor
import McpModel.ClientWrite.FirstViolated
/-!
Theorems about the model of `streamableClientConn.Write` (Model.lean) and the bridge to the monitor (Monitor.lean).
All statements are over ALL scenarios (every handler behaviour, every pair of answers with every status code,
both message kinds, caller's context ending or not).
-/
namespace ClientWrite

/-- The retried POST is bound to the caller's context: the regenerated fact, by `decide` on the constant.  A tree
that binds the retry to another context regenerates `false` and this proof fails; the same constant enters the
model through `retryEnds`, so `run_decided` and what rests on it fail with it. -/
theorem retry_bound_to_caller : Generated.ClientWrite.retryBoundToCaller = true := by decide

/-- `run` as a table of its six cases: the token source fails; the first answer asks for authorization and the
handler denies / blocks with the caller's context ending / blocks for ever / grants (then the second answer
decides); no authorization is asked (then the first answer decides). -/
theorem run_eq (s : Scn) :
    (tsFails s = true ∧
      run s = { posts := 0, auths := 0, toks := [], end_ := .err .tokenSource, conn := .usable }) ∨
    tsFails s = false ∧ (
    (authAsked s = true ∧ s.auth = .deny ∧
      run s = { posts := 1, auths := 1, toks := [false], end_ := .err .auth, conn := .usable }) ∨
    (authAsked s = true ∧ s.auth = .block ∧ s.cancel = true ∧
      run s = { posts := 1, auths := 1, toks := [false], end_ := .err .ctx, conn := .dead }) ∨
    (authAsked s = true ∧ s.auth = .block ∧ s.cancel = false ∧
      run s = { posts := 1, auths := 1, toks := [false], end_ := .blocked, conn := .usable }) ∨
    (authAsked s = true ∧ s.auth = .grant ∧
      run s = { posts := 2, auths := 1, toks := [false, true],
                end_ := (attempt (retryEnds s) s.cancel s.kind s.a2).1, conn := (attempt (retryEnds s) s.cancel s.kind s.a2).2 }) ∨
    (authAsked s = false ∧
      run s = { posts := 1, auths := 0, toks := [false],
                end_ := (attempt s.cancel s.cancel s.kind s.a1).1, conn := (attempt s.cancel s.cancel s.kind s.a1).2 })) := by
  by_cases hT : tsFails s = true
  · exact .inl ⟨hT, by rw [run, if_pos hT]⟩
  · refine .inr ⟨Bool.not_eq_true _ ▸ hT, ?_⟩
    rw [run, if_neg hT]
    cases h1 : s.a1 with
    | st c rpc =>
      by_cases hA : (isAuthStatus c && s.auth != .none) = true
      · have ha : authAsked s = true := by rw [authAsked, h1]; exact hA
        dsimp only
        rw [if_pos hA]
        cases hau : s.auth with
        | none => rw [hau] at hA; simp at hA
        | deny => exact .inl ⟨ha, rfl, rfl⟩
        | block =>
          cases hc : s.cancel with
          | true => exact .inr (.inl ⟨ha, rfl, rfl, rfl⟩)
          | false => exact .inr (.inr (.inl ⟨ha, rfl, rfl, rfl⟩))
        | grant => exact .inr (.inr (.inr (.inl ⟨ha, rfl, rfl⟩)))
      · have ha : authAsked s = false := by rw [authAsked, h1]; exact Bool.not_eq_true _ ▸ hA
        dsimp only
        rw [if_neg hA]
        exact .inr (.inr (.inr (.inr ⟨ha, rfl⟩)))
    | _ => exact .inr (.inr (.inr (.inr ⟨by rw [authAsked, h1], rfl⟩)))

theorem bodyWaits_foreign (k : Kind) (p : Payload) : bodyWaits k (.ok p false) = false := by cases p <;> rfl

/-- an answer that carries the session's own id: accepted; or a body the call waits for; or an error, not a mismatch,
that kills the connection -/
theorem afterResponse_own (cn : Bool) (k : Kind) (p : Payload) :
    (acceptedAns k (.ok p true) = true ∧ bodyWaits k (.ok p true) = false ∧
      afterResponse cn k (.ok p true) = (if k = .call then .result else .done, .usable)) ∨
    (acceptedAns k (.ok p true) = false ∧ bodyWaits k (.ok p true) = true ∧
      afterResponse cn k (.ok p true) = if cn then (.err .ctx, .usable) else (.blocked, .usable)) ∨
    (acceptedAns k (.ok p true) = false ∧ bodyWaits k (.ok p true) = false ∧
      ∃ ek, ek ≠ .mismatch ∧ afterResponse cn k (.ok p true) = (.err ek, .dead)) := by
  cases k <;> cases p <;>
    first
    | exact .inl ⟨rfl, rfl, rfl⟩
    | exact .inr (.inl ⟨rfl, rfl, rfl⟩)
    | exact .inr (.inr ⟨rfl, rfl, _, by decide, rfl⟩)

/-- One attempt, in the terms of the monitor's predicates on answers: when it blocks (for `PCtx`, `PPending`), when it
succeeds and with what (`POwn`, `PNotLost`), when the connection stays usable (`PKeeps`) and when it is dead with
"session gone" (`PGone`). -/
theorem attempt_spec (e cn : Bool) (k : Kind) (a : Ans) :
    ((attempt e cn k a).1 = .blocked ↔ ((a = .hang ∧ e = false) ∨ (bodyWaits k a = true ∧ cn = false))) ∧
    (((attempt e cn k a).1 = .result ∨ (attempt e cn k a).1 = .done) ↔ acceptedAns k a = true) ∧
    ((attempt e cn k a).1 = .result → k = .call) ∧ ((attempt e cn k a).1 = .done → k = .notif) ∧
    ((rejectionAns cn k a = true ∧ (cn = true → e = true)) → (attempt e cn k a).2 = .usable) ∧
    (acceptedAns k a = true → (attempt e cn k a).2 = .usable) ∧
    (goneAns a = true → (attempt e cn k a).2 = .dead ∧ (attempt e cn k a).1 = .err .gone) := by
  cases a with
  | terr => simp [attempt, acceptedAns, rejectionAns, goneAns, bodyWaits]
  | hang => cases e <;> simp [attempt, acceptedAns, rejectionAns, goneAns, bodyWaits]
  | st c rpc =>
    cases rpc
    · by_cases hT : isTransient c = true
      · simp [attempt, afterResponse, acceptedAns, rejectionAns, goneAns, hT, bodyWaits]
      · by_cases hG : isGone c = true <;>
          simp [attempt, afterResponse, acceptedAns, rejectionAns, goneAns, hT, hG, bodyWaits]
    · simp [attempt, afterResponse, acceptedAns, rejectionAns, goneAns, bodyWaits]
  | ok p sid =>
    cases sid
    · simp [attempt, afterResponse, acceptedAns, rejectionAns, goneAns, bodyWaits_foreign]
    · rcases afterResponse_own cn k p with ⟨ha, hw, hr⟩ | ⟨ha, hw, hr⟩ | ⟨ha, hw, ek, _, hr⟩
      · cases k <;> simp [attempt, rejectionAns, goneAns, ha, hw, hr]
      · cases cn <;> simp [attempt, rejectionAns, goneAns, ha, hw, hr]
      · simp [attempt, rejectionAns, goneAns, ha, hw, hr]

theorem waitingAns_iff (k : Kind) (a : Ans) : waitingAns k a = true ↔ a = .hang ∨ bodyWaits k a = true := by
  cases a <;> simp [waitingAns, bodyWaits]

/-- Write by what decides its outcome.  The POST whose answer decides is bound to the caller's context: the first by
construction, the retried one because the code says so (`retry_bound_to_caller`). -/
theorem run_decided (s : Scn) :
    (unsent (run s).posts = true ∧ tsFails s = true ∧ (run s).end_ = .err .tokenSource ∧ (run s).conn = .usable) ∨
    (unsent (run s).posts = false ∧ firstOnly s (run s).posts = true ∧
      ((s.auth = .deny ∧ (run s).end_ = .err .auth ∧ (run s).conn = .usable) ∨
       (s.auth = .block ∧ (run s).end_ = if s.cancel then .err .ctx else .blocked))) ∨
    (unsent (run s).posts = false ∧ firstOnly s (run s).posts = false ∧
      (run s).end_ = (attempt s.cancel s.cancel s.kind (lastAns s (run s).posts)).1 ∧
      (run s).conn = (attempt s.cancel s.cancel s.kind (lastAns s (run s).posts)).2) := by
  -- `he` is used in the grant case only (the fifth of `run_eq`)
  have he : retryEnds s = s.cancel := by simp [retryEnds, retry_bound_to_caller]
  rcases run_eq s with ⟨h1, hr⟩ | ⟨_, ⟨h1, h2, hr⟩ | ⟨h1, h2, h3, hr⟩ | ⟨h1, h2, h3, hr⟩ | ⟨h1, _, hr⟩ | ⟨h1, hr⟩⟩ <;>
    rw [hr] <;> simp [unsent, firstOnly, lastAns, *]

theorem obs_hang (r : Out) : (obsOf r).end_ = .hang ↔ r.end_ = .blocked := by
  cases h : r.end_ <;> simp [obsOf, h]
theorem obs_result (r : Out) : (obsOf r).end_ = .result ↔ r.end_ = .result := by
  cases h : r.end_ <;> simp [obsOf, h]
theorem obs_done (r : Out) : (obsOf r).end_ = .done ↔ r.end_ = .done := by
  cases h : r.end_ <;> simp [obsOf, h]
theorem obs_probe_err (r : Out) : (obsOf r).probe = .err ↔ (r.end_ ≠ .blocked ∧ r.conn = .dead) := by
  cases h : r.end_ <;> cases h2 : r.conn <;> simp [obsOf, h, h2]
theorem obs_probe_ok (r : Out) : (obsOf r).probe = .ok ↔ (r.end_ ≠ .blocked ∧ r.conn = .usable) := by
  cases h : r.end_ <;> cases h2 : r.conn <;> simp [obsOf, h, h2]
theorem obs_posts (r : Out) : (obsOf r).posts = r.posts := rfl
theorem obs_auths (r : Out) : (obsOf r).auths = r.auths := rfl

/-- `PSent` of the model; and the retried POST, not the first, carries the token (`Out.toks`, which no clause of `Spec` reads). -/
theorem sent_once_retry_only_after_grant (s : Scn) :
    PSent s (obsOf (run s)) ∧ ((run s).posts = 2 → (run s).toks = [false, true]) := by
  rcases run_eq s with ⟨h1, hr⟩ | ⟨hT, ⟨h1, h2, hr⟩ | ⟨h1, h2, _, hr⟩ | ⟨h1, h2, _, hr⟩ | ⟨h1, h2, hr⟩ | ⟨h1, hr⟩⟩ <;>
    simp_all [PSent, obs_posts]

theorem authorize_at_most_once (s : Scn) : PAuth s (obsOf (run s)) := by
  rcases run_eq s with ⟨h1, hr⟩ | ⟨hT, ⟨h1, h2, hr⟩ | ⟨h1, h2, _, hr⟩ | ⟨h1, h2, _, hr⟩ | ⟨h1, h2, hr⟩ | ⟨h1, hr⟩⟩ <;>
    simp [PAuth, obs_auths, hr, h1]

/-- A request stays blocked only while something is really pending — its last POST has not been answered, the answer
leaves the call waiting for a body, an event or a reconnection (`bodyWaits`), or the authorization flow has not
returned — and the caller's context is live. -/
theorem blocked_only_if_pending (s : Scn) : PPending s (obsOf (run s)) := by
  intro hx
  have hx := (obs_hang _).1 hx
  rw [obs_posts]
  rcases run_decided s with ⟨_, _, hr, _⟩ | ⟨hu, hf, ⟨_, hr, _⟩ | ⟨ha, hr⟩⟩ | ⟨hu, hf, hr, _⟩
  · simp [hr] at hx
  · simp [hr] at hx
  · have hc : s.cancel = false := by cases hc : s.cancel <;> simp [hr, hc] at hx ⊢
    simp [pending, hu, hf, ha, hc]
  · have hw := (attempt_spec _ _ _ _).1.1 (hr ▸ hx)
    have hc : s.cancel = false := by rcases hw with ⟨_, hc⟩ | ⟨_, hc⟩ <;> exact hc
    have : waitingAns s.kind (lastAns s (run s).posts) = true :=
      (waitingAns_iff _ _).2 (hw.imp And.left And.left)
    simp [pending, hu, hf, hc, this]

/-- **C01, client Write path.** Once the caller's context has ended the request is not blocked: whatever the
peer answered (or did not answer) to the first POST and to the retried one, whatever the OAuth handler and its token
source did. -/
theorem never_blocked_after_ctx_end (s : Scn) (h : s.cancel = true) : (run s).end_ ≠ .blocked := by
  intro hb
  have := blocked_only_if_pending s ((obs_hang _).2 hb)
  simp [pending, h] at this

/-- The request completes with a result exactly when the server's real response to it came back on the last POST
(a call: a complete JSON or SSE response under the session's id; a notification: its acceptance). -/
theorem result_iff_accepted (s : Scn) :
    (((run s).end_ = .result ∨ (run s).end_ = .done) ↔ accepted s (run s).posts = true) ∧
    ((run s).end_ = .result → s.kind = .call) ∧ ((run s).end_ = .done → s.kind = .notif) := by
  rcases run_decided s with ⟨hu, _, hr, _⟩ | ⟨hu, hf, ⟨_, hr, _⟩ | ⟨_, hr⟩⟩ | ⟨hu, hf, hr, _⟩
  · simp [accepted, hu, hr]
  · simp [accepted, hu, hf, hr]
  · cases hc : s.cancel <;> simp [accepted, hu, hf, hr, hc]
  · have := attempt_spec s.cancel s.cancel s.kind (lastAns s (run s).posts)
    rw [hr]
    simpa [accepted, hu, hf] using ⟨this.2.1, this.2.2.1, this.2.2.2.1⟩

/-- A per-message rejection (the token source failing, authorization denied, a transport error, the caller's context
ending while the POST is in flight or a body, an event or a reconnection is awaited, a JSON-RPC error body, a transient status) and a completed request
leave the connection usable. -/
theorem rejection_keeps_connection (s : Scn)
    (h : rejection s (run s).posts = true ∨ accepted s (run s).posts = true) : (run s).conn = .usable := by
  rcases run_decided s with ⟨_, _, _, hc⟩ | ⟨hu, hf, ⟨_, _, hc⟩ | ⟨ha, _⟩⟩ | ⟨hu, hf, _, hc⟩
  · exact hc
  · exact hc
  · simp [rejection, accepted, hu, hf, ha] at h
  · have := attempt_spec s.cancel s.cancel s.kind (lastAns s (run s).posts)
    rw [hc]
    simp only [rejection, accepted, hu, hf] at h
    rcases h with h | h
    · exact this.2.2.2.2.1 ⟨by simpa using h, id⟩
    · exact this.2.2.2.2.2.1 (by simpa using h)

/-- **C09 "session gone" / C01 "calls started after that fail".** Once the server has answered that the session is gone
the connection is dead: the message fails with ErrSessionMissing and later calls fail. -/
theorem session_gone_kills_connection (s : Scn) (h : sessionGone s (run s).posts = true) :
    (run s).conn = .dead ∧ (run s).end_ = .err .gone := by
  rcases run_decided s with ⟨hu, _⟩ | ⟨hu, hf, _⟩ | ⟨hu, hf, he, hc⟩
  · simp [sessionGone, hu] at h
  · simp [sessionGone, hu, hf] at h
  · rw [he, hc]
    exact (attempt_spec _ _ _ _).2.2.2.2.2.2 (by simpa [sessionGone, hu, hf] using h)

/-- Close does not send the redundant DELETE after the server has said that the session is gone. -/
theorem no_delete_after_session_gone (s : Scn) (h : sessionGone s (run s).posts = true) :
    deleteAtClose (run s) = false := by
  simp [deleteAtClose, (session_gone_kills_connection s h).2]

theorem spec_of_model (s : Scn) : Spec s (obsOf (run s)) := by
  refine ⟨(sent_once_retry_only_after_grant s).1, authorize_at_most_once s, ?_, blocked_only_if_pending s, ?_, ?_, ?_, ?_⟩
  · exact fun h hx => never_blocked_after_ctx_end s h ((obs_hang _).1 hx)
  · intro h
    rw [obs_result, obs_done] at h
    exact (result_iff_accepted s).1.1 h
  · intro h
    have hh := result_iff_accepted s
    rcases hh.1.2 h with hx | hx
    · simp [hh.2.1 hx, (obs_result _).2 hx]
    · simp [hh.2.2 hx, (obs_done _).2 hx]
  · intro h hx
    have := rejection_keeps_connection s h
    have hy := (obs_probe_err _).1 hx
    simp [this] at hy
  · intro h hx
    have := session_gone_kills_connection s h
    have hy := (obs_probe_ok _).1 hx
    simp [this.1] at hy

/-! ### the bridge

The monitor is the first violated clause of `Spec`, in the order of the list in `monitor_eq`; hence it is sound
(`monitor_sound`), reports nothing exactly on `Spec` (`monitor_none_iff_spec`), and is silent on the model
(`monitor_accepts_model`).  `sound_<clause>`: what the monitor's report of that clause says of the observation — the
negated predicate, unfolded where it unfolds to something readable. -/

def Clause.pred (s : Scn) (o : Obs) : Clause → Prop
  | .sent => PSent s o
  | .auth => PAuth s o
  | .ctx => PCtx s o
  | .pending => PPending s o
  | .own => POwn s o
  | .notLost => PNotLost s o
  | .keeps => PKeeps s o
  | .gone => PGone s o

instance (s : Scn) (o : Obs) : DecidablePred (Clause.pred s o) := fun cl => by
  cases cl <;> dsimp only [Clause.pred] <;> infer_instance

theorem monitor_eq (s : Scn) (o : Obs) :
    monitor s o = firstViolated (Clause.pred s o) [.sent, .auth, .ctx, .pending, .own, .notLost, .keeps, .gone] := by
  simp only [firstViolated_cons]; rfl

theorem monitor_sound (s : Scn) (o : Obs) (cl : Clause) (h : monitor s o = some cl) : ¬ cl.pred s o :=
  firstViolated_sound (monitor_eq s o ▸ h)

theorem monitor_none_iff_spec (s : Scn) (o : Obs) : monitor s o = none ↔ Spec s o := by
  simp only [monitor_eq, firstViolated_cons_none, firstViolated_nil, and_true]; rfl

theorem monitor_accepts_model (s : Scn) : monitor s (obsOf (run s)) = none :=
  (monitor_none_iff_spec s _).2 (spec_of_model s)

theorem sound_sent (s : Scn) (o : Obs) (h : monitor s o = some .sent) : ¬ PSent s o := monitor_sound s o _ h
theorem sound_auth (s : Scn) (o : Obs) (h : monitor s o = some .auth) : ¬ PAuth s o := monitor_sound s o _ h
theorem sound_ctx (s : Scn) (o : Obs) (h : monitor s o = some .ctx) : s.cancel = true ∧ o.end_ = .hang := by
  simpa [PCtx] using show ¬ PCtx s o from monitor_sound s o _ h
theorem sound_pending (s : Scn) (o : Obs) (h : monitor s o = some .pending) : o.end_ = .hang ∧ pending s o.posts = false := by
  simpa [PPending] using show ¬ PPending s o from monitor_sound s o _ h
theorem sound_own (s : Scn) (o : Obs) (h : monitor s o = some .own) :
    (o.end_ = .result ∨ o.end_ = .done) ∧ accepted s o.posts = false := by
  simpa [POwn] using show ¬ POwn s o from monitor_sound s o _ h
theorem sound_notLost (s : Scn) (o : Obs) (h : monitor s o = some .notLost) :
    accepted s o.posts = true ∧ o.end_ ≠ (if s.kind = .call then .result else .done) := by
  simpa [PNotLost] using show ¬ PNotLost s o from monitor_sound s o _ h
theorem sound_keeps (s : Scn) (o : Obs) (h : monitor s o = some .keeps) :
    (rejection s o.posts = true ∨ accepted s o.posts = true) ∧ o.probe = .err := by
  simpa [PKeeps] using show ¬ PKeeps s o from monitor_sound s o _ h
theorem sound_gone (s : Scn) (o : Obs) (h : monitor s o = some .gone) : sessionGone s o.posts = true ∧ o.probe = .ok := by
  simpa [PGone] using show ¬ PGone s o from monitor_sound s o _ h

/-- the scenario of the OAuth retry: 401, authorization granted, the retried POST accepted but not answered, the
caller's context ends: the call fails with the context's error, after two POSTs and one authorization -/
example : run { auth := .grant, cancel := true, a1 := .st 401 false, a2 := .hang } =
    { posts := 2, auths := 1, toks := [false, true], end_ := .err .ctx, conn := .usable } := by decide
/-- …and an implementation that leaves that call blocked is rejected by the monitor -/
example : monitor { auth := .grant, cancel := true, a1 := .st 401 false, a2 := .hang }
    { posts := 2, auths := 1, end_ := .hang, probe := .skipped } = some .ctx := by decide
example : run { a1 := .st 404 false } = { posts := 1, auths := 0, toks := [false], end_ := .err .gone, conn := .dead } := by decide
example : run { a1 := .st 503 false } = { posts := 1, auths := 0, toks := [false], end_ := .err (.transient 503), conn := .usable } := by decide
/-- the token source fails: nothing is sent, the message is refused, the connection stays usable -/
example : run { auth := .grant, ts := .tokErr, a1 := .ok .json true } =
    { posts := 0, auths := 0, toks := [], end_ := .err .tokenSource, conn := .usable } := by decide
/-- the JSON body never comes and the caller gives up: a context error, the connection stays usable -/
example : run { cancel := true, a1 := .ok .jsonHang true } =
    { posts := 1, auths := 0, toks := [false], end_ := .err .ctx, conn := .usable } := by decide

end ClientWrite
