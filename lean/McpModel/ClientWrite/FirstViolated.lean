/-!
A monitor that names the first clause of a property that fails.  Each monitor of the engine (a chain of
`if ¬ P then some c else …`) is `firstViolated` of its clause list, by `firstViolated_cons`.
-/
namespace ClientWrite
variable {κ : Type} {pred : κ → Prop} [DecidablePred pred]

def firstViolated (pred : κ → Prop) [DecidablePred pred] (cls : List κ) : Option κ := cls.find? (fun c => ¬ pred c)

theorem firstViolated_nil : firstViolated pred [] = none := rfl

theorem firstViolated_cons (c : κ) (cs : List κ) :
    firstViolated pred (c :: cs) = if ¬ pred c then some c else firstViolated pred cs := by
  by_cases h : pred c <;> simp [firstViolated, List.find?, h]

theorem firstViolated_sound {cls : List κ} {c : κ} (h : firstViolated pred cls = some c) : ¬ pred c := by
  simpa using List.find?_some h

theorem firstViolated_cons_none (c : κ) (cs : List κ) :
    firstViolated pred (c :: cs) = none ↔ pred c ∧ firstViolated pred cs = none := by
  rw [firstViolated_cons]; by_cases h : pred c <;> simp [h]

end ClientWrite
