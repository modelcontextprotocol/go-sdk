import McpModel.Generated.ClientStreamGen
import McpModel.Generated.ClientWriteGen
/-!
Module group of engine `clientstream` (C01, client side; C09 "session gone"): `streamableClientConn.Write` of mcp/streamable.go — one outgoing
message (a call or a notification) is POSTed; what the answer does to the message, to the caller and to the
connection.  Transliteration, one definition per piece of the code:

  `attempt`        doRequest (`c.client.Do`) followed by `afterResponse`
  `afterResponse`  checkResponse (JSON-RPC error body -> transient status -> 404 -> other non-2xx), the session id
                   check, the `forCall == nil` branch, the content-type switch and what handleJSON / handleSSE make
                   of a complete / broken body
  `run`            Write: first POST; 401/403 with an OAuthHandler -> Authorize -> (granted) ONE retry, bound to the
                   same caller context, carrying the new token; everything else goes to `afterResponse`

The tables (`transientStatuses`, `sessionGoneStatus`, `authStatuses`, `retryBoundToCaller`) are regenerated from
/repo.  Core Lean only (linked into drv_clientwrite).
-/
namespace ClientWrite

/-- the OAuthHandler of the transport: none, or what its `Authorize` does -/
inductive Auth
  | none   -- no handler
  | grant  -- returns nil; TokenSource then yields a token
  | deny   -- returns an error
  | block  -- blocks until the context it was given ends, returns that context's error
  deriving DecidableEq, Repr

/-- the handler's TokenSource, consulted by setMCPHeaders before every POST -/
inductive TS
  | fine          -- nil before the authorization, a token afterwards
  | tsErr         -- TokenSource itself fails
  | tokErr        -- the source's Token() fails (not invalid_grant)
  | invalidGrant  -- Token() fails with an oauth2.RetrieveError "invalid_grant" before the authorization: the request goes out without a header
  deriving DecidableEq, Repr

/-- what a 2xx answer carries -/
inductive Payload
  | json     -- application/json, the response to the call, complete
  | jsonBad  -- application/json, not a JSON-RPC message
  | jsonCut  -- application/json, the body ends with a read error
  | jsonHang -- application/json, the body never comes: the read returns when the request's context ends
  | sse      -- text/event-stream with the response event, complete
  | sseOpen  -- text/event-stream: a priming event with an id, then the stream stays open without events
  | sseCutH  -- text/event-stream: a priming event with an id, then a clean end; the resumption GETs are accepted, never answered
  | sseCutT  -- the same, but every resumption GET fails in transport (the retry budget runs out)
  | other    -- another content type
  | accepted -- 202 Accepted, no body, no content type (what a notification gets)
  | strictRefused -- (strict mode, after normalisation) a notification answered with a status other than 202/204
  deriving DecidableEq, Repr

/-- the peer's answer to one POST -/
inductive Ans
  | terr                          -- `client.Do` fails (nothing came back)
  | hang                          -- accepted, response headers never come: `Do` returns when the request's context ends
  | st (code : Nat) (rpc : Bool)  -- a status outside 2xx; rpc: the body is a JSON-RPC error response
  | ok (p : Payload) (sid : Bool) -- a 2xx status (202 for `Payload.accepted`, else 200); sid: the Mcp-Session-Id is the session's (false: another one)
  deriving DecidableEq, Repr

inductive Kind
  | call | notif
  deriving DecidableEq, Repr

structure Scn where
  kind : Kind := .call
  auth : Auth := .none
  ts : TS := .fine
  /-- the caller's context ends while the message is still on its way (the harness: one virtual hour after the start) -/
  cancel : Bool := false
  /-- ClientSession.Close is called while the message is on its way (the harness: 500 ms / 5 s after the start) -/
  close : Bool := false
  a1 : Ans := .terr
  a2 : Ans := .terr
  deriving DecidableEq, Repr

inductive EKind
  | terr | ctx | auth | tokenSource | reconnect | unexpectedStatus | rpc | transient (c : Nat) | gone | status (c : Nat) | mismatch | ctype | body | decode
  deriving DecidableEq, Repr

/-- how the message ends for its sender -/
inductive End
  | result   -- the call returned the server's response
  | done     -- the notification was accepted
  | blocked  -- still blocked (nothing ended it)
  | err (k : EKind)
  deriving DecidableEq, Repr

/-- the connection afterwards: usable, or dead (`c.fail` and/or a write error that is not a rejection) -/
inductive Conn
  | usable | dead
  deriving DecidableEq, Repr

structure Out where
  posts : Nat
  auths : Nat
  /-- per POST: did it carry an Authorization header -/
  toks : List Bool
  end_ : End
  conn : Conn
  deriving DecidableEq, Repr

def isAuthStatus (c : Nat) : Bool := Generated.ClientWrite.authStatuses.contains c
def isTransient (c : Nat) : Bool := Generated.ClientStream.transientStatuses.contains c
def isGone (c : Nat) : Bool := c == Generated.ClientStream.sessionGoneStatus

/-- checkResponse and the rest of Write, for an answer that is a response -/
def afterResponse (cancel : Bool) (k : Kind) : Ans → End × Conn
  | .st c rpc =>
    if rpc then (.err .rpc, .usable)                          -- ErrRejected, carries the JSON-RPC error
    else if isTransient c then (.err (.transient c), .usable) -- ErrRejected
    else if isGone c then (.err .gone, .dead)                 -- ErrSessionMissing; c.fail
    else (.err (.status c), .dead)                            -- c.fail
  | .ok p sid =>
    if !sid then (.err .mismatch, .dead)                      -- "mismatching session IDs": a plain write error
    else if p == .strictRefused then (.err .unexpectedStatus, .dead)  -- strict: "unexpected status code … from non-call"
    else match k with
      | .notif => (.done, .usable)                            -- body closed; a status other than 202/204 is only logged (non-strict)
      | .call =>
        match p with
        | .json => (.result, .usable)                         -- handleJSON: read, decode, forward
        | .sse => (.result, .usable)                          -- handleSSE (model: ClientStream)
        | .jsonBad => (.err .decode, .dead)                   -- handleJSON: c.fail
        | .jsonCut => (.err .body, .dead)                     -- handleJSON: c.fail (the caller's context is live)
        | .jsonHang =>                                        -- Write has returned; the caller waits in Await(ctx);
          if cancel then (.err .ctx, .usable)                 -- handleJSON: `ctx.Err() != nil`: return, no c.fail
          else (.blocked, .usable)
        | .sseOpen =>                                         -- handleSSE/processStream waits for the next event
          if cancel then (.err .ctx, .usable) else (.blocked, .usable)
        | .sseCutH =>                                         -- handleSSE -> connectSSE: the GET is in flight for ever
          if cancel then (.err .ctx, .usable) else (.blocked, .usable)
        | .sseCutT => (.err .reconnect, .dead)                -- connectSSE: budget exhausted: c.fail("failed to reconnect")
        | .other => (.err .ctype, .dead)                      -- "unsupported content type"
        | .accepted => (.err .ctype, .dead)                   -- a call answered 202 without a body: unsupported content type ""
        | .strictRefused => (.err .unexpectedStatus, .dead)    -- not reached: caught before the `match k`
  | .terr => (.err .terr, .usable)                            -- these two rows are not reached: `attempt` answers `.terr` and
  | .hang => (.blocked, .usable)                              -- `.hang` itself, `run` calls `afterResponse` directly on `.st` only

/-- the answer leaves a CALL waiting for a body / an event / a reconnection that does not come -/
def bodyWaits (k : Kind) : Ans → Bool
  | .ok .jsonHang true => k == .call
  | .ok .sseOpen true => k == .call
  | .ok .sseCutH true => k == .call
  | _ => false

/-- doRequest with a request bound to a context that ends iff `ends`; `cancel`: the caller's context ends -/
def attempt (ends cancel : Bool) (k : Kind) : Ans → End × Conn
  | .terr => (.err .terr, .usable)                            -- ErrRejected
  | .hang => if ends then (.err .ctx, .usable) else (.blocked, .usable)
  | a => afterResponse cancel k a

/-- the context the retried POST is bound to ends with the caller's iff the code binds it to the caller's -/
def retryEnds (s : Scn) : Bool := s.cancel && Generated.ClientWrite.retryBoundToCaller

/-- setMCPHeaders fails: the message is not sent (ErrRejected) -/
def tsFails (s : Scn) : Bool := s.auth != .none && (s.ts == .tsErr || s.ts == .tokErr)

/-- Write -/
def run (s : Scn) : Out :=
  if tsFails s then { posts := 0, auths := 0, toks := [], end_ := .err .tokenSource, conn := .usable } else
  match s.a1 with
  | .st c rpc =>
    if isAuthStatus c && s.auth != .none then
      match s.auth with
      | .deny => { posts := 1, auths := 1, toks := [false], end_ := .err .auth, conn := .usable }
      | .block =>
        -- Authorize(ctx): returns when the caller's context ends; then `ctx.Err() != nil`: c.fail (go-sdk issue #882)
        if s.cancel then { posts := 1, auths := 1, toks := [false], end_ := .err .ctx, conn := .dead }
        else { posts := 1, auths := 1, toks := [false], end_ := .blocked, conn := .usable }
      | _ =>
        let r := attempt (retryEnds s) s.cancel s.kind s.a2
        { posts := 2, auths := 1, toks := [false, true], end_ := r.1, conn := r.2 }
    else
      let r := afterResponse s.cancel s.kind (.st c rpc)
      { posts := 1, auths := 0, toks := [false], end_ := r.1, conn := r.2 }
  | a =>
    let r := attempt s.cancel s.cancel s.kind a
    { posts := 1, auths := 0, toks := [false], end_ := r.1, conn := r.2 }

/-- Close: the session is deleted on the server (HTTP DELETE) unless the connection failed with ErrSessionMissing —
the server has already said that the session is gone -/
def deleteAtClose (r : Out) : Bool := r.end_ != .err .gone

/-- ClientSession.Close = jsonrpc2 Connection.Close: it refuses new calls at once and WAITS for the message that is on
its way (it cancels nothing); the transport is closed afterwards. It returns iff the message ends. -/
def closeReturns (r : Out) : Bool := r.end_ != .blocked

/-- the driver's input check (it refuses a record that fails it): a `st` answer carries a status outside 2xx.
No theorem of the `…Props` files assumes it: they hold of every scenario. -/
def ansOK : Ans → Bool
  | .st c _ => c < 200 || c ≥ 300
  | _ => true

def ScnOK (s : Scn) : Prop := ansOK s.a1 = true ∧ ansOK s.a2 = true
instance (s : Scn) : Decidable (ScnOK s) := by unfold ScnOK; infer_instance

end ClientWrite
