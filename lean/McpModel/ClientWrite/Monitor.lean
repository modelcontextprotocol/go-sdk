import McpModel.ClientWrite.Model
/-!
The C01 monitor of the client Write path: the property, written as decidable statements about what the
IMPLEMENTATION did (`Obs`) in a scenario (`Scn`, the ground truth: what the scripted peer answered, what the
OAuth handler did, whether the caller's context ended).  Nothing here refers to `run`.
-/
namespace ClientWrite

inductive EndObs
  | result | done | hang | err
  deriving DecidableEq, Repr

inductive ProbeObs
  | ok | err | skipped
  deriving DecidableEq, Repr

/-- what the harness saw -/
structure Obs where
  posts : Nat            -- POSTs carrying the message under test
  auths : Nat            -- calls of OAuthHandler.Authorize during the whole case
  end_ : EndObs          -- how the request method returned (hang: not at all, until the session was closed)
  probe : ProbeObs       -- a call made afterwards on the same session
  deriving DecidableEq, Repr

/-- the answer to the last POST that was made -/
def lastAns (s : Scn) (posts : Nat) : Ans := if posts ≥ 2 then s.a2 else s.a1

/-- the first answer asks for authorization and there is a handler to give it -/
def authAsked (s : Scn) : Bool :=
  match s.a1 with
  | .st c _ => isAuthStatus c && s.auth != .none
  | _ => false

/-- the authorization flow decided the outcome: the first answer asked for authorization and no retry was made -/
def firstOnly (s : Scn) (posts : Nat) : Bool := decide (posts ≤ 1) && authAsked s

/-- nothing was sent -/
def unsent (posts : Nat) : Bool := decide (posts = 0)

/-- this answer is the server's real response to the call / the acceptance of the notification -/
def acceptedAns (k : Kind) : Ans → Bool
  | .ok p true =>
    p != .strictRefused &&
    (match k with
     | .notif => true
     | .call => p == .json || p == .sse)
  | _ => false

/-- this answer refuses the message on its own (the error wraps ErrRejected; nothing is wrong with the connection):
a transport error, the caller's context ending while the POST is in flight, a JSON-RPC error body, a transient status -/
def rejectionAns (cancel : Bool) (k : Kind) : Ans → Bool
  | .terr => true
  | .hang => cancel
  | .st c rpc => rpc || isTransient c
  | .ok p true => cancel && bodyWaits k (.ok p true)   -- abandoned by the caller while the body / the stream was pending
  | .ok _ _ => false

/-- this answer leaves the request waiting: no headers, or (a call) a body, an event or a reconnection that does not come (`bodyWaits`) -/
def waitingAns (k : Kind) : Ans → Bool
  | .hang => true
  | a => bodyWaits k a

/-- this answer says that the session is gone -/
def goneAns : Ans → Bool
  | .st c false => isGone c && !isTransient c
  | _ => false

/-- the server's real response to the call / the acceptance of the notification came back on the last POST -/
def accepted (s : Scn) (posts : Nat) : Bool := !unsent posts && !firstOnly s posts && acceptedAns s.kind (lastAns s posts)

/-- something is still pending and nothing has ended it: the last POST is unanswered or its answer leaves the call waiting
(`waitingAns`), or the authorization runs -/
def pending (s : Scn) (posts : Nat) : Bool :=
  !unsent posts && !s.cancel && (if firstOnly s posts then s.auth == .block else waitingAns s.kind (lastAns s posts))

/-- the message was refused on its own: authorization denied, or a rejecting answer to the last POST -/
def rejection (s : Scn) (posts : Nat) : Bool :=
  if unsent posts then tsFails s
  else if firstOnly s posts then s.auth == .deny else rejectionAns s.cancel s.kind (lastAns s posts)

/-- the server said that the session is gone -/
def sessionGone (s : Scn) (posts : Nat) : Bool := !unsent posts && !firstOnly s posts && goneAns (lastAns s posts)

/-! ### the property, clause by clause -/

/-- "…or with an error once the caller's context ends": never blocked after that -/
def PCtx (s : Scn) (o : Obs) : Prop := s.cancel = true → o.end_ ≠ .hang
/-- blocked only while something is pending -/
def PPending (s : Scn) (o : Obs) : Prop := o.end_ = .hang → pending s o.posts = true
/-- "with the peer's response to that very request": a result only if the server's response came back -/
def POwn (s : Scn) (o : Obs) : Prop := (o.end_ = .result ∨ o.end_ = .done) → accepted s o.posts = true
/-- …and then the request completes with it (result for a call, nil for a notification) -/
def PNotLost (s : Scn) (o : Obs) : Prop :=
  accepted s o.posts = true → (o.end_ = if s.kind = .call then .result else .done)
/-- the message is sent once — not at all exactly when the token source fails; once more only after a 401/403 and a
granted authorization -/
def PSent (s : Scn) (o : Obs) : Prop :=
  (o.posts = 0 ↔ tsFails s = true) ∧ o.posts ≤ 2 ∧ (o.posts = 2 → authAsked s = true ∧ s.auth = .grant)
/-- the user is asked to authorize at most once, and only for a 401/403 (go-sdk issue #882: not again for a request already abandoned) -/
def PAuth (s : Scn) (o : Obs) : Prop := o.auths ≤ 1 ∧ (o.auths = 1 → authAsked s = true)
/-- a per-message rejection, or a completed request, leaves the connection usable -/
def PKeeps (s : Scn) (o : Obs) : Prop :=
  (rejection s o.posts = true ∨ accepted s o.posts = true) → o.probe ≠ .err
/-- once the server has said that the session is gone, later calls fail -/
def PGone (s : Scn) (o : Obs) : Prop := sessionGone s o.posts = true → o.probe ≠ .ok

instance (s : Scn) (o : Obs) : Decidable (PCtx s o) := by unfold PCtx; infer_instance
instance (s : Scn) (o : Obs) : Decidable (PPending s o) := by unfold PPending; infer_instance
instance (s : Scn) (o : Obs) : Decidable (POwn s o) := by unfold POwn; infer_instance
instance (s : Scn) (o : Obs) : Decidable (PNotLost s o) := by unfold PNotLost; infer_instance
instance (s : Scn) (o : Obs) : Decidable (PSent s o) := by unfold PSent; infer_instance
instance (s : Scn) (o : Obs) : Decidable (PAuth s o) := by unfold PAuth; infer_instance
instance (s : Scn) (o : Obs) : Decidable (PKeeps s o) := by unfold PKeeps; infer_instance
instance (s : Scn) (o : Obs) : Decidable (PGone s o) := by unfold PGone; infer_instance

/-- the property of one Write -/
def Spec (s : Scn) (o : Obs) : Prop :=
  PSent s o ∧ PAuth s o ∧ PCtx s o ∧ PPending s o ∧ POwn s o ∧ PNotLost s o ∧ PKeeps s o ∧ PGone s o

inductive Clause
  | sent | auth | ctx | pending | own | notLost | keeps | gone
  deriving DecidableEq, Repr

/-- the first clause of the property that the observation violates -/
def monitor (s : Scn) (o : Obs) : Option Clause :=
  if ¬ PSent s o then some .sent
  else if ¬ PAuth s o then some .auth
  else if ¬ PCtx s o then some .ctx
  else if ¬ PPending s o then some .pending
  else if ¬ POwn s o then some .own
  else if ¬ PNotLost s o then some .notLost
  else if ¬ PKeeps s o then some .keeps
  else if ¬ PGone s o then some .gone
  else none

/-- what the harness would see of the model's run -/
def obsOf (r : Out) : Obs :=
  { posts := r.posts, auths := r.auths,
    end_ := (match r.end_ with | .result => .result | .done => .done | .blocked => .hang | .err _ => .err),
    probe := (match r.end_, r.conn with
      | .blocked, _ => .skipped
      | _, .usable => .ok
      | _, .dead => .err) }

end ClientWrite
