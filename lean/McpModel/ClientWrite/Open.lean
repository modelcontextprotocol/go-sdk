import McpModel.ClientWrite.Monitor
/-!
`connectStandaloneSSE` of mcp/streamable.go (called once the session is initialised): the opening of the standalone
stream — `connectSSE(initial)` (up to maxRetries+1 attempts, the first without delay) and what the first answer that
comes back does to the connection.  Transliteration, the property clauses and the monitor on them, and what the harness would see of the model (`oobsOf`);
the theorems, the bridge among them, are in `OpenProps.lean`.
-/
namespace ClientWrite

/-- the peer's answer to the opening GET -/
inductive OAns
  | st (code : Nat) (sse : Bool)  -- a status; sse: the answer says Content-Type text/event-stream
  deriving DecidableEq, Repr

structure OScn where
  /-- MaxRetries after defaulting -/
  mr : Nat := 5
  /-- how many attempts fail in transport before an answer comes back -/
  fails : Nat := 0
  ans : OAns := .st 405 false
  /-- StreamableClientTransport.strict: a 4xx other than 405 is not tolerated -/
  strict : Bool := false
  deriving DecidableEq, Repr

structure OOut where
  gets : Nat
  conn : Conn
  /-- a stream is being read (handleSSE runs) -/
  stream : Bool
  deriving DecidableEq, Repr

/-- what connectStandaloneSSE makes of the first answer that comes back -/
def openAnswer (strict : Bool) : OAns → Conn × Bool
  | .st c sse =>
    if c == Generated.ClientWrite.standaloneNotOffered then (.usable, false)  -- "the server does not offer an SSE stream"
    else if !sse then (.usable, false)                                        -- go-sdk issue #736: not an event stream: logged
    else if decide (400 ≤ c) && decide (c < 500) && !strict then (.usable, false)  -- go-sdk issues #393, #610 (non-strict): like 405
    else if decide (200 ≤ c) && decide (c < 300) then (.usable, true)        -- checkResponse passes: handleSSE
    else (.dead, false)                                                       -- checkResponse fails: c.fail

/-- connectStandaloneSSE -/
def openStandalone (s : OScn) : OOut :=
  if s.fails ≥ s.mr + 1 then { gets := s.mr + 1, conn := .dead, stream := false }  -- every attempt failed: c.fail
  else
    let r := openAnswer s.strict s.ans
    { gets := s.fails + 1, conn := r.1, stream := r.2 }

/-! ### the property -/

/-- what the harness saw: GETs until the probe, and a call made afterwards -/
structure OObs where
  gets : Nat
  probe : ProbeObs
  deriving DecidableEq, Repr

/-- the server declines the standalone stream: 405, an answer that is no event stream, or a 4xx -/
def declined (strict : Bool) : OAns → Bool
  | .st c sse => c == Generated.ClientWrite.standaloneNotOffered || !sse || (decide (400 ≤ c) && decide (c < 500) && !strict)

/-- C09 (bounded retries): the opening is attempted at most maxRetries+1 times, and not again after an answer -/
def POBound (s : OScn) (o : OObs) : Prop := o.gets ≤ s.mr + 1 ∧ (s.fails < s.mr + 1 → o.gets ≤ s.fails + 1)
/-- C01 (the connection breaks only for a reason): a server that declines the standalone stream, after transport
failures within the budget, does not cost the session its connection -/
def PODeclined (s : OScn) (o : OObs) : Prop := (s.fails < s.mr + 1 ∧ declined s.strict s.ans = true) → o.probe ≠ .err
/-- C09 (an error instead of silence): when every attempt failed the connection is failed, later calls get an error -/
def POExhausted (s : OScn) (o : OObs) : Prop := s.fails ≥ s.mr + 1 → o.probe ≠ .ok

instance (s : OScn) (o : OObs) : Decidable (POBound s o) := by unfold POBound; infer_instance
instance (s : OScn) (o : OObs) : Decidable (PODeclined s o) := by unfold PODeclined; infer_instance
instance (s : OScn) (o : OObs) : Decidable (POExhausted s o) := by unfold POExhausted; infer_instance

inductive OClause
  | bound | declined | exhausted
  deriving DecidableEq, Repr

def omonitor (s : OScn) (o : OObs) : Option OClause :=
  if ¬ POBound s o then some .bound
  else if ¬ PODeclined s o then some .declined
  else if ¬ POExhausted s o then some .exhausted
  else none

def oobsOf (r : OOut) : OObs := { gets := r.gets, probe := match r.conn with | .usable => .ok | .dead => .err }

end ClientWrite
