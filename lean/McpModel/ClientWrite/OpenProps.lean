import McpModel.ClientWrite.Open
import McpModel.ClientWrite.FirstViolated
/-!
Theorems about the opening of the standalone stream (Open.lean): the model of `connectStandaloneSSE` rewritten with the
monitor's `declined` (`openAnswer_eq`, `openStandalone_eq`; the proofs about an answered opening go through them), the
clauses on the model, and the bridge of the opening monitor (`omonitor`).
-/
namespace ClientWrite

theorem open_attempts_bounded (s : OScn) : POBound s (oobsOf (openStandalone s)) := by
  unfold POBound openStandalone oobsOf
  split <;> simp <;> omega

theorem openAnswer_eq (strict : Bool) (c : Nat) (sse : Bool) :
    openAnswer strict (.st c sse) =
      if declined strict (.st c sse) then (.usable, false)
      else if 200 ≤ c ∧ c < 300 then (.usable, true) else (.dead, false) := by
  simp only [openAnswer, declined]
  split
  · simp [*]
  split
  · simp [*]
  split
  · simp [*]
  simp [*]

theorem openStandalone_eq (s : OScn) (h : s.fails < s.mr + 1) :
    openStandalone s = { gets := s.fails + 1, conn := (openAnswer s.strict s.ans).1, stream := (openAnswer s.strict s.ans).2 } := by
  simp [openStandalone, Nat.not_le.2 h]

theorem declined_keeps_connection (s : OScn) (h : s.fails < s.mr + 1) (hd : declined s.strict s.ans = true) :
    (openStandalone s).conn = .usable ∧ (openStandalone s).stream = false := by
  rcases hs : s.ans with ⟨c, sse⟩
  simp [openStandalone_eq s h, hs, openAnswer_eq, hs ▸ hd]

/-- In strict mode a 4xx other than 405 under an event-stream content type fails the connection. -/
theorem strict_4xx_fails_connection (s : OScn) (h : s.fails < s.mr + 1) (hs : s.strict = true) (c : Nat)
    (ha : s.ans = .st c true) (h4 : 400 ≤ c ∧ c < 500) (hn : c ≠ Generated.ClientWrite.standaloneNotOffered) :
    (openStandalone s).conn = .dead := by
  have h2 : ¬ (200 ≤ c ∧ c < 300) := by omega
  simp [openStandalone_eq s h, openAnswer_eq, ha, declined, hs, hn, h2]

theorem exhausted_fails_connection (s : OScn) (h : s.fails ≥ s.mr + 1) : (openStandalone s).conn = .dead := by
  simp [openStandalone, h]

theorem stream_only_after_2xx_sse (s : OScn) (h : (openStandalone s).stream = true) :
    ∃ c, s.ans = .st c true ∧ 200 ≤ c ∧ c < 300 ∧ (openStandalone s).conn = .usable := by
  by_cases hf : s.fails < s.mr + 1
  · rcases hs : s.ans with ⟨c, sse⟩
    rw [openStandalone_eq s hf, hs, openAnswer_eq] at h ⊢
    refine ⟨c, ?_⟩
    split at h
    · cases h
    · rename_i hd
      split at h
      · rename_i hc
        have : sse = true := by simp [declined] at hd; exact hd.1.2
        simp [this, hc, if_neg (this ▸ hd)]
      · cases h
  · simp [openStandalone, Nat.le_of_not_lt hf] at h

def OClause.pred (s : OScn) (o : OObs) : OClause → Prop
  | .bound => POBound s o
  | .declined => PODeclined s o
  | .exhausted => POExhausted s o

instance (s : OScn) (o : OObs) : DecidablePred (OClause.pred s o) := fun cl => by
  cases cl <;> dsimp only [OClause.pred] <;> infer_instance

theorem omonitor_eq (s : OScn) (o : OObs) :
    omonitor s o = firstViolated (OClause.pred s o) [.bound, .declined, .exhausted] := by
  simp only [firstViolated_cons]; rfl

theorem omonitor_none_iff (s : OScn) (o : OObs) :
    omonitor s o = none ↔ (POBound s o ∧ PODeclined s o ∧ POExhausted s o) := by
  simp only [omonitor_eq, firstViolated_cons_none, firstViolated_nil, and_true]; rfl

theorem omonitor_sound (s : OScn) (o : OObs) (cl : OClause) (h : omonitor s o = some cl) : ¬ cl.pred s o :=
  firstViolated_sound (omonitor_eq s o ▸ h)

theorem omonitor_accepts_model (s : OScn) : omonitor s (oobsOf (openStandalone s)) = none := by
  rw [omonitor_none_iff]
  refine ⟨open_attempts_bounded s, ?_, ?_⟩
  · intro ⟨h, hd⟩ hx
    have := (declined_keeps_connection s h hd).1
    simp [oobsOf, this] at hx
  · intro h hx
    have := exhausted_fails_connection s h
    simp [oobsOf, this] at hx

theorem sound_obound (s : OScn) (o : OObs) (h : omonitor s o = some .bound) : ¬ POBound s o :=
  omonitor_sound s o _ h
theorem sound_odeclined (s : OScn) (o : OObs) (h : omonitor s o = some .declined) :
    s.fails < s.mr + 1 ∧ declined s.strict s.ans = true ∧ o.probe = .err := by
  simpa [PODeclined, and_assoc] using show ¬ PODeclined s o from omonitor_sound s o _ h
theorem sound_oexhausted (s : OScn) (o : OObs) (h : omonitor s o = some .exhausted) :
    s.fails ≥ s.mr + 1 ∧ o.probe = .ok := by
  simpa [POExhausted] using show ¬ POExhausted s o from omonitor_sound s o _ h

example : openStandalone { ans := .st 500 false } = { gets := 1, conn := .usable, stream := false } := by decide
example : openStandalone { ans := .st 500 true } = { gets := 1, conn := .dead, stream := false } := by decide
example : openStandalone { ans := .st 404 true, fails := 2 } = { gets := 3, conn := .usable, stream := false } := by decide
example : openStandalone { fails := 6 } = { gets := 6, conn := .dead, stream := false } := by decide

end ClientWrite
