import McpModel.ClientWrite.Close
import McpModel.ClientWrite.Props
/-!
Theorems about `ClientSession.Close` while a message is on its way (Close.lean): what the model says of Close, and the
bridge of the Close monitor (`cmonitor`).
-/
namespace ClientWrite

/-- Close cancels nothing.  In this model that is a property of the DEFINITION: `run` does not read `Scn.close` at all
(the transliteration of jsonrpc2 `Connection.Close`, which waits and cancels nothing; the correspondence stream compares
it with the code).  The statement records it; it proves nothing beyond that. -/
theorem close_cancels_nothing (s : Scn) (b : Bool) : run { s with close := b } = run s := by
  simp [run, tsFails, retryEnds]

theorem close_returns_iff_message_ends (s : Scn) : closeReturns (run s) = true ↔ (run s).end_ ≠ .blocked := by
  simp [closeReturns]

/-- **C01.** Once the caller's context has ended, Close returns — whatever the peer answered or did not answer,
whatever state the message was in (POST in flight, body or stream pending, reconnection, authorization). -/
theorem close_returns_once_ctx_ended (s : Scn) (h : s.cancel = true) : closeReturns (run s) = true := by
  simpa [closeReturns] using never_blocked_after_ctx_end s h

theorem close_blocked_only_if_pending (s : Scn) (h : closeReturns (run s) = false) :
    pending s (run s).posts = true := by
  have : (run s).end_ = .blocked := by simpa [closeReturns] using h
  exact blocked_only_if_pending s ((obs_hang _).2 this)

def CClause.pred (s : Scn) (o : CObs) : CClause → Prop
  | .returns => PCReturns s o
  | .ctx => PCCtx s o
  | .late => PCLate s o
  | .leak => PCLeak s o

instance (s : Scn) (o : CObs) : DecidablePred (CClause.pred s o) := fun cl => by
  cases cl <;> dsimp only [CClause.pred] <;> infer_instance

theorem cmonitor_eq (s : Scn) (o : CObs) :
    cmonitor s o = firstViolated (CClause.pred s o) [.returns, .ctx, .late, .leak] := by
  simp only [firstViolated_cons]; rfl

theorem cmonitor_sound (s : Scn) (o : CObs) (cl : CClause) (h : cmonitor s o = some cl) : ¬ cl.pred s o :=
  firstViolated_sound (cmonitor_eq s o ▸ h)

theorem cmonitor_none_iff (s : Scn) (o : CObs) : cmonitor s o = none ↔ CSpec s o := by
  simp only [cmonitor_eq, firstViolated_cons_none, firstViolated_nil, and_true]; rfl

theorem cmonitor_accepts_model (s : Scn) : cmonitor s (cobsOf s) = none := by
  rw [cmonitor_none_iff]
  refine ⟨?_, ?_, ?_, ?_⟩
  · intro h
    simp only [cobsOf] at h ⊢
    rw [close_returns_iff_message_ends]
    intro hb; exact h ((obs_hang _).2 hb)
  · intro hc
    simp only [cobsOf]
    refine ⟨close_returns_once_ctx_ended s hc, ?_⟩
    intro hx; exact never_blocked_after_ctx_end s hc ((obs_hang _).1 hx)
  · simp only [PCLate, cobsOf]; split <;> simp
  · simp [PCLeak, cobsOf]

theorem sound_creturns (s : Scn) (o : CObs) (h : cmonitor s o = some .returns) : o.end_ ≠ .hang ∧ o.final = false := by
  simpa [PCReturns] using show ¬ PCReturns s o from cmonitor_sound s o _ h
theorem sound_cctx (s : Scn) (o : CObs) (h : cmonitor s o = some .ctx) : ¬ PCCtx s o := cmonitor_sound s o _ h
theorem sound_clate (s : Scn) (o : CObs) (h : cmonitor s o = some .late) : o.probe = .ok ∨ o.probe = .err :=
  Decidable.or_iff_not_not_and_not.2 (cmonitor_sound s o _ h)
theorem sound_cleak (s : Scn) (o : CObs) (h : cmonitor s o = some .leak) : o.leak = true := by
  simpa [PCLeak] using show ¬ PCLeak s o from cmonitor_sound s o _ h

/-- the reconnection GET of the call's stream is accepted and never answered, the caller has no deadline: Close waits for ever (as built) -/
example : (cobsOf { close := true, a1 := .ok .sseCutH true }).final = false := by decide
/-- the same with a caller whose context ends: Close returns, the call fails with the context's error -/
example : cobsOf { close := true, cancel := true, a1 := .ok .sseCutH true } =
    { at1m := false, final := true, leak := false, end_ := .err, probe := .closed } := by decide

end ClientWrite
