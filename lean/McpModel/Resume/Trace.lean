import McpModel.Resume.Model
import McpModel.Resume.Monitor
/-!
E5 — the observation a model step emits: a record of the type (`Mon.Obs`) the driver parses out of the
harness' tokens — exchanges opened, store appends, every write to every exchange (delivered or lost), the
snapshot of `streams` — computed as the difference between the connection before and after the step(s) of
one record.  `traceOf` is the observation trace of a run that is cut into records (groups of labels, as the
driver's operations are); `traceOf1` has one record per label.

Payloads on the wire are the opaque `α` of the model (`payloadOf`); the ghost fields of the model
(`Item.ctx`, `Exch.stream`, `Exch.from`, `Stream.calls`, `Conn.hist`, `Conn.born`) are not part of the observation.
Used by the proofs only (the driver renders the model's observation by code of its own).  Core Lean only.
-/
namespace Resume
open Mon

variable {α σ : Type}

def payloadOf (it : Item α) : α :=
  match it.msg with
  | .resp _ p => p
  | .notif p => p
  | .call p => p

def toEvId : Option (Nat × Nat) → EvId
  | none => .none
  | some (s, i) => .ok s i

/-- one write as it appears on the wire -/
def toMOut : Out α → MOut α
  | .comment => .comment
  | .prime sid i => .prime (.ok sid i)
  | .message id it => .message (toEvId id) (payloadOf it)
  | .close => .close
  | .json items => .json (items.map payloadOf)

def rowOf (s : Stream α) : Row :=
  { t := s.id, att := s.attached, opn := s.opn, next := s.next, sse := s.json.isNone }

def obsHdr : Hdr → ObsHdr
  | .none => .absent
  | .bad => .bad
  | .ok s i => .ok s i

def originOfLabel : Label α → Origin
  | .post calls listen ver _ => .post calls listen ver.isNew
  | .get hdr ver _ => .get (obsHdr hdr) ver.isNew
  | _ => .other

/-- the origin of a record: its (first) exchange-opening label -/
def originOfGroup : List (Label α) → Origin
  | [] => .other
  | l :: t => if l.opens then originOfLabel l else originOfGroup t

/-- the writes exchange `j` received between `c` and `c'`: delivered ones, then lost ones -/
def newEvents (c c' : Conn α) (j : Nat) : List (Bool × Out α) :=
  match c'.exs[j]? with
  | none => []
  | some e' =>
    (e'.out.drop (((c.exs[j]?).map (·.out.length)).getD 0)).map (fun o => (false, o)) ++
    (e'.lost.drop (((c.exs[j]?).map (·.lost.length)).getD 0)).map (fun o => (true, o))

/-- all writes of the record, by exchange -/
def sentM (c c' : Conn α) : List (Nat × Bool × Out α) :=
  (List.range c'.exs.length).flatMap fun j => (newEvents c c' j).map fun x => (j, x.1, x.2)

def toSent (x : Nat × Bool × Out α) : Sent α := { k := x.1, lost := x.2.1, out := toMOut x.2.2 }

def isSSE (e : Exch α) : Bool :=
  match e.kind with
  | .sse => true
  | _ => false

def openedOf (c c' : Conn α) : List (Nat × Bool) :=
  (List.range' c.exs.length (c'.exs.length - c.exs.length)).map fun j => (j, ((c'.exs[j]?).map isSSE).getD false)

/-- the entries appended to the log of `sid` -/
def newLog (c c' : Conn α) (sid : Nat) : List (Option (Item α)) :=
  ((c'.store sid).getD []).drop ((c.store sid).getD []).length

/-- grouped by stream, not in the order they happened (the monitor's logs are per stream).  `check := true`: the driver clears the
flag only for the store session all stateless connections share. -/
def appendsOf (sn : σ) (c c' : Conn α) : List (Append σ α) :=
  (List.range c'.nextSid).flatMap fun sid =>
    (newLog c c' sid).map fun x => { sess := sn, stream := sid, p := x.map payloadOf, check := true }

/-- the evictions of the record: the streams whose log the store now holds from a later index on -/
def purgesOf (sn : σ) (c c' : Conn α) : List (σ × Nat × Nat) :=
  (List.range c'.nextSid).flatMap fun sid => if c'.purged sid = c.purged sid then [] else [(sn, sid, c'.purged sid)]

/-- the observation of one record: the connection went from `c` to `c'` (`newProto := false`: a `Conn` has no session version) -/
def obsOf (sn : σ) (og : Origin) (c c' : Conn α) : Obs σ α :=
  { sess := sn, origin := og, opened := openedOf c c', appends := appendsOf sn c c',
    sent := (sentM c c').map toSent,
    snaps := [{ sess := sn, newProto := false, rows := c'.streams.map rowOf }],
    purges := purgesOf sn c c' }

def traceOf (sn : σ) : Conn α → List (List (Label α)) → List (Obs σ α)
  | _, [] => []
  | c, g :: gs => obsOf sn (originOfGroup g) c (run c g) :: traceOf sn (run c g) gs

def traceOf1 (sn : σ) (c : Conn α) (ls : List (Label α)) : List (Obs σ α) :=
  traceOf sn c (ls.map fun l => [l])

end Resume
