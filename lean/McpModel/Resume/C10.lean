import McpModel.Resume.Step
/-!
E5 — the C10 invariant (`Inv10`): the routing specification `Routed` holds for every message that was ever
written to an exchange, buffered for a JSON response or appended to the store, on *all* label lists.

The part about messages is proved for an arbitrary per-message predicate `P c sid it` ("message `it` may sit on
stream `sid`", `InvMsg`): a label writes nothing but what `Wrote` lists, buffers and stores nothing but the message
of its own write (`sub_outs`, `sub_streams`, `sub_log`), so `P` need only hold where the write is routed to and
survive the step.  `Routed` is one instance; the provenance tags of the C10 bridge are another.
-/
namespace Resume
variable {α : Type}

/-- The routing specification of C10: may a message with this provenance travel on stream `sid`?
* a response only on the stream that was created for (a POST containing) the request it answers;
* a notification / server→client request issued with a request's context, in SSE mode: on that request's stream;
* in JSON-response mode, or issued with a detached context: on the standalone stream (id 0) or a
  `subscriptions/listen` stream. -/
def Routed (c : Conn α) (sid : Nat) (it : Item α) : Prop :=
  ∃ calls li, c.hist sid = some (calls, li) ∧
    match it.msg with
    | .resp r _ => r ∈ calls
    | _ => (c.cfg.jsonResponse = false ∧ ∃ r, it.ctx = some r ∧ r ∈ calls) ∨
           ((c.cfg.jsonResponse = true ∨ it.ctx = none) ∧ (sid = 0 ∨ li = true))

theorem routed_mono {c c' : Conn α} (hc : c'.cfg = c.cfg) (hh : ∀ sid v, c.hist sid = some v → c'.hist sid = some v)
    {sid : Nat} {it : Item α} (h : Routed c sid it) : Routed c' sid it := by
  obtain ⟨calls, li, hhist, hm⟩ := h
  exact ⟨calls, li, hh sid _ hhist, by rw [hc]; exact hm⟩

structure Inv10 (c : Conn α) : Prop where
  hist_lt : ∀ sid, (c.hist sid).isSome → sid < c.nextSid
  req_hist : ∀ (r sid : Nat), c.reqStreams r = some sid → ∃ calls li, c.hist sid = some (calls, li) ∧ r ∈ calls
  str_hist : ∀ s ∈ c.streams, c.hist s.id = some (s.calls, s.listen) ∧ (∀ r ∈ s.requests, r ∈ s.calls)
  pend : ∀ s ∈ c.streams, ∀ p, s.json = some p → ∀ it ∈ p, Routed c s.id it
  routed_ex : ∀ (j : Nat) (e : Exch α), c.exs[j]? = some e → ∀ o ∈ e.all, ∀ it ∈ o.items, Routed c e.stream it
  routed_log : ∀ (sid : Nat) (log : List (Option (Item α))), c.store sid = some log → ∀ it, some it ∈ log → Routed c sid it

/-- no stream was added and none changed what `Inv10` and `InvReg` read (`StreamsRel` and `StrSame` keep the attachment fields instead) -/
def StrKeep (l l' : List (Stream α)) : Prop :=
  ∀ s' ∈ l', ∃ s ∈ l, s'.id = s.id ∧ s'.calls = s.calls ∧ s'.listen = s.listen ∧ s'.requests = s.requests ∧ s'.json = s.json

theorem StrKeep.refl (l : List (Stream α)) : StrKeep l l := fun s hs => ⟨s, hs, rfl, rfl, rfl, rfl, rfl⟩

theorem strKeep_release (l : List (Stream α)) (ex : Nat) : StrKeep l (release ex l) := by
  intro s' hs'
  obtain ⟨s, hs, h | h⟩ := mem_release hs'
  · obtain ⟨_, rfl⟩ := h; exact ⟨s, hs, rfl, rfl, rfl, rfl, rfl⟩
  · obtain ⟨_, rfl⟩ := h; exact ⟨s', hs, rfl, rfl, rfl, rfl, rfl⟩

theorem strKeep_set {l : List (Stream α)} {s s' : Stream α} (hs : s ∈ l) (h1 : s'.id = s.id) (h2 : s'.calls = s.calls)
    (h3 : s'.listen = s.listen) (h4 : s'.requests = s.requests) (h5 : s'.json = s.json) : StrKeep l (setStream s' l) := by
  intro x hx
  rcases mem_setStream hx with rfl | ⟨hxl, _⟩
  · exact ⟨s, hs, h1, h2, h3, h4, h5⟩
  · exact ⟨x, hxl, rfl, rfl, rfl, rfl, rfl⟩

/-- exchange tables whose new writes carry no messages (comment, close event, priming event) -/
def ExNoMsg (exs exs' : List (Exch α)) : Prop :=
  ∀ (j : Nat) (e' : Exch α), exs'[j]? = some e' →
    (∃ e, exs[j]? = some e ∧ e'.stream = e.stream ∧ ∀ o ∈ e'.all, o ∈ e.all ∨ o.items = []) ∨
    (∀ o ∈ e'.all, o.items = [])

def ExNo (Q : Out α → Prop) (exs exs' : List (Exch α)) : Prop :=
  ∀ (j : Nat) (e' : Exch α), exs'[j]? = some e' →
    (∃ e, exs[j]? = some e ∧ e'.stream = e.stream ∧ ∀ o ∈ e'.all, o ∈ e.all ∨ Q o) ∨ (∀ o ∈ e'.all, Q o)

theorem ExNo.trans {Q : Out α → Prop} {a b c : List (Exch α)} (h₁ : ExNo Q a b) (h₂ : ExNo Q b c) : ExNo Q a c := by
  intro j e'' h
  rcases h₂ j e'' h with ⟨e', he', s2, r2⟩ | hall
  · rcases h₁ j e' he' with ⟨e, he, s1, r1⟩ | hall1
    · exact Or.inl ⟨e, he, s2.trans s1, fun o ho => (r2 o ho).elim (r1 o) Or.inr⟩
    · exact Or.inr (fun o ho => (r2 o ho).elim (hall1 o) id)
  · exact Or.inr hall

theorem ExNoMsg.trans {a b c : List (Exch α)} (h₁ : ExNoMsg a b) (h₂ : ExNoMsg b c) : ExNoMsg a c :=
  ExNo.trans (Q := fun o => o.items = []) h₁ h₂

/-- every write on `exs'` was on `exs` already (same exchange, same stream), or is a `Q` of the stream its exchange serves -/
def OutsBy (Q : Nat → Out α → Prop) (exs exs' : List (Exch α)) : Prop :=
  ∀ (j : Nat) (e' : Exch α), exs'[j]? = some e' → ∀ o ∈ e'.all,
    (∃ e, exs[j]? = some e ∧ e'.stream = e.stream ∧ o ∈ e.all) ∨ Q e'.stream o

section OutsBy
variable {Q Q' : Nat → Out α → Prop}

theorem OutsBy.refl (exs : List (Exch α)) : OutsBy Q exs exs := fun _ e' h _ ho => Or.inl ⟨e', h, rfl, ho⟩

theorem outsBy_setEx (exs : List (Exch α)) (ex : Nat) (f : Exch α → Exch α)
    (hf : ∀ e, exs[ex]? = some e → (f e).stream = e.stream ∧ ∀ o ∈ (f e).all, o ∈ e.all ∨ Q e.stream o) :
    OutsBy Q exs (setEx ex f exs) := by
  intro j e' h o ho
  rcases setEx_get h with ⟨rfl, a, ha, rfl⟩ | ⟨_, h'⟩
  · obtain ⟨hs, hall⟩ := hf a ha
    exact (hall o ho).imp (fun ho' => ⟨a, ha, hs, ho'⟩) (fun hq => hs ▸ hq)
  · exact Or.inl ⟨e', h', rfl, ho⟩

theorem outsBy_touch (exs : List (Exch α)) (x : Nat) (ws : List (Out α)) (fin : Bool)
    (hq : ∀ e, exs[x]? = some e → ∀ o ∈ ws, Q e.stream o) : OutsBy Q exs (setEx x (Exch.touch ws fin) exs) :=
  outsBy_setEx _ _ _ (fun e he => ⟨touch_stream e ws fin, fun o ho => (mem_touch_all ho).imp id (hq e he o)⟩)

theorem outsBy_finishX (exs : List (Exch α)) (ex : Nat) : OutsBy Q exs (finishX exs ex) :=
  outsBy_touch exs ex [] true (fun _ _ _ ho => by cases ho)

theorem outsBy_emitX (exs : List (Exch α)) (ex : Nat) (o : Out α) (hq : ∀ e, exs[ex]? = some e → Q e.stream o) :
    OutsBy Q exs (emitX exs ex o).1 := by
  rw [emitX_fst]
  exact outsBy_touch exs ex [o] false (fun e he o' ho' => by rw [List.mem_singleton.mp ho']; exact hq e he)

theorem outsBy_append (exs : List (Exch α)) (e : Exch α) (he : ∀ o ∈ e.all, Q e.stream o) : OutsBy Q exs (exs ++ [e]) := by
  intro j e' h o ho
  by_cases hj : j < exs.length
  · rw [List.getElem?_append_left hj] at h
    exact Or.inl ⟨e', h, rfl, ho⟩
  · rw [List.getElem?_append_right (by omega)] at h
    have := List.mem_of_getElem? h
    simp at this; subst this
    exact Or.inr (he o ho)

end OutsBy

theorem sub_outs {c c₁ : Conn α} {l : Label α} (hw : Inv c) (hs : Sub c l c₁) : OutsBy (Wrote c l) c.exs c₁.exs :=
  sub_rel hw hs (fun x ws fin hx => outsBy_touch _ x ws fin (fun e he => (hx e he).2))
    (fun e₀ ws fin h1 h2 _ hq => outsBy_append _ _ (fun o ho => by
      rw [touch_stream]
      rcases mem_touch_all ho with h | h
      · simp [Exch.all, h1, h2] at h
      · exact hq o h))
    (fun x => outsBy_setEx _ _ _ (fun _ _ => ⟨rfl, fun _ ho => Or.inl ho⟩))

theorem tail_outs {Q : Nat → Out α → Prop} {c c₁ : Conn α} (ht : Tail c c₁) : OutsBy Q c.exs c₁.exs := by
  rcases tail_table ht with h | ⟨ex, h⟩ <;> rw [h]
  · exact OutsBy.refl _
  · exact outsBy_finishX _ _

/-- a stream after a label: an old one (no request added, the JSON buffer at most extended by the label's own write),
or the one a POST just registered (`hist'` is the ghost history after the label) -/
def StreamOf (c : Conn α) (l : Label α) (hist' : Nat → Option (List Nat × Bool)) (s' : Stream α) : Prop :=
  (∃ s ∈ c.streams, s'.id = s.id ∧ s'.calls = s.calls ∧ s'.listen = s.listen ∧ (∀ r ∈ s'.requests, r ∈ s.requests) ∧
    (s'.json = s.json ∨ ∃ pend msg ctx, s.json = some pend ∧ s'.json = some (pend ++ [⟨msg, ctx⟩]) ∧ WriteOf c l s.id msg ctx)) ∨
  (∃ calls listen ver budget, l = .post calls listen ver budget ∧ s' = newStream c (dedup calls) listen ver ∧
    hist' c.nextSid = some (dedup calls, listen))

theorem streamOf_keep {c : Conn α} {l : Label α} {hist' : Nat → Option (List Nat × Bool)} {strs : List (Stream α)}
    (h : StrKeep c.streams strs) : ∀ s' ∈ strs, StreamOf c l hist' s' := by
  intro s' hs'
  obtain ⟨s, hs, h1, h2, h3, h4, h5⟩ := h s' hs'
  exact Or.inl ⟨s, hs, h1, h2, h3, fun r hr => h4 ▸ hr, Or.inl h5⟩

theorem streamOf_writeTo {c : Conn α} {l : Label α} {hist' : Nat → Option (List Nat × Bool)} {s : Stream α} (hmem : s ∈ c.streams) (msg : Msg α) (ctx : Option Nat)
    (evid : Option (Nat × Nat)) (hwr : WriteOf c l s.id msg ctx) :
    ∀ s' ∈ (if wDone s msg then delStream s.id c.streams
        else setStream (deliver c.exs s ⟨msg, ctx⟩ evid (wReqs s msg) (wDone s msg)).2.1 c.streams), StreamOf c l hist' s' := by
  have hds := deliver_stream c.exs s ⟨msg, ctx⟩ evid (wReqs s msg) (wDone s msg)
  intro s' hs'
  split at hs'
  · rw [mem_delStream] at hs'
    exact streamOf_keep (StrKeep.refl _) s' hs'.1
  · rcases mem_setStream hs' with rfl | ⟨hxl, _⟩
    · exact Or.inl ⟨s, hmem, hds.1, hds.2.2.2.2.1, hds.2.2.2.2.2.1, fun r hr => mem_wReqs (hds.2.2.2.1 ▸ hr),
        hds.2.2.2.2.2.2.imp id fun ⟨pend, hp, hj⟩ => ⟨pend, msg, ctx, hp, hj, hwr⟩⟩
    · exact streamOf_keep (StrKeep.refl _) s' hxl

theorem getGo_strKeep (c : Conn α) (sid frm : Nat) (ver : Ver) (budget : Option Nat) (items : List (Item α)) :
    StrKeep c.streams (getGo c sid frm ver budget items).streams := by
  intro s' hs'
  rcases getGo_rows c sid frm ver budget items s' hs' with h | ⟨s, h, _, rfl⟩ | ⟨s, _, hs, rfl⟩
  · exact ⟨s', h, rfl, rfl, rfl, rfl, rfl⟩
  · exact ⟨s, h, rfl, rfl, rfl, rfl, rfl⟩
  · exact ⟨s, (findStream_some hs).1, rfl, rfl, rfl, rfl, rfl⟩

theorem sub_streams {c c₁ : Conn α} {l : Label α} (hs : Sub c l c₁) : ∀ s' ∈ c₁.streams, StreamOf c l c₁.hist s' := by
  cases hs with
  | register calls listen ver budget =>
    intro s' hs'
    rw [(postPrimed_frame _ _ _ _ _).streams] at hs'
    rcases List.mem_append.mp hs' with hs' | hs'
    · exact streamOf_keep (StrKeep.refl _) s' hs'
    · simp at hs'
      exact Or.inr ⟨calls, listen, ver, budget, rfl, hs', by rw [(postPrimed_frame _ _ _ _ _).hist]; simp⟩
  | cut ex => exact streamOf_keep (strKeep_release _ _)
  | getGo hdr ver budget items => exact streamOf_keep (getGo_strKeep _ _ _ _ _ _)
  | erase _ msg => simp only [eraseResp_streams]; exact streamOf_keep (StrKeep.refl _)
  | write msg ctx ctxNew s hr =>
    have h := streamOf_writeTo (l := .write msg ctx ctxNew) (hist' := c.hist) (route_mem hr) msg ctx
      (if wUse (eraseResp c msg) ctxNew then some (s.id, s.next) else none) ⟨rfl, rfl, s, hr, rfl⟩
    simpa [writeTo, wDeliver] using h
  | route msg => simp only [eraseResp_streams]; exact streamOf_keep (StrKeep.refl _)
  | deliver i pw s hpw hs =>
    obtain ⟨hmem, hid⟩ := findStream_some hs
    exact streamOf_writeTo (l := .wdeliver i) hmem pw.msg pw.ctx _ ⟨pw, hpw, hid.symm, rfl, rfl⟩
  | _ => exact streamOf_keep (StrKeep.refl _)

theorem tail_strKeep {c c₁ : Conn α} (ht : Tail c c₁) : StrKeep c.streams c₁.streams := by
  cases ht with
  | none => exact StrKeep.refl _
  | cut ex => exact strKeep_release _ _
  | close s ex hs => exact strKeep_set (s := s) hs rfl rfl rfl rfl rfl

/-- every message in a log of `st` was in `c`'s log of that stream, or is the message of the label's own write, routed there -/
def LogOf (c : Conn α) (l : Label α) (st : Store α) : Prop :=
  ∀ sid log, st sid = some log → ∀ it, some it ∈ log →
    (∃ log₀, c.store sid = some log₀ ∧ some it ∈ log₀) ∨ WriteOf c l sid it.msg it.ctx

theorem logOf_append {c : Conn α} {l : Label α} (sid : Nat) (msg : Msg α) (ctx : Option Nat) (hwr : WriteOf c l sid msg ctx) :
    LogOf c l (appendLog sid (some ⟨msg, ctx⟩) c.store) := by
  intro k log hl it hit
  by_cases hk : k = sid
  · subst hk
    simp only [appendLog_same, Option.some.injEq] at hl
    subst hl
    rcases List.mem_append.mp hit with hit | hit
    · cases hc : c.store k with
      | none => rw [hc] at hit; simp at hit
      | some l₀ => rw [hc] at hit; exact Or.inl ⟨l₀, rfl, by simpa using hit⟩
    · simp at hit; subst hit; exact Or.inr hwr
  · rw [appendLog_other _ _ _ _ hk] at hl; exact Or.inl ⟨log, hl, hit⟩

theorem logOf_refl (c : Conn α) (l : Label α) : LogOf c l c.store := fun _ log hl _ hit => Or.inl ⟨log, hl, hit⟩

theorem sub_log {c c₁ : Conn α} {l : Label α} (hw : Inv c) (hs : Sub c l c₁) : LogOf c l c₁.store := by
  cases hs with
  | dup calls listen ver budget =>
    intro sid log hl it hit
    simp only [postDup, statusEx] at hl
    split at hl
    · by_cases hk : sid = c.nextSid
      · subst hk; simp [store_fresh hw] at hl; subst hl; cases hit
      · rw [openLog_other _ _ _ hk] at hl; exact Or.inl ⟨log, hl, hit⟩
    · exact Or.inl ⟨log, hl, hit⟩
  | register calls listen ver budget =>
    intro sid log hl it hit
    rw [(postPrimed_frame _ _ _ _ _).store] at hl
    by_cases hk : sid = c.nextSid
    · subst hk; exact absurd hit (postStore_new_log listen ver (store_fresh hw) log hl it)
    · rw [postStore_other _ _ _ _ hk] at hl; exact Or.inl ⟨log, hl, hit⟩
  | getGo hdr ver budget items =>
    have h := getGo_only_exs_streams c hdr.sid hdr.from ver budget items
    rw [h]; exact logOf_refl c _
  | erase _ msg => simp only [eraseResp_store]; exact logOf_refl c _
  | write msg ctx ctxNew s hr =>
    simp only [writeTo, eraseResp_store]
    split
    · exact logOf_append s.id msg ctx ⟨rfl, rfl, s, hr, rfl⟩
    · exact logOf_refl c _
  | route msg => simp only [eraseResp_store]; exact logOf_refl c _
  | deliver i pw s hpw hs =>
    simp only [writeTo]
    split
    · exact logOf_append s.id pw.msg pw.ctx ⟨pw, hpw, (findStream_some hs).2.symm, rfl, rfl⟩
    · exact logOf_refl c _
  | orphan i pw hpw =>
    simp only [orphanWrite]
    split
    · exact logOf_append pw.sid pw.msg pw.ctx ⟨pw, hpw, rfl, rfl, rfl⟩
    · exact logOf_refl c _
  | _ => exact logOf_refl c _

theorem tail_store {c c₁ : Conn α} (ht : Tail c c₁) : c₁.store = c.store := by
  cases ht <;> rfl

structure InvMsg (P : Conn α → Nat → Item α → Prop) (c : Conn α) : Prop where
  pend : ∀ s ∈ c.streams, ∀ p, s.json = some p → ∀ it ∈ p, P c s.id it
  ex : ∀ (j : Nat) (e : Exch α), c.exs[j]? = some e → ∀ o ∈ e.all, ∀ it ∈ o.items, P c e.stream it
  log : ∀ (sid : Nat) (log : List (Option (Item α))), c.store sid = some log → ∀ it, some it ∈ log → P c sid it

/-- what a write label must guarantee: `P` holds on the stream the write is routed to -/
def RouteOK (P : Conn α → Nat → Item α → Prop) (c : Conn α) : Label α → Prop
  | .write msg ctx _ => ∀ s, route c msg ctx = some s → P c s.id ⟨msg, ctx⟩
  | .wroute msg ctx _ => ∀ s, route c msg ctx = some s → P c s.id ⟨msg, ctx⟩
  | _ => True

def PendP (P : Conn α → Nat → Item α → Prop) (c : Conn α) : Prop := ∀ pw ∈ c.pendW, P c pw.sid ⟨pw.msg, pw.ctx⟩

section InvMsg
variable {P : Conn α → Nat → Item α → Prop}

theorem invMsg_init (cfg : Cfg) : InvMsg P (init cfg : Conn α) := by
  refine ⟨?_, ?_, ?_⟩
  · intro s hs p hp; obtain rfl := List.mem_singleton.mp hs; cases hp
  · intro j e he; cases he
  · intro sid log hl it hit
    simp only [init] at hl
    split at hl
    · cases hl; cases hit
    · cases hl

theorem pendP_init (cfg : Cfg) : PendP P (init cfg : Conn α) := fun pw h => by cases h

theorem writeOf_ok {c : Conn α} {l : Label α} (hl : RouteOK P c l) (hpp : PendP P c) {sid : Nat} {msg : Msg α}
    {ctx : Option Nat} (h : WriteOf c l sid msg ctx) : P c sid ⟨msg, ctx⟩ := by
  cases l with
  | write m x n => obtain ⟨rfl, rfl, s, hr, rfl⟩ := h; exact hl s hr
  | wdeliver i => obtain ⟨pw, hpw, rfl, rfl, rfl⟩ := h; exact hpp pw (List.mem_of_getElem? hpw)
  | _ => cases h

theorem wrote_items {c : Conn α} {l : Label α} (h : InvMsg P c)
    (hok : ∀ sid msg ctx, WriteOf c l sid msg ctx → P c sid ⟨msg, ctx⟩) {sid : Nat} {o : Out α} (hq : Wrote c l sid o) :
    ∀ it ∈ o.items, P c sid it := by
  intro it hit
  cases hq with
  | comment => cases hit
  | close => cases hit
  | prime => cases hit
  | replay k it' hlog =>
    simp [Out.items] at hit; subst hit
    obtain ⟨log, hl, hm⟩ := hlog
    exact h.log _ log hl _ hm
  | message msg ctx evid hwr => simp [Out.items] at hit; subst hit; exact hok _ _ _ hwr
  | json msg ctx s pend hwr hs hid hp =>
    simp only [Out.items] at hit
    rcases List.mem_append.mp hit with hit | hit
    · rw [← hid]; exact h.pend s hs pend hp it hit
    · simp at hit; subst hit; exact hok _ _ _ hwr

theorem invMsg_of {c c₁ : Conn α} {l : Label α} {Q : Nat → Out α → Prop} (h : InvMsg P c)
    (hmono : ∀ sid it, P c sid it → P c₁ sid it) (hok : ∀ sid msg ctx, WriteOf c l sid msg ctx → P c sid ⟨msg, ctx⟩)
    (hstr : ∀ s' ∈ c₁.streams, StreamOf c l c₁.hist s') (hex : OutsBy Q c.exs c₁.exs)
    (hQ : ∀ sid o, Q sid o → ∀ it ∈ o.items, P c sid it) (hlog : LogOf c l c₁.store) : InvMsg P c₁ := by
  refine ⟨?_, ?_, ?_⟩
  · intro s' hs' p hp it hit
    apply hmono
    rcases hstr s' hs' with ⟨s, hs, h1, _, _, _, hj⟩ | ⟨_, _, _, _, _, rfl, _⟩
    · rw [h1]
      rcases hj with hj | ⟨pend, msg, ctx, hj, hj', hwr⟩
      · exact h.pend s hs p (hj ▸ hp) it hit
      · rw [hp] at hj'; cases hj'
        rcases List.mem_append.mp hit with hit | hit
        · exact h.pend s hs pend hj it hit
        · simp at hit; subst hit; exact hok _ _ _ hwr
    · simp only [newStream] at hp
      split at hp <;> cases hp
      cases hit
  · intro j e' he' o ho it hit
    apply hmono
    rcases hex j e' he' o ho with ⟨e, he, hs, ho'⟩ | hq
    · rw [hs]; exact h.ex j e he o ho' it hit
    · exact hQ _ o hq it hit
  · intro sid log hl' it hit
    apply hmono
    rcases hlog sid log hl' it hit with ⟨log₀, h0, hm⟩ | hwr
    · exact h.log sid log₀ h0 it hm
    · exact hok _ _ _ hwr

theorem invMsg_sub {c c₁ : Conn α} {l : Label α} (hw : Inv c) (h : InvMsg P c) (hmono : ∀ sid it, P c sid it → P c₁ sid it)
    (hl : RouteOK P c l) (hpp : PendP P c) (hs : Sub c l c₁) : InvMsg P c₁ :=
  invMsg_of h hmono (fun _ _ _ => writeOf_ok hl hpp) (sub_streams hs) (sub_outs hw hs)
    (fun _ _ => wrote_items h (fun _ _ _ => writeOf_ok hl hpp)) (sub_log hw hs)

theorem invMsg_frame {c c₁ : Conn α} {Q : Nat → Out α → Prop} (h : InvMsg P c) (hmono : ∀ sid it, P c sid it → P c₁ sid it)
    (hst : c₁.store = c.store) (hs : StrKeep c.streams c₁.streams) (he : OutsBy Q c.exs c₁.exs)
    (hQ : ∀ sid o, Q sid o → o.items = []) : InvMsg P c₁ :=
  invMsg_of (l := .end) h hmono (fun _ _ _ hwr => hwr.elim) (streamOf_keep hs) he
    (fun sid o hq it hit => by rw [hQ sid o hq] at hit; cases hit) (hst ▸ logOf_refl c _)

theorem invMsg_tail {c c₁ : Conn α} (h : InvMsg P c) (hmono : ∀ sid it, P c sid it → P c₁ sid it) (ht : Tail c c₁) :
    InvMsg P c₁ :=
  invMsg_frame (Q := fun _ _ => False) h hmono (tail_store ht) (tail_strKeep ht) (tail_outs ht) (fun _ _ hq => hq.elim)

end InvMsg

theorem inv10_init (cfg : Cfg) : Inv10 (init cfg : Conn α) := by
  refine ⟨?_, ?_, ?_, (invMsg_init cfg).pend, (invMsg_init cfg).ex, (invMsg_init cfg).log⟩
  · intro sid h
    simp only [init] at h ⊢
    by_cases h0 : sid = 0
    · omega
    · simp [h0] at h
  · intro r sid h; cases h
  · intro s hs; obtain rfl := List.mem_singleton.mp hs; exact ⟨rfl, fun r hr => hr⟩

theorem Inv10.msg {c : Conn α} (h : Inv10 c) : InvMsg Routed c := ⟨h.pend, h.routed_ex, h.routed_log⟩

theorem inv10_frame {c c' : Conn α} {Q : Nat → Out α → Prop} (h : Inv10 c) (hcfg : c'.cfg = c.cfg) (hhist : c'.hist = c.hist)
    (hn : c.nextSid ≤ c'.nextSid) (hst : c'.store = c.store)
    (hreq : ∀ (r sid : Nat), c'.reqStreams r = some sid → c.reqStreams r = some sid)
    (hs : StrKeep c.streams c'.streams) (he : OutsBy Q c.exs c'.exs) (hQ : ∀ sid o, Q sid o → o.items = []) : Inv10 c' := by
  have hm := invMsg_frame h.msg (fun _ _ => routed_mono hcfg (fun sid v hv => by rw [hhist]; exact hv)) hst hs he hQ
  refine ⟨?_, ?_, ?_, hm.pend, hm.ex, hm.log⟩
  · intro sid hsome; rw [hhist] at hsome; exact Nat.lt_of_lt_of_le (h.hist_lt sid hsome) hn
  · intro r sid hr; rw [hhist]; exact h.req_hist r sid (hreq r sid hr)
  · intro s' hs'
    obtain ⟨s, hsl, h1, h2, h3, h4, _⟩ := hs s' hs'
    rw [hhist, h1, h2, h3, h4]; exact h.str_hist s hsl

theorem inv10_finish {c : Conn α} (h : Inv10 c) (ex : Nat) : Inv10 (finish c ex) :=
  inv10_frame (c' := finish c ex) (Q := fun _ _ => False) h rfl rfl (Nat.le_refl _) rfl (fun _ _ hr => hr) (StrKeep.refl _)
    (outsBy_finishX _ _) (fun _ _ hq => hq.elim)

theorem inv10_emit_noMsg {c : Conn α} (hw : Inv c) (h : Inv10 c) (ex : Nat) (o : Out α) (ho : o.items = []) :
    Inv10 (emit c ex o).1 :=
  inv10_frame (c' := (emit c ex o).1) (Q := fun _ o' => o' = o) h rfl rfl (Nat.le_refl _) rfl (fun _ _ hr => hr) (StrKeep.refl _)
    (outsBy_emitX _ _ _ (fun _ _ => rfl)) (fun _ _ hq => hq ▸ ho)

theorem route_routed {c : Conn α} (h : Inv10 c) {msg : Msg α} {ctx : Option Nat} {s : Stream α}
    (hr : route c msg ctx = some s) : Routed c s.id ⟨msg, ctx⟩ := by
  cases msg with
  | resp id p =>
    simp only [route, related] at hr
    split at hr
    · rename_i sid hreq
      obtain ⟨calls, li, hh, hmem⟩ := h.req_hist id sid hreq
      exact ⟨calls, li, by rw [(findStream_some hr).2]; exact hh, hmem⟩
    · cases hr
  | _ =>
    -- a notification or a call: related to the request of its context in SSE mode, to none otherwise
    simp only [route, related] at hr
    split at hr
    · rename_i r hrel
      have hrel' : c.cfg.jsonResponse = false ∧ ctx = some r := by
        split at hrel
        · cases hrel
        · rename_i hj; exact ⟨by simpa using hj, hrel⟩
      split at hr
      · rename_i sid hreq
        obtain ⟨calls, li, hh, hmem⟩ := h.req_hist r sid hreq
        exact ⟨calls, li, by rw [(findStream_some hr).2]; exact hh, Or.inl ⟨hrel'.1, r, hrel'.2, hmem⟩⟩
      · cases hr
    · rename_i hrel
      have hdet : c.cfg.jsonResponse = true ∨ ctx = none := by
        split at hrel
        · rename_i hj; exact Or.inl hj
        · exact Or.inr hrel
      have hmem : s ∈ c.streams ∧ (s.id = 0 ∨ s.listen = true) := by
        split at hr
        · rename_i s' hl; cases hr; exact ⟨(findListen_some hl).1, Or.inr (findListen_some hl).2⟩
        · exact ⟨(findStream_some hr).1, Or.inl (findStream_some hr).2⟩
      exact ⟨s.calls, s.listen, (h.str_hist s hmem.1).1, Or.inr ⟨hdet, hmem.2⟩⟩

theorem sub_hist_mono {c c₁ : Conn α} {l : Label α} (h : Inv10 c) (hs : Sub c l c₁) :
    ∀ sid v, c.hist sid = some v → c₁.hist sid = some v := by
  intro sid v hv
  rcases (sub_frame hs).book with ⟨hh, _⟩ | ⟨_, _, _, _, _, rfl⟩
  · rw [hh]; exact hv
  · rw [(postPrimed_frame _ _ _ _ _).hist]
    have : sid ≠ c.nextSid := fun hk => by have := h.hist_lt sid (by rw [hv]; rfl); omega
    simp [this, hv]

def PendRouted (c : Conn α) : Prop := ∀ pw ∈ c.pendW, Routed c pw.sid ⟨pw.msg, pw.ctx⟩

theorem pendRouted_init (cfg : Cfg) : PendRouted (init cfg : Conn α) := pendP_init cfg

theorem routeOK_routed {c : Conn α} (h : Inv10 c) (l : Label α) : RouteOK Routed c l := by
  cases l with
  | write => exact fun _ hr => route_routed h hr
  | wroute => exact fun _ hr => route_routed h hr
  | _ => trivial

theorem inv10_sub {c c₁ : Conn α} {l : Label α} (hw : Inv c) (h : Inv10 c) (hpr : PendRouted c) (hs : Sub c l c₁) : Inv10 c₁ := by
  have hmono := sub_hist_mono h hs
  have hm := invMsg_sub hw h.msg (fun _ _ => routed_mono ((sub_frame hs).cfg) hmono) (routeOK_routed h l) hpr hs
  refine ⟨?_, ?_, ?_, hm.pend, hm.ex, hm.log⟩
  · intro sid hsome
    rcases (sub_frame hs).book with ⟨hh, _, hn, _⟩ | ⟨_, _, _, _, _, rfl⟩
    · rw [hh] at hsome; exact Nat.lt_of_lt_of_le (h.hist_lt sid hsome) hn
    · obtain ⟨_, _, fn, _, _, _, fh, _, _⟩ := postPrimed_frame c _ ‹Bool› ‹Ver› ‹Option Nat›
      rw [fh] at hsome; rw [fn]
      by_cases hk : sid = c.nextSid
      · omega
      · simp only [hk, if_false] at hsome; exact Nat.lt_succ_of_lt (h.hist_lt sid hsome)
  · intro r sid hr
    rcases (sub_frame hs).book with ⟨_, _, _, hrq⟩ | ⟨calls, listen, ver, budget, _, rfl⟩
    · obtain ⟨cs, li, hh, hm⟩ := h.req_hist r sid (hrq r sid hr)
      exact ⟨cs, li, hmono sid _ hh, hm⟩
    · obtain ⟨_, _, _, _, _, frq, fh, _, _⟩ := postPrimed_frame c (dedup calls) listen ver budget
      rw [frq] at hr
      simp only at hr
      split at hr
      · cases hr; rename_i hmem
        exact ⟨dedup calls, listen, by rw [fh]; simp, hmem⟩
      · obtain ⟨cs, li, hh, hm⟩ := h.req_hist r sid hr
        exact ⟨cs, li, hmono sid _ hh, hm⟩
  · intro s' hs'
    rcases sub_streams hs s' hs' with ⟨s, hsl, h1, h2, h3, h4, _⟩ | ⟨calls, listen, ver, budget, _, rfl, hh⟩
    · rw [h1, h2, h3]
      exact ⟨hmono _ _ (h.str_hist s hsl).1, fun r hr => (h.str_hist s hsl).2 r (h4 r hr)⟩
    · exact ⟨hh, fun r hr => hr⟩

theorem inv10_tail {c c₁ : Conn α} (h : Inv10 c) (ht : Tail c c₁) : Inv10 c₁ := by
  obtain ⟨_, _, he⟩ := tail_only_exs_streams ht
  exact inv10_frame (Q := fun _ _ => False) h (by rw [he]) (by rw [he]) (by rw [he]; exact Nat.le_refl _) (tail_store ht)
    (fun r sid hr => by rw [he] at hr; exact hr) (tail_strKeep ht) (tail_outs ht) (fun _ _ hq => hq.elim)

theorem inv10_step {c : Conn α} (hw : Inv c) (h : Inv10 c) (hpr : PendRouted c) (l : Label α) : Inv10 (step c l) :=
  step_ind hw l (fun _ => inv10_sub hw h hpr) (fun _ _ _ => inv10_tail)

theorem step_hist_mono {c : Conn α} (h : Inv10 c) (l : Label α) : ∀ sid v, c.hist sid = some v → (step c l).hist sid = some v := by
  obtain ⟨c₁, hs, ht⟩ := step_shape c l
  obtain ⟨_, _, he⟩ := tail_only_exs_streams ht
  have := sub_hist_mono h hs
  rw [he]; exact this

theorem pendRouted_step {c : Conn α} (h : Inv10 c) (hpr : PendRouted c) (l : Label α) : PendRouted (step c l) := by
  intro pw hp
  have hmono : ∀ {sid : Nat} {it : Item α}, Routed c sid it → Routed (step c l) sid it :=
    fun hr => routed_mono (step_cfg c l) (step_hist_mono h l) hr
  rcases step_pendW c l pw hp with h0 | ⟨msg, ctx, ctxNew, s, rfl, hs, rfl⟩
  · exact hmono (hpr pw h0)
  · exact hmono (route_routed h hs)

theorem inv10_run (cfg : Cfg) (ls : List (Label α)) : Inv10 (run (init cfg) ls) :=
  (run_ind (P := fun c => Inv c ∧ Inv10 c ∧ PendRouted c)
    (fun _ l ⟨hw, h, hp⟩ => ⟨inv_step hw l, inv10_step hw h hp l, pendRouted_step h hp l⟩)
    ⟨inv_init cfg, inv10_init cfg, pendRouted_init cfg⟩ ls).2.1

end Resume
