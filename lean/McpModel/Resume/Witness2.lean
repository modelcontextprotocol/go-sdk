import McpModel.Resume.Witness
import McpModel.Resume.Batch
/-!
Non-vacuity witnesses for the claim theorems (`Hold`) and the batch theorem (`Batch`): concrete schedules evaluated by the
kernel.
-/
namespace Resume

/-! ### resumes that break during the replay, then a resume that is served -/

/-- prime, three notifications delivered live, then the POST exchange is cut while the request is still running -/
def demoB : List (Label Nat) :=
  [ .post [7] false .v1125 none, .write (.notif 100) (some 7) false, .write (.notif 101) (some 7) false,
    .write (.notif 102) (some 7) false, .cut 0 ]

/-- three resume attempts whose connection breaks: at the 2nd replayed event, before the 1st, and (from a later id) at the 2nd again -/
def brokenGets : List (Hdr × Ver × Option Nat) :=
  [(.ok 1 0, .v1125, some 1), (.ok 1 0, .v1125, some 0), (.ok 1 1, .v1125, some 1)]

example : InScopeRun (init cfgW) demoB := inScopeRun_of_b _ _ (by decide)

/-- the hypotheses of `resume_however_often` hold for them: each attempt is in scope and is gone at the end of its step -/
example : AllEnded (run (init cfgW) demoB) brokenGets := by
  refine ⟨inScope_of_b (by decide), ?_, inScope_of_b (by decide), ?_, inScope_of_b (by decide), ?_, trivial⟩
  · intro e he
    have h : ((get (run (init cfgW) demoB) (.ok 1 0) .v1125 (some 1)).exs[(run (init cfgW) demoB).exs.length]?).all (·.ended) = true := by decide
    rw [he] at h; simpa using h
  · intro e he
    have h : ((get (get (run (init cfgW) demoB) (.ok 1 0) .v1125 (some 1)) (.ok 1 0) .v1125 (some 0)).exs[
      (get (run (init cfgW) demoB) (.ok 1 0) .v1125 (some 1)).exs.length]?).all (·.ended) = true := by decide
    rw [he] at h; simpa using h
  · intro e he
    have h : ((get (get (get (run (init cfgW) demoB) (.ok 1 0) .v1125 (some 1)) (.ok 1 0) .v1125 (some 0)) (.ok 1 1) .v1125 (some 1)).exs[
      (get (get (run (init cfgW) demoB) (.ok 1 0) .v1125 (some 1)) (.ok 1 0) .v1125 (some 0)).exs.length]?).all (·.ended) = true := by decide
    rw [he] at h; simpa using h

/-- what happened: the first attempt delivered one replayed event and lost the second, the second attempt lost the first,
the third delivered one and lost one; all three handlers returned, and nobody holds the stream -/
example : ((run (run (init cfgW) demoB) (getLabels brokenGets)).exs.map (fun e => (e.out.length, e.lost.length, e.ended)),
    (findStream 1 (run (run (init cfgW) demoB) (getLabels brokenGets)).streams).bind (·.attached)) =
    ([(4, 0, true), (1, 1, true), (0, 1, true), (1, 1, true)], none) := by decide

/-- … and the resume after the three broken attempts is served with all three messages, then the final response -/
example : let c := run (run (init cfgW) demoB) (getLabels brokenGets ++ [.get (.ok 1 0) .v1125 none, .write (.resp 7 200) (some 7) false])
    (c.exs.map (fun e => (e.kind, e.out, e.ended)))[4]? =
      some (.sse, [.message (some (1, 1)) ⟨.notif 100, some 7⟩, .message (some (1, 2)) ⟨.notif 101, some 7⟩,
                   .message (some (1, 3)) ⟨.notif 102, some 7⟩, .message (some (1, 4)) ⟨.resp 7 200, some 7⟩], true) := by decide

/-- a 409 exists in the model — while a live exchange holds the stream (non-vacuity of `resume_refused_only_while_claimed`) -/
example : ((run (init cfgW) ([.post [7] false .v1125 none, .get (.ok 1 0) .v1125 none] : List (Label Nat))).exs.map (fun e => (e.kind, e.ended))) =
    [(.sse, false), (.status 409, true)] := by decide

/-! ### a batch of three calls on one POST, answered last-to-first -/

def cfgN : Cfg := { stateless := false, jsonResponse := false, hasStore := false, noSession := false }
def cfgJ : Cfg := { stateless := false, jsonResponse := true, hasStore := false, noSession := false }

/-- SSE, no store: one `message` per call in completion order; the exchange completes with the last one; the stream and the
routing entries are gone -/
example : let c := answerAll (fun r => 100 + r) false (run (init cfgN) ([.post [1, 2, 3] false .v0326 none] : List (Label Nat))) [3, 1, 2]
    (c.exs.map (fun e => (e.out, e.ended)), c.streams.map (·.id), [1, 2, 3].map c.reqStreams) =
      ([([.message none ⟨.resp 3 103, some 3⟩, .message none ⟨.resp 1 101, some 1⟩, .message none ⟨.resp 2 102, some 2⟩], true)],
       [0], [none, none, none]) := by decide

/-- … after the first two responses the exchange is still open and the stream still registered with the third call -/
example : let c := answerAll (fun r => 100 + r) false (run (init cfgN) ([.post [1, 2, 3] false .v0326 none] : List (Label Nat))) [3, 1]
    (c.exs.map (fun e => (e.out.length, e.ended)), c.streams.map (fun s => (s.id, s.requests)), [1, 2, 3].map c.reqStreams) =
      ([(2, false)], [(0, []), (1, [2])], [none, some 1, none]) := by decide

/-- JSON mode: nothing is written before the last response; then ONE body with all three -/
example : let c0 := run (init cfgJ) ([.post [1, 2, 3] false .v0326 none] : List (Label Nat))
    ((answerAll (fun r => 100 + r) false c0 [2, 3]).exs.map (fun e => (e.out, e.ended)),
     (answerAll (fun r => 100 + r) false c0 [2, 3, 1]).exs.map (fun e => (e.out, e.ended))) =
      ([([], false)],
       [([.json [⟨.resp 2 102, some 2⟩, ⟨.resp 3 103, some 3⟩, ⟨.resp 1 101, some 1⟩]], true)]) := by decide

end Resume
