import McpModel.Resume.Accept10
import McpModel.Resume.Props
/-!
# C10 — server-level notifications issued from inside a request handler (world label FANOUT)

`Server.ResourceUpdated` (and the list-changed announcements) are session-independent: the server walks over the
subscribed sessions and sends each of them its own copy.  The code that triggers this may run inside the handler of a
request of *one* session (a tool that changes a resource and announces it); the JSON-RPC id of that request lives in the
handler's context (`idContextKey`) and means nothing in any other session.  The world label
`WLabel.fanout origin octx targets p` models the step; its semantics does not look at `origin` / `octx`: every target
session performs the per-connection label `fanCopy p` = WRITE(notification `p`, **no** request context).
-/
namespace Resume
open Mon
variable {α σ : Type}

theorem findConn_setConn_same (k : Nat) (c' : Conn α) : ∀ (l : List (Nat × Conn α)), (findConn k l).isSome →
    findConn k (setConn k c' l) = some c' := by
  intro l
  induction l with
  | nil => intro h; cases h
  | cons x t ih =>
    obtain ⟨k', c0⟩ := x
    intro h
    simp only [setConn]
    split
    · rename_i hk; simp [findConn, hk]
    · rename_i hk
      simp only [findConn, hk, if_false] at h ⊢
      exact ih h

theorem wOn_same (w : World α) (k : Nat) (l : Label α) :
    findConn k (wOn w k l).conns = (findConn k w.conns).map (fun c => step c l) := by
  unfold wOn
  cases hc : findConn k w.conns with
  | none => simp [hc]
  | some c =>
    simp only [Option.map_some]
    exact findConn_setConn_same k _ _ (by rw [hc]; rfl)

theorem wOn_other (w : World α) (k b : Nat) (hne : k ≠ b) (l : Label α) :
    findConn b (wOn w k l).conns = findConn b w.conns := no_cross_session w k b hne l

theorem run_replicate_succ (c : Conn α) (l : Label α) (n : Nat) :
    run (step c l) (List.replicate n l) = run c (List.replicate (n + 1) l) := rfl

/-- a fan-out as seen by one session: one copy per occurrence in the target list -/
theorem fanout_conn (a : Nat) (octx : Option Nat) (p : α) (b : Nat) : ∀ (ts : List Nat) (w : World α),
    findConn b (wstep w (.fanout a octx ts p)).conns =
      (findConn b w.conns).map (fun c => run c (List.replicate (ts.count b) (fanCopy p))) := by
  intro ts
  induction ts with
  | nil => intro w; simp [wstep, run]
  | cons t rest ih =>
    intro w
    have hstep : wstep w (.fanout a octx (t :: rest) p) = wstep (wOn w t (fanCopy p)) (.fanout a octx rest p) := rfl
    rw [hstep, ih]
    by_cases htb : t = b
    · subst htb
      rw [wOn_same]
      have hc : (t :: rest).count t = rest.count t + 1 := by simp
      rw [hc]
      cases findConn t w.conns with
      | none => rfl
      | some c => simp only [Option.map_some]; rw [run_replicate_succ]
    · rw [wOn_other w t b htb]
      have hc : (t :: rest).count b = rest.count b := by
        rw [List.count_cons]; simp [htb]
      rw [hc]

/-- **C10 (a fan-out copy is a detached write in each session).**  For every session `b` among the (distinct) targets of
a fan-out, the step is exactly ONE write of the notification on `b`'s own connection with **no** request context — the
routing section sees `ctx = none` whatever request of whatever session the issuing code was handling (`origin`, `octx`
do not occur on the right-hand side; `fanout_ignores_origin`). -/
theorem fanout_copy_is_detached_in_each_session (w : World α) (a : Nat) (octx : Option Nat) (ts : List Nat) (p : α)
    (b : Nat) (hb : b ∈ ts) (hnd : ts.Nodup) :
    findConn b (wstep w (.fanout a octx ts p)).conns =
      (findConn b w.conns).map (fun c => (writeR c (.notif p) none false).1) := by
  rw [fanout_conn, hnd.count, if_pos hb]
  rfl

theorem fanout_ignores_origin (w : World α) (a a' : Nat) (octx octx' : Option Nat) (ts : List Nat) (p : α) :
    wstep w (.fanout a octx ts p) = wstep w (.fanout a' octx' ts p) := rfl

theorem fanCopy_unrelated (c : Conn α) (p : α) : related c (.notif p) none = none := by
  simp [related]

/-- **C10 (where the copy goes).**  In any reachable state of the receiving session the copy is routed to a
`subscriptions/listen` stream or to the standalone stream (id 0) … -/
theorem fanCopy_routed_standalone_or_listen (cfg : Cfg) (ls : List (Label α)) (p : α) (s : Stream α)
    (hr : route (run (init cfg) ls) (.notif p) none = some s) : s.id = 0 ∨ listenOf (run (init cfg) ls) s.id :=
  route_related_none (inv10_run cfg ls) (fanCopy_unrelated _ p) hr

/-- … so that after it (and after anything else) the copy sits only on exchanges that serve the standalone stream or a
listen stream: never on the HTTP exchange of a request of the receiving session — whichever request ids are in flight
there, including the id of the request whose handler issued the fan-out in another session. -/
theorem fanCopy_never_on_request_exchange (cfg : Cfg) (ls ls' : List (Label α)) (p : α) (j : Nat) (e : Exch α)
    (he : (run (init cfg) (ls ++ fanCopy p :: ls')).exs[j]? = some e) (o : Out α) (ho : o ∈ e.all)
    (hit : (⟨.notif p, none⟩ : Item α) ∈ o.items) :
    e.stream = 0 ∨ ∃ calls, (run (init cfg) (ls ++ fanCopy p :: ls')).hist e.stream = some (calls, true) :=
  in_request_traffic_on_standalone cfg _ j e he o ho _ hit (by intro r q h; cases h) (Or.inr rfl)

/-- the labels session `b` performs in a world run -/
def projW (b : Nat) : List (WLabel α) → List (Label α)
  | [] => []
  | .on a l :: t => if a = b then l :: projW b t else projW b t
  | .create _ _ :: t => projW b t
  | .fanout _ _ ts p :: t => List.replicate (ts.count b) (fanCopy p) ++ projW b t

theorem wrun_proj (b : Nat) : ∀ (ls : List (WLabel α)) (w : World α) (c : Conn α), findConn b w.conns = some c →
    findConn b (wrun w ls).conns = some (run c (projW b ls)) := by
  intro ls
  induction ls with
  | nil => intro w c hc; exact hc
  | cons l t ih =>
    intro w c hc
    have hw : wrun w (l :: t) = wrun (wstep w l) t := rfl
    rw [hw]
    cases l with
    | on a lab =>
      by_cases hab : a = b
      · subst hab
        have h1 : findConn a (wstep w (.on a lab)).conns = some (step c lab) := by
          show findConn a (wOn w a lab).conns = _
          rw [wOn_same, hc]; rfl
        rw [ih _ _ h1]
        simp [projW, run]
      · have h1 : findConn b (wstep w (.on a lab)).conns = some c := by
          rw [no_cross_session w a b hab lab]; exact hc
        rw [ih _ _ h1]
        simp [projW, hab]
    | create a cfg =>
      have h1 : findConn b (wstep w (.create a cfg)).conns = some c := by
        simp only [wstep]
        split
        · exact hc
        · rename_i hnone
          have hne : a ≠ b := by intro h; subst h; rw [hc] at hnone; cases hnone
          rw [findConn_append_other b a _ hne]; exact hc
      rw [ih _ _ h1]
      rfl
    | fanout a octx ts p =>
      have h1 : findConn b (wstep w (.fanout a octx ts p)).conns = some (run c (List.replicate (ts.count b) (fanCopy p))) := by
        rw [fanout_conn, hc]; rfl
      rw [ih _ _ h1]
      simp only [projW]
      rw [run_append]

/-- a fan-out copy is truthfully tagged as soon as its payload says "fan-out" — in every session, in every state, and
whoever issued it -/
theorem fanCopy_wellTagged (prov : α → Prov σ) (sn : σ) (c : Conn α) (p : α) (a : σ) (r x : Nat) (hc : Bool)
    (hp : prov p = .fanout a r x hc) : WellTagged prov sn c (fanCopy p) := by
  show TagNR prov sn c p none
  unfold TagNR
  rw [hp]

variable [DecidableEq α] [DecidableEq σ]

/-- **C10 bridging theorem, world level (the extended label set).**  Take any world run — steps of any sessions, connects,
fan-outs issued from inside handlers of any session with any request context.  For a session `b` that starts from
`init cfg`: its connection after the run is the run of its projected labels (fan-out copies = detached writes), and on the
observation trace of that history the typed C10 monitor raises no clause, provided the payload tags are truthful
(`WellTaggedRun` of the projection; for the fan-out copies this only asks that the payload is tagged `Prov.fanout`,
`fanCopy_wellTagged`). -/
theorem monitor_accepts_world_C10 (cfg : Cfg) (b : Nat) (sn : σ) (prov : α → Prov σ) (w : World α)
    (hc : findConn b w.conns = some (init cfg)) (ls : List (WLabel α))
    (hl : WellTaggedRun prov sn (init cfg : Conn α) (projW b ls)) :
    findConn b (wrun w ls).conns = some (run (init cfg) (projW b ls)) ∧
    (runV prov (Mon.init cfg.hasStore cfg.jsonResponse) (traceOf1 sn (init cfg) (projW b ls))).2.v10 = none :=
  ⟨wrun_proj b ls w _ hc, monitor_accepts_model_C10 cfg sn prov _ hl⟩

def cfgF : Cfg := { stateless := false, jsonResponse := false, hasStore := false, noSession := false }

/-- sessions 1 and 2, request id 7 in flight in BOTH; session 2 has its standalone stream attached; the handler of
request 7 of session 1 makes the server announce a resource change to the subscribed sessions 1 and 2 -/
def m10 : List (WLabel Nat) :=
  [ .create 1 cfgF, .create 2 cfgF,
    .on 2 (.get .none .v0618 none),          -- session 2, exchange 0: standalone GET
    .on 1 (.post [7] false .v0618 none),     -- session 1, exchange 0: request 7
    .on 2 (.post [7] false .v0618 none),     -- session 2, exchange 1: request 7 (the same JSON-RPC id)
    .fanout 1 (some 7) [1, 2] 900 ]

/-- in the model session 2's copy goes to its standalone exchange, nothing goes to the exchange of its request 7 … -/
example : ((findConn 2 (wrun ⟨[]⟩ m10).conns).map fun c => c.exs.map (·.out)) =
    some [[.comment, .message none ⟨.notif 900, none⟩], []] := by decide +kernel

/-- … and session 1 (no event store, standalone stream not connected) cannot take its copy: nothing on its request exchange either -/
example : ((findConn 1 (wrun ⟨[]⟩ m10).conns).map fun c => c.exs.map (·.out)) = some [[]] := by decide +kernel

example : projW 2 m10 = [.get .none .v0618 none, .post [7] false .v0618 none, fanCopy 900] := rfl

/-- the tags of `m10`: payload 900 is a fan-out copy issued under request 7 (POST exchange 0) of session 1 with the handler's context -/
def provM10 : Nat → Prov Nat
  | 900 => .fanout 1 7 0 true
  | _ => .other

/-- the monitor is silent on session 2's history (instance of `monitor_accepts_world_C10`; non-vacuity of its hypothesis) -/
example : (runV provM10 (Mon.init false false) (traceOf1 2 (init cfgF) (projW 2 m10))).2.v10 = none :=
  (monitor_accepts_world_C10 cfgF 2 2 provM10 (wrun ⟨[]⟩ [.create 1 cfgF, .create 2 cfgF]) rfl
    [.on 2 (.get .none .v0618 none), .on 1 (.post [7] false .v0618 none), .on 2 (.post [7] false .v0618 none), .fanout 1 (some 7) [1, 2] 900]
    ⟨trivial, trivial, fanCopy_wellTagged provM10 2 _ 900 1 7 0 true rfl, trivial⟩).2

/-- what an implementation that threads the issuing handler's context into the fan-out does in session 2 (seeded change
C10-m10): the write carries request id 7 of *session 1* and is routed by session 2's `requestStreams[7]` -/
def m10bad : List (Label Nat) :=
  [.get .none .v0618 none, .post [7] false .v0618 none, .write (.notif 900) (some 7) false]

/-- … it lands on the exchange of session 2's unrelated request 7, ahead of that request's response … -/
example : (run (init cfgF) m10bad).exs.map (·.out) = [[.comment], [.message none ⟨.notif 900, some 7⟩]] := by decide +kernel

/-- … which is not a run with truthful tags (the copy is not written with the background context) … -/
example : ¬ WellTagged provM10 (2 : Nat) (run (init cfgF : Conn Nat) (m10bad.take 2)) (.write (.notif 900) (some 7) false) := by
  intro h
  have h' : TagNR provM10 (2 : Nat) (run (init cfgF : Conn Nat) (m10bad.take 2)) 900 (some 7) := h
  unfold TagNR at h'
  simp [provM10] at h'

/-- … and the monitor flags exactly that observation -/
example : (runV provM10 (Mon.init false false) (traceOf1 2 (init cfgF) m10bad)).2.v10 =
    some (.route false .fanoutOtherSession) := by decide +kernel

/-- in the issuing session itself the same write (its own request 7, its own context) is accepted: "issued while handling
a request travel[s] on that request's stream" -/
example : (runV provM10 (Mon.init false false) (traceOf1 1 (init cfgF)
    [.post [7] false .v0618 none, .write (.notif 900) (some 7) false])).2.v10 = none := by decide +kernel

end Resume
