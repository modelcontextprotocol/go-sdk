import McpModel.Generated.ResumeGen
import McpModel.Resume.Ans
/-!
# C08 and C10 — property theorems for the streamable server connection (model: `Resume.step`)

The theorems about runs quantify over *all* label lists `ls : List (Label α)` (any number of streams, writes,
cuts, writer failures, resumes, closes, in any order), all payload types `α`, all configurations; those about one `Write` or one
POST (`write_is_stored`, `response_unregisters`, `duplicate_inflight_id_refused_atomically`, `no_cross_session`, …) hold from an
arbitrary state.
* C08 theorems assume an event store (`cfg.hasStore`) and the scope of the property (`InScopeRun`:
  protocol versions before 2026-07-28, and `Last-Event-ID`s that were issued before — i.e. whose index
  exists in the stream's log).
* C10 theorems hold for every label list whatsoever.
* C02 (the `requestStreams` registry; no scope restriction): `registered_iff_inflight`, `duplicate_inflight_id_refused_atomically`,
  `undeliverable_response_unregisters`.
The abstract event store is the per-stream append log (`Conn.store`); C20 proves that the in-memory store
replays exactly that log or reports the purge.
-/
namespace Resume
variable {α : Type}

def events (l : List (Out α)) : List (Out α) := l.filter Out.isEv

def Out.evId : Out α → Option (Nat × Nat)
  | .prime sid i => some (sid, i)
  | .message id _ => id
  | _ => none

/-- the log of stream `sid` (empty if the store never saw it) -/
def Conn.log (c : Conn α) (sid : Nat) : List (Option (Item α)) := (c.store sid).getD []

theorem segFrom_events {log : List (Option (Item α))} {sid i : Nat} {l : List (Out α)} (h : SegFrom log sid i l) :
    ∀ (k : Nat) (o : Out α), (events l)[k]? = some o → ∃ x, log[i + k]? = some x ∧ o = evOf sid (i + k) x := by
  induction l generalizing i with
  | nil => intro k o hk; simp [events] at hk
  | cons a t ih =>
    intro k o hk
    by_cases ha : a.isEv = true
    · simp only [SegFrom, ha, if_true] at h
      simp only [events, List.filter_cons, ha, if_true] at hk
      cases k with
      | zero =>
        simp at hk; subst hk
        simpa using h.1
      | succ k =>
        simp only [List.getElem?_cons_succ] at hk
        obtain ⟨x, hx, ho⟩ := ih h.2 k o hk
        exact ⟨x, by rw [← hx]; congr 1; omega, by rw [ho]; congr 1; omega⟩
    · simp only [SegFrom, ha] at h
      simp only [events, List.filter_cons, ha] at hk
      exact ih h k o hk

theorem events_length (l : List (Out α)) : (events l).length = idCount l := by
  induction l with
  | nil => rfl
  | cons a t ih =>
    by_cases ha : a.isEv = true
    · simp only [events, List.filter_cons, ha, if_true, List.length_cons, idCount]
      simp only [events] at ih
      omega
    · simp only [events, List.filter_cons, ha, idCount]
      simp only [events] at ih
      simpa using ih

theorem segFrom_mem {log : List (Option (Item α))} {sid i : Nat} {l : List (Out α)} (h : SegFrom log sid i l)
    {o : Out α} (ho : o ∈ l) (hev : o.isEv = true) : ∃ k x, i ≤ k ∧ log[k]? = some x ∧ o = evOf sid k x := by
  have : o ∈ events l := by simp [events, ho, hev]
  obtain ⟨k, hk⟩ := List.getElem?_of_mem this
  obtain ⟨x, hx, he⟩ := segFrom_events h k o hk
  exact ⟨i + k, x, by omega, hx, he⟩

theorem segFrom_covers {log : List (Option (Item α))} {sid i : Nat} {l : List (Out α)} (h : SegFrom log sid i l)
    {k : Nat} (hk1 : i ≤ k) (hk2 : k < i + idCount l) : ∃ x, log[k]? = some x ∧ evOf sid k x ∈ l := by
  have hlt : k - i < (events l).length := by rw [events_length]; omega
  obtain ⟨x, hx, he⟩ := segFrom_events h (k - i) _ (List.getElem?_eq_getElem hlt)
  have hki : i + (k - i) = k := by omega
  rw [hki] at hx he
  refine ⟨x, hx, ?_⟩
  rw [← he]
  have : (events l)[k - i] ∈ events l := List.getElem_mem hlt
  simp only [events, List.mem_filter] at this
  exact this.1

/-- **C08 (exactly-once, in order, ids = positions).**  For every HTTP exchange ever opened — the
original POST (resume point −1, `from = 0`) or a GET resuming after `Last-Event-ID` index `r`
(`from = r + 1`) — the `k`-th id-carrying event it was *delivered* is exactly entry `from + k` of the
logical stream's append log, carrying event id `(stream, from + k)`: no gap, no repeat, no reordering,
whether the event came from live delivery or from replay.  The same holds for everything the server
*wrote* to the exchange, delivered or not (`e.all`). -/
theorem exchange_output_is_log_segment (cfg : Cfg) (hst : cfg.hasStore = true) (ls : List (Label α))
    (hsc : InScopeRun (init cfg) ls) (j : Nat) (e : Exch α) (he : (run (init cfg) ls).exs[j]? = some e) :
    (∀ (k : Nat) (o : Out α), (events e.out)[k]? = some o →
        ∃ x, ((run (init cfg) ls).log e.stream)[e.from + k]? = some x ∧ o = evOf e.stream (e.from + k) x) ∧
    (∀ (k : Nat) (o : Out α), (events e.all)[k]? = some o →
        ∃ x, ((run (init cfg) ls).log e.stream)[e.from + k]? = some x ∧ o = evOf e.stream (e.from + k) x) := by
  have hseg := (inv08_run cfg hst ls hsc).seg j e he
  refine ⟨segFrom_events ?_, segFrom_events hseg⟩
  unfold Exch.all at hseg
  exact ((segFrom_append _ _ _ _ _).mp hseg).1

/-- **C08 (`lastIdx` alignment).**  Whenever an SSE stream is attached to an open exchange, its
`lastIdx` (`next − 1`) is the index of the last event in the store, and equals the exchange's resume
index plus the number of events written to it. -/
theorem attached_lastIdx_aligned (cfg : Cfg) (hst : cfg.hasStore = true) (ls : List (Label α))
    (hsc : InScopeRun (init cfg) ls) (s : Stream α) (hs : s ∈ (run (init cfg) ls).streams) (ex : Nat) (e : Exch α)
    (hat : s.attached = some ex) (hop : s.opn = true) (hj : s.json = none) (he : (run (init cfg) ls).exs[ex]? = some e) :
    s.next = ((run (init cfg) ls).log s.id).length ∧ s.next = e.from + (events e.all).length ∧ e.stream = s.id := by
  obtain ⟨h1, h2⟩ := (inv08_run cfg hst ls hsc).aligned s hs ex e hat hop hj he
  obtain ⟨e', he', hes⟩ := (inv_run cfg ls).att s hs ex hat
  rw [he] at he'; cases he'
  exact ⟨h2.symm, by rw [events_length]; exact h1, hes⟩

/-- **C08 (nothing lost on a healthy connection).**  An attached, open SSE exchange whose writer never
failed has been delivered *everything* in the log from its resume point on. -/
theorem attached_exchange_complete (cfg : Cfg) (hst : cfg.hasStore = true) (ls : List (Label α))
    (hsc : InScopeRun (init cfg) ls) (s : Stream α) (hs : s ∈ (run (init cfg) ls).streams) (ex : Nat) (e : Exch α)
    (hat : s.attached = some ex) (hop : s.opn = true) (hj : s.json = none) (he : (run (init cfg) ls).exs[ex]? = some e)
    (hl : e.lost = []) : e.from + (events e.out).length = ((run (init cfg) ls).log e.stream).length := by
  obtain ⟨h1, h2, h3⟩ := attached_lastIdx_aligned cfg hst ls hsc s hs ex e hat hop hj he
  have : e.all = e.out := by simp [Exch.all, hl]
  rw [this] at h2
  rw [h3, ← h1, h2]

/-- a write that reaches a stream is appended to that stream's log whether or not anybody is attached -/
theorem write_is_stored (c : Conn α) (s : Stream α) (msg : Msg α) (ctx : Option Nat) (hst : c.cfg.hasStore = true) :
    (writeTo c s msg ctx false).1.log s.id = c.log s.id ++ [some ⟨msg, ctx⟩] := by
  simp [Conn.log, writeTo, wUse, hst]

theorem get_free {c : Conn α} (hst : c.cfg.hasStore = true) (hdone : c.isDone = false) {sid idx : Nat} (ver : Ver)
    (budget : Option Nat) {log : List (Option (Item α))} (hlog : c.store sid = some log)
    (hfree : (findStream sid c.streams).bind (·.attached) = none) :
    get c (.ok sid idx) ver budget =
      if idx + 1 < c.purged sid then statusEx c 400 else getGo c sid (idx + 1) ver budget (toReplay log (idx + 1)) := by
  unfold get
  rw [if_neg (by intro h; cases h)]
  simp only [Hdr.has, Hdr.sid, Hdr.from, hst, Bool.not_true, Bool.and_false]
  rw [hfree]
  by_cases hp : idx + 1 < c.purged sid <;> simp [replayItems, hst, hdone, hlog, hp]

theorem resume_noPrime (cfg : Cfg) (hst : cfg.hasStore = true) (ls : List (Label α)) (hsc : InScopeRun (init cfg) ls)
    {sid : Nat} {log : List (Option (Item α))} (hlog : (run (init cfg) ls).store sid = some log) (idx : Nat) :
    ∀ i, idx + 1 ≤ i → log[i]? ≠ some none := fun i hi hn => by
  have := ((inv08_run cfg hst ls hsc).shape sid log i hlog hn).1
  omega

theorem resume_exchange {c : Conn α} (hw : Inv c) (hst : c.cfg.hasStore = true) (hdone : c.isDone = false) {sid idx : Nat}
    (ver : Ver) {log : List (Option (Item α))} (hlog : c.store sid = some log) (hnp : c.purged sid ≤ idx + 1)
    (hfree : (findStream sid c.streams).bind (·.attached) = none) :
    ∃ e pre, (get c (.ok sid idx) ver none).exs[c.exs.length]? = some e ∧ e.stream = sid ∧ e.from = idx + 1 ∧ e.lost = [] ∧
      NoEv pre ∧ e.out = pre ++ replayed sid (idx + 1) (toReplay log (idx + 1)) := by
  rw [get_free hst hdone ver none hlog hfree, if_neg (by omega)]
  obtain ⟨e, pre, n, hexs, hes, hef, hpre, hall, _, hb⟩ := getGo_newEx hw sid (idx + 1) ver none (toReplay log (idx + 1))
  have he := hexs ▸ List.getElem?_concat_length (l := c.exs) (a := e)
  obtain ⟨hn, hl⟩ := hb rfl
  refine ⟨e, pre, he, hes, hef, hl, hpre, ?_⟩
  rw [Exch.all, hl, List.append_nil, hn, List.take_length] at hall
  exact hall

/-- **C08 (messages written while nobody was attached are replayed; nothing is lost or duplicated by a
resume).**  In any reachable state, for any stream with log `L` that no exchange currently claims, a GET
with a previously issued `Last-Event-ID = (sid, idx)` on a healthy connection opens an exchange that is
delivered exactly `L[idx+1 …]` — every entry after the resume point, each once, in order, with its log
position as id — no matter when those entries were written (live, while detached, or after the stream
completed and was deleted) — provided the store has not evicted the entry right after the resume point
(`purged sid ≤ idx + 1`; otherwise see `resume_after_purge_reports_not_silently_skips`). -/
theorem writes_while_detached_are_replayed (cfg : Cfg) (hst : cfg.hasStore = true) (ls : List (Label α))
    (hsc : InScopeRun (init cfg) ls) (sid idx : Nat) (ver : Ver) (log : List (Option (Item α)))
    (hlog : (run (init cfg) ls).store sid = some log) (hidx : idx < log.length)
    (hdone : (run (init cfg) ls).isDone = false)
    (hnp : (run (init cfg) ls).purged sid ≤ idx + 1)
    (hfree : (findStream sid (run (init cfg) ls).streams).bind (·.attached) = none) :
    ∃ e, (get (run (init cfg) ls) (.ok sid idx) ver none).exs[(run (init cfg) ls).exs.length]? = some e ∧
      e.stream = sid ∧ e.from = idx + 1 ∧ e.lost = [] ∧
      (events e.out).length = log.length - (idx + 1) ∧
      ∀ (k : Nat) (o : Out α), (events e.out)[k]? = some o →
        ∃ x, log[idx + 1 + k]? = some x ∧ o = evOf sid (idx + 1 + k) x := by
  have hnn := resume_noPrime cfg hst ls hsc hlog idx
  obtain ⟨e, pre, he, hes, hef, hl, hpre, hout⟩ :=
    resume_exchange (inv_run cfg ls) (by rw [run_cfg]; exact hst) hdone ver hlog hnp hfree
  refine ⟨e, he, hes, hef, hl, ?_, ?_⟩
  · rw [events_length, hout, idCount_append, idCount_noEv hpre, idCount_replayed, toReplay_length log _ hnn, Nat.zero_add]
  · rw [hout, ← List.take_length (l := toReplay log (idx + 1))]
    exact segFrom_events (segFrom_resumed log sid (idx + 1) hnn hpre _)

/-- **C08 (stable ids).**  Over all exchanges of a session — live deliveries and replays alike — an event
id denotes one event: two writes that carry the same id are the same event (same name, same payload). -/
theorem ids_stable (cfg : Cfg) (hst : cfg.hasStore = true) (ls : List (Label α)) (hsc : InScopeRun (init cfg) ls)
    (j₁ j₂ : Nat) (e₁ e₂ : Exch α) (h₁ : (run (init cfg) ls).exs[j₁]? = some e₁) (h₂ : (run (init cfg) ls).exs[j₂]? = some e₂)
    (o₁ o₂ : Out α) (ho₁ : o₁ ∈ e₁.all) (ho₂ : o₂ ∈ e₂.all) (id : Nat × Nat) (hid₁ : o₁.evId = some id) (hid₂ : o₂.evId = some id) :
    o₁ = o₂ := by
  have hev : ∀ (o : Out α), o.evId = some id → o.isEv = true := by
    intro o h; cases o <;> simp [Out.evId] at h <;> rfl
  obtain ⟨k₁, x₁, _, hx₁, he₁⟩ := segFrom_mem ((inv08_run cfg hst ls hsc).seg j₁ e₁ h₁) ho₁ (hev o₁ hid₁)
  obtain ⟨k₂, x₂, _, hx₂, he₂⟩ := segFrom_mem ((inv08_run cfg hst ls hsc).seg j₂ e₂ h₂) ho₂ (hev o₂ hid₂)
  have hid : ∀ (sid k : Nat) (x : Option (Item α)), (evOf sid k x).evId = some (sid, k) := by
    intro sid k x; cases x <;> rfl
  rw [he₁, hid] at hid₁
  rw [he₂, hid] at hid₂
  have heq : (e₁.stream, k₁) = (e₂.stream, k₂) := (Option.some.inj hid₁).trans (Option.some.inj hid₂).symm
  obtain ⟨hs, hk⟩ := Prod.mk.inj heq
  rw [← hs, ← hk] at hx₂
  rw [hx₁] at hx₂
  rw [he₁, he₂, ← hs, ← hk, Option.some.inj hx₂]

/-- **C08 (priming event).**  A `prime` event only ever appears as the very first event of a request
stream's original exchange: it carries id `(stream, 0)`, the store holds the matching empty payload at
index 0 of that stream, and the exchange's resume point is the beginning — so the first message gets
id 1 in both the stream and the store, and a resume after the priming id replays from index 1. -/
theorem priming_aligned (cfg : Cfg) (hst : cfg.hasStore = true) (ls : List (Label α)) (hsc : InScopeRun (init cfg) ls)
    (j : Nat) (e : Exch α) (he : (run (init cfg) ls).exs[j]? = some e) (sid i : Nat) (ho : Out.prime sid i ∈ e.all) :
    i = 0 ∧ sid = e.stream ∧ sid ≠ 0 ∧ e.from = 0 ∧ ((run (init cfg) ls).log sid)[0]? = some none := by
  have h8 := inv08_run cfg hst ls hsc
  obtain ⟨k, x, hk, hx, hev⟩ := segFrom_mem (h8.seg j e he) ho rfl
  cases x with
  | some it => simp [evOf] at hev
  | none =>
    simp only [evOf, Out.prime.injEq] at hev
    obtain ⟨rfl, rfl⟩ := hev
    cases hl : (run (init cfg) ls).store e.stream with
    | none => rw [hl] at hx; simp at hx
    | some log =>
      rw [hl] at hx
      simp only [Option.getD_some] at hx
      obtain ⟨h0, hne⟩ := h8.shape e.stream log i hl hx
      subst h0
      refine ⟨rfl, rfl, hne, by omega, ?_⟩
      simp [Conn.log, hl, hx]

/-- **C08 (the final response stays obtainable).**  For every request a stream was created for: as soon
as the request is no longer outstanding on a registered stream — in particular after the stream has
been deleted from `streams` because all its responses were written — the response is in the stream's
log, where it stays (logs only grow). -/
theorem final_response_retained (cfg : Cfg) (hst : cfg.hasStore = true) (ls : List (Label α)) (hsc : InScopeRun (init cfg) ls)
    (sid : Nat) (calls : List Nat) (li : Bool) (hh : (run (init cfg) ls).hist sid = some (calls, li)) (r : Nat) (hr : r ∈ calls)
    (hgone : ∀ s ∈ (run (init cfg) ls).streams, s.id = sid → r ∉ s.requests) :
    ∃ (k : Nat) (p : α) (ctx : Option Nat), ((run (init cfg) ls).log sid)[k]? = some (some ⟨.resp r p, ctx⟩) := by
  rcases answered_run cfg hst ls hsc sid calls li hh r hr with ⟨s, hs, hid, hm⟩ | ⟨log, p, ctx, hlog, hmem⟩
  · exact absurd hm (hgone s hs hid)
  · obtain ⟨k, hk⟩ := List.getElem?_of_mem hmem
    exact ⟨k, p, ctx, by simp [Conn.log, hlog, hk]⟩

/-- … and a resume from any earlier issued id that the store has not evicted delivers it: the end-to-end form of `final_response_retained`. -/
theorem final_response_replayed (cfg : Cfg) (hst : cfg.hasStore = true) (ls : List (Label α)) (hsc : InScopeRun (init cfg) ls)
    (sid : Nat) (calls : List Nat) (li : Bool) (hh : (run (init cfg) ls).hist sid = some (calls, li)) (r : Nat) (hr : r ∈ calls)
    (hgone : ∀ s ∈ (run (init cfg) ls).streams, s.id ≠ sid) (hdone : (run (init cfg) ls).isDone = false) :
    ∃ (k : Nat) (p : α) (ctx : Option Nat), ∀ (idx : Nat) (ver : Ver), idx < k → (run (init cfg) ls).purged sid ≤ idx + 1 →
      ∃ e, (get (run (init cfg) ls) (.ok sid idx) ver none).exs[(run (init cfg) ls).exs.length]? = some e ∧
        Out.message (some (sid, k)) ⟨.resp r p, ctx⟩ ∈ e.out := by
  obtain ⟨k, p, ctx, hk⟩ := final_response_retained cfg hst ls hsc sid calls li hh r hr
    (fun s hs hid => absurd hid (hgone s hs))
  refine ⟨k, p, ctx, fun idx ver hidx hnp => ?_⟩
  cases hl : (run (init cfg) ls).store sid with
  | none => simp [Conn.log, hl] at hk
  | some log =>
    rw [Conn.log, hl, Option.getD_some] at hk
    have hfree : (findStream sid (run (init cfg) ls).streams).bind (·.attached) = none := by
      cases hf : findStream sid (run (init cfg) ls).streams with
      | none => rfl
      | some s => exact absurd (findStream_some hf).2 (hgone s (findStream_some hf).1)
    have hnn := resume_noPrime cfg hst ls hsc hl idx
    obtain ⟨e, pre, he, _, _, _, hpre, hout⟩ :=
      resume_exchange (inv_run cfg ls) (by rw [run_cfg]; exact hst) hdone ver hl hnp hfree
    refine ⟨e, he, ?_⟩
    -- the delivered writes are the segment of the log from `idx + 1` to its end, which covers position `k`
    have hseg : SegFrom log sid (idx + 1) e.out := by
      rw [hout, ← List.take_length (l := toReplay log (idx + 1))]
      exact segFrom_resumed log sid (idx + 1) hnn hpre _
    obtain ⟨x, hx, hmem⟩ := segFrom_covers hseg (k := k) (by omega) (by
      rw [hout, idCount_append, idCount_noEv hpre, idCount_replayed, toReplay_length log _ hnn]
      have := (List.getElem?_eq_some_iff.mp hk).1
      omega)
    rw [hk] at hx; cases hx
    exact hmem

/-- **C10 (the routing specification holds for every message ever put on an exchange).**  On every label
list: whatever message appears on an HTTP exchange (live or replayed, delivered or written into a
failing writer, as SSE event or inside a JSON body) is `Routed` to the logical stream that exchange serves. -/
theorem every_message_routed (cfg : Cfg) (ls : List (Label α)) (j : Nat) (e : Exch α)
    (he : (run (init cfg) ls).exs[j]? = some e) (o : Out α) (ho : o ∈ e.all) (it : Item α) (hit : it ∈ o.items) :
    Routed (run (init cfg) ls) e.stream it :=
  (inv10_run cfg ls).routed_ex j e he o ho it hit

/-- **C10 (responses).**  A response appears only on an exchange of the stream that was created by the
POST carrying the request it answers (the original exchange of that POST, or an exchange resuming that stream). -/
theorem response_to_own_exchange (cfg : Cfg) (ls : List (Label α)) (j : Nat) (e : Exch α)
    (he : (run (init cfg) ls).exs[j]? = some e) (o : Out α) (ho : o ∈ e.all) (r : Nat) (p : α) (ctx : Option Nat)
    (hit : (⟨.resp r p, ctx⟩ : Item α) ∈ o.items) :
    ∃ calls li, (run (init cfg) ls).hist e.stream = some (calls, li) ∧ r ∈ calls := by
  obtain ⟨calls, li, hh, hm⟩ := every_message_routed cfg ls j e he o ho _ hit
  exact ⟨calls, li, hh, hm⟩

/-- **C10 (traffic issued while handling a request, SSE mode).**  A notification or server→client request
written with the context of request `r` appears only on an exchange of the stream created for `r`. -/
theorem in_request_traffic_on_request_stream (cfg : Cfg) (hj : cfg.jsonResponse = false) (ls : List (Label α)) (j : Nat)
    (e : Exch α) (he : (run (init cfg) ls).exs[j]? = some e) (o : Out α) (ho : o ∈ e.all) (it : Item α) (hit : it ∈ o.items)
    (hnr : ∀ r p, it.msg ≠ .resp r p) (r : Nat) (hctx : it.ctx = some r) :
    ∃ calls li, (run (init cfg) ls).hist e.stream = some (calls, li) ∧ r ∈ calls := by
  obtain ⟨calls, li, hh, hm⟩ := every_message_routed cfg ls j e he o ho it hit
  refine ⟨calls, li, hh, ?_⟩
  rw [run_cfg] at hm
  cases hmsg : it.msg with
  | resp r' p => exact absurd hmsg (hnr r' p)
  | _ =>
    rw [hmsg] at hm
    rcases hm with ⟨_, r', hr', hmem⟩ | ⟨h1, _⟩
    · rw [hctx] at hr'; cases hr'; exact hmem
    · rcases h1 with h1 | h1
      · rw [hj] at h1; cases h1
      · rw [hctx] at h1; cases h1

/-- **C10 (JSON mode / detached context).**  In JSON-response mode, or when written with a context that
belongs to no request, a notification or server→client request appears only on the standalone stream
(id 0) or on a `subscriptions/listen` stream of the same connection. -/
theorem in_request_traffic_on_standalone (cfg : Cfg) (ls : List (Label α)) (j : Nat)
    (e : Exch α) (he : (run (init cfg) ls).exs[j]? = some e) (o : Out α) (ho : o ∈ e.all) (it : Item α) (hit : it ∈ o.items)
    (hnr : ∀ r p, it.msg ≠ .resp r p) (hdet : cfg.jsonResponse = true ∨ it.ctx = none) :
    e.stream = 0 ∨ ∃ calls, (run (init cfg) ls).hist e.stream = some (calls, true) := by
  obtain ⟨calls, li, hh, hm⟩ := every_message_routed cfg ls j e he o ho it hit
  rw [run_cfg] at hm
  have key : (cfg.jsonResponse = false ∧ ∃ r, it.ctx = some r ∧ r ∈ calls) ∨
      ((cfg.jsonResponse = true ∨ it.ctx = none) ∧ (e.stream = 0 ∨ li = true)) →
      e.stream = 0 ∨ ∃ calls, (run (init cfg) ls).hist e.stream = some (calls, true) := by
    rintro (⟨hjf, r, hr, _⟩ | ⟨_, h0 | hli⟩)
    · rcases hdet with h | h
      · rw [hjf] at h; cases h
      · rw [hr] at h; cases h
    · exact Or.inl h0
    · subst hli; exact Or.inr ⟨calls, hh⟩
  cases hmsg : it.msg with
  | resp r' p => exact absurd hmsg (hnr r' p)
  | notif p => rw [hmsg] at hm; exact key hm
  | call p => rw [hmsg] at hm; exact key hm

theorem writeR_reqStreams (c : Conn α) (msg : Msg α) (ctx : Option Nat) (ctxNew : Bool) :
    (writeR c msg ctx ctxNew).1.reqStreams = (eraseResp c msg).reqStreams := by
  unfold writeR
  split
  · cases msg <;> first | rfl | simp_all [Msg.isCall]
  · split
    · rfl
    · split <;> rfl

theorem wrouteR_reqStreams (c : Conn α) (msg : Msg α) (ctx : Option Nat) (ctxNew : Bool) :
    (wrouteR c msg ctx ctxNew).1.reqStreams = (eraseResp c msg).reqStreams := by
  unfold wrouteR
  split
  · cases msg <;> first | rfl | simp_all [Msg.isCall]
  · split
    · rfl
    · split <;> rfl

theorem wdeliverR_reqStreams (c : Conn α) (i : Nat) : (wdeliverR c i).1.reqStreams = c.reqStreams := by
  simp only [wdeliverR]
  split
  · rfl
  · split <;> rfl

/-- **C10 (after the response).**  Writing the response to `r` removes the routing entry of `r` … -/
theorem response_unregisters (c : Conn α) (r : Nat) (p : α) (ctx : Option Nat) (ctxNew : Bool) :
    (writeR c (.resp r p) ctx ctxNew).1.reqStreams r = none := by
  rw [writeR_reqStreams]; simp [eraseResp]

theorem route_unregistered (c : Conn α) (hj : c.cfg.jsonResponse = false) (r : Nat) (hreg : c.reqStreams r = none)
    (msg : Msg α) (hnr : ∀ r' p, msg ≠ .resp r' p) : route c msg (some r) = none := by
  cases msg with
  | resp r' p => exact absurd rfl (hnr r' p)
  | _ => simp [route, related, hj, hreg]

/-- … and from then on (until a new POST registers the same id again) traffic written with the context of
`r` is *rejected*: no exchange, no stream and no log changes — it is not misrouted to another stream. -/
theorem after_response_rejected_not_misrouted (c : Conn α) (hj : c.cfg.jsonResponse = false) (r : Nat)
    (hreg : c.reqStreams r = none) (msg : Msg α) (hnr : ∀ r' p, msg ≠ .resp r' p) (ctxNew : Bool) :
    writeR c msg (some r) ctxNew = (c, .rejected) := by
  unfold writeR
  split
  · rfl
  · rw [route_unregistered c hj r hreg msg hnr]
    cases msg with
    | resp r' p => exact absurd rfl (hnr r' p)
    | _ => rfl

/-- **C10 (no message crosses sessions).**  A step of session `a` (an HTTP request addressed to it, or a write
by its server side) leaves the connection of every other session — its streams, exchanges and store —
untouched.  (In the code as in the model the only structure shared between sessions is the handler's
session table; that no byte of one session shows up on an exchange of another is checked on the
implementation by the C10 monitor.) -/
theorem no_cross_session (w : World α) (a b : Nat) (hab : a ≠ b) (l : Label α) :
    findConn b (wstep w (.on a l)).conns = findConn b w.conns := by
  simp only [wstep, wOn]
  split
  · rfl
  · rename_i c hc
    simp only
    generalize w.conns = l0
    induction l0 with
    | nil => rfl
    | cons x t ih =>
      obtain ⟨k, c0⟩ := x
      simp only [setConn]
      split
      · rename_i hk
        simp only [findConn]
        have : k ≠ b := by rw [hk]; exact hab
        simp [this]
      · simp only [findConn]
        split
        · rfl
        · exact ih

theorem findConn_append_other (b k : Nat) (c : Conn α) (hne : k ≠ b) : ∀ (l : List (Nat × Conn α)),
    findConn b (l ++ [(k, c)]) = findConn b l := by
  intro l
  induction l with
  | nil => simp [findConn, hne]
  | cons x t ih => obtain ⟨k', c0⟩ := x; simp only [List.cons_append, findConn]; split <;> simp_all

theorem findConn_create (w : World α) (k : Nat) (cfg : Cfg) (b : Nat) :
    findConn b (wstep w (.create k cfg)).conns =
      if b = k then (match findConn k w.conns with | some c => some c | none => some (init cfg)) else findConn b w.conns := by
  simp only [wstep]
  cases hk : findConn k w.conns with
  | some c0 =>
    by_cases hbk : b = k
    · subst hbk; simp [hk]
    · simp [hbk]
  | none =>
    by_cases hbk : b = k
    · subst hbk
      simp only [if_true]
      generalize w.conns = l0 at hk
      induction l0 with
      | nil => simp [findConn]
      | cons x t ih =>
        obtain ⟨k', c0⟩ := x
        simp only [findConn] at hk
        split at hk
        · cases hk
        · rename_i hne
          simp only [List.cons_append, findConn, hne, if_false]
          exact ih hk
    · simp only [hbk, if_false]
      exact findConn_append_other b k _ (fun h => hbk h.symm) _

/-- a fan-out touches only its target sessions -/
theorem fanout_no_cross_session (w : World α) (a : Nat) (octx : Option Nat) (ts : List Nat) (p : α) (b : Nat) (hb : b ∉ ts) :
    findConn b (wstep w (.fanout a octx ts p)).conns = findConn b w.conns := by
  simp only [wstep]
  induction ts generalizing w with
  | nil => rfl
  | cons t rest ih =>
    simp only [List.foldl_cons]
    rw [ih (wOn w t (fanCopy p)) (fun h => hb (List.mem_cons_of_mem _ h))]
    exact no_cross_session w t b (fun h => hb (h ▸ List.mem_cons_self)) (fanCopy p)

/-- **C10 (no message crosses sessions), all world label lists**: steps of other sessions, connects of other sessions and
fan-outs that do not target `b` leave the connection of `b` untouched. -/
theorem no_cross_session_run (w : World α) (b : Nat) (ls : List (WLabel α))
    (hl : ∀ l ∈ ls, match l with | .on a _ => a ≠ b | .create a _ => a ≠ b | .fanout _ _ ts _ => b ∉ ts) :
    findConn b (wrun w ls).conns = findConn b w.conns := by
  induction ls generalizing w with
  | nil => rfl
  | cons l t ih =>
    simp only [wrun, List.foldl_cons]
    have h1 := hl l (List.mem_cons_self)
    have h2 := ih (wstep w l) (fun x hx => hl x (List.mem_cons_of_mem _ hx))
    simp only [wrun] at h2
    rw [h2]
    cases l with
    | on a lab => exact no_cross_session w a b h1 lab
    | fanout a octx ts p => exact fanout_no_cross_session w a octx ts p b h1
    | create a cfg => rw [findConn_create, if_neg (Ne.symm h1)]

/-- **C10 (duplicate in-flight ids are refused atomically).**  A POST one of whose call ids is still
registered is answered 400 and registers *nothing*: streams, `requestStreams`, exchanges of others and the
logs of all existing streams are unchanged (the only trace is the `EventStore.Open` of the stream id that
was drawn before the check). -/
theorem duplicate_inflight_id_refused_atomically (c : Conn α) (calls : List Nat) (listen : Bool) (ver : Ver)
    (budget : Option Nat) (r : Nat) (hr : r ∈ calls) (hreg : (c.reqStreams r).isSome) :
    (post c calls listen ver budget).streams = c.streams ∧
    (post c calls listen ver budget).reqStreams = c.reqStreams ∧
    (post c calls listen ver budget).hist = c.hist ∧
    (post c calls listen ver budget).exs = c.exs ++ [{ kind := .status 400, ended := true, stream := c.nextSid }] ∧
    (∀ sid, sid ≠ c.nextSid → (post c calls listen ver budget).store sid = c.store sid) ∧
    ∀ log, (post c calls listen ver budget).store c.nextSid = some log → log = (c.store c.nextSid).getD [] := by
  have hmem : ∀ (l : List Nat), r ∈ l → r ∈ dedup l := by
    intro l
    induction l with
    | nil => intro h; cases h
    | cons a t ih =>
      intro h
      simp only [dedup]
      split
      · rename_i hat
        rcases List.mem_cons.mp h with rfl | h'
        · exact ih hat
        · exact ih h'
      · rcases List.mem_cons.mp h with rfl | h'
        · exact List.mem_cons_self
        · exact List.mem_cons_of_mem _ (ih h')
  have hd := hmem calls hr
  unfold post
  rw [if_neg (by intro h; rw [h] at hd; cases hd)]
  rw [if_pos (by rw [List.any_eq_true]; exact ⟨r, hd, hreg⟩)]
  refine ⟨rfl, rfl, rfl, rfl, ?_, ?_⟩
  · intro sid hne
    simp only [postDup, statusEx]
    split
    · exact openLog_other _ _ _ hne
    · rfl
  · intro log hl
    simp only [postDup, statusEx] at hl
    split at hl
    · simpa using hl.symm
    · rw [hl]; rfl

/-- … and while the session is open, "still registered" is the same as "in flight": a request id is in
`requestStreams` exactly when it is outstanding on a registered stream — except in the window of a response that
has been routed (its entry removed) but not yet delivered (`RespPending`: the request is still outstanding on its
stream until the delivery section runs). -/
theorem registered_iff_inflight (cfg : Cfg) (ls : List (Label α)) (hopen : (run (init cfg) ls).isDone = false) (r : Nat)
    (hnp : ∀ sid, ¬ RespPending (run (init cfg) ls) r sid) :
    (∃ s ∈ (run (init cfg) ls).streams, r ∈ s.requests) ↔ ((run (init cfg : Conn α) ls).reqStreams r).isSome := by
  have h := invReg_run cfg ls
  constructor
  · rintro ⟨s, hs, hr⟩
    rcases h.live hopen s hs r hr with hl | hp
    · rw [hl]; rfl
    · exact absurd hp (hnp s.id)
  · intro hsome
    cases hc : (run (init cfg : Conn α) ls).reqStreams r with
    | none => rw [hc] at hsome; cases hsome
    | some sid =>
      obtain ⟨s, hs, _, hm⟩ := h.reg r sid hc
      exact ⟨s, hs, hm⟩

/-- the routing section of a response removes the routing entry of its request at once -/
theorem response_unregisters_at_routing (c : Conn α) (r : Nat) (p : α) (ctx : Option Nat) (ctxNew : Bool) :
    (wrouteR c (.resp r p) ctx ctxNew).1.reqStreams r = none := by
  rw [wrouteR_reqStreams]; simp [eraseResp]

/-- **C02/C10 (an undeliverable response frees its id as well).**  Whatever becomes of the response — delivered, stored
only, or dropped as undeliverable (`rejected`: POST exchange gone and no event store; `broken`: session closed) — the
request's routing entry is gone after the write, so a later call may carry the id again. -/
theorem undeliverable_response_unregisters (c : Conn α) (r : Nat) (p : α) (ctx : Option Nat) (ctxNew : Bool) :
    ((writeR c (.resp r p) ctx ctxNew).2 = .rejected ∨ (writeR c (.resp r p) ctx ctxNew).2 = .broken →
      (writeR c (.resp r p) ctx ctxNew).1.reqStreams r = none) ∧
    (wrouteR c (.resp r p) ctx ctxNew).1.reqStreams r = none ∧
    ∀ i, (wdeliverR c i).1.reqStreams = c.reqStreams :=
  ⟨fun _ => response_unregisters c r p ctx ctxNew, response_unregisters_at_routing c r p ctx ctxNew, wdeliverR_reqStreams c⟩

/-- … and from then on traffic written with the context of `r` is rejected by the routing section: nothing is left
pending, no exchange, no stream and no log changes -/
theorem after_response_routing_rejects (c : Conn α) (hj : c.cfg.jsonResponse = false) (r : Nat)
    (hreg : c.reqStreams r = none) (msg : Msg α) (hnr : ∀ r' p, msg ≠ .resp r' p) (ctxNew : Bool) :
    wrouteR c msg (some r) ctxNew = (c, .rejected) := by
  unfold wrouteR
  split
  · rfl
  · rw [route_unregistered c hj r hreg msg hnr]
    cases msg with
    | resp r' p => exact absurd rfl (hnr r' p)
    | _ => rfl

/-! ## regenerated constants of the Go code

Nothing in the model reads them: `Ver` has one constructor per version string (the driver maps the harness' tokens to it). -/

/-- the version strings in the order string comparison (the Go code's) gives them; `Ver.ge1125` and `Ver.isNew` assume it -/
theorem version_order :
    Generated.Resume.protocolVersion20250326 < Generated.Resume.protocolVersion20250618 ∧
    Generated.Resume.protocolVersion20250618 < Generated.Resume.protocolVersion20251125 ∧
    Generated.Resume.protocolVersion20251125 < Generated.Resume.protocolVersion20260728 ∧
    "" < Generated.Resume.protocolVersion20250326 := by decide

/-- event ids are `<stream>_<index>` and the SSE event names are the three the model distinguishes -/
theorem event_id_format :
    Generated.Resume.eventIDFormat = "%s_%d" ∧ Generated.Resume.eventIDSep = "_" ∧
    Generated.Resume.eventNames = ["close", "message", "prime"] := by decide

end Resume
