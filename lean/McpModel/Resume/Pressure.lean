import McpModel.Resume.Purge
import McpModel.Resume.Witness
/-!
# C08 — evictions *during* a replay

`EventStore.After` hands `acquireStream` an iterator.  `MemoryEventStore.After` takes its snapshot of the stream's
entries under the store lock when the iteration starts and yields the items afterwards, without the lock; while
`acquireStream` collects them (under the *stream's* lock, which does not exclude writes of **other** sessions), another
session's `Append` may make the shared, bounded store purge — also entries of the stream that is being replayed,
entries the iteration has snapshotted but not yet yielded.

The model has ONE label for a resume (GET): `replayItems` is what `After` returned, `getGo` serves exactly that list.
`replay_atomic_wrt_eviction` justifies the atomic label against that interleaving: serving the snapshot *after* any
evictions (`getDuring`: the snapshot is taken in `c`, the replay and the re-attachment run in the evicted state) is the
same as the atomic GET followed by the evictions.  So everything proved for label lists "… GET, EVICT, …" — in particular
`resume_after_purge_reports_not_silently_skips`: the exact rest of the log or an error, never a stream with a gap — holds
for a GET with evictions in the middle of its replay: `resume_under_pressure_exact_or_error`.
What ties this to the code: the harness op `getp` makes another session append (and the real bounded `MemoryEventStore`
purge) between the k-th and the k+1-th item the real `After` yields, and the C08 monitor judges what the resume delivered.
-/
namespace Resume
variable {α : Type}

/-- the evictions `(stream, n)` of a record, in order -/
def evictAll (c : Conn α) (es : List (Nat × Nat)) : Conn α := es.foldl (fun c x => evict c x.1 x.2) c

theorem evictAll_eq_run (c : Conn α) (es : List (Nat × Nat)) :
    evictAll c es = run c (es.map fun x => Label.evict x.1 x.2) := by
  induction es generalizing c with
  | nil => rfl
  | cons x t ih => simp only [evictAll, List.foldl_cons, List.map_cons, run] at ih ⊢; exact ih _

/-- `acquireStream` with the evictions `es` happening between `After`'s snapshot and the end of its iteration: the
header checks, the claim check and the snapshot (`replayItems`) see `c`; the replay loop and the re-attachment run in
the evicted state, on the snapshot -/
def getDuring (c : Conn α) (hdr : Hdr) (ver : Ver) (budget : Option Nat) (es : List (Nat × Nat)) : Conn α :=
  if hdr = .bad then evictAll (statusEx c 400) es
  else if hdr.has && !c.cfg.hasStore then evictAll (statusEx c 400) es
  else match (findStream hdr.sid c.streams).bind (·.attached) with
    | some _ => evictAll (statusEx c 409) es
    | none =>
      match replayItems c hdr.sid hdr.from with
      | none => evictAll (statusEx c 400) es
      | some items => getGo (evictAll c es) hdr.sid hdr.from ver budget items

/-! ### `getGo` neither reads nor writes `purged` -/

def setPurged (c : Conn α) (f : Nat → Nat) : Conn α := { c with purged := f }

theorem replayLoop_setPurged (f : Nat → Nat) (ex sid : Nat) : ∀ (items : List (Item α)) (c : Conn α) (k : Nat),
    replayLoop (setPurged c f) ex sid k items = (setPurged (replayLoop c ex sid k items).1 f, (replayLoop c ex sid k items).2) := by
  intro items
  induction items with
  | nil => intro c k; rfl
  | cons it rest ih =>
    intro c k
    have he : emit (setPurged c f) ex (.message (some (sid, k)) it) =
        (setPurged (emit c ex (.message (some (sid, k)) it)).1 f, (emit c ex (.message (some (sid, k)) it)).2) := rfl
    unfold replayLoop
    rw [he]
    simp only
    split
    · exact ih _ _
    · rfl

theorem getOpen_setPurged (c : Conn α) (f : Nat → Nat) (sid frm : Nat) (budget : Option Nat) :
    getOpen (setPurged c f) sid frm budget = setPurged (getOpen c sid frm budget) f := by
  unfold getOpen
  split <;> rfl

theorem attach_setPurged (c : Conn α) (f : Nat → Nat) (s : Stream α) (ex next : Nat) (ver : Ver) (closed : Bool) :
    attach (setPurged c f) s ex next ver closed = setPurged (attach c s ex next ver closed) f := by
  unfold attach
  split <;> rfl

theorem getGo_setPurged (c : Conn α) (f : Nat → Nat) (sid frm : Nat) (ver : Ver) (budget : Option Nat) (items : List (Item α)) :
    getGo (setPurged c f) sid frm ver budget items = setPurged (getGo c sid frm ver budget items) f := by
  unfold getGo
  rw [getOpen_setPurged, replayLoop_setPurged]
  have hx : (setPurged c f).exs = c.exs := rfl
  have hs : (setPurged c f).streams = c.streams := rfl
  have hd : (setPurged c f).isDone = c.isDone := rfl
  rw [hx, hs, hd]
  simp only
  split
  · split
    · rfl
    · split
      · rfl
      · exact attach_setPurged _ _ _ _ _ _ _
  · rfl

theorem evict_as_setPurged (c : Conn α) (sid n : Nat) :
    evict c sid n = setPurged c (fun k => if k = sid then max (c.purged k) (min n ((c.store k).getD []).length) else c.purged k) := rfl

theorem getGo_evict (c : Conn α) (sid' n : Nat) (sid frm : Nat) (ver : Ver) (budget : Option Nat) (items : List (Item α)) :
    getGo (evict c sid' n) sid frm ver budget items = evict (getGo c sid frm ver budget items) sid' n := by
  rw [evict_as_setPurged c, getGo_setPurged, evict_as_setPurged (getGo c sid frm ver budget items)]
  -- `getGo` writes neither `store` nor `purged`
  rw [getGo_only_exs_streams c sid frm ver budget items]

theorem getGo_evictAll (sid frm : Nat) (ver : Ver) (budget : Option Nat) (items : List (Item α)) :
    ∀ (es : List (Nat × Nat)) (c : Conn α),
      getGo (evictAll c es) sid frm ver budget items = evictAll (getGo c sid frm ver budget items) es := by
  intro es
  induction es with
  | nil => intro c; rfl
  | cons x t ih =>
    intro c
    simp only [evictAll, List.foldl_cons] at ih ⊢
    rw [ih, getGo_evict]

/-- **C08 (a replay is atomic with respect to evictions).**  Whatever the store evicts — of whichever streams, the one
being replayed included — after `After` has taken its snapshot and before the resume has written its last replayed
event and re-attached: the outcome is that of the atomic GET followed by those evictions.  What `After` returned is
what is delivered; nothing the store forgets afterwards can take an item out of the replay, change an event id or
move the `lastIdx` the stream is re-attached with. -/
theorem replay_atomic_wrt_eviction (c : Conn α) (hdr : Hdr) (ver : Ver) (budget : Option Nat) (es : List (Nat × Nat)) :
    getDuring c hdr ver budget es = run (step c (.get hdr ver budget)) (es.map fun x => Label.evict x.1 x.2) := by
  rw [← evictAll_eq_run]
  show getDuring c hdr ver budget es = evictAll (get c hdr ver budget) es
  unfold getDuring get
  by_cases h1 : hdr = .bad
  · rw [if_pos h1, if_pos h1]
  · rw [if_neg h1, if_neg h1]
    by_cases h2 : (hdr.has && !c.cfg.hasStore) = true
    · rw [if_pos h2, if_pos h2]
    · rw [if_neg h2, if_neg h2]
      cases h3 : (findStream hdr.sid c.streams).bind (·.attached) with
      | some k => rfl
      | none =>
        simp only
        cases h4 : replayItems c hdr.sid hdr.from with
        | none => rfl
        | some items => exact getGo_evictAll _ _ _ _ _ _ _

/-- evictions touch nothing but the store's eviction counters -/
theorem evictAll_frame (c : Conn α) (es : List (Nat × Nat)) :
    (evictAll c es).exs = c.exs ∧ (evictAll c es).streams = c.streams ∧ (evictAll c es).store = c.store ∧
    (evictAll c es).reqStreams = c.reqStreams ∧ (evictAll c es).isDone = c.isDone := by
  induction es generalizing c with
  | nil => exact ⟨rfl, rfl, rfl, rfl, rfl⟩
  | cons x t ih =>
    simp only [evictAll, List.foldl_cons] at ih ⊢
    obtain ⟨a, b, d, e, f⟩ := ih (evict c x.1 x.2)
    exact ⟨a, b, d, e, f⟩

/-- **C08 (a resume under store pressure delivers the exact rest of the log, or reports the purge).**  In any reachable
state of any in-scope label list, a resume from a previously issued id during whose replay the store evicts anything
(`es`, any streams, any amounts) is answered — judged by what had been evicted when `After` was called —
with status 400 and nothing written, or with an event stream that is delivered exactly `log[idx+1 …]`, each entry once,
in order, with its log position as id.  Never a 200 with a gap. -/
theorem resume_under_pressure_exact_or_error (cfg : Cfg) (hst : cfg.hasStore = true) (ls : List (Label α))
    (hsc : InScopeRun (init cfg) ls) (sid idx : Nat) (ver : Ver) (log : List (Option (Item α)))
    (hlog : (run (init cfg) ls).store sid = some log) (hidx : idx < log.length)
    (hdone : (run (init cfg) ls).isDone = false)
    (hfree : (findStream sid (run (init cfg) ls).streams).bind (·.attached) = none) (es : List (Nat × Nat)) :
    ∃ e, (getDuring (run (init cfg) ls) (.ok sid idx) ver none es).exs[(run (init cfg) ls).exs.length]? = some e ∧
      ((idx + 1 < (run (init cfg) ls).purged sid ∧ e.kind = .status 400 ∧ e.all = []) ∨
       ((run (init cfg) ls).purged sid ≤ idx + 1 ∧ e.kind = .sse ∧ e.stream = sid ∧ e.from = idx + 1 ∧ e.lost = [] ∧
          (events e.out).length = log.length - (idx + 1) ∧
          ∀ (k : Nat) (o : Out α), (events e.out)[k]? = some o →
            ∃ x, log[idx + 1 + k]? = some x ∧ o = evOf sid (idx + 1 + k) x)) := by
  rw [replay_atomic_wrt_eviction, ← evictAll_eq_run, (evictAll_frame _ es).1]
  obtain ⟨e, he, h⟩ := resume_after_purge_reports_not_silently_skips cfg hst ls hsc sid idx ver log hlog hidx hdone hfree
  refine ⟨e, he, ?_⟩
  rcases h with ⟨h1, h2, h3, _⟩ | h
  · exact Or.inl ⟨h1, h2, h3⟩
  · exact Or.inr h

/-- non-vacuity: `demo`'s first resume (from `(1,1)`, one stored message to replay) with the store evicting the whole
stream meanwhile still delivers that message; the evictions show only in `purged` -/
example : ((getDuring (run (init cfgW) (demo.take 4)) (.ok 1 1) .v1125 none [(1, 9), (0, 3)]).exs.map (fun e => e.out)) =
    ((run (init cfgW) (demo.take 5)).exs.map (fun e => e.out)) := by decide +kernel

example : (getDuring (run (init cfgW) (demo.take 4)) (.ok 1 1) .v1125 none [(1, 9), (0, 3)]).purged 1 = 3 := by decide +kernel

end Resume
