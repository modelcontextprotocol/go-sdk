import McpModel.Resume.C08
import McpModel.Resume.C10
/-!
E5 — request bookkeeping invariants:
* `InvReg` (all label lists): while the session is open, a request is outstanding on a registered stream
  exactly when `requestStreams` maps it to that stream (so "duplicate in-flight id" is what POST refuses) — except
  between WROUTE and WDELIVER of its response (`RespPending`; `InvReg.pend`: the request is not registered again meanwhile);
* `Answered` (store configured, contexts before 2026-07-28): every request a stream was created for is either
  still outstanding on the registered stream or its response is in that stream's log — which is what
  keeps the final response obtainable after the stream is deleted.

Also here: `write_is_route_then_deliver`.
-/
namespace Resume
variable {α : Type}

/-- a response to `r` for stream `sid` is between its routing and its delivery section -/
def RespPending (c : Conn α) (r sid : Nat) : Prop := ∃ pw ∈ c.pendW, pw.sid = sid ∧ ∃ p, pw.msg = .resp r p

structure InvReg (c : Conn α) : Prop where
  live : c.isDone = false → ∀ s ∈ c.streams, ∀ r ∈ s.requests, c.reqStreams r = some s.id ∨ RespPending c r s.id
  reg : ∀ (r sid : Nat), c.reqStreams r = some sid → ∃ s ∈ c.streams, s.id = sid ∧ r ∈ s.requests
  pend : ∀ pw ∈ c.pendW, ∀ r p, pw.msg = .resp r p → c.reqStreams r ≠ some pw.sid

theorem invReg_init (cfg : Cfg) : InvReg (init cfg : Conn α) := by
  refine ⟨?_, ?_, ?_⟩
  · intro _ s hs r hr; obtain rfl := List.mem_singleton.mp hs; cases hr
  · intro r sid h; cases h
  · intro pw h; cases h

/-- every old stream is still there with the same outstanding requests -/
def ReqsKeep (l l' : List (Stream α)) : Prop := ∀ s ∈ l, ∃ s' ∈ l', s'.id = s.id ∧ s'.requests = s.requests

theorem reqsKeep_release (l : List (Stream α)) (ex : Nat) : ReqsKeep l (release ex l) := by
  intro s hs
  unfold release
  by_cases hat : s.attached = some ex
  · exact ⟨{ s with attached := none, opn := false }, List.mem_map.mpr ⟨s, hs, by simp [hat]⟩, rfl, rfl⟩
  · exact ⟨s, List.mem_map.mpr ⟨s, hs, by simp [hat]⟩, rfl, rfl⟩

theorem reqsKeep_set {l : List (Stream α)} (hn : (l.map (·.id)).Nodup) {s s' : Stream α} (hs : s ∈ l) (h1 : s'.id = s.id)
    (h4 : s'.requests = s.requests) : ReqsKeep l (setStream s' l) := by
  intro x hx
  by_cases hid : x.id = s'.id
  · obtain rfl : x = s := List.eq_of_nodup_map (·.id) hn hx hs (hid.trans h1)
    exact ⟨s', mem_setStream_self hx hid, h1, h4⟩
  · exact ⟨x, mem_setStream_other hx hid, rfl, rfl⟩

theorem invReg_frame {c c' : Conn α} (h : InvReg c) (hd : c'.isDone = c.isDone ∨ c'.isDone = true)
    (hreq : c'.reqStreams = c.reqStreams) (hs : StrKeep c.streams c'.streams) (hf : ReqsKeep c.streams c'.streams)
    (hpw : c'.pendW = c.pendW := by rfl) : InvReg c' := by
  refine ⟨?_, ?_, ?_⟩
  · intro hnd s' hs' r hr
    obtain ⟨s, hsl, h1, _, _, h4, _⟩ := hs s' hs'
    have : c.isDone = false := by
      rcases hd with hd | hd
      · rw [← hd]; exact hnd
      · rw [hd] at hnd; cases hnd
    rw [hreq, h1]
    rcases h.live this s hsl r (by rw [← h4]; exact hr) with hl | ⟨pw, hp, hps⟩
    · exact Or.inl hl
    · exact Or.inr ⟨pw, by rw [hpw]; exact hp, hps⟩
  · intro r sid hr
    rw [hreq] at hr
    obtain ⟨s, hsl, hid, hmem⟩ := h.reg r sid hr
    obtain ⟨s', hs', h1, h4⟩ := hf s hsl
    exact ⟨s', hs', by rw [h1]; exact hid, by rw [h4]; exact hmem⟩
  · intro pw hp r p hm
    rw [hreq]; exact h.pend pw (by rw [← hpw]; exact hp) r p hm

theorem reqsKeep_refl (l : List (Stream α)) : ReqsKeep l l := fun s hs => ⟨s, hs, rfl, rfl⟩

theorem getGo_reqsKeep {c : Conn α} (hw : Inv c) (sid frm : Nat) (ver : Ver) (budget : Option Nat) (items : List (Item α)) :
    ReqsKeep c.streams (getGo c sid frm ver budget items).streams := by
  rcases getGo_streams c sid frm ver budget items with h | ⟨s, hs, _, h | h⟩ <;> rw [h]
  · exact reqsKeep_refl _
  · exact reqsKeep_set hw.nodup (findStream_some hs).1 rfl rfl
  · intro x hx
    obtain ⟨y, hy, g1, g4⟩ := reqsKeep_set (s' := { s with attached := some c.exs.length, opn := true, next := frm + items.length, v1125 := ver.ge1125 })
      hw.nodup (findStream_some hs).1 rfl rfl x hx
    obtain ⟨z, hz, k1, k4⟩ := reqsKeep_release _ c.exs.length y hy
    exact ⟨z, hz, k1.trans g1, k4.trans g4⟩

theorem tail_reqsKeep {c c₁ : Conn α} (hw : Inv c) (ht : Tail c c₁) : ReqsKeep c.streams c₁.streams := by
  cases ht with
  | none => exact reqsKeep_refl _
  | cut ex => exact reqsKeep_release _ _
  | close s ex hs => exact reqsKeep_set hw.nodup (s := s) hs rfl rfl

theorem invReg_postPrimed {c : Conn α} (hw : Inv c) (h : InvReg c) (calls : List Nat) (listen : Bool) (ver : Ver)
    (budget : Option Nat) (hnd : ∀ r ∈ calls, c.reqStreams r = none) : InvReg (postPrimed c calls listen ver budget) := by
  obtain ⟨fs, _, _, _, fd, frq, _, _, fp⟩ := postPrimed_frame c calls listen ver budget
  refine ⟨?_, ?_, ?_⟩
  · intro hdn s' hs' r hr
    rw [fd] at hdn
    rw [fs] at hs'
    rw [frq]
    simp only [List.mem_append, List.mem_singleton] at hs'
    rcases hs' with hold | rfl
    · rcases h.live hdn s' hold r hr with hl | ⟨pw, hp, hps⟩
      · have hnc : r ∉ calls := fun hc => by rw [hnd r hc] at hl; cases hl
        exact Or.inl (by simp [hnc, hl])
      · exact Or.inr ⟨pw, by rw [fp]; exact hp, hps⟩
    · simp only [newStream] at hr ⊢
      exact Or.inl (by simp [hr])
  · intro r sid hr
    rw [frq] at hr
    rw [fs]
    simp only at hr
    split at hr
    · rename_i hc
      cases hr
      exact ⟨newStream c calls listen ver, by simp, rfl, by simpa [newStream] using hc⟩
    · obtain ⟨s, hsl, hid, hm⟩ := h.reg r sid hr
      exact ⟨s, by simp [hsl], hid, hm⟩
  · intro pw hp r p hm
    rw [fp] at hp
    rw [frq]
    simp only
    split
    · intro he
      have := hw.pend_lt pw hp
      have he' : c.nextSid = pw.sid := Option.some.inj he
      omega
    · exact h.pend pw hp r p hm

/-- routing section: the entry of the answered request goes; if the write is kept pending it takes its place.  `l`, the new pending
list, keeps the old writes (`hsub`) and adds at most this one (`hnew`); `hcase` is why `InvReg.live` survives: no target, session
closed, or the write is in `l` as the `RespPending` that replaces the entry. -/
theorem invReg_eraseResp_pendW {c : Conn α} (hw : Inv c) (h : InvReg c) (msg : Msg α) (ctx : Option Nat) (l : List (PendW α))
    (hsub : ∀ pw ∈ c.pendW, pw ∈ l)
    (hnew : ∀ pw ∈ l, pw ∈ c.pendW ∨ ∃ s ctxNew, route c msg ctx = some s ∧ pw = ⟨msg, ctx, ctxNew, s.id⟩)
    (hcase : route c msg ctx = none ∨ c.isDone = true ∨ ∃ s ctxNew, route c msg ctx = some s ∧ (⟨msg, ctx, ctxNew, s.id⟩ : PendW α) ∈ l) :
    InvReg ({ eraseResp c msg with pendW := l } : Conn α) := by
  refine ⟨?_, ?_, ?_⟩
  · intro hdn s hs r hr
    simp only [eraseResp_isDone] at hdn
    simp only [eraseResp_streams] at hs
    rcases h.live hdn s hs r hr with hl | ⟨pw, hp, hps⟩
    · cases msg with
      | resp id p =>
        simp only [eraseResp_req_resp]
        by_cases hri : r = id
        · subst hri
          have hrt : route c (.resp r p) ctx = some s := by
            rw [route_resp, hl]; exact findStream_of_mem hw.nodup hs
          rcases hcase with hn | hd | ⟨s', ctxNew, hs', hm⟩
          · rw [hrt] at hn; cases hn
          · rw [hd] at hdn; cases hdn
          · rw [hrt] at hs'; cases hs'
            exact Or.inr ⟨_, hm, rfl, p, rfl⟩
        · exact Or.inl (by simp [hri, hl])
      | notif p => exact Or.inl hl
      | call p => exact Or.inl hl
    · exact Or.inr ⟨pw, hsub pw hp, hps⟩
  · intro r sid hr
    simpa using h.reg r sid (eraseResp_req_le c msg r sid hr)
  · intro pw hp r p hm he
    have he' : (eraseResp c msg).reqStreams r = some pw.sid := he
    rcases hnew pw hp with hold | ⟨s, ctxNew, hs, rfl⟩
    · exact h.pend pw hold r p hm (eraseResp_req_le c msg r _ he')
    · simp only at hm he'
      subst hm
      rw [eraseResp_req_resp] at he'
      simp at he'

theorem invReg_erase {c : Conn α} (hw : Inv c) (h : InvReg c) (msg : Msg α) (ctx : Option Nat)
    (hc : route c msg ctx = none ∨ c.isDone = true) : InvReg (eraseResp c msg) := by
  have := invReg_eraseResp_pendW hw h msg ctx c.pendW (fun _ hp => hp) (fun _ hp => Or.inl hp)
    (hc.elim Or.inl (fun hd => Or.inr (Or.inl hd)))
  rw [eraseResp_pendW_eq] at this; exact this

theorem invReg_route {c : Conn α} (hw : Inv c) (h : InvReg c) (msg : Msg α) (ctx : Option Nat) (ctxNew : Bool) {s : Stream α}
    (hr : route c msg ctx = some s) :
    InvReg ({ eraseResp c msg with pendW := c.pendW ++ [⟨msg, ctx, ctxNew, s.id⟩] } : Conn α) :=
  invReg_eraseResp_pendW hw h msg ctx _ (fun pw hp => List.mem_append_left _ hp)
    (fun pw hp => by
      rcases List.mem_append.mp hp with h1 | h1
      · exact Or.inl h1
      · simp at h1; exact Or.inr ⟨s, ctxNew, hr, h1⟩)
    (Or.inr (Or.inr ⟨s, ctxNew, hr, by simp⟩))

theorem writeTo_keeps {c : Conn α} (hw : Inv c) {s x : Stream α} (hmem : s ∈ c.streams) (hx : x ∈ c.streams) (msg : Msg α)
    (ctx : Option Nat) (ctxNew : Bool) {r : Nat} (hm : r ∈ x.requests) (hne : x.id = s.id → ∀ p, msg ≠ .resp r p) :
    ∃ x' ∈ (writeTo c s msg ctx ctxNew).1.streams, x'.id = x.id ∧ r ∈ x'.requests := by
  have hds := deliver_stream c.exs s ⟨msg, ctx⟩ (if wUse c ctxNew then some (s.id, s.next) else none) (wReqs s msg) (wDone s msg)
  simp only [writeTo, wDeliver]
  by_cases hxs : x.id = s.id
  · obtain rfl := stream_unique hw hx hmem hxs
    have hrw : r ∈ wReqs x msg := by
      cases msg with
      | resp id p => exact mem_eraseAll_of hm (fun he => hne rfl p (by rw [he]))
      | notif p => exact hm
      | call p => exact hm
    have hnd : wDone x msg = false := by
      simp only [wDone]
      cases hw' : wReqs x msg with
      | nil => rw [hw'] at hrw; cases hrw
      | cons a t => simp
    simp only [hnd] at hds ⊢
    exact ⟨_, mem_setStream_self hx hds.1.symm, hds.1, by rw [hds.2.2.2.1]; exact hrw⟩
  · refine ⟨x, ?_, rfl, hm⟩
    split
    · rw [mem_delStream]; exact ⟨hx, hxs⟩
    · exact mem_setStream_other hx (by rw [hds.1]; exact hxs)

theorem invReg_deliver {c : Conn α} (hw : Inv c) (h : InvReg c) (i : Nat) (pw : PendW α) (hpw : c.pendW[i]? = some pw)
    (s : Stream α) (hs : findStream pw.sid c.streams = some s) :
    InvReg (writeTo ({ c with pendW := c.pendW.eraseIdx i } : Conn α) s pw.msg pw.ctx pw.ctxNew).1 := by
  obtain ⟨hmem, hsid⟩ := findStream_some hs
  have hds := deliver_stream c.exs s ⟨pw.msg, pw.ctx⟩
    (if wUse ({ c with pendW := c.pendW.eraseIdx i } : Conn α) pw.ctxNew then some (s.id, s.next) else none) (wReqs s pw.msg) (wDone s pw.msg)
  -- pending responses for other (stream, request) pairs survive
  have hsurv : ∀ r sid, RespPending c r sid → (sid ≠ s.id ∨ ∀ p, pw.msg ≠ .resp r p) →
      RespPending ({ c with pendW := c.pendW.eraseIdx i } : Conn α) r sid := by
    rintro r sid ⟨pw', hp', hs', p', hm'⟩ hdiff
    refine ⟨pw', List.mem_eraseIdx_of_ne hp' hpw ?_, hs', p', hm'⟩
    intro he; subst he
    rcases hdiff with hd | hd
    · exact hd (hs'.symm.trans hsid.symm)
    · exact hd p' hm'
  refine ⟨?_, ?_, ?_⟩
  · intro hdn x hx r hr
    simp only [writeTo] at hx hdn ⊢
    have hother : ∀ y ∈ c.streams, y.id ≠ s.id → ∀ r ∈ y.requests,
        c.reqStreams r = some y.id ∨ RespPending ({ c with pendW := c.pendW.eraseIdx i } : Conn α) r y.id := by
      intro y hy hne r hr
      rcases h.live hdn y hy r hr with hl | hp
      · exact Or.inl hl
      · exact Or.inr (hsurv r y.id hp (Or.inl hne))
    split at hx
    · rw [mem_delStream] at hx
      exact hother x hx.1 hx.2 r hr
    · rcases mem_setStream hx with rfl | ⟨hxl, hne⟩
      · simp only [wDeliver] at hr ⊢
        rw [hds.2.2.2.1] at hr
        rw [hds.1]
        rcases h.live hdn s hmem r (mem_wReqs hr) with hl | hp
        · exact Or.inl hl
        · refine Or.inr (hsurv r s.id hp (Or.inr ?_))
          intro p hm
          rw [hm] at hr
          exact wReqs_ne hr rfl
      · simp only [wDeliver] at hne
        rw [hds.1] at hne
        exact hother x hxl hne r hr
  · intro r sid hr
    obtain ⟨x, hxl, hid, hm⟩ := h.reg r sid hr
    obtain ⟨x', hx', h1, h2⟩ := writeTo_keeps (inv_unpend hw i) hmem hxl pw.msg pw.ctx pw.ctxNew hm
      (fun hxs p hmsg => h.pend pw (List.mem_of_getElem? hpw) r p hmsg (by rw [← hsid, ← hxs, hid]; exact hr))
    exact ⟨x', hx', h1.trans hid, h2⟩
  · intro pw' hp' r p hm
    simp only [writeTo] at hp' ⊢
    exact h.pend pw' (List.mem_of_mem_eraseIdx hp') r p hm

theorem invReg_orphan {c : Conn α} (hw : Inv c) (h : InvReg c) (i : Nat) (pw : PendW α) (hpw : c.pendW[i]? = some pw)
    (hs : findStream pw.sid c.streams = none) :
    InvReg (orphanWrite ({ c with pendW := c.pendW.eraseIdx i } : Conn α) pw).1 := by
  refine ⟨?_, h.reg, ?_⟩
  · intro hdn x hx r hr
    rcases h.live hdn x hx r hr with hl | ⟨pw', hp', hs', hm'⟩
    · exact Or.inl hl
    · refine Or.inr ⟨pw', List.mem_eraseIdx_of_ne hp' hpw ?_, hs', hm'⟩
      intro he; subst he
      have := findStream_of_mem hw.nodup hx
      rw [← hs', hs] at this; cases this
  · intro pw' hp' r p hm
    exact h.pend pw' (List.mem_of_mem_eraseIdx hp') r p hm

theorem write_is_route_then_deliver {c : Conn α} (hw : Inv c) (msg : Msg α) (ctx : Option Nat) (ctxNew : Bool) :
    writeR c msg ctx ctxNew =
      if (wrouteR c msg ctx ctxNew).2 = .na then wdeliverR (wrouteR c msg ctx ctxNew).1 c.pendW.length
      else wrouteR c msg ctx ctxNew := by
  unfold writeR wrouteR
  split
  · simp
  · split
    · simp
    · rename_i s hrt
      split
      · simp
      · simp only [if_true]
        have hmem := route_mem hrt
        have hget : (c.pendW ++ [(⟨msg, ctx, ctxNew, s.id⟩ : PendW α)])[c.pendW.length]? = some ⟨msg, ctx, ctxNew, s.id⟩ := by simp
        have hfs : findStream s.id (eraseResp c msg).streams = some s := by simp; exact findStream_of_mem hw.nodup hmem
        simp only [wdeliverR, hget, hfs, eraseIdx_snoc]
        simp only [eraseResp_pendW_eq]

theorem invReg_sub {c c₁ : Conn α} {l : Label α} (hw : Inv c) (h : InvReg c) (hs : Sub c l c₁) : InvReg c₁ := by
  cases hs with
  | same => exact h
  | register calls listen ver budget hnew => exact invReg_postPrimed hw h _ _ _ _ hnew
  | cut ex => exact invReg_frame (c' := cut c ex) h (Or.inl rfl) rfl (strKeep_release _ _) (reqsKeep_release _ _)
  | getGo hdr ver budget items =>
    have he := getGo_only_exs_streams c hdr.sid hdr.from ver budget items
    exact invReg_frame h (Or.inl (by rw [he])) (by rw [he]) (getGo_strKeep _ _ _ _ _ _) (getGo_reqsKeep hw _ _ _ _ _) (by rw [he])
  | done => exact invReg_frame (c' := { c with isDone := true }) h (Or.inr rfl) rfl (StrKeep.refl _) (reqsKeep_refl _)
  | erase _ msg ctx hc => exact invReg_erase hw h msg ctx hc
  | write msg ctx ctxNew s hr hd =>
    -- the routing section, then the delivery section of the write it left pending (`write_is_route_then_deliver`)
    have := invReg_deliver (inv_sub hw (.route msg ctx ctxNew s hr hd)) (invReg_route hw h msg ctx ctxNew hr) c.pendW.length
      ⟨msg, ctx, ctxNew, s.id⟩ (by simp) s (by simp; exact findStream_of_mem hw.nodup (route_mem hr))
    simp only [eraseIdx_snoc, eraseResp_pendW_eq] at this
    exact this
  | route msg ctx ctxNew s hr => exact invReg_route hw h msg ctx ctxNew hr
  | deliver i pw s hpw hs => exact invReg_deliver hw h i pw hpw s hs
  | orphan i pw hpw hs => exact invReg_orphan hw h i pw hpw hs
  | _ => exact invReg_frame h (Or.inl rfl) rfl (StrKeep.refl _) (reqsKeep_refl _)

theorem invReg_tail {c c₁ : Conn α} (hw : Inv c) (h : InvReg c) (ht : Tail c c₁) : InvReg c₁ := by
  obtain ⟨_, _, he⟩ := tail_only_exs_streams ht
  exact invReg_frame h (Or.inl (by rw [he])) (by rw [he]) (tail_strKeep ht) (tail_reqsKeep hw ht) (by rw [he])

theorem invReg_step {c : Conn α} (hw : Inv c) (h : InvReg c) (l : Label α) : InvReg (step c l) :=
  step_ind hw l (fun _ => invReg_sub hw h) (fun _ _ hw₁ h₁ => invReg_tail hw₁ h₁)

theorem invReg_run (cfg : Cfg) (ls : List (Label α)) : InvReg (run (init cfg) ls) :=
  (run_ind (P := fun c => Inv c ∧ InvReg c) (fun _ l ⟨hw, h⟩ => ⟨inv_step hw l, invReg_step hw h l⟩)
    ⟨inv_init cfg, invReg_init cfg⟩ ls).2

def Answered (c : Conn α) : Prop :=
  ∀ (sid : Nat) (calls : List Nat) (li : Bool), c.hist sid = some (calls, li) → ∀ r ∈ calls,
    (∃ s ∈ c.streams, s.id = sid ∧ r ∈ s.requests) ∨
    (∃ log p ctx, c.store sid = some log ∧ some (⟨.resp r p, ctx⟩ : Item α) ∈ log)

theorem answered_init (cfg : Cfg) : Answered (init cfg : Conn α) := by
  intro sid calls li hh r hr
  simp only [init] at hh
  split at hh
  · cases hh; cases hr
  · cases hh

theorem answered_frame {c c' : Conn α} (h : Answered c) (hh : c'.hist = c.hist) (hf : ReqsKeep c.streams c'.streams)
    (hl : LogLE c.store c'.store) : Answered c' := by
  intro sid calls li hhist r hr
  rw [hh] at hhist
  rcases h sid calls li hhist r hr with ⟨s, hs, hid, hm⟩ | ⟨log, p, ctx, hlog, hmem⟩
  · obtain ⟨s', hs', h1, h4⟩ := hf s hs
    exact Or.inl ⟨s', hs', by rw [h1]; exact hid, by rw [h4]; exact hm⟩
  · obtain ⟨more, hm⟩ := hl sid log hlog
    exact Or.inr ⟨log ++ more, p, ctx, hm, List.mem_append_left _ hmem⟩

theorem answered_postPrimed {c : Conn α} (h : Answered c) (calls : List Nat) (listen : Bool) (ver : Ver)
    (budget : Option Nat) : Answered (postPrimed c calls listen ver budget) := by
  obtain ⟨fs, fst, _, _, _, _, fh, _, _⟩ := postPrimed_frame c calls listen ver budget
  intro sid cs li hhist r hr
  rw [fh] at hhist
  rw [fs, fst]
  by_cases hk : sid = c.nextSid
  · subst hk
    simp at hhist
    obtain ⟨rfl, rfl⟩ := hhist
    exact Or.inl ⟨newStream c calls listen ver, by simp, rfl, by simpa [newStream] using hr⟩
  · simp [hk] at hhist
    rcases h sid cs li hhist r hr with ⟨s, hs, hid, hm⟩ | ⟨log, p, ctx, hlog, hmem⟩
    · exact Or.inl ⟨s, by simp [hs], hid, hm⟩
    · obtain ⟨more, hm⟩ := logLE_postStore c listen ver sid log hlog
      exact Or.inr ⟨log ++ more, p, ctx, hm, List.mem_append_left _ hmem⟩

theorem answered_writeTo {c : Conn α} (hw : Inv c) (h : Answered c) (msg : Msg α) (ctx : Option Nat)
    {s : Stream α} (hmem : s ∈ c.streams) (hst : c.cfg.hasStore = true) :
    Answered (writeTo c s msg ctx false).1 := by
  have huse : wUse c false = true := by simp [wUse, hst]
  intro sid calls li hhist r hr
  rcases h sid calls li hhist r hr with ⟨x, hxl, hid, hm⟩ | ⟨log, p, cx, hlog, hmem'⟩
  · -- is this write the response to `r` on its stream?
    by_cases hresp : x.id = s.id ∧ ∃ p, msg = .resp r p
    · obtain ⟨hxs, p, rfl⟩ := hresp
      refine Or.inr ⟨(c.store s.id).getD [] ++ [some ⟨.resp r p, ctx⟩], p, ctx, ?_, by simp⟩
      simp only [writeTo, huse, if_true]
      rw [← hid, hxs]; simp
    · obtain ⟨x', hx', h1, h2⟩ := writeTo_keeps hw hmem hxl msg ctx false hm
        (fun hxs p hmsg => hresp ⟨hxs, p, hmsg⟩)
      exact Or.inl ⟨x', hx', h1.trans hid, h2⟩
  · obtain ⟨more, hm⟩ := logLE_writeTo c s msg ctx false sid log hlog
    exact Or.inr ⟨log ++ more, p, cx, hm, List.mem_append_left _ hmem'⟩

theorem answered_sub {c c₁ : Conn α} {l : Label α} (hw : Inv c) (h : Answered c) (hst : c.cfg.hasStore = true)
    (hsc : InScope c l) (hps : PendScope c) (hs : Sub c l c₁) : Answered c₁ := by
  cases hs with
  | same => exact h
  | dup calls listen ver budget =>
    exact answered_frame (c' := postDup c ver) h rfl (reqsKeep_refl _) (logLE_postDup c ver)
  | register => exact answered_postPrimed h _ _ _ _
  | cut ex => exact answered_frame (c' := cut c ex) h rfl (reqsKeep_release _ _) (LogLE.refl _)
  | getGo hdr ver budget items =>
    have he := getGo_only_exs_streams c hdr.sid hdr.from ver budget items
    exact answered_frame h (by rw [he]) (getGo_reqsKeep hw _ _ _ _ _) (by rw [he]; exact LogLE.refl _)
  | erase _ msg => exact answered_frame h (by simp) (by simp; exact reqsKeep_refl _) (by simp; exact LogLE.refl _)
  | write msg ctx ctxNew s hr =>
    have hn : ctxNew = false := hsc
    subst hn
    exact answered_writeTo (inv_eraseResp hw msg)
      (answered_frame h (by simp) (by simp; exact reqsKeep_refl _) (by simp; exact LogLE.refl _)) msg ctx
      (by simp; exact route_mem hr) (by simp; exact hst)
  | route msg => exact answered_frame h (by simp) (by simp; exact reqsKeep_refl _) (by simp; exact LogLE.refl _)
  | deliver i pw s hpw hs =>
    rw [hps pw (List.mem_of_getElem? hpw)]
    exact answered_writeTo (inv_unpend hw i) h _ _ (findStream_some hs).1 hst
  | orphan i pw =>
    exact answered_frame (c := ({ c with pendW := c.pendW.eraseIdx i } : Conn α)) h rfl (reqsKeep_refl _) (logLE_orphan _ pw)
  | _ => exact answered_frame h rfl (reqsKeep_refl _) (LogLE.refl _)

theorem answered_tail {c c₁ : Conn α} (hw : Inv c) (h : Answered c) (ht : Tail c c₁) : Answered c₁ := by
  obtain ⟨_, _, he⟩ := tail_only_exs_streams ht
  exact answered_frame h (by rw [he]) (tail_reqsKeep hw ht) (by rw [he]; exact LogLE.refl _)

theorem answered_step {c : Conn α} (hw : Inv c) (h : Answered c) (hst : c.cfg.hasStore = true) (l : Label α)
    (hsc : InScope c l) (hps : PendScope c) : Answered (step c l) :=
  step_ind hw l (fun _ => answered_sub hw h hst hsc hps) (fun _ _ hw₁ h₁ => answered_tail hw₁ h₁)

theorem answered_run (cfg : Cfg) (hst : cfg.hasStore = true) (ls : List (Label α)) (hsc : InScopeRun (init cfg) ls) :
    Answered (run (init cfg) ls) :=
  (run_ind_scope (P := fun c => Inv c ∧ PendScope c ∧ Answered c ∧ c.cfg.hasStore = true)
    (fun c l hl ⟨hw, hps, h, hs⟩ =>
      ⟨inv_step hw l, pendScope_step hps l hl, answered_step hw h hs l hl hps, by rw [step_cfg]; exact hs⟩)
    ls ⟨inv_init cfg, pendScope_init cfg, answered_init cfg, hst⟩ hsc).2.2.1

end Resume
