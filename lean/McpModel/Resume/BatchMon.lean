import McpModel.Resume.Monitor
/-!
E5 — the typed core of the C02 clauses on the streamable server: *every call of a POST (a batch of several calls under
pre-2025-06-18 versions) is answered exactly once and the exchange completes.*

The monitor looks at the implementation's observations only.  It remembers, per session, the last snapshot of the real
`streams` / `requestStreams` tables and judges
* `orphanReg` — a snapshot in which `requestStreams` still maps a call to a stream that is no longer in `streams`, or no
  longer lists the call as outstanding: the response of that call will be refused ("write to closed stream"), the call
  is never answered, its POST never completes;
* when the handler of call `r` finishes (operation `resp`) and the last snapshot of the (open) session showed `r`
  outstanding on a stream that is attached to exchange `x` and open:
  `unanswered` — SSE stream: no `message` carrying the response was written to `x`;
  `unansweredJson` — JSON stream and `r` was its last outstanding call: no body holding the response was written to `x`;
  `incomplete` — `r` was the stream's last outstanding call and the handler of `x` did not return.
`Mon.batchStep` is a pure function; `McpModel.Resume.BatchBridge` proves that it raises nothing on the observation trace
of the model (label lists in which `Write` is one step: `NoRoute`) and what each clause means.  Core Lean only (linked into the driver).
-/
namespace Resume
namespace Mon

/-- one row of the snapshot of `c.streams`, with the outstanding requests -/
structure BRow where
  t : Nat
  att : Option Nat
  opn : Bool
  sse : Bool
  reqs : List Nat

structure BSnap (σ : Type) where
  sess : σ
  done : Bool                  -- `isDone`
  rows : List BRow
  regs : List (Nat × Nat)      -- `requestStreams`: (request id, stream)

inductive BOp (σ π : Type) where
  | resp (sess : σ) (r : Nat) (p : π)     -- the handler of call `r` of session `sess` finishes; `p` = the payload of its response
  | other

structure BObs (σ π : Type) where
  op : BOp σ π
  sent : List (Sent π)
  ends : List Nat
  snaps : List (BSnap σ)

inductive ClauseB where
  | orphanReg | unanswered | unansweredJson | incomplete
deriving DecidableEq, Repr

def ClauseB.text : ClauseB → String
  | .orphanReg => "C02: a call is still registered in requestStreams but its stream is gone from the session (or no longer lists it): its response will be refused as 'write to closed stream' — the call is never answered and its POST never completes (calls of one batch share a stream; it is done with the LAST response)"
  | .unanswered => "C02: the handler of a call finished while its POST exchange was attached and open, but no response for it was written to that exchange (a call of the batch stays unanswered)"
  | .unansweredJson => "C02: the last call of a POST was answered while its exchange was attached and open (JSON mode), but no body holding the response was written"
  | .incomplete => "C02: every call of the POST has been answered but the exchange did not complete (the POST hangs)"

structure BatchS (σ : Type) where
  last : σ → Option (BSnap σ) := fun _ => none

def batchInit {σ : Type} : BatchS σ := {}

variable {σ π : Type} [DecidableEq σ] [DecidableEq π]

/-- does `requestStreams[r] = t` point at a registered stream that lists `r` as outstanding? -/
def regOK (rows : List BRow) (x : Nat × Nat) : Bool := rows.any fun row => row.t == x.2 && row.reqs.contains x.1

def snapOrphan (s : BSnap σ) : Bool := s.regs.any fun x => !regOK s.rows x

def orphan (snaps : List (BSnap σ)) : Bool := snaps.any snapOrphan

/-- a write of the response payload `p` to exchange `x` (delivered or into a failing writer) -/
def respOn (p : π) (x : Nat) (s : Sent π) : Bool :=
  s.k == x && match s.out with
    | .message _ q => decide (q = p)
    | .json ps => ps.contains p
    | _ => false

/-- the clause of a finished handler, judged on the row that listed its call -/
def rowClause (row : BRow) (r : Nat) (p : π) (o : BObs σ π) : Option ClauseB :=
  match row.att with
  | none => none
  | some x =>
    if !row.opn then none
    else if row.sse && !(o.sent.any (respOn p x)) then some .unanswered
    else if !row.sse && (row.reqs.all (· == r) && row.t != 0) && !(o.sent.any (respOn p x)) then some .unansweredJson
    else if (row.reqs.all (· == r) && row.t != 0) && !(o.ends.contains x) then some .incomplete
    else none

def checkResp (m : BatchS σ) (o : BObs σ π) : Option ClauseB :=
  match o.op with
  | .resp sess r p =>
    match m.last sess with
    | none => none
    | some sn =>
      if sn.done then none else
      match sn.rows.find? (fun row => row.reqs.contains r) with
      | none => none
      | some row => rowClause row r p o
  | .other => none

def applyBSnaps (last : σ → Option (BSnap σ)) (snaps : List (BSnap σ)) : σ → Option (BSnap σ) :=
  snaps.foldl (fun h s => fun s' => if s' = s.sess then some s else h s') last

def batchStep (m : BatchS σ) (o : BObs σ π) : BatchS σ × Option ClauseB :=
  ({ last := applyBSnaps m.last o.snaps }, checkResp m o <|> (if orphan o.snaps then some .orphanReg else none))

def batchRun (m : BatchS σ) : List (BObs σ π) → BatchS σ × Option ClauseB
  | [] => (m, none)
  | o :: t => ((batchRun (batchStep m o).1 t).1, (batchStep m o).2 <|> (batchRun (batchStep m o).1 t).2)

end Mon
end Resume
