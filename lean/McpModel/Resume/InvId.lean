import McpModel.Resume.C08
import McpModel.Resume.C10
import McpModel.Resume.Grow
import McpModel.Resume.InvK
/-!
E5 — every event id ever written to an exchange names the stream that exchange serves (`InvId`), on all
label lists, with or without an event store, in or out of the scope of C08.

At the end `Inv08All`, the invariants a run in the scope of C08 carries, which the C08 bridge starts from.
-/
namespace Resume
variable {α : Type}

/-- the stream named by the event id of a write, if it carries one -/
def Out.sidOf : Out α → Option Nat
  | .prime sid _ => some sid
  | .message (some (sid, _)) _ => some sid
  | _ => none

def InvId (c : Conn α) : Prop :=
  ∀ (j : Nat) (e : Exch α), c.exs[j]? = some e → ∀ o ∈ e.all, ∀ t, o.sidOf = some t → t = e.stream

theorem invId_init (cfg : Cfg) : InvId (init cfg : Conn α) := by
  intro j e he; cases he

theorem invId_of {c c₁ : Conn α} {Q : Nat → Out α → Prop} (h : InvId c) (hex : OutsBy Q c.exs c₁.exs)
    (hQ : ∀ sid o, Q sid o → ∀ t, o.sidOf = some t → t = sid) : InvId c₁ := by
  intro j e' he' o ho t ht
  rcases hex j e' he' o ho with ⟨e, he, hs, ho'⟩ | hq
  · rw [hs]; exact h j e he o ho' t ht
  · exact hQ _ o hq t ht

theorem wrote_sidOf {c : Conn α} {l : Label α} {sid : Nat} {o : Out α} (hq : Wrote c l sid o) :
    ∀ t, o.sidOf = some t → t = sid := by
  intro t ht
  cases hq with
  | prime => simpa [Out.sidOf] using ht.symm
  | replay => simpa [Out.sidOf] using ht.symm
  | message msg ctx evid _ he =>
    cases evid with
    | none => simp [Out.sidOf] at ht
    | some x => simp only [Out.sidOf, Option.some.injEq] at ht; rw [← ht]; exact he x rfl
  | _ => simp [Out.sidOf] at ht

theorem invId_step {c : Conn α} (hw : Inv c) (h : InvId c) (l : Label α) : InvId (step c l) :=
  step_ind hw l (fun _ hs => invId_of h (sub_outs hw hs) (fun _ _ => wrote_sidOf))
    (fun _ _ _ h₁ ht => invId_of (Q := fun _ _ => False) h₁ (tail_outs ht) (fun _ _ hq => hq.elim))

theorem event_ids_name_their_stream (cfg : Cfg) (ls : List (Label α)) : InvId (run (init cfg) ls) :=
  (run_ind (P := fun c => Inv c ∧ InvId c) (fun _ l ⟨hw, h⟩ => ⟨inv_step hw l, invId_step hw h l⟩)
    ⟨inv_init cfg, invId_init cfg⟩ ls).2

structure Inv08All (c : Conn α) : Prop where
  w : Inv c
  i8 : Inv08 c
  k : InvK c
  id : InvId c
  p : InvP c
  ps : PendScope c
  st : c.cfg.hasStore = true

theorem inv08All_init (cfg : Cfg) (hst : cfg.hasStore = true) : Inv08All (init cfg : Conn α) :=
  ⟨inv_init cfg, inv08_init cfg, invK_init cfg, invId_init cfg, invP_init cfg, pendScope_init cfg, hst⟩

theorem inv08All_step {c : Conn α} (hi : Inv08All c) (l : Label α) (hsc : InScope c l) : Inv08All (step c l) :=
  ⟨inv_step hi.w l, inv08_step hi.w hi.i8 hi.st l hsc hi.ps, invK_step hi.w hi.k l, invId_step hi.w hi.id l, invP_step hi.w hi.p l,
    pendScope_step hi.ps l hsc, (step_cfg c l).symm ▸ hi.st⟩

theorem inv08All_run {c : Conn α} (hi : Inv08All c) (ls : List (Label α)) (hsc : InScopeRun c ls) : Inv08All (run c ls) :=
  run_ind_scope (P := Inv08All) (fun _ l hl hi => inv08All_step hi l hl) ls hi hsc

end Resume
