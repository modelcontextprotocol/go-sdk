import McpModel.Resume.Fanout
import McpModel.Resume.RecOf
import McpModel.Resume.FanMon
/-!
# C10 — the fan-out clause of the monitor (`Mon.fanStep`): bridging theorems

The copy of a fan-out a session receives is visible in the record of the step whenever that session was open and the stream
detached notifications go to was reachable (event store, or an open SSE exchange attached): `fanCopy_reaches`.  Hence
`Mon.fanStep` never raises `fanDropped` on a world run of the model (`fanMonitor_accepts_model`): such a verdict means the
implementation did not route the copy as a detached write.
-/
namespace Resume
open Mon

variable {α : Type}

namespace Mon
variable {σ π κ : Type} [DecidableEq σ] [DecidableEq π] [DecidableEq κ]

theorem reached_false_iff (o : FObs σ π κ) (p : π) (b : σ) (r : FRow κ) :
    reached o p b r = false ↔
      (∀ a ∈ o.appends, ¬ (a.1 = b ∧ a.2 = p)) ∧ (∀ k, r.att = some k → ∀ x ∈ o.sent, ¬ (x.1 = k ∧ x.2 = p)) := by
  unfold reached
  cases r.att with
  | none =>
    simp only [Bool.or_false, List.any_eq_false, Bool.and_eq_true, decide_eq_true_eq, reduceCtorEq, false_implies, implies_true,
      and_true]
  | some k =>
    simp only [Bool.or_eq_false_iff, List.any_eq_false, Bool.and_eq_true, decide_eq_true_eq, Option.some.injEq, forall_eq']

theorem dropped_iff (m : FanS σ κ) (o : FObs σ π κ) (p : π) (b : σ) :
    dropped m o p b = true ↔
      ∃ rows r, m.last b = some (false, rows) ∧ target rows = some r ∧ reachable m.store r = true ∧
        (∀ a ∈ o.appends, ¬ (a.1 = b ∧ a.2 = p)) ∧
        (∀ k, r.att = some k → ∀ x ∈ o.sent, ¬ (x.1 = k ∧ x.2 = p)) := by
  unfold dropped
  constructor
  · intro h
    split at h
    · cases h
    · rename_i done rows hl
      simp only [Bool.and_eq_true, Bool.not_eq_true'] at h
      obtain ⟨rfl, h2⟩ := h
      split at h2
      · cases h2
      · rename_i r ht
        simp only [Bool.and_eq_true, Bool.not_eq_true'] at h2
        exact ⟨rows, r, hl, ht, h2.1, (reached_false_iff o p b r).1 h2.2⟩
  · rintro ⟨rows, r, hl, ht, hr, hrest⟩
    rw [hl]
    simp only [ht, hr, (reached_false_iff o p b r).2 hrest]
    rfl
theorem fanStep_clause (m : FanS σ κ) (o : FObs σ π κ) :
    (fanStep m o).2 = some .fanDropped ↔ ∃ p ts, o.fan = some (p, ts) ∧ ∃ b ∈ ts, dropped m o p b = true := by
  unfold fanStep
  cases hf : o.fan with
  | none => simp
  | some x =>
    obtain ⟨p, ts⟩ := x
    simp only [List.any_eq_true, Option.some.injEq, Prod.mk.injEq]
    constructor
    · intro h
      split at h
      · rename_i hany; exact ⟨p, ts, ⟨rfl, rfl⟩, hany⟩
      · cases h
    · rintro ⟨_, _, ⟨rfl, rfl⟩, hany⟩
      rw [if_pos hany]

end Mon

/-- a row of the snapshot of session `b`; exchanges are named (session, local index) -/
def frowOf (b : Nat) (s : Stream α) : FRow (Nat × Nat) :=
  { t := s.id, att := s.attached.map (fun ex => (b, ex)), opn := s.opn, sse := s.json.isNone, listen := s.listen }

def fsnapOf (b : Nat) (c : Conn α) : Bool × List (FRow (Nat × Nat)) := (c.isDone, c.streams.map (frowOf b))

/-- the store appends of session `b` in a record -/
def fAppends (b : Nat) (c c' : Conn α) : List (Nat × α) :=
  (appendsOf b c c').filterMap fun a => a.p.map fun p => (b, p)

/-- the payloads written to the exchanges of session `b` in a record (SSE events and members of JSON bodies) -/
def fSent (b : Nat) (c c' : Conn α) : List ((Nat × Nat) × α) :=
  (sentM c c').flatMap fun x => x.2.2.items.map fun it => ((b, x.1), payloadOf it)

theorem target_map (b : Nat) (l : List (Stream α)) :
    target (l.map (frowOf b)) = ((match findListen l with | some s => some s | none => findStream 0 l)).map (frowOf b) := by
  unfold target findListen findStream
  rw [List.find?_map, List.find?_map]
  have h1 : ((fun r : FRow (Nat × Nat) => r.listen) ∘ frowOf b) = (fun s : Stream α => s.listen) := rfl
  have h2 : ((fun r : FRow (Nat × Nat) => r.t == 0) ∘ frowOf b) = (fun s : Stream α => s.id == 0) := rfl
  rw [h1, h2]
  cases List.find? (fun s : Stream α => s.listen) l with
  | some s => rfl
  | none => rfl

theorem route_fanCopy (c : Conn α) (p : α) :
    route c (.notif p) none = (match findListen c.streams with | some s => some s | none => findStream 0 c.streams) := by
  unfold route
  rw [fanCopy_unrelated]
  rfl

theorem step_fanCopy {c : Conn α} (p : α) (hopen : c.isDone = false) {s : Stream α} (hr : route c (.notif p) none = some s) :
    step c (fanCopy p) = (writeTo c s (.notif p) none false).1 := by
  show (writeR c (.notif p) none false).1 = _
  unfold writeR
  simp only [Msg.isCall, Bool.false_and, Bool.false_eq_true, if_false, hr, hopen, eraseResp]

variable [DecidableEq α]

/-- **the copy is visible in the record.**  `c` is the receiving session's connection before the fan-out, the monitor's
last snapshot of it is truthful, the record lists (at least) what the step appended and wrote: no `dropped` verdict. -/
theorem fanCopy_reaches (b : Nat) {c : Conn α} (hw : Inv c) (p : α) (o : FObs Nat α (Nat × Nat))
    (happ : ∀ x ∈ fAppends b c (step c (fanCopy p)), x ∈ o.appends)
    (hsent : ∀ x ∈ fSent b c (step c (fanCopy p)), x ∈ o.sent)
    (m : FanS Nat (Nat × Nat)) (hm : m.last b = some (fsnapOf b c)) (hst : m.store = c.cfg.hasStore) :
    dropped m o p b = false := by
  cases hd : dropped m o p b with
  | false => rfl
  | true =>
    exfalso
    obtain ⟨rows, r, hl, ht, hreach, hna, hns⟩ := (dropped_iff m o p b).mp hd
    rw [hm] at hl
    simp only [fsnapOf, Option.some.injEq, Prod.mk.injEq] at hl
    obtain ⟨hopen, hrows⟩ := hl
    subst hrows
    rw [target_map, ← route_fanCopy c p] at ht
    cases hr : route c (.notif p) none with
    | none => rw [hr] at ht; cases ht
    | some s =>
      rw [hr] at ht
      simp only [Option.map_some, Option.some.injEq] at ht
      subst ht
      have hs : s ∈ c.streams := route_mem hr
      have hstep := step_fanCopy p hopen hr
      unfold reachable at hreach
      rw [hst] at hreach
      simp only [Bool.or_eq_true, Bool.and_eq_true] at hreach
      rcases hreach with hstore | ⟨⟨hatt, hopn⟩, hsse⟩
      · -- stored: the append shows up under session `b`
        have hlt : s.id < (step c (fanCopy p)).nextSid := by
          rw [hstep]; simp only [writeTo]; exact hw.sid_lt s hs
        have hnew : some (⟨.notif p, none⟩ : Item α) ∈ newLog c (step c (fanCopy p)) s.id := by
          rw [hstep]
          unfold newLog
          simp only [writeTo, wUse, hstore, Bool.not_false, Bool.and_self, if_true, appendLog]
          simp
        have hmem : (b, p) ∈ fAppends b c (step c (fanCopy p)) := by
          exact List.mem_filterMap.2 ⟨_, mem_appendsOf.2 ⟨s.id, hlt, some ⟨.notif p, none⟩, hnew, rfl⟩, rfl⟩
        exact hna _ (happ _ hmem) ⟨rfl, rfl⟩
      · -- attached to an open SSE exchange: the write shows up on that exchange
        obtain ⟨ex, hex⟩ : ∃ ex, s.attached = some ex := Option.isSome_iff_exists.mp (by simpa [frowOf] using hatt)
        have hopn' : s.opn = true := hopn
        have hj : s.json = none := Option.isNone_iff_eq_none.mp hsse
        obtain ⟨e, he, _⟩ := hw.att s hs ex hex
        have hexs : (step c (fanCopy p)).exs = setEx ex (Exch.touch
            [.message (if wUse c false then some (s.id, s.next) else none) ⟨.notif p, none⟩] (wDone s (.notif p))) c.exs := by
          rw [hstep]
          simp only [writeTo, wDeliver, deliver_exs, hex, hopn', hj]
        obtain ⟨lost, hsm⟩ := mem_sentM_touch hexs he List.mem_cons_self
        have hmem : ((b, ex), p) ∈ fSent b c (step c (fanCopy p)) := by
          unfold fSent
          simp only [List.mem_flatMap, List.mem_map]
          exact ⟨_, hsm, ⟨.notif p, none⟩, by simp [Out.items], rfl⟩
        exact hns (b, ex) (by simp [frowOf, hex]) _ (hsent _ hmem) ⟨rfl, rfl⟩

/-- snapshots (after the record) of the sessions in `ks` -/
def wsnaps (w : World α) (ks : List Nat) : List (Nat × Bool × List (FRow (Nat × Nat))) :=
  ks.filterMap fun k => (findConn k w.conns).map fun c => (k, fsnapOf k c)

/-- the record of one world label as the fan-out clause sees it: the sessions the label touches are snapshotted; a
fan-out lists what every target session appended and wrote -/
def wobs (w : World α) : WLabel α → FObs Nat α (Nat × Nat)
  | .create k cfg => { fan := none, appends := [], sent := [], snaps := wsnaps (wstep w (.create k cfg)) [k] }
  | .on k l => { fan := none, appends := [], sent := [], snaps := wsnaps (wstep w (.on k l)) [k] }
  | .fanout a octx ts p =>
    { fan := some (p, ts),
      appends := ts.flatMap fun b => match findConn b w.conns with
        | some c => fAppends b c (step c (fanCopy p))
        | none => [],
      sent := ts.flatMap fun b => match findConn b w.conns with
        | some c => fSent b c (step c (fanCopy p))
        | none => [],
      snaps := wsnaps (wstep w (.fanout a octx ts p)) ts }

def wtrace : World α → List (WLabel α) → List (FObs Nat α (Nat × Nat))
  | _, [] => []
  | w, l :: ls => wobs w l :: wtrace (wstep w l) ls

/-- the scope of the theorem: every session is created with the same event-store setting (the handler has one
`EventStore` option), and a fan-out goes to distinct sessions (`resourceSubscriptions` is a map keyed by session) -/
def FanScope (st : Bool) : List (WLabel α) → Prop
  | [] => True
  | .create _ cfg :: t => cfg.hasStore = st ∧ FanScope st t
  | .on _ _ :: t => FanScope st t
  | .fanout _ _ ts _ :: t => ts.Nodup ∧ FanScope st t

/-- the monitor's records are truthful about the world -/
structure WRel (st : Bool) (m : FanS Nat (Nat × Nat)) (w : World α) : Prop where
  store : m.store = st
  known : ∀ b c, findConn b w.conns = some c → Inv c ∧ c.cfg.hasStore = st ∧ m.last b = some (fsnapOf b c)
  unknown : ∀ b, findConn b w.conns = none → m.last b = none

theorem applyFSnaps_wsnaps (w : World α) (b : Nat) :
    ∀ (ks : List Nat) (last : Nat → Option (Bool × List (FRow (Nat × Nat)))),
      applyFSnaps last (wsnaps w ks) b =
        if b ∈ ks then (match findConn b w.conns with | some c => some (fsnapOf b c) | none => last b) else last b := by
  intro ks
  induction ks with
  | nil => intro last; rfl
  | cons k rest ih =>
    intro last
    unfold wsnaps
    simp only [List.filterMap_cons]
    cases hk : findConn k w.conns with
    | none =>
      simp only [Option.map_none]
      have := ih last
      unfold wsnaps at this
      rw [this]
      by_cases hbk : b = k
      · subst hbk; simp [hk]
      · simp [hbk]
    | some c =>
      simp only [Option.map_some]
      unfold applyFSnaps
      simp only [List.foldl_cons]
      have := ih (fun s' => if s' = k then some (fsnapOf k c) else last s')
      unfold wsnaps applyFSnaps at this
      rw [this]
      by_cases hbk : b = k
      · subst hbk
        simp only [List.mem_cons, true_or, if_true, hk]
        split <;> simp
      · simp only [List.mem_cons, hbk, false_or, if_false]

theorem findConn_isSome_setConn (k b : Nat) (c' : Conn α) : ∀ (l : List (Nat × Conn α)),
    (findConn b (setConn k c' l)).isSome = (findConn b l).isSome := by
  intro l
  induction l with
  | nil => rfl
  | cons x t ih =>
    obtain ⟨k', c0⟩ := x
    simp only [setConn]
    split
    · rename_i hk; simp only [findConn]; split <;> rfl
    · simp only [findConn]; split
      · rfl
      · exact ih

theorem wrel_next {st : Bool} {m : FanS Nat (Nat × Nat)} {w w' : World α} (h : WRel st m w) (ks : List Nat)
    (o : FObs Nat α (Nat × Nat)) (ho : o.snaps = wsnaps w' ks)
    (hin : ∀ b ∈ ks, ∀ c', findConn b w'.conns = some c' → Inv c' ∧ c'.cfg.hasStore = st)
    (hnone : ∀ b ∈ ks, findConn b w'.conns = none → findConn b w.conns = none)
    (hout : ∀ b, b ∉ ks → findConn b w'.conns = findConn b w.conns) : WRel st (fanStep m o).1 w' := by
  have hlast : ∀ b, (fanStep m o).1.last b =
      if b ∈ ks then (match findConn b w'.conns with | some c => some (fsnapOf b c) | none => m.last b) else m.last b := by
    intro b
    show applyFSnaps m.last o.snaps b = _
    rw [ho, applyFSnaps_wsnaps w' b ks m.last]
  refine ⟨h.store, ?_, ?_⟩
  · intro b c hc
    rw [hlast]
    by_cases hb : b ∈ ks
    · rw [if_pos hb, hc]
      exact ⟨(hin b hb c hc).1, (hin b hb c hc).2, rfl⟩
    · rw [if_neg hb]
      rw [hout b hb] at hc
      exact h.known b c hc
  · intro b hb0
    rw [hlast]
    have hnone' : findConn b w.conns = none := by
      by_cases hb : b ∈ ks
      · exact hnone b hb hb0
      · rw [hout b hb] at hb0; exact hb0
    rw [hb0]
    split <;> exact h.unknown b hnone'

theorem known_map_step {st : Bool} {m : FanS Nat (Nat × Nat)} {w : World α} (h : WRel st m w) {b : Nat} {l : Label α} {c' : Conn α}
    (hc : (findConn b w.conns).map (fun c => step c l) = some c') : Inv c' ∧ c'.cfg.hasStore = st := by
  cases hc0 : findConn b w.conns with
  | none => rw [hc0] at hc; cases hc
  | some c0 =>
    rw [hc0] at hc
    simp only [Option.map_some, Option.some.injEq] at hc
    subst hc
    obtain ⟨i1, i2, _⟩ := h.known b c0 hc0
    exact ⟨inv_step i1 l, by rw [step_cfg]; exact i2⟩

theorem wrel_on {st : Bool} {m : FanS Nat (Nat × Nat)} {w : World α} (h : WRel st m w) (k : Nat) (l : Label α)
    (o : FObs Nat α (Nat × Nat)) (ho : o.snaps = wsnaps (wOn w k l) [k]) : WRel st (fanStep m o).1 (wOn w k l) := by
  refine wrel_next h [k] o ho ?_ ?_ ?_
  · intro b hb c' hc
    rw [List.mem_singleton.mp hb, wOn_same] at hc
    exact known_map_step h hc
  · intro b hb hc
    rw [List.mem_singleton.mp hb, wOn_same] at hc
    rw [List.mem_singleton.mp hb]
    exact Option.map_eq_none_iff.mp hc
  · intro b hb
    exact wOn_other w k b (fun hkb => hb (List.mem_singleton.mpr hkb.symm)) l

theorem wrel_create {st : Bool} {m : FanS Nat (Nat × Nat)} {w : World α} (h : WRel st m w) (k : Nat) (cfg : Cfg)
    (hcfg : cfg.hasStore = st) (o : FObs Nat α (Nat × Nat)) (ho : o.snaps = wsnaps (wstep w (.create k cfg)) [k]) :
    WRel st (fanStep m o).1 (wstep w (.create k cfg)) := by
  refine wrel_next h [k] o ho ?_ ?_ ?_
  · intro b hb c' hc
    rw [List.mem_singleton.mp hb, findConn_create, if_pos rfl] at hc
    cases hk : findConn k w.conns with
    | some c0 =>
      rw [hk] at hc; cases hc
      exact ⟨(h.known k _ hk).1, (h.known k _ hk).2.1⟩
    | none => rw [hk] at hc; cases hc; exact ⟨inv_init cfg, hcfg⟩
  · intro b hb hc
    rw [List.mem_singleton.mp hb, findConn_create, if_pos rfl] at hc
    split at hc <;> cases hc
  · intro b hb
    rw [findConn_create, if_neg (fun hbk => hb (List.mem_singleton.mpr hbk))]

theorem wrel_fanout {st : Bool} {m : FanS Nat (Nat × Nat)} {w : World α} (h : WRel st m w) (a : Nat) (octx : Option Nat)
    (ts : List Nat) (p : α) (hnd : ts.Nodup) (o : FObs Nat α (Nat × Nat))
    (ho : o.snaps = wsnaps (wstep w (.fanout a octx ts p)) ts) :
    WRel st (fanStep m o).1 (wstep w (.fanout a octx ts p)) := by
  refine wrel_next h ts o ho ?_ ?_ (fun b hb => fanout_no_cross_session w a octx ts p b hb)
  · intro b hb c' hc
    rw [fanout_copy_is_detached_in_each_session w a octx ts p b hb hnd] at hc
    exact known_map_step (l := fanCopy p) h hc
  · intro b hb hc
    rw [fanout_copy_is_detached_in_each_session w a octx ts p b hb hnd] at hc
    exact Option.map_eq_none_iff.mp hc

theorem fanout_record_ok {st : Bool} {m : FanS Nat (Nat × Nat)} {w : World α} (h : WRel st m w) (a : Nat) (octx : Option Nat)
    (ts : List Nat) (p : α) : (fanStep m (wobs w (.fanout a octx ts p))).2 = none := by
  cases hv : (fanStep m (wobs w (.fanout a octx ts p))).2 with
  | none => rfl
  | some cl =>
    exfalso
    cases cl
    obtain ⟨p', ts', hf, b, hb, hd⟩ := (fanStep_clause m _).mp hv
    simp only [wobs, Option.some.injEq, Prod.mk.injEq] at hf
    obtain ⟨rfl, rfl⟩ := hf
    cases hc : findConn b w.conns with
    | none =>
      have := h.unknown b hc
      unfold dropped at hd
      rw [this] at hd
      cases hd
    | some c =>
      obtain ⟨i1, i2, i3⟩ := h.known b c hc
      have := fanCopy_reaches b i1 p (wobs w (.fanout a octx ts p))
        (by
          intro x hx
          simp only [wobs, List.mem_flatMap]
          exact ⟨b, hb, by rw [hc]; exact hx⟩)
        (by
          intro x hx
          simp only [wobs, List.mem_flatMap]
          exact ⟨b, hb, by rw [hc]; exact hx⟩)
        m i3 (by rw [h.store, i2])
      rw [this] at hd
      cases hd

theorem fanRun_from (st : Bool) : ∀ (ls : List (WLabel α)) (w : World α) (m : FanS Nat (Nat × Nat)),
    WRel st m w → FanScope st ls → (fanRun m (wtrace w ls)).2 = none := by
  intro ls
  induction ls with
  | nil => intro w m _ _; rfl
  | cons l t ih =>
    intro w m h hs
    simp only [wtrace, fanRun]
    cases l with
    | create k cfg =>
      obtain ⟨hcfg, hs'⟩ := hs
      have hrel := wrel_create h k cfg hcfg (wobs w (.create k cfg)) rfl
      rw [ih _ _ hrel hs']
      rfl
    | on k l =>
      have hrel := wrel_on h k l (wobs w (.on k l)) rfl
      have hs' : FanScope st t := hs
      rw [show wstep w (.on k l) = wOn w k l from rfl, ih _ _ hrel hs']
      rfl
    | fanout a octx ts p =>
      obtain ⟨hnd, hs'⟩ := hs
      have hrel := wrel_fanout h a octx ts p hnd (wobs w (.fanout a octx ts p)) rfl
      rw [ih _ _ hrel hs', fanout_record_ok h a octx ts p]
      rfl

/-- **C10 bridging theorem for the fan-out clause.**  On the observation trace of every world label list — connects,
steps of any session, and fan-outs issued from inside a handler of any session with any request context — `Mon.fanStep`
raises no clause (`FanScope`: one event-store setting for all sessions, distinct fan-out targets). -/
theorem fanMonitor_accepts_model (st : Bool) (ls : List (WLabel α)) (hs : FanScope st ls) :
    (fanRun (fanInit st) (wtrace (⟨[]⟩ : World α) ls)).2 = none :=
  fanRun_from st ls ⟨[]⟩ (fanInit st)
    ⟨rfl, fun b c hc => by simp [findConn] at hc, fun b _ => rfl⟩ hs

/-- the scope is inhabited by the C10-m10 schedule … -/
example : FanScope false m10 := ⟨rfl, rfl, by decide, trivial⟩

/-- … and the clause is not silent by construction: the record of the same fan-out with session 2's write removed (what
a context-threading implementation shows when session 2 has no request with that id in flight: "write to closed
stream", the copy is lost) is flagged -/
example :
    (fanStep (σ := Nat) (π := Nat) (κ := Nat × Nat)
      { store := false, last := fun b => if b = 2 then some (false, [{ t := 0, att := some (2, 0), opn := true, sse := true, listen := false }]) else none }
      { fan := some (900, [2]), appends := [], sent := [], snaps := [] }).2 = some .fanDropped := by decide +kernel

end Resume
