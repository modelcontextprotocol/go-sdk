import McpModel.Resume.Accept08
import McpModel.Resume.Accept10
import McpModel.Resume.Witness
/-!
E5 — non-vacuity of the bridging theorems: a concrete schedule (`demo`: prime, live delivery, cut, write
while detached, resume, completion, resume after completion) is in the scope of both theorems with truthful
tags (decided by `obsScopeB`, `wellTagged…B`: a sufficient Boolean test for `WellTaggedRun` at `σ := Unit`); and the monitor is not silent by
construction — the same observation trace with one event dropped, resp. with the tags of a protocol-violating client
(request id reused, straggler of the first request), is flagged with the expected clause.  Likewise with evictions
(`demoP`) and for the two orders inside the window between `Write`'s two sections (`demoW`, `demoO`).
-/
namespace Resume
open Mon

def obsScopeB {α : Type} (c : Conn α) (l : Label α) : Bool :=
  inScopeB c l && match l with
    | .get _ ver _ => !ver.isNew
    | _ => true

def obsScopeRunB {α : Type} : Conn α → List (Label α) → Bool
  | _, [] => true
  | c, l :: ls => obsScopeB c l && obsScopeRunB (step c l) ls

theorem obsScopeRun_of_b {α : Type} : ∀ (ls : List (Label α)) (c : Conn α), obsScopeRunB c ls = true → ObsScopeRun c ls
  | [], _, _ => trivial
  | l :: ls, c, h => by
    simp only [obsScopeRunB, obsScopeB, Bool.and_eq_true] at h
    refine ⟨⟨inScope_of_b h.1.1, ?_⟩, obsScopeRun_of_b ls _ h.2⟩
    cases l <;> first | trivial | simpa using h.1.2

def bornIs {α : Type} (c : Conn α) (r post : Nat) : Bool :=
  match c.reqStreams r with
  | some sid => c.born sid == some post
  | none => true

theorem bornIs_spec {α : Type} {c : Conn α} {r post : Nat} (h : bornIs c r post = true) :
    ∀ sid, c.reqStreams r = some sid → c.born sid = some post := by
  intro sid hs
  simp only [bornIs, hs] at h
  simpa using h

def tagNRB {α : Type} (prov : α → Prov Unit) (c : Conn α) (p : α) (ctx : Option Nat) : Bool :=
  match prov p with
  | .inReq _ req post => ctx == some req && bornIs c req post
  | .detached _ => ctx == none
  | .server => ctx == none
  | .fanout _ _ _ _ => ctx == none
  | _ => false

def wellTaggedWB {α : Type} (prov : α → Prov Unit) (c : Conn α) : Msg α → Option Nat → Bool
  | .resp r p, _ =>
    match prov p with
    | .resp id _ req post => id == r && req == r && bornIs c r post
    | .initResp id => id == r
    | _ => false
  | .notif p, ctx => tagNRB prov c p ctx
  | .call p, ctx => tagNRB prov c p ctx

def wellTaggedB {α : Type} (prov : α → Prov Unit) (c : Conn α) : Label α → Bool
  | .write msg ctx _ => wellTaggedWB prov c msg ctx
  | .wroute msg ctx _ => wellTaggedWB prov c msg ctx
  | _ => true

theorem tagNR_of_b {α : Type} {prov : α → Prov Unit} {c : Conn α} {p : α} {ctx : Option Nat} (h : tagNRB prov c p ctx = true) :
    TagNR prov () c p ctx := by
  unfold tagNRB at h
  unfold TagNR
  split at h
  · rename_i hp; rw [hp]
    simp only [Bool.and_eq_true, beq_iff_eq] at h
    exact ⟨by first | rfl | trivial, h.1, bornIs_spec h.2⟩
  · rename_i hp; rw [hp]; exact ⟨by first | rfl | trivial, by simpa using h⟩
  · rename_i hp; rw [hp]; exact Or.inl (by simpa using h)
  · rename_i hp; rw [hp]; simpa using h
  · cases h

theorem wellTaggedW_of_b {α : Type} {prov : α → Prov Unit} {c : Conn α} {msg : Msg α} {ctx : Option Nat}
    (h : wellTaggedWB prov c msg ctx = true) : WellTaggedW prov () c msg ctx := by
  cases msg with
  | resp r p =>
    simp only [wellTaggedWB] at h
    simp only [WellTaggedW]
    split at h
    · rename_i hp; rw [hp]
      simp only [Bool.and_eq_true, beq_iff_eq] at h
      exact ⟨h.1.1, h.1.2, by first | rfl | trivial, bornIs_spec h.2⟩
    · rename_i hp; rw [hp]; simpa using h
    · cases h
  | notif p => exact tagNR_of_b h
  | call p => exact tagNR_of_b h

theorem wellTagged_of_b {α : Type} {prov : α → Prov Unit} {c : Conn α} {l : Label α} (h : wellTaggedB prov c l = true) :
    WellTagged prov () c l := by
  cases l with
  | write msg ctx ctxNew => exact wellTaggedW_of_b h
  | wroute msg ctx ctxNew => exact wellTaggedW_of_b h
  | _ => trivial

def wellTaggedRunB {α : Type} (prov : α → Prov Unit) : Conn α → List (Label α) → Bool
  | _, [] => true
  | c, l :: ls => wellTaggedB prov c l && wellTaggedRunB prov (step c l) ls

theorem wellTaggedRun_of_b {α : Type} {prov : α → Prov Unit} : ∀ (ls : List (Label α)) (c : Conn α),
    wellTaggedRunB prov c ls = true → WellTaggedRun prov () c ls
  | [], _, _ => trivial
  | l :: ls, c, h => by
    simp only [wellTaggedRunB, Bool.and_eq_true] at h
    exact ⟨wellTagged_of_b h.1, wellTaggedRun_of_b ls _ h.2⟩

/-- the truthful tags of `demo`: 100 and 101 were issued under request 7 of POST exchange 0, 200 answers it -/
def provDemo : Nat → Prov Unit
  | 100 => .inReq () 7 0
  | 101 => .inReq () 7 0
  | 200 => .resp 7 () 7 0
  | _ => .other

example : ObsScopeRun (init cfgW) demo := obsScopeRun_of_b _ _ (by decide +kernel)
example : WellTaggedRun provDemo () (init cfgW) demo := wellTaggedRun_of_b _ _ (by decide +kernel)

/-- both monitors are silent on the model's trace of `demo` (instances of the bridging theorems) -/
example : (runV provDemo (Mon.init true false) (traceOf1 () (init cfgW) demo)).2.v08 = none :=
  monitor_accepts_model_C08 cfgW () provDemo demo (obsScopeRun_of_b _ _ (by decide +kernel))
example : (runV provDemo (Mon.init true false) (traceOf1 () (init cfgW) demo)).2.v10 = none :=
  monitor_accepts_model_C10 cfgW () provDemo demo (wellTaggedRun_of_b _ _ (by decide +kernel))

def dropFirstSent (o : Obs Unit Nat) : Obs Unit Nat := { o with sent := o.sent.drop 1 }

def tamperAt (n : Nat) (f : Obs Unit Nat → Obs Unit Nat) (l : List (Obs Unit Nat)) : List (Obs Unit Nat) :=
  l.take n ++ ((l.drop n).take 1).map f ++ l.drop (n + 1)

/-- … the last resume skipped the first stored message: a gap -/
example : (runV provDemo (Mon.init true false) (tamperAt 6 dropFirstSent (traceOf1 () (init cfgW) demo))).2.v08 = some .gap := by
  decide +kernel

/-- … the first resume lost its only replayed message: the resume is incomplete -/
example : (runV provDemo (Mon.init true false) (tamperAt 4 dropFirstSent (traceOf1 () (init cfgW) demo))).2.v08 =
    some .resumeIncomplete := by
  decide +kernel

/-- the id-reuse schedule of `straggler_after_id_reuse_lands_on_new_stream` with the tags the harness really puts
(555 was issued by the handler of the *first* request 7, carried by POST exchange 0): not `WellTaggedRun`, and
the monitor flags the straggler — first where it is appended to the store of the new request's stream -/
def provReuse : Nat → Prov Unit
  | 200 => .resp 7 () 7 0
  | 555 => .inReq () 7 0
  | _ => .other

def reuse : List (Label Nat) :=
  [ .post [7] false .v0618 none, .write (.resp 7 200) (some 7) false, .post [7] false .v0618 none,
    .write (.notif 555) (some 7) false ]

example : wellTaggedRunB provReuse (init cfgW) reuse = false := by decide +kernel

example : (runV provReuse (Mon.init true false) (traceOf1 () (init cfgW) reuse)).2.v10 = some (.route true .straggler) := by
  decide +kernel

/-- `demo` with the store evicting the first three entries of stream 1 before the first resume: the resume from
`(1,1)` — entry 2 is gone — is answered 400; a later resume from `(1,2)` still gets the rest -/
def demoP : List (Label Nat) :=
  [ .post [7] false .v1125 none, .write (.notif 100) (some 7) false, .cut 0, .write (.notif 101) (some 7) false,
    .evict 1 3,
    .get (.ok 1 1) .v1125 none,
    .write (.resp 7 200) (some 7) false,
    .get (.ok 1 2) .v1125 none ]

example : ObsScopeRun (init cfgW) demoP := obsScopeRun_of_b _ _ (by decide +kernel)
example : ((run (init cfgW) demoP).exs.map (fun e => (e.kind, e.out))) =
    [ (.sse, [.prime 1 0, .message (some (1, 1)) ⟨.notif 100, some 7⟩]),
      (.status 400, []),
      (.sse, [.message (some (1, 3)) ⟨.resp 7 200, some 7⟩]) ] := by decide +kernel

/-- the monitor is told about the eviction (record 4) and accepts the error and the later exact suffix … -/
example : (runV provDemo (Mon.init true false) (traceOf1 () (init cfgW) demoP)).2.v08 = none :=
  monitor_accepts_model_C08 cfgW () provDemo demoP (obsScopeRun_of_b _ _ (by decide +kernel))

/-- … but had the store evicted those entries in `demo` (where the resume is answered with a stream), it reports the
silent skip -/
def addPurge (o : Obs Unit Nat) : Obs Unit Nat := { o with purges := [((), 1, 3)] }

example : (runV provDemo (Mon.init true false) (tamperAt 3 addPurge (traceOf1 () (init cfgW) demo))).2.v08 =
    some .purgedNotReported := by
  decide +kernel

/-- a notification is routed (WROUTE) while the stream is detached, then a resume attaches, then the delivery
section (WDELIVER) runs: the message reaches the new exchange live, once, with the next index -/
def demoW : List (Label Nat) :=
  [ .post [7] false .v1125 none, .write (.notif 100) (some 7) false, .cut 0,
    .wroute (.notif 101) (some 7) false,
    .get (.ok 1 1) .v1125 none,
    .wdeliver 0 ]

example : ObsScopeRun (init cfgW) demoW := obsScopeRun_of_b _ _ (by decide +kernel)
example : WellTaggedRun provDemo () (init cfgW) demoW := wellTaggedRun_of_b _ _ (by decide +kernel)
example : ((run (init cfgW) demoW).exs.map (fun e => e.out)) =
    [ [.prime 1 0, .message (some (1, 1)) ⟨.notif 100, some 7⟩],
      [.message (some (1, 2)) ⟨.notif 101, some 7⟩] ] := by decide +kernel
example : ((run (init cfgW) (demoW.take 4)).pendW.map (fun pw => (pw.sid, pw.ctx))) = [(1, some 7)] := by decide +kernel

/-- the other order inside the window: the stream completes and is deleted between routing and delivery — the
message still goes to the log (after the response), nothing is delivered -/
def demoO : List (Label Nat) :=
  [ .post [7] false .v1125 none, .wroute (.notif 101) (some 7) false, .write (.resp 7 200) (some 7) false, .wdeliver 0 ]

example : (run (init cfgW) demoO).log 1 = [none, some ⟨.resp 7 200, some 7⟩, some ⟨.notif 101, some 7⟩] := by decide +kernel
example : ((run (init cfgW) demoO).exs.map (fun e => e.out)) =
    [ [.prime 1 0, .message (some (1, 1)) ⟨.resp 7 200, some 7⟩] ] := by decide +kernel

end Resume
