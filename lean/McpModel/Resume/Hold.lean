import McpModel.Resume.Cases
import McpModel.Resume.Props
import McpModel.Resume.RecOf
/-!
# C08 — a stream is claimed only by a live exchange ("however often the client resumes it")

`acquireStream` refuses a resume with 409 while the stream is claimed (`s.w ≠ nil`).  The property's "however a
response stream is interrupted and however often the client resumes it … the final response stays obtainable" therefore
needs: **a claim never outlives the HTTP exchange that made it** — whatever way that exchange ended (request context
cancelled, the stream completed, the server closed it, the session closed, a replay write failed in the middle of a
resume, `EventStore.After` failed).  `InvLive` is that invariant, proved for every label list; with it the hypothesis
"nobody is attached" of `writes_while_detached_are_replayed` follows from "every exchange that served the stream is
gone" (`resume_obtainable_when_exchanges_gone`), and a resume that broke at any write of its replay leaves the stream
exactly as free as it found it (`broken_resume_leaves_stream_free`), so the next resume is served
(`resume_however_often`).  And a handler that has returned stays returned (`endedAt_mono_step`).
-/
namespace Resume
variable {α : Type}

/-- a stream is claimed (`w ≠ nil`) only by an exchange whose HTTP handler has not returned -/
def InvLive (c : Conn α) : Prop :=
  ∀ s ∈ c.streams, ∀ ex, s.attached = some ex → ∃ e, c.exs[ex]? = some e ∧ e.ended = false

def EndRel (exs exs' : List (Exch α)) : Prop :=
  ∀ (j : Nat) (e : Exch α), exs[j]? = some e → ∃ e', exs'[j]? = some e' ∧ e'.ended = e.ended

theorem EndRel.refl (exs : List (Exch α)) : EndRel exs exs := fun _ e h => ⟨e, h, rfl⟩

theorem endRel_setEx (exs : List (Exch α)) (ex : ExId) (f : Exch α → Exch α) (hf : ∀ e, (f e).ended = e.ended) :
    EndRel exs (setEx ex f exs) := by
  intro j e h
  by_cases hj : j = ex
  · subst hj
    exact ⟨f e, by rw [getElem?_setEx_eq, h]; rfl, hf e⟩
  · exact ⟨e, by rw [getElem?_setEx_ne _ _ _ _ hj]; exact h, rfl⟩

theorem endRel_touch (exs : List (Exch α)) (x : ExId) (ws : List (Out α)) : EndRel exs (setEx x (Exch.touch ws false) exs) :=
  endRel_setEx _ _ _ (fun e => pushes_ended e ws)

theorem endRel_append (exs : List (Exch α)) (e : Exch α) : EndRel exs (exs ++ [e]) := by
  intro j e0 h
  have hlt : j < exs.length := (List.getElem?_eq_some_iff.mp h).1
  exact ⟨e0, by rw [List.getElem?_append_left hlt]; exact h, rfl⟩

/-- the workhorse: in-place updates of streams (`StreamsRel`: no new claim) and of exchanges, where an exchange may
end only if no stream claims it afterwards -/
theorem live_congr {c c' : Conn α} (h : InvLive c) (hs : StreamsRel c.streams c'.streams)
    (he : ∀ (j : Nat) (e : Exch α), c.exs[j]? = some e → e.ended = false →
      (∃ e', c'.exs[j]? = some e' ∧ e'.ended = false) ∨ ∀ s' ∈ c'.streams, s'.attached ≠ some j) : InvLive c' := by
  intro s' hs' ex hat
  obtain ⟨s, hsl, _, hatt, _⟩ := hs.2 s' hs'
  have : s.attached = some ex := by
    rcases hatt with h1 | h1
    · rw [← h1]; exact hat
    · rw [h1] at hat; cases hat
  obtain ⟨e, hex, hend⟩ := h s hsl ex this
  rcases he ex e hex hend with h1 | h1
  · exact h1
  · exact absurd hat (h1 s' hs')

theorem live_of_endRel {c c' : Conn α} (h : InvLive c) (hs : StreamsRel c.streams c'.streams) (hr : EndRel c.exs c'.exs) :
    InvLive c' :=
  live_congr h hs (fun j e hj hend => Or.inl (by obtain ⟨e', h', r⟩ := hr j e hj; exact ⟨e', h', r.trans hend⟩))

theorem live_init (cfg : Cfg) : InvLive (init cfg : Conn α) := by
  intro s hs ex hat
  simp [init] at hs; subst hs; cases hat

theorem live_emit {c : Conn α} (h : InvLive c) (ex : ExId) (o : Out α) : InvLive (emit c ex o).1 :=
  live_of_endRel (c' := (emit c ex o).1) h (StreamsRel.refl _) (by simp only [emit, emitX_fst]; exact endRel_touch _ _ _)

theorem live_finish {c : Conn α} (h : InvLive c) (ex : ExId) (hno : ∀ s ∈ c.streams, s.attached ≠ some ex) :
    InvLive (finish c ex) := by
  refine live_congr (c' := finish c ex) h (StreamsRel.refl _) ?_
  intro j e hj hend
  by_cases hje : j = ex
  · subst hje; exact Or.inr hno
  · exact Or.inl ⟨e, by simp only [finish]; rw [finishX_ne _ _ _ hje]; exact hj, hend⟩

/-- `release` then the handler returns: the claim goes with the exchange -/
theorem live_cut {c : Conn α} (h : InvLive c) (ex : ExId) : InvLive (cut c ex) := by
  refine live_congr (c' := cut c ex) h (streamsRel_release _ _) ?_
  intro j e hj hend
  by_cases hje : j = ex
  · subst hje
    refine Or.inr ?_
    intro s' hs' hat
    simp only [cut, finish] at hs'
    obtain ⟨s, _, h1 | h1⟩ := mem_release hs'
    · rw [h1.2] at hat; cases hat
    · rw [h1.2] at hat; exact h1.1 hat
  · exact Or.inl ⟨e, by simp only [cut, finish]; rw [finishX_ne _ _ _ hje]; exact hj, hend⟩

theorem live_wfail {c : Conn α} (h : InvLive c) (ex : ExId) : InvLive (wfail c ex) :=
  live_of_endRel (c' := wfail c ex) h (StreamsRel.refl _) (endRel_setEx _ _ _ (fun _ => rfl))

theorem live_eraseResp {c : Conn α} (h : InvLive c) (msg : Msg α) : InvLive (eraseResp c msg) := by
  intro s hs ex hat
  simp only [eraseResp_streams] at hs
  simpa using h s hs ex hat

theorem live_append {c : Conn α} (h : InvLive c) (e : Exch α) : InvLive ({ c with exs := c.exs ++ [e] } : Conn α) :=
  live_of_endRel (c' := { c with exs := c.exs ++ [e] }) h (StreamsRel.refl _) (endRel_append _ _)

theorem live_statusEx {c : Conn α} (h : InvLive c) (code : Nat) (sid : SId) : InvLive (statusEx c code sid) :=
  live_append h _

theorem deliver_endRel (exs : List (Exch α)) (s : Stream α) (it : Item α) (evid : Option (SId × Nat))
    (reqs : List ReqId) (done : Bool) (j : Nat) (e : Exch α) (hj : exs[j]? = some e) :
    (∃ e', (deliver exs s it evid reqs done).1[j]? = some e' ∧ e'.ended = e.ended) ∨ (done = true ∧ s.attached = some j) := by
  have hfin : ∀ ex ws, s.attached = some ex →
      (∃ e', (setEx ex (Exch.touch ws done) exs)[j]? = some e' ∧ e'.ended = e.ended) ∨ (done = true ∧ s.attached = some j) := by
    intro ex ws hat
    cases done with
    | false => exact Or.inl (endRel_touch _ _ _ j e hj)
    | true =>
      by_cases hje : j = ex
      · exact Or.inr ⟨rfl, hje ▸ hat⟩
      · exact Or.inl ⟨e, by rw [getElem?_setEx_ne _ _ _ _ hje]; exact hj, rfl⟩
  rw [deliver_exs]
  split
  · rename_i ex hat _ _; exact hfin ex _ hat
  · rename_i ex pend hat _ _
    split
    · rename_i hd; subst hd; exact hfin ex _ hat
    · exact Or.inl ⟨e, hj, rfl⟩
  · exact Or.inl ⟨e, hj, rfl⟩

theorem live_writeTo {c : Conn α} (hw : Inv c) (h : InvLive c) {s : Stream α} (hmem : s ∈ c.streams) (msg : Msg α)
    (ctx : Option ReqId) (ctxNew : Bool) : InvLive (writeTo c s msg ctx ctxNew).1 := by
  refine live_congr (c' := (writeTo c s msg ctx ctxNew).1) h (writeTo_streamsRel c hmem msg ctx ctxNew) ?_
  · intro j e hj hend
    rcases deliver_endRel c.exs s ⟨msg, ctx⟩ (if wUse c ctxNew then some (s.id, s.next) else none) (wReqs s msg) (wDone s msg) j e hj with
      ⟨e', h', r⟩ | ⟨hdone, hat⟩
    · exact Or.inl ⟨e', by simp only [writeTo, wDeliver]; exact h', r.trans hend⟩
    · -- the stream completed: it is deleted, and it was the only claimant of its exchange
      refine Or.inr ?_
      intro s' hs' hat'
      simp only [writeTo, hdone, if_true] at hs'
      rw [mem_delStream] at hs'
      exact hs'.2 (hw.att_inj s' hs'.1 s hmem j hat' hat)

theorem live_pendW {c : Conn α} (h : InvLive c) (l : List (PendW α)) : InvLive ({ c with pendW := l } : Conn α) := h

theorem live_postPrimed {c : Conn α} (hw : Inv c) (h : InvLive c) (calls : List ReqId) (listen : Bool) (ver : Ver) (budget : Option Nat) :
    InvLive (postPrimed c calls listen ver budget) := by
  rw [postPrimed_eq]
  intro x hx ex hxa
  simp only [register, List.mem_append, List.mem_singleton] at hx ⊢
  rcases hx with hx | rfl
  · obtain ⟨e₀, hex, hend⟩ := h x hx ex hxa
    exact ⟨e₀, by simp [List.getElem?_append_left (att_lt hw hx hxa), hex], hend⟩
  · simp only [newStream] at hxa; cases hxa
    exact ⟨_, List.getElem?_concat_length, by simp [postEx]⟩

theorem live_attach {c c0 : Conn α} (h : InvLive c) {s : Stream α} {e : Exch α}
    (he : c.exs[c0.exs.length]? = some e) (hend : e.ended = false) (next : Nat) (ver : Ver) (closed : Bool) :
    InvLive (attach c s c0.exs.length next ver closed) := by
  have hatt : InvLive ({ c with streams := setStream { s with attached := some c0.exs.length, opn := true, next := next, v1125 := ver.ge1125 } c.streams } : Conn α) := by
    intro x hx ex hxa
    simp only at hx
    rcases mem_setStream hx with rfl | ⟨hxl, _⟩
    · simp only at hxa; cases hxa
      exact ⟨e, he, hend⟩
    · exact h x hxl ex hxa
  unfold attach
  split
  · exact live_cut hatt _
  · exact hatt

theorem live_getGo {c : Conn α} (hw : Inv c) (h : InvLive c) (sid : SId) (frm : Nat) (ver : Ver) (budget : Option Nat)
    (items : List (Item α)) : InvLive (getGo c sid frm ver budget items) := by
  -- after the replay the table has one more exchange, which has not ended
  obtain ⟨n, hn, _⟩ := getReplay_eq c sid frm budget items
  have h3 : InvLive (replayLoop (getOpen c sid frm budget) c.exs.length sid frm items).1 := by
    rw [hn]; exact live_append h _
  rcases getGo_shape c sid frm ver budget items with h' | ⟨s, _, _, h'⟩ <;> rw [h']
  · -- nobody can have claimed the new exchange yet
    refine live_finish h3 _ ?_
    intro s hs hat
    rw [hn] at hs
    have := att_lt hw hs hat
    omega
  · exact live_attach h3 (by rw [hn]; exact List.getElem?_concat_length) (by simp [getEx]) _ _ _

theorem live_step {c : Conn α} (hw : Inv c) (h : InvLive c) (l : Label α) : InvLive (step c l) := by
  refine step_ind hw l ?_ ?_
  · intro c₁ hs
    cases hs with
    | same => exact h
    | status _ code => exact live_statusEx h _ _
    | dup => exact live_statusEx (c := { c with store := _, nextSid := _ }) h _ _
    | register => exact live_postPrimed hw h _ _ _ _
    | cut ex => exact live_cut h ex
    | wfail ex => exact live_wfail h ex
    | getGo => exact live_getGo hw h _ _ _ _ _
    | closeEv => exact live_emit h _ _
    | done => exact h
    | evict => exact h
    | erase _ msg => exact live_eraseResp h msg
    | write msg ctx ctxNew s hs => exact live_writeTo (inv_eraseResp hw msg) (live_eraseResp h msg) (by simp; exact route_mem hs) _ _ _
    | route msg => exact live_pendW (live_eraseResp h msg) _
    | deliver i pw s _ hs =>
      exact live_writeTo (inv_pendW hw _ (fun x hx => hw.pend_lt x (List.mem_of_mem_eraseIdx hx))) (live_pendW h _) (findStream_some hs).1 _ _ _
    | orphan i pw => exact live_pendW (c := (orphanWrite { c with pendW := c.pendW.eraseIdx i } pw).1) h []
  · intro c₁ c₂ _ h₁ ht
    cases ht with
    | none => exact h₁
    | cut ex => exact live_cut h₁ ex
    | close s ex hs => exact live_of_endRel h₁ (streamsRel_set (s := s) hs rfl (Or.inl rfl) (fun ho => by cases ho)) (EndRel.refl _)

theorem live_get {c : Conn α} (hw : Inv c) (h : InvLive c) (hdr : Hdr) (ver : Ver) (budget : Option Nat) :
    InvLive (get c hdr ver budget) :=
  live_step hw h (.get hdr ver budget)

theorem live_runFrom {c : Conn α} (hw : Inv c) (h : InvLive c) (ls : List (Label α)) : InvLive (run c ls) :=
  (run_ind (P := fun c => Inv c ∧ InvLive c) (fun _ l ⟨hw, h⟩ => ⟨inv_step hw l, live_step hw h l⟩) ⟨hw, h⟩ ls).2

/-- **C08 (a claim never outlives its exchange).**  On every label list — any interleaving of POSTs, writes, cuts,
writer failures at any write (also in the middle of a replay), resumes, `CloseSSEStream`, session close, evictions —
a stream that is claimed (`s.w ≠ nil`, the condition under which `acquireStream` answers a resume with 409) is claimed
by an HTTP exchange whose handler has **not** returned.  So a 409 always names a live competitor, never a leftover of
an exchange that is gone. -/
theorem claimed_only_by_live_exchange (cfg : Cfg) (ls : List (Label α)) (s : Stream α) (hs : s ∈ (run (init cfg) ls).streams)
    (ex : Nat) (hat : s.attached = some ex) : ∃ e, (run (init cfg) ls).exs[ex]? = some e ∧ e.ended = false :=
  live_runFrom (inv_init cfg) (live_init cfg) ls s hs ex hat

def EndMono (exs exs' : List (Exch α)) : Prop :=
  ∀ (j : Nat) (e : Exch α), exs[j]? = some e → e.ended = true → ∃ e', exs'[j]? = some e' ∧ e'.ended = true

theorem EndMono.refl (exs : List (Exch α)) : EndMono exs exs := fun _ e h he => ⟨e, h, he⟩

theorem EndMono.trans {a b c : List (Exch α)} (h₁ : EndMono a b) (h₂ : EndMono b c) : EndMono a c := by
  intro j e h he
  obtain ⟨e', h', r1⟩ := h₁ j e h he
  exact h₂ j e' h' r1

theorem EndRel.endMono {a b : List (Exch α)} (h : EndRel a b) : EndMono a b := by
  intro j e hj he
  obtain ⟨e', h', r⟩ := h j e hj
  exact ⟨e', h', r.trans he⟩

theorem endMono_setEx (exs : List (Exch α)) (x : Nat) (f : Exch α → Exch α) (hf : ∀ e, e.ended = true → (f e).ended = true) :
    EndMono exs (setEx x f exs) := by
  intro j e hj he
  by_cases hjx : j = x
  · subst hjx; exact ⟨f e, by rw [getElem?_setEx_eq, hj]; rfl, hf e he⟩
  · exact ⟨e, by rw [getElem?_setEx_ne _ _ _ _ hjx]; exact hj, he⟩

theorem touch_ended (ws : List (Out α)) (fin : Bool) (e : Exch α) (h : e.ended = true) : (e.touch ws fin).ended = true := by
  unfold Exch.touch; split
  · rfl
  · rw [pushes_ended]; exact h

theorem endMono_step (c : Conn α) (l : Label α) : EndMono c.exs (step c l).exs := by
  obtain ⟨c₁, hs, ht⟩ := step_shape c l
  have h1 : EndMono c.exs c₁.exs := by
    rcases sub_table hs with ⟨x, ws, fin, h, _⟩ | ⟨e₀, ws, fin, h, _⟩ | ⟨x, h⟩ <;> rw [h]
    · exact endMono_setEx _ _ _ (touch_ended ws fin)
    · exact (endRel_append _ _).endMono
    · exact endMono_setEx _ _ _ (fun _ h => h)
  refine h1.trans ?_
  rcases tail_table ht with h | ⟨ex, h⟩ <;> rw [h]
  · exact EndMono.refl _
  · exact endMono_setEx _ _ _ (touch_ended [] true)

theorem endedAt_mono_step (c : Conn α) (l : Label α) (k : Nat) (h : endedAt c k = true) : endedAt (step c l) k = true := by
  unfold endedAt at h ⊢
  cases hk : c.exs[k]? with
  | none => rw [hk] at h; cases h
  | some e =>
    rw [hk] at h
    obtain ⟨e', h', r⟩ := endMono_step c l k e hk (by simpa using h)
    rw [h']; simpa using r

theorem get_claims (c : Conn α) (hdr : Hdr) (ver : Ver) (budget : Option Nat) :
    ∀ s' ∈ (get c hdr ver budget).streams, ∀ ex, s'.attached = some ex → ex = c.exs.length ∨ s' ∈ c.streams := by
  intro s' hs' ex hat
  rcases get_cases c hdr ver budget with ⟨h, _⟩ | ⟨h, _⟩ | ⟨items, h, _⟩ <;> rw [h] at hs'
  · exact Or.inr hs'
  · exact Or.inr hs'
  · have hset : ∀ (s1 x : Stream α), s1.attached = some c.exs.length → x ∈ setStream s1 c.streams →
        ∀ ex', x.attached = some ex' → ex' = c.exs.length ∨ x ∈ c.streams := by
      intro s1 x hs1 hx ex' hat'
      rcases mem_setStream hx with rfl | ⟨hl, _⟩
      · rw [hs1] at hat'; cases hat'; exact Or.inl rfl
      · exact Or.inr hl
    rcases getGo_streams c hdr.sid hdr.from ver budget items with h' | ⟨s0, _, _, h' | h'⟩ <;> rw [h'] at hs'
    · exact Or.inr hs'
    · exact hset _ s' rfl hs' ex hat
    · obtain ⟨x, hx, h1 | h1⟩ := mem_release hs'
      · rw [h1.2] at hat; cases hat
      · rw [h1.2] at hat ⊢; exact hset _ x rfl hx ex hat

theorem get_isDone (c : Conn α) (hdr : Hdr) (ver : Ver) (budget : Option Nat) : (get c hdr ver budget).isDone = c.isDone := by
  rw [get_eq]

theorem get_409_claimed {c : Conn α} (hl : InvLive c) (hdr : Hdr) (ver : Ver) (budget : Option Nat)
    (e : Exch α) (he : (get c hdr ver budget).exs[c.exs.length]? = some e) (h409 : e.kind = .status 409) :
    hdr ≠ .bad ∧ ∃ s, findStream hdr.sid c.streams = some s ∧ ∃ ex e', s.attached = some ex ∧ c.exs[ex]? = some e' ∧
      e'.ended = false := by
  rcases get_cases c hdr ver budget with ⟨h, _⟩ | ⟨_, hnb, ex, hb⟩ | ⟨items, h, _⟩
  · rw [h] at he; rw [statusEx_kind he] at h409; cases h409
  · cases hf : findStream hdr.sid c.streams with
    | none => rw [hf] at hb; cases hb
    | some s =>
      rw [hf] at hb
      obtain ⟨e', he', hend⟩ := hl s (findStream_some hf).1 ex (by simpa using hb)
      exact ⟨hnb, s, rfl, ex, e', by simpa using hb, he', hend⟩
  · rw [h] at he; rw [(getGo_new c hdr.sid hdr.from ver budget _ e he).2.2.1] at h409; cases h409

/-- **C08 (409 names a live competitor).**  In every reachable state a resume is refused with 409 only if the stream
it names is registered and claimed by an HTTP exchange whose handler has not returned. -/
theorem resume_refused_only_while_claimed (cfg : Cfg) (ls : List (Label α)) (hdr : Hdr) (ver : Ver) (budget : Option Nat)
    (e : Exch α) (he : (get (run (init cfg) ls) hdr ver budget).exs[(run (init cfg) ls).exs.length]? = some e)
    (h409 : e.kind = .status 409) :
    ∃ s ∈ (run (init cfg) ls).streams, s.id = hdr.sid ∧ ∃ ex e', s.attached = some ex ∧
      (run (init cfg) ls).exs[ex]? = some e' ∧ e'.ended = false := by
  obtain ⟨_, s, hf, h⟩ := get_409_claimed (live_runFrom (inv_init cfg) (live_init cfg) ls) hdr ver budget e he h409
  exact ⟨s, (findStream_some hf).1, (findStream_some hf).2, h⟩

/-- **C08 (a resume that is gone has left no claim behind).**  Any GET whose handler has returned by the end of its
step — its connection broke at the first, a middle or the last write of the replay (any write budget), `After` failed,
it was refused, the stream was complete, the session is closed — leaves every stream that was free before free. -/
theorem broken_resume_leaves_stream_free {c : Conn α} (hw : Inv c) (hl : InvLive c) (hdr : Hdr) (ver : Ver) (budget : Option Nat)
    (sid : Nat) (hfree : (findStream sid c.streams).bind (·.attached) = none)
    (hend : ∀ e, (get c hdr ver budget).exs[c.exs.length]? = some e → e.ended = true) :
    (findStream sid (get c hdr ver budget).streams).bind (·.attached) = none := by
  cases hf : findStream sid (get c hdr ver budget).streams with
  | none => rfl
  | some s' =>
    obtain ⟨hmem, hid⟩ := findStream_some hf
    cases hat : s'.attached with
    | none => simp [hat]
    | some ex =>
      exfalso
      rcases get_claims c hdr ver budget s' hmem ex hat with h1 | h1
      · obtain ⟨e, he, hne⟩ := live_get hw hl hdr ver budget s' hmem ex hat
        rw [h1] at he
        rw [hend e he] at hne; cases hne
      · have := findStream_of_mem hw.nodup h1
        rw [hid] at this
        rw [this] at hfree
        simp [hat] at hfree

/-- **C08 (obtainable once the exchanges are gone).**  `writes_while_detached_are_replayed` with its hypothesis
"nobody is attached" discharged: in any reachable state, if every HTTP exchange that ever served stream `sid` — the
original POST and every earlier resume, however each of them ended — has returned, a GET with a previously issued
`Last-Event-ID = (sid, idx)` that the store still covers is served (not refused) and delivered exactly `log[idx+1 …]`. -/
theorem resume_obtainable_when_exchanges_gone (cfg : Cfg) (hst : cfg.hasStore = true) (ls : List (Label α))
    (hsc : InScopeRun (init cfg) ls) (sid idx : Nat) (ver : Ver) (log : List (Option (Item α)))
    (hlog : (run (init cfg) ls).store sid = some log) (hidx : idx < log.length)
    (hdone : (run (init cfg) ls).isDone = false)
    (hnp : (run (init cfg) ls).purged sid ≤ idx + 1)
    (hgone : ∀ (j : Nat) (e : Exch α), (run (init cfg) ls).exs[j]? = some e → e.stream = sid → e.ended = true) :
    ∃ e, (get (run (init cfg) ls) (.ok sid idx) ver none).exs[(run (init cfg) ls).exs.length]? = some e ∧
      e.stream = sid ∧ e.from = idx + 1 ∧ e.lost = [] ∧
      (events e.out).length = log.length - (idx + 1) ∧
      ∀ (k : Nat) (o : Out α), (events e.out)[k]? = some o →
        ∃ x, log[idx + 1 + k]? = some x ∧ o = evOf sid (idx + 1 + k) x := by
  refine writes_while_detached_are_replayed cfg hst ls hsc sid idx ver log hlog hidx hdone hnp ?_
  cases hf : findStream sid (run (init cfg) ls).streams with
  | none => rfl
  | some s =>
    obtain ⟨hmem, hid⟩ := findStream_some hf
    cases hat : s.attached with
    | none => simp [hat]
    | some ex =>
      exfalso
      obtain ⟨e, he, hne⟩ := claimed_only_by_live_exchange cfg ls s hmem ex hat
      obtain ⟨e', he', hes⟩ := (inv_run cfg ls).att s hmem ex hat
      rw [he] at he'; cases he'
      rw [hgone ex e he (hes.trans hid)] at hne; cases hne

/-- a sequence of resumes each of which is gone by the end of its step (broken, refused, complete …) -/
def AllEnded : Conn α → List (Hdr × Ver × Option Nat) → Prop
  | _, [] => True
  | c, g :: t => InScope c (.get g.1 g.2.1 g.2.2 : Label α) ∧
      (∀ e, (get c g.1 g.2.1 g.2.2).exs[c.exs.length]? = some e → e.ended = true) ∧ AllEnded (get c g.1 g.2.1 g.2.2) t

def getLabels (gs : List (Hdr × Ver × Option Nat)) : List (Label α) := gs.map fun g => .get g.1 g.2.1 g.2.2

/-- **C08 (however often the client resumes).**  From any reachable state in which stream `sid` is free: after ANY
number of resume attempts — of this or any other stream, from any previously issued ids, each with any write budget,
i.e. breaking before, in the middle of or after its replay — that are gone again, a further resume from
`Last-Event-ID = (sid, idx)` on a healthy connection is served and delivered exactly `log[idx+1 …]`: nothing a broken
attempt did stands in its way. -/
theorem resume_however_often (cfg : Cfg) (hst : cfg.hasStore = true) (gs : List (Hdr × Ver × Option Nat)) :
    ∀ (ls : List (Label α)) (_hsc : InScopeRun (init cfg) ls) (_hgs : AllEnded (run (init cfg) ls) gs)
    (sid idx : Nat) (ver : Ver) (log : List (Option (Item α)))
    (_hlog : (run (init cfg) ls).store sid = some log) (_hidx : idx < log.length)
    (_hdone : (run (init cfg) ls).isDone = false)
    (_hnp : (run (init cfg) ls).purged sid ≤ idx + 1)
    (_hfree : (findStream sid (run (init cfg) ls).streams).bind (·.attached) = none),
    ∃ e, (get (run (run (init cfg) ls) (getLabels gs)) (.ok sid idx) ver none).exs[(run (run (init cfg) ls) (getLabels gs)).exs.length]? = some e ∧
      e.stream = sid ∧ e.from = idx + 1 ∧ e.lost = [] ∧
      (events e.out).length = log.length - (idx + 1) ∧
      ∀ (k : Nat) (o : Out α), (events e.out)[k]? = some o →
        ∃ x, log[idx + 1 + k]? = some x ∧ o = evOf sid (idx + 1 + k) x := by
  induction gs with
  | nil =>
    intro ls hsc _ sid idx ver log hlog hidx hdone hnp hfree
    exact writes_while_detached_are_replayed cfg hst ls hsc sid idx ver log hlog hidx hdone hnp hfree
  | cons g t ih =>
    intro ls hsc hgs sid idx ver log hlog hidx hdone hnp hfree
    obtain ⟨hsg, hend, hrest⟩ := hgs
    have hw := inv_run cfg ls
    have h8 := inv08_run cfg hst ls hsc
    have hl : InvLive (run (init cfg) ls) := live_runFrom (inv_init cfg) (live_init cfg) ls
    have hcs : (run (init cfg) ls).cfg.hasStore = true := by rw [run_cfg]; exact hst
    have hrun : run (init cfg) (ls ++ [.get g.1 g.2.1 g.2.2]) = get (run (init cfg) ls) g.1 g.2.1 g.2.2 := by
      rw [run_append]; rfl
    have hstore : (get (run (init cfg) ls) g.1 g.2.1 g.2.2).store = (run (init cfg) ls).store := by rw [get_eq]
    have hpur : (get (run (init cfg) ls) g.1 g.2.1 g.2.2).purged = (run (init cfg) ls).purged :=
      step_purged_other (run (init cfg) ls) (.get g.1 g.2.1 g.2.2) (fun _ _ h => by cases h)
    have := ih (ls ++ [.get g.1 g.2.1 g.2.2]) (inScopeRun_append hsc ⟨hsg, trivial⟩) (by rw [hrun]; exact hrest)
      sid idx ver log (by rw [hrun, hstore]; exact hlog) hidx (by rw [hrun, get_isDone]; exact hdone)
      (by rw [hrun, hpur]; exact hnp)
      (by rw [hrun]; exact broken_resume_leaves_stream_free hw hl g.1 g.2.1 g.2.2 sid hfree hend)
    rw [hrun] at this
    exact this

end Resume
