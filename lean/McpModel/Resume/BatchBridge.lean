import McpModel.Resume.Batch
import McpModel.Resume.BatchMon
/-!
# C02 on the streamable server — the batch clauses of the monitor: bridging theorems

`batchMonitor_accepts_model` is for label lists in which `Write` is one step (`NoRoute`: the label WRITE rather than its two
halves WROUTE / WDELIVER — with a response between its two sections its request is, correctly, still listed as
outstanding); the `orphanReg` clause alone needs no scope (`orphan_accepts_all`).
-/
namespace Resume
open Mon
variable {α σ : Type}

def browOf (s : Stream α) : BRow :=
  { t := s.id, att := s.attached, opn := s.opn, sse := s.json.isNone, reqs := s.requests }

/-- the snapshot of the tables; `requestStreams` is enumerated over the candidate ids `ids` -/
def bsnapOf (sn : σ) (ids : List Nat) (c : Conn α) : BSnap σ :=
  { sess := sn, done := c.isDone, rows := c.streams.map browOf,
    regs := ids.filterMap fun r => (c.reqStreams r).map fun t => (r, t) }

def bopOf (sn : σ) : Label α → BOp σ α
  | .write (.resp r p) _ _ => .resp sn r p
  | _ => .other

def bobsOf (sn : σ) (ids : List Nat) (l : Label α) (c c' : Conn α) : BObs σ α :=
  { op := bopOf sn l, sent := (sentM c c').map toSent, ends := endsOf c c', snaps := [bsnapOf sn ids c'] }

def btraceOf1 (sn : σ) (ids : List Nat) : Conn α → List (Label α) → List (BObs σ α)
  | _, [] => []
  | c, l :: ls => bobsOf sn ids l c (step c l) :: btraceOf1 sn ids (step c l) ls

/-- `Write` is one step -/
def NoRoute (ls : List (Label α)) : Prop := ∀ l ∈ ls, ∀ msg ctx n, l ≠ .wroute msg ctx n

theorem bopOf_eq_resp {sn s : σ} {l : Label α} {r : Nat} {p : α} (h : bopOf sn l = .resp s r p) :
    s = sn ∧ ∃ ctx ctxNew, l = .write (.resp r p) ctx ctxNew := by
  cases l with
  | write msg ctx ctxNew =>
    cases msg with
    | resp r' p' =>
      simp only [bopOf, BOp.resp.injEq] at h
      obtain ⟨rfl, rfl, rfl⟩ := h
      exact ⟨rfl, ctx, ctxNew, rfl⟩
    | _ => cases h
  | _ => cases h

theorem orphan_model (sn : σ) (ids : List Nat) {c : Conn α} (h : InvReg c) : orphan [bsnapOf sn ids c] = false := by
  simp only [orphan, List.any_cons, List.any_nil, Bool.or_false, snapOrphan]
  rw [Bool.eq_false_iff]
  intro hany
  rw [List.any_eq_true] at hany
  obtain ⟨x, hx, hbad⟩ := hany
  simp only [bsnapOf, List.mem_filterMap] at hx
  obtain ⟨r, _, hr⟩ := hx
  cases hq : c.reqStreams r with
  | none => rw [hq] at hr; cases hr
  | some t =>
    rw [hq] at hr
    simp only [Option.map_some, Option.some.injEq] at hr
    subst hr
    obtain ⟨s, hs, hid, hm⟩ := h.reg r t hq
    have : regOK (bsnapOf sn ids c).rows (r, t) = true := by
      simp only [regOK, bsnapOf, List.any_eq_true]
      exact ⟨browOf s, List.mem_map_of_mem hs, by simp [browOf, hid, hm]⟩
    rw [this] at hbad; cases hbad

variable [DecidableEq σ] [DecidableEq α]

theorem respOn_message (x : Nat) (b : Bool) (evid : Option (Nat × Nat)) (r : Nat) (p : α) (ctx : Option Nat) :
    respOn p x (toSent (x, b, Out.message evid ⟨.resp r p, ctx⟩)) = true := by
  simp [respOn, toSent, toMOut, payloadOf]

theorem respOn_json (x : Nat) (b : Bool) (pend : List (Item α)) (r : Nat) (p : α) (ctx : Option Nat) :
    respOn p x (toSent (x, b, Out.json (pend ++ [⟨.resp r p, ctx⟩]))) = true := by
  simp [respOn, toSent, toMOut, payloadOf]

namespace Mon
variable {π : Type} [DecidableEq π]

theorem orphan_iff (snaps : List (BSnap σ)) :
    orphan snaps = true ↔ ∃ s ∈ snaps, ∃ x ∈ s.regs, ∀ row ∈ s.rows, ¬ (row.t = x.2 ∧ x.1 ∈ row.reqs) := by
  simp only [orphan, snapOrphan, regOK, List.any_eq_true, Bool.not_eq_true', List.any_eq_false, Bool.and_eq_true, beq_iff_eq,
    List.contains_eq_mem, decide_eq_true_eq]

theorem rowClause_none_iff (row : BRow) (r : Nat) (p : π) (o : BObs σ π) :
    rowClause row r p o = none ↔ ∀ x, row.att = some x → row.opn = true →
      (row.sse = true → ∃ s ∈ o.sent, respOn p x s = true) ∧
      (row.sse = false → (∀ q ∈ row.reqs, q = r) → row.t ≠ 0 → ∃ s ∈ o.sent, respOn p x s = true) ∧
      ((∀ q ∈ row.reqs, q = r) → row.t ≠ 0 → x ∈ o.ends) := by
  unfold rowClause
  cases hat : row.att with
  | none => simp
  | some x =>
    simp only [Option.some.injEq, forall_eq']
    have e1 : (∀ q ∈ row.reqs, q = r) ↔ row.reqs.all (· == r) = true := by simp [List.all_eq_true]
    have e2 : (∃ s ∈ o.sent, respOn p x s = true) ↔ o.sent.any (respOn p x) = true := by simp [List.any_eq_true]
    have e3 : row.t ≠ 0 ↔ (row.t != 0) = true := by simp
    have e4 : x ∈ o.ends ↔ o.ends.contains x = true := by simp
    rw [e1, e2, e3, e4]
    -- a propositional identity in six Boolean atoms
    generalize row.opn = a
    generalize row.sse = b
    generalize o.sent.any (respOn p x) = c
    generalize row.reqs.all (· == r) = d
    generalize (row.t != 0) = e
    generalize o.ends.contains x = f
    revert a b c d e f
    decide

/-- a clause of a finished handler is raised only for an open session whose last snapshot lists the call on some row -/
theorem checkResp_some (m : BatchS σ) (o : BObs σ π) (cl : ClauseB) (h : checkResp m o = some cl) :
    ∃ sess r p sn row, o.op = .resp sess r p ∧ m.last sess = some sn ∧ sn.done = false ∧
      sn.rows.find? (fun row => row.reqs.contains r) = some row ∧ rowClause row r p o = some cl := by
  unfold checkResp at h
  split at h
  · rename_i sess r p hop
    split at h
    · cases h
    · rename_i sn hsn
      split at h
      · cases h
      · rename_i hd
        split at h
        · cases h
        · rename_i row hrow
          exact ⟨sess, r, p, sn, row, hop, hsn, by simpa using hd, hrow, h⟩
  · cases h

theorem checkResp_none (m : BatchS σ) (o : BObs σ π)
    (h : ∀ sess r p sn row, o.op = .resp sess r p → m.last sess = some sn → sn.done = false →
      sn.rows.find? (fun row => row.reqs.contains r) = some row → rowClause row r p o = none) : checkResp m o = none := by
  cases hc : checkResp m o with
  | none => rfl
  | some cl =>
    obtain ⟨sess, r, p, sn, row, h1, h2, h3, h4, h5⟩ := checkResp_some m o cl hc
    rw [h sess r p sn row h1 h2 h3 h4] at h5; cases h5

end Mon

theorem find_brow (l : List (Stream α)) (r : Nat) :
    (l.map browOf).find? (fun row => row.reqs.contains r) = (l.find? (fun s => s.requests.contains r)).map browOf := by
  induction l with
  | nil => rfl
  | cons a t ih =>
    simp only [List.map_cons, List.find?_cons]
    have : (browOf a).reqs = a.requests := rfl
    rw [this]
    cases a.requests.contains r with
    | true => rfl
    | false => exact ih

/-- the monitor has seen nothing yet, or its last snapshot of the session is the model's state -/
def BRel (sn : σ) (ids : List Nat) (m : BatchS σ) (c : Conn α) : Prop :=
  m.last sn = none ∨ m.last sn = some (bsnapOf sn ids c)

theorem checkResp_model (sn : σ) (ids : List Nat) {m : BatchS σ} {c : Conn α} (hw : Inv c) (hr : InvReg c) (hl : InvLive c)
    (hnp : c.pendW = []) (hrel : BRel sn ids m c) (l : Label α) : checkResp m (bobsOf sn ids l c (step c l)) = none := by
  apply Mon.checkResp_none
  intro sess r p snap row hop hlast hdone hfind
  obtain ⟨rfl, ctx, ctxNew, rfl⟩ := bopOf_eq_resp (l := l) hop
  obtain rfl : snap = bsnapOf sess ids c := by
    rcases hrel with h | h <;> rw [h] at hlast <;> cases hlast; rfl
  have hdone : c.isDone = false := hdone
  have hrows : (bsnapOf sess ids c).rows = c.streams.map browOf := rfl
  rw [hrows, find_brow] at hfind
  cases hf : c.streams.find? (fun s => s.requests.contains r) with
  | none => rw [hf] at hfind; cases hfind
  | some s =>
    rw [hf] at hfind
    obtain rfl : row = browOf s := by simpa using hfind.symm
    have hs : s ∈ c.streams := List.mem_of_find?_eq_some hf
    have hrm : r ∈ s.requests := by simpa using List.find?_some hf
    rw [Mon.rowClause_none_iff]
    intro x hat hopn
    have hat : s.attached = some x := hat
    have hopn : s.opn = true := hopn
    -- the write goes to `s`, which is attached to `x` and open
    have hreg : c.reqStreams r = some s.id := hr.registered hdone hnp hs hrm
    obtain ⟨e, hex, hend0⟩ := hl s hs x hat
    have hlast : (∀ q ∈ s.requests, q = r) → s.id ≠ 0 → wDone s (.resp r p) = true := by
      intro hall h0
      simp [wDone, wReqs, (eraseAll_eq_nil r s.requests).mpr hall, h0]
    -- the exchange table after the write: the message (or the JSON body) on `x`, and `x` ended with the last call
    generalize hc' : step c (.write (.resp r p) ctx ctxNew) = c'
    have hexs : c'.exs = (deliver c.exs s ⟨.resp r p, ctx⟩ (if wUse (eraseResp c (.resp r p)) ctxNew then some (s.id, s.next) else none)
        (wReqs s (.resp r p)) (wDone s (.resp r p))).1 := by
      rw [← hc']
      show (writeR c (.resp r p) ctx ctxNew).1.exs = _
      rw [writeR_resp_eq r p ctx ctxNew (findStream_of_mem hw.nodup hs) hreg hdone]
      rfl
    rw [deliver_exs] at hexs
    refine ⟨fun hsse => ?_, fun hsse hall h0 => ?_, fun hall h0 => ?_⟩
    · have hj : s.json = none := Option.isNone_iff_eq_none.mp hsse
      simp only [hat, hopn, hj] at hexs
      obtain ⟨b, hb⟩ := mem_sentM_touch hexs hex List.mem_cons_self
      exact ⟨_, List.mem_map_of_mem hb, respOn_message x b _ r p ctx⟩
    · obtain ⟨pend, hj⟩ : ∃ pend, s.json = some pend := by
        cases hj : s.json with
        | none => simp [browOf, hj] at hsse
        | some pend => exact ⟨pend, rfl⟩
      simp only [hat, hopn, hj, hlast hall h0, if_true] at hexs
      obtain ⟨b, hb⟩ := mem_sentM_touch hexs hex List.mem_cons_self
      exact ⟨_, List.mem_map_of_mem hb, respOn_json x b pend r p ctx⟩
    · rw [hlast hall h0] at hexs
      cases hj : s.json <;> simp only [hat, hopn, hj, if_true] at hexs <;> exact mem_endsOf_touch hexs hex hend0

theorem batch_step_ok (sn : σ) (ids : List Nat) {m : BatchS σ} {c : Conn α} (hw : Inv c) (hr : InvReg c) (hl : InvLive c)
    (hnp : c.pendW = []) (hrel : BRel sn ids m c) (l : Label α) :
    (batchStep m (bobsOf sn ids l c (step c l))).2 = none ∧ BRel sn ids (batchStep m (bobsOf sn ids l c (step c l))).1 (step c l) := by
  have horph : orphan (bobsOf sn ids l c (step c l)).snaps = false := orphan_model sn ids (invReg_step hw hr l)
  have hchk := checkResp_model sn ids hw hr hl hnp hrel l
  refine ⟨by simp [batchStep, hchk, horph], Or.inr ?_⟩
  simp [batchStep, bobsOf, applyBSnaps, bsnapOf]

theorem step_pendW_nil (c : Conn α) (l : Label α) (h1 : ∀ msg ctx n, l ≠ .wroute msg ctx n) (hnp : c.pendW = []) :
    (step c l).pendW = [] := by
  refine List.eq_nil_iff_forall_not_mem.mpr (fun pw hp => ?_)
  rcases step_pendW c l pw hp with h | ⟨msg, ctx, n, _, hl, _⟩
  · rw [hnp] at h; cases h
  · exact h1 msg ctx n hl

/-- **C02 bridging, batch clauses.**  For every configuration, every label list in which `Write` is one step, any session
name and any candidate id list for the enumeration of `requestStreams`: `Mon.batchStep` raises no clause on the model's
observation trace (one record per label). -/
theorem batchMonitor_accepts_model (cfg : Cfg) (sn : σ) (ids : List Nat) (ls : List (Label α)) (hno : NoRoute ls) :
    (batchRun (batchInit : BatchS σ) (btraceOf1 sn ids (init cfg : Conn α) ls)).2 = none :=
  (quiet_run (fun _ => rfl) (fun _ _ _ => rfl) (fun _ => rfl) (fun _ _ _ => rfl)
    (R := fun m c => Inv c ∧ InvReg c ∧ InvLive c ∧ c.pendW = [] ∧ BRel sn ids m c) (Sc := fun l => ∀ msg ctx n, l ≠ .wroute msg ctx n)
    (fun m c l ⟨hw, hr, hl, hnp, hrel⟩ hl' => ⟨(batch_step_ok sn ids hw hr hl hnp hrel l).1, inv_step hw l, invReg_step hw hr l,
      live_step hw hl l, step_pendW_nil c l hl' hnp, (batch_step_ok sn ids hw hr hl hnp hrel l).2⟩)
    ls (init cfg) _ ⟨inv_init cfg, invReg_init cfg, live_init cfg, rfl, Or.inl rfl⟩ hno).1

/-- the `orphanReg` clause needs no scope: in every reachable state (split write labels included) every entry of
`requestStreams` names a registered stream that lists the request as outstanding -/
theorem orphan_accepts_all (cfg : Cfg) (sn : σ) (ids : List Nat) (ls : List (Label α)) :
    orphan [bsnapOf sn ids (run (init cfg : Conn α) ls)] = false :=
  orphan_model sn ids (invReg_run cfg ls)

end Resume
