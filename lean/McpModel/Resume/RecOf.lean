import McpModel.Resume.Delta
/-!
E5 — what the record of one model step contains: its label, the exchanges it opens (read by the C08/C10 bridges too), the diff
functions of `Trace` with `codesOf`, `endsOf` as the small monitors read them; and the shape the bridging theorems of the claim,
retention, in-flight-id and batch monitors have (`quiet_run`; the fan-out monitor runs over world labels).
-/
namespace Resume
open Mon
variable {α σ : Type}

/-- Every small monitor is a step function `stepM` folded over a trace (`runM`, keeping the first clause raised), and the
model's trace `tr` has one record `obs l c (step c l)` per label.  If a relation `R` between the monitor's state and the
connection is kept by every step in scope and no such step's record raises a clause, then a run raises none and ends in `R`. -/
theorem quiet_run {S O C : Type} {stepM : S → O → S × Option C} {runM : S → List O → S × Option C}
    (hnil : ∀ m, runM m [] = (m, none))
    (hcons : ∀ m o t, runM m (o :: t) = ((runM (stepM m o).1 t).1, (stepM m o).2 <|> (runM (stepM m o).1 t).2))
    {obs : Label α → Conn α → Conn α → O} {tr : Conn α → List (Label α) → List O}
    (htnil : ∀ c, tr c [] = []) (htcons : ∀ c l ls, tr c (l :: ls) = obs l c (step c l) :: tr (step c l) ls)
    {R : S → Conn α → Prop} {Sc : Label α → Prop}
    (hstep : ∀ m c l, R m c → Sc l → (stepM m (obs l c (step c l))).2 = none ∧ R (stepM m (obs l c (step c l))).1 (step c l)) :
    ∀ (ls : List (Label α)) (c : Conn α) (m : S), R m c → (∀ l ∈ ls, Sc l) →
      (runM m (tr c ls)).2 = none ∧ R (runM m (tr c ls)).1 (run c ls) := by
  intro ls
  induction ls with
  | nil => intro c m h _; rw [htnil, hnil]; exact ⟨rfl, h⟩
  | cons l t ih =>
    intro c m h hsc
    obtain ⟨h1, h2⟩ := hstep m c l h (hsc l List.mem_cons_self)
    obtain ⟨h3, h4⟩ := ih (step c l) _ h2 (fun l' hl' => hsc l' (List.mem_cons_of_mem _ hl'))
    rw [htcons, hcons, h1, h3]
    exact ⟨rfl, h4⟩

theorem originOfGroup_single (l : Label α) : originOfGroup [l] = originOfLabel l := by
  cases l <;> rfl

theorem obsHdr_from (hdr : Hdr) (b : Bool) : (Origin.get (obsHdr hdr) b).from = hdr.from := by
  cases hdr <;> rfl

theorem obsHdr_stream (hdr : Hdr) (b : Bool) (t : Nat) (h : (Origin.get (obsHdr hdr) b).stream = some t) : t = hdr.sid := by
  cases hdr with
  | none => simp [obsHdr, Origin.stream] at h; exact h.symm
  | bad => simp [obsHdr, Origin.stream] at h
  | ok s i => simp [obsHdr, Origin.stream] at h; exact h.symm

theorem originOfLabel_stream {l : Label α} {t : Nat} (h : (originOfLabel l).stream = some t) :
    ∃ hdr ver budget, l = .get hdr ver budget ∧ t = hdr.sid := by
  cases l with
  | get hdr ver budget => exact ⟨hdr, ver, budget, rfl, obsHdr_stream hdr _ t h⟩
  | _ => cases h

theorem step_opens_none (c : Conn α) (l : Label α) (hop : l.opens = false) :
    (step c l).exs[c.exs.length]? = none ∧ originOfLabel l = .other :=
  ⟨List.getElem?_eq_none (by rw [step_exs_length, hop]; exact Nat.le_refl _), by cases l <;> first | rfl | cases hop⟩

theorem step_exs_le (c : Conn α) (l : Label α) : (step c l).exs.length ≤ c.exs.length + 1 := by
  rw [step_exs_length]; split <;> omega

theorem mem_appendsOf {σ : Type} {sn : σ} {c c' : Conn α} {a : Append σ α} :
    a ∈ appendsOf sn c c' ↔ ∃ sid, sid < c'.nextSid ∧ ∃ x ∈ newLog c c' sid, a = ⟨sn, sid, x.map payloadOf, true⟩ := by
  simp only [appendsOf, List.mem_flatMap, List.mem_range, List.mem_map, eq_comm]

/-- exchanges opened between `c` and `c'` that were answered with a bare status -/
def codesOf (c c' : Conn α) : List (Nat × Nat) :=
  (List.range' c.exs.length (c'.exs.length - c.exs.length)).filterMap fun j =>
    match c'.exs[j]? with
    | some e => match e.kind with
      | .status code => some (j, code)
      | _ => none
    | none => none

theorem mem_codesOf {c c' : Conn α} {x : Nat × Nat} (h : x ∈ codesOf c c') :
    c.exs.length ≤ x.1 ∧ x.1 < c.exs.length + (c'.exs.length - c.exs.length) ∧ ∃ e, c'.exs[x.1]? = some e ∧ e.kind = .status x.2 := by
  unfold codesOf at h
  rw [List.mem_filterMap] at h
  obtain ⟨j, hj, hx⟩ := h
  rw [List.mem_range'_1] at hj
  split at hx
  · rename_i e he
    split at hx
    · cases hx; exact ⟨hj.1, hj.2, e, he, by assumption⟩
    · cases hx
  · cases hx

theorem mem_codesOf_step {c : Conn α} {l : Label α} {x : Nat × Nat} (h : x ∈ codesOf c (step c l)) :
    ∃ e, (step c l).exs[c.exs.length]? = some e ∧ e.kind = .status x.2 := by
  obtain ⟨h1, h2, e, he, hk⟩ := mem_codesOf h
  have := step_exs_le c l
  have hx : x.1 = c.exs.length := by omega
  exact ⟨e, hx ▸ he, hk⟩

/-- has the handler of exchange `k` returned? (`false` for exchanges that do not exist yet) -/
def endedAt (c : Conn α) (k : Nat) : Bool := ((c.exs[k]?).map (·.ended)).getD false

/-- exchanges whose handler returned between `c` and `c'` -/
def endsOf (c c' : Conn α) : List Nat :=
  (List.range c'.exs.length).filter fun k => endedAt c' k && !endedAt c k

theorem pushes_new (ws : List (Out α)) : ∀ (e : Exch α), ∃ mo ml, (e.pushes ws).out = e.out ++ mo ∧ (e.pushes ws).lost = e.lost ++ ml ∧
    ∀ o ∈ ws, o ∈ mo ∨ o ∈ ml := by
  induction ws with
  | nil => intro e; exact ⟨[], [], by simp [Exch.pushes], by simp [Exch.pushes], fun _ h => by cases h⟩
  | cons a t ih =>
    intro e
    obtain ⟨mo, ml, h1, h2, h3⟩ := ih (e.push a).1
    rw [pushes_cons]
    rcases push_result e a with ⟨_, p1, p2⟩ | ⟨_, p1, p2⟩
    · refine ⟨a :: mo, ml, by rw [h1, p1]; simp, by rw [h2, p2], ?_⟩
      intro o ho
      rcases List.mem_cons.mp ho with rfl | ho
      · exact Or.inl List.mem_cons_self
      · exact (h3 o ho).imp_left (List.mem_cons_of_mem _)
    · refine ⟨mo, a :: ml, by rw [h1, p1], by rw [h2, p2]; simp, ?_⟩
      intro o ho
      rcases List.mem_cons.mp ho with rfl | ho
      · exact Or.inr List.mem_cons_self
      · exact (h3 o ho).imp_right (List.mem_cons_of_mem _)

theorem mem_sentM_touch {c c' : Conn α} {x : Nat} {e : Exch α} {ws : List (Out α)} {fin : Bool}
    (h : c'.exs = setEx x (Exch.touch ws fin) c.exs) (he : c.exs[x]? = some e) {o : Out α} (ho : o ∈ ws) :
    ∃ b, (x, b, o) ∈ sentM c c' := by
  obtain ⟨mo, ml, h1, h2, h3⟩ := pushes_new ws e
  have he' : c'.exs[x]? = some (e.touch ws fin) := by rw [h, getElem?_setEx_eq, he]; rfl
  have hout : (e.touch ws fin).out = e.out ++ mo ∧ (e.touch ws fin).lost = e.lost ++ ml := by
    unfold Exch.touch; split <;> exact ⟨h1, h2⟩
  obtain ⟨b, hb⟩ : ∃ b, (b, o) ∈ newEvents c c' x := by
    unfold newEvents
    rw [he', he]
    simp only [Option.map_some, Option.getD_some, hout.1, hout.2, List.drop_left]
    rcases h3 o ho with h | h
    · exact ⟨false, by simp [h]⟩
    · exact ⟨true, by simp [h]⟩
  exact ⟨b, by unfold sentM; simp only [List.mem_flatMap, List.mem_range, List.mem_map]
               exact ⟨x, (List.getElem?_eq_some_iff.mp he').1, (b, o), hb, rfl⟩⟩

theorem mem_endsOf_touch {c c' : Conn α} {x : Nat} {e : Exch α} {ws : List (Out α)}
    (h : c'.exs = setEx x (Exch.touch ws true) c.exs) (he : c.exs[x]? = some e) (hend : e.ended = false) : x ∈ endsOf c c' := by
  have he' : c'.exs[x]? = some (e.touch ws true) := by rw [h, getElem?_setEx_eq, he]; rfl
  simp only [endsOf, List.mem_filter, List.mem_range]
  exact ⟨(List.getElem?_eq_some_iff.mp he').1, by simp [endedAt, he', he, hend, Exch.touch]⟩

end Resume
