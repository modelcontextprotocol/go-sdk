import McpModel.Resume.Props
/-!
Non-vacuity witnesses for the C08/C10 theorems (concrete schedules evaluated by the kernel), a decidable
form of the scope predicate, and the proved description of the one routing behaviour that needs a
protocol-violating client (request id reused within a session).
-/
namespace Resume
variable {α : Type}

/-- decidable form of `InScope` -/
def inScopeB (c : Conn α) : Label α → Bool
  | .write _ _ ctxNew => !ctxNew
  | .wroute _ _ ctxNew => !ctxNew
  | .post _ _ ver _ => !ver.isNew
  | .get (.ok sid idx) _ _ => match c.store sid with
    | some log => decide (idx < log.length)
    | none => true
  | _ => true

def inScopeRunB : Conn α → List (Label α) → Bool
  | _, [] => true
  | c, l :: ls => inScopeB c l && inScopeRunB (step c l) ls

theorem inScope_of_b {c : Conn α} {l : Label α} (h : inScopeB c l = true) : InScope c l := by
  cases l with
  | write msg ctx ctxNew => simpa [inScopeB, InScope] using h
  | post calls listen ver budget => simpa [inScopeB, InScope] using h
  | get hdr ver budget =>
    cases hdr with
    | ok sid idx =>
      simp only [InScope]
      intro log hl
      simp only [inScopeB, hl] at h
      simpa using h
    | none => trivial
    | bad => trivial
  | cut ex => trivial
  | wfail ex => trivial
  | sclose req retry => trivial
  | «end» => trivial
  | evict _ _ => trivial
  | wroute msg ctx ctxNew => simpa [inScopeB, InScope] using h
  | wdeliver _ => trivial

theorem inScopeRun_of_b : ∀ (ls : List (Label α)) (c : Conn α), inScopeRunB c ls = true → InScopeRun c ls
  | [], _, _ => trivial
  | l :: ls, c, h => by
    simp only [inScopeRunB, Bool.and_eq_true] at h
    exact ⟨inScope_of_b h.1, inScopeRun_of_b ls _ h.2⟩

def cfgW : Cfg := { stateless := false, jsonResponse := false, hasStore := true, noSession := false }

def demo : List (Label Nat) :=
  [ .post [7] false .v1125 none,              -- exchange 0, stream 1, priming event (1,0)
    .write (.notif 100) (some 7) false,        -- delivered live as (1,1)
    .cut 0,                                    -- the POST exchange is cut
    .write (.notif 101) (some 7) false,        -- written while detached: stored as index 2 only
    .get (.ok 1 1) .v1125 none,                -- resume after (1,1): exchange 1 replays (1,2) and attaches
    .write (.resp 7 200) (some 7) false,       -- final response, live on exchange 1 as (1,3); stream deleted
    .get (.ok 1 0) .v1125 none ]               -- resume after completion from the priming id: replays (1,1),(1,2),(1,3)

example : InScopeRun (init cfgW) demo := inScopeRun_of_b _ _ (by decide +kernel)

example : ((run (init cfgW) demo).exs.map (fun e => e.out)) =
    [ [.prime 1 0, .message (some (1, 1)) ⟨.notif 100, some 7⟩],
      [.message (some (1, 2)) ⟨.notif 101, some 7⟩, .message (some (1, 3)) ⟨.resp 7 200, some 7⟩],
      [.message (some (1, 1)) ⟨.notif 100, some 7⟩, .message (some (1, 2)) ⟨.notif 101, some 7⟩,
       .message (some (1, 3)) ⟨.resp 7 200, some 7⟩] ] := by decide +kernel

example : (run (init cfgW) demo).log 1 =
    [none, some ⟨.notif 100, some 7⟩, some ⟨.notif 101, some 7⟩, some ⟨.resp 7 200, some 7⟩] := by decide +kernel

/-- the stream is gone from `streams` (all responses written) yet its log still serves resumes -/
example : (findStream 1 (run (init cfgW) demo).streams).isNone = true := by decide +kernel

/-- an attached open stream exists in the middle of the schedule (non-vacuity of `attached_lastIdx_aligned`) -/
example : ((run (init cfgW) (demo.take 5)).streams.map (fun s => (s.id, s.attached, s.opn, s.next))) =
    [(0, none, false, 0), (1, some 1, true, 3)] := by decide +kernel

/-- a duplicate in-flight id (non-vacuity of `duplicate_inflight_id_refused_atomically`) -/
example : ((run (init cfgW) ([.post [7] false .v1125 none, .post [8, 7] false .v0326 none] : List (Label Nat))).exs.map (fun e => e.kind)) =
    [.sse, .status 400] := by decide +kernel

/-- in-request traffic after the response is rejected (non-vacuity of `after_response_rejected_not_misrouted`) -/
example : (stepR (run (init cfgW) ([.post [7] false .v1125 none, .write (.resp 7 200) (some 7) false] : List (Label Nat)))
    (.write (.notif 5) (some 7) false)).2 = .rejected := by decide +kernel

/-! ### the behaviour that needs a protocol-violating client

The MCP base protocol forbids a client to reuse a request id within a session.  If it does so *after*
the first request completed, `requestStreams` maps the id to the new request's stream; a straggler of
the finished handler that still uses the old request's context is then delivered on the *new*
request's stream (it is rejected only as long as the id is not registered again).  The harness exhibits
this on the real code with `VERIF_RESUME_IDREUSE=1` (monitor clause "C10: straggler of a finished
request …"); it is outside C10's quantifier (ids are reused across sessions, not within one). -/
theorem straggler_after_id_reuse_lands_on_new_stream :
    let c := run (init cfgW) ([ .post [7] false .v0618 none,          -- request 7 on exchange 0 / stream 1
                                .write (.resp 7 200) (some 7) false,   -- answered: stream 1 deleted
                                .post [7] false .v0618 none,           -- the client reuses id 7: exchange 1 / stream 2
                                .write (.notif 555) (some 7) false ] : List (Label Nat))  -- straggler of the FIRST request
    (c.exs.map (fun e => (e.stream, e.out))) =
      [ (1, [.message (some (1, 0)) ⟨.resp 7 200, some 7⟩]),
        (2, [.message (some (2, 0)) ⟨.notif 555, some 7⟩]) ] := by decide +kernel

end Resume
