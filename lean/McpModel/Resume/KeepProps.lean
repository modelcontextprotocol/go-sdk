import McpModel.Resume.Cases
import McpModel.Resume.Props
/-!
# C08 — retention

State level: why a GET is answered 400 (`get_400_reasons`), and that a resume of a stream the store holds a log of
is not as long as nothing after the resume point was evicted (`resume_of_known_stream_not_refused`); run level: while the store never evicts, every resume — from any index,
after any number of earlier resumes, completed or broken — is served or refused 409, never 400
(`resume_served_or_claimed_without_eviction`).
-/
namespace Resume
variable {α : Type}

theorem get_400_reasons (c : Conn α) (hdr : Hdr) (ver : Ver) (budget : Option Nat)
    (e : Exch α) (he : (get c hdr ver budget).exs[c.exs.length]? = some e) (h400 : e.kind = .status 400) :
    hdr = .bad ∨ (hdr.has = true ∧ c.cfg.hasStore = false) ∨ replayItems c hdr.sid hdr.from = none := by
  rcases get_cases c hdr ver budget with ⟨_, hr⟩ | ⟨h, _⟩ | ⟨items, h, _⟩
  · exact hr
  · rw [h] at he; rw [statusEx_kind he] at h400; cases h400
  · rw [h] at he; rw [(getGo_new c hdr.sid hdr.from ver budget _ e he).2.2.1] at h400; cases h400

/-- **C08, retention.**  With an event store, on an open session: a resume that names a stream the store holds a log of,
from an index after which nothing was evicted (`purged t ≤ i + 1`), is not answered 400 — from whatever such index, however many resumes (from whatever ids) were
served before.  (It is answered with the rest of the log, `exchange_output_is_log_segment`, or 409 while a live exchange
holds the stream, `resume_refused_only_while_claimed`.) -/
theorem resume_of_known_stream_not_refused (c : Conn α) (t i : Nat) (ver : Ver) (budget : Option Nat)
    (hst : c.cfg.hasStore = true) (hopen : c.isDone = false) (hk : (c.store t).isSome = true) (hp : c.purged t ≤ i + 1)
    (e : Exch α) (he : (get c (.ok t i) ver budget).exs[c.exs.length]? = some e) : e.kind ≠ .status 400 := by
  intro h400
  rcases get_400_reasons c (.ok t i) ver budget e he h400 with h | h | h
  · cases h
  · rw [hst] at h; cases h.2
  · simp only [replayItems, Hdr.sid, Hdr.from, hst, hopen] at h
    cases hs : c.store t with
    | none => rw [hs] at hk; cases hk
    | some log =>
      rw [hs] at h
      have hnot : ¬ (i + 1 < c.purged t) := by omega
      simp [hnot] at h

def Label.isEvict : Label α → Bool
  | .evict _ _ => true
  | _ => false

theorem get_kind_cases (c : Conn α) (hdr : Hdr) (ver : Ver) (budget : Option Nat)
    (e : Exch α) (he : (get c hdr ver budget).exs[c.exs.length]? = some e) :
    e.kind = .status 400 ∨ e.kind = .status 409 ∨ e.kind = .sse := by
  rcases get_cases c hdr ver budget with ⟨h, _⟩ | ⟨h, _⟩ | ⟨items, h, _⟩ <;> rw [h] at he
  · exact Or.inl (statusEx_kind he)
  · exact Or.inr (Or.inl (statusEx_kind he))
  · exact Or.inr (Or.inr (getGo_new c hdr.sid hdr.from ver budget _ e he).2.2.1)

theorem purged_zero_run (ls : List (Label α)) (c : Conn α) (hne : ∀ l ∈ ls, l.isEvict = false) (h : ∀ t, c.purged t = 0) :
    ∀ t, (run c ls).purged t = 0 :=
  run_ind_mem (P := fun c => ∀ t, c.purged t = 0) (fun c l hl h t => by
    rw [step_purged_other c l (fun sid n hh => by rw [hh] at hl; cases hl)]; exact h t) ls h hne

/-- **C08 (all numbers of successive resumes, all previously issued Last-Event-IDs).**  While the store never had to evict,
every resume of a stream it holds a log of is served (SSE) or refused 409 — never 400 — from any index, after any history. -/
theorem resume_served_or_claimed_without_eviction (cfg : Cfg) (hst : cfg.hasStore = true) (ls : List (Label α))
    (hne : ∀ l ∈ ls, l.isEvict = false) (t i : Nat) (ver : Ver) (budget : Option Nat)
    (hopen : (run (init cfg : Conn α) ls).isDone = false) (hk : ((run (init cfg : Conn α) ls).store t).isSome = true)
    (e : Exch α)
    (he : (get (run (init cfg : Conn α) ls) (.ok t i) ver budget).exs[(run (init cfg : Conn α) ls).exs.length]? = some e) :
    e.kind = .sse ∨ e.kind = .status 409 := by
  have hp := purged_zero_run ls (init cfg : Conn α) hne (fun _ => by simp [init]) t
  have hcfg : (run (init cfg : Conn α) ls).cfg.hasStore = true := by rw [run_cfg]; exact hst
  have h400 := resume_of_known_stream_not_refused (run (init cfg : Conn α) ls) t i ver budget hcfg hopen hk (by omega) e he
  rcases get_kind_cases _ _ _ _ e he with h | h | h
  · exact absurd h h400
  · exact Or.inr h
  · exact Or.inl h

/-- non-vacuity: call 2 (primed), two notifications, cut, a resume from the newest id, cut, then a resume from the OLDEST id:
served with an SSE stream -/
example :
    let c := run (init ⟨false, false, true, false⟩ : Conn Nat)
      [.post [2] false .v1125 none, .write (.notif 10) (some 2) false, .write (.notif 11) (some 2) false, .cut 0,
       .get (.ok 1 2) .v1125 none, .cut 1]
    ((get c (.ok 1 0) .v1125 none).exs[2]?).map (·.kind) = some .sse := by decide +kernel

end Resume
