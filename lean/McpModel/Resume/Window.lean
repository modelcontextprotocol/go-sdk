import McpModel.Resume.Cases
import McpModel.Resume.Props
/-!
# C08 inside the window between `Write`'s two critical sections

`Write` routes under `c.mu`, releases it, and only then takes the stream's lock to append and deliver.  In
between, a resume may attach to the very stream the write was routed to (`routed_then_resumed_exactly_once`).
(The general statements `exchange_output_is_log_segment`, `attached_exchange_complete` hold on every state of
every schedule of the split labels anyway; this is the window spelled out.)
-/
namespace Resume
variable {α : Type}

theorem pendScope_run (cfg : Cfg) (ls : List (Label α)) (hsc : InScopeRun (init cfg) ls) : PendScope (run (init cfg) ls) :=
  run_ind_scope (P := PendScope) (fun _ l hl h => pendScope_step h l hl) ls (pendScope_init cfg) hsc

theorem isEmpty_and_ne_zero_false {l : List Nat} {id : Nat} (h : l ≠ [] ∨ id = 0) : (l.isEmpty && id != 0) = false := by
  rcases h with h | h
  · cases l with
    | nil => exact absurd rfl h
    | cons a t => rfl
  · simp [h]

theorem get_attach_explicit {c : Conn α} (hst : c.cfg.hasStore = true) (hdone : c.isDone = false) {sid idx : Nat} (ver : Ver)
    {log : List (Option (Item α))} (hlog : c.store sid = some log) (hnp : ¬ idx + 1 < c.purged sid)
    {s : Stream α} (hfs : findStream sid c.streams = some s) (hun : s.attached = none) (hreq : s.requests ≠ [] ∨ s.id = 0) :
    ∃ e0 : Exch α, e0.budget = none ∧ e0.lost = [] ∧ e0.stream = sid ∧ e0.from = idx + 1 ∧
      get c (.ok sid idx) ver none =
        { c with exs := c.exs ++ [e0],
                 streams := setStream { s with attached := some c.exs.length, opn := true,
                                               next := idx + 1 + (toReplay log (idx + 1)).length, v1125 := ver.ge1125 } c.streams } := by
  have hget : get c (.ok sid idx) ver none = getGo c sid (idx + 1) ver none (toReplay log (idx + 1)) := by
    rw [get_free hst hdone ver none hlog (by rw [hfs]; simpa using hun), if_neg hnp]
  obtain ⟨n, hn, _, hlost⟩ := getReplay_eq c sid (idx + 1) none (toReplay log (idx + 1))
  have hb0 : (getEx sid (idx + 1) none : Exch α).budget = none ∧ (getEx sid (idx + 1) none : Exch α).lost = [] :=
    pushes_healthy _ _ rfl rfl
  obtain ⟨hb, hl⟩ := pushes_healthy (getEx sid (idx + 1) none) (replayed sid (idx + 1) ((toReplay log (idx + 1)).take n)) hb0.1 hb0.2
  obtain ⟨_, hok⟩ := hlost (by rw [hl, hb0.2])
  refine ⟨_, hb, hl, by simp [getEx], by simp [getEx], ?_⟩
  have hnd := isEmpty_and_ne_zero_false hreq
  rw [hget]
  unfold getGo
  rw [if_pos hok, hfs]
  simp only [hnd, Bool.false_eq_true, if_false, attach, hdone]
  rw [hn]
  simp [hdone]

/-- **C08 (a write routed before a resume attached is delivered exactly once).**  In any reachable in-scope state
with a notification / server→client request pending for stream `sid` (routed, not yet delivered), an open session,
`sid` an unattached SSE stream that still has outstanding requests (or the standalone stream), and a previously
issued, not evicted `Last-Event-ID = (sid, idx)`: after the resume (GET, healthy connection) and then the pending
delivery section, the resuming exchange has received exactly `log[idx+1 …]` followed by the routed message with
id `(sid, |log|)` — i.e. the rest of the *new* log `log ++ [message]`, each entry once, in order. -/
theorem routed_then_resumed_exactly_once (cfg : Cfg) (hst : cfg.hasStore = true) (ls : List (Label α))
    (hsc : InScopeRun (init cfg) ls) (i : Nat) (pw : PendW α) (hpw : (run (init cfg) ls).pendW[i]? = some pw)
    (hnr : ∀ r p, pw.msg ≠ .resp r p)
    (s : Stream α) (hs : s ∈ (run (init cfg) ls).streams) (hsid : s.id = pw.sid) (hun : s.attached = none)
    (hsse : s.json = none) (hreq : s.requests ≠ [] ∨ s.id = 0)
    (idx : Nat) (ver : Ver) (log : List (Option (Item α))) (hlog : (run (init cfg) ls).store pw.sid = some log)
    (hidx : idx < log.length) (hdone : (run (init cfg) ls).isDone = false) (hnp : (run (init cfg) ls).purged pw.sid ≤ idx + 1) :
    let c2 := run (init cfg) (ls ++ [.get (.ok pw.sid idx) ver none, .wdeliver i])
    ∃ e, c2.exs[(run (init cfg) ls).exs.length]? = some e ∧ e.stream = pw.sid ∧ e.from = idx + 1 ∧ e.lost = [] ∧
      c2.log pw.sid = log ++ [some ⟨pw.msg, pw.ctx⟩] ∧
      (events e.out).length = (log.length + 1) - (idx + 1) ∧
      ∀ (k : Nat) (o : Out α), (events e.out)[k]? = some o →
        ∃ x, (log ++ [some ⟨pw.msg, pw.ctx⟩])[idx + 1 + k]? = some x ∧ o = evOf pw.sid (idx + 1 + k) x := by
  intro c2
  have hrun : c2 = (wdeliverR (get (run (init cfg) ls) (.ok pw.sid idx) ver none) i).1 := by
    show run (init cfg) (ls ++ [.get (.ok pw.sid idx) ver none, .wdeliver i]) = _
    rw [run_append]; rfl
  -- the final state is reachable and in scope: what its exchanges were sent is what its logs hold
  have hseg := fun e he => (exchange_output_is_log_segment cfg hst _
    (inScopeRun_append hsc (l₂ := [.get (.ok pw.sid idx) ver none, .wdeliver i])
      ⟨fun log' hl' => by rw [hlog] at hl'; cases hl'; exact hidx, trivial, trivial⟩)
    (run (init cfg) ls).exs.length e he).1
  -- the state before, its invariants
  generalize hc : run (init cfg) ls = c at *
  have hw : Inv c := by rw [← hc]; exact inv_run cfg ls
  have h8 : Inv08 c := by rw [← hc]; exact inv08_run cfg hst ls hsc
  have hcs : c.cfg.hasStore = true := by rw [← hc, run_cfg]; exact hst
  have hnew : pw.ctxNew = false := by
    have := pendScope_run cfg ls hsc
    rw [hc] at this
    exact this pw (List.mem_of_getElem? hpw)
  have hfs : findStream pw.sid c.streams = some s := by rw [← hsid]; exact findStream_of_mem hw.nodup hs
  have hnn : ∀ j, idx + 1 ≤ j → log[j]? ≠ some none := by
    intro j hj hn
    have := (h8.shape pw.sid log j hlog hn).1
    omega
  obtain ⟨e0, hb0, hl0, hes0, hef0, hget⟩ := get_attach_explicit (idx := idx) hcs hdone ver hlog (by omega) hfs hun hreq
  have he0 : (c.exs ++ [e0])[c.exs.length]? = some e0 := List.getElem?_concat_length
  -- the exchange after the GET, by the resume theorem
  obtain ⟨e1, he1, _, _, _, hlen1, _⟩ := writes_while_detached_are_replayed cfg hst ls hsc pw.sid idx ver log
    (by rw [hc]; exact hlog) hidx (by rw [hc]; exact hdone) (by rw [hc]; exact hnp) (by rw [hc, hfs]; simpa using hun)
  rw [hc, hget] at he1
  obtain rfl : e0 = e1 := Option.some.inj (he0.symm.trans he1)
  -- the delivery section
  have hnext : idx + 1 + (toReplay log (idx + 1)).length = log.length := by
    rw [toReplay_length log (idx + 1) hnn]; omega
  rw [hrun, hget]
  let s1 : Stream α := { s with attached := some c.exs.length, opn := true, next := idx + 1 + (toReplay log (idx + 1)).length, v1125 := ver.ge1125 }
  have hmem1 : s1 ∈ setStream s1 c.streams := mem_setStream_self hs rfl
  have hnodup : ((setStream s1 c.streams).map (·.id)).Nodup := by rw [setStream_ids]; exact hw.nodup
  have hfs1 : findStream pw.sid (setStream s1 c.streams) = some s1 := by
    have := findStream_of_mem hnodup hmem1
    rw [← hsid]; exact this
  have hreqs : wReqs s1 pw.msg = s.requests := by
    cases hm : pw.msg with
    | resp r p => exact absurd hm (hnr r p)
    | notif p => rfl
    | call p => rfl
  have hndone : wDone s1 pw.msg = false := by
    simp only [wDone, hreqs]
    exact isEmpty_and_ne_zero_false hreq
  have huse : wUse ({ c with exs := c.exs ++ [e0], streams := setStream s1 c.streams, pendW := c.pendW.eraseIdx i } : Conn α) false = true := by
    simp [wUse, hcs]
  have hwd1 : (wdeliverR ({ c with exs := c.exs ++ [e0], streams := setStream s1 c.streams } : Conn α) i) =
      writeTo ({ c with exs := c.exs ++ [e0], streams := setStream s1 c.streams, pendW := c.pendW.eraseIdx i } : Conn α) s1 pw.msg pw.ctx false := by
    unfold wdeliverR
    simp only [hpw, hfs1, hnew]
  rw [hwd1]
  have h1 : s1.id = pw.sid := hsid
  have h2 : s1.next = log.length := hnext
  have hd := (wDeliver_healthy (c := ({ c with exs := c.exs ++ [e0], streams := setStream s1 c.streams, pendW := c.pendW.eraseIdx i } : Conn α))
    (s := s1) (x := c.exs.length) rfl rfl he0 hb0 pw.msg pw.ctx false).1
  have hj : s1.json = none := hsse
  simp only [hj, huse, h1, h2, if_true] at hd
  have hlog2 : (writeTo ({ c with exs := c.exs ++ [e0], streams := setStream s1 c.streams, pendW := c.pendW.eraseIdx i } : Conn α)
      s1 pw.msg pw.ctx false).1.log pw.sid = log ++ [some ⟨pw.msg, pw.ctx⟩] := by
    simp only [Conn.log, writeTo, huse, if_true]
    show ((appendLog s1.id (some ⟨pw.msg, pw.ctx⟩) c.store) pw.sid).getD [] = _
    rw [h1]
    simp [appendLog, hlog]
  refine ⟨_, hd, hes0, hef0, hl0, hlog2, ?_, fun k o hk => ?_⟩
  · have : events (e0.out ++ [Out.message (some (pw.sid, log.length)) ⟨pw.msg, pw.ctx⟩]) =
        events e0.out ++ [.message (some (pw.sid, log.length)) ⟨pw.msg, pw.ctx⟩] := by
      simp [events, List.filter_append, Out.isEv]
    rw [this, List.length_append, hlen1, List.length_singleton]
    omega
  · obtain ⟨x, hx, ho⟩ := hseg _ (by show c2.exs[c.exs.length]? = _; rw [hrun, hget, hwd1]; exact hd) k o hk
    have hL : c2.log pw.sid = log ++ [some ⟨pw.msg, pw.ctx⟩] := by rw [hrun, hget, hwd1]; exact hlog2
    simp only [hes0, hef0] at hx ho
    exact ⟨x, by rw [← hL]; exact hx, ho⟩

end Resume
