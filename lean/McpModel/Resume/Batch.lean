import McpModel.Resume.Hold
/-!
# C02 on the streamable server — a POST that carries a batch of calls

Before 2025-06-18 one POST may carry several calls (and notifications).  `servePOST` registers ONE logical stream for
all of them (`stream.requests` = the set of their ids, `requestStreams[id] = stream` for each); every response is
delivered on that stream, and the stream is done — the HTTP exchange completes, the stream leaves `streams` — when the
LAST of them has been answered (`deliverLocked`: `done = len(s.requests) == 0`), not the first.

`batch_post_all_answered`: from any reachable state, for a registered stream whose POST exchange is attached, open and
healthy, writing the responses of its outstanding calls in ANY order delivers each of them exactly once on that
exchange (SSE: one `message` event each, in completion order, with consecutive event ids; JSON: one body holding all
of them), completes the exchange with the last one and not before, removes the stream and every routing entry.
-/
namespace Resume
variable {α : Type}

theorem writeR_resp_eq {c : Conn α} {s : Stream α} (r : Nat) (p : α) (ctx : Option Nat) (ctxNew : Bool)
    (hfs : findStream s.id c.streams = some s) (hreg : c.reqStreams r = some s.id) (hnd : c.isDone = false) :
    writeR c (.resp r p) ctx ctxNew = writeTo (eraseResp c (.resp r p)) s (.resp r p) ctx ctxNew := by
  unfold writeR
  rw [if_neg (by simp [Msg.isCall])]
  have hroute : route c (.resp r p) ctx = some s := by simp [route, related, hreg, hfs]
  rw [hroute]
  simp [hnd]

theorem writeR_reqStreams_none (c : Conn α) (msg : Msg α) (ctx : Option Nat) (ctxNew : Bool) (q : Nat) (h : c.reqStreams q = none) :
    (writeR c msg ctx ctxNew).1.reqStreams q = none := by
  rw [writeR_reqStreams]
  unfold eraseResp
  split
  · simp only; split
    · rfl
    · exact h
  · exact h

theorem InvReg.registered {c : Conn α} (h : InvReg c) (hopen : c.isDone = false) (hnp : c.pendW = []) {s : Stream α}
    (hs : s ∈ c.streams) {r : Nat} (hr : r ∈ s.requests) : c.reqStreams r = some s.id :=
  (h.live hopen s hs r hr).resolve_right fun ⟨_, hp, _⟩ => by rw [hnp] at hp; cases hp

/-- the responses to `rs`, written back to back in that order (each with its request's context) -/
def answerAll (ps : Nat → α) (ctxNew : Bool) : Conn α → List Nat → Conn α
  | c, [] => c
  | c, r :: t => answerAll ps ctxNew (writeR c (.resp r (ps r)) (some r) ctxNew).1 t

theorem answerAll_reqStreams_none (ps : Nat → α) (ctxNew : Bool) (q : Nat) : ∀ (rs : List Nat) (c : Conn α),
    c.reqStreams q = none → (answerAll ps ctxNew c rs).reqStreams q = none := by
  intro rs
  induction rs with
  | nil => intro c h; exact h
  | cons r t ih => intro c h; exact ih _ (writeR_reqStreams_none c _ _ _ q h)

/-- the `message` events of the responses on an SSE stream: consecutive event ids from `next` on (none without a store) -/
def sseOuts (use : Bool) (sid : Nat) (ps : Nat → α) : Nat → List Nat → List (Out α)
  | _, [] => []
  | next, r :: t => .message (if use then some (sid, next) else none) ⟨.resp r (ps r), some r⟩ :: sseOuts use sid ps (next + 1) t

/-- what the exchange receives for the responses `rs`: one event each, or one JSON body with all of them -/
def batchOut (use : Bool) (sid next : Nat) (ps : Nat → α) (js : Option (List (Item α))) (rs : List Nat) : List (Out α) :=
  match js with
  | none => sseOuts use sid ps next rs
  | some pend => [.json (pend ++ rs.map fun r => ⟨.resp r (ps r), some r⟩)]

/-- `batch_post_all_answered` for ANY state with such a stream, not only reachable ones (`AppendFail` applies it to states of
its own step relation). -/
theorem answerAll_spec (ps : Nat → α) (ctxNew : Bool) : ∀ (rs : List Nat) (c : Conn α) (s : Stream α) (x : Nat) (e : Exch α),
    rs.Nodup → rs ≠ [] → (∀ r, r ∈ rs ↔ r ∈ s.requests) →
    findStream s.id c.streams = some s → (∀ r ∈ rs, c.reqStreams r = some s.id) → c.isDone = false → s.id ≠ 0 →
    s.attached = some x → s.opn = true → c.exs[x]? = some e → e.budget = none → e.lost = [] → e.ended = false →
    (∀ s' ∈ (answerAll ps ctxNew c rs).streams, s'.id ≠ s.id) ∧
    (∀ r ∈ rs, (answerAll ps ctxNew c rs).reqStreams r = none) ∧
    ∃ e', (answerAll ps ctxNew c rs).exs[x]? = some e' ∧ e'.ended = true ∧ e'.lost = [] ∧
      e'.out = e.out ++ batchOut (wUse c ctxNew) s.id s.next ps s.json rs := by
  intro rs
  induction rs with
  | nil => intro c s x e _ hne; exact absurd rfl hne
  | cons r t ih =>
    intro c s x e hnd _ hmem hfs hreg hopen hid hat hop hex hb hl hend
    have hr := hreg r List.mem_cons_self
    have hw := writeR_resp_eq r (ps r) (some r) ctxNew hfs hr hopen
    have hd := (wDeliver_healthy (c := eraseResp c (.resp r (ps r))) hat hop (by simpa using hex) hb (.resp r (ps r)) (some r) ctxNew).1
    by_cases ht : t = []
    · -- the last outstanding response: the stream is done
      subst ht
      have hall : eraseAll r s.requests = [] := by
        rw [eraseAll_eq_nil]
        intro q hq
        have := (hmem q).mpr hq
        simpa using this
      have hdone : wDone s (.resp r (ps r)) = true := by simp [wDone, wReqs, hall, hid]
      simp only [answerAll]
      rw [hw]
      refine ⟨?_, ?_, ?_⟩
      · intro s' hs'
        simp only [writeTo, hdone, if_true, eraseResp_streams] at hs'
        exact (mem_delStream.mp hs').2
      · intro q hq
        simp only [List.mem_singleton] at hq; subst hq
        simp [writeTo, eraseResp]
      · refine ⟨_, hd, by simp [hdone], hl, ?_⟩
        cases hjs : s.json <;> simp [hdone, batchOut, sseOuts, wUse]
    · -- others are still outstanding: the stream stays, attached and open
      obtain ⟨hrt, hndt⟩ := List.nodup_cons.mp hnd
      have hne : eraseAll r s.requests ≠ [] := by
        intro h
        rw [eraseAll_eq_nil] at h
        cases t with
        | nil => exact ht rfl
        | cons a t' =>
          have ha : a ∈ s.requests := (hmem a).mp (by simp)
          have := h a ha
          subst this
          exact hrt List.mem_cons_self
      have hdone : wDone s (.resp r (ps r)) = false := by
        simp only [wDone, wReqs]
        cases hq : eraseAll r s.requests with
        | nil => exact absurd hq hne
        | cons a b => simp
      have hmem' : ∀ q, q ∈ t ↔ q ∈ eraseAll r s.requests := by
        intro q
        rw [mem_eraseAll_iff]
        constructor
        · intro hq
          exact ⟨(hmem q).mp (List.mem_cons_of_mem _ hq), fun h => hrt (h ▸ hq)⟩
        · rintro ⟨h1, h2⟩
          rcases List.mem_cons.mp ((hmem q).mpr h1) with h | h
          · exact absurd h h2
          · exact h
      simp only [answerAll]
      rw [hw]
      obtain ⟨c1, hc1⟩ : ∃ c1, c1 = (writeTo (eraseResp c (.resp r (ps r))) s (.resp r (ps r)) (some r) ctxNew).1 := ⟨_, rfl⟩
      rw [← hc1]
      have hreg1 : ∀ q ∈ t, c1.reqStreams q = some s.id := by
        intro q hq
        have hqr : q ≠ r := fun h => hrt (h ▸ hq)
        rw [hc1]
        simp only [writeTo, eraseResp, hqr, if_false]
        exact hreg q (List.mem_cons_of_mem _ hq)
      have hopen1 : c1.isDone = false := by rw [hc1]; simpa [writeTo] using hopen
      have hfree : (∀ q ∈ t, (answerAll ps ctxNew c1 t).reqStreams q = none) →
          ∀ q ∈ r :: t, (answerAll ps ctxNew c1 t).reqStreams q = none := by
        intro a2 q hq
        rcases List.mem_cons.mp hq with rfl | hq
        · exact answerAll_reqStreams_none ps ctxNew q t _ (by rw [hc1]; simp [writeTo, eraseResp])
        · exact a2 q hq
      have hx1 := hd
      rw [← show c1.exs = (wDeliver (eraseResp c (.resp r (ps r))) s (.resp r (ps r)) (some r) ctxNew).1 from by rw [hc1]; rfl] at hx1
      have hu : wUse c1 ctxNew = wUse c ctxNew := by rw [hc1]; simp [wUse, writeTo]
      cases hjs : s.json with
      | none =>
        let s1 : Stream α := { s with requests := eraseAll r s.requests, next := s.next + 1, opn := true }
        have hc1s : c1.streams = setStream s1 c.streams := by
          rw [hc1]; simp [writeTo, wDeliver, deliver, hat, hop, hjs, hdone, wReqs, s1]
        obtain ⟨a1, a2, e', a3, a4, a5, a6⟩ := ih c1 s1 x _
          hndt ht hmem' (by rw [hc1s]; exact findStream_setStream (s := s) (s' := s1) hfs rfl)
          hreg1 hopen1 hid hat rfl hx1 hb hl (by simp [hend, hdone])
        refine ⟨a1, hfree a2, e', a3, a4, a5, ?_⟩
        rw [a6]
        have hu0 : wUse (eraseResp c (.resp r (ps r))) ctxNew = wUse c ctxNew := rfl
        simp [batchOut, sseOuts, hu, hu0, s1, hjs]
      | some pend =>
        let s1 : Stream α := { s with requests := eraseAll r s.requests, json := some (pend ++ [⟨.resp r (ps r), some r⟩]) }
        have hc1s : c1.streams = setStream s1 c.streams := by
          rw [hc1]; simp [writeTo, wDeliver, deliver, hat, hop, hjs, hdone, wReqs, s1]
        obtain ⟨a1, a2, e', a3, a4, a5, a6⟩ := ih c1 s1 x _
          hndt ht hmem' (by rw [hc1s]; exact findStream_setStream (s := s) (s' := s1) hfs rfl)
          hreg1 hopen1 hid hat hop hx1 hb hl (by simp [hend, hdone])
        refine ⟨a1, hfree a2, e', a3, a4, a5, ?_⟩
        rw [a6]
        simp [batchOut, s1, hjs, hdone, List.append_assoc]

/-- **C02 (a batch of calls on one POST: every call is answered exactly once and the exchange completes).**  In any
reachable state with no write between its two sections, take a registered request stream `s` (created by a POST
carrying the calls `s.calls`) whose exchange `x` is attached, open and healthy on an open session.  For ANY order `rs`
in which the handlers of its outstanding calls finish (any permutation of `s.requests`, any payloads), writing the
responses in that order
* delivers each of them **exactly once** on `x`: as `message` events in completion order with consecutive event ids
  (SSE), or as ONE `application/json` body holding all of them after whatever was buffered (JSON mode);
* **completes** the exchange with the last response — its handler returns, nothing was lost;
* removes the stream from `streams` and every one of the ids from `requestStreams` (so each id may be used again). -/
theorem batch_post_all_answered (cfg : Cfg) (ls : List (Label α)) (hnp : (run (init cfg) ls).pendW = [])
    (hopen : (run (init cfg) ls).isDone = false)
    (s : Stream α) (hs : s ∈ (run (init cfg) ls).streams) (hid : s.id ≠ 0)
    (x : Nat) (e : Exch α) (hat : s.attached = some x) (hop : s.opn = true) (hex : (run (init cfg) ls).exs[x]? = some e)
    (hb : e.budget = none) (hl : e.lost = [])
    (rs : List Nat) (hnd : rs.Nodup) (hne : rs ≠ []) (hmem : ∀ r, r ∈ rs ↔ r ∈ s.requests) (ps : Nat → α) (ctxNew : Bool) :
    (∀ s' ∈ (answerAll ps ctxNew (run (init cfg) ls) rs).streams, s'.id ≠ s.id) ∧
    (∀ r ∈ rs, (answerAll ps ctxNew (run (init cfg) ls) rs).reqStreams r = none) ∧
    ∃ e', (answerAll ps ctxNew (run (init cfg) ls) rs).exs[x]? = some e' ∧ e'.ended = true ∧ e'.lost = [] ∧
      e'.out = e.out ++ batchOut (wUse (run (init cfg) ls) ctxNew) s.id s.next ps s.json rs := by
  have hw := inv_run cfg ls
  have hreg := invReg_run cfg ls
  obtain ⟨e0, he0, hend0⟩ := claimed_only_by_live_exchange cfg ls s hs x hat
  rw [hex] at he0; cases he0
  refine answerAll_spec ps ctxNew rs _ s x e hnd hne hmem (findStream_of_mem hw.nodup hs) ?_ hopen hid hat hop hex hb hl hend0
  exact fun r hr => hreg.registered hopen hnp hs ((hmem r).mp hr)

end Resume
