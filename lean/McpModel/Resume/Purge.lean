import McpModel.Resume.Cases
import McpModel.Resume.Props
/-!
# C08 with an evicting event store

The store may drop a prefix of any stream's log at any time (label `EVICT`; `MemoryEventStore.purge` does so on
`Append` / `SetMaxBytes`).  `store` stays the full append log — the ground truth — and `purged` records how much
of it the store has forgotten.  All C08 theorems hold for label lists with evictions (they are in scope).
-/
namespace Resume
variable {α : Type}

/-- **C08 (a resume never silently skips evicted messages).**  In any reachable state of any in-scope label list
(evictions included), a GET with a previously issued `Last-Event-ID = (sid, idx)` on an open session, for a stream
nobody is attached to, on a healthy connection, is answered
* with **an error** — status 400, nothing written, no stream touched — exactly when the store has evicted the
  entry right after the resume point (`idx + 1 < purged sid`), or
* with a `text/event-stream` that is delivered **exactly** `log[idx+1 …]`: every entry after the resume point, each
  once, in order, with its log position as id.
There is no third outcome: the client is never handed a stream that skips what was evicted. -/
theorem resume_after_purge_reports_not_silently_skips (cfg : Cfg) (hst : cfg.hasStore = true) (ls : List (Label α))
    (hsc : InScopeRun (init cfg) ls) (sid idx : Nat) (ver : Ver) (log : List (Option (Item α)))
    (hlog : (run (init cfg) ls).store sid = some log) (hidx : idx < log.length)
    (hdone : (run (init cfg) ls).isDone = false)
    (hfree : (findStream sid (run (init cfg) ls).streams).bind (·.attached) = none) :
    ∃ e, (get (run (init cfg) ls) (.ok sid idx) ver none).exs[(run (init cfg) ls).exs.length]? = some e ∧
      ((idx + 1 < (run (init cfg) ls).purged sid ∧ e.kind = .status 400 ∧ e.all = [] ∧
          (get (run (init cfg) ls) (.ok sid idx) ver none).streams = (run (init cfg) ls).streams) ∨
       ((run (init cfg) ls).purged sid ≤ idx + 1 ∧ e.kind = .sse ∧ e.stream = sid ∧ e.from = idx + 1 ∧ e.lost = [] ∧
          (events e.out).length = log.length - (idx + 1) ∧
          ∀ (k : Nat) (o : Out α), (events e.out)[k]? = some o →
            ∃ x, log[idx + 1 + k]? = some x ∧ o = evOf sid (idx + 1 + k) x)) := by
  by_cases hp : idx + 1 < (run (init cfg) ls).purged sid
  · -- evicted: `After` fails, the GET is answered 400
    generalize hc : run (init cfg) ls = c at *
    have hcs : c.cfg.hasStore = true := by rw [← hc, run_cfg]; exact hst
    rw [get_free hcs hdone ver none hlog hfree, if_pos hp]
    refine ⟨{ kind := .status 400, ended := true, stream := 0 }, by simp [statusEx], Or.inl ⟨hp, rfl, rfl, rfl⟩⟩
  · have hnp : (run (init cfg) ls).purged sid ≤ idx + 1 := by omega
    obtain ⟨e, he, hs, hf, hl, hlen, hpt⟩ := writes_while_detached_are_replayed cfg hst ls hsc sid idx ver log hlog hidx hdone hnp hfree
    refine ⟨e, he, Or.inr ⟨hnp, ?_, hs, hf, hl, hlen, hpt⟩⟩
    -- the exchange is an event stream
    generalize hc : run (init cfg) ls = c at *
    have hcs : c.cfg.hasStore = true := by rw [← hc, run_cfg]; exact hst
    rw [get_free hcs hdone ver none hlog hfree, if_neg (by omega)] at he
    exact (getGo_new c sid (idx + 1) ver none (toReplay log (idx + 1)) e he).2.2.1

/-- `EVICT` is in scope: a run stays in scope when an eviction is appended (so `exchange_output_is_log_segment` applies to it) -/
example (cfg : Cfg) (hst : cfg.hasStore = true) (ls : List (Label α)) (hsc : InScopeRun (init cfg) ls) (sid n : Nat) :
    InScopeRun (init cfg) (ls ++ [.evict sid n]) :=
  inScopeRun_append hsc ⟨trivial, trivial⟩

end Resume
