import McpModel.Resume.Monitor
import McpModel.Base.Logic
/-!
E5 — what each pass of `Mon.step` does to the monitor's state, without reference to any model.

`Mon.step` is a sequence of passes over the record: the exchanges opened and what the snapshot and the event ids tell
about them (`learned`), the appends (`appended`), the writes (`evented`), the evictions (`monStep_fst`).  Only the append pass
writes `logs` and only the eviction pass writes `first` (`MonS.ground`); a learning pass makes one kind of update
(`learnRow_cases`, `learnId_cases`); the append pass extends the log of (session, stream) by the record's appends to it
(`appends_spec`); without an event store the C08 checks are switched off (`runV_nostore`).
-/
namespace Resume
open Mon
variable {α σ : Type} [DecidableEq α] [DecidableEq σ]

@[simp] theorem putEx_exs (m : MonS σ α) (k : Nat) (e : MEx σ) (j : Nat) :
    (m.putEx k e).exs j = if j = k then some e else m.exs j := rfl
@[simp] theorem putEx_logs (m : MonS σ α) (k : Nat) (e : MEx σ) : (m.putEx k e).logs = m.logs := rfl
@[simp] theorem putEx_store (m : MonS σ α) (k : Nat) (e : MEx σ) : (m.putEx k e).store = m.store := rfl
@[simp] theorem putEx_jsonMode (m : MonS σ α) (k : Nat) (e : MEx σ) : (m.putEx k e).jsonMode = m.jsonMode := rfl
@[simp] theorem putEx_posts (m : MonS σ α) (k : Nat) (e : MEx σ) : (m.putEx k e).posts = m.posts := rfl

@[simp] theorem bindPost_exs (m : MonS σ α) (s : σ) (t k : Nat) : (m.bindPost s t k).exs = m.exs := by
  unfold MonS.bindPost; split <;> rfl

@[simp] theorem addLog_exs (m : MonS σ α) (s : σ) (t : Nat) (p : Option α) : (m.addLog s t p).exs = m.exs := rfl
@[simp] theorem addLog_store (m : MonS σ α) (s : σ) (t : Nat) (p : Option α) : (m.addLog s t p).store = m.store := rfl
@[simp] theorem addLog_jsonMode (m : MonS σ α) (s : σ) (t : Nat) (p : Option α) : (m.addLog s t p).jsonMode = m.jsonMode := rfl
@[simp] theorem addLog_posts (m : MonS σ α) (s : σ) (t : Nat) (p : Option α) : (m.addLog s t p).posts = m.posts := rfl

/-- the part of the monitor's state that the passes over exchanges never write: `logs` belongs to the append pass,
`first` to the eviction pass, `store` and `jsonMode` are fixed -/
def Mon.MonS.ground (m : MonS σ α) : Bool × Bool × (σ → Nat → List (Option α)) × (σ → Nat → Nat) :=
  (m.store, m.jsonMode, m.logs, m.first)

structure Mon.MonS.SameGround (m m' : MonS σ α) : Prop where
  store : m'.store = m.store
  jsonMode : m'.jsonMode = m.jsonMode
  logs : m'.logs = m.logs
  first : m'.first = m.first

theorem ground_eq {m m' : MonS σ α} (h : m'.ground = m.ground) : m.SameGround m' := by
  simp only [MonS.ground, Prod.mk.injEq] at h
  exact ⟨h.1, h.2.1, h.2.2.1, h.2.2.2⟩

@[simp] theorem putEx_ground (m : MonS σ α) (k : Nat) (e : MEx σ) : (m.putEx k e).ground = m.ground := rfl
@[simp] theorem bindPost_ground (m : MonS σ α) (s : σ) (t k : Nat) : (m.bindPost s t k).ground = m.ground := by
  unfold MonS.bindPost; split <;> rfl

theorem bindPost_posts (m : MonS σ α) (s : σ) (t k : Nat) (s' : σ) (t' : Nat) (p : Nat)
    (h : (m.bindPost s t k).posts s' t' = some p) : m.posts s' t' = some p ∨ (s' = s ∧ t' = t ∧ p = k) := by
  unfold MonS.bindPost at h
  split at h
  · exact Or.inl h
  · simp only at h
    split at h
    · rename_i hc; cases h; exact Or.inr ⟨hc.1, hc.2, rfl⟩
    · exact Or.inl h

theorem routeBind_cases (m : MonS σ α) (pv : Prov σ) (s : σ) (st k : Option Nat) :
    routeBind m pv s st k = m ∨ ∃ t p, routeBind m pv s st k = m.bindPost s t p := by
  cases st with
  | none => exact Or.inl rfl
  | some t =>
    cases pv <;> first
      | exact Or.inl rfl
      | (simp only [routeBind]; split <;> first | exact Or.inl rfl | exact Or.inr ⟨_, _, rfl⟩)

@[simp] theorem routeBind_exs (m : MonS σ α) (pv : Prov σ) (s : σ) (st k : Option Nat) : (routeBind m pv s st k).exs = m.exs := by
  rcases routeBind_cases m pv s st k with h | ⟨t, p, h⟩ <;> rw [h]
  exact bindPost_exs m s t p
@[simp] theorem routeBind_ground (m : MonS σ α) (pv : Prov σ) (s : σ) (st k : Option Nat) :
    (routeBind m pv s st k).ground = m.ground := by
  rcases routeBind_cases m pv s st k with h | ⟨t, p, h⟩ <;> rw [h]
  exact bindPost_ground m s t p
@[simp] theorem routeBind_jsonMode (m : MonS σ α) (pv : Prov σ) (s : σ) (st k : Option Nat) :
    (routeBind m pv s st k).jsonMode = m.jsonMode :=
  (ground_eq (routeBind_ground m pv s st k)).jsonMode

theorem foldV_keeps {S A β : Type} (g : S → β) (f : S → A → S × Viol) (hf : ∀ s a, g (f s a).1 = g s) (l : List A) (s : S) :
    g (foldV f s l).1 = g s := by
  induction l generalizing s with
  | nil => rfl
  | cons a t ih => simp only [foldV]; rw [ih, hf]

theorem foldV_induct {S A : Type} {f : S → A → S × Viol} {Q : S → Prop} {V : Viol → Prop} (h0 : V {})
    (hor : ∀ a b, V a → V b → V (a.or b)) (l : List A) :
    ∀ (s : S), Q s → (∀ s, Q s → ∀ a ∈ l, V (f s a).2 ∧ Q (f s a).1) → V (foldV f s l).2 ∧ Q (foldV f s l).1 := by
  induction l with
  | nil => intro s hs _; exact ⟨h0, hs⟩
  | cons a t ih =>
    intro s hs hf
    obtain ⟨a1, a2⟩ := hf s hs a List.mem_cons_self
    obtain ⟨b1, b2⟩ := ih (f s a).1 a2 (fun s' hs' x hx => hf s' hs' x (List.mem_cons_of_mem _ hx))
    exact ⟨hor _ _ a1 b1, b2⟩

theorem quiet08_or (a b : Viol) (ha : a.v08 = none) (hb : b.v08 = none) : (a.or b).v08 = none := by
  simp [Viol.or, ha, hb]

theorem quiet10_or (a b : Viol) (ha : a.v10 = none) (hb : b.v10 = none) : (a.or b).v10 = none := by
  simp [Viol.or, ha, hb]

theorem jsonFold_frame (prov : α → Prov σ) (sess : σ) (stream : Option Nat) (k : Nat) (ps : List α) (m : MonS σ α) :
    (foldV (jsonOne prov sess stream k) m ps).2.v08 = none ∧
    ((foldV (jsonOne prov sess stream k) m ps).1.exs = m.exs ∧ (foldV (jsonOne prov sess stream k) m ps).1.ground = m.ground) :=
  foldV_induct (Q := fun m' => m'.exs = m.exs ∧ m'.ground = m.ground) (V := fun v => v.v08 = none) rfl quiet08_or ps m ⟨rfl, rfl⟩
    (fun m' h p _ => ⟨rfl, by simp [jsonOne, h.1], by simp [jsonOne, h.2]⟩)

theorem ev08_ground (m : MonS σ α) (k : Nat) (e : MEx σ) (lost : Bool) (id : EvId) (pay : Option α) :
    (ev08 m k e lost id pay).1.ground = m.ground := by
  unfold ev08
  split
  · rfl
  · split <;> rfl

theorem evStep_ground (prov : α → Prov σ) (m : MonS σ α) (s : Sent α) : (evStep prov m s).1.ground = m.ground := by
  unfold evStep
  split
  · rfl
  · split
    · rfl
    · rfl
    · rfl
    · exact (jsonFold_frame prov _ _ _ _ m).2.2
    · exact ev08_ground _ _ _ _ _ _
    · rw [ev08_ground, routeBind_ground]

theorem openAll_ground (m : MonS σ α) (o : Obs σ α) : (openAll m o).ground = m.ground :=
  List.foldl_fixes MonS.ground (f := fun (m : MonS σ α) (x : Nat × Bool) => m.putEx x.1 (mkEx o x.2)) (fun _ _ => rfl) _ m

theorem learnRow_cases (o : Obs σ α) (sess : σ) (m : MonS σ α) (r : Row) :
    learnRow o sess m r = m ∨ ∃ k me, r.att = some k ∧ m.exs k = some me ∧ me.isGet = false ∧ me.sess = sess ∧
      learnRow o sess m r = (m.putEx k { me with stream := some r.t }).bindPost sess r.t k := by
  unfold learnRow
  split
  · exact Or.inl rfl
  · rename_i k hat
    split
    · exact Or.inl rfl
    · rename_i me hme
      split
      · rename_i hc
        simp only [Bool.and_eq_true, Bool.not_eq_true', decide_eq_true_eq] at hc
        exact Or.inr ⟨k, me, hat, hme, hc.1.2, hc.2, rfl⟩
      · exact Or.inl rfl

theorem learnId_cases (o : Obs σ α) (m : MonS σ α) (s : Sent α) :
    learnId o m s = m ∨ ∃ me t i, m.exs s.k = some me ∧ s.out.evId = .ok t i ∧ me.isGet = false ∧
      learnId o m s = (m.putEx s.k { me with stream := some t }).bindPost me.sess t s.k := by
  unfold learnId
  split
  · rename_i me t i hme hid
    split
    · rename_i hc
      simp only [Bool.and_eq_true, Bool.not_eq_true'] at hc
      exact Or.inr ⟨me, t, i, hme, hid, hc.1.2, rfl⟩
    · exact Or.inl rfl
  · exact Or.inl rfl

theorem learnRows_ground (m : MonS σ α) (o : Obs σ α) : (learnRows m o).ground = m.ground := by
  refine List.foldl_fixes MonS.ground (fun m s => List.foldl_fixes MonS.ground (fun m r => ?_) _ m) _ m
  rcases learnRow_cases o s.sess m r with h | ⟨_, _, _, _, _, _, h⟩ <;> rw [h]
  simp

theorem learnIds_ground (m : MonS σ α) (o : Obs σ α) : (learnIds m o).ground = m.ground := by
  refine List.foldl_fixes MonS.ground (fun m s => ?_) _ m
  rcases learnId_cases o m s with h | ⟨_, _, _, _, _, _, h⟩ <;> rw [h]
  simp

def learned (m : MonS σ α) (o : Obs σ α) : MonS σ α := learnIds (learnRows (openAll m o) o) o

theorem learned_ground (m : MonS σ α) (o : Obs σ α) : (learned m o).ground = m.ground := by
  unfold learned; rw [learnIds_ground, learnRows_ground, openAll_ground]

theorem appendOne_spec (prov : α → Prov σ) (m : MonS σ α) (a : Append σ α) :
    (appendOne prov m a).1.exs = m.exs ∧ (appendOne prov m a).1.store = m.store ∧ (appendOne prov m a).1.first = m.first ∧
    (appendOne prov m a).2.v08 = none ∧
    ∀ s t, (appendOne prov m a).1.logs s t = if a.sess = s ∧ a.stream = t then m.logs s t ++ [a.p] else m.logs s t := by
  have hadd : ∀ (p : Option α) s t, (m.addLog a.sess a.stream p).logs s t =
      if a.sess = s ∧ a.stream = t then m.logs s t ++ [p] else m.logs s t := by
    intro p s t
    simp only [MonS.addLog]
    by_cases h : s = a.sess ∧ t = a.stream
    · obtain ⟨rfl, rfl⟩ := h; simp
    · have h' : ¬ (a.sess = s ∧ a.stream = t) := fun ⟨x, y⟩ => h ⟨x.symm, y.symm⟩
      simp [h, h']
  unfold appendOne
  split
  · rename_i hp
    exact ⟨rfl, rfl, rfl, rfl, fun s t => by rw [hadd, hp]⟩
  · rename_i p hp
    split
    · obtain ⟨gs, _, gl, gf⟩ :=
        ground_eq (routeBind_ground (m.addLog a.sess a.stream (some p)) (prov p) a.sess (some a.stream) none)
      exact ⟨by simp, gs, gf, rfl, fun s t => by rw [gl, hadd, hp]⟩
    · exact ⟨rfl, rfl, rfl, rfl, fun s t => by rw [hadd, hp]⟩

theorem appends_spec (prov : α → Prov σ) : ∀ (l : List (Append σ α)) (m : MonS σ α),
    (foldV (appendOne prov) m l).1.exs = m.exs ∧ (foldV (appendOne prov) m l).1.store = m.store ∧
    (foldV (appendOne prov) m l).1.first = m.first ∧ (foldV (appendOne prov) m l).2.v08 = none ∧
    ∀ s t, (foldV (appendOne prov) m l).1.logs s t = m.logs s t ++ (l.filter (fun a => decide (a.sess = s) && a.stream == t)).map (·.p) := by
  intro l
  induction l with
  | nil => intro m; exact ⟨rfl, rfl, rfl, rfl, fun s t => by simp [foldV]⟩
  | cons a t ih =>
    intro m
    obtain ⟨a1, a2, a3, a4, a5⟩ := appendOne_spec prov m a
    obtain ⟨b1, b2, b3, b4, b5⟩ := ih (appendOne prov m a).1
    simp only [foldV]
    refine ⟨b1.trans a1, b2.trans a2, b3.trans a3, quiet08_or _ _ a4 b4, ?_⟩
    intro s t'
    rw [b5, a5]
    by_cases h : a.sess = s ∧ a.stream = t' <;> simp [h]

theorem applyPurges_frame (l : List (σ × Nat × Nat)) (m : MonS σ α) :
    (applyPurges m l).exs = m.exs ∧ (applyPurges m l).logs = m.logs ∧ (applyPurges m l).store = m.store ∧
    (applyPurges m l).posts = m.posts ∧ (applyPurges m l).jsonMode = m.jsonMode := by
  have := List.foldl_fixes (fun m : MonS σ α => (m.exs, m.logs, m.store, m.posts, m.jsonMode))
    (f := fun m (x : σ × Nat × Nat) => { m with first := fun s t => if s = x.1 ∧ t = x.2.1 then max (m.first s t) x.2.2 else m.first s t })
    (fun _ _ => rfl) l m
  simpa only [applyPurges, Prod.mk.injEq] using this

theorem applyPurges_first (s : σ) (t : Nat) : ∀ (l : List (σ × Nat × Nat)) (m : MonS σ α),
    (applyPurges m l).first s t =
      ((l.filter (fun x => decide (x.1 = s) && x.2.1 == t)).map (·.2.2)).foldl max (m.first s t) := by
  intro l
  induction l with
  | nil => intro m; rfl
  | cons x rest ih =>
    intro m
    simp only [applyPurges, List.foldl_cons]
    have := ih { m with first := fun s' t' => if s' = x.1 ∧ t' = x.2.1 then max (m.first s' t') x.2.2 else m.first s' t' }
    simp only [applyPurges] at this
    rw [this]
    by_cases hx : x.1 = s ∧ x.2.1 = t
    · obtain ⟨rfl, rfl⟩ := hx
      simp
    · have hf : (decide (x.1 = s) && x.2.1 == t) = false := by
        by_cases h1 : x.1 = s
        · have : x.2.1 ≠ t := fun h2 => hx ⟨h1, h2⟩
          simp [h1, this]
        · simp [h1]
      have hx' : ¬ (s = x.1 ∧ t = x.2.1) := fun ⟨a, b⟩ => hx ⟨a.symm, b.symm⟩
      simp [hf, hx']

def appended (prov : α → Prov σ) (m : MonS σ α) (o : Obs σ α) : MonS σ α × Viol := foldV (appendOne prov) (learned m o) o.appends
def evented (prov : α → Prov σ) (m : MonS σ α) (o : Obs σ α) : MonS σ α × Viol := foldV (evStep prov) (appended prov m o).1 o.sent

theorem appended_spec (prov : α → Prov σ) (m : MonS σ α) (o : Obs σ α) :
    (appended prov m o).1.exs = (learned m o).exs ∧ (appended prov m o).1.store = (learned m o).store ∧
    (appended prov m o).1.first = (learned m o).first ∧ (appended prov m o).2.v08 = none :=
  have h := appends_spec prov o.appends (learned m o)
  ⟨h.1, h.2.1, h.2.2.1, h.2.2.2.1⟩

theorem evented_ground (prov : α → Prov σ) (m : MonS σ α) (o : Obs σ α) :
    (evented prov m o).1.ground = (appended prov m o).1.ground :=
  foldV_keeps MonS.ground _ (evStep_ground prov) _ _

theorem monStep_fst (prov : α → Prov σ) (m : MonS σ α) (o : Obs σ α) :
    (Mon.step prov m o).1 = applyPurges (evented prov m o).1 o.purges := rfl

theorem monStep_quiet08 (prov : α → Prov σ) (m : MonS σ α) (o : Obs σ α)
    (h1 : m.store = true → o.opened.findSome? (checkPurged m o) = none) (h2 : (appended prov m o).2.v08 = none)
    (h3 : (evented prov m o).2.v08 = none) (h4 : quiesce (evented prov m o).1 o = none) : (Mon.step prov m o).2.v08 = none := by
  refine quiet08_or _ _ (quiet08_or _ _ ?_ (quiet08_or _ _ h2 h3)) h4
  show (if m.store = true then o.opened.findSome? (checkPurged m o) else none) = none
  split
  · exact h1 ‹_›
  · rfl

theorem monStep_quiet10 (prov : α → Prov σ) (m : MonS σ α) (o : Obs σ α) (h2 : (appended prov m o).2.v10 = none)
    (h3 : (evented prov m o).2.v10 = none) : (Mon.step prov m o).2.v10 = none :=
  quiet10_or _ _ (quiet10_or _ _ rfl (quiet10_or _ _ h2 h3)) rfl

theorem evStep_nostore (prov : α → Prov σ) (m : MonS σ α) (s : Sent α) (h : m.store = false) :
    (evStep prov m s).2.v08 = none := by
  unfold evStep
  split
  · rfl
  · split
    · rfl
    · rfl
    · rfl
    · exact (jsonFold_frame prov _ _ _ _ m).1
    · simp [ev08, h]
    · rename_i _ e _ _ _ p _
      have := (ground_eq (routeBind_ground m (prov p) e.sess e.stream (some s.k))).store
      simp [ev08, this, h, Viol.or]

theorem monStep_nostore (prov : α → Prov σ) (m : MonS σ α) (o : Obs σ α) (h : m.store = false) :
    (Mon.step prov m o).2.v08 = none ∧ (Mon.step prov m o).1.store = false := by
  obtain ⟨_, a2, _, a4⟩ := appended_spec prov m o
  have h2 : (appended prov m o).1.store = false := by rw [a2, (ground_eq (learned_ground m o)).store, h]
  obtain ⟨e1, e2⟩ : (evented prov m o).2.v08 = none ∧ (evented prov m o).1.store = false :=
    foldV_induct (Q := fun m' : MonS σ α => m'.store = false) (V := fun v => v.v08 = none) rfl quiet08_or o.sent (appended prov m o).1 h2
      (fun m' hm' s _ => ⟨evStep_nostore prov m' s hm', ((ground_eq (evStep_ground prov m' s)).store).trans hm'⟩)
  exact ⟨monStep_quiet08 prov m o (fun hs => by rw [h] at hs; cases hs) a4 e1 (by simp [quiesce, e2]),
    by rw [monStep_fst, (applyPurges_frame _ _).2.2.1]; exact e2⟩

theorem runV_nostore (prov : α → Prov σ) (tr : List (Obs σ α)) (m : MonS σ α) (h : m.store = false) :
    (runV prov m tr).2.v08 = none :=
  (foldV_induct (Q := fun m : MonS σ α => m.store = false) (V := fun v => v.v08 = none) rfl quiet08_or tr m h
    (fun m' hm' o _ => monStep_nostore prov m' o hm')).1

end Resume
