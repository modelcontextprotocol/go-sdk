/-!
E5 — the typed core of the *fan-out* clause of the C10 monitor ("notifications … travel … on the session's standalone
stream … when issued outside any request").

A server-level notification (`Server.ResourceUpdated`, a list-changed announcement) is session-independent: every
entitled session gets its own copy, and in each of them the copy is "issued outside any request" of that session —
also when the server code that triggers it runs inside a request handler of some *other* session.  The routing clauses of
`Mon.step` (`Prov.fanout`) flag a copy that shows up on a request exchange.  This core flags the other way the copy can
go wrong: it shows up **nowhere** although the session could have received it.

The monitor keeps, from the *implementation's* observations only, the last snapshot of the real `streams` table of every
session (`last`).  For a record that issues a fan-out with payload `p` to the sessions `ts` (taken from the operations:
the sessions whose `resources/subscribe` was answered and that have not been closed) it raises
* `fanDropped` — for some `b ∈ ts`: before the record, `b` was open (`isDone` not set) and the stream a detached
  notification goes to (a `subscriptions/listen` stream if there is one, else the standalone stream — `target`) was
  *reachable* (an event store is configured, or the stream was attached to an open SSE exchange), and yet `p` was neither
  appended to the store under session `b` nor written to the exchange that stream was attached to.
`Mon.fanStep` is a pure function `FanS → FObs → FanS × Option ClauseF`; `McpModel.Resume.FanBridge` proves that it raises
nothing on any fan-out of the model (every copy is routed as detached in its session; scope `FanScope`: one event-store
setting for all sessions, distinct targets) and what the clause means.
Generic in the session name type `σ`, the payload type `π` and the exchange name type `κ` (global numbers in the driver,
(session, local index) pairs in the proofs).  Core Lean only (linked into the driver).
-/
namespace Resume
namespace Mon

/-- one row of a snapshot of `c.streams`, as far as the fan-out clause needs it -/
structure FRow (κ : Type) where
  t : Nat
  att : Option κ          -- `w` (exchange)
  opn : Bool              -- `done ≠ nil`
  sse : Bool              -- not a JSON-response stream
  listen : Bool

/-- what the fan-out clause needs of one record -/
structure FObs (σ π κ : Type) where
  fan : Option (π × List σ)          -- the record issues a fan-out: its payload and the entitled sessions
  appends : List (σ × π)             -- (session, payload) appended to the event store in this record
  sent : List (κ × π)                -- (exchange, payload) written in this record (delivered or lost; event or JSON member)
  snaps : List (σ × Bool × List (FRow κ))   -- snapshots after the record: session, `isDone`, rows

inductive ClauseF where
  | fanDropped
deriving DecidableEq, Repr

def ClauseF.text : ClauseF → String
  | .fanDropped => "C10: a server-level notification issued inside a request handler was dropped for a subscribed session although that session's standalone/listen stream could receive it (event store configured, or the stream attached to an open exchange): not routed as 'issued outside any request' of that session"

structure FanS (σ κ : Type) where
  store : Bool := false
  last : σ → Option (Bool × List (FRow κ)) := fun _ => none   -- the last snapshot of each session: `isDone`, rows

def fanInit {σ κ : Type} (store : Bool) : FanS σ κ := { store := store }

variable {σ π κ : Type} [DecidableEq σ] [DecidableEq π] [DecidableEq κ]

/-- the stream a detached notification is routed to: a listen stream if any, else the standalone stream
(`streamableServerConn.Write`, the branch without a related request) -/
def target (rows : List (FRow κ)) : Option (FRow κ) :=
  match rows.find? (·.listen) with
  | some r => some r
  | none => rows.find? (fun r => r.t == 0)

/-- the stream can take the message: it is stored, or an open SSE exchange is attached -/
def reachable (store : Bool) (r : FRow κ) : Bool := store || (r.att.isSome && r.opn && r.sse)

/-- the copy for session `b` is visible in the record: in the store under `b`, or on the exchange the target was attached to -/
def reached (o : FObs σ π κ) (p : π) (b : σ) (r : FRow κ) : Bool :=
  o.appends.any (fun a => decide (a.1 = b) && decide (a.2 = p)) ||
  match r.att with
  | some k => o.sent.any (fun x => decide (x.1 = k) && decide (x.2 = p))
  | none => false

def dropped (m : FanS σ κ) (o : FObs σ π κ) (p : π) (b : σ) : Bool :=
  match m.last b with
  | none => false
  | some (done, rows) =>
    !done && match target rows with
      | none => false
      | some r => reachable m.store r && !reached o p b r

def applyFSnaps (last : σ → Option (Bool × List (FRow κ))) (snaps : List (σ × Bool × List (FRow κ))) :
    σ → Option (Bool × List (FRow κ)) :=
  snaps.foldl (fun h s => fun s' => if s' = s.1 then some s.2 else h s') last

def fanStep (m : FanS σ κ) (o : FObs σ π κ) : FanS σ κ × Option ClauseF :=
  ({ m with last := applyFSnaps m.last o.snaps },
   match o.fan with
   | none => none
   | some (p, ts) => if ts.any (dropped m o p) then some .fanDropped else none)

/-- a whole trace: the state after it and the first clause raised, if any -/
def fanRun (m : FanS σ κ) : List (FObs σ π κ) → FanS σ κ × Option ClauseF
  | [] => (m, none)
  | o :: t => ((fanRun (fanStep m o).1 t).1, (fanStep m o).2 <|> (fanRun (fanStep m o).1 t).2)

end Mon
end Resume
