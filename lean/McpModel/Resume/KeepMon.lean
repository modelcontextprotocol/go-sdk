/-!
E5 — the typed core of the *retention* clause of the C08 monitor ("all numbers of successive resumes, all
`Last-Event-ID` values previously issued … the final response of a request stays obtainable").

An event store may forget old events only when it has to (`MemoryEventStore.purge` runs while `nBytes > maxBytes`; the
model's label EVICT).  A resume that names a stream the store has appended to is then answered with the rest of the log
(or 409 while a live exchange holds the stream).  The monitor keeps three facts about the *implementation*, taken from
its observations only: the streams of each session for which the store accepted an `Append` (`known`), per stream the
index up to which the store was FORCED to evict (`first`: the harness reads `nBytes`/`maxBytes` of the real store right
before every `Append` and `SetMaxBytes` it passes on — `purge` runs only inside those two, and only while
`nBytes > maxBytes` —, and reports every eviction it reads from the real `dataList.first` with the flag "the store was over
its limit at such a moment since the last report"; only flagged evictions raise `first`), and which sessions' transports
are closed (`closed`: the `isDone` flag of the last snapshot).  It raises
* `refusedKept` — a GET with a well-formed `Last-Event-ID` `t_i` naming such a stream of an open session was answered 400
  although the store was never forced to evict the entry after `i` (`first t ≤ i + 1`): the events after that id — the
  final response included — have been thrown away although nothing forced the store to.
`Mon.keepStep` is a pure function `KeepS → KObs → KeepS × Option ClauseK`; `McpModel.Resume.KeepBridge` proves that it
raises nothing on any observation trace of the model (where every eviction is an EVICT label, i.e. forced) and what the
clause means.  Core Lean only (linked into the driver).
-/
namespace Resume
namespace Mon

/-- what the retention clause needs of one record -/
structure KObs (σ : Type) where
  sess : σ                          -- the session the record's request was addressed to
  get : Option (Nat × Nat)          -- the record contains a GET whose Last-Event-ID is well-formed: (stream, index)
  codes : List (Nat × Nat)          -- exchanges opened by the record and answered with a bare HTTP status: (exchange, code)
  appends : List (σ × Nat)          -- (session, stream) of every `EventStore.Append` the store accepted in this record
  forced : List (σ × Nat × Nat)     -- evictions the record reports that a store over its size limit made:
                                    -- (session, stream, n) = the store now holds the log of that stream from index n on
  closed : List (σ × Bool)          -- `isDone` of the sessions snapshotted after the record

inductive ClauseK where
  | refusedKept
deriving DecidableEq, Repr

def ClauseK.text : ClauseK → String
  | .refusedKept => "C08: a resume from a previously issued Last-Event-ID of an open session was refused (400) although the event store was never forced (by its size limit) to evict the entry after that id: the messages after it, the final response included, are no longer obtainable"

structure KeepS (σ : Type) where
  known : σ → Nat → Bool := fun _ _ => false    -- the store accepted an Append for (session, stream)
  first : σ → Nat → Nat := fun _ _ => 0         -- (session, stream) ↦ index up to which the store was forced to evict
  closed : σ → Bool := fun _ => false           -- the session's transport is closed (last snapshot)

def keepInit {σ : Type} : KeepS σ := {}

variable {σ : Type} [DecidableEq σ]

def knownAfter (known : σ → Nat → Bool) (apps : List (σ × Nat)) : σ → Nat → Bool :=
  fun s t => known s t || apps.contains (s, t)

def closedAfter (closed : σ → Bool) (snaps : List (σ × Bool)) : σ → Bool :=
  snaps.foldl (fun h x => fun s => if s = x.1 then x.2 else h s) closed

/-- the forced evictions of a record raise `first` (it never goes down) -/
def firstAfter (first : σ → Nat → Nat) (forced : List (σ × Nat × Nat)) : σ → Nat → Nat :=
  forced.foldl (fun f x => fun s t => if s = x.1 ∧ t = x.2.1 then max (f s t) x.2.2 else f s t) first

/-- a GET of this record that names a stream the store has appended to, from index `i`, was answered 400 although the
session was open before the record and the store was not forced — up to and including this record — to evict the entry
after `i` (`EventStore.After(i)` reports a purge only when `i + 1 < first`) -/
def refusedK (m : KeepS σ) (o : KObs σ) : Bool :=
  match o.get with
  | some (t, i) => o.codes.any (fun x => x.2 == 400) && m.known o.sess t && !m.closed o.sess &&
      decide (firstAfter m.first o.forced o.sess t ≤ i + 1)
  | none => false

def keepStep (m : KeepS σ) (o : KObs σ) : KeepS σ × Option ClauseK :=
  ({ known := knownAfter m.known o.appends, first := firstAfter m.first o.forced, closed := closedAfter m.closed o.closed },
   if refusedK m o then some .refusedKept else none)

/-- a whole trace: the state after it and the first clause raised, if any -/
def keepRun (m : KeepS σ) : List (KObs σ) → KeepS σ × Option ClauseK
  | [] => (m, none)
  | o :: t => ((keepRun (keepStep m o).1 t).1, (keepStep m o).2 <|> (keepRun (keepStep m o).1 t).2)

end Mon
end Resume
