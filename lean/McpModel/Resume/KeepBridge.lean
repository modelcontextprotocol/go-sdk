import McpModel.Resume.RecOf
import McpModel.Resume.KeepProps
import McpModel.Resume.KeepMon
/-!
# C08 — the retention clause of the monitor: bridging theorems

In the model every eviction is an EVICT label, reported as forced.  The clause is raised exactly when the record has a GET
naming a stream the store accepted an append for, answered 400, the session open, the store never forced to evict the entry
after the resume point (`Mon.refusedK_iff`); `resume_of_known_stream_not_refused` excludes that on every label list
(`keepMonitor_accepts_model`).
-/
namespace Resume
open Mon
variable {α σ : Type}

/-! ### the observation of a model step, as the retention clause sees it -/

def getOfLabel : Label α → Option (Nat × Nat)
  | .get (.ok t i) _ _ => some (t, i)
  | _ => none

theorem getOfLabel_some {l : Label α} {t i : Nat} (h : getOfLabel l = some (t, i)) : ∃ ver budget, l = .get (.ok t i) ver budget := by
  cases l with
  | get hdr ver budget =>
    cases hdr with
    | ok t' i' =>
      simp only [getOfLabel, Option.some.injEq, Prod.mk.injEq] at h
      obtain ⟨rfl, rfl⟩ := h; exact ⟨ver, budget, rfl⟩
    | _ => cases h
  | _ => cases h

/-- the forced evictions of a model step: every EVICT label is one (the model's store evicts only under pressure) -/
def forcedOf (sn : σ) (l : Label α) (c' : Conn α) : List (σ × Nat × Nat) :=
  match l with
  | .evict sid _ => [(sn, sid, c'.purged sid)]
  | _ => []

theorem forcedOf_nil (sn : σ) (l : Label α) (c' : Conn α) (hl : ∀ sid n, l ≠ .evict sid n) : forcedOf sn l c' = [] := by
  cases l with
  | evict sid n => exact absurd rfl (hl _ _)
  | _ => rfl

/-- `closed` is `isDone` AFTER the step (the snapshot a record ends with): the clause reads the monitor's state before the
record, so it judges a GET by the last snapshot before it -/
def kobsOf (sn : σ) (l : Label α) (c c' : Conn α) : KObs σ :=
  { sess := sn, get := getOfLabel l, codes := codesOf c c',
    appends := (appendsOf sn c c').map (fun a => (a.sess, a.stream)),
    forced := forcedOf sn l c', closed := [(sn, c'.isDone)] }

def ktraceOf1 (sn : σ) : Conn α → List (Label α) → List (KObs σ)
  | _, [] => []
  | c, l :: ls => kobsOf sn l c (step c l) :: ktraceOf1 sn (step c l) ls

variable [DecidableEq σ]

/-- the monitor's facts are the model's: a stream it knows has a log in the store, the store has evicted no more than it
was forced to, and `closed` is `isDone` -/
structure KeepRel (sn : σ) (m : KeepS σ) (c : Conn α) : Prop where
  store : c.cfg.hasStore = true
  known : ∀ t, m.known sn t = true → (c.store t).isSome = true
  first : ∀ t, c.purged t ≤ m.first sn t
  closed : m.closed sn = c.isDone

namespace Mon

theorem refusedK_iff (m : KeepS σ) (o : KObs σ) :
    refusedK m o = true ↔
      ∃ t i, o.get = some (t, i) ∧ (∃ x ∈ o.codes, x.2 = 400) ∧ m.known o.sess t = true ∧ m.closed o.sess = false ∧
        firstAfter m.first o.forced o.sess t ≤ i + 1 := by
  unfold refusedK
  cases hg : o.get with
  | none => simp
  | some ti =>
    obtain ⟨t, i⟩ := ti
    simp only [Bool.and_eq_true, List.any_eq_true, beq_iff_eq, Bool.not_eq_true', decide_eq_true_eq, Option.some.injEq,
      Prod.mk.injEq]
    constructor
    · rintro ⟨⟨⟨hx, hk⟩, hc⟩, hp⟩
      exact ⟨t, i, ⟨rfl, rfl⟩, hx, hk, hc, hp⟩
    · rintro ⟨t', i', ⟨rfl, rfl⟩, hx, hk, hc, hp⟩
      exact ⟨⟨⟨hx, hk⟩, hc⟩, hp⟩

/-- ground truth of `first`: forced evictions only raise it -/
theorem firstAfter_ge (first : σ → Nat → Nat) (forced : List (σ × Nat × Nat)) (s : σ) (t : Nat) :
    first s t ≤ firstAfter first forced s t := by
  unfold firstAfter
  induction forced generalizing first with
  | nil => exact Nat.le_refl _
  | cons x rest ih =>
    simp only [List.foldl_cons]
    refine Nat.le_trans ?_ (ih _)
    split
    · exact Nat.le_max_left _ _
    · exact Nat.le_refl _

theorem keepStep_clause (m : KeepS σ) (o : KObs σ) :
    (keepStep m o).2 = some .refusedKept ↔ refusedK m o = true := by
  simp only [keepStep]
  split <;> simp_all

/-- ground truth of `known`: exactly the (session, stream) pairs of the appends reported so far -/
theorem keepStep_known (m : KeepS σ) (o : KObs σ) (s : σ) (t : Nat) :
    (keepStep m o).1.known s t = true ↔ m.known s t = true ∨ (s, t) ∈ o.appends := by
  simp [keepStep, knownAfter]

end Mon

theorem store_isSome_of_append {sn : σ} {c c' : Conn α} {t : Nat}
    (h : (sn, t) ∈ (appendsOf sn c c').map (fun a => (a.sess, a.stream))) : (c'.store t).isSome = true := by
  rw [List.mem_map] at h
  obtain ⟨a, ha, hat⟩ := h
  obtain ⟨sid, _, x, hx, rfl⟩ := mem_appendsOf.1 ha
  obtain rfl : sid = t := (Prod.mk.inj hat).2
  cases hs : c'.store sid with
  | some _ => rfl
  | none => simp [newLog, hs] at hx

theorem keep_step_ok (sn : σ) {m : KeepS σ} {c : Conn α} (hw : Inv c) (hr : KeepRel sn m c) (l : Label α) :
    (keepStep m (kobsOf sn l c (step c l))).2 = none ∧ KeepRel sn (keepStep m (kobsOf sn l c (step c l))).1 (step c l) := by
  have hg := grow_step hw l
  refine ⟨?_, ?_⟩
  · -- no clause: the refused resume would be one of a stream the store knows, on an open session, not evicted
    have hnr : refusedK m (kobsOf sn l c (step c l)) = false := by
      rw [Bool.eq_false_iff, ne_eq, Mon.refusedK_iff]
      rintro ⟨t, i, hget, ⟨x, hx, hcode⟩, hkn, hcl, hpr⟩
      obtain ⟨ver, budget, rfl⟩ := getOfLabel_some (l := l) hget
      obtain ⟨e, he, hkind⟩ := mem_codesOf_step hx
      rw [hcode] at hkind
      exact resume_of_known_stream_not_refused c t i ver budget hr.store (by rw [← hr.closed]; exact hcl) (hr.known t hkn)
        (Nat.le_trans (hr.first t) hpr) e he hkind
    simp [keepStep, hnr]
  · -- the relation is kept
    refine ⟨by rw [hg.cfg]; exact hr.store, ?_, ?_, ?_⟩
    · intro t ht
      simp only [keepStep, kobsOf, knownAfter, Bool.or_eq_true] at ht
      rcases ht with ht | ht
      · have := hr.known t ht
        cases hs : c.store t with
        | none => rw [hs] at this; cases this
        | some log =>
          obtain ⟨more, hm⟩ := hg.store t log hs
          rw [hm]; rfl
      · exact store_isSome_of_append (by simpa using ht)
    · intro t
      by_cases hev : ∃ sid n, l = .evict sid n
      · obtain ⟨sid, n, rfl⟩ := hev
        simp only [keepStep, kobsOf, forcedOf, firstAfter, List.foldl_cons, List.foldl_nil, true_and]
        by_cases ht : t = sid
        · subst ht; simp only [if_true]; exact Nat.le_max_right _ _
        · simp only [ht, if_false]
          have : (step c (.evict sid n)).purged t = c.purged t := by simp [step, stepR, evict, ht]
          rw [this]; exact hr.first t
      · have hne : ∀ sid n, l ≠ .evict sid n := fun sid n h => hev ⟨sid, n, h⟩
        simp only [keepStep, kobsOf, forcedOf_nil sn l _ hne, firstAfter, List.foldl_nil]
        rw [step_purged_other c l hne]
        exact hr.first t
    · simp [keepStep, kobsOf, closedAfter]

theorem keepRel_init (cfg : Cfg) (hst : cfg.hasStore = true) (sn : σ) : KeepRel sn (keepInit : KeepS σ) (init cfg : Conn α) := by
  refine ⟨hst, ?_, ?_, ?_⟩
  · intro t h; simp [keepInit] at h
  · intro t; simp [init]
  · simp [keepInit, init]

/-- **C08 bridging, retention clause.**  For every configuration with an event store and EVERY label list (any versions,
any `Last-Event-ID`s — the same one, older ones, newer ones, in any order and number —, write budgets, evictions, the
split write labels) the retention clause is not raised on the model's observation trace (one record per label; an EVICT
label is an eviction forced by the size limit). -/
theorem keepMonitor_accepts_model (cfg : Cfg) (hst : cfg.hasStore = true) (sn : σ) (ls : List (Label α)) :
    (keepRun (keepInit : KeepS σ) (ktraceOf1 sn (init cfg : Conn α) ls)).2 = none :=
  (quiet_run (fun _ => rfl) (fun _ _ _ => rfl) (fun _ => rfl) (fun _ _ _ => rfl)
    (R := fun m c => Inv c ∧ KeepRel sn m c) (Sc := fun _ => True)
    (fun m c l ⟨hw, hr⟩ _ => ⟨(keep_step_ok sn hw hr l).1, inv_step hw l, (keep_step_ok sn hw hr l).2⟩)
    ls (init cfg) _ ⟨inv_init cfg, keepRel_init cfg hst sn⟩ (fun _ _ => trivial)).1


/-- non-vacuity: one append, then a resume from its id answered 400 without any pressure is flagged -/
example : (keepRun (keepInit : KeepS Nat)
    [{ sess := 1, get := none, codes := [], appends := [(1, 2)], forced := [], closed := [(1, false)] },
     { sess := 1, get := some (2, 0), codes := [(5, 400)], appends := [], forced := [], closed := [(1, false)] }]).2
    = some .refusedKept := by decide +kernel

/-- … not flagged once the store was forced to evict the entry after the resume point, still flagged when the forced
eviction of that stream stopped before it or concerned another stream -/
example : (keepRun (keepInit : KeepS Nat)
    [{ sess := 1, get := none, codes := [], appends := [(1, 2)], forced := [(1, 2, 2)], closed := [(1, false)] },
     { sess := 1, get := some (2, 0), codes := [(5, 400)], appends := [], forced := [], closed := [(1, false)] }]).2
    = none := by decide +kernel
example : (keepRun (keepInit : KeepS Nat)
    [{ sess := 1, get := none, codes := [], appends := [(1, 2)], forced := [(1, 2, 1), (1, 3, 9)], closed := [(1, false)] },
     { sess := 1, get := some (2, 0), codes := [(5, 400)], appends := [], forced := [], closed := [(1, false)] }]).2
    = some .refusedKept := by decide +kernel

end Resume
