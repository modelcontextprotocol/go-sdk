import McpModel.Resume.Step
/-!
E5 — the C08 invariant (`Inv08`): with an event store and protocol versions before 2026-07-28,
* the store holds an empty (priming) payload only at index 0 of a request stream;
* what every exchange was sent (delivered or not) is the log segment starting at its resume point,
  each event carrying the id of its log position;
* an attached, open SSE stream has `lastIdx` = last store index = resume index + events written.
Preserved by every label that is in the scope of C08 (`InScope`).
-/
namespace Resume
variable {α : Type}

/-- labels in the scope of C08: contexts and POSTs before 2026-07-28, and a `Last-Event-ID` that was
issued before (its index exists in the stream's log; unknown streams are allowed — they get a 400). -/
def InScope (c : Conn α) : Label α → Prop
  | .write _ _ ctxNew => ctxNew = false
  | .wroute _ _ ctxNew => ctxNew = false
  | .post _ _ ver _ => ver.isNew = false
  | .get (.ok sid idx) _ _ => ∀ log, c.store sid = some log → idx < log.length
  | _ => True

def InScopeRun : Conn α → List (Label α) → Prop
  | _, [] => True
  | c, l :: ls => InScope c l ∧ InScopeRun (step c l) ls

structure Inv08 (c : Conn α) : Prop where
  npos : 0 < c.nextSid
  shape : ∀ (sid : Nat) (log : List (Option (Item α))) (i : Nat), c.store sid = some log → log[i]? = some none → i = 0 ∧ sid ≠ 0
  ex_lt : ∀ (j : Nat) (e : Exch α), c.exs[j]? = some e → e.stream < c.nextSid
  seg : ∀ (j : Nat) (e : Exch α), c.exs[j]? = some e → SegFrom ((c.store e.stream).getD []) e.stream e.from e.all
  aligned : ∀ s ∈ c.streams, ∀ (ex : Nat) (e : Exch α), s.attached = some ex → s.opn = true → s.json = none →
              c.exs[ex]? = some e → s.next = e.from + idCount e.all ∧ ((c.store s.id).getD []).length = s.next

theorem inv08_init (cfg : Cfg) : Inv08 (init cfg : Conn α) := by
  refine ⟨Nat.zero_lt_one, ?_, ?_, ?_, ?_⟩
  · intro sid log i hl hi
    simp only [init] at hl
    split at hl
    · cases hl; simp at hi
    · cases hl
  · intro j e he; cases he
  · intro j e he; cases he
  · intro s hs ex e hat; obtain rfl := List.mem_singleton.mp hs; cases hat

def NoEv (l : List (Out α)) : Prop := ∀ o ∈ l, o.isEv = false

theorem noEv_nil : NoEv ([] : List (Out α)) := fun _ h => by cases h

theorem idCount_noEv {l : List (Out α)} (h : NoEv l) : idCount l = 0 := by
  induction l with
  | nil => rfl
  | cons o t ih =>
    have ho := h o (List.mem_cons_self)
    simp only [idCount, ho]
    have := ih (fun x hx => h x (List.mem_cons_of_mem _ hx))
    simp [this]

theorem segFrom_noEv (log : List (Option (Item α))) (sid i : Nat) {l : List (Out α)} (h : NoEv l) : SegFrom log sid i l := by
  induction l with
  | nil => trivial
  | cons o t ih =>
    have ho := h o (List.mem_cons_self)
    simp only [SegFrom, ho]
    exact ih (fun x hx => h x (List.mem_cons_of_mem _ hx))

/-- exchange tables that agree up to non-event writes (`close`, comment, JSON body) and the `ended` flag;
new exchanges may be appended as long as nothing but non-events was written to them -/
def ExSame (exs exs' : List (Exch α)) : Prop :=
  exs.length ≤ exs'.length ∧
  ∀ (j : Nat) (e' : Exch α), exs'[j]? = some e' →
    (∃ e, exs[j]? = some e ∧ e'.stream = e.stream ∧ e'.from = e.from ∧ ∃ more, NoEv more ∧ e'.all = e.all ++ more) ∨
    (exs[j]? = none ∧ NoEv e'.all)

theorem ExSame.refl (exs : List (Exch α)) : ExSame exs exs :=
  ⟨Nat.le_refl _, fun _ e' h => Or.inl ⟨e', h, rfl, rfl, [], noEv_nil, by simp⟩⟩

theorem ExSame.trans {a b c : List (Exch α)} (h₁ : ExSame a b) (h₂ : ExSame b c) : ExSame a c := by
  refine ⟨Nat.le_trans h₁.1 h₂.1, ?_⟩
  intro j e'' h
  rcases h₂.2 j e'' h with ⟨e', he', s2, f2, m2, n2, r2⟩ | ⟨hn, hall⟩
  · rcases h₁.2 j e' he' with ⟨e, he, s1, f1, m1, n1, r1⟩ | ⟨hn1, hall1⟩
    · refine Or.inl ⟨e, he, s2.trans s1, f2.trans f1, m1 ++ m2, ?_, by rw [r2, r1]; simp⟩
      intro o ho
      rcases List.mem_append.mp ho with ho | ho
      · exact n1 o ho
      · exact n2 o ho
    · refine Or.inr ⟨hn1, ?_⟩
      rw [r2]
      intro o ho
      rcases List.mem_append.mp ho with ho | ho
      · exact hall1 o ho
      · exact n2 o ho
  · refine Or.inr ⟨?_, hall⟩
    have hb : b.length ≤ j := by
      by_cases hh : j < b.length
      · rw [List.getElem?_eq_getElem hh] at hn; cases hn
      · omega
    exact List.getElem?_eq_none (Nat.le_trans h₁.1 hb)

theorem exSame_setEx (exs : List (Exch α)) (ex : Nat) (f : Exch α → Exch α)
    (hf : ∀ e, exs[ex]? = some e → (f e).stream = e.stream ∧ (f e).from = e.from ∧ ∃ more, NoEv more ∧ (f e).all = e.all ++ more) :
    ExSame exs (setEx ex f exs) := by
  refine ⟨by simp, ?_⟩
  intro j e' h
  rcases setEx_get h with ⟨rfl, a, ha, rfl⟩ | ⟨_, h'⟩
  · obtain ⟨h1, h2, h3⟩ := hf a ha
    exact Or.inl ⟨a, ha, h1, h2, h3⟩
  · exact Or.inl ⟨e', h', rfl, rfl, [], noEv_nil, by simp⟩

theorem exSame_touch {exs : List (Exch α)} (hok : ∀ e ∈ exs, ExOK e) (x : Nat) {ws : List (Out α)} (hno : NoEv ws) (fin : Bool) :
    ExSame exs (setEx x (Exch.touch ws fin) exs) :=
  exSame_setEx _ _ _ (fun e he =>
    ⟨touch_stream e ws fin, touch_from e ws fin, ws, hno, (touch_all (hok e (List.mem_of_getElem? he)) ws fin).1⟩)

theorem exSame_wfail (exs : List (Exch α)) (ex : Nat) :
    ExSame exs (setEx ex (fun e => { e with budget := some 0 }) exs) :=
  exSame_setEx _ _ _ (fun _ _ => ⟨rfl, rfl, [], noEv_nil, by simp [Exch.all]⟩)

/-- stream tables whose attached, open SSE streams all existed before with the same cursor -/
def StrSame (l l' : List (Stream α)) : Prop :=
  ∀ s' ∈ l', s'.opn = true → s'.json = none →
    ∃ s ∈ l, s.id = s'.id ∧ s.attached = s'.attached ∧ s.opn = true ∧ s.json = none ∧ s.next = s'.next

theorem StrSame.refl (l : List (Stream α)) : StrSame l l := fun s hs ho hj => ⟨s, hs, rfl, rfl, ho, hj, rfl⟩

theorem strSame_release (l : List (Stream α)) (ex : Nat) : StrSame l (release ex l) := by
  intro s' hs' ho hj
  obtain ⟨s, hs, h | h⟩ := mem_release hs'
  · obtain ⟨_, rfl⟩ := h; cases ho
  · obtain ⟨_, rfl⟩ := h; exact ⟨s', hs, rfl, rfl, ho, hj, rfl⟩

theorem strSame_del (l : List (Stream α)) (sid : Nat) : StrSame l (delStream sid l) := by
  intro s' hs' ho hj
  rw [mem_delStream] at hs'
  exact ⟨s', hs'.1, rfl, rfl, ho, hj, rfl⟩

theorem strSame_set {l : List (Stream α)} {s s' : Stream α} (hs : s ∈ l)
    (h : s'.opn = true → s'.json = none → s.id = s'.id ∧ s.attached = s'.attached ∧ s.opn = true ∧ s.json = none ∧ s.next = s'.next) :
    StrSame l (setStream s' l) := by
  intro x hx ho hj
  rcases mem_setStream hx with rfl | ⟨hxl, _⟩
  · obtain ⟨h1, h2, h3, h4, h5⟩ := h ho hj; exact ⟨s, hs, h1, h2, h3, h4, h5⟩
  · exact ⟨x, hxl, rfl, rfl, ho, hj, rfl⟩

/-- frame lemma: the section wrote nothing but events without id, to old exchanges … -/
theorem inv08_frame {c c' : Conn α} (hw : Inv c) (h : Inv08 c) (hst : c'.store = c.store) (hn : c.nextSid ≤ c'.nextSid)
    (he : ExSame c.exs c'.exs) (hs : StrSame c.streams c'.streams) (hlen : c'.exs.length = c.exs.length) : Inv08 c' := by
  refine ⟨Nat.lt_of_lt_of_le h.npos hn, ?_, ?_, ?_, ?_⟩
  · intro sid log i hl hi; rw [hst] at hl; exact h.shape sid log i hl hi
  · intro j e' he'
    rcases he.2 j e' he' with ⟨e, hej, hs1, _⟩ | ⟨hnone, _⟩
    · rw [hs1]; exact Nat.lt_of_lt_of_le (h.ex_lt j e hej) hn
    · rw [List.getElem?_eq_none_iff] at hnone
      exact absurd (List.getElem?_eq_some_iff.mp he').1 (by omega)
  · intro j e' he'
    rw [hst]
    rcases he.2 j e' he' with ⟨e, hej, hs1, hf1, more, hno, hall⟩ | ⟨_, hall⟩
    · rw [hs1, hf1, hall, segFrom_append]
      exact ⟨h.seg j e hej, segFrom_noEv _ _ _ hno⟩
    · exact segFrom_noEv _ _ _ hall
  · intro s' hs' ex e' hat ho hj hex
    obtain ⟨s, hsl, hid, hatt, hop, hjs, hnx⟩ := hs s' hs' ho hj
    rw [hst, ← hid, ← hnx]
    obtain ⟨e, hej, _⟩ := hw.att s hsl ex (by rw [hatt]; exact hat)
    rcases he.2 ex e' hex with ⟨e₀, hej0, _, hf1, more, hno, hall⟩ | ⟨hnone, _⟩
    · rw [hej] at hej0; cases hej0
      have := h.aligned s hsl ex e (by rw [hatt]; exact hat) hop hjs hej
      rw [hf1, hall, idCount_append, idCount_noEv hno]
      simpa using this
    · rw [hej] at hnone; cases hnone

/-- … or it opened one new exchange `e₁`, the old logs untouched.  `hstr`: an open SSE stream is an old one on an old exchange, or the one
attached to `e₁`, and then aligned (`next` = `e₁.from` + the id-carrying events on `e₁` = length of the log). -/
theorem inv08_newEx {c c' : Conn α} (hw : Inv c) (h : Inv08 c) (hn : c.nextSid ≤ c'.nextSid)
    (hst : ∀ k, k < c.nextSid → c'.store k = c.store k)
    (hshape : ∀ (sid : Nat) (log : List (Option (Item α))) (i : Nat), c'.store sid = some log → log[i]? = some none → i = 0 ∧ sid ≠ 0)
    {e₁ : Exch α} (hexs : c'.exs = c.exs ++ [e₁]) (hlt : e₁.stream < c'.nextSid)
    (hseg : SegFrom ((c'.store e₁.stream).getD []) e₁.stream e₁.from e₁.all)
    (hstr : ∀ x ∈ c'.streams, x.opn = true → x.json = none → ∀ ex, x.attached = some ex →
      (x ∈ c.streams ∧ ex < c.exs.length) ∨
      (ex = c.exs.length ∧ x.next = e₁.from + idCount e₁.all ∧ ((c'.store x.id).getD []).length = x.next)) :
    Inv08 c' := by
  have hold : ∀ {j : Nat} {e : Exch α}, c'.exs[j]? = some e → c.exs[j]? = some e ∨ (j = c.exs.length ∧ e = e₁) :=
    fun hj => List.getElem?_snoc (hexs ▸ hj)
  refine ⟨Nat.lt_of_lt_of_le h.npos hn, hshape, ?_, ?_, ?_⟩
  · intro j e hj
    rcases hold hj with ho | ⟨_, rfl⟩
    · exact Nat.lt_of_lt_of_le (h.ex_lt j e ho) hn
    · exact hlt
  · intro j e hj
    rcases hold hj with ho | ⟨_, rfl⟩
    · rw [hst _ (h.ex_lt j e ho)]; exact h.seg j e ho
    · exact hseg
  · intro x hx ex e hat hop hj hex
    rcases hstr x hx hop hj ex hat with ⟨hmem, hlt⟩ | ⟨rfl, hal⟩
    · rw [hst _ (hw.sid_lt x hmem)]
      exact h.aligned x hmem ex e hat hop hj ((hold hex).resolve_right (fun hh => Nat.ne_of_lt hlt hh.1))
    · rcases hold hex with ho | ⟨_, rfl⟩
      · exact absurd (List.getElem?_eq_some_iff.mp ho).1 (Nat.lt_irrefl _)
      · exact hal

theorem inv08_cut {c : Conn α} (hw : Inv c) (h : Inv08 c) (ex : Nat) : Inv08 (cut c ex) :=
  inv08_frame (c' := cut c ex) hw h rfl (Nat.le_refl _) (exSame_touch hw.ex_ok ex noEv_nil true) (strSame_release _ _) (by simp [cut, finish])

theorem inv08_statusEx {c : Conn α} (hw : Inv c) (h : Inv08 c) (code : Nat) (sid : Nat) (hs : sid < c.nextSid) :
    Inv08 (statusEx c code sid) :=
  inv08_newEx (c' := statusEx c code sid) hw h (Nat.le_refl _) (fun _ _ => rfl) h.shape rfl hs trivial
    (fun _ hx _ _ _ hat => Or.inl ⟨hx, att_lt hw hx hat⟩)

theorem inv08_eraseResp {c : Conn α} (hw : Inv c) (h : Inv08 c) (msg : Msg α) : Inv08 (eraseResp c msg) :=
  inv08_frame (c' := eraseResp c msg) hw h (by simp) (by simp) (by simp; exact ExSame.refl _) (by simp; exact StrSame.refl _)
    (by simp)

theorem deliver_idle (exs : List (Exch α)) (hok : ∀ e ∈ exs, ExOK e) (s : Stream α) (it : Item α)
    (evid : Option (Nat × Nat)) (reqs : List Nat) (done : Bool) (hn : ¬ (s.attached.isSome ∧ s.opn = true ∧ s.json = none)) :
    ExSame exs (deliver exs s it evid reqs done).1 ∧ (deliver exs s it evid reqs done).1.length = exs.length ∧
    ((deliver exs s it evid reqs done).2.1.opn = true → (deliver exs s it evid reqs done).2.1.json = none →
      s.id = (deliver exs s it evid reqs done).2.1.id ∧ s.attached = (deliver exs s it evid reqs done).2.1.attached ∧
      s.opn = true ∧ s.json = none ∧ s.next = (deliver exs s it evid reqs done).2.1.next) := by
  unfold deliver
  split
  · rename_i ex hat hop
    split
    · split
      · exact ⟨by rw [finishX_emitX]; exact exSame_touch hok _ (fun o ho => by rw [List.mem_singleton.mp ho]; rfl) true, by simp,
          fun ho => by cases ho⟩
      · exact ⟨ExSame.refl _, rfl, fun _ hj => by cases hj⟩
    · rename_i hj; exact absurd ⟨by rw [hat]; rfl, hop, hj⟩ hn
  · exact ⟨ExSame.refl _, rfl, fun ho hj => ⟨rfl, rfl, ho, hj, rfl⟩⟩

theorem getD_appendLog (sid k : Nat) (x : Option (Item α)) (st : Store α) :
    ∃ more, (appendLog sid x st k).getD [] = (st k).getD [] ++ more := by
  by_cases hk : k = sid
  · subst hk; exact ⟨[x], by simp⟩
  · exact ⟨[], by rw [appendLog_other _ _ _ _ hk]; simp⟩

theorem shape_appendLog {c : Conn α} (h : Inv08 c) (sid : Nat) (it : Item α) (k : Nat) (log : List (Option (Item α))) (i : Nat)
    (hl : appendLog sid (some it) c.store k = some log) (hi : log[i]? = some none) : i = 0 ∧ k ≠ 0 := by
  by_cases hk : k = sid
  · subst hk
    simp only [appendLog_same, Option.some.injEq] at hl
    subst hl
    by_cases hlt : i < ((c.store k).getD []).length
    · rw [List.getElem?_append_left hlt] at hi
      cases hc : c.store k with
      | none => rw [hc] at hlt; simp at hlt
      | some l0 => rw [hc] at hi; exact h.shape k l0 i hc (by simpa using hi)
    · rw [List.getElem?_append_right (by omega)] at hi
      have := List.mem_of_getElem? hi
      simp at this
  · rw [appendLog_other _ _ _ _ hk] at hl; exact h.shape k log i hl hi

theorem inv08_append {c c' : Conn α} (h : Inv08 c) (sid : Nat) (it : Item α)
    (hidle : ∀ s ∈ c.streams, s.id = sid → ¬ (s.attached.isSome ∧ s.opn = true ∧ s.json = none))
    (hst : c'.store = appendLog sid (some it) c.store) (hn : c'.nextSid = c.nextSid) (he : c'.exs = c.exs)
    (hs : c'.streams = c.streams) : Inv08 c' := by
  refine ⟨hn ▸ h.npos, ?_, ?_, ?_, ?_⟩
  · intro k log i hl hi; rw [hst] at hl; exact shape_appendLog h sid it k log i hl hi
  · intro j e hj; rw [he] at hj; rw [hn]; exact h.ex_lt j e hj
  · intro j e hj; rw [he] at hj; rw [hst]
    exact segFrom_mono (getD_appendLog sid e.stream _ c.store) _ _ _ (h.seg j e hj)
  · intro s hs' ex e hat hop hj hex
    rw [hs] at hs'; rw [he] at hex; rw [hst]
    have hne : s.id ≠ sid := fun heq => hidle s hs' heq ⟨by rw [hat]; rfl, hop, hj⟩
    rw [appendLog_other _ _ _ _ hne]
    exact h.aligned s hs' ex e hat hop hj hex

theorem inv08_writeTo {c : Conn α} (hw : Inv c) (h : Inv08 c) {s : Stream α} (hmem : s ∈ c.streams) (msg : Msg α)
    (ctx : Option Nat) (hst : c.cfg.hasStore = true) : Inv08 (writeTo c s msg ctx false).1 := by
  have huse : wUse c false = true := by simp [wUse, hst]
  have hstore : (writeTo c s msg ctx false).1.store = appendLog s.id (some ⟨msg, ctx⟩) c.store := by
    simp [writeTo, huse]
  have hstreams : (writeTo c s msg ctx false).1.streams = if wDone s msg then delStream s.id c.streams
      else setStream (deliver c.exs s ⟨msg, ctx⟩ (some (s.id, s.next)) (wReqs s msg) (wDone s msg)).2.1 c.streams := by
    simp [writeTo, wDeliver, huse]
  by_cases hlive : s.attached.isSome ∧ s.opn = true ∧ s.json = none
  · -- the message goes out on the attached exchange, as the event of the log position it was just appended at
    obtain ⟨hsome, hop, hjs⟩ := hlive
    obtain ⟨ex, hat⟩ := Option.isSome_iff_exists.mp hsome
    obtain ⟨e₀, hex₀, hes⟩ := hw.att s hmem ex hat
    obtain ⟨hnext, hlen⟩ := h.aligned s hmem ex e₀ hat hop hjs hex₀
    have hexs : (writeTo c s msg ctx false).1.exs =
        setEx ex (Exch.touch [.message (some (s.id, s.next)) ⟨msg, ctx⟩] (wDone s msg)) c.exs := by
      simp [writeTo, wDeliver, huse, deliver_exs, hat, hop, hjs]
    have hds : (deliver c.exs s ⟨msg, ctx⟩ (some (s.id, s.next)) (wReqs s msg) (wDone s msg)).2.1 =
        { s with requests := wReqs s msg, next := s.next + 1, opn := !wDone s msg } := by
      simp only [deliver, hat, hop, hjs]
    rw [hds] at hstreams
    -- every exchange but `ex` keeps what it was written; `ex` gets the event
    have hget : ∀ (j : Nat) (e' : Exch α), (writeTo c s msg ctx false).1.exs[j]? = some e' →
        ∃ e, c.exs[j]? = some e ∧ e'.stream = e.stream ∧ e'.from = e.from ∧
          ((j = ex ∧ e'.all = e.all ++ [.message (some (s.id, s.next)) ⟨msg, ctx⟩]) ∨ (j ≠ ex ∧ e'.all = e.all)) := by
      intro j e' hj
      rw [hexs] at hj
      rcases setEx_get hj with ⟨rfl, a, ha, rfl⟩ | ⟨hne, h'⟩
      · exact ⟨a, ha, touch_stream _ _ _, touch_from _ _ _, .inl ⟨rfl, (touch_all (hw.ex_ok a (List.mem_of_getElem? ha)) _ _).1⟩⟩
      · exact ⟨e', h', rfl, rfl, .inr ⟨hne, rfl⟩⟩
    refine ⟨h.npos, ?_, ?_, ?_, ?_⟩
    · intro k log i hl hi; rw [hstore] at hl; exact shape_appendLog h s.id _ k log i hl hi
    · intro j e' hj
      obtain ⟨e, hej, hs1, _⟩ := hget j e' hj
      rw [hs1]; exact h.ex_lt j e hej
    · intro j e' hj
      rw [hstore]
      obtain ⟨e, hej, hs1, hf1, hcase⟩ := hget j e' hj
      have hmono := segFrom_mono (getD_appendLog s.id e.stream (some ⟨msg, ctx⟩) c.store) _ _ _ (h.seg j e hej)
      rw [hs1, hf1]
      rcases hcase with ⟨rfl, hall⟩ | ⟨_, hall⟩ <;> rw [hall]
      · rw [hex₀] at hej; cases hej
        rw [segFrom_append]
        refine ⟨hmono, ?_⟩
        rw [hes]
        simp only [SegFrom, Out.isEv, if_true, and_true]
        exact ⟨some ⟨msg, ctx⟩, by rw [appendLog_same, ← hnext, ← hlen]; simp, by simp [evOf, hnext]⟩
      · exact hmono
    · intro x hx j e' hxa hxo hxj hj
      rw [hstore]
      rw [hstreams] at hx
      obtain ⟨e, hej, _, hf1, hcase⟩ := hget j e' hj
      -- the written stream itself, or another one
      have hx' : (wDone s msg = false ∧ x = { s with requests := wReqs s msg, next := s.next + 1, opn := !wDone s msg }) ∨
          (x ∈ c.streams ∧ x.id ≠ s.id) := by
        split at hx
        · rw [mem_delStream] at hx; exact Or.inr hx
        · rename_i hnd
          rcases mem_setStream hx with rfl | hx
          · exact Or.inl ⟨by simpa using hnd, rfl⟩
          · exact Or.inr hx
      rcases hx' with ⟨_, rfl⟩ | ⟨hxl, hne⟩
      · simp only at hxa ⊢
        rw [hat] at hxa; cases hxa
        rw [hex₀] at hej; cases hej
        rcases hcase with ⟨_, hall⟩ | ⟨hne, _⟩
        · rw [hf1, hall, idCount_append, appendLog_same]
          simp [idCount, Out.isEv]
          omega
        · exact absurd rfl hne
      · rw [appendLog_other _ _ _ _ hne]
        obtain ⟨hnx, hln⟩ := h.aligned x hxl j e hxa hxo hxj hej
        rcases hcase with ⟨rfl, _⟩ | ⟨_, hall⟩
        · exact absurd (hw.att_inj x hxl s hmem j hxa hat) hne
        · rw [hf1, hall]; exact ⟨hnx, hln⟩
  · -- nobody is listening on an SSE body: the message goes to the log (and at most a JSON body is flushed)
    obtain ⟨hsame, hlen, hstr⟩ := deliver_idle c.exs hw.ex_ok s ⟨msg, ctx⟩ (some (s.id, s.next)) (wReqs s msg) (wDone s msg) hlive
    have h2 : Inv08 ({ c with store := appendLog s.id (some ⟨msg, ctx⟩) c.store } : Conn α) :=
      inv08_append h s.id ⟨msg, ctx⟩ (fun x hx hid => stream_unique hw hx hmem hid ▸ hlive) rfl rfl rfl rfl
    have hw2 : Inv ({ c with store := appendLog s.id (some ⟨msg, ctx⟩) c.store } : Conn α) :=
      inv_appendLog hw _ (hw.sid_lt s hmem) (fun _ => Or.inr rfl) rfl rfl rfl rfl
    have hexs : (writeTo c s msg ctx false).1.exs = (deliver c.exs s ⟨msg, ctx⟩ (some (s.id, s.next)) (wReqs s msg) (wDone s msg)).1 := by
      simp [writeTo, wDeliver, huse]
    refine inv08_frame hw2 h2 hstore (Nat.le_refl _) (hexs ▸ hsame) ?_ (by rw [hexs]; exact hlen)
    rw [hstreams]
    split
    · exact strSame_del _ _
    · exact strSame_set hmem hstr

theorem inv08_postPrimed {c : Conn α} (hw : Inv c) (h : Inv08 c) (calls : List Nat) (listen : Bool) (ver : Ver)
    (budget : Option Nat) (hst : c.cfg.hasStore = true) (hv : ver.isNew = false) :
    Inv08 (postPrimed c calls listen ver budget) := by
  obtain ⟨fs, fst, fn, _, _, _, _, _, _⟩ := postPrimed_frame c calls listen ver budget
  have hsame := postStore_same c listen ver (store_fresh hw) (by simp [opens, hst, hv])
  have hall : (postEx c listen ver budget).all = if primed c listen ver then [.prime c.nextSid 0] else [] :=
    (pushes_all (fun hl => absurd rfl hl) _).1
  have hes : (postEx c listen ver budget).stream = c.nextSid := by simp [postEx]
  have hef : (postEx c listen ver budget).from = 0 := by simp [postEx]
  refine inv08_newEx hw h (by rw [fn]; omega) (fun k hk => by rw [fst, postStore_other _ _ _ _ (Nat.ne_of_lt hk)]) ?_
    (by rw [postPrimed_eq]) (by rw [fn, hes]; omega) ?_ ?_
  · intro sid log i hl hi
    rw [fst] at hl
    by_cases hk : sid = c.nextSid
    · subst hk
      rw [hsame] at hl; cases hl
      split at hi
      · by_cases h0 : i = 0
        · exact ⟨h0, Nat.ne_of_gt h.npos⟩
        · rw [List.getElem?_eq_none (by simp; omega)] at hi; cases hi
      · simp at hi
    · rw [postStore_other _ _ _ _ hk] at hl; exact h.shape sid log i hl hi
  · rw [fst, hes, hef, hall, hsame]
    split
    · simp only [SegFrom, Out.isEv, if_true, and_true]
      exact ⟨none, by simp, rfl⟩
    · trivial
  · intro x hx hop hj ex hat
    rw [fs] at hx
    rcases List.mem_append.mp hx with hold | hnew
    · exact Or.inl ⟨hold, att_lt hw hold hat⟩
    · obtain rfl := List.mem_singleton.mp hnew
      simp only [newStream] at hat; cases hat
      refine Or.inr ⟨rfl, ?_⟩
      simp only [newStream]
      rw [fst, hef, hall, hsame]
      split <;> simp [idCount, Out.isEv]

theorem inv08_postDup {c : Conn α} (hw : Inv c) (h : Inv08 c) (ver : Ver) (hst : c.cfg.hasStore = true) (hv : ver.isNew = false) :
    Inv08 (postDup c ver) := by
  unfold postDup
  have hopens : opens c ver = true := by simp [opens, hst, hv]
  have hnone := store_fresh hw
  have hw1 := inv_drawId hw ver
  have h1 : Inv08 ({ c with store := if opens c ver then openLog c.nextSid c.store else c.store, nextSid := c.nextSid + 1 } : Conn α) := by
    simp only [hopens, if_true]
    have hget : ∀ k, (openLog c.nextSid c.store k).getD [] = (c.store k).getD [] := fun k => openLog_getD _ k c.store
    refine ⟨by simp, ?_, ?_, ?_, ?_⟩
    · intro sid log i hl hi
      simp only at hl
      by_cases hk : sid = c.nextSid
      · subst hk; simp [hnone] at hl; subst hl; simp at hi
      · rw [openLog_other _ _ _ hk] at hl; exact h.shape sid log i hl hi
    · intro j e he; exact Nat.lt_succ_of_lt (h.ex_lt j e he)
    · intro j e he; simp only; rw [hget]; exact h.seg j e he
    · intro s' hs' ex e hat hop hj hex; simp only; rw [hget]; exact h.aligned s' hs' ex e hat hop hj hex
  exact inv08_statusEx hw1 h1 _ _ (by simp)

theorem segFrom_resumed (log : List (Option (Item α))) (sid frm : Nat) (hnn : ∀ i, frm ≤ i → log[i]? ≠ some none)
    {pre : List (Out α)} (hpre : NoEv pre) (n : Nat) :
    SegFrom log sid frm (pre ++ replayed sid frm ((toReplay log frm).take n)) := by
  rw [segFrom_append, idCount_noEv hpre]
  refine ⟨segFrom_noEv _ _ _ hpre, segFrom_replayed log sid _ _ (fun i it hi => ?_)⟩
  rw [List.getElem?_take] at hi
  split at hi
  · exact toReplay_get log frm hnn i it hi
  · cases hi

theorem getGo_newEx {c : Conn α} (hw : Inv c) (sid frm : Nat) (ver : Ver) (budget : Option Nat) (items : List (Item α)) :
    ∃ e pre n, (getGo c sid frm ver budget items).exs = c.exs ++ [e] ∧ e.stream = sid ∧ e.from = frm ∧ NoEv pre ∧
      e.all = pre ++ replayed sid frm (items.take n) ∧
      (∀ s ∈ (getGo c sid frm ver budget items).streams, s.attached = some c.exs.length → n = items.length) ∧
      (budget = none → n = items.length ∧ e.lost = []) := by
  obtain ⟨n, e₁, htab, he₁, hall, hcnt⟩ := getGo_table c sid frm ver budget items
  have h0 : ExOK ({ kind := .sse, budget := budget, stream := sid, «from» := frm } : Exch α) := fun hl => absurd rfl hl
  have h1 := pushes_all h0 (if sid = 0 then [Out.comment] else [])
  have hall₁ : e₁.all = (if sid = 0 then [Out.comment] else []) ++ replayed sid frm (items.take n) := by
    have h2 := (pushes_all h1.2 (replayed sid frm (items.take n))).1
    rw [h1.1] at h2
    rcases he₁ with rfl | rfl <;> exact h2
  refine ⟨e₁, _, n, htab,
    by rcases he₁ with rfl | rfl <;> simp [getEx], by rcases he₁ with rfl | rfl <;> simp [getEx], ?_, hall₁, ?_, ?_⟩
  · intro o ho; split at ho <;> simp at ho; subst ho; rfl
  · intro s hs hat
    rcases getGo_streams c sid frm ver budget items with h | ⟨_, _, hok, _⟩
    · rw [h] at hs; exact absurd (att_lt hw hs hat) (Nat.lt_irrefl _)
    · exact hall hok
  · intro hb
    obtain ⟨_, hl0⟩ := pushes_healthy ({ kind := .sse, budget := budget, stream := sid, «from» := frm } : Exch α)
      (if sid = 0 then [Out.comment] else []) hb rfl
    have hl₁ : e₁.lost = [] := by
      have := (pushes_healthy (getEx sid frm budget) (replayed sid frm (items.take n))
        (pushes_healthy _ _ hb rfl).1 hl0).2
      rcases he₁ with rfl | rfl <;> exact this
    exact ⟨hcnt (by rw [hl₁]; exact congrArg idCount hl0.symm), hl₁⟩

theorem inv08_getGo {c : Conn α} (hw : Inv c) (h : Inv08 c) (sid frm : Nat) (ver : Ver) (budget : Option Nat)
    (log : List (Option (Item α))) (hlog : c.store sid = some log) (hfrom : frm ≤ log.length)
    (hnn : ∀ i, frm ≤ i → log[i]? ≠ some none) : Inv08 (getGo c sid frm ver budget (toReplay log frm)) := by
  obtain ⟨e, pre, n, hexs, hes, hef, hpre, hall, hn, _⟩ := getGo_newEx hw sid frm ver budget (toReplay log frm)
  have heq := getGo_only_exs_streams c sid frm ver budget (toReplay log frm)
  have hst : (getGo c sid frm ver budget (toReplay log frm)).store = c.store := by rw [heq]
  refine inv08_newEx hw h (by rw [heq]; exact Nat.le_refl _) (fun k _ => by rw [hst]) (by rw [hst]; exact h.shape) hexs
    (by rw [heq, hes]; exact hw.store_lt sid (by rw [hlog]; rfl))
    (by rw [hst, hes, hef, hlog, hall]; exact segFrom_resumed log sid frm hnn hpre n) ?_
  intro x hx hop hj ex hat
  -- an old stream on an old exchange, or the resumed stream, attached to the new exchange after a complete replay
  rcases getGo_rows c sid frm ver budget (toReplay log frm) x hx with h' | ⟨_, _, _, rfl⟩ | ⟨s, rel, hs, rfl⟩
  · exact Or.inl ⟨h', att_lt hw h' hat⟩
  · cases hop
  · cases rel
    · cases hat
      refine Or.inr ⟨rfl, ?_⟩
      rw [hst, hef, hall, idCount_append, idCount_noEv hpre, idCount_replayed, hn _ hx rfl, List.take_length,
        (findStream_some hs).2, hlog, toReplay_length log frm hnn]
      simp only [Option.getD_some]
      omega
    · cases hop

theorem inv08_get {c : Conn α} (hw : Inv c) (h : Inv08 c) (hdr : Hdr) (ver : Ver) (budget : Option Nat)
    (hst : c.cfg.hasStore = true) (hsc : InScope c (.get hdr ver budget)) {items : List (Item α)}
    (hitems : replayItems c hdr.sid hdr.from = some items) :
    Inv08 (getGo c hdr.sid hdr.from ver budget items) := by
  obtain ⟨_, log, hlog, _, rfl⟩ := replayItems_some hst hitems
  -- without a header the whole log of the standalone stream is replayed: it holds no priming entry
  have h0 : hdr.sid = 0 → ∀ i, log[i]? ≠ some none := fun hs i hi => (h.shape _ log i hlog hi).2 hs
  have hfn : hdr.from ≤ log.length ∧ ∀ i, hdr.from ≤ i → log[i]? ≠ some none := by
    cases hdr with
    | none => exact ⟨by simp [Hdr.from], fun i _ => h0 rfl i⟩
    | bad => exact ⟨by simp [Hdr.from], fun i _ => h0 rfl i⟩
    | ok sid idx =>
      have := hsc log hlog
      refine ⟨by simp [Hdr.from]; omega, ?_⟩
      intro i hi hn
      have := (h.shape sid log i hlog hn).1
      simp [Hdr.from] at hi; omega
  exact inv08_getGo hw h _ _ _ _ log hlog hfn.1 hfn.2

/-- pending writes in the scope of C08: issued with a context before 2026-07-28 -/
def PendScope (c : Conn α) : Prop := ∀ pw ∈ c.pendW, pw.ctxNew = false

theorem pendScope_init (cfg : Cfg) : PendScope (init cfg : Conn α) := fun pw h => by cases h

theorem pendScope_step {c : Conn α} (h : PendScope c) (l : Label α) (hsc : InScope c l) : PendScope (step c l) := by
  intro pw hp
  rcases step_pendW c l pw hp with h0 | ⟨msg, ctx, ctxNew, s, rfl, _, rfl⟩
  · exact h pw h0
  · exact hsc

theorem inv08_orphan {c : Conn α} (hw : Inv c) (h : Inv08 c) (pw : PendW α) (hnone : findStream pw.sid c.streams = none)
    (hu : wUse c pw.ctxNew = true) : Inv08 (orphanWrite c pw).1 := by
  refine inv08_append (c' := (orphanWrite c pw).1) h pw.sid ⟨pw.msg, pw.ctx⟩ (fun s hs hid => ?_) (by simp [orphanWrite, hu]) rfl rfl rfl
  have := findStream_of_mem hw.nodup hs
  rw [hid, hnone] at this; cases this

theorem inv08_pendW {c : Conn α} (h : Inv08 c) (l : List (PendW α)) : Inv08 ({ c with pendW := l } : Conn α) :=
  ⟨h.npos, h.shape, h.ex_lt, h.seg, h.aligned⟩

theorem inv08_sub {c c₁ : Conn α} {l : Label α} (hw : Inv c) (h : Inv08 c) (hst : c.cfg.hasStore = true) (hsc : InScope c l)
    (hps : PendScope c) (hs : Sub c l c₁) : Inv08 c₁ := by
  cases hs with
  | same => exact h
  | status _ code => exact inv08_statusEx hw h _ _ h.npos
  | dup => exact inv08_postDup hw h _ hst hsc
  | register => exact inv08_postPrimed hw h _ _ _ _ hst hsc
  | cut ex => exact inv08_cut hw h ex
  | wfail ex =>
    exact inv08_frame (c' := wfail c ex) hw h rfl (Nat.le_refl _) (exSame_wfail _ _) (StrSame.refl _) (by simp [wfail])
  | getGo hdr ver budget items hitems => exact inv08_get hw h _ _ _ hst hsc hitems
  | closeEv _ _ s ex =>
    exact inv08_frame (c' := (emit c ex .close).1) hw h rfl (Nat.le_refl _)
      (by simp only [emit, emitX_fst]; exact exSame_touch hw.ex_ok ex (fun o ho => by rw [List.mem_singleton.mp ho]; rfl) false)
      (StrSame.refl _) (by simp [emit])
  | done => exact ⟨h.npos, h.shape, h.ex_lt, h.seg, h.aligned⟩
  | evict => exact ⟨h.npos, h.shape, h.ex_lt, h.seg, h.aligned⟩
  | erase _ msg => exact inv08_eraseResp hw h msg
  | write msg ctx ctxNew s hr =>
    have hn : ctxNew = false := hsc
    subst hn
    exact inv08_writeTo (inv_eraseResp hw msg) (inv08_eraseResp hw h msg) (by simp; exact route_mem hr) _ _ (by simp; exact hst)
  | route msg => exact inv08_pendW (inv08_eraseResp hw h msg) _
  | deliver i pw s hpw hs =>
    rw [hps pw (List.mem_of_getElem? hpw)]
    exact inv08_writeTo (inv_unpend hw i) (inv08_pendW h _) (findStream_some hs).1 _ _ hst
  | orphan i pw hpw hs =>
    exact inv08_orphan (inv_unpend hw i) (inv08_pendW h _) pw hs (by simp [wUse, hst, hps pw (List.mem_of_getElem? hpw)])

theorem inv08_tail {c c₁ : Conn α} (hw : Inv c) (h : Inv08 c) (ht : Tail c c₁) : Inv08 c₁ := by
  cases ht with
  | none => exact h
  | cut ex => exact inv08_cut hw h ex
  | close s ex =>
    exact inv08_frame hw h rfl (Nat.le_refl _) (ExSame.refl _) (strSame_set (s := s) ‹_› (fun ho => by cases ho)) rfl

theorem inv08_step {c : Conn α} (hw : Inv c) (h : Inv08 c) (hst : c.cfg.hasStore = true) (l : Label α)
    (hsc : InScope c l) (hps : PendScope c) : Inv08 (step c l) :=
  step_ind hw l (fun _ => inv08_sub hw h hst hsc hps) (fun _ _ => inv08_tail)

theorem inScopeRun_append {c : Conn α} {l₁ l₂ : List (Label α)} (h₁ : InScopeRun c l₁) (h₂ : InScopeRun (run c l₁) l₂) :
    InScopeRun c (l₁ ++ l₂) := by
  induction l₁ generalizing c with
  | nil => exact h₂
  | cons a t ih => exact ⟨h₁.1, ih h₁.2 (by simpa [run] using h₂)⟩

theorem run_ind_scope {P : Conn α → Prop} (hstep : ∀ c l, InScope c l → P c → P (step c l)) :
    ∀ (ls : List (Label α)) {c : Conn α}, P c → InScopeRun c ls → P (run c ls)
  | [], _, h, _ => h
  | l :: t, c, h, hsc => run_ind_scope hstep t (hstep c l hsc.1 h) hsc.2

theorem inv08_run (cfg : Cfg) (hst : cfg.hasStore = true) (ls : List (Label α)) (hsc : InScopeRun (init cfg) ls) :
    Inv08 (run (init cfg) ls) :=
  (run_ind_scope (P := fun c => Inv c ∧ Inv08 c ∧ PendScope c ∧ c.cfg.hasStore = true)
    (fun c l hl ⟨hw, h, hps, hs⟩ =>
      ⟨inv_step hw l, inv08_step hw h hs l hl hps, pendScope_step hps l hl, by rw [step_cfg]; exact hs⟩)
    ls ⟨inv_init cfg, inv08_init cfg, pendScope_init cfg, hst⟩ hsc).2.1

end Resume
