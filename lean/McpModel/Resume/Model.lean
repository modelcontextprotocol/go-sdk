/-
E5 — model of the streamable server connection (`mcp/streamable.go`: `streamableServerConn`, `stream`,
`servePOST`, `serveGET`/`acquireStream`, `Write`/`deliverLocked`, `CloseSSEStream`/`stream.close`,
`release`, `Close`).  Serves C08, C10 and C02 (the `requestStreams` registry; a `Write` whose `Append` fails).
Transliteration contract: DESIGN.md Appendix E.

One label = one atomic section of the Go code (a critical section under `c.mu`/`stream.mu`, or one
externally visible action).  A schedule is a list of labels; "for all schedules" = "for all label
lists".  Everything is total and executable; core Lean only (linked into the driver).

Representation choices (none is read by the modelled code paths in a way that changes behaviour):
* `Stream.next` is `lastIdx + 1` (a `Nat` instead of an `Int` starting at −1).
* stream ids are fresh names: the model uses a counter (`nextSid`; 0 is the standalone stream `""`).
  Harness and driver both rename ids (the real `crand.Text()` ones / the counter values) in order of
  first appearance in the observations, so the particular fresh name never matters.
* an exchange records what was written to its `ResponseWriter` (`out`), what was written while the
  writer fails (`lost`: reaches nobody) and how many more writes succeed (`budget`).
* `store` is the *abstract* event store of C20: per stream the full append log (`none` = the empty
  priming payload) — the ground truth; `purged` says how many entries of each log the store has evicted
  (label EVICT, at any time, any prefix); `After` from an evicted position fails (`ErrEventsPurged`) and the
  GET is answered 400 (C20 proves the in-memory store either replays exactly or reports the purge).
* ghost fields, never read by `step`: `Item.ctx`, `Exch.stream`, `Exch.from`, `Stream.calls`, `Conn.hist`, `Conn.born`.

How the labels cut the code:
* labels that open an exchange carry a write `budget` (WFAIL at a chosen point of the exchange, incl. "from the
  start" and "in the middle of a replay"); WRITE carries `ctxNew` (the write's context has version ≥ 2026-07-28:
  no store append, no event id — C08 is about contexts before that version);
* `Write`'s two critical sections are the two labels WROUTE (routing under `c.mu`) and WDELIVER (append+deliver
  under `s.mu`) with the write pending in `Conn.pendW` in between; the label WRITE is the two back to back
  (`write_is_route_then_deliver`).  `acquireStream`'s lookup and replay sections are ONE label (GET);
* SCLOSE only writes the `close` event and clears `opn`, END only sets `isDone`: the handler's return and the `release`
  that follow them are the separate CUT label (the driver issues it); a response that completes a stream ends the
  exchange in the WRITE label itself;
* the temporary "exclusive replay" entry of `acquireStream` does not persist in a state (GET is atomic);
* `select`s on `c.done` that race with a ready channel (`incoming` has room) are resolved as: POST without
  calls ⇒ 202; POST with calls / GET on a closed session ⇒ registered / attached, then released at once (GET: without
  a store; with one, `After` fails on a closed session: 400);
* the world label FANOUT (`WLabel.fanout`): a server-level notification issued from inside a handler; each subscribed
  session's copy is the per-connection label `fanCopy p` = WRITE(notif p, no context);
* not modelled: the SEP-2575 `overrideStatus` path (protocol-level JSON-RPC errors under 2026-07-28); `EventStore.Open`
  returning an error.  (The other store calls may fail: `After` — purged, unknown stream, closed session — in GET,
  `Append` beside the labels, in `writeFR`.)
-/
namespace Resume

/-- JSON-RPC request ids, logical stream ids and HTTP exchange ids are natural numbers (fresh names).
(Macros rather than `abbrev`s so that `omega` sees plain `Nat`.) -/
scoped macro "ReqId" : term => `(Nat)
scoped macro "SId" : term => `(Nat)
scoped macro "ExId" : term => `(Nat)

/-- A server→client JSON-RPC message; `p` is its opaque wire payload. -/
inductive Msg (α : Type) where
  | resp (id : ReqId) (p : α)
  | notif (p : α)
  | call (p : α)
deriving DecidableEq, Repr

def Msg.isCall {α} : Msg α → Bool
  | .call _ => true
  | _ => false

def Msg.respId {α} : Msg α → Option ReqId
  | .resp id _ => some id
  | _ => none

/-- What one `Write` carried: the message and the request id found in its context (ghost). -/
structure Item (α : Type) where
  msg : Msg α
  ctx : Option ReqId
deriving DecidableEq, Repr

/-- One `ResponseWriter.Write` of a stream body. -/
inductive Out (α : Type) where
  | comment                                             -- ": ok" (standalone stream; go-sdk issue #410)
  | prime (sid : SId) (idx : Nat)                       -- event: prime, id: <sid>_<idx>, no data
  | message (id : Option (SId × Nat)) (it : Item α)     -- event: message
  | close                                               -- event: close, retry: …
  | json (items : List (Item α))                        -- flushed application/json body
deriving DecidableEq, Repr

inductive Kind where
  | sse | json | status (code : Nat)
deriving DecidableEq, Repr

structure Exch (α : Type) where
  kind   : Kind
  out    : List (Out α) := []
  lost   : List (Out α) := []
  budget : Option Nat := none       -- `some n`: n more writes succeed, then the writer fails
  ended  : Bool := false            -- the HTTP handler returned
  stream : SId := 0                 -- ghost: logical stream this exchange serves
  «from» : Nat := 0                 -- ghost: first log index it is entitled to (resume index + 1)

/-- everything the server wrote to the exchange, delivered or not -/
def Exch.all {α} (e : Exch α) : List (Out α) := e.out ++ e.lost

/-- protocol version classes that matter here (the driver maps the harness' version tokens to them) -/
inductive Ver where
  | v0326 | v0618 | v1125 | v0728
deriving DecidableEq, Repr

def Ver.ge1125 : Ver → Bool
  | .v1125 | .v0728 => true
  | _ => false

def Ver.isNew : Ver → Bool
  | .v0728 => true
  | _ => false

structure Stream (α : Type) where
  id       : SId
  attached : Option ExId            -- `w ≠ nil`
  opn      : Bool                   -- `done ≠ nil`
  next     : Nat                    -- `lastIdx + 1`
  requests : List ReqId             -- unanswered requests
  json     : Option (List (Item α)) -- `pendingJSONMessages` (non-nil ⇒ JSON stream)
  listen   : Bool
  v1125    : Bool                   -- `protocolVersion ≥ 2025-11-25` (close event supported)
  calls    : List ReqId := []       -- ghost: requests at creation
deriving Repr

structure Cfg where
  stateless    : Bool
  jsonResponse : Bool
  hasStore     : Bool
  noSession    : Bool               -- `sessionID == ""`
deriving DecidableEq, Repr

/-- a `Write` between its two critical sections: routed (under `c.mu`), not yet appended / delivered (under the
stream's `mu`).  `sid` names the stream *object* the routing section picked. -/
structure PendW (α : Type) where
  msg    : Msg α
  ctx    : Option ReqId
  ctxNew : Bool
  sid    : SId

structure Conn (α : Type) where
  cfg        : Cfg
  streams    : List (Stream α)                        -- `c.streams` (at most one entry per id)
  reqStreams : ReqId → Option SId                     -- `c.requestStreams`
  isDone     : Bool
  store      : SId → Option (List (Option (Item α)))  -- abstract event store: the append log per stream
  exs        : List (Exch α)                          -- HTTP exchanges, index = ExId
  nextSid    : SId
  hist       : SId → Option (List ReqId × Bool)       -- ghost: (calls, listen) of every registered stream
  born       : SId → Option ExId := fun _ => none     -- ghost: the POST exchange that registered the stream
  purged     : SId → Nat := fun _ => 0                -- event store: entries evicted from the front of each log (`dataList.first`)
  pendW      : List (PendW α) := []                   -- writes between their routing and their delivery section

/-- `Connect`: the standalone stream exists from the start and is opened in the store. -/
def init {α} (cfg : Cfg) : Conn α :=
  { cfg, streams := [{ id := 0, attached := none, opn := false, next := 0, requests := [], json := none,
                       listen := false, v1125 := false }],
    reqStreams := fun _ => none, isDone := false,
    store := fun sid => if cfg.hasStore && sid == 0 then some [] else none, exs := [],
    nextSid := 1, hist := fun sid => if sid == 0 then some ([], false) else none }

inductive Hdr where
  | none | bad | ok (sid : SId) (idx : Nat)
deriving DecidableEq, Repr

inductive Label (α : Type) where
  | post (calls : List ReqId) (listen : Bool) (ver : Ver) (budget : Option Nat)
  | write (msg : Msg α) (ctx : Option ReqId) (ctxNew : Bool)
  | cut (ex : ExId)
  | wfail (ex : ExId)
  | get (hdr : Hdr) (ver : Ver) (budget : Option Nat)
  | sclose (req : ReqId) (retry : Bool)
  | «end»
  | evict (sid : SId) (n : Nat)      -- the event store drops the entries before index `n` of a stream's log (`MemoryEventStore.purge`)
  | wroute (msg : Msg α) (ctx : Option ReqId) (ctxNew : Bool)   -- `Write`, first critical section (`c.mu`): routing
  | wdeliver (i : Nat)               -- `Write`, second critical section (the stream's `mu`) of the `i`-th pending write
deriving Repr

section
variable {α : Type}

def Label.opens : Label α → Bool
  | .post .. => true
  | .get .. => true
  | _ => false

end

/-- what `Write` returned; `na`: no `Write`, or one that is only routed so far -/
inductive Res where
  | na | ok | rejected | broken
deriving DecidableEq, Repr

def findStream {α} (sid : SId) (l : List (Stream α)) : Option (Stream α) := l.find? (fun s => s.id == sid)

/-- `c.streams[s'.id] = s'` -/
def setStream {α} (s' : Stream α) (l : List (Stream α)) : List (Stream α) :=
  l.map (fun s => if s.id = s'.id then s' else s)

/-- `delete(c.streams, sid)` -/
def delStream {α} (sid : SId) (l : List (Stream α)) : List (Stream α) := l.filter (fun s => s.id != sid)

def findListen {α} (l : List (Stream α)) : Option (Stream α) := l.find? (·.listen)

abbrev Store (α : Type) := SId → Option (List (Option (Item α)))

/-- `EventStore.Open` -/
def openLog {α} (sid : SId) (st : Store α) : Store α :=
  fun k => if k = sid then some ((st sid).getD []) else st k

/-- `EventStore.Append` (creates the stream if it does not exist, as `MemoryEventStore.init` does) -/
def appendLog {α} (sid : SId) (x : Option (Item α)) (st : Store α) : Store α :=
  fun k => if k = sid then some ((st sid).getD [] ++ [x]) else st k

def setEx {α} (ex : ExId) (f : Exch α → Exch α) (l : List (Exch α)) : List (Exch α) := l.modify ex f

/-- One `w.Write` of `o` on an exchange: delivered unless the writer fails. Returns whether it succeeded. -/
def Exch.push {α} (e : Exch α) (o : Out α) : Exch α × Bool :=
  match e.budget with
  | some 0 => ({ e with lost := e.lost ++ [o] }, false)
  | some (b + 1) => ({ e with out := e.out ++ [o], budget := some b }, true)
  | none => ({ e with out := e.out ++ [o] }, true)

def emitX {α} (exs : List (Exch α)) (ex : ExId) (o : Out α) : List (Exch α) × Bool :=
  match exs[ex]? with
  | none => (exs, false)
  | some e => (setEx ex (fun e => (e.push o).1) exs, (e.push o).2)

def finishX {α} (exs : List (Exch α)) (ex : ExId) : List (Exch α) :=
  setEx ex (fun e => { e with ended := true }) exs

def emit {α} (c : Conn α) (ex : ExId) (o : Out α) : Conn α × Bool :=
  ({ c with exs := (emitX c.exs ex o).1 }, (emitX c.exs ex o).2)

/-- the HTTP handler of `ex` returns -/
def finish {α} (c : Conn α) (ex : ExId) : Conn α := { c with exs := finishX c.exs ex }

def dedup : List ReqId → List ReqId
  | [] => []
  | r :: t => if r ∈ t then dedup t else r :: dedup t

/-! ### CUT (`release` after the request context ended / the handler returned) and WFAIL -/

def release {α} (ex : ExId) (l : List (Stream α)) : List (Stream α) :=
  l.map (fun s => if s.attached = some ex then { s with attached := none, opn := false } else s)

def cut {α} (c : Conn α) (ex : ExId) : Conn α :=
  finish { c with streams := release ex c.streams } ex

def wfail {α} (c : Conn α) (ex : ExId) : Conn α :=
  { c with exs := setEx ex (fun e => { e with budget := some 0 }) c.exs }

/-! ### POST (`servePOST`) -/

/-- an exchange answered with a bare status (202, 400, 409) -/
def statusEx {α} (c : Conn α) (code : Nat) (sid : SId := 0) : Conn α :=
  { c with exs := c.exs ++ [{ kind := .status code, ended := true, stream := sid }] }

/-- does `newStream` call `EventStore.Open`? -/
def opens {α} (c : Conn α) (ver : Ver) : Bool := c.cfg.hasStore && !ver.isNew

def useSSE {α} (c : Conn α) (listen : Bool) : Bool := !c.cfg.jsonResponse || listen

/-- is a priming event written (and stored)? SSE ∧ store ∧ 2025-11-25 ≤ version < 2026-07-28 -/
def primed {α} (c : Conn α) (listen : Bool) (ver : Ver) : Bool :=
  useSSE c listen && c.cfg.hasStore && ver.ge1125 && !ver.isNew

/-- the store after `newStream` (Open) and the priming `Append` -/
def postStore {α} (c : Conn α) (listen : Bool) (ver : Ver) : Store α :=
  let st1 := if opens c ver then openLog c.nextSid c.store else c.store
  if primed c listen ver then appendLog c.nextSid none st1 else st1

/-- duplicate in-flight id: 400, nothing registered (the drawn stream id stays visible only through Open) -/
def postDup {α} (c : Conn α) (ver : Ver) : Conn α :=
  statusEx { c with store := if opens c ver then openLog c.nextSid c.store else c.store, nextSid := c.nextSid + 1 } 400 c.nextSid

/-- the stream registered for the calls of a POST -/
def newStream {α} (c : Conn α) (calls : List ReqId) (listen : Bool) (ver : Ver) : Stream α :=
  { id := c.nextSid, attached := some c.exs.length, opn := true, next := if primed c listen ver then 1 else 0,
    requests := calls, json := if useSSE c listen then none else some [], listen := listen,
    v1125 := ver.ge1125, calls := calls }

/-- registration (one `c.mu` section): `streams[s] = stream`, `requestStreams[id] = s` -/
def register {α} (c : Conn α) (calls : List ReqId) (listen : Bool) (ver : Ver) (budget : Option Nat) : Conn α :=
  { c with nextSid := c.nextSid + 1, streams := c.streams ++ [newStream c calls listen ver],
           reqStreams := fun r => if r ∈ calls then some c.nextSid else c.reqStreams r,
           exs := c.exs ++ [{ kind := if useSSE c listen then .sse else .json, budget := budget, stream := c.nextSid, «from» := 0 }],
           hist := fun k => if k = c.nextSid then some (calls, listen) else c.hist k,
           born := fun k => if k = c.nextSid then some c.exs.length else c.born k,
           store := postStore c listen ver }

def postNew {α} (c : Conn α) (calls : List ReqId) (listen : Bool) (ver : Ver) (budget : Option Nat) : Conn α :=
  let c2 := register c calls listen ver budget
  let c3 := if primed c listen ver then (emit c2 c.exs.length (.prime c.nextSid 0)).1 else c2
  -- publish, then `hangResponse`: on a closed session (`c.done` closed) the handler returns at once
  if c.isDone then cut c3 c.exs.length else c3

def post {α} (c : Conn α) (calls : List ReqId) (listen : Bool) (ver : Ver) (budget : Option Nat) : Conn α :=
  if dedup calls = [] then statusEx c 202                      -- no calls: publish, 202 (`calls` is a Go map: `dedup`)
  else if (dedup calls).any (fun r => (c.reqStreams r).isSome) then postDup c ver
  else postNew c (dedup calls) listen ver budget

/-! ### WRITE (`streamableServerConn.Write` + `deliverLocked`) -/

def related {α} (c : Conn α) (msg : Msg α) (ctx : Option ReqId) : Option ReqId :=
  match msg with
  | .resp id _ => some id
  | _ => if c.cfg.jsonResponse then none else ctx

/-- the write-side routing decision (first critical section, under `c.mu`) -/
def route {α} (c : Conn α) (msg : Msg α) (ctx : Option ReqId) : Option (Stream α) :=
  match related c msg ctx with
  | some r =>
    match c.reqStreams r with
    | some sid => findStream sid c.streams
    | none => none
  | none =>
    match findListen c.streams with
    | some s => some s
    | none => findStream 0 c.streams

def eraseAll (r : ReqId) : List ReqId → List ReqId
  | [] => []
  | x :: t => if x = r then eraseAll r t else x :: eraseAll r t

/-- `deliverLocked` on stream `s` whose outstanding requests become `reqs` (`done` = none left and not the
standalone stream).  Returns the exchange table, the updated stream and whether a write reached the
response without error (buffering a JSON message counts as delivered). -/
def deliver {α} (exs : List (Exch α)) (s : Stream α) (it : Item α) (evid : Option (SId × Nat))
    (reqs : List ReqId) (done : Bool) : List (Exch α) × Stream α × Bool :=
  match s.attached, s.opn with
  | some ex, true =>
    match s.json with
    | some pend =>
      if done then
        ((finishX (emitX exs ex (.json (pend ++ [it]))).1 ex),
         { s with requests := reqs, json := some (pend ++ [it]), opn := false }, (emitX exs ex (.json (pend ++ [it]))).2)
      else (exs, { s with requests := reqs, json := some (pend ++ [it]) }, true)
    | none =>
      (if done then finishX (emitX exs ex (.message evid it)).1 ex else (emitX exs ex (.message evid it)).1,
       { s with requests := reqs, next := s.next + 1, opn := !done }, (emitX exs ex (.message evid it)).2)
  | _, _ => (exs, { s with requests := reqs }, false)      -- "stream not connected or already closed"

/-- `delete(c.requestStreams, responseTo)` -/
def eraseResp {α} (c : Conn α) (msg : Msg α) : Conn α :=
  match msg with
  | .resp id _ => { c with reqStreams := fun r => if r = id then none else c.reqStreams r }
  | _ => c

/-- is the message appended to the event store (and given an event id)? (store configured ∧ context version < 2026-07-28) -/
def wUse {α} (c : Conn α) (ctxNew : Bool) : Bool := c.cfg.hasStore && !ctxNew

def wReqs {α} (s : Stream α) (msg : Msg α) : List ReqId :=
  match msg with
  | .resp id _ => eraseAll id s.requests
  | _ => s.requests

def wDone {α} (s : Stream α) (msg : Msg α) : Bool := (wReqs s msg).isEmpty && s.id != 0

def wDeliver {α} (c : Conn α) (s : Stream α) (msg : Msg α) (ctx : Option ReqId) (ctxNew : Bool) :
    List (Exch α) × Stream α × Bool :=
  deliver c.exs s ⟨msg, ctx⟩ (if wUse c ctxNew then some (s.id, s.next) else none) (wReqs s msg) (wDone s msg)

/-- second critical section, under `s.mu`: append to the store, then deliver; a finished stream is deleted -/
def writeTo {α} (c : Conn α) (s : Stream α) (msg : Msg α) (ctx : Option ReqId) (ctxNew : Bool) : Conn α × Res :=
  ({ c with store := if wUse c ctxNew then appendLog s.id (some ⟨msg, ctx⟩) c.store else c.store,
            exs := (wDeliver c s msg ctx ctxNew).1,
            streams := if wDone s msg then delStream s.id c.streams else setStream (wDeliver c s msg ctx ctxNew).2.1 c.streams },
   if wUse c ctxNew || (wDeliver c s msg ctx ctxNew).2.2 then .ok else .rejected)

/-- WRITE, both sections back to back (`…R`: with the `Res` of the `Write`, which `step` forgets) -/
def writeR {α} (c : Conn α) (msg : Msg α) (ctx : Option ReqId) (ctxNew : Bool) : Conn α × Res :=
  if msg.isCall && (c.cfg.stateless || c.cfg.noSession) then (c, .rejected) else
  match route c msg ctx with
  | none => (eraseResp c msg, .rejected)                       -- "write to closed stream"
  | some s =>
    if c.isDone then (eraseResp c msg, .broken)                -- "session is closed"
    else writeTo (eraseResp c msg) s msg ctx ctxNew

/-! ### APPENDFAIL: a WRITE whose `EventStore.Append` fails

`Write` only remembers the error (`errs = append(errs, err)`): nothing is appended, the event id is still computed from
`lastIdx + 1` (it depends on `c.eventStore != nil`, not on the outcome of `Append`), `deliverLocked` runs as for any other
write — a response is removed from `requests`, the stream completes with its last response, `lastIdx` advances — and the
write fails (rejected) only if the message could not be delivered either.  Not a `Label` (the proofs about label lists
are about a store that meets its contract); the extended step relation is `McpModel.Resume.AppendFail`. -/

/-- second critical section of a write whose `Append` fails -/
def writeToF {α} (c : Conn α) (s : Stream α) (msg : Msg α) (ctx : Option ReqId) (ctxNew : Bool) : Conn α × Res :=
  ({ c with exs := (wDeliver c s msg ctx ctxNew).1,
            streams := if wDone s msg then delStream s.id c.streams else setStream (wDeliver c s msg ctx ctxNew).2.1 c.streams },
   if (wDeliver c s msg ctx ctxNew).2.2 then .ok else .rejected)

/-- `Write` with a failing `Append` (when no `Append` is attempted — no store, a ≥ 2026-07-28 context — this is `writeR`) -/
def writeFR {α} (c : Conn α) (msg : Msg α) (ctx : Option ReqId) (ctxNew : Bool) : Conn α × Res :=
  if !wUse c ctxNew then writeR c msg ctx ctxNew else
  if msg.isCall && (c.cfg.stateless || c.cfg.noSession) then (c, .rejected) else
  match route c msg ctx with
  | none => (eraseResp c msg, .rejected)
  | some s =>
    if c.isDone then (eraseResp c msg, .broken)
    else writeToF (eraseResp c msg) s msg ctx ctxNew

/-! ### WRITE in two steps: WROUTE (under `c.mu`) and WDELIVER (under the stream's `mu`)

Between the two sections anything may happen: the stream may be detached, re-attached by a resume, closed, even
completed and deleted by another write; the session may be closed.  The delivery section works on the stream
object the routing section picked (`PendW.sid`); if that object is no longer registered its `done` channel is gone,
so nothing is delivered, but the message is still appended to the store. -/

/-- first critical section: routing decision, `delete(c.requestStreams, responseTo)`, `sessionClosed := c.isDone` -/
def wrouteR {α} (c : Conn α) (msg : Msg α) (ctx : Option ReqId) (ctxNew : Bool) : Conn α × Res :=
  if msg.isCall && (c.cfg.stateless || c.cfg.noSession) then (c, .rejected) else
  match route c msg ctx with
  | none => (eraseResp c msg, .rejected)
  | some s =>
    if c.isDone then (eraseResp c msg, .broken)
    else ({ eraseResp c msg with pendW := c.pendW ++ [⟨msg, ctx, ctxNew, s.id⟩] }, .na)

/-- the delivery section on a stream object that was completed and deleted meanwhile: store only -/
def orphanWrite {α} (c : Conn α) (pw : PendW α) : Conn α × Res :=
  ({ c with store := if wUse c pw.ctxNew then appendLog pw.sid (some ⟨pw.msg, pw.ctx⟩) c.store else c.store },
   if wUse c pw.ctxNew then .ok else .rejected)

/-- second critical section of the `i`-th pending write -/
def wdeliverR {α} (c : Conn α) (i : Nat) : Conn α × Res :=
  match c.pendW[i]? with
  | none => (c, .na)
  | some pw =>
    match findStream pw.sid c.streams with
    | some s => writeTo { c with pendW := c.pendW.eraseIdx i } s pw.msg pw.ctx pw.ctxNew
    | none => orphanWrite { c with pendW := c.pendW.eraseIdx i } pw

/-! ### GET (`serveGET` / `acquireStream`) -/

def Hdr.sid : Hdr → SId
  | .ok sid _ => sid
  | _ => 0

/-- first index to replay: Last-Event-ID index + 1, or 0 without the header -/
def Hdr.from : Hdr → Nat
  | .ok _ idx => idx + 1
  | _ => 0

def Hdr.has : Hdr → Bool
  | .ok _ _ => true
  | _ => false

/-- the stored payloads after index `from − 1`, empty ones skipped (as `acquireStream` does) -/
def toReplay {α} (log : List (Option (Item α))) («from» : Nat) : List (Item α) :=
  (log.drop «from»).filterMap id

/-- `EventStore.After`; `none` = it failed: unknown stream, `SessionClosed` removed the session, or the entries
right after the resume point were evicted (`ErrEventsPurged`: `index + 1 < dataList.first`) -/
def replayItems {α} (c : Conn α) (sid : SId) («from» : Nat) : Option (List (Item α)) :=
  if c.cfg.hasStore then
    if c.isDone then none else
    match c.store sid with
    | none => none
    | some log => if «from» < c.purged sid then none else some (toReplay log «from»)
  else some []

/-- replay loop: ids are `from, from+1, …` counted over the replayed items; stops at the first failed write -/
def replayLoop {α} (c : Conn α) (ex : ExId) (sid : SId) : Nat → List (Item α) → Conn α × Bool
  | _, [] => (c, true)
  | k, it :: rest =>
    if (emit c ex (.message (some (sid, k)) it)).2 then replayLoop (emit c ex (.message (some (sid, k)) it)).1 ex sid (k + 1) rest
    else ((emit c ex (.message (some (sid, k)) it)).1, false)

/-- the new exchange of a GET; the standalone stream first gets the `: ok` comment -/
def getOpen {α} (c : Conn α) (sid : SId) («from» : Nat) (budget : Option Nat) : Conn α :=
  if sid = 0 then
    (emit { c with exs := c.exs ++ [{ kind := .sse, budget := budget, stream := sid, «from» := «from» }] } c.exs.length .comment).1
  else { c with exs := c.exs ++ [{ kind := .sse, budget := budget, stream := sid, «from» := «from» }] }

/-- set up delivery state: `s.w = w; s.done = make(…); s.lastIdx = lastIdx; s.protocolVersion = …` -/
def attach {α} (c : Conn α) (s : Stream α) (ex : ExId) (next : Nat) (ver : Ver) (closed : Bool) : Conn α :=
  if closed then   -- `hangResponse` returns at once on a closed session
    cut { c with streams := setStream { s with attached := some ex, opn := true, next := next, v1125 := ver.ge1125 } c.streams } ex
  else { c with streams := setStream { s with attached := some ex, opn := true, next := next, v1125 := ver.ge1125 } c.streams }

def getGo {α} (c : Conn α) (sid : SId) («from» : Nat) (ver : Ver) (budget : Option Nat) (items : List (Item α)) : Conn α :=
  if (replayLoop (getOpen c sid «from» budget) c.exs.length sid «from» items).2 then
    match findStream sid c.streams with
    | none => finish (replayLoop (getOpen c sid «from» budget) c.exs.length sid «from» items).1 c.exs.length   -- temporary (replay-only) stream
    | some s =>
      if s.requests.isEmpty && s.id != 0 then                                                                -- `doneLocked`
        finish (replayLoop (getOpen c sid «from» budget) c.exs.length sid «from» items).1 c.exs.length
      else attach (replayLoop (getOpen c sid «from» budget) c.exs.length sid «from» items).1 s c.exs.length
             («from» + items.length) ver c.isDone
  else finish (replayLoop (getOpen c sid «from» budget) c.exs.length sid «from» items).1 c.exs.length         -- a replay write failed

def get {α} (c : Conn α) (hdr : Hdr) (ver : Ver) (budget : Option Nat) : Conn α :=
  if hdr = .bad then statusEx c 400                                    -- malformed Last-Event-ID
  else if hdr.has && !c.cfg.hasStore then statusEx c 400               -- "stream replay unsupported"
  else match (findStream hdr.sid c.streams).bind (·.attached) with
    | some _ => statusEx c 409                                         -- claimed by another request
    | none =>
      match replayItems c hdr.sid hdr.from with
      | none => statusEx c 400                                         -- `After` failed
      | some items => getGo c hdr.sid hdr.from ver budget items

/-! ### EVICT (`MemoryEventStore.purge`, run by any `Append` / `SetMaxBytes` of the shared store) -/

/-- the store forgets the entries of `sid` before index `n` (it never forgets what is not there yet, and never
un-forgets).  `store` keeps the full append log: it is the ground truth the theorems speak about; what the
store can still replay is `log.drop (purged sid)`. -/
def evict {α} (c : Conn α) (sid : SId) (n : Nat) : Conn α :=
  { c with purged := fun k => if k = sid then max (c.purged k) (min n ((c.store k).getD []).length) else c.purged k }

/-! ### SCLOSE (`CloseSSEStream` → `stream.close`) and END (`Close`) -/

def sclose {α} (c : Conn α) (req : ReqId) (retry : Bool) : Conn α :=
  match c.reqStreams req with
  | none => c
  | some sid =>
    match findStream sid c.streams with
    | none => c
    | some s =>
      match s.attached, s.opn with
      | some ex, true =>
        let c1 := if s.v1125 && retry then (emit c ex .close).1 else c
        { c1 with streams := setStream { s with opn := false } c1.streams }
      | _, _ => c

def stepR {α} (c : Conn α) : Label α → Conn α × Res
  | .post calls listen ver budget => (post c calls listen ver budget, .na)
  | .write msg ctx ctxNew => writeR c msg ctx ctxNew
  | .cut ex => (cut c ex, .na)
  | .wfail ex => (wfail c ex, .na)
  | .get hdr ver budget => (get c hdr ver budget, .na)
  | .sclose req retry => (sclose c req retry, .na)
  | .end => ({ c with isDone := true }, .na)
  | .evict sid n => (evict c sid n, .na)
  | .wroute msg ctx ctxNew => wrouteR c msg ctx ctxNew
  | .wdeliver i => wdeliverR c i

def step {α} (c : Conn α) (l : Label α) : Conn α := (stepR c l).1

def run {α} (c : Conn α) (ls : List (Label α)) : Conn α := ls.foldl step c

/-! ### the handler's session table (`StreamableHTTPHandler.sessions`) -/

structure World (α : Type) where
  conns : List (Nat × Conn α)

def findConn {α} (k : Nat) : List (Nat × Conn α) → Option (Conn α)
  | [] => none
  | (k', c) :: t => if k' = k then some c else findConn k t

def setConn {α} (k : Nat) (c' : Conn α) : List (Nat × Conn α) → List (Nat × Conn α)
  | [] => []
  | (k', c) :: t => if k' = k then (k', c') :: t else (k', c) :: setConn k c' t

inductive WLabel (α : Type) where
  | create (sess : Nat) (cfg : Cfg)          -- a POST without session id (or any stateless POST) connects a new transport
  | on (sess : Nat) (l : Label α)            -- a request carrying Mcp-Session-Id `sess`, or a write by that session's server side
  /-- FANOUT: server code running inside the handler of request `octx` of session `origin` (or anywhere else) makes the
  SERVER emit a session-independent notification with payload `p` (`Server.ResourceUpdated`, a list-changed
  announcement): every session in `targets` (the subscribed ones) gets its own copy.  `notifySessions` /
  `notifySubscribedSessions` send every copy with `context.Background()` (regenerated fact `resume.fanout_context`), so
  neither `origin` nor `octx` takes part in the step: in each target session the copy is a DETACHED write. -/
  | fanout (origin : Nat) (octx : Option ReqId) (targets : List Nat) (p : α)

/-- the copy of a fan-out notification one session receives: written with the background context (no request id, no
protocol version in the context) -/
def fanCopy {α} (p : α) : Label α := .write (.notif p) none false

def wOn {α} (w : World α) (k : Nat) (l : Label α) : World α :=
  match findConn k w.conns with
  | none => w                                -- unknown session: 404 by the handler, no connection touched
  | some c => { conns := setConn k (step c l) w.conns }

def wstep {α} (w : World α) : WLabel α → World α
  | .create k cfg => match findConn k w.conns with
    | some _ => w
    | none => { conns := w.conns ++ [(k, init cfg)] }
  | .on k l => wOn w k l
  | .fanout _ _ ts p => ts.foldl (fun w k => wOn w k (fanCopy p)) w

def wrun {α} (w : World α) (ls : List (WLabel α)) : World α := ls.foldl wstep w

end Resume
