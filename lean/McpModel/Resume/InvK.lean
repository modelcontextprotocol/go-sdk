import McpModel.Resume.Step
/-!
E5 — exchanges that were answered with a bare status (202, 400, 409) never carry a stream: nothing is ever
written to them and no stream is ever attached to them (`InvK`, all label lists; `K` for `Kind`).
-/
namespace Resume
variable {α : Type}

/-- the exchange carries a body (`text/event-stream` or `application/json`) -/
def Exch.live (e : Exch α) : Prop := e.kind = .sse ∨ e.kind = .json

instance (e : Exch α) : Decidable e.live := by unfold Exch.live; exact inferInstance

def InvK (c : Conn α) : Prop :=
  ∀ (j : Nat) (e : Exch α), c.exs[j]? = some e → ¬ e.live → e.all = [] ∧ ∀ s ∈ c.streams, s.attached ≠ some j

theorem invK_init (cfg : Cfg) : InvK (init cfg : Conn α) := by
  intro j e he; cases he

theorem invK_live {c : Conn α} (h : InvK c) {s : Stream α} (hs : s ∈ c.streams) {ex : Nat} (hat : s.attached = some ex)
    {e : Exch α} (he : c.exs[ex]? = some e) : e.live := by
  by_cases hl : e.live
  · exact hl
  · exact absurd hat ((h ex e he hl).2 s hs)

theorem touch_live (e : Exch α) (ws : List (Out α)) (fin : Bool) : (e.touch ws fin).live ↔ e.live := by
  unfold Exch.live; rw [touch_kind]

/-- non-live entries of `exs'` were there before, non-live and with the same writes, or are new and empty -/
def KRel (exs exs' : List (Exch α)) : Prop :=
  ∀ (j : Nat) (e' : Exch α), exs'[j]? = some e' → ¬ e'.live →
    (∃ e, exs[j]? = some e ∧ ¬ e.live ∧ e'.all = e.all) ∨ (exs[j]? = none ∧ e'.all = [])

theorem KRel.refl (exs : List (Exch α)) : KRel exs exs := fun _ e' h hn => .inl ⟨e', h, hn, rfl⟩

theorem kRel_setEx (exs : List (Exch α)) (ex : Nat) (f : Exch α → Exch α)
    (hf : ∀ e, exs[ex]? = some e → ((f e).live ↔ e.live) ∧ (¬ e.live → (f e).all = e.all)) : KRel exs (setEx ex f exs) := by
  intro j e' h hn
  rcases setEx_get h with ⟨rfl, a, ha, rfl⟩ | ⟨_, h'⟩
  · have hna : ¬ a.live := fun hl => hn ((hf a ha).1.mpr hl)
    exact .inl ⟨a, ha, hna, (hf a ha).2 hna⟩
  · exact .inl ⟨e', h', hn, rfl⟩

theorem invK_frame {c c' : Conn α} (hw : Inv c) (h : InvK c) (he : KRel c.exs c'.exs)
    (hs : ∀ s' ∈ c'.streams, ∀ ex, s'.attached = some ex →
      (∃ s ∈ c.streams, s.attached = some ex) ∨ ∀ e, c'.exs[ex]? = some e → e.live) : InvK c' := by
  intro j e' hj hn
  have hatt : ∀ s' ∈ c'.streams, s'.attached = some j → ∃ s ∈ c.streams, s.attached = some j :=
    fun s' hs' hat => (hs s' hs' j hat).resolve_right (fun hl => hn (hl e' hj))
  rcases he j e' hj hn with ⟨e, h0, hne, ha⟩ | ⟨h0, ha⟩
  · refine ⟨by rw [ha]; exact (h j e h0 hne).1, fun s' hs' hat => ?_⟩
    obtain ⟨s, hsl, hat0⟩ := hatt s' hs' hat
    exact (h j e h0 hne).2 s hsl hat0
  · refine ⟨ha, fun s' hs' hat => ?_⟩
    obtain ⟨s, hsl, hat0⟩ := hatt s' hs' hat
    have := att_lt hw hsl hat0
    rw [List.getElem?_eq_none_iff] at h0
    omega

theorem postPrimed_new_live (c : Conn α) (calls : List Nat) (listen : Bool) (ver : Ver) (budget : Option Nat) :
    ∃ e, (postPrimed c calls listen ver budget).exs[c.exs.length]? = some e ∧ e.stream = c.nextSid ∧ e.live ∧ e.from = 0 := by
  refine ⟨postEx c listen ver budget, by rw [postPrimed_eq]; exact List.getElem?_concat_length, by simp [postEx], ?_, by simp [postEx]⟩
  simp only [Exch.live, postEx, pushes_kind]
  split
  · exact .inl rfl
  · exact .inr rfl

/-- nothing is written to a non-live exchange: a section writes to an exchange a stream is attached to, or to one it opens live -/
theorem sub_kRel {c c₁ : Conn α} {l : Label α} (hw : Inv c) (h : InvK c) (hs : Sub c l c₁) : KRel c.exs c₁.exs := by
  refine sub_rel hw hs (fun x ws fin hx => kRel_setEx _ _ _ (fun e he => ⟨touch_live e ws fin, fun hn => ?_⟩))
    (fun e₀ ws fin h1 h2 hl _ j e' hj hn => ?_)
    (fun x => kRel_setEx _ _ _ (fun _ _ => ⟨Iff.rfl, fun _ => rfl⟩))
  · have : ws = [] := by
      by_cases hws : ws = []
      · exact hws
      · obtain ⟨s, hsl, hat⟩ := (hx e he).1 hws
        exact absurd (invK_live h hsl hat he) hn
    subst this
    unfold Exch.touch; split <;> rfl
  · rcases List.getElem?_snoc hj with hj | ⟨hjl, rfl⟩
    · exact .inl ⟨e', hj, hn, rfl⟩
    · refine .inr ⟨by rw [hjl]; exact List.getElem?_eq_none (Nat.le_refl _), ?_⟩
      have : ws = [] := hl.resolve_right (fun hk => hn ((touch_live e₀ ws fin).mpr hk))
      subst this
      rw [(touch_all (fun hl => absurd h2 hl) [] fin).1]
      simp [Exch.all, h1, h2]

theorem sub_attached {c c₁ : Conn α} {l : Label α} (hs : Sub c l c₁) : ∀ s' ∈ c₁.streams, ∀ ex, s'.attached = some ex →
    (∃ s ∈ c.streams, s.attached = some ex) ∨ (ex = c.exs.length ∧ ∀ e, c₁.exs[ex]? = some e → e.live) := by
  have hold : ∀ {strs : List (Stream α)}, StreamsRel c.streams strs → ∀ s' ∈ strs, ∀ ex, s'.attached = some ex →
      (∃ s ∈ c.streams, s.attached = some ex) ∨ (ex = c.exs.length ∧ ∀ e, c₁.exs[ex]? = some e → e.live) :=
    fun hr s' hs' ex hat => .inl ((streamsRel_att hr hs' hat).imp fun _ h => ⟨h.1, h.2.2⟩)
  have hwrite : ∀ (c' : Conn α) (s : Stream α) msg ctx ctxNew, c'.streams = c.streams → s ∈ c.streams →
      StreamsRel c.streams (writeTo c' s msg ctx ctxNew).1.streams :=
    fun c' s msg ctx ctxNew hc hmem => hc ▸ writeTo_streamsRel c' (hc ▸ hmem) msg ctx ctxNew
  cases hs with
  | register calls listen ver budget =>
    intro s' hs' ex hat
    rw [(postPrimed_frame _ _ _ _ _).streams] at hs'
    rcases List.mem_append.mp hs' with hs' | hs'
    · exact .inl ⟨s', hs', hat⟩
    · obtain rfl := List.mem_singleton.mp hs'
      obtain ⟨e, he, _, hl, _⟩ := postPrimed_new_live c (dedup calls) listen ver budget
      cases hat
      exact .inr ⟨rfl, fun e' he' => by rw [he] at he'; cases he'; exact hl⟩
  | cut ex => exact hold (streamsRel_release _ _)
  | getGo hdr ver budget items =>
    intro s' hs' ex hat
    rcases getGo_rows c hdr.sid hdr.from ver budget items s' hs' with h | ⟨_, _, _, rfl⟩ | ⟨s, rel, _, rfl⟩
    · exact .inl ⟨s', h, hat⟩
    · cases hat
    · cases rel <;> cases hat
      refine .inr ⟨rfl, fun e he => ?_⟩
      obtain ⟨n, e₁, htab, he₁, _⟩ := getGo_table c hdr.sid hdr.from ver budget items
      rw [htab, List.getElem?_concat_length] at he
      cases he
      rcases he₁ with rfl | rfl <;> exact .inl (by simp [getEx])
  | erase _ msg => simp only [eraseResp_streams]; exact fun s' hs' ex hat => .inl ⟨s', hs', hat⟩
  | write msg ctx ctxNew s hr => exact hold (hwrite (eraseResp c msg) s msg ctx ctxNew (by simp) (route_mem hr))
  | route msg => simp only [eraseResp_streams]; exact fun s' hs' ex hat => .inl ⟨s', hs', hat⟩
  | deliver i pw s hpw hs => exact hold (hwrite _ s pw.msg pw.ctx pw.ctxNew rfl (findStream_some hs).1)
  | _ => exact fun s' hs' ex hat => .inl ⟨s', hs', hat⟩

theorem invK_sub {c c₁ : Conn α} {l : Label α} (hw : Inv c) (h : InvK c) (hs : Sub c l c₁) : InvK c₁ :=
  invK_frame hw h (sub_kRel hw h hs) (fun s' hs' ex hat => (sub_attached hs s' hs' ex hat).imp id And.right)

theorem invK_tail {c c₁ : Conn α} (hw : Inv c) (h : InvK c) (ht : Tail c c₁) : InvK c₁ := by
  refine invK_frame hw h ?_ (fun s' hs' ex hat => .inl ?_)
  · rcases tail_table ht with h' | ⟨ex, h'⟩ <;> rw [h']
    · exact KRel.refl _
    · exact kRel_setEx _ _ _ (fun _ _ => ⟨Iff.rfl, fun _ => rfl⟩)
  · cases ht with
    | none => exact ⟨s', hs', hat⟩
    | cut ex' => exact (streamsRel_att (streamsRel_release _ _) hs' hat).imp fun _ h => ⟨h.1, h.2.2⟩
    | close s ex' hm =>
      exact (streamsRel_att (streamsRel_set (s := s) (s' := { s with opn := false }) hm rfl (Or.inl rfl) (fun ho => by cases ho))
        hs' hat).imp fun _ h => ⟨h.1, h.2.2⟩

theorem invK_step {c : Conn α} (hw : Inv c) (h : InvK c) (l : Label α) : InvK (step c l) :=
  step_ind hw l (fun _ => invK_sub hw h) (fun _ _ => invK_tail)

theorem invK_run (cfg : Cfg) (ls : List (Label α)) : InvK (run (init cfg) ls) :=
  (run_ind (P := fun c => Inv c ∧ InvK c) (fun _ l ⟨hw, h⟩ => ⟨inv_step hw l, invK_step hw h l⟩)
    ⟨inv_init cfg, invK_init cfg⟩ ls).2

end Resume
