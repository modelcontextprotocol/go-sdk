import McpModel.Resume.InvId
import McpModel.Resume.InvJ
import McpModel.Resume.Trace
/-!
E5 — provenance tags.  The harness tags every payload it makes the server write with its true provenance
(`Mon.Prov`: the request it answers / was issued under and the POST exchange that carried that request, or
"detached", or "server-initiated", or the copy of a fan-out).  `WellTagged` states that for a write label *in terms of the label and the
connection's registration state only* (never in terms of where the model routes the write);
`TagOK prov sn c sid it` says that the tag of `it` is consistent with `it` sitting on stream `sid`.
`tagged_run`: on every well-tagged label list, every message on every exchange, in every JSON buffer and in
every log is `TagOK` for the stream it sits on.
-/
namespace Resume
open Mon
variable {α σ : Type}

/-- a `subscriptions/listen` stream -/
def listenOf (c : Conn α) (sid : Nat) : Prop := ∃ calls, c.hist sid = some (calls, true)

/-- the tag of `it` is consistent with `it` travelling on stream `sid` of session `sn` -/
def TagOK (prov : α → Prov σ) (sn : σ) (c : Conn α) (sid : Nat) (it : Item α) : Prop :=
  match prov (payloadOf it) with
  | .resp id ps req post => id = req ∧ ps = sn ∧ c.born sid = some post ∧ ∃ p, it.msg = .resp id p
  | .initResp id => ∃ p, it.msg = .resp id p
  | .inReq ps _ post => ps = sn ∧ (∀ id p, it.msg ≠ .resp id p) ∧
      ((c.cfg.jsonResponse = true ∧ (sid = 0 ∨ listenOf c sid)) ∨ (c.cfg.jsonResponse = false ∧ c.born sid = some post))
  | .detached ps => ps = sn ∧ (∀ id p, it.msg ≠ .resp id p) ∧ (sid = 0 ∨ listenOf c sid)
  | .server => (∀ id p, it.msg ≠ .resp id p) ∧ (sid = 0 ∨ listenOf c sid)
  | .fanout _ _ _ _ => (∀ id p, it.msg ≠ .resp id p) ∧ (sid = 0 ∨ listenOf c sid)
  | .other => False

theorem listenOf_ext {c c' : Conn α} (h : Ext c c') {sid : Nat} (hl : listenOf c sid) : listenOf c' sid := by
  obtain ⟨calls, hc⟩ := hl; exact ⟨calls, h.hist sid _ hc⟩

theorem standalone_ext {c c' : Conn α} (h : Ext c c') {sid : Nat} (hl : sid = 0 ∨ listenOf c sid) : sid = 0 ∨ listenOf c' sid :=
  hl.imp_right (listenOf_ext h)

theorem tagOK_pmono (prov : α → Prov σ) (sn : σ) : PMono (TagOK prov sn) := by
  intro c c' hext sid it h
  unfold TagOK at h ⊢
  split
  · rename_i id ps req post hp
    rw [hp] at h
    exact ⟨h.1, h.2.1, hext.born sid _ h.2.2.1, h.2.2.2⟩
  · rename_i id hp; rw [hp] at h; exact h
  · rename_i ps req post hp
    rw [hp] at h
    refine ⟨h.1, h.2.1, ?_⟩
    rw [hext.cfg]
    exact h.2.2.imp (And.imp_right (standalone_ext hext)) (And.imp_right (hext.born sid _))
  · rename_i ps hp; rw [hp] at h; exact ⟨h.1, h.2.1, standalone_ext hext h.2.2⟩
  · rename_i hp; rw [hp] at h; exact ⟨h.1, standalone_ext hext h.2⟩
  · rename_i ps req post hctx hp; rw [hp] at h; exact ⟨h.1, standalone_ext hext h.2⟩
  · rename_i hp; rw [hp] at h; exact h

/-- the tag of a notification / server→client request written with context `ctx` -/
def TagNR (prov : α → Prov σ) (sn : σ) (c : Conn α) (p : α) (ctx : Option Nat) : Prop :=
  match prov p with
  | .inReq ps req post => ps = sn ∧ ctx = some req ∧ ∀ sid, c.reqStreams req = some sid → c.born sid = some post
  | .detached ps => ps = sn ∧ ctx = none
  | .server => ctx = none ∨ ∃ r, ctx = some r ∧ ∀ sid, c.reqStreams r = some sid → listenOf c sid
  | .fanout _ _ _ _ => ctx = none      -- a fan-out copy is written with the background context in every session
  | _ => False

/-- **well-tagged write labels**: the tag names the request and the POST exchange that currently carries it
(`born` of the stream the request is registered on), resp. says "detached" exactly when the context belongs to
no request, resp. "server-initiated" for a write without context or under a `subscriptions/listen` request.
Nothing is said about where the write goes. -/
def WellTaggedW (prov : α → Prov σ) (sn : σ) (c : Conn α) : Msg α → Option Nat → Prop
  | .resp r p, _ =>
    match prov p with
    | .resp id ps req post => id = r ∧ req = r ∧ ps = sn ∧ ∀ sid, c.reqStreams r = some sid → c.born sid = some post
    | .initResp id => id = r
    | _ => False
  | .notif p, ctx => TagNR prov sn c p ctx
  | .call p, ctx => TagNR prov sn c p ctx

/-- (for the split write the tag is judged at the routing section, where the request is looked up) -/
def WellTagged (prov : α → Prov σ) (sn : σ) (c : Conn α) : Label α → Prop
  | .write msg ctx _ => WellTaggedW prov sn c msg ctx
  | .wroute msg ctx _ => WellTaggedW prov sn c msg ctx
  | _ => True

theorem route_related_some {c : Conn α} {msg : Msg α} {ctx : Option Nat} {s : Stream α} {r : Nat}
    (hrel : related c msg ctx = some r) (hr : route c msg ctx = some s) : c.reqStreams r = some s.id := by
  unfold route at hr
  rw [hrel] at hr
  simp only at hr
  split at hr
  · rename_i sid hreq
    rw [hreq, (findStream_some hr).2]
  · cases hr

theorem route_related_none {c : Conn α} (h10 : Inv10 c) {msg : Msg α} {ctx : Option Nat} {s : Stream α}
    (hrel : related c msg ctx = none) (hr : route c msg ctx = some s) : s.id = 0 ∨ listenOf c s.id := by
  unfold route at hr
  rw [hrel] at hr
  simp only at hr
  split at hr
  · rename_i s' hl
    cases hr
    obtain ⟨hmem, hlis⟩ := findListen_some hl
    have := (h10.str_hist s hmem).1
    rw [hlis] at this
    exact Or.inr ⟨_, this⟩
  · exact Or.inl (findStream_some hr).2

theorem route_tagNR {prov : α → Prov σ} {sn : σ} {c : Conn α} (h10 : Inv10 c) {msg : Msg α} (p : α) (hp : payloadOf ⟨msg, ctx⟩ = p)
    (hnr : ∀ id q, msg ≠ .resp id q) (hrel : related c msg ctx = if c.cfg.jsonResponse then none else ctx)
    (hl : TagNR prov sn c p ctx) (s : Stream α) (hr : route c msg ctx = some s) : TagOK prov sn c s.id ⟨msg, ctx⟩ := by
  -- without a related request the write goes to the standalone / listen stream; otherwise to the request's stream
  have hstand : (c.cfg.jsonResponse = true ∨ ctx = none) → (s.id = 0 ∨ listenOf c s.id) := by
    intro h
    refine route_related_none h10 ?_ hr
    rw [hrel]
    rcases h with h | h <;> rw [h]
    · rfl
    · split <;> rfl
  have hreq : c.cfg.jsonResponse = false → ∀ r, ctx = some r → c.reqStreams r = some s.id := by
    intro hj r hc
    exact route_related_some (by rw [hrel, hj, hc]; rfl) hr
  unfold TagOK
  rw [hp]
  unfold TagNR at hl
  split at hl
  · rename_i ps req post hpv
    rw [hpv]
    refine ⟨hl.1, hnr, ?_⟩
    cases hj : c.cfg.jsonResponse with
    | true => exact Or.inl ⟨rfl, hstand (Or.inl hj)⟩
    | false => exact Or.inr ⟨rfl, hl.2.2 s.id (hreq hj req hl.2.1)⟩
  · rename_i ps hpv
    rw [hpv]
    exact ⟨hl.1, hnr, hstand (Or.inr hl.2)⟩
  · rename_i hpv
    rw [hpv]
    refine ⟨hnr, ?_⟩
    rcases hl with h0 | ⟨r, hr1, hr2⟩
    · exact hstand (Or.inr h0)
    · cases hj : c.cfg.jsonResponse with
      | true => exact hstand (Or.inl hj)
      | false => exact Or.inr (hr2 s.id (hreq hj r hr1))
  · rename_i ps req post hctx hpv
    rw [hpv]
    exact ⟨hnr, hstand (Or.inr hl)⟩
  · exact absurd hl id

theorem route_tagOK_W {prov : α → Prov σ} {sn : σ} {c : Conn α} (h10 : Inv10 c) (msg : Msg α) (ctx : Option Nat)
    (hl : WellTaggedW prov sn c msg ctx) : ∀ s, route c msg ctx = some s → TagOK prov sn c s.id ⟨msg, ctx⟩ := by
  intro s hr
  cases msg with
  | resp r p =>
    have hrel : related c (.resp r p) ctx = some r := rfl
    have hreq := route_related_some hrel hr
    simp only [WellTaggedW] at hl
    unfold TagOK
    simp only [payloadOf]
    split at hl
    · rename_i id ps req post hpv
      rw [hpv]
      obtain ⟨h1, h2, h3, h4⟩ := hl
      exact ⟨by rw [h1, h2], h3, h4 s.id hreq, ⟨p, by rw [h1]⟩⟩
    · rename_i id hpv
      rw [hpv]
      exact ⟨p, by rw [hl]⟩
    · exact absurd hl id
  | notif p =>
    exact route_tagNR h10 p rfl (by intros; simp) (by simp [related]) hl s hr
  | call p =>
    exact route_tagNR h10 p rfl (by intros; simp) (by simp [related]) hl s hr

theorem route_tagOK {prov : α → Prov σ} {sn : σ} {c : Conn α} (h10 : Inv10 c) (l : Label α) (hl : WellTagged prov sn c l) :
    RouteOK (TagOK prov sn) c l := by
  cases l with
  | write msg ctx ctxNew => exact route_tagOK_W h10 msg ctx hl
  | wroute msg ctx ctxNew => exact route_tagOK_W h10 msg ctx hl
  | _ => trivial

def WellTaggedRun (prov : α → Prov σ) (sn : σ) : Conn α → List (Label α) → Prop
  | _, [] => True
  | c, l :: ls => WellTagged prov sn c l ∧ WellTaggedRun prov sn (step c l) ls

structure Inv10All (prov : α → Prov σ) (sn : σ) (c : Conn α) : Prop where
  w : Inv c
  k : InvK c
  r : Inv10 c
  b : InvBorn c
  j : InvJ c
  id : InvId c
  tag : InvMsg (TagOK prov sn) c
  pr : PendRouted c
  pp : PendP (TagOK prov sn) c

theorem inv10All_init (prov : α → Prov σ) (sn : σ) (cfg : Cfg) : Inv10All prov sn (init cfg : Conn α) :=
  ⟨inv_init cfg, invK_init cfg, inv10_init cfg, invBorn_init cfg, invJ_init cfg, invId_init cfg, invMsg_init cfg, pendRouted_init cfg, pendP_init cfg⟩

theorem inv10All_step {prov : α → Prov σ} {sn : σ} {c : Conn α} (hi : Inv10All prov sn c) (l : Label α)
    (hl : WellTagged prov sn c l) : Inv10All prov sn (step c l) :=
  ⟨inv_step hi.w l, invK_step hi.w hi.k l, inv10_step hi.w hi.r hi.pr l, invBorn_step hi.w hi.b l, invJ_step hi.w hi.r hi.b hi.j l,
    invId_step hi.w hi.id l, invMsg_step (tagOK_pmono prov sn) hi.w hi.r hi.b hi.tag hi.pp l (route_tagOK hi.r l hl),
    pendRouted_step hi.r hi.pr l, pendP_step (tagOK_pmono prov sn) hi.r hi.b hi.pp l (route_tagOK hi.r l hl)⟩

theorem inv10All_run {prov : α → Prov σ} {sn : σ} {c : Conn α} (hi : Inv10All prov sn c) (ls : List (Label α))
    (hl : WellTaggedRun prov sn c ls) : Inv10All prov sn (run c ls) := by
  induction ls generalizing c with
  | nil => exact hi
  | cons l t ih => exact ih (inv10All_step hi l hl.1) hl.2

/-- **tags are consistent with where messages sit**, on every well-tagged label list -/
theorem tagged_run (prov : α → Prov σ) (sn : σ) (cfg : Cfg) (ls : List (Label α)) (hl : WellTaggedRun prov sn (init cfg) ls) :
    InvMsg (TagOK prov sn) (run (init cfg) ls) :=
  (inv10All_run (inv10All_init prov sn cfg) ls hl).tag

end Resume
