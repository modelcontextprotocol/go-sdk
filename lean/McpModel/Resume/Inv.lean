import McpModel.Resume.Lemmas
/-!
E5 — the structural invariant `Inv` of the connection state, its frame lemma (`inv_frame`), its preservation by the critical
sections of the model, and the closed forms of those sections, which everything above reads instead of unfolding them.
-/
namespace Resume
variable {α : Type}

/-- `streams` is a map and `nextSid` is fresh for streams, store and pending writes; the exchange a stream is attached to exists and
serves it (`att`), at most one stream per exchange (`att_inj`), only an attached stream is open (`opn_att`). -/
structure Inv (c : Conn α) : Prop where
  nodup   : (c.streams.map (·.id)).Nodup
  sid_lt  : ∀ s ∈ c.streams, s.id < c.nextSid
  store_lt : ∀ sid, (c.store sid).isSome → sid < c.nextSid
  att     : ∀ s ∈ c.streams, ∀ ex, s.attached = some ex → ∃ e, c.exs[ex]? = some e ∧ e.stream = s.id
  att_inj : ∀ s₁ ∈ c.streams, ∀ s₂ ∈ c.streams, ∀ ex, s₁.attached = some ex → s₂.attached = some ex → s₁.id = s₂.id
  opn_att : ∀ s ∈ c.streams, s.opn = true → s.attached.isSome
  ex_ok   : ∀ e ∈ c.exs, ExOK e
  pend_lt : ∀ pw ∈ c.pendW, pw.sid < c.nextSid

theorem inv_init (cfg : Cfg) : Inv (init cfg : Conn α) := by
  refine ⟨by simp [init], ?_, ?_, ?_, ?_, ?_, ?_, fun pw h => by cases h⟩
  · intro s hs; obtain rfl := List.mem_singleton.mp hs; exact Nat.zero_lt_one
  · intro sid h
    show sid < 1
    by_cases h0 : sid = 0
    · omega
    · have h' : (if (cfg.hasStore && sid == 0) = true then some ([] : List (Option (Item α))) else none).isSome = true := h
      have : (cfg.hasStore && sid == 0) = false := by simp [h0]
      simp [this] at h'
  · intro s hs ex h; obtain rfl := List.mem_singleton.mp hs; cases h
  · intro s₁ h1 s₂ h2; obtain rfl := List.mem_singleton.mp h1; obtain rfl := List.mem_singleton.mp h2; intros; rfl
  · intro s hs h; obtain rfl := List.mem_singleton.mp hs; cases h
  · intro e he; cases he

/-- what `Inv` needs of a new exchange table: old entries stay and serve the same stream (`Inv.att`); `ExOK` throughout is kept
(`Inv.ex_ok`; an implication between the tables, because a `setEx` keeps `ExOK` entry by entry) -/
def ExKeep (exs exs' : List (Exch α)) : Prop :=
  (∀ (j : Nat) (e : Exch α), exs[j]? = some e → ∃ e', exs'[j]? = some e' ∧ e'.stream = e.stream) ∧
  ((∀ e ∈ exs, ExOK e) → ∀ e' ∈ exs', ExOK e')

theorem ExKeep.refl (exs : List (Exch α)) : ExKeep exs exs := ⟨fun _ e h => ⟨e, h, rfl⟩, id⟩

theorem exKeep_setEx (exs : List (Exch α)) (ex : ExId) (f : Exch α → Exch α)
    (hf : ∀ e, (f e).stream = e.stream ∧ (ExOK e → ExOK (f e))) : ExKeep exs (setEx ex f exs) := by
  refine ⟨fun j e h => ?_, fun hok e' he' => ?_⟩
  · rw [getElem?_setEx, h]
    by_cases hj : ex = j
    · exact ⟨f e, by simp [hj], (hf e).1⟩
    · exact ⟨e, by simp [hj], rfl⟩
  · rcases mem_setEx he' with he' | ⟨e₀, h0, rfl⟩
    · exact hok e' he'
    · exact (hf e₀).2 (hok e₀ (List.mem_of_getElem? h0))

theorem exKeep_touch (exs : List (Exch α)) (x : ExId) (ws : List (Out α)) (fin : Bool) :
    ExKeep exs (setEx x (Exch.touch ws fin) exs) :=
  exKeep_setEx _ _ _ (fun e => ⟨touch_stream e ws fin, fun h => (touch_all h ws fin).2⟩)

theorem exKeep_wfail (exs : List (Exch α)) (ex : ExId) : ExKeep exs (setEx ex (fun e => { e with budget := some 0 }) exs) :=
  exKeep_setEx _ _ _ (fun _ => ⟨rfl, fun _ _ => rfl⟩)

theorem exKeep_append (exs : List (Exch α)) {e : Exch α} (hok : ExOK e) : ExKeep exs (exs ++ [e]) := by
  refine ⟨fun j e₀ h => ⟨e₀, ?_, rfl⟩, fun h e' he' => ?_⟩
  · rw [List.getElem?_append_left (List.getElem?_eq_some_iff.mp h).1]; exact h
  · rcases List.mem_append.mp he' with he' | he'
    · exact h e' he'
    · rw [List.mem_singleton.mp he']; exact hok

/-- stream tables where streams were only updated in place, deleted, detached or closed -/
def StreamsRel (l l' : List (Stream α)) : Prop :=
  (l'.map (·.id)).Sublist (l.map (·.id)) ∧
  ∀ s' ∈ l', ∃ s ∈ l, s'.id = s.id ∧ (s'.attached = s.attached ∨ s'.attached = none) ∧ (s'.opn = true → s.opn = true ∧ s'.attached = s.attached)

theorem StreamsRel.refl (l : List (Stream α)) : StreamsRel l l :=
  ⟨List.Sublist.refl _, fun s hs => ⟨s, hs, rfl, Or.inl rfl, fun h => ⟨h, rfl⟩⟩⟩

theorem streamsRel_set {l : List (Stream α)} {s s' : Stream α} (hs : s ∈ l) (hid : s'.id = s.id)
    (hatt : s'.attached = s.attached ∨ s'.attached = none) (hopn : s'.opn = true → s.opn = true ∧ s'.attached = s.attached) :
    StreamsRel l (setStream s' l) := by
  refine ⟨by rw [setStream_ids]; exact List.Sublist.refl _, ?_⟩
  intro x hx
  rcases mem_setStream hx with rfl | ⟨hxl, _⟩
  · exact ⟨s, hs, hid, hatt, hopn⟩
  · exact ⟨x, hxl, rfl, Or.inl rfl, fun h => ⟨h, rfl⟩⟩

theorem streamsRel_del (l : List (Stream α)) (sid : SId) : StreamsRel l (delStream sid l) := by
  refine ⟨delStream_ids_sublist _ _, ?_⟩
  intro x hx
  rw [mem_delStream] at hx
  exact ⟨x, hx.1, rfl, Or.inl rfl, fun h => ⟨h, rfl⟩⟩

theorem streamsRel_release (l : List (Stream α)) (ex : ExId) : StreamsRel l (release ex l) := by
  refine ⟨by rw [release_ids]; exact List.Sublist.refl _, ?_⟩
  intro x hx
  obtain ⟨s, hs, h | h⟩ := mem_release hx
  · obtain ⟨_, rfl⟩ := h
    exact ⟨s, hs, rfl, Or.inr rfl, fun h => by cases h⟩
  · obtain ⟨_, rfl⟩ := h
    exact ⟨x, hs, rfl, Or.inl rfl, fun h => ⟨h, rfl⟩⟩

theorem streamsRel_att {l l' : List (Stream α)} (h : StreamsRel l l') {s' : Stream α} (hs' : s' ∈ l') {ex : ExId}
    (hat : s'.attached = some ex) : ∃ s ∈ l, s'.id = s.id ∧ s.attached = some ex := by
  obtain ⟨s, hsl, hid, hatt, _⟩ := h.2 s' hs'
  rcases hatt with h1 | h1
  · exact ⟨s, hsl, hid, by rw [← h1]; exact hat⟩
  · rw [h1] at hat; cases hat

theorem inv_frame {c c' : Conn α} (h : Inv c) (hs : StreamsRel c.streams c'.streams) (he : ExKeep c.exs c'.exs)
    (hst : ∀ sid, (c'.store sid).isSome → sid < c'.nextSid) (hn : c.nextSid ≤ c'.nextSid)
    (hpw : c'.pendW = c.pendW := by rfl) : Inv c' := by
  refine ⟨h.nodup.sublist hs.1, ?_, hst, ?_, ?_, ?_, he.2 h.ex_ok, fun pw hp => Nat.lt_of_lt_of_le (h.pend_lt pw (by rw [← hpw]; exact hp)) hn⟩
  · intro s' hs'
    obtain ⟨s, hsl, hid, _, _⟩ := hs.2 s' hs'
    rw [hid]; exact Nat.lt_of_lt_of_le (h.sid_lt s hsl) hn
  · intro s' hs' ex hat
    obtain ⟨s, hsl, hid, hsa⟩ := streamsRel_att hs hs' hat
    obtain ⟨e, hex, hst⟩ := h.att s hsl ex hsa
    obtain ⟨e', hex', hs1⟩ := he.1 ex e hex
    exact ⟨e', hex', by rw [hs1, hst, hid]⟩
  · intro s₁' h1 s₂' h2 ex a1 a2
    obtain ⟨s₁, hl1, hid1, b1⟩ := streamsRel_att hs h1 a1
    obtain ⟨s₂, hl2, hid2, b2⟩ := streamsRel_att hs h2 a2
    rw [hid1, hid2]; exact h.att_inj s₁ hl1 s₂ hl2 ex b1 b2
  · intro s' hs' hop
    obtain ⟨s, hsl, _, _, hopn⟩ := hs.2 s' hs'
    obtain ⟨ho, ha⟩ := hopn hop
    rw [ha]; exact h.opn_att s hsl ho

theorem inv_append_ex {c : Conn α} (h : Inv c) (e : Exch α) (hok : ExOK e) : Inv { c with exs := c.exs ++ [e] } :=
  inv_frame h (StreamsRel.refl _) (exKeep_append _ hok) h.store_lt (Nat.le_refl _)

theorem inv_emit {c : Conn α} (h : Inv c) (ex : ExId) (o : Out α) : Inv (emit c ex o).1 :=
  inv_frame (c' := (emit c ex o).1) h (StreamsRel.refl _) (by simp only [emit, emitX_fst]; exact exKeep_touch _ _ _ _) h.store_lt
    (Nat.le_refl _)

theorem inv_finish {c : Conn α} (h : Inv c) (ex : ExId) : Inv (finish c ex) :=
  inv_frame (c' := finish c ex) h (StreamsRel.refl _) (exKeep_touch _ ex [] true) h.store_lt (Nat.le_refl _)

theorem inv_cut {c : Conn α} (h : Inv c) (ex : ExId) : Inv (cut c ex) :=
  inv_frame (c' := cut c ex) h (streamsRel_release _ _) (exKeep_touch _ ex [] true) h.store_lt (Nat.le_refl _)

theorem inv_wfail {c : Conn α} (h : Inv c) (ex : ExId) : Inv (wfail c ex) :=
  inv_frame (c' := wfail c ex) h (StreamsRel.refl _) (exKeep_wfail _ _) h.store_lt (Nat.le_refl _)

theorem deliver_stream (exs : List (Exch α)) (s : Stream α) (it : Item α) (evid : Option (SId × Nat))
    (reqs : List ReqId) (done : Bool) :
    (deliver exs s it evid reqs done).2.1.id = s.id ∧ (deliver exs s it evid reqs done).2.1.attached = s.attached ∧
    ((deliver exs s it evid reqs done).2.1.opn = true → s.opn = true) ∧ (deliver exs s it evid reqs done).2.1.requests = reqs ∧
    (deliver exs s it evid reqs done).2.1.calls = s.calls ∧ (deliver exs s it evid reqs done).2.1.listen = s.listen ∧
    ((deliver exs s it evid reqs done).2.1.json = s.json ∨
      ∃ pend, s.json = some pend ∧ (deliver exs s it evid reqs done).2.1.json = some (pend ++ [it])) := by
  unfold deliver
  split
  · rename_i ex hat hop
    split
    · rename_i pend hj
      split
      · exact ⟨rfl, rfl, nofun, rfl, rfl, rfl, .inr ⟨pend, hj, rfl⟩⟩
      · exact ⟨rfl, rfl, fun _ => hop, rfl, rfl, rfl, .inr ⟨pend, hj, rfl⟩⟩
    · exact ⟨rfl, rfl, fun _ => hop, rfl, rfl, rfl, .inl rfl⟩
  · exact ⟨rfl, rfl, id, rfl, rfl, rfl, .inl rfl⟩

/-- `deliverLocked` writes one event to the exchange of an attached open SSE stream, or flushes the JSON body with the last
response, and ends the exchange with the stream -/
theorem deliver_exs (exs : List (Exch α)) (s : Stream α) (it : Item α) (evid : Option (SId × Nat)) (reqs : List ReqId) (done : Bool) :
    (deliver exs s it evid reqs done).1 =
      match s.attached, s.opn, s.json with
      | some ex, true, none => setEx ex (Exch.touch [.message evid it] done) exs
      | some ex, true, some pend => if done then setEx ex (Exch.touch [.json (pend ++ [it])] true) exs else exs
      | _, _, _ => exs := by
  unfold deliver
  split
  · rename_i ex hat hop
    split
    · split <;> simp [finishX_emitX, *]
    · cases done
      · simp [emitX_fst, *]
      · simp [finishX_emitX, *]
  · rename_i h
    split
    · rename_i ex ha ho _; exact absurd ho (h ex ha)
    · rename_i ex pend ha ho _; exact absurd ho (h ex ha)
    · rfl

theorem deliver_table (exs : List (Exch α)) (s : Stream α) (it : Item α) (evid : Option (SId × Nat)) (reqs : List ReqId) (done : Bool) :
    ∃ x ws fin, (deliver exs s it evid reqs done).1 = setEx x (Exch.touch ws fin) exs ∧
      (ws = [] ∨ (s.attached = some x ∧ s.opn = true ∧
        ((s.json = none ∧ ws = [.message evid it]) ∨ ∃ pend, s.json = some pend ∧ ws = [.json (pend ++ [it])]))) := by
  rw [deliver_exs]
  split
  · rename_i ex ha ho hj; exact ⟨ex, _, _, rfl, .inr ⟨ha, ho, .inl ⟨hj, rfl⟩⟩⟩
  · rename_i ex pend ha ho hj
    split
    · exact ⟨ex, _, _, rfl, .inr ⟨ha, ho, .inr ⟨pend, hj, rfl⟩⟩⟩
    · exact ⟨0, [], false, (setEx_touch_nil 0 exs).symm, .inl rfl⟩
  · exact ⟨0, [], false, (setEx_touch_nil 0 exs).symm, .inl rfl⟩

@[simp] theorem eraseResp_streams (c : Conn α) (msg : Msg α) : (eraseResp c msg).streams = c.streams := by
  unfold eraseResp; split <;> rfl
@[simp] theorem eraseResp_exs (c : Conn α) (msg : Msg α) : (eraseResp c msg).exs = c.exs := by
  unfold eraseResp; split <;> rfl
@[simp] theorem eraseResp_store (c : Conn α) (msg : Msg α) : (eraseResp c msg).store = c.store := by
  unfold eraseResp; split <;> rfl
@[simp] theorem eraseResp_nextSid (c : Conn α) (msg : Msg α) : (eraseResp c msg).nextSid = c.nextSid := by
  unfold eraseResp; split <;> rfl
@[simp] theorem eraseResp_cfg (c : Conn α) (msg : Msg α) : (eraseResp c msg).cfg = c.cfg := by
  unfold eraseResp; split <;> rfl
@[simp] theorem eraseResp_isDone (c : Conn α) (msg : Msg α) : (eraseResp c msg).isDone = c.isDone := by
  unfold eraseResp; split <;> rfl
@[simp] theorem eraseResp_hist (c : Conn α) (msg : Msg α) : (eraseResp c msg).hist = c.hist := by
  unfold eraseResp; split <;> rfl
@[simp] theorem eraseResp_pendW (c : Conn α) (msg : Msg α) : (eraseResp c msg).pendW = c.pendW := by
  unfold eraseResp; split <;> rfl
@[simp] theorem eraseResp_purged (c : Conn α) (msg : Msg α) : (eraseResp c msg).purged = c.purged := by
  unfold eraseResp; split <;> rfl

@[simp] theorem eraseResp_born (c : Conn α) (msg : Msg α) : (eraseResp c msg).born = c.born := by
  unfold eraseResp; split <;> rfl

theorem eraseResp_req_resp (c : Conn α) (id : Nat) (p : α) (r : Nat) :
    (eraseResp c (.resp id p)).reqStreams r = if r = id then none else c.reqStreams r := rfl

theorem eraseResp_pendW_eq (c : Conn α) (msg : Msg α) : ({ eraseResp c msg with pendW := c.pendW } : Conn α) = eraseResp c msg := by
  unfold eraseResp; split <;> rfl

theorem eraseResp_req_le (c : Conn α) (msg : Msg α) (r sid : Nat) (h : (eraseResp c msg).reqStreams r = some sid) :
    c.reqStreams r = some sid := by
  cases msg with
  | resp id p =>
    simp only [eraseResp] at h
    split at h
    · cases h
    · exact h
  | notif p => exact h
  | call p => exact h

theorem inv_eraseResp {c : Conn α} (h : Inv c) (msg : Msg α) : Inv (eraseResp c msg) :=
  inv_frame (c' := eraseResp c msg) h (by simp; exact StreamsRel.refl _) (by simp; exact ExKeep.refl _)
    (by simp; exact h.store_lt) (by simp) (by simp)

theorem route_resp {c : Conn α} {id : Nat} {p : α} {ctx : Option Nat} :
    route c (.resp id p) ctx = match c.reqStreams id with
      | some sid => findStream sid c.streams
      | none => none := by
  simp only [route, related]
  rfl

theorem route_mem {c : Conn α} {msg : Msg α} {ctx : Option ReqId} {s : Stream α} (h : route c msg ctx = some s) :
    s ∈ c.streams := by
  unfold route at h
  split at h
  · split at h
    · exact (findStream_some h).1
    · cases h
  · split at h
    · rename_i s' hl
      cases h; exact (findListen_some hl).1
    · exact (findStream_some h).1

theorem writeTo_streamsRel (c : Conn α) {s : Stream α} (hmem : s ∈ c.streams) (msg : Msg α) (ctx : Option ReqId) (ctxNew : Bool) :
    StreamsRel c.streams (writeTo c s msg ctx ctxNew).1.streams := by
  have hd := deliver_stream c.exs s ⟨msg, ctx⟩ (if wUse c ctxNew then some (s.id, s.next) else none) (wReqs s msg) (wDone s msg)
  simp only [writeTo]
  split
  · exact streamsRel_del _ _
  · exact streamsRel_set hmem hd.1 (Or.inl hd.2.1) (fun ho => ⟨hd.2.2.1 ho, hd.2.1⟩)

theorem inv_writeTo {c : Conn α} (h : Inv c) {s : Stream α} (hmem : s ∈ c.streams) (msg : Msg α) (ctx : Option ReqId)
    (ctxNew : Bool) : Inv (writeTo c s msg ctx ctxNew).1 := by
  refine inv_frame (c' := (writeTo c s msg ctx ctxNew).1) h (writeTo_streamsRel c hmem msg ctx ctxNew) ?_ ?_ ?_
  · obtain ⟨x, ws, fin, hx, _⟩ := deliver_table c.exs s ⟨msg, ctx⟩ (if wUse c ctxNew then some (s.id, s.next) else none)
      (wReqs s msg) (wDone s msg)
    simp only [writeTo, wDeliver]; rw [hx]; exact exKeep_touch _ _ _ _
  · simp only [writeTo]
    intro sid hsome
    split at hsome
    · by_cases hk : sid = s.id
      · rw [hk]; exact h.sid_lt s hmem
      · rw [appendLog_other _ _ _ _ hk] at hsome; exact h.store_lt sid hsome
    · exact h.store_lt sid hsome
  · simp [writeTo]

theorem inv_statusEx {c : Conn α} (h : Inv c) (code : Nat) (sid : SId) : Inv (statusEx c code sid) :=
  inv_append_ex h _ (fun hl => absurd rfl hl)

theorem postStore_other (c : Conn α) (listen : Bool) (ver : Ver) (k : Nat) (hk : k ≠ c.nextSid) :
    postStore c listen ver k = c.store k := by
  simp only [postStore]
  split
  · rw [appendLog_other _ _ _ _ hk]
    split
    · exact openLog_other _ _ _ hk
    · rfl
  · split
    · exact openLog_other _ _ _ hk
    · rfl

theorem postStore_lt {c : Conn α} (h : Inv c) (listen : Bool) (ver : Ver) :
    ∀ sid, (postStore c listen ver sid).isSome → sid < c.nextSid + 1 := by
  intro sid hsome
  by_cases hk : sid = c.nextSid
  · omega
  · rw [postStore_other _ _ _ _ hk] at hsome; exact Nat.lt_succ_of_lt (h.store_lt sid hsome)

theorem postStore_same (c : Conn α) (listen : Bool) (ver : Ver) (hn : c.store c.nextSid = none) (ho : opens c ver = true) :
    postStore c listen ver c.nextSid = some (if primed c listen ver then [none] else []) := by
  simp only [postStore, ho, if_true]
  split <;> simp [hn]

theorem postStore_new_log {c : Conn α} (listen : Bool) (ver : Ver) (hn : c.store c.nextSid = none)
    (log : List (Option (Item α))) (hl : postStore c listen ver c.nextSid = some log) : ∀ it, some it ∉ log := by
  intro it hit
  simp only [postStore] at hl
  split at hl
  · simp only [appendLog_same, Option.some.injEq] at hl
    split at hl
    · simp [hn] at hl; subst hl; simp at hit
    · simp [hn] at hl; subst hl; simp at hit
  · split at hl
    · simp [hn] at hl; subst hl; cases hit
    · rw [hn] at hl; cases hl

theorem att_lt {c : Conn α} (h : Inv c) {s : Stream α} (hs : s ∈ c.streams) {ex : ExId} (hat : s.attached = some ex) :
    ex < c.exs.length := by
  obtain ⟨e, hex, _⟩ := h.att s hs ex hat
  exact (List.getElem?_eq_some_iff.mp hex).1

theorem inv_register {c : Conn α} (h : Inv c) (calls : List ReqId) (listen : Bool) (ver : Ver) (budget : Option Nat) :
    Inv (register c calls listen ver budget) := by
  have hfresh : ∀ s ∈ c.streams, s.id ≠ c.nextSid := fun s hs => Nat.ne_of_lt (h.sid_lt s hs)
  have hattlt : ∀ s ∈ c.streams, s.attached ≠ some c.exs.length := by
    intro s hs hat
    have := att_lt h hs hat
    omega
  refine ⟨?_, ?_, postStore_lt h listen ver, ?_, ?_, ?_, ?_, fun pw hp => Nat.lt_succ_of_lt (h.pend_lt pw hp)⟩
  · simp only [register, List.map_append, List.map_cons, List.map_nil]
    rw [List.nodup_append]
    refine ⟨h.nodup, by simp, ?_⟩
    intro a ha b hb
    simp [newStream] at hb; subst hb
    rw [List.mem_map] at ha
    obtain ⟨x, hx, rfl⟩ := ha
    exact hfresh x hx
  · intro x hx
    simp only [register, List.mem_append, List.mem_singleton] at hx ⊢
    rcases hx with hx | rfl
    · exact Nat.lt_succ_of_lt (h.sid_lt x hx)
    · simp [newStream]
  · intro x hx ex hxa
    simp only [register, List.mem_append, List.mem_singleton] at hx ⊢
    rcases hx with hx | rfl
    · obtain ⟨e₀, hex, hst⟩ := h.att x hx ex hxa
      have hlt := att_lt h hx hxa
      exact ⟨e₀, by simp [List.getElem?_append_left hlt, hex], hst⟩
    · simp only [newStream] at hxa; cases hxa
      exact ⟨_, List.getElem?_concat_length, by simp [newStream]⟩
  · intro x₁ h1 x₂ h2' ex a1 a2
    simp only [register, List.mem_append, List.mem_singleton] at h1 h2'
    rcases h1 with h1 | rfl <;> rcases h2' with h2' | rfl
    · exact h.att_inj x₁ h1 x₂ h2' ex a1 a2
    · simp only [newStream] at a2; cases a2; exact absurd a1 (hattlt x₁ h1)
    · simp only [newStream] at a1; cases a1; exact absurd a2 (hattlt x₂ h2')
    · rfl
  · intro x hx hop
    simp only [register, List.mem_append, List.mem_singleton] at hx
    rcases hx with hx | rfl
    · exact h.opn_att x hx hop
    · simp [newStream]
  · intro x hx
    simp only [register, List.mem_append, List.mem_singleton] at hx
    rcases hx with hx | rfl
    · exact h.ex_ok x hx
    · intro hl; exact absurd rfl hl

/-- the state after registration and the priming write (before a possible immediate release) -/
def postPrimed (c : Conn α) (calls : List Nat) (listen : Bool) (ver : Ver) (budget : Option Nat) : Conn α :=
  if primed c listen ver then (emit (register c calls listen ver budget) c.exs.length (.prime c.nextSid 0)).1
  else register c calls listen ver budget

theorem postNew_eq (c : Conn α) (calls : List Nat) (listen : Bool) (ver : Ver) (budget : Option Nat) :
    postNew c calls listen ver budget =
      if c.isDone then cut (postPrimed c calls listen ver budget) c.exs.length else postPrimed c calls listen ver budget := by
  simp only [postNew, postPrimed]

def postEx (c : Conn α) (listen : Bool) (ver : Ver) (budget : Option Nat) : Exch α :=
  ({ kind := if useSSE c listen then .sse else .json, budget := budget, stream := c.nextSid, «from» := 0 } : Exch α).pushes
    (if primed c listen ver then [.prime c.nextSid 0] else [])

theorem postPrimed_eq (c : Conn α) (calls : List Nat) (listen : Bool) (ver : Ver) (budget : Option Nat) :
    postPrimed c calls listen ver budget =
      { register c calls listen ver budget with exs := c.exs ++ [postEx c listen ver budget] } := by
  unfold postPrimed postEx
  split
  · simp only [emit, register, emitX_fst, setEx_last]; rfl
  · rfl

theorem inv_postPrimed {c : Conn α} (h : Inv c) (calls : List Nat) (listen : Bool) (ver : Ver) (budget : Option Nat) :
    Inv (postPrimed c calls listen ver budget) := by
  unfold postPrimed
  split
  · exact inv_emit (inv_register h _ _ _ _) _ _
  · exact inv_register h _ _ _ _

structure PostFrame (c : Conn α) (calls : List Nat) (listen : Bool) (ver : Ver) (c₁ : Conn α) : Prop where
  streams : c₁.streams = c.streams ++ [newStream c calls listen ver]
  store : c₁.store = postStore c listen ver
  nextSid : c₁.nextSid = c.nextSid + 1
  cfg : c₁.cfg = c.cfg
  isDone : c₁.isDone = c.isDone
  reqStreams : c₁.reqStreams = (fun r => if r ∈ calls then some c.nextSid else c.reqStreams r)
  hist : c₁.hist = (fun k => if k = c.nextSid then some (calls, listen) else c.hist k)
  born : c₁.born = (fun k => if k = c.nextSid then some c.exs.length else c.born k)
  pendW : c₁.pendW = c.pendW

theorem postPrimed_frame (c : Conn α) (calls : List Nat) (listen : Bool) (ver : Ver) (budget : Option Nat) :
    PostFrame c calls listen ver (postPrimed c calls listen ver budget) := by
  rw [postPrimed_eq]
  exact ⟨rfl, rfl, rfl, rfl, rfl, rfl, rfl, rfl, rfl⟩

theorem post_cases (c : Conn α) (calls : List ReqId) (listen : Bool) (ver : Ver) (budget : Option Nat) :
    post c calls listen ver budget = statusEx c 202 ∨ post c calls listen ver budget = postDup c ver ∨
    ((∀ r ∈ dedup calls, c.reqStreams r = none) ∧
      (post c calls listen ver budget = postPrimed c (dedup calls) listen ver budget ∨
       post c calls listen ver budget = cut (postPrimed c (dedup calls) listen ver budget) c.exs.length)) := by
  unfold post
  split
  · exact Or.inl rfl
  · split
    · exact Or.inr (Or.inl rfl)
    · rename_i hany
      refine Or.inr (Or.inr ⟨?_, ?_⟩)
      · intro r hr
        cases hc : c.reqStreams r with
        | none => rfl
        | some v => exact absurd (List.any_eq_true.mpr ⟨r, hr, by rw [hc]; rfl⟩) hany
      · rw [postNew_eq]
        split
        · exact Or.inr rfl
        · exact Or.inl rfl

theorem inv_drawId {c : Conn α} (h : Inv c) (ver : Ver) :
    Inv ({ c with store := if opens c ver then openLog c.nextSid c.store else c.store, nextSid := c.nextSid + 1 } : Conn α) := by
  refine inv_frame h (StreamsRel.refl _) (ExKeep.refl _) ?_ (Nat.le_succ _)
  intro sid hsome
  simp only at hsome ⊢
  split at hsome
  · by_cases hk : sid = c.nextSid
    · omega
    · rw [openLog_other _ _ _ hk] at hsome; exact Nat.lt_succ_of_lt (h.store_lt sid hsome)
  · exact Nat.lt_succ_of_lt (h.store_lt sid hsome)

theorem inv_postDup {c : Conn α} (h : Inv c) (ver : Ver) : Inv (postDup c ver) :=
  inv_statusEx (inv_drawId h ver) _ _

def getEx (sid : SId) (frm : Nat) (budget : Option Nat) : Exch α :=
  ({ kind := .sse, budget := budget, stream := sid, «from» := frm } : Exch α).pushes (if sid = 0 then [.comment] else [])

theorem getOpen_eq (c : Conn α) (sid : SId) (frm : Nat) (budget : Option Nat) :
    getOpen c sid frm budget = { c with exs := c.exs ++ [getEx sid frm budget] } := by
  unfold getOpen getEx
  split
  · simp only [emit, emitX_fst, setEx_last]; rfl
  · rfl

/-- the replay loop writes a prefix of the replayed events to the exchange: all of them unless a write fails, which loses an
id-carrying event -/
theorem replayLoop_exs (sid ex : Nat) : ∀ (items : List (Item α)) (c : Conn α) (k : Nat),
    ∃ n, (replayLoop c ex sid k items).1.exs = setEx ex (fun e => e.pushes (replayed sid k (items.take n))) c.exs ∧
      ((replayLoop c ex sid k items).2 = true → n = items.length) ∧
      ∀ e, c.exs[ex]? = some e → idCount (e.pushes (replayed sid k (items.take n))).lost = idCount e.lost →
        n = items.length ∧ (replayLoop c ex sid k items).2 = true := by
  intro items
  induction items with
  | nil => intro c k; exact ⟨0, (setEx_touch_nil ex c.exs).symm, fun _ => rfl, fun _ _ _ => ⟨rfl, rfl⟩⟩
  | cons it rest ih =>
    intro c k
    have h1 : (emit c ex (.message (some (sid, k)) it)).1.exs = setEx ex (fun e => e.pushes [.message (some (sid, k)) it]) c.exs :=
      emitX_fst _ _ _
    unfold replayLoop
    split
    · rename_i hok
      obtain ⟨n, hn, hall, hlost⟩ := ih (emit c ex (.message (some (sid, k)) it)).1 (k + 1)
      refine ⟨n + 1, by rw [hn, h1, setEx_setEx]; rfl, fun hr => by rw [hall hr]; rfl, fun e he hl => ?_⟩
      have hp := (emitX_eq _ _ _ _ he).2 ▸ (show (emitX c.exs ex _).2 = true from hok)
      rcases push_result e (.message (some (sid, k)) it) with ⟨_, _, hpl⟩ | ⟨hf, _⟩
      · obtain ⟨h1, h2⟩ := hlost _ (emitX_eq _ _ _ _ he).1 (by rw [hpl]; exact hl)
        exact ⟨by rw [h1]; rfl, h2⟩
      · rw [hp] at hf; cases hf
    · rename_i hbad
      refine ⟨1, by rw [h1]; rfl, fun hf => by simp at hf, fun e he hl => ?_⟩
      have hp : (e.push (.message (some (sid, k)) it)).2 = false := by
        rw [← (emitX_eq _ _ _ _ he).2]; simpa [emit] using hbad
      rcases push_result e (.message (some (sid, k)) it) with ⟨ht, _⟩ | ⟨_, _, hpl⟩
      · rw [hp] at ht; cases ht
      · have : (e.pushes (replayed sid k ((it :: rest).take 1))).lost = e.lost ++ [.message (some (sid, k)) it] := hpl
        rw [this, idCount_append] at hl
        simp [idCount, Out.isEv] at hl

/-- `c0`: the state before the GET; `c`: after its replay loop -/
theorem inv_attach {c c0 : Conn α} (h : Inv c) (h0 : Inv c0) (hs : c.streams = c0.streams) (hn : c.nextSid = c0.nextSid)
    {s : Stream α} (hmem : s ∈ c0.streams) {e : Exch α}
    (he : c.exs[c0.exs.length]? = some e) (hes : e.stream = s.id) (next : Nat) (ver : Ver) (closed : Bool) :
    Inv (attach c s c0.exs.length next ver closed) := by
  have hatt : Inv ({ c with streams := setStream { s with attached := some c0.exs.length, opn := true, next := next, v1125 := ver.ge1125 } c.streams } : Conn α) := by
    have hold : ∀ x ∈ c.streams, x.attached ≠ some c0.exs.length := by
      intro x hx hxa
      rw [hs] at hx
      have := att_lt h0 hx hxa
      omega
    refine ⟨?_, ?_, h.store_lt, ?_, ?_, ?_, h.ex_ok, h.pend_lt⟩
    · simp only; rw [setStream_ids]; exact h.nodup
    · intro x hx
      simp only at hx
      rcases mem_setStream hx with rfl | ⟨hxl, _⟩
      · simp only; rw [hn]; exact h0.sid_lt s hmem
      · exact h.sid_lt x hxl
    · intro x hx ex hxa
      simp only at hx
      rcases mem_setStream hx with rfl | ⟨hxl, _⟩
      · simp only at hxa; cases hxa
        exact ⟨e, he, hes⟩
      · exact h.att x hxl ex hxa
    · intro x₁ hx1 x₂ hx2 ex a1 a2
      simp only at hx1 hx2
      rcases mem_setStream hx1 with rfl | ⟨hl1, _⟩ <;> rcases mem_setStream hx2 with rfl | ⟨hl2, _⟩
      · rfl
      · simp only at a1; cases a1; exact absurd a2 (hold x₂ hl2)
      · simp only at a2; cases a2; exact absurd a1 (hold x₁ hl1)
      · exact h.att_inj x₁ hl1 x₂ hl2 ex a1 a2
    · intro x hx hop
      simp only at hx
      rcases mem_setStream hx with rfl | ⟨hxl, _⟩
      · simp
      · exact h.opn_att x hxl hop
  unfold attach
  split
  · exact inv_cut hatt _
  · exact hatt

theorem replayLoop_only_exs (ex sid : Nat) : ∀ (items : List (Item α)) (c : Conn α) (k : Nat),
    (replayLoop c ex sid k items).1 = { c with exs := (replayLoop c ex sid k items).1.exs } := by
  intro items
  induction items with
  | nil => intro c k; rfl
  | cons it rest ih =>
    intro c k
    unfold replayLoop
    split
    · rw [ih (emit c ex (.message (some (sid, k)) it)).1 (k + 1)]; rfl
    · rfl

theorem getGo_shape (c : Conn α) (sid frm : Nat) (ver : Ver) (budget : Option Nat) (items : List (Item α)) :
    getGo c sid frm ver budget items = finish (replayLoop (getOpen c sid frm budget) c.exs.length sid frm items).1 c.exs.length ∨
    ∃ s, findStream sid c.streams = some s ∧ (replayLoop (getOpen c sid frm budget) c.exs.length sid frm items).2 = true ∧
      getGo c sid frm ver budget items =
        attach (replayLoop (getOpen c sid frm budget) c.exs.length sid frm items).1 s c.exs.length (frm + items.length) ver c.isDone := by
  unfold getGo
  split
  · rename_i hok
    split
    · exact Or.inl rfl
    · rename_i s hs
      split
      · exact Or.inl rfl
      · exact Or.inr ⟨s, hs, hok, rfl⟩
  · exact Or.inl rfl

theorem getReplay_only_exs (c : Conn α) (sid frm : Nat) (budget : Option Nat) (items : List (Item α)) :
    (replayLoop (getOpen c sid frm budget) c.exs.length sid frm items).1 =
      { c with exs := (replayLoop (getOpen c sid frm budget) c.exs.length sid frm items).1.exs } := by
  rw [replayLoop_only_exs]
  unfold getOpen
  split <;> rfl

theorem getGo_only_exs_streams (c : Conn α) (sid frm : Nat) (ver : Ver) (budget : Option Nat) (items : List (Item α)) :
    getGo c sid frm ver budget items =
      { c with exs := (getGo c sid frm ver budget items).exs, streams := (getGo c sid frm ver budget items).streams } := by
  rcases getGo_shape c sid frm ver budget items with h | ⟨s, _, _, h⟩ <;> rw [h, getReplay_only_exs]
  · rfl
  · unfold attach; split <;> rfl

theorem getGo_streams (c : Conn α) (sid : SId) (frm : Nat) (ver : Ver) (budget : Option Nat) (items : List (Item α)) :
    (getGo c sid frm ver budget items).streams = c.streams ∨
    ∃ s, findStream sid c.streams = some s ∧ (replayLoop (getOpen c sid frm budget) c.exs.length sid frm items).2 = true ∧
      ((getGo c sid frm ver budget items).streams =
          setStream { s with attached := some c.exs.length, opn := true, next := frm + items.length, v1125 := ver.ge1125 } c.streams ∨
       (getGo c sid frm ver budget items).streams = release c.exs.length
          (setStream { s with attached := some c.exs.length, opn := true, next := frm + items.length, v1125 := ver.ge1125 } c.streams)) := by
  rcases getGo_shape c sid frm ver budget items with h | ⟨s, hs, hok, h⟩ <;> rw [h, getReplay_only_exs]
  · exact Or.inl rfl
  · refine Or.inr ⟨s, hs, hok, ?_⟩
    unfold attach
    split
    · exact Or.inr rfl
    · exact Or.inl rfl

/-- `rel`: released again at once (closed session).  The middle case, an old row that claimed the new index, does not occur under `Inv`;
stating it keeps the lemma `Inv`-free. -/
theorem getGo_rows (c : Conn α) (sid : SId) (frm : Nat) (ver : Ver) (budget : Option Nat) (items : List (Item α)) :
    ∀ s' ∈ (getGo c sid frm ver budget items).streams, s' ∈ c.streams ∨
      (∃ s ∈ c.streams, s.attached = some c.exs.length ∧ s' = { s with attached := none, opn := false }) ∨
      ∃ s rel, findStream sid c.streams = some s ∧
        s' = { s with attached := if rel then none else some c.exs.length, opn := !rel, next := frm + items.length, v1125 := ver.ge1125 } := by
  intro s' hs'
  have hset : ∀ {s x}, findStream sid c.streams = some s → x ∈ setStream
      { s with attached := some c.exs.length, opn := true, next := frm + items.length, v1125 := ver.ge1125 } c.streams →
      x ∈ c.streams ∨ x = { s with attached := some c.exs.length, opn := true, next := frm + items.length, v1125 := ver.ge1125 } :=
    fun _ hx => (mem_setStream hx).symm.imp (·.1) id
  rcases getGo_streams c sid frm ver budget items with h | ⟨s, hf, _, h | h⟩ <;> rw [h] at hs'
  · exact .inl hs'
  · exact (hset hf hs').imp id fun e => .inr ⟨s, false, hf, e⟩
  · obtain ⟨x, hx, ⟨hat, e⟩ | ⟨_, e⟩⟩ := mem_release hs' <;> rw [e]
    · rcases hset hf hx with h' | rfl
      · exact .inr (.inl ⟨x, h', hat, rfl⟩)
      · exact .inr (.inr ⟨s, true, hf, rfl⟩)
    · exact (hset hf hx).imp id fun e => .inr ⟨s, false, hf, e⟩

theorem getGo_exs_replay (c : Conn α) (sid : SId) (frm : Nat) (ver : Ver) (budget : Option Nat) (items : List (Item α)) :
    (getGo c sid frm ver budget items).exs = (replayLoop (getOpen c sid frm budget) c.exs.length sid frm items).1.exs ∨
    (getGo c sid frm ver budget items).exs =
      finishX (replayLoop (getOpen c sid frm budget) c.exs.length sid frm items).1.exs c.exs.length := by
  rcases getGo_shape c sid frm ver budget items with h | ⟨s, _, _, h⟩ <;> rw [h]
  · exact Or.inr rfl
  · unfold attach
    split
    · exact Or.inr rfl
    · exact Or.inl rfl

theorem getReplay_eq (c : Conn α) (sid : SId) (frm : Nat) (budget : Option Nat) (items : List (Item α)) :
    ∃ n, (replayLoop (getOpen c sid frm budget) c.exs.length sid frm items).1 =
        { c with exs := c.exs ++ [(getEx sid frm budget).pushes (replayed sid frm (items.take n))] } ∧
      ((replayLoop (getOpen c sid frm budget) c.exs.length sid frm items).2 = true → n = items.length) ∧
      (idCount ((getEx sid frm budget).pushes (replayed sid frm (items.take n)) : Exch α).lost =
        idCount (getEx sid frm budget : Exch α).lost →
        n = items.length ∧ (replayLoop (getOpen c sid frm budget) c.exs.length sid frm items).2 = true) := by
  obtain ⟨n, hn, hall, hlost⟩ := replayLoop_exs sid c.exs.length items (getOpen c sid frm budget) frm
  have hg : (getOpen c sid frm budget).exs = c.exs ++ [getEx sid frm budget] := by rw [getOpen_eq]
  rw [hg, setEx_last] at hn
  exact ⟨n, by rw [getReplay_only_exs, hn], hall, hlost _ (by rw [hg]; exact List.getElem?_concat_length)⟩

theorem getGo_table (c : Conn α) (sid : SId) (frm : Nat) (ver : Ver) (budget : Option Nat) (items : List (Item α)) :
    ∃ n e₁, (getGo c sid frm ver budget items).exs = c.exs ++ [e₁] ∧
      (e₁ = (getEx sid frm budget).pushes (replayed sid frm (items.take n)) ∨
       e₁ = { (getEx sid frm budget).pushes (replayed sid frm (items.take n)) with ended := true }) ∧
      ((replayLoop (getOpen c sid frm budget) c.exs.length sid frm items).2 = true → n = items.length) ∧
      (idCount e₁.lost = idCount (getEx sid frm budget : Exch α).lost → n = items.length) := by
  obtain ⟨n, hn, hall, hlost⟩ := getReplay_eq c sid frm budget items
  rcases getGo_exs_replay c sid frm ver budget items with h | h <;> rw [h, hn]
  · exact ⟨n, _, rfl, .inl rfl, hall, fun h => (hlost h).1⟩
  · exact ⟨n, _, by simp only [finishX, setEx_last], .inr rfl, hall, fun h => (hlost h).1⟩

theorem inv_getGo {c : Conn α} (h : Inv c) (sid : SId) (frm : Nat) (ver : Ver) (budget : Option Nat) (items : List (Item α)) :
    Inv (getGo c sid frm ver budget items) := by
  obtain ⟨n, hn, _⟩ := getReplay_eq c sid frm budget items
  have h3 : Inv (replayLoop (getOpen c sid frm budget) c.exs.length sid frm items).1 := by
    rw [hn]
    exact inv_append_ex h _ (pushes_all (pushes_all (fun hl => absurd rfl hl) _).2 _).2
  rcases getGo_shape c sid frm ver budget items with hg | ⟨s, hst, _, hg⟩ <;> rw [hg]
  · exact inv_finish h3 _
  · obtain ⟨hmem, hsid⟩ := findStream_some hst
    exact inv_attach h3 h (by rw [hn]) (by rw [hn]) hmem (by rw [hn]; exact List.getElem?_concat_length)
      (by simp [getEx, hsid]) _ _ _

theorem inv_pendW {c : Conn α} (h : Inv c) (l : List (PendW α)) (hl : ∀ pw ∈ l, pw.sid < c.nextSid) :
    Inv ({ c with pendW := l } : Conn α) :=
  ⟨h.nodup, h.sid_lt, h.store_lt, h.att, h.att_inj, h.opn_att, h.ex_ok, hl⟩

theorem stream_unique {c : Conn α} (h : Inv c) {x s : Stream α} (hx : x ∈ c.streams) (hs : s ∈ c.streams) (hid : x.id = s.id) :
    x = s :=
  List.eq_of_nodup_map (·.id) h.nodup hx hs hid

theorem store_fresh {c : Conn α} (hw : Inv c) : c.store c.nextSid = none := by
  cases hc : c.store c.nextSid with
  | none => rfl
  | some l => exact absurd (hw.store_lt c.nextSid (by rw [hc]; rfl)) (Nat.lt_irrefl _)

theorem inv_unpend {c : Conn α} (h : Inv c) (i : Nat) : Inv ({ c with pendW := c.pendW.eraseIdx i } : Conn α) :=
  inv_pendW h _ (fun x hx => h.pend_lt x (List.mem_of_mem_eraseIdx hx))

theorem inv_appendLog {c c' : Conn α} (h : Inv c) {sid : SId} (x : Option (Item α)) (hlt : sid < c.nextSid)
    (hst : ∀ k, c'.store k = c.store k ∨ c'.store k = appendLog sid x c.store k) (hs : c'.streams = c.streams)
    (he : c'.exs = c.exs) (hn : c'.nextSid = c.nextSid) (hp : c'.pendW = c.pendW) : Inv c' := by
  refine inv_frame h (hs ▸ StreamsRel.refl _) (he ▸ ExKeep.refl _) ?_ (Nat.le_of_eq hn.symm) hp
  intro k hsome
  rw [hn]
  rcases hst k with hk | hk <;> rw [hk] at hsome
  · exact h.store_lt k hsome
  · by_cases hks : k = sid
    · rw [hks]; exact hlt
    · rw [appendLog_other _ _ _ _ hks] at hsome; exact h.store_lt k hsome

theorem inv_orphan {c : Conn α} (h : Inv c) (pw : PendW α) (hlt : pw.sid < c.nextSid) : Inv (orphanWrite c pw).1 :=
  inv_appendLog (c' := (orphanWrite c pw).1) h (some ⟨pw.msg, pw.ctx⟩) hlt
    (fun k => by simp only [orphanWrite]; split <;> simp) rfl rfl rfl rfl

theorem logLE_postDup (c : Conn α) (ver : Ver) : LogLE c.store (postDup c ver).store := by
  simp only [postDup, statusEx]
  split
  · exact logLE_openLog _ _
  · exact LogLE.refl _

theorem logLE_orphan (c : Conn α) (pw : PendW α) : LogLE c.store (orphanWrite c pw).1.store := by
  simp only [orphanWrite]
  split
  · exact logLE_appendLog _ _ _
  · exact LogLE.refl _

theorem logLE_writeTo (c : Conn α) (s : Stream α) (msg : Msg α) (ctx : Option Nat) (ctxNew : Bool) :
    LogLE c.store (writeTo c s msg ctx ctxNew).1.store := by
  simp only [writeTo]
  split
  · exact logLE_appendLog _ _ _
  · exact LogLE.refl _

theorem logLE_postStore (c : Conn α) (listen : Bool) (ver : Ver) : LogLE c.store (postStore c listen ver) := by
  simp only [postStore]
  split
  · split
    · exact (logLE_openLog _ _).trans (logLE_appendLog _ _ _)
    · exact logLE_appendLog _ _ _
  · split
    · exact logLE_openLog _ _
    · exact LogLE.refl _

end Resume
