import McpModel.Resume.Model
import McpModel.Base.Logic
/-!
Helper lemmas for E5: how the primitives of the model (`push`, `setEx`, `emitX`, `finishX`, the stream-table and store functions,
`eraseAll`, `replayItems`, `toReplay`) act on the projections of the state; `deliver`, `replayLoop` and the sections have their closed
forms in `McpModel.Resume.Inv`.  Defined here, because every file above speaks it: `ExOK`, `Exch.pushes`, `Exch.touch`, `replayed`;
for C08 `Out.isEv`, `idCount`, `Out.items`, `LogLE`, `evOf`, `SegFrom`.
-/
namespace Resume
variable {α : Type}

/-- events that carry an event id when a store is configured (`prime`, `message`) -/
def Out.isEv : Out α → Bool
  | .prime _ _ => true
  | .message _ _ => true
  | _ => false

/-- the messages carried by one write -/
def Out.items : Out α → List (Item α)
  | .message _ it => [it]
  | .json items => items
  | _ => []

def idCount : List (Out α) → Nat
  | [] => 0
  | o :: t => (if o.isEv then 1 else 0) + idCount t

theorem idCount_append (l₁ l₂ : List (Out α)) : idCount (l₁ ++ l₂) = idCount l₁ + idCount l₂ := by
  induction l₁ with
  | nil => simp [idCount]
  | cons o t ih => simp [idCount, ih]; omega

/-- the writer never recovers: once something was lost, the budget is exhausted -/
def ExOK (e : Exch α) : Prop := e.lost ≠ [] → e.budget = some 0

theorem lost_nil {e : Exch α} (h : ExOK e) (hb : e.budget ≠ some 0) : e.lost = [] := by
  by_cases hl : e.lost = []
  · exact hl
  · exact absurd (h hl) hb

theorem push_all (e : Exch α) (o : Out α) (h : ExOK e) : (e.push o).1.all = e.all ++ [o] := by
  unfold Exch.push Exch.all
  split
  · simp
  · rename_i b hb; simp [lost_nil h (by rw [hb]; simp)]
  · rename_i hb; simp [lost_nil h (by rw [hb]; simp)]

theorem push_ok (e : Exch α) (o : Out α) (h : ExOK e) : ExOK (e.push o).1 := by
  unfold Exch.push ExOK
  split
  · intro _; assumption
  · rename_i b hb; intro hl; exact absurd (lost_nil h (by rw [hb]; simp)) (by simpa using hl)
  · rename_i hb; intro hl; exact absurd (lost_nil h (by rw [hb]; simp)) (by simpa using hl)

@[simp] theorem push_stream (e : Exch α) (o : Out α) : (e.push o).1.stream = e.stream := by
  unfold Exch.push; split <;> rfl
@[simp] theorem push_from (e : Exch α) (o : Out α) : (e.push o).1.from = e.from := by
  unfold Exch.push; split <;> rfl
@[simp] theorem push_kind (e : Exch α) (o : Out α) : (e.push o).1.kind = e.kind := by
  unfold Exch.push; split <;> rfl
@[simp] theorem push_ended (e : Exch α) (o : Out α) : (e.push o).1.ended = e.ended := by
  unfold Exch.push; split <;> rfl

theorem push_none (e : Exch α) (o : Out α) (h : e.budget = none) :
    (e.push o).1 = { e with out := e.out ++ [o] } ∧ (e.push o).2 = true := by
  unfold Exch.push; rw [h]; simp

theorem push_true (e : Exch α) (o : Out α) (h : (e.push o).2 = true) :
    (e.push o).1.out = e.out ++ [o] ∧ (e.push o).1.lost = e.lost := by
  unfold Exch.push at h ⊢
  split <;> simp_all

@[simp] theorem length_setEx (ex : ExId) (f : Exch α → Exch α) (l : List (Exch α)) : (setEx ex f l).length = l.length := by
  simp [setEx]

theorem getElem?_setEx (ex : ExId) (f : Exch α → Exch α) (l : List (Exch α)) (j : Nat) :
    (setEx ex f l)[j]? = (fun a => if ex = j then f a else a) <$> l[j]? := by
  simp [setEx, List.getElem?_modify]

theorem getElem?_setEx_ne (ex : ExId) (f : Exch α → Exch α) (l : List (Exch α)) (j : Nat) (h : j ≠ ex) :
    (setEx ex f l)[j]? = l[j]? := by
  rw [getElem?_setEx]
  cases l[j]? with
  | none => rfl
  | some a => simp; intro h'; exact absurd h'.symm h

theorem getElem?_setEx_eq (ex : ExId) (f : Exch α → Exch α) (l : List (Exch α)) :
    (setEx ex f l)[ex]? = f <$> l[ex]? := by
  rw [getElem?_setEx]
  cases l[ex]? with
  | none => rfl
  | some a => simp

theorem setEx_get {ex : ExId} {f : Exch α → Exch α} {l : List (Exch α)} {j : Nat} {e' : Exch α}
    (h : (setEx ex f l)[j]? = some e') : (j = ex ∧ ∃ e, l[j]? = some e ∧ e' = f e) ∨ (j ≠ ex ∧ l[j]? = some e') := by
  by_cases hj : j = ex
  · subst hj
    rw [getElem?_setEx_eq] at h
    cases hl : l[j]? with
    | none => rw [hl] at h; cases h
    | some a => rw [hl] at h; exact Or.inl ⟨rfl, a, rfl, (Option.some.inj h).symm⟩
  · rw [getElem?_setEx_ne _ _ _ _ hj] at h
    exact Or.inr ⟨hj, h⟩

theorem mem_setEx {ex : ExId} {f : Exch α → Exch α} {l : List (Exch α)} {e : Exch α} (h : e ∈ setEx ex f l) :
    e ∈ l ∨ ∃ e₀, l[ex]? = some e₀ ∧ e = f e₀ := by
  obtain ⟨j, hj⟩ := List.getElem?_of_mem h
  rcases setEx_get hj with ⟨rfl, a, ha, rfl⟩ | ⟨_, hj'⟩
  · exact Or.inr ⟨a, ha, rfl⟩
  · exact Or.inl (List.mem_of_getElem? hj')

@[simp] theorem length_emitX (exs : List (Exch α)) (ex : ExId) (o : Out α) : (emitX exs ex o).1.length = exs.length := by
  unfold emitX; split <;> simp

theorem emitX_ne (exs : List (Exch α)) (ex : ExId) (o : Out α) (j : Nat) (h : j ≠ ex) :
    (emitX exs ex o).1[j]? = exs[j]? := by
  unfold emitX; split
  · rfl
  · simp [getElem?_setEx_ne _ _ _ _ h]

theorem emitX_eq (exs : List (Exch α)) (ex : ExId) (o : Out α) (e : Exch α) (h : exs[ex]? = some e) :
    (emitX exs ex o).1[ex]? = some (e.push o).1 ∧ (emitX exs ex o).2 = (e.push o).2 := by
  unfold emitX; rw [h]; simp [getElem?_setEx_eq, h]

theorem emitX_none (exs : List (Exch α)) (ex : ExId) (o : Out α) (h : exs[ex]? = none) :
    emitX exs ex o = (exs, false) := by
  unfold emitX; rw [h]

theorem mem_emitX {exs : List (Exch α)} {ex : ExId} {o : Out α} {e : Exch α} (h : e ∈ (emitX exs ex o).1) :
    e ∈ exs ∨ ∃ e₀, exs[ex]? = some e₀ ∧ e = (e₀.push o).1 := by
  unfold emitX at h; split at h
  · exact Or.inl h
  · exact mem_setEx h

@[simp] theorem length_finishX (exs : List (Exch α)) (ex : ExId) : (finishX exs ex).length = exs.length := by
  simp [finishX]

theorem finishX_ne (exs : List (Exch α)) (ex : ExId) (j : Nat) (h : j ≠ ex) : (finishX exs ex)[j]? = exs[j]? := by
  simp [finishX, getElem?_setEx_ne _ _ _ _ h]

theorem finishX_eq (exs : List (Exch α)) (ex : ExId) :
    (finishX exs ex)[ex]? = (fun e => { e with ended := true }) <$> exs[ex]? := by
  simp [finishX, getElem?_setEx_eq]

theorem finishX_get (exs : List (Exch α)) (ex : ExId) (j : Nat) (e : Exch α) (h : (finishX exs ex)[j]? = some e) :
    ∃ e₀, exs[j]? = some e₀ ∧ e.out = e₀.out ∧ e.lost = e₀.lost ∧ e.stream = e₀.stream ∧ e.from = e₀.from ∧
      e.budget = e₀.budget ∧ e.kind = e₀.kind := by
  rcases setEx_get (f := fun e => { e with ended := true }) h with ⟨rfl, a, ha, rfl⟩ | ⟨_, h'⟩
  · exact ⟨a, ha, rfl, rfl, rfl, rfl, rfl, rfl⟩
  · exact ⟨e, h', rfl, rfl, rfl, rfl, rfl, rfl⟩

theorem mem_finishX {exs : List (Exch α)} {ex : ExId} {e : Exch α} (h : e ∈ finishX exs ex) :
    ∃ e₀ ∈ exs, e.out = e₀.out ∧ e.lost = e₀.lost ∧ e.stream = e₀.stream ∧ e.from = e₀.from ∧ e.budget = e₀.budget := by
  obtain ⟨j, hj⟩ := List.getElem?_of_mem h
  obtain ⟨e₀, h0, a, b, c, d, f, _⟩ := finishX_get _ _ _ _ hj
  exact ⟨e₀, List.mem_of_getElem? h0, a, b, c, d, f⟩

def Exch.pushes (e : Exch α) (ws : List (Out α)) : Exch α := ws.foldl (fun e o => (e.push o).1) e

theorem pushes_cons (e : Exch α) (o : Out α) (ws : List (Out α)) : e.pushes (o :: ws) = (e.push o).1.pushes ws := rfl

theorem pushes_append (e : Exch α) (ws ws' : List (Out α)) : e.pushes (ws ++ ws') = (e.pushes ws).pushes ws' := by
  simp [Exch.pushes, List.foldl_append]

@[simp] theorem pushes_stream (e : Exch α) (ws : List (Out α)) : (e.pushes ws).stream = e.stream := by
  induction ws generalizing e with
  | nil => rfl
  | cons o t ih => rw [pushes_cons, ih, push_stream]
@[simp] theorem pushes_from (e : Exch α) (ws : List (Out α)) : (e.pushes ws).from = e.from := by
  induction ws generalizing e with
  | nil => rfl
  | cons o t ih => rw [pushes_cons, ih, push_from]
@[simp] theorem pushes_kind (e : Exch α) (ws : List (Out α)) : (e.pushes ws).kind = e.kind := by
  induction ws generalizing e with
  | nil => rfl
  | cons o t ih => rw [pushes_cons, ih, push_kind]
@[simp] theorem pushes_ended (e : Exch α) (ws : List (Out α)) : (e.pushes ws).ended = e.ended := by
  induction ws generalizing e with
  | nil => rfl
  | cons o t ih => rw [pushes_cons, ih, push_ended]

theorem pushes_all {e : Exch α} (h : ExOK e) (ws : List (Out α)) : (e.pushes ws).all = e.all ++ ws ∧ ExOK (e.pushes ws) := by
  induction ws generalizing e with
  | nil => exact ⟨by simp [Exch.pushes], h⟩
  | cons o t ih =>
    obtain ⟨h1, h2⟩ := ih (push_ok e o h)
    exact ⟨by rw [pushes_cons, h1, push_all e o h]; simp, h2⟩

theorem mem_push_all {e : Exch α} {o o' : Out α} (h : o' ∈ (e.push o).1.all) : o' ∈ e.all ∨ o' = o := by
  unfold Exch.push at h
  unfold Exch.all at *
  split at h <;> simp only [List.mem_append, List.mem_singleton] at h ⊢
  · rcases h with h | h | h
    · exact Or.inl (Or.inl h)
    · exact Or.inl (Or.inr h)
    · exact Or.inr h
  all_goals
    rcases h with (h | h) | h
    · exact Or.inl (Or.inl h)
    · exact Or.inr h
    · exact Or.inl (Or.inr h)

theorem mem_pushes_all {e : Exch α} {ws : List (Out α)} {o : Out α} (h : o ∈ (e.pushes ws).all) : o ∈ e.all ∨ o ∈ ws := by
  induction ws generalizing e with
  | nil => exact .inl h
  | cons a t ih =>
    rcases ih h with h | h
    · exact (mem_push_all h).imp id (fun (h' : o = a) => h' ▸ List.mem_cons_self)
    · exact .inr (List.mem_cons_of_mem _ h)

theorem push_result (e : Exch α) (o : Out α) :
    ((e.push o).2 = true ∧ (e.push o).1.out = e.out ++ [o] ∧ (e.push o).1.lost = e.lost) ∨
    ((e.push o).2 = false ∧ (e.push o).1.out = e.out ∧ (e.push o).1.lost = e.lost ++ [o]) := by
  unfold Exch.push; split <;> simp

theorem pushes_counts (e : Exch α) (ws : List (Out α)) (hev : ∀ o ∈ ws, o.isEv = true) :
    idCount e.lost ≤ idCount (e.pushes ws).lost ∧
    (idCount (e.pushes ws).lost = idCount e.lost → (e.pushes ws).out = e.out ++ ws ∧ (e.pushes ws).lost = e.lost) := by
  induction ws generalizing e with
  | nil => exact ⟨Nat.le_refl _, fun _ => ⟨by simp [Exch.pushes], rfl⟩⟩
  | cons o t ih =>
    obtain ⟨hle, heq⟩ := ih (e.push o).1 (fun x hx => hev x (List.mem_cons_of_mem _ hx))
    rw [pushes_cons]
    rcases push_result e o with ⟨_, ho, hl⟩ | ⟨_, _, hl⟩ <;> rw [hl] at hle heq
    · exact ⟨hle, fun h => by rw [(heq h).1, (heq h).2, ho]; simp⟩
    · rw [idCount_append] at hle heq
      have : idCount [o] = 1 := by simp [idCount, hev o List.mem_cons_self]
      exact ⟨by omega, fun h => by omega⟩

theorem pushes_healthy (e : Exch α) (ws : List (Out α)) (hb : e.budget = none) (hl : e.lost = []) :
    (e.pushes ws).budget = none ∧ (e.pushes ws).lost = [] := by
  induction ws generalizing e with
  | nil => exact ⟨hb, hl⟩
  | cons o t ih => rw [pushes_cons, (push_none e o hb).1]; exact ih _ hb hl

/-- One entry after a critical section: `ws` were written to it (`Exch.pushes`, in order), then it perhaps ended.  Every primitive
on the exchange table is a `setEx` (`emitX` too, whether or not the index exists), so what a whole section does to the table is
one `setEx … (Exch.touch ws fin)`, or one new entry `e₀.touch ws fin` at the end. -/
def Exch.touch (ws : List (Out α)) (fin : Bool) (e : Exch α) : Exch α :=
  if fin then { e.pushes ws with ended := true } else e.pushes ws

theorem touch_touch (ws ws' : List (Out α)) (f : Bool) (e : Exch α) : (e.touch ws false).touch ws' f = e.touch (ws ++ ws') f := by
  simp [Exch.touch, pushes_append]

@[simp] theorem touch_stream (e : Exch α) (ws : List (Out α)) (fin : Bool) : (e.touch ws fin).stream = e.stream := by
  unfold Exch.touch; split <;> simp
@[simp] theorem touch_from (e : Exch α) (ws : List (Out α)) (fin : Bool) : (e.touch ws fin).from = e.from := by
  unfold Exch.touch; split <;> simp
@[simp] theorem touch_kind (e : Exch α) (ws : List (Out α)) (fin : Bool) : (e.touch ws fin).kind = e.kind := by
  unfold Exch.touch; split <;> simp

theorem touch_all {e : Exch α} (h : ExOK e) (ws : List (Out α)) (fin : Bool) :
    (e.touch ws fin).all = e.all ++ ws ∧ ExOK (e.touch ws fin) := by
  unfold Exch.touch; split <;> exact pushes_all h ws

theorem mem_touch_all {e : Exch α} {ws : List (Out α)} {fin : Bool} {o : Out α} (h : o ∈ (e.touch ws fin).all) :
    o ∈ e.all ∨ o ∈ ws := by
  unfold Exch.touch at h; split at h <;> exact mem_pushes_all h

theorem emitX_fst (exs : List (Exch α)) (ex : ExId) (o : Out α) : (emitX exs ex o).1 = setEx ex (Exch.touch [o] false) exs := by
  unfold emitX
  split
  · rename_i h; exact (List.modify_eq_self (by simpa using h)).symm
  · rfl

theorem finishX_touch (exs : List (Exch α)) (ex : ExId) : finishX exs ex = setEx ex (Exch.touch [] true) exs := rfl

theorem setEx_setEx (x : ExId) (f g : Exch α → Exch α) (l : List (Exch α)) : setEx x f (setEx x g l) = setEx x (f ∘ g) l := by
  simp [setEx, List.modify_modify_eq]

theorem setEx_touch_nil (x : ExId) (l : List (Exch α)) : setEx x (Exch.touch [] false) l = l := by
  apply List.ext_getElem?
  intro i
  rw [getElem?_setEx]
  cases l[i]? <;> simp [Exch.touch, Exch.pushes]

theorem setEx_last (l : List (Exch α)) (e : Exch α) (f : Exch α → Exch α) : setEx l.length f (l ++ [e]) = l ++ [f e] := by
  induction l with
  | nil => rfl
  | cons a t ih => exact congrArg (a :: ·) ih

theorem finishX_emitX (exs : List (Exch α)) (ex : ExId) (o : Out α) :
    finishX (emitX exs ex o).1 ex = setEx ex (Exch.touch [o] true) exs := by
  rw [emitX_fst, finishX_touch, setEx_setEx]
  exact congrArg (setEx ex · exs) (funext (touch_touch [o] [] true))

/-- the events a replay of `items` writes, under the ids `(sid, k)`, `(sid, k + 1)`, … -/
def replayed (sid : SId) : Nat → List (Item α) → List (Out α)
  | _, [] => []
  | k, it :: rest => .message (some (sid, k)) it :: replayed sid (k + 1) rest

theorem mem_replayed {sid : SId} {k : Nat} {l : List (Item α)} {o : Out α} (h : o ∈ replayed sid k l) :
    ∃ k' it, it ∈ l ∧ o = .message (some (sid, k')) it := by
  induction l generalizing k with
  | nil => cases h
  | cons a t ih =>
    rcases List.mem_cons.mp h with rfl | h
    · exact ⟨k, a, List.mem_cons_self, rfl⟩
    · obtain ⟨k', it, hm, ho⟩ := ih h; exact ⟨k', it, List.mem_cons_of_mem _ hm, ho⟩

theorem findStream_some {sid : SId} {l : List (Stream α)} {s : Stream α} (h : findStream sid l = some s) :
    s ∈ l ∧ s.id = sid := by
  unfold findStream at h
  refine ⟨List.mem_of_find?_eq_some h, ?_⟩
  have := List.find?_some h
  simpa using this

theorem findStream_none {sid : SId} {l : List (Stream α)} (h : findStream sid l = none) :
    ∀ s ∈ l, s.id ≠ sid := by
  unfold findStream at h
  rw [List.find?_eq_none] at h
  intro s hs; have := h s hs; simpa using this

theorem findStream_of_mem {l : List (Stream α)} (hn : (l.map (·.id)).Nodup) {s : Stream α} (hs : s ∈ l) :
    findStream s.id l = some s :=
  List.find?_key_of_nodup (fun s : Stream α => s.id) hn hs

theorem findListen_some {l : List (Stream α)} {s : Stream α} (h : findListen l = some s) : s ∈ l ∧ s.listen = true := by
  unfold findListen at h
  exact And.intro (List.mem_of_find?_eq_some h) (List.find?_some h)

theorem mem_setStream {s' x : Stream α} {l : List (Stream α)} (h : x ∈ setStream s' l) :
    x = s' ∨ (x ∈ l ∧ x.id ≠ s'.id) := by
  unfold setStream at h
  rw [List.mem_map] at h
  obtain ⟨a, ha, rfl⟩ := h
  by_cases hid : a.id = s'.id
  · left; simp [hid]
  · right; simp only [hid, if_false]; exact And.intro ha hid

theorem setStream_ids (s' : Stream α) (l : List (Stream α)) : (setStream s' l).map (·.id) = l.map (·.id) := by
  unfold setStream
  rw [List.map_map]
  apply List.map_congr_left
  intro a _
  by_cases hid : a.id = s'.id <;> simp [hid]

theorem findStream_cons (sid : Nat) (a : Stream α) (t : List (Stream α)) :
    findStream sid (a :: t) = if a.id = sid then some a else findStream sid t := by
  unfold findStream
  rw [List.find?_cons]
  by_cases ha : a.id = sid
  · simp [ha]
  · have hb : (a.id == sid) = false := by simp [ha]
    simp [hb, ha]

theorem findStream_setStream {l : List (Stream α)} {s s' : Stream α} (h : findStream s.id l = some s) (hid : s'.id = s.id) :
    findStream s.id (setStream s' l) = some s' := by
  induction l with
  | nil => simp [findStream] at h
  | cons a t ih =>
    rw [findStream_cons] at h
    have hset : setStream s' (a :: t) = (if a.id = s'.id then s' else a) :: setStream s' t := by simp [setStream]
    rw [hset, findStream_cons]
    by_cases ha : a.id = s.id
    · simp [ha, hid]
    · rw [if_neg ha] at h
      have ha' : ¬ a.id = s'.id := by rw [hid]; exact ha
      simp only [ha', if_false, ha]
      exact ih h

theorem mem_setStream_self {s' s : Stream α} {l : List (Stream α)} (hs : s ∈ l) (hid : s.id = s'.id) :
    s' ∈ setStream s' l := by
  unfold setStream
  rw [List.mem_map]
  exact ⟨s, hs, by simp [hid]⟩

theorem mem_setStream_other {s' x : Stream α} {l : List (Stream α)} (hx : x ∈ l) (hid : x.id ≠ s'.id) :
    x ∈ setStream s' l := by
  unfold setStream
  rw [List.mem_map]
  exact ⟨x, hx, by simp [hid]⟩

theorem mem_delStream {sid : SId} {x : Stream α} {l : List (Stream α)} :
    x ∈ delStream sid l ↔ x ∈ l ∧ x.id ≠ sid := by
  unfold delStream
  rw [List.mem_filter]
  simp

theorem delStream_ids_sublist (sid : SId) (l : List (Stream α)) :
    ((delStream sid l).map (·.id)).Sublist (l.map (·.id)) := by
  unfold delStream
  exact (List.filter_sublist).map _

theorem mem_release {ex : ExId} {x : Stream α} {l : List (Stream α)} (h : x ∈ release ex l) :
    ∃ s ∈ l, (s.attached = some ex ∧ x = { s with attached := none, opn := false }) ∨ (s.attached ≠ some ex ∧ x = s) := by
  unfold release at h
  rw [List.mem_map] at h
  obtain ⟨a, ha, rfl⟩ := h
  by_cases hat : a.attached = some ex
  · exact ⟨a, ha, Or.inl ⟨hat, by simp [hat]⟩⟩
  · exact ⟨a, ha, Or.inr ⟨hat, by simp [hat]⟩⟩

theorem release_ids (ex : ExId) (l : List (Stream α)) : (release ex l).map (·.id) = l.map (·.id) := by
  unfold release
  rw [List.map_map]
  apply List.map_congr_left
  intro a _
  by_cases hat : a.attached = some ex <;> simp [hat]

theorem eraseIdx_snoc {β : Type} (l : List β) (a : β) : (l ++ [a]).eraseIdx l.length = l := by
  rw [List.eraseIdx_append_of_length_le (Nat.le_refl _)]; simp

theorem mem_eraseAll {r x : Nat} {l : List Nat} (h : x ∈ eraseAll r l) : x ∈ l ∧ x ≠ r := by
  induction l with
  | nil => cases h
  | cons a t ih =>
    simp only [eraseAll] at h
    split at h
    · obtain ⟨h1, h2⟩ := ih h; exact ⟨List.mem_cons_of_mem _ h1, h2⟩
    · rename_i hne
      rcases List.mem_cons.mp h with rfl | h'
      · exact ⟨List.mem_cons_self, hne⟩
      · obtain ⟨h1, h2⟩ := ih h'; exact ⟨List.mem_cons_of_mem _ h1, h2⟩

theorem mem_eraseAll_of {r x : Nat} {l : List Nat} (h : x ∈ l) (hne : x ≠ r) : x ∈ eraseAll r l := by
  induction l with
  | nil => cases h
  | cons a t ih =>
    simp only [eraseAll]
    rcases List.mem_cons.mp h with rfl | h'
    · simp [hne]
    · split
      · exact ih h'
      · exact List.mem_cons_of_mem _ (ih h')

theorem mem_eraseAll_iff (r x : Nat) (l : List Nat) : x ∈ eraseAll r l ↔ x ∈ l ∧ x ≠ r :=
  ⟨mem_eraseAll, fun h => mem_eraseAll_of h.1 h.2⟩

theorem eraseAll_eq_nil (r : Nat) (l : List Nat) : eraseAll r l = [] ↔ ∀ x ∈ l, x = r := by
  constructor
  · intro h x hx
    by_cases hxr : x = r
    · exact hxr
    · have : x ∈ eraseAll r l := (mem_eraseAll_iff r x l).mpr ⟨hx, hxr⟩
      rw [h] at this; cases this
  · intro h
    cases hl : eraseAll r l with
    | nil => rfl
    | cons a t =>
      have : a ∈ eraseAll r l := by rw [hl]; exact List.mem_cons_self
      obtain ⟨h1, h2⟩ := (mem_eraseAll_iff r a l).mp this
      exact absurd (h a h1) h2

theorem mem_wReqs {s : Stream α} {msg : Msg α} {r : Nat} (h : r ∈ wReqs s msg) : r ∈ s.requests := by
  unfold wReqs at h
  split at h
  · exact (mem_eraseAll h).1
  · exact h

theorem wReqs_ne {s : Stream α} {id : Nat} {p : α} {r : Nat} (h : r ∈ wReqs s (.resp id p)) : r ≠ id := by
  simp only [wReqs] at h; exact (mem_eraseAll h).2

@[simp] theorem appendLog_same (sid : SId) (x : Option (Item α)) (st : Store α) :
    appendLog sid x st sid = some ((st sid).getD [] ++ [x]) := by simp [appendLog]

theorem appendLog_other (sid k : SId) (x : Option (Item α)) (st : Store α) (h : k ≠ sid) :
    appendLog sid x st k = st k := by simp [appendLog, h]

@[simp] theorem openLog_same (sid : SId) (st : Store α) : openLog sid st sid = some ((st sid).getD []) := by simp [openLog]

theorem openLog_other (sid k : SId) (st : Store α) (h : k ≠ sid) : openLog sid st k = st k := by simp [openLog, h]

theorem openLog_getD (sid k : SId) (st : Store α) : (openLog sid st k).getD [] = (st k).getD [] := by
  by_cases h : k = sid
  · subst h; simp
  · rw [openLog_other _ _ _ h]

def LogLE (st st' : Store α) : Prop := ∀ sid log, st sid = some log → ∃ more, st' sid = some (log ++ more)

theorem LogLE.refl (st : Store α) : LogLE st st := fun _ log h => ⟨[], by simp [h]⟩

theorem LogLE.trans {a b c : Store α} (h₁ : LogLE a b) (h₂ : LogLE b c) : LogLE a c := by
  intro sid log h
  obtain ⟨m₁, h1⟩ := h₁ sid log h
  obtain ⟨m₂, h2⟩ := h₂ sid _ h1
  exact ⟨m₁ ++ m₂, by simp [h2]⟩

theorem logLE_appendLog (sid : SId) (x : Option (Item α)) (st : Store α) : LogLE st (appendLog sid x st) := by
  intro k log h
  by_cases hk : k = sid
  · subst hk; exact ⟨[x], by simp [h]⟩
  · exact ⟨[], by simp [appendLog_other _ _ _ _ hk, h]⟩

theorem logLE_openLog (sid : SId) (st : Store α) : LogLE st (openLog sid st) := by
  intro k log h
  by_cases hk : k = sid
  · subst hk; exact ⟨[], by simp [h]⟩
  · exact ⟨[], by simp [openLog_other _ _ _ hk, h]⟩

theorem replayItems_some {c : Conn α} {sid frm : Nat} {items : List (Item α)} (hst : c.cfg.hasStore = true)
    (h : replayItems c sid frm = some items) :
    c.isDone = false ∧ ∃ log, c.store sid = some log ∧ ¬ frm < c.purged sid ∧ items = toReplay log frm := by
  simp only [replayItems, hst, if_true] at h
  split at h
  · cases h
  · rename_i hd
    split at h
    · cases h
    · rename_i log hlog
      split at h
      · cases h
      · rename_i hp
        exact ⟨by simpa using hd, log, hlog, hp, by simpa using h.symm⟩

theorem replayItems_nostore {c : Conn α} {sid frm : Nat} {items : List (Item α)} (hst : c.cfg.hasStore = false)
    (h : replayItems c sid frm = some items) : items = [] := by
  simp [replayItems, hst] at h; exact h

theorem mem_toReplay {log : List (Option (Item α))} {frm : Nat} {it : Item α} (h : it ∈ toReplay log frm) : some it ∈ log := by
  unfold toReplay at h
  rw [List.mem_filterMap] at h
  obtain ⟨x, hx, hid⟩ := h
  simp at hid; subst hid
  exact List.mem_of_mem_drop hx

theorem replayItems_mem {c : Conn α} {sid frm : Nat} {items : List (Item α)} (h : replayItems c sid frm = some items) :
    ∀ it ∈ items, ∃ log, c.store sid = some log ∧ some it ∈ log := by
  intro it hit
  cases hst : c.cfg.hasStore with
  | true =>
    obtain ⟨_, log, hlog, _, rfl⟩ := replayItems_some hst h
    exact ⟨log, hlog, mem_toReplay hit⟩
  | false =>
    rw [replayItems_nostore hst h] at hit; cases hit

theorem replayItems_eq {c : Conn α} {sid frm : Nat} {log : List (Option (Item α))} (hst : c.cfg.hasStore = true)
    (hd : c.isDone = false) (hl : c.store sid = some log) (hp : ¬ frm < c.purged sid) :
    replayItems c sid frm = some (toReplay log frm) := by
  simp [replayItems, hst, hd, hl, hp]

/-- the SSE event that carries log entry `x` of stream `sid` at index `i` (with a store) -/
def evOf (sid : SId) (i : Nat) : Option (Item α) → Out α
  | none => .prime sid i
  | some it => .message (some (sid, i)) it

/-- `SegFrom log sid i l`: the id-carrying events of `l` are, in order, exactly the log entries at
positions `i, i+1, …`, each with event id `(sid, position)`. -/
def SegFrom (log : List (Option (Item α))) (sid : SId) : Nat → List (Out α) → Prop
  | _, [] => True
  | i, o :: rest =>
    if o.isEv then (∃ x, log[i]? = some x ∧ o = evOf sid i x) ∧ SegFrom log sid (i + 1) rest
    else SegFrom log sid i rest

theorem segFrom_append (log : List (Option (Item α))) (sid : SId) (i : Nat) (l₁ l₂ : List (Out α)) :
    SegFrom log sid i (l₁ ++ l₂) ↔ SegFrom log sid i l₁ ∧ SegFrom log sid (i + idCount l₁) l₂ := by
  induction l₁ generalizing i with
  | nil => simp [SegFrom, idCount]
  | cons o t ih =>
    by_cases ho : o.isEv = true
    · simp only [List.cons_append, SegFrom, ho, if_true, idCount, ih]
      have : i + 1 + idCount t = i + (1 + idCount t) := by omega
      rw [this]; constructor
      · rintro ⟨a, b, c⟩; exact ⟨⟨a, b⟩, c⟩
      · rintro ⟨⟨a, b⟩, c⟩; exact ⟨a, b, c⟩
    · simp only [List.cons_append, SegFrom, ho, idCount, ih]
      simp

theorem segFrom_mono {log log' : List (Option (Item α))} (h : ∃ more, log' = log ++ more) (sid : SId) (i : Nat)
    (l : List (Out α)) (hs : SegFrom log sid i l) : SegFrom log' sid i l := by
  obtain ⟨more, rfl⟩ := h
  induction l generalizing i with
  | nil => trivial
  | cons o t ih =>
    by_cases ho : o.isEv = true
    · simp only [SegFrom, ho, if_true] at hs ⊢
      obtain ⟨⟨x, hx, he⟩, ht⟩ := hs
      refine ⟨⟨x, ?_, he⟩, ih _ ht⟩
      have hlt : i < log.length := (List.getElem?_eq_some_iff.mp hx).1
      rw [List.getElem?_append_left hlt]; exact hx
    · simp only [SegFrom, ho] at hs ⊢
      exact ih _ hs

theorem segFrom_bound (log : List (Option (Item α))) (sid : SId) (i : Nat) (l : List (Out α))
    (hs : SegFrom log sid i l) : idCount l = 0 ∨ i + idCount l ≤ log.length := by
  induction l generalizing i with
  | nil => left; rfl
  | cons o t ih =>
    by_cases ho : o.isEv = true
    · simp only [SegFrom, ho, if_true] at hs
      obtain ⟨⟨x, hx, _⟩, ht⟩ := hs
      right
      have hlt : i < log.length := (List.getElem?_eq_some_iff.mp hx).1
      simp only [idCount, ho, if_true]
      rcases ih _ ht with h0 | h1
      · omega
      · omega
    · simp only [SegFrom, ho] at hs
      simp only [idCount, ho]
      rcases ih _ hs with h0 | h1
      · left; simp [h0]
      · right; simpa using h1

theorem filterMap_id_map_some {β : Type} (l : List (Option β)) (h : ∀ x ∈ l, x ≠ none) : (l.filterMap id).map some = l := by
  induction l with
  | nil => rfl
  | cons a t ih =>
    cases a with
    | none => exact absurd rfl (h none (List.mem_cons_self))
    | some v =>
      simp only [List.filterMap_cons, id, List.map_cons]
      rw [ih (fun x hx => h x (List.mem_cons_of_mem _ hx))]

theorem toReplay_map_some (log : List (Option (Item α))) (frm : Nat) (h : ∀ i, frm ≤ i → log[i]? ≠ some none) :
    (toReplay log frm).map some = log.drop frm := by
  unfold toReplay
  apply filterMap_id_map_some
  intro x hx hxn
  subst hxn
  obtain ⟨i, hi⟩ := List.getElem?_of_mem hx
  rw [List.getElem?_drop] at hi
  exact h (frm + i) (by omega) hi

theorem toReplay_get (log : List (Option (Item α))) (frm : Nat) (h : ∀ i, frm ≤ i → log[i]? ≠ some none) (i : Nat) (it : Item α)
    (hi : (toReplay log frm)[i]? = some it) : log[frm + i]? = some (some it) := by
  have := congrArg (fun l => l[i]?) (toReplay_map_some log frm h)
  simp only [List.getElem?_map, hi, List.getElem?_drop] at this
  exact this.symm

theorem toReplay_length (log : List (Option (Item α))) (frm : Nat) (h : ∀ i, frm ≤ i → log[i]? ≠ some none) :
    (toReplay log frm).length = log.length - frm := by
  have := congrArg List.length (toReplay_map_some log frm h)
  simpa using this

theorem idCount_replayed (sid k : Nat) (l : List (Item α)) : idCount (replayed sid k l) = l.length := by
  induction l generalizing k with
  | nil => rfl
  | cons it rest ih => simp only [replayed, idCount, Out.isEv, if_true, ih, List.length_cons]; omega

theorem segFrom_replayed (log : List (Option (Item α))) (sid k : Nat) (l : List (Item α))
    (h : ∀ i it, l[i]? = some it → log[k + i]? = some (some it)) : SegFrom log sid k (replayed sid k l) := by
  induction l generalizing k with
  | nil => trivial
  | cons it rest ih =>
    simp only [replayed, SegFrom, Out.isEv, if_true]
    refine ⟨⟨some it, by simpa using h 0 it rfl, rfl⟩, ih (k + 1) (fun i it' hi => ?_)⟩
    have := h (i + 1) it' (by simpa using hi)
    rw [← this]; congr 1; omega

end Resume
