import McpModel.Resume.C08
import McpModel.Resume.InvK
/-!
E5 — what `Write`, POST and GET do, case by case: the outcomes of a write (`writeR_cases`) and its delivery on a healthy
attached stream (`wDeliver_healthy`), the exchange a POST opens (`post_new`), the outcomes of a GET (`get_cases`), that it
writes the exchange table and `streams` only (`get_eq`), and what its replay delivered (`getGo_new`, `get_new`: a replay that
lost no event delivered every stored entry after the resume point).  Stated once for the state-level properties and for
the monitor bridges.  At the end the kind of the exchange at an index (`kindAt`), which the id-reuse bridge reads.
-/
namespace Resume
variable {α : Type}

/-- `Write` is rejected at once (a call on a stateless / session-less connection), rejected after the routing section (no
stream to write to, or the session is closed), or runs its delivery section on the routed stream -/
theorem writeR_cases (c : Conn α) (msg : Msg α) (ctx : Option Nat) (ctxNew : Bool) :
    writeR c msg ctx ctxNew = (c, .rejected) ∨ (∃ r, writeR c msg ctx ctxNew = (eraseResp c msg, r)) ∨
    ∃ s, route c msg ctx = some s ∧ c.isDone = false ∧
      writeR c msg ctx ctxNew = writeTo (eraseResp c msg) s msg ctx ctxNew := by
  unfold writeR
  split
  · exact Or.inl rfl
  · split
    · exact Or.inr (Or.inl ⟨_, rfl⟩)
    · rename_i s hs
      split
      · exact Or.inr (Or.inl ⟨_, rfl⟩)
      · rename_i hd; exact Or.inr (Or.inr ⟨s, hs, by simpa using hd, rfl⟩)

/-- `deliverLocked` on a stream attached to an open exchange whose writer is healthy: the exchange receives the message
event (SSE) or, once the stream is done, the JSON body; its handler returns exactly if the stream is done -/
theorem wDeliver_healthy {c : Conn α} {s : Stream α} {x : Nat} {e : Exch α} (hat : s.attached = some x) (hop : s.opn = true)
    (hex : c.exs[x]? = some e) (hb : e.budget = none) (msg : Msg α) (ctx : Option Nat) (ctxNew : Bool) :
    (wDeliver c s msg ctx ctxNew).1[x]? = some { e with
      out := e.out ++ (match s.json with
        | none => [.message (if wUse c ctxNew then some (s.id, s.next) else none) ⟨msg, ctx⟩]
        | some pend => if wDone s msg then [.json (pend ++ [⟨msg, ctx⟩])] else []),
      ended := e.ended || wDone s msg } ∧
    (wDeliver c s msg ctx ctxNew).2.2 = true := by
  have hpush : ∀ o : Out α, (emitX c.exs x o).1[x]? = some { e with out := e.out ++ [o] } ∧ (emitX c.exs x o).2 = true := by
    intro o
    obtain ⟨h1, h2⟩ := emitX_eq c.exs x o e hex
    rw [(push_none e o hb).1] at h1
    exact ⟨h1, by rw [h2, (push_none e o hb).2]⟩
  simp only [wDeliver, deliver, hat, hop]
  cases s.json with
  | none =>
    simp only
    cases wDone s msg with
    | true => simp only [if_true]; rw [finishX_eq, (hpush _).1]; exact ⟨by simp, (hpush _).2⟩
    | false => simp only [Bool.false_eq_true, if_false, Bool.or_false]; exact hpush _
  | some pend =>
    simp only
    cases wDone s msg with
    | true => simp only [if_true]; rw [finishX_eq, (hpush _).1]; exact ⟨by simp, (hpush _).2⟩
    | false => simp only [Bool.false_eq_true, if_false, Bool.or_false, List.append_nil]; exact ⟨hex, trivial⟩

theorem post_new (c : Conn α) (calls : List Nat) (listen : Bool) (ver : Ver) (budget : Option Nat) :
    ∀ e, (post c calls listen ver budget).exs[c.exs.length]? = some e → e.from = 0 := by
  intro e he
  have hp : ∀ e, (postPrimed c (dedup calls) listen ver budget).exs[c.exs.length]? = some e → e.from = 0 := by
    intro e he
    rw [postPrimed_eq] at he
    simp only [List.getElem?_concat_length, Option.some.injEq] at he
    subst he; simp [postEx]
  rcases post_cases c calls listen ver budget with h | h | ⟨_, h | h⟩ <;> rw [h] at he
  · simp [statusEx] at he; subst he; rfl
  · simp [postDup, statusEx] at he; subst he; rfl
  · exact hp e he
  · simp only [cut, finish] at he
    obtain ⟨e0, h0, _, _, _, hf, _⟩ := finishX_get _ _ _ _ he
    rw [hf]; exact hp e0 h0

theorem statusEx_kind {c : Conn α} {code : Nat} {e : Exch α} (he : (statusEx c code).exs[c.exs.length]? = some e) :
    e.kind = .status code := by
  simp [statusEx] at he; subst he; rfl

theorem statusEx_not_live {c : Conn α} {code : Nat} {e : Exch α} (he : (statusEx c code).exs[c.exs.length]? = some e) :
    ¬ e.live := by
  intro hl
  unfold Exch.live at hl
  rw [statusEx_kind he] at hl
  rcases hl with h | h <;> cases h

/-- `serveGET` answers 400 (malformed header, no store to replay from, `After` failed), 409 (the stream is claimed), or
serves what `After` returned -/
theorem get_cases (c : Conn α) (hdr : Hdr) (ver : Ver) (budget : Option Nat) :
    (get c hdr ver budget = statusEx c 400 ∧
      (hdr = .bad ∨ (hdr.has = true ∧ c.cfg.hasStore = false) ∨ replayItems c hdr.sid hdr.from = none)) ∨
    (get c hdr ver budget = statusEx c 409 ∧ hdr ≠ .bad ∧ ∃ ex, (findStream hdr.sid c.streams).bind (·.attached) = some ex) ∨
    (∃ items, get c hdr ver budget = getGo c hdr.sid hdr.from ver budget items ∧ hdr ≠ .bad ∧
      (findStream hdr.sid c.streams).bind (·.attached) = none ∧ replayItems c hdr.sid hdr.from = some items) := by
  unfold get
  split
  · rename_i h; exact Or.inl ⟨rfl, Or.inl h⟩
  · rename_i hnb
    split
    · rename_i h; exact Or.inl ⟨rfl, Or.inr (Or.inl (by simpa using h))⟩
    · split
      · rename_i ex h; exact Or.inr (Or.inl ⟨rfl, hnb, ex, h⟩)
      · rename_i hfree
        split
        · rename_i h; exact Or.inl ⟨rfl, Or.inr (Or.inr h)⟩
        · rename_i items h; exact Or.inr (Or.inr ⟨items, rfl, hnb, hfree, h⟩)

theorem get_eq (c : Conn α) (hdr : Hdr) (ver : Ver) (budget : Option Nat) :
    get c hdr ver budget = { c with exs := (get c hdr ver budget).exs, streams := (get c hdr ver budget).streams } := by
  rcases get_cases c hdr ver budget with ⟨h, _⟩ | ⟨h, _⟩ | ⟨items, h, _⟩ <;> rw [h]
  · rfl
  · rfl
  · exact getGo_only_exs_streams _ _ _ _ _ _

theorem getEx_counts (sid frm : Nat) (budget : Option Nat) :
    idCount (getEx sid frm budget : Exch α).out = 0 ∧ idCount (getEx sid frm budget : Exch α).lost = 0 := by
  unfold getEx
  split
  · rcases push_result ({ kind := .sse, budget := budget, stream := sid, «from» := frm } : Exch α) .comment with
      ⟨_, ho, hl⟩ | ⟨_, ho, hl⟩ <;> simp [Exch.pushes, ho, hl, idCount, Out.isEv]
  · simp [Exch.pushes, idCount]

theorem getGo_new (c : Conn α) (sid frm : Nat) (ver : Ver) (budget : Option Nat) (items : List (Item α)) :
    ∀ e, (getGo c sid frm ver budget items).exs[c.exs.length]? = some e →
      e.stream = sid ∧ e.from = frm ∧ e.kind = .sse ∧ (idCount e.lost = 0 → idCount e.out = items.length) := by
  intro e he
  obtain ⟨n, e₁, htab, he₁, _, hn⟩ := getGo_table c sid frm ver budget items
  rw [htab, List.getElem?_concat_length] at he
  obtain rfl := Option.some.inj he
  obtain ⟨h0, h1⟩ := getEx_counts (α := α) sid frm budget
  have hc := (pushes_counts (getEx sid frm budget) (replayed sid frm (items.take n))
    (fun o ho => by obtain ⟨_, _, _, rfl⟩ := mem_replayed ho; rfl)).2
  obtain ⟨a1, a2, a3, a4, a5⟩ : e₁.stream = sid ∧ e₁.from = frm ∧ e₁.kind = .sse ∧
      e₁.out = ((getEx sid frm budget).pushes (replayed sid frm (items.take n))).out ∧
      e₁.lost = ((getEx sid frm budget).pushes (replayed sid frm (items.take n))).lost := by
    rcases he₁ with rfl | rfl <;> simp [getEx]
  refine ⟨a1, a2, a3, fun hl => ?_⟩
  have hl' : idCount e₁.lost = idCount (getEx sid frm budget : Exch α).lost := hl.trans h1.symm
  rw [a4, (hc (a5 ▸ hl')).1, idCount_append, h0, idCount_replayed, hn hl', List.take_length]
  simp

theorem get_new {c : Conn α} (h8 : Inv08 c) (hst : c.cfg.hasStore = true) (hdr : Hdr) (ver : Ver) (budget : Option Nat)
    (hsc : InScope c (.get hdr ver budget)) :
    ∀ e, (get c hdr ver budget).exs[c.exs.length]? = some e → e.live →
      e.stream = hdr.sid ∧ e.from = hdr.from ∧ ¬ hdr.from < c.purged hdr.sid ∧
      (idCount e.lost = 0 → e.from ≤ ((c.store e.stream).getD []).length →
        e.from + idCount e.out = ((c.store e.stream).getD []).length) := by
  intro e he hl
  rcases get_cases c hdr ver budget with ⟨h, _⟩ | ⟨h, _⟩ | ⟨items, h, hnb, _, hitems⟩ <;> rw [h] at he
  · exact absurd hl (statusEx_not_live he)
  · exact absurd hl (statusEx_not_live he)
  · obtain ⟨_, log, hlog, hnp, rfl⟩ := replayItems_some hst hitems
    have hnn : ∀ i, hdr.from ≤ i → log[i]? ≠ some none := by
      cases hdr with
      | none =>
        intro i _ hi
        exact (h8.shape 0 log i hlog hi).2 rfl
      | bad => exact absurd rfl hnb
      | ok sid idx =>
        intro i hi hn
        have := (h8.shape sid log i hlog hn).1
        simp [Hdr.from] at hi; omega
    obtain ⟨hs, hf, _, hc⟩ := getGo_new c hdr.sid hdr.from ver budget (toReplay log hdr.from) e he
    refine ⟨hs, hf, hnp, ?_⟩
    intro hl hle
    rw [hs, hlog] at hle ⊢
    simp only [Option.getD_some] at hle ⊢
    rw [hc hl, toReplay_length log hdr.from hnn, hf]
    rw [hf] at hle
    omega

def kindAt (c : Conn α) (k : Nat) : Option Kind := (c.exs[k]?).map (·.kind)

theorem kind_modify (f : Exch α → Exch α) (hf : ∀ e, (f e).kind = e.kind) (l : List (Exch α)) (i k : Nat) :
    ((l.modify i f)[k]?).map (·.kind) = (l[k]?).map (·.kind) := by
  rw [List.getElem?_modify]
  cases l[k]? with
  | none => rfl
  | some e => simp only [Option.map_some]; split <;> simp [hf]

theorem kindAt_postNew (c : Conn α) (calls : List Nat) (listen : Bool) (ver : Ver) (budget : Option Nat) :
    kindAt (postNew c calls listen ver budget) c.exs.length = some (if useSSE c listen then .sse else .json) := by
  have hp : kindAt (postPrimed c calls listen ver budget) c.exs.length = some (if useSSE c listen then .sse else .json) := by
    simp [kindAt, postPrimed_eq, postEx]
  rw [postNew_eq]
  split
  · exact (kind_modify (fun e => { e with ended := true }) (fun _ => rfl) _ _ _).trans hp
  · exact hp

end Resume
