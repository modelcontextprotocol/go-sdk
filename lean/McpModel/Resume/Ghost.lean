import McpModel.Resume.C10
import McpModel.Resume.Grow
import McpModel.Resume.InvK
/-!
E5 — the structural invariant of the ghost `Conn.born` (`InvBorn`: which POST exchange registered which stream; `invBorn_step`), that
the ghost history only grows (`Ext`, `sub_ext`), and

`InvMsg P` (see `McpModel.Resume.C10`) for a per-message predicate `P` that is monotone in the ghost history of
the connection (`PMono`): if every write is routed to a stream on which `P` holds, then `P` holds for every message
on every exchange, in every JSON buffer and in every log, on all label lists (`invMsg_step`).  `Routed` (C10) is one
instance; the provenance-tag consistency `TagOK` (`McpModel.Resume.Tag10`) used by the C10 bridging theorem is another.
-/
namespace Resume
variable {α : Type}

/-- `born sid = some x`: POST exchange `x` registered stream `sid`.  `hist` / `bh`: apart from the standalone stream, `born` and the ghost
`hist` are defined on the same ids; `h0`: the standalone stream's `hist` entry. -/
structure InvBorn (c : Conn α) : Prop where
  npos : 0 < c.nextSid
  lt : ∀ sid x, c.born sid = some x → sid < c.nextSid ∧ sid ≠ 0
  ex : ∀ sid x, c.born sid = some x → ∃ e, c.exs[x]? = some e ∧ e.stream = sid ∧ e.live ∧ e.from = 0
  hist : ∀ sid, sid ≠ 0 → (c.hist sid).isSome → (c.born sid).isSome
  inj : ∀ sid sid' x, c.born sid = some x → c.born sid' = some x → sid = sid'
  bh : ∀ sid x, c.born sid = some x → (c.hist sid).isSome
  h0 : c.hist 0 = some ([], false)

theorem invBorn_init (cfg : Cfg) : InvBorn (init cfg : Conn α) := by
  refine ⟨Nat.zero_lt_one, ?_, ?_, ?_, ?_, ?_, rfl⟩
  · intro sid x h; cases h
  · intro sid x h; cases h
  · intro sid hne hs; simp [init, hne] at hs
  · intro sid sid' x h; cases h
  · intro sid x h; cases h

structure Ext (c c' : Conn α) : Prop where
  cfg : c'.cfg = c.cfg
  hist : ∀ sid v, c.hist sid = some v → c'.hist sid = some v
  born : ∀ sid x, c.born sid = some x → c'.born sid = some x

theorem Ext.refl (c : Conn α) : Ext c c := ⟨rfl, fun _ _ h => h, fun _ _ h => h⟩
theorem Ext.trans {a b c : Conn α} (h₁ : Ext a b) (h₂ : Ext b c) : Ext a c :=
  ⟨h₂.cfg.trans h₁.cfg, fun s v h => h₂.hist s v (h₁.hist s v h), fun s x h => h₂.born s x (h₁.born s x h)⟩

theorem ext_of_eq {c c' : Conn α} (h1 : c'.cfg = c.cfg) (h2 : c'.hist = c.hist) (h3 : c'.born = c.born) : Ext c c' :=
  ⟨h1, fun s v h => by rw [h2]; exact h, fun s x h => by rw [h3]; exact h⟩

theorem step_ghost_other (c : Conn α) (l : Label α) (hl : ∀ calls listen ver b, l ≠ .post calls listen ver b) :
    (step c l).born = c.born ∧ (step c l).hist = c.hist := by
  obtain ⟨c₁, hs, ht⟩ := step_shape c l
  obtain ⟨_, _, he⟩ := tail_only_exs_streams ht
  rcases (sub_frame hs).book with ⟨hh, hb, _⟩ | ⟨_, _, _, _, h, _⟩
  · rw [he]; exact ⟨hb, hh⟩
  · exact absurd h (hl _ _ _ _)

theorem status_not_live {e : Exch α} {code : Nat} (h : e.kind = .status code) : ¬ e.live := by
  rintro (hl | hl) <;> rw [h] at hl <;> cases hl

theorem post_ghost (c : Conn α) (calls : List Nat) (listen : Bool) (ver : Ver) (budget : Option Nat) :
    ((post c calls listen ver budget).born = c.born ∧ (post c calls listen ver budget).hist = c.hist ∧
      (post c calls listen ver budget).exs.length = c.exs.length + 1 ∧
      (∀ e, (post c calls listen ver budget).exs[c.exs.length]? = some e → ¬ e.live) ∧
      (post c calls listen ver budget).nextSid ≥ c.nextSid) ∨
    ((post c calls listen ver budget).born = (fun k => if k = c.nextSid then some c.exs.length else c.born k) ∧
      (post c calls listen ver budget).hist = (fun k => if k = c.nextSid then some (dedup calls, listen) else c.hist k) ∧
      (post c calls listen ver budget).nextSid = c.nextSid + 1 ∧
      ∃ e, (post c calls listen ver budget).exs[c.exs.length]? = some e ∧ e.stream = c.nextSid ∧ e.live ∧ e.from = 0) := by
  obtain ⟨_, _, fn, _, _, _, fh, hb, _⟩ := postPrimed_frame c (dedup calls) listen ver budget
  obtain ⟨e, he, hs, hl, hf⟩ := postPrimed_new_live c (dedup calls) listen ver budget
  rcases post_cases c calls listen ver budget with h | h | ⟨_, h | h⟩ <;> rw [h]
  · refine Or.inl ⟨rfl, rfl, by simp [statusEx], ?_, Nat.le_refl _⟩
    intro e he; simp [statusEx] at he; subst he; exact status_not_live rfl
  · refine Or.inl ⟨rfl, rfl, by simp [postDup, statusEx], ?_, by simp [postDup, statusEx]⟩
    intro e he; simp [postDup, statusEx] at he; subst he; exact status_not_live rfl
  · exact Or.inr ⟨hb, fh, fn, e, he, hs, hl, hf⟩
  · exact Or.inr ⟨hb, fh, fn, { e with ended := true }, by simp only [cut, finish]; rw [finishX_eq, he]; rfl, hs, hl, hf⟩

theorem sub_ext {c c₁ : Conn α} {l : Label α} (h10 : Inv10 c) (hb : InvBorn c) (hs : Sub c l c₁) : Ext c c₁ := by
  refine ⟨(sub_frame hs).cfg, sub_hist_mono h10 hs, ?_⟩
  intro sid x hx
  rcases (sub_frame hs).book with ⟨_, h, _⟩ | ⟨_, _, _, _, _, rfl⟩
  · rw [h]; exact hx
  · rw [(postPrimed_frame _ _ _ _ _).born]
    have : sid ≠ c.nextSid := fun hh => by have := (hb.lt sid x hx).1; omega
    simp [this, hx]

theorem tail_ext {c c₁ : Conn α} (ht : Tail c c₁) : Ext c c₁ := by
  obtain ⟨_, _, he⟩ := tail_only_exs_streams ht
  rw [he]; exact ext_of_eq rfl rfl rfl

theorem ext_step {c : Conn α} (h10 : Inv10 c) (hb : InvBorn c) (l : Label α) : Ext c (step c l) := by
  obtain ⟨c₁, hs, ht⟩ := step_shape c l
  exact (sub_ext h10 hb hs).trans (tail_ext ht)

theorem born_ex_grow {c c' : Conn α} (hb : InvBorn c) (hg : Grow c c') (sid x : Nat) (hx : c.born sid = some x) :
    ∃ e, c'.exs[x]? = some e ∧ e.stream = sid ∧ e.live ∧ e.from = 0 := by
  obtain ⟨e, he, hs, hl, hf⟩ := hb.ex sid x hx
  obtain ⟨e', he', g⟩ := hg.exs.2 x e he
  refine ⟨e', he', by rw [g.stream, hs], ?_, by rw [g.frm, hf]⟩
  unfold Exch.live at hl ⊢; rw [g.kind]; exact hl

theorem invBorn_frame {c c' : Conn α} (hb : InvBorn c) (hg : Grow c c') (hh : c'.hist = c.hist) (hbn : c'.born = c.born) :
    InvBorn c' := by
  refine ⟨Nat.lt_of_lt_of_le hb.npos hg.nextSid, ?_, ?_, ?_, ?_, ?_, by rw [hh]; exact hb.h0⟩
  · intro sid x hx; rw [hbn] at hx
    exact ⟨Nat.lt_of_lt_of_le (hb.lt sid x hx).1 hg.nextSid, (hb.lt sid x hx).2⟩
  · intro sid x hx; rw [hbn] at hx; exact born_ex_grow hb hg sid x hx
  · intro sid hne hs; rw [hh] at hs; rw [hbn]; exact hb.hist sid hne hs
  · intro sid sid' x h1 h2; rw [hbn] at h1 h2; exact hb.inj sid sid' x h1 h2
  · intro sid x hx; rw [hbn] at hx; rw [hh]; exact hb.bh sid x hx

theorem invBorn_postPrimed {c : Conn α} (hb : InvBorn c) (calls : List Nat) (listen : Bool) (ver : Ver) (b : Option Nat)
    (hg : Grow c (postPrimed c calls listen ver b)) : InvBorn (postPrimed c calls listen ver b) := by
  obtain ⟨_, _, e3, _, _, _, e2, e1, _⟩ := postPrimed_frame c calls listen ver b
  have hxlt : ∀ sid x, c.born sid = some x → x < c.exs.length := by
    intro sid x hx
    obtain ⟨e, he, _⟩ := hb.ex sid x hx
    exact (List.getElem?_eq_some_iff.mp he).1
  refine ⟨by rw [e3]; omega, ?_, ?_, ?_, ?_, ?_, ?_⟩
  · intro sid x hx; rw [e1] at hx; rw [e3]
    simp only at hx
    split at hx
    · rename_i hk; subst hk; exact ⟨by omega, by have := hb.npos; omega⟩
    · exact ⟨by have := (hb.lt sid x hx).1; omega, (hb.lt sid x hx).2⟩
  · intro sid x hx; rw [e1] at hx
    simp only at hx
    split at hx
    · rename_i hk; subst hk; cases hx; exact postPrimed_new_live c calls listen ver b
    · exact born_ex_grow hb hg sid x hx
  · intro sid hne hs; rw [e2] at hs; rw [e1]
    simp only at hs ⊢
    split
    · rfl
    · rename_i hk; simp only [hk, if_false] at hs; exact hb.hist sid hne hs
  · intro sid sid' x h1 h2; rw [e1] at h1 h2
    simp only at h1 h2
    split at h1 <;> split at h2
    · rename_i a b; rw [a, b]
    · cases h1; have := hxlt _ _ h2; omega
    · cases h2; have := hxlt _ _ h1; omega
    · exact hb.inj sid sid' x h1 h2
  · intro sid x hx; rw [e1] at hx; rw [e2]
    simp only at hx ⊢
    split
    · rfl
    · rename_i hk; simp only [hk, if_false] at hx; exact hb.bh sid x hx
  · rw [e2]
    have : (0 : Nat) ≠ c.nextSid := by have := hb.npos; omega
    simp [this, hb.h0]

theorem invBorn_step {c : Conn α} (hw : Inv c) (hb : InvBorn c) (l : Label α) : InvBorn (step c l) :=
  step_ind hw l
    (fun c₁ hs => by
      rcases (sub_frame hs).book with ⟨hh, hbn, _⟩ | ⟨_, _, _, _, _, rfl⟩
      · exact invBorn_frame hb (grow_sub hw hs) hh hbn
      · exact invBorn_postPrimed hb _ _ _ _ (grow_sub hw hs))
    (fun c₁ c₂ hw₁ h₁ ht => by
      obtain ⟨_, _, he⟩ := tail_only_exs_streams ht
      exact invBorn_frame h₁ (grow_tail hw₁ ht) (by rw [he]) (by rw [he]))

/-- `P` only depends on the configuration and the (growing) ghost history -/
def PMono (P : Conn α → Nat → Item α → Prop) : Prop :=
  ∀ (c c' : Conn α), Ext c c' → ∀ sid it, P c sid it → P c' sid it

variable {P : Conn α → Nat → Item α → Prop}

theorem invMsg_finish (hP : PMono P) {c : Conn α} (h : InvMsg P c) (ex : Nat) : InvMsg P (finish c ex) :=
  invMsg_frame (Q := fun _ _ => False) h (hP c _ (ext_of_eq rfl rfl rfl)) rfl (StrKeep.refl _) (outsBy_finishX _ _)
    (fun _ _ hq => hq.elim)

theorem pendP_step (hP : PMono P) {c : Conn α} (h10 : Inv10 c) (hb : InvBorn c) (hpp : PendP P c) (l : Label α)
    (hl : RouteOK P c l) : PendP P (step c l) := by
  intro pw hp
  have hext := ext_step h10 hb l
  rcases step_pendW c l pw hp with h0 | ⟨msg, ctx, ctxNew, s, rfl, hs, rfl⟩
  · exact hP _ _ hext _ _ (hpp pw h0)
  · exact hP _ _ hext _ _ (hl s hs)

theorem invMsg_step (hP : PMono P) {c : Conn α} (hw : Inv c) (h10 : Inv10 c) (hb : InvBorn c) (h : InvMsg P c) (hpp : PendP P c)
    (l : Label α) (hl : RouteOK P c l) : InvMsg P (step c l) :=
  step_ind hw l (fun c₁ hs => invMsg_sub hw h (hP c c₁ (sub_ext h10 hb hs)) hl hpp hs)
    (fun c₁ c₂ _ h₁ ht => invMsg_tail h₁ (hP c₁ c₂ (tail_ext ht)) ht)

end Resume
