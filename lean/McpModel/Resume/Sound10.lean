import McpModel.Base.Logic
import McpModel.Resume.Monitor
/-!
# C10 — what a raised routing clause means

`routeCheck_sound`: a routing clause is raised only when the routing specification `RouteSpec` fails on the monitor's own
records; `routeCheck_complete` is the converse: no clause ⇒ the specification holds up to what the monitor has evidence for
(`own ≠ .no`: confirmed, or no evidence about the stream's creator).  `RouteSpec` has one case per provenance, not one per
clause: which `RouteClause` is raised is in no statement.  What a failing case means: the tag's session is not the session of the
exchange; the message is neither on the POST exchange named by its tag nor on a stream whose recorded creator is that
POST (`own = .no`, spelled out by `own_no`); a detached / server-initiated / JSON-mode message is on a request
stream that is not a listen stream; a fan-out copy (`Prov.fanout`) is on a request stream in a session other than the
issuing one, or on a request stream that is not the issuing request's own (or the caller did not pass its context).
The records themselves (`posts`) only ever hold first evidence: `bindPost_first`.
-/
namespace Resume
namespace Mon
variable {σ π : Type} [DecidableEq σ] [DecidableEq π]

def RouteSpec (m : MonS σ π) (pv : Prov σ) (sess : σ) (stream k : Option Nat) : Prop :=
  match pv with
  | .resp id ps req post => id = req ∧ ps = sess ∧ own m sess stream k post ≠ .no
  | .initResp id =>
      ((idsOfEx m k).contains id || (idsOfEx m (creator m sess stream)).contains id || creatorUnknown m sess stream k) = true
  | .inReq ps _ post =>
      ps = sess ∧ (if m.jsonMode then standaloneOrListen m sess stream k = true else own m sess stream k post ≠ .no)
  | .detached ps => ps = sess ∧ standaloneOrListen m sess stream k = true
  | .server => standaloneOrListen m sess stream k = true
  | .fanout ps _ post hctx =>
      standaloneOrListen m sess stream k = true ∨ (ps = sess ∧ hctx = true ∧ own m sess stream k post ≠ .no)
  | .other => False

theorem routeCheck_none_iff (m : MonS σ π) (pv : Prov σ) (sess : σ) (stream k : Option Nat) :
    routeCheck m pv sess stream k = none ↔ RouteSpec m pv sess stream k := by
  cases pv with
  | resp id ps req post =>
    simp only [routeCheck, RouteSpec, ite_some_eq_none, Decidable.not_not, ne_eq, and_true]
  | initResp id => simp only [routeCheck, RouteSpec, ite_eq_none_iff, reduceCtorEq, and_false, or_false, and_true]
  | inReq ps req post =>
    simp only [routeCheck, RouteSpec, ite_eq_none_iff, Decidable.not_not, ne_eq, and_true, reduceCtorEq, and_false, or_false, false_or]
    cases m.jsonMode
    · by_cases h2 : own m sess stream k post = .no
      · simp only [h2, true_and, not_true_eq_false, or_false, Bool.false_eq_true, false_and, not_false_eq_true, false_or, if_false, and_false, iff_false, not_and]
        -- not the request's own stream: some clause is raised, whichever
        intro _; split
        · split <;> simp
        · simp
      · simp [h2]
    · simp
  | detached ps => simp only [routeCheck, RouteSpec, ite_eq_none_iff, Decidable.not_not, ne_eq, and_true, reduceCtorEq, and_false, or_false, false_or]
  | server => simp only [routeCheck, RouteSpec, ite_eq_none_iff, and_true, reduceCtorEq, and_false, or_false]
  | fanout ps req post hctx =>
    simp only [routeCheck, RouteSpec, ite_eq_none_iff, Decidable.not_not, ne_eq, and_true, reduceCtorEq, and_false, or_false, false_or]
    by_cases h : standaloneOrListen m sess stream k = true <;> simp [h]
  | other => simp [routeCheck, RouteSpec]

theorem routeCheck_complete (m : MonS σ π) (pv : Prov σ) (sess : σ) (stream k : Option Nat)
    (h : routeCheck m pv sess stream k = none) : RouteSpec m pv sess stream k :=
  (routeCheck_none_iff m pv sess stream k).mp h

theorem routeCheck_sound (m : MonS σ π) (pv : Prov σ) (sess : σ) (stream k : Option Nat) (c : RouteClause)
    (h : routeCheck m pv sess stream k = some c) : ¬ RouteSpec m pv sess stream k := by
  intro hs
  rw [(routeCheck_none_iff m pv sess stream k).mpr hs] at h
  cases h

/-- `own = .no` spelled out: not the POST exchange itself, and the recorded creator is another POST — or there is
provably none: no stream known for a POST exchange, the standalone stream, or a POST exchange other than the
tag's (a POST exchange is the creator of its own stream) -/
theorem own_no (m : MonS σ π) (sess : σ) (stream k : Option Nat) (post : Nat) (h : own m sess stream k post = .no) :
    k ≠ some post ∧ ((∃ p, creator m sess stream = some p ∧ p ≠ post) ∨
      (creator m sess stream = none ∧ creatorUnknown m sess stream k = false)) := by
  unfold own at h
  split at h
  · cases h
  · rename_i hk
    refine ⟨hk, ?_⟩
    split at h
    · rename_i p hp
      split at h
      · cases h
      · rename_i hne; exact Or.inl ⟨p, hp, hne⟩
    · rename_i hp
      split at h
      · cases h
      · rename_i hu; exact Or.inr ⟨hp, by simpa using hu⟩

theorem bindPost_first (m : MonS σ π) (s : σ) (t k p : Nat) (h : m.posts s t = some p) : (m.bindPost s t k).posts s t = some p := by
  unfold MonS.bindPost
  rw [h]
  exact h

end Mon
end Resume
