import McpModel.Resume.Ghost
/-!
E5 — `application/json` bodies only ever appear on exchanges of JSON streams (request streams of a
connection in JSON-response mode that are not `subscriptions/listen` streams): `InvJ`, preserved by every label
(`invJ_step`; along a run it travels inside `Inv10All`, `McpModel.Resume.Tag10`).
With the routing invariant: a JSON body carries responses only (`json_body_responses`, about one state).
-/
namespace Resume
variable {α : Type}

/-- a request stream whose POST is answered with `application/json` -/
def JSONStream (c : Conn α) (sid : Nat) : Prop :=
  c.cfg.jsonResponse = true ∧ sid ≠ 0 ∧ ∃ calls, c.hist sid = some (calls, false)

theorem jsonStream_ext {c c' : Conn α} (h : Ext c c') {sid : Nat} (hj : JSONStream c sid) : JSONStream c' sid := by
  obtain ⟨h1, h2, calls, h3⟩ := hj
  exact ⟨by rw [h.cfg]; exact h1, h2, calls, h.hist sid _ h3⟩

def Out.notJson : Out α → Prop
  | .json _ => False
  | _ => True

structure InvJ (c : Conn α) : Prop where
  str : ∀ s ∈ c.streams, s.json.isSome → JSONStream c s.id
  ex : ∀ (j : Nat) (e : Exch α), c.exs[j]? = some e → ∀ o ∈ e.all, ¬ o.notJson → JSONStream c e.stream

theorem invJ_init (cfg : Cfg) : InvJ (init cfg : Conn α) := by
  refine ⟨?_, ?_⟩
  · intro s hs h; obtain rfl := List.mem_singleton.mp hs; cases h
  · intro j e he; cases he

/-- exchange tables whose new writes are not JSON bodies -/
def ExNoJ (exs exs' : List (Exch α)) : Prop :=
  ∀ (j : Nat) (e' : Exch α), exs'[j]? = some e' →
    (∃ e, exs[j]? = some e ∧ e'.stream = e.stream ∧ ∀ o ∈ e'.all, o ∈ e.all ∨ o.notJson) ∨
    (∀ o ∈ e'.all, o.notJson)

theorem ExNoJ.trans {a b c : List (Exch α)} (h₁ : ExNoJ a b) (h₂ : ExNoJ b c) : ExNoJ a c :=
  ExNo.trans (Q := Out.notJson) h₁ h₂

theorem wrote_json {c : Conn α} {l : Label α} (h : InvJ c) {sid : Nat} {o : Out α} (hq : Wrote c l sid o) (hn : ¬ o.notJson) :
    JSONStream c sid := by
  cases hq with
  | json msg ctx s pend _ hs hid hp => rw [← hid]; exact h.str s hs (by rw [hp]; rfl)
  | _ => exact absurd trivial hn

theorem invJ_of {c c₁ : Conn α} {l : Label α} {Q : Nat → Out α → Prop} (h : InvJ c) (hext : Ext c c₁)
    (hn : ∀ calls listen ver budget, l = .post calls listen ver budget → 0 < c.nextSid)
    (hstr : ∀ s' ∈ c₁.streams, StreamOf c l c₁.hist s') (hex : OutsBy Q c.exs c₁.exs)
    (hQ : ∀ sid o, Q sid o → ¬ o.notJson → JSONStream c sid) : InvJ c₁ := by
  refine ⟨?_, ?_⟩
  · intro s' hs' hj
    rcases hstr s' hs' with ⟨s, hs, h1, _, _, _, hjs⟩ | ⟨calls, listen, ver, budget, hl, rfl, hh⟩
    · rw [h1]
      refine jsonStream_ext hext (h.str s hs ?_)
      rcases hjs with hjs | ⟨pend, _, _, hjs, _⟩
      · rw [← hjs]; exact hj
      · rw [hjs]; rfl
    · simp only [newStream] at hj ⊢
      split at hj
      · cases hj
      · rename_i hu
        simp only [useSSE, Bool.or_eq_true, Bool.not_eq_true', not_or, Bool.not_eq_false, Bool.not_eq_true] at hu
        exact ⟨by rw [hext.cfg]; exact hu.1, Nat.ne_of_gt (hn _ _ _ _ hl), dedup calls, by rw [hh, hu.2]⟩
  · intro j e' he' o ho hnj
    apply jsonStream_ext hext
    rcases hex j e' he' o ho with ⟨e, he, hs, ho'⟩ | hq
    · rw [hs]; exact h.ex j e he o ho' hnj
    · exact hQ _ o hq hnj

theorem invJ_finish {c : Conn α} (h : InvJ c) (ex : Nat) : InvJ (finish c ex) :=
  invJ_of (l := .end) (Q := fun _ _ => False) h (ext_of_eq rfl rfl rfl) (fun _ _ _ _ hl => by cases hl)
    (streamOf_keep (StrKeep.refl _)) (outsBy_finishX _ _) (fun _ _ hq => hq.elim)

theorem invJ_step {c : Conn α} (hw : Inv c) (h10 : Inv10 c) (hb : InvBorn c) (h : InvJ c) (l : Label α) : InvJ (step c l) :=
  step_ind hw l
    (fun c₁ hs => invJ_of h (sub_ext h10 hb hs) (fun _ _ _ _ _ => hb.npos) (sub_streams hs) (sub_outs hw hs) (fun _ _ => wrote_json h))
    (fun c₁ c₂ _ h₁ ht => invJ_of (l := .end) (Q := fun _ _ => False) h₁ (tail_ext ht) (fun _ _ _ _ hl => by cases hl)
      (streamOf_keep (tail_strKeep ht)) (tail_outs ht) (fun _ _ hq => hq.elim))

theorem json_body_responses {c : Conn α} (h10 : Inv10 c) (hj : InvJ c) (j : Nat) (e : Exch α) (he : c.exs[j]? = some e)
    (items : List (Item α)) (ho : Out.json items ∈ e.all) (it : Item α) (hit : it ∈ items) : ∃ id p, it.msg = .resp id p := by
  obtain ⟨hjr, hne, calls, hh⟩ := hj.ex j e he (.json items) ho (fun h => h)
  obtain ⟨calls', li, hh', hm⟩ := h10.routed_ex j e he (.json items) ho it hit
  rw [hh] at hh'; cases hh'
  cases hmsg : it.msg with
  | resp id p => exact ⟨id, p, rfl⟩
  | _ =>
    rw [hmsg] at hm
    rcases hm with ⟨hf, _⟩ | ⟨_, h0 | hl⟩
    · rw [hjr] at hf; cases hf
    · exact absurd h0 hne
    · cases hl

end Resume
