/-!
E5 — the typed core of the *in-flight id* clauses (C02 / C10 on the streamable server).

"`requestStreams`: request id ↦ logical stream, deleted when the response is written": between the POST that carried a
call and the moment its handler has finished (its response was handed to the transport) the call's JSON-RPC id is *in
flight* in its session.  `servePOST` must refuse a POST that reuses such an id (400, nothing registered) and must accept
one whose ids are all free.  The monitor keeps the set of in-flight ids per session from the *operations* (call accepted
/ handler finished) and judges the implementation's answer to every POST that carries calls:
* `refusedFree` — refused as a duplicate although none of its ids is in flight;
* `acceptedDup` — accepted although one of its ids is in flight (e.g. released early by a `notifications/cancelled`,
  by the loss of the POST's exchange, …): the id now names two requests of the session, and whatever the earlier handler
  still sends — its response included — is routed to the later request's exchange.
`Mon.idStep` is a pure function; `McpModel.Resume.IdBridge` proves that it raises nothing on any label list of the model
and what the clauses mean.  Core Lean only (linked into the driver).
-/
namespace Resume
namespace Mon

/-- what the in-flight clauses need of one record -/
inductive IdObs (σ : Type) where
  /-- a POST carrying calls with these (distinct) ids: answered with a stream / a JSON body (`accepted`), or 400 (`refused`) -/
  | call (sess : σ) (ids : List Nat) (accepted refused : Bool)
  /-- the handler of call `id` of the session finished: its response was handed to the transport -/
  | finished (sess : σ) (id : Nat)
  | other

inductive ClauseI where
  | refusedFree | acceptedDup
deriving DecidableEq, Repr

def ClauseI.text02 : ClauseI → String
  | .refusedFree => "C02: a well-formed call whose id is not in flight (its earlier user has been answered or its response was dropped as undeliverable) was refused as a duplicate in-flight id"
  | .acceptedDup => "C02: a call that reuses the id of a request of this session whose handler has not finished was accepted: the id names two requests in flight, the response of the earlier one will be delivered on the later one's exchange and the later one is never answered"

def ClauseI.text10 : ClauseI → Option String
  | .refusedFree => none
  | .acceptedDup => some "C10: a call that reuses the id of a request of this session whose handler has not finished was accepted (the id was released before the response was written): whatever the earlier handler still sends, its response included, is routed to the exchange of the later, different request"

structure IdS (σ : Type) where
  inflight : List (σ × Nat) := []      -- (session, id): calls accepted whose handler has not finished

def idInit {σ : Type} : IdS σ := {}

variable {σ : Type} [DecidableEq σ]

def anyInFlight (m : IdS σ) (s : σ) (ids : List Nat) : Bool := ids.any fun r => m.inflight.contains (s, r)

def idStep (m : IdS σ) : IdObs σ → IdS σ × Option ClauseI
  | .call s ids acc ref =>
    if acc then ({ inflight := m.inflight ++ ids.map fun r => (s, r) }, if anyInFlight m s ids then some .acceptedDup else none)
    else if ref then (m, if anyInFlight m s ids then none else some .refusedFree)
    else (m, none)
  | .finished s id => ({ inflight := m.inflight.filter fun x => !(x == (s, id)) }, none)
  | .other => (m, none)

def idRun (m : IdS σ) : List (IdObs σ) → IdS σ × Option ClauseI
  | [] => (m, none)
  | o :: t => ((idRun (idStep m o).1 t).1, (idStep m o).2 <|> (idRun (idStep m o).1 t).2)

end Mon
end Resume
