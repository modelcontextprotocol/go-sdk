import McpModel.Generated.ResumeGen
import McpModel.Base.Proto
import McpModel.Resume.Model
import McpModel.Resume.Monitor
import McpModel.Resume.HoldMon
import McpModel.Resume.BatchMon
import McpModel.Resume.FanMon
import McpModel.Resume.KeepMon
import McpModel.Resume.IdMon
/-!
Driver for E5 (C08, C10).

* model side: every harness op is translated into the label list of `Resume.Model` it stands for
  (e.g. `sclose` = SCLOSE then CUT of the released exchange; `delete` = END then CUT of every hanging
  exchange; evictions the store reports (`p:` tokens) become EVICT labels) and the model's observation is
  rendered in the harness' canonical format;
* monitor side: C08 and C10 are the typed core `Resume.Mon.step` (`McpModel.Resume.Monitor`) — decidable
  predicates on what the *implementation* reported, independent of the model state: ground-truth append
  log per (session, stream), per exchange the resume point and the events received, the routing function on
  payload provenance tags.  This file only parses the harness' tokens into the typed observation
  (`parseObs`) and adds two op-level checks (a response the handler produced must not vanish).  That the
  core raises no clause on any model trace, and what each clause means, are theorems
  (`Accept08`, `Accept10`, `Sound08`, `Sound10`).

`drv_resume C08` / `drv_resume C10` restrict the reported monitor clauses to one property.
Payloads are opaque strings (`α := String`).
-/
namespace Resume
open Proto

/-! ## model side -/

structure DSess where
  name      : String
  conn      : Conn String
  exMap     : List Nat := []        -- local exchange index ↦ global exchange number
  stateless : Bool := false
  newProto  : Bool := false         -- the connection's base context carries version ≥ 2026-07-28
  listenS   : Bool := false
  parked    : List ReqId := []      -- tool handlers waiting for a command
  closing   : Bool := false         -- ServerSession.Close in progress (waits for the handlers)
  dead      : Bool := false         -- the jsonrpc2 layer no longer reaches the transport
  gone      : Bool := false         -- removed from the handler's session table
  calls     : List (String × Option ReqId × Bool) := []   -- pending server→client calls: tag, ctx, ctxNew
  names     : List SId := []        -- stream ids in order of first appearance: printed name of `names[i]` is t(i+1)
  reqIds    : List ReqId := []      -- every request id ever POSTed on this session (to enumerate `requestStreams`)
  subscribed : Bool := false        -- `resources/subscribe` was answered: entitled to `resources/updated`
  clientGone : Bool := false        -- stateless: the client dropped the POST (`cut`) before the server released it
  direct    : Bool := false         -- the application hands the session's requests to `StreamableServerTransport.ServeHTTP`
                                    -- itself (no `StreamableHTTPHandler`): no session table (no 404), no DELETE (405), and
                                    -- the request context carries no protocol version (treated as 2025-03-26)

structure DMon where
  core   : Mon.MonS String String := { store := false, jsonMode := false }   -- the typed monitor core
  gone   : List String := []                                                -- sessions that were deleted / killed
  extra10 : Option String := none                                           -- op-level clause of the last record
  hold   : Mon.HoldS String := {}                                           -- the typed core of the claim clauses (C08)
  extra08 : Option String := none                                           -- claim clause of the last record
  batch  : Mon.BatchS String := {}                                          -- the typed core of the batch clauses (C02)
  extraB : Option String := none                                            -- batch clause of the last record
  ids    : Mon.IdS String := {}                                             -- the typed core of the in-flight id clauses (C02 / C10)
  extraI : Option Mon.ClauseI := none                                       -- in-flight id clause of the last record
  fan    : Mon.FanS String Nat := {}                                        -- the typed core of the fan-out clause (C10)
  extraF : Option String := none                                            -- fan-out clause of the last record
  subs   : List String := []                                                -- sessions whose resources/subscribe was answered (from the operations)
  keep   : Mon.KeepS String := {}                                           -- the typed core of the retention clause (C08)
  extraK : Option String := none                                            -- retention clause of the last record

structure DState where
  cfg    : Option Cfg := none
  store  : Bool := false
  jsonM  : Bool := false
  sess   : List DSess := []
  nex    : Nat := 0
  mon    : DMon := {}
  evicts : List (String × String × Nat) := []   -- evictions the store reported in this record, not yet applied to the model
  ptoks  : List String := []                    -- their tokens (echoed in the model's observation)
  win    : Bool := false                        -- `racerg`: the harness reports that the write was parked inside the window
  af     : Bool := false                        -- `emit … af=1` / `resp … af=1`: the `EventStore.Append` of this op's write fails

def getSess (d : DState) (n : String) : Option DSess := d.sess.find? (·.name == n)

def putSess (d : DState) (s : DSess) : DState :=
  if d.sess.any (·.name == s.name) then { d with sess := d.sess.map fun x => if x.name == s.name then s else x }
  else { d with sess := d.sess ++ [s] }

def kvGet (toks : List String) (k : String) : Option String :=
  toks.findSome? fun t => match t.splitOn "=" with
    | [a, b] => if a == k then some b else none
    | _ => none

def parseVer (s : Option String) : Ver :=
  match s with
  | some "b" => .v0618
  | some "c" => .v1125
  | some "d" => .v0728
  | _ => .v0326         -- "a", or header absent ⇒ 2025-03-26

def parseBudget (s : Option String) : Option Nat :=
  match s with
  | none => none
  | some "-" => none
  | some x => x.toNat?

def parseIds (s : Option String) : List Nat :=
  match s with
  | none => []
  | some x => (x.splitOn ",").filterMap String.toNat?

def parseX (s : String) : Nat := ((s.drop 1).toString.toNat?).getD 0

def parseHdr (s : DSess) (h : Option String) : Hdr :=
  match h with
  | none => .none
  | some "none" => .none
  | some "bad" => .bad
  | some x => match x.splitOn Generated.Resume.eventIDSep with
    | [t, i] => match (t.drop 1).toString.toNat?, i.toNat? with
      | some n, some idx =>
        if !t.startsWith "t" then .bad
        else if n == 0 then .ok 0 idx
        else match s.names[n - 1]? with
          | some sid => .ok sid idx
          | none => .ok (1000000 + n) idx        -- a stream id nobody ever issued
      | _, _ => .bad
    | _ => .bad

/-- local index of global exchange `k` in session `s` -/
def localEx (s : DSess) (k : Nat) : Option Nat := s.exMap.idxOf? k

/-- printed name of a stream id (0 is the standalone stream); unnamed ids print as `t?` -/
def tname (s : DSess) (sid : SId) : String :=
  if sid == 0 then "t0" else
  match s.names.idxOf? sid with
  | some i => s!"t{i + 1}"
  | none => "t?"

/-- give a name to a stream id at its first appearance -/
def nameSid (s : DSess) (sid : SId) : DSess :=
  if sid == 0 || s.names.contains sid then s else { s with names := s.names ++ [sid] }

def showEvId (s : DSess) (id : Option (SId × Nat)) : String :=
  match id with
  | none => "-"
  | some (sid, i) => s!"{tname s sid}{Generated.Resume.eventIDSep}{i}"

def payloadOf (it : Item String) : String :=
  match it.msg with
  | .resp _ p => p
  | .notif p => p
  | .call p => p

def showOut (s : DSess) : Out String → String
  | .comment => "K"
  | .prime sid i => "P/" ++ showEvId s (some (sid, i))
  | .message id it => "M/" ++ showEvId s id ++ "/" ++ payloadOf it
  | .close => "Z"
  | .json items => "J/" ++ ",".intercalate (items.map payloadOf)

def showKind : Kind → String
  | .sse => "sse"
  | .json => "json"
  | .status c => toString c

def sortNat (l : List Nat) : List Nat := (l.toArray.qsort (· < ·)).toList

def showStream (s : DSess) (st : Stream String) : String :=
  let att := match st.attached with
    | none => "-"
    | some ex => match s.exMap[ex]? with
      | some k => s!"x{k}"
      | none => "?"
  let op := if st.opn then "o" else "c"
  let last : Int := (st.next : Int) - 1
  let reqs := ",".intercalate ((sortNat st.requests).map toString)
  let js := match st.json with
    | none => "s"
    | some p => s!"j{p.length}"
  let li := if st.listen then ":L" else ""
  s!"{tname s st.id}:{att}:{op}:{last}:{reqs}:{js}{li}"

/-- snapshot; streams not seen before get their names now (ascending creation order) -/
def showSnap (s0 : DSess) : DSess × String :=
  let c := s0.conn
  let ids := sortNat (c.streams.map (·.id))
  let s := ids.foldl nameSid s0
  -- rows sorted by printed name
  let named := ids.map fun i => ((s.names.idxOf? i).map (· + 1)).getD 0
  let order := sortNat named
  let rows := order.filterMap fun n =>
    let sid := if n == 0 then 0 else (s.names[n - 1]?).getD 0
    (findStream sid c.streams).map (showStream s)
  let rq := (sortNat s.reqIds.eraseDups).filterMap fun r => (c.reqStreams r).map fun sid => s!"{r}>{tname s sid}"
  (s, "S" ++ s.name ++ "[" ++ ";".intercalate rows ++ "|" ++ ",".intercalate rq ++ "]" ++ (if c.isDone then "D" else ""))

def showRes : Res → Bool → String
  | .ok, true => "pending"
  | .ok, false => "ok"
  | .rejected, _ => "rej"
  | .broken, _ => "closed"
  | .na, _ => "na"

/-- Render what changed between two driver states (same canonical order as the harness).
Returns the new state too: streams that appear for the first time are named while printing. -/
def renderDelta (old new : DState) (extra : List String) (snaps : List String) : String × DState :=
  Id.run do
    let mut opened : List (Nat × String) := []
    let mut apps : List String := []
    let mut items : List (Nat × String) := []
    let mut ends : List Nat := []
    let mut cur := new
    for s0 in new.sess do
      let o := (getSess old s0.name).getD { s0 with conn := { s0.conn with exs := [], store := fun _ => none, isDone := false }, exMap := [] }
      let oc := o.conn
      let nc := s0.conn
      -- names for streams that appear in appends / event ids (creation order)
      let keys := (List.range nc.nextSid).filter fun sid => (nc.store sid).isSome
      let s := keys.foldl nameSid s0
      cur := putSess cur s
      for sid in keys do
        let log := (nc.store sid).getD []
        let olen := ((oc.store sid).map List.length).getD 0
        for x in log.drop olen do
          let p := match x with
            | none => "-"
            | some it => payloadOf it
          -- (the standalone stream of the stateless store session "" is shared: printed first, as session `q`)
          if s.stateless && sid == 0 then apps := [s!"a:q:t0:{p}"] ++ apps
          else apps := apps ++ [s!"a:{s.name}:{tname s sid}:{p}"]
      -- a stateless handler returns only after its session has closed
      let endedNow (e : Exch String) (c : Conn String) : Bool := if s.stateless then e.ended && c.isDone else e.ended
      let mut i := 0
      for e in nc.exs do
        let k := (s.exMap[i]?).getD 0
        match oc.exs[i]? with
        | none =>
          opened := opened ++ [(k, s!"x{k}:{showKind e.kind}")]
          for o in e.out do items := items ++ [(k, s!"x{k}+{showOut s o}")]
          for o in e.lost do items := items ++ [(k, s!"x{k}!{showOut s o}")]
          if endedNow e nc then ends := ends ++ [k]
        | some oe =>
          for o in e.out.drop oe.out.length do items := items ++ [(k, s!"x{k}+{showOut s o}")]
          for o in e.lost.drop oe.lost.length do items := items ++ [(k, s!"x{k}!{showOut s o}")]
          if endedNow e nc && !endedNow oe oc then ends := ends ++ [k]
        i := i + 1
    let byK (l : List (Nat × String)) : List String :=
      ((l.toArray.insertionSort (fun a b => a.1 < b.1)).toList).map (·.2)
    let mut snapTxt : List String := []
    for n in snaps do
      match getSess cur n with
      | some s =>
        let (s', txt) := showSnap s
        cur := putSess cur s'
        snapTxt := snapTxt ++ [txt]
      | none => snapTxt := snapTxt ++ ["S" ++ n ++ "[?]"]
    let endTxt := (sortNat ends).map fun k => s!"x{k}."
    return (" ".intercalate (byK opened ++ extra ++ apps ++ old.ptoks ++ byK items ++ endTxt ++ snapTxt), cur)

/-- Apply labels to a session's connection, extending the exchange map when an exchange is created. -/
def applyLabels (d : DState) (s : DSess) (ls : List (Label String)) : DState × DSess × Res :=
  Id.run do
    let mut d := d
    let mut s := s
    let mut res := Res.na
    for l in ls do
      let before := s.conn.exs.length
      let r := stepR s.conn l
      s := { s with conn := r.1 }
      if r.2 != .na then res := r.2
      if s.conn.exs.length > before then
        d := { d with nex := d.nex + 1 }
        s := { s with exMap := s.exMap ++ [d.nex] }
      -- the store sees a stream id (Open / Append): it is named now
      s := ((List.range s.conn.nextSid).filter fun sid => (s.conn.store sid).isSome).foldl nameSid s
    return (d, s, res)

/-- one WRITE; with `d.af` its `EventStore.Append` fails (`writeFR`: nothing is appended, the message is still delivered) -/
def applyWrite (d : DState) (s : DSess) (msg : Msg String) (ctx : Option ReqId) (ctxNew : Bool) : DState × DSess × Res :=
  if d.af then
    let r := writeFR s.conn msg ctx ctxNew
    (d, { s with conn := r.1 }, r.2)
  else applyLabels d s [.write msg ctx ctxNew]

/-- exchanges of `s` that are attached to some stream (their handler is hanging) -/
def hanging (s : DSess) : List ExId := sortNat (s.conn.streams.filterMap (·.attached))

/-- After the labels of an op: handler returns that follow mechanically.
* an exchange whose stream was closed by the server (`opn = false` but still attached) is released;
* a stateless session whose POST returned starts `Close`; `Close` completes (END) once no handler is parked. -/
def settle (d : DState) (s : DSess) : DState × DSess :=
  Id.run do
    let mut d := d
    let mut s := s
    -- release exchanges of closed-but-attached streams
    for st in s.conn.streams do
      match st.attached with
      | some ex => if !st.opn then
          let r := applyLabels d s [.cut ex]
          d := r.1; s := r.2.1
      | none => pure ()
    if s.stateless && !s.closing then
      -- the single POST exchange is exchange 0
      match s.conn.exs[0]? with
      | some e => if e.ended then
          s := { s with closing := true }
          -- `serveEphemeral` (/repo 196d72e, F47): when `transport.ServeHTTP` has returned and the client is still there
          -- (the server released the exchange itself: `CloseSSEStream`), the session's input is ended and the session
          -- drained before it is closed: the jsonrpc2 reader sees EOF, the handlers still in flight are cancelled, and
          -- their error responses pass the shutdown gate and reach `Write` (request order: the harness lets cancelled
          -- handlers return one at a time) — stored on the request's own stream, which completes.  When the client has
          -- gone away (`cut`) the session is closed as before: `Close` waits for the handlers.
          if !s.clientGone then
            for r in sortNat s.parked do
              let q := applyLabels d s [.write (.resp r s!"R.{r}.err0") (some r) s.newProto]
              d := q.1; s := q.2.1
            s := { s with parked := [] }
      | none => pure ()
    if s.closing && s.parked.isEmpty && !s.conn.isDone then
      let r := applyLabels d s [.end]
      d := r.1; s := { r.2.1 with dead := true }
      for ex in hanging s do
        let r := applyLabels d s [.cut ex]
        d := r.1; s := r.2.1
    return (d, s)

/-- apply the evictions the store reported (`p:<sess>:<stream>:<first>`) to the sessions' connections -/
def applyEvicts (d : DState) : DState :=
  let d' := d.evicts.foldl (fun (acc : DState) (x : String × String × Nat) =>
    match getSess acc x.1 with
    | none => acc
    | some s =>
      let sid : Option SId := if x.2.1 == "t0" then some 0 else
        match ((x.2.1.drop 1).toString.toNat?) with
        | some n => s.names[n - 1]?
        | none => none
      match sid with
      | none => acc
      | some sid => putSess acc { s with conn := step s.conn (.evict sid x.2.2) }) d
  { d' with evicts := [] }

/-- `p:<sess>:<stream>:<first>` tokens -/
def parsePurges (itoks : List String) : List (String × String × Nat) :=
  itoks.filterMap fun t =>
    match t.splitOn ":" with
    | ["p", s, st, f] => f.toNat?.map fun n => (s, st, n)
    | ["p", s, st, f, _] => f.toNat?.map fun n => (s, st, n)      -- 5th field: f = the store has been over its limit, u = never
    | _ => none

def mkCfg (d : DState) (stateless : Bool) : Cfg :=
  { stateless := stateless, jsonResponse := d.jsonM, hasStore := d.store, noSession := stateless }

/-- an exchange answered by the HTTP handler itself (no connection involved) -/
def handlerExch (d : DState) (code : Nat) : DState × String :=
  let k := d.nex + 1
  ({ d with nex := k }, s!"x{k}:{code}")

structure OpOut where
  d     : DState
  extra : List String := []     -- handler-level exchange tokens (opened), their ends are appended by `endsX`
  endsX : List Nat := []
  snaps : List String := []
  tail  : String := ""          -- " w=…"

def withSess (d : DState) (n : String) (f : DSess → OpOut) : OpOut :=
  match getSess d n with
  | some s => f s
  | none => { d := d, snaps := [n] }

/-- `get <sess> hv= last= b=` -/
def getOp (d : DState) (n : String) (toks : List String) : OpOut :=
  withSess d n fun s =>
    if s.stateless then let (d1, t) := handlerExch d 405; { d := d1, extra := [t], endsX := [d1.nex], snaps := [n] } else
    if s.gone then let (d1, t) := handlerExch d 404; { d := d1, extra := [t], endsX := [d1.nex], snaps := [n] } else
    let (d1, s1, _) := applyLabels d s [.get (parseHdr s (kvGet toks "last")) (parseVer (kvGet toks "hv")) (parseBudget (kvGet toks "b"))]
    let (d2, s2) := settle d1 s1
    { d := putSess d2 s2, snaps := [n] }

/-- a notification written by the server side of session `n` (payload `p`, request context `ctx`): nothing once the
jsonrpc2 layer no longer reaches the transport; a broken write (session closed) cancels the handlers in flight -/
def notifWrite (d : DState) (n : String) (p : String) (ctx : Option ReqId) : DState :=
  match getSess d n with
  | none => d
  | some s =>
    if s.dead || (s.closing && s.parked.isEmpty) then d else
    let (d1, s1, res) := applyLabels d s [.write (.notif p) ctx false]
    let s1 := if res == .broken then { s1 with dead := true, parked := [] } else s1
    let (d2, s2) := settle d1 s1
    putSess d2 s2

/-- the model's reaction to one harness op -/
def modelOp (d : DState) (toks : List String) : Option OpOut :=
  match toks with
  | "plain" :: n :: _ =>
    -- a request that is answered at once (resources/subscribe): POST, then the response on its own stream
    let id := ((kvGet toks "id").bind String.toNat?).getD 0
    let v := parseVer (kvGet toks "hv")
    some <| withSess d n fun s =>
      if s.gone then let (d1, t) := handlerExch d 404; { d := d1, extra := [t], endsX := [d1.nex], snaps := [n] } else
      let dup := (s.conn.reqStreams id).isSome
      let s := { s with reqIds := s.reqIds ++ [id] }
      let (d1, s1, _) := applyLabels d s ([.post [id] false v (parseBudget (kvGet toks "b"))] ++
        (if dup then [] else [.write (.resp id s!"R.{id}.plain") (some id) false]))
      let s1 := if dup then s1 else { s1 with subscribed := true }
      let (d2, s2) := settle d1 s1
      { d := putSess d2 s2, snaps := [n] }
  | "fanout" :: rest =>
    -- `Server.ResourceUpdated` issued while a request of one session is in flight: every subscribed, live session gets
    -- its copy, written with the BACKGROUND context in that session (label FANOUT of the world model), whatever context
    -- the caller passed
    match rest.span (· != "|") with
    | ([n, r, x, hb, serial], _ :: names) =>
      let p := "F." ++ ".".intercalate [n, r, x, hb, serial]
      let d' := d.sess.foldl (fun (acc : DState) (s0 : DSess) =>
        match getSess acc s0.name with
        | none => acc
        | some s => if s.subscribed && !s.gone then notifWrite acc s.name p none else acc) d
      some { d := d', snaps := names, tail := " w=ok" }
    | _ => none
  | "getp" :: rest =>
    -- a resume of session `n`; while it is served (after `EventStore.After` took its snapshot) a handler of ANOTHER session
    -- writes `nn` notifications: the resume is one atomic GET label (`replay_atomic_wrt_eviction`), the writes follow;
    -- the evictions the store reports are applied at the end of the op, as always
    match rest.span (· != "|") with
    | (n :: gargs, [_, bn, r, x, flag, nn, serial]) =>
      let o1 := getOp d n gargs
      let rid := r.toNat?.getD 0
      let cnt := ((kvGet [nn] "n").bind String.toNat?).getD 0
      let ser := serial.toNat?.getD 0
      let ctx := if flag == "c" then some rid else none
      let d2 := (List.range cnt).foldl (fun (acc : DState) i =>
        notifWrite acc bn ("N." ++ ".".intercalate [bn, r, x, flag, toString (ser + i)]) ctx) o1.d
      some { o1 with d := d2, snaps := [n, bn] }
    | _ => none
  | "init" :: n :: _ =>
    let id := ((kvGet toks "id").bind String.toNat?).getD 0
    let v := parseVer (kvGet toks "v")
    let s : DSess := { name := n, conn := init (mkCfg d false), reqIds := [id], direct := kvGet toks "dt" == some "1" }
    let (d1, s1, _) := applyLabels d s [.post [id] false v (parseBudget (kvGet toks "b")),
                                        .write (.resp id s!"R.{id}.init") (some id) false]
    let (d2, s2) := settle d1 s1
    some { d := putSess d2 s2, snaps := [n] }
  | "cancel" :: n :: _ =>
    -- the client's notifications/cancelled for a request in flight: a POST without calls (202).  Nothing is released:
    -- the request stays registered until its response is written (`registration_removed_only_by_response`)
    some <| withSess d n fun s =>
      if s.gone then let (d1, t) := handlerExch d 404; { d := d1, extra := [t], endsX := [d1.nex], snaps := [n] } else
      let (d1, s1, _) := applyLabels d s [.post [] false (parseVer (kvGet toks "hv")) none]
      { d := putSess d1 s1, snaps := [n] }
  | "note" :: n :: _ =>
    some <| withSess d n fun s =>
      if s.gone then let (d1, t) := handlerExch d 404; { d := d1, extra := [t], endsX := [d1.nex], snaps := [n] } else
      let (d1, s1, _) := applyLabels d s [.post [] false (parseVer (kvGet toks "hv")) none]
      { d := putSess d1 s1, snaps := [n] }
  | "call" :: n :: _ =>
    let ids := parseIds (kvGet toks "ids")
    let v := parseVer (kvGet toks "hv")
    let b := parseBudget (kvGet toks "b")
    if (d.cfg.map (·.stateless)).getD false then
      let s : DSess := { name := n, conn := init (mkCfg d true), stateless := true, newProto := v.isNew, parked := ids, reqIds := ids }
      let (d1, s1, _) := applyLabels d s [.post ids false v b]
      let (d2, s2) := settle d1 s1
      some { d := putSess d2 s2, snaps := [n] }
    else
      some <| withSess d n fun s =>
        if s.gone then let (d1, t) := handlerExch d 404; { d := d1, extra := [t], endsX := [d1.nex], snaps := [n] } else
        let dup := (dedup ids).any fun r => (s.conn.reqStreams r).isSome
        let s := { s with reqIds := s.reqIds ++ ids }
        let (d1, s1, _) := applyLabels d s [.post ids false v b]
        let s1 := if dup then s1 else { s1 with parked := s1.parked ++ ids }
        let (d2, s2) := settle d1 s1
        { d := putSess d2 s2, snaps := [n] }
  | "duprace" :: n :: _ =>
    -- two POSTs with the same call ids; the first (exchange nex+1) is held inside `EventStore.Open` — i.e. in front of
    -- its check-and-register section — while the second (exchange nex+2) runs: the second is served first
    let ids := parseIds (kvGet toks "ids")
    let v := parseVer (kvGet toks "hv")
    some <| withSess d n fun s =>
      if s.gone then let (d1, t) := handlerExch d 404; { d := d1, extra := [t], endsX := [d1.nex], snaps := [n] } else
      let dup := (dedup ids).any fun r => (s.conn.reqStreams r).isSome
      let c1 := step s.conn (.post ids false v none)      -- B
      let c2 := step c1 (.post ids false v none)          -- A: refused, the id is in flight now
      let s1 := { s with conn := c2, reqIds := s.reqIds ++ ids, exMap := s.exMap ++ [d.nex + 2, d.nex + 1] }
      let s1 := ((List.range s1.conn.nextSid).filter fun sid => (s1.conn.store sid).isSome).foldl nameSid s1
      let s1 := if dup then s1 else { s1 with parked := s1.parked ++ ids }
      let d1 := { d with nex := d.nex + 2 }
      let (d2, s2) := settle d1 s1
      { d := putSess d2 s2, snaps := [n] }
  | "listen" :: n :: _ =>
    let id := ((kvGet toks "id").bind String.toNat?).getD 0
    let s : DSess := { name := n, conn := init (mkCfg d true), stateless := true, newProto := true, listenS := true, parked := [id], reqIds := [id] }
    let (d1, s1, _) := applyLabels d s [.post [id] true .v0728 (parseBudget (kvGet toks "b")),
                                        .write (.notif "U.notifications/subscriptions/acknowledged") (some id) true]
    let (d2, s2) := settle d1 s1
    some { d := putSess d2 s2, snaps := [n] }
  | "toolchange" :: _ :: names =>
    let d' := d.sess.foldl (fun (acc : DState) (s0 : DSess) =>
      match getSess acc s0.name with
      | none => acc
      | some s =>
        -- legacy sessions are notified on their standalone stream, 2026-07-28 sessions only if they listen;
        -- a session that is closing still lets notifications through while a handler is in flight
        if (s.listenS || !s.newProto) && !s.dead && !(s.closing && s.parked.isEmpty) then
          let (d1, s1, _) := applyLabels acc s [.write (.notif "U.notifications/tools/list_changed") none false]
          let (d2, s2) := settle d1 s1
          putSess d2 s2
        else acc) d
    some { d := d', snaps := names }
  | ["emit", n, r, x, kind, flag, serial] =>
    some <| withSess d n fun s =>
      let rid := r.toNat?.getD 0
      let tag := ".".intercalate [n, r, x, flag, serial]
      let isCall := kind == "C" || kind == "P" || kind == "R"      -- sampling, ping, roots/list: server→client requests
      let ctx := if flag == "c" then some rid else none
      let ctxNew := s.newProto && flag == "c"
      if isCall && s.newProto then
        -- ≥ 2026-07-28: server-initiated requests are refused by ServerSession before any write
        { d := d, snaps := [n], tail := " w=err" }
      else if s.dead || (s.closing && (isCall || s.parked.isEmpty)) then
        { d := d, snaps := [n], tail := " w=closing" }
      else
        let msg : Msg String := if isCall then .call ("C." ++ tag) else .notif ("N." ++ tag)
        let (d1, s1, res) := applyWrite d s msg ctx ctxNew
        -- a broken write makes jsonrpc2 cancel every handler in flight
        let s1 := if res == .broken then { s1 with dead := true, parked := [] } else s1
        let s1 := if isCall && res == .ok then { s1 with calls := s1.calls ++ [(tag, ctx, ctxNew)] } else s1
        let (d2, s2) := settle d1 s1
        { d := putSess d2 s2, snaps := [n], tail := " w=" ++ showRes res isCall }
  | ["resp", n, r, x] =>
    some <| withSess d n fun s =>
      let rid := r.toNat?.getD 0
      let s := { s with parked := s.parked.erase rid }
      if s.dead then
        -- the writer is broken / the connection is gone: the response reaches nothing
        -- (a handler that finishes *during* Close still has its response written: the shutdown gate
        -- lets responses pass while the writer is healthy)
        let (d2, s2) := settle d s
        { d := putSess d2 s2, snaps := [n] }
      else
        let (d1, s1, res) := applyWrite d s (.resp rid (".".intercalate ["R", r, n, r, x])) (some rid) s.newProto
        let s1 := if res == .broken then { s1 with dead := true } else s1
        let (d2, s2) := settle d1 s1
        { d := putSess d2 s2, snaps := [n] }
  | "sclose" :: n :: r :: _ =>
    some <| withSess d n fun s =>
      if s.newProto then { d := d, snaps := [n] } else
      let (d1, s1, _) := applyLabels d s [.sclose (r.toNat?.getD 0) ((kvGet toks "retry") == some "1")]
      let (d2, s2) := settle d1 s1
      { d := putSess d2 s2, snaps := [n] }
  | ["wfail", x, n] =>
    some <| withSess d n fun s =>
      match localEx s (parseX x) with
      | none => { d := d, snaps := [n] }
      | some ex =>
        let (d1, s1, _) := applyLabels d s [.wfail ex]
        { d := putSess d1 s1, snaps := [n] }
  | ["cut", x, n] =>
    some <| withSess d n fun s =>
      match localEx s (parseX x) with
      | none => { d := d, snaps := [n] }
      | some ex =>
        -- cancelling the context of an exchange whose handler already returned changes nothing
        if ((s.conn.exs[ex]?).map (·.ended)).getD true then { d := d, snaps := [n] } else
        -- subscriptions/listen: the request's cancellation is propagated to the handler, which returns
        let s := if s.listenS then { s with parked := [] } else s
        let s := if s.stateless then { s with clientGone := true } else s
        let (d1, s1, _) := applyLabels d s [.cut ex]
        let (d2, s2) := settle d1 s1
        { d := putSess d2 s2, snaps := [n] }
  | "get" :: n :: _ => some (getOp d n toks)
  | ["delete", n] =>
    some <| withSess d n fun s =>
      if s.gone then let (d1, t) := handlerExch d 404; { d := d1, extra := [t], endsX := [d1.nex], snaps := [n] } else
      -- `StreamableServerTransport.ServeHTTP` serves GET and POST only: 405, the session lives on
      if s.direct then let (d1, t) := handlerExch d 405; { d := d1, extra := [t], endsX := [d1.nex], snaps := [n] } else
      let (d0, t) := handlerExch d 204
      let s := { s with closing := true, gone := true }
      let (d2, s2) := settle d0 s
      { d := putSess d2 s2, extra := [t], endsX := [d0.nex], snaps := [n] }
  | ["kill", n] =>
    -- the transport is closed underneath the session (streamableServerConn.Close called directly)
    some <| withSess d n fun s =>
      let (d1, s1, _) := applyLabels d s [.end]
      let (d2, s2) := (hanging s1).foldl (fun (acc : DState × DSess) ex =>
        let r := applyLabels acc.1 acc.2 [.cut ex]; (r.1, r.2.1)) (d1, s1)
      -- the jsonrpc2 reader sees EOF: the connection shuts down and cancels the handlers in flight.  Their
      -- (error) responses still pass the shutdown gate while the writer is healthy: the first one (the harness
      -- lets cancelled handlers return in request order) reaches `Write`, which drops its `requestStreams`
      -- entry and fails with "session is closed"; that breaks the writer, and nothing reaches the transport any more
      let (d3, s3) := match (if s.dead then [] else sortNat s2.parked) with
        | r :: _ =>
          let q := applyLabels d2 s2 [.write (.resp r "R.cancelled") (some r) s2.newProto]
          (q.1, q.2.1)
        | [] => (d2, s2)
      let s3 := { s3 with closing := true, dead := true, parked := [] }
      { d := putSess d3 s3, snaps := [n] }
  | ["answer", n, tag] =>
    some <| withSess d n fun s =>
      if s.gone then let (d1, t) := handlerExch d 404; { d := d1, extra := [t], endsX := [d1.nex], snaps := [n] } else
      let (d1, s1, _) := applyLabels d s [.post [] false .v0326 none]
      let s1 := { s1 with calls := s1.calls.filter (·.1 != tag) }
      { d := putSess d1 s1, snaps := [n] }
  | ["cancelcall", n, tag] =>
    some <| withSess d n fun s =>
      match s.calls.find? (·.1 == tag) with
      | none => { d := d, snaps := [n] }
      | some (_, ctx, ctxNew) =>
        let s := { s with calls := s.calls.filter (·.1 != tag) }
        if s.dead then { d := putSess d s, snaps := [n] } else
        let (d1, s1, res) := applyLabels d s [.write (.notif ("X." ++ tag)) ctx ctxNew]
        let s1 := if res == .broken then { s1 with dead := true } else s1
        let (d2, s2) := settle d1 s1
        { d := putSess d2 s2, snaps := [n] }
  | "racerg" :: rest =>
    -- the write is held between its routing section and its delivery section while the GET runs (`win=1`, a tree with the
    -- yield hook); without the hook (`win=0`) the write simply completes first
    match rest.span (· != "|") with
    | ([n, r, x, kind, flag, serial], _ :: (gn :: gargs)) =>
      some <| withSess d n fun s =>
        let rid := r.toNat?.getD 0
        let tag := ".".intercalate [n, r, x, flag, serial]
        let isCall := kind == "C"
        let ctx := if flag == "c" then some rid else none
        let msg : Msg String := if isCall then .call ("C." ++ tag) else .notif ("N." ++ tag)
        let g : Label String := .get (parseHdr s (kvGet gargs "last")) (parseVer (kvGet gargs "hv")) (parseBudget (kvGet gargs "b"))
        if gn != n then { d := d, snaps := [n] } else
        let win := d.win
        let (d1, s1, res) :=
          if win then
            let (da, sa, r1) := applyLabels d s [.wroute msg ctx false]
            if r1 != .na then
              -- refused by the routing section: nothing pending
              let (db, sb, _) := applyLabels da sa [g]
              (db, sb, r1)
            else
              let (db, sb, _) := applyLabels da sa [g]
              applyLabels db sb [.wdeliver sa.conn.pendW.length.pred]
          else applyLabels d s [.write msg ctx false, g]
        let s1 := if isCall && res == .ok then { s1 with calls := s1.calls ++ [(tag, ctx, false)] } else s1
        let (d2, s2) := settle d1 s1
        { d := putSess d2 s2, snaps := [n], tail := " w=" ++ showRes res isCall ++ " win=" ++ (if win then "1" else "0") }
    | _ => none
  | "racewg" :: rest | "racegw" :: rest =>
    let writeFirst := toks.head? == some "racewg"
    match rest.span (· != "|") with
    | ([n, r, x, kind, flag, serial], _ :: (gn :: gargs)) =>
      some <| withSess d n fun s =>
        let rid := r.toNat?.getD 0
        let tag := ".".intercalate [n, r, x, flag, serial]
        let isCall := kind == "C"
        let ctx := if flag == "c" then some rid else none
        let msg : Msg String := if isCall then .call ("C." ++ tag) else .notif ("N." ++ tag)
        let w : Label String := .write msg ctx false
        let g : Label String := .get (parseHdr s (kvGet gargs "last")) (parseVer (kvGet gargs "hv")) (parseBudget (kvGet gargs "b"))
        if gn != n then { d := d, snaps := [n] } else
        -- (the harness lifts the store's limit for the duration of a race: evictions reported in this record happened
        -- after both parties were done and are applied at the end of the op, like for any other op)
        let (d1, s1, res) := applyLabels d s (if writeFirst then [w, g] else [g, w])
        let s1 := if isCall && res == .ok then { s1 with calls := s1.calls ++ [(tag, ctx, false)] } else s1
        let (d2, s2) := settle d1 s1
        { d := putSess d2 s2, snaps := [n], tail := " w=" ++ showRes res isCall }
    | _ => none
  | ["gc"] => some { d := d }            -- the garbage collector ran: nothing observable
  | ["purge", _] => some { d := d }
  | ["maxbytes", _] => some { d := d }
  | _ => none

/-! ## monitor side (on the implementation's observation only)

The property monitors are the typed core `Resume.Mon.step` (`McpModel.Resume.Monitor`; its behaviour on the
model's own observations and the meaning of every clause are theorems of `McpModel.Resume.Bridge*`).  What
follows is the string layer: the harness' tokens are parsed into an `Mon.Obs String String` — session names
and payloads stay strings, stream names `t<n>` and exchange names `x<k>` become numbers. -/

/-- `t3` ↦ 3 -/
def parseT (t : String) : Option Nat := if t.startsWith "t" then (t.drop 1).toString.toNat? else none

/-- split `t3_12` into stream name and index -/
def splitEvId (id : String) : Option (String × Nat) :=
  match id.splitOn Generated.Resume.eventIDSep with
  | [t, i] => i.toNat?.map fun n => (t, n)
  | _ => none

def parseEvId (id : String) : Mon.EvId :=
  if id == "-" then .none else
  match splitEvId id with
  | some (t, i) => match parseT t with
    | some n => .ok n i
    | none => .bad
  | none => .bad

/-- provenance of a payload tag: `R.<id>.<sess>.<req>.x<post>`, `N|C|X.<sess>.<req>.x<post>.<c|d>.<serial>`,
`F.<sess>.<req>.x<post>.<h|b>.<serial>` (a copy of a server-level notification issued inside that handler) -/
def provOf (p : String) : Mon.Prov String :=
  match p.splitOn "." with
  | ["R", id, "init"] => match id.toNat? with
    | some i => .initResp i
    | none => .other
  | ["R", id, "plain"] => match id.toNat? with      -- the answer to `plain` (resources/subscribe): known by its id only
    | some i => .initResp i
    | none => .other
  | ["R", id, "err0"] => match id.toNat? with       -- the error response of a handler the closing session cancelled
    | some i => .initResp i                         -- (`serveEphemeral` drains a sessionless session): known by its id only
    | none => .other
  | ["F", s, r, x, hb, _] => .fanout s (r.toNat?.getD 0) (parseX x) (hb == "h")
  | ["R", id, s, r, x] => match id.toNat?, r.toNat? with
    | some i, some q => .resp i s q (parseX x)
    | _, _ => .other
  | [k, s, r, x, "c", _] => if k == "N" || k == "C" || k == "X" then .inReq s (r.toNat?.getD 0) (parseX x) else .other
  | [k, s, _, _, "d", _] => if k == "N" || k == "C" || k == "X" then .detached s else .other
  | "U" :: _ => .server
  | _ => .other

/-- one write `K`, `Z`, `P/<id>`, `M/<id>/<payload>`, `J/<p1>,<p2>` -/
def parseOut (ev : String) : Mon.MOut String :=
  match ev.splitOn "/" with
  | ["K"] => .comment
  | ["Z"] => .close
  | "J" :: rest => .json (("/".intercalate rest).splitOn ",")
  | kind :: id :: rest => if kind == "P" then .prime (parseEvId id) else .message (parseEvId id) ("/".intercalate rest)
  | _ => .junk

/-- `x3+<event>` (delivered) / `x3!<event>` (written into a failing writer) -/
def parseSent (t : String) : Option (Mon.Sent String) :=
  if !t.startsWith "x" then none else
  match t.splitOn "+", t.splitOn "!" with
  | xk :: ev :: more, _ =>
    if !xk.contains '!' then some { k := parseX xk, lost := false, out := parseOut ("+".intercalate (ev :: more)) }
    else match t.splitOn "!" with
      | xk :: ev :: more => some { k := parseX xk, lost := true, out := parseOut ("!".intercalate (ev :: more)) }
      | _ => none
  | _, xk :: ev :: more => some { k := parseX xk, lost := true, out := parseOut ("!".intercalate (ev :: more)) }
  | _, _ => none

/-- snapshot `S<name>[t2:x3:o:4:1,2:s[:L];…|reqs]D?` -/
def parseSnap (tok : String) : Option (String × List Mon.Row) :=
  if !tok.startsWith "S" then none else
  match tok.splitOn "[" with
  | [nm, rest] =>
    let name := (nm.drop 1).toString
    match rest.splitOn "|" with
    | rowsTxt :: _ =>
      let rows := (rowsTxt.splitOn ";").filterMap fun r =>
        match r.splitOn ":" with
        | t :: att :: op :: last :: _ :: js :: _ =>
          (parseT t).map fun n =>
            ({ t := n, att := if att.startsWith "x" then some (parseX att) else none, opn := op == "o",
               next := (last.toInt?.getD (-1) + 1).toNat, sse := js == "s" } : Mon.Row)
        | _ => none
      some (name, rows)
    | _ => none
  | _ => none

def parseHdrObs (l : Option String) : Mon.ObsHdr :=
  match l with
  | none => .absent
  | some "none" => .absent
  | some l => match splitEvId l with
    | some (t, i) => match parseT t with
      | some n => .ok n i
      | none => .bad
    | none => .bad

/-- what the op says about the exchange it opens -/
def originOf (toks : List String) : String × Mon.Origin :=
  let np := kvGet toks "hv" == some "d"
  let opSess := (toks[1]?).getD ""
  match toks.head? with
  | some "init" => (opSess, .post ((kvGet toks "id").bind String.toNat?).toList false np)
  | some "listen" => (opSess, .post ((kvGet toks "id").bind String.toNat?).toList true true)
  | some "call" => (opSess, .post (parseIds (kvGet toks "ids")) false np)
  | some "plain" => (opSess, .post ((kvGet toks "id").bind String.toNat?).toList false np)
  | some "get" | some "getp" => (opSess, .get (parseHdrObs (kvGet toks "last")) np)
  | some "racewg" | some "racegw" | some "racerg" =>
    let g := toks.dropWhile (· != "|")
    ((g[1]?).getD opSess, .get (parseHdrObs (kvGet g "last")) np)
  | _ => (opSess, .post [] false np)

/-- the implementation's observation of one record, typed -/
def parseObs (d : DState) (toks : List String) (impl : String) : Mon.Obs String String :=
  let itoks := words impl
  let (sess, origin) := originOf toks
  { sess := sess, origin := origin,
    opened := itoks.filterMap fun t =>
      if t.startsWith "x" && !t.contains '+' && !t.contains '!' then
        match t.splitOn ":" with
        | [xk, kind] => some (parseX xk, kind == "sse")
        | _ => none
      else none,
    appends := itoks.filterMap fun t =>
      match t.splitOn ":" with
      | "a" :: s :: stream :: rest =>
        let p := ":".intercalate rest
        (parseT stream).map fun n => ({ sess := s, stream := n, p := if p == "-" then none else some p, check := s != "q" } : Mon.Append String String)
      | _ => none,
    sent := itoks.filterMap parseSent,
    snaps := itoks.filterMap fun t =>
      (parseSnap t).map fun (name, rows) =>
        ({ sess := name, newProto := ((getSess d name).map (·.newProto)).getD false, rows := rows } : Mon.Snap String),
    purges := (parsePurges itoks).filterMap fun x => (parseT x.2.1).map fun n => (x.1, n, x.2.2) }

/-- the implementation's observation of one record as the claim clauses see it: the GET's stream, the exchanges that were
answered with a bare status, the handlers that returned, the snapshots of the real `streams` tables -/
def parseHObs (toks : List String) (impl : String) : Mon.HObs String :=
  let itoks := words impl
  let (sess, origin) := originOf toks
  let plain := fun (t : String) => t.startsWith "x" && !t.contains '+' && !t.contains '!'
  { sess := sess, get := origin.stream,
    codes := itoks.filterMap fun t =>
      if plain t then
        match t.splitOn ":" with
        | [xk, kind] => kind.toNat?.map fun code => (parseX xk, code)
        | _ => none
      else none,
    ends := itoks.filterMap fun t =>
      if plain t && t.endsWith "." && !t.contains ':' then some (parseX ((t.splitOn ".").headD "")) else none,
    snaps := itoks.filterMap fun t => if (t.splitOn "[?]").length > 1 then none else parseSnap t }

/-- the implementation's observation of one record as the retention clause (C08) sees it: the GET's well-formed
Last-Event-ID, the exchanges answered with a bare status, the (session, stream) of every accepted append, whether an
eviction by a store that has been over its limit is reported (`p:…:f`), the `isDone` flags of the snapshots -/
def parseKObs (toks : List String) (impl : String) : Mon.KObs String :=
  let itoks := words impl
  let (sess, origin) := originOf toks
  let plain := fun (t : String) => t.startsWith "x" && !t.contains '+' && !t.contains '!'
  { sess := sess,
    get := match origin with
      | .get (.ok t i) _ => some (t, i)
      | _ => none,
    codes := itoks.filterMap fun t =>
      if plain t then
        match t.splitOn ":" with
        | [xk, kind] => kind.toNat?.map fun code => (parseX xk, code)
        | _ => none
      else none,
    appends := itoks.filterMap fun t =>
      match t.splitOn ":" with
      | "a" :: s :: stream :: _ => (parseT stream).map fun n => (s, n)
      | _ => none,
    forced := itoks.filterMap fun t =>
      match t.splitOn ":" with
      | ["p", s, st, f, fl] => if fl == "u" then none else (parseT st).bind fun n => f.toNat?.map fun k => (s, n, k)
      | ["p", s, st, f] => (parseT st).bind fun n => f.toNat?.map fun k => (s, n, k)
      | _ => none,
    closed := itoks.filterMap fun t =>
      if !t.startsWith "S" || (t.splitOn "[?]").length > 1 then none else
      match t.splitOn "[" with
      | [nm, rest] => some ((nm.drop 1).toString, rest.endsWith "D")
      | _ => none }

/-- snapshot `S<name>[t2:x3:o:4:1,2:s[:L];…|1>t2,2>t2]D?` with the outstanding requests and `requestStreams` -/
def parseBSnap (tok : String) : Option (Mon.BSnap String) :=
  if !tok.startsWith "S" || (tok.splitOn "[?]").length > 1 then none else
  match tok.splitOn "[" with
  | [nm, rest] =>
    let name := (nm.drop 1).toString
    let done := rest.endsWith "D"
    match ((rest.splitOn "]").headD "").splitOn "|" with
    | [rowsTxt, regsTxt] =>
      let rows := (rowsTxt.splitOn ";").filterMap fun r =>
        match r.splitOn ":" with
        | t :: att :: op :: _ :: reqs :: js :: _ =>
          (parseT t).map fun n =>
            ({ t := n, att := if att.startsWith "x" then some (parseX att) else none, opn := op == "o",
               sse := js == "s", reqs := (reqs.splitOn ",").filterMap String.toNat? } : Mon.BRow)
        | _ => none
      let regs := (regsTxt.splitOn ",").filterMap fun x =>
        match x.splitOn ">" with
        | [r, t] => match r.toNat?, parseT t with
          | some rn, some tn => some (rn, tn)
          | _, _ => none
        | _ => none
      some { sess := name, done := done, rows := rows, regs := regs }
    | _ => none
  | _ => none

/-- the implementation's observation of one record as the batch clauses (C02) see it -/
def parseBObs (toks : List String) (impl : String) : Mon.BObs String String :=
  let itoks := words impl
  let plain := fun (t : String) => t.startsWith "x" && !t.contains '+' && !t.contains '!'
  { op := match toks with
      | ["resp", n, r, x] => .resp n (r.toNat?.getD 0) (".".intercalate ["R", r, n, r, x])
      | _ => .other,
    sent := itoks.filterMap parseSent,
    ends := itoks.filterMap fun t =>
      if plain t && t.endsWith "." && !t.contains ':' then some (parseX ((t.splitOn ".").headD "")) else none,
    snaps := itoks.filterMap parseBSnap }

/-- snapshot `S<name>[t0:x3:o:4::s;t2:-:c:0:1:s:L|…]D?` as the fan-out clause sees it -/
def parseFSnap (tok : String) : Option (String × Bool × List (Mon.FRow Nat)) :=
  if !tok.startsWith "S" || (tok.splitOn "[?]").length > 1 then none else
  match tok.splitOn "[" with
  | [nm, rest] =>
    let name := (nm.drop 1).toString
    let done := rest.endsWith "D"
    match ((rest.splitOn "]").headD "").splitOn "|" with
    | rowsTxt :: _ =>
      let rows := (rowsTxt.splitOn ";").filterMap fun r =>
        match r.splitOn ":" with
        | t :: att :: op :: _ :: _ :: js :: more =>
          (parseT t).map fun n =>
            ({ t := n, att := if att.startsWith "x" then some (parseX att) else none, opn := op == "o",
               sse := js == "s", listen := more.contains "L" } : Mon.FRow Nat)
        | _ => none
      some (name, done, rows)
    | _ => none
  | _ => none

/-- the implementation's observation of one record as the fan-out clause (C10) sees it; `subs` = the sessions entitled
to a copy according to the operations so far -/
def parseFObs (subs : List String) (toks : List String) (impl : String) : Mon.FObs String String Nat :=
  let itoks := words impl
  { fan := match toks with
      | "fanout" :: rest => match rest.span (· != "|") with
        -- (judged only when the server's call took place and returned: `w=ok`; `nocall` = the issuing handler does not exist)
        | ([n, r, x, hb, serial], _) => if itoks.contains "w=ok" then some ("F." ++ ".".intercalate [n, r, x, hb, serial], subs) else none
        | _ => none
      | _ => none,
    appends := itoks.filterMap fun t =>
      match t.splitOn ":" with
      | "a" :: s :: _ :: rest => let p := ":".intercalate rest; if p == "-" then none else some (s, p)
      | _ => none,
    sent := (itoks.filterMap parseSent).flatMap fun x =>
      match x.out with
      | .message _ p => [(x.k, p)]
      | .json ps => ps.map fun p => (x.k, p)
      | _ => [],
    snaps := itoks.filterMap parseFSnap }

def DMon.init (store jsonMode : Bool) : DMon := { core := Mon.init store jsonMode, fan := Mon.fanInit store }

/-- Evaluate the monitors on one record of the implementation: the typed core, plus two checks that relate
the *operation* to the observation (a response the handler produced must not vanish). -/
def DMon.onRecord (m : DMon) (d : DState) (toks : List String) (impl : String) : DMon × Mon.Viol :=
  let itoks := words impl
  let r := Mon.step provOf m.core (parseObs d toks impl)
  let hr := Mon.holdStep m.hold (parseHObs toks impl)
  let br := Mon.batchStep m.batch (parseBObs toks impl)
  let fr := Mon.fanStep m.fan (parseFObs (m.subs.filter fun n => !m.gone.contains n) toks impl)
  let kr := Mon.keepStep m.keep (parseKObs toks impl)
  let m : DMon := { m with core := r.1, hold := hr.1, extra08 := hr.2.map Mon.ClauseH.text,
                           batch := br.1, extraB := br.2.map Mon.ClauseB.text,
                           fan := fr.1, extraF := fr.2.map Mon.ClauseF.text,
                           keep := kr.1, extraK := if d.store then kr.2.map Mon.ClauseK.text else none }
  -- a session is entitled to resources/updated once its resources/subscribe has been answered
  let m : DMon := match toks with
    | "plain" :: n :: _ =>
      let id := (kvGet toks "id").getD "0"
      if kvGet toks "m" == some "sub" && (itoks.any fun t => t.endsWith s!"/R.{id}.plain" || t.endsWith s!",R.{id}.plain")
          && !m.subs.contains n then { m with subs := m.subs ++ [n] } else m
    | _ => m
  let (m, extra) : DMon × Option String := match toks with
    | "init" :: _ :: _ =>
      let id := (kvGet toks "id").getD "0"
      if !(itoks.any fun t => t.endsWith s!"/R.{id}.init" || t.endsWith s!",R.{id}.init") then
        (m, some "C10: the initialize response was not written to the exchange of its request")
      else (m, none)
    | ["resp", n, r, x] =>
      if d.store && n.startsWith "s" && !m.gone.contains n then
        let p := ".".intercalate ["R", r, n, r, x]
        if !(itoks.any fun t => t.startsWith s!"a:{n}:" && t.endsWith (":" ++ p)) then
          (m, some "C10: a response produced by the handler reached neither an exchange nor the store (lost)")
        else (m, none)
      else (m, none)
    | ["delete", n] =>
      -- (a session served by `transport.ServeHTTP` directly answers DELETE with 405 and lives on)
      if itoks.any (·.endsWith ":405") then (m, none) else ({ m with gone := m.gone ++ [n] }, none)
    | ["kill", n] => ({ m with gone := m.gone ++ [n] }, none)
    | _ => (m, none)
  -- C02 / C10 on the streamable server (typed core `Mon.idStep`): a call is refused as "duplicate in-flight id" only if one of
  -- its ids IS in flight, and is accepted only if none is.  In flight = accepted by an earlier POST of the session and its
  -- handler has not finished (`resp` is the handler finishing, whether or not its response could be delivered).
  let opened : List (Nat × String) := itoks.filterMap fun t =>
    if t.startsWith "x" && !t.contains '+' && !t.contains '!' then
      match t.splitOn ":" with
      | [xk, kind] => some (parseX xk, kind)
      | _ => none
    else none
  let iobs : Mon.IdObs String := match toks with
    | "call" :: n :: _ =>
      if !n.startsWith "s" || m.gone.contains n then .other else
      let ids := (parseIds (kvGet toks "ids")).eraseDups
      match opened.head? with
      | some (_, kind) => .call n ids (kind == "sse" || kind == "json") (kind == "400")
      | none => .other
    | "duprace" :: n :: _ =>
      -- two POSTs with the same ids racing: exactly one of them is served (the other is refused whatever was in flight)
      let ids := (parseIds (kvGet toks "ids")).eraseDups
      if opened.any (fun x => x.2 == "sse" || x.2 == "json") then .call n ids true false else .other
    | ["resp", n, r, _] => .finished n (r.toNat?.getD 0)
    | _ => .other
  let ir := Mon.idStep m.ids iobs
  let m := { m with ids := ir.1, extraI := ir.2 }
  let extra02 : Option String := ir.2.map Mon.ClauseI.text02
  ({ m with extra10 := extra.orElse fun _ => extra02 }, r.2)

/-! ## engine -/

def engine (prop : String) : Engine DState where
  init := {}
  step d toks impl :=
    match toks with
    | ["reset"] => ({}, { model := "ok" })
    | ["endcase"] => (d, { model := "ok" })
    | ["cfg", mode, resp, st] =>
      let d : DState := { store := st == "store", jsonM := resp == "json", mon := DMon.init (st == "store") (resp == "json") }
      ({ d with cfg := some (mkCfg d (mode == "stateless")) }, { model := "ok" })
    | _ =>
      if d.cfg.isNone then (d, { model := "nocfg" }) else
      -- `af=1` (last token of an `emit` / `resp`): the event store fails the `Append` of this op's write
      let af := toks.getLast? == some "af=1" && (toks.head? == some "emit" || toks.head? == some "resp") && d.store
      let toks := if toks.getLast? == some "af=1" then toks.dropLast else toks
      -- a session served by `transport.ServeHTTP` directly: the handler is what copies the Mcp-Protocol-Version header into
      -- the request context, so every request of such a session is served as 2025-03-26 (an initialize still carries its
      -- version in its body: `v=` is kept)
      let isDirect := ((toks[1]?).bind (getSess d)).map (·.direct) == some true
      let mtoks := if isDirect then toks.map fun t => if t.startsWith "hv=" then "hv=a" else t else toks
      -- evictions are choices of the store (they depend on byte sizes): the model takes them from the record
      let itoks0 := words impl
      let d := { d with evicts := parsePurges itoks0, ptoks := itoks0.filter (·.startsWith "p:"), win := itoks0.contains "win=1", af := af }
      -- (they happen inside `Append`, before the new entry is added: for a plain op they take effect at its end —
      -- nothing in it reads the store after an append —, the race ops place them between their two parties)
      match modelOp d mtoks with
      | none => (d, { model := "bad-op" })
      | some o =>
        let o := { o with d := applyEvicts o.d }
        let endTxt := o.endsX.map fun k => s!"x{k}."
        -- handler-level exchanges end at once; their end tokens sort with the others by number
        let (body, dn) := renderDelta d o.d o.extra o.snaps
        let body := if endTxt.isEmpty then body else
          -- insert handler-level ends before the snapshot tokens
          let ws := words body
          let (pre, post) := ws.span (fun t => !t.startsWith "S")
          " ".intercalate (pre ++ endTxt ++ post)
        let model := body ++ o.tail
        let (m, v) := d.mon.onRecord dn toks impl
        -- first violated clause of the requested property: typed core, then the op-level clause
        let v08 := ((v.v08.map Mon.Clause08.text).orElse fun _ => m.extra08).orElse fun _ => m.extraK
        let ext := fun (p : String) => m.extra10.filter (·.startsWith p)
        let v10 := (((v.v10.map Mon.Clause10.text).orElse fun _ => ext "C10").orElse fun _ => m.extraF).orElse fun _ =>
          m.extraI.bind Mon.ClauseI.text10
        let v02 := ((ext "C02").orElse fun _ => m.extraI.map Mon.ClauseI.text02).orElse fun _ => m.extraB
        let mviol := if prop == "C08" then v08 else if prop == "C10" then v10 else if prop == "C02" then v02
          else (v10.orElse fun _ => v08).orElse fun _ => v02
        let crashed := impl.startsWith "panic" || (words impl).contains "w=panic" || (impl.splitOn "PANIC").length > 1
        let viol := if crashed then some ((if prop == "" then "C08" else prop) ++ ": the server panicked while handling this operation")
                    else mviol
        ({ dn with mon := m, evicts := [], ptoks := [], af := false }, { model := model, violated := viol })

end Resume

def main (args : List String) : IO Unit :=
  Proto.run (Resume.engine (args.head?.getD ""))
