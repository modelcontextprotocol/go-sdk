import McpModel.Resume.Bridge08
import McpModel.Resume.Cases
import McpModel.Resume.RecOf
/-!
# C08 — the monitor accepts the model (bridging theorem)

`monitor_accepts_model_C08`: for **every** label list in the scope of C08, the typed monitor core
(`Mon.step`, the function the driver runs on the implementation's observations) raises no C08 clause on the
model's own observation trace (one record per label).  `monitorC08_accepts_groups` is the same for runs cut
into records of several labels (as the driver's operations are) whenever every record satisfies the
record-level facts `RecFacts` (proved for one label: `recFacts_step`).  So a C08 verdict `V` can only arise on an
observation that differs from every model behaviour: the monitor raises no alarm on conforming behaviour *by theorem*.
-/
namespace Resume
open Mon

section
variable {α : Type}

/-- labels in the scope of the C08 *monitor*: those of `InScope`, and a GET carries a protocol version before
2026-07-28 (the harness never sends another one on a GET; a newer one puts the exchange outside C08) -/
def ObsScope (c : Conn α) (l : Label α) : Prop :=
  InScope c l ∧ match l with
    | .get _ ver _ => ver.isNew = false
    | _ => True

theorem recFacts_step {c : Conn α} (h8 : Inv08 c) (hst : c.cfg.hasStore = true) (l : Label α)
    (hsc : ObsScope c l) : RecFacts (originOfLabel l) c (step c l) := by
  have new1 := step_exs_le c l
  cases hop : l.opens with
  | false =>
    obtain ⟨hnone, hog⟩ := step_opens_none c l hop
    rw [hog]
    exact ⟨new1, rfl, fun e he _ => (by rw [hnone] at he; cases he), fun h => (by cases h), fun h => (by cases h)⟩
  | true =>
    cases l with
    | post calls listen ver budget =>
      exact ⟨new1, hsc.1, fun e he _ => ⟨post_new c calls listen ver budget e he, fun t ht => by cases ht⟩,
        fun h => (by cases h), fun h => (by cases h)⟩
    | get hdr ver budget =>
      have hnew := get_new h8 hst hdr ver budget hsc.1
      have hstore : (step c (.get hdr ver budget)).store = c.store := by show (get c hdr ver budget).store = _; rw [get_eq]
      refine ⟨new1, hsc.2, ?_, ?_, ?_⟩
      · intro e he hl
        obtain ⟨hs, hf, _⟩ := hnew e he hl
        exact ⟨by rw [hf]; exact (obsHdr_from hdr _).symm, fun t ht => by rw [hs]; exact obsHdr_stream hdr _ t ht⟩
      · intro _ e he hk hl hle
        rw [hstore] at hle ⊢
        exact (hnew e he (Or.inl hk)).2.2.2 hl hle
      · intro _ e he hk t ht
        show ¬ (Origin.get (obsHdr hdr) ver.isNew).from < c.purged t
        rw [obsHdr_from, obsHdr_stream hdr _ t ht]
        exact (hnew e he (Or.inl hk)).2.2.1
    | _ => cases hop

end

variable {α σ : Type} [DecidableEq α] [DecidableEq σ]

theorem monRel08_init (cfg : Cfg) (sn : σ) : MonRel08 sn (Mon.init cfg.hasStore cfg.jsonResponse : MonS σ α) (init cfg) := by
  refine ⟨rfl, fun _ => rfl, ?_, ?_⟩
  · intro sid
    simp only [Mon.init, init]
    split <;> simp
  · intro j e he; simp [init] at he

/-- runs cut into records each of which is in scope and satisfies the record-level facts -/
def GroupsOK08 : Conn α → List (List (Label α)) → Prop
  | _, [] => True
  | c, g :: gs => InScopeRun c g ∧ RecFacts (originOfGroup g) c (run c g) ∧ GroupsOK08 (run c g) gs

theorem accepts_groups_from (prov : α → Prov σ) (sn : σ) : ∀ (gs : List (List (Label α))) (c : Conn α) (m : MonS σ α),
    Inv08All c → MonRel08 sn m c → GroupsOK08 c gs → (runV prov m (traceOf sn c gs)).2.v08 = none := by
  intro gs
  induction gs with
  | nil => intro c m _ _ _; rfl
  | cons g t ih =>
    intro c m hi hm hok
    obtain ⟨hsc, hf, hrest⟩ := hok
    have hi' := inv08All_run hi g hsc
    obtain ⟨v, hm'⟩ := record_ok08 prov hi.st hi'.w hi'.i8 hi'.k hi'.id hi'.p (purged_mono_run c g) (grow_run hi.w g) hf hm
    exact quiet08_or _ _ v (ih (run c g) _ hi' hm' hrest)

/-- **C08 bridging, grouped records.**  `GroupsOK08` ASSUMES `RecFacts` of every group; they are proved for one label only. -/
theorem monitorC08_accepts_groups (cfg : Cfg) (hst : cfg.hasStore = true) (sn : σ) (prov : α → Prov σ)
    (gs : List (List (Label α))) (hok : GroupsOK08 (init cfg : Conn α) gs) :
    (runV prov (Mon.init cfg.hasStore cfg.jsonResponse) (traceOf sn (init cfg) gs)).2.v08 = none :=
  accepts_groups_from prov sn gs (init cfg) _ (inv08All_init cfg hst) (monRel08_init cfg sn) hok

def ObsScopeRun : Conn α → List (Label α) → Prop
  | _, [] => True
  | c, l :: ls => ObsScope c l ∧ ObsScopeRun (step c l) ls

theorem groupsOK_singletons : ∀ (ls : List (Label α)) (c : Conn α), Inv08All c → ObsScopeRun c ls →
    GroupsOK08 c (ls.map fun l => [l]) := by
  intro ls
  induction ls with
  | nil => intro _ _ _; trivial
  | cons l t ih =>
    intro c hi hsc
    refine ⟨⟨hsc.1.1, trivial⟩, ?_, ih (step c l) (inv08All_step hi l hsc.1.1) hsc.2⟩
    rw [originOfGroup_single]
    exact recFacts_step hi.i8 hi.st l hsc.1

/-- **C08 bridging theorem.**  For every configuration, every label list in the scope of C08 (`ObsScopeRun`:
contexts, POSTs and GETs before 2026-07-28; `Last-Event-ID`s that were issued before), any session name and any
provenance tagging of the payloads: the C08 monitor raises no clause on the observation trace of the model
(one record per label). -/
theorem monitor_accepts_model_C08 (cfg : Cfg) (sn : σ) (prov : α → Prov σ) (ls : List (Label α))
    (hsc : ObsScopeRun (init cfg : Conn α) ls) :
    (runV prov (Mon.init cfg.hasStore cfg.jsonResponse) (traceOf1 sn (init cfg) ls)).2.v08 = none := by
  cases hst : cfg.hasStore with
  | false => exact runV_nostore prov _ _ rfl
  | true =>
    have := monitorC08_accepts_groups cfg hst sn prov (ls.map fun l => [l])
      (groupsOK_singletons ls (init cfg) (inv08All_init cfg hst) hsc)
    rw [hst] at this
    exact this

end Resume
