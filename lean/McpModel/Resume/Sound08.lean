import McpModel.Resume.MonPass
/-!
# C08 — what a raised clause means (soundness of the monitor clauses)

Nine of the ten C08 clauses of the typed monitor core (all but `malformedId`, which judges the wire format) are raised
exactly when the corresponding clause of the property fails on the monitor's own ground truth — the append log it has recorded (`MonS.logs`: by `step_logs` below,
exactly the payloads the implementation appended, in order) and its per-exchange counters.  The predicates
`EventOK`, `ResumeOK`, `RowOK`, `PurgeOK` are the property clauses; `*_sound` say "clause raised → predicate false"
(the monitor never flags an observation that satisfies the clause), `*_complete` the converse.
No model is involved here.
-/
namespace Resume
namespace Mon
variable {σ π : Type} [DecidableEq σ] [DecidableEq π]

/-- **exactly once, in order, ids = positions** for one id-carrying event `(t, i)` with payload `pay` written to an
exchange that serves `serves` (if known), resumed at index `frm` and has been written `nsent` id-carrying events
so far: the event names the exchange's stream, its index is the next one, and it carries the log entry there. -/
def EventOK (log : List (Option π)) (serves : Option Nat) (frm nsent t i : Nat) (pay : Option π) : Prop :=
  (∀ t', serves = some t' → t' = t) ∧ i = frm + nsent ∧ log[i]? = some pay

theorem check08_complete (m : MonS σ π) (e : MEx σ) (t i : Nat) (pay : Option π) (h : check08 m e t i pay = none) :
    EventOK (m.logs e.sess t) e.stream e.from e.nsent t i pay := by
  have hs : (e.stream.isSome && e.stream != some t) = true ↔ ∃ t', e.stream = some t' ∧ t' ≠ t := by
    cases e.stream <;> simp
  simp only [check08, ite_some_eq_none, hs] at h
  obtain ⟨h1, h2, h3, h4⟩ := h
  refine ⟨fun t' ht' => Classical.not_not.1 fun hne => h1 ⟨t', ht', hne⟩, by omega, ?_⟩
  split at h4
  · cases h4
  · rename_i q hq
    split at h4
    · rename_i hqp; rw [hq, hqp]
    · cases h4

theorem check08_sound (m : MonS σ π) (e : MEx σ) (t i : Nat) (pay : Option π) (c : Clause08) (h : check08 m e t i pay = some c) :
    ¬ EventOK (m.logs e.sess t) e.stream e.from e.nsent t i pay ∧
    match c with
    | .otherStream => ∃ t', e.stream = some t' ∧ t' ≠ t
    | .repeated => i < e.from + e.nsent
    | .gap => e.from + e.nsent < i
    | .noEntry => (m.logs e.sess t)[i]? = none
    | .payloadDiffers => ∃ q, (m.logs e.sess t)[i]? = some q ∧ q ≠ pay
    | _ => False := by
  have hs : (e.stream.isSome && e.stream != some t) = true ↔ ∃ t', e.stream = some t' ∧ t' ≠ t := by
    cases e.stream <;> simp
  have g := h
  simp only [check08, ite_some_eq_some, hs] at g
  rcases g with ⟨g, rfl⟩ | ⟨_, ⟨g, rfl⟩ | ⟨_, ⟨g, rfl⟩ | ⟨_, g⟩⟩⟩
  · exact ⟨fun ok => let ⟨t', h1, h2⟩ := g; h2 (ok.1 t' h1), g⟩
  · exact ⟨fun ok => by have := ok.2.1; omega, g⟩
  · exact ⟨fun ok => by have := ok.2.1; omega, g⟩
  · split at g
    · rename_i hq; cases g; exact ⟨fun ok => (nomatch hq.symm.trans ok.2.2), hq⟩
    · rename_i q hq
      split at g
      · cases g
      · rename_i hne; cases g; exact ⟨fun ok => hne (Option.some.inj (hq.symm.trans ok.2.2)), q, hq, hne⟩

/-- **a resume replays everything after `Last-Event-ID`**: a healthy GET exchange serving `t` from index `frm` has
been delivered every entry of the log from `frm` on (when the resume point lies within the log) -/
def ResumeOK (log : List (Option π)) (frm nrecv : Nat) : Prop := frm ≤ log.length → frm + nrecv = log.length

theorem checkResume_sound (m : MonS σ π) (x : Nat × Bool) (c : Clause08) (h : checkResume m x = some c) :
    c = .resumeIncomplete ∧ ∃ e t, m.exs x.1 = some e ∧ e.isGet = true ∧ e.sse = true ∧ e.failing = false ∧ e.stream = some t ∧
      ¬ ResumeOK (m.logs e.sess t) e.from e.nrecv := by
  unfold checkResume at h
  split at h
  · cases h
  · rename_i e he
    split at h
    · rename_i hc
      simp only [Bool.and_eq_true, Bool.not_eq_true'] at hc
      split at h
      · rename_i t ht
        split at h
        · rename_i hbad
          cases h
          exact ⟨rfl, e, t, he, hc.1.1, hc.1.2, hc.2, ht, fun ok => hbad.2 (ok hbad.1)⟩
        · cases h
      · cases h
    · cases h

theorem checkResume_complete (m : MonS σ π) (x : Nat × Bool) (h : checkResume m x = none) (e : MEx σ) (t : Nat)
    (he : m.exs x.1 = some e) (hg : e.isGet = true) (hs : e.sse = true) (hf : e.failing = false) (ht : e.stream = some t) :
    ResumeOK (m.logs e.sess t) e.from e.nrecv := by
  unfold checkResume at h
  simp only [he, hg, hs, hf, ht, Bool.not_false, Bool.and_self, if_true] at h
  intro hle
  by_cases hne : e.from + e.nrecv = (m.logs e.sess t).length
  · exact hne
  · rw [if_pos ⟨hle, hne⟩] at h; cases h

/-- **`lastIdx` alignment and nothing lost while attached**: an attached, open SSE stream `t` has `lastIdx + 1 =`
length of its log, and its exchange — if healthy — has been delivered everything from its resume point on -/
def RowOK (log : List (Option π)) (next : Nat) (ex : Option (MEx σ)) (sess : σ) : Prop :=
  next = log.length ∧ ∀ e, ex = some e → e.failing = false → e.sess = sess → e.from + e.nrecv = log.length

theorem checkRow_sound (m : MonS σ π) (sess : σ) (r : Row) (c : Clause08) (h : checkRow m sess r = some c) :
    ∃ k, r.att = some k ∧ r.opn = true ∧ r.sse = true ∧ ¬ RowOK (m.logs sess r.t) r.next (m.exs k) sess ∧
      (c = .lastIdx ∧ r.next ≠ (m.logs sess r.t).length ∨
       c = .attachedIncomplete ∧ r.next = (m.logs sess r.t).length) := by
  unfold checkRow at h
  cases hk : r.att with
  | none => rw [hk] at h; cases h
  | some k =>
    cases he : m.exs k with
    | none =>
      simp only [hk, he, ite_eq_some_iff, reduceCtorEq, and_false, or_false, Bool.and_eq_true, Option.some.injEq] at h
      obtain ⟨⟨ho, hs⟩, hne, rfl⟩ := h
      exact ⟨k, rfl, ho, hs, fun ok => hne ok.1, .inl ⟨rfl, hne⟩⟩
    | some e =>
      simp only [hk, he, ite_eq_some_iff, reduceCtorEq, and_false, or_false, Bool.and_eq_true, Option.some.injEq,
        Bool.not_eq_true', decide_eq_true_eq] at h
      obtain ⟨⟨ho, hs⟩, ⟨hne, rfl⟩ | ⟨heq, ⟨⟨hf, hse⟩, hbad⟩, rfl⟩⟩ := h
      · exact ⟨k, rfl, ho, hs, fun ok => hne ok.1, .inl ⟨rfl, hne⟩⟩
      · exact ⟨k, rfl, ho, hs, fun ok => hbad (ok.2 e he hf hse), .inr ⟨rfl, Classical.not_not.1 heq⟩⟩

theorem checkRow_complete (m : MonS σ π) (sess : σ) (r : Row) (h : checkRow m sess r = none) (k : Nat)
    (hk : r.att = some k) (ho : r.opn = true) (hs : r.sse = true) : RowOK (m.logs sess r.t) r.next (m.exs k) sess := by
  unfold checkRow at h
  simp only [hk, ho, hs, Bool.and_self, if_true] at h
  split at h
  · cases h
  · rename_i heq
    have heq' : r.next = (m.logs sess r.t).length := by
      by_cases hh : r.next = (m.logs sess r.t).length
      · exact hh
      · exact absurd hh heq
    refine ⟨heq', ?_⟩
    intro e he hf hse
    rw [he] at h
    simp only [hf, hse, Bool.not_false, decide_true, Bool.true_and, Bool.and_true] at h
    by_cases hne : e.from + e.nrecv = (m.logs sess r.t).length
    · exact hne
    · simp [hne] at h

/-- **a resume never silently skips evicted messages**: a GET that resumes stream `t` at an index the store had
already evicted (`frm < first`) must not be answered with an event stream -/
def PurgeOK (first frm : Nat) (sse : Bool) : Prop := frm < first → sse = false

theorem checkPurged_sound (m : MonS σ π) (o : Obs σ π) (x : Nat × Bool) (c : Clause08) (h : checkPurged m o x = some c) :
    c = .purgedNotReported ∧ o.origin.isGet = true ∧ ∃ t, o.origin.stream = some t ∧ ¬ PurgeOK (m.first o.sess t) o.origin.from x.2 := by
  unfold checkPurged at h
  split at h
  · rename_i hc
    simp only [Bool.and_eq_true] at hc
    split at h
    · rename_i t ht
      split at h
      · rename_i hlt
        cases h
        exact ⟨rfl, hc.2, t, ht, fun ok => by have := ok hlt; rw [hc.1] at this; cases this⟩
      · cases h
    · cases h
  · cases h

theorem checkPurged_complete (m : MonS σ π) (o : Obs σ π) (x : Nat × Bool) (h : checkPurged m o x = none)
    (hg : o.origin.isGet = true) (t : Nat) (ht : o.origin.stream = some t) : PurgeOK (m.first o.sess t) o.origin.from x.2 := by
  intro hlt
  unfold checkPurged at h
  cases hx : x.2 with
  | false => rfl
  | true =>
    simp only [hx, hg, Bool.and_self, if_true, ht, hlt] at h
    cases h

/-- the payloads appended to stream `t` of session `s` by one record, in order -/
def appendsTo (s : σ) (t : Nat) (l : List (Append σ π)) : List (Option π) :=
  (l.filter (fun a => decide (a.sess = s) && a.stream == t)).map (·.p)

theorem step_logs (prov : π → Prov σ) (m : MonS σ π) (o : Obs σ π) (s : σ) (t : Nat) :
    (step prov m o).1.logs s t = m.logs s t ++ appendsTo s t o.appends := by
  rw [monStep_fst, (applyPurges_frame _ _).2.1, (ground_eq (evented_ground prov m o)).logs]
  show (foldV (appendOne prov) (learned m o) o.appends).1.logs s t = _
  rw [(appends_spec prov o.appends (learned m o)).2.2.2.2 s t, (ground_eq (learned_ground m o)).logs]
  rfl

/-- **the monitor's ground truth is the append log**: after any trace, the log of a stream is the list of payloads
the implementation appended to it, in order, over all records -/
theorem runV_logs (prov : π → Prov σ) (store jsonMode : Bool) (s : σ) (t : Nat) : ∀ (tr : List (Obs σ π)) (m : MonS σ π),
    (runV prov m tr).1.logs s t = m.logs s t ++ tr.flatMap (fun o => appendsTo s t o.appends) := by
  intro tr
  induction tr with
  | nil => intro m; simp [runV, foldV]
  | cons o rest ih =>
    intro m
    have := ih (step prov m o).1
    simp only [runV, foldV] at this ⊢
    rw [this, step_logs, List.append_assoc]; rfl

end Mon
end Resume
