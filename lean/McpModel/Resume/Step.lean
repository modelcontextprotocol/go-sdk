import McpModel.Resume.Inv
/-!
E5 — the shape of a step: every label runs one main critical section (`Sub`) and then at most releases or closes a stream
(`Tail`); `step_shape` is the one walk through the case tree of `step`, and `step_ind` carries an invariant over a label section
by section.  What a section does is said once, for all invariants: to the exchange table (`sub_table`), to the bookkeeping
fields (`sub_frame`).
-/
namespace Resume
variable {α : Type}

/-- The main section of a label; the constructors record what the control flow of `step` has established when it is entered.
`Sub` over-approximates on purpose: `same`, `status` (stream field 0) and `erase` are shared by all labels with such a branch, so they
take ANY label that does not (`same`, `erase`) resp. does (`status`) open an exchange. -/
inductive Sub (c : Conn α) : Label α → Conn α → Prop
  | same (l) (hl : l.opens = false) : Sub c l c
  | status (l) (code : Nat) (hl : l.opens = true) : Sub c l (statusEx c code)
  | dup (calls listen ver budget) : Sub c (.post calls listen ver budget) (postDup c ver)
  | register (calls listen ver budget) (hnew : ∀ r ∈ dedup calls, c.reqStreams r = none) :
      Sub c (.post calls listen ver budget) (postPrimed c (dedup calls) listen ver budget)
  | cut (ex) : Sub c (.cut ex) (cut c ex)
  | wfail (ex) : Sub c (.wfail ex) (wfail c ex)
  | getGo (hdr ver budget items) (hitems : replayItems c hdr.sid hdr.from = some items)
      (hnatt : (findStream hdr.sid c.streams).bind (·.attached) = none) :
      Sub c (.get hdr ver budget) (getGo c hdr.sid hdr.from ver budget items)
  | closeEv (req retry s ex) (hs : s ∈ c.streams) (hat : s.attached = some ex) :
      Sub c (.sclose req retry) (emit c ex .close).1
  | done : Sub c .end { c with isDone := true }
  | evict (sid n) : Sub c (.evict sid n) (evict c sid n)
  | erase (l) (msg ctx) (h : route c msg ctx = none ∨ c.isDone = true) (hl : l.opens = false) : Sub c l (eraseResp c msg)
  | write (msg ctx ctxNew s) (hs : route c msg ctx = some s) (hd : c.isDone = false) :
      Sub c (.write msg ctx ctxNew) (writeTo (eraseResp c msg) s msg ctx ctxNew).1
  | route (msg ctx ctxNew s) (hs : route c msg ctx = some s) (hd : c.isDone = false) :
      Sub c (.wroute msg ctx ctxNew) { eraseResp c msg with pendW := c.pendW ++ [⟨msg, ctx, ctxNew, s.id⟩] }
  | deliver (i pw s) (hpw : c.pendW[i]? = some pw) (hs : findStream pw.sid c.streams = some s) :
      Sub c (.wdeliver i) (writeTo { c with pendW := c.pendW.eraseIdx i } s pw.msg pw.ctx pw.ctxNew).1
  | orphan (i pw) (hpw : c.pendW[i]? = some pw) (hs : findStream pw.sid c.streams = none) :
      Sub c (.wdeliver i) (orphanWrite { c with pendW := c.pendW.eraseIdx i } pw).1

/-- what may follow in the same label: the release of an exchange whose handler returns at once (closed session); SCLOSE's `opn := false` -/
inductive Tail (c : Conn α) : Conn α → Prop
  | none : Tail c c
  | cut (ex) : Tail c (cut c ex)
  | close (s ex) (hs : s ∈ c.streams) (hat : s.attached = some ex) :
      Tail c { c with streams := setStream { s with opn := false } c.streams }

theorem step_shape (c : Conn α) (l : Label α) : ∃ c₁, Sub c l c₁ ∧ Tail c₁ (step c l) := by
  cases l with
  | post calls listen ver budget =>
    show ∃ c₁, _ ∧ Tail c₁ (post c calls listen ver budget)
    rcases post_cases c calls listen ver budget with h | h | ⟨hnew, h | h⟩ <;> rw [h]
    · exact ⟨_, .status _ 202 rfl, .none⟩
    · exact ⟨_, .dup calls listen ver budget, .none⟩
    · exact ⟨_, .register calls listen ver budget hnew, .none⟩
    · exact ⟨_, .register calls listen ver budget hnew, .cut _⟩
  | write msg ctx ctxNew =>
    show ∃ c₁, _ ∧ Tail c₁ (writeR c msg ctx ctxNew).1
    unfold writeR
    split
    · exact ⟨_, .same _ rfl, .none⟩
    · split
      · rename_i hr; exact ⟨_, .erase _ msg ctx (Or.inl hr) rfl, .none⟩
      · rename_i s hr
        split
        · rename_i hd; exact ⟨_, .erase _ msg ctx (Or.inr hd) rfl, .none⟩
        · rename_i hd; exact ⟨_, .write msg ctx ctxNew s hr (by simpa using hd), .none⟩
  | cut ex => exact ⟨_, .cut ex, .none⟩
  | wfail ex => exact ⟨_, .wfail ex, .none⟩
  | get hdr ver budget =>
    show ∃ c₁, _ ∧ Tail c₁ (get c hdr ver budget)
    unfold get
    split
    · exact ⟨_, .status _ 400 rfl, .none⟩
    · split
      · exact ⟨_, .status _ 400 rfl, .none⟩
      · split
        · exact ⟨_, .status _ 409 rfl, .none⟩
        · rename_i hnatt
          split
          · exact ⟨_, .status _ 400 rfl, .none⟩
          · rename_i items hitems; exact ⟨_, .getGo hdr ver budget items hitems hnatt, .none⟩
  | sclose req retry =>
    show ∃ c₁, _ ∧ Tail c₁ (sclose c req retry)
    unfold sclose
    split
    · exact ⟨_, .same _ rfl, .none⟩
    · split
      · exact ⟨_, .same _ rfl, .none⟩
      · rename_i s hs
        have hmem := (findStream_some hs).1
        split
        · rename_i ex hat hop
          split
          · exact ⟨_, .closeEv req retry s ex hmem hat, .close s ex hmem hat⟩
          · exact ⟨_, .same _ rfl, .close s ex hmem hat⟩
        · exact ⟨_, .same _ rfl, .none⟩
  | «end» => exact ⟨_, .done, .none⟩
  | evict sid n => exact ⟨_, .evict sid n, .none⟩
  | wroute msg ctx ctxNew =>
    show ∃ c₁, _ ∧ Tail c₁ (wrouteR c msg ctx ctxNew).1
    unfold wrouteR
    split
    · exact ⟨_, .same _ rfl, .none⟩
    · split
      · rename_i hr; exact ⟨_, .erase _ msg ctx (Or.inl hr) rfl, .none⟩
      · rename_i s hr
        split
        · rename_i hd; exact ⟨_, .erase _ msg ctx (Or.inr hd) rfl, .none⟩
        · rename_i hd; exact ⟨_, .route msg ctx ctxNew s hr (by simpa using hd), .none⟩
  | wdeliver i =>
    show ∃ c₁, _ ∧ Tail c₁ (wdeliverR c i).1
    unfold wdeliverR
    split
    · exact ⟨_, .same _ rfl, .none⟩
    · rename_i pw hpw
      split
      · rename_i s hs; exact ⟨_, .deliver i pw s hpw hs, .none⟩
      · rename_i hs; exact ⟨_, .orphan i pw hpw hs, .none⟩

/-- the message a WRITE or WDELIVER label delivers, and the id of the stream its routing section picked -/
def WriteOf (c : Conn α) (l : Label α) (sid : Nat) (msg : Msg α) (ctx : Option Nat) : Prop :=
  match l with
  | .write m x _ => m = msg ∧ x = ctx ∧ ∃ s, route c m x = some s ∧ s.id = sid
  | .wdeliver i => ∃ pw, c.pendW[i]? = some pw ∧ pw.sid = sid ∧ pw.msg = msg ∧ pw.ctx = ctx
  | _ => False

/-- all a label ever writes to an exchange that serves stream `sid` -/
inductive Wrote (c : Conn α) (l : Label α) (sid : Nat) : Out α → Prop
  | comment : Wrote c l sid .comment
  | close : Wrote c l sid .close
  | prime (h : sid = c.nextSid) : Wrote c l sid (.prime sid 0)
  | replay (k it) (h : ∃ log, c.store sid = some log ∧ some it ∈ log) : Wrote c l sid (.message (some (sid, k)) it)
  | message (msg ctx evid) (hw : WriteOf c l sid msg ctx) (he : ∀ x, evid = some x → x.1 = sid) :
      Wrote c l sid (.message evid ⟨msg, ctx⟩)
  | json (msg ctx s pend) (hw : WriteOf c l sid msg ctx) (hs : s ∈ c.streams) (hid : s.id = sid) (hp : s.json = some pend) :
      Wrote c l sid (.json (pend ++ [⟨msg, ctx⟩]))

/-- the exchange table after a section: one exchange was written what `Wrote` lists (only if a stream is attached to it) and
perhaps ended; or one was opened (by a POST or a GET only), written to (only if it is an SSE or JSON exchange) and perhaps ended; or
a writer was broken.  (`Inv` is needed only to know which stream the exchange a write goes to serves.) -/
theorem sub_table {c c₁ : Conn α} {l : Label α} (hs : Sub c l c₁) :
    (∃ x ws fin, c₁.exs = setEx x (Exch.touch ws fin) c.exs ∧
      ∀ e, c.exs[x]? = some e → (ws ≠ [] → ∃ s ∈ c.streams, s.attached = some x) ∧ (Inv c → ∀ o ∈ ws, Wrote c l e.stream o)) ∨
    (∃ (e₀ : Exch α) (ws : List (Out α)) (fin : Bool), c₁.exs = c.exs ++ [e₀.touch ws fin] ∧ e₀.out = [] ∧ e₀.lost = [] ∧
      l.opens = true ∧ (ws = [] ∨ e₀.kind = .sse ∨ e₀.kind = .json) ∧ ∀ o ∈ ws, Wrote c l e₀.stream o) ∨
    (∃ x, c₁.exs = setEx x (fun e => { e with budget := some 0 }) c.exs) := by
  have hid : ∀ c' : Conn α, c'.exs = c.exs → ∃ x ws fin, c'.exs = setEx x (Exch.touch ws fin) c.exs ∧
      ∀ e, c.exs[x]? = some e → (ws ≠ [] → ∃ s ∈ c.streams, s.attached = some x) ∧ (Inv c → ∀ o ∈ ws, Wrote c l e.stream o) :=
    fun c' h => ⟨0, [], false, by rw [h, setEx_touch_nil], fun _ _ => ⟨fun h => absurd rfl h, fun _ _ ho => by cases ho⟩⟩
  -- a write delivered on a registered stream
  have hwrite : ∀ (c' : Conn α) (s : Stream α) (msg : Msg α) (ctx : Option Nat) (ctxNew : Bool), c'.exs = c.exs → s ∈ c.streams →
      WriteOf c l s.id msg ctx →
      ∃ x ws fin, (writeTo c' s msg ctx ctxNew).1.exs = setEx x (Exch.touch ws fin) c.exs ∧
        ∀ e, c.exs[x]? = some e → (ws ≠ [] → ∃ s ∈ c.streams, s.attached = some x) ∧ (Inv c → ∀ o ∈ ws, Wrote c l e.stream o) := by
    intro c' s msg ctx ctxNew hc hmem hwr
    obtain ⟨x, ws, fin, h, hws⟩ := deliver_table c'.exs s ⟨msg, ctx⟩ (if wUse c' ctxNew then some (s.id, s.next) else none)
      (wReqs s msg) (wDone s msg)
    refine ⟨x, ws, fin, h.trans (congrArg _ hc), fun e he => ?_⟩
    rcases hws with rfl | ⟨hat, _, hws⟩
    · exact ⟨fun h => absurd rfl h, fun _ _ ho => by cases ho⟩
    · refine ⟨fun _ => ⟨s, hmem, hat⟩, fun hw o ho => ?_⟩
      obtain ⟨e₀, h0, hs⟩ := hw.att s hmem x hat
      rw [he] at h0; cases h0
      rw [hs]
      rcases hws with ⟨_, rfl⟩ | ⟨pend, hp, rfl⟩ <;> rw [List.mem_singleton.mp ho]
      · exact .message msg ctx _ hwr (fun x hx => by split at hx <;> cases hx; rfl)
      · exact .json msg ctx s pend hwr hmem rfl hp
  cases hs with
  | status _ code hl =>
    exact .inr (.inl ⟨{ kind := .status code, ended := true, stream := 0 }, [], false, rfl, rfl, rfl, hl, .inl rfl, fun _ ho => by cases ho⟩)
  | dup =>
    exact .inr (.inl ⟨{ kind := .status 400, ended := true, stream := c.nextSid }, [], false, rfl, rfl, rfl, rfl, .inl rfl,
      fun _ ho => by cases ho⟩)
  | register calls listen ver budget =>
    refine .inr (.inl ⟨{ kind := if useSSE c listen then .sse else .json, budget := budget, stream := c.nextSid, «from» := 0 },
      if primed c listen ver then [.prime c.nextSid 0] else [], false, by rw [postPrimed_eq]; rfl, rfl, rfl, rfl,
      .inr (by simp only; split <;> simp), fun o ho => ?_⟩)
    split at ho <;> simp at ho; subst ho; exact .prime rfl
  | cut ex => exact .inl ⟨ex, [], true, rfl, fun _ _ => ⟨fun h => absurd rfl h, fun _ _ ho => by cases ho⟩⟩
  | wfail ex => exact .inr (.inr ⟨ex, rfl⟩)
  | getGo hdr ver budget items hitems =>
    obtain ⟨n, e₁, htab, he₁, _⟩ := getGo_table c hdr.sid hdr.from ver budget items
    refine .inr (.inl ⟨{ kind := .sse, budget := budget, stream := hdr.sid, «from» := hdr.from },
      (if hdr.sid = 0 then [.comment] else []) ++ replayed hdr.sid hdr.from (items.take n), e₁.ended, ?_, rfl, rfl, rfl,
      .inr (.inl rfl), fun o ho => ?_⟩)
    · rw [htab]; rcases he₁ with rfl | rfl <;> simp [Exch.touch, getEx, pushes_append]
    · rcases List.mem_append.mp ho with ho | ho
      · split at ho <;> simp at ho; subst ho; exact .comment
      · obtain ⟨k, it, hm, rfl⟩ := mem_replayed ho
        exact .replay k it (replayItems_mem hitems it (List.mem_of_mem_take hm))
  | closeEv _ _ s ex hs hat =>
    exact .inl ⟨ex, [.close], false, emitX_fst _ _ _,
      fun _ _ => ⟨fun _ => ⟨s, hs, hat⟩, fun _ o ho => by simp at ho; subst ho; exact .close⟩⟩
  | erase _ msg => exact .inl (hid _ (by simp))
  | write msg ctx ctxNew s hr =>
    exact .inl (hwrite (eraseResp c msg) s msg ctx ctxNew (eraseResp_exs c msg) (route_mem hr) ⟨rfl, rfl, s, hr, rfl⟩)
  | route msg => exact .inl (hid _ (by simp))
  | deliver i pw s hpw hs =>
    obtain ⟨hmem, hsid⟩ := findStream_some hs
    exact .inl (hwrite _ s pw.msg pw.ctx pw.ctxNew rfl hmem ⟨pw, hpw, hsid.symm, rfl, rfl⟩)
  | _ => exact .inl (hid _ rfl)

/-- `sub_table` as its users take it: a relation that holds for the three shapes holds across a section -/
theorem sub_rel {R : List (Exch α) → List (Exch α) → Prop} {c c₁ : Conn α} {l : Label α} (hw : Inv c) (hs : Sub c l c₁)
    (htouch : ∀ x ws fin,
      (∀ e, c.exs[x]? = some e → (ws ≠ [] → ∃ s ∈ c.streams, s.attached = some x) ∧ ∀ o ∈ ws, Wrote c l e.stream o) →
      R c.exs (setEx x (Exch.touch ws fin) c.exs))
    (hopen : ∀ (e₀ : Exch α) ws fin, e₀.out = [] → e₀.lost = [] → (ws = [] ∨ e₀.kind = .sse ∨ e₀.kind = .json) →
      (∀ o ∈ ws, Wrote c l e₀.stream o) → R c.exs (c.exs ++ [e₀.touch ws fin]))
    (hfail : ∀ x, R c.exs (setEx x (fun e => { e with budget := some 0 }) c.exs)) : R c.exs c₁.exs := by
  rcases sub_table hs with ⟨x, ws, fin, h, hx⟩ | ⟨e₀, ws, fin, h, h1, h2, _, h3, h4⟩ | ⟨x, h⟩ <;> rw [h]
  · exact htouch x ws fin (fun e he => ⟨(hx e he).1, (hx e he).2 hw⟩)
  · exact hopen e₀ ws fin h1 h2 h3 h4
  · exact hfail x

theorem tail_table {c c₁ : Conn α} (ht : Tail c c₁) : c₁.exs = c.exs ∨ ∃ ex, c₁.exs = setEx ex (Exch.touch [] true) c.exs := by
  cases ht with
  | cut ex => exact .inr ⟨ex, rfl⟩
  | _ => exact .inl rfl

theorem step_exs_length (c : Conn α) (l : Label α) : (step c l).exs.length = c.exs.length + if l.opens then 1 else 0 := by
  obtain ⟨c₁, hs, ht⟩ := step_shape c l
  have htl : (step c l).exs.length = c₁.exs.length := by
    rcases tail_table ht with h | ⟨_, h⟩ <;> rw [h]; simp
  have hdel : ∀ (c' : Conn α) s msg ctx ctxNew, (writeTo c' s msg ctx ctxNew).1.exs.length = c'.exs.length := by
    intro c' s msg ctx ctxNew
    obtain ⟨_, _, _, h, _⟩ := deliver_table c'.exs s ⟨msg, ctx⟩ (if wUse c' ctxNew then some (s.id, s.next) else none)
      (wReqs s msg) (wDone s msg)
    simp only [writeTo, wDeliver]; rw [h]; simp
  rw [htl]
  cases hs with
  | same _ hl => simp [hl]
  | status _ code hl => simp [hl, statusEx]
  | dup => simp [Label.opens, postDup, statusEx]
  | register => rw [postPrimed_eq]; simp [Label.opens]
  | cut ex => simp [Label.opens, cut, finish]
  | wfail ex => simp [Label.opens, wfail]
  | getGo hdr ver budget items =>
    obtain ⟨_, _, h, _⟩ := getGo_table c hdr.sid hdr.from ver budget items
    rw [h]; simp [Label.opens]
  | closeEv => simp [Label.opens, emit]
  | erase _ msg ctx _ hl => simp [hl]
  | write msg => rw [hdel]; simp [Label.opens]
  | route msg => simp [Label.opens]
  | deliver => rw [hdel]; simp [Label.opens]
  | _ => rfl

theorem inv_sub {c c₁ : Conn α} {l : Label α} (h : Inv c) (hs : Sub c l c₁) : Inv c₁ := by
  cases hs with
  | same => exact h
  | status _ code => exact inv_statusEx h _ _
  | dup => exact inv_postDup h _
  | register => exact inv_postPrimed h _ _ _ _
  | cut ex => exact inv_cut h ex
  | wfail ex => exact inv_wfail h ex
  | getGo => exact inv_getGo h _ _ _ _ _
  | closeEv => exact inv_emit h _ _
  | done => exact ⟨h.nodup, h.sid_lt, h.store_lt, h.att, h.att_inj, h.opn_att, h.ex_ok, h.pend_lt⟩
  | evict => exact ⟨h.nodup, h.sid_lt, h.store_lt, h.att, h.att_inj, h.opn_att, h.ex_ok, h.pend_lt⟩
  | erase _ msg => exact inv_eraseResp h msg
  | write msg ctx ctxNew s hs => exact inv_writeTo (inv_eraseResp h msg) (by simp; exact route_mem hs) _ _ _
  | route msg ctx ctxNew s hs =>
    refine inv_pendW (inv_eraseResp h msg) _ ?_
    intro pw hp
    simp only [eraseResp_nextSid]
    rcases List.mem_append.mp hp with hp | hp
    · exact h.pend_lt pw hp
    · simp at hp; subst hp; exact h.sid_lt s (route_mem hs)
  | deliver i pw s hpw hs => exact inv_writeTo (inv_unpend h i) (findStream_some hs).1 _ _ _
  | orphan i pw hpw => exact inv_orphan (inv_unpend h i) pw (h.pend_lt pw (List.mem_of_getElem? hpw))

theorem inv_tail {c c₁ : Conn α} (h : Inv c) (ht : Tail c c₁) : Inv c₁ := by
  cases ht with
  | none => exact h
  | cut ex => exact inv_cut h ex
  | close s ex hs hat =>
    exact inv_frame h (streamsRel_set (s := s) hs rfl (Or.inl rfl) (fun ho => by cases ho)) (ExKeep.refl _) h.store_lt (Nat.le_refl _)

theorem inv_step {c : Conn α} (h : Inv c) (l : Label α) : Inv (step c l) := by
  obtain ⟨c₁, hs, ht⟩ := step_shape c l
  exact inv_tail (inv_sub h hs) ht

theorem step_ind {P : Conn α → Prop} {c : Conn α} (hw : Inv c) (l : Label α) (hsub : ∀ c₁, Sub c l c₁ → P c₁)
    (htail : ∀ c₁ c₂, Inv c₁ → P c₁ → Tail c₁ c₂ → P c₂) : P (step c l) := by
  obtain ⟨c₁, hs, ht⟩ := step_shape c l
  exact htail c₁ _ (inv_sub hw hs) (hsub c₁ hs) ht

theorem tail_only_exs_streams {c c₁ : Conn α} (ht : Tail c c₁) : ∃ exs strs, c₁ = { c with exs := exs, streams := strs } := by
  cases ht <;> exact ⟨_, _, rfl⟩

/-- the bookkeeping of a section: only EVICT evicts, only WROUTE and WDELIVER move a pending write, only POST registers (`book`: the
ghosts stay, `nextSid` does not decrease, `requestStreams` gains no entry — or the section is a POST's registration: `postPrimed_frame`) -/
structure Frame (c : Conn α) (l : Label α) (c₁ : Conn α) : Prop where
  cfg : c₁.cfg = c.cfg
  purged : c₁.purged = c.purged ∨ ∃ sid n, l = .evict sid n
  pendW : c₁.pendW = c.pendW ∨
    (∃ msg ctx ctxNew s, l = .wroute msg ctx ctxNew ∧ route c msg ctx = some s ∧ c₁.pendW = c.pendW ++ [⟨msg, ctx, ctxNew, s.id⟩]) ∨
    (∃ i, l = .wdeliver i ∧ c₁.pendW = c.pendW.eraseIdx i)
  book : (c₁.hist = c.hist ∧ c₁.born = c.born ∧ c.nextSid ≤ c₁.nextSid ∧
      ∀ r sid, c₁.reqStreams r = some sid → c.reqStreams r = some sid) ∨
    (∃ calls listen ver budget, l = .post calls listen ver budget ∧ c₁ = postPrimed c (dedup calls) listen ver budget)

theorem sub_frame {c c₁ : Conn α} {l : Label α} (hs : Sub c l c₁) : Frame c l c₁ := by
  have keep : ∀ c' : Conn α, c'.cfg = c.cfg → c'.purged = c.purged → c'.pendW = c.pendW → c'.hist = c.hist → c'.born = c.born →
      c.nextSid ≤ c'.nextSid → (∀ r sid, c'.reqStreams r = some sid → c.reqStreams r = some sid) → Frame c l c' :=
    fun _ h1 h2 h3 h4 h5 h6 h7 => ⟨h1, .inl h2, .inl h3, .inl ⟨h4, h5, h6, h7⟩⟩
  cases hs with
  | dup => exact keep _ rfl rfl rfl rfl rfl (Nat.le_succ _) (fun _ _ h => h)
  | register calls listen ver budget =>
    exact ⟨by rw [postPrimed_eq]; rfl, .inl (by rw [postPrimed_eq]; rfl), .inl (by rw [postPrimed_eq]; rfl), .inr ⟨_, _, _, _, rfl, rfl⟩⟩
  | getGo hdr ver budget items =>
    have h := getGo_only_exs_streams c hdr.sid hdr.from ver budget items
    rw [h]; exact keep _ rfl rfl rfl rfl rfl (Nat.le_refl _) (fun _ _ h => h)
  | evict sid n => exact ⟨rfl, .inr ⟨sid, n, rfl⟩, .inl rfl, .inl ⟨rfl, rfl, Nat.le_refl _, fun _ _ h => h⟩⟩
  | erase _ msg =>
    exact keep _ (eraseResp_cfg c msg) (eraseResp_purged c msg) (eraseResp_pendW c msg) (eraseResp_hist c msg) (eraseResp_born c msg)
      (Nat.le_of_eq (eraseResp_nextSid c msg).symm) (eraseResp_req_le c msg)
  | write msg =>
    exact keep _ (eraseResp_cfg c msg) (eraseResp_purged c msg) (eraseResp_pendW c msg) (eraseResp_hist c msg) (eraseResp_born c msg)
      (Nat.le_of_eq (eraseResp_nextSid c msg).symm) (eraseResp_req_le c msg)
  | route msg ctx ctxNew s hr =>
    exact ⟨eraseResp_cfg c msg, .inl (eraseResp_purged c msg), .inr (.inl ⟨msg, ctx, ctxNew, s, rfl, hr, rfl⟩),
      .inl ⟨eraseResp_hist c msg, eraseResp_born c msg, Nat.le_of_eq (eraseResp_nextSid c msg).symm, eraseResp_req_le c msg⟩⟩
  | deliver i => exact ⟨rfl, .inl rfl, .inr (.inr ⟨i, rfl, rfl⟩), .inl ⟨rfl, rfl, Nat.le_refl _, fun _ _ h => h⟩⟩
  | orphan i => exact ⟨rfl, .inl rfl, .inr (.inr ⟨i, rfl, rfl⟩), .inl ⟨rfl, rfl, Nat.le_refl _, fun _ _ h => h⟩⟩
  | _ => exact keep _ rfl rfl rfl rfl rfl (Nat.le_refl _) (fun _ _ h => h)

theorem step_pendW (c : Conn α) (l : Label α) : ∀ pw ∈ (step c l).pendW,
    pw ∈ c.pendW ∨ ∃ msg ctx ctxNew s, l = .wroute msg ctx ctxNew ∧ route c msg ctx = some s ∧ pw = ⟨msg, ctx, ctxNew, s.id⟩ := by
  obtain ⟨c₁, hs, ht⟩ := step_shape c l
  obtain ⟨_, _, h⟩ := tail_only_exs_streams ht
  rw [h]
  intro pw hp
  have hp : pw ∈ c₁.pendW := hp
  rcases (sub_frame hs).pendW with h0 | ⟨msg, ctx, n, s, hl, hr, h0⟩ | ⟨i, _, h0⟩ <;> rw [h0] at hp
  · exact Or.inl hp
  · rcases List.mem_append.mp hp with hp | hp
    · exact Or.inl hp
    · exact Or.inr ⟨msg, ctx, n, s, hl, hr, by simpa using hp⟩
  · exact Or.inl (List.mem_of_mem_eraseIdx hp)

theorem step_cfg (c : Conn α) (l : Label α) : (step c l).cfg = c.cfg := by
  obtain ⟨c₁, hs, ht⟩ := step_shape c l
  obtain ⟨_, _, h⟩ := tail_only_exs_streams ht
  rw [h]; exact (sub_frame hs).cfg

theorem step_purged_other (c : Conn α) (l : Label α) (hl : ∀ sid n, l ≠ .evict sid n) : (step c l).purged = c.purged := by
  obtain ⟨c₁, hs, ht⟩ := step_shape c l
  obtain ⟨_, _, he⟩ := tail_only_exs_streams ht
  have : c₁.purged = c.purged := (sub_frame hs).purged.resolve_right (fun ⟨sid, n, h⟩ => hl sid n h)
  rw [he]; exact this

theorem run_append (c : Conn α) (l₁ l₂ : List (Label α)) : run c (l₁ ++ l₂) = run (run c l₁) l₂ := by
  simp [run, List.foldl_append]

theorem run_ind_mem {P : Conn α → Prop} {Q : Label α → Prop} (hstep : ∀ c l, Q l → P c → P (step c l)) (ls : List (Label α))
    {c : Conn α} (h : P c) (hq : ∀ l ∈ ls, Q l) : P (run c ls) :=
  List.foldlRecOn ls step h fun c hc l hl => hstep c l (hq l hl) hc

theorem run_ind {P : Conn α → Prop} (hstep : ∀ c l, P c → P (step c l)) {c : Conn α} (h : P c) (ls : List (Label α)) :
    P (run c ls) :=
  List.foldlRecOn ls step h fun c hc l _ => hstep c l hc

theorem run_cfg (cfg : Cfg) (ls : List (Label α)) : (run (init cfg : Conn α) ls).cfg = cfg :=
  run_ind (P := fun c => c.cfg = cfg) (fun c l h => (step_cfg c l).trans h) rfl ls

theorem inv_run (cfg : Cfg) (ls : List (Label α)) : Inv (run (init cfg) ls) :=
  run_ind (P := Inv) (fun _ l h => inv_step h l) (inv_init cfg) ls

end Resume
