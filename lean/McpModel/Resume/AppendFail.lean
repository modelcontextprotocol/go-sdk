import McpModel.Resume.Batch
import McpModel.Resume.Witness
/-!
# A WRITE whose `EventStore.Append` fails (APPENDFAIL)

An `EventStore` is an I/O boundary (`MemoryEventStore.Append` never fails; a database / disk / quota backed one does).
`streamableServerConn.Write` only *remembers* the error and delivers as for every write (`Model.writeFR`).
-/
namespace Resume
variable {α : Type}

def withStore (c : Conn α) (st : Store α) : Conn α := { c with store := st }

theorem writeR_store_unused (c : Conn α) (msg : Msg α) (ctx : Option Nat) (ctxNew : Bool) (h : wUse c ctxNew = false) :
    (writeR c msg ctx ctxNew).1.store = c.store := by
  rcases writeR_cases c msg ctx ctxNew with h' | ⟨r, h'⟩ | ⟨s, _, _, h'⟩ <;> rw [h']
  · exact eraseResp_store c msg
  · have hu : wUse (eraseResp c msg) ctxNew = false := by simpa [wUse] using h
    simp [writeTo, hu]

theorem writeFR_eq_rollback (c : Conn α) (msg : Msg α) (ctx : Option Nat) (ctxNew : Bool) :
    (writeFR c msg ctx ctxNew).1 = withStore (writeR c msg ctx ctxNew).1 c.store := by
  unfold writeFR
  by_cases hu : wUse c ctxNew = true
  · -- the same control flow as `writeR`, the delivery section without the append
    rw [if_neg (by simp [hu])]
    unfold writeR
    split
    · rfl
    · split
      · cases msg <;> rfl
      · split
        · cases msg <;> rfl
        · cases msg <;> rfl
  · have hu' : wUse c ctxNew = false := by simpa using hu
    rw [if_pos (by simp [hu'])]
    show (writeR c msg ctx ctxNew).1 = { (writeR c msg ctx ctxNew).1 with store := c.store }
    rw [← writeR_store_unused c msg ctx ctxNew hu']

/-- a response whose `Append` failed frees its id like any other -/
theorem response_unregisters_append_fails (c : Conn α) (r : Nat) (p : α) (ctx : Option Nat) (ctxNew : Bool) :
    (writeFR c (.resp r p) ctx ctxNew).1.reqStreams r = none := by
  rw [writeFR_eq_rollback]
  exact response_unregisters c r p ctx ctxNew

/-! ### the store is not read by a write (only written) -/

theorem writeR_withStore (c : Conn α) (st : Store α) (msg : Msg α) (ctx : Option Nat) (ctxNew : Bool) :
    ∃ st', (writeR (withStore c st) msg ctx ctxNew).1 = withStore (writeR c msg ctx ctxNew).1 st' ∧
      (writeR (withStore c st) msg ctx ctxNew).2 = (writeR c msg ctx ctxNew).2 := by
  unfold writeR
  have hcfg : (withStore c st).cfg = c.cfg := rfl
  have hroute : route (withStore c st) msg ctx = route c msg ctx := rfl
  have hdone : (withStore c st).isDone = c.isDone := rfl
  rw [hcfg, hroute, hdone]
  split
  · exact ⟨st, rfl, rfl⟩
  · split
    · exact ⟨st, by cases msg <;> rfl, rfl⟩
    · split
      · exact ⟨st, by cases msg <;> rfl, rfl⟩
      · rename_i s _ _
        exact ⟨if wUse c ctxNew then appendLog s.id (some ⟨msg, ctx⟩) st else st, by cases msg <;> rfl, by cases msg <;> rfl⟩

theorem writeFR_withStore (c : Conn α) (st : Store α) (msg : Msg α) (ctx : Option Nat) (ctxNew : Bool) :
    ∃ st', (writeFR (withStore c st) msg ctx ctxNew).1 = withStore (writeR c msg ctx ctxNew).1 st' := by
  rw [writeFR_eq_rollback]
  obtain ⟨st', h, _⟩ := writeR_withStore c st msg ctx ctxNew
  exact ⟨st, by rw [h]; rfl⟩

inductive XLabel (α : Type) where
  | base (l : Label α)
  | writeF (msg : Msg α) (ctx : Option Nat) (ctxNew : Bool)

def xstep (c : Conn α) : XLabel α → Conn α
  | .base l => step c l
  | .writeF msg ctx ctxNew => (writeFR c msg ctx ctxNew).1

def xrun (c : Conn α) (ls : List (XLabel α)) : Conn α := ls.foldl xstep c

theorem inv_withStore {c : Conn α} (h : Inv c) (st : Store α) (hst : ∀ sid, (st sid).isSome → sid < c.nextSid) :
    Inv (withStore c st) :=
  ⟨h.nodup, h.sid_lt, hst, h.att, h.att_inj, h.opn_att, h.ex_ok, h.pend_lt⟩

theorem invReg_withStore {c : Conn α} (h : InvReg c) (st : Store α) : InvReg (withStore c st) := ⟨h.live, h.reg, h.pend⟩

theorem live_withStore {c : Conn α} (h : InvLive c) (st : Store α) : InvLive (withStore c st) := h

theorem writeR_nextSid (c : Conn α) (msg : Msg α) (ctx : Option Nat) (ctxNew : Bool) :
    (writeR c msg ctx ctxNew).1.nextSid = c.nextSid := by
  rcases writeR_cases c msg ctx ctxNew with h | ⟨r, h⟩ | ⟨s, _, _, h⟩ <;> rw [h]
  · exact eraseResp_nextSid c msg
  · exact eraseResp_nextSid c msg

theorem xinv_step {c : Conn α} (hw : Inv c) (hr : InvReg c) (hl : InvLive c) (l : XLabel α) :
    Inv (xstep c l) ∧ InvReg (xstep c l) ∧ InvLive (xstep c l) := by
  cases l with
  | base l => exact ⟨inv_step hw l, invReg_step hw hr l, live_step hw hl l⟩
  | writeF msg ctx ctxNew =>
    show Inv (writeFR c msg ctx ctxNew).1 ∧ InvReg (writeFR c msg ctx ctxNew).1 ∧ InvLive (writeFR c msg ctx ctxNew).1
    rw [writeFR_eq_rollback]
    have h1 : Inv (step c (.write msg ctx ctxNew)) := inv_step hw _
    have h2 : InvReg (step c (.write msg ctx ctxNew)) := invReg_step hw hr _
    have h3 : InvLive (step c (.write msg ctx ctxNew)) := live_step hw hl _
    refine ⟨inv_withStore h1 c.store ?_, invReg_withStore h2 _, live_withStore h3 _⟩
    intro sid hs
    show sid < (writeR c msg ctx ctxNew).1.nextSid
    rw [writeR_nextSid]
    exact hw.store_lt sid hs

theorem xinv_run (cfg : Cfg) (ls : List (XLabel α)) :
    Inv (xrun (init cfg : Conn α) ls) ∧ InvReg (xrun (init cfg : Conn α) ls) ∧ InvLive (xrun (init cfg : Conn α) ls) := by
  have : ∀ (ls : List (XLabel α)) (c : Conn α), Inv c → InvReg c → InvLive c →
      Inv (xrun c ls) ∧ InvReg (xrun c ls) ∧ InvLive (xrun c ls) := by
    intro ls
    induction ls with
    | nil => intro c a b d; exact ⟨a, b, d⟩
    | cons l t ih =>
      intro c a b d
      obtain ⟨a', b', d'⟩ := xinv_step a b d l
      exact ih _ a' b' d'
  exact this ls _ (inv_init cfg) (invReg_init cfg) (live_init cfg)

/-- the responses to `rs`, written back to back in that order; the `Append` of those with `fails r` fails -/
def answerAllF (ps : Nat → α) (fails : Nat → Bool) : Conn α → List Nat → Conn α
  | c, [] => c
  | c, r :: t =>
    answerAllF ps fails (if fails r then (writeFR c (.resp r (ps r)) (some r) false).1
                         else (writeR c (.resp r (ps r)) (some r) false).1) t

theorem answerAll_withStore (ps : Nat → α) : ∀ (rs : List Nat) (c : Conn α) (st : Store α),
    ∃ st', answerAll ps false (withStore c st) rs = withStore (answerAll ps false c rs) st' := by
  intro rs
  induction rs with
  | nil => intro c st; exact ⟨st, rfl⟩
  | cons r t ih =>
    intro c st
    simp only [answerAll]
    obtain ⟨st1, h1, _⟩ := writeR_withStore c st (.resp r (ps r)) (some r) false
    rw [h1]
    exact ih _ st1

/-- the failing appends change nothing but the store -/
theorem answerAllF_eq (ps : Nat → α) (fails : Nat → Bool) : ∀ (rs : List Nat) (c : Conn α),
    ∃ st, answerAllF ps fails c rs = withStore (answerAll ps false c rs) st := by
  intro rs
  induction rs with
  | nil => intro c; exact ⟨c.store, rfl⟩
  | cons r t ih =>
    intro c
    simp only [answerAllF, answerAll]
    have hc1 : ∃ st1, (if fails r then (writeFR c (.resp r (ps r)) (some r) false).1
        else (writeR c (.resp r (ps r)) (some r) false).1) = withStore (writeR c (.resp r (ps r)) (some r) false).1 st1 := by
      split
      · exact ⟨c.store, writeFR_eq_rollback c _ _ _⟩
      · exact ⟨(writeR c (.resp r (ps r)) (some r) false).1.store, rfl⟩
    obtain ⟨st1, h1⟩ := hc1
    rw [h1]
    obtain ⟨st2, h2⟩ := ih (withStore (writeR c (.resp r (ps r)) (some r) false).1 st1)
    obtain ⟨st3, h3⟩ := answerAll_withStore ps t (writeR c (.resp r (ps r)) (some r) false).1 st1
    rw [h2, h3]
    exact ⟨st2, rfl⟩

/-- **C02 (a batch of calls on one POST, with an event store that fails).**  In any state reachable by labels *and*
failing-append writes, with no write between its two sections, take a registered request stream `s` whose exchange `x` is
attached, open and healthy on an open session.  For ANY completion order `rs` of its outstanding calls and ANY subset
`fails` of the responses whose `EventStore.Append` fails: every response is delivered exactly once on `x` — the same
events with the same ids as without the failures —, the exchange completes with the last response, the stream leaves
`streams` and every id leaves `requestStreams`.  No call is left unanswered because its response could not be stored. -/
theorem batch_post_all_answered_with_failing_appends (cfg : Cfg) (ls : List (XLabel α))
    (hnp : (xrun (init cfg) ls).pendW = []) (hopen : (xrun (init cfg) ls).isDone = false)
    (s : Stream α) (hs : s ∈ (xrun (init cfg) ls).streams) (hid : s.id ≠ 0)
    (x : Nat) (e : Exch α) (hat : s.attached = some x) (hop : s.opn = true) (hex : (xrun (init cfg) ls).exs[x]? = some e)
    (hb : e.budget = none) (hl : e.lost = [])
    (rs : List Nat) (hnd : rs.Nodup) (hne : rs ≠ []) (hmem : ∀ r, r ∈ rs ↔ r ∈ s.requests) (ps : Nat → α) (fails : Nat → Bool) :
    (∀ s' ∈ (answerAllF ps fails (xrun (init cfg) ls) rs).streams, s'.id ≠ s.id) ∧
    (∀ r ∈ rs, (answerAllF ps fails (xrun (init cfg) ls) rs).reqStreams r = none) ∧
    ∃ e', (answerAllF ps fails (xrun (init cfg) ls) rs).exs[x]? = some e' ∧ e'.ended = true ∧ e'.lost = [] ∧
      e'.out = e.out ++ batchOut (wUse (xrun (init cfg) ls) false) s.id s.next ps s.json rs := by
  obtain ⟨hw, hreg, hlive⟩ := xinv_run cfg ls
  obtain ⟨e0, he0, hend0⟩ := hlive s hs x hat
  rw [hex] at he0; cases he0
  obtain ⟨st, heq⟩ := answerAllF_eq ps fails rs (xrun (init cfg) ls)
  rw [heq]
  exact answerAll_spec ps false rs _ s x e hnd hne hmem (findStream_of_mem hw.nodup hs)
    (fun r hr => hreg.registered hopen hnp hs ((hmem r).mp hr))
    hopen hid hat hop hex hb hl hend0

theorem writeFR_store (c : Conn α) (msg : Msg α) (ctx : Option Nat) (ctxNew : Bool) :
    (writeFR c msg ctx ctxNew).1.store = c.store := by
  rw [writeFR_eq_rollback]; rfl

/-- **C08 (an unstored message is delivered live only).**  Let the `Append` of a write fail (a store is configured, the
context is older than 2026-07-28, the session is open, the routing section picked stream `s`).  Then
* no log changes, so nothing a later resume replays changes: `After` (= `replayItems`) returns for every stream and every
  position exactly what it returned before — the message can **never be replayed**;
* if an open SSE exchange `x` with a healthy writer is attached, the message **is delivered live** on it, as one
  `message` event with the id `(s, lastIdx + 1)`, and the write succeeds;
* if no open exchange is attached, the message is **nowhere** — no exchange is written to — and the write reports
  `rejected` to its caller (the handler / the jsonrpc2 layer learns that the message is lost). -/
theorem unstored_message_is_delivered_live_only (c : Conn α) (hst : c.cfg.hasStore = true) (msg : Msg α) (ctx : Option Nat)
    (hcall : (msg.isCall && (c.cfg.stateless || c.cfg.noSession)) = false) (hopen : c.isDone = false)
    (s : Stream α) (hr : route c msg ctx = some s) :
    (∀ sid frm, replayItems (writeFR c msg ctx false).1 sid frm = replayItems c sid frm) ∧
    (∀ x e, s.attached = some x → s.opn = true → s.json = none → c.exs[x]? = some e → e.budget = none →
      (writeFR c msg ctx false).2 = .ok ∧
      ∃ e', (writeFR c msg ctx false).1.exs[x]? = some e' ∧ e'.out = e.out ++ [.message (some (s.id, s.next)) ⟨msg, ctx⟩]) ∧
    ((s.attached = none ∨ s.opn = false) →
      (writeFR c msg ctx false).2 = .rejected ∧ (writeFR c msg ctx false).1.exs = c.exs) := by
  have hu : wUse c false = true := by simp [wUse, hst]
  have hw : writeFR c msg ctx false = writeToF (eraseResp c msg) s msg ctx false := by
    unfold writeFR
    rw [if_neg (by simp [hu]), if_neg (by simp [hcall]), hr]
    simp [hopen]
  have hue : wUse (eraseResp c msg) false = true := by cases msg <;> exact hu
  have hexs : (eraseResp c msg).exs = c.exs := by cases msg <;> rfl
  refine ⟨?_, ?_, ?_⟩
  · intro sid frm
    have h1 : (writeFR c msg ctx false).1.store = c.store := writeFR_store c msg ctx false
    have h2 : (writeFR c msg ctx false).1.cfg = c.cfg := by rw [hw]; cases msg <;> rfl
    have h3 : (writeFR c msg ctx false).1.isDone = c.isDone := by rw [hw]; cases msg <;> rfl
    have h4 : (writeFR c msg ctx false).1.purged = c.purged := by rw [hw]; cases msg <;> rfl
    unfold replayItems
    rw [h1, h2, h3, h4]
  · intro x e hat hop hj hex hb
    obtain ⟨h1, h2⟩ := wDeliver_healthy (c := eraseResp c msg) hat hop (by rw [hexs]; exact hex) hb msg ctx false
    rw [hw]
    simp only [writeToF, h2, if_true]
    exact ⟨trivial, _, h1, by simp [hj, hue]⟩
  · intro hna
    rw [hw]
    have hd : (wDeliver (eraseResp c msg) s msg ctx false) = ((eraseResp c msg).exs, { s with requests := wReqs s msg }, false) := by
      simp only [wDeliver, deliver]
      rcases hna with h | h
      · rw [h]
      · rw [h]; cases s.attached <;> rfl
    simp only [writeToF, hd]
    exact ⟨by simp, hexs⟩

/-- **what is NOT promised.**  The failed append consumed an event id: afterwards the ids on the wire are one ahead of the
store.  Concretely (priming event, a notification whose `Append` fails, a second notification): the exchange was sent
100 with id `(1,1)` and 101 with id `(1,2)`, but index 1 of the log holds 101 — id `(1,1)` no longer denotes the message
it was delivered with, and a resume after `(1,2)` finds nothing although 101 *is* at index 1.  C08 presupposes a store
whose `Append` succeeds. -/
theorem append_failure_breaks_alignment :
    let c := xrun (init cfgW : Conn Nat)
      [.base (.post [7] false .v1125 none), .writeF (.notif 100) (some 7) false, .base (.write (.notif 101) (some 7) false)]
    c.exs.map (·.out) = [[.prime 1 0, .message (some (1, 1)) ⟨.notif 100, some 7⟩, .message (some (1, 2)) ⟨.notif 101, some 7⟩]] ∧
    c.store 1 = some [none, some ⟨.notif 101, some 7⟩] := by decide +kernel

/-- non-vacuity of `batch_post_all_answered_with_failing_appends` and the C02-m12 shape: a batch of two calls on one POST,
the store fails to record the FIRST response — both are on the wire, the exchange has completed -/
example :
    let c0 := xrun (init cfgW : Conn Nat) [.base (.post [7, 8] false .v0326 none)]
    ((answerAllF (fun r => 200 + r) (fun r => r == 7) c0 [7, 8]).exs.map fun e => (e.out, e.ended)) =
      [([.message (some (1, 0)) ⟨.resp 7 207, some 7⟩, .message (some (1, 1)) ⟨.resp 8 208, some 8⟩], true)] ∧
    (answerAllF (fun r => 200 + r) (fun r => r == 7) c0 [7, 8]).store 1 = some [some ⟨.resp 8 208, some 8⟩] := by decide +kernel

end Resume
