import McpModel.Resume.Hold
import McpModel.Resume.HoldMon
/-!
# C08 — the claim clauses of the monitor: bridging theorems

The monitor's ground truth is what the implementation reported: the handlers that returned, the claimants in its last
snapshot (`Mon.holdRun_over`, `Mon.holdStep_held`).  Each clause is raised exactly when the corresponding clause of the
property fails on it (`Mon.refused_iff`, `Mon.stale_iff`), and on the model's trace of EVERY label list (no scope
restriction, any configuration) neither is (`holdMonitor_accepts_model`).
-/
namespace Resume
open Mon
variable {α σ : Type}

namespace Mon
variable [DecidableEq σ]

theorem refused_iff (m : HoldS σ) (o : HObs σ) :
    refused m o = true ↔ ∃ t, o.get = some t ∧ (∃ x ∈ o.codes, x.2 = 409) ∧ ∀ k, m.held o.sess t = some k → m.over k = true := by
  unfold refused
  cases hg : o.get with
  | none => simp
  | some t =>
    simp only [Bool.and_eq_true, List.any_eq_true, beq_iff_eq, Option.some.injEq, exists_eq_left']
    constructor
    · rintro ⟨hx, hh⟩
      refine ⟨hx, ?_⟩
      intro k hk
      rw [hk] at hh; exact hh
    · rintro ⟨hx, hh⟩
      refine ⟨hx, ?_⟩
      cases hk : m.held o.sess t with
      | none => rfl
      | some k => exact hh k hk

theorem stale_iff (over : Nat → Bool) (snaps : List (σ × List Row)) :
    stale over snaps = true ↔ ∃ s ∈ snaps, ∃ r ∈ s.2, ∃ k, r.att = some k ∧ over k = true := by
  unfold stale
  simp only [List.any_eq_true]
  constructor
  · rintro ⟨s, hs, r, hr, hst⟩
    unfold rowStale at hst
    cases hat : r.att with
    | none => rw [hat] at hst; cases hst
    | some k => rw [hat] at hst; exact ⟨s, hs, r, hr, k, hat, hst⟩
  · rintro ⟨s, hs, r, hr, k, hat, hk⟩
    exact ⟨s, hs, r, hr, by unfold rowStale; rw [hat]; exact hk⟩

theorem holdStep_clause (m : HoldS σ) (o : HObs σ) :
    ((holdStep m o).2 = some .refusedFree ↔ refused m o = true) ∧
    ((holdStep m o).2 = some .staleClaim ↔ refused m o = false ∧ stale (overAfter m o) o.snaps = true) ∧
    ((holdStep m o).2 = none ↔ refused m o = false ∧ stale (overAfter m o) o.snaps = false) := by
  simp only [holdStep]
  cases refused m o <;> cases stale (overAfter m o) o.snaps <;> simp

/-- ground truth, handlers: after a trace, `over k` ⇔ it held before or some record reported the handler's return -/
theorem holdRun_over (tr : List (HObs σ)) : ∀ (m : HoldS σ) (k : Nat),
    (holdRun m tr).1.over k = (m.over k || tr.any (fun o => o.ends.contains k)) := by
  induction tr with
  | nil => intro m k; simp [holdRun]
  | cons o t ih =>
    intro m k
    simp only [holdRun, List.any_cons]
    rw [ih]
    simp [holdStep, overAfter, Bool.or_assoc]

/-- ground truth, claims: after a record with a snapshot of session `s` (the last one in the record), `held s t` is the
claimant that snapshot shows for stream `t` -/
theorem holdStep_held (m : HoldS σ) (o : HObs σ) (pre : List (σ × List Row)) (s : σ) (rows : List Row)
    (h : o.snaps = pre ++ [(s, rows)]) (t : Nat) : (holdStep m o).1.held s t = heldOf rows t := by
  simp [holdStep, applySnaps, h, List.foldl_append]

end Mon
/-! ### the observation of a model step, as the claim clauses see it -/

def hobsOf (sn : σ) (l : Label α) (c c' : Conn α) : HObs σ :=
  { sess := sn, get := (originOfLabel l).stream, codes := codesOf c c', ends := endsOf c c',
    snaps := [(sn, c'.streams.map rowOf)] }

def htraceOf1 (sn : σ) : Conn α → List (Label α) → List (HObs σ)
  | _, [] => []
  | c, l :: ls => hobsOf sn l c (step c l) :: htraceOf1 sn (step c l) ls

variable [DecidableEq σ]

structure HRel (sn : σ) (m : HoldS σ) (c : Conn α) : Prop where
  held : ∀ t, m.held sn t = (findStream t c.streams).bind (·.attached)
  over : ∀ k, m.over k = endedAt c k

theorem heldOf_rows (l : List (Stream α)) (t : Nat) : heldOf (l.map rowOf) t = (findStream t l).bind (·.attached) := by
  induction l with
  | nil => rfl
  | cons a rest ih =>
    unfold heldOf findStream at ih ⊢
    simp only [List.map_cons, List.find?_cons]
    by_cases h : a.id = t
    · have h2 : (a.id == t) = true := by simp [h]
      simp [h2, rowOf]
    · have h1 : ((rowOf a).t == t) = false := by simp [rowOf, h]
      have h2 : (a.id == t) = false := by simp [h]
      simp only [h1, h2]
      exact ih

theorem overAfter_model (sn : σ) (m : HoldS σ) (c : Conn α) (l : Label α) (hov : ∀ k, m.over k = endedAt c k) (k : Nat) :
    overAfter m (hobsOf sn l c (step c l)) k = endedAt (step c l) k := by
  unfold overAfter
  rw [hov k]
  simp only [hobsOf, endsOf, List.contains_eq_mem, List.mem_filter, List.mem_range]
  cases h' : endedAt (step c l) k with
  | true =>
    cases h0 : endedAt c k with
    | true => simp
    | false =>
      have hlt : k < (step c l).exs.length := by
        by_cases hh : k < (step c l).exs.length
        · exact hh
        · unfold endedAt at h'
          rw [List.getElem?_eq_none (by omega)] at h'; cases h'
      simp [hlt]
  | false =>
    have h0 : endedAt c k = false := by
      cases h0 : endedAt c k with
      | false => rfl
      | true => rw [endedAt_mono_step c l k h0] at h'; cases h'
    simp [h0]

theorem hold_step_ok (sn : σ) {m : HoldS σ} {c : Conn α} (hw : Inv c) (hl : InvLive c) (hr : HRel sn m c) (l : Label α) :
    (holdStep m (hobsOf sn l c (step c l))).2 = none ∧ HRel sn (holdStep m (hobsOf sn l c (step c l))).1 (step c l) := by
  have hov := overAfter_model sn m c l hr.over
  have hl' := live_step hw hl l
  refine ⟨?_, ?_, ?_⟩
  · have hnr : refused m (hobsOf sn l c (step c l)) = false := by
      rw [Bool.eq_false_iff, ne_eq, refused_iff]
      rintro ⟨t, hg, ⟨x, hx, hx409⟩, hgone⟩
      -- the record is a GET that was answered 409: the stream is claimed by a live exchange
      obtain ⟨hdr, ver, budget, rfl, ht⟩ := originOfLabel_stream (l := l) hg
      obtain ⟨e, he, hk⟩ := mem_codesOf_step hx
      obtain ⟨_, s, hfs, ex, e', hat, he', hend⟩ := get_409_claimed hl hdr ver budget e he (by rw [hk, hx409])
      have := hgone ex (by show m.held sn t = some ex; rw [hr.held t, ht, hfs]; simpa using hat)
      rw [hr.over ex] at this
      simp [endedAt, he', hend] at this
    have hns : stale (overAfter m (hobsOf sn l c (step c l))) (hobsOf sn l c (step c l)).snaps = false := by
      rw [Bool.eq_false_iff, ne_eq, stale_iff]
      rintro ⟨s0, hs0, r, hrm, k, hat, hk⟩
      obtain rfl : s0 = (sn, (step c l).streams.map rowOf) := List.mem_singleton.mp hs0
      obtain ⟨s, hs, rfl⟩ := List.mem_map.mp hrm
      rw [hov k] at hk
      obtain ⟨e, he, hend⟩ := hl' s hs k hat
      simp [endedAt, he, hend] at hk
    simp only [holdStep, hnr, hns]
    rfl
  · intro t
    simp only [holdStep, hobsOf, applySnaps, List.foldl_cons, List.foldl_nil, if_true]
    exact heldOf_rows _ t
  · intro k
    simp only [holdStep]
    exact hov k

theorem hRel_init (cfg : Cfg) (sn : σ) : HRel sn (holdInit : HoldS σ) (init cfg : Conn α) := by
  refine ⟨?_, ?_⟩
  · intro t
    simp only [holdInit, init, findStream]
    by_cases ht : t = 0
    · subst ht; simp
    · have : ((0 : Nat) == t) = false := by simp; omega
      simp [this]
  · intro k; simp [holdInit, endedAt, init]

/-- **C08 bridging, claim clauses.**  For every configuration and EVERY label list (no scope restriction: any versions,
any `Last-Event-ID`s, write budgets that break a POST or a resume at any write, evictions, the split write labels) the
claim clauses of the monitor are not raised on the model's observation trace (one record per label). -/
theorem holdMonitor_accepts_model (cfg : Cfg) (sn : σ) (ls : List (Label α)) :
    (holdRun (holdInit : HoldS σ) (htraceOf1 sn (init cfg : Conn α) ls)).2 = none :=
  (quiet_run (fun _ => rfl) (fun _ _ _ => rfl) (fun _ => rfl) (fun _ _ _ => rfl)
    (R := fun m c => Inv c ∧ InvLive c ∧ HRel sn m c) (Sc := fun _ => True)
    (fun m c l ⟨hw, hl, hr⟩ _ => ⟨(hold_step_ok sn hw hl hr l).1, inv_step hw l, live_step hw hl l, (hold_step_ok sn hw hl hr l).2⟩)
    ls (init cfg) _ ⟨inv_init cfg, live_init cfg, hRel_init cfg sn⟩ (fun _ _ => trivial)).1

end Resume
