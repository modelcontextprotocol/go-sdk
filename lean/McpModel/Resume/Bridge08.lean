import McpModel.Resume.Delta
import McpModel.Resume.InvId
/-!
E5 — bridging theorem for C08: the typed monitor core (`Mon.step`) raises no C08 clause on the observation
of any record of a model run.

The proof keeps a relation between the monitor's state and the model state (`MonRel08`): the monitor's
ground-truth logs are the store's append logs, and what it knows about every exchange (resume point,
id-carrying events written / delivered / lost, the stream it serves) agrees with the exchange's ghost
fields and history.  One record is the difference between two states of a growing run (`Grow`); the
record-level facts the monitor relies on are collected in `RecFacts`.

What each pass of `Mon.step` does to the monitor's state by itself is in `MonPass`; here every pass is followed on
the model's observation.  The skeleton of that (`ExsRel`, `bump`, `learned_induct`, `exch_live_of_mem_all`) is read by the C10
bridge too.
-/
namespace Resume
open Mon
variable {α σ : Type} [DecidableEq α] [DecidableEq σ] {P : Prop} {G : Nat → Prop}

/-- what the monitor knows about an exchange agrees with the exchange `e` and its history `h` -/
structure RelE (P : Prop) (sn : σ) (me : MEx σ) (e : Exch α) (h : List (Bool × Out α)) : Prop where
  sess : me.sess = sn
  np : me.newProto = false
  nsent : me.nsent = cAll h
  nrecv : me.nrecv = cRecv h
  failing : me.failing = true ↔ 0 < cLost h
  sse : me.sse = true ↔ e.kind = .sse
  frm : e.live → me.from = e.from
  stream : e.live → ∀ t, me.stream = some t → t = e.stream
  get : me.isGet = true → P      -- `P`: what is known about an exchange opened by a GET of the current record

def ExsRel (R : Nat → MEx σ → Exch α → Prop) (m : MonS σ α) (c : Conn α) : Prop :=
  ∀ (j : Nat) (e : Exch α), c.exs[j]? = some e → ∃ me, m.exs j = some me ∧ R j me e

/-- `ExsRel` for C08.  `done j`: the part of exchange `j`'s history the monitor has seen (all of it, `taggedAt c`, between
records; a prefix while a record's writes are folded in).  `G j`: when the monitor's resume point of `j` is known to be the
model's — always between records, and while a record is processed for old exchanges and for the one a GET opens. -/
def EvRel (G : Nat → Prop) (sn : σ) (m : MonS σ α) (c : Conn α) (done : Nat → List (Bool × Out α)) : Prop :=
  ExsRel (fun j me e => RelE (G j) sn me e (done j)) m c

def LogRel (sn : σ) (m : MonS σ α) (c : Conn α) : Prop :=
  ∀ sid, m.logs sn sid = ((c.store sid).getD []).map (Option.map payloadOf)

structure MonRel08 (sn : σ) (m : MonS σ α) (c : Conn α) : Prop where
  store : m.store = c.cfg.hasStore
  first : ∀ sid, m.first sn sid = c.purged sid
  logs : LogRel sn m c
  exs : EvRel (fun _ => True) sn m c (taggedAt c)

theorem relE_snoc_nonEv {sn : σ} {me : MEx σ} {e : Exch α} {h : List (Bool × Out α)} (r : RelE P sn me e h)
    (x : Bool × Out α) (hx : x.2.isEv = false) : RelE P sn me e (h ++ [x]) :=
  ⟨r.sess, r.np, by rw [cAll_snoc, hx]; simpa using r.nsent, by rw [cRecv_snoc, hx]; simpa using r.nrecv,
    by rw [cLost_snoc, hx]; simpa using r.failing, r.sse, r.frm, r.stream, r.get⟩

/-- the monitor's update on an id-carrying event of stream `t` -/
def bump (me : MEx σ) (t : Nat) (lost : Bool) : MEx σ :=
  { me with stream := if me.stream.isSome then me.stream else some t, nsent := me.nsent + 1,
            nrecv := if lost then me.nrecv else me.nrecv + 1, failing := me.failing || lost }

theorem relE_snoc_ev {sn : σ} {me : MEx σ} {e : Exch α} {h : List (Bool × Out α)} (r : RelE P sn me e h)
    (lost : Bool) (o : Out α) (ho : o.isEv = true) (t : Nat) (ht : t = e.stream) :
    RelE P sn (bump me t lost) e (h ++ [(lost, o)]) := by
  unfold bump
  refine ⟨r.sess, r.np, ?_, ?_, ?_, r.sse, r.frm, ?_, r.get⟩
  · rw [cAll_snoc]; simp [ho, r.nsent]
  · rw [cRecv_snoc]; cases lost <;> simp [ho, r.nrecv]
  · rw [cLost_snoc]
    cases lost
    · simpa [ho] using r.failing
    · simp [ho]
  · intro hl t' ht'
    simp only at ht'
    split at ht'
    · exact r.stream hl t' ht'
    · cases ht'; exact ht

theorem relE_learn {sn : σ} {me : MEx σ} {e : Exch α} {h : List (Bool × Out α)} (r : RelE P sn me e h) :
    RelE P sn { me with stream := some e.stream } e h :=
  ⟨r.sess, r.np, r.nsent, r.nrecv, r.failing, r.sse, r.frm, fun _ t ht => by cases ht; rfl, r.get⟩

theorem relE_weaken {Q : Prop} {sn : σ} {me : MEx σ} {e : Exch α} {h : List (Bool × Out α)} (r : RelE P sn me e h)
    (hpq : P → Q) : RelE Q sn me e h :=
  ⟨r.sess, r.np, r.nsent, r.nrecv, r.failing, r.sse, r.frm, r.stream, fun hg => hpq (r.get hg)⟩

theorem relE_lost {sn : σ} {me : MEx σ} {e : Exch α} (r : RelE P sn me e (tagged e)) (hfl : me.failing = false) :
    idCount e.lost = 0 := by
  have := r.failing
  rw [hfl, cLost_tagged] at this
  simpa using this

section ExsRel
variable {R R' : Nat → MEx σ → Exch α → Prop} {m m' : MonS σ α} {c : Conn α}

theorem ExsRel.get (h : ExsRel R m c) {k : Nat} {e : Exch α} {me : MEx σ} (he : c.exs[k]? = some e) (hme : m.exs k = some me) :
    R k me e := by
  obtain ⟨me', hme', r⟩ := h k e he
  rw [hme] at hme'; cases hme'; exact r

theorem ExsRel.put (h : ExsRel R m c) (k : Nat) (me' : MEx σ) (hexs : ∀ j, m'.exs j = if j = k then some me' else m.exs j)
    (hk : ∀ e, c.exs[k]? = some e → R' k me' e) (ho : ∀ j me e, j ≠ k → R j me e → R' j me e) : ExsRel R' m' c := by
  intro j e he
  by_cases hj : j = k
  · subst hj
    exact ⟨me', by rw [hexs]; simp, hk e he⟩
  · obtain ⟨me, hme, r⟩ := h j e he
    exact ⟨me, by rw [hexs]; simp [hj, hme], ho j me e hj r⟩

theorem ExsRel.mono (h : ExsRel R m c) (hexs : m'.exs = m.exs) (hr : ∀ j e me, c.exs[j]? = some e → R j me e → R' j me e) :
    ExsRel R' m' c := by
  intro j e he
  obtain ⟨me, hme, r⟩ := h j e he
  exact ⟨me, by rw [hexs]; exact hme, hr j e me he r⟩

end ExsRel

theorem exch_live_of_mem_all {c : Conn α} (hk : InvK c) {k : Nat} {e : Exch α} (he : c.exs[k]? = some e) {o : Out α} (ho : o ∈ e.all) :
    e.live := by
  by_cases hl : e.live
  · exact hl
  · rw [(hk k e he hl).1] at ho; cases ho

theorem evOf_payload (sid i : Nat) (x : Option (Item α)) :
    (∃ p, toMOut (evOf sid i x) = .prime (.ok sid i) ∧ x = none ∧ p = (none : Option α)) ∨
    (∃ it, toMOut (evOf sid i x) = .message (.ok sid i) (payloadOf it) ∧ x = some it) := by
  cases x with
  | none => exact Or.inl ⟨none, rfl, rfl, rfl⟩
  | some it => exact Or.inr ⟨it, rfl, rfl⟩

theorem none_of_sound {C : Type} {S : Prop} {v : Option C} (hs : ∀ c, v = some c → ¬ S) (h : S) : v = none := by
  cases hv : v with
  | none => rfl
  | some c => exact absurd h (hs c hv)

theorem check08_ok {sn : σ} {m : MonS σ α} {c : Conn α} {me : MEx σ} {e : Exch α} {h : List (Bool × Out α)}
    (r : RelE P sn me e h) (hl : e.live) (hlog : LogRel sn m c) (x : Option (Item α))
    (hx : ((c.store e.stream).getD [])[e.from + cAll h]? = some x) :
    check08 m me e.stream (e.from + cAll h) (x.map payloadOf) = none :=
  none_of_sound (fun cl hc => (check08_sound m me _ _ _ cl hc).1)
    ⟨fun t' ht' => r.stream hl t' ht', by rw [r.frm hl, r.nsent], by rw [r.sess, hlog, List.getElem?_map, hx]; rfl⟩

/-- one write of the record: `done` is what the monitor has seen of each exchange so far, the write is the next entry of
the history of exchange `k` -/
theorem evStep_ok08 (prov : α → Prov σ) {c : Conn α} (hk : InvK c) (h8 : Inv08 c) (sn : σ) (m : MonS σ α)
    (done : Nat → List (Bool × Out α)) (hst : m.store = true) (hrel : EvRel G sn m c done) (hlog : LogRel sn m c)
    (k : Nat) (lost : Bool) (o : Out α) (rest : List (Bool × Out α)) (e : Exch α) (he : c.exs[k]? = some e)
    (hpre : tagged e = done k ++ (lost, o) :: rest) :
    (evStep prov m (toSent (k, lost, o))).2.v08 = none ∧
    EvRel G sn (evStep prov m (toSent (k, lost, o))).1 c (fun j => if j = k then done j ++ [(lost, o)] else done j) := by
  obtain ⟨me, hme, r⟩ := hrel k e he
  have hall : e.all = (done k).map (·.2) ++ o :: rest.map (·.2) := by
    rw [← tagged_all, hpre]; simp
  have hlive : e.live := exch_live_of_mem_all hk he (o := o) (by rw [hall]; simp)
  have hseg := h8.seg k e he
  rw [hall, segFrom_append] at hseg
  have hseg2 := hseg.2
  have hcnt : idCount ((done k).map (·.2)) = cAll (done k) := rfl
  rw [hcnt] at hseg2
  unfold evStep
  simp only [toSent, hme]
  by_cases ho : o.isEv = true
  · -- an id-carrying event is the one the log holds at this position
    simp only [SegFrom, ho, if_true] at hseg2
    obtain ⟨⟨x, hx, rfl⟩, _⟩ := hseg2
    have hev : ∀ {m' : MonS σ α}, LogRel sn m' c → m'.exs = m.exs →
        check08 m' me e.stream (e.from + cAll (done k)) (x.map payloadOf) = none ∧
        EvRel G sn (m'.putEx k (bump me e.stream lost)) c
          (fun j => if j = k then done j ++ [(lost, evOf e.stream (e.from + cAll (done k)) x)] else done j) := by
      intro m' hlog' hexs
      refine ⟨check08_ok r hlive hlog' x hx, ?_⟩
      refine ExsRel.put hrel k (bump me e.stream lost) (fun j => by rw [putEx_exs, hexs]) ?_ (fun j _ _ hj r => by simpa [hj] using r)
      intro e1 he1
      rw [he] at he1; cases he1
      simp only [if_true]
      exact relE_snoc_ev r lost _ ho e.stream rfl
    cases x with
    | none =>
      have hgate : (!m.store || me.newProto) = false := by simp [hst, r.np]
      simp only [evOf, toMOut, ev08, hgate, Bool.false_eq_true, if_false]
      exact hev hlog rfl
    | some it =>
      obtain ⟨gs, _, gl, _⟩ := ground_eq (routeBind_ground m (prov (payloadOf it)) me.sess me.stream (some k))
      have hgate : (!(routeBind m (prov (payloadOf it)) me.sess me.stream (some k)).store || me.newProto) = false := by
        simp [gs, hst, r.np]
      simp only [evOf, toMOut, toEvId, ev08, hgate, Bool.false_eq_true, if_false]
      obtain ⟨a, b⟩ := hev (m' := routeBind m (prov (payloadOf it)) me.sess me.stream (some k))
        (fun sid => by rw [gl]; exact hlog sid) (routeBind_exs _ _ _ _ _)
      exact ⟨by simpa [Viol.or] using a, b⟩
  · -- a write without an id only extends the history
    have hnon : ∀ {m' : MonS σ α}, m'.exs = m.exs →
        EvRel G sn m' c (fun j => if j = k then done j ++ [(lost, o)] else done j) := by
      intro m' hexs
      refine ExsRel.mono hrel hexs ?_
      intro j e1 me1 _ r1
      by_cases hj : j = k
      · simp only [hj, if_true] at r1 ⊢; exact relE_snoc_nonEv r1 (lost, o) (by simpa using ho)
      · simp only [hj, if_false]; exact r1
    cases o with
    | comment => exact ⟨rfl, hnon rfl⟩
    | close => exact ⟨rfl, hnon rfl⟩
    | json items =>
      obtain ⟨f1, f2, _⟩ := jsonFold_frame prov me.sess me.stream k (items.map payloadOf) m
      exact ⟨f1, hnon f2⟩
    | prime sid i => exact absurd rfl ho
    | message id it => exact absurd rfl ho

theorem events_ok08 (prov : α → Prov σ) {c : Conn α} (hk : InvK c) (h8 : Inv08 c) (sn : σ) :
    ∀ (l : List (Nat × Bool × Out α)) (m : MonS σ α) (done : Nat → List (Bool × Out α)),
      m.store = true → EvRel G sn m c done → LogRel sn m c → (∀ j, taggedAt c j = done j ++ proj j l) →
      (foldV (evStep prov) m (l.map toSent)).2.v08 = none ∧
      EvRel G sn (foldV (evStep prov) m (l.map toSent)).1 c (fun j => done j ++ proj j l) := by
  intro l
  induction l with
  | nil =>
    intro m done _ hrel _ _
    refine ⟨rfl, ?_⟩
    have : (fun j => done j ++ proj j ([] : List (Nat × Bool × Out α))) = done := by funext j; simp [proj]
    rw [this]; exact hrel
  | cons x t ih =>
    intro m done hst hrel hlog hinv
    obtain ⟨k, lost, o⟩ := x
    have hk1 := hinv k
    rw [proj_cons] at hk1
    simp only [if_true] at hk1
    have hex : ∃ e, c.exs[k]? = some e ∧ tagged e = done k ++ (lost, o) :: proj k t := by
      unfold taggedAt at hk1
      cases he : c.exs[k]? with
      | none => rw [he] at hk1; simp at hk1
      | some e => rw [he] at hk1; exact ⟨e, rfl, by simpa using hk1⟩
    obtain ⟨e, he, hpre⟩ := hex
    obtain ⟨a1, a2⟩ := evStep_ok08 prov hk h8 sn m done hst hrel hlog k lost o (proj k t) e he hpre
    obtain ⟨gs, _, gl, _⟩ := ground_eq (evStep_ground prov m (toSent (k, lost, o)))
    obtain ⟨b1, b2⟩ := ih (evStep prov m (toSent (k, lost, o))).1 (fun j => if j = k then done j ++ [(lost, o)] else done j)
      (gs.trans hst) a2 (fun sid => by rw [gl]; exact hlog sid) (by
        intro j
        by_cases hj : j = k
        · subst hj; simp [hk1]
        · have := hinv j
          rw [proj_cons] at this
          simp [hj, Ne.symm hj] at this ⊢
          exact this)
    simp only [List.map_cons, foldV]
    refine ⟨quiet08_or _ _ a1 b1, ?_⟩
    have : (fun j => done j ++ proj j ((k, lost, o) :: t)) =
        (fun j => (if j = k then done j ++ [(lost, o)] else done j) ++ proj j t) := by
      funext j
      rw [proj_cons]
      by_cases hj : j = k
      · subst hj; simp
      · simp [hj, Ne.symm hj]
    rw [this]; exact b2

theorem Exch.live_congr {e e' : Exch α} (h : e'.kind = e.kind) : e'.live ↔ e.live := by unfold Exch.live; rw [h]

theorem relE_ghost {sn : σ} {me : MEx σ} {e e' : Exch α} {h : List (Bool × Out α)} (r : RelE P sn me e h)
    (hs : e'.stream = e.stream) (hf : e'.from = e.from) (hkd : e'.kind = e.kind) : RelE P sn me e' h := by
  have hl : e'.live ↔ e.live := Exch.live_congr hkd
  exact ⟨r.sess, r.np, r.nsent, r.nrecv, r.failing, by rw [hkd]; exact r.sse, fun x => by rw [hf]; exact r.frm (hl.mp x),
    fun x t ht => by rw [hs]; exact r.stream (hl.mp x) t ht, r.get⟩

/-- the record-level facts the monitor relies on (one record: the connection went from `c` to `c'`) -/
structure RecFacts (og : Origin) (c c' : Conn α) : Prop where
  new1 : c'.exs.length ≤ c.exs.length + 1
  np : og.newProto = false
  ghost : ∀ e, c'.exs[c.exs.length]? = some e → e.live → e.from = og.from ∧ ∀ t, og.stream = some t → t = e.stream
  resume : og.isGet = true → ∀ e, c'.exs[c.exs.length]? = some e → e.kind = .sse → idCount e.lost = 0 →
    e.from ≤ ((c'.store e.stream).getD []).length → e.from + idCount e.out = ((c'.store e.stream).getD []).length
  purgedErr : og.isGet = true → ∀ e, c'.exs[c.exs.length]? = some e → e.kind = .sse →
    ∀ t, og.stream = some t → ¬ og.from < c.purged t

theorem openedOf_cases {c c' : Conn α} (h1 : c'.exs.length ≤ c.exs.length + 1) :
    (c'.exs.length ≤ c.exs.length ∧ openedOf c c' = []) ∨
    (c'.exs.length = c.exs.length + 1 ∧ openedOf c c' = [(c.exs.length, ((c'.exs[c.exs.length]?).map isSSE).getD false)]) := by
  unfold openedOf
  by_cases h : c'.exs.length ≤ c.exs.length
  · exact Or.inl ⟨h, by rw [Nat.sub_eq_zero_of_le h]; rfl⟩
  · have hd : c'.exs.length - c.exs.length = 1 := by omega
    exact Or.inr ⟨by omega, by rw [hd]; rfl⟩

theorem openAll_exs (sn : σ) (og : Origin) {c c' : Conn α} (h1 : c'.exs.length ≤ c.exs.length + 1) (m : MonS σ α) (j : Nat) :
    (openAll m (obsOf sn og c c')).exs j =
      if c.exs.length ≤ j ∧ j < c'.exs.length then some (mkEx (obsOf sn og c c') (((c'.exs[j]?).map isSSE).getD false)) else m.exs j := by
  show ((openedOf c c').foldl (fun m x => m.putEx x.1 (mkEx (obsOf sn og c c') x.2)) m).exs j = _
  rcases openedOf_cases h1 with ⟨hl, ho⟩ | ⟨hl, ho⟩ <;> rw [ho]
  · rw [if_neg (by omega)]; rfl
  · simp only [List.foldl_cons, List.foldl_nil, putEx_exs]
    by_cases hj : j = c.exs.length
    · subst hj; simp [hl]
    · rw [if_neg hj, if_neg (by omega)]

theorem mem_openedOf {og : Origin} {c c' : Conn α} (hf : RecFacts og c c') {x : Nat × Bool} (hx : x ∈ openedOf c c') :
    ∃ hlt : c.exs.length < c'.exs.length, x = (c.exs.length, isSSE c'.exs[c.exs.length]) := by
  rcases openedOf_cases hf.new1 with ⟨_, ho⟩ | ⟨hl, ho⟩ <;> rw [ho] at hx
  · cases hx
  · have hlt : c.exs.length < c'.exs.length := by omega
    rw [List.mem_singleton.mp hx, List.getElem?_eq_getElem hlt]
    exact ⟨hlt, rfl⟩

theorem ExsRel.opened {R R' : Nat → MEx σ → Exch α → Prop} {sn : σ} {og : Origin} {c c' : Conn α} {m : MonS σ α}
    (h : ExsRel R m c) (hg : Grow c c') (h1 : c'.exs.length ≤ c.exs.length + 1)
    (hold : ∀ j me e e', j < c.exs.length → GrowE e e' → R j me e → R' j me e')
    (hnew : ∀ e', c'.exs[c.exs.length]? = some e' → R' c.exs.length (mkEx (obsOf sn og c c') (isSSE e')) e') :
    ExsRel R' (openAll m (obsOf sn og c c')) c' := by
  intro j e' he'
  have hjlt : j < c'.exs.length := (List.getElem?_eq_some_iff.mp he').1
  rw [openAll_exs sn og h1 m j]
  by_cases hj : j < c.exs.length
  · rw [if_neg (by omega)]
    obtain ⟨e'', he'', g⟩ := hg.exs.2 j c.exs[j] (List.getElem?_eq_getElem hj)
    rw [he'] at he''; cases he''
    obtain ⟨me, hme, r⟩ := h j c.exs[j] (List.getElem?_eq_getElem hj)
    exact ⟨me, hme, hold j me _ _ hj g r⟩
  · rw [if_pos ⟨by omega, hjlt⟩]
    obtain rfl : j = c.exs.length := by omega
    exact ⟨_, by rw [he']; rfl, hnew e' he'⟩

theorem evRel_open {sn : σ} {og : Origin} {c c' : Conn α} (hg : Grow c c') (hf : RecFacts og c c') {m : MonS σ α}
    (hrel : EvRel (fun _ => True) sn m c (taggedAt c)) :
    EvRel (fun j => j < c.exs.length ∨ og.isGet = true) sn (openAll m (obsOf sn og c c')) c' (taggedAt c) := by
  refine ExsRel.opened hrel hg hf.new1
    (fun j me e e' hj g r => relE_weaken (relE_ghost r g.stream g.frm g.kind) (fun _ => Or.inl hj)) (fun e' he' => ?_)
  have ht : taggedAt c c.exs.length = [] := by simp [taggedAt]
  show RelE _ sn _ e' (taggedAt c c.exs.length)
  rw [ht]
  refine ⟨rfl, hf.np, rfl, rfl, by simp [mkEx, cLost, idCount], ?_, fun hl => ((hf.ghost e' he' hl).1).symm,
    fun hl t ht => (hf.ghost e' he' hl).2 t ht, fun hg' => Or.inr hg'⟩
  simp only [mkEx, isSSE]
  cases e'.kind <;> simp

theorem evId_sidOf {o : Out α} {t i : Nat} (h : (toMOut o).evId = .ok t i) : o.sidOf = some t := by
  cases o with
  | prime sid idx => simp only [toMOut, MOut.evId, EvId.ok.injEq] at h; simp [Out.sidOf, h.1]
  | message id it =>
    cases id with
    | none => simp [toMOut, MOut.evId, toEvId] at h
    | some p => simp only [toMOut, MOut.evId, toEvId, EvId.ok.injEq] at h; simp [Out.sidOf, h.1]
  | _ => simp [toMOut, MOut.evId] at h

/-- **the learning passes on the model's observation make one kind of update**: an exchange `k` opened by a POST is
told the stream it serves — the stream the model's exchange serves (`Inv.att` for the snapshot, `InvId` for the event
ids) — and `k` is recorded as that stream's creator.  Whatever that update keeps, the two passes keep. -/
theorem learned_induct {Q : MonS σ α → Prop} {sn : σ} {og : Origin} {c0 c : Conn α} (hw : Inv c) (hk : InvK c) (hid : InvId c)
    (hQ : ∀ (m : MonS σ α) (k : Nat) (e : Exch α) (me : MEx σ), Q m → c.exs[k]? = some e → e.live → m.exs k = some me →
      me.isGet = false → Q ((m.putEx k { me with stream := some e.stream }).bindPost me.sess e.stream k))
    {m : MonS σ α} (hm : Q m) : Q (learnIds (learnRows m (obsOf sn og c0 c)) (obsOf sn og c0 c)) := by
  have rows : ∀ (l : List (Stream α)), (∀ s ∈ l, s ∈ c.streams) → ∀ m, Q m →
      Q ((l.map rowOf).foldl (learnRow (obsOf sn og c0 c) sn) m) := by
    intro l
    induction l with
    | nil => intro _ m h; exact h
    | cons s t ih =>
      intro hl m h
      rw [List.map_cons, List.foldl_cons]
      refine ih (fun x hx => hl x (List.mem_cons_of_mem _ hx)) _ ?_
      rcases learnRow_cases (obsOf sn og c0 c) sn m (rowOf s) with h' | ⟨k, me, hat, hme, hg, hs, h'⟩ <;> rw [h']
      · exact h
      · obtain ⟨e, he, hes⟩ := hw.att s (hl s List.mem_cons_self) k hat
        have := hQ m k e me h he (invK_live hk (hl s List.mem_cons_self) hat he) hme hg
        rw [hes] at this
        rw [← hs]
        exact this
  have ids : ∀ (l : List (Nat × Bool × Out α)), (∀ x ∈ l, x ∈ sentM c0 c) → ∀ m, Q m →
      Q ((l.map toSent).foldl (learnId (obsOf sn og c0 c)) m) := by
    intro l
    induction l with
    | nil => intro _ m h; exact h
    | cons x t ih =>
      intro hl m h
      rw [List.map_cons, List.foldl_cons]
      refine ih (fun y hy => hl y (List.mem_cons_of_mem _ hy)) _ ?_
      rcases learnId_cases (obsOf sn og c0 c) m (toSent x) with h' | ⟨me, t, i, hme, hev, hg, h'⟩ <;> rw [h']
      · exact h
      · obtain ⟨e, he, hx⟩ := mem_sentM (hl x List.mem_cons_self)
        have := hQ m x.1 e me h he (exch_live_of_mem_all hk he hx) hme hg
        rw [← hid x.1 e he _ hx t (evId_sidOf hev)] at this
        exact this
  exact ids (sentM c0 c) (fun _ h => h) _ (rows c.streams (fun _ h => h) m hm)

theorem evRel_learned {sn : σ} {og : Origin} {c0 c : Conn α} (hw : Inv c) (hk : InvK c) (hid : InvId c) {m : MonS σ α}
    {done : Nat → List (Bool × Out α)} (hrel : EvRel G sn m c done) :
    EvRel G sn (learnIds (learnRows m (obsOf sn og c0 c)) (obsOf sn og c0 c)) c done := by
  refine learned_induct (Q := fun m => EvRel G sn m c done) hw hk hid ?_ hrel
  intro m k e me h he _ hme _
  refine ExsRel.put h k { me with stream := some e.stream } (fun j => by simp) ?_ (fun _ _ _ _ r => r)
  intro e1 he1
  rw [he] at he1; cases he1
  exact relE_learn (h.get he hme)

theorem store_none_of_not_lt {c : Conn α} (hw : Inv c) {sid : Nat} (h : ¬ sid < c.nextSid) : c.store sid = none := by
  cases hs : c.store sid with
  | none => rfl
  | some l => exact absurd (hw.store_lt sid (by rw [hs]; rfl)) h

theorem logRel_appends {sn : σ} {c c' : Conn α} (hw' : Inv c') (hg : Grow c c') (prov : α → Prov σ) {m : MonS σ α}
    (hlog : LogRel sn m c) : LogRel sn (foldV (appendOne prov) m (appendsOf sn c c')).1 c' := by
  intro sid
  rw [(appends_spec prov (appendsOf sn c c') m).2.2.2.2 sn sid, hlog sid, newLog_spec hg sid]
  show _ ++ Mon.appendsTo sn sid (appendsOf sn c c') = _
  rw [appendsTo_appendsOf]
  split
  · simp
  · rename_i hlt
    have : c'.store sid = none := store_none_of_not_lt hw' hlt
    have hnl : newLog c c' sid = [] := by simp [newLog, this]
    simp [hnl]

theorem checkResume_ok {sn : σ} {og : Origin} {c c' : Conn α} (hf : RecFacts og c c') {m : MonS σ α}
    (hrel : EvRel (fun j => j < c.exs.length ∨ og.isGet = true) sn m c' (taggedAt c')) (hlog : LogRel sn m c')
    (x : Nat × Bool) (hx : x ∈ openedOf c c') : checkResume m x = none := by
  obtain ⟨hlt, rfl⟩ := mem_openedOf hf hx
  have he := List.getElem?_eq_getElem hlt
  cases hv : checkResume m (c.exs.length, isSSE c'.exs[c.exs.length]) with
  | none => rfl
  | some cl =>
    obtain ⟨_, me, t, hme, hg, hs, hfl, hst, hbad⟩ := checkResume_sound m _ cl hv
    have r := hrel.get he hme
    rw [taggedAt_some he] at r
    have hkind := r.sse.mp hs
    have hlive : (c'.exs[c.exs.length]).live := Or.inl hkind
    obtain rfl := r.stream hlive t hst
    refine absurd (fun h1 => ?_) hbad
    rw [r.sess, hlog, List.length_map, r.frm hlive] at h1 ⊢
    rw [r.nrecv, cRecv_tagged]
    exact hf.resume ((r.get hg).resolve_left (Nat.lt_irrefl _)) _ he hkind (relE_lost r hfl) h1

theorem checkRow_ok {sn : σ} {c : Conn α} (hw : Inv c) (h8 : Inv08 c) (hk : InvK c) {m : MonS σ α}
    (hrel : EvRel G sn m c (taggedAt c)) (hlog : LogRel sn m c) (s : Stream α) (hs : s ∈ c.streams) :
    checkRow m sn (rowOf s) = none := by
  cases hv : checkRow m sn (rowOf s) with
  | none => rfl
  | some cl =>
    obtain ⟨k, hat, hopn, hsse, hbad, _⟩ := checkRow_sound m sn (rowOf s) cl hv
    have hat' : s.attached = some k := hat
    obtain ⟨e, he, _⟩ := hw.att s hs k hat'
    obtain ⟨ha1, ha2⟩ := h8.aligned s hs k e hat' hopn (Option.isNone_iff_eq_none.mp hsse) he
    have hlen : (m.logs sn s.id).length = s.next := by rw [hlog, List.length_map]; exact ha2
    refine absurd ⟨hlen.symm, ?_⟩ hbad
    intro me hme hfl _
    have r := hrel.get he hme
    rw [taggedAt_some he] at r
    show me.from + me.nrecv = (m.logs sn s.id).length
    rw [hlen, r.frm (invK_live hk hs hat' he), r.nrecv, cRecv_tagged, ha1]
    unfold Exch.all
    rw [idCount_append, relE_lost r hfl]
    simp

theorem quiesce_ok {sn : σ} {og : Origin} {c c' : Conn α} (hw' : Inv c') (h8' : Inv08 c') (hk' : InvK c')
    (hf : RecFacts og c c') {m : MonS σ α}
    (hrel : EvRel (fun j => j < c.exs.length ∨ og.isGet = true) sn m c' (taggedAt c')) (hlog : LogRel sn m c') :
    quiesce m (obsOf sn og c c') = none := by
  unfold quiesce
  split
  · have hA : (obsOf sn og c c').opened.findSome? (checkResume m) = none := by
      rw [List.findSome?_eq_none_iff]
      intro x hx
      exact checkResume_ok hf hrel hlog x hx
    have hB : (obsOf sn og c c').snaps.findSome? (checkSnap m) = none := by
      rw [List.findSome?_eq_none_iff]
      intro x hx
      simp only [obsOf, List.mem_singleton] at hx
      subst hx
      simp only [checkSnap, Bool.false_eq_true, if_false]
      rw [List.findSome?_eq_none_iff]
      intro row hrow
      simp only [List.mem_map] at hrow
      obtain ⟨s, hs, rfl⟩ := hrow
      exact checkRow_ok hw' h8' hk' hrel hlog s hs
    rw [hA, hB]; rfl
  · rfl

theorem first_purgesOf {sn : σ} {c c' : Conn α} (hw' : Inv c') (hp' : InvP c') (hpm : ∀ sid, c.purged sid ≤ c'.purged sid)
    {m : MonS σ α} (hm : ∀ sid, m.first sn sid = c.purged sid) (sid : Nat) :
    (applyPurges m (purgesOf sn c c')).first sn sid = c'.purged sid := by
  rw [applyPurges_first]
  have hfil : (purgesOf sn c c').filter (fun x => decide (x.1 = sn) && x.2.1 == sid) =
      (purgesOf sn c c').filter (fun x => x.2.1 == sid) := by
    apply List.filter_congr
    intro x hx
    unfold purgesOf at hx
    simp only [List.mem_flatMap, List.mem_range] at hx
    obtain ⟨k, _, hk⟩ := hx
    split at hk
    · cases hk
    · simp at hk; subst hk; simp
  rw [hfil]
  unfold purgesOf
  rw [filter_flatMap_range (fun k => if c'.purged k = c.purged k then [] else [(sn, k, c'.purged k)]) (fun x => x.2.1)
    (by intro i x hx; split at hx; · cases hx
        · simp at hx; subst hx; rfl) sid]
  rw [hm]
  split
  · split
    · rename_i heq; simp [heq]
    · simp; have := hpm sid; omega
  · rename_i hlt
    have hnone : c'.store sid = none := store_none_of_not_lt hw' hlt
    have h0 : c'.purged sid = 0 := by have := hp' sid; rw [hnone] at this; simpa using this
    have := hpm sid
    simp; omega

theorem checkPurged_ok {sn : σ} {og : Origin} {c c' : Conn α} (hf : RecFacts og c c') {m : MonS σ α}
    (hm : ∀ sid, m.first sn sid = c.purged sid) :
    (openedOf c c').findSome? (checkPurged m (obsOf sn og c c')) = none := by
  rw [List.findSome?_eq_none_iff]
  intro x hx
  obtain ⟨hlt, rfl⟩ := mem_openedOf hf hx
  cases hv : checkPurged m (obsOf sn og c c') (c.exs.length, isSSE c'.exs[c.exs.length]) with
  | none => rfl
  | some cl =>
    obtain ⟨_, hg, t, ht, hbad⟩ := checkPurged_sound m _ _ cl hv
    refine absurd (fun hlt' => ?_) hbad
    have hlt'' : og.from < m.first sn t := hlt'
    rw [hm t] at hlt''
    cases hk : (c'.exs[c.exs.length]).kind with
    | sse => exact absurd hlt'' (hf.purgedErr hg _ (List.getElem?_eq_getElem hlt) hk t ht)
    | _ => simp [isSSE, hk]

theorem record_ok08 (prov : α → Prov σ) {sn : σ} {og : Origin} {c c' : Conn α} (hst : c.cfg.hasStore = true)
    (hw' : Inv c') (h8' : Inv08 c') (hk' : InvK c') (hid' : InvId c') (hp' : InvP c') (hpm : ∀ sid, c.purged sid ≤ c'.purged sid)
    (hg : Grow c c') (hf : RecFacts og c c') {m : MonS σ α}
    (hm : MonRel08 sn m c) :
    (Mon.step prov m (obsOf sn og c c')).2.v08 = none ∧ MonRel08 sn (Mon.step prov m (obsOf sn og c c')).1 c' := by
  obtain ⟨ls, _, ll, lf⟩ := ground_eq (learned_ground m (obsOf sn og c c'))
  have h3 : EvRel (fun j => j < c.exs.length ∨ og.isGet = true) sn (learned m (obsOf sn og c c')) c' (taggedAt c) :=
    evRel_learned hw' hk' hid' (evRel_open hg hf hm.exs)
  obtain ⟨a1, a2, a3, a4⟩ := appended_spec prov m (obsOf sn og c c')
  have hlog2 : LogRel sn (appended prov m (obsOf sn og c c')).1 c' :=
    logRel_appends hw' hg prov (fun sid => by rw [ll]; exact hm.logs sid)
  have hst2 : (appended prov m (obsOf sn og c c')).1.store = true := by rw [a2, ls, hm.store]; exact hst
  obtain ⟨e1, e2⟩ : (evented prov m (obsOf sn og c c')).2.v08 = none ∧
      EvRel (fun j => j < c.exs.length ∨ og.isGet = true) sn (evented prov m (obsOf sn og c c')).1 c'
        (fun j => taggedAt c j ++ proj j (sentM c c')) :=
    events_ok08 prov hk' h8' sn (sentM c c') (appended prov m (obsOf sn og c c')).1 (taggedAt c) hst2
      (fun j e he => by rw [a1]; exact h3 j e he) hlog2 (fun j => by rw [proj_sentM]; exact newEvents_spec hg j)
  have hdone : (fun j => taggedAt c j ++ proj j (sentM c c')) = taggedAt c' := by
    funext j; rw [proj_sentM]; exact (newEvents_spec hg j).symm
  rw [hdone] at e2
  obtain ⟨es, _, el, ef⟩ := ground_eq (evented_ground prov m (obsOf sn og c c'))
  have hlog3 : LogRel sn (evented prov m (obsOf sn og c c')).1 c' := fun sid => by rw [el]; exact hlog2 sid
  refine ⟨monStep_quiet08 prov m _ (fun _ => checkPurged_ok hf hm.first) a4 e1 (quiesce_ok hw' h8' hk' hf e2 hlog3), ?_⟩
  rw [monStep_fst]
  obtain ⟨f1, f2, f3, _, _⟩ := applyPurges_frame (obsOf sn og c c').purges (evented prov m (obsOf sn og c c')).1
  exact ⟨by rw [f3, es, hst2, hg.cfg, hst], first_purgesOf hw' hp' hpm (fun sid => by rw [ef, a3, lf]; exact hm.first sid),
    fun sid => by rw [f2]; exact hlog3 sid, ExsRel.mono e2 f1 (fun _ _ _ _ r => relE_weaken r (fun _ => trivial))⟩

end Resume
