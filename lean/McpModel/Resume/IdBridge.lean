import McpModel.Resume.Lifecycle
import McpModel.Resume.RecOf
import McpModel.Resume.IdMon
/-!
# C02 / C10 — the in-flight id clauses of the monitor: bridging theorems

`requestStreams` is written by exactly two things — a POST that is accepted registers its call ids, the write (or the
routing half of the write) of a response erases its id (`Lifecycle`) — so the set of in-flight ids the monitor keeps from the
operations is kept in step with it (`IdRel`), and `Mon.idStep` raises neither clause on the model's trace of any
label list (`idMonitor_accepts_model`).
-/
namespace Resume
open Mon
variable {α σ : Type}

section
variable [DecidableEq σ]
namespace Mon

theorem anyInFlight_true_iff (m : IdS σ) (s : σ) (ids : List Nat) :
    anyInFlight m s ids = true ↔ ∃ r ∈ ids, (s, r) ∈ m.inflight := by
  simp [anyInFlight, List.any_eq_true]

theorem idStep_snd (m : IdS σ) (o : IdObs σ) : (idStep m o).2 =
    match o with
    | .call s ids true _ => if anyInFlight m s ids then some .acceptedDup else none
    | .call s ids false true => if anyInFlight m s ids then none else some .refusedFree
    | _ => none := by
  cases o with
  | call s ids acc ref => cases acc <;> cases ref <;> rfl
  | _ => rfl

theorem idStep_acceptedDup_iff (m : IdS σ) (o : IdObs σ) :
    (idStep m o).2 = some .acceptedDup ↔
      ∃ s ids ref, o = .call s ids true ref ∧ ∃ r ∈ ids, (s, r) ∈ m.inflight := by
  rw [idStep_snd]
  constructor
  · intro h
    split at h
    · rename_i s ids ref
      split at h
      · rename_i ha; exact ⟨s, ids, ref, rfl, (anyInFlight_true_iff m s ids).1 ha⟩
      · cases h
    · split at h <;> cases h
    · cases h
  · rintro ⟨s, ids, ref, rfl, hex⟩
    simp only
    rw [if_pos ((anyInFlight_true_iff m s ids).2 hex)]

theorem idStep_refusedFree_iff (m : IdS σ) (o : IdObs σ) :
    (idStep m o).2 = some .refusedFree ↔
      ∃ s ids, o = .call s ids false true ∧ ∀ r ∈ ids, (s, r) ∉ m.inflight := by
  rw [idStep_snd]
  constructor
  · intro h
    split at h
    · split at h <;> cases h
    · rename_i s ids
      split at h
      · cases h
      · rename_i ha
        exact ⟨s, ids, rfl, fun r hr hm => ha ((anyInFlight_true_iff m s ids).2 ⟨r, hr, hm⟩)⟩
    · cases h
  · rintro ⟨s, ids, rfl, hall⟩
    simp only
    rw [if_neg]
    intro ha
    obtain ⟨r, hr, hm⟩ := (anyInFlight_true_iff m s ids).1 ha
    exact hall r hr hm
end Mon

end

/-! ### the observation of a model step, as the in-flight clauses see it -/

def isStreamKind : Option Kind → Bool
  | some .sse => true
  | some .json => true
  | _ => false

/-- a POST with calls is `call` — accepted if the exchange it opened carries a stream, refused if it was answered 400 —, the
write (or routing half of the write) of a response is `finished`, everything else `other` -/
def iobsOf (sn : σ) (l : Label α) (c c' : Conn α) : IdObs σ :=
  match l with
  | .post calls _ _ _ =>
    if dedup calls = [] then .other
    else .call sn (dedup calls) (isStreamKind (kindAt c' c.exs.length)) (kindAt c' c.exs.length == some (.status 400))
  | .write (.resp r _) _ _ => .finished sn r
  | .wroute (.resp r _) _ _ => .finished sn r
  | _ => .other

def itraceOf1 (sn : σ) : Conn α → List (Label α) → List (IdObs σ)
  | _, [] => []
  | c, l :: ls => iobsOf sn l c (step c l) :: itraceOf1 sn (step c l) ls

variable [DecidableEq σ]

/-- the monitor's in-flight set of session `sn` is the domain of `requestStreams` -/
def IdRel (sn : σ) (m : IdS σ) (c : Conn α) : Prop := ∀ r, (sn, r) ∈ m.inflight ↔ (c.reqStreams r).isSome = true

theorem anyInFlight_eq (sn : σ) (m : IdS σ) (c : Conn α) (hr : IdRel sn m c) (ids : List Nat) :
    anyInFlight m sn ids = ids.any (fun r => (c.reqStreams r).isSome) := by
  unfold anyInFlight
  induction ids with
  | nil => rfl
  | cons a t ih =>
    simp only [List.any_cons, ih]
    congr 1
    have := hr a
    cases h : (c.reqStreams a).isSome with
    | true => rw [h] at this; simpa using this.2 rfl
    | false =>
      rw [h] at this
      have hn : ¬ (sn, a) ∈ m.inflight := fun hm => by simpa using this.1 hm
      simpa using hn

theorem id_step_ok (sn : σ) {m : IdS σ} {c : Conn α} (hr : IdRel sn m c) (l : Label α) :
    (idStep m (iobsOf sn l c (step c l))).2 = none ∧ IdRel sn (idStep m (iobsOf sn l c (step c l))).1 (step c l) := by
  have hsame : ∀ c' : Conn α, c'.reqStreams = c.reqStreams → IdRel sn m c' := by
    intro c' h r; rw [h]; exact hr r
  have hfin : ∀ (c' : Conn α) (r : Nat), (c'.reqStreams = fun x => if x = r then none else c.reqStreams x) →
      IdRel sn (idStep m (.finished sn r)).1 c' := by
    intro c' r h x
    rw [h]
    simp only [idStep, List.mem_filter, Bool.not_eq_true', beq_eq_false_iff_ne, ne_eq, Prod.mk.injEq, true_and]
    by_cases hx : x = r
    · simp [hx]
    · simp only [hx, not_false_eq_true, and_true, if_false]; exact hr x
  cases l with
  | post calls listen ver budget =>
    simp only [iobsOf, step, stepR]
    by_cases hd : dedup calls = []
    · simp only [hd, if_true, idStep]
      exact ⟨by trivial, hsame _ (by simp [post, hd, statusEx])⟩
    · simp only [hd, if_false]
      by_cases hany : (dedup calls).any (fun r => (c.reqStreams r).isSome) = true
      · -- refused: 400, nothing registered
        have hp : post c calls listen ver budget = postDup c ver := by simp [post, hd, hany]
        have hk : kindAt (postDup c ver) c.exs.length = some (.status 400) := by simp [kindAt, postDup, statusEx]
        rw [hp, hk]
        simp only [isStreamKind, idStep, beq_self_eq_true, if_true, Bool.false_eq_true, if_false]
        rw [anyInFlight_eq sn m c hr, hany]
        exact ⟨rfl, hsame _ rfl⟩
      · -- accepted: the ids are registered
        have hp : post c calls listen ver budget = postNew c (dedup calls) listen ver budget := by simp [post, hd, hany]
        rw [hp, kindAt_postNew]
        have hacc : isStreamKind (some (if useSSE c listen then Kind.sse else Kind.json)) = true := by
          split <;> rfl
        simp only [hacc, idStep, if_true]
        rw [anyInFlight_eq sn m c hr]
        refine ⟨by simp [hany], ?_⟩
        intro r
        have hreg := congrFun (postNew_reqStreams c (dedup calls) listen ver budget) r
        rw [hreg]
        simp only [List.mem_append, List.mem_map, Prod.mk.injEq, true_and, exists_eq_right]
        by_cases hm : r ∈ dedup calls
        · simp [hm]
        · simp only [hm, or_false, if_false]; exact hr r
  | write msg ctx ctxNew =>
    cases msg with
    | resp r p => exact ⟨rfl, hfin _ r (writeR_reqStreams c _ ctx ctxNew)⟩
    | _ => exact ⟨rfl, hsame _ (writeR_reqStreams c _ ctx ctxNew)⟩
  | wroute msg ctx ctxNew =>
    cases msg with
    | resp r p => exact ⟨rfl, hfin _ r (wrouteR_reqStreams c _ ctx ctxNew)⟩
    | _ => exact ⟨rfl, hsame _ (wrouteR_reqStreams c _ ctx ctxNew)⟩
  | get hdr ver budget => exact ⟨rfl, hsame _ (get_reqStreams c hdr ver budget)⟩
  | sclose req retry => exact ⟨rfl, hsame _ (sclose_reqStreams c req retry)⟩
  | wdeliver i => exact ⟨rfl, hsame _ (wdeliverR_reqStreams c i)⟩
  | _ => exact ⟨rfl, hsame _ rfl⟩

theorem idRel_init (cfg : Cfg) (sn : σ) : IdRel sn (idInit : IdS σ) (init cfg : Conn α) := by
  intro r; simp [idInit, init]

theorem id_run_ok (cfg : Cfg) (sn : σ) (ls : List (Label α)) :
    (idRun (idInit : IdS σ) (itraceOf1 sn (init cfg : Conn α) ls)).2 = none ∧
    IdRel sn (idRun (idInit : IdS σ) (itraceOf1 sn (init cfg : Conn α) ls)).1 (run (init cfg : Conn α) ls) :=
  quiet_run (fun _ => rfl) (fun _ _ _ => rfl) (fun _ => rfl) (fun _ _ _ => rfl) (R := fun m c => IdRel sn m c) (Sc := fun _ => True)
    (fun _ _ l hr _ => id_step_ok sn hr l) ls (init cfg) _ (idRel_init cfg sn) (fun _ _ => trivial)

/-- **C02 / C10 bridging, in-flight ids.**  For every configuration and EVERY label list the in-flight clauses are not raised
on the model's trace; client notifications (`notifications/cancelled` included), lost exchanges, resumes, closes, evictions
and all writes but a response are `other` — none of them frees or takes an id. -/
theorem idMonitor_accepts_model (cfg : Cfg) (sn : σ) (ls : List (Label α)) :
    (idRun (idInit : IdS σ) (itraceOf1 sn (init cfg : Conn α) ls)).2 = none :=
  (id_run_ok cfg sn ls).1

theorem idRel_run (cfg : Cfg) (sn : σ) (ls : List (Label α)) :
    IdRel sn (idRun (idInit : IdS σ) (itraceOf1 sn (init cfg : Conn α) ls)).1 (run (init cfg : Conn α) ls) :=
  (id_run_ok cfg sn ls).2

/-- non-vacuity: call 7 accepted, the client's cancel (`other`), the reuse of 7 accepted ⇒ flagged -/
example : (idRun (idInit : IdS Nat) [.call 1 [7] true false, .other, .call 1 [7] true false]).2 = some .acceptedDup := by decide +kernel

/-- … refused ⇒ fine; after the handler finished, a refusal is flagged -/
example : (idRun (idInit : IdS Nat) [.call 1 [7] true false, .other, .call 1 [7] false true]).2 = none := by decide +kernel
example : (idRun (idInit : IdS Nat) [.call 1 [7] true false, .finished 1 7, .call 1 [7] false true]).2 = some .refusedFree := by decide +kernel

end Resume
