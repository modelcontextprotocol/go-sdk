import McpModel.Resume.Cases
import McpModel.Resume.Props
/-!
# C10 / C02 — the lifetime of a `requestStreams` entry

"`requestStreams`: request id ↦ logical stream id, deleted when the response is written."  The theorems here say that
NOTHING else touches the entry of a registered request, for every label of the model — whatever arrives on the session
meanwhile: POSTs without calls (every client notification, `notifications/cancelled` for `r` included: op `cancel` of the
harness), POSTs that try to reuse `r` (refused), the loss of the POST's HTTP exchange (CUT — with or without an event store:
the request is not re-homed on the standalone stream), failing writers, resumes, closes, evictions, other writes.
-/
namespace Resume
variable {α : Type}

/-! ### who writes `requestStreams`: the routing section of a write, for a response; an accepted POST, for its calls -/

theorem writeR_resp_reqStreams (c : Conn α) (r : Nat) (p : α) (ctx : Option Nat) (ctxNew : Bool) :
    (writeR c (.resp r p) ctx ctxNew).1.reqStreams = fun x => if x = r then none else c.reqStreams x :=
  writeR_reqStreams c (.resp r p) ctx ctxNew

theorem eraseResp_other (c : Conn α) (msg : Msg α) (h : msg.respId = none) : eraseResp c msg = c := by
  cases msg with
  | resp r p => cases h
  | _ => rfl

theorem writeR_other_reqStreams (c : Conn α) (msg : Msg α) (h : msg.respId = none) (ctx : Option Nat) (ctxNew : Bool) :
    (writeR c msg ctx ctxNew).1.reqStreams = c.reqStreams := by
  rw [writeR_reqStreams, eraseResp_other c msg h]

def Label.answers (r : Nat) : Label α → Bool
  | .write (.resp id _) _ _ => id == r
  | .wroute (.resp id _) _ _ => id == r
  | _ => false

theorem eraseResp_reqStreams_ne (c : Conn α) (msg : Msg α) (r : Nat) (h : msg.respId ≠ some r) :
    (eraseResp c msg).reqStreams r = c.reqStreams r := by
  cases msg with
  | resp id p =>
    simp only [eraseResp]
    have : r ≠ id := by intro hh; subst hh; exact h rfl
    simp [this]
  | notif p => rfl
  | call p => rfl

theorem get_reqStreams (c : Conn α) (hdr : Hdr) (ver : Ver) (budget : Option Nat) :
    (get c hdr ver budget).reqStreams = c.reqStreams := by
  rw [get_eq]

theorem sclose_reqStreams (c : Conn α) (req : Nat) (retry : Bool) : (sclose c req retry).reqStreams = c.reqStreams := by
  unfold sclose
  split
  · rfl
  · split
    · rfl
    · split
      · split <;> rfl
      · rfl

theorem postNew_reqStreams (c : Conn α) (calls : List Nat) (listen : Bool) (ver : Ver) (budget : Option Nat) :
    (postNew c calls listen ver budget).reqStreams = fun r => if r ∈ calls then some c.nextSid else c.reqStreams r := by
  obtain ⟨_, _, _, _, _, frq, _⟩ := postPrimed_frame c calls listen ver budget
  rw [postNew_eq]
  split <;> exact frq

theorem post_reqStreams_registered (c : Conn α) (calls : List Nat) (listen : Bool) (ver : Ver) (budget : Option Nat)
    (r sid : Nat) (h : c.reqStreams r = some sid) : (post c calls listen ver budget).reqStreams r = some sid := by
  unfold post
  split
  · exact h
  · split
    · exact h
    · rename_i hno
      have hr : r ∉ dedup calls := by
        intro hm
        apply hno
        rw [List.any_eq_true]
        exact ⟨r, hm, by rw [h]; rfl⟩
      rw [postNew_reqStreams]
      simp [hr, h]

/-- **C10 / C02 (lifetime of a registration).**  A registered request stays registered, on the same stream, across every
label that is not the write of its response. -/
theorem registration_removed_only_by_response (c : Conn α) (r sid : Nat) (h : c.reqStreams r = some sid)
    (l : Label α) (hl : l.answers r = false) : (step c l).reqStreams r = some sid := by
  have hne : ∀ msg : Msg α, (∀ id p, msg = .resp id p → (id == r) = false) → msg.respId ≠ some r := by
    intro msg hm
    cases msg with
    | resp id p => simpa [Msg.respId] using hm id p rfl
    | notif p => simp [Msg.respId]
    | call p => simp [Msg.respId]
  cases l with
  | post calls listen ver budget => exact post_reqStreams_registered c calls listen ver budget r sid h
  | write msg ctx ctxNew =>
    show (writeR c msg ctx ctxNew).1.reqStreams r = some sid
    rw [writeR_reqStreams, eraseResp_reqStreams_ne c msg r (hne msg (fun id p hm => by rw [hm] at hl; exact hl))]
    exact h
  | wroute msg ctx ctxNew =>
    show (wrouteR c msg ctx ctxNew).1.reqStreams r = some sid
    rw [wrouteR_reqStreams, eraseResp_reqStreams_ne c msg r (hne msg (fun id p hm => by rw [hm] at hl; exact hl))]
    exact h
  | get hdr ver budget => show (get c hdr ver budget).reqStreams r = some sid; rw [get_reqStreams]; exact h
  | sclose req retry => show (sclose c req retry).reqStreams r = some sid; rw [sclose_reqStreams]; exact h
  | wdeliver i => show (wdeliverR c i).1.reqStreams r = some sid; rw [wdeliverR_reqStreams]; exact h
  | _ => exact h

theorem registration_kept_run (r sid : Nat) : ∀ (ls : List (Label α)) (c : Conn α), c.reqStreams r = some sid →
    (∀ l ∈ ls, l.answers r = false) → (run c ls).reqStreams r = some sid :=
  fun ls _ h hall => run_ind_mem (P := fun c => c.reqStreams r = some sid)
    (fun c l hl h => registration_removed_only_by_response c r sid h l hl) ls h hall

/-- **C10.**  After any such history the response of `r` is routed to the stream its POST registered, or nowhere:
never to the standalone stream, never to the stream of another request. -/
theorem response_routed_to_registered_stream (r sid : Nat) (ls : List (Label α)) (c : Conn α)
    (h : c.reqStreams r = some sid) (hall : ∀ l ∈ ls, l.answers r = false) (p : α) (ctx : Option Nat) (s : Stream α)
    (hs : route (run c ls) (.resp r p) ctx = some s) : s.id = sid := by
  have hk := registration_kept_run r sid ls c h hall
  simp only [route, related, hk] at hs
  have := List.find?_some hs
  simpa using this

/-- a POST without calls (a client notification such as `notifications/cancelled`, a client response) registers and
releases nothing -/
theorem notification_post_frame (c : Conn α) (listen : Bool) (ver : Ver) (budget : Option Nat) :
    (post c [] listen ver budget).streams = c.streams ∧ (post c [] listen ver budget).reqStreams = c.reqStreams ∧
    (post c [] listen ver budget).store = c.store ∧ (post c [] listen ver budget).isDone = c.isDone ∧
    (post c [] listen ver budget).exs = c.exs ++ [{ kind := .status 202, ended := true }] := by
  simp [post, dedup, statusEx]

/-- non-vacuity of `registration_removed_only_by_response` for the cancel scenario: call 7 is registered; the client's
`notifications/cancelled` (a POST without calls) and its attempt to reuse id 7 leave the entry alone -/
example : (run (init ⟨false, false, false, false⟩ : Conn Nat)
    [.post [7] false .v0618 none, .post [] false .v0618 none, .post [7] false .v0618 none]).reqStreams 7 = some 1 := by
  decide +kernel

theorem find_map_id (f : Stream α → Stream α) (p : Stream α → Bool) (hp : ∀ s, p (f s) = p s) (hid : ∀ s, (f s).id = s.id)
    (l : List (Stream α)) : ((l.map f).find? p).map (·.id) = (l.find? p).map (·.id) := by
  induction l with
  | nil => rfl
  | cons s t ih =>
    simp only [List.map_cons, List.find?_cons, hp]
    cases h : p s with
    | true => simp [hid]
    | false => simpa using ih

def releaseOne (ex : Nat) (s : Stream α) : Stream α :=
  if s.attached = some ex then { s with attached := none, opn := false } else s

theorem releaseOne_id (ex : Nat) (s : Stream α) : (releaseOne ex s).id = s.id := by
  unfold releaseOne; split <;> rfl

theorem releaseOne_listen (ex : Nat) (s : Stream α) : (releaseOne ex s).listen = s.listen := by
  unfold releaseOne; split <;> rfl

theorem release_eq_map (ex : Nat) (l : List (Stream α)) : release ex l = l.map (releaseOne ex) := rfl

theorem findStream_release (ex sid : Nat) (l : List (Stream α)) :
    (findStream sid (release ex l)).map (·.id) = (findStream sid l).map (·.id) := by
  rw [release_eq_map]
  exact find_map_id (releaseOne ex) (fun s => s.id == sid) (fun s => by simp [releaseOne_id]) (releaseOne_id ex) l

theorem findListen_release (ex : Nat) (l : List (Stream α)) :
    (findListen (release ex l)).map (·.id) = (findListen l).map (·.id) := by
  rw [release_eq_map]
  exact find_map_id (releaseOne ex) (·.listen) (releaseOne_listen ex) (releaseOne_id ex) l

/-- **C10.**  The loss of an HTTP exchange (CUT) does not change which stream any message is routed to: a request whose
POST was dropped is not re-homed (with or without an event store). -/
theorem cut_keeps_route_target (c : Conn α) (ex : Nat) (msg : Msg α) (ctx : Option Nat) :
    (route (cut c ex) msg ctx).map (·.id) = (route c msg ctx).map (·.id) := by
  have hc : (cut c ex).cfg = c.cfg := rfl
  have hr : (cut c ex).reqStreams = c.reqStreams := rfl
  have hs : (cut c ex).streams = release ex c.streams := rfl
  simp only [route, related, hc, hr, hs]
  split
  · split
    · exact findStream_release ex _ c.streams
    · rfl
  · have hl := findListen_release ex c.streams
    cases h1 : findListen (release ex c.streams) with
    | some s1 =>
      cases h2 : findListen c.streams with
      | some s2 => rw [h1, h2] at hl; simpa using hl
      | none => rw [h1, h2] at hl; cases hl
    | none =>
      cases h2 : findListen c.streams with
      | some s2 => rw [h1, h2] at hl; cases hl
      | none => exact findStream_release ex 0 c.streams

end Resume
