import McpModel.Resume.Grow
import McpModel.Resume.Trace
import McpModel.Resume.Sound08
/-!
E5 — what the difference between two states of a growing run (`Grow c c'`) consists of: per exchange the
writes it received (`newEvents`), per stream the log entries appended (`newLog`); and how the flat lists of
the observation (`sentM`, `appendsOf`) project back onto one exchange / one stream.
-/
namespace Resume
variable {α σ : Type}

/-- a `flatMap` over `range n` whose `i`-th block only holds elements with key `i`, filtered by key `j` -/
theorem filter_flatMap_range {β : Type} (f : Nat → List β) (key : β → Nat) (hk : ∀ i x, x ∈ f i → key x = i) (j : Nat) :
    ∀ n, ((List.range n).flatMap f).filter (fun x => key x == j) = if j < n then f j else [] := by
  intro n
  induction n with
  | zero => simp
  | succ n ih =>
    rw [List.range_succ, List.flatMap_append, List.filter_append, ih]
    simp only [List.flatMap_cons, List.flatMap_nil, List.append_nil]
    by_cases hjn : j = n
    · subst hjn
      have : (f j).filter (fun x => key x == j) = f j := by
        rw [List.filter_eq_self]
        intro x hx
        simp [hk j x hx]
      simp [this]
    · have : (f n).filter (fun x => key x == j) = [] := by
        rw [List.filter_eq_nil_iff]
        intro x hx
        have := hk n x hx
        simp; omega
      by_cases hj : j < n
      · simp [hj, this, Nat.lt_succ_of_lt hj]
      · have h2 : ¬ j < n + 1 := by omega
        simp [hj, this, h2]

theorem filter_ktrue {β : Type} (l : List β) : l.filter (fun _ => true) = l := by
  induction l <;> simp_all

theorem filter_kfalse {β : Type} (l : List β) : l.filter (fun _ => false) = [] := by
  induction l <;> simp_all

/-! ### the tagged history of an exchange: delivered writes, then lost ones -/

def tagged (e : Exch α) : List (Bool × Out α) :=
  e.out.map (fun o => (false, o)) ++ e.lost.map (fun o => (true, o))

/-- id-carrying events written / delivered / lost -/
def cAll (l : List (Bool × Out α)) : Nat := idCount (l.map (·.2))
def cRecv (l : List (Bool × Out α)) : Nat := idCount ((l.filter (fun x => !x.1)).map (·.2))
def cLost (l : List (Bool × Out α)) : Nat := idCount ((l.filter (fun x => x.1)).map (·.2))

theorem tagged_all (e : Exch α) : (tagged e).map (·.2) = e.all := by
  simp [tagged, Exch.all, List.map_map, Function.comp_def]

theorem cAll_tagged (e : Exch α) : cAll (tagged e) = idCount e.all := by
  unfold cAll; rw [tagged_all]

theorem cRecv_tagged (e : Exch α) : cRecv (tagged e) = idCount e.out := by
  simp [cRecv, tagged, List.filter_append, List.filter_map, Function.comp_def, List.map_map, filter_ktrue, filter_kfalse]

theorem cLost_tagged (e : Exch α) : cLost (tagged e) = idCount e.lost := by
  simp [cLost, tagged, List.filter_append, List.filter_map, Function.comp_def, List.map_map, filter_ktrue, filter_kfalse]

theorem cAll_snoc (l : List (Bool × Out α)) (x : Bool × Out α) :
    cAll (l ++ [x]) = cAll l + (if x.2.isEv then 1 else 0) := by
  simp [cAll, idCount_append, idCount]

theorem cRecv_snoc (l : List (Bool × Out α)) (x : Bool × Out α) :
    cRecv (l ++ [x]) = cRecv l + (if !x.1 && x.2.isEv then 1 else 0) := by
  cases hx : x.1 <;> simp [cRecv, List.filter_append, idCount_append, idCount, hx]

theorem cLost_snoc (l : List (Bool × Out α)) (x : Bool × Out α) :
    cLost (l ++ [x]) = cLost l + (if x.1 && x.2.isEv then 1 else 0) := by
  cases hx : x.1 <;> simp [cLost, List.filter_append, idCount_append, idCount, hx]

/-- the tagged history of exchange `j` (empty if it does not exist) -/
def taggedAt (c : Conn α) (j : Nat) : List (Bool × Out α) := ((c.exs[j]?).map tagged).getD []

theorem taggedAt_some {c : Conn α} {j : Nat} {e : Exch α} (h : c.exs[j]? = some e) : taggedAt c j = tagged e := by
  simp [taggedAt, h]

theorem newEvents_spec {c c' : Conn α} (hg : Grow c c') (j : Nat) : taggedAt c' j = taggedAt c j ++ newEvents c c' j := by
  unfold taggedAt newEvents
  cases h' : c'.exs[j]? with
  | none =>
    cases h : c.exs[j]? with
    | none => rfl
    | some e => obtain ⟨e', he', _⟩ := hg.exs.2 j e h; rw [h'] at he'; cases he'
  | some e' =>
    cases h : c.exs[j]? with
    | none => simp [tagged]
    | some e =>
      obtain ⟨e'', he'', g⟩ := hg.exs.2 j e h
      rw [h'] at he''; cases he''
      obtain ⟨mo, ho⟩ := g.out
      obtain ⟨ml, hl⟩ := g.lost
      simp only [Option.map_some, Option.getD_some, tagged, ho, hl, List.drop_left, List.map_append]
      by_cases hlost : e.lost = []
      · simp [hlost]
      · have := g.order hlost
        rw [ho] at this
        have hmo : mo = [] := by simpa using this
        simp [hmo]

/-- the writes of the record to exchange `j` -/
def proj (j : Nat) (l : List (Nat × Bool × Out α)) : List (Bool × Out α) :=
  (l.filter (fun x => x.1 == j)).map (·.2)

theorem proj_cons (j : Nat) (x : Nat × Bool × Out α) (l : List (Nat × Bool × Out α)) :
    proj j (x :: l) = if x.1 = j then x.2 :: proj j l else proj j l := by
  unfold proj
  by_cases h : x.1 = j <;> simp [h]

theorem proj_sentM (c c' : Conn α) (j : Nat) : proj j (sentM c c') = newEvents c c' j := by
  unfold proj sentM
  rw [filter_flatMap_range (fun j => (newEvents c c' j).map fun x => (j, x.1, x.2)) (fun x => x.1)
    (by intro i x hx; simp only [List.mem_map] at hx; obtain ⟨_, _, rfl⟩ := hx; rfl) j]
  split
  · simp [List.map_map, Function.comp_def]
  · rename_i hj
    have : c'.exs[j]? = none := List.getElem?_eq_none (by omega)
    simp [newEvents, this]

theorem mem_sentM {c c' : Conn α} {x : Nat × Bool × Out α} (h : x ∈ sentM c c') :
    ∃ e', c'.exs[x.1]? = some e' ∧ x.2.2 ∈ e'.all := by
  unfold sentM at h
  simp only [List.mem_flatMap, List.mem_range, List.mem_map] at h
  obtain ⟨j, _, y, hy, rfl⟩ := h
  unfold newEvents at hy
  cases h' : c'.exs[j]? with
  | none => rw [h'] at hy; cases hy
  | some e' =>
    rw [h'] at hy
    refine ⟨e', by simp, ?_⟩
    simp only [List.mem_append, List.mem_map] at hy
    unfold Exch.all
    rcases hy with ⟨o, ho, rfl⟩ | ⟨o, ho, rfl⟩
    · exact List.mem_append_left _ (List.mem_of_mem_drop ho)
    · exact List.mem_append_right _ (List.mem_of_mem_drop ho)

theorem newLog_spec {c c' : Conn α} (hg : Grow c c') (sid : Nat) :
    (c'.store sid).getD [] = (c.store sid).getD [] ++ newLog c c' sid := by
  unfold newLog
  cases h : c.store sid with
  | none => simp
  | some log =>
    obtain ⟨more, hm⟩ := hg.store sid log h
    simp [hm]

/-- (streams are numbered below `nextSid`) -/
theorem appendsTo_appendsOf [DecidableEq σ] (sn : σ) (c c' : Conn α) (sid : Nat) :
    Mon.appendsTo sn sid (appendsOf sn c c') =
      if sid < c'.nextSid then (newLog c c' sid).map (Option.map payloadOf) else [] := by
  unfold Mon.appendsTo appendsOf
  have : ∀ (l : List (Mon.Append σ α)), (∀ a ∈ l, a.sess = sn) →
      l.filter (fun a => decide (a.sess = sn) && a.stream == sid) = l.filter (fun a => a.stream == sid) := by
    intro l hl
    apply List.filter_congr
    intro a ha
    simp [hl a ha]
  rw [this _ (by intro a ha; simp at ha; obtain ⟨_, _, _, _, rfl⟩ := ha; rfl)]
  rw [filter_flatMap_range (fun sid => (newLog c c' sid).map fun x => ({ sess := sn, stream := sid, p := x.map payloadOf, check := true } : Mon.Append σ α))
    (fun a => a.stream) (by intro i a ha; simp at ha; obtain ⟨_, _, rfl⟩ := ha; rfl) sid]
  split
  · simp [List.map_map, Function.comp_def]
  · rfl

end Resume
