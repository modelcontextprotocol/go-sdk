/-!
E5 — the typed core of the C08 / C10 property monitors.

The monitors judge what the *implementation* reported for one harness record: an `Obs` (the exchanges the
record opened, the event-store appends it made, every write to every response, the snapshot of the real
`streams` table).  They keep their own ground truth — the append log per (session, stream), per exchange
the resume point and the number of id-carrying events seen so far, the POST exchange that created each
stream — and never look at the model.  `Mon.step` is a pure function `(π → Prov σ) → MonS → Obs → MonS × Viol`.

* `McpModel.Resume.Driver` parses the harness' tokens into an `Obs` (a thin string layer) and calls `Mon.step`;
* `McpModel.Resume.Trace` defines the `Obs` a model step emits;
* `McpModel.Resume.Accept08` / `Accept10` prove that `Mon.step` raises no clause on any observation trace of the model
  (`Bridge08` / `Bridge10`: the passes over one record), `Sound08` / `Sound10` that a raised clause refutes the corresponding property
  clause on the monitor's ground truth.

Generic in the session name type `σ` and the payload type `π` (strings in the driver, the model's payloads
in the proofs).  Stream names are numbers (`0` = the standalone stream), exchange names are numbers.
Core Lean only (linked into the driver).
-/
namespace Resume
namespace Mon

/-- provenance of a payload, as the harness tagged it when it produced the message -/
inductive Prov (σ : Type) where
  | resp (id : Nat) (sess : σ) (req : Nat) (post : Nat)   -- response `id` of request `req` carried by POST exchange `post`
  | initResp (id : Nat)                                  -- the initialize response
  | inReq (sess : σ) (req : Nat) (post : Nat)             -- notification / call issued with the request's context
  | detached (sess : σ)                                  -- … with a context that belongs to no request
  | server                                               -- list_changed / acknowledged: server-initiated
  | fanout (origin : σ) (req : Nat) (post : Nat) (hctx : Bool)   -- a session-independent server notification (`Server.ResourceUpdated`)
                                                         -- issued while request `req` (POST exchange `post`) of session `origin` was
                                                         -- being handled; `hctx`: the caller passed the handler's context
  | other

/-- the SSE `id:` field of an event as it appeared on the wire -/
inductive EvId where
  | none | bad | ok (sid idx : Nat)
deriving DecidableEq

/-- one `ResponseWriter.Write` -/
inductive MOut (π : Type) where
  | comment | close
  | prime (id : EvId)
  | message (id : EvId) (p : π)
  | json (ps : List π)
  | junk

/-- the `Last-Event-ID` header of the request, as sent -/
inductive ObsHdr where
  | absent | bad | ok (sid idx : Nat)

/-- what the operation says about the exchange it opens -/
inductive Origin where
  | post (ids : List Nat) (listen newProto : Bool)
  | get (hdr : ObsHdr) (newProto : Bool)
  | other

def Origin.ids : Origin → List Nat
  | .post ids _ _ => ids
  | _ => []

def Origin.isGet : Origin → Bool
  | .get _ _ => true
  | _ => false

def Origin.isListen : Origin → Bool
  | .post _ l _ => l
  | _ => false

def Origin.newProto : Origin → Bool
  | .post _ _ n => n
  | .get _ n => n
  | .other => false

/-- the stream a GET names and the first index it is entitled to -/
def Origin.stream : Origin → Option Nat
  | .get .absent _ => some 0
  | .get (.ok t _) _ => some t
  | _ => none

def Origin.from : Origin → Nat
  | .get (.ok _ i) _ => i + 1
  | _ => 0

/-- one row of the snapshot of `c.streams`: id, `w` (exchange), `done ≠ nil`, `lastIdx + 1`, SSE (not JSON) -/
structure Row where
  t : Nat
  att : Option Nat
  opn : Bool
  next : Nat
  sse : Bool

structure Snap (σ : Type) where
  sess : σ
  newProto : Bool          -- a ≥ 2026-07-28 session: outside C08
  rows : List Row

structure Append (σ π : Type) where
  sess : σ
  stream : Nat
  p : Option π             -- `none`: the empty priming payload
  check : Bool             -- routing is checked (not for the store session shared by all stateless connections)

structure Sent (π : Type) where
  k : Nat
  lost : Bool              -- written while the writer fails: reaches nobody
  out : MOut π

structure Obs (σ π : Type) where
  sess : σ                             -- the session the opened exchanges belong to
  origin : Origin
  opened : List (Nat × Bool)           -- exchange, `text/event-stream`?
  appends : List (Append σ π)
  sent : List (Sent π)
  snaps : List (Snap σ)
  purges : List (σ × Nat × Nat) := []  -- (session, stream, n): the store now holds the log of that stream from index n on

inductive Clause08 where
  | malformedId | otherStream | repeated | gap | noEntry | payloadDiffers
  | resumeIncomplete | lastIdx | attachedIncomplete | purgedNotReported
deriving DecidableEq, Repr

inductive RouteClause where
  | respOtherId | respOtherSession | respNotOwn | initNotOwn | inReqOtherSession | jsonModeNotStandalone
  | straggler | inReqNotOwn | detachedOtherSession | detachedNotStandalone | serverNotStandalone | unrecognised
  | fanoutOtherSession | fanoutNotStandalone
deriving DecidableEq, Repr

inductive Clause10 where
  | route (store : Bool) (r : RouteClause)
  | neverOpened | nonRespInJson | unparsable
deriving DecidableEq, Repr

def Clause08.text : Clause08 → String
  | .malformedId => "C08: malformed event id on the wire"
  | .otherStream => "C08: event id names another stream than the one this exchange serves"
  | .repeated => "C08: event id repeated or reordered (not the next index after the resume point)"
  | .gap => "C08: gap in event ids (an index after the resume point was skipped)"
  | .noEntry => "C08: delivered event has no entry at that index of the ground-truth append log"
  | .payloadDiffers => "C08: delivered payload differs from what was appended at that index"
  | .resumeIncomplete => "C08: the resume did not deliver every stored message after Last-Event-ID (lost, or duplicated)"
  | .lastIdx => "C08: lastIdx of an attached stream is not the index of the last stored event"
  | .attachedIncomplete => "C08: an attached, healthy exchange has not received every message written to its stream"
  | .purgedNotReported => "C08: a resume from a position the store has evicted was answered with a stream instead of an error (purged messages silently skipped)"

def RouteClause.text : RouteClause → String
  | .respOtherId => "response carries another id than the request it answers"
  | .respOtherSession => "response delivered to another session"
  | .respNotOwn => "response delivered on an exchange or stream that does not belong to its request"
  | .initNotOwn => "initialize response delivered on an exchange that does not belong to its request"
  | .inReqOtherSession => "in-request message delivered to another session"
  | .jsonModeNotStandalone => "JSON mode: in-request message not on the standalone/listen stream"
  | .straggler => "straggler of a finished request delivered on the stream of a later request that reuses its id (client reused a request id within the session)"
  | .inReqNotOwn => "in-request message routed to a stream that does not belong to its request"
  | .detachedOtherSession => "detached message delivered to another session"
  | .detachedNotStandalone => "detached message routed to a request stream instead of the standalone/listen stream"
  | .serverNotStandalone => "server-initiated notification routed to a request stream"
  | .unrecognised => "unrecognised payload on the wire"
  | .fanoutOtherSession => "a server-level notification issued inside a request handler of another session was delivered on the exchange of a request of this session (routed by the issuing session's request id) instead of this session's standalone/listen stream"
  | .fanoutNotStandalone => "a server-level (fan-out) notification was routed to a request stream that is neither the standalone/listen stream nor the stream of the request whose handler issued it with its own context"

def Clause10.text : Clause10 → String
  | .route false r => "C10: " ++ r.text
  | .route true r => "C10: (store) " ++ r.text
  | .neverOpened => "C10: bytes written to an exchange that was never opened"
  | .nonRespInJson => "C10: a non-response was put into an application/json response"
  | .unparsable => "C10: unparsable event token"

/-- first violated clause per property -/
structure Viol where
  v08 : Option Clause08 := none
  v10 : Option Clause10 := none

def Viol.or (a b : Viol) : Viol := { v08 := a.v08 <|> b.v08, v10 := a.v10 <|> b.v10 }

/-- what the monitor knows about one exchange -/
structure MEx (σ : Type) where
  sess : σ
  ids : List Nat                 -- request ids of the POST that opened it
  isGet : Bool
  isListen : Bool
  stream : Option Nat            -- the stream it serves (header, attachment, or first event id)
  «from» : Nat                   -- first index it is entitled to
  nsent : Nat := 0               -- id-carrying events written to it (delivered or lost)
  nrecv : Nat := 0               -- … delivered
  failing : Bool := false        -- an id-carrying event was lost
  sse : Bool
  newProto : Bool                -- ≥ 2026-07-28: outside C08

structure MonS (σ π : Type) where
  store : Bool
  jsonMode : Bool
  exs : Nat → Option (MEx σ) := fun _ => none
  logs : σ → Nat → List (Option π) := fun _ _ => []      -- ground truth: appended payloads per (session, stream)
  posts : σ → Nat → Option Nat := fun _ _ => none       -- (session, stream) ↦ POST exchange that created it
  first : σ → Nat → Nat := fun _ _ => 0                 -- (session, stream) ↦ entries the store has evicted from the front of the log

def init {σ π : Type} (store jsonMode : Bool) : MonS σ π := { store := store, jsonMode := jsonMode }

variable {σ π : Type} [DecidableEq σ] [DecidableEq π]

def MonS.putEx (m : MonS σ π) (k : Nat) (e : MEx σ) : MonS σ π :=
  { m with exs := fun j => if j = k then some e else m.exs j }

/-- record the creator of a stream unless one is known already (the first evidence binds) -/
def MonS.bindPost (m : MonS σ π) (s : σ) (t : Nat) (k : Nat) : MonS σ π :=
  match m.posts s t with
  | some _ => m
  | none => { m with posts := fun s' t' => if s' = s ∧ t' = t then some k else m.posts s' t' }

def MonS.addLog (m : MonS σ π) (s : σ) (t : Nat) (p : Option π) : MonS σ π :=
  { m with logs := fun s' t' => if s' = s ∧ t' = t then m.logs s t ++ [p] else m.logs s' t' }

/-! ### pass 1: the exchanges the record opened -/

def mkEx (o : Obs σ π) (sse : Bool) : MEx σ :=
  { sess := o.sess, ids := o.origin.ids, isGet := o.origin.isGet, isListen := o.origin.isListen,
    stream := o.origin.stream, «from» := o.origin.from, sse := sse, newProto := o.origin.newProto }

def openAll (m : MonS σ π) (o : Obs σ π) : MonS σ π :=
  o.opened.foldl (fun m x => m.putEx x.1 (mkEx o x.2)) m

def fresh (o : Obs σ π) (k : Nat) : Bool := o.opened.any (fun x => x.1 == k)

/-! ### pass 2: which stream does a fresh POST exchange serve?  (snapshot attachment, first event id) -/

def learnRow (o : Obs σ π) (sess : σ) (m : MonS σ π) (r : Row) : MonS σ π :=
  match r.att with
  | none => m
  | some k =>
    match m.exs k with
    | none => m
    | some e =>
      if fresh o k && !e.isGet && decide (e.sess = sess) then
        (m.putEx k { e with stream := some r.t }).bindPost sess r.t k
      else m

def learnRows (m : MonS σ π) (o : Obs σ π) : MonS σ π :=
  o.snaps.foldl (fun m s => s.rows.foldl (learnRow o s.sess) m) m

def MOut.evId : MOut π → EvId
  | .prime id => id
  | .message id _ => id
  | _ => .none

def learnId (o : Obs σ π) (m : MonS σ π) (s : Sent π) : MonS σ π :=
  match m.exs s.k, s.out.evId with
  | some e, .ok t _ =>
    if fresh o s.k && !e.isGet && e.stream.isNone then
      (m.putEx s.k { e with stream := some t }).bindPost e.sess t s.k
    else m
  | _, _ => m

def learnIds (m : MonS σ π) (o : Obs σ π) : MonS σ π := o.sent.foldl (learnId o) m

/-! ### C10: the routing check on provenance -/

def isListenEx (m : MonS σ π) (k : Option Nat) : Bool :=
  match k with
  | some k => match m.exs k with
    | some e => e.isListen
    | none => false
  | none => false

def isGetEx (m : MonS σ π) (k : Option Nat) : Bool :=
  match k with
  | some k => match m.exs k with
    | some e => e.isGet
    | none => false
  | none => true          -- store level: no exchange involved

def idsOfEx (m : MonS σ π) (k : Option Nat) : List Nat :=
  match k with
  | some k => match m.exs k with
    | some e => e.ids
    | none => []
  | none => []

/-- the POST exchange that created the stream, when the monitor has seen evidence of it -/
def creator (m : MonS σ π) (sess : σ) (stream : Option Nat) : Option Nat :=
  match stream with
  | some t => m.posts sess t
  | none => none

/-- nothing is known about who created the stream: a request stream (not the standalone one) without
evidence, looked at from the store or from a GET exchange (a POST exchange is its own stream's creator) -/
def creatorUnknown (m : MonS σ π) (sess : σ) (stream : Option Nat) (k : Option Nat) : Bool :=
  match stream with
  | some t => t != 0 && (m.posts sess t).isNone && isGetEx m k
  | none => false

inductive Own where
  | yes | no | unknown
deriving DecidableEq

/-- is (exchange `k`, stream `stream`) the POST exchange `post` itself or an exchange of the stream it created? -/
def own (m : MonS σ π) (sess : σ) (stream : Option Nat) (k : Option Nat) (post : Nat) : Own :=
  if k = some post then .yes
  else match creator m sess stream with
    | some p => if p = post then .yes else .no
    | none => if creatorUnknown m sess stream k then .unknown else .no

def standaloneOrListen (m : MonS σ π) (sess : σ) (stream : Option Nat) (k : Option Nat) : Bool :=
  stream == some 0 || isListenEx m k || isListenEx m (creator m sess stream) || creatorUnknown m sess stream k

/-- C10: may a message with provenance `pv` appear on (session `sess`, stream `stream`, exchange `k`)?
`k = none`: in the store.  `stream` is the stream the exchange serves when known. -/
def routeCheck (m : MonS σ π) (pv : Prov σ) (sess : σ) (stream : Option Nat) (k : Option Nat) : Option RouteClause :=
  match pv with
  | .resp id ps req post =>
    if id ≠ req then some .respOtherId
    else if ps ≠ sess then some .respOtherSession
    else if own m sess stream k post = .no then some .respNotOwn else none
  | .initResp id =>
    if (idsOfEx m k).contains id || (idsOfEx m (creator m sess stream)).contains id || creatorUnknown m sess stream k then none
    else some .initNotOwn
  | .inReq ps req post =>
    if ps ≠ sess then some .inReqOtherSession
    else if m.jsonMode then
      if standaloneOrListen m sess stream k then none else some .jsonModeNotStandalone
    else if own m sess stream k post = .no then
      -- the one shape that needs a protocol-violating client: the request id was reused for a later request
      -- of the same session and the straggler of the finished request lands on the new stream
      match creator m sess stream with
      | some p => if p ≠ post && (idsOfEx m (some p)).contains req then some .straggler else some .inReqNotOwn
      | none => some .inReqNotOwn
    else none
  | .detached ps =>
    if ps ≠ sess then some .detachedOtherSession
    else if standaloneOrListen m sess stream k then none else some .detachedNotStandalone
  | .server => if standaloneOrListen m sess stream k then none else some .serverNotStandalone
  | .fanout ps _ post hctx =>
    -- in every session the copy is "issued outside any request" of that session: standalone/listen stream; only the
    -- issuing session's own copy may instead travel on the stream of the request whose context was passed
    if standaloneOrListen m sess stream k then none
    else if ps ≠ sess then some .fanoutOtherSession
    else if hctx && decide (own m sess stream k post ≠ .no) then none
    else some .fanoutNotStandalone
  | .other => some .unrecognised

/-- a message that names its POST exchange is the first evidence of who created an unknown stream -/
def routeBind (m : MonS σ π) (pv : Prov σ) (sess : σ) (stream : Option Nat) (k : Option Nat) : MonS σ π :=
  match stream with
  | none => m
  | some t =>
    match pv with
    | .resp id ps req post =>
      if id = req ∧ ps = sess ∧ own m sess stream k post = .unknown then m.bindPost sess t post else m
    | .inReq ps _ post =>
      if ps = sess ∧ m.jsonMode = false ∧ own m sess stream k post = .unknown then m.bindPost sess t post else m
    | _ => m

/-! ### pass 3: appends (ground truth) with their store-level routing check -/

def appendOne (prov : π → Prov σ) (m : MonS σ π) (a : Append σ π) : MonS σ π × Viol :=
  match a.p with
  | none => (m.addLog a.sess a.stream none, {})
  | some p =>
    if a.check then
      (routeBind (m.addLog a.sess a.stream (some p)) (prov p) a.sess (some a.stream) none,
       { v10 := (routeCheck (m.addLog a.sess a.stream (some p)) (prov p) a.sess (some a.stream) none).map (.route true) })
    else (m.addLog a.sess a.stream (some p), {})

/-- fold with the first violation of each property -/
def foldV {S A : Type} (f : S → A → S × Viol) : S → List A → S × Viol
  | s, [] => (s, {})
  | s, a :: t => ((foldV f (f s a).1 t).1, (f s a).2.or (foldV f (f s a).1 t).2)

/-! ### pass 4: one write to an exchange -/

/-- C08 on an id-carrying event `(t, i)` with payload `pay` (`none` = priming event) written to `e` -/
def check08 (m : MonS σ π) (e : MEx σ) (t i : Nat) (pay : Option π) : Option Clause08 :=
  if e.stream.isSome && e.stream != some t then some .otherStream
  else if i < e.from + e.nsent then some .repeated
  else if e.from + e.nsent < i then some .gap
  else match (m.logs e.sess t)[i]? with
    | none => some .noEntry
    | some q => if q = pay then none else some .payloadDiffers

def ev08 (m : MonS σ π) (k : Nat) (e : MEx σ) (lost : Bool) (id : EvId) (pay : Option π) : MonS σ π × Viol :=
  if !m.store || e.newProto then (m, {}) else
  match id with
  | .none => (m, {})
  | .bad => (m, { v08 := some .malformedId })
  | .ok t i =>
    (m.putEx k { e with stream := if e.stream.isSome then e.stream else some t, nsent := e.nsent + 1,
                        nrecv := if lost then e.nrecv else e.nrecv + 1, failing := e.failing || lost },
     { v08 := check08 m e t i pay })

def isRespProv : Prov σ → Bool
  | .resp .. => true
  | .initResp _ => true
  | _ => false

/-- one payload of a flushed `application/json` body -/
def jsonOne (prov : π → Prov σ) (sess : σ) (stream : Option Nat) (k : Nat) (m : MonS σ π) (p : π) : MonS σ π × Viol :=
  (routeBind m (prov p) sess stream (some k),
   { v10 := match routeCheck m (prov p) sess stream (some k) with
       | some c => some (.route false c)
       | none => if isRespProv (prov p) then none else some .nonRespInJson })

def evStep (prov : π → Prov σ) (m : MonS σ π) (s : Sent π) : MonS σ π × Viol :=
  match m.exs s.k with
  | none => (m, { v10 := some .neverOpened })
  | some e =>
    match s.out with
    | .comment => (m, {})
    | .close => (m, {})
    | .junk => (m, { v10 := some .unparsable })
    | .json ps => foldV (jsonOne prov e.sess e.stream s.k) m ps
    | .prime id => ev08 m s.k e s.lost id none
    | .message id p =>
      ((ev08 (routeBind m (prov p) e.sess e.stream (some s.k)) s.k e s.lost id (some p)).1,
       ({ v10 := (routeCheck m (prov p) e.sess e.stream (some s.k)).map (.route false) } : Viol).or
         (ev08 (routeBind m (prov p) e.sess e.stream (some s.k)) s.k e s.lost id (some p)).2)

/-! ### pass 5: quiescent-state checks (C08; only with a store) -/

/-- (a) a resume must replay everything after `Last-Event-ID` -/
def checkResume (m : MonS σ π) (x : Nat × Bool) : Option Clause08 :=
  match m.exs x.1 with
  | none => none
  | some e =>
    if e.isGet && e.sse && !e.failing then
      match e.stream with
      | some t =>
        if e.from ≤ (m.logs e.sess t).length ∧ e.from + e.nrecv ≠ (m.logs e.sess t).length then some .resumeIncomplete else none
      | none => none
    else none

/-- (b) attached and open SSE streams: `lastIdx` is the last store index; a healthy exchange has received everything -/
def checkRow (m : MonS σ π) (sess : σ) (r : Row) : Option Clause08 :=
  match r.att with
  | none => none
  | some k =>
    if r.opn && r.sse then
      if r.next ≠ (m.logs sess r.t).length then some .lastIdx
      else match m.exs k with
        | some e =>
          if !e.failing && decide (e.sess = sess) && decide (e.from + e.nrecv ≠ (m.logs sess r.t).length) then some .attachedIncomplete
          else none
        | none => none
    else none

def checkSnap (m : MonS σ π) (s : Snap σ) : Option Clause08 :=
  if s.newProto then none else s.rows.findSome? (checkRow m s.sess)

def quiesce (m : MonS σ π) (o : Obs σ π) : Option Clause08 :=
  if m.store then (o.opened.findSome? (checkResume m)) <|> (o.snaps.findSome? (checkSnap m)) else none

/-! ### evictions -/

/-- a resume from an evicted position must be answered with an error: judged against what had been evicted *before*
this record (an eviction within the record may have happened after the GET was served) -/
def checkPurged (m : MonS σ π) (o : Obs σ π) (x : Nat × Bool) : Option Clause08 :=
  if x.2 && o.origin.isGet then
    match o.origin.stream with
    | some t => if o.origin.from < m.first o.sess t then some .purgedNotReported else none
    | none => none
  else none

def applyPurges (m : MonS σ π) (l : List (σ × Nat × Nat)) : MonS σ π :=
  l.foldl (fun m x => { m with first := fun s t => if s = x.1 ∧ t = x.2.1 then max (m.first s t) x.2.2 else m.first s t }) m

def step (prov : π → Prov σ) (m : MonS σ π) (o : Obs σ π) : MonS σ π × Viol :=
  let m1 := learnIds (learnRows (openAll m o) o) o
  let r2 := foldV (appendOne prov) m1 o.appends
  let r3 := foldV (evStep prov) r2.1 o.sent
  (applyPurges r3.1 o.purges,
   (({ v08 := if m.store then o.opened.findSome? (checkPurged m o) else none } : Viol).or (r2.2.or r3.2)).or { v08 := quiesce r3.1 o })

/-- a whole trace: the state after it and the first violation of each property, if any -/
def runV (prov : π → Prov σ) (m : MonS σ π) (tr : List (Obs σ π)) : MonS σ π × Viol := foldV (step prov) m tr

end Mon
end Resume
