import McpModel.Resume.Step
/-!
E5 — monotonicity of a run (`Grow`): along every label, exchanges are only ever *extended* (their `out` and
`lost` lists grow at the end, lost writes come after all delivered ones, ghost fields and kind stay), new
exchanges are appended to the table, and the logs of the store only grow.  This is what makes the
difference between two states (`Resume.obsOf`) an observation of what happened in between.

Also the eviction counter `Conn.purged`: it only grows and never exceeds the length of the log (`InvP`).
-/
namespace Resume
variable {α : Type}

/-- exchange `e'` is `e` after some more writes -/
structure GrowE (e e' : Exch α) : Prop where
  stream : e'.stream = e.stream
  frm : e'.from = e.from
  kind : e'.kind = e.kind
  out : ∃ mo, e'.out = e.out ++ mo
  lost : ∃ ml, e'.lost = e.lost ++ ml
  order : e.lost ≠ [] → e'.out = e.out      -- once a write was lost nothing more is delivered

theorem GrowE.refl (e : Exch α) : GrowE e e := ⟨rfl, rfl, rfl, ⟨[], by simp⟩, ⟨[], by simp⟩, fun _ => rfl⟩

theorem GrowE.trans {a b c : Exch α} (h₁ : GrowE a b) (h₂ : GrowE b c) : GrowE a c := by
  obtain ⟨mo1, ho1⟩ := h₁.out
  obtain ⟨mo2, ho2⟩ := h₂.out
  obtain ⟨ml1, hl1⟩ := h₁.lost
  obtain ⟨ml2, hl2⟩ := h₂.lost
  refine ⟨h₂.stream.trans h₁.stream, h₂.frm.trans h₁.frm, h₂.kind.trans h₁.kind,
    ⟨mo1 ++ mo2, by rw [ho2, ho1]; simp⟩, ⟨ml1 ++ ml2, by rw [hl2, hl1]; simp⟩, ?_⟩
  intro hl
  have hb : b.lost ≠ [] := by rw [hl1]; simp [hl]
  rw [h₂.order hb, h₁.order hl]

def GrowX (exs exs' : List (Exch α)) : Prop :=
  exs.length ≤ exs'.length ∧ ∀ (j : Nat) (e : Exch α), exs[j]? = some e → ∃ e', exs'[j]? = some e' ∧ GrowE e e'

theorem GrowX.refl (exs : List (Exch α)) : GrowX exs exs := ⟨Nat.le_refl _, fun _ e h => ⟨e, h, GrowE.refl e⟩⟩

theorem GrowX.trans {a b c : List (Exch α)} (h₁ : GrowX a b) (h₂ : GrowX b c) : GrowX a c := by
  refine ⟨Nat.le_trans h₁.1 h₂.1, ?_⟩
  intro j e h
  obtain ⟨e', h', g1⟩ := h₁.2 j e h
  obtain ⟨e'', h'', g2⟩ := h₂.2 j e' h'
  exact ⟨e'', h'', g1.trans g2⟩

theorem growX_setEx (exs : List (Exch α)) (ex : Nat) (f : Exch α → Exch α)
    (hf : ∀ e, exs[ex]? = some e → GrowE e (f e)) : GrowX exs (setEx ex f exs) := by
  refine ⟨by simp, ?_⟩
  intro j e h
  by_cases hj : j = ex
  · subst hj
    exact ⟨f e, by rw [getElem?_setEx_eq, h]; rfl, hf e h⟩
  · exact ⟨e, by rw [getElem?_setEx_ne _ _ _ _ hj]; exact h, GrowE.refl e⟩

theorem growE_push (e : Exch α) (o : Out α) (h : ExOK e) : GrowE e (e.push o).1 := by
  refine ⟨push_stream e o, push_from e o, push_kind e o, ?_, ?_, ?_⟩
  · unfold Exch.push; split
    · exact ⟨[], by simp⟩
    · exact ⟨[o], rfl⟩
    · exact ⟨[o], rfl⟩
  · unfold Exch.push; split
    · exact ⟨[o], rfl⟩
    · exact ⟨[], by simp⟩
    · exact ⟨[], by simp⟩
  · intro hl
    have hb := h hl
    unfold Exch.push; rw [hb]

theorem growE_touch {e : Exch α} (h : ExOK e) (ws : List (Out α)) (fin : Bool) : GrowE e (e.touch ws fin) := by
  have hp : GrowE e (e.pushes ws) := by
    induction ws generalizing e with
    | nil => exact GrowE.refl e
    | cons o t ih => exact (growE_push e o h).trans (ih (push_ok e o h))
  unfold Exch.touch
  split
  · exact ⟨hp.stream, hp.frm, hp.kind, hp.out, hp.lost, hp.order⟩
  · exact hp

theorem growX_append (exs : List (Exch α)) (e : Exch α) : GrowX exs (exs ++ [e]) := by
  refine ⟨by simp, ?_⟩
  intro j e0 h
  have hlt : j < exs.length := (List.getElem?_eq_some_iff.mp h).1
  exact ⟨e0, by rw [List.getElem?_append_left hlt]; exact h, GrowE.refl e0⟩

theorem growX_touch {exs : List (Exch α)} (hok : ∀ e ∈ exs, ExOK e) (x : Nat) (ws : List (Out α)) (fin : Bool) :
    GrowX exs (setEx x (Exch.touch ws fin) exs) :=
  growX_setEx _ _ _ (fun e he => growE_touch (hok e (List.mem_of_getElem? he)) ws fin)

structure Grow (c c' : Conn α) : Prop where
  exs : GrowX c.exs c'.exs
  store : LogLE c.store c'.store
  nextSid : c.nextSid ≤ c'.nextSid
  cfg : c'.cfg = c.cfg

theorem Grow.refl (c : Conn α) : Grow c c := ⟨GrowX.refl _, LogLE.refl _, Nat.le_refl _, rfl⟩

theorem Grow.trans {a b c : Conn α} (h₁ : Grow a b) (h₂ : Grow b c) : Grow a c :=
  ⟨h₁.exs.trans h₂.exs, h₁.store.trans h₂.store, Nat.le_trans h₁.nextSid h₂.nextSid, h₂.cfg.trans h₁.cfg⟩

theorem sub_logLE {c c₁ : Conn α} {l : Label α} (hs : Sub c l c₁) : LogLE c.store c₁.store := by
  cases hs with
  | dup calls listen ver budget => exact logLE_postDup c ver
  | register => rw [(postPrimed_frame _ _ _ _ _).store]; exact logLE_postStore c _ _
  | getGo hdr ver budget items => have h := getGo_only_exs_streams c hdr.sid hdr.from ver budget items; rw [h]; exact LogLE.refl _
  | erase _ msg => simp only [eraseResp_store]; exact LogLE.refl _
  | write msg ctx ctxNew s => have h := logLE_writeTo (eraseResp c msg) s msg ctx ctxNew; simpa using h
  | route msg => simp only [eraseResp_store]; exact LogLE.refl _
  | deliver i pw s => exact logLE_writeTo _ s pw.msg pw.ctx pw.ctxNew
  | orphan i pw => exact logLE_orphan _ pw
  | _ => exact LogLE.refl _

theorem grow_sub {c c₁ : Conn α} {l : Label α} (h : Inv c) (hs : Sub c l c₁) : Grow c c₁ := by
  refine ⟨?_, sub_logLE hs, ?_, (sub_frame hs).cfg⟩
  · exact sub_rel h hs (fun x ws fin _ => growX_touch h.ex_ok x ws fin) (fun _ _ _ _ _ _ _ => growX_append _ _)
      (fun x => growX_setEx _ _ _ (fun e _ => ⟨rfl, rfl, rfl, ⟨[], by simp⟩, ⟨[], by simp⟩, fun _ => rfl⟩))
  · rcases (sub_frame hs).book with ⟨_, _, hn, _⟩ | ⟨_, _, _, _, _, rfl⟩
    · exact hn
    · rw [(postPrimed_frame _ _ _ _ _).nextSid]; exact Nat.le_succ _

theorem grow_tail {c c₁ : Conn α} (h : Inv c) (ht : Tail c c₁) : Grow c c₁ := by
  obtain ⟨_, _, he⟩ := tail_only_exs_streams ht
  refine ⟨?_, by rw [he]; exact LogLE.refl _, by rw [he]; exact Nat.le_refl _, by rw [he]⟩
  rcases tail_table ht with h' | ⟨ex, h'⟩ <;> rw [h']
  · exact GrowX.refl _
  · exact growX_touch h.ex_ok ex [] true

theorem grow_step {c : Conn α} (h : Inv c) (l : Label α) : Grow c (step c l) := by
  obtain ⟨c₁, hs, ht⟩ := step_shape c l
  exact (grow_sub h hs).trans (grow_tail (inv_sub h hs) ht)

def InvP (c : Conn α) : Prop := ∀ sid, c.purged sid ≤ ((c.store sid).getD []).length

theorem invP_init (cfg : Cfg) : InvP (init cfg : Conn α) := by intro sid; simp [init]

theorem logLen_mono {c c' : Conn α} (h : LogLE c.store c'.store) (sid : Nat) :
    ((c.store sid).getD []).length ≤ ((c'.store sid).getD []).length := by
  cases hl : c.store sid with
  | none => simp
  | some log =>
    obtain ⟨more, hm⟩ := h sid log hl
    simp [hm]

theorem invP_step {c : Conn α} (hw : Inv c) (h : InvP c) (l : Label α) : InvP (step c l) := by
  intro k
  cases l with
  | evict sid n =>
    show (evict c sid n).purged k ≤ (((evict c sid n).store k).getD []).length
    simp only [evict]
    split
    · rename_i hk
      subst hk
      have := h k
      omega
    · exact h k
  | _ =>
    rw [step_purged_other _ _ (fun _ _ he => by cases he)]
    exact Nat.le_trans (h k) (logLen_mono (grow_step hw _).store k)

theorem purged_mono_step (c : Conn α) (l : Label α) (sid : Nat) : c.purged sid ≤ (step c l).purged sid := by
  cases l with
  | evict s n =>
    show c.purged sid ≤ (evict c s n).purged sid
    simp only [evict]
    split
    · omega
    · exact Nat.le_refl _
  | _ => rw [step_purged_other _ _ (fun _ _ he => by cases he)]; exact Nat.le_refl _

theorem grow_run {c : Conn α} (h : Inv c) (ls : List (Label α)) : Grow c (run c ls) :=
  (run_ind (P := fun c' => Inv c' ∧ Grow c c') (fun _ l ⟨hw, hg⟩ => ⟨inv_step hw l, hg.trans (grow_step hw l)⟩)
    ⟨h, Grow.refl c⟩ ls).2

theorem invP_runFrom {c : Conn α} (hw : Inv c) (h : InvP c) (ls : List (Label α)) : InvP (run c ls) :=
  (run_ind (P := fun c => Inv c ∧ InvP c) (fun _ l ⟨hw, h⟩ => ⟨inv_step hw l, invP_step hw h l⟩) ⟨hw, h⟩ ls).2

theorem purged_mono_run (c : Conn α) (ls : List (Label α)) (sid : Nat) : c.purged sid ≤ (run c ls).purged sid :=
  run_ind (P := fun c' => c.purged sid ≤ c'.purged sid) (fun c' l h => Nat.le_trans h (purged_mono_step c' l sid))
    (Nat.le_refl _) ls

end Resume
