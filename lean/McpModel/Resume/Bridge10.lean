import McpModel.Resume.Tag10
import McpModel.Resume.Bridge08
import McpModel.Resume.Sound10
import McpModel.Resume.RecOf
/-!
E5 — bridging for C10, monitor side: the relation `MonRel10` between the monitor's knowledge (which POST
exchange created which stream, which stream a GET exchange serves, the ids and listen flag of POST
exchanges) and the model's ghost history; under it the routing check accepts every message whose tag is
consistent with the stream it sits on (`routeCheck_ok`).
-/
namespace Resume
open Mon
variable {α σ : Type} [DecidableEq α] [DecidableEq σ]

/-- what the monitor knows about exchange `k` (model: `e`).  `getNB`: a GET exchange created no stream; `info`: of the stream
a POST exchange created the monitor has the calls and the listen flag; `str`: a stream it has bound to the exchange is the
one the exchange serves -/
structure RelX (sn : σ) (c : Conn α) (k : Nat) (me : MEx σ) (e : Exch α) : Prop where
  sess : me.sess = sn
  getS : me.isGet = true → e.live → me.stream = some e.stream
  getNB : me.isGet = true → ∀ t, c.born t ≠ some k
  post : me.isGet = false → e.live → c.born e.stream = some k
  info : c.born e.stream = some k → ∀ calls li, c.hist e.stream = some (calls, li) → me.isListen = li ∧ ∀ r ∈ calls, r ∈ me.ids
  str : e.live → ∀ t, me.stream = some t → t = e.stream

structure MonRel10 (sn : σ) (m : MonS σ α) (c : Conn α) : Prop where
  json : m.jsonMode = c.cfg.jsonResponse
  exs : ∀ (j : Nat) (e : Exch α), c.exs[j]? = some e → ∃ me, m.exs j = some me ∧ RelX sn c j me e
  posts : ∀ t p, m.posts sn t = some p → c.born t = some p

theorem creator_info {sn : σ} {m : MonS σ α} {c : Conn α} (hm : MonRel10 sn m c) (hb : InvBorn c) {t p : Nat}
    (hp : c.born t = some p) :
    ∃ me, m.exs p = some me ∧ me.isGet = false ∧ ∀ calls li, c.hist t = some (calls, li) → me.isListen = li ∧ ∀ r ∈ calls, r ∈ me.ids := by
  obtain ⟨e, he, hs, _, _⟩ := hb.ex t p hp
  obtain ⟨me, hme, r⟩ := hm.exs p e he
  refine ⟨me, hme, ?_, ?_⟩
  · cases hg : me.isGet with
    | false => rfl
    | true => exact absurd hp (r.getNB hg t)
  · intro calls li hh
    exact r.info (by rw [hs]; exact hp) calls li (by rw [hs]; exact hh)

/-- where a message sits, as the monitor sees it: in the store, or on a live exchange.  First index: the stream the MONITOR has
for that place (`me.stream`); second: the exchange (`none` = the store) — the `(stream, k)` of `routeCheck` -/
inductive Place (sn : σ) (m : MonS σ α) (c : Conn α) (sid : Nat) : Option Nat → Option Nat → Prop where
  | store : Place sn m c sid (some sid) none
  | exch (k : Nat) (me : MEx σ) (e : Exch α) : c.exs[k]? = some e → e.live → e.stream = sid → m.exs k = some me →
      Place sn m c sid me.stream (some k)

theorem place_cases {sn : σ} {m : MonS σ α} {c : Conn α} (hm : MonRel10 sn m c) {sid : Nat} {stream k : Option Nat}
    (hpl : Place sn m c sid stream k) :
    (∃ k0 me, k = some k0 ∧ m.exs k0 = some me ∧ c.born sid = some k0 ∧
      ∀ calls li, c.hist sid = some (calls, li) → me.isListen = li ∧ ∀ r ∈ calls, r ∈ me.ids) ∨
    (stream = some sid ∧ isGetEx m k = true ∧ ∀ p, m.posts sn sid = some p → c.born sid = some p) := by
  cases hpl with
  | store => exact Or.inr ⟨rfl, rfl, hm.posts sid⟩
  | exch k me e he hl hs hme =>
    have r := ExsRel.get (R := RelX sn c) hm.exs he hme
    cases hg : me.isGet with
    | false =>
      have hbk := r.post hg hl
      exact Or.inl ⟨k, me, rfl, hme, hs ▸ hbk, fun calls li hh => r.info hbk calls li (by rw [hs]; exact hh)⟩
    | true => exact Or.inr ⟨by rw [r.getS hg hl, hs], by simp [isGetEx, hme, hg], hm.posts sid⟩

theorem own_ok {sn : σ} {m : MonS σ α} {c : Conn α} (hm : MonRel10 sn m c) (hb : InvBorn c) {sid post : Nat}
    (hborn : c.born sid = some post) {stream k : Option Nat} (hpl : Place sn m c sid stream k) :
    own m sn stream k post ≠ .no ∧ (own m sn stream k post = .unknown → stream = some sid) := by
  have hsid : sid ≠ 0 := (hb.lt sid post hborn).2
  unfold own
  rcases place_cases hm hpl with ⟨k0, me, rfl, _, hbk, _⟩ | ⟨rfl, hget, hposts⟩
  · rw [hborn] at hbk; cases hbk; simp
  · by_cases hk : k = some post
    · simp [hk]
    · rw [if_neg hk]
      simp only [creator]
      cases hp : m.posts sn sid with
      | some p =>
        have := hposts p hp
        rw [hborn] at this; cases this
        simp
      | none => simp [creatorUnknown, hp, hget, hsid]

theorem standalone_ok {sn : σ} {m : MonS σ α} {c : Conn α} (hm : MonRel10 sn m c) (hb : InvBorn c) {sid : Nat}
    (h : sid = 0 ∨ listenOf c sid) {stream k : Option Nat} (hpl : Place sn m c sid stream k) :
    standaloneOrListen m sn stream k = true := by
  unfold standaloneOrListen
  rcases place_cases hm hpl with ⟨k0, me, rfl, hme, hbk, hinfo⟩ | ⟨rfl, hget, hposts⟩
  · obtain ⟨calls, hh⟩ := h.resolve_left (hb.lt sid k0 hbk).2
    simp [isListenEx, hme, (hinfo calls true hh).1]
  · by_cases h0 : sid = 0
    · subst h0; simp
    · obtain ⟨calls, hh⟩ := h.resolve_left h0
      cases hp : m.posts sn sid with
      | some p =>
        obtain ⟨mp, hmp, _, hinfo⟩ := creator_info hm hb (hposts p hp)
        simp [creator, hp, isListenEx, hmp, (hinfo calls true hh).1]
      | none => simp [creatorUnknown, hp, hget, h0]

theorem initResp_ok {sn : σ} {m : MonS σ α} {c : Conn α} (hm : MonRel10 sn m c) (hb : InvBorn c) {sid id : Nat}
    {calls : List Nat} {li : Bool} (hh : c.hist sid = some (calls, li)) (hid : id ∈ calls) (hsid : sid ≠ 0)
    {stream k : Option Nat} (hpl : Place sn m c sid stream k) :
    ((idsOfEx m k).contains id || (idsOfEx m (creator m sn stream)).contains id || creatorUnknown m sn stream k) = true := by
  rcases place_cases hm hpl with ⟨k0, me, rfl, hme, hbk, hinfo⟩ | ⟨rfl, hget, hposts⟩
  · simp [idsOfEx, hme, (hinfo calls li hh).2 id hid]
  · cases hp : m.posts sn sid with
    | some p =>
      obtain ⟨mp, hmp, _, hinfo⟩ := creator_info hm hb (hposts p hp)
      simp [creator, hp, idsOfEx, hmp, (hinfo calls li hh).2 id hid]
    | none => simp [creatorUnknown, hp, hget, hsid]

/-- **the routing check accepts a consistently tagged message** wherever it sits -/
theorem routeCheck_ok {prov : α → Prov σ} {sn : σ} {m : MonS σ α} {c : Conn α} (hm : MonRel10 sn m c) (hb : InvBorn c)
    {sid : Nat} {it : Item α} (htag : TagOK prov sn c sid it) (hrt : Routed c sid it) {stream k : Option Nat}
    (hpl : Place sn m c sid stream k) : routeCheck m (prov (payloadOf it)) sn stream k = none := by
  rw [routeCheck_none_iff]
  unfold TagOK at htag
  unfold RouteSpec
  split at htag
  · rename_i hp; rw [hp]
    exact ⟨htag.1, htag.2.1, (own_ok hm hb htag.2.2.1 hpl).1⟩
  · rename_i id hp; rw [hp]
    obtain ⟨p, hmsg⟩ := htag
    obtain ⟨calls, li, hh, hmem⟩ := hrt
    rw [hmsg] at hmem
    have hsid : sid ≠ 0 := by
      intro h0
      subst h0
      rw [hb.h0] at hh; cases hh; cases hmem
    exact initResp_ok hm hb hh hmem hsid hpl
  · rename_i hp; rw [hp]
    refine ⟨htag.1, ?_⟩
    rw [hm.json]
    rcases htag.2.2 with ⟨hj, hso⟩ | ⟨hj, hbo⟩ <;> rw [hj]
    · exact standalone_ok hm hb hso hpl
    · exact (own_ok hm hb hbo hpl).1
  · rename_i hp; rw [hp]; exact ⟨htag.1, standalone_ok hm hb htag.2.2 hpl⟩
  · rename_i hp; rw [hp]; exact standalone_ok hm hb htag.2 hpl
  · rename_i hp; rw [hp]; exact Or.inl (standalone_ok hm hb htag.2 hpl)
  · exact absurd htag id

theorem bindPost_rel {sn : σ} {m : MonS σ α} {c : Conn α} (hm : MonRel10 sn m c) (s : σ) {t p : Nat} (hb : c.born t = some p) :
    MonRel10 sn (m.bindPost s t p) c := by
  refine ⟨by rw [(ground_eq (bindPost_ground m s t p)).jsonMode]; exact hm.json, by rw [bindPost_exs]; exact hm.exs, ?_⟩
  intro t' p' hp
  rcases bindPost_posts m s t p sn t' p' hp with h | ⟨_, rfl, rfl⟩
  · exact hm.posts t' p' h
  · exact hb

theorem routeBind_rel {prov : α → Prov σ} {sn : σ} {m : MonS σ α} {c : Conn α} (hm : MonRel10 sn m c) (hb : InvBorn c)
    {sid : Nat} {it : Item α} (htag : TagOK prov sn c sid it) {stream k : Option Nat} (hpl : Place sn m c sid stream k) :
    MonRel10 sn (routeBind m (prov (payloadOf it)) sn stream k) c := by
  unfold routeBind
  split
  · exact hm
  · rename_i t
    unfold TagOK at htag
    split
    · rename_i id ps req post hp
      rw [hp] at htag
      split
      · rename_i hc
        have := (own_ok hm hb htag.2.2.1 hpl).2 hc.2.2
        cases this
        exact bindPost_rel hm sn htag.2.2.1
      · exact hm
    · rename_i ps req post hp
      rw [hp] at htag
      split
      · rename_i hc
        rcases htag.2.2 with ⟨hj, _⟩ | ⟨_, hbo⟩
        · rw [hm.json, hj] at hc; exact absurd hc.2.1 (by simp)
        · have := (own_ok hm hb hbo hpl).2 hc.2.2
          cases this
          exact bindPost_rel hm sn hbo
      · exact hm
    · exact hm

theorem monRel10_putEx {sn : σ} {m : MonS σ α} {c : Conn α} (hm : MonRel10 sn m c) (k : Nat) (me' : MEx σ)
    (hk : ∀ e, c.exs[k]? = some e → RelX sn c k me' e) : MonRel10 sn (m.putEx k me') c :=
  ⟨hm.json, ExsRel.put (R := RelX sn c) hm.exs k me' (putEx_exs m k me') hk (fun _ _ _ _ r => r), hm.posts⟩

theorem monRel10_learn {sn : σ} {m : MonS σ α} {c : Conn α} (hm : MonRel10 sn m c) {k : Nat} {e : Exch α} {me : MEx σ}
    (he : c.exs[k]? = some e) (hl : e.live) (hme : m.exs k = some me) (hg : me.isGet = false) :
    MonRel10 sn ((m.putEx k { me with stream := some e.stream }).bindPost me.sess e.stream k) c := by
  have r := ExsRel.get (R := RelX sn c) hm.exs he hme
  refine bindPost_rel (monRel10_putEx hm k _ ?_) me.sess (r.post hg hl)
  intro e1 he1
  rw [he] at he1; cases he1
  exact ⟨r.sess, fun hg' => (by rw [hg] at hg'; cases hg'), r.getNB, r.post, r.info, fun _ t ht => (by cases ht; rfl)⟩

theorem relX_bump {sn : σ} {c : Conn α} {k : Nat} {me : MEx σ} {e : Exch α} (r : RelX sn c k me e) (t : Nat) (lost : Bool)
    (ht : t = e.stream) : RelX sn c k (bump me t lost) e := by
  refine ⟨r.sess, ?_, r.getNB, r.post, r.info, ?_⟩
  · intro hg hl
    show (if me.stream.isSome then me.stream else some t) = some e.stream
    rw [r.getS hg hl]; rfl
  · intro hl t' ht'
    have ht'' : (if me.stream.isSome then me.stream else some t) = some t' := ht'
    split at ht''
    · exact r.str hl t' ht''
    · cases ht''; exact ht

theorem ev08_rel10 {sn : σ} {m : MonS σ α} {c : Conn α} (hm : MonRel10 sn m c) {k : Nat} {me : MEx σ} {e : Exch α}
    (he : c.exs[k]? = some e) (r : RelX sn c k me e) (lost : Bool) (id : EvId) (pay : Option α)
    (hid : ∀ t i, id = .ok t i → t = e.stream) :
    MonRel10 sn (ev08 m k me lost id pay).1 c ∧ (ev08 m k me lost id pay).2.v10 = none := by
  unfold ev08
  split
  · exact ⟨hm, rfl⟩
  · split
    · exact ⟨hm, rfl⟩
    · exact ⟨hm, rfl⟩
    · rename_i t i
      refine ⟨monRel10_putEx hm k _ ?_, rfl⟩
      intro e1 he1
      rw [he] at he1; cases he1
      exact relX_bump r t lost (hid t i rfl)

theorem isRespProv_of_tag {prov : α → Prov σ} {sn : σ} {c : Conn α} {sid : Nat} {it : Item α} (htag : TagOK prov sn c sid it)
    (hr : ∃ id p, it.msg = .resp id p) : isRespProv (prov (payloadOf it)) = true := by
  obtain ⟨id, p, hmsg⟩ := hr
  unfold TagOK at htag
  split at htag
  · rename_i hp; rw [hp]; rfl
  · rename_i hp; rw [hp]; rfl
  · exact absurd hmsg (htag.2.1 id p)
  · exact absurd hmsg (htag.2.1 id p)
  · exact absurd hmsg (htag.1 id p)
  · exact absurd hmsg (htag.1 id p)
  · exact False.elim htag

theorem jsonFold_ok {prov : α → Prov σ} {sn : σ} {c : Conn α} (hb : InvBorn c) {k sid : Nat} {me : MEx σ} {e : Exch α}
    (he : c.exs[k]? = some e) (hl : e.live) (hs : e.stream = sid) (its : List (Item α))
    (hall : ∀ it ∈ its, TagOK prov sn c sid it ∧ Routed c sid it ∧ ∃ id p, it.msg = .resp id p)
    (m : MonS σ α) (hm : MonRel10 sn m c) (hme : m.exs k = some me) :
    (foldV (jsonOne prov sn me.stream k) m (its.map payloadOf)).2.v10 = none ∧
    MonRel10 sn (foldV (jsonOne prov sn me.stream k) m (its.map payloadOf)).1 c := by
  have key : ∀ (its : List (Item α)), (∀ it ∈ its, TagOK prov sn c sid it ∧ Routed c sid it ∧ ∃ id p, it.msg = .resp id p) →
      ∀ (m : MonS σ α), MonRel10 sn m c → m.exs k = some me →
      (foldV (jsonOne prov sn me.stream k) m (its.map payloadOf)).2.v10 = none ∧
      MonRel10 sn (foldV (jsonOne prov sn me.stream k) m (its.map payloadOf)).1 c := by
    intro its
    induction its with
    | nil => intro _ m hm _; exact ⟨rfl, hm⟩
    | cons it rest ih =>
      intro hall m hm hme
      obtain ⟨htag, hrt, hresp⟩ := hall it List.mem_cons_self
      have hpl : Place sn m c sid me.stream (some k) := Place.exch k me e he hl hs hme
      obtain ⟨a1, a2⟩ := ih (fun x hx => hall x (List.mem_cons_of_mem _ hx))
        (routeBind m (prov (payloadOf it)) sn me.stream (some k)) (routeBind_rel hm hb htag hpl) (by rw [routeBind_exs]; exact hme)
      refine ⟨quiet10_or _ _ ?_ a1, a2⟩
      simp only [jsonOne, routeCheck_ok hm hb htag hrt hpl, isRespProv_of_tag htag hresp, if_true]
  exact key its hall m hm hme

theorem evStep_ok10 {prov : α → Prov σ} {sn : σ} {c : Conn α} (hi : Inv10All prov sn c) {m : MonS σ α} (hm : MonRel10 sn m c)
    (x : Nat × Bool × Out α) (e : Exch α) (he : c.exs[x.1]? = some e) (hx : x.2.2 ∈ e.all) :
    (evStep prov m (toSent x)).2.v10 = none ∧ MonRel10 sn (evStep prov m (toSent x)).1 c := by
  obtain ⟨k, lost, o⟩ := x
  simp only at he hx
  obtain ⟨me, hme, r⟩ := hm.exs k e he
  have hlive : e.live := exch_live_of_mem_all hi.k he hx
  have hpl : Place sn m c e.stream me.stream (some k) := Place.exch k me e he hlive rfl hme
  unfold evStep
  simp only [toSent, hme]
  cases o with
  | comment => exact ⟨rfl, hm⟩
  | close => exact ⟨rfl, hm⟩
  | json items =>
    simp only [toMOut]
    rw [r.sess]
    refine jsonFold_ok hi.b he hlive rfl items ?_ m hm hme
    intro it hit
    exact ⟨hi.tag.ex k e he _ hx it hit, hi.r.routed_ex k e he _ hx it hit, json_body_responses hi.r hi.j k e he items hx it hit⟩
  | prime sid i =>
    simp only [toMOut]
    obtain ⟨a, b⟩ := ev08_rel10 hm he r lost (.ok sid i) none (fun t i' h => hi.id k e he _ hx t (evId_sidOf (o := .prime sid i) h))
    exact ⟨b, a⟩
  | message id it =>
    simp only [toMOut]
    have htag := hi.tag.ex k e he _ hx it (by simp [Out.items])
    have hrt := hi.r.routed_ex k e he _ hx it (by simp [Out.items])
    rw [r.sess]
    have h1 := routeCheck_ok hm hi.b htag hrt hpl
    have h2 := routeBind_rel hm hi.b htag hpl
    obtain ⟨a, b⟩ := ev08_rel10 h2 he r lost (toEvId id) (some (payloadOf it))
      (fun t i' h => hi.id k e he _ hx t (evId_sidOf (o := .message id it) h))
    exact ⟨quiet10_or _ _ (by rw [h1]; rfl) b, a⟩

theorem events_ok10 {prov : α → Prov σ} {sn : σ} {c0 c : Conn α} (hi : Inv10All prov sn c) (m : MonS σ α) (hm : MonRel10 sn m c) :
    (foldV (evStep prov) m ((sentM c0 c).map toSent)).2.v10 = none ∧
    MonRel10 sn (foldV (evStep prov) m ((sentM c0 c).map toSent)).1 c := by
  refine foldV_induct (Q := fun m : MonS σ α => MonRel10 sn m c) (V := fun v => v.v10 = none) rfl quiet10_or _ m hm ?_
  intro m' hm' s hs
  obtain ⟨x, hx, rfl⟩ := List.mem_map.mp hs
  obtain ⟨e, he, hxe⟩ := mem_sentM hx
  exact evStep_ok10 hi hm' x e he hxe

theorem addLog_rel {sn : σ} {m : MonS σ α} {c : Conn α} (hm : MonRel10 sn m c) (s : σ) (t : Nat) (p : Option α) :
    MonRel10 sn (m.addLog s t p) c := ⟨hm.json, hm.exs, hm.posts⟩

theorem appends_ok10 {prov : α → Prov σ} {sn : σ} {c : Conn α} (hi : Inv10All prov sn c) (l : List (Append σ α))
    (hl : ∀ a ∈ l, a.sess = sn ∧ ∀ p, a.p = some p → ∃ it, p = payloadOf it ∧ TagOK prov sn c a.stream it ∧ Routed c a.stream it)
    (m : MonS σ α) (hm : MonRel10 sn m c) :
    (foldV (appendOne prov) m l).2.v10 = none ∧ MonRel10 sn (foldV (appendOne prov) m l).1 c := by
  refine foldV_induct (Q := fun m : MonS σ α => MonRel10 sn m c) (V := fun v => v.v10 = none) rfl quiet10_or l m hm ?_
  intro m hm a ha
  obtain ⟨hs, hp⟩ := hl a ha
  unfold appendOne
  split
  · exact ⟨rfl, addLog_rel hm _ _ _⟩
  · rename_i p hap
    split
    · obtain ⟨it, rfl, htag, hrt⟩ := hp p hap
      have hm1 := addLog_rel hm a.sess a.stream (some (payloadOf it))
      have hpl : Place sn (m.addLog a.sess a.stream (some (payloadOf it))) c a.stream (some a.stream) none := Place.store
      rw [hs] at hpl hm1 ⊢
      exact ⟨by simp [routeCheck_ok hm1 hi.b htag hrt hpl], routeBind_rel hm1 hi.b htag hpl⟩
    · exact ⟨rfl, addLog_rel hm _ _ _⟩

theorem appendsOf_tagged {prov : α → Prov σ} {sn : σ} {c0 c : Conn α} (hi : Inv10All prov sn c) :
    ∀ a ∈ appendsOf sn c0 c, a.sess = sn ∧
      ∀ p, a.p = some p → ∃ it, p = payloadOf it ∧ TagOK prov sn c a.stream it ∧ Routed c a.stream it := by
  intro a ha
  obtain ⟨sid, _, x, hx, rfl⟩ := mem_appendsOf.1 ha
  refine ⟨rfl, ?_⟩
  intro p hp
  simp only at hp
  cases x with
  | none => cases hp
  | some it =>
    simp only [Option.map_some, Option.some.injEq] at hp
    have hmem : some it ∈ (c.store sid).getD [] := List.mem_of_mem_drop hx
    cases hl : c.store sid with
    | none => rw [hl] at hmem; cases hmem
    | some log =>
      rw [hl] at hmem
      exact ⟨it, hp.symm, hi.tag.log sid log hl it hmem, hi.r.routed_log sid log hl it hmem⟩

end Resume
