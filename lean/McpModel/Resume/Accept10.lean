import McpModel.Resume.Bridge10
import McpModel.Resume.Cases
/-!
# C10 — the monitor accepts the model (bridging theorem)

`monitor_accepts_model_C10`: for **every** well-tagged label list (all configurations: stateful/stateless,
SSE/JSON, with or without an event store; any order of POSTs, writes, cuts, resumes, closes), the typed
monitor core raises no C10 clause on the model's own observation trace (one record per label).
`WellTaggedRun` is a statement about the tags the environment puts on the payloads, not about routing.
-/
namespace Resume
open Mon
variable {α σ : Type} [DecidableEq α] [DecidableEq σ]

def BornNew (c c' : Conn α) : Prop := ∀ t x, c'.born t = some x → c.born t = some x ∨ c.exs.length ≤ x

theorem bornNew_step (c : Conn α) (l : Label α) : BornNew c (step c l) := by
  intro t x hx
  cases l with
  | post calls listen ver b =>
    have hx' : (post c calls listen ver b).born t = some x := hx
    rcases post_ghost c calls listen ver b with ⟨h, _⟩ | ⟨h, _⟩
    · rw [h] at hx'; exact Or.inl hx'
    · rw [h] at hx'
      simp only at hx'
      split at hx'
      · cases hx'; exact Or.inr (Nat.le_refl _)
      · exact Or.inl hx'
  | _ => rw [(step_ghost_other c _ (by intros; simp)).1] at hx; exact Or.inl hx

theorem bornNew_run {c : Conn α} (hw : Inv c) (ls : List (Label α)) : BornNew c (run c ls) := by
  induction ls generalizing c with
  | nil => intro t x hx; exact Or.inl hx
  | cons l rest ih =>
    simp only [run, List.foldl_cons]
    intro t x hx
    rcases ih (inv_step hw l) t x hx with h | h
    · exact bornNew_step c l t x h
    · have := (grow_step hw l).exs.1
      exact Or.inr (by omega)

theorem ext_run {c : Conn α} (hw : Inv c) (h10 : Inv10 c) (hpr : PendRouted c) (hb : InvBorn c) (ls : List (Label α)) :
    Ext c (run c ls) := by
  induction ls generalizing c with
  | nil => exact Ext.refl c
  | cons l rest ih =>
    simp only [run, List.foldl_cons]
    exact (ext_step h10 hb l).trans (ih (inv_step hw l) (inv10_step hw h10 hpr l) (pendRouted_step h10 hpr l) (invBorn_step hw hb l))

/-- The record-level facts the C10 monitor relies on (the record took `c` to `c'`, origin `og`).  `postX`: the exchange a POST
opened is the creator of the stream it serves, with the origin's calls and listen flag; `getX`: the one a GET opened serves
the stream the GET names and created none. -/
structure RecFacts10 (og : Origin) (c c' : Conn α) : Prop where
  new1 : c'.exs.length ≤ c.exs.length + 1
  postX : og.isGet = false → ∀ e, c'.exs[c.exs.length]? = some e → e.live →
    c'.born e.stream = some c.exs.length ∧
    ∀ calls li, c'.hist e.stream = some (calls, li) → og.isListen = li ∧ ∀ r ∈ calls, r ∈ og.ids
  getX : og.isGet = true →
    (∀ e, c'.exs[c.exs.length]? = some e → e.live → og.stream = some e.stream) ∧ ∀ t, c'.born t ≠ some c.exs.length

theorem mem_dedup {r : Nat} {l : List Nat} (h : r ∈ dedup l) : r ∈ l := by
  induction l with
  | nil => cases h
  | cons a t ih =>
    simp only [dedup] at h
    split at h
    · exact List.mem_cons_of_mem _ (ih h)
    · rcases List.mem_cons.mp h with rfl | h'
      · exact List.mem_cons_self
      · exact List.mem_cons_of_mem _ (ih h')

theorem born_lt_exs {c : Conn α} (hb : InvBorn c) {t x : Nat} (h : c.born t = some x) : x < c.exs.length := by
  obtain ⟨e, he, _⟩ := hb.ex t x h
  exact (List.getElem?_eq_some_iff.mp he).1

theorem get_new10 (c : Conn α) (hdr : Hdr) (ver : Ver) (budget : Option Nat) :
    ∀ e, (get c hdr ver budget).exs[c.exs.length]? = some e → e.live → e.stream = hdr.sid ∧ hdr ≠ .bad := by
  rcases get_cases c hdr ver budget with ⟨h, _⟩ | ⟨h, _⟩ | ⟨items, h, hnb, _⟩ <;> rw [h]
  · exact fun e he hl => absurd hl (statusEx_not_live he)
  · exact fun e he hl => absurd hl (statusEx_not_live he)
  · exact fun e he _ => ⟨(getGo_new _ _ _ _ _ _ e he).1, hnb⟩

theorem recFacts10_step {c : Conn α} (hb : InvBorn c) (l : Label α) : RecFacts10 (originOfLabel l) c (step c l) := by
  have new1 := step_exs_le c l
  cases hop : l.opens with
  | false =>
    obtain ⟨hnone, hog⟩ := step_opens_none c l hop
    rw [hog]
    exact ⟨new1, fun _ e he _ => (by rw [hnone] at he; cases he), fun h => (by cases h)⟩
  | true =>
    cases l with
    | post calls listen ver budget =>
      refine ⟨new1, ?_, fun h => (by cases h)⟩
      intro _ e he hl
      have he' : (post c calls listen ver budget).exs[c.exs.length]? = some e := he
      rcases post_ghost c calls listen ver budget with ⟨_, _, _, hnl, _⟩ | ⟨hbo, hhi, _, e2, he2, hs2, _, _⟩
      · exact absurd hl (hnl e he')
      · rw [he'] at he2; cases he2
        show (post c calls listen ver budget).born e.stream = some c.exs.length ∧
          ∀ calls' li, (post c calls listen ver budget).hist e.stream = some (calls', li) → listen = li ∧ ∀ r ∈ calls', r ∈ calls
        rw [hbo, hhi, hs2]
        refine ⟨by simp, ?_⟩
        intro calls' li hh
        simp only [if_true, Option.some.injEq, Prod.mk.injEq] at hh
        obtain ⟨rfl, rfl⟩ := hh
        exact ⟨rfl, fun r hr => mem_dedup hr⟩
    | get hdr ver budget =>
      refine ⟨new1, fun h => (by cases h), fun _ => ⟨?_, ?_⟩⟩
      · intro e he hl
        obtain ⟨hs, hnb⟩ := get_new10 c hdr ver budget e he hl
        rw [hs]
        cases hdr with
        | none => rfl
        | bad => exact absurd rfl hnb
        | ok s i => rfl
      · intro t ht
        have hbe : (step c (.get hdr ver budget)).born = c.born := (step_ghost_other c _ (by intros; simp)).1
        rw [hbe] at ht
        exact Nat.lt_irrefl _ (born_lt_exs hb ht)
    | _ => cases hop

theorem relX_grow {sn : σ} {c c' : Conn α} (hb : InvBorn c) (hext : Ext c c') (hbn : BornNew c c') {j : Nat} {me : MEx σ} {e e' : Exch α}
    (hj : j < c.exs.length) (r : RelX sn c j me e) (g : GrowE e e') : RelX sn c' j me e' := by
  have hl : e'.live ↔ e.live := Exch.live_congr g.kind
  refine ⟨r.sess, ?_, ?_, ?_, ?_, ?_⟩
  · intro hg hl'; rw [g.stream]; exact r.getS hg (hl.mp hl')
  · intro hg t ht
    rcases hbn t j ht with h | h
    · exact r.getNB hg t h
    · omega
  · intro hg hl'; rw [g.stream]; exact hext.born _ _ (r.post hg (hl.mp hl'))
  · intro hbo calls li hh
    rw [g.stream] at hbo hh
    have hbo0 : c.born e.stream = some j := by
      rcases hbn _ _ hbo with h | h
      · exact h
      · omega
    obtain ⟨v, hv⟩ := Option.isSome_iff_exists.mp (hb.bh _ _ hbo0)
    have := hext.hist _ _ hv
    rw [hh] at this; cases this
    exact r.info hbo0 calls li hv
  · intro hl' t ht; rw [g.stream]; exact r.str (hl.mp hl') t ht

theorem monRel10_open {sn : σ} {og : Origin} {c c' : Conn α} (hb : InvBorn c) (hb' : InvBorn c') (hg : Grow c c') (hext : Ext c c')
    (hbn : BornNew c c') (hf : RecFacts10 og c c') {m : MonS σ α} (hm : MonRel10 sn m c) :
    MonRel10 sn (openAll m (obsOf sn og c c')) c' := by
  refine ⟨?_, ?_, ?_⟩
  · rw [(ground_eq (openAll_ground m (obsOf sn og c c'))).jsonMode, hm.json, hext.cfg]
  · refine ExsRel.opened (R := RelX sn c) (R' := RelX sn c') hm.exs hg hf.new1
      (fun j me e e' hj g r => relX_grow hb hext hbn hj r g) (fun e' he' => ⟨rfl, ?_, ?_, ?_, ?_, ?_⟩)
    · intro hg' hl; exact (hf.getX hg').1 e' he' hl
    · intro hg'; exact (hf.getX hg').2
    · intro hg' hl; exact (hf.postX hg' e' he' hl).1
    · intro hbo calls li hh
      obtain ⟨e2, he2, _, hl2, _⟩ := hb'.ex _ _ hbo
      rw [he'] at he2; cases he2
      cases hg' : og.isGet with
      | false => exact (hf.postX hg' e' he' hl2).2 calls li hh
      | true => exact absurd hbo ((hf.getX hg').2 _)
    · intro hl t ht
      have ho : (obsOf sn og c c').origin = og := rfl
      cases hg' : og.isGet with
      | false =>
        have : og.stream = none := by
          cases og with
          | post _ _ _ => rfl
          | get _ _ => cases hg'
          | other => rfl
        simp only [mkEx, ho, this] at ht; cases ht
      | true =>
        have := (hf.getX hg').1 e' he' hl
        simp only [mkEx, ho] at ht
        rw [this] at ht; cases ht; rfl
  · intro t p hp'
    have : (openAll m (obsOf sn og c c')).posts = m.posts :=
      List.foldl_fixes MonS.posts (f := fun (m : MonS σ α) (x : Nat × Bool) => m.putEx x.1 (mkEx (obsOf sn og c c') x.2)) (fun _ _ => rfl) _ m
    rw [this] at hp'
    exact hext.born t p (hm.posts t p hp')

theorem record_ok10 (prov : α → Prov σ) {sn : σ} {og : Origin} {c c' : Conn α} (hb : InvBorn c) (hi' : Inv10All prov sn c')
    (hg : Grow c c') (hext : Ext c c') (hbn : BornNew c c') (hf : RecFacts10 og c c') {m : MonS σ α} (hm : MonRel10 sn m c) :
    (Mon.step prov m (obsOf sn og c c')).2.v10 = none ∧ MonRel10 sn (Mon.step prov m (obsOf sn og c c')).1 c' := by
  have h3 : MonRel10 sn (learned m (obsOf sn og c c')) c' :=
    learned_induct (Q := fun m => MonRel10 sn m c') hi'.w hi'.k hi'.id (fun _ _ _ _ h he hl hme hg => monRel10_learn h he hl hme hg)
      (monRel10_open hb hi'.b hg hext hbn hf hm)
  obtain ⟨a1, a2⟩ : (appended prov m (obsOf sn og c c')).2.v10 = none ∧ MonRel10 sn (appended prov m (obsOf sn og c c')).1 c' :=
    appends_ok10 hi' (appendsOf sn c c') (appendsOf_tagged hi') _ h3
  obtain ⟨e1, e2⟩ : (evented prov m (obsOf sn og c c')).2.v10 = none ∧ MonRel10 sn (evented prov m (obsOf sn og c c')).1 c' :=
    events_ok10 (c0 := c) hi' _ a2
  refine ⟨monStep_quiet10 prov m _ a1 e1, ?_⟩
  rw [monStep_fst]
  obtain ⟨f1, _, _, f4, f5⟩ := applyPurges_frame (obsOf sn og c c').purges (evented prov m (obsOf sn og c c')).1
  exact ⟨by rw [f5]; exact e2.json, by rw [f1]; exact e2.exs, by rw [f4]; exact e2.posts⟩

def WellTaggedGroups (prov : α → Prov σ) (sn : σ) : Conn α → List (List (Label α)) → Prop
  | _, [] => True
  | c, g :: gs => WellTaggedRun prov sn c g ∧ RecFacts10 (originOfGroup g) c (run c g) ∧ WellTaggedGroups prov sn (run c g) gs

theorem accepts10_from (prov : α → Prov σ) (sn : σ) : ∀ (gs : List (List (Label α))) (c : Conn α) (m : MonS σ α),
    Inv10All prov sn c → MonRel10 sn m c → WellTaggedGroups prov sn c gs → (runV prov m (traceOf sn c gs)).2.v10 = none := by
  intro gs
  induction gs with
  | nil => intro c m _ _ _; rfl
  | cons g t ih =>
    intro c m hi hm hok
    obtain ⟨hwt, hf, hrest⟩ := hok
    have hi' := inv10All_run hi g hwt
    obtain ⟨v, hm'⟩ := record_ok10 prov hi.b hi' (grow_run hi.w g) (ext_run hi.w hi.r hi.pr hi.b g) (bornNew_run hi.w g) hf hm
    exact quiet10_or _ _ v (ih (run c g) _ hi' hm' hrest)

theorem monRel10_init (cfg : Cfg) (sn : σ) : MonRel10 sn (Mon.init cfg.hasStore cfg.jsonResponse : MonS σ α) (init cfg) := by
  refine ⟨rfl, ?_, ?_⟩
  · intro j e he; simp [init] at he
  · intro t p hp; simp [Mon.init] at hp

/-- **C10 bridging, grouped records.**  `WellTaggedGroups` ASSUMES `RecFacts10` of every group (proved for one label only:
`recFacts10_step`), besides truthful tags. -/
theorem monitorC10_accepts_groups (cfg : Cfg) (sn : σ) (prov : α → Prov σ) (gs : List (List (Label α)))
    (hok : WellTaggedGroups prov sn (init cfg : Conn α) gs) :
    (runV prov (Mon.init cfg.hasStore cfg.jsonResponse) (traceOf sn (init cfg) gs)).2.v10 = none :=
  accepts10_from prov sn gs (init cfg) _ (inv10All_init prov sn cfg) (monRel10_init cfg sn) hok

theorem wellTaggedGroups_singletons {prov : α → Prov σ} {sn : σ} : ∀ (ls : List (Label α)) (c : Conn α), Inv c → InvBorn c →
    WellTaggedRun prov sn c ls → WellTaggedGroups prov sn c (ls.map fun l => [l]) := by
  intro ls
  induction ls with
  | nil => intro _ _ _ _; trivial
  | cons l t ih =>
    intro c hw hb hl
    refine ⟨⟨hl.1, trivial⟩, ?_, ?_⟩
    · rw [originOfGroup_single]
      exact recFacts10_step hb l
    · exact ih (step c l) (inv_step hw l) (invBorn_step hw hb l) hl.2

/-- **C10 bridging theorem.**  For every configuration, every label list whose payload tags are truthful
(`WellTaggedRun`) and any session name: the C10 monitor raises no clause on the observation trace of the model
(one record per label) — every message the model puts on an exchange, into a JSON body or into the store passes
the routing check on its provenance. -/
theorem monitor_accepts_model_C10 (cfg : Cfg) (sn : σ) (prov : α → Prov σ) (ls : List (Label α))
    (hl : WellTaggedRun prov sn (init cfg : Conn α) ls) :
    (runV prov (Mon.init cfg.hasStore cfg.jsonResponse) (traceOf1 sn (init cfg) ls)).2.v10 = none :=
  monitorC10_accepts_groups cfg sn prov _ (wellTaggedGroups_singletons ls (init cfg) (inv_init cfg) (invBorn_init cfg) hl)

end Resume
