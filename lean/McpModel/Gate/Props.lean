import McpModel.Gate.Lemmas
/-!
# C06 (and the error-code part of C02) — property theorems for request admission

Model: `Gate.admitReq : State → Req → State × Outcome` (server), `Gate.admitClient` (client), over the
tables regenerated from the Go source (`Generated.Gate`). All theorems quantify over ALL session
states / ALL request histories (`List Req`, any length) and ALL request descriptors, including every
string for the versions and client names. Nothing is bounded.

The tables enter through closed `tbl_*` obligations (discharged by `decide`; where they live: head of `Lemmas.lean`);
a change of the gate's case lists, of a flag or of a wrapped error code re-opens them.

Precedence of refusals, as the code has it and as the theorems state it: (1) the cancellation
preempter, (2) per-request metadata (-32602), (3) unsupported version (-32022), (4) the lifecycle gate
(method-not-found for removed / new-only methods; the *uncoded* "invalid during session
initialization" error for everything else before `initialize`), (5) unknown method (-32601), id on a
notification / no id on a call / missing params (-32600), undecodable params (-32602).
-/
namespace Gate
open Generated.Gate

def IsAccept (e : State × Req × Outcome) : Prop :=
  e.2.1.method = some .initialize ∧ e.2.2 = .invoked .initialize .ok

/-- the request carries complete per-request metadata naming a 2026-07-28+ version it may name (`acceptedVersions`, Model.lean) -/
def CarriesValidMeta (tv : List String) (r : Req) : Prop :=
  usesNew r = true ∧ metaComplete r = true ∧ (acceptedVersions tv r).contains (metaVersion r) = true

theorem trace_length (s : State) (rs : List Req) : (trace s rs).length = rs.length := by
  induction rs generalizing s with
  | nil => rfl
  | cons r rs ih => simp [trace, ih]

theorem pastGate_validMeta {s : State} {r : Req} (pg : PastGate s r) (hn : usesNew r = true) : CarriesValidMeta s.tv r :=
  ⟨hn, (metaError_none_iff hn).1 pg.2.1, by simpa [unsupportedVersion_new _ hn] using pg.2.2.1⟩

theorem init_step (s : State) (r : Req) :
    (admitReq s r).1.init = s.init ∨
    (s.init = none ∧ r.method = some .initialize ∧ (admitReq s r).2 = .invoked .initialize .ok) ∨
    CarriesValidMeta s.tv r := by
  rcases admit_step s r with ⟨c, d, e⟩ | ⟨pg, h⟩
  · left; rw [e]
  · cases hn : usesNew r with
    | true => exact Or.inr (Or.inr (pastGate_validMeta pg hn))
    | false =>
      rw [handed_eq (Or.inl hn)] at h
      rcases h with ⟨c, e⟩ | ⟨m, _, hmeth, e⟩ <;> rw [e]
      · exact Or.inl rfl
      · rcases (serverHandler_frame s r m).2.2 with h | ⟨hm, hs, hres⟩ | hm
        · exact Or.inl h
        · subst hm; exact Or.inr (Or.inl ⟨hs, hmeth, by rw [hres]⟩)
        · -- a legacy `server/discover` does not get past the gate
          have := pg.2.2.2 codeMethodNotFound
          rw [hn, hmeth, hm] at this
          exact absurd (tbl_gate_discover_legacy _) this

theorem invoked_step {s : State} {r : Req} {m : Method} {res : HRes} (h : (admitReq s r).2 = .invoked m res) :
    lifecycle.contains m = true ∨ s.init.isSome = true ∨ CarriesValidMeta s.tv r := by
  cases hn : usesNew r with
  | true => exact Or.inr (Or.inr (pastGate_validMeta (admit_invoked h).1 hn))
  | false =>
    cases hs : s.init with
    | none => exact Or.inl (invoked_uninit_legacy h hn hs)
    | some i => exact Or.inr (Or.inl rfl)

theorem gate_invariant_from (s : State) (rs : List Req) (i : Nat) (hi : i < (trace s rs).length)
    (m : Method) (res : HRes) (h : ((trace s rs)[i]).2.2 = .invoked m res) :
    lifecycle.contains m = true ∨ s.init.isSome = true ∨
    (∃ j, ∃ hj : j < (trace s rs).length, j < i ∧ IsAccept ((trace s rs)[j])) ∨
    (∃ j, ∃ hj : j < (trace s rs).length, j ≤ i ∧ CarriesValidMeta s.tv ((trace s rs)[j]).2.1) := by
  induction rs generalizing s i with
  | nil => simp [trace] at hi
  | cons r rs ih =>
    cases i with
    | zero =>
      simp only [trace, List.getElem_cons_zero] at h
      rcases invoked_step h with h1 | h1 | h1
      · left; exact h1
      · right; left; exact h1
      · right; right; right
        exact ⟨0, by simp [trace], Nat.le_refl 0, by simpa [trace] using h1⟩
    | succ i =>
      have hi' : i < (trace (admitReq s r).1 rs).length := by simpa [trace] using hi
      have h' : ((trace (admitReq s r).1 rs)[i]).2.2 = .invoked m res := by simpa [trace] using h
      rcases ih (admitReq s r).1 i hi' h' with h1 | h1 | ⟨j, hj, hji, hacc⟩ | ⟨j, hj, hji, hmeta⟩
      · left; exact h1
      · -- the state after the first step has InitializeParams: where did it come from?
        rcases init_step s r with h2 | ⟨_, hm, ho⟩ | h2
        · right; left; rw [← h2]; exact h1
        · right; right; left
          exact ⟨0, by simp [trace], Nat.succ_pos i, by simpa [trace, IsAccept] using ⟨hm, ho⟩⟩
        · right; right; right
          exact ⟨0, by simp [trace], Nat.zero_le _, by simpa [trace] using h2⟩
      · right; right; left
        exact ⟨j + 1, by simpa [trace] using hj, Nat.succ_lt_succ hji, by simpa [trace] using hacc⟩
      · right; right; right
        rw [admit_tv] at hmeta
        exact ⟨j + 1, by simpa [trace] using hj, Nat.succ_le_succ hji, by simpa [trace] using hmeta⟩

/-- **C06, legacy and new-protocol traffic.** Whatever reaches a method handler on the fresh session is one of
the four lifecycle/cancellation methods, or follows an accepted `initialize`, or it — or an earlier
request of the session — carried complete per-request metadata naming a supported version
("served without a handshake only if that metadata is complete and names a supported version"). -/
theorem gate_invariant_general (tv : List String) (rs : List Req) (i : Nat)
    (hi : i < (trace (fresh tv) rs).length) (m : Method) (res : HRes)
    (h : ((trace (fresh tv) rs)[i]).2.2 = .invoked m res) :
    m ∈ allowedBeforeInit ∨
    (∃ j, ∃ hj : j < (trace (fresh tv) rs).length, j < i ∧ IsAccept ((trace (fresh tv) rs)[j])) ∨
    (∃ j, ∃ hj : j < (trace (fresh tv) rs).length, j ≤ i ∧ CarriesValidMeta tv ((trace (fresh tv) rs)[j]).2.1) := by
  rcases gate_invariant_from (fresh tv) rs i hi m res h with h1 | h1 | h1 | h1
  · left
    have : m ∈ lifecycle := by simpa using h1
    exact List.mem_append_left _ this
  · simp [fresh] at h1
  · right; left; exact h1
  · right; right; exact h1

/-- **C06, legacy sessions.** For every transport version set `tv` (= `ServerSession.supportedVersions`,
whatever the transport's `SupportsProtocolVersion` admits) and every history of legacy requests (no
request carries a per-request `protocolVersion` at or above 2026-07-28) on the fresh session
`Server.Connect` returns, at every position: a request reaches a
server-side method handler only if it is `initialize`, `notifications/initialized`, `ping` or
`notifications/cancelled`, or an earlier request of the history is an accepted `initialize`. -/
theorem gate_invariant (tv : List String) (rs : List Req) (hleg : ∀ r ∈ rs, usesNew r = false)
    (i : Nat) (hi : i < (trace (fresh tv) rs).length) (m : Method) (res : HRes)
    (h : ((trace (fresh tv) rs)[i]).2.2 = .invoked m res) :
    m ∈ allowedBeforeInit ∨
    ∃ j, ∃ hj : j < (trace (fresh tv) rs).length, j < i ∧ IsAccept ((trace (fresh tv) rs)[j]) := by
  rcases gate_invariant_general tv rs i hi m res h with h1 | h1 | ⟨j, hj, _, hmeta⟩
  · exact Or.inl h1
  · exact Or.inr h1
  · exact absurd hmeta.1 (by rw [hleg _ (trace_req_mem (fresh tv) rs j hj)]; simp)

/-- non-vacuity: handshake, then a feature call is served; without the handshake it is refused. -/
example :
    let init : Req := { method := some .initialize, hasId := true, params := .objOk, tag := "c", iver := "2025-06-18" }
    let list : Req := { method := some .tools_list, hasId := true, params := .absent }
    (trace {} [init, list]).map (·.2.2) = [.invoked .initialize .ok, .invoked .tools_list .ok] ∧
    (trace {} [list, init]).map (·.2.2) = [.rejected codeNone [], .invoked .initialize .ok] := by decide +kernel

/-- **C06 (rejected initialize).** An `initialize` that is not accepted — whichever way it fails:
unsupported by the transport (-32022), params absent / null / undecodable, an id missing, sent under
the new protocol, duplicate — leaves the session state (InitializeParams, InitializedParams, log level)
exactly as it was. -/
theorem rejected_initialize_changes_nothing (s : State) (r : Req) (hm : r.method = some .initialize)
    (hrej : (admitReq s r).2 ≠ .invoked .initialize .ok) : (admitReq s r).1 = s := by
  rcases initialize_step s r hm with ⟨_, _, _, h⟩ | ⟨h, _⟩
  · exact absurd h hrej
  · exact h

/-- ... in terms of the wire: an `initialize` that is not answered with a result changes nothing. -/
theorem initialize_without_result_changes_nothing (s : State) (r : Req) (hm : r.method = some .initialize)
    (hw : answer r (admitReq s r).2 ≠ .result) : (admitReq s r).1 = s := by
  rcases initialize_step s r hm with ⟨_, _, hid, h⟩ | ⟨h, _⟩
  · rw [h] at hw; simp [answer, hid] at hw
  · exact h

/-- **C06.** A second `initialize` (any params, any metadata) is refused and leaves the session state
exactly as it was. -/
theorem second_initialize_rejected_state_unchanged (s : State) (r : Req)
    (hm : r.method = some .initialize) (hs : s.init.isSome = true) :
    (admitReq s r).1 = s ∧ (admitReq s r).2 ≠ .invoked .initialize .ok ∧ answer r (admitReq s r).2 ≠ .result := by
  rcases initialize_step s r hm with ⟨h, _⟩ | ⟨h1, h2, h3⟩
  · rw [h] at hs; cases hs
  · refine ⟨h1, h2, fun e => ?_⟩
    rw [e] at h3
    rcases h3 with h3 | ⟨_, _, h3⟩ <;> cases h3

example : admitReq { init := some ⟨"a", "2025-06-18"⟩ } { method := some .initialize, hasId := true, params := .objOk, tag := "b", iver := "2024-11-05" }
    = ({ init := some ⟨"a", "2025-06-18"⟩ }, .invoked .initialize (.fail codeNone)) := by decide +kernel

/-- **C06 (model of the transport).** `supportedVersions` is fixed by `Server.Connect`: no history
changes it. -/
theorem tv_unchanged (s : State) (rs : List Req) : (finalState s rs).tv = s.tv := by
  induction rs generalizing s with
  | nil => rfl
  | cons r rs ih => simp [finalState, ih, admit_tv]

/-- **C06 (rejected initialize, all histories).** A rejected `initialize` can be erased from any
history: at whatever point `pre` of whatever history it arrives and however it fails, everything after
it — every later outcome and every later state — is what it would have been had it never been sent. -/
theorem rejected_initialize_erasable (s : State) (pre post : List Req) (r : Req)
    (hm : r.method = some .initialize)
    (hrej : (admitReq (finalState s pre) r).2 ≠ .invoked .initialize .ok) :
    trace s (pre ++ r :: post) =
      trace s pre ++ (finalState s pre, r, (admitReq (finalState s pre) r).2) :: trace (finalState s pre) post ∧
    finalState s (pre ++ r :: post) = finalState s (pre ++ post) := by
  have h := rejected_initialize_changes_nothing (finalState s pre) r hm hrej
  constructor
  · rw [trace_append]; simp [trace, h]
  · rw [finalState_append, finalState_append]; simp [finalState, h]

/-- **C06 (failing initialize).** On a transport that serves no legacy version (e.g. one that declares
only 2026-07-28, or nothing at all) no `initialize` is ever accepted, in any state, whatever it carries;
the state is unchanged. -/
theorem initialize_refused_without_legacy_version (s : State) (r : Req) (hm : r.method = some .initialize)
    (hno : ¬ ServesLegacy s.tv) :
    (admitReq s r).1 = s ∧ (admitReq s r).2 ≠ .invoked .initialize .ok := by
  rcases initialize_step s r hm with ⟨_, hv, _⟩ | ⟨h1, h2, _⟩
  · exact absurd ((initVersion_eq_empty_iff _ _).2 hno) hv
  · exact ⟨h1, h2⟩

/-- **C06 (failing initialize).** The three outcomes of a well-formed legacy `initialize` call, exactly:
-32022 carrying the transport's versions when the transport serves no legacy version (checked FIRST:
also on a session that already has InitializeParams); the uncoded duplicate error when it does and
the session has InitializeParams; acceptance — the only case in which the state changes — otherwise. -/
theorem initialize_outcome (s : State) (r : Req) (hm : r.method = some .initialize) (hid : r.hasId = true)
    (hleg : usesNew r = false) (hp : r.params = .objOk ∨ r.params = .objDegraded) :
    (¬ ServesLegacy s.tv → admitReq s r = (s, .invoked .initialize (.failUnsupported s.tv)) ∧
        answer r (admitReq s r).2 = .error (-32022) s.tv) ∧
    (ServesLegacy s.tv → s.init.isSome = true → admitReq s r = (s, .invoked .initialize (.fail codeNone))) ∧
    (ServesLegacy s.tv → s.init = none →
        admitReq s r = ({ s with init := some ⟨r.tag, r.iver⟩ }, .invoked .initialize .ok)) := by
  have hcode : codeUnsupportedProtocolVersion = -32022 := tbl_code_version
  have hpre : preemptDrops r = false := preemptDrops_method hm (by decide)
  have hcd : checkAndDecode serverMethodInfos r = .ok .initialize :=
    checkAndDecode_ok_iff.2 ⟨hm, _, tbl_flags_initialize, by simp [hid], by rcases hp with hp | hp <;> simp [hp],
      by rcases hp with hp | hp <;> simp [hp]⟩
  have e : admitReq s r = ((serverHandler s r .initialize).1, .invoked .initialize (serverHandler s r .initialize).2) := by
    rw [admit_legacy_pass hpre hleg (by rw [hm]; exact tbl_gate_initialize_legacy _), dispatch_ok hcd]
  have hv := initVersion_eq_empty_iff s.tv r.iver
  rw [e]
  rcases serverHandler_initialize s r with ⟨h0, e2⟩ | ⟨h0, hs0, e2⟩ | ⟨h0, hs0, e2⟩ <;> rw [e2]
  · exact ⟨fun _ => ⟨rfl, by simp [answer, hid, hcode]⟩, fun hyes => absurd hyes (hv.1 h0), fun hyes => absurd hyes (hv.1 h0)⟩
  · exact ⟨fun hno => absurd (hv.2 hno) h0, fun _ _ => rfl, fun _ hs => (by rw [hs] at hs0; cases hs0)⟩
  · exact ⟨fun hno => absurd (hv.2 hno) h0, fun _ hs => (by rw [hs0] at hs; cases hs), fun _ _ => rfl⟩

/-- **C06 (failing initialize, all histories).** On a transport that serves no legacy version, for every
history of legacy requests — however many `initialize` attempts, `initialized` notifications and
feature requests it interleaves — nothing but initialize / initialized / ping / cancellation ever
reaches a handler: a failed initialize does not open the gate. -/
theorem failed_initialize_never_opens_gate (tv : List String) (hno : ¬ ServesLegacy tv)
    (rs : List Req) (hleg : ∀ r ∈ rs, usesNew r = false)
    (i : Nat) (hi : i < (trace (fresh tv) rs).length) (m : Method) (res : HRes)
    (h : ((trace (fresh tv) rs)[i]).2.2 = .invoked m res) : m ∈ allowedBeforeInit := by
  rcases gate_invariant tv rs hleg i hi m res h with h1 | ⟨j, hj, _, hm, hacc⟩
  · exact h1
  · exfalso
    obtain ⟨hstep, htv⟩ := trace_entry (fresh tv) rs j hj
    have hno' : ¬ ServesLegacy ((trace (fresh tv) rs)[j]).1.tv := by rw [htv]; exact hno
    have := (initialize_refused_without_legacy_version _ _ hm hno').2
    rw [← hstep] at this
    exact this hacc

/-- An accepted `initialize` answers with a legacy version that the session's transport serves. -/
theorem accepted_initialize_version_served (s : State) (r : Req) (hm : r.method = some .initialize)
    (hacc : (admitReq s r).2 = .invoked .initialize .ok) :
    resultInfo s r (admitReq s r).2 = some (initVersion s.tv r.iver) ∧
    initVersion s.tv r.iver ∈ s.tv ∧ initVersion s.tv r.iver < newProtocolThreshold := by
  rcases initialize_step s r hm with ⟨_, hv, _⟩ | ⟨_, h, _⟩
  · rcases initVersion_spec s.tv r.iver with ⟨h0, _⟩ | ⟨_, h1, _, h3⟩
    · exact absurd h0 hv
    · exact ⟨by rw [hacc]; rfl, h1, h3⟩
  · exact absurd hacc h

/-- `server/discover` stores the request's identity in the session only when the transport serves the
new protocol; on any other transport it is answered and changes nothing (so it cannot open the gate
for legacy traffic there). -/
theorem discover_persists_only_on_new_protocol_transport (s : State) (r : Req)
    (hm : r.method = some .server_discover) (hnp : discoverPersists s.tv = false) : (admitReq s r).1 = s := by
  have := admit_step s r
  -- the gate's verdict on a `server/discover` is never to adopt
  have hh : handed s r = s := by
    cases hn : usesNew r with
    | false => exact handed_eq (Or.inl hn)
    | true => unfold handed; rw [hn, hm, tbl_gate_discover_new]; rfl
  rw [hh] at this
  rcases this with ⟨c, d, e⟩ | ⟨_, ⟨c, e⟩ | ⟨m, _, hmeth, e⟩⟩ <;> rw [e]
  rw [hm] at hmeth; cases hmeth
  simp [serverHandler, hnp]

/-- non-vacuity: a transport that declares only 2026-07-28 (and one that declares nothing) serves no
legacy version; there `initialize` fails with -32022 carrying the transport's list, a following
`tools/list` is still refused, a retried `initialize` fails the same way (it is NOT a duplicate), `ping`
is served, and the state is the fresh one throughout. With one legacy version the handshake succeeds
(with that version) and the retry is the duplicate. -/
example :
    let init : Req := { method := some .initialize, hasId := true, params := .objOk, tag := "c", iver := "2025-11-25" }
    let list : Req := { method := some .tools_list, hasId := true, params := .absent }
    let ping : Req := { method := some .ping, hasId := true, params := .absent }
    let inid : Req := { method := some .notifications_initialized, hasId := false, params := .absent }
    (trace (fresh ["2026-07-28"]) [init, list, inid, init, ping]).map (·.2.2) =
      [.invoked .initialize (.failUnsupported ["2026-07-28"]), .rejected codeNone [],
       .invoked .notifications_initialized (.fail codeNone),
       .invoked .initialize (.failUnsupported ["2026-07-28"]), .invoked .ping .ok] ∧
    finalState (fresh ["2026-07-28"]) [init, list, inid, init, ping] = fresh ["2026-07-28"] ∧
    (trace (fresh []) [init, list]).map (·.2.2) = [.invoked .initialize (.failUnsupported []), .rejected codeNone []] ∧
    (trace (fresh ["2026-07-28", "2025-03-26"]) [init, list, init]).map (·.2.2) =
      [.invoked .initialize .ok, .invoked .tools_list .ok, .invoked .initialize (.fail codeNone)] ∧
    resultInfo (fresh ["2026-07-28", "2025-03-26"]) init (.invoked .initialize .ok) = some "2025-03-26" := by decide +kernel

example : ¬ ServesLegacy ["2026-07-28"] ∧ ¬ ServesLegacy [] ∧ ServesLegacy ["2026-07-28", "2025-03-26"] ∧
    ServesLegacy supportedProtocolVersions := by
  refine ⟨?_, ?_, ?_, ?_⟩
  · rintro ⟨v, hv, _, hlt⟩
    simp at hv; subst hv; revert hlt; decide
  · rintro ⟨v, hv, _⟩; simp at hv
  · exact ⟨"2025-03-26", by simp, by decide, by decide⟩
  · exact ⟨"2025-11-25", by decide, by decide, by decide⟩

def initializedHandlerRuns (o : Outcome) : Bool := o == .invoked .notifications_initialized .ok

/-- **C06.** An `initialized` notification that is premature (no `initialize` accepted yet) or repeated
is refused: the state is unchanged and the `InitializedHandler` does not run. -/
theorem initialized_premature_or_repeated_rejected_state_unchanged (s : State) (r : Req)
    (hm : r.method = some .notifications_initialized) (hs : s.init = none ∨ s.initd = true) :
    (admitReq s r).1 = s ∧ initializedHandlerRuns (admitReq s r).2 = false := by
  have rej : ∀ c d, initializedHandlerRuns (reject r c d) = false := by
    intro c d; unfold reject initializedHandlerRuns; split <;> rfl
  rcases admit_step s r with ⟨c, d, e⟩ | ⟨pg, h⟩
  · rw [e]; exact ⟨rfl, rej c d⟩
  · rw [handed_eq (Or.inl (pastGate_legacy pg hm tbl_gate_initialized_new))] at h
    rcases h with ⟨c, e⟩ | ⟨m, _, hmeth, e⟩ <;> rw [e]
    · exact ⟨rfl, rej c []⟩
    · rw [hm] at hmeth; cases hmeth
      rw [serverHandler_initialized_bad s r hs]
      exact ⟨rfl, rfl⟩

/-- non-vacuity, and the positive case: after `initialize` the first `initialized` is accepted. -/
example :
    let n : Req := { method := some .notifications_initialized, hasId := false, params := .absent }
    admitReq {} n = ({}, .invoked .notifications_initialized (.fail codeNone)) ∧
    admitReq { init := some ⟨"a", "v"⟩ } n = ({ init := some ⟨"a", "v"⟩, initd := true }, .invoked .notifications_initialized .ok) ∧
    admitReq { init := some ⟨"a", "v"⟩, initd := true } n =
      ({ init := some ⟨"a", "v"⟩, initd := true }, .invoked .notifications_initialized (.fail codeNone)) := by decide +kernel

/-- **C06.** A legacy `ping` call whose params are not undecodable is served in every session state,
and the state is unchanged. -/
theorem ping_always_served (s : State) (r : Req) (hm : r.method = some .ping) (hid : r.hasId = true)
    (hleg : usesNew r = false) (hp : r.params ≠ .objUndecodable ∧ r.params ≠ .wrongType) :
    admitReq s r = (s, .invoked .ping .ok) ∧ answer r (admitReq s r).2 = .result := by
  have hpre : preemptDrops r = false := preemptDrops_method hm (by decide)
  have hcd : checkAndDecode serverMethodInfos r = .ok .ping :=
    checkAndDecode_ok_iff.2 ⟨hm, _, tbl_flags_ping, by simp [hid], Or.inl rfl, hp⟩
  have e : admitReq s r = (s, .invoked .ping .ok) := by
    rw [admit_legacy_pass hpre hleg (by rw [hm]; exact tbl_gate_ping _), dispatch_ok hcd]; rfl
  exact ⟨e, by rw [e]; simp [answer, hid]⟩

/-- **C06.** A request that uses the new protocol but whose metadata is incomplete (capabilities missing
or invalid, or clientInfo present but invalid) is answered invalid-params (-32602); nothing runs, the
state is unchanged. -/
theorem new_protocol_requires_complete_meta (s : State) (r : Req)
    (hn : usesNew r = true) (hc : metaComplete r = false) :
    admitReq s r = (s, reject r (-32602)) := by
  rw [admit_metaError (metaError_of_incomplete hn hc), tbl_codes.2.1]

/-- ... and conversely: what is served under the new protocol carried complete, supported metadata. -/
theorem served_new_protocol_has_valid_meta (s : State) (r : Req) (m : Method) (res : HRes)
    (hn : usesNew r = true) (h : (admitReq s r).2 = .invoked m res) : CarriesValidMeta s.tv r :=
  pastGate_validMeta (admit_invoked h).1 hn

example : admitReq {} { method := some .tools_list, hasId := true, params := .objOk, «meta» := .ver "2026-07-28" .missing .ok }
    = ({}, .rejected (-32602) []) := by decide +kernel

/-- **C06.** Complete metadata naming a version the request may not name (`acceptedVersions`): unsupported-version (-32022)
with the list of the versions the session's transport serves; nothing runs, the state is unchanged. -/
theorem unsupported_version (s : State) (r : Req)
    (hn : usesNew r = true) (hc : metaComplete r = true)
    (hv : (acceptedVersions s.tv r).contains (metaVersion r) = false) :
    admitReq s r = (s, reject r (-32022) s.tv) := by
  have hu : unsupportedVersion s.tv r = true := by rw [unsupportedVersion_new _ hn, hv]; rfl
  rw [admit_unsupported ((metaError_none_iff hn).2 hc) hu, tbl_code_version]

example : admitReq {} { method := some .tools_list, hasId := true, params := .objOk, «meta» := .ver "2027-01-01" .ok .absent }
    = ({}, .rejected (-32022) ["2026-07-28", "2025-11-25", "2025-06-18", "2025-03-26", "2024-11-05"]) := by decide +kernel

/-- **C06 / F34, one step.** The instance that F34 is about: any method but the probe, a version the transport does not serve
whether or not the SDK knows it; in particular the request's identity is not adopted. -/
theorem per_request_version_refused_unless_transport_serves_it (s : State) (r : Req)
    (hnd : r.method ≠ some .server_discover) (hn : usesNew r = true) (hc : metaComplete r = true)
    (hv : s.tv.contains (metaVersion r) = false) :
    admitReq s r = (s, reject r (-32022) s.tv) := by
  apply unsupported_version s r hn hc
  simpa [acceptedVersions, hnd] using hv

/-- **C06 / F34, all transports, all histories.** Whatever the transport's `SupportsProtocolVersion`
predicate and whatever was sent before on the session: a new-protocol request of any method other than
`server/discover` that reaches a method handler carries complete metadata naming a version that the SDK
supports AND the transport serves. -/
theorem per_request_version_served_only_if_transport_serves_it (supports : String → Bool) (rs : List Req)
    (i : Nat) (hi : i < (trace (fresh (transportVersions supports)) rs).length) (m : Method) (res : HRes)
    (h : ((trace (fresh (transportVersions supports)) rs)[i]).2.2 = .invoked m res)
    (hn : usesNew ((trace (fresh (transportVersions supports)) rs)[i]).2.1 = true)
    (hnd : ((trace (fresh (transportVersions supports)) rs)[i]).2.1.method ≠ some .server_discover) :
    metaComplete ((trace (fresh (transportVersions supports)) rs)[i]).2.1 = true ∧
    metaVersion ((trace (fresh (transportVersions supports)) rs)[i]).2.1 ∈ supportedProtocolVersions ∧
    supports (metaVersion ((trace (fresh (transportVersions supports)) rs)[i]).2.1) = true := by
  obtain ⟨hstep, htv⟩ := trace_entry (fresh (transportVersions supports)) rs i hi
  generalize (trace (fresh (transportVersions supports)) rs)[i] = e at h hn hnd hstep htv
  rw [hstep] at h
  obtain ⟨_, hc, hv⟩ := served_new_protocol_has_valid_meta e.1 e.2.1 m res hn h
  rw [htv] at hv
  have hv' : metaVersion e.2.1 ∈ transportVersions supports := by
    simpa [acceptedVersions, hnd, fresh] using hv
  have := List.mem_filter.1 hv'
  exact ⟨hc, this.1, this.2⟩

/-- ... and for every version list `tv` (not only the images of `filterSupportedVersions`), with the
converse: along any history, such a request whose version is not in `tv` is answered -32022 carrying `tv`
and leaves the state it met unchanged. -/
theorem per_request_version_gate_all_histories (tv : List String) (rs : List Req)
    (i : Nat) (hi : i < (trace (fresh tv) rs).length)
    (hn : usesNew ((trace (fresh tv) rs)[i]).2.1 = true)
    (hnd : ((trace (fresh tv) rs)[i]).2.1.method ≠ some .server_discover) :
    (∀ m res, ((trace (fresh tv) rs)[i]).2.2 = .invoked m res →
      tv.contains (metaVersion ((trace (fresh tv) rs)[i]).2.1) = true) ∧
    (metaComplete ((trace (fresh tv) rs)[i]).2.1 = true →
      tv.contains (metaVersion ((trace (fresh tv) rs)[i]).2.1) = false →
      admitReq ((trace (fresh tv) rs)[i]).1 ((trace (fresh tv) rs)[i]).2.1 =
        (((trace (fresh tv) rs)[i]).1, reject ((trace (fresh tv) rs)[i]).2.1 (-32022) tv) ∧
      ((trace (fresh tv) rs)[i]).2.2 = reject ((trace (fresh tv) rs)[i]).2.1 (-32022) tv) := by
  obtain ⟨hstep, htv⟩ := trace_entry (fresh tv) rs i hi
  generalize (trace (fresh tv) rs)[i] = e at hn hnd hstep htv
  have htv' : e.1.tv = tv := htv
  constructor
  · intro m res h
    rw [hstep] at h
    obtain ⟨_, _, hv⟩ := served_new_protocol_has_valid_meta e.1 e.2.1 m res hn h
    rw [htv'] at hv
    simpa [acceptedVersions, hnd] using hv
  · intro hc hv
    have := per_request_version_refused_unless_transport_serves_it e.1 e.2.1 hnd hn hc (by rw [htv']; exact hv)
    rw [htv'] at this
    exact ⟨this, by rw [hstep, this]⟩

/-- The `server/discover` probe is the exception, and only as a probe: naming any version the SDK knows
it is answered — with the TRANSPORT's versions — on every transport, and (see
`discover_persists_only_on_new_protocol_transport`) it stores nothing unless the transport serves the
new protocol. -/
theorem discover_probe_answered_with_transport_versions (s : State) (r : Req)
    (hm : r.method = some .server_discover) (hid : r.hasId = true) (hn : usesNew r = true)
    (hc : metaComplete r = true) (hv : supportedProtocolVersions.contains (metaVersion r) = true)
    (hp : r.params ≠ .objUndecodable) :
    (admitReq s r).2 = .invoked .server_discover .ok ∧
    resultInfo s r (admitReq s r).2 = some (",".intercalate s.tv) := by
  have hpre : preemptDrops r = false := preemptDrops_method hm (by decide)
  have hobj : r.params.isObject = true := by
    cases ho : r.params.isObject with
    | true => rfl
    | false => simp [usesNew, effMeta, ho] at hn
  have hcd : checkAndDecode serverMethodInfos r = .ok .server_discover :=
    checkAndDecode_ok_iff.2 ⟨hm, _, tbl_flags_discover, by simp [hid], Or.inl rfl, hp,
      fun e => by rw [e] at hobj; cases hobj⟩
  have hu : unsupportedVersion s.tv r = false := by
    rw [unsupportedVersion_new _ hn]; simpa [acceptedVersions, hm] using hv
  have hg : gate s.init.isSome (usesNew r) r.method = .pass := by rw [hn, hm, tbl_gate_discover_new]
  have key : (admitReq s r).2 = .invoked .server_discover .ok := by
    rw [admit_pastGate ⟨hpre, (metaError_none_iff hn).2 hc, hu, by rw [hg]; intro c h; cases h⟩, dispatch_ok hcd]
    simp only [serverHandler]
    split <;> rfl
  exact ⟨key, by rw [key]; rfl⟩

/-- non-vacuity of F34: on a transport serving only legacy versions (the SSE transport's predicate), and
on a stateful-streamable-like one, `tools/list` carrying complete 2026-07-28 metadata is refused with the
transport's list and adopts nothing; the discover probe is answered and stores nothing; on a transport
that serves 2026-07-28 both are served. -/
example :
    let legacy := transportVersions (fun v => decide (v < "2026-07-28"))
    let list : Req := { method := some .tools_list, hasId := true, params := .objOk, «meta» := .ver "2026-07-28" .ok .ok, tag := "c" }
    let disc : Req := { method := some .server_discover, hasId := true, params := .objOk, «meta» := .ver "2026-07-28" .ok .ok, tag := "c" }
    legacy = ["2025-11-25", "2025-06-18", "2025-03-26", "2024-11-05"] ∧
    admitReq (fresh legacy) list = (fresh legacy, .rejected (-32022) legacy) ∧
    admitReq (fresh legacy) disc = (fresh legacy, .invoked .server_discover .ok) ∧
    (admitReq (fresh ["2026-07-28"]) list).2 = .invoked .tools_list .ok ∧
    (admitReq (fresh ["2026-07-28"]) list).1.init = some ⟨"c", "2026-07-28"⟩ := by decide +kernel

/-- **C06.** Under the new protocol (complete metadata, supported version) a method removed from that
protocol is answered method-not-found (-32601); nothing runs, the state is unchanged. -/
theorem removed_methods_not_found (s : State) (r : Req) (m : Method)
    (hv : CarriesValidMeta s.tv r) (hm : r.method = some m) (hrem : removedInNewProtocol.contains m = true) :
    admitReq s r = (s, reject r (-32601)) := by
  obtain ⟨hn, hc, hsup⟩ := hv
  have hrem' : m ∈ removedInNewProtocol := by simpa using hrem
  have hu : unsupportedVersion s.tv r = false := by rw [unsupportedVersion_new _ hn, hsup]; rfl
  rw [admit_refuse ((metaError_none_iff hn).2 hc) hu (c := codeMethodNotFound) (by rw [hn, hm]; simp [gate, hrem']),
    tbl_codes.1]

theorem spec_removed_methods_listed : ∀ m ∈ specRemoved, removedInNewProtocol.contains m = true := by
  intro m hm
  have := tbl_specRemoved
  rw [List.all_eq_true] at this
  exact this m hm

example : admitReq { init := some ⟨"a", "v"⟩ }
    { method := some .logging_setLevel, hasId := true, params := .objOk, «meta» := .ver "2026-07-28" .ok .ok, lvl := "debug" }
    = ({ init := some ⟨"a", "v"⟩ }, .rejected (-32601) []) := by decide +kernel

/-- **C06.** `server/discover` exists only under the new protocol: a legacy `server/discover` is
answered method-not-found and changes nothing; one that is served used the new protocol. -/
theorem discover_only_new_protocol (s : State) (r : Req) (hm : r.method = some .server_discover) :
    (usesNew r = false → admitReq s r = (s, reject r (-32601))) ∧
    (∀ res, (admitReq s r).2 = .invoked .server_discover res → CarriesValidMeta s.tv r) := by
  have h1 : usesNew r = false → admitReq s r = (s, reject r (-32601)) := fun hleg => by
    rw [admit_legacy_refuse hleg (by rw [hm]; exact tbl_gate_discover_legacy _), tbl_codes.1]
  refine ⟨h1, fun res h => ?_⟩
  cases hn : usesNew r with
  | true => exact served_new_protocol_has_valid_meta s r _ res hn h
  | false =>
    rw [h1 hn] at h
    exact absurd h (reject_not_invoked r _ _ _ _)

example : admitReq {} { method := some .server_discover, hasId := true, params := .objOk, «meta» := .ver "2026-07-28" .ok .ok, tag := "c" }
    = ({ init := some ⟨"c", "2026-07-28"⟩ }, .invoked .server_discover .ok) := by decide +kernel

/-- The property's code mapping for one request against a method table `t`, as a specification of the
outcome `out`: unknown method → -32601; id on a notification-only method → -32600; no id on a call →
nothing at all (it is a notification: never answered, nothing runs); required params absent or null →
-32600; params that do not decode → -32602; otherwise the method's handler runs. -/
structure CodeSpec (t : List (Method × Flags)) (r : Req) (out : Outcome) : Prop where
  unknown : r.method.bind (lookup t) = none → out = reject r (-32601)
  unexpectedId : ∀ f, r.method.bind (lookup t) = some f → f.notification = true → r.hasId = true →
    out = .rejected (-32600) []
  missingId : ∀ f, r.method.bind (lookup t) = some f → f.notification = false → r.hasId = false → out = .ignored
  missingParams : ∀ f, r.method.bind (lookup t) = some f → f.notification = !r.hasId → f.missingParamsOK = false →
    (r.params = .absent ∨ r.params = .null) → out = reject r (-32600)
  undecodable : ∀ f, r.method.bind (lookup t) = some f → f.notification = !r.hasId →
    (r.params = .objUndecodable ∨ r.params = .wrongType) → out = reject r (-32602)
  served : ∀ f, r.method.bind (lookup t) = some f → f.notification = !r.hasId →
    (f.missingParamsOK = true ∨ (r.params ≠ .absent ∧ r.params ≠ .null)) →
    (r.params ≠ .objUndecodable ∧ r.params ≠ .wrongType) → ∃ m res, r.method = some m ∧ out = .invoked m res

def outOf (r : Req) (h : Method → HRes) : Except Int Method → Outcome
  | .error c => reject r c
  | .ok m => .invoked m (h m)

/-- `checkRequest` + `unmarshalParams` implement the mapping, for any method table whose entries with
a replaced `unmarshalParams` (initialize) wrap the same coded errors. -/
theorem check_codes (t : List (Method × Flags)) (r : Req) (h : Method → HRes) :
    CodeSpec t r (outOf r h (checkAndDecode t r)) := by
  obtain ⟨_, _, _, _, c1, c2, c3, c4, c5, c6, c7, c8, _, _⟩ := tbl_codes
  cases hm : r.method with
  | none => constructor <;> simp [checkAndDecode, outOf, c1, hm]
  | some m =>
    cases hl : lookup t m with
    | none => constructor <;> simp [checkAndDecode, outOf, c1, hm, hl]
    | some f =>
      -- each clause fixes enough of the flags, the id and the params to decide the chain of checks
      rw [checkAndDecode_flags hm hl]
      constructor <;> simp only [hm, Option.bind_some, hl, Option.some.injEq]
      · intro h; cases h
      · rintro _ rfl hn hi
        simp [hn, hi, outOf, reject, c2]
      · rintro _ rfl hn hi
        simp [hn, hi, outOf, reject]
      · rintro _ rfl hn hp hps
        rcases hps with hps | hps <;> simp [hn, hp, hps, outOf, c4, c6, c8]
      · rintro _ rfl hn hps
        rcases hps with hps | hps <;> simp [hn, hps, outOf, c5, c7]
      · rintro _ rfl hn hp ⟨h1, h2⟩
        refine ⟨m, h m, rfl, ?_⟩
        rcases hp with hp | ⟨h3, h4⟩ <;> simp [*, outOf]

/-- **C02 (E3 part), server.** Past the gate (nothing of higher precedence refuses the request), the
server's outcome follows the property's code mapping. -/
theorem reject_codes (s : State) (r : Req) (hg : PastGate s r) : CodeSpec serverMethodInfos r (admitReq s r).2 := by
  have hout : (admitReq s r).2 =
      outOf r (fun m => (serverHandler (handed s r) r m).2) (checkAndDecode serverMethodInfos r) := by
    rw [admit_pastGate hg]; unfold dispatch outOf; cases checkAndDecode serverMethodInfos r <;> rfl
  rw [hout]
  exact check_codes _ _ _

/-- **C02 (E3 part), client's receiving side** (no gate, no per-request metadata). -/
theorem reject_codes_client (r : Req) (hp : preemptDrops r = false) : CodeSpec clientMethodInfos r (admitClient r) := by
  have hout : admitClient r = outOf r (clientHandler r) (checkAndDecode clientMethodInfos r) := by
    unfold admitClient outOf; simp only [hp, Bool.false_eq_true, if_false]
    cases checkAndDecode clientMethodInfos r <;> rfl
  rw [hout]
  exact check_codes _ _ _

/-- non-vacuity of the mapping on an initialized session -/
example :
    let s : State := { init := some ⟨"a", "2025-06-18"⟩, initd := true }
    (admitReq s { method := none, hasId := true, params := .objOk }).2 = .rejected (-32601) [] ∧
    (admitReq s { method := some .notifications_progress, hasId := true, params := .objOk }).2 = .rejected (-32600) [] ∧
    (admitReq s { method := some .tools_call, hasId := false, params := .objOk }).2 = .ignored ∧
    (admitReq s { method := some .tools_call, hasId := true, params := .absent }).2 = .rejected (-32600) [] ∧
    (admitReq s { method := some .tools_call, hasId := true, params := .null }).2 = .rejected (-32600) [] ∧
    (admitReq s { method := some .tools_call, hasId := true, params := .objUndecodable }).2 = .rejected (-32602) [] ∧
    (admitReq s { method := some .tools_call, hasId := true, params := .wrongType }).2 = .rejected (-32602) [] ∧
    (admitReq {} { method := some .initialize, hasId := true, params := .null }).2 = .rejected (-32600) [] ∧
    (admitReq {} { method := some .initialize, hasId := true, params := .wrongType }).2 = .rejected (-32602) [] ∧
    (admitReq s { method := some .tools_call, hasId := true, params := .objOk }).2 = .invoked .tools_call .ok ∧
    admitClient { method := some .elicitation_create, hasId := false, params := .objOk } = .ignored ∧
    admitClient { method := some .notifications_message, hasId := true, params := .objOk } = .rejected (-32600) [] := by decide +kernel

/-- **C02.** In every state, for every request: a notification is never answered, a call is answered
exactly once (the model has no other way to write a response), whatever refuses it. -/
theorem answered_iff_call (s : State) (r : Req) :
    (answer r (admitReq s r).2 = .nothing ↔ r.hasId = false) ∧ (answer r (admitClient r) = .nothing ↔ r.hasId = false) := by
  have rej : ∀ c d, (answer r (reject r c d) = .nothing ↔ r.hasId = false) := by
    intro c d; unfold reject answer; cases r.hasId <;> simp
  have inv : ∀ m res, (answer r (.invoked m res) = .nothing ↔ r.hasId = false) := by
    intro m res; unfold answer; cases r.hasId <;> simp; cases res <;> simp
  constructor
  · rcases admit_step s r with ⟨c, d, e⟩ | ⟨_, ⟨c, e⟩ | ⟨m, _, _, e⟩⟩ <;> rw [e]
    · exact rej _ _
    · exact rej _ _
    · exact inv _ _
  · unfold admitClient
    by_cases hp : preemptDrops r = true
    · simp [hp, answer, preemptDrops_noId hp]
    · simp only [hp]
      cases checkAndDecode clientMethodInfos r with
      | error c => exact rej _ _
      | ok m => exact inv _ _

/-- The lifecycle gate's own refusal of a legacy request before `initialize` is the UNCODED error
("method ... is invalid during session initialization"), and it precedes the mapping above: before
`initialize`, an unknown method is answered with code 0, not -32601 (noted in DESIGN §6).
(`hp` is not used: a dropped cancellation is `reject r 0` too.  For any state without `InitializeParams`: `uninit_refusal`.) -/
theorem uninitialized_refusal_uncoded (r : Req) (hleg : usesNew r = false) (hp : preemptDrops r = false)
    (hm : ∀ m, r.method = some m → lifecycle.contains m = false ∧ newProtocolOnly.contains m = false) :
    admitReq {} r = ({}, reject r 0) :=
  uninit_refusal hleg rfl hm

end Gate
