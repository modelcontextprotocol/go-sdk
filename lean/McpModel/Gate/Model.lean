import McpModel.Generated.GateGen
import McpModel.Generated.NegotiateGen
/-!
# E3 `Gate` — admission of one incoming JSON-RPC request (model; core Lean only)

Transliteration of, in this order (one envelope = one atomic step of the session: notifications and
`initialize` are handled synchronously, and every state access is under `ServerSession.mu`):

* `mcp/transport.go`  `canceller.Preempt`               — the cancellation preempter,
* `mcp/server.go`     `ServerSession.handle`            — per-request `_meta` validation, the
  unsupported-version answer, the gate `switch req.Method`, adoption of the `_meta` identity,
* `mcp/shared.go`     `handleReceive` / `checkRequest` / `newMethodInfo.unmarshalParams`,
* `mcp/server.go`     `initialize`, `initialized`, `setLevel`, `discover`, `ping`,
* `internal/jsonrpc2/conn.go` `processResult`            — calls are answered, notifications are not.

Everything that is a *table* in the Go source is taken from `Generated.Gate` (regenerated from the
working tree on every run): the method tables with their flags, the case lists of the gate switch,
the supported versions, the error codes, and which coded error each check wraps.

The session's transport enters through `State.tv` = `ServerSession.supportedVersions`, the result of
`filterSupportedVersions` at `Server.Connect` (`transportVersions`): `initialize` answers -32022 and
changes nothing when the transport serves no version the handshake can be negotiated to
(`Generated.Negotiate.legacyVersionFor` / `negotiatedVersion`, regenerated from `mcp/shared.go`), and
`server/discover` persists the request's identity only when the transport serves the new protocol; the
per-request `_meta` version of every other method is checked against the same list, and -32022 always
carries it (F34 repair; the unrepaired `handle` uses the SDK's list for both).

The client's receiving side (`ClientSession.handle`) has no gate: `admitClient`.
-/
namespace Gate
open Generated.Gate

/-- Shape of the `params` member of the envelope, as far as admission can tell. -/
inductive PShape where
  | absent          -- no `params` member
  | null            -- `"params": null`
  | objOk           -- an object that decodes and that the method's handler accepts
  | objDegraded     -- an object that decodes, with members absent / null (handler outcome not modelled)
  | objUndecodable  -- an object with a member of the wrong JSON type: decoding fails
  | wrongType       -- not an object (array, string, number, bool): decoding fails
  deriving DecidableEq, Repr

def PShape.isObject : PShape → Bool
  | .objOk | .objDegraded | .objUndecodable => true
  | _ => false

inductive Caps where | ok | missing | invalid deriving DecidableEq, Repr
inductive CInfo where | ok | invalid | absent deriving DecidableEq, Repr

/-- The per-request `_meta` (SEP-2575). `none` also stands for a `_meta` without a *string*
`protocolVersion` (absent, null, non-string): `validateRequestMeta` treats all of these as legacy. -/
inductive MetaShape where
  | none
  | ver (v : String) (caps : Caps) (ci : CInfo)
  deriving DecidableEq, Repr

/-- Request descriptor. `tag`/`iver`/`lvl` are the values the envelope carries for the members that
end up in session state (client name, `initialize`'s protocolVersion, `logging/setLevel`'s level). -/
structure Req where
  method : Option Method      -- `none`: a method name in neither method table
  hasId : Bool
  params : PShape
  «meta» : MetaShape := .none
  tag : String := "anon"
  iver : String := ""
  lvl : String := ""
  /-- `notifications/cancelled` only: its `requestId` member is present and is neither null, a string nor
  a number (the one member the cancellation preempter decodes: F33) -/
  cancelIdBad : Bool := false
  deriving DecidableEq, Repr

/-- `ServerSessionState.InitializeParams`, as far as observable: who set it and with which version. -/
structure InitInfo where
  tag : String
  ver : String
  deriving DecidableEq, Repr

/-- `ServerSessionState` (mcp/session.go): nil-ness of the two params encodes the lifecycle phase.
`tv` is `ServerSession.supportedVersions`: written once by `Server.Connect`, read (under `mu`) by
`initialize` and `server/discover`; no request changes it (`Gate.tv_unchanged`). -/
structure State where
  init : Option InitInfo := none   -- InitializeParams
  initd : Bool := false            -- InitializedParams != nil
  level : String := ""             -- LogLevel
  tv : List String := supportedProtocolVersions   -- supportedVersions (default: a transport without ProtocolVersionSupporter)
  deriving DecidableEq, Repr

/-- `filterSupportedVersions`: the SDK's versions the transport's `SupportsProtocolVersion` admits, in
the SDK's order; a transport that does not implement `ProtocolVersionSupporter` admits all. -/
def transportVersions (supports : String → Bool) : List String := supportedProtocolVersions.filter supports

/-- The session `Server.Connect` returns on a transport whose filtered version list is `tv`. -/
def fresh (tv : List String) : State := { tv := tv }

/-- The version `initialize` answers with for `params.protocolVersion = iver` (`""`: none). -/
def initVersion (tv : List String) (iver : String) : String :=
  Generated.Negotiate.legacyVersionFor (Generated.Negotiate.negotiatedVersion iver) tv

/-- `Server.discover`: the identity is persisted only when the best version the transport serves is
a new-protocol one. -/
def discoverPersists (tv : List String) : Bool :=
  !decide (Generated.Negotiate.negotiateMutuallySupportedVersion tv < newProtocolThreshold)

/-- What the method's handler returned. -/
inductive HRes where
  | ok
  | fail (code : Int)
  /-- `initialize` on a transport that serves no legacy version: -32022 carrying the transport's versions -/
  | failUnsupported (data : List String)
  | unspecified        -- depends on user-level semantics the model does not describe
  deriving DecidableEq, Repr

inductive Outcome where
  /-- the receiving method handler (middleware chain, then the method's function) ran for `h` -/
  | invoked (h : Method) (res : HRes)
  /-- answered with an error response carrying `code` (and, for -32022, the supported versions); nothing ran -/
  | rejected (code : Int) (data : List String)
  /-- nothing ran and nothing was written (a refused notification) -/
  | ignored
  deriving DecidableEq, Repr

/-- A refusal: calls get an error response, notifications get nothing (`processResult`). -/
def reject (r : Req) (code : Int) (data : List String := []) : Outcome :=
  if r.hasId then .rejected code data else .ignored

def lookup (t : List (Method × Flags)) (m : Method) : Option Flags :=
  match t.find? (fun e => e.1 == m) with
  | some e => some e.2
  | none => none

/-- `extractRequestMeta`: only an object can carry `_meta`. -/
def effMeta (r : Req) : MetaShape := if r.params.isObject then r.meta else .none

/-- `validateRequestMeta`: `protocolVersion` is a string not below the threshold. -/
def usesNew (r : Req) : Bool :=
  match effMeta r with
  | .ver v _ _ => !decide (v < newProtocolThreshold)
  | .none => false

def metaVersion (r : Req) : String :=
  match effMeta r with
  | .ver v _ _ => v
  | .none => ""

/-- `validateRequestMeta`'s error, if any (only for requests that use the new protocol). -/
def metaError (r : Req) : Option Int :=
  match effMeta r with
  | .ver _ caps ci =>
    if !usesNew r then none
    else if ci == .invalid then some metaInvalidClientInfo
    else if caps != .ok then some metaInvalidCapabilities
    else none
  | .none => none

def metaComplete (r : Req) : Bool :=
  match effMeta r with
  | .ver _ caps ci => caps == .ok && ci != .invalid
  | .none => false

/-- client name carried by `_meta` (`anon` when `clientInfo` is absent: a nil `ClientInfo`) -/
def metaTag (r : Req) : String :=
  match effMeta r with
  | .ver _ _ .ok => r.tag
  | _ => "anon"

inductive GateRes where
  | pass
  | passAdopt          -- default arm, not initialized, new protocol: the `_meta` identity is stored
  | refuse (code : Int)
  deriving DecidableEq, Repr

/-- The `switch req.Method` of `ServerSession.handle`. The three case lists are regenerated.
`initialized` is the Go local of that name: `InitializeParams` is set (`s.init.isSome`), NOT `State.initd`. -/
def gate (initialized new : Bool) (m : Option Method) : GateRes :=
  let dflt : GateRes :=
    if !initialized && !new then .refuse codeNone
    else if !initialized && new then .passAdopt
    else .pass
  match m with
  | none => dflt
  | some m =>
    if removedInNewProtocol.contains m then
      if new then .refuse codeMethodNotFound
      else if exemptFromInitGate.contains m then .pass
      else if !initialized then .refuse codeNone
      else .pass
    else if newProtocolOnly.contains m then
      if !new then .refuse codeMethodNotFound else .pass
    else dflt

/-- `checkRequest` followed by `unmarshalParams`: the error code, or `.ok m` when the request reaches
the handler of method `m`. -/
def checkAndDecode (t : List (Method × Flags)) (r : Req) : Except Int Method :=
  match r.method with
  | none => .error checkUnknownMethod
  | some m =>
    match lookup t m with
    | none => .error checkUnknownMethod
    | some f =>
      if f.notification && r.hasId then .error checkUnexpectedId
      else if !f.notification && !r.hasId then .error checkMissingId
      else if !f.missingParamsOK && r.params == .absent then .error checkMissingParams
      else if r.params == .objUndecodable || r.params == .wrongType then
        .error (if f.customDecode then initializeDecodeFailure else decodeFailure)
      else if !f.missingParamsOK && r.params == .null then
        .error (if f.customDecode then initializeNilParams else decodeNilParams)
      else .ok m

/-- `canceller.Preempt` (repaired behaviour: only notifications are inspected, F17; only the `requestId`
member is decoded, from its raw token, F33): a cancelled notification whose params are not an object, or
whose `requestId` is not an id, is dropped by `processResult` without reaching `handle`. Params that are
undecodable for another reason (e.g. a non-string `reason`) pass the preempter and are refused later, by
`unmarshalParams` — after the per-request metadata was validated and, possibly, adopted. -/
def preemptDrops (r : Req) : Bool :=
  r.method == some .notifications_cancelled && !r.hasId &&
    (r.params == .absent || r.params == .wrongType || (r.params == .objUndecodable && r.cancelIdBad))

/-- Feature methods whose outcome on well-formed params is a success in the harness configuration. -/
def featureRes (r : Req) : HRes :=
  match r.params with
  | .objOk => .ok
  | .objDegraded => .unspecified
  | _ => .ok     -- absent / null reach a handler only for `missingParamsOK` methods, which accept nil params

/-- The method's own function on the server (state effect and result). -/
def serverHandler (s : State) (r : Req) (m : Method) : State × HRes :=
  match m with
  | .initialize =>
    -- order of the Go code: the transport's versions first, then the duplicate check, then the write
    if initVersion s.tv r.iver == "" then (s, .failUnsupported s.tv)
    else match s.init with
    | some _ => (s, .fail codeNone)                                  -- "duplicate initialize"
    | none => ({ s with init := some ⟨r.tag, r.iver⟩ }, .ok)
  | .notifications_initialized =>
    if s.init.isNone then (s, .fail codeNone)                         -- "initialized before initialize"
    else if s.initd then (s, .fail codeNone)                          -- "duplicate initialized"
    else ({ s with initd := true }, .ok)
  | .ping => (s, .ok)
  | .logging_setLevel => ({ s with level := r.lvl }, .ok)
  | .server_discover =>
    -- persists the request's identity; a missing clientInfo falls back to the session's
    let tag := match effMeta r with
      | .ver _ _ .ok => r.tag
      | _ => match s.init with
        | some i => i.tag
        | none => "anon"
    if discoverPersists s.tv then ({ s with init := some ⟨tag, metaVersion r⟩ }, .ok) else (s, .ok)
  | .prompts_list | .resources_list | .resources_templates_list | .tools_list => (s, .ok)
  | .notifications_cancelled | .notifications_progress | .notifications_roots_list_changed => (s, .ok)
  | _ => (s, featureRes r)

/-- Default arm of the gate, new protocol on a session without `InitializeParams`: the identity carried
by `_meta` becomes the session's. -/
def adopt (s : State) (r : Req) : GateRes → State
  | .passAdopt => { s with init := some ⟨metaTag r, metaVersion r⟩ }
  | _ => s

/-- `handleReceive`: `checkRequest`, `unmarshalParams`, then the method handler. -/
def dispatch (s : State) (r : Req) : State × Outcome :=
  match checkAndDecode serverMethodInfos r with
  | .error c => (s, reject r c)
  | .ok m => ((serverHandler s r m).1, .invoked m (serverHandler s r m).2)

/-- The versions a request's `_meta` may name (F34 repair): those the session's TRANSPORT serves
(`supportedVersions`, read in the critical section at the top of `handle`), as for `initialize`; the
`server/discover` probe only has to name a version the SDK knows — it is how a client learns the
transport's versions (the repo's TestStreamableStateful_AcceptsDiscover tests it). -/
def acceptedVersions (tv : List String) (r : Req) : List String :=
  if r.method == some .server_discover then supportedProtocolVersions else tv

/-- The per-request version check of `handle`. The unrepaired `handle` tests the SDK's list for every
method (`Generated.Gate.perRequestVersionsFromTransport = false`). -/
def unsupportedVersion (tv : List String) (r : Req) : Bool :=
  usesNew r && !(acceptedVersions tv r).contains (metaVersion r)

/-- `ServerSession.handle` for one envelope (after the preempter). -/
def admitReq (s : State) (r : Req) : State × Outcome :=
  if preemptDrops r then (s, .ignored) else
  match metaError r with
  | some c => (s, reject r c)
  | none =>
    if unsupportedVersion s.tv r then
      (s, reject r codeUnsupportedProtocolVersion s.tv)
    else
      match gate s.init.isSome (usesNew r) r.method with
      | .refuse c => (s, reject r c)
      | .pass => dispatch s r
      | .passAdopt => dispatch (adopt s r .passAdopt) r

/-- The client's method functions, in the harness configuration. -/
def clientHandler (r : Req) (m : Method) : HRes :=
  match m with
  | .ping | .roots_list => .ok
  | .elicitation_create | .sampling_createMessage | .completion_complete =>
    match r.params with
    | .objOk => .ok
    | _ => .unspecified
  | _ => .ok

/-- `ClientSession.handle` for one envelope: no gate, no per-request metadata. -/
def admitClient (r : Req) : Outcome :=
  if preemptDrops r then .ignored else
  match checkAndDecode clientMethodInfos r with
  | .error c => reject r c
  | .ok m => .invoked m (clientHandler r m)

/-- What goes out on the wire in answer to the envelope. -/
inductive Answer where
  | nothing
  | result
  | error (code : Int) (data : List String)
  | some_answer     -- exactly one response, result or error, decided by the handler
  deriving DecidableEq, Repr

def answer (r : Req) : Outcome → Answer
  | .ignored => .nothing
  | .rejected c d => .error c d
  | .invoked _ res =>
    if !r.hasId then .nothing
    else match res with
      | .ok => .result
      | .fail c => .error c []
      | .failUnsupported d => .error codeUnsupportedProtocolVersion d
      | .unspecified => .some_answer

/-- Running a history: every step with the state it started from. -/
def trace : State → List Req → List (State × Req × Outcome)
  | _, [] => []
  | s, r :: rs => (s, r, (admitReq s r).2) :: trace (admitReq s r).1 rs

def finalState : State → List Req → State
  | s, [] => s
  | s, r :: rs => finalState (admitReq s r).1 rs

/-- What a result carries that depends on the transport: the negotiated version of an accepted
`initialize`, the advertised versions of a served `server/discover`. -/
def resultInfo (s : State) (r : Req) : Outcome → Option String
  | .invoked .initialize .ok => some (initVersion s.tv r.iver)
  | .invoked .server_discover .ok => some (",".intercalate s.tv)
  | _ => none

end Gate
