import McpModel.Gate.Props
import McpModel.Gate.Sound
/-!
# E3 (C06, C02): the monitor accepts the model

`model_satisfies_P`: on every case that the model can produce — any transport versions `tv`, any
sequence of envelopes (server side through `admitReq`, client side through `admitClient`), with ANY
observation that agrees with the model's outcome where the model fixes it and is arbitrary where the
model leaves it open (`Agrees`: the answer of a handler on degraded params, which user handler ran) —
every clause predicate of Sound.lean holds; hence (`monitor_sound`) the monitor reports nothing:
`monitor_accepts_model`.  The proofs go through the property theorems of Props.lean, one per clause.

`WfMsg`: the descriptor's method is the one the name stands for (the driver's parser builds it so).
`Enc`: how the harness renders the session state (any rendering with `lvl "" = ""`).
-/
namespace Gate
open Generated.Gate

def WfMsg (m : Msg) : Prop := m.req.method = methodOfName m.mname

theorem tbl_names_nodup : (Method.all.map Method.name).Nodup := by decide +kernel

theorem tbl_all (x : Method) : x ∈ Method.all := by cases x <;> decide

theorem methodOfName_name : ∀ x : Method, methodOfName x.name = some x := fun x =>
  List.find?_key_of_nodup Method.name tbl_names_nodup (tbl_all x)

theorem name_of_methodOfName {n : String} {x : Method} (h : methodOfName n = some x) : x.name = n := by
  unfold methodOfName at h
  have := List.find?_some h
  simpa using this

theorem not_contains_of_name {L : List Method} {names : List String}
    (tbl : L.all (fun x => names.contains x.name) = true) {x : Method} (hx : x.name ∉ names) : L.contains x = false := by
  cases h : L.contains x with
  | false => rfl
  | true => exact absurd (by simpa using contains_of_all tbl h) hx

theorem wf_name_iff {m : Msg} (hw : WfMsg m) (x : Method) : m.mname = x.name ↔ m.req.method = some x := by
  unfold WfMsg at hw
  constructor
  · intro e; rw [hw, e]; exact methodOfName_name x
  · intro e; rw [e] at hw; exact (name_of_methodOfName hw.symm).symm

theorem method_of_name_mem {m : Msg} (hw : WfMsg m) {L : List Method} (h : m.mname ∈ L.map Method.name) :
    ∃ x ∈ L, m.req.method = some x := by
  obtain ⟨x, hx, hn⟩ := List.mem_map.1 h
  exact ⟨x, hx, (wf_name_iff hw x).1 hn.symm⟩

structure Enc where
  tag : InitInfo → String
  lvl : String → String
  lvl_empty : lvl "" = ""

def stOf (E : Enc) (s : State) : St := { init := s.init.map E.tag, initd := s.initd, level := E.lvl s.level }

def mstep (s : State) (m : Msg) : State × Outcome :=
  match m.side with
  | .server => admitReq s m.req
  | .client => (s, admitClient m.req)

/-- The wire answer the model's `Answer` allows. -/
def wOf : Answer → W → Prop
  | .nothing, w => w = .none
  | .result, w => w = .ok
  | .error c d, w => w = .err c (if c == codeUnsupportedProtocolVersion then some d else none)
  | .some_answer, w => w = .ok ∨ ∃ c d, w = .err c d

/-- The observation agrees with the model's step from `s`: fixed where the model fixes it, arbitrary
where the model leaves it open.  `uh` is an implication only: which user handler a served method runs the model does not say,
except that the `InitializedHandler` runs only when the notification is accepted. -/
structure Agrees (E : Enc) (s : State) (m : Msg) (o : MObs) : Prop where
  st : o.st = stOf E (mstep s m).1
  mw : o.mw = true ↔ ∃ h res, (mstep s m).2 = .invoked h res
  uh : o.uh = true → ∃ h res, (mstep s m).2 = .invoked h res ∧ ¬ (h = .notifications_initialized ∧ res ≠ .ok)
  w : wOf (answer m.req (mstep s m).2) o.w

def stateAt (s0 : State) (h : Hist) : State := h.foldl (fun s p => (mstep s p.1).1) s0

/-- A case the model can produce from `s0`. -/
def ModelRun (E : Enc) (s0 : State) (tr : Hist) : Prop :=
  ∀ j p, tr[j]? = some p → ∃ o, p.2 = .seen o ∧ WfMsg p.1 ∧ Agrees E (stateAt s0 (tr.take j)) p.1 o

theorem mstep_tv (s : State) (m : Msg) : (mstep s m).1.tv = s.tv := by
  unfold mstep
  cases m.side with
  | client => rfl
  | server => exact tv_unchanged s [m.req]

theorem stateAt_tv (s0 : State) : ∀ (h : Hist), (stateAt s0 h).tv = s0.tv := by
  intro h
  induction h using List.snoc_induction with
  | nil => rfl
  | snoc h p ih => simp only [stateAt, List.foldl_append, List.foldl_cons, List.foldl_nil] at ih ⊢; rw [mstep_tv]; exact ih

theorem modelRun_step {E : Enc} {s0 : State} {tr : Hist} (hr : ModelRun E s0 tr) {k : Nat} (hk : k < tr.length) :
    ∃ m o, tr[k]? = some (m, .seen o) ∧ WfMsg m ∧ Agrees E (stateAt s0 (tr.take k)) m o ∧
      tr.take (k + 1) = tr.take k ++ [(m, .seen o)] ∧
      stateAt s0 (tr.take (k + 1)) = (mstep (stateAt s0 (tr.take k)) m).1 := by
  have hget : tr[k]? = some tr[k] := List.getElem?_eq_getElem hk
  obtain ⟨o, ho, hw, ha⟩ := hr k _ hget
  have htake : tr.take (k + 1) = tr.take k ++ [tr[k]] := by rw [List.take_add_one, hget]; rfl
  generalize tr[k] = p at hget ho hw ha htake
  obtain ⟨m, obs⟩ := p
  cases ho
  exact ⟨m, o, hget, hw, ha, htake, by rw [htake]; simp [stateAt, List.foldl_append]⟩

theorem modelRun_alive {E : Enc} {s0 : State} {tr : Hist} (hr : ModelRun E s0 tr) (j : Nat) : Alive (tr.take j) := by
  intro p hp
  obtain ⟨k, hk⟩ := List.getElem?_of_mem hp
  have : tr[k]? = some p := by
    rw [List.getElem?_take] at hk
    split at hk
    · exact hk
    · cases hk
  obtain ⟨o, ho, _⟩ := hr k p this
  exact ⟨o, ho⟩

theorem acceptedBy_iff {m : Msg} (hw : WfMsg m) (tv : List String) :
    acceptedBy tv m = (acceptedVersions tv m.req).contains (metaVersion m.req) := by
  unfold acceptedBy acceptedVersions
  by_cases hd : m.mname = "server/discover"
  · have : m.req.method = some .server_discover := (wf_name_iff hw .server_discover).1 hd
    simp [hd, this]
  · have : m.req.method ≠ some .server_discover := fun e => hd ((wf_name_iff hw .server_discover).2 e)
    have hb : (m.mname == "server/discover") = false := by simpa using hd
    have hb2 : (m.req.method == some Method.server_discover) = false := by simpa using this
    simp [hb, hb2]

theorem validMeta_iff {m : Msg} (hw : WfMsg m) (hs : m.side = .server) (tv : List String) :
    validMeta tv m = true ↔ CarriesValidMeta tv m.req := by
  unfold validMeta CarriesValidMeta Msg.new
  rw [acceptedBy_iff hw]
  simp [hs, Bool.and_eq_true, and_assoc]

theorem mstep_server {s : State} {m : Msg} (hs : m.side = .server) : mstep s m = admitReq s m.req := by
  simp [mstep, hs]

theorem uh_initialized {E : Enc} {s : State} {m : Msg} {o : MObs} (hw : WfMsg m) (ha : Agrees E s m o)
    (hside : m.side = .server) (hn : m.mname = "notifications/initialized") (huh : o.uh = true) :
    (admitReq s m.req).2 = .invoked .notifications_initialized .ok := by
  obtain ⟨h, res, e, hne⟩ := ha.uh huh
  rw [mstep_server hside] at e
  have hmeth := invoked_method e
  rw [(wf_name_iff hw .notifications_initialized).1 hn] at hmeth
  cases hmeth
  rw [e, Classical.byContradiction fun hx => hne ⟨rfl, hx⟩]

/-- The invariant of a model case: the state the harness shows is the model's; `InitializeParams` is set only on sessions the
wire shows as opened; once the `InitializedHandler` has run, `InitializedParams` is recorded — and stays. -/
theorem model_inv {E : Enc} {tv : List String} {tr : Hist} (hr : ModelRun E (fresh tv) tr) : ∀ j, j ≤ tr.length →
    prevState (tr.take j) = stOf E (stateAt (fresh tv) (tr.take j)) ∧
    ((stateAt (fresh tv) (tr.take j)).init.isSome = true → Opened tv (tr.take j)) ∧
    (InitializedRan (tr.take j) → (stateAt (fresh tv) (tr.take j)).initd = true) := by
  intro j
  induction j with
  | zero =>
    refine fun _ => ⟨by simp [prevState, stateAt, stOf, fresh, E.lvl_empty], fun h => ?_, fun ⟨p, hp, _⟩ => ?_⟩
    · simp [stateAt, fresh] at h
    · simp at hp
  | succ k ih =>
    intro hk
    obtain ⟨m, o, _, hw, ha, htake, hstate⟩ := modelRun_step hr (k := k) (by omega)
    have htv : (stateAt (fresh tv) (tr.take k)).tv = tv := by rw [stateAt_tv]; rfl
    obtain ⟨_, ih2, ih3⟩ := ih (by omega)
    rw [hstate, htake, prevState_snoc, opened_snoc, initializedRan_snoc]
    generalize stateAt (fresh tv) (tr.take k) = s at ha htv ih2 ih3
    refine ⟨ha.st, fun hs => ?_, fun hran => ?_⟩
    · cases hside : m.side with
      | client => exact Or.inl (ih2 (by simpa [mstep, hside] using hs))
      | server =>
        rw [mstep_server hside] at hs
        rcases init_step s m.req with h1 | ⟨_, h2, h3⟩ | h1
        · rw [h1] at hs; exact Or.inl (ih2 hs)
        · -- an accepted `initialize` is a call, and the observation shows its result
          have hwok : o.w = .ok := by
            have := ha.w
            rw [mstep_server hside, h3] at this
            simpa [answer, invoked_call_hasId h3 _ tbl_flags_initialize rfl, wOf] using this
          exact Or.inr (Or.inr ⟨rfl, (wf_name_iff hw .initialize).2 h2, hwok⟩)
        · rw [htv] at h1
          exact Or.inr (Or.inl ((validMeta_iff hw hside tv).2 h1))
    · rcases hran with hran | ⟨hside, hn, huh⟩
      · cases hside : m.side with
        | client => simpa [mstep, hside] using ih3 hran
        | server => rw [mstep_server hside]; exact admit_initd_mono s m.req (ih3 hran)
      · rw [mstep_server hside]
        exact admit_initialized_ok s m.req (uh_initialized hw ha hside hn huh)

theorem init_opened {E : Enc} {tv : List String} {tr : Hist} (hr : ModelRun E (fresh tv) tr) :
    ∀ j, j ≤ tr.length → (stateAt (fresh tv) (tr.take j)).init.isSome = true → Opened tv (tr.take j) :=
  fun j hj => (model_inv hr j hj).2.1

theorem ran_initd {E : Enc} {tv : List String} {tr : Hist} (hr : ModelRun E (fresh tv) tr) :
    ∀ j, j ≤ tr.length → InitializedRan (tr.take j) → (stateAt (fresh tv) (tr.take j)).initd = true :=
  fun j hj => (model_inv hr j hj).2.2

/-- Everything the clause proofs need at a judged envelope of a model case. -/
structure AtModel (E : Enc) (tv : List String) (tr : Hist) (j : Nat) (m : Msg) (o : MObs) (s : State) : Prop where
  wf : WfMsg m
  agrees : Agrees E s m o
  prev : prevState (tr.take j) = stOf E s
  htv : s.tv = tv
  opened : s.init.isSome = true → Opened tv (tr.take j)

theorem At.le {tr : Hist} {j : Nat} {m : Msg} {o : MObs} (hat : At tr j m o) : j ≤ tr.length :=
  let ⟨h, _⟩ := List.getElem?_eq_some_iff.1 hat.here; Nat.le_of_lt h

theorem at_model {E : Enc} {tv : List String} {tr : Hist} (hr : ModelRun E (fresh tv) tr) {j : Nat} {m : Msg} {o : MObs}
    (hat : At tr j m o) : AtModel E tv tr j m o (stateAt (fresh tv) (tr.take j)) := by
  obtain ⟨o', ho', hw, ha⟩ := hr j _ hat.here
  simp only [Obs.seen.injEq] at ho'
  subst ho'
  exact ⟨hw, ha, (model_inv hr j hat.le).1, by rw [stateAt_tv]; rfl, init_opened hr j hat.le⟩

theorem quiet_of_not_invoked {E : Enc} {s : State} {m : Msg} {o : MObs} (ha : Agrees E s m o)
    (hn : ∀ h res, (mstep s m).2 ≠ .invoked h res) : o.mw = false ∧ o.uh = false := by
  constructor
  · cases hmw : o.mw with
    | false => rfl
    | true => obtain ⟨h, res, e⟩ := ha.mw.1 hmw; exact absurd e (hn h res)
  · cases huh : o.uh with
    | false => rfl
    | true => obtain ⟨h, res, e, _⟩ := ha.uh huh; exact absurd e (hn h res)

theorem code_ne (c : Int) (h : c ≠ -32022) : (c == codeUnsupportedProtocolVersion) = false := by
  have := tbl_code_version
  rw [this]; simpa using h

theorem version_code : ((-32022 : Int) == codeUnsupportedProtocolVersion) = true := by
  rw [tbl_code_version]; rfl

theorem w_shape {E : Enc} {s : State} {m : Msg} {o : MObs} (ha : Agrees E s m o) :
    o.w = .none ∨ o.w = .ok ∨ ∃ c d, o.w = .err c d := by
  have := ha.w
  cases hans : answer m.req (mstep s m).2 with
  | nothing => rw [hans] at this; exact Or.inl this
  | result => rw [hans] at this; exact Or.inr (Or.inl this)
  | error c d => rw [hans] at this; exact Or.inr (Or.inr ⟨_, _, this⟩)
  | some_answer => rw [hans] at this; rcases this with h | h; exact Or.inr (Or.inl h); exact Or.inr (Or.inr h)

theorem answer_nothing_iff (s : State) (m : Msg) : answer m.req (mstep s m).2 = .nothing ↔ m.req.hasId = false := by
  unfold mstep
  cases m.side with
  | server => exact (answered_iff_call s m.req).1
  | client => exact (answered_iff_call s m.req).2

theorem initSeen_model {E : Enc} {tv : List String} {tr : Hist} {j : Nat} {m : Msg} {o : MObs} {s : State}
    (am : AtModel E tv tr j m o s) : InitSeen tr j ↔ s.init.isSome = true := by
  unfold InitSeen; rw [am.prev]; simp [stOf]

theorem unchanged_model {E : Enc} {tv : List String} {tr : Hist} {j : Nat} {m : Msg} {o : MObs} {s : State}
    (am : AtModel E tv tr j m o s) (h : (mstep s m).1 = s) : Unchanged tr j o := by
  unfold Unchanged; rw [am.prev, am.agrees.st, h]

theorem w_of_reject {E : Enc} {s : State} {m : Msg} {o : MObs} (ha : Agrees E s m o) {c : Int} {d : List String}
    (he : (mstep s m).2 = reject m.req c d) :
    o.w = refusal m c (if c == codeUnsupportedProtocolVersion then some d else none) := by
  have := ha.w
  rw [he] at this
  unfold reject refusal at *
  cases hid : m.req.hasId with
  | true => simpa [hid, answer, wOf] using this
  | false => simpa [hid, answer, wOf] using this

theorem w_of_reject_nodata {E : Enc} {s : State} {m : Msg} {o : MObs} (ha : Agrees E s m o) {c : Int}
    (he : (mstep s m).2 = reject m.req c) (hc : c ≠ -32022) : o.w = refusal m c none := by
  rw [w_of_reject ha he, code_ne c hc]; rfl

theorem refused_obs {E : Enc} {tv : List String} {tr : Hist} {j : Nat} {m : Msg} {o : MObs} {s : State}
    (am : AtModel E tv tr j m o s) (hside : m.side = .server) {c : Int} {d : List String}
    (he : admitReq s m.req = (s, reject m.req c d)) :
    o.mw = false ∧ o.uh = false ∧ Unchanged tr j o ∧
    (m.req.hasId = true → o.w = .err c (if c == codeUnsupportedProtocolVersion then some d else none)) := by
  rw [← mstep_server hside] at he
  have hq := quiet_of_not_invoked am.agrees (by intro h res; rw [he]; exact reject_not_invoked _ _ _ _ _)
  exact ⟨hq.1, hq.2, unchanged_model am (by rw [he]), fun hid => by
    rw [w_of_reject am.agrees (congrArg Prod.snd he), refusal, if_pos hid]⟩

theorem name_mem_preInit {m : Msg} (hw : WfMsg m) {h : Method} (hm : m.req.method = some h)
    (hl : lifecycle.contains h = true) : m.mname ∈ preInitAllowed := by
  have := (wf_name_iff hw h).2 hm
  simp only [lifecycle, List.contains_cons, List.contains_nil, Bool.or_false, Bool.or_eq_true, beq_iff_eq] at hl
  rcases hl with rfl | rfl | rfl <;> (rw [this]; simp [preInitAllowed, Method.name])

/-- Table obligations that tie the names the property uses to the regenerated case lists. -/
theorem tbl_names_removed : ∀ x : Method, x.name ∉ removedNames → removedInNewProtocol.contains x = false :=
  fun _ hx => not_contains_of_name (by decide) hx

theorem tbl_names_lifecycle : ∀ x : Method, x.name ∈ ["initialize", "notifications/initialized", "ping"] →
    exemptFromInitGate.contains x = true ∧ removedInNewProtocol.contains x = true ∧ lifecycle.contains x = true := by
  intro x hx
  -- a method is determined by its name (`methodOfName_name`)
  have inj : ∀ y : Method, x.name = y.name → x = y := fun y h =>
    Option.some.inj ((methodOfName_name x).symm.trans (h ▸ methodOfName_name y))
  have : x ∈ lifecycle := by
    simp only [lifecycle, List.mem_cons, List.mem_nil_iff, or_false] at hx ⊢
    exact hx.imp (inj .initialize) (Or.imp (inj .notifications_initialized) (inj .ping))
  clear hx inj
  revert x
  decide

theorem tbl_names_not_lifecycle : ∀ x : Method, x.name ∉ ["initialize", "notifications/initialized", "ping"] →
    lifecycle.contains x = false :=
  fun _ hx => not_contains_of_name (by decide) hx

theorem tbl_names_discover : ∀ x : Method, x.name ≠ "server/discover" → newProtocolOnly.contains x = false :=
  fun _ hx => not_contains_of_name (names := ["server/discover"]) (by decide) (by simpa using hx)

/-- The envelope is past everything that precedes the method / id / params checks — in the model's terms. -/
theorem pastChecks_pastGate {s : State} {m : Msg} (hw : WfMsg m) (hside : m.side = .server)
    (pg : PastChecks s.tv s.init.isSome m) : PastGate s m.req := by
  obtain ⟨p1, p2, p3⟩ := pg
  have hnew : m.new = usesNew m.req := by simp [Msg.new, hside]
  cases hn : usesNew m.req with
  | true =>
    obtain ⟨a, b, c⟩ := p2 (by rw [hnew, hn])
    refine ⟨p1, (metaError_none_iff hn).2 a, ?_, ?_⟩
    · rw [unsupportedVersion_new _ hn, ← acceptedBy_iff hw, b]; rfl
    · intro code hg
      rw [hn] at hg
      cases hmeth : m.req.method with
      | none =>
        rw [hmeth] at hg
        unfold gate at hg
        cases hs : s.init.isSome <;> simp [hs] at hg
      | some x =>
        have hname := (wf_name_iff hw x).2 hmeth
        have hx : removedInNewProtocol.contains x = false := tbl_names_removed x (by rw [← hname]; exact c)
        have hx' : x ∉ removedInNewProtocol := by simpa using hx
        rw [hmeth] at hg
        unfold gate at hg
        simp only [hx', if_false] at hg
        by_cases hno : x ∈ newProtocolOnly
        · simp [hno, hx'] at hg
        · cases hs : s.init.isSome <;> simp [hno, hs, hx'] at hg
  | false =>
    obtain ⟨d, e⟩ := p3 hside (by rw [hnew, hn])
    refine ⟨p1, metaError_legacy hn, unsupportedVersion_legacy _ hn, ?_⟩
    intro code hg
    rw [hn] at hg
    cases hmeth : m.req.method with
    | none =>
      -- an unknown method passes only on an initialized session
      rcases e with e | e
      · rw [hmeth, e] at hg; unfold gate at hg; simp at hg
      · obtain ⟨x, _, hx⟩ := method_of_name_mem hw (L := lifecycle) e
        rw [hx] at hmeth; cases hmeth
    | some x =>
      have hname := (wf_name_iff hw x).2 hmeth
      have hdisc : newProtocolOnly.contains x = false := tbl_names_discover x (by rw [← hname]; exact d)
      have hdisc' : x ∉ newProtocolOnly := by simpa using hdisc
      rw [hmeth] at hg
      unfold gate at hg
      rcases e with e | e
      · rw [e] at hg
        by_cases hrem : x ∈ removedInNewProtocol
        · by_cases hex : x ∈ exemptFromInitGate <;> simp [hrem, hex] at hg
        · simp [hrem, hdisc'] at hg
      · obtain ⟨t1, t2, _⟩ := tbl_names_lifecycle x (by rw [← hname]; exact e)
        have t1' : x ∈ exemptFromInitGate := by simpa using t1
        have t2' : x ∈ removedInNewProtocol := by simpa using t2
        simp [t1', t2'] at hg

/-- The method / id / params rules, given the property's code mapping of the outcome. -/
theorem tail_codes {E : Enc} {t : List (Method × Flags)} {s : State} {m : Msg} {o : MObs} (ha : Agrees E s m o)
    (cs : CodeSpec t m.req (mstep s m).2) (hfl : flagsOf m = m.req.method.bind (lookup t)) :
    (flagsOf m = none → o.w = refusal m (-32601) none) ∧
    (∀ f, flagsOf m = some f → f.notification = true → m.req.hasId = true → o.w = .err (-32600) none) ∧
    (∀ f, flagsOf m = some f → f.notification = false → m.req.hasId = false → o.w = .none) ∧
    (∀ f, flagsOf m = some f → f.notification = !m.req.hasId → f.missingParamsOK = false →
      (m.req.params = .absent ∨ m.req.params = .null) → o.w = refusal m (-32600) none) ∧
    (∀ f, flagsOf m = some f → f.notification = !m.req.hasId →
      (m.req.params = .objUndecodable ∨ m.req.params = .wrongType) → o.w = refusal m (-32602) none) ∧
    (∀ f, flagsOf m = some f → f.notification = true → m.req.hasId = false →
      ¬ (f.missingParamsOK = false ∧ (m.req.params = .absent ∨ m.req.params = .null)) →
      ¬ (m.req.params = .objUndecodable ∨ m.req.params = .wrongType) → o.w = .none) := by
  rw [hfl]
  refine ⟨?_, ?_, ?_, ?_, ?_, ?_⟩
  · intro h; exact w_of_reject_nodata ha (cs.unknown h) (by decide)
  · intro f h1 h2 h3
    have := ha.w
    rw [cs.unexpectedId f h1 h2 h3] at this
    simpa [answer, wOf, code_ne (-32600) (by decide)] using this
  · intro f h1 h2 h3
    have := ha.w
    rw [cs.missingId f h1 h2 h3] at this
    simpa [answer, wOf] using this
  · intro f h1 h2 h3 h4; exact w_of_reject_nodata ha (cs.missingParams f h1 h2 h3 h4) (by decide)
  · intro f h1 h2 h3; exact w_of_reject_nodata ha (cs.undecodable f h1 h2 h3) (by decide)
  · intro f h1 h2 h3 h4 h5
    obtain ⟨x, res, _, e⟩ := cs.served f h1 (by rw [h2, h3]; rfl)
      (by
        cases hm : f.missingParamsOK with
        | true => exact Or.inl rfl
        | false =>
          right
          exact ⟨fun e => h4 ⟨hm, Or.inl e⟩, fun e => h4 ⟨hm, Or.inr e⟩⟩)
      ⟨fun e => h5 (Or.inl e), fun e => h5 (Or.inr e)⟩
    have := ha.w
    rw [e] at this
    simpa [answer, wOf, h3] using this

theorem init_none_of_not_seen {E : Enc} {tv : List String} {tr : Hist} {j : Nat} {m : Msg} {o : MObs} {s : State} (am : AtModel E tv tr j m o s)
    (hi : ¬ InitSeen tr j) : s.init = none := by
  have := mt (initSeen_model am).2 hi
  cases hx : s.init with
  | none => rfl
  | some _ => rw [hx] at this; simp at this

theorem legacy_usesNew {m : Msg} (hl : Legacy m) : usesNew m.req = false := by
  simpa [Msg.new, hl.1] using hl.2

theorem new_usesNew {m : Msg} (hn : New m) : usesNew m.req = true := by
  simpa [Msg.new, hn.1] using hn.2

theorem f4_method {m : Msg} (hw : WfMsg m) (hf : m.mname ∈ f4Methods) :
    ∃ x, m.req.method = some x ∧ lifecycle.contains x = false ∧ newProtocolOnly.contains x = false := by
  obtain ⟨x, hx, hm⟩ := method_of_name_mem hw
    (L := [.logging_setLevel, .resources_subscribe, .resources_unsubscribe, .notifications_roots_list_changed]) hf
  exact ⟨x, hm, (by decide : ∀ x ∈ [Method.logging_setLevel, .resources_subscribe, .resources_unsubscribe,
    .notifications_roots_list_changed], lifecycle.contains x = false ∧ newProtocolOnly.contains x = false) x hx⟩

theorem init_answers {s : State} {r : Req} (hm : r.method = some .initialize) (hs : s.init.isSome = true) :
    (admitReq s r).1 = s ∧ ∀ w, wOf (answer r (admitReq s r).2) w → w ≠ .ok := by
  rcases initialize_step s r hm with ⟨h, _⟩ | ⟨h1, _, h3⟩
  · rw [h] at hs; cases hs
  · refine ⟨h1, fun w hw hok => ?_⟩
    subst hok
    rcases h3 with h3 | ⟨_, _, h3⟩ <;> (rw [h3] at hw; simp [wOf] at hw)

theorem removed_method {m : Msg} (hw : WfMsg m) (hf : m.mname ∈ removedNames) :
    ∃ x, m.req.method = some x ∧ removedInNewProtocol.contains x = true := by
  obtain ⟨x, hx, hm⟩ := method_of_name_mem hw (L := specRemoved) hf
  exact ⟨x, hm, spec_removed_methods_listed x hx⟩

theorem not_invoked_uninit {m : Msg} {s : State} (hw : WfMsg m) (hl : Legacy m) (hs : s.init = none)
    (hp : m.mname ∉ preInitAllowed) (h : Method) (res : HRes) : (mstep s m).2 ≠ .invoked h res := by
  intro hinv
  rw [mstep_server hl.1] at hinv
  obtain ⟨hm, hlc⟩ := (legacy_uninit (legacy_usesNew hl) hs).1 h res hinv
  exact hp (name_mem_preInit hw hm hlc)

section Clauses
variable {E : Enc} {tv : List String} {tr : Hist} (hr : ModelRun E (fresh tv) tr)
include hr

/-! `m_…`: the model satisfies `P_…` — the two clauses whose proof stands apart from the cases of `model_satisfies_P`. -/

theorem m_initialized_handler_once : P_initialized_handler_once tr := by
  intro j m o hat hside hn hran
  have am := at_model hr hat
  have hm := (wf_name_iff am.wf .notifications_initialized).1 hn
  have hs := ran_initd hr j hat.le hran
  obtain ⟨_, h2⟩ := initialized_premature_or_repeated_rejected_state_unchanged _ m.req hm (Or.inr hs)
  cases huh : o.uh with
  | false => rfl
  | true => simp [initializedHandlerRuns, uh_initialized am.wf am.agrees hside hn huh] at h2

theorem m_error_codes : P_error_codes tv tr := by
  intro j m o hat want hrule
  have am := at_model hr hat
  have hinit : (prevState (tr.take j)).init.isSome = (stateAt (fresh tv) (tr.take j)).init.isSome := by
    rw [am.prev]; simp [stOf]
  rw [hinit] at hrule
  generalize hst : stateAt (fresh tv) (tr.take j) = s at am hrule
  have ha := am.agrees
  have htv := am.htv
  -- the method / id / params rules: on either side, the code mapping of that side's method table
  have tail : PastChecks tv s.init.isSome m → _ := fun pg => by
    cases hside : m.side with
    | client =>
      exact tail_codes (t := clientMethodInfos) ha (by simpa [mstep, hside] using reject_codes_client m.req pg.1)
        (by simp [flagsOf, hside])
    | server =>
      exact tail_codes (t := serverMethodInfos) ha (by
        rw [mstep_server hside]; exact reject_codes s m.req (pastChecks_pastGate am.wf hside (by rw [htv]; exact pg)))
        (by simp [flagsOf, hside])
  -- every other rule but the preempter's speaks of an envelope sent to the server
  have server : m.side = .server → (mstep s m = admitReq s m.req) ∧ m.new = usesNew m.req := fun hside =>
    ⟨mstep_server hside, by simp [Msg.new, hside]⟩
  have new_server : m.new = true → m.side = .server := fun h => by
    simp only [Msg.new, Bool.and_eq_true, beq_iff_eq] at h; exact h.1
  cases hrule with
  | preempt h1 =>
    have := ha.w
    rw [(answer_nothing_iff s m).2 (preemptDrops_noId h1)] at this
    exact this
  | metaIncomplete _ h2 h3 =>
    obtain ⟨hms, hnew⟩ := server (new_server h2)
    have he := new_protocol_requires_complete_meta s m.req (by rw [← hnew]; exact h2) h3
    exact w_of_reject_nodata ha (by rw [hms, he]) (by decide)
  | version _ h2 h3 h4 =>
    obtain ⟨hms, hnew⟩ := server (new_server h2)
    have hv : (acceptedVersions s.tv m.req).contains (metaVersion m.req) = false := by
      rw [htv, ← acceptedBy_iff am.wf]; exact h4
    have he := unsupported_version s m.req (by rw [← hnew]; exact h2) h3 hv
    rw [w_of_reject ha (by rw [hms, he]), htv, version_code]; rfl
  | removed _ h2 h3 h4 h5 =>
    obtain ⟨hms, hnew⟩ := server (new_server h2)
    obtain ⟨x, hx, hrem⟩ := removed_method am.wf h5
    have hv : CarriesValidMeta s.tv m.req := by
      rw [htv]; exact (validMeta_iff am.wf (new_server h2) tv).1 (by simp [validMeta, h2, h3, h4])
    have he := removed_methods_not_found s m.req x hv hx hrem
    exact w_of_reject_nodata ha (by rw [hms, he]) (by decide)
  | discoverLegacy _ hside h3 h4 =>
    obtain ⟨hms, hnew⟩ := server hside
    have hm := (wf_name_iff am.wf .server_discover).1 h4
    have he := (discover_only_new_protocol s m.req hm).1 (by rw [← hnew]; exact h3)
    exact w_of_reject_nodata ha (by rw [hms, he]) (by decide)
  | notInitialized _ hside h3 h4 h5 h6 =>
    obtain ⟨hms, hnew⟩ := server hside
    have hs : s.init = none := by
      cases hx : s.init with
      | none => rfl
      | some _ => rw [hx] at h5; cases h5
    have he := uninit_refusal (s := s) (r := m.req) (by rw [← hnew]; exact h3) hs (by
      intro x hx
      have hname := (wf_name_iff am.wf x).2 hx
      exact ⟨tbl_names_not_lifecycle x (by rw [← hname]; exact h6), tbl_names_discover x (by rw [← hname]; exact h4)⟩)
    exact w_of_reject_nodata ha (by rw [hms, he]) (by decide)
  | unknownMethod pg hf => exact (tail pg).1 hf
  | idOnNotification f pg hf h1 h2 => exact (tail pg).2.1 f hf h1 h2
  | callWithoutId f pg hf h1 h2 => exact (tail pg).2.2.1 f hf h1 h2
  | missingParams f pg hf h1 h2 h3 => exact (tail pg).2.2.2.1 f hf h1 h2 h3
  | undecodable f pg hf h1 _ h3 => exact (tail pg).2.2.2.2.1 f hf h1 h3
  | notification f pg hf h1 h2 h3 h4 => exact (tail pg).2.2.2.2.2 f hf h1 h2 h3 h4

theorem model_satisfies_P (cl : Clause) : P_of tv cl tr := by
  refine P_of.of_holds (fun j _ _ _ hj => ?_) fun j m o hat _ => ?_
  · obtain ⟨o, ho, _⟩ := hr j _ hj
    exact ⟨o, ho⟩
  have am := at_model hr hat
  cases cl with
  | dropped =>
    intro hid hw
    have := am.agrees.w
    -- nothing on the wire for a call: the model's answer would be `nothing`, which it is only for a notification
    cases hans : answer m.req (mstep (stateAt (fresh tv) (tr.take j)) m).2 with
    | nothing => rw [(answer_nothing_iff _ m).1 hans] at hid; cases hid
    | result => rw [hans, hw] at this; cases this
    | error c d => rw [hans, hw] at this; cases this
    | some_answer => rw [hans, hw] at this; rcases this with h | ⟨_, _, h⟩ <;> cases h
  | multi | stray =>
    intro n hw
    rcases w_shape am.agrees with h | h | ⟨_, _, h⟩ <;> (rw [hw] at h; cases h)
  | notifAnswered =>
    intro hid
    have := am.agrees.w
    rwa [(answer_nothing_iff _ m).2 hid] at this
  | malformed =>
    intro hw
    rcases w_shape am.agrees with h | h | ⟨_, _, h⟩ <;> (rw [hw] at h; cases h)
  | f12 | f13Elicit | f13ElicitComplete | f13Sampling | crash | tornDown | unreadable =>
    trivial
  | f4Served | servedBeforeInit =>
    intro hl hi hp
    exact quiet_of_not_invoked am.agrees (not_invoked_uninit am.wf hl (init_none_of_not_seen am hi) hp)
  | f4Passed =>
    intro hl hi hf hid
    obtain ⟨x, hx, h1, h2⟩ := f4_method am.wf hf
    have he := uninit_refusal (legacy_usesNew hl) (init_none_of_not_seen am hi)
      (by intro y hy; rw [hx] at hy; cases hy; exact ⟨h1, h2⟩)
    rw [(refused_obs am hl.1 he).2.2.2 hid, code_ne 0 (by decide)]; rfl
  | stateBeforeInit =>
    intro hl hi hne
    have hs := init_none_of_not_seen am hi
    apply unchanged_model am
    rw [mstep_server hl.1]
    exact (legacy_uninit (legacy_usesNew hl) hs).2 (fun e => hne ((wf_name_iff am.wf .initialize).2 e))
  | servedUnopened =>
    intro hl ho hp
    have hs : (stateAt (fresh tv) (tr.take j)).init = none := by
      cases hx : (stateAt (fresh tv) (tr.take j)).init with
      | none => rfl
      | some _ => exact absurd (am.opened (by rw [hx]; rfl)) ho
    have hni := not_invoked_uninit am.wf hl hs hp
    obtain ⟨a, b⟩ := quiet_of_not_invoked am.agrees hni
    refine ⟨a, b, ?_⟩
    rintro ⟨hid, hw⟩
    -- a result on the wire comes from a handler
    have := am.agrees.w
    cases hout : (mstep (stateAt (fresh tv) (tr.take j)) m).2 with
    | invoked h res => exact hni h res hout
    | rejected c d => rw [hout, hw] at this; simp [answer, wOf] at this
    | ignored => rw [hout, hw] at this; simp [answer, wOf] at this
  | secondInitAccepted =>
    intro hside hn hi
    have hm := (wf_name_iff am.wf .initialize).1 hn
    have := am.agrees.w
    rw [mstep_server hside] at this
    exact (init_answers hm ((initSeen_model am).1 hi)).2 _ this
  | secondInitState =>
    intro hside hn hi
    have hm := (wf_name_iff am.wf .initialize).1 hn
    apply unchanged_model am
    rw [mstep_server hside]
    exact (init_answers hm ((initSeen_model am).1 hi)).1
  | rejectedInitState =>
    intro hside hn hw
    have hm := (wf_name_iff am.wf .initialize).1 hn
    apply unchanged_model am
    rw [mstep_server hside]
    apply initialize_without_result_changes_nothing _ _ hm
    intro hres
    have := am.agrees.w
    rw [mstep_server hside, hres] at this
    exact hw this
  | initializedAccepted =>
    intro hside hn hpre
    have hm := (wf_name_iff am.wf .notifications_initialized).1 hn
    have hs : (stateAt (fresh tv) (tr.take j)).init = none ∨ (stateAt (fresh tv) (tr.take j)).initd = true := by
      rcases hpre with h | h
      · exact Or.inl (init_none_of_not_seen am h)
      · right; rw [am.prev] at h; exact h
    obtain ⟨h1, h2⟩ := initialized_premature_or_repeated_rejected_state_unchanged _ m.req hm hs
    refine ⟨?_, unchanged_model am (by rw [mstep_server hside]; exact h1)⟩
    cases huh : o.uh with
    | false => rfl
    | true => simp [initializedHandlerRuns, uh_initialized am.wf am.agrees hside hn huh] at h2
  | initializedTwice => exact m_initialized_handler_once hr j m o hat
  | pingNotServed =>
    intro hl hn hid h1 h2
    have hm := (wf_name_iff am.wf .ping).1 hn
    obtain ⟨_, e2⟩ := ping_always_served (stateAt (fresh tv) (tr.take j)) m.req hm hid (legacy_usesNew hl) ⟨h1, h2⟩
    have := am.agrees.w
    rw [mstep_server hl.1, e2] at this
    exact this
  | incompleteMeta =>
    intro hnw hmc
    obtain ⟨a, b, c, d⟩ := refused_obs am hnw.1 (new_protocol_requires_complete_meta _ m.req (new_usesNew hnw) hmc)
    exact ⟨a, b, c, fun hid => by rw [d hid, code_ne _ (by decide)]; rfl⟩
  | f34NotRefused =>
    intro hnw hmc hd hsup hnt
    have hnd : m.req.method ≠ some .server_discover := fun e => hd ((wf_name_iff am.wf .server_discover).2 e)
    obtain ⟨a, b, c, d⟩ := refused_obs am hnw.1 (per_request_version_refused_unless_transport_serves_it _ m.req hnd
      (new_usesNew hnw) hmc (by rw [am.htv]; simpa using hnt))
    exact ⟨a, b, c, fun hid => by rw [d hid, am.htv, version_code]; rfl⟩
  | f34SdkList | unsupportedVersion =>
    intro hnw hmc hacc
    have hv : (acceptedVersions (stateAt (fresh tv) (tr.take j)).tv m.req).contains (metaVersion m.req) = false := by
      rw [am.htv, ← acceptedBy_iff am.wf]; exact hacc
    obtain ⟨a, _, c, d⟩ := refused_obs am hnw.1 (unsupported_version _ m.req (new_usesNew hnw) hmc hv)
    exact ⟨a, c, fun hid => by rw [d hid, am.htv, version_code]; rfl⟩
  | removedMethod =>
    intro hnw hmc hacc hr'
    obtain ⟨x, hx, hrem⟩ := removed_method am.wf hr'
    have hv : CarriesValidMeta (stateAt (fresh tv) (tr.take j)).tv m.req := by
      rw [am.htv]
      exact (validMeta_iff am.wf hnw.1 tv).1 (by simp [validMeta, hnw.2, hmc, hacc])
    obtain ⟨a, _, _, d⟩ := refused_obs am hnw.1 (removed_methods_not_found _ m.req x hv hx hrem)
    exact ⟨a, fun hid => by rw [d hid, code_ne _ (by decide)]; rfl⟩
  | discoverLegacy =>
    intro hl hn
    have hm := (wf_name_iff am.wf .server_discover).1 hn
    obtain ⟨a, _, _, d⟩ := refused_obs am hl.1 ((discover_only_new_protocol _ m.req hm).1 (legacy_usesNew hl))
    exact ⟨a, fun hid => by rw [d hid, code_ne _ (by decide)]; rfl⟩
  | f16 _ | f17 _ | codeWrong _ => exact m_error_codes hr j m o hat

theorem monitor_accepts_model : runMon tv tr = none := by
  cases h : runMon tv tr with
  | none => rfl
  | some p =>
    obtain ⟨j, cl⟩ := p
    exact absurd (model_satisfies_P hr cl) (monitor_sound tv tr j cl h)

end Clauses

/-! ## Non-vacuity: the model produces a case for every list of envelopes -/

def wModel : Answer → W
  | .nothing => .none
  | .result => .ok
  | .error c d => .err c (if c == codeUnsupportedProtocolVersion then some d else none)
  | .some_answer => .ok

def isInvoked : Outcome → Bool
  | .invoked _ _ => true
  | _ => false

/-- The observation of an implementation that behaves exactly like the model (open answers: a result;
user handlers: not recorded). -/
def obsModel (E : Enc) (s : State) (m : Msg) : MObs :=
  { w := wModel (answer m.req (mstep s m).2), mw := isInvoked (mstep s m).2, uh := false, st := stOf E (mstep s m).1 }

theorem agrees_obsModel (E : Enc) (s : State) (m : Msg) : Agrees E s m (obsModel E s m) := by
  refine ⟨rfl, ?_, (by intro h; cases h), ?_⟩
  · simp only [obsModel]
    cases (mstep s m).2 <;> simp [isInvoked]
  · simp only [obsModel]
    cases answer m.req (mstep s m).2 <;> simp [wModel, wOf]

def histModel (E : Enc) : State → List Msg → Hist
  | _, [] => []
  | s, m :: ms => (m, .seen (obsModel E s m)) :: histModel E (mstep s m).1 ms

theorem modelRun_cons {E : Enc} {s0 : State} {m : Msg} {o : MObs} {h : Hist} (hw : WfMsg m) (ha : Agrees E s0 m o)
    (hr : ModelRun E (mstep s0 m).1 h) : ModelRun E s0 ((m, .seen o) :: h) := by
  intro j p hj
  cases j with
  | zero =>
    simp only [List.getElem?_cons_zero, Option.some.injEq] at hj
    subst hj
    exact ⟨o, rfl, hw, by simpa [stateAt] using ha⟩
  | succ k =>
    obtain ⟨o', h1, h2, h3⟩ := hr k p (by simpa using hj)
    refine ⟨o', h1, h2, ?_⟩
    simpa [stateAt] using h3

theorem modelRun_histModel (E : Enc) : ∀ (ms : List Msg) (s0 : State), (∀ m ∈ ms, WfMsg m) → ModelRun E s0 (histModel E s0 ms)
  | [], _, _ => by intro j p hj; simp [histModel] at hj
  | m :: ms, s0, hw => by
    exact modelRun_cons (hw m (by simp)) (agrees_obsModel E s0 m)
      (modelRun_histModel E ms _ (fun x hx => hw x (List.mem_cons_of_mem _ hx)))

theorem monitor_accepts_model_run (E : Enc) (tv : List String) (ms : List Msg) (hw : ∀ m ∈ ms, WfMsg m) :
    runMon tv (histModel E (fresh tv) ms) = none :=
  monitor_accepts_model (modelRun_histModel E ms (fresh tv) hw)

/-! Non-vacuity: observations the model does not allow, each with the clause reported on it (twelve of the clauses). -/
section Witness
def mkMsg (side : Side) (name : String) (hasId : Bool) (p : PShape := .objOk) (mt : MetaShape := .none) : Msg :=
  { side := side, mname := name, muts := [], req := { method := methodOfName name, hasId := hasId, params := p, «meta» := mt } }
def sdk : List String := supportedProtocolVersions
def quiet (w : W) : Obs := .seen { w := w, mw := false, uh := false, st := {} }
def ran (w : W) : Obs := .seen { w := w, mw := true, uh := true, st := {} }

example : runMon sdk [(mkMsg .server "tools/list" true, quiet .none)] = some (0, .dropped) := by decide +kernel
example : runMon sdk [(mkMsg .server "tools/list" true, ran .ok)] = some (0, .servedBeforeInit) := by decide +kernel
example : runMon sdk [(mkMsg .server "logging/setLevel" true, ran .ok)] = some (0, .f4Served) := by decide +kernel
example : runMon sdk [(mkMsg .server "logging/setLevel" true, quiet (.err (-32601) none))] = some (0, .f4Passed) := by decide +kernel
example : runMon sdk [(mkMsg .server "ping" true, quiet (.err 0 none))] = some (0, .pingNotServed) := by decide +kernel
example : runMon sdk [(mkMsg .server "tools/list" true .objOk (.ver "2026-07-28" .missing .ok), quiet (.err 0 none))]
    = some (0, .incompleteMeta) := by decide +kernel
example : runMon sdk [(mkMsg .server "tools/list" true .objOk (.ver "2027-01-01" .ok .ok), quiet (.err 0 none))]
    = some (0, .unsupportedVersion) := by decide +kernel
example : runMon ["2025-11-25"] [(mkMsg .server "tools/list" true .objOk (.ver "2026-07-28" .ok .ok), quiet (.err (-32022) (some sdk)))]
    = some (0, .f34NotRefused) := by decide +kernel
example : runMon sdk [(mkMsg .server "ping" true .objOk (.ver "2026-07-28" .ok .ok), quiet .ok)] = some (0, .removedMethod) := by decide +kernel
example : runMon sdk [(mkMsg .server "server/discover" true, quiet (.err 0 none))] = some (0, .discoverLegacy) := by decide +kernel
/-- C02, server side: an unknown method answered -32600 instead of -32601 (after a handshake) -/
example : runMon sdk [(mkMsg .server "initialize" true, .seen { w := .ok, mw := true, uh := false, st := { init := some "a" } }),
    (mkMsg .server "foo/bar" true, .seen { w := .err (-32600) none, mw := false, uh := false, st := { init := some "a" } })]
    = some (1, .codeWrong (.err (-32601) none)) := by decide +kernel
/-- C02, client receiving side: an unknown method answered -32600 instead of -32601 -/
example : runMon sdk [(mkMsg .client "tools/list" true, quiet (.err (-32600) none))] = some (0, .codeWrong (.err (-32601) none)) := by decide +kernel
/-- C02, client receiving side: an id on a notification-only method answered -32601 instead of -32600 -/
example : runMon sdk [(mkMsg .client "notifications/message" true, quiet (.err (-32601) none))]
    = some (0, .codeWrong (.err (-32600) none)) := by decide +kernel
/-- C02, client receiving side: undecodable params answered with a result instead of -32602 -/
example : runMon sdk [(mkMsg .client "sampling/createMessage" true .objUndecodable, quiet .ok)]
    = some (0, .codeWrong (.err (-32602) none)) := by decide +kernel
example : runMon sdk [(mkMsg .client "elicitation/create" true .absent, .panic)] = some (0, .f13Elicit) := by decide +kernel
/-- the model's own run of a handshake, a listing, a new-protocol call and a removed method: silent -/
example : runMon sdk (histModel ⟨fun i => i.tag ++ "@" ++ i.ver, id, rfl⟩ (fresh sdk)
    [mkMsg .server "tools/list" true, mkMsg .server "initialize" true, mkMsg .server "notifications/initialized" false,
     mkMsg .server "tools/list" true, mkMsg .server "ping" true .objOk (.ver "2026-07-28" .ok .ok),
     mkMsg .client "foo/bar" true]) = none := by decide +kernel
end Witness

end Gate
