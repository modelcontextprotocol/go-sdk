import McpModel.Gate.Monitor
import McpModel.Gate.Lemmas
/-!
# E3 `Gate`, stream `custom` — custom methods (`AddReceivingCustomMethod`) on the sessions of one server

The model (`step`; a transliteration of, in this order):

* `mcp/server.go`  `AddReceivingCustomMethod` — a name of the standard table is refused, any other name is
  written into `Server.receiveMethods` (never removed: `registered_mono`),
* `mcp/server.go`  `Server.receivingMethodInfos` / `ServerSession.receivingMethodInfos` — every session consults the server's
  CURRENT table (the SSE transport's HTTP pre-validation, `SSEServerTransport.ServeHTTP`, checks the standard table instead; no
  SSE kind is modelled),
* `mcp/streamable.go` `streamableServerConn.servePOST` — the HTTP pre-validation `checkRequest(jreq,
  c.server.receivingMethodInfos())` under a legacy `Mcp-Protocol-Version` header: an unknown method or a call
  method without id is turned away with HTTP 400 and no JSON-RPC message,
* `mcp/server.go`  `ServerSession.handle` default arm of the gate (a legacy envelope: refused with an uncoded
  error until `InitializeParams` is set), then `mcp/shared.go` `handleReceive`: `checkRequest`,
  `unmarshalParams`, the handler (`missingParamsOK`: nil params are handed to the handler).

Codes come from `Generated.Gate` (regenerated): `codeNone`, `checkUnknownMethod`, `decodeFailure`, and under the 2026-07-28
protocol `codeInvalidParams`, `codeMethodNotFound` (`modernAnswer`).

The typed monitor of the stream (`monitor`) is written from the property texts of C02 / C06; it keeps its own
memory (`Mem`: which registrations were ACKNOWLEDGED, which sessions exist and on which a handshake was
ANSWERED WITH A RESULT) and consults neither `step` nor the model state.  Its soundness and the bridge follow in the same file
(all of it is linked into the driver).

The second half of the file (`QState` …) is a development of its own on top of `step`: a registration racing a queued call.
-/
namespace Gate.Custom
open Generated.Gate

/-- `mem`: a raw JSON-RPC peer on an in-memory pipe; `http`: a session of a stateful StreamableHTTPHandler;
`cli`: a real `mcp.Client` on in-memory transports (`Client.Connect` performs the handshake; calls are made with
`AddSendingCustomMethod` + `CallCustomMethod`) — the same server side as `mem`; `hnew`: the STATELESS
StreamableHTTPHandler addressed under the 2026-07-28 protocol (`Mcp-Protocol-Version` / `Mcp-Method` headers, complete
per-request `_meta` in object params): every call is its own POST on a temporary session, no handshake. -/
inductive Kind | mem | http | cli | hnew
deriving DecidableEq, Repr

structure Sess where
  kind : Kind
  init : Bool   -- `InitializeParams` is set
deriving DecidableEq, Repr

structure State where
  registered : List String := []   -- `Server.receiveMethods` minus the standard table
  sess : List Sess := []
deriving DecidableEq, Repr

/-- One raw envelope naming a method that is not in the standard table. -/
structure Call where
  k : Nat            -- the session it is sent on
  name : String
  hasId : Bool
  params : PShape
deriving DecidableEq, Repr

inductive Op
  | reg (n : String)         -- AddReceivingCustomMethod(server, n, echo)
  | openS (kind : Kind)      -- a new session (http: by its initialize POST and the initialized notification)
  | hs (k : Nat)             -- initialize + notifications/initialized on pipe session k
  | call (c : Call)
deriving DecidableEq, Repr

def isStandard (n : String) : Bool := ((methodOfName n).bind (lookup serverMethodInfos)).isSome

inductive Ans
  | nothing              -- no message (pipe: nothing written; http: 202 without a message)
  | result
  | error (code : Int)
  | httpRefused          -- HTTP 400 from the pre-validation, no JSON-RPC message
deriving DecidableEq, Repr

structure Out where
  ans : Ans
  ran : Bool             -- the method's handler ran
deriving DecidableEq, Repr

/-- `shadows`: a standard name, registration refused; `fail`: a second handshake; `na`: no such session, or nothing to shake hands on. -/
inductive Res
  | ok | shadows | fail | na
  | out (o : Out)
deriving DecidableEq, Repr

def badParams (p : PShape) : Bool := p == .objUndecodable || p == .wrongType

/-- `ServerSession.handle` (default arm of the gate) then `handleReceive`, for a legacy envelope. -/
def sessionAnswer (reg : List String) (init : Bool) (c : Call) : Out :=
  if !init then ⟨if c.hasId then .error codeNone else .nothing, false⟩
  else if !reg.contains c.name then ⟨if c.hasId then .error checkUnknownMethod else .nothing, false⟩
  else if !c.hasId then ⟨.nothing, false⟩                       -- checkRequest: missing id; not answered
  else if badParams c.params then ⟨.error decodeFailure, false⟩
  else ⟨.result, true⟩

/-- `servePOST`: `checkRequest` against the server's current table, then the session. -/
def httpAnswer (reg : List String) (init : Bool) (c : Call) : Out :=
  if !reg.contains c.name then ⟨.httpRefused, false⟩
  else if !c.hasId then ⟨.httpRefused, false⟩
  else sessionAnswer reg init c

/-- `servePOST` under a `Mcp-Protocol-Version` ≥ 2026-07-28 header, then the temporary session (`serveEphemeral`):
an unknown method of a call is answered -32601 as a JSON-RPC error bearing the id (HTTP 404), any other
`checkRequest` failure is HTTP 400 without a message; params that are no object cannot carry the per-request `_meta`
the header announces: -32602 (HTTP 400); otherwise the session serves the request without a handshake (the gate's
default arm adopts the `_meta` identity) and `unmarshalParams` decides. -/
def modernAnswer (reg : List String) (c : Call) : Out :=
  if !reg.contains c.name then (if c.hasId then ⟨.error checkUnknownMethod, false⟩ else ⟨.httpRefused, false⟩)
  else if !c.hasId then ⟨.httpRefused, false⟩
  else if !c.params.isObject then ⟨.error codeInvalidParams, false⟩
  else if badParams c.params then ⟨.error decodeFailure, false⟩
  else ⟨.result, true⟩

def answerOn (reg : List String) (s : Sess) (c : Call) : Out :=
  match s.kind with
  | .mem | .cli => sessionAnswer reg s.init c
  | .http => httpAnswer reg s.init c
  | .hnew => modernAnswer reg c

def setInit : List Sess → Nat → List Sess
  | [], _ => []
  | s :: l, 0 => { s with init := true } :: l
  | s :: l, k + 1 => s :: setInit l k

def step (s : State) : Op → State × Res
  | .reg n => if isStandard n then (s, .shadows) else ({ s with registered := n :: s.registered }, .ok)
  | .openS .mem => ({ s with sess := s.sess ++ [⟨.mem, false⟩] }, .ok)
  | .openS .http => ({ s with sess := s.sess ++ [⟨.http, true⟩] }, .ok)
  | .openS .cli => ({ s with sess := s.sess ++ [⟨.cli, true⟩] }, .ok)
  | .openS .hnew => ({ s with sess := s.sess ++ [⟨.hnew, true⟩] }, .ok)
  | .hs k =>
    match s.sess[k]? with
    | some ⟨.mem, false⟩ => ({ s with sess := setInit s.sess k }, .ok)
    | some ⟨.mem, true⟩ => (s, .fail)            -- a second initialize is rejected
    | _ => (s, .na)
  | .call c =>
    match s.sess[c.k]? with
    | some x => (s, .out (answerOn s.registered x c))
    | none => (s, .na)

def run : State → List Op → State
  | s, [] => s
  | s, o :: l => run (step s o).1 l

theorem step_registered_mono (s : State) (o : Op) (n : String) (h : n ∈ s.registered) : n ∈ (step s o).1.registered := by
  cases o with
  | reg m => simp only [step]; split <;> simp [h]
  | openS k => cases k <;> simp [step, h]
  | hs k => simp only [step]; split <;> simp [h]
  | call c => simp only [step]; split <;> simp [h]

theorem registered_mono (n : String) : ∀ (l : List Op) (s : State), n ∈ s.registered → n ∈ (run s l).registered
  | [], _, h => h
  | o :: l, s, h => registered_mono n l _ (step_registered_mono s o n h)

theorem run_append : ∀ (a b : List Op) (s : State), run s (a ++ b) = run (run s a) b
  | [], _, _ => rfl
  | o :: a, b, s => run_append a b (step s o).1

/-! Each clause of the properties fixes some of: is the name registered, does the call carry an id, has the session
`InitializeParams`. The four lemmas say what `answerOn` is once those are fixed, on every kind of session. -/

theorem answerOn_registered {reg : List String} {x : Sess} {c : Call} (hk : c.name ∈ reg)
    (hid : c.hasId = true) (hi : x.init = true) :
    answerOn reg x c =
      if x.kind = .hnew ∧ c.params.isObject = false then ⟨.error codeInvalidParams, false⟩
      else ⟨if badParams c.params then .error decodeFailure else .result, !badParams c.params⟩ := by
  obtain ⟨kind, init⟩ := x
  subst hi
  cases kind
  case hnew => cases hp : c.params <;> simp [answerOn, modernAnswer, hk, hid, hp, PShape.isObject, badParams]
  all_goals cases hb : badParams c.params <;> simp [answerOn, httpAnswer, sessionAnswer, hk, hid, hb]

theorem answerOn_unknown {reg : List String} {x : Sess} {c : Call} (hk : c.name ∉ reg)
    (hid : c.hasId = true) (hi : x.init = true) :
    answerOn reg x c = ⟨if x.kind = .http then .httpRefused else .error checkUnknownMethod, false⟩ := by
  obtain ⟨kind, init⟩ := x
  subst hi
  cases kind <;> simp [answerOn, httpAnswer, modernAnswer, sessionAnswer, hk, hid]

theorem answerOn_uninit {reg : List String} {x : Sess} {c : Call} (hi : x.init = false) (hmod : x.kind ≠ .hnew) :
    answerOn reg x c =
      if x.kind = .http ∧ (c.name ∉ reg ∨ c.hasId = false) then ⟨.httpRefused, false⟩
      else ⟨if c.hasId then .error codeNone else .nothing, false⟩ := by
  obtain ⟨kind, init⟩ := x
  subst hi
  cases kind
  case hnew => exact absurd rfl hmod
  case http => by_cases hk : c.name ∈ reg <;> cases hid : c.hasId <;> simp [answerOn, httpAnswer, sessionAnswer, hk, hid]
  all_goals simp [answerOn, sessionAnswer]

theorem answerOn_noId {reg : List String} {x : Sess} {c : Call} (hid : c.hasId = false) :
    answerOn reg x c = ⟨if x.kind = .mem ∨ x.kind = .cli then .nothing else .httpRefused, false⟩ := by
  obtain ⟨kind, init⟩ := x
  cases kind <;> cases init <;> by_cases hk : c.name ∈ reg <;>
    simp [answerOn, httpAnswer, modernAnswer, sessionAnswer, hk, hid]

theorem modernAnswer_noObject {reg : List String} {c : Call} (hob : c.params.isObject = false) :
    (modernAnswer reg c).ran = false := by
  simp only [modernAnswer, hob]
  cases reg.contains c.name <;> cases c.hasId <;> rfl

/-- **C02 for custom methods, all histories.** Once `AddReceivingCustomMethod` accepted a name, a call of that
name that carries an id, on ANY initialized session of the server — a pipe or a streamable HTTP session, set up
before or after the registration, whatever was registered, opened or called in between — is answered with a
JSON-RPC message (a result, or -32602 when its params do not decode): never dropped, never turned away by the
HTTP pre-validation. -/
theorem registered_call_answered (s0 : State) (pre post : List Op) (n : String) (hn : isStandard n = false)
    (c : Call) (hc : c.name = n) (hid : c.hasId = true) (x : Sess)
    (hx : (run s0 (pre ++ [.reg n] ++ post)).sess[c.k]? = some x) (hi : x.init = true) :
    (answerOn (run s0 (pre ++ [.reg n] ++ post)).registered x c =
      if x.kind = .hnew ∧ c.params.isObject = false then ⟨.error codeInvalidParams, false⟩
      else ⟨if badParams c.params then .error decodeFailure else .result, !badParams c.params⟩) := by
  have hreg : n ∈ (run s0 (pre ++ [.reg n] ++ post)).registered := by
    rw [run_append, run_append]
    apply registered_mono
    simp [run, step, hn]
  exact answerOn_registered (hc ▸ hreg) hid hi

/-- **C06 for custom methods.** On a session without `InitializeParams` no custom method reaches its handler, and a call gets no
result (an error; on an http session an unknown name or a missing id is turned away with HTTP 400 instead). -/
theorem uninitialized_never_served (reg : List String) (x : Sess) (c : Call) (hi : x.init = false)
    (hmod : x.kind ≠ .hnew) :
    (answerOn reg x c).ran = false ∧ (answerOn reg x c).ans ≠ .result := by
  rw [answerOn_uninit hi hmod]
  split
  · simp
  · cases c.hasId <;> simp

theorem setInit_http : ∀ (l : List Sess) (k : Nat), (∀ x ∈ l, x.kind = .http → x.init = true) →
    ∀ x ∈ setInit l k, x.kind = .http → x.init = true
  | [], _, _, x, hx => by cases hx
  | a :: l, 0, h, x, hx => by
    rcases List.mem_cons.1 hx with rfl | hx
    · intro _; rfl
    · exact h x (List.mem_cons_of_mem _ hx)
  | a :: l, k + 1, h, x, hx => by
    rcases List.mem_cons.1 hx with rfl | hx
    · exact h _ (List.mem_cons_self ..)
    · exact setInit_http l k (fun y hy => h y (List.mem_cons_of_mem _ hy)) x hx

theorem step_openS (s : State) (k : Kind) : (step s (.openS k)).1.sess = s.sess ++ [⟨k, k != .mem⟩] := by
  cases k <;> rfl

/-- A streamable session is created by its `initialize` POST: it never exists uninitialized. -/
theorem http_sessions_initialized : ∀ (l : List Op) (s : State),
    (∀ x ∈ s.sess, x.kind = .http → x.init = true) → ∀ x ∈ (run s l).sess, x.kind = .http → x.init = true := by
  intro l
  induction l with
  | nil => intro s h; exact h
  | cons o l ih =>
    intro s h
    apply ih
    cases o with
    | reg m => simp only [step]; split <;> exact h
    | openS k =>
      intro x hx hk
      rw [step_openS, List.mem_append, List.mem_singleton] at hx
      rcases hx with hx | rfl
      · exact h x hx hk
      · cases hk; rfl
    | hs k =>
      simp only [step]
      split
      · exact setInit_http _ _ h
      · exact h
      · exact h
    | call c => simp only [step]; split <;> exact h

/-- What the implementation did on a call. -/
structure CObs where
  w : W                  -- the JSON-RPC answer (pipe: what was written back; http: the messages of the response body)
  http : Option Nat      -- the HTTP status (`none`: a pipe)
  ran : Nat              -- how often the method's handler ran
deriving DecidableEq, Repr

inductive Obs
  | ack (ok : Bool)      -- `creg`: accepted / refused; `copen`, `chs`: done / not done
  | na
  | called (o : CObs)
  | unreadable
deriving DecidableEq, Repr

/-- What the monitor remembers: the registrations that were acknowledged, and the sessions with whether a
handshake was answered with a result on them. -/
structure Mem where
  regd : List String := []
  sess : List Sess := []
deriving DecidableEq, Repr

inductive Clause
  | multi | stray | malformed | notifAnswered
  | beforeInit | dropped | unknownCode | paramsCode | ranTwice | modernNoMeta | unreadable
deriving DecidableEq, Repr

def Clause.pid : Clause → PID
  | .beforeInit | .modernNoMeta => .C06
  | _ => .C02

def isErr : W → Bool
  | .err _ _ => true
  | _ => false

def is4xx : Option Nat → Bool
  | some n => decide (400 ≤ n) && decide (n < 500)
  | none => false

def callRules (regd : List String) (x : Sess) (c : Call) (o : CObs) : List (Bool × Clause) :=
  let known := regd.contains c.name
  [ ((match o.w with | .multi _ => true | _ => false), .multi),
    ((match o.w with | .stray _ => true | _ => false), .stray),
    (o.w == .malformed, .malformed),
    (!c.hasId && o.w != .none, .notifAnswered),
    (!x.init && x.kind != .hnew && (o.ran != 0 || (c.hasId && !isErr o.w && !(x.kind == .http && o.w == .none && is4xx o.http))), .beforeInit),
    (x.init && c.hasId && known && o.w == .none, .dropped),
    (x.init && c.hasId && !known &&
      !(o.w == .err (-32601) none || (x.kind == .http && o.w == .none && is4xx o.http)), .unknownCode),
    (x.init && c.hasId && known && badParams c.params && (o.w != .err (-32602) none || o.ran != 0), .paramsCode),
    (decide (1 < o.ran), .ranTwice),
    (x.kind == .hnew && !c.params.isObject && o.ran != 0, .modernNoMeta) ]

def monitor (m : Mem) : Op → Obs → Option Clause
  | _, .unreadable => some .unreadable
  | .call c, .called o =>
    match m.sess[c.k]? with
    | some x => firstRule' (callRules m.regd x c o)
    | none => none
  | _, _ => none
where
  firstRule' (l : List (Bool × Clause)) : Option Clause := l.findSome? (fun p => if p.1 then some p.2 else none)

def memNext (m : Mem) : Op → Obs → Mem
  | .reg n, .ack true => { m with regd := n :: m.regd }
  | .openS .mem, .ack true => { m with sess := m.sess ++ [⟨.mem, false⟩] }
  | .openS .http, .ack ok => { m with sess := m.sess ++ [⟨.http, ok⟩] }
  | .openS .cli, .ack ok => { m with sess := m.sess ++ [⟨.cli, ok⟩] }
  | .openS .cli, _ => { m with sess := m.sess ++ [⟨.cli, false⟩] }
  | .openS .hnew, _ => { m with sess := m.sess ++ [⟨.hnew, true⟩] }
  | .openS .mem, _ => { m with sess := m.sess ++ [⟨.mem, false⟩] }
  | .openS .http, _ => { m with sess := m.sess ++ [⟨.http, false⟩] }
  | .hs k, .ack true => { m with sess := setInit m.sess k }
  | _, _ => m

/-- The property clauses for one call, as predicates (C02 / C06 texts; `regd`, `x`: what the history says). -/
def P (regd : List String) (x : Sess) (c : Call) (o : CObs) : Clause → Prop
  /- "exactly one response" -/
  | .multi => ∀ n, o.w ≠ .multi n
  /- "bearing that same id" -/
  | .stray => ∀ n, o.w ≠ .stray n
  | .malformed => o.w ≠ .malformed
  /- "notifications never receive a response" -/
  | .notifAnswered => c.hasId = false → o.w = .none
  /- C06: "nothing … reaches server-side handlers until an initialize request has been accepted" -/
  | .beforeInit => x.init = false → x.kind ≠ .hnew → o.ran = 0 ∧
      (c.hasId = true → isErr o.w = true ∨ (x.kind = .http ∧ o.w = .none ∧ is4xx o.http = true))
  /- "each well-formed request that carries an id receives … one response", for a method the server knows -/
  | .dropped => x.init = true → c.hasId = true → c.name ∈ regd → o.w ≠ .none
  /- "Unknown methods … -32601; an HTTP 4xx where the HTTP transports pre-validate" -/
  | .unknownCode => x.init = true → c.hasId = true → c.name ∉ regd →
      o.w = .err (-32601) none ∨ (x.kind = .http ∧ o.w = .none ∧ is4xx o.http = true)
  /- "undecodable parameters … -32602 … instead of being dropped" -/
  | .paramsCode => x.init = true → c.hasId = true → c.name ∈ regd → badParams c.params = true →
      o.w = .err (-32602) none ∧ o.ran = 0
  /- one call, one invocation -/
  | .ranTwice => o.ran ≤ 1
  /- C06: "Requests carrying the 2026-07-28 per-request metadata are served without a handshake only if that
  metadata is complete": params that are no object carry none -/
  | .modernNoMeta => x.kind = .hnew → c.params.isObject = false → o.ran = 0
  | .unreadable => True

/-- One goal per rule, in table order, against its line of `P`; the idea as at `Gate.c06_rows` (Sound.lean). -/
theorem rows (regd : List String) (x : Sess) (c : Call) (o : CObs) :
    ∀ p ∈ callRules regd x c o, (p.1 = false ↔ P regd x c o p.2) := by
  simp only [callRules, List.forall_mem_cons]
  refine ⟨?_, ?_, ?_, ?_, ?_, ?_, ?_, ?_, ?_, ?_, fun _ h => nomatch h⟩
  · cases hw : o.w <;> simp [P, hw]
  · cases hw : o.w <;> simp [P, hw]
  all_goals simp only [P, Bool.and_eq_false_imp, Bool.and_eq_true, and_imp, Bool.or_eq_true, Bool.or_eq_false_iff,
    bne_iff_ne, beq_iff_eq, ne_eq, List.contains_eq_mem, decide_eq_true_eq, decide_eq_false_iff_not, Bool.not_eq_eq_eq_not,
    Bool.not_true, Bool.not_false, bne_eq_false_iff_eq, beq_eq_false_iff_ne, Bool.not_eq_true, and_assoc,
    Classical.or_iff_not_imp_left, Nat.not_lt]

/-- **monitor_sound (custom).** A clause reported on a call contradicts the property clause it names.
(`hne` is not used: no rule of `callRules` reports `unreadable`.) -/
theorem monitor_sound (m : Mem) (c : Call) (o : CObs) (x : Sess) (cl : Clause) (hx : m.sess[c.k]? = some x)
    (h : monitor m (.call c) (.called o) = some cl) (hne : cl ≠ .unreadable) : ¬ P m.regd x c o cl := by
  simp only [monitor, hx] at h
  exact (firstRule_rows (rows m.regd x c o)).1 cl h

theorem monitor_complete (m : Mem) (c : Call) (o : CObs) (x : Sess) (hx : m.sess[c.k]? = some x)
    (h : monitor m (.call c) (.called o) = none) (cl : Clause) : P m.regd x c o cl := by
  simp only [monitor, hx] at h
  have H := (firstRule_rows (rows m.regd x c o)).2 h
  simp only [callRules, List.forall_mem_cons] at H
  obtain ⟨r1, r2, r3, r4, r5, r6, r7, r8, r9, r10, -⟩ := H
  cases cl <;> first | assumption | trivial

def wOfAns : Ans → W
  | .nothing => .none
  | .result => .ok
  | .error c => .err c none
  | .httpRefused => .none

/-- The observation the model's step produces (second component of `CObs`: the HTTP status shown for an http session). -/
def obsOf (kind : Kind) : Res → Obs
  | .ok => .ack true
  | .shadows => .ack false
  | .fail => .ack false
  | .na => .na
  | .out o => .called ⟨wOfAns o.ans,
      (match kind with
        | .mem | .cli => none
        | .http => some (match o.ans with | .httpRefused => 400 | .nothing => 202 | _ => 200)
        -- extractErrorStatus: under the new protocol -32601 is HTTP 404, -32602 is HTTP 400
        | .hnew => some (match o.ans with
            | .httpRefused => 400 | .nothing => 202 | .result => 200
            | .error c => if c == codeMethodNotFound then 404 else if c == codeInvalidParams then 400 else 200)),
      if o.ran then 1 else 0⟩

/-- `obsOf` reads the kind for an answered call only (`Res.out`): the `.mem` defaults are never looked at. -/
def kindOf (s : State) : Op → Kind
  | .call c => (match s.sess[c.k]? with | some x => x.kind | none => .mem)
  | _ => .mem

def memOf (s : State) : Mem := ⟨s.registered, s.sess⟩

theorem tbl_custom_codes : codeNone = 0 ∧ checkUnknownMethod = -32601 ∧ decodeFailure = -32602 := by decide
theorem tbl_custom_codes' : codeInvalidParams = -32602 ∧ codeMethodNotFound = -32601 := by decide

/-- **The model satisfies every clause**: what `answerOn` does on a call, shown as `obsOf` shows it, meets each
property clause — whatever is registered, on every kind of session. -/
theorem model_call_P (reg : List String) (x : Sess) (c : Call) {o : CObs}
    (ho : obsOf x.kind (.out (answerOn reg x c)) = .called o) (cl : Clause) : P reg x c o cl := by
  obtain ⟨t1, t2, t3⟩ := tbl_custom_codes
  obtain ⟨t4, t5⟩ := tbl_custom_codes'
  simp only [obsOf, Obs.called.injEq] at ho
  subst ho
  have shape : ∀ a : Ans, wOfAns a = .none ∨ wOfAns a = .ok ∨ ∃ code, wOfAns a = .err code none := by
    intro a; cases a <;> simp [wOfAns]
  cases cl with
  | multi => intro n hw; rcases shape (answerOn reg x c).ans with h | h | ⟨_, h⟩ <;> (rw [h] at hw; cases hw)
  | stray => intro n hw; rcases shape (answerOn reg x c).ans with h | h | ⟨_, h⟩ <;> (rw [h] at hw; cases hw)
  | malformed => intro hw; rcases shape (answerOn reg x c).ans with h | h | ⟨_, h⟩ <;> (rw [h] at hw; cases hw)
  | notifAnswered =>
    intro hid
    simp only [answerOn_noId hid]
    split <;> rfl
  | beforeInit =>
    intro hi hmod
    simp only [answerOn_uninit hi hmod]
    split
    · rename_i h
      simp [h.1, wOfAns, is4xx]
    · simp only [Bool.false_eq_true, if_false, true_and]
      intro hid
      simp [hid, wOfAns, isErr]
  | dropped =>
    intro hi hid hk
    simp only [answerOn_registered hk hid hi]
    split
    · simp [wOfAns]
    · cases badParams c.params <;> simp [wOfAns]
  | unknownCode =>
    intro hi hid hk
    simp only [answerOn_unknown hk hid hi]
    by_cases hh : x.kind = .http
    · simp [hh, wOfAns, is4xx]
    · simp [hh, wOfAns, t2]
  | paramsCode =>
    intro hi hid hk hb
    simp only [answerOn_registered hk hid hi, hb]
    split <;> simp [wOfAns, t3, t4]
  | ranTwice => simp only [P]; split <;> decide
  | modernNoMeta =>
    intro hk hob
    simp only [answerOn, hk, modernAnswer_noObject hob]
    rfl
  | unreadable => trivial

theorem step_accepted (s : State) (o : Op) :
    monitor (memOf s) o (obsOf (kindOf s o) (step s o).2) = none ∧
    memNext (memOf s) o (obsOf (kindOf s o) (step s o).2) = memOf (step s o).1 := by
  cases o with
  | reg n =>
    simp only [step]
    split <;> simp [monitor, obsOf, memNext, memOf]
  | openS k => cases k <;> simp [step, monitor, obsOf, memNext, memOf]
  | hs k =>
    simp only [step]
    split <;> simp [monitor, obsOf, memNext, memOf]
  | call c =>
    simp only [step]
    cases hx : s.sess[c.k]? with
    | none => simp [monitor, obsOf, memNext, memOf]
    | some x =>
      have hkind : kindOf s (.call c) = x.kind := by simp [kindOf, hx]
      rw [hkind]
      refine ⟨?_, rfl⟩
      -- a report would contradict the clause it names, and the model satisfies every clause
      cases hm : monitor (memOf s) (.call c) (obsOf x.kind (.out (answerOn s.registered x c))) with
      | none => rfl
      | some cl =>
        simp only [obsOf, monitor, memOf, hx] at hm
        exact absurd (model_call_P s.registered x c rfl cl) ((firstRule_rows (rows _ _ _ _)).1 cl hm)

def monRun : Mem → State → List Op → Option (Nat × Clause)
  | _, _, [] => none
  | m, s, o :: l =>
    match monitor m o (obsOf (kindOf s o) (step s o).2) with
    | some cl => some (0, cl)
    | none => (monRun (memNext m o (obsOf (kindOf s o) (step s o).2)) (step s o).1 l).map (fun p => (p.1 + 1, p.2))

theorem monitor_accepts_model : ∀ (l : List Op) (s : State), monRun (memOf s) s l = none
  | [], _ => rfl
  | o :: l, s => by
    obtain ⟨h1, h2⟩ := step_accepted s o
    simp only [monRun, h1, h2]
    rw [monitor_accepts_model l]
    rfl

/-! ## A registration racing a call in flight: two labels

A call written to a pipe session whose queue is stopped (a notification handler of the session has not returned:
notifications are handled synchronously on the jsonrpc2 queue) has been READ but not yet looked up. Label 1
(`callq`) = the envelope is queued; label 2 (`release`) = the queue runs and `handleReceive` consults the server's
table AS IT IS THEN. `AddReceivingCustomMethod` may fall before label 1, between the two labels, or after label 2. -/

structure QState where
  base : State := {}
  /-- the held pipe sessions, each with the calls queued on it -/
  queues : List (Nat × List Call) := []
deriving DecidableEq, Repr

def heldQ (q : QState) (k : Nat) : Option (List Call) := (q.queues.find? (fun p => p.1 == k)).map (·.2)

inductive QOp
  | base (o : Op)
  | holdq (k : Nat)
  | callq (c : Call)
  | release (k : Nat)
deriving DecidableEq, Repr

inductive QRes
  | base (r : Res)
  | ok | na | queued
  | released (outs : List Out)
deriving DecidableEq, Repr

def opSession : Op → Option Nat
  | .call c => some c.k
  | .hs k => some k
  | _ => none

def qstep (q : QState) : QOp → QState × QRes
  | .base o =>
    -- an envelope written to a held session would only be queued: not an operation of this label
    if ((opSession o).bind (heldQ q)).isSome then (q, .na)
    else ({ q with base := (step q.base o).1 }, .base (step q.base o).2)
  | .holdq k =>
    match q.base.sess[k]?, heldQ q k with
    | some ⟨.mem, true⟩, none => ({ q with queues := (k, []) :: q.queues }, .ok)
    | _, _ => (q, .na)
  | .callq c =>
    match heldQ q c.k with
    | some _ => ({ q with queues := q.queues.map (fun p => if p.1 == c.k then (p.1, p.2 ++ [c]) else p) }, .queued)
    | none => (q, .na)
  | .release k =>
    match heldQ q k with
    | some l => ({ q with queues := q.queues.filter (fun p => p.1 != k) },
                 .released (l.map (sessionAnswer q.base.registered true)))
    | none => (q, .na)

def qrun : QState → List QOp → QState
  | q, [] => q
  | q, o :: l => qrun (qstep q o).1 l

/-- An initialized session answers every call that carries an id: a result or an error, never nothing. -/
theorem sessionAnswer_answered (reg : List String) (c : Call) (hid : c.hasId = true) :
    (sessionAnswer reg true c).ans = .result ∨ ∃ code, (sessionAnswer reg true c).ans = .error code := by
  simp only [sessionAnswer, hid]
  by_cases h1 : c.name ∈ reg
  · by_cases h2 : badParams c.params = true
    · right; exact ⟨decodeFailure, by simp [h1, h2]⟩
    · left; simp [h1, h2]
  · right; exact ⟨checkUnknownMethod, by simp [h1]⟩

/-- **Exactly once, whatever the order.** When the queue of a held session runs, every call queued on it gets
exactly one outcome (the list of outcomes has the queue's length, in order), computed from the table as it is at
that moment; a call that carries an id is answered with a result or an error — never dropped — whether the
registration of its method fell before it was written, while it was queued, or comes only afterwards. -/
theorem release_answers_each_once (q : QState) (k : Nat) (l : List Call) (h : heldQ q k = some l) :
    (qstep q (.release k)).2 = .released (l.map (sessionAnswer q.base.registered true)) ∧
    (l.map (sessionAnswer q.base.registered true)).length = l.length ∧
    ∀ c ∈ l, c.hasId = true →
      (sessionAnswer q.base.registered true c).ans = .result ∨ ∃ code, (sessionAnswer q.base.registered true c).ans = .error code := by
  refine ⟨by simp [qstep, h], by simp, fun c _ hid => sessionAnswer_answered _ c hid⟩

/-- A registration between the two labels does not touch the queue and is visible to label 2. -/
theorem reg_between_labels (q : QState) (n : String) (hn : isStandard n = false) :
    (qstep q (.base (.reg n))).1.queues = q.queues ∧ n ∈ (qstep q (.base (.reg n))).1.base.registered := by
  simp [qstep, opSession, step, hn]

/-- **Both orders.** The call is queued first; if the registration falls before the queue runs the handler's
result is the answer, if the queue runs first the answer is method-not-found — one answer either way. -/
theorem race_both_orders (q : QState) (k : Nat) (n : String) (c : Call) (hn : isStandard n = false)
    (hc : c.name = n) (hid : c.hasId = true) (hb : badParams c.params = false)
    (hnot : n ∉ q.base.registered) (hq : heldQ q k = some [c]) :
    (qstep (qstep q (.base (.reg n))).1 (.release k)).2 = .released [⟨.result, true⟩] ∧
    (qstep q (.release k)).2 = .released [⟨.error checkUnknownMethod, false⟩] := by
  have h1 : heldQ (qstep q (.base (.reg n))).1 k = some [c] := by
    simp only [heldQ, (reg_between_labels q n hn).1]; exact hq
  have hreg : (qstep q (.base (.reg n))).1.base.registered = n :: q.base.registered := by
    simp [qstep, opSession, step, hn]
  constructor
  · generalize (qstep q (.base (.reg n))).1 = q' at h1 hreg
    simp [qstep, h1, hreg, sessionAnswer, hid, hb, hc]
  · have : c.name ∉ q.base.registered := by rw [hc]; exact hnot
    simp [qstep, hq, sessionAnswer, hid, this]

/-- The monitor of label 2: every queued call that carries an id has an answer, none is answered twice or with
another id, and a queued notification is not answered. `ws`: what came back per queued call, in order. -/
def monitorRelease : List Call → List W → Option Clause
  | [], [] => none
  | c :: l, w :: ws =>
    if c.hasId && w == .none then some .dropped
    else if (match w with | .multi _ => true | _ => false) then some .multi
    else if (match w with | .stray _ => true | _ => false) then some .stray
    else if !c.hasId && w != .none then some .notifAnswered
    else monitorRelease l ws
  | _, _ => some .unreadable

theorem release_accepted (reg : List String) : ∀ l : List Call,
    monitorRelease l ((l.map (sessionAnswer reg true)).map (fun o => wOfAns o.ans)) = none
  | [] => rfl
  | c :: l => by
    simp only [List.map_cons, monitorRelease]
    rw [release_accepted reg l]
    cases hid : c.hasId
    · simp [sessionAnswer, hid, wOfAns]
    · rcases sessionAnswer_answered reg c hid with h | ⟨code, h⟩ <;> simp [h, wOfAns]

/-- Non-vacuity of the race: hold, queue the call, register, release — served; release first — not found. -/
example :
    (qstep (qrun { base := { sess := [⟨.mem, true⟩] } }
      [.holdq 0, .callq ⟨0, "acme/late", true, .objOk⟩, .base (.reg "acme/late")]) (.release 0)).2 =
      .released [⟨.result, true⟩] ∧
    (qstep (qrun { base := { sess := [⟨.mem, true⟩] } }
      [.holdq 0, .callq ⟨0, "acme/late", true, .objOk⟩]) (.release 0)).2 =
      .released [⟨.error (-32601), false⟩] := by decide +kernel

/-- Non-vacuity: a streamable session, THEN the registration, then the call — served (a connection that resolves the method
table once, at set-up, would drop it). -/
example : (step (run {} [.openS .http, .reg "acme/late"]) (.call ⟨0, "acme/late", true, .objOk⟩)).2 =
    .out ⟨.result, true⟩ := by decide +kernel

/-- … and the monitor reports `dropped` when that call is turned away with HTTP 400 and no message. -/
example : monitor ⟨["acme/late"], [⟨.http, true⟩]⟩ (.call ⟨0, "acme/late", true, .objOk⟩)
    (.called ⟨.none, some 400, 0⟩) = some .dropped := by decide +kernel

end Gate.Custom
