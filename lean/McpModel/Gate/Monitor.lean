import McpModel.Gate.Model
/-!
E3 — the typed core of the C06 / C02 monitors of the `envelopes` stream.

The driver (Driver.lean) parses an envelope record into a `Msg` (side, method NAME as sent, the request
descriptor, the member mutations) and the implementation's observation into an `Obs` (what went over
the wire in answer `W`, whether a receiving middleware / a user handler ran, the session state `St` the
implementation reports), calls `monitor`, and renders the `Clause`.  The monitors are written from the
property text — codes as literal numbers, the lifecycle methods named explicitly BY NAME — and read the
session state from the implementation's own observations; they consult neither `admitReq` nor the
model's state.  What they share with the model is how a request descriptor is READ (`preemptDrops`, `usesNew`, `metaComplete`,
`metaVersion`, `lookup` in the regenerated method tables, `supportedProtocolVersions`): a defect there is a defect of model,
monitor and clause predicates alike.  `Mon` is what they remember of a case: the previous observed session state, whether
an `initialize` was ANSWERED WITH A RESULT or a request carried valid per-request metadata (`opened`,
from the wire), the versions the case's transport serves (an input: the `tr` record), and whether a
crash was already reported.  The string layer — token parser, renderer, clause texts — is in
Driver.lean.  Core Lean only (linked into the driver).
-/
namespace Gate
open Generated.Gate

inductive Side | server | client
deriving DecidableEq, Repr

structure Msg where
  side : Side
  mname : String            -- the method name as written in the envelope
  req : Req
  muts : List String        -- member mutations applied to the params (`path:absent|null|wrong`)
  deriving Repr

/-- The method a name stands for (`none`: a name in neither method table). -/
def methodOfName (n : String) : Option Method := Method.all.find? (fun m => m.name == n)

/-- What went over the wire in answer to the envelope. -/
inductive W
  | none                                  -- nothing
  | ok                                    -- one response with a result
  | err (code : Int) (data : Option (List String))   -- one error response; `data`: the versions a -32022 carries
  | multi (n : String)                    -- more than one response
  | stray (n : String)                    -- a response bearing another id
  | malformed                             -- a response with neither result nor error
  | other                                 -- unreadable (no rule names it: reported only where `specWire` fixes the answer)
deriving DecidableEq, Repr

/-- `ServerSessionState` as the implementation reports it after the envelope. -/
structure St where
  init : Option String := none   -- InitializeParams: `<client name>@<version>` (hex), or nil
  initd : Bool := false          -- InitializedParams != nil
  level : String := ""           -- LogLevel (hex)
deriving DecidableEq, Repr

structure MObs where
  w : W
  mw : Bool      -- a receiving middleware / method handler ran
  uh : Bool      -- a user-level handler ran
  st : St
deriving DecidableEq, Repr

inductive Obs
  | panic              -- the process crashed while handling the envelope
  | stuck              -- the implementation stopped reading
  | seen (o : MObs)
  | unreadable
deriving DecidableEq, Repr

structure Mon where
  prevSt : St := {}               -- the implementation's session state after the previous envelope
  dead : Bool := false            -- a crash / teardown was already reported in this case
  /-- an earlier envelope of the case was an `initialize` ANSWERED WITH A RESULT, or carried complete
  per-request metadata naming a supported version: only then may feature traffic be served. Kept from
  what went over the wire, independently of what the implementation's session state claims. -/
  opened : Bool := false
  /-- the versions the case's transport serves: `filterSupportedVersions` of the predicate named by the
  `tr` record (an INPUT of the case; a case without `tr` record runs on a transport that serves all) -/
  tv : List String := supportedProtocolVersions
  /-- the `InitializedHandler` ran for an earlier `notifications/initialized` of the case: the monitor's own
  evidence (from the invocation counter, the property's `observe_at`) that the notification was accepted
  once, independent of the `InitializedParams` the implementation's session state claims -/
  initdRan : Bool := false

inductive Clause
  -- C02: one answer per call, none per notification
  | dropped | multi | stray | notifAnswered | malformed
  -- C02: crashes
  | f12 | f13Elicit | f13ElicitComplete | f13Sampling | crash | tornDown | unreadable
  -- C06
  | f4Served | servedBeforeInit | f4Passed | stateBeforeInit | servedUnopened
  | secondInitAccepted | secondInitState | rejectedInitState | initializedAccepted | pingNotServed
  | incompleteMeta | f34NotRefused | f34SdkList | unsupportedVersion | removedMethod | discoverLegacy
  | initializedTwice
  -- C02: the code mapping
  | f16 (want : W) | f17 (want : W) | codeWrong (want : W)
deriving DecidableEq, Repr

inductive PID | C02 | C06
deriving DecidableEq, Repr

def Clause.pid : Clause → PID
  | .f4Served | .servedBeforeInit | .f4Passed | .stateBeforeInit | .servedUnopened
  | .secondInitAccepted | .secondInitState | .rejectedInitState | .initializedAccepted | .pingNotServed
  | .incompleteMeta | .f34NotRefused | .f34SdkList | .unsupportedVersion | .removedMethod | .discoverLegacy
  | .initializedTwice => .C06
  | _ => .C02

def removedNames : List String :=
  ["initialize", "ping", "notifications/initialized", "notifications/roots/list_changed", "logging/setLevel",
   "resources/subscribe", "resources/unsubscribe"]

/-- What the property ALLOWS to reach a handler before `initialize`.  The refusal it ASKS for (`specWire`) exempts the three
lifecycle methods only: a cancellation may be served, it need not be. -/
def preInitAllowed : List String := ["initialize", "notifications/initialized", "ping", "notifications/cancelled"]
def f4Methods : List String := ["logging/setLevel", "resources/subscribe", "resources/unsubscribe", "notifications/roots/list_changed"]

/-- Known crash shapes (DESIGN §6): the clause names the defect when the envelope has exactly that shape. -/
def crashClause (m : Msg) : Clause :=
  let null (p : String) := m.muts.contains (p ++ ":null") || m.muts.contains (p ++ ":absent")
  if m.side == .server && m.mname == "tools/call" && m.muts.contains "arguments:null" then .f12
  else if m.side == .client && m.mname == "elicitation/create" && (m.req.params == .absent || m.req.params == .null) then .f13Elicit
  else if m.side == .client && m.mname == "notifications/elicitation/complete" && (m.req.params == .absent || m.req.params == .null) then
    .f13ElicitComplete
  else if m.side == .client && m.mname == "sampling/createMessage" && null "messages.0" then .f13Sampling
  else .crash

/-- The version named by `_meta` is one the request may name: one the session's TRANSPORT serves (F34
repair); the server/discover probe only has to name one the SDK knows. -/
def acceptedBy (tv : List String) (m : Msg) : Bool :=
  if m.mname == "server/discover" then supportedProtocolVersions.contains (metaVersion m.req)
  else tv.contains (metaVersion m.req)

/-- The request is sent to the server under the 2026-07-28 protocol. -/
def Msg.new (m : Msg) : Bool := m.side == .server && usesNew m.req

/-- The flags of the method in the receiving side's method table (`none`: unknown there). -/
def flagsOf (m : Msg) : Option Flags :=
  m.req.method.bind (lookup (if m.side == .server then serverMethodInfos else clientMethodInfos))

/-- What a refusal with code `c` looks like on the wire: an error response for a call, nothing for a
notification. -/
def refusal (m : Msg) (c : Int) (data : Option (List String)) : W := if m.req.hasId then .err c data else .none

/-- The method / id / params checks (once the envelope is past metadata, version and gate). -/
def specTail (m : Msg) : Option W :=
  let r := m.req
  match flagsOf m with
  | none => some (refusal m (-32601) none)
  | some f =>
    if f.notification && r.hasId then some (refusal m (-32600) none)
    else if !f.notification && !r.hasId then some .none
    else if !f.missingParamsOK && (r.params == .absent || r.params == .null) then some (refusal m (-32600) none)
    else if r.params == .objUndecodable || r.params == .wrongType then some (refusal m (-32602) none)
    else if !r.hasId then some .none
    else none

/-- The property's answer for an envelope, given only the implementation's own previous session
state. `none` = any single answer (the handler decides). Precedence as documented in Props.lean:
per-request metadata, then version, then the lifecycle gate, then method / id / params checks. -/
def specWire (tv : List String) (prevInit : Bool) (m : Msg) : Option W :=
  let r := m.req
  if preemptDrops r then some .none
  else if m.new && !metaComplete r then some (refusal m (-32602) none)
  else if m.new && !acceptedBy tv m then some (refusal m (-32022) (some tv))
  else if m.new && removedNames.contains m.mname then some (refusal m (-32601) none)
  else if m.side == .server && !m.new && m.mname == "server/discover" then some (refusal m (-32601) none)
  else if m.side == .server && !m.new && !prevInit && !(["initialize", "notifications/initialized", "ping"].contains m.mname) then
    some (refusal m 0 none)
  else specTail m

/-- The first rule of a list whose condition holds. -/
def firstRule (l : List (Bool × Clause)) : Option Clause :=
  l.findSome? (fun p => if p.1 then some p.2 else none)

/-- C02: one answer per call, none per notification. -/
def c02ShapeRules (m : Msg) (o : MObs) : List (Bool × Clause) :=
  [ (m.req.hasId && o.w == .none, .dropped),
    ((match o.w with | .multi _ => true | _ => false), .multi),
    ((match o.w with | .stray _ => true | _ => false), .stray),
    (!m.req.hasId && o.w != .none, .notifAnswered),
    (o.w == .malformed, .malformed) ]

def c02Shape (m : Msg) (o : MObs) : Option Clause := firstRule (c02ShapeRules m o)

/-- C06 (server side): the rules, in the order they are tried.  What a clause asks: its line of `Holds` (Sound.lean; `c06_rows`),
in words `clauseText` (Driver.lean).  `f4…`, `f34…` (and `f16`, `f17` of `c02Code`) name findings of DESIGN §0.3: such a rule
stands before the general one and reports the same violation by the defect's name when the envelope has exactly its shape. -/
def c06Rules (mon : Mon) (m : Msg) (o : MObs) : List (Bool × Clause) :=
  let r := m.req
  let prevInit := mon.prevSt.init.isSome
  let new := m.new
  let ran := o.mw || o.uh
  let changed := o.st != mon.prevSt
  [ (!new && !prevInit && ran && !preInitAllowed.contains m.mname && f4Methods.contains m.mname, .f4Served),
    (!new && !prevInit && ran && !preInitAllowed.contains m.mname, .servedBeforeInit),
    (!new && !prevInit && f4Methods.contains m.mname && r.hasId && o.w != .err 0 none, .f4Passed),
    (!new && !prevInit && changed && m.mname != "initialize", .stateBeforeInit),
    (!new && !mon.opened && (ran || (r.hasId && o.w == .ok)) && !preInitAllowed.contains m.mname, .servedUnopened),
    (m.mname == "initialize" && prevInit && o.w == .ok, .secondInitAccepted),
    (m.mname == "initialize" && prevInit && changed, .secondInitState),
    (m.mname == "initialize" && o.w != .ok && changed, .rejectedInitState),
    (m.mname == "notifications/initialized" && (!prevInit || mon.prevSt.initd) && (o.uh || changed), .initializedAccepted),
    (m.mname == "ping" && !new && r.hasId && (r.params != .objUndecodable && r.params != .wrongType) && o.w != .ok, .pingNotServed),
    (new && !metaComplete r && (ran || changed || (r.hasId && o.w != .err (-32602) none)), .incompleteMeta),
    (new && metaComplete r && m.mname != "server/discover" && supportedProtocolVersions.contains (metaVersion r) &&
      !mon.tv.contains (metaVersion r) && (ran || changed || (r.hasId && o.w != .err (-32022) (some mon.tv))), .f34NotRefused),
    (new && metaComplete r && !acceptedBy mon.tv m && !o.mw && !o.uh && !changed && r.hasId &&
      o.w == .err (-32022) (some supportedProtocolVersions) && o.w != .err (-32022) (some mon.tv), .f34SdkList),
    (new && metaComplete r && !acceptedBy mon.tv m && (o.mw || changed || (r.hasId && o.w != .err (-32022) (some mon.tv))),
      .unsupportedVersion),
    (new && metaComplete r && acceptedBy mon.tv m && removedNames.contains m.mname && (o.mw || (r.hasId && o.w != .err (-32601) none)),
      .removedMethod),
    (m.mname == "server/discover" && !new && (o.mw || (r.hasId && o.w != .err (-32601) none)), .discoverLegacy),
    (m.mname == "notifications/initialized" && mon.initdRan && o.uh, .initializedTwice) ]

def c06 (mon : Mon) (m : Msg) (o : MObs) : Option Clause :=
  if m.side != .server then none else firstRule (c06Rules mon m o)

/-- C02: the code mapping. -/
def c02Code (mon : Mon) (m : Msg) (o : MObs) : Option Clause :=
  let r := m.req
  match specWire mon.tv mon.prevSt.init.isSome m with
  | none => none
  | some want =>
    if o.w == want then none
    else if m.mname == "initialize" && (r.params == .null || r.params == .objUndecodable || r.params == .wrongType) && o.w == .err 0 none then
      some (.f16 want)
    else if m.mname == "notifications/cancelled" && r.hasId then some (.f17 want)
    else some (.codeWrong want)

/-- **The C06 / C02 monitor of one envelope.** -/
def monitor (mon : Mon) (m : Msg) (obs : Obs) : Option Clause :=
  if mon.dead then none
  else match obs with
    | .panic => some (crashClause m)
    | .stuck => some .tornDown
    | .unreadable => some .unreadable
    | .seen o => (c02Shape m o).orElse fun _ => (c06 mon m o).orElse fun _ => c02Code mon m o

/-- What the monitor remembers after the envelope. -/
def monNext (mon : Mon) (m : Msg) : Obs → Mon
  | .seen o =>
    let validMeta := m.new && metaComplete m.req && acceptedBy mon.tv m
    let accepted := m.side == .server && m.mname == "initialize" && o.w == .ok
    let ran := m.side == .server && m.mname == "notifications/initialized" && o.uh
    { mon with prevSt := o.st, opened := mon.opened || validMeta || accepted, initdRan := mon.initdRan || ran }
  | _ => { mon with dead := true }

/-- The monitor's memory at the start of a case (`runMon`: its transport's versions, then its envelopes with the observations). -/
def monStart (tv : List String) : Mon := { tv := tv }

def runFrom : Mon → Nat → List (Msg × Obs) → Option (Nat × Clause)
  | _, _, [] => none
  | mon, i, (m, o) :: tr =>
    match monitor mon m o with
    | some cl => some (i, cl)
    | none => runFrom (monNext mon m o) (i + 1) tr

def runMon (tv : List String) (tr : List (Msg × Obs)) : Option (Nat × Clause) := runFrom (monStart tv) 0 tr

def monAfter : Mon → List (Msg × Obs) → Mon
  | mon, [] => mon
  | mon, (m, o) :: tr => monAfter (monNext mon m o) tr

end Gate
