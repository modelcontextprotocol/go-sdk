import McpModel.Gate.Monitor
/-!
# E3 — a call handler held across the next envelope: nothing unserved leaks while `initialize` is being handled

Schedule axis `holdinit` of the `envelopes` stream: the receiving middleware parks an `initialize` that reached the
handler chain (nothing has been accepted yet: the method's function, which writes `InitializeParams`, has not run)
until the NEXT envelope has been written and the session is quiescent. The `mid` record is what is visible of that
next envelope at this point. In the code `initialize` is handled synchronously on the session's queue
(`ServerSession.handle` calls `jsonrpc2.Async` only for calls other than `initialize`: fact `gate.async_guard`), so
the next envelope is still waiting: `modelMid`.

The clause is C06's first sentence: "nothing other than initialize, the initialized notification, ping and
cancellation reaches server-side handlers until an initialize request has been ACCEPTED" — while the session's
initialize is still being handled none has been.
-/
namespace Gate

structure MidObs where
  mw : Bool      -- a receiving middleware / method handler ran for it
  uh : Bool      -- a user-level handler ran
  w : W          -- what was written back for it
deriving DecidableEq, Repr

/-- The monitor of the `mid` record. `prevInit` / `opened`: the implementation's own state, and the wire's evidence,
BEFORE the held initialize (the monitor's memory at that point); `mname`, `new`: the next envelope's method name and
whether it carries 2026-07-28 per-request metadata. -/
def midViolates (prevInit opened : Bool) (mname : String) (new : Bool) (o : MidObs) : Bool :=
  !new && !prevInit && !opened && !preInitAllowed.contains mname && (o.mw || o.uh || o.w == .ok)

def P_mid (prevInit opened : Bool) (mname : String) (new : Bool) (o : MidObs) : Prop :=
  new = false → prevInit = false → opened = false → mname ∉ preInitAllowed →
    o.mw = false ∧ o.uh = false ∧ o.w ≠ .ok

theorem mid_iff (prevInit opened : Bool) (mname : String) (new : Bool) (o : MidObs) :
    midViolates prevInit opened mname new o = false ↔ P_mid prevInit opened mname new o := by
  simp only [midViolates, P_mid, Bool.and_eq_false_imp, Bool.and_eq_true, and_imp, Bool.or_eq_false_iff, beq_eq_false_iff_ne,
    Bool.not_eq_eq_eq_not, Bool.not_true, List.contains_eq_mem, decide_eq_false_iff_not, ne_eq, and_assoc]

theorem mid_sound (prevInit opened : Bool) (mname : String) (new : Bool) (o : MidObs)
    (h : midViolates prevInit opened mname new o = true) : ¬ P_mid prevInit opened mname new o :=
  fun hP => by rw [(mid_iff ..).2 hP] at h; cases h

theorem mid_complete (prevInit opened : Bool) (mname : String) (new : Bool) (o : MidObs)
    (h : midViolates prevInit opened mname new o = false) : P_mid prevInit opened mname new o :=
  (mid_iff ..).1 h

def modelMid : MidObs := ⟨false, false, .none⟩

theorem mid_accepts_model (prevInit opened : Bool) (mname : String) (new : Bool) :
    midViolates prevInit opened mname new modelMid = false := by
  simp [midViolates, modelMid]

/-- Non-vacuity: a listing served while the first initialize is still being handled is reported. -/
example : midViolates false false "tools/list" false ⟨true, false, .ok⟩ = true := by decide
/-- … and a ping served meanwhile is not (the property allows it). -/
example : midViolates false false "ping" false ⟨true, false, .ok⟩ = false := by decide

end Gate
