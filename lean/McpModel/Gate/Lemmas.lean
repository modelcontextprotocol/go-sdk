import McpModel.Gate.Model
/-!
Helper lemmas for E3 `gate`. The `tbl_*` facts are closed facts about the regenerated tables of `Generated.Gate`, discharged by
`decide`: here, `tbl_names_*` / `tbl_all` in Accept.lean (method NAMES against the case lists), `tbl_custom_codes` in Custom.lean.
Besides a few anonymous `by decide` on the same constants and the evaluated `example`s they are where the proofs look inside the
tables: a change to a case list, a flag or a wrapped error code in the Go source re-opens these, and through them the property theorems
(`tbl_per_request_transport` and `tbl_preempt` excepted: stand-alone checks).
-/
namespace Gate
open Generated.Gate

/-- The lifecycle methods: the only ones the gate may let through before `initialize` was accepted.  = the regenerated
`exemptFromInitGate` (`tbl_exempt_lifecycle`); by NAME the monitor's three-element list (`tbl_names_lifecycle`, Accept.lean). -/
def lifecycle : List Method := [.initialize, .notifications_initialized, .ping]

/-- What the property allows to reach server-side handlers before `initialize` was accepted (by name: `preInitAllowed`, Monitor.lean). -/
def allowedBeforeInit : List Method := lifecycle ++ [.notifications_cancelled]

/-- Methods the 2026-07-28 protocol removed (SEP-2575), as the property names them: ⊆ the regenerated `removedInNewProtocol`
(`tbl_specRemoved`); by name `removedNames` (`tbl_names_removed`, Accept.lean). -/
def specRemoved : List Method :=
  [.initialize, .ping, .notifications_initialized, .notifications_roots_list_changed, .logging_setLevel,
   .resources_subscribe, .resources_unsubscribe]

/-- FALSE on the unrepaired tree (F4: `logging/setLevel`, `resources/subscribe`, `resources/unsubscribe`,
`notifications/roots/list_changed` sit in the exempt arm). -/
theorem tbl_exempt_lifecycle : exemptFromInitGate.all (fun m => lifecycle.contains m) = true := by decide

theorem tbl_specRemoved : specRemoved.all (fun m => removedInNewProtocol.contains m) = true := by decide

theorem tbl_gate_ping : ∀ b : Bool, gate b false (some .ping) = .pass := by decide
theorem tbl_gate_initialize_legacy : ∀ b : Bool, gate b false (some .initialize) = .pass := by decide
theorem tbl_gate_initialize_new : ∀ b : Bool, gate b true (some .initialize) = .refuse codeMethodNotFound := by decide
theorem tbl_gate_initialized_legacy : ∀ b : Bool, gate b false (some .notifications_initialized) = .pass := by decide
theorem tbl_gate_initialized_new : ∀ b : Bool, gate b true (some .notifications_initialized) = .refuse codeMethodNotFound := by decide
theorem tbl_gate_discover_legacy : ∀ b : Bool, gate b false (some .server_discover) = .refuse codeMethodNotFound := by decide
theorem tbl_gate_discover_new : ∀ b : Bool, gate b true (some .server_discover) = .pass := by decide

theorem tbl_flags_ping : lookup serverMethodInfos .ping = some { notification := false, missingParamsOK := true } := by decide
theorem tbl_flags_initialize :
    lookup serverMethodInfos .initialize = some { notification := false, missingParamsOK := false, customDecode := true } := by decide
theorem tbl_flags_initialized :
    lookup serverMethodInfos .notifications_initialized = some { notification := true, missingParamsOK := true } := by decide
theorem tbl_flags_discover :
    lookup serverMethodInfos .server_discover = some { notification := false, missingParamsOK := true } := by decide

/-- The codes each check answers with are the ones the properties name.
`initializeDecodeFailure` / `initializeNilParams` are FALSE on the unrepaired tree (F16). -/
theorem tbl_codes :
    codeMethodNotFound = -32601 ∧ codeInvalidParams = -32602 ∧ codeInvalidRequest = -32600 ∧
    codeUnsupportedProtocolVersion = -32022 ∧
    checkUnknownMethod = -32601 ∧ checkUnexpectedId = -32600 ∧ checkMissingId = -32600 ∧ checkMissingParams = -32600 ∧
    decodeFailure = -32602 ∧ decodeNilParams = -32600 ∧
    initializeDecodeFailure = -32602 ∧ initializeNilParams = -32600 ∧
    metaInvalidClientInfo = -32602 ∧ metaInvalidCapabilities = -32602 := by decide

theorem tbl_code_version : codeUnsupportedProtocolVersion = -32022 := tbl_codes.2.2.2.1

/-- The model checks the per-request version against the transport's versions unconditionally; this flag says the code does too
(FALSE on the unrepaired tree, F34: `handle` tests `supportedProtocolVersions`).  No proof uses it: it is there to fail the build
on a tree where the model would describe another code. -/
theorem tbl_per_request_transport : perRequestVersionsFromTransport = true := by decide

/-- Likewise for the preempter, which in the model looks at notifications only (FALSE on the unrepaired tree, F17); used by no proof. -/
theorem tbl_preempt : preemptNotificationsOnly = true := by decide

/-! Rule tables, stated for `List.findSome?` itself: `firstRule` and the custom stream's copy of it both unfold to it. -/

theorem firstRule_some {α : Type} {l : List (Bool × α)} {a : α}
    (h : l.findSome? (fun p => if p.1 then some p.2 else none) = some a) : (true, a) ∈ l := by
  obtain ⟨⟨b, c⟩, hp, hf⟩ := List.exists_of_findSome?_eq_some h
  cases b <;> simp at hf
  exact hf ▸ hp

theorem firstRule_none {α : Type} {l : List (Bool × α)}
    (h : l.findSome? (fun p => if p.1 then some p.2 else none) = none) : ∀ p ∈ l, p.1 = false := by
  intro p hp
  have := List.findSome?_eq_none_iff.1 h p hp
  cases hb : p.1 <;> simp [hb] at this ⊢

theorem firstRule_rows {κ : Type} {l : List (Bool × κ)} {P : κ → Prop} (rows : ∀ p ∈ l, (p.1 = false ↔ P p.2)) :
    (∀ k, l.findSome? (fun p => if p.1 then some p.2 else none) = some k → ¬ P k) ∧
    (l.findSome? (fun p => if p.1 then some p.2 else none) = none → ∀ p ∈ l, P p.2) :=
  ⟨fun _ h hP => Bool.noConfusion ((rows _ (firstRule_some h)).2 hP),
   fun h p hp => (rows p hp).1 (firstRule_none h p hp)⟩

theorem contains_of_all {l : List Method} {p : Method → Bool} (h : l.all p = true) {m : Method}
    (hm : l.contains m = true) : p m = true := by
  rw [List.all_eq_true] at h
  exact h m (by simpa using hm)

theorem reject_not_invoked (r : Req) (c : Int) (d : List String) (m : Method) (res : HRes) :
    reject r c d ≠ .invoked m res := by
  unfold reject; split <;> simp

theorem checkAndDecode_flags {t : List (Method × Flags)} {r : Req} {m : Method} {f : Flags}
    (hm : r.method = some m) (hl : lookup t m = some f) :
    checkAndDecode t r =
      if f.notification && r.hasId then .error checkUnexpectedId
      else if !f.notification && !r.hasId then .error checkMissingId
      else if !f.missingParamsOK && r.params == .absent then .error checkMissingParams
      else if r.params == .objUndecodable || r.params == .wrongType then
        .error (if f.customDecode then initializeDecodeFailure else decodeFailure)
      else if !f.missingParamsOK && r.params == .null then
        .error (if f.customDecode then initializeNilParams else decodeNilParams)
      else .ok m := by
  simp only [checkAndDecode, hm, hl]

theorem error_else_eq_ok {c : Prop} [Decidable c] {e : Int} {x : Except Int Method} {m : Method} :
    (if c then Except.error e else x) = .ok m ↔ ¬ c ∧ x = .ok m := by
  by_cases h : c <;> simp [h]

theorem checkAndDecode_ok_iff {t : List (Method × Flags)} {r : Req} {m : Method} :
    checkAndDecode t r = .ok m ↔ r.method = some m ∧ ∃ f, lookup t m = some f ∧ f.notification = !r.hasId ∧
      (f.missingParamsOK = true ∨ (r.params ≠ .absent ∧ r.params ≠ .null)) ∧
      r.params ≠ .objUndecodable ∧ r.params ≠ .wrongType := by
  cases hm : r.method with
  | none => simp [checkAndDecode, hm]
  | some m' =>
    cases hl : lookup t m' with
    | none =>
      simp only [checkAndDecode, hm, hl, reduceCtorEq, Option.some.injEq, false_iff]
      rintro ⟨rfl, f, hf, _⟩
      rw [hl] at hf; cases hf
    | some f =>
      rw [checkAndDecode_flags hm hl]
      simp only [error_else_eq_ok, Except.ok.injEq, Option.some.injEq]
      constructor
      · rintro ⟨h1, h2, h3, h4, h5, rfl⟩
        refine ⟨rfl, f, hl, ?_⟩
        cases hn : f.notification <;> cases hi : r.hasId <;> cases hp : f.missingParamsOK <;> simp_all
      · rintro ⟨rfl, f', hf', h1, h2, h3, h4⟩
        rw [hl] at hf'; cases hf'
        cases hi : r.hasId <;> cases hp : f.missingParamsOK <;> simp_all

theorem checkAndDecode_method {t : List (Method × Flags)} {r : Req} {m : Method}
    (h : checkAndDecode t r = .ok m) : r.method = some m :=
  (checkAndDecode_ok_iff.1 h).1

theorem preemptDrops_method {r : Req} {m : Method} (hm : r.method = some m) (hne : m ≠ .notifications_cancelled) :
    preemptDrops r = false := by
  simp [preemptDrops, hm, hne]

theorem preemptDrops_noId {r : Req} (h : preemptDrops r = true) : r.hasId = false := by
  unfold preemptDrops at h
  simp only [Bool.and_eq_true, Bool.not_eq_true'] at h
  exact h.1.2

/-- Nothing of higher precedence refuses `r` in state `s` (preempter, metadata, version, lifecycle gate). -/
def PastGate (s : State) (r : Req) : Prop :=
  preemptDrops r = false ∧ metaError r = none ∧ unsupportedVersion s.tv r = false ∧
  ∀ c, gate s.init.isSome (usesNew r) r.method ≠ .refuse c

/-- The state `handleReceive` runs in: `s`, with the `_meta` identity adopted where the gate says so. -/
def handed (s : State) (r : Req) : State := adopt s r (gate s.init.isSome (usesNew r) r.method)

/-! `ServerSession.handle`, stage by stage. Every refusal before `handleReceive` leaves the state as it was; the
silent drop of the preempter is the refusal of a notification, so `reject` describes it too. -/

theorem admit_preempt {s : State} {r : Req} (hp : preemptDrops r = true) (c : Int) (d : List String) :
    admitReq s r = (s, reject r c d) := by
  simp [admitReq, hp, reject, preemptDrops_noId hp]

theorem admit_metaError {s : State} {r : Req} {c : Int} (he : metaError r = some c) : admitReq s r = (s, reject r c) := by
  cases hp : preemptDrops r with
  | true => exact admit_preempt hp _ _
  | false => simp [admitReq, hp, he]

theorem admit_unsupported {s : State} {r : Req} (he : metaError r = none) (hu : unsupportedVersion s.tv r = true) :
    admitReq s r = (s, reject r codeUnsupportedProtocolVersion s.tv) := by
  cases hp : preemptDrops r with
  | true => exact admit_preempt hp _ _
  | false => simp [admitReq, hp, he, hu]

theorem admit_refuse {s : State} {r : Req} {c : Int} (he : metaError r = none) (hu : unsupportedVersion s.tv r = false)
    (hg : gate s.init.isSome (usesNew r) r.method = .refuse c) : admitReq s r = (s, reject r c) := by
  cases hp : preemptDrops r with
  | true => exact admit_preempt hp _ _
  | false => simp [admitReq, hp, he, hu, hg]

theorem admit_pastGate {s : State} {r : Req} (pg : PastGate s r) : admitReq s r = dispatch (handed s r) r := by
  obtain ⟨hp, he, hu, hg⟩ := pg
  simp only [admitReq, hp, he, hu, handed, Bool.false_eq_true, if_false]
  cases hgg : gate s.init.isSome (usesNew r) r.method with
  | refuse c => exact absurd hgg (hg c)
  | pass => rfl
  | passAdopt => rfl

/-- What one envelope can do to a session: it is refused before `handleReceive` and the state stays; or it is past the gate,
and `handleReceive` refuses it, or the method's function serves it, in the state the gate hands over. -/
theorem admit_step (s : State) (r : Req) :
    (∃ c d, admitReq s r = (s, reject r c d)) ∨
    (PastGate s r ∧
      ((∃ c, admitReq s r = (handed s r, reject r c)) ∨
       ∃ m, checkAndDecode serverMethodInfos r = .ok m ∧ r.method = some m ∧
         admitReq s r = ((serverHandler (handed s r) r m).1, .invoked m (serverHandler (handed s r) r m).2))) := by
  have key : (∃ c d, admitReq s r = (s, reject r c d)) ∨ PastGate s r := by
    cases hp : preemptDrops r with
    | true => exact Or.inl ⟨0, [], admit_preempt hp _ _⟩
    | false =>
      cases he : metaError r with
      | some c => exact Or.inl ⟨c, [], admit_metaError he⟩
      | none =>
        cases hu : unsupportedVersion s.tv r with
        | true => exact Or.inl ⟨_, _, admit_unsupported he hu⟩
        | false =>
          cases hg : gate s.init.isSome (usesNew r) r.method with
          | refuse c => exact Or.inl ⟨c, [], admit_refuse he hu hg⟩
          | pass => exact Or.inr ⟨hp, he, hu, fun c h => by rw [hg] at h; cases h⟩
          | passAdopt => exact Or.inr ⟨hp, he, hu, fun c h => by rw [hg] at h; cases h⟩
  refine key.imp_right fun pg => ⟨pg, ?_⟩
  rw [admit_pastGate pg]
  unfold dispatch
  cases h : checkAndDecode serverMethodInfos r with
  | error c => exact Or.inl ⟨c, rfl⟩
  | ok m => exact Or.inr ⟨m, rfl, checkAndDecode_method h, rfl⟩

theorem admit_invoked {s : State} {r : Req} {m : Method} {res : HRes} (h : (admitReq s r).2 = .invoked m res) :
    PastGate s r ∧ checkAndDecode serverMethodInfos r = .ok m ∧
    admitReq s r = ((serverHandler (handed s r) r m).1, .invoked m (serverHandler (handed s r) r m).2) := by
  rcases admit_step s r with ⟨c, d, e⟩ | ⟨pg, ⟨c, e⟩ | ⟨m', hcd, _, e⟩⟩ <;> rw [e] at h
  · exact absurd h (reject_not_invoked _ _ _ _ _)
  · exact absurd h (reject_not_invoked _ _ _ _ _)
  · cases h; exact ⟨pg, hcd, e⟩

theorem gate_uninit_legacy (m : Option Method) :
    (gate false false m = .pass ∧ ∃ m', m = some m' ∧ lifecycle.contains m' = true) ∨
    (gate false false m = .refuse codeMethodNotFound ∧ ∃ m', m = some m' ∧ newProtocolOnly.contains m' = true) ∨
    gate false false m = .refuse codeNone := by
  cases m with
  | none => exact Or.inr (Or.inr rfl)
  | some m' =>
    unfold gate
    by_cases hrem : m' ∈ removedInNewProtocol
    · by_cases hex : m' ∈ exemptFromInitGate
      · exact Or.inl ⟨by simp [hrem, hex], m', rfl, contains_of_all tbl_exempt_lifecycle (by simpa using hex)⟩
      · exact Or.inr (Or.inr (by simp [hrem, hex]))
    · by_cases hno : m' ∈ newProtocolOnly
      · exact Or.inr (Or.inl ⟨by simp [hrem, hno], m', rfl, by simpa using hno⟩)
      · exact Or.inr (Or.inr (by simp [hrem, hno]))

theorem gate_passAdopt {b new : Bool} {m : Option Method} (h : gate b new m = .passAdopt) : b = false ∧ new = true := by
  cases b <;> cases new
  case false.true => exact ⟨rfl, rfl⟩
  all_goals
    exfalso
    unfold gate at h
    cases m with
    | none => cases h
    | some m' =>
      simp only [Bool.not_true, Bool.not_false, Bool.false_and, Bool.and_false, Bool.and_self, Bool.false_eq_true,
        if_false, if_true] at h
      repeat' split at h
      all_goals cases h

theorem gate_init_never_adopts (b : Bool) (m : Option Method) : gate true b m ≠ .passAdopt :=
  fun h => by cases (gate_passAdopt h).1

theorem handed_tv (s : State) (r : Req) : (handed s r).tv = s.tv := by
  unfold handed; cases gate s.init.isSome (usesNew r) r.method <;> rfl

theorem handed_eq {s : State} {r : Req} (h : usesNew r = false ∨ s.init.isSome = true) : handed s r = s := by
  unfold handed
  cases hg : gate s.init.isSome (usesNew r) r.method <;> try rfl
  obtain ⟨h1, h2⟩ := gate_passAdopt hg
  rcases h with h | h <;> simp_all

theorem invoked_uninit_legacy {s : State} {r : Req} {m : Method} {res : HRes}
    (h : (admitReq s r).2 = .invoked m res) (hleg : usesNew r = false) (hs : s.init = none) :
    lifecycle.contains m = true := by
  obtain ⟨⟨_, _, _, hg⟩, hcd, _⟩ := admit_invoked h
  rw [hleg, hs, checkAndDecode_method hcd] at hg
  rcases gate_uninit_legacy (some m) with ⟨_, m', h1, h2⟩ | ⟨e, _⟩ | e
  · cases h1; exact h2
  · exact absurd e (hg _)
  · exact absurd e (hg _)

theorem invoked_method {s : State} {r : Req} {h : Method} {res : HRes} (hi : (admitReq s r).2 = .invoked h res) :
    r.method = some h :=
  checkAndDecode_method (admit_invoked hi).2.1

theorem invoked_call_hasId {s : State} {r : Req} {h : Method} {res : HRes} (hi : (admitReq s r).2 = .invoked h res)
    (f : Flags) (hf : lookup serverMethodInfos h = some f) (hn : f.notification = false) : r.hasId = true := by
  obtain ⟨_, f', hf', hid, _⟩ := checkAndDecode_ok_iff.1 (admit_invoked hi).2.1
  rw [hf] at hf'; cases hf'
  simpa [hn] using hid

theorem legacy_uninit {s : State} {r : Req} (hleg : usesNew r = false) (hs : s.init = none) :
    (∀ h res, (admitReq s r).2 = .invoked h res → r.method = some h ∧ lifecycle.contains h = true) ∧
    (r.method ≠ some .initialize → (admitReq s r).1 = s) := by
  refine ⟨fun h res hi => ⟨invoked_method hi, invoked_uninit_legacy hi hleg hs⟩, fun hne => ?_⟩
  have := admit_step s r
  rw [handed_eq (Or.inl hleg)] at this
  rcases this with ⟨c, d, e⟩ | ⟨_, ⟨c, e⟩ | ⟨m', _, hm, e⟩⟩
  · rw [e]
  · rw [e]
  · have hl := invoked_uninit_legacy (congrArg Prod.snd e) hleg hs
    have hm' : m' ≠ .initialize := fun e => hne (by rw [hm, e])
    rw [e]
    simp only [lifecycle, List.contains_cons, List.contains_nil, Bool.or_false, Bool.or_eq_true, beq_iff_eq] at hl
    rcases hl with rfl | rfl | rfl
    · exact absurd rfl hm'
    · simp [serverHandler, hs]
    · simp [serverHandler]

theorem metaError_none_iff {r : Req} (hn : usesNew r = true) : metaError r = none ↔ metaComplete r = true := by
  unfold metaError metaComplete
  cases hm : effMeta r with
  | none => unfold usesNew at hn; rw [hm] at hn; simp at hn
  | ver v caps ci =>
    simp only [hn, Bool.not_true, Bool.false_eq_true, if_false]
    cases caps <;> cases ci <;> simp

theorem metaError_of_incomplete {r : Req} (hn : usesNew r = true) (hc : metaComplete r = false) :
    metaError r = some codeInvalidParams := by
  unfold metaError
  unfold metaComplete at hc
  cases hm : effMeta r with
  | none => unfold usesNew at hn; rw [hm] at hn; simp at hn
  | ver v caps ci =>
    rw [hm] at hc
    simp only [hn, Bool.not_true, Bool.false_eq_true, if_false]
    have h1 : metaInvalidClientInfo = codeInvalidParams := by decide
    have h2 : metaInvalidCapabilities = codeInvalidParams := by decide
    cases caps <;> cases ci <;> simp_all

theorem metaError_legacy {r : Req} (hn : usesNew r = false) : metaError r = none := by
  unfold metaError
  cases hm : effMeta r with
  | none => rfl
  | ver v caps ci => simp [hn]

theorem unsupportedVersion_legacy {r : Req} (tv : List String) (hn : usesNew r = false) : unsupportedVersion tv r = false := by
  simp [unsupportedVersion, hn]

theorem unsupportedVersion_new {r : Req} (tv : List String) (hn : usesNew r = true) :
    unsupportedVersion tv r = !(acceptedVersions tv r).contains (metaVersion r) := by
  simp [unsupportedVersion, hn]

theorem serverHandler_initialize (s : State) (r : Req) :
    (initVersion s.tv r.iver = "" ∧ serverHandler s r .initialize = (s, .failUnsupported s.tv)) ∨
    (initVersion s.tv r.iver ≠ "" ∧ s.init.isSome = true ∧ serverHandler s r .initialize = (s, .fail codeNone)) ∨
    (initVersion s.tv r.iver ≠ "" ∧ s.init = none ∧
      serverHandler s r .initialize = ({ s with init := some ⟨r.tag, r.iver⟩ }, .ok)) := by
  by_cases hv : initVersion s.tv r.iver = ""
  · left; exact ⟨hv, by simp [serverHandler, hv]⟩
  · right
    cases hs : s.init with
    | none => right; exact ⟨hv, rfl, by simp [serverHandler, hv, hs]⟩
    | some i => left; exact ⟨hv, rfl, by simp [serverHandler, hv, hs]⟩

theorem serverHandler_frame (s : State) (r : Req) (m : Method) :
    (serverHandler s r m).1.tv = s.tv ∧ (s.initd = true → (serverHandler s r m).1.initd = true) ∧
    ((serverHandler s r m).1.init = s.init ∨
      (m = .initialize ∧ s.init = none ∧ (serverHandler s r m).2 = .ok) ∨ m = .server_discover) := by
  cases m
  case «initialize» =>
    rcases serverHandler_initialize s r with ⟨_, e⟩ | ⟨_, _, e⟩ | ⟨_, hs, e⟩ <;> rw [e]
    · exact ⟨rfl, id, Or.inl rfl⟩
    · exact ⟨rfl, id, Or.inl rfl⟩
    · exact ⟨rfl, id, Or.inr (Or.inl ⟨rfl, hs, rfl⟩)⟩
  case server_discover =>
    refine ⟨?_, ?_, Or.inr (Or.inr rfl)⟩
    · simp only [serverHandler]; split <;> rfl
    · simp only [serverHandler]; split <;> exact id
  case notifications_initialized =>
    simp only [serverHandler]
    split
    · exact ⟨rfl, id, Or.inl rfl⟩
    · split
      · exact ⟨rfl, id, Or.inl rfl⟩
      · exact ⟨rfl, fun _ => rfl, Or.inl rfl⟩
  all_goals exact ⟨rfl, id, Or.inl rfl⟩

theorem serverHandler_initialize_again (s : State) (r : Req) (h : s.init.isSome = true) :
    serverHandler s r .initialize = (s, .fail codeNone) ∨
    serverHandler s r .initialize = (s, .failUnsupported s.tv) := by
  rcases serverHandler_initialize s r with ⟨_, e⟩ | ⟨_, _, e⟩ | ⟨_, hs, _⟩
  · right; exact e
  · left; exact e
  · rw [hs] at h; cases h

theorem serverHandler_initialized_bad (s : State) (r : Req) (h : s.init = none ∨ s.initd = true) :
    serverHandler s r .notifications_initialized = (s, .fail codeNone) := by
  simp only [serverHandler]
  rcases h with h | h
  · simp [h]
  · split
    · rfl
    · simp

theorem serverHandler_initialized_ok (s : State) (r : Req)
    (h : (serverHandler s r .notifications_initialized).2 = .ok) :
    (serverHandler s r .notifications_initialized).1.initd = true := by
  simp only [serverHandler] at h ⊢
  split
  · simp_all
  · split <;> simp_all

theorem admit_initd_mono (s : State) (r : Req) (h : s.initd = true) : (admitReq s r).1.initd = true := by
  have h' : (handed s r).initd = true := by
    unfold handed; cases gate s.init.isSome (usesNew r) r.method <;> exact h
  rcases admit_step s r with ⟨c, d, e⟩ | ⟨_, ⟨c, e⟩ | ⟨m, _, _, e⟩⟩ <;> rw [e]
  · exact h
  · exact h'
  · exact (serverHandler_frame _ r m).2.1 h'

/-- The `InitializedHandler` runs only in the step that records `InitializedParams`. -/
theorem admit_initialized_ok (s : State) (r : Req)
    (hi : (admitReq s r).2 = .invoked .notifications_initialized .ok) : (admitReq s r).1.initd = true := by
  obtain ⟨_, _, e⟩ := admit_invoked hi
  rw [e] at hi ⊢
  exact serverHandler_initialized_ok _ r (Outcome.invoked.inj hi).2

theorem pastGate_legacy {s : State} {r : Req} {m : Method} (pg : PastGate s r) (hm : r.method = some m)
    (hg : ∀ b, gate b true (some m) = .refuse codeMethodNotFound) : usesNew r = false := by
  cases hn : usesNew r with
  | false => rfl
  | true => exact absurd (hg _) (by have := pg.2.2.2 codeMethodNotFound; rwa [hn, hm] at this)

theorem admit_legacy_refuse {s : State} {r : Req} {c : Int} (hleg : usesNew r = false)
    (hg : gate s.init.isSome false r.method = .refuse c) : admitReq s r = (s, reject r c) :=
  admit_refuse (metaError_legacy hleg) (unsupportedVersion_legacy _ hleg) (by rw [hleg]; exact hg)

theorem admit_legacy_pass {s : State} {r : Req} (hp : preemptDrops r = false) (hleg : usesNew r = false)
    (hg : gate s.init.isSome false r.method = .pass) : admitReq s r = dispatch s r := by
  rw [admit_pastGate ⟨hp, metaError_legacy hleg, unsupportedVersion_legacy _ hleg, by rw [hleg, hg]; intro c h; cases h⟩,
    handed_eq (Or.inl hleg)]

theorem dispatch_ok {s : State} {r : Req} {m : Method} (h : checkAndDecode serverMethodInfos r = .ok m) :
    dispatch s r = ((serverHandler s r m).1, .invoked m (serverHandler s r m).2) := by
  unfold dispatch; rw [h]

theorem answer_reject (r : Req) (c : Int) (d : List String) :
    answer r (reject r c d) = .nothing ∨ ∃ c' d', answer r (reject r c d) = .error c' d' := by
  unfold reject; cases r.hasId <;> simp [answer]

theorem uninit_refusal {s : State} {r : Req} (hleg : usesNew r = false) (hs : s.init = none)
    (hm : ∀ m, r.method = some m → lifecycle.contains m = false ∧ newProtocolOnly.contains m = false) :
    admitReq s r = (s, reject r 0) := by
  rcases gate_uninit_legacy r.method with ⟨_, m', h1, h2⟩ | ⟨_, m', h1, h2⟩ | e
  · rw [(hm m' h1).1] at h2; cases h2
  · rw [(hm m' h1).2] at h2; cases h2
  · exact admit_legacy_refuse hleg (by rw [hs]; exact e)

theorem initialize_step (s : State) (r : Req) (hm : r.method = some .initialize) :
    (s.init = none ∧ initVersion s.tv r.iver ≠ "" ∧ r.hasId = true ∧ (admitReq s r).2 = .invoked .initialize .ok) ∨
    ((admitReq s r).1 = s ∧ (admitReq s r).2 ≠ .invoked .initialize .ok ∧
      (answer r (admitReq s r).2 = .nothing ∨ ∃ c d, answer r (admitReq s r).2 = .error c d)) := by
  rcases admit_step s r with ⟨c, d, e⟩ | ⟨pg, h⟩
  · right; rw [e]; exact ⟨rfl, reject_not_invoked _ _ _ _ _, answer_reject r c d⟩
  · rw [handed_eq (Or.inl (pastGate_legacy pg hm tbl_gate_initialize_new))] at h
    rcases h with ⟨c, e⟩ | ⟨m, hcd, hmeth, e⟩ <;> rw [e]
    · right; exact ⟨rfl, reject_not_invoked _ _ _ _ _, answer_reject r c []⟩
    · rw [hm] at hmeth; cases hmeth
      -- `initialize` is a call method: it reached its handler, so it carries an id
      obtain ⟨_, f, hf, hid, _⟩ := checkAndDecode_ok_iff.1 hcd
      rw [tbl_flags_initialize] at hf; cases hf
      have hid : r.hasId = true := by simpa using hid
      rcases serverHandler_initialize s r with ⟨_, e2⟩ | ⟨_, _, e2⟩ | ⟨hv, hs, e2⟩ <;> rw [e2]
      · right; exact ⟨rfl, by simp, by simp [answer, hid]⟩
      · right; exact ⟨rfl, by simp, by simp [answer, hid]⟩
      · left; exact ⟨hs, hv, hid, rfl⟩

theorem admit_tv (s : State) (r : Req) : (admitReq s r).1.tv = s.tv := by
  rcases admit_step s r with ⟨c, d, e⟩ | ⟨_, ⟨c, e⟩ | ⟨m, _, _, e⟩⟩ <;> rw [e]
  · exact handed_tv s r
  · exact (serverHandler_frame _ r m).1.trans (handed_tv s r)

theorem trace_req_mem (s : State) (rs : List Req) (j : Nat) (hj : j < (trace s rs).length) :
    ((trace s rs)[j]).2.1 ∈ rs := by
  induction rs generalizing s j with
  | nil => simp [trace] at hj
  | cons r rs ih =>
    cases j with
    | zero => simp [trace]
    | succ j =>
      simp only [trace, List.getElem_cons_succ]
      exact List.mem_cons_of_mem _ (ih (admitReq s r).1 j (by simpa [trace] using hj))

theorem trace_append (s : State) (pre post : List Req) :
    trace s (pre ++ post) = trace s pre ++ trace (finalState s pre) post := by
  induction pre generalizing s with
  | nil => rfl
  | cons r pre ih => simp [trace, finalState, ih]

theorem finalState_append (s : State) (pre post : List Req) :
    finalState s (pre ++ post) = finalState (finalState s pre) post := by
  induction pre generalizing s with
  | nil => rfl
  | cons r pre ih => simp [finalState, ih]

theorem trace_entry (s : State) (rs : List Req) (j : Nat) (hj : j < (trace s rs).length) :
    ((trace s rs)[j]).2.2 = (admitReq ((trace s rs)[j]).1 ((trace s rs)[j]).2.1).2 ∧
    ((trace s rs)[j]).1.tv = s.tv := by
  induction rs generalizing s j with
  | nil => simp [trace] at hj
  | cons r rs ih =>
    cases j with
    | zero => simp [trace]
    | succ j =>
      have hj' : j < (trace (admitReq s r).1 rs).length := by simpa [trace] using hj
      have := ih (admitReq s r).1 j hj'
      simp only [trace, List.getElem_cons_succ]
      exact ⟨this.1, by rw [this.2, admit_tv]⟩

/-- The regenerated tables of the negotiate engine (`Generated.Negotiate`, translated from
`mcp/shared.go`) and of this engine describe the same version list and threshold. -/
theorem tbl_versions_agree :
    Generated.Negotiate.supportedProtocolVersions = supportedProtocolVersions ∧
    Generated.Negotiate.protocolVersion20260728 = newProtocolThreshold ∧
    Generated.Negotiate.protocolVersion20251125 = latestLegacyProtocolVersion := by decide

theorem tbl_fallback_legacy :
    latestLegacyProtocolVersion ∈ supportedProtocolVersions ∧ latestLegacyProtocolVersion < newProtocolThreshold := by
  decide

theorem tbl_empty_not_supported : "" ∉ supportedProtocolVersions := by decide

/-- The transport serves a version the `initialize` handshake can be negotiated to. -/
def ServesLegacy (tv : List String) : Prop :=
  ∃ v ∈ tv, v ∈ supportedProtocolVersions ∧ v < newProtocolThreshold

theorem negotiatedVersion_legacy (iver : String) :
    Generated.Negotiate.negotiatedVersion iver ∈ supportedProtocolVersions ∧
    Generated.Negotiate.negotiatedVersion iver < newProtocolThreshold := by
  obtain ⟨e1, e2, e3⟩ := tbl_versions_agree
  unfold Generated.Negotiate.negotiatedVersion
  rw [e1, e2, e3]
  split
  · rename_i h
    simp only [Bool.and_eq_true, List.contains_iff_mem, decide_eq_true_eq] at h
    exact h
  · exact tbl_fallback_legacy

theorem initVersion_spec (tv : List String) (iver : String) :
    (initVersion tv iver = "" ∧ ¬ ServesLegacy tv) ∨
    (initVersion tv iver ≠ "" ∧ initVersion tv iver ∈ tv ∧ initVersion tv iver ∈ supportedProtocolVersions ∧
      initVersion tv iver < newProtocolThreshold) := by
  obtain ⟨e1, e2, _⟩ := tbl_versions_agree
  obtain ⟨hn1, hn2⟩ := negotiatedVersion_legacy iver
  unfold initVersion Generated.Negotiate.legacyVersionFor
  rw [e1, e2]
  generalize Generated.Negotiate.negotiatedVersion iver = nv at hn1 hn2
  by_cases hc : tv.contains nv = true
  · rw [if_pos hc]
    exact Or.inr ⟨fun h => tbl_empty_not_supported (h ▸ hn1), by simpa using hc, hn1, hn2⟩
  · rw [if_neg hc]
    generalize hf : supportedProtocolVersions.find? (fun v => decide (v < newProtocolThreshold) && tv.contains v) = o
    cases o with
    | none =>
      refine Or.inl ⟨rfl, ?_⟩
      rintro ⟨w, hw, hws, hwl⟩
      have := List.find?_eq_none.1 hf w hws
      simp [hwl, hw] at this
    | some x =>
      have h1 := List.find?_some hf
      have h2 := List.mem_of_find?_eq_some hf
      simp only [Bool.and_eq_true, decide_eq_true_eq, List.contains_iff_mem] at h1
      exact Or.inr ⟨fun h => tbl_empty_not_supported ((show x = "" from h) ▸ h2), h1.2, h2, h1.1⟩

theorem initVersion_eq_empty_iff (tv : List String) (iver : String) :
    initVersion tv iver = "" ↔ ¬ ServesLegacy tv := by
  rcases initVersion_spec tv iver with ⟨h, hn⟩ | ⟨h, hm, hs, hl⟩
  · exact ⟨fun _ => hn, fun _ => h⟩
  · exact ⟨fun e => absurd e h, fun hn => absurd ⟨_, hm, hs, hl⟩ hn⟩

end Gate
