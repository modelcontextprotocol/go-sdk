import McpModel.SseClient.Bridge
/-!
# `sseclient`: the hypotheses of the bridge are satisfiable, and what happens without them
-/
namespace SseClient
open Wire Generated.Wire

/-- `event: endpoint` / `data: /m` (the data line ended by CRLF) -/
def exEp : Item := { fe := { lines := [⟨sse_eventKey, [32], epName, .lf⟩, ⟨sse_dataKey, [32], [47, 109], .crlf⟩] }, payload := .none, isEp := true }
/-- an event of another type with data: not a message -/
def exPing : Item := { fe := { lines := [⟨sse_eventKey, [32], [112], .lf⟩, ⟨sse_dataKey, [32], [107], .lf⟩] }, payload := .junk }
/-- `retry: 3` alone: no data, not dispatched -/
def exRetry : Item := { fe := { lines := [⟨sse_retryKey, [32], [51], .lf⟩] }, payload := .none }
/-- the initialize response as an UNNAMED event, its blank line ended by CRLF -/
def exR0 : Item := { fe := { lines := [⟨sse_dataKey, [], [123, 125], .lf⟩], endEol := .crlf }, payload := .resp 0 true }
/-- a server request; the `event: message` line AFTER the data line, a comment in between -/
def exQ : Item := { fe := { lines := [⟨sse_dataKey, [32], [113], .lf⟩, ⟨[], [], [32, 107], .lf⟩, ⟨sse_eventKey, [9], msgName, .lf⟩] }, payload := .req "i7" .ping }
/-- the response to call 1, data in two lines -/
def exR1 : Item := { fe := { lines := [⟨sse_dataKey, [32], [91], .lf⟩, ⟨sse_dataKey, [32], [93], .crlf⟩] }, payload := .resp 1 true }

def exScn : Scn := { base := [104, 58, 47, 47, 97, 47, 115], items := [exEp, exPing, exRetry, exR0, exQ, exR1] }   -- h://a/s

theorem exScn_wf : exScn.wf := by
  intro it hit l hl
  have h : (exScn.items.all (fun it => it.fe.lines.all wfFLine)) = true := by decide
  rw [List.all_eq_true] at h
  have h2 := h it hit
  rw [List.all_eq_true] at h2
  exact Wire.L.wfFLine_spec l (h2 l hl)

theorem exScn_labelled : exScn.labelled := by
  unfold Scn.labelled
  decide

/-- The hypotheses of `monitor_accepts_model_partial` are satisfiable — by a scenario with
an event of another type, an event without data, unnamed and named message events, a comment, multi-line
data and mixed line ends. -/
theorem exScn_healthy : Healthy exScn :=
  { wf := exScn_wf
    get := rfl
    posts := by
      intro p
      have h : exScn.pst = [] := rfl
      simp only [Scn.postOk, h, List.find?_nil, Option.map_none, Option.getD_none]
      decide
    ep := by decide
    labelled := exScn_labelled }

def exOps : List Op := [.feed 30 [30], .feed 40 [7, 33], .call 1 true, .feed 200 [200], .fin]

example : opsOK [] exOps = true := by decide

example : runMon exScn {} ((Op.connect :: exOps).zip (run exScn repaired {} (Op.connect :: exOps))) = none :=
  monitor_accepts_model_partial exScn exScn_healthy exOps (by decide)

/-- … and what the model does on that case: both calls complete, the request is answered, nothing for the
`ping` and `retry` events (non-vacuity of the run) -/
example : (run exScn repaired {} (Op.connect :: exOps)).flatten.contains (.done 1 (.res (some 1))) = true ∧
    (run exScn repaired {} (Op.connect :: exOps)).flatten.contains (.post (.resp "i7" none)) = true ∧
    (run exScn repaired {} (Op.connect :: exOps)).flatten.contains .connOk = true := by decide +kernel

/-- why the pump's filter is part of the tie: on the same case the filter that forwards everything (`asBuilt`)
tears the session down at the `ping` event, and the monitor says so (a clause is raised on that model) -/
example : (runMon exScn {} ((Op.connect :: exOps).zip (run exScn asBuilt {} (Op.connect :: exOps)))).isSome = true := by decide +kernel

/-- … and the seeded change C01-m11 / C02-m11 (only NAMED message events pass) loses the unnamed initialize
response: `c01Lost 0` -/
example : runMon exScn {} ((Op.connect :: exOps).zip (run exScn seededM11 {} (Op.connect :: exOps))) = some (.c01Lost 0 .plain true) := by
  decide +kernel

end SseClient
