import McpModel.SseClient.Monitor
import McpModel.Base.Logic
/-!
# Soundness of the `sseclient` monitor: every clause it raises contradicts C01 / C02 / C03 on the observed step

The property's reading of one observed step, as predicates on `Ctx` (= the scripted server's ground truth up
to and including the step + the implementation's observation tokens of the step); the comment of each
predicate says which sentence of the property it reads.  For what happened in EARLIER steps the predicates
read the monitor's own books `c.m` (`started`, `posted`, `finished`, `answered`, `nts`, `termSeen`): that
`monNext` keeps these books right is not a theorem of this file.

`sound_<clause>`: whenever `monCheck` raises the clause, the predicate it stands for is false.
`monitor_sound`: … for every clause at once (`Clause.pred`); `monCheck_silent`: hence no clause is raised on a step
on which all the predicates hold.  None of this mentions the model.
-/
namespace SseClient

/-- how often call `k` returned in this step -/
def Ctx.doneCount (c : Ctx) (k : Nat) : Nat := ((donesOf c.toks).filter (fun d => d.1 = k)).length

/-- C01 "completes exactly once": a call that returns was made, had not returned before, and returns once -/
def OnceOK (c : Ctx) : Prop :=
  ∀ d ∈ donesOf c.toks, (c.m.started.contains d.1 = true ∨ c.callsNow d.1 = true) ∧ c.m.finished.contains d.1 = false ∧ c.doneCount d.1 ≤ 1

/-- C01 "the peer's response to that very request": a result / a peer error is the received message event
bearing the call's id, payload intact -/
def OwnOK (c : Ctx) : Prop :=
  ∀ d ∈ donesOf c.toks,
    (∀ mk, d.2 = .res mk → c.hasResp d.1 true = true ∧ mk = c.expectedMarker d.1) ∧
    (∀ code, d.2 = .rpc code → c.hasResp d.1 false = true ∧ code = -31000 - (d.1 : Int)) ∧
    (∀ s, d.2 ≠ .other s)

/-- C01 "or with an error once the caller's context ends or the connection breaks or is closed" (the harness
never ends a caller's context before `fin`) -/
def ErrorsOK (c : Ctx) : Prop :=
  ∀ d ∈ donesOf c.toks, (d.2 = .err ∨ d.2 = .closed) → c.excused' = true

/-- C01 "calls started after that fail immediately with an error that identifies the connection as closed" -/
def LateOK (c : Ctx) : Prop :=
  c.m.termSeen = true →
    (∀ d ∈ donesOf c.toks, d.2 ≠ .err) ∧
    (∀ k l, c.op = .call k l → c.toks.contains .nosession = false → ∃ d ∈ donesOf c.toks, d.1 = k)

/-- C01 at Connect: it fails only when failing is excused, and it succeeds only after the server's positive
response to initialize was received -/
def ConnectOK (c : Ctx) : Prop :=
  (c.toks.contains .connErr = true → c.excused' = true) ∧ (c.toks.contains .connOk = true → c.hasResp 0 true = true)

/-- the session terminates (Wait returns) only when that is excused -/
def TermOK (c : Ctx) : Prop := c.toks.contains .term = true → c.excused' = true

/-- C01 "never stays blocked once the session has terminated" -/
def BlockedOK (c : Ctx) : Prop := c.op = .fin → c.m.termSeen = true → ∀ k, Tok.pend k ∉ c.toks

/-- what one live message item demands by the end of the step -/
def itemOK (c : Ctx) (p : Payload) : Prop :=
  match p with
  | .resp k ok =>
    if k = 0 ∧ ok = true then c.m.connRet = true ∨ c.toks.contains .connOk = true
    else c.m.posted.contains k = true → c.m.finished.contains k = false → ∃ d ∈ donesOf c.toks, d.1 = k
  | .req id _ => ∃ r ∈ respIdsOf c.toks, r.1 = id
  | _ => True

/-- C01 / C02 on a usable connection (every POST of the step accepted): every message event received in this
step was acted on — the call it answers completed, the request it carries was answered -/
def DeliveredOK (c : Ctx) : Prop :=
  (postsOf c.toks).any (fun p => !c.scn.postOk p) = false → ∀ ip ∈ c.live, itemOK c ip.2

/-- C02 "exactly one response bearing that same id": a response answers a received request of that id, there
are not more responses than requests, and it is of the kind the method demands -/
def AnswersOK (c : Ctx) : Prop :=
  ∀ pre r post, respIdsOf c.toks = pre ++ r :: post →
    c.reqCount r.1 ≠ 0 ∧
    ((c.m.answered ++ pre.map (·.1)).filter (· = r.1)).length + 1 ≤ c.reqCount r.1 ∧
    ((c.reqKinds r.1).contains r.2 = true ∨ (c.m.closeCalled = true ∧ r.2 = some Generated.SseClient.serverClosingCode))

/-- C03 "in the order received, each at most once, none that was not received": the notifications handled so
far, in handling order, are a subsequence of those received, in stream order.  `isSubseq` is the monitor's own
test, so `sound_c03Order` only turns its `= false` into `¬ … = true`: nothing independent of the monitor is
proved about order here. -/
def OrderOK (c : Ctx) : Prop := isSubseq (c.m.nts ++ ntsOf c.toks) c.notifs = true

/-- nothing outside the token grammar was observed (no leak, no panic, no unknown token) -/
def ExpectedOK (c : Ctx) : Prop := ∀ s, Tok.other s ∉ c.toks

def Clause.pred (c : Ctx) : Clause → Prop
  | .c01Twice _ => OnceOK c
  | .c01WrongResponse _ | .c01Unclassified _ => OwnOK c
  | .c01Spurious _ _ => ErrorsOK c
  | .c01LateNotClosed _ | .c01LateBlocked _ => LateOK c
  | .c01ConnectFailed _ | .c01ConnectNoResponse => ConnectOK c
  | .c01TermUnexpected _ => TermOK c
  | .c01BlockedAfterTerm _ => BlockedOK c
  | .c01Lost _ _ _ | .c02Unanswered _ _ _ => DeliveredOK c
  | .c02Foreign _ | .c02Twice _ | .c02WrongKind _ => AnswersOK c
  | .c03Order => OrderOK c
  | .unexpected _ => ExpectedOK c

theorem contains_true_of_mem {α} [BEq α] [LawfulBEq α] {l : List α} {a : α} (h : a ∈ l) : l.contains a = true := by
  simpa using h

/-- `seen` are completions of the same step: a call among them returns twice -/
theorem checkDone_sound (c : Ctx) (seen : List Nat) (d : Nat × Outcome) (cl : Clause)
    (h : checkDone c seen d.1 d.2 = some cl) (hmem : d ∈ donesOf c.toks)
    (hseen : seen.contains d.1 = true → 2 ≤ c.doneCount d.1) : ¬ cl.pred c := by
  obtain ⟨k, o⟩ := d
  intro hp
  unfold checkDone at h
  rw [ite_some_eq_some, ite_some_eq_some] at h
  rcases h with ⟨h1, rfl⟩ | ⟨_, ⟨h2, rfl⟩ | ⟨_, h⟩⟩
  · simp only [Bool.and_eq_true, Bool.not_eq_true'] at h1
    rcases (hp _ hmem).1 with h' | h'
    · rw [h1.1] at h'; cases h'
    · rw [h1.2] at h'; cases h'
  · obtain ⟨_, hf, hc⟩ := hp _ hmem
    rcases Bool.or_eq_true_iff.1 h2 with h2 | h2
    · rw [hf] at h2; cases h2
    · have := hseen h2; omega
  · cases o with
    | res mk =>
      simp only [ite_some_eq_some] at h
      rcases h with ⟨h3, rfl⟩ | ⟨_, ⟨h4, rfl⟩ | ⟨_, h⟩⟩
      · rw [((hp _ hmem).2.1 |> fun _ => ((hp _ hmem).1 mk rfl).1)] at h3; cases h3
      · exact h4 ((hp _ hmem).1 mk rfl).2
      · cases h
    | rpc code =>
      simp only [ite_some_eq_some] at h
      rcases h with ⟨h3, rfl⟩ | ⟨_, h⟩
      · obtain ⟨ha, hb⟩ := (hp _ hmem).2.1 code rfl
        simp [ha, hb] at h3
      · cases h
    | err =>
      simp only [ite_some_eq_some] at h
      rcases h with ⟨h3, rfl⟩ | ⟨_, ⟨h4, rfl⟩ | ⟨_, h⟩⟩
      · rw [hp _ hmem (Or.inl rfl)] at h3; cases h3
      · exact (hp h4).1 _ hmem rfl
      · cases h
    | closed =>
      simp only [ite_some_eq_some] at h
      rcases h with ⟨h3, rfl⟩ | ⟨_, h⟩
      · rw [hp _ hmem (Or.inr rfl)] at h3; cases h3
      · cases h
    | other s =>
      cases h
      exact (hp _ hmem).2.2 s rfl

/-- `seen` are the calls completed earlier in the step, `pre` their completions: one of them returning again
returns twice -/
theorem checkDones_sound_from (c : Ctx) (seen : List Nat) (pre l : List (Nat × Outcome)) (cl : Clause)
    (h : checkDones c seen l = some cl) (hl : donesOf c.toks = pre ++ l)
    (hseen : ∀ k, seen.contains k = true → k ∈ pre.map (·.1)) : ¬ cl.pred c := by
  induction l generalizing seen pre with
  | nil => cases h
  | cons d rest ih =>
    obtain ⟨k, o⟩ := d
    simp only [checkDones] at h
    split at h
    · rename_i cl' hc
      cases h
      refine checkDone_sound c seen (k, o) cl hc (hl ▸ List.mem_append_right _ (List.mem_cons_self ..)) fun hs => ?_
      obtain ⟨e, he, hk⟩ := List.mem_map.mp (hseen k hs)
      have h1 : 1 ≤ (pre.filter (fun x => x.1 = k)).length :=
        List.length_pos_of_mem (List.mem_filter.mpr ⟨he, by simp [hk]⟩)
      simp only [Ctx.doneCount, hl, List.filter_append, List.length_append, List.filter_cons, decide_true, ite_true,
        List.length_cons]
      omega
    · refine ih (k :: seen) (pre ++ [(k, o)]) h (by rw [hl, List.append_assoc]; rfl) fun k' hk' => ?_
      simp only [List.contains_cons, Bool.or_eq_true, beq_iff_eq] at hk'
      rw [List.map_append, List.mem_append]
      rcases hk' with rfl | hk'
      · exact .inr (List.mem_singleton.mpr rfl)
      · exact .inl (hseen _ hk')

theorem checkDones_sound (c : Ctx) (cl : Clause) (h : checkDones c [] (donesOf c.toks) = some cl) : ¬ cl.pred c :=
  checkDones_sound_from c [] [] _ cl h rfl fun _ h => by cases h

/-- `seen` counts, id by id, the responses of earlier steps and those of this step before `l` -/
theorem checkResps_sound_from (c : Ctx) (seen : List String) (pre l : List (String × Option Int)) (cl : Clause)
    (h : checkResps c seen l = some cl) (hl : respIdsOf c.toks = pre ++ l)
    (hseen : ∀ x, (seen.filter (· = x)).length = ((c.m.answered ++ pre.map (·.1)).filter (· = x)).length) : ¬ cl.pred c := by
  induction l generalizing seen pre with
  | nil => cases h
  | cons r rest ih =>
    obtain ⟨id, code⟩ := r
    simp only [checkResps, ite_some_eq_some] at h
    rcases h with ⟨h0, rfl⟩ | ⟨_, ⟨h1, rfl⟩ | ⟨_, ⟨h2, rfl⟩ | ⟨_, h⟩⟩⟩
    · exact fun hp => (hp pre _ rest hl).1 h0
    · intro hp
      have := (hp pre _ rest hl).2.1
      dsimp only at this
      rw [← hseen id] at this
      omega
    · simp only [Bool.not_eq_true', Bool.or_eq_false_iff, Bool.and_eq_false_imp, decide_eq_false_iff_not] at h2
      intro hp
      rcases (hp pre _ rest hl).2.2 with hk | hk
      · rw [h2.1] at hk; cases hk
      · exact h2.2 hk.1 hk.2
    refine ih (id :: seen) (pre ++ [(id, code)]) h (by rw [hl, List.append_assoc]; rfl) fun x => ?_
    have := hseen x
    simp only [List.map_append, List.filter_append, List.length_append, List.filter_cons, List.map_cons, List.map_nil,
      List.filter_nil] at this ⊢
    split <;> simp <;> omega

theorem checkResps_sound (c : Ctx) (cl : Clause) (h : checkResps c c.m.answered (respIdsOf c.toks) = some cl) : ¬ cl.pred c :=
  checkResps_sound_from c _ [] _ cl h rfl fun _ => by rw [List.map_nil, List.append_nil]

theorem some_eq_ite_some {b : Bool} {x cl : Clause} (h : some cl = (if b then some x else none)) : cl = x ∧ b = true := by
  cases b
  · cases h
  · exact ⟨Option.some.inj h, rfl⟩

theorem liveClause_sound (c : Ctx) (ip : Nat × Payload) (cl : Clause) (h : liveClause c ip.1 ip.2 = some cl)
    (hm : ip ∈ c.live) (hp : (postsOf c.toks).any (fun p => !c.scn.postOk p) = false) : ¬ cl.pred c := by
  obtain ⟨i, p⟩ := ip
  cases p with
  | resp k ok =>
    simp only [liveClause] at h
    by_cases hk : k = 0 ∧ ok = true
    · rw [if_pos hk] at h
      obtain ⟨rfl, hx⟩ := some_eq_ite_some h.symm
      simp only [Bool.and_eq_true, Bool.not_eq_true'] at hx
      intro hd
      have := hd hp _ hm
      simp only [itemOK] at this
      rw [if_pos hk] at this
      rcases this with h1 | h1
      · rw [hx.1] at h1; cases h1
      · rw [hx.2] at h1; cases h1
    · rw [if_neg hk] at h
      obtain ⟨rfl, hx⟩ := some_eq_ite_some h.symm
      simp only [Bool.and_eq_true, Bool.not_eq_true'] at hx
      intro hd
      have := hd hp _ hm
      simp only [itemOK] at this
      rw [if_neg hk] at this
      obtain ⟨d, hd1, hdk⟩ := this hx.1.1 hx.1.2
      have : (donesOf c.toks).any (fun d => d.1 = k) = true := List.any_eq_true.mpr ⟨d, hd1, by simp [hdk]⟩
      rw [this] at hx; cases hx.2
  | req id m =>
    simp only [liveClause] at h
    obtain ⟨rfl, hx⟩ := some_eq_ite_some h.symm
    intro hd
    obtain ⟨r, hr1, hr2⟩ := hd hp _ hm
    have : (respIdsOf c.toks).any (fun r => r.1 = id) = true := List.any_eq_true.mpr ⟨r, hr1, by simp [hr2]⟩
    rw [this] at hx; cases hx
  | _ => cases h

theorem checkLive_some (c : Ctx) (l : List (Nat × Payload)) (cl : Clause) (h : checkLive c l = some cl) :
    ∃ ip ∈ l, liveClause c ip.1 ip.2 = some cl := by
  induction l with
  | nil => cases h
  | cons ip rest ih =>
    simp only [checkLive] at h
    split at h
    · rename_i cl' hr
      cases h
      exact ⟨ip, List.mem_cons_self .., hr⟩
    · obtain ⟨ip', hm, hx⟩ := ih h
      exact ⟨ip', List.mem_cons_of_mem _ hm, hx⟩

theorem checkLive_sound (c : Ctx) (cl : Clause)
    (h : (if (postsOf c.toks).any (fun p => !c.scn.postOk p) then none else checkLive c c.live) = some cl) : ¬ cl.pred c := by
  by_cases hp : (postsOf c.toks).any (fun p => !c.scn.postOk p) = true
  · rw [if_pos hp] at h; cases h
  · rw [if_neg hp] at h
    obtain ⟨ip, hm, hc⟩ := checkLive_some c c.live cl h
    exact liveClause_sound c ip cl hc hm (Bool.not_eq_true _ ▸ hp)

theorem firstSome_mem {l : List (Option Clause)} {cl : Clause} (h : firstSome l = some cl) : some cl ∈ l := by
  induction l with
  | nil => simp [firstSome] at h
  | cons o rest ih =>
    cases o with
    | some x => simp only [firstSome] at h; cases h; simp
    | none => simp only [firstSome] at h; simp [ih h]

theorem monitor_sound (c : Ctx) (cl : Clause) (h : monCheck c = some cl) : ¬ cl.pred c := by
  have hm := firstSome_mem h
  simp only [List.mem_cons, List.not_mem_nil, or_false] at hm
  rcases hm with hm | hm | hm | hm | hm | hm | hm | hm | hm
  · -- an unexpected token
    obtain ⟨t, htm, hte⟩ := List.exists_of_findSome?_eq_some hm.symm
    cases t with
    | other s =>
      simp only [otherClause, Option.some.injEq] at hte
      subst hte
      intro hp; exact hp s htm
    | _ => simp [otherClause] at hte
  · exact checkDones_sound c cl hm.symm
  · obtain ⟨rfl, hx⟩ := some_eq_ite_some hm
    simp only [Bool.and_eq_true, Bool.not_eq_true'] at hx
    intro hp
    have := hp.1 hx.1
    rw [hx.2] at this; cases this
  · obtain ⟨rfl, hx⟩ := some_eq_ite_some hm
    simp only [Bool.and_eq_true, Bool.not_eq_true'] at hx
    intro hp
    have := hp.2 hx.1
    rw [hx.2] at this; cases this
  · obtain ⟨rfl, hx⟩ := some_eq_ite_some hm
    simp only [Bool.and_eq_true, Bool.not_eq_true'] at hx
    intro hp
    have := hp hx.1
    rw [hx.2] at this; cases this
  · exact checkResps_sound c cl hm.symm
  · exact checkLive_sound c cl hm.symm
  · -- late calls / blocked at the end
    split at hm
    · rename_i k l hop
      obtain ⟨rfl, hx⟩ := some_eq_ite_some hm
      simp only [Bool.and_eq_true, Bool.not_eq_true'] at hx
      intro hp
      obtain ⟨d, hd, hk⟩ := (hp hx.1.1).2 k l hop hx.1.2
      have : (donesOf c.toks).any (fun d => d.1 = k) = true := List.any_eq_true.mpr ⟨d, hd, by simp [hk]⟩
      rw [this] at hx; cases hx.2
    · rename_i hop
      split at hm
      · rename_i ht
        obtain ⟨t, htm, hte⟩ := List.exists_of_findSome?_eq_some hm.symm
        cases t with
        | pend k =>
          simp only [pendClause, Option.some.injEq] at hte
          subst hte
          intro hp; exact hp hop ht k htm
        | _ => simp [pendClause] at hte
      · cases hm
    · cases hm
  · split at hm
    · cases hm
    · rename_i hx
      cases hm
      intro hp; exact hx hp

/-- Read the other way: a step on which the property's reading holds, predicate by predicate, raises no clause.
This is how the bridge shows the monitor silent on the model's steps, without opening the check functions. -/
theorem monCheck_silent (c : Ctx) (h1 : OnceOK c) (h2 : OwnOK c) (h3 : ErrorsOK c) (h4 : LateOK c) (h5 : ConnectOK c)
    (h6 : TermOK c) (h7 : BlockedOK c) (h8 : DeliveredOK c) (h9 : AnswersOK c) (h10 : OrderOK c) (h11 : ExpectedOK c) :
    monCheck c = none := by
  cases hm : monCheck c with
  | none => rfl
  | some cl => exact absurd (by cases cl <;> assumption) (monitor_sound c cl hm)

theorem sound_c01Twice (c : Ctx) (k : Nat) (h : monCheck c = some (.c01Twice k)) : ¬ OnceOK c := monitor_sound c _ h
theorem sound_c01WrongResponse (c : Ctx) (k : Nat) (h : monCheck c = some (.c01WrongResponse k)) : ¬ OwnOK c := monitor_sound c _ h
theorem sound_c01Unclassified (c : Ctx) (k : Nat) (h : monCheck c = some (.c01Unclassified k)) : ¬ OwnOK c := monitor_sound c _ h
theorem sound_c01Spurious (c : Ctx) (k : Nat) (w : Why) (h : monCheck c = some (.c01Spurious k w)) : ¬ ErrorsOK c := monitor_sound c _ h
theorem sound_c01LateNotClosed (c : Ctx) (k : Nat) (h : monCheck c = some (.c01LateNotClosed k)) : ¬ LateOK c := monitor_sound c _ h
theorem sound_c01LateBlocked (c : Ctx) (k : Nat) (h : monCheck c = some (.c01LateBlocked k)) : ¬ LateOK c := monitor_sound c _ h
theorem sound_c01ConnectFailed (c : Ctx) (w : Why) (h : monCheck c = some (.c01ConnectFailed w)) : ¬ ConnectOK c := monitor_sound c _ h
theorem sound_c01ConnectNoResponse (c : Ctx) (h : monCheck c = some .c01ConnectNoResponse) : ¬ ConnectOK c := monitor_sound c _ h
theorem sound_c01TermUnexpected (c : Ctx) (w : Why) (h : monCheck c = some (.c01TermUnexpected w)) : ¬ TermOK c := monitor_sound c _ h
theorem sound_c01BlockedAfterTerm (c : Ctx) (k : Nat) (h : monCheck c = some (.c01BlockedAfterTerm k)) : ¬ BlockedOK c := monitor_sound c _ h
theorem sound_c01Lost (c : Ctx) (k : Nat) (w : Why) (u : Bool) (h : monCheck c = some (.c01Lost k w u)) : ¬ DeliveredOK c := monitor_sound c _ h
theorem sound_c02Unanswered (c : Ctx) (id : String) (w : Why) (u : Bool) (h : monCheck c = some (.c02Unanswered id w u)) : ¬ DeliveredOK c := monitor_sound c _ h
theorem sound_c02Foreign (c : Ctx) (id : String) (h : monCheck c = some (.c02Foreign id)) : ¬ AnswersOK c := monitor_sound c _ h
theorem sound_c02Twice (c : Ctx) (id : String) (h : monCheck c = some (.c02Twice id)) : ¬ AnswersOK c := monitor_sound c _ h
theorem sound_c02WrongKind (c : Ctx) (id : String) (h : monCheck c = some (.c02WrongKind id)) : ¬ AnswersOK c := monitor_sound c _ h
theorem sound_c03Order (c : Ctx) (h : monCheck c = some .c03Order) : ¬ OrderOK c := monitor_sound c _ h
theorem sound_unexpected (c : Ctx) (s : String) (h : monCheck c = some (.unexpected s)) : ¬ ExpectedOK c := monitor_sound c _ h

end SseClient
