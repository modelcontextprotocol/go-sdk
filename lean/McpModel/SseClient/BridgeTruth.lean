import McpModel.SseClient.Props
import McpModel.SseClient.BridgeRun
/-!
# Bridge: the payloads the model's pump hands over in one step = the monitor's new message items
-/
namespace SseClient
open Wire

theorem msgFrom_append (ep i : Nat) (x y : List Item) :
    msgFrom ep i (x ++ y) = msgFrom ep i x ++ msgFrom ep (i + x.length) y := by
  induction x generalizing i with
  | nil => simp [msgFrom]
  | cons it t ih =>
    simp only [List.cons_append, msgFrom, ih, List.length_cons, List.append_assoc]
    have : i + 1 + t.length = i + (t.length + 1) := by omega
    rw [this]

theorem msgFrom_before (ep i : Nat) (l : List Item) (h : i + l.length ≤ ep + 1) : msgFrom ep i l = [] := by
  induction l generalizing i with
  | nil => rfl
  | cons it t ih =>
    simp only [List.length_cons] at h
    have : ¬ ep < i := by omega
    simp only [msgFrom, this, decide_false, Bool.false_and, Bool.false_eq_true, ite_false, List.nil_append]
    exact ih (i + 1) (by omega)

theorem msgFrom_after (ep i : Nat) (l : List Item) (h : ep < i) :
    (msgFrom ep i l).map (·.2) = (l.filter (fun it => isMessage it.fe.denote)).map (·.payload) := by
  induction l generalizing i with
  | nil => rfl
  | cons it t ih =>
    simp only [msgFrom, h, decide_true, Bool.true_and, List.map_append, ih (i + 1) (by omega), List.filter_cons]
    by_cases hm : isMessage it.fe.denote = true <;> simp [hm]

theorem take_split {α} (l : List α) (a b : Nat) (h : a ≤ b) : l.take b = l.take a ++ (l.take b).drop a := by
  have := List.take_append_drop a (l.take b)
  rw [List.take_take, Nat.min_eq_left h] at this
  exact this.symm

theorem newMsgs_append (scn : Scn) (a b c : Nat) (hab : a ≤ b) (hbc : b ≤ c) (hb : b ≤ scn.items.length) :
    newMsgs scn a c = newMsgs scn a b ++ newMsgs scn b c := by
  have hl : (scn.items.take b).length = b := by rw [List.length_take]; omega
  unfold newMsgs
  conv => lhs; rw [take_split scn.items b c hbc, List.drop_append_of_le_length (by omega)]
  rw [msgFrom_append, List.length_drop, hl, Nat.add_sub_cancel' hab]

theorem newMsgs_before (scn : Scn) (a b : Nat) (hab : a ≤ b) (h : b ≤ epIdx scn.items + 1) : newMsgs scn a b = [] :=
  msgFrom_before _ _ _ (by simp only [List.length_drop, List.length_take]; omega)

theorem msgsUpTo_split (scn : Scn) (a b : Nat) (h : a ≤ b) (ha : a ≤ scn.items.length) :
    scn.msgsUpTo b = scn.msgsUpTo a ++ (newMsgs scn a b).map (·.2) := by
  simp [Scn.msgsUpTo, newMsgs_append scn 0 a b (Nat.zero_le _) h ha]

/-- the events the scanner has dispatched by the time the first `n` items were received -/
def evsUpTo (scn : Scn) (n : Nat) : List Event := ((scn.items.take n).map (·.fe.denote)).filter (fun e => !e.isEmpty)

/-- the labels are consistent with the data: decoding a message event's data gives the label, a label that
is a message and does not excuse a shutdown -/
def Scn.labelled (scn : Scn) : Prop :=
  ∀ it ∈ scn.items, isMessage it.fe.denote = true → scn.decode it.fe.denote.data = it.payload ∧ goodPayload it.payload = true

theorem pump_decode (scn : Scn) (hl : scn.labelled) (l : List Item) (hsub : ∀ it ∈ l, it ∈ scn.items) :
    (pump repaired ((l.map (·.fe.denote)).filter (fun e => !e.isEmpty))).map scn.decode =
      (l.filter (fun it => isMessage it.fe.denote)).map (·.payload) := by
  induction l with
  | nil => simp [pump]
  | cons it t ih =>
    have iht := ih (fun x hx => hsub x (by simp [hx]))
    rw [pump_delivers_message_events_exactly_once_in_order] at iht ⊢
    simp only [List.map_cons, List.filter_cons]
    by_cases hm : isMessage it.fe.denote = true
    · have hne := isMessage_not_isEmpty _ hm
      simp only [hne, Bool.not_false, ite_true, List.filter_cons, hm, List.map_cons, (hl it (hsub it (by simp)) hm).1]
      rw [iht]
    · by_cases he : it.fe.denote.isEmpty = true
      · simp only [he, Bool.not_true, Bool.false_eq_true, ite_false, hm]
        exact iht
      · simp only [he, Bool.not_false, ite_true, List.filter_cons, hm, Bool.false_eq_true, ite_false]
        exact iht

theorem evsUpTo_split (scn : Scn) (a b : Nat) (h : a ≤ b) :
    evsUpTo scn b = evsUpTo scn a ++ ((((scn.items.take b).drop a).map (·.fe.denote)).filter (fun e => !e.isEmpty)) := by
  unfold evsUpTo
  rw [take_split scn.items a b h, List.map_append, List.filter_append]
  congr 2
  rw [← take_split scn.items a b h]

/-- **what one read hands to the session (connection up)**: the new events, pumped and decoded, are the
payloads of the monitor's new message items -/
theorem feed_payloads_up (scn : Scn) (hl : scn.labelled) (a b : Nat) (h : a ≤ b) (hep : epIdx scn.items < a) :
    (pump repaired ((evsUpTo scn b).drop (evsUpTo scn a).length)).map scn.decode = (newMsgs scn a b).map (·.2) := by
  rw [evsUpTo_split scn a b h, List.drop_left]
  unfold newMsgs
  rw [msgFrom_after _ _ _ hep]
  exact pump_decode scn hl _ (fun it hit => List.mem_of_mem_take (List.mem_of_mem_drop hit))

theorem evsUpTo_before (scn : Scn) (n : Nat) (h : n ≤ epIdx scn.items) : evsUpTo scn n = [] := by
  unfold evsUpTo
  rw [List.filter_eq_nil_iff]
  intro e he
  obtain ⟨it, hit, rfl⟩ := List.mem_map.mp he
  obtain ⟨i, hi, rfl⟩ := List.getElem_of_mem hit
  simp only [List.length_take] at hi
  have hlt : i < epIdx scn.items := by omega
  have := List.not_of_lt_findIdx (p := fun it => !it.fe.denote.isEmpty) (xs := scn.items) hlt
  simp only [List.getElem_take]
  simpa using this

theorem evsUpTo_ep (scn : Scn) (h : epIdx scn.items < scn.items.length) :
    evsUpTo scn (epIdx scn.items + 1) = [(scn.items[epIdx scn.items]).fe.denote] := by
  have hne : (!(scn.items[epIdx scn.items]).fe.denote.isEmpty) = true :=
    List.findIdx_getElem (p := fun it : Item => !it.fe.denote.isEmpty) (xs := scn.items) (w := h)
  have hd : (scn.items.take (epIdx scn.items + 1)).drop (epIdx scn.items) = [scn.items[epIdx scn.items]] := by
    rw [List.take_succ_eq_append_getElem h, List.drop_append_of_le_length (by simp [List.length_take]; omega),
      List.drop_eq_nil_of_le (by rw [List.length_take]; omega)]
    rfl
  rw [evsUpTo_split scn _ _ (Nat.le_succ _), evsUpTo_before scn _ (Nat.le_refl _), hd]
  simp [hne]

/-- **the read in which the endpoint event arrives**: the first event is the endpoint item's, the rest pumped
and decoded are the monitor's new message items -/
theorem feed_payloads_greeting (scn : Scn) (hl : scn.labelled) (a b : Nat) (ha : a ≤ epIdx scn.items) (hb : epIdx scn.items < b)
    (hlen : b ≤ scn.items.length) :
    ∃ it rest, scn.items[epIdx scn.items]? = some it ∧ evsUpTo scn b = it.fe.denote :: rest ∧
      (pump repaired rest).map scn.decode = (newMsgs scn a b).map (·.2) := by
  have hlt : epIdx scn.items < scn.items.length := by omega
  obtain ⟨rest, hrest⟩ : ∃ rest, evsUpTo scn b = (scn.items[epIdx scn.items]).fe.denote :: rest :=
    ⟨_, by rw [evsUpTo_split scn _ b hb, evsUpTo_ep scn hlt]; rfl⟩
  -- from the item after the endpoint item on, this is a read on a connection that is up
  have hup := feed_payloads_up scn hl (epIdx scn.items + 1) b hb (Nat.lt_succ_self _)
  rw [evsUpTo_ep scn hlt, hrest] at hup
  refine ⟨_, rest, by simp [hlt], hrest, ?_⟩
  rw [newMsgs_append scn a _ b (by omega) hb (by omega), newMsgs_before scn a _ (by omega) (Nat.le_refl _)]
  exact hup

theorem newMsgs_good (scn : Scn) (hl : scn.labelled) (a b : Nat) : ∀ ip ∈ newMsgs scn a b, goodPayload ip.2 = true := by
  unfold newMsgs
  generalize hL : (scn.items.take b).drop a = L
  have hsub : ∀ it ∈ L, it ∈ scn.items := by
    intro it hit; rw [← hL] at hit; exact List.mem_of_mem_take (List.mem_of_mem_drop hit)
  clear hL
  induction L generalizing a with
  | nil => simp [msgFrom]
  | cons it t ih =>
    intro ip hip
    simp only [msgFrom, List.mem_append] at hip
    rcases hip with hip | hip
    · split at hip
      · rename_i hc
        simp only [Bool.and_eq_true, decide_eq_true_eq] at hc
        simp only [List.mem_cons, List.not_mem_nil, or_false] at hip
        subst hip
        exact (hl it (hsub it (by simp)) hc.2).2
      · simp at hip
    · exact ih (a + 1) (fun x hx => hsub x (by simp [hx])) ip hip

end SseClient
