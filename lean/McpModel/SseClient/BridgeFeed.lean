import McpModel.SseClient.BridgeRun
import McpModel.SseClient.Sound
/-!
# Bridge: a step of the healthy fragment raises no clause

The monitor is shown silent through `monCheck_silent`: the predicates of the property's reading (Sound.lean) hold of
the model's tokens.  Two kinds of step: one whose tokens say nothing (`monCheck_nothing_observed`, and its form
for token lists, `monCheck_quiet`), and a read that hands payloads to a healthy session (`feed_checks`).
-/
namespace SseClient
open Wire

/-- a token that enters none of the monitor's books and none of its checks while the connection is up -/
def Tok.quiet : Tok → Bool
  | .post _ | .done .. | .nt _ | .connOk | .connErr | .term | .other _ => false
  | _ => true

theorem postsOf_quiet {l : List Tok} (h : ∀ t ∈ l, t.quiet = true) : postsOf l = [] :=
  List.filterMap_eq_nil_iff.2 fun t ht => by have := h t ht; cases t <;> first | rfl | cases this
theorem donesOf_quiet {l : List Tok} (h : ∀ t ∈ l, t.quiet = true) : donesOf l = [] :=
  List.filterMap_eq_nil_iff.2 fun t ht => by have := h t ht; cases t <;> first | rfl | cases this
theorem ntsOf_quiet {l : List Tok} (h : ∀ t ∈ l, t.quiet = true) : ntsOf l = [] :=
  List.flatMap_eq_nil_iff.2 fun t ht => by have := h t ht; cases t <;> first | rfl | cases this
theorem respIdsOf_quiet {l : List Tok} (h : ∀ t ∈ l, t.quiet = true) : respIdsOf l = [] := by
  rw [respIdsOf, postsOf_quiet h]; rfl
theorem callsIn_quiet {l : List Tok} (h : ∀ t ∈ l, t.quiet = true) : callsIn l = [] := by
  rw [callsIn, postsOf_quiet h]; rfl
theorem not_mem_quiet {l : List Tok} (h : ∀ t ∈ l, t.quiet = true) {t : Tok} (ht : t.quiet = false) : t ∉ l :=
  fun hm => by rw [h t hm] at ht; cases ht

theorem isSubseq_refl (l : List Nat) : isSubseq l l = true := by
  induction l with
  | nil => rfl
  | cons a t ih => simp [isSubseq, ih]

theorem contains_false {α : Type} [BEq α] [LawfulBEq α] {l : List α} {a : α} : l.contains a = false ↔ a ∉ l := by
  rw [← Bool.not_eq_true, List.contains_iff_mem]

theorem monCheck_nothing_observed (c : Ctx) (hd : donesOf c.toks = []) (hr : respIdsOf c.toks = []) (hn : ntsOf c.toks = [])
    (h1 : Tok.connOk ∉ c.toks) (h2 : Tok.connErr ∉ c.toks) (h3 : Tok.term ∉ c.toks) (ho : ∀ x, Tok.other x ∉ c.toks)
    (hlive : c.live = []) (hterm : c.m.termSeen = false) (hnts : c.m.nts = c.notifs) : monCheck c = none := by
  have hd' : ∀ d, d ∉ donesOf c.toks := fun d h => by rw [hd] at h; cases h
  have hc : ∀ {t : Tok}, t ∉ c.toks → c.toks.contains t = true → False := fun ht h => ht (List.contains_iff_mem.1 h)
  apply monCheck_silent
  · exact fun d h => absurd h (hd' d)
  · exact fun d h => absurd h (hd' d)
  · exact fun d h => absurd h (hd' d)
  · intro h; rw [hterm] at h; cases h
  · exact ⟨fun h => (hc h2 h).elim, fun h => (hc h1 h).elim⟩
  · exact fun h => (hc h3 h).elim
  · intro _ h; rw [hterm] at h; cases h
  · intro _ ip h; rw [hlive] at h; cases h
  · intro pre r post h; rw [hr] at h; cases pre <;> cases h
  · show isSubseq _ _ = true
    rw [hn, List.append_nil, hnts]; exact isSubseq_refl _
  · exact ho

theorem monCheck_quiet (c : Ctx) (hq : ∀ t ∈ c.toks, t.quiet = true) (hlive : c.live = [])
    (hterm : c.m.termSeen = false) (hnts : c.m.nts = c.notifs) : monCheck c = none :=
  monCheck_nothing_observed c (donesOf_quiet hq) (respIdsOf_quiet hq) (ntsOf_quiet hq) (not_mem_quiet hq rfl) (not_mem_quiet hq rfl)
    (not_mem_quiet hq rfl) (fun _ => not_mem_quiet hq rfl) hlive hterm hnts

theorem livePrefix_good (l : List (Nat × Payload)) (h : ∀ ip ∈ l, goodPayload ip.2 = true) : livePrefix l = l := by
  unfold livePrefix
  induction l with
  | nil => rfl
  | cons ip rest ih =>
    have := h ip (by simp)
    simp only [goodPayload, Bool.and_eq_true, Bool.not_eq_true'] at this
    simp only [List.takeWhile_cons, this.2, Bool.not_false, ite_true]
    rw [ih (fun x hx => h x (by simp [hx]))]

def isUrlTok : Tok → Bool
  | .url _ => true
  | _ => false

theorem Tok.quiet_of_url {t : Tok} (h : isUrlTok t = true) : t.quiet = true := by
  cases t <;> first | rfl | exact h

theorem withUrl_eq (s : St) (t : List Tok) : ∃ u, withUrl s t = t ++ u ∧ ∀ x ∈ u, isUrlTok x = true := by
  unfold withUrl
  split
  · exact ⟨[.url s.target], rfl, by simp [isUrlTok]⟩
  · exact ⟨[], by simp, by simp⟩

theorem reqCount_eq (l : List Payload) (id : String) :
    (l.filter (fun p => match p with | .req id' _ => id' = id | _ => false)).length = ((reqsOf l).filter (·.1 = id)).length := by
  induction l with
  | nil => rfl
  | cons p t ih =>
    rw [List.filter_cons, show reqsOf (p :: t) = reqsOf [p] ++ reqsOf t from reqsOf_append [p] t, List.filter_append,
      List.length_append, ← ih]
    cases p with
    | req id' m => by_cases e : id' = id <;> simp [e, reqsOf, Nat.add_comm]
    | _ => exact (Nat.zero_add _).symm

theorem reqsOf_mem (l : List Payload) (r : String × Option Int) (h : r ∈ reqsOf l) : ∃ m, Payload.req r.1 m ∈ l ∧ r.2 = errCodeOf m := by
  simp only [reqsOf, List.mem_filterMap] at h
  obtain ⟨p, hp, he⟩ := h
  cases p with
  | req id m => simp only [Option.some.injEq] at he; subst he; exact ⟨m, hp, rfl⟩
  | _ => simp at he

theorem notifs_eq (c : Ctx) : c.notifs = notifsOf (c.scn.msgsUpTo c.n') := rfl

theorem feed_toks_proj (toks pre url : List Tok) (lists P : List Nat) (ps : List Payload)
    (htoks : toks = pre ++ (hRun lists P ps).2 ++ url)
    (hpre : pre = [] ∨ pre = [.post (.call 0)]) (hurl : ∀ t ∈ url, isUrlTok t = true) :
    donesOf toks = donesOf (hRun lists P ps).2 ∧ respIdsOf toks = reqsOf ps ∧ ntsOf toks = notifsOf ps ∧
    (toks.contains .connOk = (hRun lists P ps).2.contains .connOk) ∧ toks.contains .connErr = false ∧ toks.contains .term = false ∧
    callsIn toks = (if pre = [] then [] else [0]) ∧ ∀ x, Tok.other x ∉ toks := by
  have hq : ∀ t ∈ url, t.quiet = true := fun t ht => Tok.quiet_of_url (hurl t ht)
  have hu1 : Tok.connOk ∉ url := not_mem_quiet hq rfl
  have hu2 : Tok.connErr ∉ url := not_mem_quiet hq rfl
  have hu3 : Tok.term ∉ url := not_mem_quiet hq rfl
  obtain ⟨r1, r2, r3, r4⟩ := hRun_proj lists ps P
  have hh : ∀ t ∈ (hRun lists P ps).2, t.healthy = true := List.all_eq_true.mp r4
  have hr2 : Tok.connErr ∉ (hRun lists P ps).2 := fun hm => by cases hh _ hm
  have hr3 : Tok.term ∉ (hRun lists P ps).2 := fun hm => by cases hh _ hm
  have hp : donesOf pre = [] ∧ respIdsOf pre = [] ∧ ntsOf pre = [] ∧ Tok.connOk ∉ pre ∧ Tok.connErr ∉ pre ∧
      Tok.term ∉ pre ∧ ∀ x, Tok.other x ∉ pre := by
    rcases hpre with rfl | rfl
    · exact ⟨rfl, rfl, rfl, List.not_mem_nil, List.not_mem_nil, List.not_mem_nil, fun _ => List.not_mem_nil⟩
    · exact ⟨rfl, rfl, rfl, by simp, by simp, by simp, by simp⟩
  obtain ⟨p1, p2, p3, p4, p5, p6, p7⟩ := hp
  subst htoks
  refine ⟨?_, ?_, ?_, ?_, ?_, ?_, ?_, ?_⟩
  · rw [donesOf_append, donesOf_append, p1, donesOf_quiet hq, List.nil_append, List.append_nil]
  · rw [respIdsOf_append, respIdsOf_append, p2, respIdsOf_quiet hq, r1, List.nil_append, List.append_nil]
  · rw [ntsOf_append, ntsOf_append, p3, ntsOf_quiet hq, r2, List.nil_append, List.append_nil]
  · rw [List.contains_append, List.contains_append, contains_false.2 p4, contains_false.2 hu1, Bool.false_or, Bool.or_false]
  · rw [contains_false]; simp only [List.mem_append, not_or]; exact ⟨⟨p5, hr2⟩, hu2⟩
  · rw [contains_false]; simp only [List.mem_append, not_or]; exact ⟨⟨p6, hr3⟩, hu3⟩
  · rw [callsIn_append, callsIn_append, callsIn_quiet hq, r3]
    rcases hpre with rfl | rfl <;> rfl
  · intro x hx
    simp only [List.mem_append] at hx
    rcases hx with (hx | hx) | hx
    · exact p7 x hx
    · cases hh _ hx
    · exact not_mem_quiet hq rfl hx

theorem filter_key_le_one {β} {l : List (Nat × β)} (h : (l.map (·.1)).Nodup) (k : Nat) :
    (l.filter (fun d => d.1 = k)).length ≤ 1 := by
  induction l with
  | nil => exact Nat.zero_le _
  | cons d t ih =>
    rw [List.map_cons, List.nodup_cons] at h
    rw [List.filter_cons]
    split
    · rename_i hd
      have : t.filter (fun d => d.1 = k) = [] :=
        List.filter_eq_nil_iff.2 fun x hx hk => h.1 (List.mem_map.2 ⟨x, hx, by simp at hd hk; rw [hk, hd]⟩)
      rw [List.length_cons, this]; exact Nat.le_refl _
    · exact ih h.2

/-- **a read on a healthy connection raises nothing**: the tokens are what `hRun` makes of the new message
payloads `ps` (after the POST of the initialize request when the endpoint event arrives in this read),
and the monitor's books agree with the registered calls `P` -/
theorem feed_checks (c : Ctx) (P : List Nat) (ps : List Payload) (pre url : List Tok)
    (htoks : c.toks = pre ++ (hRun c.m.lists P ps).2 ++ url)
    (hpre : pre = [] ∨ pre = [.post (.call 0)]) (hurl : ∀ t ∈ url, isUrlTok t = true)
    (hlive : c.live.map (·.2) = ps)
    (hmsgs : c.scn.msgsUpTo c.n' = c.scn.msgsUpTo c.m.nComplete ++ ps)
    (hgood : ∀ p ∈ ps, goodPayload p = true)
    (hP : P.Nodup) (hPa : ∀ k ∈ P, k ≠ 0 → k ∈ c.m.started ∧ k ∉ c.m.finished)
    (hPb : ∀ k, k ≠ 0 → k ∈ c.m.posted → k ∉ c.m.finished → k ∈ P)
    (hP0 : Payload.resp 0 true ∈ ps → c.m.connRet = false → 0 ∈ P)
    (hop : ∃ n ch, c.op = .feed n ch)
    (hterm : c.m.termSeen = false)
    (hnts : c.m.nts = notifsOf (c.scn.msgsUpTo c.m.nComplete))
    (hans : ∀ id, (c.m.answered.filter (· = id)).length = ((reqsOf (c.scn.msgsUpTo c.m.nComplete)).filter (·.1 = id)).length) :
    monCheck c = none := by
  obtain ⟨n, ch, hop⟩ := hop
  obtain ⟨hdones, hresps, hntsT, hconnOk, hconnErr, hterm', _, hother⟩ :=
    feed_toks_proj c.toks pre url c.m.lists P ps htoks hpre hurl
  have hinps : ∀ p ∈ ps, (c.scn.msgsUpTo c.n').contains p = true := fun p hp => by
    rw [hmsgs]; simp [hp]
  obtain ⟨d1, d2⟩ := hRun_dones c.m.lists ps P hP
  -- a completion of the read is a registered call answered by a response of the read, with that response's outcome
  have hd : ∀ d ∈ donesOf c.toks, d.1 ∈ c.m.started ∧ d.1 ∉ c.m.finished ∧
      ∃ ok, c.hasResp d.1 ok = true ∧ d.2 = outcomeOf c.m.lists d.1 ok := by
    intro d hd
    obtain ⟨dk0, dkP, ok, hokps, ho⟩ := d1 d (hdones ▸ hd)
    exact ⟨(hPa d.1 dkP dk0).1, (hPa d.1 dkP dk0).2, ok, hinps _ hokps, ho⟩
  apply monCheck_silent
  · intro d hdm
    obtain ⟨hst, hfin, _⟩ := hd d hdm
    refine ⟨Or.inl (contains_true_of_mem hst), by simpa using hfin, ?_⟩
    rw [Ctx.doneCount, hdones]; exact filter_key_le_one d2 _
  · intro d hdm
    obtain ⟨_, _, ok, hres, ho⟩ := hd d hdm
    rw [ho]
    cases ok <;> simp [outcomeOf, hres, Ctx.expectedMarker, hop]
  · intro d hdm he
    obtain ⟨_, _, ok, _, ho⟩ := hd d hdm
    rw [ho] at he
    cases ok <;> simp [outcomeOf] at he
  · intro h; rw [hterm] at h; cases h
  · refine ⟨fun h => (by rw [hconnErr] at h; cases h), fun h => ?_⟩
    rw [hconnOk, List.contains_iff_mem] at h
    obtain ⟨ok, hok⟩ := hRun_connOk_conv _ _ _ h
    exact good_resp0 (hgood _ hok) ▸ hinps _ hok
  · intro h; rw [hterm'] at h; cases h
  · intro h; rw [hop] at h; cases h
  · -- every message item of the read was acted on
    intro _ ip hip
    have hp : ip.2 ∈ ps := hlive ▸ List.mem_map.mpr ⟨ip, hip, rfl⟩
    have hg := hgood _ hp
    obtain ⟨i, p⟩ := ip
    cases p with
    | resp k ok =>
      simp only [itemOK]
      split
      · rename_i hk
        obtain ⟨rfl, rfl⟩ := hk
        cases hcr : c.m.connRet with
        | true => exact .inl rfl
        | false =>
          refine .inr (contains_true_of_mem ?_)
          rw [htoks]
          exact List.mem_append_left _ (List.mem_append_right _ (hRun_connOk _ _ _ (hP0 hp hcr) hp))
      · rename_i hk
        intro h1 h2
        have hk0 : k ≠ 0 := by rintro rfl; exact hk ⟨rfl, good_resp0 hg⟩
        rw [hdones]
        exact hRun_completes c.m.lists ps P k ok (hPb k hk0 (by simpa using h1) (by simpa using h2)) hk0 hp
    | req id m =>
      exact ⟨(id, errCodeOf m), hresps ▸ List.mem_filterMap.2 ⟨.req id m, hp, rfl⟩, rfl⟩
    | _ => trivial
  · -- every response answers a request of the read, of its kind, and no request twice
    intro pr r po hsplit
    rw [hresps] at hsplit
    have hr : r ∈ reqsOf ps := by rw [hsplit]; simp
    obtain ⟨m, hm, hc⟩ := reqsOf_mem ps r hr
    have hcount : ((c.m.answered ++ pr.map (·.1)).filter (· = r.1)).length + 1 ≤ c.reqCount r.1 := by
      have : c.reqCount r.1 = ((reqsOf (c.scn.msgsUpTo c.n')).filter (·.1 = r.1)).length := reqCount_eq _ _
      rw [this, hmsgs, reqsOf_append, hsplit]
      simp only [List.filter_append, List.length_append, hans r.1, List.filter_map, List.length_map, List.filter_cons,
        decide_true, ite_true, List.length_cons, Function.comp_def]
      omega
    refine ⟨by omega, hcount, .inl ?_⟩
    rw [hc]
    simp only [Ctx.reqKinds, List.contains_iff_mem, List.mem_filterMap]
    exact ⟨.req r.1 m, by simpa using hinps _ hm, by simp⟩
  · show isSubseq _ _ = true
    rw [notifs_eq, hnts, hntsT, hmsgs, notifsOf_append]
    exact isSubseq_refl _
  · exact hother

end SseClient
