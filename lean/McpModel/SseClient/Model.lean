import McpModel.Wire.Sse
import McpModel.Generated.SseClientGen
/-!
# Engine `sseclient` — the 2024-11-05 HTTP+SSE CLIENT transport (`mcp/sse.go`, `SSEClientTransport`)
# against a FOREIGN server (C01, C02; the order clause of C03)

Three layers, all executable core Lean (linked into `drv_sseclient`):

1. **the event pump** (`pump`): the goroutine of `(*SSEClientTransport).Connect` that ranges over
   `scanEvents` and sends `evt.Data` to `incoming` — a function from the scanned event list to the list of
   payloads handed to the jsonrpc2 reader, parameterised by the regenerated filter
   (`Generated.SseClient.pumpSkipEmptyData`, `pumpNameRule`).  The scanned event list is `scanFed`'s: Wire's
   line step `stepLine` folded over the complete lines received, without the flush of an unterminated
   event at the end of input; `Wire.scanEvents` itself occurs in `pump_of_stream_bytes` (Props.lean) only;
2. **the endpoint event** (`resolveRef`): `parsedURL.Parse(raw)` — RFC 3986 reference resolution as
   `net/url` does it, on a simple class of references (`refOK`);
3. **the session at quiescence** (`step`): what a `ClientSession` bound to that transport has done once
   every goroutine is blocked again after an operation of the harness (connect / feed bytes / call / end of
   stream / Close), as the list of observation tokens of that step.  This layer is a coarse model of
   `internal/jsonrpc2` (the conn engine has the fine one): registered calls, the three shutdown flags,
   `idle ∧ shuttingDown ⇒ close`.
-/
namespace SseClient
open Wire

/-! ## 1. the pump -/

inductive NameRule where
  | any               -- every event is forwarded (`asBuilt`)
  | messageOrDefault  -- the default type (no `event` field) or `event: message`
  | messageNamed      -- only `event: message` (the seeded change C01-m11 / C02-m11)
deriving DecidableEq, Repr

structure PumpFilter where
  skipEmptyData : Bool
  nameRule : NameRule
deriving DecidableEq, Repr

/-- the SSE default event type, as the standard spells it.  `msgName` and `epName` are the model's and the
monitor's constants; the literals the code compares with are regenerated (`pumpNameLiteral`,
`endpointEventName`) and shown equal to them in `Props.lean` (`generated_filter_is_repaired`,
`generated_endpoint_name`). -/
def msgName : Bytes := [109, 101, 115, 115, 97, 103, 101]   -- "message"

def epName : Bytes := [101, 110, 100, 112, 111, 105, 110, 116]   -- "endpoint"

/-- SSE: an event without an `event` field has the type "message" -/
def isMessageType (e : Event) : Bool := e.name = [] || e.name = msgName

/-- SSE + MCP: the events that carry a JSON-RPC message: type "message" (named or default) and a
non-empty data buffer (an event whose data buffer is empty is not dispatched at all) -/
def isMessage (e : Event) : Bool := isMessageType e && e.data ≠ []

def PumpFilter.keeps (f : PumpFilter) (e : Event) : Bool :=
  !(f.skipEmptyData && e.data = []) &&
  (match f.nameRule with
   | .any => true
   | .messageOrDefault => e.name = [] || e.name = msgName
   | .messageNamed => e.name = msgName)

/-- the pump: the payloads sent to `incoming`, in order -/
def pump (f : PumpFilter) (evs : List Event) : List Bytes := (evs.filter f.keeps).map (·.data)

/-- the filter of `mcp/sse.go`: `len(evt.Data) == 0 || (evt.Name != "" && evt.Name != "message")` ⇒ skip
(`generated_filter_is_repaired`) -/
def repaired : PumpFilter := ⟨true, .messageOrDefault⟩
/-- the filter that forwards every event: `mcp/sse.go` without the skip condition (finding F41, engine-local name
sseclient-F40).  The name does NOT mean the code as it is built, which is `repaired`. -/
def asBuilt : PumpFilter := ⟨false, .any⟩
/-- the seeded change C01-m11 / C02-m11: `evt.Name != "message"` ⇒ skip -/
def seededM11 : PumpFilter := ⟨false, .messageNamed⟩

/-- the filter regenerated from `mcp/sse.go` (a name literal other than "message", or a condition the
extractor does not understand, is reported by the extractor; the model then forwards everything) -/
def generatedFilter : PumpFilter :=
  ⟨Generated.SseClient.pumpSkipEmptyData,
   if Generated.SseClient.pumpNameLiteral ≠ msgName then .any
   else if Generated.SseClient.pumpNameRule = 1 then .messageOrDefault
   else if Generated.SseClient.pumpNameRule = 2 then .messageNamed
   else .any⟩

/-- the scanner on the bytes received so far: the events dispatched by the complete lines, and whether
a malformed line was met (`scanEvents` yields its terminal error) -/
def scanFed (bs : Bytes) : List Event × Bool :=
  let a := (splitLines bs).1.foldl stepLine {}
  (a.out, a.malformed)

/-! ## 2. the endpoint reference -/

structure Ref where
  scheme : Option Bytes := none
  auth : Option Bytes := none
  path : Bytes := []
  query : Option Bytes := none
deriving DecidableEq, Repr, Inhabited

def SLASH : UInt8 := 47
def QMARK : UInt8 := 63
def HASH : UInt8 := 35
def DOT : UInt8 := 46

def isAlpha (b : UInt8) : Bool := (65 ≤ b && b ≤ 90) || (97 ≤ b && b ≤ 122)
def isSchemeChar (b : UInt8) : Bool := isAlpha b || (48 ≤ b && b ≤ 57) || b = 43 || b = 45 || b = 46

/-- `net/url.getScheme`: the scheme and the rest, if the text starts with `ALPHA *(ALPHA / DIGIT / + - .) ":"` -/
def getScheme (bs : Bytes) : Option Bytes × Bytes :=
  match bs with
  | [] => (none, [])
  | b :: _ =>
    if !isAlpha b then (none, bs) else
    let pre := bs.takeWhile isSchemeChar
    match bs.drop pre.length with
    | c :: rest => if c = COLON then (some pre, rest) else (none, bs)
    | [] => (none, bs)

/-- split at the first occurrence of `c` -/
def cutAt (c : UInt8) (bs : Bytes) : Bytes × Option Bytes :=
  let pre := bs.takeWhile (· ≠ c)
  match bs.drop pre.length with
  | _ :: rest => (pre, some rest)
  | [] => (pre, none)

/-- `url.Parse` on the simple class of texts `refOK` describes -/
def parseRef (bs : Bytes) : Ref :=
  let (scheme, rest) := getScheme bs
  let (hier, query) := cutAt QMARK rest
  match hier with
  | 47 :: 47 :: r =>
    let a := r.takeWhile (· ≠ SLASH)
    { scheme := scheme, auth := some a, path := r.drop a.length, query := query }
  | _ => { scheme := scheme, auth := none, path := hier, query := query }

/-- split at every `/` -/
def splitSlash : Bytes → List Bytes
  | [] => [[]]
  | b :: t =>
    match splitSlash t with
    | [] => [[b]]   -- unreachable
    | s :: ss => if b = SLASH then [] :: s :: ss else (b :: s) :: ss

def lastSlashPrefix (bs : Bytes) : Bytes :=
  -- bs[: lastIndex('/') + 1]
  (bs.reverse.dropWhile (· ≠ SLASH)).reverse

/-- the state of `net/url.resolvePath`'s loop: the path built so far, and `first`: no element has been written since `dst`
was (re)set to `/`, so the next element goes in without a `/` before it -/
structure DotSt where
  dst : Bytes := [SLASH]
  first : Bool := true

/-- one element of `net/url.resolvePath`'s loop -/
def dotStep (s : DotSt) (elem : Bytes) : DotSt :=
  if elem = [DOT] then { s with first := false }
  else if elem = [DOT, DOT] then
    let str := s.dst.drop 1
    if str.contains SLASH then
      -- str[:lastIndex('/')]
      { dst := SLASH :: ((str.reverse.dropWhile (· ≠ SLASH)).drop 1).reverse, first := s.first }
    else { dst := [SLASH], first := true }
  else
    { dst := s.dst ++ (if s.first then [] else [SLASH]) ++ elem, first := false }

/-- `net/url.resolvePath(base, ref)` -/
def resolvePath (base ref : Bytes) : Bytes :=
  let full :=
    match ref with
    | [] => base
    | b :: _ => if b ≠ SLASH then lastSlashPrefix base ++ ref else ref
  if full = [] then [] else
  let elems := splitSlash full
  let s := elems.foldl dotStep {}
  let last := elems.getLast?.getD []
  let r := if last = [DOT] ∨ last = [DOT, DOT] then s.dst ++ [SLASH] else s.dst
  match r with
  | 47 :: 47 :: t => SLASH :: t
  | _ => r

/-- `(*URL).ResolveReference` -/
def resolveRef (base r : Ref) : Ref :=
  let scheme := match r.scheme with | some s => some s | none => base.scheme
  if r.scheme.isSome ∨ r.auth.isSome then
    { scheme := scheme, auth := r.auth, path := resolvePath r.path [], query := r.query }
  else
    { scheme := scheme, auth := base.auth,
      path := resolvePath base.path r.path,
      query := if r.path = [] ∧ r.query = none then base.query else r.query }

/-- `(*URL).String` -/
def Ref.render (u : Ref) : Bytes :=
  (match u.scheme with | some s => s ++ [COLON] | none => []) ++
  (match u.auth with
   | some a => [SLASH, SLASH] ++ a ++ (match u.path with | [] => [] | b :: _ => if b = SLASH then [] else [SLASH])
   | none => []) ++
  u.path ++
  (match u.query with | some q => if q = [] then [] else QMARK :: q | none => [])

/-- the URL the client POSTs to: the endpoint event's data resolved against the SSE URL -/
def endpointURL (base data : Bytes) : Bytes := (resolveRef (parseRef base) (parseRef data)).render

def isUnreserved (b : UInt8) : Bool :=
  isAlpha b || (48 ≤ b && b ≤ 57) || b = 45 || b = 46 || b = 95 || b = 126   -- - . _ ~

/-- the references the model speaks about: unreserved characters, `/ : = & % ?`; with a scheme only in the
hierarchical form `scheme://authority…`; no fragment -/
def refOK (bs : Bytes) : Bool :=
  bs.all (fun b => isUnreserved b || b = SLASH || b = COLON || b = 61 || b = 38 || b = 37 || b = QMARK) &&
  (match getScheme bs with
   | (some _, rest) => [SLASH, SLASH].isPrefixOf rest
   | (none, _) => true)

/-! ## 3. the session at quiescence -/

inductive ReqM where
  | ping | roots | sample | unk
deriving DecidableEq, Repr

/-- what an event's data is, as the scripted server labels it -/
inductive Payload where
  | none                               -- no payload (comments, events without data, the endpoint reference)
  | resp (k : Nat) (ok : Bool)         -- the response to the client's call k (0 = initialize): result / error
  | fresp                              -- a response bearing an id the client never used
  | req (id : String) (m : ReqM)       -- a server→client request
  | notif (n : Nat)                    -- a notification
  | junk                               -- text that is not a JSON-RPC message
deriving DecidableEq, Repr

def Payload.isMsg : Payload → Bool
  | .resp .. | .fresp | .req .. | .notif .. => true
  | _ => false

structure Item where
  fe : FEvent
  payload : Payload
  isEp : Bool := false     -- the driver's label `ep`; nothing in the model or the monitor reads it (`epIdx` finds the endpoint item)
deriving Repr

def Item.bytes (it : Item) : Bytes := renderLines it.fe.render

/-- a POST the client makes -/
inductive PostId where
  | call (k : Nat)
  | initialized
  | cancelled (k : Nat)
  | resp (id : String) (code : Option Int)     -- a response to a server request: result / error code
deriving DecidableEq, Repr

inductive GetKind where
  | ok | terr | st (code : Nat)
deriving DecidableEq, Repr

/-- The scripted foreign server of one case. -/
structure Scn where
  base : Bytes := []                -- the URL of the GET; the endpoint reference is resolved against it
  get : GetKind := .ok              -- how the hanging GET is answered
  termEof : Bool := true            -- `end` is a clean EOF (else a read error); the harness reads it, model and monitor treat both alike
  ok2xx : Nat := 202                -- the status of every POST that `pst` does not list
  pst : List (PostId × Nat) := []   -- POSTs answered with another status (`Scn.postOk`: is the status one the client accepts)
  items : List Item := []           -- the framed events of the GET's body, in order

def Scn.full (s : Scn) : Bytes := renderStream (s.items.map (·.fe))

def Scn.postOk (s : Scn) (p : PostId) : Bool :=
  let st := ((s.pst.find? (fun e => e.1 = p)).map (·.2)).getD s.ok2xx
  Generated.SseClient.writeStatusLo ≤ st && st < Generated.SseClient.writeStatusHi

/-- `jsonrpc.DecodeMessage` on a payload: the label of the scripted message with that text (the first such
item: two message items with equal data and different labels are not told apart; the bridge's
`Scn.labelled` excludes them) -/
def Scn.decode (s : Scn) (data : Bytes) : Payload :=
  if data = [] then .junk else
  match s.items.find? (fun it => it.payload.isMsg && it.fe.denote.data = data) with
  | some it => it.payload
  | none => .junk

inductive Outcome where
  | res (marker : Option Nat)   -- a result; tools/list: the k of the tool name `t<k>`; ping: none
  | rpc (code : Int)            -- the peer's error response
  | err                         -- an error that does not identify the connection as closed
  | closed                      -- an error that is ErrConnectionClosed
  | other (s : String)
deriving DecidableEq, Repr

/-- One token of a step's observation: what the harness saw happen between two quiescent states. -/
inductive Tok where
  | get                            -- the server saw the GET
  | connOk | connErr               -- `Client.Connect` returned a session / an error
  | url (u : Bytes)                -- the URL the step's POSTs went to
  | post (p : PostId)              -- the server saw this POST
  | done (k : Nat) (o : Outcome)   -- call `k` returned
  | nt (ns : List Nat)             -- the notification handler ran for these, in this order
  | term                           -- `ClientSession.Wait` returned
  | closed                         -- the harness's `Close` call returned
  | pend (k : Nat)                 -- at `fin`: call `k` has not returned
  | nobody                         -- `feed` / `end` with no GET body to write to
  | nosession                      -- `call` / `close` with no session
  | other (s : String)             -- anything else (leaks, panics, tokens the parser does not know)
deriving DecidableEq, Repr

/-- One operation of the harness.  `feed n chunks`: the next `n` bytes of the body are handed to the client,
cut into network reads of the lengths `chunks`.  The model ignores `chunks` (its `step` is the state at
quiescence after all `n` bytes); only the monitor reads them (`readEnd`), to say of a lost message whether
it came in the same read as the endpoint event (F42). -/
inductive Op where
  | connect
  | feed (n : Nat) (chunks : List Nat)
  | call (k : Nat) (isList : Bool)
  | endStream
  | close
  | fin
deriving DecidableEq, Repr

inductive Phase where
  | idle | awaitEp | up | down
deriving DecidableEq, Repr

structure St where
  phase : Phase := .idle
  hasBody : Bool := false           -- the GET was answered with a body: `feed` has something to write to
  target : Bytes := []              -- the resolved endpoint: where POSTs go
  fed : Nat := 0                    -- bytes of `scn.full` handed to the client so far
  seen : Nat := 0                   -- scanned events already consumed
  pending : List Nat := []          -- registered calls awaiting a response (0 = initialize)
  lists : List Nat := []            -- the calls that are tools/list
  connRet : Bool := false           -- Client.Connect has returned
  handed : Bool := false            -- … with a session
  rdead : Bool := false             -- the reader has stopped (readErr)
  wdead : Bool := false             -- a write failed (writeErr)
  closing : Bool := false           -- Close was called (connClosing)
  done : Bool := false              -- the connection is done (Wait returns)
  closeWait : Bool := false         -- a Close call of the harness is waiting for `done`
deriving Repr

def St.shutting (s : St) : Bool := s.closing || s.rdead || s.wdead

/-- `updateInFlight`: idle ∧ shutting down ⇒ close the transport; the reader ends; done -/
def settle (s : St) : St × List Tok :=
  if s.phase = .up ∧ !s.done ∧ s.shutting ∧ s.pending = [] then
    ({ s with done := true, rdead := true, closeWait := false },
     (if s.handed then [.term] else []) ++ (if s.closeWait then [.closed] else []))
  else (s, [])

/-- `Client.Connect` gives up: `cs.Close()` and the error -/
def failConnect (s : St) : St × List Tok :=
  ({ s with connRet := true, closing := true }, [.connErr])

/-- the reader stops (undecodable payload, or the transport was closed under it): every registered call is
retired with the read error -/
def readerDies (s : St) : St × List Tok :=
  let toks := (s.pending.filter (· ≠ 0)).map (fun k => Tok.done k .err)
  let s1 := { s with rdead := true, pending := [] }
  if s.pending.contains 0 then
    let (s2, t2) := failConnect s1
    (s2, toks ++ t2)
  else (s1, toks)

def errCodeOf : ReqM → Option Int
  | .unk => some (-32601)
  | _ => none

/-- one payload taken off `incoming` by a running reader -/
def deliver (scn : Scn) (s : St) (p : Payload) : St × List Tok :=
  match p with
  | .resp k ok =>
    if s.pending.contains k then
      let s := { s with pending := s.pending.erase k }
      if k = 0 then
        if !ok then failConnect s
        else if s.shutting then failConnect s
        else if scn.postOk .initialized then
          ({ s with connRet := true, handed := true }, [.post .initialized, .connOk])
        else
          let (s', t) := failConnect { s with wdead := true }
          (s', .post .initialized :: t)
      else
        -- the scripted server's error response to call `k` carries the code `-31000 - k`
        (s, [.done k (if ok then .res (if s.lists.contains k then some k else none) else .rpc (-31000 - (k : Int)))])
    else (s, [])
  | .fresp => (s, [])
  | .req id m =>
    if s.wdead then (s, [])
    else if s.closing then
      -- refused: an error response is still written (responses pass the shutdown gate)
      let p := PostId.resp id (some Generated.SseClient.serverClosingCode)
      ({ s with wdead := !scn.postOk p }, [.post p])
    else
      let p := PostId.resp id (errCodeOf m)
      ({ s with wdead := !scn.postOk p }, [.post p])
  | .notif n => if s.shutting then (s, []) else (s, [.nt [n]])
  | .junk | .none => readerDies s

/-- the reader works through the payloads the pump queued, as long as it runs -/
def deliverAll (scn : Scn) : St → List Payload → St × List Tok
  | s, [] => (s, [])
  | s, p :: ps =>
    if s.rdead ∨ s.done then (s, []) else
    let (s1, t1) := deliver scn s p
    let (s2, t2) := settle s1
    let (s3, t3) := deliverAll scn s2 ps
    (s3, t1 ++ t2 ++ t3)

/-- the transport is bound: `connect()` creates the jsonrpc2 connection and `Client.Connect` makes the
initialize call -/
def bind (scn : Scn) (s : St) (target : Bytes) : St × List Tok :=
  let s := { s with phase := .up, target := target }
  if scn.postOk (.call 0) then ({ s with pending := [0] }, [.post (.call 0)])
  else
    -- the write of the initialize request fails: the call is retired, Connect gives up
    let (s', t) := failConnect { s with wdead := true }
    (s', .post (.call 0) :: t)

/-- the pump stops (end of the body, read error, malformed line): the transport is closed -/
def pumpStops (s : St) : St × List Tok :=
  if s.rdead ∨ s.done then (s, []) else
  let (s1, t1) := readerDies s
  let (s2, t2) := settle s1
  (s2, t1 ++ t2)

/-- new bytes: the scanner runs over everything received, the events not yet consumed are processed -/
def feedBytes (scn : Scn) (f : PumpFilter) (s : St) (fed : Nat) : St × List Tok :=
  let (evs, bad) := scanFed (scn.full.take fed)
  let s := { s with fed := fed }
  match s.phase with
  | .awaitEp =>
    (match evs with
     | [] => if bad then ({ s with phase := .down, connRet := true }, [.connErr]) else (s, [])
     | e :: rest =>
       if e.name ≠ Generated.SseClient.endpointEventName then ({ s with phase := .down, connRet := true }, [.connErr])
       else
         let (s1, t1) := bind scn { s with seen := evs.length } (endpointURL scn.base e.data)
         let (s2, t2) := settle s1
         let (s3, t3) := deliverAll scn s2 ((pump f rest).map scn.decode)
         let (s4, t4) := if bad then pumpStops s3 else (s3, [])
         (s4, t1 ++ t2 ++ t3 ++ t4))
  | .up =>
    if s.done then (s, []) else
    let new := evs.drop s.seen
    let (s3, t3) := deliverAll scn { s with seen := evs.length } ((pump f new).map scn.decode)
    let (s4, t4) := if bad then pumpStops s3 else (s3, [])
    (s4, t3 ++ t4)
  | _ => (s, [])

/-- every step that POSTs names the URL it POSTs to -/
def withUrl (s : St) (toks : List Tok) : List Tok :=
  if toks.any (fun t => match t with | .post _ => true | _ => false) then toks ++ [.url s.target] else toks

/-- one operation of the harness, run to quiescence -/
def step (scn : Scn) (f : PumpFilter) (s : St) : Op → St × List Tok
  | .connect =>
    if s.phase ≠ .idle then (s, [.other "second-connect"]) else
    (match scn.get with
     | .ok => ({ s with phase := .awaitEp, hasBody := true }, [.get])
     | .terr => ({ s with phase := .down, connRet := true }, [.get, .connErr])
     | .st c =>
       if Generated.SseClient.connectStatusLo ≤ c ∧ c < Generated.SseClient.connectStatusHi then
         ({ s with phase := .awaitEp, hasBody := true }, [.get])
       else ({ s with phase := .down, connRet := true }, [.get, .connErr]))
  | .feed n _ =>
    if !s.hasBody then (s, [.nobody]) else
    let (s', t) := feedBytes scn f s (min (s.fed + n) scn.full.length)
    (s', withUrl s' t)
  | .call k isList =>
    let s := { s with lists := if isList then k :: s.lists else s.lists }
    if !s.handed then (s, [.nosession]) else
    if s.done ∨ s.shutting then (s, [.done k .closed]) else
    if scn.postOk (.call k) then
      let s' := { s with pending := s.pending ++ [k] }
      (s', withUrl s' [.post (.call k)])
    else
      let (s', t) := settle { s with wdead := true }
      (s', withUrl s' ([.post (.call k), .done k .err] ++ t))
  | .endStream =>
    if !s.hasBody then (s, [.nobody]) else
    (match s.phase with
     | .awaitEp => ({ s with phase := .down, connRet := true }, [.connErr])
     | .up => pumpStops s
     | _ => (s, []))
  | .close =>
    if !s.handed then (s, [.nosession]) else
    if s.done then (s, [.closed]) else
    settle { s with closing := true, closeWait := true }
  | .fin =>
    (s, (if s.phase ≠ .idle ∧ !s.connRet then [.pend 0] else []) ++ (s.pending.filter (· ≠ 0)).map .pend)

/-- a whole case: the observations step by step -/
def run (scn : Scn) (f : PumpFilter) : St → List Op → List (List Tok)
  | _, [] => []
  | s, o :: os => (step scn f s o).2 :: run scn f (step scn f s o).1 os

end SseClient
