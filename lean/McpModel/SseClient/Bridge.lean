import McpModel.SseClient.BridgeBytes
import McpModel.SseClient.BridgeTruth
import McpModel.SseClient.BridgeFeed
/-!
# Bridge: the monitor raises no clause on the model's behaviour (healthy fragment)

FULL statement (not proved): for every scenario and every operation list, `runMon` raises no clause on the
observations of `run scn generatedFilter`.

Proved — `monitor_accepts_model_partial`: the same for every HEALTHY case: a scenario written in well-formed
lines whose server greets legally (`endpoint` first), accepts every POST, labels its message events
consistently and sends nothing that excuses a shutdown (no text that is not JSON-RPC, no refusal of
initialize); operations `connect` first, then any sequence of reads (any number of bytes, cut anywhere —
`scan_matches_ground_truth`), calls (fresh indices) and `fin`.  This is the fragment in which the monitor
is STRICT: nothing excuses an error, every response must complete its call, every request must be
answered.  What is missing for the full statement: the same simulation through the shutdown paths (end of
stream, Close, failing POSTs, junk), where the monitor only checks the weak clauses; those paths are
covered by the correspondence stream only.
-/
namespace SseClient
open Wire

structure Healthy (scn : Scn) : Prop where
  wf : scn.wf
  get : scn.get = .ok
  posts : ∀ p, scn.postOk p = true
  ep : epLegal scn = true
  labelled : scn.labelled

/-- the operations of the healthy fragment after `connect`: reads, calls with fresh indices ≥ 1, `fin` -/
def opsOK : List Nat → List Op → Bool
  | _, [] => true
  | used, .feed _ _ :: r => opsOK used r
  | used, .call k _ :: r => decide (k ≠ 0) && !used.contains k && opsOK (k :: used) r
  | used, .fin :: r => opsOK used r
  | _, _ => false

/-- the books of the monitor and the state of the model agree -/
structure Link (scn : Scn) (s : St) (m : Mon) (used : List Nat) : Prop where
  excused : m.excused = false
  termSeen : m.termSeen = false
  mbody : m.hasBody = true
  sbody : s.hasBody = true
  fed : m.fed = s.fed
  ncomp : m.nComplete = completeN scn.items s.fed
  lists : m.lists = s.lists
  connRet : m.connRet = s.connRet
  nts : m.nts = notifsOf (scn.msgsUpTo m.nComplete)
  answered : ∀ id, (m.answered.filter (· = id)).length = ((reqsOf (scn.msgsUpTo m.nComplete)).filter (·.1 = id)).length
  started : ∀ k ∈ m.started, k ∈ used
  posted : ∀ k ∈ m.posted, k ≠ 0 → k ∈ m.started
  finished : ∀ k ∈ m.finished, k ≠ 0 ∧ k ∈ m.posted
  pend : ∀ k, k ≠ 0 → (k ∈ s.pending ↔ (k ∈ m.posted ∧ k ∉ m.finished))
  nodup : s.pending.Nodup
  rdead : s.rdead = false
  wdead : s.wdead = false
  closing : s.closing = false
  done : s.done = false
  closeWait : s.closeWait = false
  handed : s.handed = s.connRet
  fedle : s.fed ≤ scn.full.length
  -- what the `link_*` proofs split on first: either the endpoint event has not been received completely (no call registered,
  -- none posted, none finished), or it has: the session is up, the pump has consumed every event received, and the
  -- initialize call is pending exactly as long as Connect has not returned
  phase : (s.phase = .awaitEp ∧ m.nComplete ≤ epIdx scn.items ∧ s.pending = [] ∧ s.connRet = false ∧ m.posted = [] ∧ m.finished = []) ∨
          (s.phase = .up ∧ epIdx scn.items < m.nComplete ∧ s.seen = (evsUpTo scn m.nComplete).length ∧ (0 ∈ s.pending ↔ s.connRet = false))

theorem scanFed_evs (scn : Scn) (fed : Nat) (h : scn.wf) :
    scanFed (scn.full.take fed) = (evsUpTo scn (completeN scn.items fed), false) := scanFed_items scn fed h

theorem epLegal_name (scn : Scn) (h : epLegal scn = true) (it : Item) (hit : scn.items[epIdx scn.items]? = some it) :
    it.fe.denote.name = Generated.SseClient.endpointEventName := by
  simp only [epLegal, hit, Bool.and_eq_true, decide_eq_true_eq] at h
  rw [generated_endpoint_name]; exact h.1.1

theorem mkCtx_feed (scn : Scn) (hh : Healthy scn) (m : Mon) (n : Nat) (ch : List Nat) (toks : List Tok) (fed' : Nat)
    (hb : m.hasBody = true) (hex : m.excused = false) (hfed' : min (m.fed + n) scn.full.length = fed') :
    let c := mkCtx scn m (.feed n ch) toks
    c.n' = completeN scn.items fed' ∧ c.live = newMsgs scn m.nComplete (completeN scn.items fed') ∧ c.excused' = false := by
  subst hfed'
  have hgood := newMsgs_good scn hh.labelled m.nComplete (completeN scn.items (min (m.fed + n) scn.full.length))
  have hpf : (postsOf toks).any (fun p => !scn.postOk p) = false := by
    simp [hh.posts]
  have hne : (newMsgs scn m.nComplete (completeN scn.items (min (m.fed + n) scn.full.length))).any (fun p => excusing p.2) = false := by
    rw [List.any_eq_false]
    intro ip hip
    have := hgood ip hip
    simp only [goodPayload, Bool.and_eq_true, Bool.not_eq_true'] at this
    simp [this.2]
  simp only [mkCtx, hb, ite_true, hex, Bool.false_eq_true, ite_false, hh.ep, Bool.not_true, Bool.and_false, hpf, hne,
    Bool.or_self, and_true, true_and]
  exact livePrefix_good _ hgood

theorem newMsgs_self (scn : Scn) (n : Nat) : newMsgs scn n n = [] := by
  unfold newMsgs
  have : (scn.items.take n).drop n = [] := by
    apply List.drop_eq_nil_of_le; simp [List.length_take]; omega
  rw [this]; rfl

theorem mkCtx_no_feed (scn : Scn) (hh : Healthy scn) (m : Mon) (op : Op) (toks : List Tok) (hex : m.excused = false)
    (hop : (∃ k l, op = .call k l) ∨ op = .fin) :
    let c := mkCtx scn m op toks
    c.n' = m.nComplete ∧ c.live = [] ∧ c.excused' = false := by
  have hpf : (postsOf toks).any (fun p => !scn.postOk p) = false := by simp [hh.posts]
  rcases hop with ⟨k, l, rfl⟩ | rfl <;>
    simp [mkCtx, hex, hh.ep, hpf, newMsgs_self, livePrefix]

theorem feedBytes_wait (scn : Scn) (hh : Healthy scn) (s : St) (fed' : Nat)
    (hph : s.phase = .awaitEp) (hn : completeN scn.items fed' ≤ epIdx scn.items) :
    feedBytes scn repaired s fed' = ({ s with fed := fed' }, []) := by
  simp only [feedBytes, scanFed_evs scn fed' hh.wf, evsUpTo_before scn _ hn, hph, Bool.false_eq_true, ite_false]

theorem feedBytes_up_of_scan (scn : Scn) (f : PumpFilter) (s : St) (fed : Nat) (evs : List Event)
    (hph : s.phase = .up) (hd : s.done = false) (hscan : scanFed (scn.full.take fed) = (evs, false)) :
    feedBytes scn f s fed =
      ((deliverAll scn { s with fed := fed, seen := evs.length } ((pump f (evs.drop s.seen)).map scn.decode)).1,
       (deliverAll scn { s with fed := fed, seen := evs.length } ((pump f (evs.drop s.seen)).map scn.decode)).2) := by
  simp only [feedBytes, hscan, hph, hd, Bool.false_eq_true, ite_false, List.append_nil]

/-- the state right after `bind` on a connection on which nothing is wrong: the endpoint event consumed (`seen := 1`), the
initialize call registered; `feedBytes_greet_of_scan` reads the rest of the greeting as one more `feedBytes` on it -/
def boundSt (s : St) (target : Bytes) : St :=
  { s with seen := 1, phase := Phase.up, target := target, pending := [0] }

/-- **the read that brings the endpoint event**: the transport is bound, the initialize request POSTed, and the rest
is a read on a connection that is up -/
theorem feedBytes_greet_of_scan (scn : Scn) (f : PumpFilter) (s : St) (fed : Nat) (e : Event) (rest : List Event)
    (hph : s.phase = .awaitEp) (hscan : scanFed (scn.full.take fed) = (e :: rest, false))
    (hname : e.name = Generated.SseClient.endpointEventName) (hp : ∀ p, scn.postOk p = true)
    (hfl : s.rdead = false ∧ s.wdead = false ∧ s.closing = false ∧ s.done = false) :
    feedBytes scn f s fed =
      ((feedBytes scn f (boundSt s (endpointURL scn.base e.data)) fed).1,
       [.post (.call 0)] ++ (feedBytes scn f (boundSt s (endpointURL scn.base e.data)) fed).2) := by
  obtain ⟨r1, r2, r3, r4⟩ := hfl
  simp only [feedBytes, hscan, hph, hname, ne_eq, not_true_eq_false, ite_false, bind, hp, ite_true, boundSt, r4,
    Bool.false_eq_true, List.append_nil, settle, St.shutting, r1, r2, r3, Bool.or_self, and_false, false_and,
    List.drop_one, List.tail_cons, List.singleton_append]

/-- what a read that hands the payloads `ps` to a healthy session with the registered calls `P` leaves: `hRun`'s
registered calls, the counters advanced to `fed'`, nothing wrong -/
def ReadTo (scn : Scn) (s : St) (P : List Nat) (ps : List Payload) (fed' : Nat) (s' : St) : Prop :=
  HS s' ∧ s'.pending = (hRun s.lists P ps).1 ∧ s'.lists = s.lists ∧ s'.fed = fed' ∧
  s'.seen = (evsUpTo scn (completeN scn.items fed')).length ∧ s'.hasBody = s.hasBody ∧
  s'.connRet = (s.connRet || (hRun s.lists P ps).2.contains .connOk)

def readPayloads (scn : Scn) (n0 fed' : Nat) : List Payload := (newMsgs scn n0 (completeN scn.items fed')).map (·.2)

theorem readPayloads_good (scn : Scn) (hl : scn.labelled) (n0 fed' : Nat) : ∀ p ∈ readPayloads scn n0 fed', goodPayload p = true := by
  intro p hp
  obtain ⟨ip, hip, rfl⟩ := List.mem_map.mp hp
  exact newMsgs_good scn hl _ _ ip hip

theorem feedBytes_up (scn : Scn) (hh : Healthy scn) (s : St) (fed' n0 : Nat)
    (hph : s.phase = .up) (hseen : s.seen = (evsUpTo scn n0).length) (hle : n0 ≤ completeN scn.items fed')
    (hep : epIdx scn.items < n0) (hs : HS s) :
    ∃ s', feedBytes scn repaired s fed' = (s', (hRun s.lists s.pending (readPayloads scn n0 fed')).2) ∧
      ReadTo scn s s.pending (readPayloads scn n0 fed') fed' s' := by
  have hs1 : HS { s with fed := fed', seen := (evsUpTo scn (completeN scn.items fed')).length } :=
    ⟨hs.up, hs.rdead, hs.wdead, hs.closing, hs.done, hs.closeWait, hs.handed, hs.pend0, hs.nodup⟩
  obtain ⟨s', hd, h', hpend, hlists, hfed, hseen', hbody, _, hcr⟩ :=
    deliverAll_healthy scn hh.posts _ _ hs1 (readPayloads_good scn hh.labelled n0 fed')
  refine ⟨s', ?_, h', hpend, hlists, hfed, hseen', hbody, hcr⟩
  rw [feedBytes_up_of_scan scn repaired s fed' _ hph hs.done (scanFed_evs scn fed' hh.wf), hseen,
    feed_payloads_up scn hh.labelled n0 (completeN scn.items fed') hle hep]
  exact hd

theorem feedBytes_greet (scn : Scn) (hh : Healthy scn) (s : St) (fed' n0 : Nat)
    (hph : s.phase = .awaitEp) (hn0 : n0 ≤ epIdx scn.items) (hb : epIdx scn.items < completeN scn.items fed')
    (hfl : s.rdead = false ∧ s.wdead = false ∧ s.closing = false ∧ s.done = false ∧ s.closeWait = false)
    (hcr : s.connRet = false) (hhd : s.handed = false) :
    ∃ s', feedBytes scn repaired s fed' =
        (s', [.post (.call 0)] ++ (hRun s.lists [0] (readPayloads scn n0 fed')).2) ∧
      ReadTo scn s [0] (readPayloads scn n0 fed') fed' s' := by
  obtain ⟨r1, r2, r3, r4, r5⟩ := hfl
  have hlt : epIdx scn.items < scn.items.length := Nat.lt_of_lt_of_le hb (completeN_le _ _)
  have hevs : evsUpTo scn (completeN scn.items fed') = (scn.items[epIdx scn.items]).fe.denote ::
      (evsUpTo scn (completeN scn.items fed')).drop 1 := by
    rw [evsUpTo_split scn _ _ hb, evsUpTo_ep scn hlt]; rfl
  -- items up to the endpoint item carry no message
  have hps : readPayloads scn n0 fed' = readPayloads scn (epIdx scn.items + 1) fed' := by
    rw [readPayloads, newMsgs_append scn n0 _ _ (Nat.le_succ_of_le hn0) hb hlt,
      newMsgs_before scn n0 _ (Nat.le_succ_of_le hn0) (Nat.le_refl _)]
    rfl
  obtain ⟨s', hfb, hR⟩ := feedBytes_up scn hh (boundSt s (endpointURL scn.base (scn.items[epIdx scn.items]).fe.denote.data))
    fed' (epIdx scn.items + 1) rfl (by rw [evsUpTo_ep scn hlt]; rfl) hb (Nat.lt_succ_self _)
    ⟨rfl, r1, r2, r3, r4, r5, hhd.trans hcr.symm, fun _ => hcr, List.nodup_cons.2 ⟨List.not_mem_nil, List.nodup_nil⟩⟩
  refine ⟨s', ?_, hps ▸ hR⟩
  rw [feedBytes_greet_of_scan scn repaired s fed' _ _ hph ((scanFed_evs scn fed' hh.wf).trans (congrArg (·, false) hevs))
    (epLegal_name scn hh.ep _ (by simp [hlt])) hh.posts ⟨r1, r2, r3, r4⟩, hfb, hps]
  rfl

theorem step_feed (scn : Scn) (f : PumpFilter) (s : St) (n : Nat) (ch : List Nat) (hb : s.hasBody = true) :
    step scn f s (.feed n ch) =
      ((feedBytes scn f s (min (s.fed + n) scn.full.length)).1,
       withUrl (feedBytes scn f s (min (s.fed + n) scn.full.length)).1 (feedBytes scn f s (min (s.fed + n) scn.full.length)).2) := by
  simp [step, hb]

theorem s_fed_le (scn : Scn) (s : St) (n : Nat) (h : s.fed ≤ scn.full.length) : s.fed ≤ min (s.fed + n) scn.full.length := by
  omega

theorem msgsUpTo_before (scn : Scn) (n : Nat) (h : n ≤ epIdx scn.items) : scn.msgsUpTo n = [] := by
  rw [Scn.msgsUpTo, newMsgs_before scn 0 n (Nat.zero_le _) (Nat.le_succ_of_le h)]; rfl

/-- Of the books, a step whose tokens say nothing moves at most the byte count (and with it the number of items received,
as long as none of them is a message), the list calls and the calls in use; the model follows in `fed` and `lists`. -/
theorem Link.quiet {scn : Scn} {s : St} {m : Mon} {used : List Nat} (L : Link scn s m used) (op : Op) (toks : List Tok)
    (fed' : Nat) (lists' used' : List Nat)
    (hq : ∀ t ∈ toks, t.quiet = true)
    (hlive : (mkCtx scn m op toks).live = [])
    (hex : (mkCtx scn m op toks).excused' = false)
    (hn : (mkCtx scn m op toks).n' = completeN scn.items fed')
    (hbody : (monNext (mkCtx scn m op toks)).hasBody = m.hasBody)
    (hfed : (monNext (mkCtx scn m op toks)).fed = fed')
    (hlists : (monNext (mkCtx scn m op toks)).lists = lists')
    (hst : (monNext (mkCtx scn m op toks)).started = m.started)
    (hsub : ∀ k ∈ used, k ∈ used') (hfl : fed' ≤ scn.full.length)
    (hsame : completeN scn.items fed' = m.nComplete ∨ (s.phase = .awaitEp ∧ completeN scn.items fed' ≤ epIdx scn.items)) :
    monCheck (mkCtx scn m op toks) = none ∧
    Link scn { s with fed := fed', lists := lists' } (monNext (mkCtx scn m op toks)) used' := by
  have hnc : (monNext (mkCtx scn m op toks)).nComplete = completeN scn.items fed' := hn
  have hmsgs : scn.msgsUpTo (completeN scn.items fed') = scn.msgsUpTo m.nComplete := by
    rcases hsame with h | ⟨hph, h⟩
    · rw [h]
    · rcases L.phase with ⟨_, h', _⟩ | ⟨hup, _⟩
      · rw [msgsUpTo_before scn _ h, msgsUpTo_before scn _ h']
      · rw [hph] at hup; cases hup
  have hpo : (monNext (mkCtx scn m op toks)).posted = m.posted := by
    show m.posted ++ callsIn toks = _
    rw [callsIn_quiet hq, List.append_nil]
  have hfi : (monNext (mkCtx scn m op toks)).finished = m.finished := by
    show m.finished ++ (donesOf toks).map (·.1) = _
    rw [donesOf_quiet hq]; exact List.append_nil _
  refine ⟨monCheck_quiet _ hq hlive L.termSeen (by rw [notifs_eq, hn]; exact L.nts.trans (congrArg notifsOf hmsgs.symm)), ?_⟩
  exact
    { L with
      excused := hex
      termSeen := by
        show (m.termSeen || toks.contains .term) = false
        rw [L.termSeen, contains_false.2 (not_mem_quiet hq rfl)]; rfl
      mbody := hbody.trans L.mbody
      fed := hfed
      ncomp := hn
      lists := hlists
      connRet := by
        show (m.connRet || toks.contains .connOk || toks.contains .connErr) = s.connRet
        rw [contains_false.2 (not_mem_quiet hq rfl), contains_false.2 (not_mem_quiet hq rfl), Bool.or_false, Bool.or_false]
        exact L.connRet
      nts := by
        rw [hnc, hmsgs]
        show m.nts ++ ntsOf toks = _
        rw [ntsOf_quiet hq, List.append_nil]; exact L.nts
      answered := by
        intro id
        rw [hnc, hmsgs, ← L.answered id]
        show ((m.answered ++ (respIdsOf toks).map (·.1)).filter _).length = _
        rw [respIdsOf_quiet hq, List.map_nil, List.append_nil]
      started := by rw [hst]; exact fun k hk => hsub k (L.started k hk)
      posted := by rw [hpo, hst]; exact L.posted
      finished := by rw [hfi, hpo]; exact L.finished
      pend := by rw [hfi, hpo]; exact L.pend
      fedle := hfl
      phase := by
        rw [hnc, hpo, hfi]
        rcases hsame with h | ⟨hph, h⟩
        · rw [h]; exact L.phase
        · rcases L.phase with ⟨_, _, hr⟩ | ⟨hup, _⟩
          · exact Or.inl ⟨hph, h, hr⟩
          · rw [hph] at hup; cases hup }

theorem fin_quiet (scn : Scn) (f : PumpFilter) (s : St) : ∀ t ∈ (step scn f s .fin).2, t.quiet = true := by
  intro t ht
  simp only [step, List.mem_append, List.mem_map] at ht
  rcases ht with ht | ⟨k, _, rfl⟩
  · split at ht
    · rw [List.mem_singleton.mp ht]; rfl
    · cases ht
  · rfl

theorem link_fin (scn : Scn) (hh : Healthy scn) (s : St) (m : Mon) (used : List Nat) (L : Link scn s m used) :
    monCheck (mkCtx scn m .fin (step scn repaired s .fin).2) = none ∧
    Link scn (step scn repaired s .fin).1 (monNext (mkCtx scn m .fin (step scn repaired s .fin).2)) used := by
  have hq := fin_quiet scn repaired s
  obtain ⟨c1, c2, c3⟩ := mkCtx_no_feed scn hh m .fin (step scn repaired s .fin).2 L.excused (Or.inr rfl)
  exact L.quiet .fin _ s.fed s.lists used hq c2 c3 (c1.trans L.ncomp) (Bool.or_false _) L.fed L.lists rfl (fun _ h => h)
    L.fedle (Or.inl L.ncomp.symm)

theorem link_call (scn : Scn) (hh : Healthy scn) (s : St) (m : Mon) (used : List Nat) (L : Link scn s m used)
    (k : Nat) (isList : Bool) (hk0 : k ≠ 0) (hku : k ∉ used) :
    monCheck (mkCtx scn m (.call k isList) (step scn repaired s (.call k isList)).2) = none ∧
    Link scn (step scn repaired s (.call k isList)).1 (monNext (mkCtx scn m (.call k isList) (step scn repaired s (.call k isList)).2)) (k :: used) := by
  have hlists : (match Op.call k isList with | .call k true => k :: m.lists | _ => m.lists) =
      if isList then k :: s.lists else s.lists := by
    cases isList
    · exact L.lists
    · exact congrArg (k :: ·) L.lists
  by_cases hhd : s.handed = true
  · -- a session exists: the request is POSTed and registered
    have hkpo : k ∉ m.posted := fun h => hku (L.started k (L.posted k h hk0))
    have hkfi : k ∉ m.finished := fun h => hkpo (L.finished k h).2
    have hcr : s.connRet = true := by rw [← L.handed]; exact hhd
    obtain ⟨hup, hep, hseen, h0⟩ : s.phase = .up ∧ epIdx scn.items < m.nComplete ∧
        s.seen = (evsUpTo scn m.nComplete).length ∧ (0 ∈ s.pending ↔ s.connRet = false) := by
      rcases L.phase with ⟨_, _, _, h, _⟩ | h
      · rw [hcr] at h; cases h
      · exact h
    have hstep : step scn repaired s (.call k isList) =
        ({ s with lists := if isList then k :: s.lists else s.lists, pending := s.pending ++ [k] },
         [.post (.call k), .url s.target]) := by
      simp [step, hhd, L.done, St.shutting, L.closing, L.rdead, L.wdead, hh.posts, withUrl]
    rw [hstep]
    obtain ⟨c1, c2, c3⟩ := mkCtx_no_feed scn hh m (.call k isList) [.post (.call k), .url s.target] L.excused (Or.inl ⟨k, isList, rfl⟩)
    have hnc : (monNext (mkCtx scn m (.call k isList) [.post (.call k), .url s.target])).nComplete = m.nComplete := c1
    have hpo : (monNext (mkCtx scn m (.call k isList) [.post (.call k), .url s.target])).posted = m.posted ++ [k] := rfl
    have hfi : (monNext (mkCtx scn m (.call k isList) [.post (.call k), .url s.target])).finished = m.finished :=
      List.append_nil _
    have hst : (monNext (mkCtx scn m (.call k isList) [.post (.call k), .url s.target])).started = k :: m.started := rfl
    constructor
    · -- the POST of a request enters none of the checks
      refine monCheck_nothing_observed _ rfl rfl rfl (contains_false.mp rfl) (contains_false.mp rfl) (contains_false.mp rfl)
        (fun _ => contains_false.mp rfl) c2 L.termSeen ?_
      rw [notifs_eq, c1]; exact L.nts
    · exact
        { L with
          excused := c3
          termSeen := (Bool.or_false _).trans L.termSeen
          mbody := (Bool.or_false _).trans L.mbody
          ncomp := c1.trans L.ncomp
          lists := hlists
          connRet := (Bool.or_false _).trans ((Bool.or_false _).trans L.connRet)
          nts := by rw [hnc]; exact (List.append_nil _).trans L.nts
          answered := by
            intro id; rw [hnc, ← L.answered id]
            show ((m.answered ++ []).filter _).length = _
            rw [List.append_nil]
          started := by
            rw [hst]; intro k' hk'
            rcases List.mem_cons.mp hk' with rfl | h
            · exact List.mem_cons_self ..
            · exact List.mem_cons_of_mem _ (L.started k' h)
          posted := by
            rw [hpo, hst]; intro k' hk' hk'0
            rcases List.mem_append.mp hk' with h | h
            · exact List.mem_cons_of_mem _ (L.posted k' h hk'0)
            · rw [List.mem_singleton.mp h]; exact List.mem_cons_self ..
          finished := by
            rw [hfi, hpo]; intro k' hk'
            exact ⟨(L.finished k' hk').1, List.mem_append_left _ (L.finished k' hk').2⟩
          pend := by
            rw [hfi, hpo]; intro k' hk'0
            show k' ∈ s.pending ++ [k] ↔ _
            simp only [List.mem_append, List.mem_singleton, L.pend k' hk'0]
            constructor
            · rintro (h | rfl)
              · exact ⟨Or.inl h.1, h.2⟩
              · exact ⟨Or.inr rfl, hkfi⟩
            · rintro ⟨h | rfl, h2⟩
              · exact Or.inl ⟨h, h2⟩
              · exact Or.inr rfl
          nodup := by
            have hkpe : k ∉ s.pending := fun h => hkpo ((L.pend k hk0).mp h).1
            show (s.pending ++ [k]).Nodup
            rw [List.nodup_append]
            exact ⟨L.nodup, List.nodup_cons.2 ⟨List.not_mem_nil, List.nodup_nil⟩, fun a ha b hb => by rw [List.mem_singleton.mp hb]; rintro rfl; exact hkpe ha⟩
          phase := by
            rw [hnc]
            refine Or.inr ⟨hup, hep, hseen, ?_⟩
            show 0 ∈ s.pending ++ [k] ↔ _
            rw [List.mem_append, List.mem_singleton, ← h0]
            exact ⟨fun h => h.resolve_right (Ne.symm hk0), Or.inl⟩ }
  · -- no session yet: the harness reports `nosession`
    have hstep : step scn repaired s (.call k isList) =
        ({ s with lists := if isList then k :: s.lists else s.lists }, [.nosession]) := by
      simp [step, hhd]
    rw [hstep]
    have hq : ∀ t ∈ [Tok.nosession], t.quiet = true := fun t ht => by rw [List.mem_singleton.mp ht]; rfl
    obtain ⟨c1, c2, c3⟩ := mkCtx_no_feed scn hh m (.call k isList) [.nosession] L.excused (Or.inl ⟨k, isList, rfl⟩)
    exact L.quiet _ _ s.fed _ (k :: used) hq c2 c3 (c1.trans L.ncomp) (Bool.or_false _) L.fed hlists rfl
      (fun _ h => List.mem_cons_of_mem _ h) L.fedle (Or.inl L.ncomp.symm)

/-- `P` are the calls registered when the payloads arrive: `s.pending`, or `[0]` after the POST `pre` of the initialize
request in the read that brings the endpoint event; the step names the URL it POSTed to. -/
theorem link_read (scn : Scn) (hh : Healthy scn) (s s' : St) (m : Mon) (used : List Nat) (L : Link scn s m used)
    (n : Nat) (ch : List Nat) (fed' : Nat) (P : List Nat) (pre : List Tok)
    (hfed' : min (m.fed + n) scn.full.length = fed')
    (hmono : m.nComplete ≤ completeN scn.items fed') (hep : epIdx scn.items < completeN scn.items fed')
    (hpre : pre = [] ∨ pre = [.post (.call 0)])
    (hP : P.Nodup) (hPrel : ∀ k, k ≠ 0 → (k ∈ P ↔ (k ∈ m.posted ∧ k ∉ m.finished)))
    (hP0 : 0 ∈ P ↔ s.connRet = false)
    (hR : ReadTo scn s P (readPayloads scn m.nComplete fed') fed' s') :
    monCheck (mkCtx scn m (.feed n ch) (withUrl s' (pre ++ (hRun s.lists P (readPayloads scn m.nComplete fed')).2))) = none ∧
    Link scn s' (monNext (mkCtx scn m (.feed n ch) (withUrl s' (pre ++ (hRun s.lists P (readPayloads scn m.nComplete fed')).2)))) used := by
  obtain ⟨url, hu, hurl⟩ := withUrl_eq s' (pre ++ (hRun s.lists P (readPayloads scn m.nComplete fed')).2)
  rw [hu]
  have hmsgs : scn.msgsUpTo (completeN scn.items fed') = scn.msgsUpTo m.nComplete ++ readPayloads scn m.nComplete fed' :=
    msgsUpTo_split scn _ _ hmono (L.ncomp ▸ completeN_le _ _)
  have hgood := readPayloads_good scn hh.labelled m.nComplete fed'
  have hlive : (newMsgs scn m.nComplete (completeN scn.items fed')).map (·.2) = readPayloads scn m.nComplete fed' := rfl
  generalize readPayloads scn m.nComplete fed' = ps at *
  generalize htoks : pre ++ (hRun s.lists P ps).2 ++ url = toks
  obtain ⟨hs', hpend, hlists, hfed, hseen, hbody, hcr⟩ := hR
  obtain ⟨c1, c2, c3⟩ := mkCtx_feed scn hh m n ch toks fed' L.mbody L.excused hfed'
  obtain ⟨p1, p2, p3, p4, p5, p6, p7, _⟩ := feed_toks_proj toks pre url s.lists P ps htoks.symm hpre hurl
  constructor
  · apply feed_checks _ P ps pre url
    · show toks = pre ++ (hRun m.lists P ps).2 ++ url
      rw [L.lists, htoks]
    · exact hpre
    · exact hurl
    · rw [c2]; exact hlive
    · rw [c1]; exact hmsgs
    · exact hgood
    · exact hP
    · intro k hk hk0
      obtain ⟨h1, h2⟩ := (hPrel k hk0).mp hk
      exact ⟨L.posted k h1 hk0, h2⟩
    · exact fun k hk0 hp hf => (hPrel k hk0).mpr ⟨hp, hf⟩
    · exact fun _ hc => hP0.mpr (L.connRet ▸ hc)
    · exact ⟨n, ch, rfl⟩
    · exact L.termSeen
    · exact L.nts
    · exact L.answered
  · obtain ⟨d1, d2⟩ := hRun_dones s.lists ps P hP
    have hnc : (monNext (mkCtx scn m (.feed n ch) toks)).nComplete = completeN scn.items fed' := c1
    have hfm : (monNext (mkCtx scn m (.feed n ch) toks)).finished = m.finished ++ (donesOf (hRun s.lists P ps).2).map (·.1) := by
      show m.finished ++ (donesOf toks).map (·.1) = _
      rw [p1]
    have hpm : (monNext (mkCtx scn m (.feed n ch) toks)).posted = m.posted ++ (if pre = [] then [] else [0]) := by
      show m.posted ++ callsIn toks = _
      rw [p7]
    have hst : (monNext (mkCtx scn m (.feed n ch) toks)).started = m.started := rfl
    -- the initialize call is never among the client's own calls
    have hpm0 : ∀ k, k ≠ 0 → (k ∈ m.posted ++ (if pre = [] then [] else [0]) ↔ k ∈ m.posted) := by
      intro k hk0
      rw [List.mem_append]
      refine ⟨fun h => h.resolve_right fun h => ?_, Or.inl⟩
      split at h
      · cases h
      · exact hk0 (List.mem_singleton.mp h)
    refine
      { excused := c3
        termSeen := by
          show (m.termSeen || toks.contains .term) = false
          rw [L.termSeen, p6]; rfl
        mbody := (Bool.or_false _).trans L.mbody
        sbody := hbody.trans L.sbody
        fed := by
          show (if m.hasBody = true then min (m.fed + n) scn.full.length else m.fed) = s'.fed
          rw [if_pos L.mbody, hfed', hfed]
        ncomp := by rw [hnc, hfed]
        lists := L.lists.trans hlists.symm
        connRet := by
          show (m.connRet || toks.contains .connOk || toks.contains .connErr) = s'.connRet
          rw [p4, p5, Bool.or_false, hcr, L.connRet]
        nts := by
          rw [hnc, hmsgs, notifsOf_append, ← L.nts]
          show m.nts ++ ntsOf toks = _
          rw [p3]
        answered := ?_
        started := L.started
        posted := by
          rw [hpm, hst]
          exact fun k hk hk0 => L.posted k ((hpm0 k hk0).mp hk) hk0
        finished := ?_
        pend := ?_
        nodup := by rw [hpend]; exact hRun_nodup _ _ _ hP
        rdead := hs'.rdead
        wdead := hs'.wdead
        closing := hs'.closing
        done := hs'.done
        closeWait := hs'.closeWait
        handed := hs'.handed
        fedle := by rw [hfed, ← hfed']; exact Nat.min_le_right ..
        phase := Or.inr ⟨hs'.up, by rw [hnc]; exact hep, by rw [hnc]; exact hseen, ?_⟩ }
    · intro id
      rw [hnc, hmsgs, reqsOf_append, List.filter_append, List.length_append, ← L.answered id]
      show ((m.answered ++ (respIdsOf toks).map (·.1)).filter _).length = _
      rw [p2, List.filter_append, List.length_append, List.filter_map, List.length_map]
      rfl
    · intro k hk
      rw [hfm] at hk
      rw [hpm]
      rcases List.mem_append.mp hk with hk | hk
      · exact ⟨(L.finished k hk).1, List.mem_append_left _ (L.finished k hk).2⟩
      · obtain ⟨d, hd, rfl⟩ := List.mem_map.mp hk
        obtain ⟨hd0, hdP, _⟩ := d1 d hd
        exact ⟨hd0, List.mem_append_left _ ((hPrel d.1 hd0).mp hdP).1⟩
    · intro k hk0
      rw [hpend, hRun_pend _ _ _ hP, hfm, hpm, hpm0 k hk0, hPrel k hk0, List.mem_append, not_or, and_assoc]
      refine and_congr_right fun h1 => and_congr_right fun h2 => ?_
      constructor
      · rintro hno hm
        obtain ⟨d, hd, rfl⟩ := List.mem_map.mp hm
        obtain ⟨_, _, ok, hok, _⟩ := d1 d hd
        exact hno ok hok
      · intro hno ok hok
        obtain ⟨d, hd, hdk⟩ := hRun_completes s.lists ps P k ok ((hPrel k hk0).mpr ⟨h1, h2⟩) hk0 hok
        exact hno (List.mem_map.mpr ⟨d, hd, hdk⟩)
    · rw [hpend, hRun_pend _ _ _ hP, hcr]
      constructor
      · rintro ⟨h0, hno⟩
        have : (hRun s.lists P ps).2.contains .connOk = false := by
          rw [contains_false]
          intro hm
          obtain ⟨ok, hok⟩ := hRun_connOk_conv _ _ _ hm
          exact hno ok hok
        rw [hP0.mp h0, this]; rfl
      · intro h
        simp only [Bool.or_eq_false_iff] at h
        refine ⟨hP0.mpr h.1, fun ok hok => ?_⟩
        have := good_resp0 (hgood _ hok)
        subst this
        exact contains_false.mp h.2 (hRun_connOk s.lists ps P (hP0.mpr h.1) hok)

theorem link_feed (scn : Scn) (hh : Healthy scn) (s : St) (m : Mon) (used : List Nat) (L : Link scn s m used)
    (n : Nat) (ch : List Nat) :
    monCheck (mkCtx scn m (.feed n ch) (step scn repaired s (.feed n ch)).2) = none ∧
    Link scn (step scn repaired s (.feed n ch)).1 (monNext (mkCtx scn m (.feed n ch) (step scn repaired s (.feed n ch)).2)) used := by
  rw [step_feed scn repaired s n ch L.sbody]
  generalize hfed' : min (s.fed + n) scn.full.length = fed'
  have hfm : min (m.fed + n) scn.full.length = fed' := L.fed ▸ hfed'
  have hfedle : fed' ≤ scn.full.length := hfed' ▸ Nat.min_le_right ..
  have hmono : m.nComplete ≤ completeN scn.items fed' := by
    rw [L.ncomp]; exact completeN_mono _ _ _ (hfed' ▸ s_fed_le scn s n L.fedle)
  rcases L.phase with ⟨hph, hnep, hpend0, hcr0, hposted0, hfin0⟩ | ⟨hph, hep, hseen, h0⟩
  · by_cases hb : epIdx scn.items < completeN scn.items fed'
    · -- the endpoint event arrives in this read
      obtain ⟨s', hfb, hR⟩ :=
        feedBytes_greet scn hh s fed' m.nComplete hph hnep hb ⟨L.rdead, L.wdead, L.closing, L.done, L.closeWait⟩ hcr0
          (by rw [L.handed, hcr0])
      rw [hfb]
      dsimp only
      refine link_read scn hh s s' m used L n ch fed' [0] [.post (.call 0)] hfm hmono hb (Or.inr rfl)
        (List.nodup_cons.2 ⟨List.not_mem_nil, List.nodup_nil⟩) (fun k hk0 => ?_) (by simp [hcr0]) hR
      rw [hposted0]; simp [hk0]
    · -- still waiting for the endpoint event
      have hb' : completeN scn.items fed' ≤ epIdx scn.items := by omega
      rw [feedBytes_wait scn hh s fed' hph hb']
      have hnone := newMsgs_before scn m.nComplete (completeN scn.items fed') hmono (Nat.le_succ_of_le hb')
      obtain ⟨c1, c2, c3⟩ := mkCtx_feed scn hh m n ch [] fed' L.mbody L.excused hfm
      show monCheck (mkCtx scn m (.feed n ch) []) = none ∧
        Link scn { s with fed := fed' } (monNext (mkCtx scn m (.feed n ch) [])) used
      exact L.quiet (.feed n ch) [] fed' s.lists used (fun _ h => nomatch h) (c2.trans hnone) c3 c1 (Bool.or_false _)
        (by show (if m.hasBody = true then min (m.fed + n) scn.full.length else m.fed) = fed'; rw [if_pos L.mbody, hfm])
        L.lists rfl (fun _ h => h) hfedle (Or.inr ⟨hph, hb'⟩)
  · -- the connection is up
    obtain ⟨s', hfb, hR⟩ := feedBytes_up scn hh s fed' m.nComplete hph hseen hmono hep
      ⟨hph, L.rdead, L.wdead, L.closing, L.done, L.closeWait, L.handed, h0.mp, L.nodup⟩
    rw [hfb]
    dsimp only
    exact link_read scn hh s s' m used L n ch fed' s.pending [] hfm hmono (by omega) (Or.inl rfl)
      L.nodup L.pend h0 hR

theorem run_accepts (scn : Scn) (hh : Healthy scn) (ops : List Op) :
    ∀ (s : St) (m : Mon) (used : List Nat), Link scn s m used → opsOK used ops = true →
      runMon scn m (ops.zip (run scn repaired s ops)) = none := by
  induction ops with
  | nil => intro s m used _ _; rfl
  | cons op rest ih =>
    intro s m used L hok
    simp only [run, List.zip_cons_cons, runMon, monStep]
    cases op with
    | feed n ch =>
      obtain ⟨h1, h2⟩ := link_feed scn hh s m used L n ch
      rw [h1]
      exact ih _ _ used h2 (by simpa [opsOK] using hok)
    | call k l =>
      simp only [opsOK, Bool.and_eq_true, decide_eq_true_eq, Bool.not_eq_true'] at hok
      obtain ⟨⟨hk0, hku⟩, hrest⟩ := hok
      have hku' : k ∉ used := by simpa using hku
      obtain ⟨h1, h2⟩ := link_call scn hh s m used L k l hk0 hku'
      rw [h1]
      exact ih _ _ (k :: used) h2 hrest
    | fin =>
      obtain ⟨h1, h2⟩ := link_fin scn hh s m used L
      rw [h1]
      exact ih _ _ used h2 (by simpa [opsOK] using hok)
    | connect => simp [opsOK] at hok
    | endStream => simp [opsOK] at hok
    | close => simp [opsOK] at hok

/-- On every healthy case (`Healthy`, `opsOK`: the head of this file says what they admit) the monitor raises no clause on
the observations of the model with the repaired pump. -/
theorem monitor_accepts_model_partial (scn : Scn) (hh : Healthy scn) (ops : List Op) (hok : opsOK [] ops = true) :
    runMon scn {} ((Op.connect :: ops).zip (run scn repaired {} (Op.connect :: ops))) = none := by
  have hstep : step scn repaired {} .connect = ({ phase := .awaitEp, hasBody := true }, [.get]) := by
    simp [step, hh.get]
  simp only [run, List.zip_cons_cons, runMon, monStep, hstep]
  have hq : ∀ t ∈ [Tok.get], t.quiet = true := fun t ht => by rw [List.mem_singleton.mp ht]; rfl
  have hm0 : scn.msgsUpTo 0 = [] := msgsUpTo_before scn 0 (Nat.zero_le _)
  have hex : (mkCtx scn {} .connect [.get]).excused' = false := by
    simp [mkCtx, hh.get, postsOf, newMsgs_self]
  have hlive : (mkCtx scn {} .connect [.get]).live = [] := by
    show (if (false = true) then [] else livePrefix (newMsgs scn 0 0)) = []
    rw [newMsgs_self]; rfl
  have hnts : ([] : List Nat) = notifsOf (scn.msgsUpTo 0) := by rw [hm0]; rfl
  rw [monCheck_quiet _ hq hlive rfl hnts]
  apply run_accepts scn hh ops _ _ [] _ hok
  exact
    { excused := hex
      termSeen := rfl
      mbody := by
        show (false || (match scn.get with | .ok => true | .terr => false | .st s => _)) = true
        rw [hh.get]; rfl
      sbody := rfl
      fed := rfl
      ncomp := (completeN_zero _).symm
      lists := rfl
      connRet := rfl
      nts := hnts
      answered := fun id => by
        show (List.filter _ []).length = ((reqsOf (scn.msgsUpTo 0)).filter _).length
        rw [hm0]; rfl
      started := fun _ h => nomatch h
      posted := fun _ h => nomatch h
      finished := fun _ h => nomatch h
      pend := fun _ _ => Iff.intro (fun h => nomatch h) (fun h => nomatch h.1)
      nodup := List.nodup_nil
      rdead := rfl
      wdead := rfl
      closing := rfl
      done := rfl
      closeWait := rfl
      handed := rfl
      fedle := Nat.zero_le _
      phase := Or.inl ⟨rfl, Nat.zero_le _, rfl, rfl, rfl, rfl⟩ }

/-- the same for the code's filter -/
theorem monitor_accepts_generated_partial (scn : Scn) (hh : Healthy scn) (ops : List Op) (hok : opsOK [] ops = true) :
    runMon scn {} ((Op.connect :: ops).zip (run scn generatedFilter {} (Op.connect :: ops))) = none := by
  rw [generated_filter_is_repaired]; exact monitor_accepts_model_partial scn hh ops hok

end SseClient
