import McpModel.SseClient.Model
import McpModel.Wire.LemmasSse
/-!
# Engine `sseclient` — property theorems about the event pump and the endpoint event (C01, C02, C03)

What reaches the jsonrpc2 reader of a session bound to `SSEClientTransport`, for ALL event lists and —
composed with the scanner theorems of engine `wire` — for ALL well-formed byte streams a foreign server
may write (any spelling: `event: message` present / absent / after the data, `id:` / `retry:` / unknown
fields, comments, multi-line data, LF / CRLF per line, other event types, events without data).
-/
namespace SseClient
open Wire Wire.L

/-- The filter regenerated from the pump loop of
`(*SSEClientTransport).Connect` is the one the theorems below are about.  (`decide` on the regenerated
constants: a changed condition re-opens this proof — it fails for a tree without F41's repair, which
forwards everything, and for the seeded change C01-m11/C02-m11, which forwards only NAMED events.) -/
theorem generated_filter_is_repaired : generatedFilter = repaired := by decide

/-- The endpoint scan and the pump read from one buffered reader (F42): the
model's single scanner over the whole body is the code's. -/
theorem generated_single_reader : Generated.SseClient.singleReader = true := by decide

/-- the literal the code compares the first event's name with is the transport's `endpoint` -/
theorem generated_endpoint_name : Generated.SseClient.endpointEventName = epName := by decide

theorem repaired_keeps_iff (e : Event) : repaired.keeps e = isMessage e := by
  simp only [PumpFilter.keeps, repaired, isMessage, isMessageType]
  by_cases hd : e.data = [] <;> simp [hd]

/-- For every list of scanned events the payloads
handed to the jsonrpc2 reader are exactly the `data` of the events that are messages — type "message",
named or by default, with a non-empty data buffer — each once, in stream order, and nothing else. -/
theorem pump_delivers_message_events_exactly_once_in_order (evs : List Event) :
    pump repaired evs = (evs.filter isMessage).map (·.data) := by
  unfold pump
  congr 1
  exact List.filter_congr (fun e _ => repaired_keeps_iff e)

/-- the same for the code: the filter regenerated from `mcp/sse.go` -/
theorem pump_generated (evs : List Event) :
    pump generatedFilter evs = (evs.filter isMessage).map (·.data) := by
  rw [generated_filter_is_repaired]; exact pump_delivers_message_events_exactly_once_in_order evs

theorem pump_append (f : PumpFilter) (a b : List Event) : pump f (a ++ b) = pump f a ++ pump f b := by
  simp [pump]

/-- the payloads delivered are a subsequence of the events' payloads: nothing is invented, duplicated or reordered -/
theorem pump_sublist (f : PumpFilter) (evs : List Event) : (pump f evs).Sublist (evs.map (·.data)) := by
  unfold pump
  exact (List.filter_sublist).map _

/-- An event WITHOUT an `event:` field (and with data) is a message: wherever
it stands in the stream its payload is delivered, between what precedes and what follows it. -/
theorem unnamed_event_is_message (pre post : List Event) (e : Event) (hn : e.name = []) (hd : e.data ≠ []) :
    pump repaired (pre ++ e :: post) = pump repaired pre ++ e.data :: pump repaired post := by
  simp [pump, PumpFilter.keeps, repaired, hn, hd]

/-- the same for an event that names its type `message` -/
theorem named_message_event_is_message (pre post : List Event) (e : Event) (hn : e.name = msgName) (hd : e.data ≠ []) :
    pump repaired (pre ++ e :: post) = pump repaired pre ++ e.data :: pump repaired post := by
  simp [pump, PumpFilter.keeps, repaired, hn, hd]

/-- An event of any other type (`event: ping`, a repeated `endpoint`, …),
whatever its data, contributes nothing and disturbs nothing. -/
theorem other_event_types_ignored (pre post : List Event) (e : Event) (h1 : e.name ≠ []) (h2 : e.name ≠ msgName) :
    pump repaired (pre ++ e :: post) = pump repaired pre ++ pump repaired post := by
  simp [pump, PumpFilter.keeps, repaired, h1, h2]

/-- An event without data (`retry: 3000`, `id: 7` alone, a typed event with
no data line) is not dispatched. -/
theorem empty_data_not_dispatched (pre post : List Event) (e : Event) (hd : e.data = []) :
    pump repaired (pre ++ e :: post) = pump repaired pre ++ pump repaired post := by
  simp [pump, PumpFilter.keeps, repaired, hd]

/-- nothing empty ever reaches `jsonrpc2.DecodeMessage` -/
theorem pump_never_empty (evs : List Event) : [] ∉ pump repaired evs := by
  rw [pump_delivers_message_events_exactly_once_in_order]
  intro h
  obtain ⟨e, he, hd⟩ := List.mem_map.mp h
  have := (List.mem_filter.mp he).2
  simp [isMessage, hd] at this

/-! ### what the two other filters do (counter-examples: why the tie above matters) -/

def pingEvent : Event := { name := [112, 105, 110, 103], data := [107] }       -- event: ping / data: k
def retryEvent : Event := { retry := [51, 48, 48, 48] }                         -- retry: 3000
def unnamedEvent : Event := { data := [123, 125] }                              -- data: {}

/-- the filter that forwards everything (`asBuilt`): an event of another type reaches the decoder … -/
theorem asbuilt_forwards_other_types : pump asBuilt [pingEvent] = [[107]] := by decide
/-- … and so does an event without data (an empty payload: `DecodeMessage` fails, the session is torn down) -/
theorem asbuilt_forwards_empty_data : pump asBuilt [retryEvent] = [[]] := by decide
/-- the seeded change C01-m11 / C02-m11 drops every message of a server that relies on the default type -/
theorem m11_drops_unnamed : pump seededM11 [unnamedEvent] = [] ∧ isMessage unnamedEvent = true := by decide
/-- the repaired filter on the three events above: only the unnamed message passes -/
theorem repaired_handles_them :
    pump repaired [pingEvent, retryEvent, unnamedEvent] = [[123, 125]] := by decide

theorem isMessage_not_isEmpty (e : Event) (h : isMessage e = true) : e.isEmpty = false := by
  simp only [isMessage, Bool.and_eq_true, decide_eq_true_eq] at h
  simp [Event.isEmpty, h.2]

/-- On what the scanner dispatches (the events that are not empty) the repaired pump delivers the data of
exactly the message events: the form in which the byte-level theorems below use the pump theorem. -/
theorem pump_dispatched (evs : List Event) :
    pump repaired (evs.filter (fun e => !e.isEmpty)) = (evs.filter isMessage).map (·.data) := by
  rw [pump_delivers_message_events_exactly_once_in_order, List.filter_filter]
  congr 1
  apply List.filter_congr
  intro e _
  by_cases hm : isMessage e = true
  · simp [hm, isMessage_not_isEmpty e hm]
  · simp [hm]

/-- For EVERY list of framed events a foreign server writes (each line well
formed: `WfFLine`; any line ends, field order, comments, unknown fields, multi-line data): scanning the
BYTES and pumping gives exactly the data of the events whose meaning (`FEvent.denote`) is a message, in
order — and the scanner reports no malformed line. -/
theorem pump_of_stream_bytes (es : List FEvent) (h : ∀ e ∈ es, ∀ l ∈ e.lines, WfFLine l) :
    pump repaired (scanEvents (renderStream es)).1 = ((es.map FEvent.denote).filter isMessage).map (·.data) ∧
    (scanEvents (renderStream es)).2 = false := by
  rw [sse_roundtrip_any_eol es h]
  exact ⟨pump_dispatched _, rfl⟩

theorem renderLines_append (x y : List (Bytes × Eol)) : renderLines (x ++ y) = renderLines x ++ renderLines y :=
  Wire.L.renderLines_append x y

theorem renderStream_append (a b : List FEvent) : renderStream (a ++ b) = renderStream a ++ renderStream b := by
  simp [renderStream, List.flatMap_append, renderLines_append]

theorem scanFed_eq (bs : Bytes) : scanFed bs = ((scanLines bs).out, (scanLines bs).malformed) := rfl

/-- **the scanner on an unfinished stream**: complete events, then some complete field lines of the event being
written, then the beginning of a line (`rest`: no LF yet).  Exactly the complete events have been dispatched, and no
line was malformed. -/
theorem scanFed_partial (es : List FEvent) (ls : List FLine) (rest : Bytes)
    (h : ∀ e ∈ es, ∀ l ∈ e.lines, WfFLine l) (hls : ∀ l ∈ ls, WfFLine l) (hr : LF ∉ rest) :
    scanFed (renderStream es ++ renderLines (ls.map (fun l => (l.text, l.eol))) ++ rest) =
      ((es.map FEvent.denote).filter (fun e => !e.isEmpty), false) := by
  have hf := foldl_fields ls ⟨{}, none, (es.map FEvent.denote).filter (fun e => !e.isEmpty), false⟩ rfl hls
  rw [scanFed_eq, (scanLines_unfinished es ls rest h hls hr).1]
  exact Prod.ext hf.2.1 hf.2.2

/-- an event not yet terminated by its blank line contributes nothing: the lines received so far of the
event being written only accumulate -/
theorem scanFed_partial_event (es : List FEvent) (e : FEvent) (k : Nat)
    (h : ∀ e ∈ es, ∀ l ∈ e.lines, WfFLine l) (he : ∀ l ∈ e.lines, WfFLine l) :
    scanFed (renderStream es ++ renderLines ((e.lines.take k).map (fun l => (l.text, l.eol)))) =
      ((es.map FEvent.denote).filter (fun e => !e.isEmpty), false) := by
  simpa using scanFed_partial es (e.lines.take k) [] h (fun l hl => he l (List.mem_of_mem_take hl)) List.not_mem_nil

theorem scanFed_stream (es : List FEvent) (h : ∀ e ∈ es, ∀ l ∈ e.lines, WfFLine l) :
    scanFed (renderStream es) = ((es.map FEvent.denote).filter (fun e => !e.isEmpty), false) := by
  simpa [renderLines] using scanFed_partial_event es default 0 h (fun _ hl => nomatch hl)

/-- (A limit, not a finding.)  WHATWG text/event-stream also allows a bare CR as line
end; `bufio.Reader.ReadBytes('\n')` splits at LF only, so a stream without any LF never yields a line, whatever it
contains: the client waits (Connect does not return). Outside the quantifier here as in engine `wire`
(`Wire/Sse.lean`: "a bare CR as a line end is outside"); no SDK or common server writes such streams. -/
theorem bare_cr_is_not_a_line_end (bs : Bytes) (h : LF ∉ bs) : scanFed bs = ([], false) := by
  simp [scanFed, Wire.L.splitLines_of_noLF bs h]

/-- What the session has been handed after the server wrote the complete events `es`
and some of the lines of the next one — however the bytes were cut into network reads (the scanner runs
over the bytes received so far) — is exactly the message events among `es`: an event split across reads is
delivered when its blank line has arrived, not before, and never in pieces. -/
theorem pump_incremental (es : List FEvent) (e : FEvent) (k : Nat)
    (h : ∀ e ∈ es, ∀ l ∈ e.lines, WfFLine l) (he : ∀ l ∈ e.lines, WfFLine l) :
    pump repaired (scanFed (renderStream es ++ renderLines ((e.lines.take k).map (fun l => (l.text, l.eol))))).1 =
      ((es.map FEvent.denote).filter isMessage).map (·.data) := by
  rw [scanFed_partial_event es e k h he]
  exact pump_dispatched _

/-- A reference without scheme and authority — an absolute path, a
relative path, a query — resolves to the origin (scheme and authority) the client connected to. -/
theorem endpoint_same_origin_of_relative (base r : Ref) (h1 : r.scheme = none) (h2 : r.auth = none) :
    (resolveRef base r).scheme = base.scheme ∧ (resolveRef base r).auth = base.auth := by
  simp [resolveRef, h1, h2]

/-- a network-path reference (`//host/path`) keeps the scheme -/
theorem endpoint_network_path_keeps_scheme (base r : Ref) (h1 : r.scheme = none) :
    (resolveRef base r).scheme = base.scheme := by
  unfold resolveRef
  simp only [h1]
  split <;> rfl

-- http://verif.invalid/a/sse?x=1
def exBase : Bytes := [104, 116, 116, 112, 58, 47, 47, 118, 101, 114, 105, 102, 46, 105, 110, 118, 97, 108, 105, 100, 47, 97, 47, 115, 115, 101, 63, 120, 61, 49]
-- http://other.invalid:9/m?x=1
def exOther : Bytes := [104, 116, 116, 112, 58, 47, 47, 111, 116, 104, 101, 114, 46, 105, 110, 118, 97, 108, 105, 100, 58, 57, 47, 109, 63, 120, 61, 49]

/-- The statement one would like: "the client POSTs only to the
origin it connected to".  It does not hold of `parsedURL.Parse(raw)`: an endpoint event carrying an
absolute URL of ANOTHER origin is followed as it stands (no property among C01–C20 forbids it; the
TypeScript SDK refuses such an endpoint).  Proved: the relative case above, and this witness. -/
theorem endpoint_absolute_is_followed : endpointURL exBase exOther = exOther := by decide

/-- examples of the resolution (RFC 3986 §5.2 as `net/url` implements it), checked against the real
`url.Parse`/`ResolveReference` by the correspondence stream on every run -/
-- /messages?sessionid=1 , http://verif.invalid/messages?sessionid=1
example : endpointURL exBase [47, 109, 101, 115, 115, 97, 103, 101, 115, 63, 115, 101, 115, 115, 105, 111, 110, 105, 100, 61, 49] = [104, 116, 116, 112, 58, 47, 47, 118, 101, 114, 105, 102, 46, 105, 110, 118, 97, 108, 105, 100, 47, 109, 101, 115, 115, 97, 103, 101, 115, 63, 115, 101, 115, 115, 105, 111, 110, 105, 100, 61, 49] := by decide +kernel
-- messages/7 , http://verif.invalid/a/messages/7
example : endpointURL exBase [109, 101, 115, 115, 97, 103, 101, 115, 47, 55] = [104, 116, 116, 112, 58, 47, 47, 118, 101, 114, 105, 102, 46, 105, 110, 118, 97, 108, 105, 100, 47, 97, 47, 109, 101, 115, 115, 97, 103, 101, 115, 47, 55] := by decide +kernel
-- ?sessionid=9 , http://verif.invalid/a/sse?sessionid=9
example : endpointURL exBase [63, 115, 101, 115, 115, 105, 111, 110, 105, 100, 61, 57] = [104, 116, 116, 112, 58, 47, 47, 118, 101, 114, 105, 102, 46, 105, 110, 118, 97, 108, 105, 100, 47, 97, 47, 115, 115, 101, 63, 115, 101, 115, 115, 105, 111, 110, 105, 100, 61, 57] := by decide +kernel
-- ../up/m , http://verif.invalid/up/m
example : endpointURL exBase [46, 46, 47, 117, 112, 47, 109] = [104, 116, 116, 112, 58, 47, 47, 118, 101, 114, 105, 102, 46, 105, 110, 118, 97, 108, 105, 100, 47, 117, 112, 47, 109] := by decide +kernel
-- //verif.invalid/m2 , http://verif.invalid/m2
example : endpointURL exBase [47, 47, 118, 101, 114, 105, 102, 46, 105, 110, 118, 97, 108, 105, 100, 47, 109, 50] = [104, 116, 116, 112, 58, 47, 47, 118, 101, 114, 105, 102, 46, 105, 110, 118, 97, 108, 105, 100, 47, 109, 50] := by decide +kernel

end SseClient
