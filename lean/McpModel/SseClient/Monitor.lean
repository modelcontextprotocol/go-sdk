import McpModel.SseClient.Model
/-!
# The typed monitor of engine `sseclient` (C01, C02; the order clause of C03)

Decides, from the IMPLEMENTATION's observation tokens, which clause of C01 / C02 / C03 is violated.  The driver
parses the harness's records into `Op` / `Tok`, calls `monStep` and renders the `Clause` (`Clause.text`,
in the driver).  `Bridge.lean`: the monitor raises no clause on the runs of the model in the healthy
fragment (`monitor_accepts_model_partial`; the fragment: `Healthy`, `opsOK`); `Sound.lean`: every clause it raises contradicts the property's reading on the
observed step (`sound_<clause>`).

The monitor runs neither the scanner model nor the pump nor the session model (`step`); of Model.lean it takes
`isMessage`, `refOK`, `Scn.postOk` and `errCodeOf` (the kind of answer a server request demands).  Its ground truth is what the
scripted foreign server did: the framed events it wrote (`FEvent.denote`: what a framed event MEANS
under the text/event-stream processing model), how many bytes of them it has handed to the client,
which statuses it answered POSTs with, and the operations of the harness.  An event was *received* when
all its bytes including the blank line were handed over; it *is a message* iff its type is "message"
(named, or by default when it has no `event` field) and its data is not empty (`isMessage`).
-/
namespace SseClient
open Wire

/-! ### ground truth -/

/-- how many leading items lie completely within the first `fed` bytes -/
def completeN : List Item → Nat → Nat
  | [], _ => 0
  | it :: rest, fed => if it.bytes.length ≤ fed then completeN rest (fed - it.bytes.length) + 1 else 0

/-- byte offset at which item `i` ends -/
def endOff (items : List Item) (i : Nat) : Nat := ((items.take (i + 1)).map (·.bytes.length)).sum

/-- the first item that is an event at all (comment-only blocks before it denote nothing) -/
def epIdx (items : List Item) : Nat := (items.findIdx (fun it => !it.fe.denote.isEmpty))

/-- the server greets as the transport demands: the first event is `endpoint` with a reference the model speaks about -/
def epLegal (scn : Scn) : Bool :=
  match scn.items[epIdx scn.items]? with
  | some it => it.fe.denote.name = epName && refOK it.fe.denote.data && refOK scn.base
  | none => true

/-- item `i` carries a JSON-RPC message: an event after the endpoint event, of type "message", with data -/
def Scn.isMsgItem (scn : Scn) (i : Nat) : Bool :=
  match scn.items[i]? with
  | some it => decide (epIdx scn.items < i) && isMessage it.fe.denote
  | none => false

/-- the message items of `l` (whose head has index `i`) with their indices: events after the endpoint event
(index `ep`), of type "message", with data -/
def msgFrom (ep : Nat) : Nat → List Item → List (Nat × Payload)
  | _, [] => []
  | i, it :: t => (if decide (ep < i) && isMessage it.fe.denote then [(i, it.payload)] else []) ++ msgFrom ep (i + 1) t

/-- the message items with index in `[a, b)` -/
def newMsgs (scn : Scn) (a b : Nat) : List (Nat × Payload) :=
  msgFrom (epIdx scn.items) a ((scn.items.take b).drop a)

/-- the payloads of the message items among the first `n` items -/
def Scn.msgsUpTo (scn : Scn) (n : Nat) : List Payload := (newMsgs scn 0 n).map (·.2)

/-- an event the scanner dispatches but that is NOT a message (another type, or no data) was received:
the shape of F41 (engine-local name sseclient-F40) -/
def Scn.nonMsgSeen (scn : Scn) (n : Nat) : Bool :=
  (List.range n).any (fun i => decide (epIdx scn.items < i) && !scn.isMsgItem i &&
    (match scn.items[i]? with | some it => !it.fe.denote.isEmpty | none => false))

inductive Why where
  | plain
  | nonMessageEvent       -- F41 (sseclient-F40)
  | sameReadAsEndpoint    -- F42 (sseclient-F41)
deriving DecidableEq, Repr

/-! ### bookkeeping -/

structure Mon where
  hasBody : Bool := false
  fed : Nat := 0
  nComplete : Nat := 0            -- items received
  /-- the connection broke, was closed, or the peer left the protocol: errors are admissible from here on -/
  excused : Bool := false
  closeCalled : Bool := false
  /-- where the network read that completed the endpoint event ended -/
  epReadEnd : Nat := 0
  started : List Nat := []        -- calls whose `call` operation ran with a session
  posted : List Nat := []         -- calls whose POST the server saw (a started call that found the connection closed has none)
  finished : List Nat := []       -- calls that returned
  lists : List Nat := []
  answered : List String := []
  nts : List Nat := []
  connRet : Bool := false
  connFailed : Bool := false
  termSeen : Bool := false
deriving Repr

inductive Clause where
  | c01Twice (k : Nat)
  | c01WrongResponse (k : Nat)
  | c01Spurious (k : Nat) (w : Why)
  | c01Unclassified (k : Nat)
  | c01LateNotClosed (k : Nat)
  | c01ConnectFailed (w : Why)
  | c01ConnectNoResponse
  | c01TermUnexpected (w : Why)
  | c01LateBlocked (k : Nat)
  | c01BlockedAfterTerm (k : Nat)
  | c01Lost (k : Nat) (w : Why) (unnamed : Bool)
  | c02Foreign (id : String)
  | c02Twice (id : String)
  | c02WrongKind (id : String)
  | c02Unanswered (id : String) (w : Why) (unnamed : Bool)
  | c03Order
  | unexpected (s : String)
deriving DecidableEq, Repr

/-! ### one step -/

def postsOf (toks : List Tok) : List PostId := toks.filterMap (fun t => match t with | .post p => some p | _ => none)
def donesOf (toks : List Tok) : List (Nat × Outcome) := toks.filterMap (fun t => match t with | .done k o => some (k, o) | _ => none)
def respIdsOf (toks : List Tok) : List (String × Option Int) :=
  (postsOf toks).filterMap (fun p => match p with | .resp id c => some (id, c) | _ => none)
def ntsOf (toks : List Tok) : List Nat := toks.flatMap (fun t => match t with | .nt ns => ns | _ => [])

/-- where the read that delivers byte number `off` (1-based: the read in which the total reaches `off`) ends -/
def readEnd (start : Nat) (chunks : List Nat) (off : Nat) : Nat :=
  match chunks with
  | [] => start
  | c :: cs => if off ≤ start + c then start + c else readEnd (start + c) cs off

/-- the payloads after which the client may give the connection up (so errors are admissible from there on) -/
def excusing : Payload → Bool
  | .junk => true            -- the peer sent text that is not JSON-RPC in a message event
  | .resp 0 false => true    -- the peer refused the initialize call: Connect gives the session up
  | .none => true            -- a message event whose payload the script does not label (`Scn.labelled` of the bridge excludes it)
  | _ => false

/-- the step as the checks read it: the observation `toks` beside the ground truth of the step; of the observation only the
POSTs enter the ground truth (`excused'`: a POST the server answered with a failing status excuses) -/
structure Ctx where
  scn : Scn
  m : Mon                       -- before the step
  op : Op
  toks : List Tok
  n' : Nat                      -- items received after the step
  live : List (Nat × Payload)   -- the message items newly received while the connection was usable (index, payload)
  excused' : Bool               -- excused after the step

/-- the newly received message items up to the first excusing one: what a usable connection must have
processed -/
def livePrefix (l : List (Nat × Payload)) : List (Nat × Payload) := l.takeWhile (fun p => !excusing p.2)

/-- from this step on errors are excused: by the operation (`opExcuses`: the stream was ended, Close was called, the GET
failed), by an endpoint event the client must refuse (`epBad`), by a POST of this step that the server answered with a
failing status (`postFailed`), or by an excusing payload -/
def mkCtx (scn : Scn) (m : Mon) (op : Op) (toks : List Tok) : Ctx :=
  let feeds := match op with | .feed _ _ => m.hasBody | _ => false
  let fed' := match op with | .feed n _ => if feeds then min (m.fed + n) scn.full.length else m.fed | _ => m.fed
  let n' := if feeds then completeN scn.items fed' else m.nComplete
  let new := newMsgs scn m.nComplete n'
  let live := if m.excused then [] else livePrefix new
  let opExcuses := match op with
    | .endStream | .close => true
    | .connect => (match scn.get with
        | .ok => false
        | .terr => true
        | .st c => !(Generated.SseClient.connectStatusLo ≤ c && c < Generated.SseClient.connectStatusHi))
    | _ => false
  let epBad := decide (epIdx scn.items < n') && !epLegal scn
  let postFailed := (postsOf toks).any (fun p => !scn.postOk p)
  { scn := scn, m := m, op := op, toks := toks, n' := n', live := live,
    excused' := m.excused || opExcuses || epBad || postFailed || new.any (fun p => excusing p.2) }

/-- what distinguishes the situation of an unexcused error, for the clause text (F41, F42, neither) -/
def Ctx.why (c : Ctx) : Why :=
  if c.scn.nonMsgSeen c.n' then .nonMessageEvent
  else if endOff c.scn.items (epIdx c.scn.items) < c.m.epReadEnd then .sameReadAsEndpoint
  else .plain

def unnamedItem (scn : Scn) (i : Nat) : Bool :=
  match scn.items[i]? with | some it => it.fe.denote.name = [] | none => false

/-- the message items received so far that are the response to call `k` with the given kind -/
def Ctx.hasResp (c : Ctx) (k : Nat) (ok : Bool) : Bool := (c.scn.msgsUpTo c.n').contains (.resp k ok)

def Ctx.reqCount (c : Ctx) (id : String) : Nat :=
  ((c.scn.msgsUpTo c.n').filter (fun p => match p with | .req id' _ => id' = id | _ => false)).length

def Ctx.reqKinds (c : Ctx) (id : String) : List (Option Int) :=
  (c.scn.msgsUpTo c.n').filterMap (fun p => match p with | .req id' m => if id' = id then some (errCodeOf m) else none | _ => none)

def isSubseq : List Nat → List Nat → Bool
  | [], _ => true
  | _ :: _, [] => false
  | a :: as, b :: bs => if a = b then isSubseq as bs else isSubseq (a :: as) bs

/-- the notifications among the message items received so far, in stream order -/
def Ctx.notifs (c : Ctx) : List Nat :=
  (c.scn.msgsUpTo c.n').filterMap (fun p => match p with | .notif n => some n | _ => none)

/-- the operation of the step is the call `k` itself -/
def Ctx.callsNow (c : Ctx) (k : Nat) : Bool := match c.op with | .call k' _ => k' = k | _ => false

/-- the marker a result of call `k` must carry: `t<k>` for tools/list, none for ping -/
def Ctx.expectedMarker (c : Ctx) (k : Nat) : Option Nat :=
  if c.m.lists.contains k || (match c.op with | .call k' l => k' = k && l | _ => false) then some k else none

/-- clause raised by one completion token -/
def checkDone (c : Ctx) (seenBefore : List Nat) (k : Nat) (o : Outcome) : Option Clause :=
  if !c.m.started.contains k && !c.callsNow k then some (.c01Twice k)
  else if c.m.finished.contains k || seenBefore.contains k then some (.c01Twice k)
  else match o with
    | .res mk =>
      if !c.hasResp k true then some (.c01WrongResponse k)
      else if mk ≠ c.expectedMarker k then some (.c01WrongResponse k)
      else none
    | .rpc code =>
      -- `-31000 - k`: the code the scripted server puts into its error response to call `k`
      if !c.hasResp k false || code ≠ -31000 - (k : Int) then some (.c01WrongResponse k) else none
    | .err =>
      if !c.excused' then some (.c01Spurious k c.why)
      else if c.m.termSeen then some (.c01LateNotClosed k)
      else none
    | .closed => if !c.excused' then some (.c01Spurious k c.why) else none
    | .other _ => some (.c01Unclassified k)

def checkDones (c : Ctx) : List Nat → List (Nat × Outcome) → Option Clause
  | _, [] => none
  | seen, (k, o) :: rest =>
    match checkDone c seen k o with
    | some cl => some cl
    | none => checkDones c (k :: seen) rest

/-- clause raised by the response POSTs of the step -/
def checkResps (c : Ctx) : List String → List (String × Option Int) → Option Clause
  | _, [] => none
  | seen, (id, code) :: rest =>
    let n := c.reqCount id
    if n = 0 then some (.c02Foreign id)
    else if (seen.filter (· = id)).length + 1 > n then some (.c02Twice id)
    else if !((c.reqKinds id).contains code || (c.m.closeCalled && code = some Generated.SseClient.serverClosingCode)) then some (.c02WrongKind id)
    else checkResps c (id :: seen) rest

/-- why a message item may have gone astray: it (partly) arrived in the read that completed the endpoint event,
or the client had torn the session down before -/
def Ctx.whyItem (c : Ctx) (i : Nat) : Why :=
  if decide (endOff c.scn.items i - (match c.scn.items[i]? with | some it => it.bytes.length | none => 0) < c.m.epReadEnd) then .sameReadAsEndpoint
  else if c.m.termSeen || c.m.connFailed then c.why
  else .plain

/-- what one live message item (index `i`, payload `p`) obliges the client to have done by the end of the step -/
def liveClause (c : Ctx) (i : Nat) (p : Payload) : Option Clause :=
  match p with
  | .resp k ok =>
    if k = 0 ∧ ok = true then
      (if !c.m.connRet && !c.toks.contains .connOk then some (.c01Lost 0 (c.whyItem i) (unnamedItem c.scn i)) else none)
    else if c.m.posted.contains k && !c.m.finished.contains k && !(donesOf c.toks).any (fun d => d.1 = k) then
      some (.c01Lost k (c.whyItem i) (unnamedItem c.scn i))
    else none
  | .req id _ =>
    if !(respIdsOf c.toks).any (fun r => r.1 = id) then some (.c02Unanswered id (c.whyItem i) (unnamedItem c.scn i)) else none
  | _ => none

def checkLive (c : Ctx) : List (Nat × Payload) → Option Clause
  | [] => none
  | (i, p) :: rest =>
    match liveClause c i p with
    | some cl => some cl
    | none => checkLive c rest

def firstSome : List (Option Clause) → Option Clause
  | [] => none
  | some c :: _ => some c
  | none :: rest => firstSome rest

def otherClause : Tok → Option Clause
  | .other s => some (.unexpected s)
  | _ => none

def pendClause : Tok → Option Clause
  | .pend k => some (.c01BlockedAfterTerm k)
  | _ => none

/-- the clause raised by a step, if any -/
def monCheck (c : Ctx) : Option Clause :=
  firstSome [
    c.toks.findSome? otherClause,
    checkDones c [] (donesOf c.toks),
    (if c.toks.contains .connErr && !c.excused' then some (.c01ConnectFailed c.why) else none),
    (if c.toks.contains .connOk && !c.hasResp 0 true then some .c01ConnectNoResponse else none),
    (if c.toks.contains .term && !c.excused' then some (.c01TermUnexpected c.why) else none),
    checkResps c c.m.answered (respIdsOf c.toks),
    -- the obligations hold while the connection is usable: a POST answered with a failing status in this
    -- very step breaks it
    (if (postsOf c.toks).any (fun p => !c.scn.postOk p) then none else checkLive c c.live),
    (match c.op with
     | .call k _ =>
       if c.m.termSeen && !c.toks.contains .nosession && !(donesOf c.toks).any (fun d => d.1 = k) then some (.c01LateBlocked k) else none
     | .fin =>
       if c.m.termSeen then
         c.toks.findSome? pendClause
       else none
     | _ => none),
    (if isSubseq (c.m.nts ++ ntsOf c.toks) c.notifs then none else some .c03Order)
  ]

/-- the client's own requests POSTed in the step -/
def callsIn (toks : List Tok) : List Nat := (postsOf toks).filterMap (fun p => match p with | .call k => some k | _ => none)

/-- the bookkeeping after the step -/
def monNext (c : Ctx) : Mon :=
  let m := c.m
  let feeds := match c.op with | .feed _ _ => m.hasBody | _ => false
  let fed' := match c.op with | .feed n _ => if feeds then min (m.fed + n) c.scn.full.length else m.fed | _ => m.fed
  let epEnd := endOff c.scn.items (epIdx c.scn.items)
  { hasBody := m.hasBody || (match c.op with
      | .connect => (match c.scn.get with
          | .ok => true
          | .terr => false
          | .st s => Generated.SseClient.connectStatusLo ≤ s && s < Generated.SseClient.connectStatusHi)
      | _ => false),
    fed := fed',
    nComplete := c.n',
    excused := c.excused',
    closeCalled := m.closeCalled || (match c.op with | .close => true | _ => false),
    epReadEnd := (match c.op with
      | .feed _ chunks => if feeds && m.fed < epEnd && epEnd ≤ fed' then readEnd m.fed chunks epEnd else m.epReadEnd
      | _ => m.epReadEnd),
    started := (match c.op with | .call k _ => if c.toks.contains .nosession then m.started else k :: m.started | _ => m.started),
    posted := m.posted ++ callsIn c.toks,
    finished := m.finished ++ (donesOf c.toks).map (·.1),
    lists := (match c.op with | .call k true => k :: m.lists | _ => m.lists),
    answered := m.answered ++ (respIdsOf c.toks).map (·.1),
    nts := m.nts ++ ntsOf c.toks,
    connRet := m.connRet || c.toks.contains .connOk || c.toks.contains .connErr,
    connFailed := m.connFailed || c.toks.contains .connErr,
    termSeen := m.termSeen || c.toks.contains .term }

def monStep (scn : Scn) (m : Mon) (op : Op) (toks : List Tok) : Mon × Option Clause :=
  let c := mkCtx scn m op toks
  (monNext c, monCheck c)

/-- the first clause raised along a case -/
def runMon (scn : Scn) : Mon → List (Op × List Tok) → Option Clause
  | _, [] => none
  | m, (op, toks) :: rest =>
    match (monStep scn m op toks).2 with
    | some c => some c
    | none => runMon scn (monStep scn m op toks).1 rest

end SseClient
