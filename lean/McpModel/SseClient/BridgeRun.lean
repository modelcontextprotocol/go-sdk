import McpModel.SseClient.Monitor
/-!
# Bridge: what the model does with the payloads of one read while the connection is healthy

`hRun`: the effect of a list of (non-excusing) message payloads on the set of registered calls and the
tokens they produce, as a plain recursion; `deliverAll_healthy`: the model's `deliverAll` IS `hRun` as long
as no shutdown flag is set and every POST is accepted; then the facts about `hRun` the monitor's checks
need.  The `h` of `hStep`, `hRun`, `HS` is for healthy.
-/
namespace SseClient
open Wire

def outcomeOf (lists : List Nat) (k : Nat) (ok : Bool) : Outcome :=
  if ok then .res (if lists.contains k then some k else none) else .rpc (-31000 - (k : Int))

/-- one payload on a healthy connection: the registered calls afterwards, and the tokens -/
def hStep (lists pend : List Nat) : Payload → List Nat × List Tok
  | .resp k ok =>
    if pend.contains k then
      (pend.erase k, if k = 0 then [.post .initialized, .connOk] else [.done k (outcomeOf lists k ok)])
    else (pend, [])
  | .req id m => (pend, [.post (.resp id (errCodeOf m))])
  | .notif n => (pend, [.nt [n]])
  | _ => (pend, [])

def hRun (lists : List Nat) : List Nat → List Payload → List Nat × List Tok
  | pend, [] => (pend, [])
  | pend, p :: ps => ((hRun lists (hStep lists pend p).1 ps).1, (hStep lists pend p).2 ++ (hRun lists (hStep lists pend p).1 ps).2)

/-- a payload a healthy scenario contains: a message, and not one that excuses a shutdown.  So a duplicate
response, a response with a foreign id or to a call nobody waits for are good (`.fresp`, `.resp k` with `k` not
pending); text that is not JSON-RPC, a message event without a label and a refused initialize are not. -/
def goodPayload (p : Payload) : Bool := p.isMsg && !excusing p

/-- a refused initialize call excuses a shutdown: among good payloads the response to initialize is a result -/
theorem good_resp0 {ok : Bool} (h : goodPayload (.resp 0 ok) = true) : ok = true := by
  cases ok
  · cases h
  · rfl

/-- the model's state while nothing is wrong -/
structure HS (s : St) : Prop where
  up : s.phase = .up
  rdead : s.rdead = false
  wdead : s.wdead = false
  closing : s.closing = false
  done : s.done = false
  closeWait : s.closeWait = false
  handed : s.handed = s.connRet
  pend0 : 0 ∈ s.pending → s.connRet = false
  nodup : s.pending.Nodup

theorem settle_healthy (s : St) (h : HS s) : settle s = (s, []) := by
  simp [settle, St.shutting, h.rdead, h.wdead, h.closing]

theorem deliver_healthy (scn : Scn) (hp : ∀ p, scn.postOk p = true) (s : St) (h : HS s) (p : Payload) (hg : goodPayload p = true) :
    ∃ s', deliver scn s p = (s', (hStep s.lists s.pending p).2) ∧ HS s' ∧
      s'.pending = (hStep s.lists s.pending p).1 ∧ s'.lists = s.lists ∧ s'.fed = s.fed ∧ s'.seen = s.seen ∧
      s'.hasBody = s.hasBody ∧ s'.target = s.target ∧
      s'.connRet = (s.connRet || (hStep s.lists s.pending p).2.contains .connOk) := by
  cases p with
  | resp k ok =>
    by_cases hk : k ∈ s.pending
    · by_cases h0 : k = 0
      · subst h0
        have hok := good_resp0 hg
        subst hok
        refine ⟨{ s with pending := s.pending.erase 0, connRet := true, handed := true }, ?_, ?_, ?_⟩
        · simp [deliver, hk, St.shutting, h.rdead, h.wdead, h.closing, hp, hStep]
        · refine ⟨h.up, h.rdead, h.wdead, h.closing, h.done, h.closeWait, rfl, ?_, h.nodup.erase 0⟩
          intro hm
          exact absurd rfl ((List.Nodup.mem_erase_iff h.nodup).mp hm).1
        · simp [hStep, hk]
      · refine ⟨{ s with pending := s.pending.erase k }, ?_, ?_, ?_⟩
        · cases ok <;> simp [deliver, hk, h0, hStep, outcomeOf]
        · exact ⟨h.up, h.rdead, h.wdead, h.closing, h.done, h.closeWait, h.handed, fun hm => h.pend0 (List.mem_of_mem_erase hm), h.nodup.erase k⟩
        · simp [hStep, hk, h0]
    · exact ⟨s, by simp [deliver, hk, hStep], h, by simp [hStep, hk]⟩
  | fresp => exact ⟨s, by simp [deliver, hStep], h, by simp [hStep]⟩
  | req id m =>
    refine ⟨{ s with wdead := false }, ?_, ?_, ?_⟩
    · simp [deliver, h.wdead, h.closing, hp, hStep]
    · exact ⟨h.up, h.rdead, rfl, h.closing, h.done, h.closeWait, h.handed, h.pend0, h.nodup⟩
    · simp [hStep]
  | notif n =>
    refine ⟨s, ?_, h, ?_⟩
    · simp [deliver, St.shutting, h.rdead, h.wdead, h.closing, hStep]
    · simp [hStep]
  | _ => cases hg

theorem deliverAll_healthy (scn : Scn) (hp : ∀ p, scn.postOk p = true) (ps : List Payload) (s : St) (h : HS s)
    (hg : ∀ p ∈ ps, goodPayload p = true) :
    ∃ s', deliverAll scn s ps = (s', (hRun s.lists s.pending ps).2) ∧ HS s' ∧
      s'.pending = (hRun s.lists s.pending ps).1 ∧ s'.lists = s.lists ∧ s'.fed = s.fed ∧ s'.seen = s.seen ∧
      s'.hasBody = s.hasBody ∧ s'.target = s.target ∧
      s'.connRet = (s.connRet || (hRun s.lists s.pending ps).2.contains .connOk) := by
  induction ps generalizing s with
  | nil => exact ⟨s, by simp [deliverAll, hRun], h, by simp [hRun]⟩
  | cons p ps ih =>
    obtain ⟨s1, hd, h1, hpend, hlists, hfed, hseen, hbody, htarget, hcr⟩ := deliver_healthy scn hp s h p (hg p (by simp))
    obtain ⟨s2, hd2, h2, hpend2, hlists2, hfed2, hseen2, hbody2, htarget2, hcr2⟩ := ih s1 h1 (fun q hq => hg q (by simp [hq]))
    refine ⟨s2, ?_, h2, ?_⟩
    · simp only [deliverAll, h.rdead, h.done, Bool.false_eq_true, or_self, ite_false, hd, settle_healthy s1 h1, hd2,
        List.append_nil, hRun, hlists, hpend]
    · refine ⟨by rw [hpend2, hlists, hpend]; rfl, by rw [hlists2, hlists], by rw [hfed2, hfed], by rw [hseen2, hseen],
        by rw [hbody2, hbody], by rw [htarget2, htarget], ?_⟩
      rw [hcr2, hcr, hlists, hpend]
      simp only [hRun, List.contains_append, Bool.or_assoc]

/-- the tokens of a healthy run: POSTs of responses / of `initialized`, `conn:ok`, completions and notifications -/
def Tok.healthy : Tok → Bool
  | .post .initialized | .post (.resp ..) | .connOk | .done .. | .nt _ => true
  | _ => false

/-- what the payloads of one read ask for -/
def reqsOf (ps : List Payload) : List (String × Option Int) :=
  ps.filterMap (fun p => match p with | .req id m => some (id, errCodeOf m) | _ => none)
def notifsOf (ps : List Payload) : List Nat := ps.filterMap (fun p => match p with | .notif n => some n | _ => none)

theorem reqsOf_append (a b : List Payload) : reqsOf (a ++ b) = reqsOf a ++ reqsOf b := by simp [reqsOf]
theorem notifsOf_append (a b : List Payload) : notifsOf (a ++ b) = notifsOf a ++ notifsOf b := by simp [notifsOf]
theorem donesOf_append (a b : List Tok) : donesOf (a ++ b) = donesOf a ++ donesOf b := by simp [donesOf]
theorem postsOf_append (a b : List Tok) : postsOf (a ++ b) = postsOf a ++ postsOf b := by simp [postsOf]
theorem respIdsOf_append (a b : List Tok) : respIdsOf (a ++ b) = respIdsOf a ++ respIdsOf b := by
  simp [respIdsOf, postsOf_append]
theorem ntsOf_append (a b : List Tok) : ntsOf (a ++ b) = ntsOf a ++ ntsOf b := by simp [ntsOf]
theorem callsIn_append (a b : List Tok) : callsIn (a ++ b) = callsIn a ++ callsIn b := by
  simp [callsIn, postsOf_append]

theorem hStep_proj (lists pend : List Nat) (p : Payload) :
    respIdsOf (hStep lists pend p).2 = reqsOf [p] ∧ ntsOf (hStep lists pend p).2 = notifsOf [p] ∧
    callsIn (hStep lists pend p).2 = [] ∧ (hStep lists pend p).2.all Tok.healthy = true := by
  cases p with
  | resp k ok =>
    simp only [hStep]
    split
    · split <;> exact ⟨rfl, rfl, rfl, rfl⟩
    · exact ⟨rfl, rfl, rfl, rfl⟩
  | _ => exact ⟨rfl, rfl, rfl, rfl⟩

theorem hRun_proj (lists : List Nat) (ps : List Payload) (pend : List Nat) :
    respIdsOf (hRun lists pend ps).2 = reqsOf ps ∧ ntsOf (hRun lists pend ps).2 = notifsOf ps ∧
    callsIn (hRun lists pend ps).2 = [] ∧ (hRun lists pend ps).2.all Tok.healthy = true := by
  induction ps generalizing pend with
  | nil => exact ⟨rfl, rfl, rfl, rfl⟩
  | cons p ps ih =>
    obtain ⟨a1, a2, a3, a4⟩ := hStep_proj lists pend p
    obtain ⟨b1, b2, b3, b4⟩ := ih (hStep lists pend p).1
    exact ⟨by rw [hRun, respIdsOf_append, a1, b1]; exact (reqsOf_append [p] ps).symm,
      by rw [hRun, ntsOf_append, a2, b2]; exact (notifsOf_append [p] ps).symm,
      by rw [hRun, callsIn_append, a3, b3]; rfl,
      by rw [hRun, List.all_append, a4, b4]; rfl⟩

theorem hStep_keeps (lists pend : List Nat) (p : Payload) (k : Nat) (hk : k ∈ pend) (hp : ∀ ok, p ≠ .resp k ok) :
    k ∈ (hStep lists pend p).1 := by
  cases p with
  | resp k' ok' =>
    simp only [hStep]
    split
    · exact (List.mem_erase_of_ne fun e => hp ok' (by rw [e])).mpr hk
    · exact hk
  | _ => exact hk

theorem hStep_mem (lists pend : List Nat) (p : Payload) (hn : pend.Nodup) (k : Nat) :
    k ∈ (hStep lists pend p).1 ↔ k ∈ pend ∧ ∀ ok, p ≠ .resp k ok := by
  refine ⟨fun h => ?_, fun h => hStep_keeps lists pend p k h.1 h.2⟩
  cases p with
  | resp k' ok' =>
    simp only [hStep] at h
    split at h
    · obtain ⟨h1, h2⟩ := hn.mem_erase_iff.mp h
      exact ⟨h2, fun ok e => h1 (by cases e; rfl)⟩
    · rename_i hk'
      exact ⟨h, fun ok e => hk' (by cases e; simpa using h)⟩
  | _ => exact ⟨h, fun _ e => nomatch e⟩

theorem hStep_nodup (lists pend : List Nat) (p : Payload) (h : pend.Nodup) : (hStep lists pend p).1.Nodup := by
  cases p with
  | resp k' ok =>
    simp only [hStep]
    split
    · exact h.erase _
    · exact h
  | _ => exact h

theorem hStep_dones (lists pend : List Nat) (p : Payload) :
    donesOf (hStep lists pend p).2 =
      (match p with
       | .resp k ok => if k ∈ pend ∧ k ≠ 0 then [(k, outcomeOf lists k ok)] else []
       | _ => []) := by
  cases p with
  | resp k ok =>
    by_cases hk : k ∈ pend
    · by_cases h0 : k = 0
      · subst h0; simp [hStep, hk, donesOf]
      · simp [hStep, hk, h0, donesOf]
    · simp [hStep, hk, donesOf]
  | _ => rfl

theorem hRun_dones (lists : List Nat) (ps : List Payload) (pend : List Nat) (hn : pend.Nodup) :
    (∀ d ∈ donesOf (hRun lists pend ps).2, d.1 ≠ 0 ∧ d.1 ∈ pend ∧ ∃ ok, .resp d.1 ok ∈ ps ∧ d.2 = outcomeOf lists d.1 ok) ∧
    ((donesOf (hRun lists pend ps).2).map (·.1)).Nodup := by
  induction ps generalizing pend with
  | nil => simp [hRun, donesOf]
  | cons p ps ih =>
    obtain ⟨i1, i2⟩ := ih (hStep lists pend p).1 (hStep_nodup lists pend p hn)
    simp only [hRun, donesOf_append, hStep_dones]
    -- the completion of `p` itself, if any
    have hp : ∀ d ∈ (match p with
        | .resp k ok => if k ∈ pend ∧ k ≠ 0 then [(k, outcomeOf lists k ok)] else []
        | _ => []), d.1 ≠ 0 ∧ d.1 ∈ pend ∧ ∃ ok, p = .resp d.1 ok ∧ d.2 = outcomeOf lists d.1 ok := by
      intro d hd
      cases p with
      | resp k ok =>
        simp only at hd
        split at hd
        · rename_i hk
          rw [List.mem_singleton.mp hd]
          exact ⟨hk.2, hk.1, ok, rfl, rfl⟩
        · cases hd
      | _ => cases hd
    constructor
    · intro d hd
      rcases List.mem_append.mp hd with hd | hd
      · obtain ⟨a, b, ok, c, e⟩ := hp d hd
        exact ⟨a, b, ok, c ▸ List.mem_cons_self .., e⟩
      · obtain ⟨a, b, ok, c, e⟩ := i1 d hd
        exact ⟨a, ((hStep_mem lists pend p hn _).mp b).1, ok, List.mem_cons_of_mem _ c, e⟩
    · rw [List.map_append, List.nodup_append]
      refine ⟨?_, i2, ?_⟩
      · cases p with
        | resp k ok => simp only; split <;> simp
        | _ => simp
      · intro a ha b hb e
        obtain ⟨d, hd, rfl⟩ := List.mem_map.mp ha
        obtain ⟨d', hd', rfl⟩ := List.mem_map.mp hb
        obtain ⟨_, _, ok, hpd, _⟩ := hp d hd
        exact ((hStep_mem lists pend p hn _).mp (i1 d' hd').2.1).2 ok (e ▸ hpd)

theorem hRun_answers (lists : List Nat) (ps : List Payload) (pend : List Nat) (k : Nat) (ok : Bool)
    (hk : k ∈ pend) (hp : .resp k ok ∈ ps) :
    if k = 0 then Tok.connOk ∈ (hRun lists pend ps).2 else ∃ d ∈ donesOf (hRun lists pend ps).2, d.1 = k := by
  induction ps generalizing pend with
  | nil => cases hp
  | cons p ps ih =>
    by_cases hd : ∃ ok', p = .resp k ok'
    · obtain ⟨ok', rfl⟩ := hd
      split
      · rename_i h0; subst h0; simp [hRun, hStep, hk]
      · rename_i h0
        exact ⟨(k, outcomeOf lists k ok'), by simp [hRun, donesOf_append, hStep_dones, hk, h0], rfl⟩
    · have hd' : ∀ ok', p ≠ .resp k ok' := fun ok' e => hd ⟨ok', e⟩
      have := ih _ (hStep_keeps lists pend p k hk hd') ((List.mem_cons.mp hp).resolve_left fun e => hd' ok e.symm)
      by_cases h0 : k = 0
      · rw [if_pos h0] at this ⊢
        exact List.mem_append_right _ this
      · rw [if_neg h0] at this ⊢
        obtain ⟨d, hd1, hd2⟩ := this
        exact ⟨d, by rw [hRun, donesOf_append]; exact List.mem_append_right _ hd1, hd2⟩

theorem hRun_completes (lists : List Nat) (ps : List Payload) (pend : List Nat) (k : Nat) (ok : Bool)
    (hk : k ∈ pend) (h0 : k ≠ 0) (hp : .resp k ok ∈ ps) : ∃ d ∈ donesOf (hRun lists pend ps).2, d.1 = k := by
  simpa [h0] using hRun_answers lists ps pend k ok hk hp

theorem hRun_connOk (lists : List Nat) (ps : List Payload) (pend : List Nat)
    (hk : 0 ∈ pend) (hp : .resp 0 true ∈ ps) : Tok.connOk ∈ (hRun lists pend ps).2 := by
  simpa using hRun_answers lists ps pend 0 true hk hp

theorem hRun_connOk_conv (lists : List Nat) (ps : List Payload) (pend : List Nat)
    (h : Tok.connOk ∈ (hRun lists pend ps).2) : ∃ ok, Payload.resp 0 ok ∈ ps := by
  induction ps generalizing pend with
  | nil => cases h
  | cons p ps ih =>
    simp only [hRun, List.mem_append] at h
    rcases h with h | h
    · cases p with
      | resp k ok =>
        simp only [hStep] at h
        split at h
        · split at h
          · rename_i hk0; subst hk0; exact ⟨ok, List.mem_cons_self ..⟩
          · simp at h
        · cases h
      | _ => simp [hStep] at h
    · obtain ⟨ok, hok⟩ := ih _ h
      exact ⟨ok, List.mem_cons_of_mem _ hok⟩

theorem hRun_pend (lists : List Nat) (ps : List Payload) (pend : List Nat) (hn : pend.Nodup) (k : Nat) :
    k ∈ (hRun lists pend ps).1 ↔ (k ∈ pend ∧ ∀ ok, Payload.resp k ok ∉ ps) := by
  induction ps generalizing pend with
  | nil => simp [hRun]
  | cons p ps ih =>
    rw [hRun, ih _ (hStep_nodup lists pend p hn), hStep_mem lists pend p hn]
    simp only [List.mem_cons, not_or, forall_and, and_assoc, ne_comm]

theorem hRun_nodup (lists : List Nat) (ps : List Payload) (pend : List Nat) (hn : pend.Nodup) : (hRun lists pend ps).1.Nodup := by
  induction ps generalizing pend with
  | nil => simpa [hRun] using hn
  | cons p ps ih => simp only [hRun]; exact ih _ (hStep_nodup lists pend p hn)

end SseClient
