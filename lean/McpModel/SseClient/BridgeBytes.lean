import McpModel.SseClient.Props
import McpModel.SseClient.Monitor
/-!
# Bridge: the scanner on ANY byte prefix of a well-formed stream = the monitor's ground truth

The model runs Wire's scanner over the bytes received so far (`scanFed (full.take fed)`); the monitor counts
which framed events lie completely within those bytes (`completeN`).  For every stream of well-formed
lines and EVERY offset `fed` — in the middle of a line, between CR and LF, anywhere — the events the
scanner has dispatched are exactly the meanings of the completely received framed events (those that
denote anything), and it has met no malformed line.  Such a prefix is the complete events, then some complete
field lines of the next event, then the beginning of a line (`take_renderStream`); what the scanner makes of a
text of that shape is `scanFed_partial` (Props.lean).
-/
namespace SseClient
open Wire Wire.L

/-- how many leading lines (with their line ends) lie within the first `n` bytes -/
def linesWithin : List (Bytes × Eol) → Nat → Nat
  | [], _ => 0
  | p :: t, n =>
    let len := p.1.length + p.2.bytes.length
    if len ≤ n then linesWithin t (n - len) + 1 else 0

theorem renderLines_length (L : List (Bytes × Eol)) :
    (renderLines L).length = (L.map (fun p => p.1.length + p.2.bytes.length)).sum := by
  induction L with
  | nil => rfl
  | cons p t ih => obtain ⟨l, e⟩ := p; simp [renderLines, ih, Nat.add_assoc]

theorem eol_bytes_eq (e : Eol) : e.bytes = e.cr ++ [LF] := by cases e <;> rfl

theorem eol_len (e : Eol) : e.bytes.length = e.cr.length + 1 := by cases e <;> rfl

theorem linesWithin_lt (A : List (Bytes × Eol)) (n : Nat) (h : n < (renderLines A).length) : linesWithin A n < A.length := by
  induction A generalizing n with
  | nil => cases h
  | cons p t ih =>
    obtain ⟨l, e⟩ := p
    have hlen : (renderLines ((l, e) :: t)).length = l.length + e.bytes.length + (renderLines t).length := by
      simp [renderLines, Nat.add_assoc]
    rw [hlen] at h
    simp only [linesWithin, List.length_cons]
    split
    · exact Nat.succ_lt_succ (ih _ (by omega))
    · exact Nat.zero_lt_succ _

theorem take_renderLines (L : List (Bytes × Eol)) (n : Nat) (h : ∀ p ∈ L, LF ∉ p.1) :
    ∃ rest, (renderLines L).take n = renderLines (L.take (linesWithin L n)) ++ rest ∧ LF ∉ rest := by
  induction L generalizing n with
  | nil => exact ⟨[], by simp [renderLines], List.not_mem_nil⟩
  | cons p t ih =>
    obtain ⟨l, e⟩ := p
    have hr : ∀ t, renderLines ((l, e) :: t) = (l ++ e.bytes) ++ renderLines t := fun t => by simp [renderLines]
    have hlen : (l ++ e.bytes).length = l.length + e.bytes.length := List.length_append
    simp only [linesWithin]
    by_cases hn : l.length + e.bytes.length ≤ n
    · obtain ⟨rest, h1, h2⟩ := ih (n - (l.length + e.bytes.length)) (fun q hq => h q (by simp [hq]))
      refine ⟨rest, ?_, h2⟩
      rw [if_pos hn, List.take_succ_cons, hr, hr, List.take_append, List.take_of_length_le (hlen ▸ hn), hlen, h1]
      simp only [List.append_assoc]
    · -- the cut falls before the line's LF
      refine ⟨(l ++ e.cr).take n, ?_, fun hm => noLF_cr l e (h (l, e) (by simp)) (List.mem_of_mem_take hm)⟩
      have hcut : n ≤ (l ++ e.cr).length := by rw [List.length_append]; have := eol_len e; omega
      rw [if_neg hn, hr, List.take_append, hlen, Nat.sub_eq_zero_of_le (by omega), List.take_zero, List.append_nil,
        eol_bytes_eq, ← List.append_assoc, List.take_append_of_le_length hcut]
      rfl

/-- **the complete lines of a byte prefix**: splitting the first `n` bytes of rendered lines at LF gives
exactly the lines that lie within those bytes (those written with CRLF still carrying their CR) -/
theorem splitLines_take (L : List (Bytes × Eol)) (n : Nat) (h : ∀ p ∈ L, LF ∉ p.1) :
    (splitLines ((renderLines L).take n)).1 = (L.take (linesWithin L n)).map (fun p => p.1 ++ p.2.cr) := by
  obtain ⟨rest, h1, h2⟩ := take_renderLines L n h
  rw [h1, splitLines_render _ rest (fun p hp => h p (List.mem_of_mem_take hp)), splitLines_of_noLF rest h2, List.append_nil]

def feLen (e : FEvent) : Nat := (renderLines e.render).length

/-- how many leading framed events lie completely within the first `n` bytes -/
def completeE : List FEvent → Nat → Nat
  | [], _ => 0
  | e :: t, n => if feLen e ≤ n then completeE t (n - feLen e) + 1 else 0

theorem render_take (e : FEvent) (j : Nat) (h : j < e.render.length) :
    e.render.take j = (e.lines.take j).map (fun l => (l.text, l.eol)) := by
  have hl : e.render.length = e.lines.length + 1 := by simp [FEvent.render]
  have : j ≤ e.lines.length := by omega
  simp only [FEvent.render]
  rw [List.take_append_of_le_length (by simpa using this), List.map_take]

/-- a byte prefix of a stream: the events that lie within it, then some complete field lines of the next, then the
beginning of a line -/
theorem take_renderStream (es : List FEvent) (n : Nat) (h : ∀ e ∈ es, ∀ l ∈ e.lines, WfFLine l) :
    ∃ (ls : List FLine) (rest : Bytes), (renderStream es).take n =
        renderStream (es.take (completeE es n)) ++ renderLines (ls.map (fun l => (l.text, l.eol))) ++ rest ∧
      (∀ l ∈ ls, WfFLine l) ∧ LF ∉ rest := by
  induction es generalizing n with
  | nil => exact ⟨[], [], by simp [renderStream, renderLines], fun _ hl => (nomatch hl), List.not_mem_nil⟩
  | cons e t ih =>
    have hs : ∀ t, renderStream (e :: t) = renderLines e.render ++ renderStream t := fun t => by
      simp [renderStream, renderLines_append]
    have hfe : feLen e = (renderLines e.render).length := rfl
    simp only [completeE]
    by_cases hn : feLen e ≤ n
    · obtain ⟨ls, rest, h1, h2, h3⟩ := ih (n - feLen e) (fun x hx => h x (by simp [hx]))
      refine ⟨ls, rest, ?_, h2, h3⟩
      rw [if_pos hn, List.take_succ_cons, hs, hs, List.take_append, List.take_of_length_le hn, ← hfe, h1]
      simp only [List.append_assoc]
    · have hlt : n < (renderLines e.render).length := by omega
      obtain ⟨rest, h1, h2⟩ := take_renderLines e.render n
        (fun p hp => render_noLF (e :: t) h p (List.mem_flatMap.2 ⟨e, by simp, hp⟩))
      have hj := linesWithin_lt e.render n hlt
      refine ⟨e.lines.take (linesWithin e.render n), rest, ?_,
        fun l hl => h e (by simp) l (List.mem_of_mem_take hl), h2⟩
      rw [if_neg hn, hs, List.take_append, show n - (renderLines e.render).length = 0 by omega, List.take_zero,
        List.append_nil, h1, render_take e _ hj]
      simp [renderStream, renderLines]

/-- For every stream of well-formed framed events and EVERY byte offset `n`:
the scanner, run over the first `n` bytes, has dispatched exactly the meanings of the framed events that
lie completely within those bytes (the ones that denote an event at all), in order — and has not met a
malformed line.  An event cut anywhere (in a field name, inside the JSON, between CR and LF of its blank
line) contributes nothing until its last byte has arrived. -/
theorem scan_matches_ground_truth (es : List FEvent) (n : Nat) (h : ∀ e ∈ es, ∀ l ∈ e.lines, WfFLine l) :
    scanFed ((renderStream es).take n) =
      (((es.take (completeE es n)).map FEvent.denote).filter (fun e => !e.isEmpty), false) := by
  obtain ⟨ls, rest, h1, h2, h3⟩ := take_renderStream es n h
  rw [h1]
  exact scanFed_partial _ ls rest (fun e he => h e (List.mem_of_mem_take he)) h2 h3

theorem completeN_eq (items : List Item) (n : Nat) : completeN items n = completeE (items.map (·.fe)) n := by
  induction items generalizing n with
  | nil => rfl
  | cons it t ih => simp only [completeN, List.map_cons, completeE, feLen, Item.bytes, ih]; rfl

/-- the scenario is written in well-formed lines -/
def Scn.wf (scn : Scn) : Prop := ∀ it ∈ scn.items, ∀ l ∈ it.fe.lines, WfFLine l

/-- the model's scanner on the bytes fed so far, in the monitor's terms -/
theorem scanFed_items (scn : Scn) (fed : Nat) (h : scn.wf) :
    scanFed (scn.full.take fed) =
      (((scn.items.take (completeN scn.items fed)).map (·.fe.denote)).filter (fun e => !e.isEmpty), false) := by
  have hes : ∀ e ∈ scn.items.map (·.fe), ∀ l ∈ e.lines, WfFLine l := by
    intro e he
    obtain ⟨it, hit, rfl⟩ := List.mem_map.mp he
    exact h it hit
  unfold Scn.full
  rw [scan_matches_ground_truth _ fed hes, completeN_eq, ← List.map_take, List.map_map]
  rfl

theorem completeN_le (items : List Item) (n : Nat) : completeN items n ≤ items.length := by
  induction items generalizing n with
  | nil => exact Nat.le_refl 0
  | cons it t ih =>
    simp only [completeN]
    split
    · exact Nat.succ_le_succ (ih _)
    · exact Nat.zero_le _

theorem completeN_mono (items : List Item) (a b : Nat) (h : a ≤ b) : completeN items a ≤ completeN items b := by
  induction items generalizing a b with
  | nil => exact Nat.le_refl 0
  | cons it t ih =>
    simp only [completeN]
    by_cases ha : it.bytes.length ≤ a
    · rw [if_pos ha, if_pos (Nat.le_trans ha h)]
      exact Nat.succ_le_succ (ih _ _ (Nat.sub_le_sub_right h _))
    · rw [if_neg ha]; exact Nat.zero_le _

theorem item_bytes_pos (it : Item) : 0 < it.bytes.length := by
  unfold Item.bytes
  rw [renderLines_length]
  simp only [FEvent.render, List.map_append, List.map_map, List.map_cons, List.map_nil, List.sum_append, List.sum_cons,
    List.sum_nil, List.length_nil, Nat.zero_add, Nat.add_zero]
  have := eol_len it.fe.endEol
  omega

theorem completeN_zero (items : List Item) : completeN items 0 = 0 := by
  cases items with
  | nil => rfl
  | cons it t =>
    have := item_bytes_pos it
    simp only [completeN]
    split
    · omega
    · rfl

end SseClient
