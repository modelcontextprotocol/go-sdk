import McpModel.Bearer.Monitor
/-!
E10 — the middleware VALUE over its life (C14): `mw := RequireBearerToken(verifier, opts)` applied to
several handlers (`a := mw(h0); b := mw(h1); …`) and histories of requests through the wrappers, one
after the other and interleaved.

The code that exists (auth/auth.go:97-125; structural fact `bearer.middleware_value_shape`):
`RequireBearerToken` does nothing but return `func(handler) http.Handler`; that function does nothing
but return a fresh closure capturing `verifier`, `opts` and ITS OWN `handler`; the closure writes to no
variable outside itself.  So the state of a middleware value is: the options (fixed), and the list of
wrappers made so far (each remembers the handler it was made for).  A request through wrapper `w` is
`Bearer.serve` on the request's own input under these options, and on admission the handler that runs
is the one wrapper `w` was made for.

Concurrency: the closure's run for one request has two atomic sections separated by the call of the
verifier (the only place where it can block): `enter` (read the header, parse the credential) and
`leave` (everything from the verifier's return on, with `time.Now()` read there).  A `Pool` is the
set of requests in flight, a schedule says whose section runs next.

Core Lean only (linked into the driver).
-/
namespace Bearer
open Generated.Bearer

/-! ### One middleware value, many wrappers, a history -/

/-- The state of `mw := RequireBearerToken(verifier, opts)`: the captured options and, per wrapper
made so far (in creation order), the handler it was made for.  ("Session" in this engine: the life of one such value, not
an MCP or HTTP session.) -/
structure Sess (σ : Type) where
  opts : Option (Opts σ)
  wrappers : List Nat

/-- What happens to a middleware value. -/
inductive Ev (σ α : Type) where
  /-- `mw(h_j)` -/
  | wrap (j : Nat)
  /-- a request through wrapper `w`; `i.opts` is not read (the options are the value's) -/
  | req (w : Nat) (i : Input σ α)

inductive SOut (σ α : Type) where
  /-- `mw(h_j)` returned wrapper number `w` -/
  | wrapped (w : Nat)
  /-- handler `j` ran, with this `TokenInfo` in the request context -/
  | ran (j : Nat) (info : Info σ α)
  | error (code : Nat) (msg : String) (challenge : Option (List (Param σ)))
  /-- no such wrapper (not a behaviour of the code: a malformed history) -/
  | noWrapper

/-- The request as the closure's `verify(r, verifier, opts)` sees it: the options are the captured ones. -/
def Sess.input {σ α : Type} (s : Sess σ) (i : Input σ α) : Input σ α := { i with opts := s.opts }

/-- A request through wrapper `w`. -/
def Sess.serveVia {σ α : Type} [DecidableEq σ] (s : Sess σ) (w : Nat) (i : Input σ α) : SOut σ α :=
  match s.wrappers[w]? with
  | none => .noWrapper
  | some j =>
    match serve (s.input i) with
    | .next info => .ran j info
    | .error code msg ch => .error code msg ch

def Sess.step {σ α : Type} [DecidableEq σ] (s : Sess σ) : Ev σ α → Sess σ × SOut σ α
  | .wrap j => ({ s with wrappers := s.wrappers ++ [j] }, .wrapped s.wrappers.length)
  | .req w i => (s, s.serveVia w i)

/-- A history: the final state and what every event produced. -/
def Sess.run {σ α : Type} [DecidableEq σ] (s : Sess σ) : List (Ev σ α) → Sess σ × List (SOut σ α)
  | [] => (s, [])
  | e :: es =>
    let r := (s.step e).1.run es
    (r.1, (s.step e).2 :: r.2)

/-- The handlers applied in a history, in order. -/
def wrapsOf {σ α : Type} : List (Ev σ α) → List Nat
  | [] => []
  | .wrap j :: es => j :: wrapsOf es
  | .req _ _ :: es => wrapsOf es

/-! ### Several middleware values side by side -/

/-- Several values `RequireBearerToken(…)` (a gateway-wide one, route-level ones), each made with
its own options, and the wrappers made from them: the package has no state of its own (structural
fact `bearer.package_vars_of_auth_go`), so a world is just its values. -/
structure World (σ : Type) where
  vals : List (Option (Opts σ))
  /-- per wrapper: the value it was made from and the handler it was made for -/
  wrappers : List (Nat × Nat)

inductive WEv (σ α : Type) where
  /-- `RequireBearerToken(verifier, opts)` -/
  | make (opts : Option (Opts σ))
  /-- `mw_v(h_j)` -/
  | wrap (v j : Nat)
  | req (w : Nat) (i : Input σ α)

/-- A request through wrapper `w`: the one-value model of the value behind it, alone. -/
def World.serveVia {σ α : Type} [DecidableEq σ] (wd : World σ) (w : Nat) (i : Input σ α) : SOut σ α :=
  match wd.wrappers[w]? with
  | none => .noWrapper
  | some (v, j) =>
    match wd.vals[v]? with
    | none => .noWrapper
    | some o => Sess.serveVia { opts := o, wrappers := [j] } 0 i

def World.step {σ α : Type} [DecidableEq σ] (wd : World σ) : WEv σ α → World σ × SOut σ α
  | .make o => ({ wd with vals := wd.vals ++ [o] }, .wrapped wd.vals.length)
  | .wrap v j => ({ wd with wrappers := wd.wrappers ++ [(v, j)] }, .wrapped wd.wrappers.length)
  | .req w i => (wd, wd.serveVia w i)

def World.run {σ α : Type} [DecidableEq σ] (wd : World σ) : List (WEv σ α) → World σ × List (SOut σ α)
  | [] => (wd, [])
  | e :: es =>
    let r := (wd.step e).1.run es
    (r.1, (wd.step e).2 :: r.2)

def makesOf {σ α : Type} : List (WEv σ α) → List (Option (Opts σ))
  | [] => []
  | .make o :: es => o :: makesOf es
  | _ :: es => makesOf es

def wrapsOfW {σ α : Type} : List (WEv σ α) → List (Nat × Nat)
  | [] => []
  | .wrap v j :: es => (v, j) :: wrapsOfW es
  | _ :: es => wrapsOfW es

/-! ### Requests in flight -/

/-- Where the closure's run for one request stands. -/
inductive Phase (σ α : Type) where
  | idle
  /-- inside `verifier(req.Context(), tok, req)` -/
  | inVerifier (tok : List Char)
  | done (r : Response σ α)

/-- `auth.verify` from the verifier's return on (transliterated like `Bearer.verify`), then the closure. -/
def leave {σ α : Type} [DecidableEq σ] (i : Input σ α) (tok : List Char) : Response σ α :=
  let r := i.verifier tok
  match r.err with
  | some e => .error (errStatus e errChain) e.msg (challengeFor i.opts (errStatus e errChain))
  | none =>
    match r.info with
    | none => .error stNilInfo msgNilInfo (challengeFor i.opts stNilInfo)
    | some info =>
      if scopeRejected i.opts info.scopes then .error stScope msgScope (challengeFor i.opts stScope)
      else
        match expiryRejected info.exp (i.opts.getD Opts.zero) i.now with
        | some (msg, code) => .error code msg (challengeFor i.opts code)
        | none => .next info

/-- The next atomic section of the request `i`. -/
def advance {σ α : Type} [DecidableEq σ] (i : Input σ α) : Phase σ α → Phase σ α
  | .idle =>
    match credential i.header with
    | none => .done (.error stNoBearer msgNoBearer (challengeFor i.opts stNoBearer))
    | some tok => .inVerifier tok
  | .inVerifier tok => .done (leave i tok)
  | .done r => .done r

/-- `n` atomic sections of one request. -/
def advanceN {σ α : Type} [DecidableEq σ] (i : Input σ α) : Nat → Phase σ α → Phase σ α
  | 0, p => p
  | n + 1, p => advanceN i n (advance i p)

/-- The requests in flight through one middleware value (by request number). -/
abbrev Pool (σ α : Type) := Nat → Phase σ α

/-- Request `q` runs its next section; nothing else changes (the closure shares no variable). -/
def Pool.step {σ α : Type} [DecidableEq σ] (reqs : Nat → Input σ α) (p : Pool σ α) (q : Nat) : Pool σ α :=
  fun k => if k = q then advance (reqs q) (p q) else p k

def Pool.run {σ α : Type} [DecidableEq σ] (reqs : Nat → Input σ α) (p : Pool σ α) : List Nat → Pool σ α
  | [] => p
  | q :: sched => Pool.run reqs (Pool.step reqs p q) sched

/-! ### The session monitor -/

/-- The implementation's observation of a request of a session: that of a single request, plus how
often every handler that exists ran for it. -/
structure SObs where
  obs : Obs
  hr : List Nat
deriving DecidableEq, Repr

inductive SClause
  /-- the observation does not have one run count per handler -/
  | malformedRuns
  /-- admit_iff: a handler ran that is not the one this wrapper was made for -/
  | strayHandler (made stray : Nat)
  /-- a clause of the single-request property -/
  | base (c : Clause)
deriving DecidableEq, Repr

/-- The first handler, counting from `j`, that ran although the wrapper was not made for it. -/
def firstStray (made : Nat) : Nat → List Nat → Option Nat
  | _, [] => none
  | j, n :: rest => if j ≠ made ∧ n ≠ 0 then some j else firstStray made (j + 1) rest

/-- **The C14 monitor of one request of a session**: `nh` handlers exist, the request went through
a wrapper made for handler `made`; `r` is the request under the middleware value's options.  Only the
handler the wrapper was made for may run, and for it and everything else the single-request property
holds, with this request's own verifier outcome: whatever happened before or happens meanwhile. -/
def sessMonitor (nh made : Nat) (r : Req) (o : SObs) : Option SClause :=
  if o.hr.length ≠ nh ∨ o.hr[made]? ≠ some o.obs.ran then some .malformedRuns
  else match firstStray made 0 o.hr with
    | some j => some (.strayHandler made j)
    | none => (monitor r o.obs).map .base

/-- One run count per handler: `n` for the handler the wrapper was made for, 0 for the others. -/
def runsOf (nh made n : Nat) : List Nat := (List.range nh).map fun j => if j = made then n else 0

/-- What the session monitor would be given if the implementation behaved like the model. -/
def sessObsOf (nh made : Nat) (r : Req) : Option SObs :=
  (obsOf r).map fun o => { obs := o, hr := runsOf nh made o.ran }

/-- The scripted verifier of a session works until `s.now` and honours its context meanwhile: when
the request (entered at `at_`) loses its client at `cx` before the verifier is through, the verifier
returns `ctx.Err()` — an error that is neither sentinel — at that instant (at once if the context
was already cancelled on entry).  A verifier that has nothing to wait for does not look at the context. -/
def Script.withCancel (at_ : Int) (cx : Option Int) (s : Script) : Script :=
  match cx with
  | some c =>
    if at_ < s.now ∧ c < s.now then
      { s with err := some { isInvalid := false, isOAuth := false, msg := "context canceled" }, info := none, now := max c at_ }
    else s
  | none => s

/-- The request of a `sreq` record: one scripted middleware under the value's options. -/
def Req.ofSession (opts : Option (Opts String)) (hdr : List Char) (s : Script) : Req :=
  Req.ofScript hdr [{ s with opts := opts }] none

end Bearer
