import McpModel.Generated.BearerGen
/-
E10 — model of `auth.verify` and the `auth.RequireBearerToken` closure (auth/auth.go:97-176). Serves C14.

Pure decision logic: `verify` transliterates the if-chain of the Go function, `serve` the closure
around it.  Every status, message, the field count, the scheme, the order of the `errors.Is`
chain, the two expiry conditions and the challenge statuses come from
`Generated/BearerGen.lean`, which the extractor rewrites from /repo on every run.

Types: `σ` = scope strings (only compared), `α` = everything else a `TokenInfo` carries (UserID,
Extra, the pointer identity): the model is parametric in it, which is what "the handler sees the
verifier's info unchanged" means.  Instants and durations are integers (ns); `Info.exp = none` is
`Expiration.IsZero()`.
Modelled stdlib: `strings.Fields` (split on `unicode.IsSpace`), `strings.ToLower` restricted to
what matters for a comparison with an ASCII word, `errors.Is` (two booleans per error),
`time.Time.Add/Before` (integer arithmetic).
Core Lean only (linked into the driver).
-/
namespace Bearer
open Generated.Bearer

/-- Go `unicode.IsSpace`. -/
def isSpace (c : Char) : Bool :=
  let n := c.toNat
  (9 ≤ n && n ≤ 13) || n == 0x20 || n == 0x85 || n == 0xA0 || n == 0x1680 ||
  (0x2000 ≤ n && n ≤ 0x200a) || n == 0x2028 || n == 0x2029 || n == 0x202f || n == 0x205f || n == 0x3000

/-- `strings.Fields`, with the field under construction kept reversed in `cur`. -/
def fieldsAux : List Char → List Char → List (List Char)
  | [], cur => if cur.isEmpty then [] else [cur.reverse]
  | c :: cs, cur =>
    if isSpace c then
      (if cur.isEmpty then fieldsAux cs [] else cur.reverse :: fieldsAux cs [])
    else fieldsAux cs (c :: cur)

def fields (s : List Char) : List (List Char) := fieldsAux s []

/-- `strings.ToLower` on ASCII letters.  No rune outside ASCII lower-cases to an ASCII letter of
"bearer" (the Kelvin sign maps to `k`, the Angstrom sign to `å`), so for the comparison made by
`verify` this agrees with the Unicode mapping; the harness includes such runes. -/
def lowerChar (c : Char) : Char := if 'A' ≤ c ∧ c ≤ 'Z' then Char.ofNat (c.toNat + 32) else c
def lowerAscii (s : List Char) : List Char := s.map lowerChar

structure Info (σ α : Type) where
  scopes : List σ
  exp : Option Int          -- none: Expiration.IsZero()
  extra : α

/-- A non-nil error returned by the verifier, as `verify` can see it. -/
structure VErr where
  isInvalid : Bool          -- errors.Is(err, ErrInvalidToken)
  isOAuth : Bool            -- errors.Is(err, ErrOAuth)
  msg : String              -- err.Error()

/-- What the `TokenVerifier` returned. -/
structure VRes (σ α : Type) where
  err : Option VErr
  info : Option (Info σ α)

structure Opts (σ : Type) where
  rm : String               -- ResourceMetadataURL
  scopes : List σ
  allowMissing : Bool
  skew : Int

/-- `&RequireBearerTokenOptions{}` -/
def Opts.zero {σ : Type} : Opts σ := { rm := "", scopes := [], allowMissing := false, skew := 0 }

structure Input (σ α : Type) where
  header : List Char                 -- req.Header.Get("Authorization") ("" when absent)
  verifier : List Char → VRes σ α    -- the verifier as a function of the token it is given
  opts : Option (Opts σ)
  now : Int                          -- time.Now() at the expiry check

inductive Verdict (σ α : Type) where
  | pass (info : Info σ α)
  | reject (msg : String) (code : Nat)

/-- Sentinels as `Generated.Bearer.errChain` numbers them: 0 = `ErrInvalidToken`, 1 = `ErrOAuth`. -/
def sentinelHolds (e : VErr) (s : Nat) : Bool :=
  if s = 0 then e.isInvalid else if s = 1 then e.isOAuth else false

/-- The `if errors.Is(err, …) { return … }` chain. -/
def errStatus (e : VErr) : List (Nat × Nat) → Nat
  | [] => stErrOther
  | (s, code) :: rest => if sentinelHolds e s then code else errStatus e rest

/-- `for _, s := range opts.Scopes { if !slices.Contains(tokenInfo.Scopes, s) { return … } }` -/
def missingScope {σ : Type} [DecidableEq σ] (required granted : List σ) : Bool :=
  required.any fun s => !granted.contains s

/-- The credential test: the fields pass iff there are exactly `nFields` of them and the first is
the scheme up to case.  Returns the token (`fields[1]`). -/
def credential (hdr : List Char) : Option (List Char) :=
  let fs := fields hdr
  if fs.length ≠ nFields ∨ lowerAscii (fs.headD []) ≠ scheme.toList then none
  else some ((fs.drop 1).headD [])

/-- The scope check, skipped under nil options:
`if opts != nil { for _, s := range opts.Scopes { … } }` -/
def scopeRejected {σ : Type} [DecidableEq σ] (opts : Option (Opts σ)) (granted : List σ) : Bool :=
  match opts with
  | some o => missingScope o.scopes granted
  | none => false

/-- The expiry check (`opts` already replaced by the zero options when nil): the rejection it
produces, if any. -/
def expiryRejected {σ : Type} (exp : Option Int) (o : Opts σ) (now : Int) : Option (String × Nat) :=
  match exp with
  | none => if missingRejected o.allowMissing then some (msgMissingExp, stMissingExp) else none
  | some e => if expired e o.skew now then some (msgExpired, stExpired) else none

/-- `auth.verify`.  Second component: the token the verifier was called with, if it was called. -/
def verify {σ α : Type} [DecidableEq σ] (i : Input σ α) : Verdict σ α × Option (List Char) :=
  match credential i.header with
  | none => (.reject msgNoBearer stNoBearer, none)
  | some tok =>
    let r := i.verifier tok
    match r.err with
    | some e => (.reject e.msg (errStatus e errChain), some tok)
    | none =>
      match r.info with
      | none => (.reject msgNilInfo stNilInfo, some tok)
      | some info =>
        if scopeRejected i.opts info.scopes then (.reject msgScope stScope, some tok)
        else
          match expiryRejected info.exp (i.opts.getD Opts.zero) i.now with
          | some (msg, code) => (.reject msg code, some tok)
          | none => (.pass info, some tok)

/-- One parameter of the `WWW-Authenticate: Bearer …` challenge. -/
inductive Param (σ : Type) where
  | resourceMetadata (url : String)
  | scope (scopes : List σ)
deriving DecidableEq

/-- What the middleware does with one request. -/
inductive Response (σ α : Type) where
  /-- `handler.ServeHTTP` with the context value `info` -/
  | next (info : Info σ α)
  /-- `http.Error(w, msg, code)`, preceded by `WWW-Authenticate` iff `challenge` is `some` -/
  | error (code : Nat) (msg : String) (challenge : Option (List (Param σ)))

def challengeParams {σ : Type} (o : Opts σ) : List (Param σ) :=
  (if o.rm ≠ "" then [Param.resourceMetadata o.rm] else []) ++
  (if o.scopes.length > 0 then [Param.scope o.scopes] else [])

/-- The `WWW-Authenticate` decision for a rejection with status `code`. -/
def challengeFor {σ : Type} (opts : Option (Opts σ)) (code : Nat) : Option (List (Param σ)) :=
  if challengeCodes.contains code then
    match opts with
    | none => none
    | some o => if (challengeParams o).length > 0 then some (challengeParams o) else none
  else none

/-- The closure returned by `RequireBearerToken(verifier, opts)(handler)`. -/
def serve {σ α : Type} [DecidableEq σ] (i : Input σ α) : Response σ α :=
  match (verify i).1 with
  | .pass info => .next info
  | .reject msg code => .error code msg (challengeFor i.opts code)

/-! ### The request context, stacked middlewares, and the response as sent

`RequireBearerToken` is a middleware: the request it receives may already have been through
another `RequireBearerToken` (gateway-level + route-level, different verifiers and scopes) or
through other code of the package that stored a `TokenInfo` in its context, and the
`ResponseWriter` it writes to snapshots the header map at the first `WriteHeader`. -/

/-- The request context as far as `tokenInfoKey{}` is concerned: the values stored under that key,
the most recent `context.WithValue` first.  Older values are shadowed, never removed or altered. -/
abbrev Ctx (σ α : Type) := List (Info σ α)

/-- `TokenInfoFromContext`: the most recently stored value, if any. -/
def tokenInfoFromContext {σ α : Type} (c : Ctx σ α) : Option (Info σ α) := c.head?

/-- `context.WithValue(r.Context(), tokenInfoKey{}, tokenInfo)` -/
def withTokenInfo {σ α : Type} (c : Ctx σ α) (info : Info σ α) : Ctx σ α := info :: c

/-- One `RequireBearerToken(verifier, opts)` in a chain of handlers.  The verifier is handed
`req.Context()` and the request, so it may depend on what the context already holds. -/
structure Layer (σ α : Type) where
  verifier : Ctx σ α → List Char → VRes σ α
  opts : Option (Opts σ)
  now : Int                          -- time.Now() at this middleware's expiry check

/-- What this middleware's `verify` sees of a request with `Authorization` value `hdr` and context `ctx`. -/
def Layer.input {σ α : Type} (l : Layer σ α) (hdr : List Char) (ctx : Ctx σ α) : Input σ α :=
  { header := hdr, verifier := l.verifier ctx, opts := l.opts, now := l.now }

/-- Where a request ends up. -/
inductive Outcome (σ α : Type) where
  /-- the handler behind the last middleware runs, with this request context -/
  | handler (ctx : Ctx σ α)
  /-- some middleware answered with `http.Error` -/
  | error (code : Nat) (msg : String) (challenge : Option (List (Param σ)))

/-- A request through middlewares `ls` (outermost first), arriving with context `ctx`:
each closure either answers itself or calls the next handler with
`r.WithContext(context.WithValue(r.Context(), tokenInfoKey{}, tokenInfo))`. -/
def stack {σ α : Type} [DecidableEq σ] (hdr : List Char) : List (Layer σ α) → Ctx σ α → Outcome σ α
  | [], ctx => .handler ctx
  | l :: ls, ctx =>
    match serve (l.input hdr ctx) with
    | .next info => stack hdr ls (withTokenInfo ctx info)
    | .error code msg ch => .error code msg ch

/-- One middleware reached by the request: the context it received, the token its verifier was
called with (if it was called), what it did. -/
structure Visit (σ α : Type) where
  ctxIn : Ctx σ α
  token : Option (List Char)
  resp : Response σ α

/-- The middlewares the request reaches, in order (the driver renders these). -/
def visits {σ α : Type} [DecidableEq σ] (hdr : List Char) : List (Layer σ α) → Ctx σ α → List (Visit σ α)
  | [], _ => []
  | l :: ls, ctx =>
    let i := l.input hdr ctx
    let v : Visit σ α := { ctxIn := ctx, token := (verify i).2, resp := serve i }
    match serve i with
    | .next info => v :: visits hdr ls (withTokenInfo ctx info)
    | .error _ _ _ => [v]

/-- A call the closure makes on its `http.ResponseWriter` when it rejects. -/
inductive WCall (σ : Type) where
  /-- `w.Header().Add("WWW-Authenticate", "Bearer "+…)` -/
  | addChallenge (ps : List (Param σ))
  /-- `http.Error(w, msg, code)`: content headers, `w.WriteHeader(code)`, `fmt.Fprintln(w, msg)` -/
  | httpError (msg : String) (code : Nat)

/-- The response as a client receives it. -/
structure Sent (σ : Type) where
  status : Nat
  challenges : List (List (Param σ))   -- the `WWW-Authenticate` values on the wire
  body : String
deriving DecidableEq

/-- net/http's `ResponseWriter` (and `httptest.ResponseRecorder.Result`): the header map stays
editable for ever, but it is snapshotted and sent at the first `WriteHeader`; what is added to the
map afterwards never reaches the client.  A second `WriteHeader` is ignored, further writes append
to the body. -/
structure Writer (σ : Type) where
  live : List (List (Param σ))         -- `WWW-Authenticate` values in the header map
  sent : Option (Sent σ)

def Writer.call {σ : Type} (w : Writer σ) : WCall σ → Writer σ
  | .addChallenge ps => { w with live := w.live ++ [ps] }
  | .httpError msg code =>
    match w.sent with
    | none => { w with sent := some { status := code, challenges := w.live, body := msg ++ "\n" } }
    | some s => { w with sent := some { s with body := s.body ++ msg ++ "\n" } }

/-- What reaches the client after these calls on a fresh writer (`none`: nothing written). -/
def sentBy {σ : Type} (calls : List (WCall σ)) : Option (Sent σ) :=
  (calls.foldl Writer.call { live := [], sent := none }).sent

/-- The writer calls of the closure's rejection path, in source order (structural fact
`bearer.middleware_shape`): the challenge is added first, `http.Error` comes last. -/
def rejectCalls {σ : Type} (code : Nat) (msg : String) (ch : Option (List (Param σ))) : List (WCall σ) :=
  (match ch with
   | some ps => [WCall.addChallenge ps]
   | none => []) ++ [WCall.httpError msg code]

/-- The writer calls of the closure itself (the inner handler's own are not the middleware's). -/
def wcalls {σ α : Type} : Response σ α → List (WCall σ)
  | .next _ => []
  | .error code msg ch => rejectCalls code msg ch

end Bearer
