import McpModel.Bearer.Lemmas
import McpModel.Bearer.Session
/-!
# C14 — property theorems for the bearer-token middleware (model: `Bearer.serve`, `Bearer.verify`; `leave` is
Session.lean's second atomic section of `verify`, the causes `Cause` are Monitor.lean's)

Every theorem quantifies over *all* header values, all verifiers (any function from the token to
an outcome), all scope lists, all instants, skews and option records including nil options, and
over any type `α` of further token information.  Nothing is bounded.  The literal statuses
(401/403/400/500), the word "bearer", the field count and the two expiry conditions in the
statements are checked against the constants regenerated from auth/auth.go: if the code changes
one of them, the proofs below stop building.
-/
namespace Bearer
open Generated.Bearer
variable {σ α : Type} [DecidableEq σ]

/-- The credential is syntactically valid and carries `tok`: `strings.Fields` of the header value
yields exactly two fields, the first being "bearer" up to ASCII case, the second `tok`. -/
def Credential (hdr tok : List Char) : Prop :=
  ∃ sch, fields hdr = [sch, tok] ∧ lowerAscii sch = ['b', 'e', 'a', 'r', 'e', 'r']

/-- `fields` is a function: a header carries at most one credential. -/
theorem Credential.unique {hdr t1 t2 : List Char} (h1 : Credential hdr t1) (h2 : Credential hdr t2) :
    t1 = t2 := by
  obtain ⟨s1, f1, _⟩ := h1
  obtain ⟨s2, f2, _⟩ := h2
  rw [f1] at f2; simp only [List.cons.injEq, and_true] at f2; exact f2.2

/-- `c` is the first failing cause of the request `i`, in the order of the property
(`status_by_cause`): written with `Credential`, the verifier's outcome, `eff` and the expiry clause. -/
def Rejects {σ α : Type} (i : Input σ α) : Cause → Prop
  | .noCredential => ¬ ∃ tok, Credential i.header tok
  | .invalidToken => ∃ tok e, Credential i.header tok ∧ (i.verifier tok).err = some e ∧ e.isInvalid = true
  | .oauthError => ∃ tok e, Credential i.header tok ∧ (i.verifier tok).err = some e ∧
      e.isInvalid = false ∧ e.isOAuth = true
  | .otherError => ∃ tok e, Credential i.header tok ∧ (i.verifier tok).err = some e ∧
      e.isInvalid = false ∧ e.isOAuth = false
  | .nilInfo => ∃ tok, Credential i.header tok ∧ (i.verifier tok).err = none ∧ (i.verifier tok).info = none
  | .scope => ∃ tok info, Credential i.header tok ∧ (i.verifier tok).err = none ∧
      (i.verifier tok).info = some info ∧ ∃ s ∈ (eff i.opts).scopes, s ∉ info.scopes
  | .missingExp => ∃ tok info, Credential i.header tok ∧ (i.verifier tok).err = none ∧
      (i.verifier tok).info = some info ∧ (∀ s ∈ (eff i.opts).scopes, s ∈ info.scopes) ∧
      info.exp = none ∧ (eff i.opts).allowMissing = false
  | .expired => ∃ tok info e, Credential i.header tok ∧ (i.verifier tok).err = none ∧
      (i.verifier tok).info = some info ∧ (∀ s ∈ (eff i.opts).scopes, s ∈ info.scopes) ∧
      info.exp = some e ∧ e + (eff i.opts).skew < i.now

/-- The conditions of `admit_iff`. -/
def AdmitsIn {σ α : Type} (i : Input σ α) (info : Info σ α) : Prop :=
  ∃ tok, Credential i.header tok ∧
    (i.verifier tok).err = none ∧ (i.verifier tok).info = some info ∧
    (∀ s ∈ (eff i.opts).scopes, s ∈ info.scopes) ∧ Unexpired info.exp (eff i.opts) i.now

theorem serve_of_credential {i : Input σ α} {tok : List Char} (h : credential i.header = some tok) :
    serve i = leave i tok := by
  simp only [serve, verify, leave, h]
  cases (i.verifier tok).err with
  | some e => rfl
  | none =>
    cases (i.verifier tok).info with
    | none => rfl
    | some info =>
      simp only []
      cases scopeRejected i.opts info.scopes with
      | true => rfl
      | false =>
        cases expiryRejected info.exp (i.opts.getD Opts.zero) i.now with
        | none => rfl
        | some p => rfl

theorem serve_of_no_credential {i : Input σ α} (h : credential i.header = none) :
    serve i = .error stNoBearer msgNoBearer (challengeFor i.opts stNoBearer) := by
  simp only [serve, verify, h]

omit [DecidableEq σ] in
/-- Every request has a reading in the property's vocabulary: it is admitted with the verifier's info, or one of the
checks is the first to fail.  (That it has only one: `rejects_unique`, `rejects_not_admits`, `admits_unique`, Sound.lean.) -/
theorem reads_total (i : Input σ α) : (∃ info, AdmitsIn i info) ∨ ∃ c, Rejects i c := by
  by_cases hc : ∃ tok, Credential i.header tok
  · obtain ⟨tok, hcr⟩ := hc
    cases he : (i.verifier tok).err with
    | some e =>
      cases h1 : e.isInvalid with
      | true => exact .inr ⟨.invalidToken, tok, e, hcr, he, h1⟩
      | false =>
        cases h2 : e.isOAuth with
        | true => exact .inr ⟨.oauthError, tok, e, hcr, he, h1, h2⟩
        | false => exact .inr ⟨.otherError, tok, e, hcr, he, h1, h2⟩
    | none =>
      cases hi : (i.verifier tok).info with
      | none => exact .inr ⟨.nilInfo, tok, hcr, he, hi⟩
      | some info =>
        by_cases hs : ∀ s ∈ (eff i.opts).scopes, s ∈ info.scopes
        · by_cases hu : Unexpired info.exp (eff i.opts) i.now
          · exact .inl ⟨info, tok, hcr, he, hi, hs, hu⟩
          · cases hx : info.exp with
            | none => exact .inr ⟨.missingExp, tok, info, hcr, he, hi, hs, hx, by simpa [Unexpired, hx] using hu⟩
            | some x => exact .inr ⟨.expired, tok, info, x, hcr, he, hi, hs, hx, by simpa [Unexpired, hx] using hu⟩
        · exact .inr ⟨.scope, tok, info, hcr, he, hi, by simpa using hs⟩
  · exact .inr ⟨.noCredential, hc⟩

theorem serve_of_admits {i : Input σ α} {info : Info σ α} (h : AdmitsIn i info) : serve i = .next info := by
  obtain ⟨tok, hcr, he, hi, hs, hu⟩ := h
  simp only [serve_of_credential ((credential_some _ _).2 hcr), leave, he, hi, (scopeRejected_false _ _).2 hs,
    (expiryRejected_none _ _ _).2 hu]
  rfl

theorem serve_of_verr {i : Input σ α} {tok : List Char} {e : VErr} (hcr : Credential i.header tok)
    (he : (i.verifier tok).err = some e) :
    serve i = .error (if e.isInvalid then 401 else if e.isOAuth then 400 else 500) e.msg
      (challengeFor i.opts (if e.isInvalid then 401 else if e.isOAuth then 400 else 500)) := by
  simp only [serve_of_credential ((credential_some _ _).2 hcr), leave, he, errStatus_chain]

theorem serve_error_of_rejects {i : Input σ α} {c : Cause} (h : Rejects i c) :
    ∃ msg, serve i = .error c.code msg (challengeFor i.opts c.code) := by
  cases c <;> simp only [Rejects] at h
  case noCredential =>
    exact ⟨_, serve_of_no_credential ((credential_none _).2 fun ⟨sch, tok, h1, h2⟩ => h ⟨tok, sch, h1, h2⟩)⟩
  case invalidToken =>
    obtain ⟨tok, e, hcr, he, h1⟩ := h
    exact ⟨e.msg, by rw [serve_of_verr hcr he, h1]; rfl⟩
  case oauthError =>
    obtain ⟨tok, e, hcr, he, h1, h2⟩ := h
    exact ⟨e.msg, by rw [serve_of_verr hcr he, h1, h2]; rfl⟩
  case otherError =>
    obtain ⟨tok, e, hcr, he, h1, h2⟩ := h
    exact ⟨e.msg, by rw [serve_of_verr hcr he, h1, h2]; rfl⟩
  case nilInfo =>
    obtain ⟨tok, hcr, he, hi⟩ := h
    exact ⟨_, by simp only [serve_of_credential ((credential_some _ _).2 hcr), leave, he, hi]; rfl⟩
  case scope =>
    obtain ⟨tok, info, hcr, he, hi, hs⟩ := h
    exact ⟨_, by
      simp only [serve_of_credential ((credential_some _ _).2 hcr), leave, he, hi, (scopeRejected_true _ _).2 hs,
        if_true]
      rfl⟩
  case missingExp =>
    obtain ⟨tok, info, hcr, he, hi, hs, hx, ha⟩ := h
    exact ⟨_, by
      simp only [serve_of_credential ((credential_some _ _).2 hcr), leave, he, hi, (scopeRejected_false _ _).2 hs,
        hx, expiryRejected_missing _ _ ha]
      rfl⟩
  case expired =>
    obtain ⟨tok, info, x, hcr, he, hi, hs, hx, hlt⟩ := h
    exact ⟨_, by
      simp only [serve_of_credential ((credential_some _ _).2 hcr), leave, he, hi, (scopeRejected_false _ _).2 hs,
        hx, expiryRejected_expired _ _ _ hlt]
      rfl⟩

/-- C14 "a handler runs if and only if": credential, verifier, scopes, expiry (`AdmitsIn`, written out). -/
theorem admit_iff (i : Input σ α) (info : Info σ α) :
    serve i = .next info ↔
      ∃ tok, Credential i.header tok ∧
        (i.verifier tok).err = none ∧ (i.verifier tok).info = some info ∧
        (∀ s ∈ (eff i.opts).scopes, s ∈ info.scopes) ∧
        Unexpired info.exp (eff i.opts) i.now := by
  refine ⟨fun h => ?_, serve_of_admits⟩
  rcases reads_total i with ⟨info', ha⟩ | ⟨c, hr⟩
  · cases (serve_of_admits ha).symm.trans h; exact ha
  · obtain ⟨_, hs⟩ := serve_error_of_rejects hr
    cases hs.symm.trans h

theorem verify_token (i : Input σ α) : (verify i).2 = credential i.header := by
  unfold verify
  cases credential i.header with
  | none => rfl
  | some tok =>
    simp only []
    repeat' split
    all_goals rfl

/-- Whatever the handler finds in the request context is the very
value the verifier returned for the token of the credential — for any type `α` of further token
information, so nothing in it can have been altered — and the verifier was consulted with exactly
that token. -/
theorem handler_sees_verifier_info (i : Input σ α) (info : Info σ α) (h : serve i = .next info) :
    ∃ tok, Credential i.header tok ∧ (i.verifier tok).info = some info ∧ (verify i).2 = some tok := by
  obtain ⟨tok, hcr, _, hi, _⟩ := (admit_iff i info).1 h
  exact ⟨tok, hcr, hi, (verify_token i).trans ((credential_some _ _).2 hcr)⟩

/-- The verifier is consulted iff the credential is syntactically valid, and then with its token
(`verify` is the only caller of the verifier: structural fact `bearer.verifier_callers`). -/
theorem verifier_called_iff (i : Input σ α) (tok : List Char) :
    (verify i).2 = some tok ↔ Credential i.header tok := by
  rw [verify_token]; exact credential_some _ _

/-- Every request that is not admitted is answered according to the FIRST failing check, in the order of `auth.verify`
(`Rejects`, written out); a verifier error is answered with the error's own text. -/
theorem status_by_cause (i : Input σ α) :
    ((¬ ∃ tok, Credential i.header tok) →
        ∃ msg ch, serve i = .error 401 msg ch ∧ (verify i).2 = none) ∧
    (∀ tok, Credential i.header tok →
      (∀ e, (i.verifier tok).err = some e →
        ∃ ch, serve i = .error (if e.isInvalid then 401 else if e.isOAuth then 400 else 500) e.msg ch) ∧
      ((i.verifier tok).err = none → (i.verifier tok).info = none →
        ∃ msg ch, serve i = .error 500 msg ch) ∧
      (∀ info, (i.verifier tok).err = none → (i.verifier tok).info = some info →
        ((∃ s ∈ (eff i.opts).scopes, s ∉ info.scopes) → ∃ msg ch, serve i = .error 403 msg ch) ∧
        ((∀ s ∈ (eff i.opts).scopes, s ∈ info.scopes) → ¬ Unexpired info.exp (eff i.opts) i.now →
          ∃ msg ch, serve i = .error 401 msg ch))) := by
  -- each clause names a cause
  have ans : ∀ {c}, Rejects i c → ∃ msg ch, serve i = .error c.code msg ch :=
    fun h => let ⟨msg, hs⟩ := serve_error_of_rejects h; ⟨msg, _, hs⟩
  refine ⟨fun hn => ?_, fun tok hcr => ⟨fun e he => ⟨_, serve_of_verr hcr he⟩,
    fun he hi => ans (c := .nilInfo) ⟨tok, hcr, he, hi⟩,
    fun info he hi => ⟨fun hs => ans (c := .scope) ⟨tok, info, hcr, he, hi, hs⟩, fun hs hu => ?_⟩⟩⟩
  · obtain ⟨msg, ch, hs⟩ := ans (c := .noCredential) hn
    refine ⟨msg, ch, hs, (verify_token i).trans ?_⟩
    exact (credential_none _).2 fun ⟨sch, tok, h1, h2⟩ => hn ⟨tok, sch, h1, h2⟩
  · cases hx : info.exp with
    | none => exact ans (c := .missingExp) ⟨tok, info, hcr, he, hi, hs, hx, by simpa [Unexpired, hx] using hu⟩
    | some x => exact ans (c := .expired) ⟨tok, info, x, hcr, he, hi, hs, hx, by simpa [Unexpired, hx] using hu⟩

/-- The only statuses the middleware itself produces. -/
theorem reject_codes (i : Input σ α) (code : Nat) (msg : String) (ch : Option (List (Param σ)))
    (h : serve i = .error code msg ch) : code = 401 ∨ code = 403 ∨ code = 400 ∨ code = 500 := by
  rcases reads_total i with ⟨info, ha⟩ | ⟨c, hr⟩
  · cases (serve_of_admits ha).symm.trans h
  · obtain ⟨_, hs⟩ := serve_error_of_rejects hr
    cases hs.symm.trans h
    cases c <;> simp [Cause.code]

/-- The `WWW-Authenticate: Bearer …` challenge of a rejection: on 401/403 only, `resource_metadata` before `scope`, each iff
configured.  (The parameter names are `challenge_param_names`.) -/
theorem challenge_on_401_403 (i : Input σ α) (code : Nat) (msg : String)
    (ch : Option (List (Param σ))) (h : serve i = .error code msg ch) :
    ch = (if code = 401 ∨ code = 403 then
            match i.opts with
            | none => none
            | some o =>
              if o.rm = "" ∧ o.scopes = [] then none
              else some ((if o.rm = "" then [] else [Param.resourceMetadata o.rm]) ++
                         (if o.scopes = [] then [] else [Param.scope o.scopes]))
          else none) := by
  have hch : ch = challengeFor i.opts code := by
    simp only [serve] at h
    split at h
    · cases h
    · cases h; rfl
  rw [hch]
  have hcodes : ∀ c : Nat, challengeCodes.contains c = true ↔ (c = 401 ∨ c = 403) := by
    intro c; simp [challengeCodes]
  by_cases hc : code = 401 ∨ code = 403
  · simp only [challengeFor, (hcodes code).2 hc, if_true, hc]
    cases i.opts with
    | none => rfl
    | some o =>
      by_cases h1 : o.rm = "" <;> cases h2 : o.scopes <;> simp [challengeParams, h1, h2]
  · have : challengeCodes.contains code = false := Bool.eq_false_iff.2 fun hb => hc ((hcodes code).1 hb)
    simp only [challengeFor, this, Bool.false_eq_true, if_false, hc]

/-- The parameter names used when the challenge is rendered (regenerated from the `Sprintf`
formats of the closure). -/
theorem challenge_param_names : paramRM = "resource_metadata" ∧ paramScope = "scope" := ⟨rfl, rfl⟩

/-- A token whose `expiration + skew` is *exactly* now is still admitted
(the code rejects only when `expiration + skew` is strictly before now)… -/
theorem boundary_admitted (i : Input σ α) (info : Info σ α) (tok : List Char) (e : Int)
    (hcr : Credential i.header tok) (he : (i.verifier tok).err = none)
    (hi : (i.verifier tok).info = some info) (hs : ∀ s ∈ (eff i.opts).scopes, s ∈ info.scopes)
    (hx : info.exp = some e) (hb : e + (eff i.opts).skew = i.now) : serve i = .next info := by
  refine (admit_iff i info).2 ⟨tok, hcr, he, hi, hs, ?_⟩
  simp only [Unexpired, hx]; omega

/-- …and one nanosecond later it is rejected with 401. -/
theorem boundary_plus_one_rejected (i : Input σ α) (info : Info σ α) (tok : List Char) (e : Int)
    (hcr : Credential i.header tok) (he : (i.verifier tok).err = none)
    (hi : (i.verifier tok).info = some info) (hs : ∀ s ∈ (eff i.opts).scopes, s ∈ info.scopes)
    (hx : info.exp = some e) (hb : e + (eff i.opts).skew + 1 = i.now) :
    ∃ msg ch, serve i = .error 401 msg ch := by
  refine (((status_by_cause i).2 tok hcr).2.2 info he hi).2 hs ?_
  simp only [Unexpired, hx]; omega

/-- Nil options behave exactly like the zero options. -/
theorem nil_opts (i : Input σ α) :
    serve { i with opts := none } = serve { i with opts := some Opts.zero } := by
  have h1 : ∀ g : List σ, scopeRejected (none : Option (Opts σ)) g = scopeRejected (some Opts.zero) g := by
    intro g; simp [scopeRejected, Opts.zero, missingScope]
  have h2 : ∀ c, challengeFor (none : Option (Opts σ)) c = challengeFor (some Opts.zero) c := by
    intro c; simp [challengeFor, challengeParams, Opts.zero]
  simp only [serve, verify, h1, h2, Option.getD]

/-- Middleware `l` admits a request with `Authorization` value `hdr` and context `ctx`, with token
info `info`: the conditions of `admit_iff`, for this middleware's verifier and options. -/
def Layer.Admits (l : Layer σ α) (hdr : List Char) (ctx : Ctx σ α) (info : Info σ α) : Prop :=
  ∃ tok, Credential hdr tok ∧
    (l.verifier ctx tok).err = none ∧ (l.verifier ctx tok).info = some info ∧
    (∀ s ∈ (eff l.opts).scopes, s ∈ info.scopes) ∧ Unexpired info.exp (eff l.opts) l.now

theorem Layer.admits_iff (l : Layer σ α) (hdr : List Char) (ctx : Ctx σ α) (info : Info σ α) :
    serve (l.input hdr ctx) = .next info ↔ l.Admits hdr ctx info :=
  admit_iff (l.input hdr ctx) info

/-- Every middleware of `ls` (outermost first) admits the request; `ctx'` is the context the
handler behind the last one receives: each middleware's own token info stored on top of what was
there before. -/
inductive Admitted (hdr : List Char) : List (Layer σ α) → Ctx σ α → Ctx σ α → Prop where
  | nil (ctx : Ctx σ α) : Admitted hdr [] ctx ctx
  | cons {l : Layer σ α} {ls : List (Layer σ α)} {ctx ctx' : Ctx σ α} (info : Info σ α) :
      l.Admits hdr ctx info → Admitted hdr ls (info :: ctx) ctx' → Admitted hdr (l :: ls) ctx ctx'

/-- Behind any number of stacked middlewares, and whatever the incoming
request context already holds, the final handler runs iff every middleware admits the request by
its own verifier, scopes and expiry rule. -/
theorem stack_handler_iff (hdr : List Char) (ls : List (Layer σ α)) (ctx ctx' : Ctx σ α) :
    stack hdr ls ctx = .handler ctx' ↔ Admitted hdr ls ctx ctx' := by
  induction ls generalizing ctx with
  | nil =>
    simp only [stack]
    constructor
    · intro h; cases h; exact .nil _
    · intro h; cases h; rfl
  | cons l ls ih =>
    simp only [stack]
    constructor
    · intro h
      cases hs : serve (l.input hdr ctx) with
      | next info =>
        rw [hs] at h
        exact .cons info ((l.admits_iff hdr ctx info).1 hs) ((ih _).1 h)
      | error c m ch => rw [hs] at h; cases h
    · intro h
      cases h with
      | cons info ha hr =>
        rw [(l.admits_iff hdr ctx info).2 ha]
        exact (ih _).2 hr

omit [DecidableEq σ] in
theorem Admitted.append {hdr : List Char} {l1 l2 : List (Layer σ α)} {c1 c2 c3 : Ctx σ α}
    (h1 : Admitted hdr l1 c1 c2) (h2 : Admitted hdr l2 c2 c3) : Admitted hdr (l1 ++ l2) c1 c3 := by
  induction h1 with
  | nil _ => exact h2
  | cons info ha _ ih => exact .cons info ha (ih h2)

omit [DecidableEq σ] in
theorem Admitted.split {hdr : List Char} {l1 l2 : List (Layer σ α)} {c1 c3 : Ctx σ α}
    (h : Admitted hdr (l1 ++ l2) c1 c3) : ∃ c2, Admitted hdr l1 c1 c2 ∧ Admitted hdr l2 c2 c3 := by
  induction l1 generalizing c1 with
  | nil => exact ⟨c1, .nil _, h⟩
  | cons l ls ih =>
    cases h with
    | cons info ha hr =>
      obtain ⟨c2, h1, h2⟩ := ih hr
      exact ⟨c2, .cons info ha h1, h2⟩

/-- One middleware on a request with ANY context — empty, or
already carrying a `TokenInfo` from an enclosing middleware or other code: if its handler runs,
`TokenInfoFromContext` in the handler yields exactly the info this middleware's verifier returned
for this request's token (the value the scope and expiry checks were made on), never the value
that was already there; the earlier values are only shadowed. -/
theorem handler_ctx_is_verifier_info (hdr : List Char) (l : Layer σ α) (ctx ctx' : Ctx σ α) :
    stack hdr [l] ctx = .handler ctx' ↔ ∃ info, l.Admits hdr ctx info ∧ ctx' = info :: ctx := by
  rw [stack_handler_iff]
  constructor
  · intro h
    cases h with
    | cons info ha hr => cases hr; exact ⟨info, ha, rfl⟩
  · rintro ⟨info, ha, rfl⟩
    exact .cons info ha (.nil _)

/-- Behind stacked middlewares the handler finds the token info
returned by the verifier of the innermost one (the one it is directly wrapped in), which that
middleware checked against its own scopes and expiry rule. -/
theorem stack_handler_sees_innermost (hdr : List Char) (ls : List (Layer σ α)) (l : Layer σ α)
    (ctx ctx' : Ctx σ α) (h : stack hdr (ls ++ [l]) ctx = .handler ctx') :
    ∃ ctx1 info, Admitted hdr ls ctx ctx1 ∧ l.Admits hdr ctx1 info ∧
      tokenInfoFromContext ctx' = some info ∧ ctx' = info :: ctx1 := by
  obtain ⟨c2, h1, h2⟩ := ((stack_handler_iff hdr _ ctx ctx').1 h).split
  cases h2 with
  | cons info ha hr => cases hr; exact ⟨c2, info, h1, ha, rfl, rfl⟩

omit [DecidableEq σ] in
/-- What was in the context before is still there underneath (shadowed, not altered), and every
middleware adds exactly one value. -/
theorem Admitted.ctx_suffix {hdr : List Char} {ls : List (Layer σ α)} {ctx ctx' : Ctx σ α}
    (h : Admitted hdr ls ctx ctx') : ∃ pre, ctx' = pre ++ ctx ∧ pre.length = ls.length := by
  induction h with
  | nil _ => exact ⟨[], rfl, rfl⟩
  | cons info _ _ ih =>
    obtain ⟨pre, h1, h2⟩ := ih
    exact ⟨pre ++ [info], by simp [h1], by simp [h2]⟩

/-- A stacked request is answered with an error iff some middleware rejects
it after all the enclosing ones admitted it; the answer is that middleware's own (its status by
cause, its own challenge parameters), and no middleware behind it is reached. -/
theorem stack_error_first (hdr : List Char) (ls : List (Layer σ α)) (ctx : Ctx σ α)
    (code : Nat) (msg : String) (ch : Option (List (Param σ))) :
    stack hdr ls ctx = .error code msg ch ↔
      ∃ pre l post ctx1, ls = pre ++ l :: post ∧ Admitted hdr pre ctx ctx1 ∧
        serve (l.input hdr ctx1) = .error code msg ch := by
  constructor
  · induction ls generalizing ctx with
    | nil => intro h; cases h
    | cons l ls ih =>
      intro h
      simp only [stack] at h
      cases hs : serve (l.input hdr ctx) with
      | next info =>
        rw [hs] at h
        obtain ⟨pre, l', post, c1, rfl, ha, he⟩ := ih _ h
        exact ⟨l :: pre, l', post, c1, rfl, .cons info ((l.admits_iff hdr ctx info).1 hs) ha, he⟩
      | error c m ch' =>
        rw [hs] at h; cases h
        exact ⟨[], l, ls, ctx, rfl, .nil _, hs⟩
  · rintro ⟨pre, l, post, c1, rfl, ha, he⟩
    induction ha with
    | nil _ => simp only [List.nil_append, stack, he]
    | cons info ha' _ ih => simp only [List.cons_append, stack, (Layer.admits_iff _ hdr _ info).2 ha']; exact ih he

/-- For a verifier that does not look at the request context, a
`TokenInfo` already present in the context changes neither the decision nor what the handler
finds: with and without it the handler runs in the same cases and sees the same verifier info. -/
theorem preexisting_ctx_irrelevant (hdr : List Char) (l : Layer σ α) (ctx : Ctx σ α)
    (hv : ∀ c, l.verifier c = l.verifier []) (info : Info σ α) :
    stack hdr [l] ctx = .handler (info :: ctx) ↔ stack hdr [l] [] = .handler [info] := by
  have e : l.input hdr ctx = l.input hdr [] := by simp only [Layer.input, hv ctx]
  simp only [stack, withTokenInfo, e]
  cases serve (l.input hdr []) with
  | next i => simp
  | error c m ch => simp

/-- The outcome of the stack, read off the middlewares it reached. -/
def outcomeOfVisits (ctx : Ctx σ α) : List (Visit σ α) → Outcome σ α
  | [] => .handler ctx
  | v :: vs =>
    match v.resp with
    | .next info => outcomeOfVisits (info :: v.ctxIn) vs
    | .error code msg ch => .error code msg ch

/-- The sequence of middlewares reached (`visits`, which is what the driver renders, one entry per
middleware with the token its verifier got) determines the outcome of `stack`: every visited
middleware but the last admitted, the last one decides, and each was entered with the context
left by the one before. -/
theorem visits_outcome (hdr : List Char) (ls : List (Layer σ α)) (ctx : Ctx σ α) :
    outcomeOfVisits ctx (visits hdr ls ctx) = stack hdr ls ctx := by
  induction ls generalizing ctx with
  | nil => rfl
  | cons l ls ih =>
    simp only [visits, stack]
    cases hs : serve (l.input hdr ctx) with
    | next info => simp only [outcomeOfVisits]; exact ih _
    | error c m ch => simp only [outcomeOfVisits]

/-- Each visited middleware's verifier was consulted iff the credential is well-formed, with its
token (`verifier_called_iff`, per middleware). -/
theorem visits_token (hdr : List Char) (ls : List (Layer σ α)) (ctx : Ctx σ α) (v : Visit σ α)
    (hv : v ∈ visits hdr ls ctx) (tok : List Char) : v.token = some tok ↔ Credential hdr tok := by
  induction ls generalizing ctx with
  | nil => simp [visits] at hv
  | cons l ls ih =>
    simp only [visits] at hv
    have key : ({ ctxIn := ctx, token := (verify (l.input hdr ctx)).2, resp := serve (l.input hdr ctx) } :
        Visit σ α).token = some tok ↔ Credential hdr tok := verifier_called_iff (l.input hdr ctx) tok
    cases hs : serve (l.input hdr ctx) with
    | next info =>
      rw [hs] at hv
      simp only [List.mem_cons] at hv
      rcases hv with rfl | hv
      · rw [← hs]; exact key
      · exact ih _ hv
    | error c m ch =>
      rw [hs] at hv
      simp only [List.mem_singleton] at hv
      subst hv
      rw [← hs]; exact key

/-- The rejection as the client receives it: the status and body of
`http.Error`, and the challenge — because the closure adds it to the header map *before*
`http.Error` writes the header — as the one `WWW-Authenticate` value of the sent response. -/
theorem challenge_sent (i : Input σ α) (code : Nat) (msg : String) (ch : Option (List (Param σ)))
    (h : serve i = .error code msg ch) :
    sentBy (wcalls (serve i)) = some { status := code, challenges := ch.toList, body := msg ++ "\n" } := by
  rw [h]
  cases ch <;> rfl

/-- `challenge_on_401_403` for the response as sent: exactly one `WWW-Authenticate` value, or none. -/
theorem sent_challenge_on_401_403 (i : Input σ α) (code : Nat) (msg : String)
    (ch : Option (List (Param σ))) (h : serve i = .error code msg ch) :
    ∃ s, sentBy (wcalls (serve i)) = some s ∧ s.status = code ∧
      s.challenges =
        (if code = 401 ∨ code = 403 then
          match i.opts with
          | none => []
          | some o =>
            if o.rm = "" ∧ o.scopes = [] then []
            else [(if o.rm = "" then [] else [Param.resourceMetadata o.rm]) ++
                  (if o.scopes = [] then [] else [Param.scope o.scopes])]
         else []) := by
  refine ⟨_, challenge_sent i code msg ch h, rfl, ?_⟩
  rw [challenge_on_401_403 i code msg ch h]
  by_cases hc : code = 401 ∨ code = 403
  · simp only [hc, if_true]
    cases i.opts with
    | none => rfl
    | some o => by_cases h1 : o.rm = "" ∧ o.scopes = [] <;> simp [h1]
  · simp only [hc, if_false]; rfl

omit [DecidableEq σ] in
/-- The order of the two writer calls is part of the property: a
challenge added to the header map after `http.Error` is in the map but not in the response. -/
theorem late_challenge_not_sent (code : Nat) (msg : String) (ps : List (Param σ)) :
    sentBy [WCall.httpError msg code, WCall.addChallenge ps] =
      some { status := code, challenges := [], body := msg ++ "\n" } ∧
    sentBy (rejectCalls code msg (some ps)) =
      some { status := code, challenges := [ps], body := msg ++ "\n" } := ⟨rfl, rfl⟩

/-! ## Non-vacuity: both sides of `admit_iff` and every status occur. -/

private def okInfo : Info String Unit := { scopes := ["read", "write"], exp := some 100, extra := () }
private def mkIn (hdr : String) (r : VRes String Unit) (o : Option (Opts String)) (now : Int) :
    Input String Unit := { header := hdr.toList, verifier := fun _ => r, opts := o, now := now }
private def opts1 : Opts String := { rm := "https://rs/meta", scopes := ["read"], allowMissing := false, skew := 30 }

example : serve (mkIn "bEaReR  tok" ⟨none, some okInfo⟩ (some opts1) 130) = .next okInfo := by rfl
example : serve (mkIn "Bearer tok" ⟨none, some okInfo⟩ (some opts1) 131) =
    .error 401 "token expired" (some [.resourceMetadata "https://rs/meta", .scope ["read"]]) := by rfl
example : serve (mkIn "Bearer tok" ⟨none, some okInfo⟩ (some { opts1 with scopes := ["read", "admin"] }) 0) =
    .error 403 "insufficient scope" (some [.resourceMetadata "https://rs/meta", .scope ["read", "admin"]]) := by rfl
example : serve (mkIn "Bearer tok" ⟨some ⟨false, true, "oauth error"⟩, none⟩ (some opts1) 0) =
    .error 400 "oauth error" none := by rfl
example : serve (mkIn "Bearer tok" ⟨none, none⟩ none 0) = .error 500 "token validation failed" none := by rfl
example : serve (mkIn "Basic tok" ⟨none, some okInfo⟩ none 0) = .error 401 "no bearer token" none := by rfl

/-! Stacked middlewares and a pre-populated context: the handler sees the innermost verifier's info
on top of the older values; an inner rejection is answered with the inner middleware's challenge. -/
private def lay (r : VRes String Unit) (o : Option (Opts String)) (now : Int) : Layer String Unit :=
  { verifier := fun _ _ => r, opts := o, now := now }
private def adminInfo : Info String Unit := { scopes := ["admin"], exp := none, extra := () }
private def staleInfo : Info String Unit := { scopes := ["root"], exp := some (-5), extra := () }
private def optsAdmin : Opts String := { rm := "", scopes := ["admin"], allowMissing := true, skew := 0 }

example : stack "Bearer tok".toList
    [lay ⟨none, some okInfo⟩ (some opts1) 0, lay ⟨none, some adminInfo⟩ (some optsAdmin) 0] [staleInfo] =
    .handler [adminInfo, okInfo, staleInfo] := by rfl
example : tokenInfoFromContext [adminInfo, okInfo, staleInfo] = some adminInfo := rfl
example : stack "Bearer tok".toList
    [lay ⟨none, some okInfo⟩ (some opts1) 0, lay ⟨none, some okInfo⟩ (some optsAdmin) 0] [staleInfo] =
    .error 403 "insufficient scope" (some [.scope ["admin"]]) := by rfl
example : stack "Bearer tok".toList [lay ⟨none, some okInfo⟩ (some opts1) 0] [staleInfo] =
    .handler [okInfo, staleInfo] := by rfl
example : sentBy (wcalls (serve (mkIn "Basic tok" ⟨none, some okInfo⟩ (some opts1) 0))) =
    some { status := 401, challenges := [[.resourceMetadata "https://rs/meta", .scope ["read"]]],
           body := "no bearer token\n" } := by decide +kernel

end Bearer
