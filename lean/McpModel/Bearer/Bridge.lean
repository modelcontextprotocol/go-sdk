import McpModel.Bearer.Props
/-!
# Bridge between the C14 monitor and the model (E10)

`monitor_accepts_model`: for EVERY request — any `Authorization` value, any number of stacked
middlewares with any verifiers (functions of the request context and the token), options, instants,
any incoming request context — whose `TokenInfo` values carry their identities (`Req.Tagged`: what
the verifier of middleware `k` returns is tagged `L k`; this is what the harness's pointer comparison
reports), the monitor of Monitor.lean raises no clause on the observation the model produces
(`obsOf`: `visits`/`stack`/`sentBy`).  The proof goes through the property theorems of Props.lean:
the monitor's reading of a middleware (`specWant`) is the property's own vocabulary
(`specWant_pass_iff`: `AdmitsIn`, which `Layer.Admits` is by `Layer.admits_input`; `specWant_reject_iff`: `Rejects`, the first failing cause).

Why the monitor reads the challenge into its auth-params (`WVal.chal`) and compares the values carried
under the two names: a test that looks for the NAMES `resource_metadata` / `scope=` anywhere in the
header value raises `challenge_on_401_403: the challenge does not carry exactly …` on a correct
response whenever a required scope or the metadata URL merely contains such a name
(`old_challenge_test_false_alarm`; on the real middleware: corpus/bearer/param-lookalikes.ops).
-/
namespace Bearer
open Generated.Bearer

theorem specCredential_eq (hdr : List Char) : specCredential hdr = credential hdr := by
  simp only [specCredential, credential, nFields, show scheme.toList = "bearer".toList from rfl]
  generalize "bearer".toList = word, fields hdr = fs
  match fs with
  | [] | [_] | _ :: _ :: _ :: _ => simp
  | [a, b] => by_cases h : lowerAscii a = word <;> simp [h]

theorem specCredential_some (hdr tok : List Char) : specCredential hdr = some tok ↔ Credential hdr tok := by
  rw [specCredential_eq]; exact credential_some hdr tok

theorem specCredential_none (hdr : List Char) : specCredential hdr = none ↔ ¬ ∃ tok, Credential hdr tok := by
  constructor
  · rintro h ⟨tok, ht⟩
    rw [(specCredential_some hdr tok).2 ht] at h; cases h
  · intro h
    cases hc : specCredential hdr with
    | none => rfl
    | some tok => exact absurd ⟨tok, (specCredential_some hdr tok).1 hc⟩ h

theorem Layer.admits_input {σ α : Type} (l : Layer σ α) (hdr : List Char) (ctx : Ctx σ α) (info : Info σ α) :
    AdmitsIn (l.input hdr ctx) info ↔ l.Admits hdr ctx info := Iff.rfl

theorem specOpts_eq (o : Option (Opts String)) :
    (match o with
      | some o => o
      | none => ({ rm := "", scopes := [], allowMissing := false, skew := 0 } : Opts String)) = eff o := by
  cases o <;> rfl

theorem scopes_all_iff (req gr : List String) :
    (req.all fun s => gr.elem s) = true ↔ ∀ s ∈ req, s ∈ gr := by
  simp [List.all_eq_true]

theorem specWant_of_credential (i : Input String Tag) (tok : List Char) (hc : Credential i.header tok) :
    specWant i =
      match (i.verifier tok).err with
      | some e => if e.isInvalid then .reject .invalidToken else if e.isOAuth then .reject .oauthError
                  else .reject .otherError
      | none =>
        match (i.verifier tok).info with
        | none => .reject .nilInfo
        | some inf =>
          if !((eff i.opts).scopes.all fun s => inf.scopes.elem s) then .reject .scope
          else match inf.exp with
            | none => if (eff i.opts).allowMissing then .pass inf else .reject .missingExp
            | some e => if e + (eff i.opts).skew < i.now then .reject .expired else .pass inf := by
  have h := (specCredential_some _ _).2 hc
  cases i with
  | mk hdr ver opts now =>
    cases opts <;> simp only [specWant, h] <;> rfl

theorem specWant_of_admits (i : Input String Tag) (info : Info String Tag) (h : AdmitsIn i info) :
    specWant i = .pass info := by
  obtain ⟨tok, hcr, he, hi, hs, hu⟩ := h
  rw [specWant_of_credential i tok hcr, he]; simp only []
  rw [hi]; simp only [(scopes_all_iff _ _).2 hs, Bool.not_true, Bool.false_eq_true, if_false]
  cases hx : info.exp with
  | none => simp only [Unexpired, hx] at hu; simp only [hu, if_true]
  | some e => simp only [Unexpired, hx] at hu; simp only [hu, if_false]

theorem specWant_of_rejects (i : Input String Tag) (c : Cause) (h : Rejects i c) : specWant i = .reject c := by
  cases c <;> simp only [Rejects] at h
  case noCredential =>
    simp only [specWant, (specCredential_none _).2 h]
  case invalidToken =>
    obtain ⟨tok, e, hcr, he, h1⟩ := h
    rw [specWant_of_credential i tok hcr, he]; simp only [h1, if_true]
  case oauthError =>
    obtain ⟨tok, e, hcr, he, h1, h2⟩ := h
    rw [specWant_of_credential i tok hcr, he]; simp only [h1, h2, Bool.false_eq_true, if_false, if_true]
  case otherError =>
    obtain ⟨tok, e, hcr, he, h1, h2⟩ := h
    rw [specWant_of_credential i tok hcr, he]; simp only [h1, h2, Bool.false_eq_true, if_false]
  case nilInfo =>
    obtain ⟨tok, hcr, he, hi⟩ := h
    rw [specWant_of_credential i tok hcr, he]; simp only []; rw [hi]
  case scope =>
    obtain ⟨tok, info, hcr, he, hi, s, hs1, hs2⟩ := h
    have hs' : ((eff i.opts).scopes.all fun s => info.scopes.elem s) = false :=
      Bool.eq_false_iff.2 fun hb => hs2 ((scopes_all_iff _ _).1 hb s hs1)
    rw [specWant_of_credential i tok hcr, he]; simp only []; rw [hi]; simp only [hs', Bool.not_false, if_true]
  case missingExp =>
    obtain ⟨tok, info, hcr, he, hi, hs, hx, ha⟩ := h
    have hs' := (scopes_all_iff _ _).2 hs
    rw [specWant_of_credential i tok hcr, he]; simp only []; rw [hi]
    simp only [hs', Bool.not_true, Bool.false_eq_true, if_false, hx, ha]
  case expired =>
    obtain ⟨tok, info, e, hcr, he, hi, hs, hx, hlt⟩ := h
    have hs' := (scopes_all_iff _ _).2 hs
    rw [specWant_of_credential i tok hcr, he]; simp only []; rw [hi]
    simp only [hs', Bool.not_true, Bool.false_eq_true, if_false, hx, hlt, if_true]

/-- The monitor's reading of a request is the request's reading: it has one (`reads_total`), and `specWant` computes
it. -/
theorem specWant_spec (i : Input String Tag) :
    match specWant i with
    | .pass info => AdmitsIn i info
    | .reject c => Rejects i c := by
  rcases reads_total i with ⟨info, h⟩ | ⟨c, h⟩
  · rw [specWant_of_admits i info h]; exact h
  · rw [specWant_of_rejects i c h]; exact h

theorem specWant_pass_iff (i : Input String Tag) (info : Info String Tag) :
    specWant i = .pass info ↔ AdmitsIn i info := by
  refine ⟨fun h => ?_, specWant_of_admits i info⟩
  have := specWant_spec i
  rwa [h] at this

theorem specWant_reject_iff (i : Input String Tag) (c : Cause) : specWant i = .reject c ↔ Rejects i c := by
  refine ⟨fun h => ?_, specWant_of_rejects i c⟩
  have := specWant_spec i
  rwa [h] at this

/-- The challenge decision of the property (`challenge_on_401_403`), as a list of parameters. -/
def dueParams (opts : Option (Opts String)) (code : Nat) : List (Param String) :=
  if code = 401 ∨ code = 403 then
    match opts with
    | none => []
    | some o => (if o.rm = "" then [] else [Param.resourceMetadata o.rm]) ++
                (if o.scopes = [] then [] else [Param.scope o.scopes])
  else []

/-- A request rejected for cause `c` is answered by the model with `c`'s status and, as the
challenge, exactly the due parameters (`serve_error_of_rejects` with `challenge_on_401_403`). -/
theorem serve_of_rejects (i : Input String Tag) (c : Cause) (h : Rejects i c) :
    ∃ msg ch, serve i = .error c.code msg ch ∧
      ch.toList = (if dueParams i.opts c.code = [] then [] else [dueParams i.opts c.code]) := by
  obtain ⟨msg, hs⟩ := serve_error_of_rejects h
  refine ⟨msg, _, hs, ?_⟩
  rw [challenge_on_401_403 i c.code msg _ hs]
  simp only [dueParams]
  by_cases hc : c.code = 401 ∨ c.code = 403
  · simp only [hc, if_true]
    cases i.opts with
    | none => rfl
    | some o => by_cases h1 : o.rm = "" <;> by_cases h2 : o.scopes = [] <;> simp [h1, h2]
  · simp only [hc, if_false]; rfl

theorem kvOf_configured (opts : Option (Opts String)) (code : Nat) (hc : code = 401 ∨ code = 403) :
    (dueParams opts code).map kvOf = configured opts := by
  have hn : paramRM = "resource_metadata" ∧ paramScope = "scope" := challenge_param_names
  simp only [dueParams, hc, if_true, configured]
  cases opts with
  | none => rfl
  | some o => by_cases h1 : o.rm = "" <;> by_cases h2 : o.scopes = [] <;> simp [h1, h2, kvOf, hn.1, hn.2]

theorem challengeClause_accepts (opts : Option (Opts String)) (o : Obs)
    (hw : o.www = (if dueParams opts o.status = [] then [] else [dueParams opts o.status]).map
            fun ps => WVal.chal (ps.map kvOf))
    (hl : o.late = []) : challengeClause opts false o = none := by
  by_cases hc : o.status = 401 ∨ o.status = 403
  · have he : expectParams opts false o.status = (dueParams opts o.status).map kvOf := by
      rw [kvOf_configured opts _ hc]; simp [expectParams, hc]
    by_cases hd : dueParams opts o.status = []
    · simp only [challengeClause, he, hd, hl] at hw ⊢
      simp [hw]
    · have hne : ((dueParams opts o.status).map kvOf).isEmpty = false := by
        cases hq : dueParams opts o.status with
        | nil => exact absurd hq hd
        | cons a t => rfl
      simp only [hd, if_false, List.map_cons, List.map_nil] at hw
      simp only [challengeClause, he, hne, Bool.false_eq_true, if_false, hw, hl, List.isEmpty_nil,
        Bool.not_true, chalOk, beq_self_eq_true, Bool.and_self, if_true]
  · have he : expectParams opts false o.status = [] := by simp [expectParams, hc]
    have hd : dueParams opts o.status = [] := by simp [dueParams, hc]
    simp only [hd, if_true, List.map_nil] at hw
    simp [challengeClause, he, hw, hl]

/-- The identities: whatever the verifier of the `j`-th middleware of the list returns is tagged `L (k+j)`. -/
def Tagged : Nat → List (Layer String Tag) → Prop
  | _, [] => True
  | k, l :: ls => (∀ ctx tok info, (l.verifier ctx tok).info = some info → info.extra = Tag.L k) ∧ Tagged (k + 1) ls

/-- The domain of the bridge: the record's `TokenInfo` values carry their identities. -/
def Req.Tagged (r : Req) : Prop := Bearer.Tagged 0 r.layers

/-- The per-middleware observations of the model (as in `obsOf`). -/
def lobsFrom (hdr : List Char) (ls : List (Layer String Tag)) (ctx : Ctx String Tag) : List LObs :=
  (visits hdr ls ctx).map lobsOfVisit ++ List.replicate (ls.length - (visits hdr ls ctx).length) blankLObs

theorem lobsFrom_cons (hdr : List Char) (l : Layer String Tag) (ls : List (Layer String Tag)) (ctx : Ctx String Tag) :
    lobsFrom hdr (l :: ls) ctx =
      lobsOfVisit { ctxIn := ctx, token := (verify (l.input hdr ctx)).2, resp := serve (l.input hdr ctx) } ::
        (match serve (l.input hdr ctx) with
         | .next info => lobsFrom hdr ls (info :: ctx)
         | .error _ _ _ => List.replicate ls.length blankLObs) := by
  simp only [lobsFrom, visits]
  cases serve (l.input hdr ctx) with
  | next info => simp [withTokenInfo]
  | error c m ch => simp

theorem lobsFrom_length (hdr : List Char) (ls : List (Layer String Tag)) (ctx : Ctx String Tag) :
    (lobsFrom hdr ls ctx).length = ls.length := by
  induction ls generalizing ctx with
  | nil => rfl
  | cons l ls ih =>
    rw [lobsFrom_cons]
    cases serve (l.input hdr ctx) with
    | next info => simp [ih]
    | error c m ch => simp

/-- The response part of an observation is the one the model sends for this outcome. -/
def Answers (o : Obs) : Outcome String Tag → Prop
  | .handler _ => o.www = [] ∧ o.late = []
  | .error code _ ch => o.status = code ∧ o.www = ch.toList.map (fun ps => WVal.chal (ps.map kvOf)) ∧ o.late = []

theorem calledClause_model (hdr : List Char) (l : Layer String Tag) (ctx : Ctx String Tag) (k : Nat) (s : Seen) :
    calledClause hdr k { seen := s, calls := if (verify (l.input hdr ctx)).2.isSome then 1 else 0,
                         token := (verify (l.input hdr ctx)).2 } = none := by
  simp only [calledClause]
  cases hc : specCredential hdr with
  | none =>
    have hn := (specCredential_none _).1 hc
    cases hv : (verify (l.input hdr ctx)).2 with
    | none => simp
    | some t => exact absurd ⟨t, (verifier_called_iff (l.input hdr ctx) t).1 hv⟩ hn
  | some tok =>
    have hv := (verifier_called_iff (l.input hdr ctx) tok).2 ((specCredential_some _ _).1 hc)
    simp [hv]

theorem untouched_blank (ls : List (Layer String Tag)) :
    untouched (ls.zip (List.replicate ls.length blankLObs)) = true := by
  simp only [untouched, List.all_eq_true]
  intro p hp
  have := (List.of_mem_zip hp).2
  rw [List.mem_replicate] at this
  rw [this.2]; rfl

theorem walk_accepts (hdr : List Char) (o : Obs) :
    ∀ (ls : List (Layer String Tag)) (k : Nat) (ctx : Ctx String Tag), Tagged k ls → Answers o (stack hdr ls ctx) →
      walk hdr o k (ls.zip (lobsFrom hdr ls ctx)) ctx = none := by
  intro ls
  induction ls with
  | nil => intro k ctx _ _; rfl
  | cons l ls ih =>
    intro k ctx ht ha
    rw [lobsFrom_cons]
    simp only [List.zip_cons_cons, walk, localClause]
    cases hw : specWant (l.input hdr ctx) with
    | pass inf =>
      have hadm := (specWant_pass_iff _ _).1 hw
      have hs : serve (l.input hdr ctx) = .next inf := (admit_iff _ _).2 hadm
      obtain ⟨tok, hcr, _, hi, _⟩ := hadm
      have htag : inf.extra = Tag.L k := ht.1 ctx tok inf hi
      simp only [stack, hs, withTokenInfo] at ha
      simp only [hs, lobsOfVisit, seenOf, htag]
      have hcall := calledClause_model hdr l ctx k (.found (.L k))
      simp only [reduceCtorEq, if_false, ne_eq, not_true_eq_false, hcall]
      have hrec := ih (k + 1) (inf :: ctx) ht.2 ha
      cases ls with
      | nil =>
        simp only [stack, Answers] at ha
        simp [challengeClause, expectParams, ha.1, ha.2, lobsFrom, visits, walk]
      | cons l' ls' =>
        rw [lobsFrom_cons] at hrec ⊢
        simp only [List.zip_cons_cons, List.isEmpty_cons, Bool.false_eq_true, if_false]
        simpa using hrec
    | reject c =>
      have hrej := (specWant_reject_iff _ _).1 hw
      obtain ⟨msg, ch, hs, hch⟩ := serve_of_rejects _ c hrej
      simp only [stack, hs, Answers] at ha
      obtain ⟨hst, hwww, hlate⟩ := ha
      simp only [hs, lobsOfVisit, seenOf]
      have hcall := calledClause_model hdr l ctx k .notRun
      have hchal : challengeClause l.opts false o = none := by
        apply challengeClause_accepts _ _ _ hlate
        rw [hwww, hch, hst]; rfl
      simp [hst, hchal, hcall, untouched_blank]

theorem obsOf_some (r : Req) : ∃ o, obsOf r = some o ∧ o.layers = lobsFrom r.hdr r.layers r.ctx ∧
    Answers o (stack r.hdr r.layers r.ctx) ∧
    ((∃ c, stack r.hdr r.layers r.ctx = .handler c) → o.ran = 1) ∧
    ((¬ ∃ c, stack r.hdr r.layers r.ctx = .handler c) → o.ran = 0) := by
  simp only [obsOf]
  cases hs : stack r.hdr r.layers r.ctx with
  | handler c => exact ⟨_, rfl, rfl, ⟨rfl, rfl⟩, fun _ => rfl, fun h => absurd ⟨c, rfl⟩ h⟩
  | error code msg ch =>
    cases ch with
    | none =>
      refine ⟨_, rfl, rfl, ⟨rfl, rfl, rfl⟩, ?_, fun _ => rfl⟩
      rintro ⟨_, h⟩; cases h
    | some ps =>
      refine ⟨_, rfl, rfl, ⟨rfl, rfl, rfl⟩, ?_, fun _ => rfl⟩
      rintro ⟨_, h⟩; cases h

theorem lastRan_model (hdr : List Char) :
    ∀ (ls : List (Layer String Tag)) (ctx : Ctx String Tag),
      ((match (lobsFrom hdr ls ctx).getLast? with
        | some ob => ob.seen != .notRun
        | none => true) = true) ↔ ∃ c, stack hdr ls ctx = .handler c := by
  intro ls
  induction ls with
  | nil => intro ctx; simp [lobsFrom, visits, stack]
  | cons l ls ih =>
    intro ctx
    rw [lobsFrom_cons]
    simp only [stack]
    cases hs : serve (l.input hdr ctx) with
    | next info =>
      simp only [withTokenInfo]
      rw [← ih (info :: ctx)]
      cases hl : lobsFrom hdr ls (info :: ctx) with
      | nil =>
        have := lobsFrom_length hdr ls (info :: ctx)
        rw [hl] at this
        have : ls = [] := List.length_eq_zero_iff.1 this.symm
        subst this
        simp [lobsOfVisit, seenOf]
      | cons a t => simp [List.getLast?_cons_cons]
    | error c m ch =>
      simp only [lobsOfVisit, seenOf]
      constructor
      · intro h
        exfalso
        cases ls with
        | nil => simp at h
        | cons a t =>
          simp only [List.length_cons, List.replicate_succ, List.getLast?_cons_cons] at h
          have : (blankLObs :: List.replicate t.length blankLObs).getLast? = some blankLObs := by
            rw [← List.replicate_succ, List.getLast?_replicate]; simp
          rw [this] at h
          simp [blankLObs] at h
      · rintro ⟨c', h⟩; cases h

theorem monitor_accepts_model (r : Req) (ht : r.Tagged) : ∃ o, obsOf r = some o ∧ monitor r o = none := by
  obtain ⟨o, ho, hl, ha, hran1, hran0⟩ := obsOf_some r
  refine ⟨o, ho, ?_⟩
  have hlen : o.layers.length = r.layers.length := by rw [hl, lobsFrom_length]
  have hlast := lastRan_model r.hdr r.layers r.ctx
  rw [← hl] at hlast
  simp only [monitor, hlen, ne_eq, not_true_eq_false, if_false]
  have hcons : ¬ ((o.ran == 1) != lastRan o ∨ (o.ran ≠ 0 ∧ o.ran ≠ 1)) := by
    by_cases hh : ∃ c, stack r.hdr r.layers r.ctx = .handler c
    · have h1 : lastRan o = true := hlast.2 hh
      simp [hran1 hh, h1]
    · have h1 : lastRan o = false := Bool.eq_false_iff.2 fun hb => hh (hlast.1 hb)
      simp [hran0 hh, h1]
  simp only [hcons, if_false]
  rw [hl]
  exact walk_accepts r.hdr o r.layers 0 r.ctx ht ha

theorem layersFrom_tagged : ∀ (ss : List Script) (k : Nat), Tagged k (layersFrom k ss) := by
  intro ss
  induction ss with
  | nil => intro k; trivial
  | cons s ss ih =>
    intro k
    refine ⟨?_, ih (k + 1)⟩
    intro ctx tok info h
    simp only [Script.layer] at h
    cases hi : s.info with
    | none => rw [hi] at h; cases h
    | some p => rw [hi] at h; cases h; rfl

/-- Every request the driver builds from a record is in the domain of `monitor_accepts_model`. -/
theorem ofScript_tagged (hdr : List Char) (ss : List Script) (up : Option (List String × Option Int)) :
    (Req.ofScript hdr ss up).Tagged := layersFrom_tagged ss 0

/-- Without the identities the statement fails: a verifier whose info is tagged like the value already
in the context is reported as `handler_sees_verifier_info` on the model's own observation. -/
theorem monitor_rejects_untagged_model :
    ∃ r o, obsOf r = some o ∧ monitor r o = some (.wrongInfo 0 (.found .up)) :=
  ⟨{ hdr := "Bearer t".toList
     layers := [{ verifier := fun _ _ => { err := none, info := some { scopes := [], exp := none, extra := .up } }
                  opts := some { rm := "", scopes := [], allowMissing := true, skew := 0 }, now := 0 }]
     ctx := [] }, _, rfl, by decide +kernel⟩

/-- `isInfix` finds a name anywhere in the value, so also inside a parameter's value. -/
theorem isInfix_append (a p b : List Char) : isInfix p (a ++ (p ++ b)) = true := by
  induction a with
  | nil =>
    have hp : p.isPrefixOf (p ++ b) = true := List.isPrefixOf_iff_prefix.2 (List.prefix_append p b)
    generalize p ++ b = s at hp ⊢
    cases s with
    | nil => cases p with
      | nil => rfl
      | cons _ _ => cases hp
    | cons x t => simp only [List.nil_append, isInfix, hp, Bool.true_or]
  | cons x a ih => simp only [List.cons_append, isInfix, ih, Bool.or_true]

theorem oldChalOk_eq_false {op : Opts String} {ps : List (List Char)} {w : List Char}
    (h : op.rm = "" ∧ isInfix "resource_metadata".toList w = true ∨
         op.scopes = [] ∧ isInfix "scope=".toList w = true) : oldChalOk op ps w = false := by
  rcases h with ⟨h1, h2⟩ | ⟨h1, h2⟩ <;>
    simp only [oldChalOk, h1, h2, bne_self_eq_false, List.isEmpty_nil, Bool.not_true, Bool.or_self, Bool.and_false,
      Bool.false_and]

/-- A correct 403 challenge for the single required scope `resource_metadata` (no metadata URL
configured) — the value the model and the real middleware send — fails the string-level test `oldChalOk`
(no `resource_metadata` anywhere in the value when no URL is configured), and so does a correct 401
challenge whose metadata URL contains `scope=` when no scope is required.  The typed test accepts both. -/
theorem old_challenge_test_false_alarm :
    oldChalOk { rm := "", scopes := ["resource_metadata"], allowMissing := false, skew := 0 }
        ["scope=\"resource_metadata\"".toList] "Bearer scope=\"resource_metadata\"".toList = false ∧
    chalOk (configured (some { rm := "", scopes := ["resource_metadata"], allowMissing := false, skew := 0 }))
        (.chal [("scope", "resource_metadata")]) = true ∧
    oldChalOk { rm := "https://rs.example/prm?scope=a", scopes := [], allowMissing := false, skew := 0 }
        ["resource_metadata=\"https://rs.example/prm?scope=a\"".toList]
        "Bearer resource_metadata=\"https://rs.example/prm?scope=a\"".toList = false ∧
    chalOk (configured (some { rm := "https://rs.example/prm?scope=a", scopes := [], allowMissing := false, skew := 0 }))
        (.chal [("resource_metadata", "https://rs.example/prm?scope=a")]) = true := by
  refine ⟨oldChalOk_eq_false (.inl ⟨rfl, ?_⟩), by decide +kernel, oldChalOk_eq_false (.inr ⟨rfl, ?_⟩), by decide +kernel⟩
  · rw [show "Bearer scope=\"resource_metadata\"" = "Bearer scope=\"" ++ ("resource_metadata" ++ "\"") from rfl,
      String.toList_append, String.toList_append]
    exact isInfix_append _ _ _
  · rw [show "Bearer resource_metadata=\"https://rs.example/prm?scope=a\"" =
        "Bearer resource_metadata=\"https://rs.example/prm?" ++ ("scope=" ++ "a\"") from rfl,
      String.toList_append, String.toList_append]
    exact isInfix_append _ _ _

example : (Req.ofScript "Bearer t".toList
    [{ err := none, info := some (["a"], none), opts := none, now := 0 }] none).Tagged := ofScript_tagged _ _ _

end Bearer
