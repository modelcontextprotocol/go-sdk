import McpModel.Bearer.Model
/-! Helper lemmas for E10 (the property theorems are in `Props.lean`), and two words of the property's vocabulary: `eff`
(the options in force) and `Unexpired`. -/
namespace Bearer
open Generated.Bearer
variable {σ α : Type} [DecidableEq σ]

theorem credential_some (hdr tok : List Char) :
    credential hdr = some tok ↔
      ∃ sch, fields hdr = [sch, tok] ∧ lowerAscii sch = ['b', 'e', 'a', 'r', 'e', 'r'] := by
  simp only [credential, nFields, show scheme.toList = ['b', 'e', 'a', 'r', 'e', 'r'] by decide]
  generalize ['b', 'e', 'a', 'r', 'e', 'r'] = word, fields hdr = fs
  match fs with
  | [] | [_] | _ :: _ :: _ :: _ => simp
  | [a, b] => by_cases h : lowerAscii a = word <;> simp [h, and_assoc]

theorem credential_none (hdr : List Char) :
    credential hdr = none ↔
      ¬ ∃ sch tok, fields hdr = [sch, tok] ∧ lowerAscii sch = ['b', 'e', 'a', 'r', 'e', 'r'] := by
  constructor
  · intro h ⟨sch, tok, h1, h2⟩
    have := (credential_some hdr tok).2 ⟨sch, h1, h2⟩
    rw [h] at this; cases this
  · intro h
    cases hc : credential hdr with
    | none => rfl
    | some tok =>
      obtain ⟨sch, h1, h2⟩ := (credential_some hdr tok).1 hc
      exact absurd ⟨sch, tok, h1, h2⟩ h

theorem missingScope_false (req gr : List σ) :
    missingScope req gr = false ↔ ∀ s ∈ req, s ∈ gr := by
  simp [missingScope]

theorem missingScope_true (req gr : List σ) :
    missingScope req gr = true ↔ ∃ s ∈ req, s ∉ gr := by
  simp [missingScope]

/-- The `errors.Is` chain, evaluated: invalid-token first, then oauth, then anything else. -/
theorem errStatus_chain (e : VErr) :
    errStatus e errChain = if e.isInvalid then 401 else if e.isOAuth then 400 else 500 := by
  cases h1 : e.isInvalid <;> cases h2 : e.isOAuth <;>
    simp [errStatus, errChain, sentinelHolds, stErrOther, h1, h2]

/-- Nil options mean: no required scopes, strict expiry, zero skew (and no challenge parameters). -/
abbrev eff (o : Option (Opts σ)) : Opts σ := o.getD Opts.zero

theorem scopeRejected_false (o : Option (Opts σ)) (gr : List σ) :
    scopeRejected o gr = false ↔ ∀ s ∈ (eff o).scopes, s ∈ gr := by
  cases o with
  | none => simp [scopeRejected, eff, Opts.zero]
  | some o => simp [scopeRejected, eff, missingScope_false]

theorem scopeRejected_true (o : Option (Opts σ)) (gr : List σ) :
    scopeRejected o gr = true ↔ ∃ s ∈ (eff o).scopes, s ∉ gr := by
  cases o with
  | none => simp [scopeRejected, eff, Opts.zero]
  | some o => simp [scopeRejected, eff, missingScope_true]

/-- The expiry clause of the property: a token without expiration is accepted only when that is
explicitly allowed; a token with one is accepted unless `expiration + skew` is before now. -/
def Unexpired (exp : Option Int) (o : Opts σ) (now : Int) : Prop :=
  match exp with
  | none => o.allowMissing = true
  | some e => ¬ (e + o.skew < now)

omit [DecidableEq σ] in
theorem expiryRejected_none (exp : Option Int) (o : Opts σ) (now : Int) :
    expiryRejected exp o now = none ↔ Unexpired exp o now := by
  cases exp with
  | none => cases h : o.allowMissing <;> simp [expiryRejected, Unexpired, missingRejected, h]
  | some e =>
    by_cases h : e + o.skew < now <;> simp [expiryRejected, Unexpired, expired, h]

omit [DecidableEq σ] in
theorem expiryRejected_missing (o : Opts σ) (now : Int) (h : o.allowMissing = false) :
    expiryRejected none o now = some (msgMissingExp, 401) := by
  simp [expiryRejected, missingRejected, h, stMissingExp]

omit [DecidableEq σ] in
theorem expiryRejected_expired (e : Int) (o : Opts σ) (now : Int) (h : e + o.skew < now) :
    expiryRejected (some e) o now = some (msgExpired, 401) := by
  simp [expiryRejected, expired, h, stExpired]

theorem expired_iff (e skew now : Int) : expired e skew now = true ↔ e + skew < now := by
  simp [expired]

theorem missingRejected_iff (allow : Bool) : missingRejected allow = true ↔ allow = false := by
  cases allow <;> simp [missingRejected]

end Bearer
