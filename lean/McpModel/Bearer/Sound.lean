import McpModel.Base.Logic
import McpModel.Bearer.Bridge
/-!
# Clause soundness and completeness of the C14 monitor (E10)

For every clause the monitor can report (`Clause`) the corresponding clause of the property is stated
as a predicate `P_…` on the record alone — the request (`Req`: `Authorization` value, the stacked
middlewares with their scripted verifiers and options, the incoming context) and what the
IMPLEMENTATION did (`Obs`) — written from the property text with `Credential`, `Layer.Admits` (the
right-hand side of `admit_iff`), `Rejects` (the first failing cause, `status_by_cause`), `Admitted`
(every enclosing middleware admits) and, from Monitor.lean, `configured` (the challenge parameters of the options) and
`valuesOf`; not with `monitor`, `walk` or `localClause`, nor `verify`/`serve`/`stack`.

Vocabulary: `At r o k l c ob` — middleware number `k` (0 = outermost) is `l`, the harness observed
`ob` of it, and the request reaches it with context `c`, every enclosing middleware having admitted it.
`Seen.found (.L k)` is the harness's report "the very value the verifier of middleware `k` returned,
contents unchanged" (pointer identity + deep comparison with a snapshot; trusted).
-/
namespace Bearer

/-- Each middleware with what the harness observed of it. -/
def pairs (r : Req) (o : Obs) : List (Layer String Tag × LObs) := r.layers.zip o.layers

/-- Middleware `k` is `l`, observed as `ob`, and the request reaches it with context `c` (head comment). -/
def At (r : Req) (o : Obs) (k : Nat) (l : Layer String Tag) (c : Ctx String Tag) (ob : LObs) : Prop :=
  (pairs r o)[k]? = some (l, ob) ∧ Admitted r.hdr (((pairs r o).take k).map (·.1)) r.ctx c

/-- The observation has one entry per middleware. -/
def P_wellformed (r : Req) (o : Obs) : Prop := o.layers.length = r.layers.length

/-- "A handler … runs if and only if": the final handler — the one behind the innermost middleware —
ran once if it recorded a run, and not at all otherwise. -/
def P_final_handler_once (_ : Req) (o : Obs) : Prop :=
  (∀ ob, o.layers.getLast? = some ob → ob.seen ≠ .notRun → o.ran = 1) ∧
  (∀ ob, o.layers.getLast? = some ob → ob.seen = .notRun → o.ran = 0) ∧
  (o.layers = [] → o.ran = 1)

/-- admit_iff, "if": a middleware that the request reaches and whose conditions all hold runs its handler. -/
def P_admit_if (r : Req) (o : Obs) : Prop :=
  ∀ k l c ob info, At r o k l c ob → l.Admits r.hdr c info → ob.seen ≠ .notRun

/-- admit_iff, "only if": a handler runs only behind a middleware whose conditions all hold. -/
def P_admit_only_if (r : Req) (o : Obs) : Prop :=
  ∀ k l c ob, At r o k l c ob → ob.seen ≠ .notRun → ∃ info, l.Admits r.hdr c info

/-- admit_iff: behind a middleware that rejects the request nothing is reached — no verifier
is consulted, no handler runs. -/
def P_nothing_behind_rejection (r : Req) (o : Obs) : Prop :=
  ∀ k l c ob, At r o k l c ob → (¬ ∃ info, l.Admits r.hdr c info) →
    ∀ j p, k < j → (pairs r o)[j]? = some p → p.2.calls = 0 ∧ p.2.seen = .notRun

/-- handler_sees_verifier_info: the handler behind an admitting middleware finds in the request
context the very info that middleware's verifier returned, unchanged. -/
def P_handler_sees_verifier_info (r : Req) (o : Obs) : Prop :=
  ∀ k l c ob info, At r o k l c ob → l.Admits r.hdr c info → ob.seen ≠ .notRun → ob.seen = .found (.L k)

/-- status_by_cause: a request rejected by a middleware is answered with the status of the first
failing cause. -/
def P_status_by_cause (r : Req) (o : Obs) : Prop :=
  ∀ k l c ob cause, At r o k l c ob → Rejects (l.input r.hdr c) cause → o.status = cause.code

/-- verifier_called_iff: a middleware the request reaches consults its verifier exactly once, with the
credential's token, if the credential is well-formed, and not at all otherwise. -/
def P_verifier_called_iff (r : Req) (o : Obs) : Prop :=
  ∀ k l c ob, At r o k l c ob →
    (∀ tok, Credential r.hdr tok → ob.calls = 1 ∧ ob.token = some tok) ∧
    ((¬ ∃ tok, Credential r.hdr tok) → ob.calls = 0)

/-- The parameters the response's challenge is due with: the request is rejected by a middleware
and answered 401 or 403 — the parameters configured in that middleware's options; rejected and
answered otherwise, or admitted by every middleware (the final handler answers) — none. -/
def Due (r : Req) (o : Obs) (ps : List (String × String)) : Prop :=
  (∃ k l c ob, At r o k l c ob ∧ (¬ ∃ info, l.Admits r.hdr c info) ∧
    ps = if o.status = 401 ∨ o.status = 403 then configured l.opts else []) ∨
  (∃ k l c ob, At r o k l c ob ∧ (∃ info, l.Admits r.hdr c info) ∧ k + 1 = (pairs r o).length ∧ ps = [])

/-- The value is a Bearer challenge carrying under `resource_metadata` and under `scope` exactly what `ps` has. -/
def Carries (ps : List (String × String)) (w : WVal) : Prop :=
  ∃ qs, w = .chal qs ∧ valuesOf "resource_metadata" qs = valuesOf "resource_metadata" ps ∧
    valuesOf "scope" qs = valuesOf "scope" ps

/-- challenge_on_401_403: when parameters are due, the response AS SENT has exactly one
`WWW-Authenticate` value, and it carries exactly them. -/
def P_challenge_sent (r : Req) (o : Obs) : Prop :=
  ∀ ps, Due r o ps → ps ≠ [] → ∃ w, o.www = [w] ∧ Carries ps w

/-- challenge_on_401_403: when none are due (400/500, nil options, nothing configured, admitted), the
response as sent has no `WWW-Authenticate` value. -/
def P_no_undue_challenge (r : Req) (o : Obs) : Prop :=
  ∀ ps, Due r o ps → ps = [] → o.www = []

/-- challenge_on_401_403, on the response as sent: the middleware puts nothing into the header map
after the response was written. -/
def P_nothing_added_late (r : Req) (o : Obs) : Prop :=
  ∀ ps, Due r o ps → o.late = []

/-- The predicate a clause refutes. -/
def P_of : Clause → Req → Obs → Prop
  | .malformed => P_wellformed
  | .ranInconsistent _ => P_final_handler_once
  | .notRun _ _ => P_admit_if
  | .ranDespite _ _ => P_admit_only_if
  | .behindReached _ => P_nothing_behind_rejection
  | .wrongInfo _ _ => P_handler_sees_verifier_info
  | .wrongStatus _ _ _ => P_status_by_cause
  | .calledWithout _ => P_verifier_called_iff
  | .notCalledOnce _ => P_verifier_called_iff
  | .chalUnexpected _ => P_no_undue_challenge
  | .chalUnexpectedLate _ => P_nothing_added_late
  | .chalFurtherLate _ => P_nothing_added_late
  | .chalWrong => P_challenge_sent
  | .chalCount _ _ => P_challenge_sent
  | .chalLateOnly _ => P_challenge_sent

theorem admits_unique {l : Layer String Tag} {hdr : List Char} {c : Ctx String Tag} {i1 i2 : Info String Tag}
    (h1 : l.Admits hdr c i1) (h2 : l.Admits hdr c i2) : i1 = i2 := by
  obtain ⟨t1, hc1, _, hi1, _⟩ := h1
  obtain ⟨t2, hc2, _, hi2, _⟩ := h2
  have := Credential.unique hc1 hc2; subst this
  rw [hi1] at hi2; cases hi2; rfl

theorem specWant_cases (l : Layer String Tag) (hdr : List Char) (c : Ctx String Tag) :
    (∃ info, specWant (l.input hdr c) = .pass info ∧ l.Admits hdr c info) ∨
    (∃ cause, specWant (l.input hdr c) = .reject cause ∧ Rejects (l.input hdr c) cause ∧
      ¬ ∃ info, l.Admits hdr c info) := by
  cases h : specWant (l.input hdr c) with
  | pass info => exact .inl ⟨info, rfl, (specWant_pass_iff _ _).1 h⟩
  | reject cause =>
    refine .inr ⟨cause, rfl, (specWant_reject_iff _ _).1 h, ?_⟩
    rintro ⟨info, ha⟩
    rw [(specWant_pass_iff (l.input hdr c) info).2 ha] at h; cases h

theorem rejects_not_admits {l : Layer String Tag} {hdr : List Char} {c : Ctx String Tag} {cause : Cause}
    (h : Rejects (l.input hdr c) cause) : ¬ ∃ info, l.Admits hdr c info := by
  rintro ⟨info, ha⟩
  have h1 := (specWant_reject_iff _ _).2 h
  rw [(specWant_pass_iff (l.input hdr c) info).2 ha] at h1; cases h1

theorem rejects_unique {i : Input String Tag} {c1 c2 : Cause} (h1 : Rejects i c1) (h2 : Rejects i c2) : c1 = c2 := by
  have a := (specWant_reject_iff _ _).2 h1
  rw [(specWant_reject_iff _ _).2 h2] at a; cases a; rfl

theorem walk_some (hdr : List Char) (o : Obs) (cl : Clause) :
    ∀ (rest : List (Layer String Tag × LObs)) (k : Nat) (ctx : Ctx String Tag),
      walk hdr o k rest ctx = some cl →
      ∃ j l ob c, rest[j]? = some (l, ob) ∧ Admitted hdr ((rest.take j).map (·.1)) ctx c ∧
        localClause hdr o (k + j) l ob (rest.drop (j + 1)) c = some cl := by
  intro rest
  induction rest with
  | nil => intro k ctx h; cases h
  | cons p rest ih =>
    obtain ⟨l, ob⟩ := p
    intro k ctx h
    simp only [walk] at h
    rcases Option.alt_eq_some.1 h with h1 | ⟨_, h2⟩
    · exact ⟨0, l, ob, ctx, rfl, .nil _, h1⟩
    · rcases specWant_cases l hdr ctx with ⟨info, hw, ha⟩ | ⟨cause, hw, _, _⟩
      · rw [hw] at h2
        obtain ⟨j, l', ob', c, hj, hadm, hloc⟩ := ih (k + 1) (info :: ctx) h2
        refine ⟨j + 1, l', ob', c, hj, ?_, ?_⟩
        · exact .cons info ha hadm
        · rw [show k + (j + 1) = k + 1 + j by omega]; exact hloc
      · rw [hw] at h2; cases h2

theorem walk_none (hdr : List Char) (o : Obs) :
    ∀ (rest : List (Layer String Tag × LObs)) (k : Nat) (ctx : Ctx String Tag),
      walk hdr o k rest ctx = none →
      ∀ j l ob c, rest[j]? = some (l, ob) → Admitted hdr ((rest.take j).map (·.1)) ctx c →
        localClause hdr o (k + j) l ob (rest.drop (j + 1)) c = none := by
  intro rest
  induction rest with
  | nil => intro k ctx _ j l ob c hj; cases hj
  | cons p rest ih =>
    obtain ⟨l0, ob0⟩ := p
    intro k ctx h j l ob c hj hadm
    simp only [walk] at h
    obtain ⟨h1, h2⟩ := Option.alt_eq_none.1 h
    cases j with
    | zero =>
      simp only [List.getElem?_cons_zero, Option.some.injEq, Prod.mk.injEq] at hj
      obtain ⟨rfl, rfl⟩ := hj
      cases hadm
      exact h1
    | succ j =>
      simp only [List.getElem?_cons_succ] at hj
      simp only [List.take_succ_cons, List.map_cons] at hadm
      cases hadm with
      | cons info ha hr =>
        have hw := (specWant_pass_iff _ _).2 ((Layer.admits_input l0 hdr ctx info).2 ha)
        rw [hw] at h2
        have := ih (k + 1) (info :: ctx) h2 j l ob c hj hr
        rw [show k + (j + 1) = k + 1 + j by omega]
        simpa using this

theorem pairs_length {r : Req} {o : Obs} (h : o.layers.length = r.layers.length) :
    (pairs r o).length = r.layers.length := by
  simp [pairs, h]

theorem monitor_none {r : Req} {o : Obs} (h : monitor r o = none) :
    o.layers.length = r.layers.length ∧ ¬ ((o.ran == 1) != lastRan o ∨ (o.ran ≠ 0 ∧ o.ran ≠ 1)) ∧
    ∀ k l ob c, At r o k l c ob → localClause r.hdr o k l ob ((pairs r o).drop (k + 1)) c = none := by
  simp only [monitor] at h
  split at h
  · cases h
  · rename_i hlen
    split at h
    · cases h
    · rename_i hran
      refine ⟨by simpa using hlen, hran, ?_⟩
      intro k l ob c ⟨hk, hadm⟩
      have := walk_none r.hdr o _ 0 r.ctx h k l ob c hk hadm
      rwa [Nat.zero_add] at this

theorem chalOk_iff (ps : List (String × String)) (w : WVal) : chalOk ps w = true ↔ Carries ps w := by
  cases w with
  | chal qs =>
    simp only [chalOk, Bool.and_eq_true, beq_iff_eq, Carries]
    constructor
    · rintro ⟨h1, h2⟩; exact ⟨qs, rfl, h1, h2⟩
    · rintro ⟨qs', h, h1, h2⟩; cases h; exact ⟨h1, h2⟩
  | raw s =>
    simp only [chalOk, Carries, Bool.false_eq_true, false_iff]
    rintro ⟨qs, h, _⟩; cases h

theorem challengeClause_spec (opts : Option (Opts String)) (adm : Bool) (o : Obs) :
    match challengeClause opts adm o with
    | some cl =>
      (cl = .chalUnexpected o.status ∧ expectParams opts adm o.status = [] ∧ o.www ≠ []) ∨
      (cl = .chalUnexpectedLate o.status ∧ o.late ≠ []) ∨
      (cl = .chalFurtherLate o.status ∧ o.late ≠ []) ∨
      (cl = .chalWrong ∧ expectParams opts adm o.status ≠ [] ∧
        ∃ w, o.www = [w] ∧ chalOk (expectParams opts adm o.status) w = false) ∨
      (cl = .chalCount o.status o.www.length ∧ expectParams opts adm o.status ≠ [] ∧ o.www.length ≠ 1) ∨
      (cl = .chalLateOnly o.status ∧ expectParams opts adm o.status ≠ [] ∧ o.www = [])
    | none =>
      o.late = [] ∧ (expectParams opts adm o.status = [] → o.www = []) ∧
      (expectParams opts adm o.status ≠ [] → ∃ w, o.www = [w] ∧ Carries (expectParams opts adm o.status) w) := by
  generalize h : challengeClause opts adm o = res
  unfold challengeClause at h
  generalize expectParams opts adm o.status = E at h ⊢
  cases hw : o.www with
  | nil =>
    rw [hw] at h
    cases hl : o.late with
    | nil =>
      rw [hl] at h
      cases E with
      | nil => cases h; exact ⟨rfl, fun _ => rfl, fun hne => absurd rfl hne⟩
      | cons e E => cases h; exact .inr (.inr (.inr (.inr (.inl ⟨rfl, nofun, nofun⟩))))
    | cons x t =>
      rw [hl] at h
      cases E with
      | nil => cases h; exact .inr (.inl ⟨rfl, nofun⟩)
      | cons e E => cases h; exact .inr (.inr (.inr (.inr (.inr ⟨rfl, nofun, rfl⟩))))
  | cons w t =>
    rw [hw] at h
    cases E with
    | nil => cases h; exact .inl ⟨rfl, rfl, nofun⟩
    | cons e E =>
      cases t with
      | cons w2 t2 => cases h; exact .inr (.inr (.inr (.inr (.inl ⟨rfl, nofun, nofun⟩))))
      | nil =>
        cases hl : o.late with
        | cons x t => rw [hl] at h; cases h; exact .inr (.inr (.inl ⟨rfl, nofun⟩))
        | nil =>
          rw [hl] at h
          change (if chalOk (e :: E) w = true then none else some Clause.chalWrong) = res at h
          cases hok : chalOk (e :: E) w with
          | true => rw [hok] at h; cases h; exact ⟨rfl, nofun, fun _ => ⟨w, rfl, (chalOk_iff _ _).1 hok⟩⟩
          | false => rw [hok] at h; cases h; exact .inr (.inr (.inr (.inl ⟨rfl, nofun, w, rfl, hok⟩)))

/-- What the challenge group reports at a middleware: the challenge clause, evaluated for the
admitting innermost middleware or for a rejecting one. -/
def ChalFires (r : Req) (o : Obs) (l : Layer String Tag) (c : Ctx String Tag)
    (rest : List (Layer String Tag × LObs)) (cl : Clause) : Prop :=
  ∃ adm, challengeClause l.opts adm o = some cl ∧
    ((adm = true ∧ (∃ info, l.Admits r.hdr c info) ∧ rest = []) ∨ (adm = false ∧ ¬ ∃ info, l.Admits r.hdr c info))

/-- What it takes for a clause to be reported at middleware `k`. -/
def Fires (r : Req) (o : Obs) (k : Nat) (l : Layer String Tag) (c : Ctx String Tag) (ob : LObs)
    (rest : List (Layer String Tag × LObs)) : Clause → Prop
  | .malformed => False
  | .ranInconsistent _ => False
  | .notRun k' st => k' = k ∧ st = o.status ∧ (∃ info, l.Admits r.hdr c info) ∧ ob.seen = .notRun
  | .wrongInfo k' s => k' = k ∧ s = ob.seen ∧ (∃ info, l.Admits r.hdr c info) ∧ ob.seen ≠ .notRun ∧
      ob.seen ≠ .found (.L k)
  | .ranDespite k' cause => k' = k ∧ Rejects (l.input r.hdr c) cause ∧ ob.seen ≠ .notRun
  | .wrongStatus k' cause st => k' = k ∧ st = o.status ∧ Rejects (l.input r.hdr c) cause ∧ o.status ≠ cause.code
  | .behindReached k' => k' = k ∧ (¬ ∃ info, l.Admits r.hdr c info) ∧ untouched rest = false
  | .calledWithout k' => k' = k ∧ (¬ ∃ tok, Credential r.hdr tok) ∧ ob.calls ≠ 0
  | .notCalledOnce k' => k' = k ∧ ∃ tok, Credential r.hdr tok ∧ ¬ (ob.calls = 1 ∧ ob.token = some tok)
  | .chalUnexpected st => ChalFires r o l c rest (.chalUnexpected st)
  | .chalUnexpectedLate st => ChalFires r o l c rest (.chalUnexpectedLate st)
  | .chalFurtherLate st => ChalFires r o l c rest (.chalFurtherLate st)
  | .chalWrong => ChalFires r o l c rest .chalWrong
  | .chalCount st n => ChalFires r o l c rest (.chalCount st n)
  | .chalLateOnly st => ChalFires r o l c rest (.chalLateOnly st)

theorem fires_of_challengeClause {r : Req} {o : Obs} {k : Nat} {l : Layer String Tag} {c : Ctx String Tag} {ob : LObs}
    {rest : List (Layer String Tag × LObs)} {cl : Clause} {adm : Bool} (h : challengeClause l.opts adm o = some cl)
    (hd : (adm = true ∧ (∃ info, l.Admits r.hdr c info) ∧ rest = []) ∨ (adm = false ∧ ¬ ∃ info, l.Admits r.hdr c info)) :
    Fires r o k l c ob rest cl := by
  have hs := challengeClause_spec l.opts adm o
  rw [h] at hs
  rcases hs with ⟨rfl, _⟩ | ⟨rfl, _⟩ | ⟨rfl, _⟩ | ⟨rfl, _⟩ | ⟨rfl, _⟩ | ⟨rfl, _⟩ <;> exact ⟨adm, h, hd⟩

theorem fires_of_called {r : Req} {o : Obs} {k : Nat} {l : Layer String Tag} {c : Ctx String Tag} {ob : LObs}
    {rest : List (Layer String Tag × LObs)} {cl : Clause} (h : calledClause r.hdr k ob = some cl) :
    Fires r o k l c ob rest cl := by
  simp only [calledClause] at h
  cases hc : specCredential r.hdr with
  | none =>
    rw [hc] at h; simp only [] at h
    split at h
    · cases h
    · cases h; exact ⟨rfl, (specCredential_none _).1 hc, by assumption⟩
  | some tok =>
    rw [hc] at h; simp only [] at h
    split at h
    · cases h
    · cases h; exact ⟨rfl, tok, (specCredential_some _ _).1 hc, by assumption⟩

/-- What the silence of the local checks at middleware `k` means (the counterpart of `Fires`). -/
abbrev Passes (r : Req) (o : Obs) (k : Nat) (l : Layer String Tag) (c : Ctx String Tag) (ob : LObs)
    (rest : List (Layer String Tag × LObs)) : Prop :=
  calledClause r.hdr k ob = none ∧
  ((∃ info, l.Admits r.hdr c info) →
    ob.seen = .found (.L k) ∧ (rest = [] → challengeClause l.opts true o = none)) ∧
  ((¬ ∃ info, l.Admits r.hdr c info) →
    ob.seen = .notRun ∧ (∀ cause, Rejects (l.input r.hdr c) cause → o.status = cause.code) ∧
    challengeClause l.opts false o = none ∧ untouched rest = true)

theorem localClause_spec (r : Req) (o : Obs) (k : Nat) (l : Layer String Tag) (c : Ctx String Tag) (ob : LObs)
    (rest : List (Layer String Tag × LObs)) :
    match localClause r.hdr o k l ob rest c with
    | some cl => Fires r o k l c ob rest cl
    | none => Passes r o k l c ob rest := by
  rcases specWant_cases l r.hdr c with ⟨info, hw, ha⟩ | ⟨cause, hw, hrej, hna⟩
  · simp only [localClause, hw]
    by_cases hs1 : ob.seen = .notRun
    · rw [if_pos hs1]; exact ⟨rfl, rfl, ⟨info, ha⟩, hs1⟩
    rw [if_neg hs1]
    by_cases hs : ob.seen ≠ .found (.L k)
    · rw [if_pos hs]; exact ⟨rfl, rfl, ⟨info, ha⟩, hs1, hs⟩
    rw [if_neg hs]
    by_cases hemp : rest.isEmpty = true
    · rw [if_pos hemp]
      cases h1 : challengeClause l.opts true o with
      | some cl => exact fires_of_challengeClause h1 (.inl ⟨rfl, ⟨info, ha⟩, List.isEmpty_iff.1 hemp⟩)
      | none =>
        cases h2 : calledClause r.hdr k ob with
        | some cl => exact fires_of_called h2
        | none => exact ⟨h2, fun _ => ⟨Classical.not_not.1 hs, fun _ => h1⟩, fun hna => absurd ⟨info, ha⟩ hna⟩
    · rw [if_neg hemp]
      cases h2 : calledClause r.hdr k ob with
      | some cl => exact fires_of_called h2
      | none =>
        exact ⟨h2, fun _ => ⟨Classical.not_not.1 hs, fun hr => absurd (hr ▸ rfl) hemp⟩, fun hna => absurd ⟨info, ha⟩ hna⟩
  · simp only [localClause, hw]
    by_cases hs : ob.seen ≠ .notRun
    · rw [if_pos hs]; exact ⟨rfl, hrej, hs⟩
    rw [if_neg hs]
    by_cases hst : o.status = cause.code
    · rw [if_pos hst]
      cases h3 : challengeClause l.opts false o with
      | some cl => exact fires_of_challengeClause h3 (.inr ⟨rfl, hna⟩)
      | none =>
        cases h5 : calledClause r.hdr k ob with
        | some cl => exact fires_of_called h5
        | none =>
          by_cases hu : untouched rest = true
          · rw [if_pos hu]
            exact ⟨h5, fun ha => absurd ha hna,
              fun _ => ⟨Classical.not_not.1 hs, fun _ hr => rejects_unique hr hrej ▸ hst, h3, hu⟩⟩
          · rw [if_neg hu]; exact ⟨rfl, hna, Bool.eq_false_iff.2 hu⟩
    · rw [if_neg hst]; exact ⟨rfl, rfl, hrej, hst⟩

theorem monitor_fires {r : Req} {o : Obs} {cl : Clause} (h : monitor r o = some cl) :
    (cl = .malformed ∧ o.layers.length ≠ r.layers.length) ∨
    (cl = .ranInconsistent o.ran ∧ ((o.ran == 1) != lastRan o ∨ (o.ran ≠ 0 ∧ o.ran ≠ 1))) ∨
    (∃ k l ob c, At r o k l c ob ∧ Fires r o k l c ob ((pairs r o).drop (k + 1)) cl) := by
  simp only [monitor] at h
  split at h
  · cases h; exact .inl ⟨rfl, by assumption⟩
  · split at h
    · cases h; exact .inr (.inl ⟨rfl, by assumption⟩)
    · obtain ⟨j, l, ob, c, hj, hadm, hloc⟩ := walk_some r.hdr o cl _ 0 r.ctx h
      rw [Nat.zero_add] at hloc
      have := localClause_spec r o j l c ob ((pairs r o).drop (j + 1))
      unfold pairs at this
      rw [hloc] at this
      exact .inr (.inr ⟨j, l, ob, c, ⟨hj, hadm⟩, this⟩)

theorem untouched_drop_iff (ps : List (Layer String Tag × LObs)) (k : Nat) :
    untouched (ps.drop (k + 1)) = true ↔
      ∀ j p, k < j → ps[j]? = some p → p.2.calls = 0 ∧ p.2.seen = .notRun := by
  simp only [untouched, List.all_eq_true, Bool.and_eq_true, beq_iff_eq]
  constructor
  · intro h j p hj hp
    apply h p
    apply List.mem_iff_getElem?.2
    exact ⟨j - (k + 1), by rw [List.getElem?_drop, show k + 1 + (j - (k + 1)) = j by omega]; exact hp⟩
  · intro h p hp
    obtain ⟨i, hi⟩ := List.mem_iff_getElem?.1 hp
    rw [List.getElem?_drop] at hi
    exact h (k + 1 + i) p (by omega) hi

/-- The deciding middleware of the response's challenge, as the monitor finds it, is the property's (`Due`). -/
theorem chal_sound {r : Req} {o : Obs} {k : Nat} {l : Layer String Tag} {ob : LObs} {c : Ctx String Tag}
    {cl : Clause} (hat : At r o k l c ob) (h : ChalFires r o l c ((pairs r o).drop (k + 1)) cl) : ¬ P_of cl r o := by
  obtain ⟨adm, hcc, hadm⟩ := h
  have hd : Due r o (expectParams l.opts adm o.status) := by
    rcases hadm with ⟨rfl, hadm, hemp⟩ | ⟨rfl, hna⟩
    · refine .inr ⟨k, l, c, ob, hat, hadm, ?_, by simp [expectParams]⟩
      have hlen : ((pairs r o).drop (k + 1)).length = 0 := by rw [hemp]; rfl
      rw [List.length_drop] at hlen
      have hk : k < (pairs r o).length := (List.getElem?_eq_some_iff.1 hat.1).1
      omega
    · exact .inl ⟨k, l, c, ob, hat, hna, by simp [expectParams]⟩
  have hs := challengeClause_spec l.opts adm o
  rw [hcc] at hs
  rcases hs with ⟨rfl, he, hw⟩ | ⟨rfl, hl⟩ | ⟨rfl, hl⟩ | ⟨rfl, hne, w, hw, hok⟩ |
    ⟨rfl, hne, hlen⟩ | ⟨rfl, hne, hw⟩ <;> intro hP
  · exact hw (hP _ hd he)
  · exact hl (hP _ hd)
  · exact hl (hP _ hd)
  · obtain ⟨w', hw', hcar⟩ := hP _ hd hne
    rw [hw] at hw'; cases hw'
    rw [(chalOk_iff _ _).2 hcar] at hok; cases hok
  · obtain ⟨w', hw', _⟩ := hP _ hd hne
    rw [hw'] at hlen; exact hlen rfl
  · obtain ⟨w', hw', _⟩ := hP _ hd hne
    rw [hw] at hw'; cases hw'

theorem final_handler_once_iff (r : Req) (o : Obs) :
    P_final_handler_once r o ↔ ¬ ((o.ran == 1) != lastRan o ∨ (o.ran ≠ 0 ∧ o.ran ≠ 1)) := by
  unfold P_final_handler_once lastRan
  cases hl : o.layers.getLast? with
  | none =>
    simp [List.getLast?_eq_none_iff.1 hl]
    omega
  | some ob =>
    have : o.layers ≠ [] := fun h => by rw [h] at hl; cases hl
    by_cases hs : ob.seen = .notRun
    · simp [hs, this]; omega
    · simp [hs, this, show (ob.seen != .notRun) = true by simpa using hs]; omega

theorem monitor_sound (r : Req) (o : Obs) (cl : Clause) (h : monitor r o = some cl) : ¬ P_of cl r o := by
  rcases monitor_fires h with ⟨rfl, hl⟩ | ⟨rfl, hcond⟩ | ⟨k, l, ob, c, hat, hf⟩
  · exact hl
  · exact fun hP => (final_handler_once_iff r o).1 hP hcond
  · cases cl with
    | malformed | ranInconsistent _ => exact hf.elim
    | notRun _ _ =>
      obtain ⟨_, _, ⟨info, ha⟩, hs⟩ := hf
      exact fun hP => hP k l c ob info hat ha hs
    | ranDespite _ cause =>
      obtain ⟨_, hrej, hs⟩ := hf
      exact fun hP => rejects_not_admits hrej (hP k l c ob hat hs)
    | behindReached _ =>
      obtain ⟨_, hna, hu⟩ := hf
      exact fun hP => Bool.false_ne_true (hu.symm.trans ((untouched_drop_iff _ k).2 (hP k l c ob hat hna)))
    | wrongInfo _ _ =>
      obtain ⟨_, _, ⟨info, ha⟩, hs, hne⟩ := hf
      exact fun hP => hne (hP k l c ob info hat ha hs)
    | wrongStatus _ cause _ =>
      obtain ⟨_, _, hrej, hne⟩ := hf
      exact fun hP => hne (hP k l c ob cause hat hrej)
    | calledWithout _ =>
      obtain ⟨_, hnc, hne⟩ := hf
      exact fun hP => hne ((hP k l c ob hat).2 hnc)
    | notCalledOnce _ =>
      obtain ⟨_, tok, hcr, hne⟩ := hf
      exact fun hP => hne ((hP k l c ob hat).1 tok hcr)
    | chalUnexpected _ | chalUnexpectedLate _ | chalFurtherLate _ | chalWrong | chalCount _ _ | chalLateOnly _ =>
      exact chal_sound hat hf

theorem sound_malformed (r : Req) (o : Obs) (h : monitor r o = some .malformed) : ¬ P_wellformed r o :=
  monitor_sound r o _ h

theorem sound_ranInconsistent (r : Req) (o : Obs) (n : Nat) (h : monitor r o = some (.ranInconsistent n)) :
    ¬ P_final_handler_once r o :=
  monitor_sound r o _ h

theorem sound_notRun (r : Req) (o : Obs) (k st : Nat) (h : monitor r o = some (.notRun k st)) :
    ¬ P_admit_if r o :=
  monitor_sound r o _ h

theorem sound_ranDespite (r : Req) (o : Obs) (k : Nat) (cause : Cause) (h : monitor r o = some (.ranDespite k cause)) :
    ¬ P_admit_only_if r o :=
  monitor_sound r o _ h

theorem sound_behindReached (r : Req) (o : Obs) (k : Nat) (h : monitor r o = some (.behindReached k)) :
    ¬ P_nothing_behind_rejection r o :=
  monitor_sound r o _ h

theorem sound_wrongInfo (r : Req) (o : Obs) (k : Nat) (s : Seen) (h : monitor r o = some (.wrongInfo k s)) :
    ¬ P_handler_sees_verifier_info r o :=
  monitor_sound r o _ h

theorem sound_wrongStatus (r : Req) (o : Obs) (k : Nat) (cause : Cause) (st : Nat)
    (h : monitor r o = some (.wrongStatus k cause st)) : ¬ P_status_by_cause r o :=
  monitor_sound r o _ h

theorem sound_calledWithout (r : Req) (o : Obs) (k : Nat) (h : monitor r o = some (.calledWithout k)) :
    ¬ P_verifier_called_iff r o :=
  monitor_sound r o _ h

theorem sound_notCalledOnce (r : Req) (o : Obs) (k : Nat) (h : monitor r o = some (.notCalledOnce k)) :
    ¬ P_verifier_called_iff r o :=
  monitor_sound r o _ h

theorem sound_chalUnexpected (r : Req) (o : Obs) (st : Nat) (h : monitor r o = some (.chalUnexpected st)) :
    ¬ P_no_undue_challenge r o :=
  monitor_sound r o _ h

theorem sound_chalUnexpectedLate (r : Req) (o : Obs) (st : Nat) (h : monitor r o = some (.chalUnexpectedLate st)) :
    ¬ P_nothing_added_late r o :=
  monitor_sound r o _ h

theorem sound_chalFurtherLate (r : Req) (o : Obs) (st : Nat) (h : monitor r o = some (.chalFurtherLate st)) :
    ¬ P_nothing_added_late r o :=
  monitor_sound r o _ h

theorem sound_chalWrong (r : Req) (o : Obs) (h : monitor r o = some .chalWrong) : ¬ P_challenge_sent r o :=
  monitor_sound r o _ h

theorem sound_chalCount (r : Req) (o : Obs) (st n : Nat) (h : monitor r o = some (.chalCount st n)) :
    ¬ P_challenge_sent r o :=
  monitor_sound r o _ h

theorem sound_chalLateOnly (r : Req) (o : Obs) (st : Nat) (h : monitor r o = some (.chalLateOnly st)) :
    ¬ P_challenge_sent r o :=
  monitor_sound r o _ h

theorem monitor_complete (r : Req) (o : Obs) (h : monitor r o = none) (cl : Clause) : P_of cl r o := by
  obtain ⟨hlen, hran, hloc⟩ := monitor_none h
  have loc : ∀ {k l c ob}, At r o k l c ob → Passes r o k l c ob ((pairs r o).drop (k + 1)) := by
    intro k l c ob hat
    have := localClause_spec r o k l c ob ((pairs r o).drop (k + 1))
    rwa [hloc k l ob c hat] at this
  have hwf : P_wellformed r o := hlen
  have hfin := (final_handler_once_iff r o).2 hran
  have hif : P_admit_if r o := by
    intro k l c ob info hat ha
    have := ((loc hat).2.1 ⟨info, ha⟩).1
    rw [this]; intro hx; cases hx
  have honly : P_admit_only_if r o := fun k l c ob hat hs =>
    Classical.byContradiction fun hna => hs ((loc hat).2.2 hna).1
  have hbehind : P_nothing_behind_rejection r o := fun k l c ob hat hna =>
    (untouched_drop_iff _ k).1 ((loc hat).2.2 hna).2.2.2
  have hsees : P_handler_sees_verifier_info r o := fun k l c ob info hat ha _ => ((loc hat).2.1 ⟨info, ha⟩).1
  have hstatus : P_status_by_cause r o := fun k l c ob cause hat hrej =>
    ((loc hat).2.2 (rejects_not_admits hrej)).2.1 cause hrej
  have hcalled : P_verifier_called_iff r o := by
    intro k l c ob hat
    have hc := (loc hat).1
    simp only [calledClause] at hc
    constructor
    · intro tok hcr
      rw [(specCredential_some _ _).2 hcr] at hc
      exact Classical.byContradiction fun hn => by simp only [if_neg hn] at hc; cases hc
    · intro hn
      rw [(specCredential_none _).2 hn] at hc
      exact Classical.byContradiction fun hn => by simp only [if_neg hn] at hc; cases hc
  -- the challenge clause evaluated at the deciding middleware
  have hdue : ∀ ps, Due r o ps → ∃ opts adm, challengeClause opts adm o = none ∧ ps = expectParams opts adm o.status := by
    intro ps hd
    rcases hd with ⟨k, l, c, ob, hat, hna, hps⟩ | ⟨k, l, c, ob, hat, hadm, hk, hps⟩
    · exact ⟨l.opts, false, ((loc hat).2.2 hna).2.2.1, by rw [hps]; simp [expectParams]⟩
    · have hemp : (pairs r o).drop (k + 1) = [] := by
        apply List.eq_nil_of_length_eq_zero; rw [List.length_drop]; omega
      exact ⟨l.opts, true, ((loc hat).2.1 hadm).2 hemp, by rw [hps]; simp [expectParams]⟩
  have hN : ∀ ps, Due r o ps →
      o.late = [] ∧ (ps = [] → o.www = []) ∧ (ps ≠ [] → ∃ w, o.www = [w] ∧ Carries ps w) := by
    intro ps hd
    obtain ⟨opts, adm, hcc, rfl⟩ := hdue ps hd
    have := challengeClause_spec opts adm o
    rwa [hcc] at this
  have hsent : P_challenge_sent r o := fun ps hd hne => (hN ps hd).2.2 hne
  have hundue : P_no_undue_challenge r o := fun ps hd he => (hN ps hd).2.1 he
  have hlate : P_nothing_added_late r o := fun ps hd => (hN ps hd).1
  cases cl <;> assumption

/-- The predicates are satisfiable: the observation the model produces for any tagged request
satisfies every one of them. -/
theorem model_satisfies_P (r : Req) (ht : r.Tagged) : ∃ o, obsOf r = some o ∧ ∀ cl, P_of cl r o := by
  obtain ⟨o, ho, hm⟩ := monitor_accepts_model r ht
  exact ⟨o, ho, monitor_complete r o hm⟩

/-! ## Non-vacuity: every clause can be reported -/

section witnesses

private def sc (info : Option (List String × Option Int)) (opts : Option (Opts String)) : Script :=
  { err := none, info := info, opts := opts, now := 10 }
private def op1 : Opts String := { rm := "https://rs/meta", scopes := ["read"], allowMissing := false, skew := 0 }
private def rOk : Req := Req.ofScript "Bearer t".toList [sc (some (["read"], some 20)) (some op1)] none
private def rExpired : Req := Req.ofScript "Bearer t".toList [sc (some (["read"], some 5)) (some op1)] none
private def rNoCred : Req := Req.ofScript "Basic t".toList [sc (some (["read"], some 20)) (some op1)] none
private def r2 : Req :=
  Req.ofScript "Bearer t".toList [sc (some (["read"], some 5)) (some op1), sc (some (["read"], some 20)) none] none
private def lo (s : Seen) (n : Nat) (t : Option String) : LObs := { seen := s, calls := n, token := t.map (·.toList) }
private def okObs : Obs :=
  { status := 299, ran := 1, layers := [lo (.found (.L 0)) 1 (some "t")], www := [], late := [], body := "inner" }
private def due1 : WVal := .chal [("resource_metadata", "https://rs/meta"), ("scope", "read")]
private def rejObs : Obs :=
  { status := 401, ran := 0, layers := [lo .notRun 1 (some "t")], www := [due1], late := [], body := "token expired\n" }

example : monitor rOk okObs = none := by decide +kernel
example : monitor rExpired rejObs = none := by decide +kernel
example : monitor rOk { okObs with layers := [] } = some .malformed := by decide +kernel
example : monitor rOk { okObs with ran := 2 } = some (.ranInconsistent 2) := by decide +kernel
example : monitor rOk { rejObs with www := [] } = some (.notRun 0 401) := by decide +kernel
example : monitor rExpired okObs = some (.ranDespite 0 .expired) := by decide +kernel
example : monitor r2 { rejObs with layers := [lo .notRun 1 (some "t"), lo .notRun 1 (some "t")] } =
    some (.behindReached 0) := by decide +kernel
example : monitor rOk { okObs with layers := [lo (.found .up) 1 (some "t")] } = some (.wrongInfo 0 (.found .up)) := by
  decide +kernel
example : monitor rExpired { rejObs with status := 403 } = some (.wrongStatus 0 .expired 403) := by decide +kernel
example : monitor rNoCred { rejObs with layers := [lo .notRun 1 (some "t")] } = some (.calledWithout 0) := by decide +kernel
example : monitor rOk { okObs with layers := [lo (.found (.L 0)) 2 (some "t")] } = some (.notCalledOnce 0) := by decide +kernel
example : monitor rOk { okObs with www := [due1] } = some (.chalUnexpected 299) := by decide +kernel
example : monitor rOk { okObs with late := [due1] } = some (.chalUnexpectedLate 299) := by decide +kernel
example : monitor rExpired { rejObs with late := [due1] } = some (.chalFurtherLate 401) := by decide +kernel
example : monitor rExpired { rejObs with www := [.chal [("scope", "read")]] } = some .chalWrong := by decide +kernel
example : monitor rExpired { rejObs with www := [.raw "Basic"] } = some .chalWrong := by decide +kernel
example : monitor rExpired { rejObs with www := [due1, due1] } = some (.chalCount 401 2) := by decide +kernel
example : monitor rExpired { rejObs with www := [] } = some (.chalCount 401 0) := by decide +kernel
example : monitor rExpired { rejObs with www := [], late := [due1] } = some (.chalLateOnly 401) := by decide +kernel
/-- further parameters are not the property's business -/
example : monitor rExpired { rejObs with www := [.chal [("error", "invalid_token"), ("resource_metadata", "https://rs/meta"),
    ("scope", "read")]] } = none := by decide +kernel

end witnesses

end Bearer
