import McpModel.Bearer.Model
/-!
E10 — the typed core of the C14 monitor.

The driver (Driver.lean) parses a `req` record into a `Req` (the `Authorization` value, the stacked
middlewares with their scripted verifiers, the incoming request context) and the implementation's
observation into an `Obs` (status, run count of the final handler, per middleware what the handler
behind it found in the request context / verifier calls / token, the `WWW-Authenticate` values of the
response as sent and those put into the header map too late, each parsed into its auth-params), calls
`monitor`, and renders the `Clause` it returns (`Clause.text`).  Everything that decides WHICH clause of C14 is violated lives here, on
typed data, so that Bridge.lean (no alarm on any behaviour of the model) and Sound.lean (a clause
fires only if the property clause fails on the observation) can reason about it.

The monitor is the property itself, written with literal statuses and names; it reads
`Bearer.fields`/`lowerAscii` (the modelled `strings.Fields`/`strings.ToLower`) and the scripted
verifier, never `Bearer.verify`/`serve` or the regenerated constants.  Core Lean only.
-/
namespace Bearer

/-! ### Identities of `TokenInfo` values -/

/-- The identity of a `TokenInfo` value in a harness case: the one the verifier of middleware `k`
(0 = outermost) returns, or the one that was already in the incoming request's context. -/
inductive Tag
  | L (k : Nat)
  | up
deriving DecidableEq, Repr

/-- What the handler directly behind a middleware found in the request context (`TokenInfoFromContext`). -/
inductive Seen
  /-- `-`: that handler did not run -/
  | notRun
  /-- `L<j>` / `up`: the very value with that identity, contents unchanged -/
  | found (t : Tag)
  /-- `nil`: no TokenInfo -/
  | nil
  /-- `changed<j>` / `changedup`: the value with that identity, contents altered -/
  | changed (which : String)
  /-- anything else -/
  | other (s : String)
deriving DecidableEq, Repr

/-- What the harness saw of one middleware. -/
structure LObs where
  seen : Seen
  /-- verifier calls -/
  calls : Nat
  /-- token of the last verifier call -/
  token : Option (List Char)
deriving DecidableEq, Repr

/-- One `WWW-Authenticate` value: a `Bearer` challenge with its auth-params (name, unquoted value),
or something that does not read as one. -/
inductive WVal
  | chal (params : List (String × String))
  | raw (s : String)
deriving DecidableEq, Repr

/-- The implementation's observation of one request. -/
structure Obs where
  status : Nat
  /-- how often the final handler ran -/
  ran : Nat
  /-- per middleware, outermost first -/
  layers : List LObs
  /-- `WWW-Authenticate` values of the response AS SENT -/
  www : List WVal
  /-- values found in the writer's header map afterwards that were not sent -/
  late : List WVal
  body : String
deriving DecidableEq, Repr

/-! ### The request of one record -/

structure Req where
  hdr : List Char
  /-- outermost first -/
  layers : List (Layer String Tag)
  /-- the incoming request context -/
  ctx : Ctx String Tag

/-- One scripted middleware as the record carries it. -/
structure Script where
  err : Option VErr
  /-- granted scopes and expiration of the info the verifier returns (`none`: nil info) -/
  info : Option (List String × Option Int)
  opts : Option (Opts String)
  now : Int

/-- The `k`-th middleware of a case: its verifier returns the scripted outcome whatever the context
and the token; the info carries the identity `L k`. -/
def Script.layer (k : Nat) (s : Script) : Layer String Tag :=
  { verifier := fun _ _ => { err := s.err, info := s.info.map fun p => { scopes := p.1, exp := p.2, extra := Tag.L k } }
    opts := s.opts, now := s.now }

def layersFrom : Nat → List Script → List (Layer String Tag)
  | _, [] => []
  | k, s :: ss => s.layer k :: layersFrom (k + 1) ss

/-- The request of a record: scripted middlewares, and optionally a `TokenInfo` already in the context. -/
def Req.ofScript (hdr : List Char) (ss : List Script) (up : Option (List String × Option Int)) : Req :=
  { hdr := hdr, layers := layersFrom 0 ss
    ctx := match up with
      | some p => [{ scopes := p.1, exp := p.2, extra := Tag.up }]
      | none => [] }

/-! ### The property's verdict -/

/-- Why a request is not admitted. -/
inductive Cause
  | noCredential | invalidToken | oauthError | otherError | nilInfo | scope | missingExp | expired
deriving DecidableEq, Repr

/-- The status the property mandates for a cause. -/
def Cause.code : Cause → Nat
  | .noCredential => 401
  | .invalidToken => 401
  | .oauthError => 400
  | .otherError => 500
  | .nilInfo => 500
  | .scope => 403
  | .missingExp => 401
  | .expired => 401

inductive Want where
  | pass (info : Info String Tag)
  | reject (cause : Cause)

/-- The property's credential clause, literally. -/
def specCredential (hdr : List Char) : Option (List Char) :=
  match fields hdr with
  | [sch, tok] => if lowerAscii sch == "bearer".toList then some tok else none
  | _ => none

/-- The property's verdict: admitted (with the verifier's info) iff everything checks out, otherwise
the first failing cause. -/
def specWant (i : Input String Tag) : Want :=
  match specCredential i.header with
  | none => .reject .noCredential
  | some tok =>
    let r := i.verifier tok
    match r.err with
    | some e =>
      if e.isInvalid then .reject .invalidToken
      else if e.isOAuth then .reject .oauthError
      else .reject .otherError
    | none =>
      match r.info with
      | none => .reject .nilInfo
      | some inf =>
        let o : Opts String := match i.opts with
          | some o => o
          | none => { rm := "", scopes := [], allowMissing := false, skew := 0 }
        if !(o.scopes.all fun s => inf.scopes.elem s) then .reject .scope
        else match inf.exp with
          | none => if o.allowMissing then .pass inf else .reject .missingExp
          | some e => if e + o.skew < i.now then .reject .expired else .pass inf

/-! ### Clauses -/

inductive Clause
  /-- the observation does not have one entry per middleware -/
  | malformed
  /-- admit_iff: the final handler's run count contradicts what it recorded -/
  | ranInconsistent (ran : Nat)
  /-- admit_iff: handler did not run although everything checks out -/
  | notRun (k st : Nat)
  /-- admit_iff: handler ran despite a failing cause -/
  | ranDespite (k : Nat) (cause : Cause)
  /-- admit_iff: a middleware behind the rejecting one was reached -/
  | behindReached (k : Nat)
  /-- handler_sees_verifier_info -/
  | wrongInfo (k : Nat) (seen : Seen)
  /-- status_by_cause -/
  | wrongStatus (k : Nat) (cause : Cause) (st : Nat)
  /-- verifier_called_iff: consulted without a well-formed credential -/
  | calledWithout (k : Nat)
  /-- verifier_called_iff: not consulted exactly once with the credential's token -/
  | notCalledOnce (k : Nat)
  /-- challenge_on_401_403: a challenge where none is due -/
  | chalUnexpected (st : Nat)
  /-- challenge_on_401_403: a value put into the header map too late where none is due -/
  | chalUnexpectedLate (st : Nat)
  /-- challenge_on_401_403: a further value added after the response was written -/
  | chalFurtherLate (st : Nat)
  /-- challenge_on_401_403: not exactly the configured parameters -/
  | chalWrong
  /-- challenge_on_401_403: `n ≠ 1` values -/
  | chalCount (st n : Nat)
  /-- challenge_on_401_403: the challenge was only added after the response had been written -/
  | chalLateOnly (st : Nat)
deriving DecidableEq, Repr

/-! ### The challenge clause -/

/-- The parameters configured in the options (nil options configure nothing). -/
def configured : Option (Opts String) → List (String × String)
  | none => []
  | some op =>
    (if op.rm ≠ "" then [("resource_metadata", op.rm)] else []) ++
    (if op.scopes ≠ [] then [("scope", " ".intercalate op.scopes)] else [])

/-- The parameters a challenge is due with: on a rejection answered 401 or 403, the configured ones. -/
def expectParams (opts : Option (Opts String)) (admitted : Bool) (st : Nat) : List (String × String) :=
  if !admitted ∧ (st = 401 ∨ st = 403) then configured opts else []

/-- The values carried under an auth-param name. -/
def valuesOf (key : String) (ps : List (String × String)) : List String :=
  (ps.filter fun p => p.1 == key).map (·.2)

/-- The value is a Bearer challenge carrying, under `resource_metadata` and under `scope`, exactly
what `expect` has (further parameters are not the property's business). -/
def chalOk (expect : List (String × String)) : WVal → Bool
  | .chal ps =>
    valuesOf "resource_metadata" ps == valuesOf "resource_metadata" expect &&
    valuesOf "scope" ps == valuesOf "scope" expect
  | .raw _ => false

/-- The challenge clause, on the `WWW-Authenticate` values of the response AS SENT (`www`) and those
found in the writer's header map afterwards that were not sent (`late`). -/
def challengeClause (opts : Option (Opts String)) (admitted : Bool) (o : Obs) : Option Clause :=
  if (expectParams opts admitted o.status).isEmpty then
    if !o.www.isEmpty then some (.chalUnexpected o.status)
    else if !o.late.isEmpty then some (.chalUnexpectedLate o.status)
    else none
  else
    match o.www with
    | [w] =>
      if !o.late.isEmpty then some (.chalFurtherLate o.status)
      else if chalOk (expectParams opts admitted o.status) w then none
      else some .chalWrong
    | [] => if o.late.isEmpty then some (.chalCount o.status 0) else some (.chalLateOnly o.status)
    | _ => some (.chalCount o.status o.www.length)

/-! ### The walk, middleware by middleware -/

/-- verifier_called_iff for one middleware the request reaches. -/
def calledClause (hdr : List Char) (k : Nat) (ob : LObs) : Option Clause :=
  match specCredential hdr with
  | none => if ob.calls = 0 then none else some (.calledWithout k)
  | some tok => if ob.calls = 1 ∧ ob.token = some tok then none else some (.notCalledOnce k)

/-- No middleware behind a rejecting one is reached: no verifier call, no handler run. -/
def untouched (rest : List (Layer String Tag × LObs)) : Bool :=
  rest.all fun p => p.2.calls == 0 && p.2.seen == .notRun

/-- The property at one middleware the request reaches: `k` its index, `ob` its observation, `rest`
the middlewares behind it with theirs, `ctx` the context of the request entering it. -/
def localClause (hdr : List Char) (o : Obs) (k : Nat) (l : Layer String Tag) (ob : LObs)
    (rest : List (Layer String Tag × LObs)) (ctx : Ctx String Tag) : Option Clause :=
  match specWant (l.input hdr ctx) with
  | .pass _ =>
    if ob.seen = .notRun then some (.notRun k o.status)
    else if ob.seen ≠ .found (.L k) then some (.wrongInfo k ob.seen)
    else (if rest.isEmpty then challengeClause l.opts true o else none) <|> calledClause hdr k ob
  | .reject cause =>
    (if ob.seen ≠ .notRun then some (.ranDespite k cause)
     else if o.status = cause.code then none
     else some (.wrongStatus k cause o.status)) <|>
    challengeClause l.opts false o <|> calledClause hdr k ob <|>
    (if untouched rest then none else some (.behindReached k))

/-- The property, middleware by middleware (outermost first): the first clause violated at a
middleware the request reaches.  Behind an admitting middleware the request carries the verifier's
info on top of its context; behind a rejecting one nothing is reached. -/
def walk (hdr : List Char) (o : Obs) : Nat → List (Layer String Tag × LObs) → Ctx String Tag → Option Clause
  | _, [], _ => none
  | k, (l, ob) :: rest, ctx =>
    localClause hdr o k l ob rest ctx <|>
      match specWant (l.input hdr ctx) with
      | .pass inf => walk hdr o (k + 1) rest (inf :: ctx)
      | .reject _ => none

/-- Did the handler behind the innermost middleware (the final handler) record a run?  Without a middleware the
request goes straight to it: it always runs. -/
def lastRan (o : Obs) : Bool :=
  match o.layers.getLast? with
  | some ob => ob.seen != .notRun
  | none => true

/-- **The C14 monitor of one request.** -/
def monitor (r : Req) (o : Obs) : Option Clause :=
  if o.layers.length ≠ r.layers.length then some .malformed
  else if (o.ran == 1) != lastRan o ∨ (o.ran ≠ 0 ∧ o.ran ≠ 1) then some (.ranInconsistent o.ran)
  else walk r.hdr o 0 (r.layers.zip o.layers) r.ctx

/-! ### A string-level challenge check.  The driver does not run it; `old_challenge_test_false_alarm` (Bridge.lean) shows what it
gets wrong, which is why `monitor` reads the challenge into auth-params. -/

def isInfix (p s : List Char) : Bool :=
  match s with
  | [] => p.isEmpty
  | _ :: t => p.isPrefixOf s || isInfix p t

/-- A test of the one sent value `w` on the string level (rendered parameters `ps` expected): prefix, every expected parameter an infix, and no `resource_metadata` / `scope=` anywhere
in the value when that parameter is not configured. -/
def oldChalOk (op : Opts String) (ps : List (List Char)) (w : List Char) : Bool :=
  "Bearer ".toList.isPrefixOf w && ps.all (fun p => isInfix p w) &&
  (op.rm != "" || !isInfix "resource_metadata".toList w) &&
  (!op.scopes.isEmpty || !isInfix "scope=".toList w)

/-! ### The model's observation -/

def seenOf : Response String Tag → Seen
  | .next info => .found info.extra
  | .error _ _ _ => .notRun

def lobsOfVisit (v : Visit String Tag) : LObs :=
  { seen := seenOf v.resp, calls := if v.token.isSome then 1 else 0, token := v.token }

def blankLObs : LObs := { seen := .notRun, calls := 0, token := none }

/-- An auth-param of the challenge as name and value (the names are regenerated). -/
def kvOf : Param String → String × String
  | .resourceMetadata u => (Generated.Bearer.paramRM, u)
  | .scope ss => (Generated.Bearer.paramScope, " ".intercalate ss)

/-- What the monitor would be given if the implementation behaved exactly like the model: the
middlewares reached (`visits`), and the response as sent (`sentBy`, not the header map).  `none`:
the model writes nothing (never the case, Bridge.lean).  Status 299 and body `inner` are what the harness's recording
handler writes (go/harness/auth/zz_verif_bearer_test.go). -/
def obsOf (r : Req) : Option Obs :=
  let vs := visits r.hdr r.layers r.ctx
  let lobs := vs.map lobsOfVisit ++ List.replicate (r.layers.length - vs.length) blankLObs
  match stack r.hdr r.layers r.ctx with
  | .handler _ => some { status := 299, ran := 1, layers := lobs, www := [], late := [], body := "inner" }
  | .error code msg ch =>
    (sentBy (rejectCalls code msg ch)).map fun sent =>
      { status := sent.status, ran := 0, layers := lobs
        www := sent.challenges.map fun ps => WVal.chal (ps.map kvOf)
        late := [], body := sent.body }

end Bearer
