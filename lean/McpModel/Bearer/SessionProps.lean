import McpModel.Bearer.Sound
/-!
E10 — theorems about the middleware VALUE over its life (C14; model: Session.lean): over all histories (`Sess.*`), with several
values side by side (`World.*`) and over all schedules of requests in flight (`Pool.*`), the answer to a request is
`Bearer.serve` on that request alone under the value's options; then the bridge to the driver's session monitor.
-/
namespace Bearer
open Generated.Bearer

variable {σ α : Type} [DecidableEq σ]

/-- The state after any history: the options are the ones the value was made with, the wrappers are
extended by the applications, in order; requests leave no trace. -/
theorem Sess.run_state (s : Sess σ) (evs : List (Ev σ α)) :
    (s.run evs).1 = { opts := s.opts, wrappers := s.wrappers ++ wrapsOf evs } := by
  induction evs generalizing s with
  | nil => simp [Sess.run, wrapsOf]
  | cons e es ih =>
    cases e with
    | wrap j => simp [Sess.run, Sess.step, ih, wrapsOf]
    | req w i => simp [Sess.run, Sess.step, ih, wrapsOf]

/-- A run that threads a state through `step` and collects the outputs (any `run` with these defining equations;
`Sess.run` and `World.run` have them by `rfl`; Base's `Run` has no outputs): the output at an event is the step's on the
state its prefix leaves. -/
theorem run_at {S E O : Type} {step : S → E → S × O} {run : S → List E → S × List O}
    (nil : ∀ s, run s [] = (s, []))
    (cons : ∀ s e es, run s (e :: es) = ((run (step s e).1 es).1, (step s e).2 :: (run (step s e).1 es).2))
    (e : E) (post : List E) : ∀ (pre : List E) (s : S),
      (run s (pre ++ e :: post)).2[pre.length]? = some (step (run s pre).1 e).2
  | [], s => by rw [List.nil_append, cons, nil]; rfl
  | x :: pre, s => by
    rw [List.cons_append, cons, cons]
    exact run_at nil cons e post pre _

/-- In any history `pre ++ [request through w] ++ post`, the answer to
that request is what a middleware value with the same options and only the applications of `pre`
gives to it: the requests of `pre` (any number, any outcomes) and everything in `post` are irrelevant. -/
theorem Sess.history_independent (s : Sess σ) (pre post : List (Ev σ α)) (w : Nat) (i : Input σ α) :
    (s.run (pre ++ Ev.req w i :: post)).2[pre.length]? =
      some (Sess.serveVia { opts := s.opts, wrappers := s.wrappers ++ wrapsOf pre } w i) := by
  rw [run_at (step := Sess.step) (fun _ => rfl) (fun _ _ _ => rfl), Sess.run_state]; rfl

/-- A wrapper keeps the handler it was made for, whatever happens to the middleware value afterwards
(further applications included). -/
theorem Sess.wrapper_keeps_handler (s : Sess σ) (evs : List (Ev σ α)) (w j : Nat)
    (h : s.wrappers[w]? = some j) : (s.run evs).1.wrappers[w]? = some j := by
  rw [Sess.run_state]
  have hw : w < s.wrappers.length := (List.getElem?_eq_some_iff.1 h).1
  simp only []
  rw [List.getElem?_append_left hw]; exact h

theorem Sess.ran_iff (s : Sess σ) (w j : Nat) (i : Input σ α) (info : Info σ α) :
    s.serveVia w i = .ran j info ↔ s.wrappers[w]? = some j ∧ serve (s.input i) = .next info := by
  unfold Sess.serveVia
  cases hw : s.wrappers[w]? with
  | none => simp
  | some j' =>
    cases hs : serve (s.input i) with
    | next info' => simp
    | error c m ch => simp

/-- admit_iff for a wrapped handler, over the life of the middleware value.  Handler `j` runs for
a request through wrapper `w` — with `info` in the request context — if and only if `w` was made for
`j` and the request's own credential, verifier outcome, scopes and expiry check out under the value's
options. -/
theorem Sess.handler_runs_iff (s : Sess σ) (w j : Nat) (i : Input σ α) (info : Info σ α) :
    s.serveVia w i = .ran j info ↔
      s.wrappers[w]? = some j ∧
      ∃ tok, Credential i.header tok ∧
        (i.verifier tok).err = none ∧ (i.verifier tok).info = some info ∧
        (∀ sc ∈ (eff s.opts).scopes, sc ∈ info.scopes) ∧
        Unexpired info.exp (eff s.opts) i.now := by
  rw [Sess.ran_iff, admit_iff]
  rfl

/-- A request never runs a handler other than its wrapper's. -/
theorem Sess.no_stray_handler (s : Sess σ) (w j j' : Nat) (i : Input σ α) (info : Info σ α)
    (hw : s.wrappers[w]? = some j) (h : s.serveVia w i = .ran j' info) : j' = j := by
  have := ((Sess.ran_iff s w j' i info).1 h).1
  rw [hw] at this; cases this; rfl

theorem World.run_state (wd : World σ) (evs : List (WEv σ α)) :
    (wd.run evs).1 = { vals := wd.vals ++ makesOf evs, wrappers := wd.wrappers ++ wrapsOfW evs } := by
  induction evs generalizing wd with
  | nil => simp [World.run, makesOf, wrapsOfW]
  | cons e es ih =>
    cases e with
    | make o => simp [World.run, World.step, ih, makesOf, wrapsOfW]
    | wrap v j => simp [World.run, World.step, ih, makesOf, wrapsOfW]
    | req w i => simp [World.run, World.step, ih, makesOf, wrapsOfW]

/-- History independence with several values: the requests that went before — through this value or
any other — leave no trace; only the makes and applications count, each by appending. -/
theorem World.history_independent (wd : World σ) (pre post : List (WEv σ α)) (w : Nat) (i : Input σ α) :
    (wd.run (pre ++ WEv.req w i :: post)).2[pre.length]? =
      some (World.serveVia { vals := wd.vals ++ makesOf pre, wrappers := wd.wrappers ++ wrapsOfW pre } w i) := by
  rw [run_at (step := World.step) (fun _ => rfl) (fun _ _ _ => rfl), World.run_state]; rfl

/-- Values do not see each other.  A wrapper made from value `v` (options `o`) for handler `j`
answers every request — after any further history of makes, applications and requests through any
value — exactly as the one-value model of `v` alone does: `serve` under `o`, handler `j`. -/
theorem World.value_independent (wd : World σ) (evs : List (WEv σ α)) (w v j : Nat) (o : Option (Opts σ))
    (hw : wd.wrappers[w]? = some (v, j)) (hv : wd.vals[v]? = some o) (i : Input σ α) :
    (wd.run evs).1.serveVia w i = Sess.serveVia { opts := o, wrappers := [j] } 0 i := by
  rw [World.run_state]
  have hw' : w < wd.wrappers.length := (List.getElem?_eq_some_iff.1 hw).1
  have hv' : v < wd.vals.length := (List.getElem?_eq_some_iff.1 hv).1
  simp only [World.serveVia]
  rw [List.getElem?_append_left hw', hw]
  simp only []
  rw [List.getElem?_append_left hv', hv]

/-- The two atomic sections of the closure, one after the other, are `Bearer.serve`. -/
theorem advance_twice (i : Input σ α) : advanceN i 2 .idle = .done (serve i) := by
  simp only [advanceN, advance]
  cases hc : credential i.header with
  | none => rw [serve_of_no_credential hc]
  | some tok => rw [serve_of_credential hc]

theorem advanceN_done (i : Input σ α) (n : Nat) (r : Response σ α) : advanceN i n (.done r) = .done r := by
  induction n with
  | zero => rfl
  | succ n ih => simp [advanceN, advance, ih]

theorem advanceN_add (i : Input σ α) (m n : Nat) (p : Phase σ α) :
    advanceN i (m + n) p = advanceN i n (advanceN i m p) := by
  induction m generalizing p with
  | zero => simp [advanceN]
  | succ m ih => rw [Nat.succ_add]; simp [advanceN, ih]

theorem advanceN_ge_two (i : Input σ α) (n : Nat) (h : 2 ≤ n) : advanceN i n .idle = .done (serve i) := by
  obtain ⟨k, rfl⟩ : ∃ k, n = 2 + k := ⟨n - 2, by omega⟩
  rw [advanceN_add, advance_twice, advanceN_done]

/-- Frame: after any schedule, the phase of request `q` is what its own sections — as many as the
schedule gave it — make of its own phase.  The sections of other requests do not touch it. -/
theorem Pool.run_eq (reqs : Nat → Input σ α) (p : Pool σ α) (sched : List Nat) (q : Nat) :
    Pool.run reqs p sched q = advanceN (reqs q) (sched.count q) (p q) := by
  induction sched generalizing p with
  | nil => simp [Pool.run, advanceN]
  | cons x xs ih =>
    rw [Pool.run, ih]
    by_cases hx : x = q
    · subst hx
      simp [Pool.step, List.count_cons_self, advanceN]
    · have : (x :: xs).count q = xs.count q := by
        rw [List.count_cons_of_ne]; exact hx
      rw [this]
      have hq : ¬ q = x := fun h => hx h.symm
      simp [Pool.step, hq]

/-- For any number of requests in flight through one middleware
value and ANY schedule of their atomic sections, every request that got to run its two sections is
answered exactly as `Bearer.serve` answers it alone (its own credential, its own verifier outcome, its
own `time.Now()`): requests that overlap inside the verifier — with equal tokens or not — do not
influence each other. -/
theorem Pool.interleaving_independent (reqs : Nat → Input σ α) (sched : List Nat) (q : Nat)
    (h : 2 ≤ sched.count q) :
    Pool.run reqs (fun _ => .idle) sched q = .done (serve (reqs q)) := by
  rw [Pool.run_eq]; exact advanceN_ge_two _ _ h

/-- admit_iff under concurrency.  Whatever else is in flight and however the sections are
scheduled, a request that has run its sections ended in its handler — with `info` in the request
context — if and only if its OWN credential, verifier outcome, scopes and expiry check out. -/
theorem Pool.admit_iff (reqs : Nat → Input σ α) (sched : List Nat) (q : Nat) (h : 2 ≤ sched.count q)
    (info : Info σ α) :
    Pool.run reqs (fun _ => .idle) sched q = .done (.next info) ↔
      ∃ tok, Credential (reqs q).header tok ∧
        ((reqs q).verifier tok).err = none ∧ ((reqs q).verifier tok).info = some info ∧
        (∀ sc ∈ (eff (reqs q).opts).scopes, sc ∈ info.scopes) ∧
        Unexpired info.exp (eff (reqs q).opts) (reqs q).now := by
  rw [Pool.interleaving_independent reqs sched q h, ← Bearer.admit_iff]
  constructor
  · intro h'; injection h'
  · intro h'; rw [h']

/-- The verifier is entered by a request only with the token of that request's own credential. -/
theorem Pool.in_verifier_own_token (reqs : Nat → Input σ α) (sched : List Nat) (q : Nat) (tok : List Char)
    (h : Pool.run reqs (fun _ => .idle) sched q = .inVerifier tok) : credential (reqs q).header = some tok := by
  rw [Pool.run_eq] at h
  generalize sched.count q = n at h
  match n with
  | 0 => simp [advanceN] at h
  | 1 =>
    simp only [advanceN, advance] at h
    cases hc : credential (reqs q).header with
    | none => simp [hc] at h
    | some t => simp [hc] at h; rw [h]
  | k + 2 =>
    rw [advanceN_ge_two _ _ (by omega)] at h; cases h

/-- Non-vacuity: two requests entering the verifier one after the other and leaving in the other order. -/
example (reqs : Nat → Input σ α) :
    Pool.run reqs (fun _ => .idle) [0, 1, 1, 0] 0 = .done (serve (reqs 0)) ∧
    Pool.run reqs (fun _ => .idle) [0, 1, 1, 0] 1 = .done (serve (reqs 1)) :=
  ⟨Pool.interleaving_independent reqs _ 0 (by decide), Pool.interleaving_independent reqs _ 1 (by decide)⟩

theorem firstStray_runsOf_from (made n : Nat) : ∀ (k lo : Nat),
    firstStray made lo ((List.range' lo k).map fun j => if j = made then n else 0) = none := by
  intro k
  induction k with
  | zero => intro lo; simp [firstStray]
  | succ k ih =>
    intro lo
    simp only [List.range'_succ, List.map_cons, firstStray]
    by_cases h : lo = made
    · simp [h, ih]
    · simp [h, ih]

theorem firstStray_runsOf (nh made n : Nat) : firstStray made 0 (runsOf nh made n) = none := by
  unfold runsOf
  rw [List.range_eq_range']
  exact firstStray_runsOf_from made n nh 0

theorem runsOf_length (nh made n : Nat) : (runsOf nh made n).length = nh := by simp [runsOf]

theorem runsOf_made (nh made n : Nat) (h : made < nh) : (runsOf nh made n)[made]? = some n := by
  simp [runsOf, h]

theorem ofSession_tagged (opts : Option (Opts String)) (hdr : List Char) (s : Script) :
    (Req.ofSession opts hdr s).Tagged := ofScript_tagged _ _ _

/-- The request of a `sreq` record, as the session model's event sees it. -/
def Script.sessInput (sc : Script) (hdr : List Char) : Input String Tag := (sc.layer 0).input hdr []

/-- What the driver renders for a `sreq` record is the session model's answer: for a request
through wrapper `w` (made for handler `made`) of the value `s`, the observation `sessObsOf` derives
says "handler ran" exactly when `Sess.serveVia` runs handler `made`, and then only `made`'s count is
1; otherwise `serveVia` answers with an error whose status is the observation's. -/
theorem sessObsOf_serveVia (s : Sess String) (nh w made : Nat) (hdr : List Char) (sc : Script)
    (hw : s.wrappers[w]? = some made) (o : SObs)
    (ho : sessObsOf nh made (Req.ofSession s.opts hdr sc) = some o) :
    (o.obs.ran = 1 ∧ o.hr = runsOf nh made 1 ∧ ∃ info, s.serveVia w (sc.sessInput hdr) = .ran made info) ∨
    (o.obs.ran = 0 ∧ o.hr = runsOf nh made 0 ∧
      ∃ msg ch, s.serveVia w (sc.sessInput hdr) = .error o.obs.status msg ch) := by
  obtain ⟨o', ho', _, ha, h1, h0⟩ := obsOf_some (Req.ofSession s.opts hdr sc)
  simp only [sessObsOf, ho', Option.map_some, Option.some.injEq] at ho
  subst ho
  have hst : stack (Req.ofSession s.opts hdr sc).hdr (Req.ofSession s.opts hdr sc).layers (Req.ofSession s.opts hdr sc).ctx =
      match serve (s.input (sc.sessInput hdr)) with
      | .next info => .handler [info]
      | .error c m ch => .error c m ch := by
    show stack hdr [Script.layer 0 { sc with opts := s.opts }] [] = _
    rw [stack, show (Script.layer 0 { sc with opts := s.opts }).input hdr [] = s.input (sc.sessInput hdr) from rfl]
    cases serve (s.input (sc.sessInput hdr)) <;> rfl
  simp only [Sess.serveVia, hw]
  cases hs : serve (s.input (sc.sessInput hdr)) with
  | next info =>
    rw [hs] at hst
    left
    have := h1 ⟨_, hst⟩
    exact ⟨this, by rw [this], info, rfl⟩
  | error c m ch =>
    rw [hs] at hst
    right
    have hne : ¬ ∃ cx, stack (Req.ofSession s.opts hdr sc).hdr (Req.ofSession s.opts hdr sc).layers
        (Req.ofSession s.opts hdr sc).ctx = .handler cx := by
      rw [hst]; rintro ⟨_, h⟩; cases h
    have := h0 hne
    rw [hst] at ha
    refine ⟨this, by rw [this], m, ch, ?_⟩
    simp only [Answers] at ha
    rw [ha.1]

/-- The same for the driver's state with several values: the model line of a `sreq` record is the
world model's answer to the request through that wrapper. -/
theorem sessObsOf_worldServeVia (wd : World String) (nh w v made : Nat) (opts : Option (Opts String))
    (hdr : List Char) (sc : Script) (hw : wd.wrappers[w]? = some (v, made)) (hv : wd.vals[v]? = some opts)
    (o : SObs) (ho : sessObsOf nh made (Req.ofSession opts hdr sc) = some o) :
    (o.obs.ran = 1 ∧ o.hr = runsOf nh made 1 ∧ ∃ info, wd.serveVia w (sc.sessInput hdr) = .ran made info) ∨
    (o.obs.ran = 0 ∧ o.hr = runsOf nh made 0 ∧
      ∃ msg ch, wd.serveVia w (sc.sessInput hdr) = .error o.obs.status msg ch) := by
  simp only [World.serveVia, hw, hv]
  exact sessObsOf_serveVia { opts := opts, wrappers := [made] } nh 0 made hdr sc rfl o ho

/-- No alarm on the model (sessions): on what the model does with a request of a session, the
session monitor reports nothing. -/
theorem sessMonitor_accepts_model (nh made : Nat) (hm : made < nh) (r : Req) (ht : r.Tagged) :
    ∃ o, sessObsOf nh made r = some o ∧ sessMonitor nh made r o = none := by
  obtain ⟨o, ho, hmon⟩ := monitor_accepts_model r ht
  refine ⟨{ obs := o, hr := runsOf nh made o.ran }, by simp [sessObsOf, ho], ?_⟩
  simp [sessMonitor, runsOf_length, runsOf_made nh made o.ran hm, firstStray_runsOf, hmon]

theorem firstStray_some {made : Nat} : ∀ {l : List Nat} {lo j : Nat}, firstStray made lo l = some j →
    j ≠ made ∧ lo ≤ j ∧ ∃ n, l[j - lo]? = some n ∧ n ≠ 0 := by
  intro l
  induction l with
  | nil => intro lo j h; cases h
  | cons x xs ih =>
    intro lo j h
    rw [firstStray] at h
    by_cases hc : lo ≠ made ∧ x ≠ 0
    · rw [if_pos hc] at h; cases h
      exact ⟨hc.1, Nat.le_refl _, x, by rw [Nat.sub_self]; rfl, hc.2⟩
    · rw [if_neg hc] at h
      obtain ⟨h1, h2, n, h3, h4⟩ := ih h
      refine ⟨h1, by omega, n, ?_, h4⟩
      rw [show j - lo = (j - (lo + 1)) + 1 by omega]; exact h3

theorem firstStray_none {made : Nat} : ∀ {l : List Nat} {lo : Nat}, firstStray made lo l = none →
    ∀ k n, l[k]? = some n → lo + k ≠ made → n = 0 := by
  intro l
  induction l with
  | nil => intro lo _ k n h; cases h
  | cons x xs ih =>
    intro lo h k n hk hne
    rw [firstStray] at h
    by_cases hc : lo ≠ made ∧ x ≠ 0
    · rw [if_pos hc] at h; cases h
    rw [if_neg hc] at h
    cases k with
    | zero =>
      cases hk
      exact Classical.byContradiction fun hx => hc ⟨hne, hx⟩
    | succ k => exact ih h k n hk (by omega)

/-- Soundness of `strayHandler`: it is reported only if a handler other than the one the
wrapper was made for ran for this request. -/
theorem sound_strayHandler (nh made : Nat) (r : Req) (o : SObs) (m j : Nat)
    (h : sessMonitor nh made r o = some (.strayHandler m j)) :
    m = made ∧ j ≠ made ∧ ∃ n, o.hr[j]? = some n ∧ n ≠ 0 := by
  unfold sessMonitor at h
  split at h
  · cases h
  · split at h
    · rename_i j' hj
      cases h
      obtain ⟨h1, _, n, h3, h4⟩ := firstStray_some hj
      exact ⟨rfl, h1, n, by simpa using h3, h4⟩
    · cases hm : monitor r o.obs <;> simp [hm] at h

/-- Soundness of `malformedRuns`: the observation does not have one run count per handler with
the wrapper's own handler's count as `ran`. -/
theorem sound_malformedRuns (nh made : Nat) (r : Req) (o : SObs)
    (h : sessMonitor nh made r o = some .malformedRuns) :
    ¬ (o.hr.length = nh ∧ o.hr[made]? = some o.obs.ran) := by
  unfold sessMonitor at h
  split at h
  · rename_i hc; intro ⟨a, b⟩; rcases hc with hc | hc <;> contradiction
  · split at h
    · cases h
    · cases hm : monitor r o.obs <;> simp [hm] at h

/-- Soundness of the single-request clauses inside a session: a reported clause of the
single-request property is violated by this request's observation under the value's options
(`P_of`, Sound.lean), whatever came before or ran meanwhile. -/
theorem sound_sessBase (nh made : Nat) (r : Req) (o : SObs) (c : Clause)
    (h : sessMonitor nh made r o = some (.base c)) : ¬ P_of c r o.obs := by
  unfold sessMonitor at h
  split at h
  · cases h
  · split at h
    · cases h
    · cases hm : monitor r o.obs with
      | none => simp [hm] at h
      | some c' =>
        simp [hm] at h; subst h
        exact monitor_sound r o.obs c' hm

/-- Completeness (sessions): if the session monitor reports nothing, then only the wrapper's own
handler ran (as often as `ran` says) and every clause of the single-request property holds of this
request's observation. -/
theorem sessMonitor_complete (nh made : Nat) (r : Req) (o : SObs) (h : sessMonitor nh made r o = none) :
    o.hr.length = nh ∧ o.hr[made]? = some o.obs.ran ∧
    (∀ j n, o.hr[j]? = some n → j ≠ made → n = 0) ∧ ∀ cl, P_of cl r o.obs := by
  unfold sessMonitor at h
  split at h
  · cases h
  · rename_i hc
    have hc1 : o.hr.length = nh := by
      rcases Nat.decEq o.hr.length nh with h' | h'
      · exact absurd (Or.inl h') hc
      · exact h'
    have hc2 : o.hr[made]? = some o.obs.ran := by
      by_cases h' : o.hr[made]? = some o.obs.ran
      · exact h'
      · exact absurd (Or.inr h') hc
    split at h
    · cases h
    · rename_i hs
      cases hm : monitor r o.obs with
      | some c => simp [hm] at h
      | none =>
        refine ⟨hc1, hc2, ?_, monitor_complete r o.obs hm⟩
        intro j n hj hne
        exact firstStray_none hs j n hj (by simpa using hne)

/-! ### Non-vacuity: the session clauses can be reported, and silence is possible -/

section witnesses

private def wsc (gr : List String) (exp : Int) : Script := { err := none, info := some (gr, some exp), opts := none, now := 10 }
private def wop : Opts String := { rm := "https://rs/meta", scopes := ["a", "b"], allowMissing := false, skew := 0 }
private def wReq (gr : List String) : Req := Req.ofSession (some wop) "Bearer t".toList (wsc gr 20)
private def wRan : Obs :=
  { status := 299, ran := 1, layers := [{ seen := .found (.L 0), calls := 1, token := some "t".toList }], www := [], late := [], body := "inner" }

/-- two handlers, wrapper made for handler 0: the model's behaviour passes -/
example : sessMonitor 2 0 (wReq ["a", "b"]) { obs := wRan, hr := [1, 0] } = none := by decide +kernel
/-- the other handler ran instead (one handler object per middleware value, `next` overwritten) -/
example : sessMonitor 2 0 (wReq ["a", "b"]) { obs := { wRan with ran := 0 }, hr := [0, 1] } = some (.strayHandler 0 1) := by decide +kernel
/-- admitted although this request's token lacks a required scope (requirement struck off by earlier requests) -/
example : sessMonitor 2 0 (wReq ["a"]) { obs := wRan, hr := [1, 0] } = some (.base (.ranDespite 0 .scope)) := by decide +kernel
/-- the handler found another request's TokenInfo (verifications coalesced) -/
example : sessMonitor 2 0 (wReq ["a", "b"])
    { obs := { wRan with layers := [{ seen := .other "R0", calls := 0, token := none }] }, hr := [1, 0] } =
    some (.base (.wrongInfo 0 (.other "R0"))) := by decide +kernel
example : sessMonitor 2 0 (wReq ["a", "b"]) { obs := wRan, hr := [1] } = some .malformedRuns := by decide +kernel
/-- a second application of the value leaves the first wrapper's handler alone -/
example : (({ opts := none, wrappers := [] } : Sess String).run (α := Tag) [.wrap 0, .wrap 1]).1.wrappers = [0, 1] := rfl

end witnesses

end Bearer
