import McpModel.OAuth.Model
import McpModel.Base.Logic
/-!
E11 — the scopes of the authorization request (`Authorize`, auth/authorization_code.go:325-350,
`scopesFromChallenges`, `authutil.UnionScopes`, `authutil.ScopesFromToken`, `updateGrantedScopes`): the second
thing a handler carries from one `Authorize` call to the next (`grantedScopes`, per issuer).  Scopes do not
decide which URL is contacted or whether a token is installed (the flow model `authorize` ignores them); this
file models WHAT IS ASKED FOR: the `scope` parameter of the authorization URL, as a set.

`UnionScopes` collects the keys of a Go map: the order is unspecified, duplicates disappear.  The model keeps
lists and compares them as sets (the observation is sorted and de-duplicated on both sides).
Core Lean only (linked into the driver).
-/
namespace OAuth

abbrev Scope := String

def offlineAccess : Scope := "offline_access"

/-- The part of the configuration the scope computation reads.  `filter` is ANY function (`ScopeFilter`). -/
structure ScopeCfg where
  filter : Option (List Scope → List Scope) := none
  refresh : Bool := false       -- RequestRefreshToken

/-- `Authorize`, before the step-up union: challenged scopes, else the resource's `scopes_supported`; the
client's filter; `offline_access` when refresh tokens are wanted and the authorization server advertises it. -/
def challengedScopes (c : ScopeCfg) (ch prm asm : List Scope) : List Scope :=
  let r := if ch.isEmpty && !prm.isEmpty then prm else ch
  let r := match c.filter with
    | some f => f r
    | none => r
  if c.refresh && asm.contains offlineAccess && !r.contains offlineAccess then r ++ [offlineAccess] else r

/-- `authutil.UnionScopes` (as a set). -/
def unionScopes (granted r : List Scope) : List Scope := granted ++ r

/-- The `scope` parameter of the authorization request. -/
def requestedScopes (c : ScopeCfg) (ch prm asm granted : List Scope) : List Scope :=
  unionScopes granted (challengedScopes c ch prm asm)

/-- `updateGrantedScopes`: what the token response says was granted (`scope` member present, possibly empty),
else what was requested. -/
def grantedAfter (tok : Option (List Scope)) (requested : List Scope) : List Scope := tok.getD requested

/-- `h.grantedScopes`, keyed by the issuer string of the metadata in use. -/
abbrev Granted := List (Url × List Scope)

def Granted.get (g : Granted) (issuer : Url) : List Scope := (g.lookup issuer).getD []

def Granted.set (g : Granted) (issuer : Url) (s : List Scope) : Granted := (issuer, s) :: g.filter fun p => p.1 != issuer

/-- SEP-2350: every scope in `granted` (the driver passes what THIS issuer granted earlier: `Granted.get`) is asked
for again, whatever the challenge, the metadata, the filter. -/
theorem step_up_keeps_granted_scopes (c : ScopeCfg) (ch prm asm granted : List Scope) (s : Scope) (h : s ∈ granted) :
    s ∈ requestedScopes c ch prm asm granted := by
  simp [requestedScopes, unionScopes, h]

/-- A scope in the request was granted earlier by this issuer, or survived the
client's filter (applied to the challenged scopes, else the resource's supported scopes), or is `offline_access`
asked for because refresh tokens are wanted AND the authorization server advertises it. -/
theorem requested_scopes_origin (c : ScopeCfg) (ch prm asm granted : List Scope) (s : Scope)
    (h : s ∈ requestedScopes c ch prm asm granted) :
    s ∈ granted ∨
    s ∈ (match c.filter with | some f => f (if ch.isEmpty && !prm.isEmpty then prm else ch) | none => (if ch.isEmpty && !prm.isEmpty then prm else ch)) ∨
    (s = offlineAccess ∧ c.refresh = true ∧ offlineAccess ∈ asm) := by
  simp only [requestedScopes, unionScopes, challengedScopes, List.mem_append] at h
  rcases h with h | h
  · exact .inl h
  · generalize hr : (match c.filter with
      | some f => f (if (ch.isEmpty && !prm.isEmpty) = true then prm else ch)
      | none => (if (ch.isEmpty && !prm.isEmpty) = true then prm else ch)) = r at h ⊢
    by_cases hc : (c.refresh && asm.contains offlineAccess && !r.contains offlineAccess) = true
    · rw [if_pos hc] at h
      simp only [List.mem_append, List.mem_singleton] at h
      rcases h with h | h
      · exact .inr (.inl h)
      · simp only [Bool.and_eq_true, List.contains_iff_mem] at hc
        exact .inr (.inr ⟨h, hc.1.1, hc.1.2⟩)
    · rw [if_neg hc] at h
      exact .inr (.inl h)

/-- Without a filter: no scope is invented — each one comes from the challenge, the resource metadata (only when
the challenge names none), the issuer's earlier grants, or is the advertised `offline_access`. -/
theorem requested_scopes_origin_no_filter (refresh : Bool) (ch prm asm granted : List Scope) (s : Scope)
    (h : s ∈ requestedScopes { refresh := refresh } ch prm asm granted) :
    s ∈ granted ∨ s ∈ ch ∨ (ch = [] ∧ s ∈ prm) ∨ (s = offlineAccess ∧ refresh = true ∧ offlineAccess ∈ asm) := by
  rcases requested_scopes_origin _ ch prm asm granted s h with h | h | h
  · exact .inl h
  · simp only at h
    split at h
    · rename_i hc
      simp only [Bool.and_eq_true, List.isEmpty_iff] at hc
      exact .inr (.inr (.inl ⟨hc.1, h⟩))
    · exact .inr (.inl h)
  · exact .inr (.inr (.inr h))

/-- Recording what issuer `A` granted changes what is remembered for `A`
only; what another issuer `B` granted — and hence what a later request to `B` adds — is untouched. -/
theorem granted_scopes_bound_to_issuer (g : Granted) (A B : Url) (s : List Scope) (h : B ≠ A) :
    (g.set A s).get B = g.get B ∧ (g.set A s).get A = s := by
  constructor
  · have : (B == A) = false := by simpa using h
    simp only [Granted.get, Granted.set, List.lookup_cons, this, List.lookup_filter_ne g h]
  · simp [Granted.get, Granted.set]

/-- Non-vacuity: a step-up round adds the challenged scope to what the issuer granted before. -/
example : requestedScopes {} ["files:write"] ["mcp:read"] [] ["mcp:read"] = ["mcp:read", "files:write"] := by decide

end OAuth
