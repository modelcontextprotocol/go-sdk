import McpModel.OAuth.Props
/-!
# Metadata discovery (E11, C15): every URL tried is derived from the resource / the issuer as the text says

The specification text: protected-resource metadata is looked for at the `resource_metadata` URL of the challenge
(if any), then at `/.well-known/oauth-protected-resource/<path>` and `/.well-known/oauth-protected-resource` of the MCP
server URL; authorization-server metadata at the two well-known locations of an issuer without a path, or the three
(insertion, insertion, appending) of an issuer with a path.  `prmLocations` / `asmLocations` say this with the
model's string operations (`Wk`), whose literals are tied to the regenerated tables (`Generated/OAuthGen.lean`:
`prmWellKnown`, `asWellKnownNoPath`, `asWellKnownWithPath`) by `wk_tables_match`: a changed literal or order in /repo
re-opens these proofs.
-/
namespace OAuth
open Generated.OAuth

/-- SPEC: where protected-resource metadata may be looked for, in order. -/
def prmLocations (ch u : Url) : List Url :=
  (if ch != .empty then [ch] else []) ++ [u.derive .prmPath, u.derive .prmRoot]

/-- SPEC: where the metadata of issuer `I` may be looked for, in order. -/
def asmLocations (I : Url) : List Url :=
  if I.hasPath then [I.derive .asOAuthIns, I.derive .asOIDCIns, I.derive .asOIDCApp] else [I.derive .asOAuth, I.derive .asOIDC]

theorem locations_use_regenerated_tables (ch u I : Url) :
    prmLocations ch u = (if ch != .empty then [ch] else []) ++ prmWk.map u.derive ∧
    asmLocations I = (if I.hasPath then asWkWithPath else asWkNoPath).map I.derive ∧
    prmWk.flatMap Wk.lits = prmWellKnown ∧ asWkNoPath.flatMap Wk.lits = asWellKnownNoPath ∧
    asWkWithPath.flatMap Wk.lits = asWellKnownWithPath := by
  refine ⟨rfl, ?_, wk_tables_match.1, wk_tables_match.2.1, wk_tables_match.2.2.1⟩
  unfold asmLocations
  split <;> rfl

theorem prmCandidates_urls (ch u : Url) : (prmCandidates ch u).map (·.1) = prmLocations ch u := by
  unfold prmCandidates prmLocations
  split <;> rfl

/-- `⊆`, not `=`: for an unparsable issuer `asmCandidates (.bad n) = []`, while `asmLocations` is never empty. -/
theorem asmCandidates_sub (I m : Url) (h : m ∈ asmCandidates I) : m ∈ asmLocations I := by
  unfold asmCandidates at h
  unfold asmLocations
  cases I with
  | bad n => cases h
  | empty => simpa [Url.hasPath, asWkNoPath] using h
  | «at» o s k ds =>
    simp only at h
    split <;> rename_i hp <;> simp only [hp, if_true, Bool.false_eq_true, if_false] at h <;> simpa [asWkWithPath, asWkNoPath] using h

/-- The protected-resource phase asks candidates only, IN ORDER, each at most once. -/
theorem discoverPrm_log_sublist (w : World) : ∀ (cs : List (Url × Url)) (i : Nat),
    (discoverPrm w i cs).2.Sublist (cs.map fun c => Event.get .prm c.1)
  | [], _ => by simp [discoverPrm]
  | c :: cs, i => by
    cases hf : (fetchPrm w i c).1 with
    | some d =>
      rw [discoverPrm_cons_some hf]
      exact List.Sublist.cons_cons _ (List.nil_sublist _)
    | none =>
      rw [discoverPrm_cons_none hf, fetchPrm_log_eq]
      split
      · exact List.Sublist.cons_cons _ (discoverPrm_log_sublist w cs (i + 1))
      · exact List.Sublist.cons _ (discoverPrm_log_sublist w cs (i + 1))

/-- The authorization-server phase asks locations of the issuer only, IN ORDER, each at most once. -/
theorem discoverAsm_log_sublist (w : World) (I : Url) : ∀ (ms : List Url) (i : Nat),
    (discoverAsm w I i ms).2.Sublist (ms.map fun m => Event.get .asm m)
  | [], _ => by simp [discoverAsm]
  | m :: ms, i => by
    by_cases hf : (fetchAsm w i m I).1 = .next
    · rw [discoverAsm_cons_next hf]
      exact List.Sublist.cons_cons _ (discoverAsm_log_sublist w I ms (i + 1))
    · rw [discoverAsm_cons_stop hf, fetchAsm_log_eq]
      split
      · exact List.Sublist.cons_cons _ (List.nil_sublist _)
      · exact List.nil_sublist _

/-- Every metadata GET of `Authorize` goes to the challenge's own
`resource_metadata` URL, to one of the two well-known protected-resource locations derived from the MCP server URL,
or to one of the well-known locations derived from THE authorization server the flow continues with (the issuer named
by the protected-resource metadata in use, or the 2025-03-26 fall-back root) — no other URL is ever tried. -/
theorem every_metadata_get_is_derived (cfg : Config) (inp : Input) (w : World) (k : Kind) (u : Url)
    (h : Event.get k u ∈ (authorize cfg inp w).log) :
    (k = .prm ∧ u ∈ prmLocations (rmFrom inp.challenges) cfg.serverUrl) ∨
    (k = .asm ∧ ∃ I, (authorize cfg inp w).issuer = some I ∧ u ∈ asmLocations I) := by
  cases k with
  | prm =>
    obtain ⟨c, hc, rfl, _⟩ := authorize_source cfg inp w _ h
    exact .inl ⟨rfl, by rw [← prmCandidates_urls]; exact List.mem_map.2 ⟨c, hc, rfl⟩⟩
  | asm =>
    obtain ⟨I, hI, hm, _⟩ := authorize_source cfg inp w _ h
    exact .inr ⟨rfl, I, hI, asmCandidates_sub I u hm⟩

end OAuth
