import McpModel.OAuth.Model
/-!
E11 — model of `auth.NewAuthorizationCodeHandler` (auth/authorization_code.go:185-239), `isNonRootHTTPSURL`,
`inferApplicationType` and `oauthex.ClientCredentials.Validate`: which configurations become a handler, and
with which effective redirect URL / application type.  The flow model (`authorize`, `CHandler`) starts from
a created handler (`HConfig`); this file is the step before.  Core Lean only (linked into the driver).

Strings are abstracted to what the code reads of them: a redirect URI is an identity (`Nat`) plus the class
`inferApplicationType` puts it in (`url.Parse` and `util.IsLoopback` are the harness's job, as for `Url`);
an application type is the string as configured.
-/
namespace OAuth

/-- What `inferApplicationType` reads of one redirect URI. -/
inductive RedirKind
  | unparsable        -- url.Parse fails
  | webLoopback       -- scheme http/https, loopback host
  | webRemote         -- scheme http/https, any other host
  | custom            -- any other scheme (incl. none)
deriving DecidableEq, Repr

structure Redirect where
  id : Nat
  kind : RedirKind
deriving DecidableEq, Repr

/-- `ApplicationType` strings. -/
inductive AppType
  | unset             -- ""
  | native
  | web
  | other (n : Nat)   -- any other string
deriving DecidableEq, Repr

/-- The loop of `inferApplicationType`: `none` = returned "" at an unparsable URI. -/
def inferLoop : List Redirect → Bool → Bool → Option (Bool × Bool)
  | [], n, w => some (n, w)
  | r :: rs, n, w =>
    match r.kind with
    | .unparsable => none
    | .webLoopback => inferLoop rs true w
    | .webRemote => inferLoop rs n true
    | .custom => inferLoop rs true w

/-- `inferApplicationType`. -/
def inferAppType (rs : List Redirect) : AppType :=
  match inferLoop rs false false with
  | none => .unset
  | some (true, true) => .unset
  | some (true, false) => .native
  | some (false, _) => .web

/-- `ClientIDMetadataDocumentConfig.URL` as `isNonRootHTTPSURL` reads it. -/
structure CimdRaw where
  parses : Bool
  https : Bool       -- pu.Scheme == "https"
  hasPath : Bool     -- pu.Path != ""
deriving DecidableEq, Repr

def CimdRaw.nonRootHttps (c : CimdRaw) : Bool := c.parses && c.https && c.hasPath

/-- `PreregisteredClient` as `Validate` reads it (there is one authentication method: the count is 0 or 1). -/
structure PreRaw where
  clientIdEmpty : Bool
  secretAuth : Option Bool     -- ClientSecretAuth set; `some true` = its ClientSecret is empty
  issuer : Url
deriving Repr

def PreRaw.valid (p : PreRaw) : Bool := !p.clientIdEmpty && p.secretAuth != some true

structure DcrRaw where
  metadataNil : Bool
  redirects : List Redirect
  appType : AppType
deriving Repr

structure RawConfig where
  isNil : Bool := false
  cimd : Option CimdRaw
  pre : Option PreRaw
  dcr : Option DcrRaw
  fetcher : Bool
  redirectURL : Option Nat      -- `none` = ""; `some id` = the string with that identity
deriving Repr

inductive NewErr
  | nilConfig | noRegistration | noFetcher | cimdUrl | preInvalid
  | dcrNoMetadata | dcrNoRedirects | redirectNotAllowed | appTypeConflict | noRedirect
deriving DecidableEq, Repr

/-- A created handler: the fixed configuration of the flow model, the effective `RedirectURL`, and the
effective `Metadata.ApplicationType` when dynamic registration is configured. -/
structure Created where
  cfg : HConfig
  redirect : Nat
  appType : Option AppType
deriving Repr

/-- The dynamic-registration block: effective redirect URL and application type. -/
def newDcr (d : DcrRaw) (redirectURL : Option Nat) : Except NewErr (Option Nat × AppType) :=
  if d.metadataNil then .error .dcrNoMetadata
  else match d.redirects with
    | [] => .error .dcrNoRedirects
    | r0 :: _ =>
      let rd : Except NewErr (Option Nat) :=
        match redirectURL with
        | none => .ok (some r0.id)
        | some u => if d.redirects.any (fun r => r.id == u) then .ok (some u) else .error .redirectNotAllowed
      match rd with
      | .error e => .error e
      | .ok rd =>
        let inferred := inferAppType d.redirects
        if d.appType == .unset then .ok (rd, inferred)
        else if d.appType != inferred then .error .appTypeConflict
        else .ok (rd, d.appType)

/-- `NewAuthorizationCodeHandler`, check by check in the order of the code. -/
def newHandler (c : RawConfig) : Except NewErr Created :=
  if c.isNil then .error .nilConfig
  else if c.cimd.isNone && c.pre.isNone && c.dcr.isNone then .error .noRegistration
  else if !c.fetcher then .error .noFetcher
  else if (match c.cimd with | some u => !u.nonRootHttps | none => false) then .error .cimdUrl
  else if (match c.pre with | some p => !p.valid | none => false) then .error .preInvalid
  else
    let hc : HConfig := { cimd := c.cimd.isSome, pre := c.pre.map (·.issuer), dcr := c.dcr.isSome }
    match c.dcr with
    | none =>
      match c.redirectURL with
      | none => .error .noRedirect
      | some u => .ok { cfg := hc, redirect := u, appType := none }
    | some d =>
      match newDcr d c.redirectURL with
      | .error e => .error e
      | .ok (none, _) => .error .noRedirect
      | .ok (some u, t) => .ok { cfg := hc, redirect := u, appType := some t }

/-! ### SPEC: what a usable configuration is (written from the documentation of the configuration type) -/

/-- At least one way to obtain client credentials, a fetcher, a non-root https client-id document URL,
valid pre-registered credentials, and — with dynamic registration — metadata with redirect URIs among which
the redirect URL is, and no declared application type contradicting the redirect URIs. -/
def RawConfig.usable (c : RawConfig) : Bool :=
  !c.isNil && (c.cimd.isSome || c.pre.isSome || c.dcr.isSome) && c.fetcher &&
  (match c.cimd with | some u => u.nonRootHttps | none => true) &&
  (match c.pre with | some p => p.valid | none => true) &&
  (match c.dcr with
   | none => c.redirectURL.isSome
   | some d => !d.metadataNil && !d.redirects.isEmpty &&
      (match c.redirectURL with | none => true | some u => d.redirects.any (fun r => r.id == u)) &&
      (d.appType == .unset || d.appType == inferAppType d.redirects))

theorem inferLoop_eq : ∀ (rs : List Redirect) (n w : Bool), inferLoop rs n w =
    if rs.any (fun r => r.kind = .unparsable) then none
    else some (n || rs.any (fun r => r.kind = .webLoopback ∨ r.kind = .custom),
               w || rs.any (fun r => r.kind = .webRemote))
  | [], n, w => by simp [inferLoop]
  | ⟨_, k⟩ :: rs, n, w => by
    cases k <;> simp [inferLoop, inferLoop_eq rs]

/-- The inferred type is `native` exactly when every URI parses, none is an http(s)
URI of a remote host, and at least one is a loopback or custom-scheme URI. -/
theorem infer_native_iff (rs : List Redirect) :
    inferAppType rs = .native ↔
      (∀ r ∈ rs, r.kind ≠ .unparsable) ∧ (∀ r ∈ rs, r.kind ≠ .webRemote) ∧ ∃ r ∈ rs, r.kind = .webLoopback ∨ r.kind = .custom := by
  have h1 : (∀ r ∈ rs, r.kind ≠ .unparsable) ↔ rs.any (fun r => r.kind = .unparsable) = false := by simp
  have h2 : (∀ r ∈ rs, r.kind ≠ .webRemote) ↔ rs.any (fun r => r.kind = .webRemote) = false := by simp
  have h3 : (∃ r ∈ rs, r.kind = .webLoopback ∨ r.kind = .custom) ↔
      rs.any (fun r => r.kind = .webLoopback ∨ r.kind = .custom) = true := by simp
  rw [h1, h2, h3, inferAppType, inferLoop_eq]
  generalize rs.any (fun r => decide (r.kind = .unparsable)) = a
  generalize rs.any (fun r => decide (r.kind = .webRemote)) = b
  generalize rs.any (fun r => decide (r.kind = .webLoopback ∨ r.kind = .custom)) = c
  cases a <;> cases b <;> cases c <;> simp

theorem guard_eq_ok {ε α : Type} {p : Prop} [Decidable p] {e : ε} {x : Except ε α} {a : α} :
    (if p then .error e else x) = .ok a ↔ ¬p ∧ x = .ok a := by
  by_cases hp : p <;> simp [hp]

theorem appTypeCheck_eq_ok (ty inf t : AppType) (rd o : Option Nat) :
    (if (ty == .unset) = true then Except.ok (rd, inf)
      else if (ty != inf) = true then .error NewErr.appTypeConflict else .ok (rd, ty)) = .ok (o, t) ↔
      (ty == .unset || ty == inf) = true ∧ rd = o ∧ inf = t := by
  by_cases h1 : ty = .unset
  · simp [h1]
  · by_cases h2 : ty = inf
    · simp [h2]
    · simp [h1, h2]

theorem newDcr_ok_iff (d : DcrRaw) (r o : Option Nat) (t : AppType) :
    newDcr d r = .ok (o, t) ↔
      (!d.metadataNil && !d.redirects.isEmpty &&
        (match r with | none => true | some u => d.redirects.any (fun r => r.id == u)) &&
        (d.appType == .unset || d.appType == inferAppType d.redirects)) = true ∧
      (∃ r0, d.redirects.head? = some r0 ∧ some (r.getD r0.id) = o) ∧ inferAppType d.redirects = t := by
  obtain ⟨nil, rs, ty⟩ := d
  cases nil
  case true => simp [newDcr]
  cases rs with
  | nil => simp [newDcr]
  | cons r0 rs =>
    unfold newDcr
    generalize inferAppType (r0 :: rs) = inf
    cases r with
    | none =>
      simp only [Bool.false_eq_true, if_false, appTypeCheck_eq_ok]
      simp
    | some u =>
      dsimp only
      generalize (r0 :: rs).any (fun r => r.id == u) = b
      cases b <;> simp only [Bool.false_eq_true, if_false, if_true, appTypeCheck_eq_ok] <;> simp

/-- Each early return of the code is the negation of one conjunct of `usable`. -/
theorem newHandler_ok_iff (c : RawConfig) (h : Created) :
    newHandler c = .ok h ↔
      c.usable = true ∧ h.cfg = { cimd := c.cimd.isSome, pre := c.pre.map (·.issuer), dcr := c.dcr.isSome } ∧
      match c.dcr with
      | none => c.redirectURL = some h.redirect ∧ h.appType = none
      | some d => (∃ r0, d.redirects.head? = some r0 ∧ h.redirect = c.redirectURL.getD r0.id) ∧
          h.appType = some (inferAppType d.redirects) := by
  obtain ⟨isNil, cimd, pre, dcr, fetcher, redirectURL⟩ := c
  obtain ⟨hc, hr, ht⟩ := h
  simp only [newHandler, guard_eq_ok, RawConfig.usable, Bool.and_eq_true, and_assoc]
  refine and_congr ?_ (and_congr ?_ (and_congr ?_ (and_congr ?_ (and_congr ?_ ?_))))
  · simp
  · cases cimd <;> cases pre <;> cases dcr <;> simp
  · simp
  · cases cimd <;> simp
  · cases pre <;> simp
  · cases dcr with
    | none => cases redirectURL <;> simp [eq_comm]
    | some d =>
      cases hx : newDcr d redirectURL with
      | error e =>
        simp only [hx, reduceCtorEq, false_iff]
        intro ⟨hu, _, ⟨r0, h0, _⟩, _⟩
        exact absurd ((newDcr_ok_iff d redirectURL _ _).2 ⟨hu, ⟨r0, h0, rfl⟩, rfl⟩) (by simp [hx])
      | ok p =>
        obtain ⟨o, t⟩ := p
        obtain ⟨hu, ⟨r0, h0, rfl⟩, rfl⟩ := (newDcr_ok_iff d redirectURL o t).1 hx
        simp only [hx, h0, Except.ok.injEq, Created.mk.injEq]
        constructor
        · rintro ⟨rfl, rfl, rfl⟩
          exact ⟨hu, rfl, ⟨r0, rfl, rfl⟩, rfl⟩
        · rintro ⟨_, rfl, ⟨_, h1, rfl⟩, rfl⟩
          cases h1
          exact ⟨rfl, rfl, rfl⟩

/-- `NewAuthorizationCodeHandler` returns a handler exactly for the usable
configurations — every unusable one is refused, whatever the order of its defects. -/
theorem new_handler_ok_iff_usable (c : RawConfig) : (∃ h, newHandler c = .ok h) ↔ c.usable = true := by
  refine ⟨fun ⟨h, hh⟩ => ((newHandler_ok_iff c h).1 hh).1, fun hu => ?_⟩
  have hlast := hu
  simp only [RawConfig.usable, Bool.and_eq_true] at hlast
  cases hd : c.dcr with
  | none =>
    rw [hd] at hlast
    obtain ⟨u, hr⟩ := Option.isSome_iff_exists.1 hlast.2
    exact ⟨⟨_, u, none⟩, (newHandler_ok_iff c _).2 ⟨hu, rfl, by rw [hd]; exact ⟨hr, rfl⟩⟩⟩
  | some d =>
    rw [hd] at hlast
    obtain ⟨r0, h0⟩ : ∃ r0, d.redirects.head? = some r0 := by
      cases hrs : d.redirects with
      | nil => simp [hrs] at hlast
      | cons r0 _ => exact ⟨r0, rfl⟩
    exact ⟨⟨_, _, _⟩, (newHandler_ok_iff c _).2 ⟨hu, rfl, by rw [hd]; exact ⟨⟨r0, h0, rfl⟩, rfl⟩⟩⟩

/-- The handler's registration modes are exactly the configured ones (a mode that is not
configured is not in the handler the flow model starts from), and at least one is. -/
theorem new_handler_cfg (c : RawConfig) (h : Created) (hh : newHandler c = .ok h) :
    h.cfg = { cimd := c.cimd.isSome, pre := c.pre.map (·.issuer), dcr := c.dcr.isSome } ∧
    (h.cfg.cimd = true ∨ h.cfg.pre.isSome = true ∨ h.cfg.dcr = true) ∧
    (∀ u, c.cimd = some u → u.nonRootHttps = true) ∧ (∀ p, c.pre = some p → p.valid = true) ∧ c.fetcher = true := by
  obtain ⟨hu, hcfg, _⟩ := (newHandler_ok_iff c h).1 hh
  simp only [RawConfig.usable, Bool.and_eq_true, Bool.or_eq_true] at hu
  obtain ⟨⟨⟨⟨⟨_, hreg⟩, hf⟩, hci⟩, hp⟩, _⟩ := hu
  refine ⟨hcfg, ?_, fun u hu => ?_, fun p hp' => ?_, hf⟩
  · rw [hcfg]
    simpa [or_assoc] using hreg
  · rw [hu] at hci
    exact hci
  · rw [hp'] at hp
    exact hp

/-- What the dynamic-registration block fixes: the redirect URL is the configured one if it is among the
redirect URIs, the FIRST redirect URI if none is configured; the application type is the inferred one. -/
theorem newDcr_ok (d : DcrRaw) (r : Option Nat) (u : Nat) (t : AppType) (h : newDcr d r = .ok (some u, t)) :
    (∃ x ∈ d.redirects, x.id = u) ∧ (∀ x, r = some x → u = x) ∧ (r = none → ∃ r0, d.redirects.head? = some r0 ∧ u = r0.id) ∧
    t = inferAppType d.redirects ∧ (d.appType = .unset ∨ d.appType = t) := by
  obtain ⟨hu, ⟨r0, h0, hr⟩, rfl⟩ := (newDcr_ok_iff d r _ t).1 h
  simp only [Bool.and_eq_true, Bool.or_eq_true, beq_iff_eq] at hu
  obtain ⟨⟨_, hmem⟩, hty⟩ := hu
  cases Option.some.inj hr
  refine ⟨?_, fun x hx => by rw [hx]; rfl, fun hn => ⟨r0, h0, by rw [hn]; rfl⟩, rfl, hty⟩
  cases r with
  | none => exact ⟨r0, List.mem_of_mem_head? h0, rfl⟩
  | some x => simpa using hmem

/-- With dynamic registration configured, the effective redirect URL of a
created handler is one of the redirect URIs that will be registered, and the application type sent is the one
inferred from them (`infer_native_iff`). -/
theorem new_handler_redirect_and_type (c : RawConfig) (d : DcrRaw) (h : Created) (hd : c.dcr = some d)
    (hh : newHandler c = .ok h) :
    (∃ x ∈ d.redirects, x.id = h.redirect) ∧ h.appType = some (inferAppType d.redirects) ∧
    (∀ x, c.redirectURL = some x → h.redirect = x) := by
  obtain ⟨hu, _, hm⟩ := (newHandler_ok_iff c h).1 hh
  unfold RawConfig.usable at hu
  rw [hd] at hu hm
  obtain ⟨⟨r0, h0, hr⟩, hty⟩ := hm
  have hx := (newDcr_ok_iff d c.redirectURL (some h.redirect) _).2
    ⟨(Bool.and_eq_true_iff.1 hu).2, ⟨r0, h0, congrArg some hr.symm⟩, rfl⟩
  obtain ⟨h1, h2, _⟩ := newDcr_ok _ _ _ _ hx
  exact ⟨h1, hty, h2⟩

/-- The C15 clause on a `new` record: the IMPLEMENTATION created a handler from a configuration that is not
usable (no registration mode, no fetcher, a client-id document URL that is not non-root https, invalid
pre-registered credentials, a redirect URL outside the registered ones, a contradicting application type). -/
def chkNew (c : RawConfig) (implCreated : Bool) : Bool := implCreated && !c.usable

def createdOf (c : RawConfig) : Bool := match newHandler c with | .ok _ => true | .error _ => false

theorem chkNew_model (c : RawConfig) : chkNew c (createdOf c) = false := by
  unfold chkNew createdOf
  cases h : newHandler c with
  | error e => simp
  | ok x => simp [(new_handler_ok_iff_usable c).1 ⟨x, h⟩]

theorem sound_chkNew (c : RawConfig) (b : Bool) (h : chkNew c b = true) : b = true ∧ c.usable = false := by
  unfold chkNew at h
  cases b <;> cases hu : c.usable <;> simp_all

end OAuth
