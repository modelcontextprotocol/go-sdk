import McpModel.OAuth.Lemmas
/-!
C15 — "OAuth client flow trusts only matching, safe metadata and a matching state/iss".

First the vocabulary of the statements (`PrmJustifies` … `Classified`) and the one pass over the exits of `authorize`
that establishes everything the theorems read (`Facts`, `Pass`, `authorize_pass`); then the theorems.

The `history_*` theorems are about ANY list of `Authorize` calls on one handler (`Handler.run`), each
call with its own request, response and network.  Every other theorem is about one call,
`authorize cfg inp w`, for ALL handler configurations `cfg`, ALL 401/403
responses `inp` (status, challenges, malformed header) and ALL worlds `w` (arbitrary functions from
step number and URL to a response variant, arbitrary fetcher), and is an invariant of the request
log of that sequential function.  The specification predicates (`Url.httpsOrLoopback`,
`Url.isScript`, `issuersEqual`, `issCheck`) are hand-written in Model.lean; the predicates the model
decides with are regenerated from /repo, and `Lemmas.lean` proves the former from the latter.
-/
namespace OAuth

/-- The authorization server `I` and the resource identifier `res` the flow continues with are the
2025-03-26 fall-back (the server's own root), or come from a protected-resource document that was
actually fetched from a candidate location, names exactly the resource asked for, lists only safe
authorization servers, and whose first entry is `I`. -/
def PrmJustifies (cfg : Config) (inp : Input) (w : World) (log : List Event) (I res : Url) : Prop :=
  (I = cfg.serverUrl.root ∧ res = cfg.serverUrl) ∨
  ∃ c ∈ prmCandidates (rmFrom inp.challenges) cfg.serverUrl, ∃ i d,
    w.prm i c.1 = .doc d ∧ Event.get .prm c.1 ∈ log ∧ d.resource = c.2 ∧ (∀ x ∈ d.authServers, Safe x) ∧
    d.authServers.head? = some I ∧ res = d.resource

/-- The checks a metadata document passed for issuer `I`.  The last conjunct is the only place where the regenerated
flag `tokenEndpointRequired` (does `validateAuthServerMetaURLs` refuse a document without `token_endpoint`?) enters
`Facts`. -/
def AsmDocOk (a : AsmDoc) (I : Url) : Prop :=
  issuersEqual a.issuer I = true ∧ a.pkce = true ∧
  (∀ x ∈ [a.authorizationEndpoint, a.tokenEndpoint, a.registrationEndpoint, a.introspectionEndpoint] ++ a.otherUrls,
      x.isScript = false ∧ ∀ n, x ≠ .bad n) ∧
  (∀ x ∈ [a.authorizationEndpoint, a.tokenEndpoint, a.registrationEndpoint, a.introspectionEndpoint],
      x = .empty ∨ x.httpsOrLoopback = true) ∧
  (Generated.OAuth.tokenEndpointRequired = true → a.tokenEndpoint ≠ .empty)

/-- The metadata in use is a document fetched from a candidate location of `I` that passes the
checks, or the fall-back after EVERY candidate location answered 4xx. -/
def AsmJustifies (w : World) (log : List Event) (I : Url) (a : AsmDoc) : Prop :=
  (∃ m ∈ asmCandidates I, ∃ i, w.asm i m = .doc a ∧ Event.get .asm m ∈ log ∧ AsmDocOk a I) ∨
  (a = fallbackAsm I ∧ ∀ m ∈ asmCandidates I, checkHOL m = true ∧ ∃ i, w.asm i m = .status4xx)

/-- What is known of one log entry, as a disjunction over the five kinds of entry; `Source` below is the same
classification read off the entry's shape (`authorize_source` converts). -/
def Classified (cfg : Config) (inp : Input) (w : World) (R : Result) (e : Event) : Prop :=
  (∃ c ∈ prmCandidates (rmFrom inp.challenges) cfg.serverUrl, e = .get .prm c.1 ∧ checkHOL c.1 = true) ∨
  (∃ I, R.issuer = some I ∧ ∃ m ∈ asmCandidates I, e = .get .asm m ∧ checkHOL m = true) ∨
  (∃ a, R.asm = some a ∧ e = .register a.registrationEndpoint ∧ a.registrationEndpoint ≠ .empty ∧
      ∀ n, a.registrationEndpoint ≠ .bad n) ∨
  (∃ a cred, R.asm = some a ∧ e = .fetch a.authorizationEndpoint cred R.resource ∧ CredOk cfg a cred) ∨
  (∃ a cred, R.asm = some a ∧ e = .token a.tokenEndpoint cred ∧ (∀ n, a.tokenEndpoint ≠ .bad n) ∧
      CredOk cfg a cred ∧ ExchangeOk w a)

def Source (cfg : Config) (inp : Input) (w : World) (R : Result) : Event → Prop
  | .get .prm u => ∃ c ∈ prmCandidates (rmFrom inp.challenges) cfg.serverUrl, u = c.1 ∧ checkHOL u = true
  | .get .asm m => ∃ I, R.issuer = some I ∧ m ∈ asmCandidates I ∧ checkHOL m = true
  | .register u => ∃ a, R.asm = some a ∧ u = a.registrationEndpoint ∧ u ≠ .empty ∧ ∀ n, u ≠ .bad n
  | .fetch u cred r => ∃ a, R.asm = some a ∧ u = a.authorizationEndpoint ∧ r = R.resource ∧ CredOk cfg a cred
  | .token u cred => ∃ a, R.asm = some a ∧ u = a.tokenEndpoint ∧ (∀ n, u ≠ .bad n) ∧ CredOk cfg a cred ∧ ExchangeOk w a

/-- `mem`: every log entry is classified; `issuer`, `asm`: the server and the metadata the flow continues with are
justified; `inst`: an installation happened only on outcome `ok` / `post`, after a passed exchange check and a
successful token round trip.  The first field of `Pass`. -/
structure Facts (cfg : Config) (inp : Input) (w : World) (R : Result) : Prop where
  mem : ∀ e ∈ R.log, Classified cfg inp w R e
  issuer : ∀ I, R.issuer = some I → PrmJustifies cfg inp w R.log I R.resource
  asm : ∀ a, R.asm = some a → ∃ I, R.issuer = some I ∧ AsmJustifies w R.log I a
  inst : R.installed = true →
    (R.outcome = .ok ∨ R.outcome = .post) ∧
    ∃ a, R.asm = some a ∧ ExchangeOk w a ∧ ∃ cred i, Event.token a.tokenEndpoint cred ∈ R.log ∧ w.tok i a.tokenEndpoint ≠ .fail

theorem prmDocOk_safe {d : PrmDoc} {r : Url} (h : prmDocOk d r = true) : d.resource = r ∧ ∀ x ∈ d.authServers, Safe x := by
  simp only [prmDocOk, Bool.and_eq_true, beq_iff_eq, List.all_eq_true] at h
  refine ⟨h.1, fun x hx => ?_⟩
  obtain ⟨h1, h2⟩ := h.2 x hx
  rcases checkHOL_spec h2 with h2 | h2
  · exact Or.inl h2
  · exact Or.inr ⟨(checkScheme_spec h1).1, h2⟩

theorem prm_justified {cfg : Config} {inp : Input} {w : World} {p : PrmRes × List Event}
    (hp : p = discoverPrm w 0 (prmCandidates (rmFrom inp.challenges) cfg.serverUrl)) (h : p.1 ≠ .noAS) :
    PrmJustifies cfg inp w p.2 (p.1.issuer cfg.serverUrl) (p.1.resource cfg.serverUrl) := by
  cases hp1 : p.1 with
  | noAS => exact absurd hp1 h
  | fallback => exact Or.inl ⟨rfl, rfl⟩
  | found d =>
    right
    obtain ⟨c, hc, j, hw, hok, hmem, hne⟩ := discoverPrm_found (hp ▸ hp1)
    obtain ⟨hres, hsafe⟩ := prmDocOk_safe hok
    refine ⟨c, hc, j, d, hw, hp ▸ hmem, hres, hsafe, ?_, rfl⟩
    cases hd : d.authServers with
    | nil => exact absurd hd hne
    | cons x xs => simp [PrmRes.issuer, hd]

theorem asmUrlsOk_spec {d : AsmDoc} (h : asmUrlsOk d = true) :
    (∀ x ∈ [d.authorizationEndpoint, d.tokenEndpoint, d.registrationEndpoint, d.introspectionEndpoint] ++ d.otherUrls,
      x.isScript = false ∧ ∀ n, x ≠ .bad n) ∧
    (∀ x ∈ [d.authorizationEndpoint, d.tokenEndpoint, d.registrationEndpoint, d.introspectionEndpoint],
      x = .empty ∨ x.httpsOrLoopback = true) := by
  simp only [asmUrlsOk, Bool.and_eq_true, List.all_eq_true] at h
  exact ⟨fun x hx => checkScheme_spec (h.1.2 x hx), fun x hx => checkHOL_spec (h.2 x hx)⟩

theorem asmUrlsOk_required {d : AsmDoc} (h : asmUrlsOk d = true) (hr : Generated.OAuth.tokenEndpointRequired = true) :
    d.tokenEndpoint ≠ .empty := by
  simp only [asmUrlsOk, Bool.and_eq_true, hr] at h
  simpa using h.1.1.2

theorem asm_justified {w : World} {I : Url} {q : AsmStep × List Event} (hq : q = discoverAsm w I 0 (asmCandidates I))
    (h : ∀ o, q.1 ≠ .err o) : AsmJustifies w q.2 I (effAsm q.1 I) := by
  cases hq1 : q.1 with
  | err o => exact absurd hq1 (h o)
  | next => exact .inr ⟨rfl, (discoverAsm_next (hq ▸ hq1)).2⟩
  | found d =>
    obtain ⟨ms1, m, ms2, j, e1, _, h1, h2, h3, h4, e7⟩ := discoverAsm_found_shape (hq ▸ hq1)
    obtain ⟨h6, h7⟩ := asmUrlsOk_spec h4
    exact .inl ⟨m, by simp [e1], j, h1, by rw [hq, e7]; simp, h2, h3, h6, h7, asmUrlsOk_required h4⟩

theorem PrmJustifies.mono {cfg : Config} {inp : Input} {w : World} {l l' : List Event} {I r : Url}
    (h : PrmJustifies cfg inp w l I r) (hs : ∀ e ∈ l, e ∈ l') : PrmJustifies cfg inp w l' I r := by
  rcases h with h | ⟨c, hc, i, d, h1, h2, h3⟩
  · exact Or.inl h
  · exact Or.inr ⟨c, hc, i, d, h1, hs _ h2, h3⟩

theorem AsmJustifies.mono {w : World} {l l' : List Event} {I : Url} {a : AsmDoc}
    (h : AsmJustifies w l I a) (hs : ∀ e ∈ l, e ∈ l') : AsmJustifies w l' I a := by
  rcases h with ⟨m, hm, i, h1, h2, h3⟩ | h
  · exact Or.inl ⟨m, hm, i, h1, hs _ h2, h3⟩
  · exact Or.inr h

/-- What ONE pass over the exits of `authorize` establishes: `Facts`, where the credentials an event carries come
from, the order of the log once metadata is in use, and that an installed token source was constructed without error. -/
structure Pass (cfg : Config) (inp : Input) (w : World) (R : Result) : Prop where
  facts : Facts cfg inp w R
  cred : ∀ e ∈ R.log, e.cred = .none ∨ ∃ a probe, R.asm = some a ∧ (register cfg w a).1 = .ok e.cred probe ∧
    ∀ x ∈ (register cfg w a).2, x ∈ R.log
  shape : ∀ a, R.asm = some a → ∃ p I q rest,
    p = discoverPrm w 0 (prmCandidates (rmFrom inp.challenges) cfg.serverUrl) ∧ I = p.1.issuer cfg.serverUrl ∧
    q = discoverAsm w I 0 (asmCandidates I) ∧ (∀ o, q.1 ≠ .err o) ∧ a = effAsm q.1 I ∧ R.issuer = some I ∧
    R.log = p.2 ++ q.2 ++ rest ∧ ∀ e ∈ rest, ∀ k u, e ≠ .get k u
  nts : R.installed = true → w.ntsFails = false

theorem Pass.early {cfg : Config} {inp : Input} {w : World} {R : Result} (hmem : ∀ e ∈ R.log, Classified cfg inp w R e)
    (hiss : ∀ I, R.issuer = some I → PrmJustifies cfg inp w R.log I R.resource)
    (hcred : ∀ e ∈ R.log, e.cred = .none) (ha : R.asm = none) (hn : R.installed = false) : Pass cfg inp w R :=
  ⟨⟨hmem, hiss, fun a h => (by rw [ha] at h; cases h), fun h => (by rw [hn] at h; cases h)⟩,
    fun e he => .inl (hcred e he), fun a h => (by rw [ha] at h; cases h), fun h => (by rw [hn] at h; cases h)⟩

theorem authorize_pass (cfg : Config) (inp : Input) (w : World) : Pass cfg inp w (authorize cfg inp w) := by
  obtain ⟨p, I, res, q, a, hp, hI, hres, hq, ha, hc⟩ := authorize_cases cfg inp w
  have hpl : ∀ e ∈ p.2, ∃ c ∈ prmCandidates (rmFrom inp.challenges) cfg.serverUrl, e = .get .prm c.1 ∧ checkHOL c.1 = true := by
    intro e he; rw [hp] at he; exact discoverPrm_log he
  have hpj : p.1 ≠ .noAS → PrmJustifies cfg inp w p.2 I res := by
    intro h; rw [hI, hres]; exact prm_justified hp h
  have hql : ∀ e ∈ q.2, ∃ m ∈ asmCandidates I, e = .get .asm m ∧ checkHOL m = true := by
    intro e he; rw [hq] at he; exact discoverAsm_log he
  have hqj : (∀ o, q.1 ≠ .err o) → AsmJustifies w q.2 I a := by
    intro h; rw [ha]; exact asm_justified hq h
  have hrl : ∀ e ∈ (register cfg w a).2, e = .register a.registrationEndpoint ∧ a.registrationEndpoint ≠ .empty ∧
      (∀ n, a.registrationEndpoint ≠ .bad n) := by
    intro e he
    obtain ⟨h1, h2, h3, _⟩ := register_log he
    exact ⟨h1, h2, h3⟩
  have hnone : ∀ e ∈ p.2 ++ q.2 ++ (register cfg w a).2, e.cred = .none := by
    intro e he
    rcases List.mem_append.1 he with he | he
    · rcases List.mem_append.1 he with he | he
      · obtain ⟨_, _, rfl, _⟩ := hpl e he; rfl
      · obtain ⟨_, _, rfl, _⟩ := hql e he; rfl
    · rw [(hrl e he).1]; rfl
  have hmem : ∀ e ∈ p.2 ++ q.2 ++ (register cfg w a).2, ∀ R : Result, R.issuer = some I → R.asm = some a →
      Classified cfg inp w R e := by
    intro e he R hi hasm
    rcases List.mem_append.1 he with he | he
    · rcases List.mem_append.1 he with he | he
      · exact .inl (hpl e he)
      · exact .inr (.inl ⟨I, hi, hql e he⟩)
    · exact .inr (.inr (.inl ⟨a, hasm, hrl e he⟩))
  rcases hc with h | h | ⟨_, h⟩ | ⟨hp1, o, _, h⟩ | ⟨hp1, hq1, o, _, h⟩ | ⟨hp1, hq1, cred, probe, hr1, h⟩
  · rw [h]; exact .early (by simp) (fun _ h => nomatch h) (by simp) rfl rfl
  · rw [h]; exact .early (by simp) (fun _ h => nomatch h) (by simp) rfl rfl
  · rw [h]
    exact .early (fun e he => .inl (hpl e he)) (fun _ h => nomatch h) (fun e he => hnone e (List.mem_append_left _ (List.mem_append_left _ he))) rfl rfl
  · rw [h]
    refine .early ?_ ?_ (fun e he => hnone e (List.mem_append_left _ he)) rfl rfl
    · intro e he
      rcases List.mem_append.1 he with he | he
      · exact .inl (hpl e he)
      · exact .inr (.inl ⟨I, rfl, hql e he⟩)
    · rintro _ ⟨⟩
      exact (hpj hp1).mono fun e he => List.mem_append_left _ he
  · rw [h]
    refine ⟨⟨fun e he => hmem e he _ rfl rfl, ?_, ?_, fun h => nomatch h⟩, fun e he => .inl (hnone e he), ?_,
      fun h => nomatch h⟩
    · rintro _ ⟨⟩
      exact (hpj hp1).mono fun e he => List.mem_append_left _ (List.mem_append_left _ he)
    · rintro _ ⟨⟩
      exact ⟨I, rfl, (hqj hq1).mono fun e he => List.mem_append_left _ (List.mem_append_right _ he)⟩
    · rintro _ ⟨⟩
      exact ⟨p, I, q, _, hp, hI, hq, hq1, ha, rfl, rfl, fun e he k u hu => by rw [(hrl e he).1] at hu; cases hu⟩
  · obtain ⟨f1, f2, f3, f4⟩ := finish_cases h.symm
    have hcredOk := register_ok hr1
    obtain ⟨x, hlog, hx⟩ : ∃ x, (authorize cfg inp w).log =
        p.2 ++ q.2 ++ (register cfg w a).2 ++ [.fetch a.authorizationEndpoint cred res] ++ x ∧
        (x = [] ∨ (ExchangeOk w a ∧ x = (exchange w a.tokenEndpoint cred probe).2)) := by
      rcases f4 with ⟨hl, _⟩ | ⟨hx, hl, _⟩
      · exact ⟨[], by rw [hl, List.append_nil], .inl rfl⟩
      · exact ⟨_, hl, .inr ⟨hx, rfl⟩⟩
    have hsub : ∀ e ∈ p.2 ++ q.2 ++ (register cfg w a).2, e ∈ (authorize cfg inp w).log := by
      intro e he; rw [hlog]; exact List.mem_append_left _ (List.mem_append_left _ he)
    have hcases : ∀ e ∈ (authorize cfg inp w).log, e ∈ p.2 ++ q.2 ++ (register cfg w a).2 ∨
        e = .fetch a.authorizationEndpoint cred res ∨
        (ExchangeOk w a ∧ e = .token a.tokenEndpoint cred ∧ ∀ n, a.tokenEndpoint ≠ .bad n) := by
      intro e he
      rw [hlog] at he
      rcases List.mem_append.1 he with he | he
      · rcases List.mem_append.1 he with he | he
        · exact .inl he
        · exact .inr (.inl (List.mem_singleton.1 he))
      · rcases hx with rfl | ⟨hx, rfl⟩
        · cases he
        · exact .inr (.inr ⟨hx, exchange_log he⟩)
    refine ⟨⟨?_, ?_, ?_, ?_⟩, ?_, ?_, ?_⟩
    · intro e he
      rcases hcases e he with he | rfl | ⟨hx, rfl, hb⟩
      · exact hmem e he _ f1 f3
      · exact .inr (.inr (.inr (.inl ⟨a, cred, f3, by rw [f2], hcredOk⟩)))
      · exact .inr (.inr (.inr (.inr ⟨a, cred, f3, rfl, hb, hcredOk, hx⟩)))
    · intro I' hI'
      rw [f1] at hI'
      cases hI'
      rw [f2]
      exact (hpj hp1).mono fun e he => hsub e (List.mem_append_left _ (List.mem_append_left _ he))
    · intro a' ha'
      rw [f3] at ha'
      cases ha'
      exact ⟨I, f1, (hqj hq1).mono fun e he => hsub e (List.mem_append_left _ (List.mem_append_right _ he))⟩
    · intro hi
      rcases f4 with ⟨_, hni, _⟩ | ⟨hx, hl, ⟨_, hni, _⟩ | ⟨_, _, hok⟩⟩
      · rw [hni] at hi; cases hi
      · rw [hni] at hi; cases hi
      · have hne : (exchange w a.tokenEndpoint cred probe).1 ≠ .fail ∧
            ((authorize cfg inp w).outcome = .ok ∨ (authorize cfg inp w).outcome = .post) := by
          rcases hok with ⟨hg, ho⟩ | ⟨hg, ho⟩
          · exact ⟨by rw [hg]; nofun, .inl ho⟩
          · exact ⟨by rw [hg]; nofun, .inr ho⟩
        obtain ⟨hm, i, hi'⟩ := exchange_success hne.1
        exact ⟨hne.2, a, f3, hx, cred, i, by rw [hl]; exact List.mem_append_right _ hm, by rw [hi']; exact hne.1⟩
    · intro e he
      rcases hcases e he with he | rfl | ⟨_, rfl, _⟩
      · exact .inl (hnone e he)
      all_goals exact .inr ⟨a, probe, f3, hr1, fun x hx => hsub x (List.mem_append_right _ hx)⟩
    · intro a' ha'
      rw [f3] at ha'
      cases ha'
      refine ⟨p, I, q, _, hp, hI, hq, hq1, ha, f1, by rw [hlog, List.append_assoc, List.append_assoc], ?_⟩
      intro e he k u hu
      rcases List.mem_append.1 he with he | he
      · rw [(hrl e he).1] at hu; cases hu
      · rcases List.mem_append.1 he with he | he
        · rw [List.mem_singleton.1 he] at hu; cases hu
        · rcases hx with rfl | ⟨_, rfl⟩
          · cases he
          · rw [(exchange_log he).1] at hu; cases hu
    · intro hi
      rcases f4 with ⟨_, hni, _⟩ | ⟨_, _, ⟨_, hni, _⟩ | ⟨hf, _⟩⟩
      · rw [hni] at hi; cases hi
      · rw [hni] at hi; cases hi
      · exact hf

theorem authorize_facts (cfg : Config) (inp : Input) (w : World) : Facts cfg inp w (authorize cfg inp w) :=
  (authorize_pass cfg inp w).facts

theorem authorize_source (cfg : Config) (inp : Input) (w : World) :
    ∀ e ∈ (authorize cfg inp w).log, Source cfg inp w (authorize cfg inp w) e := by
  intro e he
  rcases (authorize_facts cfg inp w).mem e he with ⟨c, hc, rfl, hh⟩ | ⟨I, hI, m, hm, rfl, hh⟩ | ⟨a, ha, rfl, h⟩ |
    ⟨a, cred, ha, rfl, h⟩ | ⟨a, cred, ha, rfl, h⟩
  · exact ⟨c, hc, rfl, hh⟩
  · exact ⟨I, hI, hm, hh⟩
  · exact ⟨a, ha, rfl, h⟩
  · exact ⟨a, ha, rfl, rfl, h⟩
  · exact ⟨a, ha, rfl, h⟩

theorem issuer_script {cfg : Config} {inp : Input} {w : World} {l : List Event} {I r : Url}
    (h : PrmJustifies cfg inp w l I r) (hs : I.isScript = true) : cfg.serverUrl.isScript = true := by
  rcases h with ⟨rfl, _⟩ | ⟨c, _, i, d, _, _, _, hsafe, hhead, _⟩
  · simpa using hs
  · have hmem : I ∈ d.authServers := List.mem_of_mem_head? hhead
    rcases hsafe I hmem with h | ⟨h, _⟩
    · subst h; simp [Url.isScript] at hs
    · rw [h] at hs; simp at hs

theorem fallback_endpoint_hol {w : World} {I : Url} {d : Wk}
    (h : ∀ m ∈ asmCandidates I, checkHOL m = true ∧ ∃ i, w.asm i m = .status4xx)
    (hb : ∀ n, I.derive d ≠ .bad n) : (I.derive d).httpsOrLoopback = true := by
  have hI : ∀ n, I ≠ .bad n := by
    intro n hn; subst hn; exact hb n rfl
  obtain ⟨m, hm⟩ := List.exists_mem_of_ne_nil _ (asmCandidates_ne_nil hI)
  obtain ⟨d', rfl⟩ := mem_asmCandidates hm
  simpa using checkHOL_derive (h _ hm).1

/-- **requests_https_or_loopback** — FULL STATEMENT (DESIGN §5 C15):
`∀ e ∈ (authorize cfg inp w).log, e.isRequest → e.url.httpsOrLoopback`.
`checkHTTPSOrLoopback("")` is nil, so it holds only of a tree in which `validateAuthServerMetaURLs` refuses a
metadata document WITHOUT the (REQUIRED) `token_endpoint` (finding F21, fixed in /repo: regenerated flag
`tokenEndpointRequired = true`); otherwise the code exchange is POSTed to the empty URL through the injected
client (`empty_token_endpoint_is_requested` below).
Proved here, whatever the flag: every request — protected-resource metadata at the three candidate locations,
authorization-server metadata at the up-to-three locations of the issuer, registration, token, and
the 2025-03-26 fall-back endpoints — goes to an https or loopback URL, the ONLY exception being a
token request to the empty URL. -/
theorem requests_https_or_loopback_partial (cfg : Config) (inp : Input) (w : World) (e : Event)
    (he : e ∈ (authorize cfg inp w).log) (hr : e.isRequest = true) :
    e.url.httpsOrLoopback = true ∨ ∃ c, e = .token .empty c := by
  have F := authorize_facts cfg inp w
  rcases F.mem e he with ⟨c, hc, rfl, hh⟩ | ⟨I, _, m, hm, rfl, hh⟩ | ⟨a, ha, rfl, hne, hnb⟩ | ⟨a, cred, _, rfl, _⟩ |
      ⟨a, cred, ha, rfl, hnb, _, _⟩
  · left
    rcases checkHOL_spec hh with h | h
    · rcases mem_prmCandidates hc with ⟨rfl, hne⟩ | rfl | rfl
      · exact absurd h hne
      · exact absurd h (derive_ne_empty _ _)
      · exact absurd h (derive_ne_empty _ _)
    · exact h
  · left
    obtain ⟨d, rfl⟩ := mem_asmCandidates hm
    rcases checkHOL_spec hh with h | h
    · exact absurd h (derive_ne_empty _ _)
    · exact h
  · left
    obtain ⟨I, _, hj⟩ := F.asm a ha
    rcases hj with ⟨m, _, i, _, _, _, _, _, h4, h5⟩ | ⟨rfl, h⟩
    · rcases h4 a.registrationEndpoint (by simp) with h | h
      · exact absurd h hne
      · exact h
    · exact fallback_endpoint_hol h hnb
  · simp [Event.isRequest] at hr
  · obtain ⟨I, _, hj⟩ := F.asm a ha
    rcases hj with ⟨m, _, i, _, _, _, _, _, h4, h5⟩ | ⟨rfl, h⟩
    · rcases h4 a.tokenEndpoint (by simp) with h | h
      · right; exact ⟨cred, by rw [h]⟩
      · left; exact h
    · left; exact fallback_endpoint_hol h hnb

theorem empty_token_request {cfg : Config} {inp : Input} {w : World} {c : Cred}
    (he : Event.token .empty c ∈ (authorize cfg inp w).log) :
    ∃ a I m i, w.asm i m = .doc a ∧ AsmDocOk a I ∧ a.tokenEndpoint = .empty := by
  obtain ⟨a, ha, ht, _⟩ := authorize_source cfg inp w _ he
  obtain ⟨I, _, ⟨m, _, i, hd, _, hok⟩ | ⟨rfl, _⟩⟩ := (authorize_facts cfg inp w).asm a ha
  · exact ⟨a, I, m, i, hd, hok, ht.symm⟩
  · exact absurd ht.symm (derive_ne_empty _ _)

/-- The exclusion made explicit: in a world that never serves authorization-server metadata without
a token endpoint, EVERY request goes to an https or loopback URL. -/
theorem requests_https_or_loopback_of_token_endpoints (cfg : Config) (inp : Input) (w : World)
    (hw : ∀ i m d, w.asm i m = .doc d → d.tokenEndpoint ≠ .empty)
    (e : Event) (he : e ∈ (authorize cfg inp w).log) (hr : e.isRequest = true) : e.url.httpsOrLoopback = true := by
  rcases requests_https_or_loopback_partial cfg inp w e he hr with h | ⟨c, rfl⟩
  · exact h
  · obtain ⟨a, _, m, i, hd, _, ht⟩ := empty_token_request he
    exact absurd ht (hw i m a hd)

/-- The FULL statement, for a tree in which `validateAuthServerMetaURLs` refuses metadata without a
token endpoint (regenerated flag `tokenEndpointRequired`).  The flag is `true` of /repo
(`oauthex/auth_meta.go`: "token_endpoint: missing"), so `hreq` is `rfl` there: Bridge.lean uses it so. -/
theorem requests_https_or_loopback_if_endpoint_required (hreq : Generated.OAuth.tokenEndpointRequired = true)
    (cfg : Config) (inp : Input) (w : World) (e : Event)
    (he : e ∈ (authorize cfg inp w).log) (hr : e.isRequest = true) : e.url.httpsOrLoopback = true := by
  rcases requests_https_or_loopback_partial cfg inp w e he hr with h | ⟨c, rfl⟩
  · exact h
  · obtain ⟨_, _, _, _, _, hok, ht⟩ := empty_token_request he
    exact absurd ht (hok.2.2.2.2 hreq)

/-- The authorization server the flow continues with and the `resource` parameter it sends are justified
(`PrmJustifies`); every authorization-server metadata request is derived from that server, and the `resource`
handed to the fetcher is that resource.  A protected-resource document failing the check therefore contributes
nothing to any later request. -/
theorem prm_used_only_if_resource_matches (cfg : Config) (inp : Input) (w : World) :
    (∀ I, (authorize cfg inp w).issuer = some I →
        PrmJustifies cfg inp w (authorize cfg inp w).log I (authorize cfg inp w).resource) ∧
    (∀ m, Event.get .asm m ∈ (authorize cfg inp w).log →
        ∃ I, (authorize cfg inp w).issuer = some I ∧ m ∈ asmCandidates I) ∧
    (∀ u c r, Event.fetch u c r ∈ (authorize cfg inp w).log →
        r = (authorize cfg inp w).resource ∧ ∃ I, (authorize cfg inp w).issuer = some I) := by
  have F := authorize_facts cfg inp w
  refine ⟨F.issuer, fun m hm => ?_, fun u c r hm => ?_⟩
  · obtain ⟨I, hI, hm', _⟩ := authorize_source cfg inp w _ hm
    exact ⟨I, hI, hm'⟩
  · obtain ⟨a, ha, _, hr, _⟩ := authorize_source cfg inp w _ hm
    obtain ⟨I, hI, _⟩ := F.asm a ha
    exact ⟨hr, I, hI⟩

/-- The metadata in use is justified (`AsmJustifies`: `issuer` equal to the trusted issuer up to one trailing
slash, PKCE advertised, URL fields checked), and the registration request, the authorization URL and the token
request use exactly its endpoints. -/
theorem asm_used_only_if_issuer_matches_and_pkce (cfg : Config) (inp : Input) (w : World) :
    (∀ a, (authorize cfg inp w).asm = some a →
        ∃ I, (authorize cfg inp w).issuer = some I ∧ AsmJustifies w (authorize cfg inp w).log I a) ∧
    (∀ u, Event.register u ∈ (authorize cfg inp w).log →
        ∃ a, (authorize cfg inp w).asm = some a ∧ u = a.registrationEndpoint) ∧
    (∀ u c r, Event.fetch u c r ∈ (authorize cfg inp w).log →
        ∃ a, (authorize cfg inp w).asm = some a ∧ u = a.authorizationEndpoint) ∧
    (∀ u c, Event.token u c ∈ (authorize cfg inp w).log →
        ∃ a, (authorize cfg inp w).asm = some a ∧ u = a.tokenEndpoint) :=
  ⟨(authorize_facts cfg inp w).asm,
   fun _ hm => let ⟨a, ha, hu, _⟩ := authorize_source cfg inp w _ hm; ⟨a, ha, hu⟩,
   fun _ _ _ hm => let ⟨a, ha, hu, _⟩ := authorize_source cfg inp w _ hm; ⟨a, ha, hu⟩,
   fun _ _ hm => let ⟨a, ha, hu, _⟩ := authorize_source cfg inp w _ hm; ⟨a, ha, hu⟩⟩

/-- A URL with a javascript/data/vbscript scheme is requested, or placed
in the authorization URL, only if the MCP server URL itself (the user's own input) has such a scheme,
or it is the `resource_metadata` URL of the challenge being fetched (a GET through the injected
client; `checkHTTPSOrLoopback` admits any scheme on a loopback host). In particular no URL FIELD of a
metadata document with a script-capable scheme is ever used. -/
theorem no_script_scheme_used (cfg : Config) (inp : Input) (w : World) (e : Event)
    (he : e ∈ (authorize cfg inp w).log) (hs : e.url.isScript = true) :
    cfg.serverUrl.isScript = true ∨ e = .get .prm (rmFrom inp.challenges) := by
  have F := authorize_facts cfg inp w
  have endpoint : ∀ a, (authorize cfg inp w).asm = some a → ∀ x,
      (x ∈ [a.authorizationEndpoint, a.tokenEndpoint, a.registrationEndpoint]) → x.isScript = true →
      cfg.serverUrl.isScript = true := by
    intro a ha x hx hxs
    obtain ⟨I, hI, hj⟩ := F.asm a ha
    rcases hj with ⟨m, _, i, _, _, _, _, h3, _⟩ | ⟨rfl, _⟩
    · have hx' : x ∈ [a.authorizationEndpoint, a.tokenEndpoint, a.registrationEndpoint, a.introspectionEndpoint] ++ a.otherUrls := by
        simp only [List.mem_cons, List.not_mem_nil, or_false] at hx
        rcases hx with rfl | rfl | rfl <;> simp
      rw [(h3 x hx').1] at hxs; simp at hxs
    · have hIs : I.isScript = true := by
        simp only [fallbackAsm, List.mem_cons, List.not_mem_nil, or_false] at hx
        rcases hx with rfl | rfl | rfl <;> simpa using hxs
      exact issuer_script (F.issuer I hI) hIs
  rcases F.mem e he with ⟨c, hc, rfl, _⟩ | ⟨I, hI, m, hm, rfl, _⟩ | ⟨a, ha, rfl, _⟩ | ⟨a, cred, ha, rfl, _⟩ |
      ⟨a, cred, ha, rfl, _⟩
  · rcases mem_prmCandidates hc with ⟨rfl, _⟩ | rfl | rfl
    · exact Or.inr rfl
    · left; simpa [Event.url] using hs
    · left; simpa [Event.url] using hs
  · left
    obtain ⟨d, rfl⟩ := mem_asmCandidates hm
    exact issuer_script (F.issuer I hI) (by simpa [Event.url] using hs)
  · exact Or.inl (endpoint a ha _ (by simp [Event.url]) hs)
  · exact Or.inl (endpoint a ha _ (by simp [Event.url]) hs)
  · exact Or.inl (endpoint a ha _ (by simp [Event.url]) hs)

/-- A token request appears in the log only if the fetcher
returned the generated state and the RFC 9207 check passes against the issuer of the metadata in use
(`iss` absent ⇒ the server did not advertise it; present ⇒ advertised and equal). -/
theorem exchange_requires_state_and_iss (cfg : Config) (inp : Input) (w : World) (u : Url) (c : Cred)
    (h : Event.token u c ∈ (authorize cfg inp w).log) :
    ∃ a, (authorize cfg inp w).asm = some a ∧ u = a.tokenEndpoint ∧
      ∃ iss, w.fetch a.authorizationEndpoint = .result true iss ∧ issCheck iss a.issuer a.issParamSupported = true :=
  let ⟨a, ha, hu, _, _, hx⟩ := authorize_source cfg inp w _ h
  ⟨a, ha, hu, hx⟩

/-- Pre-registered credentials appear in the authorization URL or in
a token request only if they are configured and either not bound to an issuer or bound to the issuer
of the metadata in use, up to one trailing slash. -/
theorem preregistered_issuer_binding (cfg : Config) (inp : Input) (w : World) (e : Event)
    (he : e ∈ (authorize cfg inp w).log) (hp : e.cred = .pre) :
    ∃ a pi, (authorize cfg inp w).asm = some a ∧ cfg.pre = some pi ∧ (pi = .empty ∨ issuersEqual pi a.issuer = true) := by
  rcases (authorize_pass cfg inp w).cred e he with hn | ⟨a, probe, ha, hr, _⟩
  · rw [hp] at hn; cases hn
  · rw [hp] at hr
    obtain ⟨pi, h1, h2⟩ := register_ok hr rfl
    exact ⟨a, pi, ha, h1, h2⟩

/-- A token source is installed only when `Authorize` got through
EVERY check — justified metadata, matching state, RFC 9207 — and a token round trip succeeded; the
only error returned after an installation is the post-installation token read of
`updateGrantedScopes` (outcome `post`: the token is already expired and has no refresh token), which
is not a check. -/
theorem failed_check_installs_nothing (cfg : Config) (inp : Input) (w : World) :
    ((authorize cfg inp w).installed = true →
      ((authorize cfg inp w).outcome = .ok ∨ (authorize cfg inp w).outcome = .post) ∧
      ∃ a I, (authorize cfg inp w).asm = some a ∧ (authorize cfg inp w).issuer = some I ∧
        PrmJustifies cfg inp w (authorize cfg inp w).log I (authorize cfg inp w).resource ∧
        AsmJustifies w (authorize cfg inp w).log I a ∧ ExchangeOk w a ∧
        ∃ cred i, Event.token a.tokenEndpoint cred ∈ (authorize cfg inp w).log ∧ w.tok i a.tokenEndpoint ≠ .fail) ∧
    (((authorize cfg inp w).outcome ≠ .ok ∧ (authorize cfg inp w).outcome ≠ .post) →
      (authorize cfg inp w).installed = false) := by
  have F := authorize_facts cfg inp w
  constructor
  · intro hi
    obtain ⟨ho, a, ha, hx, cred, i, ht⟩ := F.inst hi
    obtain ⟨I, hI, hj⟩ := F.asm a ha
    exact ⟨ho, a, I, ha, hI, F.issuer I hI, hj, hx, cred, i, ht⟩
  · intro ⟨h1, h2⟩
    cases hi : (authorize cfg inp w).installed
    · rfl
    · rcases (F.inst hi).1 with h | h
      · exact absurd h h1
      · exact absurd h h2

/-- Credentials of the dynamic-registration mode appear in the
authorization URL or a token request only if that mode is configured and the registration request
to the registration endpoint of the metadata in use is in the log of THIS call, answered with a
client id; a client-id-metadata-document URL only if configured and the metadata in use advertises
support.  (With `preregistered_issuer_binding`: every credential presented is resolved against the
metadata in use in the same call.) -/
theorem credentials_resolved_in_this_call (cfg : Config) (inp : Input) (w : World) (e : Event)
    (he : e ∈ (authorize cfg inp w).log) :
    (e.cred = .dcr → cfg.dcr = true ∧ ∃ a urls, (authorize cfg inp w).asm = some a ∧
        Event.register a.registrationEndpoint ∈ (authorize cfg inp w).log ∧
        w.reg a.registrationEndpoint = .created true urls) ∧
    (e.cred = .cimd → cfg.cimd = true ∧ ∃ a, (authorize cfg inp w).asm = some a ∧ a.cimdSupported = true) := by
  rcases (authorize_pass cfg inp w).cred e he with hn | ⟨a, probe, hasm, hr, hsub⟩
  · rw [hn]; exact ⟨nofun, nofun⟩
  · constructor
    · intro hd
      rw [hd] at hr
      obtain ⟨hreg, hdcr, urls, hw⟩ := register_dcr hr
      exact ⟨hdcr, a, urls, hasm, hsub _ hreg, hw⟩
    · intro hd
      rw [hd] at hr
      obtain ⟨h1, h2⟩ := (register_mode hr).1 rfl
      exact ⟨h1, a, hasm, h2⟩

/-- When the configured `NewTokenSource` returns an
error — AFTER every check passed and the code was exchanged — `Authorize` fails and `TokenSource()` is
what it was (the token obtained is dropped, not half-installed). -/
theorem token_source_constructor_error_installs_nothing (cfg : Config) (inp : Input) (w : World)
    (hn : w.ntsFails = true) :
    (authorize cfg inp w).installed = false := by
  cases hh : (authorize cfg inp w).installed with
  | false => rfl
  | true => rw [(authorize_pass cfg inp w).nts hh] at hn; cases hn

def roundResult (c : HConfig) (r : Round) : Result := authorize (c.at r.serverUrl) r.inp r.world

theorem Handler.authorize_cfg (h : Handler) (r : Round) : (h.authorize r).1.cfg = h.cfg := rfl

theorem Handler.run_cfg (h : Handler) (rs : List Round) : (h.run rs).1.cfg = h.cfg := by
  induction rs generalizing h with
  | nil => rfl
  | cons r rs ih => simp only [Handler.run]; rw [ih]; rfl

/-- Over ANY history of `Authorize` calls on one handler, the result of every round is `authorize` applied to the
handler's fixed configuration and THAT round's request, response and network: nothing resolved in an earlier round
(authorization server, metadata, client registration, fetcher answer) is reused. -/
theorem history_rounds_independent (h : Handler) (rs : List Round) :
    (h.run rs).2 = rs.map (roundResult h.cfg) ∧ (h.run rs).1.cfg = h.cfg ∧
    (h.run rs).1.rounds = h.rounds + rs.length := by
  induction rs generalizing h with
  | nil => exact ⟨rfl, rfl, rfl⟩
  | cons r rs ih =>
    obtain ⟨h1, h2, h3⟩ := ih (h.authorize r).1
    simp only [Handler.run, List.map_cons, List.length_cons]
    refine ⟨?_, ?_, ?_⟩
    · rw [h1]; rfl
    · rw [h2]; rfl
    · rw [h3]; simp only [Handler.authorize]; omega

theorem history_round_result (h : Handler) (rs : List Round) (i : Nat) (R : Result)
    (hR : (h.run rs).2[i]? = some R) : ∃ r, rs[i]? = some r ∧ R = roundResult h.cfg r := by
  rw [(history_rounds_independent h rs).1, List.getElem?_map] at hR
  cases hr : rs[i]? with
  | none => simp [hr] at hR
  | some r => simp [hr] at hR; exact ⟨r, rfl, hR.symm⟩

/-- In EVERY round of ANY history — whatever earlier rounds did,
e.g. a completed authorization against the issuer the credentials are bound to, followed by a round
in which the protected-resource metadata names another (perfectly valid) authorization server —
pre-registered credentials appear in the authorization URL or a token request only if they are
unbound or bound to the issuer of the metadata in use IN THAT ROUND. -/
theorem history_preregistered_issuer_binding (h : Handler) (rs : List Round) (R : Result)
    (hR : R ∈ (h.run rs).2) (e : Event) (he : e ∈ R.log) (hp : e.cred = .pre) :
    ∃ a pi, R.asm = some a ∧ h.cfg.pre = some pi ∧ (pi = .empty ∨ issuersEqual pi a.issuer = true) := by
  rw [(history_rounds_independent h rs).1, List.mem_map] at hR
  obtain ⟨r, _, rfl⟩ := hR
  exact preregistered_issuer_binding (h.cfg.at r.serverUrl) r.inp r.world e he hp

/-- Dynamically registered credentials presented in round `i` were issued in round `i`, by the registration
endpoint of the metadata in use in that round: credentials obtained from one authorization server are never
presented to another. -/
theorem history_registered_credentials_bound_to_round (h : Handler) (rs : List Round) (i : Nat) (R : Result)
    (hR : (h.run rs).2[i]? = some R) (e : Event) (he : e ∈ R.log) (hd : e.cred = .dcr) :
    h.cfg.dcr = true ∧ ∃ r a urls, rs[i]? = some r ∧ R.asm = some a ∧
      Event.register a.registrationEndpoint ∈ R.log ∧ r.world.reg a.registrationEndpoint = .created true urls := by
  obtain ⟨r, hr, rfl⟩ := history_round_result h rs i R hR
  obtain ⟨h1, a, urls, h2, h3, h4⟩ := (credentials_resolved_in_this_call (h.cfg.at r.serverUrl) r.inp r.world e he).1 hd
  exact ⟨h1, r, a, urls, hr, h2, h3, h4⟩

theorem failed_round_keeps_token_source (h : Handler) (r : Round)
    (hf : (h.authorize r).2.outcome ≠ .ok ∧ (h.authorize r).2.outcome ≠ .post) :
    (h.authorize r).1.served = h.served := by
  have := (failed_check_installs_nothing (h.cfg.at r.serverUrl) r.inp r.world).2 hf
  simp only [Handler.authorize] at this ⊢
  rw [this]; rfl

/-- After ANY history the handler serves the token source it
started with, or the one installed by a round `k` of the history whose own run installed it (and
therefore — `failed_check_installs_nothing` — passed every check against the network of round `k`). -/
theorem history_served_token_passed_every_check (h : Handler) (rs : List Round) :
    (h.run rs).1.served = h.served ∨
    ∃ k r, (h.run rs).1.served = .round (h.rounds + k) ∧ rs[k]? = some r ∧
      (roundResult h.cfg r).installed = true := by
  induction rs generalizing h with
  | nil => exact Or.inl rfl
  | cons r rs ih =>
    simp only [Handler.run]
    rcases ih (h.authorize r).1 with h1 | ⟨k, r', h1, h2, h3⟩
    · rw [h1]
      cases hi : (roundResult h.cfg r).installed with
      | false => left; simp only [Handler.authorize]; simp only [roundResult] at hi; rw [hi]; rfl
      | true =>
        right
        refine ⟨0, r, ?_, by simp, hi⟩
        simp only [Handler.authorize]; simp only [roundResult] at hi; rw [hi]; rfl
    · right
      refine ⟨k + 1, r', ?_, by simpa using h2, h3⟩
      rw [h1]; simp only [Handler.authorize]; congr 1; omega

/-- The served token, spelled out: it comes from a round with justified metadata, matching state,
passing RFC 9207 check and a successful token round trip — all with respect to THAT round's network. -/
theorem history_served_token_justified (h : Handler) (rs : List Round) (n : Nat)
    (hs : (h.run rs).1.served = .round n) (hne : h.served ≠ .round n) :
    ∃ k r, n = h.rounds + k ∧ rs[k]? = some r ∧
      ((roundResult h.cfg r).outcome = .ok ∨ (roundResult h.cfg r).outcome = .post) ∧
      ∃ a I, (roundResult h.cfg r).asm = some a ∧ (roundResult h.cfg r).issuer = some I ∧
        PrmJustifies (h.cfg.at r.serverUrl) r.inp r.world (roundResult h.cfg r).log I (roundResult h.cfg r).resource ∧
        AsmJustifies r.world (roundResult h.cfg r).log I a ∧ ExchangeOk r.world a ∧
        ∃ cred i, Event.token a.tokenEndpoint cred ∈ (roundResult h.cfg r).log ∧ r.world.tok i a.tokenEndpoint ≠ .fail := by
  rcases history_served_token_passed_every_check h rs with h1 | ⟨k, r, h1, h2, h3⟩
  · rw [h1] at hs; exact absurd hs hne
  · rw [h1] at hs
    injection hs with hs
    obtain ⟨ho, rest⟩ := (failed_check_installs_nothing (h.cfg.at r.serverUrl) r.inp r.world).1 h3
    exact ⟨k, r, hs.symm, h2, ho, rest⟩

/-! Worlds on which `authorize` is evaluated (`decide +kernel`): non-vacuity of the theorems above, and the three
boundary theorems `empty_token_endpoint_is_requested`, `script_challenge_url_is_fetched`,
`expired_token_installed_then_error`. -/
section Witness
def wHttps (host seg : Nat) : Url := .at ⟨"https", false, host⟩ seg 0 []
def wServer : Url := wHttps 1 1
def wAS : Url := wHttps 2 0
def wDoc : AsmDoc :=
  { issuer := wAS, authorizationEndpoint := wHttps 2 11, tokenEndpoint := wHttps 2 12, registrationEndpoint := .empty,
    introspectionEndpoint := .empty, pkce := true, issParamSupported := true, methodPost := true }
def wWorld (doc : AsmDoc) : World :=
  { prm := fun _ u => if u = wServer.derive .prmPath then .doc { resource := wServer, authServers := [wAS] } else .status4xx
    asm := fun _ u => if u = wAS.derive .asOAuth then .doc doc else .status4xx
    reg := fun _ => .fail
    tok := fun _ _ => .good
    fetch := fun _ => .result true wAS }
def wCfg : Config := { cimd := false, pre := some wAS, dcr := false, serverUrl := wServer }
def wInp : Input := { status403 := false, headerMalformed := false, challenges := [{ bearer := true }] }

/-- The premises of the theorems above are satisfiable: the honest world ends with a token installed,
pre-registered credentials in use. -/
example : (authorize wCfg wInp (wWorld wDoc)).installed = true ∧ (authorize wCfg wInp (wWorld wDoc)).outcome = .ok ∧
    (authorize wCfg wInp (wWorld wDoc)).log =
      [.get .prm (wServer.derive .prmPath), .get .asm (wAS.derive .asOAuth),
       .fetch (wHttps 2 11) .pre wServer, .token (wHttps 2 12) .pre] := by decide +kernel

/-- Forged state: no token request, nothing installed. -/
example : (authorize wCfg wInp { wWorld wDoc with fetch := fun _ => .result false wAS }).outcome = .state ∧
    (authorize wCfg wInp { wWorld wDoc with fetch := fun _ => .result false wAS }).installed = false := by decide +kernel

/-- Attacker's `iss`: rejected before the exchange. -/
example : (authorize wCfg wInp { wWorld wDoc with fetch := fun _ => .result true (wHttps 3 0) }).outcome = .issMismatch := by
  decide +kernel

/-- COUNTER-EXAMPLE to the full statement of `requests_https_or_loopback` in a tree that does not refuse it
(finding F21): metadata without a `token_endpoint` is accepted and the code exchange goes to the EMPTY URL
(which is neither https nor loopback).  The flag is `true` of /repo, where the hypothesis is false and this
theorem says nothing. -/
theorem empty_token_endpoint_is_requested (h : Generated.OAuth.tokenEndpointRequired = false) :
    ∃ cfg inp w e, e ∈ (authorize cfg inp w).log ∧ e.isRequest = true ∧ e.url.httpsOrLoopback = false :=
  ⟨wCfg, wInp, wWorld { wDoc with tokenEndpoint := .empty }, .token .empty .pre,
    (by decide +kernel : Generated.OAuth.tokenEndpointRequired = false →
      Event.token .empty .pre ∈ (authorize wCfg wInp (wWorld { wDoc with tokenEndpoint := .empty })).log) h,
    by decide +kernel, by decide +kernel⟩

/-- BOUNDARY of `no_script_scheme_used`: the `resource_metadata` URL of the CHALLENGE is only checked
with `checkHTTPSOrLoopback`, which admits any scheme on a loopback host — `javascript://localhost/…`
is fetched through the injected client (a GET; nothing is shown to a browser). The literal reading
"no script-scheme URL is ever requested" is therefore false of the code; the property as written
(no URL FIELD OF A METADATA DOCUMENT with such a scheme is used) is what the theorem proves.
Replayed on the real code by corpus/oauth/02-…ops. -/
theorem script_challenge_url_is_fetched :
    ∃ cfg inp w e, e ∈ (authorize cfg inp w).log ∧ e.isRequest = true ∧ e.url.isScript = true ∧
      cfg.serverUrl.isScript = false :=
  ⟨wCfg, { wInp with challenges := [{ bearer := true, resourceMetadata := .at ⟨"javascript", true, 0⟩ 9 0 [] }] },
   wWorld wDoc, .get .prm (.at ⟨"javascript", true, 0⟩ 9 0 []), by decide +kernel, by decide +kernel, by decide +kernel, by decide +kernel⟩

/-- BOUNDARY of `failed_check_installs_nothing`: an already-expired token without refresh token is
installed and `Authorize` then returns the error of the post-installation token read (`post`). -/
theorem expired_token_installed_then_error :
    ∃ cfg inp w, (authorize cfg inp w).installed = true ∧ (authorize cfg inp w).outcome = .post :=
  ⟨wCfg, wInp, { wWorld wDoc with tok := fun _ _ => .goodExpired }, by decide +kernel, by decide +kernel⟩

def wAS2 : Url := wHttps 4 0
def wDoc2 : AsmDoc :=
  { issuer := wAS2, authorizationEndpoint := wHttps 4 11, tokenEndpoint := wHttps 4 12, registrationEndpoint := .empty,
    introspectionEndpoint := .empty, pkce := true, methodPost := true }
def wWorld2 : World :=
  { prm := fun _ u => if u = wServer.derive .prmPath then .doc { resource := wServer, authServers := [wAS2] } else .status4xx
    asm := fun _ u => if u = wAS2.derive .asOAuth then .doc wDoc2 else .status4xx
    reg := fun _ => .fail
    tok := fun _ _ => .good
    fetch := fun _ => .result true .empty }
def wHandler : Handler := { cfg := { cimd := false, pre := some wAS, dcr := false } }
def wRound1 : Round := { serverUrl := wServer, inp := wInp, world := wWorld wDoc }
def wRound2 : Round :=
  { serverUrl := wServer, inp := { status403 := true, headerMalformed := false,
                                   challenges := [{ bearer := true, error := .insufficientScope }] }, world := wWorld2 }

/-- The history the binding theorem is about: round 1 completes against the issuer the credentials are
bound to; in round 2 (a 403 step-up) the resource names another, valid server.  Round 2 stops at the
binding check — two metadata GETs, no authorization URL, no token request — and the handler keeps
serving round 1's token. -/
example : ((wHandler.run [wRound1, wRound2]).2.map (·.outcome)) = [.ok, .preIss] ∧
    ((wHandler.run [wRound1, wRound2]).2.map (·.log.length)) = [4, 2] ∧
    (wHandler.run [wRound1, wRound2]).1.served = .round 0 := by decide +kernel

/-- …and an unbound pre-registration goes through in both rounds (the premise `e.cred = .pre` of the
history theorem is satisfiable in a later round, and `served` moves on). -/
example : ((({ wHandler with cfg := { cimd := false, pre := some .empty, dcr := false } } : Handler).run
      [wRound1, wRound2]).2.map (·.outcome)) = [.ok, .ok] ∧
    (({ wHandler with cfg := { cimd := false, pre := some .empty, dcr := false } } : Handler).run
      [wRound1, wRound2]).1.served = .round 1 := by decide +kernel
end Witness

end OAuth
