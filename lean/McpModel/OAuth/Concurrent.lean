import McpModel.OAuth.Bridge
/-!
# Attempts in flight (E11, C15): the state clause over ALL schedules

`CHandler` (Model.lean) is the handler with several `Authorize` calls in flight; a schedule is any list
of `start` / `answer` / `finish` steps.  The fetcher's answer carries a state VALUE (`StateVal`): the state
generated for some attempt of the handler, or a foreign one.  Whatever the schedule, the result reported for
attempt `k` is `attemptResult cfg k a` of an attempt `a` started under the number `k`, so the theorems about one
call carry over to every attempt of every schedule.
-/
namespace OAuth

theorem FetchV.answer_true {own : Nat} {f : FetchV} {iss : Url} (h : f.answer own = .result true iss) :
    f = .result (.gen own) iss := by
  cases f with
  | err => cases h
  | result s i =>
    simp only [FetchV.answer, FetchAnswer.result.injEq, beq_iff_eq] at h
    rw [h.1, h.2]

theorem FetchV.answer_peer (own j : Nat) (iss : Url) (h : j ≠ own) :
    (FetchV.result (.gen j) iss).answer own = .result false iss := by
  simp [FetchV.answer, h]

/-- What one step can do: all the theorems over schedules below know of `step`. -/
theorem CHandler.step_spec (c : CHandler) (s : Step) :
    (c.step s).1.cfg = c.cfg ∧
    (∀ k a, (k, a) ∈ (c.step s).1.flight → (k, a) ∈ c.flight ∨ s = .start a) ∧
    match (c.step s).2 with
    | none => (c.step s).1.served = c.served
    | some (k, R) => (∃ a, (k, a) ∈ c.flight ∧ R = attemptResult c.cfg k a) ∧
        (c.step s).1.served = if R.installed then .round k else c.served := by
  cases s with
  | start a =>
    refine ⟨rfl, fun k a' h => ?_, rfl⟩
    rcases List.mem_append.1 h with h | h
    · exact .inl h
    · cases List.mem_singleton.1 h; exact .inr rfl
  | answer k => exact ⟨rfl, fun _ _ h => .inl h, rfl⟩
  | finish k =>
    simp only [CHandler.step]
    cases hl : c.flight.lookup k with
    | none => exact ⟨rfl, fun _ _ h => .inl h, rfl⟩
    | some a => exact ⟨rfl, fun _ _ h => .inl (List.mem_filter.1 h).1, ⟨a, List.mem_of_lookup_eq_some hl, rfl⟩, rfl⟩

/-- Whatever the schedule, a reported result is `attemptResult` of an attempt that was in flight or started by the
schedule, under its own number: no step of another attempt has any influence on it. -/
theorem concurrent_results_are_attempt_results : ∀ (ss : List Step) (c : CHandler) (x : Nat × Result),
    x ∈ (c.run ss).2 → ∃ a, ((x.1, a) ∈ c.flight ∨ Step.start a ∈ ss) ∧ x.2 = attemptResult c.cfg x.1 a
  | [], _, _, h => by cases h
  | s :: ss, c, x, h => by
    obtain ⟨hcfg, hfl, hres⟩ := c.step_spec s
    have ih := concurrent_results_are_attempt_results ss (c.step s).1 x
    rw [hcfg] at ih
    have tail : x ∈ ((c.step s).1.run ss).2 →
        ∃ a, ((x.1, a) ∈ c.flight ∨ Step.start a ∈ s :: ss) ∧ x.2 = attemptResult c.cfg x.1 a := by
      intro h
      obtain ⟨a, hm | hm, hr⟩ := ih h
      · exact ⟨a, (hfl _ _ hm).imp id fun (e : s = .start a) => e ▸ List.mem_cons_self, hr⟩
      · exact ⟨a, .inr (List.mem_cons_of_mem _ hm), hr⟩
    simp only [CHandler.run] at h
    cases hs : (c.step s).2 with
    | none => rw [hs] at h; exact tail h
    | some y =>
      rw [hs] at h hres
      rcases List.mem_cons.1 h with rfl | h
      · obtain ⟨⟨a, hm, hr⟩, _⟩ := hres
        exact ⟨a, .inl hm, hr⟩
      · exact tail h

/-- `exchange_requires_state_and_iss` for one attempt among many: the state the fetcher of attempt `k` was
answered with is the one generated for attempt `k`. -/
theorem attempt_exchange_requires_own_state (hc : HConfig) (k : Nat) (a : Attempt) (u : Url) (cr : Cred)
    (h : Event.token u cr ∈ (attemptResult hc k a).log) :
    ∃ d, (attemptResult hc k a).asm = some d ∧ u = d.tokenEndpoint ∧
      ∃ iss, a.fetchV d.authorizationEndpoint = .result (.gen k) iss ∧ issCheck iss d.issuer d.issParamSupported = true := by
  obtain ⟨d, hd, hu, iss, hf, hi⟩ := exchange_requires_state_and_iss _ _ _ u cr h
  exact ⟨d, hd, hu, iss, FetchV.answer_true hf, hi⟩

theorem concurrent_exchange_requires_own_state (c : CHandler) (ss : List Step) (k : Nat) (R : Result)
    (hR : (k, R) ∈ (c.run ss).2) (u : Url) (cr : Cred) (h : Event.token u cr ∈ R.log) :
    ∃ a, ((k, a) ∈ c.flight ∨ Step.start a ∈ ss) ∧ ∃ d, R.asm = some d ∧ u = d.tokenEndpoint ∧
      ∃ iss, a.fetchV d.authorizationEndpoint = .result (.gen k) iss ∧ issCheck iss d.issuer d.issParamSupported = true := by
  obtain ⟨a, hm, hr⟩ := concurrent_results_are_attempt_results ss c (k, R) hR
  simp only at hr hm
  subst hr
  exact ⟨a, hm, attempt_exchange_requires_own_state c.cfg k a u cr h⟩

/-- An attempt whose fetcher is never answered with ITS OWN state
(it gets an error, a foreign value, or the state of ANOTHER attempt, in flight or finished) sends no
token request and installs no token source. -/
theorem concurrent_other_state_refused (hc : HConfig) (k : Nat) (a : Attempt)
    (hne : ∀ u iss, a.fetchV u ≠ .result (.gen k) iss) :
    (∀ u cr, Event.token u cr ∉ (attemptResult hc k a).log) ∧ (attemptResult hc k a).installed = false := by
  have h1 : ∀ u cr, Event.token u cr ∉ (attemptResult hc k a).log := by
    intro u cr h
    obtain ⟨d, _, _, iss, hf, _⟩ := attempt_exchange_requires_own_state hc k a u cr h
    exact hne _ _ hf
  refine ⟨h1, ?_⟩
  cases hi : (attemptResult hc k a).installed with
  | false => rfl
  | true =>
    obtain ⟨_, d, _, _, _, _, _, _, cred, _, ht, _⟩ := (failed_check_installs_nothing _ _ _).1 hi
    exact absurd ht (h1 _ _)

/-- Non-vacuity: two attempts in flight, the first answered with the SECOND's state. -/
example (hc : HConfig) (a b : Attempt) (iss : Url) (h : ∀ u, a.fetchV u = .result (.gen 1) iss) :
    ∃ R, (({ cfg := hc } : CHandler).run [.start a, .start b, .finish 0]).2 = [(0, R)] ∧ R.installed = false := by
  refine ⟨attemptResult hc 0 a, rfl, (concurrent_other_state_refused hc 0 a ?_).2⟩
  intro u i hh
  rw [h u] at hh
  cases hh

/-- The return of the fetcher of any attempt — its checks, its token request — changes nothing on the handler
and reports nothing. -/
theorem answer_is_invisible : ∀ (ss : List Step) (c : CHandler),
    c.run ss = c.run (ss.filter fun s => match s with | .answer _ => false | _ => true)
  | [], _ => rfl
  | s :: ss, c => by
    cases s with
    | answer k =>
      simp only [List.filter_cons, Bool.false_eq_true, if_false]
      simp only [CHandler.run, CHandler.step]
      exact answer_is_invisible ss c
    | start a =>
      simp only [List.filter_cons, if_true, CHandler.run]
      rw [answer_is_invisible ss]
    | finish k =>
      simp only [List.filter_cons, if_true, CHandler.run]
      rw [answer_is_invisible ss]

/-- Two attempts that have both exchanged their code and race for the last statement (`h.tokenSource = ts` under
`mu`): whichever order the two installations take, the handler then serves one whole source of one attempt — of the
one that installed LAST if it installed — never a mix. -/
theorem racing_finishes_serve_the_last (c : CHandler) (j k : Nat) (a b : Attempt) (hjk : j ≠ k)
    (ha : c.flight.lookup j = some a) (hb : c.flight.lookup k = some b) :
    (c.run [.finish j, .finish k]).2 = [(j, attemptResult c.cfg j a), (k, attemptResult c.cfg k b)] ∧
    (c.run [.finish j, .finish k]).1.served =
      if (attemptResult c.cfg k b).installed then .round k
      else if (attemptResult c.cfg j a).installed then .round j else c.served := by
  have hb' : (c.flight.filter fun p => p.1 != j).lookup k = some b := by
    rw [List.lookup_filter_ne _ (Ne.symm hjk), hb]
  simp only [CHandler.run, CHandler.step, ha, hb']
  constructor
  · trivial
  · cases h1 : (attemptResult c.cfg k b).installed <;> cases h2 : (attemptResult c.cfg j a).installed <;> simp

/-- What ANY `finish` step does to the token source served: the source its attempt installed, else (any failed
check) what was served before.  The name speaks of the second case only. -/
theorem concurrent_failed_attempt_keeps_token_source (c : CHandler) (k : Nat) (R : Result)
    (h : (c.step (.finish k)).2 = some (k, R)) :
    (c.step (.finish k)).1.served = if R.installed then .round k else c.served := by
  have hs := (c.step_spec (.finish k)).2.2
  rw [h] at hs
  exact hs.2

/-- After ANY schedule the handler serves what it served before, or the source installed by the `finish` of an
attempt of the schedule whose own run installed it. -/
theorem concurrent_served_token_installed_by_a_finished_attempt : ∀ (ss : List Step) (c : CHandler),
    (c.run ss).1.served = c.served ∨
    ∃ k R, (k, R) ∈ (c.run ss).2 ∧ (c.run ss).1.served = .round k ∧ R.installed = true
  | [], _ => .inl rfl
  | s :: ss, c => by
    obtain ⟨_, _, hres⟩ := c.step_spec s
    simp only [CHandler.run]
    rcases concurrent_served_token_installed_by_a_finished_attempt ss (c.step s).1 with h1 | ⟨k, R, hm, h1, h2⟩
    · rw [h1]
      cases hs : (c.step s).2 with
      | none => rw [hs] at hres; exact .inl hres
      | some y =>
        rw [hs] at hres
        rw [hres.2]
        cases hi : y.2.installed
        · exact .inl rfl
        · exact .inr ⟨y.1, y.2, List.mem_cons_self, rfl, hi⟩
    · refine .inr ⟨k, R, ?_, h1, h2⟩
      cases (c.step s).2 with
      | none => exact hm
      | some x => exact List.mem_cons_of_mem _ hm

/-- The token source served after ANY schedule of overlapping
attempts, if it is not the one served before, was installed by an attempt `k` that was answered with the
state generated FOR ATTEMPT `k`, passed the RFC 9207 check against the metadata it used, and got it from a
successful token round trip at that metadata's token endpoint — no failed check of any attempt, and no
answer meant for another attempt, ever changes what the transport presents. -/
theorem concurrent_served_token_justified (c : CHandler) (ss : List Step) (n : Nat)
    (hs : (c.run ss).1.served = .round n) (hne : c.served ≠ .round n) :
    ∃ a R, (n, R) ∈ (c.run ss).2 ∧ ((n, a) ∈ c.flight ∨ Step.start a ∈ ss) ∧ R = attemptResult c.cfg n a ∧
      (R.outcome = .ok ∨ R.outcome = .post) ∧
      ∃ d iss cred, R.asm = some d ∧ Event.token d.tokenEndpoint cred ∈ R.log ∧
        a.fetchV d.authorizationEndpoint = .result (.gen n) iss ∧ issCheck iss d.issuer d.issParamSupported = true := by
  rcases concurrent_served_token_installed_by_a_finished_attempt ss c with h1 | ⟨k, R, hm, h1, h2⟩
  · rw [h1] at hs; exact absurd hs hne
  · rw [h1] at hs
    injection hs with hs
    subst hs
    obtain ⟨a, hfl, hr⟩ := concurrent_results_are_attempt_results ss c (k, R) hm
    simp only at hfl hr
    subst hr
    obtain ⟨ho, d, _, hd, _, _, _, _, cred, _, ht, _⟩ := (failed_check_installs_nothing _ _ _).1 h2
    obtain ⟨d', hd', _, iss, hf, hi⟩ := attempt_exchange_requires_own_state c.cfg k a _ cred ht
    have : d' = d := by
      have h := hd'.symm.trans hd
      exact Option.some.inj h
    subst this
    exact ⟨a, _, hm, hfl, rfl, ho, d', iss, cred, hd', ht, hf, hi⟩

/-- A round of the sequential model as an attempt: a matching state is the attempt's own. -/
def Round.attempt (r : Round) (k : Nat) : Attempt :=
  { serverUrl := r.serverUrl, inp := r.inp, world := r.world,
    fetchV := fun u => match r.world.fetch u with
      | .err => .err
      | .result sm iss => .result (if sm then .gen k else .foreign) iss }

theorem Round.attempt_round (r : Round) (k : Nat) : (r.attempt k).round k = r := by
  cases r with
  | mk su inp w =>
    cases w with
    | mk p a rg t f nf =>
      simp only [Round.attempt, Attempt.round, Round.mk.injEq, World.mk.injEq, true_and, and_true]
      funext u
      cases hf : f u with
      | err => simp [FetchV.answer]
      | result sm iss => cases sm <;> simp [FetchV.answer]

/-- One `Authorize` call of the sequential handler is `start` immediately
followed by `finish`: same result, same token source served. -/
theorem sequential_is_concurrent (h : Handler) (r : Round) :
    let c : CHandler := { cfg := h.cfg, started := h.rounds, served := h.served }
    let c' := (c.step (.start (r.attempt h.rounds))).1
    (c'.step (.finish h.rounds)).2 = some (h.rounds, (h.authorize r).2) ∧
    (c'.step (.finish h.rounds)).1.served = (h.authorize r).1.served ∧
    (c'.step (.finish h.rounds)).1.started = (h.authorize r).1.rounds ∧
    (c'.step (.finish h.rounds)).1.flight = [] := by
  simp only [CHandler.step, List.nil_append, List.lookup, beq_self_eq_true, attemptResult, Round.attempt_round,
    Handler.authorize]
  simp

/-- One attempt in the form a record carries it (the `fetch` field of `tabs` is not read). -/
structure TAttempt where
  serverUrl : Url
  inp : Input
  tabs : Tabs
  fetchV : FetchV

def TAttempt.attempt (t : TAttempt) : Attempt :=
  { serverUrl := t.serverUrl, inp := t.inp, world := t.tabs.world, fetchV := fun _ => t.fetchV }

/-- The round the monitor is given for attempt `k`. -/
def TAttempt.mcase (hc : HConfig) (k : Nat) (t : TAttempt) : MCase :=
  { cfg := hc.at t.serverUrl, inp := t.inp,
    tabs := { prm := t.tabs.prm, asm := t.tabs.asm, tok := t.tabs.tok, reg := t.tabs.reg, fetch := t.fetchV.answer k,
              ntsFails := t.tabs.ntsFails } }

theorem attemptResult_mcase (hc : HConfig) (k : Nat) (t : TAttempt) :
    attemptResult hc k t.attempt = (t.mcase hc k).result := rfl

inductive TStep
  | start (t : TAttempt)
  | answer (k : Nat)
  | finish (k : Nat)

def TStep.step : TStep → Step
  | .start t => .start t.attempt
  | .answer k => .answer k
  | .finish k => .finish k

/-- Over ANY schedule of starts and finishes of well-formed attempts on a
fresh handler, for every result the model reports, the C15 monitor — given the model's observation of
that attempt and the round built from the attempt and its number — reports no clause, whatever its
state (the registrations of whichever attempts finished before). -/
theorem monitor_accepts_schedule (hc : HConfig) (ts : List TStep) (k : Nat) (R : Result)
    (hR : (k, R) ∈ (({ cfg := hc } : CHandler).run (ts.map TStep.step)).2)
    (hwf : ∀ t k, TStep.start t ∈ ts → (t.mcase hc k).wf = true) (hist : List Url) :
    ∃ t, TStep.start t ∈ ts ∧ R = (t.mcase hc k).result ∧
      monitor (t.mcase hc k) hist (obsOf R) = (none, modelRegd (t.mcase hc k).tabs R) := by
  obtain ⟨a, hm, hr⟩ := concurrent_results_are_attempt_results _ _ (k, R) hR
  simp only at hm hr
  rcases hm with hm | hm
  · cases hm
  · obtain ⟨s, hs, he⟩ := List.mem_map.1 hm
    cases s with
    | finish j => cases he
    | answer j => cases he
    | start t =>
      simp only [TStep.step, Step.start.injEq] at he
      subst he
      refine ⟨t, hs, hr, ?_⟩
      rw [hr, attemptResult_mcase]
      exact monitor_accepts_round (t.mcase hc k) (hwf t k hs) hist

/-- What the monitor says when attempt `k`, answered with the state
generated for ANOTHER attempt `j`, sends a token request: if no earlier clause (1)–(4) applies, the clause
reported is `exchState`. -/
theorem sound_exchState_peer (hc : HConfig) (k j : Nat) (hj : j ≠ k) (t : TAttempt) (iss : Url)
    (hf : t.fetchV = .result (.gen j) iss) (o : Obs) (ht : hasTok o.events = true) :
    chkExchange (t.mcase hc k) o = some .exchState := by
  simp only [chkExchange, ht, TAttempt.mcase, hf, FetchV.answer_peer k j iss hj]
  simp

end OAuth
