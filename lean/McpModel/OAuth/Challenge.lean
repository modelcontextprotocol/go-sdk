/-!
E11 — model of `oauthex.ParseWWWAuthenticate` (oauthex/resource_meta.go:154-304, with `splitChallenges` and
`parseSingleChallenge`), transliterated over character lists (the tokens the Go code distinguishes are: `"`, `\`, `,`, `=`, the ASCII blank
that separates scheme from parameters, Unicode white space, everything else).
For valid UTF-8 input the Go code's byte-indexed tests (`header[i-1] != '\\'`, the quoted-string
loop) coincide with the character-indexed ones below because every byte they test for is ASCII.
`strings.ToLower` is modelled on ASCII letters only (the harness's alphabet has no other cased letters).
Core Lean only (linked into the driver).
-/
namespace OAuth.Challenge

/-- `unicode.IsSpace`. -/
def isSpace (c : Char) : Bool :=
  c == '\t' || c == '\n' || c.toNat == 0x0b || c.toNat == 0x0c || c == '\r' || c == ' ' ||
  c.toNat == 0x85 || c.toNat == 0xa0 || c.toNat == 0x1680 || (0x2000 ≤ c.toNat && c.toNat ≤ 0x200a) ||
  c.toNat == 0x2028 || c.toNat == 0x2029 || c.toNat == 0x202f || c.toNat == 0x205f || c.toNat == 0x3000

def trimLeft : List Char → List Char
  | [] => []
  | c :: cs => if isSpace c then trimLeft cs else c :: cs

/-- `strings.TrimSpace`. -/
def trimSpace (l : List Char) : List Char := (trimLeft (trimLeft l).reverse).reverse

/-- `strings.Index(l, string(c))`: position of the first `c`. -/
def indexOf (c : Char) : List Char → Option Nat
  | [] => none
  | x :: xs => if x == c then some 0 else (indexOf c xs).map (· + 1)

def lower (l : List Char) : List Char := l.map Char.toLower

/-- Does the text after a comma look like `token=`? (`splitChallenges`' look-ahead) -/
def looksLikeParam (rest : List Char) : Bool :=
  let la := trimSpace rest
  match indexOf '=' la with
  | some (n + 1) => !((la.take (n + 1)).any isSpace)
  | _ => false

/-- `splitChallenges`. `cur` is the current challenge reversed, `prev` the previous character of the
whole header. `none` = error (header begins with a quote). -/
def splitGo : Option Char → Bool → List Char → List (List Char) → List Char → Option (List (List Char))
  | _, _, cur, acc, [] => some (acc ++ [cur.reverse])
  | prev, inQ, cur, acc, c :: rest =>
    if c == '"' then
      match prev with
      | none => none
      | some p => splitGo (some c) (if p != '\\' then !inQ else inQ) (c :: cur) acc rest
    else if c == ',' && !inQ then
      if looksLikeParam rest then splitGo (some c) inQ (c :: cur) acc rest
      else splitGo (some c) inQ [] (acc ++ [cur.reverse]) rest
    else splitGo (some c) inQ (c :: cur) acc rest

def splitChallenges (h : List Char) : Option (List (List Char)) := splitGo none false [] [] h

/-- The quoted-string loop: returns the value and what follows the closing quote; `none` = unterminated. -/
def quoted : List Char → List Char → Option (List Char × List Char)
  | _, [] => none
  | acc, '\\' :: c :: rest => quoted (c :: acc) rest
  | acc, '"' :: rest => some (acc.reverse, rest)
  | acc, c :: rest => quoted (c :: acc) rest

abbrev Params := List (List Char × List Char)

def setParam (k v : List Char) : Params → Params
  | [] => [(k, v)]
  | (k', v') :: t => if k' = k then (k, v) :: t else (k', v') :: setParam k v t

/-- The parameter loop of `parseSingleChallenge`; fuel = length of the text (every round consumes
at least the `=`). `none` = error. -/
def paramsGo : Nat → List Char → Params → Option Params
  | 0, p, acc => if p.isEmpty then some acc else none
  | fuel + 1, p, acc =>
    if p.isEmpty then some acc else
    match indexOf '=' p with
    | some (n + 1) =>
      let key := trimSpace (p.take (n + 1))
      let p1 := trimSpace (p.drop (n + 2))
      let r : Option (List Char × List Char) :=
        match p1 with
        | '"' :: q =>
          match quoted [] q with
          | none => none
          | some (v, rest) => some (v, trimSpace rest)
        | _ =>
          match indexOf ',' p1 with
          | none => some (p1, [])
          | some m => some (trimSpace (p1.take m), trimSpace (p1.drop m))
      match r with
      | none => none
      | some (v, p2) =>
        if v.isEmpty then none else
        let acc' := setParam (lower key) v acc
        match p2 with
        | ',' :: p3 => paramsGo fuel (trimSpace p3) acc'
        | [] => some acc'
        | _ => none
    | _ => none

structure Parsed where
  scheme : List Char
  params : Params

/-- `parseSingleChallenge`. -/
def parseSingle (s : List Char) : Option Parsed :=
  let s := trimSpace s
  if s.isEmpty then none else
  match indexOf ' ' s with
  | none => some { scheme := lower s, params := [] }
  | some n =>
    match paramsGo (s.length + 1) (s.drop (n + 1)) [] with
    | none => none
    | some ps => some { scheme := lower (s.take n), params := ps }

def parseAll : List (List Char) → Option (List Parsed)
  | [] => some []
  | cs :: t =>
    if (trimSpace cs).isEmpty then parseAll t
    else match parseSingle cs, parseAll t with
      | some c, some r => some (c :: r)
      | _, _ => none

/-- `ParseWWWAuthenticate`. -/
def parseHeaders : List (List Char) → Option (List Parsed)
  | [] => some []
  | h :: t =>
    match splitChallenges h with
    | none => none
    | some css =>
      match parseAll css, parseHeaders t with
      | some a, some b => some (a ++ b)
      | _, _ => none

def Parsed.get (p : Parsed) (k : String) : List Char :=
  (p.params.lookup k.toList).getD []

theorem lookup_setParam (k v k2 : List Char) : ∀ (acc : Params),
    (setParam k v acc).lookup k2 = if k2 = k then some v else acc.lookup k2
  | [] => by
    by_cases h : k2 = k
    · simp [setParam, h]
    · simp [setParam, List.lookup_cons, h, beq_eq_false_iff_ne.2 h]
  | (k', v') :: t => by
    simp only [setParam]
    by_cases h2 : k2 = k'
    · subst h2
      by_cases he : k2 = k <;> simp [he]
    · have hb := beq_eq_false_iff_ne.2 h2
      by_cases he : k' = k
      · have hb' := beq_eq_false_iff_ne.2 (he ▸ h2)
        simp [he, List.lookup_cons, hb', he ▸ h2]
      · simp [he, List.lookup_cons, hb, lookup_setParam k v k2 t]

/-- After `params[strings.ToLower(key)] = value` the parameter `k` has the value
just set, whatever was stored under that name before (an attacker-supplied earlier `resource_metadata`, `scope`
or `error` of the same challenge does not survive a later one). -/
theorem duplicate_param_last_wins (k v : List Char) : ∀ (acc : Params), (setParam k v acc).lookup k = some v :=
  fun acc => by rw [lookup_setParam, if_pos rfl]

theorem setParam_other (k v k2 : List Char) (h : k2 ≠ k) : ∀ (acc : Params), (setParam k v acc).lookup k2 = acc.lookup k2 :=
  fun acc => by rw [lookup_setParam, if_neg h]

end OAuth.Challenge
