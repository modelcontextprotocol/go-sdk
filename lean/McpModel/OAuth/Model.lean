import McpModel.Generated.OAuthGen
/-!
E11 — model of the OAuth client flow `AuthorizationCodeHandler.Authorize`
(auth/authorization_code.go:281-699, auth/shared.go, oauthex/{oauth2,resource_meta,auth_meta,dcr}.go,
internal/authutil/util.go).  Serves C15.

`authorize` is a SEQUENTIAL function over a scripted *world*: the world answers every HTTP request
(by step number and URL) and plays the authorization-code fetcher; the function returns the ordered
log of what was requested / handed to the fetcher, the outcome, and whether a token source was
installed.  URLs are structured values: parsing (`net/url`) and `util.IsLoopback` are the harness's
job — a URL value carries its scheme string (as `url.Parse` reports it, lower-case), whether its
host is a loopback address, an opaque host name, an opaque path segment, the number of trailing
slashes and the string operations (`Wk`) applied to it by the code.  Equality of URL values is
equality of the strings they stand for on the inputs the record language admits (`MCase.wf`, Monitor.lean: the
harness renders them injectively only there).

`Handler.run` is the handler across MANY `Authorize` calls: a list of rounds, each
with its own request URL, 401/403 response and world; the handler carries only its fixed
configuration and the token source installed last.  `CHandler` (end of the file) is the handler with
several calls in flight at once (`Attempt`, `Step`, `attemptResult`, `CHandler.run`).

The predicates the code decides with (`scriptSchemes`, `holReject`, `validateIssuerResponse`) are
REGENERATED from /repo (Generated/OAuthGen.lean); the specification predicates
(`Url.httpsOrLoopback`, `Url.isScript`, `issCheck`) are written by hand here. Props.lean proves the
flow properties about the specification predicates, so a changed Go predicate re-opens the proofs.
Core Lean only (linked into the driver).
-/
namespace OAuth
open Generated.OAuth

/-- String operations the code applies to a URL to obtain the next URL it contacts. -/
inductive Wk
  | prmPath      -- "/.well-known/oauth-protected-resource/" + TrimLeft(path)
  | prmRoot      -- "/.well-known/oauth-protected-resource"
  | asOAuth      -- "/.well-known/oauth-authorization-server"           (issuer without path)
  | asOIDC       -- "/.well-known/openid-configuration"                 (issuer without path)
  | asOAuthIns   -- "/.well-known/oauth-authorization-server/" + path   (insertion)
  | asOIDCIns    -- "/.well-known/openid-configuration/" + path         (insertion)
  | asOIDCApp    -- "/" + path + "/.well-known/openid-configuration"    (appending)
  | authorize    -- issuer + "/authorize"   (2025-03-26 fall-back)
  | token        -- issuer + "/token"
  | register     -- issuer + "/register"
deriving DecidableEq, Repr

/-- For the tie to the regenerated tables (`wk_tables_match`). -/
def Wk.lits : Wk → List String
  | .prmPath => ["/.well-known/oauth-protected-resource/"]
  | .prmRoot => ["/.well-known/oauth-protected-resource"]
  | .asOAuth => ["/.well-known/oauth-authorization-server"]
  | .asOIDC => ["/.well-known/openid-configuration"]
  | .asOAuthIns => ["/.well-known/oauth-authorization-server/"]
  | .asOIDCIns => ["/.well-known/openid-configuration/"]
  | .asOIDCApp => ["/", "/.well-known/openid-configuration"]
  | .authorize => ["/authorize"]
  | .token => ["/token"]
  | .register => ["/register"]

/-- Candidate order of `protectedResourceMetadataURLs` (after the challenge's own URL). -/
def prmWk : List Wk := [.prmPath, .prmRoot]
/-- Candidate order of `authorizationServerMetadataURLs` for an issuer without / with a path. -/
def asWkNoPath : List Wk := [.asOAuth, .asOIDC]
def asWkWithPath : List Wk := [.asOAuthIns, .asOIDCIns, .asOIDCApp]
def fallbackWk : List Wk := [.authorize, .token, .register]

structure Origin where
  scheme : String      -- as reported by url.Parse (lower-case); "" for a scheme-less reference
  loopback : Bool      -- util.IsLoopback(u.Host)
  host : Nat           -- opaque authority
deriving DecidableEq, Repr

inductive Url
  | empty                                                   -- the Go string ""
  | bad (n : Nat)                                           -- url.Parse fails
  | at (o : Origin) (seg : Nat) (slashes : Nat) (ds : List Wk)  -- scheme://host[/p<seg>] + "/"*slashes, then ds
deriving DecidableEq, Repr

namespace Url
/-- Apply one string operation. All of them keep scheme and authority. On "" the result is a
scheme-less, host-less reference. `url.Parse` failures propagate. -/
def derive (u : Url) (d : Wk) : Url :=
  match u with
  | .empty => .at ⟨"", false, 0⟩ 0 0 [d]
  | .bad n => .bad n
  | .at o s k ds => .at o s k (ds ++ [d])

/-- `u.Path = ""; u.String()`. -/
def root : Url → Url
  | .at o _ _ _ => .at o 0 0 []
  | u => u

/-- `baseURL.Path != ""`. -/
def hasPath : Url → Bool
  | .at _ s k ds => s != 0 || k != 0 || !ds.isEmpty
  | _ => false

/-- `strings.TrimSuffix(s, "/")`. -/
def trimSlash : Url → Url
  | .at o s (k + 1) [] => .at o s k []
  | u => u

/-- SPEC: an https URL or a URL whose host is a loopback address. -/
def httpsOrLoopback : Url → Bool
  | .at o _ _ _ => o.loopback || o.scheme == "https"
  | _ => false

/-- SPEC: a script-capable scheme. -/
def isScript : Url → Bool
  | .at o _ _ _ => o.scheme == "javascript" || o.scheme == "data" || o.scheme == "vbscript"
  | _ => false

def scheme : Url → String
  | .at o _ _ _ => o.scheme
  | _ => ""
end Url

/-- `authutil.IssuersEqual`: equal after removing ONE trailing slash from each. -/
def issuersEqual (a b : Url) : Bool := a.trimSlash == b.trimSlash

/-- `oauthex.checkURLScheme` (true = accepted): "" passes, a parse error fails, a scheme on the
regenerated list fails. -/
def checkScheme : Url → Bool
  | .empty => true
  | .bad _ => false
  | .at o _ _ _ => !scriptSchemes.contains o.scheme

/-- `oauthex.checkHTTPSOrLoopback` (true = accepted): "" passes, a parse error fails, otherwise the
regenerated rejecting condition decides. -/
def checkHOL : Url → Bool
  | .empty => true
  | .bad _ => false
  | .at o _ _ _ => !holReject o.loopback o.scheme

/-- SPEC of the RFC 9207 check: `iss` absent ⇒ the server must not have advertised it; present ⇒
the server advertised it and it equals the issuer of the metadata in use. -/
def issCheck (iss issuer : Url) (advertised : Bool) : Bool :=
  if iss = .empty then !advertised else advertised && iss == issuer

/-! ### Documents and the world -/

structure PrmDoc where
  resource : Url
  authServers : List Url
deriving Repr, DecidableEq

structure AsmDoc where
  issuer : Url
  authorizationEndpoint : Url
  tokenEndpoint : Url
  registrationEndpoint : Url
  introspectionEndpoint : Url
  otherUrls : List Url := []     -- jwks_uri, service_documentation, op_policy_uri, op_tos_uri, revocation_endpoint
  pkce : Bool := false           -- code_challenge_methods_supported non-empty
  cimdSupported : Bool := false
  issParamSupported : Bool := false
  methodPost : Bool := false     -- token_endpoint_auth_methods_supported ∋ client_secret_post
  methodBasic : Bool := false    -- … ∋ client_secret_basic
deriving Repr, DecidableEq

/-- What `getJSON` can see. -/
inductive Resp (α : Type)
  | transportErr
  | status4xx          -- 400 … 499
  | statusOther        -- any other status ≠ 200 (redirects are not followed: a 3xx lands here)
  | wrongContentType
  | badJSON
  | doc (d : α)
deriving Repr

/-- What `RegisterClient` can see: a decodable 200/201 document (has a client_id?, its URL fields),
or any failure (transport, other status, 400 error document, undecodable body). -/
inductive RegResp
  | fail
  | created (hasClientId : Bool) (urls : List Url)
deriving Repr

/-- What one token round trip yields: failure (transport, non-2xx, `error` member, no access_token,
undecodable), a usable token, or a token that is already expired and has no refresh token. -/
inductive TokResp
  | fail | good | goodExpired
deriving Repr, DecidableEq

/-- The authorization-code fetcher: an error, or a result whose `state` equals the generated one or
not, with the `iss` parameter (`.empty` = absent). -/
inductive FetchAnswer
  | err
  | result (stateMatches : Bool) (iss : Url)
deriving Repr

/-- A world answers each request by step number (candidate index / attempt number) and URL: one call can ask the same
URL twice (the challenge's `resource_metadata` URL may be a well-known location too; a token request is repeated when the
first probe fails), and the step number lets the answers differ.  Table worlds (`Tabs.world`, Monitor.lean) ignore it
for `prm` and `asm`. -/
structure World where
  prm : Nat → Url → Resp PrmDoc
  asm : Nat → Url → Resp AsmDoc
  reg : Url → RegResp
  tok : Nat → Url → TokResp
  fetch : Url → FetchAnswer      -- by authorization endpoint
  /-- `AuthorizationCodeHandlerConfig.NewTokenSource` is set AND returns an error in this round (a configured
  callback, like the fetcher).  When it is set and succeeds the source it returns is the one installed; the
  harness's constructor wraps `oauth2.Config.TokenSource`, so its expiry behaviour is the default one. -/
  ntsFails : Bool := false

/-! ### Handler configuration and the 401/403 response -/

structure Config where
  cimd : Bool                 -- ClientIDMetadataDocumentConfig set
  pre : Option Url            -- PreregisteredClient set; its Issuer (`.empty` = not bound)
  dcr : Bool                  -- DynamicClientRegistrationConfig set
  serverUrl : Url             -- req.URL
deriving Repr

inductive ChErr | none | insufficientScope | other
deriving DecidableEq, Repr

/-- One parsed challenge, reduced to what `Authorize` reads. -/
structure Challenge where
  bearer : Bool
  resourceMetadata : Url := .empty     -- `.empty` = parameter absent
  error : ChErr := .none
deriving Repr

structure Input where
  status403 : Bool
  headerMalformed : Bool
  challenges : List Challenge
deriving Repr

/-- `resourceMetadataURLFromChallenges`: first non-empty parameter of ANY scheme. -/
def rmFrom : List Challenge → Url
  | [] => .empty
  | c :: cs => if c.resourceMetadata != .empty then c.resourceMetadata else rmFrom cs

/-- `errorFromChallenges`: first non-empty `error` of a Bearer challenge. -/
def errorFrom : List Challenge → ChErr
  | [] => .none
  | c :: cs => if c.bearer && c.error != .none then c.error else errorFrom cs

/-! ### The log -/

inductive Cred | none | cimd | pre | dcr
deriving DecidableEq, Repr

inductive Kind | prm | asm
deriving DecidableEq, Repr

inductive Event
  | get (k : Kind) (url : Url)                          -- GET through the injected client
  | register (url : Url)                                -- POST (dynamic registration)
  | fetch (endpoint : Url) (cred : Cred) (resource : Url)  -- authorization URL handed to the fetcher
  | token (url : Url) (cred : Cred)                     -- POST (code exchange)
deriving DecidableEq, Repr

def Event.url : Event → Url
  | .get _ u => u
  | .register u => u
  | .fetch u _ _ => u
  | .token u _ => u

def Event.isRequest : Event → Bool
  | .fetch _ _ _ => false
  | _ => true

def Event.cred : Event → Cred
  | .fetch _ c _ => c
  | .token _ c => c
  | _ => .none

/-- How `Authorize` ended.  `ok`: nil after an installation; `skip`: nil at once (a 403 without
`insufficient_scope`); `hdr`: malformed challenge header; `noas`: a valid protected-resource document names
no authorization server; `asm…`, `preIss`, `reg`/`noReg`, `fetch`, `state`, `iss…`, `exch`: the error of that
check or step; `tsErr`: `NewTokenSource` failed after the exchange; `post`: the error of the token read AFTER the
installation (`updateGrantedScopes`). -/
inductive Outcome
  | ok | skip | hdr | noas
  | asmUrl | asmFetch | asmIssuer | asmPkce | asmField
  | preIss | reg | noReg
  | fetch | state | issMissing | issMismatch | issUnexpected
  | exch | tsErr | post
deriving DecidableEq, Repr

/-! ### Protected-resource metadata discovery -/

/-- `protectedResourceMetadataURLs`: (metadata URL, resource it must name). -/
def prmCandidates (ch u : Url) : List (Url × Url) :=
  (if ch != .empty then [(ch, u)] else []) ++
  prmWk.map fun d => (u.derive d, if d = .prmRoot then u.root else u)

/-- The checks of `GetProtectedResourceMetadata` on a fetched document. -/
def prmDocOk (d : PrmDoc) (resource : Url) : Bool :=
  d.resource == resource && d.authServers.all fun a => checkScheme a && checkHOL a

/-- `oauthex.GetProtectedResourceMetadata`: `none` = error (the caller moves on). -/
def fetchPrm (w : World) (i : Nat) (c : Url × Url) : Option PrmDoc × List Event :=
  if !checkHOL c.1 then (none, [])
  else match w.prm i c.1 with
    | .doc d => (if prmDocOk d c.2 then some d else none, [.get .prm c.1])
    | _ => (none, [.get .prm c.1])

inductive PrmRes
  | noAS                  -- a valid document without authorization servers: hard error
  | found (d : PrmDoc)    -- d.authServers ≠ []
  | fallback              -- 2025-03-26: the MCP server's root is the authorization server
deriving Repr

def discoverPrm (w : World) : Nat → List (Url × Url) → PrmRes × List Event
  | _, [] => (.fallback, [])
  | i, c :: cs =>
    match fetchPrm w i c with
    | (some d, ev) => (if d.authServers.isEmpty then .noAS else .found d, ev)
    | (none, ev) => ((discoverPrm w (i + 1) cs).1, ev ++ (discoverPrm w (i + 1) cs).2)

/-- The authorization server and the resource identifier the flow continues with. -/
def PrmRes.issuer (u : Url) : PrmRes → Url
  | .found d => d.authServers.headD .empty
  | _ => u.root

def PrmRes.resource (u : Url) : PrmRes → Url
  | .found d => d.resource
  | _ => u

/-! ### Authorization-server metadata discovery -/

/-- `authorizationServerMetadataURLs`. -/
def asmCandidates (issuer : Url) : List Url :=
  match issuer with
  | .bad _ => []
  | _ => (if issuer.hasPath then asWkWithPath else asWkNoPath).map issuer.derive

/-- `validateAuthServerMetaURLs`. The first line says which REQUIRED endpoints the code refuses metadata
without (regenerated flags: of /repo `tokenEndpointRequired = true` — "token_endpoint: missing", finding
F21 — and `authorizationEndpointRequired = false`: an empty `authorization_endpoint` passes). -/
def asmUrlsOk (d : AsmDoc) : Bool :=
  (!authorizationEndpointRequired || d.authorizationEndpoint != .empty) && (!tokenEndpointRequired || d.tokenEndpoint != .empty) &&
  ([d.authorizationEndpoint, d.tokenEndpoint, d.registrationEndpoint, d.introspectionEndpoint] ++ d.otherUrls).all checkScheme &&
  [d.authorizationEndpoint, d.tokenEndpoint, d.registrationEndpoint, d.introspectionEndpoint].all checkHOL

inductive AsmStep
  | err (o : Outcome)
  | next
  | found (d : AsmDoc)
deriving Repr

/-- `oauthex.GetAuthServerMeta`. -/
def fetchAsm (w : World) (i : Nat) (m issuer : Url) : AsmStep × List Event :=
  if !checkHOL m then (.err .asmUrl, [])
  else match w.asm i m with
    | .status4xx => (.next, [.get .asm m])
    | .doc d =>
      (if !issuersEqual d.issuer issuer then .err .asmIssuer
       else if !d.pkce then .err .asmPkce
       else if !asmUrlsOk d then .err .asmField
       else .found d, [.get .asm m])
    | _ => (.err .asmFetch, [.get .asm m])

/-- `auth.GetAuthServerMetadata`: `.next` = (nil, nil), no location answered with a document. -/
def discoverAsm (w : World) (issuer : Url) : Nat → List Url → AsmStep × List Event
  | _, [] => (.next, [])
  | i, m :: ms =>
    match fetchAsm w i m issuer with
    | (.next, ev) => ((discoverAsm w issuer (i + 1) ms).1, ev ++ (discoverAsm w issuer (i + 1) ms).2)
    | r => r

/-- 2025-03-26 fall-back: predefined endpoints under the authorization server URL. -/
def fallbackAsm (issuer : Url) : AsmDoc :=
  { issuer := issuer, authorizationEndpoint := issuer.derive .authorize, tokenEndpoint := issuer.derive .token,
    registrationEndpoint := issuer.derive .register, introspectionEndpoint := .empty }

/-! ### Registration, authorization, exchange -/

inductive RegRes
  | err (o : Outcome)
  | ok (cred : Cred) (probe : Bool)    -- probe: oauth2.AuthStyleAutoDetect (a failed exchange is retried once)
deriving Repr

/-- `handleRegistration`. -/
def register (cfg : Config) (w : World) (a : AsmDoc) : RegRes × List Event :=
  if cfg.cimd && a.cimdSupported then (.ok .cimd true, [])
  else match cfg.pre with
    | some pi =>
      if pi != .empty && !issuersEqual pi a.issuer then (.err .preIss, [])
      else (.ok .pre (!(a.methodPost || a.methodBasic)), [])
    | none =>
      if cfg.dcr && a.registrationEndpoint != .empty then
        match a.registrationEndpoint with
        | .bad _ => (.err .reg, [])      -- http.NewRequest fails
        | r =>
          match w.reg r with
          | .created true urls => (if urls.all checkScheme then .ok .dcr false else .err .reg, [.register r])
          | _ => (.err .reg, [.register r])
      else (.err .noReg, [])

/-- `oauth2.Config.Exchange` (internal.RetrieveToken): one round trip, a second one when the
authentication style is being probed and the first failed. -/
def exchange (w : World) (t : Url) (cred : Cred) (probe : Bool) : TokResp × List Event :=
  match t with
  | .bad _ => (.fail, [])
  | _ =>
    match w.tok 0 t with
    | .fail => if probe then (w.tok 1 t, [.token t cred, .token t cred]) else (.fail, [.token t cred])
    | r => (r, [.token t cred])

structure Result where
  log : List Event := []
  outcome : Outcome
  installed : Bool := false
  /- ghost fields (what was trusted), for the statements of the theorems -/
  issuer : Option Url := none       -- prm.AuthorizationServers[0]
  resource : Url := .empty          -- prm.Resource (the `resource` parameter of the flow)
  asm : Option AsmDoc := none       -- the metadata in use (document or fall-back)
deriving Repr

/-- After the fetcher returned: state comparison, RFC 9207 check, exchange, construction of the token source
(`NewTokenSource` if configured: its error ends the call with NOTHING installed), installation, and the
post-installation token read of `updateGrantedScopes`. -/
def finish (w : World) (a : AsmDoc) (issuer resource : Url) (cred : Cred) (probe : Bool) (pre : List Event) : Result :=
  match w.fetch a.authorizationEndpoint with
  | .err => { log := pre, outcome := .fetch, issuer := some issuer, resource := resource, asm := some a }
  | .result sm iss =>
    if !sm then { log := pre, outcome := .state, issuer := some issuer, resource := resource, asm := some a }
    else match validateIssuerResponse Url.empty iss a.issuer a.issParamSupported with
      | 0 =>
        match exchange w a.tokenEndpoint cred probe with
        | (.fail, l4) => { log := pre ++ l4, outcome := .exch, issuer := some issuer, resource := resource, asm := some a }
        | (.good, l4) =>
          if w.ntsFails then { log := pre ++ l4, outcome := .tsErr, issuer := some issuer, resource := resource, asm := some a }
          else { log := pre ++ l4, outcome := .ok, installed := true, issuer := some issuer, resource := resource, asm := some a }
        | (.goodExpired, l4) =>
          if w.ntsFails then { log := pre ++ l4, outcome := .tsErr, issuer := some issuer, resource := resource, asm := some a }
          else { log := pre ++ l4, outcome := .post, installed := true, issuer := some issuer, resource := resource, asm := some a }
      | 1 => { log := pre, outcome := .issMissing, issuer := some issuer, resource := resource, asm := some a }
      | 2 => { log := pre, outcome := .issMismatch, issuer := some issuer, resource := resource, asm := some a }
      | _ => { log := pre, outcome := .issUnexpected, issuer := some issuer, resource := resource, asm := some a }

/-- The metadata in use after discovery: the document found, else the 2025-03-26 fall-back. -/
def effAsm (q : AsmStep) (issuer : Url) : AsmDoc :=
  match q with
  | .found d => d
  | _ => fallbackAsm issuer

/-- `AuthorizationCodeHandler.Authorize`. -/
def authorize (cfg : Config) (inp : Input) (w : World) : Result :=
  if inp.headerMalformed then { outcome := .hdr }
  else if inp.status403 && errorFrom inp.challenges != .insufficientScope then { outcome := .skip }
  else
    let p := discoverPrm w 0 (prmCandidates (rmFrom inp.challenges) cfg.serverUrl)
    match p.1 with
    | .noAS => { log := p.2, outcome := .noas }
    | pr =>
      let issuer := pr.issuer cfg.serverUrl
      let resource := pr.resource cfg.serverUrl
      let q := discoverAsm w issuer 0 (asmCandidates issuer)
      match q.1 with
      | .err o => { log := p.2 ++ q.2, outcome := o, issuer := some issuer, resource := resource }
      | qr =>
        let a := effAsm qr issuer
        let r := register cfg w a
        match r.1 with
        | .err o => { log := p.2 ++ q.2 ++ r.2, outcome := o, issuer := some issuer, resource := resource, asm := some a }
        | .ok cred probe =>
          finish w a issuer resource cred probe (p.2 ++ q.2 ++ r.2 ++ [.fetch a.authorizationEndpoint cred resource])

/-! ### The handler across authorization rounds

One `AuthorizationCodeHandler` serves many `Authorize` calls (a 401, later 403 step-ups, a token that
stopped working…), each against whatever the network answers AT THAT TIME: the protected-resource
metadata may name another authorization server, metadata documents may change, the fetcher may be
answered by somebody else.  The only thing the handler carries from one round to the next is the
token source installed by the last successful exchange (and the granted scopes, modelled
apart in Scopes.lean): in particular the client registration is resolved afresh — and the pre-registered issuer
binding re-checked — in EVERY round against the metadata in use in THAT round. -/

/-- The part of the configuration that is fixed when the handler is created. -/
structure HConfig where
  cimd : Bool
  pre : Option Url
  dcr : Bool
deriving Repr

def HConfig.at (c : HConfig) (u : Url) : Config := { cimd := c.cimd, pre := c.pre, dcr := c.dcr, serverUrl := u }

/-- One call of `Authorize`: the request URL, the 401/403 response, and the network of that moment. -/
structure Round where
  serverUrl : Url
  inp : Input
  world : World

/-- What `TokenSource()` returns: the configured initial source (possibly nil), or the one installed by round `n`. -/
inductive Served
  | initial
  | round (n : Nat)
deriving DecidableEq, Repr

structure Handler where
  cfg : HConfig
  rounds : Nat := 0
  served : Served := .initial
deriving Repr

def Handler.authorize (h : Handler) (r : Round) : Handler × Result :=
  let res := OAuth.authorize (h.cfg.at r.serverUrl) r.inp r.world
  ({ h with rounds := h.rounds + 1, served := if res.installed then .round h.rounds else h.served }, res)

def Handler.run (h : Handler) : List Round → Handler × List Result
  | [] => (h, [])
  | r :: rs => ((Handler.run (h.authorize r).1 rs).1, (h.authorize r).2 :: (Handler.run (h.authorize r).1 rs).2)

/-! ### Attempts in flight: several `Authorize` calls on one handler at the same time

The transport calls `Authorize` from every `Write` that is answered 401/403, and several transports may
share one handler: two or more calls can be in flight at once, each parked in the
`AuthorizationCodeFetcher` with ITS OWN freshly generated `state` (`getAuthorizationCode`: `state :=
rand.Text()`, a local variable; trusted: values of `crypto/rand.Text` generated for different attempts
differ).  What comes back from the fetcher carries a state VALUE: the one generated for some attempt of
this handler — this one, one still in flight, one long finished — or a value no attempt generated
(forged, empty).  The code compares it with the local variable and nothing else: the handler keeps no
table of outstanding states (structural fact `oauth.handler.fields`), so an attempt accepts exactly
the state generated for it.

An attempt is ATOMIC in two pieces: `start` (everything up to the call of the fetcher: it reads the
fixed configuration, the network and — for the scopes it asks for, Scopes.lean — `grantedScopes`; it writes
nothing on the handler) and `finish` (from the
fetcher's return: state comparison, RFC 9207 check, exchange, `h.tokenSource = ts` under `mu`).  The
model therefore computes the whole result of an attempt at its `finish` step from the attempt alone;
the only effect on the handler is the token source served.  The finishing piece itself touches the
handler only in its last statement, so the moment the fetcher returns (`answer`: the checks run and the
token request leaves) is a step of its own WITHOUT effect: other attempts may start, be answered and
finish while the token request of this one is under way. -/

/-- The `state` of an authorization response: generated for attempt `k` of this handler (attempts are
numbered in the order they start), or a value no attempt of this handler generated. -/
inductive StateVal
  | gen (attempt : Nat)
  | foreign
deriving DecidableEq, Repr

inductive FetchV
  | err
  | result (state : StateVal) (iss : Url)
deriving Repr

/-- What the answer is for attempt `own`: `authRes.State != state` compares with the state generated
for THIS attempt. -/
def FetchV.answer (own : Nat) : FetchV → FetchAnswer
  | .err => .err
  | .result s iss => .result (s == .gen own) iss

/-- One call of `Authorize` that may overlap others: request URL, 401/403 response, the network it
sees (the `fetch` field of `world` is not read), and what the fetcher is answered. -/
structure Attempt where
  serverUrl : Url
  inp : Input
  world : World
  fetchV : Url → FetchV

/-- The attempt as a round of the sequential model, once its number is known. -/
def Attempt.round (a : Attempt) (own : Nat) : Round :=
  { serverUrl := a.serverUrl, inp := a.inp,
    world := { prm := a.world.prm, asm := a.world.asm, reg := a.world.reg, tok := a.world.tok,
               fetch := fun u => (a.fetchV u).answer own, ntsFails := a.world.ntsFails } }

structure CHandler where
  cfg : HConfig
  started : Nat := 0
  served : Served := .initial
  flight : List (Nat × Attempt) := []

inductive Step
  | start (a : Attempt)      -- `Authorize` is called; the attempt gets the next number
  | answer (k : Nat)         -- the fetcher of attempt `k` returns: state comparison, RFC 9207 check, the token request
                             -- leaves — none of which reads or writes the handler; the attempt now waits for the token response
  | finish (k : Nat)         -- attempt `k` runs to its end (from wherever it waits): token response, installation

def attemptResult (c : HConfig) (k : Nat) (a : Attempt) : Result :=
  authorize (c.at (a.round k).serverUrl) (a.round k).inp (a.round k).world

/-- One step; `finish k` reports the number and the result of the attempt (nothing if no such attempt is in flight). -/
def CHandler.step (c : CHandler) : Step → CHandler × Option (Nat × Result)
  | .start a => ({ c with started := c.started + 1, flight := c.flight ++ [(c.started, a)] }, none)
  | .answer _ => (c, none)
  | .finish k =>
    match c.flight.lookup k with
    | none => (c, none)
    | some a =>
      let res := attemptResult c.cfg k a
      ({ c with served := if res.installed then .round k else c.served, flight := c.flight.filter fun p => p.1 != k },
       some (k, res))

def CHandler.run (c : CHandler) : List Step → CHandler × List (Nat × Result)
  | [] => (c, [])
  | s :: ss =>
    let r := CHandler.run (c.step s).1 ss
    (r.1, match (c.step s).2 with | some x => x :: r.2 | none => r.2)

end OAuth
