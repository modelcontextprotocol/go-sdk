import McpModel.OAuth.Monitor
import McpModel.OAuth.Lemmas
/-!
# What the C15 monitor decides (E11)

The clauses of the property as predicates `P_…` on observation traces — a trace is the list of rounds of one
handler, each the round's inputs (configuration, request URL, 401/403 response, the scripted network) and what the
IMPLEMENTATION did (`Obs`: request log, outcome class, token source changed?) — written from the property text with
quantifiers over rounds, log entries, documents; no monitor state, no `authorize`.  Then, for each computation of the
monitor, what it says in that vocabulary, and for each check that it is silent exactly when the round satisfies the
clause the check stands for (`chkX_none_iff`).  Soundness and completeness (Sound.lean) and the bridge to the model
(Bridge.lean) read the checks through these.

Vocabulary (all about the observation and the scripted network):
* `AskedLast o I` — `I` is the authorization server whose metadata was asked for last: the last GET
  spelled as an authorization-server metadata location is a location of `I`.
* `Backed c o I d` — metadata `d` may be used for `I`: the network serves `d` at a REQUESTED location
  of `I` and `d` is valid for `I` (`AsmValid`); or `d` is the 2025-03-26 fall-back, every location of `I` was
  requested and every requested one answered 4xx.
* `InUse c o d` — `d` is backed for the server asked last and every endpoint the round used
  (authorization URL, registration request, token request) is `d`'s.
-/
namespace OAuth

theorem firstSome_eq {α β} (f : α → Option β) (l : List α) : firstSome f l = l.findSome? f := by
  induction l with
  | nil => rfl
  | cons a t ih => simp only [firstSome, List.findSome?_cons, ih]; cases f a <;> rfl

theorem firstSome_eq_none {α β} {f : α → Option β} {l : List α} : firstSome f l = none ↔ ∀ x ∈ l, f x = none := by
  rw [firstSome_eq]; exact List.findSome?_eq_none_iff

theorem firstSome_eq_some {α β} {f : α → Option β} {l : List α} {b : β} (h : firstSome f l = some b) :
    ∃ x ∈ l, f x = some b :=
  List.exists_of_findSome?_eq_some (firstSome_eq f l ▸ h)

theorem urlFieldOk_iff (x : Url) :
    (x == .empty || (!x.isScript && match x with | .bad _ => false | _ => true)) = true ↔
      x.isScript = false ∧ ∀ n, x ≠ .bad n := by
  cases x <;> simp [Url.isScript]

abbrev Trace := List (MCase × Obs)

/-- "every metadata, registration and token request goes to an https or loopback URL". -/
def P_requests_https_or_loopback (tr : Trace) : Prop :=
  ∀ c o, (c, o) ∈ tr → ∀ e ∈ o.events, e.isRequest = true → e.url.httpsOrLoopback = true

/-- "no URL field has a script-capable scheme": a URL with such a scheme is requested or placed in
the authorization URL only if the request URL itself has one, or it is the challenge's own
`resource_metadata` URL being fetched. -/
def P_no_script_scheme_used (tr : Trace) : Prop :=
  ∀ c o, (c, o) ∈ tr → ∀ e ∈ o.events, e.url.isScript = true →
    c.cfg.serverUrl.isScript = true ∨ e = .get .prm (rmFrom c.inp.challenges)

/-- `I` is the 2025-03-26 fall-back (the server's own root) or the first authorization server of a
protected-resource document that was REQUESTED at a candidate location, names exactly the resource
that location stands for and lists only safe authorization servers. -/
def PrmVouches (c : MCase) (o : Obs) (I : Url) : Prop :=
  I = c.cfg.serverUrl.root ∨
  ∃ x ∈ prmCandidates (rmFrom c.inp.challenges) c.cfg.serverUrl, x.1 ∈ getsOf o.events ∧
    ∃ d, c.tabs.prm.lookup x.1 = some (.doc d) ∧ d.resource = x.2 ∧ (∀ a ∈ d.authServers, Safe a) ∧
      d.authServers.head? = some I

/-- "protected-resource metadata are used only if their resource identifier matches what was asked
for": every authorization server whose metadata is requested is vouched for, and the `resource`
parameter of the authorization URL is the server's. -/
def P_prm_used_only_if_resource_matches (tr : Trace) : Prop :=
  ∀ c o, (c, o) ∈ tr →
    (∀ m ∈ getsOf o.events, ∀ I, asBase m = some I → PrmVouches c o I) ∧
    (∀ u cr r, Event.fetch u cr r ∈ o.events → r = c.cfg.serverUrl ∨ r = c.cfg.serverUrl.root)

def AskedLast (o : Obs) (I : Url) : Prop :=
  ∃ pre m post, getsOf o.events = pre ++ m :: post ∧ asBase m = some I ∧ ∀ x ∈ post, asBase x = none

/-- The checks a metadata document must pass for issuer `I` (property text: issuer identifier
matches, PKCE support advertised, no URL field with a script-capable scheme; contacted endpoints
https or loopback). -/
def AsmValid (d : AsmDoc) (I : Url) : Prop :=
  issuersEqual d.issuer I = true ∧ d.pkce = true ∧
  (∀ x ∈ [d.authorizationEndpoint, d.tokenEndpoint, d.registrationEndpoint, d.introspectionEndpoint] ++ d.otherUrls,
    x.isScript = false ∧ ∀ n, x ≠ .bad n) ∧
  (∀ x ∈ [d.authorizationEndpoint, d.tokenEndpoint, d.registrationEndpoint, d.introspectionEndpoint],
    x = .empty ∨ x.httpsOrLoopback = true)

def Answers4xx (t : Tabs) (m : Url) : Prop := (t.asm.lookup m).getD .status4xx = .status4xx

def Backed (c : MCase) (o : Obs) (I : Url) (d : AsmDoc) : Prop :=
  (∃ m ∈ getsOf o.events, asBase m = some I ∧ c.tabs.asm.lookup m = some (.doc d) ∧ AsmValid d I) ∨
  (d = fallbackAsm I ∧ (∀ m ∈ asmCandidates I, m ∈ getsOf o.events) ∧
    ∀ m ∈ getsOf o.events, asBase m = some I → Answers4xx c.tabs m)

def InUse (c : MCase) (o : Obs) (d : AsmDoc) : Prop :=
  ∃ I, AskedLast o I ∧ Backed c o I d ∧ ∀ r x, (r, x) ∈ usedOf o.events → roleOf d r = x

/-- "authorization-server metadata are used only if their issuer identifier matches what was asked
for, PKCE support is advertised, and no URL field has a script-capable scheme": a round that uses an
endpoint at all has metadata in use. -/
def P_asm_used_only_if_issuer_matches_and_pkce (tr : Trace) : Prop :=
  ∀ c o, (c, o) ∈ tr → usedOf o.events ≠ [] → ∃ d, InUse c o d

/-- "an authorization code is exchanged only if the returned state equals the one generated for this
attempt and the RFC 9207 issuer check passes" (against the issuer of metadata in use, when there is
any — otherwise the previous clause is violated). -/
def P_exchange_requires_state_and_iss (tr : Trace) : Prop :=
  ∀ c o, (c, o) ∈ tr → (∃ u cr, Event.token u cr ∈ o.events) →
    ∃ iss, c.tabs.fetch = .result true iss ∧
      ((∃ d, InUse c o d) → ∃ d, InUse c o d ∧ issCheck iss d.issuer d.issParamSupported = true)

/-- "credentials pre-registered for a named issuer are never used with a different one". -/
def P_preregistered_issuer_binding (tr : Trace) : Prop :=
  ∀ c o, (c, o) ∈ tr → (∃ e ∈ o.events, e.cred = .pre) →
    ∃ pi, c.cfg.pre = some pi ∧
      (pi = .empty ∨ ((∃ d, InUse c o d) → ∃ d, InUse c o d ∧ issuersEqual pi d.issuer = true))

def RegisteredAt (c : MCase) (o : Obs) (d : AsmDoc) : Prop :=
  Event.register d.registrationEndpoint ∈ o.events ∧
  ∃ urls, c.tabs.reg.lookup d.registrationEndpoint = some (.created true urls)

/-- Credentials of the other two modes (the same binding, for credentials the client obtained
itself): dynamically registered credentials are presented only when dynamic registration is
configured, and only to an authorization server at which THIS round or an EARLIER round of the
history registered successfully; a client-id metadata document URL only when one is configured. -/
def P_registered_credentials_bound_to_issuer (tr : Trace) : Prop :=
  ∀ i c o, tr[i]? = some (c, o) →
    ((∃ e ∈ o.events, e.cred = .dcr) → c.cfg.dcr = true ∧
      ((∃ d, InUse c o d) → ∃ d, InUse c o d ∧
        (RegisteredAt c o d ∨ ∃ (j : Nat) (c' : MCase) (o' : Obs) (d' : AsmDoc), j < i ∧ tr[j]? = some (c', o') ∧ InUse c' o' d' ∧ RegisteredAt c' o' d' ∧
          issuersEqual d'.issuer d.issuer = true))) ∧
    ((∃ e ∈ o.events, e.cred = .cimd) → c.cfg.cimd = true)

/-- "after any failed check no new token is installed": the token source changes only in a round that
returns success (or the error of the post-installation token read) and in which a token request was
answered with a token. -/
def P_failed_check_installs_nothing (tr : Trace) : Prop :=
  ∀ c o, (c, o) ∈ tr → o.inst = true →
    (o.out = "ok" ∨ o.out = "post") ∧
    ∃ u cr, Event.token u cr ∈ o.events ∧ ∃ r ∈ (c.tabs.tok.lookup u).getD [], r ≠ TokResp.fail

/-- The property clause a monitor clause stands for. -/
def P_of : Clause → Trace → Prop
  | .httpsEmptyToken | .https _ => P_requests_https_or_loopback
  | .script _ => P_no_script_scheme_used
  | .prmIssuer _ | .prmResource _ => P_prm_used_only_if_resource_matches
  | .asm => P_asm_used_only_if_issuer_matches_and_pkce
  | .exchFetcher | .exchState | .exchIss => P_exchange_requires_state_and_iss
  | .preNone | .preOther => P_preregistered_issuer_binding
  | .dcrNotConfigured | .dcrForeign | .cimdNotConfigured => P_registered_credentials_bound_to_issuer
  | .instOutcome _ | .instNoExchange => P_failed_check_installs_nothing

theorem lastIssuer_iff (o : Obs) (I : Url) : lastIssuer (getsOf o.events) = some I ↔ AskedLast o I :=
  List.filterMap_getLast?_iff asBase _ I

theorem specAsmOk_iff (d : AsmDoc) (I : Url) : specAsmOk d I = true ↔ AsmValid d I := by
  simp only [specAsmOk, AsmValid, Bool.and_eq_true, List.all_eq_true, and_assoc]
  exact and_congr_right' (and_congr_right' (and_congr
    (forall₂_congr fun x _ => urlFieldOk_iff x) (forall₂_congr fun x _ => by simp)))

theorem docAt_eq_some {t : Tabs} {I m : Url} {d : AsmDoc} :
    docAt t I m = some d ↔ t.asm.lookup m = some (.doc d) ∧ AsmValid d I := by
  unfold docAt
  rw [← specAsmOk_iff]
  cases hl : t.asm.lookup m with
  | none => simp
  | some r =>
    cases r <;> simp
    rename_i d'
    constructor
    · rintro ⟨h1, rfl⟩; exact ⟨rfl, h1⟩
    · rintro ⟨rfl, h1⟩; exact ⟨h1, rfl⟩

theorem is4xx_iff (t : Tabs) (m : Url) : is4xx t m = true ↔ Answers4xx t m := by
  unfold is4xx Answers4xx
  cases (t.asm.lookup m).getD .status4xx <;> simp

theorem mem_mineOf {gets : List Url} {I m : Url} : m ∈ mineOf gets I ↔ m ∈ gets ∧ asBase m = some I := by
  simp [mineOf]

theorem mem_asmDocsFor {c : MCase} {o : Obs} {I : Url} {d : AsmDoc} :
    d ∈ asmDocsFor c.tabs (getsOf o.events) I ↔ Backed c o I d := by
  unfold asmDocsFor Backed
  rw [List.mem_append, List.mem_filterMap]
  constructor
  · rintro (⟨m, hm, hd⟩ | h)
    · obtain ⟨h1, h2⟩ := mem_mineOf.1 hm
      obtain ⟨h3, h4⟩ := docAt_eq_some.1 hd
      exact Or.inl ⟨m, h1, h2, h3, h4⟩
    · split at h
      · rename_i h4
        simp only [List.mem_singleton] at h
        simp only [all4xx, Bool.and_eq_true, List.all_eq_true, List.contains_iff_mem] at h4
        refine Or.inr ⟨h, h4.1, fun m hm hb => (is4xx_iff _ _).1 (h4.2 m (mem_mineOf.2 ⟨hm, hb⟩))⟩
      · simp at h
  · rintro (⟨m, h1, h2, h3, h4⟩ | ⟨rfl, h1, h2⟩)
    · exact Or.inl ⟨m, mem_mineOf.2 ⟨h1, h2⟩, docAt_eq_some.2 ⟨h3, h4⟩⟩
    · right
      have : all4xx c.tabs (getsOf o.events) I = true := by
        simp only [all4xx, Bool.and_eq_true, List.all_eq_true, List.contains_iff_mem]
        exact ⟨h1, fun m hm => (is4xx_iff _ _).2 (h2 m (mem_mineOf.1 hm).1 (mem_mineOf.1 hm).2)⟩
      simp [this]

theorem mem_effDocs {c : MCase} {o : Obs} {d : AsmDoc} : d ∈ effDocs c o ↔ InUse c o d := by
  unfold effDocs InUse
  constructor
  · intro h
    split at h
    · simp at h
    · rename_i I hI
      rw [List.mem_filter] at h
      refine ⟨I, (lastIssuer_iff o I).1 hI, mem_asmDocsFor.1 h.1, ?_⟩
      have := h.2
      simp only [matchesUsed, List.all_eq_true, beq_iff_eq] at this
      exact fun r x hx => this (r, x) hx
  · rintro ⟨I, h1, h2, h3⟩
    rw [(lastIssuer_iff o I).2 h1]
    simp only
    rw [List.mem_filter]
    refine ⟨mem_asmDocsFor.2 h2, ?_⟩
    simp only [matchesUsed, List.all_eq_true, beq_iff_eq]
    rintro ⟨r, x⟩ hx
    exact h3 r x hx

theorem effDocs_isEmpty_false {c : MCase} {o : Obs} : (effDocs c o).isEmpty = false ↔ ∃ d, InUse c o d := by
  rw [List.isEmpty_eq_false_iff_exists_mem]
  exact ⟨fun ⟨d, h⟩ => ⟨d, mem_effDocs.1 h⟩, fun ⟨d, h⟩ => ⟨d, mem_effDocs.2 h⟩⟩

theorem registeredNow_iff {c : MCase} {o : Obs} {d : AsmDoc} : registeredNow c o d = true ↔ RegisteredAt c o d := by
  unfold registeredNow RegisteredAt
  rw [List.any_eq_true]
  have hrc : ∀ u, regCreated c.tabs u = true ↔ ∃ urls, c.tabs.reg.lookup u = some (.created true urls) := by
    intro u
    unfold regCreated
    cases c.tabs.reg.lookup u with
    | none => simp
    | some r =>
      cases r with
      | fail => simp
      | created b urls => cases b <;> simp
  constructor
  · rintro ⟨e, he, h⟩
    cases e <;> simp at h
    obtain ⟨rfl, h2⟩ := h
    exact ⟨he, (hrc _).1 h2⟩
  · rintro ⟨h1, h2⟩
    exact ⟨_, h1, by simp [(hrc _).2 h2]⟩

theorem specPrmOk_iff (d : PrmDoc) (res : Url) :
    specPrmOk d res = true ↔ d.resource = res ∧ ∀ a ∈ d.authServers, Safe a := by
  simp [specPrmOk, Safe, safeUrl]

theorem prmJust_spec (c : MCase) (gets : List Url) (I : Url) : prmJust c gets I = true ↔
    I = c.cfg.serverUrl.root ∨
    ∃ x ∈ prmCandidates (rmFrom c.inp.challenges) c.cfg.serverUrl, x.1 ∈ gets ∧
      ∃ d, c.tabs.prm.lookup x.1 = some (.doc d) ∧ d.resource = x.2 ∧ (∀ a ∈ d.authServers, Safe a) ∧
        d.authServers.head? = some I := by
  have hb : ∀ x : Url × Url, prmBacks c.tabs x.1 x.2 I = true ↔ ∃ d, c.tabs.prm.lookup x.1 = some (.doc d) ∧
      d.resource = x.2 ∧ (∀ a ∈ d.authServers, Safe a) ∧ d.authServers.head? = some I := by
    intro x
    unfold prmBacks
    cases c.tabs.prm.lookup x.1 with
    | none => simp
    | some r => cases r <;> simp [specPrmOk_iff, and_assoc]
  simp only [prmJust, Bool.or_eq_true, beq_iff_eq, List.any_eq_true, Bool.and_eq_true, List.contains_iff_mem, hb]

theorem hasTok_iff {evs : List Event} : hasTok evs = true ↔ ∃ u cr, Event.token u cr ∈ evs := by
  simp only [hasTok, List.any_eq_true]
  constructor
  · rintro ⟨e, he, h⟩
    cases e <;> simp at h
    exact ⟨_, _, he⟩
  · rintro ⟨u, cr, h⟩
    exact ⟨_, h, rfl⟩

theorem goodTok_iff {c : MCase} {o : Obs} : goodTok c o = true ↔
    ∃ u cr, Event.token u cr ∈ o.events ∧ ∃ r ∈ (c.tabs.tok.lookup u).getD [], r ≠ TokResp.fail := by
  simp only [goodTok, List.any_eq_true]
  constructor
  · rintro ⟨e, he, h⟩
    cases e <;> simp [tokGood] at h
    exact ⟨_, _, he, h⟩
  · rintro ⟨u, cr, he, h⟩
    exact ⟨_, he, by simpa [tokGood] using h⟩

theorem any_cred_iff {evs : List Event} {k : Cred} : (evs.any fun e => e.cred == k) = true ↔ ∃ e ∈ evs, e.cred = k := by
  simp

/-- The common tail of the checks that compare against the metadata in use (when there is none, clause (4)
reports that). -/
theorem docsCheck_eq_none {α : Type} {l : List α} {f : α → Bool} {cl : Clause} :
    (if l.isEmpty = true then none else if l.any f = true then none else some cl) = none ↔
      (l ≠ [] → ∃ d ∈ l, f d = true) := by
  rw [← List.any_eq_true]
  cases l with
  | nil => simp
  | cons a t => cases (a :: t).any f <;> simp

section silent
variable {c : MCase} {hist : List Url} {o : Obs}

theorem inUse_docs_iff {p : AsmDoc → Prop} :
    (effDocs c o ≠ [] → ∃ d ∈ effDocs c o, p d) ↔ ((∃ d, InUse c o d) → ∃ d, InUse c o d ∧ p d) := by
  constructor
  · rintro h ⟨d, hd⟩
    obtain ⟨d', hd', hf⟩ := h (List.ne_nil_of_mem (mem_effDocs.2 hd))
    exact ⟨d', mem_effDocs.1 hd', hf⟩
  · intro h hne
    obtain ⟨d, hd⟩ := List.exists_mem_of_ne_nil _ hne
    obtain ⟨d', hd', hf⟩ := h ⟨d, mem_effDocs.1 hd⟩
    exact ⟨d', mem_effDocs.2 hd', hf⟩

theorem chkHttps_none_iff : chkHttps o = none ↔ ∀ e ∈ o.events, e.isRequest = true → e.url.httpsOrLoopback = true := by
  simp only [chkHttps, firstSome_eq_none, List.mem_filter, and_imp]
  refine forall₂_congr fun e _ => imp_congr_right fun _ => ?_
  cases e.url.httpsOrLoopback
  · simp only [Bool.false_eq_true, if_false, iff_false]; split <;> nofun
  · simp

theorem chkScript_none_iff : chkScript c o = none ↔ ∀ e ∈ o.events, e.url.isScript = true →
    c.cfg.serverUrl.isScript = true ∨ e = .get .prm (rmFrom c.inp.challenges) := by
  simp only [chkScript, firstSome_eq_none]
  refine forall₂_congr fun e _ => ?_
  cases e.url.isScript <;> cases c.cfg.serverUrl.isScript <;> simp

theorem chkPrmIssuer_none_iff : chkPrmIssuer c o = none ↔
    ∀ m ∈ getsOf o.events, ∀ I, asBase m = some I → PrmVouches c o I := by
  simp only [chkPrmIssuer, firstSome_eq_none, List.mem_filterMap, PrmVouches, ← prmJust_spec]
  constructor
  · intro h m hm I hb
    have := h I ⟨m, hm, hb⟩
    cases hj : prmJust c (getsOf o.events) I <;> simp_all
  · rintro h I ⟨m, hm, hb⟩
    simp [h m hm I hb]

theorem chkPrmResource_none_iff : chkPrmResource c o = none ↔
    ∀ u cr r, Event.fetch u cr r ∈ o.events → r = c.cfg.serverUrl ∨ r = c.cfg.serverUrl.root := by
  simp only [chkPrmResource, firstSome_eq_none]
  constructor
  · intro h u cr r he
    exact Classical.or_iff_not_imp_left.2 (by simpa using h _ he)
  · intro h e he
    cases e <;> simp
    exact Classical.or_iff_not_imp_left.1 (h _ _ _ he)

theorem chkAsm_none_iff : chkAsm c o = none ↔ (usedOf o.events ≠ [] → ∃ d, InUse c o d) := by
  rw [← effDocs_isEmpty_false, chkAsm]
  cases (usedOf o.events) <;> cases (effDocs c o).isEmpty <;> simp

theorem chkCimd_none_iff : chkCimd c o = none ↔ ((∃ e ∈ o.events, e.cred = .cimd) → c.cfg.cimd = true) := by
  rw [← any_cred_iff, chkCimd]
  cases o.events.any (fun e => e.cred == .cimd) <;> cases c.cfg.cimd <;> simp

theorem chkExchange_none_iff : chkExchange c o = none ↔ ((∃ u cr, Event.token u cr ∈ o.events) →
    ∃ iss, c.tabs.fetch = .result true iss ∧
      ((∃ d, InUse c o d) → ∃ d, InUse c o d ∧ issCheck iss d.issuer d.issParamSupported = true)) := by
  rw [← hasTok_iff, chkExchange]
  cases hasTok o.events
  · simp
  cases c.tabs.fetch with
  | err => simp
  | result sm iss => cases sm <;> simp [inUse_docs_iff]

theorem chkPre_none_iff : chkPre c o = none ↔ ((∃ e ∈ o.events, e.cred = .pre) →
    ∃ pi, c.cfg.pre = some pi ∧
      (pi = .empty ∨ ((∃ d, InUse c o d) → ∃ d, InUse c o d ∧ issuersEqual pi d.issuer = true))) := by
  rw [← any_cred_iff, chkPre]
  cases o.events.any (fun e => e.cred == .pre)
  · simp
  cases c.cfg.pre with
  | none => simp
  | some pi => by_cases hpe : pi = .empty <;> simp [hpe, inUse_docs_iff]

theorem chkDcr_none_iff : chkDcr c hist o = none ↔ ((∃ e ∈ o.events, e.cred = .dcr) →
    c.cfg.dcr = true ∧ ((∃ d, InUse c o d) → ∃ d, InUse c o d ∧
      (RegisteredAt c o d ∨ ∃ x ∈ hist, issuersEqual x d.issuer = true))) := by
  rw [← any_cred_iff, chkDcr]
  cases o.events.any (fun e => e.cred == .dcr)
  · simp
  cases c.cfg.dcr
  · simp
  · simp only [Bool.not_true, Bool.false_eq_true, if_false, docsCheck_eq_none, Bool.or_eq_true, List.any_eq_true,
      registeredNow_iff, inUse_docs_iff, true_and, forall_const]

theorem chkInstall_none_iff : chkInstall c o = none ↔ (o.inst = true →
    (o.out = "ok" ∨ o.out = "post") ∧
    ∃ u cr, Event.token u cr ∈ o.events ∧ ∃ r ∈ (c.tabs.tok.lookup u).getD [], r ≠ TokResp.fail) := by
  have hout : (o.out == "ok" || o.out == "post") = true ↔ (o.out = "ok" ∨ o.out = "post") := by simp
  rw [← goodTok_iff, ← hout, chkInstall]
  cases o.inst <;> cases (o.out == "ok" || o.out == "post") <;> cases goodTok c o <;> simp

end silent

end OAuth
