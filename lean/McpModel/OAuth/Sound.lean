import McpModel.Base.FirstReport
import McpModel.Base.Logic
import McpModel.OAuth.Spec
/-!
# Clause soundness and completeness of the C15 monitor (E11)

Spec.lean states, for every clause the monitor can report (`Clause`), the corresponding clause of the property as a
predicate `P_…` on observation traces, and says when each check is silent.  Here: `fires_sound` — wherever the monitor
run reports a clause (`FiresAt`, any round), the predicate that clause stands for fails on the trace; `sound_<clause>`
and `monitor_sound` (`runMon tr = some (j, cl) → ¬ P_of cl tr`) are its instances.  `monitor_complete` is the converse:
a silent run means every clause holds.  Nothing here mentions the model.
-/
namespace OAuth

def FiresAt (tr : Trace) (j : Nat) (cl : Clause) : Prop :=
  ∃ c o, tr[j]? = some (c, o) ∧ chkAll c (histAfter [] (tr.take j)) o = some cl

/-- One round as a step of the monitor's state, in the form `FirstReport` takes. -/
def monStep (h : List Url) (p : MCase × Obs) : List Url × Option Clause := (h ++ regdOf p.1 p.2, chkAll p.1 h p.2)

theorem runMonFrom_eq_first : ∀ (tr : Trace) (h : List Url) (i : Nat),
    runMonFrom h i tr = FirstReport.first monStep h i tr
  | [], _, _ => rfl
  | (c, o) :: tr, h, i => by
    simp only [runMonFrom, FirstReport.first, monStep]
    cases chkAll c h o with
    | some cl => rfl
    | none => exact runMonFrom_eq_first tr _ _

theorem after_monStep : ∀ (tr : Trace) (h : List Url), FirstReport.after monStep h tr = histAfter h tr
  | [], _ => rfl
  | _ :: tr, _ => after_monStep tr _

theorem runMon_fires {tr : Trace} {j : Nat} {cl : Clause} (h : runMon tr = some (j, cl)) : FiresAt tr j cl := by
  rw [runMon, runMonFrom_eq_first] at h
  obtain ⟨k, ⟨c, o⟩, rfl, hk, hr, _⟩ := FirstReport.first_eq_some.1 h
  rw [FirstReport.reportAt, after_monStep] at hr
  exact ⟨c, o, by rw [Nat.zero_add]; exact hk, by rw [Nat.zero_add]; exact hr⟩

theorem runMon_silent {tr : Trace} (h : runMon tr = none) {k : Nat} {c : MCase} {o : Obs} (hk : tr[k]? = some (c, o)) :
    chkAll c (histAfter [] (tr.take k)) o = none := by
  rw [runMon, runMonFrom_eq_first] at h
  have := FirstReport.first_eq_none.1 h k _ hk
  rwa [FirstReport.reportAt, after_monStep] at this

theorem histAfter_eq : ∀ (tr : Trace) (h : List Url), histAfter h tr = h ++ tr.flatMap fun p => regdOf p.1 p.2
  | [], h => by simp [histAfter]
  | (c, o) :: tr, h => by rw [histAfter, histAfter_eq tr, List.flatMap_cons, List.append_assoc]

theorem mem_histAfter : ∀ (tr : Trace) (h : List Url) (x : Url),
    x ∈ histAfter h tr ↔ x ∈ h ∨ ∃ (j : Nat) (c : MCase) (o : Obs), tr[j]? = some (c, o) ∧ x ∈ regdOf c o := by
  intro tr h x
  rw [histAfter_eq, List.mem_append, List.mem_flatMap]
  refine or_congr_right ⟨fun ⟨⟨c, o⟩, hm, hx⟩ => ?_, fun ⟨j, c, o, hj, hx⟩ => ⟨(c, o), List.mem_of_getElem? hj, hx⟩⟩
  obtain ⟨j, hj⟩ := List.getElem?_of_mem hm
  exact ⟨j, c, o, hj, hx⟩

theorem mem_regdOf {c : MCase} {o : Obs} {x : Url} :
    x ∈ regdOf c o ↔ ∃ d, InUse c o d ∧ RegisteredAt c o d ∧ x = d.issuer := by
  unfold regdOf
  simp only [List.mem_map, List.mem_filter]
  constructor
  · rintro ⟨d, ⟨h1, h2⟩, rfl⟩; exact ⟨d, mem_effDocs.1 h1, registeredNow_iff.1 h2, rfl⟩
  · rintro ⟨d, h1, h2, rfl⟩; exact ⟨d, ⟨mem_effDocs.2 h1, registeredNow_iff.2 h2⟩, rfl⟩

/-- The check that owns a clause.  The soundness proof in one idea: `chkAll` returning `cl` means the owner of
`cl` returned it (`chkAll_owner`), and a trace satisfying `P_of cl` keeps the owner silent (`silent_of_P`). -/
def Clause.check (c : MCase) (hist : List Url) (o : Obs) : Clause → Option Clause
  | .httpsEmptyToken | .https _ => chkHttps o
  | .script _ => chkScript c o
  | .prmIssuer _ => chkPrmIssuer c o
  | .prmResource _ => chkPrmResource c o
  | .asm => chkAsm c o
  | .exchFetcher | .exchState | .exchIss => chkExchange c o
  | .preNone | .preOther => chkPre c o
  | .dcrNotConfigured | .dcrForeign => chkDcr c hist o
  | .cimdNotConfigured => chkCimd c o
  | .instOutcome _ | .instNoExchange => chkInstall c o

section checks
variable {c : MCase} {hist : List Url} {o : Obs} {cl : Clause}

/- Every branch of a check returns `none` or a clause of that check: split the definition and look. -/

theorem docsCheck_some {α : Type} {l : List α} {f : α → Bool} {x cl : Clause}
    (h : (if l.isEmpty = true then none else if l.any f = true then none else some x) = some cl) : x = cl := by
  split at h
  · cases h
  · split at h
    · cases h
    · exact Option.some.inj h

theorem chkHttps_owns (h : chkHttps o = some cl) : cl.check c hist o = chkHttps o := by
  obtain ⟨e, _, hf⟩ := firstSome_eq_some h
  split at hf
  · cases hf
  · split at hf <;> cases hf <;> rfl

theorem chkScript_owns (h : chkScript c o = some cl) : cl.check c hist o = chkScript c o := by
  obtain ⟨e, _, hf⟩ := firstSome_eq_some h
  split at hf
  · cases hf; rfl
  · cases hf

theorem chkPrmIssuer_owns (h : chkPrmIssuer c o = some cl) : cl.check c hist o = chkPrmIssuer c o := by
  obtain ⟨e, _, hf⟩ := firstSome_eq_some h
  split at hf
  · cases hf
  · cases hf; rfl

theorem chkPrmResource_owns (h : chkPrmResource c o = some cl) : cl.check c hist o = chkPrmResource c o := by
  obtain ⟨e, _, hf⟩ := firstSome_eq_some h
  split at hf
  · split at hf
    · cases hf
    · cases hf; rfl
  · cases hf

theorem chkAsm_owns (h : chkAsm c o = some cl) : cl.check c hist o = chkAsm c o := by
  have h' := h
  unfold chkAsm at h'
  split at h'
  · cases h'
  · cases h'; rfl

theorem chkExchange_owns (h : chkExchange c o = some cl) : cl.check c hist o = chkExchange c o := by
  have h' := h
  unfold chkExchange at h'
  cases ht : hasTok o.events <;> rw [ht] at h'
  · simp at h'
  cases hf : c.tabs.fetch with
  | err => rw [hf] at h'; simp at h'; subst h'; rfl
  | result sm iss =>
    rw [hf] at h'
    cases sm
    · simp at h'; subst h'; rfl
    · simp only [Bool.not_true, Bool.false_eq_true, if_false] at h'
      cases docsCheck_some h'
      rfl

theorem chkPre_owns (h : chkPre c o = some cl) : cl.check c hist o = chkPre c o := by
  have h' := h
  unfold chkPre at h'
  cases hu : (o.events.any fun e => e.cred == .pre) <;> rw [hu] at h'
  · simp at h'
  cases hp : c.cfg.pre with
  | none => rw [hp] at h'; simp at h'; subst h'; rfl
  | some pi =>
    rw [hp] at h'
    by_cases hpe : pi = .empty
    · simp [hpe] at h'
    · have hb : (pi == Url.empty) = false := by simpa using hpe
      simp only [hb, Bool.false_or, Bool.not_true, Bool.false_eq_true, if_false] at h'
      cases docsCheck_some h'
      rfl

theorem chkDcr_owns (h : chkDcr c hist o = some cl) : cl.check c hist o = chkDcr c hist o := by
  have h' := h
  unfold chkDcr at h'
  cases hu : (o.events.any fun e => e.cred == .dcr) <;> rw [hu] at h'
  · simp at h'
  cases hd : c.cfg.dcr <;> rw [hd] at h'
  · simp at h'; subst h'; rfl
  · simp only [Bool.not_true, Bool.false_eq_true, if_false] at h'
    cases docsCheck_some h'
    rfl

theorem chkCimd_owns (h : chkCimd c o = some cl) : cl.check c hist o = chkCimd c o := by
  have h' := h
  unfold chkCimd at h'
  split at h'
  · cases h'; rfl
  · cases h'

theorem chkInstall_owns (h : chkInstall c o = some cl) : cl.check c hist o = chkInstall c o := by
  have h' := h
  unfold chkInstall at h'
  split at h'
  · cases h'; rfl
  · split at h'
    · cases h'; rfl
    · cases h'

theorem chkAll_owner (h : chkAll c hist o = some cl) : cl.check c hist o = some cl := by
  unfold chkAll at h
  rcases Option.alt_eq_some.1 h with h | ⟨_, h⟩
  · rw [chkHttps_owns h, h]
  rcases Option.alt_eq_some.1 h with h | ⟨_, h⟩
  · rw [chkScript_owns h, h]
  rcases Option.alt_eq_some.1 h with h | ⟨_, h⟩
  · rw [chkPrmIssuer_owns h, h]
  rcases Option.alt_eq_some.1 h with h | ⟨_, h⟩
  · rw [chkPrmResource_owns h, h]
  rcases Option.alt_eq_some.1 h with h | ⟨_, h⟩
  · rw [chkAsm_owns h, h]
  rcases Option.alt_eq_some.1 h with h | ⟨_, h⟩
  · rw [chkExchange_owns h, h]
  rcases Option.alt_eq_some.1 h with h | ⟨_, h⟩
  · rw [chkPre_owns h, h]
  rcases Option.alt_eq_some.1 h with h | ⟨_, h⟩
  · rw [chkDcr_owns h, h]
  rcases Option.alt_eq_some.1 h with h | ⟨_, h⟩
  · rw [chkCimd_owns h, h]
  · rw [chkInstall_owns h, h]

end checks

theorem hist_registered_iff (tr : Trace) (i : Nat) (I : Url) :
    (∃ x ∈ histAfter [] (tr.take i), issuersEqual x I = true) ↔
      ∃ (j : Nat) (c' : MCase) (o' : Obs) (d' : AsmDoc), j < i ∧ tr[j]? = some (c', o') ∧ InUse c' o' d' ∧
        RegisteredAt c' o' d' ∧ issuersEqual d'.issuer I = true := by
  constructor
  · rintro ⟨x, hx, hie⟩
    rcases (mem_histAfter _ _ _).1 hx with hx | ⟨j, c', o', hj, hx⟩
    · cases hx
    · obtain ⟨d', hd', hr', rfl⟩ := mem_regdOf.1 hx
      rw [List.getElem?_take] at hj
      split at hj
      · exact ⟨j, c', o', d', ‹_›, hj, hd', hr', hie⟩
      · cases hj
  · rintro ⟨j, c', o', d', hlt, hj, hd', hr', hie⟩
    refine ⟨_, (mem_histAfter _ _ _).2 (.inr ⟨j, c', o', ?_, mem_regdOf.2 ⟨d', hd', hr', rfl⟩⟩), hie⟩
    rw [List.getElem?_take, if_pos hlt]
    exact hj

theorem P_registered_iff_silent (tr : Trace) :
    P_registered_credentials_bound_to_issuer tr ↔ ∀ i c o, tr[i]? = some (c, o) →
      chkDcr c (histAfter [] (tr.take i)) o = none ∧ chkCimd c o = none := by
  simp only [P_registered_credentials_bound_to_issuer, chkDcr_none_iff, chkCimd_none_iff, hist_registered_iff]

theorem silent_of_P {tr : Trace} {cl : Clause} (hP : P_of cl tr) {i : Nat} {c : MCase} {o : Obs}
    (hi : tr[i]? = some (c, o)) : cl.check c (histAfter [] (tr.take i)) o = none := by
  have hm := List.mem_of_getElem? hi
  cases cl with
  | httpsEmptyToken | https e => exact chkHttps_none_iff.2 (hP c o hm)
  | script e => exact chkScript_none_iff.2 (hP c o hm)
  | prmIssuer I => exact chkPrmIssuer_none_iff.2 (hP c o hm).1
  | prmResource r => exact chkPrmResource_none_iff.2 (hP c o hm).2
  | asm => exact chkAsm_none_iff.2 (hP c o hm)
  | exchFetcher | exchState | exchIss => exact chkExchange_none_iff.2 (hP c o hm)
  | preNone | preOther => exact chkPre_none_iff.2 (hP c o hm)
  | dcrNotConfigured | dcrForeign => exact ((P_registered_iff_silent tr).1 hP i c o hi).1
  | cimdNotConfigured => exact ((P_registered_iff_silent tr).1 hP i c o hi).2
  | instOutcome out | instNoExchange => exact chkInstall_none_iff.2 (hP c o hm)

theorem fires_sound {tr : Trace} {j : Nat} {cl : Clause} (h : FiresAt tr j cl) : ¬ P_of cl tr := fun hP => by
  obtain ⟨c, o, hj, hc⟩ := h
  have hs := chkAll_owner hc
  rw [silent_of_P hP hj] at hs
  cases hs

theorem sound_httpsEmptyToken (tr : Trace) (j : Nat) (h : FiresAt tr j .httpsEmptyToken) :
    ¬ P_requests_https_or_loopback tr := fires_sound h

theorem sound_https (tr : Trace) (j : Nat) (e : Event) (h : FiresAt tr j (.https e)) :
    ¬ P_requests_https_or_loopback tr := fires_sound h

theorem sound_script (tr : Trace) (j : Nat) (e : Event) (h : FiresAt tr j (.script e)) :
    ¬ P_no_script_scheme_used tr := fires_sound h

theorem sound_prmIssuer (tr : Trace) (j : Nat) (I : Url) (h : FiresAt tr j (.prmIssuer I)) :
    ¬ P_prm_used_only_if_resource_matches tr := fires_sound h

theorem sound_prmResource (tr : Trace) (j : Nat) (r : Url) (h : FiresAt tr j (.prmResource r)) :
    ¬ P_prm_used_only_if_resource_matches tr := fires_sound h

theorem sound_asm (tr : Trace) (j : Nat) (h : FiresAt tr j .asm) :
    ¬ P_asm_used_only_if_issuer_matches_and_pkce tr := fires_sound h

theorem sound_exchFetcher (tr : Trace) (j : Nat) (h : FiresAt tr j .exchFetcher) :
    ¬ P_exchange_requires_state_and_iss tr := fires_sound h

theorem sound_exchState (tr : Trace) (j : Nat) (h : FiresAt tr j .exchState) :
    ¬ P_exchange_requires_state_and_iss tr := fires_sound h

theorem sound_exchIss (tr : Trace) (j : Nat) (h : FiresAt tr j .exchIss) :
    ¬ P_exchange_requires_state_and_iss tr := fires_sound h

theorem sound_preNone (tr : Trace) (j : Nat) (h : FiresAt tr j .preNone) :
    ¬ P_preregistered_issuer_binding tr := fires_sound h

theorem sound_preOther (tr : Trace) (j : Nat) (h : FiresAt tr j .preOther) :
    ¬ P_preregistered_issuer_binding tr := fires_sound h

theorem sound_dcrNotConfigured (tr : Trace) (j : Nat) (h : FiresAt tr j .dcrNotConfigured) :
    ¬ P_registered_credentials_bound_to_issuer tr := fires_sound h

theorem sound_cimdNotConfigured (tr : Trace) (j : Nat) (h : FiresAt tr j .cimdNotConfigured) :
    ¬ P_registered_credentials_bound_to_issuer tr := fires_sound h

theorem sound_dcrForeign (tr : Trace) (j : Nat) (h : FiresAt tr j .dcrForeign) :
    ¬ P_registered_credentials_bound_to_issuer tr := fires_sound h

theorem sound_instOutcome (tr : Trace) (j : Nat) (out : String) (h : FiresAt tr j (.instOutcome out)) :
    ¬ P_failed_check_installs_nothing tr := fires_sound h

theorem sound_instNoExchange (tr : Trace) (j : Nat) (h : FiresAt tr j .instNoExchange) :
    ¬ P_failed_check_installs_nothing tr := fires_sound h

theorem monitor_sound (tr : Trace) (j : Nat) (cl : Clause) (h : runMon tr = some (j, cl)) : ¬ P_of cl tr :=
  fires_sound (runMon_fires h)

/-- Challenge stream: "ParseWWWAuthenticate does not panic on any header value"; the clause fires
only on an observation other than `nopanic`. -/
def P_no_panic (impl : String) : Prop := impl = fuzzOk

theorem sound_fuzz (impl : String) (h : chkFuzz impl = true) : ¬ P_no_panic impl := by
  simpa [chkFuzz, P_no_panic] using h

example : chkFuzz "panic" = true := by decide

def Silent (c : MCase) (hist : List Url) (o : Obs) : Prop :=
  chkHttps o = none ∧ chkScript c o = none ∧ chkPrmIssuer c o = none ∧ chkPrmResource c o = none ∧
  chkAsm c o = none ∧ chkExchange c o = none ∧ chkPre c o = none ∧ chkDcr c hist o = none ∧
  chkCimd c o = none ∧ chkInstall c o = none

theorem chkAll_none_iff {c : MCase} {hist : List Url} {o : Obs} : chkAll c hist o = none ↔ Silent c hist o := by
  simp only [chkAll, Option.alt_eq_none, Silent]

/-- The converse of `monitor_sound`, so that the predicates of Spec.lean are exactly what the monitor decides. -/
theorem monitor_complete (tr : Trace) (h : runMon tr = none) (cl : Clause) : P_of cl tr := by
  have hround : ∀ c o, (c, o) ∈ tr → ∃ hist, Silent c hist o := fun c o hm =>
    let ⟨k, hk⟩ := List.getElem?_of_mem hm
    ⟨_, chkAll_none_iff.1 (runMon_silent h hk)⟩
  cases cl with
  | httpsEmptyToken | https e =>
    intro c o hm
    obtain ⟨_, h1, _⟩ := hround c o hm
    exact chkHttps_none_iff.1 h1
  | script e =>
    intro c o hm
    obtain ⟨_, _, h2, _⟩ := hround c o hm
    exact chkScript_none_iff.1 h2
  | prmIssuer I | prmResource r =>
    intro c o hm
    obtain ⟨_, _, _, h3, h4, _⟩ := hround c o hm
    exact ⟨chkPrmIssuer_none_iff.1 h3, chkPrmResource_none_iff.1 h4⟩
  | asm =>
    intro c o hm
    obtain ⟨_, _, _, _, _, h5, _⟩ := hround c o hm
    exact chkAsm_none_iff.1 h5
  | exchFetcher | exchState | exchIss =>
    intro c o hm
    obtain ⟨_, _, _, _, _, _, h6, _⟩ := hround c o hm
    exact chkExchange_none_iff.1 h6
  | preNone | preOther =>
    intro c o hm
    obtain ⟨_, _, _, _, _, _, _, h7, _⟩ := hround c o hm
    exact chkPre_none_iff.1 h7
  | instOutcome out | instNoExchange =>
    intro c o hm
    obtain ⟨_, _, _, _, _, _, _, _, _, _, h10⟩ := hround c o hm
    exact chkInstall_none_iff.1 h10
  | dcrNotConfigured | dcrForeign | cimdNotConfigured =>
    refine (P_registered_iff_silent tr).2 fun i c o hi => ?_
    obtain ⟨_, _, _, _, _, _, _, h8, h9, _⟩ := chkAll_none_iff.1 (runMon_silent h hi)
    exact ⟨h8, h9⟩

end OAuth
