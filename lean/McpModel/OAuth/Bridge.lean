import McpModel.OAuth.Sound
import McpModel.OAuth.Props
/-!
# The bridge between the C15 monitor and the model (E11): no false alarm

For EVERY handler configuration, 401/403 response and scripted network (lookup tables, the form a record
carries) of a well-formed round, the monitor of Monitor.lean, given the observation of the MODEL
(`obsOf (authorize …)`), reports no clause — whatever it remembers of earlier rounds — and records exactly the
model's registrations (`monitor_accepts_round`); hence over ANY history of rounds on one handler the monitor run
reports nothing (`monitor_accepts_model`, with the invariant `histAfter_model`).

Together with the driver's comparison of the implementation's observation text with the model's
(`A` = equal) and the run-time self-check `parseObs (model text) = some (obsOf r)`, this says: on a
record the driver answers `A`, the monitor ran on exactly `obsOf r` and cannot have fired; a `V`
always comes with a `D`.  What a `V` then means is Sound.lean.

Two notions of the monitor are chosen so that they have an exact counterpart in the property:
* the authorization server "asked last" (`lastIssuer`) is the issuer of the LAST metadata GET;
* the 2025-03-26 fall-back is backed (`all4xx`) when every metadata location of the issuer was
  requested and every requested one answered 4xx (a count of requests would let a location
  requested twice stand for one never requested).

Well-formedness (`MCase.wf`, checked by the driver on every record — a record outside it is
answered `bad-op`): the request URL is a parsed URL (`req.URL` is a `*url.URL`), and the challenge's
`resource_metadata` URL is not itself spelled like an authorization-server metadata location.  Both
are needed: see `false_alarm_unparsable_server_url` and `false_alarm_challenge_at_metadata_location`.
-/
namespace OAuth

theorem getD_doc {α} {o : Option (Resp α)} {d : α} (h : o.getD .status4xx = .doc d) : o = some (.doc d) := by
  cases o with
  | none => simp at h
  | some r => simpa using h

theorem asBase_derive_not (u : Url) {d : Wk} (h : isAsWk d = false) : asBase (u.derive d) = none := by
  cases u <;> simp [Url.derive, asBase, h]

theorem asBase_derive_at (o : Origin) (s k : Nat) (ds : List Wk) {d : Wk} (h : isAsWk d = true) :
    asBase ((Url.at o s k ds).derive d) = some (.at o s k ds) := by
  simp [Url.derive, asBase, h]

theorem hol_at {u : Url} (h : u.httpsOrLoopback = true) : ∃ o s k ds, u = .at o s k ds := by
  cases u <;> simp [Url.httpsOrLoopback] at h ⊢

theorem mem_asmCandidates_wk {I m : Url} (h : m ∈ asmCandidates I) : ∃ d, isAsWk d = true ∧ m = I.derive d := by
  obtain ⟨d, hd, rfl⟩ := mem_asmCandidates_table h
  refine ⟨d, ?_, rfl⟩
  split at hd <;> simp [asWkWithPath, asWkNoPath] at hd <;> rcases hd with rfl | rfl | rfl <;> rfl

theorem asBase_of_candidate {I m : Url} (h : m ∈ asmCandidates I) (hc : checkHOL m = true) : asBase m = some I := by
  obtain ⟨d, hd, rfl⟩ := mem_asmCandidates_wk h
  obtain ⟨o, s, k, ds, rfl⟩ := hol_at (checkHOL_derive hc)
  exact asBase_derive_at o s k ds hd

theorem MCase.wf_at {c : MCase} (h : c.wf = true) : ∃ o s k ds, c.cfg.serverUrl = .at o s k ds := by
  simp only [MCase.wf, Bool.and_eq_true] at h
  cases hu : c.cfg.serverUrl <;> simp [hu] at h ⊢

theorem MCase.wf_ch {c : MCase} (h : c.wf = true) : asBase (rmFrom c.inp.challenges) = none := by
  simp only [MCase.wf, Bool.and_eq_true, Option.isNone_iff_eq_none] at h
  exact h.2

theorem asBase_prmCandidate {c : MCase} (hwf : c.wf = true) {x : Url × Url}
    (hx : x ∈ prmCandidates (rmFrom c.inp.challenges) c.cfg.serverUrl) : asBase x.1 = none := by
  rcases mem_prmCandidates hx with ⟨rfl, _⟩ | rfl | rfl
  · exact MCase.wf_ch hwf
  · exact asBase_derive_not _ rfl
  · exact asBase_derive_not _ rfl

@[simp] theorem erase_url (e : Event) : e.erase.url = e.url := by cases e <;> rfl
@[simp] theorem erase_isRequest (e : Event) : e.erase.isRequest = e.isRequest := by cases e <;> rfl
@[simp] theorem erase_cred (e : Event) : e.erase.cred = e.cred := by cases e <;> rfl

theorem getsOf_map_erase (l : List Event) : getsOf (l.map Event.erase) = getsOf l := by
  unfold getsOf
  rw [List.filterMap_map]
  congr 1
  funext e
  cases e <;> rfl

theorem usedOf_map_erase (l : List Event) : usedOf (l.map Event.erase) = usedOf l := by
  unfold usedOf
  rw [List.filterMap_map]
  congr 1
  funext e
  cases e <;> rfl

theorem getsOf_append (a b : List Event) : getsOf (a ++ b) = getsOf a ++ getsOf b := by
  simp [getsOf, List.filterMap_append]

theorem mem_getsOf {l : List Event} {u : Url} : u ∈ getsOf l ↔ ∃ k, Event.get k u ∈ l := by
  simp only [getsOf, List.mem_filterMap]
  constructor
  · rintro ⟨e, he, h⟩
    cases e <;> simp at h
    subst h; exact ⟨_, he⟩
  · rintro ⟨k, h⟩
    exact ⟨_, h, rfl⟩

theorem getsOf_eq_nil {l : List Event} (h : ∀ e ∈ l, ∀ k u, e ≠ .get k u) : getsOf l = [] := by
  rw [List.eq_nil_iff_forall_not_mem]
  intro u hu
  obtain ⟨k, hk⟩ := mem_getsOf.1 hu
  exact h _ hk k u rfl

theorem mem_usedOf {l : List Event} {r : Role} {x : Url} (h : (r, x) ∈ usedOf l) :
    (r = .authorization ∧ ∃ c res, Event.fetch x c res ∈ l) ∨ (r = .registration ∧ Event.register x ∈ l) ∨
    (r = .token ∧ ∃ c, Event.token x c ∈ l) := by
  simp only [usedOf, List.mem_filterMap] at h
  obtain ⟨e, he, h⟩ := h
  cases e <;> simp at h
  · obtain ⟨rfl, rfl⟩ := h; exact Or.inr (Or.inl ⟨rfl, he⟩)
  · obtain ⟨rfl, rfl⟩ := h; exact Or.inl ⟨rfl, _, _, he⟩
  · obtain ⟨rfl, rfl⟩ := h; exact Or.inr (Or.inr ⟨rfl, _, he⟩)

theorem mem_map_erase {l : List Event} {e : Event} (h : e ∈ l.map Event.erase) : ∃ e0 ∈ l, e = e0.erase := by
  simp only [List.mem_map] at h
  obtain ⟨e0, h0, rfl⟩ := h
  exact ⟨e0, h0, rfl⟩

theorem erase_eq_fetch {e : Event} {u : Url} {c : Cred} {r : Url} (h : e.erase = .fetch u c r) : e = .fetch u c r := by
  cases e <;> simp_all [Event.erase]

theorem erase_eq_token {e : Event} {u : Url} {c : Cred} (h : e.erase = .token u c) : e = .token u c := by
  cases e <;> simp_all [Event.erase]

theorem erase_eq_register {e : Event} {u : Url} (h : e.erase = .register u) : e = .register u := by
  cases e <;> simp_all [Event.erase]

section Round
variable (c : MCase)

abbrev MCase.result (c : MCase) : Result := authorize c.cfg c.inp c.tabs.world

theorem world_asm (t : Tabs) (i : Nat) (m : Url) : t.world.asm i m = (t.asm.lookup m).getD .status4xx := rfl
theorem world_prm (t : Tabs) (i : Nat) (m : Url) : t.world.prm i m = (t.prm.lookup m).getD .status4xx := rfl

theorem issuer_not_bad {c : MCase} (hwf : c.wf = true) {l : List Event} {I res : Url}
    (h : PrmJustifies c.cfg c.inp c.tabs.world l I res) : ∀ n, I ≠ .bad n := by
  obtain ⟨o, s, k, ds, hU⟩ := MCase.wf_at hwf
  rcases h with ⟨rfl, _⟩ | ⟨x, _, i, d, _, _, _, hsafe, hhead, _⟩
  · rw [hU]; simp [Url.root]
  · have hmem : I ∈ d.authServers := List.mem_of_mem_head? hhead
    rcases hsafe I hmem with h | ⟨_, h⟩
    · subst h; simp
    · obtain ⟨o', s', k', ds', rfl⟩ := hol_at h; simp

theorem authorize_asm_shape (cfg : Config) (inp : Input) (w : World) (a : AsmDoc)
    (h : (authorize cfg inp w).asm = some a) :
    ∃ p I q, p = discoverPrm w 0 (prmCandidates (rmFrom inp.challenges) cfg.serverUrl) ∧
      I = p.1.issuer cfg.serverUrl ∧ q = discoverAsm w I 0 (asmCandidates I) ∧
      (∀ o, q.1 ≠ .err o) ∧ a = effAsm q.1 I ∧ (authorize cfg inp w).issuer = some I ∧
      getsOf (authorize cfg inp w).log = getsOf p.2 ++ getsOf q.2 := by
  obtain ⟨p, I, q, rest, hp, hI, hq, hq1, ha, hiss, hlog, hrest⟩ := (authorize_pass cfg inp w).shape a h
  refine ⟨p, I, q, hp, hI, hq, hq1, ha, hiss, ?_⟩
  rw [hlog, getsOf_append, getsOf_append, getsOf_eq_nil hrest, List.append_nil]

theorem getsOf_map_get (k : Kind) (l : List Url) : getsOf (l.map (Event.get k)) = l := by
  induction l with
  | nil => rfl
  | cons a t ih => simp_all [getsOf]

theorem lastIssuer_append {I : Url} (Gp : List Url) {Gq : List Url} (hq : ∀ m ∈ Gq, asBase m = some I) (hne : Gq ≠ []) :
    lastIssuer (Gp ++ Gq) = some I := by
  refine (List.filterMap_getLast?_iff asBase _ I).2
    ⟨Gp ++ Gq.dropLast, Gq.getLast hne, [], ?_, hq _ (List.getLast_mem hne), nofun⟩
  rw [List.append_assoc, List.dropLast_concat_getLast hne]

theorem mineOf_append {I : Url} {Gp Gq : List Url} (hp : ∀ u ∈ Gp, asBase u = none)
    (hq : ∀ m ∈ Gq, asBase m = some I) : mineOf (Gp ++ Gq) I = Gq := by
  unfold mineOf
  rw [List.filter_append]
  have h1 : Gp.filter (fun m => asBase m == some I) = [] := by
    rw [List.filter_eq_nil_iff]; intro u hu; simp [hp u hu]
  have h2 : Gq.filter (fun m => asBase m == some I) = Gq := by
    rw [List.filter_eq_self]; intro m hm; simp [hq m hm]
  rw [h1, h2, List.nil_append]

theorem docAt_of_4xx {t : Tabs} {I x : Url} (h : (t.asm.lookup x).getD .status4xx = .status4xx) : docAt t I x = none := by
  unfold docAt
  cases hl : t.asm.lookup x with
  | none => rfl
  | some r => cases r <;> simp_all

theorem is4xx_of_4xx {t : Tabs} {x : Url} (h : (t.asm.lookup x).getD .status4xx = .status4xx) : is4xx t x = true := by
  unfold is4xx; rw [h]

theorem asmDocsFor_found {t : Tabs} {I : Url} {Gp ms1 : List Url} {m : Url} {d : AsmDoc}
    (hp : ∀ u ∈ Gp, asBase u = none) (hq : ∀ x ∈ ms1 ++ [m], asBase x = some I)
    (h1 : ∀ x ∈ ms1, (t.asm.lookup x).getD .status4xx = .status4xx)
    (hm : (t.asm.lookup m).getD .status4xx = .doc d) (hok : specAsmOk d I = true) :
    asmDocsFor t (Gp ++ (ms1 ++ [m])) I = [d] := by
  unfold asmDocsFor all4xx
  rw [mineOf_append hp hq]
  have e1 : ms1.filterMap (docAt t I) = [] := by
    rw [List.filterMap_eq_nil_iff]
    intro x hx
    exact docAt_of_4xx (h1 x hx)
  have e2 : docAt t I m = some d := by
    unfold docAt; rw [getD_doc hm]; simp [hok]
  have e3 : is4xx t m = false := by
    unfold is4xx; rw [hm]
  rw [List.filterMap_append, e1]
  simp [e2, e3]

theorem asmDocsFor_next {t : Tabs} {I : Url} {Gp : List Url}
    (hp : ∀ u ∈ Gp, asBase u = none) (hq : ∀ x ∈ asmCandidates I, asBase x = some I)
    (h1 : ∀ x ∈ asmCandidates I, (t.asm.lookup x).getD .status4xx = .status4xx) :
    asmDocsFor t (Gp ++ asmCandidates I) I = [fallbackAsm I] := by
  unfold asmDocsFor all4xx
  rw [mineOf_append hp hq]
  have e1 : (asmCandidates I).filterMap (docAt t I) = [] := by
    rw [List.filterMap_eq_nil_iff]
    intro x hx
    exact docAt_of_4xx (h1 x hx)
  have e2 : (asmCandidates I).all (is4xx t) = true := by
    rw [List.all_eq_true]; intro x hx; exact is4xx_of_4xx (h1 x hx)
  rw [e1, e2]; simp
  intro x hx _; exact hx

theorem matchesUsed_model (cfg : Config) (inp : Input) (w : World) {a : AsmDoc}
    (h : (authorize cfg inp w).asm = some a) : matchesUsed ((authorize cfg inp w).log.map Event.erase) a = true := by
  unfold matchesUsed
  rw [usedOf_map_erase, List.all_eq_true]
  rintro ⟨r, x⟩ hx
  obtain ⟨_, h2, h3, h4⟩ := asm_used_only_if_issuer_matches_and_pkce cfg inp w
  rcases mem_usedOf hx with ⟨rfl, cr, res, he⟩ | ⟨rfl, he⟩ | ⟨rfl, cr, he⟩
  · obtain ⟨a', ha', rfl⟩ := h3 _ _ _ he
    rw [h] at ha'; cases ha'; simp [roleOf]
  · obtain ⟨a', ha', rfl⟩ := h2 _ he
    rw [h] at ha'; cases ha'; simp [roleOf]
  · obtain ⟨a', ha', rfl⟩ := h4 _ _ he
    rw [h] at ha'; cases ha'; simp [roleOf]

/-- **The monitor reconstructs the model's metadata.** In a well-formed round in which the model
chose metadata `a` (a fetched document or the fall-back), the monitor's set of metadata that can be
"in use" — computed from the bare GET log and the network tables — is exactly `[a]`. -/
theorem effDocs_model {c : MCase} (hwf : c.wf = true) {a : AsmDoc} (h : c.result.asm = some a) :
    effDocs c (obsOf c.result) = [a] := by
  obtain ⟨p, I, q, hp, hI, hq, hq1, ha, hiss, hgets⟩ := authorize_asm_shape c.cfg c.inp c.tabs.world a h
  have F := authorize_facts c.cfg c.inp c.tabs.world
  have hnb := issuer_not_bad hwf (F.issuer I hiss)
  have hGp : ∀ u ∈ getsOf p.2, asBase u = none := by
    intro u hu
    obtain ⟨k, hk⟩ := mem_getsOf.1 hu
    rw [hp] at hk
    obtain ⟨x, hx, he, _⟩ := discoverPrm_log hk
    cases he
    exact asBase_prmCandidate hwf hx
  have hGq : ∀ m ∈ getsOf q.2, asBase m = some I := by
    intro m hm
    obtain ⟨k, hk⟩ := mem_getsOf.1 hm
    rw [hq] at hk
    obtain ⟨m', hm', he, hc⟩ := discoverAsm_log hk
    cases he
    exact asBase_of_candidate hm' hc
  have hmu := matchesUsed_model c.cfg c.inp c.tabs.world h
  unfold effDocs
  simp only [obsOf, MCase.result] at hmu ⊢
  rw [getsOf_map_erase, hgets]
  cases hq1' : q.1 with
  | err o => exact absurd hq1' (hq1 o)
  | next =>
    have hq1'' : (discoverAsm c.tabs.world I 0 (asmCandidates I)).1 = .next := by rw [← hq]; exact hq1'
    have hlog : getsOf q.2 = asmCandidates I := by
      rw [hq, (discoverAsm_next hq1'').1, getsOf_map_get]
    have hall := (discoverAsm_next hq1'').2
    rw [hlog] at hGq ⊢
    rw [lastIssuer_append _ hGq (asmCandidates_ne_nil hnb)]
    simp only
    rw [asmDocsFor_next hGp hGq (fun x hx => by obtain ⟨_, j, hj⟩ := hall x hx; exact hj)]
    have : a = fallbackAsm I := by rw [ha, hq1']; rfl
    subst this
    simp [hmu]
  | found d =>
    have hq1'' : (discoverAsm c.tabs.world I 0 (asmCandidates I)).1 = .found d := by rw [← hq]; exact hq1'
    obtain ⟨ms1, m, ms2, j, _, e2, e3, e4, e5, e6, e7⟩ := discoverAsm_found_shape hq1''
    have hlog : getsOf q.2 = ms1 ++ [m] := by
      rw [hq, e7, getsOf_map_get]
    rw [hlog] at hGq ⊢
    rw [lastIssuer_append _ hGq (by simp)]
    simp only
    rw [asmDocsFor_found hGp hGq (fun x hx => by obtain ⟨j, hj⟩ := e2 x hx; exact hj) e3 ((specAsmOk_iff _ _).2 (And.intro e4 (And.intro e5 (asmUrlsOk_spec e6))))]
    have : a = d := by rw [ha, hq1']; rfl
    subst this
    simp [hmu]

theorem only_gets_of_no_asm (cfg : Config) (inp : Input) (w : World) (h : (authorize cfg inp w).asm = none)
    {e : Event} (he : e ∈ (authorize cfg inp w).log) : ∃ k u, e = .get k u := by
  have hs := authorize_source cfg inp w e he
  cases e with
  | get k u => exact ⟨k, u, rfl⟩
  | register u => obtain ⟨a, ha, _⟩ := hs; rw [h] at ha; cases ha
  | fetch u c r => obtain ⟨a, ha, _⟩ := hs; rw [h] at ha; cases ha
  | token u c => obtain ⟨a, ha, _⟩ := hs; rw [h] at ha; cases ha

theorem chkHttps_model (hreq : Generated.OAuth.tokenEndpointRequired = true) :
    chkHttps (obsOf c.result) = none :=
  chkHttps_none_iff.2 fun e he hr => by
    obtain ⟨e0, h0, rfl⟩ := mem_map_erase he
    simpa using requests_https_or_loopback_if_endpoint_required hreq c.cfg c.inp c.tabs.world e0 h0 (by simpa using hr)

theorem chkScript_model : chkScript c (obsOf c.result) = none :=
  chkScript_none_iff.2 fun e he hs => by
    obtain ⟨e0, h0, rfl⟩ := mem_map_erase he
    rcases no_script_scheme_used c.cfg c.inp c.tabs.world e0 h0 (by simpa using hs) with h | rfl
    · exact .inl h
    · exact .inr rfl

theorem prmJust_model {c : MCase} {I res : Url}
    (h : PrmJustifies c.cfg c.inp c.tabs.world c.result.log I res) :
    prmJust c (getsOf c.result.log) I = true ∧ (res = c.cfg.serverUrl ∨ res = c.cfg.serverUrl.root) := by
  rcases h with ⟨rfl, rfl⟩ | ⟨x, hx, i, d, hw, hlog, hres, hsafe, hhead, rfl⟩
  · exact ⟨(prmJust_spec ..).2 (.inl rfl), .inl rfl⟩
  · refine ⟨(prmJust_spec ..).2 (.inr ⟨x, hx, mem_getsOf.2 ⟨_, hlog⟩, d, getD_doc (world_prm c.tabs i x.1 ▸ hw),
      hres, hsafe, hhead⟩), ?_⟩
    rw [hres]
    rcases mem_prmCandidates hx with ⟨rfl, _⟩ | rfl | rfl <;> simp

theorem chkPrmIssuer_model (hwf : c.wf = true) : chkPrmIssuer c (obsOf c.result) = none := by
  unfold chkPrmIssuer
  rw [firstSome_eq_none]
  intro I hI
  simp only [obsOf, getsOf_map_erase] at hI ⊢
  obtain ⟨m, hm, hb⟩ := List.mem_filterMap.1 hI
  obtain ⟨k, hk⟩ := mem_getsOf.1 hm
  have hs := authorize_source c.cfg c.inp c.tabs.world _ hk
  cases k with
  | prm =>
    obtain ⟨x, hx, rfl, _⟩ := hs
    rw [asBase_prmCandidate hwf hx] at hb; cases hb
  | asm =>
    obtain ⟨I', hI', hm', hc⟩ := hs
    rw [asBase_of_candidate hm' hc] at hb
    cases hb
    simp [(prmJust_model ((authorize_facts c.cfg c.inp c.tabs.world).issuer _ hI')).1]

theorem chkPrmResource_model : chkPrmResource c (obsOf c.result) = none :=
  chkPrmResource_none_iff.2 fun u cr r he => by
    obtain ⟨e0, h0, h⟩ := mem_map_erase he
    rw [erase_eq_fetch h.symm] at h0
    obtain ⟨hr, I, hI⟩ := (prm_used_only_if_resource_matches c.cfg c.inp c.tabs.world).2.2 u cr r h0
    rw [hr]
    exact (prmJust_model ((authorize_facts c.cfg c.inp c.tabs.world).issuer _ hI)).2

theorem chkAsm_model (hwf : c.wf = true) : chkAsm c (obsOf c.result) = none := by
  unfold chkAsm
  cases ha : c.result.asm with
  | some a => simp [effDocs_model hwf ha]
  | none =>
    have : usedOf (obsOf c.result).events = [] := by
      simp only [obsOf, usedOf_map_erase]
      rw [List.eq_nil_iff_forall_not_mem]
      rintro ⟨r, x⟩ hx
      rcases mem_usedOf hx with ⟨_, _, _, he⟩ | ⟨_, he⟩ | ⟨_, _, he⟩ <;>
        obtain ⟨k, u, h⟩ := only_gets_of_no_asm c.cfg c.inp c.tabs.world ha he <;> cases h
    simp [this]

theorem inUse_model (hwf : c.wf = true) {a : AsmDoc} (ha : c.result.asm = some a) : InUse c (obsOf c.result) a :=
  mem_effDocs.1 (by rw [effDocs_model hwf ha]; exact List.mem_singleton.2 rfl)

theorem chkExchange_model (hwf : c.wf = true) : chkExchange c (obsOf c.result) = none :=
  chkExchange_none_iff.2 fun ⟨u, cr, he⟩ => by
    obtain ⟨e0, h0, h⟩ := mem_map_erase he
    rw [erase_eq_token h.symm] at h0
    obtain ⟨a, ha, _, iss, hf, hic⟩ := exchange_requires_state_and_iss c.cfg c.inp c.tabs.world u cr h0
    exact ⟨iss, hf, fun _ => ⟨a, inUse_model c hwf ha, hic⟩⟩

theorem chkPre_model (hwf : c.wf = true) : chkPre c (obsOf c.result) = none :=
  chkPre_none_iff.2 fun ⟨e, he, hp⟩ => by
    obtain ⟨e0, h0, rfl⟩ := mem_map_erase he
    obtain ⟨a, pi, ha, hpre, hb⟩ := preregistered_issuer_binding c.cfg c.inp c.tabs.world e0 h0 (by simpa using hp)
    exact ⟨pi, hpre, hb.imp id fun hb _ => ⟨a, inUse_model c hwf ha, hb⟩⟩

theorem registeredNow_model (a : AsmDoc) :
    registeredNow c (obsOf c.result) a =
      (c.result.log.contains (.register a.registrationEndpoint) && regCreated c.tabs a.registrationEndpoint) := by
  unfold registeredNow
  simp only [obsOf]
  rw [Bool.eq_iff_iff]
  simp only [List.any_eq_true, Bool.and_eq_true, List.contains_iff_mem]
  constructor
  · rintro ⟨e, he, h⟩
    obtain ⟨e0, h0, rfl⟩ := mem_map_erase he
    cases e0 <;> simp [Event.erase] at h
    obtain ⟨rfl, h2⟩ := h
    exact ⟨h0, h2⟩
  · rintro ⟨h1, h2⟩
    exact ⟨_, List.mem_map.2 ⟨_, h1, rfl⟩, by simp [Event.erase, h2]⟩

theorem reg_of_world {t : Tabs} {u : Url} {urls : List Url} (h : t.world.reg u = .created true urls) :
    t.reg.lookup u = some (.created true urls) := by
  have h' : (t.reg.lookup u).getD .fail = .created true urls := h
  cases hl : t.reg.lookup u with
  | none => rw [hl] at h'; cases h'
  | some r => rw [hl] at h'; exact congrArg some h'

theorem chkDcr_model (hwf : c.wf = true) (hist : List Url) : chkDcr c hist (obsOf c.result) = none :=
  chkDcr_none_iff.2 fun ⟨e, he, hp⟩ => by
    obtain ⟨e0, h0, rfl⟩ := mem_map_erase he
    obtain ⟨hd, a, urls, ha, hreg, hw⟩ :=
      (credentials_resolved_in_this_call c.cfg c.inp c.tabs.world e0 h0).1 (by simpa using hp)
    exact ⟨hd, fun _ => ⟨a, inUse_model c hwf ha, .inl ⟨List.mem_map.2 ⟨_, hreg, rfl⟩, urls, reg_of_world hw⟩⟩⟩

theorem chkCimd_model : chkCimd c (obsOf c.result) = none :=
  chkCimd_none_iff.2 fun ⟨e, he, hp⟩ => by
    obtain ⟨e0, h0, rfl⟩ := mem_map_erase he
    exact ((credentials_resolved_in_this_call c.cfg c.inp c.tabs.world e0 h0).2 (by simpa using hp)).1

theorem tok_of_world {t : Tabs} {u : Url} {i : Nat} (h : t.world.tok i u ≠ .fail) :
    ∃ r ∈ (t.tok.lookup u).getD [], r ≠ TokResp.fail := by
  have h' : ((t.tok.lookup u).getD []).getD i .fail ≠ .fail := h
  rw [List.getD_eq_getElem?_getD] at h'
  cases hl : ((t.tok.lookup u).getD [])[i]? with
  | none => rw [hl] at h'; exact absurd rfl h'
  | some r => rw [hl] at h'; exact ⟨r, List.mem_of_getElem? hl, h'⟩

theorem chkInstall_model : chkInstall c (obsOf c.result) = none :=
  chkInstall_none_iff.2 fun hi => by
    obtain ⟨ho, a, _, _, cr, i, hlog, hw⟩ := (authorize_facts c.cfg c.inp c.tabs.world).inst hi
    refine ⟨?_, _, cr, List.mem_map.2 ⟨_, hlog, rfl⟩, tok_of_world hw⟩
    rcases ho with h | h <;> simp [obsOf, h, outName]

theorem chkAll_model (hreq : Generated.OAuth.tokenEndpointRequired = true) (hwf : c.wf = true) (hist : List Url) :
    chkAll c hist (obsOf c.result) = none := by
  unfold chkAll
  rw [chkHttps_model c hreq, chkScript_model, chkPrmIssuer_model c hwf, chkPrmResource_model, chkAsm_model c hwf,
    chkExchange_model c hwf, chkPre_model c hwf, chkDcr_model c hwf, chkCimd_model, chkInstall_model]
  rfl

/-- The model's own account of "this round registered dynamically, at this issuer": the metadata in
use, a registration request to its registration endpoint in the log, answered with a client id. -/
def modelRegd (t : Tabs) (R : Result) : List Url :=
  match R.asm with
  | some a =>
    if R.log.contains (.register a.registrationEndpoint) && regCreated t a.registrationEndpoint then [a.issuer] else []
  | none => []

/-- The monitor's bookkeeping is the model's. -/
theorem regdOf_model (hwf : c.wf = true) : regdOf c (obsOf c.result) = modelRegd c.tabs c.result := by
  unfold regdOf modelRegd
  cases ha : c.result.asm with
  | some a =>
    rw [effDocs_model hwf ha]
    simp only [List.filter_cons, List.filter_nil, registeredNow_model]
    split <;> simp
  | none =>
    have : (effDocs c (obsOf c.result)).filter (registeredNow c (obsOf c.result)) = [] := by
      rw [List.filter_eq_nil_iff]
      intro d _
      rw [registeredNow_model]
      have : Event.register d.registrationEndpoint ∉ c.result.log := by
        intro hm
        obtain ⟨k, u, h⟩ := only_gets_of_no_asm c.cfg c.inp c.tabs.world ha hm
        cases h
      simp [this]
    rw [this]; rfl

/-- `hreq` is THE place where the bridge depends on the repair of F21: in a tree with the flag `false` the model
sends a token request to the empty URL and `chkHttps` reports it.  `monitor_accepts_round` below discharges `hreq` by
`rfl`, which does not compile in such a tree — intended. -/
theorem monitor_accepts_round_if_endpoint_required (hreq : Generated.OAuth.tokenEndpointRequired = true) (hwf : c.wf = true)
    (hist : List Url) : monitor c hist (obsOf c.result) = (none, modelRegd c.tabs c.result) := by
  unfold monitor
  rw [chkAll_model c hreq hwf hist, regdOf_model c hwf]

theorem monitor_accepts_round (hwf : c.wf = true) (hist : List Url) :
    monitor c hist (obsOf c.result) = (none, modelRegd c.tabs c.result) :=
  monitor_accepts_round_if_endpoint_required c rfl hwf hist

end Round

/-- One round of a history, in the form a record carries it. -/
structure TRound where
  serverUrl : Url
  inp : Input
  tabs : Tabs

def TRound.round (r : TRound) : Round := { serverUrl := r.serverUrl, inp := r.inp, world := r.tabs.world }
def TRound.mcase (hc : HConfig) (r : TRound) : MCase := { cfg := hc.at r.serverUrl, inp := r.inp, tabs := r.tabs }

/-- The observation trace of the MODEL handler `h` over the rounds `rs`: what the driver's monitor is
given on a case on which the implementation agrees with the model in every round. -/
def modelTrace (h : Handler) (rs : List TRound) : List (MCase × Obs) :=
  List.zipWith (fun r R => (r.mcase h.cfg, obsOf R)) rs (h.run (rs.map TRound.round)).2

theorem modelTrace_eq (h : Handler) (rs : List TRound) :
    modelTrace h rs = rs.map fun r => (r.mcase h.cfg, obsOf (r.mcase h.cfg).result) := by
  unfold modelTrace
  rw [(history_rounds_independent h (rs.map TRound.round)).1, List.map_map, List.zipWith_map_right, List.zipWith_self]
  rfl

theorem histAfter_model_from (hc : HConfig) : ∀ (rs : List TRound) (hist : List Url),
    (∀ r ∈ rs, (r.mcase hc).wf = true) →
    histAfter hist (rs.map fun r => (r.mcase hc, obsOf (r.mcase hc).result)) =
      hist ++ rs.flatMap fun r => modelRegd r.tabs (r.mcase hc).result
  | [], hist, _ => by simp [histAfter]
  | r :: rs, hist, hwf => by
    simp only [List.map_cons, histAfter, List.flatMap_cons]
    rw [regdOf_model (r.mcase hc) (hwf r (by simp)),
      histAfter_model_from hc rs _ (fun r' hr' => hwf r' (by simp [hr'])), List.append_assoc]
    rfl

theorem monitor_accepts_model (h : Handler) (rs : List TRound) (hwf : ∀ r ∈ rs, (r.mcase h.cfg).wf = true) :
    runMon (modelTrace h rs) = none := by
  rw [modelTrace_eq, runMon, runMonFrom_eq_first, FirstReport.first_eq_none]
  intro k r hk
  obtain ⟨r0, hr0, rfl⟩ := List.mem_map.1 (List.mem_of_getElem? hk)
  exact chkAll_model (r0.mcase h.cfg) rfl (hwf r0 hr0) _

/-- The history invariant: after any prefix of the model's trace the monitor's state — the issuers at which earlier
rounds registered dynamically, as observed — is the list of issuers at which the MODEL's earlier rounds registered. -/
theorem histAfter_model (h : Handler) (rs : List TRound) (hwf : ∀ r ∈ rs, (r.mcase h.cfg).wf = true) :
    histAfter [] (modelTrace h rs) = rs.flatMap fun r => modelRegd r.tabs (roundResult h.cfg r.round) := by
  rw [modelTrace_eq, histAfter_model_from h.cfg rs [] hwf]
  rfl

theorem modelTrace_length (h : Handler) (rs : List TRound) : (modelTrace h rs).length = rs.length := by
  rw [modelTrace_eq]; simp

/-- Every clause of C15, as stated in Spec.lean on observation traces, holds on the
observation trace of the model over ANY history of well-formed rounds: the predicates the soundness
theorems refute are satisfiable — by every behaviour the model allows. -/
theorem model_satisfies_P (h : Handler) (rs : List TRound) (hwf : ∀ r ∈ rs, (r.mcase h.cfg).wf = true) (cl : Clause) :
    P_of cl (modelTrace h rs) :=
  monitor_complete _ (monitor_accepts_model h rs hwf) cl

/-- The `wwwfuzz` clause does not fire on the model's observation (`www` records have no clause: they
are judged by equality with the Lean parser alone). -/
theorem fuzz_accepts_model : chkFuzz fuzzOk = false := by decide

section Witness

/-- The honest network of Props.lean, as lookup tables; `reg` answers a registration with a client id. -/
def tHonest (doc : AsmDoc) : Tabs :=
  { prm := [(wServer.derive .prmPath, .doc { resource := wServer, authServers := [wAS] })]
    asm := [(wAS.derive .asOAuth, .doc doc)]
    tok := [(wHttps 2 12, [.good])]
    reg := [(wHttps 2 13, .created true [])]
    fetch := .result true wAS }

def tCase : MCase := { cfg := wCfg, inp := wInp, tabs := tHonest wDoc }
def tCaseDcr : MCase :=
  { cfg := { wCfg with pre := none, dcr := true }, inp := wInp,
    tabs := tHonest { wDoc with registrationEndpoint := wHttps 2 13 } }

/-- The hypotheses of `monitor_accepts_round` are satisfiable by a round that runs to completion (two
GETs, the fetcher, a token request, a token installed): the monitor is silent and records nothing. -/
example : tCase.wf = true ∧ tCase.result.installed = true ∧ tCase.result.log.length = 4 ∧
    monitor tCase [] (obsOf tCase.result) = (none, []) := by decide +kernel

/-- … and by a round that registers dynamically: the monitor records the issuer, as the model does. -/
example : tCaseDcr.wf = true ∧ tCaseDcr.result.installed = true ∧
    monitor tCaseDcr [] (obsOf tCaseDcr.result) = (none, [wAS]) ∧ modelRegd tCaseDcr.tabs tCaseDcr.result = [wAS] := by
  decide +kernel

/-- A two-round history on one handler (the second round against the same network): silent, and the
monitor's state is the model's registrations. -/
example :
    let h : Handler := { cfg := { cimd := false, pre := none, dcr := true } }
    let r : TRound := { serverUrl := wServer, inp := wInp, tabs := tCaseDcr.tabs }
    runMon (modelTrace h [r, r]) = none ∧ histAfter [] (modelTrace h [r, r]) = [wAS, wAS] := by decide +kernel

/-- WITNESS 1 (why `wf` asks for a parsed request URL).  With an unparsable request URL and
pre-registered credentials the model skips both discovery phases (no location can be derived), falls
back to endpoints "derived" from the unparsable URL and hands the fetcher an authorization URL — no
GET at all, so the monitor finds no metadata backing the endpoint and reports
`asm_used_only_if_issuer_matches_and_pkce` on a behaviour of the model.  `req.URL` is a `*url.URL`:
the input does not exist for the code; the record language excludes it (`bad-op`). -/
def tBadServer : MCase :=
  { cfg := { cimd := false, pre := some .empty, dcr := false, serverUrl := .bad 0 }, inp := wInp, tabs := {} }

theorem false_alarm_unparsable_server_url :
    tBadServer.wf = false ∧ tBadServer.result.log = [.fetch (.bad 0) .pre (.bad 0)] ∧
    chkAll tBadServer [] (obsOf tBadServer.result) = some .asm := by decide +kernel

/-- WITNESS 2 (why `wf` asks that the challenge's URL is not spelled like a metadata location).  The
observation carries bare URLs: a GET of the challenge's `resource_metadata` URL
`https://h7/.well-known/oauth-authorization-server` cannot be told from an authorization-server
metadata request to issuer `https://h7`, for which no protected-resource document vouches — the
monitor reports `prm_used_only_if_resource_matches` on a behaviour of the model.  The harness's URL
values are injective only without such spellings; the record language excludes it (`bad-op`). -/
def tChallengeAtLocation : MCase :=
  { cfg := { cimd := false, pre := some .empty, dcr := false, serverUrl := wServer },
    inp := { wInp with challenges := [{ bearer := true, resourceMetadata := (wHttps 7 0).derive .asOAuth }] }, tabs := {} }

theorem false_alarm_challenge_at_metadata_location :
    tChallengeAtLocation.wf = false ∧
    chkAll tChallengeAtLocation [] (obsOf tChallengeAtLocation.result) = some (.prmIssuer (wHttps 7 0)) := by decide +kernel

end Witness

/-! ## Non-vacuity: every clause can be reported

For each clause an observation the model does not allow, on which the monitor run reports exactly
that clause (the hypothesis `FiresAt` of each `sound_…` theorem is satisfiable).  The network is the
honest one above unless said otherwise. -/

section Witness

def oHonest : List Event :=
  [.get .prm (wServer.derive .prmPath), .get .prm (wAS.derive .asOAuth), .fetch (wHttps 2 11) .pre wServer,
   .token (wHttps 2 12) .pre]
def oWith (cr : Cred) : List Event :=
  [.get .prm (wServer.derive .prmPath), .get .prm (wAS.derive .asOAuth), .fetch (wHttps 2 11) cr wServer,
   .token (wHttps 2 12) cr]
def oOk (evs : List Event) : Obs := { out := "ok", inst := true, events := evs }

example : runMon [(tCase, oOk oHonest)] = none := by decide +kernel
example : runMon [(tCase, oOk (oHonest ++ [.register (.at ⟨"http", false, 9⟩ 0 0 [])]))] =
    some (0, .https (.register (.at ⟨"http", false, 9⟩ 0 0 []))) := by decide +kernel
example : runMon [(tCase, oOk [.token .empty .pre])] = some (0, .httpsEmptyToken) := by decide +kernel
example : runMon [(tCase, oOk [.get .prm (.at ⟨"javascript", true, 0⟩ 5 0 [])])] =
    some (0, .script (.get .prm (.at ⟨"javascript", true, 0⟩ 5 0 []))) := by decide +kernel
example : runMon [(tCase, oOk [.get .prm ((wHttps 9 0).derive .asOAuth)])] = some (0, .prmIssuer (wHttps 9 0)) := by
  decide +kernel
example : runMon [(tCase, oOk [.get .prm (wServer.derive .prmPath), .get .prm (wAS.derive .asOAuth),
    .fetch (wHttps 2 11) .pre (wHttps 9 0)])] = some (0, .prmResource (wHttps 9 0)) := by decide +kernel
example : runMon [({ tCase with tabs := tHonest { wDoc with pkce := false } }, oOk oHonest)] = some (0, .asm) := by decide +kernel
example : runMon [({ tCase with tabs := { tHonest wDoc with fetch := .err } }, oOk oHonest)] = some (0, .exchFetcher) := by
  decide +kernel
example : runMon [({ tCase with tabs := { tHonest wDoc with fetch := .result false wAS } }, oOk oHonest)] =
    some (0, .exchState) := by decide +kernel
example : runMon [({ tCase with tabs := { tHonest wDoc with fetch := .result true (wHttps 3 0) } }, oOk oHonest)] =
    some (0, .exchIss) := by decide +kernel
example : runMon [({ tCase with cfg := { wCfg with pre := none } }, oOk oHonest)] = some (0, .preNone) := by decide +kernel
example : runMon [({ tCase with cfg := { wCfg with pre := some (wHttps 3 0) } }, oOk oHonest)] = some (0, .preOther) := by
  decide +kernel
example : runMon [(tCase, oOk (oWith .dcr))] = some (0, .dcrNotConfigured) := by decide +kernel
example : runMon [(tCaseDcr, oOk (oWith .dcr))] = some (0, .dcrForeign) := by decide +kernel
example : runMon [(tCase, oOk (oWith .cimd))] = some (0, .cimdNotConfigured) := by decide +kernel
example : runMon [(tCase, { oOk oHonest with out := "exch" })] = some (0, .instOutcome "exch") := by decide +kernel
example : runMon [({ tCase with tabs := { tHonest wDoc with tok := [(wHttps 2 12, [.fail])] } }, oOk oHonest)] =
    some (0, .instNoExchange) := by decide +kernel

/-- The clause with history.  Round 0 registers at `wAS` (the model's own observation).  Round 1
presents the registered credentials without registering again: to `wAS` — accepted, the monitor
remembers the registration; to another, perfectly valid server `wAS2` — reported at round 1. -/
def tCaseDcr2 : MCase :=
  { cfg := tCaseDcr.cfg, inp := wInp,
    tabs := { prm := [(wServer.derive .prmPath, .doc { resource := wServer, authServers := [wAS2] })],
              asm := [(wAS2.derive .asOAuth, .doc wDoc2)], tok := [(wHttps 4 12, [.good])], fetch := .result true .empty } }

example : runMon [(tCaseDcr, obsOf tCaseDcr.result), (tCaseDcr, oOk (oWith .dcr))] = none := by decide +kernel
example : runMon [(tCaseDcr, obsOf tCaseDcr.result),
    (tCaseDcr2, oOk [.get .prm (wServer.derive .prmPath), .get .prm (wAS2.derive .asOAuth),
      .fetch (wHttps 4 11) .dcr wServer, .token (wHttps 4 12) .dcr])] = some (1, .dcrForeign) := by decide +kernel

end Witness

end OAuth
