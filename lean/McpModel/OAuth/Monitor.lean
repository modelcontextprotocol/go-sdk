import McpModel.OAuth.Model
/-!
E11 — the typed core of the C15 monitor.

The driver (Driver.lean) parses a flow record into a `MCase` (handler configuration, 401/403
response, the scripted network of the round as lookup tables) and the implementation's observation
into an `Obs` (outcome class, token source changed?, the ordered request log), calls `monitor`, and
renders the `Clause` it returns (`Clause.text`).  Everything that decides WHICH clause of C15 is
violated lives here, on typed data, so that Bridge.lean (no false alarm on any behaviour of the
model) and Sound.lean (a clause fires only if the property clause fails on the observed trace) can
reason about it.  The string layer — token parser, renderer, clause texts — stays in Driver.lean.

The monitor reads only the specification predicates (`Url.httpsOrLoopback`, `Url.isScript`,
`issuersEqual`, `issCheck`), the model's builders of candidate locations and fall-back endpoints
(`rmFrom`, `prmCandidates`, `asmCandidates`, `fallbackAsm`), the scripted world of the round and what the
implementation did in earlier rounds of the case (`hist`) — never `authorize`.  Core Lean only (linked into the driver).
-/
namespace OAuth

/-! ### The scripted network of one round, as the record carries it -/

structure Tabs where
  prm : List (Url × Resp PrmDoc) := []
  asm : List (Url × Resp AsmDoc) := []
  tok : List (Url × List TokResp) := []
  reg : List (Url × RegResp) := []
  fetch : FetchAnswer := .err
  ntsFails : Bool := false     -- NewTokenSource is configured and returns an error in this round

/-- The world the model is run in: every answer is looked up by URL (an unlisted URL answers 4xx /
failure; a token endpoint answers its listed attempts, then fails). -/
def Tabs.world (t : Tabs) : World where
  prm := fun _ x => (t.prm.lookup x).getD .status4xx
  asm := fun _ x => (t.asm.lookup x).getD .status4xx
  reg := fun x => (t.reg.lookup x).getD .fail
  tok := fun i x => ((t.tok.lookup x).getD []).getD i .fail
  fetch := fun _ => t.fetch
  ntsFails := t.ntsFails

def isAsWk : Wk → Bool
  | .asOAuth | .asOIDC | .asOAuthIns | .asOIDCIns | .asOIDCApp => true
  | _ => false

/-- If `u` is an authorization-server metadata location, the issuer URL it was derived from. -/
def asBase : Url → Option Url
  | .at o s k ds =>
    match ds.getLast? with
    | some d => if isAsWk d then some (.at o s k ds.dropLast) else none
    | none => none
  | _ => none

/-- One `Authorize` round as the monitor sees it: configuration + request URL, response, network. -/
structure MCase where
  cfg : Config
  inp : Input
  tabs : Tabs

/-- The domain of the record language: `req.URL` is a parsed URL, and the `resource_metadata` URL of
the challenge is not spelled like an authorization-server metadata location (the harness's URL values
are injective only on such inputs: a GET is observed as a bare URL).  The driver answers `bad-op` to a
record outside it; Bridge.lean shows that both conditions are needed. -/
def MCase.wf (c : MCase) : Bool :=
  (match c.cfg.serverUrl with | .at _ _ _ _ => true | _ => false) && (asBase (rmFrom c.inp.challenges)).isNone

/-- The implementation's observation of one round. `out` is the outcome class as printed (`ok` both
for a completed flow and for the 403 skip). In `events` every GET is `.get .prm _`: the observation
does not say which kind of metadata a GET was for. -/
structure Obs where
  out : String
  inst : Bool
  events : List Event
deriving DecidableEq, Repr

/-! ### Clauses -/

inductive Clause
  | httpsEmptyToken                 -- requests_https_or_loopback (token request to the EMPTY token_endpoint)
  | https (e : Event)               -- requests_https_or_loopback
  | script (e : Event)              -- no_script_scheme_used
  | prmIssuer (I : Url)             -- prm_used_only_if_resource_matches (authorization server)
  | prmResource (r : Url)           -- prm_used_only_if_resource_matches (resource parameter)
  | asm                             -- asm_used_only_if_issuer_matches_and_pkce
  | exchFetcher | exchState | exchIss   -- exchange_requires_state_and_iss
  | preNone | preOther              -- preregistered_issuer_binding
  | dcrNotConfigured | dcrForeign | cimdNotConfigured   -- registered_credentials_bound_to_issuer
  | instOutcome (out : String) | instNoExchange          -- failed_check_installs_nothing
deriving DecidableEq, Repr

/-! ### Reading the observation -/

def firstSome {α β} (f : α → Option β) : List α → Option β
  | [] => none
  | a :: t => match f a with
    | some b => some b
    | none => firstSome f t

def getsOf (evs : List Event) : List Url :=
  evs.filterMap fun e => match e with | .get _ u => some u | _ => none

inductive Role | authorization | registration | token
deriving DecidableEq, Repr

/-- The endpoints in use: what was handed to the fetcher, registered at, exchanged at. -/
def usedOf (evs : List Event) : List (Role × Url) :=
  evs.filterMap fun e => match e with
    | .fetch u _ _ => some (.authorization, u)
    | .register u => some (.registration, u)
    | .token u _ => some (.token, u)
    | _ => none

def roleOf (d : AsmDoc) : Role → Url
  | .authorization => d.authorizationEndpoint
  | .registration => d.registrationEndpoint
  | .token => d.tokenEndpoint

/-! ### Specification predicates on documents -/

/-- SPEC: an identifier a client may contact or show: not script-capable, https or loopback. -/
def safeUrl (u : Url) : Bool := !u.isScript && u.httpsOrLoopback

def specPrmOk (d : PrmDoc) (res : Url) : Bool :=
  d.resource == res && d.authServers.all fun a => a == .empty || safeUrl a

def specAsmOk (d : AsmDoc) (issuer : Url) : Bool :=
  issuersEqual d.issuer issuer && d.pkce &&
  ([d.authorizationEndpoint, d.tokenEndpoint, d.registrationEndpoint, d.introspectionEndpoint] ++ d.otherUrls).all
    (fun x => x == .empty || (!x.isScript && match x with | .bad _ => false | _ => true)) &&
  [d.authorizationEndpoint, d.tokenEndpoint, d.registrationEndpoint, d.introspectionEndpoint].all
    (fun x => x == .empty || x.httpsOrLoopback)

/-! ### The checks, one per clause group -/

/-- (1) every request goes to an https or loopback URL. -/
def chkHttps (o : Obs) : Option Clause :=
  firstSome (fun (e : Event) =>
      if e.url.httpsOrLoopback then none
      else match e with
        | .token .empty _ => some .httpsEmptyToken
        | _ => some (.https e)) (o.events.filter Event.isRequest)

/-- (2) no script-capable scheme requested or shown, unless the server URL itself has one / it is
the challenge's own URL. -/
def chkScript (c : MCase) (o : Obs) : Option Clause :=
  firstSome (fun (e : Event) =>
      if e.url.isScript && !c.cfg.serverUrl.isScript && !(e == .get .prm (rmFrom c.inp.challenges)) then
        some (.script e)
      else none) o.events

/-- The network serves at `m` a valid protected-resource document for `res` whose first authorization server is `I`. -/
def prmBacks (t : Tabs) (m res I : Url) : Bool :=
  match t.prm.lookup m with
  | some (.doc d) => specPrmOk d res && d.authServers.head? == some I
  | _ => false

/-- Is authorization server `I` the 2025-03-26 fall-back, or the first entry of a valid
protected-resource document that was fetched from a candidate location? -/
def prmJust (c : MCase) (gets : List Url) (I : Url) : Bool :=
  I == c.cfg.serverUrl.root || (prmCandidates (rmFrom c.inp.challenges) c.cfg.serverUrl).any fun x =>
    gets.contains x.1 && prmBacks c.tabs x.1 x.2 I

/-- (3) every authorization server whose metadata is requested is justified. -/
def chkPrmIssuer (c : MCase) (o : Obs) : Option Clause :=
  firstSome (fun I => if prmJust c (getsOf o.events) I then none else some (.prmIssuer I))
    ((getsOf o.events).filterMap asBase)

/-- (3r) the `resource` parameter is the server's. -/
def chkPrmResource (c : MCase) (o : Obs) : Option Clause :=
  firstSome (fun (e : Event) => match e with
      | .fetch _ _ r => if r == c.cfg.serverUrl || r == c.cfg.serverUrl.root then none else some (.prmResource r)
      | _ => none) o.events

/-- The authorization server asked last: the issuer of the LAST metadata location requested. -/
def lastIssuer (gets : List Url) : Option Url := (gets.filterMap asBase).getLast?

/-- The metadata locations of issuer `I` that were requested. -/
def mineOf (gets : List Url) (I : Url) : List Url := gets.filter fun m => asBase m == some I

/-- An unlisted URL answers 4xx. -/
def is4xx (t : Tabs) (m : Url) : Bool :=
  match (t.asm.lookup m).getD .status4xx with
  | .status4xx => true
  | _ => false

/-- The network serves at `m` a metadata document that is valid for issuer `I`. -/
def docAt (t : Tabs) (I m : Url) : Option AsmDoc :=
  match t.asm.lookup m with
  | some (.doc d) => if specAsmOk d I then some d else none
  | _ => none

/-- Every metadata location of `I` was requested, and every requested location of `I` answered 4xx. -/
def all4xx (t : Tabs) (gets : List Url) (I : Url) : Bool :=
  (asmCandidates I).all (fun m => gets.contains m) && (mineOf gets I).all (is4xx t)

/-- The metadata the round may work with for issuer `I`: valid documents served at requested
locations of `I`, and the 2025-03-26 fall-back when every location was requested and answered 4xx. -/
def asmDocsFor (t : Tabs) (gets : List Url) (I : Url) : List AsmDoc :=
  (mineOf gets I).filterMap (docAt t I) ++ (if all4xx t gets I then [fallbackAsm I] else [])

def matchesUsed (evs : List Event) (d : AsmDoc) : Bool := (usedOf evs).all fun (r, x) => roleOf d r == x

/-- The metadata that can be "in use": backed for the issuer asked last, and agreeing with every
endpoint in use. -/
def effDocs (c : MCase) (o : Obs) : List AsmDoc :=
  match lastIssuer (getsOf o.events) with
  | none => []
  | some I => (asmDocsFor c.tabs (getsOf o.events) I).filter (matchesUsed o.events)

/-- (4) endpoints in use are backed by a valid metadata document of that issuer, or by the fall-back. -/
def chkAsm (c : MCase) (o : Obs) : Option Clause :=
  if (usedOf o.events).isEmpty || !(effDocs c o).isEmpty then none else some .asm

def hasTok (evs : List Event) : Bool := evs.any fun e => match e with | .token _ _ => true | _ => false

/-- (5) code exchanged only if the state matches and the RFC 9207 check passes. -/
def chkExchange (c : MCase) (o : Obs) : Option Clause :=
  if !hasTok o.events then none else
  match c.tabs.fetch with
  | .err => some .exchFetcher
  | .result sm iss =>
    if !sm then some .exchState
    else if (effDocs c o).isEmpty then none   -- already reported by (4)
    else if (effDocs c o).any fun d => issCheck iss d.issuer d.issParamSupported then none
    else some .exchIss

/-- (6) pre-registered credentials bound to an issuer. -/
def chkPre (c : MCase) (o : Obs) : Option Clause :=
  if !(o.events.any fun e => e.cred == .pre) then none else
  match c.cfg.pre with
  | none => some .preNone
  | some pi =>
    if pi == .empty || (effDocs c o).isEmpty then none
    else if (effDocs c o).any fun d => issuersEqual pi d.issuer then none
    else some .preOther

def regCreated (t : Tabs) (u : Url) : Bool :=
  match t.reg.lookup u with
  | some (.created true _) => true
  | _ => false

/-- A registration request to `d`'s registration endpoint is in the log and was answered with a client id. -/
def registeredNow (c : MCase) (o : Obs) (d : AsmDoc) : Bool :=
  o.events.any fun e => match e with
    | .register u => u == d.registrationEndpoint && regCreated c.tabs u
    | _ => false

/-- (6b) dynamically registered credentials: configured, and presented only to a server that issued
them (`hist`: issuers at which EARLIER rounds of this handler registered, as observed). -/
def chkDcr (c : MCase) (hist : List Url) (o : Obs) : Option Clause :=
  if !(o.events.any fun e => e.cred == .dcr) then none
  else if !c.cfg.dcr then some .dcrNotConfigured
  else if (effDocs c o).isEmpty then none
  else if (effDocs c o).any fun d => registeredNow c o d || hist.any (issuersEqual · d.issuer) then none
  else some .dcrForeign

def chkCimd (c : MCase) (o : Obs) : Option Clause :=
  if (o.events.any fun e => e.cred == .cimd) && !c.cfg.cimd then some .cimdNotConfigured else none

def tokGood (t : Tabs) (u : Url) : Bool := ((t.tok.lookup u).getD []).any fun r => r != .fail

def goodTok (c : MCase) (o : Obs) : Bool :=
  o.events.any fun e => match e with
    | .token u _ => tokGood c.tabs u
    | _ => false

/-- (7) no installation on failure. -/
def chkInstall (c : MCase) (o : Obs) : Option Clause :=
  if o.inst && !(o.out == "ok" || o.out == "post") then some (.instOutcome o.out)
  else if o.inst && !goodTok c o then some .instNoExchange
  else none

/-- The issuers at which THIS round registered dynamically (as observed). -/
def regdOf (c : MCase) (o : Obs) : List Url := ((effDocs c o).filter (registeredNow c o)).map (·.issuer)

/-- All clauses of one round, in the order they are reported. -/
def chkAll (c : MCase) (hist : List Url) (o : Obs) : Option Clause :=
  chkHttps o <|> chkScript c o <|> chkPrmIssuer c o <|> chkPrmResource c o <|> chkAsm c o <|> chkExchange c o <|>
  chkPre c o <|> chkDcr c hist o <|> chkCimd c o <|> chkInstall c o

/-- **The C15 monitor of one round**: the violated clause, and the issuers at which this round registered. -/
def monitor (c : MCase) (hist : List Url) (o : Obs) : Option Clause × List Url :=
  (chkAll c hist o, regdOf c o)

/-! ### Over a history: the monitor's state is `hist` -/

def histAfter : List Url → List (MCase × Obs) → List Url
  | h, [] => h
  | h, (c, o) :: tr => histAfter (h ++ regdOf c o) tr

/-- Run the monitor over a trace of rounds of one handler: the first round (index) at which a clause
is reported, with the clause. -/
def runMonFrom : List Url → Nat → List (MCase × Obs) → Option (Nat × Clause)
  | _, _, [] => none
  | h, i, (c, o) :: tr =>
    match chkAll c h o with
    | some cl => some (i, cl)
    | none => runMonFrom (h ++ regdOf c o) (i + 1) tr

def runMon (tr : List (MCase × Obs)) : Option (Nat × Clause) := runMonFrom [] 0 tr

/-! ### The challenge stream

`www` records are judged by plain equality with the Lean parser (Challenge.lean): no clause.  A
`wwwfuzz` record (arbitrary bytes) has one clause: the parser panicked. -/

/-- Observation of a `wwwfuzz` record that the model gives (and the property demands). -/
def fuzzOk : String := "nopanic"

/-- Does the "ParseWWWAuthenticate panics" clause fire on the implementation's observation? -/
def chkFuzz (impl : String) : Bool := impl != fuzzOk

/-! ### The model's observation -/

def Event.erase : Event → Event
  | .get _ u => .get .prm u
  | e => e

/-- The outcome class as printed. -/
def outName : Outcome → String
  | .ok => "ok" | .skip => "ok" | .hdr => "hdr" | .noas => "noas"
  | .asmUrl => "asm-url" | .asmFetch => "asm-fetch" | .asmIssuer => "asm-issuer" | .asmPkce => "asm-pkce" | .asmField => "asm-field"
  | .preIss => "pre-iss" | .reg => "reg" | .noReg => "no-reg"
  | .fetch => "fetch" | .state => "state" | .issMissing => "iss-missing" | .issMismatch => "iss-mismatch" | .issUnexpected => "iss-unexpected"
  | .exch => "exch" | .tsErr => "ts-err" | .post => "post"

/-- What the monitor would be given if the implementation behaved exactly like the model. -/
def obsOf (r : Result) : Obs := { out := outName r.outcome, inst := r.installed, events := r.log.map Event.erase }

end OAuth
