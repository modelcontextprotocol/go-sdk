import McpModel.OAuth.Model
import McpModel.Base.Logic
/-!
Helper lemmas for E11 (C15): the bridge from the REGENERATED predicates to the specification
predicates, facts about the string operations, and for each phase function of `authorize` what it
requests and when it returns what; `authorize_cases` at the end is the case analysis of `authorize` itself.
-/
namespace OAuth
open Generated.OAuth

/-- The regenerated tables are the ones the model's candidate order stands for. -/
theorem wk_tables_match :
    prmWk.flatMap Wk.lits = prmWellKnown ∧
    asWkNoPath.flatMap Wk.lits = asWellKnownNoPath ∧
    asWkWithPath.flatMap Wk.lits = asWellKnownWithPath ∧
    fallbackWk.flatMap Wk.lits = fallbackSuffixes := ⟨rfl, rfl, rfl, rfl⟩

theorem checkHOL_spec {u : Url} (h : checkHOL u = true) : u = .empty ∨ u.httpsOrLoopback = true := by
  cases u with
  | empty => exact Or.inl rfl
  | bad n => simp [checkHOL] at h
  | «at» o s k ds =>
    right
    cases hl : o.loopback <;> simp_all [checkHOL, holReject, Url.httpsOrLoopback]

theorem checkScheme_spec {u : Url} (h : checkScheme u = true) : u.isScript = false ∧ ∀ n, u ≠ .bad n := by
  cases u with
  | empty => simp [Url.isScript]
  | bad n => simp [checkScheme] at h
  | «at» o s k ds => simpa [checkScheme, scriptSchemes, Url.isScript, and_assoc] using h

/-- SPEC: an identifier a client may contact or show — absent, or not script-capable and https/loopback. -/
def Safe (u : Url) : Prop := u = .empty ∨ (u.isScript = false ∧ u.httpsOrLoopback = true)

theorem validateIssuerResponse_spec (iss issuer : Url) (sup : Bool) :
    (validateIssuerResponse Url.empty iss issuer sup = 0) ↔ issCheck iss issuer sup = true := by
  simp only [validateIssuerResponse, issCheck]
  by_cases h1 : iss = Url.empty <;> by_cases h2 : iss = issuer <;> cases sup <;> simp_all

@[simp] theorem derive_hol (u : Url) (d : Wk) : (u.derive d).httpsOrLoopback = u.httpsOrLoopback := by
  cases u <;> simp [Url.derive, Url.httpsOrLoopback]

@[simp] theorem derive_isScript (u : Url) (d : Wk) : (u.derive d).isScript = u.isScript := by
  cases u <;> simp [Url.derive, Url.isScript]

@[simp] theorem derive_ne_empty (u : Url) (d : Wk) : u.derive d ≠ .empty := by
  cases u <;> simp [Url.derive]

@[simp] theorem root_isScript (u : Url) : u.root.isScript = u.isScript := by
  cases u <;> simp [Url.root, Url.isScript]

@[simp] theorem root_hol (u : Url) : u.root.httpsOrLoopback = u.httpsOrLoopback := by
  cases u <;> simp [Url.root, Url.httpsOrLoopback]

theorem derive_bad {u : Url} {d : Wk} {n : Nat} (h : u.derive d = .bad n) : u = .bad n := by
  cases u <;> simp_all [Url.derive]

theorem checkHOL_derive {u : Url} {d : Wk} (h : checkHOL (u.derive d) = true) : u.httpsOrLoopback = true := by
  rcases checkHOL_spec h with h | h
  · exact absurd h (derive_ne_empty u d)
  · simpa using h

theorem mem_asmCandidates_table {issuer m : Url} (h : m ∈ asmCandidates issuer) :
    ∃ d ∈ (if issuer.hasPath then asWkWithPath else asWkNoPath), m = issuer.derive d := by
  unfold asmCandidates at h
  split at h
  · simp at h
  · obtain ⟨d, hd, rfl⟩ := List.mem_map.1 h
    exact ⟨d, hd, rfl⟩

theorem mem_asmCandidates {issuer m : Url} (h : m ∈ asmCandidates issuer) : ∃ d, m = issuer.derive d :=
  let ⟨d, _, e⟩ := mem_asmCandidates_table h; ⟨d, e⟩

theorem asmCandidates_ne_nil {issuer : Url} (h : ∀ n, issuer ≠ .bad n) : asmCandidates issuer ≠ [] := by
  unfold asmCandidates
  split
  · rename_i n; exact absurd rfl (h n)
  · split <;> simp [asWkWithPath, asWkNoPath]

theorem mem_prmCandidates {ch u : Url} {c : Url × Url} (h : c ∈ prmCandidates ch u) :
    (c = (ch, u) ∧ ch ≠ .empty) ∨ (c = (u.derive .prmPath, u)) ∨ (c = (u.derive .prmRoot, u.root)) := by
  unfold prmCandidates at h
  simp only [List.mem_append, prmWk, List.map_cons, List.map_nil, List.mem_cons, List.not_mem_nil, or_false] at h
  rcases h with h | h | h
  · split at h
    · simp at h; rename_i hne; exact Or.inl ⟨h, by simpa using hne⟩
    · simp at h
  · right; left; simpa using h
  · right; right; simpa using h

theorem fetchPrm_log_eq (w : World) (i : Nat) (c : Url × Url) :
    (fetchPrm w i c).2 = if checkHOL c.1 then [.get .prm c.1] else [] := by
  unfold fetchPrm
  cases checkHOL c.1
  · rfl
  · cases w.prm i c.1 <;> rfl

theorem fetchPrm_some_iff {w : World} {i : Nat} {c : Url × Url} {d : PrmDoc} :
    (fetchPrm w i c).1 = some d ↔ checkHOL c.1 = true ∧ w.prm i c.1 = .doc d ∧ prmDocOk d c.2 = true := by
  unfold fetchPrm
  cases checkHOL c.1
  · simp
  · cases w.prm i c.1 with
    | doc d' =>
      simp only [Bool.not_true, Bool.false_eq_true, if_false, true_and, Resp.doc.injEq]
      constructor
      · intro h
        split at h
        · cases h; exact ⟨rfl, ‹_›⟩
        · cases h
      · rintro ⟨rfl, h⟩
        rw [if_pos h]
    | _ => simp

theorem discoverPrm_cons_some {w : World} {i : Nat} {c : Url × Url} {cs : List (Url × Url)} {d : PrmDoc}
    (h : (fetchPrm w i c).1 = some d) :
    discoverPrm w i (c :: cs) = (if d.authServers.isEmpty then .noAS else .found d, [.get .prm c.1]) := by
  have hl := fetchPrm_log_eq w i c
  rw [(fetchPrm_some_iff.1 h).1, if_pos rfl] at hl
  rw [discoverPrm]
  generalize fetchPrm w i c = r at h hl
  obtain ⟨_, _⟩ := r
  cases h; cases hl
  rfl

theorem discoverPrm_cons_none {w : World} {i : Nat} {c : Url × Url} {cs : List (Url × Url)}
    (h : (fetchPrm w i c).1 = none) :
    discoverPrm w i (c :: cs) = ((discoverPrm w (i + 1) cs).1, (fetchPrm w i c).2 ++ (discoverPrm w (i + 1) cs).2) := by
  rw [discoverPrm]
  generalize fetchPrm w i c = r at h
  obtain ⟨_, _⟩ := r
  cases h
  rfl

theorem discoverPrm_log {w : World} : ∀ {cs : List (Url × Url)} {i : Nat} {e : Event},
    e ∈ (discoverPrm w i cs).2 → ∃ c ∈ cs, e = .get .prm c.1 ∧ checkHOL c.1 = true
  | [], _, _, h => by simp [discoverPrm] at h
  | c :: cs, i, e, h => by
    cases hf : (fetchPrm w i c).1 with
    | some d =>
      rw [discoverPrm_cons_some hf, List.mem_singleton] at h
      exact ⟨c, by simp, h, (fetchPrm_some_iff.1 hf).1⟩
    | none =>
      rw [discoverPrm_cons_none hf, List.mem_append, fetchPrm_log_eq] at h
      rcases h with h | h
      · split at h
        · exact ⟨c, by simp, List.mem_singleton.1 h, ‹_›⟩
        · cases h
      · obtain ⟨c', hc', h'⟩ := discoverPrm_log h
        exact ⟨c', by simp [hc'], h'⟩

theorem discoverPrm_found {w : World} : ∀ {cs : List (Url × Url)} {i : Nat} {d : PrmDoc},
    (discoverPrm w i cs).1 = .found d →
    ∃ c ∈ cs, ∃ j, w.prm j c.1 = .doc d ∧ prmDocOk d c.2 = true ∧ Event.get .prm c.1 ∈ (discoverPrm w i cs).2 ∧
      d.authServers ≠ []
  | [], _, _, h => by simp [discoverPrm] at h
  | c :: cs, i, d, h => by
    cases hf : (fetchPrm w i c).1 with
    | some d' =>
      rw [discoverPrm_cons_some hf] at h ⊢
      obtain ⟨_, hw, hok⟩ := fetchPrm_some_iff.1 hf
      cases hd : d'.authServers.isEmpty <;> simp only [hd, if_true, Bool.false_eq_true, if_false, reduceCtorEq] at h
      cases h
      exact ⟨c, by simp, i, hw, hok, by simp, by simpa using hd⟩
    | none =>
      rw [discoverPrm_cons_none hf] at h ⊢
      obtain ⟨c', hc', j, hw, hok, hmem, hne⟩ := discoverPrm_found h
      exact ⟨c', by simp [hc'], j, hw, hok, List.mem_append_right _ hmem, hne⟩

theorem fetchAsm_log_eq (w : World) (i : Nat) (m issuer : Url) :
    (fetchAsm w i m issuer).2 = if checkHOL m then [.get .asm m] else [] := by
  unfold fetchAsm
  cases checkHOL m
  · rfl
  · cases w.asm i m <;> rfl

theorem fetchAsm_found_iff {w : World} {i : Nat} {m issuer : Url} {d : AsmDoc} :
    (fetchAsm w i m issuer).1 = .found d ↔
      checkHOL m = true ∧ w.asm i m = .doc d ∧ issuersEqual d.issuer issuer = true ∧ d.pkce = true ∧ asmUrlsOk d = true := by
  unfold fetchAsm
  cases checkHOL m
  · simp
  · cases w.asm i m with
    | doc d' =>
      have ne : ∀ o, AsmStep.err o ≠ .found d := fun o h => by cases h
      simp only [Bool.not_true, Bool.false_eq_true, if_false, ite_eq_iff_of_ne (ne _), AsmStep.found.injEq, Resp.doc.injEq,
        Bool.not_eq_true', Bool.not_eq_false, true_and]
      constructor
      · rintro ⟨h1, h2, h3, rfl⟩; exact ⟨rfl, h1, h2, h3⟩
      · rintro ⟨rfl, h1, h2, h3⟩; exact ⟨h1, h2, h3, rfl⟩
    | _ => simp

theorem fetchAsm_next_iff {w : World} {i : Nat} {m issuer : Url} :
    (fetchAsm w i m issuer).1 = .next ↔ checkHOL m = true ∧ w.asm i m = .status4xx := by
  unfold fetchAsm
  cases checkHOL m
  · simp
  · cases w.asm i m with
    | doc d' =>
      have ne : ∀ o, AsmStep.err o ≠ .next := fun o h => by cases h
      simp [ite_eq_iff_of_ne (ne _)]
    | _ => simp

theorem discoverAsm_cons_next {w : World} {issuer : Url} {i : Nat} {m : Url} {ms : List Url}
    (h : (fetchAsm w i m issuer).1 = .next) :
    discoverAsm w issuer i (m :: ms) =
      ((discoverAsm w issuer (i + 1) ms).1, .get .asm m :: (discoverAsm w issuer (i + 1) ms).2) := by
  have hl := fetchAsm_log_eq w i m issuer
  rw [(fetchAsm_next_iff.1 h).1, if_pos rfl] at hl
  rw [discoverAsm]
  generalize fetchAsm w i m issuer = r at h hl
  obtain ⟨_, _⟩ := r
  cases h; cases hl
  rfl

theorem discoverAsm_cons_stop {w : World} {issuer : Url} {i : Nat} {m : Url} {ms : List Url}
    (h : (fetchAsm w i m issuer).1 ≠ .next) : discoverAsm w issuer i (m :: ms) = fetchAsm w i m issuer := by
  rw [discoverAsm]
  generalize fetchAsm w i m issuer = r at h
  obtain ⟨s, _⟩ := r
  cases s
  · rfl
  · exact absurd rfl h
  · rfl

theorem discoverAsm_log {w : World} {issuer : Url} : ∀ {ms : List Url} {i : Nat} {e : Event},
    e ∈ (discoverAsm w issuer i ms).2 → ∃ m ∈ ms, e = .get .asm m ∧ checkHOL m = true
  | [], _, _, h => by simp [discoverAsm] at h
  | m :: ms, i, e, h => by
    by_cases hf : (fetchAsm w i m issuer).1 = .next
    · rw [discoverAsm_cons_next hf, List.mem_cons] at h
      rcases h with h | h
      · exact ⟨m, by simp, h, (fetchAsm_next_iff.1 hf).1⟩
      · obtain ⟨m', hm', h'⟩ := discoverAsm_log h
        exact ⟨m', by simp [hm'], h'⟩
    · rw [discoverAsm_cons_stop hf, fetchAsm_log_eq] at h
      split at h
      · exact ⟨m, by simp, List.mem_singleton.1 h, ‹_›⟩
      · cases h

theorem discoverAsm_found_shape {w : World} {issuer : Url} : ∀ {ms : List Url} {i : Nat} {d : AsmDoc},
    (discoverAsm w issuer i ms).1 = .found d →
    ∃ ms1 m ms2 j, ms = ms1 ++ m :: ms2 ∧ (∀ x ∈ ms1, ∃ j, w.asm j x = .status4xx) ∧ w.asm j m = .doc d ∧
      issuersEqual d.issuer issuer = true ∧ d.pkce = true ∧ asmUrlsOk d = true ∧
      (discoverAsm w issuer i ms).2 = (ms1 ++ [m]).map (Event.get .asm)
  | [], _, _, h => by simp [discoverAsm] at h
  | m :: ms, i, d, h => by
    by_cases hf : (fetchAsm w i m issuer).1 = .next
    · rw [discoverAsm_cons_next hf] at h ⊢
      obtain ⟨ms1, m', ms2, j, e1, e2, e3, e4, e5, e6, e7⟩ := discoverAsm_found_shape h
      refine ⟨m :: ms1, m', ms2, j, by rw [e1]; rfl, ?_, e3, e4, e5, e6, by rw [e7]; rfl⟩
      intro x hx
      rcases List.mem_cons.1 hx with rfl | hx
      · exact ⟨i, (fetchAsm_next_iff.1 hf).2⟩
      · exact e2 x hx
    · rw [discoverAsm_cons_stop hf] at h ⊢
      obtain ⟨hc, e3, e4, e5, e6⟩ := fetchAsm_found_iff.1 h
      exact ⟨[], m, ms, i, rfl, by simp, e3, e4, e5, e6, by rw [fetchAsm_log_eq, hc]; rfl⟩

theorem discoverAsm_next {w : World} {issuer : Url} : ∀ {ms : List Url} {i : Nat},
    (discoverAsm w issuer i ms).1 = .next →
    (discoverAsm w issuer i ms).2 = ms.map (Event.get .asm) ∧ ∀ m ∈ ms, checkHOL m = true ∧ ∃ j, w.asm j m = .status4xx
  | [], _, _ => by simp [discoverAsm]
  | m0 :: ms, i, h => by
    by_cases hf : (fetchAsm w i m0 issuer).1 = .next
    · rw [discoverAsm_cons_next hf] at h ⊢
      obtain ⟨h1, h2⟩ := discoverAsm_next h
      refine ⟨by rw [h1]; rfl, fun m hm => ?_⟩
      rcases List.mem_cons.1 hm with rfl | hm
      · exact ⟨(fetchAsm_next_iff.1 hf).1, i, (fetchAsm_next_iff.1 hf).2⟩
      · exact h2 m hm
    · rw [discoverAsm_cons_stop hf] at h
      exact absurd h hf

theorem register_ok_cases {cfg : Config} {w : World} {a : AsmDoc} {cred : Cred} {probe : Bool}
    (h : (register cfg w a).1 = .ok cred probe) :
    (cred = .cimd ∧ cfg.cimd = true ∧ a.cimdSupported = true) ∨
    (cred = .pre ∧ ∃ pi, cfg.pre = some pi ∧ (pi = .empty ∨ issuersEqual pi a.issuer = true)) ∨
    (cred = .dcr ∧ cfg.dcr = true ∧ (register cfg w a).2 = [.register a.registrationEndpoint] ∧
      ∃ urls, w.reg a.registrationEndpoint = .created true urls) := by
  unfold register at h ⊢
  cases hc : (cfg.cimd && a.cimdSupported)
  case true =>
    simp only [hc, if_true, RegRes.ok.injEq] at h
    exact .inl ⟨h.1.symm, by simpa using hc⟩
  simp only [hc, Bool.false_eq_true, if_false] at h ⊢
  cases hp : cfg.pre with
  | some pi =>
    simp only [hp] at h
    split at h
    · cases h
    · rename_i hn
      simp only [RegRes.ok.injEq] at h
      refine .inr (.inl ⟨h.1.symm, pi, rfl, ?_⟩)
      cases hie : issuersEqual pi a.issuer
      · left; simpa [hie] using hn
      · exact .inr rfl
  | none =>
    simp only [hp] at h ⊢
    cases hd : cfg.dcr
    · simp [hd] at h
    generalize a.registrationEndpoint = r at h ⊢
    cases r with
    | empty => simp [hd] at h
    | bad n => simp [hd] at h
    | «at» o s k ds =>
      simp only [hd, Bool.true_and, bne_iff_ne, ne_eq, reduceCtorEq, not_false_eq_true, if_true] at h ⊢
      cases hw : w.reg (.at o s k ds) with
      | fail => simp [hw] at h
      | created b urls =>
        cases b
        · simp [hw] at h
        · simp only [hw] at h
          split at h
          · simp only [RegRes.ok.injEq] at h
            exact .inr (.inr ⟨h.1.symm, trivial, rfl, urls, rfl⟩)
          · cases h

/-- Credentials that are pre-registered ones are configured and unbound, or bound to the issuer of `a` (up to one trailing slash). -/
def CredOk (cfg : Config) (a : AsmDoc) (cred : Cred) : Prop :=
  cred = .pre → ∃ pi, cfg.pre = some pi ∧ (pi = .empty ∨ issuersEqual pi a.issuer = true)

theorem register_ok {cfg : Config} {w : World} {a : AsmDoc} {cred : Cred} {probe : Bool}
    (h : (register cfg w a).1 = .ok cred probe) : CredOk cfg a cred := by
  rintro rfl
  rcases register_ok_cases h with ⟨h, _⟩ | ⟨_, h⟩ | ⟨h, _⟩
  · cases h
  · exact h
  · cases h

theorem register_log {cfg : Config} {w : World} {a : AsmDoc} {e : Event} (h : e ∈ (register cfg w a).2) :
    e = .register a.registrationEndpoint ∧ a.registrationEndpoint ≠ .empty ∧ (∀ n, a.registrationEndpoint ≠ .bad n) ∧
    cfg.dcr = true ∧ cfg.pre = none := by
  unfold register at h
  split at h
  · simp at h
  · split at h
    · split at h <;> simp at h
    · rename_i hpre
      split at h
      · rename_i hg
        simp only [Bool.and_eq_true, bne_iff_ne, ne_eq] at hg
        split at h
        · simp at h
        · rename_i hnb
          have hnb' : ∀ n, a.registrationEndpoint ≠ .bad n := fun n hn => hnb n hn
          split at h
          · simp only at h
            have : e = .register a.registrationEndpoint := by simpa using h
            exact ⟨this, hg.2, hnb', hg.1, hpre⟩
          · simp at h
            exact ⟨h, hg.2, hnb', hg.1, hpre⟩
      · simp at h

theorem register_dcr {cfg : Config} {w : World} {a : AsmDoc} {probe : Bool}
    (h : (register cfg w a).1 = .ok .dcr probe) :
    Event.register a.registrationEndpoint ∈ (register cfg w a).2 ∧ cfg.dcr = true ∧
    ∃ urls, w.reg a.registrationEndpoint = .created true urls := by
  rcases register_ok_cases h with ⟨h, _⟩ | ⟨h, _⟩ | ⟨_, hd, hl, hw⟩
  · cases h
  · cases h
  · exact ⟨by rw [hl]; exact List.mem_singleton.2 rfl, hd, hw⟩

theorem register_mode {cfg : Config} {w : World} {a : AsmDoc} {cred : Cred} {probe : Bool}
    (h : (register cfg w a).1 = .ok cred probe) :
    (cred = .cimd → cfg.cimd = true ∧ a.cimdSupported = true) ∧ (cred = .pre → cfg.pre ≠ none) ∧
    (cred = .dcr → cfg.dcr = true) ∧ cred ≠ .none := by
  rcases register_ok_cases h with ⟨rfl, hm⟩ | ⟨rfl, pi, hm, _⟩ | ⟨rfl, hm, _⟩
  · exact ⟨fun _ => hm, nofun, nofun, nofun⟩
  · exact ⟨nofun, fun _ => by rw [hm]; nofun, nofun, nofun⟩
  · exact ⟨nofun, nofun, fun _ => hm, nofun⟩

theorem exchange_log {w : World} {t : Url} {cred : Cred} {probe : Bool} {e : Event}
    (h : e ∈ (exchange w t cred probe).2) : e = .token t cred ∧ ∀ n, t ≠ .bad n := by
  unfold exchange at h
  split at h
  · simp at h
  · rename_i hnb
    have hb : ∀ n, t ≠ .bad n := fun n hn => hnb n hn
    split at h
    · split at h
      · simp at h; exact ⟨h, hb⟩
      · simp at h; exact ⟨h, hb⟩
    · simp at h; exact ⟨h, hb⟩

theorem exchange_success {w : World} {t : Url} {cred : Cred} {probe : Bool}
    (h : (exchange w t cred probe).1 ≠ .fail) :
    Event.token t cred ∈ (exchange w t cred probe).2 ∧ ∃ i, w.tok i t = (exchange w t cred probe).1 := by
  unfold exchange at h ⊢
  split
  · simp at h
  · split
    · rename_i h0
      split
      · exact ⟨by simp, 1, rfl⟩
      · rename_i hp; simp [hp, h0] at h
    · rename_i r hr hne
      exact ⟨by simp, 0, by simp⟩

/-- The RFC 9207 gate and the state gate, as seen from the world. -/
def ExchangeOk (w : World) (a : AsmDoc) : Prop :=
  ∃ iss, w.fetch a.authorizationEndpoint = .result true iss ∧ issCheck iss a.issuer a.issParamSupported = true

theorem finish_cases {w : World} {a : AsmDoc} {I res : Url} {cred : Cred} {probe : Bool} {pre : List Event} {R : Result}
    (hR : finish w a I res cred probe pre = R) :
    R.issuer = some I ∧ R.resource = res ∧ R.asm = some a ∧
    ((R.log = pre ∧ R.installed = false ∧ R.outcome ≠ .ok ∧ R.outcome ≠ .post) ∨
     (ExchangeOk w a ∧ R.log = pre ++ (exchange w a.tokenEndpoint cred probe).2 ∧
        ((((exchange w a.tokenEndpoint cred probe).1 = .fail ∨ w.ntsFails = true) ∧ R.installed = false ∧
            (R.outcome = .exch ∨ R.outcome = .tsErr)) ∨
         (w.ntsFails = false ∧ R.installed = true ∧
            (((exchange w a.tokenEndpoint cred probe).1 = .good ∧ R.outcome = .ok) ∨
             ((exchange w a.tokenEndpoint cred probe).1 = .goodExpired ∧ R.outcome = .post)))))) := by
  unfold finish at hR
  split at hR
  · subst hR; simp
  · rename_i sm iss hf
    cases sm
    · subst hR; simp
    · simp only [Bool.not_true, Bool.false_eq_true, if_false] at hR
      split at hR
      · rename_i hv
        have hx : ExchangeOk w a := ⟨iss, hf, (validateIssuerResponse_spec _ _ _).1 hv⟩
        split at hR
        · rename_i l4 he; subst hR; simp [hx, he]
        · rename_i l4 he; subst hR; cases w.ntsFails <;> simp [hx, he]
        · rename_i l4 he; subst hR; cases w.ntsFails <;> simp [hx, he]
      · subst hR; simp
      · subst hR; simp
      · subst hR; simp

theorem authorize_cases (cfg : Config) (inp : Input) (w : World) :
    ∃ p I res q a, p = discoverPrm w 0 (prmCandidates (rmFrom inp.challenges) cfg.serverUrl) ∧
      I = p.1.issuer cfg.serverUrl ∧ res = p.1.resource cfg.serverUrl ∧ q = discoverAsm w I 0 (asmCandidates I) ∧
      a = effAsm q.1 I ∧
      ((authorize cfg inp w = { outcome := .hdr }) ∨
      (authorize cfg inp w = { outcome := .skip }) ∨
      (p.1 = .noAS ∧ authorize cfg inp w = { log := p.2, outcome := .noas }) ∨
      (p.1 ≠ .noAS ∧ ∃ o, q.1 = .err o ∧
        authorize cfg inp w = { log := p.2 ++ q.2, outcome := o, issuer := some I, resource := res }) ∨
      (p.1 ≠ .noAS ∧ (∀ o, q.1 ≠ .err o) ∧ ∃ o, (register cfg w a).1 = .err o ∧
        authorize cfg inp w = { log := p.2 ++ q.2 ++ (register cfg w a).2, outcome := o, issuer := some I,
                                resource := res, asm := some a }) ∨
      (p.1 ≠ .noAS ∧ (∀ o, q.1 ≠ .err o) ∧ ∃ cred probe, (register cfg w a).1 = .ok cred probe ∧
        authorize cfg inp w = finish w a I res cred probe
          (p.2 ++ q.2 ++ (register cfg w a).2 ++ [.fetch a.authorizationEndpoint cred res]))) := by
  refine ⟨_, _, _, _, _, rfl, rfl, rfl, rfl, rfl, ?_⟩
  generalize hR : authorize cfg inp w = R
  unfold authorize at hR
  split at hR
  · exact .inl hR.symm
  split at hR
  · exact .inr (.inl hR.symm)
  simp only [] at hR
  split at hR
  · exact .inr (.inr (.inl ⟨‹_›, hR.symm⟩))
  rename_i hp
  split at hR
  · exact .inr (.inr (.inr (.inl ⟨hp, _, ‹_›, hR.symm⟩)))
  rename_i hq
  split at hR
  · exact .inr (.inr (.inr (.inr (.inl ⟨hp, hq, _, ‹_›, hR.symm⟩))))
  · exact .inr (.inr (.inr (.inr (.inr ⟨hp, hq, _, _, ‹_›, hR.symm⟩))))

end OAuth
