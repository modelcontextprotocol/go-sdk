import McpModel.Base.Proto
import McpModel.Preflight.Monitor
import McpModel.Preflight.Seq
/-!
Driver for E8 Preflight (C12): the STRING LAYER.  Replays every harness record on the model (`Preflight.verdict` and the
helper functions), parses the IMPLEMENTATION's observation into the typed observation of `Monitor.lean`, runs the typed
C12 monitor of the record's kind on it and renders the clause it reports:

* `dispatch_sound`      — a request answered 200/202 satisfies every documented precondition;
* `rejected ⇒ untouched` — any other status: no middleware / handler saw a message (`R=0 H=0`);
* `violation_status`    — a refusal carries a status/code mandated by one of the violated preconditions, and a
                          request violating nothing is not refused (F6 has its own clause);
* `client_server_agree` — what the SDK client generates for valid arguments is accepted, and the handler sees the
                          arguments that were sent;
* `decode_encode_header_value`, `primitiveEqual_refl_on_safe_ints`, `accepts_table` on the helper records;
* `client_server_agree` over time — records of kind `seq` (one client session: tools/list pages cached with their
  `ttlMs`, time passing, list_changed, tools re-registered, paginated listings): the only STATEFUL kind; the engine
  state is the model's `World` and the monitor's `SeqMon` (`Seq.lean`), reset by `seq cfg`.

What decides whether and which clause is violated is in `Monitor.lean` (bridged to the model by `Bridge.lean`, to the
property by `Sound.lean`).  Here: the token parser, the renderers of the model's observation (the equality test
`impl = model` is on these strings), the clause texts, the fall-back clauses for observations that cannot be read, and
the concrete base64 (Go `StdEncoding`: padding required, CR/LF ignored, non-strict trailing bits).
-/
namespace Preflight
open Proto

/-! ### concrete base64 (Go `base64.StdEncoding`) -/

def b64Alphabet : Array Nat :=
  "ABCDEFGHIJKLMNOPQRSTUVWXYZabcdefghijklmnopqrstuvwxyz0123456789+/".toList.toArray.map Char.toNat

def b64Char (n : Nat) : Nat := b64Alphabet.getD n 61

def b64Val (c : Nat) : Option Nat :=
  if 65 ≤ c && c ≤ 90 then some (c - 65)
  else if 97 ≤ c && c ≤ 122 then some (c - 71)
  else if 48 ≤ c && c ≤ 57 then some (c + 4)
  else if c = 43 then some 62
  else if c = 47 then some 63
  else none

def b64Enc : Bytes → Bytes
  | a :: b :: c :: rest =>
    let n := a * 65536 + b * 256 + c
    b64Char (n / 262144) :: b64Char (n / 4096 % 64) :: b64Char (n / 64 % 64) :: b64Char (n % 64) :: b64Enc rest
  | [a, b] =>
    let n := a * 65536 + b * 256
    [b64Char (n / 262144), b64Char (n / 4096 % 64), b64Char (n / 64 % 64), 61]
  | [a] =>
    let n := a * 65536
    [b64Char (n / 262144), b64Char (n / 4096 % 64), 61, 61]
  | [] => []

def b64DecQ : Bytes → Option Bytes
  | [] => some []
  | [a, b, c, d] =>
    match b64Val a, b64Val b with
    | some x, some y =>
      if c = 61 then (if d = 61 then some [(x * 4 + y / 16) % 256] else none)
      else match b64Val c with
        | none => none
        | some z =>
          if d = 61 then some [(x * 4 + y / 16) % 256, (y * 16 + z / 4) % 256]
          else match b64Val d with
            | none => none
            | some w => some [(x * 4 + y / 16) % 256, (y * 16 + z / 4) % 256, (z * 64 + w) % 256]
    | _, _ => none
  | a :: b :: c :: d :: rest =>
    match b64Val a, b64Val b, b64Val c, b64Val d with
    | some x, some y, some z, some w =>
      (b64DecQ rest).map (fun t => (x * 4 + y / 16) % 256 :: (y * 16 + z / 4) % 256 :: (z * 64 + w) % 256 :: t)
    | _, _, _, _ => none
  | _ => none

def b64Dec (s : Bytes) : Option Bytes := b64DecQ (s.filter (fun c => c != 13 && c != 10))

def std64 : B64 := { enc := b64Enc, dec := b64Dec }

/-! ### token parsing -/

def hexB (s : String) : Option Bytes := (hexToBytes s).map (·.map UInt8.toNat)
def bHex (b : Bytes) : String := bytesToHex (b.map UInt8.ofNat)
def tail1 (s : String) : String := (s.drop 1).toString
def tailN (n : Nat) (s : String) : String := (s.drop n).toString

/-- JSON number text → `±mant·10^exp10`. -/
def parseNumLit (s : String) : Option NumLit :=
  let cs := s.toList.map Char.toNat
  let (neg, cs) := match cs with | 45 :: r => (true, r) | _ => (false, cs)
  let intPart := cs.takeWhile isDigit
  let rest := cs.dropWhile isDigit
  if intPart = [] then none else
  let (frac, rest) := match rest with
    | 46 :: r => (r.takeWhile isDigit, r.dropWhile isDigit)
    | _ => ([], rest)
  let digits := intPart ++ frac
  let mant : Nat := digits.foldl (fun (a : Nat) c => a * 10 + (c - 48)) 0
  match rest with
  | [] => some { neg := neg, mant := mant, exp10 := -(frac.length : Int) }
  | e :: r =>
    if e = 101 || e = 69 then
      let (es, r) : Int × List Nat := match r with | 43 :: t => (1, t) | 45 :: t => (-1, t) | _ => (1, r)
      if r = [] || !r.all isDigit then none
      else
        -- cap absurd exponents (the model decides them without computing the power)
        let ev : Nat := (r.take 8).foldl (fun (a : Nat) c => a * 10 + (c - 48)) 0
        let ev : Nat := if r.length > 8 then 100000000 else ev
        some { neg := neg, mant := mant, exp10 := es * (ev : Int) - (frac.length : Int) }
    else none

mutual
partial def parseJV : List String → Option (JV × List String)
  | [] => none
  | tok :: r =>
    if tok == "z" then some (.null, r)
    else if tok == "t" then some (.bool true, r)
    else if tok == "f" then some (.bool false, r)
    else if tok == "a" then some (.arr, r)
    else if tok == "o{" then (parseFields r []).map (fun (f, r) => (.obj f, r))
    else if tok.startsWith "n" then (parseNumLit (tail1 tok)).map (fun l => (.num l, r))
    else if tok.startsWith "s" then (hexB (tail1 tok)).map (fun b => (.str b, r))
    else none
partial def parseFields : List String → List (Bytes × JV) → Option (List (Bytes × JV) × List String)
  | [], _ => none
  | tok :: r, acc =>
    if tok == "}" then some (acc.reverse, r)
    else if tok.startsWith "k" then
      match hexB (tail1 tok), parseJV r with
      | some k, some (v, r') => parseFields r' ((k, v) :: acc)
      | _, _ => none
    else none
end

partial def parseProps : List String → Option (Props × List String)
  | "p{" :: r => go r
  | _ => none
where
  go : List String → Option (Props × List String)
    | [] => none
    | tok :: r =>
      if tok == "}" then some (.nil, r)
      else match r with
        | y :: x :: r2 =>
          if !(tok.startsWith "k" && y.startsWith "y" && x.startsWith "x") then none else
          let xh : Option XH :=
            if x == "x-" then some .absent else if x == "xz" then some .null else if x == "xo" then some .other
            else if x.startsWith "xs" then (hexB (tailN 2 x)).map XH.str else none
          match hexB (tail1 tok), hexB (tail1 y), xh, parseProps r2 with
          | some name, some ty, some xh, some (ch, r3) =>
            (go r3).map (fun (rest, r4) => (.cons name ty xh ch rest, r4))
          | _, _, _, _ => none
        | _ => none

/-- `params` as the harness tokenises the JSON text: `P-` absent, `Pz` null, `Px` another non-object,
`P o{ k<hex> <value> … }` the members in source order (repeated and case-variant names kept). -/
def parseParams : List String → Option (RawParams × List String)
  | "P-" :: r => some (.absent, r)
  | "Pz" :: r => some (.null, r)
  | "Px" :: r => some (.other, r)
  | "P" :: r =>
    match parseJV r with
    | some (.obj f, r') => some (.obj f, r')
    | _ => none
  | _ => none

/-- The arguments of a call: either already decoded (`AB` / `AM` / `AO <object>`, records of generator epochs ≤ 3) or the
whole `params` member list, which the model decodes itself (`decodeArgs`: exact member names). -/
def parseArgs : List String → Option (Args × List String)
  | "AB" :: r => some (.bad, r)
  | "AM" :: r => some (.missing, r)
  | "AO" :: r =>
    match parseJV r with
    | some (.obj f, r') => some (.obj f, r')
    | _ => none
  | toks => (parseParams toks).map (fun (p, r) => (decodeArgs p, r))

def f31Clause : String :=
  "C12: preflight-F31 repeated `arguments` member: the Mcp-Param headers are validated against the MERGED members, the tool handler receives the last one"

/-- The arguments as the code decodes them, as the code before fix preflight-F31 did (merging repeated members), and whether the
two can differ at all. -/
def parseArgsU (toks : List String) : Option (Args × Args × Bool × List String) :=
  match toks with
  | tok :: _ =>
    if tok.startsWith "P" then
      (parseParams toks).map (fun (p, r) => (decodeArgs p, decodeArgsUnrepaired p, repeatedArguments p, r))
    else (parseArgs toks).map (fun (a, r) => (a, a, false, r))
  | [] => none

def parsePrim (tok : String) : Option Prim :=
  if tok.startsWith "S" then (hexB (tail1 tok)).map Prim.str
  else if tok == "B1" then some (.bool true)
  else if tok == "B0" then some (.bool false)
  else if tok.startsWith "I" then (tail1 tok).toInt?.map Prim.int
  else none

def primTok : Option Prim → String
  | none => "nil"
  | some (.str s) => "S" ++ bHex s
  | some (.bool true) => "B1"
  | some (.bool false) => "B0"
  | some (.int n) => "I" ++ toString n

/-- `H{ k<hex>=v<hex> ... }` -/
def parseHdrs : List String → Option (ParamHdrs × List String)
  | "H{" :: r => go r []
  | _ => none
where
  go : List String → ParamHdrs → Option (ParamHdrs × List String)
    | [], _ => none
    | tok :: r, acc =>
      if tok == "}" then some (acc.reverse, r)
      else match tok.splitOn "=" with
        | [k, v] =>
          match hexB (tail1 k), hexB (tail1 v) with
          | some k, some v => go r ((k, v) :: acc)
          | _, _ => none
        | _ => none

def parseAccept : List String → Option (List Bytes × List String)
  | "ac{" :: r => go r []
  | _ => none
where
  go : List String → List Bytes → Option (List Bytes × List String)
    | [], _ => none
    | tok :: r, acc =>
      if tok == "}" then some (acc.reverse, r)
      else match hexB (tail1 tok) with
        | some v => go r (v :: acc)
        | none => none

def tf (b : Bool) : String := if b then "t" else "f"

def sortStrings (l : List String) : List String := l.mergeSort (fun a b => !(b < a))

def showHdrs (h : ParamHdrs) : String :=
  let items := sortStrings (h.map (fun e => "k" ++ bHex e.1 ++ "=v" ++ bHex e.2))
  if items = [] then "H{ }" else "H{ " ++ " ".intercalate items ++ " }"

def showBindings (bs : List Binding) : List String :=
  sortStrings (bs.map (fun b => ".".intercalate (b.path.map (fun p => "p" ++ bHex p)) ++ "=h" ++ bHex b.header))

def perrTok : PErr → String
  | .unexpected => "unexpected" | .missing => "missing" | .badBase64 => "badb64"
  | .notPrimitive => "notprim" | .mismatch => "mismatch"

/-! ### messages and requests -/

/-- `T{ t<hex> p{ … } t<hex> p{ … } }`: the server's tool table as far as the request can name it. -/
partial def parseTools : List String → List (Bytes × Props) → Option (List (Bytes × Props) × List String)
  | "}" :: r, acc => some (acc.reverse, r)
  | t :: r, acc =>
    if !t.startsWith "t" then none else
    match hexB (tail1 t), parseProps r with
    | some name, some (p, r') => parseTools r' ((name, p) :: acc)
    | _, _ => none
  | [], _ => none

partial def parseMsg : List String → Option (MsgIn × List String)
  | "m{" :: "r0" :: "}" :: r =>
    some ({ raw := { isReq := false, method := [], isCall := false, check := .ok, decodeOk := false, params := .absent, tools := [] },
            implNameOk := false, implName := [], implMeta := [] }, r)
  | "m{" :: "r1" :: c :: q :: m :: v :: n :: nm :: "T{" :: r =>
    let chk : Option CheckRes := if q == "qok" then some .ok else if q == "qnh" then some .notHandled else if q == "qinv" then some .invalid else none
    match chk, hexB (tail1 m), hexB (tail1 v), hexB (tail1 nm), parseTools r [] with
    | some chk, some m, some v, some nm, some (tools, r1) =>
      match parseParams r1 with
      | some (p, "}" :: r2) =>
        some ({ raw := { isReq := true, method := m, isCall := c == "c1", check := chk, decodeOk := n == "n1", params := p, tools := tools },
                implNameOk := n == "n1", implName := nm, implMeta := v }, r2)
      | _ => none
    | _, _, _, _, _ => none
  | _ => none

partial def parseMsgs : List String → List MsgIn → Option (List MsgIn)
  | [], acc => some acc.reverse
  | toks, acc =>
    match parseMsg toks with
    | some (m, r) => parseMsgs r (m :: acc)
    | none => none

def parseReq (toks : List String) : Option (Req × List MsgIn) :=
  match toks with
  | k :: pd :: la :: ll :: hl :: orj :: m :: ct :: rest =>
    match parseAccept rest with
    | some (acc, pv :: ss :: ns :: le :: lim :: len :: dl :: rf :: mm :: mn :: rest2) =>
      match parseHdrs rest2 with
      | some (hdrs, body) =>
        let kind : Option HKind := if k == "Ksl" then some .stateless else if k == "Ksf" then some .stateful else if k == "Ksse" then some .sse else none
        let meth : Option Meth := if m == "MG" then some .get else if m == "MP" then some .post else if m == "MD" then some .delete else if m == "MO" then some .other else none
        let sess : Option SessRef := if ss == "ssn" then some .none else if ss == "ssk" then some .known else if ss == "ssu" then some .unknown else none
        -- the gates see every message decoded from its member list (`RawMsg.decode`)
        let content : Option (Content × List MsgIn) := match body with
          | ["bM"] => some (.malformed, [])
          | "bS" :: r => (parseMsgs r []).map (fun l => (Content.msgs false (l.map (·.raw.decode)), l))
          | "bB" :: r => (parseMsgs r []).map (fun l => (Content.msgs true (l.map (·.raw.decode)), l))
          | _ => none
        -- `dl<n>`: the declared Content-Length, `dl-1` = none (chunked); `rf1`: the body reader ends with an error
        let declared : Option (Option Nat) :=
          if !dl.startsWith "dl" || !(rf == "rf0" || rf == "rf1") || !(ns == "ns0" || ns == "ns1") then none
          else match (tailN 2 dl).toInt? with
            | some d => if d < 0 then some none else some (some d.toNat)
            | none => none
        match declared with
        | none => none
        | some declared =>
        match kind, meth, sess, content, hexB (tailN 2 ct), hexB (tailN 2 pv), (tailN 3 lim).toInt?, (tailN 3 len).toNat?, hexB (tailN 2 mm), hexB (tailN 2 mn) with
        | some kind, some meth, some sess, some (content, ins), some ct, some pv, some lim, some len, some mm, some mn =>
          let req : Req :=
               { kind := kind, protectionDisabled := pd == "pd1", hasLocalAddr := la == "la1", listenerLoopback := ll == "ll1",
                 hostLoopback := hl == "hl1", originRejects := orj == "or1", method := meth, baseMedia := ct, accept := acc,
                 version := pv, sess := sess, noSessionIds := ns == "ns1", lastEventId := le == "le1", limit := lim, bodyLen := len,
                 declared := declared, readFails := rf == "rf1", content := content,
                 mcpMethod := mm, mcpName := mn, paramHdrs := hdrs }
          some (req, ins)
        | _, _, _, _, _, _, _, _, _, _ => none
      | none => none
    | _ => none
  | _ => none

/-! ### observations of the implementation: parsing and rendering -/

def showPath (π : List Bytes) : String := ".".intercalate (π.map bHex)

/-- `p<hex>.p<hex>=h<hex>` items as printed by the harness for `extractParamHeaderAnnotations`. -/
def parseImplBindings (items : List String) : Option (List Binding) :=
  items.mapM (fun it =>
    match it.splitOn "=" with
    | [ps, h] =>
      if !h.startsWith "h" then none else
      match (ps.splitOn ".").mapM (fun seg => if seg.startsWith "p" then hexB (tail1 seg) else none), hexB (tail1 h) with
      | some path, some hd => some { path := path, header := hd }
      | _, _ => none
    | _ => none)

/-- `X=`: the names (hex, comma-separated, sorted) the tool / prompt / resource handlers were run for, `-` none. -/
def parseNames (s : String) : Option (List Bytes) :=
  if s == "-" then some [] else (s.splitOn ",").mapM hexB

def showNames (l : List Bytes) : String :=
  if l.isEmpty then "-" else ",".intercalate (l.map bHex)

def parseHttpObs (s : String) : Option HttpObs :=
  match words s with
  | [st, e, a, r, h, d, x] =>
    match (tailN 2 st).toNat?, (tailN 2 r).toNat?, (tailN 2 h).toNat?, (tailN 2 d).toNat? with
    | some st, some r, some h, some d =>
      let code := if e == "E=-" then none else (tailN 2 e).toInt?
      let allow := if a == "A=-" then none else hexB (tailN 2 a)
      if !x.startsWith "X=" then none else
      (parseNames (tailN 2 x)).map (fun names =>
        { status := st, code := code, allow := allow, reached := r, handled := h, disp := d, names := names })
    | _, _, _, _ => none
  | _ => none

def optInt (c : Option Int) : String := match c with | some c => toString c | none => "-"

def showHttpObs (o : HttpObs) : String :=
  s!"S={o.status} E={optInt o.code} A={match o.allow with | some a => bHex a | none => "-"} R={o.reached} H={o.handled} D={o.disp} X={showNames o.names}"

/-- The implementation's observation when it cannot be read: nothing is echoed into the model's observation. -/
def blankObs : HttpObs := { status := 0, code := none, allow := none, reached := 0, handled := 0, disp := 0, names := [] }

def parseVphObs (s : String) : VphObs :=
  match words s with
  | ["ok"] => .ok
  | ["err"] => .err none
  | ["err", k] =>
    (match [PErr.unexpected, .missing, .badBase64, .notPrimitive, .mismatch].find? (fun e => perrTok e == k) with
     | some e => .err (some e)
     | none => .other)
  | _ => .other

def showVphObs : VphObs → String
  | .ok => "ok"
  | .err none => "err"
  | .err (some e) => "err " ++ perrTok e
  | .other => "?"

def parseE2eObs (s : String) : E2eObs :=
  if s == "ok same" then .okSame
  else if s.startsWith "ok" then .okOther
  else .notOk (s.endsWith "handler=0")

/-! ### clause texts -/

/-- Diagnosis for the name clause: the header equals the value of a member whose name differs from the identifying
member's only in case (a member the case-sensitive dispatcher ignores). -/
def decoyNote (r : Req) (ins : List MsgIn) : String :=
  match ins with
  | [mi] =>
    (match nameMemberOf mi.raw.method, mi.raw.params with
     | some key, .obj ms =>
       (match ms.find? (fun kv => kv.1 != key && lowerBytes kv.1 == lowerBytes key && (match kv.2 with | .str s => s == r.mcpName | _ => false)) with
        | some kv => s!"; Mcp-Name equals the member {bHex kv.1}, whose name differs in case and which the dispatcher ignores"
        | none => "")
     | _, _ => "")
  | _ => ""

/-- The name of a documented precondition, as the clauses print it. -/
def precondText (r : Req) (ins : List MsgIn) (p : Precond) : String :=
  let inArr := if reqIsBatch r then s!" (request inside a JSON array body of {(reqMsgs r).length})" else ""
  match p with
  | .host => "loopback listener with non-loopback Host"
  | .origin => "cross-origin request"
  | .version => "unsupported Mcp-Protocol-Version"
  | .method => "method not POST"
  | .media => "Content-Type not application/json"
  | .accept => "Accept does not admit both response types"
  | .session => "unknown session"
  | .lastEventId => "Last-Event-ID on POST"
  | .size =>
    (match r.declared with
     | some _ => "body larger than the limit"
     | none => "body larger than the limit (no declared length: chunked upload)")
  | .delivered => "request body not delivered completely"
  | .empty => "empty body"
  | .malformed => "malformed body"
  | .batch => "batch under >= 2025-06-18"
  | .check => "checkRequest failed"
  | .statefulNew => "new protocol on a stateful server" ++ inArr
  | .versionMissing => "version header missing for per-request metadata" ++ inArr
  | .metaMissing => "_meta protocolVersion missing" ++ inArr
  | .versionDiffers => "version header differs from _meta" ++ inArr
  | .mcpMethod => "Mcp-Method differs from the method"
  | .mcpName => "Mcp-Name differs from the name that is dispatched (the params member called exactly `name` / `uri`)" ++ decoyNote r ins
  | .mcpParam => "Mcp-Param header differs from the argument"
  | .sseNoSession => "no session id"
  | .sseOneMessage => "body is not one JSON-RPC message"

def optHex (b : Option Bytes) (dflt : String) : String := match b with | some x => bHex x | none => dflt

/-- The text of a clause (`r`, `ins`: the request of an `http` record, for the names of its preconditions). -/
def clauseText (r : Option (Req × List MsgIn)) : Clause → String
  | .acceptsTable => "C12: accepts_table: Accept flags differ from the token table (application/json|application/*|*/* ; text/event-stream|text/*|*/*)"
  | .rtDiffers => "C12: decode_encode_header_value: decode(encode v) differs from the value's string"
  | .rtUndecodable => "C12: decode_encode_header_value: the encoded value does not decode"
  | .peqSafeInt => "C12: primitiveEqual_refl_on_safe_ints: an integer within ±(2^53−1) does not equal its own decimal form"
  | .peqValue => "C12: primitiveEqual: a value does not equal its own string form"
  | .bindPath b => s!"C12: bindings: the binding for header {bHex b.header} has path {showPath b.path}, which does not designate the property annotated with that header (depth {b.path.length})"
  | .bindShared => "C12: bindings: two bindings share one path (sibling annotations alias)"
  | .bindCount got want => s!"C12: bindings: {got} bindings for {want} annotated properties"
  | .genMirror b => s!"C12: client_server_agree: generateParamHeaders: Mcp-Param-{bHex b.header} does not mirror the argument at {showPath b.path} (depth {b.path.length})"
  | .genUnbound => "C12: client_server_agree: generateParamHeaders produces a header that no annotation binds"
  | .f31 => f31Clause
  | .vphF6 => "C12: F6 empty-string argument: validateParamHeaders refuses the empty Mcp-Param header the SDK client sends"
  | .vphAccepts (some b) => s!"C12: dispatch_sound: validateParamHeaders accepts although Mcp-Param-{bHex b.header} differs from the argument at {showPath b.path} (depth {b.path.length})"
  | .vphAccepts none => "C12: dispatch_sound: validateParamHeaders accepts headers that do not mirror the arguments"
  | .vphRefuses => "C12: violation_status: validateParamHeaders refuses headers that mirror the arguments"
  | .nameMirror impl key exact => s!"C12: name_mirror_case_sensitive: extractName yields {bHex impl}; the params member called exactly {optHex key "-"} (what the dispatcher decodes and runs) is {optHex exact "not a string"}"
  | .metaMirror impl exact => s!"C12: meta_mirror_case_sensitive: extractRequestMeta yields protocol version {bHex impl}; the member called exactly _meta carries {bHex exact}"
  | .e2eF6 => "C12: F6 empty-string argument: the SDK server refuses the SDK client's call (-32020 missing header)"
  | .e2eAgree => "C12: client_server_agree: the SDK server refuses or alters a call the SDK client generated for valid arguments"
  | .e2eReached => "C12: refused call reached the tool handler"
  | .seqStaleLook => "C12: preflight-F32 superseded tools/list page: lookupTool answers with a definition the client received earlier although the client has since listed the tool under its current definition (cached pages are consulted in map order, not most recent first)"
  | .seqLostLook => "C12: client_server_agree over time: lookupTool no longer finds (or alters) the definition of a tool the client has listed under its current definition since the server's tools last changed"
  | .seqStaleCall => "C12: preflight-F32 superseded tools/list page: the SDK server refuses a call the SDK client generated for valid arguments — the Mcp-Param headers mirror a definition of the tool the client received earlier, although it has since listed the tool under its current definition"
  | .seqLostCall => "C12: client_server_agree over time: the SDK server refuses or alters a call the SDK client generated for valid arguments — the client sent no Mcp-Param header although it has listed the tool under its current definition since the server's tools last changed"
  | .seqRefusedExact => "C12: client_server_agree over time: the SDK server refuses or alters a call of the SDK client that carries exactly the Mcp-Param headers the tool's CURRENT definition demands (the definition the server has registered and lists; valid arguments) — the server validates the mirror against something else, e.g. the annotations of an earlier registration of the tool"
  | .seqAgree => "C12: client_server_agree over time: the SDK server refuses or alters a call the SDK client generated for valid arguments (tool listed under its current definition since the server's tools last changed)"
  | .unsupportedVersion st code handled => s!"C06+C12: unsupported-version answer: a request whose Mcp-Protocol-Version header and _meta agree on a version this SDK does not implement ({match r with | some (r, _) => bHex r.version | none => "?"}, not older than 2026-07-28) and that meets every other documented precondition was answered {st}/{optInt code}{if handled == 0 then "" else " after a handler ran"} instead of HTTP 400 with JSON-RPC -32022 listing the supported versions (or -32602)"
  | .seqLegacy => "C12: client_server_agree over time: a call on a legacy-protocol session (no Mcp-* mirror applies) is refused or altered"
  | .seqBadListed => "C12: client_server_agree over time: a tools/list result the client fetched and handed on names a tool the server lists with invalid x-mcp-header annotations (filterValidTools must drop it: no Mcp-Param mirror can be derived from it)"
  | .seqBadMirror => "C12: client_server_agree over time: the client sends Mcp-Param headers for a tool the server lists with invalid x-mcp-header annotations, after it handled the list_changed that followed the last change (it has no usable definition of the tool)"
  | .seqBadCall => "C12: client_server_agree over time: a call of a tool the server lists with invalid x-mcp-header annotations (no mirror sent, the server's registered definition demands none for these arguments) is refused or altered — the client must still call such a tool"
  | .seqOtherServer => "C12: client_server_agree over time: the handler refuses or alters a call that carries exactly the Mcp-Param headers demanded by the tool definition of the Server that serves THIS request (getServer chose it by the request's path; the client had just listed that server's tools; valid arguments) — the mirror was validated against something else, e.g. the same-named tool of another Server behind the same handler"
  | .seqStaleList => "C12: client_server_agree over time: after the client handled the list_changed notification that followed the server's last change of its tools, ListTools answers from the client's cache with tool definitions the server no longer has (a tools/list result from before the change was kept or stored) — CallTool takes the Mcp-Param mirror from definitions that are not the server's"
  | .reached st => s!"C12: refused request (status {st}) reached a middleware/handler"
  | .dispatchSound p => s!"C12: dispatch_sound: dispatched although: {match r with | some (r, ins) => precondText r ins p | none => reprStr p}"
  | .httpF6 => "C12: F6 empty-string argument: the server refuses (-32020) the empty Mcp-Param header the SDK client sends"
  | .refusedClean st code => s!"C12: violation_status: request meeting every precondition refused with {st}/{optInt code}"
  | .httpF30 => "C12: preflight-F30 oversize body on a stateful handler without session ids: answered 400 instead of 413"
  | .notMandated st code => s!"C12: violation_status: status {st}/{optInt code} is not mandated by any violated precondition"
  | .handlerName names announced => s!"C12: name_mirror: the handler ran for {showNames names} although Mcp-Name announced {bHex announced}"

/-! ### the engine -/

def bad : Verdict := { model := "bad-op" }

/-- The clause a typed monitor reports, as text. -/
def say (c : Option Clause) : Option String := c.map (clauseText none)

def stepOp (toks : List String) (impl : String) : Verdict :=
  match toks with
  | "accepts" :: r =>
    match parseAccept r with
    | some (vs, []) =>
      let m := streamableAccepts vs
      let flag (s : String) : Option Bool := if s == "t" then some true else if s == "f" then some false else none
      let viol := match (words impl).mapM flag with
        | some [a, b] => say (acceptsMonitor vs (a, b))
        | _ => say (some .acceptsTable)
      { model := tf m.1 ++ " " ++ tf m.2, violated := viol }
    | _ => bad
  | ["rt", p] =>
    match parsePrim p with
    | some v =>
      let s := primToString v
      let e := encodeHeaderValue std64 v
      let model := match decodeHeaderValue std64 e with
        | some d => "r" ++ tf (requiresBase64 s) ++ " e" ++ bHex e ++ " d" ++ bHex d
        | none => "e" ++ bHex e ++ " bad"
      let viol := match words impl with
        | [_, _, d] =>
          (match (if d.startsWith "d" then hexB (tail1 d) else none) with
           | some d => say (rtMonitor v (some d))
           | none => say (some .rtDiffers))
        | _ => say (rtMonitor v none)
      { model := model, violated := viol }
    | none => bad
  | ["dec", h] =>
    match hexB (tail1 h) with
    | some h => { model := match decodeHeaderValue std64 h with | some d => "d" ++ bHex d | none => "bad" }
    | none => bad
  | "unprim" :: r =>
    match parseJV r with
    | some (v, []) => { model := primTok (unmarshalPrimitive v) }
    | _ => bad
  | ["peq", h, p] =>
    match hexB (tail1 h), parsePrim p with
    | some h, some v =>
      -- self-check of the model's shortcut for plain decimal integers
      let consistent := match decInt? h with
        | some _ => parseFloat h == parseFloatGeneral h
        | none => true
      let model := if consistent then tf (primitiveEqual h v) else "model-inconsistent"
      { model := model, violated := say (peqMonitor h v (impl == "t")) }
    | _, _ => bad
  | "annot" :: r =>
    match parseProps r with
    | some (p, []) =>
      let v := if validateAnnotations p then "ok" else "err"
      let viol : Option String :=
        if !namesDistinctB p then none else
        match parseImplBindings ((words impl).drop 1) with
        | none => some "C12: bindings: unreadable binding list"
        | some bs => say (annotMonitor p bs)
      { model := " ".intercalate (v :: showBindings (bindings p)), violated := viol }
    | _ => bad
  | "gen" :: r =>
    match parseProps r with
    | some (p, r1) =>
      match parseArgs r1 with
      | some (a, []) =>
        let viol : Option String :=
          if !(toolValidB p && argsValidB p a) then none else
          match parseHdrs (words impl) with
          | some (h, []) => say (genMonitor std64 p a h)
          | _ => some "C12: client_server_agree: generateParamHeaders output unreadable"
        { model := showHdrs (generateParamHeaders std64 p a), violated := viol }
      | _ => bad
    | none => bad
  | "vph" :: r =>
    match parseProps r with
    | some (p, r1) =>
      match parseArgsU r1 with
      | some (a, au, rep, r2) =>
        match parseHdrs r2 with
        | some (h, []) =>
          { model := showVphObs (vphModel std64 p a h), violated := say (vphMonitor std64 p a au rep h (parseVphObs impl)) }
        | _ => bad
      | none => bad
    | none => bad
  | "params" :: m :: r =>
    -- the implementation's extractors (`extractName`, `extractRequestMeta`) on a params object of a foreign peer against the
    -- model's decoding of the member list: exact member names, a repeated member overwrites (`_meta`: merges)
    match hexB (tail1 m), parseParams r with
    | some method, some (p, []) =>
      -- whether the members other than the identifying one decode is the implementation's word (`n`)
      let implOk := (words impl).head? == some "n1"
      let (ok, name, mv) := paramsModel method p implOk
      let model := s!"n{if ok then 1 else 0} N{bHex name} V{bHex mv}"
      let viol : Option String := match words impl with
        | [_, n, v] =>
          (match hexB (tail1 n), hexB (tail1 v) with
           | some n, some v => say (paramsMonitor method p implOk n v)
           | _, _ => some "C12: name_mirror_case_sensitive: unreadable extractor output")
        | _ => some "C12: name_mirror_case_sensitive: unreadable extractor output"
      { model := model, violated := viol }
    | _, _ => bad
  | "e2e" :: nk :: r =>
    match parseProps r with
    | some (p, r1) =>
      match parseArgs r1 with
      | some (a, []) =>
        let nameOk := nk == "n1"
        -- `extractName` fails on both sides: no Mcp-Name is sent and the server answers -32020
        let model := match e2eModel std64 nameOk p a with
          | .okSame => "ok same"
          | _ => "rej -32020 handler=0"
        { model := model, violated := say (e2eMonitor std64 nameOk p a (parseE2eObs impl)) }
      | _ => bad
    | none => bad
  | "http" :: r =>
    match parseReq r with
    | some (req, ins) =>
      let o := verdict std64 req
      let obs := parseHttpObs impl
      let viol := match obs with
        | some ob => (httpMonitorAllV std64 req ins ob).map (clauseText (some (req, ins)))
        | none => some s!"C12: the handler did not answer ({impl})"
      let model := modelObsV req o (obs.getD blankObs)
      -- self-check of the string layer: the model's observation survives rendering and parsing
      let viol := if parseHttpObs (showHttpObs model) == some model then viol
        else viol.orElse (fun _ => some "LIBDISC render/parse: the model's observation does not survive the string layer")
      { model := showHttpObs model, violated := viol }
    | none => bad
  | _ => bad

/-! ### `seq` records: one session over time (state: the model's world and the monitor's knowledge) -/

partial def showProps : Props → String
  | p => "p{ " ++ go p ++ "}"
where
  go : Props → String
    | .nil => ""
    | .cons name ty xh ch rest =>
      let x := match xh with
        | .absent => "x-" | .null => "xz" | .other => "xo" | .str s => "xs" ++ bHex s
      "k" ++ bHex name ++ " y" ++ bHex ty ++ " " ++ x ++ " " ++ showProps ch ++ " " ++ go rest

def showTools (ts : Tools) : String :=
  "T{ " ++ String.join (ts.map (fun t => "t" ++ bHex t.1 ++ " " ++ showProps t.2 ++ " ")) ++ "}"

def showCursor (k : Bytes) : String := if k = [] then "c-" else "c" ++ bHex k

def parseCursor (tok : String) : Option Bytes :=
  if tok == "c-" then some [] else if tok.startsWith "c" then hexB (tail1 tok) else none

def showCallOut : CallOut → String
  | .okSame => "ok same"
  | .okOther => "ok differs"
  | .notOk (some code) q => s!"rej {code} handler={if q then 0 else 1}"
  | .notOk none q => s!"err handler={if q then 0 else 1}"

def showSeqObs : SeqObs → String
  | .ok => "ok"
  | .sent => "sent"
  | .listed hit tools next => s!"hit{if hit then 1 else 0} {showTools tools} {showCursor next}"
  | .looked defs => "L{ " ++ String.join (defs.map (fun d => (match d with | some p => showProps p | none => "-") ++ " ")) ++ "}"
  | .called hdrs out => showHdrs hdrs ++ " " ++ showCallOut out

partial def parseLooked : List String → List (Option Props) → Option (List (Option Props))
  | ["}"], acc => some acc.reverse
  | "-" :: r, acc => parseLooked r (none :: acc)
  | toks, acc =>
    match parseProps toks with
    | some (p, r) => parseLooked r (some p :: acc)
    | none => none

/-- The implementation's observation of a `seq` record, typed (`none`: unreadable). -/
def parseSeqObs (op : SeqOp) (impl : String) : Option SeqObs :=
  match op, words impl with
  | .list _, h :: "T{" :: r => listed h r
  | .listSend _, h :: "T{" :: r => listed h r
  | .listRecv, h :: "T{" :: r => listed h r
  | .listSend _, ["sent"] => some .sent
  | .look _, "L{" :: r => (parseLooked r []).map SeqObs.looked
  | .callB _ _, toks => called toks
  | .call _ _, toks =>
    (match parseHdrs toks with
     | some (h, ["ok", "same"]) => some (.called h .okSame)
     | some (h, "ok" :: _) => some (.called h .okOther)
     | some (h, ["rej", code, hd]) => code.toInt?.map (fun cd => .called h (.notOk (some cd) (hd == "handler=0")))
     | some (h, [e, hd]) => if e.startsWith "err" then some (.called h (.notOk none (hd == "handler=0"))) else none
     | _ => none)
  | .list _, _ => none
  | .look _, _ => none
  | _, ["ok"] => some .ok
  | _, _ => none
where
  called (toks : List String) : Option SeqObs :=
    match parseHdrs toks with
    | some (h, ["ok", "same"]) => some (.called h .okSame)
    | some (h, "ok" :: _) => some (.called h .okOther)
    | some (h, ["rej", code, hd]) => code.toInt?.map (fun cd => .called h (.notOk (some cd) (hd == "handler=0")))
    | some (h, [e, hd]) => if e.startsWith "err" then some (.called h (.notOk none (hd == "handler=0"))) else none
    | _ => none
  listed (h : String) (r : List String) : Option SeqObs :=
    match parseTools r [] with
    | some (tools, [nx]) =>
      (match parseCursor nx with
       | some k => if h == "hit1" then some (.listed true tools k) else if h == "hit0" then some (.listed false tools k) else none
       | none => none)
    | _ => none

def parseSeqOp : List String → Option SeqOp
  | "set" :: t :: r =>
    (match hexB (tail1 t), parseProps r with
     | some n, some (p, []) => if t.startsWith "t" then some (.setTool n p) else none
     | _, _ => none)
  | ["del", t] => if t.startsWith "t" then (hexB (tail1 t)).map SeqOp.delTool else none
  | ["ttl", v] => v.toInt?.map SeqOp.ttl
  | ["adv", _] => some .adv
  | ["notified"] => some .notified
  | ["list", k] => (parseCursor k).map SeqOp.list
  | "setb" :: t :: r =>
    (match hexB (tail1 t), parseProps r with
     | some n, some (p, []) => if t.startsWith "t" then some (.setToolB n p) else none
     | _, _ => none)
  | ["bad", t] => if t.startsWith "t" then (hexB (tail1 t)).map SeqOp.setBad else none
  | ["unbad", t] => if t.startsWith "t" then (hexB (tail1 t)).map SeqOp.clearBad else none
  | ["delb", t] => if t.startsWith "t" then (hexB (tail1 t)).map SeqOp.delToolB else none
  | "callb" :: t :: r =>
    (match hexB (tail1 t), parseArgs r with
     | some n, some (a, []) => if t.startsWith "t" then some (.callB n a) else none
     | _, _ => none)
  | ["lsend", k] => (parseCursor k).map SeqOp.listSend
  | ["lrecv"] => some .listRecv
  | ["look", t] => if t.startsWith "t" then (hexB (tail1 t)).map SeqOp.look else none
  | "call" :: t :: r =>
    (match hexB (tail1 t), parseArgs r with
     | some n, some (a, []) => if t.startsWith "t" then some (.call n a) else none
     | _, _ => none)
  | _ => none

structure DrvState where
  seq : Option (World × SeqMon) := none

def stepSeq (st : DrvState) (toks : List String) (impl : String) : DrvState × Verdict :=
  match toks with
  | "cfg" :: k :: pv :: ps :: _ =>   -- a fifth token `sub<0|1>` (does the client subscribe to list_changed) is the harness's
    (match (tailN 2 ps).toNat? with
     | some size =>
       let cfg : SeqCfg := { newProto := k == "Ksl" && pv == "pvnew", pageSize := size }
       ({ seq := some (World.init cfg, SeqMon.init cfg) }, { model := "ok" })
     | none => (st, bad))
  | [_, "connect"] =>
    -- the client connects: which protocol the session runs (string layer: the model's state is that of `cfg`)
    (match st.seq with
     | some (w, _) => (st, { model := if w.newProto then "new1" else "new0" })
     | none => (st, bad))
  | t :: r =>
    (match st.seq, (tail1 t).toNat?, parseSeqOp r with
     | some (w, m), some now, some op =>
       let (w', o) := stepW std64 w now op
       (match parseSeqObs op impl with
        | some io =>
          let (m', cl) := seqMonStep std64 m op io
          ({ seq := some (w', m') }, { model := showSeqObs o, violated := say cl })
        | none =>
          ({ seq := some (w', m) }, { model := showSeqObs o, violated := some s!"C12: client_server_agree over time: unreadable observation ({impl})" }))
     | _, _, _ => (st, bad))
  | _ => (st, bad)

def engine : Engine DrvState where
  init := {}
  step st toks impl :=
    let toks := toks.filter (fun t => !t.startsWith "@")
    match toks with
    | ["reset"] => (st, { model := "ok" })
    | "seq" :: r => stepSeq st r impl
    | _ => (st, stepOp toks impl)

end Preflight

def main : IO Unit := Proto.run Preflight.engine
