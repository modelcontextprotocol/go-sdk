import McpModel.Preflight.Props
import McpModel.Preflight.Seq
/-!
# C12 over time — `client_server_agree` along a session (theorems about `Seq.lean`)

`client_server_agree` (Props.lean) is stated for a client that holds the server's definition of the tool.  Here: WHEN it
holds it.  The session model of `Seq.lean` is run on an arbitrary list of operations with arbitrary clocks, together with
the observer's bookkeeping (`SeqMon`, Seq.lean).  The boundary of `client_server_agree_over_time` is the hypothesis
`n ∈ listed`: `lookupTool` is documented to return "the most recently seen definition … or nil if no such tool has been
seen", and without a definition the transport sends no `Mcp-Param-*` header.  The witnesses at the end show that the
hypothesis is needed, and that with `lookupTool` consulting the cached pages in map order (before fix preflight-F32 = F44) the
theorem is false.  Further layers: listings in flight and list_changed (`cache_current_after_list_changed`), a second
server behind the handler (`other_server_call_agrees`), a server that lists tools with invalid annotations
(`bad_tool_no_mirror_over_time`).
-/
namespace Preflight

theorem toolDef_eq_lookup (ts : Tools) (n : Bytes) : toolDef ts n = ts.lookup n := by
  induction ts with
  | nil => rfl
  | cons p t ih =>
    rw [toolDef, List.lookup_cons, ih]
    cases h : n == p.1
    · rw [if_neg fun e => by simp [← e] at h]
    · rw [if_pos (eq_of_beq h).symm]

theorem toolDef_mem {ts : Tools} {n : Bytes} {p : Props} (h : toolDef ts n = some p) : (n, p) ∈ ts :=
  List.mem_of_lookup_eq_some (toolDef_eq_lookup ts n ▸ h)

theorem toolDef_of_mem_nodup {ts : Tools} (hnd : (toolNames ts).Nodup) {n : Bytes} {p : Props}
    (h : (n, p) ∈ ts) : toolDef ts n = some p :=
  (toolDef_eq_lookup ts n).trans (List.lookup_of_mem_nodup hnd h)

theorem toolDef_isSome_of_name {ts : Tools} {n : Bytes} (h : n ∈ toolNames ts) : (toolDef ts n).isSome = true := by
  rw [toolDef_eq_lookup]
  simpa [toolNames] using h

theorem mem_serverPage {ts : Tools} {size : Nat} {cursor : Bytes} {e : Bytes × Props}
    (h : e ∈ (serverPage ts size cursor).1) : e ∈ ts := by
  unfold serverPage at h
  simp only at h
  have h1 := List.mem_of_mem_take h
  split at h1
  · exact h1
  · exact (List.mem_filter.mp h1).1

theorem toolDef_serverPage {ts : Tools} (hnd : (toolNames ts).Nodup) {size : Nat} {cursor n : Bytes} {p : Props}
    (h : toolDef (serverPage ts size cursor).1 n = some p) : toolDef ts n = some p :=
  toolDef_of_mem_nodup hnd (mem_serverPage (toolDef_mem h))

/-- `filterValidTools`: no tools/list result the client caches or hands on names a tool the server lists with invalid
annotations (any world). -/
theorem clientPage_filtered (w : World) (k : Bytes) : ∀ t ∈ (clientPage w k).1, w.bad.contains t.1 = false := by
  intro t ht
  have := (List.mem_filter.mp ht).2
  simpa using this

theorem toolDef_clientPage {w : World} (hnd : (toolNames w.server).Nodup) {k n : Bytes} {p : Props}
    (h : toolDef (clientPage w k).1 n = some p) : toolDef w.server n = some p :=
  toolDef_of_mem_nodup hnd (mem_serverPage (List.mem_filter.mp (toolDef_mem h)).1)

theorem toolDef_clientPage_bad (w : World) (k : Bytes) {n : Bytes} (hb : w.bad.contains n = true) :
    toolDef (clientPage w k).1 n = none := by
  cases hd : toolDef (clientPage w k).1 n with
  | none => rfl
  | some p => exact absurd ((clientPage_filtered w k _ (toolDef_mem hd)).symm.trans hb) Bool.false_ne_true

theorem nodup_removeTool {ts : Tools} (n : Bytes) (h : (toolNames ts).Nodup) : (toolNames (removeTool n ts)).Nodup := by
  unfold toolNames removeTool
  exact List.Nodup.sublist (List.Sublist.map _ List.filter_sublist) h

theorem not_mem_removeTool (n : Bytes) (ts : Tools) : n ∉ toolNames (removeTool n ts) := by
  unfold toolNames removeTool
  intro h
  obtain ⟨e, he, hn⟩ := List.mem_map.mp h
  have := (List.mem_filter.mp he).2
  simp [hn] at this

theorem mem_insTool {n : Bytes} {p : Props} {ts : Tools} {x : Bytes} :
    x ∈ toolNames (insTool n p ts) ↔ x = n ∨ x ∈ toolNames ts := by
  induction ts with
  | nil => simp [insTool, toolNames]
  | cons t r ih =>
    obtain ⟨m, q⟩ := t
    simp only [insTool]
    split
    · simp [toolNames]
    · simp only [toolNames, List.map_cons, List.mem_cons] at ih ⊢
      rw [ih]
      exact or_left_comm

theorem nodup_insTool {n : Bytes} (p : Props) {ts : Tools} (hn : n ∉ toolNames ts) (h : (toolNames ts).Nodup) :
    (toolNames (insTool n p ts)).Nodup := by
  induction ts with
  | nil => simp [insTool, toolNames]
  | cons t r ih =>
    obtain ⟨m, q⟩ := t
    simp only [insTool]
    simp only [toolNames, List.map_cons, List.mem_cons, not_or, List.nodup_cons] at hn h
    split
    · simp only [toolNames, List.map_cons, List.nodup_cons, List.mem_cons, not_or]
      exact ⟨⟨hn.1, hn.2⟩, h.1, h.2⟩
    · simp only [toolNames, List.map_cons, List.nodup_cons]
      refine ⟨?_, ih hn.2 h.2⟩
      intro hm
      rcases mem_insTool.mp hm with h1 | h1
      · exact hn.1 h1.symm
      · exact h.1 h1

theorem nodup_setTool (n : Bytes) (p : Props) {ts : Tools} (h : (toolNames ts).Nodup) :
    (toolNames (setTool n p ts)).Nodup :=
  nodup_insTool p (not_mem_removeTool n ts) (nodup_removeTool n h)

/-- Once a page that predates the last change of the server's table appears in the cache (most recent first), every
older page predates it too.  (Holds as long as responses arrive in the order of their requests; a response in flight that
is overtaken by a change of the table breaks it — the invariant `SeqInv` uses `FirstCur` instead.) -/
def CurSorted : List Page → Prop
  | [] => True
  | pg :: r => (pg.cur = false → ∀ q ∈ r, q.cur = false) ∧ CurSorted r

theorem curSorted_filter (f : Page → Bool) {l : List Page} (h : CurSorted l) : CurSorted (l.filter f) := by
  induction l with
  | nil => exact h
  | cons pg r ih =>
    simp only [List.filter]
    split
    · exact ⟨fun hc q hq => h.1 hc q (List.mem_filter.mp hq).1, ih h.2⟩
    · exact ih h.2

theorem mem_staleAll {l : List Page} {pg : Page} (h : pg ∈ staleAll l) : pg.cur = false := by
  unfold staleAll at h
  obtain ⟨q, _, hq⟩ := List.mem_map.mp h
  rw [← hq]

theorem curSorted_staleAll (l : List Page) : CurSorted (staleAll l) := by
  induction l with
  | nil => trivial
  | cons pg r ih =>
    refine ⟨fun _ q hq => mem_staleAll hq, ih⟩

/-- The most recently received page that names the tool is one received since the table last changed. -/
def FirstCur (n : Bytes) : List Page → Prop
  | [] => False
  | pg :: r => if (toolDef pg.tools n).isSome = true then pg.cur = true else FirstCur n r

theorem firstCur_lookup {n : Bytes} {l : List Page} (h : FirstCur n l) :
    ∃ q ∈ l, q.cur = true ∧ ∃ d, toolDef q.tools n = some d ∧ l.findSome? (fun pg => toolDef pg.tools n) = some d := by
  induction l with
  | nil => cases h
  | cons x r ih =>
    simp only [FirstCur] at h
    cases hx : toolDef x.tools n with
    | some d =>
      simp only [hx, Option.isSome_some, if_true] at h
      exact ⟨x, List.mem_cons_self, h, d, hx, by simp [List.findSome?, hx]⟩
    | none =>
      simp only [hx, Option.isSome_none, Bool.false_eq_true, if_false] at h
      obtain ⟨q, hq, hqc, d, hd, hf⟩ := ih h
      exact ⟨q, List.mem_cons_of_mem _ hq, hqc, d, hd, by simp [List.findSome?, hx, hf]⟩

theorem firstCur_of_curSorted {l : List Page} (hs : CurSorted l) {n : Bytes}
    (hex : ∃ pg ∈ l, pg.cur = true ∧ (toolDef pg.tools n).isSome = true) : FirstCur n l := by
  induction l with
  | nil =>
    obtain ⟨pg, hpg, _⟩ := hex
    cases hpg
  | cons x r ih =>
    obtain ⟨pg, hpg, hcur, hsome⟩ := hex
    simp only [FirstCur]
    split
    · cases hxc : x.cur with
      | true => rfl
      | false =>
        rcases List.mem_cons.mp hpg with rfl | hr
        · exact hxc.symm.trans hcur
        · exact (hs.1 hxc pg hr).symm.trans hcur
    · rename_i hx
      rcases List.mem_cons.mp hpg with rfl | hr
      · exact absurd hsome hx
      · exact ih hs.2 ⟨pg, hr, hcur, hsome⟩

theorem lookup_cur {l : List Page} (hs : CurSorted l) {n : Bytes}
    (hex : ∃ pg ∈ l, pg.cur = true ∧ (toolDef pg.tools n).isSome = true) :
    ∃ q ∈ l, q.cur = true ∧ ∃ d, toolDef q.tools n = some d ∧ l.findSome? (fun pg => toolDef pg.tools n) = some d :=
  firstCur_lookup (firstCur_of_curSorted hs hex)

/-- Dropping pages keeps the property as long as no page received since the last change that names the tool is dropped. -/
theorem firstCur_filter {n : Bytes} (f : Page → Bool) {l : List Page} (h : FirstCur n l)
    (hk : ∀ pg ∈ l, pg.cur = true → (toolDef pg.tools n).isSome = true → f pg = true) : FirstCur n (l.filter f) := by
  induction l with
  | nil => cases h
  | cons x r ih =>
    simp only [FirstCur] at h
    by_cases hx : (toolDef x.tools n).isSome = true
    · simp only [hx, if_true] at h
      have hf : f x = true := hk x List.mem_cons_self h hx
      simp only [List.filter, hf, FirstCur, hx, if_true]
      exact h
    · simp only [hx] at h
      have ih' := ih h (fun pg hpg => hk pg (List.mem_cons_of_mem _ hpg))
      simp only [List.filter]
      split
      · simp only [FirstCur, hx]
        exact ih'
      · exact ih'

theorem firstCur_of_all_cur {n : Bytes} {l : List Page} (hall : ∀ pg ∈ l, pg.cur = true)
    (hex : ∃ pg ∈ l, (toolDef pg.tools n).isSome = true) : FirstCur n l := by
  induction l with
  | nil =>
    obtain ⟨pg, hpg, _⟩ := hex
    cases hpg
  | cons x r ih =>
    simp only [FirstCur]
    split
    · exact hall x List.mem_cons_self
    · rename_i hx
      obtain ⟨pg, hpg, hs⟩ := hex
      rcases List.mem_cons.mp hpg with he | hr
      · subst he
        exact absurd hs hx
      · exact ih (fun q hq => hall q (List.mem_cons_of_mem _ hq)) ⟨pg, hr, hs⟩

/-- What relates the observer's bookkeeping to the session. -/
structure SeqInv (w : World) (m : SeqMon) : Prop where
  proto : m.newProto = w.newProto
  server : m.server = w.server
  psize : m.pageSize = w.pageSize
  serverB : m.serverB = w.serverB
  bad : m.bad = w.bad
  nodup : (toolNames w.server).Nodup
  /-- a page received since the table last changed (`cur`) is what the server would answer for its cursor now -/
  curPage : ∀ pg ∈ w.cache, pg.cur = true → pg.tools = (clientPage w pg.key).1
  /-- a listed name: the first cached page that names it — the one `clientLookup` answers from — is such a page -/
  listed : ∀ n ∈ m.listed, FirstCur n w.cache
  /-- after a list_changed that followed the last change, the cache holds only pages requested after it -/
  fresh : m.fresh = true → ∀ pg ∈ w.cache, pg.cur = true
  /-- the observer's knowledge of the listing in flight is the ghost state of the model's -/
  pendEq : m.pend = w.pend.map (fun p => (!p.cur, p.gen != w.gen))
  pendLe : ∀ p, w.pend = some p → p.gen ≤ w.gen
  pendCur : ∀ p, w.pend = some p → p.cur = true → p.tools = (clientPage w p.key).1
  pendFresh : m.fresh = true → ∀ p, w.pend = some p → p.gen = w.gen → p.cur = true

theorem seqInv_init (cfg : SeqCfg) : SeqInv (World.init cfg) (SeqMon.init cfg) :=
  { proto := rfl, server := rfl, psize := rfl, serverB := rfl, bad := rfl, nodup := List.nodup_nil, curPage := fun _ h => (by cases h),
    listed := fun _ h => (by cases h), fresh := fun _ _ h => (by cases h), pendEq := rfl,
    pendLe := fun _ h => (by cases h), pendCur := fun _ h => (by cases h), pendFresh := fun _ _ h => (by cases h) }

/-- The client finds the server's definition of every tool it has listed since the table last changed. -/
theorem SeqInv.lookup {w : World} {m : SeqMon} (h : SeqInv w m) {n : Bytes} (hn : n ∈ m.listed) :
    ∃ d, clientLookup w n = some d ∧ toolDef w.server n = some d := by
  obtain ⟨q, hq, hqc, d, hd, hf⟩ := firstCur_lookup (h.listed n hn)
  refine ⟨d, hf, ?_⟩
  rw [h.curPage q hq hqc] at hd
  exact toolDef_clientPage h.nodup hd

theorem seqMonStep_list_fetched (c : B64) (m : SeqMon) (k : Bytes) (tools : Tools) (next : Bytes) (hm : m.newProto = true) :
    (seqMonStep c m (.list k) (.listed false tools next)).1 =
      { m with listed := toolNames tools ++ m.listed, seen := tools ++ m.seen } := by
  simp [seqMonStep, hm]

/-- A page that is the server's current answer for cursor `k` becomes the most recent one, replacing the page of that
cursor: every name the observer counts as listed, and every name of the new page, is still found in a current page first. -/
theorem firstCur_put {w : World} {m : SeqMon} (h : SeqInv w m) (k : Bytes) (x : Page) (hxk : x.key = k) (hxc : x.cur = true)
    (hxt : x.tools = (clientPage w k).1) (n : Bytes)
    (hn : n ∈ toolNames x.tools ∨ n ∈ m.listed) : FirstCur n (x :: w.cache.filter (fun pg => pg.key != k)) := by
  simp only [FirstCur]
  split
  · exact hxc
  · rename_i hx
    rcases hn with h1 | h1
    · exact absurd (toolDef_isSome_of_name h1) hx
    · apply firstCur_filter _ (h.listed n h1)
      intro pg hpg hcur hsome
      by_cases hk : pg.key = k
      · exfalso
        apply hx
        have := h.curPage pg hpg hcur
        rw [hk] at this
        rw [hxt, ← this]
        exact hsome
      · simpa using hk

theorem seqInv_put {c : B64} {w : World} {m : SeqMon} (h : SeqInv w m) (hp : w.newProto = true) (now : Nat) (k : Bytes) :
    SeqInv (putPage w now k).1 (seqMonStep c m (.list k) (putPage w now k).2).1 := by
  have hmp : m.newProto = true := by rw [h.proto, hp]
  rw [show (putPage w now k).2 = .listed false (clientPage w k).1 (clientPage w k).2 from rfl,
    seqMonStep_list_fetched c m k _ _ hmp]
  simp only [putPage]
  refine { h with curPage := ?_, listed := ?_, fresh := ?_ }
  · intro pg hpg hcur
    rcases List.mem_cons.mp hpg with he | hr
    · subst he
      rfl
    · exact h.curPage pg (List.mem_filter.mp hr).1 hcur
  · intro n hn
    exact firstCur_put h k _ rfl rfl rfl n (List.mem_append.mp hn)
  · intro hf pg hpg
    rcases List.mem_cons.mp hpg with he | hr
    · subst he
      rfl
    · exact h.fresh hf pg (List.mem_filter.mp hr).1

theorem stalePend_map (po : Option Pending) (g : Nat) :
    (stalePend po).map (fun p => (!p.cur, p.gen != g)) = (po.map (fun p => (!p.cur, p.gen != g))).map (fun x => (true, x.2)) := by
  cases po <;> simp [stalePend]

theorem stalePend_some {po : Option Pending} {p : Pending} (h : stalePend po = some p) :
    ∃ q, po = some q ∧ p = { q with cur := false } := by
  cases po with
  | none => cases h
  | some q => exact ⟨q, rfl, (Option.some.inj h).symm⟩

/-- A change of what the server lists (its tool table, or which tools it lists with invalid annotations): every cached page
and the listing in flight now predate the change, and the observer forgets what it counted as listed. -/
theorem seqInv_change {w : World} {m : SeqMon} (h : SeqInv w m) (ts : Tools) (hnd : (toolNames ts).Nodup) (b : List Bytes) :
    SeqInv { w with server := ts, bad := b, cache := staleAll w.cache, pend := stalePend w.pend }
      { m with server := ts, bad := b, listed := [], fresh := false, pend := m.pend.map (fun x => (true, x.2)) } :=
  { proto := h.proto, server := rfl, psize := h.psize, serverB := h.serverB, bad := rfl, nodup := hnd,
    curPage := fun pg hpg hcur => (by rw [mem_staleAll hpg] at hcur; cases hcur),
    listed := fun _ hn => (by cases hn), fresh := fun hf => (by cases hf),
    pendEq := (by simp only [h.pendEq]; exact (stalePend_map w.pend w.gen).symm),
    pendLe := fun p hp => (by
      obtain ⟨q, hq, rfl⟩ := stalePend_some hp
      exact h.pendLe q hq),
    pendCur := fun p hp hc => (by
      obtain ⟨q, _, rfl⟩ := stalePend_some hp
      cases hc),
    pendFresh := fun hf => (by cases hf) }

/-- After a list_changed that followed the last change, the client knows no definition of a tool the server lists with
invalid annotations. -/
theorem lookup_bad_none {w : World} {m : SeqMon} (h : SeqInv w m) (hf : m.fresh = true) {n : Bytes}
    (hb : w.bad.contains n = true) : clientLookup w n = none := by
  unfold clientLookup
  rw [List.findSome?_eq_none_iff]
  intro pg hpg
  rw [h.curPage pg hpg (h.fresh hf pg hpg)]
  exact toolDef_clientPage_bad w pg.key hb

/-- A page the model serves from the cache raises no `seqStaleList`: after a list_changed that followed the last change the
cache holds only pages requested since, and those are the server's. -/
theorem staleHit_cached {w : World} {m : SeqMon} (h : SeqInv w m) {k : Bytes} {pg : Page}
    (hf : w.cache.find? (fun pg => pg.key == k) = some pg) (hit : Bool) : staleHit m k hit pg.tools = none := by
  unfold staleHit
  split
  · rename_i hcnd
    simp only [Bool.and_eq_true, bne_iff_ne, ne_eq] at hcnd
    obtain ⟨⟨⟨_, hfr⟩, _⟩, hne⟩ := hcnd
    exfalso
    apply hne
    have hmem := List.mem_of_find?_eq_some hf
    have hk : pg.key = k := by simpa using List.find?_some hf
    rw [← hk]
    unfold monPage
    rw [h.server, h.psize, h.bad]
    exact h.curPage pg hmem (h.fresh hfr pg hmem)
  · rfl

/-- What the observer learns from a page served from the cache keeps the invariant: after a list_changed that followed the
last change every cached page is current, so the first page that names one of its tools is. -/
theorem seqInv_learnHit {w : World} {m : SeqMon} (h : SeqInv w m) {k : Bytes} {pg : Page}
    (hf : w.cache.find? (fun pg => pg.key == k) = some pg) (hit : Bool) : SeqInv w (learnHit m k hit pg.tools) := by
  unfold learnHit
  split
  · rename_i hcnd
    simp only [Bool.and_eq_true] at hcnd
    obtain ⟨⟨⟨_, hfr⟩, _⟩, _⟩ := hcnd
    have hmem := List.mem_of_find?_eq_some hf
    refine { h with listed := ?_ }
    intro n hn
    rcases List.mem_append.mp hn with h1 | h1
    · exact firstCur_of_all_cur (h.fresh hfr) ⟨pg, hmem, toolDef_isSome_of_name h1⟩
    · exact h.listed n h1
  · exact h

/-- The listing in flight has arrived: nothing is pending any more, whatever became of the cache and of what the observer
counts as listed. -/
theorem seqInv_clearPend {w : World} {m : SeqMon} (h : SeqInv w m) (np : Bool)
    (cache : List Page) (listed : List Bytes) (seen : Tools)
    (hcur : ∀ pg ∈ cache, pg.cur = true → pg.tools = (clientPage w pg.key).1)
    (hl : ∀ n ∈ listed, FirstCur n cache) (hf : m.fresh = true → ∀ pg ∈ cache, pg.cur = true) :
    SeqInv { w with newProto := np, pend := none, cache := cache }
      { m with newProto := np, pend := none, listed := listed, seen := seen } :=
  { h with
    proto := rfl, curPage := hcur, listed := hl, fresh := hf, pendEq := rfl, pendLe := fun _ hq => (by cases hq),
    pendCur := fun _ hq => (by cases hq), pendFresh := fun _ _ hq => (by cases hq) }

theorem seqInv_step (c : B64) {w : World} {m : SeqMon} (h : SeqInv w m) (now : Nat) (op : SeqOp) :
    SeqInv (stepW c w now op).1 (seqMonStep c m op (stepW c w now op).2).1 := by
  cases op with
  | setTool n p =>
    have := seqInv_change h _ (nodup_setTool n p h.nodup) w.bad
    simpa only [stepW, seqMonStep, h.server, h.bad] using this
  | delTool n =>
    have := seqInv_change h _ (nodup_removeTool n h.nodup) w.bad
    simpa only [stepW, seqMonStep, h.server, h.bad] using this
  | ttl v => exact { h with }
  | adv => exact h
  | notified =>
    refine { h with
      curPage := fun _ hpg => (by cases hpg),
      listed := fun _ hn => (by cases hn), fresh := fun _ _ hpg => (by cases hpg), pendEq := ?_, pendLe := ?_,
      pendFresh := ?_ }
    · simp only [stepW, seqMonStep, h.pendEq]
      cases hw : w.pend with
      | none => rfl
      | some q =>
        have := h.pendLe q hw
        have hne : (q.gen != w.gen + 1) = true := by simp; omega
        simp [hne]
    · intro p hp
      have := h.pendLe p hp
      simp only [stepW]
      omega
    · intro _ p hp hg
      have := h.pendLe p hp
      simp only [stepW] at hg
      omega
  | list k =>
    cases hp : w.newProto with
    | false =>
      have hmp : m.newProto = false := by rw [h.proto, hp]
      simp only [stepW, hp, Bool.not_false, if_true, seqMonStep, hmp, Bool.false_and, Bool.false_eq_true, if_false, learnHit]
      exact h
    | true =>
      have hmp : m.newProto = true := by rw [h.proto, hp]
      simp only [stepW, hp, Bool.not_true, Bool.false_eq_true, if_false]
      cases hf : w.cache.find? (fun pg => pg.key == k) with
      | none => exact seqInv_put h hp now k
      | some pg =>
        by_cases hfr : pageFresh now pg = true
        · simp only [hfr, if_true, seqMonStep, hmp, Bool.not_true, Bool.and_false, Bool.false_eq_true, if_false]
          exact seqInv_learnHit h hf true
        · simp only [hfr]
          exact seqInv_put h hp now k
  | listSend k =>
    have hsent : w.pend = none → SeqInv (sendList w k).1 (seqMonStep c m (.listSend k) (sendList w k).2).1 := by
      intro hw
      have hmpend : m.pend = none := by rw [h.pendEq, hw]; rfl
      simp only [sendList, seqMonStep, hmpend]
      exact { h with
        pendEq := (by simp),
        pendLe := (by intro p hp; simp only [Option.some.injEq] at hp; subst hp; exact Nat.le_refl _),
        pendCur := (by intro p hp _; simp only [Option.some.injEq] at hp; subst hp; rfl),
        pendFresh := (by intro _ p hp _; simp only [Option.some.injEq] at hp; subst hp; rfl) }
    simp only [stepW]
    cases hw : w.pend with
    | some q => exact h
    | none =>
      cases hp : w.newProto with
      | false => exact hsent hw
      | true =>
        cases hf : w.cache.find? (fun pg => pg.key == k) with
        | none => exact hsent hw
        | some pg =>
          by_cases hfr : pageFresh now pg = true
          · simp only [hfr, Bool.not_true, Bool.false_eq_true, if_false, if_true, seqMonStep]
            exact seqInv_learnHit h hf true
          · simp only [hfr, Bool.not_true, Bool.false_eq_true, if_false]
            exact hsent hw
  | listRecv =>
    simp only [stepW]
    cases hw : w.pend with
    | none => exact h
    | some p =>
      have hmpend : m.pend = some (!p.cur, p.gen != w.gen) := by rw [h.pendEq, hw]; rfl
      simp only [recvList, seqMonStep, recvMon, hmpend]
      cases hp : w.newProto with
      | false =>
        have hmp : m.newProto = false := by rw [h.proto, hp]
        simp only [hmp, Bool.not_false, if_true, Bool.false_and, Bool.false_eq_true, if_false]
        exact seqInv_clearPend h _ _ _ _ h.curPage h.listed h.fresh
      | true =>
        have hmp : m.newProto = true := by rw [h.proto, hp]
        simp only [hmp, Bool.not_true, Bool.false_eq_true, if_false, Bool.true_and]
        by_cases hg : p.gen = w.gen
        · have h1 : (p.gen != w.gen) = false := by simp [hg]
          have h2 : (p.gen == w.gen) = true := by simp [hg]
          simp only [h1, h2, Bool.false_eq_true, if_false, if_true]
          cases hc : p.cur with
          | false =>
            simp only [Bool.not_false, if_true]
            refine seqInv_clearPend h _ _ _ _ ?_ (fun _ hn => by cases hn) ?_
            · intro pg hpg hcur
              rcases List.mem_cons.mp hpg with he | hr
              · subst he
                cases hcur
              · exact h.curPage pg (List.mem_filter.mp hr).1 hcur
            · intro hf
              have := h.pendFresh hf p hw hg
              rw [hc] at this
              cases this
          | true =>
            have hpt := h.pendCur p hw hc
            simp only [Bool.not_true, Bool.false_eq_true, if_false]
            refine seqInv_clearPend h _ _ _ _ ?_ ?_ ?_
            · intro pg hpg hcur
              rcases List.mem_cons.mp hpg with he | hr
              · subst he
                exact hpt
              · exact h.curPage pg (List.mem_filter.mp hr).1 hcur
            · intro n hn
              exact firstCur_put h p.key _ rfl rfl hpt n (List.mem_append.mp hn)
            · intro hf pg hpg
              rcases List.mem_cons.mp hpg with he | hr
              · subst he
                rfl
              · exact h.fresh hf pg (List.mem_filter.mp hr).1
        · have h1 : (p.gen != w.gen) = true := by simp [hg]
          have h2 : (p.gen == w.gen) = false := by simp [hg]
          simp only [h1, h2, Bool.false_eq_true, if_false, if_true]
          exact seqInv_clearPend h _ _ _ _ h.curPage h.listed h.fresh
  | look n => exact h
  | call n a => exact h
  | setBad n =>
    have := seqInv_change h w.server h.nodup (n :: w.bad)
    simpa only [stepW, seqMonStep, h.server, h.bad] using this
  | clearBad n =>
    have := seqInv_change h w.server h.nodup (w.bad.filter (· != n))
    simpa only [stepW, seqMonStep, h.server, h.bad] using this
  | setToolB n p => exact { h with serverB := (by simp [stepW, seqMonStep, h.serverB]) }
  | delToolB n => exact { h with serverB := (by simp [stepW, seqMonStep, h.serverB]) }
  | callB n a => exact h

theorem runSeq_inv (c : B64) (ops : List (Nat × SeqOp)) : ∀ {w : World} {m : SeqMon}, SeqInv w m →
    SeqInv (runSeq c w m ops).1 (runSeq c w m ops).2.1 := by
  induction ops with
  | nil => intro w m h; exact h
  | cons x rest ih =>
    intro w m h
    obtain ⟨now, op⟩ := x
    simp only [runSeq]
    exact ih (seqInv_step c h now op)

/-- The server never runs a handler for a call it refuses, and the model's outcomes are `okSame` or a quiet refusal. -/
theorem callWith_quiet (c : B64) (w : World) (cdef : Option Props) (n : Bytes) (a : Args) :
    (callWith c w cdef n a).2 = .okSame ∨ ∃ code, (callWith c w cdef n a).2 = .notOk code true := by
  unfold callWith
  cases w.newProto <;> cases toolDef w.server n <;> simp
  rename_i ps
  cases validateParamHeaders c ps a (match cdef with | some p => generateParamHeaders c p a | none => []) <;> simp

theorem callWith_none_hdrs (c : B64) (w : World) (n : Bytes) (a : Args) : (callWith c w none n a).1 = [] := by
  unfold callWith
  cases w.newProto <;> cases hs : toolDef w.server n <;> simp
  rename_i ps
  cases validateParamHeaders c ps a [] <;> rfl

/-- With the server's own definition in hand, the client's call of a valid tool with valid arguments carries exactly the
headers that definition demands and goes through. -/
theorem callWith_own_def (c : B64) (hc : c.Lawful) (w : World) (hp : w.newProto = true) {n : Bytes} {ps : Props}
    (hs : toolDef w.server n = some ps) (a : Args) (hv : validateAnnotations ps = true) (ha : ArgsPrim ps a) :
    callWith c w (some ps) n a = (generateParamHeaders c ps a, .okSame) := by
  unfold callWith
  simp only [hp, if_true, hs, generated_params_accepted_prim c hc ps a hv ha]

/-- `client_server_agree` along a session under 2026-07-28: for a tool in `listed`, `CallTool` sends exactly the
`Mcp-Param-*` headers the server's definition demands, the server accepts the call and the handler sees the arguments sent.
No hypothesis on `ttlMs` or elapsed time. -/
theorem client_server_agree_over_time (c : B64) (hc : c.Lawful) (cfg : SeqCfg) (ops : List (Nat × SeqOp))
    (n : Bytes) (ps : Props) (a : Args)
    (hp : (runSeq c (World.init cfg) (SeqMon.init cfg) ops).1.newProto = true)
    (hn : n ∈ (runSeq c (World.init cfg) (SeqMon.init cfg) ops).2.1.listed)
    (hs : toolDef (runSeq c (World.init cfg) (SeqMon.init cfg) ops).1.server n = some ps)
    (hv : validateAnnotations ps = true) (ha : ArgsPrim ps a) :
    callModel c (runSeq c (World.init cfg) (SeqMon.init cfg) ops).1 n a = (generateParamHeaders c ps a, .okSame) := by
  have hinv := runSeq_inv c ops (seqInv_init cfg)
  obtain ⟨d, hd, hsd⟩ := hinv.lookup hn
  rw [hs] at hsd
  cases hsd
  unfold callModel
  rw [hd]
  exact callWith_own_def c hc _ hp hs a hv ha

/-- A legacy session (stateful server, or an older version negotiated): no `Mcp-*` mirror applies, every call of a tool
the server has goes through — whatever the client knows. -/
theorem legacy_call_accepted (c : B64) (w : World) (hp : w.newProto = false) {n : Bytes} {ps : Props}
    (hs : toolDef w.server n = some ps) (a : Args) : callModel c w n a = ([], .okSame) := by
  unfold callModel callWith
  simp [hp, hs]

/-- A call that `getServer` routes to the handler's second server, by a client that
has just listed THAT server's tools, carries exactly the headers that server's definition demands and goes through — for
every world: whatever the first server has registered under the same name (other annotations, none), whatever was listed,
cached or called before.  (A handler that caches the bindings per tool NAME breaks this.) -/
theorem other_server_call_agrees (c : B64) (hc : c.Lawful) (w : World) (hp : w.newProto = true) {n : Bytes} {ps : Props}
    (hs : toolDef w.serverB n = some ps) (a : Args) (hv : validateAnnotations ps = true) (ha : ArgsPrim ps a) :
    callModelB c w n a = (generateParamHeaders c ps a, .okSame) := by
  unfold callModelB
  rw [hs]
  exact callWith_own_def c hc { w with server := w.serverB } hp hs a hv ha

/-- … along every run: the answer depends on the second server's table alone. -/
theorem two_servers_agree_over_time (c : B64) (hc : c.Lawful) (cfg : SeqCfg) (ops : List (Nat × SeqOp))
    (n : Bytes) (ps : Props) (a : Args)
    (hp : (runSeq c (World.init cfg) (SeqMon.init cfg) ops).1.newProto = true)
    (hs : toolDef (runSeq c (World.init cfg) (SeqMon.init cfg) ops).1.serverB n = some ps)
    (hv : validateAnnotations ps = true) (ha : ArgsPrim ps a) :
    callModelB c (runSeq c (World.init cfg) (SeqMon.init cfg) ops).1 n a = (generateParamHeaders c ps a, .okSame) :=
  other_server_call_agrees c hc _ hp hs a hv ha

/-- Once the client has handled a
list_changed after the last change of what the server lists, a call of a tool the server lists with invalid annotations
carries NO `Mcp-Param-*` header (the client has no usable definition; it does not fall back on anything it knew), and the
call is still made: the outcome is the server's verdict on a request without mirror. -/
theorem bad_tool_no_mirror_over_time (c : B64) (cfg : SeqCfg) (ops : List (Nat × SeqOp)) (n : Bytes) (a : Args)
    (hf : (runSeq c (World.init cfg) (SeqMon.init cfg) ops).2.1.fresh = true)
    (hb : (runSeq c (World.init cfg) (SeqMon.init cfg) ops).1.bad.contains n = true) :
    callModel c (runSeq c (World.init cfg) (SeqMon.init cfg) ops).1 n a =
      callWith c (runSeq c (World.init cfg) (SeqMon.init cfg) ops).1 none n a ∧
    (callModel c (runSeq c (World.init cfg) (SeqMon.init cfg) ops).1 n a).1 = [] := by
  have hinv := runSeq_inv c ops (seqInv_init cfg)
  have hl := lookup_bad_none hinv hf hb
  have hcm : callModel c (runSeq c (World.init cfg) (SeqMon.init cfg) ops).1 n a =
      callWith c (runSeq c (World.init cfg) (SeqMon.init cfg) ops).1 none n a := by
    unfold callModel; rw [hl]
  exact ⟨hcm, hcm ▸ callWith_none_hdrs c _ n a⟩

/-- Listings in flight (`listSend` … `listRecv`) may be overtaken by changes of the server's tools, by notifications and by
other listings: once the client has handled a list_changed after the server's table last changed (`fresh`), every
page in its cache is the server's current answer for that cursor.  (`putIfCurrent`: a result requested under an older
cache generation is not stored; storing it breaks exactly this.) -/
theorem cache_current_after_list_changed (c : B64) (cfg : SeqCfg) (ops : List (Nat × SeqOp))
    (hf : (runSeq c (World.init cfg) (SeqMon.init cfg) ops).2.1.fresh = true) :
    ∀ pg ∈ (runSeq c (World.init cfg) (SeqMon.init cfg) ops).1.cache,
      pg.tools = (clientPage (runSeq c (World.init cfg) (SeqMon.init cfg) ops).1 pg.key).1 := by
  have hinv := runSeq_inv c ops (seqInv_init cfg)
  intro pg hpg
  exact hinv.curPage pg hpg (hinv.fresh hf pg hpg)

/-- … hence the next `ListTools`, at any clock and for any cursor, served from the cache or not, returns the tools of the
server's current page. -/
theorem list_current_after_list_changed (c : B64) (cfg : SeqCfg) (ops : List (Nat × SeqOp)) (now : Nat) (k : Bytes)
    (hf : (runSeq c (World.init cfg) (SeqMon.init cfg) ops).2.1.fresh = true) :
    ∃ hit next, (stepW c (runSeq c (World.init cfg) (SeqMon.init cfg) ops).1 now (.list k)).2 =
      .listed hit (clientPage (runSeq c (World.init cfg) (SeqMon.init cfg) ops).1 k).1 next := by
  have hcur := cache_current_after_list_changed c cfg ops hf
  generalize (runSeq c (World.init cfg) (SeqMon.init cfg) ops).1 = w at hcur ⊢
  simp only [stepW]
  split
  · exact ⟨false, _, rfl⟩
  · split
    · rename_i pg hfind
      split
      · have hk : pg.key = k := by simpa using List.find?_some hfind
        refine ⟨true, pg.next, ?_⟩
        rw [hcur pg (List.mem_of_find?_eq_some hfind), hk]
      · exact ⟨false, _, rfl⟩
    · exact ⟨false, _, rfl⟩

/-- A response that arrives after the client handled a list_changed that followed its request is not stored: the cache is
what it was (empty, if nothing else was listed since). -/
theorem overtaken_response_dropped (w : World) (now : Nat) (p : Pending) (hg : p.gen ≠ w.gen) :
    (recvList w now p).1.cache = w.cache := by
  unfold recvList
  have : (p.gen == w.gen) = false := by simp [hg]
  simp [this]

/-! ## the boundary: witnesses -/

section witnesses

def wCfg : SeqCfg := { newProto := true, pageSize := 2 }
def wB : Bytes := [98]
def wC : Bytes := [99]

def finalW (cfg : SeqCfg) (ops : List (Nat × SeqOp)) : World := (runSeq idCodec (World.init cfg) (SeqMon.init cfg) ops).1
def finalM (cfg : SeqCfg) (ops : List (Nat × SeqOp)) : SeqMon := (runSeq idCodec (World.init cfg) (SeqMon.init cfg) ops).2.1

/-- Satisfiable, with a lapsed TTL: `ttlMs` 40, list at 0, call at 1000 — listed, found, accepted. -/
def opsLapsed : List (Nat × SeqOp) := [(0, .ttl 40), (0, .setTool wA wProps), (0, .list []), (1000, .adv)]
example : wA ∈ (finalM wCfg opsLapsed).listed ∧ toolDef (finalW wCfg opsLapsed).server wA = some wProps ∧
    callModel idCodec (finalW wCfg opsLapsed) wA wArgs = (wHdrs, .okSame) := by decide +kernel

/-- An overtaken listing: the first listing of the session is in flight (answered with the un-annotated
definition) when the tool is re-registered with an annotation and the client handles the list_changed; the overtaken
response arrives afterwards.  `putIfCurrent` drops it (the generation moved on although the cache was empty), the next
`ListTools` asks the server, and the call agrees. -/
def opsOvertaken : List (Nat × SeqOp) :=
  [(0, .ttl 60000), (0, .setTool wA wPlain), (0, .listSend []), (1, .setTool wA wProps), (12, .notified), (13, .listRecv)]
theorem overtaken_listing_not_cached : (finalW wCfg opsOvertaken).cache = [] ∧ (finalW wCfg opsOvertaken).gen = 1 ∧
    (finalW wCfg (opsOvertaken ++ [(14, .list [])])).cache.map (·.tools) = [[(wA, wProps)]] ∧
    wA ∈ (finalM wCfg (opsOvertaken ++ [(14, .list [])])).listed ∧
    callModel idCodec (finalW wCfg (opsOvertaken ++ [(14, .list [])])) wA wArgs = (wHdrs, .okSame) := by decide

/-- Why the generation must move on even when the cache is EMPTY (were `invalidate` a no-op then):
take the session before the notification, leave the world as it is (nothing cached, same generation), let the response
arrive and list again — the overtaken page is served from the cache, `lookupTool` answers with the un-annotated
definition and the server refuses the call although the client handled list_changed and listed the tool afterwards. -/
theorem lazy_invalidation_disagrees :
    let w0 := finalW wCfg (opsOvertaken.take 4)
    let w2 := (stepW idCodec w0 13 .listRecv).1
    w0.cache = [] ∧ w2.cache.map (·.tools) = [[(wA, wPlain)]] ∧
    (stepW idCodec w2 14 (.list [])).1.cache.map (·.tools) = [[(wA, wPlain)]] ∧
    toolDef w2.server wA = some wProps ∧
    callModel idCodec (stepW idCodec w2 14 (.list [])).1 wA wArgs = ([], .notOk (some (-32020)) true) := by decide

/-- Not claimed either way (an observation): WITHOUT a list_changed in between, a response that was overtaken by a change of
the table and by a later listing is stored when it arrives — as the most recent page.  The tool the client had just listed
under its current definition is then looked up in the OLD page, and the call is refused.  The observer stops counting the
names as listed when such a response arrives. -/
def opsOvertakenQuiet : List (Nat × SeqOp) :=
  [(0, .ttl 60000), (0, .setTool wA wPlain), (0, .listSend []), (1, .setTool wA wProps), (2, .list []), (3, .listRecv)]
theorem overtaken_without_notification_forgets : wA ∉ (finalM wCfg opsOvertakenQuiet).listed ∧
    wA ∈ (finalM wCfg (opsOvertakenQuiet.take 5)).listed ∧
    clientLookup (finalW wCfg opsOvertakenQuiet) wA = some wPlain ∧
    callModel idCodec (finalW wCfg opsOvertakenQuiet) wA wArgs = ([], .notOk (some (-32020)) true) := by decide

/-- Two servers behind one handler: tool `a` of the first server mirrors `region`, it is listed and called; the second
server's `a` has no annotation: the call routed to it carries no header and goes through (and vice versa). -/
def opsTwoServers : List (Nat × SeqOp) :=
  [(0, .setTool wA wProps), (0, .setToolB wA wPlain), (0, .list []), (0, .call wA wArgs)]
theorem two_servers_same_name : callModel idCodec (finalW wCfg opsTwoServers) wA wArgs = (wHdrs, .okSame) ∧
    callModelB idCodec (finalW wCfg opsTwoServers) wA wArgs = ([], .okSame) ∧
    callModelB idCodec { finalW wCfg opsTwoServers with serverB := [(wA, wProps)], server := [(wA, wPlain)] } wA wArgs =
      (wHdrs, .okSame) := by decide

/-- A foreign server starts listing `a` with invalid annotations: after the list_changed and a re-listing the client does
not know `a` any more, sends no header; a server whose registered definition demands one refuses (the server is
inconsistent with itself), one whose definition demands none accepts. -/
def opsBad (p : Props) : List (Nat × SeqOp) :=
  [(0, .setTool wA p), (0, .list []), (1, .setBad wA), (12, .notified), (13, .list [])]
theorem bad_tool_dropped : (finalW wCfg (opsBad wProps)).cache.map (·.tools) = [[]] ∧
    clientLookup (finalW wCfg (opsBad wProps)) wA = none ∧
    callModel idCodec (finalW wCfg (opsBad wProps)) wA wArgs = ([], .notOk (some (-32020)) true) ∧
    callModel idCodec (finalW wCfg (opsBad wPlain)) wA wArgs = ([], .okSame) ∧
    callModel idCodec (finalW wCfg (opsBad wProps ++ [(14, .clearBad wA), (15, .list [])])) wA wArgs = (wHdrs, .okSame) := by
  decide

/-- Never listed: the client sends no header, the server (which knows its tool) demands one. -/
def opsNever : List (Nat × SeqOp) := [(0, .setTool wA wProps)]
theorem never_listed_disagrees : wA ∉ (finalM wCfg opsNever).listed ∧
    callModel idCodec (finalW wCfg opsNever) wA wArgs = ([], .notOk (some (-32020)) true) := by decide

/-- Listed, then re-registered with an annotation (no list_changed reached the client, nothing re-listed). -/
def opsChanged : List (Nat × SeqOp) := [(0, .setTool wA wPlain), (0, .list []), (5, .setTool wA wProps)]
theorem changed_since_disagrees : wA ∉ (finalM wCfg opsChanged).listed ∧
    clientLookup (finalW wCfg opsChanged) wA = some wPlain ∧
    callModel idCodec (finalW wCfg opsChanged) wA wArgs = ([], .notOk (some (-32020)) true) := by decide

/-- Page size 1: `b` is listed; tool `a` is added (the table changes, `b`'s definition does not); the client lists the
first page again: the page that named `b` is replaced, `b` is forgotten.  "since the table last changed" cannot be weakened
to "since the tool's own definition last changed". -/
def opsShift : List (Nat × SeqOp) := [(0, .setTool wB wProps), (0, .list []), (1, .setTool wA wPlain), (2, .list [])]
theorem forgotten_after_page_shift : wB ∉ (finalM { wCfg with pageSize := 1 } opsShift).listed ∧
    toolDef (finalW { wCfg with pageSize := 1 } opsShift).server wB = some wProps ∧
    clientLookup (finalW { wCfg with pageSize := 1 } opsShift) wB = none ∧
    callModel idCodec (finalW { wCfg with pageSize := 1 } opsShift) wB wArgs = ([], .notOk (some (-32020)) true) := by decide

/-- preflight-F32.  Page size 2, tools a b c: the client lists both pages (cursors "" and "b").  `b` is removed and `c`
re-registered with an annotation; the client lists again — one page now, under cursor "".  The page cached under cursor
"b" still holds the OLD `c`.  `c` is listed under its current definition, `lookupTool` (most recent page) finds it; before fix
preflight-F32 (/repo commit `6b2413a`) it ranged over a map and could answer with the old one — and then the call is refused. -/
def opsF32 : List (Nat × SeqOp) :=
  [(0, .setTool wA wPlain), (0, .setTool wB wPlain), (0, .setTool wC wPlain), (0, .list []), (0, .list wB),
   (1, .delTool wB), (1, .setTool wC wProps), (2, .list [])]
theorem f32_unrepaired_disagrees : wC ∈ (finalM wCfg opsF32).listed ∧
    toolDef (finalW wCfg opsF32).server wC = some wProps ∧
    clientLookup (finalW wCfg opsF32) wC = some wProps ∧
    LookupAny (finalW wCfg opsF32) wC (some wPlain) ∧
    callWith idCodec (finalW wCfg opsF32) (some wPlain) wC wArgs = ([], .notOk (some (-32020)) true) := by
  refine ⟨by decide, by decide, by decide, ?_, by decide⟩
  refine ⟨{ key := wB, tools := [(wC, wPlain)], next := [], ttl := 0, recv := 0, cur := false }, ?_, by decide⟩
  decide

end witnesses

end Preflight
