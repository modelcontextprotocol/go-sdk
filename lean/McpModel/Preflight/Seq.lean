import McpModel.Preflight.Monitor
/-!
# E8 Preflight — the client half over time: cached tool definitions and the header mirror (C12)

`Model.lean` decides one request.  `setStandardHeaders` takes the client's definition of the called tool as a parameter
(`tool : Option Props`), and `client_server_agree` is stated for a client that HOLDS the server's definition.  Where that
definition comes from is a small state machine over a session's life, transliterated here:

* `mcp/client.go` `ClientSession.ListTools` — under 2026-07-28 a `tools/list` result is cached per request cursor
  (`methodCache`, `mcp/cache.go`): `get` serves an entry while `time.Since(receivedAt) < ttlMs`; a lapsed entry (also
  `ttlMs <= 0`) is not served but stays cached until `putIfCurrent` replaces the entry of that cursor (fix preflight-F33 = F45,
  /repo commit `517b924`: a call during the re-listing still finds the tool);
* `Client.callToolChangedHandler` — a `notifications/tools/list_changed` clears the cache (`invalidate`);
* `ClientSession.lookupTool` — `CallTool` looks the tool's name up in EVERY cached page, whatever its age (the TTL governs
  re-fetching a list, not what the client knows about a tool), and hands the definition to the transport, which derives
  the `Mcp-Param-*` headers from it (`generateParamHeaders`); no definition, no `Mcp-Param-*` header;
* `mcp/server.go` `Server.listTools` / `paginateList` — pages of `PageSize` tools in name order, the cursor names the last
  tool of the previous page; `AddTool` / `RemoveTools` change the table.

`clientLookup` is `lookupTool` as /repo has it since fix preflight-F32 (F44, commit `6b2413a`): the most recently received
page that names the tool wins.  Before that fix the code ranged over a Go map, i.e. consulted the cached pages in an
arbitrary order (`LookupAny`), so that a superseded page — one cached under a cursor the server does not issue any more —
could shadow the current definition (`SeqProps.lean`, `f32_unrepaired_disagrees`).

The monitor of the `seq` records (`seqMonStep`) is the property read off the records alone; its state is `SeqMon`.
Core Lean only: linked into `drv_preflight`.
-/
namespace Preflight

/-- A tool table: name ↦ the properties of the input schema. -/
abbrev Tools := List (Bytes × Props)

/-- The definition registered under `name` (first entry); `lookupTool` of Model.lean, by recursion. -/
def toolDef : Tools → Bytes → Option Props
  | [], _ => none
  | (n, p) :: r, name => if n = name then some p else toolDef r name

def toolNames (ts : Tools) : List Bytes := ts.map (·.1)

/-- `Server.RemoveTools(name)`. -/
def removeTool (name : Bytes) (ts : Tools) : Tools := ts.filter (fun t => t.1 != name)

/-- Insertion in name order (`featureSet` iterates its keys sorted). -/
def insTool (name : Bytes) (p : Props) : Tools → Tools
  | [] => [(name, p)]
  | (m, q) :: r => if bLt name m then (name, p) :: (m, q) :: r else (m, q) :: insTool name p r

/-- `Server.AddTool`: adds the tool or replaces the one of that name. -/
def setTool (name : Bytes) (p : Props) (ts : Tools) : Tools := insTool name p (removeTool name ts)

/-- `paginateList`: the tools after the cursor's name (all, for the empty cursor), at most `size`, and the next cursor
(the name of the page's last tool) when more remain. -/
def serverPage (ts : Tools) (size : Nat) (cursor : Bytes) : Tools × Bytes :=
  let rest := if cursor = [] then ts else ts.filter (fun t => bLt cursor t.1)
  let tools := rest.take size
  (tools, if rest.length > size then (match tools.getLast? with | some t => t.1 | none => []) else [])

/-- One cached `tools/list` result (`cacheEntry`). -/
structure Page where
  key : Bytes            -- the request cursor (`""`: first page), named by the tool it points behind
  tools : Tools
  next : Bytes
  ttl : Int              -- `ttlMs` of the result
  recv : Nat             -- `receivedAt` (ms of the session's clock)
  cur : Bool             -- GHOST (no function below reads it): received since the server's tool table last changed
  deriving DecidableEq

/-- A `ClientSession.ListTools` whose `tools/list` request has been answered by the server while the response has not yet
reached the client (`ListTools` runs in a goroutine of the application; the response travels).  `gen` is what
`methodCache.gen()` returned after the cache miss and before the request was sent: `putIfCurrent` stores the result only if
no invalidation happened in between. -/
structure Pending where
  key : Bytes
  gen : Nat
  tools : Tools
  next : Bytes
  ttl : Int              -- the `ttlMs` the server put on the result
  cur : Bool             -- GHOST (read by no function below): the server's table has not changed since it answered
  deriving DecidableEq

/-- The session: server table and settings, and the client's `toolsCache` — most recently received page first. -/
structure World where
  newProto : Bool        -- the session runs 2026-07-28 (stateless server); otherwise a legacy version: no cache, no Mcp-* headers
  pageSize : Nat
  ttl : Int              -- the `ttlMs` the server puts on `tools/list` results
  server : Tools
  cache : List Page
  bad : List Bytes := []           -- tools the server LISTS with invalid x-mcp-header annotations (a foreign server; the SDK's
                                   -- own `AddTool` refuses them): `filterValidTools` drops them from every tools/list result
  serverB : Tools := []            -- the tools of a SECOND `Server` behind the same handler (`getServer` chooses by URL path)
  gen : Nat := 0                   -- `methodCache.generation`: counts invalidations
  pend : Option Pending := none    -- the listing in flight, if any (the harness keeps at most one)

/-- `cacheEntry.isValid` together with the `GetTTLMs() <= 0` test of `methodCache.get`. -/
def pageFresh (now : Nat) (pg : Page) : Bool :=
  decide (pg.ttl > 0) && decide ((now : Int) - (pg.recv : Int) < pg.ttl)

/-- A `tools/list` result as `ClientSession.ListTools` hands it on and caches it: the server's page (`paginateList`) without
the tools whose annotations are invalid (`filterValidTools`, applied before `putIfCurrent`, under every protocol version). -/
def clientPage (w : World) (k : Bytes) : Tools × Bytes :=
  ((serverPage w.server w.pageSize k).1.filter (fun t => !w.bad.contains t.1), (serverPage w.server w.pageSize k).2)

inductive SeqOp where
  | setTool (name : Bytes) (p : Props)   -- server: AddTool
  | delTool (name : Bytes)               -- server: RemoveTools
  | ttl (v : Int)                        -- server: the ttlMs of later tools/list results
  | adv                                  -- time passes (the clock is an input of every step)
  | notified                             -- the client handled notifications/tools/list_changed
  | list (cursor : Bytes)                -- client: ListTools
  | listSend (cursor : Bytes)            -- client: ListTools begins in its own goroutine: cache, generation, request; the
                                         -- server answers, the response is on its way
  | listRecv                             -- the response of the listing in flight reaches the client: putIfCurrent, return
  | look (name : Bytes)                  -- client: lookupTool
  | call (name : Bytes) (a : Args)       -- client: CallTool
  | setBad (name : Bytes)                -- the server starts listing the tool with INVALID annotations (foreign server)
  | clearBad (name : Bytes)              -- … lists it as registered again
  | setToolB (name : Bytes) (p : Props)  -- the second server behind the handler: AddTool
  | delToolB (name : Bytes)              -- … RemoveTools
  | callB (name : Bytes) (a : Args)      -- a second client connects to the second server's path, lists all its tools, calls

/-- The outcome of a call: the handler ran once with the arguments sent; the call succeeded otherwise; it failed with a
JSON-RPC code, if any (`quiet`: no handler ran). -/
inductive CallOut where
  | okSame
  | okOther
  | notOk (code : Option Int) (quiet : Bool)
  deriving DecidableEq, Repr

inductive SeqObs where
  | ok
  | sent                                                 -- the tools/list request went out; its answer is in flight
  | listed (hit : Bool) (tools : Tools) (next : Bytes)   -- `hit`: served from the cache, the server was not asked
  | looked (defs : List (Option Props))                  -- the distinct answers of repeated `lookupTool` calls
  | called (hdrs : ParamHdrs) (out : CallOut)            -- the Mcp-Param-* headers of the POST, and how the call ended

/-- `ClientSession.lookupTool`: the definition in the most recently received page that names the tool. -/
def clientLookup (w : World) (name : Bytes) : Option Props :=
  w.cache.findSome? (fun pg => toolDef pg.tools name)

/-- `lookupTool` before fix preflight-F32: `for _, entry := range cs.toolsCache.cachedValues` returned the first match, and
a Go map is visited in an arbitrary order — any page that names the tool may answer. -/
def LookupAny (w : World) (name : Bytes) (d : Option Props) : Prop :=
  match d with
  | some p => ∃ pg ∈ w.cache, toolDef pg.tools name = some p
  | none => ∀ pg ∈ w.cache, toolDef pg.tools name = none

/-- JSON-RPC code of the server's answer for a tool it does not have (`invalid params`). -/
def unknownToolCode : Int := -32602

/-- A `tools/call` whose client-side definition of the tool is `cdef`: the headers `setStandardHeaders` adds and what the
server (which validates against ITS definition) answers. -/
def callWith (c : B64) (w : World) (cdef : Option Props) (name : Bytes) (a : Args) : ParamHdrs × CallOut :=
  if w.newProto then
    let hdrs := match cdef with | some p => generateParamHeaders c p a | none => []
    match toolDef w.server name with
    | none => (hdrs, .notOk (some unknownToolCode) true)
    | some ps =>
      match validateParamHeaders c ps a hdrs with
      | none => (hdrs, .okSame)
      | some _ => (hdrs, .notOk (some (-32020)) true)
  else
    match toolDef w.server name with
    | none => ([], .notOk (some unknownToolCode) true)
    | some _ => ([], .okSame)

def callModel (c : B64) (w : World) (name : Bytes) (a : Args) : ParamHdrs × CallOut :=
  callWith c w (clientLookup w name) name a

/-- A call that goes to the SECOND server of the handler (`getServer(req)` returns it for this request's path), by a client
that has just listed that server's tools: the client mirrors, and the server validates against, THAT server's definition —
whatever the first server registered under the same name, whatever was called before. -/
def callModelB (c : B64) (w : World) (name : Bytes) (a : Args) : ParamHdrs × CallOut :=
  callWith c { w with server := w.serverB } (toolDef w.serverB name) name a

def staleAll (cache : List Page) : List Page := cache.map (fun pg => { pg with cur := false })

def stalePend (p : Option Pending) : Option Pending := p.map (fun q => { q with cur := false })

/-- `ListTools` up to the point where the request has been answered by the server (cache miss: `gen()` is read, the request
sent; the answer is the server's page as of now, with the `ttlMs` of now). -/
def sendList (w : World) (k : Bytes) : World × SeqObs :=
  let f := clientPage w k
  ({ w with pend := some { key := k, gen := w.gen, tools := f.1, next := f.2, ttl := w.ttl, cur := true } }, .sent)

/-- The response in flight arrives: `putIfCurrent(gen, cursor, result)` — stored (replacing the page of that cursor, most
recent) only if the cache has not been invalidated since the request was sent — and `ListTools` returns the result. -/
def recvList (w : World) (now : Nat) (p : Pending) : World × SeqObs :=
  (if w.newProto && p.gen == w.gen then
     { w with pend := none,
              cache := { key := p.key, tools := p.tools, next := p.next, ttl := p.ttl, recv := now, cur := p.cur } ::
                w.cache.filter (fun pg => pg.key != p.key) }
   else { w with pend := none },
   .listed false p.tools p.next)

/-- The miss path of a `ListTools` whose answer arrives at once: the server's page as the client keeps it replaces the one
cached under its cursor and is the most recent (no generation test, nothing can intervene; `recvList` has the test). -/
def putPage (w : World) (now : Nat) (k : Bytes) : World × SeqObs :=
  let f := clientPage w k
  ({ w with cache := { key := k, tools := f.1, next := f.2, ttl := w.ttl, recv := now, cur := true } ::
      w.cache.filter (fun pg => pg.key != k) },
   .listed false f.1 f.2)

def stepW (c : B64) (w : World) (now : Nat) : SeqOp → World × SeqObs
  | .setTool n p => ({ w with server := setTool n p w.server, cache := staleAll w.cache, pend := stalePend w.pend }, .ok)
  | .delTool n => ({ w with server := removeTool n w.server, cache := staleAll w.cache, pend := stalePend w.pend }, .ok)
  | .ttl v => ({ w with ttl := v }, .ok)
  | .adv => (w, .ok)
  | .notified => ({ w with cache := [], gen := w.gen + 1 }, .ok)   -- `invalidate`: clear, and a new generation
  | .list k =>
    if !w.newProto then
      let f := clientPage w k
      (w, .listed false f.1 f.2)
    else match w.cache.find? (fun pg => pg.key == k) with
      | some pg => if pageFresh now pg then (w, .listed true pg.tools pg.next) else putPage w now k
      | none => putPage w now k
  | .listSend k =>
    (match w.pend with
     | some _ => (w, .ok)            -- one listing in flight at a time (the harness does not start a second one)
     | none =>
       if !w.newProto then sendList w k
       else match w.cache.find? (fun pg => pg.key == k) with
         | some pg => if pageFresh now pg then (w, .listed true pg.tools pg.next) else sendList w k
         | none => sendList w k)
  | .listRecv =>
    (match w.pend with
     | none => (w, .ok)
     | some p => recvList w now p)
  | .look n => (w, .looked [clientLookup w n])
  | .call n a =>
    let r := callModel c w n a
    (w, .called r.1 r.2)
  | .setBad n => ({ w with bad := n :: w.bad, cache := staleAll w.cache, pend := stalePend w.pend }, .ok)
  | .clearBad n => ({ w with bad := w.bad.filter (· != n), cache := staleAll w.cache, pend := stalePend w.pend }, .ok)
  | .setToolB n p => ({ w with serverB := setTool n p w.serverB }, .ok)
  | .delToolB n => ({ w with serverB := removeTool n w.serverB }, .ok)
  | .callB n a =>
    let r := callModelB c w n a
    (w, .called r.1 r.2)

/-! ## the monitor of the `seq` records -/

/-- What an observer of the session knows. -/
structure SeqMon where
  newProto : Bool
  server : Tools           -- the server's tool table (the `set` / `del` operations are facts)
  listed : List Bytes      -- names in tools/list results the SERVER gave the client since the table last changed and
                           -- since the last list_changed: for these the client has listed the current definition
  seen : Tools             -- every (name, definition) the client received since the last list_changed (diagnosis only)
  bad : List Bytes := []   -- names the server lists with invalid annotations
  serverB : Tools := []    -- the second server's tool table
  pageSize : Nat := 0      -- the server's page size (configuration)
  fresh : Bool := false    -- the client has handled a list_changed since the server's table last changed: its cache was
                           -- emptied after the change, whatever it serves from it now was requested after that
  pend : Option (Bool × Bool) := none   -- a listing is in flight; since its request was answered: (the table changed,
                                        -- the client handled a list_changed)

/-- The generated headers, compared as sets of pairs. -/
def hdrsSame (h1 h2 : ParamHdrs) : Bool := h1.all h2.contains && h2.all h1.contains

def seenDef (seen : Tools) (name : Bytes) (p : Props) : Bool := seen.any (fun e => e.1 == name && e.2 == p)

/-- The page the client must end up with for cursor `k`: the server's, without the tools listed with invalid annotations. -/
def monPage (m : SeqMon) (k : Bytes) : Tools :=
  (serverPage m.server m.pageSize k).1.filter (fun t => !m.bad.contains t.1)

/-- `filterValidTools`: a fetched tools/list result handed to the application names no tool listed with invalid annotations. -/
def badListed (m : SeqMon) (hit : Bool) (tools : Tools) : Option Clause :=
  if !hit && tools.any (fun t => m.bad.contains t.1) then some .seqBadListed else none

/-- A tool the server lists with invalid annotations, called after the client handled the list_changed that followed the
last change (so that nothing it knows predates the listing): the client has no usable definition — it sends NO `Mcp-Param-*`
header — and it still calls: where the server's registered definition demands no header for these arguments, the call goes
through. -/
def badCall (c : B64) (m : SeqMon) (n : Bytes) (a : Args) (hdrs : ParamHdrs) (out : CallOut) : Option Clause :=
  if m.newProto && m.fresh && m.bad.contains n then
    if !hdrs.isEmpty then some .seqBadMirror
    else match toolDef m.server n with
      | some ps =>
        if toolValidB ps && argsValidB ps a && (generateParamHeaders c ps a).isEmpty && out != .okSame then some .seqBadCall
        else none
      | none => none
  else none

/-- `ListTools` answered from the client's cache (`hit`) after the client handled the list_changed that followed the
table's last change: the cache was emptied after the change, so what it holds was requested after it — the tools served
must be the server's. -/
def staleHit (m : SeqMon) (k : Bytes) (hit : Bool) (tools : Tools) : Option Clause :=
  if m.newProto && m.fresh && hit && tools != monPage m k then some .seqStaleList else none

/-- … and when they are, the client holds the current definition of every tool of that page although the server was not
asked: the observer counts them as listed. -/
def learnHit (m : SeqMon) (k : Bytes) (hit : Bool) (tools : Tools) : SeqMon :=
  if m.newProto && m.fresh && hit && tools == monPage m k then
    { m with listed := toolNames tools ++ m.listed }
  else m

/-- The clauses of a `call` record about a tool the client has listed (what each says: at `Clause` in Monitor.lean). -/
def callClause (c : B64) (m : SeqMon) (n : Bytes) (a : Args) (hdrs : ParamHdrs) (out : CallOut) : Option Clause :=
  match toolDef m.server n with
     | some ps =>
       if m.newProto then
         if m.listed.contains n && toolValidB ps && argsValidB ps a then
           -- diagnosis: the headers sent are those of a definition the client received earlier (preflight-F32)
           let stale := !hdrsSame hdrs (generateParamHeaders c ps a) &&
             m.seen.any (fun e => e.1 == n && e.2 != ps && hdrsSame hdrs (generateParamHeaders c e.2 a))
           (if out != .okSame then
              -- the client did its part (exactly the headers the current definition demands): the server judges the call
              -- by something else than the definition it has registered and lists
              (if hdrsSame hdrs (generateParamHeaders c ps a) then some .seqRefusedExact
               else if stale then some .seqStaleCall else if hdrs.isEmpty then some .seqLostCall else some .seqAgree)
            else match genMonitor c ps a hdrs with
              | some cl => if stale then some .seqStaleCall else some cl
              | none => none)
         else (match out with | .notOk _ false => some .e2eReached | _ => none)
       else if out != .okSame then some .seqLegacy
       else none
     | none => (match out with | .notOk _ false => some .e2eReached | _ => none)

/-- What the observer learns when the response of the listing in flight arrives. -/
def recvMon (m : SeqMon) (tools : Tools) : SeqMon :=
  match m.pend with
  | none => m
  | some (changed, noted) =>
    if !m.newProto then { m with pend := none }
    -- requested before a list_changed the client has handled since: the client must not keep it (nothing is learnt)
    else if noted then { m with pend := none }
    -- answered before the table's last change, no list_changed in between: the client is given an OLD page after
    -- whatever it listed since — no demand until it lists again
    else if changed then { m with pend := none, listed := [], seen := tools ++ m.seen }
    else { m with pend := none, listed := toolNames tools ++ m.listed, seen := tools ++ m.seen }

/-- One record: the operation and the IMPLEMENTATION's observation. -/
def seqMonStep (c : B64) (m : SeqMon) : SeqOp → SeqObs → SeqMon × Option Clause
  | .setTool n p, _ =>
    ({ m with server := setTool n p m.server, listed := [], fresh := false, pend := m.pend.map (fun x => (true, x.2)) }, none)
  | .delTool n, _ =>
    ({ m with server := removeTool n m.server, listed := [], fresh := false, pend := m.pend.map (fun x => (true, x.2)) }, none)
  | .ttl _, _ => (m, none)
  | .adv, _ => (m, none)
  | .notified, _ => ({ m with listed := [], seen := [], fresh := true, pend := m.pend.map (fun x => (x.1, true)) }, none)
  | .list k, .listed hit tools _ =>
    if m.newProto && !hit then ({ m with listed := toolNames tools ++ m.listed, seen := tools ++ m.seen }, badListed m hit tools)
    else (learnHit m k hit tools, (badListed m hit tools).orElse (fun _ => staleHit m k hit tools))
  | .list _, _ => (m, none)
  | .listSend k, .listed hit tools _ => (learnHit m k hit tools, staleHit m k hit tools)
  | .listSend _, .sent => (match m.pend with | none => { m with pend := some (false, false) } | some _ => m, none)
  | .listSend _, _ => (m, none)
  | .listRecv, .listed _ tools _ =>
    (recvMon m tools, match m.pend with | some (false, _) => badListed m false tools | _ => none)
  | .listRecv, _ => (m, none)
  | .look n, .looked defs =>
    (m,
     if m.newProto && m.listed.contains n then
       match toolDef m.server n with
       | some ps =>
         if defs == [some ps] then none
         else if defs.all (fun d => match d with | some p => seenDef m.seen n p | none => false) then some .seqStaleLook
         else some .seqLostLook
       | none => none
     else none)
  | .look _, _ => (m, none)
  | .call n a, .called hdrs out =>
    (m, (badCall c m n a hdrs out).orElse (fun _ => callClause c m n a hdrs out))
  | .call _ _, _ => (m, none)
  | .setBad n, _ =>
    ({ m with bad := n :: m.bad, listed := [], fresh := false, pend := m.pend.map (fun x => (true, x.2)) }, none)
  | .clearBad n, _ =>
    ({ m with bad := m.bad.filter (· != n), listed := [], fresh := false, pend := m.pend.map (fun x => (true, x.2)) }, none)
  | .setToolB n p, _ => ({ m with serverB := setTool n p m.serverB }, none)
  | .delToolB n, _ => ({ m with serverB := removeTool n m.serverB }, none)
  | .callB n a, .called hdrs out =>
    (m,
     match toolDef m.serverB n with
     | some ps =>
       if m.newProto then
         if toolValidB ps && argsValidB ps a then
           (if out != .okSame then
              -- the client listed THIS server's tools a moment ago: if it sent what this server's definition demands, the
              -- handler judged the call by another server's tool of that name
              (if hdrsSame hdrs (generateParamHeaders c ps a) then some .seqOtherServer else some .seqAgree)
            else genMonitor c ps a hdrs)
         else (match out with | .notOk _ false => some .e2eReached | _ => none)
       else if out != .okSame then some .seqLegacy
       else none
     | none => (match out with | .notOk _ false => some .e2eReached | _ => none))
  | .callB _ _, _ => (m, none)

structure SeqCfg where
  newProto : Bool
  pageSize : Nat

def World.init (cfg : SeqCfg) : World :=
  { newProto := cfg.newProto, pageSize := cfg.pageSize, ttl := 0, server := [], cache := [] }

def SeqMon.init (cfg : SeqCfg) : SeqMon :=
  { newProto := cfg.newProto, server := [], listed := [], seen := [], pageSize := cfg.pageSize }

/-- Model and monitor in lockstep on a list of (clock, operation): the monitor is fed the MODEL's observations.  Returns
the final states and the clauses raised. -/
def runSeq (c : B64) : World → SeqMon → List (Nat × SeqOp) → World × SeqMon × List Clause
  | w, m, [] => (w, m, [])
  | w, m, (now, op) :: rest =>
    let r := stepW c w now op
    let s := seqMonStep c m op r.2
    let t := runSeq c r.1 s.1 rest
    (t.1, t.2.1, (match s.2 with | some cl => [cl] | none => []) ++ t.2.2)

end Preflight
