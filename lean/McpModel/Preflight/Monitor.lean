import McpModel.Preflight.Model
/-!
# E8 Preflight — the typed core of the C12 monitors

The driver (`Driver.lean`) parses every harness record into a typed operation and a typed observation of the
IMPLEMENTATION, calls one of the monitors and renders the clause it returns.  What decides WHETHER a clause of C12 is
violated, and WHICH one, is in this file for the single-record kinds and in `Seq.lean` (`seqMonStep`) for the `seq` records;
the token parser and the clause texts stay in the driver (the string layer).  The model's observation of each record kind
(`vphModel`, `paramsModel`, `e2eModel`, `modelObs`, `modelObsV`), which the driver prints beside the implementation's, is
here too.

The monitors are the property written as decidable predicates on what the implementation did.  They have their own
copies of the specification constants (2^53−1, the media types, the versions, the codes — `spec…` below, literal text),
not the regenerated tables the model uses.  Base64 is a parameter (`c : B64`); the driver instantiates it with a concrete
`StdEncoding`.

Bridging theorems: `Bridge.lean` (no clause fires on an observation the model allows — for ALL inputs) and `Sound.lean`
(a clause that fires refutes the corresponding clause of the property, stated on the record alone).
Core Lean only: linked into `drv_preflight`.
-/
namespace Preflight

/-! ## specification constants (literal) -/

/-- The bytes of an ASCII text. -/
def asc (s : String) : Bytes := s.toList.map Char.toNat

def specMaxSafe : Int := 9007199254740991
def specJson : Bytes := asc "application/json"
def spec20260728 : Bytes := asc "2026-07-28"
def spec20250618 : Bytes := asc "2025-06-18"
def spec20250326 : Bytes := asc "2025-03-26"
def specSupported : List Bytes := ["2026-07-28", "2025-11-25", "2025-06-18", "2025-03-26", "2024-11-05"].map asc
def specNamed : List Bytes := ["tools/call", "resources/read", "prompts/get"].map asc
def specToolsCall : Bytes := asc "tools/call"
def specDiscover : Bytes := asc "server/discover"
def specJsonTokens : List (List Nat) := ["application/json", "application/*", "*/*"].map asc
def specStreamTokens : List (List Nat) := ["text/event-stream", "text/*", "*/*"].map asc
def specDefaultLimit : Int := 4194304

/-- The documented reading of `Accept`: some token admits JSON, some token admits an event stream. -/
def specAccepts (values : List Bytes) : Bool × Bool :=
  let toks := acceptTokens values
  (toks.any specJsonTokens.contains, toks.any specStreamTokens.contains)

/-- The documented preconditions of a message-carrying POST (texts: `Driver.precondText`). -/
inductive Precond where
  | host            -- a loopback-bound listener requires a loopback Host
  | origin          -- cross-origin protection
  | version         -- a declared protocol version is supported
  | method          -- POST
  | media           -- Content-Type application/json
  | accept          -- Accept admits both response types
  | session         -- the session named exists
  | lastEventId     -- no Last-Event-ID on POST
  | size            -- body within the limit
  | delivered       -- body delivered completely
  | empty           -- body not empty
  | malformed       -- body is JSON-RPC
  | batch           -- no JSON-array body from 2025-06-18 on
  | check           -- `checkRequest` passes
  | statefulNew     -- per-request metadata only on a stateless server (or `server/discover`)
  | versionMissing  -- per-request metadata needs the version header
  | metaMissing     -- … and a `_meta` protocol version
  | versionDiffers  -- … and the two are equal
  | mcpMethod       -- Mcp-Method = method
  | mcpName         -- Mcp-Name = name / uri
  | mcpParam        -- Mcp-Param-* = the bound arguments
  | sseNoSession    -- SSE: a session id is given
  | sseOneMessage   -- SSE: the body is one message
  deriving DecidableEq, Repr

/-- What a monitor reports (texts: `Driver.clauseText`). -/
inductive Clause where
  | acceptsTable
  | rtDiffers | rtUndecodable
  | peqSafeInt | peqValue
  | bindPath (b : Binding) | bindShared | bindCount (got want : Nat)
  | genMirror (b : Binding) | genUnbound
  | f31
  | vphF6 | vphAccepts (b : Option Binding) | vphRefuses
  | nameMirror (impl : Bytes) (key : Option Bytes) (exact : Option Bytes) | metaMirror (impl exact : Bytes)
  | e2eF6 | e2eAgree | e2eReached
  -- `seq` records (the session over time): a tool the client has listed under its current definition
  | seqStaleLook | seqLostLook       -- lookupTool answers with a superseded definition (preflight-F32 = F44) / does not find it
  | seqStaleCall | seqLostCall | seqAgree   -- the call is refused: headers of a superseded definition (preflight-F32) / none / other
  | seqRefusedExact                  -- … although it carries exactly the headers the server's current definition demands
  | seqLegacy                        -- a legacy session's call is refused
  | seqBadListed | seqBadMirror | seqBadCall   -- a tool listed with invalid annotations: handed on / mirrored / no longer callable
  | seqOtherServer                   -- a call to one server of a handler is judged by the same-named tool of another
  | seqStaleList                     -- ListTools serves from its cache a page from before a change whose list_changed the client handled
  -- a request naming an unimplemented version ≥ 2026-07-28 in header and `_meta` is not answered -32022 / -32602 (C06 and C12)
  | unsupportedVersion (status : Nat) (code : Option Int) (handled : Nat)
  | reached (status : Nat)
  | dispatchSound (p : Precond)
  | httpF6
  | refusedClean (status : Nat) (code : Option Int)
  | httpF30
  | notMandated (status : Nat) (code : Option Int)
  | handlerName (names : List Bytes) (announced : Bytes)
  deriving DecidableEq, Repr

/-! ## the monitors of the records about one function (`accepts` … `e2e`) -/

/-- `accepts`: the two flags `streamableAccepts` returned. -/
def acceptsMonitor (values : List Bytes) (impl : Bool × Bool) : Option Clause :=
  if impl = specAccepts values then none else some .acceptsTable

/-- `rt`: what `decodeHeaderValue (encodeHeaderValue v)` returned (`none`: it did not decode). -/
def rtMonitor (v : Prim) (decoded : Option Bytes) : Option Clause :=
  match decoded with
  | some d => if d = primToString v then none else some .rtDiffers
  | none => some .rtUndecodable

/-- `peq`: the answer of `primitiveEqual(header, value)`. -/
def peqMonitor (h : Bytes) (v : Prim) (impl : Bool) : Option Clause :=
  match v with
  | .int n => if h == intToDec n && -specMaxSafe ≤ n && n ≤ specMaxSafe && !impl then some .peqSafeInt else none
  | _ => if h == primToString v && !impl then some .peqValue else none

/-- Number of properties of the tree annotated with a non-empty string (read off the tree, no paths involved). -/
def countBound : Props → Nat
  | .nil => 0
  | .cons _ _ xh children rest =>
    (match xh with | .str s => if s = [] then 0 else 1 | _ => 0) + countBound children + countBound rest

def nodupPaths : List (List Bytes) → Bool
  | [] => true
  | x :: xs => !xs.contains x && nodupPaths xs

/-- The binding designates, read from the root of the schema, a property annotated with exactly that header. -/
def bindingResolves (p : Props) (b : Binding) : Bool :=
  match propAt p b.path with
  | some (_, .str h) => h == b.header && h != []
  | _ => false

/-- `annot`: the bindings `extractParamHeaderAnnotations` reported (`binding_path_resolves` / `binding_paths_nodup` /
`bindings_complete`): each designates the property annotated with that header, no path twice, as many as annotated
properties. -/
def annotMonitor (p : Props) (bs : List Binding) : Option Clause :=
  if !namesDistinctB p then none else
  match bs.find? (fun b => !bindingResolves p b) with
  | some b => some (.bindPath b)
  | none =>
    if !nodupPaths (bs.map (·.path)) then some .bindShared
    else if bs.length != countBound p then some (.bindCount bs.length (countBound p))
    else none

/-- A string, a boolean, or an integer within ±(2^53−1).  True of every result of `unmarshalPrimitive`
(`unmarshalPrimitive_safe`): the monitor's own reading of "primitive", not a further demand. -/
def primSafeB : Prim → Bool
  | .int n => -specMaxSafe ≤ n && n ≤ specMaxSafe
  | _ => true

/-- One `Mcp-Param-*` binding mirrors the body (the documented requirement): absent/null argument ⇒ no header;
otherwise the argument is a string, a boolean or an integer within ±(2^53−1) and the (decoded) header equals it;
the empty string may travel as an empty/absent header. -/
def bindingMirrors (c : B64) (a : Args) (h : ParamHdrs) (b : Binding) : Bool :=
  let hv := h.get b.header
  match a.lookup b.path with
  | none => hv == []
  | some .null => hv == []
  | some v =>
    match unmarshalPrimitive v with
    | none => false
    | some p =>
      primSafeB p && (if hv == [] then p == .str [] else
        match decodeHeaderValue c hv with
        | none => false
        | some d => primitiveEqual d p)

/-- Every bound, present, non-null argument is a string, a boolean or an integer within ±(2^53−1). -/
def argsValidB (p : Props) (a : Args) : Bool :=
  (bindings p).all (fun b => match a.lookup b.path with
    | none => true | some .null => true
    | some v => match unmarshalPrimitive v with
      | some pr => primSafeB pr
      | none => false)

/-- The tool is one the property speaks about: distinct property names per map, annotations that pass the SDK's validation. -/
def toolValidB (p : Props) : Bool := namesDistinctB p && validateAnnotations p

/-- `gen` (client side of the mirror): for a valid tool and valid arguments every binding's header mirrors the argument
at the binding's own path, and no other `Mcp-Param-*` header is produced. -/
def genMonitor (c : B64) (p : Props) (a : Args) (h : ParamHdrs) : Option Clause :=
  if !(toolValidB p && argsValidB p a) then none else
  match (bindings p).find? (fun b => !bindingMirrors c a h b) with
  | some b => some (.genMirror b)
  | none =>
    if h.any (fun e => !(bindings p).any (fun b => lowerBytes b.header == e.1)) then some .genUnbound else none

/-- More than one member of `params` is called exactly `arguments` (the shape of preflight-F31 = F36). -/
def repeatedArguments : RawParams → Bool
  | .obj ms => (ms.filter (fun kv => kv.1 == Generated.Preflight.memberArguments)).length ≥ 2
  | _ => false

/-- The answer of `validateParamHeaders`: accepted, refused (with the error kind when the harness prints it: one
binding), or anything else. -/
inductive VphObs where
  | ok
  | err (e : Option PErr)
  | other
  deriving DecidableEq, Repr

/-- The model's answer (`detail`: the tool has exactly one binding, the error kind is printed). -/
def vphModel (c : B64) (p : Props) (a : Args) (h : ParamHdrs) : VphObs :=
  match validateParamHeaders c p a h with
  | none => .ok
  | some e => if (bindings p).length == 1 then .err (some e) else .err none

/-- Every binding mirrors, and some bound argument is the empty string travelling as an empty header (the shape of F6). -/
def f6Like (c : B64) (p : Props) (a : Args) (h : ParamHdrs) : Bool :=
  (bindings p).any (fun b => h.get b.header == [] && (match a.lookup b.path with
    | some v => unmarshalPrimitive v == some (.str []) | none => false)) &&
  (bindings p).all (bindingMirrors c a h)

/-- The mirror requirement on a whole header set: every binding mirrors (arguments that do not decode are the
dispatcher's business). -/
def vphSpec (c : B64) (p : Props) (a : Args) (h : ParamHdrs) : Bool :=
  match a with | .bad => true | _ => (bindings p).all (bindingMirrors c a h)

/-- `vph` (server side of the mirror): `validateParamHeaders` accepts iff every binding mirrors the body.  `au`, `rep`:
the arguments as the code before fix preflight-F31 decoded them (repeated `arguments` members merged) and whether the two
can differ. -/
def vphMonitor (c : B64) (p : Props) (a au : Args) (rep : Bool) (h : ParamHdrs) (impl : VphObs) : Option Clause :=
  let spec := vphSpec c p a h
  if rep && impl != vphModel c p a h && impl == vphModel c p au h then some .f31
  else if (impl == .ok) == spec then none
  else if impl != .ok && f6Like c p a h then some .vphF6
  else if impl == .ok then some (.vphAccepts ((bindings p).find? (fun b => !bindingMirrors c a h b)))
  else some .vphRefuses

/-- `params`: the results of `extractName` (`implOk`: its second result) and `extractRequestMeta` against the member
list: the name is the value of the member called exactly `name` / `uri`, the version that of the exact `_meta` key. -/
def paramsMonitor (method : Bytes) (p : RawParams) (implOk : Bool) (implName implVer : Bytes) : Option Clause :=
  let dn := decodeName method p
  let mv := decodeMetaVersion p
  if implOk && some implName != dn then some (.nameMirror implName (nameMemberOf method) dn)
  else if implVer != mv then some (.metaMirror implVer mv)
  else none

/-- The model's `params` observation: (a name was extracted, the name, the version). -/
def paramsModel (method : Bytes) (p : RawParams) (implOk : Bool) : Bool × Bytes × Bytes :=
  let dn := decodeName method p
  let ok := implOk && dn.isSome
  (ok, if ok then dn.getD [] else [], decodeMetaVersion p)

/-- The outcome of an end-to-end call: the handler ran once with the arguments sent; the call succeeded otherwise;
it did not succeed (`quiet`: no handler ran). -/
inductive E2eObs where
  | okSame
  | okOther
  | notOk (quiet : Bool)
  deriving DecidableEq, Repr

def e2eModel (c : B64) (nameOk : Bool) (p : Props) (a : Args) : E2eObs :=
  if !nameOk then .notOk true
  else match validateParamHeaders c p a (generateParamHeaders c p a) with
    | none => .okSame
    | some _ => .notOk true

/-- `e2e` (client_server_agree): for a valid tool and valid arguments the SDK client's call goes through the SDK server
and the handler sees the arguments sent; a refused call reaches no tool handler. -/
def e2eMonitor (c : B64) (nameOk : Bool) (p : Props) (a : Args) (impl : E2eObs) : Option Clause :=
  let valid := nameOk && toolValidB p && argsValidB p a
  if valid && impl != .okSame then
    (if f6Like c p a (generateParamHeaders c p a) then some .e2eF6 else some .e2eAgree)
  else if impl == .notOk false then some .e2eReached
  else none

/-! ## whole requests -/

/-- A message as the harness describes it: the undecoded message for the model, and what the implementation's own
extractors returned for it (`extractName`, `extractRequestMeta`).  The monitors of this file read `raw` only; the
extractors' results are compared by `paramsMonitor` on the `params` records. -/
structure MsgIn where
  raw : RawMsg
  implNameOk : Bool
  implName : Bytes
  implMeta : Bytes

/-- What the harness saw of one `ServeHTTP` call. -/
structure HttpObs where
  status : Nat
  code : Option Int          -- JSON-RPC error code of a JSON error body
  allow : Option Bytes       -- `Allow` header
  reached : Nat              -- messages the receiving middleware saw
  handled : Nat              -- tool / prompt / resource handler runs
  disp : Nat                 -- 1: the request passed the last gate of `servePOST` or was answered 202.  The harness reads it off
                             -- the response: `servePOST` sets `Cache-Control: no-cache, no-transform` after its last gate
  names : List Bytes         -- the names the handlers were run for (sorted)
  deriving DecidableEq, Repr

def reqMsgs (r : Req) : List Msg := match r.content with | .msgs _ l => l | .malformed => []
def reqIsBatch (r : Req) : Bool := match r.content with | .msgs b _ => b | .malformed => false

/-- `Mcp-Protocol-Version` absent means 2025-03-26. -/
def specPv (r : Req) : Bytes := if r.version = [] then spec20250326 else r.version
def specNewProto (r : Req) : Bool := bLe spec20260728 (specPv r)
def specLimit (r : Req) : Int := if r.limit = 0 then specDefaultLimit else r.limit
/-- The per-request-metadata rules bind the request: protocol ≥ 2026-07-28, or the request carries a `_meta` version. -/
def metaBinds (r : Req) (m : Msg) : Bool := specNewProto r || m.metaVersion != []

/-- The request violates the documented precondition (declarative: no ordering is implied). -/
def violatesB (c : B64) (r : Req) : Precond → Bool
  | .host => !r.protectionDisabled && r.hasLocalAddr && r.listenerLoopback && !r.hostLoopback
  | .origin => r.originRejects
  | .version => r.version != [] && !specSupported.contains r.version && bLt r.version spec20260728
  | .method => r.method != .post
  | .media => r.baseMedia != specJson
  | .accept => !((specAccepts r.accept).1 && (specAccepts r.accept).2)
  | .session => r.kind != .stateless && r.sess == .unknown
  | .lastEventId => r.lastEventId
  -- the limit bounds what is delivered, with or without a declared length; declaring more than the limit is over it too
  | .size => specLimit r > 0 && ((r.bodyLen : Int) > specLimit r ||
      (match r.declared with | some d => (d : Int) > specLimit r | none => false))
  | .delivered => r.readFails
  | .empty => r.bodyLen == 0
  | .malformed => (match r.content with | .malformed => true | _ => false)
  | .batch => reqIsBatch r && bLe spec20250618 (specPv r)
  | .check => (reqMsgs r).any (fun m => m.isReq && m.check != .ok)
  -- the per-request-metadata rules bind every request of the body, whether the body is one message or a JSON array
  | .statefulNew => (reqMsgs r).any (fun m => m.isReq && metaBinds r m && r.kind != .stateless && m.method != specDiscover)
  | .versionMissing => (reqMsgs r).any (fun m => m.isReq && metaBinds r m && r.version == [])
  | .metaMissing => (reqMsgs r).any (fun m => m.isReq && metaBinds r m && m.metaVersion == [])
  | .versionDiffers => (reqMsgs r).any (fun m => m.isReq && metaBinds r m && r.version != [] && m.metaVersion != [] &&
      r.version != m.metaVersion)
  | .mcpMethod => (match soleMsg r with
      | some m => specNewProto r && m.isReq && r.mcpMethod != m.method
      | none => false)
  -- the name is the value of the params member called exactly `name` / `uri`: the one the dispatcher decodes and runs
  | .mcpName => (match soleMsg r with
      | some m => specNewProto r && m.isReq && specNamed.contains m.method &&
          (!m.nameOk || r.mcpName == [] || r.mcpName != m.name)
      | none => false)
  | .mcpParam => (match soleMsg r with
      | some m => specNewProto r && m.isReq &&
          (match m.tool with
           | some p => m.method == specToolsCall && m.nameOk && (match m.args with | .bad => false | _ => true) &&
               (bindings p).any (fun b => !bindingMirrors c m.args r.paramHdrs b)
           | none => false)
      | none => false)
  | .sseNoSession => r.sess == .none
  | .sseOneMessage => (match r.content with | .msgs false [_] => false | _ => true)

/-- The answers the code mandates for a violated precondition (status, optional JSON-RPC code).  The `.method` row is
never consulted: `httpMonitor` returns for a request that is not a POST before it looks at `violations`, and a POST
does not violate `.method`. -/
def mandated (k : HKind) : Precond → List (Nat × Option Int)
  | .host => [(403, none)]
  | .origin => [(403, none)]
  | .version => [(400, none)]
  | .method => if k = .sse then [(405, none)] else [(405, none), (400, none), (404, none)]
  | .media => [(415, none)]
  | .accept => [(400, none)]
  | .session => [(404, none)]
  | .lastEventId => [(400, none)]
  | .size => [(413, none)]
  | .delivered => [(400, none)]
  | .empty => [(400, none)]
  | .malformed => [(400, none)]
  | .batch => [(400, none)]
  | .check => if k = .sse then [(400, none)] else [(400, none), (404, some (-32601))]
  | .statefulNew => [(400, some (-32022))]
  | .versionMissing => [(400, some (-32020))]
  | .metaMissing => [(400, some (-32602))]
  | .versionDiffers => [(400, some (-32020))]
  | .mcpMethod => [(400, some (-32020))]
  | .mcpName => [(400, some (-32020))]
  | .mcpParam => [(400, some (-32020))]
  | .sseNoSession => [(400, none)]
  | .sseOneMessage => [(400, none)]

/-- The preconditions of the handler of kind `k`, in the order in which the monitor names them. -/
def precondsOf : HKind → List Precond
  | .sse => [.host, .method, .media, .sseNoSession, .session, .delivered, .sseOneMessage, .check]
  | _ => [.host, .origin, .version, .method, .media, .accept, .session, .lastEventId, .size, .delivered, .empty,
          .malformed, .batch, .check, .statefulNew, .versionMissing, .metaMissing, .versionDiffers,
          .mcpMethod, .mcpName, .mcpParam]

def violations (c : B64) (r : Req) : List (Precond × List (Nat × Option Int)) :=
  ((precondsOf r.kind).filter (violatesB c r)).map (fun p => (p, mandated r.kind p))

/-- F6 shape of a whole request: some bound argument is the empty string travelling as an empty header (`f6Like` without
its second half, "every binding mirrors"). -/
def f6Shape (r : Req) : Bool :=
  match r.content with
  | .msgs false [m] =>
    (match m.tool with
     | some p => (bindings p).any (fun b => r.paramHdrs.get b.header == [] && (match m.args.lookup b.path with
        | some v => unmarshalPrimitive v == some (.str []) | none => false))
     | none => false)
  | _ => false

/-- The answers a dispatched call may still get from the session layer under >= 2026-07-28
(`extractErrorStatus`: SEP-2575 maps these JSON-RPC errors to an HTTP status). Not this property's business. -/
def lateErrors : List (Nat × Option Int) := [(404, some (-32601)), (400, some (-32602)), (400, some (-32022)), (400, some (-32021))]

/-- The observation the model allows for the outcome `o` of request `r`.  What the session does with a dispatched
message is not this property's business: the counters of the implementation's observation `ob` are echoed, and so is the
status of a call under >= 2026-07-28 when it is one of the SEP-2575 error mappings.  But WHICH tool / prompt / resource
runs is: when the single message of the body made one handler run, it ran for the name the model decoded from the member
list (exact member name; the dispatcher's decoder).  A request that is refused, or served without carrying a message
(GET stream, DELETE), reaches nothing. -/
def modelObs (r : Req) (o : Outcome) (ob : HttpObs) : HttpObs :=
  match o with
  | .reject st code allow =>
    { status := st, code := code, allow := allow, reached := 0, handled := 0, disp := 0, names := [] }
  | .dispatched calls =>
    let x := match soleMsg r with
      | some m => if ob.handled == 1 && m.isReq then [m.name] else ob.names
      | none => ob.names
    if !calls then { status := 202, code := none, allow := none, reached := ob.reached, handled := ob.handled, disp := 1, names := x }
    else if bLe spec20260728 r.version && lateErrors.contains (ob.status, ob.code) then
      { status := ob.status, code := ob.code, allow := none, reached := ob.reached, handled := ob.handled, disp := 1, names := x }
    else { status := 200, code := none, allow := none, reached := ob.reached, handled := ob.handled, disp := 1, names := x }
  | .served st =>
    { status := st, code := none, allow := none, reached := 0, handled := 0, disp := 0, names := [] }

/-- The mirror seen from the handler's side: under >= 2026-07-28 a tool / prompt / resource handler ran for a name other
than the one `Mcp-Name` announced.  `o.names = []`: a record that does not say what the handler ran for is not judged
(the harness names every handler run, the empty name as an empty entry). -/
def handlerNameMonitor (r : Req) (o : HttpObs) : Option Clause :=
  match r.kind, r.content with
  | .sse, _ => none
  | _, .msgs false [m] =>
    if o.disp == 1 && o.handled == 1 && m.isReq && bLe spec20260728 r.version && specNamed.contains m.method &&
        o.names != [] && o.names != [r.mcpName] then
      some (.handlerName o.names r.mcpName)
    else none
  | _, _ => none

/-- * `dispatch_sound`      — a dispatched request satisfies every documented precondition;
* `rejected ⇒ untouched` — anything else: no middleware / handler saw a message (`R=0 H=0`);
* `violation_status`    — a refusal carries a status/code mandated by one of the violated preconditions, and a
                          request violating nothing is not refused (F6 and F30 have their own clauses). -/
def httpMonitor (c : B64) (r : Req) (o : HttpObs) : Option Clause :=
  let viol := violations c r
  let carries := r.method == .post
  let dispatched := o.disp == 1
  if !dispatched && (o.reached != 0 || o.handled != 0) then some (.reached o.status)
  else if !carries then none
  else if dispatched then
    match viol with
    | (p, _) :: _ => some (.dispatchSound p)
    | [] => none
  else
    match viol with
    | [] =>
      if o.code == some (-32020) && f6Shape r then some .httpF6
      else some (.refusedClean o.status o.code)
    | _ =>
      if viol.any (fun p => p.2.contains (o.status, o.code)) then none
      else if o.status == 400 && o.code == none && r.kind == .stateful && r.noSessionIds && r.sess == .none &&
          viol.any (fun p => p.2 == [(413, none)]) then some .httpF30
      else some (.notMandated o.status o.code)

/-- The request as the code before fix preflight-F31 saw it: repeated `arguments` members merged. -/
def unrepairedReq (r : Req) (mi : MsgIn) : Req :=
  { r with content := match r.content with
    | .msgs b [m] => .msgs b [{ m with args := decodeArgsUnrepaired mi.raw.params }]
    | x => x }

/-- The monitors of a whole request.  preflight-F31: a violation is reported under the clause of that finding when the
observation is exactly what merging the repeated `arguments` members (the code before that fix) produces. -/
def httpMonitorAll (c : B64) (r : Req) (ins : List MsgIn) (o : HttpObs) : Option Clause :=
  match (httpMonitor c r o).orElse (fun _ => handlerNameMonitor r o), ins with
  | some v, [mi] =>
    if repeatedArguments mi.raw.params then
      (if modelObs (unrepairedReq r mi) (verdict c (unrepairedReq r mi)) o == o then some .f31 else some v)
    else some v
  | v, _ => v

/-! ## the unsupported-version answer (shared with C06)

C06: "Requests carrying the 2026-07-28 per-request metadata are served without a handshake only if that metadata is complete
and names a supported version; otherwise they are answered with invalid-params (-32602) or unsupported-version (-32022,
listing the supported versions)".  C12: "a declared protocol version must be supported … violations receive the mandated
status".  The HTTP front door lets a version header it does not know through when it is not older than 2026-07-28, so that
the session can give that structured answer (a peer implementing a newer revision learns what to fall back to). -/

/-- The single request of the body is a call whose `Mcp-Protocol-Version` header and `_meta` agree on a version that this
SDK does not implement and that is not older than 2026-07-28 (streamable handlers). -/
def unsupportedNew (r : Req) : Bool :=
  r.method == .post && r.kind != .sse &&
  (match soleMsg r with
   | some m => m.isReq && m.isCall && r.version != [] && r.version == m.metaVersion &&
       bLe spec20260728 r.version && !specSupported.contains r.version
   | none => false)

/-- The answers the property names: JSON-RPC -32022 (the harness prints another code when the error data does not list
supported versions) or -32602 (incomplete metadata) — as an HTTP 400 with a JSON body (SEP-2575 status mapping), or, on an
established stateful session, as the answer on the POST's own stream (HTTP 200). -/
def uvAllowed : List (Nat × Option Int) :=
  [(400, some (-32022)), (400, some (-32602)), (200, some (-32022)), (200, some (-32602))]

/-- Such a request that violates no other documented precondition gets one of these answers and runs no handler. -/
def uvMonitor (c : B64) (r : Req) (o : HttpObs) : Option Clause :=
  if unsupportedNew r && (violations c r).isEmpty && !(uvAllowed.contains (o.status, o.code) && o.handled == 0) then
    some (.unsupportedVersion o.status o.code o.handled)
  else none

/-- The observation the model allows, exact on the unsupported-version rows: the request passes the HTTP gates
(`dispatched`), the session refuses it with -32022 (or -32602 — which of the two is the session gate's business, C06) and
no handler runs. -/
def modelObsV (r : Req) (o : Outcome) (ob : HttpObs) : HttpObs :=
  match o with
  | .dispatched _ =>
    if unsupportedNew r then
      -- which of the allowed answers is the session's business (C06, transport): echoed if it is one, else 400 / -32022
      { status := if uvAllowed.contains (ob.status, ob.code) then ob.status else 400,
        code := if uvAllowed.contains (ob.status, ob.code) then ob.code else some (-32022),
        allow := none, reached := ob.reached, handled := 0, disp := 1, names := [] }
    else modelObs r o ob
  | _ => modelObs r o ob

def httpMonitorAllV (c : B64) (r : Req) (ins : List MsgIn) (o : HttpObs) : Option Clause :=
  (uvMonitor c r o).orElse (fun _ => httpMonitorAll c r ins o)

end Preflight
