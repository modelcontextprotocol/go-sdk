import McpModel.Preflight.Sound
import McpModel.Preflight.SeqProps
/-!
# C12 — the bridge between the monitors (`Monitor.lean`) and the model: NO FALSE ALARM

For every kind of record the driver replays, the typed monitor raises no clause on the observation the model allows — for
ALL inputs, not for the generated ones only.  `Sound.lean` shows that a clause refutes the record predicate `P_…`; so a
monitor is silent wherever `P_…` holds (`quiet_of_sound`), and what is shown here is that `P_…` holds of the MODEL's
observation: the theorems of `Props.lean` in the vocabulary of the records (for whole requests: `Allows`, `allows_property`).
A monitor's code is opened here only where it is a single test and the direct argument is the shorter one.

With the driver's comparison of the implementation's observation text with the model's (`A` = equal) this says: on a record
answered `A` the monitor ran on exactly the model's observation and cannot have fired: a reported clause always comes with a
difference between the two texts.
Trusted remainder: the string layer (token parser, `showHttpObs`/`parseHttpObs` — self-checked at run time —, clause texts)
and the concrete base64 codec of the driver (the theorems assume `dec (enc s) = some s` where the client's encoding is involved).
-/
namespace Preflight
open Generated.Preflight

theorem quiet_of_sound {o : Option Clause} {P : Prop} (hs : ∀ cl, o = some cl → ¬ P) (hP : P) : o = none := by
  cases h : o with
  | none => rfl
  | some cl => exact absurd hP (hs cl h)

theorem accepts_monitor_accepts_model (values : List Bytes) :
    acceptsMonitor values (streamableAccepts values) = none := by
  unfold acceptsMonitor
  rw [specAccepts_eq, if_pos rfl]

theorem rt_monitor_accepts_model (c : B64) (hc : c.Lawful) (v : Prim) :
    rtMonitor v (decodeHeaderValue c (encodeHeaderValue c v)) = none := by
  rw [decode_encode_header_value c hc v]
  simp [rtMonitor]

theorem primitiveEqual_selfEqual (h : Bytes) (v : Prim) : P_selfEqual h v (primitiveEqual h v) := by
  rintro rfl hr
  cases v with
  | int n =>
    obtain ⟨h1, h2⟩ := hr n rfl
    exact primitiveEqual_refl_on_safe_ints n (by rw [← specMinSafe_eq]; exact h1) (by rw [← specMaxSafe_eq]; exact h2)
  | _ => simp [primitiveEqual]

theorem peq_monitor_accepts_model (h : Bytes) (v : Prim) : peqMonitor h v (primitiveEqual h v) = none :=
  quiet_of_sound (fun _ => sound_peq) (primitiveEqual_selfEqual h v)

/-- The model's `validateParamHeaders` accepts iff the monitor's mirror requirement holds. -/
theorem vph_monitor_accepts_model (c : B64) (p : Props) (a au : Args) (rep : Bool) (h : ParamHdrs) :
    vphMonitor c p a au rep h (vphModel c p a h) = none := by
  have hm : vphModel c p a h = .ok ↔ validateParamHeaders c p a h = none := by
    unfold vphModel
    cases validateParamHeaders c p a h with
    | none => simp
    | some e => simp only [reduceCtorEq, iff_false]; split <;> simp
  unfold vphMonitor
  simp only [bne_self_eq_false, Bool.and_false, Bool.false_and, Bool.false_eq_true, if_false]
  rw [if_pos]
  rw [beq_iff_eq, Bool.eq_iff_iff, beq_iff_eq, hm, vphSpec_iff, validateParamHeaders_none_iff]
  cases a <;> simp [Args.isBad]

/-- On a record on which the implementation's "a name was extracted" (`implOk`, the first field of the `params` observation)
is the model's. -/
theorem params_monitor_accepts_model (method : Bytes) (p : RawParams) (implOk : Bool)
    (hn : (paramsModel method p implOk).1 = implOk) :
    paramsMonitor method p implOk (paramsModel method p implOk).2.1 (paramsModel method p implOk).2.2 = none := by
  unfold paramsModel at hn ⊢
  unfold paramsMonitor
  simp only at hn ⊢
  cases implOk with
  | false => simp
  | true =>
    simp only [Bool.true_and] at hn ⊢
    cases hd : decodeName method p with
    | none => simp [hd] at hn
    | some x => simp

theorem e2eModel_agree (c : B64) (hc : c.Lawful) (nameOk : Bool) (p : Props) (a : Args) :
    P_agree nameOk p a (e2eModel c nameOk p a) := by
  intro hn ht ha
  simp [e2eModel, hn, generated_params_accepted_prim c hc p a ht.2 (argsValidDoc_prim ha)]

theorem e2eModel_quiet (c : B64) (nameOk : Bool) (p : Props) (a : Args) : P_quiet (e2eModel c nameOk p a) := by
  unfold P_quiet e2eModel
  split
  · simp
  · split <;> simp

theorem e2e_monitor_accepts_model (c : B64) (hc : c.Lawful) (nameOk : Bool) (p : Props) (a : Args) :
    e2eMonitor c nameOk p a (e2eModel c nameOk p a) = none :=
  quiet_of_sound (P := P_agree nameOk p a (e2eModel c nameOk p a) ∧ P_quiet (e2eModel c nameOk p a))
    (fun _ h hP => (sound_e2e h).elim (fun h1 => h1.2 hP.1) (fun h2 => h2.2 hP.2))
    ⟨e2eModel_agree c hc nameOk p a, e2eModel_quiet c nameOk p a⟩

theorem filterMap_toBinding_length (p : Props) : ∀ pre, ((annotated pre p).filterMap toBinding).length = countBound p := by
  induction p with
  | nil => intro pre; rfl
  | cons name ty xh ch rest ih1 ih2 =>
    intro pre
    simp only [annotated, List.filterMap_append, List.length_append, ih1, ih2, countBound]
    congr 1
    congr 1
    cases xh with
    | absent => simp
    | null => simp [toBinding]
    | other => simp [toBinding]
    | str s =>
      by_cases hs : s = []
      · simp [toBinding, hs]
      · simp [toBinding, hs]

theorem bindings_length (p : Props) : (bindings p).length = countBound p := by
  rw [bindings_eq]; exact filterMap_toBinding_length p []

theorem bindings_property (p : Props) (bs : List Binding) (hperm : bs.Perm (bindings p)) : P_bindings p bs := fun hd =>
  ⟨fun b hb => binding_path_resolves p hd b (hperm.mem_iff.mp hb),
   ((hperm.map (·.path)).nodup_iff).mpr (binding_paths_nodup p hd), by rw [hperm.length_eq, bindings_length]⟩

/-- In any order: the harness prints the bindings sorted. -/
theorem annot_monitor_accepts_model (p : Props) (bs : List Binding) (hperm : bs.Perm (bindings p)) :
    annotMonitor p bs = none :=
  quiet_of_sound (fun _ => sound_bindings) (bindings_property p bs hperm)

def KeysNodup (h : ParamHdrs) : Prop := (h.map (·.1)).Nodup

theorem set_keysNodup (h : ParamHdrs) (n v : Bytes) (hk : KeysNodup h) : KeysNodup (h.set n v) := by
  unfold KeysNodup ParamHdrs.set at *
  rw [List.map_cons, List.nodup_cons]
  constructor
  · intro hmem
    obtain ⟨e, he, hek⟩ := List.mem_map.mp hmem
    have := (List.mem_filter.mp he).2
    simp [hek] at this
  · exact (List.filter_sublist.map _).nodup hk

/-- What holds of the empty header set and is kept by every `Set` for a binding's header holds of the generated headers. -/
theorem generated_inv (c : B64) (p : Props) (a : Args) (P : ParamHdrs → Prop) (h0 : P [])
    (hset : ∀ acc, ∀ b ∈ bindings p, ∀ v, P acc → P (acc.set b.header v)) : P (generateParamHeaders c p a) := by
  unfold generateParamHeaders
  cases a with
  | obj f =>
    suffices ∀ (bs : List Binding) acc, (∀ b ∈ bs, b ∈ bindings p) → P acc → P (bs.foldl (genStep c (.obj f)) acc) from
      this _ [] (fun _ hb => hb) h0
    intro bs
    induction bs with
    | nil => exact fun _ _ hacc => hacc
    | cons x xs ih =>
      intro acc hsub hacc
      refine ih _ (fun b hb => hsub b (List.mem_cons_of_mem _ hb)) ?_
      unfold genStep
      split
      · exact hacc
      · exact hset acc x (hsub x List.mem_cons_self) _ hacc
  | _ => exact h0

theorem generated_keysNodup (c : B64) (p : Props) (a : Args) : KeysNodup (generateParamHeaders c p a) :=
  generated_inv c p a KeysNodup List.nodup_nil fun acc b _ v => set_keysNodup acc b.header v

theorem generated_keys_bound (c : B64) (p : Props) (a : Args) :
    ∀ e ∈ generateParamHeaders c p a, ∃ b ∈ bindings p, lowerBytes b.header = e.1 :=
  generated_inv c p a (fun h => ∀ e ∈ h, ∃ b ∈ bindings p, lowerBytes b.header = e.1) (fun _ he => (List.not_mem_nil he).elim)
    fun acc b hb v hacc e he => by
    unfold ParamHdrs.set at he
    rcases List.mem_cons.mp he with rfl | he
    · exact ⟨b, hb, rfl⟩
    · exact hacc e (List.mem_filter.mp he).1

theorem get_perm {h h' : ParamHdrs} (hp : h.Perm h') (hk : KeysNodup h) (n : Bytes) : h.get n = h'.get n := by
  unfold ParamHdrs.get
  unfold KeysNodup at hk
  induction hp with
  | nil => rfl
  | cons x _ ih =>
    simp only [List.find?_cons]
    cases x.1 == lowerBytes n with
    | true => rfl
    | false => exact ih (List.nodup_cons.mp hk).2
  | swap x y l =>
    simp only [List.find?_cons]
    cases hx : x.1 == lowerBytes n <;> cases hy : y.1 == lowerBytes n <;> try rfl
    -- two entries under the looked-up name: the keys are not distinct
    have : y.1 = x.1 := (beq_iff_eq.mp hy).trans (beq_iff_eq.mp hx).symm
    simp [this] at hk
  | trans p1 _ ih1 ih2 => exact (ih1 hk).trans (ih2 ((p1.map _).nodup_iff.mp hk))

theorem generated_property (c : B64) (hc : c.Lawful) (p : Props) (a : Args) (h : ParamHdrs)
    (hperm : h.Perm (generateParamHeaders c p a)) : P_generated c p a h := fun ht ha => by
  have hk : KeysNodup h :=
    ((hperm.map (fun e : Bytes × Bytes => e.1)).nodup_iff).mpr (generated_keysNodup c p a)
  refine ⟨fun b hb => ?_, fun e he => generated_keys_bound c p a e (hperm.mem_iff.mp he)⟩
  -- `Mirrors` reads the header set through `get` only
  have := generated_mirrors c hc p a ht.2 (argsValidDoc_prim ha) b hb
  unfold Mirrors at this ⊢
  rwa [get_perm hperm hk b.header]

/-- In any order: the harness prints the headers sorted. -/
theorem gen_monitor_accepts_model (c : B64) (hc : c.Lawful) (p : Props) (a : Args) (h : ParamHdrs)
    (hperm : h.Perm (generateParamHeaders c p a)) : genMonitor c p a h = none :=
  quiet_of_sound (fun _ => sound_gen) (generated_property c hc p a h hperm)

/-- HTTP framing, which `net/http` enforces on the wire and the harness reproduces when it calls `ServeHTTP` directly: a
body that is delivered completely has the declared length, if one was declared.  (An upload that breaks off delivers
fewer bytes than declared and ends with an error: `readFails`.) -/
def Framed (r : Req) : Prop := r.readFails = false → ∀ d, r.declared = some d → d = r.bodyLen

/-- JSON-RPC: a message is a request iff it has a non-empty `method` (`jsonrpc2.DecodeMessage`). -/
def MethodsNonEmpty (r : Req) : Prop := ∀ m ∈ reqMsgs r, m.isReq = true → m.method ≠ []

theorem reqMsgs_eq (r : Req) : reqMsgs r = contentMsgs r := rfl
theorem specPv_eq (r : Req) : specPv r = effVersion r.version := by
  unfold specPv effVersion; rw [spec20250326_eq]
theorem specLimit_eq (r : Req) : specLimit r = effLimit r.limit := by
  unfold specLimit effLimit; rw [specDefaultLimit_eq]

theorem metaBinds_metaApplies (r : Req) (m : Msg) :
    MetaBinds r m ↔ metaApplies (effVersion r.version) m.metaVersion = true := by
  unfold MetaBinds metaApplies
  rw [specPv_eq, spec20260728_eq]
  simp

theorem soleMsg_mem {r : Req} {m : Msg} (h : soleMsg r = some m) : reqMsgs r = [m] := by
  unfold soleMsg at h
  unfold reqMsgs
  split at h
  · rename_i m' hc; cases h; rw [hc]
  · cases h

theorem not_skipped_iff (v : Bytes) : standardHeadersSkipped v = false ↔ bLe spec20260728 v = true := by
  rw [spec20260728_eq_min]
  unfold standardHeadersSkipped bLe
  cases v with
  | nil => decide
  | cons a as => simp

theorem newProto_iff_not_skipped (r : Req) : specNewProto r = true ↔ standardHeadersSkipped r.version = false := by
  rw [not_skipped_iff]
  unfold specNewProto specPv
  by_cases hv : r.version = []
  · rw [if_pos hv, hv, spec20250326_eq, spec20260728_eq]; decide
  · rw [if_neg hv]

/-- The documented preconditions as `dispatch_sound` states them (`Pre`) leave no `Precond` for the monitor to name —
streamable handlers. -/
theorem pre_not_violates {c : B64} {r : Req} (hpre : Pre c r) (hk : r.kind ≠ .sse) (hf : Framed r) :
    ∀ p ∈ precondsOf r.kind, ¬ Violates c r p := by
  intro p hp hv
  have hko : r.kind = .stateless ∨ r.kind = .stateful := by
    cases h : r.kind <;> simp_all
  have hmeta := fun m hm hr hb => (hpre.perMessage m hm hr).2 ((metaBinds_metaApplies r m).mp hb)
  have hmirror := fun m hs hr hn => hpre.mirror m hs hr ((newProto_iff_not_skipped r).mp hn)
  cases p
  case host =>
    obtain ⟨h1, h2, h3, h4⟩ := hv
    rcases hpre.host with h | h | h | h <;> simp [h1, h2, h3, h4] at h
  case origin => exact absurd hpre.origin (by rw [show r.originRejects = true from hv]; simp)
  case version =>
    obtain ⟨h1, h2, h3⟩ := hv
    rw [specSupported_eq] at h2
    rw [spec20260728_eq] at h3
    rcases hpre.version with h | h | h
    · exact h1 h
    · exact h2 h
    · rw [h] at h3; cases h3
  case method => exact hv hpre.method
  case media => exact hv (by rw [specJson_eq]; exact hpre.media)
  case accept =>
    apply hv
    have h := hpre.accept
    rw [← specAccepts_eq] at h
    unfold specAccepts at h
    simp only [List.any_eq_true, List.contains_iff_mem] at h
    exact h
  case session =>
    rcases hko with h | h
    · exact hv.1 h
    · exact hpre.session h hv.2
  case lastEventId =>
    have h : r.lastEventId = true := hv
    rw [hpre.noLastEventId] at h; cases h
  case size =>
    obtain ⟨h1, h2⟩ := hv
    rw [specLimit_eq] at h1 h2
    have ht := hpre.size.1
    unfold tooLarge at ht
    have hle : ¬ ((r.bodyLen : Int) > effLimit r.limit) := by
      intro hgt
      simp [h1, hgt] at ht
    rcases h2 with h2 | ⟨d, hd, h2⟩
    · exact hle h2
    · rw [hf hpre.delivered d hd] at h2
      exact hle h2
  case delivered =>
    have h : r.readFails = true := hv
    rw [hpre.delivered] at h; cases h
  case empty => exact hpre.size.2 hv
  case malformed =>
    have := hpre.wellFormed
    unfold contentMalformed at this
    simp only [Violates] at hv
    revert hv this
    cases r.content <;> simp
  case batch =>
    obtain ⟨h1, h2⟩ := hv
    have := hpre.noBatch
    rw [show contentBatch r = reqIsBatch r from rfl, ← specPv_eq] at this
    unfold batchGateRejects at this
    rw [← spec20250618_eq, h1, h2] at this
    cases this
  case check =>
    obtain ⟨m, hm, hr, hc⟩ := hv
    exact hc (hpre.perMessage m hm hr).1
  case statefulNew =>
    obtain ⟨m, hm, hr, hb, h1, h2⟩ := hv
    obtain ⟨h3, _⟩ := hmeta m hm hr hb
    rcases h3 with h3 | h3
    · exact h1 h3
    · exact h2 (by rw [specDiscover_eq]; exact h3)
  case versionMissing =>
    obtain ⟨m, hm, hr, hb, h1⟩ := hv
    exact (hmeta m hm hr hb).2.1 h1
  case metaMissing =>
    obtain ⟨m, hm, hr, hb, h1⟩ := hv
    exact (hmeta m hm hr hb).2.2.1 h1
  case versionDiffers =>
    obtain ⟨m, hm, hr, hb, _, _, h1⟩ := hv
    exact h1 (hmeta m hm hr hb).2.2.2
  case mcpMethod =>
    obtain ⟨m, hs, hn, hr, h1⟩ := hv
    exact h1 (hmirror m hs hr hn).1
  case mcpName =>
    obtain ⟨m, hs, hn, hr, hnamed, h1⟩ := hv
    have hc : namedMethods.contains m.method = true := by
      rw [← specNamed_eq]; exact List.contains_iff_mem.mpr hnamed
    obtain ⟨g1, g2, g3⟩ := (hmirror m hs hr hn).2.2.1 hc
    rcases h1 with h1 | h1 | h1
    · rw [g1] at h1; cases h1
    · exact g3 h1
    · exact h1 g2
  case mcpParam =>
    obtain ⟨m, q, hs, hn, hr, ht, hmeth, _, hbad, b, hb, hnm⟩ := hv
    refine hnm ((hmirror m hs hr hn).2.2.2 (by rw [← specToolsCall_eq]; exact hmeth) q ht ?_ b hb)
    intro h; rw [h] at hbad; exact hbad
  case sseNoSession => rcases hko with h | h <;> simp [precondsOf, h] at hp
  case sseOneMessage => rcases hko with h | h <;> simp [precondsOf, h] at hp

/-- … and so do the preconditions of the SSE handler (`dispatch_sound_sse`). -/
theorem sse_not_violates {c : B64} {r : Req} {b : Bool} (hk : r.kind = .sse) (h : verdict c r = .dispatched b) :
    ∀ p ∈ precondsOf r.kind, ¬ Violates c r p := by
  obtain ⟨g1, g2, g3, g4, g5, m, g6, g7⟩ := dispatch_sound_sse c r hk b h
  intro p hp hv
  rw [hk] at hp
  cases p
  case host =>
    obtain ⟨h1, h2, h3, h4⟩ := hv
    rcases g1 with h | h | h | h <;> simp_all
  case method => exact hv g2
  case media => exact hv (by rw [specJson_eq]; exact g3)
  case sseNoSession =>
    have h' : r.sess = .none := hv
    rw [g4] at h'; cases h'
  case session =>
    have h' := hv.2
    rw [g4] at h'; cases h'
  case delivered =>
    have h' : r.readFails = true := hv
    rw [g5] at h'; cases h'
  case sseOneMessage =>
    have h' : soleMsg r = none := hv
    rw [g6] at h'; cases h'
  case check =>
    obtain ⟨m', hm', hr, hc⟩ := hv
    rw [soleMsg_mem g6] at hm'
    simp only [List.mem_singleton] at hm'
    subst hm'
    exact hc (g7 hr)
  all_goals simp [precondsOf] at hp

/-- The answer `o`, if it is a refusal, is one mandated for a documented precondition that `r` violates. -/
def Mand (c : B64) (r : Req) : Outcome → Prop
  | .reject st code _ => ∃ p ∈ precondsOf r.kind, Violates c r p ∧ (st, code) ∈ mandated r.kind p
  | _ => True

theorem mand_cons {c : B64} {r : Req} {cnd : Bool} {o : Outcome} {t : List (Bool × Outcome)} {d : Outcome}
    (h1 : cnd = true → Mand c r o) (h2 : cnd = false → Mand c r (firstViolation t d)) :
    Mand c r (firstViolation ((cnd, o) :: t) d) := by
  rw [firstViolation_cons]
  cases cnd
  · exact h2 rfl
  · exact h1 rfl

theorem mand_firstViolation {c : B64} {r : Req} (g : List (Bool × Outcome)) (d : Outcome)
    (hg : ∀ x ∈ g, x.1 = true → Mand c r x.2) (hd : Mand c r d) : Mand c r (firstViolation g d) := by
  induction g with
  | nil => exact hd
  | cons x xs ih =>
    exact mand_cons (hg x List.mem_cons_self) fun _ => ih fun y hy => hg y (List.mem_cons_of_mem _ hy)

theorem mem_streamable {r : Req} (hk : r.kind ≠ .sse) (p : Precond) (hp : p ∈ precondsOf .stateless) :
    p ∈ precondsOf r.kind := by
  cases h : r.kind with
  | sse => exact absurd h hk
  | _ => exact hp

theorem mand_rej {c : B64} {r : Req} {st : Nat} (p : Precond) (hp : p ∈ precondsOf r.kind) (hv : Violates c r p)
    (hm : (st, none) ∈ mandated r.kind p) : Mand c r (rej st) := ⟨p, hp, hv, hm⟩

theorem mand_rpc {c : B64} {r : Req} {st : Nat} {code : Int} (hk : r.kind ≠ .sse) (p : Precond)
    (hp : p ∈ precondsOf .stateless) (hv : Violates c r p) (hm : (st, some code) ∈ mandated r.kind p) :
    Mand c r (rejRpc st code) := ⟨p, mem_streamable hk p hp, hv, hm⟩

theorem violates_size {c : B64} {r : Req} (h : tooLarge r = true) : Violates c r .size := by
  unfold tooLarge at h
  simp only [Bool.and_eq_true, decide_eq_true_eq] at h
  refine ⟨by rw [specLimit_eq]; exact h.1, Or.inl (by rw [specLimit_eq]; exact h.2)⟩

/-- The last row, "header and `_meta` differ", names `versionDiffers` only because the two rows before it did not fire. -/
theorem mand_msgChecks {c : B64} {r : Req} {m : Msg} (hk : r.kind ≠ .sse) (hm : m ∈ reqMsgs r) (d : Outcome)
    (hd : Mand c r d) : Mand c r (firstViolation (msgChecks (r.kind == .stateless) r.version m) d) := by
  unfold msgChecks
  cases hr : m.isReq with
  | false => exact hd
  | true =>
    have hcheck : m.check ≠ .ok → Violates c r .check := fun h => ⟨m, hm, hr, h⟩
    have hbinds : metaApplies (effVersion r.version) m.metaVersion = true → MetaBinds r m :=
      (metaBinds_metaApplies r m).mpr
    refine mand_cons (fun h => ?_) fun _ => mand_cons (fun h => ?_) fun _ => mand_cons (fun h => ?_) fun _ =>
      mand_cons (fun h => ?_) fun hv => mand_cons (fun h => ?_) fun hmv => mand_cons (fun h => ?_) fun _ => hd
    all_goals simp only [Bool.and_eq_true, decide_eq_true_eq, Bool.not_eq_true', beq_eq_false_iff_ne] at h
    · exact mand_rpc hk .check (by decide) (hcheck (by rw [h.1.1]; decide)) (by simp [mandated, hk, codeMethodNotFound])
    · exact mand_rej .check (mem_streamable hk _ (by decide)) (hcheck h) (by simp [mandated, hk])
    · exact mand_rpc hk .statefulNew (by decide) ⟨m, hm, hr, hbinds h.1.1, h.1.2, by rw [specDiscover_eq]; exact h.2⟩
        (by simp [mandated, codeUnsupportedProtocolVersion])
    · exact mand_rpc hk .versionMissing (by decide) ⟨m, hm, hr, hbinds h.1, h.2⟩ (by simp [mandated, codeHeaderMismatch])
    · exact mand_rpc hk .metaMissing (by decide) ⟨m, hm, hr, hbinds h.1, h.2⟩ (by simp [mandated, codeInvalidParams])
    · simp only [h.1, Bool.true_and, decide_eq_false_iff_not] at hv hmv
      exact mand_rpc hk .versionDiffers (by decide) ⟨m, hm, hr, hbinds h.1, hv, hmv, h.2⟩
        (by simp [mandated, codeHeaderMismatch])

theorem mand_header {c : B64} {r : Req} (hk : r.kind ≠ .sse) (hne : MethodsNonEmpty r) (h : headerMismatch c r = true) :
    Mand c r (rejRpc 400 codeHeaderMismatch) := by
  unfold headerMismatch at h
  cases hs : soleMsg r with
  | none => simp [hs] at h
  | some m =>
    simp only [hs] at h
    obtain ⟨hskip, hr, hcase⟩ := validateMcpHeaders_ne_none (Option.isSome_iff_ne_none.mp h)
    have hnew := (newProto_iff_not_skipped r).mpr hskip
    have hmeth : r.mcpMethod ≠ m.method → Mand c r (rejRpc 400 codeHeaderMismatch) := fun h2 =>
      mand_rpc hk .mcpMethod (by decide) ⟨m, hs, hnew, hr, h2⟩ (by simp [mandated, codeHeaderMismatch])
    have hname : namedMethods.contains m.method = true → (m.nameOk = false ∨ r.mcpName = [] ∨ r.mcpName ≠ m.name) →
        Mand c r (rejRpc 400 codeHeaderMismatch) := fun hn h3 =>
      mand_rpc hk .mcpName (by decide) ⟨m, hs, hnew, hr, by rw [specNamed_eq]; exact List.contains_iff_mem.mp hn, h3⟩
        (by simp [mandated, codeHeaderMismatch])
    rcases hcase with h1 | h2 | ⟨hn, h3⟩ | ⟨hcall, q, ht, hbad, b, hb, hnm⟩
    · -- an empty `Mcp-Method` is not the method: a request has one
      exact hmeth fun e => hne m (by rw [soleMsg_mem hs]; exact List.mem_cons_self) hr (e ▸ h1)
    · exact hmeth h2
    · exact hname hn (h3.elim (fun a => Or.inr (Or.inl a)) (Or.imp_right Or.inr))
    · -- a call whose name does not decode violates the name mirror as well
      cases hok : m.nameOk with
      | false => exact hname (by rw [hcall]; decide) (Or.inl hok)
      | true =>
        refine mand_rpc hk .mcpParam (by decide)
          ⟨m, q, hs, hnew, hr, ht, by rw [specToolsCall_eq]; exact hcall, hok, ?_, b, hb, hnm⟩ (by simp [mandated, codeHeaderMismatch])
        cases ha : m.args with
        | bad => exact hbad ha
        | _ => trivial

theorem mand_flatMap {c : B64} {r : Req} {α : Type} (f : α → List (Bool × Outcome)) (l : List α)
    (hf : ∀ a ∈ l, ∀ d, Mand c r d → Mand c r (firstViolation (f a) d)) (d : Outcome) (hd : Mand c r d) :
    Mand c r (firstViolation (l.flatMap f) d) := by
  induction l with
  | nil => exact hd
  | cons a as ih =>
    rw [List.flatMap_cons, firstViolation_append]
    exact hf a List.mem_cons_self _ (ih fun a' ha' => hf a' (List.mem_cons_of_mem _ ha'))

theorem mand_postChecks {c : B64} {r : Req} (hk : r.kind ≠ .sse) (hne : MethodsNonEmpty r) (br : Bool) (d : Outcome)
    (hd : Mand c r d) : Mand c r (firstViolation (postChecks c (r.kind == .stateless) br r) d) := by
  unfold postChecks
  rw [firstViolation_append, firstViolation_append]
  refine mand_firstViolation _ _ ?_ (mand_flatMap _ _ (fun m hm => mand_msgChecks hk hm) _
    (mand_firstViolation _ _ ?_ hd))
  · simp only [List.forall_mem_cons, List.not_mem_nil, false_imp_iff, implies_true, and_true]
    refine ⟨fun h => ?_, fun h => ?_, fun h => ?_, fun h => ?_, fun h => ?_, fun h => ?_⟩
    · exact mand_rej .lastEventId (mem_streamable hk _ (by decide)) h (by simp [mandated])
    · simp only [Bool.and_eq_true] at h
      exact mand_rej .size (mem_streamable hk _ (by decide)) (violates_size h.2) (by simp [mandated])
    · simp only [Bool.and_eq_true] at h
      exact mand_rej .delivered (mem_streamable hk _ (by decide)) h.2 (by simp [mandated])
    · exact mand_rej .empty (mem_streamable hk _ (by decide)) (by simpa [Violates] using h) (by simp [mandated])
    · refine mand_rej .malformed (mem_streamable hk _ (by decide)) ?_ (by simp [mandated])
      simp only [contentMalformed] at h
      simp only [Violates]
      cases hcc : r.content <;> simp_all
    · refine mand_rej .batch (mem_streamable hk _ (by decide)) ?_ (by simp [mandated])
      simp only [batchGateRejects, Bool.and_eq_true] at h
      exact ⟨h.1, by rw [specPv_eq, spec20250618_eq]; exact h.2⟩
  · simp only [List.forall_mem_cons, List.not_mem_nil, false_imp_iff, implies_true, and_true]
    exact mand_header hk hne

/-- Whenever the model refuses a POST, some documented precondition of the handler is violated and mandates exactly that
status and JSON-RPC code. -/
theorem reject_mandated (c : B64) (r : Req) (hpost : r.method = .post) (hne : MethodsNonEmpty r) :
    Mand c r (verdict c r) := by
  rw [violation_status]
  have hd : Mand c r (pass r) := by unfold pass; rw [hpost]; cases r.kind <;> trivial
  -- the rows that several handlers share
  have hHost : hostGateRejects r = true → Mand c r (rej 403) := fun h => by
    unfold hostGateRejects at h
    simp only [Bool.and_eq_true, Bool.not_eq_true'] at h
    exact mand_rej .host (by cases r.kind <;> decide) ⟨h.1.1.1, h.1.1.2, h.1.2, h.2⟩ (by simp [mandated])
  have hMedia : decide (r.baseMedia ≠ appJson) = true → Mand c r (rej 415) := fun h =>
    mand_rej .media (by cases r.kind <;> decide) (by rw [Violates, specJson_eq]; exact of_decide_eq_true h) (by simp [mandated])
  have hDelivered : r.readFails = true → Mand c r (rej 400) := fun h =>
    mand_rej .delivered (by cases r.kind <;> decide) h (by simp [mandated])
  have hSession : r.kind ≠ .stateless → decide (r.sess = .unknown) = true → Mand c r (rej 404) := fun hk h =>
    mand_rej .session (by cases r.kind <;> decide) ⟨hk, of_decide_eq_true h⟩ (by simp [mandated])
  have hOrigin : r.kind ≠ .sse → r.originRejects = true → Mand c r (rej 403) := fun hk h =>
    mand_rej .origin (mem_streamable hk _ (by decide)) h (by simp [mandated])
  have hVersion : r.kind ≠ .sse → versionGateRejects r.version = true → Mand c r (rej 400) := fun hk h => by
    unfold versionGateRejects at h
    simp only [Bool.and_eq_true, bne_iff_ne, ne_eq, Bool.not_eq_true'] at h
    exact mand_rej .version (mem_streamable hk _ (by decide))
      ⟨h.1.1, by rw [specSupported_eq]; simpa using h.1.2, by rw [spec20260728_eq]; exact h.2⟩ (by simp [mandated])
  have hAccept : r.kind ≠ .sse → (!acceptsBoth r) = true → Mand c r (rej 400) := fun hk h =>
    mand_rej .accept (mem_streamable hk _ (by decide))
      (by rw [← violatesB_iff]; simp only [violatesB, specAccepts_eq]; exact h) (by simp [mandated])
  have hSize : r.kind ≠ .sse → tooLarge r = true → Mand c r (rej 413) := fun hk h =>
    mand_rej .size (mem_streamable hk _ (by decide)) (violates_size h) (by simp [mandated])
  unfold checks
  cases hkind : r.kind with
  | sse =>
    have hmem : ∀ p, p ∈ [Precond.sseNoSession, .sseOneMessage, .check] → p ∈ precondsOf r.kind := by
      intro p hp; rw [hkind]; revert p; decide
    have hk : r.kind ≠ .stateless := by rw [hkind]; decide
    simp only [hpost, List.cons_append, List.nil_append, decide_true, Bool.true_and]
    refine mand_cons hHost fun _ => mand_cons hMedia fun _ =>
      mand_cons (fun h => ?_) fun _ => mand_cons (hSession hk) fun _ =>
      mand_cons hDelivered fun _ => mand_cons (fun h => ?_) fun _ => mand_cons (fun h => ?_) fun _ => hd
    · exact mand_rej .sseNoSession (hmem _ (by decide)) (of_decide_eq_true h : r.sess = .none) (by simp [mandated])
    · exact mand_rej .sseOneMessage (hmem _ (by decide)) (by simpa [Violates] using h) (by simp [mandated])
    · refine mand_rej .check (hmem _ (by decide)) ?_ (by simp [mandated, hkind])
      cases hs : soleMsg r with
      | none => simp [hs] at h
      | some m =>
        simp only [hs, Bool.and_eq_true, decide_eq_true_eq] at h
        exact ⟨m, by rw [soleMsg_mem hs]; exact List.mem_cons_self, h.1, h.2⟩
  | stateless =>
    have hk : r.kind ≠ .sse := by rw [hkind]; decide
    have hpc := mand_postChecks (c := c) hk hne true _ hd
    rw [hkind] at hpc
    simp only [if_true, List.cons_append, List.nil_append]
    exact mand_cons hHost fun _ => mand_cons (hOrigin hk) fun _ => mand_cons (hVersion hk) fun _ =>
      mand_cons (fun h => absurd hpost (of_decide_eq_true h)) fun _ =>
      mand_cons hMedia fun _ => mand_cons (hAccept hk) fun _ =>
      mand_cons (hSize hk) fun _ => mand_cons hDelivered fun _ => hpc
  | stateful =>
    have hk : r.kind ≠ .sse := by rw [hkind]; decide
    have hpc := fun br => mand_postChecks (c := c) hk hne br _ hd
    rw [hkind] at hpc
    simp only [reduceCtorEq, if_false, hpost, List.cons_append, List.nil_append]
    refine mand_cons hHost fun _ => mand_cons (hOrigin hk) fun _ => mand_cons (hVersion hk) fun _ =>
      mand_cons hMedia fun _ => mand_cons (hAccept hk) fun _ =>
      mand_cons (hSession (by rw [hkind]; decide)) fun _ => ?_
    split
    · exact mand_cons (hSize hk) fun _ => mand_cons hDelivered fun _ => hpc true
    · exact hpc false

theorem post_not_served (c : B64) (r : Req) (hpost : r.method = .post) (st : Nat) : verdict c r ≠ .served st := by
  rw [violation_status]
  intro h
  have hd := (firstViolation_pass (checks_allReject c r) (fun _ _ _ => Outcome.noConfusion) h).2
  unfold pass at hd
  rw [hpost] at hd
  cases hk : r.kind <;> simp [hk] at hd

theorem dispatched_clean (c : B64) (r : Req) (hf : Framed r) {b : Bool} (hb : verdict c r = .dispatched b) :
    violations c r = [] := by
  rw [violations_nil_iff]
  by_cases hk : r.kind = .sse
  · exact sse_not_violates hk hb
  · exact pre_not_violates (dispatch_sound c r hk b hb) hk hf

/-- What the model allows the harness to see of request `r`: a refusal, or a served GET / DELETE, reaches nothing and carries
the model's status and code; a dispatched request bears the witness, and where its single request made one handler run, it
ran for the name the model decoded. -/
def Allows (c : B64) (r : Req) (o : HttpObs) : Prop :=
  match verdict c r with
  | .reject st code _ => o.status = st ∧ o.code = code ∧ o.reached = 0 ∧ o.handled = 0 ∧ o.disp = 0
  | .served _ => o.reached = 0 ∧ o.handled = 0 ∧ o.disp = 0
  | .dispatched _ => o.disp = 1 ∧ ∀ m, soleMsg r = some m → o.handled = 1 → m.isReq = true → o.names = [m.name]

theorem modelObs_dispatched (r : Req) (b : Bool) (ob : HttpObs) :
    (modelObs r (.dispatched b) ob).disp = 1 ∧ (modelObs r (.dispatched b) ob).handled = ob.handled ∧
    ∀ m, soleMsg r = some m → ob.handled = 1 → m.isReq = true → (modelObs r (.dispatched b) ob).names = [m.name] := by
  unfold modelObs
  cases b
  · exact ⟨rfl, rfl, fun m hs hh hr => by simp only [hs, hh, hr, beq_self_eq_true, Bool.and_self, if_true, Bool.not_false]⟩
  · simp only [Bool.not_true, Bool.false_eq_true, if_false]
    split <;> exact ⟨rfl, rfl, fun m hs hh hr => by simp only [hs, hh, hr, beq_self_eq_true, Bool.and_self, if_true]⟩

theorem modelObs_allows (c : B64) (r : Req) (ob : HttpObs) : Allows c r (modelObs r (verdict c r) ob) := by
  unfold Allows
  cases verdict c r with
  | reject st code allow => exact ⟨rfl, rfl, rfl, rfl, rfl⟩
  | served st => exact ⟨rfl, rfl, rfl⟩
  | dispatched b =>
    obtain ⟨h1, h2, h3⟩ := modelObs_dispatched r b ob
    exact ⟨h1, fun m hs hh => h3 m hs (h2 ▸ hh)⟩

theorem allows_property {c : B64} {r : Req} {o : HttpObs} (hf : Framed r) (hne : MethodsNonEmpty r) (h : Allows c r o) :
    P_untouched o ∧ P_dispatch_sound c r o ∧ P_violation_status c r o ∧ P_handler_name r o := by
  unfold Allows at h
  cases hv : verdict c r with
  | reject st code allow =>
    rw [hv] at h
    obtain ⟨rfl, rfl, h3, h4, h5⟩ := h
    have hd : o.disp ≠ 1 := by rw [h5]; decide
    refine ⟨fun _ => ⟨h3, h4⟩, fun e => absurd e hd, fun _ hpost => ?_, fun _ _ _ e => absurd e hd⟩
    have hm := reject_mandated c r hpost hne
    rwa [hv] at hm
  | served st =>
    rw [hv] at h
    obtain ⟨h3, h4, h5⟩ := h
    have hd : o.disp ≠ 1 := by rw [h5]; decide
    exact ⟨fun _ => ⟨h3, h4⟩, fun e => absurd e hd, fun _ hpost => absurd hv (post_not_served c r hpost st),
      fun _ _ _ e => absurd e hd⟩
  | dispatched b =>
    rw [hv] at h
    obtain ⟨h1, h2⟩ := h
    refine ⟨fun e => absurd h1 e, fun _ _ => (violations_nil_iff c r).mp (dispatched_clean c r hf hv), fun e => absurd h1 e, ?_⟩
    -- one handler ran for the single named request: it ran for `m.name`, which `Mcp-Name` equals
    intro hk m hs _ hh hr hnew hnamed
    obtain ⟨_, _, hname, _⟩ := (dispatch_sound c r hk b hv).mirror m hs hr ((not_skipped_iff _).mpr hnew)
    rw [h2 m hs hh hr, (hname (by rw [← specNamed_eq]; exact List.contains_iff_mem.mpr hnamed)).2.1]
    exact Or.inr rfl

theorem http_quiet_of_allows {c : B64} {r : Req} {ins : List MsgIn} {o : HttpObs} (hf : Framed r) (hne : MethodsNonEmpty r)
    (h : Allows c r o) : httpMonitorAll c r ins o = none :=
  quiet_of_sound (fun _ => sound_http) (allows_property hf hne h)

/-- The monitors of a whole request raise no clause on the observation the model allows (`modelObs`: the counters of the
implementation's observation `ob` are echoed). -/
theorem http_monitor_accepts_model (c : B64) (r : Req) (ins : List MsgIn) (ob : HttpObs)
    (hf : Framed r) (hne : MethodsNonEmpty r) :
    httpMonitorAll c r ins (modelObs r (verdict c r) ob) = none :=
  http_quiet_of_allows hf hne (modelObs_allows c r ob)

/-! ### non-vacuity, and why the two hypotheses are there -/

def wObs : HttpObs := { status := 200, code := none, allow := none, reached := 1, handled := 1, disp := 1, names := [wTool] }

theorem wReq_framed (k : HKind) : Framed (wReq k) := by
  intro _ d hd
  have : (wReq k).declared = some 100 := rfl
  rw [this] at hd
  cases hd; rfl

theorem wReq_methods (k : HKind) : MethodsNonEmpty (wReq k) := by
  intro m hm _
  have : reqMsgs (wReq k) = [wMsg] := rfl
  rw [this] at hm
  simp only [List.mem_singleton] at hm
  subst hm
  decide

/-- The hypotheses are satisfiable: a dispatched call (the model echoes the counters) and a refused one. -/
example : httpMonitorAll idCodec (wReq .stateless) [] (modelObs (wReq .stateless) (verdict idCodec (wReq .stateless)) wObs) = none :=
  http_monitor_accepts_model idCodec _ [] wObs (wReq_framed _) (wReq_methods _)
example : modelObs (wReq .stateless) (verdict idCodec (wReq .stateless)) wObs = wObs := by decide +kernel
example : modelObs (wReq .stateful) (verdict idCodec (wReq .stateful)) wObs =
    { status := 400, code := some (-32022), allow := none, reached := 0, handled := 0, disp := 0, names := [] } := by decide +kernel

/-- Without HTTP framing the monitor is stricter than the model: a body of 100 bytes delivered completely under a
declared length above the limit — which no HTTP peer can produce — is dispatched by the model (the code never looks at
the declared length: `body_limit_ignores_declared_length`) and named "body larger than the limit" by the monitor, whose
reading of the property counts a declared length above the limit as a violation.  Hence the hypothesis `Framed`. -/
def wUnframed : Req := { wReq .stateless with declared := some 5000000 }
example : ¬ Framed wUnframed := by
  intro h
  have := h rfl 5000000 rfl
  cases this
example : verdict idCodec wUnframed = .dispatched true ∧
    httpMonitor idCodec wUnframed (modelObs wUnframed (verdict idCodec wUnframed) wObs) = some (.dispatchSound .size) := by
  decide +kernel

/-- A "request" with an empty method (JSON-RPC decoding makes such a message a response) under 2026-07-28 with an empty
`Mcp-Method`: the code refuses the empty header, the monitor sees header = body.  Hence the hypothesis `MethodsNonEmpty`. -/
def wNoMethod : Req :=
  { wReq .stateless with mcpMethod := [], content := .msgs false [{ wMsg with method := [], tool := none }] }
example : verdict idCodec wNoMethod = rejRpc 400 codeHeaderMismatch ∧
    httpMonitor idCodec wNoMethod (modelObs wNoMethod (verdict idCodec wNoMethod) wObs) =
      some (.refusedClean 400 (some (-32020))) := by
  decide +kernel

/-! ## Two variants on which a monitor fires on the model's own observation

Why `modelObs` answers a served request with zero counters, and why the end-to-end monitor asks for valid annotations:
each `…Old` definition is the variant without that, and the example after it a record on which it raises a false alarm. -/

/-- `modelObs`, except that for a request served without carrying a message (GET stream attached, DELETE) the
implementation's counters are echoed. -/
def modelObsOld (r : Req) (o : Outcome) (ob : HttpObs) : HttpObs :=
  match o with
  | .served st => { status := st, code := none, allow := none, reached := ob.reached, handled := ob.handled, disp := 0, names := ob.names }
  | _ => modelObs r o ob

/-- Witness: a GET on a known session of the stateful handler is served 200; if the implementation reports that a
middleware saw a message, `modelObsOld` agrees (echo) and the monitor fires "refused request reached a middleware" — a
clause raised on an observation that model allows.  The clause is right (nothing is handed over by a request that carries
no message): in `modelObs` a served request reaches nothing. -/
def wGet : Req := { wReq .stateful with method := .get, sess := .known }
example : verdict idCodec wGet = .served 200 ∧
    httpMonitor idCodec wGet (modelObsOld wGet (verdict idCodec wGet) { wObs with disp := 0 }) = some (.reached 200) ∧
    httpMonitor idCodec wGet (modelObs wGet (verdict idCodec wGet) { wObs with disp := 0 }) = none := by
  decide +kernel

/-- `e2eMonitor`, except that validity of the call does not include validity of the tool's annotations. -/
def e2eMonitorOld (c : B64) (nameOk : Bool) (p : Props) (a : Args) (impl : E2eObs) : Option Clause :=
  let valid := nameOk && argsValidB p a
  if valid && impl != .okSame then
    (if f6Like c p a (generateParamHeaders c p a) then some .e2eF6 else some .e2eAgree)
  else if impl == .notOk false then some .e2eReached
  else none

/-- Witness: two properties annotated with header names that differ only in case (`X` / `x`; the SDK's
`validateParamHeaderAnnotations` rejects such a tool) and the arguments `{"a":"1","b":"2"}`.  The client's second `Set`
overwrites the first, the server finds `1 ≠ 2`: the model refuses, and `e2eMonitorOld` reports `client_server_agree` on
the model's own observation.  The property speaks of tools "with valid x-mcp-header annotations": `e2eMonitor` asks for
`toolValidB`, the clause is the same. -/
def wDupProps : Props := .cons [97] wString (.str [88]) .nil (.cons [98] wString (.str [120]) .nil .nil)
def wDupArgs : Args := .obj [([97], .str [49]), ([98], .str [50])]
example : validateAnnotations wDupProps = false ∧ e2eModel idCodec true wDupProps wDupArgs = .notOk true ∧
    e2eMonitorOld idCodec true wDupProps wDupArgs (e2eModel idCodec true wDupProps wDupArgs) = some .e2eAgree ∧
    e2eMonitor idCodec true wDupProps wDupArgs (e2eModel idCodec true wDupProps wDupArgs) = none := by
  decide +kernel

/-! ## the unsupported-version clause (shared with C06) -/

theorem unsupportedNew_post {r : Req} (h : unsupportedNew r = true) : r.method = .post := by
  unfold unsupportedNew at h
  simp only [Bool.and_eq_true, beq_iff_eq] at h
  exact h.1.1

theorem modelObsV_allows (c : B64) (r : Req) (ob : HttpObs) : Allows c r (modelObsV r (verdict c r) ob) := by
  have h := modelObs_allows c r ob
  unfold Allows at h ⊢
  unfold modelObsV
  cases hv : verdict c r with
  | dispatched b =>
    simp only [hv] at h ⊢
    split
    · exact ⟨rfl, fun _ _ hh => nomatch hh⟩
    · exact h
  | _ => simpa only [hv] using h

/-- The model dispatches such a request: a refusal would be mandated by a violated precondition, and there is none. -/
theorem modelObsV_answered (c : B64) (r : Req) (ob : HttpObs) (hne : MethodsNonEmpty r) :
    P_unsupportedAnswered c r (modelObsV r (verdict c r) ob) := by
  intro hu hv
  have hpost := unsupportedNew_post hu
  cases hver : verdict c r with
  | dispatched b =>
    simp only [modelObsV, hu, if_true]
    by_cases hcont : uvAllowed.contains (ob.status, ob.code) = true
    · simp only [hcont, if_true]
      exact ⟨List.contains_iff_mem.mp hcont, trivial⟩
    · simp only [hcont, Bool.false_eq_true, if_false]
      exact ⟨by decide, trivial⟩
  | reject st code allow =>
    have hm := reject_mandated c r hpost hne
    rw [hver] at hm
    obtain ⟨p, hp, hvio, _⟩ := hm
    have hmem := (mem_violations c r p _).mpr ⟨hp, hvio, rfl⟩
    rw [hv] at hmem
    cases hmem
  | served st => exact absurd hver (post_not_served c r hpost st)

theorem uvMonitor_accepts_model (c : B64) (r : Req) (ob : HttpObs) (hf : Framed r) (hne : MethodsNonEmpty r) :
    uvMonitor c r (modelObsV r (verdict c r) ob) = none :=
  quiet_of_sound (fun _ h => (sound_uv h).2) (modelObsV_answered c r ob hne)

/-- All monitors of a whole request, the unsupported-version clause included, on the model's exact observation `modelObsV`. -/
theorem http_monitorV_accepts_model (c : B64) (r : Req) (ins : List MsgIn) (ob : HttpObs)
    (hf : Framed r) (hne : MethodsNonEmpty r) :
    httpMonitorAllV c r ins (modelObsV r (verdict c r) ob) = none := by
  unfold httpMonitorAllV
  rw [uvMonitor_accepts_model c r ob hf hne]
  exact http_quiet_of_allows hf hne (modelObsV_allows c r ob)

/-! ## seq: one session over time (induction over operation sequences)

Unlike the other kinds the `seq` records of a case depend on each other: the monitor carries a state (`SeqMon`), the model
the client's cache.  The invariant relating the two is `SeqInv` (SeqProps.lean): pages received
since the table last changed (`cur`) are what the server would answer now, and for every name the observer has seen the
server give the client since then, the first cached page that names it is such a page (`FirstCur`).

A `call` record, end to end: on the model `SeqInv.lookup` → `callWith_own_def` → `client_server_agree_over_time`
(SeqProps.lean); on the monitor `seq_call_clause` → `sound_badCall` / `sound_seq_call` (Sound.lean); here `badCall_model`
and the `call` arm of `seq_step_no_clause`. -/

theorem badListed_clientPage {w : World} {m : SeqMon} (h : SeqInv w m) (hit : Bool) (k : Bytes) :
    badListed m hit (clientPage w k).1 = none := by
  unfold badListed
  split
  · rename_i hcnd
    simp only [Bool.and_eq_true, List.any_eq_true] at hcnd
    obtain ⟨_, t, ht, hb⟩ := hcnd
    rw [h.bad, clientPage_filtered w k t ht] at hb
    cases hb
  · rfl

theorem list_fetched_no_clause (c : B64) {w : World} {m : SeqMon} (h : SeqInv w m) (k next : Bytes) :
    (seqMonStep c m (.list k) (.listed false (clientPage w k).1 next)).2 = none := by
  simp only [seqMonStep]
  split
  · exact badListed_clientPage h false k
  · rw [badListed_clientPage h false k]
    simp [Option.orElse, staleHit]

theorem list_hit_no_clause (c : B64) {w : World} {m : SeqMon} (h : SeqInv w m) {k : Bytes} {pg : Page}
    (hf : w.cache.find? (fun pg => pg.key == k) = some pg) :
    (seqMonStep c m (.list k) (.listed true pg.tools pg.next)).2 = none := by
  simp only [seqMonStep, Bool.not_true, Bool.and_false, Bool.false_eq_true, if_false]
  have : badListed m true pg.tools = none := by simp [badListed]
  rw [this]
  simp only [Option.orElse]
  exact staleHit_cached h hf true

/-- On the model, a tool listed with invalid annotations raises neither `seqBadMirror` nor `seqBadCall`. -/
theorem badCall_model (c : B64) (hc : c.Lawful) {w : World} {m : SeqMon} (h : SeqInv w m) (n : Bytes) (a : Args) :
    badCall c m n a (callModel c w n a).1 (callModel c w n a).2 = none := by
  unfold badCall
  split
  · rename_i hcnd
    simp only [Bool.and_eq_true] at hcnd
    obtain ⟨⟨hp, hf⟩, hb⟩ := hcnd
    rw [h.bad] at hb
    rw [h.proto] at hp
    have hl := lookup_bad_none h hf hb
    have hcm : callModel c w n a = callWith c w none n a := by unfold callModel; rw [hl]
    rw [hcm, h.server]
    cases hs : toolDef w.server n with
    | none => simp [callWith, hp, hs]
    | some ps =>
      simp only [callWith_none_hdrs c w n a, List.isEmpty_nil, Bool.not_true, Bool.false_eq_true, if_false]
      split
      · rename_i hc2
        exfalso
        simp only [Bool.and_eq_true, List.isEmpty_iff, bne_iff_ne, ne_eq] at hc2
        obtain ⟨⟨⟨htv, hav⟩, hg⟩, hne⟩ := hc2
        apply hne
        have hacc := generated_params_accepted_prim c hc ps a ((toolValidB_iff ps).mp htv).2
          (argsValidDoc_prim ((argsValidB_iff ps a).mp hav))
        rw [hg] at hacc
        simp [callWith, hp, hs, hacc]
      · rfl
  · rfl

theorem reached_quiet {out : CallOut} (h : out = .okSame ∨ ∃ code, out = .notOk code true) :
    (match out with | .notOk _ false => some Clause.e2eReached | _ => none) = none := by
  rcases h with rfl | ⟨code, rfl⟩ <;> rfl

theorem seq_step_no_clause (c : B64) (hc : c.Lawful) {w : World} {m : SeqMon} (h : SeqInv w m) (now : Nat) (op : SeqOp) :
    (seqMonStep c m op (stepW c w now op).2).2 = none := by
  cases op with
  | setTool n p => rfl
  | delTool n => rfl
  | ttl v => rfl
  | adv => rfl
  | notified => rfl
  | setBad n => rfl
  | clearBad n => rfl
  | list k =>
    simp only [stepW]
    split
    · exact list_fetched_no_clause c h k _
    · split
      · rename_i pg hf
        split
        · exact list_hit_no_clause c h hf
        · exact list_fetched_no_clause c h k _
      · exact list_fetched_no_clause c h k _
  | listSend k =>
    have hsent : (seqMonStep c m (.listSend k) (sendList w k).2).2 = none := by
      simp only [sendList, seqMonStep]
    simp only [stepW]
    cases hw : w.pend with
    | some q => rfl
    | none =>
      simp only []
      split
      · exact hsent
      · split
        · rename_i pg hf
          split
          · simp only [seqMonStep]
            exact staleHit_cached h hf true
          · exact hsent
        · exact hsent
  | listRecv =>
    simp only [stepW]
    cases hw : w.pend with
    | none => rfl
    | some p =>
      have hmpend : m.pend = some (!p.cur, p.gen != w.gen) := by rw [h.pendEq, hw]; rfl
      simp only [recvList, seqMonStep, hmpend]
      cases hcur : p.cur with
      | false => rfl
      | true =>
        simp only [Bool.not_true]
        rw [h.pendCur p hw hcur]
        exact badListed_clientPage h false p.key
  | look n =>
    simp only [stepW, seqMonStep]
    split
    · rename_i hcnd
      simp only [Bool.and_eq_true, List.contains_iff_mem] at hcnd
      obtain ⟨d, hd, hsd⟩ := h.lookup hcnd.2
      rw [h.server, hsd, hd]
      simp
    · rfl
  | call n a =>
    simp only [stepW, seqMonStep]
    rw [badCall_model c hc h n a]
    simp only [Option.orElse]
    unfold callClause
    rw [h.server, h.proto]
    have hq := reached_quiet (callWith_quiet c w (clientLookup w n) n a)
    cases hs : toolDef w.server n with
    | none => exact hq
    | some ps =>
      cases hp : w.newProto with
      | false => rw [legacy_call_accepted c w hp hs a]; rfl
      | true =>
        simp only [if_true]
        by_cases hcnd : (m.listed.contains n && toolValidB ps && argsValidB ps a) = true
        · rw [if_pos hcnd]
          rw [Bool.and_eq_true, Bool.and_eq_true, List.contains_iff_mem, toolValidB_iff, argsValidB_iff] at hcnd
          obtain ⟨d, hd, hsd⟩ := h.lookup hcnd.1.1
          rw [hs] at hsd
          cases hsd
          have hcall : callModel c w n a = (generateParamHeaders c ps a, .okSame) := by
            unfold callModel
            rw [hd]
            exact callWith_own_def c hc w hp hs a hcnd.1.2.2 (argsValidDoc_prim hcnd.2)
          rw [hcall]
          simp only [bne_self_eq_false, Bool.false_eq_true, if_false,
            gen_monitor_accepts_model c hc ps a _ (List.Perm.refl _)]
        · rw [if_neg hcnd]; exact hq
  | setToolB n p => rfl
  | delToolB n => rfl
  | callB n a =>
    simp only [stepW, seqMonStep]
    rw [h.serverB, h.proto]
    have hq : (match (callModelB c w n a).2 with | .notOk _ false => some Clause.e2eReached | _ => none) = none :=
      reached_quiet (callWith_quiet c { w with server := w.serverB } (toolDef w.serverB n) n a)
    cases hs : toolDef w.serverB n with
    | none => exact hq
    | some ps =>
      cases hp : w.newProto with
      | false =>
        have : callModelB c w n a = ([], .okSame) := by
          unfold callModelB callWith
          simp only [hp, hs, Bool.false_eq_true, if_false]
        rw [this]; rfl
      | true =>
        simp only [if_true]
        by_cases hcnd : (toolValidB ps && argsValidB ps a) = true
        · rw [if_pos hcnd]
          rw [Bool.and_eq_true, toolValidB_iff, argsValidB_iff] at hcnd
          rw [other_server_call_agrees c hc w hp hs a hcnd.1.2 (argsValidDoc_prim hcnd.2)]
          simp only [bne_self_eq_false, Bool.false_eq_true, if_false,
            gen_monitor_accepts_model c hc ps a _ (List.Perm.refl _)]
        · rw [if_neg hcnd]; exact hq

/-- The monitor, run in lockstep on the model's observations, raises no clause. -/
theorem seq_run_no_clause (c : B64) (hc : c.Lawful) (ops : List (Nat × SeqOp)) :
    ∀ {w : World} {m : SeqMon}, SeqInv w m → (runSeq c w m ops).2.2 = [] := by
  induction ops with
  | nil => intro w m _; rfl
  | cons x rest ih =>
    intro w m h
    obtain ⟨now, op⟩ := x
    simp only [runSeq, seq_step_no_clause c hc h now op, List.nil_append]
    exact ih (seqInv_step c h now op)

theorem seq_monitor_accepts_model (c : B64) (hc : c.Lawful) (cfg : SeqCfg) (ops : List (Nat × SeqOp)) :
    (runSeq c (World.init cfg) (SeqMon.init cfg) ops).2.2 = [] :=
  seq_run_no_clause c hc ops (seqInv_init cfg)

end Preflight
