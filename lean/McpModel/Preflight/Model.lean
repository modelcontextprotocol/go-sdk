import McpModel.Preflight.Bytes
import McpModel.Generated.PreflightGen
/-!
# E8 Preflight — executable model of the HTTP precondition gates and of the header mirror (C12)

Transliteration of
* `mcp/streamable.go`: `StreamableHTTPHandler.ServeHTTP`, `serveStateless`, `serveStateful{,GET,POST,DELETE}`,
  `streamableAccepts`, `streamableServerConn.servePOST` (up to the enqueue), the client's header calls in
  `streamableClientConn.Write`;
* `mcp/streamable_headers.go` (all of it);
* `mcp/sse.go`: `SSEHandler.ServeHTTP`, `SSEServerTransport.ServeHTTP`.

Strings are byte lists (`Bytes`).  Opaque library results enter as inputs of the abstract request:
`util.IsLoopback` of the listener address and of `Host`, `CrossOriginProtection.Check`, the base media
type returned by `mime.ParseMediaType`, the result of `checkRequest`, whether the non-identifying members of `params`
decode (second result of `extractName`), and `base64.StdEncoding` (a pair `enc`/`dec`; the theorems assume only `dec (enc s) = some s`).
`params` itself is NOT an opaque input: §E′ decodes the member list of the JSON text (exact member names, repeated
members) into the name, the arguments and the `_meta` version the gates compare the headers with.
Core Lean only: linked into `drv_preflight`.  All functions are total.
-/
namespace Preflight
open Generated.Preflight

/-! ## A. `streamableAccepts` -/

/-- `strings.Split(s, sep)` for a one-byte separator. -/
def splitOn (sep : Nat) : Bytes → List Bytes
  | [] => [[]]
  | c :: cs =>
    if c = sep then [] :: splitOn sep cs
    else match splitOn sep cs with
      | [] => [[c]]
      | h :: t => (c :: h) :: t

def isCont (b : Nat) : Bool := 0x80 ≤ b && b ≤ 0xBF

/-- `utf8.DecodeRune`: the first rune of a non-empty byte string and its width; an invalid byte yields U+FFFD, width 1. -/
def decode1 (s : Bytes) : Nat × Nat :=
  match s with
  | [] => (0xFFFD, 1)
  | b0 :: rest =>
    if b0 < 0x80 then (b0, 1)
    else if 0xC2 ≤ b0 && b0 ≤ 0xDF then
      match rest with
      | b1 :: _ => if isCont b1 then ((b0 - 0xC0) * 64 + (b1 - 0x80), 2) else (0xFFFD, 1)
      | _ => (0xFFFD, 1)
    else if 0xE0 ≤ b0 && b0 ≤ 0xEF then
      let lo := if b0 = 0xE0 then 0xA0 else 0x80
      let hi := if b0 = 0xED then 0x9F else 0xBF
      match rest with
      | b1 :: b2 :: _ =>
        if lo ≤ b1 && b1 ≤ hi && isCont b2 then ((b0 - 0xE0) * 4096 + (b1 - 0x80) * 64 + (b2 - 0x80), 3)
        else (0xFFFD, 1)
      | _ => (0xFFFD, 1)
    else if 0xF0 ≤ b0 && b0 ≤ 0xF4 then
      let lo := if b0 = 0xF0 then 0x90 else 0x80
      let hi := if b0 = 0xF4 then 0x8F else 0xBF
      match rest with
      | b1 :: b2 :: b3 :: _ =>
        if lo ≤ b1 && b1 ≤ hi && isCont b2 && isCont b3 then
          ((b0 - 0xF0) * 262144 + (b1 - 0x80) * 4096 + (b2 - 0x80) * 64 + (b3 - 0x80), 4)
        else (0xFFFD, 1)
      | _ => (0xFFFD, 1)
    else (0xFFFD, 1)

def decodeRunesF : Nat → Bytes → List Nat
  | 0, _ => []
  | _, [] => []
  | fuel + 1, s => (decode1 s).1 :: decodeRunesF fuel (s.drop (decode1 s).2)

/-- Go's UTF-8 decoding as done by `range`/`strings.Map`/`TrimSpace`: a byte string to code points, every invalid
byte yielding U+FFFD (and consuming one byte).  Fuel = length suffices (each step consumes ≥ 1 byte). -/
def decodeRunes (s : Bytes) : List Nat := decodeRunesF s.length s

/-- `unicode.IsSpace`. -/
def isSpaceRune (r : Nat) : Bool :=
  r = 0x20 || (0x09 ≤ r && r ≤ 0x0D) || r = 0x85 || r = 0xA0 || r = 0x1680 || (0x2000 ≤ r && r ≤ 0x200A) ||
  r = 0x2028 || r = 0x2029 || r = 0x202F || r = 0x205F || r = 0x3000

def trimLeft (l : List Nat) : List Nat := l.dropWhile isSpaceRune
/-- `strings.TrimSpace` on code points. -/
def trimSpace (l : List Nat) : List Nat := (trimLeft (trimLeft l).reverse).reverse

/-- `unicode.ToLower`, as far as the result can be an ASCII letter: `A`–`Z`, U+0130 (İ ↦ i), U+212A (K ↦ k).
Other runes are only ever compared with the ASCII table entries, so their image is irrelevant as long as
it is not ASCII; they are left unchanged. -/
def toLowerRune (r : Nat) : Nat :=
  if 65 ≤ r && r ≤ 90 then r + 32 else if r = 0x130 then 105 else if r = 0x212A then 107 else r

/-- `strings.ToLower(strings.TrimSpace(base))` for `token := TrimSpace(raw); base, _, _ := Cut(token, ";")`. -/
def normToken (raw : Bytes) : List Nat :=
  let token := trimSpace (decodeRunes raw)
  let base := token.takeWhile (· ≠ 0x3B)
  (trimSpace base).map toLowerRune

/-- The `switch`: flags of a normalised token, by the regenerated table (no match: neither flag). -/
def acceptFlags (tab : List (List Nat × Bool × Bool)) (tok : List Nat) : Bool × Bool :=
  match tab.find? (fun e => e.1 == tok) with
  | some e => e.2
  | none => (false, false)

def orPair (a b : Bool × Bool) : Bool × Bool := (a.1 || b.1, a.2 || b.2)

def acceptTokens (values : List Bytes) : List (List Nat) :=
  values.flatMap (fun v => (splitOn 0x2C v).map normToken)

/-- `streamableAccepts(values) (jsonOK, streamOK)` — the two nested loops. -/
def streamableAcceptsWith (tab : List (List Nat × Bool × Bool)) (values : List Bytes) : Bool × Bool :=
  values.foldl (fun acc value =>
    (splitOn 0x2C value).foldl (fun acc raw => orPair acc (acceptFlags tab (normToken raw))) acc) (false, false)

def streamableAccepts (values : List Bytes) : Bool × Bool := streamableAcceptsWith acceptTable values

/-! ## B. Header value codec -/

/-- `base64.StdEncoding` as an abstract pair; the theorems assume `∀ s, dec (enc s) = some s`. -/
structure B64 where
  enc : Bytes → Bytes
  dec : Bytes → Option Bytes

def B64.Lawful (c : B64) : Prop := ∀ s, c.dec (c.enc s) = some s

/-- The three Go values `unmarshalPrimitive` can return (besides nil). -/
inductive Prim where
  | str (s : Bytes)
  | bool (b : Bool)
  | int (n : Int)
  deriving DecidableEq, Repr

def natToDec (n : Nat) : Bytes :=
  if n < 10 then [48 + n] else natToDec (n / 10) ++ [48 + n % 10]
termination_by n
decreasing_by omega

/-- `strconv.FormatInt(v, 10)`. -/
def intToDec (n : Int) : Bytes :=
  if n < 0 then 45 :: natToDec n.natAbs else natToDec n.natAbs

def bTrue : Bytes := [116, 114, 117, 101]
def bFalse : Bytes := [102, 97, 108, 115, 101]

/-- `primitiveToString`. -/
def primToString : Prim → Bytes
  | .str s => s
  | .bool b => if b then bTrue else bFalse
  | .int n => intToDec n

def isBlank (c : Nat) : Bool := c = 32 || c = 9

/-- `requiresBase64Encoding`. (`for _, c := range s { c < 0x20 || c > 0x7E }` on runes holds for some rune
iff it holds for some byte: every non-ASCII or invalid sequence has a byte ≥ 0x80.) -/
def requiresBase64 (s : Bytes) : Bool :=
  match s with
  | [] => false
  | c :: _ =>
    isBlank c || (match s.getLast? with | some d => isBlank d | none => false) ||
    s.any (fun c => c < 0x20 || c > 0x7E) ||
    (base64Prefix.isPrefixOf s && base64Suffix.isSuffixOf s)

def encodeBase64 (c : B64) (s : Bytes) : Bytes := base64Prefix ++ c.enc s ++ base64Suffix

/-- `encodeHeaderValue` (the value is always one of the three primitive kinds here). -/
def encodeHeaderValue (c : B64) (v : Prim) : Bytes :=
  let s := primToString v
  if requiresBase64 s then encodeBase64 c s else s

/-- `strings.CutPrefix`. -/
def cutPrefix (p : Bytes) (s : Bytes) : Option Bytes :=
  if p.isPrefixOf s then some (s.drop p.length) else none
/-- `strings.CutSuffix`. -/
def cutSuffix (p : Bytes) (s : Bytes) : Option Bytes :=
  if p.isSuffixOf s then some (s.take (s.length - p.length)) else none

/-- `decodeHeaderValue`: `none` = "not a valid Base64 encoded value". -/
def decodeHeaderValue (c : B64) (h : Bytes) : Option Bytes :=
  if h = [] then some h
  else match cutPrefix base64Prefix h with
    | some rest =>
      match cutSuffix base64Suffix rest with
      | some e => c.dec e
      | none => some h
    | none => some h

/-! ## C. Numbers: JSON number → float64 → int64, and `strconv.ParseFloat` of a header -/

/-- A number text `±mant·10^exp10` (JSON number literal, parsed by the driver). -/
structure NumLit where
  neg : Bool
  mant : Nat
  exp10 : Int
  deriving DecidableEq, Repr

def pow2_53 : Nat := 9007199254740992

/-- Round the positive rational `num/den` to the nearest float64 (ties to even), exactly.
`none` = overflow (±Inf, `ErrRange`); otherwise the value as a fraction whose denominator is a power of two. -/
def roundF64 (num den : Nat) : Option (Nat × Nat) :=
  if num = 0 || den = 0 then some (0, 1) else
  let k0 : Int := 52 - ((Nat.log2 num : Int) - (Nat.log2 den : Int))
  -- scale so that a/b = (num/den)·2^k
  let scale (k : Int) : Nat × Nat := if k ≥ 0 then (num * 2 ^ k.toNat, den) else (num, den * 2 ^ (-k).toNat)
  let k1 : Int := let (a, b) := scale k0; if a / b < 2 ^ 52 then k0 + 1 else k0
  let k : Int := if k1 > 1074 then 1074 else k1
  let (a, b) := scale k
  let q := a / b
  let r := a % b
  let q := if 2 * r > b || (2 * r = b && q % 2 = 1) then q + 1 else q
  if k ≥ 0 then some (q, 2 ^ k.toNat)
  else
    let v := q * 2 ^ (-k).toNat
    if v ≥ 2 ^ 1024 then none else some (v, 1)

def numDigits (n : Nat) : Nat := (natToDec n).length

/-- float64 nearest to `mant·10^e` (sign handled by the caller).  Integers below 2^53 are exact; huge and tiny
exponents are decided without computing the power. -/
def f64OfDec (mant : Nat) (e : Int) : Option (Nat × Nat) :=
  if mant = 0 then some (0, 1)
  else if e > 400 then none
  else if e + (numDigits mant : Int) < -400 then some (0, 1)
  else if e ≥ 0 then
    let n := mant * 10 ^ e.toNat
    if n < pow2_53 then some (n, 1) else roundF64 n 1
  else
    let d := 10 ^ (-e).toNat
    if mant % d = 0 && mant / d < pow2_53 then some (mant / d, 1) else roundF64 mant d

/-- float64 nearest to `mant·2^e` (hexadecimal floats). -/
def f64OfBin (mant : Nat) (e : Int) : Option (Nat × Nat) :=
  if mant = 0 then some (0, 1)
  else if e > 1100 then none
  else if e + (Nat.log2 mant : Int) < -1200 then some (0, 1)
  else if e ≥ 0 then roundF64 (mant * 2 ^ e.toNat) 1
  else roundF64 mant (2 ^ (-e).toNat)

/-- What the code does with a finite float64 `v = ±num/den`:
`v != math.Trunc(v)` ⇒ reject; `v < minSafeInteger || v > maxSafeInteger` ⇒ reject; else `int64(v)`. -/
def safeIntOfF64 (neg : Bool) (v : Nat × Nat) : Option Int :=
  if v.2 = 0 || v.1 % v.2 ≠ 0 then none
  else
    let n : Int := if neg then -((v.1 / v.2 : Nat) : Int) else ((v.1 / v.2 : Nat) : Int)
    if n < minSafeInteger || n > maxSafeInteger then none else some n

/-- JSON values as the Go code sees them after `Unmarshal`; arrays are opaque (never primitive, never an object). -/
inductive JV where
  | null
  | bool (b : Bool)
  | num (l : NumLit)
  | str (s : Bytes)
  | arr
  | obj (fields : List (Bytes × JV))

/-- `unmarshalPrimitive(raw)`: `none` = Go `nil`. -/
def unmarshalPrimitive : JV → Option Prim
  | .str s => some (.str s)
  | .bool b => some (.bool b)
  | .num l =>
    match f64OfDec l.mant l.exp10 with
    | none => none            -- out of float64 range: `Unmarshal` fails
    | some v => (safeIntOfF64 l.neg v).map Prim.int
  | _ => none

/-! ### `strconv.ParseFloat(s, 64)` -/

def isDigit (c : Nat) : Bool := 48 ≤ c && c ≤ 57
def lowerB (c : Nat) : Nat := if 65 ≤ c && c ≤ 90 then c + 32 else c
def isHexLetter (c : Nat) : Bool := 97 ≤ lowerB c && lowerB c ≤ 102
def hexVal (c : Nat) : Nat := if isDigit c then c - 48 else lowerB c - 87

/-- `underscoreOK`, after the optional sign: state `'^'`=0 start, `'0'`=1 digit, `'_'`=2, `'!'`=3 other. -/
def underscoreOKGo (hex : Bool) : Bytes → Nat → Bool
  | [], st => st != 2
  | c :: cs, st =>
    if isDigit c || (hex && isHexLetter c) then underscoreOKGo hex cs 1
    else if c = 95 then (if st != 1 then false else underscoreOKGo hex cs 2)
    else if st = 2 then false
    else underscoreOKGo hex cs 3

def underscoreOK (s : Bytes) : Bool :=
  let s := match s with | 43 :: r => r | 45 :: r => r | _ => s
  match s with
  | 48 :: x :: r =>
    if lowerB x = 98 || lowerB x = 111 || lowerB x = 120 then underscoreOKGo (lowerB x = 120) r 1
    else underscoreOKGo false s 0
  | _ => underscoreOKGo false s 0

/-- Mantissa scan of `readFloat`: returns (mantissa, digits after the point, saw digits, saw dot, saw `_`, rest). -/
def scanMant (hex : Bool) : Bytes → Nat → Nat → Bool → Bool → Bool → Nat × Nat × Bool × Bool × Bool × Bytes
  | [], m, fr, sd, dot, us => (m, fr, sd, dot, us, [])
  | c :: cs, m, fr, sd, dot, us =>
    if c = 95 then scanMant hex cs m fr sd dot true
    else if c = 46 then (if dot then (m, fr, sd, dot, us, c :: cs) else scanMant hex cs m fr sd true us)
    else if isDigit c || (hex && isHexLetter c) then
      scanMant hex cs (m * (if hex then 16 else 10) + hexVal c) (if dot then fr + 1 else fr) true dot us
    else (m, fr, sd, dot, us, c :: cs)

/-- Exponent digits (with `_`): value (capped like Go: stops growing past 10000), saw `_`, rest. -/
def scanExp : Bytes → Nat → Bool → Nat × Bool × Bytes
  | [], e, us => (e, us, [])
  | c :: cs, e, us =>
    if c = 95 then scanExp cs e true
    else if isDigit c then scanExp cs (if e < 10000 then e * 10 + (c - 48) else e) us
    else (e, us, c :: cs)

/-- `strconv.ParseFloat(s, 64)` restricted to finite results: `none` = syntax error, ±Inf, NaN or out of range;
`some (neg, num, den)` = the float64 `±num/den`.  (`inf`/`infinity`/`nan` are never numbers to the callers.) -/
def parseFloatGeneral (s : Bytes) : Option (Bool × Nat × Nat) :=
  let (neg, s1) := match s with | 43 :: r => (false, r) | 45 :: r => (true, r) | _ => (false, s)
  let (hex, s2) := match s1 with
    | 48 :: x :: r => if lowerB x = 120 then (true, r) else (false, s1)
    | _ => (false, s1)
  let (m, fr, sd, _dot, us, rest) := scanMant hex s2 0 0 false false false
  if !sd then none else
  let expChar := if hex then 112 else 101
  let fin (e : Int) (us : Bool) (rest : Bytes) : Option (Bool × Nat × Nat) :=
    if rest != [] then none
    else if us && !underscoreOK s then none
    else
      let v := if hex then f64OfBin m (e - 4 * (fr : Int)) else f64OfDec m (e - (fr : Int))
      v.map (fun v => (neg, v.1, v.2))
  match rest with
  | c :: r =>
    if lowerB c = expChar then
      let (esign, r1) : Int × Bytes := match r with | 43 :: t => (1, t) | 45 :: t => (-1, t) | _ => (1, r)
      match r1 with
      | d :: _ =>
        if !isDigit d then none else
        let (e, us2, rest2) := scanExp r1 0 us
        fin (esign * (e : Int)) us2 rest2
      | [] => none
    else if hex then none else fin 0 us rest
  | [] => if hex then none else fin 0 us rest

def digitsVal : Bytes → Nat → Option Nat
  | [], acc => some acc
  | c :: cs, acc => if isDigit c then digitsVal cs (acc * 10 + (c - 48)) else none

/-- A plain decimal integer `-?[0-9]+`. -/
def decInt? (s : Bytes) : Option (Bool × Nat) :=
  match s with
  | [] => none
  | 45 :: rest => if rest = [] then none else (digitsVal rest 0).map (fun n => (true, n))
  | _ => (digitsVal s 0).map (fun n => (false, n))

/-- `ParseFloat`: plain decimal integers are read directly (exact below 2^53); everything else goes through
the general scanner.  On plain integers the two coincide (checked by the driver on every evaluation). -/
def parseFloat (s : Bytes) : Option (Bool × Nat × Nat) :=
  match decInt? s with
  | some (neg, n) => if n < pow2_53 then some (neg, n, 1) else (roundF64 n 1).map (fun v => (neg, v.1, v.2))
  | none => parseFloatGeneral s

/-- `primitiveEqual(headerStr, bodyVal)`. -/
def primitiveEqual (h : Bytes) : Prim → Bool
  | .int n =>
    match parseFloat h with
    | none => false
    | some (neg, num, den) =>
      match safeIntOfF64 neg (num, den) with
      | none => false
      | some m => m == n
  | v => h == primToString v

/-! ## D. Schemas and `x-mcp-header` annotations -/

/-- The raw `x-mcp-header` member of a property. -/
inductive XH where
  | absent
  | null
  | str (s : Bytes)
  | other               -- any JSON value that is neither null nor a string
  deriving DecidableEq, Repr

/-- `map[string]headerSchemaProperty`, first-child / next-sibling encoded:
`cons name type xh children rest`. -/
inductive Props where
  | nil
  | cons (name : Bytes) (ty : Bytes) (xh : XH) (children : Props) (rest : Props)
  deriving DecidableEq

structure Ann where
  path : List Bytes
  ty : Bytes
  xh : XH
  deriving DecidableEq, Repr

/-- Every property that carries an `x-mcp-header` member, at any depth, with its property-name path. -/
def annotated (pre : List Bytes) : Props → List Ann
  | .nil => []
  | .cons name ty xh children rest =>
    (if xh = .absent then [] else [{ path := pre ++ [name], ty := ty, xh := xh }]) ++
      annotated (pre ++ [name]) children ++ annotated pre rest

structure Binding where
  path : List Bytes
  header : Bytes
  deriving DecidableEq, Repr

/-- `extractParamHeaderAnnotations` / `collectParamHeaderAnnotations`: an annotation binds iff it unmarshals into a
non-empty string (`null` unmarshals into `""`). -/
def bindings (p : Props) : List Binding :=
  (annotated [] p).filterMap (fun a => match a.xh with
    | .str s => if s = [] then none else some { path := a.path, header := s }
    | _ => none)

/-! ### Resolving a property-name path in the schema tree (the specification side of the bindings)

`bindings` is a transliteration of the recursive walk of `collectParamHeaderAnnotations` (which carries a `prefix`
slice down the tree).  `propAt` is the independent reading of a path: start at the root `properties` map, look the
first name up, descend into that property's own `properties`, and so on.  The theorems `binding_path_resolves`,
`bindings_complete` and `binding_paths_nodup` (Props.lean) tie the two together for trees of any depth and width. -/

/-- `props[name]` (a Go map has one entry per name: the first sibling called `name`). -/
def Props.find (name : Bytes) : Props → Option (Bytes × XH × Props)
  | .nil => none
  | .cons n ty xh children rest => if n = name then some (ty, xh, children) else rest.find name

/-- The property (its `type` and `x-mcp-header` member) that the property-name path designates. -/
def propAt : Props → List Bytes → Option (Bytes × XH)
  | _, [] => none
  | p, [k] => (p.find k).map (fun e => (e.1, e.2.1))
  | p, k :: k' :: rest =>
    match p.find k with
    | some e => propAt e.2.2 (k' :: rest)
    | none => none

def siblingNames : Props → List Bytes
  | .nil => []
  | .cons n _ _ _ rest => n :: siblingNames rest

/-- Every `properties` map of the tree has pairwise distinct keys (true of anything decoded into a Go map). -/
def NamesDistinct : Props → Prop
  | .nil => True
  | .cons n _ _ children rest => n ∉ siblingNames rest ∧ NamesDistinct children ∧ NamesDistinct rest

/-- Executable form of `NamesDistinct` (used by the driver to validate its input). -/
def namesDistinctB : Props → Bool
  | .nil => true
  | .cons n _ _ children rest => !(siblingNames rest).contains n && namesDistinctB children && namesDistinctB rest

/-- `isTChar` on a byte (non-ASCII runes are never tchars, and they consist of bytes ≥ 0x80). -/
def isTChar (c : Nat) : Bool :=
  isDigit c || (65 ≤ c && c ≤ 90) || (97 ≤ c && c ≤ 122) || tcharSpecials.contains c

def lowerBytes (s : Bytes) : Bytes := s.map lowerB

/-- One annotated property passes `validateParamHeadersIn` (apart from the duplicate check). -/
def annOK (a : Ann) : Bool :=
  primitiveTypes.contains a.ty &&
  (match a.xh with
   | .str s => s != [] && s.all isTChar
   | _ => false)

def annHeader (a : Ann) : Bytes := match a.xh with | .str s => lowerBytes s | _ => []

def nodupB : List Bytes → Bool
  | [] => true
  | x :: xs => !xs.contains x && nodupB xs

/-- `validateParamHeaderAnnotations(tool) == nil`. The Go code walks the tree with a `seen` set and stops at the
first problem; whether there is one does not depend on the (random) map order. -/
def validateAnnotations (p : Props) : Bool :=
  let as := annotated [] p
  as.all annOK && nodupB (as.map annHeader)

/-! ## E. Arguments, `generateParamHeaders`, `validateParamHeaders`, `validateMcpHeaders` -/

/-- `map[string]json.RawMessage` lookup; a repeated key keeps the last value. -/
def fieldGet (k : Bytes) : List (Bytes × JV) → Option JV
  | [] => none
  | (k', v) :: rest =>
    match fieldGet k rest with
    | some x => some x
    | none => if k' = k then some v else none

/-- `lookupArgument(args, path)`. -/
def lookupArgument (args : List (Bytes × JV)) : List Bytes → Option JV
  | [] => none
  | [k] => fieldGet k args
  | k :: rest =>
    match fieldGet k args with
    | some (.obj f) => lookupArgument f rest
    | _ => none

/-- `params.arguments` as the two functions unmarshal it. -/
inductive Args where
  | bad                                   -- `Unmarshal(params, &raw)` fails
  | missing                               -- absent or `null`: nil map
  | obj (fields : List (Bytes × JV))

def Args.lookup (a : Args) (path : List Bytes) : Option JV :=
  match a with
  | .obj f => lookupArgument f path
  | _ => none

/-- HTTP headers restricted to `Mcp-Param-*`: (lower-cased annotation name, value). `Get` of an absent header is `""`. -/
abbrev ParamHdrs := List (Bytes × Bytes)

def ParamHdrs.get (h : ParamHdrs) (name : Bytes) : Bytes :=
  match h.find? (fun e => e.1 == lowerBytes name) with
  | some e => e.2
  | none => []

/-- `header.Set(k, v)`. -/
def ParamHdrs.set (h : ParamHdrs) (name : Bytes) (v : Bytes) : ParamHdrs :=
  (lowerBytes name, v) :: h.filter (fun e => e.1 != lowerBytes name)

/-- The value `generateParamHeaders` computes for one binding (`none` = the loop `continue`s). -/
def genValue (c : B64) (a : Args) (b : Binding) : Option Bytes :=
  match a.lookup b.path with
  | none => none
  | some .null => none
  | some v => (unmarshalPrimitive v).map (encodeHeaderValue c)

def genStep (c : B64) (a : Args) (acc : ParamHdrs) (b : Binding) : ParamHdrs :=
  match genValue c a b with
  | none => acc
  | some v => acc.set b.header v

/-- `generateParamHeaders(tool, params)`: the headers the client adds, in binding order. -/
def generateParamHeaders (c : B64) (p : Props) (a : Args) : ParamHdrs :=
  match a with
  | .obj _ => (bindings p).foldl (genStep c a) []
  | _ => []

inductive PErr where
  | unexpected | missing | badBase64 | notPrimitive | mismatch
  deriving DecidableEq, Repr

/-- One iteration of the loop of `validateParamHeaders` (an absent/empty header is accepted when the body value is
the empty string, which the client encodes as an empty header value: fix F6, /repo commit `2180136`). -/
def checkBinding (c : B64) (a : Args) (h : ParamHdrs) (b : Binding) : Option PErr :=
  let hv := h.get b.header
  match a.lookup b.path with
  | none => if hv != [] then some .unexpected else none
  | some .null => if hv != [] then some .unexpected else none
  | some v =>
    if hv = [] then
      (if unmarshalPrimitive v = some (.str []) then none else some .missing)
    else match decodeHeaderValue c hv with
      | none => some .badBase64
      | some d =>
        match unmarshalPrimitive v with
        | none => some .notPrimitive
        | some pv => if primitiveEqual d pv then none else some .mismatch

/-- `validateParamHeaders(header, msg, tool)`: first failing binding (in list order), or `none`. -/
def validateParamHeaders (c : B64) (p : Props) (a : Args) (h : ParamHdrs) : Option PErr :=
  match a with
  | .bad => none
  | _ => (bindings p).findSome? (checkBinding c a h)

/-- The result of `checkRequest`: nil, `ErrNotHandled`, any other error. -/
inductive CheckRes where
  | ok | notHandled | invalid
  deriving DecidableEq, Repr

/-- A JSON-RPC message of the body, as far as the gates look at it. -/
structure Msg where
  isReq : Bool                -- `*jsonrpc.Request` (else a response)
  method : Bytes
  isCall : Bool               -- has an id
  check : CheckRes            -- opaque: `checkRequest(jreq, methodInfos)`
  metaVersion : Bytes         -- `_meta["io.modelcontextprotocol/protocolVersion"]` if a string, else ""
  nameOk : Bool               -- `extractName` second result (`RawMsg.decode` computes it; only `decodeOk` is opaque)
  name : Bytes                -- `extractName` first result (`RawMsg.decode`: `decodeName` of the member list)
  args : Args
  tool : Option Props         -- the input schema of the server tool called `name`, if any (`toolLookup`)

inductive MErr where
  | missingMethod | methodMismatch | missingName | nameExtract | nameMismatch | param (e : PErr)
  deriving DecidableEq, Repr

/-- `validateMcpHeaders(header, msg, toolLookup)`. -/
def validateMcpHeaders (c : B64) (pv mMethod mName : Bytes) (ph : ParamHdrs) (m : Msg) : Option MErr :=
  if standardHeadersSkipped pv then none
  else if !m.isReq then none
  else if mMethod = [] then some .missingMethod
  else if mMethod ≠ m.method then some .methodMismatch
  else
    let named := namedMethods.contains m.method
    if named && mName = [] then some .missingName
    else if named && !m.nameOk then some .nameExtract
    else if named && mName ≠ m.name then some .nameMismatch
    else if m.method = methodCallTool then
      match m.tool with
      | some p => (validateParamHeaders c p m.args ph).map MErr.param
      | none => none
    else none

/-- What `setStandardHeaders` puts on a request: (Mcp-Method, Mcp-Name, Mcp-Param-*); `none` = header not set.
`tool` is the client's cached definition of the tool (context value), if any. -/
def setStandardHeaders (c : B64) (pv : Bytes) (m : Msg) (tool : Option Props) : Option Bytes × Option Bytes × ParamHdrs :=
  if standardHeadersSkipped pv then (none, none, [])
  else if !m.isReq then (none, none, [])
  else
    (some m.method,
     (if m.nameOk then some m.name else none),
     (if m.method = methodCallTool then
        match tool with
        | some p => generateParamHeaders c p m.args
        | none => []
      else []))

/-! ## E′. `params` as the JSON text has it, and its (case-sensitive) decoding

A foreign peer may send any JSON object as `params`: members the SDK does not know, the same member twice, members
whose names differ from a known one only in case (`"Name"`, `"URI"`, `"Arguments"`, `"_META"`).  The SDK decodes with
`internal/json`, which matches member names byte for byte; `encoding/json` would also match case-insensitively.  What
the gates compare the headers with must be what the dispatcher (the same decoder) later hands to the handler, so the
model decodes the member list itself instead of taking `extractName`'s / `extractRequestMeta`'s results as inputs. -/

/-- The `params` member of a request: absent, `null`, some other non-object, or the object's members in source order —
repeated names and names differing only in case are all kept. -/
inductive RawParams where
  | absent
  | null
  | other
  | obj (members : List (Bytes × JV))

/-- Decoding the `string` field with json name `key` of a Go struct: member names are matched exactly; a repeated
member overwrites; `null` leaves the field as it is; any other value is an error (`none`).  `cur` = the field so far. -/
def strFieldFrom (key : Bytes) : Bytes → List (Bytes × JV) → Option Bytes
  | cur, [] => some cur
  | cur, (k, v) :: rest =>
    if k = key then
      match v with
      | .str s => strFieldFrom key s rest
      | .null => strFieldFrom key cur rest
      | _ => none
    else strFieldFrom key cur rest

/-- Decoding a map-typed field (`map[string]json.RawMessage`, `Meta`): an object is merged into the map so far (a later
entry of the same name wins, see `fieldGet`), `null` resets the map to nil, any other value is an error.
`cur = none` is the nil map. -/
def mapFieldFrom (key : Bytes) : Option (List (Bytes × JV)) → List (Bytes × JV) → Option (Option (List (Bytes × JV)))
  | cur, [] => some cur
  | cur, (k, v) :: rest =>
    if k = key then
      match v with
      | .obj f => mapFieldFrom key (some (cur.getD [] ++ f)) rest
      | .null => mapFieldFrom key none rest
      | _ => none
    else mapFieldFrom key cur rest

/-- The member `extractName` returns for `method` (regenerated from its `switch` and the json tags). -/
def nameMemberOf (method : Bytes) : Option Bytes :=
  (nameMember.find? (fun e => e.1 == method)).map (·.2)

/-- The first result of `extractName(method, params)` as far as the identifying member decides it: `none` = the
decoding fails or the method has no name (`"", false`). -/
def decodeName (method : Bytes) (p : RawParams) : Option Bytes :=
  match nameMemberOf method with
  | none => none
  | some key =>
    match p with
    | .obj ms => strFieldFrom key [] ms
    | .null => some []
    | _ => none

/-- Decoding a `json.RawMessage` field: the value of the last member called exactly `key` (`cur` = the field so far). -/
def rawFieldFrom (key : Bytes) : Option JV → List (Bytes × JV) → Option JV
  | cur, [] => cur
  | cur, (k, v) :: rest => if k = key then rawFieldFrom key (some v) rest else rawFieldFrom key cur rest

/-- `params.arguments` as `validateParamHeaders` / `generateParamHeaders` decode it (`decodeArguments`): the arguments
are those of the LAST member called exactly `arguments`, which is what the dispatcher hands to the tool handler
(`CallToolParamsRaw.Arguments` is a `json.RawMessage`: a repeated member overwrites).  /repo has this since fix
preflight-F31 (F36, commit `6f6d4b5`); before it the code decoded straight into a `map[string]json.RawMessage`, which
MERGES repeated members (`decodeArgsUnrepaired`). -/
def decodeArgs : RawParams → Args
  | .obj ms =>
    match rawFieldFrom memberArguments none ms with
    | none => .missing
    | some .null => .missing
    | some (.obj f) => .obj f
    | some _ => .bad
  | .null => .missing
  | _ => .bad

/-- The decoding of `params.arguments` before fix preflight-F31 (/repo commit `6f6d4b5`): repeated `arguments` members are
merged.  Not the code as it is; the monitors use it to recognise that finding. -/
def decodeArgsUnrepaired : RawParams → Args
  | .obj ms =>
    match mapFieldFrom memberArguments none ms with
    | none => .bad
    | some none => .missing
    | some (some f) => .obj f
  | .null => .missing
  | _ => .bad

/-- `extractRequestMeta(params)[MetaKeyProtocolVersion].(string)`, `""` when there is none. -/
def decodeMetaVersion : RawParams → Bytes
  | .obj ms =>
    match mapFieldFrom memberMeta none ms with
    | some (some f) =>
      (match fieldGet metaKeyProtocolVersion f with
       | some (.str s) => s
       | _ => [])
    | _ => []
  | _ => []

/-- `server.getServerTool(name)`: the registered tools (name, input-schema properties).  The SERVER's table — the same
function as `toolDef` of Seq.lean; Go's `ClientSession.lookupTool` is `clientLookup` there. -/
def lookupTool (tools : List (Bytes × Props)) (name : Bytes) : Option Props :=
  (tools.find? (fun e => e.1 == name)).map (·.2)

/-- A message of the body before its `params` are decoded. -/
structure RawMsg where
  isReq : Bool
  method : Bytes
  isCall : Bool
  check : CheckRes               -- opaque: `checkRequest(jreq, methodInfos)`
  decodeOk : Bool                -- opaque: the members other than the identifying one decode into the method's params type
  params : RawParams
  tools : List (Bytes × Props)   -- the server's tool table

/-- What the gates see of a message: name, `_meta` version, arguments and the called tool, all decoded from the member
list with exact member names. -/
def RawMsg.decode (m : RawMsg) : Msg :=
  { isReq := m.isReq, method := m.method, isCall := m.isCall, check := m.check,
    metaVersion := decodeMetaVersion m.params,
    nameOk := m.decodeOk && (decodeName m.method m.params).isSome,
    name := (decodeName m.method m.params).getD [],
    args := decodeArgs m.params,
    tool := lookupTool m.tools ((decodeName m.method m.params).getD []) }

/-! ## F. The gate chain -/

inductive HKind where
  | stateless | stateful | sse
  deriving DecidableEq, Repr

inductive Meth where
  | get | post | delete | other
  deriving DecidableEq, Repr

/-- The session the request names (`Mcp-Session-Id` header, or `?sessionid=` for SSE). -/
inductive SessRef where
  | none | known | unknown
  deriving DecidableEq, Repr

inductive Content where
  | malformed                                   -- `readBatch` / `DecodeMessage` fails (includes the empty batch)
  | msgs (isBatch : Bool) (l : List Msg)

structure Req where
  kind : HKind
  protectionDisabled : Bool
  hasLocalAddr : Bool            -- the request's context carries a non-nil `http.LocalAddrContextKey` (no address, no host gate)
  listenerLoopback : Bool        -- opaque: util.IsLoopback(localAddr.String())
  hostLoopback : Bool            -- opaque: util.IsLoopback(req.Host)
  originRejects : Bool           -- opaque: CrossOriginProtection configured ∧ Check(req) ≠ nil
  method : Meth
  baseMedia : Bytes              -- opaque: baseMediaType(Content-Type)
  accept : List Bytes
  version : Bytes                -- Mcp-Protocol-Version header
  sess : SessRef
  noSessionIds : Bool            -- the server's `ServerOptions.GetSessionID` returns "": a stateful handler then serves every
                                 -- POST without a session id on an ephemeral session (`ephemeralConnectOpts`), like a stateless one
  lastEventId : Bool             -- a Last-Event-ID header is present
  limit : Int                    -- StreamableHTTPOptions.MaxRequestBodyBytes as configured
  bodyLen : Nat                  -- bytes the body reader delivers (before it ends or fails)
  declared : Option Nat          -- `req.ContentLength` if ≥ 0; `none` = no declared length (chunked upload, HTTP/2 stream)
  readFails : Bool               -- the body reader ends with an error instead of EOF (upload aborted after `bodyLen` bytes)
  content : Content
  mcpMethod : Bytes
  mcpName : Bytes
  paramHdrs : ParamHdrs

inductive Outcome where
  | reject (status : Nat) (code : Option Int) (allow : Option Bytes)
  | dispatched (hasCalls : Bool)       -- every message is pushed on the connection's incoming queue (202 / 200)
  | served (status : Nat)              -- GET stream attached (200) / DELETE done (204): no message involved
  deriving DecidableEq, Repr

def rej (status : Nat) : Outcome := .reject status none none
def rejRpc (status : Nat) (code : Int) : Outcome := .reject status (some code) none

def appJson : Bytes := [97, 112, 112, 108, 105, 99, 97, 116, 105, 111, 110, 47, 106, 115, 111, 110]
def allowPost : Bytes := [80, 79, 83, 84]
def allowGetPostDelete : Bytes := [71, 69, 84, 44, 32, 80, 79, 83, 84, 44, 32, 68, 69, 76, 69, 84, 69]
def allowGetPost : Bytes := [71, 69, 84, 44, 32, 80, 79, 83, 84]

/-- `NewStreamableHTTPHandler`: zero means the default. -/
def effLimit (limit : Int) : Int := if limit = 0 then (defaultMaxRequestBodyBytes : Int) else limit

/-- `http.MaxBytesReader(w, body, n)` makes `io.ReadAll` fail iff more than `n` bytes arrive; installed only when `n > 0`. -/
def tooLarge (r : Req) : Bool := effLimit r.limit > 0 && (r.bodyLen : Int) > effLimit r.limit

/-- What `io.ReadAll(req.Body)` yields where the handler reads the body: `*http.MaxBytesError` (413) as soon as more
than the limit has been delivered — whatever length was declared, if any —, any other read error: 400. -/
def bodyGate (r : Req) : Option Outcome :=
  if tooLarge r then some (rej 413)
  else if r.readFails then some (rej 400)
  else none

def gateThen (g : Option Outcome) (k : Outcome) : Outcome :=
  match g with
  | some o => o
  | none => k

/-- DNS-rebinding gate shared by both handlers. -/
def hostGateRejects (r : Req) : Bool :=
  !r.protectionDisabled && r.hasLocalAddr && r.listenerLoopback && !r.hostLoopback

/-- `protocolVersion := header; if "" then 2025-03-26` (servePOST). -/
def effVersion (v : Bytes) : Bytes := if v = [] then protocolVersion20250326 else v

/-- The per-message part of the loop of `servePOST` (`none` = the message passes).  `isBatch` is the flag `readBatch`
returned for the body (a JSON array, of any length ≥ 1): it is in scope in the loop, and the regenerated condition
`perRequestMetaApplies` is given it; the theorems `meta_gate_ignores_batch` / `msgGate_ignores_batch` (Props.lean) state
that the SEP-2575 block does not consult it. -/
def msgGate (stateless isBatch : Bool) (version : Bytes) (m : Msg) : Option Outcome :=
  if !m.isReq then none else
  let pv := effVersion version
  match m.check with
  | .notHandled =>
    if methodNotFoundAs404 pv && m.isCall then some (rejRpc 404 codeMethodNotFound) else some (rej 400)
  | .invalid => some (rej 400)
  | .ok =>
    if perRequestMetaApplies isBatch pv m.metaVersion then
      if !stateless && m.method ≠ methodDiscover then some (rejRpc 400 codeUnsupportedProtocolVersion)
      else if version = [] then some (rejRpc 400 codeHeaderMismatch)
      else if m.metaVersion = [] then some (rejRpc 400 codeInvalidParams)
      else if version ≠ m.metaVersion then some (rejRpc 400 codeHeaderMismatch)
      else none
    else none

/-- `!isBatch && len(incoming) == 1`: the single message of a non-batch body (also what `DecodeMessage` yields for SSE). -/
def soleMsg (r : Req) : Option Msg :=
  match r.content with
  | .msgs false [m] => some m
  | _ => none

/-- `streamableServerConn.servePOST` from the top to the enqueue.  `bodyRead` = the handler has already read the
body (stateless: `ephemeralConnectOpts`), so the 413 arm cannot fire here.  Gate order after the body is read:
`readBatch` (malformed ⇒ 400; it also yields `isBatch`), the batch gate (`isBatch` and header version ≥ 2025-06-18 ⇒ 400),
the per-message loop over ALL messages of the body in order (first failing message answers), and only then — for
`!isBatch && len(incoming) == 1` — the standard-header mirror. -/
def servePOST (c : B64) (stateless bodyRead : Bool) (r : Req) : Outcome :=
  if r.lastEventId then rej 400
  else match (if bodyRead then none else bodyGate r) with
  | some o => o
  | none =>
  if r.bodyLen = 0 then rej 400
  else match r.content with
    | .malformed => rej 400
    | .msgs isBatch l =>
      if batchGateRejects isBatch (effVersion r.version) then rej 400
      else match l.findSome? (msgGate stateless isBatch r.version) with
        | some o => o
        | none =>
          let hdr : Option MErr := match soleMsg r with
            | some m => validateMcpHeaders c r.version r.mcpMethod r.mcpName r.paramHdrs m
            | none => none
          match hdr with
          | some _ => rejRpc 400 codeHeaderMismatch
          | none => .dispatched (l.any (fun m => m.isReq && m.isCall))

def serveStateless (c : B64) (r : Req) : Outcome :=
  if r.method ≠ .post then .reject 405 none (some allowPost)
  else if r.baseMedia ≠ appJson then rej 415
  else if !((streamableAccepts r.accept).1 && (streamableAccepts r.accept).2) then rej 400
  else match bodyGate r with
    | some o => o
    | none => servePOST c true true r

def serveStateful (c : B64) (r : Req) : Outcome :=
  match r.method with
  | .get =>
    if !(streamableAccepts r.accept).2 then rej 400
    else match r.sess with
      | .none => rej 400
      | .unknown => rej 404
      | .known => .served 200
  | .delete =>
    match r.sess with
    | .none => rej 400
    | .unknown => rej 404
    | .known => .served 204
  | .post =>
    if r.baseMedia ≠ appJson then rej 415
    else if !((streamableAccepts r.accept).1 && (streamableAccepts r.accept).2) then rej 400
    else match r.sess with
      | .unknown => rej 404
      | .known => servePOST c false false r
      | .none =>
        if r.noSessionIds then
          -- ephemeral session: `ephemeralConnectOpts` reads the body first; `*http.MaxBytesError` is answered 413 here too,
          -- as in `serveStateless` (fix preflight-F30, /repo commit `8e31311`; before it the answer was 400)
          gateThen (bodyGate r) (servePOST c false true r)
        else servePOST c false false r
  | .other => .reject 405 none (some allowGetPostDelete)

/-- `StreamableHTTPHandler.ServeHTTP`. -/
def serveStreamable (c : B64) (r : Req) : Outcome :=
  if hostGateRejects r then rej 403
  else if r.originRejects then rej 403
  else if versionGateRejects r.version then rej 400
  else if r.kind = .stateless then serveStateless c r else serveStateful c r

/-- `SSEHandler.ServeHTTP` followed by `SSEServerTransport.ServeHTTP` for POST (a GET opens a session: `served 200`). -/
def serveSSE (r : Req) : Outcome :=
  if hostGateRejects r then rej 403
  else if r.method = .post && r.baseMedia ≠ appJson then rej 415
  else match r.method with
    | .post =>
      (match r.sess with
       | .none => rej 400
       | .unknown => rej 404
       | .known =>
         if r.readFails then rej 400
         else match soleMsg r with
         | some m => if m.isReq && m.check ≠ .ok then rej 400 else .dispatched false
         | none => rej 400)
    | .get => .served 200
    | _ => .reject 405 none (some allowGetPost)

/-- The decision function: what the handler of kind `r.kind` answers to the abstract request `r`. -/
def verdict (c : B64) (r : Req) : Outcome :=
  match r.kind with
  | .sse => serveSSE r
  | _ => serveStreamable c r

end Preflight
