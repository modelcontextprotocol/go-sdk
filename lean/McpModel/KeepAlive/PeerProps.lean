import McpModel.KeepAlive.Props
import McpModel.KeepAlive.PeerReading
/-!
# C13 — the reading of what the peer / the transport did with a ping (PeerReading.lean)

"for all finite patterns of ping outcomes (answered / timed out / method-not-found / connection error)":
which replies are which outcome, and in particular that a ping the transport REFUSED to send
(`jsonrpc2.ErrRejected`) is a failed ping like any other — it counts towards the threshold and it does not
reset the counter (a server keep-alive that does not count a refused ping as a miss is what these theorems exclude).
-/
namespace KeepAlive
open Generated.KeepAlive

theorem refused_is_a_failed_ping (I d : Nat) : (observe (pingTimeout I) (reading .refused d)).isFail = true := by
  by_cases hd : d < pingTimeout I <;> simp [observe, reading, hd, Outcome.isFail]

theorem only_a_result_in_time_resets (I d : Nat) (k : WireKind) (d' : Nat)
    (h : observe (pingTimeout I) (reading k d) = .ok d') : k = .result ∧ d < pingTimeout I ∧ d' = d := by
  cases k <;> by_cases hd : d < pingTimeout I <;> simp [observe, reading, hd] at h <;> simp_all

theorem only_unsupported_in_time_stops (I d : Nat) (k : WireKind) (d' : Nat)
    (h : observe (pingTimeout I) (reading k d) = .mnf d') : k = .unsupported ∧ d < pingTimeout I ∧ d' = d := by
  cases k <;> by_cases hd : d < pingTimeout I <;> simp [observe, reading, hd] at h <;> simp_all

theorem every_other_reply_fails (I d : Nat) (k : WireKind)
    (h : ¬ ((k = .result ∨ k = .unsupported) ∧ d < pingTimeout I)) :
    (observe (pingTimeout I) (reading k d)).isFail = true := by
  cases k <;> by_cases hd : d < pingTimeout I <;> simp [observe, reading, hd, Outcome.isFail] at h ⊢

theorem all_failed_close (I : Nat) (t0 : Int) (scs : List Script) (hlen : scs.length = threshold t0)
    (hf : ∀ sc ∈ scs, (observe (pingTimeout I) sc).isFail = true) :
    (run I t0 scs).status = .closed ∧ (run I t0 scs).tick = threshold t0 := by
  rw [closes_iff_T_consecutive]
  have hl : (obsOf I scs).length = threshold t0 := by simp [obsOf, hlen]
  have hall : ∀ o ∈ obsOf I scs, o.isFail = true ∧ o.isMnf = false := by
    intro o ho
    simp only [obsOf, List.mem_map] at ho
    obtain ⟨sc, hsc, rfl⟩ := ho
    have := hf sc hsc
    cases hobs : observe (pingTimeout I) sc <;> simp_all [Outcome.isFail, Outcome.isMnf]
  refine ⟨Nat.le_refl _, by omega, ?_, ?_, ?_⟩
  · intro o ho
    exact (hall o (List.mem_of_mem_take (List.mem_of_mem_drop ho))).1
  · intro o ho
    exact (hall o (List.mem_of_mem_take ho)).2
  · intro k' h1 h2; omega

/-- **A session whose pings are all refused by its transport is closed at tick T** (T the normalised
threshold), for every interval, every configured threshold and whatever time the refusals take. -/
theorem refused_pings_close (I : Nat) (t0 : Int) (ds : List Nat) (hlen : ds.length = threshold t0) :
    (run I t0 (readWire (ds.map fun d => (WireKind.refused, d)))).status = .closed ∧
    (run I t0 (readWire (ds.map fun d => (WireKind.refused, d)))).tick = threshold t0 := by
  apply all_failed_close
  · simp [readWire, hlen]
  · intro sc hsc
    simp only [readWire, List.map_map, List.mem_map, Function.comp] at hsc
    obtain ⟨d, _, rfl⟩ := hsc
    exact refused_is_a_failed_ping I d

/-- A refused ping after a tolerated miss does not forgive the miss: a timed-out ping followed by
`T - 1` refused ones closes the session at tick `T`. -/
theorem miss_then_refused_close (I : Nat) (t0 : Int) (ds : List Nat) (hlen : ds.length + 1 = threshold t0) :
    (run I t0 (readWire ((WireKind.silent, 0) :: ds.map fun d => (WireKind.refused, d)))).status = .closed ∧
    (run I t0 (readWire ((WireKind.silent, 0) :: ds.map fun d => (WireKind.refused, d)))).tick = threshold t0 := by
  apply all_failed_close
  · simp [readWire, hlen]
  · intro sc hsc
    simp only [readWire, List.map_cons, List.map_map, List.mem_cons, List.mem_map, Function.comp] at hsc
    rcases hsc with rfl | ⟨d, _, rfl⟩
    · simp [observe, reading, Outcome.isFail]
    · exact refused_is_a_failed_ping I d

/-- A server-initiated ping while the client has no standalone stream is a failed ping in every configuration of
the streamable server transport (refused at once, or stored and never answered). -/
theorem absent_stream_is_a_failed_ping (I d : Nat) (mode : ServerMode) :
    (observe (pingTimeout I) (reading (absentStream mode) d)).isFail = true := by
  cases mode <;> simp only [absentStream]
  · exact refused_is_a_failed_ping I d
  · simp [observe, reading, Outcome.isFail]
  · exact refused_is_a_failed_ping I d

/-- HOW LONG a server-initiated ping without a standalone stream takes differs by mode: with an EventStore the ping is "delivered" to the store and uses up its whole
timeout; without one (and on a stateless server) it fails after the `d` the refusal took. -/
theorem absent_stream_duration (I d : Nat) (hd : d < pingTimeout I) :
    (observe (pingTimeout I) (reading (absentStream .store) d)).dur = pingTimeout I ∧
    (observe (pingTimeout I) (reading (absentStream .plain) d)).dur = d ∧
    (observe (pingTimeout I) (reading (absentStream .stateless) d)).dur = d := by
  simp [absentStream, observe, reading, hd, Outcome.dur]

/-- **A client that keeps no standalone stream open loses its session at tick T, in every mode** — in particular a
stateless server with KeepAlive closes the temporary session of a request that lasts T intervals. -/
theorem absent_stream_closes (I : Nat) (t0 : Int) (mode : ServerMode) (ds : List Nat) (hlen : ds.length = threshold t0) :
    (run I t0 (readWire (ds.map fun d => (absentStream mode, d)))).status = .closed ∧
    (run I t0 (readWire (ds.map fun d => (absentStream mode, d)))).tick = threshold t0 := by
  apply all_failed_close
  · simp [readWire, hlen]
  · intro sc hsc
    simp only [readWire, List.map_map, List.mem_map, Function.comp] at hsc
    obtain ⟨d, _, rfl⟩ := hsc
    exact absent_stream_is_a_failed_ping I d mode

/-- Non-vacuity: the reading of a wire script with an answer, two refusals, a silent ping and a -32601. -/
example : readWire [(.result, 10), (.refused, 0), (.refused, 7), (.silent, 0), (.unsupported, 3)] =
    [⟨.answer, some 10, true⟩, ⟨.error, some 0, true⟩, ⟨.error, some 7, true⟩, ⟨.answer, none, true⟩,
     ⟨.mnf, some 3, true⟩] := rfl

end KeepAlive
