import McpModel.KeepAlive.Bridge
/-!
# Clause soundness and completeness of the C13 monitor (E9)

For every clause the monitor can report (`Clause`) the corresponding clause of the property is stated
as a predicate `P_…` on the record alone — the scenario (`Scenario`: interval, configured threshold,
the ping outcome pattern, the cancellation instant) and what the IMPLEMENTATION did (`Obs`) — written
with the property's own reading of the scenario: the outcome classes (`specOutcome`: answered within
half an interval / method-not-found / failed), the schedule of pending ticks (`specSched`), the closing
tick stated declaratively (`CloseTick`: the least `k` whose last `T` outcomes all failed, no
method-not-found before), the tick with which keep-alive has to end (`endTick`) and the instant by
which it has to have ended (`dueOf`).  No `KeepAlive.step`/`run`, no regenerated expression.
`sound_<clause>`: whenever the monitor reports the clause, the predicate fails; `monitor_sound`
packages them; `monitor_complete`: silence ⇒ every predicate; `model_satisfies_P_loop` / `_sess`: the model's
observation satisfies all of them (for `sessions` under the two hypotheses of the bridge).
-/
namespace KeepAlive

/-- `k` is the tick at which the property requires `Close` (threshold `T`, outcome classes `cs`): the
`T` outcomes ending at `k` all failed, no method-not-found up to `k`, and `k` is the least such tick. -/
def CloseTick (T : Nat) (cs : List Nat) (k : Nat) : Prop :=
  T ≤ k ∧ k ≤ cs.length ∧ (∀ c ∈ (cs.take k).drop (k - T), c = 2) ∧ (∀ c ∈ cs.take k, c ≠ 1) ∧
  ∀ k', k' < k → T ≤ k' → ∃ c ∈ (cs.take k').drop (k' - T), c ≠ 2

theorem specCloseTick_spec (T : Nat) (cs : List Nat) (k : Nat) :
    specCloseTick T cs = some k ↔ CloseTick T cs k :=
  specCloseTick_eq_some T cs k

theorem closeTick_unique {T : Nat} {cs : List Nat} {k k' : Nat} (h : CloseTick T cs k) (h' : CloseTick T cs k') :
    k = k' := by
  have a := (specCloseTick_spec T cs k).2 h
  rw [(specCloseTick_spec T cs k').2 h'] at a
  injection a with a; exact a.symm

def Scenario.sched (sc : Scenario) : List SpecPing := specSched sc.I sc.tc 0 0 sc.scripts
def Scenario.os (sc : Scenario) : List Nat := sc.sched.map (·.outcome)
def Scenario.T (sc : Scenario) : Nat := specT sc.t0
def Scenario.endTick (sc : Scenario) : Nat := KeepAlive.endTick (specCloseTick sc.T sc.os) sc.os
def Scenario.byCancel (sc : Scenario) : Prop := specCloseTick sc.T sc.os = none ∧ ¬ sc.os.any (· == 1) = true
/-- The instant by which keep-alive has to have ended (given a transport write blocked until `wblk`). -/
def Scenario.due (sc : Scenario) (wblk : Option Nat) : Nat :=
  (dueOf sc.tc sc.sched sc.os (specCloseTick sc.T sc.os) sc.endTick wblk).1

/-- closes_iff_T_consecutive, "if": when `T` consecutive pings failed (no method-not-found before),
the session is closed. -/
def P_closes_if (sc : Scenario) (o : Obs) : Prop := ∀ k, CloseTick sc.T sc.os k → o.closes ≠ []

/-- closes_iff_T_consecutive / answer_resets, "only if": keep-alive closes the session only when `T`
consecutive pings failed — never a peer that answers, an answered ping resets the count. -/
def P_closes_only_if (sc : Scenario) (o : Obs) : Prop := o.closes ≠ [] → ∃ k, CloseTick sc.T sc.os k

def P_closes_once (_ : Scenario) (o : Obs) : Prop := o.closes.length ≤ 1

/-- "after exactly the configured number of consecutive failed pings": `Close` is called by the
closing ping `k` — it has been issued, and any later ping comes after the call. -/
def P_closed_by_closing_ping (sc : Scenario) (o : Obs) : Prop :=
  ∀ k c, CloseTick sc.T sc.os k → o.closes = [c] →
    k ≤ o.pings.length ∧
    (k < o.pings.length → startOf sc.sched k ≤ c ∧ c < specNext sc.I (startOf sc.sched k) (stopOf sc.sched k))

/-- close_time_bound: "within that many intervals plus one ping timeout": the call comes no earlier
than the closing ping is issued and at most one ping timeout later (for a ping whose write is blocked:
when it returns). -/
def P_close_time_bound (sc : Scenario) (o : Obs) : Prop :=
  ∀ k c, CloseTick sc.T sc.os k → o.closes = [c] →
    startOf sc.sched k ≤ c ∧
    c ≤ (if ((sc.sched[k - 1]?).map (·.overran)).getD false then stopOf sc.sched k else startOf sc.sched k + sc.I / 2)

/-- silent_stop: no ping after the tick with which keep-alive has to end. -/
def P_no_ping_after_end (sc : Scenario) (o : Obs) : Prop := o.pings.length ≤ sc.endTick

/-- pings_at_ticks: until it has to end keep-alive pings once per tick, a tick that fires during a ping
being served when that ping is over. -/
def P_pings_on_schedule (sc : Scenario) (o : Obs) : Prop :=
  o.pings = (sc.sched.take sc.endTick).map (·.start)

/-- silent_stop: no ping at or after the cancellation (scripted loop: when keep-alive ends by it). -/
def P_no_ping_after_cancel (sc : Scenario) (o : Obs) : Prop :=
  (sc.sess = true ∨ (sc.byCancel ∧ sc.real = false)) → ∀ p ∈ o.pings, p < sc.tc

def DeadlinesOk (I : Nat) : Deadlines → Prop
  | .none => True
  | .all v => v = (I / 2 : Nat)
  | .each vs => ∀ v ∈ vs, v = some ((I / 2 : Nat) : Int)

/-- answer_resets / close_time_bound: every ping is given a fresh ping timeout of half the interval. -/
def P_fresh_deadline (sc : Scenario) (o : Obs) : Prop :=
  sc.real = false → o.pings ≠ [] → DeadlinesOk sc.I o.to

/-- silent_stop: the goroutine returned and nothing happened afterwards. -/
def P_quiet (_ : Scenario) (o : Obs) : Prop := o.exit = true ∧ o.quietAfter = true

/-- ping_done_before_next_tick (stream `sessions`): a ping whose write was not blocked lasts at most
half an interval. -/
def P_ping_within_timeout (sc : Scenario) (_ : Obs) : Prop :=
  sc.sess = true → ∀ s ∈ sc.scripts, s.honours = true → ∀ d, s.delay = some d → d ≤ sc.I / 2

/-- The observation of a `sessions` record carries the session-level observations, well-formed: every goroutine sample
that was due is `yes` or `no` (`Live.unsampled`: the harness printed `-`, `Live.bad`: any other character). -/
def P_sess_wellformed (sc : Scenario) (o : Obs) : Prop :=
  sc.sess = true → ∃ so, o.sess = some so ∧ so.liveOk = true ∧
    (so.live2 = .yes ∨ so.live2 = .no) ∧ (sc.at1.isSome → so.live1 = .yes ∨ so.live1 = .no)

/-- silent_stop (stream `sessions`): nothing is logged after keep-alive had to end. -/
def P_nothing_logged_after_end (sc : Scenario) (o : Obs) : Prop :=
  sc.sess = true → ∀ so, o.sess = some so → ∀ w ∈ so.warn ++ o.closes, w ≤ sc.due so.wblk

/-- closes_iff_T_consecutive (stream `sessions`): a session keep-alive reports as closed has its
connection closed by then, or as soon as a blocked transport write is through. -/
def P_connection_closed (sc : Scenario) (o : Obs) : Prop :=
  sc.sess = true → ∀ so, o.sess = some so → ∀ c rest, o.closes = c :: rest →
    ∃ sh, so.shut = some sh ∧ (sh ≤ c ∨ sh ≤ so.wblk.getD 0)

/-- silent_stop (stream `sessions`): no goroutine is left once keep-alive had to end. -/
def P_no_goroutine_left (sc : Scenario) (o : Obs) : Prop :=
  sc.sess = true → ∀ so, o.sess = some so →
    (so.live2 = .yes → sc.at2 < sc.due so.wblk) ∧ (∀ t1, sc.at1 = some t1 → so.live1 = .yes → t1 < sc.due so.wblk)

/-- pings_at_ticks (stream `sessions`): while keep-alive has not ended its goroutine exists. -/
def P_goroutine_while_alive (sc : Scenario) (o : Obs) : Prop :=
  sc.sess = true → ∀ so, o.sess = some so →
    (so.live2 = .no → sc.due so.wblk ≤ sc.at2) ∧ (∀ t1, sc.at1 = some t1 → so.live1 = .no → sc.due so.wblk ≤ t1)

def P_of : Clause → Scenario → Obs → Prop
  | .notClosed _ _ => P_closes_if
  | .closedAfterAnswer _ _ _ _ => P_closes_only_if
  | .closedFewFails _ _ _ => P_closes_only_if
  | .closedNoRun _ _ => P_closes_only_if
  | .closedWrongPing _ _ _ _ _ => P_closed_by_closing_ping
  | .closedBeforePing _ _ _ => P_close_time_bound
  | .closedLateOverran _ _ _ => P_close_time_bound
  | .closedLate _ _ _ => P_close_time_bound
  | .closedTimes _ => P_closes_once
  | .wentOn _ _ => P_no_ping_after_end
  | .ticksGrid _ _ _ => P_pings_on_schedule
  | .ticksPending _ _ _ => P_pings_on_schedule
  | .f30 _ _ _ => P_no_ping_after_cancel
  | .f31 _ _ _ => fun sc o => P_no_ping_after_end sc o ∧ P_closes_only_if sc o
  | .deadlineAll _ _ => P_fresh_deadline
  | .deadlineShort _ _ _ _ => P_fresh_deadline
  | .deadlineLong _ _ _ _ => P_fresh_deadline
  | .notQuiet => P_quiet
  | .pingLong _ _ _ => P_ping_within_timeout
  | .pingAfterClose _ _ => P_no_ping_after_cancel
  | .loggedAfterEnd _ _ _ => P_nothing_logged_after_end
  | .shutLate _ _ => P_connection_closed
  | .shutNever _ => P_connection_closed
  | .goroutineLeft _ _ _ => P_no_goroutine_left
  | .goroutineGone _ _ => P_goroutine_while_alive
  | .badLive _ => P_sess_wellformed
  | .badSess => P_sess_wellformed

def closingOf (sc : Scenario) (o : Obs) : Option Clause :=
  closingClause sc.I sc.T sc.sched sc.os (specCloseTick sc.T sc.os) o.pings o.closes
def ticksOf (sc : Scenario) (o : Obs) : Option Clause := ticksClause sc.I sc.sched sc.endTick o.pings
def f30Of (sc : Scenario) (o : Obs) : Option Clause :=
  if (specCloseTick sc.T sc.os).isNone ∧ ¬ sc.os.any (· == 1) ∧ ¬ sc.real then f30Shape sc.I sc.tc sc.sched o.pings else none
def deadlineOf (sc : Scenario) (o : Obs) : Option Clause :=
  if sc.real ∨ o.pings.isEmpty then none else deadlineClause sc.I o.pings o.to
def quietOf (o : Obs) : Option Clause := if o.exit ∧ o.quietAfter then none else some .notQuiet
def f31Of (sc : Scenario) (o : Obs) : Option Clause :=
  f31Shape sc.transientMnf sc.os (specCloseTick sc.T sc.os) sc.endTick o.pings o.closes
def whyOf (sc : Scenario) (wblk : Option Nat) : Why :=
  (dueOf sc.tc sc.sched sc.os (specCloseTick sc.T sc.os) sc.endTick wblk).2

theorem monitor_eq (sc : Scenario) (o : Obs) :
    monitor sc o =
      (f31Of sc o <|>
      if sc.sess then
        match o.sess with
        | none => f30Of sc o <|> deadlineOf sc o <|> longClause sc.I sc.scripts <|> closingOf sc o <|> ticksOf sc o <|>
            some .badSess <|> quietOf o
        | some so =>
          f30Of sc o <|> deadlineOf sc o <|> longClause sc.I sc.scripts <|>
            afterCloseClause sc.I sc.tc sc.sched o.pings <|> closingOf sc o <|> ticksOf sc o <|>
            sessClause sc so o.closes (sc.due so.wblk) (whyOf sc so.wblk) <|> quietOf o
      else f30Of sc o <|> closingOf sc o <|> deadlineOf sc o <|> ticksOf sc o <|> quietOf o) := by
  simp only [monitor, f31Of, f30Of, deadlineOf, closingOf, ticksOf, quietOf, Scenario.sched, Scenario.os, Scenario.T,
    Scenario.endTick, Scenario.due, whyOf]
  cases sc.sess <;> cases o.sess <;> rfl

/-- The order of the parts in `monitor` only decides which clause a record with several violations is given; this and
`monitor_none` forget it, and nothing below depends on it.  (A `sessions` record without session observations always
gets `badSess`, so `quiet` is not reached in that branch.) -/
theorem monitor_some {sc : Scenario} {o : Obs} {cl : Clause} (h : monitor sc o = some cl) :
    f31Of sc o = some cl ∨ f30Of sc o = some cl ∨ deadlineOf sc o = some cl ∨ closingOf sc o = some cl ∨ ticksOf sc o = some cl ∨
    quietOf o = some cl ∨
    (sc.sess = true ∧ (longClause sc.I sc.scripts = some cl ∨ (o.sess = none ∧ cl = .badSess) ∨
      ∃ so, o.sess = some so ∧ (afterCloseClause sc.I sc.tc sc.sched o.pings = some cl ∨
        sessClause sc so o.closes (sc.due so.wblk) (whyOf sc so.wblk) = some cl))) := by
  rw [monitor_eq] at h
  rcases Option.alt_eq_some.1 h with h | ⟨-, h⟩
  · exact .inl h
  right
  split at h
  · rename_i hs
    split at h
    · rename_i hso
      rcases Option.alt_eq_some.1 h with h | ⟨-, h⟩; · exact .inl h
      rcases Option.alt_eq_some.1 h with h | ⟨-, h⟩; · exact .inr (.inl h)
      rcases Option.alt_eq_some.1 h with h | ⟨-, h⟩; · exact .inr (.inr (.inr (.inr (.inr ⟨hs, .inl h⟩))))
      rcases Option.alt_eq_some.1 h with h | ⟨-, h⟩; · exact .inr (.inr (.inl h))
      rcases Option.alt_eq_some.1 h with h | ⟨-, h⟩; · exact .inr (.inr (.inr (.inl h)))
      rcases Option.alt_eq_some.1 h with h | ⟨-, h⟩
      · cases h; exact .inr (.inr (.inr (.inr (.inr ⟨hs, .inr (.inl ⟨hso, rfl⟩)⟩))))
      · exact .inr (.inr (.inr (.inr (.inl h))))
    · rename_i so hso
      rcases Option.alt_eq_some.1 h with h | ⟨-, h⟩; · exact .inl h
      rcases Option.alt_eq_some.1 h with h | ⟨-, h⟩; · exact .inr (.inl h)
      rcases Option.alt_eq_some.1 h with h | ⟨-, h⟩; · exact .inr (.inr (.inr (.inr (.inr ⟨hs, .inl h⟩))))
      rcases Option.alt_eq_some.1 h with h | ⟨-, h⟩; · exact .inr (.inr (.inr (.inr (.inr ⟨hs, .inr (.inr ⟨so, hso, .inl h⟩)⟩))))
      rcases Option.alt_eq_some.1 h with h | ⟨-, h⟩; · exact .inr (.inr (.inl h))
      rcases Option.alt_eq_some.1 h with h | ⟨-, h⟩; · exact .inr (.inr (.inr (.inl h)))
      rcases Option.alt_eq_some.1 h with h | ⟨-, h⟩; · exact .inr (.inr (.inr (.inr (.inr ⟨hs, .inr (.inr ⟨so, hso, .inr h⟩)⟩))))
      exact .inr (.inr (.inr (.inr (.inl h))))
  · rcases Option.alt_eq_some.1 h with h | ⟨-, h⟩; · exact .inl h
    rcases Option.alt_eq_some.1 h with h | ⟨-, h⟩; · exact .inr (.inr (.inl h))
    rcases Option.alt_eq_some.1 h with h | ⟨-, h⟩; · exact .inr (.inl h)
    rcases Option.alt_eq_some.1 h with h | ⟨-, h⟩; · exact .inr (.inr (.inr (.inl h)))
    exact .inr (.inr (.inr (.inr (.inl h))))

theorem monitor_none {sc : Scenario} {o : Obs} (h : monitor sc o = none) :
    f31Of sc o = none ∧ f30Of sc o = none ∧ deadlineOf sc o = none ∧ closingOf sc o = none ∧ ticksOf sc o = none ∧ quietOf o = none ∧
    (sc.sess = true → longClause sc.I sc.scripts = none ∧
      ∃ so, o.sess = some so ∧ afterCloseClause sc.I sc.tc sc.sched o.pings = none ∧
        sessClause sc so o.closes (sc.due so.wblk) (whyOf sc so.wblk) = none) := by
  rw [monitor_eq] at h
  cases hs : sc.sess <;> cases hso : o.sess <;>
    simp only [hs, hso, Bool.false_eq_true, if_false, if_true, Option.orElse_eq_orElse, Option.orElse_eq_or,
      Option.or_eq_none_iff, reduceCtorEq, false_and, and_false] at h
  · obtain ⟨a0, a1, a2, a3, a4, a5⟩ := h
    exact ⟨a0, a1, a3, a2, a4, a5, fun h => nomatch h⟩
  · obtain ⟨a0, a1, a2, a3, a4, a5⟩ := h
    exact ⟨a0, a1, a3, a2, a4, a5, fun h => nomatch h⟩
  · rename_i so
    obtain ⟨a0, a1, a2, a3, a4, a5, a6, a7, a8⟩ := h
    exact ⟨a0, a1, a2, a5, a6, a8, fun _ => ⟨a3, so, rfl, a4, a7⟩⟩

/-- The parts below are read in one shape: silent and the predicates `P` hold, or a clause is reported and
the predicate of that clause fails.  The two ways of using such a reading: -/
theorem read_none {P : Prop} {Q : Clause → Prop} (h : ((none : Option Clause) = none ∧ P) ∨ ∃ cl, none = some cl ∧ Q cl) :
    P := by
  rcases h with ⟨_, hp⟩ | ⟨_, e, _⟩
  · exact hp
  · cases e

theorem read_some {P : Prop} {Q : Clause → Prop} {cl : Clause} (h : (some cl = none ∧ P) ∨ ∃ cl', some cl = some cl' ∧ Q cl') :
    Q cl := by
  rcases h with ⟨e, _⟩ | ⟨_, e, hq⟩ <;> cases e
  exact hq

theorem closing_read {sc : Scenario} {o : Obs} (r : Option Clause) (h : closingOf sc o = r) :
    (r = none ∧ P_closes_if sc o ∧ P_closes_only_if sc o ∧ P_closes_once sc o ∧ P_closed_by_closing_ping sc o ∧
      P_close_time_bound sc o) ∨ ∃ cl, r = some cl ∧ ¬ P_of cl sc o := by
  simp only [closingOf] at h
  cases hk : specCloseTick sc.T sc.os with
  | none =>
    rw [hk] at h
    have hno : ∀ k, ¬ CloseTick sc.T sc.os k := fun k hk' => by
      rw [(specCloseTick_spec _ _ _).2 hk'] at hk; cases hk
    cases hc : o.closes with
    | nil =>
      rw [hc] at h
      exact .inl ⟨h.symm, fun k hk' => absurd hk' (hno k), fun hne => absurd hc hne, by simp [P_closes_once, hc],
        fun k c hk' => absurd hk' (hno k), fun k c hk' => absurd hk' (hno k)⟩
    | cons c rest =>
      rw [hc] at h
      have key : ¬ P_closes_only_if sc o := fun hP => by
        obtain ⟨k, hk'⟩ := hP (by rw [hc]; simp)
        exact hno k hk'
      right
      simp only [closingClause] at h
      by_cases h1 : (List.take o.pings.length sc.os).getLast? == some 0
      · rw [if_pos h1] at h; exact ⟨_, h.symm, key⟩
      · rw [if_neg h1] at h
        split at h <;> exact ⟨_, h.symm, key⟩
  | some k =>
    rw [hk] at h
    have hct := (specCloseTick_spec _ _ _).1 hk
    cases hc : o.closes with
    | nil => rw [hc] at h; exact .inr ⟨_, h.symm, fun hP => hP k hct hc⟩
    | cons c rest =>
      rw [hc] at h
      cases rest with
      | cons c2 rest2 =>
        refine .inr ⟨_, h.symm, fun hP => ?_⟩
        have hP' : o.closes.length ≤ 1 := hP
        rw [hc] at hP'
        simp only [List.length_cons] at hP'
        omega
      | nil =>
        -- silent: `k` is the only closing tick, `c` the only `Close`, and the tests of the clause are the predicates
        have silent : ¬ (o.pings.length < k ∨ (o.pings.length > k ∧
              (c < startOf sc.sched k ∨ c ≥ specNext sc.I (startOf sc.sched k) (stopOf sc.sched k)))) →
            ¬ c < startOf sc.sched k →
            c ≤ (if ((sc.sched[k - 1]?).map (·.overran)).getD false then stopOf sc.sched k
              else startOf sc.sched k + sc.I / 2) →
            P_closes_if sc o ∧ P_closes_only_if sc o ∧ P_closes_once sc o ∧ P_closed_by_closing_ping sc o ∧
              P_close_time_bound sc o := by
          intro hw hb hle
          have uniq : ∀ {k' c'}, CloseTick sc.T sc.os k' → o.closes = [c'] → k' = k ∧ c' = c := by
            intro k' c' hk' hc'
            rw [hc] at hc'
            exact ⟨closeTick_unique hk' hct, (List.cons.inj hc').1.symm⟩
          refine ⟨fun _ _ => by rw [hc]; simp, fun _ => ⟨k, hct⟩, by simp [P_closes_once, hc], ?_, ?_⟩
          · intro k' c' hk' hc'
            obtain ⟨rfl, rfl⟩ := uniq hk' hc'
            exact ⟨by omega, fun hlt => by omega⟩
          · intro k' c' hk' hc'
            obtain ⟨rfl, rfl⟩ := uniq hk' hc'
            exact ⟨by omega, hle⟩
        simp only [closingClause] at h
        by_cases h1 : o.pings.length < k ∨ (o.pings.length > k ∧
            (c < startOf sc.sched k ∨ c ≥ specNext sc.I (startOf sc.sched k) (stopOf sc.sched k)))
        · rw [if_pos h1] at h
          refine .inr ⟨_, h.symm, fun hP => ?_⟩
          obtain ⟨p1, p2⟩ := hP k c hct hc
          rcases h1 with hw | ⟨hw1, hw2⟩
          · omega
          · have := p2 hw1; omega
        rw [if_neg h1] at h
        by_cases h2 : c < startOf sc.sched k
        · rw [if_pos h2] at h
          exact .inr ⟨_, h.symm, fun hP => by have := (hP k c hct hc).1; omega⟩
        rw [if_neg h2] at h
        -- late: whichever of the two clauses names the bound, it is the bound of `P_close_time_bound`
        generalize hb : (if ((sc.sched[k - 1]?).map (·.overran)).getD false = true then stopOf sc.sched k
          else startOf sc.sched k + sc.I / 2) = bound at h
        by_cases h3 : c > bound
        · rw [if_pos h3] at h
          have key : ¬ P_close_time_bound sc o := fun hP => by
            have := (hP k c hct hc).2
            rw [hb] at this
            omega
          split at h <;> exact .inr ⟨_, h.symm, key⟩
        · rw [if_neg h3] at h
          exact .inl ⟨h.symm, silent h1 h2 (by rw [hb]; omega)⟩

theorem ticks_read {sc : Scenario} {o : Obs} (r : Option Clause) (h : ticksOf sc o = r) :
    (r = none ∧ P_pings_on_schedule sc o ∧ P_no_ping_after_end sc o) ∨ ∃ cl, r = some cl ∧ ¬ P_of cl sc o := by
  simp only [ticksOf, ticksClause] at h
  by_cases he : (o.pings == (sc.sched.take sc.endTick).map (·.start)) = true
  · rw [if_pos he] at h
    have he' : o.pings = (sc.sched.take sc.endTick).map (·.start) := by simpa using he
    refine .inl ⟨h.symm, he', ?_⟩
    simp only [P_no_ping_after_end, he', List.length_map, List.length_take]
    omega
  · rw [if_neg he] at h
    have hne' : o.pings ≠ (sc.sched.take sc.endTick).map (·.start) := by
      intro e; rw [e] at he; simp at he
    right
    by_cases hw : o.pings.length > sc.endTick ∧ (o.pings.take sc.endTick == (sc.sched.take sc.endTick).map (·.start)) = true
    · rw [if_pos hw] at h
      refine ⟨_, h.symm, fun hP => ?_⟩
      have hP' : o.pings.length ≤ sc.endTick := hP
      omega
    · rw [if_neg hw] at h
      split at h <;> exact ⟨_, h.symm, fun hP => hne' hP⟩

theorem f30Shape_some {I tc : Nat} {sched : List SpecPing} {pings : List Nat} {cl : Clause}
    (h : f30Shape I tc sched pings = some cl) : ∃ p ∈ pings, p > tc ∧ ∃ a b c, cl = .f30 a b c := by
  simp only [f30Shape] at h
  cases hl : sched.getLast? with
  | none => rw [hl] at h; cases h
  | some l =>
    rw [hl] at h
    simp only [] at h
    by_cases hc : l.stop > tc ∧ l.stop ≥ (l.start / I + 1) * I ∧ pings.contains l.stop = true
    · rw [if_pos hc] at h
      cases h
      exact ⟨l.stop, by simpa using hc.2.2, hc.1, _, _, _, rfl⟩
    · rw [if_neg hc] at h; cases h

theorem f31_refutes {sc : Scenario} {o : Obs} {cl : Clause} (h : f31Of sc o = some cl) : ¬ P_of cl sc o := by
  simp only [f31Of, f31Shape] at h
  by_cases hc : (specCloseTick sc.T sc.os).isNone = true ∧ (sc.os.any (· == 1)) = true ∧
      sc.transientMnf.contains sc.endTick = true ∧ (o.pings.length > sc.endTick ∨ o.closes ≠ [])
  · rw [if_pos hc] at h
    cases h
    rintro ⟨p1, p2⟩
    rcases hc.2.2.2 with h4 | h4
    · have : o.pings.length ≤ sc.endTick := p1
      omega
    · obtain ⟨k, hk⟩ := p2 h4
      have := (specCloseTick_spec _ _ _).2 hk
      rw [this] at hc; simp at hc
  · rw [if_neg hc] at h; cases h

theorem f30_refutes {sc : Scenario} {o : Obs} {cl : Clause} (h : f30Of sc o = some cl) : ¬ P_of cl sc o := by
  simp only [f30Of] at h
  by_cases hc : (specCloseTick sc.T sc.os).isNone = true ∧ ¬ (sc.os.any (· == 1)) = true ∧ ¬ sc.real = true
  · rw [if_pos hc] at h
    obtain ⟨p, hp, hgt, a, b, c, rfl⟩ := f30Shape_some h
    intro hP
    have hbc : sc.byCancel := ⟨by simpa using hc.1, hc.2.1⟩
    have hr : sc.real = false := by simpa using hc.2.2
    have := hP (.inr ⟨hbc, hr⟩) p hp
    omega
  · rw [if_neg hc] at h; cases h

theorem afterClose_refutes {sc : Scenario} {o : Obs} {cl : Clause} (hs : sc.sess = true)
    (h : afterCloseClause sc.I sc.tc sc.sched o.pings = some cl) : ¬ P_of cl sc o := by
  simp only [afterCloseClause] at h
  cases hf : o.pings.find? (· ≥ sc.tc) with
  | none => rw [hf] at h; cases h
  | some p =>
    rw [hf] at h
    have hp := List.mem_of_find?_eq_some hf
    have hge : p ≥ sc.tc := by simpa using List.find?_some hf
    have key : ¬ P_no_ping_after_cancel sc o := fun hP => by
      have := hP (.inl hs) p hp; omega
    rcases Option.alt_eq_some.1 h with h | ⟨-, h⟩
    · obtain ⟨_, _, _, a, b, c, rfl⟩ := f30Shape_some h
      exact key
    · cases h; exact key

theorem specSched_lt (I tc : Nat) : ∀ (scs : List Script) (l f : Nat), ∀ p ∈ specSched I tc l f scs, p.start < tc := by
  intro scs
  induction scs with
  | nil => intro l f p hp; cases hp
  | cons s t ih =>
    intro l f p hp
    simp only [specSched] at hp
    by_cases h : specNext I l f < tc
    · rw [if_pos h] at hp
      rcases List.mem_cons.1 hp with rfl | hp
      · exact h
      · exact ih _ _ p hp
    · rw [if_neg h] at hp; cases hp

theorem no_ping_after_cancel_of_schedule {sc : Scenario} {o : Obs} (h : P_pings_on_schedule sc o) :
    P_no_ping_after_cancel sc o := by
  intro _ p hp
  rw [h] at hp
  obtain ⟨q, hq, rfl⟩ := List.mem_map.1 hp
  exact specSched_lt sc.I sc.tc sc.scripts 0 0 q (List.mem_of_mem_take hq)

theorem deadlineClause_read {I : Nat} {pings : List Nat} {to : Deadlines} (r : Option Clause)
    (h : deadlineClause I pings to = r) :
    (r = none ∧ DeadlinesOk I to) ∨
    (¬ DeadlinesOk I to ∧ ∃ cl, r = some cl ∧ ∀ sc o, P_of cl sc o = P_fresh_deadline sc o) := by
  cases to with
  | none => exact .inl ⟨h.symm, trivial⟩
  | all v =>
    simp only [deadlineClause] at h
    by_cases hv : v = (I / 2 : Nat)
    · rw [if_pos hv] at h; exact .inl ⟨h.symm, hv⟩
    · rw [if_neg hv] at h; exact .inr ⟨hv, _, h.symm, fun _ _ => rfl⟩
  | each vs =>
    simp only [deadlineClause] at h
    generalize hf : List.find? _ vs.zipIdx = fr at h
    cases fr with
    | none =>
      refine .inl ⟨h.symm, ?_⟩
      intro v hv
      obtain ⟨j, hj, rfl⟩ := List.getElem_of_mem hv
      have := List.find?_eq_none.1 hf (vs[j], j) (by
        rw [List.mem_zipIdx_iff_getElem?]; simp [hj])
      simpa using this
    | some p =>
      obtain ⟨v, j⟩ := p
      have hmem : v ∈ vs := by
        have := List.mem_of_find?_eq_some hf
        exact (List.mem_zipIdx this).2.2 ▸ List.getElem_mem _
      have hv : v ≠ some ((I / 2 : Nat) : Int) := by
        have := List.find?_some hf
        simpa using this
      simp only [] at h
      refine .inr ⟨fun hok => hv (hok v hmem), ?_⟩
      cases v with
      | none => simp only [Bool.false_eq_true, if_false] at h; exact ⟨_, h.symm, fun _ _ => rfl⟩
      | some x => simp only [] at h; split at h <;> exact ⟨_, h.symm, fun _ _ => rfl⟩

theorem deadline_read {sc : Scenario} {o : Obs} (r : Option Clause) (h : deadlineOf sc o = r) :
    (r = none ∧ P_fresh_deadline sc o) ∨ ∃ cl, r = some cl ∧ ¬ P_of cl sc o := by
  simp only [deadlineOf] at h
  by_cases hc : sc.real = true ∨ o.pings.isEmpty = true
  · rw [if_pos hc] at h
    refine .inl ⟨h.symm, fun hreal hne => ?_⟩
    rcases hc with h1 | h1
    · rw [hreal] at h1; cases h1
    · exact absurd (List.isEmpty_iff.1 h1) hne
  · rw [if_neg hc] at h
    have hreal : sc.real = false := by
      cases hr : sc.real with
      | false => rfl
      | true => exact absurd (.inl hr) hc
    have hne : o.pings ≠ [] := fun he => hc (.inr (by rw [he]; rfl))
    rcases deadlineClause_read _ h with ⟨e, hok⟩ | ⟨hbad, cl, e, hP⟩
    · exact .inl ⟨e, fun _ _ => hok⟩
    · exact .inr ⟨cl, e, fun hp => hbad ((hP sc o ▸ hp) hreal hne)⟩

theorem long_read {sc : Scenario} {o : Obs} (hs : sc.sess = true) (r : Option Clause)
    (h : longClause sc.I sc.scripts = r) :
    (r = none ∧ P_ping_within_timeout sc o) ∨ ∃ cl, r = some cl ∧ ¬ P_of cl sc o := by
  simp only [longClause] at h
  generalize hf : List.find? _ sc.scripts.zipIdx = fr at h
  cases fr with
  | none =>
    refine .inl ⟨h.symm, ?_⟩
    intro _ s hmem hh d hd
    obtain ⟨j, hj, rfl⟩ := List.getElem_of_mem hmem
    have := List.find?_eq_none.1 hf (sc.scripts[j], j) (by
      rw [List.mem_zipIdx_iff_getElem?]; simp [hj])
    simp only [hh, hd, Bool.true_and, decide_eq_true_eq] at this
    omega
  | some p =>
    obtain ⟨s, j⟩ := p
    have hmem : s ∈ sc.scripts := by
      have := List.mem_of_find?_eq_some hf
      exact (List.mem_zipIdx this).2.2 ▸ List.getElem_mem _
    have hcond := List.find?_some hf
    simp only [Bool.and_eq_true] at hcond
    cases hd : s.delay with
    | none => rw [hd] at hcond; simp at hcond
    | some d =>
      rw [hd] at hcond
      refine .inr ⟨_, h.symm, fun hP => ?_⟩
      have := hP hs s hmem hcond.1 d hd
      have hgt : d > sc.I / 2 := by simpa using hcond.2
      omega

theorem quiet_refutes {o : Obs} {cl : Clause} (sc : Scenario) (h : quietOf o = some cl) : ¬ P_of cl sc o := by
  simp only [quietOf] at h
  by_cases hc : o.exit = true ∧ o.quietAfter = true
  · rw [if_pos hc] at h; cases h
  · rw [if_neg hc] at h
    cases h
    exact fun hP => hc hP

theorem live_agrees_yes {a : Live} {t due : Nat} (h : (a = .yes ∧ t < due) ∨ (a = .no ∧ due ≤ t)) (hy : a = .yes) : t < due := by
  rcases h with ⟨_, e2⟩ | ⟨e1, _⟩
  · exact e2
  · rw [hy] at e1; cases e1

theorem live_agrees_no {a : Live} {t due : Nat} (h : (a = .yes ∧ t < due) ∨ (a = .no ∧ due ≤ t)) (hn : a = .no) : due ≤ t := by
  rcases h with ⟨e1, _⟩ | ⟨_, e2⟩
  · rw [hn] at e1; cases e1
  · exact e2

/-- One sample of the goroutine: it agrees with `due`, or the clause reported refutes the predicate the caller
names for this sample. -/
theorem live_read {sc : Scenario} {o : Obs} {so : SessObs} {a : Live} {t : Nat} (r : Option Clause)
    (h : liveClause (sc.due so.wblk) (whyOf sc so.wblk) so.liveRaw a t = r)
    (hleft : a = .yes → t ≥ sc.due so.wblk → ¬ P_no_goroutine_left sc o)
    (hgone : a = .no → t < sc.due so.wblk → ¬ P_goroutine_while_alive sc o)
    (hbad : a ≠ .yes → a ≠ .no → ¬ P_sess_wellformed sc o) :
    (r = none ∧ ((a = .yes ∧ t < sc.due so.wblk) ∨ (a = .no ∧ sc.due so.wblk ≤ t))) ∨
      ∃ cl, r = some cl ∧ ¬ P_of cl sc o := by
  cases a <;> simp only [liveClause] at h
  · by_cases hc : t ≥ sc.due so.wblk
    · rw [if_pos hc] at h; exact .inr ⟨_, h.symm, hleft rfl hc⟩
    · rw [if_neg hc] at h; exact .inl ⟨h.symm, .inl ⟨rfl, by omega⟩⟩
  · by_cases hc : t < sc.due so.wblk
    · rw [if_pos hc] at h; exact .inr ⟨_, h.symm, hgone rfl hc⟩
    · rw [if_neg hc] at h; exact .inl ⟨h.symm, .inr ⟨rfl, by omega⟩⟩
  · exact .inr ⟨_, h.symm, hbad (by simp) (by simp)⟩
  · exact .inr ⟨_, h.symm, hbad (by simp) (by simp)⟩

theorem logged_read {sc : Scenario} {o : Obs} {so : SessObs} (hs : sc.sess = true) (hso : o.sess = some so)
    (r : Option Clause) (h : loggedClause so.warn o.closes (sc.due so.wblk) (whyOf sc so.wblk) = r) :
    (r = none ∧ P_nothing_logged_after_end sc o) ∨ ∃ cl, r = some cl ∧ ¬ P_of cl sc o := by
  simp only [loggedClause] at h
  cases hf : (so.warn ++ o.closes).find? (· > sc.due so.wblk) with
  | none =>
    rw [hf] at h
    refine .inl ⟨h.symm, fun _ so' e w hw => ?_⟩
    cases Option.some.inj (e.symm.trans hso)
    have := List.find?_eq_none.1 hf w hw
    simp at this; omega
  | some w =>
    rw [hf] at h
    refine .inr ⟨_, h.symm, fun hP => ?_⟩
    have := hP hs so hso w (List.mem_of_find?_eq_some hf)
    have h2 : w > sc.due so.wblk := by simpa using List.find?_some hf
    omega

theorem shut_read {sc : Scenario} {o : Obs} {so : SessObs} (hs : sc.sess = true) (hso : o.sess = some so)
    (r : Option Clause) (h : shutClause so.shut so.wblk o.closes = r) :
    (r = none ∧ P_connection_closed sc o) ∨ ∃ cl, r = some cl ∧ ¬ P_of cl sc o := by
  simp only [shutClause] at h
  cases hc : o.closes with
  | nil =>
    rw [hc] at h
    exact .inl ⟨h.symm, fun _ _ _ c rest hc' => by rw [hc] at hc'; cases hc'⟩
  | cons c rest =>
    rw [hc] at h
    simp only [] at h
    cases hsh : so.shut with
    | none =>
      rw [hsh] at h
      refine .inr ⟨_, h.symm, fun hP => ?_⟩
      obtain ⟨sh, h1, _⟩ := hP hs so hso c rest hc
      rw [hsh] at h1; cases h1
    | some sh =>
      rw [hsh] at h
      simp only [] at h
      by_cases hn : sh ≤ c ∨ sh ≤ so.wblk.getD 0
      · rw [if_pos hn] at h
        refine .inl ⟨h.symm, fun _ so' e c' rest' hc' => ?_⟩
        cases Option.some.inj (e.symm.trans hso)
        rw [hc] at hc'; cases hc'
        exact ⟨sh, hsh, hn⟩
      · rw [if_neg hn] at h
        refine .inr ⟨_, h.symm, fun hP => ?_⟩
        obtain ⟨sh', h1, h2⟩ := hP hs so hso c rest hc
        rw [hsh] at h1; cases h1
        exact hn h2

theorem lives_read {sc : Scenario} {o : Obs} {so : SessObs} (hs : sc.sess = true) (hso : o.sess = some so)
    (r : Option Clause)
    (h : livesClause sc.at1 sc.at2 so.liveOk so.liveRaw so.live1 so.live2 (sc.due so.wblk) (whyOf sc so.wblk) = r) :
    (r = none ∧ P_sess_wellformed sc o ∧ P_no_goroutine_left sc o ∧ P_goroutine_while_alive sc o) ∨
      ∃ cl, r = some cl ∧ ¬ P_of cl sc o := by
  have same : ∀ so', o.sess = some so' → so' = so := fun so' e => Option.some.inj (e.symm.trans hso)
  -- first: every sample agrees with `due`, or a clause is reported that refutes its predicate
  have key : (r = none ∧ so.liveOk = true ∧
        ((so.live2 = .yes ∧ sc.at2 < sc.due so.wblk) ∨ (so.live2 = .no ∧ sc.due so.wblk ≤ sc.at2)) ∧
        ∀ t1, sc.at1 = some t1 →
          (so.live1 = .yes ∧ t1 < sc.due so.wblk) ∨ (so.live1 = .no ∧ sc.due so.wblk ≤ t1)) ∨
      ∃ cl, r = some cl ∧ ¬ P_of cl sc o := by
    simp only [livesClause] at h
    by_cases hl : (!so.liveOk) = true
    · rw [if_pos hl] at h
      refine .inr ⟨_, h.symm, fun hP => ?_⟩
      obtain ⟨so', h1, h2, _⟩ := hP hs
      cases same so' h1
      rw [h2] at hl; simp at hl
    rw [if_neg hl] at h
    have s2 := fun r2 (h2 : liveClause (sc.due so.wblk) (whyOf sc so.wblk) so.liveRaw so.live2 sc.at2 = r2) =>
      live_read (sc := sc) (o := o) r2 h2
        (fun h1 h2 hP => by have := (hP hs so hso).1 h1; omega)
        (fun h1 h2 hP => by have := (hP hs so hso).1 h1; omega)
        (fun h1 h2 hP => by
          obtain ⟨so', e1, _, e3, _⟩ := hP hs
          cases same so' e1
          exact e3.elim h1 h2)
    cases hat : sc.at1 with
    | none =>
      rw [hat] at h
      rcases s2 _ h with ⟨e, l2⟩ | hb
      · exact .inl ⟨e, by simpa using hl, l2, fun t1 ht1 => nomatch ht1⟩
      · exact .inr hb
    | some t1 =>
      rw [hat] at h
      simp only [] at h
      rcases live_read (sc := sc) (o := o) (so := so) (a := so.live1) (t := t1) _ rfl
          (fun h1 h2 hP => by have := (hP hs so hso).2 t1 hat h1; omega)
          (fun h1 h2 hP => by have := (hP hs so hso).2 t1 hat h1; omega)
          (fun h1 h2 hP => by
            obtain ⟨so', e1, _, _, e4⟩ := hP hs
            cases same so' e1
            exact (e4 (by rw [hat]; rfl)).elim h1 h2) with ⟨e1, l1⟩ | ⟨cl, e1, hn⟩
      · rw [e1] at h
        rcases s2 _ h with ⟨e, l2⟩ | hb
        · exact .inl ⟨e, by simpa using hl, l2, fun t ht => by cases ht; exact l1⟩
        · exact .inr hb
      · exact .inr ⟨cl, by rw [← h, e1]; rfl, hn⟩
  rcases key with ⟨e, hok, l2, l1⟩ | hb
  · refine .inl ⟨e, fun _ => ⟨so, hso, hok, l2.imp And.left And.left, fun hx => ?_⟩, fun _ so' e => ?_, fun _ so' e => ?_⟩
    · obtain ⟨t1, ht1⟩ := Option.isSome_iff_exists.1 hx
      exact (l1 t1 ht1).imp And.left And.left
    · cases same so' e
      exact ⟨fun hy => live_agrees_yes l2 hy, fun t1 ht1 hy => live_agrees_yes (l1 t1 ht1) hy⟩
    · cases same so' e
      exact ⟨fun hy => live_agrees_no l2 hy, fun t1 ht1 hy => live_agrees_no (l1 t1 ht1) hy⟩
  · exact .inr hb

theorem monitor_sound (sc : Scenario) (o : Obs) (cl : Clause) (h : monitor sc o = some cl) : ¬ P_of cl sc o := by
  rcases monitor_some h with h | h | h | h | h | h | ⟨hs, h | ⟨hn, rfl⟩ | ⟨so, hso, h | h⟩⟩
  · exact f31_refutes h
  · exact f30_refutes h
  · exact read_some (deadline_read _ h)
  · exact read_some (closing_read _ h)
  · exact read_some (ticks_read _ h)
  · exact quiet_refutes sc h
  · exact read_some (long_read hs _ h)
  · intro hP
    obtain ⟨so, e1, _⟩ := hP hs
    rw [hn] at e1; cases e1
  · exact afterClose_refutes hs h
  · simp only [sessClause] at h
    rcases Option.alt_eq_some.1 h with h | ⟨-, h⟩
    · exact read_some (logged_read hs hso _ h)
    rcases Option.alt_eq_some.1 h with h | ⟨-, h⟩
    · exact read_some (shut_read hs hso _ h)
    · exact read_some (lives_read hs hso _ h)

theorem monitor_complete (sc : Scenario) (o : Obs) (h : monitor sc o = none) (cl : Clause) : P_of cl sc o := by
  obtain ⟨_, _, hdl, hcl, htk, hq, hsess⟩ := monitor_none h
  obtain ⟨c1, c2, c3, c4, c5⟩ := read_none (closing_read _ hcl)
  obtain ⟨t1, t2⟩ := read_none (ticks_read _ htk)
  have hd := read_none (deadline_read _ hdl)
  have hcancel := no_ping_after_cancel_of_schedule t1
  have hquiet : P_quiet sc o := by
    simp only [quietOf] at hq
    by_cases hc : o.exit = true ∧ o.quietAfter = true
    · exact hc
    · rw [if_neg hc] at hq; cases hq
  have hlong : P_ping_within_timeout sc o := by
    intro hs
    exact read_none (long_read (o := o) hs _ (hsess hs).1) hs
  have hs5 : P_sess_wellformed sc o ∧ P_nothing_logged_after_end sc o ∧ P_connection_closed sc o ∧
      P_no_goroutine_left sc o ∧ P_goroutine_while_alive sc o := by
    by_cases hs : sc.sess = true
    · obtain ⟨_, so, hso, _, hsc⟩ := hsess hs
      simp only [sessClause] at hsc
      obtain ⟨h1, hsc⟩ := Option.alt_eq_none.1 hsc
      obtain ⟨h2, h3⟩ := Option.alt_eq_none.1 hsc
      obtain ⟨l1, l2, l3⟩ := read_none (lives_read hs hso _ h3)
      exact ⟨l1, read_none (logged_read hs hso _ h1), read_none (shut_read hs hso _ h2), l2, l3⟩
    · exact ⟨fun e => absurd e hs, fun e => absurd e hs, fun e => absurd e hs, fun e => absurd e hs,
        fun e => absurd e hs⟩
  obtain ⟨s1, s2, s3, s4, s5⟩ := hs5
  have h31 : P_no_ping_after_end sc o ∧ P_closes_only_if sc o := ⟨t2, c2⟩
  cases cl <;> assumption

/-- The predicates are satisfiable: the model's observation of every scripted-loop or real-session
scenario satisfies all of them. -/
theorem model_satisfies_P_loop (sc : Scenario) (hs : sc.sess = false) (env : Option SessObs) (cl : Clause) :
    P_of cl sc (modelObs sc env) :=
  monitor_complete sc _ (monitor_accepts_model_loop sc hs env) cl

/-- So does the model's observation of every `sessions` scenario, under the two hypotheses of the bridge. -/
theorem model_satisfies_P_sess (sc : Scenario) (hs : sc.sess = true) (env : Option SessObs)
    (hlong : longClause sc.I sc.scripts = none)
    (hshut : shutClause (env.bind (·.shut)) (env.bind (·.wblk)) (modelObs sc env).closes = none) (cl : Clause) :
    P_of cl sc (modelObs sc env) :=
  monitor_complete sc _ (monitor_accepts_model_sess sc hs env hlong hshut) cl

theorem sound_notClosed (sc : Scenario) (o : Obs) {k T} (h : monitor sc o = some (.notClosed k T)) : ¬ P_closes_if sc o :=
  monitor_sound sc o _ h

theorem sound_closedAfterAnswer (sc : Scenario) (o : Obs) {c n st T} (h : monitor sc o = some (.closedAfterAnswer c n st T)) : ¬ P_closes_only_if sc o :=
  monitor_sound sc o _ h

theorem sound_closedFewFails (sc : Scenario) (o : Obs) {c m T} (h : monitor sc o = some (.closedFewFails c m T)) : ¬ P_closes_only_if sc o :=
  monitor_sound sc o _ h

theorem sound_closedNoRun (sc : Scenario) (o : Obs) {c T} (h : monitor sc o = some (.closedNoRun c T)) : ¬ P_closes_only_if sc o :=
  monitor_sound sc o _ h

theorem sound_closedWrongPing (sc : Scenario) (o : Obs) {c n T k pk} (h : monitor sc o = some (.closedWrongPing c n T k pk)) : ¬ P_closed_by_closing_ping sc o :=
  monitor_sound sc o _ h

theorem sound_closedBeforePing (sc : Scenario) (o : Obs) {c k pk} (h : monitor sc o = some (.closedBeforePing c k pk)) : ¬ P_close_time_bound sc o :=
  monitor_sound sc o _ h

theorem sound_closedLateOverran (sc : Scenario) (o : Obs) {c b k} (h : monitor sc o = some (.closedLateOverran c b k)) : ¬ P_close_time_bound sc o :=
  monitor_sound sc o _ h

theorem sound_closedLate (sc : Scenario) (o : Obs) {c k pk} (h : monitor sc o = some (.closedLate c k pk)) : ¬ P_close_time_bound sc o :=
  monitor_sound sc o _ h

theorem sound_closedTimes (sc : Scenario) (o : Obs) {n} (h : monitor sc o = some (.closedTimes n)) : ¬ P_closes_once sc o :=
  monitor_sound sc o _ h

theorem sound_wentOn (sc : Scenario) (o : Obs) {m ps} (h : monitor sc o = some (.wentOn m ps)) : ¬ P_no_ping_after_end sc o :=
  monitor_sound sc o _ h

theorem sound_ticksGrid (sc : Scenario) (o : Obs) {ps m I} (h : monitor sc o = some (.ticksGrid ps m I)) : ¬ P_pings_on_schedule sc o :=
  monitor_sound sc o _ h

theorem sound_ticksPending (sc : Scenario) (o : Obs) {ps w I} (h : monitor sc o = some (.ticksPending ps w I)) : ¬ P_pings_on_schedule sc o :=
  monitor_sound sc o _ h

theorem sound_f30 (sc : Scenario) (o : Obs) {a b c} (h : monitor sc o = some (.f30 a b c)) : ¬ P_no_ping_after_cancel sc o :=
  monitor_sound sc o _ h

theorem sound_f31 (sc : Scenario) (o : Obs) {m ps cs} (h : monitor sc o = some (.f31 m ps cs)) :
    ¬ (P_no_ping_after_end sc o ∧ P_closes_only_if sc o) :=
  monitor_sound sc o _ h

theorem sound_deadlineAll (sc : Scenario) (o : Obs) {v I} (h : monitor sc o = some (.deadlineAll v I)) : ¬ P_fresh_deadline sc o :=
  monitor_sound sc o _ h

theorem sound_deadlineShort (sc : Scenario) (o : Obs) {j a v I} (h : monitor sc o = some (.deadlineShort j a v I)) : ¬ P_fresh_deadline sc o :=
  monitor_sound sc o _ h

theorem sound_deadlineLong (sc : Scenario) (o : Obs) {j a v I} (h : monitor sc o = some (.deadlineLong j a v I)) : ¬ P_fresh_deadline sc o :=
  monitor_sound sc o _ h

theorem sound_notQuiet (sc : Scenario) (o : Obs) (h : monitor sc o = some .notQuiet) : ¬ P_quiet sc o :=
  monitor_sound sc o _ h

theorem sound_pingLong (sc : Scenario) (o : Obs) {j d I} (h : monitor sc o = some (.pingLong j d I)) : ¬ P_ping_within_timeout sc o :=
  monitor_sound sc o _ h

theorem sound_pingAfterClose (sc : Scenario) (o : Obs) {p tc} (h : monitor sc o = some (.pingAfterClose p tc)) : ¬ P_no_ping_after_cancel sc o :=
  monitor_sound sc o _ h

theorem sound_loggedAfterEnd (sc : Scenario) (o : Obs) {w due why} (h : monitor sc o = some (.loggedAfterEnd w due why)) : ¬ P_nothing_logged_after_end sc o :=
  monitor_sound sc o _ h

theorem sound_shutLate (sc : Scenario) (o : Obs) {c sh} (h : monitor sc o = some (.shutLate c sh)) : ¬ P_connection_closed sc o :=
  monitor_sound sc o _ h

theorem sound_shutNever (sc : Scenario) (o : Obs) {c} (h : monitor sc o = some (.shutNever c)) : ¬ P_connection_closed sc o :=
  monitor_sound sc o _ h

theorem sound_goroutineLeft (sc : Scenario) (o : Obs) {t due why} (h : monitor sc o = some (.goroutineLeft t due why)) : ¬ P_no_goroutine_left sc o :=
  monitor_sound sc o _ h

theorem sound_goroutineGone (sc : Scenario) (o : Obs) {t due} (h : monitor sc o = some (.goroutineGone t due)) : ¬ P_goroutine_while_alive sc o :=
  monitor_sound sc o _ h

theorem sound_badLive (sc : Scenario) (o : Obs) {raw} (h : monitor sc o = some (.badLive raw)) : ¬ P_sess_wellformed sc o :=
  monitor_sound sc o _ h

theorem sound_badSess (sc : Scenario) (o : Obs) (h : monitor sc o = some .badSess) : ¬ P_sess_wellformed sc o :=
  monitor_sound sc o _ h

-- Witnesses for ten of the 27 clauses, and a conforming observation that is accepted; the others are not exhibited.
section witnesses
private def a (d : Nat) : Script := { kind := .answer, delay := some d }
private def n : Script := { kind := .answer, delay := none }  -- never answered: `kind` is not looked at (`observe`)
private def m (d : Nat) : Script := { kind := .mnf, delay := some d }
private def scn (T : Int) (scripts : List Script) (tc : Nat) : Scenario :=
  { real := false, I := 1000, t0 := T, scripts := scripts, tc := tc }
private def ob (pings closes : List Nat) : Obs :=
  { pings := pings, to := .all 500, closes := closes, exit := true, quietAfter := true, sess := none }

example : monitor (scn 2 [a 10, n, n] 3750) (ob [1000, 2000, 3000] [3500]) = none := by decide +kernel
example : monitor (scn 2 [a 10, n, n] 3750) (ob [1000, 2000, 3000] []) = some (.notClosed 3 2) := by decide +kernel
example : monitor (scn 2 [a 10, n, a 5] 3750) (ob [1000, 2000, 3000] [3005]) =
    some (.closedAfterAnswer 3005 3 3000 2) := by decide +kernel
example : monitor (scn 3 [a 10, n, n] 3750) (ob [1000, 2000, 3000] [3500]) = some (.closedFewFails 3500 2 3) := by decide +kernel
example : monitor (scn 2 [a 10, n, n] 3750) (ob [1000, 2000, 3000] [3600]) = some (.closedLate 3600 3 3000) := by decide +kernel
example : monitor (scn 2 [m 10, n, n] 3750) (ob [1000, 2000] []) = some (.wentOn 1 [1000, 2000]) := by decide +kernel
example : monitor { scn 1 [m 3, a 11] 2750 with real := true, transientMnf := [1] }
    { ob [1000] [1003] with to := .none } = some (.f31 1 [1000] [1003]) := by decide +kernel
example : monitor (scn 2 [a 10, a 10] 2750) (ob [1000, 2500] []) = some (.ticksGrid [1000, 2500] 2 1000) := by decide +kernel
example : monitor (scn 2 [a 10] 1750) { ob [1000] [] with to := .all 250 } = some (.deadlineAll 250 1000) := by decide +kernel
example : monitor (scn 2 [a 10] 1750) { ob [1000] [] with exit := false } = some .notQuiet := by decide +kernel
example : monitor { scn 1 [a 10] 1750 with sess := true, at2 := 5000 } (ob [1000] []) = some .badSess := by decide +kernel
end witnesses

end KeepAlive
