import McpModel.KeepAlive.Props
import McpModel.KeepAlive.Monitor
/-!
# Bridge between the C13 monitor and the model (E9)

`monitor_accepts_model_loop` / `_sess`: for ALL intervals, configured thresholds, ping outcome patterns (answered /
method-not-found / other error after any delay, never, overrunning pings) and cancellation instants,
for the scripted loop (`ka`), real sessions (`kas`) and the stream `sessions` (`kss`), the monitor of
Monitor.lean raises no clause on the observation the model produces (`modelObs`: `runCancel`,
`warnsCancel`, `endAt`).  The monitor's own reading of a scenario — its schedule of pending ticks
(`specSched`), its outcome classes, its closing tick (`specCloseTick`) — is shown to be the model's (the schedule:
`specSched_eq_sim`, then `sim_get`, `startOf_sim`, `sim_outcomes`, `sim_starts`, which every clause proof goes through;
the closing tick: `specCloseTick_model`), and every clause is discharged with the property theorems of Props.lean.

The monitor has its own vocabulary for the schedule (it does not use the model's definitions); the dictionary:
`specNext` = `nextStart` (`specNext_eq`), `specT` = `threshold` (`specT_eq`), `specDur` / `specOutcome` = duration / class of
`observe` (`specDur_eq`, `specOutcome_eq`), `startOf` / `stopOf` of the schedule = `pingStart` / `pingEnd` (`startOf_sim`),
the classes 0/1/2 = `Outcome.ok/mnf/fail` (`code`; `specCloseTick_iff` restates the closing tick on outcomes).
-/
namespace KeepAlive
open Generated.KeepAlive

/-- The class of an outcome as the monitor numbers them (`specOutcome`): 0 answered in time, 1 method-not-found, 2 failed. -/
def code : Outcome → Nat
  | .ok _ => 0
  | .mnf _ => 1
  | .fail _ => 2

theorem specDur_eq (I : Nat) (s : Script) : specDur I s = (observe (pingTimeout I) s).dur := by
  simp only [specDur, observe, pingTimeout]
  cases s.delay with
  | none => rfl
  | some d =>
    by_cases h1 : d < I / 2 <;> cases h2 : s.honours <;> cases s.kind <;> simp [h1, Outcome.dur]

theorem specOutcome_eq (I : Nat) (s : Script) : specOutcome I s = code (observe (pingTimeout I) s) := by
  simp only [specOutcome, observe, pingTimeout]
  cases s.delay with
  | none => rfl
  | some d =>
    by_cases h1 : d < I / 2 <;> cases h2 : s.honours <;> cases s.kind <;> simp [h1, code]

theorem specNext_eq (I last free : Nat) : specNext I last free = nextStart I last free := by
  simp only [specNext, nextStart, gridAfter]
  split <;> omega

def mkPing (I p : Nat) (s : Script) : SpecPing :=
  { start := p, stop := p + specDur I s, outcome := specOutcome I s, overran := ! s.honours && specDur I s > I / 2 }

/-- The schedule of a loop that goes on pinging, without the cut at the cancellation. -/
def simFrom (I : Nat) : Nat → Nat → List Script → List SpecPing
  | _, _, [] => []
  | last, free, s :: t =>
    mkPing I (specNext I last free) s :: simFrom I (specNext I last free) (specNext I last free + specDur I s) t

theorem specSched_eq_sim (I tc : Nat) : ∀ (scs : List Script) (last free : Nat),
    specSched I tc last free scs = simFrom I last free (scs.take (pingsBeforeFrom I tc last free scs)) := by
  intro scs
  induction scs with
  | nil => intro last free; rfl
  | cons s t ih =>
    intro last free
    simp only [specSched, pingsBeforeFrom, ← specNext_eq, ← specDur_eq]
    by_cases h : specNext I last free < tc
    · simp only [h, if_true, List.take_succ_cons, simFrom, mkPing, ih]
    · simp only [h, if_false, List.take_zero, simFrom]

theorem simFrom_get (I : Nat) : ∀ (scs : List Script) (t : Tm) (k : Nat) (sc : Script), scs[k]? = some sc →
    (simFrom I t.last t.free scs)[k]? =
      some (mkPing I (tmFrom I t (obsOf I (scs.take (k + 1)))).last sc)
  | [], _, _, _, h => by cases h
  | a :: rest, t, 0, sc, h => by
    cases h
    simp [simFrom, obsOf, tmFrom, tmStep, specNext_eq]
  | a :: rest, t, k + 1, sc, h => by
    have := simFrom_get I rest (tmStep I t (observe (pingTimeout I) a)) k sc (by simpa using h)
    simpa [simFrom, obsOf, tmFrom_cons, tmStep, specNext_eq, specDur_eq] using this

theorem sim_get (I : Nat) (scs : List Script) : ∀ (k : Nat) (sc : Script), scs[k]? = some sc →
    (simFrom I 0 0 scs)[k]? = some (mkPing I (pingStart I scs (k + 1)) sc) ∧
    pingEnd I scs (k + 1) = pingStart I scs (k + 1) + specDur I sc := by
  intro k sc hsc
  have ho : (obsOf I scs)[k]? = some (observe (pingTimeout I) sc) := by simp [obsOf, hsc]
  refine ⟨?_, by rw [specDur_eq]; exact (pStart_succ I _ k _ ho).2⟩
  have := simFrom_get I scs {} k sc hsc
  simpa [pingStart, pStart, tm, obsOf, List.map_take] using this

theorem startOf_sim (I : Nat) (scs : List Script) (k : Nat) (hk : k ≤ scs.length) :
    startOf (simFrom I 0 0 scs) k = pingStart I scs k ∧ stopOf (simFrom I 0 0 scs) k = pingEnd I scs k := by
  cases k with
  | zero =>
    simp [startOf, stopOf, pingStart, pingEnd, pStart_zero]
  | succ k =>
    have hk' : k < scs.length := by omega
    obtain ⟨h1, h2⟩ := sim_get I scs k scs[k] (List.getElem?_eq_getElem hk')
    simp [startOf, stopOf, h1, mkPing, h2]

theorem sim_outcomes (I : Nat) : ∀ (scs : List Script) (l f : Nat),
    (simFrom I l f scs).map (·.outcome) = (obsOf I scs).map code
  | [], _, _ => rfl
  | s :: t, l, f => by
    have ih := sim_outcomes I t (specNext I l f) (specNext I l f + specDur I s)
    simp only [obsOf] at ih
    simp [simFrom, mkPing, obsOf, specOutcome_eq, ih]

theorem sim_starts (I : Nat) (scs : List Script) (m : Nat) (hm : m ≤ scs.length) :
    ((simFrom I 0 0 scs).take m).map (·.start) = (List.range m).map (fun j => pingStart I scs (j + 1)) := by
  apply List.ext_getElem?
  intro k
  by_cases hk : k < m
  · have hk' : k < scs.length := by omega
    obtain ⟨h1, _⟩ := sim_get I scs k scs[k] (List.getElem?_eq_getElem hk')
    simp [hk, h1, mkPing]
  · simp [List.getElem?_take, hk]

theorem find_range_some (p : Nat → Bool) : ∀ (n k : Nat),
    (List.range n).find? p = some k ↔ k < n ∧ p k = true ∧ ∀ j, j < k → p j = false := by
  intro n k
  simp only [List.find?_range_eq_some, List.mem_range, Bool.not_eq_true']
  exact ⟨fun ⟨a, b, c⟩ => ⟨b, a, c⟩, fun ⟨a, b, c⟩ => ⟨b, a, c⟩⟩

theorem find_range_none (p : Nat → Bool) (n : Nat) :
    (List.range n).find? p = none ↔ ∀ j, j < n → p j = false := by
  simp only [List.find?_range_eq_none, Bool.not_eq_true']

theorem specCloseTick_eq_some (T : Nat) (cs : List Nat) (k : Nat) :
    specCloseTick T cs = some k ↔
      T ≤ k ∧ k ≤ cs.length ∧ (∀ c ∈ (cs.take k).drop (k - T), c = 2) ∧ (∀ c ∈ cs.take k, c ≠ 1) ∧
      ∀ k', k' < k → T ≤ k' → ∃ c ∈ (cs.take k').drop (k' - T), c ≠ 2 := by
  have hfind : ∀ k', (List.range (cs.length + 1)).find?
        (fun k => decide (T ≤ k) && ((cs.take k).drop (k - T)).all (· == 2)) = some k' ↔
      (T ≤ k' ∧ k' ≤ cs.length ∧ (∀ c ∈ (cs.take k').drop (k' - T), c = 2) ∧
       ∀ j, j < k' → T ≤ j → ∃ c ∈ (cs.take j).drop (j - T), c ≠ 2) := by
    intro k'
    simp only [find_range_some, Bool.and_eq_true, decide_eq_true_eq, List.all_eq_true, beq_iff_eq,
      Bool.and_eq_false_imp, List.all_eq_false, Nat.lt_succ_iff]
    exact ⟨fun ⟨a, ⟨b, c⟩, d⟩ => ⟨b, a, c, d⟩, fun ⟨b, a, c, d⟩ => ⟨a, ⟨b, c⟩, d⟩⟩
  unfold specCloseTick
  cases hf : (List.range (cs.length + 1)).find? _ with
  | none =>
    simp only [reduceCtorEq, false_iff]
    rintro ⟨r1, r2, r3, _, r5⟩
    rw [(hfind k).2 ⟨r1, r2, r3, r5⟩] at hf; cases hf
  | some k' =>
    obtain ⟨f1, f2, f3, f4⟩ := (hfind k').1 hf
    have found : ∀ {k}, (T ≤ k ∧ k ≤ cs.length ∧ (∀ c ∈ (cs.take k).drop (k - T), c = 2) ∧ (∀ c ∈ cs.take k, c ≠ 1) ∧
        ∀ k', k' < k → T ≤ k' → ∃ c ∈ (cs.take k').drop (k' - T), c ≠ 2) → k' = k := by
      rintro k ⟨r1, r2, r3, _, r5⟩
      have := (hfind k).2 ⟨r1, r2, r3, r5⟩
      rw [hf] at this; exact Option.some.inj this
    by_cases hm : (cs.take k').any (· == 1) = true
    · simp only [hm, if_true, reduceCtorEq, false_iff]
      intro r
      obtain ⟨c, hc, h1⟩ := List.any_eq_true.1 hm
      exact r.2.2.2.1 c (found r ▸ hc) (by simpa using h1)
    · simp only [hm, Bool.false_eq_true, if_false, Option.some.injEq]
      refine ⟨?_, found⟩
      rintro rfl
      exact ⟨f1, f2, f3, fun c hc h1 => hm (List.any_eq_true.2 ⟨c, hc, by simp [h1]⟩), f4⟩

theorem code_fail (o : Outcome) : (code o == 2) = o.isFail := by cases o <;> rfl
theorem code_mnf (o : Outcome) : (code o == 1) = o.isMnf := by cases o <;> rfl
theorem code_ok (o : Outcome) : (code o == 0) = true ↔ ∃ d, o = .ok d := by
  cases o <;> simp [code]

theorem exists_mem_map {α β : Type} {f : α → β} {l : List α} {P : β → Prop} :
    (∃ b ∈ l.map f, P b) ↔ ∃ a ∈ l, P (f a) :=
  ⟨fun ⟨_, h, hp⟩ => let ⟨a, ha, e⟩ := List.mem_map.1 h; ⟨a, ha, e ▸ hp⟩,
   fun ⟨a, ha, hp⟩ => ⟨f a, List.mem_map_of_mem ha, hp⟩⟩

/-- `specCloseTick` finds exactly the tick of `closes_iff_T_consecutive`. -/
theorem specCloseTick_iff (T : Nat) (os : List Outcome) (k : Nat) :
    specCloseTick T (os.map code) = some k ↔
      (T ≤ k ∧ k ≤ os.length ∧ (∀ o ∈ (os.take k).drop (k - T), o.isFail = true) ∧
       (∀ o ∈ os.take k, o.isMnf = false) ∧
       (∀ k', k' < k → T ≤ k' → ∃ o ∈ (os.take k').drop (k' - T), o.isFail = false)) := by
  simp only [specCloseTick_eq_some, List.length_map, ← List.map_take, ← List.map_drop, List.forall_mem_map,
    exists_mem_map, ← code_fail, ← code_mnf, beq_iff_eq, beq_eq_false_iff_ne]

theorem specCloseTick_model (I : Nat) (t0 : Int) (scs : List Script) :
    specCloseTick (threshold t0) ((obsOf I scs).map code) =
      if (run I t0 scs).status = .closed then some (run I t0 scs).tick else none := by
  cases hk : specCloseTick (threshold t0) ((obsOf I scs).map code) with
  | some k =>
    have := (closes_iff_T_consecutive I t0 scs k).2 ((specCloseTick_iff _ _ _).1 hk)
    simp [this.1, this.2]
  | none =>
    by_cases hc : (run I t0 scs).status = .closed
    · have := (specCloseTick_iff _ _ _).2 ((closes_iff_T_consecutive I t0 scs _).1 ⟨hc, rfl⟩)
      rw [hk] at this; cases this
    · simp [hc]

theorem specT_eq (t0 : Int) : specT t0 = threshold t0 := (threshold_norm t0).symm

theorem any_mnf_running (I : Nat) (t0 : Int) (scs : List Script) (h : (run I t0 scs).status = .running) :
    ((obsOf I scs).map code).any (· == 1) = false := by
  obtain ⟨_, hst⟩ := inv_run I t0 scs
  rw [h] at hst
  simp only [List.any_eq_false, List.forall_mem_map, code_mnf, Bool.not_eq_true]
  exact hst.2.2.2.1

theorem endTick_model (I : Nat) (t0 : Int) (scs : List Script) :
    endTick (specCloseTick (threshold t0) ((obsOf I scs).map code)) ((obsOf I scs).map code) = (run I t0 scs).tick := by
  rw [specCloseTick_model]
  obtain ⟨_, hst⟩ := inv_run I t0 scs
  cases hs : (run I t0 scs).status with
  | closed => simp [endTick]
  | running =>
    have : ((obsOf I scs).map code).findIdx? (· == 1) = none := by
      rw [List.findIdx?_eq_none_iff]
      intro x hx
      simpa using List.any_eq_false.1 (any_mnf_running I t0 scs hs) x hx
    simp [endTick, this, run_running_tick I t0 scs hs, obsOf_length]
  | stopped =>
    rw [hs] at hst
    obtain ⟨d, h1, h2, h3, _, _, h6⟩ := hst
    have : ((obsOf I scs).map code).findIdx? (· == 1) = some ((run I t0 scs).tick - 1) := by
      obtain ⟨hlt, hget⟩ := List.getElem?_eq_some_iff.1 h3
      rw [List.findIdx?_eq_some_iff_getElem]
      refine ⟨by simpa using hlt, by simp [hget, code], ?_⟩
      intro j hj
      simp only [List.getElem_map, code_mnf, Bool.not_eq_true]
      exact h6 _ (List.mem_take_iff_getElem.2 ⟨j, by rw [Nat.lt_min]; omega, rfl⟩)
    simp only [endTick, reduceCtorEq, if_false, this]
    omega

theorem closing_accepts (I : Nat) (t0 : Int) (pre : List Script) :
    closingClause I (threshold t0) (simFrom I 0 0 pre) ((obsOf I pre).map code)
      (specCloseTick (threshold t0) ((obsOf I pre).map code)) (run I t0 pre).pings (run I t0 pre).closeAt.toList = none := by
  rw [specCloseTick_model]
  by_cases hc : (run I t0 pre).status = .closed
  · obtain ⟨c, h1, _, h3, h4, h5, _⟩ := close_time_bound I t0 pre hc
    have hlen : (run I t0 pre).pings.length = (run I t0 pre).tick := by
      rw [(pings_at_pending_ticks I t0 pre).1]; simp
    have htl := run_tick_le_length I t0 pre
    obtain ⟨hs1, hs2⟩ := startOf_sim I pre (run I t0 pre).tick htl
    obtain ⟨hf, hl⟩ := run_free I t0 pre
    rcases run_clock I t0 pre with ⟨h0, _⟩ | ⟨sc, hsc, hk1, hfree, _⟩
    · obtain ⟨_, hst⟩ := inv_run I t0 pre
      rw [hc] at hst
      obtain ⟨d, k1, _⟩ := hst
      omega
    · obtain ⟨g1, _⟩ := sim_get I pre ((run I t0 pre).tick - 1) sc hsc
      simp only [hc, if_true, h1, Option.toList_some, closingClause, hlen, hs1, hs2, ← hl, ← hf, g1,
        Option.map_some, Option.getD_some, mkPing]
      have hc3 : c = (run I t0 pre).free := h3
      have hnot1 : ¬ ((run I t0 pre).tick < (run I t0 pre).tick ∨
          ((run I t0 pre).tick > (run I t0 pre).tick ∧
            (c < (run I t0 pre).last ∨ c ≥ specNext I (run I t0 pre).last (run I t0 pre).free))) := by omega
      simp only [hnot1, if_false]
      have hnot2 : ¬ c < (run I t0 pre).last := by omega
      simp only [hnot2, if_false]
      cases hov : (!sc.honours && decide (specDur I sc > I / 2)) with
      | true =>
        simp only [if_true]
        have : ¬ c > (run I t0 pre).free := by omega
        simp [this]
      | false =>
        simp only [Bool.false_eq_true, if_false]
        have hle : c ≤ (run I t0 pre).last + I / 2 := by
          cases hh : sc.honours with
          | true => exact h5 sc hsc hh
          | false =>
            rw [hh] at hov
            simp only [Bool.not_false, Bool.true_and, decide_eq_false_iff_not] at hov
            rw [hc3, hfree, ← specDur_eq]; omega
        have : ¬ c > (run I t0 pre).last + I / 2 := by omega
        simp [this]
  · simp [hc, run_closeAt_none I t0 pre hc, closingClause]

theorem ticks_accepts (I : Nat) (t0 : Int) (pre : List Script) :
    ticksClause I (simFrom I 0 0 pre) (run I t0 pre).tick (run I t0 pre).pings = none := by
  have h := sim_starts I pre (run I t0 pre).tick (run_tick_le_length I t0 pre)
  simp only [ticksClause, h, ← (pings_at_pending_ticks I t0 pre).1, beq_self_eq_true, if_true]

theorem f30_accepts (I tc : Nat) (sched : List SpecPing) (pings : List Nat) (h : ∀ p ∈ pings, p < tc) :
    f30Shape I tc sched pings = none := by
  simp only [f30Shape]
  cases sched.getLast? with
  | none => rfl
  | some l =>
    simp only []
    split
    · rename_i hc
      obtain ⟨h1, _, h3⟩ := hc
      have := h l.stop (by simpa using h3)
      omega
    · rfl

theorem afterClose_accepts (I tc : Nat) (sched : List SpecPing) (pings : List Nat) (h : ∀ p ∈ pings, p < tc) :
    afterCloseClause I tc sched pings = none := by
  have : pings.find? (· ≥ tc) = none := by
    rw [List.find?_eq_none]
    intro p hp
    have := h p hp
    simp; omega
  simp [afterCloseClause, this]

/-- The shape keepalive-F31 does not occur in the model: when the peer reports ping as unsupported the
loop stops with that ping and does not close. -/
theorem f31_accepts (tm : List Nat) (t0 : Int) (I : Nat) (pre : List Script) :
    f31Shape tm ((obsOf I pre).map code) (specCloseTick (threshold t0) ((obsOf I pre).map code)) (run I t0 pre).tick
      (run I t0 pre).pings (run I t0 pre).closeAt.toList = none := by
  simp only [f31Shape]
  rw [if_neg]
  rintro ⟨h1, h2, _, h4⟩
  rw [specCloseTick_model] at h1
  have hlen : (run I t0 pre).pings.length = (run I t0 pre).tick := by
    rw [(pings_at_pending_ticks I t0 pre).1]; simp
  obtain ⟨_, hst⟩ := inv_run I t0 pre
  cases hs : (run I t0 pre).status with
  | closed => simp [hs] at h1
  | running => rw [any_mnf_running I t0 pre hs] at h2; cases h2
  | stopped =>
    rw [hs] at hst
    obtain ⟨d, _, _, _, h5, _⟩ := hst
    rcases h4 with h4 | h4
    · rw [hlen] at h4; omega
    · rw [h5] at h4; exact h4 rfl

theorem deadline_accepts (I : Nat) (pings : List Nat) : deadlineClause I pings (.all (pingTimeout I)) = none := by
  simp [deadlineClause, pingTimeout]

theorem monitor_accepts_model_loop (sc : Scenario) (hs : sc.sess = false) (env : Option SessObs) :
    monitor sc (modelObs sc env) = none := by
  obtain ⟨_, hcl, hp, _⟩ := (silent_stop sc.I sc.t0 sc.scripts).2 sc.tc
  have hlt := cancel_stops_pings sc.I sc.t0 sc.scripts sc.tc
  have hsched : specSched sc.I sc.tc 0 0 sc.scripts = simFrom sc.I 0 0 (sc.scripts.take (pingsBefore sc.I sc.tc sc.scripts)) :=
    specSched_eq_sim sc.I sc.tc sc.scripts 0 0
  generalize hpre : sc.scripts.take (pingsBefore sc.I sc.tc sc.scripts) = pre at hp hcl hsched
  have hf30 := f30_accepts sc.I sc.tc (simFrom sc.I 0 0 pre) _ hlt
  rw [hp] at hf30
  simp only [monitor, hs, modelObs, hsched, sim_outcomes, specT_eq, endTick_model sc.I sc.t0 pre, hp, hcl,
    closing_accepts sc.I sc.t0 pre, ticks_accepts sc.I sc.t0 pre, hf30, f31_accepts sc.transientMnf sc.t0 sc.I pre,
    Bool.false_eq_true, if_false, ite_self]
  by_cases hr : sc.real = true ∨ (run sc.I sc.t0 pre).pings.isEmpty = true
  · simp only [hr, if_true]; rfl
  · simp only [hr, if_false, deadline_accepts]; rfl

/-- The instant at which keep-alive has to have ended, computed by the monitor on the model's
schedule, is the instant at which the model's goroutine returns (`endAt`, or the end of a transport
write that blocks the session's Close). -/
theorem due_model (I : Nat) (t0 : Int) (scs : List Script) (tc : Nat) (wblk : Option Nat) :
    (dueOf tc (simFrom I 0 0 (scs.take (pingsBefore I tc scs))) ((obsOf I (scs.take (pingsBefore I tc scs))).map code)
        (specCloseTick (threshold t0) ((obsOf I (scs.take (pingsBefore I tc scs))).map code))
        (run I t0 (scs.take (pingsBefore I tc scs))).tick wblk).1 =
      max (endAt I t0 scs tc)
        (if (run I t0 (scs.take (pingsBefore I tc scs))).status = .closed then wblk.getD 0 else 0) := by
  generalize hpre : scs.take (pingsBefore I tc scs) = pre
  have hstop : stopOf (simFrom I 0 0 pre) (run I t0 pre).tick = (run I t0 pre).free := by
    rw [(startOf_sim I pre _ (run_tick_le_length I t0 pre)).2, (run_free I t0 pre).1]
  rw [specCloseTick_model]
  obtain ⟨_, hst⟩ := inv_run I t0 pre
  cases hs : (run I t0 pre).status with
  | running =>
    have hany := any_mnf_running I t0 pre hs
    have he := endAt_running I t0 scs tc (by rw [hpre]; exact hs)
    rw [hpre] at he
    simp [dueOf, hany, hstop, he]
  | closed =>
    have he := endAt_ended I t0 scs tc (by rw [hpre, hs]; simp)
    rw [hpre] at he
    simp [dueOf, hstop, he]
  | stopped =>
    rw [hs] at hst
    obtain ⟨d, h1, h2, h3, _⟩ := hst
    have hany : ((obsOf I pre).map code).any (· == 1) = true := by
      rw [List.any_eq_true]
      refine ⟨1, ?_, rfl⟩
      apply List.mem_map.2
      exact ⟨.mnf d, List.mem_of_getElem? h3, rfl⟩
    have he := endAt_ended I t0 scs tc (by rw [hpre, hs]; simp)
    rw [hpre] at he
    simp [dueOf, hany, hstop, he]

theorem liveClause_model (due : Nat) (why : Why) (raw : String) (t : Nat) :
    liveClause due why raw (if t < due then Live.yes else Live.no) t = none := by
  by_cases h : t < due
  · simp only [h, if_true, liveClause]
    have : ¬ t ≥ due := by omega
    simp [this]
  · simp [h, liveClause]

/-- **monitor_accepts_model (stream `sessions`, records `kss`).** On the model's observation of ANY
session scenario whose observed pings honour their deadline unless their write was blocked (`longClause`
is a check of the given outcome pattern, not of the loop), and whatever the transport did with the
connection as long as it closed it when keep-alive closed the session (`shutClause`: the closing of the
connection is not the loop's and is copied from the implementation's observation), the monitor raises
no clause. -/
theorem monitor_accepts_model_sess (sc : Scenario) (hs : sc.sess = true) (env : Option SessObs)
    (hlong : longClause sc.I sc.scripts = none)
    (hshut : shutClause (env.bind (·.shut)) (env.bind (·.wblk)) (modelObs sc env).closes = none) :
    monitor sc (modelObs sc env) = none := by
  obtain ⟨_, hcl, hp, hst⟩ := (silent_stop sc.I sc.t0 sc.scripts).2 sc.tc
  have hlt := cancel_stops_pings sc.I sc.t0 sc.scripts sc.tc
  have hsched : specSched sc.I sc.tc 0 0 sc.scripts = simFrom sc.I 0 0 (sc.scripts.take (pingsBefore sc.I sc.tc sc.scripts)) :=
    specSched_eq_sim sc.I sc.tc sc.scripts 0 0
  have hdue := due_model sc.I sc.t0 sc.scripts sc.tc (env.bind (·.wblk))
  obtain ⟨_, hwarn, hcend⟩ := nothing_after_end sc.I sc.t0 sc.scripts sc.tc
  have hshut2 : shutClause (env.bind (·.shut)) (env.bind (·.wblk)) (runCancel sc.I sc.t0 sc.scripts sc.tc).closeAt.toList = none := hshut
  generalize hpre : sc.scripts.take (pingsBefore sc.I sc.tc sc.scripts) = pre at hp hcl hsched hdue hst
  have hf30 := f30_accepts sc.I sc.tc (simFrom sc.I 0 0 pre) _ hlt
  have hafter := afterClose_accepts sc.I sc.tc (simFrom sc.I 0 0 pre) _ hlt
  rw [hp] at hf30 hafter
  rw [hcl] at hshut2
  have hbeq : ((runCancel sc.I sc.t0 sc.scripts sc.tc).status == Status.closed) =
      decide ((run sc.I sc.t0 pre).status = Status.closed) := by
    cases hb : (runCancel sc.I sc.t0 sc.scripts sc.tc).status == Status.closed with
    | true => simp [hst.1 (by simpa using hb)]
    | false =>
      have : ¬ (run sc.I sc.t0 pre).status = Status.closed := fun h => by
        have := hst.2 h; simp [this] at hb
      simp [this]
  -- the model's `e` is the monitor's `due`
  generalize hdv : (dueOf sc.tc (simFrom sc.I 0 0 pre) (List.map code (obsOf sc.I pre))
      (specCloseTick (threshold sc.t0) (List.map code (obsOf sc.I pre))) (run sc.I sc.t0 pre).tick
      (env.bind (·.wblk))) = dw at hdue
  obtain ⟨due, why⟩ := dw
  simp only at hdue
  have hlogged : loggedClause (warnsCancel sc.I sc.t0 sc.scripts sc.tc) (run sc.I sc.t0 pre).closeAt.toList due why = none := by
    simp only [loggedClause]
    have : (warnsCancel sc.I sc.t0 sc.scripts sc.tc ++ (run sc.I sc.t0 pre).closeAt.toList).find? (· > due) = none := by
      rw [List.find?_eq_none]
      intro w hw
      have hle : w ≤ endAt sc.I sc.t0 sc.scripts sc.tc := by
        rcases List.mem_append.1 hw with h | h
        · exact hwarn w h
        · rw [← hcl] at h
          have := hcend w (by simpa using h)
          omega
      have : endAt sc.I sc.t0 sc.scripts sc.tc ≤ due := by rw [hdue]; exact Nat.le_max_left _ _
      simp; omega
    rw [this]
  -- part by part: closing `closing_accepts`, schedule `ticks_accepts`, the two shapes `hf30` / `f31_accepts`, after-close
  -- `hafter`, long pings `hlong`, log records `hlogged`, connection `hshut2`; the deadline part and the live samples are left
  simp only [monitor, hs, modelObs, hsched, sim_outcomes, specT_eq, endTick_model sc.I sc.t0 pre, hp, hcl,
    closing_accepts sc.I sc.t0 pre, ticks_accepts sc.I sc.t0 pre, hf30, f31_accepts sc.transientMnf sc.t0 sc.I pre, hafter,
    hlong, if_true, hbeq, hdv, decide_eq_true_eq, ← hdue, sessClause, hlogged, hshut2, livesClause]
  cases sc.at1 with
  | none =>
    by_cases hr : sc.real = true ∨ (run sc.I sc.t0 pre).pings.isEmpty = true
    · simp only [hr, if_true, liveClause_model]; simp
    · simp only [hr, if_false, deadline_accepts, liveClause_model]; simp
  | some t1 =>
    by_cases hr : sc.real = true ∨ (run sc.I sc.t0 pre).pings.isEmpty = true
    · simp only [hr, if_true, liveClause_model]; simp
    · simp only [hr, if_false, deadline_accepts, liveClause_model]; simp

section witnesses
private def wsc (scripts : List Script) : Scenario :=
  { real := false, I := 1000, t0 := 1, scripts := scripts, tc := 5750, sess := true, at2 := 6000 }
private def wenv (shut : Option Nat) : Option SessObs :=
  some { warn := [], shut := shut, live1 := .unsampled, live2 := .no, liveOk := true, liveRaw := "", wblk := none }

/-- An observed ping that lasted longer than half an interval without its write being blocked is
reported whatever the loop did: `longClause` judges the given pattern. -/
theorem long_hypothesis_needed :
    monitor (wsc [{ kind := .answer, delay := some 600 }]) (modelObs (wsc [{ kind := .answer, delay := some 600 }]) (wenv none)) =
      some (.pingLong 0 600 1000) := by decide +kernel

/-- When the model closes the session and the transport never closed the connection, the monitor
reports it: `shutClause` judges what the transport did. -/
theorem shut_hypothesis_needed :
    monitor (wsc [{ kind := .answer, delay := none }]) (modelObs (wsc [{ kind := .answer, delay := none }]) (wenv none)) =
      some (.shutNever 1500) := by decide +kernel

example : monitor (wsc [{ kind := .answer, delay := none }]) (modelObs (wsc [{ kind := .answer, delay := none }]) (wenv (some 1500))) = none :=
  monitor_accepts_model_sess _ rfl _ (by decide) (by decide)
end witnesses

end KeepAlive
