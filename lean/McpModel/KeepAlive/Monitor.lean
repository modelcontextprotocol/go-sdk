import McpModel.KeepAlive.Model
/-!
E9 — the typed core of the C13 monitor.

The driver (Driver.lean) parses a record into a `Scenario` (interval, configured threshold, the ping
outcome pattern, the cancellation instant; for the stream `sessions` the sampling instants) and the
implementation's observation into an `Obs` (instants of the pings, the time each was given until its
deadline, instants of `Close`, goroutine exit, late activity; for `sessions` also the WARN instants,
the instant the connection was closed, goroutine presence, a blocked transport write), calls
`monitor`, and renders the `Clause` it returns (`Clause.text` in Driver.lean).  Everything that decides WHICH clause of C13 is violated lives here, on typed
data, so that Bridge.lean (no alarm on any behaviour of the model) and Sound.lean (a clause is
reported only if the property clause fails on the observation) can reason about it.

The monitor is the property itself: literal `I/2`, literal `max 1`, the closing tick found by
searching for the first window of `T` consecutive failures, its own schedule of pending ticks —
independent of `KeepAlive.step`/`run` and of the regenerated expressions (`modelObs` at the end of the file is the
model's side of a record and the only part that uses them).  Core Lean only.
-/
namespace KeepAlive

/-! ### Scenario and observation -/

structure Scenario where
  /-- `kas`: a real session against a scripted peer (deadlines, exit, late activity are not observable) -/
  real : Bool
  I : Nat
  t0 : Int
  scripts : List Script
  tc : Nat
  /-- `kss`: stream `sessions` -/
  sess : Bool := false
  at1 : Option Nat := none
  at2 : Nat := 0
  /-- stream `http`: the ticks (1-based) at which the foreign server reported ping as unsupported
  (JSON-RPC -32601) on a TRANSIENT HTTP status (500/502/503/504/429) -/
  transientMnf : List Nat := []

/-- The time each ping was given until its deadline, as reported. -/
inductive Deadlines
  /-- `-` -/
  | none
  /-- one value: all pings were given the same -/
  | all (v : Int)
  /-- `v1/v2/…`, one per ping (`none`: unreadable) -/
  | each (vs : List (Option Int))
deriving DecidableEq, Repr

/-- Whether the keep-alive goroutine was present at a sampling instant. -/
inductive Live
  | yes | no | unsampled | bad
deriving DecidableEq, Repr

/-- The additional observations of the stream `sessions`. -/
structure SessObs where
  /-- instants of the tolerated-miss log records -/
  warn : List Nat
  /-- instant the transport connection was closed (`none`: never) -/
  shut : Option Nat
  live1 : Live
  live2 : Live
  /-- the `live` token had two characters -/
  liveOk : Bool
  /-- the `live` token as printed (for the text of the bad-observation clause) -/
  liveRaw : String
  /-- a transport write of that side was blocked until then -/
  wblk : Option Nat
deriving DecidableEq, Repr

structure Obs where
  pings : List Nat
  to : Deadlines
  closes : List Nat
  /-- the goroutine returned -/
  exit : Bool
  /-- no activity after the loop ended -/
  quietAfter : Bool
  sess : Option SessObs
deriving DecidableEq, Repr

/-! ### The property's reading of a scenario -/

/-- What the property says one ping amounts to: answered / method-not-found / failed, the latter also
when nothing came back within half an interval — unless the ping overran (then its result is what it
returned, however late). 0 = answered, 1 = method-not-found, 2 = failed. -/
def specOutcome (I : Nat) (s : Script) : Nat :=
  match s.delay with
  | none => 2
  | some d =>
    if d < I / 2 ∨ ¬ s.honours then (match s.kind with | .answer => 0 | .mnf => 1 | .error => 2) else 2

/-- The tick at which the property requires `Close`: the least `k` such that outcomes
`k-T+1 … k` all failed, provided no method-not-found occurred up to `k`. -/
def specCloseTick (T : Nat) (os : List Nat) : Option Nat :=
  match (List.range (os.length + 1)).find? (fun k => T ≤ k && ((os.take k).drop (k - T)).all (· == 2)) with
  | some k => if (os.take k).any (· == 1) then none else some k
  | none => none

def trailingFails (os : List Nat) : Nat := (os.reverse.takeWhile (· == 2)).length

/-- How long the property lets one ping last: the scripted delay, at most half an interval — or, for
a ping whose write is blocked, until it returns. -/
def specDur (I : Nat) (s : Script) : Nat :=
  match s.delay with
  | none => I / 2
  | some d => if d < I / 2 ∨ ¬ s.honours then d else I / 2

/-- One ping as the property sees it. -/
structure SpecPing where
  start : Nat
  stop : Nat
  outcome : Nat
  overran : Bool
deriving DecidableEq, Repr

/-- When the next ping is due after a ping issued at `last` and over at `free`: on the next tick of
the grid `I, 2I, …`; a tick that fires while a ping is in flight stays pending (one, not more) and is
served the moment that ping is over. -/
def specNext (I last free : Nat) : Nat :=
  let g := (last / I + 1) * I
  if free > g then free else g

/-- The pings the property expects before instant `tc` from a loop that goes on pinging. -/
def specSched (I tc : Nat) : Nat → Nat → List Script → List SpecPing
  | _, _, [] => []
  | last, free, s :: t =>
    let p := specNext I last free
    if p < tc then
      { start := p, stop := p + specDur I s, outcome := specOutcome I s, overran := ! s.honours && specDur I s > I / 2 }
        :: specSched I tc p (p + specDur I s) t
    else []

/-- The normalised threshold: literal `max 1`. -/
def specT (t0 : Int) : Nat := if t0 < 1 then 1 else t0.toNat

/-- Why keep-alive has to end. -/
inductive Why
  | cancelled (tc : Nat)
  | closedAt (m : Nat)
  | unsupportedAt (m : Nat)
deriving DecidableEq, Repr

/-! ### Clauses -/

inductive Clause
  /-- closes_iff_T_consecutive: pings k+1-T..k all failed but the session was not closed -/
  | notClosed (k T : Nat)
  /-- answer_resets: closed right after a ping the peer answers -/
  | closedAfterAnswer (c n start T : Nat)
  /-- answer_resets: closed after only m consecutive failed pings -/
  | closedFewFails (c m T : Nat)
  /-- closes_iff_T_consecutive: closed although no T consecutive pings failed -/
  | closedNoRun (c T : Nat)
  /-- closes_iff_T_consecutive: closed after the wrong number of pings -/
  | closedWrongPing (c n T k pk : Nat)
  /-- close_time_bound: closed before the closing ping was issued -/
  | closedBeforePing (c k pk : Nat)
  /-- close_time_bound: closed later than the end of the (overrunning) closing ping -/
  | closedLateOverran (c bound k : Nat)
  /-- close_time_bound: closed later than one ping timeout after the closing ping was issued -/
  | closedLate (c k pk : Nat)
  /-- closes_iff_T_consecutive: Close called n times -/
  | closedTimes (n : Nat)
  /-- silent_stop: the loop went on pinging after it had to end -/
  | wentOn (m : Nat) (pings : List Nat)
  /-- pings_at_ticks (expected on the grid) -/
  | ticksGrid (pings : List Nat) (m I : Nat)
  /-- pings_at_ticks (expected schedule with pending ticks) -/
  | ticksPending (pings want : List Nat) (I : Nat)
  /-- silent_stop: keepalive-F30 -/
  | f30 (stop tc start : Nat)
  /-- silent_stop: keepalive-F31 -/
  | f31 (m : Nat) (pings closes : List Nat)
  /-- close_time_bound: the (single) ping deadline is not half the interval -/
  | deadlineAll (v : Int) (I : Nat)
  /-- answer_resets: ping j+1 was given less than a fresh ping timeout -/
  | deadlineShort (j : Nat) (at_ : Option Nat) (v : Option Int) (I : Nat)
  /-- close_time_bound: ping j+1 was given more than half the interval -/
  | deadlineLong (j : Nat) (at_ : Option Nat) (v : Option Int) (I : Nat)
  /-- silent_stop: goroutine or ticker still active after the loop ended -/
  | notQuiet
  /-- ping_done_before_next_tick -/
  | pingLong (j d I : Nat)
  /-- silent_stop: a ping at or after the Close call -/
  | pingAfterClose (p tc : Nat)
  /-- silent_stop: a log record after keep-alive had to end -/
  | loggedAfterEnd (w due : Nat) (why : Why)
  /-- closes_iff_T_consecutive: connection closed later than reported -/
  | shutLate (c sh : Nat)
  /-- closes_iff_T_consecutive: connection never closed -/
  | shutNever (c : Nat)
  /-- silent_stop: goroutine still exists -/
  | goroutineLeft (t due : Nat) (why : Why)
  /-- pings_at_ticks: goroutine gone while keep-alive has not ended -/
  | goroutineGone (t due : Nat)
  | badLive (live : String)
  | badSess
deriving DecidableEq, Repr

/-! ### The checks -/

/-- The shape of keepalive-F30: the ping in flight at the cancellation `tc` ran past a tick, and when it
was over the loop served that pending tick — a ping at the very end of that ping — although it had
been cancelled. -/
def f30Shape (I tc : Nat) (sched : List SpecPing) (pings : List Nat) : Option Clause :=
  match sched.getLast? with
  | some l =>
    if l.stop > tc ∧ l.stop ≥ (l.start / I + 1) * I ∧ pings.contains l.stop then some (.f30 l.stop tc l.start)
    else none
  | none => none

/-- The shape of keepalive-F31: keep-alive has to end with the ping at tick `m`, which the peer answered
"method not found" — on a transient HTTP status, whose body the streamable client drops — and it did
not end: it pinged again, or closed the session. -/
def f31Shape (transientMnf : List Nat) (os : List Nat) (kstar : Option Nat) (m : Nat) (pings closes : List Nat) :
    Option Clause :=
  if kstar.isNone ∧ os.any (· == 1) ∧ transientMnf.contains m ∧ (pings.length > m ∨ closes ≠ []) then
    some (.f31 m pings closes)
  else none

/-- The instant ping `k` (1-based) of the schedule is issued / is over; 0 for `k = 0`. -/
def startOf (sched : List SpecPing) (k : Nat) : Nat := if k = 0 then 0 else ((sched[k - 1]?).map (·.start)).getD 0
def stopOf (sched : List SpecPing) (k : Nat) : Nat := if k = 0 then 0 else ((sched[k - 1]?).map (·.stop)).getD 0

/-- The tick with which keep-alive has to end: the closing tick, else the first method-not-found, else
(cancellation) the last ping issued before the cancellation. -/
def endTick (kstar : Option Nat) (os : List Nat) : Nat :=
  match kstar with
  | some k => k
  | none => match os.findIdx? (· == 1) with
    | some j => j + 1
    | none => os.length

/-- closes_iff_T_consecutive / answer_resets / close_time_bound on the instants of `Close`. -/
def closingClause (I T : Nat) (sched : List SpecPing) (os : List Nat) (kstar : Option Nat)
    (pings closes : List Nat) : Option Clause :=
  match kstar, closes with
  | none, [] => none
  | some k, [] => some (.notClosed k T)
  | none, c :: _ =>
    let seen := os.take pings.length
    let m := trailingFails seen
    if seen.getLast? == some 0 then some (.closedAfterAnswer c seen.length (startOf sched seen.length) T)
    else if 0 < m ∧ m < T ∧ (seen.drop (seen.length - T)).any (· == 0) then some (.closedFewFails c m T)
    else some (.closedNoRun c T)
  | some k, [c] =>
    let pk := startOf sched k
    let overran := ((sched[k - 1]?).map (·.overran)).getD false
    let bound := if overran then stopOf sched k else pk + I / 2
    if pings.length < k ∨ (pings.length > k ∧ (c < pk ∨ c ≥ specNext I pk (stopOf sched k))) then
      some (.closedWrongPing c pings.length T k pk)
    else if c < pk then some (.closedBeforePing c k pk)
    else if c > bound then
      if overran then some (.closedLateOverran c bound k) else some (.closedLate c k pk)
    else none
  | some _, _ => some (.closedTimes closes.length)

/-- pings_at_ticks / the pending-tick schedule / silent_stop on the instants of the pings. -/
def ticksClause (I : Nat) (sched : List SpecPing) (m : Nat) (pings : List Nat) : Option Clause :=
  let want := (sched.take m).map (·.start)
  let onGrid : Bool := want == (List.range m).map (fun j => (j + 1) * I)
  if pings == want then none
  else if pings.length > m ∧ pings.take m == want then some (.wentOn m pings)
  else if onGrid then some (.ticksGrid pings m I)
  else some (.ticksPending pings want I)

/-- The time each ping was given until its deadline must be a fresh half interval. -/
def deadlineClause (I : Nat) (pings : List Nat) (to : Deadlines) : Option Clause :=
  match to with
  | .none => none
  | .all v => if v = (I / 2 : Nat) then none else some (.deadlineAll v I)
  | .each vs =>
    match (vs.zipIdx).find? (fun (v, _) => v != some ((I / 2 : Nat) : Int)) with
    | none => none
    | some (v, j) =>
      let short : Bool := match v with
        | some x => x < (I / 2 : Nat)
        | none => false
      if short then some (.deadlineShort j pings[j]? v I) else some (.deadlineLong j pings[j]? v I)

/-- ping_done_before_next_tick (stream `sessions`): an observed ping that did not have its write
blocked lasted at most half an interval. -/
def longClause (I : Nat) (scripts : List Script) : Option Clause :=
  match (scripts.zipIdx).find? (fun (s, _) => s.honours && (match s.delay with | some d => d > I / 2 | none => false)) with
  | some (s, j) => some (.pingLong j (s.delay.getD 0) I)
  | none => none

/-- silent_stop (stream `sessions`): no ping at or after the Close call. -/
def afterCloseClause (I tc : Nat) (sched : List SpecPing) (pings : List Nat) : Option Clause :=
  match pings.find? (· ≥ tc) with
  | some p => f30Shape I tc sched pings <|> some (.pingAfterClose p tc)
  | none => none

/-- The instant at which keep-alive has to have ended, and why. -/
def dueOf (tc : Nat) (sched : List SpecPing) (os : List Nat) (kstar : Option Nat) (m : Nat) (wblk : Option Nat) :
    Nat × Why :=
  let byCancel : Bool := kstar.isNone ∧ ¬ os.any (· == 1)
  -- when keep-alive closes the session its goroutine returns when session.Close does, and that waits
  -- for transport writes that are blocked (`wblk`)
  let held : Nat := if kstar.isSome then wblk.getD 0 else 0
  (if byCancel then max tc (stopOf sched m) else max (stopOf sched m) held,
   if byCancel then .cancelled tc else if kstar.isSome then .closedAt m else .unsupportedAt m)

def liveClause (due : Nat) (why : Why) (raw : String) (a : Live) (t : Nat) : Option Clause :=
  match a with
  | .yes => if t ≥ due then some (.goroutineLeft t due why) else none
  | .no => if t < due then some (.goroutineGone t due) else none
  | _ => some (.badLive raw)

/-- silent_stop (stream `sessions`): nothing is logged once keep-alive had to end. -/
def loggedClause (warn closes : List Nat) (due : Nat) (why : Why) : Option Clause :=
  match (warn ++ closes).find? (· > due) with
  | some w => some (.loggedAfterEnd w due why)
  | none => none

/-- closes_iff_T_consecutive (stream `sessions`): a session that keep-alive reports as closed has its
connection closed, at the latest when a blocked transport write is through. -/
def shutClause (shut wblk : Option Nat) (closes : List Nat) : Option Clause :=
  match closes with
  | c :: _ =>
    match shut with
    | some sh => if sh ≤ c ∨ sh ≤ wblk.getD 0 then none else some (.shutLate c sh)
    | none => some (.shutNever c)
  | [] => none

/-- silent_stop / pings_at_ticks (stream `sessions`): no goroutine is left once keep-alive had to end;
while it has not ended the goroutine exists. -/
def livesClause (at1 : Option Nat) (at2 : Nat) (liveOk : Bool) (raw : String) (live1 live2 : Live)
    (due : Nat) (why : Why) : Option Clause :=
  if !liveOk then some (.badLive raw)
  else match at1 with
    | some t1 => liveClause due why raw live1 t1 <|> liveClause due why raw live2 at2
    | none => liveClause due why raw live2 at2

/-- The remaining clauses of the stream `sessions` (the property's last sentence). -/
def sessClause (sc : Scenario) (so : SessObs) (closes : List Nat) (due : Nat) (why : Why) : Option Clause :=
  loggedClause so.warn closes due why <|> shutClause so.shut so.wblk closes <|>
    livesClause sc.at1 sc.at2 so.liveOk so.liveRaw so.live1 so.live2 due why

/-- **The C13 monitor of one scenario.** -/
def monitor (sc : Scenario) (o : Obs) : Option Clause :=
  let I := sc.I
  let T := specT sc.t0
  let sched := specSched I sc.tc 0 0 sc.scripts
  let os := sched.map (·.outcome)
  let kstar := specCloseTick T os
  let m := endTick kstar os
  let closing := closingClause I T sched os kstar o.pings o.closes
  let ticks := ticksClause I sched m o.pings
  let f30 : Option Clause :=
    if kstar.isNone ∧ ¬ os.any (· == 1) ∧ ¬ sc.real then f30Shape I sc.tc sched o.pings else none
  let deadline : Option Clause := if sc.real ∨ o.pings.isEmpty then none else deadlineClause I o.pings o.to
  let quiet : Option Clause := if o.exit ∧ o.quietAfter then none else some .notQuiet
  f31Shape sc.transientMnf os kstar m o.pings o.closes <|>
  if sc.sess then
    match o.sess with
    | none => f30 <|> deadline <|> longClause I sc.scripts <|> closing <|> ticks <|> some .badSess <|> quiet
    | some so =>
      let (due, why) := dueOf sc.tc sched os kstar m so.wblk
      f30 <|> deadline <|> longClause I sc.scripts <|> afterCloseClause I sc.tc sched o.pings <|>
        closing <|> ticks <|> sessClause sc so o.closes due why <|> quiet
  else f30 <|> closing <|> deadline <|> ticks <|> quiet

/-! ### The model's observation -/

/-- What the model says of a scenario: `runCancel` (pings, closing instant), `warnsCancel`, `endAt`.
`shut` and `wblk` depend on the peer and the transport, not on the loop: they are copied from the
implementation's observation (`env`). -/
def modelObs (sc : Scenario) (env : Option SessObs) : Obs :=
  let s := runCancel sc.I sc.t0 sc.scripts sc.tc
  let to : Deadlines :=
    if sc.real ∨ s.pings.isEmpty then .none else .all (Generated.KeepAlive.pingTimeout sc.I)
  let sess : Option SessObs :=
    if sc.sess then
      let wblk := env.bind (·.wblk)
      -- the goroutine returns when its call of session.Close returns, and that waits for blocked writes
      let held : Nat := if s.status == .closed then wblk.getD 0 else 0
      let e := max (endAt sc.I sc.t0 sc.scripts sc.tc) held
      let alive (t : Nat) : Live := if t < e then .yes else .no
      let a1 : Live := match sc.at1 with
        | some t => alive t
        | none => .unsampled
      some { warn := warnsCancel sc.I sc.t0 sc.scripts sc.tc, shut := env.bind (·.shut), live1 := a1,
             live2 := alive sc.at2, liveOk := true, liveRaw := "", wblk := wblk }
    else none
  { pings := s.pings, to := to, closes := s.closeAt.toList, exit := true, quietAfter := true, sess := sess }

end KeepAlive
