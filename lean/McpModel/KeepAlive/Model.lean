import McpModel.Generated.KeepAliveGen
/-
E9 — model of `mcp.startKeepalive` (mcp/shared.go).  Serves C13.

The keep-alive goroutine is a loop over ticker ticks.  The ticker fires at the grid instants `k·I`
(k = 1, 2, …); on a tick the loop issues one ping with its own deadline — `pingTimeout I`
(regenerated: `I/2`) after the instant the ping is ISSUED, whatever the tick's own timestamp — and
waits for it.  What the peer does with that ping is the input (`Script`): after `delay` ns it answers,
reports method-not-found, or fails with another error — or it never answers.

A ping that honours its context (`honours = true`: the contract of `keepaliveSession.Ping`,
implemented literally by the harness's scripted session) and whose scripted delay is not below the
deadline ends *at* the deadline with the context's error (a failure).  Then every ping lasts at most
`pingTimeout I < I`, no tick is ever dropped and "the k-th ping" is "tick k"
(`Props.ping_done_before_next_tick`, `Props.pings_at_ticks`).

A ping can OVERRUN its deadline (`honours = false`): `jsonrpc2.Connection.Call` writes the request
before it waits, and `ioConn.Write` does not look at its context while the stream write is blocked —
which it is for as long as the peer does not READ.  Such a ping returns (with whatever result) only
after `delay`, however long.  Meanwhile the ticker (a channel of capacity one) keeps exactly one tick
pending and drops the others: when the overrunning ping is over the loop serves the pending tick at
once, and later ticks are on the grid again.  So ping `k+1` is issued at
`max (end of ping k) (first grid instant after the start of ping k)` (`nextStart`), and it gets a
fresh `pingTimeout I`.

`step` = one iteration of the `case <-ticker.C` arm; `run` folds it over the scripts.  Cancellation
(`*cancelPtr`) only takes effect in the `select`, i.e. between two iterations: `runCancel` serves the
pings that are issued before the cancellation instant.
Core Lean only (linked into the driver).
-/
namespace KeepAlive
open Generated.KeepAlive

inductive Kind where
  | answer   -- Ping returns nil
  | mnf      -- Ping returns an error for which errors.Is(err, stopSentinel) holds
  | error    -- Ping returns any other error
deriving DecidableEq, Repr

/-- What the peer (and the transport) do with one ping. `delay = none`: never reacts.
`honours = false`: `Ping` does not return before `delay` even when its deadline passes (its write is
blocked because the peer does not read) — it returns at `delay` with the result `kind`. -/
structure Script where
  kind : Kind
  delay : Option Nat
  honours : Bool := true
deriving DecidableEq, Repr

/-- The result of one ping as the loop sees it, with the time it took. -/
inductive Outcome where
  | ok (d : Nat)
  | mnf (d : Nat)
  | fail (d : Nat)
deriving DecidableEq, Repr

def Outcome.dur : Outcome → Nat
  | .ok d => d
  | .mnf d => d
  | .fail d => d

def Outcome.isFail : Outcome → Bool
  | .fail _ => true
  | _ => false

def Outcome.isMnf : Outcome → Bool
  | .mnf _ => true
  | _ => false

/-- `session.Ping(pingCtx, nil)` against the scripted peer, `timeout` being the ping deadline. -/
def observe (timeout : Nat) (s : Script) : Outcome :=
  match s.delay with
  | none => .fail timeout
  | some d =>
    if d < timeout || !s.honours then
      match s.kind with
      | .answer => .ok d
      | .mnf => .mnf d
      | .error => .fail d
    else .fail timeout

inductive Status where
  | running   -- the goroutine is in (or on its way back to) the select
  | closed    -- it called session.Close() and returned
  | stopped   -- it returned without calling Close
deriving DecidableEq, Repr

structure St where
  status : Status := .running
  fails : Nat := 0              -- consecutiveFailures
  tick : Nat := 0               -- ticks consumed (= pings issued)
  pings : List Nat := []        -- instants at which Ping was called (oldest first)
  closeAt : Option Nat := none  -- instant of session.Close()
  last : Nat := 0               -- instant at which the last ping was issued (0: none yet)
  free : Nat := 0               -- instant at which the loop was back in the select (end of the last ping)
deriving DecidableEq, Repr

/-- The first tick of the grid `I, 2I, …` strictly after instant `t`. -/
def gridAfter (I t : Nat) : Nat := (t / I + 1) * I

/-- The instant at which the next ping is issued by a loop whose last ping was issued at `last` and
was over at `free`: the next grid tick — or, when that tick fired while the ping was still in flight,
the end of that ping (the ticker keeps one tick pending). -/
def nextStart (I last free : Nat) : Nat := max free (gridAfter I last)

/-- The threshold after `if failureThreshold < 1 { failureThreshold = 1 }`. -/
def threshold (t0 : Int) : Nat := (normThreshold t0).toNat

/-- One iteration of the ticker arm, for interval `I` and normalised threshold `T`. -/
def step (I T : Nat) (s : St) (sc : Script) : St :=
  match s.status with
  | .running =>
    let t := nextStart I s.last s.free
    let o := observe (pingTimeout I) sc
    let s1 : St := { s with tick := s.tick + 1, pings := s.pings ++ [t], last := t, free := t + o.dur }
    match o with
    | .ok _ => { s1 with fails := 0 }
    | .mnf _ => { s1 with status := .stopped }
    | .fail d =>
      let f := s.fails + 1
      if tolerated f T then { s1 with fails := f }
      else { s1 with fails := f, status := .closed, closeAt := some (t + d) }
  | _ => s

def run (I : Nat) (t0 : Int) (scs : List Script) : St := scs.foldl (step I (threshold t0)) {}

/-- The number of leading scripts whose pings are issued strictly before instant `tc` by a loop
that goes on pinging (`last`, `free` as in `nextStart`).  (`tc` never coincides with the start of a
ping in the harness.) -/
def pingsBeforeFrom (I tc : Nat) : Nat → Nat → List Script → Nat
  | _, _, [] => 0
  | last, free, sc :: t =>
    let p := nextStart I last free
    if p < tc then pingsBeforeFrom I tc p (p + (observe (pingTimeout I) sc).dur) t + 1 else 0

def pingsBefore (I tc : Nat) (scs : List Script) : Nat := pingsBeforeFrom I tc 0 0 scs

/-- The run with `*cancelPtr` called at instant `tc`: only the pings issued before `tc` are served (a
ping in flight at `tc` is completed and its result processed — its context is not derived from the
cancelled one); then the `select` sees `ctx.Done()` and the goroutine returns. -/
def runCancel (I : Nat) (t0 : Int) (scs : List Script) (tc : Nat) : St :=
  let s := run I t0 (scs.take (pingsBefore I tc scs))
  match s.status with
  | .running => { s with status := .stopped }
  | _ => s

/-! ## Session level (stream `sessions`): what the loop logs, when its goroutine returns, and the
order of the statements of the sessions' `Close` methods -/

/-- The instant of the WARN record ("keepalive ping failed; tolerating below threshold") that one
iteration of the ticker arm writes, if it writes one. -/
def warnStep (I T : Nat) (s : St) (sc : Script) : List Nat :=
  match s.status with
  | .running =>
    match observe (pingTimeout I) sc with
    | .fail d => if tolerated (s.fails + 1) T then [nextStart I s.last s.free + d] else []
    | _ => []
  | _ => []

def warnsFrom (I T : Nat) : St → List Script → List Nat
  | _, [] => []
  | s, sc :: t => warnStep I T s sc ++ warnsFrom I T (step I T s sc) t

/-- Instants of all WARN records of a run. -/
def warns (I : Nat) (t0 : Int) (scs : List Script) : List Nat := warnsFrom I (threshold t0) {} scs

/-- … of the run cancelled at `tc`. -/
def warnsCancel (I : Nat) (t0 : Int) (scs : List Script) (tc : Nat) : List Nat :=
  warns I t0 (scs.take (pingsBefore I tc scs))

/-- The instant at which the goroutine of `runCancel` returns (and its deferred `ticker.Stop` runs):
the end of its last ping when the loop closed the session or stopped on method-not-found; otherwise
the cancellation instant, or the end of the ping that was in flight then. -/
def endAt (I : Nat) (t0 : Int) (scs : List Script) (tc : Nat) : Nat :=
  let s := run I t0 (scs.take (pingsBefore I tc scs))
  match s.status with
  | .running => max tc s.free
  | _ => s.free

/-- One top-level statement of a session's `Close` method, as classified by the extractor
(`Generated.KeepAlive.clientClosePath`, `serverClosePath`). -/
inductive CloseAct where
  | cancelKeepalive   -- `if x.keepaliveCancel != nil { x.keepaliveCancel() }`
  | plain             -- a statement without `return`, `panic`, `goto`: control reaches the next one
  | connClose         -- `err := x.conn.Close()`: may yield an error
  | returnIfErr       -- `if err != nil { return … }`
  | mayReturn         -- any other statement that contains a way out of the function
  | ret               -- `return …`
deriving DecidableEq, Repr

def CloseAct.ofString : String → CloseAct
  | "cancelKeepalive" => .cancelKeepalive
  | "plain" => .plain
  | "connClose" => .connClose
  | "returnIfErr" => .returnIfErr
  | "ret" => .ret
  | _ => .mayReturn

/-- Runs the statements of `Close`.  `connErr`: the transport connection's `Close` fails; `err`: the
current value of `err != nil`; the oracle resolves the statements that may or may not leave the
function.  Result: has keep-alive been cancelled when `Close` returns? -/
def execClose (connErr : Bool) : List CloseAct → Bool → List Bool → Bool
  | [], _, _ => false
  | .cancelKeepalive :: _, _, _ => true
  | .plain :: t, e, o => execClose connErr t e o
  | .connClose :: t, _, o => execClose connErr t connErr o
  | .returnIfErr :: t, e, o => if e then false else execClose connErr t e o
  | .mayReturn :: t, e, o =>
    match o with
    | [] => false
    | b :: o' => if b then false else execClose connErr t e o'
  | .ret :: _, _, _ => false

/-- Keep-alive is cancelled before anything that can fail or leave the function. -/
def cancelFirst : List CloseAct → Bool
  | .cancelKeepalive :: _ => true
  | .plain :: t => cancelFirst t
  | _ => false

def clientClose : List CloseAct := clientClosePath.map CloseAct.ofString
def serverClose : List CloseAct := serverClosePath.map CloseAct.ofString

end KeepAlive
