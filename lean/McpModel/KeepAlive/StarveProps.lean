import McpModel.KeepAlive.Sound
import McpModel.KeepAlive.Independence
import McpModel.KeepAlive.Starve
/-!
# C13 — the starvation clause (`Starve.lean`): bridge and soundness

The observation `starved=` is the harness's report of the state `Indep.Stalled` (the keep-alive goroutine at the
shared lock, no goroutine able to run).  For the statement order the code is ASSUMED to have (head of Independence.lean) that state
is unreachable (`Indep.never_stalled`), so the model's observation of a `busy` scenario is its observation without the other
session, with `starved = false`: that is what `monitor2_accepts_model_loop` is applied to (it is passed `false`; the step
from `never_stalled` to that `false` is this sentence, not a term).
-/
namespace KeepAlive

def P_not_starved (starved : Bool) : Prop := starved = false

theorem monitor2_starved (sc : Scenario) (busy : List Busy) (o : Obs) :
    ∃ due b, monitor2 sc busy o true = some (.starved (o.pings.length + 1) due b) := by
  exact ⟨_, _, rfl⟩

/-- **sound_starved.** The clause is raised only on an observation that is starved — which the property forbids —
and the handler it names (if any) was scripted to be running at the instant it names. -/
theorem sound_starved (sc : Scenario) (busy : List Busy) (o : Obs) (st : Bool) {k due b}
    (h : monitor2 sc busy o st = some (.starved k due b)) :
    ¬ P_not_starved st ∧ k = o.pings.length + 1 ∧
      (∀ x, b = some x → x ∈ busy ∧ x.from_ ≤ due ∧ due < x.from_ + x.dur) := by
  cases st with
  | false =>
    simp only [monitor2, Bool.false_eq_true, if_false] at h
    cases hm : monitor sc o <;> simp [hm] at h
  | true =>
    simp only [monitor2, if_true, starveClause, Option.some.injEq, Clause2.starved.injEq] at h
    obtain ⟨hk, hd, hb⟩ := h
    refine ⟨by simp [P_not_starved], hk.symm, ?_⟩
    intro x hx
    rw [hx] at hb
    have hmem := List.mem_of_find?_eq_some hb
    have hcov := List.find?_some hb
    simp only [Busy.covers, Bool.and_eq_true, decide_eq_true_eq] at hcov
    rw [hd] at hcov
    exact ⟨hmem, hcov.1, hcov.2⟩

/-- When nothing is starved `monitor2` is the C13 monitor: every `sound_*` / `monitor_complete` of Sound.lean applies. -/
theorem monitor2_base (sc : Scenario) (busy : List Busy) (o : Obs) :
    monitor2 sc busy o false = (monitor sc o).map .base := by
  simp [monitor2]

theorem sound_base (sc : Scenario) (busy : List Busy) (o : Obs) (st : Bool) {cl : Clause}
    (h : monitor2 sc busy o st = some (.base cl)) : ¬ P_of cl sc o := by
  cases st with
  | true => simp [monitor2, starveClause] at h
  | false =>
    simp only [monitor2, Bool.false_eq_true, if_false] at h
    cases hm : monitor sc o with
    | none => simp [hm] at h
    | some c =>
      simp only [hm, Option.map_some, Option.some.injEq, Clause2.base.injEq] at h
      subst h
      exact monitor_sound sc o c hm

/-- **The monitor with the starvation clause accepts the model (records `kas … busy=`)**, the model's observation taken as
NOT starved: `false` is passed, by the assumption of the file head, not by a term.  Then `monitor2` is `monitor` whatever
`busy` is, and `monitor_accepts_model_loop` applies. -/
theorem monitor2_accepts_model_loop (sc : Scenario) (hs : sc.sess = false) (env : Option SessObs) (busy : List Busy) :
    monitor2 sc busy (modelObs sc env) false = none := by
  simp [monitor2, monitor_accepts_model_loop sc hs env]

/-- Not an equivalence, a pair: the code's model is never stalled (what `monitor2_accepts_model_loop` rests on), the
other statement order is. -/
theorem starved_iff_handler_under_lock :
    (∀ s, Indep.Reach false s → ¬ Indep.Stalled s) ∧ (∃ s, Indep.Reach true s ∧ Indep.Stalled s) :=
  ⟨fun _ h => Indep.never_stalled h, by
    obtain ⟨s, r, st, _⟩ := Indep.handler_under_lock_stalls
    exact ⟨s, r, st⟩⟩

end KeepAlive
