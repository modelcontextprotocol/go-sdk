import McpModel.Generated.KeepAliveLockGen
/-!
# C13 — the keep-alive of one session does not wait for the handlers of another session

`Server.mu` (`Client.mu`) is the one lock shared by ALL sessions of a `Server` (`Client`) value, and every
keep-alive ping takes it — `startKeepalive` → `Ping` → `handleSend` → `sendingMethodHandler()`: lock, read one
field, unlock — AFTER `context.WithTimeout(…, interval/2)` has started the ping's clock.  A `sync.Mutex` does
not look at a context.  The property ("a peer that answers is never closed by keep-alive", "closed within that
many intervals plus one ping timeout") therefore depends on a lock discipline: nothing that takes time — in
particular no user-supplied handler — runs while the shared lock is held.

The model: one keep-alive goroutine (`ka`) and any number of request goroutines of OTHER sessions (`hs i`), one
shared lock (`held`), a virtual clock (`now`).  One constructor of `Step` = one atomic section of the code:
a request goroutine runs the user's handler (parked for an arbitrary time), then takes the lock for its
book-keeping (`Server.subscribe`: handler, then `s.mu.Lock()`, map update, unlock).  `ul = true` is the OTHER
order (lock, then handler, then book-keeping: the handler runs with the lock held).  Which of the two the code
is, is regenerated on every run: `Generated.KeepAlive.userCallsUnderSharedLock` lists the calls under the shared
lock that reach a user-supplied function (go/extract/keepalive.go, all 37 lock regions of server.go/client.go);
`lock_discipline` says the list is empty.  That the code is `Step false` is an ASSUMPTION read off that list, not a term:
`ul` is a parameter and nothing ties it to the list; and the extractor only looks for callees spelled `opts.…Handler` or
`handler` — other user-supplied code called under the lock (the `Logger` in `Server.subscribe`, `unsubscribe`,
`disconnect`) is not in its scope.

Time: a goroutine inside a critical section, or about to enter a free one, runs on (such sections contain no
blocking operation and no user code — that is what the regenerated fact says); the clock advances only when no
such goroutine exists (`Urgent`).  A parked handler is not urgent: it is what lets time pass.
-/
namespace KeepAlive.Indep

/-- request goroutine of another session -/
inductive HPc
  | idle
  | parked (until_ : Nat)          -- inside the user's handler, lock not held
  | parkedHolding (until_ : Nat)   -- inside the user's handler WITH the shared lock held (only `ul = true`)
  | wantLock
  | crit
deriving DecidableEq, Repr

/-- the keep-alive goroutine: `waitLock t` = the ping's context was created at `t` and `sendingMethodHandler`
is at `mu.Lock()`; `sent t g` = the lock was requested at `t` and obtained at `g`. -/
inductive KPc
  | sleeping
  | waitLock (since : Nat)
  | crit (since : Nat)
  | sent (reqAt gotAt : Nat)
deriving DecidableEq, Repr

structure St where
  now : Nat
  ka : KPc
  hs : Nat → HPc
  held : Bool

def upd (hs : Nat → HPc) (i : Nat) (x : HPc) : Nat → HPc := fun j => if j = i then x else hs j

/-- some goroutine can run right now without waiting for anything: time does not pass -/
def Urgent (s : St) : Prop :=
  (∃ t, s.ka = .crit t) ∨ (∃ i, s.hs i = .crit) ∨
  (s.held = false ∧ ((∃ t, s.ka = .waitLock t) ∨ ∃ i, s.hs i = .wantLock))

inductive Step (ul : Bool) : St → St → Prop
  /-- a request of another session arrives, its user handler starts (and parks for `d`) -/
  | hStart (s : St) (i d : Nat) : s.hs i = .idle → ul = false →
      Step ul s { s with hs := upd s.hs i (.parked (s.now + d)) }
  /-- the other statement order: lock first, then the handler -/
  | hStartLocked (s : St) (i d : Nat) : s.hs i = .idle → ul = true → s.held = false →
      Step ul s { s with hs := upd s.hs i (.parkedHolding (s.now + d)), held := true }
  | hWake (s : St) (i u : Nat) : s.hs i = .parked u → u ≤ s.now →
      Step ul s { s with hs := upd s.hs i .wantLock }
  | hWakeLocked (s : St) (i u : Nat) : s.hs i = .parkedHolding u → u ≤ s.now →
      Step ul s { s with hs := upd s.hs i .crit }
  | hLock (s : St) (i : Nat) : s.hs i = .wantLock → s.held = false →
      Step ul s { s with hs := upd s.hs i .crit, held := true }
  | hUnlock (s : St) (i : Nat) : s.hs i = .crit →
      Step ul s { s with hs := upd s.hs i .idle, held := false }
  /-- a tick: the ping's context is created (its clock runs from `now`) and the send path reaches `mu.Lock()` -/
  | kTick (s : St) : s.ka = .sleeping → Step ul s { s with ka := .waitLock s.now }
  | kLock (s : St) (t : Nat) : s.ka = .waitLock t → s.held = false →
      Step ul s { s with ka := .crit t, held := true }
  | kUnlock (s : St) (t : Nat) : s.ka = .crit t → Step ul s { s with ka := .sent t s.now, held := false }
  | kNext (s : St) (t g : Nat) : s.ka = .sent t g → Step ul s { s with ka := .sleeping }
  | advance (s : St) (d : Nat) : ¬ Urgent s → Step ul s { s with now := s.now + d }

def init : St := { now := 0, ka := .sleeping, hs := fun _ => .idle, held := false }

inductive Reach (ul : Bool) : St → Prop
  | init : Reach ul init
  | step {s s' : St} : Reach ul s → Step ul s s' → Reach ul s'

/-- The invariant of the code's statement order (`ul = false`). -/
structure Inv (s : St) : Prop where
  holder : s.held = true → (∃ t, s.ka = .crit t) ∨ ∃ i, s.hs i = .crit
  noParkedHolder : ∀ i u, s.hs i ≠ .parkedHolding u
  waitNow : ∀ t, s.ka = .waitLock t → t = s.now
  critNow : ∀ t, s.ka = .crit t → t = s.now
  sentSame : ∀ t g, s.ka = .sent t g → g = t

theorem inv_init : Inv init := by
  constructor <;> simp [init]

theorem upd_same (hs : Nat → HPc) (i : Nat) (x : HPc) : upd hs i x i = x := by simp [upd]

theorem upd_other (hs : Nat → HPc) (i j : Nat) (x : HPc) (h : j ≠ i) : upd hs i x j = hs j := by simp [upd, h]

theorem crit_survives {hs : Nat → HPc} {i : Nat} {x : HPc} (hi : hs i ≠ .crit) :
    (∃ j, hs j = .crit) → ∃ j, upd hs i x j = .crit := by
  rintro ⟨j, hj⟩
  have hne : j ≠ i := by
    intro e; subst e; exact hi hj
  exact ⟨j, by rw [upd_other _ _ _ _ hne]; exact hj⟩

theorem noParked_upd {hs : Nat → HPc} (npk : ∀ i u, hs i ≠ .parkedHolding u) (i : Nat) {x : HPc}
    (hx : ∀ u, x ≠ .parkedHolding u) : ∀ j u, upd hs i x j ≠ .parkedHolding u := by
  intro j u
  by_cases hj : j = i
  · subst hj; rw [upd_same]; exact hx u
  · rw [upd_other _ _ _ _ hj]; exact npk j u

theorem inv_step {s s' : St} (hinv : Inv s) (hs : Step false s s') : Inv s' := by
  obtain ⟨hold, npk, wn, cn, ss⟩ := hinv
  cases hs with
  | hStart i d hi _ =>
    refine ⟨?_, ?_, wn, cn, ss⟩
    · intro hh
      rcases hold hh with h | h
      · exact .inl h
      · exact .inr (crit_survives (by rw [hi]; simp) h)
    · exact noParked_upd npk i (by simp)
  | hStartLocked i d _ hul _ => simp at hul
  | hWake i u hi _ =>
    refine ⟨?_, ?_, wn, cn, ss⟩
    · intro hh
      rcases hold hh with h | h
      · exact .inl h
      · exact .inr (crit_survives (by rw [hi]; simp) h)
    · exact noParked_upd npk i (by simp)
  | hWakeLocked i u hi _ => exact absurd hi (npk i u)
  | hLock i hi _ =>
    refine ⟨?_, ?_, wn, cn, ss⟩
    · intro _; exact .inr ⟨i, upd_same _ _ _⟩
    · exact noParked_upd npk i (by simp)
  | hUnlock i hi =>
    refine ⟨?_, ?_, wn, cn, ss⟩
    · intro hh; simp at hh
    · exact noParked_upd npk i (by simp)
  | kTick hk =>
    refine ⟨?_, npk, ?_, ?_, ?_⟩
    · intro hh
      rcases hold hh with ⟨t, h⟩ | h
      · rw [hk] at h; simp at h
      · exact .inr h
    · intro t h; simp at h; exact h.symm
    · intro t h; simp at h
    · intro t g h; simp at h
  | kLock t hk _ =>
    refine ⟨?_, npk, ?_, ?_, ?_⟩
    · intro _; exact .inl ⟨t, rfl⟩
    · intro t' h; simp at h
    · intro t' h; simp at h; subst h; exact wn _ hk
    · intro t' g h; simp at h
  | kUnlock t hk =>
    refine ⟨?_, npk, ?_, ?_, ?_⟩
    · intro hh; simp at hh
    · intro t' h; simp at h
    · intro t' h; simp at h
    · intro t' g h
      simp at h
      obtain ⟨h1, h2⟩ := h
      subst h1; subst h2
      exact (cn _ hk).symm
  | kNext t g hk =>
    refine ⟨?_, npk, ?_, ?_, ?_⟩
    · intro hh
      rcases hold hh with ⟨t', h⟩ | h
      · rw [hk] at h; simp at h
      · exact .inr h
    · intro t' h; simp at h
    · intro t' h; simp at h
    · intro t' g' h; simp at h
  | advance d hu =>
    -- time passes only when nobody can run: nobody holds the lock, and keep-alive is not at the lock
    have nocrit : ∀ t, s.ka ≠ .crit t := fun t h => hu (.inl ⟨t, h⟩)
    have nowait : ∀ t, s.ka ≠ .waitLock t := by
      intro t h
      cases hh : s.held with
      | false => exact hu (.inr (.inr ⟨hh, .inl ⟨t, h⟩⟩))
      | true =>
        rcases hold hh with h' | h'
        · exact hu (.inl h')
        · exact hu (.inr (.inl h'))
    refine ⟨hold, npk, ?_, ?_, ss⟩
    · intro t h; exact absurd h (nowait t)
    · intro t h; exact absurd h (nocrit t)

theorem reach_inv {s : St} (h : Reach false s) : Inv s := by
  induction h with
  | init => exact inv_init
  | step _ hs ih => exact inv_step ih hs

/-- The regenerated lock discipline: no call made while `Server.mu` / `Client.mu` is held reaches a
user-supplied function.  (A change of the source that puts one there changes the generated list and this
theorem no longer builds.) -/
theorem lock_discipline : Generated.KeepAlive.userCallsUnderSharedLock = [] := rfl

/-- **Keep-alive never waits for a handler** (all histories of any number of requests of other sessions, handlers
parked for arbitrary times): whenever the keep-alive goroutine is at the shared lock, the ping's clock has not
advanced, and it obtains the lock at the instant it asked for it. So the ping
still has its whole timeout `interval/2` when it is written, whatever the other sessions' handlers do. -/
theorem ping_never_waits_for_a_handler {s : St} (h : Reach false s) :
    (∀ t, s.ka = .waitLock t → s.now = t) ∧ (∀ t, s.ka = .crit t → s.now = t) ∧
    (∀ t g, s.ka = .sent t g → g = t) := by
  have i := reach_inv h
  exact ⟨fun t ht => (i.waitNow t ht).symm, fun t ht => (i.critNow t ht).symm, i.sentSame⟩

theorem no_handler_parked_under_lock {s : St} (h : Reach false s) (i u : Nat) : s.hs i ≠ .parkedHolding u :=
  (reach_inv h).noParkedHolder i u

/-- Non-vacuity: the keep-alive goroutine does get through while a handler of another session is parked — the
state "handler 0 parked until 2478, ping sent, lock requested and obtained at 1000" is reachable. -/
theorem ping_goes_through_while_handler_parked :
    ∃ s, Reach false s ∧ s.ka = .sent 1000 1000 ∧ s.hs 0 = .parked 2478 := by
  let s0 := init
  have r0 : Reach false s0 := .init
  have nu0 : ¬ Urgent s0 := by simp [Urgent, s0, init]
  let s1 : St := { s0 with now := s0.now + 737 }
  have r1 : Reach false s1 := .step r0 (.advance s0 737 nu0)
  let s2 : St := { s1 with hs := upd s1.hs 0 (.parked (s1.now + 1741)) }
  have r2 : Reach false s2 := .step r1 (.hStart s1 0 1741 rfl rfl)
  have nu2 : ¬ Urgent s2 := by
    simp only [Urgent, s2, s1, s0, init, upd]
    intro h
    rcases h with ⟨t, h⟩ | ⟨i, h⟩ | ⟨_, ⟨t, h⟩ | ⟨i, h⟩⟩
    · simp at h
    · by_cases hi : i = 0 <;> simp [hi] at h
    · simp at h
    · by_cases hi : i = 0 <;> simp [hi] at h
  let s3 : St := { s2 with now := s2.now + 263 }
  have r3 : Reach false s3 := .step r2 (.advance s2 263 nu2)
  let s4 : St := { s3 with ka := .waitLock s3.now }
  have r4 : Reach false s4 := .step r3 (.kTick s3 rfl)
  let s5 : St := { s4 with ka := .crit 1000, held := true }
  have r5 : Reach false s5 := .step r4 (.kLock s4 1000 rfl rfl)
  let s6 : St := { s5 with ka := .sent 1000 s5.now, held := false }
  have r6 : Reach false s6 := .step r5 (.kUnlock s5 1000 rfl)
  exact ⟨s6, r6, rfl, by simp [s6, s5, s4, s3, s2, s1, s0, init, upd]⟩

/-- What the harness sees when a keep-alive ping is starved (zz_verif_keepalive_test.go, kaStarveLoop): the
keep-alive goroutine is at the shared lock and NO goroutine can run without time passing — every goroutine is
blocked, the keep-alive one on the mutex. -/
def Stalled (s : St) : Prop := (∃ t, s.ka = .waitLock t) ∧ ¬ Urgent s

/-- **The state the harness reports as `starved=` is unreachable for the statement order `ul = false`** (handler first,
then the lock; that the code has this order is the assumption of the file head): whenever keep-alive is at the shared lock somebody can run — keep-alive itself when the lock
is free, its holder (inside a critical section without user code) otherwise. -/
theorem never_stalled {s : St} (h : Reach false s) : ¬ Stalled s := by
  rintro ⟨⟨t, ht⟩, hu⟩
  have i := reach_inv h
  cases hh : s.held with
  | false => exact hu (.inr (.inr ⟨hh, .inl ⟨t, ht⟩⟩))
  | true =>
    rcases i.holder hh with h' | h'
    · exact hu (.inl h')
    · exact hu (.inr (.inl h'))

theorem stall_history : ∃ s, Reach true s ∧ Stalled s ∧ s.hs 0 = .parkedHolding 2478 ∧ s.ka = .waitLock 1000 ∧
    s.now = 1000 := by
  let s0 := init
  have r0 : Reach true s0 := .init
  have nu0 : ¬ Urgent s0 := by simp [Urgent, s0, init]
  let s1 : St := { s0 with now := s0.now + 737 }
  have r1 : Reach true s1 := .step r0 (.advance s0 737 nu0)
  let s2 : St := { s1 with hs := upd s1.hs 0 (.parkedHolding (s1.now + 1741)), held := true }
  have r2 : Reach true s2 := .step r1 (.hStartLocked s1 0 1741 rfl rfl rfl)
  have nu2 : ¬ Urgent s2 := by
    simp only [Urgent, s2, s1, s0, init, upd]
    intro h
    rcases h with ⟨t, h⟩ | ⟨i, h⟩ | ⟨h, _⟩
    · simp at h
    · by_cases hi : i = 0 <;> simp [hi] at h
    · simp at h
  let s3 : St := { s2 with now := s2.now + 263 }
  have r3 : Reach true s3 := .step r2 (.advance s2 263 nu2)
  let s4 : St := { s3 with ka := .waitLock s3.now }
  have r4 : Reach true s4 := .step r3 (.kTick s3 rfl)
  have nu4 : ¬ Urgent s4 := by
    simp only [Urgent, s4, s3, s2, s1, s0, init, upd]
    intro h
    rcases h with ⟨t, h⟩ | ⟨i, h⟩ | ⟨h, _⟩
    · simp at h
    · by_cases hi : i = 0 <;> simp [hi] at h
    · simp at h
  exact ⟨s4, r4, ⟨⟨_, rfl⟩, nu4⟩, by simp [s4, s3, s2, s1, s0, init, upd], rfl, rfl⟩

/-- The other statement order (`ul = true`) does stall (`stall_history`): handler 0 parked until 2478 with the lock,
keep-alive at the lock since 1000, nobody can run. -/
theorem handler_under_lock_stalls : ∃ s, Reach true s ∧ Stalled s ∧ s.hs 0 = .parkedHolding 2478 :=
  let ⟨s, r, hst, h0, _, _⟩ := stall_history
  ⟨s, r, hst, h0⟩

/-- **The discipline is needed** (the shape of a server that calls `SubscribeHandler` with `Server.mu` held): with the handler called under the shared
lock (`ul = true`) there is a history in which the keep-alive goroutine has been at the lock since 1000 and the
clock shows 1600 — more than the whole ping timeout (500) of an interval of 1000 is gone before a byte is
written; the ping will be booked as missed although the peer was never asked. -/
theorem handler_under_lock_starves_keepalive :
    ∃ s, Reach true s ∧ s.ka = .waitLock 1000 ∧ s.now = 1600 := by
  obtain ⟨s, r, ⟨_, nu⟩, _, hka, hnow⟩ := stall_history
  exact ⟨{ s with now := s.now + 600 }, .step r (.advance s 600 nu), hka, by simp [hnow]⟩

end KeepAlive.Indep
