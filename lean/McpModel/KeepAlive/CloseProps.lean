import McpModel.KeepAlive.Props
/-!
# C13 — the sessions' `Close` methods cancel keep-alive on every path

`Generated.KeepAlive.clientClosePath` / `serverClosePath` are the top-level statements of
`(*ClientSession).Close` and `(*ServerSession).Close` (mcp/client.go, mcp/server.go), classified by
the extractor on every run; `KeepAlive.execClose` executes such a list for either result of the
transport connection's `Close`.  A change of the statement order in the source re-opens the proofs
of this module (and only of this module).
-/
namespace KeepAlive
open Generated.KeepAlive

/-- The generic reason: if the cancellation comes first — preceded only by statements through which
control always passes — then `Close` cancels keep-alive whatever `conn.Close` returns and however the
later statements behave. -/
theorem execClose_of_cancelFirst (connErr : Bool) : ∀ (acts : List CloseAct) (e : Bool) (o : List Bool),
    cancelFirst acts = true → execClose connErr acts e o = true := by
  intro acts
  induction acts with
  | nil => intro e o h; simp [cancelFirst] at h
  | cons a t ih =>
    intro e o h
    cases a with
    | cancelKeepalive => simp [execClose]
    | plain => simp only [cancelFirst] at h; simp only [execClose]; exact ih e o h
    | connClose => simp [cancelFirst] at h
    | returnIfErr => simp [cancelFirst] at h
    | mayReturn => simp [cancelFirst] at h
    | ret => simp [cancelFirst] at h

/-- **close_cancels_keepalive.** On the statement lists regenerated from `(*ClientSession).Close` and
`(*ServerSession).Close`: every execution of `Close` — the transport connection's `Close` failing or
not — cancels keep-alive. -/
theorem close_cancels_keepalive (connErr : Bool) (oracle : List Bool) :
    execClose connErr clientClose false oracle = true ∧
      execClose connErr serverClose false oracle = true :=
  ⟨execClose_of_cancelFirst connErr _ _ _ (by decide), execClose_of_cancelFirst connErr _ _ _ (by decide)⟩

/-- **close_silences_keepalive** (the property's last sentence, for a closed session).  `Close`,
called at `tc` while the loop has seen the outcomes `scs`, cancels keep-alive on every path; the
loop then sends no ping from `tc` on, its goroutine returns at `tc` or when the ping then in flight is
over — by `tc + I/2` when that ping honours its context —, and nothing — ping, log record, `Close` —
happens after that return. -/
theorem close_silences_keepalive (connErr : Bool) (oracle : List Bool) (I : Nat) (t0 : Int)
    (scs : List Script) (tc : Nat) :
    (execClose connErr clientClose false oracle = true ∧ execClose connErr serverClose false oracle = true) ∧
    (runCancel I t0 scs tc).status ≠ .running ∧
    (∀ p ∈ (runCancel I t0 scs tc).pings, p < tc) ∧
    ((∀ sc ∈ scs, sc.honours = true) → endAt I t0 scs tc ≤ tc + I / 2) ∧
    (endAt I t0 scs tc = tc ∨
      endAt I t0 scs tc = (run I t0 (scs.take (pingsBefore I tc scs))).free) ∧
    (∀ p ∈ (runCancel I t0 scs tc).pings, p ≤ endAt I t0 scs tc) ∧
    (∀ w ∈ warnsCancel I t0 scs tc, w ≤ endAt I t0 scs tc) ∧
    (∀ c, (runCancel I t0 scs tc).closeAt = some c → c = endAt I t0 scs tc) :=
  ⟨close_cancels_keepalive connErr oracle, ((silent_stop I t0 scs).2 tc).1, cancel_stops_pings I t0 scs tc,
    fun hh => (cancel_ends_promptly I t0 scs tc).1
      (fun sc hsc => hh sc (List.mem_of_mem_take (List.mem_of_getElem? hsc))),
    (cancel_ends_promptly I t0 scs tc).2.2, (nothing_after_end I t0 scs tc).1,
    (nothing_after_end I t0 scs tc).2.1, (nothing_after_end I t0 scs tc).2.2⟩

-- a Close method that cancels keep-alive only after a failing conn.Close does NOT pass …
example : execClose true [.plain, .connClose, .plain, .returnIfErr, .cancelKeepalive, .ret] false [] = false := by decide
-- … although it does when the connection closes cleanly
example : execClose false [.plain, .connClose, .plain, .returnIfErr, .cancelKeepalive, .ret] false [] = true := by decide
-- a statement that may leave the function before the cancellation does not pass either
example : execClose false [.mayReturn, .cancelKeepalive, .ret] false [true] = false := by decide
-- the regenerated lists are not empty and contain the cancellation
example : CloseAct.cancelKeepalive ∈ clientClose ∧ CloseAct.cancelKeepalive ∈ serverClose := by decide

end KeepAlive
