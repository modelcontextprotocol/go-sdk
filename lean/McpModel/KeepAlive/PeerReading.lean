import McpModel.KeepAlive.Model
/-!
E9 — what the PEER (or the transport) did with a ping, and what that amounts to for the property.

Stream `http`: the harness scripts the foreign side per ping (`wire=`; for the streamable SERVER transport also `mode=`,
read by `absentStream`) and the
record carries, next to it, the outcome pattern (`script=`) the model and the monitor work on.  The mapping
from the one to the other is the property's reading of "answered / timed out / method-not-found / connection
error"; it is defined HERE, typed, and the driver refuses a record (`bad-op`) whose `script=` is not
`reading` of its `wire=` — so the harness cannot hand the model a different reading than the one the
theorems of PeerProps.lean are about.
-/
namespace KeepAlive

/-- What happened to one ping on the foreign side. -/
inductive WireKind
  /-- a JSON-RPC result came back (JSON body or SSE-framed) -/
  | result
  /-- a JSON-RPC error -32601 came back, on whatever HTTP status -/
  | unsupported
  /-- any other reply: another JSON-RPC error, an HTTP error without a JSON-RPC body, a transport error -/
  | otherError
  /-- the transport REFUSED this one message (an error wrapping `jsonrpc2.ErrRejected`: no standalone stream,
  a transient status, …); the connection stays usable -/
  | refused
  /-- the ping was accepted and never answered -/
  | silent
  /-- the transport write did not complete until the ping's context ended -/
  | stalledWrite
deriving DecidableEq, Repr

/-- How the streamable SERVER transport is configured (family `shttp`, `mode=`). -/
inductive ServerMode
  /-- stateful, no EventStore -/
  | plain
  /-- stateful with an EventStore (legacy protocol versions: messages are appended to the store before delivery) -/
  | store
  /-- `StreamableHTTPOptions.Stateless`: a temporary session per POST -/
  | stateless
deriving DecidableEq, Repr

/-- What `streamableServerConn.Write` makes of a server-initiated ping when the client has NO standalone stream
open (mcp/streamable.go): a stateless connection refuses every outgoing call (`ErrRejected: stateless servers
cannot make requests`); a stateful one without a store cannot deliver it (`ErrRejected: undelivered message`); with
an EventStore the message is appended to the store, which counts as delivered — Write returns nil and the ping
waits, unanswered, for its timeout. -/
def absentStream : ServerMode → WireKind
  | .plain => .refused
  | .store => .silent
  | .stateless => .refused

/-- The letters of the harness (zz_verif_keepalive_http_test.go: khKinds, `w`, `R`, and `G` = the client has no
standalone stream open at that tick, read according to the server's mode). -/
def wireKindOf (mode : ServerMode) (c : Char) : Option WireKind :=
  if c == 'G' then some (absentStream mode)
  else if c == 'j' || c == 's' then some .result
  else if c == 'J' || c == 'S' || c == '4' || c == '0' || c == '5' || c == 'i' || c == 'k' then some .unsupported
  else if c == 'x' || c == 'y' || c == 'z' || c == 'r' || c == 't' then some .otherError
  else if c == 'R' then some .refused
  else if c == 'n' then some .silent
  else if c == 'w' then some .stalledWrite
  else none

/-- The property's reading: a result is an answer, -32601 is "ping unsupported", nothing within the ping
timeout is a timed-out ping, everything else — also a ping the transport refused to send — is a failed ping
(after the delay `d` with which it came back). -/
def reading (k : WireKind) (d : Nat) : Script :=
  match k with
  | .result => { kind := .answer, delay := some d }
  | .unsupported => { kind := .mnf, delay := some d }
  | .otherError => { kind := .error, delay := some d }
  | .refused => { kind := .error, delay := some d }
  | .silent => { kind := .answer, delay := none }
  | .stalledWrite => { kind := .answer, delay := none }

/-- One `wire=` element: `<letter><delay>[c<content-type spelling>]`, or a bare letter, read with delay 0 (the harness writes `n` and `w` so). -/
def parseWireEl (mode : ServerMode) (s : String) : Option (WireKind × Nat) :=
  match s.toList with
  | [] => none
  | c :: rest =>
    match wireKindOf mode c with
    | none => none
    | some k =>
      if rest.isEmpty then some (k, 0)
      else
        let ds := rest.takeWhile Char.isDigit
        let tail := rest.dropWhile Char.isDigit
        if ds.isEmpty then none
        else if tail.isEmpty || tail.head? == some 'c' then (String.ofList ds).toNat?.map fun d => (k, d)
        else none

def parseWire (mode : ServerMode) (s : String) : Option (List (WireKind × Nat)) :=
  if s == "-" then some [] else (s.splitOn ",").mapM (parseWireEl mode)

def parseMode (s : Option String) : Option ServerMode :=
  match s with
  | none => some .plain
  | some "plain" => some .plain
  | some "store" => some .store
  | some "stateless" => some .stateless
  | some _ => none

/-- The outcome pattern a wire script amounts to. -/
def readWire (w : List (WireKind × Nat)) : List Script := w.map fun p => reading p.1 p.2

end KeepAlive
