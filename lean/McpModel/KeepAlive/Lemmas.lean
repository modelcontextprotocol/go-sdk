import McpModel.KeepAlive.Model
import McpModel.Base.Logic
/-!
E9: the loop read on outcomes.  `stepO`/`runO` are `step`/`run` after `observe` (`step_eq_stepO`: `stepO` repeats the
body of `step` and has to follow it); `obsOf` the outcomes of a script list; `trail` the failures at the end of a list.
`Tm`, `tmStep`, `tm` are the timing part of `St` (`pings`, `last`, `free`) run without the decisions, and
`pStart`/`pEnd` (on outcomes), `pingStart`/`pingEnd` (on scripts) the instants ping `k` is issued and is over in it —
the monitor's `startOf`/`stopOf` of its schedule (`startOf_sim`, Bridge.lean) and the state's `last`/`free` (`Inv`).
`Inv` is the invariant every theorem of Props.lean is read off (`inv_run`).
At the end: facts about `run`, `warnsFrom`, `pingEnd`, `pingsBeforeFrom` that do not need the invariant (those that do
stand next to `inv_run` in Props.lean).
-/
namespace KeepAlive
open Generated.KeepAlive

def stepO (I T : Nat) (s : St) (o : Outcome) : St :=
  match s.status with
  | .running =>
    let t := nextStart I s.last s.free
    let s1 : St := { s with tick := s.tick + 1, pings := s.pings ++ [t], last := t, free := t + o.dur }
    match o with
    | .ok _ => { s1 with fails := 0 }
    | .mnf _ => { s1 with status := .stopped }
    | .fail d =>
      let f := s.fails + 1
      if f < T then { s1 with fails := f }
      else { s1 with fails := f, status := .closed, closeAt := some (t + d) }
  | _ => s

def runO (I T : Nat) (os : List Outcome) : St := os.foldl (stepO I T) {}

theorem tolerated_iff (f T : Nat) : tolerated f T = true ↔ f < T := by
  simp [tolerated]

theorem step_eq_stepO (I T : Nat) (s : St) (sc : Script) :
    step I T s sc = stepO I T s (observe (pingTimeout I) sc) := by
  unfold step stepO
  cases s.status <;> simp only []
  generalize observe (pingTimeout I) sc = o
  cases o <;> simp only []
  by_cases h : s.fails + 1 < T
  · have ht : tolerated (↑(s.fails + 1)) ↑T = true := by simp [tolerated]; omega
    rw [if_pos ht, if_pos h]
  · have ht : ¬ tolerated (↑(s.fails + 1)) ↑T = true := by simp [tolerated]; omega
    rw [if_neg ht, if_neg h]

def obsOf (I : Nat) (scs : List Script) : List Outcome := scs.map (observe (pingTimeout I))

theorem run_eq_runO (I : Nat) (t0 : Int) (scs : List Script) :
    run I t0 scs = runO I (threshold t0) (obsOf I scs) := by
  unfold run runO obsOf
  generalize ({} : St) = s
  induction scs generalizing s with
  | nil => rfl
  | cons sc t ih => simp only [List.foldl_cons, List.map_cons, step_eq_stepO, ih]

theorem runO_snoc (I T : Nat) (os : List Outcome) (o : Outcome) :
    runO I T (os ++ [o]) = stepO I T (runO I T os) o := by
  simp [runO, List.foldl_append]

theorem observe_dur_le (to : Nat) (sc : Script) (hh : sc.honours = true) :
    (observe to sc).dur ≤ to := by
  unfold observe
  cases sc.delay with
  | none => simp [Outcome.dur]
  | some d =>
    by_cases h : d < to
    · cases sc.kind <;> simp [h, Outcome.dur] <;> omega
    · simp [h, hh, Outcome.dur]

theorem threshold_eq (t0 : Int) : threshold t0 = if t0 < 1 then 1 else t0.toNat := by
  unfold threshold normThreshold
  by_cases h : t0 < 1 <;> simp [h]

theorem threshold_pos (t0 : Int) : 1 ≤ threshold t0 := by
  rw [threshold_eq]
  by_cases h : t0 < 1
  · simp [h]
  · simp [h]; omega

/-- Number of consecutive failures at the end of `l`. -/
def trail (l : List Outcome) : Nat := (l.reverse.takeWhile Outcome.isFail).length

@[simp] theorem trail_nil : trail [] = 0 := rfl

theorem trail_snoc (l : List Outcome) (x : Outcome) :
    trail (l ++ [x]) = if x.isFail then trail l + 1 else 0 := by
  unfold trail
  rw [List.reverse_append]
  cases h : x.isFail <;> simp [h]

theorem trail_le_length (l : List Outcome) : trail l ≤ l.length := by
  induction l using List.snoc_induction with
  | nil => simp
  | snoc l x ih =>
    rw [trail_snoc]
    cases x.isFail <;> simp <;> omega

theorem le_trail_iff (l : List Outcome) : ∀ T : Nat,
    T ≤ trail l ↔ T ≤ l.length ∧ ∀ o ∈ l.drop (l.length - T), o.isFail = true := by
  induction l using List.snoc_induction with
  | nil => intro T; simp
  | snoc l x ih =>
    intro T
    rw [trail_snoc]
    cases T with
    | zero => simp
    | succ T' =>
      have hd : (l ++ [x]).drop ((l ++ [x]).length - (T' + 1)) = l.drop (l.length - T') ++ [x] := by
        have : (l ++ [x]).length - (T' + 1) = l.length - T' := by simp
        rw [this, List.drop_append_of_le_length (by omega)]
      rw [hd]
      cases hx : x.isFail with
      | false =>
        simp only [Bool.false_eq_true, if_false]
        constructor
        · intro h; omega
        · rintro ⟨_, h⟩
          have := h x (by simp)
          rw [hx] at this; cases this
      | true =>
        simp only [if_true, Nat.add_le_add_iff_right, List.length_append, List.length_cons,
          List.length_nil, Nat.zero_add]
        rw [ih T']
        constructor
        · rintro ⟨h1, h2⟩
          refine ⟨h1, ?_⟩
          intro o ho
          rcases List.mem_append.1 ho with h | h
          · exact h2 o h
          · simp at h; rw [h]; exact hx
        · rintro ⟨h1, h2⟩
          exact ⟨h1, fun o ho => h2 o (List.mem_append.2 (Or.inl ho))⟩

def tickTimes (I n : Nat) : List Nat := (List.range n).map fun j => (j + 1) * I

theorem tickTimes_succ (I n : Nat) : tickTimes I (n + 1) = tickTimes I n ++ [(n + 1) * I] := by
  simp [tickTimes, List.range_succ]

theorem gridAfter_gt (I t : Nat) (hI : 0 < I) : t < gridAfter I t := by
  unfold gridAfter
  have := Nat.div_add_mod t I
  have := Nat.mod_lt t hI
  rw [Nat.add_mul, Nat.mul_comm (t / I) I]
  omega

theorem gridAfter_mul (I k : Nat) (hI : 0 < I) : gridAfter I (k * I) = (k + 1) * I := by
  unfold gridAfter
  rw [Nat.mul_div_cancel k hI]

theorem gridAfter_le (I t : Nat) : gridAfter I t ≤ t + I := by
  unfold gridAfter
  have := Nat.div_mul_le_self t I
  rw [Nat.add_mul]; omega

structure Tm where
  pings : List Nat := []
  last : Nat := 0
  free : Nat := 0

def tmStep (I : Nat) (t : Tm) (o : Outcome) : Tm :=
  { pings := t.pings ++ [nextStart I t.last t.free], last := nextStart I t.last t.free,
    free := nextStart I t.last t.free + o.dur }

def tmFrom (I : Nat) (t : Tm) (os : List Outcome) : Tm := os.foldl (tmStep I) t

def tm (I : Nat) (os : List Outcome) : Tm := tmFrom I {} os

theorem tmFrom_cons (I : Nat) (t : Tm) (o : Outcome) (os : List Outcome) :
    tmFrom I t (o :: os) = tmFrom I (tmStep I t o) os := rfl

theorem tm_snoc (I : Nat) (os : List Outcome) (o : Outcome) :
    tm I (os ++ [o]) = tmStep I (tm I os) o := by
  simp [tm, tmFrom, List.foldl_append]

theorem tmFrom_snoc (I : Nat) (t : Tm) (os : List Outcome) (o : Outcome) :
    tmFrom I t (os ++ [o]) = tmStep I (tmFrom I t os) o := by
  simp [tmFrom, List.foldl_append]

def pStart (I : Nat) (os : List Outcome) (k : Nat) : Nat := (tm I (os.take k)).last
def pEnd (I : Nat) (os : List Outcome) (k : Nat) : Nat := (tm I (os.take k)).free

theorem take_succ_snoc (os : List Outcome) (k : Nat) (o : Outcome) (h : os[k]? = some o) :
    os.take (k + 1) = os.take k ++ [o] := by
  rw [List.take_add_one, h]; rfl

theorem pStart_succ (I : Nat) (os : List Outcome) (k : Nat) (o : Outcome) (h : os[k]? = some o) :
    pStart I os (k + 1) = nextStart I (pStart I os k) (pEnd I os k) ∧
      pEnd I os (k + 1) = pStart I os (k + 1) + o.dur := by
  unfold pStart pEnd
  rw [take_succ_snoc os k o h, tm_snoc]
  simp [tmStep]

theorem pStart_zero (I : Nat) (os : List Outcome) : pStart I os 0 = 0 ∧ pEnd I os 0 = 0 := by
  simp [pStart, pEnd, tm, tmFrom]

theorem tm_pings (I : Nat) (os : List Outcome) :
    (tm I os).pings = (List.range os.length).map fun j => pStart I os (j + 1) := by
  induction os using List.snoc_induction with
  | nil => simp [tm, tmFrom]
  | snoc os o ih =>
    rw [tm_snoc]
    simp only [tmStep, List.length_append, List.length_cons, List.length_nil, Nat.zero_add,
      List.range_succ, List.map_append, List.map_cons, List.map_nil]
    have hlast : nextStart I (tm I os).last (tm I os).free = pStart I (os ++ [o]) (os.length + 1) := by
      unfold pStart
      rw [List.take_of_length_le (by simp), tm_snoc]
      simp [tmStep]
    rw [hlast, ih]
    congr 1
    apply List.map_congr_left
    intro j hj
    have hj' : j < os.length := by simpa using hj
    unfold pStart
    rw [List.take_append_of_le_length (by omega)]

theorem tm_pings_length (I : Nat) (os : List Outcome) : (tm I os).pings.length = os.length := by
  rw [tm_pings]; simp

theorem pStart_le_pEnd (I : Nat) (os : List Outcome) (k : Nat) : pStart I os k ≤ pEnd I os k := by
  cases k with
  | zero => simp [pStart_zero]
  | succ j =>
    cases h : os[j]? with
    | none =>
      have hlen : os.length ≤ j := by
        rcases Nat.lt_or_ge j os.length with hlt | hge
        · rw [List.getElem?_eq_getElem hlt] at h; cases h
        · exact hge
      unfold pStart pEnd
      rw [List.take_of_length_le (by omega)]
      induction os using List.snoc_induction with
      | nil => simp [tm, tmFrom]
      | snoc os o _ => rw [tm_snoc]; simp [tmStep]
    | some o => have := (pStart_succ I os j o h).2; omega

theorem pEnd_le_pStart_succ (I : Nat) (os : List Outcome) (k : Nat) (hk : k < os.length) :
    pEnd I os k ≤ pStart I os (k + 1) ∧ gridAfter I (pStart I os k) ≤ pStart I os (k + 1) := by
  have h : os[k]? = some os[k] := List.getElem?_eq_getElem hk
  rw [(pStart_succ I os k _ h).1]
  unfold nextStart
  exact ⟨Nat.le_max_left _ _, Nat.le_max_right _ _⟩

theorem pEnd_mono_succ (I : Nat) (os : List Outcome) (k : Nat) (hk : k < os.length) :
    pEnd I os k ≤ pEnd I os (k + 1) := by
  have := (pEnd_le_pStart_succ I os k hk).1
  have := pStart_le_pEnd I os (k + 1)
  omega

theorem pEnd_mono (I : Nat) (os : List Outcome) (j k : Nat) (h : j ≤ k) (hk : k ≤ os.length) :
    pEnd I os j ≤ pEnd I os k := by
  induction k with
  | zero => have : j = 0 := by omega
            rw [this]; exact Nat.le_refl _
  | succ n ih =>
    rcases Nat.lt_or_eq_of_le h with hlt | heq
    · have := ih (by omega) (by omega)
      have := pEnd_mono_succ I os n (by omega)
      omega
    · rw [heq]; exact Nat.le_refl _

theorem pStart_grid (I : Nat) (hI : 0 < I) (os : List Outcome) (hshort : ∀ o ∈ os, o.dur < I) :
    ∀ k, k ≤ os.length → pStart I os k = k * I ∧ pEnd I os k < (k + 1) * I := by
  intro k
  induction k with
  | zero => intro _; simp [pStart_zero]; exact hI
  | succ n ih =>
    intro hk
    obtain ⟨i1, i2⟩ := ih (by omega)
    have hn : n < os.length := by omega
    have h : os[n]? = some os[n] := List.getElem?_eq_getElem hn
    obtain ⟨r1, r2⟩ := pStart_succ I os n _ h
    have hd := hshort os[n] (List.getElem_mem hn)
    have hs : pStart I os (n + 1) = (n + 1) * I := by
      rw [r1, i1, nextStart, gridAfter_mul I n hI]
      exact Nat.max_eq_right (by omega)
    refine ⟨hs, ?_⟩
    rw [r2, hs, Nat.add_mul (n + 1) 1 I]
    omega

/-- The instant at which ping `k` (k ≥ 1) of a loop that goes on pinging is issued / is over, in
terms of the scripts; 0 for `k = 0` (no ping yet). -/
def pingStart (I : Nat) (scs : List Script) (k : Nat) : Nat := pStart I (obsOf I scs) k
def pingEnd (I : Nat) (scs : List Script) (k : Nat) : Nat := pEnd I (obsOf I scs) k

theorem pingStart_succ (I : Nat) (scs : List Script) (k : Nat) (sc : Script) (h : scs[k]? = some sc) :
    pingStart I scs (k + 1) = max (pingEnd I scs k) (gridAfter I (pingStart I scs k)) ∧
      pingEnd I scs (k + 1) = pingStart I scs (k + 1) + (observe (pingTimeout I) sc).dur :=
  pStart_succ I _ k _ (by simp [obsOf, h])

/-- The state after the outcomes `os` (threshold `T ≥ 1`): the timing fields are those of `tm` after the `tick` pings
served; then by status — running: all of `os` served, `fails` is the trailing failures, no method-not-found, no prefix
reached the threshold; closed / stopped: the loop ended with ping `tick`, a failure that completed `T` trailing ones
(closed at its end) / a method-not-found, and no earlier prefix had reached the threshold. -/
def Inv (I T : Nat) (os : List Outcome) (s : St) : Prop :=
  (s.pings = (tm I (os.take s.tick)).pings ∧ s.last = pStart I os s.tick ∧ s.free = pEnd I os s.tick) ∧
  match s.status with
  | .running =>
    s.tick = os.length ∧ s.fails = trail os ∧ s.closeAt = none ∧ (∀ o ∈ os, o.isMnf = false) ∧
      (∀ k, k ≤ os.length → trail (os.take k) < T)
  | .closed =>
    ∃ d, 1 ≤ s.tick ∧ s.tick ≤ os.length ∧ os[s.tick - 1]? = some (.fail d) ∧
      s.closeAt = some (s.last + d) ∧ T ≤ trail (os.take s.tick) ∧
      (∀ k, k < s.tick → trail (os.take k) < T) ∧ (∀ o ∈ os.take s.tick, o.isMnf = false)
  | .stopped =>
    ∃ d, 1 ≤ s.tick ∧ s.tick ≤ os.length ∧ os[s.tick - 1]? = some (.mnf d) ∧ s.closeAt = none ∧
      (∀ k, k < s.tick → trail (os.take k) < T) ∧ (∀ o ∈ os.take (s.tick - 1), o.isMnf = false)

theorem timing_step (I : Nat) (os : List Outcome) (o : Outcome) (s : St) (h1 : s.tick = os.length)
    (ht : s.pings = (tm I (os.take s.tick)).pings ∧ s.last = pStart I os s.tick ∧ s.free = pEnd I os s.tick) :
    s.pings ++ [nextStart I s.last s.free] = (tm I ((os ++ [o]).take (s.tick + 1))).pings ∧
      nextStart I s.last s.free = pStart I (os ++ [o]) (s.tick + 1) ∧
      nextStart I s.last s.free + o.dur = pEnd I (os ++ [o]) (s.tick + 1) := by
  obtain ⟨t1, t2, t3⟩ := ht
  unfold pStart pEnd at *
  rw [h1, List.take_length] at t1 t2 t3
  rw [h1, List.take_of_length_le (by simp), tm_snoc]
  simp [tmStep, t1, t2, t3]

theorem timing_keep (I : Nat) (os : List Outcome) (o : Outcome) (s : St) (h2 : s.tick ≤ os.length)
    (ht : s.pings = (tm I (os.take s.tick)).pings ∧ s.last = pStart I os s.tick ∧ s.free = pEnd I os s.tick) :
    s.pings = (tm I ((os ++ [o]).take s.tick)).pings ∧ s.last = pStart I (os ++ [o]) s.tick ∧
      s.free = pEnd I (os ++ [o]) s.tick := by
  unfold pStart pEnd at *
  rw [List.take_append_of_le_length h2]
  exact ht

theorem inv_runO (I T : Nat) (hT : 1 ≤ T) (os : List Outcome) : Inv I T os (runO I T os) := by
  induction os using List.snoc_induction with
  | nil => simp [Inv, runO, tm, tmFrom, pStart, pEnd]; omega
  | snoc os o ih =>
    rw [runO_snoc]
    generalize runO I T os = s at ih
    obtain ⟨hp, hst⟩ := ih
    have take_le : ∀ k, k ≤ os.length → (os ++ [o]).take k = os.take k := fun k hk =>
      List.take_append_of_le_length hk
    cases hs : s.status with
    | running =>
      rw [hs] at hst
      obtain ⟨h1, h2, h3, h4, h5⟩ := hst
      have htm := timing_step I os o s h1 hp
      have hall : ∀ k, k ≤ (os ++ [o]).length → k ≤ os.length ∨ (os ++ [o]).take k = os ++ [o] := by
        intro k hk
        by_cases h : k ≤ os.length
        · exact Or.inl h
        · right
          have : k = (os ++ [o]).length := by simp at hk ⊢; omega
          rw [this, List.take_length]
      have nomnf : o.isMnf = false → ∀ x ∈ os ++ [o], x.isMnf = false := fun ho x hx =>
        (List.mem_append.1 hx).elim (h4 x) (fun h => by rw [List.mem_singleton.1 h]; exact ho)
      have short : trail (os ++ [o]) < T → ∀ k, k ≤ (os ++ [o]).length → trail ((os ++ [o]).take k) < T := by
        intro ht k hk
        rcases hall k hk with h | h
        · rw [take_le k h]; exact h5 k h
        · rw [h]; exact ht
      have full : (os ++ [o]).take (s.tick + 1) = os ++ [o] := by
        rw [h1]; exact List.take_of_length_le (by simp)
      cases o with
      | ok d =>
        refine ⟨by simpa [stepO, hs] using htm, ?_⟩
        simp only [stepO, hs]
        exact ⟨by simp [h1], by simp [trail_snoc, Outcome.isFail], h3, nomnf rfl,
          short (by rw [trail_snoc]; simp [Outcome.isFail]; omega)⟩
      | mnf d =>
        refine ⟨by simpa [stepO, hs] using htm, ?_⟩
        simp only [stepO, hs]
        refine ⟨d, by omega, by simp [h1], by simp [h1], h3, ?_, ?_⟩
        · intro k hk
          have hk' : k ≤ os.length := by omega
          rw [take_le k hk']; exact h5 k hk'
        · intro o ho
          simp only [Nat.add_sub_cancel] at ho
          rw [h1, take_le _ (Nat.le_refl _), List.take_length] at ho
          exact h4 o ho
      | fail d =>
        by_cases hf : s.fails + 1 < T
        · refine ⟨by simpa [stepO, hs, hf] using htm, ?_⟩
          simp only [stepO, hs, hf, if_true]
          exact ⟨by simp [h1], by simp [trail_snoc, Outcome.isFail, h2], h3, nomnf rfl,
            short (by rw [trail_snoc]; simp [Outcome.isFail]; omega)⟩
        · refine ⟨by simpa [stepO, hs, hf] using htm, ?_⟩
          simp only [stepO, hs, hf, if_false]
          refine ⟨d, by omega, by simp [h1], by simp [h1], rfl, ?_, ?_, by rw [full]; exact nomnf rfl⟩
          · rw [full, trail_snoc]; simp [Outcome.isFail]; omega
          · intro k hk
            have hk' : k ≤ os.length := by omega
            rw [take_le k hk']; exact h5 k hk'
    | closed =>
      rw [hs] at hst
      obtain ⟨d, h1, h2, h3, h4, h5, h6, h7⟩ := hst
      have hstep : stepO I T s o = s := by simp [stepO, hs]
      rw [hstep]
      refine ⟨timing_keep I os o s h2 hp, ?_⟩
      rw [hs]
      refine ⟨d, h1, by simp; omega, ?_, h4, ?_, ?_, ?_⟩
      · rw [List.getElem?_append_left (by omega)]; exact h3
      · rw [take_le _ h2]; exact h5
      · intro k hk; rw [take_le k (by omega)]; exact h6 k hk
      · rw [take_le _ h2]; exact h7
    | stopped =>
      rw [hs] at hst
      obtain ⟨d, h1, h2, h3, h4, h5, h6⟩ := hst
      have hstep : stepO I T s o = s := by simp [stepO, hs]
      rw [hstep]
      refine ⟨timing_keep I os o s h2 hp, ?_⟩
      rw [hs]
      refine ⟨d, h1, by simp; omega, ?_, h4, ?_, ?_⟩
      · rw [List.getElem?_append_left (by omega)]; exact h3
      · intro k hk; rw [take_le k (by omega)]; exact h5 k hk
      · rw [take_le _ (by omega)]; exact h6

theorem obsOf_length (I : Nat) (scs : List Script) : (obsOf I scs).length = scs.length := by simp [obsOf]

theorem run_snoc (I : Nat) (t0 : Int) (scs : List Script) (sc : Script) :
    run I t0 (scs ++ [sc]) = step I (threshold t0) (run I t0 scs) sc := by
  simp [run, List.foldl_append]

theorem misses_tolerated (I T : Nat) (misses : List Script) : ∀ s : St,
    s.status = .running → (∀ m ∈ misses, (observe (pingTimeout I) m).isFail = true) →
    s.fails + misses.length < T →
    (misses.foldl (step I T) s).status = .running ∧
      (misses.foldl (step I T) s).fails = s.fails + misses.length ∧
      (misses.foldl (step I T) s).closeAt = s.closeAt := by
  induction misses with
  | nil => intro s hr _ _; simp [hr]
  | cons m t ih =>
    intro s hr hm hlt
    have hf := hm m (by simp)
    simp only [List.length_cons] at hlt
    have hstep : (step I T s m).status = .running ∧ (step I T s m).fails = s.fails + 1 ∧
        (step I T s m).closeAt = s.closeAt := by
      rw [step_eq_stepO]
      cases ho : observe (pingTimeout I) m with
      | ok d => rw [ho] at hf; cases hf
      | mnf d => rw [ho] at hf; cases hf
      | fail d =>
        have : s.fails + 1 < T := by omega
        simp [stepO, hr, this]
    obtain ⟨h1, h2, h3⟩ := hstep
    obtain ⟨i1, i2, i3⟩ := ih (step I T s m) h1 (fun x hx => hm x (by simp [hx])) (by omega)
    simp only [List.foldl_cons]
    exact ⟨i1, by rw [i2, h2, List.length_cons]; omega, by rw [i3, h3]⟩

theorem close_window (I k T d last : Nat) (hT : 1 ≤ T) (hTk : T ≤ k) (hl : last = k * I)
    (hd : last + d ≤ last + I / 2) (hI : 0 < I) :
    k * I ≤ last + d ∧ last + d ≤ k * I + I / 2 ∧
      last + d ≤ (k + 1 - T) * I + (T - 1) * I + I / 2 ∧ last + d < (k + 1) * I := by
  have hsum : (k + 1 - T) * I + (T - 1) * I = k * I := by
    rw [← Nat.add_mul]; congr 1; omega
  rw [Nat.add_mul]; omega

theorem step_tick_le (I T : Nat) (s : St) (sc : Script) : s.tick ≤ (step I T s sc).tick := by
  rw [step_eq_stepO]
  unfold stepO
  cases s.status <;> simp only [] <;> try exact Nat.le_refl _
  cases observe (pingTimeout I) sc <;> simp only [] <;> try exact Nat.le_succ _
  split <;> exact Nat.le_succ _

theorem warnsFrom_append (I T : Nat) (a b : List Script) : ∀ s : St,
    warnsFrom I T s (a ++ b) = warnsFrom I T s a ++ warnsFrom I T (a.foldl (step I T) s) b := by
  induction a with
  | nil => intro s; simp [warnsFrom]
  | cons x t ih => intro s; simp [warnsFrom, ih, List.append_assoc]

theorem warns_snoc (I : Nat) (t0 : Int) (scs : List Script) (sc : Script) :
    warns I t0 (scs ++ [sc]) = warns I t0 scs ++ warnStep I (threshold t0) (run I t0 scs) sc := by
  unfold warns
  rw [warnsFrom_append]
  simp [warnsFrom, run]

theorem pingEnd_append_left (I : Nat) (a b : List Script) (k : Nat) (hk : k ≤ a.length) :
    pingEnd I (a ++ b) k = pingEnd I a k ∧ pingStart I (a ++ b) k = pingStart I a k := by
  unfold pingEnd pingStart pEnd pStart obsOf
  rw [List.map_append, List.take_append_of_le_length (by simpa using hk)]
  exact ⟨rfl, rfl⟩

theorem pingEnd_mono (I : Nat) (scs : List Script) (j k : Nat) (h : j ≤ k) (hk : k ≤ scs.length) :
    pingEnd I scs j ≤ pingEnd I scs k :=
  pEnd_mono I _ j k h (by simpa [obsOf] using hk)

theorem pingsBeforeFrom_spec (I tc : Nat) : ∀ (scs : List Script) (t : Tm),
    pingsBeforeFrom I tc t.last t.free scs ≤ scs.length ∧
    (∀ p ∈ (tmFrom I t (obsOf I (scs.take (pingsBeforeFrom I tc t.last t.free scs)))).pings,
      p ∈ t.pings ∨ p < tc) ∧
    (pingsBeforeFrom I tc t.last t.free scs < scs.length →
      tc ≤ nextStart I (tmFrom I t (obsOf I (scs.take (pingsBeforeFrom I tc t.last t.free scs)))).last
        (tmFrom I t (obsOf I (scs.take (pingsBeforeFrom I tc t.last t.free scs)))).free) := by
  intro scs
  induction scs with
  | nil => intro t; simp [pingsBeforeFrom, obsOf, tmFrom]; exact fun p h => Or.inl h
  | cons sc rest ih =>
    intro t
    by_cases hp : nextStart I t.last t.free < tc
    · have hn : pingsBeforeFrom I tc t.last t.free (sc :: rest) =
          pingsBeforeFrom I tc (tmStep I t (observe (pingTimeout I) sc)).last
            (tmStep I t (observe (pingTimeout I) sc)).free rest + 1 := by
        simp [pingsBeforeFrom, hp, tmStep]
      obtain ⟨i1, i2, i3⟩ := ih (tmStep I t (observe (pingTimeout I) sc))
      rw [hn]
      simp only [List.take_succ_cons, obsOf, List.map_cons, tmFrom_cons, List.length_cons]
      refine ⟨by omega, ?_, fun hlt => i3 (by omega)⟩
      intro p hp'
      rcases i2 p hp' with h | h
      · simp only [tmStep, List.mem_append, List.mem_singleton] at h
        rcases h with h | h
        · exact Or.inl h
        · right; rw [h]; exact hp
      · exact Or.inr h
    · have hn : pingsBeforeFrom I tc t.last t.free (sc :: rest) = 0 := by
        simp [pingsBeforeFrom, hp]
      rw [hn]
      simp only [List.take_zero, obsOf, List.map_nil, tmFrom, List.foldl_nil, List.length_cons]
      exact ⟨by omega, fun p h => Or.inl h, fun _ => by omega⟩

theorem tmFrom_pings_prefix (I : Nat) (os : List Outcome) : ∀ t : Tm,
    ∃ l, (tmFrom I t os).pings = t.pings ++ l := by
  induction os with
  | nil => intro t; exact ⟨[], by simp [tmFrom]⟩
  | cons o rest ih =>
    intro t
    obtain ⟨l, hl⟩ := ih (tmStep I t o)
    exact ⟨nextStart I t.last t.free :: l, by rw [tmFrom_cons, hl]; simp [tmStep]⟩

theorem tm_take_pings_subset (I : Nat) (os : List Outcome) (k : Nat) :
    ∀ p ∈ (tm I (os.take k)).pings, p ∈ (tm I os).pings := by
  intro p hp
  have : tm I os = tmFrom I (tm I (os.take k)) (os.drop k) := by
    have h := List.take_append_drop k os
    unfold tm tmFrom
    rw [← List.foldl_append, h]
  obtain ⟨l, hl⟩ := tmFrom_pings_prefix I (os.drop k) (tm I (os.take k))
  rw [this, hl]
  exact List.mem_append.2 (Or.inl hp)

theorem pingsBeforeFrom_append (I tc : Nat) (b : List Script) : ∀ (a : List Script) (t : Tm),
    pingsBeforeFrom I tc t.last t.free (a ++ b) =
      if pingsBeforeFrom I tc t.last t.free a = a.length then
        a.length + pingsBeforeFrom I tc (tmFrom I t (obsOf I a)).last (tmFrom I t (obsOf I a)).free b
      else pingsBeforeFrom I tc t.last t.free a := by
  intro a
  induction a with
  | nil => intro t; simp [pingsBeforeFrom, obsOf, tmFrom]
  | cons sc rest ih =>
    intro t
    by_cases hp : nextStart I t.last t.free < tc
    · have hcons : ∀ l, pingsBeforeFrom I tc t.last t.free (sc :: l) =
          pingsBeforeFrom I tc (tmStep I t (observe (pingTimeout I) sc)).last
            (tmStep I t (observe (pingTimeout I) sc)).free l + 1 := by
        intro l; simp [pingsBeforeFrom, hp, tmStep]
      rw [List.cons_append, hcons, hcons, ih (tmStep I t (observe (pingTimeout I) sc))]
      simp only [List.length_cons, obsOf, List.map_cons, tmFrom_cons]
      split
      · rename_i h; rw [if_pos (by omega)]; omega
      · rename_i h; rw [if_neg (by omega)]
    · simp [pingsBeforeFrom, hp]

end KeepAlive
