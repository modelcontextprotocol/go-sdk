import McpModel.KeepAlive.Lemmas
/-!
# C13 — property theorems for the keep-alive loop (model: `KeepAlive.run`, `KeepAlive.runCancel`)

Every theorem quantifies over *all* finite lists of ping scripts (answered after d / method-not-found
after d / other error after d / never), all configured thresholds `t0 : Int` (negative and zero
included; `T = threshold t0` is the normalised one) and all intervals `I` (in ns).  The loop is a fold
over the outcomes; the invariant `Inv` (Lemmas) is carried by induction from the right end of the list.
The literal `I / 2`, the `< 1 → 1` normalisation and the tolerance test in the statements are checked
against the expressions regenerated from mcp/shared.go.

A script may describe a ping that OVERRUNS its deadline (`honours = false`: its write is blocked for
as long as the peer does not read).  The decisions of the loop do not depend on how long pings last; the
instants do: the general schedule is `pings_at_pending_ticks`, and the statements in terms of the tick grid
carry the hypothesis that the pings concerned honour their context.
-/
namespace KeepAlive
open Generated.KeepAlive

theorem threshold_norm (t0 : Int) : threshold t0 = if t0 < 1 then 1 else t0.toNat := threshold_eq t0

theorem ping_timeout_half (I : Nat) : pingTimeout I = I / 2 := rfl

/-- The regenerated sentinel of `errors.Is(err, …)` in the Go loop is JSON-RPC method-not-found: that is what `Kind.mnf`
stands for.  No definition of the model reads the string. -/
theorem stop_sentinel : stopSentinel = "jsonrpc2.ErrMethodNotFound" := rfl

/-- Every ping that honours its context is over before the next tick (so the ticker never drops a
tick and "the k-th ping" is "tick k"): it lasts at most `I / 2 < I`. -/
theorem ping_done_before_next_tick (I : Nat) (hI : 0 < I) (sc : Script) (hh : sc.honours = true) :
    (observe (pingTimeout I) sc).dur ≤ I / 2 ∧ (observe (pingTimeout I) sc).dur < I := by
  have := observe_dur_le (pingTimeout I) sc hh
  simp only [pingTimeout] at this ⊢
  omega

theorem inv_run (I : Nat) (t0 : Int) (scs : List Script) :
    Inv I (threshold t0) (obsOf I scs) (run I t0 scs) := by
  rw [run_eq_runO]; exact inv_runO I _ (threshold_pos t0) _

theorem run_tick_le_length (I : Nat) (t0 : Int) (scs : List Script) :
    (run I t0 scs).tick ≤ scs.length := by
  obtain ⟨_, hst⟩ := inv_run I t0 scs
  have hlen := obsOf_length I scs
  cases hs : (run I t0 scs).status with
  | running => rw [hs] at hst; omega
  | closed => rw [hs] at hst; obtain ⟨d, _, h2, _⟩ := hst; omega
  | stopped => rw [hs] at hst; obtain ⟨d, _, h2, _⟩ := hst; omega

theorem run_closeAt_none (I : Nat) (t0 : Int) (scs : List Script) (h : (run I t0 scs).status ≠ .closed) :
    (run I t0 scs).closeAt = none := by
  obtain ⟨_, hst⟩ := inv_run I t0 scs
  cases hs : (run I t0 scs).status with
  | running => rw [hs] at hst; exact hst.2.2.1
  | stopped => rw [hs] at hst; obtain ⟨d, _, _, _, h4, _⟩ := hst; exact h4
  | closed => exact absurd hs h

/-- **closes_iff_T_consecutive.** The loop calls `Close` at tick `k` if and only if `k` is the least
index such that the `T` outcomes ending at tick `k` are all failures other than method-not-found,
no tick up to `k` reported method-not-found (which would have stopped the loop). -/
theorem closes_iff_T_consecutive (I : Nat) (t0 : Int) (scs : List Script) (k : Nat) :
    ((run I t0 scs).status = .closed ∧ (run I t0 scs).tick = k) ↔
      (threshold t0 ≤ k ∧ k ≤ (obsOf I scs).length ∧
       (∀ o ∈ ((obsOf I scs).take k).drop (k - threshold t0), o.isFail = true) ∧
       (∀ o ∈ (obsOf I scs).take k, o.isMnf = false) ∧
       (∀ k', k' < k → threshold t0 ≤ k' →
          ∃ o ∈ ((obsOf I scs).take k').drop (k' - threshold t0), o.isFail = false)) := by
  have hinv := inv_run I t0 scs
  generalize run I t0 scs = s at hinv
  generalize obsOf I scs = os at hinv
  generalize hT : threshold t0 = T at hinv
  have hTpos : 1 ≤ T := hT ▸ threshold_pos t0
  -- window form of `T ≤ trail (os.take j)` and of its negation, for j ≤ length
  have win : ∀ j, j ≤ os.length →
      (T ≤ trail (os.take j) ↔ T ≤ j ∧ ∀ o ∈ (os.take j).drop (j - T), o.isFail = true) := by
    intro j hj
    rw [le_trail_iff, List.length_take, Nat.min_eq_left hj]
  have short : ∀ j, j ≤ os.length →
      (trail (os.take j) < T ↔ (T ≤ j → ∃ o ∈ (os.take j).drop (j - T), o.isFail = false)) := by
    intro j hj
    rw [← Nat.not_le, win j hj, not_and]
    exact forall_congr' fun _ => by simp
  obtain ⟨_, hst⟩ := hinv
  constructor
  · rintro ⟨hc, hk⟩
    rw [hc] at hst
    obtain ⟨d, h1, h2, h3, h4, h5, h6, h7⟩ := hst
    subst hk
    obtain ⟨w1, w2⟩ := (win _ h2).1 h5
    exact ⟨w1, h2, w2, h7, fun k' hk' => (short k' (by omega)).1 (h6 k' hk')⟩
  · rintro ⟨r1, r2, r3, r4, r5⟩
    have hk : T ≤ trail (os.take k) := (win k r2).2 ⟨r1, r3⟩
    have least : ∀ k', k' < k → trail (os.take k') < T := fun k' hk' => (short k' (by omega)).2 (r5 k' hk')
    cases hs : s.status with
    | running =>
      rw [hs] at hst
      obtain ⟨_, _, _, _, h5⟩ := hst
      have := h5 k r2
      omega
    | closed =>
      rw [hs] at hst
      obtain ⟨d, h1, h2, h3, h4, h5, h6, h7⟩ := hst
      refine ⟨rfl, ?_⟩
      by_cases hlt : s.tick < k
      · have := least _ hlt; omega
      · by_cases hgt : k < s.tick
        · have := h6 k hgt; omega
        · omega
    | stopped =>
      rw [hs] at hst
      obtain ⟨d, h1, h2, h3, h4, h5, h6⟩ := hst
      exfalso
      by_cases hle : s.tick ≤ k
      · -- the method-not-found outcome lies within the first k outcomes
        have hmem : Outcome.mnf d ∈ os.take k := by
          rw [List.mem_take_iff_getElem]
          have hlt : s.tick - 1 < os.length := by omega
          refine ⟨s.tick - 1, by rw [Nat.lt_min]; omega, ?_⟩
          have := List.getElem?_eq_some_iff.1 h3
          obtain ⟨_, h⟩ := this
          exact h
        have := r4 _ hmem
        simp [Outcome.isMnf] at this
      · have := h5 k (by omega); omega

/-- Equivalently: the loop never calls `Close` while every run of consecutive failures is shorter
than the threshold. -/
theorem not_closed_of_short_runs (I : Nat) (t0 : Int) (scs : List Script)
    (h : ∀ k, k ≤ (obsOf I scs).length → trail ((obsOf I scs).take k) < threshold t0) :
    (run I t0 scs).status ≠ .closed ∧ (run I t0 scs).closeAt = none := by
  have hnc : (run I t0 scs).status ≠ .closed := by
    intro hs
    obtain ⟨_, hst⟩ := inv_run I t0 scs
    rw [hs] at hst
    obtain ⟨d, h1, h2, h3, h4, h5, h6, h7⟩ := hst
    have := h _ h2
    omega
  exact ⟨hnc, run_closeAt_none I t0 scs hnc⟩

/-- **answer_resets.** An answered ping sets the counter to 0 and keeps the loop running. -/
theorem answer_resets (I : Nat) (t0 : Int) (scs : List Script) (sc : Script) (d : Nat)
    (hr : (run I t0 scs).status = .running) (hok : observe (pingTimeout I) sc = .ok d) :
    (run I t0 (scs ++ [sc])).status = .running ∧ (run I t0 (scs ++ [sc])).fails = 0 ∧
      (run I t0 (scs ++ [sc])).closeAt = (run I t0 scs).closeAt := by
  rw [run_snoc, step_eq_stepO, hok]
  simp [stepO, hr]

/-- **answer_resets, as the property words it.** A peer that answers after fewer than `T`
consecutive misses is not closed: after the answer the loop is running with a zero counter and
`Close` has not been called. -/
theorem answer_after_misses_keeps_alive (I : Nat) (t0 : Int) (pre misses : List Script)
    (sc : Script) (d : Nat) (hr : (run I t0 pre).status = .running)
    (hm : ∀ m ∈ misses, (observe (pingTimeout I) m).isFail = true)
    (hlt : (run I t0 pre).fails + misses.length < threshold t0)
    (hok : observe (pingTimeout I) sc = .ok d) :
    (run I t0 (pre ++ misses ++ [sc])).status = .running ∧
      (run I t0 (pre ++ misses ++ [sc])).fails = 0 ∧
      (run I t0 (pre ++ misses ++ [sc])).closeAt = none := by
  have hpre : (run I t0 pre).closeAt = none := run_closeAt_none I t0 pre (by rw [hr]; simp)
  obtain ⟨m1, m2, m3⟩ := misses_tolerated I (threshold t0) misses (run I t0 pre) hr hm hlt
  have hmid : run I t0 (pre ++ misses) = misses.foldl (step I (threshold t0)) (run I t0 pre) :=
    by simp [run, List.foldl_append]
  obtain ⟨a1, a2, a3⟩ := answer_resets I t0 (pre ++ misses) sc d (by rw [hmid]; exact m1) hok
  exact ⟨a1, a2, by rw [a3, hmid, m3, hpre]⟩

/-- The state's clock in terms of the pings served: what `close_time_bound`, `cancel_ends_promptly` and the bridge's
`closing_accepts` read `last` and `free` from. -/
theorem run_clock (I : Nat) (t0 : Int) (scs : List Script) :
    ((run I t0 scs).tick = 0 ∧ (run I t0 scs).free = 0 ∧ (run I t0 scs).last = 0) ∨
    ∃ sc, scs[(run I t0 scs).tick - 1]? = some sc ∧ 1 ≤ (run I t0 scs).tick ∧
      (run I t0 scs).free = (run I t0 scs).last + (observe (pingTimeout I) sc).dur ∧
      (run I t0 scs).last ∈ (run I t0 scs).pings := by
  obtain ⟨⟨hp, hl, hf⟩, hst⟩ := inv_run I t0 scs
  have htl : (run I t0 scs).tick ≤ (obsOf I scs).length := by
    rw [obsOf_length]; exact run_tick_le_length I t0 scs
  generalize (run I t0 scs).tick = k at *
  cases k with
  | zero => left; simp [hl, hf, pStart_zero]
  | succ j =>
    right
    have hlen := obsOf_length I scs
    have hj : j < scs.length := by omega
    refine ⟨scs[j], by simp [List.getElem?_eq_getElem hj], by omega, ?_, ?_⟩
    · have ho : (obsOf I scs)[j]? = some (observe (pingTimeout I) scs[j]) := by
        simp [obsOf, List.getElem?_eq_getElem hj]
      rw [hl, hf]; exact (pStart_succ I _ j _ ho).2
    · rw [hp, tm_pings, hl]
      simp only [List.mem_map, List.mem_range, List.length_take]
      refine ⟨j, by omega, ?_⟩
      unfold pStart
      rw [List.take_take, Nat.min_self]

/-- The pings of a run whose scripts all last less than an interval (in particular: that all honour
their context) are issued exactly on the ticks. -/
theorem run_on_grid (I : Nat) (hI : 0 < I) (t0 : Int) (scs : List Script)
    (hh : ∀ sc ∈ scs, (observe (pingTimeout I) sc).dur < I) :
    (run I t0 scs).pings = tickTimes I (run I t0 scs).tick ∧
      (run I t0 scs).last = (run I t0 scs).tick * I := by
  obtain ⟨⟨hp, hl, _⟩, hst⟩ := inv_run I t0 scs
  have htl : (run I t0 scs).tick ≤ (obsOf I scs).length := by
    rw [obsOf_length]; exact run_tick_le_length I t0 scs
  have hshort : ∀ o ∈ obsOf I scs, o.dur < I := by
    intro o ho
    simp only [obsOf, List.mem_map] at ho
    obtain ⟨sc, hsc, rfl⟩ := ho
    exact hh sc hsc
  refine ⟨?_, by rw [hl]; exact (pStart_grid I hI _ hshort _ htl).1⟩
  rw [hp, tm_pings]
  simp only [tickTimes, List.length_take, Nat.min_eq_left htl]
  apply List.map_congr_left
  intro j hj
  have hj' : j < (run I t0 scs).tick := by simpa using hj
  have hshort' : ∀ o ∈ (obsOf I scs).take (run I t0 scs).tick, o.dur < I :=
    fun o ho => hshort o (List.mem_of_mem_take ho)
  exact (pStart_grid I hI _ hshort' (j + 1) (by rw [List.length_take]; omega)).1

theorem honours_short (I : Nat) (hI : 0 < I) (scs : List Script) (hh : ∀ sc ∈ scs, sc.honours = true) :
    ∀ sc ∈ scs, (observe (pingTimeout I) sc).dur < I :=
  fun sc hsc => (ping_done_before_next_tick I hI sc (hh sc hsc)).2

/-- **close_time_bound.** If the loop closes the session with ping `k` (the `T`-th consecutive miss;
`T ≤ k`), `Close` is called when that ping is over: at `c = last + (its duration)`, `last` being the
instant it was issued; when that ping honoured its context, at most one ping timeout (`I/2`) after
`last`.  When all pings honour their context the closing ping is the one of tick `k`, the first miss of
the failing run was the ping of tick `k + 1 - T`, issued at `(k + 1 - T)·I`, and
`k·I ≤ c ≤ k·I + I/2`: i.e. within `T - 1` further intervals plus one ping timeout of that first
miss, and strictly before tick `k + 1`. -/
theorem close_time_bound (I : Nat) (t0 : Int) (scs : List Script)
    (hc : (run I t0 scs).status = .closed) :
    ∃ c, (run I t0 scs).closeAt = some c ∧ threshold t0 ≤ (run I t0 scs).tick ∧
      c = (run I t0 scs).free ∧ (run I t0 scs).last ≤ c ∧
      (∀ sc, scs[(run I t0 scs).tick - 1]? = some sc → sc.honours = true →
        c ≤ (run I t0 scs).last + I / 2) ∧
      ((∀ sc ∈ scs, sc.honours = true) → 0 < I →
        (run I t0 scs).last = (run I t0 scs).tick * I ∧
        (run I t0 scs).tick * I ≤ c ∧ c ≤ (run I t0 scs).tick * I + I / 2 ∧
        c ≤ ((run I t0 scs).tick + 1 - threshold t0) * I + (threshold t0 - 1) * I + I / 2 ∧
        c < ((run I t0 scs).tick + 1) * I) := by
  have hclk := run_clock I t0 scs
  obtain ⟨_, hst⟩ := inv_run I t0 scs
  rw [hc] at hst
  obtain ⟨d, h1, h2, h3, h4, h5, h6, h7⟩ := hst
  have hTk : threshold t0 ≤ (run I t0 scs).tick := by
    have := trail_le_length ((obsOf I scs).take (run I t0 scs).tick)
    rw [List.length_take] at this
    omega
  rcases hclk with ⟨h0, _⟩ | ⟨sc, hsc, _, hfree, _⟩
  · omega
  have hod : observe (pingTimeout I) sc = .fail d := by
    simp only [obsOf, List.getElem?_map, hsc, Option.map_some, Option.some.injEq] at h3
    exact h3
  have hfd : (run I t0 scs).free = (run I t0 scs).last + d := by rw [hfree, hod]; rfl
  have hhon : ∀ sc', scs[(run I t0 scs).tick - 1]? = some sc' → sc'.honours = true →
      (run I t0 scs).last + d ≤ (run I t0 scs).last + I / 2 := by
    intro sc' hsc' hh'
    rw [hsc] at hsc'
    injection hsc' with hsc'
    subst hsc'
    have := observe_dur_le (pingTimeout I) sc hh'
    rw [hod] at this
    simp only [Outcome.dur, pingTimeout] at this
    omega
  refine ⟨(run I t0 scs).last + d, h4, hTk, hfd.symm, by omega, hhon, ?_⟩
  intro hall hI
  have hgrid := (run_on_grid I hI t0 scs (honours_short I hI scs hall)).2
  have hd := hhon sc hsc (hall sc (List.mem_of_getElem? hsc))
  exact ⟨hgrid, close_window I _ _ d _ (threshold_pos t0) hTk hgrid hd hI⟩

/-- Once the goroutine has returned nothing happens any more: no further ping, no second `Close`. -/
theorem terminal_absorbing (I T : Nat) (s : St) (sc : Script) (h : s.status ≠ .running) :
    step I T s sc = s := by
  unfold step
  cases hs : s.status with
  | running => exact absurd hs h
  | closed => rfl
  | stopped => rfl

/-- **silent_stop.** (1) If the loop ended without closing, it ended on a method-not-found outcome and
`Close` was never called.  (2) Cancellation (`*cancelPtr`, called by the sessions' `Close`) always
ends the loop and never closes anything by itself: with cancellation at `tc` the loop closes iff it
would have closed on the pings issued before `tc`, at the same instant, after the same pings.  (That
the ticker is stopped and the goroutine returns in every terminal state is the structural fact
`keepalive.goroutine` — `defer ticker.Stop()`, every exit is a `return` — and is observed by the
harness: goroutine count and no activity after the end.) -/
theorem silent_stop (I : Nat) (t0 : Int) (scs : List Script) :
    ((run I t0 scs).status = .stopped →
      (run I t0 scs).closeAt = none ∧
      ∃ d, (obsOf I scs)[(run I t0 scs).tick - 1]? = some (.mnf d)) ∧
    (∀ tc, (runCancel I t0 scs tc).status ≠ .running ∧
      (runCancel I t0 scs tc).closeAt = (run I t0 (scs.take (pingsBefore I tc scs))).closeAt ∧
      (runCancel I t0 scs tc).pings = (run I t0 (scs.take (pingsBefore I tc scs))).pings ∧
      ((runCancel I t0 scs tc).status = .closed ↔
        (run I t0 (scs.take (pingsBefore I tc scs))).status = .closed)) := by
  constructor
  · intro hs
    obtain ⟨_, hst⟩ := inv_run I t0 scs
    rw [hs] at hst
    obtain ⟨d, _, _, h3, h4, _⟩ := hst
    exact ⟨h4, d, h3⟩
  · intro tc
    unfold runCancel
    cases hs : (run I t0 (scs.take (pingsBefore I tc scs))).status <;> simp [hs]

/-- **pings_at_ticks.** When every ping honours its context, the loop pings exactly at the ticks
`I, 2I, …, m·I` it has consumed; in any case at most one ping per script. -/
theorem pings_at_ticks (I : Nat) (t0 : Int) (scs : List Script) :
    ((∀ sc ∈ scs, sc.honours = true) → 0 < I →
      (run I t0 scs).pings = tickTimes I (run I t0 scs).tick) ∧
    (run I t0 scs).tick ≤ scs.length :=
  ⟨fun hh hI => (run_on_grid I hI t0 scs (honours_short I hI scs hh)).1, run_tick_le_length I t0 scs⟩

/-- **pings_at_pending_ticks** — the schedule in general (pings may overrun their deadline).  The
loop's pings are the first `m` pings of the schedule `pingStart`/`pingEnd`, where ping `k+1` is
issued at the first tick of the grid after ping `k` was issued — or, if ping `k` was still in flight
then, the moment ping `k` ends (the ticker keeps one tick pending and drops the others) — and ends
after its duration.  So: never two pings at once, never more than one ping per tick, after an overrun
the pending tick is served at once and the following pings are on the grid again. -/
theorem pings_at_pending_ticks (I : Nat) (t0 : Int) (scs : List Script) :
    (run I t0 scs).pings = (List.range (run I t0 scs).tick).map (fun j => pingStart I scs (j + 1)) ∧
    pingStart I scs 0 = 0 ∧ pingEnd I scs 0 = 0 ∧
    (∀ k sc, scs[k]? = some sc →
      pingStart I scs (k + 1) = max (pingEnd I scs k) (gridAfter I (pingStart I scs k)) ∧
      pingEnd I scs (k + 1) = pingStart I scs (k + 1) + (observe (pingTimeout I) sc).dur) := by
  obtain ⟨⟨hp, _, _⟩, _⟩ := inv_run I t0 scs
  have htl := run_tick_le_length I t0 scs
  have hlen := obsOf_length I scs
  refine ⟨?_, (pStart_zero I _).1, (pStart_zero I _).2, ?_⟩
  · rw [hp, tm_pings]
    simp only [List.length_take, Nat.min_eq_left (by omega : (run I t0 scs).tick ≤ (obsOf I scs).length)]
    apply List.map_congr_left
    intro j hj
    have hj' : j < (run I t0 scs).tick := by simpa using hj
    unfold pingStart pStart
    rw [List.take_take, Nat.min_eq_left (by omega)]
  · exact pingStart_succ I scs

/-- Between two consecutive pings of the schedule (interval `I > 0`): the next one is issued after the
previous one has ended, strictly later than it was issued, at most one interval later unless the
previous ping was still in flight then — in which case exactly when it ends. -/
theorem next_ping_bounds (I : Nat) (hI : 0 < I) (scs : List Script) (k : Nat) (hk : k < scs.length) :
    pingEnd I scs k ≤ pingStart I scs (k + 1) ∧ pingStart I scs k < pingStart I scs (k + 1) ∧
      (pingStart I scs (k + 1) ≤ pingStart I scs k + I ∨ pingStart I scs (k + 1) = pingEnd I scs k) := by
  have hsc : scs[k]? = some scs[k] := List.getElem?_eq_getElem hk
  obtain ⟨h1, _⟩ := pingStart_succ I scs k _ hsc
  have hg := gridAfter_gt I (pingStart I scs k) hI
  have hl := gridAfter_le I (pingStart I scs k)
  rw [h1]
  refine ⟨Nat.le_max_left _ _, by omega, ?_⟩
  rcases Nat.le_total (pingEnd I scs k) (gridAfter I (pingStart I scs k)) with h | h
  · left; rw [Nat.max_eq_right h]; exact hl
  · right; exact Nat.max_eq_left h

/-- **overrun_does_not_poison_next_ping.** Let the loop still be running after a ping `ov`, whatever
it was and however long it lasted — in particular a tolerated miss that overran its deadline by any amount because
the peer did not read.  The next ping is issued at the pending tick (at the end of the overrun if a tick
fired meanwhile, else at the next tick of the grid) and is judged against a FRESH ping timeout,
counted from the instant it is issued: if the peer answers it within `pingTimeout I`, it counts as
answered, the failure counter is back to 0 and the session is not closed. -/
theorem overrun_does_not_poison_next_ping (I : Nat) (t0 : Int) (pre : List Script) (ov nxt : Script)
    (d : Nat) (hr : (run I t0 (pre ++ [ov])).status = .running)
    (hk : nxt.kind = .answer) (hd : nxt.delay = some d) (hlt : d < pingTimeout I) :
    (run I t0 (pre ++ [ov] ++ [nxt])).status = .running ∧
      (run I t0 (pre ++ [ov] ++ [nxt])).fails = 0 ∧
      (run I t0 (pre ++ [ov] ++ [nxt])).closeAt = none ∧
      (run I t0 (pre ++ [ov] ++ [nxt])).last =
        max (run I t0 (pre ++ [ov])).free (gridAfter I (run I t0 (pre ++ [ov])).last) ∧
      (run I t0 (pre ++ [ov] ++ [nxt])).free = (run I t0 (pre ++ [ov] ++ [nxt])).last + d := by
  have hok : observe (pingTimeout I) nxt = .ok d := by
    unfold observe
    rw [hd]
    simp [hlt, hk]
  obtain ⟨a1, a2, a3⟩ := answer_resets I t0 (pre ++ [ov]) nxt d hr hok
  have hnone : (run I t0 (pre ++ [ov])).closeAt = none := run_closeAt_none I t0 _ (by rw [hr]; simp)
  refine ⟨a1, a2, by rw [a3, hnone], ?_, ?_⟩
  · rw [run_snoc, step_eq_stepO, hok]
    simp [stepO, hr, nextStart]
  · rw [run_snoc, step_eq_stepO, hok]
    simp [stepO, hr, Outcome.dur]

/-- The same for an overrun in particular: when the overrunning ping was still in flight at the next
tick, the following ping is issued the moment the overrun ends. -/
theorem overrun_serves_pending_tick (I : Nat) (t0 : Int) (pre : List Script) (ov nxt : Script)
    (hr : (run I t0 (pre ++ [ov])).status = .running)
    (hov : gridAfter I (run I t0 (pre ++ [ov])).last ≤ (run I t0 (pre ++ [ov])).free) :
    (run I t0 (pre ++ [ov] ++ [nxt])).last = (run I t0 (pre ++ [ov])).free := by
  rw [run_snoc, step_eq_stepO]
  cases observe (pingTimeout I) nxt <;> simp [stepO, hr, nextStart] <;> try omega
  all_goals (split <;> simp <;> omega)

/-! ### What `overrun_does_not_poison_next_ping` excludes

A loop that takes the ping deadline from the TICK's timestamp (`tick.Add(interval/2)`) instead of
from the instant the ping is issued behaves identically as long as no ping overruns; after an overrun
the pending tick is stale, the next ping's context may already have expired, the ping is never
written and is counted as a second miss although the peer reads and answers again. -/

/-- One iteration with the deadline anchored at the tick's timestamp (the first grid instant after the
previous ping was issued): the ping has only what is left of `pingTimeout I` since then.  (The body of `step` with that
one change: it has to follow `step`.) -/
def stepStale (I T : Nat) (s : St) (sc : Script) : St :=
  match s.status with
  | .running =>
    let t := nextStart I s.last s.free
    let budget := gridAfter I s.last + pingTimeout I - t
    let o := if budget = 0 then Outcome.fail 0 else observe budget sc
    let s1 : St := { s with tick := s.tick + 1, pings := s.pings ++ [t], last := t, free := t + o.dur }
    match o with
    | .ok _ => { s1 with fails := 0 }
    | .mnf _ => { s1 with status := .stopped }
    | .fail d =>
      let f := s.fails + 1
      if tolerated f T then { s1 with fails := f }
      else { s1 with fails := f, status := .closed, closeAt := some (t + d) }
  | _ => s

private def ovr (d : Nat) : Script := { kind := .error, delay := some d, honours := false }
private def ans (d : Nat) : Script := { kind := .answer, delay := some d }
private def miss : Script := { kind := .answer, delay := none }  -- never answered: `kind` is not looked at (`observe`)

/-- Threshold 2, interval 1000: the first ping's write is blocked until 2600 (one real miss), then the
peer answers every ping at once.  The loop keeps the session (counter back to 0, second ping issued
at 2600, third on the grid at 3000); the stale-deadline variant closes the live session at 2600. -/
theorem stale_deadline_counterexample :
    (run 1000 2 [ovr 1600, ans 0, ans 0]).status = .running ∧
    (run 1000 2 [ovr 1600, ans 0, ans 0]).fails = 0 ∧
    (run 1000 2 [ovr 1600, ans 0, ans 0]).pings = [1000, 2600, 3000] ∧
    ([ovr 1600, ans 0, ans 0].foldl (stepStale 1000 (threshold 2)) {}).status = .closed ∧
    ([ovr 1600, ans 0, ans 0].foldl (stepStale 1000 (threshold 2)) {}).closeAt = some 2600 := by
  decide +kernel

/-- As long as no ping overruns, `stepStale` and `step` are the same loop. -/
theorem stepStale_eq_step_on_grid (I T : Nat) (s : St) (sc : Script)
    (h : s.free ≤ gridAfter I s.last) (hI : 2 ≤ I) : stepStale I T s sc = step I T s sc := by
  unfold stepStale step
  have ht : nextStart I s.last s.free = gridAfter I s.last := Nat.max_eq_right h
  have hb : gridAfter I s.last + pingTimeout I - nextStart I s.last s.free = pingTimeout I := by
    rw [ht]; omega
  have hpos : pingTimeout I ≠ 0 := by
    simp only [pingTimeout]; omega
  cases s.status <;> simp [hb, hpos]
  generalize observe (pingTimeout I) sc = o
  cases o <;> rfl

/-! ## Session level: keep-alive after `Close` (stream `sessions`)

The sessions' `Close` methods call `*cancelPtr` (structural fact `keepalive.cancelled_from`); the
model of a closed session's loop is `runCancel … tc` with `tc` the instant of that call.  The
theorems below say that from `tc` on the loop sends nothing, that everything it still does belongs
to the one ping that was in flight at `tc` (over by `tc + I/2` when it honours its context), and
that nothing at all happens after `endAt`; `close_cancels_keepalive` (CloseProps.lean — a module of
its own, so that a changed `Close` method re-opens that proof only) ties the premise to the code: in
both `Close` methods, as regenerated from the source, the cancellation precedes every statement that
can fail or return. -/

theorem run_running_tick (I : Nat) (t0 : Int) (scs : List Script)
    (h : (run I t0 scs).status = .running) : (run I t0 scs).tick = scs.length := by
  obtain ⟨_, hst⟩ := inv_run I t0 scs
  rw [h] at hst
  have := obsOf_length I scs
  omega

theorem run_free (I : Nat) (t0 : Int) (scs : List Script) :
    (run I t0 scs).free = pingEnd I scs (run I t0 scs).tick ∧
      (run I t0 scs).last = pingStart I scs (run I t0 scs).tick := by
  obtain ⟨⟨_, hl, hf⟩, _⟩ := inv_run I t0 scs
  exact ⟨hf, hl⟩

theorem endAt_running (I : Nat) (t0 : Int) (scs : List Script) (tc : Nat)
    (h : (run I t0 (scs.take (pingsBefore I tc scs))).status = .running) :
    endAt I t0 scs tc = max tc (run I t0 (scs.take (pingsBefore I tc scs))).free := by
  simp only [endAt, h]

theorem endAt_ended (I : Nat) (t0 : Int) (scs : List Script) (tc : Nat)
    (h : (run I t0 (scs.take (pingsBefore I tc scs))).status ≠ .running) :
    endAt I t0 scs tc = (run I t0 (scs.take (pingsBefore I tc scs))).free := by
  cases hs : (run I t0 (scs.take (pingsBefore I tc scs))).status with
  | running => exact absurd hs h
  | closed => simp only [endAt, hs]
  | stopped => simp only [endAt, hs]

theorem free_le_endAt (I : Nat) (t0 : Int) (scs : List Script) (tc : Nat) :
    (run I t0 (scs.take (pingsBefore I tc scs))).free ≤ endAt I t0 scs tc := by
  by_cases h : (run I t0 (scs.take (pingsBefore I tc scs))).status = .running
  · rw [endAt_running I t0 scs tc h]; exact Nat.le_max_right _ _
  · rw [endAt_ended I t0 scs tc h]; exact Nat.le_refl _

/-- Every WARN record is written at the end of one of the pings the loop has issued. -/
theorem warns_at_ping_ends (I : Nat) (t0 : Int) (scs : List Script) :
    ∀ w ∈ warns I t0 scs, ∃ k, 1 ≤ k ∧ k ≤ (run I t0 scs).tick ∧ w = pingEnd I scs k := by
  induction scs using List.snoc_induction with
  | nil => intro w hw; simp [warns, warnsFrom] at hw
  | snoc scs sc ih =>
    intro w hw
    rw [warns_snoc] at hw
    rcases List.mem_append.1 hw with h | h
    · obtain ⟨k, h1, h2, h3⟩ := ih w h
      refine ⟨k, h1, Nat.le_trans h2 (by rw [run_snoc]; exact step_tick_le _ _ _ _), ?_⟩
      rw [h3, (pingEnd_append_left I scs [sc] k _).1]
      exact Nat.le_trans h2 (run_tick_le_length I t0 scs)
    · unfold warnStep at h
      cases hs : (run I t0 scs).status with
      | running =>
        rw [hs] at h
        simp only [] at h
        have htick := run_running_tick I t0 scs hs
        cases ho : observe (pingTimeout I) sc with
        | ok d => rw [ho] at h; simp at h
        | mnf d => rw [ho] at h; simp at h
        | fail d =>
          rw [ho] at h
          simp only [] at h
          split at h
          · rename_i htol
            simp only [List.mem_singleton] at h
            have hlt : (run I t0 scs).fails + 1 < threshold t0 :=
              (tolerated_iff ((run I t0 scs).fails + 1) (threshold t0)).1 (by exact_mod_cast htol)
            -- the record is written when the new ping is over: at the `free` of the run with that ping
            have hnew : (run I t0 (scs ++ [sc])).tick = scs.length + 1 ∧ (run I t0 (scs ++ [sc])).free = w := by
              rw [run_snoc, step_eq_stepO, ho, h]
              simp [stepO, hs, hlt, htick, Outcome.dur]
            exact ⟨_, by omega, Nat.le_refl _, by rw [← (run_free I t0 (scs ++ [sc])).1, hnew.2]⟩
          · simp at h
      | closed => rw [hs] at h; simp at h
      | stopped => rw [hs] at h; simp at h

/-- **cancel_stops_pings.** Whatever the peer does, however long its pings take and whenever `Close` is
called, every ping of the cancelled loop was issued strictly before the cancellation instant: once
cancelled, the loop sends nothing more.  (`tc` is not an instant at which a ping is due; a tick that
coincides with the cancellation is a scheduler choice of `select` and outside the scenarios.) -/
theorem cancel_stops_pings (I : Nat) (t0 : Int) (scs : List Script) (tc : Nat) :
    ∀ p ∈ (runCancel I t0 scs tc).pings, p < tc := by
  intro p hp
  have hpings : (runCancel I t0 scs tc).pings = (run I t0 (scs.take (pingsBefore I tc scs))).pings :=
    ((silent_stop I t0 scs).2 tc).2.2.1
  rw [hpings] at hp
  obtain ⟨⟨hpt, _, _⟩, _⟩ := inv_run I t0 (scs.take (pingsBefore I tc scs))
  rw [hpt] at hp
  have hmem := tm_take_pings_subset I _ _ p hp
  have hspec := (pingsBeforeFrom_spec I tc scs {}).2.1 p
  rcases hspec (by simpa [tm, pingsBefore] using hmem) with h | h
  · simp at h
  · exact h

/-- **cancel_ignores_later_outcomes.** Let `pre` be the pings issued before the cancellation and let
the loop have been about to go on (`post ≠ []`).  What the peer or the transport does (or would have
done) to the later pings is irrelevant: the cancelled run, its log records and its end depend only on
`pre`. -/
theorem cancel_ignores_later_outcomes (I : Nat) (t0 : Int) (pre post post' : List Script) (tc : Nat)
    (h : pingsBefore I tc (pre ++ post) = pre.length) (hne : post ≠ []) :
    runCancel I t0 (pre ++ post) tc = runCancel I t0 (pre ++ post') tc ∧
      warnsCancel I t0 (pre ++ post) tc = warnsCancel I t0 (pre ++ post') tc ∧
      endAt I t0 (pre ++ post) tc = endAt I t0 (pre ++ post') tc := by
  have h' : pingsBefore I tc (pre ++ post') = pre.length := by
    unfold pingsBefore at h ⊢
    have e := pingsBeforeFrom_append I tc post pre {}
    have e' := pingsBeforeFrom_append I tc post' pre {}
    rw [e] at h
    rw [e']
    split at h
    · rename_i hfull
      rw [if_pos hfull]
      cases post with
      | nil => exact absurd rfl hne
      | cons x xs =>
        have hz : ¬ nextStart I (tmFrom I {} (obsOf I pre)).last (tmFrom I {} (obsOf I pre)).free < tc := by
          intro hlt
          simp [pingsBeforeFrom, hlt] at h
        cases post' with
        | nil => simp [pingsBeforeFrom]
        | cons y ys => simp [pingsBeforeFrom, hz]
    · rename_i hnot
      exact absurd h hnot
  unfold runCancel warnsCancel endAt
  rw [h, h']
  simp

/-- **nothing_after_end.** `endAt` really is the end: the cancelled loop's pings, its WARN records and
its `Close` (with the ERROR record) all happen at or before `endAt`, and `endAt` is the closing
instant when the loop closed the session. -/
theorem nothing_after_end (I : Nat) (t0 : Int) (scs : List Script) (tc : Nat) :
    (∀ p ∈ (runCancel I t0 scs tc).pings, p ≤ endAt I t0 scs tc) ∧
    (∀ w ∈ warnsCancel I t0 scs tc, w ≤ endAt I t0 scs tc) ∧
    (∀ c, (runCancel I t0 scs tc).closeAt = some c → c = endAt I t0 scs tc) := by
  have hsil := (silent_stop I t0 scs).2 tc
  have hfe := free_le_endAt I t0 scs tc
  have hended := endAt_ended I t0 scs tc
  generalize hpre : scs.take (pingsBefore I tc scs) = pre at hsil hfe hended
  have htl := run_tick_le_length I t0 pre
  obtain ⟨hfree, _⟩ := run_free I t0 pre
  have hend : ∀ k, k ≤ (run I t0 pre).tick → pingEnd I pre k ≤ endAt I t0 scs tc := by
    intro k hk
    have h1 := pingEnd_mono I pre k _ hk htl
    omega
  refine ⟨?_, ?_, ?_⟩
  · intro p hp
    rw [hsil.2.2.1, (pings_at_pending_ticks I t0 pre).1] at hp
    simp only [List.mem_map, List.mem_range] at hp
    obtain ⟨j, hj, rfl⟩ := hp
    have h1 := hend (j + 1) (by omega)
    have h2 : pingStart I pre (j + 1) ≤ pingEnd I pre (j + 1) := pStart_le_pEnd I _ _
    omega
  · intro w hw
    unfold warnsCancel at hw
    rw [hpre] at hw
    obtain ⟨k, _, h2, rfl⟩ := warns_at_ping_ends I t0 pre w hw
    exact hend k h2
  · intro c hc
    rw [hsil.2.1] at hc
    have hcl : (run I t0 pre).status = .closed := by
      apply Classical.byContradiction
      intro hn
      rw [run_closeAt_none I t0 pre hn] at hc; cases hc
    obtain ⟨c', hc', _, hcf, _⟩ := close_time_bound I t0 pre hcl
    rw [hc'] at hc
    injection hc with hc
    rw [hended (by rw [hcl]; simp), ← hc, hcf]

/-- **cancel_ends_promptly.** The goroutine of a cancelled loop returns at the cancellation instant
or, when a ping was in flight then, when that ping is over — at most one ping timeout (`I/2`) later
if that ping honours its context; it never returns before the cancellation unless it had ended by
itself. -/
theorem cancel_ends_promptly (I : Nat) (t0 : Int) (scs : List Script) (tc : Nat) :
    ((∀ sc, (scs.take (pingsBefore I tc scs))[(run I t0 (scs.take (pingsBefore I tc scs))).tick - 1]?
        = some sc → sc.honours = true) → endAt I t0 scs tc ≤ tc + I / 2) ∧
      ((run I t0 (scs.take (pingsBefore I tc scs))).status = .running → tc ≤ endAt I t0 scs tc) ∧
      (endAt I t0 scs tc = tc ∨
        endAt I t0 scs tc = (run I t0 (scs.take (pingsBefore I tc scs))).free) := by
  have hstop := cancel_stops_pings I t0 scs tc
  rw [((silent_stop I t0 scs).2 tc).2.2.1] at hstop
  have hclk := run_clock I t0 (scs.take (pingsBefore I tc scs))
  refine ⟨?_, ?_, ?_⟩
  · intro hh
    have hfree : (run I t0 (scs.take (pingsBefore I tc scs))).free ≤ tc + I / 2 := by
      rcases hclk with ⟨_, h0, _⟩ | ⟨sc, hsc, _, hfree, hmem⟩
      · omega
      · have := hstop _ hmem
        have := observe_dur_le (pingTimeout I) sc (hh sc hsc)
        have : pingTimeout I = I / 2 := rfl
        omega
    by_cases h : (run I t0 (scs.take (pingsBefore I tc scs))).status = .running
    · rw [endAt_running I t0 scs tc h]; omega
    · rw [endAt_ended I t0 scs tc h]; omega
  · intro hr
    rw [endAt_running I t0 scs tc hr]; omega
  · by_cases h : (run I t0 (scs.take (pingsBefore I tc scs))).status = .running
    · rw [endAt_running I t0 scs tc h]; omega
    · right; exact endAt_ended I t0 scs tc h

-- threshold 2, interval 1000: miss, answer, miss, miss → closed at tick 4, at 4·1000 + 500
example : (run 1000 2 [miss, ans 7, miss, miss, ans 1]).closeAt = some 4500 := by decide +kernel
example : (run 1000 2 [miss, ans 7, miss, miss, ans 1]).tick = 4 := by decide +kernel
-- threshold 0 means 1: the first failure closes; a slow error (≥ I/2) counts as a timeout
example : (run 1000 0 [ans 499, ⟨.error, some 500, true⟩]).closeAt = some 2500 := by decide +kernel
-- alternating miss/answer never closes with threshold 2
example : (run 1000 2 [miss, ans 0, miss, ans 0, miss]).status = .running := by decide +kernel
-- method-not-found stops silently, later failures are not even pinged
example : (run 1000 1 [⟨.mnf, some 3, true⟩, miss]) =
    { status := .stopped, fails := 0, tick := 1, pings := [1000], closeAt := none,
      last := 1000, free := 1003 } := by decide +kernel
-- cancellation between tick 1 and tick 2 (at 1700): the second miss is never pinged
example : (runCancel 1000 2 [miss, miss] 1700).status = .stopped ∧
    (runCancel 1000 2 [miss, miss] 1700).pings = [1000] := by decide +kernel

-- Close at 2407 with a silent peer (threshold 3): ping 2 (tick 2000) is in flight, is processed at
-- 2500 (one WARN record more), and that is the end; the misses after it are never pinged
example : (runCancel 1000 3 [ans 0, miss, miss, miss, miss] 2407).pings = [1000, 2000] ∧
    warnsCancel 1000 3 [ans 0, miss, miss, miss, miss] 2407 = [2500] ∧
    endAt 1000 3 [ans 0, miss, miss, miss, miss] 2407 = 2500 ∧
    (runCancel 1000 3 [ans 0, miss, miss, miss, miss] 2407).closeAt = none := by decide +kernel
-- Close between two ticks: the loop ends at the Close itself
example : endAt 1000 3 [ans 0, ans 20] 2777 = 2777 := by decide +kernel

-- an overrun: ping 1 blocked until 3600 (ticks 2000 and 3000 fire meanwhile: one stays pending, one
-- is dropped); ping 2 at once at 3600, ping 3 on the grid at 4000; two overruns in a row close
example : (run 1000 3 [ovr 2600, ans 10, ans 0]).pings = [1000, 3600, 4000] ∧
    (run 1000 3 [ovr 2600, ans 10, ans 0]).fails = 0 := by decide +kernel
example : (run 1000 2 [ovr 700, ovr 1600]).closeAt = some 3600 ∧
    (run 1000 2 [ovr 700, ovr 1600]).pings = [1000, 2000] := by decide +kernel
-- Close at 1500 while ping 1 is blocked until 2600: nothing more is sent, the loop ends at 2600
example : (runCancel 1000 2 [ovr 1600, ans 0] 1500).pings = [1000] ∧
    endAt 1000 2 [ovr 1600, ans 0] 1500 = 2600 ∧ warnsCancel 1000 2 [ovr 1600, ans 0] 1500 = [2600] := by
  decide +kernel
-- Close at 2700, just after the pending tick was served at 2600
example : (runCancel 1000 2 [ovr 1600, ans 0, ans 0] 2700).pings = [1000, 2600] := by decide +kernel

end KeepAlive
