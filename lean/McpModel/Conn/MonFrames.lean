import McpModel.Conn.ObsLemmas
/-!
A catalogue of small facts about the model's helper functions and `obsOf` (each `rfl`, a one-line induction or one rewrite),
stated for their own sake: no proof reads them, except `ReqsC.cancelM`, `cancelMetas`, `foldl_cancel_eq`, which MonReqs.lean uses.
-/
namespace Conn

@[simp] theorem modMeta_unotifs_A (s : St) (r : Nat) (f : ReqMeta → ReqMeta) : (modMeta s r f).unotifs = s.unotifs := rfl
@[simp] theorem modMeta_cnotifs_A (s : St) (r : Nat) (f : ReqMeta → ReqMeta) : (modMeta s r f).cnotifs = s.cnotifs := rfl
@[simp] theorem modCore_unotifs_A (s : St) (r : Nat) (f : ReqCore → ReqCore) : (modCore s r f).unotifs = s.unotifs := rfl
@[simp] theorem modCore_cnotifs_A (s : St) (r : Nat) (f : ReqCore → ReqCore) : (modCore s r f).cnotifs = s.cnotifs := rfl
@[simp] theorem modCore_cores_A (s : St) (r : Nat) (f : ReqCore → ReqCore) : (modCore s r f).cores = s.cores.modify r f := rfl
@[simp] theorem modCore_metas_A (s : St) (r : Nat) (f : ReqCore → ReqCore) : (modCore s r f).metas = s.metas := rfl
@[simp] theorem modCore_byID_A (s : St) (r : Nat) (f : ReqCore → ReqCore) : (modCore s r f).byID = s.byID := rfl
@[simp] theorem modMeta_metas_A (s : St) (r : Nat) (f : ReqMeta → ReqMeta) : (modMeta s r f).metas = s.metas.modify r f := rfl

namespace ReqsB

/-- `req.cancel(nil)` at the end of processResult: fills an empty cause with `finished`. -/
def cancelFin (q : ReqMeta) : ReqMeta := if q.cancelled.isSome then q else { q with cancelled := some .finished }

theorem cancelReq_metas (s : St) (r : Nat) : (cancelReq s r .finished).metas = s.metas.modify r cancelFin := rfl

@[simp] theorem modCore_unotifs (s : St) (r : Nat) (f : ReqCore → ReqCore) : (modCore s r f).unotifs = s.unotifs := rfl
@[simp] theorem modCore_cnotifs (s : St) (r : Nat) (f : ReqCore → ReqCore) : (modCore s r f).cnotifs = s.cnotifs := rfl
@[simp] theorem modMeta_unotifs (s : St) (r : Nat) (f : ReqMeta → ReqMeta) : (modMeta s r f).unotifs = s.unotifs := rfl
@[simp] theorem modMeta_cnotifs (s : St) (r : Nat) (f : ReqMeta → ReqMeta) : (modMeta s r f).cnotifs = s.cnotifs := rfl
@[simp] theorem cancelReq_unotifs (s : St) (r : Nat) (c : Cause) : (cancelReq s r c).unotifs = s.unotifs := rfl
@[simp] theorem cancelReq_cnotifs (s : St) (r : Nat) (c : Cause) : (cancelReq s r c).cnotifs = s.cnotifs := rfl
@[simp] theorem toP2_unotifs (s : St) (r : Nat) : (toP2 s r).unotifs = s.unotifs := rfl
@[simp] theorem toP2_cnotifs (s : St) (r : Nat) : (toP2 s r).cnotifs = s.cnotifs := rfl
@[simp] theorem toP2_byID (s : St) (r : Nat) : (toP2 s r).byID = s.byID := rfl
@[simp] theorem modCore_byID' (s : St) (r : Nat) (f : ReqCore → ReqCore) : (modCore s r f).byID = s.byID := rfl
@[simp] theorem modCore_metas' (s : St) (r : Nat) (f : ReqCore → ReqCore) : (modCore s r f).metas = s.metas := rfl
@[simp] theorem modCore_cores' (s : St) (r : Nat) (f : ReqCore → ReqCore) : (modCore s r f).cores = s.cores.modify r f := rfl
@[simp] theorem toP2_cores' (s : St) (r : Nat) :
    (toP2 s r).cores = s.cores.modify r (fun q => { q with pc := .p2 }) := rfl

end ReqsB

namespace ReqsC

/-- `ReqMeta.cancel` (ReqStep.lean) under the name these facts use; `cancelFin` is its instance at `finished`, `cancelMetas`
the fold `QV.cancelAll` makes on the contexts. -/
def cancelM (c : Cause) (q : ReqMeta) : ReqMeta := if q.cancelled.isSome then q else { q with cancelled := some c }

def cancelMetas (c : Cause) (l : List (Nat × Nat)) (ms : List ReqMeta) : List ReqMeta :=
  l.foldl (fun ms p => ms.modify p.2 (cancelM c)) ms

theorem cancelReq_eq (s : St) (r : Nat) (c : Cause) : cancelReq s r c = { s with metas := s.metas.modify r (cancelM c) } := rfl

theorem foldl_cancel_eq (c : Cause) (l : List (Nat × Nat)) (s : St) :
    l.foldl (fun s p => cancelReq s p.2 c) s = { s with metas := cancelMetas c l s.metas } := by
  induction l generalizing s with
  | nil => rfl
  | cons p t ih =>
    show t.foldl _ (cancelReq s p.2 c) = _
    rw [ih]; rfl

theorem cancelMetas_length (c : Cause) (l : List (Nat × Nat)) (ms : List ReqMeta) : (cancelMetas c l ms).length = ms.length := by
  induction l generalizing ms with
  | nil => rfl
  | cons p t ih => simp only [cancelMetas, List.foldl] at ih ⊢; rw [ih, List.length_modify]


/-- Every handler running in `l0` is running, at the same index, in `l`: no handler newly started. -/
def RunSub (l0 l : List ReqCore) : Prop :=
  ∀ (j : Nat) (k0 : ReqCore), l0[j]? = some k0 → k0.pc = .running → ∃ k : ReqCore, l[j]? = some k ∧ k.pc = .running

theorem RunSub.append {l : List ReqCore} (k : ReqCore) (hk : k.pc ≠ .running) : RunSub (l ++ [k]) l := by
  intro j k0 hj hr
  rw [List.getElem?_append] at hj
  split at hj
  · exact ⟨k0, hj, hr⟩
  · cases hx : j - l.length with
    | zero => simp [hx] at hj; subst hj; exact absurd hr hk
    | succ n => simp [hx] at hj

@[simp] theorem modCore_cores' (s : St) (r : Nat) (f : ReqCore → ReqCore) : (modCore s r f).cores = s.cores.modify r f := rfl
@[simp] theorem toP2_cores' (s : St) (r : Nat) : (toP2 s r).cores = s.cores.modify r (fun q => { q with pc := .p2 }) := rfl
def tcv (s : St) : Nat × Bool := (s.transportCloses, s.idle)

@[simp] theorem tcv_modCall (s : St) (n : Nat) (f : Call → Call) : tcv (modCall s n f) = tcv s := rfl
@[simp] theorem tcv_modCore (s : St) (r : Nat) (f : ReqCore → ReqCore) : tcv (modCore s r f) = tcv s := rfl
@[simp] theorem tcv_modMeta (s : St) (r : Nat) (f : ReqMeta → ReqMeta) : tcv (modMeta s r f) = tcv s := rfl
@[simp] theorem tcv_cancelReq (s : St) (r : Nat) (c : Cause) : tcv (cancelReq s r c) = tcv s := rfl
@[simp] theorem tcv_toP2 (s : St) (r : Nat) : tcv (toP2 s r) = tcv s := rfl
@[simp] theorem tcv_disp (s : St) (d : DispPc) : tcv { s with disp := d } = tcv s := rfl
@[simp] theorem tcv_clock_disp (s : St) (c : Nat) (d : DispPc) : tcv { s with clock := c, disp := d } = tcv s := rfl
@[simp] theorem tcv_cnotifs (s : St) (c : List Notif) : tcv { s with cnotifs := c } = tcv s := rfl

/-- Every element of `l0` with `P` is accounted for by `B` or by an element of `l` with `P`. -/
def Le {α : Type} (B : Prop) (P : α → Prop) (l0 l : List α) : Prop := ∀ a ∈ l0, P a → B ∨ ∃ a' ∈ l, P a'

theorem Le.append {α : Type} {B : Prop} {P : α → Prop} {l0 l : List α} (x : α) (hx : ¬ P x) (h : Le B P l0 l) :
    Le B P (l0 ++ [x]) l := by
  intro a ha hp
  rcases List.mem_append.mp ha with ha | ha
  · exact h a ha hp
  · simp at ha; subst ha; exact absurd hp hx

@[simp] theorem modCall_calls' (s : St) (n : Nat) (f : Call → Call) : (modCall s n f).calls = s.calls.modify (n - 1) f := rfl
@[simp] theorem modCall_unotifs (s : St) (n : Nat) (f : Call → Call) : (modCall s n f).unotifs = s.unotifs := rfl
@[simp] theorem modCall_cnotifs (s : St) (n : Nat) (f : Call → Call) : (modCall s n f).cnotifs = s.cnotifs := rfl
@[simp] theorem cancelReq_unotifs (s : St) (r : Nat) (c : Cause) : (cancelReq s r c).unotifs = s.unotifs := rfl
@[simp] theorem cancelReq_cnotifs (s : St) (r : Nat) (c : Cause) : (cancelReq s r c).cnotifs = s.cnotifs := rfl

end ReqsC

structure CView where
  cancels : List Nat
  targets : List (Option Nat)

def cview (s : St) : CView := { cancels := s.cancels, targets := s.metas.map (·.cancelTarget) }

@[simp] theorem cview_modCall (s : St) (n : Nat) (f : Call → Call) : cview (modCall s n f) = cview s := rfl
@[simp] theorem cview_modCore (s : St) (r : Nat) (f : ReqCore → ReqCore) : cview (modCore s r f) = cview s := rfl
@[simp] theorem cview_with_cnotifs (X : St) (c : List Notif) : cview { X with cnotifs := c } = cview X := rfl
@[simp] theorem cview_with_clock_disp (X : St) (c : Nat) (d : DispPc) : cview { X with clock := c, disp := d } = cview X := rfl
@[simp] theorem cview_with_hr_disp (X : St) (b : Bool) (d : DispPc) : cview { X with handlerRunning := b, disp := d } = cview X := rfl
@[simp] theorem cview_with_disp (X : St) (d : DispPc) : cview { X with disp := d } = cview X := rfl
@[simp] theorem cview_with_reader (X : St) (d : ReaderPc) : cview { X with reader := d } = cview X := rfl

namespace CallsStep

@[simp] theorem modCall_done (s : St) (n : Nat) (f : Call → Call) : (modCall s n f).done = s.done := rfl
@[simp] theorem modCore_done (s : St) (r : Nat) (f : ReqCore → ReqCore) : (modCore s r f).done = s.done := rfl
@[simp] theorem modMeta_done (s : St) (r : Nat) (f : ReqMeta → ReqMeta) : (modMeta s r f).done = s.done := rfl
@[simp] theorem modCore_reader' (s : St) (r : Nat) (f : ReqCore → ReqCore) : (modCore s r f).reader = s.reader := rfl
@[simp] theorem toP2_reader' (s : St) (r : Nat) : (toP2 s r).reader = s.reader := rfl
@[simp] theorem modCall_respLog' (s : St) (n : Nat) (f : Call → Call) : (modCall s n f).respLog = s.respLog := rfl

theorem evOf_ectx {l : Label} {n : Nat} (h : l = .ectx n) : evOf l = .ectx n := by subst h; rfl

end CallsStep

theorem obsOf_shuttingDown (s : St) : (obsOf s).shuttingDown = s.shuttingDown := rfl

theorem obsOf_init_x : (obsOf ({} : St)).x = [] := rfl

theorem parked_contains_iff (s : St) (t : PTok) : (obsOf s).parked.contains t = true ↔ t ∈ parkedToks s := by
  rw [List.contains_iff_mem, mem_parked_iff]

theorem parked_contains_h (s : St) (r : Nat) :
    (obsOf s).parked.contains (.h r) = true ↔ ∃ k, s.cores[r]? = some k ∧ k.pc = .running := by
  rw [List.contains_iff_mem, mem_parked_h]

theorem parked_contains_a2 (s : St) (r : Nat) :
    (obsOf s).parked.contains (.a2 r) = true ↔ ∃ k, s.cores[r]? = some k ∧ k.pc = .a2 := by
  rw [List.contains_iff_mem, mem_parked_a2]

theorem parked_contains_p2 (s : St) (r : Nat) :
    (obsOf s).parked.contains (.p2 r) = true ↔ ∃ k, s.cores[r]? = some k ∧ k.pc = .p2 := by
  rw [List.contains_iff_mem, mem_parked_p2]

theorem x_contains (s : St) (r : Nat) (c : XCause) :
    (obsOf s).x.contains (r, c) = true ↔
      ∃ mt, s.metas[r]? = some mt ∧ mt.seen = true ∧ ∃ cz, mt.cancelled = some cz ∧ causeTok cz = c := by
  rw [List.contains_iff_mem, mem_x]

theorem fins_contains_call (s : St) (n : Nat) (r : RTok) :
    (obsOf s).fins.contains (.call n r) = true ↔ callFin s n = some r := by
  rw [List.contains_iff_mem, mem_fins_call]

theorem obsOf_done (s : St) : (obsOf s).done = s.done := rfl

theorem obsOf_tc (s : St) : (obsOf s).tc = s.transportCloses := rfl

theorem obsOf_od (s : St) : (obsOf s).od = s.onDone := rfl

theorem obsOf_q (s : St) : (obsOf s).q = s.queue := rfl

end Conn
