import McpModel.Conn.Step
/-! Invariants of the incoming-request bookkeeping (C02, and the links needed for C03–C05): `RInv` on the view `ReqView`,
and how it survives the elementary changes of the view.  That every label preserves it is in ReqStep.lean (`RInv.step`). -/
namespace Conn

/-- Accepted (A1 done) and not yet finished (P2 not done): counted by `incoming`. -/
def ReqPc.inflight : ReqPc → Bool
  | .a1 | .fin => false
  | _ => true

/-- A call in one of these states is still indexed in `incomingByID`. -/
def ReqPc.indexed : ReqPc → Bool
  | .a2 | .queued | .running | .p1 => true
  | _ => false

/-- In processResult (between P1/P2 park points). -/
def ReqPc.inPR : ReqPc → Bool
  | .p1 | .w1 | .wr | .w2 _ | .p2 => true
  | _ => false

structure ReqView where
  cores : List ReqCore
  incoming : Nat
  byID : List (Nat × Nat)
  panicIncoming : Bool
  reader : ReaderPc
  queue : List Nat

def reqView (s : St) : ReqView :=
  { cores := s.cores, incoming := s.incoming, byID := s.byID, panicIncoming := s.panicIncoming,
    reader := s.reader, queue := s.queue }

structure ReqOK (v : ReqView) (r : Nat) (k : ReqCore) : Prop where
  pre : (k.pc = .a1 ∨ k.pc = .a2 ∨ k.pc = .queued ∨ k.pc = .running ∨ k.pc = .p1 ∨ k.pc = .w1) → k.wrote = 0 ∧ k.responses = 0
  mid : (k.pc = .wr ∨ ∃ e, k.pc = .w2 e) → k.wrote = 1 ∧ k.responses = 0
  /-- behind `answer_at_most_once` -/
  post : k.wrote ≤ 1 ∧ k.responses ≤ k.wrote ∧ (k.isCall = true → (k.pc = .p2 ∨ k.pc = .fin) → k.wrote = 1)
  /-- behind `notification_unanswered`: a request without id never enters the response path -/
  notif : k.isCall = false → k.wrote = 0 ∧ k.pc ≠ .p1 ∧ k.pc ≠ .w1 ∧ k.pc ≠ .wr ∧ ∀ e, k.pc ≠ .w2 e
  /-- indexed iff it is an unanswered call -/
  idx : ∀ id, (id, r) ∈ v.byID ↔ (k.isCall = true ∧ k.id = some id ∧ k.pc.indexed = true)
  /-- the reader goroutine works on at most one request: the newest -/
  rdr : (k.pc = .a1 ∨ k.pc = .a2 ∨ (k.owner = .reader ∧ k.pc.inPR = true)) → v.reader = .busy ∧ r + 1 = v.cores.length
  /-- the handler queue holds exactly the requests waiting for the dispatcher -/
  que : k.pc = .queued ↔ r ∈ v.queue

def countInflight : List ReqCore → Nat
  | [] => 0
  | k :: t => (if k.pc.inflight then 1 else 0) + countInflight t

/-- `incoming` counts the requests in flight, every request is `ReqOK`, and the two tables are well formed: the index
points at existing requests (`byr`) and has no wire id twice (`keys`), likewise the queue (`qr`, `qnd`). -/
structure RInv (v : ReqView) : Prop where
  cnt : v.incoming = countInflight v.cores
  ok : ∀ r k, v.cores[r]? = some k → ReqOK v r k
  byr : ∀ p ∈ v.byID, p.2 < v.cores.length
  keys : (v.byID.map (·.1)).Nodup
  qnd : v.queue.Nodup
  qr : ∀ r ∈ v.queue, r < v.cores.length
  nopanic : v.panicIncoming = false

@[simp] theorem reqView_tail (s : St) : reqView (tail s) = reqView s := by simp [reqView]
@[simp] theorem reqView_modCall (s : St) (n : Nat) (f : Call → Call) : reqView (modCall s n f) = reqView s := rfl
@[simp] theorem reqView_modMeta (s : St) (r : Nat) (f : ReqMeta → ReqMeta) : reqView (modMeta s r f) = reqView s := rfl
@[simp] theorem reqView_settleCalls (s : St) : reqView (settleCalls s) = reqView s := rfl
@[simp] theorem reqView_settleWaiters (s : St) : reqView (settleWaiters s) = reqView s := by simp [reqView]
@[simp] theorem reqView_settleDisp (s : St) : reqView (settleDisp s) = reqView s := by
  rw [settleDisp_eq]; rfl
@[simp] theorem reqView_settle (s : St) : reqView (settle s) = reqView s := by simp [settle]
@[simp] theorem reqView_cancelReq (s : St) (r : Nat) (c : Cause) : reqView (cancelReq s r c) = reqView s := rfl

@[simp] theorem reqView_markBroken (s : St) : reqView (markBroken s) = reqView s := by
  rw [markBroken_eq]; rfl

def ReqView.mod (v : ReqView) (r : Nat) (g : ReqCore → ReqCore) : ReqView := { v with cores := v.cores.modify r g }

@[simp] theorem reqView_modCore (s : St) (r : Nat) (g : ReqCore → ReqCore) :
    reqView (modCore s r g) = (reqView s).mod r g := rfl

@[simp] theorem reqView_toP2 (s : St) (r : Nat) : reqView (toP2 s r) = (reqView s).mod r (fun k => { k with pc := .p2 }) := rfl

theorem reqView_beginPR (s : St) (r : Nat) (own : Owner) :
    reqView (beginPR s r own) = (reqView s).mod r (fun k => { k with owner := own, pc := if k.isCall then .p1 else .p2 }) := by
  unfold beginPR
  split
  · rename_i h
    simp only [ReqView.mod, reqView]
    congr 1
    apply List.ext_getElem?; intro j; simp only [List.getElem?_modify]
    by_cases hj : r = j
    · subst hj; simp [h]
    · simp [hj]
  · rename_i q hq
    split
    · rename_i hc
      simp only [reqView_modCore, ReqView.mod]
      congr 1
      apply List.ext_getElem?; intro j; simp only [List.getElem?_modify, reqView]
      by_cases hj : r = j
      · subst hj; simp [hq, hc]
      · simp [hj]
    · rename_i hc
      simp only [reqView_toP2, reqView_modCore, ReqView.mod]
      congr 1
      apply List.ext_getElem?; intro j; simp only [List.getElem?_modify, reqView]
      by_cases hj : r = j
      · subst hj; simp [hq, hc]
      · simp [hj]

theorem countInflight_modify (l : List ReqCore) (r : Nat) (k k' : ReqCore) (h : l[r]? = some k) :
    countInflight (l.modify r (fun _ => k')) + (if k.pc.inflight then 1 else 0) =
      countInflight l + (if k'.pc.inflight then 1 else 0) := by
  induction l generalizing r with
  | nil => simp at h
  | cons a t ih =>
    cases r with
    | zero => simp at h; subst h; simp [List.modify, countInflight]; omega
    | succ r =>
      simp at h
      have := ih r h
      simp [List.modify, countInflight] at this ⊢; omega

theorem countInflight_append (l : List ReqCore) (k : ReqCore) :
    countInflight (l ++ [k]) = countInflight l + (if k.pc.inflight then 1 else 0) := by
  induction l with
  | nil => simp [countInflight]
  | cons a t ih => simp [countInflight, ih]; omega

/-- The premise of `ReqOK.rdr`: request `k` is in the reader's hands. -/
def rdrPrem (k : ReqCore) : Prop := k.pc = .a1 ∨ k.pc = .a2 ∨ (k.owner = .reader ∧ k.pc.inPR = true)

/-! `RInv.update` is the general lemma (request `r` gets a new core, the tables change as the hypotheses say); the others
are its instances for the changes the moves of `QStep` make. -/

theorem RInv.update {v v' : ReqView} (i : RInv v) (r : Nat) (k k' : ReqCore) (hk : v.cores[r]? = some k)
    (hcores : v'.cores = v.cores.modify r (fun _ => k'))
    (hinc : v'.incoming + (if k.pc.inflight then 1 else 0) = v.incoming + (if k'.pc.inflight then 1 else 0))
    (hby : ∀ id j, j ≠ r → ((id, j) ∈ v'.byID ↔ (id, j) ∈ v.byID))
    (hq : ∀ j, j ≠ r → (j ∈ v'.queue ↔ j ∈ v.queue))
    (hrd : v'.reader = v.reader ∨ rdrPrem k)
    (hok : ReqOK v' r k')
    (hbyr : ∀ p ∈ v'.byID, p.2 < v.cores.length)
    (hkeys : (v'.byID.map (·.1)).Nodup) (hqnd : v'.queue.Nodup) (hqr : ∀ j ∈ v'.queue, j < v.cores.length)
    (hp : v'.panicIncoming = false) : RInv v' := by
  have hlen : v'.cores.length = v.cores.length := by rw [hcores, List.length_modify]
  refine ⟨?_, ?_, by rw [hlen]; exact hbyr, hkeys, hqnd, by rw [hlen]; exact hqr, hp⟩
  · have := countInflight_modify v.cores r k k' hk
    rw [hcores]; have := i.cnt; omega
  · intro j kj hj
    rw [hcores, List.getElem?_modify] at hj
    by_cases hjr : r = j
    · subst hjr; simp [hk] at hj; subst hj; exact hok
    · simp [hjr, Option.map_eq_some_iff] at hj
      have hj' : v.cores[j]? = some kj := by
        cases h : v.cores[j]? with
        | none => simp [h] at hj
        | some x => simp [h] at hj; subst hj; rfl
      have o := i.ok j kj hj'
      have hne : j ≠ r := fun h => hjr h.symm
      refine ⟨o.pre, o.mid, o.post, o.notif, fun id => by rw [hby id j hne]; exact o.idx id, ?_, by rw [hq j hne]; exact o.que⟩
      intro hprem
      obtain ⟨h1, h2⟩ := o.rdr hprem
      rw [hlen]
      rcases hrd with h | h
      · exact ⟨h ▸ h1, h2⟩
      · -- r itself is the reader's request, so j = r: contradiction
        have o' := i.ok r k hk
        have := (o'.rdr h).2
        omega

theorem modify_const {α} (l : List α) (i : Nat) (a : α) (f : α → α) (h : l[i]? = some a) :
    l.modify i f = l.modify i (fun _ => f a) := by
  apply List.ext_getElem?; intro j
  simp only [List.getElem?_modify]
  by_cases hj : i = j
  · subst hj; simp [h]
  · simp [hj]

theorem RInv.modUpdate {v v' : ReqView} (i : RInv v) (r : Nat) (k : ReqCore) (g : ReqCore → ReqCore)
    (hk : v.cores[r]? = some k)
    (hcores : v'.cores = v.cores.modify r g)
    (hinc : v'.incoming + (if k.pc.inflight then 1 else 0) = v.incoming + (if (g k).pc.inflight then 1 else 0))
    (hby : ∀ id j, j ≠ r → ((id, j) ∈ v'.byID ↔ (id, j) ∈ v.byID))
    (hq : ∀ j, j ≠ r → (j ∈ v'.queue ↔ j ∈ v.queue))
    (hrd : v'.reader = v.reader ∨ rdrPrem k)
    (hok : ReqOK v' r (g k))
    (hbyr : ∀ p ∈ v'.byID, p.2 < v.cores.length)
    (hkeys : (v'.byID.map (·.1)).Nodup) (hqnd : v'.queue.Nodup) (hqr : ∀ j ∈ v'.queue, j < v.cores.length)
    (hp : v'.panicIncoming = false) : RInv v' :=
  i.update r k (g k) hk (by rw [hcores]; exact modify_const _ _ k g hk) hinc hby hq hrd hok hbyr hkeys hqnd hqr hp

theorem RInv.modOnly {v : ReqView} (i : RInv v) (r : Nat) (k : ReqCore) (g : ReqCore → ReqCore)
    (hk : v.cores[r]? = some k) (hinfl : k.pc.inflight = (g k).pc.inflight)
    (hok : ReqOK (v.mod r g) r (g k)) : RInv (v.mod r g) :=
  i.modUpdate r k g hk rfl (by simp [ReqView.mod, hinfl]) (fun _ _ _ => Iff.rfl) (fun _ _ => Iff.rfl) (Or.inl rfl) hok
    i.byr i.keys i.qnd i.qr i.nopanic

theorem mod_len (v : ReqView) (r : Nat) (g : ReqCore → ReqCore) : (v.mod r g).cores.length = v.cores.length := by
  simp [ReqView.mod]

theorem lookup_none_not_mem {l : List (Nat × Nat)} {id : Nat} (h : (l.lookup id).isSome = false) :
    id ∉ l.map (·.1) := by
  induction l with
  | nil => simp
  | cons p t ih =>
    obtain ⟨a, b⟩ := p
    by_cases hab : id = a
    · subst hab; simp [List.lookup] at h
    · have hb : (id == a) = false := by simp [hab]
      simp only [List.lookup, hb] at h
      have := ih h
      simp only [List.map_cons, List.mem_cons, not_or]
      exact ⟨hab, this⟩

theorem RInv.setReader {v : ReqView} (i : RInv v) (rd : ReaderPc) (h1 : v.reader ≠ .busy) (h2 : rd ≠ .busy) :
    RInv { v with reader := rd } := by
  refine ⟨i.cnt, ?_, i.byr, i.keys, i.qnd, i.qr, i.nopanic⟩
  intro r k hk
  have o := i.ok r k hk
  exact ⟨o.pre, o.mid, o.post, o.notif, o.idx, fun hp => absurd (o.rdr hp).1 h1, o.que⟩

theorem RInv.append {v : ReqView} (i : RInv v) (k : ReqCore) (h1 : v.reader = .read)
    (hk : k.pc = .a1 ∧ k.owner = .reader ∧ k.wrote = 0 ∧ k.responses = 0) :
    RInv { v with cores := v.cores ++ [k], reader := .busy } := by
  obtain ⟨hpc, hown, hw, hr⟩ := hk
  refine ⟨?_, ?_, ?_, i.keys, i.qnd, ?_, i.nopanic⟩
  · simp [countInflight_append, hpc, ReqPc.inflight]; exact i.cnt
  · intro r k' hk'
    rcases List.getElem?_snoc hk' with hk' | ⟨hre, rfl⟩
    · have o := i.ok r k' hk'
      refine ⟨o.pre, o.mid, o.post, o.notif, o.idx, ?_, o.que⟩
      intro hp; have := (o.rdr hp).1; rw [h1] at this; cases this
    · refine ⟨fun _ => ⟨hw, hr⟩, fun h => by rcases h with h | ⟨e, h⟩ <;> simp [hpc] at h, ⟨by omega, by omega, fun _ h => by rcases h with h | h <;> simp [hpc] at h⟩,
      fun _ => ⟨hw, by simp [hpc], by simp [hpc], by simp [hpc], by simp [hpc]⟩, ?_, fun _ => ⟨rfl, by simp [hre]⟩, ?_⟩
      · intro id
        constructor
        · intro hm; have := i.byr _ hm; simp at this; omega
        · intro ⟨_, _, h⟩; simp [hpc, ReqPc.indexed] at h
      · constructor
        · intro h; simp [hpc] at h
        · intro hm; have := i.qr _ hm; omega
  · intro p hp; have := i.byr p hp; simp; omega
  · intro r hr; have := i.qr r hr; simp; omega

theorem RInv.at {v : ReqView} (i : RInv v) {r : Nat} {k : ReqCore} (hk : v.cores[r]? = some k) :
    ReqOK v r k ∧ r < v.cores.length := ⟨i.ok r k hk, (List.getElem?_eq_some_iff.mp hk).1⟩

theorem mod_eq_const (v : ReqView) (r : Nat) (g : ReqCore → ReqCore) (q : ReqCore) (hk : v.cores[r]? = some q) :
    v.mod r g = { v with cores := v.cores.modify r (fun _ => g q) } := by
  simp only [ReqView.mod]; rw [modify_const _ _ q g hk]

/-- `hown`: on the reader goroutine only a request refused at A2 enters processResult. -/
theorem RInv.toPR {v : ReqView} (i : RInv v) (r : Nat) (q : ReqCore) (own : Owner) (qu' : List Nat)
    (hk : v.cores[r]? = some q)
    (hpc : q.pc = .a2 ∨ q.pc = .queued ∨ q.pc = .running)
    (hown : own = .reader → q.pc = .a2)
    (hq' : ∀ j, j ≠ r → (j ∈ qu' ↔ j ∈ v.queue)) (hrq : r ∉ qu') (hnd : qu'.Nodup) :
    RInv ({ v with queue := qu' }.mod r fun k => { k with owner := own, pc := if k.isCall then .p1 else .p2 }) := by
  obtain ⟨o, hlen⟩ := i.at hk
  obtain ⟨hw, hrs⟩ := o.pre (by rcases hpc with h | h | h <;> simp [h])
  have hinfl : q.pc.inflight = true := by rcases hpc with h | h | h <;> simp [h, ReqPc.inflight]
  have hidxd : q.pc.indexed = true := by rcases hpc with h | h | h <;> simp [h, ReqPc.indexed]
  have hqr' : ∀ j ∈ qu', j < v.cores.length := by
    intro j hj
    by_cases hjr : j = r
    · subst hjr; exact hlen
    · exact i.qr j ((hq' j hjr).mp hj)
  have hk2 : ({ v with queue := qu' } : ReqView).cores[r]? = some q := hk
  by_cases hc : q.isCall = true
  · have e : (if q.isCall = true then ReqPc.p1 else ReqPc.p2) = .p1 := if_pos hc
    rw [mod_eq_const _ r _ q hk2]; simp only [e]
    refine i.update r q { q with owner := own, pc := .p1 } hk rfl (by have : ReqPc.p1.inflight = true := rfl; simp [hinfl, this]) (fun _ _ _ => Iff.rfl)
      (by intro j hj; exact hq' j hj) (Or.inl rfl) ?_ i.byr i.keys hnd hqr' i.nopanic
    refine ⟨fun _ => ⟨hw, hrs⟩, by simp, by simp; omega, fun h => by simp [hc] at h, ?_, ?_, ?_⟩
    · intro id'; show (id', r) ∈ v.byID ↔ _; rw [o.idx id']
      constructor <;> intro ⟨a, b, _⟩ <;> exact ⟨a, b, by first | exact hidxd | rfl⟩
    · intro hh
      rcases hh with hh | hh | ⟨hh, _⟩
      · simp at hh
      · simp at hh
      · have hpa : q.pc = .a2 := hown hh
        have := o.rdr (Or.inr (Or.inl hpa))
        exact ⟨this.1, by simpa using this.2⟩
    · constructor
      · intro hh; simp at hh
      · intro hm; exact absurd hm hrq
  · have hc' : q.isCall = false := by simpa using hc
    have e : (if q.isCall = true then ReqPc.p1 else ReqPc.p2) = .p2 := if_neg hc
    rw [mod_eq_const _ r _ q hk2]; simp only [e]
    refine i.update r q { q with owner := own, pc := .p2 } hk rfl (by have : ReqPc.p2.inflight = true := rfl; simp [hinfl, this]) (fun _ _ _ => Iff.rfl)
      (by intro j hj; exact hq' j hj) (Or.inl rfl) ?_ i.byr i.keys hnd hqr' i.nopanic
    refine ⟨by simp, by simp, ⟨by simp; omega, by simp; omega, fun h => by simp [hc'] at h⟩, fun _ => ⟨hw, by simp⟩, ?_, ?_, ?_⟩
    · intro id'; show (id', r) ∈ v.byID ↔ _; rw [o.idx id']; simp [hc', ReqPc.indexed]
    · intro hh
      rcases hh with hh | hh | ⟨hh, _⟩
      · simp at hh
      · simp at hh
      · have hpa : q.pc = .a2 := hown hh
        have := o.rdr (Or.inr (Or.inl hpa))
        exact ⟨this.1, by simpa using this.2⟩
    · constructor
      · intro hh; simp at hh
      · intro hm; exact absurd hm hrq

theorem nodup_keys_unique {l : List (Nat × Nat)} (h : (l.map (·.1)).Nodup) {a b c : Nat}
    (h1 : (a, b) ∈ l) (h2 : (a, c) ∈ l) : b = c :=
  (Prod.mk.inj (List.eq_of_nodup_map (·.1) h h1 h2 rfl)).2

theorem RInv.inWrite {v : ReqView} (i : RInv v) (r : Nat) (q : ReqCore) (g : ReqCore → ReqCore)
    (hk : v.cores[r]? = some q)
    (hold : q.pc = .w1 ∨ q.pc = .wr ∨ ∃ e, q.pc = .w2 e)
    (hnew : (g q).pc = .wr ∨ (∃ e, (g q).pc = .w2 e) ∨ (g q).pc = .p2)
    (hsame : (g q).id = q.id ∧ (g q).isCall = q.isCall ∧ (g q).owner = q.owner)
    (hcnt : ((g q).pc = .wr ∨ ∃ e, (g q).pc = .w2 e) → (g q).wrote = 1 ∧ (g q).responses = 0)
    (hpost : (g q).wrote ≤ 1 ∧ (g q).responses ≤ (g q).wrote ∧ ((g q).pc = .p2 → (g q).wrote = 1)) :
    RInv (v.mod r g) := by
  obtain ⟨o, hlen⟩ := i.at hk
  have hcall : q.isCall = true := by
    cases hc : q.isCall with
    | true => rfl
    | false =>
      have := o.notif hc
      rcases hold with h | h | ⟨e, h⟩
      · exact absurd h this.2.2.1
      · exact absurd h this.2.2.2.1
      · exact absurd h (this.2.2.2.2 e)
  have hinfl : q.pc.inflight = true := by rcases hold with h | h | ⟨e, h⟩ <;> simp [h, ReqPc.inflight]
  have hinfl' : (g q).pc.inflight = true := by rcases hnew with h | ⟨e, h⟩ | h <;> simp [h, ReqPc.inflight]
  have hnidx : q.pc.indexed = false := by rcases hold with h | h | ⟨e, h⟩ <;> simp [h, ReqPc.indexed]
  have hnidx' : (g q).pc.indexed = false := by rcases hnew with h | ⟨e, h⟩ | h <;> simp [h, ReqPc.indexed]
  have hpr : q.pc.inPR = true := by rcases hold with h | h | ⟨e, h⟩ <;> simp [h, ReqPc.inPR]
  refine i.modOnly r q g hk (by rw [hinfl, hinfl']) ?_
  refine ⟨?_, hcnt, ⟨hpost.1, hpost.2.1, ?_⟩, fun hc => (by rw [hsame.2.1, hcall] at hc; cases hc), ?_, ?_, ?_⟩
  · intro hh
    rcases hnew with h | ⟨e, h⟩ | h <;> rcases hh with h' | h' | h' | h' | h' | h' <;> simp [h] at h'
  · intro _ hh
    rcases hh with hh | hh
    · exact hpost.2.2 hh
    · rcases hnew with h | ⟨e, h⟩ | h <;> simp [h] at hh
  · intro id'; show (id', r) ∈ v.byID ↔ _
    rw [o.idx id', hsame.1, hsame.2.1]; simp [hnidx, hnidx']
  · intro hh
    rcases hh with h' | h' | ⟨hown, _⟩
    · rcases hnew with h | ⟨e, h⟩ | h <;> simp [h] at h'
    · rcases hnew with h | ⟨e, h⟩ | h <;> simp [h] at h'
    · have := o.rdr (Or.inr (Or.inr ⟨hsame.2.2 ▸ hown, hpr⟩))
      exact ⟨this.1, by simpa [ReqView.mod] using this.2⟩
  · show _ ↔ r ∈ v.queue
    rw [← o.que]
    constructor
    · intro h'; rcases hnew with h | ⟨e, h⟩ | h <;> simp [h] at h'
    · intro h'; rcases hold with h | h | ⟨e, h⟩ <;> simp [h] at h'

theorem RInv.fromA1 {v : ReqView} (i : RInv v) (r : Nat) (q : ReqCore) (g : ReqCore → ReqCore) (tbl : List (Nat × Nat))
    (hk : v.cores[r]? = some q) (hpc : q.pc = .a1)
    (hg : (g q).wrote = q.wrote ∧ (g q).responses = q.responses ∧
      ((g q).pc = .a2 ∨ ((g q).owner = .reader ∧
        (((g q).pc = .p1 ∧ (g q).isCall = true) ∨ ((g q).pc = .p2 ∧ (g q).isCall = false)))))
    (hby : (tbl = v.byID ∧ ((g q).id = none ∨ (g q).isCall = false)) ∨
      ∃ wid, tbl = v.byID ++ [(wid, r)] ∧ (g q).id = some wid ∧ (g q).isCall = true ∧
        ¬ (v.byID.lookup wid).isSome = true ∧ (g q).pc.indexed = true) :
    RInv (({ v with incoming := v.incoming + 1, byID := tbl } : ReqView).mod r g) := by
  obtain ⟨o, hlen⟩ := i.at hk
  obtain ⟨hw, hrs⟩ := o.pre (Or.inl hpc)
  have hnq : r ∉ v.queue := fun hm => by have := o.que.mpr hm; simp [hpc] at this
  have hnidx : ∀ id, (id, r) ∉ v.byID := fun id hm => by
    have := ((o.idx id).mp hm).2.2; simp [hpc, ReqPc.indexed] at this
  obtain ⟨hrb, hrl⟩ := o.rdr (Or.inl hpc)
  obtain ⟨hw', hrs', hpc'⟩ := hg
  rw [hw] at hw'; rw [hrs] at hrs'
  -- where the request goes, and whether it is a call there
  have hpcs : (g q).pc = .a2 ∨ ((g q).pc = .p1 ∧ (g q).isCall = true) ∨ ((g q).pc = .p2 ∧ (g q).isCall = false) :=
    hpc'.elim .inl fun h => .inr h.2
  have hinfl : (g q).pc.inflight = true := by rcases hpcs with p | ⟨p, _⟩ | ⟨p, _⟩ <;> simp [p, ReqPc.inflight]
  have hinfl0 : q.pc.inflight = false := by rw [hpc]; rfl
  have hne : (g q).pc ≠ .queued ∧ (g q).pc ≠ .w1 ∧ (g q).pc ≠ .wr ∧ (∀ e, (g q).pc ≠ .w2 e) ∧ (g q).pc ≠ .fin := by
    rcases hpcs with p | ⟨p, _⟩ | ⟨p, _⟩ <;> simp [p]
  have hp1 : (g q).pc = .p1 → (g q).isCall = true := fun h => by
    rcases hpcs with p | ⟨_, c⟩ | ⟨p, _⟩
    · rw [p] at h; cases h
    · exact c
    · rw [p] at h; cases h
  have hp2 : (g q).pc = .p2 → (g q).isCall = false := fun h => by
    rcases hpcs with p | ⟨p, _⟩ | ⟨_, c⟩
    · rw [p] at h; cases h
    · rw [p] at h; cases h
    · exact c
  refine i.modUpdate r q g hk rfl (by simp [ReqView.mod, hinfl0, hinfl]) ?_ (fun _ _ => Iff.rfl)
    (Or.inl rfl) ?_ ?_ ?_ i.qnd i.qr i.nopanic
  · intro id' j hj
    rcases hby with ⟨rfl, _⟩ | ⟨wid, rfl, _⟩
    · exact Iff.rfl
    · simp only [ReqView.mod, List.mem_append, List.mem_singleton, Prod.mk.injEq]
      exact ⟨fun h => h.elim (fun h => h) fun h => absurd h.2 hj, .inl⟩
  · refine ⟨fun _ => ⟨hw', hrs'⟩, fun h => h.elim (fun h => absurd h hne.2.2.1) fun ⟨e, h⟩ => absurd h (hne.2.2.2.1 e),
      ⟨by omega, by omega, fun hc h => h.elim (fun h => (by rw [hp2 h] at hc; cases hc)) fun h => absurd h hne.2.2.2.2⟩,
      fun hc => ⟨hw', fun h => (by rw [hp1 h] at hc; cases hc), hne.2.1, hne.2.2.1, hne.2.2.2.1⟩, ?_,
      fun _ => ⟨hrb, by simpa [ReqView.mod] using hrl⟩, ⟨fun h => absurd h hne.1, fun hm => absurd hm hnq⟩⟩
    intro id'
    show (id', r) ∈ tbl ↔ _
    rcases hby with ⟨rfl, hn⟩ | ⟨wid, rfl, hid, hcall, _, hidx⟩
    · refine ⟨fun hm => absurd hm (hnidx id'), fun ⟨h1, h2, _⟩ => ?_⟩
      rcases hn with hn | hn
      · rw [hn] at h2; cases h2
      · rw [hn] at h1; cases h1
    · simp only [List.mem_append, List.mem_singleton, Prod.mk.injEq, and_true, hcall, hid, hidx, true_and,
        Option.some.injEq]
      exact ⟨fun h => h.elim (fun hm => absurd hm (hnidx id')) Eq.symm, fun h => .inr h.symm⟩
  · intro p hp
    rcases hby with ⟨rfl, _⟩ | ⟨wid, rfl, _⟩
    · exact i.byr p hp
    · rcases List.mem_append.mp hp with hp | hp
      · exact i.byr p hp
      · rw [List.mem_singleton.mp hp]; exact hlen
  · show (tbl.map (·.1)).Nodup
    rcases hby with ⟨rfl, _⟩ | ⟨wid, rfl, _, _, hl, _⟩
    · exact i.keys
    · rw [List.map_append]
      refine List.nodup_append.mpr ⟨i.keys, by simp, ?_⟩
      intro a ha b hb; simp at hb; subst hb
      intro hab; subst hab
      exact lookup_none_not_mem (Bool.eq_false_iff.mpr hl) ha

theorem countInflight_pos (l : List ReqCore) (r : Nat) (k : ReqCore) (h : l[r]? = some k) (hi : k.pc.inflight = true) :
    1 ≤ countInflight l := by
  have := countInflight_modify l r k { k with pc := .fin } h
  have h2 : ({ k with pc := ReqPc.fin } : ReqCore).pc.inflight = false := rfl
  simp only [hi, h2] at this
  simp at this
  omega

theorem RInv.incoming_pos {v : ReqView} (i : RInv v) {r : Nat} {k : ReqCore} (hk : v.cores[r]? = some k)
    (hin : k.pc.inflight = true) : 1 ≤ v.incoming := by
  have := countInflight_pos _ r k hk hin
  have := i.cnt
  omega

end Conn
