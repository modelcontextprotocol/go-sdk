import McpModel.Base.Proto
import McpModel.Conn.Render
import McpModel.SessClose.Monitor
import McpModel.SessClose.Wire
import McpModel.SessClose.Calls
/-!
Driver for E1: replays the schedule recorded from the real `jsonrpc2.Connection` on the model, one
atomic section per record, and compares the complete observable state after every step
(in-flight bookkeeping, the set of parked goroutines, cancelled request contexts, finished results).
The monitors for C01–C05 (Monitor.lean, imported through Render.lean) are evaluated on the implementation's observations.
-/
namespace Conn
open Proto

def parseWho (t : String) : Option Who :=
  let num := (t.drop 1).toString.toNat?
  match t.front, num with
  | 'c', some n => some (.call n)
  | 'u', some n => some (.unotif n)
  | 'x', some n => some (.cnotif n)
  | 'r', some n => some (.resp n)
  | _, _ => none

def parseReq (t : String) : Option Nat :=
  if t.front = 'r' then (t.drop 1).toString.toNat? else none
def parseCallNo (t : String) : Option Nat :=
  if t.front = 'c' then (t.drop 1).toString.toNat? else none

def parseLabel (toks : List String) : Option Label :=
  match toks with
  | ["ecall"] => some .ecall
  | ["ecallbad"] => some .ecallbad
  | ["enotify"] => some .enotify
  | ["ectx", c] => (parseCallNo c).map .ectx
  | ["eclose"] => some .eclose
  | ["ewait"] => some .ewait
  | ["read", "call", id] => id.toNat?.map fun i => .read (.call i)
  | ["read", "notif"] => some (.read .notif)
  | ["read", "cancel", id] => id.toNat?.map fun i => .read (.cancel i)
  | ["read", "resp", id, p] => do let i ← id.toNat?; let q ← p.toNat?; pure (.read (.resp i q))
  | ["read", "eof"] => some (.read .eof)
  | ["wret", w, o] => do
    let w ← parseWho w
    let o ← match o with
      | "ok" => some WOut.ok | "broken" => some .broken | "rejected" => some .rejected | "ctx" => some .ctx
      | _ => none
    pure (.wret w o)
  | ["hasync", r] => (parseReq r).map .hasync
  | ["hret", r, e] => (parseReq r).map fun r => .hret r (e == "1")
  | ["START"] => some .start
  | ["N1", w] => (parseWho w).map .n1
  | ["N2", w] => (parseWho w).map .n2
  | ["C1", c] => (parseCallNo c).map .c1
  | ["R", c] => (parseCallNo c).map .retire
  | ["K1", id] => id.toNat?.map .k1
  | ["WT", f] => some (.wt (f == "1"))
  | ["CL1"] => some .cl1
  | ["RR"] => some .rresp
  | ["RX"] => some .rx
  | ["A1", r] => (parseReq r).map .a1
  | ["A2", r] => (parseReq r).map .a2
  | ["D1"] => some .d1
  | ["P1", r] => (parseReq r).map .p1
  | ["P2", r] => (parseReq r).map .p2
  | ["W1", w] => (parseWho w).map .w1
  | ["W2", w] => (parseWho w).map .w2
  | _ => none

/-! ## parsing the implementation's observation (string layer; trusted, self-checked at run time) -/

def splitList (v : String) : List String := (v.splitOn ",").filter (· ≠ "")

def parseNats (v : String) : Option (List Nat) := (splitList v).mapM (·.toNat?)

def parsePTok (t : String) : Option PTok :=
  match t.splitOn ":" with
  | ["START"] => some .start | ["RD"] => some .rd | ["RR"] => some .rr | ["RX"] => some .rx
  | ["D1"] => some .d1 | ["CL1"] => some .cl1
  | ["WT", "0"] => some (.wt false) | ["WT", "1"] => some (.wt true)
  | ["K1", id] => id.toNat?.map .k1
  | ["C1", c] => (parseCallNo c).map .c1
  | ["R", c] => (parseCallNo c).map .r
  | ["N1", w] => (parseWho w).map .n1 | ["N2", w] => (parseWho w).map .n2
  | ["W1", w] => (parseWho w).map .w1 | ["WR", w] => (parseWho w).map .wr | ["W2", w] => (parseWho w).map .w2
  | ["A1", r] => (parseReq r).map .a1 | ["A2", r] => (parseReq r).map .a2 | ["H", r] => (parseReq r).map .h
  | ["P1", r] => (parseReq r).map .p1 | ["P2", r] => (parseReq r).map .p2
  | _ => none

def parseRTok (r : String) : RTok :=
  if r == "ok" then .okPlain
  else if r.startsWith "ok" then
    match (r.drop 2).toString.toNat? with
    | some p => .ok p
    | none => .bad r
  else if r == "closed" then .closed else if r == "read" then .read else if r == "broken" then .broken
  else if r == "rejected" then .rejected else if r == "ctx" then .ctx else if r == "panic" then .panic else if r == "marshal" then .marshal
  else .other r

def parseXTok (t : String) : Option (Nat × XCause) :=
  match t.splitOn ":" with
  | [w, c] => do
    let r ← parseReq w
    let c ← match c with | "r" => some XCause.read | "w" => some .write | "c" => some .other | _ => none
    pure (r, c)
  | _ => none

/-- `F=` tokens: finished calls / notifications, then `close:<n>`, `wait:<n>`. -/
def parseFins (ts : List String) : Option (List FTok × Nat × Nat) :=
  ts.foldlM (init := ([], 0, 0)) fun (acc : List FTok × Nat × Nat) t =>
    match t.splitOn ":" with
    | w :: rest@(_ :: _) =>
      let r := ":".intercalate rest
      if w == "close" then r.toNat?.map fun n => (acc.1, n, acc.2.2)
      else if w == "wait" then r.toNat?.map fun n => (acc.1, acc.2.1, n)
      else match parseWho w with
        | some (.call n) => some (acc.1 ++ [.call n (parseRTok r)], acc.2)
        | some (.unotif k) => some (acc.1 ++ [.unotif k (parseRTok r)], acc.2)
        | _ => none
    | _ => none

def parseObs (impl : String) : Option Obs := do
  let kv := (impl.splitOn " ").filterMap fun t =>
    match t.splitOn "=" with
    | [k, v] => some (k, v)
    | _ => none
  let get := fun k => (kv.lookup k).getD ""
  let sbits := (get "S").toList
  if sbits.length ≠ 6 then none
  let bit := fun i => sbits[i]! == '1'
  let oc ← parseNats (get "oc")
  let by_ ← parseNats (get "by")
  let q ← parseNats (get "q")
  let parked ← (splitList (get "P")).mapM parsePTok
  let x ← (splitList (get "X")).mapM parseXTok
  let (fins, closeFin, waitFin) ← parseFins (splitList (get "F"))
  pure { closing := bit 0, reading := bit 1, readErr := bit 2, writeErr := bit 3, closerUsed := bit 4, done := bit 5,
         oc := oc, on := (get "on").toNat?.getD 0, inc := (get "in").toNat?.getD 0,
         by_ := by_, q := q, hr := get "hr" == "1",
         tc := (get "tc").toNat?.getD 0, od := (get "od").toNat?.getD 0,
         parked := parked, x := x, fins := fins, closeFin := closeFin, waitFin := waitFin }

/-! ## the clauses as text -/

def Clause.text : Clause → String
  | .c01Twice n r r' => s!"C01: call c{n} completed twice (result changed from {rtokStr r} to {rtokStr r'})"
  | .c01Lost n => s!"C01: completed call c{n} lost its result"
  | .c01Foreign n pl => s!"C01: call c{n} completed with payload {pl} that was never sent for its id"
  | .c01Unparsable n r => s!"C01: unparsable result c{n}:{rtokStr r}"
  | .c01Panic n => s!"C01: call c{n} panicked (retire called twice / completed twice)"
  | .c01Blocked n => s!"C01: call c{n} is still blocked in Await although the connection has terminated (done closed)"
  | .c01Late n r => s!"C01: call c{n} started after termination ended with {rtokStr r}, not with a closed-connection error"
  | .c01RegAfterRx oc => s!"C01: call(s) {",".intercalate (oc.map fun n => s!"c{n}")} are registered although the reader has failed: nothing can complete them any more (a call started after the connection broke must fail at once)"
  | .c01StillRegistered n => s!"C01: call c{n} has returned to its caller but its request id {n} is (still, or again) registered in outgoingCalls: a later EOF/Close completes the finished call a second time, or - the id having been handed to another call - a late answer to c{n} completes that other call"
  | .c01MarshalForeign n => s!"C01: call c{n} ended with a marshalling error although its parameters can be encoded"
  | .c02Twice r => s!"C02: request r{r} answered more than once"
  | .c02NotifAnswered r => s!"C02: notification r{r} received a response"
  | .c03BeforeSync j i => s!"C03: handler of r{j} started before the synchronous handler of earlier r{i} finished"
  | .c03LaterFirst i j => s!"C03: handler of later r{i} was started before earlier r{j}"
  | .c04ReadCause r => s!"C04: r{r} cancelled with a read error although the reader is alive"
  | .c05WriteCause r => s!"C04+C05: handler context of r{r} cancelled as 'server closing' although no transport write ever failed (no cancellation named it: an unrelated in-flight request was cancelled; a graceful Close must let running handlers finish)"
  | .c04Unrelated r => s!"C04: r{r} cancelled although no cancellation for its id was processed and it has not finished"
  | .c04NotCancelled id r => s!"C04: Cancel({id}) did not cancel the handler context of r{r}"
  | .c04CtxStuck n => s!"C04: cancelling the context of c{n} did not make the call return"
  | .c04CancelUnasked id => s!"C04: Cancel was invoked for id {id} although no notifications/cancelled named {id} (the canceller mis-decoded the request id): a request the peer did not name may be cancelled, and the one it named is not"
  | .c05TcTwice => "C05: transport closed more than once"
  | .c05OdTwice => "C05: onDone ran more than once"
  | .c05ClosedBusy => "C05: transport closed while requests were still in flight"
  | .c05DoneBusy => "C05: connection done while not idle"
  | .c05ClosedRunning r => s!"C05: transport closed while the handler of r{r} was still running (Close must let running handlers finish and close the transport only after they have returned)"
  | .c05DoneRunning r => s!"C05: connection done (Close and Wait return) while the handler of r{r} was still running"
  | .c05LateDispatch r => s!"C05: r{r} was dispatched although it arrived after shutdown began"
  | .c05Stuck impl => "C05: shutdown did not complete (" ++ impl ++ "): a caller, Close or Wait is still blocked or a goroutine is left parked after every handler returned, every write returned and the reader failed"
  | .c02Dropped r => s!"C02: call r{r} whose id was already in flight was dropped without any response"
  | .c02NoAttempt r => s!"C02: call r{r} never had a response attempted"

structure DState where
  st : Option St := some {}
  mon : Mon := {}

/-- Run-time self-check of the string layer: the model's own observation text must parse back to
the typed observation the theorems talk about. -/
def selfCheck (s : St) : Option String :=
  if s.panicked then none
  else if parseObs (observe s) == some (obsOf s) then none
  else some ("LIBDISC render/parse: the model's observation text does not parse back to obsOf: " ++ observe s)

def engine : Engine DState where
  init := {}
  step d toks impl :=
    match toks with
    | ["reset"] => ({}, { model := "ok" })
    -- the harness announces that the peer's wire ids are offset by a constant (ids beyond 2^53); the model
    -- and all records use the logical ids
    | ["idbase", _] => (d, { model := "ok" })
    -- the harness's watchdog: the step `rest` was applied but the implementation never became quiescent
    -- again (a goroutine of the SDK is blocked on something that no step of the scripted environment
    -- releases).  In the model every label is one atomic step, so this is never the model's behaviour.
    | "hang" :: rest =>
      let late := (impl.splitOn "cancelled-callers-still-blocked=").length > 1
      let pfx := if late then "C04+C05: a caller whose context was cancelled has not returned and the step ("
                 else "C05: the step ("
      (d, { model := "quiescent", violated := some (pfx ++ " ".intercalate rest ++
        ") never completed: the implementation did not become quiescent within the watchdog's real-time limit (in the model every label is one atomic step and a cancelled caller returns after its own Retire): " ++ impl) })
    | ["end"] =>
      let model := match d.st with
        | none => "model-disabled"
        | some s => if allFinished s then "clean" else "model-stuck"
      (d, { model := model, violated := (monEndT d.mon (if impl == "clean" then none else some impl)).map Clause.text })
    | "sess" :: _ =>
      -- stream `sess` (two real sessions, zz_verif_sesslevel_test.go).  The observation has seven sections,
      -- `<verdict> ## <counters> ## <client wire> ## <server wire> ## <calls> ## <goroutines> ## <extra>`: the
      -- session-level clauses are decided HERE by the typed monitors of SessClose on the parsed sections (the
      -- harness only records them; theorems in SessClose/MonitorProps.lean); `<verdict>` is what the Go harness
      -- reports itself ("clean" or the violated clauses).  The model's observation is "clean" plus the re-rendered
      -- sections (a counter the parser drops or misreads shows as a difference).
      match impl.splitOn " ## " with
      | [verdict, rec, wc, ws, callsS, gorsS, extraS] =>
        -- wc / ws = the wire taps of the client and of the server (C02, `SessMon.wireMon`); callsS = one
        -- record per finished call (C01 / C04, `SessMon.callMon`); gorsS = per sender goroutine the messages
        -- it issued with the handler run of each (C03, `SessMon.orderMon`)
        match SessMon.parse rec, [wc, ws].mapM SessMon.parseWire, SessMon.parseCalls callsS, SessMon.parseGors gorsS, SessMon.parseExtra extraS with
        | some o, some ts, some calls, some gors, some extra =>
          let pid := ((rec.splitOn " ").filterMap fun t => match t.splitOn "=" with | ["pid", v] => some v | _ => none).headD ""
          -- the harness reports only the clauses of the property under check (`pid`); so do these monitors
          let mine := fun (t : String) => pid == "" || (((t.splitOn ":").headD "").splitOn "+").contains pid
          let lean5 := (SessMon.sessMon o).map SessMon.SClause.text
          let lean2 := (ts.zip ["client", "server"]).flatMap fun (t, side) => (SessMon.wireMon t).map (SessMon.WClause.text side)
          let lean14 := (SessMon.callMon calls).map fun (k, c) => SessMon.callText k c
          let lean3 := (SessMon.orderMon gors).map SessMon.orderText
          -- extraS = handler runs (C02 once, C05 graceful) and probes after termination (C01), `SessMon.extraMon`
          let leanX := (SessMon.extraMon extra).map SessMon.EClause.text
          let all := ((lean5 ++ lean2 ++ lean14 ++ lean3 ++ leanX).filter mine).eraseDups.take 4 ++ (if verdict == "clean" then [] else [verdict])
          -- (the counters and the taps are re-rendered from the parsed record; the call and order sections are echoed)
          (d, { model := " ## ".intercalate (["clean", SessMon.render o ++ " pid=" ++ pid] ++ ts.map SessMon.renderWire ++ [callsS, gorsS, extraS]),
                violated := if all.isEmpty then none else some (" | ".intercalate all) })
        | _, _, _, _, _ => (d, { model := "clean", violated := some (if verdict == "clean" then "LIBDISC unparsable sess record: " ++ impl else verdict) })
      | verdict :: _ :: _ => (d, { model := "clean", violated := some (if verdict == "clean" then "LIBDISC unparsable sess record: " ++ impl else verdict) })
      | _ => (d, { model := "clean", violated := if impl == "clean" then none else some impl })
    | _ =>
      match parseLabel toks with
      | none => (d, { model := "bad-op" })
      | some l =>
        let (mon', viol) := match parseObs impl with
          | some o => let (m', c) := monStepT d.mon l o; (m', c.map Clause.text)
          | none => (d.mon, some ("unparsable observation: " ++ impl))
        match d.st with
        | none => ({ d with mon := mon' }, { model := "disabled", violated := viol })
        | some s =>
          -- the harness names a detached cancel notification by its call (x<n>); the model by creation index
          -- (the monitors do not look at that subject: `evOf_relabel_fixCnotif` in Bridge.lean)
          let l := l.relabel (fixCnotif s)
          match step s l with
          | none => ({ st := none, mon := mon' }, { model := "disabled", violated := viol })
          | some s' => ({ st := some s', mon := mon' }, { model := observe s', violated := viol <|> selfCheck s' })

end Conn

def main : IO Unit := Proto.run Conn.engine
