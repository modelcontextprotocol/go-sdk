import McpModel.Conn.Monitor
import McpModel.Base.Logic
/-!
A clause that the checks of C01–C05 report satisfies `Fires`, its firing condition in plain logic (`chkAll_fires`; only
necessary: `chkAll` reports the first clause that fires).  Both chains take the checks apart here: clause soundness
reads it forwards, the proof that the monitor accepts the model backwards (`chkAll_none`).
-/
namespace Conn

def Fires (m : Mon) (p o : Obs) (e : Ev) : Clause → Prop
  | .c01Twice n r r' => FTok.call n r ∈ p.fins ∧ finCall o.fins n = some r' ∧ r' ≠ r
  | .c01Lost n => ∃ r, FTok.call n r ∈ p.fins ∧ finCall o.fins n = none
  | .c01Foreign n pl => FTok.call n (.ok pl) ∈ o.fins ∧ (n, pl) ∉ m.sent
  | .c01Unparsable n r => FTok.call n r ∈ o.fins ∧ (r = .okPlain ∨ ∃ s, r = .bad s)
  | .c01Panic n => FTok.call n .panic ∈ o.fins
  | .c01Blocked n => o.done = true ∧ 1 ≤ n ∧ n ≤ m.ncalls ∧ finCall o.fins n = none ∧ o.callParked n = false
  | .c01Late n r => n ∈ m.startedLate ∧ finCall o.fins n = some r ∧ r ≠ .closed ∧ ¬ (r = .ctx ∧ n ∈ m.ctxd)
  | .c01RegAfterRx oc => m.rxSeen = true ∧ oc = o.oc ∧ o.oc ≠ []
  | .c01StillRegistered n => ∃ r, FTok.call n r ∈ o.fins ∧ n ∈ o.oc
  | .c01MarshalForeign n => FTok.call n .marshal ∈ o.fins ∧ n ∉ m.badCalls
  | .c02Twice r => ∃ q, m.reqs[r]? = some q ∧ (1 < q.okWrites ∨ 1 < q.p1count)
  | .c02NotifAnswered r => ∃ q, m.reqs[r]? = some q ∧ (q.isNotif = true ∨ q.isCancel = true) ∧ 0 < q.w1count
  | .c03BeforeSync j i => PTok.h j ∈ o.parked ∧ PTok.h j ∉ p.parked ∧ ∃ qj qi, m.reqs[j]? = some qj ∧
      qj.started = false ∧ m.reqs[i]? = some qi ∧ i < j ∧ qi.started = true ∧ qi.asyncd = false ∧ qi.p2done = false
  | .c03LaterFirst i j => PTok.h j ∈ o.parked ∧ PTok.h j ∉ p.parked ∧ ∃ qj qi, m.reqs[j]? = some qj ∧
      qj.started = false ∧ m.reqs[i]? = some qi ∧ j < i ∧ qi.started = true
  | .c04ReadCause r => (r, XCause.read) ∈ o.x ∧ (r, XCause.read) ∉ p.x ∧ r < m.reqs.length ∧ m.rxSeen = false
  | .c05WriteCause r => (r, XCause.write) ∈ o.x ∧ (r, XCause.write) ∉ p.x ∧ r < m.reqs.length ∧ m.brokenSeen = false
  | .c04Unrelated r => (r, XCause.other) ∈ o.x ∧ (r, XCause.other) ∉ p.x ∧ ∃ q, m.reqs[r]? = some q ∧
      q.peerCancelled = false ∧ PTok.p2 r ∉ o.parked ∧ q.p2done = false
  | .c04NotCancelled id r => e = .k1 id ∧ ∃ q, m.reqs[r]? = some q ∧ q.peerCancelled = true ∧ q.id = some id ∧
      q.p2done = false ∧ (∀ x ∈ p.x ++ o.x, x.1 ≠ r) ∧ (PTok.h r ∈ p.parked ∨ PTok.a2 r ∈ p.parked ∨ r ∈ p.q)
  | .c04CancelUnasked id => ∃ rest, m.unasked = id :: rest
  | .c04CtxStuck n => e = .ectx n ∧ p.callParked n = false ∧ PTok.r n ∉ o.parked ∧ finCall o.fins n = none
  | .c05TcTwice => 1 < o.tc
  | .c05OdTwice => 1 < o.od
  | .c05ClosedBusy => o.tc = 1 ∧ p.tc = 0 ∧ o.idle = false
  | .c05DoneBusy => o.done = true ∧ o.idle = false
  | .c05ClosedRunning r => o.tc = 1 ∧ p.tc = 0 ∧ PTok.h r ∈ o.parked
  | .c05DoneRunning r => o.done = true ∧ PTok.h r ∈ o.parked
  | .c05LateDispatch r => ∃ q, m.reqs[r]? = some q ∧ q.a2AfterShutdown = true ∧ PTok.h r ∈ o.parked
  | .c05Stuck _ | .c02Dropped _ | .c02NoAttempt _ => False

theorem zipIdx_findSome {α β : Type} {l : List α} {f : α × Nat → Option β} {c : β}
    (h : (l.zipIdx 0).findSome? f = some c) : ∃ q r, l[r]? = some q ∧ f (q, r) = some c := by
  obtain ⟨⟨q, r⟩, hm, hf⟩ := List.exists_of_findSome?_eq_some h
  exact ⟨q, r, List.mem_zipIdx_iff_getElem?.mp hm, hf⟩

section checks
variable {m : Mon} {p o : Obs} {e : Ev} {c : Clause}

theorem chkFinal_fires (h : chkFinal p o = some c) : Fires m p o e c := by
  obtain ⟨a, ha, hf⟩ := List.exists_of_findSome?_eq_some h
  cases a with
  | unotif k r => simp at hf
  | call n r =>
    simp only at hf
    split at hf
    · split at hf
      · cases hf
      · cases hf; rename_i r' hr' hne; exact ⟨ha, hr', hne⟩
    · cases hf; rename_i hn; exact ⟨r, ha, hn⟩

theorem chkOwn_fires (h : chkOwn m o = some c) : Fires m p o e c := by
  obtain ⟨a, ha, hf⟩ := List.exists_of_findSome?_eq_some h
  split at hf
  · split at hf
    · cases hf
    · cases hf; rename_i hn; exact ⟨ha, by simpa using hn⟩
  · cases hf; exact ⟨ha, .inr ⟨_, rfl⟩⟩
  · cases hf; exact ⟨ha, .inl rfl⟩
  · cases hf

theorem chkPanic_fires (h : chkPanic o = some c) : Fires m p o e c := by
  obtain ⟨a, ha, hf⟩ := List.exists_of_findSome?_eq_some h
  split at hf
  · cases hf; exact ha
  · cases hf

theorem chkBlocked_fires (h : chkBlocked m o = some c) : Fires m p o e c := by
  unfold chkBlocked at h
  split at h
  · rename_i hd
    obtain ⟨k, hk, hf⟩ := List.exists_of_findSome?_eq_some h
    split at hf
    · cases hf
      rename_i hc
      simp only [Bool.and_eq_true, Option.isNone_iff_eq_none, Bool.not_eq_true'] at hc
      exact ⟨hd, by omega, by have := List.mem_range.mp hk; omega, hc.1, hc.2⟩
    · cases hf
  · cases h

theorem chkLate_fires (h : chkLate m o = some c) : Fires m p o e c := by
  obtain ⟨n, hn, hf⟩ := List.exists_of_findSome?_eq_some h
  split at hf
  · split at hf
    · cases hf
    · cases hf
      rename_i r hr hc
      simp only [Bool.or_eq_true, decide_eq_true_eq, Bool.and_eq_true, List.contains_iff_mem, not_or] at hc
      exact ⟨hn, hr, hc.1, hc.2⟩
  · cases hf

theorem chkRegAfterRx_fires (h : chkRegAfterRx m o = some c) : Fires m p o e c := by
  unfold chkRegAfterRx at h
  split at h
  · cases h
    rename_i hc
    simp only [Bool.and_eq_true, Bool.not_eq_true', List.isEmpty_eq_false_iff] at hc
    exact ⟨hc.1, rfl, hc.2⟩
  · cases h

theorem chkCancelAsked_fires (h : chkCancelAsked m = some c) : Fires m p o e c := by
  unfold chkCancelAsked at h
  split at h
  · cases h; rename_i id rest hu; exact ⟨rest, hu⟩
  · cases h

theorem chkStillRegistered_fires (h : chkStillRegistered o = some c) : Fires m p o e c := by
  obtain ⟨a, ha, hf⟩ := List.exists_of_findSome?_eq_some h
  cases a with
  | unotif k r => simp at hf
  | call n r =>
    simp only at hf
    split at hf
    · cases hf; rename_i hc; exact ⟨r, ha, List.contains_iff_mem.mp hc⟩
    · cases hf

theorem chkMarshal_fires (h : chkMarshal m o = some c) : Fires m p o e c := by
  obtain ⟨a, ha, hf⟩ := List.exists_of_findSome?_eq_some h
  split at hf
  · split at hf
    · cases hf
    · cases hf; rename_i hn; exact ⟨ha, by simpa using hn⟩
  · cases hf

theorem chkAnswer_fires (h : chkAnswer m = some c) : Fires m p o e c := by
  obtain ⟨q, r, hq, hf⟩ := zipIdx_findSome h
  simp only at hf
  split at hf
  · cases hf
    rename_i hc
    simp only [gt_iff_lt, Bool.or_eq_true, decide_eq_true_eq] at hc
    exact ⟨q, hq, hc⟩
  · split at hf
    · cases hf
      rename_i hc
      simp only [gt_iff_lt, Bool.and_eq_true, Bool.or_eq_true, decide_eq_true_eq] at hc
      exact ⟨q, hq, hc.1, hc.2⟩
    · cases hf

theorem chkOrder_fires (h : chkOrder m p o = some c) : Fires m p o e c := by
  obtain ⟨a, ha, hf⟩ := List.exists_of_findSome?_eq_some h
  split at hf
  · rename_i j
    split at hf
    · cases hf
    · rename_i hp
      split at hf
      · rename_i qj hqj
        split at hf
        · cases hf
        · rename_i hst
          obtain ⟨qi, i, hqi, hf⟩ := zipIdx_findSome hf
          simp only at hf
          split at hf
          · cases hf
            rename_i hc
            simp only [Bool.and_eq_true, decide_eq_true_eq, Bool.not_eq_true'] at hc
            exact ⟨ha, by simpa using hp, qj, qi, hqj, by simpa using hst, hqi, hc.1.1.1, hc.1.1.2, hc.1.2, hc.2⟩
          · split at hf
            · cases hf
              rename_i hc
              simp only [gt_iff_lt, Bool.and_eq_true, decide_eq_true_eq] at hc
              exact ⟨ha, by simpa using hp, qj, qi, hqj, by simpa using hst, hqi, hc.1, hc.2⟩
            · cases hf
      · cases hf
  · cases hf

theorem chkCancelX_fires (h : chkCancelX m p o = some c) : Fires m p o e c := by
  obtain ⟨⟨r, x⟩, ha, hf⟩ := List.exists_of_findSome?_eq_some h
  simp only at hf
  split at hf
  · cases hf
  · rename_i hp
    have hp' : (r, x) ∉ p.x := by simpa using hp
    split at hf
    · rename_i q hq
      have hr : r < m.reqs.length := (List.getElem?_eq_some_iff.mp hq).1
      cases x with
      | read =>
        simp only at hf
        split at hf
        · cases hf
        · cases hf; rename_i hx; exact ⟨ha, hp', hr, by simpa using hx⟩
      | write =>
        simp only at hf
        split at hf
        · cases hf
        · cases hf; rename_i hx; exact ⟨ha, hp', hr, by simpa using hx⟩
      | other =>
        simp only at hf
        split at hf
        · cases hf
        · cases hf
          rename_i hx
          simp only [Bool.or_eq_true, List.contains_iff_mem, not_or, Bool.not_eq_true] at hx
          exact ⟨ha, hp', q, hq, hx.1.1, hx.1.2, hx.2⟩
    · cases hf

theorem chkEv_fires (h : chkEv m p o e = some c) : Fires m p o e c := by
  cases e with
  | k1 id =>
    obtain ⟨q, r, hq, hf⟩ := zipIdx_findSome h
    simp only at hf
    split at hf
    · cases hf
      rename_i hc
      simp only [Bool.and_eq_true, Bool.not_eq_true', beq_iff_eq, List.all_eq_true, bne_iff_ne, ne_eq,
        Bool.or_eq_true, List.contains_iff_mem] at hc
      exact ⟨rfl, q, hq, hc.1.1.1.1, hc.1.1.1.2, hc.1.1.2, hc.1.2, by
        rcases hc.2 with (h | h) | h
        · exact .inl h
        · exact .inr (.inl h)
        · exact .inr (.inr h)⟩
    · cases hf
  | ectx n =>
    simp only [chkEv] at h
    split at h
    · cases h
    · rename_i hp
      split at h
      · cases h
      · cases h
        rename_i hx
        simp only [Bool.or_eq_true, List.contains_iff_mem, not_or, Bool.not_eq_true, Option.isSome_eq_false_iff,
          Option.isNone_iff_eq_none] at hx
        exact ⟨rfl, by simpa using hp, hx.1, hx.2⟩
  | _ => simp [chkEv] at h

theorem chkTc_fires (h : chkTc o = some c) : Fires m p o e c := by
  unfold chkTc at h; split at h
  · cases h; assumption
  · cases h

theorem chkOd_fires (h : chkOd o = some c) : Fires m p o e c := by
  unfold chkOd at h; split at h
  · cases h; assumption
  · cases h

theorem chkClosedIdle_fires (h : chkClosedIdle p o = some c) : Fires m p o e c := by
  unfold chkClosedIdle at h; split at h
  · cases h
    rename_i hc
    simp only [Bool.and_eq_true, beq_iff_eq, Bool.not_eq_true'] at hc
    exact ⟨hc.1.1, hc.1.2, hc.2⟩
  · cases h

theorem chkDoneIdle_fires (h : chkDoneIdle o = some c) : Fires m p o e c := by
  unfold chkDoneIdle at h; split at h
  · cases h
    rename_i hc
    simp only [Bool.and_eq_true, Bool.not_eq_true'] at hc
    exact hc
  · cases h

theorem chkLateDispatch_fires (h : chkLateDispatch m o = some c) : Fires m p o e c := by
  obtain ⟨q, r, hq, hf⟩ := zipIdx_findSome h
  simp only at hf
  split at hf
  · cases hf
    rename_i hc
    simp only [Bool.and_eq_true, List.contains_iff_mem] at hc
    exact ⟨q, hq, hc.1, hc.2⟩
  · cases hf

theorem runningHandler_mem {r : Nat} (h : o.runningHandler = some r) : PTok.h r ∈ o.parked := by
  obtain ⟨t, ht, hf⟩ := List.exists_of_findSome?_eq_some h
  cases t <;> simp at hf
  subst hf; exact ht

theorem chkClosedRunning_fires (h : chkClosedRunning p o = some c) : Fires m p o e c := by
  unfold chkClosedRunning at h; split at h
  · rename_i hc
    simp only [Bool.and_eq_true, beq_iff_eq] at hc
    cases hr : o.runningHandler with
    | none => simp [hr] at h
    | some r =>
      simp only [hr, Option.map_some, Option.some.injEq] at h
      subst h
      exact ⟨hc.1, hc.2, runningHandler_mem hr⟩
  · cases h

theorem chkDoneRunning_fires (h : chkDoneRunning o = some c) : Fires m p o e c := by
  unfold chkDoneRunning at h; split at h
  · rename_i hc
    cases hr : o.runningHandler with
    | none => simp [hr] at h
    | some r =>
      simp only [hr, Option.map_some, Option.some.injEq] at h
      subst h
      exact ⟨hc, runningHandler_mem hr⟩
  · cases h

theorem chkAll_fires (h : chkAll m p o e = some c) : Fires m p o e c := by
  unfold chkAll at h
  rcases Option.alt_eq_some.mp h with h | ⟨_, h⟩
  · exact chkFinal_fires h
  rcases Option.alt_eq_some.mp h with h | ⟨_, h⟩
  · exact chkOwn_fires h
  rcases Option.alt_eq_some.mp h with h | ⟨_, h⟩
  · exact chkPanic_fires h
  rcases Option.alt_eq_some.mp h with h | ⟨_, h⟩
  · exact chkBlocked_fires h
  rcases Option.alt_eq_some.mp h with h | ⟨_, h⟩
  · exact chkLate_fires h
  rcases Option.alt_eq_some.mp h with h | ⟨_, h⟩
  · exact chkRegAfterRx_fires h
  rcases Option.alt_eq_some.mp h with h | ⟨_, h⟩
  · exact chkStillRegistered_fires h
  rcases Option.alt_eq_some.mp h with h | ⟨_, h⟩
  · exact chkMarshal_fires h
  rcases Option.alt_eq_some.mp h with h | ⟨_, h⟩
  · exact chkAnswer_fires h
  rcases Option.alt_eq_some.mp h with h | ⟨_, h⟩
  · exact chkOrder_fires h
  rcases Option.alt_eq_some.mp h with h | ⟨_, h⟩
  · exact chkCancelAsked_fires h
  rcases Option.alt_eq_some.mp h with h | ⟨_, h⟩
  · exact chkCancelX_fires h
  rcases Option.alt_eq_some.mp h with h | ⟨_, h⟩
  · exact chkEv_fires h
  rcases Option.alt_eq_some.mp h with h | ⟨_, h⟩
  · exact chkTc_fires h
  rcases Option.alt_eq_some.mp h with h | ⟨_, h⟩
  · exact chkOd_fires h
  rcases Option.alt_eq_some.mp h with h | ⟨_, h⟩
  · exact chkClosedIdle_fires h
  rcases Option.alt_eq_some.mp h with h | ⟨_, h⟩
  · exact chkDoneIdle_fires h
  rcases Option.alt_eq_some.mp h with h | ⟨_, h⟩
  · exact chkLateDispatch_fires h
  rcases Option.alt_eq_some.mp h with h | ⟨_, h⟩
  · exact chkClosedRunning_fires h
  exact chkDoneRunning_fires h

end checks

theorem chkAll_none {m : Mon} {p o : Obs} {e : Ev} (h : ∀ c, ¬ Fires m p o e c) : chkAll m p o e = none := by
  cases hc : chkAll m p o e with
  | none => rfl
  | some c => exact absurd (chkAll_fires hc) (h c)

theorem monEndT_fires {m : Mon} {c : Clause} (h : monEndT m none = some c) :
    ∃ q r, m.reqs[r]? = some q ∧ q.isNotif = false ∧ q.isCancel = false ∧ q.w1count = 0 ∧
      ((q.dup = true ∧ c = .c02Dropped r) ∨ (q.dup = false ∧ c = .c02NoAttempt r)) := by
  obtain ⟨q, r, hq, hf⟩ := zipIdx_findSome h
  refine ⟨q, r, hq, ?_⟩
  simp only at hf
  split at hf
  · rename_i hc
    simp only [Bool.and_eq_true, Bool.not_eq_true', beq_iff_eq] at hc
    refine ⟨hc.1.1, hc.1.2, hc.2, ?_⟩
    split at hf <;> cases hf
    · exact .inl ⟨‹_›, rfl⟩
    · exact .inr ⟨by simpa using ‹¬ q.dup = true›, rfl⟩
  · cases hf

end Conn
