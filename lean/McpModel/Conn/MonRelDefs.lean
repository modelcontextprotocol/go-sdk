import McpModel.Conn.Monitor
import McpModel.Conn.ReqInv
/-!
The invariant `MonRel` relating the monitor's own state `Mon` (history it collected from labels and
from the observations) to the model state, used to prove that the monitors of C01–C05 raise no
alarm on any behaviour the model allows (`monitor_accepts_model`, `Bridge.lean`).
-/
namespace Conn

/-- The result token of call `n` if the model lists it as finished. -/
def callFin (s : St) (n : Nat) : Option RTok :=
  (getCall s n).bind fun c => if c.pc = .fin then c.result.map resTok else none

theorem callFin_eq_some {s : St} {n : Nat} {r : RTok} :
    callFin s n = some r ↔ ∃ c res, getCall s n = some c ∧ c.pc = .fin ∧ c.result = some res ∧ r = resTok res := by
  unfold callFin
  cases hc : getCall s n with
  | none => simp
  | some c =>
    by_cases hpc : c.pc = .fin <;> cases hres : c.result <;> simp [hpc, eq_comm]

/-- The record of a call whose params could not be encoded (`ecallbad`). -/
def badCall : Call :=
  { pc := .fin, ready := some (.err .marshal), result := some (.err .marshal), retires := 1, registered := false }

/-- The caller goroutine is parked at a yield site or inside the transport Write. -/
def CallPc.parked : CallPc → Bool
  | .c1 | .w1 | .wr | .w2 _ | .r _ | .rc => true
  | _ => false

/-- Past the un-index point P1 of processResult. -/
def ReqPc.afterP1 : ReqPc → Bool
  | .w1 | .wr | .w2 _ | .p2 | .fin => true
  | _ => false

/-- The monitor's previous observation is the model's, or the monitor has just been reset (its initial `prev`, `{}`, is not
`obsOf {}`, which shows `start` parked). -/
def PrevOK (p : Obs) (s : St) : Prop := p = obsOf s ∨ (p = {} ∧ s = {})

/-- Outgoing-call part of the relation (C01, and the ctx part of C04). -/
structure MonCalls (m : Mon) (s : St) : Prop where
  ncalls : m.ncalls = s.calls.length
  /-- every response the reader took off the wire was fed by the harness -/
  sent : ∀ x ∈ s.respLog, x ∈ m.sent
  sentRR : ∀ (id p : Nat), s.reader = .rr id p → (id, p) ∈ m.sent
  ctxd : ∀ (n : Nat) (c : Call), getCall s n = some c → c.ctxDone = true → n ∈ m.ctxd
  /-- a call started after termination is refused at C1 with the client-closing class -/
  late : ∀ n ∈ m.startedLate, s.done = true ∧
    ∃ c, getCall s n = some c ∧ (c.pc = .c1 ∨ c.ready = some (.err .clientClosing))

/-- What the monitor knows about request `r` (`q`) against the model's request (`k`, `mt`).  `kind`, `dupa`: a request with an
id is a call for the model unless its id was already indexed at its A1, which sets the mark `dup` (known finding F3: such a call
is dropped).  `p1`: only a call passes P1, once.  `st`: what the monitor SAW (token `H:r`); `run`: the model's pc.  `late`: an
A2 after shutdown goes straight into processResult.  `peer`/`cpeer`: cause `peer` only for a request marked at a K1.  `cfin`:
cause `finished` only from P2 on. -/
structure ReqRel (q : MReq) (k : ReqCore) (mt : ReqMeta) : Prop where
  id : q.id = k.id
  idk : q.isNotif = !q.id.isSome
  cancelKind : q.isCancel = true → q.isNotif = true
  kind : k.isCall = (!q.isNotif && !q.dup)
  dupa : q.dup = true → k.pc ≠ .a1
  w1 : q.w1count = k.wrote
  ok : q.okWrites = k.responses
  p1 : q.p1count = if k.isCall && k.pc.afterP1 then 1 else 0
  st : q.started = true → mt.started.isSome = true
  run : k.pc = .running → mt.started.isSome = true
  asyncd : q.asyncd = mt.asyncCalled
  p2done : q.p2done = decide (k.pc = .fin)
  late : q.a2AfterShutdown = true → (k.pc.inPR = true ∨ k.pc = .fin)
  peer : q.peerCancelled = true → mt.cancelled.isSome = true
  cpeer : mt.cancelled = some .peer → q.peerCancelled = true
  seen : (k.pc = .a2 ∨ k.pc = .queued ∨ k.pc = .running) → mt.seen = true
  cfin : mt.cancelled = some .finished → (k.pc = .p2 ∨ k.pc = .fin)

/-- Incoming-request part of the relation (C02–C05); it also covers the writers of outgoing calls and notifications (`bc`,
`bn`), which share the mark `brokenSeen`. -/
structure MonReqs (m : Mon) (s : St) : Prop where
  nreqs : m.reqs.length = s.cores.length
  /-- the monitor's id index (from the A1/P1 labels) is the connection's `incomingByID` -/
  idx : m.idx = s.byID
  rx : ∀ (r : Nat) (mt : ReqMeta), s.metas[r]? = some mt → mt.cancelled = some .read → m.rxSeen = true
  /-- `bc`, `bn`, `bk`: a writer on its way to W2 has seen its transport Write fail -/
  bc : ∀ (n : Nat) (c : Call) (e : Err), getCall s n = some c → c.pc = .w2 e → m.brokenSeen = true
  bn : ∀ (w : Who) (nf : Notif) (e : Err), getNotif s w = some nf → nf.pc = .w2 e → m.brokenSeen = true
  bk : ∀ (r : Nat) (k : ReqCore) (e : Err), s.cores[r]? = some k → k.pc = .w2 e → m.brokenSeen = true
  /-- `bw`, `bx`: so have the connection's write error and a context cancelled with cause `write` -/
  bw : s.writeErr = true → m.brokenSeen = true
  bx : ∀ (r : Nat) (mt : ReqMeta), s.metas[r]? = some mt → mt.cancelled = some .write → s.writeErr = true
  req : ∀ (r : Nat) (q : MReq) (k : ReqCore) (mt : ReqMeta), m.reqs[r]? = some q → s.cores[r]? = some k → s.metas[r]? = some mt → ReqRel q k mt

/-- Reader-failure part of the relation: the monitor has seen the label RX only if the model's reader
has failed, and then no call is registered (`read_failure_leaves_no_registered_call`). -/
structure MonRx (m : Mon) (s : St) : Prop where
  seen : m.rxSeen = true → s.readErr = true
  none : s.readErr = true → s.outCalls = []

/-- The id named by a cancel notification that was read but whose A1 has not run yet (the reader
works on one request at a time: such a request is the newest one). -/
def pendCancel (s : St) : Option Nat :=
  match s.cores.getLast?, s.metas.getLast? with
  | some k, some mt => if k.pc = .a1 then mt.cancelTarget else none
  | _, _ => none

/-- Cancellation part of the relation: every `Cancel(id)` goroutine of the model (`s.cancels`) and
the cancel notification still before its A1 were named by a `read cancel` the monitor booked and has
not consumed yet (as multisets); the monitor has seen no unasked Cancel. -/
structure MonCancel (m : Mon) (s : St) : Prop where
  asked : ∀ id, s.cancels.count id + (if pendCancel s = some id then 1 else 0) ≤ m.cancelAsked.count id
  un : m.unasked = []

/-- The call record carries the marshalling error (as its outcome or as the error it will retire with). -/
def Marsh (c : Call) : Prop := c.ready = some (.err .marshal) ∨ c.pc = .r .marshal ∨ c.pc = .w2 .marshal

/-- Only the calls started with params that cannot be encoded (`ecallbad`, booked in `badCalls`) carry
the marshalling error. -/
structure MonBad (m : Mon) (s : St) : Prop where
  bad : ∀ (n : Nat) (c : Call), getCall s n = some c → Marsh c → n ∈ m.badCalls

structure MonRel (m : Mon) (s : St) : Prop where
  prev : PrevOK m.prev s
  calls : MonCalls m s
  reqs : MonReqs m s
  rx : MonRx m s
  cancel : MonCancel m s
  bad : MonBad m s

theorem prevOK_init : PrevOK ({} : Mon).prev ({} : St) := Or.inr ⟨rfl, rfl⟩

theorem monCalls_init : MonCalls {} {} :=
  ⟨rfl, fun x hx => by simp at hx, fun id p h => by simp at h,
   fun n c hc => by simp [getCall] at hc, fun n hn => by simp at hn⟩

theorem monReqs_init : MonReqs {} {} :=
  ⟨rfl, rfl, fun r mt h => by simp at h, fun n c e hc => by simp [getCall] at hc,
   fun w nf e h => by cases w <;> simp [getNotif] at h, fun r k e h => by simp at h,
   fun h => by simp at h, fun r mt h => by simp at h, fun r q k mt h => by simp at h⟩

theorem monRx_init : MonRx {} {} := ⟨fun h => by simp at h, fun h => by simp at h⟩

theorem monCancel_init : MonCancel {} {} := ⟨fun id => by simp [pendCancel], rfl⟩

theorem monBad_init : MonBad {} {} := ⟨fun n c hc => by simp [getCall] at hc⟩

theorem monRel_init : MonRel {} {} := ⟨prevOK_init, monCalls_init, monReqs_init, monRx_init, monCancel_init, monBad_init⟩

end Conn
