import McpModel.Conn.CallRow
/-! Invariants of the outgoing-call bookkeeping (C01): `CallOK` per call record, `CInv` for the table; preserved row by row
(`CallOK.row`, over `CStep0` of CallRow.lean). -/
namespace Conn

structure CallOK (oc : List Nat) (log : List (Nat × Nat)) (n : Nat) (c : Call) : Prop where
  /-- registered_iff_unretired: the table entry exists exactly while the call is registered and not completed. -/
  reg : n ∈ oc ↔ (c.registered = true ∧ c.ready = none)
  retires : c.retires = if c.ready.isSome then 1 else 0
  fresh : c.pc = .c1 → c.registered = false ∧ c.ready = none
  /-- C1 refused the call, or it was born finished (`ecallbad`) -/
  refused : c.registered = false → c.pc ≠ .c1 → c.ready.isSome = true
  /-- response_is_own: a response payload comes from a message the reader was handed for this id -/
  own : ∀ p, c.ready = some (.resp p) → (n, p) ∈ log
  /-- what the caller returns is the fixed outcome, or its own context's error (the eager path `rc`) -/
  result : ∀ r, c.result = some r → c.pc = .fin ∧ (c.ready = some r ∨ (r = .err .ctx ∧ c.ctxDone = true))
  fin : c.pc = .fin → c.result.isSome = true ∧ c.ready.isSome = true
  rcctx : c.pc = .rc → c.ctxDone = true

/-- `nopanic`: `Retire` has never found a call already retired (`panicRetire` stands for the Go panic). -/
structure CInv (s : St) : Prop where
  nodup : s.outCalls.Nodup
  inrange : ∀ n ∈ s.outCalls, 1 ≤ n ∧ n ≤ s.calls.length
  ok : ∀ n c, getCall s n = some c → CallOK s.outCalls s.respLog n c
  nopanic : s.panicRetire = false

theorem CInv.update {s s' : St} (i : CInv s) (n : Nat) (c c' : Call) (hn : 1 ≤ n) (hc : getCall s n = some c)
    (hcalls : s'.calls = s.calls.modify (n - 1) (fun _ => c'))
    (hoc : ∀ m, m ≠ n → (m ∈ s'.outCalls ↔ m ∈ s.outCalls))
    (hocn : n ∈ s'.outCalls → n ≤ s.calls.length)
    (hnd : s'.outCalls.Nodup)
    (hlog : ∀ x, x ∈ s.respLog → x ∈ s'.respLog)
    (hok : CallOK s'.outCalls s'.respLog n c')
    (hp : s'.panicRetire = false) : CInv s' := by
  have hget (m : Nat) : getCall s' m = if m = n then some c' else getCall s m := by
    rw [getCall_of_calls (s2 := modCall s n fun _ => c') hcalls, getCall_modCall _ _ _ _ hn, hc]; rfl
  refine ⟨hnd, fun m hm => ?_, fun m cm hcm => ?_, hp⟩
  · rw [hcalls, List.length_modify]
    by_cases hmn : m = n
    · subst hmn; exact ⟨hn, hocn hm⟩
    · exact i.inrange m ((hoc m hmn).mp hm)
  · rw [hget] at hcm
    by_cases hmn : m = n
    · subst hmn; rw [if_pos rfl] at hcm; cases hcm; exact hok
    · rw [if_neg hmn] at hcm
      have o := i.ok m cm hcm
      exact ⟨by rw [hoc m hmn]; exact o.reg, o.retires, o.fresh, o.refused, fun p hp => hlog _ (o.own p hp), o.result, o.fin, o.rcctx⟩

theorem retireIn_calls (s : St) (n : Nat) (c : Call) (r : Res) (hc : getCall s n = some c) (hr : c.ready = none) :
    (retireIn s n r).calls = s.calls.modify (n - 1) (fun _ => { c with ready := some r, retires := c.retires + 1 }) ∧
    (retireIn s n r).outCalls = s.outCalls ∧ (retireIn s n r).respLog = s.respLog ∧
    (retireIn s n r).panicRetire = s.panicRetire := by
  simp [retireIn, hc, retireCall, hr, modCall]

theorem cinv_newcall {s : St} (i : CInv s) (c0 : Call)
    (h0 : ∀ n, n ∉ s.outCalls → CallOK s.outCalls s.respLog n c0) : CInv { s with calls := s.calls ++ [c0] } := by
  refine ⟨i.nodup, fun n hn => by have := i.inrange n hn; simp; omega, fun n c hc => ?_, i.nopanic⟩
  rcases getCall_append_iff.mp hc with hc | ⟨rfl, rfl⟩
  · exact i.ok n c hc
  · exact h0 _ fun h => by have := (i.inrange _ h).2; omega

theorem cinv_ecall {s : St} (i : CInv s) : CInv { s with calls := s.calls ++ [{}] } :=
  cinv_newcall i {} (fun n hnot => ⟨by simp [hnot], by simp, by simp, by simp, by simp, by simp, by simp, by simp⟩)

theorem cinv_ecallbad {s : St} (i : CInv s) : CInv { s with calls := s.calls ++
    [{ pc := .fin, ready := some (.err .marshal), result := some (.err .marshal), retires := 1, registered := false }] } :=
  cinv_newcall i _ (fun n hnot => ⟨by simp [hnot], by simp, by simp, by simp, by simp, by simp, by simp, by simp⟩)

theorem CallOK.result_none {oc log n c} (o : CallOK oc log n c) (h : c.pc ≠ .fin) : c.result = none := by
  cases hr : c.result with
  | none => rfl
  | some x => exact absurd (o.result x hr).1 h

theorem CallOK.row {ok : Prop} {sd : Bool} {oc oc' : List Nat} {log log' : List (Nat × Nat)} {n : Nat} {c c' : Call} {l : Label}
    (hok : ok) (o : CallOK oc log n c) (hlog : ∀ x ∈ log, x ∈ log')
    (r : CRow ok sd (oc.contains n) (n ∈ oc') log' n c l c') : CallOK oc' log' n c' := by
  have hreg : oc.contains n = true ↔ n ∈ oc := by simp
  -- a pure change of program counter between park points other than C1, RC and the end
  have setPc (pc' : CallPc) (ha : n ∈ oc' ↔ oc.contains n = true) (h1 : c.pc ≠ .c1) (h2 : c.pc ≠ .fin) (h3 : pc' ≠ .c1)
      (h4 : pc' ≠ .fin) (h5 : pc' ≠ .rc) : CallOK oc' log' n { c with pc := pc' } :=
    ⟨(ha.trans hreg).trans o.reg, o.retires, fun h => absurd h h3, fun a _ => o.refused a h1, fun p hp => hlog _ (o.own p hp),
      fun r hr => absurd (o.result r hr).1 h2, fun h => absurd h h4, fun h => absurd h h5⟩
  -- a registered call is pending, past C1 and not finished
  have pending (hr : oc.contains n = true) : c.registered = true ∧ c.ready = none ∧ c.pc ≠ .c1 ∧ c.pc ≠ .fin := by
    obtain ⟨h1, h2⟩ := o.reg.mp (hreg.mp hr)
    exact ⟨h1, h2, fun h => by simp [(o.fresh h).1] at h1, fun h => by have := (o.fin h).2; simp [h2] at this⟩
  cases r with
  | same _ ha =>
    exact ⟨(ha.trans hreg).trans o.reg, o.retires, o.fresh, o.refused, fun p hp => hlog _ (o.own p hp), o.result, o.fin, o.rcctx⟩
  | @rresp p hr ha hl =>
    obtain ⟨h1, h2, h3, h4⟩ := pending hr
    simp only [retireCall, h2]
    exact ⟨by simp [ha hok], by simp [o.retires, h2], fun h => absurd h h3, by simp, by simp; exact hl,
      by simp [o.result_none h4], fun h => absurd h h4, o.rcctx⟩
  | rx hr ha =>
    obtain ⟨h1, h2, h3, h4⟩ := pending hr
    simp only [retireCall, h2]
    exact ⟨by simp [ha], by simp [o.retires, h2], fun h => absurd h h3, by simp, by simp,
      by simp [o.result_none h4], fun h => absurd h h4, o.rcctx⟩
  | ectx hx ha =>
    exact ⟨(ha.trans hreg).trans o.reg, o.retires, o.fresh, o.refused, fun p hp => hlog _ (o.own p hp),
      fun r hr => ⟨(o.result r hr).1, (o.result r hr).2.elim Or.inl (fun h => Or.inr ⟨h.1, rfl⟩)⟩, o.fin, fun _ => rfl⟩
  | c1 hpc hsd ha =>
    obtain ⟨h1, h2⟩ := o.fresh hpc
    exact ⟨by simp [ha, h2], by simp [o.retires, h2], by simp, by simp, by simp [h2],
      by simp [o.result_none (by simp [hpc])], by simp, by simp⟩
  | c1Refused hpc hsd ha =>
    obtain ⟨h1, h2⟩ := o.fresh hpc
    have hn : n ∉ oc := fun h => by have := (o.reg.mp h).1; simp [h1] at this
    simp only [retireCall, h2]
    exact ⟨by simp [ha, hn, h1], by simp [o.retires, h2], by simp, by simp, by simp,
      by simp [o.result_none (by simp [hpc])], by simp, by simp⟩
  | w1 hpc _ ha | w1Shut hpc _ ha | wretOk hpc _ ha | wretBroken hpc _ ha | wretBrokenCtx hpc _ ha | wretRejected hpc ha
  | wretCtx hpc _ ha | w2 hpc ha =>
    exact setPc _ ha (by simp [hpc]) (by simp [hpc]) (by simp) (by simp) (by simp)
  | @retire e hpc ha =>
    have h1 : c.pc ≠ .c1 := by simp [hpc]
    have h4 : c.pc ≠ .fin := by simp [hpc]
    cases hr : oc.contains n with
    | true =>
      obtain ⟨_, h2, _, _⟩ := pending hr
      simp only [if_true, retireCall, h2]
      exact ⟨by simp [ha hok], by simp [o.retires, h2], by simp, by simp, by simp, by simp [o.result_none h4], by simp, by simp⟩
    | false =>
      have hn : n ∉ oc := by simpa using hr
      exact ⟨by simpa [ha hok, hn] using o.reg, o.retires, by simp, fun a _ => o.refused a h1, fun p hp => hlog _ (o.own p hp),
        by simp [o.result_none h4], by simp, by simp⟩
  | retireRc hpc ha =>
    have h1 : c.pc ≠ .c1 := by simp [hpc]
    have h4 : c.pc ≠ .fin := by simp [hpc]
    have hx := o.rcctx hpc
    cases hr : oc.contains n with
    | true =>
      obtain ⟨_, h2, _, _⟩ := pending hr
      simp only [if_true, retireCall, h2]
      exact ⟨by simp [ha hok], by simp [o.retires, h2], by simp, by simp, by simp, by simp, by simp, by simp⟩
    | false =>
      have hn : n ∉ oc := by simpa using hr
      have hrdy : c.ready.isSome = true := by
        by_cases hg : c.registered = true
        · cases hy : c.ready with
          | some _ => rfl
          | none => exact absurd (o.reg.mpr ⟨hg, hy⟩) hn
        · exact o.refused (by simpa using hg) h1
      exact ⟨by simpa [ha hok, hn] using o.reg, o.retires, by simp, by simp [hrdy], fun p hp => hlog _ (o.own p hp),
        by simp [hx], by simp [hrdy], by simp⟩

theorem cinv_step0 {s s' : St} {l : Label} (i : CInv s) (h : step0 s l = some s') : CInv s' := by
  by_cases hnew : l = .ecall ∨ l = .ecallbad
  · rcases hnew with rfl | rfl <;> cases h
    · exact cinv_ecall i
    · exact cinv_ecallbad i
  obtain ⟨row, len, oc, log, pan⟩ := CStep0.of_step0 h
  rw [if_neg hnew, Nat.add_zero] at len
  refine ⟨?_, fun n hn => ?_, fun n c' hc' => ?_, ?_⟩
  · rcases oc with hsub | ⟨n, c, rfl, hc, hpc, hoc⟩
    · exact i.nodup.sublist hsub
    · -- a call before C1 is not in the table
      have hn : n ∉ s.outCalls := fun hm => by
        have := ((i.ok n c hc).reg.mp hm).1; simp [((i.ok n c hc).fresh hpc).1] at this
      rw [hoc]
      exact List.nodup_append.mpr ⟨i.nodup, by simp, fun a ha b hb => by simp at hb; subst hb; exact fun e => hn (e ▸ ha)⟩
  · rw [len]
    rcases oc with hsub | ⟨k, c, rfl, hc, hpc, hoc⟩
    · exact i.inrange n (hsub.subset hn)
    · rw [hoc, List.mem_append, List.mem_singleton] at hn
      rcases hn with hn | rfl
      · exact i.inrange n hn
      · exact getCall_some_pos hc
  · obtain ⟨c, hc⟩ := getCall_some_iff.mpr (len ▸ getCall_some_pos hc')
    obtain ⟨c'', hc'', r⟩ := row n c hc
    obtain rfl : c'' = c' := Option.some.inj (hc''.symm.trans hc')
    refine (i.ok n c hc).row i.nodup (fun x hx => ?_) r
    rcases log with e | ⟨_, _, _, _, e⟩ <;> rw [e]
    · exact hx
    · exact List.mem_append_left _ hx
  · cases hp : s'.panicRetire with
    | false => rfl
    | true =>
      rcases pan i.nodup hp with hp | ⟨n, c, hc, hr, hm | hpc⟩
      · rw [i.nopanic] at hp; cases hp
      · rw [((i.ok n c hc).reg.mp hm).2] at hr; cases hr
      · rw [((i.ok n c hc).fresh hpc).2] at hr; cases hr

theorem CallOK.woke {oc : List Nat} {log : List (Nat × Nat)} {n : Nat} {c c' : Call} (o : CallOK oc log n c) (w : Woke c c') :
    CallOK oc log n c' := by
  cases w with
  | stay => exact o
  | fin hp hr hx =>
    exact ⟨o.reg, o.retires, by simp, fun _ _ => by simp [hr], o.own, fun r' h => ⟨rfl, .inl (by cases h; exact hr)⟩, by simp [hr], by simp⟩
  | rc hp hx =>
    exact ⟨o.reg, o.retires, by simp, fun a _ => o.refused a (by simp [hp]), o.own, by simp [o.result_none (by simp [hp])], by simp,
      fun _ => hx⟩

theorem cinv_settle {s : St} (i : CInv s) : CInv (settle s) := by
  have hv := callView_settle s
  have h2 : (settle s).outCalls = s.outCalls := congrArg CallView.outCalls hv
  have h3 : (settle s).respLog = s.respLog := congrArg CallView.respLog hv
  have h4 : (settle s).panicRetire = s.panicRetire := congrArg CallView.panicRetire hv
  refine ⟨h2 ▸ i.nodup, fun n hn => by rw [settle_calls_length]; exact i.inrange n (h2 ▸ hn), fun n c' hc' => ?_, h4 ▸ i.nopanic⟩
  rw [getCall_settle] at hc'
  obtain ⟨c, hc, rfl⟩ := Option.map_eq_some_iff.mp hc'
  rw [h2, h3]; exact (i.ok n c hc).woke (.of_settleCall c)

theorem cinv_step {s s' : St} {l : Label} (i : CInv s) (h : step s l = some s') : CInv s' := by
  obtain ⟨s0, h0, rfl⟩ := step_some.mp h
  exact cinv_settle (cinv_step0 i h0)

theorem cinv_init : CInv ({} : St) :=
  ⟨by simp, by simp, fun n c hc => by simp [getCall_eq] at hc, rfl⟩

theorem cinv_run {s s' : St} (ls : List Label) (i : CInv s) (h : run s ls = some s') : CInv s' :=
  run_induct cinv_step ls i h

end Conn
