import McpModel.Conn.Model
/-!
Typed core of the E1 driver: the observation of a connection as typed data (`Obs`), the model's
observation `obsOf : St → Obs`, the typed event `Ev` the monitors read off a label, the monitors of
C01–C05 (`monStepT`, `monEndT`) as functions on typed data, and the observation trace of a run
(`traceOf`, `runMon`).  The string layer (`render`, `observe` in `Render.lean`; `parseObs`, `parseLabel` in
`Driver.lean`) is a thin wrapper.  Core Lean only (linked into the driver).

The monitors see only the labels (ground truth: what the harness fed in and which goroutine it
released) and the IMPLEMENTATION's observations; they never consult the model's state.
-/
namespace Conn

/-! ## typed observation -/

/-- A goroutine parked at a yield site / in a scripted Reader, Writer, Handler (`P=` tokens).
In observations a detached cancel notification is named by its call: `.cnotif n` = `x<n>`. -/
inductive PTok where
  | start | rd | rr | rx | d1 | cl1
  | wt (fromWait : Bool)
  | k1 (id : Nat)
  | c1 (n : Nat) | r (n : Nat)
  | n1 (w : Who) | n2 (w : Who) | w1 (w : Who) | wr (w : Who) | w2 (w : Who)
  | a1 (r : Nat) | a2 (r : Nat) | h (r : Nat) | p1 (r : Nat) | p2 (r : Nat)
deriving DecidableEq, Repr, Inhabited

/-- The call a parked caller goroutine belongs to. -/
def PTok.callNo : PTok → Option Nat
  | .c1 n | .r n | .w1 (.call n) | .wr (.call n) | .w2 (.call n) => some n
  | _ => none

/-- A finished result as printed by the harness. -/
inductive RTok where
  | ok (payload : Nat)      -- `ok<p>`: the peer's response with payload tag p
  | okPlain                 -- `ok`: a notification that was written
  | closed | read | broken | rejected | ctx
  | marshal                 -- `marshal`: the call's parameters could not be encoded
  | panic                   -- the caller goroutine panicked
  | bad (s : String)        -- `ok<junk>`
  | other (s : String)
deriving DecidableEq, Repr, Inhabited

/-- `F=` tokens: a finished call `c<n>:<res>` or user notification `u<k>:<res>`. -/
inductive FTok where
  | call (n : Nat) (r : RTok)
  | unotif (k : Nat) (r : RTok)
deriving DecidableEq, Repr, Inhabited

/-- Cause shown for a cancelled handler context (`X=` tokens `r<r>:r|w|c`). -/
inductive XCause where | read | write | other
deriving DecidableEq, Repr, Inhabited

/-- What the harness prints after every label (and what `observe` prints for the model). -/
structure Obs where
  closing : Bool := false
  reading : Bool := false
  readErr : Bool := false
  writeErr : Bool := false
  closerUsed : Bool := false
  done : Bool := false
  oc : List Nat := []
  on : Nat := 0
  inc : Nat := 0
  by_ : List Nat := []
  q : List Nat := []
  hr : Bool := false
  tc : Nat := 0
  od : Nat := 0
  parked : List PTok := []
  x : List (Nat × XCause) := []
  fins : List FTok := []
  closeFin : Nat := 0
  waitFin : Nat := 0
deriving DecidableEq, Repr, Inhabited

def Obs.idle (o : Obs) : Bool := o.oc.isEmpty && o.on == 0 && o.inc == 0 && !o.hr
def Obs.shuttingDown (o : Obs) : Bool := o.closing || o.readErr || o.writeErr

/-- The result of call `n`, if it is listed as finished. -/
def finCall (f : List FTok) (n : Nat) : Option RTok :=
  f.findSome? fun
    | .call k r => if k = n then some r else none
    | _ => none

/-- Some goroutine of call `n` is parked (at a yield site or inside the transport Write). -/
def Obs.callParked (o : Obs) (n : Nat) : Bool := o.parked.any fun t => t.callNo == some n

/-! ## token strings (used as sort keys by `obsOf` and by `render`) -/

def whoStr : Who → String
  | .call n => s!"c{n}" | .unotif k => s!"u{k}" | .cnotif n => s!"x{n}" | .resp r => s!"r{r}"

def ptokStr : PTok → String
  | .start => "START" | .rd => "RD" | .rr => "RR" | .rx => "RX" | .d1 => "D1" | .cl1 => "CL1"
  | .wt f => if f then "WT:1" else "WT:0"
  | .k1 id => s!"K1:{id}"
  | .c1 n => s!"C1:c{n}" | .r n => s!"R:c{n}"
  | .n1 w => s!"N1:{whoStr w}" | .n2 w => s!"N2:{whoStr w}"
  | .w1 w => s!"W1:{whoStr w}" | .wr w => s!"WR:{whoStr w}" | .w2 w => s!"W2:{whoStr w}"
  | .a1 r => s!"A1:r{r}" | .a2 r => s!"A2:r{r}" | .h r => s!"H:r{r}" | .p1 r => s!"P1:r{r}" | .p2 r => s!"P2:r{r}"

def rtokStr : RTok → String
  | .ok p => s!"ok{p}" | .okPlain => "ok"
  | .marshal => "marshal"
  | .closed => "closed" | .read => "read" | .broken => "broken" | .rejected => "rejected" | .ctx => "ctx"
  | .panic => "panic" | .bad s => s | .other s => s

def ftokStr : FTok → String
  | .call n r => s!"c{n}:{rtokStr r}"
  | .unotif k r => s!"u{k}:{rtokStr r}"

/-! ## sorting (insertion sort) -/

def insertBy {α : Type} (le : α → α → Bool) (x : α) : List α → List α
  | [] => [x]
  | y :: t => if le x y then x :: y :: t else y :: insertBy le x t

def sortBy {α : Type} (le : α → α → Bool) (l : List α) : List α := l.foldr (insertBy le) []

def sortNat (l : List Nat) : List Nat := sortBy (fun a b => decide (a ≤ b)) l
def sortPTok (l : List PTok) : List PTok := sortBy (fun a b => decide (ptokStr a ≤ ptokStr b)) l
def sortFTok (l : List FTok) : List FTok := sortBy (fun a b => decide (ftokStr a ≤ ftokStr b)) l

/-! ## the model's observation -/

def notifToks (w : Who) (nf : Notif) : List PTok :=
  match nf.pc with
  | .n1 => [.n1 w] | .w1 => [.w1 w] | .wr => [.wr w] | .w2 _ => [.w2 w] | .n2 _ => [.n2 w] | .fin _ => []

def readerToks (s : St) : List PTok :=
  match s.reader with
  | .start => [.start] | .read => [.rd] | .rr _ _ => [.rr] | .rx => [.rx] | _ => []

def callToks (s : St) : List PTok :=
  (s.calls.zipIdx 1).flatMap fun (c, n) =>
    match c.pc with
    | .c1 => [.c1 n] | .w1 => [.w1 (.call n)] | .wr => [.wr (.call n)] | .w2 _ => [.w2 (.call n)]
    | .r _ => [.r n] | .rc => [.r n] | _ => []

def unotifToks (s : St) : List PTok := (s.unotifs.zipIdx 0).flatMap fun (nf, k) => notifToks (.unotif k) nf
def cnotifToks (s : St) : List PTok := s.cnotifs.flatMap fun nf => notifToks (.cnotif (nf.cancelFor.getD 0)) nf

def reqToks (s : St) : List PTok :=
  (s.cores.zipIdx 0).flatMap fun (q, r) =>
    match q.pc with
    | .a1 => [.a1 r] | .a2 => [.a2 r] | .running => [.h r] | .p1 => [.p1 r]
    | .w1 => [.w1 (.resp r)] | .wr => [.wr (.resp r)] | .w2 _ => [.w2 (.resp r)] | .p2 => [.p2 r]
    | _ => []

def miscToks (s : St) : List PTok :=
  (if s.disp = .d1 then [.d1] else []) ++ s.cancels.map .k1 ++
  List.replicate s.closeCl1 .cl1 ++ List.replicate s.closeWt (.wt false) ++ List.replicate s.waitWt (.wt true)

/-- Every parked goroutine of the model, in generation order. -/
def parkedToks (s : St) : List PTok :=
  readerToks s ++ callToks s ++ unotifToks s ++ cnotifToks s ++ reqToks s ++ miscToks s

def errTok : Err → RTok
  | .clientClosing | .serverClosing => .closed
  | .read => .read | .broken => .broken | .rejected => .rejected | .ctx => .ctx | .marshal => .marshal

def resTok : Res → RTok
  | .resp p => .ok p
  | .err e => errTok e

def nresTok : Option Err → RTok
  | none => .okPlain
  | some e => errTok e

def finToks (s : St) : List FTok :=
  ((s.calls.zipIdx 1).filterMap fun (c, n) =>
    match c.pc, c.result with
    | .fin, some r => some (.call n (resTok r))
    | _, _ => none) ++
  -- the detached cancel notifications' results are discarded by `call()` and not observable
  ((s.unotifs.zipIdx 0).filterMap fun (nf, k) =>
    match nf.pc with | .fin r => some (.unotif k (nresTok r)) | _ => none)

def causeTok : Cause → XCause
  | .read => .read | .write => .write | _ => .other

def cancelledToks (s : St) : List (Nat × XCause) :=
  (s.metas.zipIdx 0).filterMap fun (q, r) =>
    match q.seen, q.cancelled with
    | true, some c => some (r, causeTok c)
    | _, _ => none

/-- The model's observation as typed data (as text: `observe`, Render.lean). -/
def obsOf (s : St) : Obs :=
  { closing := s.closing, reading := s.reading, readErr := s.readErr, writeErr := s.writeErr,
    closerUsed := s.closerUsed, done := s.done,
    oc := sortNat s.outCalls, on := s.outNotifs, inc := s.incoming, by_ := sortNat (s.byID.map (·.1)),
    q := s.queue, hr := s.handlerRunning, tc := s.transportCloses, od := s.onDone,
    parked := sortPTok (parkedToks s), x := cancelledToks s, fins := sortFTok (finToks s),
    closeFin := s.closeFin, waitFin := s.waitFin.length }

/-- Every process has reached its terminal pc and the connection is done (what the model answers
to the harness's end-of-case record). -/
def allFinished (s : St) : Bool :=
  s.done && !s.panicked && (parkedToks s).isEmpty &&
  s.calls.all (fun c => c.pc == .fin) &&
  s.unotifs.all (fun n => match n.pc with | .fin _ => true | _ => false) &&
  s.cnotifs.all (fun p => match p.pc with | .fin _ => true | _ => false) &&
  s.closeCl1 == 0 && s.closeWaiting == 0 && s.closeWt == 0 && s.waitWaiting == 0 && s.waitWt == 0

/-! ## typed events -/

/-- What the monitors read off a label. -/
inductive Ev where
  | ecall
  | ecallbad                            -- a user starts a call whose params cannot be encoded
  | ectx (n : Nat)
  | readResp (id payload : Nat)
  | readCall (id : Nat)
  | readNotif
  | readCancel (id : Nat)         -- a notifications/cancelled naming request `id` was read off the wire
  | rx
  | wret (r : Option Nat) (o : WOut)   -- a transport Write returned; `some r`: it carried the response of request r
  | a1 (r : Nat) | a2 (r : Nat) | p1 (r : Nat) | p2 (r : Nat)
  | w1 (r : Nat)                        -- write gate of the response of request r
  | hasync (r : Nat)
  | k1 (id : Nat)
  | other
deriving DecidableEq, Repr, Inhabited

def Who.resp? : Who → Option Nat
  | .resp r => some r
  | _ => none

def evOf : Label → Ev
  | .ecall => .ecall
  | .ecallbad => .ecallbad
  | .ectx n => .ectx n
  | .read (.resp id p) => .readResp id p
  | .read (.call id) => .readCall id
  | .read .notif => .readNotif
  | .read (.cancel id) => .readCancel id
  | .rx => .rx
  | .wret w o => .wret w.resp? o
  | .a1 r => .a1 r | .a2 r => .a2 r | .p1 r => .p1 r | .p2 r => .p2 r
  | .w1 (.resp r) => .w1 r
  | .hasync r => .hasync r
  | .k1 id => .k1 id
  | _ => .other

/-- Rename the subject of a label (the harness names a detached cancel notification by its call,
`x<n>`; the model by creation index). -/
def Label.relabel (f : Who → Who) : Label → Label
  | .n1 w => .n1 (f w) | .n2 w => .n2 (f w) | .w1 w => .w1 (f w) | .w2 w => .w2 (f w)
  | .wret w o => .wret (f w) o
  | l => l

/-- The model's index of the detached cancel notification of call `n`. -/
def fixCnotif (s : St) : Who → Who
  | .cnotif n => .cnotif ((s.cnotifs.findIdx? (fun nf => nf.cancelFor == some n)).getD s.cnotifs.length)
  | w => w

/-! ## monitor state -/

structure MReq where
  id : Option Nat := none       -- wire id (calls)
  isCancel : Bool := false
  isNotif : Bool := true
  a2AfterShutdown : Bool := false
  started : Bool := false
  asyncd : Bool := false
  p2done : Bool := false
  p1count : Nat := 0
  okWrites : Nat := 0
  w1count : Nat := 0
  peerCancelled : Bool := false  -- a K1 for its id ran while it was indexed
  dup : Bool := false            -- arrived while its id was indexed (as observed at its A1)
deriving Inhabited, Repr, DecidableEq

structure Mon where
  prev : Obs := {}
  sent : List (Nat × Nat) := []      -- (call id, payload) of responses fed to the reader
  reqs : List MReq := []
  brokenSeen : Bool := false         -- some transport Write really failed
  rxSeen : Bool := false
  idx : List (Nat × Nat) := []       -- monitor's view of the id index: wire id ↦ request, from A1/P1 labels
  startedLate : List Nat := []       -- calls started when the connection was already done
  ctxd : List Nat := []              -- calls whose context the harness cancelled
  cancelAsked : List Nat := []       -- ids named by notifications/cancelled read off the wire, not yet used by a Cancel (multiset)
  unasked : List Nat := []           -- ids Cancel was invoked for although no unconsumed cancellation named them
  badCalls : List Nat := []          -- calls started with params that cannot be encoded (`ecallbad`)
  ncalls : Nat := 0
deriving Inhabited, Repr

def modR (m : Mon) (r : Nat) (f : MReq → MReq) : Mon := { m with reqs := m.reqs.modify r f }

/-- The violated clause, as data. `Clause.text` (Driver.lean) prints it. -/
inductive Clause where
  | c01Twice (n : Nat) (r r' : RTok)
  | c01Lost (n : Nat)
  | c01Foreign (n payload : Nat)
  | c01Unparsable (n : Nat) (r : RTok)
  | c01Panic (n : Nat)
  | c01Blocked (n : Nat)
  | c01Late (n : Nat) (r : RTok)
  | c01RegAfterRx (oc : List Nat)
  | c01StillRegistered (n : Nat)
  | c01MarshalForeign (n : Nat)
  | c02Twice (r : Nat)
  | c02NotifAnswered (r : Nat)
  | c03BeforeSync (j i : Nat)
  | c03LaterFirst (i j : Nat)
  | c04ReadCause (r : Nat)
  | c05WriteCause (r : Nat)
  | c04Unrelated (r : Nat)
  | c04NotCancelled (id r : Nat)
  | c04CtxStuck (n : Nat)
  | c04CancelUnasked (id : Nat)
  | c05TcTwice | c05OdTwice | c05ClosedBusy | c05DoneBusy
  | c05ClosedRunning (r : Nat)     -- transport closed while the handler of r was still running
  | c05DoneRunning (r : Nat)       -- connection done (Close/Wait return) while the handler of r was still running
  | c05LateDispatch (r : Nat)
  | c05Stuck (impl : String)
  | c02Dropped (r : Nat)
  | c02NoAttempt (r : Nat)
deriving DecidableEq, Repr, Inhabited

/-! ## bookkeeping from the label (ground truth) -/

/-- Update the monitor's history with the event; `p` is the previous observation. -/
def Mon.book (m : Mon) (p : Obs) : Ev → Mon
  | .ecall =>
    { m with ncalls := m.ncalls + 1,
             startedLate := if p.done then m.startedLate ++ [m.ncalls + 1] else m.startedLate }
  | .ecallbad => { m with ncalls := m.ncalls + 1, badCalls := m.badCalls ++ [m.ncalls + 1] }
  | .ectx n => { m with ctxd := n :: m.ctxd }
  | .readResp id pl => { m with sent := m.sent ++ [(id, pl)] }
  | .readCall id => { m with reqs := m.reqs ++ [{ id := some id, isNotif := false }] }
  | .readNotif => { m with reqs := m.reqs ++ [{}] }
  | .readCancel _ => { m with reqs := m.reqs ++ [{ isCancel := true }] }
  | .rx => { m with rxSeen := true }
  | .wret w out =>
    let m := if out = .broken then { m with brokenSeen := true } else m
    match w with
    | some r => if out = .ok then modR m r fun q => { q with okWrites := q.okWrites + 1 } else m
    | none => m
  | .a1 r =>
    match m.reqs[r]? with
    | some q =>
      match q.id with
      | some id =>
        if (m.idx.lookup id).isSome then modR m r fun q => { q with dup := true }
        else { m with idx := m.idx ++ [(id, r)] }
      | none => m
    | none => m
  | .a2 r => if p.shuttingDown then modR m r fun q => { q with a2AfterShutdown := true } else m
  | .p1 r =>
    let m := modR m r fun q => { q with p1count := q.p1count + 1 }
    { m with idx := m.idx.filter fun e => e.2 ≠ r }
  | .p2 r => modR m r fun q => { q with p2done := true }
  | .w1 r => modR m r fun q => { q with w1count := q.w1count + 1 }
  | .hasync r => modR m r fun q => { q with asyncd := true }
  | .k1 id =>
    match m.idx.lookup id with
    | some r => modR m r fun q => { q with peerCancelled := true }
    | none => m
  | .other => m

/-- Bookkeeping of cancellations; the ground truth is the WIRE: an id is asked for by every
`read cancel <id>` label, and each `K1 <id>` (Connection.Cancel(id) running) consumes one such
request.  A K1 whose id nobody asked for is remembered in `unasked`.  Touches only the fields
`cancelAsked` and `unasked`. -/
def Mon.bookCancel (m : Mon) : Ev → Mon
  | .readCancel id => { m with cancelAsked := m.cancelAsked ++ [id] }
  | .k1 id =>
    if m.cancelAsked.contains id then { m with cancelAsked := m.cancelAsked.erase id }
    else { m with unasked := m.unasked ++ [id] }
  | _ => m

/-- Handlers seen parked in `H` are marked as started. -/
def Mon.mark (m : Mon) (o : Obs) : Mon :=
  { m with reqs := (m.reqs.zipIdx 0).map fun (q, r) => if o.parked.contains (.h r) then { q with started := true } else q }

/-! ## the checks: C01–C05 as predicates on what the IMPLEMENTATION did

`p` = previous observation, `o` = observation after the label, `m` = history after `book`. -/

/-- C01: a finished result is final. -/
def chkFinal (p o : Obs) : Option Clause :=
  p.fins.findSome? fun
    | .call n r =>
      match finCall o.fins n with
      | some r' => if r' = r then none else some (.c01Twice n r r')
      | none => some (.c01Lost n)
    | _ => none

/-- C01: a response payload is one the peer sent for this id. -/
def chkOwn (m : Mon) (o : Obs) : Option Clause :=
  o.fins.findSome? fun
    | .call n (.ok pl) => if m.sent.contains (n, pl) then none else some (.c01Foreign n pl)
    | .call n (.bad s) => some (.c01Unparsable n (.bad s))
    | .call n .okPlain => some (.c01Unparsable n .okPlain)
    | _ => none

/-- C01: no caller panicked (`retire` twice). -/
def chkPanic (o : Obs) : Option Clause :=
  o.fins.findSome? fun
    | .call n .panic => some (.c01Panic n)
    | _ => none

/-- C01: after termination nobody is blocked in Await. -/
def chkBlocked (m : Mon) (o : Obs) : Option Clause :=
  if o.done then
    (List.range m.ncalls).findSome? fun k =>
      if (finCall o.fins (k + 1)).isNone && !o.callParked (k + 1) then some (.c01Blocked (k + 1)) else none
  else none

/-- C01: a call started after termination fails with the closed-connection error (or with its own
context's error if the harness cancelled its context). -/
def chkLate (m : Mon) (o : Obs) : Option Clause :=
  m.startedLate.findSome? fun n =>
    match finCall o.fins n with
    | some r => if r = .closed || (r = .ctx && m.ctxd.contains n) then none else some (.c01Late n r)
    | none => none

/-- C01: once the reader has failed (its exit section RX ran) no outgoing call may be registered:
nothing can complete it any more (a call started after the connection broke must fail at once). -/
def chkRegAfterRx (m : Mon) (o : Obs) : Option Clause :=
  if m.rxSeen && !o.oc.isEmpty then some (.c01RegAfterRx o.oc) else none

/-- C01: a call that has returned to its caller is no longer registered (else a later EOF/Close
completes it a second time). -/
def chkStillRegistered (o : Obs) : Option Clause :=
  o.fins.findSome? fun
    | .call n _ => if o.oc.contains n then some (.c01StillRegistered n) else none
    | _ => none

/-- C01: the marshalling error is the result only of calls whose parameters cannot be encoded. -/
def chkMarshal (m : Mon) (o : Obs) : Option Clause :=
  o.fins.findSome? fun
    | .call n .marshal => if m.badCalls.contains n then none else some (.c01MarshalForeign n)
    | _ => none

/-- C02: never two responses for one request, never a response for a notification. -/
def chkAnswer (m : Mon) : Option Clause :=
  (m.reqs.zipIdx 0).findSome? fun (q, r) =>
    if q.okWrites > 1 || q.p1count > 1 then some (.c02Twice r)
    else if (q.isNotif || q.isCancel) && q.w1count > 0 then some (.c02NotifAnswered r)
    else none

/-- C03: dispatch order. -/
def chkOrder (m : Mon) (p o : Obs) : Option Clause :=
  o.parked.findSome? fun
    | .h j =>
      if p.parked.contains (.h j) then none else
      match m.reqs[j]? with
      | some qj =>
        if qj.started then none else
        (m.reqs.zipIdx 0).findSome? fun (qi, i) =>
          if i < j && qi.started && !qi.asyncd && !qi.p2done then some (.c03BeforeSync j i)
          else if i > j && qi.started then some (.c03LaterFirst i j)
          else none
      | none => none
    | _ => none

/-- C04 (and C05 for the write cause): a handler context is cancelled only for a reason. -/
def chkCancelX (m : Mon) (p o : Obs) : Option Clause :=
  o.x.findSome? fun e =>
    if p.x.contains e then none else
    match m.reqs[e.1]? with
    | some q =>
      match e.2 with
      | .read => if m.rxSeen then none else some (.c04ReadCause e.1)
      | .write => if m.brokenSeen then none else some (.c05WriteCause e.1)
      | .other =>
        if q.peerCancelled || o.parked.contains (.p2 e.1) || q.p2done then none else some (.c04Unrelated e.1)
    | none => none

/-- C04: `Connection.Cancel` is invoked only for an id that a received notifications/cancelled named
(once per notification). -/
def chkCancelAsked (m : Mon) : Option Clause :=
  match m.unasked with
  | id :: _ => some (.c04CancelUnasked id)
  | [] => none

/-- C04: what a `Cancel(id)` / a cancelled caller context must achieve in this very step. -/
def chkEv (m : Mon) (p o : Obs) : Ev → Option Clause
  | .k1 id =>
    (m.reqs.zipIdx 0).findSome? fun (q, r) =>
      -- the request indexed under this id when K1 ran must now be cancelled (if its ctx is observable)
      if q.peerCancelled && q.id == some id && !q.p2done && (p.x ++ o.x).all (fun e => e.1 != r)
         && (p.parked.contains (.h r) || p.parked.contains (.a2 r) || p.q.contains r)
      then some (.c04NotCancelled id r) else none
  | .ectx n =>
    -- a caller that was blocked in Await must be on its way out without any help from the peer
    -- (a caller parked at a yield site or inside the transport Write is not blocked on the peer)
    if p.callParked n then none
    else if o.parked.contains (.r n) || (finCall o.fins n).isSome then none
    else some (.c04CtxStuck n)
  | _ => none

/-- C05 (`chkTc`, `chkOd`, `chkClosedIdle`, `chkDoneIdle`): transport closed once and only when idle; done only when idle; onDone once. -/
def chkTc (o : Obs) : Option Clause := if o.tc > 1 then some .c05TcTwice else none
def chkOd (o : Obs) : Option Clause := if o.od > 1 then some .c05OdTwice else none
def chkClosedIdle (p o : Obs) : Option Clause :=
  if o.tc == 1 && p.tc == 0 && !o.idle then some .c05ClosedBusy else none
def chkDoneIdle (o : Obs) : Option Clause := if o.done && !o.idle then some .c05DoneBusy else none

/-- The first request whose handler is running (parked in the scripted Handler) in `o`. -/
def Obs.runningHandler (o : Obs) : Option Nat :=
  o.parked.findSome? fun
    | .h r => some r
    | _ => none

/-- C05: "lets handlers that are already running run to completion, and closes the transport only
after they have returned" — judged on what the harness SEES (a handler goroutine parked inside the
scripted Handler), not on the connection's own `incoming` counter (which `chkClosedIdle` /
`chkDoneIdle` read: an implementation that under-counts looks idle to them). -/
def chkClosedRunning (p o : Obs) : Option Clause :=
  if o.tc == 1 && p.tc == 0 then o.runningHandler.map .c05ClosedRunning else none
def chkDoneRunning (o : Obs) : Option Clause :=
  if o.done then o.runningHandler.map .c05DoneRunning else none

/-- C05: nothing is dispatched that arrived after shutdown began. -/
def chkLateDispatch (m : Mon) (o : Obs) : Option Clause :=
  (m.reqs.zipIdx 0).findSome? fun (q, r) =>
    if q.a2AfterShutdown && o.parked.contains (.h r) then some (.c05LateDispatch r) else none

/-- All checks, first violated clause. -/
def chkAll (m : Mon) (p o : Obs) (e : Ev) : Option Clause :=
  chkFinal p o <|> chkOwn m o <|> chkPanic o <|> chkBlocked m o <|> chkLate m o <|> chkRegAfterRx m o
  <|> chkStillRegistered o <|> chkMarshal m o
  <|> chkAnswer m
  <|> chkOrder m p o
  <|> chkCancelAsked m <|> chkCancelX m p o <|> chkEv m p o e
  <|> chkTc o <|> chkOd o <|> chkClosedIdle p o <|> chkDoneIdle o <|> chkLateDispatch m o
  <|> chkClosedRunning p o <|> chkDoneRunning o

/-- Update the monitor with the event and the implementation's observation after it; return the
first violated clause. -/
def monStepE (m : Mon) (e : Ev) (o : Obs) : Mon × Option Clause :=
  let p := m.prev
  let m := (m.bookCancel e).book p e
  ({ m.mark o with prev := o }, chkAll m p o e)

def monStepT (m : Mon) (l : Label) (o : Obs) : Mon × Option Clause := monStepE m (evOf l) o

/-- End of a case: everything must have terminated (C01: no caller blocked after termination; C05:
Close and Wait return, nothing left parked); every accepted call got a response attempt (C02).
`stuck` = the harness's end-of-case report when it is not `clean`. -/
def monEndT (m : Mon) (stuck : Option String) : Option Clause :=
  match stuck with
  | some impl => some (.c05Stuck impl)
  | none =>
    (m.reqs.zipIdx 0).findSome? fun (q, r) =>
      if !q.isNotif && !q.isCancel && q.w1count == 0 then
        if q.dup then some (.c02Dropped r) else some (.c02NoAttempt r)
      else none

/-! ## traces -/

/-- The model's observation trace of a run: the observation after each label, as the driver
computes it (stops at the first label that is not enabled). -/
def traceFrom (s : St) : List Label → List (Label × Obs)
  | [] => []
  | l :: ls =>
    match step s l with
    | none => []
    | some s' => (l, obsOf s') :: traceFrom s' ls

def traceOf (ls : List Label) : List (Label × Obs) := traceFrom {} ls

/-- Run the step monitor over a trace; the first violated clause, if any. -/
def runMonFrom (m : Mon) : List (Label × Obs) → Option Clause
  | [] => none
  | (l, o) :: t =>
    match monStepT m l o with
    | (m', none) => runMonFrom m' t
    | (_, some c) => some c

def runMon (tr : List (Label × Obs)) : Option Clause := runMonFrom {} tr

/-- The monitor state after a trace (violations ignored). -/
def monAfter (m : Mon) : List (Label × Obs) → Mon
  | [] => m
  | (l, o) :: t => monAfter (monStepT m l o).1 t

end Conn
