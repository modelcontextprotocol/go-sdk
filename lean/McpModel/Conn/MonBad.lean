import McpModel.Conn.MonCallsStep
/-!
The marshalling error is the result of exactly the calls started with `ecallbad`: in the model a call
record can carry `.err .marshal` (as outcome, or as the error it is about to retire with) only if it
was created by `ecallbad`.  Part `MonBad` of `MonRel`.
-/
namespace Conn

theorem marsh_retireCall {c : Call} {r : Res} (h : Marsh (retireCall c r).1) : Marsh c ∨ r = .err .marshal := by
  unfold retireCall at h
  cases hr : c.ready with
  | some x => simp [hr] at h; exact Or.inl h
  | none =>
    simp only [hr] at h
    rcases h with h | h | h
    · right; simpa using h
    · exact Or.inl (Or.inr (Or.inl h))
    · exact Or.inl (Or.inr (Or.inr h))

theorem marsh_settleCall {c : Call} (h : Marsh (settleCall c)) : Marsh c := by
  have w := Woke.of_settleCall c
  generalize settleCall c = c' at w h
  cases w with
  | stay => exact h
  | fin | rc => rcases h with h | h | h <;> first | exact .inl h | cases h

/-- No move of a call row brings the marshalling error into a record: the outcomes written are a response, the
reader's error, the refusal or the error the record was parked with (`r e`, `w2 e`). -/
theorem marsh_row {ok ina : Prop} {sd reg : Bool} {log' : List (Nat × Nat)} {l : Label} {n : Nat} {c c' : Call}
    (r : CRow ok sd reg ina log' n c l c') (hm : Marsh c') : Marsh c := by
  -- a record retired or not, then given a program counter that carries no error
  have retire {e : Err} {c'' : Call} (he : e = .marshal → Marsh c) (hm : Marsh c'')
      (hr : c''.ready = (if reg then (retireCall c (.err e)).1 else c).ready) (h1 : ∀ x, c''.pc ≠ .r x) (h2 : ∀ x, c''.pc ≠ .w2 x) :
      Marsh c := by
    rcases hm with hm | hm | hm
    · have : Marsh (if reg then (retireCall c (.err e)).1 else c) := .inl (hr ▸ hm)
      split at this
      · rcases marsh_retireCall this with h | h
        · exact h
        · exact he (by simpa using h)
      · exact this
    · exact absurd hm (h1 _)
    · exact absurd hm (h2 _)
  cases r with
  | same => exact hm
  | ectx => exact hm
  | rresp | rx => exact (marsh_retireCall hm).resolve_right nofun
  | c1 | w1 | w1Shut | wretOk | wretBroken | wretBrokenCtx | wretRejected | wretCtx =>
    rcases hm with hm | hm | hm <;> first | exact .inl hm | cases hm
  | c1Refused hpc =>
    rcases marsh_retireCall hm with h | h
    · rcases h with h | h | h <;> first | exact .inl h | cases h
    · cases h
  | w2 hpc => rcases hm with hm | hm | hm <;> first | exact .inl hm | (cases hm; exact .inr (.inr hpc)) | cases hm
  | retire hpc => exact retire (fun h => .inr (.inl (h ▸ hpc))) hm rfl (by simp) (by simp)
  | retireRc => exact retire (e := .ctx) nofun hm rfl (by simp) (by simp)

theorem monbad_step {m : Mon} {s s' : St} {l : Label} {p : Obs} (B : MonBad m s) (mc : MonCalls m s)
    (h : step s l = some s') : MonBad (m.book p (evOf l)) s' := by
  refine ⟨fun n c' hc' hm => ?_⟩
  rcases CRow.back h hc' with ⟨_, c, c0, _, hc, rfl, r⟩ | ⟨rfl, ⟨_, rfl⟩ | ⟨rfl, _⟩⟩
  · exact (book_badCalls _ _ _ n).mpr (Or.inl (B.bad n c hc (marsh_row r (marsh_settleCall hm))))
  · simp [Marsh] at hm
  · exact (book_badCalls _ _ _ _).mpr (Or.inr ⟨rfl, by rw [mc.ncalls]⟩)

theorem monbad_mark {m : Mon} {s : St} (B : MonBad m s) (o : Obs) : MonBad { m.mark o with prev := o } s := ⟨B.bad⟩

end Conn
