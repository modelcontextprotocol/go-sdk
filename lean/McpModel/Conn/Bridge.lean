import McpModel.Conn.BridgeStep
import McpModel.Conn.Terminate
import McpModel.Conn.Render
/-!
# The bridge between the monitors of C01–C05 and the model (E1)

`monitor_accepts_model`: the step monitors (`monStepT`, evaluated by the driver on the
IMPLEMENTATION's observations) raise no alarm on any behaviour the model allows — for ALL label
lists.  `monEnd_accepts_quiescent`: neither does the end-of-case monitor, for every drained
connection, except for the known finding F3 — and the model itself answers `clean` there (`drained_allFinished`).  The
invariant is `MonRel` (MonRelDefs.lean).

Together with the driver's comparison of the implementation's observation text with the model's
(`A` = equal) and the run-time self-check `parseObs (observe s) = some (obsOf s)`, this says: on a
record the driver answers `A`, the monitor ran on exactly `obsOf s` and cannot have fired; a `V`
therefore always comes with a `D` (the implementation left the model) — the monitor then turns the
broken tie into the violated clause of the property (clause soundness: `Sound.lean`).  The driver steps the model
with `l.relabel (fixCnotif s)` and the monitor with the harness's `l`: the same event (`evOf_relabel_fixCnotif`).
-/
namespace Conn

theorem notifToks_fin {w : Who} {nf : Notif} (h : ∃ r, nf.pc = .fin r) : notifToks w nf = [] := by
  obtain ⟨r, hr⟩ := h
  simp [notifToks, hr]

theorem drained_parked {s : St} (i : Inv4 s) (d : Drained s) (hd : s.done = true) : parkedToks s = [] := by
  obtain ⟨hreader, hdisp, hcan, hcl1, _, hcwt, _, hwwt⟩ := drained_misc i d hd
  have h1 : readerToks s = [] := by simp [readerToks, hreader]
  have h2 : callToks s = [] := by
    rw [List.eq_nil_iff_forall_not_mem]
    intro t ht
    obtain ⟨n, c, hc, hh⟩ := (mem_callToks s t).mp ht
    rw [drained_call_fin i d hd hc] at hh
    cases hh
  have h3 : unotifToks s = [] := by
    rw [List.eq_nil_iff_forall_not_mem]
    intro t ht
    simp only [unotifToks, List.mem_flatMap] at ht
    obtain ⟨⟨nf, k⟩, hm, ht⟩ := ht
    have hk : s.unotifs[k]? = some nf := by
      have := List.mem_zipIdx_iff_getElem?.mp hm
      simpa using this
    rw [notifToks_fin (drained_notif_fin d (w := .unotif k) (by simpa [getNotif] using hk))] at ht
    cases ht
  have h4 : cnotifToks s = [] := by
    rw [List.eq_nil_iff_forall_not_mem]
    intro t ht
    simp only [cnotifToks, List.mem_flatMap] at ht
    obtain ⟨nf, hm, ht⟩ := ht
    obtain ⟨k, hk⟩ := List.mem_iff_getElem?.mp hm
    rw [notifToks_fin (drained_notif_fin d (w := .cnotif k) (by simpa [getNotif] using hk))] at ht
    cases ht
  have h5 : reqToks s = [] := by
    rw [List.eq_nil_iff_forall_not_mem]
    intro t ht
    obtain ⟨r, k, hk, hh⟩ := (mem_reqToks s t).mp ht
    rw [drained_core_fin i d hk] at hh
    cases hh
  have h6 : miscToks s = [] := by simp [miscToks, hdisp, hcan, hcl1, hcwt, hwwt]
  simp [parkedToks, h1, h2, h3, h4, h5, h6]

theorem drained_allFinished {s : St} (i : Inv4 s) (d : Drained s) : allFinished s = true := by
  have hd := drained_done i d
  obtain ⟨_, _, _, hcl1, hcw, hcwt, hww, hwwt⟩ := drained_misc i d hd
  have hcalls : s.calls.all (fun c => c.pc == .fin) = true := by
    rw [List.all_eq_true]
    intro c hc
    obtain ⟨k, hk⟩ := List.mem_iff_getElem?.mp hc
    have : getCall s (k + 1) = some c := by simp [getCall_eq, hk]
    simp [drained_call_fin i d hd this]
  have hun : ∀ nf ∈ s.unotifs, ∃ r, nf.pc = .fin r := by
    intro nf hm
    obtain ⟨k, hk⟩ := List.mem_iff_getElem?.mp hm
    exact drained_notif_fin d (w := .unotif k) (nf := nf) (by simpa [getNotif] using hk)
  have hcn : ∀ nf ∈ s.cnotifs, ∃ r, nf.pc = .fin r := by
    intro nf hm
    obtain ⟨k, hk⟩ := List.mem_iff_getElem?.mp hm
    exact drained_notif_fin d (w := .cnotif k) (nf := nf) (by simpa [getNotif] using hk)
  unfold allFinished
  simp only [hd, inv4_not_panicked i, drained_parked i d hd, hcalls, hcl1, hcw, hcwt, hww, hwwt, Bool.and_eq_true,
    List.all_eq_true]
  simp only [Bool.not_false, List.isEmpty_nil, beq_self_eq_true, and_true, true_and]
  exact ⟨fun nf hm => by obtain ⟨r, hr⟩ := hun nf hm; simp [hr], fun nf hm => by obtain ⟨r, hr⟩ := hcn nf hm; simp [hr]⟩

theorem monEnd_of_finished {m : Mon} {s : St} (mr : MonReqs m s) (i : Inv4 s)
    (hall : ∀ (r : Nat) (k : ReqCore), s.cores[r]? = some k → k.pc = .fin) :
    ∀ c, monEndT m none = some c →
      ∃ r q, c = .c02Dropped r ∧ m.reqs[r]? = some q ∧ q.dup = true ∧ q.isNotif = false := by
  intro c hc
  obtain ⟨q, r, hq, hn, _, hw, ⟨hdup, rfl⟩ | ⟨hdup, rfl⟩⟩ := monEndT_fires hc
  · exact ⟨r, q, rfl, hq, hdup, hn⟩
  · -- not marked `dup`: still a call, and a finished call has had its write attempt
    exfalso
    obtain ⟨k, mt, hk, hmt, R⟩ := req_lookup mr i hq
    have hcall : k.isCall = true := by rw [R.kind, hn, hdup]; rfl
    have := (i.inv.reqs.ok r k hk).post.2.2 hcall (Or.inr (hall r k hk))
    rw [← R.w1] at this
    omega

/-- No reachable state has panicked, so `observe` never prints `panic`. -/
theorem observe_reachable (ls : List Label) (s : St) (h : run {} ls = some s) : observe s = render (obsOf s) :=
  observe_eq_render s (inv4_not_panicked (inv4_run ls inv4_init h))

/-- The monitors read the same event off the label the harness printed and off the label the model
is stepped with (they differ only in how a detached cancel notification is named). -/
theorem evOf_relabel_fixCnotif (s : St) (l : Label) : evOf (l.relabel (fixCnotif s)) = evOf l := by
  have hw : ∀ w : Who, (fixCnotif s w).resp? = w.resp? := by intro w; cases w <;> rfl
  cases l with
  | wret w o => simp [Label.relabel, evOf, hw]
  | w1 w => cases w <;> rfl
  | _ => rfl

theorem monStepT_relabel_fixCnotif (m : Mon) (s : St) (l : Label) (o : Obs) :
    monStepT m (l.relabel (fixCnotif s)) o = monStepT m l o := by
  simp [monStepT, evOf_relabel_fixCnotif]

theorem monRel_run (ls : List Label) (s : St) (h : run {} ls = some s) :
    MonRel (monAfter {} (traceOf ls)) s :=
  (monrel_traceFrom ls {} {} monRel_init inv4_init).2 s h

/-- **No false alarm (every prefix).** No clause fires on the observation trace of the model, for
ALL label lists (the trace stops at the first label the model does not allow). -/
theorem monitor_accepts_model_trace (ls : List Label) : runMon (traceOf ls) = none :=
  (monrel_traceFrom ls {} {} monRel_init inv4_init).1

/-- `monitor_accepts_model_trace`, stated for the label lists the model allows. -/
theorem monitor_accepts_model (ls : List Label) (s : St) (_h : run {} ls = some s) :
    runMon (traceOf ls) = none :=
  monitor_accepts_model_trace ls

/-- Non-vacuity: the trace of an allowed label list has one observation per label. -/
theorem traceOf_length (ls : List Label) (s : St) (h : run {} ls = some s) : (traceOf ls).length = ls.length := by
  have key : ∀ (ls : List Label) (s0 s : St), run s0 ls = some s → (traceFrom s0 ls).length = ls.length := by
    intro ls
    induction ls with
    | nil => intro s0 s _; rfl
    | cons l ls ih =>
      intro s0 s h
      simp only [run] at h
      cases hs : step s0 l with
      | none => simp [hs] at h
      | some s1 =>
        simp only [hs] at h
        simp [traceFrom, hs, ih s1 s h]
  exact key ls {} s h

/-- At the end of a case — Close was called (or the reader / the writer
failed), every handler returned, every transport Write returned, the reader was given EOF, no caller
waits for the peer with a live context, and no critical section is left to run (`Drained`) — the
model's answer to the end-of-case record is `clean` (`allFinished`), and the end-of-case monitor,
given that the implementation also reports `clean`, raises nothing except the clause of the known
finding F3: a call whose id was already in flight when it arrived (the monitor saw `dup` at its A1)
is dropped without a response. -/
theorem monEnd_accepts_quiescent (ls : List Label) (s : St) (h : run {} ls = some s) (d : Drained s) :
    allFinished s = true ∧
    ∀ c, monEndT (monAfter {} (traceOf ls)) none = some c →
      ∃ r q, c = .c02Dropped r ∧ (monAfter {} (traceOf ls)).reqs[r]? = some q ∧ q.dup = true ∧ q.isNotif = false := by
  have i := inv4_run ls inv4_init h
  have R := monRel_run ls s h
  have hd := drained_done i d
  exact ⟨drained_allFinished i d, monEnd_of_finished R.reqs i (fun r k hk => drained_core_fin i d hk)⟩

/-- … and nothing at all when no incoming call reused an id that was still in flight (in the model:
every request that carries an id is still a call). -/
theorem monEnd_accepts_quiescent_no_dup (ls : List Label) (s : St) (h : run {} ls = some s) (d : Drained s)
    (hnd : ∀ (r : Nat) (k : ReqCore), s.cores[r]? = some k → k.id.isSome = true → k.isCall = true) :
    monEndT (monAfter {} (traceOf ls)) none = none := by
  have i := inv4_run ls inv4_init h
  have R := monRel_run ls s h
  cases hc : monEndT (monAfter {} (traceOf ls)) none with
  | none => rfl
  | some c =>
    exfalso
    obtain ⟨r, q, _, hq, hdup, hnot⟩ := (monEnd_accepts_quiescent ls s h d).2 c hc
    obtain ⟨k, mt, hk, _, Rq⟩ := req_lookup R.reqs i hq
    have hidk := Rq.idk
    have hkind := Rq.kind
    rw [hdup] at hkind
    have hcall : k.isCall = false := by simpa using hkind
    -- a request marked `dup` carries an id
    have hid : k.id.isSome = true := by
      rw [← Rq.id]
      have := Rq.idk
      rw [hnot] at this
      cases hq' : q.id.isSome <;> simp [hq'] at this ⊢
    rw [hnd r k hk hid] at hcall
    cases hcall

/-! ## Two stricter clauses that raise false alarms

`chkEctxOld` (C04) and `chkLateOld` (C01) are stricter than the monitor's `chkEv` / `chkLate` (Monitor.lean) on schedules the
harness does not generate (it cancels a caller's context only while the call is inside the transport Write or blocked in
Await): each fires on a behaviour the model allows.  A witness for each; the monitor's own clauses accept both. -/

/-- A stricter C04 clause: only a caller inside the transport Write is exempt. -/
def chkEctxOld (p o : Obs) (n : Nat) : Option Clause :=
  if p.parked.contains (.wr (.call n)) then none
  else if o.parked.contains (.r n) || (finCall o.fins n).isSome then none
  else some (.c04CtxStuck n)

/-- Witness `ecall; ectx c1`: the caller is still parked before its registration point C1 — it is
not blocked on anybody — yet the stricter clause reports "cancelling the context did not make the call
return".  `chkEv` exempts a caller parked at ANY yield site (or inside the Write); a caller that
was blocked in Await must still be parked before its Retire, or finished, in the very next observation. -/
theorem old_ctx_clause_false_alarm :
    ∃ s s', run {} [.ecall] = some s ∧ step s (.ectx 1) = some s' ∧
      chkEctxOld (obsOf s) (obsOf s') 1 = some (.c04CtxStuck 1) := by
  refine ⟨_, _, rfl, rfl, ?_⟩
  unfold chkEctxOld
  rw [if_neg, if_neg]
  · rw [Bool.or_eq_true, not_or, parked_contains_r, finCall_obsOf]
    refine ⟨?_, ?_⟩
    · rintro ⟨c, hc, hpc⟩
      have : c.pc = .c1 := by
        have h' : getCall _ 1 = some c := hc
        simp [getCall_eq, settle, settleCalls, settleCall, settleWaiters, settleDisp, modCall] at h'
        rw [← h']
      rcases hpc with h | ⟨e, h⟩ <;> simp [this] at h
    · decide
  · rw [parked_contains_wr_call]
    rintro ⟨c, hc, hpc⟩
    have h' : getCall _ 1 = some c := hc
    simp [getCall_eq, settle, settleCalls, settleCall, settleWaiters, settleDisp] at h'
    rw [← h'] at hpc
    simp at hpc

/-- A stricter C01 clause: a call started after termination must end with `closed`, whatever
happened to its context. -/
def chkLateOld (m : Mon) (o : Obs) : Option Clause :=
  m.startedLate.findSome? fun n =>
    match finCall o.fins n with
    | some r => if r = .closed then none else some (.c01Late n r)
    | none => none

theorem chkLateOld_fires (s : St) (m : Mon) (h : callFin s 1 = some .ctx) (hm : m.startedLate = [1]) :
    chkLateOld m (obsOf s) = some (.c01Late 1 .ctx) := by
  unfold chkLateOld
  rw [hm]
  simp [finCall_obsOf, h]

/-- The schedule: Close, EOF, reader exit (the connection is done); then a call is started, its
context is cancelled before it reaches C1, C1 refuses it, and the eager Retire returns `ctx.Err()`. -/
def lateWitness : List Label := [.start, .eclose, .cl1, .read .eof, .rx, .ecall, .ectx 1, .c1 1, .retire 1]

/-- Witness: on `lateWitness` the monitor has recorded call 1 as started after termination and the
model (like Go's `select` in `Await`, which may pick either ready branch) lets it return its
context's error; the stricter clause fires.  `chkLate` lets a late call whose context the harness cancelled
end with `ctx` as well as with `closed` (property text: "an error once the caller's context ends or
the connection … is closed"). -/
theorem old_late_clause_false_alarm :
    ∃ s, run {} lateWitness = some s ∧ (monAfter {} (traceOf lateWitness)).startedLate = [1] ∧
      chkLateOld (monAfter {} (traceOf lateWitness)) (obsOf s) = some (.c01Late 1 .ctx) :=
  ⟨_, rfl, rfl, chkLateOld_fires _ _ rfl rfl⟩

/-- … and the monitor accepts both witnesses (instances of `monitor_accepts_model`). -/
example : runMon (traceOf lateWitness) = none := monitor_accepts_model_trace _
example : runMon (traceOf [.ecall, .ectx 1]) = none := monitor_accepts_model_trace _

end Conn
