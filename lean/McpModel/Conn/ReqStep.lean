import McpModel.Conn.DispInv
/-! The incoming-request machinery as a machine of its own: the view `QV`, the moves `QStep` (`QStep.of_step0` reads the
rules of `Step0` for it), the kinds of moves `QShape`, and from them that every label preserves `RInv` and `DInv`. -/
namespace Conn

/-- What the reader, the dispatcher and the handler goroutines share.  `QV.req` and `QV.d` are the parts that `RInv` and
`DInv` read: `(qv s).req = reqView s`, `(qv s).d = dview s` by `rfl`. -/
structure QV where
  cores : List ReqCore
  metas : List ReqMeta
  incoming : Nat
  byID : List (Nat × Nat)
  panicIncoming : Bool
  reader : ReaderPc
  queue : List Nat
  disp : DispPc
  handlerRunning : Bool
  clock : Nat
  cancels : List Nat

def qv (s : St) : QV :=
  { cores := s.cores, metas := s.metas, incoming := s.incoming, byID := s.byID, panicIncoming := s.panicIncoming,
    reader := s.reader, queue := s.queue, disp := s.disp, handlerRunning := s.handlerRunning, clock := s.clock,
    cancels := s.cancels }

def QV.req (v : QV) : ReqView :=
  { cores := v.cores, incoming := v.incoming, byID := v.byID, panicIncoming := v.panicIncoming, reader := v.reader,
    queue := v.queue }

def QV.d (v : QV) : DView :=
  { cores := v.cores, ms := v.metas.map ReqMeta.mcore, disp := v.disp, handlerRunning := v.handlerRunning,
    queue := v.queue, clock := v.clock }

def QV.row (v : QV) (r : Nat) (g : ReqCore → ReqCore) (f : ReqMeta → ReqMeta) : QV :=
  { v with cores := v.cores.modify r g, metas := v.metas.modify r f }

theorem QV.row_row (v : QV) (r : Nat) (g1 g2 : ReqCore → ReqCore) (f1 f2 : ReqMeta → ReqMeta) :
    (v.row r g1 f1).row r g2 f2 = v.row r (fun k => g2 (g1 k)) (fun m => f2 (f1 m)) := by
  simp only [QV.row, List.modify_modify_eq]; rfl

theorem QV.row_congr {v : QV} {r : Nat} {k : ReqCore} {g g' : ReqCore → ReqCore} (f : ReqMeta → ReqMeta)
    (hk : v.cores[r]? = some k) (h : g k = g' k) : v.row r g f = v.row r g' f := by
  simp only [QV.row]; rw [modify_const _ _ k g hk, modify_const _ _ k g' hk, h]

theorem QV.row_req (v : QV) (r : Nat) (g : ReqCore → ReqCore) (f : ReqMeta → ReqMeta) : (v.row r g f).req = v.req.mod r g := rfl

theorem QV.row_d (v : QV) (r : Nat) (g : ReqCore → ReqCore) (f : ReqMeta → ReqMeta) (f' : MCore → MCore)
    (hf : ∀ m, (f m).mcore = f' m.mcore) :
    (v.row r g f).d = { v.d with cores := v.d.cores.modify r g, ms := v.d.ms.modify r f' } := by
  simp only [QV.row, QV.d, map_mcore_modify _ _ _ _ hf]

theorem QV.row_d_id (v : QV) (r : Nat) (g : ReqCore → ReqCore) (f : ReqMeta → ReqMeta) (hf : ∀ m, (f m).mcore = m.mcore) :
    (v.row r g f).d = { v.d with cores := v.d.cores.modify r g } := by
  simp only [QV.row, QV.d, map_mcore_modify_id _ _ _ hf]

theorem QV.row_id_req (v : QV) (r : Nat) (f : ReqMeta → ReqMeta) : (v.row r id f).req = v.req := by
  simp only [QV.row, QV.req, List.modify_id]

theorem QV.row_id_d (v : QV) (r : Nat) (f : ReqMeta → ReqMeta) (f' : MCore → MCore) (hf : ∀ m, (f m).mcore = f' m.mcore) :
    (v.row r id f).d = { v.d with ms := v.d.ms.modify r f' } := by
  simp only [QV.row, QV.d, List.modify_id, map_mcore_modify _ _ _ _ hf]

theorem QV.row_id_d_id (v : QV) (r : Nat) (f : ReqMeta → ReqMeta) (hf : ∀ m, (f m).mcore = m.mcore) : (v.row r id f).d = v.d := by
  simp only [QV.row, QV.d, List.modify_id, map_mcore_modify_id _ _ _ hf]

def ReqMeta.cancel (c : Cause) (q : ReqMeta) : ReqMeta := if q.cancelled.isSome then q else { q with cancelled := some c }

theorem ReqMeta.cancel_mcore (c : Cause) (q : ReqMeta) : (q.cancel c).mcore = q.mcore := by
  unfold ReqMeta.cancel; split <;> rfl

def QV.cancelAll (v : QV) (c : Cause) : QV := v.byID.foldl (fun v p => v.row p.2 id (ReqMeta.cancel c)) v

def QV.markBroken (v : QV) (writeErr : Bool) : QV := if writeErr then v else v.cancelAll .write

def QV.afterP2 (v : QV) (r : Nat) : Owner → QV
  | .reader => { v with reader := .read }
  | .dispatcher => { v with disp := .d1 }
  | .handler => v.row r id fun q => { q with released := true }

theorem qv_tail (s : St) : qv (tail s) = qv s := by rw [tail_eq]; rfl
theorem qv_modCall (s : St) (n : Nat) (f : Call → Call) : qv (modCall s n f) = qv s := rfl
theorem qv_setNotif (s : St) (w : Who) (f : Notif → Notif) : qv (setNotif s w f) = qv s := by cases w <;> rfl
theorem qv_retireIn (s : St) (n : Nat) (r : Res) : qv (retireIn s n r) = qv s := by rw [retireIn_footprint]; rfl
theorem qv_retireReg (s : St) (n : Nat) (r : Res) : qv (retireReg s n r) = qv s := by rw [retireReg_eq]; rfl
theorem qv_spawnCancel (s : St) (n : Nat) : qv (spawnCancel s n) = qv s := rfl
theorem qv_foldl_retire (l : List Nat) (r : Res) (s : St) : qv (l.foldl (fun s n => retireIn s n r) s) = qv s :=
  List.foldl_fixes qv (fun s n => qv_retireIn s n r) l s

theorem qv_modCore (s : St) (r : Nat) (g : ReqCore → ReqCore) : qv (modCore s r g) = (qv s).row r g id := by
  simp only [QV.row, List.modify_id]; rfl
theorem qv_modMeta (s : St) (r : Nat) (f : ReqMeta → ReqMeta) : qv (modMeta s r f) = (qv s).row r id f := by
  simp only [QV.row, List.modify_id]; rfl
theorem qv_cancelReq (s : St) (r : Nat) (c : Cause) : qv (cancelReq s r c) = (qv s).row r id (ReqMeta.cancel c) :=
  qv_modMeta s r (ReqMeta.cancel c)
theorem qv_toP2 (s : St) (r : Nat) : qv (toP2 s r) = (qv s).row r (fun q => { q with pc := .p2 }) (ReqMeta.cancel .finished) := by
  unfold toP2; rw [qv_cancelReq, qv_modCore, QV.row_row]; rfl

theorem qv_beginPR (s : St) (r : Nat) (own : Owner) {k : ReqCore} (hk : s.cores[r]? = some k) :
    qv (beginPR s r own) = (qv s).row r (fun k => { k with owner := own, pc := if k.isCall then .p1 else .p2 })
      (if k.isCall then id else ReqMeta.cancel .finished) := by
  have hk' : (qv s).cores[r]? = some k := hk
  unfold beginPR; rw [hk]; simp only
  split
  · rename_i hc
    rw [qv_modCore]; exact QV.row_congr _ hk' (by simp [hc])
  · rename_i hc
    rw [qv_toP2, qv_modCore, QV.row_row]
    exact QV.row_congr _ hk' (by simp [hc])

theorem qv_afterP2 (s : St) (r : Nat) (o : Owner) : qv (afterP2 s r o) = (qv s).afterP2 r o := by
  cases o
  · rfl
  · rfl
  · exact qv_modMeta s r _

theorem qv_foldl_cancel (l : List (Nat × Nat)) (c : Cause) (s : St) :
    qv (l.foldl (fun s p => cancelReq s p.2 c) s) = l.foldl (fun v p => v.row p.2 id (ReqMeta.cancel c)) (qv s) :=
  (List.foldl_hom qv fun s p => (qv_cancelReq s p.2 c).symm).symm

theorem qv_markBroken (s : St) : qv (markBroken s) = (qv s).markBroken s.writeErr := by
  unfold markBroken QV.markBroken; split
  · rfl
  · exact qv_foldl_cancel s.byID .write { s with writeErr := true }

theorem QV.foldl_cancel_views (l : List (Nat × Nat)) (c : Cause) (v : QV) :
    (l.foldl (fun v p => v.row p.2 id (ReqMeta.cancel c)) v).req = v.req ∧
    (l.foldl (fun v p => v.row p.2 id (ReqMeta.cancel c)) v).d = v.d := by
  induction l generalizing v with
  | nil => exact ⟨rfl, rfl⟩
  | cons p t ih =>
    simp only [List.foldl]
    refine ⟨(ih _).1.trans ?_, (ih _).2.trans ?_⟩
    · simp only [QV.row_req, ReqView.mod, List.modify_id]
    · rw [QV.row_d_id _ _ _ _ (ReqMeta.cancel_mcore c)]; simp only [List.modify_id]

def RMsg.req : RMsg → Option (ReqCore × ReqMeta)
  | .call id => some ({ id := some id, isCall := true }, {})
  | .notif => some ({}, {})
  | .cancel id => some ({}, { cancelTarget := some id })
  | _ => none

/-- Labels whose atomic section leaves the request machinery alone: the outgoing side, `Close` and `Wait`. -/
def Label.quiet : Label → Bool
  | .ecall | .ecallbad | .enotify | .ectx _ | .eclose | .ewait | .n1 _ | .n2 _ | .c1 _ | .retire _ | .cl1 | .wt _
  | .wret (.call _) _ | .wret (.unotif _) _ | .wret (.cnotif _) _ | .w1 (.call _) | .w1 (.unotif _) | .w1 (.cnotif _) => true
  | _ => false

/-- `step0` on `QV`: one move per path through an atomic section that touches a request, the new row spelled out
(`QV.row`: core by `g`, context by `f`), the guards as premises; those about shutdown and `writeErr` refer to `fl`, the
flag view of the state before the step. -/
inductive QStep (fl : FV) (v : QV) : Label → QV → Prop
  | same {l} (hl : l.quiet = true) : QStep fl v l v
  | reader {l rd} (hl : l = .start ∨ l = .rresp ∨ ∃ m, l = .read m ∧ m.req = none) (hnb : v.reader ≠ .busy)
      (hrd : rd ≠ .busy) : QStep fl v l { v with reader := rd }
  | rx (hrd : v.reader = .rx) : QStep fl v .rx (({ v with reader := .gone } : QV).cancelAll .read)
  | arrive {m k mt} (hrd : v.reader = .read) (hm : m.req = some (k, mt)) :
      QStep fl v (.read m) { v with reader := .busy, cores := v.cores ++ [k], metas := v.metas ++ [mt] }
  | hasync {r q m} (hq : v.cores[r]? = some q) (hm : v.metas[r]? = some m) (hpc : q.pc = .running)
      (ha : m.asyncCalled = false) :
      QStep fl v (.hasync r) (v.row r id fun m => { m with asyncCalled := true, released := true })
  | hret {r q e} (hq : v.cores[r]? = some q) (hpc : q.pc = .running) :
      QStep fl v (.hret r e) (({ v with clock := v.clock + 1 } : QV).row r
        (fun k => { k with owner := .handler, pc := if k.isCall then .p1 else .p2 })
        fun m => (if q.isCall then id else ReqMeta.cancel .finished) { m with ended := some (v.clock + 1) })
  | a1Dup {r q wid} (hq : v.cores[r]? = some q) (hpc : q.pc = .a1) (hid : q.id = some wid) (hcall : q.isCall = true)
      (hl : (v.byID.lookup wid).isSome = true) :
      QStep fl v (.a1 r) (({ v with incoming := v.incoming + 1 } : QV).row r
        (fun k => { k with isCall := false, owner := .reader, pc := .p2 })
        fun m => ({ m with rejected := true } : ReqMeta).cancel .finished)
  | a1Refused {r q wid} (hq : v.cores[r]? = some q) (hpc : q.pc = .a1) (hid : q.id = some wid) (hcall : q.isCall = true)
      (hl : ¬ (v.byID.lookup wid).isSome = true) (hsd : fl.shuttingDown = true) :
      QStep fl v (.a1 r) (({ v with incoming := v.incoming + 1, byID := v.byID ++ [(wid, r)] } : QV).row r
        (fun k => { k with owner := .reader, pc := if k.isCall then .p1 else .p2 }) fun m => { m with rejected := true })
  | a1Call {r q wid} (hq : v.cores[r]? = some q) (hpc : q.pc = .a1) (hid : q.id = some wid) (hcall : q.isCall = true)
      (hl : ¬ (v.byID.lookup wid).isSome = true) (hsd : ¬ fl.shuttingDown = true) :
      QStep fl v (.a1 r) (({ v with incoming := v.incoming + 1, byID := v.byID ++ [(wid, r)] } : QV).row r
        (fun k => { k with pc := .a2 }) fun m => { m with seen := true })
  | a1Cancel {r q wid} (hq : v.cores[r]? = some q) (hpc : q.pc = .a1) (hn : q.id = none ∨ q.isCall = false)
      (ht : (v.metas[r]?).bind (·.cancelTarget) = some wid) :
      QStep fl v (.a1 r) (({ v with incoming := v.incoming + 1, cancels := v.cancels ++ [wid] } : QV).row r
        (fun k => { k with pc := .a2 }) fun m => { m with seen := true })
  | a1Notif {r q} (hq : v.cores[r]? = some q) (hpc : q.pc = .a1) (hn : q.id = none ∨ q.isCall = false)
      (ht : (v.metas[r]?).bind (·.cancelTarget) = none) :
      QStep fl v (.a1 r) (({ v with incoming := v.incoming + 1 } : QV).row r
        (fun k => { k with pc := .a2 }) fun m => { m with seen := true })
  | a2Refused {r q} (hq : v.cores[r]? = some q) (hpc : q.pc = .a2) (hsd : fl.shuttingDown = true) :
      QStep fl v (.a2 r) (v.row r (fun k => { k with owner := .reader, pc := if k.isCall then .p1 else .p2 })
        fun m => (if q.isCall then id else ReqMeta.cancel .finished) { m with rejected := true })
  /-- A2 enqueues; the dispatcher goroutine is started (`d = d1`) unless there is one (`d = v.disp`) -/
  | enqueue {r q d} (hq : v.cores[r]? = some q) (hpc : q.pc = .a2) (hsd : ¬ fl.shuttingDown = true)
      (hd : (v.handlerRunning = true ∧ d = v.disp) ∨ (v.handlerRunning = false ∧ d = .d1)) :
      QStep fl v (.a2 r) (({ v with queue := v.queue ++ [r], reader := .read, disp := d, handlerRunning := true } : QV).row r
        (fun k => { k with pc := .queued }) id)
  | d1Empty (hd : v.disp = .d1) (hqu : v.queue = []) : QStep fl v .d1 { v with handlerRunning := false, disp := .none }
  | d1Cancelled {r rest q m} (hd : v.disp = .d1) (hqu : v.queue = r :: rest) (hq : v.cores[r]? = some q)
      (hm : v.metas[r]? = some m) (hc : m.cancelled.isSome = true) :
      QStep fl v .d1 (({ v with queue := rest, disp := .busy r } : QV).row r
        (fun k => { k with owner := .dispatcher, pc := if k.isCall then .p1 else .p2 })
        (if q.isCall then id else ReqMeta.cancel .finished))
  | d1Start {r rest m} (hd : v.disp = .d1) (hqu : v.queue = r :: rest) (hm : v.metas[r]? = some m)
      (hc : ¬ m.cancelled.isSome = true) :
      QStep fl v .d1 (({ v with queue := rest, clock := v.clock + 1, disp := .waiting r } : QV).row r
        (fun k => { k with pc := .running, owner := .handler }) fun m => { m with started := some (v.clock + 1) })
  | p1 {r q wid} (hq : v.cores[r]? = some q) (hpc : q.pc = .p1) (hid : q.id = some wid) :
      QStep fl v (.p1 r) (({ v with byID := v.byID.filter (fun p => p.1 ≠ wid) } : QV).row r (fun k => { k with pc := .w1 }) id)
  | p1Notif {r q} (hq : v.cores[r]? = some q) (hpc : q.pc = .p1) (hid : q.id = none) :
      QStep fl v (.p1 r) (v.row r (fun k => { k with pc := .w1 }) id)
  | p2 {r q} (hq : v.cores[r]? = some q) (hpc : q.pc = .p2) (hpos : 1 ≤ v.incoming) :
      QStep fl v (.p2 r) ((({ v with incoming := v.incoming - 1 } : QV).row r (fun k => { k with pc := .fin }) id).afterP2 r q.owner)
  | w1Resp {r q} (hq : v.cores[r]? = some q) (hpc : q.pc = .w1) (hw : fl.writeErr = false) :
      QStep fl v (.w1 (.resp r)) (v.row r (fun k => { k with wrote := k.wrote + 1, pc := .wr }) id)
  | w1RespShut {r q} (hq : v.cores[r]? = some q) (hpc : q.pc = .w1) (hw : fl.writeErr = true) :
      QStep fl v (.w1 (.resp r)) (v.row r (fun k => { k with wrote := k.wrote + 1, pc := .p2 }) (ReqMeta.cancel .finished))
  | wretRespOk {r q} (hq : v.cores[r]? = some q) (hpc : q.pc = .wr) :
      QStep fl v (.wret (.resp r) .ok) (v.row r (fun k => { k with responses := k.responses + 1, pc := .p2 }) (ReqMeta.cancel .finished))
  | wretRespBroken {r q} (hq : v.cores[r]? = some q) (hpc : q.pc = .wr) :
      QStep fl v (.wret (.resp r) .broken) (v.row r (fun k => { k with pc := .w2 .broken }) id)
  | wretRespRejected {r q} (hq : v.cores[r]? = some q) (hpc : q.pc = .wr) :
      QStep fl v (.wret (.resp r) .rejected) (v.row r (fun k => { k with pc := .p2 }) (ReqMeta.cancel .finished))
  | w2Resp {r q e} (hq : v.cores[r]? = some q) (hpc : q.pc = .w2 e) :
      QStep fl v (.w2 (.resp r)) ((v.markBroken fl.writeErr).row r (fun k => { k with pc := .p2 }) (ReqMeta.cancel .finished))
  /-- W2 of a call or a notification: the contexts of all indexed requests are cancelled -/
  | w2CallNotif {w} : QStep fl v (.w2 w) (v.markBroken fl.writeErr)
  | k1Hit {wid r} (hm : v.cancels.contains wid = true) (hl : v.byID.lookup wid = some r) :
      QStep fl v (.k1 wid) (({ v with cancels := v.cancels.erase wid } : QV).row r id (ReqMeta.cancel .peer))
  | k1Miss {wid} (hm : v.cancels.contains wid = true) (hl : v.byID.lookup wid = none) :
      QStep fl v (.k1 wid) { v with cancels := v.cancels.erase wid }

theorem QStep.of_step0 {s s' : St} {l : Label} (hr : RInv (reqView s)) (h : step0 s l = some s') :
    QStep (fview s) (qv s) l (qv s') := by
  have nb {p : ReaderPc} (hrd : s.reader = p) (hp : p ≠ .busy := by simp) : (qv s).reader ≠ .busy := by
    rw [show (qv s).reader = p from hrd]; exact hp
  cases Step0.of_step0 h with
  | readEof hrd | readResp hrd => exact .reader (.inr (.inr ⟨_, rfl, rfl⟩)) (nb hrd) (by simp)
  | readCall hrd | readNotif hrd | readCancel hrd => exact .arrive hrd rfl
  | startDone hrd | start hrd => rw [qv_tail]; exact .reader (.inl rfl) (nb hrd) (by simp)
  | rresp hrd => rw [qv_tail, qv_retireReg]; exact .reader (.inr (.inl rfl)) (nb hrd) (by simp)
  | rx hrd =>
    rw [qv_tail, qv_foldl_cancel]
    have e : qv { (s.outCalls.foldl (fun s n => retireIn s n (.err .read))
        { s with reader := .gone, reading := false, readErr := true }) with outCalls := [] } = { qv s with reader := .gone } :=
      qv_foldl_retire s.outCalls (.err .read) _
    rw [e]; exact .rx hrd
  | hasync hq hm hpc ha => rw [qv_modMeta]; exact .hasync hq hm hpc ha
  | @hret r q _ hq hpc =>
    rw [qv_beginPR (k := q), qv_modMeta, QV.row_row]
    · exact .hret hq hpc
    · exact hq
  | @a1Dup r q _ hq hpc hid hcall hl =>
    rw [qv_tail, qv_beginPR (k := { q with isCall := false }), qv_modMeta, qv_modCore]
    · simp only [QV.row_row, Bool.false_eq_true, if_false]
      exact .a1Dup hq hpc hid hcall hl
    · simp [modMeta, modCore, hq]
  | @a1Refused r q _ hq hpc hid hcall hl hsd =>
    rw [qv_tail, qv_beginPR (k := q), qv_modMeta, QV.row_row]
    · simp only [hcall, if_true]
      exact .a1Refused hq hpc hid hcall hl hsd
    · exact hq
  | a1Call hq hpc hid hcall hl hsd =>
    rw [qv_tail, qv_modMeta, qv_modCore, QV.row_row]; exact .a1Call hq hpc hid hcall hl hsd
  | a1Cancel hq hpc hn ht =>
    rw [qv_tail, qv_modMeta, qv_modCore, QV.row_row]; exact .a1Cancel hq hpc hn ht
  | a1Notif hq hpc hn ht =>
    rw [qv_tail, qv_modMeta, qv_modCore, QV.row_row]; exact .a1Notif hq hpc hn ht
  | @a2Refused r q hq hpc hsd =>
    rw [qv_tail, qv_beginPR (k := q), qv_modMeta, QV.row_row]
    · exact .a2Refused hq hpc hsd
    · exact hq
  | @a2Busy r q hq hpc hsd hh =>
    have e : qv { s with queue := s.queue ++ [r], reader := ReaderPc.read } =
        { qv s with queue := (qv s).queue ++ [r], reader := .read, disp := (qv s).disp, handlerRunning := true } := by
      simp only [qv, hh]
    rw [qv_tail, qv_modCore, e]
    exact .enqueue hq hpc hsd (.inl ⟨hh, rfl⟩)
  | @a2Idle r q hq hpc hsd hh =>
    rw [qv_tail, show ∀ Y : St, qv { Y with handlerRunning := true, disp := DispPc.d1 } =
      { qv Y with handlerRunning := true, disp := .d1 } from fun _ => rfl, qv_modCore]
    exact .enqueue hq hpc hsd (.inr ⟨Bool.eq_false_iff.mpr hh, rfl⟩)
  | d1Empty hd hqu => rw [qv_tail]; exact .d1Empty hd hqu
  | @d1Cancelled r rest m hd hqu hm hc =>
    obtain ⟨q, hq⟩ : ∃ q, s.cores[r]? = some q :=
      ⟨_, List.getElem?_eq_getElem (hr.qr r (by simp [reqView, hqu]))⟩
    rw [qv_beginPR (k := q), qv_tail]
    · exact .d1Cancelled hd hqu hq hm hc
    · rw [tail_cores]; exact hq
  | d1Start hd hqu hm hc =>
    rw [qv_modMeta, qv_modCore, qv_tail, QV.row_row]; exact .d1Start hd hqu hm hc
  | p1 hq hpc hid => rw [qv_tail, qv_modCore]; exact .p1 hq hpc hid
  | p1Notif hq hpc hid => rw [qv_tail, qv_modCore]; exact .p1Notif hq hpc hid
  | @p2 r q hq hpc =>
    have hpos : 1 ≤ s.incoming := hr.incoming_pos (r := r) hq (by simp [hpc, ReqPc.inflight])
    rw [if_neg (by omega), qv_afterP2, qv_tail, qv_modCore]
    exact .p2 hq hpc hpos
  | w1Resp hq hpc hw => rw [qv_tail, qv_modCore, qv_modCore, QV.row_row]; exact .w1Resp hq hpc hw
  | w1RespShut hq hpc hw => rw [qv_toP2, qv_tail, qv_modCore, QV.row_row]; exact .w1RespShut hq hpc hw
  | wretRespOk hq hpc => rw [qv_toP2, qv_modCore, QV.row_row]; exact .wretRespOk hq hpc
  | wretRespBroken hq hpc => rw [qv_modCore]; exact .wretRespBroken hq hpc
  | wretRespRejected hq hpc => rw [qv_toP2]; exact .wretRespRejected hq hpc
  | w2Resp hq hpc => rw [qv_toP2, qv_tail, qv_markBroken]; exact .w2Resp hq hpc
  | w2Call => rw [qv_tail, qv_modCall, qv_markBroken]; exact .w2CallNotif
  | w2Notif => rw [qv_tail, qv_setNotif, qv_markBroken]; exact .w2CallNotif
  | k1Hit hm hl => rw [qv_cancelReq, qv_tail]; exact .k1Hit hm hl
  | k1Miss hm hl => rw [qv_tail]; exact .k1Miss hm hl
  | wretNotifOk hw | wretNotifBroken hw | wretNotifRejected hw | w1Notif hw | w1NotifShut hw =>
    simp only [qv_tail, qv_setNotif]
    obtain ⟨k, rfl⟩ | ⟨k, rfl⟩ := getNotif_some_cases hw <;> exact .same rfl
  | _ =>
    (try simp only [qv_tail, qv_modCall, qv_setNotif, qv_retireIn, qv_retireReg, qv_spawnCancel])
    exact .same rfl

/-- What the invariants need to know of a move: which request it is, where it stood, what the move does to the two
views.  The facts several invariants would otherwise derive again (the head of the queue is parked at `queued`; a
request at A2 is the newest and is not queued; the write counters on the response path) are premises. -/
inductive QShape (v v' : QV) : Prop
  | same (hr : v'.req = v.req) (hd : v'.d = v.d)
  | reader {rd} (hnb : v.reader ≠ .busy) (hrd : rd ≠ .busy) (hr : v'.req = { v.req with reader := rd }) (hd : v'.d = v.d)
  | arrive {k} (hrd : v.reader = .read) (hk : k.pc = .a1 ∧ k.owner = .reader ∧ k.wrote = 0 ∧ k.responses = 0)
      (hqr : ∀ j ∈ v.queue, j < v.cores.length)
      (hr : v'.req = { v.req with cores := v.req.cores ++ [k], reader := .busy })
      (hd : v'.d = { v.d with cores := v.d.cores ++ [k], ms := v.d.ms ++ [⟨none, false, false⟩] })
  | hasync {r q} (hq : v.cores[r]? = some q) (hpc : q.pc = .running) (hr : v'.req = v.req)
      (hd : v'.d = { v.d with ms := v.d.ms.modify r fun m => { m with asyncCalled := true, released := true } })
  /-- A1: the request is counted; a call whose id is free is indexed; it goes on to A2, or — refused, or
  stripped of a duplicate id — into processResult on the reader goroutine -/
  | a1 {r q g tbl} (hq : v.cores[r]? = some q) (hpc : q.pc = .a1)
      (hg : (g q).wrote = q.wrote ∧ (g q).responses = q.responses ∧
        ((g q).pc = .a2 ∨ ((g q).owner = .reader ∧
          (((g q).pc = .p1 ∧ (g q).isCall = true) ∨ ((g q).pc = .p2 ∧ (g q).isCall = false)))))
      (hby : (tbl = v.byID ∧ ((g q).id = none ∨ (g q).isCall = false)) ∨
        ∃ wid, tbl = v.byID ++ [(wid, r)] ∧ (g q).id = some wid ∧ (g q).isCall = true ∧
          ¬ (v.byID.lookup wid).isSome = true ∧ (g q).pc.indexed = true)
      (hr : v'.req = ({ v.req with incoming := v.incoming + 1, byID := tbl } : ReqView).mod r g)
      (hd : v'.d = { v.d with cores := v.d.cores.modify r g })
  | a2Refused {r q} (hq : v.cores[r]? = some q) (hpc : q.pc = .a2)
      (hr : v'.req = v.req.mod r fun k => { k with owner := .reader, pc := if k.isCall then .p1 else .p2 })
      (hd : v'.d = { v.d with cores := v.d.cores.modify r fun k => { k with owner := .reader, pc := if k.isCall then .p1 else .p2 } })
  | hret {r q} (hq : v.cores[r]? = some q) (hpc : q.pc = .running)
      (hr : v'.req = v.req.mod r fun k => { k with owner := .handler, pc := if k.isCall then .p1 else .p2 })
      (hd : v'.d = { v.d with clock := v.clock + 1,
                              cores := v.d.cores.modify r fun k =>
                                { k with owner := .handler, pc := if k.isCall then .p1 else .p2 } })
  | enqueue {r q d} (hq : v.cores[r]? = some q) (hpc : q.pc = .a2) (hlast : r + 1 = v.cores.length)
      (hqr : ∀ j ∈ v.queue, j < v.cores.length) (hnq : r ∉ v.queue)
      (hdd : (v.handlerRunning = true ∧ d = v.disp) ∨ (v.handlerRunning = false ∧ d = .d1))
      (hr : v'.req = ({ v.req with queue := v.queue ++ [r], reader := .read } : ReqView).mod r fun k => { k with pc := .queued })
      (hd : v'.d = { v.d with cores := v.d.cores.modify r (fun k => { k with pc := .queued }), queue := v.queue ++ [r],
                              disp := d, handlerRunning := true })
  | d1Empty (hdp : v.disp = .d1) (hqu : v.queue = []) (hr : v'.req = v.req)
      (hd : v'.d = { v.d with handlerRunning := false, disp := .none })
  | d1Cancelled {r rest q} (hdp : v.disp = .d1) (hqu : v.queue = r :: rest) (hq : v.cores[r]? = some q) (hpc : q.pc = .queued)
      (hr : v'.req = ({ v.req with queue := rest } : ReqView).mod r
        fun k => { k with owner := .dispatcher, pc := if k.isCall then .p1 else .p2 })
      (hd : v'.d = { v.d with queue := rest, disp := .busy r,
                              cores := v.d.cores.modify r fun k =>
                                { k with owner := .dispatcher, pc := if k.isCall then .p1 else .p2 } })
  | d1Start {r rest q} (hdp : v.disp = .d1) (hqu : v.queue = r :: rest) (hq : v.cores[r]? = some q) (hpc : q.pc = .queued)
      (hr : v'.req = ({ v.req with queue := rest } : ReqView).mod r fun k => { k with pc := .running, owner := .handler })
      (hd : v'.d = { v.d with queue := rest, disp := .waiting r, clock := v.clock + 1,
                              cores := v.d.cores.modify r (fun k => { k with pc := .running, owner := .handler }),
                              ms := v.d.ms.modify r (fun m => { m with started := some (v.clock + 1) }) })
  | p1 {r q tbl} (hq : v.cores[r]? = some q) (hpc : q.pc = .p1)
      (hby : tbl = match q.id with
        | some wid => v.byID.filter (fun p => p.1 ≠ wid)
        | none => v.byID)
      (hr : v'.req = ({ v.req with byID := tbl } : ReqView).mod r fun k => { k with pc := .w1 })
      (hd : v'.d = { v.d with cores := v.d.cores.modify r fun k => { k with pc := .w1 } })
  /-- a move inside the response write: W1, the transport's `Write` returning, W2 -/
  | write {r q g} (hq : v.cores[r]? = some q) (hold : q.pc = .w1 ∨ q.pc = .wr ∨ ∃ e, q.pc = .w2 e)
      (hnew : (g q).pc = .wr ∨ (∃ e, (g q).pc = .w2 e) ∨ (g q).pc = .p2)
      (hsame : (g q).id = q.id ∧ (g q).isCall = q.isCall ∧ (g q).owner = q.owner)
      (hcnt : ((g q).pc = .wr ∨ ∃ e, (g q).pc = .w2 e) → (g q).wrote = 1 ∧ (g q).responses = 0)
      (hpost : (g q).wrote ≤ 1 ∧ (g q).responses ≤ (g q).wrote ∧ ((g q).pc = .p2 → (g q).wrote = 1))
      (hr : v'.req = v.req.mod r g) (hd : v'.d = { v.d with cores := v.d.cores.modify r g })
  | p2Reader {r q} (hq : v.cores[r]? = some q) (hpc : q.pc = .p2) (ho : q.owner = .reader) (hpos : 1 ≤ v.incoming)
      (hr : v'.req = ({ v.req with incoming := v.incoming - 1, reader := .read } : ReqView).mod r fun k => { k with pc := .fin })
      (hd : v'.d = { v.d with cores := v.d.cores.modify r fun k => { k with pc := .fin } })
  | p2Disp {r q} (hq : v.cores[r]? = some q) (hpc : q.pc = .p2) (ho : q.owner = .dispatcher) (hpos : 1 ≤ v.incoming)
      (hr : v'.req = ({ v.req with incoming := v.incoming - 1 } : ReqView).mod r fun k => { k with pc := .fin })
      (hd : v'.d = { v.d with cores := v.d.cores.modify r (fun k => { k with pc := .fin }), disp := .d1 })
  | p2Handler {r q} (hq : v.cores[r]? = some q) (hpc : q.pc = .p2) (ho : q.owner = .handler) (hpos : 1 ≤ v.incoming)
      (hr : v'.req = ({ v.req with incoming := v.incoming - 1 } : ReqView).mod r fun k => { k with pc := .fin })
      (hd : v'.d = { v.d with cores := v.d.cores.modify r (fun k => { k with pc := .fin }),
                              ms := v.d.ms.modify r (fun m => { m with released := true }) })

theorem QV.markBroken_views (v : QV) (we : Bool) : (v.markBroken we).req = v.req ∧ (v.markBroken we).d = v.d := by
  unfold QV.markBroken; split
  · exact ⟨rfl, rfl⟩
  · exact QV.foldl_cancel_views _ _ _

theorem RMsg.req_fresh {m : RMsg} {k : ReqCore} {mt : ReqMeta} (h : m.req = some (k, mt)) :
    (k.pc = .a1 ∧ k.owner = .reader ∧ k.wrote = 0 ∧ k.responses = 0) ∧ mt.mcore = ⟨none, false, false⟩ := by
  cases m <;> cases h <;> exact ⟨⟨rfl, rfl, rfl, rfl⟩, rfl⟩

theorem toPR_mcore (c : Bool) (g : ReqMeta → ReqMeta) (hg : ∀ m, (g m).mcore = m.mcore) (m : ReqMeta) :
    ((if c then id else ReqMeta.cancel .finished) (g m)).mcore = m.mcore := by
  split
  · exact hg m
  · exact (ReqMeta.cancel_mcore _ _).trans (hg m)

theorem QStep.shape {fl : FV} {v v' : QV} {l : Label} (hr : RInv v.req) (h : QStep fl v l v') : QShape v v' := by
  have hqr : ∀ j ∈ v.queue, j < v.cores.length := fun j hj => hr.qr j hj
  -- the head of the dispatcher's queue is a request parked at `queued`
  have head {r : Nat} {rest : List Nat} (hqu : v.queue = r :: rest) : ∃ q, v.cores[r]? = some q ∧ q.pc = .queued := by
    have hrq : r ∈ v.req.queue := by simp [QV.req, hqu]
    obtain ⟨q, hq⟩ : ∃ q, v.req.cores[r]? = some q := ⟨_, List.getElem?_eq_getElem (hr.qr r hrq)⟩
    exact ⟨q, hq, (hr.ok r q hq).que.mpr hrq⟩
  cases h with
  | same => exact .same rfl rfl
  | reader _ hnb hrd => exact .reader hnb hrd rfl rfl
  | rx hrd =>
    have e := QV.foldl_cancel_views v.byID .read { v with reader := .gone }
    exact .reader (rd := .gone) (by rw [hrd]; simp) (by simp) e.1 e.2
  | arrive hrd hm =>
    obtain ⟨hk, hmt⟩ := RMsg.req_fresh hm
    exact .arrive hrd hk hqr rfl (by simp only [QV.d, List.map_append, List.map_cons, List.map_nil, hmt])
  | hasync hq hm hpc ha => exact .hasync hq hpc (QV.row_id_req _ _ _) (QV.row_id_d _ _ _ _ fun _ => rfl)
  | hret hq hpc => exact .hret hq hpc rfl (QV.row_d_id _ _ _ _ (toPR_mcore _ _ fun _ => rfl))
  | a1Dup hq hpc hid hcall hl =>
    exact .a1 (tbl := v.byID) hq hpc ⟨rfl, rfl, .inr ⟨rfl, .inr ⟨rfl, rfl⟩⟩⟩ (.inl ⟨rfl, .inr rfl⟩) rfl
      (QV.row_d_id _ _ _ _ fun _ => ReqMeta.cancel_mcore _ _)
  | a1Refused hq hpc hid hcall hl hsd =>
    exact .a1 hq hpc ⟨rfl, rfl, .inr ⟨rfl, .inl ⟨by simp [hcall], hcall⟩⟩⟩
      (.inr ⟨_, rfl, hid, hcall, hl, by simp [hcall, ReqPc.indexed]⟩) rfl (QV.row_d_id _ _ _ _ fun _ => rfl)
  | a1Call hq hpc hid hcall hl hsd =>
    exact .a1 hq hpc ⟨rfl, rfl, .inl rfl⟩ (.inr ⟨_, rfl, hid, hcall, hl, rfl⟩) rfl (QV.row_d_id _ _ _ _ fun _ => rfl)
  | a1Cancel hq hpc hn ht =>
    exact .a1 (tbl := v.byID) hq hpc ⟨rfl, rfl, .inl rfl⟩ (.inl ⟨rfl, hn⟩) rfl (QV.row_d_id _ _ _ _ fun _ => rfl)
  | a1Notif hq hpc hn ht =>
    exact .a1 (tbl := v.byID) hq hpc ⟨rfl, rfl, .inl rfl⟩ (.inl ⟨rfl, hn⟩) rfl (QV.row_d_id _ _ _ _ fun _ => rfl)
  | a2Refused hq hpc hsd => exact .a2Refused hq hpc rfl (QV.row_d_id _ _ _ _ (toPR_mcore _ _ fun _ => rfl))
  | @enqueue r q d hq hpc hsd hd =>
    have o := hr.ok r q hq
    exact .enqueue hq hpc (o.rdr (.inr (.inl hpc))).2 hqr (fun hm => by have := o.que.mpr hm; simp [hpc] at this)
      hd rfl (QV.row_d_id _ _ _ _ fun _ => rfl)
  | d1Empty hd hqu => exact .d1Empty hd hqu rfl rfl
  | @d1Cancelled r rest q m hd hqu hq hm hc =>
    obtain ⟨q', hq', hpc⟩ := head hqu
    obtain rfl : q' = q := Option.some.inj (hq'.symm.trans hq)
    exact .d1Cancelled hd hqu hq hpc rfl (QV.row_d_id _ _ _ _ (toPR_mcore _ id fun _ => rfl))
  | d1Start hd hqu hm hc =>
    obtain ⟨q, hq, hpc⟩ := head hqu
    exact .d1Start hd hqu hq hpc rfl (QV.row_d _ _ _ _ (fun m => { m with started := some (v.clock + 1) }) fun _ => rfl)
  | @p1 r q wid hq hpc hid =>
    exact .p1 (tbl := v.byID.filter fun p => p.1 ≠ wid) hq hpc (by rw [hid]) rfl (QV.row_d_id _ _ _ _ fun _ => rfl)
  | p1Notif hq hpc hid => exact .p1 (tbl := v.byID) hq hpc (by rw [hid]) rfl (QV.row_d_id _ _ _ _ fun _ => rfl)
  | @p2 r q hq hpc hpos =>
    cases hown : q.owner with
    | reader => exact .p2Reader hq hpc hown hpos rfl (QV.row_d_id _ _ _ _ fun _ => rfl)
    | dispatcher =>
      exact .p2Disp hq hpc hown hpos rfl
        (congrArg (fun b : DView => { b with disp := .d1 }) (QV.row_d_id _ _ _ _ fun _ => rfl))
    | handler =>
      simp only [QV.afterP2, QV.row_row]
      exact .p2Handler hq hpc hown hpos rfl (QV.row_d _ _ _ _ (fun m => { m with released := true }) fun _ => rfl)
  | @w1Resp r q hq hpc hw =>
    obtain ⟨hw, hrs⟩ := (hr.ok r q hq).pre (by simp [hpc])
    exact .write hq (.inl hpc) (.inl rfl) ⟨rfl, rfl, rfl⟩ (fun _ => ⟨by simp [hw], hrs⟩) (by simp [hw, hrs]) rfl
      (QV.row_d_id _ _ _ _ fun _ => rfl)
  | @w1RespShut r q hq hpc hw =>
    obtain ⟨hw, hrs⟩ := (hr.ok r q hq).pre (by simp [hpc])
    exact .write hq (.inl hpc) (.inr (.inr rfl)) ⟨rfl, rfl, rfl⟩ (fun h => by simp at h) (by simp [hw, hrs]) rfl
      (QV.row_d_id _ _ _ _ (ReqMeta.cancel_mcore _))
  | @wretRespOk r q hq hpc =>
    obtain ⟨hw, hrs⟩ := (hr.ok r q hq).mid (.inl hpc)
    exact .write hq (.inr (.inl hpc)) (.inr (.inr rfl)) ⟨rfl, rfl, rfl⟩ (fun h => by simp at h) (by simp [hw, hrs]) rfl
      (QV.row_d_id _ _ _ _ (ReqMeta.cancel_mcore _))
  | @wretRespBroken r q hq hpc =>
    obtain ⟨hw, hrs⟩ := (hr.ok r q hq).mid (.inl hpc)
    exact .write hq (.inr (.inl hpc)) (.inr (.inl ⟨_, rfl⟩)) ⟨rfl, rfl, rfl⟩ (fun _ => ⟨hw, hrs⟩) (by simp [hw, hrs]) rfl
      (QV.row_d_id _ _ _ _ fun _ => rfl)
  | @wretRespRejected r q hq hpc =>
    obtain ⟨hw, hrs⟩ := (hr.ok r q hq).mid (.inl hpc)
    exact .write hq (.inr (.inl hpc)) (.inr (.inr rfl)) ⟨rfl, rfl, rfl⟩ (fun h => by simp at h) (by simp [hw, hrs]) rfl
      (QV.row_d_id _ _ _ _ (ReqMeta.cancel_mcore _))
  | @w2Resp r q e hq hpc =>
    obtain ⟨hw, hrs⟩ := (hr.ok r q hq).mid (.inr ⟨e, hpc⟩)
    have hv := QV.markBroken_views v fl.writeErr
    exact .write (g := fun k => { k with pc := .p2 }) hq (.inr (.inr ⟨e, hpc⟩)) (.inr (.inr rfl)) ⟨rfl, rfl, rfl⟩ (fun h => by simp at h) (by simp [hw, hrs])
      (by rw [QV.row_req, hv.1]) (by rw [QV.row_d_id _ _ _ _ (ReqMeta.cancel_mcore _), hv.2])
  | w2CallNotif => exact .same (QV.markBroken_views _ _).1 (QV.markBroken_views _ _).2
  | k1Hit => exact .same (QV.row_id_req _ _ _) (QV.row_id_d_id _ _ _ (ReqMeta.cancel_mcore _))
  | k1Miss => exact .same rfl rfl

theorem RInv.step {v v' : QV} (i : RInv v.req) (h : QShape v v') : RInv v'.req := by
  have notQueued {r : Nat} {q : ReqCore} (hq : v.cores[r]? = some q) (hpc : q.pc ≠ .queued) : r ∉ v.req.queue :=
    fun hm => hpc ((i.ok r q hq).que.mpr hm)
  -- the rest of the queue, once its head `r` is taken off
  have tl {r : Nat} {rest : List Nat} (hqu : v.queue = r :: rest) :
      (∀ j, j ≠ r → (j ∈ rest ↔ j ∈ v.req.queue)) ∧ r ∉ rest ∧ rest.Nodup := by
    have hnd : (r :: rest).Nodup := by have := i.qnd; rwa [show v.req.queue = r :: rest from hqu] at this
    exact ⟨fun j hj => by rw [show v.req.queue = r :: rest from hqu]; simp [hj], (List.nodup_cons.mp hnd).1,
      (List.nodup_cons.mp hnd).2⟩
  -- P2: the request is finished and no longer counted; `rd` is where the reader goroutine is afterwards
  have p2 {r : Nat} {q : ReqCore} (hq : v.cores[r]? = some q) (hpc : q.pc = .p2) (hpos : 1 ≤ v.incoming) (rd : ReaderPc)
      (hrd : rd = v.reader ∨ q.owner = .reader) :
      RInv (({ v.req with incoming := v.incoming - 1, reader := rd } : ReqView).mod r fun k => { k with pc := .fin }) := by
    have o := i.ok r q hq
    refine i.modUpdate r q _ hq rfl (by simp [ReqView.mod, QV.req, hpc, ReqPc.inflight]; omega) (fun _ _ _ => Iff.rfl)
      (fun _ _ => Iff.rfl) (hrd.elim .inl fun h => .inr (.inr (.inr ⟨h, by simp [hpc, ReqPc.inPR]⟩))) ?_
      i.byr i.keys i.qnd i.qr i.nopanic
    refine ⟨by simp, by simp, ⟨o.post.1, o.post.2.1, fun hc _ => o.post.2.2 hc (Or.inl hpc)⟩,
      fun hc => ⟨(o.notif hc).1, by simp⟩, fun id' => ?_, fun hh => ?_,
      ⟨fun hh => by simp at hh, fun hm => absurd hm (notQueued hq (by simp [hpc]))⟩⟩
    · show (id', r) ∈ v.req.byID ↔ _
      rw [o.idx id']; simp [hpc, ReqPc.indexed]
    · rcases hh with hh | hh | ⟨_, hh⟩ <;> simp [ReqPc.inPR] at hh
  cases h with
  | same hr => rw [hr]; exact i
  | reader hnb hrd hr => rw [hr]; exact i.setReader _ hnb hrd
  | arrive hrd hk _ hr => rw [hr]; exact i.append _ hrd hk
  | hasync _ _ hr => rw [hr]; exact i
  | a1 hq hpc hg hby hr => rw [hr]; exact i.fromA1 _ _ _ _ hq hpc hg hby
  | a2Refused hq hpc hr =>
    rw [hr]
    exact i.toPR _ _ .reader v.req.queue hq (.inl hpc) (fun _ => hpc) (fun _ _ => Iff.rfl) (notQueued hq (by simp [hpc])) i.qnd
  | hret hq hpc hr =>
    rw [hr]
    exact i.toPR _ _ .handler v.req.queue hq (.inr (.inr hpc)) (fun h => by cases h) (fun _ _ => Iff.rfl)
      (notQueued hq (by simp [hpc])) i.qnd
  | @enqueue r q _ hq hpc hlast hqr hnq _ hr =>
    -- enqueued: the reader goes back to Read
    rw [hr]
    have o := i.ok r q hq
    obtain ⟨hw, hrs⟩ := o.pre (Or.inr (Or.inl hpc))
    refine i.modUpdate r q _ hq rfl (by simp [ReqView.mod, hpc, ReqPc.inflight]) (fun _ _ _ => Iff.rfl) ?_
      (Or.inr (Or.inr (Or.inl hpc))) ?_ i.byr i.keys ?_ ?_ i.nopanic
    · intro j hj
      simp only [ReqView.mod, List.mem_append, List.mem_singleton]
      exact ⟨fun h => h.elim (fun h => h) fun h => absurd h hj, .inl⟩
    · refine ⟨fun _ => ⟨hw, hrs⟩, by simp, by simp; omega, fun hc => ⟨(o.notif hc).1, by simp⟩, ?_, ?_, ?_⟩
      · intro id'; simp only [ReqView.mod]
        rw [o.idx id']; simp [hpc, ReqPc.indexed]
      · intro hh; rcases hh with hh | hh | ⟨_, hh⟩ <;> simp [ReqPc.inPR] at hh
      · simp [ReqView.mod]
    · simp only [ReqView.mod]
      exact List.nodup_append.mpr ⟨i.qnd, by simp, by intro a ha b hb; simp at hb; subst hb; exact fun h => hnq (h ▸ ha)⟩
    · intro j hj; simp [ReqView.mod] at hj
      rcases hj with hj | hj
      · exact i.qr j hj
      · subst hj; exact (List.getElem?_eq_some_iff.mp hq).1
  | d1Empty _ _ hr => rw [hr]; exact i
  | d1Cancelled _ hqu hq hpc hr =>
    -- already cancelled: processResult on the dispatcher goroutine
    rw [hr]
    exact i.toPR _ _ .dispatcher _ hq (.inr (.inl hpc)) (fun h => by cases h) (tl hqu).1 (tl hqu).2.1 (tl hqu).2.2
  | @d1Start r rest q _ hqu hq hpc hr =>
    rw [hr]
    have o := i.ok r q hq
    obtain ⟨hw, hrs⟩ := o.pre (Or.inr (Or.inr (Or.inl hpc)))
    refine i.modUpdate (v' := ({ v.req with queue := rest } : ReqView).mod r _) r q _ hq rfl
      (by simp [ReqView.mod, hpc, ReqPc.inflight]) (fun _ _ _ => Iff.rfl) (tl hqu).1 (Or.inl rfl) ?_ i.byr i.keys (tl hqu).2.2
      (fun j hj => i.qr j (by rw [show v.req.queue = r :: rest from hqu]; exact List.mem_cons_of_mem _ hj)) i.nopanic
    refine ⟨fun _ => ⟨hw, hrs⟩, by simp, by simp; omega, fun hc => ⟨(o.notif hc).1, by simp⟩, fun id' => ?_, fun hh => ?_,
      ⟨fun hh => by simp at hh, fun hm => absurd hm (tl hqu).2.1⟩⟩
    · show (id', r) ∈ v.req.byID ↔ _
      rw [o.idx id']; simp [hpc, ReqPc.indexed]
    · rcases hh with hh | hh | ⟨hh, _⟩ <;> simp at hh
  | @p1 r q tbl hq hpc hb hr =>
    -- which entries does the filter remove? exactly those with this request's id; by key uniqueness, only r's
    rw [hr]
    obtain ⟨o, hlen⟩ := i.at hq
    obtain ⟨hw, hrs⟩ := o.pre (by simp [hpc])
    have hcall : q.isCall = true := by
      cases hc : q.isCall with
      | true => rfl
      | false => have := (o.notif hc).2.1; simp [hpc] at this
    have hsub : ∀ p, p ∈ tbl → p ∈ v.req.byID := by
      intro p hp; subst hb; split at hp
      · exact (List.mem_filter.mp hp).1
      · exact hp
    have hother : ∀ id j, j ≠ r → ((id, j) ∈ tbl ↔ (id, j) ∈ v.req.byID) := by
      intro id j hj
      refine ⟨hsub _, fun hm => ?_⟩
      subst hb; split
      · rename_i id0 hid0
        refine List.mem_filter.mpr ⟨hm, ?_⟩
        simp only [decide_eq_true_eq]
        intro hid; subst hid
        -- (id, j) and (id, r) both indexed under the same key
        exact hj (nodup_keys_unique i.keys hm ((o.idx id).mpr ⟨hcall, hid0, by simp [hpc, ReqPc.indexed]⟩))
      · exact hm
    have hnor : ∀ id, (id, r) ∉ tbl := by
      intro id hm
      have hid := ((o.idx id).mp (hsub _ hm)).2.1
      subst hb; simp only [hid] at hm
      have := (List.mem_filter.mp hm).2
      simp at this
    refine i.modUpdate r q _ hq rfl (by simp [ReqView.mod, hpc, ReqPc.inflight]) hother (fun _ _ => Iff.rfl) (Or.inl rfl) ?_
      (fun p hp => i.byr p (hsub p hp)) ?_ i.qnd i.qr i.nopanic
    · refine ⟨fun _ => ⟨hw, hrs⟩, by simp, by simp; omega, fun hc => by simp [hcall] at hc, ?_, ?_, ?_⟩
      · intro id'; show (id', r) ∈ tbl ↔ _
        simp [ReqPc.indexed]; exact hnor id'
      · intro hh; rcases hh with hh | hh | ⟨hh, _⟩
        · simp at hh
        · simp at hh
        · have := o.rdr (Or.inr (Or.inr ⟨hh, by simp [hpc, ReqPc.inPR]⟩))
          exact ⟨this.1, by simpa [ReqView.mod] using this.2⟩
      · show _ ↔ r ∈ v.req.queue
        rw [← o.que]; simp [hpc]
    · show (tbl.map (·.1)).Nodup
      subst hb; split
      · exact (List.Nodup.sublist (List.Sublist.map _ List.filter_sublist) i.keys)
      · exact i.keys
  | write hq hold hnew hsame hcnt hpost hr => rw [hr]; exact i.inWrite _ _ _ hq hold hnew hsame hcnt hpost
  | p2Reader hq hpc ho hpos hr => rw [hr]; exact p2 hq hpc hpos .read (.inr ho)
  | p2Disp hq hpc _ hpos hr => rw [hr]; exact p2 hq hpc hpos v.reader (.inl rfl)
  | p2Handler hq hpc _ hpos hr => rw [hr]; exact p2 hq hpc hpos v.reader (.inl rfl)

theorem rinv_step0 {s s' : St} {l : Label} (i : RInv (reqView s)) (h : step0 s l = some s') : RInv (reqView s') :=
  RInv.step (v := qv s) i ((QStep.of_step0 i h).shape i)

theorem rinv_step {s s' : St} {l : Label} (i : RInv (reqView s)) (h : step s l = some s') : RInv (reqView s') := by
  obtain ⟨s0, h0, rfl⟩ := step_some.mp h
  rw [reqView_settle]; exact rinv_step0 i h0

theorem rinv_init : RInv (reqView ({} : St)) :=
  ⟨rfl, fun r k hk => by simp [reqView] at hk, fun p hp => by simp [reqView] at hp, by simp [reqView], by simp [reqView],
    fun r hr => by simp [reqView] at hr, rfl⟩

theorem rinv_run {s s' : St} (ls : List Label) (i : RInv (reqView s)) (h : run s ls = some s') : RInv (reqView s') :=
  run_induct rinv_step ls i h

theorem DInv.step {v v' : QV} (i : DInv v.d) (h : QShape v v') : DInv v'.d := by
  cases h with
  | same _ hd => rw [hd]; exact i
  | reader _ _ _ hd => rw [hd]; exact i
  | arrive _ hk hqr _ hd => rw [hd]; exact i.append _ ⟨hk.1, hk.2.1⟩ hqr
  | hasync hq hpc _ hd => rw [hd]; exact i.hasync _ fun k hk => by rw [show v.d.cores[_]? = _ from hq] at hk; cases hk; exact hpc
  | a1 hq hpc hg _ _ hd =>
    rw [hd]
    refine i.coreFrom _ _ _ hq (fun ho hp => ?_) (fun _ => .inl hpc) (fun hf => by simp [hpc] at hf)
    rcases hg.2.2 with hg | hg
    · simp [hg, ReqPc.inPR] at hp
    · rw [hg.1] at ho; cases ho
  | a2Refused hq hpc _ hd =>
    rw [hd]
    refine i.coreFrom _ _ _ hq (fun ho => by simp at ho) (fun hp => ?_) (fun hf => by simp [hpc] at hf)
    simp at hp; split at hp <;> simp at hp
  | hret hq hpc _ hd =>
    rw [hd]
    refine DInv.coreFrom (v := { v.d with clock := v.clock + 1 }) (i.clock _ (Nat.le_succ _)) _ _ _ hq (fun ho => by simp at ho)
      (fun hp => ?_) (fun hf => by simp [hpc] at hf)
    simp at hp; split at hp <;> simp at hp
  | enqueue hq hpc hlast hqr hnq hdd _ hd =>
    rw [hd]
    exact i.enqueue _ _ hq hpc hlast hqr hnq _ true (hdd.imp (fun h => ⟨h.1, h.2, rfl⟩) fun h => ⟨h.1, h.2, rfl⟩)
  | d1Empty hdp hqu _ hd => rw [hd]; exact i.d1empty hdp hqu
  | d1Cancelled hdp hqu hq hpc _ hd => rw [hd]; exact i.d1Cancelled hdp _ _ hqu _ hq hpc
  | d1Start hdp hqu hq hpc _ hd => rw [hd]; exact i.d1Start hdp _ _ hqu _ hq hpc
  | p1 hq hpc _ _ hd => rw [hd]; exact i.inPR _ _ _ hq (by simp [hpc, ReqPc.inPR]) rfl rfl
  | write hq hold hnew hsame _ _ _ hd =>
    rw [hd]
    exact i.inPR _ _ _ hq (by rcases hold with h | h | ⟨e, h⟩ <;> simp [h, ReqPc.inPR]) hsame.2.2
      (by rcases hnew with h | ⟨e, h⟩ | h <;> simp [h, ReqPc.inPR])
  | p2Reader hq hpc _ _ _ hd =>
    rw [hd]
    exact i.coreFrom _ _ _ hq (fun _ hp => by simp [ReqPc.inPR] at hp) (fun hp => by simp at hp) (fun _ => rfl)
  | p2Disp hq hpc ho _ _ hd => rw [hd]; exact i.p2Disp _ _ hq ho hpc
  | p2Handler _ _ _ _ _ hd => rw [hd]; exact i.p2Handler _

theorem dinv_step0 {s s' : St} {l : Label} (hr : RInv (reqView s)) (i : DInv (dview s)) (h : step0 s l = some s') :
    DInv (dview s') :=
  DInv.step (v := qv s) i ((QStep.of_step0 hr h).shape hr)

end Conn
