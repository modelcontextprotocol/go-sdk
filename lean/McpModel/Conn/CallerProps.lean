import McpModel.Conn.CallerLive
import McpModel.Conn.Props
/-!
# C01 / C04 liveness theorems

* C01 "a call never stays blocked once the session has terminated; calls started after that fail
  immediately": `terminated_calls_unblocked`, `terminated_call_returns_within_3`, `late_call_fails_at_once`.
* C04 "cancelling … makes the call return promptly … even if the peer never answers and even if the
  cancellation notice itself cannot be delivered": `cancelled_call_unblocked`,
  `cancelled_call_returns_within_4`.
* In general: `caller_takes_at_most_5_steps`.

"Promptly" is made precise as: the caller needs at most `k` critical sections of its *own*, every one of
which is enabled as soon as the caller stands before it, in every state, whatever the other processes —
reader, dispatcher, handlers, other callers, the detached `notifications/cancelled` sender, the peer — do
or fail to do (`own_step_enabled`); the only thing it may have to wait for is the transport's `Write` of
its own request, which a transport that honours `Close` / the write's context returns from (environment
label `wret`, shown enabled). What remains trusted is scheduler fairness: an enabled critical section of
the caller eventually runs.
-/
namespace Conn

def ownSteps (n : Nat) (ls : List Label) : Nat := (ls.filter (Label.ofCaller n)).length

theorem ownSteps_cons (n : Nat) (l : Label) (ls : List Label) :
    ownSteps n (l :: ls) = (if l.ofCaller n then 1 else 0) + ownSteps n ls := by
  unfold ownSteps
  by_cases h : l.ofCaller n = true <;> simp [h] <;> omega

/-- Own steps to go, Unconditionally (in any state): C1, W1, W2, R, R. -/
def rankU : CallPc → Nat
  | .c1 => 5 | .w1 => 4 | .wr => 3 | .w2 _ => 3 | .r _ => 2 | .await => 1 | .rc => 1 | .fin => 0
/-- Own steps to go once the session has Terminated (the connection is shutting down): C1 refuses, the write gate W1 is closed. -/
def rankT : CallPc → Nat
  | .c1 => 2 | .w1 => 3 | .wr => 3 | .w2 _ => 3 | .r _ => 2 | .await => 1 | .rc => 1 | .fin => 0
/-- Own steps to go once the call is Cancelled (the caller's context is done): the transport write can only fail. -/
def rankC : CallPc → Nat
  | .c1 => 4 | .w1 => 3 | .wr => 2 | .w2 _ => 3 | .r _ => 2 | .await => 1 | .rc => 1 | .fin => 0

theorem rankU_le (p : CallPc) : rankU p ≤ 5 := by cases p <;> simp [rankU]
theorem rankT_le (p : CallPc) : rankT p ≤ 3 := by cases p <;> simp [rankT]
theorem rankC_le (p : CallPc) : rankC p ≤ 4 := by cases p <;> simp [rankC]
theorem rankT_zero {p : CallPc} : rankT p = 0 ↔ p = .fin := by cases p <;> simp [rankT]
theorem rankC_zero {p : CallPc} : rankC p = 0 ↔ p = .fin := by cases p <;> simp [rankC]

theorem cstep_rankU {sd ctx own : Bool} {p p' : CallPc} (h : CStep sd ctx own p p') :
    (if own then 1 else 0) + rankU p' ≤ rankU p := by
  cases h <;> simp [rankU]

theorem cstep_rankT {ctx own : Bool} {p p' : CallPc} (h : CStep true ctx own p p') :
    (if own then 1 else 0) + rankT p' ≤ rankT p := by
  cases h <;> simp_all [rankT]

theorem cstep_rankC {sd own : Bool} {p p' : CallPc} (h : CStep sd true own p p') :
    (if own then 1 else 0) + rankC p' ≤ rankC p := by
  cases h <;> simp_all [rankC]

theorem rank_run {rank : CallPc → Nat} {P : St → Call → Prop} {n : Nat}
    (hstep : ∀ {s s' l c}, P s c → step s l = some s' → getCall s n = some c →
      ∃ c', getCall s' n = some c' ∧ P s' c' ∧ (if l.ofCaller n then 1 else 0) + rank c'.pc ≤ rank c.pc)
    (ls : List Label) {s s' : St} {c : Call} (hP : P s c) (h : run s ls = some s') (hc : getCall s n = some c) :
    ∃ c', getCall s' n = some c' ∧ P s' c' ∧ ownSteps n ls + rank c'.pc ≤ rank c.pc := by
  induction ls generalizing s c with
  | nil => cases h; exact ⟨c, hc, hP, by simp [ownSteps]⟩
  | cons l ls ih =>
    simp only [run] at h
    split at h
    · cases h
    · rename_i s1 hs
      obtain ⟨c1, hc1, hP1, _⟩ := hstep hP hs hc
      obtain ⟨c', hc', hP', _⟩ := ih hP1 h hc1
      exact ⟨c', hc', hP', by rw [ownSteps_cons]; omega⟩

/-- **caller_takes_at_most_5_steps.** In any run from any state, whatever else happens, the caller of call
`n` executes at most `rankU pc ≤ 5` critical sections of its own (C1, W1, W2, R, R) — there is no loop in
`mcp.call`/`Connection.Call`. -/
theorem caller_takes_at_most_5_steps (ls : List Label) : ∀ (s s' : St) (n : Nat) (c : Call), run s ls = some s' →
    getCall s n = some c → ∃ c', getCall s' n = some c' ∧ ownSteps n ls + rankU c'.pc ≤ rankU c.pc := by
  intro s s' n c h hc
  obtain ⟨c', hc', _, hb⟩ := rank_run (rank := rankU) (P := fun _ _ => True)
    (fun _ hs hc => (caller_step hs hc).imp fun _ ⟨h1, _, h3⟩ => ⟨h1, trivial, cstep_rankU h3⟩) ls trivial h hc
  exact ⟨c', hc', hb⟩

/-- **terminated_calls_unblocked.** In every reachable state in which the session has terminated (`done` closed: `Wait`
may return) every caller has returned, or stands before one of its own critical sections, which is enabled, or is
inside the transport's `Write` of its own request on a transport already closed, and that `Write` can return (`wret …
rejected` is enabled: the outcome of a closed transport, the one whose guard does not read the caller's context).  None
is blocked in `Await`. -/
theorem terminated_calls_unblocked (ls : List Label) (s : St) (h : run {} ls = some s) (hd : s.done = true) :
    ∀ n c, getCall s n = some c →
      c.pc = .fin ∨
      (∃ l, ownLabel n c.pc = some l ∧ l.ofCaller n = true ∧ (step0 s l).isSome = true) ∨
      (c.pc = .wr ∧ s.closerUsed = true ∧ (step0 s (.wret (.call n) .rejected)).isSome = true) := by
  intro n c hc
  have hna := (done_implies_all_completed ls s h hd n c hc).2
  cases ho : ownLabel n c.pc with
  | some l => exact Or.inr (Or.inl ⟨l, rfl, ownLabel_ofCaller ho, own_step_enabled s n c hc l ho⟩)
  | none =>
    cases hp : c.pc <;> simp [hp, ownLabel] at ho
    · refine Or.inr (Or.inr ⟨rfl, (done_implies_quiescent ls s h hd).2.2.2.2.2.2.2, ?_⟩)
      simp [step0, hc, hp]
    · exact absurd hp hna
    · exact Or.inl rfl

/-- **terminated_call_returns_within_3.** From a reachable state in which the session has terminated, along
any continuation `ls` whatsoever (any interleaving with other callers, late peer messages, users starting
new calls, …), a caller executes at most 3 critical sections of its own before it has returned. -/
theorem terminated_call_returns_within_3 (pre ls : List Label) (s s' : St) (h0 : run {} pre = some s) (hd : s.done = true)
    (h : run s ls = some s') (n : Nat) (c : Call) (hc : getCall s n = some c) :
    ∃ c', getCall s' n = some c' ∧ ownSteps n ls + rankT c'.pc ≤ rankT c.pc ∧ rankT c.pc ≤ 3 ∧
      (rankT c.pc ≤ ownSteps n ls → c'.pc = .fin) := by
  -- a connection that is shutting down stays so
  obtain ⟨c', hc', _, hb⟩ := rank_run (rank := rankT) (P := fun s _ => s.shuttingDown = true)
    (fun hsd hs hc => (caller_step hs hc).imp fun _ ⟨h1, _, h3⟩ => ⟨h1, shuttingDown_mono_step hs hsd, cstep_rankT (hsd ▸ h3)⟩)
    ls (done_is_shutting_down pre s h0 hd) h hc
  exact ⟨c', hc', hb, rankT_le _, fun hge => rankT_zero.mp (by omega)⟩

/-- **late_call_fails_at_once.** A call whose registration point is reached after the session has
terminated (in particular every call started after that) with a live context completes in that one
critical section — its first and only own step, always enabled — with the closed-connection error. -/
theorem late_call_fails_at_once (ls : List Label) (s : St) (h : run {} ls = some s) (hd : s.done = true)
    (n : Nat) (c : Call) (hc : getCall s n = some c) (hpc : c.pc = .c1) (hctx : c.ctxDone = false) :
    ∃ s' c', step s (.c1 n) = some s' ∧ getCall s' n = some c' ∧ c'.pc = .fin ∧
      c'.result = some (.err .clientClosing) ∧ c'.registered = false ∧ s'.outCalls = [] := by
  have he := own_step_enabled s n c hc (.c1 n) (by simp [hpc, ownLabel])
  cases hs0 : step0 s (.c1 n) with
  | none => simp [hs0] at he
  | some s0 =>
    have hst : step s (.c1 n) = some (settle s0) := by simp [step, hs0]
    obtain ⟨c', h1, h2, h3, h4, h5⟩ := refused_when_shutting_down ls s _ h n c hc hctx (done_is_shutting_down ls s h hd) hst
    exact ⟨_, c', hst, h1, h2, h3, h4, by rw [h5]; exact (done_implies_quiescent ls s h hd).1⟩

/-- **cancelled_call_unblocked.** In every reachable state a caller whose context is done has returned, or stands before
one of its own critical sections, which is enabled, or is inside the transport's `Write` of its own request, which can
return with the context's error (`wret … ctx` is enabled).  It is never blocked in `Await`. -/
theorem cancelled_call_unblocked (ls : List Label) (s : St) (h : run {} ls = some s) (n : Nat) (c : Call)
    (hc : getCall s n = some c) (hctx : c.ctxDone = true) :
    c.pc = .fin ∨
    (∃ l, ownLabel n c.pc = some l ∧ l.ofCaller n = true ∧ (step0 s l).isSome = true) ∨
    (c.pc = .wr ∧ (step0 s (.wret (.call n) .ctx)).isSome = true) := by
  cases ho : ownLabel n c.pc with
  | some l => exact Or.inr (Or.inl ⟨l, rfl, ownLabel_ofCaller ho, own_step_enabled s n c hc l ho⟩)
  | none =>
    cases hp : c.pc <;> simp [hp, ownLabel] at ho
    · exact Or.inr (Or.inr ⟨rfl, by simp [step0, hc, hp, hctx]⟩)
    · have := (await_inv ls s h n c hc hp).2; rw [hctx] at this; cases this
    · exact Or.inl rfl

/-- **cancelled_call_returns_within_4.** From any state (reachable or not) in which the context of call `n` is done,
along any continuation `ls` whatsoever — the peer never answers, the cancellation notice is stuck in a
stalled transport or refused, other calls come and go, Close is called or not — the caller executes at
most 4 critical sections of its own (C1, W1, R, R at the very most) before it has returned (with the
context's error or the outcome that raced it, `completed_has_outcome`). -/
theorem cancelled_call_returns_within_4 (ls : List Label) (s s' : St) (h : run s ls = some s') (n : Nat) (c : Call) (hc : getCall s n = some c) (hctx : c.ctxDone = true) :
    ∃ c', getCall s' n = some c' ∧ c'.ctxDone = true ∧ ownSteps n ls + rankC c'.pc ≤ rankC c.pc ∧ rankC c.pc ≤ 4 ∧
      (rankC c.pc ≤ ownSteps n ls → c'.pc = .fin) := by
  -- a done context stays done
  obtain ⟨c', hc', hx', hb⟩ := rank_run (rank := rankC) (P := fun _ c => c.ctxDone = true)
    (fun hx hs hc => (caller_step_ctx_mono hs hc hx).imp fun _ ⟨h1, h2, h3⟩ => ⟨h1, h2, cstep_rankC h3⟩) ls hctx h hc
  exact ⟨c', hc', hx', hb, rankC_le _, fun hge => rankC_zero.mp (by omega)⟩

/-- The bound 3 of `terminated_call_returns_within_3` is attained: a call registered and standing before
its write gate when the reader fails and the session terminates needs W1 (refused), R, and — its context
having been cancelled meanwhile — the eager R. -/
example : ∃ s s', run {} [.start, .ecall, .c1 1, .read .eof, .rx] = some s ∧ s.done = true ∧
    (∃ c, getCall s 1 = some c ∧ c.pc = .w1 ∧ rankT c.pc = 3) ∧
    run s [.ectx 1, .w1 (.call 1), .retire 1, .retire 1] = some s' ∧
    ownSteps 1 [.ectx 1, .w1 (.call 1), .retire 1, .retire 1] = 3 ∧
    (∃ c', getCall s' 1 = some c' ∧ c'.pc = .fin ∧ c'.result = some (.err .ctx)) :=
  ⟨_, _, rfl, rfl, ⟨_, rfl, rfl, rfl⟩, rfl, rfl, ⟨_, rfl, rfl, rfl⟩⟩

/-- A caller inside the transport's `Write` when the session terminates (third alternative of
`terminated_calls_unblocked`): reachable. -/
example : ∃ s, run {} [.start, .ecall, .c1 1, .w1 (.call 1), .read .eof, .rx] = some s ∧ s.done = true ∧
    (∃ c, getCall s 1 = some c ∧ c.pc = .wr ∧ c.ready = some (.err .read)) ∧ s.closerUsed = true :=
  ⟨_, rfl, rfl, ⟨_, rfl, rfl, rfl⟩, rfl⟩

/-- The bound 4 of `cancelled_call_returns_within_4` is attained: context cancelled before the call was
even registered, on a healthy connection with a silent peer. -/
example : ∃ s s', run {} [.start, .ecall, .ectx 1] = some s ∧ s.shuttingDown = false ∧
    (∃ c, getCall s 1 = some c ∧ c.ctxDone = true ∧ rankC c.pc = 4) ∧
    run s [.c1 1, .w1 (.call 1), .wret (.call 1) .ctx, .retire 1, .retire 1] = some s' ∧
    ownSteps 1 [.c1 1, .w1 (.call 1), .wret (.call 1) .ctx, .retire 1, .retire 1] = 4 ∧
    (∃ c', getCall s' 1 = some c' ∧ c'.pc = .fin ∧ c'.result = some (.err .ctx)) ∧ s'.shuttingDown = false :=
  ⟨_, _, rfl, rfl, ⟨_, rfl, rfl, rfl⟩, rfl, rfl, ⟨_, rfl, rfl, rfl⟩, rfl⟩

/-- Cancelling while the peer never answers: the caller is parked before its eager retire, takes it, and
has returned; the detached cancellation notice (`cnotifs`) has not even started. -/
example : ∃ s s', run {} [.start, .ecall, .c1 1, .w1 (.call 1), .wret (.call 1) .ok, .ectx 1] = some s ∧
    (∃ c, getCall s 1 = some c ∧ c.pc = .rc) ∧ run s [.retire 1] = some s' ∧
    (∃ c', getCall s' 1 = some c' ∧ c'.pc = .fin ∧ c'.result = some (.err .ctx)) ∧
    (∃ nf, s'.cnotifs[0]? = some nf ∧ nf.pc = .n1) ∧ s'.outCalls = [] :=
  ⟨_, _, rfl, ⟨_, rfl, rfl⟩, rfl, ⟨_, rfl, rfl, rfl⟩, ⟨_, rfl, rfl⟩, rfl⟩

end Conn
