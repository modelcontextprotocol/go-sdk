import McpModel.Conn.MonRelDefs
import McpModel.Conn.CallRow
/-!
What the typed observation `obsOf s` says, in terms of the model state: membership of the parked
tokens, the finished results, the cancelled-context set, and the scalar fields.  Every parked token names
its goroutine (`PTok.src`), so a token is parked iff the generator of that goroutine emits it
(`mem_parked_src`); the generators over the two tables make one row per entry (`reqRow`, `callRow`), and a
token that only one row emits is parked iff that row is at the right program counter (`mem_parked_req`,
`mem_parked_call`).
-/
namespace Conn

theorem mem_insertBy {α : Type} (le : α → α → Bool) (x a : α) (l : List α) :
    a ∈ insertBy le x l ↔ a = x ∨ a ∈ l := by
  induction l with
  | nil => simp [insertBy]
  | cons y t ih =>
    simp only [insertBy]
    split
    · simp
    · simp [ih]; grind

theorem mem_sortBy {α : Type} (le : α → α → Bool) (a : α) (l : List α) : a ∈ sortBy le l ↔ a ∈ l := by
  induction l with
  | nil => simp [sortBy]
  | cons y t ih =>
    have : sortBy le (y :: t) = insertBy le y (sortBy le t) := rfl
    rw [this, mem_insertBy, ih]; simp

theorem sortBy_isEmpty {α : Type} (le : α → α → Bool) (l : List α) : (sortBy le l).isEmpty = l.isEmpty := by
  cases l with
  | nil => rfl
  | cons y t =>
    show (insertBy le y (sortBy le t)).isEmpty = false
    cases sortBy le t with
    | nil => rfl
    | cons z u => simp only [insertBy]; split <;> rfl

theorem obsOf_idle (s : St) : (obsOf s).idle = s.idle := by
  simp [Obs.idle, St.idle, obsOf, sortNat, sortBy_isEmpty]

theorem mem_oc (s : St) (n : Nat) : n ∈ (obsOf s).oc ↔ n ∈ s.outCalls := mem_sortBy _ n s.outCalls

theorem mem_zipIdx_flatMap {α β : Type} (l : List α) (k : Nat) (f : α × Nat → List β) (b : β) :
    b ∈ (l.zipIdx k).flatMap f ↔ ∃ i a, l[i]? = some a ∧ b ∈ f (a, i + k) := by
  simp only [List.mem_flatMap, Prod.exists, List.mem_zipIdx_iff_le_and_getElem?_sub]
  exact ⟨fun ⟨a, j, ⟨hj, ha⟩, hb⟩ => ⟨j - k, a, ha, by rwa [Nat.sub_add_cancel hj]⟩,
    fun ⟨i, a, ha, hb⟩ => ⟨a, i + k, ⟨Nat.le_add_left .., by rwa [Nat.add_sub_cancel]⟩, hb⟩⟩

theorem mem_zipIdx_filterMap {α β : Type} (l : List α) (k : Nat) (f : α × Nat → Option β) (b : β) :
    b ∈ (l.zipIdx k).filterMap f ↔ ∃ i a, l[i]? = some a ∧ f (a, i + k) = some b := by
  simp only [List.mem_filterMap, Prod.exists, List.mem_zipIdx_iff_le_and_getElem?_sub]
  exact ⟨fun ⟨a, j, ⟨hj, ha⟩, hb⟩ => ⟨j - k, a, ha, by rwa [Nat.sub_add_cancel hj]⟩,
    fun ⟨i, a, ha, hb⟩ => ⟨a, i + k, ⟨Nat.le_add_left .., by rwa [Nat.add_sub_cancel]⟩, hb⟩⟩

/-- The token of request `r` parked at `p`. -/
def reqRow (r : Nat) (p : ReqPc) : List PTok :=
  match p with
  | .a1 => [.a1 r] | .a2 => [.a2 r] | .running => [.h r] | .p1 => [.p1 r]
  | .w1 => [.w1 (.resp r)] | .wr => [.wr (.resp r)] | .w2 _ => [.w2 (.resp r)] | .p2 => [.p2 r]
  | _ => []

/-- The token of the caller of call `n` parked at `p`. -/
def callRow (n : Nat) (p : CallPc) : List PTok :=
  match p with
  | .c1 => [.c1 n] | .w1 => [.w1 (.call n)] | .wr => [.wr (.call n)] | .w2 _ => [.w2 (.call n)]
  | .r _ => [.r n] | .rc => [.r n] | _ => []

theorem mem_reqToks (s : St) (t : PTok) : t ∈ reqToks s ↔ ∃ r k, s.cores[r]? = some k ∧ t ∈ reqRow r k.pc :=
  mem_zipIdx_flatMap s.cores 0 (fun x => reqRow x.2 x.1.pc) t

theorem mem_callToks (s : St) (t : PTok) : t ∈ callToks s ↔ ∃ n c, getCall s n = some c ∧ t ∈ callRow n c.pc := by
  refine (mem_zipIdx_flatMap s.calls 1 (fun x => callRow x.2 x.1.pc) t).trans
    ⟨fun ⟨i, c, hc, ht⟩ => ⟨i + 1, c, hc, ht⟩, fun ⟨n, c, hc, ht⟩ => ?_⟩
  cases n with
  | zero => cases hc
  | succ i => exact ⟨i, c, hc, ht⟩

/-- The kind of goroutine a parked token belongs to. -/
inductive Src where
  | reader | call | unotif | cnotif | req | misc

def Who.src : Who → Src
  | .call _ => .call | .unotif _ => .unotif | .cnotif _ => .cnotif | .resp _ => .req

def PTok.src : PTok → Src
  | .start | .rd | .rr | .rx => .reader
  | .c1 _ | .r _ => .call
  | .n1 w | .n2 w | .w1 w | .wr w | .w2 w => w.src
  | .a1 _ | .a2 _ | .h _ | .p1 _ | .p2 _ => .req
  | .d1 | .cl1 | .wt _ | .k1 _ => .misc

/-- The generator of the tokens of one kind of goroutine. -/
def toksOf (s : St) : Src → List PTok
  | .reader => readerToks s | .call => callToks s | .unotif => unotifToks s | .cnotif => cnotifToks s
  | .req => reqToks s | .misc => miscToks s

theorem src_notifToks {w : Who} {nf : Notif} {t : PTok} (h : t ∈ notifToks w nf) : t.src = w.src := by
  unfold notifToks at h
  split at h <;> simp at h <;> subst h <;> rfl

theorem src_of_mem {s : St} {g : Src} {t : PTok} (h : t ∈ toksOf s g) : t.src = g := by
  cases g
  case reader =>
    simp only [toksOf, readerToks] at h
    split at h <;> simp at h <;> subst h <;> rfl
  case call =>
    obtain ⟨n, c, _, h⟩ := (mem_callToks s t).1 h
    unfold callRow at h
    split at h <;> simp at h <;> subst h <;> rfl
  case unotif =>
    simp only [toksOf, unotifToks, List.mem_flatMap] at h
    obtain ⟨⟨nf, k⟩, _, h⟩ := h
    exact src_notifToks h
  case cnotif =>
    simp only [toksOf, cnotifToks, List.mem_flatMap] at h
    obtain ⟨nf, _, h⟩ := h
    exact src_notifToks h
  case req =>
    obtain ⟨r, k, _, h⟩ := (mem_reqToks s t).1 h
    unfold reqRow at h
    split at h <;> simp at h <;> subst h <;> rfl
  case misc =>
    simp only [toksOf, miscToks, List.mem_append, List.mem_map, List.mem_replicate] at h
    rcases h with (((h | ⟨_, _, rfl⟩) | ⟨_, rfl⟩) | ⟨_, rfl⟩) | ⟨_, rfl⟩
    · split at h <;> simp at h; subst h; rfl
    all_goals rfl

theorem mem_parked_iff (s : St) (t : PTok) : t ∈ (obsOf s).parked ↔ t ∈ parkedToks s := by
  simp [obsOf, sortPTok, mem_sortBy]

theorem mem_parked_src (s : St) (t : PTok) : t ∈ (obsOf s).parked ↔ t ∈ toksOf s t.src := by
  rw [mem_parked_iff]
  constructor
  · intro h
    simp only [parkedToks, List.mem_append] at h
    rcases h with ((((h | h) | h) | h) | h) | h
    · exact src_of_mem (g := .reader) h ▸ h
    · exact src_of_mem (g := .call) h ▸ h
    · exact src_of_mem (g := .unotif) h ▸ h
    · exact src_of_mem (g := .cnotif) h ▸ h
    · exact src_of_mem (g := .req) h ▸ h
    · exact src_of_mem (g := .misc) h ▸ h
  · intro h
    simp only [parkedToks, List.mem_append]
    cases hs : t.src <;> rw [hs] at h <;> simp only [toksOf] at h <;> simp [h]

theorem mem_parked_req (s : St) {t : PTok} (r : Nat) (P : ReqPc → Prop) (hsrc : t.src = .req)
    (hP : ∀ r' p, t ∈ reqRow r' p ↔ r' = r ∧ P p) :
    t ∈ (obsOf s).parked ↔ ∃ k, s.cores[r]? = some k ∧ P k.pc := by
  rw [mem_parked_src, hsrc]
  refine (mem_reqToks s t).trans ⟨fun ⟨r', k, hk, h⟩ => ?_, fun ⟨k, hk, h⟩ => ⟨r, k, hk, (hP r k.pc).2 ⟨rfl, h⟩⟩⟩
  obtain ⟨rfl, h⟩ := (hP r' k.pc).1 h
  exact ⟨k, hk, h⟩

theorem mem_parked_h (s : St) (r : Nat) :
    PTok.h r ∈ (obsOf s).parked ↔ ∃ k, s.cores[r]? = some k ∧ k.pc = .running :=
  mem_parked_req s r (· = .running) rfl fun r' p => by cases p <;> simp [reqRow, eq_comm]

theorem mem_parked_a2 (s : St) (r : Nat) :
    PTok.a2 r ∈ (obsOf s).parked ↔ ∃ k, s.cores[r]? = some k ∧ k.pc = .a2 :=
  mem_parked_req s r (· = .a2) rfl fun r' p => by cases p <;> simp [reqRow, eq_comm]

theorem mem_parked_p2 (s : St) (r : Nat) :
    PTok.p2 r ∈ (obsOf s).parked ↔ ∃ k, s.cores[r]? = some k ∧ k.pc = .p2 :=
  mem_parked_req s r (· = .p2) rfl fun r' p => by cases p <;> simp [reqRow, eq_comm]

theorem mem_parked_call (s : St) {t : PTok} (n : Nat) (P : CallPc → Prop) (hsrc : t.src = .call)
    (hP : ∀ n' p, t ∈ callRow n' p ↔ n' = n ∧ P p) :
    t ∈ (obsOf s).parked ↔ ∃ c, getCall s n = some c ∧ P c.pc := by
  rw [mem_parked_src, hsrc]
  refine (mem_callToks s t).trans ⟨fun ⟨n', c, hc, h⟩ => ?_, fun ⟨c, hc, h⟩ => ⟨n, c, hc, (hP n c.pc).2 ⟨rfl, h⟩⟩⟩
  obtain ⟨rfl, h⟩ := (hP n' c.pc).1 h
  exact ⟨c, hc, h⟩

theorem mem_parked_r (s : St) (n : Nat) :
    PTok.r n ∈ (obsOf s).parked ↔ ∃ c, getCall s n = some c ∧ (c.pc = .rc ∨ ∃ e, c.pc = .r e) :=
  mem_parked_call s n (fun p => p = .rc ∨ ∃ e, p = .r e) rfl fun n' p => by cases p <;> simp [callRow, eq_comm]

theorem mem_parked_wr_call (s : St) (n : Nat) :
    PTok.wr (.call n) ∈ (obsOf s).parked ↔ ∃ c, getCall s n = some c ∧ c.pc = .wr :=
  mem_parked_call s n (· = .wr) rfl fun n' p => by cases p <;> simp [callRow, eq_comm]

theorem callRow_callNo {n : Nat} {p : CallPc} {t : PTok} (h : t ∈ callRow n p) : t.callNo = some n ∧ p.parked = true := by
  unfold callRow at h
  split at h <;> simp at h <;> subst h <;> exact ⟨rfl, rfl⟩

theorem callRow_of_parked {n : Nat} {p : CallPc} (h : p.parked = true) : ∃ t, t ∈ callRow n p ∧ t.callNo = some n := by
  cases p <;> first | exact ⟨_, List.mem_singleton_self _, rfl⟩ | cases h

theorem src_of_callNo {t : PTok} {n : Nat} (h : t.callNo = some n) : t.src = .call := by
  cases t <;> first | rfl | cases h | (rename_i w; cases w <;> first | rfl | cases h)

theorem callParked_iff (s : St) (n : Nat) :
    (obsOf s).callParked n = true ↔ ∃ c, getCall s n = some c ∧ c.pc.parked = true := by
  simp only [Obs.callParked, List.any_eq_true, beq_iff_eq]
  constructor
  · rintro ⟨t, ht, hn⟩
    rw [mem_parked_src, src_of_callNo hn] at ht
    obtain ⟨m, c, hc, h⟩ := (mem_callToks s t).1 ht
    obtain ⟨hm, hp⟩ := callRow_callNo h
    cases hn.symm.trans hm
    exact ⟨c, hc, hp⟩
  · rintro ⟨c, hc, hp⟩
    obtain ⟨t, ht, hn⟩ := callRow_of_parked (n := n) hp
    exact ⟨t, by rw [mem_parked_src, src_of_callNo hn]; exact (mem_callToks s t).2 ⟨n, c, hc, ht⟩, hn⟩

theorem mem_finToks_call (s : St) (n : Nat) (r : RTok) :
    FTok.call n r ∈ finToks s ↔ callFin s n = some r := by
  simp only [finToks, List.mem_append, mem_zipIdx_filterMap, callFin]
  constructor
  · rintro (⟨i, c, hc, h⟩ | ⟨i, nf, _, h⟩)
    · split at h
      · rename_i hpc hres
        cases h
        simp [getCall_eq, hc, hpc, hres]
      · cases h
    · split at h <;> cases h
  · intro h0
    obtain ⟨c, hc, h⟩ := Option.bind_eq_some_iff.1 h0
    clear h0
    cases n with
    | zero => cases hc
    | succ i =>
      split at h
      · rename_i hpc
        obtain ⟨res, hres, rfl⟩ := Option.map_eq_some_iff.1 h
        exact .inl ⟨i, c, hc, by simp [hpc, hres]⟩
      · cases h

theorem mem_fins_call (s : St) (n : Nat) (r : RTok) :
    FTok.call n r ∈ (obsOf s).fins ↔ callFin s n = some r := by
  simp only [obsOf, sortFTok, mem_sortBy, mem_finToks_call]

theorem finCall_eq_none_iff (l : List FTok) (n : Nat) :
    finCall l n = none ↔ ∀ r, FTok.call n r ∉ l := by
  unfold finCall
  rw [List.findSome?_eq_none_iff]
  constructor
  · intro h r hr
    have := h _ hr
    simp at this
  · intro h x hx
    split
    · split
      · rename_i k r hk; subst hk; exact absurd hx (h r)
      · rfl
    · rfl

theorem mem_of_finCall_eq_some {l : List FTok} {n : Nat} {r : RTok} (h : finCall l n = some r) :
    FTok.call n r ∈ l := by
  unfold finCall at h
  rw [List.findSome?_eq_some_iff] at h
  obtain ⟨l1, a, l2, rfl, h, _⟩ := h
  split at h
  · split at h
    · rename_i k r' hk; subst hk
      simp only [Option.some.injEq] at h; subst h; simp
    · simp at h
  · simp at h

theorem finCall_eq_some_of_unique (l : List FTok) (n : Nat)
    (hu : ∀ r r', FTok.call n r ∈ l → FTok.call n r' ∈ l → r = r') (r : RTok) :
    finCall l n = some r ↔ FTok.call n r ∈ l := by
  refine ⟨mem_of_finCall_eq_some, fun h => ?_⟩
  cases hf : finCall l n with
  | none => exact absurd h ((finCall_eq_none_iff l n).1 hf r)
  | some r' => rw [hu r r' h (mem_of_finCall_eq_some hf)]

theorem finCall_obsOf (s : St) (n : Nat) : finCall (obsOf s).fins n = callFin s n := by
  cases hc : callFin s n with
  | none =>
    rw [finCall_eq_none_iff]
    intro r hr
    rw [mem_fins_call, hc] at hr
    simp at hr
  | some r =>
    rw [finCall_eq_some_of_unique, mem_fins_call, hc]
    intro r r' h h'
    rw [mem_fins_call] at h h'
    rw [h] at h'
    exact Option.some.inj h'

theorem mem_x (s : St) (r : Nat) (c : XCause) :
    (r, c) ∈ (obsOf s).x ↔
      ∃ mt, s.metas[r]? = some mt ∧ mt.seen = true ∧ ∃ cz, mt.cancelled = some cz ∧ causeTok cz = c := by
  simp only [obsOf, cancelledToks, mem_zipIdx_filterMap]
  constructor
  · rintro ⟨i, mt, hm, h⟩
    split at h
    · rename_i hs hcz
      cases h
      exact ⟨mt, hm, hs, _, hcz, rfl⟩
    · cases h
  · rintro ⟨mt, hm, hs, cz, hcz, rfl⟩
    exact ⟨r, mt, hm, by simp [hs, hcz]⟩

theorem obsOf_init_fins : (obsOf ({} : St)).fins = [] := by
  rfl

theorem obsOf_init_parked : (obsOf ({} : St)).parked = [.start] := by
  rfl

/-! ### `contains` versions (the checks use `List.contains`) -/

theorem parked_contains_r (s : St) (n : Nat) :
    (obsOf s).parked.contains (.r n) = true ↔ ∃ c, getCall s n = some c ∧ (c.pc = .rc ∨ ∃ e, c.pc = .r e) := by
  rw [List.contains_iff_mem, mem_parked_r]

theorem parked_contains_wr_call (s : St) (n : Nat) :
    (obsOf s).parked.contains (.wr (.call n)) = true ↔ ∃ c, getCall s n = some c ∧ c.pc = .wr := by
  rw [List.contains_iff_mem, mem_parked_wr_call]

theorem callParked_eq_false_iff (s : St) (n : Nat) :
    (obsOf s).callParked n = false ↔ ∀ c, getCall s n = some c → c.pc.parked = false := by
  rw [← Bool.not_eq_true, callParked_iff]
  simp

end Conn
