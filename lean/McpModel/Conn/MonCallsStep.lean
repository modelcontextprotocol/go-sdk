import McpModel.Conn.ObsLemmas
import McpModel.Conn.MonBook
import McpModel.Conn.Progress
/-!
Preservation of the outgoing-call part of `MonRel` by every step of the model, and the step facts
about calls that the C01/C04 checks need.
-/
namespace Conn

namespace CallsStep

/-- What `ac.retire` may do to a call record: only `ready` (and the ghost counter) move, and `ready`
only from `none` to `some`. -/
structure Adv (c c' : Call) : Prop where
  pc : c'.pc = c.pc
  result : c'.result = c.result
  ctx : c'.ctxDone = c.ctxDone
  ready : ∀ x, c.ready = some x → c'.ready = some x

theorem Adv.refl (c : Call) : Adv c c := ⟨rfl, rfl, rfl, fun _ h => h⟩

theorem adv_retireCall (c : Call) (r : Res) : Adv c (retireCall c r).1 := by
  unfold retireCall
  split
  · exact Adv.refl c
  · next h => exact ⟨rfl, rfl, rfl, fun x hx => by rw [h] at hx; cases hx⟩

/-- What one label may do to the record of call `n` (`sd`: the connection was shutting down). -/
structure CallStep (l : Label) (sd : Bool) (n : Nat) (c c' : Call) : Prop where
  fin : c.pc = .fin → c'.pc = .fin ∧ c'.result = c.result
  ready : ∀ x, c.ready = some x → c'.ready = some x
  ctxF : c.ctxDone = true → c'.ctxDone = true
  ctxB : c'.ctxDone = true → c.ctxDone = true ∨ l = .ectx n
  c1 : c.pc = .c1 → c'.pc = .c1 ∨
    (l = .c1 n ∧ (sd = true → c.ready = none → c'.ready = some (.err .clientClosing)))

theorem CallStep.of_adv {l : Label} {sd : Bool} {n : Nat} {c c' : Call} (a : Adv c c') : CallStep l sd n c c' :=
  ⟨fun h => ⟨a.pc.trans h, a.result⟩, a.ready, fun h => a.ctx.trans h, fun h => Or.inl (a.ctx.symm.trans h),
   fun h => Or.inl (a.pc.trans h)⟩

theorem CallStep.of_mid {l : Label} {sd : Bool} {n : Nat} {c c' : Call} (h1 : c.pc ≠ .fin) (h2 : c.pc ≠ .c1)
    (hr : ∀ x, c.ready = some x → c'.ready = some x) (hctx : c'.ctxDone = c.ctxDone) : CallStep l sd n c c' :=
  ⟨fun h => absurd h h1, hr, fun h => hctx.trans h, fun h => Or.inl (hctx.symm.trans h), fun h => absurd h h2⟩

theorem CallStep.of_row {ok ina : Prop} {sd reg : Bool} {log' : List (Nat × Nat)} {l : Label} {n : Nat} {c c' : Call}
    (r : CRow ok sd reg ina log' n c l c') : CallStep l sd n c c' := by
  -- Retire leaves the record alone or retires it, then sets the program counter (and the result)
  have retire (e : Err) (c'' : Call) (h1 : c.pc ≠ .fin) (h2 : c.pc ≠ .c1)
      (hr : c''.ready = (if reg then (retireCall c (.err e)).1 else c).ready)
      (hx : c''.ctxDone = (if reg then (retireCall c (.err e)).1 else c).ctxDone) : CallStep l sd n c c'' := by
    have a : Adv c (if reg then (retireCall c (.err e)).1 else c) := by split <;> first | exact Adv.refl c | exact adv_retireCall c _
    exact .of_mid h1 h2 (fun x h => hr ▸ a.ready x h) (hx.trans a.ctx)
  cases r with
  | same => exact .of_adv (Adv.refl c)
  | rresp | rx => exact .of_adv (adv_retireCall c _)
  | ectx hx => exact ⟨fun h => ⟨h, rfl⟩, fun _ h => h, fun _ => rfl, fun _ => .inr rfl, .inl⟩
  | c1 hpc hsd =>
    exact ⟨fun h => by simp [hpc] at h, fun _ h => h, fun h => h, .inl, fun _ => .inr ⟨rfl, fun h => by simp [hsd] at h⟩⟩
  | c1Refused hpc hsd =>
    have a := adv_retireCall { c with pc := .await } (.err .clientClosing)
    exact ⟨fun h => by simp [hpc] at h, a.ready, fun h => a.ctx.trans h, fun h => .inl (a.ctx.symm.trans h),
      fun _ => .inr ⟨rfl, fun _ hr => by simp [retireCall, hr]⟩⟩
  | w1 hpc | w1Shut hpc | wretOk hpc | wretBroken hpc | wretBrokenCtx hpc | wretRejected hpc | wretCtx hpc | w2 hpc =>
    exact .of_mid (by simp [hpc]) (by simp [hpc]) (fun _ h => h) rfl
  | @retire e hpc => exact retire e _ (by simp [hpc]) (by simp [hpc]) rfl rfl
  | retireRc hpc => exact retire .ctx _ (by simp [hpc]) (by simp [hpc]) rfl rfl

theorem CallStep.settle {l : Label} {sd : Bool} {n : Nat} {c c' : Call} (a : CallStep l sd n c c') :
    CallStep l sd n c (settleCall c') := by
  have w := Woke.of_settleCall c'
  generalize settleCall c' = c'' at w
  -- a finished record and one before C1 are not in `Await`
  have he (h : c'.pc = .fin ∨ c'.pc = .c1) : c'' = c' := w.eq (by rcases h with h | h <;> simp [h])
  refine ⟨fun h => ?_, fun x hx => w.frame.2.1 ▸ a.ready x hx, fun h => w.frame.1 ▸ a.ctxF h, fun h => a.ctxB (w.frame.1 ▸ h), fun h => ?_⟩
  · rw [he (.inl (a.fin h).1)]; exact a.fin h
  · rcases a.c1 h with h1 | ⟨h1, h2⟩
    · exact .inl (by rw [he (.inr h1)]; exact h1)
    · exact .inr ⟨h1, fun x y => w.frame.2.1 ▸ h2 x y⟩

theorem step_call {s s' : St} {l : Label} (h : step s l = some s') {n : Nat} {c : Call}
    (hc : getCall s n = some c) : ∃ c', getCall s' n = some c' ∧ CallStep l s.shuttingDown n c c' := by
  obtain ⟨_, c0, _, hc', r⟩ := CRow.of_step h hc
  exact ⟨_, hc', (CallStep.of_row r).settle⟩

theorem step_calls_length {s s' : St} {l : Label} (h : step s l = some s') :
    s'.calls.length = s.calls.length + (if l = .ecall ∨ l = .ecallbad then 1 else 0) := by
  obtain ⟨s0, h0, rfl⟩ := step_some.mp h
  rw [settle_calls_length]; exact (CStep0.of_step0 h0).length

theorem step_call_back {s s' : St} {l : Label} (h : step s l = some s') {n : Nat} {c' : Call}
    (hc' : getCall s' n = some c') :
    (∃ c, getCall s n = some c ∧ CallStep l s.shuttingDown n c c') ∨
      (l = .ecall ∧ n = s.calls.length + 1 ∧ c' = {}) ∨
      (l = .ecallbad ∧ n = s.calls.length + 1 ∧ c' = badCall) := by
  rcases CRow.back h hc' with ⟨_, c, c0, _, hc, rfl, r⟩ | ⟨hn, ⟨hl, hc⟩ | ⟨hl, hc⟩⟩
  · exact .inl ⟨c, hc, (CallStep.of_row r).settle⟩
  · exact .inr (.inl ⟨hl, hn, hc⟩)
  · exact .inr (.inr ⟨hl, hn, hc⟩)

theorem settle_respLog (s : St) : (settle s).respLog = s.respLog := congrArg CallView.respLog (callView_settle s)

theorem step0_respLog {s s0 : St} {l : Label} (h : step0 s l = some s0) (x : Nat × Nat) (hx : x ∈ s0.respLog) :
    x ∈ s.respLog ∨ ∃ id p, s.reader = .rr id p ∧ x = (id, p) := by
  rcases (CStep0.of_step0 h).respLog with e | ⟨id, p, _, hrd, e⟩ <;> rw [e] at hx
  · exact .inl hx
  · rw [List.mem_append, List.mem_singleton] at hx
    exact hx.imp (fun h1 => h1) fun h1 => ⟨id, p, hrd, h1⟩

theorem book_ncalls_evOf (m : Mon) (p : Obs) (l : Label) :
    (m.book p (evOf l)).ncalls = m.ncalls + (if l = .ecall ∨ l = .ecallbad then 1 else 0) := by
  rw [(book_rest m p (evOf l)).1]
  cases he : evOf l
  case ecall => cases evOf_label he rfl; rfl
  case ecallbad => cases evOf_label he rfl; rfl
  all_goals
    have : ¬ (l = .ecall ∨ l = .ecallbad) := by rintro (rfl | rfl) <;> cases he
    rw [if_neg this]; rfl

end CallsStep

open CallsStep

theorem callFin_step {s s' : St} {l : Label} (h : step s l = some s') {n : Nat} {r : RTok}
    (hf : callFin s n = some r) : callFin s' n = some r := by
  obtain ⟨c, res, hc, hpc, hr, hrt⟩ := callFin_eq_some.mp hf
  obtain ⟨c', hc', a⟩ := step_call h hc
  obtain ⟨h1, h2⟩ := a.fin hpc
  exact callFin_eq_some.mpr ⟨c', res, hc', h1, by rw [h2]; exact hr, hrt⟩

theorem callFin_isSome_of_fin {s : St} (i : Inv4 s) {n : Nat} {c : Call} (hc : getCall s n = some c) (hpc : c.pc = .fin) :
    (callFin s n).isSome = true := by
  have o := i.inv.calls.ok n c hc
  have hr := (o.fin hpc).1
  cases hres : c.result with
  | none => simp [hres] at hr
  | some res => simp [callFin, hc, hpc, hres]

theorem ectx_unblocks {s s' : St} {n : Nat} (i : Inv4 s) (h : step s (.ectx n) = some s') :
    ∃ c, getCall s n = some c ∧
      (c.pc.parked = true ∨ (∃ c', getCall s' n = some c' ∧ c'.pc = .rc) ∨ (callFin s' n).isSome = true) := by
  obtain ⟨_, h0, _⟩ := step_some.mp h
  cases Step0.of_step0 h0 with
  | @ectx _ c hc _ =>
  refine ⟨c, hc, ?_⟩
  cases hpc : c.pc
  case await =>
    -- the record after the step is what `settleCall` makes of the cancelled one
    obtain ⟨_, c0, _, hc', r⟩ := CRow.of_step h hc
    cases r with
    | same hl => exact absurd rfl hl
    | ectx =>
      have w := Woke.of_settleCall { c with ctxDone := true }
      generalize settleCall _ = c' at w hc'
      cases w with
      | stay hw => cases (hw hpc).2
      | fin _ _ hx => cases hx
      | rc => exact .inr (.inl ⟨_, hc', rfl⟩)
  case fin =>
    obtain ⟨r, hr⟩ := Option.isSome_iff_exists.mp (callFin_isSome_of_fin i hc hpc)
    exact .inr (.inr (by rw [callFin_step h hr]; rfl))
  all_goals exact .inl rfl

theorem moncalls_step {m : Mon} {s s' : St} {l : Label} {p : Obs} (mc : MonCalls m s) (i : Inv4 s)
    (hp : p.done = s.done) (h : step s l = some s') : MonCalls (m.book p (evOf l)) s' := by
  obtain ⟨s0, h0, hs'⟩ := step_some.mp h
  refine ⟨?_, ?_, ?_, ?_, ?_⟩
  · rw [book_ncalls_evOf, step_calls_length h, mc.ncalls]
  · intro x hx
    refine (book_sent _ _ _ x.1 x.2).mpr (Or.inl ?_)
    rw [← hs', settle_respLog] at hx
    rcases step0_respLog h0 x hx with h1 | ⟨id, pl, h1, h2⟩
    · exact mc.sent x h1
    · rw [h2]; exact mc.sentRR id pl h1
  · intro id pl hr
    rw [← hs', settle_reader] at hr
    rcases ((FStep.of_step0 h0).readerMove i.inv.reqs).rr hr with h1 | h1
    · exact (book_sent _ _ _ id pl).mpr (Or.inl (mc.sentRR id pl h1))
    · subst h1; exact (book_sent _ _ _ id pl).mpr (Or.inr rfl)
  · intro n c' hc' hctx
    rcases step_call_back h hc' with ⟨c, hc, a⟩ | ⟨_, _, h3⟩ | ⟨_, _, h3⟩
    · rcases a.ctxB hctx with h1 | h1
      · exact (book_ctxd _ _ _ n).mpr (Or.inl (mc.ctxd n c hc h1))
      · subst h1; exact (book_ctxd _ _ _ n).mpr (Or.inr rfl)
    · subst h3; simp at hctx
    · subst h3; simp [badCall] at hctx
  · intro n hn
    rcases book_startedLate _ _ _ _ hn with h1 | ⟨h1, h2, h3⟩
    · obtain ⟨hd, c, hc, hcc⟩ := mc.late n h1
      refine ⟨done_stable h hd, ?_⟩
      obtain ⟨c', hc', a⟩ := step_call h hc
      refine ⟨c', hc', ?_⟩
      rcases hcc with hpc | hrd
      · rcases a.c1 hpc with h2 | ⟨_, h2⟩
        · exact Or.inl h2
        · right
          have hsd : s.shuttingDown = true := (i.inv.flags.dn hd).2.1
          exact h2 hsd ((i.inv.calls.ok n c hc).fresh hpc).2
      · exact Or.inr (a.ready _ hrd)
    · have hl : l = .ecall := evOf_label h1 rfl
      have hd : s.done = true := hp ▸ h2
      refine ⟨done_stable h hd, ?_⟩
      have hlen := step_calls_length h
      simp only [hl, true_or, if_true] at hlen
      rw [mc.ncalls] at h3
      obtain ⟨c', hc'⟩ := (getCall_some_iff (s := s') (n := n)).mpr ⟨by omega, by omega⟩
      refine ⟨c', hc', Or.inl ?_⟩
      rcases step_call_back h hc' with ⟨c, hc, _⟩ | ⟨_, _, h4⟩ | ⟨h4, _, _⟩
      · have := (getCall_some_pos hc).2; omega
      · subst h4; rfl
      · rw [hl] at h4; cases h4

theorem moncalls_mark {m : Mon} {s : St} (mc : MonCalls m s) (o : Obs) : MonCalls { m.mark o with prev := o } s :=
  ⟨mc.ncalls, mc.sent, mc.sentRR, mc.ctxd, mc.late⟩

end Conn
