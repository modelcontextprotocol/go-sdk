import McpModel.Conn.Terminate
/-!
C05 liveness: the hypotheses of `close_terminates` are satisfiable and necessary — for each of (a)–(d), and for
fairness, a reachable closing state in which exactly that hypothesis fails, all the others hold, and `done` is not
reached.
-/
namespace Conn

/-- In a state in which no critical section is enabled the connection can take no step
of its own: whatever such a state is waiting for has to come from the environment. -/
theorem maximal_stays {s s' : St} (hm : Maximal s) (ls : List Label) (hint : ∀ l ∈ ls, l.internal = true)
    (h : run s ls = some s') : ls = [] ∧ s' = s := by
  cases ls with
  | nil => simp [run] at h; exact ⟨rfl, h.symm⟩
  | cons l t =>
    exfalso
    simp only [run] at h
    cases hs : step s l with
    | none => simp [hs] at h
    | some s1 =>
      apply hm
      refine ⟨l, hint l (by simp), ?_⟩
      simp only [step, Option.map_eq_some_iff] at hs
      obtain ⟨s0, h0, _⟩ := hs
      simp [h0]

/-- `closingBusy`: obligation (a) outstanding. -/
example : ∃ s, run {} closingBusy = some s ∧ s.shuttingDown = true ∧ s.done = false ∧ s.closerUsed = false ∧
    enabledB s = false ∧ handlerRunningB s = true ∧ s.closeWaiting = 1 ∧ s.waitWaiting = 1 :=
  ⟨_, rfl, rfl, rfl, rfl, rfl, rfl, rfl, rfl⟩

/-- **close_terminates is not vacuous**: its hypotheses hold for the run `connPart` from the reachable closing
state `closingBusy ++ envPart`. -/
theorem close_terminates_nonvacuous :
    ∃ s s', run {} (closingBusy ++ envPart) = some s ∧ s.shuttingDown = true ∧ s.done = false ∧
      (∀ l ∈ connPart, l.internal = true) ∧ run s connPart = some s' ∧ Maximal s' ∧ Obligations s' ∧
      connPart.length ≤ mu s ∧ s'.done = true ∧ AllReturned s' ∧ Quiescent s' ∧ s'.closeFin = 1 ∧ s'.waitFin = [true] := by
  refine ⟨_, _, rfl, rfl, rfl, by decide, rfl, ?_, ?_, ?_⟩
  · exact maximal_of_enabledB rfl
  · exact (obligationsB_iff _).mp rfl
  · have h := close_terminates (closingBusy ++ envPart) connPart _ _ rfl rfl (by decide) rfl
      (maximal_of_enabledB rfl) ((obligationsB_iff _).mp rfl)
    exact ⟨h.1, h.2.1, h.2.2.1, h.2.2.2, rfl, rfl⟩

/-- What a necessity witness shows: a reachable state in which shutdown has begun, that is not done, in
which no critical section is enabled (so that it stays as it is until the environment acts). -/
structure StuckClosing (pre : List Label) (s : St) : Prop where
  reach : run {} pre = some s
  closing : s.shuttingDown = true
  notDone : s.done = false
  maximal : Maximal s

/-- **(a) is needed**: Close while a handler runs and never returns. Everything else is fulfilled. -/
theorem obligation_handlers_needed :
    ∃ pre s, StuckClosing pre s ∧ HandlerRunning s ∧ ¬ WriteInFlight s ∧ ¬ AwaitingPeer s ∧ ¬ ReadAfterClose s :=
  ⟨[.start, .read (.call 7), .a1 0, .a2 0, .d1, .eclose, .cl1], _, ⟨rfl, rfl, rfl, maximal_of_enabledB rfl⟩,
    (handlerRunningB_iff _).mp rfl, not_writeInFlight_of rfl,
    not_awaitingPeer_of rfl,
    not_readAfterClose_of rfl⟩

/-- **(b) is needed**: Close while a notification is inside a transport `Write` that never returns. -/
theorem obligation_writes_needed :
    ∃ pre s, StuckClosing pre s ∧ ¬ HandlerRunning s ∧ WriteInFlight s ∧ ¬ AwaitingPeer s ∧ ¬ ReadAfterClose s :=
  ⟨[.start, .enotify, .n1 (.unotif 0), .w1 (.unotif 0), .eclose, .cl1], _, ⟨rfl, rfl, rfl, maximal_of_enabledB rfl⟩,
    not_handlerRunning_of rfl,
    (writeInFlightB_iff _).mp rfl,
    not_awaitingPeer_of rfl,
    not_readAfterClose_of rfl⟩

/-- **(c) is needed**: Close while an outgoing call, written successfully, waits for a peer that never
answers and whose caller never gives up (`cancelCall`'s comment: Close waits for it by design). -/
theorem obligation_peer_needed :
    ∃ pre s, StuckClosing pre s ∧ ¬ HandlerRunning s ∧ ¬ WriteInFlight s ∧ AwaitingPeer s ∧ ¬ ReadAfterClose s :=
  ⟨[.start, .ecall, .c1 1, .w1 (.call 1), .wret (.call 1) .ok, .eclose, .cl1], _,
    ⟨rfl, rfl, rfl, maximal_of_enabledB rfl⟩,
    not_handlerRunning_of rfl,
    not_writeInFlight_of rfl,
    (awaitingPeerB_iff _).mp rfl,
    not_readAfterClose_of rfl⟩

/-- **(d) is needed**: Close on an idle connection whose transport does not fail the pending `Read` after
`Close` (it does not honour Close). -/
theorem obligation_transport_needed :
    ∃ pre s, StuckClosing pre s ∧ ¬ HandlerRunning s ∧ ¬ WriteInFlight s ∧ ¬ AwaitingPeer s ∧ ReadAfterClose s :=
  ⟨[.start, .eclose, .cl1], _, ⟨rfl, rfl, rfl, maximal_of_enabledB rfl⟩,
    not_handlerRunning_of rfl,
    not_writeInFlight_of rfl,
    not_awaitingPeer_of rfl,
    (readAfterCloseB_iff _).mp rfl⟩

/-- **Fairness is needed**: the reader has been handed EOF after Close, all obligations are fulfilled, but
its exit section RX has not been scheduled: not done (and `Close()` still blocked) as long as it is not. -/
theorem fairness_needed :
    ∃ pre s, run {} pre = some s ∧ s.shuttingDown = true ∧ s.done = false ∧ Obligations s ∧ Enabled s ∧ s.closeWaiting = 1 :=
  ⟨[.start, .eclose, .cl1, .read .eof], _, rfl, rfl, rfl, (obligationsB_iff _).mp rfl, (enabledB_iff _).mp rfl, rfl⟩

end Conn
