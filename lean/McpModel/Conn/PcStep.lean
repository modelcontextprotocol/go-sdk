import McpModel.Conn.ReqInv
import McpModel.Conn.CallInv
/-!
The control skeleton of the connection: where every process stands (program counters), whose context is still
live, which handler has not called `Async`, and the parked `Cancel`/`Close`/`Wait` goroutines.  It is what the
termination measures read.  `PStep` is `step0` projected onto it: new work arriving (`newCall`, `enotify`, `readReq`), a user's
`Close`/`Wait` parking (`park`), the two environment steps that flip a flag of a row (`ectx`, `hasync`), the transport's `Read`
handing the reader EOF or a response — the one move UP, by one (`readIn`, `PStep.mu_read`) — and otherwise *one process moves
to a program counter of smaller weight*, handing at most a bounded weight to others (a spawned notification, a dispatcher, a
parked `Cancel`).
-/
namespace Conn

/-! The weights.  Each rule moves one process down by at least what it hands to others: a request goes down in steps of
2 because its move may also create the dispatcher (`a2` with none: `wDisp` 0 → 1) or change the dispatcher's pc at equal
weight (`p2`, `d1`: the first alternative of `req` charges 1 for any change of `disp`); `a1 → a2` is 3 because `a1` may also
park a `Cancel` (+ 1 in `parked`); `rc = 7 > wNotif n1 = 5` because retiring from `rc` spawns the `notifications/cancelled`;
`await < r _ < c1` because a refused `c1` and a retire from `r` go to `await`.  `settle` must not raise the measure
(`mu_settle_le`): it moves a caller `await → rc` (8 > 7), and a `Close`/`Wait` waiter on to its last step (2 > 1). -/

def wCall : CallPc → Nat
  | .c1 => 13 | .w1 => 12 | .wr => 11 | .w2 _ => 10 | .r _ => 9 | .await => 8 | .rc => 7 | .fin => 0
def wNotif : NotifPc → Nat
  | .n1 => 5 | .w1 => 4 | .wr => 3 | .w2 _ => 2 | .n2 _ => 1 | .fin _ => 0
def wReq : ReqPc → Nat
  | .a1 => 19 | .a2 => 16 | .queued => 14 | .running => 12 | .p1 => 10 | .w1 => 8 | .wr => 6 | .w2 _ => 4 | .p2 => 2 | .fin => 0
/-- 1 while the reader has a critical section of its own pending; reading, and busy with a request (whose row carries the work), 0. -/
def wReader : ReaderPc → Nat
  | .start | .rr _ _ | .rx => 1
  | _ => 0
def wDisp : DispPc → Nat
  | .none => 0
  | _ => 1

structure PV where
  /-- per call: program counter and "context done" -/
  calls : List (CallPc × Bool)
  us : List NotifPc
  cs : List NotifPc
  reqs : List ReqPc
  asyncs : List Bool
  /-- the parked `Cancel`, `Close` and `Wait` goroutines, each weighted by the steps it still has to take -/
  parked : Nat
  disp : DispPc
  reader : ReaderPc

def pview (s : St) : PV :=
  { calls := s.calls.map fun c => (c.pc, c.ctxDone), us := s.unotifs.map (·.pc), cs := s.cnotifs.map (·.pc),
    reqs := s.cores.map (·.pc), asyncs := s.metas.map (·.asyncCalled),
    parked := s.cancels.length + 3 * s.closeCl1 + 2 * s.closeWaiting + s.closeWt + 2 * s.waitWaiting + s.waitWt,
    disp := s.disp, reader := s.reader }

/-! ### what the helper functions do to the skeleton

The row updates of the model are `List.modify` with a function that sets the program counter to a constant and
copies (or sets) the flag; `simp only` with the lemmas of this section turns the skeleton of any result state of
`Step0` into the skeleton of the state before with one row set. -/

theorem map_modify_same {α β : Type} (g : α → β) (f : α → α) (h : ∀ a, g (f a) = g a) (l : List α) (k : Nat) :
    (l.modify k f).map g = l.map g := by
  apply List.ext_getElem?; intro j
  simp only [List.getElem?_map, List.getElem?_modify]
  by_cases hj : k = j
  · subst hj; cases l[k]? <;> simp [h]
  · simp [hj]

theorem map_modify_comm {α β : Type} (g : α → β) (f : α → α) (f' : β → β) (h : ∀ a, g (f a) = f' (g a)) (l : List α)
    (k : Nat) : (l.modify k f).map g = (l.map g).modify k f' := by
  apply List.ext_getElem?; intro j
  simp only [List.getElem?_map, List.getElem?_modify]
  by_cases hj : k = j
  · subst hj; cases l[k]? <;> simp [h]
  · simp [hj]

def PV.setN (v : PV) (w : Who) (p : NotifPc) : PV :=
  match w with
  | .unotif k => { v with us := v.us.modify k fun _ => p }
  | .cnotif k => { v with cs := v.cs.modify k fun _ => p }
  | _ => v

def PV.getN (v : PV) : Who → Option NotifPc
  | .unotif k => v.us[k]?
  | .cnotif k => v.cs[k]?
  | _ => none

theorem pview_tail (s : St) : pview (tail s) = pview s := by rw [tail_eq]; rfl
theorem pview_modMeta_same (s : St) (r : Nat) (a : ReqMeta → Option Nat) (b : ReqMeta → Option Cause)
    (c d e : ReqMeta → Bool) (f g : ReqMeta → Option Nat) :
    pview (modMeta s r fun m => ⟨a m, b m, c m, m.asyncCalled, d m, e m, f m, g m⟩) = pview s := by
  simp only [pview, modMeta]; rw [map_modify_same]; intro; rfl
theorem pview_cancelReq (s : St) (r : Nat) (c : Cause) : pview (cancelReq s r c) = pview s := by
  simp only [pview, cancelReq, modMeta]
  rw [map_modify_same _ _ (fun m => by split <;> rfl)]
theorem pview_foldl_cancel (l : List (Nat × Nat)) (c : Cause) (s : St) :
    pview (l.foldl (fun s p => cancelReq s p.2 c) s) = pview s :=
  List.foldl_fixes pview (fun s p => pview_cancelReq s p.2 c) l s
theorem pview_markBroken (s : St) : pview (markBroken s) = pview s := by
  unfold markBroken; split
  · rfl
  · rw [pview_foldl_cancel]; rfl
theorem pview_modCall_pc (s : St) (n : Nat) (p : CallPc) (a : Call → Option Res) (b : Call → Nat) (d : Call → Bool)
    (e : Call → Option Res) :
    pview (modCall s n fun c => ⟨p, c.ctxDone, a c, b c, d c, e c⟩) =
      { pview s with calls := (pview s).calls.modify (n - 1) fun y => (p, y.2) } := by
  simp only [pview, modCall]; rw [map_modify_comm _ _ fun y => (p, y.2)]; intro; rfl
theorem pview_modCall_ctx (s : St) (n : Nat) (x : Bool) (a : Call → Option Res) (b : Call → Nat) (d : Call → Bool)
    (e : Call → Option Res) :
    pview (modCall s n fun c => ⟨c.pc, x, a c, b c, d c, e c⟩) =
      { pview s with calls := (pview s).calls.modify (n - 1) fun y => (y.1, x) } := by
  simp only [pview, modCall]; rw [map_modify_comm _ _ fun y => (y.1, x)]; intro; rfl
theorem pview_modCore_pc (s : St) (r : Nat) (p : ReqPc) (a : ReqCore → Option Nat) (b : ReqCore → Bool)
    (c : ReqCore → Owner) (d e : ReqCore → Nat) :
    pview (modCore s r fun q => ⟨a q, b q, p, c q, d q, e q⟩) =
      { pview s with reqs := (pview s).reqs.modify r fun _ => p } := by
  simp only [pview, modCore]; rw [map_modify_comm _ _ fun _ => p]; intro; rfl
theorem pview_modCore_same (s : St) (r : Nat) (a : ReqCore → Option Nat) (b : ReqCore → Bool)
    (c : ReqCore → Owner) (d e : ReqCore → Nat) :
    pview (modCore s r fun q => ⟨a q, b q, q.pc, c q, d q, e q⟩) = pview s := by
  simp only [pview, modCore]; rw [map_modify_same]; intro; rfl
theorem pview_setNotif (s : St) (w : Who) (p : NotifPc) (a : Notif → Option Nat) :
    pview (setNotif s w fun nf => ⟨p, a nf⟩) = (pview s).setN w p := by
  cases w with
  | call n => rfl
  | resp r => rfl
  | unotif k => simp only [pview, setNotif, PV.setN]; rw [map_modify_comm _ _ fun _ => p]; intro; rfl
  | cnotif k => simp only [pview, setNotif, PV.setN]; rw [map_modify_comm _ _ fun _ => p]; intro; rfl
theorem pview_toP2 (s : St) (r : Nat) :
    pview (toP2 s r) = { pview s with reqs := (pview s).reqs.modify r fun _ => .p2 } := by
  unfold toP2; rw [pview_cancelReq, pview_modCore_pc]

/-- The program counter `beginPR` puts request `r` at. -/
def prPc (s : St) (r : Nat) : ReqPc := if (s.cores[r]?.any (·.isCall)) = true then .p1 else .p2

theorem wReq_prPc (s : St) (r : Nat) : wReq (prPc s r) ≤ 10 := by unfold prPc; split <;> simp [wReq]

theorem prPc_lt (s : St) (r : Nat) {n : Nat} (h : 10 < n) : wReq (prPc s r) < n := Nat.lt_of_le_of_lt (wReq_prPc s r) h

theorem pview_beginPR (s : St) (r : Nat) (o : Owner) :
    pview (beginPR s r o) = { pview s with reqs := (pview s).reqs.modify r fun _ => prPc s r } := by
  unfold beginPR prPc
  cases hq : s.cores[r]? with
  | none =>
    have : (pview s).reqs.modify r (fun _ => ReqPc.p2) = (pview s).reqs := by
      apply List.ext_getElem?; intro j
      rw [List.getElem?_modify]
      by_cases hj : r = j
      · subst hj; simp [pview, hq]
      · simp [hj]
    simp only [Option.any_none, Bool.false_eq_true, if_false, this]
  | some q =>
    simp only [Option.any_some]
    split
    · rw [pview_modCore_pc]
    · rw [pview_toP2, pview_modCore_same]

theorem pview_call {s : St} {n : Nat} {c : Call} {p : CallPc} {x : Bool} (hc : getCall s n = some c) (hp : c.pc = p)
    (hx : c.ctxDone = x) : (pview s).calls[n - 1]? = some (p, x) := by
  simp [pview, calls_get hc, hp, hx]
theorem pview_req {s : St} {r : Nat} {q : ReqCore} {p : ReqPc} (hq : s.cores[r]? = some q) (hp : q.pc = p) :
    (pview s).reqs[r]? = some p := by
  simp [pview, hq, hp]
theorem pview_notif {s : St} {w : Who} {nf : Notif} {p : NotifPc} (hw : getNotif s w = some nf) (hp : nf.pc = p) :
    (pview s).getN w = some p := by
  cases w with
  | call n => cases hw
  | resp r => cases hw
  | unotif k => simp [PV.getN, pview, show s.unotifs[k]? = some nf from hw, hp]
  | cnotif k => simp [PV.getN, pview, show s.cnotifs[k]? = some nf from hw, hp]

theorem PStep.cast {P : PV → Prop} {w w' : PV} (e : w = w') (h : P w') : P w := e ▸ h

/-- Premises behind `ok →` hold when the request invariant does.  The environment's moves (`newCall`, `park`) leave what
they write arbitrary: they are never measured.  In `req`, `k` is the weight handed to `parked` and the `+ 1` of the first
alternative pays for a change of the dispatcher; the second alternative leaves the dispatcher alone. -/
inductive PStep (ok : Prop) (v : PV) : Label → PV → Prop
  | newCall {l p} (hl : l = .ecall ∨ l = .ecallbad) : PStep ok v l { v with calls := v.calls ++ [(p, false)] }
  | enotify : PStep ok v .enotify { v with us := v.us ++ [.n1] }
  | park {l p} (hl : l = .eclose ∨ l = .ewait) : PStep ok v l { v with parked := p }
  | readReq {m} (hm : m ≠ .eof ∧ ∀ id p, m ≠ .resp id p) :
      PStep ok v (.read m) { v with reader := .busy, reqs := v.reqs ++ [.a1], asyncs := v.asyncs ++ [false] }
  | readIn {m x} (hm : m = .eof ∨ ∃ id p, m = .resp id p) (hrd : v.reader = .read) (hx : wReader x = 1) :
      PStep ok v (.read m) { v with reader := x }
  | ectx {n p} (h : v.calls[n - 1]? = some (p, false)) :
      PStep ok v (.ectx n) { v with calls := v.calls.modify (n - 1) fun y => (y.1, true) }
  | hasync {r} (h : v.asyncs[r]? = some false) : PStep ok v (.hasync r) { v with asyncs := v.asyncs.modify r fun _ => true }
  | call {l n p q x} (hl : l.moves = true) (h : v.calls[n - 1]? = some (p, x)) (hw : wCall q < wCall p) :
      PStep ok v l { v with calls := v.calls.modify (n - 1) fun y => (q, y.2) }
  | callSpawn {l n x} (hl : l.moves = true) (h : v.calls[n - 1]? = some (.rc, x)) :
      PStep ok v l { v with calls := v.calls.modify (n - 1) fun y => (.fin, y.2), cs := v.cs ++ [.n1] }
  | notif {l w p q} (hl : l.moves = true) (h : v.getN w = some p) (hw : wNotif q < wNotif p) : PStep ok v l (v.setN w q)
  | req {l r p q c k d rd} (hl : l.moves = true) (h : ok → v.reqs[r]? = some p) (hc : c = v.parked + k)
      (hrd : wReader rd ≤ wReader v.reader) (hw : wReq q + k + 1 < wReq p ∨ (d = v.disp ∧ wReq q + k < wReq p)) :
      PStep ok v l { v with reqs := v.reqs.modify r fun _ => q, parked := c, disp := d, reader := rd }
  | reader {l x} (hl : l.moves = true) (hw : wReader x < wReader v.reader) : PStep ok v l { v with reader := x }
  | unpark {l p} (hl : l.moves = true) (h : p < v.parked) : PStep ok v l { v with parked := p }
  | d1Empty (hd : v.disp = .d1) : PStep ok v .d1 { v with disp := .none }

theorem retireIn_map_pcx (s : St) (m : Nat) (r : Res) :
    (retireIn s m r).calls.map (fun c => (c.pc, c.ctxDone)) = s.calls.map (fun c => (c.pc, c.ctxDone)) := by
  cases hc : getCall s m with
  | none => simp [retireIn, hc]
  | some c =>
    have key : ∀ c' : Call, c'.pc = c.pc → c'.ctxDone = c.ctxDone →
        (s.calls.modify (m - 1) fun _ => c').map (fun c => (c.pc, c.ctxDone)) = s.calls.map (fun c => (c.pc, c.ctxDone)) := by
      intro c' hpc hcx
      apply List.ext_getElem?; intro j
      simp only [List.getElem?_map, List.getElem?_modify]
      by_cases hj : m - 1 = j
      · subst hj; simp [calls_get hc, hpc, hcx]
      · simp [hj]
    cases hr : c.ready with
    | some x => simp only [retireIn, hc, retireCall, hr, if_true]; exact key c rfl rfl
    | none => simp only [retireIn, hc, retireCall, hr]; exact key _ rfl rfl

theorem pview_retireIn (s : St) (n : Nat) (r : Res) : pview (retireIn s n r) = pview s := by
  have := retireIn_map_pcx s n r
  rw [retireIn_footprint]; simp only [pview, this]
theorem pview_retireReg (s : St) (n : Nat) (r : Res) : pview (retireReg s n r) = pview s := by
  unfold retireReg; split
  · rw [pview_retireIn]; rfl
  · rfl
theorem pview_foldl_retire (l : List Nat) (r : Res) (s : St) : pview (l.foldl (fun s n => retireIn s n r) s) = pview s :=
  List.foldl_fixes pview (fun s n => pview_retireIn s n r) l s
theorem pview_spawnCancel (s : St) (n : Nat) : pview (spawnCancel s n) = { pview s with cs := (pview s).cs ++ [.n1] } := by
  simp [pview, spawnCancel]

theorem pview_set_reader (X : St) (x : ReaderPc) : pview { X with reader := x } = { pview X with reader := x } := rfl
theorem pview_set_disp (X : St) (d : DispPc) : pview { X with disp := d } = { pview X with disp := d } := rfl
theorem pview_set_hr_disp (X : St) (d : DispPc) :
    pview { X with handlerRunning := true, disp := d } = { pview X with disp := d } := rfl
theorem pview_set_outCalls (X : St) (oc : List Nat) : pview { X with outCalls := oc } = pview X := rfl

theorem erase_length_succ {l : List Nat} {a : Nat} (h : l.contains a = true) : (l.erase a).length + 1 = l.length := by
  have hm : a ∈ l := by simpa using h
  rw [List.length_erase_of_mem hm]
  have : 0 < l.length := List.length_pos_of_mem hm
  omega

theorem PStep.reqPc {ok : Prop} {v : PV} {l : Label} {r : Nat} {p q : ReqPc} (hl : l.moves = true) (h : v.reqs[r]? = some p)
    (hw : wReq q < wReq p) : PStep ok v l { v with reqs := v.reqs.modify r fun _ => q } :=
  .req (k := 0) hl (fun _ => h) rfl (Nat.le_refl _) (.inr ⟨rfl, hw⟩)

theorem PStep.of_step0 {s s' : St} {l : Label} (h : step0 s l = some s') : PStep (RInv (reqView s)) (pview s) l (pview s') := by
  -- the head of the dispatcher's queue is a request parked at `queued`
  have head_queued {hh : Nat} {rest : List Nat} (hqu : s.queue = hh :: rest) (hr : RInv (reqView s)) :
      (pview s).reqs[hh]? = some .queued := by
    have hrq : hh ∈ (reqView s).queue := by simp [reqView, hqu]
    obtain ⟨q, hq⟩ : ∃ q, s.cores[hh]? = some q := ⟨_, List.getElem?_eq_getElem (hr.qr hh hrq)⟩
    exact pview_req hq ((hr.ok hh q hq).que.mpr hrq)
  have key := Step0.of_step0 h
  cases key <;>
    try simp only [pview_tail, pview_modMeta_same, pview_cancelReq, pview_markBroken, pview_modCall_pc, pview_modCall_ctx,
      pview_modCore_pc, pview_modCore_same, pview_setNotif, pview_toP2, pview_beginPR, pview_retireIn, pview_retireReg, pview_spawnCancel,
      pview_foldl_cancel, pview_foldl_retire, pview_set_hr_disp, pview_set_outCalls]
  case ecall => exact .cast (by simp [pview]) (.newCall (p := .c1) (.inl rfl))
  case ecallbad => exact .cast (by simp [pview]) (.newCall (p := .fin) (.inr rfl))
  case enotify => exact .cast (by simp [pview]) .enotify
  case eclose => exact .park (.inl rfl)
  case ewait => exact .park (.inr rfl)
  case ectx hc hctx => exact .ectx (pview_call hc rfl hctx)
  case readEof hrd => exact .readIn (.inl rfl) hrd rfl
  case readResp hrd => exact .readIn (.inr ⟨_, _, rfl⟩) hrd rfl
  case readCall | readNotif | readCancel => exact .cast (by simp [pview]) (.readReq ⟨nofun, nofun⟩)
  case hasync hq hm hpc ha =>
    refine .cast ?_ (.hasync (show (pview s).asyncs[_]? = some false by simp [pview, hm, ha]))
    simp only [pview, modMeta]; rw [map_modify_comm _ _ (fun _ => true) (fun _ => rfl)]
  -- one process moves to a lighter program counter
  case wretCallOk hc hpc _ | wretCallBroken hc hpc _ | wretCallBrokenCtx hc hpc _ | wretCallCtx hc hpc _ | c1Refused hc hpc _
      | c1 hc hpc _ | w1Call hc hpc _ | w1CallShut hc hpc _ =>
    exact .call rfl (pview_call hc hpc rfl) (by simp [wCall])
  case wretCallRejected hc hpc | retireR hc hpc | w2Call hc hpc => exact .call rfl (pview_call hc hpc rfl) (by simp [wCall])
  case retireRc hc hpc => exact .callSpawn rfl (pview_call hc hpc rfl)
  case wretNotifOk hw hpc | wretNotifBroken hw hpc | wretNotifRejected hw hpc | n2 hw hpc | w2Notif hw hpc =>
    exact .notif rfl (pview_notif hw hpc) (by simp [wNotif])
  case n1Refused hw hpc _ | n1 hw hpc _ | w1Notif hw hpc _ | w1NotifShut hw hpc _ =>
    exact .notif rfl (pview_notif hw hpc) (by simp [wNotif])
  case wretRespOk hq hpc | wretRespBroken hq hpc | wretRespRejected hq hpc | w2Resp hq hpc =>
    exact .reqPc rfl (pview_req hq hpc) (by simp [wReq])
  case p1 hq hpc _ | p1Notif hq hpc _ | w1Resp hq hpc _ | w1RespShut hq hpc _ => exact .reqPc rfl (pview_req hq hpc) (by simp [wReq])
  case a1Call hq hpc _ _ _ _ => exact .reqPc rfl (pview_req hq hpc) (by simp [wReq])
  case a1Notif hq hpc _ _ => exact .reqPc rfl (pview_req hq hpc) (by simp [wReq])
  case hret hq hpc => exact .reqPc rfl (pview_req hq hpc) (prPc_lt _ _ (by decide))
  case a1Dup hq hpc _ _ _ => exact .reqPc rfl (pview_req hq hpc) (prPc_lt _ _ (by decide))
  case a1Refused hq hpc _ _ _ _ => exact .reqPc rfl (pview_req hq hpc) (prPc_lt _ _ (by decide))
  case a2Refused hq hpc _ => exact .reqPc rfl (pview_req hq hpc) (prPc_lt _ _ (by decide))
  case a1Cancel hq hpc _ _ =>
    exact .req (k := 1) rfl (fun _ => pview_req hq hpc) (by simp only [pview, List.length_append, List.length_singleton]; omega)
      (Nat.le_refl _) (.inr ⟨rfl, by simp [wReq]⟩)
  case a2Busy hq hpc _ _ => exact .req (k := 0) rfl (fun _ => pview_req hq hpc) rfl (Nat.zero_le _) (.inr ⟨rfl, by simp [wReq]⟩)
  case a2Idle hq hpc _ _ =>
    exact .req (k := 0) (d := .d1) (rd := .read) (q := .queued) rfl (fun _ => pview_req hq hpc) rfl (Nat.zero_le _)
      (.inl (by simp [wReq]))
  case d1Cancelled hd hqu hm _ =>
    exact .req (k := 0) rfl (head_queued hqu) rfl (Nat.le_refl _) (.inl (Nat.succ_lt_succ (prPc_lt _ _ (by decide))))
  case d1Start hd hqu hm _ => exact .req (k := 0) rfl (head_queued hqu) rfl (Nat.le_refl _) (.inl (by simp [wReq]))
  case p2 q hq hpc =>
    have e : pview (if s.incoming = 0 then { s with panicIncoming := true } else { s with incoming := s.incoming - 1 }) =
        pview s := by split <;> rfl
    cases q.owner <;>
      simp only [afterP2, pview_modMeta_same, pview_set_reader, pview_set_disp, pview_tail, pview_modCore_pc, e]
    · exact .req (k := 0) (rd := .read) (q := .fin) rfl (fun _ => pview_req hq hpc) rfl (Nat.zero_le _) (.inr ⟨rfl, by simp [wReq]⟩)
    · exact .req (k := 0) (d := .d1) (q := .fin) rfl (fun _ => pview_req hq hpc) rfl (Nat.le_refl _) (.inl (by simp [wReq]))
    · exact .reqPc rfl (pview_req hq hpc) (by simp [wReq])
  case startDone hrd _ | start hrd _ => exact .reader rfl (by simp [pview, hrd, wReader])
  case rresp hrd | rx hrd => exact .reader rfl (by simp [pview, hrd, wReader])
  case d1Empty hd _ => exact .d1Empty hd
  -- a parked goroutine is consumed
  case k1Hit hm _ | k1Miss hm _ => exact .unpark rfl (by have := erase_length_succ hm; simp only [pview]; omega)
  case cl1 hn => exact .unpark rfl (by simp only [pview]; omega)
  case wtWait _ hn | wtClose _ hn => exact .unpark rfl (by simp only [pview]; omega)

def sumBy {α : Type} (w : α → Nat) : List α → Nat
  | [] => 0
  | a :: t => w a + sumBy w t

theorem sumBy_append {α : Type} (w : α → Nat) (l : List α) (a : α) : sumBy w (l ++ [a]) = sumBy w l + w a := by
  induction l with
  | nil => simp [sumBy]
  | cons b t ih => simp [sumBy, ih]; omega

theorem sumBy_modify {α : Type} (w : α → Nat) (l : List α) (k : Nat) (a : α) (f : α → α) (h : l[k]? = some a) :
    sumBy w (l.modify k f) + w a = sumBy w l + w (f a) := by
  induction l generalizing k with
  | nil => simp at h
  | cons b t ih =>
    cases k with
    | zero => simp at h; subst h; simp [List.modify, sumBy]; omega
    | succ k => simp at h; have := ih k h; simp [List.modify, sumBy] at this ⊢; omega

theorem sumBy_map {α β : Type} (w : β → Nat) (g : α → β) (l : List α) : sumBy w (l.map g) = sumBy (fun a => w (g a)) l := by
  induction l with
  | nil => rfl
  | cons b t ih => simp [sumBy, ih]

def PV.mu (v : PV) : Nat :=
  sumBy (fun y => wCall y.1) v.calls + (sumBy wNotif v.us + sumBy wNotif v.cs) + sumBy wReq v.reqs +
    (v.parked + wDisp v.disp + wReader v.reader)

theorem PV.setN_mu {v : PV} {w : Who} {p q : NotifPc} (h : v.getN w = some p) :
    (v.setN w q).mu + wNotif p = v.mu + wNotif q := by
  cases w with
  | call n => cases h
  | resp r => cases h
  | unotif k => have := sumBy_modify wNotif v.us k p (fun _ => q) h; simp only [PV.mu, PV.setN]; omega
  | cnotif k => have := sumBy_modify wNotif v.cs k p (fun _ => q) h; simp only [PV.mu, PV.setN]; omega

theorem PStep.mu_lt {ok : Prop} {v w : PV} {l : Label} (hok : ok) (h : PStep ok v l w) (hl : l.moves = true) :
    w.mu < v.mu := by
  cases h with
  | newCall hl' => rcases hl' with rfl | rfl <;> cases hl
  | park hl' => rcases hl' with rfl | rfl <;> cases hl
  | enotify | readReq | readIn | ectx | hasync => cases hl
  | @call _ n p q x _ h hw =>
    have := sumBy_modify (fun y => wCall y.1) v.calls _ _ (fun y => (q, y.2)) h
    simp only [PV.mu] at this ⊢; omega
  | callSpawn _ h =>
    have := sumBy_modify (fun y => wCall y.1) v.calls _ _ (fun y => (CallPc.fin, y.2)) h
    have := sumBy_append wNotif v.cs .n1
    simp only [PV.mu, wCall, wNotif] at *; omega
  | @notif _ w p q _ h hw => have := PV.setN_mu (q := q) h; omega
  | @req _ r p q c k d rd _ h hc hrd hw =>
    have := sumBy_modify wReq v.reqs r p (fun _ => q) (h hok)
    have : wDisp d ≤ 1 := by cases d <;> simp [wDisp]
    simp only [PV.mu]
    rcases hw with hw | ⟨rfl, hw⟩ <;> omega
  | reader _ hw => simp only [PV.mu]; omega
  | unpark _ h => simp only [PV.mu]; omega
  | d1Empty hd => simp only [PV.mu, hd, wDisp]; omega

/-- `Read` handing the reader the failure or a response wakes it: one more step to take. -/
theorem PStep.mu_read {ok : Prop} {v w : PV} {m : RMsg} (h : PStep ok v (.read m) w)
    (hm : m = .eof ∨ ∃ id p, m = .resp id p) : w.mu = v.mu + 1 := by
  cases h with
  | newCall hl' => rcases hl' with hl' | hl' <;> cases hl'
  | park hl' => rcases hl' with hl' | hl' <;> cases hl'
  | readReq hm' =>
    rcases hm with rfl | ⟨id, p, rfl⟩
    · exact absurd rfl hm'.1
    · exact absurd rfl (hm'.2 id p)
  | readIn _ hrd hx =>
    have h0 : wReader v.reader = 0 := by rw [hrd]; rfl
    simp only [PV.mu]; omega
  | call hl | callSpawn hl | notif hl | req hl | reader hl | unpark hl => cases hl

end Conn
