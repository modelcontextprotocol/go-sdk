import McpModel.Conn.MonReqs
import McpModel.Conn.MonCancel
import McpModel.Conn.MonBad
import McpModel.Conn.MonFires
/-!
One step of the bridge: under `MonRel` no clause's firing condition holds of the model's own observation (`not_fires`), and
`MonRel` holds again after the step (`monrel_step`; the reader-failure part `MonRx` is preserved here, the others in their
own files).  First what `not_fires` needs of the model beyond `MonRel`: where the pc of a request can come from.
-/
namespace Conn

theorem k1_cores {s s0 : St} {id : Nat} (ri : RInv (reqView s)) (h : step0 s (.k1 id) = some s0) : s0.cores = s.cores := by
  have q := QStep.of_step0 ri h
  generalize hv : qv s0 = v0 at q
  cases q with
  | same hl => cases hl
  | reader hl => rcases hl with h | h | ⟨_, h, _⟩ <;> cases h
  | k1Hit => exact (congrArg QV.cores hv).trans (List.modify_id _ _)
  | k1Miss => exact congrArg QV.cores hv

/-- The pcs a label may move a request to (`a1`: the request a `read` creates). -/
def PcMove (l : Label) (pc : ReqPc) : Prop :=
  match l with
  | .read _ => pc = .a1
  | .a1 _ => pc = .a2 ∨ pc = .p1 ∨ pc = .p2
  | .a2 _ => pc = .queued ∨ pc = .p1 ∨ pc = .p2
  | .d1 => pc = .running ∨ pc = .p1 ∨ pc = .p2
  | .hret _ _ => pc = .p1 ∨ pc = .p2
  | .p1 _ => pc = .w1
  | .w1 (.resp _) => pc = .wr ∨ pc = .p2
  | .wret (.resp _) _ => pc = .p2 ∨ pc = .w2 .broken
  | .w2 (.resp _) => pc = .p2
  | .p2 _ => pc = .fin
  | _ => False

theorem pc_modify {P : ReqPc → Prop} {l : List ReqCore} {r j : Nat} {g : ReqCore → ReqCore} {k0 : ReqCore}
    (hg : ∀ k, P (g k).pc) (hk : (l.modify r g)[j]? = some k0) :
    (∃ k, l[j]? = some k ∧ k.pc = k0.pc) ∨ P k0.pc := by
  obtain ⟨k, hk', rfl⟩ := getElem?_modify_some hk
  split
  · exact Or.inr (hg k)
  · exact Or.inl ⟨k, hk', rfl⟩

theorem prPc_cases (c : Bool) : (if c then ReqPc.p1 else .p2) = .p1 ∨ (if c then ReqPc.p1 else .p2) = .p2 := by
  cases c <;> simp

theorem PcMove.running {l : Label} (h : PcMove l .running) : l = .d1 := by
  cases l with
  | w1 w => cases w <;> simp [PcMove] at h
  | wret w o => cases w <;> simp [PcMove] at h
  | w2 w => cases w <;> simp [PcMove] at h
  | _ => simp [PcMove] at h ⊢

theorem QV.markBroken_cores (v : QV) (we : Bool) : (v.markBroken we).cores = v.cores :=
  congrArg ReqView.cores (QV.markBroken_views v we).1

theorem pc_step {s s0 : St} {l : Label} {j : Nat} {k0 : ReqCore} (ri : RInv (reqView s)) (h : step0 s l = some s0)
    (hk : s0.cores[j]? = some k0) : (∃ k, s.cores[j]? = some k ∧ k.pc = k0.pc) ∨ PcMove l k0.pc := by
  have q := QStep.of_step0 ri h
  generalize hv : qv s0 = v0 at q
  have hk' : v0.cores[j]? = some k0 := by rw [← hv]; exact hk
  have same : v0.cores = s.cores → (∃ k, s.cores[j]? = some k ∧ k.pc = k0.pc) ∨ PcMove l k0.pc :=
    fun e => .inl ⟨k0, e ▸ hk', rfl⟩
  have row : ∀ {r : Nat} {g : ReqCore → ReqCore}, v0.cores = s.cores.modify r g → (∀ k, PcMove l (g k).pc) →
      (∃ k, s.cores[j]? = some k ∧ k.pc = k0.pc) ∨ PcMove l k0.pc :=
    fun e hg => by rw [e] at hk'; exact pc_modify hg hk'
  cases q with
  | same | reader | d1Empty | k1Miss => exact same rfl
  | hasync | k1Hit => exact same (List.modify_id _ _)
  | rx => exact same (QV.cancelAll_tables _ _ _).1
  | w2CallNotif => exact same (QV.markBroken_cores _ _)
  | arrive hrd hm =>
    rcases List.getElem?_snoc hk' with h' | ⟨_, rfl⟩
    · exact .inl ⟨k0, h', rfl⟩
    · exact .inr (RMsg.req_fresh hm).1.1
  | w2Resp => exact row (congrArg (List.modify · _ _) (QV.markBroken_cores _ _)) fun _ => rfl
  | p2 =>
    rename_i r q _ _ _
    refine row (r := r) (g := fun k => { k with pc := .fin }) ?_ fun _ => rfl
    cases q.owner
    · rfl
    · rfl
    · exact List.modify_id _ _
  | hret => exact row rfl fun _ => prPc_cases _
  | a1Refused | a2Refused | d1Cancelled => exact row rfl fun _ => .inr (prPc_cases _)
  | a1Dup => exact row rfl fun _ => .inr (.inr rfl)
  | a1Call | a1Cancel | a1Notif | enqueue | d1Start | w1Resp | wretRespOk | wretRespRejected => exact row rfl fun _ => .inl rfl
  | w1RespShut | wretRespBroken => exact row rfl fun _ => .inr rfl
  | p1 | p1Notif => exact row rfl fun _ => rfl

/-- A handler starts only at D1, for the head of the queue. -/
theorem running_new {s s0 : St} {l : Label} {j : Nat} {k0 : ReqCore} (ri : RInv (reqView s)) (h : step0 s l = some s0)
    (hk : s0.cores[j]? = some k0) (hr : k0.pc = .running) :
    (∃ k, s.cores[j]? = some k ∧ k.pc = .running) ∨ (l = .d1 ∧ s.disp = .d1 ∧ ∃ rest, s.queue = j :: rest) := by
  rcases pc_step ri h hk with ⟨k, hk', e⟩ | hm
  · exact .inl ⟨k, hk', e.trans hr⟩
  cases (hr ▸ hm).running
  have q := QStep.of_step0 ri h
  generalize hv : qv s0 = v0 at q
  have hk' : v0.cores[j]? = some k0 := by rw [← hv]; exact hk
  cases q with
  | same hl => cases hl
  | reader hl => rcases hl with h | h | ⟨_, h, _⟩ <;> cases h
  | d1Empty => exact .inl ⟨k0, hk', hr⟩
  | d1Cancelled =>
    obtain ⟨k, hk2, rfl⟩ := getElem?_modify_some hk'
    split at hr
    · exact absurd hr (by cases k.isCall <;> simp)
    · exact .inl ⟨k, hk2, hr⟩
  | @d1Start r rest _ hd hqu =>
    obtain ⟨k, hk2, rfl⟩ := getElem?_modify_some hk'
    split at hr
    · rename_i e; subst e; exact .inr ⟨rfl, hd, rest, hqu⟩
    · exact .inl ⟨k, hk2, hr⟩

theorem prev_fins {p : Obs} {s : St} (h : PrevOK p s) : p.fins = (obsOf s).fins := by
  rcases h with rfl | ⟨rfl, rfl⟩
  · rfl
  · rw [obsOf_init_fins]

theorem prev_done {p : Obs} {s : St} (h : PrevOK p s) : p.done = s.done := by
  rcases h with rfl | ⟨rfl, rfl⟩ <;> rfl

theorem prev_sd {p : Obs} {s : St} (h : PrevOK p s) : p.shuttingDown = s.shuttingDown := by
  rcases h with rfl | ⟨rfl, rfl⟩ <;> rfl

theorem prev_tc {p : Obs} {s : St} (h : PrevOK p s) : p.tc = s.transportCloses := by
  rcases h with rfl | ⟨rfl, rfl⟩ <;> rfl

theorem prev_q {p : Obs} {s : St} (h : PrevOK p s) : p.q = s.queue := by
  rcases h with rfl | ⟨rfl, rfl⟩ <;> rfl

theorem prev_parked_sub {p : Obs} {s : St} (h : PrevOK p s) {t : PTok} (ht : t ∈ p.parked) : t ∈ (obsOf s).parked := by
  rcases h with rfl | ⟨rfl, rfl⟩
  · exact ht
  · simp at ht

theorem prev_parked_h {p : Obs} {s : St} (h : PrevOK p s) {j : Nat} (ht : PTok.h j ∈ (obsOf s).parked) : PTok.h j ∈ p.parked := by
  rcases h with rfl | ⟨rfl, rfl⟩
  · exact ht
  · rw [obsOf_init_parked] at ht; simp at ht

theorem prev_callParked {p : Obs} {s : St} (h : PrevOK p s) (n : Nat) : p.callParked n = (obsOf s).callParked n := by
  rcases h with rfl | ⟨rfl, rfl⟩
  · rfl
  · simp [Obs.callParked, obsOf_init_parked, PTok.callNo]

theorem resTok_ne_panic (r : Res) : resTok r ≠ .panic := by
  cases r with
  | resp p => simp [resTok]
  | err e => cases e <;> simp [resTok, errTok]

theorem resTok_ok {r : Res} {pl : Nat} (h : resTok r = .ok pl) : r = .resp pl := by
  cases r with
  | resp p => simp [resTok] at h; rw [h]
  | err e => cases e <;> simp [resTok, errTok] at h

theorem resTok_ne_bad (r : Res) (x : String) : resTok r ≠ .bad x := by
  cases r with
  | resp p => simp [resTok]
  | err e => cases e <;> simp [resTok, errTok]

theorem resTok_ne_okPlain (r : Res) : resTok r ≠ .okPlain := by
  cases r with
  | resp p => simp [resTok]
  | err e => cases e <;> simp [resTok, errTok]

theorem resTok_marshal {r : Res} (h : resTok r = .marshal) : r = .err .marshal := by
  cases r with
  | resp p => simp [resTok] at h
  | err e => cases e <;> simp [resTok, errTok] at h ⊢

theorem fins_call {s : St} {n : Nat} {rt : RTok} (h : FTok.call n rt ∈ (obsOf s).fins) :
    ∃ c res, getCall s n = some c ∧ c.pc = .fin ∧ c.result = some res ∧ rt = resTok res :=
  callFin_eq_some.mp ((mem_fins_call s n rt).mp h)

theorem monrx_step {m : Mon} {s s' : St} {l : Label} {p : Obs} (R : MonRx m s) (h : step s l = some s') :
    MonRx (m.book p (evOf l)) s' := by
  refine ⟨fun hs => ?_, readErr_no_calls_step h R.none⟩
  obtain ⟨s0, h0, rfl⟩ := step_some.mp h
  rw [readErr_settle]
  rcases (book_rxSeen m p (evOf l)).mp hs with hm | he
  · exact readErr_mono_step0 h0 (Or.inl (R.seen hm))
  · exact readErr_mono_step0 h0 (Or.inr (evOf_label he rfl))

theorem monrx_mark {m : Mon} {s : St} (R : MonRx m s) (o : Obs) : MonRx { m.mark o with prev := o } s :=
  ⟨R.seen, R.none⟩

theorem req_lookup {m : Mon} {s : St} (mr : MonReqs m s) (i : Inv4 s) {r : Nat} {q : MReq} (hq : m.reqs[r]? = some q) :
    ∃ k mt, s.cores[r]? = some k ∧ s.metas[r]? = some mt ∧ ReqRel q k mt := by
  have hlt : r < m.reqs.length := (List.getElem?_eq_some_iff.mp hq).1
  have h1 : r < s.cores.length := by rw [← mr.nreqs]; exact hlt
  have h2 : r < s.metas.length := by rw [metas_len i]; exact h1
  exact ⟨s.cores[r], s.metas[r], List.getElem?_eq_getElem h1, List.getElem?_eq_getElem h2,
    mr.req r q _ _ hq (List.getElem?_eq_getElem h1) (List.getElem?_eq_getElem h2)⟩

theorem dview_ms_of {s : St} {r : Nat} {mt : ReqMeta} (h : s.metas[r]? = some mt) : (dview s).ms[r]? = some mt.mcore := by
  simp [dview, List.getElem?_map, h]

/-- In an idle state no handler is running: `incoming` counts every request between A1 and P2
(`RInv.cnt`), a running handler among them. -/
theorem no_handler_of_idle {s : St} (i : Inv4 s) (hidle : s.idle = true) (r : Nat) : PTok.h r ∉ (obsOf s).parked := by
  intro ht
  obtain ⟨k, hk, hrun⟩ := (mem_parked_h s r).mp ht
  have hcnt : s.incoming = countInflight s.cores := i.inv.reqs.cnt
  have hpos := countInflight_pos s.cores r k hk (by simp [hrun, ReqPc.inflight])
  have h0 : s.incoming = 0 := by
    simp only [St.idle, Bool.and_eq_true, beq_iff_eq] at hidle
    exact hidle.1.2
  omega

/-- C03: a handler newly seen running was started by D1 for the head of the queue; every request whose handler
has started is below it (`DInv.above`) and has released the dispatcher (`DInv.unrel`, `DInv.rel`). -/
theorem started_before_new {m : Mon} {p : Obs} {s s0 : St} {l : Label} (hp : PrevOK p s) (mr : MonReqs m s) (i : Inv4 s)
    (h0 : step0 s l = some s0) {j i' : Nat} {qi : MReq} (hj : PTok.h j ∈ (obsOf (settle s0)).parked) (hnp : PTok.h j ∉ p.parked)
    (hqi : (m.book p (evOf l)).reqs[i']? = some qi) (hst : qi.started = true) :
    i' < j ∧ (qi.asyncd = true ∨ qi.p2done = true) := by
  obtain ⟨k0, hk0, hpc0⟩ := (mem_parked_h (settle s0) j).mp hj
  rw [show (settle s0).cores = s0.cores from congrArg ReqView.cores (reqView_settle s0)] at hk0
  rcases running_new i.inv.reqs h0 hk0 hpc0 with ⟨k, hk, hpc⟩ | ⟨rfl, hd1, rest, hq⟩
  · exact absurd (prev_parked_h hp ((mem_parked_h s j).mpr ⟨k, hk, hpc⟩)) hnp
  · have hqi : m.reqs[i']? = some qi := hqi
    obtain ⟨ki, mti, hki, hmti, Ri⟩ := req_lookup mr i hqi
    have D := i.disp
    have hms := dview_ms_of hmti
    have hsome : mti.mcore.started.isSome = true := Ri.st hst
    have hrel : mti.mcore.released = true := by
      cases hr : mti.mcore.released with
      | true => rfl
      | false => have := D.unrel i' _ hms hsome hr; simp [dview, hd1] at this
    refine ⟨D.above j (by simp [dview, hq]) i' _ hms hsome, ?_⟩
    rcases D.rel i' _ ki hms (by simpa [dview] using hki) hrel with ha | hf
    · exact .inl (by rw [Ri.asyncd]; exact ha)
    · exact .inr (by rw [Ri.p2done]; simp [hf])

/-- `m` is the monitor before `book`, related to the state `s` before the step; the parts of the relation after `book` are
those of the state `s'` after it. -/
theorem not_fires {m : Mon} {p : Obs} {s s' : St} {l : Label} (hp : PrevOK p s) (i : Inv4 s) (i' : Inv4 s')
    (h : step s l = some s') (mr0 : MonReqs m s) (mc : MonCalls (m.book p (evOf l)) s')
    (mr : MonReqs (m.book p (evOf l)) s') (mx : MonRx (m.book p (evOf l)) s')
    (C : MonCancel (m.book p (evOf l)) s') (B : MonBad (m.book p (evOf l)) s') (c : Clause) :
    ¬ Fires (m.book p (evOf l)) p (obsOf s') (evOf l) c := by
  have calls := i'.inv.calls
  have flags := i'.inv.flags
  -- the ready outcome behind a finished result
  have ready : ∀ {n : Nat} {cl : Call} {res : Res}, getCall s' n = some cl → cl.result = some res →
      cl.ready = some res ∨ (res = .err .ctx ∧ cl.ctxDone = true) := fun hc hres => ((calls.ok _ _ hc).result _ hres).2
  -- the transport is closed only by a step that leaves the connection idle
  have closes : (obsOf s').tc = 1 → p.tc = 0 → s'.idle = true := fun h1 h2 =>
    tc_step h fun hc => by rw [prev_tc hp] at h2; rw [show (obsOf s').tc = s.transportCloses from hc, h2] at h1; cases h1
  cases c with
  | c01Twice n r r' =>
    rintro ⟨h1, h2, h3⟩
    rw [prev_fins hp] at h1
    rw [finCall_obsOf, callFin_step h ((mem_fins_call s n r).mp h1)] at h2
    exact h3 (Option.some.inj h2).symm
  | c01Lost n =>
    rintro ⟨r, h1, h2⟩
    rw [prev_fins hp] at h1
    rw [finCall_obsOf, callFin_step h ((mem_fins_call s n r).mp h1)] at h2
    cases h2
  | c01Foreign n pl =>
    rintro ⟨h1, h2⟩
    obtain ⟨cl, res, hc, _, hres, hrt⟩ := fins_call h1
    cases resTok_ok hrt.symm
    rcases ready hc hres with hr | ⟨hr, _⟩
    · exact h2 (mc.sent _ ((calls.ok n cl hc).own pl hr))
    · cases hr
  | c01Unparsable n r =>
    rintro ⟨h1, h2⟩
    obtain ⟨_, res, _, _, _, rfl⟩ := fins_call h1
    rcases h2 with h2 | ⟨x, h2⟩
    · exact resTok_ne_okPlain res h2
    · exact resTok_ne_bad res x h2
  | c01Panic n =>
    intro h1
    obtain ⟨_, res, _, _, _, hrt⟩ := fins_call h1
    exact resTok_ne_panic res hrt.symm
  | c01Blocked n =>
    rintro ⟨hd, h1, h2, h3, h4⟩
    have hd : s'.done = true := hd
    obtain ⟨cl, hc⟩ := (getCall_some_iff (s := s') (n := n)).mpr ⟨h1, by rw [← mc.ncalls]; exact h2⟩
    have hnp := (callParked_eq_false_iff s' n).mp h4 cl hc
    rw [finCall_obsOf] at h3
    have hnf : cl.pc ≠ .fin := fun hf => by have := callFin_isSome_of_fin i' hc hf; rw [h3] at this; cases this
    -- neither parked nor finished: blocked in Await, which a done connection does not allow
    have haw : cl.pc = .await := by cases hpc : cl.pc <;> simp_all [CallPc.parked]
    obtain ⟨hnone, _⟩ := i'.aw n cl hc haw
    have hoc : s'.outCalls = [] := by
      have hidle := (flags.dn hd).1
      have : (fview s').outCalls.isEmpty = true := by
        simp only [FV.idle, Bool.and_eq_true] at hidle; exact hidle.1.1.1
      simpa [fview] using this
    by_cases hr : cl.registered = true
    · have := (calls.ok n cl hc).reg.mpr ⟨hr, hnone⟩; rw [hoc] at this; cases this
    · have := (calls.ok n cl hc).refused (by simpa using hr) (by simp [haw]); simp [hnone] at this
  | c01Late n r =>
    rintro ⟨h1, h2, h3, h4⟩
    obtain ⟨_, cl, hc, hcl⟩ := mc.late n h1
    rw [finCall_obsOf] at h2
    obtain ⟨cl', res, hc', hpc, hres, rfl⟩ := callFin_eq_some.mp h2
    rw [hc] at hc'; cases hc'
    have hready : cl.ready = some (.err .clientClosing) := hcl.resolve_left fun hc1 => by rw [hpc] at hc1; cases hc1
    rcases ready hc hres with hr | ⟨rfl, hctx⟩
    · rw [hready] at hr; cases hr; exact h3 rfl
    · exact h4 ⟨rfl, mc.ctxd n cl hc hctx⟩
  | c01RegAfterRx oc =>
    rintro ⟨h1, _, h3⟩
    exact h3 (by simp [obsOf, sortNat, sortBy, mx.none (mx.seen h1)])
  | c01StillRegistered n =>
    rintro ⟨r, h1, h2⟩
    obtain ⟨cl, _, hc, hpc, _, _⟩ := fins_call h1
    have := ((calls.ok n cl hc).reg.mp ((mem_oc s' n).mp h2)).2
    have := ((calls.ok n cl hc).fin hpc).2
    simp_all
  | c01MarshalForeign n =>
    rintro ⟨h1, h2⟩
    obtain ⟨cl, res, hc, _, hres, hrt⟩ := fins_call h1
    cases resTok_marshal hrt.symm
    rcases ready hc hres with hr | ⟨hr, _⟩
    · exact h2 (B.bad n cl hc (Or.inl hr))
    · cases hr
  | c02Twice r =>
    rintro ⟨q, hq, hgt⟩
    obtain ⟨k, _, hk, _, R⟩ := req_lookup mr i' hq
    have := (i'.inv.reqs.ok r k hk).post
    rw [R.ok, R.p1] at hgt
    split at hgt <;> omega
  | c02NotifAnswered r =>
    rintro ⟨q, hq, hn, hw⟩
    obtain ⟨k, _, hk, _, R⟩ := req_lookup mr i' hq
    have hnot : q.isNotif = true := hn.elim id R.cancelKind
    have : k.isCall = false := by rw [R.kind, hnot]; rfl
    rw [R.w1, ((i'.inv.reqs.ok r k hk).notif this).1] at hw
    cases hw
  | c03BeforeSync j i0 =>
    obtain ⟨s0, h0, rfl⟩ := step_some.mp h
    rintro ⟨h1, h2, qj, qi, _, _, hqi, _, hsi, hai, hpi⟩
    rcases (started_before_new hp mr0 i h0 h1 h2 hqi hsi).2 with hx | hx
    · rw [hai] at hx; cases hx
    · rw [hpi] at hx; cases hx
  | c03LaterFirst i0 j =>
    obtain ⟨s0, h0, rfl⟩ := step_some.mp h
    rintro ⟨h1, h2, qj, qi, _, _, hqi, hlt, hsi⟩
    exact absurd (started_before_new hp mr0 i h0 h1 h2 hqi hsi).1 (by omega)
  | c04ReadCause r =>
    rintro ⟨h1, _, _, h4⟩
    obtain ⟨mt, hmt, _, cz, hcz, hc⟩ := (mem_x s' r _).mp h1
    cases cz <;> cases hc
    rw [mr.rx r mt hmt hcz] at h4; cases h4
  | c05WriteCause r =>
    rintro ⟨h1, _, _, h4⟩
    obtain ⟨mt, hmt, _, cz, hcz, hc⟩ := (mem_x s' r _).mp h1
    cases cz <;> cases hc
    rw [mr.bw (mr.bx r mt hmt hcz)] at h4; cases h4
  | c04Unrelated r =>
    rintro ⟨h1, _, q, hq, h3, h4, h5⟩
    obtain ⟨mt, hmt, _, cz, hcz, hc⟩ := (mem_x s' r _).mp h1
    obtain ⟨k, mt', hk, hmt', R⟩ := req_lookup mr i' hq
    rw [hmt] at hmt'; cases hmt'
    cases cz <;> cases hc
    · rw [R.cpeer hcz] at h3; cases h3
    · rcases R.cfin hcz with h2 | hf
      · exact h4 ((mem_parked_p2 s' r).mpr ⟨k, hk, h2⟩)
      · rw [R.p2done] at h5; simp [hf] at h5
  | c04NotCancelled id r =>
    rintro ⟨he, q, hq, hpeer, _, _, hno, hvis⟩
    cases evOf_label he rfl
    obtain ⟨k, mt, hk, hmt, R⟩ := req_lookup mr i' hq
    -- the request was visible before the step (A2, queued or running), and K1 does not touch the cores
    have hcores : s'.cores = s.cores := by
      obtain ⟨s0, h0, rfl⟩ := step_some.mp h
      exact (congrArg ReqView.cores (reqView_settle s0)).trans (k1_cores i.inv.reqs h0)
    rw [hcores] at hk
    have hpc : k.pc = .a2 ∨ k.pc = .queued ∨ k.pc = .running := by
      rcases hvis with hh | ha | hq
      · obtain ⟨k2, hk2, hp2⟩ := (mem_parked_h s r).mp (prev_parked_sub hp hh)
        rw [hk] at hk2; cases hk2; exact .inr (.inr hp2)
      · obtain ⟨k2, hk2, hp2⟩ := (mem_parked_a2 s r).mp (prev_parked_sub hp ha)
        rw [hk] at hk2; cases hk2; exact .inl hp2
      · rw [prev_q hp] at hq
        exact .inr (.inl (((i.inv.reqs.ok r k (by simpa [reqView] using hk)).que).mpr (by simpa [reqView] using hq)))
    obtain ⟨cz, hcz⟩ := Option.isSome_iff_exists.mp (R.peer hpeer)
    exact hno (r, causeTok cz) (List.mem_append_right _ ((mem_x s' r _).mpr ⟨mt, hmt, R.seen hpc, cz, hcz, rfl⟩)) rfl
  | c04CancelUnasked id =>
    rintro ⟨rest, hu⟩
    rw [C.un] at hu; cases hu
  | c04CtxStuck n =>
    rintro ⟨he, h2, h3, h4⟩
    cases evOf_label he rfl
    obtain ⟨cl, hc, hpk | ⟨cl', hc', hrc⟩ | hfin⟩ := ectx_unblocks i h
    · rw [prev_callParked hp, (callParked_iff s n).mpr ⟨cl, hc, hpk⟩] at h2; cases h2
    · exact h3 ((mem_parked_r s' n).mpr ⟨cl', hc', .inl hrc⟩)
    · rw [← finCall_obsOf, h4] at hfin; cases hfin
  | c05TcTwice =>
    intro hgt
    have := flags.tc
    simp only [fview] at this
    have : s'.transportCloses ≤ 1 := by rw [this]; by_cases hc : s'.closerUsed = true <;> simp [hc]
    exact absurd (show 1 < s'.transportCloses from hgt) (by omega)
  | c05OdTwice =>
    intro hgt
    have := flags.od
    simp only [fview] at this
    have : s'.onDone ≤ 1 := by rw [this]; by_cases hc : s'.done = true <;> simp [hc]
    exact absurd (show 1 < s'.onDone from hgt) (by omega)
  | c05ClosedBusy =>
    rintro ⟨h1, h2, h3⟩
    rw [obsOf_idle, closes h1 h2] at h3; cases h3
  | c05DoneBusy =>
    rintro ⟨hd, h3⟩
    have hi : s'.idle = true := (flags.dn hd).1
    rw [obsOf_idle, hi] at h3; cases h3
  | c05ClosedRunning r => exact fun ⟨h1, h2, h3⟩ => no_handler_of_idle i' (closes h1 h2) r h3
  | c05DoneRunning r => exact fun ⟨hd, h3⟩ => no_handler_of_idle i' (flags.dn hd).1 r h3
  | c05LateDispatch r =>
    rintro ⟨q, hq, ha, hh⟩
    obtain ⟨k, _, hk, _, R⟩ := req_lookup mr i' hq
    obtain ⟨k2, hk2, hrun⟩ := (mem_parked_h s' r).mp hh
    rw [hk] at hk2; cases hk2
    rcases R.late ha with h1 | h1 <;> simp [hrun, ReqPc.inPR] at h1
  | c05Stuck _ | c02Dropped _ | c02NoAttempt _ => exact id

theorem monrel_step {m : Mon} {s s' : St} {l : Label} (R : MonRel m s) (i : Inv4 s) (h : step s l = some s') :
    (monStepT m l (obsOf s')).2 = none ∧ MonRel (monStepT m l (obsOf s')).1 s' := by
  have i' : Inv4 s' := inv4_step i h
  obtain ⟨s0, h0, rfl⟩ := step_some.mp h
  have hp := R.prev
  obtain ⟨a, u, hbc⟩ := bookCancel_eq m (evOf l)
  have hprev : (m.bookCancel (evOf l)).prev = m.prev := by rw [hbc]
  have Rc : MonCalls (m.bookCancel (evOf l)) s := by
    rw [hbc]; exact ⟨R.calls.ncalls, R.calls.sent, R.calls.sentRR, R.calls.ctxd, R.calls.late⟩
  have Rr : MonReqs (m.bookCancel (evOf l)) s := by
    rw [hbc]; exact ⟨R.reqs.nreqs, R.reqs.idx, R.reqs.rx, R.reqs.bc, R.reqs.bn, R.reqs.bk, R.reqs.bw, R.reqs.bx, R.reqs.req⟩
  have Rb : MonBad (m.bookCancel (evOf l)) s := by
    rw [hbc]; exact ⟨R.bad.bad⟩
  have mb1 : MonBad ((m.bookCancel (evOf l)).book m.prev (evOf l)) (settle s0) := monbad_step Rb Rc h
  have Rx : MonRx (m.bookCancel (evOf l)) s := by
    rw [hbc]; exact ⟨R.rx.seen, R.rx.none⟩
  have mc1 : MonCalls ((m.bookCancel (evOf l)).book m.prev (evOf l)) (settle s0) := moncalls_step Rc i (prev_done hp) h
  have mr1 : MonReqs ((m.bookCancel (evOf l)).book m.prev (evOf l)) (settle s0) :=
    monreqs_settle (monreqs_step0 Rr i (prev_sd hp) h0)
  have mx1 : MonRx ((m.bookCancel (evOf l)).book m.prev (evOf l)) (settle s0) := monrx_step Rx h
  have C1 : MonCancel (m.bookCancel (evOf l)) (settle s0) := moncancel_step R.cancel i i' h
  have C3 : MonCancel ((m.bookCancel (evOf l)).book m.prev (evOf l)) (settle s0) := moncancel_book C1 m.prev (evOf l)
  refine ⟨?_, ?_, ?_, ?_, ?_, ?_, ?_⟩
  · exact chkAll_none (not_fires hp i i' h Rr mc1 mr1 mx1 C3 mb1)
  · exact Or.inl rfl
  · exact moncalls_mark mc1 _
  · exact monreqs_mark mr1
  · exact monrx_mark mx1 _
  · exact moncancel_mark C3 _
  · exact monbad_mark mb1 _

theorem monrel_traceFrom (ls : List Label) : ∀ (m : Mon) (s : St), MonRel m s → Inv4 s →
    runMonFrom m (traceFrom s ls) = none ∧ ∀ s', run s ls = some s' → MonRel (monAfter m (traceFrom s ls)) s' := by
  induction ls with
  | nil => intro m s R _; exact ⟨rfl, fun s' h => by simp [run] at h; subst h; exact R⟩
  | cons l ls ih =>
    intro m s R i
    simp only [traceFrom, run]
    cases h : step s l with
    | none => exact ⟨rfl, fun s' h' => by simp at h'⟩
    | some s' =>
      obtain ⟨hnone, R'⟩ := monrel_step R i h
      obtain ⟨a, b⟩ := ih _ s' R' (inv4_step i h)
      refine ⟨?_, fun s'' h' => b s'' (by simpa using h')⟩
      simp only [runMonFrom]
      cases hm : monStepT m l (obsOf s') with
      | mk m' c =>
        rw [hm] at hnone a
        simp only at hnone
        subst hnone
        exact a

/-! ### beside the bridge: the two handler checks on their own, and small facts about tokens -/

theorem runningHandler_none_of_idle {s : St} (i : Inv4 s) (hidle : s.idle = true) :
    (obsOf s).runningHandler = none := by
  unfold Obs.runningHandler
  rw [List.findSome?_eq_none_iff]
  intro t ht
  cases t with
  | h r => exact absurd ht (no_handler_of_idle i hidle r)
  | _ => rfl

theorem chkClosedRunning_none {p : Obs} {s s' : St} {l : Label} (hp : PrevOK p s) (i' : Inv4 s')
    (h : step s l = some s') : chkClosedRunning p (obsOf s') = none := by
  unfold chkClosedRunning
  by_cases hc : s'.transportCloses = s.transportCloses
  · have h1 : (obsOf s').tc = s.transportCloses := hc
    rw [h1, prev_tc hp]
    by_cases h0 : s.transportCloses = 0 <;> simp [h0]
  · rw [runningHandler_none_of_idle i' (tc_step h hc)]
    simp

theorem chkDoneRunning_none {s : St} (i : Inv4 s) : chkDoneRunning (obsOf s) = none := by
  unfold chkDoneRunning
  by_cases hd : s.done = true
  · have hidle : s.idle = true := (i.inv.flags.dn hd).1
    rw [runningHandler_none_of_idle i hidle]
    simp
  · have : (obsOf s).done = false := by simpa [obsOf] using hd
    simp [this]

theorem prev_x {p : Obs} {s : St} (h : PrevOK p s) : p.x = (obsOf s).x := by
  rcases h with rfl | ⟨rfl, rfl⟩ <;> rfl

theorem errTok_closed_or (e : Err) : errTok e = .closed ∨ (errTok e ≠ .closed ∧ errTok e ≠ .ctx) ∨ e = .ctx := by
  cases e <;> simp [errTok]

theorem none_orElse' {α : Type} (x : Option α) : (none <|> x) = x := by cases x <;> rfl

end Conn
