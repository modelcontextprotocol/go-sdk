import McpModel.Conn.ReqInv
/-! The shutdown flags and counters as a machine (`FLocal`, `FStep`, `FStep.of_step0`), its invariant `FInvV` (C05; and
"done ⇒ nothing pending" for C01), and what else one reads off `FStep`: which labels touch which flag, the registration
table, the reader's program counter. -/
namespace Conn

def ReaderPc.active : ReaderPc → Bool
  | .start | .gone => false
  | _ => true

@[simp] theorem fview_modCall (s : St) (n : Nat) (f : Call → Call) : fview (modCall s n f) = fview s := rfl
@[simp] theorem fview_modCore (s : St) (r : Nat) (f : ReqCore → ReqCore) : fview (modCore s r f) = fview s := rfl
@[simp] theorem fview_modMeta (s : St) (r : Nat) (f : ReqMeta → ReqMeta) : fview (modMeta s r f) = fview s := rfl
@[simp] theorem fview_cancelReq (s : St) (r : Nat) (c : Cause) : fview (cancelReq s r c) = fview s := rfl
@[simp] theorem fview_toP2 (s : St) (r : Nat) : fview (toP2 s r) = fview s := rfl
@[simp] theorem fview_setNotif (s : St) (w : Who) (f : Notif → Notif) : fview (setNotif s w f) = fview s := by
  cases w <;> rfl
@[simp] theorem fview_beginPR (s : St) (r : Nat) (o : Owner) : fview (beginPR s r o) = fview s := by
  rw [beginPR_eq]; rfl
@[simp] theorem fview_retireIn (s : St) (n : Nat) (r : Res) : fview (retireIn s n r) = fview s := by
  unfold retireIn; split
  · rfl
  · simp only []; split <;> rfl
@[simp] theorem fview_retireReg (s : St) (n : Nat) (r : Res) :
    fview (retireReg s n r) = { fview s with outCalls := (retireReg s n r).outCalls } := by
  rw [retireReg_eq]; rfl
@[simp] theorem fview_afterP2 (s : St) (r : Nat) (o : Owner) :
    fview (afterP2 s r o) = { fview s with reader := (afterP2 s r o).reader } := by
  cases o <;> rfl
theorem fview_foldl_cancel (l : List (Nat × Nat)) (c : Cause) (s : St) :
    fview (l.foldl (fun s p => cancelReq s p.2 c) s) = fview s :=
  List.foldl_fixes fview (fun s p => fview_cancelReq s p.2 c) l s
theorem fview_foldl_retire (l : List Nat) (r : Res) (s : St) :
    fview (l.foldl (fun s n => retireIn s n r) s) = fview s :=
  List.foldl_fixes fview (fun s n => fview_retireIn s n r) l s
@[simp] theorem fview_markBroken (s : St) : fview (markBroken s) = { fview s with writeErr := true } := by
  unfold markBroken; split
  · rename_i h; simp [fview, h]
  · rw [fview_foldl_cancel]; rfl
@[simp] theorem fview_settleCalls (s : St) : fview (settleCalls s) = fview s := rfl
@[simp] theorem fview_settleWaiters (s : St) : fview (settleWaiters s) = fview s := by
  rw [settleWaiters_eq]; rfl
@[simp] theorem fview_settleDisp (s : St) : fview (settleDisp s) = fview s := by
  rw [settleDisp_eq]; rfl
@[simp] theorem fview_settle (s : St) : fview (settle s) = fview s := by simp [settle]

structure FInvV (v : FV) : Prop where
  tc : v.transportCloses = if v.closerUsed then 1 else 0
  od : v.onDone = if v.done then 1 else 0
  /-- the "non-idle after done" panic is unreachable -/
  np : v.panicIdle = false
  /-- a finished connection is idle, shut down, has no reader and a closed transport -/
  dn : v.done = true → v.idle = true ∧ v.shuttingDown = true ∧ v.reading = false ∧ v.closerUsed = true
  rd : v.reading = v.reader.active

def FInv (s : St) : Prop := FInvV (fview s)

theorem finv_tail {v : FV} (i : FInvV v) : FInvV v.tail := by
  unfold FV.tail
  split
  · rename_i hd; rw [if_pos (i.dn hd).1]; exact i
  · rename_i hd
    split
    · -- idle and shutting down: the transport is closed (once), and `done` is set unless the reader still runs
      rename_i hc
      have hc := Bool.and_eq_true_iff.mp hc
      have hod : v.onDone + 1 = 1 := by rw [i.od, if_neg hd]
      have htc (h : ¬ v.closerUsed = true) : v.transportCloses + 1 = 1 := by rw [i.tc, if_neg h]
      by_cases hcu : v.closerUsed = true <;> by_cases hr : v.reading = true
      · simp only [if_pos hcu, if_pos hr]; exact i
      · simp only [if_pos hcu, if_neg hr]
        exact ⟨i.tc, hod, i.np, fun _ => ⟨hc.1, hc.2, Bool.eq_false_iff.mpr hr, hcu⟩, i.rd⟩
      · simp only [if_neg hcu, if_pos hr]
        exact ⟨htc hcu, i.od, i.np, fun h => absurd h hd, i.rd⟩
      · simp only [if_neg hcu, if_neg hr]
        exact ⟨htc hcu, hod, i.np, fun _ => ⟨hc.1, hc.2, Bool.eq_false_iff.mpr hr, rfl⟩, i.rd⟩
    · exact i

theorem FInvV.upd {v v1 : FV} (i : FInvV v)
    (h1 : v1.closerUsed = v.closerUsed) (h2 : v1.transportCloses = v.transportCloses) (h3 : v1.done = v.done)
    (h4 : v1.onDone = v.onDone) (h5 : v1.panicIdle = v.panicIdle)
    (hdn : v.done = true → v1.idle = true ∧ v1.shuttingDown = true ∧ v1.reading = false)
    (hrd : v1.reading = v1.reader.active) : FInvV v1 :=
  ⟨by rw [h2, h1]; exact i.tc, by rw [h4, h3]; exact i.od, by rw [h5]; exact i.np,
    fun h => by rw [h3] at h; exact ⟨(hdn h).1, (hdn h).2.1, (hdn h).2.2, by rw [h1]; exact (i.dn h).2.2.2⟩, hrd⟩

theorem rinv_byID_empty {s : St} (i : RInv (reqView s)) (h : s.incoming = 0) : s.byID = [] := by
  cases hb : s.byID with
  | nil => rfl
  | cons p t =>
    exfalso
    have hm : p ∈ (reqView s).byID := by simp [reqView, hb]
    have hlt := i.byr p hm
    obtain ⟨k, hk⟩ : ∃ k, (reqView s).cores[p.2]? = some k := ⟨_, List.getElem?_eq_getElem hlt⟩
    have hidx := ((i.ok p.2 k hk).idx p.1).mp hm
    have hinfl : k.pc.inflight = true := by
      have := hidx.2.2
      cases hpc : k.pc <;> simp [hpc, ReqPc.indexed, ReqPc.inflight] at this ⊢
    have := i.incoming_pos hk hinfl
    simp only [reqView] at this
    omega

/-- The labels that set one of the three flags behind `shuttingDown`: CL1 (`closing`), RX (`readErr`), W2 (`writeErr`). -/
def Label.breaks : Label → Bool
  | .cl1 | .rx | .w2 _ => true
  | _ => false

/-- What the body of a critical section (the function handed to `updateInFlight`) does to the flag view, before the
common tail.  The premises are what the section's guards say about the view; those behind `ok →` need the request
invariant (`FStep.of_step0` puts `RInv (reqView s)` for `ok`). -/
inductive FLocal (ok : Prop) (v : FV) : Label → FV → Prop
  | same {l} (hl : l.breaks = false) : FLocal ok v l v
  | startDone (hrd : v.reader = .start) (hd : v.done = true) : FLocal ok v .start { v with reader := .gone }
  | start (hrd : v.reader = .start) (hd : ¬ v.done = true) : FLocal ok v .start { v with reading := true, reader := .read }
  | n1 {w} (hadm : ok → ¬ (v.outCalls = [] ∧ v.incoming = 0 ∧ v.shuttingDown = true)) :
      FLocal ok v (.n1 w) { v with outNotifs := v.outNotifs + 1 }
  | n2 {w} : FLocal ok v (.n2 w) { v with outNotifs := v.outNotifs - 1 }
  | c1 {n} (hsd : ¬ v.shuttingDown = true) : FLocal ok v (.c1 n) { v with outCalls := v.outCalls ++ [n] }
  | retire {n oc} (h : oc.Sublist v.outCalls) : FLocal ok v (.retire n) { v with outCalls := oc }
  | cl1 : FLocal ok v .cl1 { v with closing := true }
  | rresp {id p oc} (hrd : v.reader = .rr id p) (h : oc.Sublist v.outCalls) :
      FLocal ok v .rresp { v with reader := .read, outCalls := oc }
  | rx (hrd : v.reader = .rx) : FLocal ok v .rx { v with reader := .gone, reading := false, readErr := true, outCalls := [] }
  | a1 {r} (hrd : ok → v.reader = .busy) : FLocal ok v (.a1 r) { v with incoming := v.incoming + 1 }
  | a2 {r hr} (hrd : ok → v.reader = .busy) (h : hr = true) : FLocal ok v (.a2 r) { v with reader := .read, handlerRunning := hr }
  | d1Empty : FLocal ok v .d1 { v with handlerRunning := false }
  | p2 {r} (h : ok → 1 ≤ v.incoming) : FLocal ok v (.p2 r) { v with incoming := v.incoming - 1 }
  | w2 {w} : FLocal ok v (.w2 w) { v with writeErr := true }

/-- An atomic section on the flag view: nothing (`same`: the environment's steps other than `Read`; stated for every
label that sets none of the three flags); `Read` hands the reader a message; a critical section is a local update and
the common tail; P2 of a request the reader goroutine owns then sends the reader back to `Read`. -/
inductive FStep (ok : Prop) (v : FV) : Label → FV → Prop
  | same {l} (hl : l.breaks = false) : FStep ok v l v
  | read {m x} (hrd : v.reader = .read) (hx : x.active = true) (hm : ∀ id p, x = .rr id p → m = .resp id p) :
      FStep ok v (.read m) { v with reader := x }
  | tail {l w} : FLocal ok v l w → FStep ok v l w.tail
  | p2Read {r} (h : ok → 1 ≤ v.incoming) (hb : ok → v.reader = .busy) :
      FStep ok v (.p2 r) { ({ v with incoming := v.incoming - 1 } : FV).tail with reader := .read }

theorem retireReg_outCalls_sublist (s : St) (n : Nat) (r : Res) : (retireReg s n r).outCalls.Sublist s.outCalls := by
  unfold retireReg; split
  · rw [show (retireIn _ n r).outCalls = _ from congrArg FV.outCalls (fview_retireIn _ n r)]; exact List.erase_sublist
  · exact List.Sublist.refl _

theorem FStep.of_step0 {s s' : St} {l : Label} (h : step0 s l = some s') :
    FStep (RInv (reqView s)) (fview s) l (fview s') := by
  have busy {r : Nat} {q : ReqCore} (hq : s.cores[r]? = some q) (hp : rdrPrem q) (hr : RInv (reqView s)) :
      (fview s).reader = .busy := ((hr.ok r q hq).rdr hp).1
  cases Step0.of_step0 h with
  | ecall | ecallbad | enotify | eclose | ewait => exact .same rfl
  | ectx | wretCallOk | wretCallBroken | wretCallBrokenCtx | wretCallRejected | wretCallCtx | wretRespOk | wretRespBroken
  | wretRespRejected | wretNotifOk | wretNotifBroken | wretNotifRejected | hasync | hret =>
    simp only [fview_modCall, fview_modCore, fview_modMeta, fview_toP2, fview_setNotif, fview_beginPR]
    exact .same rfl
  | readEof hrd | readResp hrd | readCall hrd | readNotif hrd | readCancel hrd =>
    exact .read hrd rfl (by intro id p e; cases e <;> rfl)
  | startDone hrd hd => rw [fview_tail]; exact .tail (.startDone hrd hd)
  | start hrd hd => rw [fview_tail]; exact .tail (.start hrd hd)
  | n1 _ _ hadm =>
    simp only [fview_tail, fview_setNotif]
    refine .tail (.n1 fun hr ⟨h1, h2, h3⟩ => hadm ?_)
    rw [rinv_byID_empty hr h2, show s.outCalls = [] from h1]; exact h3
  | n2 => simp only [fview_tail, fview_setNotif]; exact .tail .n2
  | c1 _ _ hsd => simp only [fview_tail, fview_modCall]; exact .tail (.c1 hsd)
  | retireR | retireRc =>
    simp only [fview_modCall, fview_tail, fview_spawnCancel, fview_retireReg]
    exact .tail (.retire (retireReg_outCalls_sublist _ _ _))
  | cl1 => rw [fview_tail]; exact .tail .cl1
  | rresp hrd =>
    simp only [fview_tail, fview_retireReg]
    exact .tail (.rresp hrd (retireReg_outCalls_sublist { s with reader := .read, respLog := _ } _ _))
  | rx hrd =>
    rw [fview_tail, fview_foldl_cancel]
    have hv : fview { (s.outCalls.foldl (fun s n => retireIn s n (.err .read))
        { s with reader := .gone, reading := false, readErr := true }) with outCalls := [] } =
        { fview s with reader := .gone, reading := false, readErr := true, outCalls := [] } :=
      congrArg (fun v : FV => { v with outCalls := [] }) (fview_foldl_retire s.outCalls (.err .read) _)
    rw [hv]; exact .tail (.rx hrd)
  | a1Dup hq hpc | a1Refused hq hpc | a1Call hq hpc | a1Cancel hq hpc | a1Notif hq hpc =>
    simp only [fview_tail, fview_beginPR, fview_modMeta, fview_modCore]
    exact .tail (.a1 (busy hq (.inl hpc)))
  | a2Busy hq hpc _ hh =>
    simp only [fview_tail, fview_modCore]
    exact .tail (.a2 (hr := s.handlerRunning) (busy hq (.inr (.inl hpc))) hh)
  | a2Idle hq hpc =>
    rw [fview_tail]
    exact .tail (.a2 (busy hq (.inr (.inl hpc))) rfl)
  | d1Empty => rw [fview_tail]; exact .tail .d1Empty
  | @p2 r q hq hpc =>
    have hpos (hr : RInv (reqView s)) : 1 ≤ (fview s).incoming :=
      hr.incoming_pos (r := r) hq (by simp [hpc, ReqPc.inflight])
    -- on the flag view the two branches of P2 agree: `incoming` is `incoming - 1` also when it was zero
    have e : fview (if s.incoming = 0 then { s with panicIncoming := true } else { s with incoming := s.incoming - 1 }) =
        { fview s with incoming := (fview s).incoming - 1 } := by
      split
      · rename_i h0; simp only [fview, h0]
      · rfl
    cases hown : q.owner with
    | reader =>
      rw [fview_afterP2, fview_tail, fview_modCore, e]
      exact .p2Read hpos (busy hq (.inr (.inr ⟨hown, by simp [hpc, ReqPc.inPR]⟩)))
    | dispatcher =>
      simp only [afterP2]
      rw [show ∀ Y : St, fview { Y with disp := DispPc.d1 } = fview Y from fun _ => rfl, fview_tail, fview_modCore, e]
      exact .tail (.p2 hpos)
    | handler =>
      simp only [afterP2, fview_modMeta, fview_tail, fview_modCore, e]; exact .tail (.p2 hpos)
  | w2Call | w2Resp | w2Notif =>
    simp only [fview_tail, fview_modCall, fview_toP2, fview_setNotif, fview_markBroken]; exact .tail .w2
  | _ =>
    simp only [fview_tail, fview_modCall, fview_modCore, fview_modMeta, fview_cancelReq, fview_toP2, fview_setNotif,
      fview_beginPR, fview_retireIn]
    exact .tail (.same rfl)

theorem idle_outCalls {v : FV} (h : v.idle = true) : v.outCalls = [] := by
  simp only [FV.idle, Bool.and_eq_true] at h
  exact List.isEmpty_iff.mp h.1.1.1

theorem FInvV.local {ok : Prop} {v w : FV} {l : Label} (hok : ok) (i : FInvV v) (h : FLocal ok v l w) : FInvV w := by
  have act (hrd : v.reader.active = true) : v.reading = true ∧ ¬ v.done = true :=
    ⟨i.rd.trans hrd, fun hd => by have := (i.dn hd).2.2.1.symm.trans (i.rd.trans hrd); cases this⟩
  have idle (hd : v.done = true) := by
    have := (i.dn hd).1
    simp only [FV.idle, Bool.and_eq_true, beq_iff_eq, Bool.not_eq_true', List.isEmpty_iff] at this
    exact this
  cases h with
  | same => exact i
  | startDone hrd hd =>
    exact i.upd rfl rfl rfl rfl rfl (fun hd => ⟨(i.dn hd).1, (i.dn hd).2.1, (i.dn hd).2.2.1⟩)
      (by have := i.rd; rwa [hrd] at this)
  | start hrd hd => exact i.upd rfl rfl rfl rfl rfl (fun hd' => absurd hd' hd) rfl
  | n1 hadm =>
    exact i.upd rfl rfl rfl rfl rfl (fun hd => absurd ⟨(idle hd).1.1.1, (idle hd).1.2, (i.dn hd).2.1⟩ (hadm hok)) i.rd
  | n2 =>
    refine i.upd rfl rfl rfl rfl rfl (fun hd => ⟨?_, (i.dn hd).2.1, (i.dn hd).2.2.1⟩) i.rd
    obtain ⟨⟨⟨h1, h2⟩, h3⟩, h4⟩ := idle hd
    simp [FV.idle, h1, h2, h3, h4]
  | c1 hsd => exact i.upd rfl rfl rfl rfl rfl (fun hd => absurd (i.dn hd).2.1 hsd) i.rd
  | @retire _ oc hs =>
    refine i.upd rfl rfl rfl rfl rfl (fun hd => ⟨?_, (i.dn hd).2.1, (i.dn hd).2.2.1⟩) i.rd
    obtain ⟨⟨⟨h1, h2⟩, h3⟩, h4⟩ := idle hd
    have : oc = [] := by rw [h1] at hs; exact List.sublist_nil.mp hs
    simp [FV.idle, this, h2, h3, h4]
  | cl1 => exact i.upd rfl rfl rfl rfl rfl (fun hd => ⟨(i.dn hd).1, rfl, (i.dn hd).2.2.1⟩) i.rd
  | rresp hrd => exact i.upd rfl rfl rfl rfl rfl (fun hd => absurd hd (act (by rw [hrd]; rfl)).2) (act (by rw [hrd]; rfl)).1
  | rx hrd => exact i.upd rfl rfl rfl rfl rfl (fun hd => absurd hd (act (by rw [hrd]; rfl)).2) rfl
  | a1 hrd => exact i.upd rfl rfl rfl rfl rfl (fun hd => absurd hd (act (by rw [hrd hok]; rfl)).2) i.rd
  | a2 hrd => exact i.upd rfl rfl rfl rfl rfl (fun hd => absurd hd (act (by rw [hrd hok]; rfl)).2) (act (by rw [hrd hok]; rfl)).1
  | d1Empty =>
    refine i.upd rfl rfl rfl rfl rfl (fun hd => ⟨?_, (i.dn hd).2.1, (i.dn hd).2.2.1⟩) i.rd
    obtain ⟨⟨⟨h1, h2⟩, h3⟩, h4⟩ := idle hd
    simp [FV.idle, h1, h2, h3]
  | p2 hpos => exact i.upd rfl rfl rfl rfl rfl (fun hd => by have := (idle hd).1.2; have := hpos hok; omega) i.rd
  | w2 => exact i.upd rfl rfl rfl rfl rfl (fun hd => ⟨(i.dn hd).1, by simp [FV.shuttingDown], (i.dn hd).2.2.1⟩) i.rd

theorem FInvV.step {ok : Prop} {v w : FV} {l : Label} (hok : ok) (i : FInvV v) (h : FStep ok v l w) : FInvV w := by
  cases h with
  | same => exact i
  | read hrd hx =>
    exact i.upd rfl rfl rfl rfl rfl (fun hd => ⟨(i.dn hd).1, (i.dn hd).2.1, (i.dn hd).2.2.1⟩)
      ((i.rd.trans (by rw [hrd]; rfl)).trans hx.symm)
  | tail hl => exact finv_tail (i.local hok hl)
  | p2Read hpos hb =>
    have k := finv_tail (i.local hok (.p2 (r := 0) hpos))
    -- the reader goroutine was busy, hence running: it returns to `Read`
    exact ⟨k.tc, k.od, k.np, k.dn, (congrArg FV.reading (FV.tail_eq _)).trans (i.rd.trans (by rw [hb hok]; rfl))⟩

theorem finv_step0 {s s' : St} {l : Label} (hr : RInv (reqView s)) (i : FInv s) (h : step0 s l = some s') : FInv s' :=
  FInvV.step hr i (FStep.of_step0 h)

theorem FLocal.owned {ok : Prop} {v w : FV} {l : Label} (h : FLocal ok v l w) :
    w.closerUsed = v.closerUsed ∧ w.done = v.done ∧ w.transportCloses = v.transportCloses := by
  cases h <;> exact ⟨rfl, rfl, rfl⟩

theorem FLocal.flags {ok : Prop} {v w : FV} {l : Label} (h : FLocal ok v l w) (hl : l.breaks = false) :
    w.closing = v.closing ∧ w.readErr = v.readErr ∧ w.writeErr = v.writeErr := by
  cases h with
  | cl1 | rx | w2 => cases hl
  | _ => exact ⟨rfl, rfl, rfl⟩

theorem FStep.flags {ok : Prop} {v w : FV} {l : Label} (h : FStep ok v l w) (hl : l.breaks = false) :
    w.closing = v.closing ∧ w.readErr = v.readErr ∧ w.writeErr = v.writeErr := by
  cases h with
  | same => exact ⟨rfl, rfl, rfl⟩
  | read => exact ⟨rfl, rfl, rfl⟩
  | tail h => rw [FV.tail_eq]; exact h.flags hl
  | p2Read => rw [FV.tail_eq]; exact ⟨rfl, rfl, rfl⟩

theorem settle_flags (s : St) :
    (settle s).closing = s.closing ∧ (settle s).readErr = s.readErr ∧ (settle s).writeErr = s.writeErr :=
  have e := fview_settle s
  ⟨congrArg FV.closing e, congrArg FV.readErr e, congrArg FV.writeErr e⟩

theorem FStep.shuttingDown {ok : Prop} {v w : FV} {l : Label} (h : FStep ok v l w) (hs : v.shuttingDown = true) :
    w.shuttingDown = true := by
  by_cases hb : l.breaks = false
  · obtain ⟨a, b, c⟩ := h.flags hb
    simpa [FV.shuttingDown, a, b, c] using hs
  · cases h with
    | same hl => exact absurd hl hb
    | read => exact absurd rfl hb
    | p2Read => exact absurd rfl hb
    | tail h =>
      rw [FV.tail_eq]
      cases h with
      | same hl => exact absurd hl hb
      | cl1 => rfl
      | rx => simp [FV.shuttingDown]
      | w2 => simp [FV.shuttingDown]
      | _ => exact absurd rfl hb

theorem oc_retireIn (s : St) (n : Nat) (r : Res) : (retireIn s n r).outCalls = s.outCalls :=
  congrArg FV.outCalls (fview_retireIn s n r)
theorem oc_foldl_retire (l : List Nat) (r : Res) (s : St) :
    (l.foldl (fun s n => retireIn s n r) s).outCalls = s.outCalls :=
  congrArg FV.outCalls (fview_foldl_retire l r s)
theorem oc_settle (s : St) : (settle s).outCalls = s.outCalls := congrArg FV.outCalls (fview_settle s)
theorem readErr_settle (s : St) : (settle s).readErr = s.readErr := congrArg FV.readErr (fview_settle s)

theorem FStep.outCalls {ok : Prop} {v w : FV} {l : Label} (h : FStep ok v l w) :
    (∀ x ∈ w.outCalls, x ∈ v.outCalls ∨ (l = .c1 x ∧ v.shuttingDown = false)) ∧
    (v.shuttingDown = true → w.outCalls.Sublist v.outCalls) := by
  cases h with
  | same => exact ⟨fun x hx => .inl hx, fun _ => .refl _⟩
  | read => exact ⟨fun x hx => .inl hx, fun _ => .refl _⟩
  | p2Read => rw [FV.tail_eq]; exact ⟨fun x hx => .inl hx, fun _ => .refl _⟩
  | tail h =>
    rw [FV.tail_eq]
    cases h with
    | c1 hsd =>
      refine ⟨fun x hx => ?_, fun h => absurd h hsd⟩
      rcases List.mem_append.mp hx with hx | hx
      · exact .inl hx
      · exact .inr ⟨by rw [List.mem_singleton.mp hx], by simpa using hsd⟩
    | retire hs => exact ⟨fun x hx => .inl (hs.subset hx), fun _ => hs⟩
    | rresp hrd hs => exact ⟨fun x hx => .inl (hs.subset hx), fun _ => hs⟩
    | rx => exact ⟨fun x hx => (by cases hx), fun _ => List.nil_sublist _⟩
    | _ => exact ⟨fun x hx => .inl hx, fun _ => .refl _⟩

theorem FStep.readErr {ok : Prop} {v w : FV} {l : Label} (h : FStep ok v l w) :
    (w.readErr = v.readErr ∧ l ≠ .rx) ∨ (l = .rx ∧ w.readErr = true ∧ w.outCalls = []) := by
  cases h with
  | same hl => exact .inl ⟨rfl, fun e => by subst e; cases hl⟩
  | read => exact .inl ⟨rfl, nofun⟩
  | p2Read => rw [FV.tail_eq]; exact .inl ⟨rfl, nofun⟩
  | tail h =>
    rw [FV.tail_eq]
    cases h with
    | rx => exact .inr ⟨rfl, rfl, rfl⟩
    | same hl => exact .inl ⟨rfl, fun e => by subst e; cases hl⟩
    | _ => exact .inl ⟨rfl, nofun⟩

theorem readErr_mono_step0 {s s' : St} {l : Label} (h : step0 s l = some s') (hr : s.readErr = true ∨ l = .rx) :
    s'.readErr = true := by
  rcases (FStep.of_step0 h).readErr with ⟨e, hne⟩ | ⟨_, e, _⟩
  · exact e.trans (hr.resolve_right hne)
  · exact e

theorem readErr_no_calls_step {s s' : St} {l : Label} (h : step s l = some s') (i : s.readErr = true → s.outCalls = []) :
    s'.readErr = true → s'.outCalls = [] := by
  simp only [step, Option.map_eq_some_iff] at h
  obtain ⟨s0, h0, rfl⟩ := h
  rw [readErr_settle, oc_settle]
  intro hr
  have f := FStep.of_step0 h0
  rcases f.readErr with ⟨e, _⟩ | ⟨_, _, ho⟩
  · -- the reader had failed before: nothing was registered, and C1 refuses
    have hs : s.readErr = true := e.symm.trans hr
    rw [List.eq_nil_iff_forall_not_mem]
    intro x hx
    rcases f.outCalls.1 x hx with hx' | ⟨_, hsd⟩
    · rw [show (fview s).outCalls = [] from i hs] at hx'; cases hx'
    · simp [fview, FV.shuttingDown, hs] at hsd
  · exact ho

def Label.setsReader : Label → Bool
  | .start | .read _ | .rresp | .rx | .a2 _ | .p2 _ => true
  | _ => false

theorem FStep.reader {ok : Prop} {v w : FV} {l : Label} (h : FStep ok v l w) (hl : l.setsReader = false) :
    w.reader = v.reader := by
  cases h with
  | same => rfl
  | read => cases hl
  | tail h => rw [FV.tail_eq]; cases h <;> first | rfl | cases hl
  | p2Read => cases hl

/-- The reader's program counter along a step: left alone; handed a message or the failure by `Read`; moved by its own
sections START, RR, RX; sent back to `Read` once the request it was busy with is enqueued or finished. -/
inductive ReaderMove : Label → ReaderPc → ReaderPc → Prop
  | same {l p} : ReaderMove l p p
  | read {m x} (hx : x.active = true) (hm : ∀ id p, x = .rr id p → m = .resp id p) : ReaderMove (.read m) .read x
  | startDone : ReaderMove .start .start .gone
  | start : ReaderMove .start .start .read
  | rresp {id p} : ReaderMove .rresp (.rr id p) .read
  | rx : ReaderMove .rx .rx .gone
  | back {l} : ReaderMove l .busy .read

theorem FStep.readerMove {ok : Prop} {v w : FV} {l : Label} (hok : ok) (h : FStep ok v l w) :
    ReaderMove l v.reader w.reader := by
  cases h with
  | same => exact .same
  | read hrd hx hm => rw [hrd]; exact .read hx hm
  | p2Read _ hb => rw [hb hok]; exact .back
  | tail h =>
    rw [FV.tail_eq]
    cases h with
    | startDone hrd => rw [hrd]; exact .startDone
    | start hrd => rw [hrd]; exact .start
    | rresp hrd => rw [hrd]; exact .rresp
    | rx hrd => rw [hrd]; exact .rx
    | a2 hrd => rw [hrd hok]; exact .back
    | _ => exact .same

theorem ReaderMove.rr {l : Label} {p q : ReaderPc} {id x : Nat} (m : ReaderMove l p q) (hq : q = .rr id x) :
    p = .rr id x ∨ l = .read (.resp id x) := by
  cases m with
  | same => exact .inl hq
  | read _ hm => exact .inr (congrArg Label.read (hm id x hq))
  | _ => cases hq

theorem settle_reader (s : St) : (settle s).reader = s.reader := congrArg FV.reader (fview_settle s)

theorem FStep.done {ok : Prop} {l : Label} {v w : FV} (h : FStep ok v l w) (hd : v.done = true) : w.done = true := by
  cases h with
  | same | read => exact hd
  | tail hl => exact FV.tail_done (hl.owned.2.1.trans hd)
  | p2Read => exact FV.tail_done (v := { v with incoming := v.incoming - 1 }) hd

theorem FStep.closes {ok : Prop} {l : Label} {v w : FV} (h : FStep ok v l w) (hc : w.transportCloses ≠ v.transportCloses) :
    w.idle = true := by
  cases h with
  | same | read => exact absurd rfl hc
  | tail hl => exact FV.tail_closes (hl.owned.2.2 ▸ hc)
  | p2Read => exact FV.tail_closes (v := { v with incoming := v.incoming - 1 }) hc

theorem FStep.writeErr {ok : Prop} {l : Label} {v w : FV} (h : FStep ok v l w) :
    ((∀ x, l ≠ .w2 x) → w.writeErr = v.writeErr) ∧ ((∃ x, l = .w2 x) → w.writeErr = true) := by
  cases h with
  | same hl => exact ⟨fun _ => rfl, fun ⟨x, hx⟩ => by subst hx; cases hl⟩
  | read => exact ⟨fun _ => rfl, fun ⟨x, hx⟩ => nomatch hx⟩
  | p2Read => rw [FV.tail_eq]; exact ⟨fun _ => rfl, fun ⟨x, hx⟩ => nomatch hx⟩
  | tail hl =>
    rw [FV.tail_eq]
    cases hl
    case w2 x => exact ⟨fun hn => absurd rfl (hn x), fun _ => rfl⟩
    case same hl => exact ⟨fun _ => rfl, fun ⟨x, hx⟩ => by subst hx; cases hl⟩
    all_goals exact ⟨fun _ => rfl, fun ⟨x, hx⟩ => nomatch hx⟩

theorem settle_done (s : St) : (settle s).done = s.done := congrArg FV.done (fview_settle s)
theorem markBroken_writeErr (s : St) : (markBroken s).writeErr = true := congrArg FV.writeErr (fview_markBroken s)

theorem done_stable {s s' : St} {l : Label} (h : step s l = some s') (hd : s.done = true) : s'.done = true := by
  obtain ⟨s0, h0, rfl⟩ := step_some.mp h
  rw [settle_done]; exact (FStep.of_step0 h0).done hd

theorem tc_step {s s' : St} {l : Label} (h : step s l = some s') (hc : s'.transportCloses ≠ s.transportCloses) :
    s'.idle = true := by
  obtain ⟨s0, h0, rfl⟩ := step_some.mp h
  have hv := fview_settle s0
  rw [show (settle s0).idle = (fview s0).idle from congrArg FV.idle hv]
  exact (FStep.of_step0 h0).closes (by rwa [show (settle s0).transportCloses = _ from congrArg FV.transportCloses hv] at hc)

theorem writeErr_step0 {s s0 : St} {l : Label} (h : step0 s l = some s0) :
    ((∀ w, l ≠ .w2 w) → s0.writeErr = s.writeErr) ∧ ((∃ w, l = .w2 w) → s0.writeErr = true) :=
  (FStep.of_step0 h).writeErr

end Conn
