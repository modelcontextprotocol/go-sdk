import McpModel.Conn.Live
import McpModel.Conn.Inv
/-!
Deadlock freedom of the connection (C05 "shutdown never deadlocks", C01 "a call never hangs"), the invariants:
the linkage invariant `LInv` between the dispatcher's program counter, the handler queue and the
requests — what a blocked dispatcher is waiting for always exists and can move —, `RB` (a busy reader works on the
newest request), `Settled` (what `settle` leaves), and their sum `Inv4`, preserved by every step (`inv4_run`).  The
predicate `Progress` and the theorems from `Inv4` are in Deadlock.lean.
-/
namespace Conn

structure LInv (v : DView) : Prop where
  /-- queued requests have a dispatcher -/
  qd : v.queue ≠ [] → v.disp ≠ .none
  /-- a request whose handler was started belongs to the handler goroutine until it is finished, and
  finishing releases the dispatcher -/
  own : ∀ (r : Nat) (k : ReqCore) (m : MCore), v.cores[r]? = some k → v.ms[r]? = some m → m.started.isSome = true →
    k.owner = .handler ∧ (k.pc = .fin → m.released = true)
  /-- the dispatcher waits for a handler that was started -/
  wait : ∀ r, v.disp = .waiting r → ∃ m, v.ms[r]? = some m ∧ m.started.isSome = true
  /-- the dispatcher is busy with a request that is inside processResult on its goroutine -/
  busy : ∀ r, v.disp = .busy r → ∃ k, v.cores[r]? = some k ∧ k.pc.inPR = true ∧ k.owner = .dispatcher

theorem cores_modify_get {l : List ReqCore} {r j : Nat} {g : ReqCore → ReqCore} {k' : ReqCore}
    (h : (l.modify r g)[j]? = some k') : ∃ k, l[j]? = some k ∧ k' = (if r = j then g k else k) := by
  rw [List.getElem?_modify] at h
  cases hj : l[j]? with
  | none => simp [hj] at h
  | some k => simp [hj] at h; exact ⟨k, rfl, h.symm⟩

theorem LInv.congr {v w : DView} (i : LInv v) (h1 : w.cores = v.cores) (h2 : w.ms = v.ms) (h3 : w.disp = v.disp)
    (h4 : w.queue = v.queue) : LInv w := by
  obtain ⟨a, b, c, d⟩ := i
  exact ⟨by rw [h3, h4]; exact a, by rw [h1, h2]; exact b, by rw [h2, h3]; exact c, by rw [h1, h3]; exact d⟩

theorem LInv.core {v : DView} (i : LInv v) (r : Nat) (g : ReqCore → ReqCore)
    (h : ∀ k, v.cores[r]? = some k →
      (∀ m, v.ms[r]? = some m → m.started.isSome = true → (g k).owner = .handler ∧ ((g k).pc = .fin → m.released = true)) ∧
      (v.disp = .busy r → (g k).pc.inPR = true ∧ (g k).owner = .dispatcher)) :
    LInv { v with cores := v.cores.modify r g } := by
  refine ⟨i.qd, ?_, i.wait, ?_⟩
  · intro j k' m hk' hm hs
    obtain ⟨k, hk, rfl⟩ := cores_modify_get hk'
    by_cases hj : r = j
    · subst hj; simp only [if_true]; exact (h k hk).1 m hm hs
    · simp only [hj, if_false]; exact i.own j k m hk hm hs
  · intro j hd
    obtain ⟨k, hk, hp, ho⟩ := i.busy j hd
    by_cases hj : r = j
    · subst hj
      exact ⟨g k, by simp [List.getElem?_modify, hk], (h k hk).2 hd⟩
    · exact ⟨k, by simp [List.getElem?_modify, hk, hj], hp, ho⟩

theorem LInv.coreKeep {v : DView} (i : LInv v) (r : Nat) (q : ReqCore) (g : ReqCore → ReqCore) (hq : v.cores[r]? = some q)
    (hown : (g q).owner = q.owner) (hfin : (g q).pc ≠ .fin) (hpr : q.pc.inPR = true → (g q).pc.inPR = true) :
    LInv { v with cores := v.cores.modify r g } := by
  refine i.core r g (fun k hk => ?_)
  rw [hq] at hk; cases hk
  refine ⟨fun m hm hs => ⟨hown ▸ (i.own r q m hq hm hs).1, fun hf => absurd hf hfin⟩, fun hd => ?_⟩
  obtain ⟨k', hk', hp, ho⟩ := i.busy r hd
  rw [hq] at hk'; cases hk'
  exact ⟨hpr hp, hown ▸ ho⟩

theorem LInv.meta {v : DView} (i : LInv v) (r : Nat) (f : MCore → MCore)
    (hs : ∀ m, (f m).started = m.started) (hr : ∀ m, m.released = true → (f m).released = true) :
    LInv { v with ms := v.ms.modify r f } := by
  refine ⟨i.qd, ?_, ?_, i.busy⟩
  · intro j k m' hk hm' hst
    obtain ⟨m, hm, rfl⟩ := ms_modify_get hm'
    by_cases hj : r = j
    · subst hj
      simp only [if_true, hs] at hst ⊢
      have := i.own r k m hk hm hst
      exact ⟨this.1, fun hf => hr m (this.2 hf)⟩
    · simp only [hj, if_false] at hst ⊢; exact i.own j k m hk hm hst
  · intro j hd
    obtain ⟨m, hm, hst⟩ := i.wait j hd
    by_cases hj : r = j
    · subst hj; exact ⟨f m, by simp [List.getElem?_modify, hm], by rw [hs]; exact hst⟩
    · exact ⟨m, by simp [List.getElem?_modify, hm, hj], hst⟩

theorem LInv.append {v : DView} (i : LInv v) (hl : v.ms.length = v.cores.length) (k : ReqCore) (m : MCore)
    (hm : m.started = none) : LInv { v with cores := v.cores ++ [k], ms := v.ms ++ [m] } := by
  refine ⟨i.qd, ?_, ?_, ?_⟩
  · intro j k' m' hk' hm' hst
    by_cases hj : j < v.ms.length
    · have hj' : j < v.cores.length := hl ▸ hj
      rw [List.getElem?_append_left hj] at hm'
      rw [List.getElem?_append_left hj'] at hk'
      exact i.own j k' m' hk' hm' hst
    · have : j = v.ms.length := by
        have := (List.getElem?_eq_some_iff.mp hm').1; simp at this; omega
      subst this
      simp at hm'; subst hm'; simp [hm] at hst
  · intro j hd
    obtain ⟨m0, hm0, hst⟩ := i.wait j hd
    have hj := (List.getElem?_eq_some_iff.mp hm0).1
    exact ⟨m0, by rw [List.getElem?_append_left hj]; exact hm0, hst⟩
  · intro j hd
    obtain ⟨k0, hk0, hp, ho⟩ := i.busy j hd
    have hj := (List.getElem?_eq_some_iff.mp hk0).1
    exact ⟨k0, by rw [List.getElem?_append_left hj]; exact hk0, hp, ho⟩

theorem LInv.setDisp {v : DView} (i : LInv v) (d : DispPc) (q : List Nat)
    (hq : q ≠ [] → d ≠ .none)
    (hw : ∀ r, d = .waiting r → ∃ m, v.ms[r]? = some m ∧ m.started.isSome = true)
    (hb : ∀ r, d = .busy r → ∃ k, v.cores[r]? = some k ∧ k.pc.inPR = true ∧ k.owner = .dispatcher) :
    LInv { v with disp := d, queue := q } :=
  ⟨hq, i.own, hw, hb⟩

theorem linv_init : LInv (dview ({} : St)) :=
  ⟨by simp [dview], fun r k m hk => by simp [dview] at hk, fun r hd => by simp [dview] at hd, fun r hd => by simp [dview] at hd⟩

/-- Any core update of a request that has not been handed to a handler yet (`a1`, `a2`, `queued`). -/
theorem LInv.coreFresh {v : DView} (i : LInv v) (r : Nat) (q : ReqCore) (g : ReqCore → ReqCore) (hq : v.cores[r]? = some q)
    (hp : q.pc.inPR = false) (hns : ∀ m, v.ms[r]? = some m → m.started = none) :
    LInv { v with cores := v.cores.modify r g } := by
  refine i.core r g (fun k hk => ⟨fun m hm hs => ?_, fun hd => ?_⟩)
  · simp [hns m hm] at hs
  · obtain ⟨k', hk', hp', _⟩ := i.busy r hd
    rw [hq] at hk'; cases hk'; simp [hp] at hp'

/-- D1 starts the handler of `r`: the start stamp is set on a request owned by the handler goroutine. -/
theorem LInv.start {v : DView} (i : LInv v) (r : Nat) (k : ReqCore) (t : Nat) (hk : v.cores[r]? = some k)
    (ho : k.owner = .handler) (hpc : k.pc ≠ .fin) :
    LInv { v with ms := v.ms.modify r (fun m => { m with started := some t }) } := by
  refine ⟨i.qd, ?_, ?_, i.busy⟩
  · intro j k' m' hk' hm' hst
    obtain ⟨m, hm, rfl⟩ := ms_modify_get hm'
    by_cases hj : r = j
    · subst hj; rw [hk] at hk'; cases hk'
      exact ⟨ho, fun hf => absurd hf hpc⟩
    · simp only [hj, if_false] at hst ⊢; exact i.own j k' m hk' hm hst
  · intro j hd
    obtain ⟨m, hm, hst⟩ := i.wait j hd
    by_cases hj : r = j
    · subst hj; exact ⟨{ m with started := some t }, by simp [List.getElem?_modify, hm], rfl⟩
    · exact ⟨m, by simp [List.getElem?_modify, hm, hj], hst⟩

theorem LInv.step {v v' : QV} (d : DInv v.d) (i : LInv v.d) (h : QShape v v') : LInv v'.d := by
  -- a request that has not been handed to a handler has no start stamp
  have hns {r : Nat} {q : ReqCore} (hq : v.cores[r]? = some q) (hpc : q.pc = .a1 ∨ q.pc = .a2 ∨ q.pc = .queued) :
      ∀ m, v.d.ms[r]? = some m → m.started = none := fun m hm => (d.fresh r q m hq hm hpc).1
  cases h with
  | same _ hd => rw [hd]; exact i
  | reader _ _ _ hd => rw [hd]; exact i
  | arrive _ _ _ _ hd => rw [hd]; exact i.append d.lens _ _ rfl
  | hasync _ _ _ hd => rw [hd]; exact i.meta _ _ (fun m => rfl) (fun m _ => rfl)
  | a1 hq hpc _ _ _ hd => rw [hd]; exact i.coreFresh _ _ _ hq (by simp [hpc, ReqPc.inPR]) (hns hq (.inl hpc))
  | a2Refused hq hpc _ hd => rw [hd]; exact i.coreFresh _ _ _ hq (by simp [hpc, ReqPc.inPR]) (hns hq (.inr (.inl hpc)))
  | @hret r q hq hpc _ hd =>
    rw [hd]
    have i1 : LInv { v.d with clock := v.clock + 1 } := i.congr rfl rfl rfl rfl
    refine LInv.core (v := { v.d with clock := v.clock + 1 }) i1 r _ (fun k hk => ?_)
    obtain rfl : q = k := Option.some.inj (hq.symm.trans hk)
    refine ⟨fun m hm hs => ⟨rfl, fun hf => ?_⟩, fun hd => ?_⟩
    · simp at hf; split at hf <;> simp at hf
    · obtain ⟨k', hk', hp, _⟩ := i.busy r hd
      obtain rfl : q = k' := Option.some.inj (hq.symm.trans hk'); simp [hpc, ReqPc.inPR] at hp
  | p1 hq _ _ _ hd => rw [hd]; exact i.coreKeep _ _ _ hq rfl (by simp) (fun _ => rfl)
  | @write r q g hq _ hnew hsame _ _ _ hd =>
    rw [hd]
    have hnew' : (g q).pc.inPR = true := by rcases hnew with h | ⟨e, h⟩ | h <;> simp [h, ReqPc.inPR]
    exact i.coreKeep _ _ _ hq hsame.2.2 (fun hf => by simp [hf, ReqPc.inPR] at hnew') (fun _ => hnew')
  | @enqueue r q dd hq hpc hlast hqr hnq hdd _ hd =>
    rw [hd]
    have i1 := i.coreFresh r q (fun k => { k with pc := .queued }) hq (by simp [hpc, ReqPc.inPR]) (hns hq (.inr (.inl hpc)))
    rcases hdd with ⟨hrun, rfl, _⟩ | ⟨_, rfl, _⟩
    · have hdisp : v.d.disp ≠ .none := fun hdn => by have := d.hr; rw [show v.d.handlerRunning = true from hrun, hdn] at this; cases this
      exact (i1.setDisp v.d.disp (v.queue ++ [r]) (fun _ => hdisp) (fun r' hd => i1.wait r' hd) (fun r' hd => i1.busy r' hd)).congr
        rfl rfl rfl rfl
    · exact (i1.setDisp .d1 (v.queue ++ [r]) (fun _ => by simp) (fun r' hd => by cases hd) (fun r' hd => by cases hd)).congr
        rfl rfl rfl rfl
  | d1Empty _ hqu _ hd =>
    rw [hd]
    exact (i.setDisp .none [] (fun hq => absurd rfl hq) (fun r' hd => by cases hd) (fun r' hd => by cases hd)).congr
      rfl rfl rfl (show v.d.queue = [] from hqu)
  | @d1Cancelled r rest q _ hqu hq hpc _ hd =>
    rw [hd]
    have hq' : v.d.cores[r]? = some q := hq
    have i1 := i.coreFresh r q (fun k => { k with owner := .dispatcher, pc := if k.isCall then .p1 else .p2 }) hq
      (by simp [hpc, ReqPc.inPR]) (hns hq (.inr (.inr hpc)))
    refine (i1.setDisp (.busy r) rest (fun _ => by simp) (fun r' hd => by cases hd) (fun r' hd => ?_)).congr rfl rfl rfl rfl
    cases hd
    refine ⟨{ q with owner := .dispatcher, pc := if q.isCall then .p1 else .p2 }, by simp [List.getElem?_modify, hq'], ?_, rfl⟩
    simp only; split <;> rfl
  | @d1Start r rest q _ hqu hq hpc _ hd =>
    rw [hd]
    have hq' : v.d.cores[r]? = some q := hq
    have i1 := i.coreFresh r q (fun k => { k with pc := .running, owner := .handler }) hq (by simp [hpc, ReqPc.inPR])
      (hns hq (.inr (.inr hpc)))
    have i2 := LInv.start (v := { v.d with cores := v.d.cores.modify r fun k => { k with pc := .running, owner := .handler } })
      i1 r { q with pc := .running, owner := .handler } (v.clock + 1) (by simp [List.getElem?_modify, hq']) rfl (by simp)
    obtain ⟨m0, hm0⟩ : ∃ m, v.d.ms[r]? = some m :=
      ⟨_, List.getElem?_eq_getElem (by rw [d.lens]; exact (List.getElem?_eq_some_iff.mp hq).1)⟩
    refine (i2.setDisp (.waiting r) rest (fun _ => by simp) (fun r' hd => ?_) (fun r' hd => by cases hd)).congr rfl rfl rfl rfl
    cases hd
    exact ⟨{ m0 with started := some (v.clock + 1) }, by simp [List.getElem?_modify, hm0], rfl⟩
  | @p2Reader r q hq hpc ho _ _ hd =>
    rw [hd]
    refine i.core r _ (fun k hk => ?_)
    obtain rfl : q = k := Option.some.inj (hq.symm.trans hk)
    refine ⟨fun m hm hs => ?_, fun hd => ?_⟩
    · have := (i.own r q m hq hm hs).1; rw [ho] at this; cases this
    · obtain ⟨k', hk', _, ho'⟩ := i.busy r hd
      obtain rfl : q = k' := Option.some.inj (hq.symm.trans hk'); rw [ho] at ho'; cases ho'
  | @p2Disp r q hq hpc ho _ _ hd =>
    rw [hd]
    have i1 := i.setDisp .d1 v.d.queue (fun _ => by simp) (fun r' hd => by cases hd) (fun r' hd => by cases hd)
    refine (LInv.core (v := { v.d with disp := .d1, queue := v.d.queue }) i1 r (fun k => { k with pc := .fin })
      (fun k hk => ?_)).congr rfl rfl rfl rfl
    obtain rfl : q = k := Option.some.inj (hq.symm.trans hk)
    refine ⟨fun m hm hs => ?_, fun hd => by cases hd⟩
    have := (i.own r q m hq hm hs).1; rw [ho] at this; cases this
  | @p2Handler r q hq hpc ho _ _ hd =>
    rw [hd]
    have i1 := i.meta r (fun m => { m with released := true }) (fun m => rfl) (fun m _ => rfl)
    refine (LInv.core (v := { v.d with ms := v.d.ms.modify r (fun m => { m with released := true }) }) i1 r
      (fun k => { k with pc := .fin }) (fun k hk => ?_)).congr rfl rfl rfl rfl
    obtain rfl : q = k := Option.some.inj (hq.symm.trans hk)
    refine ⟨fun m' hm' hs => ?_, fun hd => ?_⟩
    · obtain ⟨m, hm0, rfl⟩ := ms_modify_get hm'
      simp only [if_true] at hs ⊢
      exact ⟨(i.own r q m hq hm0 hs).1, fun _ => trivial⟩
    · obtain ⟨k', hk', _, ho'⟩ := i.busy r hd
      obtain rfl : q = k' := Option.some.inj (hq.symm.trans hk'); rw [ho] at ho'; cases ho'

theorem linv_step0 {s s' : St} {l : Label} (hr : RInv (reqView s)) (d : DInv (dview s)) (i : LInv (dview s))
    (h : step0 s l = some s') : LInv (dview s') :=
  LInv.step (v := qv s) d i ((QStep.of_step0 hr h).shape hr)

theorem linv_settle {s : St} (i : LInv (dview s)) : LInv (dview (settle s)) := by
  unfold settle settleDisp
  have hv : dview (settleWaiters (settleCalls s)) = dview s := by simp
  split
  · split
    · split
      · have e : dview { settleWaiters (settleCalls s) with disp := DispPc.d1 } = { dview s with disp := .d1 } := by
          rw [← hv]; rfl
        rw [e]
        have key := i.setDisp .d1 (dview s).queue (fun _ => by simp) (fun r' hd => by cases hd) (fun r' hd => by cases hd)
        exact key.congr rfl rfl rfl rfl
      · rw [hv]; exact i
    · rw [hv]; exact i
  · rw [hv]; exact i

structure Inv3 (s : St) : Prop where
  base : Inv2 s
  link : LInv (dview s)

theorem inv3_init : Inv3 ({} : St) := ⟨inv2_init, linv_init⟩

theorem inv3_step {s s' : St} {l : Label} (i : Inv3 s) (h : step s l = some s') : Inv3 s' := by
  refine ⟨inv2_step i.base h, ?_⟩
  obtain ⟨s0, h0, rfl⟩ := step_some.mp h
  exact linv_settle (linv_step0 i.base.base.reqs i.base.disp i.link h0)

theorem inv3_run {s s' : St} (ls : List Label) (i : Inv3 s) (h : run s ls = some s') : Inv3 s' :=
  run_induct inv3_step ls i h

/-! ### the reader goroutine, when busy, is working on the newest request -/

def RB (v : ReqView) : Prop := v.reader = .busy → ∃ k, v.cores[v.cores.length - 1]? = some k ∧ rdrPrem k

theorem RB.congr {v w : ReqView} (i : RB v) (h1 : w.cores = v.cores) (h2 : w.reader = v.reader) : RB w := by
  unfold RB at *; rw [h1, h2]; exact i

theorem rb_notBusy {v : ReqView} (h : v.reader ≠ .busy) : RB v := fun hb => absurd hb h

theorem RB.mod {v : ReqView} (i : RB v) (r : Nat) (g : ReqCore → ReqCore)
    (h : ∀ k, v.cores[r]? = some k → rdrPrem k → rdrPrem (g k)) : RB (v.mod r g) := by
  intro hb
  obtain ⟨k, hk, hp⟩ := i hb
  simp only [ReqView.mod, List.length_modify, List.getElem?_modify]
  by_cases hr : r = v.cores.length - 1
  · subst hr; exact ⟨g k, by simp [hk], h k hk hp⟩
  · exact ⟨k, by simp [hk, hr], hp⟩

theorem rdrPrem_keep {k k' : ReqCore} (hin : k.pc.inPR = true) (ho : k'.owner = k.owner) (hin' : k'.pc.inPR = true)
    (hp : rdrPrem k) : rdrPrem k' := by
  rcases hp with h | h | ⟨h, _⟩
  · simp [h, ReqPc.inPR] at hin
  · simp [h, ReqPc.inPR] at hin
  · exact Or.inr (Or.inr ⟨ho ▸ h, hin'⟩)

theorem not_rdrPrem {k : ReqCore} (h : k.pc = .running ∨ k.pc = .queued ∨ k.pc = .fin) : ¬ rdrPrem k := by
  intro hp
  rcases hp with h' | h' | ⟨_, h'⟩ <;> rcases h with h | h | h <;> simp [h, ReqPc.inPR] at h'

theorem RB.step {v v' : QV} (i : RB v.req) (h : QShape v v') : RB v'.req := by
  -- a core update of request `r` under which "the reader works on it" survives
  have mod {r : Nat} {q : ReqCore} (g : ReqCore → ReqCore) (hq : v.cores[r]? = some q) (hg : rdrPrem q → rdrPrem (g q))
      (a : ReqView) (h1 : a.cores = v.req.cores) (h2 : a.reader = v.req.reader) : RB (a.mod r g) :=
    RB.mod (i.congr h1 h2) r g fun k hk hp => by
      rw [h1] at hk
      obtain rfl : q = k := Option.some.inj (hq.symm.trans hk)
      exact hg hp
  have toPR (own : Owner) (k : ReqCore) : ({ k with owner := own, pc := if k.isCall then ReqPc.p1 else ReqPc.p2 } : ReqCore).pc.inPR = true := by
    simp only; split <;> rfl
  cases h with
  | same hr => rw [hr]; exact i
  | reader _ hrd hr => rw [hr]; exact rb_notBusy hrd
  | @arrive k _ hk _ hr => rw [hr]; intro _; exact ⟨k, by simp, .inl hk.1⟩
  | hasync _ _ hr => rw [hr]; exact i
  | a1 hq _ hg _ hr =>
    rw [hr]
    refine mod _ hq (fun _ => hg.2.2.elim (fun h => .inr (.inl h)) fun h => .inr (.inr ⟨h.1, ?_⟩)) _ rfl rfl
    rcases h.2 with h | h <;> simp [h.1, ReqPc.inPR]
  | a2Refused hq _ hr => rw [hr]; exact mod _ hq (fun _ => .inr (.inr ⟨rfl, toPR _ _⟩)) _ rfl rfl
  | hret hq hpc hr => rw [hr]; exact mod _ hq (fun hp => absurd hp (not_rdrPrem (.inl hpc))) _ rfl rfl
  | enqueue _ _ _ _ _ _ hr => rw [hr]; exact rb_notBusy (by simp [ReqView.mod])
  | d1Empty _ _ hr => rw [hr]; exact i
  | d1Cancelled _ _ hq hpc hr => rw [hr]; exact mod _ hq (fun hp => absurd hp (not_rdrPrem (.inr (.inl hpc)))) _ rfl rfl
  | d1Start _ _ hq hpc hr => rw [hr]; exact mod _ hq (fun hp => absurd hp (not_rdrPrem (.inr (.inl hpc)))) _ rfl rfl
  | p1 hq hpc _ hr => rw [hr]; exact mod _ hq (rdrPrem_keep (by simp [hpc, ReqPc.inPR]) rfl rfl) _ rfl rfl
  | write hq hold hnew hsame _ _ hr =>
    rw [hr]
    exact mod _ hq (rdrPrem_keep (by rcases hold with h | h | ⟨e, h⟩ <;> simp [h, ReqPc.inPR]) hsame.2.2
      (by rcases hnew with h | ⟨e, h⟩ | h <;> simp [h, ReqPc.inPR])) _ rfl rfl
  | p2Reader _ _ _ _ hr => rw [hr]; exact rb_notBusy (by simp [ReqView.mod])
  | p2Disp hq hpc ho _ hr | p2Handler hq hpc ho _ hr =>
    -- another goroutine ran processResult: the reader's program counter is untouched
    rw [hr]
    refine mod _ hq (fun hp => ?_) _ rfl rfl
    rcases hp with hp | hp | ⟨ho', _⟩
    · simp [hpc] at hp
    · simp [hpc] at hp
    · rw [ho] at ho'; cases ho'

theorem rb_step {s s' : St} {l : Label} (hr : RInv (reqView s)) (i : RB (reqView s)) (h : step s l = some s') :
    RB (reqView s') := by
  obtain ⟨s0, h0, rfl⟩ := step_some.mp h
  rw [reqView_settle]; exact RB.step (v := qv s) i ((QStep.of_step0 hr h0).shape hr)

theorem rb_init : RB (reqView ({} : St)) := rb_notBusy (by simp [reqView])

/-! ### what `settle` guarantees: nobody who could continue is left blocked on a channel -/

structure Settled (s : St) : Prop where
  disp : ∀ r m, s.disp = .waiting r → s.metas[r]? = some m → m.released = false
  wake : s.done = true → s.closeWaiting = 0 ∧ s.waitWaiting = 0

theorem settleDisp_spec (X : St) (r : Nat) (m : ReqMeta) (hd : (settleDisp X).disp = .waiting r)
    (hm : (settleDisp X).metas[r]? = some m) : m.released = false := by
  cases hX : X.disp with
  | none => have : settleDisp X = X := by simp [settleDisp, hX]
            rw [this, hX] at hd; cases hd
  | d1 => have : settleDisp X = X := by simp [settleDisp, hX]
          rw [this, hX] at hd; cases hd
  | busy r' => have : settleDisp X = X := by simp [settleDisp, hX]
               rw [this, hX] at hd; cases hd
  | waiting r' =>
    cases hq : X.metas[r']? with
    | none =>
      have : settleDisp X = X := by simp [settleDisp, hX, hq]
      rw [this] at hd hm; rw [hX] at hd; cases hd; rw [hq] at hm; cases hm
    | some q =>
      by_cases hrel : q.released = true
      · have : settleDisp X = { X with disp := .d1 } := by simp [settleDisp, hX, hq, hrel]
        rw [this] at hd; cases hd
      · have : settleDisp X = X := by simp [settleDisp, hX, hq, hrel]
        rw [this] at hd hm; rw [hX] at hd; cases hd; rw [hq] at hm; cases hm; simpa using hrel

theorem settled_settle (s : St) : Settled (settle s) := by
  constructor
  · intro r m hd hm
    exact settleDisp_spec _ r m hd hm
  · intro hd
    have h1 : (settle s).done = (settleWaiters (settleCalls s)).done := by
      unfold settle settleDisp; repeat' split
      all_goals rfl
    have h2 : (settle s).closeWaiting = (settleWaiters (settleCalls s)).closeWaiting ∧
        (settle s).waitWaiting = (settleWaiters (settleCalls s)).waitWaiting := by
      unfold settle settleDisp; repeat' split
      all_goals exact ⟨rfl, rfl⟩
    rw [h1] at hd; rw [h2.1, h2.2]
    unfold settleWaiters at hd ⊢
    split
    · exact ⟨rfl, rfl⟩
    · rename_i hnd; split at hd <;> simp_all

theorem settled_init : Settled ({} : St) :=
  ⟨fun r m hd _ => (by cases hd), fun hd => (by cases hd)⟩

theorem settled_step {s s' : St} {l : Label} (h : step s l = some s') : Settled s' := by
  obtain ⟨s0, _, rfl⟩ := step_some.mp h
  exact settled_settle s0

/-- What the progress and termination theorems are proved from, for every reachable state: the state invariants and the
linkage (`base`), `rb` and `st` (above); an idle shutting-down connection has closed its transport (`ti`); `outNotifs` counts
the notifications inside the write path (`ni`); a caller at `await` has no result and a live context — `settle` has moved
every other one on (`aw`). -/
structure Inv4 (s : St) : Prop where
  base : Inv3 s
  rb : RB (reqView s)
  ti : TI (fview s)
  ni : NInv (nview s)
  st : Settled s
  aw : ∀ n c, getCall s n = some c → c.pc = .await → c.ready = none ∧ c.ctxDone = false

theorem Inv4.inv {s : St} (i : Inv4 s) : Inv s := i.base.base.base
theorem Inv4.disp {s : St} (i : Inv4 s) : DInv (dview s) := i.base.base.disp

theorem inv4_init : Inv4 ({} : St) :=
  ⟨inv3_init, rb_init, by simp [TI, fview, FV.idle, FV.shuttingDown], by simp [NInv, nview, cntW], settled_init,
    fun n c hc => by simp [getCall_eq] at hc⟩

theorem inv4_step {s s' : St} {l : Label} (i : Inv4 s) (h : step s l = some s') : Inv4 s' := by
  refine ⟨inv3_step i.base h, rb_step i.inv.reqs i.rb h, ?_, ninv_step i.ni h, settled_step h,
    await_wait_free s s' l h⟩
  obtain ⟨s0, h0, rfl⟩ := step_some.mp h
  rw [fview_settle]
  exact ti_step0 i.inv.flags i.ti h0

theorem inv4_run {s s' : St} (ls : List Label) (i : Inv4 s) (h : run s ls = some s') : Inv4 s' :=
  run_induct inv4_step ls i h

end Conn
