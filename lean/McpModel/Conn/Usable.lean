import McpModel.Conn.FlagInv
/-! Which labels can make a connection unusable (C04: it stays usable after a cancellation); shutdown, once begun, stays begun. -/
namespace Conn

/-- Only `Close` (CL1), the reader's exit (RX) and a failed transport write
(W2) touch `connClosing` / `readErr` / `writeErr`: cancelling calls, retiring them, the detached
cancel notification (admitted, refused, rejected or written), late responses, handler results — none
of them makes the connection unusable. -/
theorem flags_only_by (s s' : St) (l : Label) (h : step0 s l = some s') (hl : l.breaks = false) :
    s'.closing = s.closing ∧ s'.readErr = s.readErr ∧ s'.writeErr = s.writeErr :=
  (FStep.of_step0 h).flags hl

/-- **shuttingDown_only_by.** The same for a whole label (`settle` included) and `shuttingDown`. -/
theorem shuttingDown_only_by (s s' : St) (l : Label) (h : step s l = some s') (hl : l.breaks = false) :
    s'.shuttingDown = s.shuttingDown := by
  simp only [step, Option.map_eq_some_iff] at h
  obtain ⟨s0, h0, rfl⟩ := h
  obtain ⟨a, b, c⟩ := flags_only_by s s0 l h0 hl
  obtain ⟨a', b', c'⟩ := settle_flags s0
  simp only [St.shuttingDown, a, b, c, a', b', c']

theorem shuttingDown_mono_step0 {s s' : St} {l : Label} (h : step0 s l = some s') (hs : s.shuttingDown = true) :
    s'.shuttingDown = true :=
  (FStep.of_step0 h).shuttingDown hs

theorem shuttingDown_mono_step {s s' : St} {l : Label} (h : step s l = some s') (hs : s.shuttingDown = true) :
    s'.shuttingDown = true := by
  simp only [step, Option.map_eq_some_iff] at h
  obtain ⟨s0, h0, rfl⟩ := h
  obtain ⟨a, b, c⟩ := settle_flags s0
  have := shuttingDown_mono_step0 h0 hs
  simpa [St.shuttingDown, a, b, c] using this

end Conn
