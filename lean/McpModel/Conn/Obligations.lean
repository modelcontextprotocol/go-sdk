import McpModel.Conn.Deadlock
/-!
C05 liveness: the hypotheses of the termination theorems — fairness, the environment's four obligations, what
"terminated" means — and Boolean deciders for them, so that they can be evaluated on concrete states.  At the end the
scenario (`closingBusy`, `envPart`, `connPart`) on which Stuck.lean and TerminateEnv.lean show that the theorems are
not vacuous.
-/
namespace Conn

/-- **Fairness, as a hypothesis on a run.** No critical section of the connection is enabled: every
goroutine parked before a critical section has been scheduled. A run of internal labels that ends in
such a state is *maximal*. -/
def Maximal (s : St) : Prop := ¬ Enabled s

/-- (d) of `closing_progress`: the reader is parked in the transport's `Read` although the transport has
been closed — a transport that honours `Close` makes that `Read` fail. -/
def ReadAfterClose (s : St) : Prop := s.reader = .read ∧ s.closerUsed = true

/-- **The environment's obligations**, fulfilled in state `s`: the four things `closing_progress` says a
shutting-down connection may legitimately be waiting for, all discharged. -/
structure Obligations (s : St) : Prop where
  /-- (a) every handler that was started has returned -/
  handlers : ¬ HandlerRunning s
  /-- (b) every transport `Write` has returned -/
  writes : ¬ WriteInFlight s
  /-- (c) no registered outgoing call with a live context is still waiting for the peer's answer -/
  peer : ¬ AwaitingPeer s
  /-- (d) the transport honoured `Close`: the reader is not parked in `Read` after the transport was closed -/
  transport : ¬ ReadAfterClose s

/-- Every `Close()` and every `Wait()` call that was started has returned. -/
structure AllReturned (s : St) : Prop where
  closeCl1 : s.closeCl1 = 0
  closeWaiting : s.closeWaiting = 0
  closeWt : s.closeWt = 0
  waitWaiting : s.waitWaiting = 0
  waitWt : s.waitWt = 0

/-- **Nothing is left.** Every process of the model is at its terminal program counter, nothing is
registered, queued or indexed, the transport was closed exactly once and `onDone` ran exactly once. -/
structure Quiescent (s : St) : Prop where
  calls : ∀ (n : Nat) (c : Call), getCall s n = some c → c.pc = .fin ∧ c.result.isSome = true
  /-- every `Notify` (user's, and detached `notifications/cancelled`) has returned -/
  notifs : ∀ (w : Who) (nf : Notif), getNotif s w = some nf → ∃ r, nf.pc = .fin r
  reqs : ∀ (r : Nat) (k : ReqCore), s.cores[r]? = some k → k.pc = .fin
  reader : s.reader = .gone
  disp : s.disp = .none
  cancels : s.cancels = []
  tables : s.outCalls = [] ∧ s.outNotifs = 0 ∧ s.incoming = 0 ∧ s.handlerRunning = false ∧ s.byID = [] ∧ s.queue = []
  once : s.transportCloses = 1 ∧ s.onDone = 1
  nopanic : s.panicked = false

def handlerRunningB (s : St) : Bool := s.cores.any (fun k => k.pc == .running)

def writeInFlightB (s : St) : Bool :=
  s.calls.any (fun c => c.pc == .wr) || s.cores.any (fun k => k.pc == .wr) ||
    s.unotifs.any (fun nf => nf.pc == .wr) || s.cnotifs.any (fun nf => nf.pc == .wr)

def awaitingPeerB (s : St) : Bool :=
  s.outCalls.any fun n =>
    match getCall s n with
    | some c => c.pc == .await && c.ready.isNone && !c.ctxDone
    | none => false

def readAfterCloseB (s : St) : Bool := s.reader == .read && s.closerUsed

theorem any_iff_getElem? {α : Type} (l : List α) (p : α → Bool) :
    l.any p = true ↔ ∃ (i : Nat) (a : α), l[i]? = some a ∧ p a = true := by
  rw [List.any_eq_true]
  constructor
  · rintro ⟨a, ha, hp⟩
    obtain ⟨i, hi⟩ := List.mem_iff_getElem?.mp ha
    exact ⟨i, a, hi, hp⟩
  · rintro ⟨i, a, hi, hp⟩
    exact ⟨a, List.mem_iff_getElem?.mpr ⟨i, hi⟩, hp⟩

theorem handlerRunningB_iff (s : St) : handlerRunningB s = true ↔ HandlerRunning s := by
  unfold handlerRunningB HandlerRunning
  rw [any_iff_getElem?]
  constructor
  · rintro ⟨r, k, hk, hp⟩; exact ⟨r, k, hk, by simpa using hp⟩
  · rintro ⟨r, k, hk, hp⟩; exact ⟨r, k, hk, by simpa using hp⟩

theorem writeInFlightB_iff (s : St) : writeInFlightB s = true ↔ WriteInFlight s := by
  unfold writeInFlightB WriteInFlight
  simp only [Bool.or_eq_true, any_iff_getElem?]
  constructor
  · rintro (((⟨i, c, hc, hp⟩ | ⟨r, k, hk, hp⟩) | ⟨i, nf, hn, hp⟩) | ⟨i, nf, hn, hp⟩)
    · exact Or.inl ⟨i + 1, c, by simp [getCall_eq, hc], by simpa using hp⟩
    · exact Or.inr (Or.inl ⟨r, k, hk, by simpa using hp⟩)
    · exact Or.inr (Or.inr ⟨.unotif i, nf, by simpa [getNotif] using hn, by simpa using hp⟩)
    · exact Or.inr (Or.inr ⟨.cnotif i, nf, by simpa [getNotif] using hn, by simpa using hp⟩)
  · rintro (⟨n, c, hc, hp⟩ | ⟨r, k, hk, hp⟩ | ⟨w, nf, hn, hp⟩)
    · exact Or.inl (Or.inl (Or.inl ⟨n - 1, c, calls_get hc, by simp [hp]⟩))
    · exact Or.inl (Or.inl (Or.inr ⟨r, k, hk, by simp [hp]⟩))
    · cases w with
      | call n => simp [getNotif] at hn
      | resp r => simp [getNotif] at hn
      | unotif i => exact Or.inl (Or.inr ⟨i, nf, by simpa [getNotif] using hn, by simp [hp]⟩)
      | cnotif i => exact Or.inr ⟨i, nf, by simpa [getNotif] using hn, by simp [hp]⟩

theorem awaitingPeerB_iff (s : St) : awaitingPeerB s = true ↔ AwaitingPeer s := by
  unfold awaitingPeerB AwaitingPeer
  rw [List.any_eq_true]
  constructor
  · rintro ⟨n, hn, hp⟩
    cases hc : getCall s n with
    | none => simp [hc] at hp
    | some c =>
      simp only [hc, Bool.and_eq_true, beq_iff_eq, Option.isNone_iff_eq_none, Bool.not_eq_true'] at hp
      exact ⟨n, c, hn, hc, hp.1.1, hp.1.2, hp.2⟩
  · rintro ⟨n, c, hn, hc, h1, h2, h3⟩
    exact ⟨n, hn, by simp [hc, h1, h2, h3]⟩

theorem readAfterCloseB_iff (s : St) : readAfterCloseB s = true ↔ ReadAfterClose s := by
  unfold readAfterCloseB ReadAfterClose
  simp

/-- Every process that exists in `s`, as the subject of a write-path label. -/
def whos (s : St) : List Who :=
  (List.range s.calls.length).map (fun i => Who.call (i + 1)) ++ (List.range s.unotifs.length).map Who.unotif ++
    (List.range s.cnotifs.length).map Who.cnotif ++ (List.range s.cores.length).map Who.resp

/-- Every internal label that could possibly be enabled in `s` (finitely many). -/
def candidates (s : St) : List Label :=
  [.start, .cl1, .rresp, .rx, .d1, .wt true, .wt false] ++
    (whos s).flatMap (fun w => [Label.n1 w, .n2 w, .w1 w, .w2 w]) ++
    (List.range s.calls.length).flatMap (fun i => [Label.c1 (i + 1), .retire (i + 1)]) ++
    s.cancels.map Label.k1 ++
    (List.range s.cores.length).flatMap (fun r => [Label.a1 r, .a2 r, .p1 r, .p2 r])

def enabledB (s : St) : Bool := (candidates s).any (fun l => l.internal && (step0 s l).isSome)

theorem call_mem_whos {s : St} {n : Nat} {c : Call} (h : getCall s n = some c) : Who.call n ∈ whos s := by
  obtain ⟨h1, h2⟩ := getCall_some_pos h
  simp only [whos, List.mem_append, List.mem_map, List.mem_range]
  exact Or.inl (Or.inl (Or.inl ⟨n - 1, by omega, by congr 1; omega⟩))

theorem resp_mem_whos {s : St} {r : Nat} {k : ReqCore} (h : s.cores[r]? = some k) : Who.resp r ∈ whos s := by
  have := (List.getElem?_eq_some_iff.mp h).1
  simp only [whos, List.mem_append, List.mem_map, List.mem_range]
  exact Or.inr ⟨r, this, rfl⟩

theorem notif_mem_whos {s : St} {w : Who} {nf : Notif} (h : getNotif s w = some nf) : w ∈ whos s := by
  simp only [whos, List.mem_append, List.mem_map, List.mem_range]
  cases w with
  | call n => simp [getNotif] at h
  | resp r => simp [getNotif] at h
  | unotif i =>
    have := (List.getElem?_eq_some_iff.mp (show s.unotifs[i]? = some nf from h)).1
    exact Or.inl (Or.inl (Or.inr ⟨i, this, rfl⟩))
  | cnotif i =>
    have := (List.getElem?_eq_some_iff.mp (show s.cnotifs[i]? = some nf from h)).1
    exact Or.inl (Or.inr ⟨i, this, rfl⟩)

theorem mem_cand_who {s : St} {w : Who} {l : Label} (hw : w ∈ whos s) (hl : l ∈ [Label.n1 w, .n2 w, .w1 w, .w2 w]) :
    l ∈ candidates s := by
  simp only [candidates, List.mem_append, List.mem_flatMap]
  exact Or.inl (Or.inl (Or.inl (Or.inr ⟨w, hw, hl⟩)))

theorem mem_cand_call {s : St} {n : Nat} {c : Call} {l : Label} (h : getCall s n = some c)
    (hl : l ∈ [Label.c1 n, .retire n]) : l ∈ candidates s := by
  obtain ⟨h1, h2⟩ := getCall_some_pos h
  simp only [candidates, List.mem_append, List.mem_flatMap, List.mem_range]
  refine Or.inl (Or.inl (Or.inr ⟨n - 1, by omega, ?_⟩))
  have : n - 1 + 1 = n := by omega
  rw [this]; exact hl

theorem mem_cand_core {s : St} {r : Nat} {k : ReqCore} {l : Label} (h : s.cores[r]? = some k)
    (hl : l ∈ [Label.a1 r, .a2 r, .p1 r, .p2 r]) : l ∈ candidates s := by
  have := (List.getElem?_eq_some_iff.mp h).1
  simp only [candidates, List.mem_append, List.mem_flatMap, List.mem_range]
  exact Or.inr ⟨r, this, hl⟩

/-- An enabled critical section acts on a process that exists. -/
theorem enabled_mem_candidates {s : St} {l : Label} (hi : l.internal = true) (he : (step0 s l).isSome = true) :
    l ∈ candidates s := by
  obtain ⟨s', h⟩ := Option.isSome_iff_exists.mp he
  cases Step0.of_step0 h with
  | startDone | start | cl1 | rresp | rx | d1Empty | d1Cancelled | d1Start | wtWait | wtClose =>
    simp only [candidates, List.mem_append]
    exact Or.inl (Or.inl (Or.inl (Or.inl (by simp))))
  | n1Refused hw | n1 hw | n2 hw | w1Notif hw | w1NotifShut hw | w2Notif hw =>
    exact mem_cand_who (notif_mem_whos hw) (by simp)
  | w1Call hc | w1CallShut hc | w2Call hc => exact mem_cand_who (call_mem_whos hc) (by simp)
  | w1Resp hq | w1RespShut hq | w2Resp hq => exact mem_cand_who (resp_mem_whos hq) (by simp)
  | c1Refused hc | c1 hc | retireR hc | retireRc hc => exact mem_cand_call hc (by simp)
  | k1Hit hm | k1Miss hm =>
    simp only [candidates, List.mem_append, List.mem_map]
    exact Or.inl (Or.inr ⟨_, by simpa using hm, rfl⟩)
  | a1Dup hq | a1Refused hq | a1Call hq | a1Cancel hq | a1Notif hq | a2Refused hq | a2Busy hq | a2Idle hq | p1 hq
  | p1Notif hq | p2 hq => exact mem_cand_core hq (by simp)
  | _ => cases hi

theorem enabledB_iff (s : St) : enabledB s = true ↔ Enabled s := by
  unfold enabledB Enabled
  rw [List.any_eq_true]
  constructor
  · rintro ⟨l, _, hp⟩
    simp only [Bool.and_eq_true] at hp
    exact ⟨l, hp.1, hp.2⟩
  · rintro ⟨l, hi, he⟩
    exact ⟨l, enabled_mem_candidates hi he, by simp [hi, he]⟩

theorem maximal_of_enabledB {s : St} (h : enabledB s = false) : Maximal s := by
  intro he
  have := (enabledB_iff s).mpr he
  simp [h] at this

def obligationsB (s : St) : Bool := !handlerRunningB s && !writeInFlightB s && !awaitingPeerB s && !readAfterCloseB s

theorem obligationsB_iff (s : St) : obligationsB s = true ↔ Obligations s := by
  simp only [obligationsB, Bool.and_eq_true, Bool.not_eq_eq_eq_not, Bool.not_true, ← Bool.not_eq_true, handlerRunningB_iff,
    writeInFlightB_iff, awaitingPeerB_iff, readAfterCloseB_iff]
  exact ⟨fun ⟨⟨⟨a, b⟩, c⟩, d⟩ => ⟨a, b, c, d⟩, fun ⟨a, b, c, d⟩ => ⟨⟨⟨a, b⟩, c⟩, d⟩⟩

theorem not_handlerRunning_of {s : St} (h : handlerRunningB s = false) : ¬ HandlerRunning s :=
  fun hh => by simp [(handlerRunningB_iff s).mpr hh] at h
theorem not_writeInFlight_of {s : St} (h : writeInFlightB s = false) : ¬ WriteInFlight s :=
  fun hh => by simp [(writeInFlightB_iff s).mpr hh] at h
theorem not_awaitingPeer_of {s : St} (h : awaitingPeerB s = false) : ¬ AwaitingPeer s :=
  fun hh => by simp [(awaitingPeerB_iff s).mpr hh] at h
theorem not_readAfterClose_of {s : St} (h : readAfterCloseB s = false) : ¬ ReadAfterClose s :=
  fun hh => by simp [(readAfterCloseB_iff s).mpr hh] at h

/-- A server connection with a running handler on which `Close` (and `Wait`) has been called. -/
def closingBusy : List Label := [.start, .read (.call 7), .a1 0, .a2 0, .d1, .eclose, .cl1, .ewait]

/-- … the handler returns, its response is written (P1 and W1 are the connection's own sections on the way), the peer
closes: the part of the run that the environment drives. -/
def envPart : List Label := [.hret 0 false, .p1 0, .w1 (.resp 0), .wret (.resp 0) .ok, .read .eof]

/-- … and what is left to the connection: five critical sections. -/
def connPart : List Label := [.p2 0, .d1, .rx, .wt false, .wt true]

end Conn
