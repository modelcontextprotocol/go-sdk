import McpModel.Conn.FlagInv
/-! Two safety invariants that the progress results for the shutdown (C05, liveness part: Progress.lean, Deadlock.lean)
rest on.  `TI`, read off `FStep`; `NInv`: `outgoingNotifications` counts the `Notify` calls between N1 and N2, with the
`Notify` calls as a machine (`NMove`, `NStep`). -/
namespace Conn

/-- "Transport closed when idle": after every critical section an idle, shutting-down connection has had its transport
closed, and is done unless the reader is still running. -/
def TI (v : FV) : Prop := v.idle = true → v.shuttingDown = true → v.closerUsed = true ∧ (v.reading = true ∨ v.done = true)

theorem ti_tail (v : FV) (h : v.done = true → v.closerUsed = true) : TI v.tail := by
  unfold FV.tail
  split
  · rename_i hd
    have t : TI v := fun _ _ => ⟨h hd, Or.inr hd⟩
    split <;> exact t
  · split
    · by_cases hcu : v.closerUsed = true <;> by_cases hr : v.reading = true
      · simp only [if_pos hcu, if_pos hr]; exact fun _ _ => ⟨hcu, Or.inl hr⟩
      · simp only [if_pos hcu, if_neg hr]; exact fun _ _ => ⟨hcu, Or.inr rfl⟩
      · simp only [if_neg hcu, if_pos hr]; exact fun _ _ => ⟨rfl, Or.inl hr⟩
      · simp only [if_neg hcu, if_neg hr]; exact fun _ _ => ⟨rfl, Or.inr rfl⟩
    · rename_i hc; exact fun hi hs => absurd (Bool.and_eq_true_iff.mpr ⟨hi, hs⟩) hc

theorem ti_congr {v w : FV} (h1 : w.idle = v.idle) (h2 : w.shuttingDown = v.shuttingDown) (h3 : w.closerUsed = v.closerUsed)
    (h4 : w.reading = v.reading) (h5 : w.done = v.done) (t : TI v) : TI w := by
  unfold TI at t ⊢; rw [h1, h2, h3, h4, h5]; exact t

/-- Every critical section ends in `tail`, which establishes `TI` whatever went before; the steps of the
environment change nothing `TI` reads. -/
theorem ti_step {ok : Prop} {v w : FV} {l : Label} (i : FInvV v) (t : TI v) (h : FStep ok v l w) : TI w := by
  cases h with
  | same => exact t
  | read => exact t
  | tail hl => exact ti_tail _ fun hd => hl.owned.1.trans (i.dn (hl.owned.2.1.symm.trans hd)).2.2.2
  | p2Read => exact ti_congr rfl rfl rfl rfl rfl (ti_tail _ fun hd => (i.dn hd).2.2.2)

theorem ti_step0 {s s' : St} {l : Label} (i : FInv s) (t : TI (fview s)) (h : step0 s l = some s') : TI (fview s') :=
  ti_step i t (FStep.of_step0 h)

/-- Between N1 (admitted) and N2: counted in `outgoingNotifications` (`cntW`: how many of a list). -/
def NotifPc.writing : NotifPc → Bool
  | .w1 | .wr | .w2 _ | .n2 _ => true
  | _ => false

def cntW : List Notif → Nat
  | [] => 0
  | n :: t => (if n.pc.writing then 1 else 0) + cntW t

theorem cntW_append (l : List Notif) (n : Notif) : cntW (l ++ [n]) = cntW l + (if n.pc.writing then 1 else 0) := by
  induction l with
  | nil => simp [cntW]
  | cons a t ih => simp [cntW, ih]; omega

theorem cntW_modify (l : List Notif) (k : Nat) (n : Notif) (f : Notif → Notif) (h : l[k]? = some n) :
    cntW (l.modify k f) + (if n.pc.writing then 1 else 0) = cntW l + (if (f n).pc.writing then 1 else 0) := by
  induction l generalizing k with
  | nil => simp at h
  | cons a t ih =>
    cases k with
    | zero => simp at h; subst h; simp [List.modify, cntW]; omega
    | succ k => simp at h; have := ih k h; simp [List.modify, cntW] at this ⊢; omega

/-- `us`: the user's `Notify` calls; `cs`: the detached `notifications/cancelled`. -/
structure NView where
  us : List Notif
  cs : List Notif
  outNotifs : Nat

def nview (s : St) : NView := { us := s.unotifs, cs := s.cnotifs, outNotifs := s.outNotifs }

def NInv (v : NView) : Prop := v.outNotifs = cntW v.us + cntW v.cs

@[simp] theorem nview_tail (s : St) : nview (tail s) = nview s := by rw [tail_eq]; rfl
@[simp] theorem nview_modCall (s : St) (n : Nat) (f : Call → Call) : nview (modCall s n f) = nview s := rfl
@[simp] theorem nview_modCore (s : St) (r : Nat) (f : ReqCore → ReqCore) : nview (modCore s r f) = nview s := rfl
@[simp] theorem nview_modMeta (s : St) (r : Nat) (f : ReqMeta → ReqMeta) : nview (modMeta s r f) = nview s := rfl
@[simp] theorem nview_cancelReq (s : St) (r : Nat) (c : Cause) : nview (cancelReq s r c) = nview s := rfl
@[simp] theorem nview_toP2 (s : St) (r : Nat) : nview (toP2 s r) = nview s := rfl
@[simp] theorem nview_beginPR (s : St) (r : Nat) (o : Owner) : nview (beginPR s r o) = nview s := by
  rw [beginPR_eq]; rfl
@[simp] theorem nview_retireIn (s : St) (n : Nat) (r : Res) : nview (retireIn s n r) = nview s := by
  rw [retireIn_footprint]; rfl
@[simp] theorem nview_retireReg (s : St) (n : Nat) (r : Res) : nview (retireReg s n r) = nview s := by
  rw [retireReg_eq]; rfl
@[simp] theorem nview_afterP2 (s : St) (r : Nat) (o : Owner) : nview (afterP2 s r o) = nview s := by cases o <;> rfl
theorem nview_foldl_cancel (l : List (Nat × Nat)) (c : Cause) (s : St) :
    nview (l.foldl (fun s p => cancelReq s p.2 c) s) = nview s :=
  List.foldl_fixes nview (fun s p => nview_cancelReq s p.2 c) l s
theorem nview_foldl_retire (l : List Nat) (r : Res) (s : St) :
    nview (l.foldl (fun s n => retireIn s n r) s) = nview s :=
  List.foldl_fixes nview (fun s n => nview_retireIn s n r) l s
@[simp] theorem nview_markBroken (s : St) : nview (markBroken s) = nview s := by
  rw [markBroken_eq]; rfl
@[simp] theorem nview_settleWaiters (s : St) : nview (settleWaiters s) = nview s := by
  rw [settleWaiters_eq]; rfl
@[simp] theorem nview_settleDisp (s : St) : nview (settleDisp s) = nview s := by
  rw [settleDisp_eq]; rfl
@[simp] theorem nview_settle (s : St) : nview (settle s) = nview s := by
  simp only [settle, nview_settleDisp, nview_settleWaiters]; rfl

theorem ninv_of_eq {a b : NView} (h : a = b) (i : NInv b) : NInv a := h ▸ i

inductive NMove : Label → Who → NotifPc → NotifPc → (Nat → Nat) → Prop
  | wretOk {w} : NMove (.wret w .ok) w .wr (.n2 none) id
  | wretBroken {w} : NMove (.wret w .broken) w .wr (.w2 .broken) id
  | wretRejected {w} : NMove (.wret w .rejected) w .wr (.n2 (some .rejected)) id
  | n1Refused {w} : NMove (.n1 w) w .n1 (.fin (some .clientClosing)) id
  | n1 {w} : NMove (.n1 w) w .n1 .w1 (· + 1)
  | n2 {w res} : NMove (.n2 w) w (.n2 res) (.fin res) (· - 1)
  | w1 {w} : NMove (.w1 w) w .w1 .wr id
  | w1Shut {w} : NMove (.w1 w) w .w1 (.n2 (some .serverClosing)) id
  | w2 {w e} : NMove (.w2 w) w (.w2 e) (.n2 (some e)) id

def NView.get (v : NView) : Who → Option Notif
  | .unotif k => v.us[k]?
  | .cnotif k => v.cs[k]?
  | _ => none

def NView.set (v : NView) (w : Who) (f : Notif → Notif) (out : Nat) : NView :=
  match w with
  | .unotif k => { us := v.us.modify k f, cs := v.cs, outNotifs := out }
  | .cnotif k => { us := v.us, cs := v.cs.modify k f, outNotifs := out }
  | _ => { v with outNotifs := out }

theorem nview_setNotif {X s : St} (hu : X.unotifs = s.unotifs) (hc : X.cnotifs = s.cnotifs) (w : Who) (f : Notif → Notif) :
    nview (setNotif X w f) = (nview s).set w f X.outNotifs := by
  cases w <;> simp only [nview, setNotif, NView.set, hu, hc]

inductive NStep (v : NView) : Label → NView → Prop
  | same {l} : NStep v l v
  | enotify : NStep v .enotify { v with us := v.us ++ [{}] }
  | spawn {n} : NStep v (.retire n) { v with cs := v.cs ++ [{ cancelFor := some n }] }
  | move {l w nf p' d} (hw : v.get w = some nf) (hm : NMove l w nf.pc p' d) :
      NStep v l (v.set w (fun nf => { nf with pc := p' }) (d v.outNotifs))

theorem NStep.of_step0 {s s' : St} {l : Label} (h : step0 s l = some s') : NStep (nview s) l (nview s') := by
  have mv {w : Who} {nf : Notif} {p' : NotifPc} (X : St) (d : Nat → Nat) (hu : X.unotifs = s.unotifs)
      (hc : X.cnotifs = s.cnotifs) (ho : X.outNotifs = d s.outNotifs) (hw : getNotif s w = some nf) (hm : NMove l w nf.pc p' d) :
      NStep (nview s) l (nview (setNotif X w fun nf => { nf with pc := p' })) := by
    rw [nview_setNotif hu hc, ho]
    exact .move (v := nview s) (show (nview s).get w = some nf by cases w <;> first | exact hw | cases hw) hm
  have mb := nview_markBroken s
  have of_eq {X : NView} (e : X = nview s) : NStep (nview s) l X := e ▸ .same
  cases Step0.of_step0 h with
  | enotify => exact .enotify
  | retireRc => rw [nview_modCall, nview_tail]; exact (nview_retireReg s _ _) ▸ .spawn
  | wretNotifOk hw hpc => exact mv s id rfl rfl rfl hw (by rw [hpc]; exact .wretOk)
  | wretNotifBroken hw hpc => exact mv _ id rfl rfl rfl hw (by rw [hpc]; exact .wretBroken)
  | wretNotifRejected hw hpc => exact mv s id rfl rfl rfl hw (by rw [hpc]; exact .wretRejected)
  | n1Refused hw hpc => rw [nview_tail]; exact mv s id rfl rfl rfl hw (by rw [hpc]; exact .n1Refused)
  | n1 hw hpc => rw [nview_tail]; exact mv _ _ rfl rfl rfl hw (by rw [hpc]; exact .n1)
  | n2 hw hpc => rw [nview_tail]; exact mv _ _ rfl rfl rfl hw (by rw [hpc]; exact .n2)
  | w1Notif hw hpc => rw [nview_tail]; exact mv s id rfl rfl rfl hw (by rw [hpc]; exact .w1)
  | w1NotifShut hw hpc => rw [nview_tail]; exact mv s id rfl rfl rfl hw (by rw [hpc]; exact .w1Shut)
  | w2Notif hw hpc =>
    rw [nview_tail]
    exact mv _ id (congrArg NView.us mb) (congrArg NView.cs mb) (congrArg NView.outNotifs mb) hw (by rw [hpc]; exact .w2)
  | rx =>
    exact of_eq (by rw [nview_tail, nview_foldl_cancel]; exact nview_foldl_retire s.outCalls (.err .read) _)
  | p2 => rw [nview_afterP2, nview_tail, nview_modCore]; split <;> exact .same
  | _ =>
    (try simp only [nview_tail, nview_modCall, nview_modCore, nview_modMeta, nview_cancelReq, nview_toP2, nview_beginPR,
      nview_retireIn, nview_retireReg, nview_markBroken])
    exact .same

theorem NMove.count {l : Label} {w : Who} {p p' : NotifPc} {d : Nat → Nat} (hm : NMove l w p p' d) {out : Nat}
    (h : (if p.writing then 1 else 0) ≤ out) :
    d out + (if p.writing then 1 else 0) = out + (if p'.writing then 1 else 0) := by
  cases hm <;> simp [NotifPc.writing] at h ⊢
  all_goals omega

theorem NInv.step {v v' : NView} {l : Label} (i : NInv v) (h : NStep v l v') : NInv v' := by
  unfold NInv at i ⊢
  cases h with
  | same => exact i
  | enotify => simp only [cntW_append]; simpa [NotifPc.writing] using i
  | spawn => simp only [cntW_append]; simpa [NotifPc.writing] using i
  | @move _ w nf p' d hw hm =>
    -- a list that holds `nf` counts it
    have counted {us : List Notif} {k : Nat} (hk : us[k]? = some nf) : (if nf.pc.writing then 1 else 0) ≤ cntW us := by
      have := cntW_modify us k nf (fun nf => { nf with pc := .n1 }) hk
      rw [show ({ nf with pc := NotifPc.n1 } : Notif).pc.writing = false from rfl] at this
      simp only [Bool.false_eq_true, if_false] at this; omega
    cases w with
    | call n => cases hw
    | resp r => cases hw
    | unotif k =>
      have h1 := cntW_modify v.us k nf (fun nf => { nf with pc := p' }) hw
      dsimp only at h1
      have h2 := hm.count (out := v.outNotifs) (by have := counted hw; omega)
      simp only [NView.set]; omega
    | cnotif k =>
      have h1 := cntW_modify v.cs k nf (fun nf => { nf with pc := p' }) hw
      dsimp only at h1
      have h2 := hm.count (out := v.outNotifs) (by have := counted hw; omega)
      simp only [NView.set]; omega

theorem ninv_step {s s' : St} {l : Label} (i : NInv (nview s)) (h : step s l = some s') : NInv (nview s') := by
  obtain ⟨s0, h0, rfl⟩ := step_some.mp h
  rw [nview_settle]; exact i.step (NStep.of_step0 h0)

end Conn
