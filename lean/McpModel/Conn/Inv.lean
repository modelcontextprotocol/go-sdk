import McpModel.Conn.ReqStep
import McpModel.Conn.FlagInv
import McpModel.Conn.CallInv
/-! The invariants of the three bookkeeping parts of a connection (outgoing calls, incoming requests, shutdown
flags) and of the dispatcher, joined: each is preserved by every label, the later ones given the earlier
ones in the state before the step. -/
namespace Conn

structure Inv (s : St) : Prop where
  calls : CInv s
  reqs : RInv (reqView s)
  flags : FInv s

theorem inv_init : Inv ({} : St) :=
  ⟨cinv_init, rinv_init, ⟨rfl, rfl, rfl, fun h => by simp [fview] at h, rfl⟩⟩

theorem inv_step {s s' : St} {l : Label} (i : Inv s) (h : step s l = some s') : Inv s' := by
  refine ⟨cinv_step i.calls h, rinv_step i.reqs h, ?_⟩
  obtain ⟨s0, h0, rfl⟩ := step_some.mp h
  unfold FInv; rw [fview_settle]; exact finv_step0 i.reqs i.flags h0

theorem inv_run {s s' : St} (ls : List Label) (i : Inv s) (h : run s ls = some s') : Inv s' :=
  run_induct inv_step ls i h

structure Inv2 (s : St) : Prop where
  base : Inv s
  disp : DInv (dview s)

theorem inv2_init : Inv2 ({} : St) := ⟨inv_init, dinv_init⟩

theorem inv2_step {s s' : St} {l : Label} (i : Inv2 s) (h : step s l = some s') : Inv2 s' := by
  refine ⟨inv_step i.base h, ?_⟩
  obtain ⟨s0, h0, rfl⟩ := step_some.mp h
  exact dinv_settle (dinv_step0 i.base.reqs i.disp h0)

theorem inv2_run {s s' : St} (ls : List Label) (i : Inv2 s) (h : run s ls = some s') : Inv2 s' :=
  run_induct inv2_step ls i h

end Conn
