import McpModel.Conn.Progress
/-!
Deadlock freedom of the connection (`closing_progress`), from the invariants of Progress.lean: in every reachable state that is
shutting down and not yet done, some critical section is enabled, or the connection is waiting for something *outside* it
that the property's proviso promises — the predicates below, and `ReadAfterClose` (Obligations.lean).
-/
namespace Conn

/-- Some critical section of the connection can run — on `step0`, i.e. before `settle` wakes the blocked goroutines, and
over internal labels only. -/
def Enabled (s : St) : Prop := ∃ l, l.internal = true ∧ (step0 s l).isSome = true
/-- a user handler is running (proviso: handlers return) -/
def HandlerRunning (s : St) : Prop := ∃ (r : Nat) (k : ReqCore), s.cores[r]? = some k ∧ k.pc = .running
/-- a message is inside the transport's Write (proviso: Write returns) -/
def WriteInFlight (s : St) : Prop :=
  (∃ (n : Nat) (c : Call), getCall s n = some c ∧ c.pc = .wr) ∨ (∃ (r : Nat) (k : ReqCore), s.cores[r]? = some k ∧ k.pc = .wr) ∨
  (∃ (w : Who) (nf : Notif), getNotif s w = some nf ∧ nf.pc = .wr)
/-- an outgoing call is waiting for the peer's response with a live context -/
def AwaitingPeer (s : St) : Prop :=
  ∃ (n : Nat) (c : Call), n ∈ s.outCalls ∧ getCall s n = some c ∧ c.pc = .await ∧ c.ready = none ∧ c.ctxDone = false

/-- The connection can move, or waits for what the proviso of C05 promises. -/
def Progress (s : St) : Prop := Enabled s ∨ HandlerRunning s ∨ WriteInFlight s ∨ AwaitingPeer s

theorem progress_of_enabled {s : St} (l : Label) (hi : l.internal = true) (h : (step0 s l).isSome = true) : Progress s :=
  Or.inl ⟨l, hi, h⟩

theorem core_progress {s : St} {r : Nat} {k : ReqCore} (hk : s.cores[r]? = some k)
    (hpc : k.pc ≠ .queued ∧ k.pc ≠ .fin) : Progress s := by
  cases hp : k.pc with
  | a1 =>
    refine progress_of_enabled (.a1 r) rfl ?_
    simp only [step0, hk]; simp only [hp, ne_eq, not_true_eq_false, if_false]
    (repeat' split) <;> rfl
  | a2 =>
    refine progress_of_enabled (.a2 r) rfl ?_
    simp only [step0, hk]; simp only [hp, ne_eq, not_true_eq_false, if_false]
    (repeat' split) <;> rfl
  | queued => exact absurd hp hpc.1
  | running => exact Or.inr (Or.inl ⟨r, k, hk, hp⟩)
  | p1 =>
    refine progress_of_enabled (.p1 r) rfl ?_
    simp only [step0, hk]; simp [hp]
  | w1 =>
    refine progress_of_enabled (.w1 (.resp r)) rfl ?_
    simp only [step0, hk]; simp only [hp, ne_eq, not_true_eq_false, if_false]
    (repeat' split) <;> rfl
  | wr => exact Or.inr (Or.inr (Or.inl (Or.inr (Or.inl ⟨r, k, hk, hp⟩))))
  | w2 e =>
    refine progress_of_enabled (.w2 (.resp r)) rfl ?_
    simp only [step0, hk]; simp [hp]
  | p2 =>
    refine progress_of_enabled (.p2 r) rfl ?_
    simp only [step0, hk]; simp [hp]
  | fin => exact absurd hp hpc.2

theorem inPR_cases {p : ReqPc} (h : p.inPR = true) : p ≠ .queued ∧ p ≠ .fin := by
  cases p <;> simp [ReqPc.inPR] at h ⊢

theorem dview_ms_get (s : St) (r : Nat) (m : MCore) (h : (dview s).ms[r]? = some m) :
    ∃ q, s.metas[r]? = some q ∧ q.mcore = m := by
  simp only [dview, List.getElem?_map] at h
  cases hq : s.metas[r]? with
  | none => simp [hq] at h
  | some q => simp [hq] at h; exact ⟨q, rfl, h⟩

theorem metas_of_cores {s : St} (d : DInv (dview s)) {r : Nat} (h : r < s.cores.length) : ∃ q, s.metas[r]? = some q := by
  have : r < s.metas.length := by
    have := d.lens; simp only [dview, List.length_map] at this; omega
  exact ⟨_, List.getElem?_eq_getElem this⟩

theorem disp_progress {s : St} (i : Inv4 s) (hd : s.disp ≠ .none) : Progress s := by
  have d := i.disp
  have L := i.base.link
  have hr := i.inv.reqs
  cases hdp : s.disp with
  | none => exact absurd hdp hd
  | d1 =>
    refine progress_of_enabled .d1 rfl ?_
    simp only [step0, hdp, ne_eq, not_true_eq_false, if_false]
    split
    · rfl
    · rename_i r rest hq
      have hlen : r < s.cores.length := hr.qr r (by simp [reqView, hq])
      obtain ⟨q, hq'⟩ := metas_of_cores d hlen
      simp only [tail_metas, hq']
      split <;> rfl
  | waiting r =>
    obtain ⟨m, hm, hst⟩ := L.wait r (by simp [dview, hdp])
    obtain ⟨q, hq, rfl⟩ := dview_ms_get s r m hm
    have hrel : q.released = false := i.st.disp r q hdp hq
    have hlen : r < s.cores.length := by
      have := (List.getElem?_eq_some_iff.mp hq).1
      have hl := d.lens; simp only [dview, List.length_map] at hl; omega
    obtain ⟨k, hk⟩ : ∃ k, s.cores[r]? = some k := ⟨_, List.getElem?_eq_getElem hlen⟩
    have ho := L.own r k q.mcore hk hm hst
    refine core_progress hk ⟨fun hp => ?_, fun hp => ?_⟩
    · have := (d.fresh r k q.mcore hk hm (Or.inr (Or.inr hp))).1
      simp [this] at hst
    · have := ho.2 hp
      simp [ReqMeta.mcore, hrel] at this
  | busy r =>
    obtain ⟨k, hk, hp, _⟩ := L.busy r (by simp [dview, hdp])
    exact core_progress hk (inPR_cases hp)

theorem call_progress {s : St} (i : Inv4 s) {n : Nat} (hn : n ∈ s.outCalls) : Progress s := by
  have c := i.inv.calls
  obtain ⟨h1, h2⟩ := c.inrange n hn
  obtain ⟨cl, hc⟩ : ∃ cl, getCall s n = some cl := by
    have : n - 1 < s.calls.length := by omega
    refine ⟨s.calls[n - 1], ?_⟩
    simp only [getCall_eq]; rw [if_neg (by omega)]; exact List.getElem?_eq_getElem this
  have o := c.ok n cl hc
  obtain ⟨hreg, hready⟩ := o.reg.mp hn
  cases hp : cl.pc with
  | c1 => have := (o.fresh hp).1; simp [hreg] at this
  | w1 =>
    refine progress_of_enabled (.w1 (.call n)) rfl ?_
    simp only [step0, hc]; simp only [hp, ne_eq, not_true_eq_false, if_false]
    split <;> rfl
  | wr => exact Or.inr (Or.inr (Or.inl (Or.inl ⟨n, cl, hc, hp⟩)))
  | w2 e =>
    refine progress_of_enabled (.w2 (.call n)) rfl ?_
    simp only [step0, hc]; simp [hp]
  | r e =>
    refine progress_of_enabled (.retire n) rfl ?_
    simp only [step0, hc]; simp only [hp]
    split <;> rfl
  | await =>
    obtain ⟨_, hctx⟩ := i.aw n cl hc hp
    exact Or.inr (Or.inr (Or.inr ⟨n, cl, hn, hc, hp, hready, hctx⟩))
  | rc =>
    refine progress_of_enabled (.retire n) rfl ?_
    simp only [step0, hc]; simp only [hp]
    split <;> rfl
  | fin => have := (o.fin hp).2; simp [hready] at this

theorem cntW_pos (l : List Notif) (h : 0 < cntW l) : ∃ (k : Nat) (nf : Notif), l[k]? = some nf ∧ nf.pc.writing = true := by
  induction l with
  | nil => simp [cntW] at h
  | cons a t ih =>
    by_cases ha : a.pc.writing = true
    · exact ⟨0, a, rfl, ha⟩
    · have : 0 < cntW t := by simp [cntW, ha] at h; exact h
      obtain ⟨k, nf, hk, hw⟩ := ih this
      exact ⟨k + 1, nf, by simpa using hk, hw⟩

theorem notif_progress_of {s : St} (w : Who) (nf : Notif) (hw : getNotif s w = some nf) (hnc : ∀ n, w ≠ .call n)
    (hnr : ∀ r, w ≠ .resp r) (hp : nf.pc.writing = true) : Progress s := by
  cases hpc : nf.pc with
  | n1 => simp [hpc, NotifPc.writing] at hp
  | fin r => simp [hpc, NotifPc.writing] at hp
  | w1 =>
    refine progress_of_enabled (.w1 w) rfl ?_
    cases w with
    | call n => exact absurd rfl (hnc n)
    | resp r => exact absurd rfl (hnr r)
    | unotif k => simp only [step0, hw]; simp only [hpc, ne_eq, not_true_eq_false, if_false]; split <;> rfl
    | cnotif k => simp only [step0, hw]; simp only [hpc, ne_eq, not_true_eq_false, if_false]; split <;> rfl
  | wr => exact Or.inr (Or.inr (Or.inl (Or.inr (Or.inr ⟨w, nf, hw, hpc⟩))))
  | w2 e =>
    refine progress_of_enabled (.w2 w) rfl ?_
    cases w with
    | call n => exact absurd rfl (hnc n)
    | resp r => exact absurd rfl (hnr r)
    | unotif k => simp only [step0, hw]; simp [hpc]
    | cnotif k => simp only [step0, hw]; simp [hpc]
  | n2 res =>
    refine progress_of_enabled (.n2 w) rfl ?_
    simp only [step0, hw]; simp [hpc]

theorem notif_progress {s : St} (i : Inv4 s) (h : s.outNotifs ≠ 0) : Progress s := by
  have hn := i.ni
  unfold NInv at hn; simp only [nview] at hn
  by_cases hu : 0 < cntW s.unotifs
  · obtain ⟨k, nf, hk, hw⟩ := cntW_pos _ hu
    exact notif_progress_of (.unotif k) nf hk (fun _ h => by cases h) (fun _ h => by cases h) hw
  · have hc : 0 < cntW s.cnotifs := by omega
    obtain ⟨k, nf, hk, hw⟩ := cntW_pos _ hc
    exact notif_progress_of (.cnotif k) nf hk (fun _ h => by cases h) (fun _ h => by cases h) hw

theorem exists_inflight_of_pos (l : List ReqCore) (h : 0 < countInflight l) :
    ∃ (r : Nat) (k : ReqCore), l[r]? = some k ∧ k.pc.inflight = true := by
  induction l with
  | nil => simp [countInflight] at h
  | cons a t ih =>
    by_cases ha : a.pc.inflight = true
    · exact ⟨0, a, rfl, ha⟩
    · have : 0 < countInflight t := by simp [countInflight, ha] at h; exact h
      obtain ⟨r, k, hk, hw⟩ := ih this
      exact ⟨r + 1, k, by simpa using hk, hw⟩

/-- A queued request keeps the dispatcher alive. -/
theorem unfinished_progress {s : St} (i : Inv4 s) {r : Nat} {k : ReqCore} (hk : s.cores[r]? = some k) (hf : k.pc ≠ .fin) :
    Progress s := by
  by_cases hq : k.pc = .queued
  · have hmem : r ∈ s.queue := (i.inv.reqs.ok r k hk).que.mp hq
    exact disp_progress i (i.base.link.qd fun (he : s.queue = []) => by rw [he] at hmem; cases hmem)
  · exact core_progress hk ⟨hq, hf⟩

theorem incoming_progress {s : St} (i : Inv4 s) (h : s.incoming ≠ 0) : Progress s := by
  have hr := i.inv.reqs
  have hc := hr.cnt; simp only [reqView] at hc
  obtain ⟨r, k, hk, hin⟩ := exists_inflight_of_pos s.cores (by omega)
  exact unfinished_progress i hk fun hf => by simp [hf, ReqPc.inflight] at hin

/-- The case analysis behind `closing_progress`, from the invariant alone (so that it can be used at any
state known to satisfy `Inv4`, not only at the end of a run from the initial state). -/
theorem progress_of_inv4 {s : St} (i : Inv4 s) (hsd : s.shuttingDown = true) (hnd : s.done = false) :
    Progress s ∨ (s.reader = .read ∧ s.closerUsed = true) := by
  by_cases hidle : s.idle = true
  · -- nothing in flight: the transport has been closed; the reader is the only thing left
    have ht := i.ti (by simpa [fview, FV.idle, St.idle] using hidle) (by simpa [fview, FV.shuttingDown, St.shuttingDown] using hsd)
    have hcu : s.closerUsed = true := ht.1
    have hrd : s.reading = true := by
      rcases ht.2 with h' | h'
      · exact h'
      · simp [fview, hnd] at h'
    have hact := i.inv.flags.rd
    simp only [fview, hrd] at hact
    cases hr : s.reader with
    | start => simp [hr, ReaderPc.active] at hact
    | gone => simp [hr, ReaderPc.active] at hact
    | read => exact Or.inr ⟨rfl, hcu⟩
    | rr id p => exact Or.inl (progress_of_enabled .rresp rfl (by simp [step0, hr]))
    | rx => exact Or.inl (progress_of_enabled .rx rfl (by simp [step0, hr]))
    | busy =>
      obtain ⟨k, hk, hp⟩ := i.rb (by simp [reqView, hr])
      have hk' : s.cores[s.cores.length - 1]? = some k := hk
      refine Or.inl (core_progress hk' ?_)
      rcases hp with hp | hp | ⟨_, hp⟩
      · simp [hp]
      · simp [hp]
      · exact inPR_cases hp
  · left
    simp only [St.idle, Bool.and_eq_true, Bool.not_eq_true', not_and, beq_iff_eq, List.isEmpty_iff] at hidle
    by_cases h1 : s.outCalls = []
    · by_cases h2 : s.outNotifs = 0
      · by_cases h3 : s.incoming = 0
        · have h4 : s.handlerRunning = true := by
            cases hh : s.handlerRunning
            · exact absurd hh (hidle ⟨⟨h1, h2⟩, h3⟩)
            · rfl
          have := i.disp.hr
          simp only [dview, h4] at this
          exact disp_progress i (fun hn => by simp [hn] at this)
        · exact incoming_progress i h3
      · exact notif_progress i h2
    · obtain ⟨n, hn⟩ := List.exists_mem_of_ne_nil _ h1
      exact call_progress i hn

/-- **Deadlock freedom (C05).** A reachable connection that is shutting down (Close was called, or the reader or the
writer failed) and not yet done can run a critical section, or waits for a handler, a transport `Write` or the peer's answer
to a call with a live context — or everything else is finished, the transport has been closed and the reader is parked in
its `Read`, which must now fail because the transport honours `Close`.  There is no other way to be stuck. -/
theorem closing_progress (ls : List Label) (s : St) (h : run {} ls = some s)
    (hsd : s.shuttingDown = true) (hnd : s.done = false) :
    Progress s ∨ (s.reader = .read ∧ s.closerUsed = true) :=
  progress_of_inv4 (inv4_run ls inv4_init h) hsd hnd

/-- Once `done` is closed no `Close()` or `Wait()` caller is left blocked on it,
and each of them that has not returned yet can take its last step. -/
theorem done_wakes_everyone (ls : List Label) (s : St) (h : run {} ls = some s) (hd : s.done = true) :
    s.closeWaiting = 0 ∧ s.waitWaiting = 0 ∧
    (0 < s.closeWt → (step0 s (.wt false)).isSome = true) ∧ (0 < s.waitWt → (step0 s (.wt true)).isSome = true) := by
  have i := inv4_run ls inv4_init h
  obtain ⟨a, b⟩ := i.st.wake hd
  refine ⟨a, b, fun hc => ?_, fun hw => ?_⟩
  · simp only [step0, hd]; simp; omega
  · simp only [step0, hd]; simp; omega

/-! Non-vacuity: both alternatives of `closing_progress` occur in reachable, shutting-down, not-done states (and the second
scenario runs on to `done`). -/

/-- Close on an idle connection: the transport is closed and the reader is the last thing left. -/
example : ∃ s, run {} [.start, .eclose, .cl1] = some s ∧ s.shuttingDown = true ∧ s.done = false ∧
    s.reader = .read ∧ s.closerUsed = true := ⟨_, rfl, rfl, rfl, rfl, rfl⟩

/-- Close while a handler is running: the connection waits for the handler (and has not closed the transport). -/
example : ∃ s, run {} [.start, .read (.call 1), .a1 0, .a2 0, .d1, .eclose, .cl1] = some s ∧ s.shuttingDown = true ∧
    s.done = false ∧ s.closerUsed = false ∧ (∃ k, s.cores[0]? = some k ∧ k.pc = .running) :=
  ⟨_, rfl, rfl, rfl, rfl, _, rfl, rfl⟩

/-- … and after the handler returned, the response was written and P2 ran, the connection is done. -/
example : ∃ s, run {} [.start, .read (.call 1), .a1 0, .a2 0, .d1, .eclose, .cl1, .hret 0 false, .p1 0,
    .w1 (.resp 0), .wret (.resp 0) .ok, .p2 0, .d1, .read .eof, .rx] = some s ∧ s.done = true ∧ s.transportCloses = 1 :=
  ⟨_, rfl, rfl, rfl⟩

end Conn
