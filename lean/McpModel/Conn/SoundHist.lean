import McpModel.Conn.MonBook
import McpModel.Base.Logic
/-!
Clause soundness of the C01–C05 monitors, part 1: the vocabulary for talking about observation traces and the HISTORY
INVARIANT `Hist`: what every field of the monitor's state `monAfter {} tr` means in terms of the trace `tr` it has consumed.
Only the monitor and its specification are imported: nothing here depends on the model's step function.
-/
namespace Conn

/-- An observation trace: the label fed to the implementation and the observation printed after it. -/
abbrev Trace := List (Label × Obs)

/-- The observation printed after the `i`-th label. -/
def obsAt (tr : Trace) (i : Nat) : Obs := (tr[i]?.map (·.2)).getD {}

/-- The observation the `i`-th label started from (`{}` = nothing observed yet). -/
def before (tr : Trace) (i : Nat) : Obs := if i = 0 then {} else obsAt tr (i - 1)

def lastObs (tr : Trace) : Obs := before tr tr.length

def evAt (tr : Trace) (i : Nat) : Option Ev := tr[i]?.map fun x => evOf x.1

/-- Number of positions whose event satisfies `p`. -/
def cnt (tr : Trace) (p : Ev → Bool) : Nat := tr.countP fun x => p (evOf x.1)

/-- A user starts a call (with params that can, or cannot, be encoded): it takes the next call number. -/
def Ev.isCallStart : Ev → Bool
  | .ecall | .ecallbad => true
  | _ => false

/-- Calls are numbered 1,2,… by their start events (`ecall`, `ecallbad`): the number of the call started at position `i`
(= number of start events at positions `≤ i`). -/
def callNoAt (tr : Trace) (i : Nat) : Nat := cnt (tr.take (i + 1)) Ev.isCallStart

/-- The events by which a request arrives. -/
def Ev.isRead : Ev → Bool
  | .readCall _ | .readNotif | .readCancel _ => true
  | _ => false

def Ev.isCancelRead : Ev → Bool
  | .readCancel _ => true
  | _ => false

/-- The request-read events of the trace in order: request `r` is `(reads tr)[r]`. -/
def reads (tr : Trace) : List Ev := (tr.map fun x => evOf x.1).filter Ev.isRead

/-- Number of requests read at positions `< t`. -/
def nreadsBefore (tr : Trace) (t : Nat) : Nat := (reads (tr.take t)).length

/-- Request `r` was read at a position `< t`. -/
def arrived (tr : Trace) (r t : Nat) : Prop := r < nreadsBefore tr t

/-- Request `r` is read at position `t` by event `e`. -/
def ReadAt (tr : Trace) (r t : Nat) (e : Ev) : Prop :=
  evAt tr t = some e ∧ e.isRead = true ∧ nreadsBefore tr t = r

/-- The wire id carried by a request-read event. -/
def Ev.reqId : Ev → Option Nat
  | .readCall id => some id
  | _ => none

/-- The wire id of request `r` if it was read at a position `< t` and is a call. -/
def reqIdAt (tr : Trace) (t r : Nat) : Option Nat := ((reads (tr.take t))[r]?).bind Ev.reqId

/-- The id index just before position `t`, as the A1/P1 events determine it: A1 of a call whose id
is not indexed appends `(id, r)`; P1 of `r` removes the entries of `r`. -/
def idxAt (tr : Trace) : Nat → List (Nat × Nat)
  | 0 => []
  | t + 1 =>
    match evAt tr t with
    | some (.a1 r) =>
      match reqIdAt tr t r with
      | some id => if ((idxAt tr t).lookup id).isSome then idxAt tr t else idxAt tr t ++ [(id, r)]
      | none => idxAt tr t
    | some (.p1 r) => (idxAt tr t).filter fun e => e.2 ≠ r
    | _ => idxAt tr t

/-- The request indexed under wire id `id` just before position `t`. -/
def indexedAt (tr : Trace) (t id : Nat) : Option Nat := (idxAt tr t).lookup id

section snoc
variable {tr : Trace} {x : Label × Obs} {i : Nat}

theorem obsAt_snoc_lt (h : i < tr.length) : obsAt (tr ++ [x]) i = obsAt tr i := by
  simp [obsAt, List.getElem?_append_left h]

@[simp] theorem obsAt_snoc_len : obsAt (tr ++ [x]) tr.length = x.2 := by
  simp [obsAt]

theorem obsAt_ge (h : tr.length ≤ i) : obsAt tr i = {} := by
  simp [obsAt, List.getElem?_eq_none h]

theorem forall_obsAt {Q : Obs → Prop} : (∀ k, Q (obsAt tr k)) ↔ Q {} ∧ ∀ y ∈ tr, Q y.2 := by
  constructor
  · intro h
    refine ⟨by simpa [obsAt_ge (Nat.le_refl _)] using h tr.length, fun y hy => ?_⟩
    obtain ⟨k, hk⟩ := List.getElem?_of_mem hy
    simpa [obsAt, hk] using h k
  · rintro ⟨h0, h⟩ k
    unfold obsAt
    cases hk : tr[k]? with
    | none => exact h0
    | some y => exact h y (List.mem_of_getElem? hk)

theorem evAt_snoc_lt (h : i < tr.length) : evAt (tr ++ [x]) i = evAt tr i := by
  simp [evAt, List.getElem?_append_left h]

@[simp] theorem evAt_snoc_len : evAt (tr ++ [x]) tr.length = some (evOf x.1) := by
  simp [evAt]

theorem evAt_some_lt {e : Ev} (h : evAt tr i = some e) : i < tr.length := by
  simp only [evAt, Option.map_eq_some_iff] at h
  obtain ⟨a, ha, _⟩ := h
  exact (List.getElem?_eq_some_iff.mp ha).1

theorem evAt_snoc_some {e : Ev} (h : evAt (tr ++ [x]) i = some e) :
    (i < tr.length ∧ evAt tr i = some e) ∨ (i = tr.length ∧ evOf x.1 = e) := by
  have hl := evAt_some_lt h
  simp only [List.length_append, List.length_singleton] at hl
  by_cases hi : i < tr.length
  · left; exact ⟨hi, by rwa [evAt_snoc_lt hi] at h⟩
  · right
    have : i = tr.length := by omega
    subst this
    simpa using h

theorem before_snoc_le (h : i ≤ tr.length) : before (tr ++ [x]) i = before tr i := by
  unfold before
  split
  · rfl
  · rw [obsAt_snoc_lt (by omega)]

@[simp] theorem before_snoc_len : before (tr ++ [x]) tr.length = lastObs tr := before_snoc_le (Nat.le_refl _)

@[simp] theorem before_snoc_succ : before (tr ++ [x]) (tr.length + 1) = x.2 := by
  simp [before]

@[simp] theorem lastObs_snoc : lastObs (tr ++ [x]) = x.2 := by
  simp [lastObs]

@[simp] theorem lastObs_nil : lastObs [] = {} := rfl

theorem exists_evAt_snoc_and {e : Ev} {Q : Trace → Nat → Prop}
    (hQ : ∀ i, i < tr.length → (Q (tr ++ [x]) i ↔ Q tr i)) :
    (∃ i, evAt (tr ++ [x]) i = some e ∧ Q (tr ++ [x]) i) ↔
      (∃ i, evAt tr i = some e ∧ Q tr i) ∨ (evOf x.1 = e ∧ Q (tr ++ [x]) tr.length) := by
  constructor
  · rintro ⟨i, h, hq⟩
    rcases evAt_snoc_some h with ⟨hl, h'⟩ | ⟨hl, h'⟩
    · exact .inl ⟨i, h', (hQ i hl).mp hq⟩
    · exact .inr ⟨h', hl ▸ hq⟩
  · rintro (⟨i, h, hq⟩ | ⟨h, hq⟩)
    · have hl := evAt_some_lt h
      exact ⟨i, by rw [evAt_snoc_lt hl]; exact h, (hQ i hl).mpr hq⟩
    · exact ⟨tr.length, by simp [h], hq⟩

theorem exists_evAt_snoc {e : Ev} :
    (∃ i, evAt (tr ++ [x]) i = some e) ↔ (∃ i, evAt tr i = some e) ∨ evOf x.1 = e := by
  simpa only [and_true] using
    exists_evAt_snoc_and (tr := tr) (x := x) (e := e) (Q := fun _ _ => True) (fun _ _ => Iff.rfl)

@[simp] theorem cnt_snoc (p : Ev → Bool) : cnt (tr ++ [x]) p = cnt tr p + if p (evOf x.1) then 1 else 0 := by
  simp [cnt, List.countP_append, List.countP_cons]

@[simp] theorem cnt_nil (p : Ev → Bool) : cnt [] p = 0 := rfl

theorem take_snoc_le (h : i ≤ tr.length) : (tr ++ [x]).take i = tr.take i :=
  List.take_append_of_le_length h

theorem callNoAt_snoc_lt (h : i < tr.length) : callNoAt (tr ++ [x]) i = callNoAt tr i := by
  simp [callNoAt, take_snoc_le (x := x) (Nat.succ_le_of_lt h)]

theorem callNoAt_snoc_len : callNoAt (tr ++ [x]) tr.length = cnt (tr ++ [x]) Ev.isCallStart := by
  simp [callNoAt, List.take_of_length_le]

theorem cnt_take_le (p : Ev → Bool) (k : Nat) : cnt (tr.take k) p ≤ cnt tr p := by
  unfold cnt
  exact (List.take_sublist k tr).countP_le

theorem callNoAt_le (k : Nat) : callNoAt tr k ≤ cnt tr Ev.isCallStart := cnt_take_le _ _

@[simp] theorem reads_snoc :
    reads (tr ++ [x]) = reads tr ++ if (evOf x.1).isRead then [evOf x.1] else [] := by
  simp only [reads, List.map_append, List.filter_append, List.map_cons, List.map_nil, List.filter_cons, List.filter_nil]

@[simp] theorem reads_nil : reads [] = [] := rfl

theorem nreadsBefore_snoc_le (h : i ≤ tr.length) : nreadsBefore (tr ++ [x]) i = nreadsBefore tr i := by
  simp [nreadsBefore, take_snoc_le h]

theorem nreadsBefore_ge (h : tr.length ≤ i) : nreadsBefore tr i = (reads tr).length := by
  simp [nreadsBefore, List.take_of_length_le h]

theorem nreadsBefore_mono {t t' : Nat} (h : t ≤ t') : nreadsBefore tr t ≤ nreadsBefore tr t' := by
  unfold nreadsBefore reads
  apply List.Sublist.length_le
  apply List.Sublist.filter
  apply List.Sublist.map
  exact List.take_sublist_take_left h

theorem nreadsBefore_le (t : Nat) : nreadsBefore tr t ≤ (reads tr).length := by
  by_cases h : t ≤ tr.length
  · rw [← nreadsBefore_ge (Nat.le_refl tr.length)]; exact nreadsBefore_mono h
  · rw [nreadsBefore_ge (by omega)]; exact Nat.le_refl _

theorem nreadsBefore_succ {e : Ev} (h : evAt tr i = some e) :
    nreadsBefore tr (i + 1) = nreadsBefore tr i + if e.isRead then 1 else 0 := by
  have hl := evAt_some_lt h
  simp only [evAt, List.getElem?_eq_getElem hl, Option.map_some, Option.some.injEq] at h
  subst h
  simp only [nreadsBefore, List.take_succ_eq_append_getElem hl, reads_snoc, List.length_append]
  split <;> rfl

theorem arrived_snoc_le {r : Nat} (h : i ≤ tr.length) : arrived (tr ++ [x]) r i ↔ arrived tr r i := by
  simp [arrived, nreadsBefore_snoc_le h]

theorem arrived_lt_reads {r t : Nat} (h : arrived tr r t) : r < (reads tr).length :=
  Nat.lt_of_lt_of_le h (nreadsBefore_le t)

theorem arrived_mono {r t t' : Nat} (h : t ≤ t') (ha : arrived tr r t) : arrived tr r t' :=
  Nat.lt_of_lt_of_le ha (nreadsBefore_mono h)

theorem exists_arrived_snoc {r : Nat} {e : Ev} (hr : r < (reads tr).length) :
    (∃ t, arrived (tr ++ [x]) r t ∧ evAt (tr ++ [x]) t = some e) ↔
      (∃ t, arrived tr r t ∧ evAt tr t = some e) ∨ evOf x.1 = e := by
  have hnew : arrived (tr ++ [x]) r tr.length := by
    rw [arrived_snoc_le (Nat.le_refl _)]; unfold arrived; rwa [nreadsBefore_ge (Nat.le_refl _)]
  exact (exists_congr fun _ => and_comm).trans
    ((exists_evAt_snoc_and (Q := fun tr t => arrived tr r t) fun i hi => arrived_snoc_le (Nat.le_of_lt hi)).trans
      (or_congr (exists_congr fun _ => and_comm) (and_iff_left hnew)))

theorem not_arrived_new {t : Nat} {e : Ev} (h : evAt (tr ++ [x]) t = some e) :
    ¬ arrived (tr ++ [x]) (reads tr).length t := by
  have hl := evAt_some_lt h
  simp only [List.length_append, List.length_singleton] at hl
  unfold arrived
  rw [nreadsBefore_snoc_le (by omega)]
  exact Nat.not_lt.mpr (nreadsBefore_le t)

end snoc

theorem reads_append (a b : Trace) : reads (a ++ b) = reads a ++ reads b := by
  simp [reads]

theorem ReadAt.get {tr : Trace} {r t : Nat} {e : Ev} (h : ReadAt tr r t e) : (reads tr)[r]? = some e := by
  obtain ⟨he, hr, hn⟩ := h
  have h1 := nreadsBefore_succ he
  have hl := evAt_some_lt he
  have h2 : reads (tr.take (t + 1)) = reads (tr.take t) ++ [e] := by
    simp only [evAt, List.getElem?_eq_getElem hl, Option.map_some, Option.some.injEq] at he
    rw [List.take_succ_eq_append_getElem hl, reads_snoc, he, hr]; rfl
  have h3 : reads tr = reads (tr.take (t + 1)) ++ reads (tr.drop (t + 1)) := by
    rw [← reads_append, List.take_append_drop]
  rw [h3, h2]
  unfold nreadsBefore at hn
  rw [List.append_assoc, List.getElem?_append_right (by omega)]
  simp [hn]

theorem ReadAt.snoc {tr : Trace} {x : Label × Obs} {r t : Nat} {e : Ev} (h : ReadAt tr r t e) :
    ReadAt (tr ++ [x]) r t e := by
  obtain ⟨he, hr, hn⟩ := h
  have hl := evAt_some_lt he
  exact ⟨by rw [evAt_snoc_lt hl]; exact he, hr, by rw [nreadsBefore_snoc_le (Nat.le_of_lt hl)]; exact hn⟩

theorem readAt_new {tr : Trace} {x : Label × Obs} (h : (evOf x.1).isRead = true) :
    ReadAt (tr ++ [x]) (reads tr).length tr.length (evOf x.1) :=
  ⟨by simp, h, by rw [nreadsBefore_snoc_le (Nat.le_refl _), nreadsBefore_ge (Nat.le_refl _)]⟩

theorem exists_readAt : ∀ (tr : Trace) {r : Nat} {e : Ev}, (reads tr)[r]? = some e → ∃ t, ReadAt tr r t e := by
  intro tr
  induction tr using List.snoc_induction with
  | nil => intro r e h; simp at h
  | snoc tr x ih =>
    intro r e h
    rw [reads_snoc] at h
    by_cases hr : r < (reads tr).length
    · rw [List.getElem?_append_left hr] at h
      obtain ⟨t, ht⟩ := ih h
      exact ⟨t, ht.snoc⟩
    · rw [List.getElem?_append_right (by omega)] at h
      split at h
      · rename_i hx
        have h0 : r - (reads tr).length = 0 := by
          have := (List.getElem?_eq_some_iff.mp h).1
          simpa using this
        rw [h0] at h
        simp only [List.getElem?_cons_zero, Option.some.injEq] at h
        have : r = (reads tr).length := by omega
        subst this; subst h
        exact ⟨tr.length, readAt_new hx⟩
      · simp at h

theorem ReadAt.arrived_iff {tr : Trace} {r t : Nat} {e : Ev} (h : ReadAt tr r t e) (t' : Nat) :
    arrived tr r t' ↔ t < t' := by
  obtain ⟨he, hr, hn⟩ := h
  have h1 := nreadsBefore_succ he
  rw [hr] at h1
  unfold arrived
  constructor
  · intro ha
    apply Nat.lt_of_not_le
    intro hle
    have := nreadsBefore_mono (tr := tr) hle
    omega
  · intro hlt
    have := nreadsBefore_mono (tr := tr) (show t + 1 ≤ t' from hlt)
    simp at h1
    omega

theorem ReadAt.unique {tr : Trace} {r t t' : Nat} {e e' : Ev} (h : ReadAt tr r t e) (h' : ReadAt tr r t' e') :
    e = e' := by
  have a := h.get
  have b := h'.get
  rw [a] at b
  exact Option.some.inj b

theorem reqIdAt_snoc_le {tr : Trace} {x : Label × Obs} {t : Nat} (h : t ≤ tr.length) (r : Nat) :
    reqIdAt (tr ++ [x]) t r = reqIdAt tr t r := by
  simp [reqIdAt, take_snoc_le h]

theorem idxAt_snoc_le {tr : Trace} {x : Label × Obs} : ∀ {t : Nat}, t ≤ tr.length → idxAt (tr ++ [x]) t = idxAt tr t
  | 0, _ => rfl
  | t + 1, h => by
    have ih := idxAt_snoc_le (tr := tr) (x := x) (t := t) (by omega)
    simp only [idxAt, evAt_snoc_lt (x := x) (show t < tr.length by omega), ih, reqIdAt_snoc_le (x := x) (show t ≤ tr.length by omega)]

theorem indexedAt_snoc_le {tr : Trace} {x : Label × Obs} {t : Nat} (h : t ≤ tr.length) (id : Nat) :
    indexedAt (tr ++ [x]) t id = indexedAt tr t id := by
  simp [indexedAt, idxAt_snoc_le h]

theorem reqIdAt_some_arrived {tr : Trace} {t r id : Nat} (h : reqIdAt tr t r = some id) : arrived tr r t := by
  unfold reqIdAt at h
  cases hg : (reads (tr.take t))[r]? with
  | none => simp [hg] at h
  | some e => exact (List.getElem?_eq_some_iff.mp hg).1

theorem idxAt_arrived {tr : Trace} : ∀ {t : Nat} {id r : Nat}, (id, r) ∈ idxAt tr t → arrived tr r t
  | 0, _, _, h => by simp [idxAt] at h
  | t + 1, id, r, h => by
    have ih : ∀ {id r : Nat}, (id, r) ∈ idxAt tr t → arrived tr r (t + 1) :=
      fun h => arrived_mono (Nat.le_succ t) (idxAt_arrived h)
    simp only [idxAt] at h
    split at h
    · split at h
      · split at h
        · exact ih h
        · rename_i r' _ id' hid _
          rcases List.mem_append.mp h with h | h
          · exact ih h
          · simp only [List.mem_singleton, Prod.mk.injEq] at h
            obtain ⟨rfl, rfl⟩ := h
            exact arrived_mono (Nat.le_succ t) (reqIdAt_some_arrived hid)
      · exact ih h
    · exact ih (List.mem_filter.mp h).1
    · exact ih h

theorem indexedAt_arrived {tr : Trace} {t id r : Nat} (h : indexedAt tr t id = some r) : arrived tr r t := by
  unfold indexedAt at h
  have := List.lookup_eq_some_iff.mp h
  obtain ⟨l1, l2, heq, _⟩ := this
  apply idxAt_arrived (id := id)
  rw [heq]; simp

theorem monAfter_snoc (m : Mon) (tr : Trace) (l : Label) (o : Obs) :
    monAfter m (tr ++ [(l, o)]) = (monStepT (monAfter m tr) l o).1 := by
  induction tr generalizing m with
  | nil => rfl
  | cons a t ih => obtain ⟨l', o'⟩ := a; simp only [List.cons_append, monAfter]; exact ih _

theorem newReq_isSome (e : Ev) : (newReq e).isSome = e.isRead := by
  cases e <;> rfl

theorem book_ncalls (m : Mon) (p : Obs) (e : Ev) :
    (m.book p e).ncalls = m.ncalls + if e.isCallStart then 1 else 0 := by
  rw [(book_rest m p e).1]; cases e <;> rfl

section upd
variable (m : Mon) (p : Obs) (e : Ev) (r : Nat) (q : MReq)

theorem updReq_okWrites :
    (updReq m p e r q).okWrites = q.okWrites + if e = .wret (some r) .ok then 1 else 0 := rfl
theorem updReq_p1count : (updReq m p e r q).p1count = q.p1count + if e = .p1 r then 1 else 0 := rfl
theorem updReq_w1count : (updReq m p e r q).w1count = q.w1count + if e = .w1 r then 1 else 0 := rfl
theorem updReq_asyncd : (updReq m p e r q).asyncd = true ↔ q.asyncd = true ∨ e = .hasync r := by
  simp [updReq]
theorem updReq_p2done : (updReq m p e r q).p2done = true ↔ q.p2done = true ∨ e = .p2 r := by
  simp [updReq]
theorem updReq_a2s :
    (updReq m p e r q).a2AfterShutdown = true → q.a2AfterShutdown = true ∨ (e = .a2 r ∧ p.shuttingDown = true) := by
  simp [updReq]
theorem updReq_pc :
    (updReq m p e r q).peerCancelled = true ↔
      q.peerCancelled = true ∨ ∃ id, e = .k1 id ∧ m.idx.lookup id = some r := by
  refine Bool.or_eq_true_iff.trans (or_congr Iff.rfl ⟨fun h => ?_, ?_⟩)
  · split at h
    · exact ⟨_, rfl, of_decide_eq_true h⟩
    · cases h
  · rintro ⟨id, rfl, h⟩; exact decide_eq_true h

end upd

/-- What the monitor's entry `q` of request `r` means, after the events of `tr` and the first `n`
observations of `tr` have been processed.  `okw`, `p1c` are bounds and the iffs say "after its arrival": the trace is the
IMPLEMENTATION's, and an event that names a request not yet read rewrites no entry. -/
structure ReqHist (tr : Trace) (n : Nat) (r : Nat) (q : MReq) : Prop where
  kind : ∃ e, (reads tr)[r]? = some e ∧ e.isRead = true ∧ q.id = e.reqId ∧
    q.isNotif = !e.reqId.isSome ∧ q.isCancel = e.isCancelRead
  okw : q.okWrites ≤ cnt tr (· == .wret (some r) .ok)
  p1c : q.p1count ≤ cnt tr (· == .p1 r)
  w1c : 0 < q.w1count ↔ ∃ t, arrived tr r t ∧ evAt tr t = some (.w1 r)
  asy : q.asyncd = true ↔ ∃ t, arrived tr r t ∧ evAt tr t = some (.hasync r)
  p2d : q.p2done = true ↔ ∃ t, arrived tr r t ∧ evAt tr t = some (.p2 r)
  a2s : q.a2AfterShutdown = true → ∃ t, evAt tr t = some (.a2 r) ∧ (before tr t).shuttingDown = true
  pc : q.peerCancelled = true ↔ ∃ t id, evAt tr t = some (.k1 id) ∧ indexedAt tr t id = some r
  st : q.started = true ↔ ∃ i, i < n ∧ arrived tr r (i + 1) ∧ PTok.h r ∈ (obsAt tr i).parked

/-- What the monitor's state means after the events of `tr` and its first `n` observations (`late` in the one direction
its clause needs). -/
structure Hist (tr : Trace) (n : Nat) (m : Mon) : Prop where
  sent : ∀ a b, (a, b) ∈ m.sent ↔ ∃ i, evAt tr i = some (.readResp a b)
  ncalls : m.ncalls = cnt tr Ev.isCallStart
  late : ∀ c ∈ m.startedLate, ∃ i, evAt tr i = some .ecall ∧ (before tr i).done = true ∧ c = callNoAt tr i
  ctxd : ∀ c, c ∈ m.ctxd ↔ ∃ i, evAt tr i = some (.ectx c)
  rx : m.rxSeen = true ↔ ∃ i, evAt tr i = some .rx
  broken : m.brokenSeen = true ↔ ∃ i w, evAt tr i = some (.wret w .broken)
  idx : m.idx = idxAt tr tr.length
  nreqs : m.reqs.length = (reads tr).length
  req : ∀ r q, m.reqs[r]? = some q → ReqHist tr n r q
  bad : ∀ c, c ∈ m.badCalls ↔ ∃ i, evAt tr i = some .ecallbad ∧ c = callNoAt tr i

theorem ReqHist.readEv {tr : Trace} {n r : Nat} {q : MReq} (h : ReqHist tr n r q) :
    ∃ e, (reads tr)[r]? = some e ∧
      ((∃ id, e = .readCall id ∧ q.id = some id ∧ q.isNotif = false ∧ q.isCancel = false) ∨
       (e = .readNotif ∧ q.id = none ∧ q.isNotif = true ∧ q.isCancel = false) ∨
       (∃ id, e = .readCancel id ∧ q.id = none ∧ q.isNotif = true ∧ q.isCancel = true)) := by
  obtain ⟨e, he, hr, hid, hn, hc⟩ := h.kind
  refine ⟨e, he, ?_⟩
  cases e <;> first | cases hr | skip
  · exact .inl ⟨_, rfl, hid, hn, hc⟩
  · exact .inr (.inl ⟨rfl, hid, hn, hc⟩)
  · exact .inr (.inr ⟨_, rfl, hid, hn, hc⟩)

theorem not_arrived_of_le {tr : Trace} {x : Label × Obs} {t : Nat} (h : t ≤ tr.length) :
    ¬ arrived (tr ++ [x]) (reads tr).length t := by
  unfold arrived
  rw [nreadsBefore_snoc_le h]
  exact Nat.not_lt.mpr (nreadsBefore_le t)

theorem evAt_snoc_le {tr : Trace} {x : Label × Obs} {t : Nat} {e : Ev} (h : evAt (tr ++ [x]) t = some e) :
    t ≤ tr.length := by
  have := evAt_some_lt h
  simp only [List.length_append, List.length_singleton] at this
  omega

theorem reqHist_new {tr : Trace} {l : Label} {o : Obs} {q : MReq} (h : newReq (evOf l) = some q) :
    ReqHist (tr ++ [(l, o)]) tr.length (reads tr).length q := by
  have hr : (evOf l).isRead = true := by rw [← newReq_isSome, h]; rfl
  have hna : ∀ {t : Nat} {e : Ev}, evAt (tr ++ [(l, o)]) t = some e → ¬ arrived (tr ++ [(l, o)]) (reads tr).length t :=
    fun h => not_arrived_of_le (evAt_snoc_le h)
  -- the new entry is the default one but for what the read event says of the request's kind
  obtain rfl : q = { id := (evOf l).reqId, isNotif := !(evOf l).reqId.isSome, isCancel := (evOf l).isCancelRead } := by
    generalize evOf l = e at h
    cases e <;> cases h <;> rfl
  refine ⟨⟨evOf l, by simp [reads_snoc, hr], hr, rfl, rfl, rfl⟩, Nat.zero_le _, Nat.zero_le _, ⟨nofun, ?_⟩, ⟨nofun, ?_⟩,
    ⟨nofun, ?_⟩, nofun, ⟨nofun, ?_⟩, ⟨nofun, ?_⟩⟩
  · rintro ⟨t, ha, he⟩; exact (hna he ha).elim
  · rintro ⟨t, ha, he⟩; exact (hna he ha).elim
  · rintro ⟨t, ha, he⟩; exact (hna he ha).elim
  · rintro ⟨t, id, he, hi⟩; exact (hna he (indexedAt_arrived hi)).elim
  · rintro ⟨i, hi, ha, _⟩; exact (not_arrived_of_le (show i + 1 ≤ tr.length from hi) ha).elim

theorem reqHist_book {tr : Trace} {l : Label} {o : Obs} {m : Mon} {r : Nat} {q : MReq}
    (hidx : m.idx = idxAt tr tr.length) (hr : r < (reads tr).length) (h : ReqHist tr tr.length r q) :
    ReqHist (tr ++ [(l, o)]) tr.length r (updReq m (lastObs tr) (evOf l) r q) := by
  have hex := fun e => exists_arrived_snoc (tr := tr) (x := (l, o)) (e := e) hr
  refine ⟨?_, ?_, ?_, ?_, ?_, ?_, ?_, ?_, ?_⟩
  · obtain ⟨e, h1, h2, h3, h4, h5⟩ := h.kind
    exact ⟨e, by rw [reads_snoc, List.getElem?_append_left hr]; exact h1, h2, h3, h4, h5⟩
  · rw [updReq_okWrites, cnt_snoc]
    have := h.okw
    simp only [beq_iff_eq]
    split <;> omega
  · rw [updReq_p1count, cnt_snoc]
    have := h.p1c
    simp only [beq_iff_eq]
    split <;> omega
  · rw [hex, ← h.w1c, updReq_w1count]
    simp only
    split <;> simp_all
  · rw [hex, ← h.asy, updReq_asyncd]
  · rw [hex, ← h.p2d, updReq_p2done]
  · intro h'
    refine (exists_evAt_snoc_and (tr := tr) (x := (l, o)) (Q := fun tr t => (before tr t).shuttingDown = true)
      fun i hi => by rw [before_snoc_le (Nat.le_of_lt hi)]).mpr ?_
    rcases updReq_a2s _ _ _ _ _ h' with h' | ⟨h1, h2⟩
    · exact .inl (h.a2s h')
    · exact .inr ⟨h1, by simpa using h2⟩
  · rw [updReq_pc, h.pc]
    refine ((or_congr exists_comm Iff.rfl).trans exists_or.symm).trans (Iff.trans ?_ exists_comm)
    refine exists_congr fun id => Iff.symm ?_
    refine (exists_evAt_snoc_and (tr := tr) (x := (l, o)) (Q := fun tr t => indexedAt tr t id = some r)
      fun i hi => by rw [indexedAt_snoc_le (Nat.le_of_lt hi)]).trans (or_congr Iff.rfl (and_congr_right fun _ => ?_))
    rw [indexedAt_snoc_le (Nat.le_refl _), indexedAt, ← hidx]
  · refine h.st.trans (exists_congr fun i => and_congr_right fun hi => ?_)
    rw [arrived_snoc_le (show i + 1 ≤ tr.length from hi), obsAt_snoc_lt hi]

theorem reqHist_mark {tr : Trace} {n r : Nat} {q : MReq} (ha : arrived tr r (n + 1)) (h : ReqHist tr n r q) :
    ReqHist tr (n + 1) r (if (obsAt tr n).parked.contains (.h r) then { q with started := true } else q) := by
  have hst : (if (obsAt tr n).parked.contains (.h r) then { q with started := true } else q).started = true ↔
      q.started = true ∨ PTok.h r ∈ (obsAt tr n).parked := by
    split <;> simp_all
  have st : (if (obsAt tr n).parked.contains (.h r) then { q with started := true } else q).started = true ↔
      ∃ i, i < n + 1 ∧ arrived tr r (i + 1) ∧ PTok.h r ∈ (obsAt tr i).parked := by
    rw [hst, h.st]
    constructor
    · rintro (⟨i, hi, hh⟩ | hp)
      · exact ⟨i, by omega, hh⟩
      · exact ⟨n, by omega, ha, hp⟩
    · rintro ⟨i, hi, ha', hp⟩
      by_cases hin : i < n
      · exact .inl ⟨i, hin, ha', hp⟩
      · have : i = n := by omega
        subst this
        exact .inr hp
  generalize hq' : (if (obsAt tr n).parked.contains (.h r) then { q with started := true } else q) = q' at st ⊢
  obtain rfl | rfl : q' = { q with started := true } ∨ q' = q := by rw [← hq']; split <;> simp
  all_goals exact ⟨h.kind, h.okw, h.p1c, h.w1c, h.asy, h.p2d, h.a2s, h.pc, st⟩

theorem Hist.reqId {tr : Trace} {n : Nat} {m : Mon} (h : Hist tr n m) (r : Nat) :
    (m.reqs[r]?).bind (·.id) = reqIdAt tr tr.length r := by
  simp only [reqIdAt, List.take_length]
  cases hq : m.reqs[r]? with
  | none =>
    have : (reads tr).length ≤ r := by rw [← h.nreqs]; exact List.getElem?_eq_none_iff.mp hq
    simp [List.getElem?_eq_none this]
  | some q =>
    obtain ⟨e, h1, _, h3, _⟩ := (h.req r q hq).kind
    simp [h1, h3]

theorem hist_book {tr : Trace} {m : Mon} (l : Label) (o : Obs) (h : Hist tr tr.length m) :
    Hist (tr ++ [(l, o)]) tr.length (m.book (lastObs tr) (evOf l)) := by
  -- the call started by the new event, if it starts one, has the next number
  have hno : ∀ c, evOf l = .ecall ∨ evOf l = .ecallbad →
      (c = callNoAt (tr ++ [(l, o)]) tr.length ↔ c = m.ncalls + 1) := fun c he => by
    rw [callNoAt_snoc_len, cnt_snoc, h.ncalls]
    rcases he with he | he <;> rw [he] <;> rfl
  refine ⟨?_, ?_, ?_, ?_, ?_, ?_, ?_, ?_, ?_, ?_⟩
  rotate_right
  · intro c
    rw [book_badCalls, h.bad c,
      exists_evAt_snoc_and (Q := fun tr i => c = callNoAt tr i) (fun i hi => by rw [callNoAt_snoc_lt hi])]
    exact or_congr Iff.rfl (and_congr_right fun he => (hno c (.inr he)).symm)
  · intro a b; rw [book_sent, exists_evAt_snoc, h.sent]
  · rw [book_ncalls, cnt_snoc, h.ncalls]
  · intro c hc
    refine (exists_evAt_snoc_and (Q := fun tr i => (before tr i).done = true ∧ c = callNoAt tr i)
      (fun i hi => by rw [before_snoc_le (Nat.le_of_lt hi), callNoAt_snoc_lt hi])).mpr ?_
    rcases book_startedLate _ _ _ _ hc with hc | ⟨h1, h2, h3⟩
    · exact .inl (h.late c hc)
    · exact .inr ⟨h1, by simpa using h2, (hno c (.inl h1)).mpr h3⟩
  · intro c; rw [book_ctxd, exists_evAt_snoc, h.ctxd]
  · rw [book_rxSeen, exists_evAt_snoc, h.rx]
  · rw [book_brokenSeen, h.broken, exists_comm, exists_comm (α := Nat)]
    simp only [exists_evAt_snoc, exists_or]
  · rw [book_idx]
    simp only [List.length_append, List.length_singleton, idxAt, evAt_snoc_len,
      idxAt_snoc_le (Nat.le_refl tr.length), reqIdAt_snoc_le (Nat.le_refl tr.length), ← h.idx, ← h.reqId]
    cases evOf l <;> rfl
  · rw [book_reqs_length, newReq_isSome, reads_snoc, List.length_append, h.nreqs]
    split <;> rfl
  · intro r q hq
    rw [book_reqs_get] at hq
    split at hq
    · rename_i hr
      rw [hr, h.nreqs]
      exact reqHist_new hq
    · cases hq0 : m.reqs[r]? with
      | none => simp [hq0] at hq
      | some q0 =>
        simp only [hq0, Option.map_some, Option.some.injEq] at hq
        subst hq
        have hr : r < (reads tr).length := by rw [← h.nreqs]; exact (List.getElem?_eq_some_iff.mp hq0).1
        exact reqHist_book h.idx hr (h.req r q0 hq0)

theorem hist_mark {tr : Trace} {n : Nat} {m : Mon} (hn : tr.length ≤ n + 1) (h : Hist tr n m) :
    Hist tr (n + 1) { m.mark (obsAt tr n) with prev := obsAt tr n } := by
  refine ⟨h.sent, h.ncalls, h.late, h.ctxd, h.rx, h.broken, h.idx, ?_, ?_, h.bad⟩
  · simp [Mon.mark, h.nreqs]
  · intro r q hq
    simp only [mark_get] at hq
    cases hq0 : m.reqs[r]? with
    | none => simp [hq0] at hq
    | some q0 =>
      simp only [hq0, Option.map_some, Option.some.injEq] at hq
      subst hq
      have hr : r < (reads tr).length := by rw [← h.nreqs]; exact (List.getElem?_eq_some_iff.mp hq0).1
      refine reqHist_mark ?_ (h.req r q0 hq0)
      unfold arrived
      rwa [nreadsBefore_ge hn]

theorem hist_nil : Hist [] 0 {} := by
  refine ⟨?_, rfl, ?_, ?_, ?_, ?_, rfl, rfl, ?_, ?_⟩ <;> simp [evAt]

theorem bookCancel_prev (m : Mon) (e : Ev) : (m.bookCancel e).prev = m.prev := by
  obtain ⟨a, u, h⟩ := bookCancel_eq m e; rw [h]

theorem hist_bookCancel {tr : Trace} {n : Nat} {m : Mon} (e : Ev) (h : Hist tr n m) : Hist tr n (m.bookCancel e) := by
  obtain ⟨a, u, he⟩ := bookCancel_eq m e
  rw [he]
  exact ⟨h.sent, h.ncalls, h.late, h.ctxd, h.rx, h.broken, h.idx, h.nreqs, h.req, h.bad⟩

/-- History of the cancel bookkeeping: every id in `unasked` stems from a `K1` that exceeded the number
of cancellations read for that id; the cancellations read are covered by those still available plus
the `K1`s seen. -/
structure HistC (tr : Trace) (m : Mon) : Prop where
  un : ∀ id ∈ m.unasked, ∃ k, evAt tr k = some (.k1 id) ∧
    cnt (tr.take (k + 1)) (· == .readCancel id) < cnt (tr.take (k + 1)) (· == .k1 id)
  bal : ∀ id, cnt tr (· == .readCancel id) ≤ m.cancelAsked.count id + cnt tr (· == .k1 id)

theorem histC_nil : HistC [] {} := ⟨fun id h => by simp at h, fun id => by simp⟩

theorem histC_bookCancel {tr : Trace} {m : Mon} (l : Label) (o : Obs) (h : HistC tr m) :
    HistC (tr ++ [(l, o)]) (m.bookCancel (evOf l)) := by
  refine ⟨fun id hid => ?_, fun id => ?_⟩
  · refine (exists_evAt_snoc_and (tr := tr) (x := (l, o)) (Q := fun tr k =>
      cnt (tr.take (k + 1)) (· == .readCancel id) < cnt (tr.take (k + 1)) (· == .k1 id))
      fun i hi => by rw [take_snoc_le (Nat.succ_le_of_lt hi)]).mpr ?_
    rcases bookCancel_unasked m (evOf l) with h0 | ⟨id0, he, hn, h0⟩ <;> rw [h0] at hid
    · exact .inl (h.un id hid)
    · rcases List.mem_append.mp hid with hid | hid
      · exact .inl (h.un id hid)
      · -- a `K1` nobody asked for: every cancellation read for this id has been consumed by an earlier `K1`
        cases List.mem_singleton.mp hid
        refine .inr ⟨he, ?_⟩
        have hb := h.bal id
        rw [List.count_eq_zero.mpr hn] at hb
        rw [List.take_of_length_le (by simp)]
        simp only [cnt_snoc, he]
        simp; omega
  · have hb := h.bal id
    rw [bookCancel_count, cnt_snoc, cnt_snoc]
    simp only [beq_iff_eq]
    split <;> split <;> omega

theorem monStepT_fst (m : Mon) (l : Label) (o : Obs) :
    (monStepT m l o).1 = { ((m.bookCancel (evOf l)).book m.prev (evOf l)).mark o with prev := o } := rfl

theorem monStepT_snd (m : Mon) (l : Label) (o : Obs) :
    (monStepT m l o).2 = chkAll ((m.bookCancel (evOf l)).book m.prev (evOf l)) m.prev o (evOf l) := rfl

theorem histC_book {tr : Trace} {m : Mon} (p : Obs) (e : Ev) (h : HistC tr m) : HistC tr (m.book p e) := by
  obtain ⟨h1, h2⟩ := book_cancel_fields m p e
  exact ⟨fun id hid => h.un id (h2 ▸ hid), fun id => h1 ▸ h.bal id⟩

theorem hist_after : ∀ tr : Trace,
    Hist tr tr.length (monAfter {} tr) ∧ HistC tr (monAfter {} tr) ∧ (monAfter {} tr).prev = lastObs tr := by
  intro tr
  induction tr using List.snoc_induction with
  | nil => exact ⟨hist_nil, histC_nil, rfl⟩
  | snoc tr x ih =>
    obtain ⟨l, o⟩ := x
    obtain ⟨ih, ihc, hp⟩ := ih
    rw [monAfter_snoc, monStepT_fst, hp]
    have hb := hist_book l o (hist_bookCancel (evOf l) ih)
    have hcb := histC_book (lastObs tr) (evOf l) (histC_bookCancel l o ihc)
    refine ⟨?_, ⟨hcb.un, hcb.bal⟩, by simp⟩
    simpa using hist_mark (tr := tr ++ [(l, o)]) (n := tr.length) (by simp) hb

/-- What the checks see when the monitor takes the step that extends `tr` by `(l, o)`: the booked
history (all events of the extended trace, the observations of `tr`). -/
theorem hist_booked (tr : Trace) (l : Label) (o : Obs) :
    Hist (tr ++ [(l, o)]) tr.length (((monAfter {} tr).bookCancel (evOf l)).book (lastObs tr) (evOf l)) ∧
    HistC (tr ++ [(l, o)]) (((monAfter {} tr).bookCancel (evOf l)).book (lastObs tr) (evOf l)) ∧
    (monStepT (monAfter {} tr) l o).2 =
      chkAll (((monAfter {} tr).bookCancel (evOf l)).book (lastObs tr) (evOf l)) (lastObs tr) o (evOf l) := by
  obtain ⟨ih, ihc, hp⟩ := hist_after tr
  exact ⟨hist_book l o (hist_bookCancel (evOf l) ih), histC_book _ _ (histC_bookCancel l o ihc), by rw [monStepT_snd, hp]⟩

end Conn
