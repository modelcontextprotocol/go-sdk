import McpModel.Conn.MonBook
import McpModel.Conn.MonFrames
import McpModel.Conn.Progress
/-!
Preservation of the incoming-request part of `MonRel` (`MonReqs`) by every step of the model, by `settle` and by
`Mon.mark`.  The step is read off `QStep` (the request machinery as a machine): every move rewrites at most one row, and
`ReqRel` survives for that row by one of the lemmas about a request's life (`ReqRel.toPR` … `p2Move`); the monitor's side of
the row comes from `Ev.row`.  What is left of a step — the writers, and the contexts that RX and W2 cancel wholesale — is
`MonReqs.writers` and `MonReqs.foldl_cancel`.
-/
namespace Conn

theorem getNotif_congr {s s' : St} (hu : s'.unotifs = s.unotifs) (hc : s'.cnotifs = s.cnotifs) (w : Who) :
    getNotif s' w = getNotif s w := by
  cases w <;> simp [getNotif, hu, hc]

theorem getCall_congr {s s' : St} (hc : s'.calls = s.calls) (n : Nat) : getCall s' n = getCall s n := by
  simp [getCall, hc]

def Label.brokenWrite (l : Label) : Prop := ∃ w, l = .wret w .broken

open ReqsC

theorem getElem?_modify_some {α} {l : List α} {r j : Nat} {g : α → α} {y : α} (h : (l.modify r g)[j]? = some y) :
    ∃ x, l[j]? = some x ∧ y = if r = j then g x else x := by
  rw [List.getElem?_modify] at h
  cases hj : l[j]? with
  | none => simp [hj] at h
  | some x => simp [hj] at h; exact ⟨x, rfl, h.symm⟩

/-- `f` cancels a context, if at all, with cause `finished` or `peer`: the causes the relation accounts for
row by row.  (`read` and `write` come only with RX and W2, which cancel wholesale.) -/
def Harmless (f : ReqMeta → ReqMeta) : Prop :=
  ∀ mt c, c ≠ .finished → c ≠ .peer → (f mt).cancelled = some c → mt.cancelled = some c

theorem Harmless.of_eq {f : ReqMeta → ReqMeta} (h : ∀ mt, (f mt).cancelled = mt.cancelled := by intro _; rfl) : Harmless f :=
  fun mt _ _ _ hc => (h mt).symm.trans hc

theorem ReqMeta.cancel_facts (c : Cause) (mt : ReqMeta) :
    (mt.cancel c).started = mt.started ∧ (mt.cancel c).asyncCalled = mt.asyncCalled ∧ (mt.cancel c).seen = mt.seen ∧
    (mt.cancel c).cancelTarget = mt.cancelTarget ∧ (mt.cancel c).cancelled.isSome = true ∧
    (∀ z, z ≠ c → (mt.cancel c).cancelled = some z → mt.cancelled = some z) := by
  unfold ReqMeta.cancel
  cases hc : mt.cancelled with
  | none => simp; intro z hz h; exact absurd h.symm hz
  | some z => simp [hc]

theorem Harmless.cancel {f : ReqMeta → ReqMeta} (hf : Harmless f) {c : Cause} (hc : c = .finished ∨ c = .peer) :
    Harmless fun mt => (f mt).cancel c := fun mt z h1 h2 h =>
  hf mt z h1 h2 ((ReqMeta.cancel_facts c (f mt)).2.2.2.2.2 z (by rcases hc with rfl | rfl <;> assumption) h)

/-- What `beginPR` does to the context of a request: a call keeps it, a notification goes straight to
P2, where its context is cancelled with cause `finished`. -/
def prMeta (isCall : Bool) : ReqMeta → ReqMeta := if isCall then id else ReqMeta.cancel .finished

theorem Harmless.prMeta {f : ReqMeta → ReqMeta} (hf : Harmless f) (c : Bool) : Harmless fun mt => prMeta c (f mt) := by
  cases c
  · exact hf.cancel (.inl rfl)
  · exact hf

theorem ReqRel.meta_congr {q : MReq} {k : ReqCore} {mt mt' : ReqMeta} (rr : ReqRel q k mt)
    (h1 : mt'.started = mt.started) (h2 : mt'.asyncCalled = mt.asyncCalled) (h3 : mt'.cancelled = mt.cancelled)
    (h4 : mt'.seen = mt.seen) : ReqRel q k mt' :=
  ⟨rr.id, rr.idk, rr.cancelKind, rr.kind, rr.dupa, rr.w1, rr.ok, rr.p1, by rw [h1]; exact rr.st, by rw [h1]; exact rr.run,
    by rw [h2]; exact rr.asyncd, rr.p2done, rr.late, by rw [h3]; exact rr.peer, by rw [h3]; exact rr.cpeer,
    by rw [h4]; exact rr.seen, by rw [h3]; exact rr.cfin⟩

theorem prMeta_facts (c : Bool) (mt : ReqMeta) :
    (prMeta c mt).started = mt.started ∧ (prMeta c mt).asyncCalled = mt.asyncCalled ∧
    (mt.cancelled.isSome = true ∨ c = false → (prMeta c mt).cancelled.isSome = true) ∧
    (∀ z, z ≠ Cause.finished → (prMeta c mt).cancelled = some z → mt.cancelled = some z) ∧
    (c = true → (prMeta c mt).cancelled = mt.cancelled) := by
  obtain ⟨f1, f2, _, _, f4, f5⟩ := ReqMeta.cancel_facts .finished mt
  cases c
  · exact ⟨f1, f2, fun _ => f4, f5, fun h => nomatch h⟩
  · exact ⟨rfl, rfl, fun h => h.elim id (fun h => nomatch h), fun _ _ h => h, fun _ => rfl⟩

theorem prPc_ne_w2 (c : Bool) (e : Err) : (if c then ReqPc.p1 else .p2) ≠ .w2 e := by cases c <;> simp

/-- Entering processResult (`beginPR`) from a pc before P1. `c` is the request's `isCall` from now on
and `d` the monitor's `dup` mark (both change only when A1 finds the id already indexed); the monitor
may at the same time note that A2 came after shutdown (`a`). -/
theorem ReqRel.toPR {q : MReq} {k : ReqCore} {mt : ReqMeta} (rr : ReqRel q k mt) (hpc : k.pc.afterP1 = false)
    (own : Owner) (c d a : Bool) (hkind : c = (!q.isNotif && !d)) :
    ReqRel { q with dup := d, a2AfterShutdown := a }
      { k with isCall := c, owner := own, pc := if c then .p1 else .p2 } (prMeta c mt) := by
  obtain ⟨f1, f2, f3, f4, f5⟩ := prMeta_facts c mt
  have hnf : k.pc ≠ .fin := fun h => by rw [h] at hpc; cases hpc
  have hnp : k.pc ≠ .p2 := fun h => by rw [h] at hpc; cases hpc
  exact {
    id := rr.id, idk := rr.idk, cancelKind := rr.cancelKind, kind := hkind, w1 := rr.w1, ok := rr.ok
    dupa := fun _ => by cases c <;> simp
    p1 := by show q.p1count = _; rw [rr.p1, hpc]; cases c <;> simp [ReqPc.afterP1]
    st := by rw [f1]; exact rr.st
    run := fun h => by cases c <;> cases h
    asyncd := by rw [f2]; exact rr.asyncd
    p2done := by show q.p2done = _; rw [rr.p2done]; cases c <;> simp [hnf]
    late := fun _ => Or.inl (by cases c <;> rfl)
    peer := fun h => f3 (Or.inl (rr.peer h))
    cpeer := fun h => rr.cpeer (f4 _ (by simp) h)
    seen := fun h => by cases c <;> simp at h
    cfin := fun h => by
      cases c
      · exact Or.inl rfl
      · rw [f5 rfl] at h; exact (rr.cfin h).elim (absurd · hnp) (absurd · hnf) }

/-- A move between the pcs before processResult: A1 → A2 → queued → running. -/
theorem ReqRel.preMove {q : MReq} {k : ReqCore} {mt mt' : ReqMeta} (rr : ReqRel q k mt)
    (hold : k.pc = .a1 ∨ k.pc = .a2 ∨ k.pc = .queued) (pc' : ReqPc) (own : Owner)
    (hnew : pc' = .a2 ∨ pc' = .queued ∨ (pc' = .running ∧ mt'.started.isSome = true))
    (hst : mt.started.isSome = true → mt'.started.isSome = true) (has : mt'.asyncCalled = mt.asyncCalled)
    (hcan : mt'.cancelled = mt.cancelled) (hseen : mt'.seen = true) :
    ReqRel q { k with pc := pc', owner := own } mt' := by
  have hA : k.pc.afterP1 = false ∧ k.pc.inPR = false ∧ k.pc ≠ .fin ∧ k.pc ≠ .p2 := by
    rcases hold with h | h | h <;> simp [h, ReqPc.afterP1, ReqPc.inPR]
  have hA' : pc'.afterP1 = false ∧ pc' ≠ .a1 ∧ pc' ≠ .fin := by
    rcases hnew with h | h | ⟨h, _⟩ <;> simp [h, ReqPc.afterP1]
  refine ⟨rr.id, rr.idk, rr.cancelKind, rr.kind, fun _ => hA'.2.1, rr.w1, rr.ok, ?_, fun h => hst (rr.st h), ?_,
    by rw [has]; exact rr.asyncd, ?_, ?_, by rw [hcan]; exact rr.peer, by rw [hcan]; exact rr.cpeer, fun _ => hseen, ?_⟩
  · show q.p1count = _
    rw [rr.p1, hA.1, hA'.1]
  · intro h
    rcases hnew with h' | h' | ⟨_, h'⟩
    · rw [h'] at h; cases h
    · rw [h'] at h; cases h
    · exact h'
  · show q.p2done = _
    rw [rr.p2done]; simp [hA.2.2.1, hA'.2.2]
  · intro h
    rcases rr.late h with h' | h'
    · rw [hA.2.1] at h'; cases h'
    · exact absurd h' hA.2.2.1
  · intro h
    rw [hcan] at h
    exact (rr.cfin h).elim (absurd · hA.2.2.2) (absurd · hA.2.2.1)

/-- A move inside the response write (to `p2`: the context is cancelled with cause `finished`); only the two write counters
change. -/
theorem ReqRel.inWrite {q : MReq} {k k' : ReqCore} {mt mt' : ReqMeta} (rel : ReqRel q k mt) (w o : Nat)
    (hold : k.pc = .w1 ∨ k.pc = .wr ∨ ∃ e, k.pc = .w2 e)
    (hnew : ((k'.pc = .wr ∨ ∃ e, k'.pc = .w2 e) ∧ mt' = mt) ∨ (k'.pc = .p2 ∧ mt' = mt.cancel .finished))
    (hk : k'.id = k.id ∧ k'.isCall = k.isCall)
    (hw1 : w = k'.wrote) (hok : o = k'.responses) :
    ReqRel { q with w1count := w, okWrites := o } k' mt' := by
  obtain ⟨hid, hcall⟩ := hk
  have hA : k.pc.afterP1 = true := by rcases hold with h | h | ⟨e, h⟩ <;> simp [h, ReqPc.afterP1]
  have hA' : k'.pc.afterP1 = true ∧ k'.pc.inPR = true ∧ k'.pc ≠ .a1 ∧ k'.pc ≠ .running ∧ k'.pc ≠ .fin ∧
      k'.pc ≠ .a2 ∧ k'.pc ≠ .queued := by
    rcases hnew with ⟨h | ⟨e, h⟩, _⟩ | ⟨h, _⟩ <;> simp [h, ReqPc.afterP1, ReqPc.inPR]
  have hnf : k.pc ≠ .fin ∧ k.pc ≠ .p2 := by rcases hold with h | h | ⟨e, h⟩ <;> simp [h]
  obtain ⟨f1, f2, f3, _, f4, f5⟩ := ReqMeta.cancel_facts .finished mt
  have hm : mt'.started = mt.started ∧ mt'.asyncCalled = mt.asyncCalled ∧ mt'.seen = mt.seen := by
    rcases hnew with ⟨_, h⟩ | ⟨_, h⟩ <;> subst h <;> simp [f1, f2, f3]
  constructor
  · simp [hid]; exact rel.id
  · exact rel.idk
  · exact rel.cancelKind
  · simp [hcall]; exact rel.kind
  · intro _; exact hA'.2.2.1
  · exact hw1
  · exact hok
  · have := rel.p1; simp_all
  · simp [hm.1]; exact rel.st
  · intro h; exact absurd h hA'.2.2.2.1
  · simp [hm.2.1]; exact rel.asyncd
  · have := rel.p2done; simp_all
  · intro _; exact Or.inl hA'.2.1
  · intro h
    rcases hnew with ⟨_, e⟩ | ⟨_, e⟩ <;> subst e
    · exact rel.peer h
    · exact f4
  · intro h
    rcases hnew with ⟨_, e⟩ | ⟨_, e⟩ <;> subst e
    · exact rel.cpeer h
    · exact rel.cpeer (f5 _ (by simp) h)
  · intro h; rcases h with h | h | h
    · exact absurd h hA'.2.2.2.2.2.1
    · exact absurd h hA'.2.2.2.2.2.2
    · exact absurd h hA'.2.2.2.1
  · intro h
    rcases hnew with ⟨_, e⟩ | ⟨h2, e⟩
    · subst e; rcases rel.cfin h with h' | h'
      · exact absurd h' hnf.2
      · exact absurd h' hnf.1
    · exact Or.inl h2

/-- A context is cancelled with a cause other than `finished`; the monitor's mark `b` covers `peer`. -/
theorem ReqRel.cancel {q : MReq} {k : ReqCore} {mt : ReqMeta} (rr : ReqRel q k mt) (c : Cause) (b : Bool)
    (hc : c ≠ .finished) (hb : q.peerCancelled = true → b = true) (hcp : c = .peer → b = true) :
    ReqRel { q with peerCancelled := b } k (mt.cancel c) := by
  obtain ⟨f1, f2, f3, _, f4, f5⟩ := ReqMeta.cancel_facts c mt
  exact {
    id := rr.id, idk := rr.idk, cancelKind := rr.cancelKind, kind := rr.kind, dupa := rr.dupa, w1 := rr.w1, ok := rr.ok
    p1 := rr.p1, p2done := rr.p2done, late := rr.late
    st := by rw [f1]; exact rr.st
    run := by rw [f1]; exact rr.run
    asyncd := by rw [f2]; exact rr.asyncd
    seen := by rw [f3]; exact rr.seen
    peer := fun _ => f4
    cpeer := fun h => by
      by_cases hp : c = .peer
      · exact hcp hp
      · exact hb (rr.cpeer (f5 _ (Ne.symm hp) h))
    cfin := fun h => rr.cfin (f5 _ (Ne.symm hc) h) }

/-- P1: the call is un-indexed and goes on to the write gate. -/
theorem ReqRel.p1Move {q : MReq} {k : ReqCore} {mt : ReqMeta} (rel : ReqRel q k mt) (hpc : k.pc = .p1) (hcall : k.isCall = true) :
    ReqRel { q with p1count := q.p1count + 1 } { k with pc := .w1 } mt :=
  { id := rel.id, idk := rel.idk, cancelKind := rel.cancelKind, kind := rel.kind, w1 := rel.w1, ok := rel.ok
    st := rel.st, asyncd := rel.asyncd, peer := rel.peer, cpeer := rel.cpeer
    dupa := fun _ h => nomatch h
    -- the one arithmetic fact of C02: before P1 the count is 0 (`rel.p1` at pc `p1`), after it 1
    p1 := by have := rel.p1; simp_all [ReqPc.afterP1]
    run := fun h => nomatch h
    p2done := by have := rel.p2done; simp_all
    late := fun _ => Or.inl rfl
    seen := fun h => by simp at h
    cfin := fun hc => by have := rel.cfin hc; simp [hpc] at this }

/-- P2: processResult is over; whoever ran it may be released (`mt'`). -/
theorem ReqRel.p2Move {q : MReq} {k : ReqCore} {mt mt' : ReqMeta} (rel : ReqRel q k mt) (hpc : k.pc = .p2)
    (h1 : mt'.cancelled = mt.cancelled) (h2 : mt'.started = mt.started) (h3 : mt'.asyncCalled = mt.asyncCalled) :
    ReqRel { q with p2done := true } { k with pc := .fin } mt' :=
  { id := rel.id, idk := rel.idk, cancelKind := rel.cancelKind, kind := rel.kind, w1 := rel.w1, ok := rel.ok
    dupa := fun _ h => nomatch h
    p1 := by have := rel.p1; simp_all [ReqPc.afterP1]
    st := by rw [h2]; exact rel.st
    run := fun h => nomatch h
    asyncd := by rw [h3]; exact rel.asyncd
    p2done := by simp
    late := fun _ => Or.inr rfl
    peer := by rw [h1]; exact rel.peer
    cpeer := by rw [h1]; exact rel.cpeer
    seen := fun h => by simp at h
    cfin := fun _ => Or.inr rfl }

/-- The writers across a step from `s` to `s0`: none is newly on its way to W2 in `s0` unless `B` (a transport Write was
seen to fail). -/
structure Writers (B : Prop) (s s0 : St) : Prop where
  calls : ∀ n c0 e, getCall s0 n = some c0 → c0.pc = .w2 e → B ∨ ∃ c e', getCall s n = some c ∧ c.pc = .w2 e'
  notifs : ∀ w nf0 e, getNotif s0 w = some nf0 → nf0.pc = .w2 e → B ∨ ∃ nf e', getNotif s w = some nf ∧ nf.pc = .w2 e'

theorem Writers.refl (B : Prop) (s : St) : Writers B s s :=
  ⟨fun _ c e h hp => .inr ⟨c, e, h, hp⟩, fun _ nf e h hp => .inr ⟨nf, e, h, hp⟩⟩

theorem Writers.mono {B B' : Prop} {s s0 : St} (w : Writers B s s0) (h : B → B') : Writers B' s s0 :=
  ⟨fun n c e hg hp => (w.calls n c e hg hp).imp h id, fun x nf e hg hp => (w.notifs x nf e hg hp).imp h id⟩

theorem Writers.congr {B : Prop} {s s0 X Z : St} (w : Writers B s s0) (hX : X.calls = s.calls ∧ X.unotifs = s.unotifs ∧ X.cnotifs = s.cnotifs)
    (hZ : Z.calls = s0.calls ∧ Z.unotifs = s0.unotifs ∧ Z.cnotifs = s0.cnotifs) : Writers B X Z := by
  refine ⟨fun n c e hg hp => ?_, fun x nf e hg hp => ?_⟩
  · rw [getCall_congr hZ.1] at hg
    exact (w.calls n c e hg hp).imp id fun ⟨c', e', h1, h2⟩ => ⟨c', e', (getCall_congr hX.1 n).trans h1, h2⟩
  · rw [getNotif_congr hZ.2.1 hZ.2.2] at hg
    exact (w.notifs x nf e hg hp).imp id fun ⟨nf', e', h1, h2⟩ => ⟨nf', e', (getNotif_congr hX.2.1 hX.2.2 x).trans h1, h2⟩

theorem calls_w2_back {s s0 : St} {l : Label} (h : step0 s l = some s0) {n : Nat} {c0 : Call} {e : Err}
    (hc : getCall s0 n = some c0) (hpc : c0.pc = .w2 e) : l.brokenWrite ∨ ∃ c e', getCall s n = some c ∧ c.pc = .w2 e' := by
  rcases CRow.back0 h hc with ⟨c, hc1, r⟩ | ⟨_, ⟨_, rfl⟩ | ⟨_, rfl⟩⟩
  · cases r with
    | rresp | rx => exact .inr ⟨_, e, hc1, (retireCall_frame _ _).1.symm.trans hpc⟩
    | wretBroken => exact .inl ⟨_, rfl⟩
    | c1Refused => rw [(retireCall_frame _ _).1] at hpc; cases hpc
    | _ => first | cases hpc | exact .inr ⟨_, e, hc1, hpc⟩
  · cases hpc
  · cases hpc

theorem NView.get_set (v : NView) (w w' : Who) (f : Notif → Notif) (out : Nat) :
    (v.set w' f out).get w = if w' = w then (v.get w).map f else v.get w := by
  cases w' <;> cases w <;> simp [NView.set, NView.get, List.getElem?_modify]
  all_goals (split <;> simp_all)

theorem notifs_w2_back {s s0 : St} {l : Label} (h : step0 s l = some s0) {w : Who} {nf0 : Notif} {e : Err}
    (hg : getNotif s0 w = some nf0) (hpc : nf0.pc = .w2 e) : l.brokenWrite ∨ ∃ nf e', getNotif s w = some nf ∧ nf.pc = .w2 e' := by
  have get : ∀ X : St, getNotif X w = (nview X).get w := fun X => by cases w <;> rfl
  have q := NStep.of_step0 h
  rw [get] at hg
  generalize nview s0 = v0 at q hg
  cases q with
  | same => exact .inr ⟨nf0, e, (get s).trans hg, hpc⟩
  | enotify =>
    cases w <;> try exact .inr ⟨nf0, e, hg, hpc⟩
    rcases List.getElem?_snoc (show (s.unotifs ++ [{}])[_]? = some nf0 from hg) with h1 | ⟨_, rfl⟩
    · exact .inr ⟨nf0, e, h1, hpc⟩
    · cases hpc
  | spawn =>
    cases w <;> try exact .inr ⟨nf0, e, hg, hpc⟩
    rcases List.getElem?_snoc (show (s.cnotifs ++ [_])[_]? = some nf0 from hg) with h1 | ⟨_, rfl⟩
    · exact .inr ⟨nf0, e, h1, hpc⟩
    · cases hpc
  | @move _ w' nf p' d hw hm =>
    rw [NView.get_set] at hg
    split at hg
    · rename_i hww; subst hww
      rw [hw] at hg; cases hg
      generalize nf.pc = p0 at hm
      cases hm <;> first | exact .inl ⟨_, rfl⟩ | cases hpc
    · exact .inr ⟨nf0, e, (get s).trans hg, hpc⟩

theorem writers_step0 {s s0 : St} {l : Label} (h : step0 s l = some s0) : Writers l.brokenWrite s s0 :=
  ⟨fun _ _ _ => calls_w2_back h, fun _ _ _ => notifs_w2_back h⟩

theorem Writers.bc {m m' : Mon} {s s0 : St} (W : Writers (m'.brokenSeen = true) s s0) (mr : MonReqs m s)
    (hbs : m.brokenSeen = true → m'.brokenSeen = true) :
    (∀ (n : Nat) (c : Call) (e : Err), getCall s0 n = some c → c.pc = .w2 e → m'.brokenSeen = true) ∧
    (∀ (w : Who) (nf : Notif) (e : Err), getNotif s0 w = some nf → nf.pc = .w2 e → m'.brokenSeen = true) :=
  ⟨fun n c e hg hpc => (W.calls n c e hg hpc).elim id fun ⟨c', e', h1, h2⟩ => hbs (mr.bc n c' e' h1 h2),
   fun w nf e hg hpc => (W.notifs w nf e hg hpc).elim id fun ⟨nf', e', h1, h2⟩ => hbs (mr.bn w nf' e' h1 h2)⟩

/-- **One row moves.**  The step rewrites request `r` (core by `g`, context by `f`, which invents no cause of cancellation),
the monitor its entry by `h`, and `ReqRel` survives for `r`. -/
theorem MonReqs.row {m m' : Mon} {s s0 : St} {r : Nat} {g : ReqCore → ReqCore} {f : ReqMeta → ReqMeta}
    (mr : MonReqs m s) (hcores : s0.cores = s.cores.modify r g) (hmetas : s0.metas = s.metas.modify r f) (hf : Harmless f)
    (hwe : s0.writeErr = s.writeErr) (W : Writers (m'.brokenSeen = true) s s0) (h : MReq → MReq)
    (hreqs : m'.reqs = m.reqs.modify r h) (hidx : m'.idx = s0.byID)
    (hrxs : m.rxSeen = true → m'.rxSeen = true) (hbs : m.brokenSeen = true → m'.brokenSeen = true)
    (hkk : ∀ k e, s.cores[r]? = some k → (g k).pc = .w2 e → m'.brokenSeen = true)
    (hrel : ∀ q k mt, m.reqs[r]? = some q → s.cores[r]? = some k → s.metas[r]? = some mt →
      ReqRel q k mt → ReqRel (h q) (g k) (f mt)) :
    MonReqs m' s0 := by
  have hcause : ∀ (j : Nat) (mt0 : ReqMeta) (c : Cause), s0.metas[j]? = some mt0 → mt0.cancelled = some c → c ≠ .finished →
      c ≠ .peer → ∃ mt, s.metas[j]? = some mt ∧ mt.cancelled = some c := by
    intro j mt0 c hj hc hne hnp
    rw [hmetas] at hj
    obtain ⟨mt, hmj, rfl⟩ := getElem?_modify_some hj
    refine ⟨mt, hmj, ?_⟩
    split at hc
    · exact hf mt c hne hnp hc
    · exact hc
  obtain ⟨hbc, hbn⟩ := W.bc mr hbs
  refine ⟨?_, hidx, ?_, hbc, hbn, ?_, ?_, ?_, ?_⟩
  · rw [hreqs, hcores, List.length_modify, List.length_modify]; exact mr.nreqs
  · intro j mt0 hj hc
    obtain ⟨mt, hmj, hc'⟩ := hcause j mt0 .read hj hc (by simp) (by simp)
    exact hrxs (mr.rx j mt hmj hc')
  · intro j k0 e hj hpc
    rw [hcores] at hj
    obtain ⟨k, hkj, rfl⟩ := getElem?_modify_some hj
    split at hpc
    · rename_i hrj; subst hrj; exact hkk k e hkj hpc
    · exact hbs (mr.bk j k e hkj hpc)
  · intro hw; rw [hwe] at hw; exact hbs (mr.bw hw)
  · intro j mt0 hj hc
    obtain ⟨mt, hmj, hc'⟩ := hcause j mt0 .write hj hc (by simp) (by simp)
    rw [hwe]; exact mr.bx j mt hmj hc'
  · intro j q0 k0 mt0 hq hk hm
    rw [hreqs] at hq; rw [hcores] at hk; rw [hmetas] at hm
    obtain ⟨q, hqj, rfl⟩ := getElem?_modify_some hq
    obtain ⟨k, hkj, rfl⟩ := getElem?_modify_some hk
    obtain ⟨mt, hmj, rfl⟩ := getElem?_modify_some hm
    have rel := mr.req j q k mt hqj hkj hmj
    by_cases hrj : r = j
    · subst hrj; simp only [if_true]
      exact hrel q k mt hqj hkj hmj rel
    · simp only [hrj, if_false]; exact rel

/-- No row moves; only the writers change, and the monitor's flags may grow. -/
theorem MonReqs.writers {m m' : Mon} {s s0 : St} (mr : MonReqs m s) (hreqs : m'.reqs = m.reqs)
    (hidx : m'.idx = s0.byID) (hrxs : m.rxSeen = true → m'.rxSeen = true) (hbs : m.brokenSeen = true → m'.brokenSeen = true)
    (hcores : s0.cores = s.cores) (hmetas : s0.metas = s.metas) (hwe : s0.writeErr = s.writeErr)
    (W : Writers (m'.brokenSeen = true) s s0) : MonReqs m' s0 :=
  mr.row (r := 0) (hcores.trans (List.modify_id _ _).symm) (hmetas.trans (List.modify_id _ _).symm) .of_eq hwe W id
    (hreqs.trans (List.modify_id _ _).symm) hidx hrxs hbs (fun k e hk hpc => hbs (mr.bk 0 k e hk hpc))
    (fun _ _ _ _ _ _ rel => rel)

/-- A new request arrives: one row is appended on both sides. -/
theorem MonReqs.append {m m' : Mon} {s s' : St} (mr : MonReqs m s) (hml : s.metas.length = s.cores.length)
    (q : MReq) (k : ReqCore) (mt : ReqMeta)
    (hreqs : m'.reqs = m.reqs ++ [q]) (hcores : s'.cores = s.cores ++ [k]) (hmetas : s'.metas = s.metas ++ [mt])
    (hidx : m'.idx = s'.byID)
    (hrxs : m.rxSeen = true → m'.rxSeen = true) (hbs : m.brokenSeen = true → m'.brokenSeen = true)
    (hwe : s'.writeErr = s.writeErr) (W : Writers (m'.brokenSeen = true) s s')
    (hk : ∀ e, k.pc ≠ .w2 e) (hmt : mt.cancelled = none) (hrel : ReqRel q k mt) : MonReqs m' s' := by
  obtain ⟨hbc, hbn⟩ := W.bc mr hbs
  refine ⟨?_, hidx, ?_, hbc, hbn, ?_, ?_, ?_, ?_⟩
  · rw [hreqs, hcores]; simp [mr.nreqs]
  · intro j mt' hj hc
    rw [hmetas] at hj
    rcases List.getElem?_snoc hj with h0 | ⟨_, rfl⟩
    · exact hrxs (mr.rx j mt' h0 hc)
    · rw [hmt] at hc; cases hc
  · intro j k' e hj hpc
    rw [hcores] at hj
    rcases List.getElem?_snoc hj with h0 | ⟨_, rfl⟩
    · exact hbs (mr.bk j k' e h0 hpc)
    · exact absurd hpc (hk e)
  · intro hw; rw [hwe] at hw; exact hbs (mr.bw hw)
  · intro j mt' hj hc
    rw [hmetas] at hj
    rcases List.getElem?_snoc hj with h0 | ⟨_, rfl⟩
    · rw [hwe]; exact mr.bx j mt' h0 hc
    · rw [hmt] at hc; cases hc
  · intro j q' k' mt' hq' hk' hmt'
    rw [hreqs] at hq'; rw [hcores] at hk'; rw [hmetas] at hmt'
    have hn := mr.nreqs
    rcases List.getElem?_snoc hk' with h1 | ⟨h1, rfl⟩
    · have hlt : j < s.cores.length := (List.getElem?_eq_some_iff.mp h1).1
      rcases List.getElem?_snoc hq' with h2 | ⟨h2, _⟩
      · rcases List.getElem?_snoc hmt' with h3 | ⟨h3, _⟩
        · exact mr.req j q' k' mt' h2 h1 h3
        · omega
      · omega
    · rcases List.getElem?_snoc hq' with h2 | ⟨_, rfl⟩
      · have hlt : j < m.reqs.length := (List.getElem?_eq_some_iff.mp h2).1
        omega
      · rcases List.getElem?_snoc hmt' with h3 | ⟨_, rfl⟩
        · have hlt : j < s.metas.length := (List.getElem?_eq_some_iff.mp h3).1
          omega
        · exact hrel

/-- Cancelling the context of one request with a cause the monitor can account for: `peer` if it has
marked the request, `read` if it has seen RX, `write` if the writer is marked broken. -/
theorem MonReqs.cancel {m : Mon} {s : St} (mr : MonReqs m s) (r : Nat) (c : Cause) (hc : c ≠ .finished)
    (hpeer : c = .peer → ∀ q, m.reqs[r]? = some q → q.peerCancelled = true)
    (hread : c = .read → m.rxSeen = true) (hwrite : c = .write → s.writeErr = true) :
    MonReqs m (cancelReq s r c) := by
  have hget : ∀ {j : Nat} {mt0 : ReqMeta}, (cancelReq s r c).metas[j]? = some mt0 →
      ∃ mt, s.metas[j]? = some mt ∧ (mt0 = mt ∨ (j = r ∧ mt0 = mt.cancel c)) := by
    intro j mt0 h
    obtain ⟨mt, hmt, rfl⟩ := getElem?_modify_some (show (s.metas.modify r (ReqMeta.cancel c))[j]? = some mt0 from h)
    refine ⟨mt, hmt, ?_⟩
    split
    · rename_i e; exact Or.inr ⟨e.symm, rfl⟩
    · exact Or.inl rfl
  refine ⟨mr.nreqs, mr.idx, ?_, mr.bc, mr.bn, mr.bk, mr.bw, ?_, ?_⟩
  · intro j mt0 hj h
    obtain ⟨mt, hmt, e | ⟨_, e⟩⟩ := hget hj <;> rw [e] at h
    · exact mr.rx j mt hmt h
    · by_cases hcr : c = .read
      · exact hread hcr
      · exact mr.rx j mt hmt ((ReqMeta.cancel_facts c mt).2.2.2.2.2 _ (Ne.symm hcr) h)
  · intro j mt0 hj h
    obtain ⟨mt, hmt, e | ⟨_, e⟩⟩ := hget hj <;> rw [e] at h
    · exact mr.bx j mt hmt h
    · by_cases hcw : c = .write
      · exact hwrite hcw
      · exact mr.bx j mt hmt ((ReqMeta.cancel_facts c mt).2.2.2.2.2 _ (Ne.symm hcw) h)
  · intro j q k mt0 hq hk hj
    obtain ⟨mt, hmt, e | ⟨ej, e⟩⟩ := hget hj <;> rw [e]
    · exact mr.req j q k mt hq hk hmt
    · exact (mr.req j q k mt hq hk hmt).cancel c q.peerCancelled hc id fun hp => hpeer hp q (ej ▸ hq)

theorem MonReqs.foldl_cancel {m : Mon} {s : St} (mr : MonReqs m s) (l : List (Nat × Nat)) (c : Cause)
    (hc : c ≠ .finished) (hp : c ≠ .peer) (hread : c = .read → m.rxSeen = true)
    (hwrite : c = .write → s.writeErr = true) : MonReqs m (l.foldl (fun s p => cancelReq s p.2 c) s) := by
  induction l generalizing s with
  | nil => exact mr
  | cons a t ih => exact ih (mr.cancel a.2 c hc (fun h => absurd h hp) hread hwrite) hwrite

theorem metas_len {s : St} (i : Inv4 s) : s.metas.length = s.cores.length := by
  have := i.disp.lens
  simpa [dview] using this

theorem markBroken_writers (s : St) :
    (markBroken s).calls = s.calls ∧ (markBroken s).unotifs = s.unotifs ∧ (markBroken s).cnotifs = s.cnotifs :=
  ⟨markBroken_calls s, congrArg NView.us (nview_markBroken s), congrArg NView.cs (nview_markBroken s)⟩

theorem MonReqs.markBroken {m : Mon} {s : St} (mr : MonReqs m s) (hb : m.brokenSeen = true) :
    MonReqs m (markBroken s) := by
  unfold Conn.markBroken; split
  · exact mr
  · exact MonReqs.foldl_cancel (s := { s with writeErr := true })
      ⟨mr.nreqs, mr.idx, mr.rx, mr.bc, mr.bn, mr.bk, fun _ => hb, fun _ _ _ _ => rfl, mr.req⟩ _ .write (by simp) (by simp)
      (by simp) (fun _ => rfl)

/-- The events that name no request: `book` leaves the table and the index alone. -/
def Ev.quiet : Ev → Bool
  | .ecall | .ecallbad | .ectx _ | .readResp _ _ | .rx | .wret none _ | .other => true
  | _ => false

theorem book_quiet (m : Mon) (p : Obs) {e : Ev} (he : e.quiet = true) :
    (m.book p e).reqs = m.reqs ∧ (m.book p e).idx = m.idx := by
  cases e
  case wret w o => cases w <;> first | (cases he; done) | exact ⟨(book_reqs m p _).trans (List.append_nil _), book_idx m p _⟩
  all_goals first | (cases he; done) | exact ⟨(book_reqs m p _).trans (List.append_nil _), book_idx m p _⟩

theorem evOf_quiet {l : Label} (hl : l.quiet = true) : (evOf l).quiet = true := by
  cases l with
  | wret w o => cases w <;> first | rfl | cases hl
  | w1 w => cases w <;> first | rfl | cases hl
  | _ => first | rfl | cases hl

/-- The monitor after `book`, for a step that rewrites row `r` of the request machinery: the event rewrites the
entry of `r` by `h` (`Ev.row`), or no entry, and then `h` is the identity. -/
theorem MonReqs.move {m : Mon} {p : Obs} {e : Ev} {s s0 : St} {X : QV} {r : Nat} {g : ReqCore → ReqCore} {f : ReqMeta → ReqMeta}
    (mr : MonReqs m s) (hv : qv s0 = X.row r g f) (W : Writers ((m.book p e).brokenSeen = true) s s0)
    (hwe : s0.writeErr = s.writeErr) (hf : Harmless f) (h : MReq → MReq)
    (hrow : Ev.row m p e = some (r, h) ∨ (Ev.row m p e = none ∧ newReq e = none ∧ h = id))
    (hidx : (m.book p e).idx = X.byID)
    (hkk : ∀ k x, s.cores[r]? = some k → (g k).pc = .w2 x → m.brokenSeen = true ∨ ∃ w, e = .wret w .broken)
    (hrel : ∀ q k mt, m.reqs[r]? = some q → s.cores[r]? = some k → s.metas[r]? = some mt →
      ReqRel q k mt → ReqRel (h q) (g k) (f mt))
    (hX : X.cores = s.cores ∧ X.metas = s.metas := by exact ⟨rfl, rfl⟩) :
    MonReqs (m.book p e) s0 := by
  have hc : s0.cores = X.cores.modify r g := congrArg QV.cores hv
  have hm : s0.metas = X.metas.modify r f := congrArg QV.metas hv
  rw [hX.1] at hc; rw [hX.2] at hm
  refine mr.row hc hm hf hwe W h ?_ (hidx.trans (congrArg QV.byID hv).symm) (fun hx => (book_rxSeen m p e).mpr (.inl hx))
    (fun hx => (book_brokenSeen m p e).mpr (.inl hx)) (fun k x hk hpc => (book_brokenSeen m p e).mpr (hkk k x hk hpc)) hrel
  rw [book_reqs]
  rcases hrow with h1 | ⟨h1, h2, rfl⟩
  · rw [h1]
  · rw [h1, h2, List.modify_id]; exact List.append_nil _

/-- … when the core `k` of the row is at hand: `ReqRel` is asked for that core only.  The index is the connection's and
no pc moves to W2 unless said otherwise. -/
theorem MonReqs.moveAt {m : Mon} {p : Obs} {e : Ev} {s s0 : St} {X : QV} {r : Nat} {k : ReqCore} {g : ReqCore → ReqCore}
    {f : ReqMeta → ReqMeta} (mr : MonReqs m s) (hk : s.cores[r]? = some k) (hv : qv s0 = X.row r g f)
    (W : Writers ((m.book p e).brokenSeen = true) s s0) (hwe : s0.writeErr = s.writeErr) (hf : Harmless f) (h : MReq → MReq)
    (hrow : Ev.row m p e = some (r, h) ∨ (Ev.row m p e = none ∧ newReq e = none ∧ h = id))
    (hrel : ∀ q mt, m.reqs[r]? = some q → s.metas[r]? = some mt → ReqRel q k mt → ReqRel (h q) (g k) (f mt))
    (hidx : (m.book p e).idx = X.byID := by exact (book_idx m p _).trans mr.idx)
    (hkk : ∀ x, (g k).pc = .w2 x → m.brokenSeen = true ∨ ∃ w, e = .wret w .broken := by exact fun _ h0 => nomatch h0)
    (hX : X.cores = s.cores ∧ X.metas = s.metas := by exact ⟨rfl, rfl⟩) :
    MonReqs (m.book p e) s0 :=
  mr.move hv W hwe hf h hrow hidx (fun k' x hk' => by cases Option.some.inj (hk.symm.trans hk'); exact hkk x)
    (fun q k' mt hq hk' hmt => by cases Option.some.inj (hk.symm.trans hk'); exact hrel q mt hq hmt) hX

/-- … for a step that rewrites no row, on an event that rewrites no entry. -/
theorem MonReqs.still {m : Mon} {p : Obs} {e : Ev} {s s0 : St} {X : QV} (mr : MonReqs m s) (hv : qv s0 = X)
    (W : Writers ((m.book p e).brokenSeen = true) s s0) (hwe : s0.writeErr = s.writeErr)
    (hb : (m.book p e).reqs = m.reqs ∧ (m.book p e).idx = m.idx)
    (hX : X.cores = s.cores ∧ X.metas = s.metas ∧ X.byID = s.byID := by exact ⟨rfl, rfl, rfl⟩) :
    MonReqs (m.book p e) s0 := by
  obtain ⟨b1, b2⟩ := hb
  have hc : s0.cores = X.cores := congrArg QV.cores hv
  have hm : s0.metas = X.metas := congrArg QV.metas hv
  have hb : s0.byID = X.byID := congrArg QV.byID hv
  exact mr.writers b1 (b2.trans (mr.idx.trans (hX.2.2.symm.trans hb.symm))) (fun hx => (book_rxSeen m p e).mpr (.inl hx))
    (fun hx => (book_brokenSeen m p e).mpr (.inl hx)) (hc.trans hX.1) (hm.trans hX.2.1) hwe W

theorem QV.cancelAll_tables (l : List (Nat × Nat)) (c : Cause) (v : QV) :
    (l.foldl (fun v p => v.row p.2 id (ReqMeta.cancel c)) v).cores = v.cores ∧
    (l.foldl (fun v p => v.row p.2 id (ReqMeta.cancel c)) v).byID = v.byID ∧
    (l.foldl (fun v p => v.row p.2 id (ReqMeta.cancel c)) v).metas = cancelMetas c l v.metas := by
  induction l generalizing v with
  | nil => exact ⟨rfl, rfl, rfl⟩
  | cons a t ih =>
    obtain ⟨h1, h2, h3⟩ := ih (v.row a.2 id (ReqMeta.cancel c))
    exact ⟨h1.trans (List.modify_id _ _), h2, h3⟩

theorem monreqs_step0 {m : Mon} {s s0 : St} {l : Label} {p : Obs} (mr : MonReqs m s) (i : Inv4 s)
    (hp : p.shuttingDown = s.shuttingDown) (h : step0 s l = some s0) : MonReqs (m.book p (evOf l)) s0 := by
  have ri : RInv (reqView s) := i.inv.reqs
  have hml := metas_len i
  have W : Writers ((m.book p (evOf l)).brokenSeen = true) s s0 :=
    (writers_step0 h).mono fun ⟨w, hw⟩ => (book_brokenSeen m p (evOf l)).mpr (.inr ⟨w.resp?, by rw [hw]; rfl⟩)
  obtain ⟨hwe, hwe2⟩ := writeErr_step0 h
  -- what is known of a request at A1
  have at1 : ∀ {r : Nat} {k : ReqCore}, s.cores[r]? = some k → k.pc = .a1 →
      ∃ q, m.reqs[r]? = some q ∧ q.id = k.id ∧ k.isCall = k.id.isSome := by
    intro r k hk hpc
    have hlen : r < s.cores.length := (List.getElem?_eq_some_iff.mp hk).1
    obtain ⟨q, hq⟩ : ∃ q, m.reqs[r]? = some q := ⟨_, List.getElem?_eq_getElem (by rw [mr.nreqs]; exact hlen)⟩
    obtain ⟨mt, hmt⟩ : ∃ mt, s.metas[r]? = some mt := ⟨_, List.getElem?_eq_getElem (by rw [hml]; exact hlen)⟩
    have rr := mr.req r q k mt hq hk hmt
    have hdup : q.dup = false := by
      cases hd : q.dup with
      | false => rfl
      | true => exact absurd hpc (rr.dupa hd)
    exact ⟨q, hq, rr.id, by rw [rr.kind, rr.idk, hdup, rr.id]; simp⟩
  -- what the monitor does at A1 depends on the entry's id and on its own index, which is the connection's
  have rowA1 : ∀ {r : Nat} {q : MReq}, m.reqs[r]? = some q → Ev.row m p (evOf (.a1 r)) = match q.id with
      | some id => if (s.byID.lookup id).isSome then some (r, fun q => { q with dup := true }) else none
      | none => none := fun hq => by show Ev.row m p (.a1 _) = _; simp only [Ev.row, hq, Option.bind_some, mr.idx]; rfl
  have idxA1 : ∀ {r : Nat} {q : MReq}, m.reqs[r]? = some q → (m.book p (evOf (.a1 r))).idx = match q.id with
      | some id => if (s.byID.lookup id).isSome then s.byID else s.byID ++ [(id, r)]
      | none => s.byID := fun hq => by show (m.book p (.a1 _)).idx = _; rw [book_idx]; simp only [hq, Option.bind_some, mr.idx]; rfl
  have noId : ∀ {k : ReqCore} {q : MReq}, q.id = k.id → k.isCall = k.id.isSome → k.id = none ∨ k.isCall = false → q.id = none := by
    intro k q hqid hcall hn
    rw [hqid]
    rcases hn with h1 | h1
    · exact h1
    · rw [h1] at hcall; simpa using hcall.symm
  -- from A1 to A2, for a state `X` that differs from `s` in `incoming`, `byID`, `cancels` only
  have toA2 : ∀ {r : Nat} {k : ReqCore} {X : QV}, s.cores[r]? = some k → k.pc = .a1 →
      qv s0 = X.row r (fun k => { k with pc := .a2 }) (fun m => { m with seen := true }) → X.cores = s.cores ∧ X.metas = s.metas →
      Writers ((m.book p (evOf (.a1 r))).brokenSeen = true) s s0 → s0.writeErr = s.writeErr →
      Ev.row m p (evOf (.a1 r)) = none → (m.book p (evOf (.a1 r))).idx = X.byID → MonReqs (m.book p (evOf (.a1 r))) s0 := by
    intro r k X hk hpc hv hX W hwe h1 h2
    exact mr.moveAt hk hv W hwe .of_eq id (.inr ⟨h1, rfl, rfl⟩)
      (fun _ _ _ _ rr0 => rr0.preMove (Or.inl hpc) .a2 k.owner (Or.inl rfl) id rfl rfl rfl) h2 (hX := hX)
  have q := QStep.of_step0 ri h
  generalize hv : qv s0 = v0 at q
  cases q with
  | same hl => exact mr.still hv W (hwe fun w hw => by subst hw; cases hl) (book_quiet m p (evOf_quiet hl))
  | reader hl =>
    rcases hl with rfl | rfl | ⟨msg, rfl, hm⟩
    · exact mr.still hv W (hwe nofun) (book_quiet m p rfl)
    · exact mr.still hv W (hwe nofun) (book_quiet m p rfl)
    · exact mr.still hv W (hwe nofun) (book_quiet m p (by cases msg <;> first | rfl | cases hm))
  | d1Empty => exact mr.still hv W (hwe nofun) (book_quiet m p rfl)
  | @k1Miss wid _ hl =>
    have hrow : Ev.row m p (evOf (.k1 wid)) = none := by
      show (m.idx.lookup wid).map _ = none
      rw [mr.idx, show s.byID.lookup wid = none from hl]; rfl
    exact mr.still hv W (hwe nofun) ⟨(book_reqs m p _).trans (by rw [hrow]; exact List.append_nil _), book_idx m p _⟩
  | @k1Hit wid r _ hl =>
    refine mr.move hv W (hwe nofun) ((Harmless.of_eq (f := id)).cancel (.inr rfl)) _ (.inl ?_) ((book_idx m p _).trans mr.idx)
      (fun k e hk hpc => .inl (mr.bk r k e hk hpc)) fun q k mt _ _ _ rr => rr.cancel .peer true (by simp) (fun _ => rfl) (fun _ => rfl)
    show (m.idx.lookup wid).map _ = _
    rw [mr.idx, show s.byID.lookup wid = some r from hl]; rfl
  | @arrive msg k mt hrd hm =>
    -- a fresh request: pc `a1`, every counter 0, no mark, an empty context — each clause is about a default field
    have hr : ReqRel ((newReq (evOf (.read msg))).getD {}) k mt := by
      cases msg <;> cases hm <;> constructor <;> simp [newReq, evOf, ReqPc.afterP1, ReqPc.inPR]
    refine mr.append hml _ k mt ?_ (congrArg QV.cores hv) (congrArg QV.metas hv)
      ((book_idx m p _).trans (by cases msg <;> first | exact mr.idx.trans (congrArg QV.byID hv).symm | cases hm))
      (fun hx => (book_rxSeen m p _).mpr (.inl hx)) (fun hx => (book_brokenSeen m p _).mpr (.inl hx)) (hwe nofun) W
      (by cases msg <;> cases hm <;> exact fun e h => nomatch h) (by cases msg <;> cases hm <;> rfl) hr
    rw [book_reqs]; cases msg <;> first | rfl | cases hm
  | @hasync r q mt hq hm hpc ha =>
    exact mr.move hv W (hwe nofun) .of_eq _ (.inl rfl) ((book_idx m p _).trans mr.idx)
      (fun k e hk hpc => .inl (mr.bk r k e hk hpc))
      (fun q k mt _ _ _ rr => ⟨rr.id, rr.idk, rr.cancelKind, rr.kind, rr.dupa, rr.w1, rr.ok, rr.p1, rr.st, rr.run, rfl,
        rr.p2done, rr.late, rr.peer, rr.cpeer, rr.seen, rr.cfin⟩)
  | @hret r q e hq hpc =>
    refine mr.moveAt hq hv W (hwe nofun) ((Harmless.of_eq (f := fun m => { m with ended := some ((qv s).clock + 1) })).prMeta q.isCall) id
      (.inr ⟨rfl, rfl, rfl⟩) (fun q' mt _ _ rr => ?_) (hkk := fun e0 h0 => absurd h0 (prPc_ne_w2 q.isCall e0))
    exact (rr.meta_congr (mt' := { mt with ended := some ((qv s).clock + 1) }) rfl rfl rfl rfl).toPR
      (by simp [hpc, ReqPc.afterP1]) .handler q.isCall q'.dup q'.a2AfterShutdown rr.kind
  | @a1Dup r k wid hk hpc hid hcall hlk =>
    have hlk : (s.byID.lookup wid).isSome = true := hlk
    obtain ⟨q, hq, hqid, _⟩ := at1 hk hpc
    refine mr.moveAt hk hv W (hwe nofun) ((Harmless.of_eq (f := fun m => { m with rejected := true })).cancel (.inl rfl)) _
      (.inl (by rw [rowA1 hq, hqid, hid]; exact if_pos hlk)) (fun q0 mt0 _ _ rr0 => ?_)
      (hidx := by rw [idxA1 hq, hqid, hid]; exact if_pos hlk)
    exact (rr0.meta_congr (mt' := { mt0 with rejected := true }) rfl rfl rfl rfl).toPR
      (by simp [hpc, ReqPc.afterP1]) .reader false true q0.a2AfterShutdown (by simp)
  | @a1Refused r k wid hk hpc hid hcall hlk hsd =>
    have hlk : ¬ (s.byID.lookup wid).isSome = true := hlk
    obtain ⟨q, hq, hqid, _⟩ := at1 hk hpc
    refine mr.moveAt hk hv W (hwe nofun) .of_eq id (.inr ⟨by rw [rowA1 hq, hqid, hid]; exact if_neg hlk, rfl, rfl⟩)
      (fun q0 mt0 _ _ rr0 => ?_) (hidx := by rw [idxA1 hq, hqid, hid]; exact if_neg hlk)
      (hkk := fun e0 h0 => absurd h0 (prPc_ne_w2 k.isCall e0))
    have e : prMeta k.isCall { mt0 with rejected := true } = { mt0 with rejected := true } := by rw [hcall]; rfl
    exact e ▸ (rr0.meta_congr (mt' := { mt0 with rejected := true }) rfl rfl rfl rfl).toPR
      (by simp [hpc, ReqPc.afterP1]) .reader k.isCall q0.dup q0.a2AfterShutdown rr0.kind
  | @a1Call r k wid hk hpc hid hcall hlk hsd =>
    have hlk : ¬ (s.byID.lookup wid).isSome = true := hlk
    obtain ⟨q, hq, hqid, _⟩ := at1 hk hpc
    exact toA2 hk hpc hv ⟨rfl, rfl⟩ W (hwe nofun) (by rw [rowA1 hq, hqid, hid]; exact if_neg hlk) (by rw [idxA1 hq, hqid, hid]; exact if_neg hlk)
  | @a1Cancel r k wid hk hpc hn ht =>
    obtain ⟨q, hq, hqid, hcall⟩ := at1 hk hpc
    have hnone := noId hqid hcall hn
    exact toA2 hk hpc hv ⟨rfl, rfl⟩ W (hwe nofun) (by rw [rowA1 hq, hnone]) (by rw [idxA1 hq, hnone]; rfl)
  | @a1Notif r k hk hpc hn ht =>
    obtain ⟨q, hq, hqid, hcall⟩ := at1 hk hpc
    have hnone := noId hqid hcall hn
    exact toA2 hk hpc hv ⟨rfl, rfl⟩ W (hwe nofun) (by rw [rowA1 hq, hnone]) (by rw [idxA1 hq, hnone]; rfl)
  | @a2Refused r k hk hpc hsd =>
    refine mr.moveAt hk hv W (hwe nofun) ((Harmless.of_eq (f := fun m => { m with rejected := true })).prMeta k.isCall) _
      (.inl (if_pos (hp.trans hsd))) (fun q mt _ _ rr => ?_) (hkk := fun e0 h0 => absurd h0 (prPc_ne_w2 k.isCall e0))
    exact (rr.meta_congr (mt' := { mt with rejected := true }) rfl rfl rfl rfl).toPR
      (by simp [hpc, ReqPc.afterP1]) .reader k.isCall q.dup true rr.kind
  | @enqueue r k d hk hpc hsd hd =>
    refine mr.moveAt hk hv W (hwe nofun) .of_eq id (.inr ⟨if_neg (by rw [hp]; exact hsd), rfl, rfl⟩) fun q mt _ _ rr => ?_
    exact rr.preMove (Or.inr (Or.inl hpc)) .queued k.owner (Or.inr (Or.inl rfl)) id rfl rfl (rr.seen (Or.inl hpc))
  | @d1Cancelled r rest k mt hd hqu hk hm hc =>
    refine mr.moveAt hk hv W (hwe nofun) ((Harmless.of_eq (f := id)).prMeta k.isCall) id (.inr ⟨rfl, rfl, rfl⟩)
      (fun q mt0 _ _ rr => ?_) (hkk := fun e0 h0 => absurd h0 (prPc_ne_w2 k.isCall e0))
    have hpc : k.pc = .queued := (ri.ok r k hk).que.mpr (by simp [reqView, show s.queue = r :: rest from hqu])
    exact rr.toPR (by simp [hpc, ReqPc.afterP1]) .dispatcher k.isCall q.dup q.a2AfterShutdown rr.kind
  | @d1Start r rest mt hd hqu hm hc =>
    refine mr.move hv W (hwe nofun) .of_eq id (.inr ⟨rfl, rfl, rfl⟩) ((book_idx m p _).trans mr.idx)
      (fun _ _ _ h0 => nomatch h0) ?_
    intro q k mt0 _ hk _ rr
    have hpc : k.pc = .queued := (ri.ok r k hk).que.mpr (by simp [reqView, show s.queue = r :: rest from hqu])
    exact rr.preMove (Or.inr (Or.inr hpc)) .running .handler (Or.inr (Or.inr ⟨rfl, rfl⟩)) (fun _ => rfl) rfl rfl
      (rr.seen (Or.inr (Or.inl hpc)))
  | @p1 r k wid hk hpc hid =>
    have o := ri.ok r k hk
    have hcall : k.isCall = true := by
      cases hc : k.isCall with
      | true => rfl
      | false => have := (o.notif hc).2.1; simp [hpc] at this
    -- the monitor drops the entries of `r` from its index, the connection those of the id of `r`
    refine mr.moveAt hk hv W (hwe nofun) .of_eq _ (.inl rfl) (fun q mt _ _ rr => rr.p1Move hpc hcall)
      (hidx := (book_idx m p _).trans ?_)
    · show m.idx.filter _ = s.byID.filter _
      rw [mr.idx]
      apply List.filter_congr
      intro a ha
      have hr : (wid, r) ∈ s.byID := (o.idx wid).mpr ⟨hcall, hid, by simp [hpc, ReqPc.indexed]⟩
      simp only [ne_eq, decide_eq_decide]
      apply not_congr
      constructor
      · intro har
        have := ((o.idx a.1).mp (by rw [← har]; exact ha)).2.1
        rw [hid] at this; injection this with this; exact this.symm
      · intro ha1
        have ha' : (wid, a.2) ∈ s.byID := by rw [← ha1]; exact ha
        exact nodup_keys_unique ri.keys ha' hr
  | @p1Notif r k hk hpc hid =>
    have o := ri.ok r k hk
    have hcall : k.isCall = true := by
      cases hc : k.isCall with
      | true => rfl
      | false => have := (o.notif hc).2.1; simp [hpc] at this
    refine mr.moveAt hk hv W (hwe nofun) .of_eq _ (.inl rfl) (fun q mt _ _ rr => rr.p1Move hpc hcall)
      (hidx := (book_idx m p _).trans ?_)
    · show m.idx.filter _ = s.byID
      rw [mr.idx, List.filter_eq_self]
      intro a ha
      simp only [ne_eq, decide_eq_true_eq]
      intro har
      have := ((o.idx a.1).mp (by rw [← har]; exact ha)).2.1
      simp [hid] at this
  | @p2 r k hk hpc hpos =>
    cases hown : k.owner <;> rw [hown] at hv
    · exact mr.moveAt (X := { qv s with incoming := (qv s).incoming - 1, reader := .read }) hk hv W (hwe nofun) .of_eq _ (.inl rfl)
        fun q mt _ _ rr => rr.p2Move hpc rfl rfl rfl
    · exact mr.moveAt (X := { qv s with incoming := (qv s).incoming - 1, disp := .d1 }) hk hv W (hwe nofun) .of_eq _ (.inl rfl)
        fun q mt _ _ rr => rr.p2Move hpc rfl rfl rfl
    · exact mr.moveAt hk (hv.trans (QV.row_row _ _ _ _ _ _)) W (hwe nofun) .of_eq _ (.inl rfl)
        fun q mt _ _ rr => rr.p2Move hpc rfl rfl rfl
  | @w1Resp r k hk hpc hw =>
    exact mr.moveAt hk hv W (hwe nofun) .of_eq _ (.inl rfl) fun q mt _ _ rr =>
      rr.inWrite _ _ (Or.inl hpc) (Or.inl ⟨Or.inl rfl, rfl⟩) ⟨rfl, rfl⟩ (by simp [rr.w1]) rr.ok
  | @w1RespShut r k hk hpc hw =>
    exact mr.moveAt hk hv W (hwe nofun) ((Harmless.of_eq (f := id)).cancel (.inl rfl)) _ (.inl rfl) fun q mt _ _ rr =>
      rr.inWrite _ _ (Or.inl hpc) (Or.inr ⟨rfl, rfl⟩) ⟨rfl, rfl⟩ (by simp [rr.w1]) rr.ok
  | @wretRespOk r k hk hpc =>
    exact mr.moveAt hk hv W (hwe nofun) ((Harmless.of_eq (f := id)).cancel (.inl rfl)) _ (.inl rfl) fun q mt _ _ rr =>
      rr.inWrite _ _ (Or.inr (Or.inl hpc)) (Or.inr ⟨rfl, rfl⟩) ⟨rfl, rfl⟩ rr.w1 (by simp [rr.ok])
  | @wretRespBroken r k hk hpc =>
    exact mr.moveAt hk hv W (hwe nofun) .of_eq id (.inr ⟨rfl, rfl, rfl⟩)
      (fun q mt _ _ rr => rr.inWrite _ _ (Or.inr (Or.inl hpc)) (Or.inl ⟨Or.inr ⟨_, rfl⟩, rfl⟩) ⟨rfl, rfl⟩ rr.w1 rr.ok)
      (hkk := fun _ _ => .inr ⟨_, rfl⟩)
  | @wretRespRejected r k hk hpc =>
    exact mr.moveAt hk hv W (hwe nofun) ((Harmless.of_eq (f := id)).cancel (.inl rfl)) id (.inr ⟨rfl, rfl, rfl⟩) fun q mt _ _ rr =>
      rr.inWrite _ _ (Or.inr (Or.inl hpc)) (Or.inr ⟨rfl, rfl⟩) ⟨rfl, rfl⟩ rr.w1 rr.ok
  | @w2Resp r k e hk hpc =>
    -- first the writer is marked broken (every indexed context cancelled), then the request goes on to P2
    have mr1 := mr.markBroken (mr.bk r k e hk hpc)
    have hv1 : qv s0 = (qv (markBroken s)).row r (fun k => { k with pc := .p2 }) (ReqMeta.cancel .finished) := by
      rw [qv_markBroken]; exact hv
    exact mr1.moveAt ((markBroken_cores s).symm ▸ hk) hv1 (W.congr (markBroken_writers s) ⟨rfl, rfl, rfl⟩) ((hwe2 ⟨_, rfl⟩).trans (markBroken_writeErr s).symm)
      ((Harmless.of_eq (f := id)).cancel (.inl rfl)) id (.inr ⟨rfl, rfl, rfl⟩)
      (fun q mt _ _ rr => rr.inWrite _ _ (Or.inr (Or.inr ⟨e, hpc⟩)) (Or.inr ⟨rfl, rfl⟩) ⟨rfl, rfl⟩ rr.w1 rr.ok)
      (hidx := (book_idx m p _).trans (mr.idx.trans (markBroken_byID s).symm))
  | @w2CallNotif w =>
    -- W2 of a call or a notification: its transport Write was seen to fail
    have hb : m.brokenSeen = true := by
      cases Step0.of_step0 h with
      | w2Call hc hpc => exact mr.bc _ _ _ hc hpc
      | w2Resp hq hpc => exact mr.bk _ _ _ hq hpc
      | w2Notif hw hpc => exact mr.bn _ _ _ hw hpc
    exact (mr.markBroken hb).still (hv.trans (qv_markBroken s).symm) (W.congr (markBroken_writers s) ⟨rfl, rfl, rfl⟩)
      ((hwe2 ⟨_, rfl⟩).trans (markBroken_writeErr s).symm) (book_quiet m p (by cases w <;> rfl))
  | rx hrd =>
    -- the monitor has now seen RX; the retires touch the writers only; then every indexed context is cancelled
    have hrx : (m.book p (evOf .rx)).rxSeen = true := (book_rxSeen m p _).mpr (.inr rfl)
    have mr1 : MonReqs (m.book p (evOf .rx)) s := mr.still (X := qv s) rfl (Writers.refl _ s) rfl (book_quiet m p rfl)
    have mr2 := mr1.foldl_cancel s.byID .read (by simp) (by simp) (fun _ => hrx) (by simp)
    rw [foldl_cancel_eq] at mr2
    obtain ⟨t1, t2, t3⟩ := QV.cancelAll_tables s.byID .read { qv s with reader := .gone }
    have hc : s0.cores = s.cores := (congrArg QV.cores hv).trans t1
    have hm : s0.metas = cancelMetas .read s.byID s.metas := (congrArg QV.metas hv).trans t3
    have hb : s0.byID = s.byID := (congrArg QV.byID hv).trans t2
    exact mr2.writers rfl (mr1.idx.trans hb.symm) id id hc hm (hwe nofun) (W.congr ⟨rfl, rfl, rfl⟩ ⟨rfl, rfl, rfl⟩)

theorem settleCall_w2 {c : Call} {e : Err} (h : (settleCall c).pc = .w2 e) : c.pc = .w2 e := by
  unfold settleCall at h
  repeat' (split at h)
  all_goals first
    | exact h
    | (simp at h; done)
    | simp_all

theorem monreqs_settle {m : Mon} {s0 : St} (mr : MonReqs m s0) : MonReqs m (settle s0) := by
  have hr := reqView_settle s0
  have hc : (settle s0).cores = s0.cores := congrArg ReqView.cores hr
  have hb : (settle s0).byID = s0.byID := congrArg ReqView.byID hr
  have hm := settle_metas s0
  have hw := (settle_flags s0).2.2
  refine ⟨by rw [hc]; exact mr.nreqs, by rw [hb]; exact mr.idx, by rw [hm]; exact mr.rx, ?_, ?_,
    by rw [hc]; exact mr.bk, by rw [hw]; exact mr.bw, by rw [hm, hw]; exact mr.bx, by rw [hc, hm]; exact mr.req⟩
  · intro n c e hg hpc
    rw [getCall_settle] at hg
    cases hcc : getCall s0 n with
    | none => rw [hcc] at hg; cases hg
    | some c' => rw [hcc] at hg; cases hg; exact mr.bc n c' e hcc (settleCall_w2 hpc)
  · intro w nf e hg hpc
    have hv := nview_settle s0
    rw [getNotif_congr (congrArg NView.us hv) (congrArg NView.cs hv)] at hg
    exact mr.bn w nf e hg hpc

theorem monreqs_mark {m : Mon} {s : St} (mr : MonReqs m s) : MonReqs { m.mark (obsOf s) with prev := obsOf s } s := by
  refine ⟨?_, mr.idx, mr.rx, mr.bc, mr.bn, mr.bk, mr.bw, mr.bx, ?_⟩
  · simp [Mon.mark]; exact mr.nreqs
  · intro r q' k mt hq hk hmt
    have hq : (m.mark (obsOf s)).reqs[r]? = some q' := hq
    rw [mark_get] at hq
    cases hq0 : m.reqs[r]? with
    | none => simp [hq0] at hq
    | some q =>
      simp only [hq0, Option.map_some, Option.some.injEq] at hq
      have rr := mr.req r q k mt hq0 hk hmt
      split at hq
      · rename_i hc
        subst hq
        have hmem : PTok.h r ∈ (obsOf s).parked := by simpa using hc
        obtain ⟨k', hk', hrun⟩ := (mem_parked_h s r).mp hmem
        rw [hk] at hk'; cases hk'
        exact ⟨rr.id, rr.idk, rr.cancelKind, rr.kind, rr.dupa, rr.w1, rr.ok, rr.p1, fun _ => rr.run hrun, rr.run, rr.asyncd,
          rr.p2done, rr.late, rr.peer, rr.cpeer, rr.seen, rr.cfin⟩
      · subst hq; exact rr

end Conn
