import McpModel.Conn.Frames
import McpModel.Base.Run
/-! `step0` as a relation: one rule per path through an atomic section, with the guards met on that path as premises
and the resulting state spelled out.  `Step0.of_step0` has no converse: what shows a label ENABLED unfolds `step0`.

A theorem about ONE label reads `Step0` (`cases Step0.of_step0 h with | <rule> … => …`).  A theorem about EVERY label
reads the step relation projected onto the part of the state it speaks of — a small machine with its own moves and
one `of_step0` that walks the rules of `Step0` for it:

| part of the state | view | moves | file |
|---|---|---|---|
| shutdown flags, counters, reader pc | `fview` | `FLocal`, `FStep` | FlagInv |
| incoming requests, dispatcher, queue | `qv` (`reqView`, `dview`) | `QStep`, `QShape` | ReqStep |
| `Notify` calls and their counter | `nview` | `NMove`, `NStep` | Live |
| outgoing calls, one record at a time | `getCall s n` | `CRow`, `CStep0`; `Woke` for `settle` | CallRow |
| program counters of all processes | `pview` | `PStep` | PcStep |

A premise `ok → …` of a move holds when `ok` does, for which `of_step0` puts `RInv (reqView s)` (`FStep`, `PStep`) or
`s.outCalls.Nodup` (`CRow`), so that the projection needs no invariant; `QStep.of_step0` takes `RInv` as a hypothesis.
`RInv.step`, `DInv.step` (by a `QShape`), `NInv.step`, `FInvV.step` are preservation by a move; the lower-case `…_step0` /
`_step` / `_run` by `step0` / `step` / `run`.  At the end of the file: induction over runs (`run_induct`, `run_bounded`) and the classes `Label.internal`, `Label.moves`. -/
namespace Conn

theorem tail_set_cnotifs (s : St) (c : List Notif) : { tail s with cnotifs := c } = tail { s with cnotifs := c } := by
  rw [tail_congr (X := { s with cnotifs := c }) (s := s) rfl, tail_eq s]

theorem tail_set_disp (s : St) (d : DispPc) : { tail s with disp := d } = tail { s with disp := d } := by
  rw [tail_congr (X := { s with disp := d }) (s := s) rfl, tail_eq s]

theorem tail_set_clock_disp (s : St) (k : Nat) (d : DispPc) :
    { tail s with clock := k, disp := d } = tail { s with clock := k, disp := d } := by
  rw [tail_congr (X := { s with clock := k, disp := d }) (s := s) rfl, tail_eq s]

theorem byID_foldl_retireIn (l : List Nat) (r : Res) (s : St) :
    (l.foldl (fun s n => retireIn s n r) s).byID = s.byID :=
  List.foldl_fixes (·.byID) (fun s n => retireIn_byID s n r) l s

inductive Step0 (s : St) : Label → St → Prop
  | ecall : Step0 s .ecall { s with calls := s.calls ++ [{}] }
  | ecallbad : Step0 s .ecallbad { s with calls := s.calls ++
      [{ pc := .fin, ready := some (.err .marshal), result := some (.err .marshal), retires := 1, registered := false }] }
  | enotify : Step0 s .enotify { s with unotifs := s.unotifs ++ [{}] }
  | eclose : Step0 s .eclose { s with closeCl1 := s.closeCl1 + 1 }
  | ewait : Step0 s .ewait { s with waitWaiting := s.waitWaiting + 1 }
  | ectx {n c} (hc : getCall s n = some c) (hctx : c.ctxDone = false) :
      Step0 s (.ectx n) (modCall s n fun c => { c with ctxDone := true })
  | readEof (hrd : s.reader = .read) : Step0 s (.read .eof) { s with reader := .rx }
  | readResp {id p} (hrd : s.reader = .read) : Step0 s (.read (.resp id p)) { s with reader := .rr id p }
  | readCall {id} (hrd : s.reader = .read) : Step0 s (.read (.call id))
      { s with reader := .busy, cores := s.cores ++ [{ id := some id, isCall := true }], metas := s.metas ++ [{}] }
  | readNotif (hrd : s.reader = .read) : Step0 s (.read .notif)
      { s with reader := .busy, cores := s.cores ++ [{}], metas := s.metas ++ [{}] }
  | readCancel {id} (hrd : s.reader = .read) : Step0 s (.read (.cancel id))
      { s with reader := .busy, cores := s.cores ++ [{}], metas := s.metas ++ [{ cancelTarget := some id }] }
  | wretCallOk {n c} (hc : getCall s n = some c) (hpc : c.pc = .wr) (hctx : c.ctxDone = false) :
      Step0 s (.wret (.call n) .ok) (modCall s n fun c => { c with pc := .await })
  | wretCallBroken {n c} (hc : getCall s n = some c) (hpc : c.pc = .wr) (hctx : c.ctxDone = false) :
      Step0 s (.wret (.call n) .broken)
        (modCall { s with brokenWrites := s.brokenWrites + 1 } n fun c => { c with pc := .w2 .broken })
  | wretCallBrokenCtx {n c} (hc : getCall s n = some c) (hpc : c.pc = .wr) (hctx : c.ctxDone = true) :
      Step0 s (.wret (.call n) .broken) (modCall s n fun c => { c with pc := .r .broken })
  | wretCallRejected {n c} (hc : getCall s n = some c) (hpc : c.pc = .wr) :
      Step0 s (.wret (.call n) .rejected) (modCall s n fun c => { c with pc := .r .rejected })
  | wretCallCtx {n c} (hc : getCall s n = some c) (hpc : c.pc = .wr) (hctx : c.ctxDone = true) :
      Step0 s (.wret (.call n) .ctx) (modCall s n fun c => { c with pc := .r .ctx })
  | wretRespOk {r q} (hq : s.cores[r]? = some q) (hpc : q.pc = .wr) :
      Step0 s (.wret (.resp r) .ok)
        (toP2 (modCore { s with wire := s.wire ++ [(r, false)] } r fun q => { q with responses := q.responses + 1 }) r)
  | wretRespBroken {r q} (hq : s.cores[r]? = some q) (hpc : q.pc = .wr) :
      Step0 s (.wret (.resp r) .broken)
        (modCore { s with brokenWrites := s.brokenWrites + 1 } r fun q => { q with pc := .w2 .broken })
  | wretRespRejected {r q} (hq : s.cores[r]? = some q) (hpc : q.pc = .wr) :
      Step0 s (.wret (.resp r) .rejected) (toP2 s r)
  | wretNotifOk {w nf} (hw : getNotif s w = some nf) (hpc : nf.pc = .wr) :
      Step0 s (.wret w .ok) (setNotif s w fun nf => { nf with pc := .n2 none })
  | wretNotifBroken {w nf} (hw : getNotif s w = some nf) (hpc : nf.pc = .wr) :
      Step0 s (.wret w .broken)
        (setNotif { s with brokenWrites := s.brokenWrites + 1 } w fun nf => { nf with pc := .w2 .broken })
  | wretNotifRejected {w nf} (hw : getNotif s w = some nf) (hpc : nf.pc = .wr) :
      Step0 s (.wret w .rejected) (setNotif s w fun nf => { nf with pc := .n2 (some .rejected) })
  | hasync {r q m} (hq : s.cores[r]? = some q) (hm : s.metas[r]? = some m) (hpc : q.pc = .running)
      (ha : m.asyncCalled = false) :
      Step0 s (.hasync r) (modMeta s r fun m => { m with asyncCalled := true, released := true })
  | hret {r q isErr} (hq : s.cores[r]? = some q) (hpc : q.pc = .running) :
      Step0 s (.hret r isErr)
        (beginPR (modMeta { s with clock := s.clock + 1 } r fun q => { q with ended := some (s.clock + 1) }) r .handler)
  | startDone (hrd : s.reader = .start) (hd : s.done = true) : Step0 s .start (tail { s with reader := .gone })
  | start (hrd : s.reader = .start) (hd : ¬ s.done = true) :
      Step0 s .start (tail { s with reading := true, reader := .read })
  | n1Refused {w nf} (hw : getNotif s w = some nf) (hpc : nf.pc = .n1)
      (hsd : (s.outCalls.isEmpty && s.byID.isEmpty && s.shuttingDown) = true) :
      Step0 s (.n1 w) (tail (setNotif s w fun nf => { nf with pc := .fin (some .clientClosing) }))
  | n1 {w nf} (hw : getNotif s w = some nf) (hpc : nf.pc = .n1)
      (hsd : ¬ (s.outCalls.isEmpty && s.byID.isEmpty && s.shuttingDown) = true) :
      Step0 s (.n1 w) (tail (setNotif { s with outNotifs := s.outNotifs + 1 } w fun nf => { nf with pc := .w1 }))
  | n2 {w nf res} (hw : getNotif s w = some nf) (hpc : nf.pc = .n2 res) :
      Step0 s (.n2 w) (tail (setNotif { s with outNotifs := s.outNotifs - 1 } w fun nf => { nf with pc := .fin res }))
  | c1Refused {n c} (hc : getCall s n = some c) (hpc : c.pc = .c1) (hsd : s.shuttingDown = true) :
      Step0 s (.c1 n) (retireIn (modCall (tail s) n fun c => { c with pc := .await }) n (.err .clientClosing))
  | c1 {n c} (hc : getCall s n = some c) (hpc : c.pc = .c1) (hsd : ¬ s.shuttingDown = true) :
      Step0 s (.c1 n)
        (tail (modCall { s with outCalls := s.outCalls ++ [n] } n fun c => { c with pc := .w1, registered := true }))
  | retireR {n c e} (hc : getCall s n = some c) (hpc : c.pc = .r e) :
      Step0 s (.retire n) (modCall (tail (retireReg s n (.err e))) n fun c => { c with pc := .await })
  | retireRc {n c} (hc : getCall s n = some c) (hpc : c.pc = .rc) :
      Step0 s (.retire n)
        (modCall (tail (spawnCancel (retireReg s n (.err .ctx)) n)) n
          fun c => { c with pc := .fin, result := some (.err .ctx) })
  | k1Hit {id r} (hm : s.cancels.contains id = true) (hl : s.byID.lookup id = some r) :
      Step0 s (.k1 id) (cancelReq (tail { s with cancels := s.cancels.erase id }) r .peer)
  | k1Miss {id} (hm : s.cancels.contains id = true) (hl : s.byID.lookup id = none) :
      Step0 s (.k1 id) (tail { s with cancels := s.cancels.erase id })
  | cl1 (hn : s.closeCl1 ≠ 0) :
      Step0 s .cl1 (tail { s with closing := true, closeCl1 := s.closeCl1 - 1, closeWaiting := s.closeWaiting + 1 })
  | wtWait (hd : s.done = true) (hn : s.waitWt ≠ 0) :
      Step0 s (.wt true) (tail { s with waitWt := s.waitWt - 1, waitFin := s.waitFin ++ [true] })
  | wtClose (hd : s.done = true) (hn : s.closeWt ≠ 0) :
      Step0 s (.wt false) (tail { s with closeWt := s.closeWt - 1, closeFin := s.closeFin + 1 })
  | rresp {id p} (hrd : s.reader = .rr id p) :
      Step0 s .rresp (tail (retireReg { s with reader := .read, respLog := s.respLog ++ [(id, p)] } id (.resp p)))
  | rx (hrd : s.reader = .rx) :
      Step0 s .rx (tail (s.byID.foldl (fun s p => cancelReq s p.2 .read)
        { (s.outCalls.foldl (fun s n => retireIn s n (.err .read))
            { s with reader := .gone, reading := false, readErr := true }) with outCalls := [] }))
  | a1Dup {r q id} (hq : s.cores[r]? = some q) (hpc : q.pc = .a1) (hid : q.id = some id) (hcall : q.isCall = true)
      (hl : (s.byID.lookup id).isSome = true) :
      Step0 s (.a1 r) (tail (beginPR (modMeta (modCore { s with incoming := s.incoming + 1 } r
        fun q => { q with isCall := false }) r fun m => { m with rejected := true }) r .reader))
  | a1Refused {r q id} (hq : s.cores[r]? = some q) (hpc : q.pc = .a1) (hid : q.id = some id) (hcall : q.isCall = true)
      (hl : ¬ (s.byID.lookup id).isSome = true) (hsd : s.shuttingDown = true) :
      Step0 s (.a1 r) (tail (beginPR (modMeta { s with incoming := s.incoming + 1, byID := s.byID ++ [(id, r)] } r
        fun q => { q with rejected := true }) r .reader))
  | a1Call {r q id} (hq : s.cores[r]? = some q) (hpc : q.pc = .a1) (hid : q.id = some id) (hcall : q.isCall = true)
      (hl : ¬ (s.byID.lookup id).isSome = true) (hsd : ¬ s.shuttingDown = true) :
      Step0 s (.a1 r) (tail (modMeta (modCore { s with incoming := s.incoming + 1, byID := s.byID ++ [(id, r)] } r
        fun q => { q with pc := .a2 }) r fun m => { m with seen := true }))
  | a1Cancel {r q id} (hq : s.cores[r]? = some q) (hpc : q.pc = .a1) (hn : q.id = none ∨ q.isCall = false)
      (ht : (s.metas[r]?).bind (·.cancelTarget) = some id) :
      Step0 s (.a1 r) (tail (modMeta (modCore { s with incoming := s.incoming + 1, cancels := s.cancels ++ [id] } r
        fun q => { q with pc := .a2 }) r fun m => { m with seen := true }))
  | a1Notif {r q} (hq : s.cores[r]? = some q) (hpc : q.pc = .a1) (hn : q.id = none ∨ q.isCall = false)
      (ht : (s.metas[r]?).bind (·.cancelTarget) = none) :
      Step0 s (.a1 r) (tail (modMeta (modCore { s with incoming := s.incoming + 1 } r
        fun q => { q with pc := .a2 }) r fun m => { m with seen := true }))
  | a2Refused {r q} (hq : s.cores[r]? = some q) (hpc : q.pc = .a2) (hsd : s.shuttingDown = true) :
      Step0 s (.a2 r) (tail (beginPR (modMeta s r fun q => { q with rejected := true }) r .reader))
  | a2Busy {r q} (hq : s.cores[r]? = some q) (hpc : q.pc = .a2) (hsd : ¬ s.shuttingDown = true)
      (hh : s.handlerRunning = true) :
      Step0 s (.a2 r) (tail (modCore { s with queue := s.queue ++ [r], reader := .read } r fun q => { q with pc := .queued }))
  | a2Idle {r q} (hq : s.cores[r]? = some q) (hpc : q.pc = .a2) (hsd : ¬ s.shuttingDown = true)
      (hh : ¬ s.handlerRunning = true) :
      Step0 s (.a2 r) (tail { (modCore { s with queue := s.queue ++ [r], reader := .read } r
        fun q => { q with pc := .queued }) with handlerRunning := true, disp := .d1 })
  | d1Empty (hd : s.disp = .d1) (hqu : s.queue = []) :
      Step0 s .d1 (tail { s with handlerRunning := false, disp := .none })
  | d1Cancelled {r rest q} (hd : s.disp = .d1) (hqu : s.queue = r :: rest) (hm : s.metas[r]? = some q)
      (hc : q.cancelled.isSome = true) :
      Step0 s .d1 (beginPR (tail { s with queue := rest, disp := .busy r }) r .dispatcher)
  | d1Start {r rest q} (hd : s.disp = .d1) (hqu : s.queue = r :: rest) (hm : s.metas[r]? = some q)
      (hc : ¬ q.cancelled.isSome = true) :
      Step0 s .d1 (modMeta (modCore (tail { s with queue := rest, clock := s.clock + 1, disp := .waiting r }) r
        fun q => { q with pc := .running, owner := .handler }) r fun m => { m with started := some (s.clock + 1) })
  | p1 {r q id} (hq : s.cores[r]? = some q) (hpc : q.pc = .p1) (hid : q.id = some id) :
      Step0 s (.p1 r)
        (tail (modCore { s with byID := s.byID.filter (fun p => p.1 ≠ id) } r fun q => { q with pc := .w1 }))
  | p1Notif {r q} (hq : s.cores[r]? = some q) (hpc : q.pc = .p1) (hid : q.id = none) :
      Step0 s (.p1 r) (tail (modCore s r fun q => { q with pc := .w1 }))
  | p2 {r q} (hq : s.cores[r]? = some q) (hpc : q.pc = .p2) :
      Step0 s (.p2 r) (afterP2 (tail (modCore
        (if s.incoming = 0 then { s with panicIncoming := true } else { s with incoming := s.incoming - 1 }) r
        fun q => { q with pc := .fin })) r q.owner)
  | w1Call {n c} (hc : getCall s n = some c) (hpc : c.pc = .w1) (hg : gateOpen s false = true) :
      Step0 s (.w1 (.call n)) (tail (modCall s n fun c => { c with pc := .wr }))
  | w1CallShut {n c} (hc : getCall s n = some c) (hpc : c.pc = .w1) (hg : ¬ gateOpen s false = true) :
      Step0 s (.w1 (.call n)) (tail (modCall s n fun c => { c with pc := .r .serverClosing }))
  | w1Resp {r q} (hq : s.cores[r]? = some q) (hpc : q.pc = .w1) (hw : s.writeErr = false) :
      Step0 s (.w1 (.resp r))
        (tail (modCore (modCore s r fun q => { q with wrote := q.wrote + 1 }) r fun q => { q with pc := .wr }))
  | w1RespShut {r q} (hq : s.cores[r]? = some q) (hpc : q.pc = .w1) (hw : s.writeErr = true) :
      Step0 s (.w1 (.resp r)) (toP2 (tail (modCore s r fun q => { q with wrote := q.wrote + 1 })) r)
  | w1Notif {w nf} (hw : getNotif s w = some nf) (hpc : nf.pc = .w1) (hg : gateOpen s true = true) :
      Step0 s (.w1 w) (tail (setNotif s w fun nf => { nf with pc := .wr }))
  | w1NotifShut {w nf} (hw : getNotif s w = some nf) (hpc : nf.pc = .w1) (hg : ¬ gateOpen s true = true) :
      Step0 s (.w1 w) (tail (setNotif s w fun nf => { nf with pc := .n2 (some .serverClosing) }))
  | w2Call {n c e} (hc : getCall s n = some c) (hpc : c.pc = .w2 e) :
      Step0 s (.w2 (.call n)) (tail (modCall (markBroken s) n fun c => { c with pc := .r e }))
  | w2Resp {r q e} (hq : s.cores[r]? = some q) (hpc : q.pc = .w2 e) :
      Step0 s (.w2 (.resp r)) (toP2 (tail (markBroken s)) r)
  | w2Notif {w nf e} (hw : getNotif s w = some nf) (hpc : nf.pc = .w2 e) :
      Step0 s (.w2 w) (tail (setNotif (markBroken s) w fun nf => { nf with pc := .n2 (some e) }))

theorem getNotif_some_cases {s : St} {w : Who} {nf : Notif} (h : getNotif s w = some nf) :
    (∃ k, w = .unotif k) ∨ ∃ k, w = .cnotif k := by
  cases w
  case unotif k => exact .inl ⟨k, rfl⟩
  case cnotif k => exact .inr ⟨k, rfl⟩
  all_goals cases h

theorem Step0.of_step0 {s s' : St} {l : Label} (h : step0 s l = some s') : Step0 s l s' := by
  cases l <;> simp only [step0] at h
  case ectx n =>
    split at h
    · cases h
    · rename_i c hc
      split at h <;> cases h
      rename_i hctx
      exact .ectx hc (by simpa using hctx)
  case read m =>
    split at h
    · cases h
    · rename_i hrd
      have hrd := Decidable.of_not_not hrd
      cases m <;> cases h
      · exact .readCall hrd
      · exact .readNotif hrd
      · exact .readCancel hrd
      · exact .readResp hrd
      · exact .readEof hrd
  case wret w o =>
    cases w <;> simp only at h
    case call n =>
      split at h
      · cases h
      · rename_i c hc
        split at h
        · cases h
        · rename_i hpc
          have hpc := Decidable.of_not_not hpc
          split at h <;> cases h
          · exact .wretCallOk hc hpc ‹_›
          · exact .wretCallBroken hc hpc ‹_›
          · exact .wretCallBrokenCtx hc hpc ‹_›
          · exact .wretCallRejected hc hpc
          · exact .wretCallCtx hc hpc ‹_›
    case resp r =>
      split at h
      · cases h
      · rename_i q hq
        split at h
        · cases h
        · rename_i hpc
          have hpc := Decidable.of_not_not hpc
          cases o <;> cases h
          · exact .wretRespOk hq hpc
          · exact .wretRespBroken hq hpc
          · exact .wretRespRejected hq hpc
    all_goals
      split at h
      · cases h
      · rename_i nf hw
        split at h
        · cases h
        · rename_i hpc
          have hpc := Decidable.of_not_not hpc
          cases o <;> cases h
          · exact .wretNotifOk hw hpc
          · exact .wretNotifBroken hw hpc
          · exact .wretNotifRejected hw hpc
  case hasync r =>
    split at h
    · rename_i q m hq hm
      split at h <;> cases h
      rename_i hg
      simp only [Bool.or_eq_true, decide_eq_true_eq, not_or, Bool.not_eq_true] at hg
      exact .hasync hq hm (Decidable.of_not_not hg.1) hg.2
    · cases h
  case retire n =>
    split at h
    · cases h
    · rename_i c hc
      cases hpc : c.pc <;> simp only [hpc] at h <;> cases h
      · exact .retireR hc hpc
      · have e := Step0.retireRc hc hpc
        unfold spawnCancel at e
        rw [← tail_set_cnotifs, ← tail_cnotifs] at e
        exact e
  case k1 id =>
    split at h
    · cases h
    · rename_i hm
      have hm : s.cancels.contains id = true := by simpa using hm
      split at h <;> cases h <;> rename_i hl <;> rw [tail_byID] at hl
      · exact .k1Hit hm hl
      · exact .k1Miss hm hl
  case wt fw =>
    split at h
    · cases h
    · rename_i hd
      have hd : s.done = true := by simpa using hd
      cases fw <;> simp only [Bool.false_eq_true, if_false, if_true] at h <;> split at h <;> cases h
      · exact .wtClose hd ‹_›
      · exact .wtWait hd ‹_›
  case rresp =>
    split at h <;> cases h
    exact .rresp ‹_›
  case rx =>
    split at h <;> cases h
    have key : ∀ l, l = s.byID → Step0 s .rx (tail (l.foldl (fun s p => cancelReq s p.2 .read)
        { (s.outCalls.foldl (fun s n => retireIn s n (.err .read))
            { s with reader := .gone, reading := false, readErr := true }) with outCalls := [] })) :=
      fun l hl => by subst hl; exact .rx (Decidable.of_not_not ‹_›)
    exact key _ (byID_foldl_retireIn s.outCalls _ _)
  case a1 r =>
    split at h
    · cases h
    · rename_i q hq
      split at h
      · cases h
      · rename_i hpc
        have hpc := Decidable.of_not_not hpc
        split at h
        · rename_i id hid hcall
          split at h
          · cases h; exact .a1Dup hq hpc hid hcall ‹_›
          · split at h <;> cases h
            · exact .a1Refused hq hpc hid hcall ‹_› ‹_›
            · exact .a1Call hq hpc hid hcall ‹_› ‹_›
        · rename_i hn
          have hn : q.id = none ∨ q.isCall = false := by
            cases hid : q.id with
            | none => exact .inl rfl
            | some id => exact .inr (by simpa using hn id hid)
          split at h <;> cases h
          · exact .a1Cancel hq hpc hn ‹_›
          · exact .a1Notif hq hpc hn ‹_›
  case d1 =>
    split at h
    · cases h
    · rename_i hd
      have hd := Decidable.of_not_not hd
      split at h
      · cases h; exact .d1Empty hd ‹_›
      · rename_i r rest hqu
        split at h
        · cases h
        · rename_i q hm
          rw [tail_metas] at hm
          split at h <;> cases h
          · have e := Step0.d1Cancelled hd hqu hm ‹_›
            rw [← tail_set_disp { s with queue := rest }] at e
            exact e
          · have e := Step0.d1Start hd hqu hm ‹_›
            rw [← tail_set_clock_disp { s with queue := rest }] at e
            rw [tail_clock]
            exact e
  case p1 r =>
    split at h
    · cases h
    · rename_i q hq
      split at h <;> cases h
      rename_i hpc
      have hpc := Decidable.of_not_not hpc
      split
      · exact .p1 hq hpc ‹_›
      · exact .p1Notif hq hpc ‹_›
  case p2 r =>
    split at h
    · cases h
    · rename_i q hq
      split at h <;> cases h
      exact .p2 hq (Decidable.of_not_not ‹_›)
  case w1 w =>
    cases w <;> simp only at h
    case call n =>
      split at h
      · cases h
      · rename_i c hc
        split at h
        · cases h
        · rename_i hpc
          have hpc := Decidable.of_not_not hpc
          split at h <;> cases h
          · exact .w1Call hc hpc ‹_›
          · exact .w1CallShut hc hpc ‹_›
    case resp r =>
      split at h
      · cases h
      · rename_i q hq
        split at h
        · cases h
        · rename_i hpc
          have hpc := Decidable.of_not_not hpc
          split at h <;> cases h
          · rename_i hw; exact .w1Resp hq hpc (by simpa [modCore] using hw)
          · rename_i hw; exact .w1RespShut hq hpc (by simpa [modCore] using hw)
    all_goals
      split at h
      · cases h
      · rename_i nf hw
        split at h
        · cases h
        · rename_i hpc
          have hpc := Decidable.of_not_not hpc
          split at h <;> cases h
          · exact .w1Notif hw hpc ‹_›
          · exact .w1NotifShut hw hpc ‹_›
  case w2 w =>
    cases w <;> simp only at h
    case call n =>
      split at h
      · cases h
      · rename_i c hc
        split at h <;> cases h
        exact .w2Call hc ‹_›
    case resp r =>
      split at h
      · cases h
      · rename_i q hq
        split at h <;> cases h
        exact .w2Resp hq ‹_›
    all_goals
      split at h
      · cases h
      · rename_i nf hw
        split at h <;> cases h
        exact .w2Notif hw ‹_›
  -- the remaining sections are plain nests of guards: every successful path is the rule with its result
  all_goals (repeat' (split at h))
  all_goals first
    | cases h; done
    | (cases h; constructor <;> first | assumption | exact Decidable.of_not_not ‹_›)

theorem step_some {s s' : St} {l : Label} : step s l = some s' ↔ ∃ s0, step0 s l = some s0 ∧ settle s0 = s' := by
  simp only [step, Option.map_eq_some_iff]

theorem run_eq (s : St) (ls : List Label) : run s ls = Run step s ls := by
  induction ls generalizing s with
  | nil => rfl
  | cons l ls ih => simp only [run, Run]; cases step s l <;> simp only [Option.bind, ih]

theorem run_cons {s s' : St} {l : Label} {ls : List Label} (h : run s (l :: ls) = some s') :
    ∃ s1, step s l = some s1 ∧ run s1 ls = some s' := by
  simp only [run_eq] at h ⊢; exact Run.cons_some h

theorem run_append {s s1 s2 : St} (l1 l2 : List Label) (h1 : run s l1 = some s1) (h2 : run s1 l2 = some s2) :
    run s (l1 ++ l2) = some s2 := by
  simp only [run_eq] at h1 h2 ⊢; rw [Run.append, h1]; exact h2

theorem run_induct {P : St → Prop} (hs : ∀ {s l s'}, P s → step s l = some s' → P s') {s s' : St} (ls : List Label)
    (i : P s) (h : run s ls = some s') : P s' :=
  Run.preserves (σ := step) hs i (run_eq s ls ▸ h)

/-- Labels that are steps of the connection's own goroutines (critical sections), as opposed to what users,
handlers, the peer and the transport do. -/
def Label.internal : Label → Bool
  | .ecall | .ecallbad | .enotify | .ectx _ | .eclose | .ewait | .read _ | .wret _ _ | .hasync _ | .hret _ _ => false
  | _ => true

/-- Labels that move a process on: the critical sections, and a handler or a transport write returning. -/
def Label.moves : Label → Bool
  | .hret _ _ | .wret _ _ => true
  | l => l.internal

/-- Every label of the run satisfies `ok` in the state in which it is executed. -/
def RunAll (ok : St → Label → Prop) : St → List Label → Prop
  | _, [] => True
  | s, l :: ls => ok s l ∧ ∀ s1, step s l = some s1 → RunAll ok s1 ls

theorem runAll_of_forall {p : Label → Prop} {ls : List Label} (h : ∀ l ∈ ls, p l) (s : St) : RunAll (fun _ l => p l) s ls := by
  induction ls generalizing s with
  | nil => trivial
  | cons l ls ih => exact ⟨h l (by simp), fun s1 _ => ih (fun l' hl' => h l' (List.mem_cons_of_mem _ hl')) s1⟩

theorem run_bounded {I : St → Prop} {ok : St → Label → Prop} {m : St → Nat}
    (hI : ∀ {s l s'}, I s → step s l = some s' → I s')
    (hm : ∀ {s l s'}, I s → ok s l → step s l = some s' → m s' < m s)
    {s s' : St} (ls : List Label) (i : I s) (hok : RunAll ok s ls) (h : run s ls = some s') : ls.length + m s' ≤ m s := by
  induction ls generalizing s with
  | nil => cases h; simp
  | cons l ls ih =>
    obtain ⟨s1, h1, h⟩ := run_cons h
    have := hm i hok.1 h1
    have := ih (hI i h1) (hok.2 s1 h1) h
    simp only [List.length_cons]; omega

end Conn
