import McpModel.Conn.CallRow
/-!
# C01 / C04 liveness: what one label can do to one caller

A *caller* is the goroutine inside `mcp.call` for one outgoing call `n`. Its own critical sections are
`c1 n` (register or be refused), `w1 (call n)` (write gate), `w2 (call n)` (write broke) and `retire n`
(after a failed write, and the eager retire after its context ended). Besides these it waits in two
places only: inside the transport's `Write` (`pc = wr`, ended by the environment label `wret`) and in
`Await` (`pc = await`, left by `settle` as soon as the call is ready or its context is done).

`caller_step` says exactly what any label does to the program counter of call `n`; `own_step_enabled`: an own step is
enabled at its program counter in every state.
-/
namespace Conn

def Label.ofCaller (n : Nat) : Label → Bool
  | .c1 m | .retire m | .w1 (.call m) | .w2 (.call m) => m == n
  | _ => false

/-- The caller's next own critical section, by program counter (`none`: inside the transport's `Write`,
blocked in `Await`, or returned). -/
def ownLabel (n : Nat) : CallPc → Option Label
  | .c1 => some (.c1 n)
  | .w1 => some (.w1 (.call n))
  | .w2 _ => some (.w2 (.call n))
  | .r _ => some (.retire n)
  | .rc => some (.retire n)
  | .wr | .await | .fin => none

theorem ownLabel_ofCaller {n : Nat} {p : CallPc} {l : Label} (h : ownLabel n p = some l) : l.ofCaller n = true := by
  cases p <;> simp [ownLabel] at h <;> subst h <;> simp [Label.ofCaller]

theorem ownLabel_internal {n : Nat} {p : CallPc} {l : Label} (h : ownLabel n p = some l) : l.internal = true := by
  cases p <;> simp [ownLabel] at h <;> subst h <;> rfl

/-- **own_step_enabled.** In *every* state (no invariant) a caller that stands before one of its own critical sections
can take it. -/
theorem own_step_enabled (s : St) (n : Nat) (c : Call) (hc : getCall s n = some c) (l : Label)
    (hl : ownLabel n c.pc = some l) : (step0 s l).isSome = true := by
  cases hp : c.pc <;> simp [hp, ownLabel] at hl <;> subst hl
  · simp only [step0, hc]; simp only [hp, ne_eq, not_true_eq_false, if_false]; split <;> rfl
  · simp only [step0, hc]; simp only [hp, ne_eq, not_true_eq_false, if_false]; split <;> rfl
  · simp only [step0, hc]; simp [hp]
  · simp only [step0, hc]; simp only [hp]; split <;> rfl
  · simp only [step0, hc]; simp only [hp]; split <;> rfl

theorem foldl_cancel_calls (l : List (Nat × Nat)) (c : Cause) (s : St) :
    (l.foldl (fun s p => cancelReq s p.2 c) s).calls = s.calls :=
  List.foldl_fixes (·.calls) (fun s p => cancelReq_calls s p.2 c) l s

theorem settleCall_ctx (c : Call) : (settleCall c).ctxDone = c.ctxDone := (Woke.of_settleCall c).frame.1

/-- What one label does to the program counter of a call: `CStep sd ctx own p p'` — the connection was
(`sd`) shutting down before the label, the caller's context was (`ctx`) done before it, the label is
(`own`) one of the caller's own critical sections, and the program counter goes from `p` to `p'`.  (Unrelated to `CStep0`, CallRow.lean,
which is the outgoing-call part of a whole `step0`.) -/
inductive CStep (sd ctx : Bool) : Bool → CallPc → CallPc → Prop
  | c1_reg : sd = false → CStep sd ctx true .c1 .w1
  | c1_refused_fin : sd = true → ctx = false → CStep sd ctx true .c1 .fin
  | c1_refused_rc : sd = true → ctx = true → CStep sd ctx true .c1 .rc
  | w1_open : sd = false → CStep sd ctx true .w1 .wr
  | w1_closed : sd = true → CStep sd ctx true .w1 (.r .serverClosing)
  | w2 (e : Err) : CStep sd ctx true (.w2 e) (.r e)
  | r_await (e : Err) : ctx = false → CStep sd ctx true (.r e) .await
  | r_fin (e : Err) : ctx = false → CStep sd ctx true (.r e) .fin
  | r_rc (e : Err) : ctx = true → CStep sd ctx true (.r e) .rc
  | rc_fin : CStep sd ctx true .rc .fin
  | wret_await : ctx = false → CStep sd ctx false .wr .await
  | wret_fin : ctx = false → CStep sd ctx false .wr .fin
  | wret_w2 (e : Err) : ctx = false → CStep sd ctx false .wr (.w2 e)
  | wret_r (e : Err) : CStep sd ctx false .wr (.r e)
  | same (p : CallPc) : CStep sd ctx false p p
  | woke_fin : ctx = false → CStep sd ctx false .await .fin
  | woke_rc : CStep sd ctx false .await .rc

theorem CStep.wake {sd : Bool} {c c0 c1 : Call} (w : Woke c0 c1) (hp : c0.pc = c.pc) (hx : c0.ctxDone = false → c.ctxDone = false) :
    CStep sd c.ctxDone false c.pc c1.pc := by
  cases w with
  | stay => rw [hp]; exact .same _
  | fin ha _ h3 => rw [← hp, ha]; exact .woke_fin (hx h3)
  | rc ha => rw [← hp, ha]; exact .woke_rc

theorem ofCaller_callIdx {l : Label} {n : Nat} (h : l.callIdx ≠ some n) : l.ofCaller n = false := by
  cases l <;> first | rfl | (simp [Label.callIdx] at h; simpa [Label.ofCaller] using h) |
    (rename_i w; cases w <;> first | rfl | (simp [Label.callIdx] at h; simpa [Label.ofCaller] using h))

/-- **caller_step.** Any label of the model, executed in any state, seen from call `n`: the call still
exists, its context flag is unchanged unless the label is the cancellation of that very context, and its
program counter moves according to `CStep`. No invariant is needed. -/
theorem caller_step {s s' : St} {l : Label} (h : step s l = some s') {n : Nat} {c : Call} (hc : getCall s n = some c) :
    ∃ c', getCall s' n = some c' ∧ (c'.ctxDone = c.ctxDone ∨ (l = .ectx n ∧ c'.ctxDone = true)) ∧
      CStep s.shuttingDown c.ctxDone (l.ofCaller n) c.pc c'.pc := by
  obtain ⟨s0, c0, _, hc', r⟩ := CRow.of_step h hc
  have w := Woke.of_settleCall c0
  refine ⟨settleCall c0, hc', by rw [w.frame.1]; exact r.ctxDone.imp id fun h => ⟨h.1, h.2.2⟩, ?_⟩
  generalize settleCall c0 = c1 at w
  -- out of `Await` after the atomic section left the call there with context flag `c.ctxDone`
  have await {own : Bool} {p : CallPc} (hp : c0.pc = .await) (hx : c0.ctxDone = c.ctxDone)
      (stay : c0.ready = none → c.ctxDone = false → CStep s.shuttingDown c.ctxDone own p .await)
      (fin : c.ctxDone = false → CStep s.shuttingDown c.ctxDone own p .fin)
      (rc : c.ctxDone = true → CStep s.shuttingDown c.ctxDone own p .rc) :
      CStep s.shuttingDown c.ctxDone own p c1.pc := by
    cases w with
    | stay h => rw [hp]; exact stay (h hp).1 (hx ▸ (h hp).2)
    | fin _ _ h3 => exact fin (hx ▸ h3)
    | rc _ h3 => exact rc (hx ▸ h3)
  have stays {p : CallPc} (hp : c0.pc = p) (hne : p ≠ .await) : c1.pc = p := by rw [w.eq (hp ▸ hne), hp]
  have own1 : (Label.c1 n).ofCaller n = true ∧ (Label.retire n).ofCaller n = true ∧ (Label.w1 (.call n)).ofCaller n = true ∧
      (Label.w2 (.call n)).ofCaller n = true := by simp [Label.ofCaller]
  have hk := r.ctxDone
  cases r with
  | same hl _ => exact ofCaller_callIdx hl ▸ .wake w rfl fun h => h
  | rresp | rx => exact show CStep _ _ false _ _ from .wake w (retireCall_frame c _).1 fun h => (retireCall_frame c _).2.1 ▸ h
  | ectx => exact show CStep _ _ false _ _ from .wake w rfl (by simp)
  | c1 hpc hsd => rw [own1.1, hpc, stays rfl (by simp)]; exact .c1_reg hsd
  | c1Refused hpc hsd =>
    rw [own1.1, hpc]
    refine await (retireCall_frame _ _).1 (hk.resolve_right (by simp)) (fun h _ => ?_) (.c1_refused_fin hsd) (.c1_refused_rc hsd)
    simp only [retireCall] at h; split at h <;> simp_all
  | w1 hpc hsd => rw [own1.2.2.1, hpc, stays rfl (by simp)]; exact .w1_open hsd
  | w1Shut hpc hsd => rw [own1.2.2.1, hpc, stays rfl (by simp)]; exact .w1_closed hsd
  | wretOk hpc hx => rw [hpc]; exact await rfl rfl (fun _ h => .wret_await h) .wret_fin (fun h => by rw [hx] at h; cases h)
  | wretBroken hpc hx => rw [hpc, stays rfl (by simp)]; exact .wret_w2 _ hx
  | wretBrokenCtx hpc | wretRejected hpc | wretCtx hpc => rw [hpc, stays rfl (by simp)]; exact .wret_r _
  | w2 hpc => rw [own1.2.2.2, hpc, stays rfl (by simp)]; exact .w2 _
  | @retire e hpc => rw [own1.2.1, hpc]; exact await rfl (hk.resolve_right (by simp)) (fun _ => .r_await e) (.r_fin e) (.r_rc e)
  | retireRc hpc => rw [own1.2.1, hpc, stays rfl (by simp)]; exact .rc_fin

theorem caller_step_ctx_mono {s s' : St} {l : Label} (h : step s l = some s') {n : Nat} {c : Call} (hc : getCall s n = some c)
    (hx : c.ctxDone = true) : ∃ c', getCall s' n = some c' ∧ c'.ctxDone = true ∧
      CStep s.shuttingDown true (l.ofCaller n) c.pc c'.pc := by
  obtain ⟨c', hc', hx', hcs⟩ := caller_step h hc
  rw [hx] at hcs
  exact ⟨c', hc', hx'.elim (fun e => e.trans hx) (fun e => e.2), hcs⟩

end Conn
