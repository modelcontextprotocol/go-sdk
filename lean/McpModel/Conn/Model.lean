/-
E1 — model of `jsonrpc2.Connection` (internal/jsonrpc2/conn.go) with the `mcp.call` caller
(mcp/transport.go, `call`) and the `canceller` preempter (mcp/transport.go, `canceller.Preempt`) on top.
Serves C01–C05.

One label = one atomic section of the Go code: a critical section under `stateMu` (the 17
`updateInFlight` call sites, named as in DESIGN.md Appendix A; R is `retire`, RR is `rresp`) or an externally visible action
(a transport Read/Write returning, a handler calling Async/returning, a context being cancelled,
a user starting Call/Notify/Close/Wait).  `step` returns `none` when the label is not enabled.
After every label `settle` runs the goroutines that were blocked on a Go channel (Await, `<-done`,
`<-releaser.ch`) up to their next park point.  Ghost fields record history for the theorems.
Core Lean only (linked into the driver).
-/
namespace Conn

/-- Error classes (all the properties distinguish). -/
inductive Err where
  | clientClosing   -- wraps ErrClientClosing
  | serverClosing   -- wraps ErrServerClosing
  | read            -- the reader's error (EOF or other)
  | broken          -- the transport Write failed
  | rejected        -- Write failed with ErrRejected (per-message, connection stays usable)
  | ctx             -- the caller's context ended
  | marshal         -- the call's parameters could not be encoded (the call never reached the connection)
deriving DecidableEq, Repr, Inhabited

def Err.closing : Err → Bool
  | .clientClosing | .serverClosing => true
  | _ => false

/-- Outcome of an outgoing call. -/
inductive Res where
  | resp (payload : Nat)   -- the peer's response (result or error payload, identified by a tag)
  | err (e : Err)
deriving DecidableEq, Repr, Inhabited

inductive CallPc where
  | c1 | w1 | wr | w2 (e : Err) | r (e : Err) | await | rc | fin
deriving DecidableEq, Repr, Inhabited

structure Call where
  pc : CallPc := .c1
  ctxDone : Bool := false
  ready : Option Res := none
  retires : Nat := 0            -- ghost: how many times `ac.retire` ran
  registered : Bool := false    -- ghost: C1 registered it
  result : Option Res := none   -- what `call()` returned (at fin)
deriving Repr, Inhabited

inductive NotifPc where
  | n1 | w1 | wr | w2 (e : Err) | n2 (res : Option Err) | fin (res : Option Err)
deriving DecidableEq, Repr, Inhabited

structure Notif where
  pc : NotifPc := .n1
  cancelFor : Option Nat := none   -- the detached notifications/cancelled of call n
deriving Repr, Inhabited

inductive Owner where | reader | dispatcher | handler
deriving DecidableEq, Repr, Inhabited

/-- Why a request's context was cancelled (first cause wins, as with context.WithCancelCause). -/
inductive Cause where | peer | read | write | finished
deriving DecidableEq, Repr, Inhabited

inductive ReqPc where
  | a1 | a2 | queued | running | p1 | w1 | wr | w2 (e : Err) | p2 | fin
deriving DecidableEq, Repr, Inhabited

/-- The bookkeeping part of an incoming request (what the counters and tables depend on). -/
structure ReqCore where
  id : Option Nat := none          -- wire id of a call; none for a notification
  isCall : Bool := false           -- `req.IsCall()`: false for notifications and after A1 cleared a duplicate id
  pc : ReqPc := .a1
  owner : Owner := .reader         -- the goroutine that runs processResult for it
  wrote : Nat := 0                 -- ghost: response writes attempted (W1 reached)
  responses : Nat := 0             -- ghost: responses handed to a successful transport Write
deriving Repr, Inhabited, DecidableEq

/-- The rest of an incoming request: context cancellation, release of the dispatcher, ghost stamps. -/
structure ReqMeta where
  cancelTarget : Option Nat := none -- notifications/cancelled for this id
  cancelled : Option Cause := none
  released : Bool := false         -- the dispatcher may go on (Async, or the handler goroutine finished)
  asyncCalled : Bool := false
  rejected : Bool := false         -- refused at A1/A2 (never reaches the handler)
  seen : Bool := false             -- passed A1 and was offered to the preempter (its ctx is observable)
  started : Option Nat := none     -- ghost: stamp when Handle was entered
  ended : Option Nat := none       -- ghost: stamp when Handle returned
deriving Repr, Inhabited

inductive ReaderPc where
  | start            -- NewConnection parked at START
  | read             -- parked in Reader.Read
  | rr (id : Nat) (payload : Nat)  -- parked before RR with a response
  | rx               -- parked before RX (Read failed)
  | busy             -- running acceptRequest for the newest request
  | gone
deriving DecidableEq, Repr, Inhabited

inductive DispPc where
  | none | d1 | waiting (r : Nat) | busy (r : Nat)
deriving DecidableEq, Repr, Inhabited

structure St where
  -- inFlightState
  closing : Bool := false
  reading : Bool := false
  readErr : Bool := false
  writeErr : Bool := false
  closerUsed : Bool := false
  done : Bool := false
  outCalls : List Nat := []           -- keys of outgoingCalls: the model takes the NUMBER n of a call for its wire id (ids are fresh by construction)
  outNotifs : Nat := 0
  incoming : Nat := 0
  byID : List (Nat × Nat) := []       -- incomingByID: wire id ↦ request number
  queue : List Nat := []
  handlerRunning : Bool := false
  -- processes
  reader : ReaderPc := .start
  disp : DispPc := .none
  calls : List Call := []             -- call n is calls[n-1]
  unotifs : List Notif := []          -- user Notify processes u0,u1,…
  cnotifs : List Notif := []          -- detached cancel notifications x0,x1,… (in order of creation; `cancelFor` names the call)
  cores : List ReqCore := []          -- request r is (cores[r], metas[r]) (arrival order)
  metas : List ReqMeta := []
  cancels : List Nat := []            -- Cancel(id) goroutines parked before K1
  closeCl1 : Nat := 0                 -- Close() goroutines parked before CL1
  closeWaiting : Nat := 0             -- … blocked on <-done
  closeWt : Nat := 0                  -- … parked before WT
  closeFin : Nat := 0
  waitWaiting : Nat := 0
  waitWt : Nat := 0
  waitFin : List Bool := []           -- one entry per returned Wait(); the error it returns is not modelled (always `true`, only the length is observed)
  -- ghost
  panicRetire : Bool := false          -- `ac.retire` called twice
  panicIncoming : Bool := false        -- processResult with incoming already zero
  panicIdle : Bool := false            -- updateInFlight left a done connection non-idle
  respLog : List (Nat × Nat) := []     -- every (id, payload) response the reader took off the wire (at RR)
  brokenWrites : Nat := 0              -- transport writes that failed as broken
  transportCloses : Nat := 0
  closedWhileBusy : Bool := false     -- the transport was closed in a non-idle state
  onDone : Nat := 0
  clock : Nat := 0
  wire : List (Nat × Bool) := []      -- (request number, isError) of responses successfully written (`isError` is always `false`: see `hret`)
deriving Repr, Inhabited

def St.panicked (s : St) : Bool := s.panicRetire || s.panicIncoming || s.panicIdle

def St.idle (s : St) : Bool :=
  s.outCalls.isEmpty && s.outNotifs == 0 && s.incoming == 0 && !s.handlerRunning

def St.shuttingDown (s : St) : Bool := s.closing || s.readErr || s.writeErr

/-- `s.closer.Close()` once (conn.go, in `updateInFlight`). -/
def closeTransport (s : St) : St :=
  if s.closerUsed then s else { s with closerUsed := true, transportCloses := s.transportCloses + 1 }

/-- If the reader has exited: `onDone`, close `done` (conn.go, in `updateInFlight`). -/
def finish (s : St) : St :=
  if s.reading then s else { s with onDone := s.onDone + 1, done := true }

/-- The common tail of `updateInFlight` (conn.go): what follows `f(s)`. -/
def tail (s : St) : St :=
  if s.done then
    if s.idle then s else { s with panicIdle := true }
  else if s.idle && s.shuttingDown then finish (closeTransport s)
  else s

/-- `ac.retire`: panics when called twice. -/
def retireCall (c : Call) (r : Res) : Call × Bool :=
  match c.ready with
  | some _ => (c, true)
  | none => ({ c with ready := some r, retires := c.retires + 1 }, false)

def modCall (s : St) (n : Nat) (f : Call → Call) : St := { s with calls := s.calls.modify (n - 1) f }
def getCall (s : St) (n : Nat) : Option Call := if n = 0 then none else s.calls[n - 1]?
def modCore (s : St) (r : Nat) (f : ReqCore → ReqCore) : St := { s with cores := s.cores.modify r f }
def modMeta (s : St) (r : Nat) (f : ReqMeta → ReqMeta) : St := { s with metas := s.metas.modify r f }

def retireIn (s : St) (n : Nat) (res : Res) : St :=
  match getCall s n with
  | none => s
  | some c =>
    let (c', p) := retireCall c res
    let s := modCall s n (fun _ => c')
    if p then { s with panicRetire := true } else s

def cancelReq (s : St) (r : Nat) (cause : Cause) : St :=
  modMeta s r (fun q => if q.cancelled.isSome then q else { q with cancelled := some cause })

/-- Who is writing: an outgoing call, a user notification, a detached cancel notification, a response. -/
inductive Who where
  | call (n : Nat) | unotif (k : Nat) | cnotif (k : Nat) | resp (r : Nat)
deriving DecidableEq, Repr, Inhabited

inductive WOut where | ok | broken | rejected | ctx
deriving DecidableEq, Repr, Inhabited

inductive RMsg where
  | call (id : Nat) | notif | cancel (id : Nat) | resp (id : Nat) (payload : Nat) | eof
deriving DecidableEq, Repr, Inhabited

inductive Label where
  -- environment
  | ecall | enotify | ectx (n : Nat) | eclose | ewait
  | ecallbad   -- a user starts a call whose params cannot be encoded
  | read (m : RMsg)
  | wret (w : Who) (o : WOut)
  | hasync (r : Nat) | hret (r : Nat) (isErr : Bool)
  -- critical sections (yield sites)
  | start | n1 (w : Who) | n2 (w : Who) | c1 (n : Nat) | retire (n : Nat) | k1 (id : Nat) | wt (fromWait : Bool) | cl1
  | rresp | rx | a1 (r : Nat) | a2 (r : Nat) | d1 | p1 (r : Nat) | p2 (r : Nat) | w1 (w : Who) | w2 (w : Who)
deriving DecidableEq, Repr, Inhabited

def getNotif (s : St) : Who → Option Notif
  | .unotif k => s.unotifs[k]?
  | .cnotif n => s.cnotifs[n]?
  | _ => none

def setNotif (s : St) (w : Who) (f : Notif → Notif) : St :=
  match w with
  | .unotif k => { s with unotifs := s.unotifs.modify k f }
  | .cnotif n => { s with cnotifs := s.cnotifs.modify n f }
  | _ => s

/-- After a request's processResult finished (P2 done), whoever ran it continues. -/
def afterP2 (s : St) (r : Nat) (own : Owner) : St :=
  match own with
  | .reader => { s with reader := .read }
  | .dispatcher => { s with disp := .d1 }
  | .handler => modMeta s r (fun q => { q with released := true })

/-- The goroutine running processResult reaches the park point before P2; `req.cancel(nil)` has just run. -/
def toP2 (s : St) (r : Nat) : St :=
  cancelReq (modCore s r fun q => { q with pc := .p2 }) r .finished

/-- Begin processResult for request r on goroutine `own`: calls go to P1, notifications to P2. -/
def beginPR (s : St) (r : Nat) (own : Owner) : St :=
  match s.cores[r]? with
  | none => s
  | some q =>
    if q.isCall then modCore s r (fun q => { q with owner := own, pc := .p1 })
    else toP2 (modCore s r (fun q => { q with owner := own })) r

/-- A caller blocked in `Await` (mcp/transport.go, `call`) continues as soon as the call is ready or
its context is done: a done context leads to the eager `Retire` (park point R); otherwise the outcome is returned
as it is.  (An error `e` with `e.closing` is what `call` wraps as `ErrConnectionClosed`; the model does not classify,
and the test on it below decides nothing: both branches return `.err e`.  Ready with a closing-class error *and* a done
context makes Go's `select` choose at random; the harness does not generate that schedule and the model takes the
`rc` branch.) -/
def settleCall (c : Call) : Call :=
  if c.pc = .await then
    match c.ready with
    | some (.err e) =>
      if e.closing && !c.ctxDone then { c with pc := .fin, result := some (.err e) }
      else if c.ctxDone then { c with pc := .rc }
      else { c with pc := .fin, result := some (.err e) }
    | some r =>
      if c.ctxDone then { c with pc := .rc } else { c with pc := .fin, result := some r }
    | none => if c.ctxDone then { c with pc := .rc } else c
  else c

def settleCalls (s : St) : St := { s with calls := s.calls.map settleCall }

/-- Close()/Wait() goroutines blocked on `<-c.done` reach their park point before WT once done is closed. -/
def settleWaiters (s : St) : St :=
  if s.done then
    { s with closeWt := s.closeWt + s.closeWaiting, closeWaiting := 0,
             waitWt := s.waitWt + s.waitWaiting, waitWaiting := 0 }
  else s

/-- The dispatcher blocked on `<-releaser.ch` goes on to D1 once the request was released. -/
def settleDisp (s : St) : St :=
  match s.disp with
  | .waiting r =>
    match s.metas[r]? with
    | some q => if q.released then { s with disp := .d1 } else s
    | none => s
  | _ => s

/-- Goroutines blocked on Go channels continue to their next park point. -/
def settle (s : St) : St := settleDisp (settleWaiters (settleCalls s))

/-- The write gate W1 (conn.go, the first `updateInFlight` of `Connection.write`) for an outgoing call or
notification (`isNotification`; a response has its own clause in `step0`); returns whether the write may proceed. -/
def gateOpen (s : St) (isNotification : Bool) : Bool :=
  if isNotification && s.outNotifs > 0 then true else !s.shuttingDown

/-- W2 (conn.go, the second `updateInFlight` of `Connection.write`): mark the writer broken and cancel every indexed request. -/
def markBroken (s : St) : St :=
  if s.writeErr then s
  else s.byID.foldl (fun s p => cancelReq s p.2 .write) { s with writeErr := true }

/-- One atomic section (before the blocked goroutines are woken). -/
def step0 (s : St) : Label → Option St
  -- ───────────── environment ─────────────
  | .ecall => some { s with calls := s.calls ++ [{}] }
  -- `Call` with params that `NewCall` cannot marshal (conn.go, `Connection.Call`): the id is taken from the
  -- sequence, the AsyncCall is retired with the marshalling error without being registered and
  -- without reaching C1; `mcp.call`'s Await returns that error at once
  | .ecallbad => some { s with calls := s.calls ++
      [{ pc := .fin, ready := some (.err .marshal), result := some (.err .marshal), retires := 1, registered := false }] }
  | .enotify => some { s with unotifs := s.unotifs ++ [{}] }
  | .eclose => some { s with closeCl1 := s.closeCl1 + 1 }
  | .ewait => some { s with waitWaiting := s.waitWaiting + 1 }
  | .ectx n =>
    match getCall s n with
    | none => none
    | some c => if c.ctxDone then none else some (modCall s n fun c => { c with ctxDone := true })
  | .read m =>
    if s.reader ≠ .read then none else
    match m with
    | .eof => some { s with reader := .rx }
    | .resp id p => some { s with reader := .rr id p }
    | .call id => some { s with reader := .busy, cores := s.cores ++ [{ id := some id, isCall := true }], metas := s.metas ++ [{}] }
    | .notif => some { s with reader := .busy, cores := s.cores ++ [{}], metas := s.metas ++ [{}] }
    | .cancel id => some { s with reader := .busy, cores := s.cores ++ [{}], metas := s.metas ++ [{ cancelTarget := some id }] }
  | .wret w o =>
    match w with
    | .call n =>
      match getCall s n with
      | none => none
      | some c =>
        if c.pc ≠ .wr then none else
        -- the scripted writer returns ok only while ctx is alive and ctx-error only when it is done
        match o, c.ctxDone with
        | .ok, false => some (modCall s n fun c => { c with pc := .await })
        | .broken, false => some (modCall { s with brokenWrites := s.brokenWrites + 1 } n fun c => { c with pc := .w2 .broken })
        | .broken, true => some (modCall s n fun c => { c with pc := .r .broken })
        | .rejected, _ => some (modCall s n fun c => { c with pc := .r .rejected })
        | .ctx, true => some (modCall s n fun c => { c with pc := .r .ctx })
        | _, _ => none
    | .resp r =>
      match s.cores[r]? with
      | none => none
      | some q =>
        if q.pc ≠ .wr then none else
        match o with
        | .ok => some (toP2 (modCore { s with wire := s.wire ++ [(r, false)] } r fun q => { q with responses := q.responses + 1 }) r)
        | .broken => some (modCore { s with brokenWrites := s.brokenWrites + 1 } r fun q => { q with pc := .w2 .broken })
        | .rejected => some (toP2 s r)
        | .ctx => none     -- response writes use notDone{ctx}: never cancelled
    | w =>
      match getNotif s w with
      | none => none
      | some nf =>
        if nf.pc ≠ .wr then none else
        match o with
        | .ok => some (setNotif s w fun nf => { nf with pc := .n2 none })
        | .broken => some (setNotif { s with brokenWrites := s.brokenWrites + 1 } w fun nf => { nf with pc := .w2 .broken })
        | .rejected => some (setNotif s w fun nf => { nf with pc := .n2 (some .rejected) })
        | .ctx => none     -- notification contexts are never cancelled by the harness
  | .hasync r =>
    match s.cores[r]?, s.metas[r]? with
    | some q, some m =>
      if q.pc ≠ .running || m.asyncCalled then none
      else some (modMeta s r fun m => { m with asyncCalled := true, released := true })
    | _, _ => none
  -- the label's second component (the handler returned an error) is for the monitor and the harness; the model does not read it
  | .hret r _ =>
    match s.cores[r]? with
    | none => none
    | some q =>
      if q.pc ≠ .running then none
      else
        let s := { s with clock := s.clock + 1 }
        let s := modMeta s r fun q => { q with ended := some s.clock }
        some (beginPR s r .handler)
  -- ───────────── critical sections ─────────────
  | .start =>
    if s.reader ≠ .start then none
    else if s.done then some (tail { s with reader := .gone })   -- already closed: no reader is started
    else some (tail { s with reading := true, reader := .read })
  | .n1 w =>
    match getNotif s w with
    | none => none
    | some nf =>
      if nf.pc ≠ .n1 then none else
      if s.outCalls.isEmpty && s.byID.isEmpty && s.shuttingDown then
        some (tail (setNotif s w fun nf => { nf with pc := .fin (some .clientClosing) }))
      else some (tail (setNotif { s with outNotifs := s.outNotifs + 1 } w fun nf => { nf with pc := .w1 }))
  | .n2 w =>
    match getNotif s w with
    | none => none
    | some nf =>
      match nf.pc with
      | .n2 res => some (tail (setNotif { s with outNotifs := s.outNotifs - 1 } w fun nf => { nf with pc := .fin res }))
      | _ => none
  | .c1 n =>
    match getCall s n with
    | none => none
    | some c =>
      if c.pc ≠ .c1 then none else
      if s.shuttingDown then
        -- refused: retired locally right after the critical section, Call returns, Await sees it ready
        let s := tail s
        some (retireIn (modCall s n fun c => { c with pc := .await }) n (.err .clientClosing))
      else some (tail (modCall { s with outCalls := s.outCalls ++ [n] } n fun c => { c with pc := .w1, registered := true }))
  | .retire n =>   -- R: Retire(ac, err)
    match getCall s n with
    | none => none
    | some c =>
      let e? : Option (Err × Bool) := match c.pc with
        | .r e => some (e, false)
        | .rc => some (.ctx, true)
        | _ => none
      match e? with
      | none => none
      | some (e, viaCtx) =>
        let s := if s.outCalls.contains n
          then retireIn { s with outCalls := s.outCalls.erase n } n (.err e) else s
        let s := tail s
        if viaCtx then
          -- call(): spawn the detached notifications/cancelled, return ctx.Err()
          some { (modCall s n fun c => { c with pc := .fin, result := some (.err .ctx) }) with
                  cnotifs := s.cnotifs ++ [{ cancelFor := some n }] }
        else some (modCall s n fun c => { c with pc := .await })
  | .k1 id =>
    if !s.cancels.contains id then none else
    let s := { s with cancels := s.cancels.erase id }
    let s := tail s
    -- `req.cancel(nil)` follows outside the lock; merged into this label (it is idempotent and
    -- acts on the request object found under the lock, whatever happens in between)
    match s.byID.lookup id with
    | some r => some (cancelReq s r .peer)
    | none => some s
  | .cl1 =>
    if s.closeCl1 = 0 then none
    else some (tail { s with closing := true, closeCl1 := s.closeCl1 - 1, closeWaiting := s.closeWaiting + 1 })
  | .wt fromWait =>
    if !s.done then none else
    if fromWait then
      if s.waitWt = 0 then none
      else some (tail { s with waitWt := s.waitWt - 1, waitFin := s.waitFin ++ [true] })
    else
      if s.closeWt = 0 then none
      else some (tail { s with closeWt := s.closeWt - 1, closeFin := s.closeFin + 1 })
  | .rresp =>
    match s.reader with
    | .rr id p =>
      let s := { s with reader := .read, respLog := s.respLog ++ [(id, p)] }
      let s := if s.outCalls.contains id
        then retireIn { s with outCalls := s.outCalls.erase id } id (.resp p) else s
      some (tail s)
    | _ => none
  | .rx =>
    if s.reader ≠ .rx then none else
    let s := { s with reader := .gone, reading := false, readErr := true }
    let s := s.outCalls.foldl (fun s n => retireIn s n (.err .read)) s
    let s := { s with outCalls := [] }
    let s := s.byID.foldl (fun s p => cancelReq s p.2 .read) s
    some (tail s)
  | .a1 r =>
    match s.cores[r]? with
    | none => none
    | some q =>
      if q.pc ≠ .a1 then none else
      let s := { s with incoming := s.incoming + 1 }
      match q.id, q.isCall with
      | some id, true =>
        if (s.byID.lookup id).isSome then
          -- duplicate in-flight id: the request loses its id and is dropped as a notification
          let s := modMeta (modCore s r fun q => { q with isCall := false }) r fun m => { m with rejected := true }
          some (tail (beginPR s r .reader))
        else
          let s := { s with byID := s.byID ++ [(id, r)] }
          if s.shuttingDown then
            let s := modMeta s r fun q => { q with rejected := true }
            some (tail (beginPR s r .reader))
          else some (tail (modMeta (modCore s r fun q => { q with pc := .a2 }) r fun m => { m with seen := true }))
      | _, _ =>
        -- notification: the canceller preempter turns notifications/cancelled into `go Cancel(id)`
        let s := match (s.metas[r]?).bind (·.cancelTarget) with
          | some id => { s with cancels := s.cancels ++ [id] }
          | none => s
        some (tail (modMeta (modCore s r fun q => { q with pc := .a2 }) r fun m => { m with seen := true }))
  | .a2 r =>
    match s.cores[r]? with
    | none => none
    | some q =>
      if q.pc ≠ .a2 then none else
      if s.shuttingDown then
        let s := modMeta s r fun q => { q with rejected := true }
        some (tail (beginPR s r .reader))
      else
        let s := modCore { s with queue := s.queue ++ [r], reader := .read } r fun q => { q with pc := .queued }
        if s.handlerRunning then some (tail s)
        else some (tail { s with handlerRunning := true, disp := .d1 })
  | .d1 =>
    if s.disp ≠ .d1 then none else
    match s.queue with
    | [] => some (tail { s with handlerRunning := false, disp := .none })
    | r :: rest =>
      let s := tail { s with queue := rest }
      match s.metas[r]? with
      | none => none
      | some q =>
        if q.cancelled.isSome then
          some (beginPR { s with disp := .busy r } r .dispatcher)
        else
          let s := { s with clock := s.clock + 1, disp := .waiting r }
          some (modMeta (modCore s r fun q => { q with pc := .running, owner := .handler }) r fun m => { m with started := some s.clock })
  | .p1 r =>
    match s.cores[r]? with
    | none => none
    | some q =>
      if q.pc ≠ .p1 then none else
      let s := match q.id with
        | some id => { s with byID := s.byID.filter (fun p => p.1 ≠ id) }
        | none => s
      some (tail (modCore s r fun q => { q with pc := .w1 }))
  | .p2 r =>
    match s.cores[r]? with
    | none => none
    | some q =>
      if q.pc ≠ .p2 then none else
      let s := if s.incoming = 0 then { s with panicIncoming := true } else { s with incoming := s.incoming - 1 }
      let s := tail (modCore s r fun q => { q with pc := .fin })
      some (afterP2 s r q.owner)
  | .w1 w =>
    match w with
    | .call n =>
      match getCall s n with
      | none => none
      | some c =>
        if c.pc ≠ .w1 then none else
        if gateOpen s false then some (tail (modCall s n fun c => { c with pc := .wr }))
        else
          -- refused before reaching the transport: `write` returns the refusal at once (it says
          -- nothing about the writer's health, so there is no W2); Call then retires the call
          some (tail (modCall s n fun c => { c with pc := .r .serverClosing }))
    | .resp r =>
      match s.cores[r]? with
      | none => none
      | some q =>
        if q.pc ≠ .w1 then none else
        let s := modCore s r fun q => { q with wrote := q.wrote + 1 }
        -- a response passes the shutdown gate unless the writer is known to be broken: its request
        -- is still counted in `incoming`, so the transport cannot have been closed by us
        if !s.writeErr then some (tail (modCore s r fun q => { q with pc := .wr }))
        else some (toP2 (tail s) r)      -- refused: the response is dropped, no W2
    | w =>
      match getNotif s w with
      | none => none
      | some nf =>
        if nf.pc ≠ .w1 then none else
        if gateOpen s true then some (tail (setNotif s w fun nf => { nf with pc := .wr }))
        else some (tail (setNotif s w fun nf => { nf with pc := .n2 (some .serverClosing) }))
  | .w2 w =>
    match w with
    | .call n =>
      match getCall s n with
      | none => none
      | some c =>
        match c.pc with
        | .w2 e => some (tail (modCall (markBroken s) n fun c => { c with pc := .r e }))
        | _ => none
    | .resp r =>
      match s.cores[r]? with
      | none => none
      | some q =>
        match q.pc with
        | .w2 _ => some (toP2 (tail (markBroken s)) r)
        | _ => none
    | w =>
      match getNotif s w with
      | none => none
      | some nf =>
        match nf.pc with
        | .w2 e => some (tail (setNotif (markBroken s) w fun nf => { nf with pc := .n2 (some e) }))
        | _ => none

/-- One label: the atomic section, then every goroutine that was blocked on a channel and can now
continue runs to its next park point. -/
def step (s : St) (l : Label) : Option St := (step0 s l).map settle

def run (s : St) : List Label → Option St
  | [] => some s
  | l :: ls => match step s l with
    | none => none
    | some s' => run s' ls

end Conn
