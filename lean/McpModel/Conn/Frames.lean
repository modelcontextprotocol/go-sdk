import McpModel.Conn.Model
import McpModel.Base.Logic
/-! Which part of the state each helper of the model touches.  Per helper one footprint equation (`tail_eq`,
`beginPR_eq`, `retireIn_footprint`, …): the helper is the state with the written fields replaced, so a projection that
reads none of them is unchanged by `rw [·_eq]`.  The one-line `@[simp]` lemmas per helper and field are read off these;
few are ever named — a bare `simp` in the files above rewrites with them.  Also here, because the rules of `Step0` are
stated with them: `retireReg`, `spawnCancel`, and at the end the flag view `FV` with `FV.tail`. -/
namespace Conn

/-- `ac.retire` together with the removal from `outgoingCalls`, if call `n` is still in the table
(Retire and the reader's RR both do this under the lock). -/
def retireReg (s : St) (n : Nat) (r : Res) : St :=
  if s.outCalls.contains n then retireIn { s with outCalls := s.outCalls.erase n } n r else s

/-- `call()` on the cancelled path spawns the detached `notifications/cancelled` for call `n`. -/
def spawnCancel (s : St) (n : Nat) : St := { s with cnotifs := s.cnotifs ++ [{ cancelFor := some n }] }


structure CallView where
  calls : List Call
  outCalls : List Nat
  respLog : List (Nat × Nat)
  panicRetire : Bool

def callView (s : St) : CallView :=
  { calls := s.calls, outCalls := s.outCalls, respLog := s.respLog, panicRetire := s.panicRetire }

/-- The in-flight flags and counters that only `tail` and a few critical sections touch. -/
structure FlagView where
  closing : Bool
  reading : Bool
  readErr : Bool
  writeErr : Bool
  closerUsed : Bool
  done : Bool
  transportCloses : Nat
  onDone : Nat
  panicIdle : Bool

def flagView (s : St) : FlagView :=
  { closing := s.closing, reading := s.reading, readErr := s.readErr, writeErr := s.writeErr,
    closerUsed := s.closerUsed, done := s.done, transportCloses := s.transportCloses, onDone := s.onDone,
    panicIdle := s.panicIdle }

theorem tail_eq (s : St) : tail s =
    { s with closerUsed := (tail s).closerUsed, transportCloses := (tail s).transportCloses,
             onDone := (tail s).onDone, done := (tail s).done, panicIdle := (tail s).panicIdle } := by
  unfold tail finish closeTransport; repeat' split
  all_goals rfl

@[simp] theorem callView_tail (s : St) : callView (tail s) = callView s := by rw [tail_eq]; rfl

theorem settleWaiters_eq (s : St) : settleWaiters s =
    { s with closeWt := (settleWaiters s).closeWt, closeWaiting := (settleWaiters s).closeWaiting,
             waitWt := (settleWaiters s).waitWt, waitWaiting := (settleWaiters s).waitWaiting } := by
  unfold settleWaiters; split <;> rfl

theorem settleDisp_eq (s : St) : settleDisp s = { s with disp := (settleDisp s).disp } := by
  unfold settleDisp; repeat' split
  all_goals rfl

theorem foldl_cancel_footprint (l : List (Nat × Nat)) (c : Cause) (s : St) :
    l.foldl (fun s p => cancelReq s p.2 c) s = { s with metas := (l.foldl (fun s p => cancelReq s p.2 c) s).metas } := by
  induction l generalizing s with
  | nil => rfl
  | cons p t ih => show t.foldl _ (cancelReq s p.2 c) = _; rw [ih]; rfl

theorem markBroken_eq (s : St) :
    markBroken s = { s with writeErr := (markBroken s).writeErr, metas := (markBroken s).metas } := by
  unfold markBroken; split
  · rfl
  · rw [foldl_cancel_footprint]

@[simp] theorem callView_modCore (s : St) (r : Nat) (f : ReqCore → ReqCore) : callView (modCore s r f) = callView s := rfl
@[simp] theorem callView_modMeta (s : St) (r : Nat) (f : ReqMeta → ReqMeta) : callView (modMeta s r f) = callView s := rfl
@[simp] theorem callView_cancelReq (s : St) (r : Nat) (c : Cause) : callView (cancelReq s r c) = callView s := rfl
@[simp] theorem callView_toP2 (s : St) (r : Nat) : callView (toP2 s r) = callView s := rfl

theorem beginPR_eq (s : St) (r : Nat) (o : Owner) :
    beginPR s r o = { s with cores := (beginPR s r o).cores, metas := (beginPR s r o).metas } := by
  unfold beginPR; split
  · rfl
  · split <;> rfl

@[simp] theorem callView_beginPR (s : St) (r : Nat) (o : Owner) : callView (beginPR s r o) = callView s := by
  rw [beginPR_eq]; rfl

@[simp] theorem callView_afterP2 (s : St) (r : Nat) (o : Owner) : callView (afterP2 s r o) = callView s := by
  cases o <;> rfl

theorem callView_foldl_cancel (l : List (Nat × Nat)) (c : Cause) (s : St) :
    callView (l.foldl (fun s p => cancelReq s p.2 c) s) = callView s :=
  List.foldl_fixes callView (fun s p => callView_cancelReq s p.2 c) l s

@[simp] theorem callView_markBroken (s : St) : callView (markBroken s) = callView s := by
  rw [markBroken_eq]; rfl

@[simp] theorem callView_setNotif (s : St) (w : Who) (f : Notif → Notif) :
    callView (setNotif s w f) = callView s := by
  cases w <;> rfl

@[simp] theorem callView_settleWaiters (s : St) : callView (settleWaiters s) = callView s := by
  rw [settleWaiters_eq]; rfl

@[simp] theorem callView_settleDisp (s : St) : callView (settleDisp s) = callView s := by
  rw [settleDisp_eq]; rfl

@[simp] theorem tail_calls (s : St) : (tail s).calls = s.calls :=
  congrArg CallView.calls (callView_tail s)

@[simp] theorem tail_outCalls (s : St) : (tail s).outCalls = s.outCalls :=
  congrArg CallView.outCalls (callView_tail s)

@[simp] theorem tail_respLog (s : St) : (tail s).respLog = s.respLog :=
  congrArg CallView.respLog (callView_tail s)

@[simp] theorem tail_panicRetire (s : St) : (tail s).panicRetire = s.panicRetire :=
  congrArg CallView.panicRetire (callView_tail s)

@[simp] theorem modCore_calls (s : St) (r : Nat) (f : ReqCore → ReqCore) : (modCore s r f).calls = s.calls :=
  congrArg CallView.calls (callView_modCore s r f)

@[simp] theorem modCore_outCalls (s : St) (r : Nat) (f : ReqCore → ReqCore) : (modCore s r f).outCalls = s.outCalls :=
  congrArg CallView.outCalls (callView_modCore s r f)

@[simp] theorem modCore_respLog (s : St) (r : Nat) (f : ReqCore → ReqCore) : (modCore s r f).respLog = s.respLog :=
  congrArg CallView.respLog (callView_modCore s r f)

@[simp] theorem modCore_panicRetire (s : St) (r : Nat) (f : ReqCore → ReqCore) : (modCore s r f).panicRetire = s.panicRetire :=
  congrArg CallView.panicRetire (callView_modCore s r f)

@[simp] theorem modMeta_calls (s : St) (r : Nat) (f : ReqMeta → ReqMeta) : (modMeta s r f).calls = s.calls :=
  congrArg CallView.calls (callView_modMeta s r f)

@[simp] theorem modMeta_outCalls (s : St) (r : Nat) (f : ReqMeta → ReqMeta) : (modMeta s r f).outCalls = s.outCalls :=
  congrArg CallView.outCalls (callView_modMeta s r f)

@[simp] theorem modMeta_respLog (s : St) (r : Nat) (f : ReqMeta → ReqMeta) : (modMeta s r f).respLog = s.respLog :=
  congrArg CallView.respLog (callView_modMeta s r f)

@[simp] theorem modMeta_panicRetire (s : St) (r : Nat) (f : ReqMeta → ReqMeta) : (modMeta s r f).panicRetire = s.panicRetire :=
  congrArg CallView.panicRetire (callView_modMeta s r f)

@[simp] theorem cancelReq_calls (s : St) (r : Nat) (c : Cause) : (cancelReq s r c).calls = s.calls :=
  congrArg CallView.calls (callView_cancelReq s r c)

@[simp] theorem cancelReq_outCalls (s : St) (r : Nat) (c : Cause) : (cancelReq s r c).outCalls = s.outCalls :=
  congrArg CallView.outCalls (callView_cancelReq s r c)

@[simp] theorem cancelReq_respLog (s : St) (r : Nat) (c : Cause) : (cancelReq s r c).respLog = s.respLog :=
  congrArg CallView.respLog (callView_cancelReq s r c)

@[simp] theorem cancelReq_panicRetire (s : St) (r : Nat) (c : Cause) : (cancelReq s r c).panicRetire = s.panicRetire :=
  congrArg CallView.panicRetire (callView_cancelReq s r c)

@[simp] theorem toP2_calls (s : St) (r : Nat) : (toP2 s r).calls = s.calls :=
  congrArg CallView.calls (callView_toP2 s r)

@[simp] theorem toP2_outCalls (s : St) (r : Nat) : (toP2 s r).outCalls = s.outCalls :=
  congrArg CallView.outCalls (callView_toP2 s r)

@[simp] theorem toP2_respLog (s : St) (r : Nat) : (toP2 s r).respLog = s.respLog :=
  congrArg CallView.respLog (callView_toP2 s r)

@[simp] theorem toP2_panicRetire (s : St) (r : Nat) : (toP2 s r).panicRetire = s.panicRetire :=
  congrArg CallView.panicRetire (callView_toP2 s r)

@[simp] theorem beginPR_calls (s : St) (r : Nat) (o : Owner) : (beginPR s r o).calls = s.calls :=
  congrArg CallView.calls (callView_beginPR s r o)

@[simp] theorem beginPR_outCalls (s : St) (r : Nat) (o : Owner) : (beginPR s r o).outCalls = s.outCalls :=
  congrArg CallView.outCalls (callView_beginPR s r o)

@[simp] theorem beginPR_respLog (s : St) (r : Nat) (o : Owner) : (beginPR s r o).respLog = s.respLog :=
  congrArg CallView.respLog (callView_beginPR s r o)

@[simp] theorem beginPR_panicRetire (s : St) (r : Nat) (o : Owner) : (beginPR s r o).panicRetire = s.panicRetire :=
  congrArg CallView.panicRetire (callView_beginPR s r o)

@[simp] theorem afterP2_calls (s : St) (r : Nat) (o : Owner) : (afterP2 s r o).calls = s.calls :=
  congrArg CallView.calls (callView_afterP2 s r o)

@[simp] theorem afterP2_outCalls (s : St) (r : Nat) (o : Owner) : (afterP2 s r o).outCalls = s.outCalls :=
  congrArg CallView.outCalls (callView_afterP2 s r o)

@[simp] theorem afterP2_respLog (s : St) (r : Nat) (o : Owner) : (afterP2 s r o).respLog = s.respLog :=
  congrArg CallView.respLog (callView_afterP2 s r o)

@[simp] theorem afterP2_panicRetire (s : St) (r : Nat) (o : Owner) : (afterP2 s r o).panicRetire = s.panicRetire :=
  congrArg CallView.panicRetire (callView_afterP2 s r o)

@[simp] theorem markBroken_calls (s : St) : (markBroken s).calls = s.calls :=
  congrArg CallView.calls (callView_markBroken s)

@[simp] theorem markBroken_outCalls (s : St) : (markBroken s).outCalls = s.outCalls :=
  congrArg CallView.outCalls (callView_markBroken s)

@[simp] theorem markBroken_respLog (s : St) : (markBroken s).respLog = s.respLog :=
  congrArg CallView.respLog (callView_markBroken s)

@[simp] theorem markBroken_panicRetire (s : St) : (markBroken s).panicRetire = s.panicRetire :=
  congrArg CallView.panicRetire (callView_markBroken s)

@[simp] theorem setNotif_calls (s : St) (w : Who) (f : Notif → Notif) : (setNotif s w f).calls = s.calls :=
  congrArg CallView.calls (callView_setNotif s w f)

@[simp] theorem setNotif_outCalls (s : St) (w : Who) (f : Notif → Notif) : (setNotif s w f).outCalls = s.outCalls :=
  congrArg CallView.outCalls (callView_setNotif s w f)

@[simp] theorem setNotif_respLog (s : St) (w : Who) (f : Notif → Notif) : (setNotif s w f).respLog = s.respLog :=
  congrArg CallView.respLog (callView_setNotif s w f)

@[simp] theorem setNotif_panicRetire (s : St) (w : Who) (f : Notif → Notif) : (setNotif s w f).panicRetire = s.panicRetire :=
  congrArg CallView.panicRetire (callView_setNotif s w f)


@[simp] theorem modMeta_cores (s : St) (r : Nat) (f : ReqMeta → ReqMeta) : (modMeta s r f).cores = s.cores := rfl
@[simp] theorem modMeta_incoming (s : St) (r : Nat) (f : ReqMeta → ReqMeta) : (modMeta s r f).incoming = s.incoming := rfl
@[simp] theorem modMeta_byID (s : St) (r : Nat) (f : ReqMeta → ReqMeta) : (modMeta s r f).byID = s.byID := rfl
@[simp] theorem modMeta_panicIncoming (s : St) (r : Nat) (f : ReqMeta → ReqMeta) : (modMeta s r f).panicIncoming = s.panicIncoming := rfl
@[simp] theorem modMeta_reader (s : St) (r : Nat) (f : ReqMeta → ReqMeta) : (modMeta s r f).reader = s.reader := rfl
@[simp] theorem modMeta_queue (s : St) (r : Nat) (f : ReqMeta → ReqMeta) : (modMeta s r f).queue = s.queue := rfl
@[simp] theorem cancelReq_cores (s : St) (r : Nat) (c : Cause) : (cancelReq s r c).cores = s.cores := rfl
@[simp] theorem cancelReq_incoming (s : St) (r : Nat) (c : Cause) : (cancelReq s r c).incoming = s.incoming := rfl
@[simp] theorem cancelReq_byID (s : St) (r : Nat) (c : Cause) : (cancelReq s r c).byID = s.byID := rfl
@[simp] theorem cancelReq_panicIncoming (s : St) (r : Nat) (c : Cause) : (cancelReq s r c).panicIncoming = s.panicIncoming := rfl
@[simp] theorem cancelReq_reader (s : St) (r : Nat) (c : Cause) : (cancelReq s r c).reader = s.reader := rfl
@[simp] theorem cancelReq_queue (s : St) (r : Nat) (c : Cause) : (cancelReq s r c).queue = s.queue := rfl
@[simp] theorem markBroken_cores (s : St) : (markBroken s).cores = s.cores := by rw [markBroken_eq]
@[simp] theorem markBroken_byID (s : St) : (markBroken s).byID = s.byID := by rw [markBroken_eq]

@[simp] theorem tail_closing (s : St) : (tail s).closing = s.closing := by rw [tail_eq]

@[simp] theorem tail_cores (s : St) : (tail s).cores = s.cores := by rw [tail_eq]

@[simp] theorem tail_metas (s : St) : (tail s).metas = s.metas := by rw [tail_eq]

@[simp] theorem tail_incoming (s : St) : (tail s).incoming = s.incoming := by rw [tail_eq]

@[simp] theorem tail_byID (s : St) : (tail s).byID = s.byID := by rw [tail_eq]

@[simp] theorem tail_panicIncoming (s : St) : (tail s).panicIncoming = s.panicIncoming := by rw [tail_eq]

@[simp] theorem tail_reader (s : St) : (tail s).reader = s.reader := by rw [tail_eq]

@[simp] theorem tail_queue (s : St) : (tail s).queue = s.queue := by rw [tail_eq]

@[simp] theorem tail_disp (s : St) : (tail s).disp = s.disp := by rw [tail_eq]

@[simp] theorem tail_handlerRunning (s : St) : (tail s).handlerRunning = s.handlerRunning := by rw [tail_eq]

@[simp] theorem tail_cancels (s : St) : (tail s).cancels = s.cancels := by rw [tail_eq]

@[simp] theorem tail_cnotifs (s : St) : (tail s).cnotifs = s.cnotifs := by rw [tail_eq]

@[simp] theorem tail_clock (s : St) : (tail s).clock = s.clock := by rw [tail_eq]

@[simp] theorem modCall_cores (s : St) (n : Nat) (f : Call → Call) : (modCall s n f).cores = s.cores := by
  rfl

@[simp] theorem modCall_metas (s : St) (n : Nat) (f : Call → Call) : (modCall s n f).metas = s.metas := by
  rfl

@[simp] theorem modCall_incoming (s : St) (n : Nat) (f : Call → Call) : (modCall s n f).incoming = s.incoming := by
  rfl

@[simp] theorem modCall_byID (s : St) (n : Nat) (f : Call → Call) : (modCall s n f).byID = s.byID := by
  rfl

@[simp] theorem modCall_panicIncoming (s : St) (n : Nat) (f : Call → Call) : (modCall s n f).panicIncoming = s.panicIncoming := by
  rfl

@[simp] theorem modCall_reader (s : St) (n : Nat) (f : Call → Call) : (modCall s n f).reader = s.reader := by
  rfl

@[simp] theorem modCall_queue (s : St) (n : Nat) (f : Call → Call) : (modCall s n f).queue = s.queue := by
  rfl

@[simp] theorem modCall_disp (s : St) (n : Nat) (f : Call → Call) : (modCall s n f).disp = s.disp := by
  rfl

@[simp] theorem modCall_handlerRunning (s : St) (n : Nat) (f : Call → Call) : (modCall s n f).handlerRunning = s.handlerRunning := by
  rfl

@[simp] theorem modCall_cancels (s : St) (n : Nat) (f : Call → Call) : (modCall s n f).cancels = s.cancels := by
  rfl

@[simp] theorem modCall_clock (s : St) (n : Nat) (f : Call → Call) : (modCall s n f).clock = s.clock := by
  rfl

@[simp] theorem setNotif_cores (s : St) (w : Who) (f : Notif → Notif) : (setNotif s w f).cores = s.cores := by
  cases w <;> rfl

@[simp] theorem setNotif_metas (s : St) (w : Who) (f : Notif → Notif) : (setNotif s w f).metas = s.metas := by
  cases w <;> rfl

@[simp] theorem setNotif_incoming (s : St) (w : Who) (f : Notif → Notif) : (setNotif s w f).incoming = s.incoming := by
  cases w <;> rfl

@[simp] theorem setNotif_byID (s : St) (w : Who) (f : Notif → Notif) : (setNotif s w f).byID = s.byID := by
  cases w <;> rfl

@[simp] theorem setNotif_panicIncoming (s : St) (w : Who) (f : Notif → Notif) : (setNotif s w f).panicIncoming = s.panicIncoming := by
  cases w <;> rfl

@[simp] theorem setNotif_reader (s : St) (w : Who) (f : Notif → Notif) : (setNotif s w f).reader = s.reader := by
  cases w <;> rfl

@[simp] theorem setNotif_queue (s : St) (w : Who) (f : Notif → Notif) : (setNotif s w f).queue = s.queue := by
  cases w <;> rfl

@[simp] theorem setNotif_disp (s : St) (w : Who) (f : Notif → Notif) : (setNotif s w f).disp = s.disp := by
  cases w <;> rfl

@[simp] theorem setNotif_handlerRunning (s : St) (w : Who) (f : Notif → Notif) : (setNotif s w f).handlerRunning = s.handlerRunning := by
  cases w <;> rfl

@[simp] theorem setNotif_cancels (s : St) (w : Who) (f : Notif → Notif) : (setNotif s w f).cancels = s.cancels := by
  cases w <;> rfl

@[simp] theorem setNotif_clock (s : St) (w : Who) (f : Notif → Notif) : (setNotif s w f).clock = s.clock := by
  cases w <;> rfl

theorem retireIn_footprint (s : St) (n : Nat) (r : Res) :
    retireIn s n r = { s with calls := (retireIn s n r).calls, panicRetire := (retireIn s n r).panicRetire } := by
  unfold retireIn; repeat' split
  all_goals rfl

theorem retireReg_eq (s : St) (n : Nat) (r : Res) :
    retireReg s n r = { s with calls := (retireReg s n r).calls, outCalls := (retireReg s n r).outCalls,
                               panicRetire := (retireReg s n r).panicRetire } := by
  unfold retireReg; split
  · rw [retireIn_footprint]
  · rfl

@[simp] theorem callView_spawnCancel (s : St) (n : Nat) : callView (spawnCancel s n) = callView s := rfl

@[simp] theorem retireIn_cores (s : St) (n : Nat) (r : Res) : (retireIn s n r).cores = s.cores := by rw [retireIn_footprint]

@[simp] theorem retireIn_metas (s : St) (n : Nat) (r : Res) : (retireIn s n r).metas = s.metas := by rw [retireIn_footprint]

@[simp] theorem retireIn_incoming (s : St) (n : Nat) (r : Res) : (retireIn s n r).incoming = s.incoming := by rw [retireIn_footprint]

@[simp] theorem retireIn_byID (s : St) (n : Nat) (r : Res) : (retireIn s n r).byID = s.byID := by rw [retireIn_footprint]

@[simp] theorem retireIn_panicIncoming (s : St) (n : Nat) (r : Res) : (retireIn s n r).panicIncoming = s.panicIncoming := by rw [retireIn_footprint]

@[simp] theorem retireIn_reader (s : St) (n : Nat) (r : Res) : (retireIn s n r).reader = s.reader := by rw [retireIn_footprint]

@[simp] theorem retireIn_queue (s : St) (n : Nat) (r : Res) : (retireIn s n r).queue = s.queue := by rw [retireIn_footprint]

@[simp] theorem retireIn_disp (s : St) (n : Nat) (r : Res) : (retireIn s n r).disp = s.disp := by rw [retireIn_footprint]

@[simp] theorem retireIn_handlerRunning (s : St) (n : Nat) (r : Res) : (retireIn s n r).handlerRunning = s.handlerRunning := by rw [retireIn_footprint]

@[simp] theorem retireIn_cancels (s : St) (n : Nat) (r : Res) : (retireIn s n r).cancels = s.cancels := by rw [retireIn_footprint]

@[simp] theorem retireIn_clock (s : St) (n : Nat) (r : Res) : (retireIn s n r).clock = s.clock := by rw [retireIn_footprint]

@[simp] theorem settleCalls_cores (s : St) : (settleCalls s).cores = s.cores := by
  rfl

@[simp] theorem settleCalls_metas (s : St) : (settleCalls s).metas = s.metas := by
  rfl

@[simp] theorem settleCalls_incoming (s : St) : (settleCalls s).incoming = s.incoming := by
  rfl

@[simp] theorem settleCalls_byID (s : St) : (settleCalls s).byID = s.byID := by
  rfl

@[simp] theorem settleCalls_panicIncoming (s : St) : (settleCalls s).panicIncoming = s.panicIncoming := by
  rfl

@[simp] theorem settleCalls_reader (s : St) : (settleCalls s).reader = s.reader := by
  rfl

@[simp] theorem settleCalls_queue (s : St) : (settleCalls s).queue = s.queue := by
  rfl

@[simp] theorem settleCalls_disp (s : St) : (settleCalls s).disp = s.disp := by
  rfl

@[simp] theorem settleCalls_handlerRunning (s : St) : (settleCalls s).handlerRunning = s.handlerRunning := by
  rfl

@[simp] theorem settleCalls_cancels (s : St) : (settleCalls s).cancels = s.cancels := by
  rfl

@[simp] theorem settleCalls_clock (s : St) : (settleCalls s).clock = s.clock := by
  rfl

@[simp] theorem settleWaiters_cores (s : St) : (settleWaiters s).cores = s.cores := by rw [settleWaiters_eq]

@[simp] theorem settleWaiters_metas (s : St) : (settleWaiters s).metas = s.metas := by rw [settleWaiters_eq]

@[simp] theorem settleWaiters_incoming (s : St) : (settleWaiters s).incoming = s.incoming := by rw [settleWaiters_eq]

@[simp] theorem settleWaiters_byID (s : St) : (settleWaiters s).byID = s.byID := by rw [settleWaiters_eq]

@[simp] theorem settleWaiters_panicIncoming (s : St) : (settleWaiters s).panicIncoming = s.panicIncoming := by rw [settleWaiters_eq]

@[simp] theorem settleWaiters_reader (s : St) : (settleWaiters s).reader = s.reader := by rw [settleWaiters_eq]

@[simp] theorem settleWaiters_queue (s : St) : (settleWaiters s).queue = s.queue := by rw [settleWaiters_eq]

@[simp] theorem settleWaiters_disp (s : St) : (settleWaiters s).disp = s.disp := by rw [settleWaiters_eq]

@[simp] theorem settleWaiters_handlerRunning (s : St) : (settleWaiters s).handlerRunning = s.handlerRunning := by rw [settleWaiters_eq]

@[simp] theorem settleWaiters_cancels (s : St) : (settleWaiters s).cancels = s.cancels := by rw [settleWaiters_eq]

@[simp] theorem settleWaiters_clock (s : St) : (settleWaiters s).clock = s.clock := by rw [settleWaiters_eq]

@[simp] theorem settleDisp_metas (s : St) : (settleDisp s).metas = s.metas := by rw [settleDisp_eq]
@[simp] theorem settle_metas (s : St) : (settle s).metas = s.metas := by simp [settle]
theorem callView_settle (s : St) : callView (settle s) = callView (settleCalls s) := by simp [settle]

structure FV where
  closing : Bool
  reading : Bool
  readErr : Bool
  writeErr : Bool
  closerUsed : Bool
  done : Bool
  transportCloses : Nat
  onDone : Nat
  panicIdle : Bool
  outCalls : List Nat
  outNotifs : Nat
  incoming : Nat
  handlerRunning : Bool
  reader : ReaderPc

def fview (s : St) : FV :=
  { closing := s.closing, reading := s.reading, readErr := s.readErr, writeErr := s.writeErr, closerUsed := s.closerUsed,
    done := s.done, transportCloses := s.transportCloses, onDone := s.onDone, panicIdle := s.panicIdle,
    outCalls := s.outCalls, outNotifs := s.outNotifs, incoming := s.incoming, handlerRunning := s.handlerRunning,
    reader := s.reader }

def FV.idle (v : FV) : Bool := v.outCalls.isEmpty && v.outNotifs == 0 && v.incoming == 0 && !v.handlerRunning
def FV.shuttingDown (v : FV) : Bool := v.closing || v.readErr || v.writeErr

def FV.tail (v : FV) : FV :=
  if v.done then
    if v.idle then v else { v with panicIdle := true }
  else if v.idle && v.shuttingDown then
    let v := if v.closerUsed then v else { v with closerUsed := true, transportCloses := v.transportCloses + 1 }
    if v.reading then v else { v with onDone := v.onDone + 1, done := true }
  else v

@[simp] theorem fview_tail (s : St) : fview (tail s) = (fview s).tail := by
  have hi : (fview s).idle = s.idle := rfl
  have hs : (fview s).shuttingDown = s.shuttingDown := rfl
  unfold tail FV.tail finish closeTransport
  rw [hi, hs]
  cases hd : s.done <;> cases hcu : s.closerUsed <;> cases hrd : s.reading <;>
    cases hidle : s.idle <;> cases hsd : s.shuttingDown <;>
    simp [fview, hd, hcu, hrd]

theorem FV.tail_eq (v : FV) : v.tail =
    { v with closerUsed := v.tail.closerUsed, transportCloses := v.tail.transportCloses, onDone := v.tail.onDone,
             done := v.tail.done, panicIdle := v.tail.panicIdle } := by
  unfold FV.tail
  split
  · split <;> rfl
  · split
    · dsimp only; split <;> split <;> rfl
    · rfl

theorem FV.tail_done {v : FV} (h : v.done = true) : v.tail.done = true := by
  unfold FV.tail; simp only [h, if_true]; split <;> simp [h]

theorem FV.tail_idle (v : FV) : v.tail.idle = v.idle := by rw [FV.tail_eq]; rfl

theorem FV.tail_closes {v : FV} (h : v.tail.transportCloses ≠ v.transportCloses) : v.tail.idle = true := by
  rw [FV.tail_idle]
  cases hi : v.idle with
  | true => rfl
  | false =>
    -- a connection that is not idle is at most marked as panicked
    refine absurd ?_ h
    unfold FV.tail
    rw [hi, Bool.false_and]
    split <;> rfl

@[simp] theorem fview_spawnCancel (s : St) (n : Nat) : fview (spawnCancel s n) = fview s := rfl

/-- What `tail` does is a function of the flag view alone (Step.lean moves updates of other fields across `tail` with it). -/
theorem tail_congr {X s : St} (h : fview X = fview s) :
    tail X = { X with closerUsed := (tail s).closerUsed, transportCloses := (tail s).transportCloses,
                      onDone := (tail s).onDone, done := (tail s).done, panicIdle := (tail s).panicIdle } := by
  have e : fview (tail X) = fview (tail s) := by rw [fview_tail, fview_tail, h]
  rw [tail_eq X]
  exact congrArg (fun v : FV =>
    { X with closerUsed := v.closerUsed, transportCloses := v.transportCloses,
             onDone := v.onDone, done := v.done, panicIdle := v.panicIdle }) e

end Conn
