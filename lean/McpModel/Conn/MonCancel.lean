import McpModel.Conn.MonRelDefs
import McpModel.Conn.MonBook
import McpModel.Conn.Progress
/-!
The cancellation part of `MonRel` (`MonCancel`): the monitor books the ids named by `read cancel`
labels and lets every `K1` consume one; in the model every `Cancel(id)` goroutine stems from the A1 of
a cancel notification read earlier, so the monitor never sees an unasked Cancel.

The model's side is one quantity of the request machinery, `QV.asks v id`, and one fact about its moves (`QStep.asks`).
-/
namespace Conn

/-- `pendCancel` (MonRelDefs.lean) on the rows of a view. -/
def pendOf (cores : List ReqCore) (metas : List ReqMeta) : Option Nat :=
  match cores.getLast?, metas.getLast? with
  | some k, some mt => if k.pc = .a1 then mt.cancelTarget else none
  | _, _ => none

/-- How many `Cancel(id)` are under way: goroutines parked before K1, and the cancel notification read but still
before its A1. -/
def QV.asks (v : QV) (id : Nat) : Nat := v.cancels.count id + if pendOf v.cores v.metas = some id then 1 else 0

theorem getLast?_modify {α} (l : List α) (r : Nat) (g : α → α) :
    (l.modify r g).getLast? = l.getLast?.map fun a => if r + 1 = l.length then g a else a := by
  rw [List.getLast?_eq_getElem?, List.getLast?_eq_getElem?, List.length_modify, List.getElem?_modify]
  cases h : l[l.length - 1]? with
  | none => rfl
  | some a =>
    have : l.length - 1 < l.length := (List.getElem?_eq_some_iff.mp h).1
    by_cases hr : r = l.length - 1
    · simp [hr, show l.length - 1 + 1 = l.length by omega]
    · simp [hr, show ¬ r + 1 = l.length by omega]

/-- Rewriting a row puts nothing new before A1: no `g` of the model moves a request (back) to A1, no `f` touches the target. -/
theorem pendOf_modify {cores : List ReqCore} {metas : List ReqMeta} {r : Nat} {g : ReqCore → ReqCore} {f : ReqMeta → ReqMeta}
    (hg : ∀ k, (g k).pc = .a1 → k.pc = .a1) (hf : ∀ m, (f m).cancelTarget = m.cancelTarget) {id : Nat}
    (h : pendOf (cores.modify r g) (metas.modify r f) = some id) : pendOf cores metas = some id := by
  unfold pendOf at h ⊢
  rw [getLast?_modify, getLast?_modify] at h
  cases hc : cores.getLast? with
  | none => simp [hc] at h
  | some k =>
    cases hm : metas.getLast? with
    | none => simp [hc, hm] at h
    | some mt =>
      simp only [hc, hm, Option.map_some] at h ⊢
      have e1 : (if r + 1 = cores.length then g k else k).pc = .a1 → k.pc = .a1 := by
        split
        · exact hg k
        · exact fun h => h
      have e2 : (if r + 1 = metas.length then f mt else mt).cancelTarget = mt.cancelTarget := by
        split
        · exact hf mt
        · rfl
      by_cases hp : (if r + 1 = cores.length then g k else k).pc = .a1
      · rw [if_pos hp, e2] at h
        rw [if_pos (e1 hp)]; exact h
      · rw [if_neg hp] at h; cases h

/-- Nothing enters the cancellation pipeline: the goroutines before K1 are the same, and a cancel notification
before its A1 was there before. -/
def QV.NoAsk (v v' : QV) : Prop :=
  v'.cancels = v.cancels ∧ ∀ id, pendOf v'.cores v'.metas = some id → pendOf v.cores v.metas = some id

theorem QV.asks_mono {v v' : QV} {x c : Nat}
    (hp : pendOf v'.cores v'.metas = some x → pendOf v.cores v.metas = some x)
    (hc : v'.cancels.count x + c ≤ v.cancels.count x) : v'.asks x + c ≤ v.asks x := by
  unfold QV.asks
  by_cases h : pendOf v'.cores v'.metas = some x
  · rw [if_pos h, if_pos (hp h)]; omega
  · rw [if_neg h]; omega

theorem QV.NoAsk.asks {v v' : QV} (h : v.NoAsk v') (x : Nat) : v'.asks x ≤ v.asks x :=
  QV.asks_mono (c := 0) (h.2 x) (by rw [h.1]; exact Nat.le_refl _)

theorem QV.NoAsk.trans {v v' v'' : QV} (h : v.NoAsk v') (h' : v'.NoAsk v'') : v.NoAsk v'' :=
  ⟨h'.1.trans h.1, fun id hp => h.2 id (h'.2 id hp)⟩

theorem QV.NoAsk.of_eq {v v' : QV} (h1 : v'.cancels = v.cancels) (h2 : v'.cores = v.cores) (h3 : v'.metas = v.metas) :
    v.NoAsk v' :=
  ⟨h1, fun id hp => by rw [← h2, ← h3]; exact hp⟩

theorem QV.NoAsk.row {v X : QV} (r : Nat) {g : ReqCore → ReqCore} {f : ReqMeta → ReqMeta}
    (hg : ∀ k, (g k).pc = .a1 → k.pc = .a1) (hf : ∀ m, (f m).cancelTarget = m.cancelTarget)
    (h1 : X.cancels = v.cancels := by rfl) (h2 : X.cores = v.cores := by rfl) (h3 : X.metas = v.metas := by rfl) :
    v.NoAsk (X.row r g f) :=
  ⟨h1, fun _ hp => by rw [← h2, ← h3]; exact pendOf_modify hg hf hp⟩

theorem ReqMeta.cancel_target (c : Cause) (q : ReqMeta) : (q.cancel c).cancelTarget = q.cancelTarget := by
  unfold ReqMeta.cancel; split <;> rfl

theorem QV.NoAsk.cancelAll (v : QV) (c : Cause) : v.NoAsk (v.cancelAll c) := by
  unfold QV.cancelAll
  generalize v.byID = l
  induction l generalizing v with
  | nil => exact .of_eq rfl rfl rfl
  | cons p t ih => exact (QV.NoAsk.row p.2 (fun _ h => h) (ReqMeta.cancel_target c)).trans (ih _)

theorem QV.NoAsk.markBroken (v : QV) (we : Bool) : v.NoAsk (v.markBroken we) := by
  unfold QV.markBroken; split
  · exact .of_eq rfl rfl rfl
  · exact .cancelAll v _

theorem QV.NoAsk.afterP2 (v : QV) (r : Nat) (o : Owner) : v.NoAsk (v.afterP2 r o) := by
  cases o
  · exact .of_eq rfl rfl rfl
  · exact .of_eq rfl rfl rfl
  · exact .row r (fun _ h => h) fun _ => rfl

theorem count_erase_add {l : List Nat} {a : Nat} (h : a ∈ l) (x : Nat) :
    (l.erase a).count x + (if a = x then 1 else 0) ≤ l.count x := by
  by_cases he : a = x
  · subst he
    have := List.count_pos_iff.mpr h
    rw [List.count_erase_self, if_pos rfl]; omega
  · rw [List.count_erase_of_ne (Ne.symm he), if_neg he]; omega

/-- The conclusion of `QStep.asks` for a move that puts nothing into the pipeline and is no K1. -/
theorem QV.NoAsk.step {v v' : QV} {l : Label} (hn : v.NoAsk v') (hk : ∀ x, evOf l ≠ .k1 x) (id : Nat) :
    v'.asks id + (if evOf l = .k1 id then 1 else 0) ≤ v.asks id + (if evOf l = .readCancel id then 1 else 0) ∧
    (evOf l = .k1 id → id ∈ v.cancels) := by
  rw [if_neg (hk id)]
  exact ⟨Nat.le_trans (hn.asks id) (Nat.le_add_right _ _), fun he => absurd he (hk id)⟩

/-- A move of the request machinery adds a `Cancel(x)` to the pipeline only by reading a cancel notification for
`x`, and a `K1 x` takes one out.  (A request is before its A1 only as the newest row.) -/
theorem QStep.asks {fl : FV} {v v' : QV} {l : Label} (h : QStep fl v l v') (hlen : v.metas.length = v.cores.length)
    (hlast : ∀ r k, v.cores[r]? = some k → k.pc = .a1 → r + 1 = v.cores.length) (x : Nat) :
    v'.asks x + (if evOf l = .k1 x then 1 else 0) ≤ v.asks x + (if evOf l = .readCancel x then 1 else 0) ∧
    (evOf l = .k1 x → x ∈ v.cancels) := by
  have pr : ∀ {b : Bool} {P : Prop}, (if b then ReqPc.p1 else .p2) = .a1 → P := by
    intro b P h; split at h <;> cases h
  have tg : ∀ (c : Bool) (m : ReqMeta), ((if c then id else ReqMeta.cancel .finished) m).cancelTarget = m.cancelTarget := by
    intro c m; split
    · rfl
    · exact ReqMeta.cancel_target _ _
  cases h with
  | same hl => exact QV.NoAsk.step (.of_eq rfl rfl rfl) (fun y he => by cases evOf_label he rfl; cases hl) x
  | reader hl =>
    refine QV.NoAsk.step (.of_eq rfl rfl rfl) (fun y he => ?_) x
    cases evOf_label he rfl
    rcases hl with hl | hl | ⟨m, hl, -⟩ <;> cases hl
  | @arrive m k mt hrd hm =>
    -- the new row is the newest, before its A1, with the target the message names
    have hp : pendOf (v.cores ++ [k]) (v.metas ++ [mt]) = mt.cancelTarget := by
      have : k.pc = .a1 := (RMsg.req_fresh hm).1.1
      simp [pendOf, this]
    unfold QV.asks
    simp only [hp]
    cases m <;> cases hm <;> simp [evOf]
  | @a1Cancel r q wid hq hpc hn ht =>
    -- the request at A1 is the newest row: its target leaves "pending" and joins the goroutines before K1
    have hr := hlast r q hq hpc
    have hq' : v.cores.getLast? = some q := by rw [List.getLast?_eq_getElem?, ← hr]; exact hq
    obtain ⟨mt, hmt, htg⟩ : ∃ mt, v.metas[r]? = some mt ∧ mt.cancelTarget = some wid := by
      cases hm : v.metas[r]? with
      | none => rw [hm] at ht; cases ht
      | some mt => exact ⟨mt, rfl, by rw [hm] at ht; exact ht⟩
    have hmt' : v.metas.getLast? = some mt := by rw [List.getLast?_eq_getElem?, hlen, ← hr]; exact hmt
    have h0 : pendOf v.cores v.metas = some wid := by simp [pendOf, hq', hmt', hpc, htg]
    have h1 : pendOf (v.cores.modify r fun k => { k with pc := .a2 }) (v.metas.modify r fun m => { m with seen := true }) = none := by
      simp [pendOf, getLast?_modify, hq', hmt', hr]
    refine ⟨?_, fun he => nomatch he⟩
    simp only [QV.asks, QV.row, h1, h0, List.count_append, List.count_singleton]
    by_cases he : wid = x <;> simp [he, evOf]
  | @k1Hit wid r hm hl =>
    have hmem : wid ∈ v.cancels := List.contains_iff_mem.mp hm
    refine ⟨?_, fun he => by cases he; exact hmem⟩
    simp only [show evOf (.k1 wid) = .k1 wid from rfl, Ev.k1.injEq, reduceCtorEq, if_false, Nat.add_zero]
    refine QV.asks_mono ?_ ?_
    · exact pendOf_modify (fun _ h => h) (ReqMeta.cancel_target _)
    · exact count_erase_add hmem x
  | @k1Miss wid hm hl =>
    have hmem : wid ∈ v.cancels := List.contains_iff_mem.mp hm
    refine ⟨?_, fun he => by cases he; exact hmem⟩
    simp only [show evOf (.k1 wid) = .k1 wid from rfl, Ev.k1.injEq, reduceCtorEq, if_false, Nat.add_zero]
    refine QV.asks_mono ?_ ?_
    · exact fun h => h
    · exact count_erase_add hmem x
  | rx => exact QV.NoAsk.step (.trans (.of_eq (v' := { v with reader := .gone }) rfl rfl rfl) (.cancelAll _ _)) (fun y he => by cases he) x
  | d1Empty => exact QV.NoAsk.step (.of_eq rfl rfl rfl) (fun y he => by cases he) x
  | w2CallNotif => exact QV.NoAsk.step (.markBroken _ _) (fun y he => by cases he) x
  | p2 =>
    refine QV.NoAsk.step (.trans (.row _ ?_ ?_) (.afterP2 _ _ _)) ?_ x
    · intro _ h; cases h
    · intro _; rfl
    · intro y he; cases he
  | w2Resp =>
    refine QV.NoAsk.step (.trans (.markBroken _ _) (.row _ ?_ (ReqMeta.cancel_target _))) ?_ x
    · intro _ h; cases h
    · intro y he; cases he
  | hasync | a1Call | a1Notif | a1Refused | enqueue | d1Start | p1 | p1Notif | w1Resp | wretRespBroken =>
    refine QV.NoAsk.step (.row _ ?_ ?_) ?_ x
    · intro _ h; first | exact h | cases h | exact pr h
    · intro _; rfl
    · intro y he; cases he
  | a1Dup | w1RespShut | wretRespOk | wretRespRejected =>
    refine QV.NoAsk.step (.row _ ?_ ?_) ?_ x
    · intro _ h; cases h
    · intro _; exact ReqMeta.cancel_target _ _
    · intro y he; cases he
  | hret | a2Refused | d1Cancelled =>
    refine QV.NoAsk.step (.row _ ?_ ?_) ?_ x
    · intro _ h; exact pr h
    · intro _; exact tg _ _
    · intro y he; cases he


theorem settle_cancels (s : St) : (settle s).cancels = s.cancels := by
  have : ∀ X : St, (settleDisp X).cancels = X.cancels := by
    intro X; unfold settleDisp; split
    · split
      · split <;> rfl
      · rfl
    · rfl
  simp [settle, this]

theorem asks_settle (s : St) (x : Nat) : (qv (settle s)).asks x = (qv s).asks x := by
  show List.count x (settle s).cancels + (if pendOf (settle s).cores (settle s).metas = some x then 1 else 0) = _
  rw [settle_metas, show (settle s).cores = s.cores from congrArg ReqView.cores (reqView_settle s), settle_cancels]
  rfl

theorem moncancel_step {m : Mon} {s s' : St} {l : Label} (C : MonCancel m s) (i : Inv4 s) (i' : Inv4 s')
    (h : step s l = some s') : MonCancel (m.bookCancel (evOf l)) s' := by
  obtain ⟨s0, h0, rfl⟩ := step_some.mp h
  have hlen : (qv s).metas.length = (qv s).cores.length := by simpa [dview, qv] using i.disp.lens
  have step := fun x => (QStep.of_step0 i.inv.reqs h0).asks hlen
    (fun r k hk hpc => by simpa [reqView, qv] using ((i.inv.reqs.ok r k hk).rdr (Or.inl hpc)).2) x
  have asked : ∀ x, (qv s).asks x ≤ m.cancelAsked.count x := C.asked
  have hmem : ∀ x, evOf l = .k1 x → 0 < m.cancelAsked.count x := fun x he =>
    Nat.lt_of_lt_of_le (List.count_pos_iff.mpr ((step x).2 he)) (Nat.le_trans (Nat.le_add_right _ _) (asked x))
  refine ⟨fun x => ?_, ?_⟩
  · show (qv (settle s0)).asks x ≤ _
    have h1 := (step x).1
    have h2 := asked x
    have h3 := hmem x
    rw [asks_settle, bookCancel_count]
    by_cases hk : evOf l = .k1 x
    · have := h3 hk
      simp only [hk, if_true, reduceCtorEq, if_false] at h1 ⊢
      omega
    · simp only [hk, if_false] at h1 ⊢
      omega
  · rcases bookCancel_unasked m (evOf l) with h0 | ⟨x, he, hn, _⟩
    · rw [h0]; exact C.un
    · exact absurd (List.count_pos_iff.mp (hmem x he)) hn

theorem pend_settle (s : St) : pendCancel (settle s) = pendCancel s := by
  show pendOf (settle s).cores (settle s).metas = pendOf s.cores s.metas
  rw [settle_metas, show (settle s).cores = s.cores from congrArg ReqView.cores (reqView_settle s)]

theorem moncancel_book {m : Mon} {s : St} (C : MonCancel m s) (p : Obs) (e : Ev) : MonCancel (m.book p e) s := by
  obtain ⟨h1, h2⟩ := book_cancel_fields m p e
  exact ⟨fun id => by rw [h1]; exact C.asked id, by rw [h2]; exact C.un⟩

theorem moncancel_mark {m : Mon} {s : St} (C : MonCancel m s) (o : Obs) : MonCancel { m.mark o with prev := o } s :=
  ⟨C.asked, C.un⟩

end Conn
