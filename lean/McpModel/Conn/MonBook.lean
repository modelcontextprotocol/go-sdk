import McpModel.Conn.Monitor
/-!
What the monitor's bookkeeping (`Mon.book`, `Mon.bookCancel`, `Mon.mark`) does, stated once.  Both the proof that the
monitor accepts the model and the history invariant behind clause soundness read `book` and `bookCancel` through these lemmas
only (`mark` rewrites `reqs` alone; its other fields pass by `rfl`).
-/
namespace Conn

/-- The label an event stands for, where the event determines it (a transport Write returning and `other` do not). -/
def Ev.label : Ev → Option Label
  | .ecall => some .ecall
  | .ecallbad => some .ecallbad
  | .ectx n => some (.ectx n)
  | .readResp id p => some (.read (.resp id p))
  | .readCall id => some (.read (.call id))
  | .readNotif => some (.read .notif)
  | .readCancel id => some (.read (.cancel id))
  | .rx => some .rx
  | .a1 r => some (.a1 r) | .a2 r => some (.a2 r) | .p1 r => some (.p1 r) | .p2 r => some (.p2 r)
  | .w1 r => some (.w1 (.resp r))
  | .hasync r => some (.hasync r)
  | .k1 id => some (.k1 id)
  | .wret _ _ | .other => none

theorem evOf_label {l l' : Label} {e : Ev} (h : evOf l = e) (he : Ev.label e = some l') : l = l' := by
  subst h
  cases l
  case read m => cases m <;> cases he <;> rfl
  case w1 w => cases w <;> cases he <;> rfl
  all_goals cases he <;> rfl

/-- Every field but `reqs` and `idx`: `ncalls`, `startedLate`, `badCalls`, `ctxd`, `sent`, `rxSeen`, `brokenSeen`, `cancelAsked`,
`unasked`, `prev`, in this order. -/
theorem book_rest (m : Mon) (p : Obs) (e : Ev) :
    (m.book p e).ncalls = (match e with | .ecall | .ecallbad => m.ncalls + 1 | _ => m.ncalls) ∧
    (m.book p e).startedLate =
      (match e with | .ecall => if p.done then m.startedLate ++ [m.ncalls + 1] else m.startedLate | _ => m.startedLate) ∧
    (m.book p e).badCalls = (match e with | .ecallbad => m.badCalls ++ [m.ncalls + 1] | _ => m.badCalls) ∧
    (m.book p e).ctxd = (match e with | .ectx n => n :: m.ctxd | _ => m.ctxd) ∧
    (m.book p e).sent = (match e with | .readResp a b => m.sent ++ [(a, b)] | _ => m.sent) ∧
    (m.book p e).rxSeen = (match e with | .rx => true | _ => m.rxSeen) ∧
    (m.book p e).brokenSeen = (match e with | .wret _ .broken => true | _ => m.brokenSeen) ∧
    (m.book p e).cancelAsked = m.cancelAsked ∧ (m.book p e).unasked = m.unasked ∧ (m.book p e).prev = m.prev := by
  cases e <;> simp only [Mon.book, modR, and_self]
  case wret w o => cases o <;> cases w <;> simp
  case a1 r => (repeat' split) <;> simp
  case a2 r => split <;> simp
  case k1 id => split <;> simp

theorem book_sent (m : Mon) (p : Obs) (e : Ev) (a b : Nat) :
    (a, b) ∈ (m.book p e).sent ↔ (a, b) ∈ m.sent ∨ e = .readResp a b := by
  obtain ⟨-, -, -, -, h, -⟩ := book_rest m p e
  rw [h]; cases e <;> simp
  constructor <;> (rintro (h | ⟨rfl, rfl⟩) <;> simp_all)

theorem book_startedLate (m : Mon) (p : Obs) (e : Ev) (c : Nat) :
    c ∈ (m.book p e).startedLate → c ∈ m.startedLate ∨ (e = .ecall ∧ p.done = true ∧ c = m.ncalls + 1) := by
  obtain ⟨-, h, -⟩ := book_rest m p e
  rw [h]; cases e <;> simp
  split
  · simp; intro h; exact h.imp id fun h => ⟨‹_›, h⟩
  · exact .inl

theorem book_badCalls (m : Mon) (p : Obs) (e : Ev) (c : Nat) :
    c ∈ (m.book p e).badCalls ↔ c ∈ m.badCalls ∨ (e = .ecallbad ∧ c = m.ncalls + 1) := by
  obtain ⟨-, -, h, -⟩ := book_rest m p e
  rw [h]; cases e <;> simp

theorem book_ctxd (m : Mon) (p : Obs) (e : Ev) (c : Nat) :
    c ∈ (m.book p e).ctxd ↔ c ∈ m.ctxd ∨ e = .ectx c := by
  obtain ⟨-, -, -, h, -⟩ := book_rest m p e
  rw [h]; cases e <;> simp
  rw [or_comm, eq_comm]

theorem book_rxSeen (m : Mon) (p : Obs) (e : Ev) :
    (m.book p e).rxSeen = true ↔ m.rxSeen = true ∨ e = .rx := by
  obtain ⟨-, -, -, -, -, h, -⟩ := book_rest m p e
  rw [h]; cases e <;> simp

theorem book_brokenSeen (m : Mon) (p : Obs) (e : Ev) :
    (m.book p e).brokenSeen = true ↔ m.brokenSeen = true ∨ ∃ w, e = .wret w .broken := by
  obtain ⟨-, -, -, -, -, -, h, -⟩ := book_rest m p e
  rw [h]; cases e <;> simp
  rename_i w o; cases o <;> simp

theorem book_cancel_fields (m : Mon) (p : Obs) (e : Ev) :
    (m.book p e).cancelAsked = m.cancelAsked ∧ (m.book p e).unasked = m.unasked := by
  obtain ⟨-, -, -, -, -, -, -, h1, h2, -⟩ := book_rest m p e
  exact ⟨h1, h2⟩

theorem book_idx (m : Mon) (p : Obs) (e : Ev) :
    (m.book p e).idx =
      match e with
      | .a1 r =>
        match (m.reqs[r]?).bind (·.id) with
        | some id => if (m.idx.lookup id).isSome then m.idx else m.idx ++ [(id, r)]
        | none => m.idx
      | .p1 r => m.idx.filter fun x => x.2 ≠ r
      | _ => m.idx := by
  cases e <;> simp only [Mon.book, modR]
  case wret w o => cases o <;> cases w <;> simp
  case a1 r =>
    cases hq : m.reqs[r]? with
    | none => rfl
    | some q =>
      cases hid : q.id with
      | none => simp [hid]
      | some id => simp only [Option.bind_some, hid]; split <;> rfl
  case a2 r => split <;> rfl
  case k1 id => split <;> rfl

/-- The table entry an event rewrites, and how (`none`: no entry is rewritten). -/
def Ev.row (m : Mon) (p : Obs) : Ev → Option (Nat × (MReq → MReq))
  | .wret (some r) .ok => some (r, fun q => { q with okWrites := q.okWrites + 1 })
  | .a1 r =>
    match (m.reqs[r]?).bind (·.id) with
    | some id => if (m.idx.lookup id).isSome then some (r, fun q => { q with dup := true }) else none
    | none => none
  | .a2 r => if p.shuttingDown then some (r, fun q => { q with a2AfterShutdown := true }) else none
  | .p1 r => some (r, fun q => { q with p1count := q.p1count + 1 })
  | .p2 r => some (r, fun q => { q with p2done := true })
  | .w1 r => some (r, fun q => { q with w1count := q.w1count + 1 })
  | .hasync r => some (r, fun q => { q with asyncd := true })
  | .k1 id => (m.idx.lookup id).map fun r => (r, fun q => { q with peerCancelled := true })
  | _ => none

/-- The entry a request-read event appends. -/
def newReq : Ev → Option MReq
  | .readCall id => some { id := some id, isNotif := false }
  | .readNotif => some {}
  | .readCancel _ => some { isCancel := true }
  | _ => none

theorem book_reqs (m : Mon) (p : Obs) (e : Ev) :
    (m.book p e).reqs = match Ev.row m p e with
      | some (r, h) => m.reqs.modify r h
      | none => m.reqs ++ (newReq e).toList := by
  cases e <;> simp only [Mon.book, modR, Ev.row, newReq, Option.toList, List.append_nil]
  case wret w o => cases o <;> cases w <;> simp
  case a1 r =>
    cases hq : m.reqs[r]? with
    | none => rfl
    | some q =>
      cases hid : q.id with
      | none => simp [hid]
      | some id => simp only [Option.bind_some, hid]; split <;> rfl
  case a2 r => split <;> rfl
  case k1 id => cases m.idx.lookup id <;> rfl

theorem row_newReq {m : Mon} {p : Obs} {e : Ev} {x : Nat × (MReq → MReq)} (h : Ev.row m p e = some x) : newReq e = none := by
  cases e <;> first | rfl | cases h

/-- What `book` does to the entry of request `r`, field by field (only `a1` and `k1` consult the monitor's index). -/
def updReq (m : Mon) (p : Obs) (e : Ev) (r : Nat) (q : MReq) : MReq :=
  { q with
    okWrites := q.okWrites + if e = .wret (some r) .ok then 1 else 0
    p1count := q.p1count + if e = .p1 r then 1 else 0
    w1count := q.w1count + if e = .w1 r then 1 else 0
    asyncd := q.asyncd || decide (e = .hasync r)
    p2done := q.p2done || decide (e = .p2 r)
    a2AfterShutdown := q.a2AfterShutdown || (decide (e = .a2 r) && p.shuttingDown)
    peerCancelled := q.peerCancelled || (match e with | .k1 id => decide (m.idx.lookup id = some r) | _ => false)
    dup := q.dup || (decide (e = .a1 r) && (q.id.bind fun id => m.idx.lookup id).isSome) }

theorem row_updReq (m : Mon) (p : Obs) (e : Ev) (r : Nat) (q : MReq) (hq : m.reqs[r]? = some q) :
    updReq m p e r q = match Ev.row m p e with
      | some (r', h) => if r' = r then h q else q
      | none => q := by
  obtain ⟨qid, _, _, _, _, _, _, _, _, _, _, _⟩ := q
  have hr : ∀ r', r' = r ∨ (¬ r' = r ∧ ¬ r = r') := fun r' => (Decidable.em (r' = r)).imp id fun h => ⟨h, fun h' => h h'.symm⟩
  cases e <;> simp only [Ev.row, updReq, reduceCtorEq, if_false, decide_false, Bool.or_false, Bool.false_and, Nat.add_zero]
  case wret w o =>
    cases o <;> cases w <;> simp
    rename_i r'; rcases hr r' with rfl | ⟨h1, h2⟩ <;> simp [*]
  case a1 r' =>
    rcases hr r' with rfl | ⟨h1, h2⟩
    · cases qid with
      | none => simp [hq]
      | some id => by_cases hl : (m.idx.lookup id).isSome = true <;> simp [hq, hl]
    · cases (m.reqs[r']?).bind (·.id) with
      | none => simp [h1]
      | some id => by_cases hl : (m.idx.lookup id).isSome = true <;> simp [hl, h1]
  case a2 r' => rcases hr r' with rfl | ⟨h1, h2⟩ <;> cases hp : p.shuttingDown <;> simp [*]
  case k1 id =>
    cases m.idx.lookup id with
    | none => simp
    | some r' => rcases hr r' with rfl | ⟨h1, h2⟩ <;> simp [*]
  all_goals (rename_i r'; rcases hr r' with rfl | ⟨h1, h2⟩ <;> simp [*])

theorem book_reqs_length (m : Mon) (p : Obs) (e : Ev) :
    (m.book p e).reqs.length = m.reqs.length + if (newReq e).isSome then 1 else 0 := by
  rw [book_reqs]
  cases h : Ev.row m p e with
  | some x => rw [row_newReq h]; simp
  | none => cases newReq e <;> simp

theorem book_reqs_get (m : Mon) (p : Obs) (e : Ev) (r : Nat) :
    (m.book p e).reqs[r]? = if r = m.reqs.length then newReq e else m.reqs[r]?.map (updReq m p e r) := by
  have hold : ∀ q, m.reqs[r]? = some q → updReq m p e r q = match Ev.row m p e with
      | some (r', h) => if r' = r then h q else q
      | none => q := row_updReq m p e r
  rw [book_reqs]
  cases h : Ev.row m p e with
  | some x =>
    obtain ⟨r', f⟩ := x
    rw [h] at hold
    rw [row_newReq h]
    by_cases hr : r = m.reqs.length
    · rw [if_pos hr, hr, List.getElem?_eq_none (by simp)]
    · rw [if_neg hr, List.getElem?_modify]
      cases hq : m.reqs[r]? with
      | none => rfl
      | some q => rw [Option.map_some, hold q hq]; rfl
  | none =>
    rw [h] at hold
    simp only []
    split
    · rename_i hr; subst hr; cases newReq e <;> simp
    · rename_i hr
      cases hq : m.reqs[r]? with
      | some q =>
        rw [List.getElem?_append_left (List.getElem?_eq_some_iff.mp hq).1, hq, Option.map_some, hold q hq]
      | none =>
        have := List.getElem?_eq_none_iff.mp hq
        rw [List.getElem?_eq_none]; · rfl
        cases newReq e <;> simp <;> omega

theorem mark_get (m : Mon) (o : Obs) (r : Nat) :
    (m.mark o).reqs[r]? =
      m.reqs[r]?.map fun q => if o.parked.contains (.h r) then { q with started := true } else q := by
  simp [Mon.mark, List.getElem?_map, List.getElem?_zipIdx]
  cases m.reqs[r]? <;> simp

theorem bookCancel_eq (m : Mon) (e : Ev) : ∃ a u, m.bookCancel e = { m with cancelAsked := a, unasked := u } := by
  cases e <;> simp only [Mon.bookCancel]
  case k1 id => split <;> exact ⟨_, _, rfl⟩
  all_goals exact ⟨_, _, rfl⟩

theorem bookCancel_count (m : Mon) (e : Ev) (id : Nat) :
    (m.bookCancel e).cancelAsked.count id =
      m.cancelAsked.count id + (if e = .readCancel id then 1 else 0) - (if e = .k1 id then 1 else 0) := by
  cases e <;> simp only [Mon.bookCancel, reduceCtorEq, if_false, Nat.add_zero, Nat.sub_zero]
  case readCancel id' =>
    rw [List.count_append, List.count_singleton]
    by_cases h : id' = id <;> simp [h]
  case k1 id' =>
    split
    · by_cases h : id' = id
      · subst h; simp [List.count_erase_self]
      · rw [List.count_erase_of_ne (Ne.symm h)]; simp [h]
    · rename_i hc
      by_cases h : id' = id
      · subst h
        have : m.cancelAsked.count id' = 0 := List.count_eq_zero.mpr fun hm => hc (List.contains_iff_mem.mpr hm)
        simp [this]
      · simp [h]

theorem bookCancel_unasked (m : Mon) (e : Ev) :
    (m.bookCancel e).unasked = m.unasked ∨
      ∃ id, e = .k1 id ∧ id ∉ m.cancelAsked ∧ (m.bookCancel e).unasked = m.unasked ++ [id] := by
  cases e
  case k1 id =>
    simp only [Mon.bookCancel]
    split
    · exact .inl rfl
    · rename_i hc; exact .inr ⟨id, rfl, fun hm => hc (List.contains_iff_mem.mpr hm), rfl⟩
  all_goals exact .inl rfl

end Conn
