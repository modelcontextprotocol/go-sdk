import McpModel.Conn.Variant
import McpModel.Conn.CallerLive
import McpModel.Conn.Obligations
import McpModel.Conn.Usable
/-!
C05 liveness: `Close` terminates.  The step from *deadlock freedom* (`closing_progress`) and *absence of livelock*
(`internal_runs_bounded`) to "shutdown reaches `done`, every `Close`/`Wait` caller returns, and nothing of the
connection is left running".  Its core is about a single state: a shutting-down connection in which no critical
section is enabled and none of the provisos is open makes no progress, so it is done and every process is at its
terminal program counter.  `Drained` is that state as the monitor bridge assumes it (Bridge.lean: the end-of-case record);
`stable_closing_state_is_terminated` reads the same `drained_*` lemmas.

What is assumed, and nothing else:

* **fairness** — an enabled critical section eventually runs. It enters as `Maximal s'`: the run of the
  connection's own steps is *maximal*, no critical section is enabled in its last state;
* **the environment's obligations** (a)–(d), `Obligations s'` (Obligations.lean): the four alternatives of
  `closing_progress`, discharged.

Each of (a)–(d) and fairness is necessary (Stuck.lean).
-/
namespace Conn

/-- What the harness has established when it prints a `clean` end-of-case record. -/
structure Drained (s : St) : Prop where
  shutting : s.shuttingDown = true
  quiet : ¬ Enabled s
  handlers : ¬ HandlerRunning s
  writes : ¬ WriteInFlight s
  /-- every caller's context was cancelled, or its call completed -/
  callers : ¬ AwaitingPeer s
  /-- the reader was given EOF: it is not parked in the transport's Read -/
  eof : s.reader ≠ .read

theorem step0_none_of_quiet {s : St} (q : ¬ Enabled s) (l : Label) (hi : l.internal = true) : step0 s l = none := by
  cases h : step0 s l with
  | none => rfl
  | some x => exact absurd ⟨l, hi, by simp [h]⟩ q

theorem Drained.stuck {s : St} (d : Drained s) : ¬ Progress s :=
  fun h => h.elim d.quiet (·.elim d.handlers (·.elim d.writes d.callers))

theorem done_of_stuck {s : St} (i : Inv4 s) (hsd : s.shuttingDown = true) (hp : ¬ Progress s)
    (ht : ¬ ReadAfterClose s) : s.done = true := by
  cases hd : s.done with
  | true => rfl
  | false => exact ((progress_of_inv4 i hsd hd).elim hp ht).elim

theorem drained_done {s : St} (i : Inv4 s) (d : Drained s) : s.done = true :=
  done_of_stuck i d.shutting d.stuck fun h => d.eof h.1

theorem drained_call_fin {s : St} (i : Inv4 s) (d : Drained s) (hd : s.done = true) {n : Nat} {c : Call}
    (hc : getCall s n = some c) : c.pc = .fin := by
  -- a caller before one of its own critical sections could take it (`own_step_enabled`)
  have own : ∀ l, ownLabel n c.pc = some l → False := fun l hl => by
    have h1 := own_step_enabled s n c hc l hl
    rw [step0_none_of_quiet d.quiet l (ownLabel_internal hl)] at h1; cases h1
  cases hpc : c.pc with
  | fin => rfl
  | wr => exact absurd (Or.inl ⟨n, c, hc, hpc⟩) d.writes
  | c1 | w1 | w2 e | r e | rc => exact (own _ (by rw [hpc]; rfl)).elim
  | await =>
    exfalso
    have o := i.inv.calls.ok n c hc
    obtain ⟨hnone, _⟩ := i.aw n c hc hpc
    have hidle := (i.inv.flags.dn hd).1
    have hoc : s.outCalls = [] := by
      have : (fview s).outCalls.isEmpty = true := by
        simp only [FV.idle, Bool.and_eq_true] at hidle; exact hidle.1.1.1
      simpa [fview] using this
    by_cases hr : c.registered = true
    · have := o.reg.mpr ⟨hr, hnone⟩; rw [hoc] at this; cases this
    · have := o.refused (by simpa using hr) (by simp [hpc]); simp [hnone] at this

theorem drained_notif_fin {s : St} (d : Drained s) {w : Who} {nf : Notif} (hw : getNotif s w = some nf) :
    ∃ r, nf.pc = .fin r := by
  have hnc : ∀ n, w ≠ .call n := fun n e => by subst e; simp [getNotif] at hw
  have hnr : ∀ r, w ≠ .resp r := fun r e => by subst e; simp [getNotif] at hw
  cases hpc : nf.pc with
  | fin r => exact ⟨r, rfl⟩
  | n1 =>
    exfalso
    have := step0_none_of_quiet d.quiet (.n1 w) rfl
    simp [step0, hw, hpc] at this
    split at this <;> simp at this
  | _ => exact (d.stuck (notif_progress_of w nf hw hnc hnr (by rw [hpc]; rfl))).elim

theorem drained_core_fin {s : St} (i : Inv4 s) (d : Drained s) {r : Nat} {k : ReqCore}
    (hk : s.cores[r]? = some k) : k.pc = .fin :=
  Decidable.by_contra fun hf => d.stuck (unfinished_progress i hk hf)

theorem inv4_not_panicked {s : St} (i : Inv4 s) : s.panicked = false := by
  have a := i.inv.calls.nopanic
  have b := i.inv.reqs.nopanic
  have c := i.inv.flags.np
  simp only [reqView, fview] at b c
  simp [St.panicked, a, b, c]

theorem drained_misc {s : St} (i : Inv4 s) (d : Drained s) (hd : s.done = true) :
    s.reader = .gone ∧ s.disp = .none ∧ s.cancels = [] ∧ s.closeCl1 = 0 ∧ s.closeWaiting = 0 ∧ s.closeWt = 0 ∧
    s.waitWaiting = 0 ∧ s.waitWt = 0 := by
  have q := d.quiet
  obtain ⟨hidle, _, hrd, _⟩ := i.inv.flags.dn hd
  have hreader : s.reader = .gone := by
    have hact := i.inv.flags.rd
    rw [hrd] at hact
    cases hr : s.reader with
    | gone => rfl
    | start =>
      have := step0_none_of_quiet q .start rfl
      simp [step0, hr, hd] at this
    | _ => simp [fview, hr, ReaderPc.active] at hact
  have hhr : s.handlerRunning = false := by
    have : (!(fview s).handlerRunning) = true := by
      simp only [FV.idle, Bool.and_eq_true] at hidle; exact hidle.2
    simpa [fview] using this
  have hdisp : s.disp = .none := by
    have := i.disp.hr
    simp only [dview, hhr] at this
    cases hdp : s.disp <;> simp [hdp] at this ⊢
  have hcan : s.cancels = [] := by
    cases hc : s.cancels with
    | nil => rfl
    | cons id t =>
      have := step0_none_of_quiet q (.k1 id) rfl
      simp only [step0, hc] at this
      simp at this
      split at this <;> simp at this
  have hcl1 : s.closeCl1 = 0 := by
    cases hc : s.closeCl1 with
    | zero => rfl
    | succ n =>
      have := step0_none_of_quiet q .cl1 rfl
      simp [step0, hc] at this
  obtain ⟨hcw, hww⟩ := i.st.wake hd
  have hcwt : s.closeWt = 0 := by
    cases hc : s.closeWt with
    | zero => rfl
    | succ n =>
      have := step0_none_of_quiet q (.wt false) rfl
      simp [step0, hd, hc] at this
  have hwwt : s.waitWt = 0 := by
    cases hc : s.waitWt with
    | zero => rfl
    | succ n =>
      have := step0_none_of_quiet q (.wt true) rfl
      simp [step0, hd, hc] at this
  exact ⟨hreader, hdisp, hcan, hcl1, hcw, hcwt, hww, hwwt⟩

theorem queue_nil_of_disp_none {s : St} (i : Inv4 s) (h : s.disp = .none) : s.queue = [] := by
  cases hq : s.queue with
  | nil => rfl
  | cons a t =>
    have := i.base.link.qd (by simp [dview, hq])
    exact absurd (by simpa [dview] using h) this

/-- The core of the argument, about a single state. -/
theorem stable_closing_state_is_terminated {s : St} (i : Inv4 s) (hsd : s.shuttingDown = true)
    (hmax : Maximal s) (ob : Obligations s) : s.done = true ∧ AllReturned s ∧ Quiescent s := by
  have hd : s.done = true :=
    done_of_stuck i hsd (fun h => h.elim hmax (·.elim ob.handlers (·.elim ob.writes ob.peer))) ob.transport
  have hI := i.inv
  obtain ⟨hidle, _, hrdg, hcu⟩ := hI.flags.dn hd
  have hrne : s.reader ≠ .read := by
    intro hr
    have hact := hI.flags.rd
    rw [hrdg] at hact
    simp [fview, hr, ReaderPc.active] at hact
  have d : Drained s := ⟨hsd, hmax, ob.handlers, ob.writes, ob.peer, hrne⟩
  obtain ⟨hreader, hdisp, hcan, hcl1, hcw, hcwt, hww, hwwt⟩ := drained_misc i d hd
  have hoc := idle_outCalls hidle
  simp only [fview, FV.idle, Bool.and_eq_true, beq_iff_eq, Bool.not_eq_true'] at hidle
  have hinc : s.incoming = 0 := hidle.1.2
  refine ⟨hd, ⟨hcl1, hcw, hcwt, hww, hwwt⟩, ?_⟩
  refine ⟨fun n c hc => ?_, fun w nf hw => drained_notif_fin d hw, fun r k hk => drained_core_fin i d hk,
    hreader, hdisp, hcan, ⟨hoc, hidle.1.1.2, hinc, hidle.2, rinv_byID_empty hI.reqs hinc, queue_nil_of_disp_none i hdisp⟩,
    ?_, inv4_not_panicked i⟩
  · have hf := drained_call_fin i d hd hc
    exact ⟨hf, ((hI.calls.ok n c hc).fin hf).1⟩
  · have htc := hI.flags.tc
    have hod := hI.flags.od
    simp only [fview] at htc hod hcu
    simp only [hcu, hd, if_true] at htc hod
    exact ⟨htc, hod⟩

theorem shuttingDown_mono_run {s s' : St} (ls : List Label) (h : run s ls = some s') (hs : s.shuttingDown = true) :
    s'.shuttingDown = true :=
  run_induct (P := fun s => s.shuttingDown = true) (fun hs h => shuttingDown_mono_step h hs) ls hs h

theorem terminated_of_run {pre ls : List Label} {s s' : St} (h0 : run {} pre = some s) (hsd : s.shuttingDown = true)
    (h : run s ls = some s') (hmax : Maximal s') (ob : Obligations s') : s'.done = true ∧ AllReturned s' ∧ Quiescent s' :=
  stable_closing_state_is_terminated (inv4_run ls (inv4_run pre inv4_init h0) h) (shuttingDown_mono_run ls h hsd) hmax ob

/-- **`Close` terminates (C05).** From any reachable state in which shutdown has begun, a maximal run of the connection's own
critical sections (fairness: the only thing not proved) is at most `mu s` steps long and, when the environment's obligations
are fulfilled in its last state, ends with `done` closed, every `Close()`/`Wait()` caller returned and nothing left
(`Quiescent`). -/
theorem close_terminates (pre ls : List Label) (s s' : St) (h0 : run {} pre = some s)
    (hsd : s.shuttingDown = true) (hint : ∀ l ∈ ls, l.internal = true) (h : run s ls = some s')
    (hmax : Maximal s') (ob : Obligations s') :
    ls.length ≤ mu s ∧ s'.done = true ∧ AllReturned s' ∧ Quiescent s' := by
  have hb := internal_runs_bounded pre ls s s' h0 hint h
  exact ⟨by omega, terminated_of_run h0 hsd h hmax ob⟩

theorem maximal_run_of_inv4 : ∀ (m : Nat) (s : St), Inv4 s → mu s ≤ m →
    ∃ (ls : List Label) (s' : St), (∀ l ∈ ls, l.internal = true) ∧ run s ls = some s' ∧ Maximal s' ∧
      ls.length + mu s' ≤ mu s := by
  intro m
  induction m with
  | zero =>
    intro s i hm
    refine ⟨[], s, by simp, rfl, ?_, by simp⟩
    intro ⟨l, hl, he⟩
    cases hs : step0 s l with
    | none => simp [hs] at he
    | some s0 =>
      have := internal_step_decreases (s := s) (s' := settle s0) (l := l) i.inv.reqs hl (by simp [step, hs])
      omega
  | succ m ih =>
    intro s i hm
    by_cases he : Enabled s
    · obtain ⟨l, hl, he⟩ := he
      cases hs : step0 s l with
      | none => simp [hs] at he
      | some s0 =>
        have hst : step s l = some (settle s0) := by simp [step, hs]
        have hlt := internal_step_decreases i.inv.reqs hl hst
        obtain ⟨ls, s', hi, hr, hmx, hb⟩ := ih (settle s0) (inv4_step i hst) (by omega)
        refine ⟨l :: ls, s', ?_, by simp [run, hst, hr], hmx, by simp only [List.length_cons]; omega⟩
        intro l' hl'
        rcases List.mem_cons.mp hl' with rfl | h'
        · exact hl
        · exact hi l' h'
    · exact ⟨[], s, by simp, rfl, he, by simp⟩

/-- The scheduler only has to pick enabled critical sections: whichever it picks, after at most `mu s` of them none is left. -/
theorem maximal_run_exists (pre : List Label) (s : St) (h0 : run {} pre = some s) :
    ∃ n, n ≤ mu s ∧ ∃ (ls : List Label) (s' : St), ls.length = n ∧ (∀ l ∈ ls, l.internal = true) ∧
      run s ls = some s' ∧ Maximal s' := by
  obtain ⟨ls, s', hi, hr, hm, hb⟩ := maximal_run_of_inv4 (mu s) s (inv4_run pre inv4_init h0) (Nat.le_refl _)
  exact ⟨ls.length, by omega, ls, s', rfl, hi, hr, hm⟩

theorem internal_run_extends_to_maximal (pre ls : List Label) (s s1 : St) (h0 : run {} pre = some s)
    (hint : ∀ l ∈ ls, l.internal = true) (h : run s ls = some s1) :
    ∃ (ls' : List Label) (s' : St), (∀ l ∈ ls', l.internal = true) ∧ run s (ls ++ ls') = some s' ∧ Maximal s' ∧
      (ls ++ ls').length ≤ mu s := by
  have hb := internal_runs_bounded pre ls s s1 h0 hint h
  have i1 : Inv4 s1 := inv4_run ls (inv4_run pre inv4_init h0) h
  obtain ⟨ls', s', hi, hr, hm, hb'⟩ := maximal_run_of_inv4 (mu s1) s1 i1 (Nat.le_refl _)
  exact ⟨ls', s', hi, run_append ls ls' h hr, hm, by simp only [List.length_append]; omega⟩

/-- `close_terminates`, existence form. -/
theorem close_terminates_exists (pre : List Label) (s : St) (h0 : run {} pre = some s) (hsd : s.shuttingDown = true) :
    ∃ n, n ≤ mu s ∧ ∃ (ls : List Label) (s' : St), ls.length = n ∧ (∀ l ∈ ls, l.internal = true) ∧
      run s ls = some s' ∧ Maximal s' ∧ (Obligations s' → s'.done = true ∧ AllReturned s' ∧ Quiescent s') := by
  obtain ⟨n, hn, ls, s', hl, hi, hr, hm⟩ := maximal_run_exists pre s h0
  exact ⟨n, hn, ls, s', hl, hi, hr, hm, fun ob => (close_terminates pre ls s s' h0 hsd hi hr hm ob).2⟩

end Conn
