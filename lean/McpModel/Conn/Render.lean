import McpModel.Conn.Monitor
/-!
The canonical text of an observation (`render`) and the model's observation as text (`observe`).
String layer of the E1 driver; core Lean only.  `parseObs (render o) = some o` is NOT proved (string
functions) — it is checked at run time by the driver for every model state it visits (`selfCheck`).
-/
namespace Conn

def natList (l : List Nat) : String := ",".intercalate (l.map toString)

def b (x : Bool) : String := if x then "1" else "0"

def xStr (e : Nat × XCause) : String :=
  match e.2 with
  | .read => s!"r{e.1}:r" | .write => s!"r{e.1}:w" | .other => s!"r{e.1}:c"

/-- The format the harness prints. -/
def render (o : Obs) : String :=
  s!"S={b o.closing}{b o.reading}{b o.readErr}{b o.writeErr}{b o.closerUsed}{b o.done} oc={natList o.oc} on={o.on} in={o.inc} by={natList o.by_} q={natList o.q} hr={b o.hr} tc={o.tc} od={o.od} P={",".intercalate (o.parked.map ptokStr)} X={",".intercalate (o.x.map xStr)} F={",".intercalate (o.fins.map ftokStr ++ [s!"close:{o.closeFin}", s!"wait:{o.waitFin}"])}"

/-- The model's observation as text: `render (obsOf s)` for every state that has not panicked
(and no reachable state has: `no_panic_state`). -/
def observe (s : St) : String :=
  if s.panicked then "panic" else render (obsOf s)

theorem observe_eq_render (s : St) (h : s.panicked = false) : observe s = render (obsOf s) := by
  simp [observe, h]

end Conn
