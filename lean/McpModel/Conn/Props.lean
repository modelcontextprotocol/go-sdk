import McpModel.Conn.Inv
import McpModel.Conn.Usable
/-!
# Property theorems for E1 — the jsonrpc2 connection (C01–C05)

The theorems about reachable states quantify over **every label list** `ls` (every interleaving of every number of
callers, notifiers, incoming requests, responses in any order with any ids, reader failure, write outcomes
(ok / broken / rejected / cancelled), context cancellations, Close and Wait calls) executed from the
initial state `{}` of the model `Conn.step` (one label = one atomic section of conn.go).  The theorems about ONE atomic
section have no `ls`: they hold for a step (`step`; `step0` in `late_response_discarded`, `notify_allowed_while_draining`)
from an ARBITRARY state.  The end of C01 uses C05's `done_implies_quiescent` and stands after it.
-/
namespace Conn

/-! ## C01 — every outgoing call completes exactly once, with its own response or an error -/

/-- **retire_at_most_once.** In every reachable state each call's `AsyncCall.retire` has run at most
once — exactly once iff its outcome is fixed — and the "retire called twice" panic is unreachable. -/
theorem retire_at_most_once (ls : List Label) (s : St) (h : run {} ls = some s) :
    s.panicRetire = false ∧
    ∀ n c, getCall s n = some c → c.retires ≤ 1 ∧ (c.retires = 1 ↔ c.ready.isSome = true) := by
  have i := cinv_run ls cinv_init h
  refine ⟨i.nopanic, fun n c hc => ?_⟩
  have := (i.ok n c hc).retires
  cases hr : c.ready <;> simp [hr] at this ⊢ <;> omega

/-- **registered_iff_unretired.** The `outgoingCalls` table holds exactly the calls that were registered
and whose outcome is not fixed yet, each once: removal from the table is the single completion point. -/
theorem registered_iff_unretired (ls : List Label) (s : St) (h : run {} ls = some s) :
    s.outCalls.Nodup ∧
    ∀ n c, getCall s n = some c → (n ∈ s.outCalls ↔ (c.registered = true ∧ c.ready = none)) := by
  have i := cinv_run ls cinv_init h
  exact ⟨i.nodup, fun n c hc => (i.ok n c hc).reg⟩

/-- **response_is_own.** If a call completed with a response payload `p`, then the reader took a
response message carrying *this call's id* and payload `p` off the wire (`respLog` records, at RR,
every (id, payload) the reader matched); a call never receives the response to a different call, and
what `call()` returns is that very payload. -/
theorem response_is_own (ls : List Label) (s : St) (h : run {} ls = some s) :
    ∀ n c p, getCall s n = some c →
      (c.ready = some (.resp p) → (n, p) ∈ s.respLog) ∧
      (c.result = some (.resp p) → c.ready = some (.resp p) ∧ (n, p) ∈ s.respLog) := by
  have i := cinv_run ls cinv_init h
  intro n c p hc
  have o := i.ok n c hc
  refine ⟨o.own p, fun hr => ?_⟩
  rcases (o.result _ hr).2 with h1 | ⟨h1, _⟩
  · exact ⟨h1, o.own p h1⟩
  · cases h1

/-- **completed_has_outcome.** A call whose `call()` has returned has a fixed outcome (it was retired,
or it never registered because the connection was shutting down), and what it returned is either
that outcome or the context's error after the caller's context ended. -/
theorem completed_has_outcome (ls : List Label) (s : St) (h : run {} ls = some s) :
    ∀ n c, getCall s n = some c → c.pc = .fin →
      c.ready.isSome = true ∧ ∃ r, c.result = some r ∧ (c.ready = some r ∨ (r = .err .ctx ∧ c.ctxDone = true)) := by
  have i := cinv_run ls cinv_init h
  intro n c hc hf
  have o := i.ok n c hc
  obtain ⟨h1, h2⟩ := o.fin hf
  cases hr : c.result with
  | none => simp [hr] at h1
  | some r => exact ⟨h2, r, rfl, (o.result r hr).2⟩

/-- **write_failure_admits_no_new_call.** While the connection is shutting down (Close was called, the
reader failed or a transport write failed) the registration point C1 never adds to the table of
registered calls. -/
theorem write_failure_admits_no_new_call (s s' : St) (n : Nat) (h : step s (.c1 n) = some s')
    (hsd : s.shuttingDown = true) : s'.outCalls = s.outCalls := by
  simp only [step, Option.map_eq_some_iff] at h
  obtain ⟨s0, h0, rfl⟩ := h
  rw [oc_settle]
  cases Step0.of_step0 h0 with
  | c1 _ _ hn => exact absurd hsd hn
  | c1Refused => rw [oc_retireIn]; exact tail_outCalls s

/-- **refused_when_shutting_down.** A call that reaches its registration point (C1) while the
connection is closing or its reader or writer has failed is completed at once with the
"client closing" class of error, which `mcp.call` reports as `ErrConnectionClosed`; it is never
registered and never written. -/
theorem refused_when_shutting_down (ls : List Label) (s s' : St) (hr : run {} ls = some s)
    (n : Nat) (c : Call) (hc : getCall s n = some c)
    (hctx : c.ctxDone = false) (hsd : s.shuttingDown = true) (h : step s (.c1 n) = some s') :
    ∃ c', getCall s' n = some c' ∧ c'.pc = .fin ∧ c'.result = some (.err .clientClosing) ∧
      c'.registered = false ∧ s'.outCalls = s.outCalls := by
  obtain ⟨s0, h0, rfl⟩ := step_some.1 h
  obtain ⟨c0, hc0, r⟩ := (CStep0.of_step0 h0).row n c hc
  refine ⟨_, by rw [getCall_settle, hc0]; rfl, ?_⟩
  cases r with
  | same hl => exact absurd rfl hl
  | c1 _ hf => rw [hsd] at hf; cases hf
  | c1Refused hpc =>
    obtain ⟨hreg, hready⟩ := ((cinv_run ls cinv_init hr).ok n c hc).fresh hpc
    refine ⟨?_, ?_, ?_, ?_⟩
    · simp [settleCall, retireCall, hready, Err.closing, hctx]
    · simp [settleCall, retireCall, hready, Err.closing, hctx]
    · simp [settleCall, retireCall, hready, Err.closing, hctx, hreg]
    · exact write_failure_admits_no_new_call s _ n h hsd

/-- **read_failure_leaves_no_registered_call.** Once the reader has failed (its exit section RX ran:
`readErr` is set) no outgoing call is registered, in any reachable state: RX completes every pending
call and empties the table, and every call started afterwards is refused at C1 (the connection is
shutting down) — a call started after the connection broke fails at once, nothing is left waiting
for a response that can never be read. -/
theorem read_failure_leaves_no_registered_call (ls : List Label) (s : St) (h : run {} ls = some s)
    (hr : s.readErr = true) : s.outCalls = [] :=
  run_induct (P := fun s => s.readErr = true → s.outCalls = []) (fun i h => readErr_no_calls_step h i) ls (fun h => by simp at h) h hr

/-! ## C02 — every incoming call is answered exactly once (connection level) -/

/-- **answer_at_most_once.** In every reachable state every incoming request has had at most one
response write attempted and at most one response delivered to the transport; a call that has left
processResult (parked before P2, or finished) had exactly one attempted. -/
theorem answer_at_most_once (ls : List Label) (s : St) (h : run {} ls = some s) :
    ∀ (r : Nat) (k : ReqCore), s.cores[r]? = some k →
      k.wrote ≤ 1 ∧ k.responses ≤ k.wrote ∧ (k.isCall = true → (k.pc = .p2 ∨ k.pc = .fin) → k.wrote = 1) := by
  have i := rinv_run ls rinv_init h
  intro r k hk
  exact (i.ok r k hk).post

/-- **notification_unanswered.** A request without an id (a notification, or — see the known finding
F3 — a call whose id was already in flight and was therefore stripped of it at A1) never enters the
response path: no response is ever attempted for it. -/
theorem notification_unanswered (ls : List Label) (s : St) (h : run {} ls = some s) :
    ∀ (r : Nat) (k : ReqCore), s.cores[r]? = some k → k.isCall = false → k.wrote = 0 ∧ k.responses = 0 := by
  have i := rinv_run ls rinv_init h
  intro r k hk hc
  have o := i.ok r k hk
  have := o.post.2.1
  exact ⟨(o.notif hc).1, by have := (o.notif hc).1; omega⟩

/-- **incoming_exact.** `incoming` counts exactly the requests that were accepted (A1 done) and whose
processResult has not finished (P2 not done); in particular it never underflows: the
"processResult called when incoming count is already zero" panic is unreachable. -/
theorem incoming_exact (ls : List Label) (s : St) (h : run {} ls = some s) :
    s.panicIncoming = false ∧ s.incoming = countInflight s.cores := by
  have i := rinv_run ls rinv_init h
  exact ⟨i.nopanic, i.cnt⟩

/-- **indexed_iff_unanswered.** `incomingByID` maps a wire id to request `r` exactly while `r` is a call
with that id that has not reached the point (P1) where its response is produced; ids in the index are
unique, so `Cancel(id)` can only ever find the one unanswered request bearing that id. -/
theorem indexed_iff_unanswered (ls : List Label) (s : St) (h : run {} ls = some s) :
    (s.byID.map (·.1)).Nodup ∧
    ∀ (r : Nat) (k : ReqCore), s.cores[r]? = some k → ∀ id, ((id, r) ∈ s.byID ↔ (k.isCall = true ∧ k.id = some id ∧ k.pc.indexed = true)) := by
  have i := rinv_run ls rinv_init h
  exact ⟨i.keys, fun r k hk id => (i.ok r k hk).idx id⟩

/-- **response_reaches_transport_unless_writer_broken.** The response of a request parked at the write
gate is handed to the transport whenever the writer is not known to be broken — also while the
connection is shutting down (a graceful Close delivers the results of the handlers it lets finish). -/
theorem response_reaches_transport_unless_writer_broken (s s' : St) (r : Nat) (k : ReqCore)
    (hk : s.cores[r]? = some k) (hpc : k.pc = .w1) (hw : s.writeErr = false)
    (h : step s (.w1 (.resp r)) = some s') :
    ∃ k', s'.cores[r]? = some k' ∧ k'.pc = .wr := by
  simp only [step, Option.map_eq_some_iff] at h
  obtain ⟨s0, h0, rfl⟩ := h
  cases Step0.of_step0 h0 with
  | w1RespShut _ _ hw' => rw [hw] at hw'; cases hw'
  | w1Notif hn | w1NotifShut hn => cases hn
  | w1Resp =>
    have hc := congrArg ReqView.cores (reqView_settle
      (tail (modCore (modCore s r fun q => { q with wrote := q.wrote + 1 }) r fun q => { q with pc := .wr })))
    simp only [reqView, tail_cores] at hc
    refine ⟨{ k with wrote := k.wrote + 1, pc := .wr }, ?_, rfl⟩
    rw [hc]; simp [modCore, List.getElem?_modify, hk]

/-- **usable_write_reaches_transport.** While the connection is usable (not closing, reader and writer
healthy) the response of a request parked at the write gate is handed to the transport. -/
theorem usable_write_reaches_transport (s s' : St) (r : Nat) (k : ReqCore) (hk : s.cores[r]? = some k)
    (hpc : k.pc = .w1) (husable : s.shuttingDown = false) (h : step s (.w1 (.resp r)) = some s') :
    ∃ k', s'.cores[r]? = some k' ∧ k'.pc = .wr := by
  refine response_reaches_transport_unless_writer_broken s s' r k hk hpc ?_ h
  simp [St.shuttingDown] at husable; simp [husable]

/-! ## C05 — Close is graceful, terminates, leaves nothing running (safety part) -/

/-- **no_panic_state.** None of the panics of conn.go is reachable: `retire` twice, `incoming` already
zero in processResult, non-idle after done. -/
theorem no_panic_state (ls : List Label) (s : St) (h : run {} ls = some s) : s.panicked = false := by
  have i := inv_run ls inv_init h
  have h3 : s.panicIdle = false := i.flags.np
  have h2 : s.panicIncoming = false := i.reqs.nopanic
  simp [St.panicked, i.calls.nopanic, h2, h3]

/-- **closed_and_done_once.** The transport's `Close` is called at most once (exactly
once iff the closer was consumed), `onDone` runs at most once — exactly when `done` is closed — so the
session is removed from its Client/Server exactly once. -/
theorem closed_and_done_once (ls : List Label) (s : St) (h : run {} ls = some s) :
    s.transportCloses = (if s.closerUsed then 1 else 0) ∧ s.onDone = (if s.done then 1 else 0) := by
  have i := inv_run ls inv_init h
  exact ⟨i.flags.tc, i.flags.od⟩

/-- **done_implies_quiescent.** Once `done` is closed (Close and every Wait may return) nothing is in
flight: no registered outgoing call, no outgoing notification being written, no unanswered incoming
request, no dispatcher, the reader has exited, the transport has been closed, and the connection is
shutting down. -/
theorem done_implies_quiescent (ls : List Label) (s : St) (h : run {} ls = some s) (hd : s.done = true) :
    s.outCalls = [] ∧ s.outNotifs = 0 ∧ s.incoming = 0 ∧ s.handlerRunning = false ∧ s.byID = [] ∧
    s.shuttingDown = true ∧ s.reading = false ∧ s.closerUsed = true := by
  have i := inv_run ls inv_init h
  obtain ⟨h1, h2, h3, h4⟩ := i.flags.dn hd
  have ho := idle_outCalls h1
  simp only [fview, FV.idle, Bool.and_eq_true, beq_iff_eq, Bool.not_eq_true'] at h1
  exact ⟨ho, h1.1.1.2, h1.1.2, h1.2, rinv_byID_empty i.reqs h1.1.2, h2, h3, h4⟩

/-- **transport_closed_only_when_idle.** The only place the transport is closed is the common tail of a
critical section, and only in a state that is idle and shutting down: running handlers, pending
outgoing calls and notifications being written all come first. -/
theorem transport_closed_only_when_idle (s : St) (h : (tail s).transportCloses ≠ s.transportCloses) :
    s.idle = true ∧ s.shuttingDown = true := by
  unfold tail finish closeTransport at h
  by_cases hd : s.done = true
  · simp only [hd, if_true] at h; split at h <;> exact absurd rfl h
  · simp only [hd, if_false] at h
    by_cases hc : (s.idle && s.shuttingDown) = true
    · simpa using hc
    · simp only [hc] at h; exact absurd rfl h

/-- **close_cancels_nothing.** The critical section of `Close` only sets `connClosing`: no handler context
is cancelled, no queued request is dropped, no call is retired — handlers that are already running run
to completion. -/
theorem close_cancels_nothing (s s' : St) (h : step s .cl1 = some s') :
    s'.metas = s.metas ∧ s'.cores = s.cores ∧ s'.queue = s.queue ∧ s'.outCalls = s.outCalls ∧ s'.closing = true := by
  simp only [step, Option.map_eq_some_iff] at h
  obtain ⟨s0, h0, rfl⟩ := h
  cases Step0.of_step0 h0 with
  | cl1 =>
    have e1 : ∀ X : St, (settle X).metas = X.metas := fun X => settle_metas X
    have e2 : ∀ X : St, (settle X).cores = X.cores := fun X => congrArg ReqView.cores (reqView_settle X)
    have e3 : ∀ X : St, (settle X).queue = X.queue := fun X => congrArg ReqView.queue (reqView_settle X)
    have e4 : ∀ X : St, (settle X).outCalls = X.outCalls := oc_settle
    have e5 : ∀ X : St, (settle X).closing = X.closing := fun X => congrArg FV.closing (fview_settle X)
    have t5 : ∀ X : St, (tail X).closing = X.closing := fun X => tail_closing X
    refine ⟨by rw [e1]; simp, by rw [e2]; simp, by rw [e3]; simp, by rw [e4]; simp, by rw [e5, t5]⟩

/-- **no_dispatch_after_shutdown.** A request that reaches the enqueue point (A2) while the connection
is closing or broken is not handed to the handler: it goes straight to processResult (a call is
answered with the closing error if the writer still accepts it), and the handler queue is unchanged,
so after Close begins the queue can only shrink. -/
theorem no_dispatch_after_shutdown (s s' : St) (r : Nat) (hsd : s.shuttingDown = true)
    (h : step s (.a2 r) = some s') : s'.queue = s.queue ∧ ∃ k, s'.cores[r]? = some k ∧ (k.pc = .p1 ∨ k.pc = .p2) := by
  simp only [step, Option.map_eq_some_iff] at h
  obtain ⟨s0, h0, rfl⟩ := h
  cases Step0.of_step0 h0 with
  | a2Busy _ _ hn | a2Idle _ _ hn => exact absurd hsd hn
  | @a2Refused _ q hq =>
    have hv := reqView_settle (tail (beginPR (modMeta s r fun q => { q with rejected := true }) r .reader))
    rw [reqView_tail, reqView_beginPR] at hv
    have e3 := congrArg ReqView.queue hv
    have e2 := congrArg ReqView.cores hv
    simp only [reqView, ReqView.mod] at e3 e2
    refine ⟨e3, ?_⟩
    rw [e2]
    have hget : (s.cores.modify r fun k => { k with owner := Owner.reader, pc := if k.isCall then ReqPc.p1 else ReqPc.p2 })[r]? =
        some { q with owner := .reader, pc := if q.isCall then .p1 else .p2 } := by
      simp [List.getElem?_modify, hq]
    refine ⟨_, hget, ?_⟩
    by_cases hc : q.isCall = true
    · exact Or.inl (by simp [hc])
    · exact Or.inr (by simp [hc])

/-! ## C01, continued: nothing stays blocked after termination -/

/-- `await_wait_free` (one label, CallRow.lean) in every reachable state. -/
theorem await_inv (ls : List Label) (s : St) (h : run {} ls = some s) :
    ∀ n c, getCall s n = some c → c.pc = .await → c.ready = none ∧ c.ctxDone = false :=
  run_induct (P := fun s => ∀ n c, getCall s n = some c → c.pc = .await → c.ready = none ∧ c.ctxDone = false)
    (fun _ h => await_wait_free _ _ _ h) ls (fun n c hc => by simp [getCall_eq] at hc) h

/-- **done_implies_all_completed.** After termination (`done` closed: the session's Wait has returned)
every call that was ever registered has its outcome fixed, and no caller is blocked in `Await`:
a call never stays blocked once the session has terminated. -/
theorem done_implies_all_completed (ls : List Label) (s : St) (h : run {} ls = some s) (hd : s.done = true) :
    ∀ n c, getCall s n = some c → (c.registered = true → c.ready.isSome = true) ∧ c.pc ≠ .await := by
  have i := inv_run ls inv_init h
  have hoc := (done_implies_quiescent ls s h hd).1
  intro n c hc
  have o := i.calls.ok n c hc
  have hreg : c.registered = true → c.ready.isSome = true := by
    intro hr
    cases hrd : c.ready with
    | some _ => rfl
    | none => have := o.reg.mpr ⟨hr, hrd⟩; rw [hoc] at this; cases this
  refine ⟨hreg, fun hpc => ?_⟩
  obtain ⟨hnone, _⟩ := await_inv ls s h n c hc hpc
  by_cases hr : c.registered = true
  · have := hreg hr; simp [hnone] at this
  · have := o.refused (by simpa using hr) (by simp [hpc]); simp [hnone] at this

/-- **done_is_shutting_down.** After termination the connection is shutting down: a call started after it reaches C1
in a shutting-down state and is refused (`refused_when_shutting_down`; together: `late_call_fails_at_once`). -/
theorem done_is_shutting_down (ls : List Label) (s : St) (h : run {} ls = some s) (hd : s.done = true) :
    s.shuttingDown = true := (done_implies_quiescent ls s h hd).2.2.2.2.2.1

/-! ## C03 — in-order dispatch -/

/-- **dispatch_fifo.** In every reachable state, handlers were entered in arrival order: if requests
`i < j` (arrival numbers) have both been handed to the handler, `i`'s start stamp is smaller. The
handler queue itself is in arrival order and holds only requests that arrived after every request
already started. -/
theorem dispatch_fifo (ls : List Label) (s : St) (h : run {} ls = some s) :
    (∀ (i j : Nat) (mi mj : ReqMeta) (ti tj : Nat), i < j → s.metas[i]? = some mi → s.metas[j]? = some mj →
      mi.started = some ti → mj.started = some tj → ti < tj) ∧
    s.queue.Pairwise (· < ·) ∧
    (∀ q ∈ s.queue, ∀ (j : Nat) (m : ReqMeta), s.metas[j]? = some m → m.started.isSome = true → j < q) := by
  have i := (inv2_run ls inv2_init h).disp
  refine ⟨?_, i.sorted, ?_⟩
  · intro a b ma mb ta tb hab hma hmb hta htb
    exact i.fifo a b ma.mcore mb.mcore ta tb hab (by simp [dview, hma]) (by simp [dview, hmb]) hta htb
  · intro q hq j m hm hs
    exact i.above q hq j m.mcore (by simp [dview, hm]) hs

/-- **sync_finishes_before_next_starts.** Whenever the dispatcher is about to take the next request
(it is parked at D1 — the only label that enters a handler), every handler started so far has either
declared itself asynchronous (`Async`) or its request is completely finished, processResult
included (response written or refused, `incoming` decremented). So the handler of a notification —
and of any call that does not call `Async`, such as `initialize` — finishes before the handler of any
later message starts. -/
theorem sync_finishes_before_next_starts (ls : List Label) (s : St) (h : run {} ls = some s) (hd : s.disp = .d1) :
    ∀ (i : Nat) (m : ReqMeta) (k : ReqCore), s.metas[i]? = some m → s.cores[i]? = some k →
      m.started.isSome = true → m.asyncCalled = true ∨ k.pc = .fin := by
  have iv := (inv2_run ls inv2_init h).disp
  intro i m k hm hk hs
  have hmm : (dview s).ms[i]? = some m.mcore := by simp [dview, hm]
  have hrel : m.released = true := by
    cases hr : m.released with
    | true => rfl
    | false =>
      have := iv.unrel i m.mcore hmm hs hr
      simp [dview, hd] at this
  exact iv.rel i m.mcore k hmm hk hrel

/-- **started_earlier_released.** A handler that was started earlier than another one had released the
dispatcher (Async or completely finished) — in every reachable state, for every pair. -/
theorem started_earlier_released (ls : List Label) (s : St) (h : run {} ls = some s) :
    ∀ (i j : Nat) (mi mj : ReqMeta) (ki : ReqCore) (ti tj : Nat), s.metas[i]? = some mi → s.metas[j]? = some mj →
      s.cores[i]? = some ki → mi.started = some ti → mj.started = some tj → ti < tj →
      mi.asyncCalled = true ∨ ki.pc = .fin := by
  have iv := (inv2_run ls inv2_init h).disp
  intro i j mi mj ki ti tj hmi hmj hki hti htj hlt
  have h1 : (dview s).ms[i]? = some mi.mcore := by simp [dview, hmi]
  have h2 : (dview s).ms[j]? = some mj.mcore := by simp [dview, hmj]
  have hrel := iv.prev i j mi.mcore mj.mcore ti tj h1 h2 hti htj hlt
  exact iv.rel i mi.mcore ki h1 hki hrel

/-- **single_dispatcher.** There is a dispatcher goroutine exactly while `handlerRunning` is set; when it
runs processResult itself (request cancelled before dispatch) it is busy with exactly that request,
and it waits for exactly the one started handler that has not released it. -/
theorem single_dispatcher (ls : List Label) (s : St) (h : run {} ls = some s) :
    s.handlerRunning = (s.disp != .none) ∧
    (∀ (r : Nat) (k : ReqCore), s.cores[r]? = some k → k.owner = .dispatcher → k.pc.inPR = true → s.disp = .busy r) ∧
    (∀ (r : Nat) (m : ReqMeta), s.metas[r]? = some m → m.started.isSome = true → m.released = false → s.disp = .waiting r) := by
  have iv := (inv2_run ls inv2_init h).disp
  refine ⟨iv.hr, iv.dsp, ?_⟩
  intro r m hm hs hr
  exact iv.unrel r m.mcore (by simp [dview, hm]) hs hr

/-! ## C04 — cancellation -/

theorem settle_metas' (X : St) : (settle X).metas = X.metas := settle_metas X

/-- **cancel_hits_only_matching.** `Cancel(id)` cancels the context of exactly the request currently
indexed under `id` (if any) and of no other request; it changes no bookkeeping. -/
theorem cancel_hits_only_matching (s s' : St) (id : Nat) (h : step s (.k1 id) = some s') :
    s'.cores = s.cores ∧ s'.byID = s.byID ∧
    ∀ (r : Nat), s'.metas[r]? ≠ s.metas[r]? → s.byID.lookup id = some r := by
  simp only [step, Option.map_eq_some_iff] at h
  obtain ⟨s0, h0, rfl⟩ := h
  have e2 : ∀ X : St, (settle X).cores = X.cores := fun X => congrArg ReqView.cores (reqView_settle X)
  have e3 : ∀ X : St, (settle X).byID = X.byID := fun X => congrArg ReqView.byID (reqView_settle X)
  cases Step0.of_step0 h0 with
  | @k1Hit _ r _ hl =>
    refine ⟨by rw [e2]; simp, by rw [e3]; simp, ?_⟩
    intro j hj
    rw [settle_metas] at hj
    by_cases hjr : j = r
    · subst hjr; exact hl
    · exfalso; apply hj
      simp [cancelReq, modMeta, List.getElem?_modify, Ne.symm hjr]
  | k1Miss =>
    refine ⟨by rw [e2]; simp, by rw [e3]; simp, ?_⟩
    intro j hj; exfalso; apply hj; rw [settle_metas]; simp

/-- **late_response_discarded.** A response whose id is not (or no longer) registered — a late answer to
an abandoned call, a duplicate, an id never issued — changes nothing but the ghost log. -/
theorem late_response_discarded (s s' : St) (id p : Nat) (hrd : s.reader = .rr id p) (hno : id ∉ s.outCalls)
    (h : step0 s .rresp = some s') : s'.calls = s.calls ∧ s'.outCalls = s.outCalls ∧ s'.cores = s.cores := by
  simp only [step0, hrd] at h
  have hc : s.outCalls.contains id = false := by simpa using hno
  simp only [hc] at h
  cases h
  exact ⟨by simp, by simp, by simp⟩

/-- **cancel_returns_without_peer.** A caller whose context has ended is parked before its own eager
`Retire` (never blocked in `Await`, see `await_wait_free`); that step is enabled whatever the peer and
the transport do — it waits for nobody. It completes the call with the context's error
(`completed_has_outcome`); the cancellation notice is a separate goroutine (`cnotifs`) that the caller
never waits for. -/
theorem cancel_returns_without_peer (s : St) (n : Nat) (c : Call) (hc : getCall s n = some c) (hpc : c.pc = .rc) :
    ∃ s', step s (.retire n) = some s' := by
  simp only [step, step0, hc, hpc]
  exact ⟨_, rfl⟩

/-- **notify_allowed_while_draining.** During shutdown an outgoing notification is admitted exactly while
some call is still in flight in either direction (so cancellations can still be delivered); otherwise
it is refused with the closing error. -/
theorem notify_allowed_while_draining (s s' : St) (w : Who) (nf : Notif) (hnf : getNotif s w = some nf) (hpc : nf.pc = .n1)
    (h : step0 s (.n1 w) = some s') :
    (s'.outNotifs = s.outNotifs + 1 ↔ ¬ (s.outCalls.isEmpty = true ∧ s.byID.isEmpty = true ∧ s.shuttingDown = true)) := by
  have t1 : ∀ X : St, (tail X).outNotifs = X.outNotifs := fun X => by rw [tail_eq]
  have t2 : ∀ (X : St) (f : Notif → Notif), (setNotif X w f).outNotifs = X.outNotifs := fun X f => congrArg FV.outNotifs (fview_setNotif X w f)
  cases Step0.of_step0 h with
  | n1Refused _ _ hc =>
    simp only [Bool.and_eq_true] at hc
    rw [t1, t2]
    simp [hc.1.1, hc.1.2, hc.2]
  | n1 _ _ hc =>
    simp only [Bool.and_eq_true, not_and] at hc
    rw [t1, t2]
    simp only [true_iff]
    intro ⟨a, b, c⟩; exact hc ⟨a, b⟩ c

end Conn
