import McpModel.Conn.ReqInv
/-! Invariants of the dispatcher (C03): FIFO start order, a synchronous handler finishes before the next starts.
`DInv` is preserved move by move on the view `DView` (`DInv.move` for a request that changes its row, `DInv.append`,
`.enqueue`, `.d1Start`, … for the queue and the dispatcher); ReqStep.lean reads `step0` as these moves (`DInv.step`). -/
namespace Conn

/-- What the dispatcher invariants see of a request's meta data. -/
structure MCore where
  started : Option Nat
  released : Bool
  asyncCalled : Bool
deriving DecidableEq

def ReqMeta.mcore (m : ReqMeta) : MCore := { started := m.started, released := m.released, asyncCalled := m.asyncCalled }

/-- What `DInv` reads of the state; `ms`: the dispatcher's part of the request contexts, `clock` stamps handler starts. -/
structure DView where
  cores : List ReqCore
  ms : List MCore
  disp : DispPc
  handlerRunning : Bool
  queue : List Nat
  clock : Nat

def dview (s : St) : DView :=
  { cores := s.cores, ms := s.metas.map ReqMeta.mcore, disp := s.disp, handlerRunning := s.handlerRunning,
    queue := s.queue, clock := s.clock }

structure DInv (v : DView) : Prop where
  lens : v.ms.length = v.cores.length
  hr : v.handlerRunning = (v.disp != .none)
  /-- processResult on the dispatcher goroutine: the dispatcher is busy with exactly that request -/
  dsp : ∀ (r : Nat) (k : ReqCore), v.cores[r]? = some k → k.owner = .dispatcher → k.pc.inPR = true → v.disp = .busy r
  /-- a started handler that has not released the dispatcher is the one the dispatcher waits for -/
  unrel : ∀ (r : Nat) (m : MCore), v.ms[r]? = some m → m.started.isSome = true → m.released = false → v.disp = .waiting r
  /-- released means: declared asynchronous, or its processResult has completely finished -/
  rel : ∀ (r : Nat) (m : MCore) (k : ReqCore), v.ms[r]? = some m → v.cores[r]? = some k → m.released = true →
    m.asyncCalled = true ∨ k.pc = .fin
  sorted : v.queue.Pairwise (· < ·)
  /-- everything still queued arrived after everything already started -/
  above : ∀ i ∈ v.queue, ∀ (j : Nat) (m : MCore), v.ms[j]? = some m → m.started.isSome = true → j < i
  /-- start stamps follow arrival order (dispatch_fifo) -/
  fifo : ∀ (i j : Nat) (mi mj : MCore) (ti tj : Nat), i < j → v.ms[i]? = some mi → v.ms[j]? = some mj →
    mi.started = some ti → mj.started = some tj → ti < tj
  /-- a handler started earlier has released the dispatcher before a later one starts -/
  prev : ∀ (i j : Nat) (mi mj : MCore) (ti tj : Nat), v.ms[i]? = some mi → v.ms[j]? = some mj →
    mi.started = some ti → mj.started = some tj → ti < tj → mi.released = true
  stamps : ∀ (r : Nat) (m : MCore) (t : Nat), v.ms[r]? = some m → m.started = some t → t ≤ v.clock
  fresh : ∀ (r : Nat) (k : ReqCore) (m : MCore), v.cores[r]? = some k → v.ms[r]? = some m →
    (k.pc = .a1 ∨ k.pc = .a2 ∨ k.pc = .queued) → m.started = none ∧ m.released = false

theorem ms_modify_get {l : List MCore} {r j : Nat} {f : MCore → MCore} {m' : MCore}
    (h : (l.modify r f)[j]? = some m') : ∃ m, l[j]? = some m ∧ m' = (if r = j then f m else m) := by
  rw [List.getElem?_modify] at h
  cases hj : l[j]? with
  | none => simp [hj] at h
  | some m => simp [hj] at h; exact ⟨m, rfl, h.symm⟩

/-- Request `r` is rewritten — core by `g`, context by `f` — while dispatcher, queue and clock move on.  `f` keeps the
start stamp, or stamps a request that had none with the new clock value `c'` (then every handler started before has
released the dispatcher, and arrived earlier); it takes back no release.  `hdsp … hfresh`: the new row satisfies its
clauses; `hd`: the dispatcher's old state concerned no other request. -/
theorem DInv.move {v : DView} (i : DInv v) (r : Nat) (g : ReqCore → ReqCore) (f : MCore → MCore)
    {cs : List ReqCore} {ms : List MCore} (hcs : cs = v.cores.modify r g) (hms : ms = v.ms.modify r f)
    (d' : DispPc) (hr' : Bool) (q' : List Nat) (c' : Nat)
    (hhr : hr' = (d' != .none)) (hsorted : q'.Pairwise (· < ·)) (hclock : v.clock ≤ c')
    (hq' : ∀ a ∈ q', a ∈ v.queue ∨ ∀ (j : Nat) (m : MCore), v.ms[j]? = some m → m.started.isSome = true → j < a)
    (hd : d' = v.disp ∨ ∀ j, j ≠ r → v.disp ≠ .busy j ∧ v.disp ≠ .waiting j)
    (hst : ∀ m, v.ms[r]? = some m → (m.released = true → (f m).released = true) ∧
      ((f m).started = m.started ∨ (m.started = none ∧ (f m).started = some c' ∧ v.clock < c' ∧ (∀ a ∈ q', r < a) ∧
        ∀ (j : Nat) (mj : MCore), v.ms[j]? = some mj → mj.started.isSome = true → j < r ∧ mj.released = true)))
    (hdsp : ∀ k, v.cores[r]? = some k → (g k).owner = .dispatcher → (g k).pc.inPR = true → d' = .busy r)
    (hunrel : ∀ m, v.ms[r]? = some m → (f m).started.isSome = true → (f m).released = false → d' = .waiting r)
    (hrel : ∀ k m, v.cores[r]? = some k → v.ms[r]? = some m → (f m).released = true →
      (f m).asyncCalled = true ∨ (g k).pc = .fin)
    (hfresh : ∀ k m, v.cores[r]? = some k → v.ms[r]? = some m → ((g k).pc = .a1 ∨ (g k).pc = .a2 ∨ (g k).pc = .queued) →
      (f m).started = none ∧ (f m).released = false) :
    DInv { cores := cs, ms := ms, disp := d', handlerRunning := hr', queue := q', clock := c' } := by
  subst hcs hms
  -- a row of the new view is a row of the old one, rewritten if it is `r`
  have getc {j : Nat} {k' : ReqCore} (h : (v.cores.modify r g)[j]? = some k') :
      ∃ k, v.cores[j]? = some k ∧ k' = if r = j then g k else k := by
    rw [List.getElem?_modify] at h
    cases hj : v.cores[j]? with
    | none => simp [hj] at h
    | some k => simp [hj] at h; exact ⟨k, rfl, h.symm⟩
  have getm {j : Nat} {m' : MCore} (h : (v.ms.modify r f)[j]? = some m') := ms_modify_get h
  -- a started row of the new view was started before, or is `r`, stamped now
  have started {j : Nat} {m : MCore} {t : Nat} (hm : v.ms[j]? = some m) (ht : (if r = j then f m else m).started = some t) :
      m.started = some t ∨ (r = j ∧ m.started = none ∧ t = c' ∧ v.clock < c' ∧ (∀ a ∈ q', r < a) ∧
        ∀ (j : Nat) (mj : MCore), v.ms[j]? = some mj → mj.started.isSome = true → j < r ∧ mj.released = true) := by
    by_cases hj : r = j
    · subst hj; simp only [if_true] at ht
      rcases (hst m hm).2 with e | ⟨e, e', h⟩
      · exact .inl (e ▸ ht)
      · exact .inr ⟨rfl, e, Option.some.inj (ht.symm.trans e'), h⟩
    · simp only [hj, if_false] at ht; exact .inl ht
  -- the dispatcher's state, where another row relied on it, is unchanged
  have disp {j : Nat} (hj : r ≠ j) {p : DispPc} (h : v.disp = p) (hp : p = .busy j ∨ p = .waiting j) : d' = p := by
    rcases hd with e | e
    · exact e.trans h
    · rcases hp with rfl | rfl
      · exact absurd h (e j (Ne.symm hj)).1
      · exact absurd h (e j (Ne.symm hj)).2
  refine ⟨by simpa using i.lens, hhr, ?_, ?_, ?_, hsorted, ?_, ?_, ?_, ?_, ?_⟩
  · intro j k' hk' ho hp
    obtain ⟨k, hk, rfl⟩ := getc hk'
    by_cases hj : r = j
    · subst hj; simp only [if_true] at ho hp; exact hdsp k hk ho hp
    · simp only [hj, if_false] at ho hp; exact disp hj (i.dsp j k hk ho hp) (.inl rfl)
  · intro j m' hm' hs hrl
    obtain ⟨m, hm, rfl⟩ := getm hm'
    by_cases hj : r = j
    · subst hj; simp only [if_true] at hs hrl; exact hunrel m hm hs hrl
    · simp only [hj, if_false] at hs hrl; exact disp hj (i.unrel j m hm hs hrl) (.inr rfl)
  · intro j m' k' hm' hk' hrl
    obtain ⟨m, hm, rfl⟩ := getm hm'
    obtain ⟨k, hk, rfl⟩ := getc hk'
    by_cases hj : r = j
    · subst hj; simp only [if_true] at hrl ⊢; exact hrel k m hk hm hrl
    · simp only [hj, if_false] at hrl ⊢; exact i.rel j m k hm hk hrl
  · intro a ha j m' hm' hs
    obtain ⟨m, hm, rfl⟩ := getm hm'
    obtain ⟨t, ht⟩ := Option.isSome_iff_exists.mp hs
    rcases started hm ht with e | ⟨rfl, _, _, _, h, _⟩
    · rcases hq' a ha with h | h
      · exact i.above a h j m hm (by simp [e])
      · exact h j m hm (by simp [e])
    · exact h a ha
  · intro a b ma' mb' ta tb hab hma' hmb' hta htb
    obtain ⟨ma, hma, rfl⟩ := getm hma'
    obtain ⟨mb, hmb, rfl⟩ := getm hmb'
    rcases started hma hta with ea | ⟨rfl, _, _, _, _, h⟩
    · rcases started hmb htb with eb | ⟨rfl, _, rfl, hlt, _, _⟩
      · exact i.fifo a b ma mb ta tb hab hma hmb ea eb
      · have := i.stamps a ma ta hma ea; omega
    · rcases started hmb htb with eb | ⟨rfl, _⟩
      · have := (h b mb hmb (by simp [eb])).1; omega
      · omega
  · intro a b ma' mb' ta tb hma' hmb' hta htb hlt
    obtain ⟨ma, hma, rfl⟩ := getm hma'
    obtain ⟨mb, hmb, rfl⟩ := getm hmb'
    have keep : ma.released = true → (if r = a then f ma else ma).released = true := fun h => by
      by_cases hj : r = a
      · subst hj; simp only [if_true]; exact (hst ma hma).1 h
      · simp only [hj, if_false]; exact h
    rcases started hma hta with ea | ⟨rfl, _, rfl, hc, _, _⟩
    · rcases started hmb htb with eb | ⟨rfl, _, _, _, _, h⟩
      · exact keep (i.prev a b ma mb ta tb hma hmb ea eb hlt)
      · exact keep (h a ma hma (by simp [ea])).2
    · rcases started hmb htb with eb | ⟨rfl, _⟩
      · have := i.stamps b mb tb hmb eb; omega
      · omega
  · intro j m' t hm' ht
    obtain ⟨m, hm, rfl⟩ := getm hm'
    show t ≤ c'
    rcases started hm ht with e | ⟨_, _, rfl, _⟩
    · have := i.stamps j m t hm e; omega
    · omega
  · intro j k' m' hk' hm' hp
    obtain ⟨m, hm, rfl⟩ := getm hm'
    obtain ⟨k, hk, rfl⟩ := getc hk'
    by_cases hj : r = j
    · subst hj; simp only [if_true] at hp ⊢; exact hfresh k m hk hm hp
    · simp only [hj, if_false] at hp ⊢; exact i.fresh j k m hk hm hp

theorem DInv.core {v : DView} (i : DInv v) (r : Nat) (g : ReqCore → ReqCore)
    (hd : ∀ k, v.cores[r]? = some k → (g k).owner = .dispatcher → (g k).pc.inPR = true → k.owner = .dispatcher ∧ k.pc.inPR = true)
    (hf : ∀ k, v.cores[r]? = some k → ((g k).pc = .a1 ∨ (g k).pc = .a2 ∨ (g k).pc = .queued) → (k.pc = .a1 ∨ k.pc = .a2 ∨ k.pc = .queued))
    (hfin : ∀ k, v.cores[r]? = some k → k.pc = .fin → (g k).pc = .fin) :
    DInv { v with cores := v.cores.modify r g } :=
  i.move r g id rfl (by simp) v.disp v.handlerRunning v.queue v.clock i.hr i.sorted (Nat.le_refl _) (fun _ ha => .inl ha)
    (.inl rfl) (fun _ _ => ⟨id, .inl rfl⟩) (fun k hk ho hp => i.dsp r k hk (hd k hk ho hp).1 (hd k hk ho hp).2)
    (fun m hm => i.unrel r m hm) (fun k m hk hm hrl => (i.rel r m k hm hk hrl).imp id (hfin k hk))
    (fun k m hk hm hp => i.fresh r k m hk hm (hf k hk hp))

/-- `DInv.core` with the row `q` of request `r` known. -/
theorem DInv.coreFrom {v : DView} (i : DInv v) (r : Nat) (q : ReqCore) (g : ReqCore → ReqCore)
    (hq : v.cores[r]? = some q)
    (h1 : (g q).owner = .dispatcher → (g q).pc.inPR = true → q.owner = .dispatcher ∧ q.pc.inPR = true)
    (h2 : ((g q).pc = .a1 ∨ (g q).pc = .a2 ∨ (g q).pc = .queued) → (q.pc = .a1 ∨ q.pc = .a2 ∨ q.pc = .queued))
    (h3 : q.pc = .fin → (g q).pc = .fin) :
    DInv { v with cores := v.cores.modify r g } :=
  i.core r g (fun k hk => by rw [hq] at hk; cases hk; exact h1) (fun k hk => by rw [hq] at hk; cases hk; exact h2)
    (fun k hk => by rw [hq] at hk; cases hk; exact h3)

theorem DInv.inPR {v : DView} (i : DInv v) (r : Nat) (q : ReqCore) (g : ReqCore → ReqCore) (hq : v.cores[r]? = some q)
    (hold : q.pc.inPR = true) (hown : (g q).owner = q.owner) (hnew : (g q).pc.inPR = true) :
    DInv { v with cores := v.cores.modify r g } :=
  i.coreFrom r q g hq (fun ho _ => ⟨hown ▸ ho, hold⟩)
    (fun hp => by rcases hp with h | h | h <;> simp [h, ReqPc.inPR] at hnew)
    (fun hf => by simp [hf, ReqPc.inPR] at hold)

theorem DInv.clock {v : DView} (i : DInv v) (c : Nat) (h : v.clock ≤ c) : DInv { v with clock := c } :=
  ⟨i.lens, i.hr, i.dsp, i.unrel, i.rel, i.sorted, i.above, i.fifo, i.prev,
    fun r m t hm ht => Nat.le_trans (i.stamps r m t hm ht) h, i.fresh⟩

theorem DInv.append {v : DView} (i : DInv v) (k : ReqCore) (hk : k.pc = .a1 ∧ k.owner = .reader)
    (hq : ∀ j ∈ v.queue, j < v.cores.length) :
    DInv { v with cores := v.cores ++ [k], ms := v.ms ++ [⟨none, false, false⟩] } := by
  have hl := i.lens
  have getm (j : Nat) (m : MCore) (h : (v.ms ++ [(⟨none, false, false⟩ : MCore)])[j]? = some m) := List.getElem?_snoc h
  have getc (j : Nat) (k' : ReqCore) (h : (v.cores ++ [k])[j]? = some k') := List.getElem?_snoc h
  refine ⟨by simp [hl], i.hr, ?_, ?_, ?_, i.sorted, ?_, ?_, ?_, ?_, ?_⟩
  · intro j k' hk' ho hp
    rcases getc j k' hk' with h | ⟨_, rfl⟩
    · exact i.dsp j k' h ho hp
    · simp [hk.1, ReqPc.inPR] at hp
  · intro j m hm hs hr
    rcases getm j m hm with h | ⟨_, rfl⟩
    · exact i.unrel j m h hs hr
    · simp at hs
  · intro j m k' hm hk' hrel
    rcases getm j m hm with h | ⟨_, rfl⟩
    · rcases getc j k' hk' with h' | ⟨hj, _⟩
      · exact i.rel j m k' h h' hrel
      · have := (List.getElem?_eq_some_iff.mp h).1; omega
    · simp at hrel
  · intro a ha j m hm hs
    rcases getm j m hm with h | ⟨_, rfl⟩
    · exact i.above a ha j m h hs
    · simp at hs
  · intro a b ma mb ta tb hab hma hmb hta htb
    rcases getm a ma hma with h | ⟨_, rfl⟩
    · rcases getm b mb hmb with h' | ⟨_, rfl⟩
      · exact i.fifo a b ma mb ta tb hab h h' hta htb
      · simp at htb
    · simp at hta
  · intro a b ma mb ta tb hma hmb hta htb hlt
    rcases getm a ma hma with h | ⟨_, rfl⟩
    · rcases getm b mb hmb with h' | ⟨_, rfl⟩
      · exact i.prev a b ma mb ta tb h h' hta htb hlt
      · simp at htb
    · simp at hta
  · intro r m t hm ht
    rcases getm r m hm with h | ⟨_, rfl⟩
    · exact i.stamps r m t h ht
    · simp at ht
  · intro r k' m hk' hm hp
    rcases getm r m hm with h | ⟨_, rfl⟩
    · rcases getc r k' hk' with h' | ⟨hj, _⟩
      · exact i.fresh r k' m h' h hp
      · have := (List.getElem?_eq_some_iff.mp h).1; omega
    · exact ⟨rfl, rfl⟩

theorem DInv.hasync {v : DView} (i : DInv v) (r : Nat) (hrun : ∀ k, v.cores[r]? = some k → k.pc = .running) :
    DInv { v with ms := v.ms.modify r (fun m => { m with asyncCalled := true, released := true }) } :=
  i.move r id _ (by simp) rfl v.disp v.handlerRunning v.queue v.clock i.hr i.sorted (Nat.le_refl _) (fun _ ha => .inl ha)
    (.inl rfl) (fun _ _ => ⟨fun _ => rfl, .inl rfl⟩) (i.dsp r) (fun _ _ _ h => nomatch h) (fun _ _ _ _ _ => .inl rfl)
    (fun k _ hk _ hp => by simp [hrun k hk] at hp)

theorem DInv.enqueue {v : DView} (i : DInv v) (r : Nat) (k : ReqCore) (hk : v.cores[r]? = some k) (hpc : k.pc = .a2)
    (hlast : r + 1 = v.cores.length) (hq : ∀ j ∈ v.queue, j < v.cores.length) (hnq : r ∉ v.queue)
    (d : DispPc) (hrn : Bool)
    (hd : (v.handlerRunning = true ∧ d = v.disp ∧ hrn = true) ∨ (v.handlerRunning = false ∧ d = .d1 ∧ hrn = true)) :
    DInv { v with cores := v.cores.modify r (fun k => { k with pc := .queued }), queue := v.queue ++ [r],
                  disp := d, handlerRunning := hrn } := by
  obtain ⟨m, hm⟩ : ∃ m, v.ms[r]? = some m := ⟨_, List.getElem?_eq_getElem (by rw [i.lens]; omega)⟩
  -- the request is the newest and has not been handed to a handler
  have hfr := i.fresh r k m hk hm (Or.inr (Or.inl hpc))
  have hnone : v.handlerRunning = false → v.disp = .none := fun h => by
    have := i.hr; rw [h] at this
    cases hdd : v.disp <;> simp [hdd] at this ⊢
  refine i.move r _ id rfl (by simp) d hrn _ v.clock ?_ ?_ (Nat.le_refl _) (fun a ha => ?_) ?_ (fun _ _ => ⟨id, .inl rfl⟩)
    (fun _ _ _ hp => by simp [ReqPc.inPR] at hp) (fun m' hm' hs => ?_) (fun _ m' _ hm' hrl => ?_) (fun _ m' _ hm' _ => ?_)
  · rcases hd with ⟨h1, rfl, rfl⟩ | ⟨_, rfl, rfl⟩
    · rw [← i.hr, h1]
    · rfl
  · rw [List.pairwise_append]
    refine ⟨i.sorted, by simp, fun a ha b hb => ?_⟩
    rw [List.mem_singleton.mp hb]
    have := hq a ha
    have : a ≠ r := fun h => hnq (h ▸ ha)
    omega
  · rcases List.mem_append.mp ha with ha | ha
    · exact .inl ha
    · refine .inr fun j mj hmj hs => ?_
      rw [List.mem_singleton.mp ha]
      have hj : j < v.ms.length := (List.getElem?_eq_some_iff.mp hmj).1
      have : j ≠ r := fun h => by subst h; rw [hm] at hmj; cases hmj; simp [hfr.1] at hs
      rw [i.lens] at hj; omega
  · rcases hd with ⟨_, rfl, _⟩ | ⟨h1, _, _⟩
    · exact .inl rfl
    · exact .inr fun j _ => by rw [hnone h1]; exact ⟨nofun, nofun⟩
  · rw [hm] at hm'; cases hm'; simp [hfr.1] at hs
  · rw [hm] at hm'; cases hm'; simp [hfr.2] at hrl
  · rw [hm] at hm'; cases hm'; exact hfr

theorem DInv.d1empty {v : DView} (i : DInv v) (hd : v.disp = .d1) (hq : v.queue = []) :
    DInv { v with handlerRunning := false, disp := .none } := by
  refine ⟨i.lens, rfl, ?_, ?_, i.rel, i.sorted, i.above, i.fifo, i.prev, i.stamps, i.fresh⟩
  · intro r k hk ho hp; have := i.dsp r k hk ho hp; rw [hd] at this; cases this
  · intro r m hm hs hr; have := i.unrel r m hm hs hr; rw [hd] at this; cases this

theorem DInv.head {v : DView} (i : DInv v) (h : Nat) (rest : List Nat) (hq : v.queue = h :: rest) :
    (∀ a ∈ rest, h < a) ∧ rest.Pairwise (· < ·) ∧ (∀ (j : Nat) (m : MCore), v.ms[j]? = some m → m.started.isSome = true → j < h) := by
  have hs := i.sorted; rw [hq] at hs
  have := List.pairwise_cons.mp hs
  exact ⟨this.1, this.2, fun j m hm hst => i.above h (by simp [hq]) j m hm hst⟩

theorem DInv.d1Cancelled {v : DView} (i : DInv v) (hd : v.disp = .d1) (h : Nat) (rest : List Nat) (hq : v.queue = h :: rest)
    (k : ReqCore) (hk : v.cores[h]? = some k) (hpc : k.pc = .queued) :
    DInv { v with queue := rest, disp := .busy h,
                  cores := v.cores.modify h (fun k => { k with owner := .dispatcher, pc := if k.isCall then .p1 else .p2 }) } := by
  obtain ⟨h1, h2, h3⟩ := i.head h rest hq
  have hrn : v.handlerRunning = true := by rw [i.hr, hd]; rfl
  refine i.move h _ id rfl (by simp) _ _ rest v.clock (by simp [hrn]) h2 (Nat.le_refl _) (fun a ha => .inl (by simp [hq, ha]))
    (.inr fun j _ => by rw [hd]; exact ⟨nofun, nofun⟩) (fun _ _ => ⟨id, .inl rfl⟩) (fun _ _ _ _ => rfl)
    (fun m hm hs => ?_) (fun _ m _ hm hrl => ?_) (fun k' _ _ _ hp => ?_)
  -- the head of the queue has not been handed to a handler
  · simp [(i.fresh h k m hk hm (Or.inr (Or.inr hpc))).1] at hs
  · simp [(i.fresh h k m hk hm (Or.inr (Or.inr hpc))).2] at hrl
  · simp at hp; split at hp <;> simp at hp

theorem DInv.d1Start {v : DView} (i : DInv v) (hd : v.disp = .d1) (h : Nat) (rest : List Nat) (hq : v.queue = h :: rest)
    (k : ReqCore) (hk : v.cores[h]? = some k) (hpc : k.pc = .queued) :
    DInv { v with queue := rest, disp := .waiting h, clock := v.clock + 1,
                  cores := v.cores.modify h (fun k => { k with pc := .running, owner := .handler }),
                  ms := v.ms.modify h (fun m => { m with started := some (v.clock + 1) }) } := by
  obtain ⟨h1, h2, h3⟩ := i.head h rest hq
  have hrn : v.handlerRunning = true := by rw [i.hr, hd]; rfl
  -- the dispatcher is at D1: every handler started so far has released it
  have hallrel : ∀ (j : Nat) (m : MCore), v.ms[j]? = some m → m.started.isSome = true → m.released = true := by
    intro j m hm hs
    cases hrl : m.released with
    | true => rfl
    | false => have := i.unrel j m hm hs hrl; rw [hd] at this; cases this
  refine i.move h _ _ rfl rfl _ _ rest (v.clock + 1) (by simp [hrn]) h2 (Nat.le_succ _) (fun a ha => .inl (by simp [hq, ha]))
    (.inr fun j _ => by rw [hd]; exact ⟨nofun, nofun⟩) (fun m hm => ⟨id, .inr ?_⟩) (fun _ _ ho => by simp at ho)
    (fun _ _ _ _ => rfl) (fun _ m _ hm hrl => ?_) (fun _ _ _ _ hp => by simp at hp)
  · exact ⟨(i.fresh h k m hk hm (Or.inr (Or.inr hpc))).1, rfl, Nat.lt_succ_self _, h1,
      fun j mj hmj hs => ⟨h3 j mj hmj hs, hallrel j mj hmj hs⟩⟩
  · simp [(i.fresh h k m hk hm (Or.inr (Or.inr hpc))).2] at hrl

theorem DInv.p2Disp {v : DView} (i : DInv v) (r : Nat) (k : ReqCore) (hk : v.cores[r]? = some k)
    (ho : k.owner = .dispatcher) (hpc : k.pc = .p2) :
    DInv { v with cores := v.cores.modify r (fun k => { k with pc := .fin }), disp := .d1 } := by
  have hb := i.dsp r k hk ho (by simp [hpc, ReqPc.inPR])
  have i1 : DInv { v with cores := v.cores.modify r (fun k => { k with pc := .fin }) } :=
    i.core r _ (fun k' _ _ hp => by simp [ReqPc.inPR] at hp) (fun k' _ hp => by rcases hp with h | h | h <;> simp at h) (fun _ _ _ => rfl)
  have hrn : v.handlerRunning = true := by rw [i.hr, hb]; rfl
  refine ⟨i1.lens, by simp [hrn], ?_, ?_, i1.rel, i1.sorted, i1.above, i1.fifo, i1.prev, i1.stamps, i1.fresh⟩
  · intro j k' hk' ho' hp'
    have := i1.dsp j k' hk' ho' hp'
    simp only at this; rw [hb] at this
    have hj : r = j := by cases this; rfl
    subst hj
    simp [List.getElem?_modify, hk] at hk'; subst hk'
    simp [ReqPc.inPR] at hp'
  · intro j m hm hs hrl
    have := i.unrel j m hm hs hrl; rw [hb] at this; cases this

theorem DInv.p2Handler {v : DView} (i : DInv v) (r : Nat) :
    DInv { v with cores := v.cores.modify r (fun k => { k with pc := .fin }),
                  ms := v.ms.modify r (fun m => { m with released := true }) } :=
  i.move r _ _ rfl rfl v.disp v.handlerRunning v.queue v.clock i.hr i.sorted (Nat.le_refl _) (fun _ ha => .inl ha) (.inl rfl)
    (fun _ _ => ⟨fun _ => rfl, .inl rfl⟩) (fun _ _ _ hp => by simp [ReqPc.inPR] at hp) (fun _ _ _ h => nomatch h)
    (fun _ _ _ _ _ => .inr rfl) (fun _ _ _ _ hp => by simp at hp)

theorem DInv.settle {v : DView} (i : DInv v) (r : Nat) (m : MCore) (hd : v.disp = .waiting r) (hm : v.ms[r]? = some m)
    (hrel : m.released = true) : DInv { v with disp := .d1 } := by
  have hrn : v.handlerRunning = true := by rw [i.hr, hd]; rfl
  refine ⟨i.lens, by simp [hrn], ?_, ?_, i.rel, i.sorted, i.above, i.fifo, i.prev, i.stamps, i.fresh⟩
  · intro j k hk ho hp; have := i.dsp j k hk ho hp; rw [hd] at this; cases this
  · intro j m' hm' hs hrl
    have := i.unrel j m' hm' hs hrl; rw [hd] at this
    have hj : j = r := by cases this; rfl
    subst hj; rw [hm] at hm'; cases hm'; simp [hrel] at hrl

theorem map_mcore_modify (l : List ReqMeta) (r : Nat) (f : ReqMeta → ReqMeta) (g : MCore → MCore)
    (h : ∀ m, (f m).mcore = g m.mcore) : (l.modify r f).map ReqMeta.mcore = (l.map ReqMeta.mcore).modify r g := by
  apply List.ext_getElem?; intro j
  simp only [List.getElem?_map, List.getElem?_modify]
  cases l[j]? with
  | none => simp
  | some q => by_cases hj : r = j <;> simp [hj, h]

theorem map_mcore_modify_id (l : List ReqMeta) (r : Nat) (f : ReqMeta → ReqMeta)
    (h : ∀ m, (f m).mcore = m.mcore) : (l.modify r f).map ReqMeta.mcore = l.map ReqMeta.mcore := by
  rw [map_mcore_modify l r f id h]
  apply List.ext_getElem?; intro j; simp

@[simp] theorem dview_modCall (s : St) (n : Nat) (f : Call → Call) : dview (modCall s n f) = dview s := rfl
@[simp] theorem dview_settleCalls (s : St) : dview (settleCalls s) = dview s := rfl
@[simp] theorem dview_settleWaiters (s : St) : dview (settleWaiters s) = dview s := by simp [dview]

theorem dinv_settle {s : St} (i : DInv (dview s)) : DInv (dview (settle s)) := by
  unfold settle settleDisp
  have hv : dview (settleWaiters (settleCalls s)) = dview s := by simp
  split
  · rename_i r hd
    split
    · rename_i m hm
      split
      · rename_i hrel
        have hd' : (dview s).disp = .waiting r := by rw [← hv]; exact hd
        have hm' : (dview s).ms[r]? = some m.mcore := by
          have : (settleWaiters (settleCalls s)).metas = s.metas := by simp [settleCalls]
          simp only [dview, List.getElem?_map]; rw [← this, hm]; rfl
        have := i.settle r m.mcore hd' hm' hrel
        have e : dview { settleWaiters (settleCalls s) with disp := DispPc.d1 } = { dview s with disp := .d1 } := by
          rw [← hv]; rfl
        rw [e]; exact this
      · rw [hv]; exact i
    · rw [hv]; exact i
  · rw [hv]; exact i

theorem dinv_init : DInv (dview ({} : St)) :=
  ⟨rfl, rfl, fun r k hk => by simp [dview] at hk, fun r m hm => by simp [dview] at hm,
    fun r m k hm => by simp [dview] at hm, by simp [dview], fun i hi => by simp [dview] at hi,
    fun i j mi mj ti tj _ hmi => by simp [dview] at hmi, fun i j mi mj ti tj hmi => by simp [dview] at hmi,
    fun r m t hm => by simp [dview] at hm, fun r k m hk => by simp [dview] at hk⟩

end Conn
