import McpModel.Conn.Progress
import McpModel.Conn.PcStep
/-!
Termination measure for the connection's own steps (C05, absence of livelock): in every state that satisfies the request
invariant, shutting down or not, every internal label (critical section) strictly decreases `mu`; new work only comes from the
environment (users starting calls/notifications/Close, the peer sending messages, handlers and transport writes returning).
-/
namespace Conn

theorem sumBy_modify_same {α : Type} (w : α → Nat) (l : List α) (k : Nat) (f : α → α) (h : ∀ a, w (f a) = w a) :
    sumBy w (l.modify k f) = sumBy w l := by
  cases hk : l[k]? with
  | none =>
    have : l.modify k f = l := by
      apply List.ext_getElem?; intro j
      rw [List.getElem?_modify]
      by_cases hj : k = j
      · subst hj; simp [hk]
      · simp [hj]
    rw [this]
  | some a =>
    have := sumBy_modify w l k a f hk
    rw [h a] at this; omega

theorem sumBy_map_le {α : Type} (w : α → Nat) (l : List α) (f : α → α) (h : ∀ a, w (f a) ≤ w a) :
    sumBy w (l.map f) ≤ sumBy w l := by
  induction l with
  | nil => simp [sumBy]
  | cons b t ih => simp only [List.map, sumBy]; have := h b; omega

def muCalls (s : St) : Nat := sumBy (fun c : Call => wCall c.pc) s.calls
def muNotifs (s : St) : Nat := sumBy (fun n : Notif => wNotif n.pc) s.unotifs + sumBy (fun n : Notif => wNotif n.pc) s.cnotifs
def muReqs (s : St) : Nat := sumBy (fun k : ReqCore => wReq k.pc) s.cores
def muRest (s : St) : Nat :=
  s.cancels.length + wDisp s.disp + wReader s.reader + 3 * s.closeCl1 + 2 * s.closeWaiting + s.closeWt +
    2 * s.waitWaiting + s.waitWt

def mu (s : St) : Nat := muCalls s + muNotifs s + muReqs s + muRest s

theorem mu_eq (s : St) : mu s = (pview s).mu := by
  simp only [mu, muCalls, muNotifs, muReqs, muRest, PV.mu, pview, sumBy_map]
  omega

theorem mu_settle_le (s : St) : mu (settle s) ≤ mu s := by
  have h1 : mu (settleCalls s) ≤ mu s := by
    have := sumBy_map_le (fun c : Call => wCall c.pc) s.calls settleCall (fun c => by
      unfold settleCall; repeat' split
      all_goals simp_all [wCall])
    simp only [mu, muCalls, muNotifs, muReqs, muRest, settleCalls]; omega
  have h2 : ∀ X : St, mu (settleWaiters X) ≤ mu X := by
    intro X; unfold settleWaiters; split
    · simp only [mu, muCalls, muNotifs, muReqs, muRest]; omega
    · exact Nat.le_refl _
  have h3 : ∀ X : St, mu (settleDisp X) ≤ mu X := by
    intro X; unfold settleDisp
    split
    · rename_i r hd
      split
      · split
        · simp only [mu, muCalls, muNotifs, muReqs, muRest, hd, wDisp]; omega
        · exact Nat.le_refl _
      · exact Nat.le_refl _
    · exact Nat.le_refl _
  unfold settle
  exact Nat.le_trans (h3 _) (Nat.le_trans (h2 _) h1)

theorem cores_same {X s : St} (h : X.cores = s.cores) (r : Nat) : X.cores[r]? = s.cores[r]? := by rw [h]

theorem wDisp_le_one (d : DispPc) : wDisp d ≤ 1 := by cases d <;> simp [wDisp]

theorem mu_lt_step0 {s s' : St} {l : Label} (hr : RInv (reqView s)) (hl : l.moves = true) (h : step0 s l = some s') :
    mu s' < mu s := by
  rw [mu_eq, mu_eq]; exact (PStep.of_step0 h).mu_lt hr hl

/-- Every critical section of the connection strictly decreases the measure.  (`hr`: the two
`d1` rules move the head of the dispatcher's queue, and only the request invariant says it is a request at `queued`.) -/
theorem internal_step_decreases {s s' : St} {l : Label} (hr : RInv (reqView s)) (hl : l.internal = true)
    (h : step s l = some s') : mu s' < mu s := by
  simp only [step, Option.map_eq_some_iff] at h
  obtain ⟨s0, h0, rfl⟩ := h
  exact Nat.lt_of_le_of_lt (mu_settle_le s0) (mu_lt_step0 hr (by cases l <;> first | rfl | cases hl) h0)

/-- **No livelock (C05).** From any reachable state, a run of the connection's own critical sections only is at most `mu s`
labels long: the connection cannot keep itself busy for ever; every further step needs the environment. -/
theorem internal_runs_bounded (pre ls : List Label) (s s' : St) (h0 : run {} pre = some s)
    (hint : ∀ l ∈ ls, l.internal = true) (h : run s ls = some s') : ls.length + mu s' ≤ mu s :=
  run_bounded (I := Inv4) (ok := fun _ l => l.internal = true) inv4_step
    (fun i hl h => internal_step_decreases i.inv.reqs hl h) ls (inv4_run pre inv4_init h0) (runAll_of_forall hint s) h

end Conn
