import McpModel.Conn.Terminate
/-!
# C05 liveness with the environment in the run

`close_terminates` talks about runs of the connection's own critical sections and asks for the
environment's obligations in the last state. Here the environment's *fulfilling* steps (`Label.fulfils`) are part of the
run; none of them brings new work. The extended measure `mu2` strictly decreases along every
critical section *and* every fulfilling step, so

* any interleaving of critical sections and fulfilling steps from a reachable state `s` is at most `mu2 s` long
  (`shutdown_run_bounded`), and
* whenever such a run from a state in which shutdown has begun arrives at a state without enabled critical section and
  without outstanding obligation, the connection is terminated (`close_terminates_env`).

New work — users starting calls, notifications, `Close`, `Wait`; the peer sending requests, notifications or responses to
unknown ids — is excluded from these runs: it is not bounded by anything in the connection.  (The peer's answers to
registered calls are bounded: TerminatePeer.lean.)
-/
namespace Conn

/-- Environment steps that discharge an obligation and bring no new work: a handler returns or declares itself asynchronous, a
transport `Write` returns (any outcome), the transport's `Read` fails, a caller's context ends. -/
def Label.fulfils : Label → Bool
  | .hret _ _ | .hasync _ | .wret _ _ | .read .eof | .ectx _ => true
  | _ => false

/-- 2 while the reader goroutine can still be handed EOF (one for the environment's step, one for RX). -/
def readerLive (s : St) : Nat :=
  match s.reader with
  | .rx | .gone => 0
  | _ => 2

def ctxs (s : St) : List Bool := s.calls.map (·.ctxDone)
def asyncs (s : St) : List Bool := s.metas.map (·.asyncCalled)

/-- number of `false` entries -/
def cntF : List Bool → Nat
  | [] => 0
  | b :: t => (if b then 0 else 1) + cntF t

/-- call rows whose context has not ended — returned callers included: the count grows with the history -/
def liveCtx (s : St) : Nat := cntF (ctxs s)
/-- request rows that have not called `Async` — notifications, refused and finished requests included -/
def syncs (s : St) : Nat := cntF (asyncs s)

def mu2 (s : St) : Nat := mu s + readerLive s + liveCtx s + syncs s

theorem cntF_modify_true (l : List Bool) (k : Nat) (h : l[k]? = some false) :
    cntF (l.modify k fun _ => true) + 1 = cntF l := by
  induction l generalizing k with
  | nil => simp at h
  | cons a t ih =>
    cases k with
    | zero => simp at h; subst h; simp [List.modify, cntF]; omega
    | succ k => simp at h; have := ih k h; simp [List.modify, cntF] at this ⊢; omega

/-! ### the two flag lists on the control skeleton: only `ectx` / `hasync` flip an entry, only new work adds one -/

theorem ctxs_eq (s : St) : ctxs s = (pview s).calls.map (·.2) := by simp [ctxs, pview, List.map_map, Function.comp_def]
theorem asyncs_eq (s : St) : asyncs s = (pview s).asyncs := rfl

@[simp] theorem ctxs_settle (s : St) : ctxs (settle s) = ctxs s := by
  simp only [ctxs, settle_calls, List.map_map]
  congr 1; funext c; exact settleCall_ctx c
@[simp] theorem asyncs_modCall (s : St) (n : Nat) (f : Call → Call) : asyncs (modCall s n f) = asyncs s := rfl
@[simp] theorem asyncs_settle (s : St) : asyncs (settle s) = asyncs s := by simp only [asyncs, settle_metas]

def Label.touchesCtx : Label → Bool
  | .ecall | .ecallbad | .ectx _ => true
  | _ => false

def Label.touchesAsync : Label → Bool
  | .hasync _ | .read (.call _) | .read .notif | .read (.cancel _) => true
  | _ => false

theorem PStep.ctxs {ok : Prop} {v w : PV} {l : Label} (h : PStep ok v l w) (hl : l.touchesCtx = false) :
    w.calls.map (·.2) = v.calls.map (·.2) := by
  cases h with
  | newCall hl' => rcases hl' with rfl | rfl <;> cases hl
  | ectx => cases hl
  | call | callSpawn => apply map_modify_same; intro; rfl
  | notif => unfold PV.setN; split <;> rfl
  | _ => rfl

theorem PStep.ctxs_ectx {ok : Prop} {v w : PV} {n : Nat} (h : PStep ok v (.ectx n) w) :
    cntF (w.calls.map (·.2)) + 1 = cntF (v.calls.map (·.2)) := by
  cases h with
  | newCall hl' => rcases hl' with hl' | hl' <;> cases hl'
  | park hl' => rcases hl' with hl' | hl' <;> cases hl'
  | ectx h =>
    rw [map_modify_comm _ _ (fun _ => true) (fun _ => rfl)]
    exact cntF_modify_true _ _ (by simp [h])
  | call hl | callSpawn hl | notif hl | req hl | reader hl | unpark hl => cases hl

theorem PStep.asyncs {ok : Prop} {v w : PV} {l : Label} (h : PStep ok v l w) (hl : l.touchesAsync = false) :
    w.asyncs = v.asyncs := by
  cases h with
  | @readReq m hm => cases m <;> first | exact absurd rfl hm.1 | exact absurd rfl (hm.2 _ _) | cases hl
  | hasync => cases hl
  | notif => unfold PV.setN; split <;> rfl
  | _ => rfl

theorem PStep.asyncs_hasync {ok : Prop} {v w : PV} {r : Nat} (h : PStep ok v (.hasync r) w) : cntF w.asyncs + 1 = cntF v.asyncs := by
  cases h with
  | newCall hl' => rcases hl' with hl' | hl' <;> cases hl'
  | park hl' => rcases hl' with hl' | hl' <;> cases hl'
  | hasync h => exact cntF_modify_true _ _ h
  | call hl | callSpawn hl | notif hl | req hl | reader hl | unpark hl => cases hl

theorem PStep.mu_flag {ok : Prop} {v w : PV} {l : Label} (h : PStep ok v l w) (hl : (∃ n, l = .ectx n) ∨ ∃ r, l = .hasync r) :
    w.mu = v.mu := by
  cases h with
  | @ectx n =>
    have := sumBy_modify_same (fun y : CallPc × Bool => wCall y.1) v.calls (n - 1) (fun y => (y.1, true)) (fun _ => rfl)
    simp only [PV.mu, this]
  | hasync => rfl
  | newCall hl' => rcases hl' with rfl | rfl <;> rcases hl with ⟨_, h⟩ | ⟨_, h⟩ <;> cases h
  | park hl' => rcases hl' with rfl | rfl <;> rcases hl with ⟨_, h⟩ | ⟨_, h⟩ <;> cases h
  | enotify | readReq | readIn | d1Empty => rcases hl with ⟨_, h⟩ | ⟨_, h⟩ <;> cases h
  | call hm | callSpawn hm | notif hm | req hm | reader hm | unpark hm => rcases hl with ⟨_, rfl⟩ | ⟨_, rfl⟩ <;> cases hm

theorem liveCtx_step {s s' : St} {l : Label} (h : step s l = some s') (hl : l.touchesCtx = false) : liveCtx s' = liveCtx s := by
  simp only [step, Option.map_eq_some_iff] at h
  obtain ⟨s0, h0, rfl⟩ := h
  simp only [liveCtx, ctxs_settle]
  rw [ctxs_eq, ctxs_eq, (PStep.of_step0 h0).ctxs hl]

theorem liveCtx_ectx {s s' : St} {n : Nat} (h : step s (.ectx n) = some s') : liveCtx s' + 1 = liveCtx s := by
  simp only [step, Option.map_eq_some_iff] at h
  obtain ⟨s0, h0, rfl⟩ := h
  simp only [liveCtx, ctxs_settle]
  rw [ctxs_eq, ctxs_eq]; exact (PStep.of_step0 h0).ctxs_ectx

theorem syncs_step {s s' : St} {l : Label} (h : step s l = some s') (hl : l.touchesAsync = false) : syncs s' = syncs s := by
  simp only [step, Option.map_eq_some_iff] at h
  obtain ⟨s0, h0, rfl⟩ := h
  simp only [syncs, asyncs_settle]
  rw [asyncs_eq, asyncs_eq, (PStep.of_step0 h0).asyncs hl]

theorem syncs_hasync {s s' : St} {r : Nat} (h : step s (.hasync r) = some s') : syncs s' + 1 = syncs s := by
  simp only [step, Option.map_eq_some_iff] at h
  obtain ⟨s0, h0, rfl⟩ := h
  simp only [syncs, asyncs_settle]
  rw [asyncs_eq, asyncs_eq]; exact (PStep.of_step0 h0).asyncs_hasync

/-! ### the reader goroutine: once it has been handed EOF it never reads again -/

theorem toP2_reader (s : St) (r : Nat) : (toP2 s r).reader = s.reader := rfl
theorem modCore_reader (s : St) (r : Nat) (f : ReqCore → ReqCore) : (modCore s r f).reader = s.reader := rfl

theorem reader_step0 {s s0 : St} {l : Label} (h : step0 s l = some s0) (hl : l.setsReader = false) : s0.reader = s.reader :=
  (FStep.of_step0 h).reader hl

theorem readerLive_of {X s : St} (h : X.reader = s.reader) : readerLive X = readerLive s := by simp [readerLive, h]

theorem readerLive_step {s s' : St} {l : Label} (i : Inv4 s) (h : step s l = some s')
    (hl : l.internal = true ∨ l.fulfils = true) :
    readerLive s' ≤ readerLive s ∧ (l = .read .eof → readerLive s' + 2 = readerLive s) := by
  simp only [step, Option.map_eq_some_iff] at h
  obtain ⟨s0, h0, rfl⟩ := h
  rw [readerLive_of (settle_reader s0)]
  refine ⟨?_, fun e => ?_⟩
  · have m : ReaderMove l s.reader s0.reader := (FStep.of_step0 h0).readerMove i.inv.reqs
    unfold readerLive
    generalize s.reader = p at m
    generalize s0.reader = q at m
    cases m <;> first | exact Nat.le_refl _ | exact Nat.zero_le _ | (dsimp only; split <;> omega)
  · subst e
    cases Step0.of_step0 h0 with
    | readEof hrd => simp [readerLive, hrd]

theorem mu2_step_decreases {s s' : St} {l : Label} (i : Inv4 s) (hl : l.internal = true ∨ l.fulfils = true)
    (h : step s l = some s') : mu2 s' < mu2 s := by
  obtain ⟨hr1, hr2⟩ := readerLive_step i h hl
  have hstep := h
  simp only [step, Option.map_eq_some_iff] at h
  obtain ⟨s0, h0, rfl⟩ := h
  have hms := mu_settle_le s0
  have hp := PStep.of_step0 h0
  rw [mu_eq s0] at hms
  simp only [mu2, mu_eq s]
  by_cases hm : l.moves = true
  · -- a process moves on: `mu` drops, no flag flips
    have hmu := hp.mu_lt i.inv.reqs hm
    have h1 := liveCtx_step hstep (by cases l <;> first | rfl | cases hm)
    have h2 := syncs_step hstep (by cases l <;> first | rfl | cases hm)
    omega
  · -- a flag of one row flips, or the reader is handed the failure
    cases l <;> try (exact absurd rfl hm)
    case ectx n =>
      have hmu := hp.mu_flag (.inl ⟨n, rfl⟩)
      have h1 := liveCtx_ectx hstep
      have h2 := syncs_step hstep rfl
      omega
    case hasync r =>
      have hmu := hp.mu_flag (.inr ⟨r, rfl⟩)
      have h1 := liveCtx_step hstep rfl
      have h2 := syncs_hasync hstep
      omega
    case read m =>
      cases m <;> try (rcases hl with hl | hl <;> cases hl)
      have hmu := hp.mu_read (.inl rfl)
      have h1 := liveCtx_step hstep rfl
      have h2 := syncs_step hstep rfl
      have := hr2 rfl
      omega
    all_goals (rcases hl with hl | hl <;> cases hl)

/-- From ANY reachable state (shutting down or not): the environment can fulfil each obligation only finitely often, and the
connection cannot keep itself busy in between. -/
theorem shutdown_run_bounded (pre ls : List Label) (s s' : St) (h0 : run {} pre = some s)
    (hok : ∀ l ∈ ls, l.internal = true ∨ l.fulfils = true) (h : run s ls = some s') : ls.length + mu2 s' ≤ mu2 s :=
  run_bounded (I := Inv4) (ok := fun _ l => l.internal = true ∨ l.fulfils = true) inv4_step
    (fun i hl h => mu2_step_decreases i hl h) ls (inv4_run pre inv4_init h0) (runAll_of_forall hok s) h

/-- **`Close` terminates, with the environment in the run (C05).** From a reachable state in which shutdown has begun — handlers
may be running, writes pending, calls awaiting the peer, the reader reading — any interleaving of critical sections and
fulfilling steps is at most `mu2 s` long and, if it ends maximal with no obligation outstanding, ends terminated. -/
theorem close_terminates_env (pre ls : List Label) (s s' : St) (h0 : run {} pre = some s)
    (hsd : s.shuttingDown = true) (hok : ∀ l ∈ ls, l.internal = true ∨ l.fulfils = true) (h : run s ls = some s')
    (hmax : Maximal s') (ob : Obligations s') :
    ls.length ≤ mu2 s ∧ s'.done = true ∧ AllReturned s' ∧ Quiescent s' := by
  have hb := shutdown_run_bounded pre ls s s' h0 hok h
  exact ⟨by omega, terminated_of_run h0 hsd h hmax ob⟩

/-- **close_terminates_env is not vacuous**: from the closing state with a running handler (`closingBusy`,
obligation (a) outstanding, `mu = 17`, `mu2 = 20`) the handler returns, the connection writes its response, the
write returns, the transport's `Read` fails (the peer closes), the connection finishes the request and closes the
transport, the reader exits, `Close()` and `Wait()` return: 10 labels, environment and connection interleaved. -/
theorem close_terminates_env_nonvacuous :
    ∃ s s', run {} closingBusy = some s ∧ s.shuttingDown = true ∧ s.done = false ∧ HandlerRunning s ∧
      (∀ l ∈ envPart ++ connPart, l.internal = true ∨ l.fulfils = true) ∧ run s (envPart ++ connPart) = some s' ∧
      Maximal s' ∧ Obligations s' ∧ (envPart ++ connPart).length ≤ mu2 s ∧ s'.done = true ∧ AllReturned s' ∧ Quiescent s' := by
  refine ⟨_, _, rfl, rfl, rfl, (handlerRunningB_iff _).mp rfl, by decide, rfl, ?_, ?_, ?_⟩
  · exact maximal_of_enabledB rfl
  · exact (obligationsB_iff _).mp rfl
  · exact close_terminates_env closingBusy (envPart ++ connPart) _ _ rfl rfl (by decide) rfl
      (maximal_of_enabledB rfl) ((obligationsB_iff _).mp rfl)

end Conn
