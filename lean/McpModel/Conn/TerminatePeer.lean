import McpModel.Conn.TerminateEnv
/-!
# C05 liveness with the peer's answers in the run

`close_terminates_env` lets the environment discharge obligation (c) — "no registered outgoing call with a
live context still awaits the peer" — by ending the caller's context or by failing the reader. The third
way, the one `closing_progress` names, is the peer's *answer*: the transport's `Read` returns a response
whose id is registered (`read (.resp id p)` with `id ∈ outCalls`). Whether a `read` label is such an
answer depends on the state, so the runs are described by `FulfilRun`. During shutdown the table of
registered calls only shrinks (`FStep.outCalls`), each answer removes its call from the table, so
the number of answers is bounded by the registered calls not yet answered, `pendingPeer`; the measure is
`mu3 = mu2 + 2 · pendingPeer`.
-/
namespace Conn

/-- The reader holds the peer's response to call `n`, not yet processed (parked before RR). -/
def answered (s : St) (n : Nat) : Bool :=
  match s.reader with
  | .rr id _ => id == n
  | _ => false

/-- registered calls whose answer has not been read off the transport -/
def pendingPeer (s : St) : Nat := (s.outCalls.filter (fun n => !answered s n)).length

def mu3 (s : St) : Nat := mu2 s + 2 * pendingPeer s

/-- The peer answers a registered call: the transport's `Read` returns a response carrying its id. -/
def answers (s : St) : Label → Bool
  | .read (.resp id _) => s.outCalls.contains id
  | _ => false

def FulfilStep (s : St) (l : Label) : Prop := l.internal = true ∨ l.fulfils = true ∨ answers s l = true

/-- `RunAll FulfilStep` (Step.lean), written out: whether a `read` is an answer depends on the state the run passes through. -/
def FulfilRun : St → List Label → Prop
  | _, [] => True
  | s, l :: ls => FulfilStep s l ∧ ∀ s1, step s l = some s1 → FulfilRun s1 ls

/-! ### who is `answered` changes only at `read (.resp …)` and RR -/

theorem answered_of_reader {X s : St} (h : X.reader = s.reader) (n : Nat) : answered X n = answered s n := by
  simp [answered, h]

theorem answered_false {s : St} (h : ∀ id p, s.reader ≠ .rr id p) (n : Nat) : answered s n = false := by
  unfold answered
  split
  · rename_i id p hr; exact absurd hr (h id p)
  · rfl

theorem answered_step {s s' : St} {l : Label} (i : Inv4 s) (h : step s l = some s')
    (hl : l.internal = true ∨ l.fulfils = true) (hrr : l ≠ .rresp) : ∀ n, answered s' n = answered s n := by
  intro n
  simp only [step, Option.map_eq_some_iff] at h
  obtain ⟨s0, h0, rfl⟩ := h
  rw [answered_of_reader (settle_reader s0)]
  have m : ReaderMove l s.reader s0.reader := (FStep.of_step0 h0).readerMove i.inv.reqs
  unfold answered
  generalize s.reader = p at m
  generalize s0.reader = q at m
  cases m with
  | rresp => exact absurd rfl hrr
  | read _ hm =>
    -- `Read` returning a response is the peer's step, neither a critical section nor a fulfilling one
    cases q with
    | rr id p => cases hm id p rfl; rcases hl with hl | hl <;> cases hl
    | _ => rfl
  | _ => rfl

theorem pendingPeer_of_not_rr {s : St} (h : ∀ id p, s.reader ≠ .rr id p) : pendingPeer s = s.outCalls.length := by
  unfold pendingPeer
  rw [List.filter_eq_self.mpr fun n _ => by rw [answered_false h]; rfl]

theorem pendingPeer_rr {s : St} {id p : Nat} (hnd : s.outCalls.Nodup) (h : s.reader = .rr id p) :
    pendingPeer s = (s.outCalls.erase id).length := by
  unfold pendingPeer
  rw [List.Nodup.erase_eq_filter hnd]
  congr 2; funext n
  simp only [answered, h]
  by_cases hn : id = n
  · subst hn; simp
  · have h1 : (id == n) = false := by simpa using hn
    have h2 : (n != id) = true := by simpa using Ne.symm hn
    rw [h1, h2]; rfl

theorem pendingPeer_le_of {s s' : St} (hsub : s'.outCalls.Sublist s.outCalls) (ha : ∀ n, answered s' n = answered s n) :
    pendingPeer s' ≤ pendingPeer s := by
  unfold pendingPeer
  have : (fun n => !answered s' n) = (fun n => !answered s n) := by funext n; rw [ha]
  rw [this]
  exact (List.Sublist.filter _ hsub).length_le

/-- RR: the answered call (if still registered) leaves the table; nobody else was answered. -/
theorem pendingPeer_rresp {s s' : St} (i : Inv4 s) (h : step s .rresp = some s') : pendingPeer s' = pendingPeer s := by
  have hnd := i.inv.calls.nodup
  obtain ⟨s0, h0, rfl⟩ := step_some.1 h
  cases Step0.of_step0 h0 with
  | @rresp id p hrd =>
    rw [pendingPeer_rr hnd hrd, pendingPeer_of_not_rr (by intro _ _; rw [settle_reader, tail_reader, retireReg_eq]; nofun), oc_settle,
      tail_outCalls]
    unfold retireReg
    split
    · rw [oc_retireIn]
    · rename_i hc
      rw [List.erase_of_not_mem (by simpa using hc)]

theorem pendingPeer_answer {s s' : St} {id p : Nat} (i : Inv4 s) (h : step s (.read (.resp id p)) = some s')
    (hreg : s.outCalls.contains id = true) : pendingPeer s' + 1 = pendingPeer s ∧ mu s' ≤ mu s + 1 ∧
      readerLive s' = readerLive s := by
  have hnd := i.inv.calls.nodup
  obtain ⟨s0, h0, rfl⟩ := step_some.1 h
  have hle : mu (settle s0) ≤ mu s + 1 := by
    have := mu_settle_le s0
    rwa [mu_eq s0, (PStep.of_step0 h0).mu_read (.inr ⟨_, _, rfl⟩), ← mu_eq] at this
  cases Step0.of_step0 h0 with | readResp hrd => ?_
  have hmem : id ∈ s.outCalls := by simpa using hreg
  refine ⟨?_, hle, by rw [readerLive_of (settle_reader _)]; simp [readerLive, hrd]⟩
  rw [pendingPeer_of_not_rr (s := s) (by simp [hrd]),
    pendingPeer_rr (s := settle { s with reader := .rr id p }) (id := id) (p := p) ((oc_settle _).symm ▸ hnd) (settle_reader _),
    oc_settle]
  show (s.outCalls.erase id).length + 1 = s.outCalls.length
  rw [List.length_erase_of_mem hmem]
  have := List.length_pos_of_mem hmem
  omega

/-- Needs `shuttingDown` (otherwise calls are still being registered); `mu2_step_decreases` does not. -/
theorem mu3_step_decreases {s s' : St} {l : Label} (i : Inv4 s) (hsd : s.shuttingDown = true) (hl : FulfilStep s l)
    (h : step s l = some s') : mu3 s' < mu3 s := by
  -- during shutdown the table of registered calls only shrinks
  have hsub : s'.outCalls.Sublist s.outCalls := by
    obtain ⟨s0, h0, rfl⟩ := step_some.1 h
    rw [oc_settle]; exact (FStep.of_step0 h0).outCalls.2 hsd
  rcases hl with hl | hl | hl
  · have hm := mu2_step_decreases i (.inl hl) h
    have hp : pendingPeer s' ≤ pendingPeer s := by
      by_cases hrr : l = .rresp
      · subst hrr; exact Nat.le_of_eq (pendingPeer_rresp i h)
      · exact pendingPeer_le_of hsub (answered_step i h (.inl hl) hrr)
    simp only [mu3]; omega
  · have hm := mu2_step_decreases i (.inr hl) h
    have hp := pendingPeer_le_of hsub (answered_step i h (.inr hl) (by rintro rfl; cases hl))
    simp only [mu3]; omega
  · -- the peer's answer
    cases l <;> simp [answers] at hl
    rename_i m
    cases m <;> simp at hl
    rename_i id p
    obtain ⟨hp, hmu, hrl⟩ := pendingPeer_answer i h (by simpa using hl)
    have h1 := liveCtx_step h (l := .read (.resp id p)) rfl
    have h2 := syncs_step h (l := .read (.resp id p)) rfl
    simp only [mu3, mu2]; omega

theorem shutdown_run_bounded_peer (pre ls : List Label) (s s' : St) (h0 : run {} pre = some s)
    (hsd : s.shuttingDown = true) (hok : FulfilRun s ls) (h : run s ls = some s') : ls.length + mu3 s' ≤ mu3 s := by
  refine run_bounded (I := fun s => Inv4 s ∧ s.shuttingDown = true) (ok := FulfilStep) (m := mu3)
    (fun i h => ⟨inv4_step i.1 h, shuttingDown_mono_step h i.2⟩) (fun i hl h => mu3_step_decreases i.1 i.2 hl h) ls
    ⟨inv4_run pre inv4_init h0, hsd⟩ ?_ h
  clear h h0 hsd
  induction ls generalizing s with
  | nil => trivial
  | cons l ls ih => exact ⟨hok.1, fun s1 h1 => ih s1 (hok.2 s1 h1)⟩

/-- **`Close` terminates, with the peer's answers in the run (C05)**: `close_terminates_env` with the third way to discharge
obligation (c); the bound is `mu3 s`. -/
theorem close_terminates_peer (pre ls : List Label) (s s' : St) (h0 : run {} pre = some s)
    (hsd : s.shuttingDown = true) (hok : FulfilRun s ls) (h : run s ls = some s')
    (hmax : Maximal s') (ob : Obligations s') :
    ls.length ≤ mu3 s ∧ s'.done = true ∧ AllReturned s' ∧ Quiescent s' := by
  have hb := shutdown_run_bounded_peer pre ls s s' h0 hsd hok h
  exact ⟨by omega, terminated_of_run h0 hsd h hmax ob⟩

/-- A client that called `Close` while one of its calls awaits the peer (obligation (c) outstanding). -/
def closingAwaiting : List Label := [.start, .ecall, .c1 1, .w1 (.call 1), .wret (.call 1) .ok, .eclose, .cl1]

/-- the peer answers, the reader matches the response, the transport is closed and its `Read` fails, the
reader exits, `Close()` returns -/
def peerPart : List Label := [.read (.resp 1 42), .rresp, .read .eof, .rx, .wt false]

def awaitingSt : St := (run {} closingAwaiting).getD {}
def answeredSt : St := (run awaitingSt peerPart).getD {}

theorem awaitingSt_run : run {} closingAwaiting = some awaitingSt := rfl
theorem answeredSt_run : run awaitingSt peerPart = some answeredSt := rfl

theorem peerPart_fulfils : FulfilRun awaitingSt peerPart := by
  refine ⟨Or.inr (Or.inr rfl), fun s1 h1 => ?_⟩
  have e1 : s1 = (step awaitingSt (.read (.resp 1 42))).getD {} := by rw [h1]; rfl
  subst e1
  refine ⟨Or.inl rfl, fun s2 h2 => ?_⟩
  have e2 : s2 = (step ((step awaitingSt (.read (.resp 1 42))).getD {}) .rresp).getD {} := by rw [h2]; rfl
  subst e2
  refine ⟨Or.inr (Or.inl rfl), fun s3 h3 => ?_⟩
  refine ⟨Or.inl rfl, fun s4 h4 => ?_⟩
  exact ⟨Or.inl rfl, fun _ _ => trivial⟩

/-- **close_terminates_peer is not vacuous**: Close with a call awaiting the peer (obligation (c)
outstanding); the peer answers. The caller gets the peer's payload although Close had already been called. -/
theorem close_terminates_peer_nonvacuous :
    run {} closingAwaiting = some awaitingSt ∧ awaitingSt.shuttingDown = true ∧ awaitingSt.done = false ∧
      AwaitingPeer awaitingSt ∧ FulfilRun awaitingSt peerPart ∧ run awaitingSt peerPart = some answeredSt ∧
      Maximal answeredSt ∧ Obligations answeredSt ∧ peerPart.length ≤ mu3 awaitingSt ∧ answeredSt.done = true ∧
      AllReturned answeredSt ∧ Quiescent answeredSt ∧
      (∃ c, getCall answeredSt 1 = some c ∧ c.result = some (.resp 42)) := by
  have hm : Maximal answeredSt := maximal_of_enabledB rfl
  have ho : Obligations answeredSt := (obligationsB_iff _).mp rfl
  have hct := close_terminates_peer closingAwaiting peerPart _ _ awaitingSt_run rfl peerPart_fulfils answeredSt_run hm ho
  exact ⟨rfl, rfl, rfl, (awaitingPeerB_iff _).mp rfl, peerPart_fulfils, rfl, hm, ho, hct.1, hct.2.1, hct.2.2.1, hct.2.2.2,
    _, rfl, rfl⟩

end Conn
