import McpModel.Conn.Step
/-! What an atomic section does to the outgoing calls, one record at a time: `CRow … n c l c'` (label `l` takes the record
`c` of call `n` to `c'`) and `CStep0 s l s'` (every record moves by a `CRow`, records are appended by `ecall`/`ecallbad`
only, the table, the log of responses and the double-retire flag change as stated).  What the invariants, the caller's
progress and the bridge say about a call under a step is a `cases` on a `CRow`. -/
namespace Conn

theorem getCall_eq (s : St) (n : Nat) : getCall s n = if n = 0 then none else s.calls[n - 1]? := rfl

theorem getCall_some_pos {s : St} {n : Nat} {c : Call} (h : getCall s n = some c) : 1 ≤ n ∧ n ≤ s.calls.length := by
  simp only [getCall_eq] at h
  by_cases hn : n = 0
  · simp [hn] at h
  · simp only [hn, if_false] at h
    have := (List.getElem?_eq_some_iff.mp h).1
    omega

theorem getCall_some_iff {s : St} {n : Nat} : (∃ c, getCall s n = some c) ↔ 1 ≤ n ∧ n ≤ s.calls.length := by
  refine ⟨fun ⟨_, h⟩ => getCall_some_pos h, fun h => ?_⟩
  have : n ≠ 0 := by omega
  exact ⟨s.calls[n - 1], by simp only [getCall_eq, this, if_false]; exact List.getElem?_eq_getElem (by omega)⟩

theorem calls_get {s : St} {n : Nat} {c : Call} (hc : getCall s n = some c) : s.calls[n - 1]? = some c := by
  have hn := (getCall_some_pos hc).1
  simp only [getCall_eq] at hc; have : n ≠ 0 := by omega
  simpa [this] using hc

theorem getCall_of_calls {s1 s2 : St} (h : s1.calls = s2.calls) (n : Nat) : getCall s1 n = getCall s2 n := by
  simp [getCall_eq, h]

@[simp] theorem getCall_tail (s : St) (n : Nat) : getCall (tail s) n = getCall s n := getCall_of_calls (tail_calls s) n

theorem getCall_modCall (s : St) (n m : Nat) (f : Call → Call) (hn : 1 ≤ n) :
    getCall (modCall s n f) m = if m = n then (getCall s n).map f else getCall s m := by
  simp only [getCall_eq, modCall]
  by_cases hm : m = 0
  · subst hm; have : (0 : Nat) ≠ n := by omega
    simp [this]
  · simp only [hm, if_false]
    by_cases hmn : m = n
    · subst hmn; simp [List.getElem?_modify_eq, hm]
    · have : n - 1 ≠ m - 1 := by omega
      simp [hmn, List.getElem?_modify_ne _ _ this]

theorem getCall_append_iff {s : St} {n : Nat} {c x : Call} :
    getCall { s with calls := s.calls ++ [x] } n = some c ↔ getCall s n = some c ∨ (n = s.calls.length + 1 ∧ c = x) := by
  simp only [getCall_eq]
  by_cases hn : n = 0
  · simp [hn]
  · simp only [hn, if_false, List.getElem?_append]
    by_cases hlt : n - 1 < s.calls.length
    · simp only [hlt, if_true]
      exact ⟨.inl, fun h => h.resolve_right fun h => by omega⟩
    · rw [if_neg hlt, List.getElem?_eq_none (by omega : s.calls.length ≤ n - 1)]
      by_cases he : n = s.calls.length + 1
      · subst he; simp [eq_comm]
      · rw [List.getElem?_eq_none (by simp; omega)]; simp [he]

theorem getCall_append {s : St} {n : Nat} {c : Call} (x : Call) (hc : getCall s n = some c) :
    getCall { s with calls := s.calls ++ [x] } n = some c := getCall_append_iff.mpr (.inl hc)

theorem getCall_retireIn_eq (s : St) (n m : Nat) (r : Res) :
    getCall (retireIn s n r) m = if m = n then (getCall s n).map (fun c => (retireCall c r).1) else getCall s m := by
  unfold retireIn
  cases hc : getCall s n with
  | none =>
    by_cases hmn : m = n
    · subst hmn; simp [hc]
    · simp [hmn]
  | some c =>
    have key : getCall (modCall s n fun _ => (retireCall c r).1) m =
        if m = n then some (retireCall c r).1 else getCall s m := by
      rw [getCall_modCall _ _ _ _ (getCall_some_pos hc).1, hc]; rfl
    simp only [Option.map_some]
    rw [← key]
    split <;> exact getCall_of_calls rfl m

theorem retireIn_length (s : St) (n : Nat) (r : Res) : (retireIn s n r).calls.length = s.calls.length := by
  unfold retireIn
  split
  · rfl
  · simp only []; split <;> simp [modCall]

theorem retireIn_panic (s : St) (n : Nat) (r : Res) (h : (retireIn s n r).panicRetire = true) :
    s.panicRetire = true ∨ ∃ c, getCall s n = some c ∧ c.ready.isSome = true := by
  unfold retireIn at h
  cases hc : getCall s n with
  | none => rw [hc] at h; exact .inl h
  | some c =>
    rw [hc] at h
    cases hr : c.ready with
    | none => simp [retireCall, hr, modCall] at h; exact .inl h
    | some x => exact .inr ⟨c, rfl, by simp [hr]⟩

theorem retireCall_frame (c : Call) (r : Res) : (retireCall c r).1.pc = c.pc ∧ (retireCall c r).1.ctxDone = c.ctxDone ∧
    (retireCall c r).1.result = c.result ∧ (retireCall c r).1.registered = c.registered := by
  unfold retireCall; split <;> exact ⟨rfl, rfl, rfl, rfl⟩

theorem retireCall_ready (c : Call) (r x : Res) (h : c.ready = some x) : (retireCall c r).1 = c := by
  simp [retireCall, h]

theorem retireCall_idem (c : Call) (r : Res) : (retireCall (retireCall c r).1 r).1 = (retireCall c r).1 := by
  cases h : c.ready with
  | some x => rw [retireCall_ready c r x h, retireCall_ready c r x h]
  | none => exact retireCall_ready _ r r (by simp [retireCall, h])

/-- RX.  A number listed twice is retired once and panics: hence `Nodup` in the last part. -/
theorem foldl_retireIn (r : Res) (l : List Nat) (s : St) :
    (∀ m, getCall (l.foldl (fun s n => retireIn s n r) s) m =
      if m ∈ l then (getCall s m).map (fun c => (retireCall c r).1) else getCall s m) ∧
    (l.foldl (fun s n => retireIn s n r) s).calls.length = s.calls.length ∧
    (l.foldl (fun s n => retireIn s n r) s).outCalls = s.outCalls ∧
    (l.foldl (fun s n => retireIn s n r) s).respLog = s.respLog ∧
    (l.Nodup → (l.foldl (fun s n => retireIn s n r) s).panicRetire = true →
      s.panicRetire = true ∨ ∃ n ∈ l, ∃ c, getCall s n = some c ∧ c.ready.isSome = true) := by
  induction l generalizing s with
  | nil => simp
  | cons a t ih =>
    obtain ⟨g, h1, h2, h3, h4⟩ := ih (retireIn s a r)
    have hf := retireIn_footprint s a r
    refine ⟨fun m => ?_, h1.trans (retireIn_length s a r), h2.trans (by rw [hf]), h3.trans (by rw [hf]), fun hnd hp => ?_⟩
    · simp only [List.foldl_cons, g m, getCall_retireIn_eq, List.mem_cons]
      by_cases hma : m = a
      · subst hma
        cases hc : getCall s m <;> by_cases hmt : m ∈ t <;> simp [hmt, retireCall_idem]
      · by_cases hmt : m ∈ t <;> simp [hma, hmt]
    · obtain ⟨hat, hnd'⟩ := List.nodup_cons.mp hnd
      rcases h4 hnd' hp with hp | ⟨n, hn, c, hc, hr⟩
      · rcases retireIn_panic s a r hp with hp | ⟨c, hc, hr⟩
        · exact .inl hp
        · exact .inr ⟨a, List.mem_cons_self, c, hc, hr⟩
      · rw [getCall_retireIn_eq, if_neg (show ¬ n = a from fun e => hat (e ▸ hn))] at hc
        exact .inr ⟨n, List.mem_cons_of_mem _ hn, c, hc, hr⟩

def Label.callIdx : Label → Option Nat
  | .ectx m | .wret (.call m) _ | .c1 m | .retire m | .w1 (.call m) | .w2 (.call m) => some m
  | _ => none

/-- `sd`: the connection was shutting down before; `reg`: the call was in the table of registered calls before; `ina`: it
is there afterwards; `log'`: the responses read so far, afterwards.  A premise `ok →` needs a table without duplicates. -/
inductive CRow (ok : Prop) (sd reg : Bool) (ina : Prop) (log' : List (Nat × Nat)) (n : Nat) (c : Call) : Label → Call → Prop
  | same {l} (hl : l.callIdx ≠ some n) (ha : ina ↔ reg = true) : CRow ok sd reg ina log' n c l c
  | rresp {p} (hr : reg = true) (ha : ok → ¬ ina) (hl : (n, p) ∈ log') : CRow ok sd reg ina log' n c .rresp (retireCall c (.resp p)).1
  | rx (hr : reg = true) (ha : ¬ ina) : CRow ok sd reg ina log' n c .rx (retireCall c (.err .read)).1
  | ectx (hx : c.ctxDone = false) (ha : ina ↔ reg = true) : CRow ok sd reg ina log' n c (.ectx n) { c with ctxDone := true }
  | c1 (hpc : c.pc = .c1) (hsd : sd = false) (ha : ina) : CRow ok sd reg ina log' n c (.c1 n) { c with pc := .w1, registered := true }
  | c1Refused (hpc : c.pc = .c1) (hsd : sd = true) (ha : ina ↔ reg = true) :
      CRow ok sd reg ina log' n c (.c1 n) (retireCall { c with pc := .await } (.err .clientClosing)).1
  | w1 (hpc : c.pc = .w1) (hsd : sd = false) (ha : ina ↔ reg = true) : CRow ok sd reg ina log' n c (.w1 (.call n)) { c with pc := .wr }
  | w1Shut (hpc : c.pc = .w1) (hsd : sd = true) (ha : ina ↔ reg = true) :
      CRow ok sd reg ina log' n c (.w1 (.call n)) { c with pc := .r .serverClosing }
  | wretOk (hpc : c.pc = .wr) (hx : c.ctxDone = false) (ha : ina ↔ reg = true) :
      CRow ok sd reg ina log' n c (.wret (.call n) .ok) { c with pc := .await }
  | wretBroken (hpc : c.pc = .wr) (hx : c.ctxDone = false) (ha : ina ↔ reg = true) :
      CRow ok sd reg ina log' n c (.wret (.call n) .broken) { c with pc := .w2 .broken }
  | wretBrokenCtx (hpc : c.pc = .wr) (hx : c.ctxDone = true) (ha : ina ↔ reg = true) :
      CRow ok sd reg ina log' n c (.wret (.call n) .broken) { c with pc := .r .broken }
  | wretRejected (hpc : c.pc = .wr) (ha : ina ↔ reg = true) :
      CRow ok sd reg ina log' n c (.wret (.call n) .rejected) { c with pc := .r .rejected }
  | wretCtx (hpc : c.pc = .wr) (hx : c.ctxDone = true) (ha : ina ↔ reg = true) :
      CRow ok sd reg ina log' n c (.wret (.call n) .ctx) { c with pc := .r .ctx }
  | w2 {e} (hpc : c.pc = .w2 e) (ha : ina ↔ reg = true) : CRow ok sd reg ina log' n c (.w2 (.call n)) { c with pc := .r e }
  | retire {e} (hpc : c.pc = .r e) (ha : ok → ¬ ina) :
      CRow ok sd reg ina log' n c (.retire n) { (if reg then (retireCall c (.err e)).1 else c) with pc := .await }
  | retireRc (hpc : c.pc = .rc) (ha : ok → ¬ ina) :
      CRow ok sd reg ina log' n c (.retire n)
        { (if reg then (retireCall c (.err .ctx)).1 else c) with pc := .fin, result := some (.err .ctx) }

theorem CRow.ctxDone {ok ina : Prop} {sd reg : Bool} {log' : List (Nat × Nat)} {l : Label} {n : Nat} {c c' : Call}
    (r : CRow ok sd reg ina log' n c l c') : c'.ctxDone = c.ctxDone ∨ (l = .ectx n ∧ c.ctxDone = false ∧ c'.ctxDone = true) := by
  cases r with
  | ectx hx => exact .inr ⟨rfl, hx, rfl⟩
  | rresp | rx | c1Refused => exact .inl (retireCall_frame _ _).2.1
  | retire | retireRc => left; cases reg <;> first | rfl | exact (retireCall_frame _ _).2.1
  | _ => exact .inl rfl

structure CStep0 (s : St) (l : Label) (s' : St) : Prop where
  row : ∀ n c, getCall s n = some c → ∃ c', getCall s' n = some c' ∧
    CRow s.outCalls.Nodup s.shuttingDown (s.outCalls.contains n) (n ∈ s'.outCalls) s'.respLog n c l c'
  length : s'.calls.length = s.calls.length + if l = .ecall ∨ l = .ecallbad then 1 else 0
  outCalls : s'.outCalls.Sublist s.outCalls ∨
    ∃ n c, l = .c1 n ∧ getCall s n = some c ∧ c.pc = .c1 ∧ s'.outCalls = s.outCalls ++ [n]
  respLog : s'.respLog = s.respLog ∨ ∃ id p, l = .rresp ∧ s.reader = .rr id p ∧ s'.respLog = s.respLog ++ [(id, p)]
  /-- a double retire: of a listed call whose outcome was fixed, or at C1, whose refusal retires a call it never registered -/
  panic : s.outCalls.Nodup → s'.panicRetire = true →
    s.panicRetire = true ∨ ∃ n c, getCall s n = some c ∧ c.ready.isSome = true ∧ (n ∈ s.outCalls ∨ c.pc = .c1)


def Label.touchesCalls : Label → Bool
  | .ecall | .ecallbad | .ectx _ | .wret (.call _) _ | .c1 _ | .retire _ | .rresp | .rx
  | .w1 (.call _) | .w2 (.call _) => true
  | _ => false

theorem frame_calls (s s' : St) (l : Label) (h : step0 s l = some s') (hl : l.touchesCalls = false) :
    callView s' = callView s := by
  cases Step0.of_step0 h with
  | ecall | ecallbad | ectx | wretCallOk | wretCallBroken | wretCallBrokenCtx | wretCallRejected | wretCallCtx
  | c1Refused | c1 | retireR | retireRc | rresp | rx | w1Call | w1CallShut | w2Call => cases hl
  | p2 => simp only [callView_afterP2, callView_tail, callView_modCore]; split <;> rfl
  | _ =>
    (try simp only [callView_tail, callView_modCore, callView_modMeta, callView_cancelReq, callView_toP2,
      callView_beginPR, callView_markBroken, callView_setNotif]) <;> rfl

theorem callIdx_of_touchesCalls {l : Label} (h : l.touchesCalls = false) : l.callIdx = none := by
  cases l <;> first | rfl | cases h | (rename_i w; cases w <;> first | rfl | cases h) | (rename_i w _; cases w <;> first | rfl | cases h)

theorem getCall_retireReg (s : St) (k m : Nat) (r : Res) :
    getCall (retireReg s k r) m =
      if m = k ∧ s.outCalls.contains k = true then (getCall s k).map (fun c => (retireCall c r).1) else getCall s m := by
  unfold retireReg
  by_cases hk : s.outCalls.contains k = true
  · rw [if_pos hk, getCall_retireIn_eq]
    by_cases hm : m = k
    · simp only [hm, hk, and_self, if_true]; rfl
    · simp only [hm, false_and, if_false]; rfl
  · rw [if_neg hk, if_neg fun h => hk h.2]

theorem retireReg_tables (s : St) (k : Nat) (r : Res) :
    (retireReg s k r).outCalls = s.outCalls.erase k ∧ (retireReg s k r).respLog = s.respLog ∧
    (retireReg s k r).calls.length = s.calls.length ∧
    ((retireReg s k r).panicRetire = true →
      s.panicRetire = true ∨ ∃ c, getCall s k = some c ∧ c.ready.isSome = true ∧ k ∈ s.outCalls) := by
  unfold retireReg
  by_cases hk : s.outCalls.contains k = true
  · rw [if_pos hk, retireIn_footprint]
    refine ⟨rfl, rfl, retireIn_length _ k r, fun hp => ?_⟩
    rcases retireIn_panic _ k r hp with hp | ⟨c, hc, hr⟩
    · exact .inl hp
    · exact .inr ⟨c, hc, hr, by simpa using hk⟩
  · rw [if_neg hk]
    exact ⟨(List.erase_of_not_mem (by simpa using hk)).symm, rfl, rfl, .inl⟩

theorem mem_erase_self {l : List Nat} (hnd : l.Nodup) (k : Nat) : k ∉ l.erase k :=
  fun h => absurd ((List.Nodup.mem_erase_iff hnd).mp h).1 (by simp)

theorem CStep0.of_step0 {s s' : St} {l : Label} (h : step0 s l = some s') : CStep0 s l s' := by
  -- nothing of the outgoing-call part moves
  have keep {X : St} (hv : callView X = callView s) (hl : ¬ (l = .ecall ∨ l = .ecallbad)) (hi : l.callIdx = none) : CStep0 s l X := by
    have h1 : X.calls = s.calls := congrArg CallView.calls hv
    have h2 : X.outCalls = s.outCalls := congrArg CallView.outCalls hv
    have h3 : X.respLog = s.respLog := congrArg CallView.respLog hv
    have h4 : X.panicRetire = s.panicRetire := congrArg CallView.panicRetire hv
    exact ⟨fun n c hc => ⟨c, (getCall_of_calls h1 n).trans hc, .same (by simp [hi]) (by rw [h2]; simp)⟩, by rw [h1, if_neg hl]; rfl,
      .inl (h2 ▸ List.Sublist.refl _), .inl h3, fun _ hp => .inl (h4 ▸ hp)⟩
  -- the record of call `k` is rewritten by `f`, nothing else moves
  have upd {X : St} {k : Nat} {ck : Call} (f : Call → Call) (hk : getCall s k = some ck)
      (hv : callView X = callView (modCall s k f)) (hl : ¬ (l = .ecall ∨ l = .ecallbad)) (hi : l.callIdx = some k)
      (hf : ∀ ina, (ina ↔ s.outCalls.contains k = true) →
        CRow s.outCalls.Nodup s.shuttingDown (s.outCalls.contains k) ina s.respLog k ck l (f ck)) : CStep0 s l X := by
    have h1 : X.calls = (modCall s k f).calls := congrArg CallView.calls hv
    have h2 : X.outCalls = s.outCalls := congrArg CallView.outCalls hv
    have h3 : X.respLog = s.respLog := congrArg CallView.respLog hv
    have h4 : X.panicRetire = s.panicRetire := congrArg CallView.panicRetire hv
    refine ⟨fun n c hc => ?_, by rw [h1, if_neg hl]; simp [modCall], .inl (h2 ▸ List.Sublist.refl _), .inl h3,
      fun _ hp => .inl (h4 ▸ hp)⟩
    rw [getCall_of_calls h1, getCall_modCall _ _ _ _ (getCall_some_pos hk).1, h2, h3]
    by_cases hnk : n = k
    · subst hnk; rw [hk] at hc; cases hc
      exact ⟨_, by simp [hk], hf _ (by simp)⟩
    · exact ⟨c, by simp [hnk, hc], .same (by simp [hi, Ne.symm hnk]) (by simp)⟩
  -- Retire of call `k`: the record leaves the table (if it is there, retired), then it is rewritten by `f`
  have retired {X : St} {k : Nat} {ck : Call} (r : Res) (f : Call → Call) (hk : getCall s k = some ck)
      (hv : callView X = callView (modCall (retireReg s k r) k f)) (hl : ¬ (l = .ecall ∨ l = .ecallbad)) (hi : l.callIdx = some k)
      (hf : ∀ {ina}, (s.outCalls.Nodup → ¬ ina) → CRow s.outCalls.Nodup s.shuttingDown (s.outCalls.contains k) ina s.respLog k ck l
        (f (if s.outCalls.contains k then (retireCall ck r).1 else ck))) : CStep0 s l X := by
    have hkp := (getCall_some_pos hk).1
    obtain ⟨t1, t2, t3, t4⟩ := retireReg_tables s k r
    have h1 : X.calls = (modCall (retireReg s k r) k f).calls := congrArg CallView.calls hv
    have h2 : X.outCalls = s.outCalls.erase k := (congrArg CallView.outCalls hv).trans t1
    have h3 : X.respLog = s.respLog := (congrArg CallView.respLog hv).trans t2
    have h4 : X.panicRetire = (retireReg s k r).panicRetire := congrArg CallView.panicRetire hv
    refine ⟨fun n c hc => ?_, by rw [h1, if_neg hl]; simp [modCall, t3], .inl (h2 ▸ List.erase_sublist), .inl h3, fun _ hp => ?_⟩
    · rw [getCall_of_calls h1, getCall_modCall _ _ _ _ hkp, getCall_retireReg, getCall_retireReg, h2, h3]
      by_cases hnk : n = k
      · subst hnk; rw [hk] at hc; cases hc
        refine ⟨_, ?_, hf fun hnd => mem_erase_self hnd n⟩
        cases hreg : s.outCalls.contains n <;> simp [hreg, hk]
      · exact ⟨c, by simp [hnk, hc], .same (by simp [hi, Ne.symm hnk]) (by simpa using List.mem_erase_of_ne hnk)⟩
    · rcases t4 (h4 ▸ hp) with hp | ⟨c, hc, hr, hm⟩
      · exact .inl hp
      · exact .inr ⟨k, c, hc, hr, .inl hm⟩
  by_cases hl : l.touchesCalls = false
  · exact keep (frame_calls s s' l h hl) (by rintro (rfl | rfl) <;> cases hl) (callIdx_of_touchesCalls hl)
  cases Step0.of_step0 h with
  | ecall | ecallbad =>
    exact ⟨fun n c hc => ⟨c, getCall_append _ hc, .same (by simp [Label.callIdx]) (by simp)⟩, by simp, .inl (List.Sublist.refl _), .inl rfl, fun _ hp => .inl hp⟩
  | ectx hk hx => exact upd _ hk rfl (by simp) rfl fun _ ha => .ectx hx ha
  | wretCallOk hk hpc hx => exact upd _ hk rfl (by simp) rfl fun _ ha => .wretOk hpc hx ha
  | wretCallBroken hk hpc hx => exact upd _ hk rfl (by simp) rfl fun _ ha => .wretBroken hpc hx ha
  | wretCallBrokenCtx hk hpc hx => exact upd _ hk rfl (by simp) rfl fun _ ha => .wretBrokenCtx hpc hx ha
  | wretCallRejected hk hpc => exact upd _ hk rfl (by simp) rfl fun _ ha => .wretRejected hpc ha
  | wretCallCtx hk hpc hx => exact upd _ hk rfl (by simp) rfl fun _ ha => .wretCtx hpc hx ha
  | w1Call hk hpc hg =>
    exact upd _ hk (callView_tail _) (by simp) rfl fun _ ha => .w1 hpc (by simpa [gateOpen] using hg) ha
  | w1CallShut hk hpc hg =>
    exact upd _ hk (callView_tail _) (by simp) rfl fun _ ha => .w1Shut hpc (by simpa [gateOpen] using hg) ha
  | w2Call hk hpc =>
    refine upd (fun c => { c with pc := .r _ }) hk ((callView_tail _).trans ?_) (by simp) rfl fun _ ha => .w2 hpc ha
    simp only [callView, modCall, markBroken_calls, markBroken_outCalls, markBroken_respLog, markBroken_panicRetire]
  | @c1Refused k ck hk hpc hsd =>
    have hkp := (getCall_some_pos hk).1
    have hg (n : Nat) : getCall (retireIn (modCall (tail s) k fun c => { c with pc := .await }) k (.err .clientClosing)) n =
        if n = k then some (retireCall { ck with pc := .await } (.err .clientClosing)).1 else getCall s n := by
      rw [getCall_retireIn_eq, getCall_modCall _ _ _ _ hkp, getCall_modCall _ _ _ _ hkp]
      by_cases hnk : n = k <;> simp [hnk, hk]
    have hf := retireIn_footprint (modCall (tail s) k fun c => { c with pc := .await }) k (.err .clientClosing)
    have hoc : (retireIn (modCall (tail s) k fun c => { c with pc := .await }) k (.err .clientClosing)).outCalls = s.outCalls := by
      rw [hf]; exact tail_outCalls s
    have hlog : (retireIn (modCall (tail s) k fun c => { c with pc := .await }) k (.err .clientClosing)).respLog = s.respLog := by
      rw [hf]; exact tail_respLog s
    refine ⟨fun n c hc => ?_, by rw [retireIn_length]; simp [modCall], .inl (hoc ▸ List.Sublist.refl _), .inl hlog,
      fun _ hp => ?_⟩
    · rw [hg, hoc, hlog]
      by_cases hnk : n = k
      · subst hnk; rw [hk] at hc; cases hc
        exact ⟨_, if_pos rfl, .c1Refused hpc hsd (by simp)⟩
      · exact ⟨c, by rw [if_neg hnk]; exact hc, .same (by simp [Label.callIdx, Ne.symm hnk]) (by simp)⟩
    · rcases retireIn_panic _ k _ hp with hp | ⟨c, hc, hr⟩
      · exact .inl (by simpa [modCall] using hp)
      · rw [getCall_modCall _ _ _ _ hkp, if_pos rfl, getCall_tail, hk] at hc
        cases hc
        exact .inr ⟨k, ck, hk, hr, .inr hpc⟩
  | @c1 k ck hk hpc hsd =>
    have hkp := (getCall_some_pos hk).1
    refine ⟨fun n c hc => ?_, by simp [modCall], .inr ⟨k, ck, rfl, hk, hpc, by simp [modCall]⟩, .inl (by simp [modCall]),
      fun _ hp => .inl (by simpa [modCall] using hp)⟩
    rw [getCall_tail, getCall_modCall _ _ _ _ hkp]
    by_cases hnk : n = k
    · subst hnk; rw [hk] at hc; cases hc
      exact ⟨_, by rw [if_pos rfl]; exact congrArg _ hk, .c1 hpc (by simpa using hsd) (by simp [modCall])⟩
    · exact ⟨c, by rw [if_neg hnk]; exact hc, .same (by simp [Label.callIdx, Ne.symm hnk]) (by simp [modCall, hnk])⟩
  | retireR hk hpc => exact retired _ (fun c => { c with pc := .await }) hk (by simp [callView, modCall]) (by simp) rfl (.retire hpc)
  | retireRc hk hpc =>
    exact retired _ (fun c => { c with pc := .fin, result := some (.err .ctx) }) hk (by simp [callView, modCall, spawnCancel]) (by simp) rfl
      (.retireRc hpc)
  | @rresp id p hrd =>
    obtain ⟨t1, t2, t3, t4⟩ := retireReg_tables { s with reader := .read, respLog := s.respLog ++ [(id, p)] } id (.resp p)
    refine ⟨fun n c hc => ?_, by simp [t3], .inl (by simp [t1]; exact List.erase_sublist),
      .inr ⟨id, p, rfl, hrd, by simp [t2]⟩, fun _ hp => ?_⟩
    · simp only [getCall_tail, getCall_retireReg, tail_outCalls, tail_respLog, t1, t2]
      by_cases hnk : n = id ∧ s.outCalls.contains id = true
      · obtain ⟨rfl, hreg⟩ := hnk
        refine ⟨(retireCall c (.resp p)).1, ?_, .rresp hreg (fun hnd => mem_erase_self hnd n) (by simp)⟩
        rw [if_pos ⟨rfl, hreg⟩]; exact congrArg _ hc
      · refine ⟨c, by rw [if_neg hnk]; exact hc, .same (by simp [Label.callIdx]) ?_⟩
        by_cases hni : n = id
        · subst hni
          have : n ∉ s.outCalls := by simpa using fun h => hnk ⟨rfl, h⟩
          simp [List.erase_of_not_mem this]
        · simp only [List.contains_iff_mem]; exact List.mem_erase_of_ne hni
    · rcases t4 (by simpa using hp) with hp | ⟨c, hc, hr, hm⟩
      · exact .inl hp
      · exact .inr ⟨id, c, hc, hr, .inl hm⟩
  | rx hrd =>
    obtain ⟨g, f1, f2, f3, f4⟩ := foldl_retireIn (.err .read) s.outCalls { s with reader := .gone, reading := false, readErr := true }
    have hcalls : ∀ X : St, (tail (s.byID.foldl (fun s p => cancelReq s p.2 .read) X)).calls = X.calls := fun X =>
      (tail_calls _).trans (congrArg CallView.calls (callView_foldl_cancel _ _ _))
    have hv := (callView_tail _).trans (callView_foldl_cancel s.byID .read
      { (s.outCalls.foldl (fun s n => retireIn s n (.err .read)) { s with reader := .gone, reading := false, readErr := true }) with
        outCalls := [] })
    have h2 := congrArg CallView.outCalls hv
    have h3 := congrArg CallView.respLog hv
    have h4 := congrArg CallView.panicRetire hv
    simp only [callView] at h2 h3 h4
    refine ⟨fun n c hc => ?_, by rw [hcalls]; simpa using f1, .inl (by rw [h2]; exact List.nil_sublist _),
      .inl (h3.trans f3), fun hnd hp => ?_⟩
    · rw [getCall_of_calls (hcalls _), h2, h3]
      have := g n
      rw [show getCall { s with reader := ReaderPc.gone, reading := false, readErr := true } n = getCall s n from rfl, hc] at this
      by_cases hn : n ∈ s.outCalls
      · exact ⟨_, this.trans (by rw [if_pos hn]; rfl), .rx (by simpa using hn) (by simp)⟩
      · exact ⟨c, this.trans (if_neg hn), .same (by simp [Label.callIdx]) (by simpa using hn)⟩
    · rcases f4 hnd (h4 ▸ hp) with hp | ⟨n, hn, c, hc, hr⟩
      · exact .inl hp
      · exact .inr ⟨n, c, hc, hr, .inl hn⟩
  | wretNotifOk hw | wretNotifBroken hw | wretNotifRejected hw | w1Notif hw | w1NotifShut hw | w2Notif hw =>
    obtain ⟨k, rfl⟩ | ⟨k, rfl⟩ := getNotif_some_cases hw <;> exact absurd rfl hl
  | _ => exact absurd rfl hl

/-- `settleCall`: nothing, or the caller leaves `Await` — with the outcome if its context is live, to the eager Retire if done. -/
inductive Woke (c : Call) : Call → Prop
  | stay (h : c.pc = .await → c.ready = none ∧ c.ctxDone = false) : Woke c c
  | fin {r} (hp : c.pc = .await) (hr : c.ready = some r) (hx : c.ctxDone = false) : Woke c { c with pc := .fin, result := some r }
  | rc (hp : c.pc = .await) (hx : c.ctxDone = true) : Woke c { c with pc := .rc }

theorem Woke.of_settleCall (c : Call) : Woke c (settleCall c) := by
  by_cases hp : c.pc = .await
  · rcases Bool.eq_false_or_eq_true c.ctxDone with hx | hx
    · have e : settleCall c = { c with pc := .rc } := by
        cases hr : c.ready with
        | none => simp [settleCall, hp, hx, hr]
        | some r => cases r <;> simp [settleCall, hp, hx, hr]
      rw [e]; exact .rc hp hx
    · cases hr : c.ready with
      | none => rw [show settleCall c = c by simp [settleCall, hp, hx, hr]]; exact .stay fun _ => ⟨hr, hx⟩
      | some r =>
        rw [show settleCall c = { c with pc := .fin, result := some r } by cases r <;> simp [settleCall, hp, hx, hr]]
        exact .fin hp hr hx
  · rw [show settleCall c = c by simp [settleCall, hp]]; exact .stay fun h => absurd h hp

theorem Woke.frame {c c' : Call} (w : Woke c c') : c'.ctxDone = c.ctxDone ∧ c'.ready = c.ready ∧ c'.registered = c.registered ∧
    c'.retires = c.retires := by
  cases w <;> exact ⟨rfl, rfl, rfl, rfl⟩

theorem Woke.eq {c c' : Call} (w : Woke c c') (h : c.pc ≠ .await) : c' = c := by
  cases w <;> first | rfl | contradiction

theorem settle_calls (s : St) : (settle s).calls = s.calls.map settleCall := congrArg CallView.calls (callView_settle s)

theorem Woke.await {c c' : Call} (w : Woke c c') (h : c'.pc = .await) : c'.ready = none ∧ c'.ctxDone = false := by
  cases w with
  | stay hs => exact hs h
  | fin => cases h
  | rc => cases h

theorem getCall_settle (s : St) (n : Nat) : getCall (settle s) n = (getCall s n).map settleCall := by
  simp only [getCall_eq, settle_calls, List.getElem?_map]
  split <;> rfl

theorem CRow.of_step {s s' : St} {l : Label} (h : step s l = some s') {n : Nat} {c : Call} (hc : getCall s n = some c) :
    ∃ s0 c0, step0 s l = some s0 ∧ getCall s' n = some (settleCall c0) ∧
      CRow s.outCalls.Nodup s.shuttingDown (s.outCalls.contains n) (n ∈ s0.outCalls) s0.respLog n c l c0 := by
  simp only [step, Option.map_eq_some_iff] at h
  obtain ⟨s0, h0, rfl⟩ := h
  obtain ⟨c0, hc0, r⟩ := (CStep0.of_step0 h0).row n c hc
  exact ⟨s0, c0, h0, by rw [getCall_settle, hc0]; rfl, r⟩

theorem settle_calls_length (s : St) : (settle s).calls.length = s.calls.length := by rw [settle_calls, List.length_map]

/-- Backwards: a record AFTER the step is the image of one before it, or the one `ecall`/`ecallbad` appended. -/
theorem CRow.back0 {s s0 : St} {l : Label} (h : step0 s l = some s0) {n : Nat} {c0 : Call} (hc0 : getCall s0 n = some c0) :
    (∃ c, getCall s n = some c ∧
      CRow s.outCalls.Nodup s.shuttingDown (s.outCalls.contains n) (n ∈ s0.outCalls) s0.respLog n c l c0) ∨
    (n = s.calls.length + 1 ∧ ((l = .ecall ∧ c0 = {}) ∨ (l = .ecallbad ∧ c0 =
      { pc := .fin, ready := some (.err .marshal), result := some (.err .marshal), retires := 1, registered := false }))) := by
  have m := CStep0.of_step0 h
  by_cases hn : n ≤ s.calls.length
  · obtain ⟨c, hc⟩ := getCall_some_iff.mpr ⟨(getCall_some_pos hc0).1, hn⟩
    obtain ⟨c', hc', r⟩ := m.row n c hc
    cases hc0.symm.trans hc'
    exact .inl ⟨c, hc, r⟩
  · have hp := (getCall_some_pos hc0).2
    rw [m.length] at hp
    have hl : l = .ecall ∨ l = .ecallbad := by
      by_cases hl : l = .ecall ∨ l = .ecallbad
      · exact hl
      · rw [if_neg hl] at hp; omega
    rw [if_pos hl] at hp
    obtain rfl : n = s.calls.length + 1 := by omega
    refine .inr ⟨rfl, ?_⟩
    rcases hl with rfl | rfl <;> cases h <;> obtain h1 | ⟨_, rfl⟩ := getCall_append_iff.mp hc0
    · have := (getCall_some_pos h1).2; omega
    · exact .inl ⟨rfl, rfl⟩
    · have := (getCall_some_pos h1).2; omega
    · exact .inr ⟨rfl, rfl⟩

theorem CRow.back {s s' : St} {l : Label} (h : step s l = some s') {n : Nat} {c' : Call} (hc' : getCall s' n = some c') :
    (∃ s0 c c0, step0 s l = some s0 ∧ getCall s n = some c ∧ c' = settleCall c0 ∧
      CRow s.outCalls.Nodup s.shuttingDown (s.outCalls.contains n) (n ∈ s0.outCalls) s0.respLog n c l c0) ∨
    (n = s.calls.length + 1 ∧ ((l = .ecall ∧ c' = {}) ∨ (l = .ecallbad ∧ c' =
      { pc := .fin, ready := some (.err .marshal), result := some (.err .marshal), retires := 1, registered := false }))) := by
  obtain ⟨s0, h0, rfl⟩ := step_some.mp h
  rw [getCall_settle] at hc'
  obtain ⟨c0, h1, rfl⟩ := Option.map_eq_some_iff.mp hc'
  rcases CRow.back0 h0 h1 with ⟨c, hc, r⟩ | ⟨hn, ⟨hl, rfl⟩ | ⟨hl, rfl⟩⟩
  · exact .inl ⟨s0, c, c0, h0, hc, rfl, r⟩
  · exact .inr ⟨hn, .inl ⟨hl, rfl⟩⟩
  · exact .inr ⟨hn, .inr ⟨hl, rfl⟩⟩

/-- **await_wait_free.** After every label no caller is left blocked in `Await` once its call is ready
or its context is done: the caller's next step needs nobody else (it has returned, or it is parked
before its own eager `Retire`). -/
theorem await_wait_free (s s' : St) (l : Label) (h : step s l = some s') :
    ∀ n c, getCall s' n = some c → c.pc = .await → c.ready = none ∧ c.ctxDone = false := by
  obtain ⟨s0, _, rfl⟩ := step_some.1 h
  intro n c hc hpc
  rw [getCall_settle] at hc
  obtain ⟨c0, _, rfl⟩ := Option.map_eq_some_iff.1 hc
  exact (Woke.of_settleCall c0).await hpc

end Conn
