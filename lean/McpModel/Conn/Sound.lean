import McpModel.Conn.SoundHist
import McpModel.Conn.MonFires
/-!
Clause soundness of the C01–C05 monitors, part 2.  For every clause the monitors can report (`Clause`; all but `c05Stuck`, the
harness's own end-of-case report) the corresponding
clause of the property is stated as a predicate `P_…` on observation traces — quantification over positions of the trace,
no monitor state — and it is proved that whenever the monitor reports the clause at the step that extends `tr` by `(l, o)`,
the predicate fails on `tr ++ [(l, o)]` (`sound_…`).
-/
namespace Conn

/-- The monitor reports `c` at the step that extends `tr` by `(l, o)`, that is at position `tr.length` of the
extended trace: then `c`'s firing condition holds of the observations before and at that position (named as
the predicates below name them) and of a monitor state that is the booked history of the extended trace. -/
theorem fires_of_step {tr : Trace} {l : Label} {o : Obs} {c : Clause}
    (h : (monStepT (monAfter {} tr) l o).2 = some c) :
    ∃ m, Hist (tr ++ [(l, o)]) tr.length m ∧ HistC (tr ++ [(l, o)]) m ∧
      Fires m (before (tr ++ [(l, o)]) tr.length) (obsAt (tr ++ [(l, o)]) tr.length) (evOf l) c := by
  obtain ⟨hh, hc, he⟩ := hist_booked tr l o
  rw [he] at h
  rw [before_snoc_len, obsAt_snoc_len]
  exact ⟨_, hh, hc, chkAll_fires h⟩

theorem len_lt_snoc (tr : Trace) (x : Label × Obs) : tr.length < (tr ++ [x]).length := by simp

/-! ## C05 — Close lets running handlers finish, closes the transport only afterwards, dispatches
nothing new (that it never deadlocks is the harness's end-of-case report, passed on as it is: `monEndT_stuck`) -/

/-- The transport is closed at most once. -/
def P_c05TcTwice (tr : Trace) : Prop := ∀ k, (obsAt tr k).tc ≤ 1

/-- `onDone` runs at most once. -/
def P_c05OdTwice (tr : Trace) : Prop := ∀ k, (obsAt tr k).od ≤ 1

/-- The transport is closed only when nothing is in flight. -/
def P_c05ClosedBusy (tr : Trace) : Prop :=
  ∀ k, k < tr.length → (before tr k).tc = 0 → (obsAt tr k).tc = 1 → (obsAt tr k).idle = true

/-- The connection is done only when nothing is in flight. -/
def P_c05DoneBusy (tr : Trace) : Prop :=
  ∀ k, k < tr.length → (obsAt tr k).done = true → (obsAt tr k).idle = true

/-- "Close lets handlers that are already running run to completion, and closes the transport only
after they have returned": at the step that closes the transport no handler is running (the harness
sees a running handler as a goroutine parked inside the scripted Handler, token `H:r<r>`). -/
def P_c05ClosedRunning (tr : Trace) : Prop :=
  ∀ k, k < tr.length → (before tr k).tc = 0 → (obsAt tr k).tc = 1 → ∀ r, PTok.h r ∉ (obsAt tr k).parked

/-- `done` is closed (Close and every Wait return) only when no handler is running. -/
def P_c05DoneRunning (tr : Trace) : Prop :=
  ∀ k, k < tr.length → (obsAt tr k).done = true → ∀ r, PTok.h r ∉ (obsAt tr k).parked

/-- A request whose A2 section ran after shutdown began never has its handler running. -/
def P_c05LateDispatch (tr : Trace) : Prop :=
  ∀ i r, evAt tr i = some (.a2 r) → (before tr i).shuttingDown = true →
    ∀ j, i ≤ j → j < tr.length → PTok.h r ∉ (obsAt tr j).parked

/-- A handler context is cancelled as "server closing" only after a transport write really failed
(graceful Close cancels nothing). -/
def P_c05WriteCause (tr : Trace) : Prop :=
  ∀ k, k < tr.length → ∀ r, (r, XCause.write) ∈ (obsAt tr k).x → (r, XCause.write) ∉ (before tr k).x →
    ∃ t, t ≤ k ∧ ∃ w, evAt tr t = some (.wret w .broken)

theorem sound_c05TcTwice (tr : Trace) (l : Label) (o : Obs)
    (h : (monStepT (monAfter {} tr) l o).2 = some .c05TcTwice) : ¬ P_c05TcTwice (tr ++ [(l, o)]) := by
  obtain ⟨m, _, -, hf⟩ := fires_of_step h
  intro hP
  exact absurd hf (Nat.not_lt.mpr (hP tr.length))

theorem sound_c05OdTwice (tr : Trace) (l : Label) (o : Obs)
    (h : (monStepT (monAfter {} tr) l o).2 = some .c05OdTwice) : ¬ P_c05OdTwice (tr ++ [(l, o)]) := by
  obtain ⟨m, _, -, hf⟩ := fires_of_step h
  intro hP
  exact absurd hf (Nat.not_lt.mpr (hP tr.length))

theorem sound_c05ClosedBusy (tr : Trace) (l : Label) (o : Obs)
    (h : (monStepT (monAfter {} tr) l o).2 = some .c05ClosedBusy) : ¬ P_c05ClosedBusy (tr ++ [(l, o)]) := by
  obtain ⟨m, _, -, h1, h2, h3⟩ := fires_of_step h
  intro hP
  have := hP tr.length (len_lt_snoc _ _) h2 h1
  rw [h3] at this; cases this

theorem sound_c05ClosedRunning (tr : Trace) (l : Label) (o : Obs) (r : Nat)
    (h : (monStepT (monAfter {} tr) l o).2 = some (.c05ClosedRunning r)) : ¬ P_c05ClosedRunning (tr ++ [(l, o)]) := by
  obtain ⟨m, _, -, h1, h2, h3⟩ := fires_of_step h
  intro hP
  exact hP tr.length (len_lt_snoc _ _) h2 h1 r h3

theorem sound_c05DoneRunning (tr : Trace) (l : Label) (o : Obs) (r : Nat)
    (h : (monStepT (monAfter {} tr) l o).2 = some (.c05DoneRunning r)) : ¬ P_c05DoneRunning (tr ++ [(l, o)]) := by
  obtain ⟨m, _, -, h1, h2⟩ := fires_of_step h
  intro hP
  exact hP tr.length (len_lt_snoc _ _) h1 r h2

theorem sound_c05DoneBusy (tr : Trace) (l : Label) (o : Obs)
    (h : (monStepT (monAfter {} tr) l o).2 = some .c05DoneBusy) : ¬ P_c05DoneBusy (tr ++ [(l, o)]) := by
  obtain ⟨m, _, -, h1, h2⟩ := fires_of_step h
  intro hP
  have := hP tr.length (len_lt_snoc _ _) h1
  rw [h2] at this; cases this

theorem sound_c05LateDispatch (tr : Trace) (l : Label) (o : Obs) (r : Nat)
    (h : (monStepT (monAfter {} tr) l o).2 = some (.c05LateDispatch r)) : ¬ P_c05LateDispatch (tr ++ [(l, o)]) := by
  obtain ⟨m, hm, -, q, hq, h1, h2⟩ := fires_of_step h
  intro hP
  obtain ⟨t, ht, hb⟩ := (hm.req r q hq).a2s h1
  exact hP t r ht hb tr.length (evAt_snoc_le ht) (len_lt_snoc _ _) h2

theorem sound_c05WriteCause (tr : Trace) (l : Label) (o : Obs) (r : Nat)
    (h : (monStepT (monAfter {} tr) l o).2 = some (.c05WriteCause r)) : ¬ P_c05WriteCause (tr ++ [(l, o)]) := by
  obtain ⟨m, hm, -, h1, h2, _, h4⟩ := fires_of_step h
  intro hP
  obtain ⟨t, _, w, hw⟩ := hP tr.length (len_lt_snoc _ _) r h1 h2
  have := hm.broken.mpr ⟨t, w, hw⟩
  simp [h4] at this

/-- End of case: the harness's "not clean" report is passed on as is … -/
theorem monEndT_stuck (m : Mon) (impl : String) : monEndT m (some impl) = some (.c05Stuck impl) := rfl

/-- … and only then. -/
theorem monEndT_none_not_stuck (m : Mon) (impl : String) : monEndT m none ≠ some (.c05Stuck impl) := by
  intro h
  obtain ⟨_, _, _, _, _, _, ⟨_, hc⟩ | ⟨_, hc⟩⟩ := monEndT_fires h <;> cases hc

theorem step_not_end (tr : Trace) (l : Label) (o : Obs) (c : Clause)
    (h : (monStepT (monAfter {} tr) l o).2 = some c) :
    (∀ s, c ≠ .c05Stuck s) ∧ (∀ r, c ≠ .c02Dropped r) ∧ (∀ r, c ≠ .c02NoAttempt r) := by
  obtain ⟨m, _, -, hf⟩ := fires_of_step h
  refine ⟨?_, ?_, ?_⟩ <;> intro x hx <;> subst hx <;> exact hf

/-! ## C01 — a call completes exactly once, with its own response or an error; never blocked after
termination; calls started after termination fail with the closed-connection error -/

/-- A finished result is final: once call `n` is listed as finished with `r`, it stays listed with
`r` (never a second result — c01Twice —, never withdrawn — c01Lost). -/
def P_c01Final (tr : Trace) : Prop :=
  ∀ i j n r, i ≤ j → j < tr.length → FTok.call n r ∈ (obsAt tr i).fins → finCall (obsAt tr j).fins n = some r

/-- A call that completed with a response completed with a response the peer sent to that very call
(same id, payload intact). -/
def P_c01Own (tr : Trace) : Prop :=
  ∀ j, j < tr.length → ∀ n pl, FTok.call n (.ok pl) ∈ (obsAt tr j).fins →
    ∃ i, i ≤ j ∧ evAt tr i = some (.readResp n pl)

/-- A call never completes with the "written" result of a notification or with a garbled payload. -/
def P_c01Unparsable (tr : Trace) : Prop :=
  ∀ j n r, FTok.call n r ∈ (obsAt tr j).fins → r ≠ .okPlain ∧ ∀ s, r ≠ .bad s

/-- No caller panics (completes twice). -/
def P_c01Panic (tr : Trace) : Prop := ∀ j n, FTok.call n .panic ∉ (obsAt tr j).fins

/-- Once the session has terminated no started call stays blocked: it has finished or its goroutine is
on its way (parked at a yield site / inside the transport Write). -/
def P_c01Blocked (tr : Trace) : Prop :=
  ∀ j, j < tr.length → (obsAt tr j).done = true → ∀ n, 1 ≤ n → n ≤ callNoAt tr j →
    (finCall (obsAt tr j).fins n).isSome = true ∨ (obsAt tr j).callParked n = true

/-- A call started after termination fails with the closed-connection error (or with its own
context's error, if the harness cancelled its context). -/
def P_c01Late (tr : Trace) : Prop :=
  ∀ i, i < tr.length → evAt tr i = some .ecall → (before tr i).done = true →
    ∀ j, i ≤ j → j < tr.length → ∀ r, finCall (obsAt tr j).fins (callNoAt tr i) = some r →
      r = .closed ∨ (r = .ctx ∧ ∃ k, k ≤ j ∧ evAt tr k = some (.ectx (callNoAt tr i)))

theorem before_fins_mem {tr : Trace} {k : Nat} {f : FTok} (h : f ∈ (before tr k).fins) :
    0 < k ∧ f ∈ (obsAt tr (k - 1)).fins := by
  unfold before at h
  split at h
  · cases h
  · exact ⟨Nat.pos_of_ne_zero ‹_›, h⟩

theorem sound_c01Twice (tr : Trace) (l : Label) (o : Obs) (n : Nat) (r r' : RTok)
    (h : (monStepT (monAfter {} tr) l o).2 = some (.c01Twice n r r')) : ¬ P_c01Final (tr ++ [(l, o)]) := by
  obtain ⟨m, _, -, h1, h2, h3⟩ := fires_of_step h
  intro hP
  obtain ⟨hl, h1⟩ := before_fins_mem h1
  have := hP (tr.length - 1) tr.length n r (by omega) (len_lt_snoc _ _) h1
  rw [h2] at this
  exact h3 (Option.some.inj this)

theorem sound_c01Lost (tr : Trace) (l : Label) (o : Obs) (n : Nat)
    (h : (monStepT (monAfter {} tr) l o).2 = some (.c01Lost n)) : ¬ P_c01Final (tr ++ [(l, o)]) := by
  obtain ⟨m, _, -, r, h1, h2⟩ := fires_of_step h
  intro hP
  obtain ⟨hl, h1⟩ := before_fins_mem h1
  have := hP (tr.length - 1) tr.length n r (by omega) (len_lt_snoc _ _) h1
  rw [h2] at this
  cases this

theorem sound_c01Foreign (tr : Trace) (l : Label) (o : Obs) (n pl : Nat)
    (h : (monStepT (monAfter {} tr) l o).2 = some (.c01Foreign n pl)) : ¬ P_c01Own (tr ++ [(l, o)]) := by
  obtain ⟨m, hm, -, h1, h2⟩ := fires_of_step h
  intro hP
  obtain ⟨i, _, hi⟩ := hP tr.length (len_lt_snoc _ _) n pl h1
  exact h2 ((hm.sent n pl).mpr ⟨i, hi⟩)

theorem sound_c01Unparsable (tr : Trace) (l : Label) (o : Obs) (n : Nat) (r : RTok)
    (h : (monStepT (monAfter {} tr) l o).2 = some (.c01Unparsable n r)) : ¬ P_c01Unparsable (tr ++ [(l, o)]) := by
  obtain ⟨m, _, -, h1, h2⟩ := fires_of_step h
  intro hP
  obtain ⟨h3, h4⟩ := hP tr.length n r h1
  rcases h2 with h2 | ⟨s, h2⟩
  · exact h3 h2
  · exact h4 s h2

theorem sound_c01Panic (tr : Trace) (l : Label) (o : Obs) (n : Nat)
    (h : (monStepT (monAfter {} tr) l o).2 = some (.c01Panic n)) : ¬ P_c01Panic (tr ++ [(l, o)]) := by
  obtain ⟨m, _, -, h1⟩ := fires_of_step h
  intro hP
  exact hP tr.length n h1

theorem sound_c01Blocked (tr : Trace) (l : Label) (o : Obs) (n : Nat)
    (h : (monStepT (monAfter {} tr) l o).2 = some (.c01Blocked n)) : ¬ P_c01Blocked (tr ++ [(l, o)]) := by
  obtain ⟨m, hm, -, h1, h2, h3, h4, h5⟩ := fires_of_step h
  intro hP
  have := hP tr.length (len_lt_snoc _ _) h1 n h2
    (by rw [callNoAt_snoc_len, ← hm.ncalls]; exact h3)
  rw [h4, h5] at this
  simp at this

theorem sound_c01Late (tr : Trace) (l : Label) (o : Obs) (n : Nat) (r : RTok)
    (h : (monStepT (monAfter {} tr) l o).2 = some (.c01Late n r)) : ¬ P_c01Late (tr ++ [(l, o)]) := by
  obtain ⟨m, hm, -, h1, h2, h3, h4⟩ := fires_of_step h
  intro hP
  obtain ⟨i, hi, hd, hn⟩ := hm.late n h1
  subst hn
  have := hP i (evAt_some_lt hi) hi hd tr.length (evAt_snoc_le hi) (len_lt_snoc _ _) r h2
  rcases this with h5 | ⟨h5, k, _, hk⟩
  · exact h3 h5
  · exact h4 ⟨h5, (hm.ctxd _).mpr ⟨k, hk⟩⟩

/-- Once the reader has failed (its exit section RX ran) no outgoing call is registered any more:
a registered call waits for a response, and nothing can read one — "completes … with an error once
the connection breaks", "a call started after the connection broke fails at once". -/
def P_c01RegAfterRx (tr : Trace) : Prop :=
  ∀ k, k < tr.length → (∃ t, t ≤ k ∧ evAt tr t = some .rx) → (obsAt tr k).oc = []

theorem sound_c01RegAfterRx (tr : Trace) (l : Label) (o : Obs) (oc : List Nat)
    (h : (monStepT (monAfter {} tr) l o).2 = some (.c01RegAfterRx oc)) : ¬ P_c01RegAfterRx (tr ++ [(l, o)]) := by
  obtain ⟨m, hm, -, h1, _, h3⟩ := fires_of_step h
  intro hP
  obtain ⟨i, hi⟩ := hm.rx.mp h1
  exact h3 (hP tr.length (len_lt_snoc _ _) ⟨i, evAt_snoc_le hi, hi⟩)

/-- A call that has returned to its caller is no longer registered in the connection's table of
outgoing calls (else the reader's exit or Close completes it a second time: "never completes twice"). -/
def P_c01StillRegistered (tr : Trace) : Prop :=
  ∀ k n r, FTok.call n r ∈ (obsAt tr k).fins → n ∉ (obsAt tr k).oc

theorem sound_c01StillRegistered (tr : Trace) (l : Label) (o : Obs) (n : Nat)
    (h : (monStepT (monAfter {} tr) l o).2 = some (.c01StillRegistered n)) :
    ¬ P_c01StillRegistered (tr ++ [(l, o)]) := by
  obtain ⟨m, _, -, r, h1, h2⟩ := fires_of_step h
  intro hP
  exact hP tr.length n r h1 h2

/-- The marshalling error is the result only of a call whose parameters cannot be encoded (one started
by an `ecallbad` event; calls are numbered by their start events). -/
def P_c01MarshalOnlyBad (tr : Trace) : Prop :=
  ∀ k, k < tr.length → ∀ n, FTok.call n .marshal ∈ (obsAt tr k).fins →
    ∃ i, i ≤ k ∧ evAt tr i = some .ecallbad ∧ n = callNoAt tr i

theorem sound_c01MarshalForeign (tr : Trace) (l : Label) (o : Obs) (n : Nat)
    (h : (monStepT (monAfter {} tr) l o).2 = some (.c01MarshalForeign n)) :
    ¬ P_c01MarshalOnlyBad (tr ++ [(l, o)]) := by
  obtain ⟨m, hm, -, h1, h2⟩ := fires_of_step h
  intro hP
  obtain ⟨i, _, hi, hn⟩ := hP tr.length (len_lt_snoc _ _) n h1
  exact h2 ((hm.bad n).mpr ⟨i, hi, hn⟩)

/-! ## C02 — each request with an id receives exactly one response; notifications never receive one -/

/-- No request has two responses written successfully, none passes the un-index point P1 of
processResult twice. -/
def P_c02Twice (tr : Trace) : Prop :=
  ∀ r, cnt tr (· == .wret (some r) .ok) ≤ 1 ∧ cnt tr (· == .p1 r) ≤ 1

/-- No response is attempted (write gate W1) for a notification or a cancel notification. -/
def P_c02NotifAnswered (tr : Trace) : Prop :=
  ∀ r t e, ReadAt tr r t e → (e = .readNotif ∨ ∃ id, e = .readCancel id) → ∀ t', t < t' → evAt tr t' ≠ some (.w1 r)

/-- (End of case.)  Every call that was read got a response attempt. -/
def P_c02Answered (tr : Trace) : Prop :=
  ∀ r t id, ReadAt tr r t (.readCall id) → ∃ t', t < t' ∧ evAt tr t' = some (.w1 r)

theorem sound_c02Twice (tr : Trace) (l : Label) (o : Obs) (r : Nat)
    (h : (monStepT (monAfter {} tr) l o).2 = some (.c02Twice r)) : ¬ P_c02Twice (tr ++ [(l, o)]) := by
  obtain ⟨m, hm, -, q, hq, h1⟩ := fires_of_step h
  intro hP
  have h2 := (hm.req r q hq).okw
  have h3 := (hm.req r q hq).p1c
  have := hP r
  omega

theorem sound_c02NotifAnswered (tr : Trace) (l : Label) (o : Obs) (r : Nat)
    (h : (monStepT (monAfter {} tr) l o).2 = some (.c02NotifAnswered r)) :
    ¬ P_c02NotifAnswered (tr ++ [(l, o)]) := by
  obtain ⟨m, hm, -, q, hq, h1, h2⟩ := fires_of_step h
  intro hP
  obtain ⟨t', ha, hw⟩ := (hm.req r q hq).w1c.mp h2
  obtain ⟨e, he, hk⟩ := (hm.req r q hq).readEv
  obtain ⟨t, ht⟩ := exists_readAt _ he
  refine hP r t e ht ?_ t' ((ht.arrived_iff t').mp ha) hw
  rcases hk with ⟨_, _, _, hn, hc⟩ | ⟨rfl, _⟩ | ⟨id, rfl, _⟩
  · rw [hn, hc] at h1; simp at h1
  · exact .inl rfl
  · exact .inr ⟨id, rfl⟩

/-- End of case: whatever the end-of-case monitor reports (without a harness report), some call never
got a response attempt. -/
theorem sound_monEndT_none (tr : Trace) (c : Clause) (h : monEndT (monAfter {} tr) none = some c) :
    (∃ r, c = .c02Dropped r ∨ c = .c02NoAttempt r) ∧ ¬ P_c02Answered tr := by
  obtain ⟨q, r, hq, h1, h2, h3, hc⟩ := monEndT_fires h
  refine ⟨⟨r, hc.elim (fun h => .inl h.2) (fun h => .inr h.2)⟩, ?_⟩
  intro hP
  have hm := (hist_after tr).1
  obtain ⟨e, he, ⟨id, rfl, _⟩ | ⟨_, _, hn, _⟩ | ⟨_, _, _, hn, _⟩⟩ := (hm.req r q hq).readEv
  · obtain ⟨t, ht⟩ := exists_readAt _ he
    obtain ⟨t', hlt, hw⟩ := hP r t id ht
    have := (hm.req r q hq).w1c.mpr ⟨t', (ht.arrived_iff t').mpr hlt, hw⟩
    omega
  · rw [h1] at hn; cases hn
  · rw [h1] at hn; cases hn

theorem sound_c02NoAttempt (tr : Trace) (r : Nat)
    (h : monEndT (monAfter {} tr) none = some (.c02NoAttempt r)) : ¬ P_c02Answered tr :=
  (sound_monEndT_none tr _ h).2

theorem sound_c02Dropped (tr : Trace) (r : Nat)
    (h : monEndT (monAfter {} tr) none = some (.c02Dropped r)) : ¬ P_c02Answered tr :=
  (sound_monEndT_none tr _ h).2

/-! ## C04 — cancelling a call returns promptly and cancels the peer's handler of exactly that request -/

/-- A caller whose context is cancelled while it is blocked in Await (not parked anywhere) is on its
way out in that very step: parked at the eager retire `R` or finished. -/
def P_c04CtxStuck (tr : Trace) : Prop :=
  ∀ k, k < tr.length → ∀ n, evAt tr k = some (.ectx n) → (before tr k).callParked n = false →
    PTok.r n ∈ (obsAt tr k).parked ∨ (finCall (obsAt tr k).fins n).isSome = true

/-- A handler context (of a request that has arrived) is cancelled with the read-error cause only
after the reader saw the read error (RX). -/
def P_c04ReadCause (tr : Trace) : Prop :=
  ∀ k, k < tr.length → ∀ r, (r, XCause.read) ∈ (obsAt tr k).x → (r, XCause.read) ∉ (before tr k).x →
    arrived tr r (k + 1) → ∃ t, t ≤ k ∧ evAt tr t = some .rx

/-- A handler context (of a request that has arrived) is cancelled with the peer/finished cause only
if the peer cancelled that very request (a K1 for an id under which it was indexed), or its
processResult is at / past P2. -/
def P_c04Unrelated (tr : Trace) : Prop :=
  ∀ k, k < tr.length → ∀ r, (r, XCause.other) ∈ (obsAt tr k).x → (r, XCause.other) ∉ (before tr k).x →
    arrived tr r (k + 1) →
      (∃ t, t ≤ k ∧ ∃ id, evAt tr t = some (.k1 id) ∧ indexedAt tr t id = some r) ∨
      PTok.p2 r ∈ (obsAt tr k).parked ∨
      ∃ t, t ≤ k ∧ arrived tr r t ∧ evAt tr t = some (.p2 r)

/-- When the peer's `Cancel(id)` (K1) runs, the request carrying `id` that a K1 found indexed, that
has not finished (no P2) and whose handler is running or about to (H, A2, queued), has its context
cancelled in that very step (or had it cancelled before). -/
def P_c04NotCancelled (tr : Trace) : Prop :=
  ∀ k, k < tr.length → ∀ id, evAt tr k = some (.k1 id) → ∀ r,
    (∃ t, t ≤ k ∧ ∃ id', evAt tr t = some (.k1 id') ∧ indexedAt tr t id' = some r) →
    (∃ t, ReadAt tr r t (.readCall id)) →
    (¬ ∃ t, t ≤ k ∧ arrived tr r t ∧ evAt tr t = some (.p2 r)) →
    (PTok.h r ∈ (before tr k).parked ∨ PTok.a2 r ∈ (before tr k).parked ∨ r ∈ (before tr k).q) →
      ∃ x, x ∈ (before tr k).x ++ (obsAt tr k).x ∧ x.1 = r

theorem sound_c04CtxStuck (tr : Trace) (l : Label) (o : Obs) (n : Nat)
    (h : (monStepT (monAfter {} tr) l o).2 = some (.c04CtxStuck n)) : ¬ P_c04CtxStuck (tr ++ [(l, o)]) := by
  obtain ⟨m, _, -, h1, h2, h3, h4⟩ := fires_of_step h
  intro hP
  rcases hP tr.length (len_lt_snoc _ _) n (by rw [evAt_snoc_len, h1]) h2 with h5 | h5
  · exact h3 h5
  · rw [h4] at h5; cases h5

theorem arrived_len_succ {tr : Trace} {x : Label × Obs} {m : Mon} {n r : Nat}
    (hm : Hist (tr ++ [x]) n m) (hr : r < m.reqs.length) : arrived (tr ++ [x]) r (tr.length + 1) := by
  unfold arrived
  rw [nreadsBefore_ge (by simp), ← hm.nreqs]
  exact hr

theorem sound_c04ReadCause (tr : Trace) (l : Label) (o : Obs) (r : Nat)
    (h : (monStepT (monAfter {} tr) l o).2 = some (.c04ReadCause r)) : ¬ P_c04ReadCause (tr ++ [(l, o)]) := by
  obtain ⟨m, hm, -, h1, h2, h3, h4⟩ := fires_of_step h
  intro hP
  obtain ⟨t, _, ht⟩ := hP tr.length (len_lt_snoc _ _) r h1
    h2 (arrived_len_succ hm h3)
  have := hm.rx.mpr ⟨t, ht⟩
  simp [h4] at this

theorem sound_c04Unrelated (tr : Trace) (l : Label) (o : Obs) (r : Nat)
    (h : (monStepT (monAfter {} tr) l o).2 = some (.c04Unrelated r)) : ¬ P_c04Unrelated (tr ++ [(l, o)]) := by
  obtain ⟨m, hm, -, h1, h2, q, hq, h3, h4, h5⟩ := fires_of_step h
  intro hP
  have hr : r < m.reqs.length := (List.getElem?_eq_some_iff.mp hq).1
  rcases hP tr.length (len_lt_snoc _ _) r h1
    h2 (arrived_len_succ hm hr) with ⟨t, _, id, ht, hi⟩ | hp | ⟨t, _, ha, ht⟩
  · have := (hm.req r q hq).pc.mpr ⟨t, id, ht, hi⟩
    simp [h3] at this
  · exact h4 hp
  · have := (hm.req r q hq).p2d.mpr ⟨t, ha, ht⟩
    simp [h5] at this

theorem sound_c04NotCancelled (tr : Trace) (l : Label) (o : Obs) (id r : Nat)
    (h : (monStepT (monAfter {} tr) l o).2 = some (.c04NotCancelled id r)) :
    ¬ P_c04NotCancelled (tr ++ [(l, o)]) := by
  obtain ⟨m, hm, -, h1, q, hq, h2, h3, h4, h5, h6⟩ := fires_of_step h
  intro hP
  have hq' := hm.req r q hq
  obtain ⟨t, id', ht, hi⟩ := hq'.pc.mp h2
  obtain ⟨e, he, ⟨id0, rfl, hid, _⟩ | ⟨_, hid, _⟩ | ⟨_, _, hid, _⟩⟩ := hq'.readEv <;> rw [h3] at hid <;> cases hid
  obtain ⟨tr0, hread⟩ := exists_readAt _ he
  obtain ⟨x, hx, hxr⟩ := hP tr.length (len_lt_snoc _ _) id (by rw [evAt_snoc_len, h1]) r
    ⟨t, evAt_snoc_le ht, id', ht, hi⟩ ⟨tr0, hread⟩
    (by
      rintro ⟨t2, _, ha, ht2⟩
      have := hq'.p2d.mpr ⟨t2, ha, ht2⟩
      simp [h4] at this)
    h6
  exact h5 x hx hxr

/-- `Connection.Cancel(id)` runs only for an id that a received notifications/cancelled named, once per
notification: at every `K1 id`, the number of `K1 id` so far does not exceed the number of
`read cancel id` so far.  (Otherwise a request the peer did not name may be cancelled, and the one
it named is not: "cancels … the peer's handler for exactly that request".) -/
def P_c04CancelOnlyAsked (tr : Trace) : Prop :=
  ∀ k id, k < tr.length → evAt tr k = some (.k1 id) →
    cnt (tr.take (k + 1)) (· == .k1 id) ≤ cnt (tr.take (k + 1)) (· == .readCancel id)

theorem sound_c04CancelUnasked (tr : Trace) (l : Label) (o : Obs) (id : Nat)
    (h : (monStepT (monAfter {} tr) l o).2 = some (.c04CancelUnasked id)) :
    ¬ P_c04CancelOnlyAsked (tr ++ [(l, o)]) := by
  obtain ⟨m, -, hc, rest, hu⟩ := fires_of_step h
  intro hP
  obtain ⟨k, he, hlt⟩ := hc.un id (by rw [hu]; simp)
  have := hP k id (evAt_some_lt he) he
  omega

/-! ## C03 — a notification's handler finishes before the handler of any later message starts;
handlers start in arrival order -/

/-- The handler of request `j` (which had arrived) was seen running at a position before `k`. -/
def startedBefore (tr : Trace) (j k : Nat) : Prop :=
  ∃ i, i < k ∧ arrived tr j (i + 1) ∧ PTok.h j ∈ (obsAt tr i).parked

/-- When the handler of request `j` is first seen running, every earlier request whose handler has
started has released the dispatcher (called `Async`, or its processResult is past P2) — c03BeforeSync —
and no later request's handler has started — c03LaterFirst. -/
def P_c03Order (tr : Trace) : Prop :=
  ∀ k, k < tr.length → ∀ j, PTok.h j ∈ (obsAt tr k).parked → ¬ startedBefore tr j k →
    (∀ i, i < j → startedBefore tr i k →
      ∃ t, t ≤ k ∧ arrived tr i t ∧ (evAt tr t = some (.hasync i) ∨ evAt tr t = some (.p2 i))) ∧
    (∀ i, j < i → ¬ startedBefore tr i k)

theorem startedBefore_of_hist {tr : Trace} {m : Mon} {r : Nat} {q : MReq} (hm : Hist tr n m)
    (hq : m.reqs[r]? = some q) : q.started = true ↔ startedBefore tr r n :=
  (hm.req r q hq).st

theorem sound_c03BeforeSync (tr : Trace) (l : Label) (o : Obs) (j i : Nat)
    (h : (monStepT (monAfter {} tr) l o).2 = some (.c03BeforeSync j i)) : ¬ P_c03Order (tr ++ [(l, o)]) := by
  obtain ⟨m, hm, -, h1, _, qj, qi, hqj, hsj, hqi, hij, hsi, hai, hpi⟩ := fires_of_step h
  intro hP
  have hnj : ¬ startedBefore (tr ++ [(l, o)]) j tr.length := by
    rw [← startedBefore_of_hist hm hqj, hsj]; simp
  obtain ⟨hP1, _⟩ := hP tr.length (len_lt_snoc _ _) j h1 hnj
  obtain ⟨t, _, ha, ht | ht⟩ := hP1 i hij ((startedBefore_of_hist hm hqi).mp hsi)
  · have := (hm.req i qi hqi).asy.mpr ⟨t, ha, ht⟩
    simp [hai] at this
  · have := (hm.req i qi hqi).p2d.mpr ⟨t, ha, ht⟩
    simp [hpi] at this

theorem sound_c03LaterFirst (tr : Trace) (l : Label) (o : Obs) (i j : Nat)
    (h : (monStepT (monAfter {} tr) l o).2 = some (.c03LaterFirst i j)) : ¬ P_c03Order (tr ++ [(l, o)]) := by
  obtain ⟨m, hm, -, h1, _, qj, qi, hqj, hsj, hqi, hij, hsi⟩ := fires_of_step h
  intro hP
  have hnj : ¬ startedBefore (tr ++ [(l, o)]) j tr.length := by
    rw [← startedBefore_of_hist hm hqj, hsj]; simp
  obtain ⟨_, hP2⟩ := hP tr.length (len_lt_snoc _ _) j h1 hnj
  exact hP2 i hij ((startedBefore_of_hist hm hqi).mp hsi)

/-! ## non-vacuity: the predicates hold on small good traces whose hypotheses are exercised, and fail (the monitor
fires) on tiny bad ones (`P_c01RegAfterRx`, `P_c01StillRegistered`, `P_c01MarshalOnlyBad` have no example; `P_c04CancelOnlyAsked`
has traces of its own)

The predicates quantify over the numbers inside tokens, which `decide` cannot bound; the tokens that occur in a literal
trace are listed once per trace (`forall_obsAt` and `decide`), after which a predicate is a closed bounded statement and
is evaluated. -/

namespace SoundExamples

/-- graceful close with a request in flight whose A2 ran after shutdown began, a response write that
really failed, then the transport closed once, idle. -/
def good05 : Trace :=
  [(.read (.call 7), {closing := true, inc := 1}),
   (.a2 0, {closing := true, inc := 1}),
   (.wret (.resp 0) .broken, {closing := true, writeErr := true, x := [(0, .write)]}),
   (.cl1, {closing := true, writeErr := true, x := [(0, .write)], tc := 1, od := 1, done := true})]

example : P_c05TcTwice good05 := (forall_obsAt (Q := fun o => o.tc ≤ 1)).mpr (by decide)
example : P_c05OdTwice good05 := (forall_obsAt (Q := fun o => o.od ≤ 1)).mpr (by decide)
example : P_c05ClosedBusy good05 := by unfold P_c05ClosedBusy; decide
example : P_c05DoneBusy good05 := by unfold P_c05DoneBusy; decide
theorem good05_parked (k : Nat) : (obsAt good05 k).parked = [] :=
  (forall_obsAt (Q := fun o => o.parked = [])).mpr (by decide) k

example : P_c05ClosedRunning good05 := by
  intro k _ _ _ r hr; rw [good05_parked] at hr; exact nomatch hr
example : P_c05DoneRunning good05 := by
  intro k _ _ r hr; rw [good05_parked] at hr; exact nomatch hr
example : P_c05LateDispatch good05 := by
  intro i r _ _ j _ _ hr; rw [good05_parked] at hr; exact nomatch hr
-- the write that really failed is at position 2; no cause shows before
example : P_c05WriteCause good05 := fun k hk _ h1 _ =>
  ⟨2, (by decide : ∀ k < 4, (obsAt good05 k).x ≠ [] → 2 ≤ k) k hk (List.ne_nil_of_mem h1), some 0, rfl⟩

/-- a call answered by the peer; the connection is done; a call started after that is refused at C1 with `closed` -/
def good01 : Trace :=
  [(.ecall, {oc := [1], parked := [.c1 1]}),
   (.read (.resp 1 5), {fins := [.call 1 (.ok 5)], done := true}),
   (.ecall, {done := true, fins := [.call 1 (.ok 5)], parked := [.c1 2]}),
   (.c1 2, {done := true, fins := [.call 1 (.ok 5), .call 2 .closed]})]

theorem good01_fins (k : Nat) : ∀ f ∈ (obsAt good01 k).fins, f = .call 1 (.ok 5) ∨ f = .call 2 .closed :=
  (forall_obsAt (Q := fun o => ∀ f ∈ o.fins, f = .call 1 (.ok 5) ∨ f = .call 2 .closed)).mpr (by decide) k

example : P_c01Final good01 := by
  intro i j n r hij hj hm
  rcases good01_fins i _ hm with h | h <;> cases h
  · exact (by decide : ∀ j < 4, ∀ i ≤ j, FTok.call 1 (.ok 5) ∈ (obsAt good01 i).fins →
      finCall (obsAt good01 j).fins 1 = some (.ok 5)) j hj i hij hm
  · exact (by decide : ∀ j < 4, ∀ i ≤ j, FTok.call 2 .closed ∈ (obsAt good01 i).fins →
      finCall (obsAt good01 j).fins 2 = some .closed) j hj i hij hm
example : P_c01Own good01 := by
  intro j hj n pl hm
  rcases good01_fins j _ hm with h | h <;> cases h
  exact (by decide : ∀ j < 4, FTok.call 1 (.ok 5) ∈ (obsAt good01 j).fins →
    ∃ i, i ≤ j ∧ evAt good01 i = some (.readResp 1 5)) j hj hm
example : P_c01Unparsable good01 := by
  intro j n r hm
  rcases good01_fins j _ hm with h | h <;> cases h <;> exact ⟨nofun, nofun⟩
example : P_c01Panic good01 := by
  intro j n hm
  rcases good01_fins j _ hm with h | h <;> cases h
example : P_c01Blocked good01 := fun j hj hd n h1 hn =>
  (by decide : ∀ j < 4, (obsAt good01 j).done = true → ∀ n ≤ callNoAt good01 j, 1 ≤ n →
    (finCall (obsAt good01 j).fins n).isSome = true ∨ (obsAt good01 j).callParked n = true) j hj hd n hn h1
example : P_c01Late good01 := by
  intro i hi he hd j _ hj r hr
  -- the one call started after `done` is call 2, at position 2; it is only ever listed as `closed`
  obtain rfl := (by decide : ∀ i < 4, evAt good01 i = some .ecall → (before good01 i).done = true → i = 2) i hi he hd
  exact .inl ((by decide : ∀ j < 4, ∀ r ∈ finCall (obsAt good01 j).fins (callNoAt good01 2), r = .closed) j hj r hr)

/-- a call cancelled by the peer (K1 for its id) while its handler runs, answered and finished; then a notification's handler -/
def good24 : Trace :=
  [(.read (.call 7), {}),
   (.a1 0, {parked := [.h 0]}),
   (.k1 7, {parked := [.h 0], x := [(0, .other)]}),
   (.w1 (.resp 0), {x := [(0, .other)]}),
   (.p2 0, {x := [(0, .other)]}),
   (.read .notif, {x := [(0, .other)], parked := [.h 1]})]

theorem good24_readAt {r t : Nat} {e : Ev} (h : ReadAt good24 r t e) :
    (r = 0 ∧ t = 0 ∧ e = .readCall 7) ∨ (r = 1 ∧ t = 5 ∧ e = .readNotif) := by
  obtain ⟨he, hr, rfl⟩ := h
  exact (by decide : ∀ t < 6, ∀ e ∈ evAt good24 t, e.isRead = true →
    (nreadsBefore good24 t = 0 ∧ t = 0 ∧ e = .readCall 7) ∨ (nreadsBefore good24 t = 1 ∧ t = 5 ∧ e = .readNotif))
    t (evAt_some_lt he) e he hr

-- no response write succeeds and no `P1` runs in `good24`: both counts evaluate to 0 whatever `r` is
example : P_c02Twice good24 := fun _ => ⟨Nat.zero_le 1, Nat.zero_le 1⟩
example : P_c02NotifAnswered good24 := by
  intro r t e hr he t' hlt hw
  have := evAt_some_lt hw
  rcases good24_readAt hr with ⟨rfl, rfl, rfl⟩ | ⟨rfl, rfl, rfl⟩
  · simp at he
  · simp [good24] at this; omega
example : P_c02Answered good24 := by
  intro r t id hr
  rcases good24_readAt hr with ⟨rfl, rfl, h⟩ | ⟨rfl, rfl, h⟩
  · exact ⟨3, by omega, rfl⟩
  · cases h

theorem good24_idx : indexedAt good24 2 7 = some 0 := by decide
theorem good24_arr0 (t : Nat) (h : 0 < t) : arrived good24 0 t :=
  arrived_mono (show 1 ≤ t from h) (by decide : 0 < nreadsBefore good24 1)

theorem good24_x (k : Nat) : ∀ e ∈ (obsAt good24 k).x, e = (0, .other) :=
  (forall_obsAt (Q := fun o => ∀ e ∈ o.x, e = (0, .other))).mpr (by decide) k

-- the context of request 0 shows as cancelled from position 2 on, where `K1 7` ran with 7 indexed to request 0
example : P_c04Unrelated good24 := by
  intro k hk r h1 _ _
  cases good24_x k _ h1
  exact .inl ⟨2, (by decide : ∀ k < 6, (0, XCause.other) ∈ (obsAt good24 k).x → 2 ≤ k) k hk h1, 7, rfl, good24_idx⟩

theorem good24_k1 {k id : Nat} (h : evAt good24 k = some (.k1 id)) : k = 2 ∧ id = 7 := by
  have hk : k < 6 := evAt_some_lt h
  rcases (by omega : k = 0 ∨ k = 1 ∨ k = 2 ∨ k = 3 ∨ k = 4 ∨ k = 5) with rfl | rfl | rfl | rfl | rfl | rfl <;> cases h
  exact ⟨rfl, rfl⟩

-- … and that context shows as cancelled right after it
example : P_c04NotCancelled good24 := by
  intro k _ id he r hidx _ _ _
  obtain ⟨t, _, id', he', hi⟩ := hidx
  obtain ⟨rfl, rfl⟩ := good24_k1 he
  obtain ⟨rfl, rfl⟩ := good24_k1 he'
  cases good24_idx.symm.trans hi
  exact ⟨(0, .other), by decide, rfl⟩

theorem good24_parked (k : Nat) : ∀ t ∈ (obsAt good24 k).parked, t = .h 0 ∨ t = .h 1 :=
  (forall_obsAt (Q := fun o => ∀ t ∈ o.parked, t = .h 0 ∨ t = .h 1)).mpr (by decide) k

-- request 0 is first seen running at position 1, before any other; request 1 at position 5, after `P2 0` at position 4
example : P_c03Order good24 := by
  intro k hk j hj hns
  refine ⟨fun i hij hs => ?_, fun i hji hs => ?_⟩
  · rcases good24_parked k _ hj with h | h <;> cases h
    · exact absurd hij (Nat.not_lt_zero i)
    · obtain rfl : i = 0 := Nat.lt_one_iff.1 hij
      exact (by decide : ∀ k < 6, PTok.h 1 ∈ (obsAt good24 k).parked →
        ∃ t, t ≤ k ∧ 0 < nreadsBefore good24 t ∧ (evAt good24 t = some (.hasync 0) ∨ evAt good24 t = some (.p2 0))) k hk hj
  · obtain ⟨p, hp, _, hm⟩ := hs
    rcases good24_parked k _ hj with h | h <;> cases h <;> rcases good24_parked p _ hm with h | h <;> cases h <;>
      first | exact absurd hji (by decide) | skip
    obtain rfl := (by decide : ∀ k < 6, PTok.h 0 ∈ (obsAt good24 k).parked →
      (¬ ∃ i, i < k ∧ 0 < nreadsBefore good24 (i + 1) ∧ PTok.h 0 ∈ (obsAt good24 i).parked) → k = 1) k hk hj hns
    exact (by decide : ∀ p < 1, PTok.h 1 ∉ (obsAt good24 p).parked) p hp hm

/-- a call whose context is cancelled while blocked in Await, and a read error that cancels a handler context -/
def good4b : Trace :=
  [(.ecall, {oc := [1]}),
   (.ectx 1, {oc := [1], parked := [.r 1]}),
   (.read (.call 7), {oc := [1], parked := [.r 1]}),
   (.rx, {readErr := true, x := [(0, .read)]})]

example : P_c04CtxStuck good4b := by
  intro k hk n he hp
  have hk : k < 4 := hk
  -- the one `ectx` is at position 1, for call 1, whose caller is parked at `R` right after it
  rcases (by omega : k = 0 ∨ k = 1 ∨ k = 2 ∨ k = 3) with rfl | rfl | rfl | rfl <;> cases he
  decide
-- the reader's exit is at position 3; no cause shows before
example : P_c04ReadCause good4b := fun k hk _ h1 _ _ =>
  ⟨3, (by decide : ∀ k < 4, (obsAt good4b k).x ≠ [] → 3 ≤ k) k hk (List.ne_nil_of_mem h1), rfl⟩

example : ¬ P_c05TcTwice ([] ++ [(.eclose, {tc := 2})]) := sound_c05TcTwice _ _ _ (by decide)
example : ¬ P_c05OdTwice ([] ++ [(.eclose, {od := 2})]) := sound_c05OdTwice _ _ _ (by decide)
example : ¬ P_c05ClosedBusy ([] ++ [(.eclose, {tc := 1, hr := true})]) := sound_c05ClosedBusy _ _ _ (by decide)
example : ¬ P_c05DoneBusy ([] ++ [(.eclose, {done := true, inc := 1})]) := sound_c05DoneBusy _ _ _ (by decide)
-- the under-counting implementation: `in=0` (it looks idle to `chkClosedIdle`) while the handler of r0 runs
example : ¬ P_c05ClosedRunning ([] ++ [(.cl1, {closing := true, tc := 1, parked := [.h 0]})]) :=
  sound_c05ClosedRunning _ _ _ 0 (by decide)
example : ¬ P_c05DoneRunning ([] ++ [(.cl1, {closing := true, done := true, parked := [.h 0]})]) :=
  sound_c05DoneRunning _ _ _ 0 (by decide)
example : ¬ P_c05LateDispatch ([(.read (.call 7), {closing := true})] ++ [(.a2 0, {closing := true, parked := [.h 0]})]) :=
  sound_c05LateDispatch _ _ _ 0 (by decide)
example : ¬ P_c05WriteCause ([(.read (.call 7), ({} : Obs))] ++ [(.d1, {x := [(0, .write)]})]) :=
  sound_c05WriteCause _ _ _ 0 (by decide)

example : ¬ P_c01Final ([(.ecall, ({} : Obs)), (.read (.resp 1 5), {fins := [.call 1 (.ok 5)]})] ++ [(.rresp, {fins := [.call 1 .closed]})]) :=
  sound_c01Twice _ _ _ 1 (.ok 5) .closed (by decide)
example : ¬ P_c01Final ([(.ecall, ({} : Obs)), (.read (.resp 1 5), {fins := [.call 1 (.ok 5)]})] ++ [(.rresp, ({} : Obs))]) :=
  sound_c01Lost _ _ _ 1 (by decide)
example : ¬ P_c01Own ([(.ecall, ({} : Obs))] ++ [(.read (.resp 1 5), {fins := [.call 1 (.ok 6)]})]) :=
  sound_c01Foreign _ _ _ 1 6 (by decide)
example : ¬ P_c01Unparsable ([(.ecall, ({} : Obs))] ++ [(.c1 1, {fins := [.call 1 .okPlain]})]) :=
  sound_c01Unparsable _ _ _ 1 .okPlain (by decide)
example : ¬ P_c01Panic ([(.ecall, ({} : Obs))] ++ [(.c1 1, {fins := [.call 1 .panic]})]) :=
  sound_c01Panic _ _ _ 1 (by decide)
example : ¬ P_c01Blocked ([(.ecall, ({} : Obs))] ++ [(.read .eof, {done := true})]) :=
  sound_c01Blocked _ _ _ 1 (by decide)
example : ¬ P_c01Late ([(.read .eof, {done := true}), (.ecall, {done := true, parked := [.c1 1]})] ++
    [(.c1 1, {done := true, fins := [.call 1 .read]})]) :=
  sound_c01Late _ _ _ 1 .read (by decide)

example : ¬ P_c02Twice ([(.read (.call 7), ({} : Obs)), (.wret (.resp 0) .ok, ({} : Obs))] ++ [(.wret (.resp 0) .ok, ({} : Obs))]) :=
  sound_c02Twice _ _ _ 0 (by decide)
example : ¬ P_c02NotifAnswered ([(.read .notif, ({} : Obs))] ++ [(.w1 (.resp 0), ({} : Obs))]) :=
  sound_c02NotifAnswered _ _ _ 0 (by decide)
example : ¬ P_c02Answered [(.read (.call 7), ({} : Obs))] := sound_c02NoAttempt _ 0 (by decide)
example : ¬ P_c02Answered [(.read (.call 7), ({} : Obs)), (.a1 0, ({} : Obs)), (.read (.call 7), ({} : Obs)), (.a1 1, ({} : Obs)), (.w1 (.resp 0), ({} : Obs))] :=
  sound_c02Dropped _ 1 (by decide)

example : ¬ P_c03Order ([(.read .notif, ({} : Obs)), (.read .notif, {parked := [.h 0]})] ++ [(.d1, {parked := [.h 0, .h 1]})]) :=
  sound_c03BeforeSync _ _ _ 1 0 (by decide)
example : ¬ P_c03Order ([(.read .notif, ({} : Obs)), (.read .notif, {parked := [.h 1]})] ++ [(.d1, {parked := [.h 0, .h 1]})]) :=
  sound_c03LaterFirst _ _ _ 1 0 (by decide)

example : ¬ P_c04CtxStuck ([(.ecall, ({} : Obs))] ++ [(.ectx 1, ({} : Obs))]) := sound_c04CtxStuck _ _ _ 1 (by decide)
example : ¬ P_c04ReadCause ([(.read (.call 7), ({} : Obs))] ++ [(.d1, {x := [(0, .read)]})]) :=
  sound_c04ReadCause _ _ _ 0 (by decide)
example : ¬ P_c04Unrelated ([(.read (.call 7), ({} : Obs))] ++ [(.d1, {x := [(0, .other)]})]) :=
  sound_c04Unrelated _ _ _ 0 (by decide)
example : ¬ P_c04NotCancelled ([(.read (.call 7), ({} : Obs)), (.a1 0, {parked := [.a2 0]}),
    (.read (.cancel 7), {parked := [.a2 0]}), (.a1 1, {parked := [.a2 0]})] ++ [(.k1 7, {parked := [.a2 0]})]) :=
  sound_c04NotCancelled _ _ _ 7 0 (by decide)
/-- The F33 shape: the peer named request 8, the canceller invoked Cancel(7). -/
example : ¬ P_c04CancelOnlyAsked ([(.read (.call 7), ({} : Obs)), (.a1 0, ({} : Obs)), (.read (.cancel 8), ({} : Obs)),
    (.a1 1, ({} : Obs))] ++ [(.k1 7, ({} : Obs))]) :=
  sound_c04CancelUnasked _ _ _ 7 (by decide)
example : P_c04CancelOnlyAsked [(.read (.call 7), ({} : Obs)), (.a1 0, ({} : Obs)), (.read (.cancel 7), ({} : Obs)),
    (.a1 1, ({} : Obs)), (.k1 7, ({} : Obs))] := by
  intro k id hk he
  have hk : k < 5 := hk
  rcases (by omega : k = 0 ∨ k = 1 ∨ k = 2 ∨ k = 3 ∨ k = 4) with rfl | rfl | rfl | rfl | rfl <;> cases he
  decide

end SoundExamples

end Conn
