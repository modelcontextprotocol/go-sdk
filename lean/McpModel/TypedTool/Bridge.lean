import McpModel.TypedTool.Monitor
import McpModel.TypedTool.Props
/-!
# E12 TypedTool (C16) — the bridge between the C16 monitor and the model: NO FALSE ALARM

The driver compares the implementation's observation text with the model's (`A` = equal) and runs the
monitor of `Monitor.lean` on the implementation's observation. This file proves that the monitor raises
no clause on the model's own observations:

* `monitor_accepts_model_call` — one call: for every tool, argument value and handler behaviour, the
  monitor (`judgeCall`: library-discrepancy filter + `monitor`) accepts `obsOf (modelCall …)` provided
  (1) the tool enforces its own schemas (what registration guarantees, `registered_tool_enforces_own_schemas`)
  and (2) the server's decode is exact on this call (`ExactOn`; holds whenever all integers of the
  arguments and of the handler's output lie in [-2^63, 2^64): `exactOn_of_inRange`). Outside (2) the model
  is not claimed (it lets integers beyond the Go integer types pass through float64, the monitor judges
  exact numbers): `monitor_rejects_model_outside_exact_range` is the witness that (2) cannot be dropped.
* `monitor_accepts_model` — the same over all well-formed histories of typed events (`WFrun`), by the invariant `Inv`.

Together with the driver's plain comparison (`A` ⇔ the implementation's text is the model's) and its
run-time self-check `roundTrips` (the model text, read back, is `obsOf (modelCall …)`), a `V` with a C16
clause therefore always comes with a `D`.
-/
namespace TypedTool

mutual
theorem JVal.beq_refl : ∀ v : JVal, v.beq v = true
  | .null => rfl
  | .bool _ | .num _ | .str _ => by simp [JVal.beq]
  | .arr xs => by simp only [JVal.beq]; exact beqList_refl xs
  | .obj fs => by simp only [JVal.beq]; exact beqFields_refl fs
theorem beqList_refl : ∀ xs : List JVal, beqList xs xs = true
  | [] => rfl
  | x :: t => by simp only [beqList, JVal.beq_refl x, beqList_refl t, Bool.and_self]
theorem beqFields_refl : ∀ fs : Fields, beqFields fs fs = true
  | [] => rfl
  | (k, v) :: t => by simp only [beqFields, JVal.beq_refl v, beqFields_refl t, beq_self_eq_true, Bool.and_self]
end

theorem ceq_refl (v : JVal) : ceq v v = true := JVal.beq_refl _

/-- the same JSON value (as a proposition): equal canonical forms -/
def JEq (a b : JVal) : Prop := canon a = canon b

theorem ceq_of_JEq {a b : JVal} (h : JEq a b) : ceq a b = true := by
  unfold ceq; rw [h]; exact JVal.beq_refl _

theorem optCeq_refl (o : Option JVal) : optCeq o o = true := by
  cases o <;> simp [optCeq, ceq_refl]

theorem sameObs_refl (o : Obs) : sameObs o o = true := by
  simp [sameObs, optCeq_refl]

variable {S : Type}

theorem resOf_ne_panic (k : Kind) : resOf k ≠ .panic := by cases k <;> simp [resOf]

theorem resOf_eq_ok {k : Kind} (h : resOf k = .ok) : k = .ok := by cases k <;> simp [resOf] at h ⊢

/-- the monitor accepts every observation that is the ideal wrapper's own (`call idEnv` over the tool's
own schemas) -/
theorem monitor_accepts_ideal (d : ToolD) (ci : CallIn) :
    monitor d ci (obsOf (ideal d ci)) = none := by
  have hp : ((obsOf (ideal d ci)).res == Res.panic) = false := by
    simp [obsOf, resOf_ne_panic]
  -- a success of the wrapper under a declared output schema carries structured content
  have hsc : ¬ (d.osch.isSome && (obsOf (ideal d ci)).res == Res.ok && (obsOf (ideal d ci)).sc.isNone) = true := by
    simp only [Bool.and_eq_true, beq_iff_eq, obsOf, Option.isNone_iff_eq_none]
    rintro ⟨⟨hs, hk⟩, hn⟩
    have := ok_has_structured idEnv d.tool ci.h ci.args (resOf_eq_ok hk) hs
    rw [show (call idEnv d.tool ci.h ci.args).structured = none from hn] at this
    cases this
  unfold monitor
  simp only [hp, hsc, sameObs_refl, Bool.false_eq_true, if_false, if_true]

/-- the tool enforces its own schemas (what registration guarantees for every history) -/
def ToolD.EnforcesOwn (d : ToolD) : Prop := d.eisch = d.isch ∧ d.eosch = d.osch

theorem enforced_eq_tool (d : ToolD) (h : d.EnforcesOwn) : d.enforced = d.tool := by
  obtain ⟨ity, oty, isch, osch, eisch, eosch⟩ := d
  obtain ⟨h1, h2⟩ := h
  simp only at h1 h2
  subst h1; subst h2
  cases eosch <;> rfl

/-- The server's decode (int64, else uint64, else float64) is exact on this call: the repaired wrapper
gives what the wrapper over the client's own JSON values gives. -/
def ExactOn (d : ToolD) (ci : CallIn) : Prop :=
  call (refEnv lossy64) d.tool ci.h ci.args = ideal d ci

mutual
theorem zeroJ_inRange : ∀ t : GoTy, InRange64 (zeroJ t) = true
  | .int64 | .uint64 | .float64 => by decide
  | .string | .bool | .any | .ptr _ | .slice _ | .map _ => rfl
  | .struct fs => by simp only [zeroJ, InRange64]; exact zeroFields_inRange fs
theorem zeroFields_inRange : ∀ fs : SFields, InRange64Fields (zeroFields fs) = true
  | [] => rfl
  | (n, oe, t) :: rest => by
    simp only [zeroFields]
    split
    · exact zeroFields_inRange rest
    · simp only [InRange64Fields, zeroJ_inRange t, zeroFields_inRange rest, Bool.and_self]
end

/-- **the decode is exact on everything a Go integer type can hold**: all integers of the arguments and
of the handler's output in [-2^63, 2^64) -/
theorem exactOn_of_inRange (d : ToolD) (ci : CallIn)
    (ha : ∀ m, argsMap ci.args = some m → InRange64 m = true)
    (ho : ∀ x j, (ci.h x).out = .json j → InRange64 j = true) : ExactOn d ci := by
  have := wrapper_exact_on_go_integer_range fill valid d.tool ci.h ci.args ha
    (by
      intro z hz
      simp only [ToolD.tool, ToolD.elemZero] at hz
      split at hz
      · cases hz; exact zeroJ_inRange _
      · cases hz)
    ho
  exact this

theorem disc_self (a : Option Bool) : disc a a = false := by
  cases a with
  | none => rfl
  | some b => cases b <;> rfl

/-- **No false alarm, one call.** For every tool that enforces its own schemas and every call on which
the server's decode is exact, the driver's judgement of the model's own observation raises nothing. -/
theorem monitor_accepts_model_call (d : ToolD) (ci : CallIn) (hreg : d.EnforcesOwn) (hex : ExactOn d ci) :
    judgeCall d ci (obsOf (modelCall d ci)) (libIn d ci) (libOut d ci) = none := by
  unfold judgeCall
  simp only [disc_self, Bool.false_eq_true, if_false]
  unfold modelCall
  rw [enforced_eq_tool d hreg, hex]
  exact monitor_accepts_ideal d ci

/-- what the driver prints for a call at version `v` is the wrapper model's outcome (plus the `resultType`
mark): the observation the monitor is run on is `obsOf (modelCall …)` at every version -/
theorem modelServe_out (v : String) (d : ToolD) (ci : CallIn) : (modelServe v d ci).out = modelCall d ci := by
  unfold modelServe serveAt modelCall
  exact served_is_wrapper_outcome _ _ _ _ _ _

/-- **No false alarm, one call, at every protocol version**: the judgement of what the model says a peer
at version `v` is answered raises nothing — for every `v`. -/
theorem monitor_accepts_model_call_at_every_version (v : String) (d : ToolD) (ci : CallIn)
    (hreg : d.EnforcesOwn) (hex : ExactOn d ci) :
    judgeCall d ci (obsOf (modelServe v d ci).out) (libIn d ci) (libOut d ci) = none := by
  rw [modelServe_out]
  exact monitor_accepts_model_call d ci hreg hex

theorem mstep_call (d : MState) (name : Option String) (c : CallEv) (o : Obs) (lib olib : Option Bool) :
    mstep d (.call name c o lib olib) =
      (d, (d.callee name).bind fun td => (mkCall td c).bind fun ci => judgeCall td ci o lib olib) := by
  simp only [mstep]
  cases d.callee name with
  | none => rfl
  | some td => dsimp only [Option.bind_some]; cases mkCall td c <;> rfl

theorem mstep_call_fst (d : MState) (name : Option String) (c : CallEv) (o : Obs) (lib olib : Option Bool) :
    (mstep d (.call name c o lib olib)).1 = d := by
  rw [mstep_call]

/-- **The C16 monitor does not read the protocol version**: the verdict on a call record (and the state
after it) is the same whatever version the monitor has booked for the current session. What C16 demands of
a result — structured content, text rendering, tool-level errors — it demands at every version. -/
theorem verdict_version_independent (d : MState) (v : String) (name : Option String) (c : CallEv) (o : Obs)
    (lib olib : Option Bool) :
    (mstep { d with ver := v } (.call name c o lib olib)).2 = (mstep d (.call name c o lib olib)).2 := by
  rw [mstep_call, mstep_call]
  rfl

mutual
/-- every `properties` object, at every depth (also below `additionalProperties` and `items`), has
pairwise distinct names — JSON objects do, and the driver's schema parser refuses anything else -/
def SKeyed : Schema → Prop
  | .mk _ ps ap items => (keys ps).Nodup ∧ SKeyedProps ps ∧ SKeyedOpt ap ∧ SKeyedOpt items
def SKeyedProps : Props → Prop
  | [] => True
  | (_, s) :: t => SKeyed s ∧ SKeyedProps t
def SKeyedOpt : Option Schema → Prop
  | none => True
  | some s => SKeyed s
end

theorem listCeq_refl : ∀ xs : List JVal, listCeq xs xs = true
  | [] => rfl
  | x :: t => by simp only [listCeq, ceq_refl, listCeq_refl t, Bool.and_self]

theorem Dec.eq_refl (d : Dec) : d.eq d = true := by simp [Dec.eq]

theorem optDecEq_refl (o : Option Dec) : optDecEq o o = true := by
  cases o <;> simp [optDecEq, Dec.eq_refl]

theorem leafSame_refl (c : Leaf) : leafSame c c = true := by
  unfold leafSame
  cases he : c.enum <;> simp [optCeq_refl, optDecEq_refl, listCeq_refl]

mutual
theorem sameSchema_refl : ∀ s : Schema, SKeyed s → sameSchema s s = true
  | .mk c ps ap items, h => by
    simp only [SKeyed] at h
    obtain ⟨hn, hps, hap, hit⟩ := h
    simp only [sameSchema, leafSame_refl, beq_self_eq_true,
      samePropsIn_refl ps ps (fun _ hx => hx) hn hps, sameOpt_refl ap hap, sameOpt_refl items hit, Bool.and_self]
theorem samePropsIn_refl : ∀ (t p2 : Props), (∀ x ∈ t, x ∈ p2) → (keys p2).Nodup → SKeyedProps t → samePropsIn t p2 = true
  | [], _, _, _, _ => rfl
  | (k, s) :: t, p2, hsub, hn, hk => by
    simp only [SKeyedProps] at hk
    have := lookupP_of_mem hn (hsub (k, s) List.mem_cons_self)
    simp only [samePropsIn, this, sameSchema_refl s hk.1, Bool.true_and]
    exact samePropsIn_refl t p2 (fun x hx => hsub x (List.mem_cons_of_mem _ hx)) hn hk.2
theorem sameOpt_refl : ∀ o : Option Schema, SKeyedOpt o → sameOpt o o = true
  | none, _ => rfl
  | some x, h => by
    simp only [SKeyedOpt] at h
    simp only [sameOpt]
    split
    · simp [isAnyOpt, *]
    · simp [*, sameSchema_refl x h]
end

/-- the tool's own schemas, advertised, are accepted -/
theorem pubClause_own (ownI : Schema) (ownO : Option Schema) (hi : SKeyed ownI) (ho : ∀ s, ownO = some s → SKeyed s) :
    pubClause ownI ownO (some ownI) (some ownO) = none := by
  unfold pubClause pubInOk pubOutOk
  cases ownO with
  | none => simp [sameSchema_refl ownI hi]
  | some s => simp [sameSchema_refl ownI hi, sameSchema_refl s (ho s rfl)]

/-! ### registration does not depend on more of the environment than it reads -/

theorem setSchema_congr {K : Type} [DecidableEq K] (R R' : RegEnv K S) (c : Cache K S) (k : K) (g : Option (Given S))
    (hd : R.derive k = R'.derive k) (hr : R.resolves = R'.resolves) :
    setSchema R c k g = setSchema R' c k g := by
  cases g with
  | none => simp only [setSchema, hd, hr]
  | some g => simp only [setSchema, hr]

/-- a typed event: a record without the implementation's observation -/
inductive Ev where
  | reset
  | server (n : Nat) (v : String)
  | tool (t : ToolEv)
  | call (name : Option String) (c : CallEv)

/-- what the model says tools/list shows after `AddTool`: the tool's own schemas; `other`: AddTool fails -/
def modelToolObs (d : MState) (t : ToolEv) : ToolObs :=
  match (register t.env d.world.cacheOf t.decl).1 with
  | none => .other
  | some _ => .ok (some t.ownIn) (some t.ownOut)

/-- the event with the MODEL's observation filled in -/
def modelRec (d : MState) : Ev → Rec
  | .reset => .reset
  | .server n v => .server n v
  | .tool t => .tool t (modelToolObs d t)
  | .call name c =>
    match d.callee name with
    | none => .call name c default none none
    | some td =>
      match mkCall td c with
      | none => .call name c default none none
      | some ci => .call name c (obsOf (modelCall td ci)) (libIn td ci) (libOut td ci)

def MState.next (d : MState) (e : Ev) : MState := (mstep d (modelRec d e)).1

def traceFrom (d : MState) : List Ev → List Rec
  | [] => []
  | e :: es => modelRec d e :: traceFrom (d.next e) es

/-- the environment every registration of a case agrees with: inference is a function `D` of the Go type -/
def gR (D : String → Schema) : RegEnv String Schema :=
  { derive := D, resolves := defaultsValid, objectSchema := objectSchema }

/-- A well-formed `tool` op: a schema handed in by pointer has the content of that pointer (`heap`; the
SDK's condition of use of a `SchemaCache`), the inference results the op carries are `D` of its Go types
(`jsonschema.ForType` is a function of the type), and its own schemas have distinct property names. -/
structure ToolEv.WF (heap : Nat → Schema) (D : String → Schema) (t : ToolEv) : Prop where
  ok : t.decl.Ok heap
  resolves : t.env.resolves = defaultsValid
  objectSchema : t.env.objectSchema = TypedTool.objectSchema
  deriveIn : t.env.derive t.decl.inKey = D t.decl.inKey
  deriveOut : t.env.derive t.decl.outKey = D t.decl.outKey
  keyedIn : SKeyed t.ownIn
  keyedOut : ∀ s, t.ownOut = some s → SKeyed s

/-- well-formed in state `d`; a call: the server's decode is exact on it (see `exactOn_of_inRange`) -/
def Ev.WF (heap : Nat → Schema) (D : String → Schema) (d : MState) : Ev → Prop
  | .tool t => t.WF heap D
  | .call name c => ∀ td ci, d.callee name = some td → mkCall td c = some ci → ExactOn td ci
  | _ => True

def WFrun (heap : Nat → Schema) (D : String → Schema) : MState → List Ev → Prop
  | _, [] => True
  | d, e :: es => Ev.WF heap D d e ∧ WFrun heap D (d.next e) es

/-- **The invariant** relating the monitor's bookkeeping to the model state: `World.Ok`, and whatever the monitor has booked
under a name (`tys`: the OWN schemas) is the own schemas of the declaration the world holds under it. An element of `tys`
is (name, input type, output type, own input schema, own output schema), one of `world.tools` (name, declaration, entry). -/
def Inv (heap : Nat → Schema) (D : String → Schema) (d : MState) : Prop :=
  World.Ok (gR D) heap d.world ∧
  ∀ x ∈ d.tys, ∀ y ∈ d.world.tools, x.1 = y.1 →
    x.2.2.2.1 = y.2.1.ownIn (gR D) ∧ x.2.2.2.2 = y.2.1.ownOut (gR D)

theorem inv_init (heap : Nat → Schema) (D : String → Schema) : Inv heap D {} :=
  ⟨World.ok_init _ _, by intro x hx; simp at hx⟩

theorem toolD_some {d : MState} {name : String} {td : ToolD} (h : d.toolD name = some td) :
    ∃ y x, d.world.tools.find? (·.1 == name) = some y ∧ d.tys.find? (·.1 == name) = some x ∧
      td = { ity := x.2.1, oty := x.2.2.1, isch := x.2.2.2.1, osch := x.2.2.2.2, eisch := y.2.2.enfIn, eosch := y.2.2.enfOut } := by
  unfold MState.toolD at h
  cases hw : d.world.tools.find? (·.1 == name) with
  | none => simp [hw] at h
  | some y =>
    cases ht : d.tys.find? (·.1 == name) with
    | none => simp [hw, ht] at h
    | some x =>
      simp only [hw, ht, Option.some.injEq] at h
      exact ⟨y, x, rfl, rfl, h.symm⟩

theorem callee_some {d : MState} {name : Option String} {td : ToolD} (h : d.callee name = some td) :
    ∃ n, (name <|> d.last) = some n ∧ d.toolD n = some td := by
  unfold MState.callee at h
  cases hn : (name <|> d.last) with
  | none => simp [hn] at h
  | some n => exact ⟨n, rfl, by simpa [hn] using h⟩

/-- under the invariant, the tool the monitor judges a call by enforces its own schemas -/
theorem toolD_enforcesOwn {heap : Nat → Schema} {D : String → Schema} {d : MState} (hinv : Inv heap D d)
    {name : String} {td : ToolD} (h : d.toolD name = some td) : td.EnforcesOwn := by
  obtain ⟨y, x, hw, ht, rfl⟩ := toolD_some h
  have hym := List.mem_of_find?_eq_some hw
  have hyn : y.1 = name := by simpa using List.find?_some hw
  have hxn : x.1 = name := by simpa using List.find?_some ht
  obtain ⟨h1, h2⟩ := hinv.2 _ (List.mem_of_find?_eq_some ht) _ hym (hxn.trans hyn.symm)
  obtain ⟨_, he1, _, he2⟩ := hinv.1.2 _ hym
  exact ⟨he1.trans h1.symm, he2.trans h2.symm⟩

theorem callee_enforcesOwn {heap : Nat → Schema} {D : String → Schema} {d : MState} (hinv : Inv heap D d)
    {name : Option String} {td : ToolD} (h : d.callee name = some td) : td.EnforcesOwn := by
  obtain ⟨n, _, hn⟩ := callee_some h
  exact toolD_enforcesOwn hinv hn

theorem ToolEv.WF.env_eq {heap : Nat → Schema} {D : String → Schema} {t : ToolEv} (hwf : t.WF heap D)
    (w : World String Schema) :
    w.step t.env (.add t.name t.decl) = w.step (gR D) (.add t.name t.decl) ∧
      t.ownIn = t.decl.ownIn (gR D) ∧ t.ownOut = t.decl.ownOut (gR D) := by
  simp only [World.step, register, ToolEv.ownIn, ToolEv.ownOut, Decl.ownIn, Decl.ownOut, hwf.objectSchema, hwf.deriveIn,
    hwf.deriveOut, setSchema_congr t.env (gR D) _ t.decl.inKey _ hwf.deriveIn hwf.resolves,
    setSchema_congr t.env (gR D) _ t.decl.outKey _ hwf.deriveOut hwf.resolves]
  exact ⟨rfl, rfl, rfl⟩

theorem modelRec_call (d : MState) (name : Option String) (c : CallEv) :
    ∃ o lib olib, modelRec d (.call name c) = .call name c o lib olib := by
  simp only [modelRec]
  split
  · exact ⟨_, _, _, rfl⟩
  · split <;> exact ⟨_, _, _, rfl⟩

theorem mstep_modelRec_tool {heap : Nat → Schema} {D : String → Schema} (d : MState) (t : ToolEv) (hwf : t.WF heap D) :
    mstep d (modelRec d (.tool t)) =
      (match (register t.env d.world.cacheOf t.decl).1 with
       | none => { d with world := d.world.step t.env (.add t.name t.decl) }
       | some _ => { d.book t (.ok (some t.ownIn) (some t.ownOut)) with world := d.world.step t.env (.add t.name t.decl) },
       none) := by
  simp only [modelRec, modelToolObs, mstep, MState.regTool]
  cases (register t.env d.world.cacheOf t.decl).1 with
  | none => rfl
  | some e0 => simp only [pubClause_own t.ownIn t.ownOut hwf.keyedIn hwf.keyedOut]

theorem inv_next {heap : Nat → Schema} {D : String → Schema} {d : MState} (hinv : Inv heap D d) (e : Ev)
    (hwf : Ev.WF heap D d e) : Inv heap D (d.next e) := by
  cases e with
  | reset => exact inv_init heap D
  | server n v =>
    refine ⟨World.step_ok (gR D) heap d.world (.server _) hinv.1 trivial, ?_⟩
    intro x hx
    simp [MState.next, mstep, modelRec, MState.server] at hx
  | call name c =>
    obtain ⟨o, lib, olib, hrec⟩ := modelRec_call d name c
    simp only [MState.next, hrec, mstep_call_fst]
    exact hinv
  | tool t =>
    have hwf : t.WF heap D := hwf
    have hok := World.step_ok (gR D) heap d.world (.add t.name t.decl) hinv.1 hwf.ok
    obtain ⟨hstep, hin, hout⟩ := hwf.env_eq d.world
    rw [← hstep] at hok
    simp only [MState.next, mstep_modelRec_tool d t hwf]
    simp only [World.step] at hok ⊢
    generalize register t.env d.world.cacheOf t.decl = r at hok ⊢
    obtain ⟨_ | e0, c⟩ := r
    · exact ⟨hok, hinv.2⟩
    · refine ⟨hok, ?_⟩
      intro x hx y hy hxy
      rcases List.mem_cons.1 hx with hx | hx <;> rcases List.mem_cons.1 hy with hy | hy
      · subst hx hy
        exact ⟨hin, hout⟩
      · -- the world dropped the old tool of this name
        subst hx
        simpa [← hxy] using (List.mem_filter.1 hy).2
      · -- the booking of this name was dropped
        subst hy
        simpa [hxy] using (List.mem_filter.1 hx).2
      · exact hinv.2 x (List.mem_filter.1 hx).1 y (List.mem_filter.1 hy).1 hxy

theorem noalarm_next {heap : Nat → Schema} {D : String → Schema} {d : MState} (hinv : Inv heap D d) (e : Ev)
    (hwf : Ev.WF heap D d e) : (mstep d (modelRec d e)).2 = none := by
  cases e with
  | reset => rfl
  | server n v => rfl
  | call name c =>
    simp only [modelRec]
    cases hc : d.callee name with
    | none => simp [mstep, hc]
    | some td =>
      simp only []
      cases hm : mkCall td c with
      | none => simp [mstep, hc, hm]
      | some ci =>
        simp only [mstep, hc, hm]
        exact monitor_accepts_model_call td ci (callee_enforcesOwn hinv hc) (hwf td ci hc hm)
  | tool t => rw [mstep_modelRec_tool d t hwf]

theorem runMon_traceFrom {heap : Nat → Schema} {D : String → Schema} (evs : List Ev) :
    ∀ d : MState, Inv heap D d → WFrun heap D d evs → runMon d (traceFrom d evs) = none := by
  induction evs with
  | nil => intro d _ _; rfl
  | cons e es ih =>
    intro d hinv hwf
    obtain ⟨hwe, hwr⟩ := hwf
    have h2 := noalarm_next hinv e hwe
    simp only [traceFrom, runMon]
    generalize hs : mstep d (modelRec d e) = s at h2
    obtain ⟨d', v⟩ := s
    simp only at h2
    subst h2
    simp only []
    have : d.next e = d' := by simp [MState.next, hs]
    rw [this] at hwr ⊢
    exact ih d' (by rw [← this]; exact inv_next hinv e hwe) hwr

/-- For ALL event lists — any number of servers over any number of shared
caches, tools derived or declared, handed in raw or by (re-used) pointer, replaced by name, registrations
failing, calls with any arguments and any handler behaviour addressed to any tool — that are well-formed
(`WFrun`), the C16 monitor raises no clause on the model's own trace. -/
theorem monitor_accepts_model (heap : Nat → Schema) (D : String → Schema) (evs : List Ev)
    (hwf : WFrun heap D {} evs) : runMon {} (traceFrom {} evs) = none :=
  runMon_traceFrom evs {} (inv_init heap D) hwf

section Witness

/-- `{"type":"object","properties":{"x":{"type":"number","maximum":18446744073709551617}}}` over
`struct{ X float64 "x" }` -/
def xSchema : Schema :=
  .mk { ty := [.object] } [("x", .mk { ty := [.number], maximum := some (.ofInt 18446744073709551617) } [] none none)] none none
def xToolD : ToolD :=
  { ity := .struct [("x", false, .float64)], oty := .any, isch := xSchema, osch := none, eisch := xSchema, eosch := none }
def xCall : CallIn :=
  { args := .val (.obj [("x", .num (.ofInt 18446744073709551617))]), h := fun _ => {}, hout := none, argsNull := false }

/-- **why `ExactOn` cannot be dropped**: 2^64+1 under `maximum: 2^64+1` is valid on exact numbers (the
monitor's reading) but the model, like the server, sees the float64 next to it — printed 18446744073709552000 —
and refuses; on this call the monitor rejects the model's own observation (with clause `f9`; the statement only says that it rejects).
Integers outside [-2^63, 2^64) are outside what the model claims (tools/claims/C16.json, note). -/
theorem monitor_rejects_model_outside_exact_range :
    xToolD.EnforcesOwn ∧ (monitor xToolD xCall (obsOf (modelCall xToolD xCall))).isSome = true :=
  ⟨⟨rfl, rfl⟩, by decide +kernel⟩

/-! non-vacuity of `monitor_accepts_model`: a well-formed history with a registration through a cache, a
replacement, and judged calls -/

def brDecl : Decl String Schema :=
  { inKey := "W", inAny := false, inGiven := none, outKey := "W", outAny := false, outGiven := some ⟨some 1, wSchema⟩ }
def brD : String → Schema := fun _ => wSchema
def brEv : ToolEv := { name := "t", ity := wTy, oty := wTy, decl := brDecl, env := gR brD }
def brCallEv : CallEv :=
  { args := wArgs 7, out := .json (.obj [("n", .num (.ofInt 7)), ("c", .str "x")]) (some (.obj [("n", .num (.ofInt 7)), ("c", .str "x")])),
    content := none, herr := none }
def brHistory : List Ev :=
  [.server 1 "2026-07-28", .tool brEv, .call none brCallEv, .server 1 "2025-06-18", .tool brEv, .tool brEv, .call (some "t") brCallEv]

theorem skeyed_wSchema : SKeyed wSchema := by
  simp [wSchema, SKeyed, SKeyedProps, SKeyedOpt, keys]

theorem brEv_wf : brEv.WF (fun _ => wSchema) brD :=
  { ok := ⟨trivial, fun _ _ => rfl⟩, resolves := rfl, objectSchema := rfl, deriveIn := rfl, deriveOut := rfl,
    keyedIn := skeyed_wSchema, keyedOut := fun s h => by cases h; exact skeyed_wSchema }

def brOut : JVal := .obj [("n", .num (.ofInt 7)), ("c", .str "x")]

theorem brCallEv_exact (td : ToolD) (ci : CallIn) (h : mkCall td brCallEv = some ci) : ExactOn td ci := by
  have ho : outOf td.oty brCallEv.out = some (.json brOut, some brOut) := by
    simp only [brCallEv, outOf, brOut]
    cases td.oty <;> rfl
  unfold mkCall at h
  rw [ho] at h
  cases h
  apply exactOn_of_inRange
  · intro m hm; cases hm; decide
  · intro x j hj; cases hj; decide

theorem brHistory_wf : WFrun (fun _ => wSchema) brD {} brHistory := by
  refine ⟨trivial, brEv_wf, ?_, trivial, brEv_wf, brEv_wf, ?_, trivial⟩
  · intro td ci _ hm; exact brCallEv_exact td ci hm
  · intro td ci _ hm; exact brCallEv_exact td ci hm

/-- the hypotheses of `monitor_accepts_model` are satisfiable by a history whose calls are really judged:
the trace has one record per event, and both calls reach `judgeCall` (the callee is found) -/
example : runMon {} (traceFrom {} brHistory) = none := monitor_accepts_model _ _ _ brHistory_wf
example : (traceFrom {} brHistory).length = 7 := rfl
example : ((([.server 1 "2024-11-05", .tool brEv] : List Ev).foldl MState.next {}).callee none).isSome = true := by decide +kernel
example : (((brHistory.take 6).foldl MState.next {}).callee (some "t")).isSome = true := by decide +kernel

end Witness

end TypedTool
