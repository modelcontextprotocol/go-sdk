import McpModel.TypedTool.GoTy
import McpModel.TypedTool.Lemmas
/-!
E12 TypedTool (C16) — lemmas about the typed decode `project` at struct types: which members of the
argument object a struct field is bound to.

Field `n` is bound to the member named exactly `n` (GoTy.lean, "struct members") and to nothing else: a member
spelled differently — in particular one that differs from a field name only in the case of its letters — is an
unknown member: it is dropped, it is never assigned to a field.

All statements are for every list of fields (any width, any nesting below), every object.
-/
namespace TypedTool

theorem projectFields_nil (kvs : Fields) : projectFields [] kvs = some [] := rfl

theorem projectFields_cons (n : String) (oe : Bool) (t : GoTy) (rest : SFields) (kvs : Fields) :
    projectFields ((n, oe, t) :: rest) kvs =
      match fieldDecode t kvs n, projectFields rest kvs with
      | some y, some ys => some (if oe && isEmptyGo t y then ys else (n, y) :: ys)
      | _, _ => none := rfl

theorem zeroFields_eq_projectFields_nil (fs : SFields) : some (zeroFields fs) = projectFields fs [] := by
  induction fs with
  | nil => simp [zeroFields, projectFields_nil]
  | cons f rest ih =>
    obtain ⟨n, oe, t⟩ := f
    rw [projectFields_cons, ← ih]
    simp [fieldDecode, lookupJ, zeroFields]

/-! The equations of `project` that the proofs use (stated once, by `rfl`: unfolding the thirty-case mutual `project` by
`rw`/`simp` in each proof is the expensive way). -/

theorem project_int64 (d : Dec) :
    project .int64 (.num d) = if inInt64 d then some (.num (.ofInt d.toInt)) else none := rfl

theorem project_uint64 (d : Dec) :
    project .uint64 (.num d) = if inUint64 d then some (.num (.ofInt d.toInt)) else none := rfl

theorem project_struct_obj (fs : SFields) (kvs : Fields) :
    project (.struct fs) (.obj kvs) = (projectFields fs kvs).map .obj := rfl

theorem project_struct_null (fs : SFields) : project (.struct fs) .null = some (.obj (zeroFields fs)) := rfl

theorem project_struct_eq_some (fs : SFields) (d : JVal) (x : JVal) (h : project (.struct fs) d = some x) :
    ∃ out, x = .obj out ∧ projectFields fs (membersOf d) = some out := by
  cases d with
  | null =>
    rw [project_struct_null] at h
    exact ⟨zeroFields fs, (Option.some.inj h).symm, (zeroFields_eq_projectFields_nil fs).symm⟩
  | obj kvs =>
    rw [project_struct_obj] at h
    obtain ⟨out, ho, hx⟩ := Option.map_eq_some_iff.1 h
    exact ⟨out, hx.symm, ho⟩
  | _ => exact nomatch h

/-- **the result depends only on the members named exactly like a field** -/
theorem projectFields_congr (fs : SFields) (kvs kvs' : Fields)
    (h : ∀ n ∈ fieldNames fs, lookupJ n kvs = lookupJ n kvs') :
    projectFields fs kvs = projectFields fs kvs' := by
  induction fs with
  | nil => simp [projectFields_nil]
  | cons f rest ih =>
    obtain ⟨n, oe, t⟩ := f
    have h1 : lookupJ n kvs = lookupJ n kvs' := h n (by simp [fieldNames])
    have h2 := ih (fun m hm => h m (by simp only [fieldNames, List.map_cons, List.mem_cons]; right; exact hm))
    rw [projectFields_cons, projectFields_cons, h2]
    simp only [fieldDecode, h1]

theorem projectFields_unknown_member_dropped (fs : SFields) (pre post : Fields) (k : String) (v : JVal)
    (hk : k ∉ fieldNames fs) :
    projectFields fs (pre ++ (k, v) :: post) = projectFields fs (pre ++ post) := by
  apply projectFields_congr
  intro n hn
  exact lookupJ_insert_ne n k v pre post (fun e => hk (e ▸ hn))

theorem projectFields_cons_some {n : String} {oe : Bool} {t : GoTy} {rest : SFields} {kvs out : Fields}
    (h : projectFields ((n, oe, t) :: rest) kvs = some out) :
    ∃ y ys, fieldDecode t kvs n = some y ∧ projectFields rest kvs = some ys ∧
      out = match fieldShown oe t y with | some v => (n, v) :: ys | none => ys := by
  rw [projectFields_cons] at h
  cases hy : fieldDecode t kvs n with
  | none => simp [hy] at h
  | some y =>
    cases hys : projectFields rest kvs with
    | none => simp [hy, hys] at h
    | some ys =>
      simp only [hy, hys, Option.some.injEq] at h
      refine ⟨y, ys, rfl, rfl, h ▸ ?_⟩
      unfold fieldShown
      split <;> rfl

/-- the decoded struct has no members but its fields -/
theorem projectFields_keys (fs : SFields) (kvs out : Fields) (h : projectFields fs kvs = some out) :
    ∀ k, hasKey k out = true → k ∈ fieldNames fs := by
  induction fs generalizing out with
  | nil =>
    simp only [projectFields_nil, Option.some.injEq] at h
    subst h
    intro k hk; simp [hasKey, lookupJ] at hk
  | cons f rest ih =>
    obtain ⟨n, oe, t⟩ := f
    obtain ⟨y, ys, -, hys, rfl⟩ := projectFields_cons_some h
    intro k hk
    simp only [fieldNames, List.map_cons, List.mem_cons]
    split at hk
    · simp only [hasKey, lookupJ] at hk
      by_cases e : n = k
      · exact Or.inl e.symm
      · simp only [e, if_false] at hk
        exact Or.inr (ih ys hys k hk)
    · exact Or.inr (ih ys hys k hk)

/-- **every field holds the decoding of the member of exactly its own name** (zero when there is none),
shown unless `omitempty` hides it. -/
theorem projectFields_lookup (fs : SFields) (kvs out : Fields) (hnd : (fieldNames fs).Nodup)
    (h : projectFields fs kvs = some out) :
    ∀ n oe t, (n, oe, t) ∈ fs →
      ∃ y, fieldDecode t kvs n = some y ∧ lookupJ n out = fieldShown oe t y := by
  induction fs generalizing out with
  | nil => intro n oe t hm; cases hm
  | cons f rest ih =>
    obtain ⟨n0, oe0, t0⟩ := f
    simp only [fieldNames, List.map_cons, List.nodup_cons] at hnd
    obtain ⟨y0, ys, hy, hys, rfl⟩ := projectFields_cons_some h
    -- no later field has the first one's name
    have hnot : lookupJ n0 ys = none := by
      cases hl : lookupJ n0 ys with
      | none => rfl
      | some w => exact absurd (projectFields_keys rest kvs ys hys n0 (by simp [hasKey, hl])) hnd.1
    intro n oe t hm
    cases List.mem_cons.1 hm with
    | inl e =>
      cases e
      refine ⟨y0, hy, ?_⟩
      split
      · next e => simp [lookupJ, e]
      · next e => rw [hnot, e]
    | inr m =>
      obtain ⟨y, hy', hl⟩ := ih ys hnd.2 hys n oe t m
      refine ⟨y, hy', ?_⟩
      have hne : n0 ≠ n := fun e => hnd.1 (e ▸ List.mem_map.2 ⟨(n, oe, t), m, rfl⟩)
      split
      · simp only [lookupJ, hne, if_false]; exact hl
      · exact hl

end TypedTool
