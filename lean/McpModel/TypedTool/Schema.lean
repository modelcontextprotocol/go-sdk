import McpModel.TypedTool.Json
/-!
E12 TypedTool (C16) — the REFERENCE JSON-Schema validator and default-filler for the generated
family: `type` (one or several), `enum`, `const`, `minimum`/`maximum`, `minLength`/`maxLength`,
`properties`, `required`, `additionalProperties` (absent/true, false, schema), `items`, `default`,
nested to any depth.

* `valid` follows the JSON Schema validation vocabulary (2020-12 §6) for these keywords. It is written
  from the specification, not from `jsonschema-go`; the harness compares the two on every generated
  case and logs disagreements as *library discrepancies*.
* `fill` is the default-filling rule of `jsonschema.Resolved.ApplyDefaults` (JSON Schema does not
  define one): only on object instances; only for properties that are NOT required; a missing property
  with a `default` gets the (recursively filled) default; a present one is filled recursively; a missing
  one without a default whose subschema has a default somewhere under `properties` gets a filled `{}`.

All recursion is structural on the schema. Core Lean only: linked into the driver.
-/
namespace TypedTool

inductive Ty where
  | null | boolean | integer | number | string | array | object
deriving DecidableEq, Repr, Inhabited

/-- The non-recursive keywords of one schema node. -/
structure Leaf where
  ty : List Ty := []                 -- `type`; [] = unconstrained
  enum : Option (List JVal) := none
  const : Option JVal := none
  minimum : Option Dec := none
  maximum : Option Dec := none
  minLength : Option Nat := none
  maxLength : Option Nat := none
  required : List String := []
  apFalse : Bool := false            -- `additionalProperties: false`
  dflt : Option JVal := none
deriving Inhabited

inductive Schema where
  | mk (c : Leaf) (props : List (String × Schema)) (ap : Option Schema) (items : Option Schema)
deriving Inhabited

abbrev Props := List (String × Schema)

namespace Schema
def leaf : Schema → Leaf | .mk c _ _ _ => c
def props : Schema → Props | .mk _ ps _ _ => ps
def ap : Schema → Option Schema | .mk _ _ a _ => a
def items : Schema → Option Schema | .mk _ _ _ i => i
/-- the empty schema (`true`, `{}`) -/
def any : Schema := .mk {} [] none none
end Schema

/-- the subschema declared for property `k` (first declaration) -/
def lookupP (k : String) : Props → Option Schema
  | [] => none
  | (k', s) :: t => if k' = k then some s else lookupP k t

def propsHasKey (k : String) : Props → Bool
  | [] => false
  | (k', _) :: t => k' = k || propsHasKey k t

/-! ### validation -/

def hasType : Ty → JVal → Bool
  | .null, .null => true
  | .boolean, .bool _ => true
  | .string, .str _ => true
  | .array, .arr _ => true
  | .object, .obj _ => true
  | .integer, .num d => d.isInt
  | .number, .num _ => true
  | _, _ => false

def typeOk (tys : List Ty) (v : JVal) : Bool := tys.isEmpty || tys.any (hasType · v)

def enumOk (e : Option (List JVal)) (v : JVal) : Bool :=
  match e with
  | none => true
  | some l => l.any (·.eqv v)

def constOk (c : Option JVal) (v : JVal) : Bool :=
  match c with
  | none => true
  | some x => x.eqv v

/-- `minimum`/`maximum` constrain numbers only. -/
def numOk (c : Leaf) : JVal → Bool
  | .num d => (match c.minimum with | some lo => lo.le d | none => true) &&
              (match c.maximum with | some hi => d.le hi | none => true)
  | _ => true

/-- `minLength`/`maxLength` constrain strings only; length in Unicode code points. -/
def strOk (c : Leaf) : JVal → Bool
  | .str s => (match c.minLength with | some lo => decide (lo ≤ s.length) | none => true) &&
              (match c.maxLength with | some hi => decide (s.length ≤ hi) | none => true)
  | _ => true

/-- `required` constrains objects only. -/
def requiredOk (req : List String) : JVal → Bool
  | .obj fs => req.all (hasKey · fs)
  | _ => true

/-- the keywords that look only at the instance node itself -/
def leafOk (c : Leaf) (v : JVal) : Bool :=
  typeOk c.ty v && enumOk c.enum v && constOk c.const v && numOk c v && strOk c v && requiredOk c.required v

mutual
def valid : Schema → JVal → Bool
  | .mk c ps ap items, v =>
    leafOk c v &&
    (match v with
     | .arr xs => xs.all (fun x => validOpt items x)
     | .obj fs => validProps ps fs &&
                  fs.all (fun kv => propsHasKey kv.1 ps || (!c.apFalse && validOpt ap kv.2))
     | _ => true)
/-- every declared property that is present validates against its subschema -/
def validProps : Props → Fields → Bool
  | [], _ => true
  | (k, s) :: t, fs => (match lookupJ k fs with | some x => valid s x | none => true) && validProps t fs
def validOpt : Option Schema → JVal → Bool
  | none, _ => true
  | some s, v => valid s v
end

/-! ### defaults -/

mutual
/-- every `default`, at every depth, is valid for the schema that carries it — what
`Schema.Resolve(ValidateDefaults: true)` checks when a tool is registered -/
def defaultsValid : Schema → Bool
  | .mk c ps ap items =>
    (match c.dflt with | some d => valid (.mk c ps ap items) d | none => true) &&
    defaultsValidProps ps && defaultsValidOpt ap && defaultsValidOpt items
def defaultsValidProps : Props → Bool
  | [] => true
  | (_, s) :: t => defaultsValid s && defaultsValidProps t
def defaultsValidOpt : Option Schema → Bool
  | none => true
  | some s => defaultsValid s
end

mutual
/-- `schemaHasDefaultsInProperties`: a default on the node or anywhere below `properties`. -/
def hasDefaults : Schema → Bool
  | .mk c ps _ _ => c.dflt.isSome || hasDefaultsProps ps
def hasDefaultsProps : Props → Bool
  | [] => false
  | (_, s) :: t => hasDefaults s || hasDefaultsProps t
end

mutual
def fill : Schema → JVal → JVal
  | .mk c ps _ _, .obj fs =>
    .obj (fs.map (fun kv => (kv.1, if c.required.contains kv.1 then kv.2 else fillAt ps kv.1 kv.2))
          ++ adds ps c.required fs)
  | _, v => v
/-- fill the value of property `key` with the subschema declared for it (first declaration), if any -/
def fillAt : Props → String → JVal → JVal
  | [], _, v => v
  | (k, s) :: t, key, v => if k = key then fill s v else fillAt t key v
/-- the bindings added for declared, non-required, missing properties -/
def adds : Props → List String → Fields → Fields
  | [], _, _ => []
  | (k, s) :: t, req, fs =>
    (if req.contains k || hasKey k fs then []
     else match s.leaf.dflt with
       | some d => [(k, fill s d)]
       | none => if hasDefaults s then [(k, fill s (.obj []))] else [])
    ++ adds t req fs
end

end TypedTool
