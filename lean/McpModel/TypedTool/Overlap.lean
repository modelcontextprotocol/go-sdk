import McpModel.TypedTool.Bridge
/-!
# E12 TypedTool (C16) — calls leave no trace; overlapping calls are answered with their OWN results

C16 speaks about every call by itself: *its* arguments, *its* handler's output, the result *it* is
answered with. The code that exists keeps no state between calls of a typed tool (`toolForErr` builds a
closure over the resolved schemas only; `applySchema` allocates what it decodes into; the JSON of the
output is a fresh slice), and a request's result is held by the goroutine of that request from the moment
its handler chain returns to the moment it is serialised. This file is the model's side of that: histories of
calls, and the two atomic sections of a request (`Sect.handle`, `Sect.respond`) over all schedules. What it
excludes: state handed from one call of a tool to the next (seeded change C16-m16), a result overwritten by a
call that started before it was written (C16-m13).
-/
namespace TypedTool

/-- The state a call leaves as it was: registration world, booked tools, session version. -/
theorem next_call (d : MState) (name : Option String) (c : CallEv) : d.next (.call name c) = d := by
  obtain ⟨o, lib, olib, h⟩ := modelRec_call d name c
  simp only [MState.next, h, mstep_call_fst]

def AllCalls : List Ev → Prop
  | [] => True
  | .call _ _ :: es => AllCalls es
  | _ :: _ => False

def MState.after (d : MState) : List Ev → MState
  | [] => d
  | e :: es => (d.next e).after es

/-- After any list of calls — valid, rejected, failing, with any outputs, to any
tools, in any order — the model's state is what it was. -/
theorem calls_leave_no_trace (d : MState) : ∀ cs : List Ev, AllCalls cs → d.after cs = d
  | [], _ => rfl
  | .call name c :: es, h => by
    simp only [MState.after, next_call]
    exact calls_leave_no_trace d es h
  | .reset :: _, h | .server _ _ :: _, h | .tool _ :: _, h => h.elim

/-- No call can influence a later one (the C16-m16 shape — a rejected call changing what the next call on
the tool is validated against and decoded from — is not a behaviour of the model). -/
theorem call_record_history_free (d : MState) (cs : List Ev) (h : AllCalls cs) (e : Ev) :
    modelRec (d.after cs) e = modelRec d e := by
  rw [calls_leave_no_trace d cs h]

theorem call_record_independent_of_call_history (d : MState) (cs₁ cs₂ : List Ev) (h₁ : AllCalls cs₁)
    (h₂ : AllCalls cs₂) (e : Ev) : modelRec (d.after cs₁) e = modelRec (d.after cs₂) e := by
  rw [call_record_history_free d cs₁ h₁, call_record_history_free d cs₂ h₂]

theorem trace_of_calls_pointwise (d : MState) : ∀ cs : List Ev, AllCalls cs → traceFrom d cs = cs.map (modelRec d)
  | [], _ => rfl
  | .call name c :: es, h => by
    simp only [traceFrom, List.map, next_call]
    rw [trace_of_calls_pointwise d es h]
  | .reset :: _, h | .server _ _ :: _, h | .tool _ :: _, h => h.elim

/-- One atomic section of the server's work on the requests of a session. `handle id r`: the handler chain
of request `id` (middleware, `callTool`, the typed wrapper, the handler) runs and returns the result `r`,
which the request's goroutine holds. `respond id`: the held result of request `id` is serialised and
written. Between the two sections of one request any sections of other requests may run. -/
inductive Sect (R : Type) where
  | handle (id : Nat) (r : R)
  | respond (id : Nat)

/-- the requests in flight and the result each one holds -/
abbrev Flight (R : Type) := List (Nat × R)

def lookupF {R : Type} (id : Nat) : Flight R → Option R
  | [] => none
  | (x, r) :: t => if x = id then some r else lookupF id t

def dropF {R : Type} (id : Nat) : Flight R → Flight R
  | [] => []
  | (x, r) :: t => if x = id then dropF id t else (x, r) :: dropF id t

/-- one section; `some (id, r)`: the response written -/
def Sect.step {R : Type} (f : Flight R) : Sect R → Flight R × Option (Nat × R)
  | .handle id r => ((id, r) :: f, none)
  | .respond id =>
    match lookupF id f with
    | some r => (dropF id f, some (id, r))
    | none => (f, none)

/-- the responses written along a schedule, in order -/
def runSched {R : Type} (f : Flight R) : List (Sect R) → List (Nat × R)
  | [] => []
  | s :: rest =>
    match s.step f with
    | (f', some p) => p :: runSched f' rest
    | (f', none) => runSched f' rest

theorem lookupF_mem {R : Type} {id : Nat} {r : R} : ∀ {f : Flight R}, lookupF id f = some r → (id, r) ∈ f
  | [], h => by simp [lookupF] at h
  | (x, q) :: t, h => by
    simp only [lookupF] at h
    split at h
    · next hx => cases h; subst hx; exact List.mem_cons_self
    · exact List.mem_cons_of_mem _ (lookupF_mem h)

theorem dropF_sub {R : Type} (id : Nat) : ∀ (f : Flight R) p, p ∈ dropF id f → p ∈ f
  | [], _, h => by simp [dropF] at h
  | (x, q) :: t, p, h => by
    simp only [dropF] at h
    split at h
    · exact List.mem_cons_of_mem _ (dropF_sub id t p h)
    · rcases List.mem_cons.mp h with h | h
      · exact h ▸ List.mem_cons_self
      · exact List.mem_cons_of_mem _ (dropF_sub id t p h)

/-- For ALL schedules — any number of requests, their sections interleaved in any
way —: if the handler chain of request `id` returned `res id`, every response written carries the result
of the request it answers. -/
theorem responses_are_own {R : Type} (res : Nat → R) :
    ∀ (s : List (Sect R)) (f : Flight R), (∀ p ∈ f, p.2 = res p.1) →
      (∀ id r, Sect.handle id r ∈ s → r = res id) → ∀ p ∈ runSched f s, p.2 = res p.1
  | [], _, _, _, p, hp => by simp [runSched] at hp
  | .handle id r :: rest, f, hf, hs, p, hp => by
    simp only [runSched, Sect.step] at hp
    refine responses_are_own res rest ((id, r) :: f) ?_ (fun i q hq => hs i q (List.mem_cons_of_mem _ hq)) p hp
    intro q hq
    rcases List.mem_cons.mp hq with h | h
    · subst h; exact hs id r List.mem_cons_self
    · exact hf q h
  | .respond id :: rest, f, hf, hs, p, hp => by
    have hs' : ∀ i q, Sect.handle i q ∈ rest → q = res i := fun i q hq => hs i q (List.mem_cons_of_mem _ hq)
    simp only [runSched, Sect.step] at hp
    cases hl : lookupF id f with
    | none =>
      simp only [hl] at hp
      exact responses_are_own res rest f hf hs' p hp
    | some r =>
      simp only [hl] at hp
      rcases List.mem_cons.mp hp with h | h
      · subst h; exact hf _ (lookupF_mem hl)
      · exact responses_are_own res rest _ (fun q hq => hf q (dropF_sub id f q hq)) hs' p h

/-- The same statement read for the INPUT side (harness: `hold=h`, a call held inside
its handler — the wrapper has validated and decoded the arguments, the handler holds its typed input and
looks at it only after the overlapping calls have run): `handle id a` = the wrapper of request `id` hands
the typed input `a` to the handler, `respond id` = the handler looks at its input. Whatever ran in
between, it sees the input decoded from its own validated arguments. -/
theorem held_inputs_are_own {A : Type} (decoded : Nat → A) (s : List (Sect A))
    (h : ∀ id a, Sect.handle id a ∈ s → a = decoded id) : ∀ p ∈ runSched [] s, p.2 = decoded p.1 :=
  responses_are_own decoded s [] (fun _ hp => by simp at hp) h

/-- the schedule the harness drives for a group of overlapping calls: every request is handled (and held),
then the held results are written in reverse order -/
def nested {R : Type} (reqs : List (Nat × R)) : List (Sect R) :=
  reqs.map (fun p => Sect.handle p.1 p.2) ++ reqs.reverse.map (fun p => Sect.respond p.1)

theorem runSched_handles {R : Type} : ∀ (reqs : List (Nat × R)) (f : Flight R) (rest : List (Sect R)),
    runSched f (reqs.map (fun p => Sect.handle p.1 p.2) ++ rest) = runSched (reqs.reverse ++ f) rest
  | [], f, rest => by simp
  | p :: ps, f, rest => by
    simp only [List.map, List.cons_append, runSched, Sect.step]
    rw [runSched_handles ps ((p.1, p.2) :: f) rest]
    simp

theorem dropF_not_mem {R : Type} (id : Nat) : ∀ (f : Flight R), (∀ p ∈ f, p.1 ≠ id) → dropF id f = f
  | [], _ => rfl
  | (x, q) :: t, h => by
    have hx : x ≠ id := h (x, q) List.mem_cons_self
    simp only [dropF, hx, if_false]
    rw [dropF_not_mem id t (fun p hp => h p (List.mem_cons_of_mem _ hp))]

theorem runSched_responds {R : Type} : ∀ (fl : Flight R), (fl.map (·.1)).Nodup →
    runSched fl (fl.map (fun p => Sect.respond p.1)) = fl
  | [], _ => rfl
  | (x, q) :: t, h => by
    have hn := List.nodup_cons.mp h
    have hnot : ∀ p ∈ t, p.1 ≠ x := fun p hp e => hn.1 (e ▸ List.mem_map_of_mem (f := (·.1)) hp)
    simp only [List.map, runSched, Sect.step, lookupF, if_true, dropF]
    rw [dropF_not_mem x t hnot, runSched_responds t hn.2]

/-- N requests with distinct ids handled one after the other, then answered in reverse
order: every request is answered, with its own result. -/
theorem nested_schedule {R : Type} (reqs : List (Nat × R)) (h : (reqs.map (·.1)).Nodup) :
    runSched [] (nested reqs) = reqs.reverse := by
  have h' : (reqs.reverse.map (·.1)).Nodup := by
    rw [List.map_reverse]; grind
  simp only [nested]
  rw [runSched_handles reqs [] _, List.append_nil]
  exact runSched_responds reqs.reverse h'

/-- A group of overlapping calls `cs` (request `i` = the i-th call) on the
state `d`, each handler chain returning what the model says of that call when it runs (the state a call
runs on is `d` whatever ran before it: `calls_leave_no_trace`), answered in reverse order: the responses
are, request by request, the model's records of the calls on `d` — the records of the same calls made one
after the other (`trace_of_calls_pointwise`), in reverse. -/
theorem overlap_group_is_pointwise (d : MState) (cs : List Ev) (h : AllCalls cs) :
    runSched [] (nested ((traceFrom d cs).zipIdx.map (fun p => (p.2, p.1)))) =
      ((cs.map (modelRec d)).zipIdx.map (fun p => (p.2, p.1))).reverse := by
  rw [trace_of_calls_pointwise d cs h]
  apply nested_schedule
  rw [List.map_map]
  have : ((fun p : Nat × Rec => p.1) ∘ fun p : Rec × Nat => (p.2, p.1)) = fun p => p.2 := by
    funext p; rfl
  rw [this]
  have hr : List.map (fun p : Rec × Nat => p.2) (List.map (modelRec d) cs).zipIdx
      = List.range' 0 (List.map (modelRec d) cs).length := by simp
  rw [hr]
  exact List.nodup_range' 1

/-- a server whose requests hold a REFERENCE into one recycled buffer instead of their result: `handle`
encodes into the buffer, `respond` serialises what the buffer holds then -/
def Sect.stepPooled {R : Type} (st : Option R × List Nat) : Sect R → (Option R × List Nat) × Option (Nat × R)
  | .handle id r => ((some r, id :: st.2), none)
  | .respond id =>
    match st.1 with
    | some r => if st.2.contains id then ((st.1, st.2.erase id), some (id, r)) else (st, none)
    | none => (st, none)

def runPooled {R : Type} (st : Option R × List Nat) : List (Sect R) → List (Nat × R)
  | [] => []
  | s :: rest =>
    match s.stepPooled st with
    | (st', some p) => p :: runPooled st' rest
    | (st', none) => runPooled st' rest

/-- Two overlapping requests with different results on the pooled-buffer
server: request 0 is answered with request 1's result — not a behaviour of `runSched`
(`responses_are_own`), and what the harness's overlapping calls exhibit on C16-m13. -/
theorem pooled_buffer_counterexample :
    runPooled (none, []) (nested [(0, "[\"aaaa\"]"), (1, "[\"bbbb\"]")]) = [(1, "[\"bbbb\"]"), (0, "[\"bbbb\"]")] ∧
    runSched [] (nested [(0, "[\"aaaa\"]"), (1, "[\"bbbb\"]")]) = [(1, "[\"bbbb\"]"), (0, "[\"aaaa\"]")] := by
  constructor <;> decide +kernel

end TypedTool
