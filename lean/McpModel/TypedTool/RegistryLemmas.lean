import McpModel.TypedTool.Registry
/-!
E12 TypedTool (C16) — invariants of registration through shared `SchemaCache`s.

`Coherent`: a cache holds, under a Go type, only the schema inferred from that type, and under a schema
pointer only the content of that pointer. The second part needs the SDK's documented condition of use
(mcp/schema_cache.go, "Trade-offs"): the content behind a `*jsonschema.Schema` handed to `AddTool` does
not change afterwards — expressed by a fixed `heap : Nat → S` that every declaration agrees with.
-/
namespace TypedTool

variable {K S : Type} [DecidableEq K]

def Coherent (R : RegEnv K S) (heap : Nat → S) (c : Cache K S) : Prop :=
  (∀ k s, assoc k c.byType = some s → s = R.derive k) ∧
  (∀ p s, assoc p c.bySchema = some s → s = heap p)

/-- a schema handed in by pointer has the content of that pointer -/
def GivenOk (heap : Nat → S) : Option (Given S) → Prop
  | some g => ∀ p, g.ptr = some p → g.content = heap p
  | none => True

def Decl.Ok (heap : Nat → S) (d : Decl K S) : Prop := GivenOk heap d.inGiven ∧ GivenOk heap d.outGiven

def RegOp.Ok (heap : Nat → S) : RegOp K S → Prop
  | .server _ => True
  | .add _ d => d.Ok heap

def ownSide (R : RegEnv K S) (k : K) : Option (Given S) → S
  | some g => g.content
  | none => R.derive k

/-- an entry against its declaration: published and enforced schemas are the own ones (`ToolD.EnforcesOwn` in `Bridge.lean`
is the enforced half, on the monitor's record of a tool) -/
def EnforcesOwn (R : RegEnv K S) (d : Decl K S) (e : Entry S) : Prop :=
  e.pubIn = d.ownIn R ∧ e.enfIn = d.ownIn R ∧ e.pubOut = d.ownOut R ∧ e.enfOut = d.ownOut R

theorem coherent_empty (R : RegEnv K S) (heap : Nat → S) : Coherent R heap ({} : Cache K S) := by
  constructor <;> intro _ _ h <;> simp [assoc] at h

theorem assoc_cons {A B : Type} [DecidableEq A] (a x : A) (b : B) (t : List (A × B)) :
    assoc a ((x, b) :: t) = if x = a then some b else assoc a t := rfl

theorem assoc_cons_all {A B : Type} [DecidableEq A] {P : A → B → Prop} {t : List (A × B)} {x : A} {b : B}
    (ht : ∀ a s, assoc a t = some s → P a s) (hx : P x b) : ∀ a s, assoc a ((x, b) :: t) = some s → P a s := by
  intro a s h
  rw [assoc_cons] at h
  split at h
  · next e => cases h; exact e ▸ hx
  · exact ht a s h

/-- `setSchema` keeps the cache coherent, and whatever it returns is the side's own schema, both as
published and as enforced. -/
theorem setSchema_spec (R : RegEnv K S) (heap : Nat → S) (c : Cache K S) (k : K) (g : Option (Given S))
    (hc : Coherent R heap c) (hg : GivenOk heap g) :
    Coherent R heap (setSchema R c k g).2 ∧
    ∀ r, (setSchema R c k g).1 = some r → r.published = ownSide R k g ∧ r.enforced = ownSide R k g := by
  -- a failed `Resolve` returns nothing and leaves the cache as it was
  have hfail : Coherent R heap c ∧ ∀ r : Resolution S, none = some r → r.published = ownSide R k g ∧ r.enforced = ownSide R k g :=
    ⟨hc, nofun⟩
  cases g with
  | none =>
    simp only [setSchema]
    cases hl : assoc k c.byType with
    | some s => exact ⟨hc, fun r hr => by cases hr; simp [ownSide, hc.1 k s hl]⟩
    | none =>
      dsimp only
      split
      · exact ⟨⟨assoc_cons_all hc.1 rfl, hc.2⟩, fun r hr => by cases hr; exact ⟨rfl, rfl⟩⟩
      · exact hfail
  | some g =>
    obtain ⟨ptr, content⟩ := g
    cases ptr with
    | none =>
      simp only [setSchema]
      split
      · exact ⟨hc, fun r hr => by cases hr; exact ⟨rfl, rfl⟩⟩
      · exact hfail
    | some p =>
      have hcont : content = heap p := hg p rfl
      simp only [setSchema]
      cases hl : assoc p c.bySchema with
      | some s => exact ⟨hc, fun r hr => by cases hr; simp [ownSide, hc.2 p s hl, hcont]⟩
      | none =>
        dsimp only
        split
        · exact ⟨⟨hc.1, assoc_cons_all hc.2 hcont⟩, fun r hr => by cases hr; exact ⟨rfl, rfl⟩⟩
        · exact hfail

/-- `register` keeps the cache coherent (also when it fails half-way), and a registered tool publishes
and enforces its own schemas. -/
theorem register_spec (R : RegEnv K S) (heap : Nat → S) (c : Cache K S) (d : Decl K S)
    (hc : Coherent R heap c) (hd : d.Ok heap) :
    Coherent R heap (register R c d).2 ∧ ∀ e, (register R c d).1 = some e → EnforcesOwn R d e := by
  obtain ⟨hgi, hgo⟩ := hd
  unfold register
  dsimp only
  -- the input side: `In = any` without a schema is handed a fresh `{"type":"object"}`
  generalize hg : (if (d.inAny && d.inGiven.isNone) = true then some (Given.mk none R.objectSchema) else d.inGiven) = gi
  have hgi' : GivenOk heap gi := by
    rw [← hg]; split
    · exact fun _ hp => nomatch hp
    · exact hgi
  have hownIn : ownSide R d.inKey gi = d.ownIn R := by
    rw [← hg]; unfold Decl.ownIn
    cases d.inGiven <;> cases d.inAny <;> rfl
  obtain ⟨hc1, hr1⟩ := setSchema_spec R heap c d.inKey gi hc hgi'
  rw [hownIn] at hr1
  generalize setSchema R c d.inKey gi = s1 at hc1 hr1 ⊢
  obtain ⟨_ | ri, c1⟩ := s1
  · exact ⟨hc1, nofun⟩
  · obtain ⟨hpi, hei⟩ := hr1 ri rfl
    -- the output side is skipped for `Out = any` without a schema
    have hownOut : d.ownOut R = if d.outGiven.isSome || !d.outAny then some (ownSide R d.outKey d.outGiven) else none := by
      unfold Decl.ownOut
      cases d.outGiven <;> cases d.outAny <;> rfl
    dsimp only
    split
    · next hout =>
      rw [if_pos hout] at hownOut
      obtain ⟨hc2, hr2⟩ := setSchema_spec R heap c1 d.outKey d.outGiven hc1 hgo
      generalize setSchema R c1 d.outKey d.outGiven = s2 at hc2 hr2 ⊢
      obtain ⟨_ | ro, c2⟩ := s2
      · exact ⟨hc2, nofun⟩
      · obtain ⟨hpo, heo⟩ := hr2 ro rfl
        refine ⟨hc2, fun e he => ?_⟩
        cases he
        exact ⟨hpi, hei, by rw [hownOut, ← hpo], by rw [hownOut, ← heo]⟩
    · next hout =>
      rw [if_neg hout] at hownOut
      refine ⟨hc1, fun e he => ?_⟩
      cases he
      exact ⟨hpi, hei, hownOut.symm, hownOut.symm⟩

/-- every cache of the world is coherent, and every tool of the current server enforces its own schemas -/
def World.Ok (R : RegEnv K S) (heap : Nat → S) (w : World K S) : Prop :=
  (∀ i c, assoc i w.caches = some c → Coherent R heap c) ∧
  (∀ x ∈ w.tools, EnforcesOwn R x.2.1 x.2.2)

theorem World.ok_init (R : RegEnv K S) (heap : Nat → S) : World.Ok R heap ({} : World K S) := by
  constructor
  · intro i c h; simp [assoc] at h
  · intro x hx; simp at hx

theorem World.cacheOf_coherent (R : RegEnv K S) (heap : Nat → S) (w : World K S) (hw : World.Ok R heap w) :
    Coherent R heap w.cacheOf := by
  unfold World.cacheOf
  cases hcur : w.cur with
  | none => exact coherent_empty R heap
  | some i =>
    simp only []
    cases ha : assoc i w.caches with
    | none => exact coherent_empty R heap
    | some c => exact hw.1 i c ha

theorem World.putCache_coherent (R : RegEnv K S) (heap : Nat → S) (w : World K S) (hw : World.Ok R heap w)
    (c : Cache K S) (hc : Coherent R heap c) :
    ∀ i c', assoc i (w.putCache c) = some c' → Coherent R heap c' := by
  unfold World.putCache
  cases w.cur with
  | none => exact hw.1
  | some j => exact assoc_cons_all hw.1 hc

theorem World.step_ok (R : RegEnv K S) (heap : Nat → S) (w : World K S) (op : RegOp K S)
    (hw : World.Ok R heap w) (hop : op.Ok heap) : World.Ok R heap (w.step R op) := by
  cases op with
  | server cache =>
    exact ⟨hw.1, by intro x hx; simp [World.step] at hx⟩
  | add name d =>
    have hspec := register_spec R heap w.cacheOf d (World.cacheOf_coherent R heap w hw) hop
    simp only [World.step]
    generalize hr : register R w.cacheOf d = r at hspec ⊢
    obtain ⟨e, c⟩ := r
    cases e with
    | none => exact ⟨World.putCache_coherent R heap w hw c hspec.1, hw.2⟩
    | some e =>
      refine ⟨World.putCache_coherent R heap w hw c hspec.1, ?_⟩
      intro x hx
      simp only [] at hx
      rcases List.mem_cons.mp hx with h | h
      · rw [h]; exact hspec.2 e rfl
      · exact hw.2 x (List.mem_filter.mp h).1

theorem World.run_ok (R : RegEnv K S) (heap : Nat → S) (ops : List (RegOp K S)) :
    ∀ (w : World K S), World.Ok R heap w → (∀ op ∈ ops, RegOp.Ok heap op) → World.Ok R heap (w.run R ops) := by
  induction ops with
  | nil => intro w hw _; exact hw
  | cons op rest ih =>
    intro w hw hops
    have h1 := World.step_ok R heap w op hw (hops op (by simp))
    exact ih (w.step R op) h1 (fun o ho => hops o (by simp [ho]))

end TypedTool
