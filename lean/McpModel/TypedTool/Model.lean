import McpModel.TypedTool.Schema
import McpModel.Generated.TypedToolGen
/-!
E12 TypedTool (C16) — the typed tool wrapper of `toolForErr` (mcp/server.go:329-470) and
`applySchema` (mcp/tool.go:75-149), transliterated; parametric in the validator.

Control flow (the steps of the Go code; in backticks the definition of a step — decode and handler are inline in `call`):
  `argsMap`   tool.go:94-110   arguments → map[string]any   (absent ↦ {}, null ↦ {} — F12 repaired —,
                                object ↦ itself, anything else ↦ "unmarshaling arguments" error)
  `applyIn`   tool.go:117-149  ApplyDefaults, Validate, re-marshal
  decode      server.go:373-381 internaljson.Unmarshal(input, &in)
  handler     server.go:384-398 error ↦ tool error (plain) or protocol error (*jsonrpc.Error)
  `outJson`   server.go:405-432 nil `any` ↦ nothing without an output schema, JSON null with one (F22
                                repaired); typed nil pointer ↦ zero value of the element type
  `applyOut`  server.go:433-447 + tool.go:110-149 (forOutput): defaults on objects, `null` coerced to {}
                                when the root type is "object", validate, re-marshal only if defaulted
  `finalContent` server.go:455-465 text fallback

  `deliver`   server.go `(*Server).callTool` after the wrapper returned: the PROTOCOL VERSION of the session
                                enters here and only here
  `serve`     the wrapper and the dispatcher: what a peer at a given protocol version is answered

`Env.remarshal` is the loss of `JSON text → map[string]any / any → JSON text`; it is the identity for
every value whose numbers Go represents exactly (see `GoTy.lean`).  Core Lean only: linked into the driver.
-/
namespace TypedTool

structure Env (S : Type) where
  fill : S → JVal → JVal
  valid : S → JVal → Bool
  /-- decoding a JSON text into `map[string]any`/`any` (and printing it again) -/
  remarshal : JVal → JVal

/-- The `arguments` member of tools/call as it reaches the wrapper. -/
inductive Args where
  | absent
  | val (v : JVal)
deriving Inhabited

/-- What `toolForErr` fixes when the tool is registered. -/
structure Tool (S : Type) where
  inSchema : S
  /-- `outputResolved`; `none` ⇔ `Out = any` and no explicit output schema -/
  outSchema : Option S
  /-- `resolved.Schema().Type == "object"` for the output schema -/
  outRootObject : Bool
  /-- JSON of the zero value of `Out`'s element type, iff `Out` is a pointer type -/
  elemZero : Option JVal
  /-- `internaljson.Unmarshal(input, &in)`: the typed input, observed re-encoded; `none` = error -/
  decodeIn : JVal → Option JVal

/-- The `Out` value a typed handler returns. -/
inductive OutVal where
  | nilAny            -- `Out = any`, nil interface: `outval == nil`
  | nilPtr            -- typed nil pointer (`any(out) == any(z)`)
  | json (j : JVal)   -- anything else, as `json.Marshal` renders it
deriving Inhabited

inductive HErr where
  | plain   -- an ordinary error: embedded in the result
  | rpc     -- a *jsonrpc.Error: returned as a protocol error
deriving DecidableEq, Inhabited

inductive Block where
  | text (s : String)     -- a block supplied by the handler
  | jsonOf (j : JVal)     -- a TextContent holding the serialised structured content
  | errText               -- a TextContent holding an error message
deriving Inhabited

/-- What the handler returns for the input it is given. -/
structure HRet where
  err : Option HErr := none
  /-- `res.Content`; `none` when `res == nil` or `res.Content == nil` -/
  content : Option (List Block) := none
  out : OutVal := .nilAny
deriving Inhabited

inductive Kind where
  | ok | toolError | rpcError
deriving DecidableEq, Repr, Inhabited

/-- What the caller of `tools/call` gets, plus what happened inside. -/
structure Outcome where
  /-- `some x` ⇔ the handler ran, and `x` is the input it observed -/
  seen : Option JVal
  kind : Kind
  structured : Option JVal
  content : List Block
deriving Inhabited

def argsMap : Args → Option JVal
  | .absent => some (.obj [])
  | .val .null => some (.obj [])
  | .val (.obj fs) => some (.obj fs)
  | .val _ => none

variable {S : Type}

/-- the argument object as the server decodes it -/
def decoded (E : Env S) (a : Args) : Option JVal := (argsMap a).map E.remarshal

/-- … with the input schema's defaults applied -/
def defaulted (E : Env S) (s : S) (a : Args) : Option JVal := (decoded E a).map (E.fill s)

/-- `applySchema(input, inputResolved, false)`: the defaulted arguments, or `none` for an error. -/
def applyIn (E : Env S) (s : S) (a : Args) : Option JVal :=
  match defaulted E s a with
  | none => none
  | some d => if E.valid s d then some d else none

def outJson (t : Tool S) : OutVal → Option JVal
  | .nilAny => if t.outSchema.isSome then some .null else none
  | .nilPtr => some (t.elemZero.getD .null)
  | .json j => some j

/-- the value `applySchema(…, forOutput)` validates for output `j` under schema `s`, and whether it was
re-marshalled (defaults applied) -/
def outForm (E : Env S) (t : Tool S) (s : S) (j : JVal) : JVal × Bool :=
  match E.remarshal j with
  | .obj fs => (E.fill s (.obj fs), true)
  | .null => if t.outRootObject then (E.fill s (.obj []), true) else (.null, false)
  | u => (u, false)

/-- `applySchema(outJSON, outputResolved, true)`: the structured content, or `none` for an error. -/
def applyOut (E : Env S) (t : Tool S) (j : JVal) : Option JVal :=
  match t.outSchema with
  | none => some j
  | some s =>
    let (v, applied) := outForm E t s j
    if E.valid s v then some (if applied then v else j) else none

def errorOutcome (seen : Option JVal) : Outcome :=
  { seen := seen, kind := .toolError, structured := none, content := [.errText] }

def finalContent (c : Option (List Block)) (sc : JVal) : List Block :=
  match c with
  | none => [.jsonOf sc]
  | some c => if sc.isObj then c else c ++ [.jsonOf sc]

/-- The wrapper `th` built by `toolForErr`. -/
def call (E : Env S) (t : Tool S) (h : JVal → HRet) (a : Args) : Outcome :=
  match applyIn E t.inSchema a with
  | none => errorOutcome none
  | some d =>
    match t.decodeIn d with
    | none => errorOutcome none
    | some x =>
      let r := h x
      match r.err with
      | some .rpc => { seen := some x, kind := .rpcError, structured := none, content := [] }
      | some .plain => errorOutcome (some x)
      | none =>
        match outJson t r.out with
        | none => { seen := some x, kind := .ok, structured := none, content := r.content.getD [] }
        | some j =>
          match applyOut E t j with
          | none => { seen := some x, kind := .rpcError, structured := none, content := [] }
          | some sc => { seen := some x, kind := .ok, structured := some sc, content := finalContent r.content sc }

/-! ### the dispatcher: what reaches a peer that speaks a given protocol version -/

/-- the `resultType` member of a result on the wire -/
inductive RType where
  | complete | inputRequired
deriving DecidableEq, Repr, Inhabited

/-- What `(*Server).callTool` hands to the JSON-RPC layer: the wrapper's outcome and the `resultType` it is
marked with (`none`: the member is absent). -/
structure Delivered where
  out : Outcome
  resultType : Option RType
deriving Inhabited

/-- mcp/mrtr.go `clientSupportsMultiRoundTrip`: `protocolVersion >= multiRoundTripSince` (Go compares the
version strings; so does this). -/
def supportsMultiRoundTrip (since v : String) : Bool := !decide (v < since)

/-- server.go `(*Server).callTool` after `st.handler` returned (the typed handlers of the harness never set
input requests): an error of the wrapper is passed on as it is; a result is marked `complete` for a peer that
supports multi round trip (`handleMultiRoundTripResult`), and nil content is replaced by the empty list (the
same `Outcome`: `content = []`). No other member of the result is touched — `callToolAssigns = ["Content"]`,
re-checked against the regenerated table by `dispatcher_assigns_only_content` (DispatchTable.lean). -/
def deliver (mrt : Bool) (o : Outcome) : Delivered :=
  match o.kind with
  | .rpcError => { out := o, resultType := none }
  | _ => { out := o, resultType := if mrt then some .complete else none }

/-- **The wrapper model with the protocol version as a parameter**: what a peer whose session runs at
protocol version `v` is answered by a server whose multi-round-trip threshold is `since`. -/
def serve (since v : String) (E : Env S) (t : Tool S) (h : JVal → HRet) (a : Args) : Delivered :=
  deliver (supportsMultiRoundTrip since v) (call E t h a)

/-- … for the SDK as it is (regenerated threshold) -/
def serveAt (v : String) (E : Env S) (t : Tool S) (h : JVal → HRet) (a : Args) : Delivered :=
  serve Generated.TypedTool.multiRoundTripSince v E t h a

def refEnv (remarshal : JVal → JVal) : Env Schema := { fill := fill, valid := valid, remarshal := remarshal }

end TypedTool
