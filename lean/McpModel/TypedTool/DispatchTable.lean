import McpModel.TypedTool.Model
/-!
E12 TypedTool (C16) — the obligations on the REGENERATED table `Generated.TypedTool` alone. A module of its own, so that
a changed table fails here first. The theorems about `deliver`/`serve` in `Props.lean` are about the dispatcher these
facts say the code has; the version examples there evaluate the table too.
-/
namespace TypedTool

/-- What `deliver` (Model.lean) rests on. A dispatcher that assigns `StructuredContent` — seeded change C16-m11:
non-object structured content dropped for peers older than SEP-2106 — makes this `decide` fail. -/
theorem dispatcher_assigns_only_content : Generated.TypedTool.callToolAssigns = ["Content"] := by decide +kernel

/-- The version the dispatcher assumes for a session without InitializeParams is the SDK's latest one, the
latest one is supported, and it is marked `complete` (what the driver assumes for `ver=default`); the
threshold of the `resultType` mark is itself a supported version. -/
theorem version_table_consistent :
    Generated.TypedTool.multiRoundTripDefault = Generated.TypedTool.latestProtocolVersion ∧
    Generated.TypedTool.latestProtocolVersion ∈ Generated.TypedTool.supportedProtocolVersions ∧
    Generated.TypedTool.multiRoundTripSince ∈ Generated.TypedTool.supportedProtocolVersions ∧
    supportsMultiRoundTrip Generated.TypedTool.multiRoundTripSince Generated.TypedTool.latestProtocolVersion = true := by
  decide +kernel

end TypedTool
