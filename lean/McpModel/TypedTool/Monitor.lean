import McpModel.TypedTool.GoTy
import McpModel.TypedTool.Registry
/-!
E12 TypedTool (C16) — the TYPED CORE of the driver: the C16 monitor on typed data.

`Driver.lean` has the string layer (token parser, renderer, clause texts) and its own step (last item below): it
parses a record into a typed event (`ToolEv`, `CallEv`) and a typed observation (`ToolObs`, `Obs` + the two library
verdicts), calls the functions of this file and prints what they return. The functions here are total
and structural, so that `Bridge.lean` (no false alarm on the model's own observations) and `Sound.lean`
(a clause that fires refutes the clause of the property, stated on observations) can reason about them.

* `ceq`: equality of JSON values as the canonical tokens compare them — numbers by value, objects as
  key-sorted member lists.
* `Obs`: what the harness reports of one tools/call; `obsOf`: the same view of a model `Outcome`.
* `monitor`: which clause of C16 the observation violates, judged against `ideal`.
* `judgeCall`: the library-discrepancy filter in front of `monitor`.
* `pubClause`: what tools/list advertises against the tool's own schemas.
* `MState`/`regTool`/`callee`/`mkCall`: the driver's bookkeeping (registration world of the model, Go types and
  own schemas per tool name). `mstep`/`runMon` put them together as a monitor over typed records: the step the
  theorems of `Bridge.lean`/`Sound.lean` speak of. `Driver.lean` does not run `mstep`: it calls `regTool`, `callee`,
  `mkCall`, `judgeCall` itself and has further branches (`Refusal.lean`, `HandlerSet.lean`, `MarshalFail.lean`).

Core Lean only: linked into the driver.
-/
namespace TypedTool

/-! ### canonical equality of JSON values -/

def stripZeros : Nat → Int → Nat × Int
  | 0, m => (0, m)
  | e + 1, m => if m % 10 = 0 then stripZeros e (m / 10) else (e + 1, m)

/-- the decimal without trailing zeros in the mantissa (what the canonical token prints) -/
def canonDec (d : Dec) : Dec := ⟨(stripZeros d.e d.m).2, (stripZeros d.e d.m).1⟩

/-- insert before the first member whose name is not smaller (stable insertion) -/
def insertField (kv : String × JVal) : Fields → Fields
  | [] => [kv]
  | x :: t => if kv.1 ≤ x.1 then kv :: x :: t else x :: insertField kv t

/-- members sorted by name, members of the same name in their order (structural: `decide` evaluates it) -/
def sortFields : Fields → Fields
  | [] => []
  | kv :: t => insertField kv (sortFields t)

mutual
/-- canonical form: numbers normalised, objects sorted by member name (stable) -/
def canon : JVal → JVal
  | .num d => .num (canonDec d)
  | .arr xs => .arr (canonList xs)
  | .obj fs => .obj (sortFields (canonFields fs))
  | v => v
def canonList : List JVal → List JVal
  | [] => []
  | x :: t => canon x :: canonList t
def canonFields : Fields → Fields
  | [] => []
  | (k, v) :: t => (k, canon v) :: canonFields t
end

mutual
/-- structural equality -/
def JVal.beq : JVal → JVal → Bool
  | .null, .null => true
  | .bool a, .bool b => a == b
  | .num a, .num b => decide (a = b)
  | .str a, .str b => a == b
  | .arr xs, .arr ys => beqList xs ys
  | .obj xs, .obj ys => beqFields xs ys
  | _, _ => false
def beqList : List JVal → List JVal → Bool
  | [], [] => true
  | x :: xs, y :: ys => x.beq y && beqList xs ys
  | _, _ => false
def beqFields : Fields → Fields → Bool
  | [], [] => true
  | (k, v) :: xs, (k', w) :: ys => k == k' && v.beq w && beqFields xs ys
  | _, _ => false
end

/-- the same JSON value: equal canonical tokens -/
def ceq (a b : JVal) : Bool := (canon a).beq (canon b)

def optCeq : Option JVal → Option JVal → Bool
  | none, none => true
  | some x, some y => ceq x y
  | _, _ => false

/-! ### what is compared -/

/-- A registered tool: its Go types, its OWN schemas (what the monitor judges by) and the schemas the
registration model says it enforces (what the model observation is computed from). -/
structure ToolD where
  ity : GoTy
  oty : GoTy
  isch : Schema
  osch : Option Schema
  eisch : Schema
  eosch : Option Schema

def rootObject (s : Schema) : Bool := match s.leaf.ty with | [.object] => true | _ => false

def ToolD.elemZero (d : ToolD) : Option JVal := match d.oty with | .ptr t => some (zeroJ t) | _ => none

/-- the tool as declared -/
def ToolD.tool (d : ToolD) : Tool Schema :=
  { inSchema := d.isch
    outSchema := d.osch
    outRootObject := match d.osch with | some s => rootObject s | none => false
    elemZero := d.elemZero
    decodeIn := project d.ity }

/-- the tool as registered (`Entry.tool`) -/
def ToolD.enforced (d : ToolD) : Tool Schema :=
  Entry.tool { pubIn := d.isch, enfIn := d.eisch, pubOut := d.osch, enfOut := d.eosch } rootObject d.elemZero (project d.ity)

def idEnv : Env Schema := refEnv id

/-- one tools/call as the harness makes it. The harness scripts handlers that return the same whatever their input
(`mkCall` builds constant ones), so the monitor reads the handler's behaviour at `.null` (`(ci.h .null).out`, `.err`);
`hout` and `argsNull` repeat what `h` and `args` say, and only `mkCall` makes them agree. -/
structure CallIn where
  args : Args
  h : JVal → HRet
  hout : Option JVal      -- JSON of the handler's output (exact), when it is a JSON value
  argsNull : Bool

/-- the result kind the client sees -/
inductive Res where
  | ok | toolerr | rpcerr | panic | other
deriving DecidableEq, Repr, Inhabited

/-- a content block as the harness reports it -/
inductive BTok where
  | text (s : String)   -- a text block (supplied by the handler)
  | sc                  -- the text block that holds the serialised structured content
  | err                 -- the text block that holds an error message
  | other (tok : String)
deriving DecidableEq, Repr, Inhabited

/-- The implementation's observation of one call: whether (exactly once) the handler ran (`none`: a count
other than 0/1), the typed input it saw re-encoded, the kind of result, the structured content, the
content blocks. -/
structure Obs where
  inv : Option Bool
  seen : Option JVal
  res : Res
  sc : Option JVal
  content : List BTok
deriving Inhabited

def resOf : Kind → Res
  | .ok => .ok | .toolError => .toolerr | .rpcError => .rpcerr

def btokOf : Block → BTok
  | .text s => .text s
  | .jsonOf _ => .sc
  | .errText => .err

/-- the same view of a model outcome -/
def obsOf (o : Outcome) : Obs :=
  { inv := some o.seen.isSome, seen := o.seen, res := resOf o.kind, sc := o.structured, content := o.content.map btokOf }

def sameObs (a b : Obs) : Bool :=
  a.inv == b.inv && optCeq a.seen b.seen && a.res == b.res && optCeq a.sc b.sc && a.content == b.content

/-! ### diagnostics: which member, which integer -/

mutual
def hasBig : JVal → Bool
  | .num d => d.isInt && d.toInt.natAbs > two53.natAbs
  | .arr xs => hasBigList xs
  | .obj fs => hasBigFields fs
  | _ => false
def hasBigList : List JVal → Bool
  | [] => false
  | x :: t => hasBig x || hasBigList t
def hasBigFields : Fields → Bool
  | [] => false
  | (_, v) :: t => hasBig v || hasBigFields t
end

mutual
/-- holds an integer of (MaxInt64, MaxUint64]: a value only an unsigned member takes -/
def hasU64 : JVal → Bool
  | .num d => d.isInt && decide (two63 ≤ d.toInt) && decide (d.toInt < two64)
  | .arr xs => hasU64List xs
  | .obj fs => hasU64Fields fs
  | _ => false
def hasU64List : List JVal → Bool
  | [] => false
  | x :: t => hasU64 x || hasU64List t
def hasU64Fields : Fields → Bool
  | [] => false
  | (_, v) :: t => hasU64 v || hasU64Fields t
end

mutual
/-- A struct member (path) of the handler's observed input `seen` that does NOT hold the decoding of the
member of exactly its name in the validated object `d` (`handler_sees_exactly_validated_members`), but
does hold the decoding of a differently spelled member of `d`. -/
def blameMember : GoTy → JVal → JVal → Option String
  | .ptr t', d, s => blameMember t' d s
  | .struct fs, .obj kvs, .obj out => blameFields fs kvs out
  | _, _, _ => none
def blameFields : SFields → Fields → Fields → Option String
  | [], _, _ => none
  | (n, oe, ty) :: rest, kvs, out =>
    let here : Option String :=
      match fieldDecode ty kvs n with
      | none => none
      | some y =>
        let got := lookupJ n out
        if optCeq (fieldShown oe ty y) got then none else
        let inner := match lookupJ n kvs, got with
          | some dv, some gv => blameMember ty dv gv
          | _, _ => none
        match inner with
        | some p => some (n ++ "." ++ p)
        | none =>
          if kvs.any (fun kv => kv.1 != n &&
                (match project ty kv.2 with
                 | some z => optCeq (fieldShown oe ty z) got
                 | none => false))
          then some n else none
    match here with
    | some p => some p
    | none => blameFields rest kvs out
end

/-- an integer a Go integer type holds (int64 or uint64) and float64 does not necessarily -/
def bigGoInt (d : Dec) : Bool :=
  d.isInt && decide (-two63 ≤ d.toInt) && decide (d.toInt < two64) && decide (d.toInt.natAbs > two53.natAbs)

def joinPath (k p : String) : String := if p.startsWith "[" || p.isEmpty then k ++ p else k ++ "." ++ p

mutual
/-- the first place where `got` holds a different number than `want` holds there, `want`'s being an
integer beyond ±2^53 inside [-2^63, 2^64): (path, wanted, got) -/
def numDiff : JVal → JVal → Option (String × Dec × Dec)
  | .num a, .num b => if a.eq b || !bigGoInt a then none else some ("", a, b)
  | .arr xs, .arr ys => if xs.length != ys.length then none else numDiffList 0 xs ys
  | .obj xs, .obj ys => numDiffFields xs ys
  | _, _ => none
def numDiffList : Nat → List JVal → List JVal → Option (String × Dec × Dec)
  | i, x :: xs, y :: ys =>
    match numDiff x y with
    | some (p, a, b) => some (s!"[{i}]" ++ p, a, b)
    | none => numDiffList (i + 1) xs ys
  | _, _, _ => none
def numDiffFields : Fields → Fields → Option (String × Dec × Dec)
  | [], _ => none
  | (k, v) :: t, ys =>
    let here : Option (String × Dec × Dec) :=
      match lookupJ k ys with
      | some w => (numDiff v w).map fun (p, a, b) => (joinPath k p, a, b)
      | none => none
    match here with
    | some r => some r
    | none => numDiffFields t ys
end

/-! ### the clauses -/

/-- The clauses of the typed monitor (`monitor`, `pubClause`, `judgeCall`); the texts are in `Driver.lean`, which
prints four more after `V` from its own branches (registration refusal, marshal failure, two handler-set clauses). -/
inductive Clause where
  | f12Panic            -- C16/F12: null arguments + declared default: panic
  | panicked            -- the wrapper panicked
  | f16                 -- C16/F16 (finding F22): success without structured content although an output schema is declared (nil `any` output)
  | scMissing           -- success_has_structured: the same for any other output of the handler
  | f12NullSeen         -- C16/F12: null arguments: the handler observes null
  | recvExact (p : String) (a b : Dec)    -- handler_receives_exact_integers
  | carryExact (p : String) (a b : Dec)   -- result_carries_exact_integers
  | u64Refused          -- invoked_iff_valid_after_defaults, the (MaxInt64, MaxUint64] reason
  | f9                  -- C16/F9
  | notInvoked          -- invoked_iff_valid_after_defaults: valid, handler did not run
  | invokedInvalid      -- invoked_iff_valid_after_defaults: ran on invalid arguments
  | members (p : String)  -- handler_sees_exactly_validated_members
  | seesDefaulted       -- handler_sees_defaulted_args
  | invalidNoToolErr    -- invalid_gives_tool_error_without_invocation
  | nilPtr              -- nil_pointer_output_uses_zero_value
  | invalidOutReturned  -- invalid_output_is_error_not_result
  | validOutRefused     -- structured_valid: schema-valid output not returned as a success
  | kindDiffers         -- result kind differs from the wrapper's contract
  | scDiffers           -- structured_equals_output_json_with_defaults
  | contentDiffers      -- text_fallback_iff_no_content
  | errContent          -- the content of an error differs from the wrapper's contract
  | pubIn               -- published_schema_is_own (input)
  | pubOut              -- published_schema_is_own (output)
  | libIn (lib ref : Bool)   -- LIBDISC input (not a C16 clause)
  | libOut (lib ref : Bool)  -- LIBDISC output (not a C16 clause)
deriving Inhabited

def isNilPtr : OutVal → Bool
  | .nilPtr => true
  | _ => false

def isNilAny : OutVal → Bool
  | .nilAny => true
  | _ => false

/-- The wrapper run over the tool's OWN schemas on exact numbers: what the monitor judges by. -/
def ideal (d : ToolD) (ci : CallIn) : Outcome := call idEnv d.tool ci.h ci.args

/-- integers beyond ±2^53 are involved (arguments or handler output) -/
def bigCall (ci : CallIn) : Bool :=
  (match ci.args with | .val v => hasBig v | .absent => false) ||
  (match ci.hout with | some j => hasBig j | none => false)

/-- null arguments reached the handler as null, everything else as demanded (F12) -/
def f12Guard (d : ToolD) (ci : CallIn) (o : Obs) : Bool :=
  ci.argsNull && optCeq o.seen (some .null) && sameObs { o with seen := (obsOf (ideal d ci)).seen } (obsOf (ideal d ci))

/-- the first integer of the Go integer ranges that `got` holds differently from `want` -/
def firstNumDiff : Option JVal → Option JVal → Option (String × Dec × Dec)
  | some w, some g => numDiff w g
  | _, _ => none

/-- the handler ran, as it should, on an input that differs in such an integer (and in no misbound member) -/
def recvGuard (d : ToolD) (ci : CallIn) (o : Obs) : Bool :=
  bigCall ci && o.inv == some true && (obsOf (ideal d ci)).inv == some true && !optCeq o.seen (obsOf (ideal d ci)).seen &&
  (match defaulted idEnv d.isch ci.args, o.seen with
   | some dv, some sv => (blameMember d.ity dv sv).isNone | _, _ => true) &&
  (firstNumDiff (ideal d ci).seen o.seen).isSome

/-- a successful result, as it should be, whose structured content differs in such an integer -/
def carryGuard (d : ToolD) (ci : CallIn) (o : Obs) : Bool :=
  bigCall ci && o.inv == (obsOf (ideal d ci)).inv && optCeq o.seen (obsOf (ideal d ci)).seen && o.res == .ok &&
  (obsOf (ideal d ci)).res == .ok && !optCeq o.sc (obsOf (ideal d ci)).sc &&
  (firstNumDiff (ideal d ci).structured o.sc).isSome

/-- a valid call holding an integer of (MaxInt64, MaxUint64] refused, as by a decode that keeps only int64 exact -/
def u64Guard (d : ToolD) (ci : CallIn) (o : Obs) : Bool :=
  (obsOf (ideal d ci)).inv == some true && o.inv == some false && (match ci.args with | .val v => hasU64 v | .absent => false) &&
  sameObs o (obsOf (call (refEnv lossy63) d.tool ci.h ci.args))

/-- the observation of the unrepaired wrapper (every number through float64, F9) -/
def f9Guard (d : ToolD) (ci : CallIn) (o : Obs) : Bool :=
  bigCall ci && sameObs o (obsOf (call (refEnv lossy53) d.tool ci.h ci.args))

/-- The diagnosed shapes, tried first on an observation that is not the ideal one: the shapes of the
findings F12 and F9 (what the tree without their fixes does) and the exact-integer clauses, which name the member and both values. -/
def monDiag (d : ToolD) (ci : CallIn) (o : Obs) : Option Clause :=
  if f12Guard d ci o then some .f12NullSeen
  else if recvGuard d ci o then
    (firstNumDiff (ideal d ci).seen o.seen).map fun (p, a, b) => .recvExact p a b
  else if carryGuard d ci o then
    (firstNumDiff (ideal d ci).structured o.sc).map fun (p, a, b) => .carryExact p a b
  else if u64Guard d ci o then some .u64Refused
  else if f9Guard d ci o then some .f9
  else none

/-- The contract chain: the first component of the observation `o` that departs from the ideal one `io`,
in the order of the property's clauses. -/
def monContract (d : ToolD) (ci : CallIn) (o io : Obs) : Option Clause :=
  if o.inv != io.inv then
    if io.inv == some true then some .notInvoked else some .invokedInvalid
  else if !optCeq o.seen io.seen then
    match defaulted idEnv d.isch ci.args, o.seen with
    | some dv, some sv =>
      match blameMember d.ity dv sv with
      | some p => some (.members p)
      | none => some .seesDefaulted
    | _, _ => some .seesDefaulted
  else if io.inv == some false && (o.res != .toolerr || o.content.isEmpty || o.sc.isSome) then some .invalidNoToolErr
  else if isNilPtr (ci.h .null).out && (o.res != io.res || !optCeq o.sc io.sc) then some .nilPtr
  else if o.res != io.res then
    -- "returned as a result": a SUCCESSFUL result although the handler's output (it returned no error)
    -- violates the output schema; any other wrong kind is a breach of the wrapper's error contract
    if io.res == .rpcerr && (ci.h .null).err.isNone && o.res == .ok then some .invalidOutReturned
    else if io.res == .ok then some .validOutRefused
    else some .kindDiffers
  else if !optCeq o.sc io.sc then some .scDiffers
  else if o.content != io.content then
    -- the text fallback is a clause about successful results
    if io.res == .ok then some .contentDiffers else some .errContent
  else none

/-- The C16 monitor. The equality test `sameObs o io` decides WHETHER the observation is accepted; the rest
picks the clause. -/
def monitor (d : ToolD) (ci : CallIn) (o : Obs) : Option Clause :=
  let io := obsOf (ideal d ci)
  if o.res == .panic then
    if ci.argsNull && hasDefaults d.isch then some .f12Panic else some .panicked
  else if d.osch.isSome && o.res == .ok && o.sc.isNone then
    -- the F22 shape (clause `f16`: Out = any, nil output, the schema never consulted) keeps its own text; any other
    -- output of the handler that arrives without structured content — whatever the protocol version of
    -- the session, whatever the JSON kind of the output — is the general clause
    if isNilAny (ci.h .null).out then some .f16 else some .scMissing
  else if sameObs o io then none
  else
    match monDiag d ci o with
    | some c => some c
    | none => monContract d ci o io

/-! ### the reference validator's verdicts, and the library-discrepancy filter -/

/-- the reference validator's verdict on the (exact) arguments after defaults; `none`: not an object -/
def libIn (d : ToolD) (ci : CallIn) : Option Bool :=
  match argsMap ci.args with
  | some m => some (valid d.isch (fill d.isch m))
  | none => none

/-- the model observation of a call: the repaired wrapper over the schemas the tool enforces -/
def modelCall (d : ToolD) (ci : CallIn) : Outcome := call (refEnv lossy64) d.enforced ci.h ci.args

/-- … as it reaches a peer whose session runs at protocol version `v` (`serveAt`: wrapper, then dispatcher) -/
def modelServe (v : String) (d : ToolD) (ci : CallIn) : Delivered := serveAt v (refEnv lossy64) d.enforced ci.h ci.args

/-- the reference validator's verdict on the (exact) output in the form `applySchema` validates. The guard is the
MODEL's invocation (`modelCall`: enforced schemas, `lossy64`): it predicts whether the implementation's handler ran,
and the harness prints `olib=` only then (the model text must print the same); the verdict itself is judged like
`libIn`, by the tool's own schema on exact numbers. -/
def libOut (d : ToolD) (ci : CallIn) : Option Bool :=
  let t := d.tool
  match (modelCall d ci).seen, (ci.h .null).err,
        ci.hout <|> (match (ci.h .null).out with | .nilPtr => t.elemZero | .nilAny => some .null | _ => none), d.osch with
  | some _, none, some j, some s => some (valid s (outForm idEnv t s j).1)
  | _, _, _, _ => none

/-- both sides gave a verdict and the verdicts differ -/
def disc (a b : Option Bool) : Bool :=
  match a, b with
  | some x, some y => x != y
  | _, _ => false

/-- What the driver reports for a call record whose observation parsed: a disagreement between
jsonschema-go (`lib`, `olib`: computed by the harness on exactly decoded values) and the reference
validator is reported as such and the call is not judged; otherwise the monitor. -/
def judgeCall (d : ToolD) (ci : CallIn) (o : Obs) (lib olib : Option Bool) : Option Clause :=
  if disc lib (libIn d ci) then some (.libIn (lib.getD false) ((libIn d ci).getD false))
  else if disc olib (libOut d ci) then some (.libOut (olib.getD false) ((libOut d ci).getD false))
  else monitor d ci o

/-! ### schema equality (what tools/list advertises against the tool's own schema) -/

def optDecEq (a b : Option Dec) : Bool :=
  match a, b with
  | none, none => true
  | some x, some y => x.eq y
  | _, _ => false

def listCeq : List JVal → List JVal → Bool
  | [], [] => true
  | x :: xs, y :: ys => ceq x y && listCeq xs ys
  | _, _ => false

def leafSame (a b : Leaf) : Bool :=
  a.ty == b.ty &&
  (match a.enum, b.enum with
   | none, none => true
   | some x, some y => listCeq x y
   | _, _ => false) &&
  optCeq a.const b.const && optDecEq a.minimum b.minimum && optDecEq a.maximum b.maximum &&
  a.minLength == b.minLength && a.maxLength == b.maxLength && a.required == b.required &&
  a.apFalse == b.apFalse && optCeq a.dflt b.dflt

def isAnySchema : Schema → Bool
  | .mk c ps ap items =>
    c.ty.isEmpty && c.enum.isNone && c.const.isNone && c.minimum.isNone && c.maximum.isNone && c.minLength.isNone &&
    c.maxLength.isNone && c.required.isEmpty && !c.apFalse && c.dflt.isNone && ps.isEmpty && ap.isNone && items.isNone

def isAnyOpt : Option Schema → Bool
  | none => true
  | some s => isAnySchema s

mutual
/-- same schema: keywords by value, `properties` as a map, an absent subschema = the empty schema -/
def sameSchema : Schema → Schema → Bool
  | .mk c1 p1 a1 i1, .mk c2 p2 a2 i2 =>
    leafSame c1 c2 && p1.length == p2.length && samePropsIn p1 p2 && sameOpt a1 a2 && sameOpt i1 i2
/-- every property of the left has the same schema on the right -/
def samePropsIn : Props → Props → Bool
  | [], _ => true
  | (k, s) :: t, p2 => (match lookupP k p2 with | some s2 => sameSchema s s2 | none => false) && samePropsIn t p2
def sameOpt : Option Schema → Option Schema → Bool
  | none, b => isAnyOpt b
  | some x, b =>
    if isAnySchema x then isAnyOpt b else
    match b with
    | none => false
    | some y => if isAnySchema y then false else sameSchema x y
end

/-- What tools/list advertised for a tool that was added: `pi`/`po` (`none`: unreadable; `some none`: no
output schema). -/
inductive ToolObs where
  | ok (pi : Option Schema) (po : Option (Option Schema))
  | other       -- anything that does not start with `ok` (`addtool-error`, …)
deriving Inhabited

def ToolObs.isOk : ToolObs → Bool
  | .ok _ _ => true
  | .other => false

def pubInOk (ownI : Schema) (pi : Option Schema) : Bool :=
  match pi with | some p => sameSchema p ownI | none => false

def pubOutOk (ownO : Option Schema) (po : Option (Option Schema)) : Bool :=
  match po, ownO with
  | some none, none => true
  | some (some p), some o => sameSchema p o
  | _, _ => false

/-- the advertised schemas against the tool's own -/
def pubClause (ownI : Schema) (ownO : Option Schema) (pi : Option Schema) (po : Option (Option Schema)) : Option Clause :=
  if pubInOk ownI pi && pubOutOk ownO po then none else if pubInOk ownI pi then some .pubOut else some .pubIn

/-! ### the driver's bookkeeping -/

def objectSchema : Schema := .mk { ty := [.object] } [] none none

/-- the `tool` op: the declaration, the inference results for its two Go types, its Go types -/
structure ToolEv where
  name : String
  ity : GoTy
  oty : GoTy
  decl : Decl String Schema
  env : RegEnv String Schema

structure MState where
  world : World String Schema := {}
  /-- Go types and OWN schemas (`Decl.ownIn`/`Decl.ownOut`) of the current server's tools -/
  tys : List (String × GoTy × GoTy × Schema × Option Schema) := []
  last : Option String := none
  /-- the protocol version the current server's session runs at (before any `server` op: the pair the
  harness makes on demand, the SDK client left alone) -/
  ver : String := Generated.TypedTool.latestProtocolVersion

/-- `server` steps do not consult the environment -/
def refReg : RegEnv String Schema := { derive := fun _ => objectSchema, resolves := defaultsValid, objectSchema := objectSchema }

def MState.server (n : Nat) (v : String) (d : MState) : MState :=
  { world := d.world.step refReg (.server (if n == 0 then none else some n)), tys := [], last := none, ver := v }

/-- what the model says of a `tool` op -/
inductive ToolOut where
  | addErr                              -- the model: AddTool fails
  | expected (v : Option Clause)        -- the model: ok with the tool's own schemas; the implementation differs
  | accept                              -- the implementation's `ok …` advertises the own schemas
deriving Inhabited

def ToolEv.ownIn (t : ToolEv) : Schema := t.decl.ownIn t.env
def ToolEv.ownOut (t : ToolEv) : Option Schema := t.decl.ownOut t.env

/-- The monitor's booking of the tools the IMPLEMENTATION holds on the current server: an `ok` books the
tool under its name (replacing one of that name), anything else leaves the table as it is (an AddTool that
fails replaces nothing). -/
def MState.book (d : MState) (t : ToolEv) (o : ToolObs) : MState :=
  if o.isOk then
    { d with tys := (t.name, t.ity, t.oty, t.ownIn, t.ownOut) :: d.tys.filter (·.1 != t.name), last := some t.name }
  else d

/-- AddTool on the current server. AddTool must reject exactly the declared schemas with a default that
is invalid for its own subschema; the cache keeps what the input side stored. Where the model accepts and the
implementation refused (`.other`), the tool is taken out of the model's world too: later calls are judged against
what the implementation holds. -/
def MState.regTool (d : MState) (t : ToolEv) (o : ToolObs) : MState × ToolOut :=
  let w := d.world.step t.env (.add t.name t.decl)
  let b := d.book t o
  match (register t.env d.world.cacheOf t.decl).1 with
  | none => ({ b with world := w }, .addErr)
  | some _ =>
    match o with
    | .other => ({ b with world := { w with tools := w.tools.filter (·.1 != t.name) } }, .expected none)
    | .ok pi po =>
      -- what tools/list advertises must be the tool's own schemas
      match pubClause t.ownIn t.ownOut pi po with
      | none => ({ b with world := w }, .accept)
      | some c => ({ b with world := w }, .expected (some c))

def MState.toolD (d : MState) (name : String) : Option ToolD :=
  match d.world.tools.find? (·.1 == name), d.tys.find? (·.1 == name) with
  | some (_, _, e), some (_, ity, oty, isch, osch) =>
    some { ity, oty, isch, osch, eisch := e.enfIn, eosch := e.enfOut }
  | _, _ => none

/-- the tool a `call` op addresses: the named one, else the one added last -/
def MState.callee (d : MState) (name : Option String) : Option ToolD := (name <|> d.last) >>= d.toolD

/-! ### the `call` op -/

/-- the handler's output as the op gives it -/
inductive OutSpec where
  | nilPtr
  | nilAny
  /-- `out=` (raw) and, when the harness reports it, `hout=`: the JSON of the value the handler returns -/
  | json (raw : JVal) (hout : Option JVal)
deriving Inhabited

structure CallEv where
  args : Args
  out : OutSpec
  content : Option (List Block)
  herr : Option HErr

/-- the JSON of the value the handler returns: reported by the harness (`hout=`, encoding/json's rendering
of the Out value it builds; with anyx=1 the `any` positions hold int64/uint64), else (streams that carry no
`hout=`) the round trip of `out=` through the Out type. A JSON null decoded into `any` is the nil
interface, and into a pointer the typed nil. `none`: `out=` does not decode into the Out type. -/
def outOf (oty : GoTy) : OutSpec → Option (OutVal × Option JVal)
  | .nilPtr => some (.nilPtr, none)
  | .nilAny => some (.nilAny, none)
  | .json raw hout =>
    match (match hout with | some h => some h | none => project oty raw) with
    | none => none
    | some j =>
      match oty, j with
      | .any, .null => some (.nilAny, none)
      | .ptr _, .null => some (.nilPtr, none)
      | _, _ => some (.json j, some j)

def mkCall (d : ToolD) (c : CallEv) : Option CallIn :=
  match outOf d.oty c.out with
  | none => none
  | some (out, hout) =>
    some { args := c.args, h := fun _ => { err := c.herr, content := c.content, out := out }, hout := hout,
           argsNull := match c.args with | .val .null => true | _ => false }

/-! ### the monitor over typed records -/

/-- a record: the op and what the implementation was observed to do -/
inductive Rec where
  | reset
  | server (n : Nat) (v : String)
  | tool (t : ToolEv) (o : ToolObs)
  | call (name : Option String) (c : CallEv) (o : Obs) (lib olib : Option Bool)

def mstep (d : MState) : Rec → MState × Option Clause
  | .reset => ({}, none)
  | .server n v => (d.server n v, none)
  | .tool t o =>
    match d.regTool t o with
    | (d', .expected v) => (d', v)
    | (d', _) => (d', none)
  | .call name c o lib olib =>
    match d.callee name with
    | none => (d, none)
    | some td =>
      match mkCall td c with
      | none => (d, none)
      | some ci => (d, judgeCall td ci o lib olib)

/-- the first clause the monitor raises along a list of records -/
def runMon (d : MState) : List Rec → Option Clause
  | [] => none
  | r :: rest =>
    match mstep d r with
    | (_, some c) => some c
    | (d', none) => runMon d' rest

end TypedTool
