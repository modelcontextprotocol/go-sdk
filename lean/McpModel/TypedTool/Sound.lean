import McpModel.TypedTool.Bridge
/-!
# E12 TypedTool (C16) — CLAUSE SOUNDNESS of the C16 monitor

For each clause the monitor can print, the clause of the property it stands for is stated as a predicate `P_…`
(named after the property's phrase; several clauses of the monitor refute the same one) on
what was OBSERVED of one call (`Obs`: did the handler run, what did it see, which kind of result, which
structured content, which content blocks) given the INPUTS of the call (the tool's own schemas and Go
types `ToolD`, the arguments and the scripted handler behaviour `CallIn`). The predicates are written from
the property text with the reference validator (`valid`, `fill`) and the typed decode (`project`); they do
not mention the wrapper model (`call`, `Env`, `applyIn`, `applyOut`); one of them, `P_nil_pointer_zero`, is stated
with `demanded`, the ideal wrapper written in this vocabulary. `sound_<clause>` (named after the `Clause`
constructor): if the monitor prints the clause, its predicate is false of the observation.

The proofs: `Ideal` lists the six shapes the ideal observation `io d ci` can have (the error answer on invalid
arguments, the five ends of `demanded` on valid ones); `fires_part` says in which component of the observation a raised
clause makes it depart from the ideal one; one lemma per component says, shape by shape, which predicate such a
departure refutes.
-/
namespace TypedTool

/-- the argument object (absent or null arguments: the empty object; anything but an object: none) with the
input schema's defaults applied -/
def defaultedArgs (d : ToolD) (ci : CallIn) : Option JVal := (argsMap ci.args).map (fill d.isch)

/-- the arguments are valid under the tool's input schema after defaults are applied (and decode into the
handler's input type); `y` is the typed input, re-encoded -/
def HandlerInput (d : ToolD) (ci : CallIn) (y : JVal) : Prop :=
  ∃ dv, defaultedArgs d ci = some dv ∧ valid d.isch dv = true ∧ project d.ity dv = some y

def ValidArgs (d : ToolD) (ci : CallIn) : Prop := ∃ y, HandlerInput d ci y

/-- the JSON of the zero value of the output type's element type (for pointer output types) -/
def zeroValue (d : ToolD) : JVal := match d.oty with | .ptr t => zeroJ t | _ => .null

/-- the JSON of the handler's output: a typed nil pointer stands for the zero value of its element type; a
nil `any` is JSON null when an output schema is declared, and no output at all otherwise -/
def handlerJson (d : ToolD) : OutVal → Option JVal
  | .json j => some j
  | .nilPtr => some (zeroValue d)
  | .nilAny => if d.osch.isSome then some .null else none

/-- "with schema defaults": defaults are filled into an object; a null output under a schema whose root
type is "object" counts as the empty object -/
def withDefaults (s : Schema) : JVal → JVal
  | .obj fs => fill s (.obj fs)
  | .null => if rootObject s then fill s (.obj []) else .null
  | u => u

def withDefaultsOpt (os : Option Schema) (j : JVal) : JVal :=
  match os with
  | some s => withDefaults s j
  | none => j

/-- "valid under the output schema" (nothing to check when none is declared) -/
def outputOk (d : ToolD) (j : JVal) : Bool :=
  match d.osch with
  | some s => valid s (withDefaults s j)
  | none => true

/-- the structured content the property demands for the handler's output -/
def expectSc (d : ToolD) (out : OutVal) : Option JVal := (handlerJson d out).map (withDefaultsOpt d.osch)

/-- "plus a text rendering of it when the handler supplied no content of its own" (and, the wrapper's
documented rule, appended to the handler's content when the structured content is not an object) -/
def textFallback (c : Option (List Block)) (sc : JVal) : List Block :=
  match c with
  | none => [.jsonOf sc]
  | some c => if sc.isObj then c else c ++ [.jsonOf sc]

def expectContent (c : Option (List Block)) : Option JVal → List BTok
  | none => (c.getD []).map btokOf
  | some sc => (textFallback c sc).map btokOf

def optJEq : Option JVal → Option JVal → Prop
  | none, none => True
  | some x, some y => JEq x y
  | _, _ => False

theorem optCeq_of_optJEq {a b : Option JVal} (h : optJEq a b) : optCeq a b = true := by
  cases a <;> cases b <;> simp [optJEq, optCeq] at h ⊢
  exact ceq_of_JEq h

/-- what the clauses below together demand of the call when the handler runs on `y` and returns `r` -/
def demanded (d : ToolD) (y : JVal) (r : HRet) : Outcome :=
  match r.err with
  | some .rpc => { seen := some y, kind := .rpcError, structured := none, content := [] }
  | some .plain => { seen := some y, kind := .toolError, structured := none, content := [.errText] }
  | none =>
    match handlerJson d r.out with
    | none => { seen := some y, kind := .ok, structured := none, content := r.content.getD [] }
    | some j =>
      if outputOk d j then
        { seen := some y, kind := .ok, structured := some (withDefaultsOpt d.osch j),
          content := textFallback r.content (withDefaultsOpt d.osch j) }
      else { seen := some y, kind := .rpcError, structured := none, content := [] }

theorem defaulted_idEnv (d : ToolD) (ci : CallIn) : defaulted idEnv d.isch ci.args = defaultedArgs d ci := by
  simp only [defaulted, decoded, defaultedArgs, idEnv, refEnv, Option.map_map]
  cases argsMap ci.args <;> rfl

theorem outJson_tool (d : ToolD) (out : OutVal) : outJson d.tool out = handlerJson d out := by
  cases out with
  | json j => rfl
  | nilAny => rfl
  | nilPtr =>
    simp only [outJson, handlerJson, zeroValue, ToolD.tool, ToolD.elemZero]
    cases d.oty <;> rfl

theorem outForm_tool (d : ToolD) (s : Schema) (j : JVal) (hs : d.osch = some s) :
    (outForm idEnv d.tool s j).1 = withDefaults s j ∧ ((outForm idEnv d.tool s j).2 = false → withDefaults s j = j) := by
  have hr : d.tool.outRootObject = rootObject s := by simp only [ToolD.tool, hs]
  cases j with
  | null => cases h : rootObject s <;> simp [outForm, idEnv, refEnv, withDefaults, hr, h]
  | _ => simp [outForm, idEnv, refEnv, withDefaults]

theorem applyOut_tool (d : ToolD) (j : JVal) :
    applyOut idEnv d.tool j = if outputOk d j then some (withDefaultsOpt d.osch j) else none := by
  unfold applyOut outputOk withDefaultsOpt
  rw [show d.tool.outSchema = d.osch from rfl]
  cases hs : d.osch with
  | none => rfl
  | some s =>
    have := outForm_tool d s j hs
    dsimp only
    generalize outForm idEnv d.tool s j = f at this ⊢
    obtain ⟨v, applied⟩ := f
    obtain ⟨rfl, h⟩ := this
    cases applied with
    | true => rfl
    | false => simp only [h rfl]; rfl

theorem handlerInput_ideal {d : ToolD} {ci : CallIn} {y : JVal} :
    handlerInput idEnv d.tool ci.args = some y ↔ HandlerInput d ci y := by
  rw [handlerInput_eq_some, show defaulted idEnv d.tool.inSchema ci.args = defaultedArgs d ci from defaulted_idEnv d ci]
  rfl

theorem finish_ideal (d : ToolD) (y : JVal) (r : HRet) : finish idEnv d.tool y r = demanded d y r := by
  unfold finish demanded
  cases r.err with
  | some e => cases e <;> rfl
  | none =>
    simp only [outJson_tool]
    cases handlerJson d r.out with
    | none => rfl
    | some j => simp only [applyOut_tool]; cases outputOk d j <;> rfl

theorem ideal_invalid (d : ToolD) (ci : CallIn) (h : ¬ ValidArgs d ci) : ideal d ci = errorOutcome none := by
  unfold ideal
  rw [call_eq]
  cases hi : handlerInput idEnv d.tool ci.args with
  | none => rfl
  | some y => exact absurd ⟨y, handlerInput_ideal.1 hi⟩ h

theorem ideal_valid (d : ToolD) (ci : CallIn) (y : JVal) (h : HandlerInput d ci y) :
    ideal d ci = demanded d y (ci.h y) := by
  unfold ideal
  rw [call_eq, handlerInput_ideal.2 h]
  exact finish_ideal d y (ci.h y)

theorem HandlerInput_unique {d : ToolD} {ci : CallIn} {y y' : JVal} (h : HandlerInput d ci y) (h' : HandlerInput d ci y') :
    y = y' := by
  obtain ⟨dv, hd, _, hx⟩ := h
  obtain ⟨dv', hd', _, hx'⟩ := h'
  rw [hd] at hd'; cases hd'
  rw [hx] at hx'; cases hx'; rfl

abbrev io (d : ToolD) (ci : CallIn) : Obs := obsOf (ideal d ci)

/-- What the property demands of a call, case by case: the six shapes the ideal observation can have, each with the
condition (in the property's vocabulary) under which it arises. The component lemmas below are stated for any `i` with
`Ideal d ci i` and applied to `io_ideal`; after `cases` every component of the ideal observation is a literal. -/
inductive Ideal (d : ToolD) (ci : CallIn) : Obs → Prop
  | invalid : ¬ ValidArgs d ci → Ideal d ci ⟨some false, none, .toolerr, none, [.err]⟩
  | rpc y : HandlerInput d ci y → (ci.h y).err = some .rpc → Ideal d ci ⟨some true, some y, .rpcerr, none, []⟩
  | plain y : HandlerInput d ci y → (ci.h y).err = some .plain → Ideal d ci ⟨some true, some y, .toolerr, none, [.err]⟩
  | noOutput y : HandlerInput d ci y → (ci.h y).err = none → handlerJson d (ci.h y).out = none →
      Ideal d ci ⟨some true, some y, .ok, none, ((ci.h y).content.getD []).map btokOf⟩
  | badOutput y j : HandlerInput d ci y → (ci.h y).err = none → handlerJson d (ci.h y).out = some j →
      outputOk d j = false → Ideal d ci ⟨some true, some y, .rpcerr, none, []⟩
  | ok y j : HandlerInput d ci y → (ci.h y).err = none → handlerJson d (ci.h y).out = some j → outputOk d j = true →
      Ideal d ci ⟨some true, some y, .ok, some (withDefaultsOpt d.osch j),
        (textFallback (ci.h y).content (withDefaultsOpt d.osch j)).map btokOf⟩

theorem io_ideal (d : ToolD) (ci : CallIn) : Ideal d ci (io d ci) := by
  by_cases hv : ValidArgs d ci
  · obtain ⟨y, hy⟩ := hv
    rw [io, ideal_valid d ci y hy]
    unfold demanded
    cases hr : (ci.h y).err with
    | some e =>
      cases e with
      | plain => exact .plain y hy hr
      | rpc => exact .rpc y hy hr
    | none =>
      cases hj : handlerJson d (ci.h y).out with
      | none => exact .noOutput y hy hr hj
      | some j =>
        cases ho : outputOk d j with
        | false => simp only [ho, Bool.false_eq_true, if_false]; exact .badOutput y j hy hr hj ho
        | true => simp only [ho, if_true]; exact .ok y j hy hr hj ho
  · rw [io, ideal_invalid d ci hv]
    exact .invalid hv

/-- every call is answered by a result or an error; the wrapper does not crash -/
def P_no_crash (o : Obs) : Prop := o.res ≠ .panic

/-- "when an output type or schema is declared, a successful result carries structured content" -/
def P_success_has_structured (d : ToolD) (o : Obs) : Prop :=
  d.osch.isSome = true → o.res = .ok → o.sc.isSome = true

/-- "a typed tool handler is invoked only with arguments that are valid under the tool's input schema
after defaults are applied": if it ran (at all), they are -/
def P_invoked_only_if_valid (d : ToolD) (ci : CallIn) (o : Obs) : Prop :=
  o.inv ≠ some false → ValidArgs d ci

/-- … and with such arguments it is invoked (exactly once) -/
def P_valid_is_invoked (d : ToolD) (ci : CallIn) (o : Obs) : Prop :=
  ValidArgs d ci → o.inv = some true

/-- "and it receives exactly those values": what the handler observed is the typed decoding of the
defaulted arguments (the same JSON value); and nothing is observed by a handler that did not run -/
def P_receives_exactly (d : ToolD) (ci : CallIn) (o : Obs) : Prop :=
  (o.inv = some true → ∃ x y, o.seen = some x ∧ HandlerInput d ci y ∧ JEq x y) ∧
  (o.inv = some false → o.seen = none)

/-- "invalid arguments produce a tool-level error result [without running the handler]": an `isError`
result with content and no structured content -/
def P_invalid_gives_tool_error (d : ToolD) (ci : CallIn) (o : Obs) : Prop :=
  ¬ ValidArgs d ci → o.res = .toolerr ∧ o.content ≠ [] ∧ o.sc = none

/-- "output that violates the output schema is reported as an error rather than returned" -/
def P_invalid_output_is_error (d : ToolD) (ci : CallIn) (o : Obs) : Prop :=
  ∀ y j, HandlerInput d ci y → (ci.h y).err = none → handlerJson d (ci.h y).out = some j →
    outputOk d j = false → o.res ≠ .ok

/-- output that is valid under the output schema (or no output where none is required) is a success -/
def P_valid_output_succeeds (d : ToolD) (ci : CallIn) (o : Obs) : Prop :=
  ∀ y, HandlerInput d ci y → (ci.h y).err = none →
    (∀ j, handlerJson d (ci.h y).out = some j → outputOk d j = true) → o.res = .ok

/-- "a successful result carries structured content equal to the JSON of the handler's output (with schema
defaults)"; an error carries none -/
def P_structured_equals (d : ToolD) (ci : CallIn) (o : Obs) : Prop :=
  (o.res = .ok → ∀ y, HandlerInput d ci y → (ci.h y).err = none → optJEq o.sc (expectSc d (ci.h y).out)) ∧
  (o.res ≠ .ok → o.sc = none)

/-- "plus a text rendering of it when the handler supplied no content of its own" -/
def P_text_fallback (d : ToolD) (ci : CallIn) (o : Obs) : Prop :=
  o.res = .ok → ∀ y, HandlerInput d ci y → (ci.h y).err = none →
    o.content = expectContent (ci.h y).content (expectSc d (ci.h y).out)

/-- The wrapper's error contract (mcp.ToolHandlerFor's documentation, not C16's text): a handler's
`*jsonrpc.Error` is a protocol error, any other handler error a tool error, and output that violates the
output schema a protocol error. -/
def P_error_kinds (d : ToolD) (ci : CallIn) (o : Obs) : Prop :=
  ∀ y, HandlerInput d ci y →
    ((ci.h y).err = some .rpc → o.res = .rpcerr) ∧
    ((ci.h y).err = some .plain → o.res = .toolerr) ∧
    ((ci.h y).err = none → ∀ j, handlerJson d (ci.h y).out = some j → outputOk d j = false → o.res = .rpcerr)

/-- The wrapper's contract on the content of errors (not C16's text): a tool error carries exactly one text
block, the error message; a protocol error carries no result. -/
def P_error_content (o : Obs) : Prop := (o.res = .toolerr → o.content = [.err]) ∧ (o.res = .rpcerr → o.content = [])

/-- a typed nil pointer output is treated as the zero value of its element type: kind of result and
structured content are those demanded of the same call with the handler returning that zero value -/
def P_nil_pointer_zero (d : ToolD) (ci : CallIn) (o : Obs) : Prop :=
  ∀ y, HandlerInput d ci y → (ci.h y).out = .nilPtr →
    o.res = resOf (demanded d y { ci.h y with out := .json (zeroValue d) }).kind ∧
    optJEq o.sc (demanded d y { ci.h y with out := .json (zeroValue d) }).structured

/-- the handlers the harness scripts return the same whatever their input -/
def CallIn.Scripted (ci : CallIn) : Prop := ∀ x, ci.h x = ci.h .null

theorem mkCall_scripted {d : ToolD} {c : CallEv} {ci : CallIn} (h : mkCall d c = some ci) : ci.Scripted := by
  unfold mkCall at h
  split at h
  · cases h
  · cases h; intro x; rfl

/-- the observation is not the error answer the property demands for invalid arguments -/
def BadErrorAnswer (o : Obs) : Prop := o.res ≠ .toolerr ∨ o.content = [] ∨ o.sc.isSome = true

/-- the condition under which `monContract` reports a clause, read off the chain -/
def FiresC (ci : CallIn) (o io : Obs) : Clause → Prop
  | .notInvoked => io.inv = some true ∧ o.inv ≠ io.inv
  | .invokedInvalid => io.inv ≠ some true ∧ o.inv ≠ io.inv
  | .members _ => o.inv = io.inv ∧ optCeq o.seen io.seen = false
  | .seesDefaulted => o.inv = io.inv ∧ optCeq o.seen io.seen = false
  | .invalidNoToolErr => io.inv = some false ∧ BadErrorAnswer o
  | .nilPtr => o.inv = io.inv ∧ ¬ (io.inv = some false ∧ BadErrorAnswer o) ∧ isNilPtr (ci.h .null).out = true ∧
      (o.res ≠ io.res ∨ optCeq o.sc io.sc = false)
  | .invalidOutReturned => o.inv = io.inv ∧ ¬ (io.inv = some false ∧ BadErrorAnswer o) ∧
      io.res = .rpcerr ∧ (ci.h .null).err = none ∧ o.res = .ok
  | .validOutRefused => o.inv = io.inv ∧ ¬ (io.inv = some false ∧ BadErrorAnswer o) ∧ io.res = .ok ∧ o.res ≠ .ok
  | .kindDiffers => o.inv = io.inv ∧ ¬ (io.inv = some false ∧ BadErrorAnswer o) ∧ o.res ≠ io.res ∧ io.res ≠ .ok
  | .scDiffers => o.inv = io.inv ∧ ¬ (io.inv = some false ∧ BadErrorAnswer o) ∧ o.res = io.res ∧ optCeq o.sc io.sc = false
  | .contentDiffers => o.inv = io.inv ∧ ¬ (io.inv = some false ∧ BadErrorAnswer o) ∧ o.res = io.res ∧ io.res = .ok ∧
      o.content ≠ io.content
  | .errContent => o.inv = io.inv ∧ ¬ (io.inv = some false ∧ BadErrorAnswer o) ∧ o.res = io.res ∧ io.res ≠ .ok ∧
      o.content ≠ io.content
  | _ => False

theorem badErrorAnswer_iff (o : Obs) :
    (o.res != Res.toolerr || o.content.isEmpty || o.sc.isSome) = true ↔ BadErrorAnswer o := by
  unfold BadErrorAnswer
  simp only [Bool.or_eq_true, bne_iff_ne, ne_eq, List.isEmpty_iff, or_assoc]

/- the alternatives below follow the links of `monContract` in order: inv (2), seen, error answer, nil pointer, kind (3),
structured content, content (2) -/
theorem monContract_fires {d : ToolD} {ci : CallIn} {o i : Obs} {c : Clause}
    (h : monContract d ci o i = some c) : FiresC ci o i c := by
  unfold monContract at h
  simp only [ite_eq_some_iff, Option.some.injEq, reduceCtorEq, and_false, or_false, Bool.and_eq_true, badErrorAnswer_iff,
    bne_iff_ne, ne_eq, beq_iff_eq, Decidable.not_not, Bool.not_eq_true', Bool.not_eq_false, Option.isNone_iff_eq_none] at h
  rcases h with ⟨n1, ⟨a, rfl⟩ | ⟨a, rfl⟩⟩ | ⟨e1, ⟨n2, hm⟩ | ⟨-, ⟨b, rfl⟩ | ⟨nb, ⟨⟨p, q⟩, rfl⟩ | ⟨-, ⟨n5, ⟨⟨⟨r1, r2⟩, r3⟩, rfl⟩ |
    ⟨-, ⟨k, rfl⟩ | ⟨k, rfl⟩⟩⟩ | ⟨e5, ⟨n6, rfl⟩ | ⟨-, n7, ⟨k, rfl⟩ | ⟨k, rfl⟩⟩⟩⟩⟩⟩⟩
  · exact ⟨a, n1⟩
  · exact ⟨a, n1⟩
  · split at hm
    · split at hm <;> cases hm <;> exact ⟨e1, n2⟩
    · cases hm; exact ⟨e1, n2⟩
  · exact b
  · exact ⟨e1, nb, p, by simpa using q⟩
  · exact ⟨e1, nb, r1, r2, r3⟩
  · exact ⟨e1, nb, k, k ▸ n5⟩
  · exact ⟨e1, nb, n5, k⟩
  · exact ⟨e1, nb, e5, n6⟩
  · exact ⟨e1, nb, e5, k, n7⟩
  · exact ⟨e1, nb, e5, k, n7⟩

/-- the condition under which `monDiag` reports a clause -/
def FiresD (d : ToolD) (ci : CallIn) (o : Obs) : Clause → Prop
  | .f12NullSeen => sameObs { o with seen := (io d ci).seen } (io d ci) = true
  | .recvExact p a b => o.inv = some true ∧ (io d ci).inv = some true ∧ optCeq o.seen (io d ci).seen = false ∧
      ∃ w g, (ideal d ci).seen = some w ∧ o.seen = some g ∧ numDiff w g = some (p, a, b)
  | .carryExact p a b => o.inv = (io d ci).inv ∧ o.res = .ok ∧ (io d ci).res = .ok ∧ optCeq o.sc (io d ci).sc = false ∧
      ∃ w g, (ideal d ci).structured = some w ∧ o.sc = some g ∧ numDiff w g = some (p, a, b)
  | .u64Refused => (io d ci).inv = some true ∧ o.inv = some false
  | .f9 => True
  | _ => False

theorem firstNumDiff_some {a b : Option JVal} {r : String × Dec × Dec} (h : firstNumDiff a b = some r) :
    ∃ w g, a = some w ∧ b = some g ∧ numDiff w g = some r := by
  cases a <;> cases b <;> simp [firstNumDiff] at h
  exact ⟨_, _, rfl, rfl, h⟩

theorem monDiag_fires {d : ToolD} {ci : CallIn} {o : Obs} {c : Clause}
    (h : monDiag d ci o = some c) : FiresD d ci o c := by
  unfold monDiag at h
  simp only [ite_eq_some_iff, Option.some.injEq, Option.map_eq_some_iff, reduceCtorEq, and_false, or_false] at h
  rcases h with ⟨g, rfl⟩ | ⟨-, ⟨g, r, hn, rfl⟩ | ⟨-, ⟨g, r, hn, rfl⟩ | ⟨-, ⟨g, rfl⟩ | ⟨-, -, rfl⟩⟩⟩⟩
  · simp only [f12Guard, Bool.and_eq_true] at g
    exact g.2
  · obtain ⟨w, x, hw, hx, hn⟩ := firstNumDiff_some hn
    simp only [recvGuard, Bool.and_eq_true, beq_iff_eq, Bool.not_eq_true'] at g
    exact ⟨g.1.1.1.1.2, g.1.1.1.2, g.1.1.2, w, x, hw, hx, hn⟩
  · obtain ⟨w, x, hw, hx, hn⟩ := firstNumDiff_some hn
    simp only [carryGuard, Bool.and_eq_true, beq_iff_eq, Bool.not_eq_true'] at g
    exact ⟨g.1.1.1.1.1.2, g.1.1.1.2, g.1.1.2, g.1.2, w, x, hw, hx, hn⟩
  · simp only [u64Guard, Bool.and_eq_true, beq_iff_eq] at g
    exact ⟨g.1.1.1, g.1.1.2⟩
  · trivial

/-- A panic clause on a crash; `f16`/`scMissing` on a success without structured content
under a declared output schema; otherwise the observation differs from the ideal one and one of the two
chains reported the clause. -/
def Fires (d : ToolD) (ci : CallIn) (o : Obs) (c : Clause) : Prop :=
  (o.res = .panic ∧ (c = .f12Panic ∨ c = .panicked)) ∨
  ((c = .f16 ∨ c = .scMissing) ∧ d.osch.isSome = true ∧ o.res = .ok ∧ o.sc = none) ∨
  (o.res ≠ .panic ∧ sameObs o (io d ci) = false ∧ (FiresD d ci o c ∨ FiresC ci o (io d ci) c))

theorem monitor_fires {d : ToolD} {ci : CallIn} {o : Obs} {c : Clause}
    (h : monitor d ci o = some c) : Fires d ci o c := by
  simp only [monitor, ite_eq_some_iff, Option.some.injEq, reduceCtorEq, and_false, false_or, Bool.and_eq_true, beq_iff_eq,
    Option.isNone_iff_eq_none, Bool.not_eq_true] at h
  rcases h with ⟨hp, ⟨-, rfl⟩ | ⟨-, rfl⟩⟩ | ⟨hp, ⟨⟨⟨h1, h2⟩, h3⟩, ⟨-, rfl⟩ | ⟨-, rfl⟩⟩ | ⟨-, hne, h⟩⟩
  · exact .inl ⟨hp, .inl rfl⟩
  · exact .inl ⟨hp, .inr rfl⟩
  · exact .inr (.inl ⟨.inl rfl, h1, h2, h3⟩)
  · exact .inr (.inl ⟨.inr rfl, h1, h2, h3⟩)
  · refine .inr (.inr ⟨hp, hne, ?_⟩)
    cases hd : monDiag d ci o with
    | some c' => rw [hd] at h; cases h; exact .inl (monDiag_fires hd)
    | none => rw [hd] at h; exact .inr (monContract_fires h)

theorem sameObs_split {o i : Obs} (hne : sameObs o i = false) (hs : sameObs { o with seen := i.seen } i = true) :
    o.inv = i.inv ∧ optCeq o.seen i.seen = false := by
  simp only [sameObs, Bool.and_eq_true, beq_iff_eq] at hs
  obtain ⟨⟨⟨⟨h1, _⟩, h3⟩, h4⟩, h5⟩ := hs
  refine ⟨h1, ?_⟩
  cases hq : optCeq o.seen i.seen with
  | false => rfl
  | true =>
    have : sameObs o i = true := by
      simp only [sameObs, Bool.and_eq_true, beq_iff_eq]
      exact ⟨⟨⟨⟨h1, hq⟩, h3⟩, h4⟩, h5⟩
    rw [this] at hne; cases hne

theorem seen_mismatch {d : ToolD} {ci : CallIn} {o i : Obs} (hI : Ideal d ci i)
    (hi : o.inv = i.inv) (hs : optCeq o.seen i.seen = false) : ¬ P_receives_exactly d ci o := by
  intro hP
  have valid : ∀ y, HandlerInput d ci y → o.inv = some true → optCeq o.seen (some y) = false → False := by
    intro y hy hi hs
    obtain ⟨x, y', hx, hy', hj⟩ := hP.1 hi
    cases HandlerInput_unique hy hy'
    rw [hx, optCeq, ceq_of_JEq hj] at hs
    cases hs
  cases hI with
  | invalid => rw [hP.2 hi] at hs; cases hs
  | rpc y hy | plain y hy | noOutput y hy | badOutput y _ hy | ok y _ hy => exact valid y hy hi hs

inductive Part where
  | crash | noStructured | diag | contract | other

def Clause.part : Clause → Part
  | .f12Panic | .panicked => .crash
  | .f16 | .scMissing => .noStructured
  | .f12NullSeen | .recvExact .. | .carryExact .. | .u64Refused | .f9 => .diag
  | .notInvoked | .invokedInvalid | .members _ | .seesDefaulted | .invalidNoToolErr | .nilPtr | .invalidOutReturned
  | .validOutRefused | .kindDiffers | .scDiffers | .contentDiffers | .errContent => .contract
  | _ => .other

/-- for a concrete clause the `match` reduces: `fires_part h : FiresC ci o (io d ci) .notInvoked`, … -/
theorem fires_part {d : ToolD} {ci : CallIn} {o : Obs} {c : Clause} (h : monitor d ci o = some c) :
    match c.part with
    | .crash => o.res = .panic
    | .noStructured => d.osch.isSome = true ∧ o.res = .ok ∧ o.sc = none
    | .diag => sameObs o (io d ci) = false ∧ FiresD d ci o c
    | .contract => FiresC ci o (io d ci) c
    | .other => False := by
  rcases monitor_fires h with ⟨hp, rfl | rfl⟩ | ⟨rfl | rfl, h1⟩ | ⟨_, hne, hd | hc⟩
  · exact hp
  · exact hp
  · exact h1
  · exact h1
  · cases c <;> first | exact hd.elim | exact ⟨hne, hd⟩
  · cases c <;> first | exact hc.elim | exact hc

theorem sound_f12Panic (d : ToolD) (ci : CallIn) (o : Obs) (h : monitor d ci o = some .f12Panic) : ¬ P_no_crash o :=
  fun hP => hP (fires_part h)

theorem sound_panicked (d : ToolD) (ci : CallIn) (o : Obs) (h : monitor d ci o = some .panicked) : ¬ P_no_crash o :=
  fun hP => hP (fires_part h)

theorem not_success_has_structured {d : ToolD} {o : Obs} (h : d.osch.isSome = true ∧ o.res = .ok ∧ o.sc = none) :
    ¬ P_success_has_structured d o := by
  intro hP
  have := hP h.1 h.2.1
  rw [h.2.2] at this; cases this

theorem sound_f16 (d : ToolD) (ci : CallIn) (o : Obs) (h : monitor d ci o = some .f16) : ¬ P_success_has_structured d o :=
  not_success_has_structured (fires_part h)

/-- whatever the handler's output was and whatever protocol version the session runs at (the shape of seeded change
C16-m11: non-object structured content dropped for peers older than SEP-2106) -/
theorem sound_scMissing (d : ToolD) (ci : CallIn) (o : Obs) (h : monitor d ci o = some .scMissing) :
    ¬ P_success_has_structured d o :=
  not_success_has_structured (fires_part h)

/-- the two clauses differ only in the handler's output: `f16` is the nil `any`, `scMissing` everything else -/
theorem scMissing_iff (d : ToolD) (ci : CallIn) (o : Obs) (hp : o.res ≠ .panic) :
    monitor d ci o = some .scMissing ↔
      (d.osch.isSome = true ∧ o.res = .ok ∧ o.sc = none ∧ isNilAny (ci.h .null).out = false) := by
  constructor
  · intro h
    obtain ⟨h1, h2, h3⟩ := fires_part h
    refine ⟨h1, h2, h3, ?_⟩
    cases hn : isNilAny (ci.h .null).out with
    | false => rfl
    | true => simp [monitor, h1, h2, h3, hn] at h
  · rintro ⟨h1, h2, h3, h4⟩
    simp only [monitor]
    rw [if_neg (by simpa using hp), if_pos (by simp [h1, h2, h3]), if_neg (by simp [h4])]

theorem sound_f12NullSeen (d : ToolD) (ci : CallIn) (o : Obs) (h : monitor d ci o = some .f12NullSeen) :
    ¬ P_receives_exactly d ci o := by
  obtain ⟨hne, hd⟩ := fires_part h
  obtain ⟨h1, h2⟩ := sameObs_split hne hd
  exact seen_mismatch (io_ideal d ci) h1 h2

theorem sound_recvExact (d : ToolD) (ci : CallIn) (o : Obs) (p : String) (a b : Dec)
    (h : monitor d ci o = some (.recvExact p a b)) : ¬ P_receives_exactly d ci o := by
  obtain ⟨-, h1, h2, h3, -⟩ := fires_part h
  exact seen_mismatch (io_ideal d ci) (h1.trans h2.symm) h3

theorem sound_members (d : ToolD) (ci : CallIn) (o : Obs) (p : String)
    (h : monitor d ci o = some (.members p)) : ¬ P_receives_exactly d ci o := by
  obtain ⟨h1, h2⟩ := fires_part h
  exact seen_mismatch (io_ideal d ci) h1 h2

theorem sound_seesDefaulted (d : ToolD) (ci : CallIn) (o : Obs)
    (h : monitor d ci o = some .seesDefaulted) : ¬ P_receives_exactly d ci o := by
  obtain ⟨h1, h2⟩ := fires_part h
  exact seen_mismatch (io_ideal d ci) h1 h2

theorem inv_mismatch_valid {d : ToolD} {ci : CallIn} {o i : Obs} (hI : Ideal d ci i)
    (h1 : i.inv = some true) (h2 : o.inv ≠ i.inv) : ¬ P_valid_is_invoked d ci o := by
  intro hP
  cases hI with
  | invalid => cases h1
  | rpc y hy | plain y hy | noOutput y hy | badOutput y _ hy | ok y _ hy => exact h2 (hP ⟨y, hy⟩)

theorem inv_mismatch_invalid {d : ToolD} {ci : CallIn} {o i : Obs} (hI : Ideal d ci i)
    (h1 : i.inv ≠ some true) (h2 : o.inv ≠ i.inv) : ¬ P_invoked_only_if_valid d ci o := by
  intro hP
  cases hI with
  | invalid hn => exact hn (hP h2)
  | _ => exact h1 rfl

theorem error_answer_mismatch {d : ToolD} {ci : CallIn} {o i : Obs} (hI : Ideal d ci i)
    (h1 : i.inv = some false) (h2 : BadErrorAnswer o) : ¬ P_invalid_gives_tool_error d ci o := by
  intro hP
  cases hI with
  | invalid hn =>
    obtain ⟨p1, p2, p3⟩ := hP hn
    rcases h2 with h2 | h2 | h2
    · exact h2 p1
    · exact p2 h2
    · rw [p3] at h2; cases h2
  | _ => cases h1

theorem sound_notInvoked (d : ToolD) (ci : CallIn) (o : Obs)
    (h : monitor d ci o = some .notInvoked) : ¬ P_valid_is_invoked d ci o := by
  obtain ⟨h1, h2⟩ := fires_part h
  exact inv_mismatch_valid (io_ideal d ci) h1 h2

theorem sound_u64Refused (d : ToolD) (ci : CallIn) (o : Obs)
    (h : monitor d ci o = some .u64Refused) : ¬ P_valid_is_invoked d ci o := by
  obtain ⟨-, h1, h2⟩ := fires_part h
  exact inv_mismatch_valid (io_ideal d ci) h1 (by rw [h1, h2]; nofun)

theorem sound_invokedInvalid (d : ToolD) (ci : CallIn) (o : Obs)
    (h : monitor d ci o = some .invokedInvalid) : ¬ P_invoked_only_if_valid d ci o := by
  obtain ⟨h1, h2⟩ := fires_part h
  exact inv_mismatch_invalid (io_ideal d ci) h1 h2

theorem sound_invalidNoToolErr (d : ToolD) (ci : CallIn) (o : Obs)
    (h : monitor d ci o = some .invalidNoToolErr) : ¬ P_invalid_gives_tool_error d ci o := by
  obtain ⟨h1, h2⟩ := fires_part h
  exact error_answer_mismatch (io_ideal d ci) h1 h2

theorem proper_error {o : Obs} (h : ¬ BadErrorAnswer o) : o.res = .toolerr ∧ o.sc = none := by
  refine ⟨Classical.byContradiction fun hc => h (.inl hc), ?_⟩
  cases hs : o.sc with
  | none => rfl
  | some v => exact absurd (.inr (.inr (by simp [hs]))) h

theorem sound_invalidOutReturned (d : ToolD) (ci : CallIn) (o : Obs) (hsc : ci.Scripted)
    (h : monitor d ci o = some .invalidOutReturned) : ¬ P_invalid_output_is_error d ci o := by
  obtain ⟨_, -, h1, h2, h3⟩ := fires_part h
  intro hP
  have hI := io_ideal d ci
  generalize io d ci = i at h1 hI
  cases hI with
  | badOutput y j hy he hj ho => exact hP y j hy he hj ho h3
  | rpc y _ he => rw [← hsc y, he] at h2; cases h2
  | _ => cases h1

theorem res_mismatch_ok {d : ToolD} {ci : CallIn} {o i : Obs} (hI : Ideal d ci i)
    (h1 : i.res = .ok) (h2 : o.res ≠ .ok) : ¬ P_valid_output_succeeds d ci o := by
  intro hP
  cases hI with
  | ok y j hy he hj ho => exact h2 (hP y hy he fun j' hj' => by rw [hj] at hj'; cases hj'; exact ho)
  | noOutput y hy he hj => exact h2 (hP y hy he fun j' hj' => by rw [hj] at hj'; cases hj')
  | _ => cases h1

theorem res_mismatch_err {d : ToolD} {ci : CallIn} {o i : Obs} (hI : Ideal d ci i)
    (hn : ¬ (i.inv = some false ∧ BadErrorAnswer o))
    (h1 : o.res ≠ i.res) (h2 : i.res ≠ .ok) : ¬ P_error_kinds d ci o := by
  intro hP
  cases hI with
  | ok | noOutput => exact h2 rfl
  | invalid => exact h1 (proper_error fun hb => hn ⟨rfl, hb⟩).1
  | rpc y hy he => exact h1 ((hP y hy).1 he)
  | plain y hy he => exact h1 ((hP y hy).2.1 he)
  | badOutput y j hy he hj ho => exact h1 ((hP y hy).2.2 he j hj ho)

theorem sound_validOutRefused (d : ToolD) (ci : CallIn) (o : Obs)
    (h : monitor d ci o = some .validOutRefused) : ¬ P_valid_output_succeeds d ci o := by
  obtain ⟨_, -, h1, h2⟩ := fires_part h
  exact res_mismatch_ok (io_ideal d ci) h1 h2

theorem sound_kindDiffers (d : ToolD) (ci : CallIn) (o : Obs)
    (h : monitor d ci o = some .kindDiffers) : ¬ P_error_kinds d ci o := by
  obtain ⟨_, hn, h1, h2⟩ := fires_part h
  exact res_mismatch_err (io_ideal d ci) hn h1 h2

theorem sc_mismatch {d : ToolD} {ci : CallIn} {o i : Obs} (hI : Ideal d ci i)
    (hr : o.res = i.res) (hs : optCeq o.sc i.sc = false) : ¬ P_structured_equals d ci o := by
  intro hP
  have none_of : o.res ≠ .ok → optCeq o.sc none = false → False := fun h1 h2 => by
    rw [hP.2 h1] at h2; cases h2
  cases hI with
  | ok y j hy he hj ho =>
    have := optCeq_of_optJEq (hP.1 hr y hy he)
    rw [expectSc, hj] at this
    exact Bool.noConfusion (this.symm.trans hs)
  | noOutput y hy he hj =>
    have := optCeq_of_optJEq (hP.1 hr y hy he)
    rw [expectSc, hj] at this
    exact Bool.noConfusion (this.symm.trans hs)
  | _ => exact none_of (by rw [hr]; nofun) hs

theorem sound_scDiffers (d : ToolD) (ci : CallIn) (o : Obs)
    (h : monitor d ci o = some .scDiffers) : ¬ P_structured_equals d ci o := by
  obtain ⟨_, -, h1, h2⟩ := fires_part h
  exact sc_mismatch (io_ideal d ci) h1 h2

theorem sound_carryExact (d : ToolD) (ci : CallIn) (o : Obs) (p : String) (a b : Dec)
    (h : monitor d ci o = some (.carryExact p a b)) : ¬ P_structured_equals d ci o := by
  obtain ⟨-, -, h1, h2, h3, -⟩ := fires_part h
  exact sc_mismatch (io_ideal d ci) (h1.trans h2.symm) h3

theorem content_mismatch_ok {d : ToolD} {ci : CallIn} {o i : Obs} (hI : Ideal d ci i)
    (h1 : o.res = i.res) (h2 : i.res = .ok) (h3 : o.content ≠ i.content) :
    ¬ P_text_fallback d ci o := by
  intro hP
  cases hI with
  | ok y j hy he hj ho => exact h3 (by rw [hP h1 y hy he, expectSc, hj]; rfl)
  | noOutput y hy he hj => exact h3 (by rw [hP h1 y hy he, expectSc, hj]; rfl)
  | _ => cases h2

theorem sound_contentDiffers (d : ToolD) (ci : CallIn) (o : Obs)
    (h : monitor d ci o = some .contentDiffers) : ¬ P_text_fallback d ci o := by
  obtain ⟨_, -, h1, h2, h3⟩ := fires_part h
  exact content_mismatch_ok (io_ideal d ci) h1 h2 h3

theorem demanded_nilPtr (d : ToolD) (y : JVal) (r : HRet) (h : r.out = .nilPtr) :
    demanded d y { r with out := .json (zeroValue d) } = demanded d y r := by
  unfold demanded
  simp only [h, handlerJson]

theorem sound_nilPtr (d : ToolD) (ci : CallIn) (o : Obs) (hsc : ci.Scripted)
    (h : monitor d ci o = some .nilPtr) : ¬ P_nil_pointer_zero d ci o := by
  obtain ⟨_, hn, h1, h2⟩ := fires_part h
  intro hP
  by_cases hv : ValidArgs d ci
  · obtain ⟨y, hy⟩ := hv
    have hout : (ci.h y).out = .nilPtr := by
      rw [hsc y]
      cases ho : (ci.h .null).out <;> simp [ho, isNilPtr] at h1 ⊢
    obtain ⟨p1, p2⟩ := hP y hy hout
    rw [demanded_nilPtr d y (ci.h y) hout, ← ideal_valid d ci y hy] at p1 p2
    rcases h2 with h2 | h2
    · exact h2 p1
    · rw [show (io d ci).sc = (ideal d ci).structured from rfl, optCeq_of_optJEq p2] at h2; cases h2
  · rw [io, ideal_invalid d ci hv] at hn h2
    obtain ⟨hr, hs⟩ := proper_error fun hb => hn ⟨rfl, hb⟩
    rcases h2 with h2 | h2
    · exact h2 hr
    · rw [hs] at h2; cases h2

theorem content_mismatch_err {d : ToolD} {ci : CallIn} {o i : Obs} (hI : Ideal d ci i)
    (h1 : o.res = i.res) (h2 : i.res ≠ .ok) (h3 : o.content ≠ i.content) :
    ¬ P_error_content o := by
  intro hP
  cases hI with
  | ok | noOutput => exact h2 rfl
  | invalid | plain => exact h3 (hP.1 h1)
  | rpc | badOutput => exact h3 (hP.2 h1)

theorem sound_errContent (d : ToolD) (ci : CallIn) (o : Obs)
    (h : monitor d ci o = some .errContent) : ¬ P_error_content o := by
  obtain ⟨_, -, h1, h2, h3⟩ := fires_part h
  exact content_mismatch_err (io_ideal d ci) h1 h2 h3

/-- what `monitor`'s equality test decides: the clauses of C16 (and of the wrapper's error contract) that fix the five
compared components of one call. `P_nil_pointer_zero` and `P_published_in`/`P_published_out` are not among them. -/
structure P_C16 (d : ToolD) (ci : CallIn) (o : Obs) : Prop where
  no_crash : P_no_crash o
  success_has_structured : P_success_has_structured d o
  invoked_only_if_valid : P_invoked_only_if_valid d ci o
  valid_is_invoked : P_valid_is_invoked d ci o
  receives_exactly : P_receives_exactly d ci o
  invalid_gives_tool_error : P_invalid_gives_tool_error d ci o
  invalid_output_is_error : P_invalid_output_is_error d ci o
  valid_output_succeeds : P_valid_output_succeeds d ci o
  structured_equals : P_structured_equals d ci o
  text_fallback : P_text_fallback d ci o
  error_kinds : P_error_kinds d ci o
  error_content : P_error_content o

/-- The predicates determine the observation: an observation that satisfies all of them is the ideal
one (in every component the driver compares) -/
theorem complete (d : ToolD) (ci : CallIn) (o : Obs) (hP : P_C16 d ci o) : sameObs o (io d ci) = true := by
  have hinv : o.inv = (io d ci).inv := Classical.byContradiction fun h2 =>
    if h1 : (io d ci).inv = some true then inv_mismatch_valid (io_ideal d ci) h1 h2 hP.valid_is_invoked
    else inv_mismatch_invalid (io_ideal d ci) h1 h2 hP.invoked_only_if_valid
  have hseen := (Bool.not_eq_false _).mp fun hs => seen_mismatch (io_ideal d ci) hinv hs hP.receives_exactly
  have hn : ¬ ((io d ci).inv = some false ∧ BadErrorAnswer o) := fun h =>
    error_answer_mismatch (io_ideal d ci) h.1 h.2 hP.invalid_gives_tool_error
  have hres : o.res = (io d ci).res := Classical.byContradiction fun h1 =>
    if h2 : (io d ci).res = .ok then res_mismatch_ok (io_ideal d ci) h2 (h2 ▸ h1) hP.valid_output_succeeds
    else res_mismatch_err (io_ideal d ci) hn h1 h2 hP.error_kinds
  have hsc := (Bool.not_eq_false _).mp fun hs => sc_mismatch (io_ideal d ci) hres hs hP.structured_equals
  have hcontent : o.content = (io d ci).content := Classical.byContradiction fun h3 =>
    if h2 : (io d ci).res = .ok then content_mismatch_ok (io_ideal d ci) hres h2 h3 hP.text_fallback
    else content_mismatch_err (io_ideal d ci) hres h2 h3 hP.error_content
  simp only [sameObs, Bool.and_eq_true, beq_iff_eq]
  exact ⟨⟨⟨⟨hinv, hseen⟩, hres⟩, hsc⟩, hcontent⟩

/-- Whatever clause the monitor prints, the observation violates the property: no
observation that satisfies every predicate above is ever rejected. -/
theorem monitor_sound (d : ToolD) (ci : CallIn) (o : Obs) (c : Clause) (h : monitor d ci o = some c) :
    ¬ P_C16 d ci o := by
  intro hP
  rcases monitor_fires h with ⟨hp, _⟩ | ⟨_, h1, h2, h3⟩ | ⟨_, hne, _⟩
  · exact hP.no_crash hp
  · exact not_success_has_structured ⟨h1, h2, h3⟩ hP.success_has_structured
  · rw [complete d ci o hP] at hne; cases hne

/-- C16/F9 (the observation of the unrepaired wrapper where it differs from the exact one): some clause of
the property is violated -/
theorem sound_f9 (d : ToolD) (ci : CallIn) (o : Obs) (h : monitor d ci o = some .f9) : ¬ P_C16 d ci o :=
  monitor_sound d ci o _ h

/-- the advertised input schema is readable and is the tool's own -/
def P_published_in (ownI : Schema) (pi : Option Schema) : Prop := ∃ p, pi = some p ∧ sameSchema p ownI = true

/-- the advertised output schema is the tool's own (none advertised iff the tool has none) -/
def P_published_out (ownO : Option Schema) (po : Option (Option Schema)) : Prop :=
  (po = some none ∧ ownO = none) ∨ ∃ p o, po = some (some p) ∧ ownO = some o ∧ sameSchema p o = true

theorem pubClause_sound {ownI : Schema} {ownO : Option Schema} {pi : Option Schema} {po : Option (Option Schema)}
    {cl : Clause} (h : pubClause ownI ownO pi po = some cl) :
    (cl = .pubIn ∧ ¬ P_published_in ownI pi) ∨ (cl = .pubOut ∧ ¬ P_published_out ownO po) := by
  have hI : P_published_in ownI pi → pubInOk ownI pi = true := by
    rintro ⟨p, rfl, hs⟩; exact hs
  have hO : P_published_out ownO po → pubOutOk ownO po = true := by
    rintro (⟨rfl, rfl⟩ | ⟨p, o, rfl, rfl, hs⟩)
    · rfl
    · exact hs
  simp only [pubClause, ite_eq_some_iff, Option.some.injEq, reduceCtorEq, and_false, false_or, Bool.and_eq_true] at h
  rcases h with ⟨n, ⟨hi, rfl⟩ | ⟨hi, rfl⟩⟩
  · exact .inr ⟨rfl, fun hP => n ⟨hi, hO hP⟩⟩
  · exact .inl ⟨rfl, fun hP => hi (hI hP)⟩

theorem sound_pubIn (ownI : Schema) (ownO : Option Schema) (pi : Option Schema) (po : Option (Option Schema))
    (h : pubClause ownI ownO pi po = some .pubIn) : ¬ P_published_in ownI pi := by
  rcases pubClause_sound h with ⟨_, h⟩ | ⟨h, _⟩
  · exact h
  · cases h

theorem sound_pubOut (ownI : Schema) (ownO : Option Schema) (pi : Option Schema) (po : Option (Option Schema))
    (h : pubClause ownI ownO pi po = some .pubOut) : ¬ P_published_out ownO po := by
  rcases pubClause_sound h with ⟨h, _⟩ | ⟨_, h⟩
  · cases h
  · exact h

theorem monContract_none {d : ToolD} {ci : CallIn} {o i : Obs} (h : monContract d ci o i = none) :
    sameObs o i = true := by
  unfold monContract at h
  simp only [ite_eq_none_iff, reduceCtorEq, and_false, false_or, or_self, and_true, bne_iff_ne, ne_eq, Decidable.not_not,
    Bool.not_eq_true', Bool.not_eq_false] at h
  rcases h with ⟨e1, ⟨_, hm⟩ | ⟨e2, _, _, e5, e6, e7⟩⟩
  · split at hm
    · split at hm <;> cases hm
    · cases hm
  · simp only [sameObs, Bool.and_eq_true, beq_iff_eq]
    exact ⟨⟨⟨⟨e1, e2⟩, e5⟩, e6⟩, e7⟩

/-- The monitor accepts only the ideal observation: silence means equality with the wrapper run on
exact numbers over the tool's own schemas, in every component -/
theorem monitor_none (d : ToolD) (ci : CallIn) (o : Obs) (h : monitor d ci o = none) :
    sameObs o (io d ci) = true := by
  simp only [monitor, ite_eq_none_iff, reduceCtorEq, and_false, false_or, or_self, and_true] at h
  rcases h with ⟨-, -, hs | ⟨-, h⟩⟩
  · exact hs
  · cases hd : monDiag d ci o with
    | some c => rw [hd] at h; cases h
    | none => rw [hd] at h; exact monContract_none h

/-- The predicates are satisfiable, for every tool and every call: the ideal observation satisfies
all of them (so `¬ P_…` in the soundness theorems is never true for a trivial reason) -/
theorem P_C16_ideal (d : ToolD) (ci : CallIn) : P_C16 d ci (io d ci) := by
  have hs : P_success_has_structured d (io d ci) := fun hs hr =>
    ok_has_structured idEnv d.tool ci.h ci.args (resOf_eq_ok hr) hs
  have hI := io_ideal d ci
  generalize io d ci = i at hI hs
  -- predicate by predicate, shape by shape; a `y'` with `HandlerInput d ci y'` is the shape's own `y` (`HandlerInput_unique`)
  refine ⟨?_, hs, ?_, ?_, ⟨?_, ?_⟩, ?_, ?_, ?_, ⟨?_, ?_⟩, ?_, ?_, ⟨?_, ?_⟩⟩
  · cases hI <;> nofun
  · intro h
    cases hI with
    | invalid => exact absurd rfl h
    | rpc y hy | plain y hy | noOutput y hy | badOutput y _ hy | ok y _ hy => exact ⟨y, hy⟩
  · intro hv
    cases hI with
    | invalid hn => exact absurd hv hn
    | _ => rfl
  · intro h
    cases hI with
    | invalid => cases h
    | rpc y hy | plain y hy | noOutput y hy | badOutput y _ hy | ok y _ hy => exact ⟨y, y, rfl, hy, rfl⟩
  · intro h
    cases hI with
    | invalid => rfl
    | _ => cases h
  · intro hn
    cases hI with
    | invalid => exact ⟨rfl, nofun, rfl⟩
    | rpc y hy | plain y hy | noOutput y hy | badOutput y _ hy | ok y _ hy => exact absurd ⟨y, hy⟩ hn
  · intro y' j' hy' e hj' ho' hr
    cases hI with
    | ok y j hy _ hj ho => cases HandlerInput_unique hy hy'; cases hj.symm.trans hj'; cases ho.symm.trans ho'
    | noOutput y hy _ hj => cases HandlerInput_unique hy hy'; cases hj.symm.trans hj'
    | _ => cases hr
  · intro y' hy' e ho
    cases hI with
    | invalid hn => exact absurd ⟨y', hy'⟩ hn
    | noOutput | ok => rfl
    | rpc y hy he | plain y hy he => cases HandlerInput_unique hy hy'; cases he.symm.trans e
    | badOutput y j hy _ hj hb => cases HandlerInput_unique hy hy'; cases (ho j hj).symm.trans hb
  · intro hr y' hy' e
    cases hI with
    | ok y j hy _ hj => cases HandlerInput_unique hy hy'; rw [expectSc, hj]; exact rfl
    | noOutput y hy _ hj => cases HandlerInput_unique hy hy'; rw [expectSc, hj]; trivial
    | _ => cases hr
  · intro hr
    cases hI with
    | ok | noOutput => exact absurd rfl hr
    | _ => rfl
  · intro hr y' hy' e
    cases hI with
    | ok y j hy _ hj => cases HandlerInput_unique hy hy'; rw [expectSc, hj]; rfl
    | noOutput y hy _ hj => cases HandlerInput_unique hy hy'; rw [expectSc, hj]; rfl
    | _ => cases hr
  · intro y' hy'
    cases hI with
    | invalid hn => exact absurd ⟨y', hy'⟩ hn
    | rpc y hy he => cases HandlerInput_unique hy hy'; exact ⟨fun _ => rfl, fun e => (nomatch he.symm.trans e), fun e => (nomatch he.symm.trans e)⟩
    | plain y hy he => cases HandlerInput_unique hy hy'; exact ⟨fun e => (nomatch he.symm.trans e), fun _ => rfl, fun e => (nomatch he.symm.trans e)⟩
    | badOutput y j hy he => cases HandlerInput_unique hy hy'; exact ⟨fun e => (nomatch he.symm.trans e), fun e => (nomatch he.symm.trans e), fun _ _ _ _ => rfl⟩
    | noOutput y hy he hj =>
      cases HandlerInput_unique hy hy'
      exact ⟨fun e => (nomatch he.symm.trans e), fun e => (nomatch he.symm.trans e), fun _ j' hj' => (nomatch hj.symm.trans hj')⟩
    | ok y j hy he hj ho =>
      cases HandlerInput_unique hy hy'
      exact ⟨fun e => (nomatch he.symm.trans e), fun e => (nomatch he.symm.trans e),
        fun _ j' hj' ho' => by cases hj.symm.trans hj'; cases ho.symm.trans ho'⟩
  · intro hr
    cases hI with
    | invalid | plain => rfl
    | _ => cases hr
  · intro hr
    cases hI with
    | rpc | badOutput => rfl
    | _ => cases hr

mutual
/-- the integers a clause reports do differ, and the one that was sent / returned is an integer of the Go
integer ranges beyond ±2^53 -/
theorem numDiff_some : ∀ (w g : JVal) (p : String) (a b : Dec), numDiff w g = some (p, a, b) →
    a.eq b = false ∧ bigGoInt a = true
  | .num x, g, p, a, b, h => by
    cases g with
    | num z =>
      simp only [numDiff, ite_eq_some_iff, reduceCtorEq, and_false, false_or, Option.some.injEq, Prod.mk.injEq, Bool.or_eq_true,
        Bool.not_eq_true', not_or, Bool.not_eq_true, Bool.not_eq_false] at h
      obtain ⟨⟨h1, h2⟩, -, rfl, rfl⟩ := h
      exact ⟨h1, h2⟩
    | _ => exact nomatch h
  | .arr xs, g, p, a, b, h => by
    cases g with
    | arr ys =>
      simp only [numDiff, ite_eq_some_iff, reduceCtorEq, and_false, false_or] at h
      exact numDiffList_some 0 xs ys p a b h.2
    | _ => exact nomatch h
  | .obj xs, g, p, a, b, h => by
    cases g with
    | obj ys => exact numDiffFields_some xs ys p a b h
    | _ => exact nomatch h
  | .null, _, _, _, _, h | .bool _, _, _, _, _, h | .str _, _, _, _, _, h => nomatch h
theorem numDiffList_some : ∀ (i : Nat) (xs ys : List JVal) (p : String) (a b : Dec),
    numDiffList i xs ys = some (p, a, b) → a.eq b = false ∧ bigGoInt a = true
  | _, [], _, _, _, _, h | _, _ :: _, [], _, _, _, h => nomatch h
  | i, x :: xs, y :: ys, p, a, b, h => by
    simp only [numDiffList] at h
    split at h
    · next hn => cases h; exact numDiff_some x y _ _ _ hn
    · exact numDiffList_some (i + 1) xs ys p a b h
theorem numDiffFields_some : ∀ (xs ys : Fields) (p : String) (a b : Dec),
    numDiffFields xs ys = some (p, a, b) → a.eq b = false ∧ bigGoInt a = true
  | [], _, _, _, _, h => nomatch h
  | (k, v) :: t, ys, p, a, b, h => by
    simp only [numDiffFields] at h
    split at h
    · next r hr =>
      cases h
      split at hr
      · next w _ =>
        obtain ⟨⟨p', a', b'⟩, hn, he⟩ := Option.map_eq_some_iff.1 hr
        cases he; exact numDiff_some v w p' a' b' hn
      · cases hr
    · exact numDiffFields_some t ys p a b h
end

/-! ## the history the monitor carries: which tool a call is judged by

The monitor's state holds, per tool name, the Go types and OWN schemas of the tool (`MState.tys`) and the name added last
(`MState.last`); `tys_booked`: they are what the RECORDS say the implementation holds — the most recent `tool` record of
that name that the implementation answered `ok` since the last `server`/`reset` record. -/

def runState (d : MState) : List Rec → MState
  | [] => d
  | r :: rs => runState (mstep d r).1 rs

/-- what the records (most recent first) say is registered under `n` on the current server -/
def bookedRev : List Rec → String → Option (GoTy × GoTy × Schema × Option Schema)
  | [], _ => none
  | .reset :: _, _ => none
  | .server _ _ :: _, _ => none
  | .call _ _ _ _ _ :: rest, n => bookedRev rest n
  | .tool t o :: rest, n =>
    if o.isOk && t.name == n then some (t.ity, t.oty, t.ownIn, t.ownOut) else bookedRev rest n

/-- the name the records (most recent first) say was added last on the current server -/
def lastRev : List Rec → Option String
  | [] => none
  | .reset :: _ => none
  | .server _ _ :: _ => none
  | .call _ _ _ _ _ :: rest => lastRev rest
  | .tool t o :: rest => if o.isOk then some t.name else lastRev rest

def booked (tr : List Rec) (n : String) : Option (GoTy × GoTy × Schema × Option Schema) := bookedRev tr.reverse n
def lastBooked (tr : List Rec) : Option String := lastRev tr.reverse

theorem runState_append (d : MState) (l : List Rec) (r : Rec) : runState d (l ++ [r]) = (mstep (runState d l) r).1 := by
  induction l generalizing d with
  | nil => rfl
  | cons x xs ih => simp only [List.cons_append, runState]; exact ih _

theorem mstep_tool_book (d : MState) (t : ToolEv) (o : ToolObs) :
    (mstep d (.tool t o)).1.tys = (d.book t o).tys ∧ (mstep d (.tool t o)).1.last = (d.book t o).last := by
  simp only [mstep, MState.regTool]
  cases (register t.env d.world.cacheOf t.decl).1 with
  | none => exact ⟨rfl, rfl⟩
  | some _ =>
    cases o with
    | other => exact ⟨rfl, rfl⟩
    | ok pi po => dsimp only; cases pubClause t.ownIn t.ownOut pi po <;> exact ⟨rfl, rfl⟩

theorem find?_filter_ne {α : Type} (l : List (String × α)) (a n : String) (h : (a == n) = false) :
    (l.filter (·.1 != a)).find? (·.1 == n) = l.find? (·.1 == n) := by
  rw [List.find?_filter]
  congr; funext x
  cases hx : x.1 == n with
  | false => simp
  | true => rw [eq_of_beq hx]; simpa [bne, Bool.beq_comm] using h

theorem tys_booked (rtr : List Rec) (n : String) :
    ((runState {} rtr.reverse).tys.find? (·.1 == n)).map (·.2) = bookedRev rtr n ∧
    (runState {} rtr.reverse).last = lastRev rtr := by
  induction rtr with
  | nil => exact ⟨rfl, rfl⟩
  | cons r rest ih =>
    rw [List.reverse_cons, runState_append]
    cases r with
    | reset => exact ⟨rfl, rfl⟩
    | server k v => exact ⟨rfl, rfl⟩
    | call name c o lib olib => rw [mstep_call_fst]; exact ih
    | tool t o =>
      obtain ⟨h1, h2⟩ := mstep_tool_book (runState {} rest.reverse) t o
      rw [h1, h2]
      unfold MState.book
      cases ho : o.isOk with
      | false => simp only [Bool.false_eq_true, if_false, bookedRev, lastRev, ho, Bool.false_and]; exact ih
      | true =>
        simp only [if_true, bookedRev, lastRev, ho, Bool.true_and, and_true]
        cases hn : (t.name == n) with
        | true => simp only [List.find?_cons, hn, if_true, Option.map_some]
        | false =>
          simp only [List.find?_cons, hn, Bool.false_eq_true, if_false]
          rw [find?_filter_ne _ _ _ hn]
          exact ih.1

/-- the tool with these Go types and own schemas (what it enforces does not matter to the monitor) -/
def ToolD.ofOwn (ity oty : GoTy) (isch : Schema) (osch : Option Schema) : ToolD :=
  { ity, oty, isch, osch, eisch := isch, eosch := osch }

theorem monitor_ofOwn (td : ToolD) (ci : CallIn) (o : Obs) :
    monitor td ci o = monitor (ToolD.ofOwn td.ity td.oty td.isch td.osch) ci o := rfl

theorem mkCall_ofOwn (td : ToolD) (c : CallEv) : mkCall td c = mkCall (ToolD.ofOwn td.ity td.oty td.isch td.osch) c := rfl

def Clause.isLib : Clause → Bool
  | .libIn _ _ => true
  | .libOut _ _ => true
  | _ => false

theorem judgeCall_clause {d : ToolD} {ci : CallIn} {o : Obs} {lib olib : Option Bool} {cl : Clause}
    (h : judgeCall d ci o lib olib = some cl) (hl : cl.isLib = false) : monitor d ci o = some cl := by
  unfold judgeCall at h
  split at h
  · cases h; cases hl
  · split at h
    · cases h; cases hl
    · exact h

/-- After ANY list of records, a C16 clause raised on a `call` record means: the records
book a tool under the addressed name (the named one, else the one added last) — the most recent `tool`
record of that name answered `ok` on the current server — and the observation violates the property for
the call read over that tool's Go types and own schemas. -/
theorem sound_trace (tr : List Rec) (name : Option String) (c : CallEv) (o : Obs) (lib olib : Option Bool) (cl : Clause)
    (h : (mstep (runState {} tr) (.call name c o lib olib)).2 = some cl) (hl : cl.isLib = false) :
    ∃ n ity oty isch osch ci, (name <|> lastBooked tr) = some n ∧ booked tr n = some (ity, oty, isch, osch) ∧
      mkCall (ToolD.ofOwn ity oty isch osch) c = some ci ∧ ci.Scripted ∧
      monitor (ToolD.ofOwn ity oty isch osch) ci o = some cl ∧ ¬ P_C16 (ToolD.ofOwn ity oty isch osch) ci o := by
  have hb := fun n => tys_booked tr.reverse n
  simp only [List.reverse_reverse] at hb
  rw [mstep_call] at h
  obtain ⟨td, hc, h⟩ := Option.bind_eq_some_iff.1 h
  obtain ⟨ci, hm, h⟩ := Option.bind_eq_some_iff.1 h
  have hmon := judgeCall_clause h hl
  obtain ⟨n, hn, htd⟩ := callee_some hc
  obtain ⟨y, ⟨xn, xi, xo, xis, xos⟩, -, ht, rfl⟩ := toolD_some htd
  refine ⟨n, xi, xo, xis, xos, ci, ?_, ?_, hm, mkCall_scripted hm, hmon, monitor_sound _ ci o cl hmon⟩
  · rw [← hn, (hb n).2]; rfl
  · have := (hb n).1
    rw [ht] at this
    exact this.symm

/-- a clause raised on a `tool` record is one of the two published-schema clauses, raised by `pubClause` on
what tools/list advertised against the tool's own schemas (in any state: no history is involved) -/
theorem sound_trace_tool (d : MState) (t : ToolEv) (o : ToolObs) (cl : Clause)
    (h : (mstep d (.tool t o)).2 = some cl) :
    ∃ pi po, o = .ok pi po ∧ pubClause t.ownIn t.ownOut pi po = some cl ∧
      ((cl = .pubIn ∧ ¬ P_published_in t.ownIn pi) ∨ (cl = .pubOut ∧ ¬ P_published_out t.ownOut po)) := by
  simp only [mstep, MState.regTool] at h
  cases hr : (register t.env d.world.cacheOf t.decl).1 with
  | none => simp [hr] at h
  | some e =>
    cases o with
    | other => simp [hr] at h
    | ok pi po =>
      cases hp : pubClause t.ownIn t.ownOut pi po with
      | none => simp [hr, hp] at h
      | some c =>
        simp only [hr, hp, Option.some.injEq] at h
        exact h ▸ ⟨pi, po, rfl, hp, pubClause_sound hp⟩

/-! ## non-vacuity: every clause of `monitor` fires on some observation (and the good observation is accepted) -/

section Witness

/-- In = Out = `struct{ N int64 "n"; C string "c" }` under `wSchema` (n required, c defaults to "x") -/
def fD : ToolD := { ity := wTy, oty := wTy, isch := wSchema, osch := some wSchema, eisch := wSchema, eosch := some wSchema }
def fOut : JVal := .obj [("n", .num (.ofInt 7)), ("c", .str "x")]
/-- arguments `{"n": n}`; the handler returns `{"n":7,"c":"x"}` and no content -/
def fCall (n : Int) : CallIn := { args := wArgs n, h := fun _ => { out := .json fOut }, hout := some fOut, argsNull := false }
/-- what the property demands of `fCall 7` -/
def fGood : Obs := { inv := some true, seen := some fOut, res := .ok, sc := some fOut, content := [.sc] }
def fErr : Obs := { inv := some false, seen := none, res := .toolerr, sc := none, content := [.err] }

def isClause (c : Option Clause) (f : Clause → Bool) : Bool := match c with | some x => f x | none => false

example : (monitor fD (fCall 7) fGood).isNone = true := by decide +kernel
/-- members in another order and `7.0` for `7`: the same JSON value -/
example : (monitor fD (fCall 7) { fGood with seen := some (.obj [("c", .str "x"), ("n", .num ⟨70, 1⟩)]) }).isNone = true := by decide +kernel
example : isClause (monitor fD (fCall 7) { fGood with res := .panic }) (fun | .panicked => true | _ => false) = true := by decide +kernel
example : isClause (monitor fD { fCall 7 with args := .val .null, argsNull := true } { fGood with res := .panic })
    (fun | .f12Panic => true | _ => false) = true := by decide +kernel
example : isClause (monitor fD (fCall 7) { fGood with sc := none }) (fun | .scMissing => true | _ => false) = true := by decide +kernel
/-- … and the F22 shape proper: Out = any, a declared output schema, a nil output -/
example : isClause (monitor { fD with oty := .any } { fCall 7 with h := fun _ => { out := .nilAny }, hout := none } { fGood with sc := none })
    (fun | .f16 => true | _ => false) = true := by decide +kernel
example : isClause (monitor fD (fCall 7) { fGood with inv := some false }) (fun | .notInvoked => true | _ => false) = true := by decide +kernel
/-- `{}` lacks the required `n` -/
example : isClause (monitor fD { fCall 7 with args := .val (.obj []) } fGood) (fun | .invokedInvalid => true | _ => false) = true := by decide +kernel
example : (monitor fD { fCall 7 with args := .val (.obj []) } fErr).isNone = true := by decide +kernel
example : isClause (monitor fD { fCall 7 with args := .val (.obj []) } { fErr with res := .rpcerr })
    (fun | .invalidNoToolErr => true | _ => false) = true := by decide +kernel
example : isClause (monitor fD { fCall 7 with args := .val (.obj []) } { fErr with content := [.err, .err] })
    (fun | .errContent => true | _ => false) = true := by decide +kernel
/-- the default of `c` is missing from what the handler saw -/
example : isClause (monitor fD (fCall 7) { fGood with seen := some (.obj [("n", .num (.ofInt 7)), ("c", .str "")]) })
    (fun | .seesDefaulted => true | _ => false) = true := by decide +kernel
example : isClause (monitor fD (fCall 7) { fGood with res := .toolerr }) (fun | .validOutRefused => true | _ => false) = true := by decide +kernel
example : isClause (monitor fD (fCall 7) { fGood with sc := some (.obj [("n", .num (.ofInt 7))]) })
    (fun | .scDiffers => true | _ => false) = true := by decide +kernel
example : isClause (monitor fD (fCall 7) { fGood with content := [] }) (fun | .contentDiffers => true | _ => false) = true := by decide +kernel
/-- the handler returns `{}` (no `n`): a protocol error is demanded -/
def fBadOut : CallIn := { fCall 7 with h := fun _ => { out := .json (.obj []) }, hout := some (.obj []) }
example : (monitor fD fBadOut { fGood with res := .rpcerr, sc := none, content := [] }).isNone = true := by decide +kernel
example : isClause (monitor fD fBadOut { fGood with sc := some (.obj [("c", .str "x")]) })
    (fun | .invalidOutReturned => true | _ => false) = true := by decide +kernel
example : isClause (monitor fD fBadOut { fGood with res := .toolerr, sc := none, content := [.err] })
    (fun | .kindDiffers => true | _ => false) = true := by decide +kernel
/-- a `*jsonrpc.Error` from the handler answered by a tool error: the error contract, not "output … returned" -/
example : isClause (monitor fD { fCall 7 with h := fun _ => { err := some .rpc } } { fGood with res := .toolerr, sc := none, content := [.err] })
    (fun | .kindDiffers => true | _ => false) = true := by decide +kernel
/-- Out = `*struct{…}`, the handler returns a nil pointer: the zero value `{"n":0,"c":""}` is demanded -/
def fPtrD : ToolD := { fD with oty := .ptr wTy }
def fNil : CallIn := { fCall 7 with h := fun _ => { out := .nilPtr }, hout := none }
def fZero : JVal := .obj [("n", .num (.ofInt 0)), ("c", .str "")]
example : (monitor fPtrD fNil { fGood with sc := some fZero }).isNone = true := by decide +kernel
example : isClause (monitor fPtrD fNil { fGood with res := .rpcerr, sc := none, content := [] })
    (fun | .nilPtr => true | _ => false) = true := by decide +kernel
/-- 2^53+1 arrives as 2^53 -/
def fBigOut : JVal := .obj [("n", .num (.ofInt 9007199254740993)), ("c", .str "x")]
def fBigRound : JVal := .obj [("n", .num (.ofInt 9007199254740992)), ("c", .str "x")]
def fBig : CallIn := { fCall 9007199254740993 with h := fun _ => { out := .json fBigOut }, hout := some fBigOut }
example : (monitor fD fBig { fGood with seen := some fBigOut, sc := some fBigOut }).isNone = true := by decide +kernel
example : isClause (monitor fD fBig { fGood with seen := some fBigRound, sc := some fBigOut })
    (fun | .recvExact "n" a b => a.toInt == 9007199254740993 && b.toInt == 9007199254740992 | _ => false) = true := by decide +kernel
example : isClause (monitor fD fBig { fGood with seen := some fBigOut, sc := some fBigRound })
    (fun | .carryExact "n" a b => a.toInt == 9007199254740993 && b.toInt == 9007199254740992 | _ => false) = true := by decide +kernel
/-- `n ≤ 2^53`: 2^53+1 is invalid, its float64 is valid — the observation of the unrepaired wrapper -/
def fMaxSchema : Schema :=
  .mk { ty := [.object], required := ["n"] }
    [("n", .mk { ty := [.integer], maximum := some (.ofInt 9007199254740992) } [] none none)] none none
def fMaxD : ToolD := { fD with isch := fMaxSchema, eisch := fMaxSchema, osch := none, eosch := none, ity := uTy, oty := .any }
example : isClause (monitor fMaxD fBig (obsOf (call (refEnv lossy53) fMaxD.tool fBig.h fBig.args)))
    (fun | .f9 => true | _ => false) = true := by decide +kernel
/-- a uint64 member: 2^64-1 is valid; the answer of a decode that keeps only int64 exact -/
def fU : ToolD := { ity := uTy, oty := .any, isch := uSchema, osch := none, eisch := uSchema, eosch := none }
def fUCall : CallIn := { fCall 18446744073709551615 with h := fun _ => {}, hout := none }
example : isClause (monitor fU fUCall (obsOf (call (refEnv lossy63) fU.tool fUCall.h fUCall.args)))
    (fun | .u64Refused => true | _ => false) = true := by decide +kernel
/-- null arguments under a schema with only a default: the handler must see `{"c":"x"}`, not null -/
def fDefSchema : Schema :=
  .mk { ty := [.object] } [("c", .mk { ty := [.string], dflt := some (.str "x") } [] none none)] none none
def fDefD : ToolD := { ity := .any, oty := .any, isch := fDefSchema, osch := none, eisch := fDefSchema, eosch := none }
def fNullCall : CallIn := { args := .val .null, h := fun _ => {}, hout := none, argsNull := true }
example : (monitor fDefD fNullCall { inv := some true, seen := some (.obj [("c", .str "x")]), res := .ok, sc := none, content := [] }).isNone = true := by decide +kernel
example : isClause (monitor fDefD fNullCall { inv := some true, seen := some .null, res := .ok, sc := none, content := [] })
    (fun | .f12NullSeen => true | _ => false) = true := by decide +kernel
/-- `struct{ MaxItems int64 "maxItems" }` under an open schema: the member `maxitems` must be dropped -/
def fMemSchema : Schema := .mk { ty := [.object] } [("maxItems", .mk { ty := [.integer] } [] none none)] none none
def fMemD : ToolD := { ity := .struct [("maxItems", false, .int64)], oty := .any, isch := fMemSchema, osch := none, eisch := fMemSchema, eosch := none }
def fMemCall : CallIn :=
  { args := .val (.obj [("maxItems", .num (.ofInt 1)), ("maxitems", .num (.ofInt 2))]), h := fun _ => {}, hout := none, argsNull := false }
example : (monitor fMemD fMemCall { inv := some true, seen := some (.obj [("maxItems", .num (.ofInt 1))]), res := .ok, sc := none, content := [] }).isNone = true := by decide +kernel
example : isClause (monitor fMemD fMemCall { inv := some true, seen := some (.obj [("maxItems", .num (.ofInt 2))]), res := .ok, sc := none, content := [] })
    (fun | .members "maxItems" => true | _ => false) = true := by decide +kernel

/-! ### why `monContract` splits the "kind differs" and "content differs" links

`invalid_output_is_error_not_result` is printed only for a SUCCESSFUL result of a handler that returned no error,
`text_fallback_iff_no_content` only when a success is demanded. In the other shapes of those two links — the handler
returned a `*jsonrpc.Error` (there is no output then), the observed result is itself an error, the content of an error
result differs — the predicate of that clause HOLDS of the observation (the examples below), so printing it would not be
sound: the chain prints the error-contract clause resp. the error-content clause there. -/

def fRpc : CallIn := { fCall 7 with h := fun _ => { err := some .rpc } }
example : P_invalid_output_is_error fD fRpc { fGood with res := .toolerr, sc := none, content := [.err] } := by
  intro y j _ he _ _
  simp [fRpc] at he
example : isClause (monitor fD fRpc { fGood with res := .toolerr, sc := none, content := [.err] })
    (fun | .kindDiffers => true | _ => false) = true := by decide +kernel
example : P_text_fallback fD { fCall 7 with args := .val (.obj []) } { fErr with content := [.err, .err] } := by
  intro hr; simp [fErr] at hr

end Witness

end TypedTool
