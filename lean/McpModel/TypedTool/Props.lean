import McpModel.TypedTool.GoTyLemmas
import McpModel.TypedTool.RegistryLemmas
/-!
E12 TypedTool — PROPERTY THEOREMS for C16 (DESIGN.md §5).

All theorems are about `call E t h a` for EVERY environment `E` (validator, default-filler, and the
numeric loss `E.remarshal` of `JSON → any → JSON`), tool `t`, handler `h` and argument value `a`:
decision logic over the wrapper's control flow, no bound on anything.

Reading. "Arguments valid after defaults" is judged on `defaulted E s a`: the argument object *as the
server decodes it* (`E.remarshal`), with defaults filled. For every argument whose numbers Go holds
exactly, `E.remarshal` is the identity (`lossy64_exact`: with fixes/F09 that is every value whose whole
numbers lie in [-2^63, 2^64) and carry no fractional digits, `InRange64`), and the `…_exact`/`…_partial` forms below speak about the client's own
JSON value. Where `E.remarshal` is not the identity the two differ — that is finding F9: on the
unrepaired tree (`lossy53`: every integer beyond ±2^53 is rounded) the exact-equality form of
`handler_sees_defaulted_args` is false, with `f9_counterexample_unrepaired` as the proved witness and
`f9_repaired_exact` showing the same call exact under fixes/F09. What is still missing for the
exact-equality form over ALL inputs after the fix: integers outside [-2^63, 2^64) are still rounded
before validation; no Go integer type can hold them, so the typed decoder rejects them or the field is
a float64/`any` that rounds by its own type — but
that argument about `project` is not proved here, hence `_partial`.
-/
namespace TypedTool

variable {S : Type}

/-! ## the wrapper in two halves

`call` decides whether the handler runs and on what (`handlerInput`), runs it, and turns what it returned into the
answer (`finish`); `call_eq` is the only place where `call` is unfolded. -/

def handlerInput (E : Env S) (t : Tool S) (a : Args) : Option JVal := (applyIn E t.inSchema a).bind t.decodeIn

def finish (E : Env S) (t : Tool S) (x : JVal) (r : HRet) : Outcome :=
  match r.err with
  | some .rpc => { seen := some x, kind := .rpcError, structured := none, content := [] }
  | some .plain => errorOutcome (some x)
  | none =>
    match outJson t r.out with
    | none => { seen := some x, kind := .ok, structured := none, content := r.content.getD [] }
    | some j =>
      match applyOut E t j with
      | none => { seen := some x, kind := .rpcError, structured := none, content := [] }
      | some sc => { seen := some x, kind := .ok, structured := some sc, content := finalContent r.content sc }

theorem call_eq (E : Env S) (t : Tool S) (h : JVal → HRet) (a : Args) :
    call E t h a = match handlerInput E t a with | none => errorOutcome none | some x => finish E t x (h x) := by
  unfold call handlerInput
  cases applyIn E t.inSchema a with
  | none => rfl
  | some d => cases t.decodeIn d <;> rfl

theorem handlerInput_eq_some {E : Env S} {t : Tool S} {a : Args} {x : JVal} :
    handlerInput E t a = some x ↔
      ∃ d, defaulted E t.inSchema a = some d ∧ E.valid t.inSchema d = true ∧ t.decodeIn d = some x := by
  unfold handlerInput applyIn
  cases defaulted E t.inSchema a with
  | none => simp
  | some d => by_cases hv : E.valid t.inSchema d = true <;> simp [hv]

theorem finish_seen (E : Env S) (t : Tool S) (x : JVal) (r : HRet) : (finish E t x r).seen = some x := by
  unfold finish
  split
  · rfl
  · rfl
  · split
    · rfl
    · split <;> rfl

theorem seen_eq_handlerInput (E : Env S) (t : Tool S) (h : JVal → HRet) (a : Args) :
    (call E t h a).seen = handlerInput E t a := by
  rw [call_eq]
  cases handlerInput E t a with
  | none => rfl
  | some x => exact finish_seen E t x (h x)

theorem call_of_seen {E : Env S} {t : Tool S} {h : JVal → HRet} {a : Args} {x : JVal}
    (hs : (call E t h a).seen = some x) : call E t h a = finish E t x (h x) := by
  rw [seen_eq_handlerInput] at hs
  rw [call_eq, hs]

/-- **invoked ⇔ valid after defaults.** The handler runs iff the arguments decode to an object which,
after defaults, is valid under the input schema (and which the typed decoder accepts). -/
theorem invoked_iff_valid_after_defaults (E : Env S) (t : Tool S) (h : JVal → HRet) (a : Args) :
    (call E t h a).seen.isSome = true ↔
      ∃ d, defaulted E t.inSchema a = some d ∧ E.valid t.inSchema d = true ∧ (t.decodeIn d).isSome = true := by
  simp only [seen_eq_handlerInput, Option.isSome_iff_exists, handlerInput_eq_some]
  exact ⟨fun ⟨x, d, hd, hv, hx⟩ => ⟨d, hd, hv, x, hx⟩, fun ⟨d, hd, hv, x, hx⟩ => ⟨x, d, hd, hv, hx⟩⟩

/-- **the handler receives the defaulted arguments**: whatever the handler observes is the typed
decoding of the defaulted argument object. -/
theorem handler_sees_defaulted_args (E : Env S) (t : Tool S) (h : JVal → HRet) (a : Args) (x : JVal)
    (hs : (call E t h a).seen = some x) :
    ∃ d, defaulted E t.inSchema a = some d ∧ E.valid t.inSchema d = true ∧ t.decodeIn d = some x :=
  handlerInput_eq_some.1 (seen_eq_handlerInput E t h a ▸ hs)

theorem seen_eq_decode (E : Env S) (t : Tool S) (h : JVal → HRet) (a : Args) (d : JVal)
    (hd : defaulted E t.inSchema a = some d) (hv : E.valid t.inSchema d = true) :
    (call E t h a).seen = t.decodeIn d := by
  simp only [seen_eq_handlerInput, handlerInput, applyIn, hd, hv, if_true, Option.bind_some]

/-- FULL STATEMENT (C16 as written): the handler observes exactly the client's argument object with the
schema's defaults, `E.fill s m` — for ALL `m`.  Not provable in this form: `E.remarshal` rounds integers
that Go does not hold exactly (F9; false on the unrepaired tree, see `f9_counterexample_unrepaired`).
Proved part: every `m` that the server decodes exactly (`hexact`; by `lossy64_exact` every `m` whose
whole numbers lie in [-2^63, 2^64) once fixes/F09 is applied), through a decoder that is faithful on the
defaulted value (`hfaithful`: the Go type has a member for everything the object carries). -/
theorem handler_sees_defaulted_args_partial (E : Env S) (t : Tool S) (h : JVal → HRet) (a : Args) (m : JVal)
    (hm : argsMap a = some m) (hexact : E.remarshal m = m)
    (hfaithful : t.decodeIn (E.fill t.inSchema m) = some (E.fill t.inSchema m))
    (hv : E.valid t.inSchema (E.fill t.inSchema m) = true) :
    (call E t h a).seen = some (E.fill t.inSchema m) := by
  rw [seen_eq_decode E t h a _ (by simp [defaulted, decoded, hm, hexact]) hv, hfaithful]

/-- **invalid arguments ⇒ tool-level error, handler not run**: when the arguments do not decode to an
object or are invalid after defaults, the caller gets an `isError` result with content and no
structured content, and the handler was not invoked. -/
theorem invalid_gives_tool_error_without_invocation (E : Env S) (t : Tool S) (h : JVal → HRet) (a : Args)
    (hinv : ∀ d, defaulted E t.inSchema a = some d → E.valid t.inSchema d = false) :
    (call E t h a).seen = none ∧ (call E t h a).kind = .toolError ∧
      (call E t h a).content ≠ [] ∧ (call E t h a).structured = none := by
  have hn : handlerInput E t a = none := by
    cases hi : handlerInput E t a with
    | none => rfl
    | some x =>
      obtain ⟨d, hd, hv, _⟩ := handlerInput_eq_some.1 hi
      rw [hinv d hd] at hv; cases hv
  rw [call_eq, hn]
  exact ⟨rfl, rfl, by simp [errorOutcome], rfl⟩

/-- **the handler sees exactly the validated members.** For a typed tool whose input type is a struct
(fields `fs`, pairwise distinct JSON names; any width, any types below): whatever the handler observes
is an object that has no members but the struct's fields, and EVERY field holds the decoding of the
member of the validated (defaulted) argument object whose name is EXACTLY the field's JSON name — the
zero value when there is no member of that exact name (a member spelled `"maxitems"` is an additional property
for the schema and nothing for the field `maxItems`). -/
theorem handler_sees_exactly_validated_members (E : Env S) (t : Tool S) (h : JVal → HRet) (a : Args)
    (fs : SFields) (x : JVal)
    (hdec : t.decodeIn = project (.struct fs)) (hnd : (fieldNames fs).Nodup)
    (hs : (call E t h a).seen = some x) :
    ∃ d out, defaulted E t.inSchema a = some d ∧ E.valid t.inSchema d = true ∧ x = .obj out ∧
      (∀ k, hasKey k out = true → k ∈ fieldNames fs) ∧
      (∀ n oe ty, (n, oe, ty) ∈ fs →
        ∃ y, fieldDecode ty (membersOf d) n = some y ∧ lookupJ n out = fieldShown oe ty y) := by
  obtain ⟨d, hd, hv, hx⟩ := handler_sees_defaulted_args E t h a x hs
  rw [hdec] at hx
  obtain ⟨out, hxo, hp⟩ := project_struct_eq_some fs d x hx
  exact ⟨d, out, hd, hv, hxo, projectFields_keys fs _ out hp, projectFields_lookup fs _ out hnd hp⟩

/-- **differently spelled members never reach the handler.** Two calls whose validated argument objects
agree on every member named exactly like a field of the input struct give the handler the same input —
whatever else the objects carry (members that differ from a field name only in case included), wherever
it stands in the object, whatever it holds. -/
theorem differently_spelled_members_never_reach_handler (E : Env S) (t : Tool S) (h : JVal → HRet)
    (a a' : Args) (fs : SFields) (kvs kvs' : Fields)
    (hdec : t.decodeIn = project (.struct fs))
    (hd : defaulted E t.inSchema a = some (.obj kvs)) (hv : E.valid t.inSchema (.obj kvs) = true)
    (hd' : defaulted E t.inSchema a' = some (.obj kvs')) (hv' : E.valid t.inSchema (.obj kvs') = true)
    (hagree : ∀ n ∈ fieldNames fs, lookupJ n kvs = lookupJ n kvs') :
    (call E t h a).seen = (call E t h a').seen := by
  rw [seen_eq_decode E t h a _ hd hv, seen_eq_decode E t h a' _ hd' hv', hdec]
  rw [project_struct_obj, project_struct_obj, projectFields_congr fs kvs kvs' hagree]

/-- … in particular an extra member whose name is not exactly a field's name is dropped: the handler's
input is the same as without it. -/
theorem unknown_member_is_dropped (fs : SFields) (pre post : Fields) (k : String) (v : JVal)
    (hk : k ∉ fieldNames fs) :
    project (.struct fs) (.obj (pre ++ (k, v) :: post)) = project (.struct fs) (.obj (pre ++ post)) := by
  rw [project_struct_obj, project_struct_obj, projectFields_unknown_member_dropped fs pre post k v hk]

/-- with the reference filler the validated arguments are always an object (so `membersOf` above is the
object's own member list) -/
theorem defaulted_is_object (s : Schema) (a : Args) (d : JVal)
    (hd : defaulted (refEnv lossy64) s a = some d) : ∃ kvs, d = .obj kvs := by
  obtain ⟨c, ps, ap, items⟩ := s
  simp only [defaulted, decoded, refEnv, Option.map_map, Option.map_eq_some_iff] at hd
  obtain ⟨m, hm, rfl⟩ := hd
  -- `argsMap` yields objects only; the decode and the filler keep an object an object
  obtain ⟨fs, rfl⟩ : ∃ fs, m = .obj fs := by
    unfold argsMap at hm
    split at hm <;> first | exact ⟨_, (Option.some.inj hm).symm⟩ | cases hm
  exact ⟨_, rfl⟩

/-- **structured content = JSON of the output, with the output schema's defaults.** For a declared
output schema `s`, a successful result whose handler produced output JSON `j` carries exactly: the
defaulted object when `j` is an object; the defaulted `{}` when `j` is `null` and the schema's root
type is "object"; `j` itself otherwise. -/
theorem structured_equals_output_json_with_defaults (E : Env S) (t : Tool S) (h : JVal → HRet) (a : Args)
    (x j : JVal) (s : S)
    (hs : (call E t h a).seen = some x) (he : (h x).err = none)
    (hout : outJson t (h x).out = some j) (hsch : t.outSchema = some s)
    (hok : (call E t h a).kind = .ok) :
    (call E t h a).structured = some (if (outForm E t s j).2 then (outForm E t s j).1 else j) := by
  rw [call_of_seen hs, finish, he] at hok ⊢
  simp only [hout] at hok ⊢
  unfold applyOut at hok ⊢
  simp only [hsch] at hok ⊢
  by_cases hv : E.valid s (outForm E t s j).1 = true
  · simp [hv]
  · simp [hv] at hok

theorem finish_structured {E : Env S} {t : Tool S} {x : JVal} {r : HRet} {sc : JVal}
    (hsc : (finish E t x r).structured = some sc) :
    ∃ j, applyOut E t j = some sc ∧ (finish E t x r).content = finalContent r.content sc := by
  unfold finish at hsc ⊢
  cases he : r.err with
  | some e => cases e <;> simp [he, errorOutcome] at hsc
  | none =>
    simp only [he] at hsc ⊢
    cases hj : outJson t r.out with
    | none => simp [hj] at hsc
    | some j =>
      simp only [hj] at hsc ⊢
      cases ha : applyOut E t j with
      | none => simp [ha] at hsc
      | some sc' =>
        simp only [ha, Option.some.injEq] at hsc ⊢
        exact ⟨j, hsc ▸ ha, hsc ▸ rfl⟩

/-- what `applySchema(…, forOutput)` lets through is valid -/
theorem applyOut_valid (E : Env S) (t : Tool S) (s : S) (j sc : JVal) (hsch : t.outSchema = some s)
    (h : applyOut E t j = some sc) :
    E.valid s sc = true ∨ (E.valid s (E.remarshal sc) = true ∧ (outForm E t s sc).2 = false) := by
  unfold applyOut at h
  simp only [hsch] at h
  by_cases hv : E.valid s (outForm E t s j).1 = true
  · simp only [hv, if_true, Option.some.injEq] at h
    by_cases hap : (outForm E t s j).2 = true
    · simp only [hap, if_true] at h
      left; rw [← h]; exact hv
    · simp only [hap, Bool.false_eq_true, if_false] at h
      subst h
      right
      refine ⟨?_, by simpa using hap⟩
      -- not re-marshalled: the validated value is `E.remarshal j`
      have : (outForm E t s j).1 = E.remarshal j := by
        unfold outForm at hap ⊢
        cases hr : E.remarshal j with
        | obj fs => simp [hr] at hap
        | null =>
          simp only [hr] at hap ⊢
          cases hro : t.outRootObject <;> simp [hro] at hap ⊢
        | _ => rfl
      rw [← this]; exact hv
  · simp [hv] at h

/-- **structured content is valid**: what is returned is the value that passed validation (the defaulted
value itself, or — when nothing was defaulted — the output JSON, validated as the server decodes it). -/
theorem structured_valid (E : Env S) (t : Tool S) (h : JVal → HRet) (a : Args) (x sc : JVal) (s : S)
    (hs : (call E t h a).seen = some x) (he : (h x).err = none)
    (hsch : t.outSchema = some s) (hok : (call E t h a).kind = .ok)
    (hsc : (call E t h a).structured = some sc) :
    E.valid s sc = true ∨ (E.valid s (E.remarshal sc) = true ∧ (outForm E t s sc).2 = false) := by
  rw [call_of_seen hs] at hsc
  obtain ⟨j, ha, _⟩ := finish_structured hsc
  exact applyOut_valid E t s j sc hsch ha

/-- `structured_valid` for outputs the server decodes exactly: the structured content itself is valid. -/
theorem structured_valid_exact (E : Env S) (t : Tool S) (h : JVal → HRet) (a : Args) (x sc : JVal) (s : S)
    (hs : (call E t h a).seen = some x) (he : (h x).err = none)
    (hsch : t.outSchema = some s) (hok : (call E t h a).kind = .ok)
    (hsc : (call E t h a).structured = some sc) (hexact : E.remarshal sc = sc) :
    E.valid s sc = true := by
  rcases structured_valid E t h a x sc s hs he hsch hok hsc with h1 | ⟨h1, _⟩
  · exact h1
  · rw [hexact] at h1; exact h1

/-- **text fallback iff the handler supplied no content**: with structured content `sc`, the content is
exactly one text block holding the serialised `sc` when the handler set none; otherwise it is the
handler's content, followed by that text block iff `sc` is not a JSON object. -/
theorem text_fallback_iff_no_content (E : Env S) (t : Tool S) (h : JVal → HRet) (a : Args) (x sc : JVal)
    (hs : (call E t h a).seen = some x) (he : (h x).err = none)
    (hsc : (call E t h a).structured = some sc) :
    ((h x).content = none → (call E t h a).content = [.jsonOf sc]) ∧
    (∀ c, (h x).content = some c →
      (call E t h a).content = if sc.isObj then c else c ++ [.jsonOf sc]) := by
  rw [call_of_seen hs] at hsc ⊢
  obtain ⟨_, _, hc⟩ := finish_structured hsc
  rw [hc]
  exact ⟨fun hc => by simp [finalContent, hc], fun c hc => by simp [finalContent, hc]⟩

/-- and without structured content nothing is added to the handler's content -/
theorem no_fallback_without_structured (E : Env S) (t : Tool S) (h : JVal → HRet) (a : Args) (x : JVal)
    (hs : (call E t h a).seen = some x) (he : (h x).err = none)
    (hok : (call E t h a).kind = .ok) (hsc : (call E t h a).structured = none) :
    (call E t h a).content = (h x).content.getD [] := by
  rw [call_of_seen hs, finish, he] at hok hsc ⊢
  cases hj : outJson t (h x).out with
  | none => simp
  | some j =>
    simp only [hj] at hok hsc ⊢
    cases ha : applyOut E t j with
    | none => simp [ha] at hok
    | some sc => simp [ha] at hsc

/-- **invalid output is an error, not a result**: if the output (with defaults) fails the declared output
schema, the call ends in a protocol error carrying neither structured content nor content. -/
theorem invalid_output_is_error_not_result (E : Env S) (t : Tool S) (h : JVal → HRet) (a : Args)
    (x j : JVal) (s : S)
    (hs : (call E t h a).seen = some x) (he : (h x).err = none)
    (hout : outJson t (h x).out = some j) (hsch : t.outSchema = some s)
    (hbad : E.valid s (outForm E t s j).1 = false) :
    (call E t h a).kind = .rpcError ∧ (call E t h a).structured = none ∧ (call E t h a).content = [] := by
  rw [call_of_seen hs, finish, he]
  simp only [hout]
  unfold applyOut
  simp [hsch, hbad]

/-- **a nil pointer output is replaced by the zero value of its element type**: the call behaves exactly
as if the handler had returned that zero value. -/
theorem nil_pointer_output_uses_zero_value (E : Env S) (t : Tool S) (h : JVal → HRet) (a : Args) (z : JVal)
    (hz : t.elemZero = some z) :
    call E t h a =
      call E t (fun x => match (h x).out with | .nilPtr => { h x with out := .json z } | _ => h x) a := by
  simp only [call_eq]
  cases handlerInput E t a with
  | none => rfl
  | some x =>
    cases ho : (h x).out with
    | nilPtr => simp [finish, ho, outJson, hz]
    | _ => simp only [ho]

/-- under a declared output schema every output is marshalled (a nil `any` as `null`, F22), and what is marshalled and
not returned as structured content is an error -/
theorem finish_ok_structured {E : Env S} {t : Tool S} {x : JVal} {r : HRet}
    (hok : (finish E t x r).kind = .ok) (hsch : t.outSchema.isSome = true) :
    (finish E t x r).structured.isSome = true := by
  unfold finish at hok ⊢
  cases he : r.err with
  | some e => cases e <;> simp [he, errorOutcome] at hok
  | none =>
    simp only [he] at hok ⊢
    cases hj : outJson t r.out with
    | none => cases ho : r.out <;> simp [ho, outJson, hsch] at hj
    | some j =>
      simp only [hj] at hok ⊢
      cases ha : applyOut E t j with
      | none => simp [ha] at hok
      | some sc => rfl

theorem ok_has_structured (E : Env S) (t : Tool S) (h : JVal → HRet) (a : Args)
    (hok : (call E t h a).kind = .ok) (hsch : t.outSchema.isSome = true) :
    (call E t h a).structured.isSome = true := by
  revert hok
  rw [call_eq]
  cases handlerInput E t a with
  | none => exact fun hok => nomatch hok
  | some x => exact fun hok => finish_ok_structured hok hsch

/-- **a declared output schema ⇒ a successful result carries structured content** (for every kind of
output, including a nil `any` — the "Out = any + explicit schema + nil output" item of DESIGN §6, finding F22,
is repaired by fixes/F16-any-nil-output-structured.patch). -/
theorem success_has_structured (E : Env S) (t : Tool S) (h : JVal → HRet) (a : Args) (x : JVal)
    (hs : (call E t h a).seen = some x) (he : (h x).err = none)
    (hok : (call E t h a).kind = .ok) (hsch : t.outSchema.isSome = true) :
    (call E t h a).structured.isSome = true :=
  ok_has_structured E t h a hok hsch

/-- With the reference validator, an argument object that is valid *before* defaults is also valid after
them, so its handler runs (schemas of the family; faithful decoder; exactly decoded arguments). -/
theorem valid_args_are_invoked (R : JVal → JVal) (t : Tool Schema) (h : JVal → HRet) (a : Args) (m : JVal)
    (hm : argsMap a = some m) (hexact : R m = m)
    (hk : Keyed t.inSchema) (hd : DefaultsOk t.inSchema)
    (hv : valid t.inSchema m = true)
    (hdec : (t.decodeIn (fill t.inSchema m)).isSome = true) :
    (call (refEnv R) t h a).seen.isSome = true := by
  apply (invoked_iff_valid_after_defaults (refEnv R) t h a).2
  refine ⟨fill t.inSchema m, ?_, ?_, hdec⟩
  · simp [defaulted, decoded, hm, refEnv, hexact]
  · exact fill_preserves_valid t.inSchema hk hd m hv

/-- With the reference filler the handler's input is a fixed point of default filling: applying the
defaults a second time changes nothing. -/
theorem seen_is_default_closed (R : JVal → JVal) (t : Tool Schema) (h : JVal → HRet) (a : Args) (x : JVal)
    (hk : Keyed t.inSchema) (hfaithful : ∀ d, t.decodeIn d = some x → x = d)
    (hs : (call (refEnv R) t h a).seen = some x) :
    fill t.inSchema x = x := by
  obtain ⟨d, hd, _, hx⟩ := handler_sees_defaulted_args (refEnv R) t h a x hs
  have := hfaithful d hx
  subst this
  simp only [defaulted] at hd
  cases hdec : decoded (refEnv R) a with
  | none => rw [hdec] at hd; cases hd
  | some m =>
    rw [hdec] at hd
    simp only [Option.map_some, Option.some.injEq] at hd
    rw [← hd]; exact fill_idem t.inSchema hk m

/-! ## `remarshal` is exact on everything Go holds exactly -/

mutual
/-- every number is a fraction or a whole number in [-2^63, 2^64) written without fractional digits (`e = 0`: `7.0` is not
in range) -/
def InRange64 : JVal → Bool
  | .num d => !d.isInt || (decide (-two63 ≤ d.toInt) && decide (d.toInt < two64) && d.e == 0)
  | .arr xs => InRange64List xs
  | .obj fs => InRange64Fields fs
  | _ => true
def InRange64List : List JVal → Bool
  | [] => true
  | x :: t => InRange64 x && InRange64List t
def InRange64Fields : Fields → Bool
  | [] => true
  | (_, v) :: t => InRange64 v && InRange64Fields t
end

theorem i64Dec_exact (d : Dec) (h : (!d.isInt || (decide (-two63 ≤ d.toInt) && decide (d.toInt < two64) && d.e == 0)) = true) :
    i64Dec d = d := by
  unfold i64Dec
  cases hi : d.isInt with
  | false => simp
  | true =>
    simp only [hi, Bool.not_true, Bool.false_or, Bool.and_eq_true, decide_eq_true_eq, beq_iff_eq] at h
    obtain ⟨⟨h1, h2⟩, h3⟩ := h
    simp only [if_true, h1, h2, and_self]
    obtain ⟨m, e⟩ := d
    simp only at h3
    subst h3
    simp [Dec.ofInt, Dec.toInt]

mutual
theorem lossy64_exact : ∀ v, InRange64 v = true → lossy64 v = v
  | .num d, h => by
    simp only [InRange64] at h
    simp only [lossy64, mapNum, i64Dec_exact d h]
  | .arr xs, h => by
    simp only [InRange64] at h
    simp only [lossy64, mapNum, lossy64_exactList xs h]
  | .obj fs, h => by
    simp only [InRange64] at h
    simp only [lossy64, mapNum, lossy64_exactFields fs h]
  | .null, _ | .bool _, _ | .str _, _ => rfl
theorem lossy64_exactList : ∀ xs, InRange64List xs = true → mapNumList i64Dec xs = xs
  | [], _ => by simp [mapNumList]
  | x :: t, h => by
    simp only [InRange64List, Bool.and_eq_true] at h
    have h1 := lossy64_exact x h.1
    simp only [lossy64] at h1
    simp only [mapNumList, h1, lossy64_exactList t h.2]
theorem lossy64_exactFields : ∀ fs, InRange64Fields fs = true → mapNumFields i64Dec fs = fs
  | [], _ => by simp [mapNumFields]
  | (k, v) :: t, h => by
    simp only [InRange64Fields, Bool.and_eq_true] at h
    have h1 := lossy64_exact v h.1
    simp only [lossy64] at h1
    simp only [mapNumFields, h1, lossy64_exactFields t h.2]
end

def envOf (F : S → JVal → JVal) (V : S → JVal → Bool) (R : JVal → JVal) : Env S := { fill := F, valid := V, remarshal := R }

theorem applyOut_exact (F : S → JVal → JVal) (V : S → JVal → Bool) (t : Tool S) (j : JVal)
    (hj : InRange64 j = true) :
    applyOut (envOf F V lossy64) t j = applyOut (envOf F V id) t j := by
  have hf : ∀ s, outForm (envOf F V lossy64) t s j = outForm (envOf F V id) t s j := by
    intro s
    unfold outForm
    simp only [envOf, lossy64_exact j hj, id]
  unfold applyOut
  cases t.outSchema with
  | none => rfl
  | some s => simp only [hf s]; rfl

/-- **the wrapper is exact on everything a Go integer type can hold.** When every whole number in the arguments
and in the handler's output lies in [-2^63, 2^64) — the union of the int64 and the uint64 range, i.e. every value an
integer-typed member of a Go input or output type can take — and is written as a plain integer (`InRange64`), the
wrapper over the server's decode (`lossy64`: int64, else uint64, else float64) IS the wrapper over the client's own
JSON values (`id`). -/
theorem wrapper_exact_on_go_integer_range (F : S → JVal → JVal) (V : S → JVal → Bool)
    (t : Tool S) (h : JVal → HRet) (a : Args)
    (ha : ∀ m, argsMap a = some m → InRange64 m = true)
    (hz : ∀ z, t.elemZero = some z → InRange64 z = true)
    (ho : ∀ x j, (h x).out = .json j → InRange64 j = true) :
    call (envOf F V lossy64) t h a = call (envOf F V id) t h a := by
  have hin : handlerInput (envOf F V lossy64) t a = handlerInput (envOf F V id) t a := by
    unfold handlerInput applyIn defaulted decoded
    cases hm : argsMap a with
    | none => rfl
    | some m => simp only [envOf, Option.map_some, lossy64_exact m (ha m hm), id]; rfl
  rw [call_eq, call_eq, hin]
  cases handlerInput (envOf F V id) t a with
  | none => rfl
  | some x =>
    -- whatever is marshalled for the handler's output is in range
    have hj : ∀ j, outJson t (h x).out = some j → InRange64 j = true := by
      intro j hj
      cases hout : (h x).out with
      | nilAny => simp only [hout, outJson] at hj; split at hj <;> cases hj; rfl
      | nilPtr =>
        simp only [hout, outJson, Option.some.injEq] at hj
        subst hj
        cases hez : t.elemZero with
        | none => rfl
        | some z => exact hz z hez
      | json j' => simp only [hout, outJson, Option.some.injEq] at hj; exact hj ▸ ho x j' hout
    simp only [finish]
    cases (h x).err with
    | some e => cases e <;> rfl
    | none =>
      cases hj' : outJson t (h x).out with
      | none => rfl
      | some j => simp only [applyOut_exact F V t j (hj j hj')]

/-! ## registration: the schemas a tool enforces are its own, whatever was registered before

`World.run R {} ops` is ANY program of `NewServer(&ServerOptions{SchemaCache: …})` / `AddTool` steps over
any number of shared caches (any length, any interleaving, any Go types, tools replaced by name,
registrations that fail half-way). `RegOp.Ok heap` is the SDK's documented condition of use of a
`SchemaCache`: the content behind a `*jsonschema.Schema` that was handed to `AddTool` is not changed
afterwards (`heap` gives the content of each pointer). -/

/-- **a registered tool enforces (and publishes) its own schemas.** After any history of registrations
through shared caches, for every tool on the current server the resolved schemas used by the wrapper
for defaults and validation, and the schemas shown by tools/list, are the tool's own: the schema it
declared, else the one inferred from its Go type — never one cached for another tool. -/
theorem registered_tool_enforces_own_schemas {K : Type} [DecidableEq K] (R : RegEnv K S) (heap : Nat → S)
    (ops : List (RegOp K S)) (hops : ∀ op ∈ ops, RegOp.Ok heap op)
    (name : String) (d : Decl K S) (e : Entry S)
    (hmem : (name, d, e) ∈ (World.run R ({} : World K S) ops).tools) :
    e.enfIn = d.ownIn R ∧ e.enfOut = d.ownOut R ∧ e.pubIn = d.ownIn R ∧ e.pubOut = d.ownOut R := by
  have hw := World.run_ok R heap ops {} (World.ok_init R heap) hops
  obtain ⟨h1, h2, h3, h4⟩ := hw.2 (name, d, e) hmem
  exact ⟨h2, h4, h1, h3⟩

/-- … hence a call of a registered tool is a call of the wrapper over the tool's own schemas: every
theorem above about `call E t h a` holds for registered tools with `t.inSchema`/`t.outSchema` read as
the DECLARED schemas. -/
theorem registered_call_eq_declared {K : Type} [DecidableEq K] (R : RegEnv K S) (heap : Nat → S)
    (ops : List (RegOp K S)) (hops : ∀ op ∈ ops, RegOp.Ok heap op)
    (name : String) (d : Decl K S) (e : Entry S)
    (hmem : (name, d, e) ∈ (World.run R ({} : World K S) ops).tools)
    (E : Env S) (oro : S → Bool) (ez : Option JVal) (dec : JVal → Option JVal) (h : JVal → HRet) (a : Args) :
    call E (e.tool oro ez dec) h a = call E (d.tool R oro ez dec) h a := by
  obtain ⟨h1, h2, _, _⟩ := registered_tool_enforces_own_schemas R heap ops hops name d e hmem
  unfold Entry.tool Decl.tool
  rw [h1, h2]

/-- **invoked ⇔ valid after defaults under the tool's OWN input schema**, after any history. -/
theorem registered_invoked_iff_valid_under_own_schema {K : Type} [DecidableEq K] (R : RegEnv K S) (heap : Nat → S)
    (ops : List (RegOp K S)) (hops : ∀ op ∈ ops, RegOp.Ok heap op)
    (name : String) (d : Decl K S) (e : Entry S)
    (hmem : (name, d, e) ∈ (World.run R ({} : World K S) ops).tools)
    (E : Env S) (oro : S → Bool) (ez : Option JVal) (dec : JVal → Option JVal) (h : JVal → HRet) (a : Args) :
    (call E (e.tool oro ez dec) h a).seen.isSome = true ↔
      ∃ x, defaulted E (d.ownIn R) a = some x ∧ E.valid (d.ownIn R) x = true ∧ (dec x).isSome = true := by
  rw [registered_call_eq_declared R heap ops hops name d e hmem]
  exact invoked_iff_valid_after_defaults E (d.tool R oro ez dec) h a

/-- **output violating the tool's OWN output schema is an error, not a result**, after any history. -/
theorem registered_invalid_output_is_error {K : Type} [DecidableEq K] (R : RegEnv K S) (heap : Nat → S)
    (ops : List (RegOp K S)) (hops : ∀ op ∈ ops, RegOp.Ok heap op)
    (name : String) (d : Decl K S) (e : Entry S)
    (hmem : (name, d, e) ∈ (World.run R ({} : World K S) ops).tools)
    (E : Env S) (oro : S → Bool) (ez : Option JVal) (dec : JVal → Option JVal) (h : JVal → HRet) (a : Args)
    (x j : JVal) (s : S)
    (hs : (call E (e.tool oro ez dec) h a).seen = some x) (he : (h x).err = none)
    (hout : outJson (d.tool R oro ez dec) (h x).out = some j) (hsch : d.ownOut R = some s)
    (hbad : E.valid s (outForm E (d.tool R oro ez dec) s j).1 = false) :
    (call E (e.tool oro ez dec) h a).kind = .rpcError ∧ (call E (e.tool oro ez dec) h a).structured = none := by
  rw [registered_call_eq_declared R heap ops hops name d e hmem] at hs ⊢
  have := invalid_output_is_error_not_result E (d.tool R oro ez dec) h a x j s hs he hout hsch hbad
  exact ⟨this.1, this.2.1⟩

/-- **a failed registration stores nothing wrong**: whatever `AddTool` calls succeeded or panicked, every
cache stays coherent (a type maps to the schema inferred from it, a pointer to its own content). -/
theorem caches_stay_coherent {K : Type} [DecidableEq K] (R : RegEnv K S) (heap : Nat → S)
    (ops : List (RegOp K S)) (hops : ∀ op ∈ ops, RegOp.Ok heap op) (i : Nat) (c : Cache K S)
    (hc : assoc i (World.run R ({} : World K S) ops).caches = some c) : Coherent R heap c :=
  (World.run_ok R heap ops {} (World.ok_init R heap) hops).1 i c hc

/-! ## witnesses (non-vacuity) and the F9 counter-examples -/

section Witness

/-- `{"type":"object","properties":{"n":{"type":"integer"},"c":{"type":"string","default":"x"}},"required":["n"]}` -/
def wSchema : Schema :=
  .mk { ty := [.object], required := ["n"] }
    [("n", .mk { ty := [.integer] } [] none none),
     ("c", .mk { ty := [.string], dflt := some (.str "x") } [] none none)] none none

/-- `struct{ N int64 "n"; C string "c" }` -/
def wTy : GoTy := .struct [("n", false, .int64), ("c", false, .string)]

def wTool : Tool Schema :=
  { inSchema := wSchema, outSchema := some wSchema, outRootObject := true, elemZero := none, decodeIn := project wTy }

def wArgs (n : Int) : Args := .val (.obj [("n", .num (.ofInt n))])

/-- echo handler: returns its input as output, no content -/
def wEcho : JVal → HRet := fun x => { out := .json x }

def seenEqv (o : Outcome) (v : JVal) : Bool :=
  match o.seen with
  | some x => x.eqv v
  | none => false

/-- non-vacuity of `invoked_iff…`/`handler_sees…`: a valid call is invoked and sees the default filled in -/
example : seenEqv (call (refEnv lossy64) wTool wEcho (wArgs 7)) (.obj [("n", .num (.ofInt 7)), ("c", .str "x")]) = true := by decide +kernel
/-- non-vacuity of `invalid_gives_tool_error…`: a missing required member is an error without invocation -/
example : (call (refEnv lossy64) wTool wEcho (.val (.obj []))).seen.isNone = true ∧
    (call (refEnv lossy64) wTool wEcho (.val (.obj []))).kind = .toolError := by decide +kernel
/-- non-vacuity of `invalid_output_is_error…`: an output violating the schema is a protocol error -/
example : (call (refEnv lossy64) wTool (fun _ => { out := .json (.obj []) }) (wArgs 7)).kind = .rpcError := by decide +kernel
/-- non-vacuity of `text_fallback…`: success, structured content and the fallback block -/
example : (call (refEnv lossy64) wTool wEcho (wArgs 7)).kind = .ok ∧
    (call (refEnv lossy64) wTool wEcho (wArgs 7)).structured.isSome = true ∧
    (call (refEnv lossy64) wTool wEcho (wArgs 7)).content.length = 1 := by decide +kernel
/-- the schemas used here are in the family of the lemmas -/
example : Keyed wSchema ∧ DefaultsOk wSchema := by
  refine ⟨?_, ?_⟩
  · simp [wSchema, Keyed, KeyedProps, keys]
  · simp only [wSchema, DefaultsOk, DefaultsOkProps, defaultOk, Schema.leaf, true_and, and_true, or_true, and_self]
    refine ⟨?_, ?_⟩
    · intro h; exact absurd h (by decide)
    · intro _; decide

/-- **F9, unrepaired tree** (`lossy53`): the schema-valid argument `n = 2^53+1` reaches an int64 field as
`2^53`. The FULL STATEMENT in front of `handler_sees_defaulted_args_partial` (the handler observes `fill s m`, for all
`m`) is false for this environment. -/
theorem f9_counterexample_unrepaired :
    valid wSchema (fill wSchema (.obj [("n", .num (.ofInt 9007199254740993))])) = true ∧
    seenEqv (call (refEnv lossy53) wTool wEcho (wArgs 9007199254740993))
      (.obj [("n", .num (.ofInt 9007199254740992)), ("c", .str "x")]) = true ∧
    seenEqv (call (refEnv lossy53) wTool wEcho (wArgs 9007199254740993))
      (fill wSchema (.obj [("n", .num (.ofInt 9007199254740993))])) = false := by decide +kernel

/-- with fixes/F09 the same call is exact -/
theorem f9_repaired_exact :
    seenEqv (call (refEnv lossy64) wTool wEcho (wArgs 9007199254740993))
      (fill wSchema (.obj [("n", .num (.ofInt 9007199254740993))])) = true := by decide +kernel


/-! ### the unsigned half of the exact range: uint64 members

`jsonschema.ForType` gives a `uint64` member `{"type":"integer","minimum":0}`; its values go up to
2^64-1, twice as far as int64. The server's decode keeps them exact (`UseUint64`), and `project .uint64`
accepts exactly [0, 2^64). -/

theorem Dec.isInt_ofInt (n : Int) : (Dec.ofInt n).isInt = true := by
  simp [Dec.isInt, Dec.ofInt]
theorem Dec.toInt_ofInt (n : Int) : (Dec.ofInt n).toInt = n := by
  simp [Dec.toInt, Dec.ofInt]

/-- a uint64 member holds exactly the integers of [0, 2^64): anything else is a decode error -/
theorem project_uint64_num (n : Int) :
    project .uint64 (.num (.ofInt n)) = if 0 ≤ n ∧ n < two64 then some (.num (.ofInt n)) else none := by
  simp only [project_uint64, inUint64, Dec.isInt_ofInt, Dec.toInt_ofInt, Bool.true_and, Bool.and_eq_true, decide_eq_true_eq]

/-- an int64 member holds exactly the integers of [-2^63, 2^63) -/
theorem project_int64_num (n : Int) :
    project .int64 (.num (.ofInt n)) = if -two63 ≤ n ∧ n < two63 then some (.num (.ofInt n)) else none := by
  simp only [project_int64, inInt64, Dec.isInt_ofInt, Dec.toInt_ofInt, Bool.true_and, Bool.and_eq_true, decide_eq_true_eq]

theorem lossy64_int (n : Int) (h0 : -two63 ≤ n) (h1 : n < two64) : lossy64 (.num (.ofInt n)) = .num (.ofInt n) := by
  apply lossy64_exact
  simp [InRange64, Dec.isInt, Dec.toInt, h0, h1, Dec.ofInt]

/-- **what `applySchema` hands on for an integer of the unsigned range, a uint64 member receives unchanged** -/
theorem uint64_field_receives_exact (n : Int) (h0 : 0 ≤ n) (h1 : n < two64) :
    project .uint64 (lossy64 (.num (.ofInt n))) = some (.num (.ofInt n)) := by
  rw [lossy64_int n (by simp only [two63]; omega) h1, project_uint64_num]
  simp [h0, h1]

/-- the schema inferred for `struct{ N uint64 "n" }` -/
def uSchema : Schema :=
  .mk { ty := [.object], required := ["n"], apFalse := true }
    [("n", .mk { ty := [.integer], minimum := some (.ofInt 0) } [] none none)] none none
def uTy : GoTy := .struct [("n", false, .uint64)]
def uTool : Tool Schema :=
  { inSchema := uSchema, outSchema := some uSchema, outRootObject := true, elemZero := none, decodeIn := project uTy }

theorem project_uTy (n : Int) (h0 : 0 ≤ n) (h1 : n < two64) :
    project uTy (.obj [("n", .num (.ofInt n))]) = some (.obj [("n", .num (.ofInt n))]) := by
  have hu := project_uint64_num n
  simp only [h0, h1, and_self, if_true] at hu
  rw [uTy, project_struct_obj, projectFields_cons, projectFields_nil]
  simp only [fieldDecode, lookupJ, if_true, hu]
  rfl

theorem valid_uSchema (n : Int) (h0 : 0 ≤ n) : valid uSchema (.obj [("n", .num (.ofInt n))]) = true := by
  have hle : Dec.le (.ofInt 0) (.ofInt n) = true := by simp [Dec.le, Dec.ofInt, h0]
  simp [uSchema, valid, validProps, validOpt, leafOk, typeOk, hasType, enumOk, constOk, numOk,
    strOk, requiredOk, hasKey, lookupJ, propsHasKey, Dec.isInt_ofInt, hle]

theorem fill_uSchema (v : JVal) : fill uSchema (.obj [("n", v)]) = .obj [("n", v)] := by
  rfl

/-- **every uint64 value travels exactly, in both directions**: for EVERY `n` in [0, 2^64) the call with
argument `{"n": n}` runs the handler on exactly `{"n": n}`, succeeds, and the echoing handler's output
comes back as structured content `{"n": n}` — also above MaxInt64. -/
theorem uint64_argument_and_result_exact (n : Int) (h0 : 0 ≤ n) (h1 : n < two64) :
    (call (refEnv lossy64) uTool wEcho (wArgs n)).seen = some (.obj [("n", .num (.ofInt n))]) ∧
    (call (refEnv lossy64) uTool wEcho (wArgs n)).kind = .ok ∧
    (call (refEnv lossy64) uTool wEcho (wArgs n)).structured = some (.obj [("n", .num (.ofInt n))]) := by
  have hl : lossy64 (.obj [("n", .num (.ofInt n))]) = .obj [("n", .num (.ofInt n))] := by
    have := lossy64_int n (by simp only [two63]; omega) h1
    simp only [lossy64, mapNum, mapNumFields] at this ⊢
    rw [this]
  have hin : handlerInput (refEnv lossy64) uTool (wArgs n) = some (.obj [("n", .num (.ofInt n))]) := by
    simp only [handlerInput, applyIn, defaulted, decoded, argsMap, wArgs, refEnv, Option.map_some, hl, uTool, fill_uSchema,
      valid_uSchema n h0, if_true, Option.bind_some, project_uTy n h0 h1]
  have hout : applyOut (refEnv lossy64) uTool (.obj [("n", .num (.ofInt n))]) = some (.obj [("n", .num (.ofInt n))]) := by
    simp only [applyOut, uTool, outForm, refEnv, hl, fill_uSchema, valid_uSchema n h0, if_true]
  rw [call_eq, hin]
  simp only [finish, wEcho, outJson, hout, and_self]

def structEqv (o : Outcome) (v : JVal) : Bool :=
  match o.structured with
  | some x => x.eqv v
  | none => false

/-- **why the unsigned half matters.** With a decode that keeps only int64 exact (`lossy63`: `UseInt64`
without `UseUint64`) in the place of the wrapper's: the schema-valid argument `n = 2^63+1` reaches the
uint64 member as 9223372036854776000; the schema-valid `n = 2^64-1` is re-encoded as
18446744073709552000, which no uint64 holds, so the VALID call is refused with a tool error and the
handler does not run; and an output `{"n": 2^64-1}` comes back as structured content
`{"n": 18446744073709552000}` — not a value of the output type at all. -/
theorem signed_only_decode_counterexample :
    valid uSchema (fill uSchema (.obj [("n", .num (.ofInt 9223372036854775809))])) = true ∧
    seenEqv (call (refEnv lossy63) uTool wEcho (wArgs 9223372036854775809))
      (.obj [("n", .num (.ofInt 9223372036854776000))]) = true ∧
    seenEqv (call (refEnv lossy63) uTool wEcho (wArgs 9223372036854775809))
      (.obj [("n", .num (.ofInt 9223372036854775809))]) = false ∧
    valid uSchema (fill uSchema (.obj [("n", .num (.ofInt 18446744073709551615))])) = true ∧
    (call (refEnv lossy63) uTool wEcho (wArgs 18446744073709551615)).seen.isNone = true ∧
    (call (refEnv lossy63) uTool wEcho (wArgs 18446744073709551615)).kind = .toolError ∧
    structEqv (call (refEnv lossy63) uTool (fun _ => { out := .json (.obj [("n", .num (.ofInt 18446744073709551615))]) }) (wArgs 7))
      (.obj [("n", .num (.ofInt 18446744073709552000))]) = true ∧
    (project .uint64 (.num (.ofInt 18446744073709552000))).isNone = true := by decide +kernel

/-- the boundaries under the wrapper's own decode: 2^63-1, 2^63, 2^63+1, 2^64-1 exact (argument and
structured content); 2^64 and -1 refused without running the handler -/
theorem uint64_boundaries :
    seenEqv (call (refEnv lossy64) uTool wEcho (wArgs 9223372036854775807)) (.obj [("n", .num (.ofInt 9223372036854775807))]) = true ∧
    seenEqv (call (refEnv lossy64) uTool wEcho (wArgs 9223372036854775808)) (.obj [("n", .num (.ofInt 9223372036854775808))]) = true ∧
    seenEqv (call (refEnv lossy64) uTool wEcho (wArgs 9223372036854775809)) (.obj [("n", .num (.ofInt 9223372036854775809))]) = true ∧
    seenEqv (call (refEnv lossy64) uTool wEcho (wArgs 18446744073709551615)) (.obj [("n", .num (.ofInt 18446744073709551615))]) = true ∧
    structEqv (call (refEnv lossy64) uTool wEcho (wArgs 18446744073709551615)) (.obj [("n", .num (.ofInt 18446744073709551615))]) = true ∧
    (call (refEnv lossy64) uTool wEcho (wArgs 18446744073709551616)).seen.isNone = true ∧
    (call (refEnv lossy64) uTool wEcho (wArgs 18446744073709551616)).kind = .toolError ∧
    (call (refEnv lossy64) uTool wEcho (wArgs (-1))).seen.isNone = true := by decide +kernel

/-! ### member names are matched exactly -/

/-- `{"type":"object","properties":{"query":{"type":"string"},"maxItems":{"type":"integer","minimum":1,
"maximum":100,"default":50}},"required":["query"]}` — additional properties allowed -/
def cSchema : Schema :=
  .mk { ty := [.object], required := ["query"] }
    [("query", .mk { ty := [.string] } [] none none),
     ("maxItems", .mk { ty := [.integer], minimum := some (.ofInt 1), maximum := some (.ofInt 100),
                        dflt := some (.num (.ofInt 50)) } [] none none)] none none

/-- `struct{ Query string "query"; MaxItems int64 "maxItems" }` -/
def cTy : GoTy := .struct [("query", false, .string), ("maxItems", false, .int64)]

def cTool (dec : JVal → Option JVal) : Tool Schema :=
  { inSchema := cSchema, outSchema := none, outRootObject := false, elemZero := none, decodeIn := dec }

/-- `{"maxItems":10,"maxitems":100000,"query":"x"}`: valid — `maxitems` is an additional property -/
def cArgs : Args :=
  .val (.obj [("maxItems", .num (.ofInt 10)), ("maxitems", .num (.ofInt 100000)), ("query", .str "x")])
/-- `{"maxitems":100000,"query":"x"}`: valid, and `maxItems` takes its default -/
def cArgsDflt : Args := .val (.obj [("maxitems", .num (.ofInt 100000)), ("query", .str "x")])

/-- non-vacuity of `handler_sees_exactly_validated_members` / `unknown_member_is_dropped`: the member
`maxitems` is not the property `maxItems`; the handler sees the validated 10, resp. the default 50 -/
example :
    seenEqv (call (refEnv lossy64) (cTool (project cTy)) wEcho cArgs)
      (.obj [("query", .str "x"), ("maxItems", .num (.ofInt 10))]) = true ∧
    seenEqv (call (refEnv lossy64) (cTool (project cTy)) wEcho cArgsDflt)
      (.obj [("query", .str "x"), ("maxItems", .num (.ofInt 50))]) = true ∧
    (fieldNames [("query", false, GoTy.string), ("maxItems", false, GoTy.int64)]).Nodup ∧
    "maxitems" ∉ fieldNames [("query", false, GoTy.string), ("maxItems", false, GoTy.int64)] := by decide +kernel

/-- a name matching that identifies `maxitems` with `maxItems`, as `encoding/json`'s does -/
def cFold (s : String) : String := if s = "maxitems" then "maxItems" else s

/-- **why the decode must match member names exactly.** With a decoder that matches names up to case
(`projectFold`; last matching member in key order wins — `encoding/json`) in the place of `project`, the
same two valid calls still run the handler, but it receives `maxItems = 100000`: a value that was never
validated as `maxItems`, overrides the validated 10 resp. the applied default 50, and makes the
handler's input INVALID under the input schema. So `handler_sees_exactly_validated_members` is a
property of the exact-name decode the wrapper has, not of typed decoding as such. -/
theorem fold_decode_counterexample :
    valid cSchema (fill cSchema (.obj [("maxItems", .num (.ofInt 10)), ("maxitems", .num (.ofInt 100000)), ("query", .str "x")])) = true ∧
    seenEqv (call (refEnv lossy64) (cTool (projectFold cFold cTy)) wEcho cArgs)
      (.obj [("query", .str "x"), ("maxItems", .num (.ofInt 100000))]) = true ∧
    seenEqv (call (refEnv lossy64) (cTool (projectFold cFold cTy)) wEcho cArgsDflt)
      (.obj [("query", .str "x"), ("maxItems", .num (.ofInt 100000))]) = true ∧
    valid cSchema (.obj [("query", .str "x"), ("maxItems", .num (.ofInt 100000))]) = false := by decide +kernel

/-! ### registration witnesses -/

/-- inference gives every type the schema `{"type":"object"}`; everything resolves -/
def wReg : RegEnv String Schema :=
  { derive := fun _ => .mk { ty := [.object] } [] none none, resolves := fun _ => true,
    objectSchema := .mk { ty := [.object] } [] none none }

def wPlain : Decl String Schema :=
  { inKey := "args", inAny := false, inGiven := none, outKey := "result", outAny := false, outGiven := none }
/-- same Go types, its own stricter input schema, handed in as pointer 7 -/
def wStrict : Decl String Schema := { wPlain with inGiven := some ⟨some 7, wSchema⟩ }

/-- one cache shared by two servers: the inferred schemas enter the cache, then the strict tool -/
def wHistory : List (RegOp String Schema) :=
  [.server (some 1), .add "plain" wPlain, .server (some 1), .add "strict" wStrict, .add "strict2" wStrict]

/-- non-vacuity of `registered_tool_enforces_own_schemas`: the history is admissible, populates the
cache (both types, the pointer) and leaves two tools on the second server -/
example : (∀ op ∈ wHistory, RegOp.Ok (fun _ => wSchema) op) ∧
    (World.run wReg {} wHistory).tools.length = 2 ∧
    ((World.run wReg {} wHistory).cacheOf.byType.map (·.1)) = ["result", "args"] ∧
    ((World.run wReg {} wHistory).cacheOf.bySchema.map (·.1)) = [7] := by
  refine ⟨?_, by decide, by decide, by decide⟩
  intro op hop
  simp only [wHistory, List.mem_cons, List.not_mem_nil, or_false] at hop
  rcases hop with h | h | h | h | h <;> subst h <;>
    simp [RegOp.Ok, Decl.Ok, GivenOk, wStrict, wPlain]

/-- … and the strict tool refuses `{}` (its own schema requires `n`) although the cached schema of its
Go type accepts it -/
example : ((World.run wReg {} wHistory).tools.map fun x =>
      (call (refEnv lossy64) (x.2.2.tool (fun _ => true) none (project wTy)) wEcho (.val (.obj []))).seen.isSome) = [false, false] ∧
    valid (wReg.derive "args") (.obj []) = true := by decide +kernel

/-- the cache after a server registered the plain tool -/
def wCacheAfterPlain : Cache String Schema :=
  (World.run wReg {} [.server (some 1), .add "plain" wPlain]).cacheOf

/-- **why the order of the lookups in `setSchema` matters.** With the `byType` lookup hoisted above the
test for a declared schema (`setSchemaHoisted`), after the same first registration the strict tool
still publishes its own schema but enforces the cached one: the handler runs on `{}`, which is invalid
under the declared schema. So `registered_tool_enforces_own_schemas` is a property of the lookup order
the code has, not of caching as such. -/
theorem hoisted_type_lookup_counterexample :
    Coherent wReg (fun _ => wSchema) wCacheAfterPlain ∧
    ∃ r, (setSchemaHoisted wReg wCacheAfterPlain "args" wStrict.inGiven).1 = some r ∧
      valid r.published (.obj []) = false ∧ valid r.enforced (.obj []) = true ∧
      (call (refEnv lossy64) { wTool with inSchema := r.enforced } wEcho (.val (.obj []))).seen.isSome = true := by
  refine ⟨?_, ?_⟩
  · have hops : ∀ op ∈ [RegOp.server (some 1), RegOp.add "plain" wPlain], RegOp.Ok (fun _ => wSchema) op := by
      intro op hop
      rcases List.mem_cons.mp hop with h | hop
      · subst h; simp [RegOp.Ok]
      · rcases List.mem_cons.mp hop with h | hop
        · subst h; simp [RegOp.Ok, Decl.Ok, GivenOk, wPlain]
        · simp at hop
    exact World.cacheOf_coherent wReg _ _ (World.run_ok wReg (fun _ => wSchema) _ {} (World.ok_init _ _) hops)
  · exact ⟨⟨wSchema, wReg.derive "args"⟩, rfl, by decide, by decide, by decide⟩

end Witness

/-! ## every protocol version

The protocol version enters only in the dispatcher (`deliver`, Model.lean; `serve since v` = wrapper, then
dispatcher). The theorems below are C16's clauses about what THE PEER is answered
(`(serve since v E t h a).out`), for EVERY version string `v` (and every threshold `since`): there is no
exception. What the SDK documents for peers older than SEP-2106 (non-object structured content) is not a
different result but an ADDITIONAL text block (`text_fallback_iff_no_content`, second half: the serialised
structured content is appended to the handler's own content whenever it is not an object), "so that
pre-SEP-2106 clients can recover the structured payload from unstructured content" (server.go, comment in
`toolForErr`) — at every version, too. The one thing that does depend on the version is the `resultType`
mark (`result_type_complete_iff`), which C16 does not speak about. -/

theorem deliver_out (m : Bool) (o : Outcome) : (deliver m o).out = o := by
  unfold deliver
  split <;> rfl

/-- **at every protocol version the peer is answered with the wrapper's own outcome** -/
theorem served_is_wrapper_outcome (since v : String) (E : Env S) (t : Tool S) (h : JVal → HRet) (a : Args) :
    (serve since v E t h a).out = call E t h a := deliver_out _ _

/-- … so two peers at different versions making the same call are answered alike -/
theorem served_version_independent (since v v' : String) (E : Env S) (t : Tool S) (h : JVal → HRet) (a : Args) :
    (serve since v E t h a).out = (serve since v' E t h a).out := by
  rw [served_is_wrapper_outcome, served_is_wrapper_outcome]

theorem structured_equals_output_json_with_defaults_at_every_version (since v : String)
    (E : Env S) (t : Tool S) (h : JVal → HRet) (a : Args) (x j : JVal) (s : S)
    (hs : (serve since v E t h a).out.seen = some x) (he : (h x).err = none)
    (hout : outJson t (h x).out = some j) (hsch : t.outSchema = some s)
    (hok : (serve since v E t h a).out.kind = .ok) :
    (serve since v E t h a).out.structured = some (if (outForm E t s j).2 then (outForm E t s j).1 else j) := by
  rw [served_is_wrapper_outcome] at hs hok ⊢
  exact structured_equals_output_json_with_defaults E t h a x j s hs he hout hsch hok

theorem success_has_structured_at_every_version (since v : String)
    (E : Env S) (t : Tool S) (h : JVal → HRet) (a : Args) (x : JVal)
    (hs : (serve since v E t h a).out.seen = some x) (he : (h x).err = none)
    (hok : (serve since v E t h a).out.kind = .ok) (hsch : t.outSchema.isSome = true) :
    (serve since v E t h a).out.structured.isSome = true := by
  rw [served_is_wrapper_outcome] at hs hok ⊢
  exact success_has_structured E t h a x hs he hok hsch

theorem structured_valid_at_every_version (since v : String)
    (E : Env S) (t : Tool S) (h : JVal → HRet) (a : Args) (x sc : JVal) (s : S)
    (hs : (serve since v E t h a).out.seen = some x) (he : (h x).err = none)
    (hsch : t.outSchema = some s) (hok : (serve since v E t h a).out.kind = .ok)
    (hsc : (serve since v E t h a).out.structured = some sc) :
    E.valid s sc = true ∨ (E.valid s (E.remarshal sc) = true ∧ (outForm E t s sc).2 = false) := by
  rw [served_is_wrapper_outcome] at hs hok hsc
  exact structured_valid E t h a x sc s hs he hsch hok hsc

theorem text_fallback_at_every_version (since v : String)
    (E : Env S) (t : Tool S) (h : JVal → HRet) (a : Args) (x sc : JVal)
    (hs : (serve since v E t h a).out.seen = some x) (he : (h x).err = none)
    (hsc : (serve since v E t h a).out.structured = some sc) :
    ((h x).content = none → (serve since v E t h a).out.content = [.jsonOf sc]) ∧
    (∀ c, (h x).content = some c →
      (serve since v E t h a).out.content = if sc.isObj then c else c ++ [.jsonOf sc]) := by
  rw [served_is_wrapper_outcome] at hs hsc ⊢
  exact text_fallback_iff_no_content E t h a x sc hs he hsc

/-- In particular `arguments` that are no object at all (an array, a string, a number, a boolean: `argsMap` gives
nothing to validate): never a protocol error (seeded change C16-m12). -/
theorem invalid_gives_tool_error_at_every_version (since v : String)
    (E : Env S) (t : Tool S) (h : JVal → HRet) (a : Args)
    (hinv : ∀ d, defaulted E t.inSchema a = some d → E.valid t.inSchema d = false) :
    (serve since v E t h a).out.seen = none ∧ (serve since v E t h a).out.kind = .toolError ∧
      (serve since v E t h a).out.content ≠ [] ∧ (serve since v E t h a).out.structured = none := by
  rw [served_is_wrapper_outcome]
  exact invalid_gives_tool_error_without_invocation E t h a hinv

/-- `arguments` of a JSON kind other than object and null decode to nothing: the hypothesis of
`invalid_gives_tool_error_at_every_version` holds for them under every schema -/
theorem nonobject_arguments_are_invalid (E : Env S) (s : S) (v : JVal)
    (hv : ∀ fs, v ≠ .obj fs) (hn : v ≠ .null) : defaulted E s (.val v) = none := by
  cases v with
  | null => exact absurd rfl hn
  | obj fs => exact absurd rfl (hv fs)
  | _ => rfl

/-- **what does depend on the version**: a result (success or tool error) is marked `resultType: complete`
exactly for a peer at `since` or later; a protocol error carries no result. -/
theorem result_type_complete_iff (since v : String) (E : Env S) (t : Tool S) (h : JVal → HRet) (a : Args) :
    (serve since v E t h a).resultType = some .complete ↔
      ¬ v < since ∧ (call E t h a).kind ≠ .rpcError := by
  unfold serve deliver supportsMultiRoundTrip
  cases hk : (call E t h a).kind <;> by_cases hv : v < since <;> simp [hv]

/-- … and nothing else is ever set by a typed tool's call -/
theorem result_type_none_or_complete (since v : String) (E : Env S) (t : Tool S) (h : JVal → HRet) (a : Args) :
    (serve since v E t h a).resultType = none ∨ (serve since v E t h a).resultType = some .complete := by
  unfold serve deliver
  split
  · exact .inl rfl
  · split
    · exact .inr rfl
    · exact .inl rfl

section VersionWitness

/-- `{"type":"integer"}` as the output schema of `func(…, In) (…, int64, error)` -/
def nSchema : Schema := .mk { ty := [.integer] } [] none none
def nTool : Tool Schema := { wTool with outSchema := some nSchema, outRootObject := false }
def nRet : JVal → HRet := fun _ => { out := .json (.num (.ofInt 42)) }

/-- the dispatcher of seeded change C16-m11: non-object structured content is dropped for a peer older
than SEP-2106 -/
def deliverStripping (sep2106 : Bool) (o : Outcome) : Outcome :=
  match o.structured with
  | some sc => if !sc.isObj && !sep2106 then { o with structured := none } else o
  | none => o

/-- non-vacuity of the `…_at_every_version` theorems: a typed tool with a NUMBER output, called by a peer
at any version whatever, is answered with structured content 42 and the text block holding it -/
theorem number_output_is_structured_at_every_version (v : String) :
    structEqv (serveAt v (refEnv lossy64) nTool nRet (wArgs 7)).out (.num (.ofInt 42)) = true ∧
    (serveAt v (refEnv lossy64) nTool nRet (wArgs 7)).out.kind = .ok ∧
    (serveAt v (refEnv lossy64) nTool nRet (wArgs 7)).out.content.length = 1 := by
  unfold serveAt
  rw [served_is_wrapper_outcome]
  decide

/-- **why the dispatcher matters (the shape of seeded change C16-m11)**: with a dispatcher that strips
non-object structured content for older peers, the same successful call under a declared output schema
is answered WITHOUT structured content — `success_has_structured` is false of what the peer receives,
although the wrapper produced it; an object output is not affected. -/
theorem legacy_stripping_counterexample :
    (call (refEnv lossy64) nTool nRet (wArgs 7)).structured.isSome = true ∧
    (deliverStripping false (call (refEnv lossy64) nTool nRet (wArgs 7))).kind = .ok ∧
    (deliverStripping false (call (refEnv lossy64) nTool nRet (wArgs 7))).structured.isNone = true ∧
    (deliverStripping true (call (refEnv lossy64) nTool nRet (wArgs 7))).structured.isSome = true ∧
    (deliverStripping false (call (refEnv lossy64) wTool wEcho (wArgs 7))).structured.isSome = true := by decide +kernel

/-- the two sides of `result_type_complete_iff` on the regenerated threshold: a peer at the SDK's latest
version sees `complete`, a peer at the oldest supported version does not, a protocol error never -/
example : (serveAt Generated.TypedTool.latestProtocolVersion (refEnv lossy64) nTool nRet (wArgs 7)).resultType = some .complete := by decide +kernel
example : (serveAt "2024-11-05" (refEnv lossy64) nTool nRet (wArgs 7)).resultType = none := by decide +kernel
example : "2024-11-05" ∈ Generated.TypedTool.supportedProtocolVersions := by decide +kernel
example : (serveAt Generated.TypedTool.latestProtocolVersion (refEnv lossy64) nTool (fun _ => { err := some .rpc }) (wArgs 7)).resultType = none := by decide +kernel
/-- `arguments` that are an array: a tool-level error result, the handler did not run -/
example : (serveAt "2025-06-18" (refEnv lossy64) nTool nRet (.val (.arr [.num (.ofInt 1)]))).out.kind = .toolError ∧
    (serveAt "2025-06-18" (refEnv lossy64) nTool nRet (.val (.arr [.num (.ofInt 1)]))).out.seen.isNone = true := by decide +kernel

end VersionWitness

end TypedTool
