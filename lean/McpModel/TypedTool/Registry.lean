import McpModel.TypedTool.Model
/-!
E12 TypedTool (C16) — REGISTRATION: which schema a typed tool ends up *enforcing*.

`toolForErr` (mcp/server.go) fixes, per tool and per side (input / output), two things:
  * the schema the tool *publishes* (`Tool.InputSchema` / `Tool.OutputSchema`, what tools/list shows);
  * the resolved schema the wrapper *enforces* (`inputResolved` / `outputResolved`: defaults + validation).
Both come out of `setSchema` (mcp/server.go), which consults the optional, shared `SchemaCache`
(mcp/schema_cache.go): `byType` (Go type, pointers stripped ↦ schema inferred from the type) and
`bySchema` (identity of a `*jsonschema.Schema` ↦ its resolution). A cache outlives servers (the
documented use is one `Server` per request, all sharing one cache), so what a tool enforces depends on
the HISTORY of registrations made through that cache. This file transliterates `setSchema`, the two
calls in `toolForErr`, and histories of `NewServer`/`AddTool` over any number of caches.

One label = one branch of `setSchema`:
  no schema given   : `byType` hit  ↦ published = enforced = cached          (no reflection, no resolve)
                      `byType` miss ↦ infer, resolve, store under the type
  `*Schema` given   : `bySchema` hit  ↦ published = given, enforced = cached resolution
                      `bySchema` miss ↦ resolve, store under the pointer
  other form given  : re-marshal to a fresh `*Schema`, resolve, nothing stored
`Resolve(ValidateDefaults)` may fail (`resolves`); then `AddTool` panics and nothing is stored by that
call of `setSchema` (what an earlier call of the same `AddTool` stored stays).  Core Lean only: linked into the driver.
-/
namespace TypedTool

/-- One side of what `AddTool` is handed: the schema's content and, when it is a `*jsonschema.Schema`
the caller may hand in again, the identity of that pointer. -/
structure Given (S : Type) where
  ptr : Option Nat
  content : S

/-- `SchemaCache`: association lists, newest binding first. -/
structure Cache (K S : Type) where
  byType : List (K × S) := []
  bySchema : List (Nat × S) := []

structure RegEnv (K S : Type) where
  /-- `jsonschema.ForType(rt)` for the Go type named `k` (pointers stripped) -/
  derive : K → S
  /-- `schema.Resolve(ValidateDefaults: true)` succeeds -/
  resolves : S → Bool
  /-- `&jsonschema.Schema{Type: "object"}`: the input schema of a tool whose `In` is `any` -/
  objectSchema : S

/-- The two results of `setSchema`: `*sfield` and `*rfield`. -/
structure Resolution (S : Type) where
  published : S
  enforced : S

variable {K S : Type} [DecidableEq K]

def assoc {A B : Type} [DecidableEq A] (a : A) : List (A × B) → Option B
  | [] => none
  | (x, b) :: t => if x = a then some b else assoc a t

/-- `setSchema` (mcp/server.go). `none` = error (the registration fails). -/
def setSchema (R : RegEnv K S) (c : Cache K S) (k : K) : Option (Given S) → Option (Resolution S) × Cache K S
  | none =>
    match assoc k c.byType with
    | some s => (some ⟨s, s⟩, c)
    | none =>
      let s := R.derive k
      if R.resolves s then (some ⟨s, s⟩, { c with byType := (k, s) :: c.byType }) else (none, c)
  | some g =>
    match g.ptr with
    | some p =>
      match assoc p c.bySchema with
      | some r => (some ⟨g.content, r⟩, c)
      | none =>
        if R.resolves g.content then (some ⟨g.content, g.content⟩, { c with bySchema := (p, g.content) :: c.bySchema })
        else (none, c)
    | none => if R.resolves g.content then (some ⟨g.content, g.content⟩, c) else (none, c)

/-- The schema-relevant part of `AddTool[In, Out](s, &Tool{InputSchema, OutputSchema}, h)`. -/
structure Decl (K S : Type) where
  inKey : K
  /-- `In` is `any` -/
  inAny : Bool
  inGiven : Option (Given S)
  outKey : K
  /-- `Out` is `any` -/
  outAny : Bool
  outGiven : Option (Given S)

/-- What the server holds for a registered tool. -/
structure Entry (S : Type) where
  pubIn : S
  enfIn : S
  pubOut : Option S
  enfOut : Option S

/-- `toolForErr`, the part before the handler closure: `In = any` without a schema is given a fresh
`{"type":"object"}`; the output side is skipped when `Out = any` and no schema is given. -/
def register (R : RegEnv K S) (c : Cache K S) (d : Decl K S) : Option (Entry S) × Cache K S :=
  let gi := if d.inAny && d.inGiven.isNone then some ⟨none, R.objectSchema⟩ else d.inGiven
  match setSchema R c d.inKey gi with
  | (none, c1) => (none, c1)
  | (some ri, c1) =>
    if d.outGiven.isSome || !d.outAny then
      match setSchema R c1 d.outKey d.outGiven with
      | (none, c2) => (none, c2)
      | (some ro, c2) => (some ⟨ri.published, ri.enforced, some ro.published, some ro.enforced⟩, c2)
    else (some ⟨ri.published, ri.enforced, none, none⟩, c1)

/-- The tool's OWN input schema: the one it declares, else the one inferred from `In`. -/
def Decl.ownIn (R : RegEnv K S) (d : Decl K S) : S :=
  match d.inGiven with
  | some g => g.content
  | none => if d.inAny then R.objectSchema else R.derive d.inKey

/-- The tool's OWN output schema: the one it declares, else the one inferred from `Out`; none for
`Out = any` without a declared schema. -/
def Decl.ownOut (R : RegEnv K S) (d : Decl K S) : Option S :=
  match d.outGiven with
  | some g => some g.content
  | none => if d.outAny then none else some (R.derive d.outKey)

/-! ### histories -/

/-- A step of a program using the SDK: make a server on cache `cache` (`none`: no cache), or add a
typed tool to the current server (replacing a tool of the same name). -/
inductive RegOp (K S : Type) where
  | server (cache : Option Nat)
  | add (name : String) (d : Decl K S)

structure World (K S : Type) where
  caches : List (Nat × Cache K S) := []
  /-- the cache of the current server -/
  cur : Option Nat := none
  /-- the current server's tools, newest first -/
  tools : List (String × Decl K S × Entry S) := []

def World.cacheOf (w : World K S) : Cache K S :=
  match w.cur with
  | none => {}
  | some i => (assoc i w.caches).getD {}

/-- Store the cache back (a server without a cache stores nothing). -/
def World.putCache (w : World K S) (c : Cache K S) : List (Nat × Cache K S) :=
  match w.cur with
  | none => w.caches
  | some i => (i, c) :: w.caches

def World.step (R : RegEnv K S) (w : World K S) : RegOp K S → World K S
  | .server cache => { w with cur := cache, tools := [] }
  | .add name d =>
    match register R w.cacheOf d with
    | (none, c) => { w with caches := w.putCache c }
    | (some e, c) => { w with caches := w.putCache c, tools := (name, d, e) :: w.tools.filter (·.1 ≠ name) }

def World.run (R : RegEnv K S) (w : World K S) (ops : List (RegOp K S)) : World K S :=
  ops.foldl (World.step R) w

/-- The wrapper's view of a registered tool. -/
def Entry.tool (e : Entry S) (outRootObject : S → Bool) (elemZero : Option JVal) (decodeIn : JVal → Option JVal) : Tool S :=
  { inSchema := e.enfIn, outSchema := e.enfOut
    outRootObject := match e.enfOut with | some s => outRootObject s | none => false
    elemZero := elemZero, decodeIn := decodeIn }

/-- The tool as its declaration describes it. -/
def Decl.tool (R : RegEnv K S) (d : Decl K S) (outRootObject : S → Bool) (elemZero : Option JVal)
    (decodeIn : JVal → Option JVal) : Tool S :=
  { inSchema := d.ownIn R, outSchema := d.ownOut R
    outRootObject := match d.ownOut R with | some s => outRootObject s | none => false
    elemZero := elemZero, decodeIn := decodeIn }

/-! ### a variant that is NOT what the code does (for the counter-example in Props) -/

/-- `setSchema` with the `byType` lookup hoisted above the test for a given schema ("a hit saves both
reflection and resolution"): on a hit the tool keeps publishing its own schema but enforces the cached
one. -/
def setSchemaHoisted (R : RegEnv K S) (c : Cache K S) (k : K) (g : Option (Given S)) : Option (Resolution S) × Cache K S :=
  match assoc k c.byType with
  | some s => (some ⟨(g.map (·.content)).getD s, s⟩, c)
  | none => setSchema R c k g

end TypedTool
