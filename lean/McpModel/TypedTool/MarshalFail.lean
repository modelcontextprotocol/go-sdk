import McpModel.TypedTool.Monitor
/-!
# E12 TypedTool (C16) — a typed output that cannot be marshalled

`toolForErr`: `outbytes, err := json.Marshal(outval); if err != nil { return nil, fmt.Errorf("marshaling output: %w", err) }`
— an `Out` type whose `MarshalJSON` fails. The handler has run (on validated, defaulted arguments, like in every
other call); the call is answered by a protocol error, never by a result (`callMF`,
`marshal_failure_is_error_not_result`, `callMF_seen`). An `Out` type whose `MarshalJSON` yields JSON of another
kind than its Go type suggests (an array, a string, null for a struct) needs nothing new: the wrapper validates
the JSON, not the value (`OutVal.json j` is whatever `json.Marshal` renders; the harness reports it as `hout=`),
so `structured_valid`, `invalid_output_is_error_not_result` apply as they are. Core Lean only: linked into the driver.
-/
namespace TypedTool

variable {S : Type}

/-- the wrapper for a call whose output `json.Marshal` refuses -/
def callMF (E : Env S) (t : Tool S) (h : JVal → HRet) (a : Args) : Outcome :=
  let o := call E t h a
  match o.seen with
  | none => o
  | some v =>
    match (h v).err with
    | some _ => o
    | none => { seen := some v, kind := .rpcError, structured := none, content := [] }

theorem callMF_seen (E : Env S) (t : Tool S) (h : JVal → HRet) (a : Args) : (callMF E t h a).seen = (call E t h a).seen := by
  unfold callMF
  cases hs : (call E t h a).seen with
  | none => simp [hs]
  | some v => cases he : (h v).err <;> simp [hs, he]

theorem marshal_failure_is_error_not_result (E : Env S) (t : Tool S) (h : JVal → HRet) (a : Args) (v : JVal)
    (hs : (call E t h a).seen = some v) (he : (h v).err = none) :
    (callMF E t h a).kind = .rpcError ∧ (callMF E t h a).structured = none ∧ (callMF E t h a).content = [] := by
  unfold callMF
  simp [hs, he]

/-- the check behind `sound_marshalFail` (true = violated): the handler ran without an error, its output cannot be marshalled, and the call
was not answered by a protocol error -/
def judgeMF (herr : Bool) (o : Obs) : Bool := !herr && o.inv == some true && o.res != .rpcerr

/-- on the observation: a handler that ran without an error and whose output cannot be marshalled is answered by a
protocol error -/
def P_marshalFail (herr : Bool) (o : Obs) : Prop := herr = false → o.inv = some true → o.res = .rpcerr

theorem sound_marshalFail (herr : Bool) (o : Obs) (h : judgeMF herr o = true) : ¬ P_marshalFail herr o := by
  intro hp
  simp only [judgeMF, Bool.and_eq_true, Bool.not_eq_true', beq_iff_eq, bne_iff_ne, ne_eq] at h
  exact h.2 (hp h.1.1 h.1.2)

/-- no false alarm on the model's own answer -/
theorem monitor_accepts_modelMF (E : Env S) (t : Tool S) (h : JVal → HRet) (a : Args) (herr : Bool)
    (hh : ∀ v, ((h v).err.isSome) = herr) : judgeMF herr (obsOf (callMF E t h a)) = false := by
  cases herr with
  | true => rfl
  | false =>
    simp only [judgeMF, obsOf, callMF_seen, Bool.not_false, Bool.true_and, Bool.and_eq_false_iff, beq_eq_false_iff_ne,
      bne_eq_false_iff_eq]
    cases hs : (call E t h a).seen with
    | none => simp
    | some v =>
      have he : (h v).err = none := by simpa using hh v
      exact .inr (by rw [(marshal_failure_is_error_not_result E t h a v hs he).1]; rfl)

end TypedTool
