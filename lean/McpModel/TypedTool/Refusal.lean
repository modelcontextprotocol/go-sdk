import McpModel.TypedTool.Monitor
import McpModel.TypedTool.RegistryLemmas
/-!
# E12 TypedTool (C16) — registrations that are REFUSED, and what a refused registration leaves behind

`AddTool[In, Out](s, t, h)` (mcp/server.go) is `toolForErr(t, h, s.opts.SchemaCache)` — the schemas are derived or
resolved, the SchemaCache is read and written: `register` in `Registry.lean` — followed by `s.AddTool(tt, hh)`,
which panics unless the tool's input schema has root type "object" (`Server.AddTool`: a `*jsonschema.Schema`
with `Type != "object"`, or a raw schema whose `type` member is not the string "object"). A registration is
therefore refused (a panic of `AddTool`) in exactly two ways:

* `register` fails (a schema does not resolve: e.g. a default that is invalid for its own subschema) — the
  cache keeps what the input side stored before the output side failed;
* `register` succeeds and the published input schema is not object-rooted — `toolForErr` has ALREADY run, the
  SchemaCache keeps what it stored, the tool table is not touched.

`registerChecked` / `World.stepChecked` is that layering.
Core Lean only: linked into the driver.
-/
namespace TypedTool

variable {K S : Type} [DecidableEq K]

def registerChecked (R : RegEnv K S) (rootObj : S → Bool) (c : Cache K S) (d : Decl K S) : Option (Entry S) × Cache K S :=
  match register R c d with
  | (some e, c') => if rootObj e.pubIn then (some e, c') else (none, c')
  | (none, c') => (none, c')

def World.stepChecked (R : RegEnv K S) (rootObj : S → Bool) (w : World K S) : RegOp K S → World K S
  | .server cache => { w with cur := cache, tools := [] }
  | .add name d =>
    match registerChecked R rootObj w.cacheOf d with
    | (none, c) => { w with caches := w.putCache c }
    | (some e, c) => { w with caches := w.putCache c, tools := (name, d, e) :: w.tools.filter (·.1 ≠ name) }

theorem registerChecked_filter (R : RegEnv K S) (rootObj : S → Bool) (c : Cache K S) (d : Decl K S) :
    registerChecked R rootObj c d = ((register R c d).1.filter (fun e => rootObj e.pubIn), (register R c d).2) := by
  unfold registerChecked
  rcases register R c d with ⟨_ | e, c'⟩
  · rfl
  · cases h : rootObj e.pubIn <;> simp [Option.filter, h]

theorem refused_iff (R : RegEnv K S) (rootObj : S → Bool) (c : Cache K S) (d : Decl K S) :
    (registerChecked R rootObj c d).1 = none ↔
      (register R c d).1 = none ∨ ∃ e, (register R c d).1 = some e ∧ rootObj e.pubIn = false := by
  rw [registerChecked_filter]
  cases (register R c d).1 <;> simp [Option.filter]

/-- An accepted registration holds the entry `toolForErr` built, object-rooted. -/
theorem accepted_entry (R : RegEnv K S) (rootObj : S → Bool) (c : Cache K S) (d : Decl K S) (e : Entry S)
    (h : (registerChecked R rootObj c d).1 = some e) : (register R c d).1 = some e ∧ rootObj e.pubIn = true := by
  rw [registerChecked_filter] at h
  exact Option.filter_eq_some_iff.1 h

/-- the SchemaCache after a checked registration is the one `toolForErr` left — also when `Server.AddTool`
refused the tool afterwards -/
theorem registerChecked_cache (R : RegEnv K S) (rootObj : S → Bool) (c : Cache K S) (d : Decl K S) :
    (registerChecked R rootObj c d).2 = (register R c d).2 := by
  rw [registerChecked_filter]

/-- A refused registration — under a new name or under the name of a
registered tool — leaves the tool table of the server exactly as it was. -/
theorem refused_registration_keeps_tools (R : RegEnv K S) (rootObj : S → Bool) (w : World K S) (name : String)
    (d : Decl K S) (h : (registerChecked R rootObj w.cacheOf d).1 = none) :
    (w.stepChecked R rootObj (.add name d)).tools = w.tools ∧ (w.stepChecked R rootObj (.add name d)).cur = w.cur := by
  cases hr : registerChecked R rootObj w.cacheOf d with
  | mk o c =>
    cases o with
    | none => simp [World.stepChecked, hr]
    | some e => simp [hr] at h

/-- … in particular the tool a later call of ANY name addresses is the
one it addressed before: the previous tool of a re-used name stays intact. -/
theorem refused_registration_keeps_callee (R : RegEnv K S) (rootObj : S → Bool) (w : World K S) (name other : String)
    (d : Decl K S) (h : (registerChecked R rootObj w.cacheOf d).1 = none) :
    (w.stepChecked R rootObj (.add name d)).tools.find? (·.1 == other) = w.tools.find? (·.1 == other) := by
  rw [(refused_registration_keeps_tools R rootObj w name d h).1]

theorem stepChecked_accepted (R : RegEnv K S) (rootObj : S → Bool) (w : World K S) (name : String) (d : Decl K S)
    (e : Entry S) (h : (registerChecked R rootObj w.cacheOf d).1 = some e) :
    w.stepChecked R rootObj (.add name d) = w.step R (.add name d) := by
  obtain ⟨h1, h2⟩ := accepted_entry R rootObj w.cacheOf d e h
  simp only [World.stepChecked, World.step, registerChecked_filter, h1, Option.filter, h2, if_true]
  generalize register R w.cacheOf d = r at h1
  obtain ⟨o, c⟩ := r
  cases h1; rfl

/-- `World.Ok` is kept by checked steps — accepted or refused. -/
theorem stepChecked_ok (R : RegEnv K S) (heap : Nat → S) (rootObj : S → Bool) (w : World K S) (op : RegOp K S)
    (hw : World.Ok R heap w) (hop : RegOp.Ok heap op) : World.Ok R heap (w.stepChecked R rootObj op) := by
  have hstep := World.step_ok R heap w op hw hop
  cases op with
  | server cache => exact hstep
  | add name d =>
    cases hr : (registerChecked R rootObj w.cacheOf d).1 with
    | some e => rw [stepChecked_accepted R rootObj w name d e hr]; exact hstep
    | none =>
      have hk := refused_registration_keeps_tools R rootObj w name d hr
      have hc := registerChecked_cache R rootObj w.cacheOf d
      constructor
      · -- the caches are those of the unchecked step
        have : (w.stepChecked R rootObj (.add name d)).caches = (w.step R (.add name d)).caches := by
          have hr1 : registerChecked R rootObj w.cacheOf d = (none, (register R w.cacheOf d).2) :=
            Prod.ext hr hc
          simp only [World.stepChecked, World.step, hr1]
          cases h2 : register R w.cacheOf d with
          | mk o' c' => cases o' <;> rfl
        rw [this]; exact hstep.1
      · rw [hk.1]; exact hw.2

/-- `toolForErr` succeeds and `Server.AddTool` refuses: the published input schema is not object-rooted -/
def refusedByAddTool (d : MState) (t : ToolEv) : Bool :=
  match (register t.env d.world.cacheOf t.decl).1 with
  | some e => !rootObject e.pubIn
  | none => false

/-- the state after such a registration: the caches as `toolForErr` left them, tools and bookings untouched -/
def MState.regRefused (d : MState) (t : ToolEv) : MState :=
  { d with world := d.world.stepChecked t.env rootObject (.add t.name t.decl) }

/-- After a registration that `Server.AddTool` refuses, every call is judged by
the tool it was judged by before (`MState.callee` unchanged for every name, also the re-used one). -/
theorem regRefused_keeps_callee (d : MState) (t : ToolEv) (h : refusedByAddTool d t = true) (name : Option String) :
    (d.regRefused t).callee name = d.callee name := by
  have hnone : (registerChecked t.env rootObject d.world.cacheOf t.decl).1 = none := by
    rw [refused_iff]
    unfold refusedByAddTool at h
    cases hr : (register t.env d.world.cacheOf t.decl).1 with
    | none => exact Or.inl rfl
    | some e =>
      simp only [hr, Bool.not_eq_true'] at h
      exact Or.inr ⟨e, rfl, h⟩
  have hk := refused_registration_keeps_tools t.env rootObject d.world t.name t.decl hnone
  have htd : (d.regRefused t).toolD = d.toolD := by
    funext n
    simp only [MState.toolD, MState.regRefused, hk.1]
  simp only [MState.callee, htd]
  rfl

end TypedTool
