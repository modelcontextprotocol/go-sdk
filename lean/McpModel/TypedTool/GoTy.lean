import McpModel.TypedTool.Model
/-!
E12 TypedTool (C16) — the Go side of a typed tool, as far as the property can observe it:

* `f64Shortest`, `lossy53`, `lossy64`: what `JSON text → any → JSON text` does to numbers.
  `lossy53`: every number becomes a float64 (the unrepaired `applySchema`, F9).
  `lossy64`: plain integer literals in [-2^63, 2^64) stay exact (decoded as int64/uint64), other
  numbers become float64 (`applySchema` with fixes/F09) — the name notwithstanding, the EXACT decode on that range.
  A float64 is printed by Go with the shortest digit string that reads back to the same float64.
* `GoTy`, `project`: the round trip `JSON → value of a Go type → JSON` (decoding binds members by their exact
  names: `internaljson.Unmarshal`, see "struct members" below) for the type
  family compiled into the harness (int64, uint64, float64, string, bool, any, pointers, slices,
  string-keyed maps, structs with `omitempty`): this is "the JVal the handler observes, re-encoded from
  its typed input". Integers are exact in int64 fields ([-2^63, 2^63)) and in uint64 fields ([0, 2^64));
  `any`/float64 fields hold float64s by the type's choice.
* `lossy63`: the decode that keeps only int64 exact (integers in [2^63, 2^64) become float64) — NOT what
  the wrapper does; only used for the counter-example `signed_only_decode_counterexample` (why the
  unsigned half of the exact range is part of C16).

Core Lean only: linked into the driver.
-/
namespace TypedTool

/-! ### float64 and its shortest decimal rendering, on natural numbers -/

/-- the float64 nearest to the natural number `a` (ties to even); exact, as a natural number. -/
def roundF64 (a : Nat) : Nat :=
  let bits := if a = 0 then 0 else Nat.log2 a + 1
  if bits ≤ 53 then a else
    let sh := bits - 53
    let q := a >>> sh
    let r := a % 2 ^ sh
    let half := 2 ^ (sh - 1)
    let q' := if r > half || (r == half && q % 2 == 1) then q + 1 else q
    q' <<< sh

def numDigits (a : Nat) : Nat := (Nat.toDigits 10 a).length

/-- candidates with `d` significant digits around `f`: floor and ceiling at that precision. -/
def shortestAt (f : Nat) (d : Nat) : Option Nat :=
  let L := numDigits f
  if d ≥ L then some f else
    let p := 10 ^ (L - d)
    let lo := (f / p) * p
    let hi := lo + p
    let okLo := roundF64 lo == f
    let okHi := roundF64 hi == f
    if okLo && okHi then
      -- both read back: take the closer one (ties: the even digit)
      if f - lo < hi - f then some lo else if hi - f < f - lo then some hi
      else if (lo / p) % 2 == 0 then some lo else some hi
    else if okLo then some lo else if okHi then some hi else none

/-- the integer Go prints for the float64 nearest to `a` (shortest digits that read back). -/
def f64Shortest (a : Nat) : Nat :=
  let f := roundF64 a
  match (List.range 18).findSome? (fun d => if d = 0 then none else shortestAt f d) with
  | some x => x
  | none => f

def two53 : Int := 9007199254740992
def two63 : Int := 9223372036854775808
def two64 : Int := 18446744073709551616

/-- number → float64 → shortest digits. Whole numbers only need care; the harness sends fractional
numbers with at most 15 significant digits, which a float64 round trip preserves. -/
def f64Dec (d : Dec) : Dec :=
  if d.isInt then
    let n := d.toInt
    if n.natAbs ≤ two53.natAbs then .ofInt n
    else if n < 0 then .ofInt (-(f64Shortest n.natAbs : Int)) else .ofInt (f64Shortest n.natAbs)
  else d

/-- int64/uint64 for plain integers in range, float64 otherwise (fixes/F09). -/
def i64Dec (d : Dec) : Dec :=
  if d.isInt then
    let n := d.toInt
    if -two63 ≤ n ∧ n < two64 then .ofInt n else f64Dec d
  else d

mutual
def mapNum (f : Dec → Dec) : JVal → JVal
  | .num d => .num (f d)
  | .arr xs => .arr (mapNumList f xs)
  | .obj fs => .obj (mapNumFields f fs)
  | v => v
def mapNumList (f : Dec → Dec) : List JVal → List JVal
  | [] => []
  | x :: t => mapNum f x :: mapNumList f t
def mapNumFields (f : Dec → Dec) : Fields → Fields
  | [] => []
  | (k, v) :: t => (k, mapNum f v) :: mapNumFields f t
end

/-- int64 for plain integers in [-2^63, 2^63), float64 otherwise: a decode with `UseInt64` but without
`UseUint64`. -/
def i63Dec (d : Dec) : Dec :=
  if d.isInt then
    let n := d.toInt
    if -two63 ≤ n ∧ n < two63 then .ofInt n else f64Dec d
  else d

/-- unrepaired `applySchema`: every number goes through float64 (F9) -/
def lossy53 : JVal → JVal := mapNum f64Dec
/-- `applySchema` with fixes/F09: integers in [-2^63, 2^64) are exact -/
def lossy64 : JVal → JVal := mapNum i64Dec
/-- a decode that keeps int64 exact but sends [2^63, 2^64) through float64 (counter-example only) -/
def lossy63 : JVal → JVal := mapNum i63Dec

/-! ### the Go type family -/

inductive GoTy where
  | int64 | uint64 | float64 | string | bool | any
  | ptr (t : GoTy)
  | slice (t : GoTy)
  | map (t : GoTy)                                   -- map[string]T
  | struct (fields : List (String × Bool × GoTy))    -- (json name, omitempty, type), declaration order
deriving Inhabited

/-- is the encoded value "empty" for `omitempty` at this type? -/
def isEmptyGo : GoTy → JVal → Bool
  | .int64, .num d => d.m == 0
  | .uint64, .num d => d.m == 0
  | .float64, .num d => d.m == 0
  | .string, .str s => s.isEmpty
  | .bool, .bool b => !b
  | .any, .null => true
  | .ptr _, .null => true
  | .slice _, .null => true
  | .slice _, .arr [] => true
  | .map _, .null => true
  | .map _, .obj [] => true
  | _, _ => false

mutual
/-- JSON of the zero value -/
def zeroJ : GoTy → JVal
  | .int64 => .num (.ofInt 0)
  | .uint64 => .num (.ofInt 0)
  | .float64 => .num (.ofInt 0)
  | .string => .str ""
  | .bool => .bool false
  | .any => .null
  | .ptr _ => .null
  | .slice _ => .null
  | .map _ => .null
  | .struct fs => .obj (zeroFields fs)
def zeroFields : List (String × Bool × GoTy) → Fields
  | [] => []
  | (n, oe, t) :: rest =>
    let z := zeroJ t
    if oe && isEmptyGo t z then zeroFields rest else (n, z) :: zeroFields rest
end

def inInt64 (d : Dec) : Bool := d.isInt && decide (-two63 ≤ d.toInt) && decide (d.toInt < two63)
def inUint64 (d : Dec) : Bool := d.isInt && decide (0 ≤ d.toInt) && decide (d.toInt < two64)

/-- all-or-nothing over a list of optional results -/
def optAll {α : Type} : List (Option α) → Option (List α)
  | [] => some []
  | none :: _ => none
  | some x :: t => match optAll t with | some ys => some (x :: ys) | none => none

def optField : String × Option JVal → Option (String × JVal)
  | (k, some v) => some (k, v)
  | (_, none) => none

mutual
/-- decode `j` into a value of type `t` and encode it again; `none` = the decoder reports an error -/
def project : GoTy → JVal → Option JVal
  | .int64, .num d => if inInt64 d then some (.num (.ofInt d.toInt)) else none
  | .int64, .null => some (.num (.ofInt 0))
  | .int64, _ => none
  | .uint64, .num d => if inUint64 d then some (.num (.ofInt d.toInt)) else none
  | .uint64, .null => some (.num (.ofInt 0))
  | .uint64, _ => none
  | .float64, .num d => some (.num (f64Dec d))
  | .float64, .null => some (.num (.ofInt 0))
  | .float64, _ => none
  | .string, .str s => some (.str s)
  | .string, .null => some (.str "")
  | .string, _ => none
  | .bool, .bool b => some (.bool b)
  | .bool, .null => some (.bool false)
  | .bool, _ => none
  | .any, j => some (lossy53 j)
  | .ptr _, .null => some .null
  | .ptr t, j => project t j
  | .slice _, .null => some .null
  | .slice t, .arr xs => (optAll (xs.map (fun x => project t x))).map .arr
  | .slice _, _ => none
  | .map _, .null => some .null
  | .map t, .obj fs => (optAll (fs.map (fun kv => optField (kv.1, project t kv.2)))).map .obj
  | .map _, _ => none
  | .struct fs, .null => some (.obj (zeroFields fs))
  | .struct fs, .obj kvs => (projectFields fs kvs).map .obj
  | .struct _, _ => none
/-- struct fields in declaration order; unknown members are dropped, missing ones are zero -/
def projectFields : List (String × Bool × GoTy) → Fields → Option Fields
  | [], _ => some []
  | (n, oe, t) :: rest, kvs =>
    match (match lookupJ n kvs with | some x => project t x | none => some (zeroJ t)), projectFields rest kvs with
    | some y, some ys => some (if oe && isEmptyGo t y then ys else (n, y) :: ys)
    | _, _ => none
end

/-! ### struct members: which member of the argument object a field is bound to

JSON member names are case-sensitive. `projectFields` binds the field with JSON name `n` to the member
named EXACTLY `n` (`lookupJ n`) — `internaljson.Unmarshal`, i.e. the decoder with
`DontMatchCaseInsensitiveStructFields`. The vocabulary below names the pieces; `GoTyLemmas.lean` proves
that this is all a field ever depends on. -/

abbrev SFields := List (String × Bool × GoTy)

/-- the JSON names of a struct's members -/
def fieldNames (fs : SFields) : List String := fs.map (·.1)

/-- the members the decode of a struct looks at: those of an object; none for `null` -/
def membersOf : JVal → Fields
  | .obj kvs => kvs
  | _ => []

/-- what the field of type `t` bound to name `n` holds after decoding `kvs` (re-encoded): the decoding of
the member named exactly `n`, the zero value when there is no such member; `none` = decode error -/
def fieldDecode (t : GoTy) (kvs : Fields) (n : String) : Option JVal :=
  match lookupJ n kvs with
  | some x => project t x
  | none => some (zeroJ t)

/-- how a field's value shows in the re-encoded struct (`omitempty`) -/
def fieldShown (oe : Bool) (t : GoTy) (y : JVal) : Option JVal :=
  if oe && isEmptyGo t y then none else some y

/-! ### the decode the wrapper must NOT use

`encoding/json` matches object members to struct fields up to case (`fold` normalises a name) and
assigns members in the order of the text, so the LAST member matching a field wins; `applySchema`
re-marshals a `map[string]any`, hence keys reach the decoder sorted by name. Only used for the counter-example
`fold_decode_counterexample` (why `project` being exact-name is part of C16). -/

/-- the member a name-folding decoder binds to field `n`: of those whose name folds like `n`, the one
with the greatest name — the last one in the key-sorted text -/
def lookupFoldKV (fold : String → String) (n : String) : Fields → Option (String × JVal)
  | [] => none
  | (k, v) :: t =>
    let r := lookupFoldKV fold n t
    if fold k = fold n then
      match r with
      | some (k', w) => if k < k' then some (k', w) else some (k, v)
      | none => some (k, v)
    else r

def lookupFold (fold : String → String) (n : String) (kvs : Fields) : Option JVal :=
  (lookupFoldKV fold n kvs).map (·.2)

def projectFieldsFold (fold : String → String) : SFields → Fields → Option Fields
  | [], _ => some []
  | (n, oe, t) :: rest, kvs =>
    match (match lookupFold fold n kvs with | some x => project t x | none => some (zeroJ t)),
          projectFieldsFold fold rest kvs with
    | some y, some ys => some (if oe && isEmptyGo t y then ys else (n, y) :: ys)
    | _, _ => none

/-- a decoder that folds member names at the top level of a struct -/
def projectFold (fold : String → String) : GoTy → JVal → Option JVal
  | .struct fs, .obj kvs => (projectFieldsFold fold fs kvs).map .obj
  | t, j => project t j

end TypedTool
