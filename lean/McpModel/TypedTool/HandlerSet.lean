import McpModel.TypedTool.Bridge
/-!
# E12 TypedTool (C16) — handlers that set members of the result THEMSELVES

A typed handler returns `(*CallToolResult, Out, error)`. Next to its typed output it may set, in the result
it returns, `IsError` and `StructuredContent` (and `Content`, which `Model.lean` already has). What
`toolForErr` (mcp/server.go) does with them — the `outval` rules, transliterated in `outJsonX`:

* the typed output wins: for every `Out` value other than a nil `any` the structured content of the result
  is the (validated, defaulted) JSON of the typed output; a `StructuredContent` set by the handler is
  overwritten (`typed_output_replaces_handler_structured`);
* a nil `any` output under a declared output schema: the handler's own `StructuredContent`, when it set
  one, IS the tool's output — it is validated, defaulted and rendered like any other output (REPAIRED
  behaviour, fixes/typedtool-F48-validate-handler-structured-content.patch; the unrepaired code returned
  it as it was: `unvalidated_handler_structured_counterexample`); when it set none, JSON `null` is
  validated (F22) unless the handler declared the result an error (`IsError`), in which case the result
  carries no structured content;
* `IsError` set by the handler is kept (`handler_error_flag_kept`): the result is an error result with the
  handler's content; its typed output is STILL validated (an invalid one is reported as a protocol error,
  not returned).

The monitor of these calls (`judgeX`; the driver prints its clause text, there is no constructor of `Clause` for it) is the property itself on the observation.  Core Lean only: linked into the driver.
-/
namespace TypedTool

/-- what a typed handler sets itself in the result it returns (besides `Content`: `HRet.content`) -/
structure HSet where
  isError : Bool := false
  sc : Option JVal := none
deriving Inhabited

variable {S : Type}

def outJsonX (t : Tool S) (x : HSet) : OutVal → Option JVal
  | .nilAny =>
    if t.outSchema.isSome then
      match x.sc with
      | some j => some j
      | none => if x.isError then none else some .null
    else none
  | o => outJson t o

def finishX (E : Env S) (t : Tool S) (v : JVal) (r : HRet) (x : HSet) : Outcome :=
  let k := if x.isError then Kind.toolError else Kind.ok
  match outJsonX t x r.out with
  | none => { seen := some v, kind := k, structured := x.sc, content := r.content.getD [] }
  | some j =>
    match applyOut E t j with
    | none => { seen := some v, kind := .rpcError, structured := none, content := [] }
    | some sc => { seen := some v, kind := k, structured := some sc, content := finalContent r.content sc }

/-- The wrapper `th` of `toolForErr` for a handler that also sets `x v` in its result. -/
def callX (E : Env S) (t : Tool S) (h : JVal → HRet) (x : JVal → HSet) (a : Args) : Outcome :=
  match applyIn E t.inSchema a with
  | none => errorOutcome none
  | some d =>
    match t.decodeIn d with
    | none => errorOutcome none
    | some v =>
      let r := h v
      match r.err with
      | some .rpc => { seen := some v, kind := .rpcError, structured := none, content := [] }
      | some .plain => errorOutcome (some v)
      | none => finishX E t v r (x v)

theorem callX_eq (E : Env S) (t : Tool S) (h : JVal → HRet) (x : JVal → HSet) (a : Args) :
    callX E t h x a =
      match handlerInput E t a with
      | none => errorOutcome none
      | some v =>
        match (h v).err with
        | some .rpc => { seen := some v, kind := .rpcError, structured := none, content := [] }
        | some .plain => errorOutcome (some v)
        | none => finishX E t v (h v) (x v) := by
  unfold callX handlerInput
  cases applyIn E t.inSchema a with
  | none => rfl
  | some d => cases t.decodeIn d <;> rfl

/-- A handler that sets nothing itself: `callX` is `call`. -/
theorem callX_plain (E : Env S) (t : Tool S) (h : JVal → HRet) (a : Args) :
    callX E t h (fun _ => {}) a = call E t h a := by
  have hout : ∀ o, outJsonX t {} o = outJson t o := fun o => by cases o <;> simp [outJsonX, outJson]
  rw [callX_eq, call_eq]
  simp only [finishX, finish, hout]
  rfl

theorem finishX_seen (E : Env S) (t : Tool S) (v : JVal) (r : HRet) (x : HSet) : (finishX E t v r x).seen = some v := by
  unfold finishX
  cases outJsonX t x r.out with
  | none => rfl
  | some j => dsimp only; cases applyOut E t j <;> rfl

theorem finishX_structured {E : Env S} {t : Tool S} {v : JVal} {r : HRet} {x : HSet} {sc : JVal}
    (hsch : t.outSchema.isSome = true) (hsc : (finishX E t v r x).structured = some sc) :
    ∃ j, applyOut E t j = some sc ∧ (finishX E t v r x).content = finalContent r.content sc := by
  unfold finishX at hsc ⊢
  cases hj : outJsonX t x r.out with
  | none =>
    simp only [hj] at hsc
    cases ho : r.out with
    | nilAny =>
      simp only [ho, outJsonX, hsch, if_true] at hj
      cases hx : x.sc with
      | none => simp [hx] at hsc
      | some j => simp [hx] at hj
    | _ => simp [ho, outJsonX, outJson] at hj
  | some j =>
    simp only [hj] at hsc ⊢
    cases ha : applyOut E t j with
    | none => simp [ha] at hsc
    | some sc' =>
      simp only [ha, Option.some.injEq] at hsc ⊢
      exact ⟨j, hsc ▸ ha, hsc ▸ rfl⟩

/-- C16 "emit only schema-valid output", for ALL handlers — whatever typed
output they return and whatever they set themselves (`IsError`, `StructuredContent`, `Content`) —, all
arguments and all tools with a declared output schema: structured content in the answer (successful or
error result) has passed validation (it is the defaulted value that was validated or — nothing defaulted —
the output JSON, validated as the server decodes it). -/
theorem emitted_structured_valid (E : Env S) (t : Tool S) (h : JVal → HRet) (x : JVal → HSet) (a : Args)
    (s : S) (sc : JVal) (hsch : t.outSchema = some s) (hsc : (callX E t h x a).structured = some sc) :
    E.valid s sc = true ∨ (E.valid s (E.remarshal sc) = true ∧ (outForm E t s sc).2 = false) := by
  rw [callX_eq] at hsc
  split at hsc
  · cases hsc
  · split at hsc
    · cases hsc
    · cases hsc
    · obtain ⟨j, ha, _⟩ := finishX_structured (by simp [hsch]) hsc
      exact applyOut_valid E t s j sc hsch ha

theorem emitted_structured_valid_exact (E : Env S) (t : Tool S) (h : JVal → HRet) (x : JVal → HSet) (a : Args)
    (s : S) (sc : JVal) (hsch : t.outSchema = some s) (hsc : (callX E t h x a).structured = some sc)
    (hexact : E.remarshal sc = sc) : E.valid s sc = true := by
  rcases emitted_structured_valid E t h x a s sc hsch hsc with h1 | ⟨h1, _⟩
  · exact h1
  · rw [hexact] at h1; exact h1

/-- For every typed output other than a nil `any`, the answer
does not depend on the `StructuredContent` the handler set: it is overwritten by the JSON of the output. -/
theorem typed_output_replaces_handler_structured (E : Env S) (t : Tool S) (v : JVal) (r : HRet) (x x' : HSet)
    (hie : x.isError = x'.isError) (hout : r.out ≠ .nilAny) : finishX E t v r x = finishX E t v r x' := by
  unfold finishX
  cases ho : r.out with
  | nilAny => exact absurd ho hout
  | nilPtr => simp [outJsonX, outJson, hie]
  | json j => simp [outJsonX, outJson, hie]

/-- Unless the typed output fails validation (protocol error), the result is an
error result exactly when the handler declared it one. -/
theorem handler_error_flag_kept (E : Env S) (t : Tool S) (v : JVal) (r : HRet) (x : HSet) :
    (finishX E t v r x).kind = .rpcError ∨
      ((finishX E t v r x).kind = (if x.isError then Kind.toolError else Kind.ok)) := by
  unfold finishX
  cases hj : outJsonX t x r.out with
  | none => right; rfl
  | some j =>
    cases ha : applyOut E t j with
    | none => left; simp only [ha]
    | some sc => right; simp only [ha]

/-- … and an invalid typed output of a handler-declared error result is still not returned -/
theorem invalid_output_of_error_result_not_returned (E : Env S) (t : Tool S) (v : JVal) (r : HRet) (x : HSet)
    (j : JVal) (hj : outJsonX t x r.out = some j) (hbad : applyOut E t j = none) :
    (finishX E t v r x).kind = .rpcError ∧ (finishX E t v r x).structured = none := by
  simp [finishX, hj, hbad]

/-- the `outval` rules before F48: a nil `any` output is left alone as soon as the handler set
`StructuredContent` -/
def outJsonXUnrepaired (t : Tool S) (x : HSet) : OutVal → Option JVal
  | .nilAny => if t.outSchema.isSome && x.sc.isNone && !x.isError then some .null else none
  | o => outJson t o

def finishXUnrepaired (E : Env S) (t : Tool S) (v : JVal) (r : HRet) (x : HSet) : Outcome :=
  let k := if x.isError then Kind.toolError else Kind.ok
  match outJsonXUnrepaired t x r.out with
  | none => { seen := some v, kind := k, structured := x.sc, content := r.content.getD [] }
  | some j =>
    match applyOut E t j with
    | none => { seen := some v, kind := .rpcError, structured := none, content := [] }
    | some sc => { seen := some v, kind := k, structured := some sc, content := finalContent r.content sc }

/-- Before F48: `Out = any`, an output schema that
nothing satisfies, the handler returns a nil output and sets `StructuredContent` itself — answered by a
SUCCESSFUL result that carries that content, and no text rendering of it. -/
theorem unvalidated_handler_structured_counterexample :
    let E : Env Unit := { fill := fun _ v => v, valid := fun _ _ => false, remarshal := id }
    let t : Tool Unit := { inSchema := (), outSchema := some (), outRootObject := false, elemZero := none, decodeIn := some }
    let o := finishXUnrepaired E t .null {} { sc := some (.str "anything") }
    o.kind = .ok ∧ o.structured = some (.str "anything") ∧ o.content = [] ∧ E.valid () (.str "anything") = false ∧
      (finishX E t .null {} { sc := some (.str "anything") }).kind = .rpcError := by
  simp [finishXUnrepaired, outJsonXUnrepaired, finishX, outJsonX, applyOut]

/-- `modelCall` for a handler that sets members itself -/
def modelCallX (d : ToolD) (h : JVal → HRet) (x : JVal → HSet) (a : Args) : Outcome :=
  callX (refEnv lossy64) d.enforced h x a

/-- the driver's check "structured_valid" of these calls (true = violated; `sound_hsetInvalid`): the answer carries structured content that is not valid under
the tool's own output schema -/
def judgeX (osch : Option Schema) (o : Obs) : Bool :=
  match osch, o.sc with
  | some s, some v => (o.res == .ok || o.res == .toolerr) && !valid s v
  | _, _ => false

/-- C16 on the observation: "emit only schema-valid output" -/
def P_emitsValid (osch : Option Schema) (o : Obs) : Prop :=
  ∀ s v, osch = some s → o.sc = some v → (o.res = .ok ∨ o.res = .toolerr) → valid s v = true

theorem judgeX_iff (osch : Option Schema) (o : Obs) : judgeX osch o = true ↔ ¬ P_emitsValid osch o := by
  unfold judgeX P_emitsValid
  cases osch with
  | none => simp
  | some s =>
    cases o.sc with
    | none => simp
    | some v => simp

/-- The clause fires only on an observation that violates the property. -/
theorem sound_hsetInvalid (osch : Option Schema) (o : Obs) (h : judgeX osch o = true) : ¬ P_emitsValid osch o :=
  (judgeX_iff osch o).mp h

/-- No false alarm: on the model's own answer — any tool that enforces its own
schemas, any handler, anything it sets itself, any arguments — the clause is silent, provided the server's
decode of the structured content is exact (integers in [-2^63, 2^64), as for `monitor_accepts_model_call`). -/
theorem monitor_accepts_modelX (d : ToolD) (h : JVal → HRet) (x : JVal → HSet) (a : Args)
    (hreg : d.EnforcesOwn)
    (hex : ∀ sc, (modelCallX d h x a).structured = some sc → lossy64 sc = sc) :
    judgeX d.osch (obsOf (modelCallX d h x a)) = false := by
  cases hj : judgeX d.osch (obsOf (modelCallX d h x a)) with
  | false => rfl
  | true =>
    exfalso
    refine (judgeX_iff _ _).mp hj ?_
    intro s v hs hv _
    simp only [obsOf] at hv
    have hsch : d.enforced.outSchema = some s := by
      simp only [ToolD.enforced, Entry.tool]
      rw [hreg.2]; exact hs
    exact emitted_structured_valid_exact (refEnv lossy64) d.enforced h x a s v hsch hv (hex v hv)

/-- Under a declared output schema, structured content in the answer —
the typed output's or the handler's own — comes with the text rendering C16 asks for: the one block holding
its JSON when the handler supplied no content, else the handler's content, followed by that block iff the
structured content is not an object. -/
theorem emitted_structured_rendered (E : Env S) (t : Tool S) (h : JVal → HRet) (x : JVal → HSet) (a : Args)
    (v sc : JVal) (hsch : t.outSchema.isSome = true) (hs : (callX E t h x a).seen = some v)
    (hsc : (callX E t h x a).structured = some sc) :
    (callX E t h x a).content = finalContent (h v).content sc := by
  rw [callX_eq] at hs hsc ⊢
  cases hi : handlerInput E t a with
  | none => rw [hi] at hsc; cases hsc
  | some w =>
    simp only [hi] at hs hsc ⊢
    cases he : (h w).err with
    | some e => cases e <;> simp only [he] at hsc <;> cases hsc
    | none =>
      simp only [he] at hs hsc ⊢
      rw [finishX_seen] at hs
      cases hs
      obtain ⟨_, _, hc⟩ := finishX_structured hsch hsc
      exact hc

/-- the driver's check "text_fallback_iff_no_content" of these calls (true = violated; `sound_hsetNoText`): structured content under a declared output schema, the handler
supplied no content of its own, and the content is not the one text block rendering the structured content -/
def judgeXText (osch : Option Schema) (hc : Option (List Block)) (o : Obs) : Bool :=
  match osch, o.sc, hc with
  | some _, some _, none => (o.res == .ok || o.res == .toolerr) && o.content != [BTok.sc]
  | _, _, _ => false

/-- C16 on the observation: structured content comes with its text rendering when the handler supplied no content -/
def P_textRendering (osch : Option Schema) (hc : Option (List Block)) (o : Obs) : Prop :=
  osch.isSome = true → o.sc.isSome = true → hc = none → (o.res = .ok ∨ o.res = .toolerr) → o.content = [BTok.sc]

theorem sound_hsetNoText (osch : Option Schema) (hc : Option (List Block)) (o : Obs)
    (h : judgeXText osch hc o = true) : ¬ P_textRendering osch hc o := by
  intro hp
  unfold judgeXText at h
  split at h
  · next hv =>
    simp only [Bool.and_eq_true, Bool.or_eq_true, beq_iff_eq, bne_iff_ne, ne_eq] at h
    exact h.2 (hp rfl (by rw [hv]; rfl) rfl h.1)
  · cases h

/-- no false alarm of `judgeXText` on the model's own answer -/
theorem monitor_accepts_modelX_text (d : ToolD) (h : JVal → HRet) (x : JVal → HSet) (a : Args) (v : JVal)
    (hreg : d.EnforcesOwn) (hs : (modelCallX d h x a).seen = some v) :
    judgeXText d.osch (h v).content (obsOf (modelCallX d h x a)) = false := by
  unfold judgeXText
  split
  · next sc ho hsc hh =>
    have hsch : d.enforced.outSchema.isSome = true := by
      simp only [ToolD.enforced, Entry.tool]; rw [hreg.2, ho]; rfl
    have hc := emitted_structured_rendered (refEnv lossy64) d.enforced h x a v sc hsch hs hsc
    have : (obsOf (modelCallX d h x a)).content = [BTok.sc] := by
      simp only [obsOf, modelCallX, hc, hh, finalContent, List.map, btokOf]
    simp [this]
  · rfl

end TypedTool
