import McpModel.Generated.NegotiateGen
/-
E4 — model of protocol-version negotiation.  Serves C07.

`connect` is a total function of (requested version string or default, transport kind, the subset a
wrapping transport advertises, HTTP options, and `wireOK`) composing
  client  `Client.Connect` (mcp/client.go:308-410): default/explicit version, the `>= 2026-07-28`
          threshold, two discover rounds with one renegotiation, fallback to `initialize` with
          2025-11-25, verification of the server's answer;
          `Client.discover` (client.go:414-461): pick requested-or-best, reject a legacy result;
  server  `ServerSession.handle`: a `server/discover` probe naming a version the SDK does not know ⇒
          -32022 carrying the versions the session's TRANSPORT serves (finding F34; the probe itself is
          exempt from the transport test that every other method's `_meta` version undergoes); `Server.discover` (server.go:923-957): advertise the session's transport
          filter; `ServerSession.initialize` (server.go:2156-2202): `negotiatedVersion`, then
          `legacyVersionFor` against the transport filter (finding F10);
  filter  `filterSupportedVersions` (server.go:962-974) over `SupportsProtocolVersion` of the
          transport (SSE, streamable; in-memory and io transports do not implement the interface).
The version list, constants, `negotiatedVersion`, `negotiateMutuallySupportedVersion`,
`legacyVersionFor` and the two `SupportsProtocolVersion` bodies are REGENERATED
(`Generated.Negotiate`); the control flow above is hand-written and checked by the structural facts
`negotiate.flow`.

`wireOK v` abstracts the one transport effect that depends on the *spelling* of the version: a
server/discover request annotated with `v` reaches the server's version check intact.  On HTTP the
version also travels in the `Mcp-Protocol-Version` header, so a string that is not a valid header
value (or is changed by header trimming) makes that exchange fail and the client falls back.  The
theorems hold for every `wireOK`.
JSON responses / event store do not influence negotiation (they are carried to show exactly that).
Core Lean only (linked into the driver).
-/
namespace Negotiate
open Generated.Negotiate

inductive TKind | mem | pipe | sse | stateful | stateless
deriving DecidableEq, Repr

/-- Where the SDK's own `LoggingTransport` sits in the server's transport stack: not at all, outermost
(`LoggingTransport{wrapper{t}}`), or inside the user's wrapper (`wrapper{LoggingTransport{t}}`). -/
inductive LogPos | none | outer | inner
deriving DecidableEq, Repr

structure Setup where
  kind : TKind
  subset : Option (List String)   -- versions a wrapping transport admits (`none`: no wrapper)
  json : Bool := false
  store : Bool := false
  logging : LogPos := .none

inductive Outcome
  | error
  | negotiated (v : String)
deriving DecidableEq, Repr

/-- The threshold of the stateless protocol. -/
abbrev modern : String := protocolVersion20260728
/-- What the client sends when it falls back to `initialize`. -/
abbrev fallbackVersion : String := protocolVersion20251125

/-- `SupportsProtocolVersion` of the built-in server transport (transports that do not implement
`ProtocolVersionSupporter` support everything). -/
def kindSupports : TKind → String → Bool
  | .mem, _ => true
  | .pipe, _ => true
  | .sse, v => sseSupportsProtocolVersion v
  | .stateful, v => streamableSupportsProtocolVersion false v
  | .stateless, v => streamableSupportsProtocolVersion true v

/-- The wrapped transport: inner support ∧ membership in the advertised subset. -/
def transportSupports (S : Setup) (v : String) : Bool :=
  kindSupports S.kind v && (match S.subset with | none => true | some l => l.contains v)

/-- `filterSupportedVersions(t)` = `ServerSession.supportedVersions`. -/
def advertised (S : Setup) : List String := supportedProtocolVersions.filter (transportSupports S)

/-! ### the transport stack as the code sees it

`filterSupportedVersions(t)` asks the OUTERMOST transport value `t.(ProtocolVersionSupporter)`.  A
transport that does not implement the interface counts as serving everything; a wrapper serves what
it says.  `transportSupports` above is what the stack can REALLY serve (a `LoggingTransport` adds
nothing and removes nothing); `stackSupports` is what `Server.Connect` reads off the stack, layer by
layer.  They agree if every wrapper forwards the question (`stack_eq_transport`; `unforwarding_logging_leaks` for one
that does not; both in Stack.lean): the harness's wrapper does, `LoggingTransport` does (`loggingTransportForwards`, regenerated; finding F46). -/

/-- `t.(ProtocolVersionSupporter)`: `none` = the interface is not implemented. -/
abbrev Pvs := Option (String → Bool)

/-- How `filterSupportedVersions` reads a `Pvs`. -/
def Pvs.supports : Pvs → String → Bool
  | none, _ => true
  | some f, v => f v

def kindPvs : TKind → Pvs
  | .mem => none
  | .pipe => none
  | .sse => some sseSupportsProtocolVersion
  | .stateful => some (streamableSupportsProtocolVersion false)
  | .stateless => some (streamableSupportsProtocolVersion true)

/-- `LoggingTransport{inner}`: with the method (finding F46) it answers what the inner transport answers,
`true` when that one has no opinion; without the method it does not implement the interface. -/
def loggingPvsWith (forwards : Bool) (inner : Pvs) : Pvs :=
  if forwards then some (inner.supports) else none

def loggingPvs (inner : Pvs) : Pvs := loggingPvsWith loggingTransportForwards inner

/-- A forwarding user wrapper admitting `l` (the harness's `ngWrap`): inner answer ∧ membership. -/
def maskPvs (l : List String) (inner : Pvs) : Pvs := some fun v => inner.supports v && l.contains v

def stackPvs (S : Setup) : Pvs :=
  match S.logging, S.subset with
  | .none, none => kindPvs S.kind
  | .none, some l => maskPvs l (kindPvs S.kind)
  | .outer, none => loggingPvs (kindPvs S.kind)
  | .outer, some l => loggingPvs (maskPvs l (kindPvs S.kind))
  | .inner, none => loggingPvs (kindPvs S.kind)      -- no mask to be inside or outside of
  | .inner, some l => maskPvs l (loggingPvs (kindPvs S.kind))

/-- What `Server.Connect` reads off the stack for version `v`. -/
def stackSupports (S : Setup) (v : String) : Bool := (stackPvs S).supports v

/-- `filterSupportedVersions(t)` on the stack. -/
def advertisedStack (S : Setup) : List String := supportedProtocolVersions.filter (stackSupports S)

inductive Disc
  | ok (v : String)            -- discover succeeded with this negotiated version
  | unsupported (data : List String)   -- -32022 carrying `supported`
  | failed                     -- any other error: the client breaks out of the loop

/-- `Client.discover`'s choice: the requested version if the server lists it, else the best mutual one. -/
def pick (adv : List String) (v : String) : String :=
  if adv.contains v then v else negotiateMutuallySupportedVersion adv

/-- One server/discover round with `_meta.protocolVersion = v`. -/
def discoverOnce (wireOK : String → Bool) (S : Setup) (v : String) : Disc :=
  if wireOK v = false then .failed
  else if supportedProtocolVersions.contains v = false then .unsupported (advertised S)
  else if pick (advertised S) v = "" ∨ pick (advertised S) v < modern then .failed
  else .ok (pick (advertised S) v)

/-- The `for range 2` loop of `Client.Connect`: `none` = fall back to initialize. -/
def discoverLoop (wireOK : String → Bool) (S : Setup) (pv : String) : Option String :=
  match discoverOnce wireOK S pv with
  | .ok n => some n
  | .failed => none
  | .unsupported data =>
    if negotiateMutuallySupportedVersion data ≠ "" ∧ ¬ negotiateMutuallySupportedVersion data < modern then
      match discoverOnce wireOK S (negotiateMutuallySupportedVersion data) with
      | .ok n => some n
      | _ => none
    else none

/-- The `initialize` exchange with `params.protocolVersion = iv`, including the client's check of
the answer (`legacyVersionFor`: finding F10; `""` makes the server answer with an error). -/
def initHandshake (S : Setup) (iv : String) : Outcome :=
  if legacyVersionFor (negotiatedVersion iv) (advertised S) = "" then .error
  else if legacyVersionFor (negotiatedVersion iv) (advertised S) ∈ supportedProtocolVersions then
    .negotiated (legacyVersionFor (negotiatedVersion iv) (advertised S))
  else .error

/-- The protocol version the client starts from. -/
def startVersion (requested : Option String) : String :=
  match requested with
  | none => latestProtocolVersion
  | some s => if s = "" then latestProtocolVersion else s

def connect (wireOK : String → Bool) (requested : Option String) (S : Setup) : Outcome :=
  if startVersion requested < modern then initHandshake S (startVersion requested)
  else match discoverLoop wireOK S (startVersion requested) with
    | some n => .negotiated n
    | none => initHandshake S fallbackVersion

end Negotiate
