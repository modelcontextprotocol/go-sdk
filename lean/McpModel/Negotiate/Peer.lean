import McpModel.Negotiate.Model
/-
E4 — the CLIENT side of version negotiation against an ARBITRARY peer, and sequences of
connections to one `Server` value.  Serves C07.

`Model.lean` composes the SDK client with the SDK server.  Here the server is abstracted to what
the client can observe of it:

  `Peer.discover v`  the answer to a `server/discover` probe whose `_meta` names version `v`:
       `.unavailable`        every answer that is not a DiscoverResult and not a -32022 error
                             carrying `data.supported`: an HTTP error status with a text body
                             (404/405/400/5xx: a legacy server, a method-routing gateway), a JSON-RPC
                             error of any other code in any HTTP status, -32022 without data, a
                             request that never reached the peer (`Client.Connect` breaks out of the
                             discover loop on *any* such error; the streamable client transport
                             wraps every failed discover POST with `ErrRejected`, so the connection
                             survives: key `write.discover_rejected` of fact `negotiate.httpclient`);
       `.unsupported data`   JSON-RPC error -32022 with `data.supported = data`;
       `.result versions`    a DiscoverResult listing `versions` (arbitrary strings);
  `Peer.init iv`     the answer to `initialize` with `params.protocolVersion = iv`: `some v` =
                     an InitializeResult naming `v` (an arbitrary string), `none` = an error.

`connectPeer` is `Client.Connect` (client.go:308-410) + `Client.discover` (client.go:414-461)
against such a peer.  `sdkPeer wireOK S` is the SDK server behind transport setup `S`;
`connect_eq_connectPeer` (Props) shows `connect` (Model.lean) is exactly that instance, so everything proved
about `connectPeer` for all peers also holds SDK x SDK.

`pickC` is the client's choice from a DiscoverResult as in /repo (finding negotiate-F30, F37 in DESIGN.md's table — not the C12
finding F30; fixes/negotiate-F30-discover-requested-version-must-be-supported.patch): the requested version is
taken only if the SDK itself implements it (checked by key `client.discover_pick` of fact `negotiate.flow`; on an unrepaired
tree that fact fails and the harness exhibits the defect on a concrete foreign peer, clause
"C07: F30 …").  Against the SDK server the conjunct is redundant (the server answers -32022 to a
probe naming an unknown version), which is why `pick` (Model.lean) does without it.

`peerVerdict` is the property C07 as a decidable predicate on an observed outcome against a peer
(the typed core of the monitor for foreign-peer cells: `monitorPeer`, Monitor.lean); `peerVerdict_model`
(Props) proves that the model's own outcome always passes it, `Sound.lean` that each clause it
reports contradicts the property.

`Srv`/`runSeq` model ONE `Server` value connected several times in sequence through different
transport configurations: the session's version filter is computed from THIS session's transport
(`ss.supportedVersions = filterSupportedVersions(t)`, key `server.session_filter` of fact `negotiate.flow`), so a step's
outcome does not depend on the history.
Core Lean only (linked into the driver).
-/
namespace Negotiate
open Generated.Negotiate

inductive DiscResp
  | unavailable
  | unsupported (data : List String)
  | result (versions : List String)
deriving Repr

structure Peer where
  discover : String → DiscResp
  init : String → Option String

/-- `Client.discover`'s choice from a DiscoverResult (the requested version is honoured only when this
SDK implements it: negotiate-F30). -/
def pickC (vs : List String) (v : String) : String :=
  if vs.contains v && supportedProtocolVersions.contains v then v
  else negotiateMutuallySupportedVersion vs

/-- What the client makes of one discover answer (`Client.discover` + the error classification in
`Client.Connect`). -/
def clientDiscover (resp : DiscResp) (v : String) : Disc :=
  match resp with
  | .unavailable => .failed
  | .unsupported data => .unsupported data
  | .result vs => if pickC vs v = "" ∨ pickC vs v < modern then .failed else .ok (pickC vs v)

/-- The `for range 2` loop of `Client.Connect` against a peer: `none` = fall back to initialize. -/
def peerLoop (P : Peer) (pv : String) : Option String :=
  match clientDiscover (P.discover pv) pv with
  | .ok n => some n
  | .failed => none
  | .unsupported data =>
    if negotiateMutuallySupportedVersion data ≠ "" ∧ ¬ negotiateMutuallySupportedVersion data < modern then
      match clientDiscover (P.discover (negotiateMutuallySupportedVersion data))
          (negotiateMutuallySupportedVersion data) with
      | .ok n => some n
      | _ => none
    else none

/-- The `initialize` exchange and the client's verification of the answer
(`slices.Contains(supportedProtocolVersions, res.ProtocolVersion)`). -/
def peerInit (P : Peer) (iv : String) : Outcome :=
  match P.init iv with
  | none => .error
  | some v => if v ∈ supportedProtocolVersions then .negotiated v else .error

def connectPeer (requested : Option String) (P : Peer) : Outcome :=
  if startVersion requested < modern then peerInit P (startVersion requested)
  else match peerLoop P (startVersion requested) with
    | some n => .negotiated n
    | none => peerInit P fallbackVersion

/-- The SDK server behind transport setup `S`, as the client sees it. -/
def sdkPeer (wireOK : String → Bool) (S : Setup) : Peer where
  discover v :=
    if wireOK v = false then .unavailable
    else if supportedProtocolVersions.contains v = false then .unsupported (advertised S)
    else .result (advertised S)
  init iv :=
    if legacyVersionFor (negotiatedVersion iv) (advertised S) = "" then none
    else some (legacyVersionFor (negotiatedVersion iv) (advertised S))

/-- The version the legacy handshake is attempted with. -/
def legacyRequest (requested : Option String) : String :=
  if startVersion requested < modern then startVersion requested else fallbackVersion

/-! ### The property as a predicate on an observed outcome (monitor for foreign-peer cells) -/

/-- The DiscoverResult lists the client gets to see: the answer to its first probe, or — after a
-32022 naming a modern mutually supported version — the answer to the second one. -/
def discLists (P : Peer) (pv : String) : List (List String) :=
  match P.discover pv with
  | .result vs => [vs]
  | .unsupported data =>
    if negotiateMutuallySupportedVersion data ≠ "" ∧ ¬ negotiateMutuallySupportedVersion data < modern then
      match P.discover (negotiateMutuallySupportedVersion data) with
      | .result vs => [vs]
      | _ => []
    else []
  | .unavailable => []

/-- The requested version is supported by the SDK and by the peer, on the path it travels. -/
def peerMutual (requested : Option String) (P : Peer) : Bool :=
  supportedProtocolVersions.contains (startVersion requested) &&
  (if startVersion requested < modern then P.init (startVersion requested) == some (startVersion requested)
   else match P.discover (startVersion requested) with
     | .result vs => vs.contains (startVersion requested)
     | _ => false)

/-- The clauses of C07 a foreign-peer cell can violate (texts: `Driver.peerClauseText`). -/
inductive PClause
  | f30                  -- negotiated the requested version although this SDK does not implement it
  | notSDK               -- negotiated version is not supported by the SDK
  | legacyNotInit        -- a legacy version that the peer did not answer the initialize handshake with
  | notOffered           -- offered neither by a DiscoverResult nor by the initialize answer
  | mutualDiff           -- requested version mutually supported but a different one negotiated
  | mutualErr            -- connect failed although the requested version is mutually supported
  | fallbackLegacy       -- failed although the peer answers the requested legacy handshake with a supported version
  | fallbackUnavailable  -- no fallback although discovery is unavailable and initialize would succeed
  | fallbackNoOverlap    -- no fallback although discovery yields no modern overlap and initialize would succeed
  | cannotUse            -- connected session cannot list and call tools
  | unreadable           -- unreadable negotiated version
  | crashed              -- connect crashed or produced no outcome
deriving DecidableEq, Repr

/-- Why the initialize handshake was due (which fallback clause). -/
def clFallback (requested : Option String) (P : Peer) : PClause :=
  if startVersion requested < modern then .fallbackLegacy
  else match P.discover (startVersion requested) with
    | .unavailable => .fallbackUnavailable
    | _ => .fallbackNoOverlap

def peerVerdict (requested : Option String) (P : Peer) (o : Outcome) : Option PClause :=
  match o with
  | .negotiated v =>
    if supportedProtocolVersions.contains v = false then
      some (if v = startVersion requested then .f30 else .notSDK)
    else if v < modern ∧ P.init (legacyRequest requested) ≠ some v then some .legacyNotInit
    else if ¬ v < modern ∧ P.init (legacyRequest requested) ≠ some v ∧
        ¬ (¬ startVersion requested < modern ∧ (discLists P (startVersion requested)).any (·.contains v) = true) then
      some .notOffered
    else if peerMutual requested P = true ∧ v ≠ startVersion requested then some .mutualDiff
    else none
  | .error =>
    if peerMutual requested P = true then some .mutualErr
    else match P.init (legacyRequest requested) with
      | some w => if supportedProtocolVersions.contains w = true then some (clFallback requested P) else none
      | none => none

/-! ### One Server, several connections in sequence -/

/-- The part of a `Server` value that outlives a session, as far as negotiation could see it: the
transports connected so far. -/
structure Srv where
  history : List Setup := []

structure Step where
  requested : Option String
  setup : Setup

/-- `Server.Connect(t)` + `Client.Connect`: the session's filter is computed from `t` alone. -/
def Srv.step (wire : TKind → String → Bool) (σ : Srv) (s : Step) : Srv × Outcome :=
  ({ history := s.setup :: σ.history }, connect (wire s.setup.kind) s.requested s.setup)

def runSeq (wire : TKind → String → Bool) : Srv → List Step → List Outcome
  | _, [] => []
  | σ, s :: rest => (σ.step wire s).2 :: runSeq wire (σ.step wire s).1 rest

end Negotiate
