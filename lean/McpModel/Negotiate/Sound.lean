import McpModel.Base.Logic
import McpModel.Base.FirstReport
import McpModel.Negotiate.Monitor
import McpModel.Negotiate.Props
/-!
# The C07 monitors: no alarm on the model, and clause soundness (E4)

A trace is the list of cells of one run: for the SDK × SDK matrix (`Cell`: requested version,
transport setup, what the IMPLEMENTATION's `Client.Connect` did), for foreign peers (`PCell`: requested
version, the peer as the client can observe it, the observation).  Cells are independent and the
monitors stateless.  The driver runs `monitorW` (= `monitor` with F46's shape under its own clause); its lemmas are in Stack.lean.

Each clause of the property is a predicate `P_…` on traces, written from the property text with the
regenerated version list and transport filters only (no `connect`).

Reading of "equals the requested version whenever that version is mutually supported": when the
requested version is supported by the SDK and by the transport, connecting succeeds with exactly that
version (`P_requested_honoured_if_mutual` + `P_connects_if_mutual`; the model: `requested_honoured_if_mutual`).
-/
namespace Negotiate
open Generated.Negotiate

structure Cell where
  req : Option String
  S : Setup
  obs : Obs

abbrev Trace := List Cell

/-- Run the monitor over a trace: the first cell (index) at which a clause is reported. -/
def runMonFrom : Nat → Trace → Option (Nat × Clause)
  | _, [] => none
  | i, c :: tr =>
    match monitor c.req c.S c.obs with
    | some cl => some (i, cl)
    | none => runMonFrom (i + 1) tr

def runMon (tr : Trace) : Option (Nat × Clause) := runMonFrom 0 tr

/-- "a session whose negotiated version is supported by both SDK sides". -/
def P_negotiated_supported_by_sdk (tr : Trace) : Prop :=
  ∀ c ∈ tr, ∀ v l k, c.obs = .ok v l k → v ∈ supportedProtocolVersions

/-- "… and by the transport" (the wrapper's advertised subset included). -/
def P_negotiated_supported_by_transport (tr : Trace) : Prop :=
  ∀ c ∈ tr, ∀ v l k, c.obs = .ok v l k → transportSupports c.S v = true

/-- "2026-07-28 is never negotiated over SSE or a stateful HTTP endpoint". -/
def P_modern_never_on_sse_or_stateful (tr : Trace) : Prop :=
  ∀ c ∈ tr, (c.S.kind = .sse ∨ c.S.kind = .stateful) → ∀ v l k, c.obs = .ok v l k → v < modern

/-- The requested version is supported by the SDK and by the transport. -/
def Mutual (c : Cell) : Prop :=
  startVersion c.req ∈ supportedProtocolVersions ∧ transportSupports c.S (startVersion c.req) = true

/-- "and equals the requested version whenever that version is mutually supported". -/
def P_requested_honoured_if_mutual (tr : Trace) : Prop :=
  ∀ c ∈ tr, Mutual c → ∀ v l k, c.obs = .ok v l k → v = startVersion c.req

/-- … and then connecting does not fail. -/
def P_connects_if_mutual (tr : Trace) : Prop := ∀ c ∈ tr, Mutual c → c.obs ≠ .error

/-- "The client falls back from discovery to the initialize handshake whenever discovery is
unavailable or yields no modern overlap": connecting does not fail while the transport serves a
legacy version. -/
def P_fallback_to_initialize (tr : Trace) : Prop :=
  ∀ c ∈ tr, (∃ v ∈ advertised c.S, v < modern) → c.obs ≠ .error

/-- "every successfully connected session can immediately list and call tools". -/
def P_session_usable (tr : Trace) : Prop :=
  ∀ c ∈ tr, ∀ v l k, c.obs = .ok v l k → l = true ∧ k = true

/-- "connecting either fails with an error or produces a session": nothing else. -/
def P_outcome_observed (tr : Trace) : Prop := ∀ c ∈ tr, c.obs ≠ .other ∧ c.obs ≠ .garbled

/-- The property clause a monitor clause stands for. -/
def P_of : Clause → Trace → Prop
  | .unreadable | .crashed => P_outcome_observed
  | .notSDK => P_negotiated_supported_by_sdk
  | .f10 | .notTransport => P_negotiated_supported_by_transport
  | .modernOnStateful => P_modern_never_on_sse_or_stateful
  | .mutualDiff => P_requested_honoured_if_mutual
  | .cannotUse => P_session_usable
  | .mutualErr => P_connects_if_mutual
  | .noFallback => P_fallback_to_initialize

theorem mutualOK_iff (c : Cell) : mutualOK c.req c.S = true ↔ Mutual c := by
  simp [mutualOK, Mutual]

theorem any_legacy_iff (S : Setup) : (advertised S).any isLegacy = true ↔ ∃ v ∈ advertised S, v < modern := by
  simp [isLegacy, List.any_eq_true]

def FiresAt (tr : Trace) (j : Nat) (cl : Clause) : Prop :=
  ∃ c, tr[j]? = some c ∧ monitor c.req c.S c.obs = some cl

theorem runMonFrom_eq (i : Nat) (tr : Trace) :
    runMonFrom i tr = FirstReport.first (fun (_ : Unit) (c : Cell) => ((), monitor c.req c.S c.obs)) () i tr := by
  induction tr generalizing i with
  | nil => rfl
  | cons c tr ih => rw [runMonFrom, FirstReport.first, ih]; cases monitor c.req c.S c.obs <;> rfl

theorem monitor_some {req : Option String} {S : Setup} {o : Obs} {cl : Clause} (h : monitor req S o = some cl) :
    (o = .garbled ∧ cl = .unreadable) ∨ (o = .other ∧ cl = .crashed) ∨
    (∃ v l k, o = .ok v l k ∧
      ((v ∉ supportedProtocolVersions ∧ cl = .notSDK) ∨
       (transportSupports S v = false ∧ (cl = .f10 ∨ cl = .notTransport)) ∨
       ((S.kind = .sse ∨ S.kind = .stateful) ∧ ¬ v < modern ∧ cl = .modernOnStateful) ∨
       (mutualOK req S = true ∧ v ≠ startVersion req ∧ cl = .mutualDiff) ∨
       (¬ (l = true ∧ k = true) ∧ cl = .cannotUse))) ∨
    (o = .error ∧ ((mutualOK req S = true ∧ cl = .mutualErr) ∨ ((advertised S).any isLegacy = true ∧ cl = .noFallback))) := by
  cases o with
  | garbled => exact .inl ⟨rfl, (Option.some.inj h).symm⟩
  | other => exact .inr (.inl ⟨rfl, (Option.some.inj h).symm⟩)
  | ok v l k =>
    refine .inr (.inr (.inl ⟨v, l, k, rfl, ?_⟩))
    rw [monitor] at h
    rcases ite_some_eq_some.1 h with ⟨h1, rfl⟩ | ⟨-, h⟩
    · exact .inl ⟨by simpa using h1, rfl⟩
    by_cases h2 : (!transportSupports S v) = true
    · rw [if_pos h2] at h
      refine .inr (.inl ⟨by simpa using h2, ?_⟩)
      split at h
      · exact .inl (Option.some.inj h).symm
      · exact .inr (Option.some.inj h).symm
    rw [if_neg h2] at h
    rcases ite_some_eq_some.1 h with ⟨h3, rfl⟩ | ⟨-, h⟩
    · simp only [Bool.and_eq_true, Bool.or_eq_true, beq_iff_eq, Bool.not_eq_true', isLegacy,
        decide_eq_false_iff_not] at h3
      exact .inr (.inr (.inl ⟨h3.1, h3.2, rfl⟩))
    rcases ite_some_eq_some.1 h with ⟨h4, rfl⟩ | ⟨-, h⟩
    · simp only [Bool.and_eq_true, bne_iff_ne, ne_eq] at h4
      exact .inr (.inr (.inr (.inl ⟨h4.1, h4.2, rfl⟩)))
    rcases ite_some_eq_some.1 h with ⟨h5, rfl⟩ | ⟨-, h⟩
    · refine .inr (.inr (.inr (.inr ⟨?_, rfl⟩)))
      rintro ⟨rfl, rfl⟩; cases h5
    · cases h
  | error =>
    refine .inr (.inr (.inr ⟨rfl, ?_⟩))
    rw [monitor] at h
    rcases ite_some_eq_some.1 h with ⟨h1, rfl⟩ | ⟨-, h⟩
    · exact .inl ⟨h1, rfl⟩
    rcases ite_some_eq_some.1 h with ⟨h2, rfl⟩ | ⟨-, h⟩
    · exact .inr ⟨h2, rfl⟩
    · cases h

/-- What silence on a connected session means; read forwards for completeness, backwards to show the model passes. -/
theorem silent_ok {req : Option String} {S : Setup} {v : String} {l k : Bool} :
    monitor req S (.ok v l k) = none ↔
    l = true ∧ k = true ∧ v ∈ supportedProtocolVersions ∧ transportSupports S v = true ∧
      ((S.kind = .sse ∨ S.kind = .stateful) → v < modern) ∧ (mutualOK req S = true → v = startVersion req) := by
  rw [monitor]
  cases transportSupports S v with
  | false => simp; (repeat' split) <;> nofun  -- a version the transport does not serve is reported whatever else holds
  | true =>
    simp only [ite_some_eq_none, Bool.not_true, Bool.false_eq_true, if_false, and_true, Bool.and_eq_true,
      Bool.or_eq_true, beq_iff_eq, isLegacy, decide_eq_false_iff_not, bne_iff_ne, ne_eq, Bool.not_eq_eq_eq_not,
      List.contains_iff_mem, not_and, Classical.not_not, true_and, not_or, Bool.not_eq_false]
    exact ⟨fun ⟨h1, h3, h4, h5, h6⟩ => ⟨h5, h6, h1, h3, h4⟩, fun ⟨h5, h6, h1, h3, h4⟩ => ⟨h1, h3, h4, h5, h6⟩⟩

theorem silent_error {req : Option String} {S : Setup} :
    monitor req S .error = none ↔ mutualOK req S = false ∧ (advertised S).any isLegacy = false := by
  simp only [monitor, ite_some_eq_none, Bool.not_eq_true, and_true]

theorem monitor_none {req : Option String} {S : Setup} {o : Obs} (h : monitor req S o = none) :
    (∃ v, o = .ok v true true ∧ v ∈ supportedProtocolVersions ∧ transportSupports S v = true ∧
      ((S.kind = .sse ∨ S.kind = .stateful) → v < modern) ∧ (mutualOK req S = true → v = startVersion req)) ∨
    (o = .error ∧ mutualOK req S = false ∧ (advertised S).any isLegacy = false) := by
  cases o with
  | garbled => cases h
  | other => cases h
  | ok v l k =>
    obtain ⟨rfl, rfl, hv⟩ := silent_ok.1 h
    exact .inl ⟨v, rfl, hv⟩
  | error => exact .inr ⟨rfl, silent_error.1 h⟩

theorem fires_sound {tr : Trace} {j : Nat} {cl : Clause} (hf : FiresAt tr j cl) : ¬ P_of cl tr := by
  obtain ⟨c, hj, hm⟩ := hf
  have hc : c ∈ tr := List.mem_of_getElem? hj
  intro hP
  rcases monitor_some hm with ⟨ho, rfl⟩ | ⟨ho, rfl⟩ |
    ⟨v, l, k, ho, ⟨h, rfl⟩ | ⟨h, rfl | rfl⟩ | ⟨hk, h, rfl⟩ | ⟨hmu, h, rfl⟩ | ⟨h, rfl⟩⟩ | ⟨ho, ⟨hmu, rfl⟩ | ⟨hl, rfl⟩⟩
  · exact (hP c hc).2 ho
  · exact (hP c hc).1 ho
  · exact h (hP c hc v l k ho)
  · exact Bool.false_ne_true (h.symm.trans (hP c hc v l k ho))
  · exact Bool.false_ne_true (h.symm.trans (hP c hc v l k ho))
  · exact h (hP c hc hk v l k ho)
  · exact h (hP c hc ((mutualOK_iff c).1 hmu) v l k ho)
  · exact h (hP c hc v l k ho)
  · exact hP c hc ((mutualOK_iff c).1 hmu) ho
  · exact hP c hc ((any_legacy_iff c.S).1 hl) ho

theorem sound_unreadable (tr : Trace) (j : Nat) (hf : FiresAt tr j .unreadable) : ¬ P_outcome_observed tr :=
  fires_sound hf

theorem sound_crashed (tr : Trace) (j : Nat) (hf : FiresAt tr j .crashed) : ¬ P_outcome_observed tr :=
  fires_sound hf

theorem sound_notSDK (tr : Trace) (j : Nat) (hf : FiresAt tr j .notSDK) : ¬ P_negotiated_supported_by_sdk tr :=
  fires_sound hf

theorem sound_f10 (tr : Trace) (j : Nat) (hf : FiresAt tr j .f10) : ¬ P_negotiated_supported_by_transport tr :=
  fires_sound hf

theorem sound_notTransport (tr : Trace) (j : Nat) (hf : FiresAt tr j .notTransport) : ¬ P_negotiated_supported_by_transport tr :=
  fires_sound hf

theorem sound_modernOnStateful (tr : Trace) (j : Nat) (hf : FiresAt tr j .modernOnStateful) :
    ¬ P_modern_never_on_sse_or_stateful tr :=
  fires_sound hf

theorem sound_mutualDiff (tr : Trace) (j : Nat) (hf : FiresAt tr j .mutualDiff) : ¬ P_requested_honoured_if_mutual tr :=
  fires_sound hf

theorem sound_cannotUse (tr : Trace) (j : Nat) (hf : FiresAt tr j .cannotUse) : ¬ P_session_usable tr :=
  fires_sound hf

theorem sound_mutualErr (tr : Trace) (j : Nat) (hf : FiresAt tr j .mutualErr) : ¬ P_connects_if_mutual tr :=
  fires_sound hf

theorem sound_noFallback (tr : Trace) (j : Nat) (hf : FiresAt tr j .noFallback) : ¬ P_fallback_to_initialize tr :=
  fires_sound hf

theorem monitor_sound (tr : Trace) (j : Nat) (cl : Clause) (h : runMon tr = some (j, cl)) : ¬ P_of cl tr := by
  rw [runMon, runMonFrom_eq] at h
  obtain ⟨k, c, rfl, hk, hm, -⟩ := FirstReport.first_eq_some.1 h
  exact fires_sound ⟨c, by simpa using hk, hm⟩

theorem monitor_complete (tr : Trace) (h : runMon tr = none) (cl : Clause) : P_of cl tr := by
  rw [runMon, runMonFrom_eq] at h
  have hall : ∀ c ∈ tr, monitor c.req c.S c.obs = none := fun c hc =>
    let ⟨k, hk⟩ := List.mem_iff_getElem?.1 hc; FirstReport.first_eq_none.1 h k c hk
  have ok : ∀ c ∈ tr, ∀ v l k, c.obs = .ok v l k → _ := fun c hc v l k ho => silent_ok.1 (ho ▸ hall c hc)
  have err : ∀ c ∈ tr, c.obs = .error → _ := fun c hc ho => silent_error.1 (ho ▸ hall c hc)
  have seen : P_outcome_observed tr := fun c hc => by
    have := hall c hc
    constructor <;> (intro ho; rw [ho] at this; cases this)
  cases cl with
  | unreadable | crashed => exact seen
  | notSDK => exact fun c hc v l k ho => (ok c hc v l k ho).2.2.1
  | f10 | notTransport => exact fun c hc v l k ho => (ok c hc v l k ho).2.2.2.1
  | modernOnStateful => exact fun c hc hk v l k ho => (ok c hc v l k ho).2.2.2.2.1 hk
  | mutualDiff => exact fun c hc hmu v l k ho => (ok c hc v l k ho).2.2.2.2.2 ((mutualOK_iff c).2 hmu)
  | cannotUse => exact fun c hc v l k ho => ⟨(ok c hc v l k ho).1, (ok c hc v l k ho).2.1⟩
  | mutualErr => exact fun c hc hmu ho => Bool.false_ne_true ((err c hc ho).1.symm.trans ((mutualOK_iff c).2 hmu))
  | noFallback => exact fun c hc hl ho => Bool.false_ne_true ((err c hc ho).2.symm.trans ((any_legacy_iff c.S).2 hl))

theorem supported_headerSafe : ∀ v ∈ supportedProtocolVersions, headerSafe v = true := by decide +kernel

/-- The SDK's own version strings travel on every transport (the driver's instance of `wireOK`). -/
theorem supported_wire_ok (k : TKind) : ∀ v ∈ supportedProtocolVersions, wireFor k v = true := by
  cases k <;> first | exact supported_headerSafe | exact fun _ _ => rfl

/-- On the model's outcome of every cell — any requested string, any
transport kind, any advertised subset — the monitor reports nothing. -/
theorem monitor_accepts_model (wireOK : String → Bool) (hw : ∀ v ∈ supportedProtocolVersions, wireOK v = true)
    (req : Option String) (S : Setup) : monitor req S (obsOf (connect wireOK req S)) = none := by
  have hreq : connect wireOK req S = connect wireOK (some (startVersion req)) S := by
    have : startVersion (some (startVersion req)) = startVersion req := by
      cases req with
      | none => decide
      | some s => simp only [startVersion]; split <;> simp_all <;> decide
    unfold connect; rw [this]
  have hmut : mutualOK req S = true → connect wireOK req S = .negotiated (startVersion req) := by
    intro hm
    simp only [mutualOK, Bool.and_eq_true] at hm
    have hs : startVersion req ∈ supportedProtocolVersions := by simpa using hm.1
    rw [hreq]
    exact requested_honoured_if_mutual wireOK _ S hs hm.2 (hw _ hs)
  cases hc : connect wireOK req S with
  | negotiated v =>
    obtain he | ⟨v', hv, h1, h2, _⟩ := negotiated_supported wireOK req S
    · rw [hc] at he; cases he
    rw [hc] at hv; cases hv
    exact silent_ok.2 ⟨rfl, rfl, h1, h2, fun hk => modern_never_on_sse_or_stateful wireOK req S hk v hc,
      fun hm => by have := hmut hm; rw [hc] at this; cases this; rfl⟩
  | error =>
    refine silent_error.2 ⟨Bool.eq_false_iff.2 fun hm => ?_, Bool.eq_false_iff.2 fun hl => ?_⟩
    · have := hmut hm; rw [hc] at this; cases this
    · obtain ⟨v, hv, hlt⟩ := (any_legacy_iff S).1 hl
      exact error_only_without_legacy wireOK req S hc v hv hlt

/-- The records the model itself produces for a list of cells. -/
def modelTrace (wire : TKind → String → Bool) (cells : List (Option String × Setup)) : Trace :=
  cells.map fun c => ⟨c.1, c.2, obsOf (connect (wire c.2.kind) c.1 c.2)⟩

theorem runMon_model (wire : TKind → String → Bool) (hw : ∀ k, ∀ v ∈ supportedProtocolVersions, wire k v = true)
    (cells : List (Option String × Setup)) : runMon (modelTrace wire cells) = none := by
  rw [runMon, runMonFrom_eq]
  refine FirstReport.first_eq_none.2 fun k c hk => ?_
  obtain ⟨x, -, rfl⟩ := List.mem_map.1 (List.mem_of_getElem? hk)
  exact monitor_accepts_model _ (hw x.2.kind) x.1 x.2

/-- The model satisfies every clause, in every cell of every matrix.  (A step of a sequence of connections to one
Server value has the cell's outcome, `seq_step_history_independent`, so the same holds of it.) -/
theorem model_satisfies_P (wire : TKind → String → Bool) (hw : ∀ k, ∀ v ∈ supportedProtocolVersions, wire k v = true)
    (cells : List (Option String × Setup)) (cl : Clause) : P_of cl (modelTrace wire cells) :=
  monitor_complete _ (runMon_model wire hw cells) cl

structure PCell where
  req : Option String
  P : Peer
  obs : Obs

abbrev PTrace := List PCell

def runPeerFrom : Nat → PTrace → Option (Nat × PClause)
  | _, [] => none
  | i, c :: tr =>
    match monitorPeer c.req c.P c.obs with
    | some cl => some (i, cl)
    | none => runPeerFrom (i + 1) tr

def runPeer (tr : PTrace) : Option (Nat × PClause) := runPeerFrom 0 tr

/-- The version the client starts from. -/
abbrev PCell.pv (c : PCell) : String := startVersion c.req

/-- The peer answers the legacy handshake the client would attempt with `v`. -/
def InitAnswers (c : PCell) (v : String) : Prop := c.P.init (legacyRequest c.req) = some v

/-- A DiscoverResult the client gets to see lists `v`: the answer to its first probe, or — after a
-32022 naming a modern mutually supported version — the answer to the second one. -/
def Offered (P : Peer) (pv v : String) : Prop :=
  (∃ vs, P.discover pv = .result vs ∧ v ∈ vs) ∨
  (∃ data vs, P.discover pv = .unsupported data ∧ negotiateMutuallySupportedVersion data ≠ "" ∧
    ¬ negotiateMutuallySupportedVersion data < modern ∧
    P.discover (negotiateMutuallySupportedVersion data) = .result vs ∧ v ∈ vs)

/-- The requested version is supported by the SDK and by the peer, on the path it travels. -/
def PeerMutual (c : PCell) : Prop :=
  c.pv ∈ supportedProtocolVersions ∧
  ((c.pv < modern ∧ c.P.init c.pv = some c.pv) ∨
   (¬ c.pv < modern ∧ ∃ vs, c.P.discover c.pv = .result vs ∧ c.pv ∈ vs))

/-- "supported by both sides": the client never settles on a version this SDK does not implement. -/
def P_peer_negotiated_supported_by_sdk (tr : PTrace) : Prop :=
  ∀ c ∈ tr, ∀ v l k, c.obs = .ok v l k → v ∈ supportedProtocolVersions

/-- A legacy version is negotiated only by the initialize handshake, as the peer answered it. -/
def P_peer_legacy_only_by_initialize (tr : PTrace) : Prop :=
  ∀ c ∈ tr, ∀ v l k, c.obs = .ok v l k → v < modern → InitAnswers c v

/-- A modern version is negotiated only if the peer offered it: in a DiscoverResult the client saw, or
in its initialize answer. -/
def P_peer_modern_only_if_offered (tr : PTrace) : Prop :=
  ∀ c ∈ tr, ∀ v l k, c.obs = .ok v l k → ¬ v < modern →
    InitAnswers c v ∨ (¬ c.pv < modern ∧ Offered c.P c.pv v)

def P_peer_requested_honoured_if_mutual (tr : PTrace) : Prop :=
  ∀ c ∈ tr, PeerMutual c → ∀ v l k, c.obs = .ok v l k → v = c.pv

def P_peer_connects_if_mutual (tr : PTrace) : Prop := ∀ c ∈ tr, PeerMutual c → c.obs ≠ .error

/-- "falls back … to the initialize handshake whenever discovery is unavailable or yields no modern
overlap": connecting does not fail while the peer answers the handshake with a supported version. -/
def P_peer_fallback_to_initialize (tr : PTrace) : Prop :=
  ∀ c ∈ tr, (∃ w, InitAnswers c w ∧ w ∈ supportedProtocolVersions) → c.obs ≠ .error

def P_peer_session_usable (tr : PTrace) : Prop :=
  ∀ c ∈ tr, ∀ v l k, c.obs = .ok v l k → l = true ∧ k = true

def P_peer_outcome_observed (tr : PTrace) : Prop := ∀ c ∈ tr, c.obs ≠ .other ∧ c.obs ≠ .garbled

def PP_of : PClause → PTrace → Prop
  | .f30 | .notSDK => P_peer_negotiated_supported_by_sdk
  | .legacyNotInit => P_peer_legacy_only_by_initialize
  | .notOffered => P_peer_modern_only_if_offered
  | .mutualDiff => P_peer_requested_honoured_if_mutual
  | .mutualErr => P_peer_connects_if_mutual
  | .fallbackLegacy | .fallbackUnavailable | .fallbackNoOverlap => P_peer_fallback_to_initialize
  | .cannotUse => P_peer_session_usable
  | .unreadable | .crashed => P_peer_outcome_observed

theorem discLists_any_iff (P : Peer) (pv v : String) :
    (discLists P pv).any (·.contains v) = true ↔ Offered P pv v := by
  unfold discLists Offered
  cases hd : P.discover pv with
  | unavailable => simp
  | result vs => simp
  | unsupported data =>
    simp only [reduceCtorEq, false_and, exists_false, false_or, DiscResp.unsupported.injEq, exists_and_left,
      exists_eq_left']
    by_cases hc : negotiateMutuallySupportedVersion data ≠ "" ∧ ¬ negotiateMutuallySupportedVersion data < modern
    · rw [if_pos hc]
      cases hd2 : P.discover (negotiateMutuallySupportedVersion data) with
      | unavailable => simp
      | unsupported d2 => simp
      | result vs => simp [hc.1, hc.2]
    · rw [if_neg hc]
      simp only [List.any_nil, Bool.false_eq_true, false_iff]
      rintro ⟨h1, h2, _⟩
      exact hc ⟨h1, h2⟩

theorem peerMutual_iff (c : PCell) : peerMutual c.req c.P = true ↔ PeerMutual c := by
  unfold peerMutual PeerMutual PCell.pv
  simp only [Bool.and_eq_true, List.contains_iff_mem]
  constructor
  · rintro ⟨h1, h2⟩
    refine ⟨h1, ?_⟩
    by_cases hlt : startVersion c.req < modern
    · rw [if_pos hlt] at h2; exact Or.inl ⟨hlt, by simpa using h2⟩
    · rw [if_neg hlt] at h2
      cases hd : c.P.discover (startVersion c.req) with
      | unavailable => rw [hd] at h2; cases h2
      | unsupported d => rw [hd] at h2; cases h2
      | result vs => rw [hd] at h2; exact Or.inr ⟨hlt, vs, rfl, by simpa using h2⟩
  · rintro ⟨h1, h2⟩
    refine ⟨h1, ?_⟩
    rcases h2 with ⟨hlt, hi⟩ | ⟨hlt, vs, hd, hv⟩
    · rw [if_pos hlt]; simp [hi]
    · rw [if_neg hlt, hd]; simpa using hv

theorem peerVerdict_negotiated {req : Option String} {P : Peer} {v : String} {cl : PClause}
    (h : peerVerdict req P (.negotiated v) = some cl) :
    (v ∉ supportedProtocolVersions ∧ (cl = .f30 ∨ cl = .notSDK)) ∨
    (v < modern ∧ P.init (legacyRequest req) ≠ some v ∧ cl = .legacyNotInit) ∨
    (¬ v < modern ∧ P.init (legacyRequest req) ≠ some v ∧
      ¬ (¬ startVersion req < modern ∧ Offered P (startVersion req) v) ∧ cl = .notOffered) ∨
    (peerMutual req P = true ∧ v ≠ startVersion req ∧ cl = .mutualDiff) := by
  rw [peerVerdict] at h
  by_cases h1 : supportedProtocolVersions.contains v = false
  · rw [if_pos h1] at h
    refine .inl ⟨by simpa using h1, ?_⟩
    split at h
    · exact .inl (Option.some.inj h).symm
    · exact .inr (Option.some.inj h).symm
  rw [if_neg h1] at h
  rcases ite_some_eq_some.1 h with ⟨h2, rfl⟩ | ⟨-, h⟩
  · exact .inr (.inl ⟨h2.1, h2.2, rfl⟩)
  rcases ite_some_eq_some.1 h with ⟨h3, rfl⟩ | ⟨-, h⟩
  · rw [discLists_any_iff] at h3
    exact .inr (.inr (.inl ⟨h3.1, h3.2.1, h3.2.2, rfl⟩))
  rcases ite_some_eq_some.1 h with ⟨h4, rfl⟩ | ⟨-, h⟩
  · exact .inr (.inr (.inr ⟨h4.1, h4.2, rfl⟩))
  · cases h

theorem silent_peer_ok {req : Option String} {P : Peer} {v : String} {l k : Bool}
    (h : monitorPeer req P (.ok v l k) = none) :
    l = true ∧ k = true ∧ v ∈ supportedProtocolVersions ∧ (v < modern → P.init (legacyRequest req) = some v) ∧
    (¬ v < modern → P.init (legacyRequest req) = some v ∨ (¬ startVersion req < modern ∧ Offered P (startVersion req) v)) ∧
    (peerMutual req P = true → v = startVersion req) := by
  rw [monitorPeer] at h
  cases hv : peerVerdict req P (.negotiated v) with
  | some cl => rw [hv] at h; cases h
  | none =>
    rw [hv] at h
    have hlk : l = true ∧ k = true := by cases l <;> cases k <;> first | exact ⟨rfl, rfl⟩ | cases h
    obtain ⟨h1, h2, h3, h4⟩ := peerVerdict_negotiated_none.1 hv
    rw [discLists_any_iff] at h3
    refine ⟨hlk.1, hlk.2, h1, fun hlt => ?_, fun hge => ?_, fun hm => ?_⟩
    · exact Classical.byContradiction fun hne => h2 ⟨hlt, hne⟩
    · by_cases hi : P.init (legacyRequest req) = some v
      · exact .inl hi
      · exact .inr (Classical.byContradiction fun ho => h3 ⟨hge, hi, ho⟩)
    · exact Classical.byContradiction fun hne => h4 ⟨hm, hne⟩

theorem peerVerdict_error {req : Option String} {P : Peer} {cl : PClause} (h : peerVerdict req P .error = some cl) :
    (peerMutual req P = true ∧ cl = .mutualErr) ∨
    (∃ w, P.init (legacyRequest req) = some w ∧ w ∈ supportedProtocolVersions ∧
      (cl = .fallbackLegacy ∨ cl = .fallbackUnavailable ∨ cl = .fallbackNoOverlap)) := by
  simp only [peerVerdict] at h
  split at h
  · rename_i h1; simp only [Option.some.injEq] at h; exact Or.inl ⟨h1, h.symm⟩
  · split at h
    · rename_i w hw
      split at h
      · rename_i hs
        simp only [Option.some.injEq] at h
        refine Or.inr ⟨w, hw, by simpa using hs, ?_⟩
        rw [← h]
        unfold clFallback
        split
        · exact Or.inl rfl
        · split
          · exact Or.inr (Or.inl rfl)
          · exact Or.inr (Or.inr rfl)
      · cases h
    · cases h

def PFiresAt (tr : PTrace) (j : Nat) (cl : PClause) : Prop :=
  ∃ c, tr[j]? = some c ∧ monitorPeer c.req c.P c.obs = some cl

theorem runPeerFrom_eq (i : Nat) (tr : PTrace) :
    runPeerFrom i tr = FirstReport.first (fun (_ : Unit) (c : PCell) => ((), monitorPeer c.req c.P c.obs)) () i tr := by
  induction tr generalizing i with
  | nil => rfl
  | cons c tr ih => rw [runPeerFrom, FirstReport.first, ih]; cases monitorPeer c.req c.P c.obs <;> rfl

theorem sound_peer (tr : PTrace) (j : Nat) (cl : PClause) (hf : PFiresAt tr j cl) : ¬ PP_of cl tr := by
  obtain ⟨c, hj, hm⟩ := hf
  have hc : c ∈ tr := List.mem_of_getElem? hj
  intro hP
  cases ho : c.obs with
  | garbled => rw [ho] at hm; cases hm; exact (hP c hc).2 ho
  | other => rw [ho] at hm; cases hm; exact (hP c hc).1 ho
  | error =>
    rw [ho] at hm
    rcases peerVerdict_error hm with ⟨h1, e⟩ | ⟨w, h1, h2, e | e | e⟩ <;> subst e
    · exact hP c hc ((peerMutual_iff c).1 h1) ho
    · exact hP c hc ⟨w, h1, h2⟩ ho
    · exact hP c hc ⟨w, h1, h2⟩ ho
    · exact hP c hc ⟨w, h1, h2⟩ ho
  | ok v l k =>
    rw [ho, monitorPeer] at hm
    cases hv : peerVerdict c.req c.P (.negotiated v) with
    | none =>
      rw [hv] at hm
      rcases ite_some_eq_some.1 hm with ⟨h1, rfl⟩ | ⟨-, h⟩
      · rw [(hP c hc v l k ho).1, (hP c hc v l k ho).2] at h1; cases h1
      · cases h
    | some cl' =>
      rw [hv] at hm; cases hm
      rcases peerVerdict_negotiated hv with ⟨h1, e | e⟩ | ⟨h1, h2, e⟩ | ⟨h1, h2, h3, e⟩ | ⟨h1, h2, e⟩ <;> subst e
      · exact h1 (hP c hc v l k ho)
      · exact h1 (hP c hc v l k ho)
      · exact h2 (hP c hc v l k ho h1)
      · exact (hP c hc v l k ho h1).elim h2 h3
      · exact h2 (hP c hc ((peerMutual_iff c).1 h1) v l k ho)

theorem peer_monitor_sound (tr : PTrace) (j : Nat) (cl : PClause) (h : runPeer tr = some (j, cl)) : ¬ PP_of cl tr := by
  rw [runPeer, runPeerFrom_eq] at h
  obtain ⟨k, c, rfl, hk, hm, -⟩ := FirstReport.first_eq_some.1 h
  exact sound_peer tr _ cl ⟨c, by simpa using hk, hm⟩

theorem peer_monitor_complete (tr : PTrace) (h : runPeer tr = none) (cl : PClause) : PP_of cl tr := by
  rw [runPeer, runPeerFrom_eq] at h
  have hall : ∀ c ∈ tr, monitorPeer c.req c.P c.obs = none := fun c hc =>
    let ⟨k, hk⟩ := List.mem_iff_getElem?.1 hc; FirstReport.first_eq_none.1 h k c hk
  have ok : ∀ c ∈ tr, ∀ v l k, c.obs = .ok v l k → _ := fun c hc v l k ho => silent_peer_ok (ho ▸ hall c hc)
  have err : ∀ c ∈ tr, c.obs = .error → _ := fun c hc ho => peerVerdict_error_none.1 (ho ▸ hall c hc)
  cases cl with
  | f30 | notSDK => exact fun c hc v l k ho => (ok c hc v l k ho).2.2.1
  | legacyNotInit => exact fun c hc v l k ho => (ok c hc v l k ho).2.2.2.1
  | notOffered => exact fun c hc v l k ho => (ok c hc v l k ho).2.2.2.2.1
  | mutualDiff => exact fun c hc hm v l k ho => (ok c hc v l k ho).2.2.2.2.2 ((peerMutual_iff c).2 hm)
  | mutualErr =>
    exact fun c hc hm ho => Bool.false_ne_true ((err c hc ho).1.symm.trans ((peerMutual_iff c).2 hm))
  | fallbackLegacy | fallbackUnavailable | fallbackNoOverlap =>
    exact fun c hc ⟨w, h1, h2⟩ ho => (err c hc ho).2 w h1 h2
  | cannotUse => exact fun c hc v l k ho => ⟨(ok c hc v l k ho).1, (ok c hc v l k ho).2.1⟩
  | unreadable | crashed =>
    intro c hc
    have := hall c hc
    constructor <;> (intro ho; rw [ho] at this; cases this)

/-- Against every peer and for every requested string the
foreign-peer monitor reports nothing on the model's outcome. -/
theorem peer_monitor_accepts_model (req : Option String) (P : Peer) :
    monitorPeer req P (obsOf (connectPeer req P)) = none := by
  have := peerVerdict_model req P
  cases hc : connectPeer req P with
  | negotiated v => rw [hc] at this; simp [obsOf, monitorPeer, this]
  | error => rw [hc] at this; simp [obsOf, monitorPeer, this]

/-! ### Non-vacuity: concrete cells on which clauses are reported (evaluated).  `modernOnStateful` has none: `monitor` tests
`transportSupports` first, which over SSE / a stateful endpoint implies a legacy version.  Four foreign-peer clauses are shown. -/

section Witness
def sMem : Setup := { kind := .mem, subset := none }
def sOnly0618 : Setup := { kind := .mem, subset := some ["2025-06-18"] }
example : runMon [⟨none, sMem, .garbled⟩] = some (0, .unreadable) := by decide +kernel
example : runMon [⟨none, sMem, .other⟩] = some (0, .crashed) := by decide +kernel
example : runMon [⟨none, sMem, .ok "2099-01-01" true true⟩] = some (0, .notSDK) := by decide +kernel
example : runMon [⟨none, sOnly0618, .ok "2025-11-25" true true⟩] = some (0, .f10) := by decide +kernel
example : runMon [⟨none, sOnly0618, .ok "2026-07-28" true true⟩] = some (0, .notTransport) := by decide +kernel
example : runMon [⟨none, { kind := .stateful, subset := some ["2026-07-28"] }, .ok "2026-07-28" true true⟩] = some (0, .notTransport) := by decide +kernel
example : runMon [⟨some "2025-06-18", sMem, .ok "2025-11-25" true true⟩] = some (0, .mutualDiff) := by decide +kernel
example : runMon [⟨none, sMem, .ok "2026-07-28" true false⟩] = some (0, .cannotUse) := by decide +kernel
example : runMon [⟨none, sMem, .error⟩] = some (0, .mutualErr) := by decide +kernel
example : runMon [⟨some "2099-01-01", sOnly0618, .error⟩] = some (0, .noFallback) := by decide +kernel
example : runMon (modelTrace (fun _ _ => true) [(none, sMem), (some "2024-01-01", sOnly0618), (some "x", { kind := .sse, subset := none })]) = none := by decide +kernel
example : runPeer [⟨some "2099-12-31", { discover := fun _ => .result ["2099-12-31"], init := fun _ => none }, .ok "2099-12-31" true true⟩]
    = some (0, .f30) := by decide +kernel
example : runPeer [⟨none, legacyPeer, .ok "2025-11-25" true true⟩] = some (0, .legacyNotInit) := by decide +kernel
example : runPeer [⟨none, legacyPeer, .ok "2026-07-28" true true⟩] = some (0, .notOffered) := by decide +kernel
example : runPeer [⟨none, legacyPeer, .error⟩] = some (0, .fallbackUnavailable) := by decide +kernel
example : runPeer [⟨none, legacyPeer, obsOf (connectPeer none legacyPeer)⟩] = none := by decide +kernel
end Witness

end Negotiate
