import McpModel.Base.Logic
import McpModel.Negotiate.Peer
/-!
# C07 — property theorems for version negotiation (model: `Negotiate.connect`)


`connect wireOK requested S` is a total function; every theorem quantifies over **every**
`requested : Option String` (any string whatsoever, or the default), every transport kind, every
advertised subset (an arbitrary list of strings), both HTTP options and every `wireOK`.  The proofs
are case analyses on the decidable facts the code uses: membership in the regenerated version list
and comparison with `"2026-07-28"`.  They are re-checked against the regenerated
`Generated.Negotiate` on every run, so a changed version list, helper or `SupportsProtocolVersion`
table re-opens them.  `negotiated_supported` needs `legacyVersionFor` (finding F10): where `initialize`
ignores the transport filter it does not hold.
-/
namespace Negotiate
open Generated.Negotiate

theorem mem_advertised {S : Setup} {v : String} :
    v ∈ advertised S ↔ v ∈ supportedProtocolVersions ∧ transportSupports S v = true := by
  simp [advertised, List.mem_filter]

theorem empty_not_supported : "" ∉ supportedProtocolVersions := by decide +kernel

theorem mutual_mem (l : List String) (h : negotiateMutuallySupportedVersion l ≠ "") :
    negotiateMutuallySupportedVersion l ∈ l ∧ negotiateMutuallySupportedVersion l ∈ supportedProtocolVersions := by
  unfold negotiateMutuallySupportedVersion at h ⊢
  generalize hf : supportedProtocolVersions.find? (fun ver => l.contains ver) = o at h ⊢
  cases o with
  | none => exact absurd rfl h
  | some w =>
    have h1 := List.find?_some hf
    have h2 := List.mem_of_find?_eq_some hf
    exact ⟨by simpa using h1, h2⟩

/-- What `initialize` answers is `""` or a version the transport advertises (finding F10). -/
theorem legacyVersionFor_mem (v : String) (adv : List String) (h : legacyVersionFor v adv ≠ "") :
    legacyVersionFor v adv ∈ adv := by
  unfold legacyVersionFor at h ⊢
  by_cases hc : adv.contains v = true
  · rw [if_pos hc]; simpa using hc
  · rw [if_neg hc] at h ⊢
    generalize hf : supportedProtocolVersions.find?
        (fun v => decide (v < protocolVersion20260728) && adv.contains v) = o at h ⊢
    cases o with
    | none => exact absurd rfl h
    | some w =>
      have h1 := List.find?_some hf
      simp only [Bool.and_eq_true] at h1
      show w ∈ adv
      simpa using h1.2

theorem pickC_mem {vs : List String} {v : String} (h : pickC vs v ≠ "") :
    pickC vs v ∈ vs ∧ pickC vs v ∈ supportedProtocolVersions := by
  unfold pickC at h ⊢
  by_cases hc : (vs.contains v && supportedProtocolVersions.contains v) = true
  · rw [if_pos hc]
    simp only [Bool.and_eq_true] at hc
    exact ⟨by simpa using hc.1, by simpa using hc.2⟩
  · rw [if_neg hc] at h ⊢; exact mutual_mem _ h

theorem clientDiscover_ok {resp : DiscResp} {v n : String} (h : clientDiscover resp v = .ok n) :
    ∃ vs, resp = .result vs ∧ n ∈ vs ∧ n ∈ supportedProtocolVersions ∧ ¬ n < modern := by
  unfold clientDiscover at h
  cases resp with
  | unavailable => cases h
  | unsupported d => cases h
  | result vs =>
    simp only at h
    by_cases h3 : pickC vs v = "" ∨ pickC vs v < modern
    · rw [if_pos h3] at h; cases h
    · rw [if_neg h3] at h
      injection h with h
      subst h
      obtain ⟨h1, h2⟩ := pickC_mem (fun e => h3 (Or.inl e))
      exact ⟨vs, rfl, h1, h2, fun e => h3 (Or.inr e)⟩

theorem peerLoop_some {P : Peer} {pv n : String} (h : peerLoop P pv = some n) :
    n ∈ supportedProtocolVersions ∧ ¬ n < modern ∧ (discLists P pv).any (·.contains n) = true := by
  unfold peerLoop at h
  unfold discLists
  cases hp : P.discover pv with
  | unavailable => rw [hp] at h; cases h
  | result vs =>
    rw [hp] at h
    cases hd : clientDiscover (.result vs) pv with
    | ok m =>
      rw [hd] at h; cases h
      obtain ⟨_, hr, h1, h2, h3⟩ := clientDiscover_ok hd
      cases hr
      exact ⟨h2, h3, by simpa using h1⟩
    | failed => rw [hd] at h; cases h
    | unsupported d => simp only [clientDiscover] at hd; split at hd <;> cases hd
  | unsupported data =>
    rw [hp, show clientDiscover (.unsupported data) pv = .unsupported data from rfl] at h
    simp only [] at h ⊢
    by_cases hc : negotiateMutuallySupportedVersion data ≠ "" ∧ ¬ negotiateMutuallySupportedVersion data < modern
    · rw [if_pos hc] at h ⊢
      cases hd2 : clientDiscover (P.discover (negotiateMutuallySupportedVersion data))
          (negotiateMutuallySupportedVersion data) with
      | ok m =>
        rw [hd2] at h; cases h
        obtain ⟨vs, hr, h1, h2, h3⟩ := clientDiscover_ok hd2
        rw [hr]
        exact ⟨h2, h3, by simpa using h1⟩
      | failed => rw [hd2] at h; cases h
      | unsupported d2 => rw [hd2] at h; cases h
    · rw [if_neg hc] at h; cases h

/-- The initialize handshake yields a session exactly when
the peer answers with a version this SDK implements — membership in the regenerated list, not a
range test: an unknown in-range string such as "2025-01-15" or "2026-03-01", an out-of-range or a
malformed one makes Connect fail. -/
theorem peerInit_accepts_iff (P : Peer) (iv v : String) :
    peerInit P iv = .negotiated v ↔ P.init iv = some v ∧ v ∈ supportedProtocolVersions := by
  unfold peerInit
  cases hi : P.init iv with
  | none => simp
  | some w =>
    simp only
    by_cases hw : w ∈ supportedProtocolVersions
    · rw [if_pos hw]
      constructor
      · intro h; injection h with h; subst h; exact ⟨rfl, hw⟩
      · intro ⟨h, _⟩; injection h with h; subst h; rfl
    · rw [if_neg hw]
      constructor
      · intro h; cases h
      · intro ⟨h, h2⟩; injection h with h; subst h; exact absurd h2 hw

/-- Against EVERY peer — whatever it answers to server/discover and
to initialize, for every requested string — Connect fails or the negotiated version is one this
SDK implements AND one the peer offered: a modern one from a DiscoverResult the client saw, or the
peer's own answer to the initialize handshake. -/
theorem peer_negotiated_supported (requested : Option String) (P : Peer) (v : String)
    (h : connectPeer requested P = .negotiated v) :
    v ∈ supportedProtocolVersions ∧
    ((¬ startVersion requested < modern ∧ ¬ v < modern ∧
        (discLists P (startVersion requested)).any (·.contains v) = true) ∨
      P.init (legacyRequest requested) = some v) := by
  unfold connectPeer at h
  unfold legacyRequest
  by_cases hlt : startVersion requested < modern
  · rw [if_pos hlt] at h ⊢
    obtain ⟨h1, h2⟩ := (peerInit_accepts_iff _ _ _).1 h
    exact ⟨h2, Or.inr h1⟩
  · rw [if_neg hlt] at h ⊢
    cases hl : peerLoop P (startVersion requested) with
    | some n =>
      rw [hl] at h; injection h with h; subst h
      obtain ⟨h1, h2, h3⟩ := peerLoop_some hl
      exact ⟨h1, Or.inl ⟨hlt, h2, h3⟩⟩
    | none =>
      rw [hl] at h
      obtain ⟨h1, h2⟩ := (peerInit_accepts_iff _ _ _).1 h
      exact ⟨h2, Or.inr h1⟩

/-- No version of the list that the SDK implements is a modern one. -/
def noModernOverlap (vs : List String) : Prop :=
  ∀ v ∈ vs, v ∈ supportedProtocolVersions → v < modern

theorem clientDiscover_noOverlap {vs : List String} {v : String} (h : noModernOverlap vs) :
    clientDiscover (.result vs) v = .failed := by
  unfold clientDiscover
  simp only
  by_cases h3 : pickC vs v = "" ∨ pickC vs v < modern
  · rw [if_pos h3]
  · exfalso
    obtain ⟨h1, h2⟩ := pickC_mem (fun e => h3 (Or.inl e))
    exact h3 (Or.inr (h _ h1 h2))

/-- Whenever the probe is
answered with anything that is not a DiscoverResult or a -32022-with-data (HTTP 404/405/400/5xx text,
JSON-RPC method-not-found in any status, …), or with a DiscoverResult / -32022 data without a modern
SDK-supported version, the outcome of Connect is exactly the outcome of the initialize handshake. -/
theorem peer_fallback_when_discovery_unavailable_or_no_overlap (requested : Option String) (P : Peer)
    (h : P.discover (startVersion requested) = .unavailable ∨
      (∃ vs, P.discover (startVersion requested) = .result vs ∧ noModernOverlap vs) ∨
      (∃ d, P.discover (startVersion requested) = .unsupported d ∧ noModernOverlap d)) :
    connectPeer requested P = peerInit P (legacyRequest requested) := by
  unfold connectPeer legacyRequest
  by_cases hlt : startVersion requested < modern
  · rw [if_pos hlt, if_pos hlt]
  · rw [if_neg hlt, if_neg hlt]
    have hnone : peerLoop P (startVersion requested) = none := by
      unfold peerLoop
      rcases h with h | ⟨vs, h, hv⟩ | ⟨d, h, hd⟩
      · rw [h]; rfl
      · rw [h, clientDiscover_noOverlap hv]
      · rw [h]
        simp only [clientDiscover]
        by_cases hc : negotiateMutuallySupportedVersion d ≠ "" ∧ ¬ negotiateMutuallySupportedVersion d < modern
        · exfalso
          obtain ⟨h1, h2⟩ := mutual_mem d hc.1
          exact hc.2 (hd _ h1 h2)
        · rw [if_neg hc]
    rw [hnone]

/-- Connect fails only when the initialize handshake fails:
whatever went wrong with discovery, a peer that answers initialize with a supported version ends
up with a session. -/
theorem peer_error_only_if_init_fails (requested : Option String) (P : Peer)
    (h : connectPeer requested P = .error) : peerInit P (legacyRequest requested) = .error := by
  unfold connectPeer at h
  unfold legacyRequest
  by_cases hlt : startVersion requested < modern
  · rw [if_pos hlt] at h ⊢; exact h
  · rw [if_neg hlt] at h ⊢
    cases hl : peerLoop P (startVersion requested) with
    | some n => rw [hl] at h; cases h
    | none => rw [hl] at h; exact h

/-- When the requested version is supported by the SDK and by the peer on the path it travels, it is what Connect negotiates. -/
theorem peer_requested_honoured_if_mutual (requested : Option String) (P : Peer)
    (h : peerMutual requested P = true) : connectPeer requested P = .negotiated (startVersion requested) := by
  unfold peerMutual at h
  simp only [Bool.and_eq_true] at h
  obtain ⟨hs, hp⟩ := h
  have hs' : startVersion requested ∈ supportedProtocolVersions := by simpa using hs
  have hne : startVersion requested ≠ "" := fun e => empty_not_supported (e ▸ hs')
  unfold connectPeer
  by_cases hlt : startVersion requested < modern
  · rw [if_pos hlt] at hp ⊢
    exact (peerInit_accepts_iff _ _ _).2 ⟨by simpa using hp, hs'⟩
  · rw [if_neg hlt] at hp ⊢
    cases hd : P.discover (startVersion requested) with
    | unavailable => rw [hd] at hp; cases hp
    | unsupported d => rw [hd] at hp; cases hp
    | result vs =>
      rw [hd] at hp
      simp only at hp
      have hpk : pickC vs (startVersion requested) = startVersion requested := by
        unfold pickC; rw [hp, hs]; rfl
      have : peerLoop P (startVersion requested) = some (startVersion requested) := by
        unfold peerLoop clientDiscover
        rw [hd]
        simp only [hpk]
        rw [if_neg (by simp [hne, hlt])]
      rw [this]

theorem peerVerdict_negotiated_none {req : Option String} {P : Peer} {v : String} :
    peerVerdict req P (.negotiated v) = none ↔
      v ∈ supportedProtocolVersions ∧ ¬ (v < modern ∧ P.init (legacyRequest req) ≠ some v) ∧
      ¬ (¬ v < modern ∧ P.init (legacyRequest req) ≠ some v ∧
        ¬ (¬ startVersion req < modern ∧ (discLists P (startVersion req)).any (·.contains v) = true)) ∧
      ¬ (peerMutual req P = true ∧ v ≠ startVersion req) := by
  simp only [peerVerdict, ite_some_eq_none, and_true, Bool.not_eq_false, List.contains_iff_mem]

theorem peerVerdict_error_none {req : Option String} {P : Peer} :
    peerVerdict req P .error = none ↔
      peerMutual req P = false ∧ ∀ w, P.init (legacyRequest req) = some w → w ∉ supportedProtocolVersions := by
  simp only [peerVerdict, ite_some_eq_none, Bool.not_eq_true]
  cases P.init (legacyRequest req) with
  | none => simp
  | some w => simp

/-- The property C07, as the monitor states it for foreign-peer cells, holds
of the model's outcome for every requested string and every peer (so a monitor alarm on the real
code is never an artefact of the model). -/
theorem peerVerdict_model (requested : Option String) (P : Peer) :
    peerVerdict requested P (connectPeer requested P) = none := by
  have hmut := peer_requested_honoured_if_mutual requested P
  cases hc : connectPeer requested P with
  | negotiated v =>
    obtain ⟨h1, h2⟩ := peer_negotiated_supported requested P v hc
    refine peerVerdict_negotiated_none.2 ⟨h1, fun ⟨hlt, hne⟩ => ?_, fun ⟨_, hne, hno⟩ => ?_, fun ⟨hm, hne⟩ => ?_⟩
    · exact h2.elim (fun h => h.2.1 hlt) hne
    · exact h2.elim (fun h => hno ⟨h.1, h.2.2⟩) hne
    · cases (hmut hm).symm.trans hc; exact hne rfl
  | error =>
    refine peerVerdict_error_none.2 ⟨Bool.eq_false_iff.2 (fun hm => nomatch (hmut hm).symm.trans hc), fun w hw hs => ?_⟩
    have := (peerInit_accepts_iff P (legacyRequest requested) w).2 ⟨hw, hs⟩
    rw [peer_error_only_if_init_fails requested P hc] at this; cases this

/-! ## SDK × SDK: the peer is the SDK server

`connect` is `connectPeer` at `sdkPeer`, so what holds against every peer holds in every cell of the SDK matrix; what
is special about the SDK server is that it lists, and answers `initialize` with, advertised versions only. -/

/-- Against a probe naming an SDK-supported version the second conjunct of `pickC` (negotiate-F30) is redundant. -/
theorem pickC_eq_pick {vs : List String} {v : String} (h : supportedProtocolVersions.contains v = true) :
    pickC vs v = pick vs v := by
  unfold pickC pick
  rw [h, Bool.and_true]

theorem clientDiscover_sdkPeer (wireOK : String → Bool) (S : Setup) (v : String) :
    clientDiscover ((sdkPeer wireOK S).discover v) v = discoverOnce wireOK S v := by
  unfold sdkPeer discoverOnce clientDiscover
  simp only
  by_cases h1 : wireOK v = false
  · rw [if_pos h1, if_pos h1]
  · rw [if_neg h1, if_neg h1]
    by_cases h2 : supportedProtocolVersions.contains v = false
    · rw [if_pos h2, if_pos h2]
    · rw [if_neg h2, if_neg h2]
      simp only
      rw [pickC_eq_pick (by simpa using h2)]

theorem peerLoop_sdkPeer (wireOK : String → Bool) (S : Setup) (pv : String) :
    peerLoop (sdkPeer wireOK S) pv = discoverLoop wireOK S pv := by
  unfold peerLoop discoverLoop
  rw [clientDiscover_sdkPeer]
  cases discoverOnce wireOK S pv with
  | ok n => rfl
  | failed => rfl
  | unsupported data =>
    simp only
    rw [clientDiscover_sdkPeer]
    rfl

theorem peerInit_sdkPeer (wireOK : String → Bool) (S : Setup) (iv : String) :
    peerInit (sdkPeer wireOK S) iv = initHandshake S iv := by
  unfold peerInit sdkPeer initHandshake
  simp only
  by_cases h1 : legacyVersionFor (negotiatedVersion iv) (advertised S) = ""
  · rw [if_pos h1, if_pos h1]
  · rw [if_neg h1, if_neg h1]

/-- The SDK x SDK model of `Model.lean` is the instance of `connectPeer`
at the SDK server: everything proved for all peers holds in every cell of the SDK matrix (`pickC_eq_pick`). -/
theorem connect_eq_connectPeer (wireOK : String → Bool) (requested : Option String) (S : Setup) :
    connect wireOK requested S = connectPeer requested (sdkPeer wireOK S) := by
  unfold connect connectPeer
  rw [peerLoop_sdkPeer, peerInit_sdkPeer, peerInit_sdkPeer]
  rfl

theorem sdkPeer_result {wireOK : String → Bool} {S : Setup} {v : String} {vs : List String}
    (h : (sdkPeer wireOK S).discover v = .result vs) : vs = advertised S := by
  simp only [sdkPeer] at h
  split at h
  · cases h
  · split at h <;> cases h
    rfl

theorem sdkPeer_init {wireOK : String → Bool} {S : Setup} {iv v : String}
    (h : (sdkPeer wireOK S).init iv = some v) : v ∈ advertised S := by
  simp only [sdkPeer] at h
  split at h
  · cases h
  · rename_i hne
    cases h
    exact legacyVersionFor_mem _ _ hne

theorem discLists_sdkPeer {wireOK : String → Bool} {S : Setup} {pv : String} {vs : List String}
    (h : vs ∈ discLists (sdkPeer wireOK S) pv) : vs = advertised S := by
  unfold discLists at h
  split at h
  · rename_i hd
    rw [List.mem_singleton.1 h]; exact sdkPeer_result hd
  · split at h
    · split at h
      · rename_i hd
        rw [List.mem_singleton.1 h]; exact sdkPeer_result hd
      · cases h
    · cases h
  · cases h

theorem connect_negotiated_mem {wireOK : String → Bool} {requested : Option String} {S : Setup} {v : String}
    (hc : connect wireOK requested S = .negotiated v) : v ∈ advertised S := by
  rw [connect_eq_connectPeer] at hc
  rcases (peer_negotiated_supported _ _ _ hc).2 with ⟨_, _, h⟩ | h
  · obtain ⟨vs, hvs, hv⟩ := List.any_eq_true.1 h
    rw [discLists_sdkPeer hvs] at hv
    simpa using hv
  · exact sdkPeer_init h

/-- C07 "the negotiated version is supported by both sides": by the SDK and by the transport, wrapper included. -/
theorem negotiated_supported (wireOK : String → Bool) (requested : Option String) (S : Setup) :
    connect wireOK requested S = .error ∨
    ∃ v, connect wireOK requested S = .negotiated v ∧ v ∈ supportedProtocolVersions ∧
      transportSupports S v = true ∧ (∀ l, S.subset = some l → v ∈ l) := by
  cases hc : connect wireOK requested S with
  | error => exact Or.inl rfl
  | negotiated v =>
    refine Or.inr ⟨v, rfl, ?_⟩
    obtain ⟨h1, h2⟩ := mem_advertised.1 (connect_negotiated_mem hc)
    refine ⟨h1, h2, ?_⟩
    intro l hl
    simp only [transportSupports, hl, Bool.and_eq_true] at h2
    simpa using h2.2

/-- C07: 2026-07-28 is never negotiated over SSE or a stateful endpoint, whatever a wrapper advertises. -/
theorem modern_never_on_sse_or_stateful (wireOK : String → Bool) (requested : Option String) (S : Setup)
    (hk : S.kind = .sse ∨ S.kind = .stateful) (v : String)
    (h : connect wireOK requested S = .negotiated v) : v < modern := by
  rcases negotiated_supported wireOK requested S with he | ⟨v', hv, _, hts, _⟩
  · rw [he] at h; cases h
  · rw [hv] at h; injection h with h; subst h
    simp only [transportSupports, Bool.and_eq_true] at hts
    rcases hk with hk | hk
    · simp only [kindSupports, hk, sseSupportsProtocolVersion, decide_eq_true_eq] at hts
      exact hts.1
    · simp only [kindSupports, hk, streamableSupportsProtocolVersion] at hts
      by_cases hlt : v' < protocolVersion20260728
      · exact hlt
      · simp [hlt] at hts

/-- If the requested version is supported by the SDK and by the
transport (and its spelling travels: true of every SDK version, `supported_wire_ok` in the driver's
instance), the session negotiates exactly that version — over discover when it is ≥ 2026-07-28, over
initialize otherwise. -/
theorem requested_honoured_if_mutual (wireOK : String → Bool) (r : String) (S : Setup)
    (hs : r ∈ supportedProtocolVersions) (ht : transportSupports S r = true) (hw : wireOK r = true) :
    connect wireOK (some r) S = .negotiated r := by
  have hne : r ≠ "" := fun e => empty_not_supported (e ▸ hs)
  have hadv : (advertised S).contains r = true := by simpa using mem_advertised.2 ⟨hs, ht⟩
  have hsup : supportedProtocolVersions.contains r = true := by simpa using hs
  have hstart : startVersion (some r) = r := by simp [startVersion, hne]
  unfold connect
  rw [hstart]
  by_cases hlt : r < modern
  · rw [if_pos hlt]
    have hnv : negotiatedVersion r = r := by
      unfold negotiatedVersion
      rw [if_pos (by simp [hs, show r < protocolVersion20260728 from hlt])]
    have hlv : legacyVersionFor r (advertised S) = r := by
      unfold legacyVersionFor; rw [if_pos hadv]
    unfold initHandshake
    rw [hnv, hlv, if_neg hne, if_pos hs]
  · rw [if_neg hlt]
    have hp : pick (advertised S) r = r := by unfold pick; rw [if_pos hadv]
    have hd : discoverOnce wireOK S r = .ok r := by
      unfold discoverOnce
      rw [if_neg (by simp [hw]), if_neg (by simp [hs]), hp, if_neg (by simp [hne, hlt])]
    unfold discoverLoop
    rw [hd]

/-- The default request behaves as an explicit request for the latest version. -/
theorem default_is_latest (wireOK : String → Bool) (S : Setup) :
    connect wireOK none S = connect wireOK (some latestProtocolVersion) S := by
  have : startVersion (some latestProtocolVersion) = startVersion none := by decide
  unfold connect
  rw [this]

/-- Whenever discovery is unavailable (the discover exchange
does not get through) or the transport advertises no version ≥ 2026-07-28, the outcome of `connect`
is exactly the outcome of the initialize handshake (with the requested version when it is below the
threshold, with 2025-11-25 otherwise) — for every requested string. -/
theorem fallback_when_no_modern_overlap (wireOK : String → Bool) (requested : Option String) (S : Setup)
    (h : (∀ v ∈ advertised S, v < modern) ∨ wireOK (startVersion requested) = false) :
    connect wireOK requested S = initHandshake S (legacyRequest requested) := by
  rw [connect_eq_connectPeer, ← peerInit_sdkPeer wireOK]
  apply peer_fallback_when_discovery_unavailable_or_no_overlap
  simp only [sdkPeer]
  rcases h with h | h
  · have hno : noModernOverlap (advertised S) := fun v hv _ => h v hv
    by_cases h1 : wireOK (startVersion requested) = false
    · rw [if_pos h1]; exact .inl rfl
    rw [if_neg h1]
    by_cases h2 : supportedProtocolVersions.contains (startVersion requested) = false
    · rw [if_pos h2]; exact .inr (.inr ⟨_, rfl, hno⟩)
    · rw [if_neg h2]; exact .inr (.inl ⟨_, rfl, hno⟩)
  · rw [if_pos h]; exact .inl rfl

/-- The legacy handshake succeeds, with a version the transport advertises, whenever the transport serves a legacy
version (finding F10). -/
theorem initHandshake_total (S : Setup) (iv : String) (h : ∃ v ∈ advertised S, v < modern) :
    ∃ v, initHandshake S iv = .negotiated v ∧ v ∈ advertised S := by
  obtain ⟨w, hw, hwl⟩ := h
  have hsub : ∀ x ∈ advertised S, x ∈ supportedProtocolVersions := fun x hx => (mem_advertised.1 hx).1
  have hne : legacyVersionFor (negotiatedVersion iv) (advertised S) ≠ "" := by
    unfold legacyVersionFor
    by_cases hc : (advertised S).contains (negotiatedVersion iv) = true
    · rw [if_pos hc]
      intro e
      have : negotiatedVersion iv ∈ advertised S := by simpa using hc
      exact empty_not_supported (e ▸ hsub _ this)
    · rw [if_neg hc]
      generalize hf : supportedProtocolVersions.find?
          (fun v => decide (v < protocolVersion20260728) && (advertised S).contains v) = o
      cases o with
      | none =>
        exfalso
        rw [List.find?_eq_none] at hf
        have := hf w (hsub w hw)
        simp [show w < protocolVersion20260728 from hwl, hw] at this
      | some x =>
        intro e
        have := List.mem_of_find?_eq_some hf
        exact empty_not_supported ((show x = "" from e) ▸ this)
  have hmem := legacyVersionFor_mem _ _ hne
  refine ⟨_, ?_, hmem⟩
  unfold initHandshake
  rw [if_neg hne, if_pos (hsub _ hmem)]

/-- `connect` fails only when the transport serves no legacy version at all. -/
theorem error_only_without_legacy (wireOK : String → Bool) (requested : Option String) (S : Setup)
    (h : connect wireOK requested S = .error) : ∀ v ∈ advertised S, ¬ v < modern := by
  intro v hv hlt
  rw [connect_eq_connectPeer] at h
  have hi := peer_error_only_if_init_fails requested _ h
  rw [peerInit_sdkPeer] at hi
  obtain ⟨x, hx, _⟩ := initHandshake_total S (legacyRequest requested) ⟨v, hv, hlt⟩
  rw [hi] at hx; cases hx

/-- On ONE
Server value, the outcome of a connection is the outcome of that connection on a fresh Server: the version filter
belongs to the session's own transport, not to the Server or to the transport's type.  (By `rfl`: `Srv.step` is defined
so; what ties it to the code is the key `server.session_filter` of fact `negotiate.flow`.) -/
theorem seq_step_history_independent (wire : TKind → String → Bool) (σ : Srv) (s : Step) :
    (σ.step wire s).2 = connect (wire s.setup.kind) s.requested s.setup := rfl

theorem runSeq_eq_map (wire : TKind → String → Bool) (σ : Srv) (steps : List Step) :
    runSeq wire σ steps = steps.map (fun s => connect (wire s.setup.kind) s.requested s.setup) := by
  induction steps generalizing σ with
  | nil => rfl
  | cons s rest ih => simp [runSeq, Srv.step, ih]

/-- In every sequence of connections to one Server every step fits THAT step's transport (so never 2026-07-28 on a stateful
or SSE step, whatever was connected before). -/
theorem seq_every_step_supported (wire : TKind → String → Bool) (σ : Srv) (steps : List Step) :
    ∀ p ∈ (runSeq wire σ steps).zip steps,
      p.1 = .error ∨ ∃ v, p.1 = .negotiated v ∧ v ∈ supportedProtocolVersions ∧
        transportSupports p.2.setup v = true := by
  rw [runSeq_eq_map]
  intro p hp
  have : p.1 = connect (wire p.2.setup.kind) p.2.requested p.2.setup := by
    induction steps with
    | nil => simp at hp
    | cons s rest ih =>
      simp only [List.map_cons, List.zip_cons_cons, List.mem_cons] at hp
      rcases hp with hp | hp
      · subst hp; rfl
      · exact ih hp
  rw [this]
  rcases negotiated_supported (wire p.2.setup.kind) p.2.requested p.2.setup with h | ⟨v, hv, h1, h2, _⟩
  · exact Or.inl h
  · exact Or.inr ⟨v, hv, h1, h2⟩

/-! ### Non-vacuity (concrete cells, evaluated) -/

example : connect (fun _ => true) none { kind := .mem, subset := none } = .negotiated "2026-07-28" := by decide +kernel
example : connect (fun _ => true) none { kind := .sse, subset := none } = .negotiated "2025-11-25" := by decide +kernel
example : connect (fun _ => true) (some "2027-01-01") { kind := .stateless, subset := none } = .negotiated "2026-07-28" := by decide +kernel
example : connect (fun _ => true) (some "2024-01-01") { kind := .stateful, subset := none } = .negotiated "2025-11-25" := by decide +kernel
/-- F10: a transport advertising only 2025-06-18 gets 2025-06-18 … -/
example : connect (fun _ => true) none { kind := .mem, subset := some ["2025-06-18"] } = .negotiated "2025-06-18" := by decide +kernel
/-- … and a transport serving no legacy version makes the legacy handshake fail. -/
example : connect (fun _ => true) (some "2025-06-18") { kind := .pipe, subset := some ["2026-07-28"] } = .error := by decide +kernel

/-! Foreign peers (non-vacuity of the `connectPeer` theorems). -/

/-- a legacy server: discover unavailable (e.g. HTTP 404 text), initialize answered at 2025-06-18 -/
def legacyPeer : Peer := { discover := fun _ => .unavailable, init := fun _ => some "2025-06-18" }
example : connectPeer none legacyPeer = .negotiated "2025-06-18" := by decide +kernel
/-- an unknown in-range answer makes Connect fail -/
example : connectPeer none { legacyPeer with init := fun _ => some "2026-03-01" } = .error := by decide +kernel
example : connectPeer (some "2025-06-18") { legacyPeer with init := fun _ => some "2025-01-15" } = .error := by decide +kernel
/-- negotiate-F30: a lax modern peer listing the unknown requested version gets the best mutual one -/
example : connectPeer (some "2099-12-31")
    { discover := fun _ => .result ["2099-12-31", "2026-07-28"], init := fun _ => none } = .negotiated "2026-07-28" := by decide +kernel
/-- … and when it lists nothing the SDK implements, the initialize handshake decides -/
example : connectPeer (some "2099-12-31")
    { discover := fun _ => .result ["2099-12-31"], init := fun _ => none } = .error := by decide +kernel
/-- renegotiation: -32022 naming 2026-07-28, then a DiscoverResult -/
example : connectPeer (some "2099-12-31")
    { discover := fun v => if v = "2026-07-28" then .result ["2026-07-28"] else .unsupported ["2026-07-28"],
      init := fun _ => none } = .negotiated "2026-07-28" := by decide +kernel
/-- one Server: stateless, then stateful, then stateless again -/
example : runSeq (fun _ _ => true) {} [⟨none, { kind := .stateless, subset := none }⟩,
    ⟨none, { kind := .stateful, subset := none }⟩, ⟨none, { kind := .stateless, subset := none }⟩] =
    [.negotiated "2026-07-28", .negotiated "2025-11-25", .negotiated "2026-07-28"] := by decide +kernel

end Negotiate
