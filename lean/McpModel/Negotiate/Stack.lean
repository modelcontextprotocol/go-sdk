import McpModel.Negotiate.Sound
/-!
# C07: the server's transport STACK, reconnecting clients, and a `Server.Connect` that is still running (E4)

What `filterSupportedVersions` reads off a stack of wrappers (the SDK's `LoggingTransport`, a forwarding user wrapper, in
either order) around a built-in transport is exactly what the stack can serve; this needs `loggingTransportForwards`
(regenerated: `*LoggingTransport` has the delegating method, finding F46).  The lemmas of `monitorW`, the monitor the driver
runs (`monitorW_none_iff`, `monitorW_accepts_model`, `monitorW_base`, `sound_hiddenFilter`), are here too.  A caller reusing ONE `ClientSessionOptions` value
gets, each time, the outcome of a first connection (Client.Connect reads the value and never writes through the pointer:
facts `negotiate.client_opts`).  `Race`: `Server.Connect` as labelled atomic sections next to the session's read loop.
-/
namespace Negotiate
open Generated.Negotiate

theorem pvs_kind (k : TKind) (v : String) : (kindPvs k).supports v = kindSupports k v := by
  cases k <;> rfl

theorem loggingPvs_supports (p : Pvs) (v : String) : (loggingPvs p).supports v = p.supports v := by
  simp [loggingPvs, loggingPvsWith, loggingTransportForwards, Pvs.supports]

theorem stack_eq_transport (S : Setup) (v : String) : stackSupports S v = transportSupports S v := by
  have hs : ∀ (f : String → Bool), Pvs.supports (some f) v = f v := fun _ => rfl
  obtain ⟨k, sub, j, st, lg⟩ := S
  cases lg <;> cases sub <;>
    simp [stackSupports, stackPvs, transportSupports, maskPvs, hs, loggingPvs_supports, pvs_kind]

theorem advertisedStack_eq (S : Setup) : advertisedStack S = advertised S := by
  unfold advertisedStack advertised
  congr 1
  funext v
  exact stack_eq_transport S v

/-- The logging position never changes the outcome of connecting.  (By `rfl`: `connect` is defined over `transportSupports`;
that `Server.Connect`, which reads the stack, sees the same list is `advertisedStack_eq`.) -/
theorem logging_transparent (wireOK : String → Bool) (req : Option String) (S : Setup) (lg : LogPos) :
    connect wireOK req { S with logging := lg } = connect wireOK req S := rfl

/-- F46's shape: a `LoggingTransport` WITHOUT the method makes the SSE transport look as if it served
2026-07-28 (and a stateful streamable one likewise), which it cannot. -/
theorem unforwarding_logging_leaks :
    (loggingPvsWith false (kindPvs .sse)).supports modern = true ∧ kindSupports .sse modern = false ∧
    (loggingPvsWith false (kindPvs .stateful)).supports modern = true ∧ kindSupports .stateful modern = false := by
  have h : ¬ modern < modern := String.lt_irrefl _
  exact ⟨rfl, by simp [kindSupports, sseSupportsProtocolVersion, h], rfl,
    by simp [kindSupports, streamableSupportsProtocolVersion, h]⟩

theorem monitorW_none_iff (req : Option String) (S : Setup) (o : Obs) :
    monitorW req S o = none ↔ monitor req S o = none := by
  unfold monitorW
  cases monitor req S o with
  | none => simp
  | some c => simp; split <;> simp

theorem monitorW_accepts_model (wireOK : String → Bool) (hw : ∀ v ∈ supportedProtocolVersions, wireOK v = true)
    (req : Option String) (S : Setup) : monitorW req S (obsOf (connect wireOK req S)) = none :=
  (monitorW_none_iff _ _ _).2 (monitor_accepts_model wireOK hw req S)

theorem monitorW_base {req : Option String} {S : Setup} {o : Obs} {c : Clause}
    (h : monitorW req S o = some (.base c)) : monitor req S o = some c := by
  unfold monitorW at h
  cases hm : monitor req S o with
  | none => rw [hm] at h; cases h
  | some c' =>
    rw [hm] at h
    simp only at h
    split at h
    · cases h
    · cases h; rfl

/-- When the driver's monitor reports F46's clause for a cell, the
implementation connected at a version that cell's transport cannot serve, and a `LoggingTransport`
is part of its stack. -/
theorem sound_hiddenFilter {req : Option String} {S : Setup} {o : Obs} (h : monitorW req S o = some .hiddenFilter) :
    S.logging ≠ .none ∧ ∃ v l k, o = .ok v l k ∧ transportSupports S v = false := by
  unfold monitorW at h
  cases hm : monitor req S o with
  | none => rw [hm] at h; cases h
  | some c =>
    rw [hm] at h
    simp only at h
    split at h
    · rename_i hc
      simp only [Bool.and_eq_true, Bool.or_eq_true, beq_iff_eq, bne_iff_ne, ne_eq] at hc
      refine ⟨hc.2, ?_⟩
      rcases monitor_some hm with ⟨_, e⟩ | ⟨_, e⟩ | ⟨v, l, k, ho, ⟨_, e⟩ | ⟨h2, _⟩ | ⟨_, _, e⟩ | ⟨_, _, e⟩ | ⟨_, e⟩⟩ | ⟨_, ⟨_, e⟩ | ⟨_, e⟩⟩
      all_goals first
        | exact ⟨v, l, k, ho, h2⟩
        | (subst e; rcases hc.1 with h' | h' <;> cases h')
    · cases h

/-- As a statement about traces: the clause refutes "supported by the transport". -/
theorem sound_hiddenFilter_trace (tr : Trace) (c : Cell) (hc : c ∈ tr)
    (h : monitorW c.req c.S c.obs = some .hiddenFilter) : ¬ P_negotiated_supported_by_transport tr := by
  intro hP
  obtain ⟨_, v, l, k, ho, hf⟩ := sound_hiddenFilter h
  rw [hP c hc v l k ho] at hf
  cases hf

example : monitorW none { kind := .sse, subset := none, logging := .outer } (.ok "2026-07-28" false false) = some .hiddenFilter := by decide +kernel
example : monitorW none { kind := .sse, subset := none } (.ok "2026-07-28" false false) = some (.base .notTransport) := by decide +kernel

/-- `Client.Connect(ctx, t, opts)` as far as the caller's options value goes: it is read, and handed
back unchanged. -/
def connectWith (wireOK : String → Bool) (opts : Option String) (S : Setup) : Option String × Outcome :=
  (opts, connect wireOK opts S)

/-- Reconnecting with the value the previous Connect left behind. -/
def reconnects (wire : TKind → String → Bool) : Option String → List Setup → List Outcome
  | _, [] => []
  | opts, S :: rest => (connectWith (wire S.kind) opts S).2 :: reconnects wire (connectWith (wire S.kind) opts S).1 rest

/-- However many connections a caller makes with ONE options value, over
whatever transports and with whatever outcomes before, each is negotiated as a first connection with
that value.  (`connectWith` returns the options unchanged by definition: fact `negotiate.client_opts`.) -/
theorem reconnect_same_options (wire : TKind → String → Bool) (opts : Option String) (l : List Setup) :
    reconnects wire opts l = l.map (fun S => connect (wire S.kind) opts S) := by
  induction l with
  | nil => rfl
  | cons S rest ih => simp [reconnects, connectWith, ih]

/-- So a fallback on the first connection does not cost the second its requested version. -/
example : reconnects (fun _ _ => true) (some "") [{ kind := .sse, subset := none }, { kind := .mem, subset := none }] =
    [.negotiated "2025-11-25", .negotiated "2026-07-28"] := by decide +kernel

/-! ### `Server.Connect` still running while the client's first request arrives

`connect()` binds the session and starts its read loop; only then does `Server.Connect` take `ss.mu`,
compute `filterSupportedVersions(t)` INSIDE the critical section and publish `ss.supportedVersions`.
A `server/discover` handled before the publication finds `nil` and advertises every SDK version.
`step false` is the order in the code: the user's `SupportsProtocolVersion` runs under the lock the
handler needs, so a slow wrapper cannot widen the window (harness mode `w`), and no statement lies
between `connect()` returning and `ss.mu.Lock()` (fact `negotiate.connect_window`; harness mode `g`, a
slow log sink, exhibits a log call put there).  What remains is the handful of instructions between the
start of the read loop and the lock: `late_publication_leaks` is that schedule in the model — a TRUSTED
ASSUMPTION of C07 that it does not occur (it needs the read loop to read, decode and dispatch a request
within those instructions).  `discover_reads_filter` is the guarantee the other order (`step true`:
publish in `bind`, before the loop starts) would give without any assumption. -/
namespace Race

inductive Label | bind | publish | startLoop | discover
deriving DecidableEq, Repr

structure St where
  bound : Bool := false
  published : Bool := false
  looping : Bool := false
  /-- the lists `Server.discover` answered with, newest first -/
  answered : List (List String) := []

/-- One atomic section. `publishFirst`: publication precedes the start of the read loop. -/
def step (publishFirst : Bool) (S : Setup) (σ : St) : Label → Option St
  | .bind => if σ.bound then none else some { σ with bound := true }
  | .publish =>
    if σ.bound && !σ.published && (publishFirst || σ.looping) then some { σ with published := true } else none
  | .startLoop =>
    if σ.bound && !σ.looping && (!publishFirst || σ.published) then some { σ with looping := true } else none
  | .discover =>
    if σ.looping then
      some { σ with answered := (if σ.published then advertised S else supportedProtocolVersions) :: σ.answered }
    else none

def run (publishFirst : Bool) (S : Setup) : St → List Label → Option St
  | σ, [] => some σ
  | σ, l :: ls => match step publishFirst S σ l with
    | none => none
    | some σ' => run publishFirst S σ' ls

/-- Publish-first order: every probe answered was answered with the published filter. -/
def Inv (S : Setup) (σ : St) : Prop := (σ.looping = true → σ.published = true) ∧ ∀ a ∈ σ.answered, a = advertised S

theorem step_inv (S : Setup) (σ σ' : St) (l : Label) (hi : Inv S σ) (h : step true S σ l = some σ') : Inv S σ' := by
  obtain ⟨h1, h2⟩ := hi
  cases l <;> simp only [step] at h
  · split at h
    · cases h
    · cases h; exact ⟨h1, h2⟩
  · split at h
    · cases h; exact ⟨fun _ => rfl, h2⟩
    · cases h
  · split at h
    · rename_i hc
      cases h
      simp at hc
      exact ⟨fun _ => hc.2, h2⟩
    · cases h
  · split at h
    · rename_i hl
      cases h
      refine ⟨h1, ?_⟩
      intro a ha
      simp only [List.mem_cons] at ha
      rcases ha with rfl | ha
      · simp [h1 hl]
      · exact h2 a ha
    · cases h

/-- (About the order `step true`, NOT the code's.) With the list published before the read loop starts, in EVERY
interleaving of `Server.Connect`'s sections with `server/discover` requests — however early the
client talks and however slow the user's wrapper or log sink — every answer carries exactly the
transport's version list. -/
theorem discover_reads_filter (S : Setup) : ∀ (ls : List Label) (σ σ' : St), Inv S σ → run true S σ ls = some σ' →
    ∀ a ∈ σ'.answered, a = advertised S
  | [], σ, σ', hi, h => by simp only [run, Option.some.injEq] at h; subst h; exact hi.2
  | l :: ls, σ, σ', hi, h => by
    simp only [run] at h
    cases hs : step true S σ l with
    | none => rw [hs] at h; cases h
    | some σ₁ => rw [hs] at h; exact discover_reads_filter S ls σ₁ σ' (step_inv S σ σ₁ l hi hs) h

theorem discover_reads_filter_init (S : Setup) (ls : List Label) (σ' : St) (h : run true S {} ls = some σ') :
    ∀ a ∈ σ'.answered, a = advertised S :=
  discover_reads_filter S ls {} σ' ⟨by simp, by simp⟩ h

/-- The code's order (`step false`) admits this schedule: the loop runs, the client's probe is answered, and only
then is the list published — over SSE the answer offers 2026-07-28. -/
theorem late_publication_leaks :
    ∃ σ', run false { kind := .sse, subset := none } {} [.bind, .startLoop, .discover, .publish] = some σ' ∧
      σ'.answered = [supportedProtocolVersions] ∧ supportedProtocolVersions ≠ advertised { kind := .sse, subset := none } := by
  refine ⟨_, rfl, rfl, fun h => ?_⟩
  -- 2026-07-28 is an SDK version, and SSE does not serve it
  have hm : modern ∈ advertised { kind := .sse, subset := none } := h ▸ List.mem_cons_self
  have := (mem_advertised.1 hm).2
  simp only [transportSupports, kindSupports, sseSupportsProtocolVersion, Bool.and_true, decide_eq_true_eq] at this
  exact String.lt_irrefl _ this

/-- non-vacuity: the publish-first order admits the early probe too, and answers it with the filter -/
example : (run true { kind := .sse, subset := none } {} [.bind, .publish, .startLoop, .discover]).map (·.answered) =
    some [advertised { kind := .sse, subset := none }] := rfl

end Race
end Negotiate
