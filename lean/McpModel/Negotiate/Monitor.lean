import McpModel.Negotiate.Peer
/-!
E4 — the typed core of the C07 monitors.

The driver (Driver.lean) parses a cell of the configuration matrix (`connect`/`step`: requested
version, transport setup; `foreign`: requested version, scripted peer) and the implementation's
observation into an `Obs`, calls `monitor` / `monitorPeer`, and renders the clause.  The monitors are
the property itself evaluated on what the implementation did; they read the regenerated version list
and transport filters (`supportedProtocolVersions`, `transportSupports`, `advertised`), never
`connect` / `connectPeer`.  Bridge: `monitor_accepts_model` (Sound.lean), `peerVerdict_model` (Props.lean);
soundness per clause: Sound.lean.  Core Lean only (linked into the driver).
-/
namespace Negotiate
open Generated.Negotiate

/-- The implementation's observation of one `Client.Connect`. -/
inductive Obs
  | ok (v : String) (list call : Bool)   -- connected at `v`; ListTools / CallTool right after Connect worked?
  | garbled                              -- connected, the negotiated version is unreadable
  | error                                -- Connect returned an error
  | other                                -- crashed, or no outcome
deriving DecidableEq, Repr

/-- The clauses of C07 a cell of the SDK × SDK matrix can violate (texts: `Driver.clauseText`). -/
inductive Clause
  | unreadable        -- unreadable negotiated version
  | notSDK            -- negotiated version is not supported by the SDK
  | f10               -- initialize negotiated a legacy version that the transport does not advertise
  | notTransport      -- negotiated version is not supported by the transport
  | modernOnStateful  -- 2026-07-28 negotiated over SSE or a stateful HTTP endpoint
  | mutualDiff        -- requested version is mutually supported but a different one was negotiated
  | cannotUse         -- connected session cannot list and call tools
  | mutualErr         -- connect failed although the requested version is mutually supported
  | noFallback        -- connect failed although the transport serves a legacy version
  | crashed           -- connect crashed or produced no outcome
deriving DecidableEq, Repr

def isLegacy (v : String) : Bool := decide (v < modern)

/-- The requested version is supported by both SDK sides and by the (wrapped) transport. -/
def mutualOK (req : Option String) (S : Setup) : Bool :=
  supportedProtocolVersions.contains (startVersion req) && transportSupports S (startVersion req)

/-- **The C07 monitor of one SDK × SDK cell.** -/
def monitor (req : Option String) (S : Setup) : Obs → Option Clause
  | .ok v l c =>
    if !supportedProtocolVersions.contains v then some .notSDK
    else if !transportSupports S v then
      if isLegacy v then some .f10 else some .notTransport
    -- never taken: `transportSupports S v` holds here, which over SSE / a stateful endpoint implies a legacy `v`
    else if (S.kind == .sse || S.kind == .stateful) && !isLegacy v then some .modernOnStateful
    else if mutualOK req S && v != startVersion req then some .mutualDiff
    else if !l || !c then some .cannotUse
    else none
  | .garbled => some .unreadable
  | .error =>
    if mutualOK req S then some .mutualErr
    else if (advertised S).any isLegacy then some .noFallback
    else none
  | .other => some .crashed

/-- The matrix clauses plus the classification of F46's failing shape. -/
inductive ClauseW
  | base (c : Clause)
  | hiddenFilter   -- the transport cannot serve the negotiated version and a LoggingTransport sits in the stack
deriving DecidableEq, Repr

/-- **The monitor the driver runs**: `monitor`, with "not supported by the transport" reported under its
own clause when a `LoggingTransport` is part of the server's transport stack (F46's shape). It fires
exactly when `monitor` does (`monitorW_none_iff`, Stack.lean). -/
def monitorW (req : Option String) (S : Setup) (o : Obs) : Option ClauseW :=
  match monitor req S o with
  | none => none
  | some c =>
    if (c == .f10 || c == .notTransport) && S.logging != .none then some .hiddenFilter else some (.base c)

/-- **The C07 monitor of one foreign-peer cell.** -/
def monitorPeer (req : Option String) (P : Peer) : Obs → Option PClause
  | .ok v l c =>
    match peerVerdict req P (.negotiated v) with
    | some cl => some cl
    | none => if !l || !c then some .cannotUse else none
  | .garbled => some .unreadable
  | .error => peerVerdict req P .error
  | .other => some .crashed

/-! ### the driver's instance of `wireOK` -/

/-- Go's `httpguts.ValidHeaderFieldValue`: the request can be sent at all.  Go tests the BYTES
(`b ≥ 0x20 ∧ b ≠ 0x7f ∨ b = '\t'`); every byte of the UTF-8 encoding of a non-ASCII character is
≥ 0x80, so the test on characters is the same test (and it evaluates in the kernel: `supported_wire_ok`). -/
def headerValid (s : String) : Bool :=
  s.toList.all (fun c => (c.toNat ≥ 0x20 && c.toNat != 0x7f) || c.toNat == 0x09)

/-- `headerValid` plus "unchanged by header trimming" (the SDK server compares the header with the
body's `_meta` version; a foreign peer is not assumed to). -/
def headerSafe (s : String) : Bool :=
  let cs := s.toList
  headerValid s &&
    (match cs.head? with | some c => c.toNat != 0x20 && c.toNat != 0x09 | none => true) &&
    (match cs.getLast? with | some c => c.toNat != 0x20 && c.toNat != 0x09 | none => true)

def wireFor (k : TKind) : String → Bool :=
  match k with
  | .mem | .pipe | .sse => fun _ => true   -- the SSE client does not send Mcp-Protocol-Version
  | _ => headerSafe

/-- What the monitor would be given if the implementation behaved exactly like the model. -/
def obsOf : Outcome → Obs
  | .negotiated v => .ok v true true
  | .error => .error

end Negotiate
