/-!
E-cmdtransport (C05, stdio side): the termination protocol of `pipeRWC.Close` (mcp/cmd.go) as a small
labelled transition system.

Code modelled (statement order regenerated as structural facts `cmdtransport.close_statements` / `close_labels`):

    stdin.Close()  (error → return "closing stdin")           label start
    go { resChan <- cmd.Wait() }
    wait()  = select { resChan | time.After(td) }             label wait1
    Process.Signal(SIGTERM)  (error → skip the second wait)   label sigTerm
    wait()                                                    label wait2
    Process.Kill()           (error → return it)              label sigKill
    wait()                                                    label wait3
    return "unresponsive subprocess"

The ENVIRONMENT is the child process and the scheduler: when (if ever) the child exits by itself, how long
after stdin EOF / after SIGTERM it exits (or that it ignores them), how long the kernel takes after
SIGKILL, and how long it takes from the child's exit until `cmd.Wait` has delivered its result (`lag`).
Time is in abstract ticks counted from the start of Close; `td` ticks are one TerminateDuration.
`Process.Signal`/`Kill` fail (os.ErrProcessDone) exactly when the process has already been waited for;
a signal to a child that has exited but has not been reaped yet succeeds (it is a zombie).
Core Lean only: linked into the driver.
-/
namespace CmdTransport

inductive PC | start | wait1 | sigTerm | wait2 | sigKill | wait3 | done
deriving DecidableEq, Repr, Inhabited

/-- What Close returns: the result of cmd.Wait, "closing stdin: …", the error of Process.Kill
(os.ErrProcessDone), or "unresponsive subprocess". -/
inductive Res | waited | stdinErr | procDone | unresponsive
deriving DecidableEq, Repr, Inhabited

/-- How the child ended, as `ProcessState` shows it. -/
inductive Death | exit0 | exitN | sigTerm | sigKill
deriving DecidableEq, Repr, Inhabited

structure Env where
  td : Nat                      -- TerminateDuration in ticks
  stdinFails : Bool := false    -- stdin.Close returns an error (stdin already closed: a second Close)
  self : Option Nat := none     -- the child exits by itself at this tick (0: before Close is called)
  selfNonzero : Bool := false
  eof : Option Nat := none      -- the child exits this many ticks after stdin is closed (none: ignores EOF)
  eofNonzero : Bool := false
  term : Option Nat := none     -- the child exits this many ticks after SIGTERM (none: ignores it)
  termDefault : Bool := true    -- SIGTERM has its default disposition (death by signal) / a handler that exits 0
  killDelay : Nat := 0          -- ticks from SIGKILL to the exit (the kernel always ends the process)
  lag : Nat := 0                -- ticks from the exit until cmd.Wait's result is in resChan
deriving Repr, Inhabited

structure St where
  pc : PC := .start
  now : Nat := 0
  termAt : Option Nat := none   -- tick at which SIGTERM was delivered
  killAt : Option Nat := none   -- tick at which SIGKILL was delivered
  expiries : Nat := 0           -- timer expiries so far
  res : Option Res := none
  stdinClosed : Bool := false
  waiter : Bool := false        -- the goroutine running cmd.Wait was started
deriving Repr, Inhabited

def minO : Option Nat → Option Nat → Option Nat
  | none, b => b
  | a, none => a
  | some a, some b => some (min a b)

def termExit (e : Env) (ta : Option Nat) : Option Nat :=
  match ta, e.term with
  | some t, some d => some (t + d)
  | _, _ => none

def killExit (e : Env) (ka : Option Nat) : Option Nat :=
  match ka with
  | some t => some (t + e.killDelay)
  | none => none

/-- The tick at which the child exits, given the signals delivered so far (stdin is closed at tick 0). -/
def exitTime (e : Env) (ta ka : Option Nat) : Option Nat :=
  minO (minO e.self e.eof) (minO (termExit e ta) (killExit e ka))

/-- The tick at which cmd.Wait's result is available to Close. -/
def arrival (e : Env) (ta ka : Option Nat) : Option Nat :=
  match exitTime e ta ka with
  | some x => some (x + e.lag)
  | none => none

/-- The process has been waited for at tick `t`. -/
def reapedB (e : Env) (ta ka : Option Nat) (t : Nat) : Bool :=
  match arrival e ta ka with
  | some a => decide (a ≤ t)
  | none => false

/-- Cause of the exit (ties: the earlier-listed cause). -/
def death (e : Env) (ta ka : Option Nat) : Option Death :=
  match exitTime e ta ka with
  | none => none
  | some x =>
    if e.self = some x then some (if e.selfNonzero then .exitN else .exit0)
    else if e.eof = some x then some (if e.eofNonzero then .exitN else .exit0)
    else if termExit e ta = some x then some (if e.termDefault then .sigTerm else .exit0)
    else some .sigKill

/-- `wait()`: the result of cmd.Wait if it arrives strictly before the timer, else the timer fires. -/
def waitStep (e : Env) (s : St) (next : PC) (tmo : Option Res) : St :=
  match arrival e s.termAt s.killAt with
  | some a =>
    if a < s.now + e.td then { s with pc := .done, now := max s.now a, res := some .waited }
    else { s with pc := next, now := s.now + e.td, expiries := s.expiries + 1, res := tmo }
  | none => { s with pc := next, now := s.now + e.td, expiries := s.expiries + 1, res := tmo }

/-- One atomic section of pipeRWC.Close. -/
def step (e : Env) (s : St) : St :=
  match s.pc with
  | .start =>
    if e.stdinFails then { s with pc := .done, res := some .stdinErr }
    else { s with pc := .wait1, stdinClosed := true, waiter := true }
  | .wait1 => waitStep e s .sigTerm none
  | .sigTerm =>
    if reapedB e s.termAt s.killAt s.now then { s with pc := .sigKill }
    else { s with pc := .wait2, termAt := some s.now }
  | .wait2 => waitStep e s .sigKill none
  | .sigKill =>
    if reapedB e s.termAt s.killAt s.now then { s with pc := .done, res := some .procDone }
    else { s with pc := .wait3, killAt := some s.now }
  | .wait3 => waitStep e s .done (some .unresponsive)
  | .done => s

def init : St := {}

/-- Close, run to completion: seven steps, one more than the six labels before `.done`; a step at `.done` changes nothing. -/
def run (e : Env) : St := step e (step e (step e (step e (step e (step e (step e init))))))

/-- The label sequence of the run (for the driver and the examples). -/
def trace (e : Env) : List PC :=
  let rec go : Nat → St → List PC
    | 0, _ => []
    | n + 1, s => if s.pc = .done then [] else s.pc :: go n (step e s)
  go 7 init

end CmdTransport
