import McpModel.CmdTransport.Model
/-!
The typed record of one harness case (child class, what was observed of the REAL CommandTransport) and
the C05 monitor on it.  Time appears only as buckets in units of the case's TerminateDuration.
After the monitor: what the model says for a case (`modelObs`); the grid of environments in which the
driver looks for a model run that explains an observation (`classEnvs`, `explain`, `modelLine`); the
monitor of `Server.Run` in-process (`srvMonitor`); the monitor of a failing `Connect` (`connMonitor`).
Core Lean only: linked into the driver.

The constructors are the words of the harness's record (go/harness/mcp/zz_verif_cmdtransport_test.go).
Child: on EOF of stdin it exits 0 / exits 3 / exits 0 after half a TerminateDuration / lingers
(`EofB.x0/x3/slow/ign`); on SIGTERM it dies of it / its handler exits 0 at once / after half a
TerminateDuration / goes on (`TermB.dfl/h0/hslow/ign`); it exits by itself with 0 or 2 (`SelfB`).
Close returned: nil / an ExitError / "closing stdin" / os.ErrProcessDone / "unresponsive subprocess" /
"Wait was already called" (`ResObs.nil … waited2`).  The child's end as `ProcessState` has it: exit 0 /
exit ≠ 0 / SIGTERM / SIGKILL / another signal / not reaped when Close returned (`DeathObs.e0 … nr`).
A second Close: of the connection, it returned the same as the first or not (`SecondObs.same/diff`); of
the pipe, what it returned, in the words of `ResObs`; `hang`: it did not return.  A call pending during
Close returned a result / an error / never (`PendObs`).  `na`: not part of the case.
-/
namespace CmdTransport

inductive EofB | x0 | x3 | slow | ign deriving DecidableEq, Repr, Inhabited
inductive TermB | dfl | h0 | hslow | ign deriving DecidableEq, Repr, Inhabited
inductive SelfB | no | x0 | x2 deriving DecidableEq, Repr, Inhabited
inductive SecondK | no | conn | rwc deriving DecidableEq, Repr, Inhabited

/-- The case: behaviour class of the child and the calls made. -/
structure Class where
  sess : Bool := false          -- through Client.Connect / ClientSession.Close (else Connection.Close)
  eof : EofB := .x0
  term : TermB := .dfl
  self : SelfB := .no
  garbage : Bool := false       -- the child writes text that is not JSON-RPC on its stdout
  second : SecondK := .no       -- a second Close is made afterwards: of the connection / of the pipe
  pending : Bool := false       -- a call is pending when Close is called
  conc : Bool := false          -- two Closes are made concurrently; read by nothing here: both are judged by the same clauses as one
  slack : Nat := 0              -- the generous upper bound, in buckets
deriving Repr, Inhabited

inductive ResObs | nil | exiterr | stdin | done | unresp | waited2 | hang | other | na
deriving DecidableEq, Repr, Inhabited
inductive DeathObs | e0 | en | st | sk | so | nr deriving DecidableEq, Repr, Inhabited
/-- Did the child log SIGTERM, and in which bucket after Close was called (`neg`: before). -/
inductive TermObs | none | neg | at (k : Nat) deriving DecidableEq, Repr, Inhabited
inductive SecondObs | na | same | diff | stdin | nil | hang | other deriving DecidableEq, Repr, Inhabited
inductive PendObs | na | ok | err | hang deriving DecidableEq, Repr, Inhabited

structure Obs where
  connectOk : Bool := true
  res : ResObs := .nil
  eb : Nat := 0                 -- floor(elapsed of Close / TerminateDuration)
  death : DeathObs := .nr       -- from ProcessState when Close returned cmd.Wait's result
  term : TermObs := .none
  eofSeen : Bool := true        -- the child saw EOF on its stdin (or Server.Run returned) before any SIGTERM it logged
  gone : Bool := true           -- the process no longer exists (not even as a zombie)
  leak : Bool := false          -- goroutines of the transport left
  second : SecondObs := .na
  pend : PendObs := .na
deriving DecidableEq, Repr, Inhabited

inductive Clause
  | noReturn | late | childLeft | goroutineLeft | notWaited | resultWrong | termEarly | killEarly
  | giveUpEarly | killWithoutTerm | secondHang | secondDiffers | pendingHang | termWithoutEof
deriving DecidableEq, Repr, Inhabited

def P_returns (o : Obs) : Prop := o.res ≠ .hang
def P_bounded (c : Class) (o : Obs) : Prop := o.eb ≤ 3 + c.slack
def P_childGone (o : Obs) : Prop := o.gone = true
def P_noGoroutine (o : Obs) : Prop := o.leak = false
/-- Close returns cmd.Wait's result only after cmd.Wait returned. -/
def P_waited (o : Obs) : Prop := (o.res = .nil ∨ o.res = .exiterr) → o.death ≠ .nr
/-- … and the result says how the child ended. -/
def P_result (o : Obs) : Prop := (o.res = .nil → o.death = .e0 ∨ o.death = .nr) ∧ (o.res = .exiterr → o.death ≠ .e0)
/-- SIGTERM only after a full TerminateDuration since Close was called. -/
def P_termGrace (o : Obs) : Prop := o.term ≠ .neg ∧ o.term ≠ .at 0 ∧ (o.death = .st → 1 ≤ o.eb)
/-- SIGKILL only after two. -/
def P_killGrace (o : Obs) : Prop := o.death = .sk → 2 ≤ o.eb
/-- giving up ("unresponsive subprocess") only after three. -/
def P_giveUp (o : Obs) : Prop := o.res = .unresp → 3 ≤ o.eb
/-- escalation in order: a child that reports the SIGTERMs it gets is not SIGKILLed without one. -/
def P_order (c : Class) (o : Obs) : Prop := c.term ≠ .dfl → o.death = .sk → o.term ≠ .none
def P_second (o : Obs) : Prop := o.second ≠ .hang ∧ o.second ≠ .diff
def P_pending (o : Obs) : Prop := o.pend ≠ .hang
/-- stdin is closed FIRST: a child that reports a SIGTERM has seen EOF on its stdin before. -/
def P_eofFirst (o : Obs) : Prop := o.term ≠ .none → o.eofSeen = true

/-- The monitor: the first clause of C05 (stdio side) the observation violates. -/
def monitor (c : Class) (o : Obs) : Option Clause :=
  if o.res = .hang then some .noReturn
  else if 3 + c.slack < o.eb then some .late
  else if o.gone = false then some .childLeft
  else if o.leak = true then some .goroutineLeft
  else if (o.res = .nil ∨ o.res = .exiterr) ∧ o.death = .nr then some .notWaited
  else if (o.res = .nil ∧ o.death ≠ .e0) ∨ (o.res = .exiterr ∧ o.death = .e0) then some .resultWrong
  else if o.term = .neg ∨ o.term = .at 0 ∨ (o.death = .st ∧ o.eb < 1) then some .termEarly
  else if o.death = .sk ∧ o.eb < 2 then some .killEarly
  else if o.res = .unresp ∧ o.eb < 3 then some .giveUpEarly
  else if c.term ≠ .dfl ∧ o.death = .sk ∧ o.term = .none then some .killWithoutTerm
  else if o.second = .hang then some .secondHang
  else if o.second = .diff then some .secondDiffers
  else if o.pend = .hang then some .pendingHang
  else if o.term ≠ .none ∧ o.eofSeen = false then some .termWithoutEof
  else none

def deathObs : Option Death → DeathObs
  | some .exit0 => .e0
  | some .exitN => .en
  | some .sigTerm => .st
  | some .sigKill => .sk
  | none => .nr

def resObs (r : Option Res) (d : DeathObs) : ResObs :=
  match r with
  | some .waited => if d = .e0 then .nil else .exiterr
  | some .stdinErr => .stdin
  | some .procDone => .done
  | some .unresponsive => .unresp
  | none => .hang

/-- What the harness would record of the model's run `run e` for a case of class `c`. -/
def modelObs (c : Class) (e : Env) : Obs :=
  let s := run e
  let d := if s.res = some .waited then deathObs (death e s.termAt s.killAt) else .nr
  { connectOk := true
    res := resObs s.res d
    eb := s.now / e.td
    death := d
    term := match s.termAt with
      | some t => if c.term = .dfl then .none else .at (t / e.td)
      | none => .none
    eofSeen := s.stdinClosed || !s.termAt.isSome
    gone := (exitTime e s.termAt s.killAt).isSome
    leak := s.waiter && !(exitTime e s.termAt s.killAt).isSome
    second := match c.second with
      | .no => .na
      | .conn => .same
      | .rwc => if (run { e with stdinFails := true }).res = some .stdinErr then .stdin else .other
    pend := if c.pending then .ok else .na }

/-! ### which model run explains an observation: a grid of environments per class

Real time is not reproducible, so the model is compared as a SET of behaviours: the driver looks for an
environment of the case's class (TerminateDuration = 4 ticks; delays, lag and kernel latency on a grid)
whose run gives the observed result and cause of death, needs no more timer expiries than the observed
elapsed bucket allows, and delivered SIGTERM if the child reported one.  Only such time-robust facts are
compared; the monitor (above) judges the property. -/

def gridDelays : List Nat := [0, 1, 2, 3, 4, 5, 6, 7, 8, 9, 10, 13]

def classEnvs (c : Class) : List Env :=
  let eofs : List (Option Nat) := if c.eof = .ign then [none] else gridDelays.map some
  let terms : List (Option Nat) := match c.term with
    | .ign => [none]
    | .dfl => [some 0]           -- the default disposition ends the process at once
    | _ => gridDelays.map some
  let selfs : List (Option Nat) := if c.self = .no then [none] else gridDelays.map some
  selfs.flatMap fun sf => eofs.flatMap fun eo => terms.flatMap fun to =>
    [0, 1, 5, 9, 13].flatMap fun lag => [0, 1, 5].map fun kd =>
      { td := 4, self := sf, selfNonzero := c.self = .x2, eof := eo, eofNonzero := c.eof = .x3,
        term := to, termDefault := c.term = .dfl, killDelay := kd, lag := lag }

/-- The nominal environment of a class: everything prompt. -/
def nominalEnv (c : Class) : Env :=
  { td := 4, self := if c.self = .no then none else some 0, selfNonzero := c.self = .x2,
    eof := match c.eof with | .ign => none | .slow => some 2 | _ => some 0, eofNonzero := c.eof = .x3,
    term := match c.term with | .ign => none | .hslow => some 2 | _ => some 0, termDefault := c.term = .dfl }

def matchesEnv (c : Class) (o : Obs) (e : Env) : Bool :=
  let m := modelObs c e
  m.res == o.res && m.death == o.death && decide ((run e).expiries ≤ o.eb) &&
    (o.term == .none || (run e).termAt.isSome)

def explain (c : Class) (o : Obs) : Option Env := (classEnvs c).find? (matchesEnv c o)

/-- Must Connect fail?  Only a session-level Connect against a child that answers with garbage. -/
def connectFails (c : Class) : Bool := c.sess && c.garbage

/-- The model's line for a record: the implementation's own observation where the model has a run that
explains it (with the model's values for everything the model determines), else the nominal run. -/
def modelLine (c : Class) (o : Obs) : Obs :=
  if connectFails c then
    { connectOk := false, res := .na, eb := 0, death := .nr, term := o.term, eofSeen := o.eofSeen || o.term != .none, gone := true, leak := false, second := .na, pend := .na }
  else
    match explain c o with
    | some e =>
      let m := modelObs c e
      { m with eb := o.eb, term := o.term, eofSeen := o.eofSeen || o.term != .none, pend := if c.pending then (if o.pend = .err then .err else .ok) else .na }
    | none =>
      let m := modelObs c (nominalEnv c)
      { m with eb := (run (nominalEnv c)).expiries }

/-! ### Server.Run (mcp/server.go) in-process over an IOTransport -/

inductive SrvEnd | eof | cancel | both deriving DecidableEq, Repr, Inhabited
inductive SrvRet | nil | canceled | err | hang deriving DecidableEq, Repr, Inhabited

structure SrvObs where
  ret : SrvRet := .nil
  sessions : Nat := 0
  leak : Bool := false
deriving DecidableEq, Repr, Inhabited

/-- Server.Run: `select { ctx.Done → ss.Close(); <-ssClosed; return ctx.Err() | err := <-ssClosed → return err }`.
`ctxFirst` is the scheduler's choice when both are ready. -/
def srvRun (e : SrvEnd) (ctxFirst : Bool) : SrvObs :=
  match e with
  | .eof => { ret := .nil }
  | .cancel => { ret := .canceled }
  | .both => { ret := if ctxFirst then .canceled else .nil }

inductive SrvClause | noReturn | sessionLeft | goroutineLeft deriving DecidableEq, Repr, Inhabited

def srvMonitor (o : SrvObs) : Option SrvClause :=
  if o.ret = .hang then some .noReturn
  else if o.sessions ≠ 0 then some .sessionLeft
  else if o.leak = true then some .goroutineLeft
  else none

def srvModelLine (e : SrvEnd) (o : SrvObs) : SrvObs :=
  if srvRun e true = o then o else if srvRun e false = o then o else srvRun e true

/-! ### CommandTransport.Connect failing (StdoutPipe / StdinPipe / Start return an error) -/

structure ConnObs where
  err : Bool := true        -- Connect returned an error
  started : Bool := false   -- a process exists
  leak : Bool := false
deriving DecidableEq, Repr, Inhabited

/-- Each of the three error returns of Connect comes before, or is, the failure of `Command.Start`:
no process, no goroutine (newIOConn is not reached). -/
def connFail : ConnObs := {}

inductive ConnClause | processLeft | goroutineLeft deriving DecidableEq, Repr, Inhabited

def connMonitor (o : ConnObs) : Option ConnClause :=
  if o.err = true ∧ o.started = true then some .processLeft
  else if o.leak = true then some .goroutineLeft
  else none

end CmdTransport
