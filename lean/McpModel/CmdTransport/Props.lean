import McpModel.CmdTransport.Model
import McpModel.Generated.CmdTransportGen
/-!
C05, stdio side: theorems about the termination protocol of `pipeRWC.Close`, for ALL environments
(every child behaviour, every timing, every scheduling lag).
-/
namespace CmdTransport

theorem minO_some_left {a : Nat} {b : Option Nat} : (minO (some a) b).isSome := by
  cases b <;> simp [minO]

theorem minO_some_right {a : Option Nat} {b : Nat} : (minO a (some b)).isSome := by
  cases a <;> simp [minO]

theorem minO_cases (a b : Option Nat) (x : Nat) (h : minO a b = some x) : a = some x ∨ b = some x := by
  cases a <;> cases b <;> simp [minO] at h ⊢
  · exact h
  · exact h
  · omega

theorem minO_none (a b : Option Nat) (h : minO a b = none) : a = none ∧ b = none := by
  cases a <;> cases b <;> simp [minO] at h ⊢

theorem exitTime_kill_isSome (e : Env) (ta : Option Nat) (k : Nat) : (exitTime e ta (some k)).isSome := by
  unfold exitTime killExit
  generalize minO e.self e.eof = a
  generalize termExit e ta = b
  have : (minO b (some (k + e.killDelay))).isSome := minO_some_right
  cases h : minO b (some (k + e.killDelay)) with
  | none => simp [h] at this
  | some y => exact minO_some_right

/-- The shape of the state at every program point of Close (the invariant). -/
def Inv (e : Env) (s : St) : Prop :=
  match s.pc with
  | .start | .wait1 => s.expiries = 0 ∧ s.now = 0 ∧ s.termAt = none ∧ s.killAt = none ∧ s.res = none
  | .sigTerm => s.expiries = 1 ∧ s.now = e.td ∧ s.termAt = none ∧ s.killAt = none ∧ s.res = none
  | .wait2 => s.expiries = 1 ∧ s.now = e.td ∧ s.termAt = some e.td ∧ s.killAt = none ∧ s.res = none ∧
      reapedB e none none e.td = false
  | .sigKill => s.killAt = none ∧ s.res = none ∧
      ((s.expiries = 1 ∧ s.now = e.td ∧ s.termAt = none ∧ reapedB e none none e.td = true) ∨
       (s.expiries = 2 ∧ s.now = 2 * e.td ∧ s.termAt = some e.td ∧ reapedB e none none e.td = false))
  | .wait3 => s.expiries = 2 ∧ s.now = 2 * e.td ∧ s.termAt = some e.td ∧ s.killAt = some (2 * e.td) ∧ s.res = none ∧
      reapedB e none none e.td = false ∧ reapedB e (some e.td) none (2 * e.td) = false
  | .done =>
      s.expiries ≤ 3 ∧ s.now ≤ 3 * e.td ∧ s.expiries * e.td ≤ s.now ∧
      (s.termAt = none ∨ (s.termAt = some e.td ∧ 1 ≤ s.expiries ∧ reapedB e none none e.td = false)) ∧
      (s.killAt = none ∨ (s.killAt = some (2 * e.td) ∧ s.termAt = some e.td ∧ 2 ≤ s.expiries ∧
          reapedB e (some e.td) none (2 * e.td) = false)) ∧
      (s.res = some .waited ∧ reapedB e s.termAt s.killAt s.now = true ∨
       s.res = some .stdinErr ∧ s.termAt = none ∧ s.killAt = none ∧ s.expiries = 0 ∧ e.stdinFails = true ∨
       s.res = some .procDone ∧ s.killAt = none ∧ reapedB e s.termAt s.killAt s.now = true ∧ 1 ≤ s.expiries ∨
       s.res = some .unresponsive ∧ s.killAt.isSome ∧ s.expiries = 3)

theorem inv_init (e : Env) : Inv e init := by simp [Inv, init]

theorem reapedB_mono (e : Env) (ta ka : Option Nat) (t t' : Nat) (h : reapedB e ta ka t = true) (ht : t ≤ t') :
    reapedB e ta ka t' = true := by
  unfold reapedB at *
  cases ha : arrival e ta ka with
  | none => simp [ha] at h
  | some a => simp [ha] at h ⊢; omega

theorem waitStep_cases (e : Env) (s : St) (next : PC) (tmo : Option Res) :
    (∃ a, arrival e s.termAt s.killAt = some a ∧ a < s.now + e.td ∧
      waitStep e s next tmo = { s with pc := .done, now := max s.now a, res := some .waited }) ∨
    waitStep e s next tmo = { s with pc := next, now := s.now + e.td, expiries := s.expiries + 1, res := tmo } := by
  unfold waitStep
  cases ha : arrival e s.termAt s.killAt with
  | none => exact .inr rfl
  | some a =>
    by_cases hlt : a < s.now + e.td
    · exact .inl ⟨a, rfl, hlt, if_pos hlt⟩
    · exact .inr (if_neg hlt)

theorem reapedB_of_arrival (e : Env) (ta ka : Option Nat) (a t : Nat) (h : arrival e ta ka = some a) (hle : a ≤ t) :
    reapedB e ta ka t = true := by
  unfold reapedB; rw [h]; exact decide_eq_true hle

theorem inv_step (e : Env) (s : St) (h : Inv e s) : Inv e (step e s) := by
  -- the state is taken apart so that the invariant of the section's label fixes its fields; the three waits go through `waitStep_cases`
  obtain ⟨pc, now, termAt, killAt, expiries, res, sc, w⟩ := s
  cases pc
  case start =>
    obtain ⟨rfl, rfl, rfl, rfl, rfl⟩ := h
    simp only [step]
    by_cases hf : e.stdinFails = true
    · rw [if_pos hf]; dsimp only [Inv]
      exact ⟨by decide, by omega, by omega, .inl rfl, .inl rfl, .inr (.inl ⟨rfl, rfl, rfl, rfl, hf⟩)⟩
    · rw [if_neg hf]; exact ⟨rfl, rfl, rfl, rfl, rfl⟩
  case wait1 =>
    obtain ⟨rfl, rfl, rfl, rfl, rfl⟩ := h
    simp only [step]
    rcases waitStep_cases e _ .sigTerm none with ⟨a, ha, hlt, hw⟩ | hw <;> rw [hw] <;> dsimp only [Inv]
    · exact ⟨by decide, by dsimp only at hlt; omega, by omega, .inl rfl, .inl rfl,
        .inl ⟨rfl, reapedB_of_arrival e _ _ a _ ha (Nat.le_max_right _ _)⟩⟩
    · exact ⟨rfl, Nat.zero_add _, rfl, rfl, rfl⟩
  case sigTerm =>
    obtain ⟨rfl, rfl, rfl, rfl, rfl⟩ := h
    simp only [step]
    by_cases hr : reapedB e none none e.td = true
    · rw [if_pos hr]; exact ⟨rfl, rfl, .inl ⟨rfl, rfl, rfl, hr⟩⟩
    · rw [if_neg hr]; exact ⟨rfl, rfl, rfl, rfl, rfl, Bool.not_eq_true _ ▸ hr⟩
  case wait2 =>
    obtain ⟨rfl, rfl, rfl, rfl, rfl, h6⟩ := h
    simp only [step]
    rcases waitStep_cases e _ .sigKill none with ⟨a, ha, hlt, hw⟩ | hw <;> rw [hw] <;> dsimp only [Inv]
    · exact ⟨by decide, by dsimp only at hlt; omega, by omega, .inr ⟨rfl, by decide, h6⟩, .inl rfl,
        .inl ⟨rfl, reapedB_of_arrival e _ _ a _ ha (Nat.le_max_right _ _)⟩⟩
    · exact ⟨rfl, rfl, .inr ⟨rfl, by omega, rfl, h6⟩⟩
  case sigKill =>
    obtain ⟨rfl, rfl, h⟩ := h
    simp only [step]
    rcases h with ⟨rfl, rfl, rfl, h6⟩ | ⟨rfl, rfl, rfl, h6⟩
    · rw [if_pos h6]; dsimp only [Inv]
      exact ⟨by decide, by omega, by omega, .inl rfl, .inl rfl, .inr (.inr (.inl ⟨rfl, rfl, h6, by decide⟩))⟩
    · by_cases hr : reapedB e (some e.td) none (2 * e.td) = true
      · rw [if_pos hr]; dsimp only [Inv]
        exact ⟨by decide, by omega, by omega, .inr ⟨rfl, by decide, h6⟩, .inl rfl,
          .inr (.inr (.inl ⟨rfl, rfl, hr, by decide⟩))⟩
      · rw [if_neg hr]; exact ⟨rfl, rfl, rfl, rfl, rfl, h6, Bool.not_eq_true _ ▸ hr⟩
  case wait3 =>
    obtain ⟨rfl, rfl, rfl, rfl, rfl, h6, h7⟩ := h
    simp only [step]
    rcases waitStep_cases e _ .done (some .unresponsive) with ⟨a, ha, hlt, hw⟩ | hw <;> rw [hw] <;> dsimp only [Inv]
    · exact ⟨by decide, by dsimp only at hlt; omega, by omega, .inr ⟨rfl, by decide, h6⟩,
        .inr ⟨rfl, rfl, by decide, h7⟩, .inl ⟨rfl, reapedB_of_arrival e _ _ a _ ha (Nat.le_max_right _ _)⟩⟩
    · exact ⟨by decide, by omega, by omega, .inr ⟨rfl, by decide, h6⟩, .inr ⟨rfl, rfl, by decide, h7⟩,
        .inr (.inr (.inr ⟨rfl, rfl, rfl⟩))⟩
  case done => exact h

def rank : PC → Nat
  | .start => 0 | .wait1 => 1 | .sigTerm => 2 | .wait2 => 3 | .sigKill => 4 | .wait3 => 5 | .done => 6

theorem step_shape (e : Env) (s : St) :
    ((step e s).pc = .done ∨ rank s.pc < rank (step e s).pc) ∧ (s.stdinClosed = true → (step e s).stdinClosed = true) := by
  cases hpc : s.pc <;> simp only [step, hpc, waitStep] <;> (repeat' split) <;> simp [rank]

theorem inv_run (e : Env) : Inv e (run e) := by
  unfold run
  exact inv_step _ _ (inv_step _ _ (inv_step _ _ (inv_step _ _ (inv_step _ _ (inv_step _ _ (inv_step _ _ (inv_init e)))))))

theorem step_done (e : Env) (s : St) (h : s.pc = .done) : step e s = s := by simp [step, h]

/-- **Close returns**, whatever the child does: after the seven steps of `run` the protocol is at its
return statement. -/
theorem close_terminates (e : Env) : (run e).pc = .done := by
  unfold run
  have key : ∀ (s : St) (n : Nat), n ≤ rank s.pc ∨ s.pc = .done → (n + 1 ≤ rank (step e s).pc ∨ (step e s).pc = .done) := by
    intro s n h
    rcases h with h | h
    · rcases (step_shape e s).1 with h' | h'
      · exact Or.inr h'
      · left; omega
    · right; rw [step_done e s h]; exact h
  have h0 : 0 ≤ rank init.pc ∨ init.pc = .done := Or.inl (Nat.zero_le _)
  have h1 := key _ _ h0
  have h2 := key _ _ h1
  have h3 := key _ _ h2
  have h4 := key _ _ h3
  have h5 := key _ _ h4
  have h6 := key _ _ h5
  have h7 := key _ _ h6
  rcases h7 with h | h
  · generalize (step e (step e (step e (step e (step e (step e (step e init))))))).pc = p at h
    cases p <;> simp [rank] at h ⊢
  · exact h

/-- The invariant at the return of Close, unfolded. -/
theorem close_final (e : Env) :
    let s := run e
    s.expiries ≤ 3 ∧ s.now ≤ 3 * e.td ∧ s.expiries * e.td ≤ s.now ∧
      (s.termAt = none ∨ (s.termAt = some e.td ∧ 1 ≤ s.expiries ∧ reapedB e none none e.td = false)) ∧
      (s.killAt = none ∨ (s.killAt = some (2 * e.td) ∧ s.termAt = some e.td ∧ 2 ≤ s.expiries ∧
          reapedB e (some e.td) none (2 * e.td) = false)) ∧
      (s.res = some .waited ∧ reapedB e s.termAt s.killAt s.now = true ∨
       s.res = some .stdinErr ∧ s.termAt = none ∧ s.killAt = none ∧ s.expiries = 0 ∧ e.stdinFails = true ∨
       s.res = some .procDone ∧ s.killAt = none ∧ reapedB e s.termAt s.killAt s.now = true ∧ 1 ≤ s.expiries ∨
       s.res = some .unresponsive ∧ s.killAt.isSome ∧ s.expiries = 3) := by
  have h := inv_run e
  have hd := close_terminates e
  simp only [Inv, hd] at h
  exact h

/-- **Bounded**: Close returns after at most three timer expiries, i.e. within three TerminateDurations
of model time, for every child and every lag. -/
theorem close_bounded (e : Env) : (run e).expiries ≤ 3 ∧ (run e).now ≤ 3 * e.td :=
  ⟨(close_final e).1, (close_final e).2.1⟩

theorem close_returns_result (e : Env) : (run e).res.isSome := by
  rcases (close_final e).2.2.2.2.2 with h | h | h | h <;> simp [h.1]

/-- **Grace periods and escalation order**: SIGTERM is delivered, if at all, exactly one
TerminateDuration after stdin was closed; SIGKILL, if at all, exactly two, and only after a SIGTERM. -/
theorem escalation_in_order (e : Env) :
    ((run e).termAt = none ∨ (run e).termAt = some e.td) ∧
    ((run e).killAt = none ∨ ((run e).killAt = some (2 * e.td) ∧ (run e).termAt = some e.td)) := by
  obtain ⟨_, _, _, ht, hk, _⟩ := close_final e
  constructor
  · rcases ht with h | h
    · exact Or.inl h
    · exact Or.inr h.1
  · rcases hk with h | h
    · exact Or.inl h
    · exact Or.inr ⟨h.1, h.2.1⟩

/-- **No signal to a child whose exit Close has seen**: at the tick a signal is delivered, cmd.Wait has
not returned (given the signals delivered before). -/
theorem no_signal_after_reaped (e : Env) :
    (∀ t, (run e).termAt = some t → reapedB e none none t = false) ∧
    (∀ t, (run e).killAt = some t → reapedB e (run e).termAt none t = false) := by
  obtain ⟨_, _, _, ht, hk, _⟩ := close_final e
  constructor
  · intro t h
    rcases ht with h' | h'
    · rw [h'] at h; cases h
    · rw [h'.1] at h; cases h; exact h'.2.2
  · intro t h
    rcases hk with h' | h'
    · rw [h'] at h; cases h
    · rw [h'.1] at h; cases h; rw [h'.2.1]; exact h'.2.2.2

theorem reapedB_exit (e : Env) (ta ka : Option Nat) (t : Nat) (h : reapedB e ta ka t = true) :
    (exitTime e ta ka).isSome := by
  unfold reapedB arrival at h
  cases hx : exitTime e ta ka with
  | none => simp [hx] at h
  | some x => simp

/-- **Nothing left running**: unless Close failed at its first statement (stdin already closed: a second
Close), either cmd.Wait has returned when Close returns, or SIGKILL has been delivered; in both cases the
child exits. -/
theorem child_gone (e : Env) (h : (run e).res ≠ some .stdinErr) :
    ((run e).res = some .waited ∨ (run e).res = some .procDone → reapedB e (run e).termAt (run e).killAt (run e).now = true) ∧
    ((run e).res = some .unresponsive → (run e).killAt.isSome) ∧
    (exitTime e (run e).termAt (run e).killAt).isSome := by
  obtain ⟨_, _, _, _, _, hr⟩ := close_final e
  rcases hr with hr | hr | hr | hr
  · refine ⟨fun _ => hr.2, ?_, reapedB_exit _ _ _ _ hr.2⟩
    intro h'; rw [hr.1] at h'; cases h'
  · exact absurd hr.1 h
  · refine ⟨fun _ => hr.2.2.1, ?_, reapedB_exit _ _ _ _ hr.2.2.1⟩
    intro h'; rw [hr.1] at h'; cases h'
  · refine ⟨?_, fun _ => hr.2.1, ?_⟩
    · intro h'; rcases h' with h' | h' <;> (rw [hr.1] at h'; cases h')
    cases hk : (run e).killAt with
    | none => simp [hk] at hr
    | some k => exact exitTime_kill_isSome e _ k

/-- **Idempotent**: a Close whose first statement fails (stdin was closed by the first Close) returns at
once: no timer, no signal. -/
theorem second_close_inert (e : Env) (h : e.stdinFails = true) :
    (run e).res = some .stdinErr ∧ (run e).termAt = none ∧ (run e).killAt = none ∧ (run e).expiries = 0 := by
  have : step e init = { init with pc := .done, res := some .stdinErr } := by simp [step, init, h]
  have hrun : run e = { init with pc := .done, res := some .stdinErr } := by
    unfold run; rw [this]; simp [step]
  rw [hrun]; simp [init]

theorem stdinErr_only_if_fails (e : Env) (h : (run e).res = some .stdinErr) : e.stdinFails = true := by
  obtain ⟨_, _, _, _, _, hr⟩ := close_final e
  rcases hr with hr | hr | hr | hr
  · rw [hr.1] at h; cases h
  · exact hr.2.2.2.2
  · rw [hr.1] at h; cases h
  · rw [hr.1] at h; cases h

/-- **stdin first**: unless closing stdin itself failed, stdin has been closed when Close returns. -/
theorem stdin_closed (e : Env) (h : (run e).res ≠ some .stdinErr) : (run e).stdinClosed = true := by
  cases hs : e.stdinFails with
  | true => exact absurd (second_close_inert e hs).1 h
  | false =>
    have h1 : (step e init).stdinClosed = true := by simp [step, init, hs]
    unfold run
    exact (step_shape ..).2 ((step_shape ..).2 ((step_shape ..).2 ((step_shape ..).2 ((step_shape ..).2 ((step_shape ..).2 h1)))))

theorem death_signal (e : Env) (ta ka : Option Nat) (d : Death) (h : death e ta ka = some d) :
    (d = .sigTerm → ta.isSome) ∧ (d = .sigKill → ka.isSome) := by
  unfold death at h
  cases hx : exitTime e ta ka with
  | none => rw [hx] at h; cases h
  | some x =>
    rw [hx] at h
    dsimp only at h
    by_cases h1 : e.self = some x
    · rw [if_pos h1] at h; split at h <;> cases h <;> exact ⟨nofun, nofun⟩
    rw [if_neg h1] at h
    by_cases h2 : e.eof = some x
    · rw [if_pos h2] at h; split at h <;> cases h <;> exact ⟨nofun, nofun⟩
    rw [if_neg h2] at h
    by_cases h3 : termExit e ta = some x
    · rw [if_pos h3] at h
      have hta : ta.isSome := by
        cases ta with
        | none => cases h3
        | some t => rfl
      split at h <;> cases h <;> exact ⟨fun _ => hta, nofun⟩
    rw [if_neg h3] at h
    cases h
    refine ⟨nofun, fun _ => ?_⟩
    -- the exit at `x` has a cause, and it is none of the first three
    unfold exitTime at hx
    rcases minO_cases _ _ _ hx with h' | h'
    · rcases minO_cases _ _ _ h' with h'' | h''
      · exact absurd h'' h1
      · exact absurd h'' h2
    · rcases minO_cases _ _ _ h' with h'' | h''
      · exact absurd h'' h3
      · cases ka with
        | none => cases h''
        | some k => rfl

theorem death_kill (e : Env) (ta ka : Option Nat) (h : death e ta ka = some .sigKill) : ka.isSome :=
  (death_signal e ta ka _ h).2 rfl

theorem death_term (e : Env) (ta ka : Option Nat) (h : death e ta ka = some .sigTerm) : ta.isSome :=
  (death_signal e ta ka _ h).1 rfl

/-- A child that exits on stdin EOF (or by itself) in time is never signalled: Close returns cmd.Wait's
result without a timer expiry. -/
theorem prompt_exit_no_signal (e : Env) (hs : e.stdinFails = false) (x : Nat)
    (hx : exitTime e none none = some x) (hlt : x + e.lag < e.td) :
    (run e).res = some .waited ∧ (run e).termAt = none ∧ (run e).killAt = none ∧ (run e).expiries = 0 := by
  have h1 : step e init = { init with pc := .wait1, stdinClosed := true, waiter := true } := by
    simp [step, init, hs]
  have h2 : step e (step e init) = { init with pc := .done, stdinClosed := true, waiter := true, now := max 0 (x + e.lag), res := some .waited } := by
    rw [h1]; simp [step, waitStep, init, arrival, hx, hlt]
  unfold run
  rw [h2]; simp [step, init]

/-- A child that ignores EOF and SIGTERM is sent SIGTERM after one TerminateDuration and SIGKILL after
two, and exits. -/
theorem deaf_child_is_killed (e : Env) (hs : e.stdinFails = false) (h1 : e.self = none) (h2 : e.eof = none)
    (h3 : e.term = none) :
    (run e).termAt = some e.td ∧ (run e).killAt = some (2 * e.td) ∧
    (exitTime e (run e).termAt (run e).killAt) = some (2 * e.td + e.killDelay) := by
  -- without SIGKILL this child is never reaped, so Close cannot return before it has delivered it
  have x0 : ∀ ta t, reapedB e ta none t = false := by
    intro ta t; cases ta <;> simp [reapedB, arrival, exitTime, h1, h2, h3, minO, termExit, killExit]
  obtain ⟨_, _, _, _, hk, hr⟩ := close_final e
  have hkill : (run e).killAt = some (2 * e.td) ∧ (run e).termAt = some e.td := by
    rcases hk with hk | hk
    · exfalso
      rcases hr with hr | hr | hr | hr
      · rw [hk, x0] at hr; cases hr.2
      · rw [hs] at hr; cases hr.2.2.2.2
      · rw [hk, x0] at hr; cases hr.2.2.1
      · rw [hk] at hr; cases hr.2.1
    · exact ⟨hk.1, hk.2.1⟩
  rw [hkill.1, hkill.2]
  refine ⟨rfl, rfl, ?_⟩
  simp [exitTime, h1, h2, h3, minO, termExit, killExit]

/-! ### the tie to mcp/cmd.go: regenerated statement order and constants -/

/-- The statements of pipeRWC.Close that one label of the model stands for. -/
def pcLabels : PC → List String
  | .start => ["closeStdin", "spawnWait"]
  | .wait1 => ["wait"]
  | .sigTerm => ["sigterm"]
  | .wait2 => ["wait"]
  | .sigKill => ["kill"]
  | .wait3 => ["wait", "unresponsive"]
  | .done => []

/-- The statement order of pipeRWC.Close, REGENERATED from /repo, is the label sequence of the model's
longest run (a child that ignores everything). -/
theorem generated_shape :
    Generated.CmdTransport.closeLabels = (trace { td := 1 }).flatMap pcLabels := by decide +kernel

/-- The two error paths of the signalling statements are the model's: a failed SIGTERM skips the second
wait (`sigTerm → sigKill`), a failed Kill returns its error (`sigKill → done` with `procDone`). -/
theorem generated_error_paths (e : Env) (s : St) (hr : reapedB e s.termAt s.killAt s.now = true) :
    Generated.CmdTransport.termErrorSkipsWait = true ∧ Generated.CmdTransport.killErrorReturns = true ∧
    (s.pc = .sigTerm → (step e s).pc = .sigKill ∧ (step e s).termAt = s.termAt) ∧
    (s.pc = .sigKill → (step e s).pc = .done ∧ (step e s).res = some .procDone ∧ (step e s).killAt = s.killAt) := by
  refine ⟨by decide, by decide, ?_, ?_⟩
  · intro h; simp [step, h, hr]
  · intro h; simp [step, h, hr]

/-- The default TerminateDuration (regenerated) is positive: the theorems with `0 < e.td` apply to it. -/
theorem default_td_pos : 0 < Generated.CmdTransport.defaultTerminateNanos := by decide +kernel

/-- exits on EOF at once -/
example : (run { td := 4, eof := some 0 }).res = some .waited ∧ (run { td := 4, eof := some 0 }).expiries = 0 := by decide +kernel
/-- ignores EOF, dies of SIGTERM -/
example : (run { td := 4, term := some 1 }).termAt = some 4 ∧ (run { td := 4, term := some 1 }).killAt = none ∧
    death { td := 4, term := some 1 } (some 4) none = some .sigTerm := by decide +kernel
/-- ignores both: killed; and with a kernel slower than a TerminateDuration Close gives up ("unresponsive")
with SIGKILL delivered -/
example : (run { td := 4 }).res = some .waited ∧ (run { td := 4 }).killAt = some 8 := by decide +kernel
example : (run { td := 4, killDelay := 9 }).res = some .unresponsive ∧ (run { td := 4, killDelay := 9 }).killAt = some 8 := by decide +kernel
/-- the child exits in the instant the first timer fires: Signal and Kill fail, Close returns
os.ErrProcessDone without having sent anything -/
example : (run { td := 4, eof := some 4 }).res = some .procDone ∧ (run { td := 4, eof := some 4 }).termAt = none := by decide +kernel
/-- the child has exited but cmd.Wait has not returned yet (lag): SIGTERM goes to a zombie -/
example : (run { td := 4, eof := some 3, lag := 2 }).termAt = some 4 ∧ (run { td := 4, eof := some 3, lag := 2 }).res = some .waited := by decide +kernel
/-- second Close -/
example : (run { td := 4, stdinFails := true }).res = some .stdinErr := by decide +kernel
example : trace { td := 4 } = [.start, .wait1, .sigTerm, .wait2, .sigKill, .wait3] := by decide +kernel

end CmdTransport
