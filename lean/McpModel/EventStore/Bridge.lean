import McpModel.EventStore.Props
import McpModel.EventStore.Monitor
/-!
# Bridge between the C20 monitor and the model (E15)

`monitor_accepts_model`: for ALL record sequences (`Rec`, Monitor.lean) the model never panics and the monitor raises no
clause on the model's answers.  The
invariant (`Link`) ties the monitor's own bookkeeping to the model's state: its abstract log of a
stream is the ghost log of the model's entry (`book_spec`: the bookkeeping is `specStep` of Props.lean),
its "most recent item" is the model's ghost `lastApp`, the configured maximum is `maxBytes`; on top of
the model's invariant `Inv` (Props.lean).  `validate_never_panics` (with `retainedBytes_eq_sumSizes`, which the `stat` record needs)
is a fact about the model alone.
-/
namespace EventStore

theorem lookup_specUpd (k k' : Key) (f : Option (List String) → Option (List String)) (sp : List (Key × List String)) :
    (specUpd k f sp).lookup k' = if k' = k then f (sp.lookup k) else sp.lookup k' := by
  simp only [specUpd]
  cases hf : f (sp.lookup k) with
  | none => rw [List.lookup_filter (fun x => x != k)]; by_cases h : k' = k <;> simp [h]
  | some l =>
    rw [List.lookup_append, List.lookup_filter (fun x => x != k)]
    by_cases h : k' = k
    · subst h; simp [List.lookup]
    · have : (k' == k) = false := by simpa using h
      simp [h, List.lookup, this]

theorem book_spec (m : MState) (op : Op String) (k : Key) :
    (bookOp m op).spec.lookup k = specStep k (m.spec.lookup k) op := by
  cases op with
  | «open» k' =>
    simp only [bookOp, specStep, lookup_specUpd]
    by_cases h : k = k'
    · subst h; simp
    · have : ¬ k' = k := fun e => h e.symm
      simp [h, this]
  | append k' d =>
    simp only [bookOp, specStep, lookup_specUpd]
    by_cases h : k = k'
    · subst h; simp
    · have : ¬ k' = k := fun e => h e.symm
      simp [h, this]
  | after k' i => rfl
  | setMax n => rfl
  | closed sess =>
    simp only [bookOp, specStep]
    rw [List.lookup_filter (fun x : Key => x.1 != sess)]
    by_cases h : k.1 = sess <;> simp [h]
  | maxBytes => rfl

/-- `After(i)`, `i ≥ -1`, on a stream satisfying the per-stream invariant: the purge error exactly when
position `i+1` has been evicted (then something lies after `i`), otherwise exactly the log after `i`. -/
theorem afterOut_spec (dl : DL String) (h : DLInv psz dl) (i : Int) (hi : -1 ≤ i) :
    (afterOut dl i = .purged ∧ (i + 1).toNat < dl.log.length) ∨
    afterOut dl i = .items (dl.log.drop (i + 1).toNat) :=
  afterOut_exact psz dl h i hi

/-- The monitor's bookkeeping describes the model's state. -/
structure Link (m : MState) (s : Store String) : Prop where
  inv : Inv psz s
  spec : ∀ k, m.spec.lookup k = (logs s.store).lookup k
  last : m.lastApp = s.lastApp
  max : ∀ n, m.maxCfg = some n → s.maxBytes = n

theorem link_init : Link {} (init : Store String) :=
  ⟨inv_init psz, fun _ => rfl, rfl, fun _ h => by cases h⟩

theorem afterClause_model (m : MState) (s : Store String) (hl : Link m s) (k : Key) (i : Int) (o : Out String)
    (hs : step psz s (.after k i) = some (s, o)) : afterClause m k i (obsOfOut o) = none := by
  simp only [afterClause]
  by_cases hi : i < -1
  · simp [hi]
  · simp only [hi, if_false]
    have hfl := find_logs k s.store
    rw [hl.spec k, ← hfl]
    rw [step_after] at hs
    obtain ⟨_, rfl⟩ := Prod.mk.inj (Option.some.inj hs)
    cases hf : find k s.store with
    | none => simp [obsOfOut]
    | some dl =>
      have hdl : DLInv psz dl := hl.inv.1.of_find hf
      simp only [Option.map_some]
      rcases afterOut_spec dl hdl i (by omega) with ⟨hp, hlt⟩ | hit
      · simp [hp, obsOfOut, isEmpty_drop_of_lt hlt]
      · simp [hit, obsOfOut]

theorem after_step_state (s s' : Store String) (k : Key) (i : Int) (o : Out String)
    (hs : step psz s (.after k i) = some (s', o)) : s' = s := by
  rw [step_after] at hs; exact (Prod.mk.inj (Option.some.inj hs)).1.symm

theorem op_accepts (m : MState) (s : Store String) (hl : Link m s) (op : Op String) :
    ∃ s' o, step psz s op = some (s', o) ∧ opClause m op (obsOfOut o) = none ∧ Link (bookOp m op) s' := by
  obtain ⟨s', o, hs, hinv, hlog, f1, f2⟩ := step_spec psz s op hl.inv
  refine ⟨s', o, hs, ?_, ⟨hinv, ?_, ?_, ?_⟩⟩
  · have hnp : obsOfOut o ≠ .panic := by cases o <;> simp [obsOfOut]
    simp only [opClause, hnp, if_false]
    cases op with
    | after k i =>
      have := after_step_state s s' k i o hs; subst this
      exact afterClause_model m s' hl k i o hs
    | _ => rfl
  · intro k; rw [book_spec, hlog k, hl.spec k]
  · rw [f1]; cases op <;> simp [bookOp, lastAppOf, hl.last]
  · intro n hn
    rw [f2]
    cases op with
    | setMax n' =>
      simp only [bookOp] at hn
      simp only [maxOf]
      by_cases h0 : n' = 0
      · simp [h0] at hn
      · simp only [h0, if_false, Option.some.injEq] at hn ⊢; exact hn
    | _ => exact hl.max n (by simpa [bookOp] using hn)

theorem toObs_aobsOfOut (s s' : Store String) (k : Key) (i : Int) (o : Out String)
    (hs : step psz s (.after k i) = some (s', o)) : (aobsOfOut o).toObs = obsOfOut o := by
  rw [step_after] at hs
  obtain ⟨_, rfl⟩ := Prod.mk.inj (Option.some.inj hs)
  cases find k s.store with
  | none => rfl
  | some dl => simp only [afterOut_eq]; split <;> rfl

/-- The calls issued from inside an iteration: the model answers them all, the monitor is silent on the
answers to the `After`s among them (each judged at its time), the link is kept. -/
theorem script_accepts : ∀ (script : List (Op String)) (m : MState) (s : Store String), Link m s →
    ∃ s' nested, runScript s script = some (s', nested) ∧ nestedClause m script nested = none ∧
      Link (script.foldl bookOp m) s' := by
  intro script
  induction script with
  | nil => intro m s hl; exact ⟨s, [], rfl, rfl, hl⟩
  | cons op ops ih =>
    intro m s hl
    obtain ⟨s1, o, hs, hc, hl1⟩ := op_accepts m s hl op
    obtain ⟨s2, os, hr, hn, hl2⟩ := ih _ s1 hl1
    cases op with
    | after k i =>
      refine ⟨s2, aobsOfOut o :: os, by simp only [runScript, hs, hr], ?_, hl2⟩
      have hk := toObs_aobsOfOut s s1 k i o hs
      simp only [nestedClause, hk, hc]
      exact hn
    | _ => exact ⟨s2, os, by simp only [runScript, hs, hr], by simpa only [nestedClause] using hn, hl2⟩

theorem deliverPlain_not_locked (l : List String) (stop : Option Nat) : (deliverPlain l stop).1 ≠ .locked := by
  cases stop with
  | none => simp [deliverPlain]
  | some n =>
    simp only [deliverPlain]
    by_cases h : 1 ≤ n ∧ n ≤ l.length
    · simp [h]
    · simp [h]

theorem deliver_ignore_not_locked (it : Iter String) (stop : Option Nat) :
    (deliver .ignore it stop none).1 ≠ .locked := by
  obtain ⟨snap, err⟩ := it
  cases err with
  | none => simpa [deliver] using deliverPlain_not_locked snap stop
  | some e => cases e <;> simp [deliver]

/-- The `iter` clause is silent on the model's delivery (the code as it is ignores the context), whatever
the consumer and the context do. -/
theorem iterClause_model (m : MState) (s : Store String) (hl : Link m s) (k : Key) (i : Int) (cm : CtxMode)
    (stop : Option Nat) :
    iterClause m k i cm stop (deliver .ignore (afterIter s k i) stop none).1
      (deliver .ignore (afterIter s k i) stop none).2 = none ∧
    (deliver .ignore (afterIter s k i) stop none).1 ≠ .locked := by
  have hfl := find_logs k s.store
  have hsp := hl.spec k
  rw [← hfl] at hsp
  cases hf : find k s.store with
  | none =>
    rw [hf] at hsp
    have hd : deliver .ignore (afterIter s k i) stop none = (.unknown, []) := by
      simp [deliver, afterIter, hf]
    rw [hd]
    refine ⟨?_, by decide⟩
    by_cases hi : i < -1
    · simp only [iterClause, hi, if_true, reduceCtorEq, if_false]
    · simp only [iterClause, hi, hsp, if_false, reduceCtorEq, and_self, if_true, Option.map_none]
  | some dl =>
    rw [hf] at hsp
    simp only [Option.map_some] at hsp
    have hdl : DLInv psz dl := hl.inv.1.of_find hf
    by_cases hi : i < -1
    · exact ⟨by simp only [iterClause, hi, if_true, deliver_ignore_not_locked, if_false], deliver_ignore_not_locked _ _⟩
    · rcases afterOut_spec dl hdl i (by omega) with ⟨hp, hlt⟩ | hit
      · have hd : deliver .ignore (afterIter s k i) stop none = (.purged, []) := by
          simp [deliver, afterIter, hf, hp, iterOfOut]
        rw [hd]
        refine ⟨?_, by decide⟩
        simp [iterClause, hi, hsp, isEmpty_drop_of_lt hlt]
      · have hd : deliver .ignore (afterIter s k i) stop none = deliverPlain (dl.log.drop (i + 1).toNat) stop := by
          simp [deliver, afterIter, hf, hit, iterOfOut]
        rw [hd]
        cases stop with
        | none => exact ⟨by simp [deliverPlain, iterClause, hi, hsp], by simp [deliverPlain]⟩
        | some n =>
          simp only [deliverPlain]
          split
          · rename_i hn
            have hn2 := hn.2
            simp only [List.length_drop] at hn2
            exact ⟨by simp [iterClause, hi, hsp, hn.1, hn2], by simp⟩
          · exact ⟨by simp [iterClause, hi, hsp], by simp⟩

theorem dataBytes_eq_total {α} (sz : α → Nat) : ∀ l : List α, dataBytes sz l = total sz l
  | [] => rfl
  | d :: t => by simp only [dataBytes, total_cons, dataBytes_eq_total sz t]

/-- Under the per-stream invariant `validate`'s count is the sum of the streams' `size` fields. -/
theorem retainedBytes_eq_sumSizes {α} (sz : α → Nat) : ∀ (st : List (Key × DL α)), AllInv sz st →
    retainedBytes sz st = sumSizes st
  | [], _ => rfl
  | (k, dl) :: t, h => by
    have h1 : DLInv sz dl := h (k, dl) (by simp)
    have h2 : AllInv sz t := fun p hp => h p (by simp [hp])
    simp only [retainedBytes, sumSizes_cons, dataBytes_eq_total, retainedBytes_eq_sumSizes sz t h2, h1.1]

/-- `MemoryEventStore.validate` — the store's own consistency check, compiled out
in /repo — would never fire: after ANY history of exported calls the bytes counted from the retained data
equal `nBytes`. -/
theorem validate_never_panics {α} (sz : α → Nat) (ops : List (Op α)) :
    ∃ s os, run sz init ops = some (s, os) ∧ validate sz s = some () := by
  obtain ⟨s, os, e, ⟨hinv, hacc, _⟩, _⟩ := reachable sz ops
  exact ⟨s, os, e, by simp [validate, retainedBytes_eq_sumSizes sz s.store hinv, hacc]⟩

theorem rec_accepts (m : MState) (s : Store String) (hl : Link m s) (r : Rec) :
    ∃ s' obs, recStep s r = some (s', obs) ∧ (monStep m r obs).2 = none ∧ Link (monStep m r obs).1 s' := by
  cases r with
  | op o =>
    obtain ⟨s', out, hs, hc, hl'⟩ := op_accepts m s hl o
    exact ⟨s', obsOfOut out, by simp [recStep, hs], hc, hl'⟩
  | afteri k i k2 p =>
    obtain ⟨s1, o1, hs1, hc1, hl1⟩ := op_accepts m s hl (.after k i)
    have := after_step_state s s1 k i o1 hs1; subst this
    obtain ⟨s2, o2, hs2, _, hl2⟩ := op_accepts m s1 hl (.append k2 p)
    exact ⟨s2, obsOfOut o1, by simp [recStep, hs1, hs2], hc1, hl2⟩
  | iter k i cm stop script =>
    obtain ⟨s', nested, hr, hn, hl'⟩ := script_accepts script m s hl
    obtain ⟨hc, _⟩ := iterClause_model m s hl k i cm stop
    refine ⟨s', .iter (deliver .ignore (afterIter s k i) stop none).1 (deliver .ignore (afterIter s k i) stop none).2 nested,
      by simp only [recStep, hr], ?_, hl'⟩
    simp only [monStep, hc]
    exact hn
  | stat =>
    refine ⟨s, _, rfl, ?_, hl⟩
    simp only [monStep, statClause]
    have hb := hl.inv.2.2
    have hm : m.maxCfg.getD s.maxBytes = s.maxBytes := by
      cases hc : m.maxCfg with
      | none => rfl
      | some n => simp [hl.max n hc]
    rw [hm, hl.last, retainedBytes_eq_sumSizes psz s.store hl.inv.1, ← hl.inv.2.1]; simp [hb]
  | concurrent => exact ⟨s, _, rfl, by simp [monStep], hl⟩

theorem runMonFrom_accepts : ∀ (rs : List Rec) (m : MState) (s : Store String) (j : Nat), Link m s →
    ∃ s' os, recRun s rs = some (s', os) ∧ os.length = rs.length ∧ runMonFrom m j (rs.zip os) = none := by
  intro rs
  induction rs with
  | nil => intro m s j _; exact ⟨s, [], rfl, rfl, rfl⟩
  | cons r rs ih =>
    intro m s j hl
    obtain ⟨s1, obs, h1, h2, h3⟩ := rec_accepts m s hl r
    obtain ⟨s2, os, e1, e2, e3⟩ := ih _ s1 (j + 1) h3
    refine ⟨s2, obs :: os, by simp [recRun, h1, e1], by simp [e2], ?_⟩
    simp only [List.zip_cons_cons, runMonFrom, h2]
    exact e3

theorem monitor_accepts_model (rs : List Rec) :
    ∃ s os, recRun init rs = some (s, os) ∧ os.length = rs.length ∧ runMon (rs.zip os) = none :=
  runMonFrom_accepts rs {} init 0 link_init

end EventStore
