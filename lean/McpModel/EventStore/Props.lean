import McpModel.EventStore.Lemmas
/-!
# C20 — property theorems for the in-memory event store (model: `EventStore.step`)

Every theorem quantifies over *all* histories (`List (Op α)`), all payload types `α` with any size
function `sz`, all limits, any number of sessions and streams.  Nothing here is bounded.
-/
namespace EventStore
variable {α : Type}

/-- The abstract specification of one stream `k`: `none` = unknown, `some log` = everything appended
to it since it was (re)created.  This is the "simple abstract log" the store must refine. -/
def specStep (k : Key) (cur : Option (List α)) : Op α → Option (List α)
  | .open k' => if k' = k then some (cur.getD []) else cur
  | .append k' d => if k' = k then some (cur.getD [] ++ [d]) else cur
  | .closed sess => if k.1 = sess then none else cur
  | _ => cur

def specLog (k : Key) (ops : List (Op α)) : Option (List α) := ops.foldl (specStep k) none

/-- The inductive invariant: per-stream accounting + suffix shape, global accounting, byte bound. -/
def Inv (sz : α → Nat) (s : Store α) : Prop :=
  AllInv sz s.store ∧ s.nBytes = sumSizes s.store ∧ s.nBytes ≤ s.maxBytes + s.lastApp

theorem inv_init (sz : α → Nat) : Inv sz (init : Store α) := by
  refine ⟨?_, rfl, ?_⟩
  · intro p hp; simp [init] at hp
  · simp [init]

/-- The ghost `lastApp` after an API call. -/
def lastAppOf (sz : α → Nat) (a : Nat) : Op α → Nat
  | .append _ d => sz d
  | .setMax _ => 0
  | _ => a

/-- `maxBytes` after an API call. -/
def maxOf (mx : Nat) : Op α → Nat
  | .setMax n => if n = 0 then defaultMaxBytes else n
  | _ => mx

/-- One step: never panics, keeps the invariant, moves every stream's ghost log exactly as the abstract
specification says, and leaves `lastApp` and `maxBytes` as the operation dictates. -/
theorem step_spec (sz : α → Nat) (s : Store α) (op : Op α) (h : Inv sz s) :
    ∃ s' o, step sz s op = some (s', o) ∧ Inv sz s' ∧
      (∀ k, (logs s'.store).lookup k = specStep k ((logs s.store).lookup k) op) ∧
      s'.lastApp = lastAppOf sz s.lastApp op ∧ s'.maxBytes = maxOf s.maxBytes op := by
  obtain ⟨h1, h2, h3⟩ := h
  cases op with
  | «open» k =>
    obtain ⟨e1, e2, _, e4, e5⟩ := ensure_spec sz k s.store h1
    refine ⟨_, _, rfl, ⟨e1, by simp [e2, h2], h3⟩, ?_, rfl, rfl⟩
    intro k'
    by_cases hk : k = k'
    · subst hk; simp [specStep, e4]
    · simp [specStep, hk]; exact e5 k' (fun h => hk h.symm)
  | append k d =>
    obtain ⟨e1, e2, _, e4, e5⟩ := ensure_spec sz k s.store h1
    obtain ⟨s', p1, p2, p3, p4, _, p6, p7, p8⟩ :=
      purge_spec sz { s with store := ensure k s.store } e1 (by simp [e2, h2])
    have hfind : ∃ dl, find k s'.store = some dl := by
      have := find_logs k s'.store
      rw [p6] at this; simp at this; rw [e4] at this
      cases hf : find k s'.store with
      | none => rw [hf] at this; simp at this
      | some dl => exact ⟨dl, rfl⟩
    obtain ⟨dl, hdl⟩ := hfind
    have hdlinv : DLInv sz dl := p2.of_find hdl
    have hlog : dl.log = ((logs s.store).lookup k).getD [] := by
      have := find_logs k s'.store
      rw [hdl, p6] at this; simp at this; rw [e4] at this; simpa using this
    obtain ⟨u1, u2, u3, u4⟩ := upd_spec sz k
      (fun dl => { dl with size := dl.size + sz d, data := dl.data ++ [d], log := dl.log ++ [d] })
      s'.store p2 (by
        intro x ⟨a, b, c⟩
        refine ⟨?_, ?_, ?_⟩
        · simp [a]
        · simp [List.drop_append_of_le_length c, ← b]
        · simp; omega) dl hdl
    refine ⟨_, _, by simp [step, p1]; exact ⟨rfl, rfl⟩, ⟨u1, ?_, ?_⟩, ?_, ?_, ?_⟩
    · simp at u2 ⊢; omega
    · simp; simp at p7; omega
    · intro k'
      by_cases hk : k = k'
      · subst hk; simp [specStep, u3, hlog]
      · simp [specStep, hk]
        rw [u4 k' (fun h => hk h.symm), p6]; exact e5 k' (fun h => hk h.symm)
    · rfl
    · exact p7
  | after k i => exact ⟨s, _, step_after sz s k i, ⟨h1, h2, h3⟩, fun k' => by simp [specStep], rfl, rfl⟩
  | setMax n =>
    obtain ⟨s', p1, p2, p3, p4, _, p6, p7, p8⟩ :=
      purge_spec sz { s with maxBytes := (if n = 0 then defaultMaxBytes else n), lastApp := 0 } h1 h2
    refine ⟨s', .ok, by simp [step, p1], ⟨p2, p3, by omega⟩, ?_, p8, p7⟩
    intro k'; simp [specStep, p6]
  | closed sess =>
    obtain ⟨f1, f2, f3⟩ := filter_spec sz sess s.store h1
    refine ⟨_, _, rfl, ⟨f1, ?_, ?_⟩, ?_, rfl, rfl⟩
    · simp; omega
    · simp; omega
    · intro k'; simp [specStep]; rw [f3 k']
  | maxBytes => exact ⟨s, _, rfl, ⟨h1, h2, h3⟩, fun k' => by simp [specStep], rfl, rfl⟩

theorem step_inv (sz : α → Nat) (s : Store α) (op : Op α) (h : Inv sz s) :
    ∃ s' o, step sz s op = some (s', o) ∧ Inv sz s' ∧
      ∀ k, (logs s'.store).lookup k = specStep k ((logs s.store).lookup k) op := by
  obtain ⟨s', o, hs, hi, hl, _⟩ := step_spec sz s op h
  exact ⟨s', o, hs, hi, hl⟩

theorem run_inv (sz : α → Nat) (ops : List (Op α)) (s : Store α) (h : Inv sz s) :
    ∃ s' os, run sz s ops = some (s', os) ∧ Inv sz s' ∧ os.length = ops.length ∧
      ∀ k, (logs s'.store).lookup k = ops.foldl (specStep k) ((logs s.store).lookup k) := by
  induction ops generalizing s with
  | nil => exact ⟨s, [], rfl, h, rfl, fun _ => rfl⟩
  | cons op ops ih =>
    obtain ⟨s1, o, e1, i1, l1⟩ := step_inv sz s op h
    obtain ⟨s2, os, e2, i2, n2, l2⟩ := ih s1 i1
    refine ⟨s2, o :: os, by simp [run, e1, e2], i2, by simp [n2], ?_⟩
    intro k; rw [l2 k, l1 k]; rfl

/-- No history of exported calls reaches `panic("empty dataList")` or
`panic("no progress during purge")`. -/
theorem no_panic (sz : α → Nat) (ops : List (Op α)) : (run sz init ops).isSome = true := by
  obtain ⟨s', os, e, _⟩ := run_inv sz ops init (inv_init sz)
  simp [e]

/-- Every history runs (no panic), ends in a state with the invariant, and the ghost logs are the abstract `specLog` of the history:
what the later files start from. -/
theorem reachable (sz : α → Nat) (ops : List (Op α)) :
    ∃ s os, run sz init ops = some (s, os) ∧ Inv sz s ∧ ∀ k, (logs s.store).lookup k = specLog k ops := by
  obtain ⟨s', os, e, i, _, l⟩ := run_inv sz ops init (inv_init sz)
  exact ⟨s', os, e, i, fun k => by rw [l k]; simp [specLog, init, logs]⟩

theorem reachable_find (sz : α → Nat) (ops : List (Op α)) (k : Key) :
    ∃ s os, run sz init ops = some (s, os) ∧
      match find k s.store with
      | none => specLog k ops = none
      | some dl => specLog k ops = some dl.log ∧ DLInv sz dl := by
  obtain ⟨s, os, e, ⟨hinv, _, _⟩, hl⟩ := reachable sz ops
  refine ⟨s, os, e, ?_⟩
  have hfl := find_logs k s.store
  rw [hl k] at hfl
  cases hf : find k s.store with
  | none => rw [hf] at hfl; exact hfl.symm
  | some dl => rw [hf] at hfl; exact ⟨hfl.symm, hinv.of_find hf⟩

theorem afterOut_exact (sz : α → Nat) (dl : DL α) (h : DLInv sz dl) (i : Int) (hi : -1 ≤ i) :
    (afterOut dl i = .purged ∧ (i + 1).toNat < dl.log.length) ∨
    afterOut dl i = .items (dl.log.drop (i + 1).toNat) := by
  obtain ⟨_, hd, hfirst⟩ := h
  rw [afterOut_eq]
  split
  · exact .inl ⟨rfl, by omega⟩
  · right
    rw [hd, List.drop_drop]
    congr 2; omega

/-- After any history, `After(k, i)` (with `i ≥ -1`) answers `unknown` iff the
stream does not exist; otherwise it answers either the purge error or *exactly* the payloads appended
after position `i`, in order — never a partial or gapped list. -/
theorem after_refines_spec (sz : α → Nat) (ops : List (Op α)) (k : Key) (i : Int) (hi : -1 ≤ i) :
    ∃ s os o, run sz init ops = some (s, os) ∧ step sz s (.after k i) = some (s, o) ∧
      match specLog k ops with
      | none => o = .unknown
      | some log => o = .purged ∨ o = .items (log.drop (i + 1).toNat) := by
  obtain ⟨s, os, e, h⟩ := reachable_find sz ops k
  cases hf : find k s.store with
  | none =>
    rw [hf] at h
    exact ⟨s, os, .unknown, e, by rw [step_after, hf], by rw [h]⟩
  | some dl =>
    rw [hf] at h
    refine ⟨s, os, afterOut dl i, e, by rw [step_after, hf], ?_⟩
    rw [h.1]
    exact (afterOut_exact sz dl h.2 i hi).imp And.left id

/-- The purge error is given exactly when position `i+1` lies before the oldest retained position — for ANY `dl`: one unfolding of
`afterOut`, no history.  That the positions before `dl.first` are the evicted payloads of the log is `DLInv` (`afterOut_exact`). -/
theorem purged_iff_evicted (dl : DL α) (i : Int) :
    afterOut dl i = .purged ↔ i + 1 < (dl.first : Int) := by
  rw [afterOut_eq]; split <;> simp [*]

/-- In every reachable state, what a stream retains is the appended log minus
its `first` oldest items (oldest evicted first), and `first` never exceeds the log length. -/
theorem retained_is_suffix (sz : α → Nat) (ops : List (Op α)) (k : Key) :
    ∃ s os, run sz init ops = some (s, os) ∧
      ∀ dl, find k s.store = some dl →
        specLog k ops = some dl.log ∧ dl.data = dl.log.drop dl.first ∧ dl.first ≤ dl.log.length := by
  obtain ⟨s, os, e, h⟩ := reachable_find sz ops k
  refine ⟨s, os, e, fun dl hf => ?_⟩
  rw [hf] at h
  exact ⟨h.1, h.2.2⟩

/-- `nBytes` is the sum of the stream sizes and each stream's `size` is the sum of its
retained payload sizes (what the compiled-out `validate` would check). -/
theorem accounting (sz : α → Nat) (ops : List (Op α)) :
    ∃ s os, run sz init ops = some (s, os) ∧ s.nBytes = sumSizes s.store ∧
      ∀ p ∈ s.store, p.2.size = total sz p.2.data := by
  obtain ⟨s, os, e, ⟨hinv, hacc, _⟩, _⟩ := reachable sz ops
  exact ⟨s, os, e, hacc, fun p hp => (hinv p hp).1⟩

/-- Retained bytes never exceed the maximum by more than the most recent item
(`lastApp` is the size of the latest `Append`, reset by `SetMaxBytes`). -/
theorem bytes_bound (sz : α → Nat) (ops : List (Op α)) :
    ∃ s os, run sz init ops = some (s, os) ∧ s.nBytes ≤ s.maxBytes + s.lastApp := by
  obtain ⟨s, os, e, ⟨_, _, hb⟩, _⟩ := reachable sz ops
  exact ⟨s, os, e, hb⟩

/-- `lastApp` really is the size of the last appended item. -/
theorem lastApp_append (sz : α → Nat) (s s' : Store α) (k : Key) (d : α) (o : Out α)
    (h : step sz s (.append k d) = some (s', o)) : s'.lastApp = sz d := by
  simp only [step] at h
  split at h
  · cases h
  · simp at h; rw [← h.1]

/-- After `SessionClosed sess` no stream of `sess` exists, every other
stream is untouched, and exactly the session's bytes are released. -/
theorem session_closed_releases (sz : α → Nat) (s : Store α) (sess : String) (h : Inv sz s) :
    ∃ s', step sz s (.closed sess) = some (s', .ok) ∧
      (∀ k : Key, k.1 = sess → find k s'.store = none) ∧
      (∀ k : Key, k.1 ≠ sess → find k s'.store = find k s.store) ∧
      s'.nBytes + sessBytes sess s.store = s.nBytes := by
  obtain ⟨h1, h2, _⟩ := h
  obtain ⟨_, f2, _⟩ := filter_spec sz sess s.store h1
  refine ⟨_, rfl, fun k hk => ?_, fun k hk => ?_, ?_⟩
  · show find k (s.store.filter _) = none
    rw [find_filter (fun x => !decide (x.1 = sess))]; simp [hk]
  · show find k (s.store.filter _) = find k s.store
    rw [find_filter (fun x => !decide (x.1 = sess))]; simp [hk]
  · simp; omega

/-- Equality of purge-pass results up to the order of the table. -/
def ResEq : Option (List (Key × DL α) × Nat × Bool) → Option (List (Key × DL α) × Nat × Bool) → Prop
  | some (a, r, c), some (b, r', c') => a.Perm b ∧ r = r' ∧ c = c'
  | none, none => True
  | _, _ => False

theorem ResEq.refl (x : Option (List (Key × DL α) × Nat × Bool)) : ResEq x x := by
  cases x with
  | none => trivial
  | some v => obtain ⟨a, r, c⟩ := v; exact ⟨List.Perm.refl _, rfl, rfl⟩

theorem ResEq.trans {x y z : Option (List (Key × DL α) × Nat × Bool)} (h1 : ResEq x y) (h2 : ResEq y z) :
    ResEq x z := by
  cases x <;> cases y <;> cases z <;> try (simp_all [ResEq]; done)
  rename_i u v w
  obtain ⟨a, r, c⟩ := u
  obtain ⟨a2, r2, c2⟩ := v
  obtain ⟨a3, r3, c3⟩ := w
  exact ⟨h1.1.trans h2.1, h1.2.1.trans h2.2.1, h1.2.2.trans h2.2.2⟩

theorem roundCons_congr (sz : α → Nat) (p : Key × DL α) {x y} (h : ResEq x y) :
    ResEq (roundCons sz p x) (roundCons sz p y) := by
  match x, y, h with
  | none, none, _ => trivial
  | some (a, r, c), some (b, _, _), ⟨h1, rfl, rfl⟩ =>
    simp only [roundCons]
    split
    · cases removeFirst sz p.2 with
      | none => trivial
      | some v => exact ⟨h1.cons _, rfl, rfl⟩
    · exact ⟨h1.cons _, rfl, rfl⟩

/-- The one step behind order independence: each entry is treated on its own and the removed sizes are added up, so two entries
commute (up to `ResEq`: the sums in either order). -/
theorem roundCons_swap (sz : α → Nat) (p q : Key × DL α) (x) :
    ResEq (roundCons sz p (roundCons sz q x)) (roundCons sz q (roundCons sz p x)) := by
  cases x with
  | none => simp [roundCons, ResEq]
  | some v =>
    obtain ⟨a, r, c⟩ := v
    by_cases hp : 0 < p.2.size <;> by_cases hq : 0 < q.2.size <;>
      cases hrp : removeFirst sz p.2 <;> cases hrq : removeFirst sz q.2 <;>
      simp [roundCons, hp, hq, hrp, hrq, ResEq, List.Perm.swap] <;> omega

/-- **purge order independence.** One purge pass treats the table as a multiset: permuting it permutes
the result and leaves the number of bytes removed and the progress flag unchanged, so Go's map
iteration order cannot influence the outcome. -/
theorem purgeRound_perm (sz : α → Nat) (a b : List (Key × DL α)) (h : a.Perm b) :
    ResEq (purgeRound sz a) (purgeRound sz b) := by
  induction h with
  | nil => exact ResEq.refl _
  | cons x _ ih => exact roundCons_congr sz x ih
  | swap x y l => exact roundCons_swap sz y x _
  | trans _ _ ih1 ih2 => exact ih1.trans ih2

end EventStore
