import McpModel.EventStore.Sound
import McpModel.EventStore.Iter
/-!
# C20 — the window between `After`'s return and the first step of the iteration

The snapshot is taken by the iterator's first step, not by the call of `After` (Monitor.lean, "The window …").  A consumer
that obtains the iterator and ranges over it later (the streamable server does: `for data, err := range c.eventStore.After(…)` is one statement,
but nothing in the interface obliges a caller to write it so; and between the evaluation of the range
expression and the first call of the iterator function other goroutines run) leaves a WINDOW in which
whole API calls take effect.  The harness issues such calls (`iter … 0:<op>`); the driver treats them as
records of their own made before the iteration starts (`EventStore.expand`, Monitor.lean).  The second half of the file
(`monRun_state` … `line_accepts`) is the bridge for such a line: the monitor's run over the expanded records against the model.
-/
namespace EventStore

section
variable {α : Type}

/-- `ops`: the history before `After(k, i)` is called; `pre`: the calls that take effect between its return and the
consumer's first step.  `after_iteration_complete_or_error` with the stream AS OF THE FIRST STEP (`ops ++ pre`). -/
theorem lazy_iteration_exact_at_first_step (sz : α → Nat) (ops pre : List (Op α)) (k : Key) (i : Int) (hi : -1 ≤ i)
    (pol : CtxPolicy) (hpol : pol ≠ .silent) (stop cancel : Option Nat) :
    ∃ s0 o0 s1 o1, run sz init ops = some (s0, o0) ∧ run sz s0 pre = some (s1, o1) ∧
      match specLog k (ops ++ pre) with
      | none =>
        (deliver pol (afterIter s1 k i) stop cancel).2 = [] ∧
        ((deliver pol (afterIter s1 k i) stop cancel).1 = .unknown ∨
         ((deliver pol (afterIter s1 k i) stop cancel).1 = .ctx ∧ cancel = some 0))
      | some log =>
        Outcome (log.drop (i + 1).toNat) stop cancel (deliver pol (afterIter s1 k i) stop cancel).1
          (deliver pol (afterIter s1 k i) stop cancel).2 := by
  obtain ⟨s0, o0, e0, hinv0, _⟩ := reachable sz ops
  obtain ⟨s1, o1, e1, _, _, _⟩ := run_inv sz pre s0 hinv0
  obtain ⟨s, os, e, h⟩ := after_iteration_complete_or_error sz (ops ++ pre) k i hi pol hpol stop cancel
  have := run_append sz ops pre init s0 s1 o0 o1 e0 e1
  rw [this] at e
  simp only [Option.some.injEq, Prod.mk.injEq] at e
  obtain ⟨hs, _⟩ := e
  subst hs
  exact ⟨s0, o0, s1, o1, e0, e1, h⟩

/-- `After` as `seek` (under the lock, when `After` is called, on the store `s`: lookup, `start := (i+1) -
dl.first`, unknown / purge error) + `copyFrom(dl, start)` (under the lock again, at the first step, on the
store `s'`: `slices.Clone(dl.data[start:])`, `nil` if `start ≥ len`).  `dl` is a pointer: the list it names
is the stream's list in `s'` if the stream is still there, and the unlinked, unchanged list otherwise. -/
def seekCopy (s s' : Store α) (k : Key) (i : Int) : Iter α :=
  match find k s.store with
  | none => ⟨[], some .unknown⟩
  | some dl =>
    let start : Int := (i + 1) - dl.first
    if start < 0 then ⟨[], some .purged⟩
    else match find k s'.store with
      | some dl' => ⟨dl'.data.drop start.toNat, none⟩
      | none => ⟨dl.data.drop start.toNat, none⟩

/-- As long as the stream's `first` did not move in the window (nothing of it was evicted, it was not
closed and re-created), seek-then-copy IS the lazy iteration. -/
theorem seekCopy_exact_if_no_eviction (s s' : Store α) (k : Key) (i : Int) (dl dl' : DL α)
    (h : find k s.store = some dl) (h' : find k s'.store = some dl') (hfirst : dl'.first = dl.first) :
    seekCopy s s' k i = afterIter s' k i := by
  simp only [seekCopy, afterIter, h, h', afterOut_eq, hfirst]
  by_cases hneg : i + 1 < (dl.first : Int)
  · rw [if_pos (by omega), if_pos hneg]; rfl
  · rw [if_neg (by omega), if_neg hneg]; rfl

/-- With no window at all it is the iteration of the store. -/
theorem seekCopy_same (s : Store α) (k : Key) (i : Int) : seekCopy s s k i = afterIter s k i := by
  cases h : find k s.store with
  | none => simp [seekCopy, afterIter, h]
  | some dl => exact seekCopy_exact_if_no_eviction s s k i dl dl h h rfl

/-- `Iter` derives no `DecidableEq`: the witnesses below compare the pair of its fields, which `decide` can. -/
def Iter.pair (it : Iter α) : List α × Option IterErr := (it.snap, it.err)

theorem Iter.eq_of_pair (it : Iter α) (l : List α) (e : Option IterErr) (h : it.pair = (l, e)) : it = ⟨l, e⟩ := by
  cases it; simp only [Iter.pair, Prod.mk.injEq] at h; obtain ⟨rfl, rfl⟩ := h; rfl

end

section witnesses
private def kA : Key := ("s", "a")
/-- default maximum; stream s/a = 1 2 3 (a payload is its size) -/
private def histW : List (Op Nat) := [.open kA, .append kA 1, .append kA 2, .append kA 3]
/-- the window: `SetMaxBytes(5)` evicts the oldest item of s/a -/
private def preW : List (Op Nat) := [.setMax 5]

/-- The lazy iterator over the same window: the oldest item of the stream was evicted in the window, the
item after index 0 is still there — exactly the payloads after the index (two of them). -/
example : ((run id init histW).bind fun p => (run id p.1 preW).map fun q => ((afterIter q.1 kA 0).pair, (find kA q.1.store).map (·.first))) =
    some (([2, 3], none), some 1) := by decide +kernel

/-- Seeded change C20-m13.  Stream `s/a` holds three items (6 bytes).
`After(s/a, 0)` is called; in the window `SetMaxBytes(5)` evicts the oldest item of `s/a`
(its `first` moves from 0 to 1).  The log of `s/a` is the same at the call and at the first step, two
payloads lie after index 0 and both are retained — but seek-then-copy delivers only the last of them and no
error: it answers neither for the store at the call nor for the store at the first step, and is no
`Outcome` of a drained iteration.  (`lazy_iteration_exact_at_first_step` is what excludes it.) -/
theorem stale_seek_is_gapped :
    ∃ (ops pre : List (Op Nat)) (k : Key) (s0 s1 : Store Nat) (o0 o1 : List (Out Nat)) (log : List Nat),
      run id init ops = some (s0, o0) ∧ run id s0 pre = some (s1, o1) ∧
      specLog k ops = some log ∧ specLog k (ops ++ pre) = some log ∧
      afterIter s0 k 0 = ⟨log.drop 1, none⟩ ∧ afterIter s1 k 0 = ⟨log.drop 1, none⟩ ∧
      (log.drop 1).length = 2 ∧ seekCopy s0 s1 k 0 = ⟨[3], none⟩ ∧
      ¬ Outcome (log.drop 1) none none (deliver .ignore (seekCopy s0 s1 k 0) none none).1
          (deliver .ignore (seekCopy s0 s1 k 0) none none).2 := by
  -- one evaluation of the history and the window; the states are then named by case analysis
  have h : ((run id init histW).bind fun p => (run id p.1 preW).map fun q =>
      ((afterIter p.1 kA 0).pair, (afterIter q.1 kA 0).pair, (seekCopy p.1 q.1 kA 0).pair)) =
      some (([2, 3], none), ([2, 3], none), ([3], none)) := by decide +kernel
  cases e0 : run id init histW with
  | none => rw [e0] at h; cases h
  | some p =>
    rw [e0] at h
    cases e1 : run id p.1 preW with
    | none => simp only [Option.bind_some, e1] at h; cases h
    | some q =>
      simp only [Option.bind_some, e1, Option.map_some, Option.some.injEq, Prod.mk.injEq] at h
      obtain ⟨h0, h1, hsk⟩ := h
      have hsk := Iter.eq_of_pair _ _ _ hsk
      refine ⟨histW, preW, kA, p.1, q.1, p.2, q.2, [1, 2, 3], e0, e1, by decide, by decide,
        Iter.eq_of_pair _ _ _ h0, Iter.eq_of_pair _ _ _ h1, rfl, hsk, ?_⟩
      rw [hsk]
      rintro (⟨_, h⟩ | ⟨h, _⟩ | ⟨h, _⟩ | ⟨h, _⟩) <;> cases h
end witnesses

/-- The bookkeeping after the records of a line is the bookkeeping of the monitor run (`stateAfter`,
Sound.lean), whether or not a clause was raised on the way. -/
theorem monRun_state : ∀ (tr : Trace) (st : MState), (monRun st tr).1 = stateAfter st tr := by
  intro tr
  induction tr with
  | nil => intro st; rfl
  | cons p tr ih =>
    intro st
    obtain ⟨r, obs⟩ := p
    simp only [monRun, stateAfter]
    split <;> exact ih _

/-- The clause the driver reports for a line is the first clause `runMonFrom` reports on its records. -/
theorem monRun_clause : ∀ (tr : Trace) (st : MState) (j : Nat),
    (monRun st tr).2 = (runMonFrom st j tr).map Prod.snd := by
  intro tr
  induction tr with
  | nil => intro st j; rfl
  | cons p tr ih =>
    intro st j
    obtain ⟨r, obs⟩ := p
    simp only [monRun, runMonFrom]
    split
    · rfl
    · exact ih _ _

theorem window_op_ok (s s' : Store String) (o : Op String) (obs : Obs) (h : isWindowOp o = true)
    (hs : recStep s (.op o) = some (s', obs)) : obs = .ok := by
  cases o with
  | after k i => cases h
  | maxBytes => cases h
  | «open» k => simp [recStep, step] at hs; rw [← hs.2]; rfl
  | append k d =>
    simp only [recStep, step] at hs
    split at hs
    · cases hs
    · simp at hs; rw [← hs.2]; rfl
  | setMax n =>
    simp only [recStep, step] at hs
    split at hs
    · cases hs
    · simp at hs; rw [← hs.2]; rfl
  | closed sess => simp [recStep, step] at hs; rw [← hs.2]; rfl

/-- One line of the harness — the window calls `pre` and the record `r` — on linked
monitor and model states: the model answers every record (no panic), its answers to the window calls are
the `ok`s `expand` assumes, the driver's run of the monitor over the expanded line raises no clause on the
model's answer `mo` to `r`, and the states stay linked.  (One line; the induction over a sequence of lines, each with its own
window, is not stated.  `monitor_accepts_model` is the statement for sequences of records without windows.) -/
theorem line_accepts : ∀ (pre : List (Op String)) (m : MState) (s : Store String) (r : Rec), Link m s →
    pre.all isWindowOp = true →
    ∃ s' os mo, recRun s (wireRecs pre r) = some (s', os) ∧ os = pre.map (fun _ => Obs.ok) ++ [mo] ∧
      (monRun m (expand pre r mo)).2 = none ∧ Link (monRun m (expand pre r mo)).1 s' := by
  intro pre
  induction pre with
  | nil =>
    intro m s r hl _
    obtain ⟨s', obs, h1, h2, h3⟩ := rec_accepts m s hl r
    refine ⟨s', [obs], obs, by simp [wireRecs, recRun, h1], rfl, ?_, ?_⟩
    · simp [expand, monRun, h2]
    · simpa [expand, monRun, h2] using h3
  | cons o pre ih =>
    intro m s r hl hall
    simp only [List.all_cons, Bool.and_eq_true] at hall
    obtain ⟨s1, obs, h1, h2, h3⟩ := rec_accepts m s hl (.op o)
    have hok := window_op_ok s s1 o obs hall.1 h1
    subst hok
    obtain ⟨s', os, mo, e1, e2, e3, e4⟩ := ih _ s1 r h3 hall.2
    refine ⟨s', .ok :: os, mo, ?_, by simp [e2], ?_, ?_⟩
    · have : wireRecs (o :: pre) r = .op o :: wireRecs pre r := rfl
      rw [this]; simp only [recRun, h1, e1]
    · have : expand (o :: pre) r mo = (.op o, .ok) :: expand pre r mo := rfl
      rw [this]; simp only [monRun, h2]; exact e3
    · have : expand (o :: pre) r mo = (.op o, .ok) :: expand pre r mo := rfl
      rw [this]; simp only [monRun, h2]; exact e4

end EventStore
