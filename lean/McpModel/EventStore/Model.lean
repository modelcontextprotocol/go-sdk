import McpModel.Generated.EventStoreGen
/-
E15 — model of `mcp.MemoryEventStore` (mcp/event.go: `type dataList`, `MemoryEventStore` and its methods through `purge`; `validate`).  Serves C20.

One `step` is one exported method call; every exported method holds `s.mu` for its whole effect
(structural fact checked by the extractor), so a concurrent history is a sequence of whole steps.
`none` models a Go panic ("empty dataList", "no progress during purge").
Ghost fields (never read by the modelled code): `DL.log`, `Store.lastApp`.
Core Lean only (linked into the driver).
-/
namespace EventStore

abbrev Key := String × String   -- (session id, stream id)

/-- `dataList` plus the ghost `log` of everything ever appended to the stream. -/
structure DL (α : Type) where
  size  : Nat
  first : Nat
  data  : List α
  log   : List α
deriving Repr

def DL.empty {α} : DL α := { size := 0, first := 0, data := [], log := [] }

structure Store (α : Type) where
  maxBytes : Nat
  nBytes   : Nat
  store    : List (Key × DL α)
  lastApp  : Nat          -- ghost: size of the latest Append (0 after SetMaxBytes)
deriving Repr

def find {α} (k : Key) : List (Key × DL α) → Option (DL α)
  | [] => none
  | (k', d) :: t => if k' = k then some d else find k t

def upd {α} (k : Key) (f : DL α → DL α) : List (Key × DL α) → List (Key × DL α)
  | [] => []
  | (k', d) :: t => if k' = k then (k', f d) :: t else (k', d) :: upd k f t

/-- `MemoryEventStore.init`: make sure the entry exists. -/
def ensure {α} (k : Key) (st : List (Key × DL α)) : List (Key × DL α) :=
  match find k st with
  | some _ => st
  | none => st ++ [(k, DL.empty)]

/-- `dataList.removeFirst`; `none` = panic("empty dataList"). Returns the removed size. -/
def removeFirst {α} (sz : α → Nat) (dl : DL α) : Option (DL α × Nat) :=
  match dl.data with
  | [] => none
  | d :: rest => some ({ dl with size := dl.size - sz d, first := dl.first + 1, data := rest }, sz d)

/-- What a pass does to ONE entry `p`, given the result of the pass on the rest of the table. -/
def roundCons {α} (sz : α → Nat) (p : Key × DL α) :
    Option (List (Key × DL α) × Nat × Bool) → Option (List (Key × DL α) × Nat × Bool)
  | none => none
  | some (t', r, ch) =>
    if p.2.size > 0 then
      match removeFirst sz p.2 with
      | none => none
      | some (dl', r') => some ((p.1, dl') :: t', r' + r, true)
    else some (p :: t', r, ch)

/-- One pass of the inner loops of `purge`: every list with `size > 0` loses its first item.
Result: new table, bytes removed, `changed`. The outcome does not depend on map iteration order
because every entry is treated independently and the removed sizes are added up. -/
def purgeRound {α} (sz : α → Nat) : List (Key × DL α) → Option (List (Key × DL α) × Nat × Bool)
  | [] => some ([], 0, false)
  | p :: t => roundCons sz p (purgeRound sz t)

def items {α} : List (Key × DL α) → Nat
  | [] => 0
  | (_, dl) :: t => dl.data.length + items t

/-- `purge`, with fuel (the number of retained items bounds the number of rounds).
`none` = panic("no progress during purge") or the panic of `removeFirst`. -/
def purgeFuel {α} (sz : α → Nat) : Nat → Store α → Option (Store α)
  | fuel, s =>
    if s.nBytes ≤ s.maxBytes then some s
    else match fuel with
      | 0 => none
      | f + 1 =>
        match purgeRound sz s.store with
        | none => none
        | some (st', r, ch) =>
          if ch then purgeFuel sz f { s with store := st', nBytes := s.nBytes - r } else none

def purge {α} (sz : α → Nat) (s : Store α) : Option (Store α) := purgeFuel sz (items s.store) s

inductive Op (α : Type) where
  | open (k : Key)
  | append (k : Key) (d : α)
  | after (k : Key) (i : Int)
  | setMax (n : Nat)            -- n = 0 selects the default; negative arguments panic in Go and are not modelled
  | closed (sess : String)
  | maxBytes
deriving Repr

inductive Out (α : Type) where
  | ok
  | items (l : List α)
  | purged
  | unknown
  | num (n : Nat)
deriving Repr, DecidableEq

/-- regenerated from mcp/event.go on every run -/
def defaultMaxBytes : Nat := Generated.EventStore.defaultMaxBytes

def init {α} : Store α := { maxBytes := defaultMaxBytes, nBytes := 0, store := [], lastApp := 0 }

/-- `After`'s `copyData`. -/
def afterOut {α} (dl : DL α) (i : Int) : Out α :=
  let start : Int := (i + 1) - dl.first
  if start < 0 then .purged
  else if start.toNat ≥ dl.data.length then .items []
  else .items (dl.data.drop start.toNat)

def sessBytes {α} (sess : String) : List (Key × DL α) → Nat
  | [] => 0
  | (k, dl) :: t => (if k.1 = sess then dl.size else 0) + sessBytes sess t

def step {α} (sz : α → Nat) (s : Store α) : Op α → Option (Store α × Out α)
  | .open k => some ({ s with store := ensure k s.store }, .ok)
  | .append k d =>
    match purge sz { s with store := ensure k s.store } with
    | none => none
    | some s' =>
      some ({ s' with
                store := upd k (fun dl => { dl with size := dl.size + sz d, data := dl.data ++ [d],
                                                    log := dl.log ++ [d] }) s'.store,
                nBytes := s'.nBytes + sz d,
                lastApp := sz d }, .ok)
  | .after k i =>
    match find k s.store with
    | none => some (s, .unknown)
    | some dl => some (s, afterOut dl i)
  | .setMax n =>
    match purge sz { s with maxBytes := (if n = 0 then defaultMaxBytes else n), lastApp := 0 } with
    | none => none
    | some s' => some (s', .ok)
  | .closed sess =>
    some ({ s with nBytes := s.nBytes - sessBytes sess s.store,
                   store := s.store.filter (fun p => !decide (p.1.1 = sess)) }, .ok)
  | .maxBytes => some (s, .num s.maxBytes)

/-! ### The `After` iterator as a value

`After` itself does nothing; the function it returns first runs `copyData` — ONE critical section under
`s.mu` that clones what the stream retains after the index (`slices.Clone`, structural fact
`eventstore.after_snapshot`) or picks the error to yield — and then delivers from that private value
outside the lock.  So an iteration is a value `Iter` (snapshot list + optional error) fixed at its start,
and a delivery that is a function of that value, of the consumer (where it breaks) and of the context
(from which item on it is done) alone. -/

inductive IterErr where
  | purged
  | unknown
deriving DecidableEq, Repr

/-- What `copyData` returns: the private snapshot, or the error the iterator yields (and stops). -/
structure Iter (α : Type) where
  snap : List α
  err : Option IterErr
deriving Repr

def iterOfOut {α} : Out α → Iter α
  | .items l => ⟨l, none⟩
  | .purged => ⟨[], some .purged⟩
  | .unknown => ⟨[], some .unknown⟩
  | _ => ⟨[], none⟩   -- `ok` / `num`: never reached (`afterIter` feeds it `afterOut` only); a totalisation

/-- `copyData` of `After(k, i)` on the state `s`. -/
def afterIter {α} (s : Store α) (k : Key) (i : Int) : Iter α :=
  match find k s.store with
  | none => ⟨[], some .unknown⟩
  | some dl => iterOfOut (afterOut dl i)

/-- How an iteration ended, as its consumer sees it. -/
inductive Term where
  /-- the iterator returned and no error was yielded: "that was everything" -/
  | fin
  /-- the consumer broke out of the loop -/
  | broke
  /-- the iterator yielded `ErrEventsPurged` -/
  | purged
  /-- the iterator yielded the unknown-session / unknown-stream error -/
  | unknown
  /-- the iterator yielded the context's error -/
  | ctx
  /-- the iterator yielded any other error -/
  | error
  /-- the iterator yielded again after an error -/
  | goesOn
  /-- the iterator delivers while holding the store's lock -/
  | locked
deriving DecidableEq, Repr

/-- What an implementation of the iterator does with a context that is done. `ignore` is the code as it
is (the parameter is `_`: structural fact `eventstore.after_ctx_unused`); `report` yields the context's
error before `copyData` and before each item; `silent` just returns (seeded change C20-m12). -/
inductive CtxPolicy where
  | ignore
  | report
  | silent
deriving DecidableEq, Repr

/-- Delivery to a consumer that breaks in the body of the `stop`-th item (`none`: never) with no context
in play: the whole snapshot, or its first `stop` items. -/
def deliverPlain {α} (snap : List α) (stop : Option Nat) : Term × List α :=
  match stop with
  | none => (.fin, snap)
  | some n => if 1 ≤ n ∧ n ≤ snap.length then (.broke, snap.take n) else (.fin, snap)

/-- The consumer has broken out by the body of the `c`-th item. -/
def breaksBy (stop : Option Nat) (c : Nat) : Bool :=
  match stop with
  | some n => decide (1 ≤ n ∧ n ≤ c)
  | none => false

/-- **The iteration.** The context is done from the body of the `cancel`-th item on (`some 0`: before
the call; `none`: never).  A context-honouring iterator (`report`, `silent`) looks at the context before
`copyData` and before each yield. -/
def deliver {α} (pol : CtxPolicy) (it : Iter α) (stop cancel : Option Nat) : Term × List α :=
  let plain : Term × List α :=
    match it.err with
    | some .purged => (.purged, [])
    | some .unknown => (.unknown, [])
    | none => deliverPlain it.snap stop
  match pol, cancel with
  | .ignore, _ => plain
  | _, none => plain
  | pol, some c =>
    if c = 0 then (if pol = .report then (.ctx, []) else (.fin, []))
    else match it.err with
      | some _ => plain
      | none =>
        -- the consumer breaks first, or the snapshot ends first: the context is never looked at again
        if c < it.snap.length ∧ breaksBy stop c = false then
          (if pol = .report then (.ctx, it.snap.take c) else (.fin, it.snap.take c))
        else plain

/-! ### `validate`, the store's own consistency check

`MemoryEventStore.validate` (called at the end of `purge` and of `SessionClosed`) counts the bytes of every
retained item and panics ("sizes don't add up") if the count differs from `nBytes`.  It is compiled out
(`validateMemoryEventStore = false`); the harness's `stat` probe does the same count. -/

def dataBytes {α} (sz : α → Nat) : List α → Nat
  | [] => 0
  | d :: t => sz d + dataBytes sz t

/-- `validate`'s count `n`. -/
def retainedBytes {α} (sz : α → Nat) : List (Key × DL α) → Nat
  | [] => 0
  | (_, dl) :: t => dataBytes sz dl.data + retainedBytes sz t

/-- `validate` with the check compiled in; `none` = panic("sizes don't add up"). -/
def validate {α} (sz : α → Nat) (s : Store α) : Option Unit :=
  if retainedBytes sz s.store = s.nBytes then some () else none

/-- Run a whole history; `none` as soon as a step panics. Outputs are collected oldest first. -/
def run {α} (sz : α → Nat) : Store α → List (Op α) → Option (Store α × List (Out α))
  | s, [] => some (s, [])
  | s, op :: ops =>
    match step sz s op with
    | none => none
    | some (s', o) =>
      match run sz s' ops with
      | none => none
      | some (s'', os) => some (s'', o :: os)

end EventStore
