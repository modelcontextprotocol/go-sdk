import McpModel.EventStore.Model
import McpModel.Base.Logic
/-!
Helper lemmas for E15: the per-stream and table invariants (`DLInv`, `AllInv`, with `sumSizes`, `logs`), what each helper of `step`
does (`…_spec`), and facts about `List.lookup` on the tables.
-/
namespace EventStore
variable {α : Type}

def total (sz : α → Nat) : List α → Nat
  | [] => 0
  | x :: t => sz x + total sz t

@[simp] theorem total_nil (sz : α → Nat) : total sz [] = 0 := rfl
@[simp] theorem total_cons (sz : α → Nat) (x : α) (t : List α) : total sz (x :: t) = sz x + total sz t := rfl
@[simp] theorem total_append (sz : α → Nat) (a b : List α) : total sz (a ++ b) = total sz a + total sz b := by
  induction a with
  | nil => simp
  | cons x t ih => simp [ih]; omega

/-- Per-stream invariant: byte accounting, and the retained items are the log minus its first `first` items. -/
def DLInv (sz : α → Nat) (dl : DL α) : Prop :=
  dl.size = total sz dl.data ∧ dl.data = dl.log.drop dl.first ∧ dl.first ≤ dl.log.length

def sumSizes : List (Key × DL α) → Nat
  | [] => 0
  | (_, dl) :: t => dl.size + sumSizes t

@[simp] theorem sumSizes_nil : sumSizes ([] : List (Key × DL α)) = 0 := rfl
@[simp] theorem sumSizes_cons (p : Key × DL α) (t) : sumSizes (p :: t) = p.2.size + sumSizes t := by
  cases p; rfl
@[simp] theorem sumSizes_append (a b : List (Key × DL α)) : sumSizes (a ++ b) = sumSizes a + sumSizes b := by
  induction a with
  | nil => simp
  | cons x t ih => simp [ih]; omega

def AllInv (sz : α → Nat) (st : List (Key × DL α)) : Prop := ∀ p ∈ st, DLInv sz p.2

/-- What the spec sees of a table: keys with their ghost logs. -/
def logs (st : List (Key × DL α)) : List (Key × List α) := st.map fun p => (p.1, p.2.log)

theorem DLInv_empty (sz : α → Nat) : DLInv sz (DL.empty : DL α) := by
  simp [DLInv, DL.empty]

theorem removeFirst_spec (sz : α → Nat) (dl : DL α) (h : DLInv sz dl) (hpos : dl.size > 0) :
    ∃ dl' r, removeFirst sz dl = some (dl', r) ∧ DLInv sz dl' ∧ dl'.size + r = dl.size ∧
      dl'.log = dl.log ∧ dl'.data.length + 1 = dl.data.length := by
  obtain ⟨h1, h2, h3⟩ := h
  cases hd : dl.data with
  | nil => rw [hd] at h1; simp at h1; omega
  | cons d rest =>
    refine ⟨{ dl with size := dl.size - sz d, first := dl.first + 1, data := rest }, sz d,
      by simp [removeFirst, hd], ?_, ?_, rfl, by simp⟩
    · refine ⟨?_, ?_, ?_⟩
      · simp; rw [h1, hd]; simp
      · simp
        have : dl.log.drop (dl.first + 1) = (dl.log.drop dl.first).drop 1 := by
          rw [List.drop_drop]
        rw [this, ← h2, hd]; rfl
      · simp
        have hlen : (dl.log.drop dl.first).length = (d :: rest).length := by rw [← h2, hd]
        simp at hlen; omega
    · simp; rw [h1, hd]; simp; omega

theorem purgeRound_spec (sz : α → Nat) (st : List (Key × DL α)) (h : AllInv sz st) :
    ∃ st' r ch, purgeRound sz st = some (st', r, ch) ∧ AllInv sz st' ∧ sumSizes st' + r = sumSizes st ∧
      logs st' = logs st ∧ (ch = false → sumSizes st = 0) ∧ (ch = true → items st' < items st) ∧
      items st' ≤ items st := by
  induction st with
  | nil => exact ⟨[], 0, false, rfl, by simp [AllInv], by simp, rfl, by simp, by simp, by simp⟩
  | cons p t ih =>
    obtain ⟨k, dl⟩ := p
    have ht : AllInv sz t := fun q hq => h q (List.mem_cons_of_mem _ hq)
    have hdl : DLInv sz dl := h (k, dl) (List.mem_cons_self ..)
    obtain ⟨t', r, ch, e, a1, a2, a3, a4, a5, a6⟩ := ih ht
    by_cases hpos : dl.size > 0
    · obtain ⟨dl', r', e', i', s', l', n'⟩ := removeFirst_spec sz dl hdl hpos
      refine ⟨(k, dl') :: t', r' + r, true, ?_, ?_, ?_, ?_, by simp, ?_, ?_⟩
      · simp [purgeRound, roundCons, e, hpos, e']
      · intro q hq
        rcases List.mem_cons.mp hq with rfl | hq
        · exact i'
        · exact a1 q hq
      · simp; omega
      · simp [logs] at a3 ⊢; exact ⟨l', a3⟩
      · intro _; simp [items]; omega
      · simp [items]; omega
    · have hz : dl.size = 0 := by omega
      refine ⟨(k, dl) :: t', r, ch, ?_, ?_, ?_, ?_, ?_, ?_, ?_⟩
      · simp [purgeRound, roundCons, e, hz]
      · intro q hq
        rcases List.mem_cons.mp hq with rfl | hq
        · exact hdl
        · exact a1 q hq
      · simp; omega
      · simp [logs] at a3 ⊢; exact a3
      · intro hc; simp [hz]; exact a4 hc
      · intro hc; have := a5 hc; simp [items]; omega
      · simp [items]; omega

theorem purgeFuel_spec (sz : α → Nat) : ∀ (fuel : Nat) (s : Store α),
    AllInv sz s.store → s.nBytes = sumSizes s.store → items s.store ≤ fuel →
    ∃ s', purgeFuel sz fuel s = some s' ∧ AllInv sz s'.store ∧ s'.nBytes = sumSizes s'.store ∧
      s'.nBytes ≤ s'.maxBytes ∧ s'.nBytes ≤ s.nBytes ∧ logs s'.store = logs s.store ∧
      s'.maxBytes = s.maxBytes ∧ s'.lastApp = s.lastApp := by
  intro fuel
  induction fuel with
  | zero =>
    intro s hinv hacc hf
    by_cases hle : s.nBytes ≤ s.maxBytes
    · exact ⟨s, by simp [purgeFuel, hle], hinv, hacc, hle, Nat.le_refl _, rfl, rfl, rfl⟩
    · exfalso
      obtain ⟨st', r, ch, e, a1, a2, a3, a4, a5, a6⟩ := purgeRound_spec sz s.store hinv
      cases ch with
      | false => have := a4 rfl; omega
      | true => have := a5 rfl; omega
  | succ f ih =>
    intro s hinv hacc hf
    by_cases hle : s.nBytes ≤ s.maxBytes
    · exact ⟨s, by simp [purgeFuel, hle], hinv, hacc, hle, Nat.le_refl _, rfl, rfl, rfl⟩
    · obtain ⟨st', r, ch, e, a1, a2, a3, a4, a5, a6⟩ := purgeRound_spec sz s.store hinv
      cases ch with
      | false => have := a4 rfl; omega
      | true =>
        have hlt := a5 rfl
        obtain ⟨s', e', b1, b2, b3, b4, b5, b6, b7⟩ :=
          ih { s with store := st', nBytes := s.nBytes - r } a1 (by simp; omega) (by simp; omega)
        refine ⟨s', ?_, b1, b2, b3, ?_, ?_, b6, b7⟩
        · simp [purgeFuel, hle, e, e']
        · simp at b4; omega
        · simp at b5; rw [b5, a3]

theorem purge_spec (sz : α → Nat) (s : Store α) (hinv : AllInv sz s.store) (hacc : s.nBytes = sumSizes s.store) :
    ∃ s', purge sz s = some s' ∧ AllInv sz s'.store ∧ s'.nBytes = sumSizes s'.store ∧
      s'.nBytes ≤ s'.maxBytes ∧ s'.nBytes ≤ s.nBytes ∧ logs s'.store = logs s.store ∧
      s'.maxBytes = s.maxBytes ∧ s'.lastApp = s.lastApp :=
  purgeFuel_spec sz _ s hinv hacc (Nat.le_refl _)

theorem find_logs (k : Key) (st : List (Key × DL α)) :
    (find k st).map (·.log) = (logs st).lookup k := by
  induction st with
  | nil => rfl
  | cons p t ih =>
    obtain ⟨k', d⟩ := p
    by_cases hk : k' = k
    · subst hk; simp [find, logs]
    · have hk' : (k == k') = false := by simp; exact fun h => hk h.symm
      simp [find, hk, logs, List.lookup, hk'] at ih ⊢; exact ih

theorem find_mem (k : Key) (st : List (Key × DL α)) (dl : DL α) (h : find k st = some dl) : (k, dl) ∈ st := by
  induction st with
  | nil => simp [find] at h
  | cons p t ih =>
    obtain ⟨k', d⟩ := p
    by_cases hk : k' = k
    · subst hk; simp [find] at h; subst h; exact List.mem_cons_self ..
    · simp [find, hk] at h; exact List.mem_cons_of_mem _ (ih h)

theorem AllInv.of_find {sz : α → Nat} {k : Key} {st : List (Key × DL α)} {dl : DL α} (p : AllInv sz st)
    (h : find k st = some dl) : DLInv sz dl := p (k, dl) (find_mem k st dl h)

theorem isEmpty_drop_of_lt {l : List α} {n : Nat} (h : n < l.length) : (l.drop n).isEmpty = false := by
  cases hd : l.drop n with
  | nil => rw [List.drop_eq_nil_iff] at hd; omega
  | cons a t => rfl

/-- `copyData`'s answer in one test. -/
theorem afterOut_eq (dl : DL α) (i : Int) :
    afterOut dl i = if i + 1 < (dl.first : Int) then .purged else .items (dl.data.drop (i + 1 - dl.first).toNat) := by
  simp only [afterOut]
  by_cases hneg : i + 1 < (dl.first : Int)
  · rw [if_pos (by omega), if_pos hneg]
  · rw [if_neg (by omega), if_neg hneg]
    split
    · rename_i hge; rw [List.drop_eq_nil_of_le hge]
    · rfl

theorem step_after (sz : α → Nat) (s : Store α) (k : Key) (i : Int) :
    step sz s (.after k i) =
      some (s, match find k s.store with
        | none => .unknown
        | some dl => afterOut dl i) := by
  simp only [step]; cases find k s.store <;> rfl

theorem ensure_spec (sz : α → Nat) (k : Key) (st : List (Key × DL α)) (h : AllInv sz st) :
    AllInv sz (ensure k st) ∧ sumSizes (ensure k st) = sumSizes st ∧ items (ensure k st) = items st ∧
    (logs (ensure k st)).lookup k = some (((logs st).lookup k).getD []) ∧
    ∀ k', k' ≠ k → (logs (ensure k st)).lookup k' = (logs st).lookup k' := by
  unfold ensure
  cases hf : find k st with
  | some dl =>
    have := find_logs k st; rw [hf] at this; simp at this
    refine ⟨h, rfl, rfl, ?_, fun _ _ => rfl⟩
    simp [← this]
  | none =>
    have hl := find_logs k st; rw [hf] at hl; simp at hl
    refine ⟨?_, ?_, ?_, ?_, ?_⟩
    · intro q hq
      rcases List.mem_append.mp hq with hq | hq
      · exact h q hq
      · simp at hq; subst hq; exact DLInv_empty sz
    · simp [DL.empty]
    · have : ∀ (a : List (Key × DL α)), items (a ++ [(k, DL.empty)]) = items a := by
        intro a; induction a with
        | nil => simp [items, DL.empty]
        | cons p t ih => obtain ⟨_, _⟩ := p; simp [items, ih]
      exact this st
    · simp [logs, List.lookup_append, DL.empty] at hl ⊢
    · intro k' hk'
      simp [logs, List.lookup_append]
      have : (k' == k) = false := by simp [hk']
      simp [List.lookup, this]

theorem upd_spec (sz : α → Nat) (k : Key) (f : DL α → DL α) (st : List (Key × DL α))
    (h : AllInv sz st) (hf : ∀ dl, DLInv sz dl → DLInv sz (f dl)) (dl : DL α) (hk : find k st = some dl) :
    AllInv sz (upd k f st) ∧ sumSizes (upd k f st) + dl.size = sumSizes st + (f dl).size ∧
    (logs (upd k f st)).lookup k = some (f dl).log ∧
    ∀ k', k' ≠ k → (logs (upd k f st)).lookup k' = (logs st).lookup k' := by
  induction st with
  | nil => simp [find] at hk
  | cons p t ih =>
    obtain ⟨k', d⟩ := p
    have ht : AllInv sz t := fun q hq => h q (List.mem_cons_of_mem _ hq)
    by_cases hkk : k' = k
    · subst hkk
      simp [find] at hk; subst hk
      refine ⟨?_, ?_, ?_, ?_⟩
      · intro q hq
        simp [upd] at hq
        rcases hq with rfl | hq
        · exact hf _ (h (k', d) (List.mem_cons_self ..))
        · exact ht q hq
      · simp [upd]; omega
      · simp [upd, logs]
      · intro k'' hk''
        have : (k'' == k') = false := by simp [hk'']
        simp [upd, logs, List.lookup, this]
    · simp [find, hkk] at hk
      obtain ⟨i1, i2, i3, i4⟩ := ih ht hk
      have hb : (k == k') = false := by simp; exact fun h => hkk h.symm
      refine ⟨?_, ?_, ?_, ?_⟩
      · intro q hq
        simp [upd, hkk] at hq
        rcases hq with rfl | hq
        · exact h (k', d) (List.mem_cons_self ..)
        · exact i1 q hq
      · simp [upd, hkk]; omega
      · simp [upd, hkk, logs, List.lookup, hb] at i3 ⊢; exact i3
      · intro k'' hk''
        have := i4 k'' hk''
        simp [upd, hkk, logs, List.lookup] at this ⊢
        split <;> simp_all

theorem find_filter (f : Key → Bool) (k : Key) (st : List (Key × DL α)) :
    find k (st.filter fun p => f p.1) = if f k then find k st else none := by
  induction st with
  | nil => cases f k <;> rfl
  | cons p t ih =>
    obtain ⟨k1, d⟩ := p
    by_cases hk : k1 = k
    · subst hk; cases hf : f k1 <;> simp [List.filter, hf, ih, find]
    · cases hf1 : f k1 <;> simp [List.filter, hf1, find, hk, ih]

theorem filter_spec (sz : α → Nat) (sess : String) (st : List (Key × DL α)) (h : AllInv sz st) :
    AllInv sz (st.filter fun p => !decide (p.1.1 = sess)) ∧
    sumSizes (st.filter fun p => !decide (p.1.1 = sess)) + sessBytes sess st = sumSizes st ∧
    ∀ k : Key, (logs (st.filter fun p => !decide (p.1.1 = sess))).lookup k =
      if k.1 = sess then none else (logs st).lookup k := by
  refine ⟨fun q hq => h q (List.mem_filter.mp hq).1, ?_, ?_⟩
  · induction st with
    | nil => simp [sessBytes]
    | cons p t ih =>
      obtain ⟨k, d⟩ := p
      have ht : AllInv sz t := fun q hq => h q (List.mem_cons_of_mem _ hq)
      have := ih ht
      by_cases hk : k.1 = sess
      · simp [List.filter, hk, sessBytes] at this ⊢; omega
      · simp [List.filter, hk, sessBytes] at this ⊢; omega
  · intro k
    have e : logs (st.filter fun p => !decide (p.1.1 = sess)) = (logs st).filter fun p => !decide (p.1.1 = sess) := by
      simp only [logs, List.filter_map]; rfl
    rw [e, List.lookup_filter (fun k : Key => !decide (k.1 = sess))]
    by_cases hk : k.1 = sess <;> simp [hk]

theorem run_append (sz : α → Nat) : ∀ (a b : List (Op α)) (s s1 s2 : Store α) (oa ob : List (Out α)),
    run sz s a = some (s1, oa) → run sz s1 b = some (s2, ob) → run sz s (a ++ b) = some (s2, oa ++ ob) := by
  intro a
  induction a with
  | nil => intro b s s1 s2 oa ob h1 h2; simp only [run, Option.some.injEq, Prod.mk.injEq] at h1; obtain ⟨rfl, rfl⟩ := h1; simpa using h2
  | cons op ops ih =>
    intro b s s1 s2 oa ob h1 h2
    simp only [run] at h1
    cases hs : step sz s op with
    | none => rw [hs] at h1; cases h1
    | some p =>
      obtain ⟨s', o⟩ := p
      rw [hs] at h1; simp only [] at h1
      cases hr : run sz s' ops with
      | none => rw [hr] at h1; cases h1
      | some q =>
        obtain ⟨s'', os⟩ := q
        rw [hr] at h1; simp only [Option.some.injEq, Prod.mk.injEq] at h1
        obtain ⟨rfl, rfl⟩ := h1
        have := ih b s' s'' s2 os ob hr h2
        simp [run, hs, this]

end EventStore
