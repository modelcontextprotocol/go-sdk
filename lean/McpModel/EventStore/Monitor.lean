import McpModel.EventStore.Model
/-!
E15 — the typed core of the C20 monitor.

The driver (Driver.lean) parses a record into a `Rec` (an API call, an `After` with an `Append` issued
from inside the iteration, a scripted iteration `iter` — how it ended, what it delivered, the calls issued from inside it —,
a `stat` probe, the verdict of a concurrent run) and the implementation's
observation into an `Obs`, calls `monStep` — which reads only its own state `MState` (the abstract
per-stream log of everything appended since the stream was created, the size of the most recent item,
the configured maximum), never the model's `Store` — and renders the `Clause` it returns
(`Clause.text`).  Bridge.lean: the monitor raises no clause on the model's answers, for ALL record
sequences; Sound.lean: a reported clause refutes the property clause on the observed trace, silence
implies every clause.  Core Lean only (linked into the driver).
-/
namespace EventStore

/-- Payloads travel as `x<hex>`; their size is the byte length. -/
def psz (p : String) : Nat := (p.length - 1) / 2

/-- The context handed to `After` by an `iter` record: live throughout, or cancelled / past its deadline
from the body of the `c`-th yielded item on (`c = 0`: before the call). -/
inductive CtxMode
  | live
  | cancel (c : Nat)
  | deadline (c : Nat)
deriving DecidableEq, Repr

/-- From which item on the context is done. -/
def CtxMode.point : CtxMode → Option Nat
  | .live => none
  | .cancel c => some c
  | .deadline c => some c

/-- What a complete `After` issued from inside an iteration observed (the forms of op `after`). -/
inductive AObs
  | items (l : List String)
  | purged
  | unknown
  | partialThenPurged
  | partialThenError
  | panic
  | other
deriving DecidableEq, Repr

/-- The implementation's observation of one record. -/
inductive Obs
  | ok
  | err     -- `Open` / `Append` / `SessionClosed` returned an error; read by no clause (a difference from the model's `ok` is a `D`)
  | panic
  | items (l : List String)
  | purged
  | unknown
  /-- `After` yielded some payloads and then an error -/
  | partialThenPurged
  | partialThenError
  | num (n : Nat)
  /-- `stat <nBytes> <maxBytes> <retained bytes counted from the data>` -/
  | stat (nBytes maxBytes retained : Nat)
  /-- concurrent run: nBytes equals the retained data, private streams replayed exactly -/
  | consistent
  /-- an `iter` record: how the iteration ended, what it delivered before, and what the `After`s issued
  from inside it observed (in script order) -/
  | iter (t : Term) (items : List String) (nested : List AObs)
  | other (s : String)
deriving DecidableEq, Repr

def AObs.toObs : AObs → Obs
  | .items l => .items l
  | .purged => .purged
  | .unknown => .unknown
  | .partialThenPurged => .partialThenPurged
  | .partialThenError => .partialThenError
  | .panic => .panic
  | .other => .other ""

/-- One record of the stream. -/
inductive Rec
  | op (o : Op String)
  /-- `After(k, i)` with an `Append(k2, p)` issued from inside the iteration: the iterator delivers
  what was retained when it started (After copies under the lock), then the append takes effect -/
  | afteri (k : Key) (i : Int) (k2 : Key) (p : String)
  /-- **the iteration protocol**: `After(ctx, k, i)` ranged over by a consumer that breaks in the body of
  the `stop`-th item (`none`: drains), with the context `cm`, and the API calls `script` issued from
  INSIDE the iteration, in order (after the loop where the iteration does not get that far): the
  iterator delivers from the snapshot taken when it started, whatever the script does to the store -/
  | iter (k : Key) (i : Int) (cm : CtxMode) (stop : Option Nat) (script : List (Op String))
  | stat
  | concurrent
deriving Repr

inductive Clause
  /-- after_refines_spec: unknown stream must be reported -/
  | afterUnknown
  /-- after_refines_spec: neither the purge error nor exactly the payloads after the index -/
  | afterWrong
  /-- after_refines_spec: the purge error although nothing lies after the index -/
  | afterPurgedNothing
  /-- bytes_bound: the retained bytes exceed the maximum by more than the most recent item -/
  | bytesBound
  /-- the answer to a `stat` record is not of the form `stat n m r` -/
  | badStat
  /-- the store's own consistency check (`validate`, compiled out): its byte count is the bytes of its data -/
  | accounting
  /-- accounting / exact replay of private streams under concurrent use -/
  | concurrent
  /-- an exported method panicked -/
  | panicked
  /-- after_iteration_complete_or_error: the iteration ended without an error after a proper prefix -/
  | iterShort
  /-- a context error although the context was not done -/
  | ctxErrLive
  /-- the iterator delivers while holding the store's lock -/
  | iterLocked
  /-- the answer to an `iter` record is not of the form `it …`, or it lists another number of nested answers than the
  script has `After`s -/
  | badIter
deriving DecidableEq, Repr

/-- The monitor's own bookkeeping (independent of the model's state). -/
structure MState where
  /-- per stream: everything appended to it since it was (re)created; absent = unknown stream -/
  spec : List (Key × List String) := []
  /-- size of the item of the most recent `Append`; 0 once `SetMaxBytes` re-established the maximum -/
  lastApp : Nat := 0
  /-- the maximum configured by the most recent `SetMaxBytes(n)`, `n > 0` (`none`: the default) -/
  maxCfg : Option Nat := none

def specUpd (k : Key) (f : Option (List String) → Option (List String)) (sp : List (Key × List String)) :
    List (Key × List String) :=
  let cur := sp.lookup k
  let rest := sp.filter (fun p => p.1 != k)
  match f cur with
  | none => rest
  | some l => rest ++ [(k, l)]

/-- The `After` clause: is the answer allowed by the abstract log? (`i < -1` is outside the property.) -/
def afterClause (st : MState) (k : Key) (i : Int) (obs : Obs) : Option Clause :=
  if i < -1 then none else
  match st.spec.lookup k with
  | none => if obs = .unknown then none else some .afterUnknown
  | some log =>
    if obs = .purged then
      if (log.drop (i + 1).toNat).isEmpty then some .afterPurgedNothing else none
    else if obs = .items (log.drop (i + 1).toNat) then none
    else some .afterWrong

/-- The `iter` clause: is the way the iteration ended, and what it delivered before, allowed by the
abstract log as of its start?  A complete iteration (`fin`) is exactly the payloads after the index; a
broken one exactly the first `stop` of them; the purge error comes immediately and only if something
lies after the index; a context error only once the context is done, after a prefix; anything else that
cannot be complete is not allowed — in particular ending normally after a proper prefix. -/
def iterClause (st : MState) (k : Key) (i : Int) (cm : CtxMode) (stop : Option Nat) (t : Term)
    (items : List String) : Option Clause :=
  if t = .locked then some .iterLocked else
  if i < -1 then none else
  match st.spec.lookup k with
  | none =>
    if t = .ctx then
      -- an unknown stream delivers nothing: only a context done before the first item (`c = 0`) may end it with the context's error
      match cm.point with
      | some c => if c ≤ items.length then (if items = [] then none else some .afterUnknown) else some .ctxErrLive
      | none => some .ctxErrLive
    else if t = .unknown ∧ items = [] then none else some .afterUnknown
  | some log =>
    let exp := log.drop (i + 1).toNat
    match t with
    | .fin => if items = exp then none else if items.isPrefixOf exp then some .iterShort else some .afterWrong
    | .broke =>
      match stop with
      | some n => if 1 ≤ n ∧ n ≤ exp.length ∧ items = exp.take n then none else some .afterWrong
      | none => some .afterWrong
    | .purged =>
      if items = [] then (if exp.isEmpty then some .afterPurgedNothing else none) else some .afterWrong
    | .ctx =>
      match cm.point with
      | some c => if c ≤ items.length then (if items.isPrefixOf exp then none else some .afterWrong) else some .ctxErrLive
      | none => some .ctxErrLive
    | _ => some .afterWrong

/-- A `stat` probe.  `MemoryEventStore.validate` (mcp/event.go; compiled out by `validateMemoryEventStore =
false`): the store's byte count `nBytes` — which alone drives eviction — equals the bytes counted from the
data it retains.  The byte bound: the bytes counted from the retained data exceed the configured maximum
(the reported one under the default) by no more than the most recent item.  Under the default the bound is thus taken against
what the IMPLEMENTATION reports (`m`), not against the regenerated `defaultMaxBytes`: until the first `SetMaxBytes(n > 0)` the
clause is only as strong as that report. -/
def statClause (st : MState) (obs : Obs) : Option Clause :=
  match obs with
  | .stat n m r =>
    if n ≠ r then some .accounting
    else if r ≤ st.maxCfg.getD m + st.lastApp then none else some .bytesBound
  | _ => some .badStat

/-- The bookkeeping after an API call. -/
def bookOp (st : MState) : Op String → MState
  | .open k => { st with spec := specUpd k (fun c => some (c.getD [])) st.spec }
  | .append k p => { st with spec := specUpd k (fun c => some (c.getD [] ++ [p])) st.spec, lastApp := psz p }
  | .closed sess => { st with spec := st.spec.filter (fun q => q.1.1 != sess) }
  | .setMax n => { st with lastApp := 0, maxCfg := if n = 0 then none else some n }
  | _ => st

def opClause (st : MState) (o : Op String) (obs : Obs) : Option Clause :=
  if obs = .panic then some .panicked
  else match o with
    | .after k i => afterClause st k i obs
    | _ => none

/-- The `After`s issued from inside an iteration, each judged against the bookkeeping at ITS time. -/
def nestedClause : MState → List (Op String) → List AObs → Option Clause
  | _, [], [] => none
  | _, [], _ :: _ => some .badIter
  | st, op :: ops, os =>
    match op with
    | .after k i =>
      match os with
      | [] => some .badIter
      | o :: os' =>
        match opClause st (.after k i) o.toObs with
        | some cl => some cl
        | none => nestedClause st ops os'
    | _ => nestedClause (bookOp st op) ops os

/-- **The C20 monitor**, one record: the new bookkeeping and the violated clause, if any. -/
def monStep (st : MState) (r : Rec) (obs : Obs) : MState × Option Clause :=
  match r with
  | .op o => (bookOp st o, opClause st o obs)
  | .afteri k i k2 p => (bookOp st (.append k2 p), opClause st (.after k i) obs)
  | .iter k i cm stop script =>
    (script.foldl bookOp st,
      match obs with
      | .panic => some .panicked
      | .iter t items nested =>
        match iterClause st k i cm stop t items with
        | some cl => some cl
        | none => nestedClause st script nested
      | _ => some .badIter)
  | .stat => (st, statClause st obs)
  | .concurrent => (st, if obs = .consistent then none else some .concurrent)

/-- Run the monitor over a trace: the first position at which a clause is reported, with the clause. -/
def runMonFrom : MState → Nat → List (Rec × Obs) → Option (Nat × Clause)
  | _, _, [] => none
  | st, j, (r, obs) :: tr =>
    match (monStep st r obs).2 with
    | some cl => some (j, cl)
    | none => runMonFrom (monStep st r obs).1 (j + 1) tr

def runMon (tr : List (Rec × Obs)) : Option (Nat × Clause) := runMonFrom {} 0 tr

/-! ### The model's observation -/

def obsOfOut : Out String → Obs
  | .ok => .ok
  | .items l => .items l
  | .purged => .purged
  | .unknown => .unknown
  | .num n => .num n

def aobsOfOut : Out String → AObs
  | .items l => .items l
  | .purged => .purged
  | .unknown => .unknown
  | _ => .other

/-- The calls issued from inside an iteration, in order; the answers to the `After`s among them. -/
def runScript : Store String → List (Op String) → Option (Store String × List AObs)
  | s, [] => some (s, [])
  | s, op :: ops =>
    match step psz s op with
    | none => none
    | some (s', o) =>
      match runScript s' ops with
      | none => none
      | some (s'', os) =>
        match op with
        | .after _ _ => some (s'', aobsOfOut o :: os)
        | _ => some (s'', os)

/-- The model on one record (`none`: a model-level panic). -/
def recStep (s : Store String) : Rec → Option (Store String × Obs)
  | .op o => (step psz s o).map fun p => (p.1, obsOfOut p.2)
  | .afteri k i k2 p =>
    match step psz s (.after k i) with
    | none => none
    | some (s1, o) =>
      match step psz s1 (.append k2 p) with
      | none => none
      | some (s2, _) => some (s2, obsOfOut o)
  | .iter k i _ stop script =>
    match runScript s script with
    | none => none
    | some (s', nested) =>
      let d := deliver .ignore (afterIter s k i) stop none
      some (s', .iter d.1 d.2 nested)
  | .stat => some (s, .stat s.nBytes s.maxBytes (retainedBytes psz s.store))
  | .concurrent => some (s, .consistent)

/-- The model on a record sequence: the observations, oldest first (`none`: a model-level panic). -/
def recRun : Store String → List Rec → Option (Store String × List Obs)
  | s, [] => some (s, [])
  | s, r :: rs =>
    match recStep s r with
    | none => none
    | some (s', o) =>
      match recRun s' rs with
      | none => none
      | some (s'', os) => some (s'', o :: os)

/-! ### The window between `After`'s return and the first step of the iteration

`After` itself does nothing (structural fact `eventstore.after_delivery`: its body is the `copyData` closure
and `return func(yield …)`); the snapshot is taken by the iterator's first step.  A consumer that obtains the
iterator and ranges over it later leaves a WINDOW in which whole API calls (its own or another goroutine's)
take effect.  An `iter` line of the harness lists the calls it issued in that window (`0:<op>`); they are
records of their own, made before the iteration starts, each answered without an error (the harness reports a
panic of any of them as the observation of the line). -/

/-- The records of one `iter` line with the window calls `pre`. -/
def wireRecs (pre : List (Op String)) (r : Rec) : List Rec := pre.map Rec.op ++ [r]

/-- … with the implementation's observations. -/
def expand (pre : List (Op String)) (r : Rec) (obs : Obs) : List (Rec × Obs) :=
  pre.map (fun o => (Rec.op o, Obs.ok)) ++ [(r, obs)]

/-- The monitor over the records of one line: the new bookkeeping, the first clause raised. -/
def monRun : MState → List (Rec × Obs) → MState × Option Clause
  | st, [] => (st, none)
  | st, (r, obs) :: tr =>
    match (monStep st r obs).2 with
    | some cl => ((monRun (monStep st r obs).1 tr).1, some cl)
    | none => monRun (monStep st r obs).1 tr

/-- A window call: no answer of its own (`After` and `MaxBytes` are not issued in the window). -/
def isWindowOp : Op String → Bool
  | .after _ _ => false
  | .maxBytes => false
  | _ => true

end EventStore
