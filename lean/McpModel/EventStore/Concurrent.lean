import McpModel.EventStore.Iter
/-!
# C20 — "all operations are safe under concurrent use", as a theorem about the model

**The concurrent semantics.**  Any number of threads, each with a program of actions.  An action is
either a whole exported call (`Act.call`: `Open`, `Append`, `SetMaxBytes`, `SessionClosed`, `MaxBytes`, and
`After` = its `copyData`) — ONE atomic step of the shared store (structural facts `eventstore.lock_shape`,
`eventstore.helpers_lock`; `sync.Mutex` trusted) — or the delivery of the next item of the thread's current iteration
(`Act.next`), outside the lock, from the thread's private snapshot (Model.lean, "The `After` iterator as a value").  A concurrent history is a schedule: an arbitrary
list of thread ids, each entry letting that thread perform its next action.  Threads may interleave calls
with their own deliveries (calls from inside an iteration) in any way.
-/
namespace EventStore
variable {α : Type}

inductive Act (α : Type) where
  /-- a whole exported call, under the lock -/
  | call (o : Op α)
  /-- the current iteration delivers its next item (outside the lock) -/
  | next

/-- What a thread sees. -/
inductive Ev (α : Type) where
  | ret (o : Out α)
  | item (a : α)
  /-- `next` on an exhausted iteration: the iterator returns -/
  | fin

structure Thread (α : Type) where
  todo : List (Act α)
  /-- the rest of the private snapshot of the current iteration -/
  snap : List α
  obs : List (Ev α)

structure Conf (α : Type) where
  store : Store α
  th : Nat → Thread α
  /-- ghost: the calls in the order they took the lock, with the calling thread and the answer -/
  lin : List (Nat × Op α × Out α)

def setTh (th : Nat → Thread α) (t : Nat) (x : Thread α) : Nat → Thread α := fun j => if j = t then x else th j

/-- An `After` call starts a new iteration on the snapshot it returns; other calls leave the current one alone. -/
def newSnap (o : Op α) (out : Out α) (old : List α) : List α :=
  match o with
  | .after _ _ => (iterOfOut out).snap
  | _ => old

/-- Thread `t` performs its next action (`none`: a panic of the store). -/
def cstep (sz : α → Nat) (c : Conf α) (t : Nat) : Option (Conf α) :=
  match (c.th t).todo with
  | [] => some c
  | .call o :: rest =>
    match step sz c.store o with
    | none => none
    | some (s', out) =>
      some { store := s',
             th := setTh c.th t { todo := rest, snap := newSnap o out (c.th t).snap, obs := (c.th t).obs ++ [.ret out] },
             lin := c.lin ++ [(t, o, out)] }
  | .next :: rest =>
    match (c.th t).snap with
    | [] => some { c with th := setTh c.th t { (c.th t) with todo := rest, obs := (c.th t).obs ++ [.fin] } }
    | a :: tl => some { c with th := setTh c.th t { todo := rest, snap := tl, obs := (c.th t).obs ++ [.item a] } }

def crun (sz : α → Nat) : Conf α → List Nat → Option (Conf α)
  | c, [] => some c
  | c, t :: sched =>
    match cstep sz c t with
    | none => none
    | some c' => crun sz c' sched

def callsOf : List (Act α) → List (Op α)
  | [] => []
  | .call o :: rest => o :: callsOf rest
  | .next :: rest => callsOf rest

def retsOf : List (Ev α) → List (Out α)
  | [] => []
  | .ret o :: rest => o :: retsOf rest
  | _ :: rest => retsOf rest

theorem retsOf_append (a b : List (Ev α)) : retsOf (a ++ b) = retsOf a ++ retsOf b := by
  induction a with
  | nil => rfl
  | cons e t ih => cases e <;> simp [retsOf, ih]

/-- The sequential run answers call by call. -/
def Explains (sz : α → Nat) (s : Store α) (new : List (Nat × Op α × Out α)) (s' : Store α) : Prop :=
  run sz s (new.map fun e => e.2.1) = some (s', new.map fun e => e.2.2)

theorem cstep_spec (sz : α → Nat) (c c' : Conf α) (t : Nat) (h : cstep sz c t = some c') :
    ∃ new, c'.lin = c.lin ++ new ∧ Explains sz c.store new c'.store ∧
      (∀ u, (new.filter fun e => e.1 = u).map (fun e => e.2.1) ++ callsOf (c'.th u).todo = callsOf (c.th u).todo) ∧
      (∀ u, retsOf (c'.th u).obs = retsOf (c.th u).obs ++ (new.filter fun e => e.1 = u).map (fun e => e.2.2)) := by
  simp only [cstep] at h
  split at h
  · cases h; exact ⟨[], by simp, rfl, fun u => by simp, fun u => by simp⟩
  · rename_i o rest htodo
    cases hs : step sz c.store o with
    | none => rw [hs] at h; cases h
    | some p =>
      obtain ⟨s', out⟩ := p
      rw [hs] at h; simp only [Option.some.injEq] at h; subst h
      refine ⟨[(t, o, out)], rfl, by simp [Explains, run, hs], fun u => ?_, fun u => ?_⟩
      · by_cases hu : u = t
        · subst hu; simp [setTh, htodo, callsOf]
        · have : ¬ t = u := fun e => hu e.symm
          simp [setTh, hu, this]
      · by_cases hu : u = t
        · subst hu; simp [setTh, retsOf_append, retsOf]
        · have : ¬ t = u := fun e => hu e.symm
          simp [setTh, hu, this]
  · rename_i rest htodo
    -- a delivery, from an empty snapshot or not: no call is made, only `t`'s program and observations move
    split at h <;> cases h <;> refine ⟨[], by simp, rfl, fun u => ?_, fun u => ?_⟩
    all_goals
      by_cases hu : u = t
      · subst hu; simp [setTh, htodo, callsOf, retsOf_append, retsOf]
      · simp [setTh, hu]

/-- For every configuration, every set of thread programs and EVERY schedule that does not panic, the concurrent
run is explained by one sequential history `new` — the calls in the order they took the lock: same final store, every
call got the answer it gets in that history, each thread's calls occur in it in program order, and each thread saw
exactly the answers to its own calls. -/
theorem concurrent_histories_are_sequential_histories (sz : α → Nat) : ∀ (sched : List Nat) (c c' : Conf α),
    crun sz c sched = some c' →
    ∃ new, c'.lin = c.lin ++ new ∧ Explains sz c.store new c'.store ∧
      (∀ u, (new.filter fun e => e.1 = u).map (fun e => e.2.1) ++ callsOf (c'.th u).todo = callsOf (c.th u).todo) ∧
      (∀ u, retsOf (c'.th u).obs = retsOf (c.th u).obs ++ (new.filter fun e => e.1 = u).map (fun e => e.2.2)) := by
  intro sched
  induction sched with
  | nil =>
    intro c c' h
    simp only [crun, Option.some.injEq] at h; subst h
    exact ⟨[], by simp, rfl, fun u => by simp, fun u => by simp⟩
  | cons t sched ih =>
    intro c c' h
    simp only [crun] at h
    cases hs : cstep sz c t with
    | none => rw [hs] at h; cases h
    | some c1 =>
      rw [hs] at h; simp only [] at h
      obtain ⟨n1, l1, e1, p1, r1⟩ := cstep_spec sz c c1 t hs
      obtain ⟨n2, l2, e2, p2, r2⟩ := ih c1 c' h
      refine ⟨n1 ++ n2, by rw [l2, l1, List.append_assoc], ?_, fun u => ?_, fun u => ?_⟩
      · simp only [Explains, List.map_append]
        exact run_append sz _ _ _ _ _ _ _ e1 e2
      · rw [← p1 u, ← p2 u]; simp [List.filter_append]
      · rw [r2 u, r1 u]; simp [List.filter_append]

/-- The state a sequentially consistent history of calls leads to. -/
def Reach (sz : α → Nat) (c : Conf α) : Prop := Explains sz init c.lin c.store

theorem reach_crun (sz : α → Nat) (sched : List Nat) (c c' : Conf α) (hr : Reach sz c)
    (h : crun sz c sched = some c') : Reach sz c' := by
  obtain ⟨new, l, e, _, _⟩ := concurrent_histories_are_sequential_histories sz sched c c' h
  simp only [Reach, Explains, l, List.map_append]
  exact run_append sz _ _ _ _ _ _ _ hr e

def start (progs : Nat → List (Act α)) : Conf α :=
  { store := init, th := fun t => { todo := progs t, snap := [], obs := [] }, lin := [] }

theorem reach_start (sz : α → Nat) (progs : Nat → List (Act α)) : Reach sz (start progs) := rfl

theorem cstep_inv (sz : α → Nat) (c : Conf α) (t : Nat) (h : Inv sz c.store) :
    ∃ c', cstep sz c t = some c' ∧ Inv sz c'.store := by
  simp only [cstep]
  split
  · exact ⟨c, rfl, h⟩
  · rename_i o rest _
    obtain ⟨s', out, hs, hi, _⟩ := step_inv sz c.store o h
    rw [hs]; exact ⟨_, rfl, hi⟩
  · split
    · exact ⟨_, rfl, h⟩
    · exact ⟨_, rfl, h⟩

/-- No schedule of no set of thread programs panics, and after every schedule the store satisfies `Inv` (Props.lean), is
the store of the sequential history `c.lin`, and its ghost logs are the abstract logs of that history. -/
theorem concurrent_no_panic_inv (sz : α → Nat) (progs : Nat → List (Act α)) (sched : List Nat) :
    ∃ c, crun sz (start progs) sched = some c ∧ Reach sz c ∧ Inv sz c.store ∧
      ∀ k, (logs c.store.store).lookup k = specLog k (c.lin.map fun e => e.2.1) := by
  have hrun : ∀ (sched : List Nat) (c : Conf α), Inv sz c.store → ∃ c', crun sz c sched = some c' := by
    intro sched
    induction sched with
    | nil => intro c _; exact ⟨c, rfl⟩
    | cons t sched ih =>
      intro c hi
      obtain ⟨c1, h1, i1⟩ := cstep_inv sz c t hi
      obtain ⟨c2, h2⟩ := ih c1 i1
      exact ⟨c2, by simp [crun, h1, h2]⟩
  obtain ⟨c, hc⟩ := hrun sched (start progs) (inv_init sz)
  have hr := reach_crun sz sched _ c (reach_start sz progs) hc
  obtain ⟨s, os, e, hinv, hl⟩ := reachable sz (c.lin.map fun e => e.2.1)
  have : (s, os) = (c.store, c.lin.map fun e => e.2.2) := by
    have := hr; simp only [Reach, Explains] at this; rw [e] at this; simpa using this
  cases this
  exact ⟨c, hc, hr, hinv, hl⟩

/-- In any concurrent run, an `After(k, i)` (`i ≥ -1`) issued by any thread
answers `unknown` iff the stream does not exist in the linearization so far; otherwise the purge error or
EXACTLY the payloads appended to the stream — by whichever threads — before it in the linearization, after
the index. -/
theorem concurrent_after_exact (sz : α → Nat) (progs : Nat → List (Act α)) (sched : List Nat) (c : Conf α)
    (h : crun sz (start progs) sched = some c) (k : Key) (i : Int) (hi : -1 ≤ i) :
    ∃ o, step sz c.store (.after k i) = some (c.store, o) ∧
      match specLog k (c.lin.map fun e => e.2.1) with
      | none => o = .unknown
      | some log => o = .purged ∨ o = .items (log.drop (i + 1).toNat) := by
  have hr := reach_crun sz sched _ c (reach_start sz progs) h
  obtain ⟨s, os, o, e, hs, hm⟩ := after_refines_spec sz (c.lin.map fun e => e.2.1) k i hi
  have : s = c.store := by
    have := hr; simp only [Reach, Explains] at this; rw [e] at this
    simp only [Option.some.injEq, Prod.mk.injEq] at this; exact this.1
  subst this
  exact ⟨o, hs, hm⟩

/-- What `n` deliveries from the snapshot `l` show: its items in order, then the end. -/
def evs : List α → Nat → List (Ev α)
  | _, 0 => []
  | [], n + 1 => .fin :: evs [] n
  | a :: l, n + 1 => .item a :: evs l n

theorem cstep_other (sz : α → Nat) (c c' : Conf α) (t u : Nat) (hu : u ≠ t) (h : cstep sz c u = some c') :
    c'.th t = c.th t := by
  have ht : ¬ t = u := fun e => hu e.symm
  simp only [cstep] at h
  split at h
  · cases h; rfl
  · cases hs : step sz c.store _ with
    | none => rw [hs] at h; cases h
    | some p => rw [hs] at h; cases h; simp [setTh, ht]
  · split at h <;> (cases h; simp [setTh, ht])

/-- Deliveries of thread `t` while everybody else does anything: thread `t`, about to perform `m`
deliveries from the snapshot `l`, is scheduled `n ≤ m` times among arbitrary actions of the other threads
— it sees `evs l n`. -/
theorem deliveries (sz : α → Nat) (t : Nat) : ∀ (sched : List Nat) (c c' : Conf α) (m : Nat) (rest : List (Act α))
    (l : List α) (base : List (Ev α)),
    (c.th t).todo = List.replicate m .next ++ rest → (c.th t).snap = l → (c.th t).obs = base →
    sched.count t ≤ m → crun sz c sched = some c' →
    (c'.th t).obs = base ++ evs l (sched.count t) ∧ (c'.th t).snap = l.drop (sched.count t) := by
  intro sched
  induction sched with
  | nil =>
    intro c c' m rest l base _ hs ho _ h
    simp only [crun, Option.some.injEq] at h; subst h
    simp [evs, hs, ho]
  | cons u sched ih =>
    intro c c' m rest l base htodo hs ho hcnt h
    simp only [crun] at h
    cases hc : cstep sz c u with
    | none => rw [hc] at h; cases h
    | some c1 =>
      rw [hc] at h; simp only [] at h
      by_cases hu : u = t
      · subst hu
        simp only [List.count_cons_self] at hcnt ⊢
        cases m with
        | zero => omega
        | succ m =>
          simp only [List.replicate_succ, List.cons_append] at htodo
          simp only [cstep, htodo, hs] at hc
          cases l with
          | nil =>
            simp only [Option.some.injEq] at hc; subst hc
            have := ih _ c' m rest [] (base ++ [.fin]) (by simp [setTh]) (by simp [setTh]) (by simp [setTh, ho])
              (by omega) h
            simp only [evs, List.drop_nil] at this ⊢
            rw [this.1, this.2]; simp
          | cons a tl =>
            simp only [Option.some.injEq] at hc; subst hc
            have := ih _ c' m rest tl (base ++ [.item a]) (by simp [setTh]) (by simp [setTh]) (by simp [setTh, ho])
              (by omega) h
            simp only [evs, List.drop_succ_cons] at this ⊢
            rw [this.1, this.2]; simp
      · have hne : (u == t) = false := by simpa using hu
        have hcount : (u :: sched).count t = sched.count t := by simp [List.count_cons, hne]
        rw [hcount] at hcnt ⊢
        have hsame := cstep_other sz c c1 t u hu hc
        exact ih c1 c' m rest l base (by rw [hsame]; exact htodo) (by rw [hsame]; exact hs) (by rw [hsame]; exact ho) hcnt h

/-- Thread `t` calls `After(k, i)` and then performs `m`
deliveries (followed by anything).  Whatever the other threads do meanwhile — any calls, in any
interleaving `sched` in which `t` gets `n ≤ m` turns — thread `t` sees the answer of its call and then the
first `n` deliveries of the snapshot `afterIter s k i` taken from the store `s` AT THE CALL: what an `After`
call delivers is a function of the state at the call alone. -/
theorem iterator_snapshot_independent_of_later_ops (sz : α → Nat) (t : Nat) (c c1 c2 : Conf α) (k : Key) (i : Int)
    (m : Nat) (rest : List (Act α)) (sched : List Nat)
    (htodo : (c.th t).todo = .call (.after k i) :: (List.replicate m .next ++ rest))
    (hcall : cstep sz c t = some c1) (hcnt : sched.count t ≤ m) (hrun : crun sz c1 sched = some c2) :
    ∃ o, step sz c.store (.after k i) = some (c.store, o) ∧ iterOfOut o = afterIter c.store k i ∧
      (c2.th t).obs = (c.th t).obs ++ [.ret o] ++ evs (afterIter c.store k i).snap (sched.count t) ∧
      (c2.th t).snap = (afterIter c.store k i).snap.drop (sched.count t) := by
  obtain ⟨o, hs, hio⟩ := step_after_iter sz c.store k i
  refine ⟨o, hs, hio, ?_⟩
  simp only [cstep, htodo, hs, Option.some.injEq] at hcall
  subst hcall
  have := deliveries sz t sched _ c2 m rest (afterIter c.store k i).snap ((c.th t).obs ++ [.ret o])
    (by simp [setTh]) (by simp [setTh, newSnap, hio]) (by simp [setTh]) hcnt hrun
  exact this

section witnesses
private def kA : Key := ("s", "a")
/-- thread 0 fills the stream, replays it and delivers three times; thread 1 shrinks the store and appends
while thread 0 delivers -/
private def progs : Nat → List (Act Nat)
  | 0 => [.call (.append kA 1), .call (.append kA 2), .call (.after kA (-1)), .next, .next, .next]
  | 1 => [.call (.setMax 1), .call (.append kA 7)]
  | _ => []

private def obsNat : Ev Nat → Nat
  | .ret (.items l) => 100 + l.length
  | .ret _ => 100
  | .item a => a
  | .fin => 0

/-- The purge and the append of thread 1 run between the deliveries of thread 0: it still sees `1, 2`, then the
end. -/
example : (crun id (start progs) [0, 0, 0, 1, 0, 1, 0, 0]).map (fun c => ((c.th 0).obs.map obsNat, c.store.nBytes)) =
    some ([100, 100, 102, 1, 2, 0], 7) := by decide +kernel
end witnesses

end EventStore
