import McpModel.EventStore.Bridge
import McpModel.Base.FirstReport
import McpModel.Base.Logic
/-!
# Clause soundness and completeness of the C20 monitor (E15)

A trace is the list of records of one case, each with what the IMPLEMENTATION answered (`Obs`).
Every clause of the property the monitor can report is stated as a predicate `P_…` on traces, written
from the property text with three functions of the history of API calls before a position
(`hist tr j`): `specLog k` (Props.lean: everything appended to stream `k` since it was created — the
abstract log the store must refine), `allowance` (the size of the item of the most recent `Append`;
0 once `SetMaxBytes` re-established the maximum: "the size of the store will be adjusted") and
`cfgMax` (the maximum configured by the most recent `SetMaxBytes(n)`, `n > 0`) — no monitor state, no
model.  `Holds` is a clause at ONE record (the bodies of the `P_…`, given what the history before the record
says): the step is read against it both ways, the monitor's bookkeeping is what the history says (`mholds_at`), and
the `P_…` are `Holds` at every position.  Hence `fires_sound`, `monitor_complete` and `model_satisfies_P`.
-/
namespace EventStore

abbrev Trace := List (Rec × Obs)

/-- The API calls a record makes, in order. -/
def opsOf : Rec → List (Op String)
  | .op o => [o]
  | .afteri k i k2 p => [.after k i, .append k2 p]
  | .iter k i _ _ script => .after k i :: script
  | .stat => []
  | .concurrent => []

/-- The API calls made before position `j`. -/
def hist (tr : Trace) (j : Nat) : List (Op String) := (tr.take j).flatMap fun p => opsOf p.1

/-- A COMPLETE `After(k, i)` (live context, drained) made by a record after `off` of the record's API
calls, with what it observed. -/
structure Query where
  off : Nat
  k : Key
  i : Int
  obs : Obs

/-- The `After`s issued from inside an iteration (`off` calls of the record come before the script). -/
def nestedQ : Nat → List (Op String) → List AObs → List Query
  | _, [], _ => []
  | off, op :: ops, os =>
    match op with
    | .after k i =>
      match os with
      | [] => []
      | o :: os' => ⟨off, k, i, o.toObs⟩ :: nestedQ (off + 1) ops os'
    | _ => nestedQ (off + 1) ops os

/-- The complete `After`s of a record. -/
def queries : Rec → Obs → List Query
  | .op o, obs => match o with
    | .after k i => [⟨0, k, i, obs⟩]
    | _ => []
  | .afteri k i _ _, obs => [⟨0, k, i, obs⟩]
  | .iter _ _ _ _ script, obs => match obs with
    | .iter _ _ nested => nestedQ 1 script nested
    | _ => []
  | _, _ => []

/-- The API calls made before the query at offset `off` of the record at position `j`. -/
def histQ (tr : Trace) (j : Nat) (r : Rec) (off : Nat) : List (Op String) := hist tr j ++ (opsOf r).take off

/-- The ITERATION of an `iter` record: stream, index, context, where the consumer breaks; how it ended and
what it delivered before. -/
structure IterQ where
  k : Key
  i : Int
  cm : CtxMode
  stop : Option Nat
  t : Term
  items : List String

def iterOf : Rec → Obs → Option IterQ
  | .iter k i cm stop _, obs => match obs with
    | .iter t items _ => some ⟨k, i, cm, stop, t, items⟩
    | _ => none
  | _, _ => none

def isAfter : Op String → Bool
  | .after _ _ => true
  | _ => false

def countAfter (script : List (Op String)) : Nat := (script.filter isAfter).length

/-- `Outcome` (Iter.lean) as the monitor can judge it on an observed iteration: weaker in two places — the purge error
whether or not something lies after the index (that is `afterPurgedNothing`'s business), a context error after ANY prefix. -/
def Allowed (exp : List String) (stop : Option Nat) (t : Term) (items : List String) : Prop :=
  (t = .fin ∧ items = exp) ∨
  (t = .broke ∧ ∃ n, stop = some n ∧ 1 ≤ n ∧ n ≤ exp.length ∧ items = exp.take n) ∨
  (t = .purged ∧ items = []) ∨
  (t = .ctx ∧ items <+: exp)

def allowStep (a : Nat) : Op String → Nat
  | .append _ d => psz d
  | .setMax _ => 0
  | _ => a

/-- "the most recent item": the size of the item of the most recent `Append`, unless a `SetMaxBytes`
came after it (which re-establishes the maximum). -/
def allowance (ops : List (Op String)) : Nat := ops.foldl allowStep 0

def cfgStep (c : Option Nat) : Op String → Option Nat
  | .setMax n => if n = 0 then none else some n
  | _ => c

/-- "the configured maximum": what the most recent `SetMaxBytes(n)`, `n > 0`, configured (`none`: the default). -/
def cfgMax (ops : List (Op String)) : Option Nat := ops.foldl cfgStep none

/-- An `After` on a stream that does not exist reports the unknown stream (an iteration of it delivers
nothing and ends with that error — or with the context's). -/
def P_unknown_reported (tr : Trace) : Prop :=
  (∀ j r obs q, tr[j]? = some (r, obs) → q ∈ queries r obs → -1 ≤ q.i →
    specLog q.k (histQ tr j r q.off) = none → q.obs = .unknown) ∧
  (∀ j r obs iq, tr[j]? = some (r, obs) → iterOf r obs = some iq → iq.t ≠ .locked → -1 ≤ iq.i →
    specLog iq.k (hist tr j) = none → iq.items = [] ∧ (iq.t = .unknown ∨ iq.t = .ctx))

/-- "returns exactly the payloads appended to that stream after that index, in append order, or an
events-purged error … never a partial or gapped sequence": a complete `After` answers the purge error or
exactly the log after the index; an iteration ends in one of the `Allowed` ways. -/
def P_exact_or_purged (tr : Trace) : Prop :=
  (∀ j r obs q log, tr[j]? = some (r, obs) → q ∈ queries r obs → -1 ≤ q.i →
    specLog q.k (histQ tr j r q.off) = some log → q.obs = .purged ∨ q.obs = .items (log.drop (q.i + 1).toNat)) ∧
  (∀ j r obs iq log, tr[j]? = some (r, obs) → iterOf r obs = some iq → iq.t ≠ .locked → -1 ≤ iq.i →
    specLog iq.k (hist tr j) = some log → Allowed (log.drop (iq.i + 1).toNat) iq.stop iq.t iq.items)

/-- "an events-purged error if any of them has been evicted": the purge error only if some payload
lies after the index. -/
def P_purged_only_if_evicted (tr : Trace) : Prop :=
  (∀ j r obs q log, tr[j]? = some (r, obs) → q ∈ queries r obs → -1 ≤ q.i →
    specLog q.k (histQ tr j r q.off) = some log → q.obs = .purged → (q.i + 1).toNat < log.length) ∧
  (∀ j r obs iq log, tr[j]? = some (r, obs) → iterOf r obs = some iq → iq.t ≠ .locked → -1 ≤ iq.i →
    specLog iq.k (hist tr j) = some log → iq.t = .purged → (iq.i + 1).toNat < log.length)

/-- **after_iteration_complete_or_error**, on the observed trace: an iteration that ended WITHOUT an
error and was not broken by its consumer delivered everything — a prefix of the payloads after the
index is the whole of them ("it never returns a partial … sequence"). -/
def P_never_silently_short (tr : Trace) : Prop :=
  ∀ j r obs iq log, tr[j]? = some (r, obs) → iterOf r obs = some iq → -1 ≤ iq.i →
    specLog iq.k (hist tr j) = some log → iq.t = .fin → iq.items <+: log.drop (iq.i + 1).toNat →
    iq.items = log.drop (iq.i + 1).toNat

/-- A context error is yielded only once the context is done: the record cancels it (lets its deadline
pass) in the body of the `c`-th item, so at least `c` items were delivered before. -/
def P_ctx_error_only_if_done (tr : Trace) : Prop :=
  ∀ (j : Nat) r obs iq, tr[j]? = some (r, obs) → iterOf r obs = some iq → -1 ≤ iq.i → iq.t = .ctx →
    ∃ c, iq.cm.point = some c ∧ c ≤ iq.items.length

/-- The iterator delivers outside the store's lock (on its private snapshot). -/
def P_delivery_lock_free (tr : Trace) : Prop :=
  ∀ (j : Nat) r obs iq, tr[j]? = some (r, obs) → iterOf r obs = some iq → iq.t ≠ .locked

/-- An `iter` record is answered with an iteration outcome and one observation per `After` of its script. -/
def IterReadable : Rec → Obs → Prop
  | .iter _ _ _ _ script, obs =>
    obs = .panic ∨ ∃ t items nested, obs = .iter t items nested ∧ (t = .locked ∨ nested.length = countAfter script)
  | _, _ => True

def P_iter_readable (tr : Trace) : Prop :=
  ∀ (j : Nat) r obs, tr[j]? = some (r, obs) → IterReadable r obs

/-- "Retained bytes never exceed the configured maximum by more than the most recent item". -/
def P_bytes_bound (tr : Trace) : Prop :=
  ∀ (j : Nat) n m r, tr[j]? = some (Rec.stat, Obs.stat n m r) → r ≤ (cfgMax (hist tr j)).getD m + allowance (hist tr j)

/-- The store's own consistency check (`MemoryEventStore.validate`, compiled out in /repo): on every probe
the byte count that drives eviction equals the bytes counted from the retained data. -/
def P_accounting (tr : Trace) : Prop :=
  ∀ (j : Nat) n m r, tr[j]? = some (Rec.stat, Obs.stat n m r) → n = r

/-- A `stat` probe is answered with the three numbers. -/
def P_stat_readable (tr : Trace) : Prop :=
  ∀ (j : Nat) obs, tr[j]? = some (Rec.stat, obs) → ∃ n m r, obs = Obs.stat n m r

/-- "all operations are safe under concurrent use": the harness's verdict on a concurrent run — the byte count
equals the retained data afterwards, and every `After` of a goroutine on the stream only it appends to was
the purge error or exactly what it had appended after the index. -/
def P_concurrent_consistent (tr : Trace) : Prop :=
  ∀ (j : Nat) obs, tr[j]? = some (Rec.concurrent, obs) → obs = Obs.consistent

/-- No exported method panics (neither the record's own calls nor an `After` issued from inside an iteration). -/
def P_no_panic (tr : Trace) : Prop :=
  ∀ (j : Nat) r obs, tr[j]? = some (r, obs) →
    (opsOf r ≠ [] → obs ≠ Obs.panic) ∧ ∀ q ∈ queries r obs, q.obs ≠ Obs.panic

def P_of : Clause → Trace → Prop
  | .afterUnknown => P_unknown_reported
  | .afterWrong => P_exact_or_purged
  | .afterPurgedNothing => P_purged_only_if_evicted
  | .bytesBound => P_bytes_bound
  | .badStat => P_stat_readable
  | .accounting => P_accounting
  | .concurrent => P_concurrent_consistent
  | .panicked => P_no_panic
  | .iterShort => P_never_silently_short
  | .ctxErrLive => P_ctx_error_only_if_done
  | .iterLocked => P_delivery_lock_free
  | .badIter => P_iter_readable

def stateAfter : MState → Trace → MState
  | m, [] => m
  | m, (r, obs) :: tr => stateAfter (monStep m r obs).1 tr

theorem monStep_state (m : MState) (r : Rec) (obs : Obs) : (monStep m r obs).1 = (opsOf r).foldl bookOp m := by
  cases r <;> rfl

theorem stateAfter_hist : ∀ (tr : Trace) (m : MState),
    stateAfter m tr = (tr.flatMap fun p => opsOf p.1).foldl bookOp m := by
  intro tr
  induction tr with
  | nil => intro m; rfl
  | cons p tr ih =>
    intro m
    obtain ⟨r, obs⟩ := p
    simp only [stateAfter, List.flatMap_cons, List.foldl_append, monStep_state, ih]

theorem fold_spec (k : Key) : ∀ (ops : List (Op String)) (m : MState),
    (ops.foldl bookOp m).spec.lookup k = ops.foldl (specStep k) (m.spec.lookup k) := by
  intro ops
  induction ops with
  | nil => intro m; rfl
  | cons op ops ih => intro m; simp only [List.foldl_cons, ih, book_spec]

theorem fold_last : ∀ (ops : List (Op String)) (m : MState),
    (ops.foldl bookOp m).lastApp = ops.foldl allowStep m.lastApp := by
  intro ops
  induction ops with
  | nil => intro m; rfl
  | cons op ops ih =>
    intro m
    simp only [List.foldl_cons, ih]
    cases op <;> rfl

theorem fold_cfg : ∀ (ops : List (Op String)) (m : MState),
    (ops.foldl bookOp m).maxCfg = ops.foldl cfgStep m.maxCfg := by
  intro ops
  induction ops with
  | nil => intro m; rfl
  | cons op ops ih =>
    intro m
    simp only [List.foldl_cons, ih]
    cases op <;> rfl

/-- The monitor's bookkeeping before position `j` is the three history functions. -/
theorem state_at (tr : Trace) (j : Nat) :
    (∀ k, (stateAfter {} (tr.take j)).spec.lookup k = specLog k (hist tr j)) ∧
    (stateAfter {} (tr.take j)).lastApp = allowance (hist tr j) ∧
    (stateAfter {} (tr.take j)).maxCfg = cfgMax (hist tr j) := by
  rw [stateAfter_hist]
  exact ⟨fun k => fold_spec k _ _, fold_last _ _, fold_cfg _ _⟩

def FiresAt (tr : Trace) (j : Nat) (cl : Clause) : Prop :=
  ∃ r obs, tr[j]? = some (r, obs) ∧ (monStep (stateAfter {} (tr.take j)) r obs).2 = some cl

theorem runMonFrom_eq (tr : Trace) (m : MState) (j : Nat) :
    runMonFrom m j tr = FirstReport.first (fun m p => monStep m p.1 p.2) m j tr := by
  induction tr generalizing m j with
  | nil => rfl
  | cons p tr ih =>
    obtain ⟨r, obs⟩ := p
    simp only [runMonFrom, FirstReport.first, ih]
    cases (monStep m r obs).2 <;> rfl

theorem stateAfter_eq (tr : Trace) (m : MState) :
    stateAfter m tr = FirstReport.after (fun m p => monStep m p.1 p.2) m tr := by
  induction tr generalizing m with
  | nil => rfl
  | cons p tr ih => obtain ⟨r, obs⟩ := p; exact ih _

theorem runMon_fires {tr : Trace} {j : Nat} {cl : Clause} (h : runMon tr = some (j, cl)) : FiresAt tr j cl := by
  rw [runMon, runMonFrom_eq, FirstReport.first_eq_some] at h
  obtain ⟨k, ⟨r, obs⟩, hj, hk, hr, _⟩ := h
  rw [Nat.zero_add] at hj; subst hj
  exact ⟨r, obs, hk, by rw [stateAfter_eq]; exact hr⟩

theorem runMon_silent {tr : Trace} (h : runMon tr = none) {d : Nat} {r : Rec} {obs : Obs}
    (hd : tr[d]? = some (r, obs)) : (monStep (stateAfter {} (tr.take d)) r obs).2 = none := by
  rw [runMon, runMonFrom_eq, FirstReport.first_eq_none] at h
  rw [stateAfter_eq]; exact h d (r, obs) hd

theorem spec_atQ (tr : Trace) (j : Nat) (ops : List (Op String)) (k : Key) :
    (ops.foldl bookOp (stateAfter {} (tr.take j))).spec.lookup k = specLog k (hist tr j ++ ops) := by
  rw [stateAfter_hist, ← List.foldl_append, fold_spec]
  rfl

/-- What a report of the `After` clause says (`look`: the monitor's log of the stream). -/
def AfterReported (look : Option (List String)) (i : Int) (obs : Obs) (cl : Clause) : Prop :=
  -1 ≤ i ∧
  ((cl = .afterUnknown ∧ look = none ∧ obs ≠ .unknown) ∨
   (∃ log, cl = .afterPurgedNothing ∧ look = some log ∧ obs = .purged ∧ log.drop (i + 1).toNat = []) ∨
   (∃ log, cl = .afterWrong ∧ look = some log ∧ obs ≠ .purged ∧ obs ≠ .items (log.drop (i + 1).toNat)))

def AfterSilent (look : Option (List String)) (i : Int) (obs : Obs) : Prop :=
  (look = none → obs = .unknown) ∧
  (∀ log, look = some log →
    (obs = .purged ∧ (i + 1).toNat < log.length) ∨ (obs ≠ .purged ∧ obs = .items (log.drop (i + 1).toNat)))

theorem afterClause_some {m : MState} {k : Key} {i : Int} {obs : Obs} {cl : Clause}
    (h : afterClause m k i obs = some cl) : AfterReported (m.spec.lookup k) i obs cl := by
  unfold afterClause at h
  cases hl : m.spec.lookup k <;>
    simp only [hl, ite_eq_some_iff, Option.some.injEq, reduceCtorEq, and_false, false_or, or_false] at h
  · obtain ⟨hi, ho, rfl⟩ := h
    exact ⟨by omega, .inl ⟨rfl, rfl, ho⟩⟩
  · obtain ⟨hi, ⟨hp, he, rfl⟩ | ⟨hp, hit, rfl⟩⟩ := h
    · exact ⟨by omega, .inr (.inl ⟨_, rfl, rfl, hp, List.isEmpty_iff.1 he⟩)⟩
    · exact ⟨by omega, .inr (.inr ⟨_, rfl, rfl, hp, hit⟩)⟩

theorem afterClause_none {m : MState} {k : Key} {i : Int} {obs : Obs} (h : afterClause m k i obs = none)
    (hi : -1 ≤ i) : AfterSilent (m.spec.lookup k) i obs := by
  unfold afterClause at h
  cases hl : m.spec.lookup k <;>
    simp only [hl, ite_eq_none_iff, reduceCtorEq, and_false, false_or, or_false, and_true] at h
  · exact ⟨fun _ => (h.resolve_left (by omega)).2, nofun⟩
  · refine ⟨nofun, fun log hx => ?_⟩
    cases hx
    rcases (h.resolve_left (by omega)).2 with ⟨hp, he⟩ | h
    · rw [List.isEmpty_iff, List.drop_eq_nil_iff] at he
      exact .inl ⟨hp, by omega⟩
    · exact .inr h

theorem opClause_after_some {m : MState} {k : Key} {i : Int} {obs : Obs} {cl : Clause}
    (h : opClause m (.after k i) obs = some cl) :
    (cl = .panicked ∧ obs = .panic) ∨ afterClause m k i obs = some cl := by
  simp only [opClause] at h
  split at h
  · cases h; exact .inl ⟨rfl, by assumption⟩
  · exact .inr h

theorem opClause_after_none {m : MState} {k : Key} {i : Int} {obs : Obs}
    (h : opClause m (.after k i) obs = none) : obs ≠ .panic ∧ afterClause m k i obs = none := by
  simp only [opClause] at h
  split at h
  · cases h
  · exact ⟨by assumption, h⟩

theorem statClause_some {m : MState} {obs : Obs} {cl : Clause} (h : statClause m obs = some cl) :
    (cl = .badStat ∧ ¬ ∃ n mx r, obs = .stat n mx r) ∨
    (∃ n mx r, cl = .bytesBound ∧ obs = .stat n mx r ∧ ¬ r ≤ m.maxCfg.getD mx + m.lastApp) ∨
    (∃ n mx r, cl = .accounting ∧ obs = .stat n mx r ∧ n ≠ r) := by
  cases obs with
  | stat n mx r =>
    simp only [statClause] at h
    split at h
    · cases h; exact .inr (.inr ⟨n, mx, r, rfl, rfl, by assumption⟩)
    · split at h
      · cases h
      · cases h; exact .inr (.inl ⟨n, mx, r, rfl, rfl, by assumption⟩)
  | _ => simp only [statClause] at h; cases h; exact .inl ⟨rfl, by rintro ⟨_, _, _, h⟩; cases h⟩

def IterReported (look : Option (List String)) (i : Int) (cm : CtxMode) (stop : Option Nat) (t : Term)
    (items : List String) (cl : Clause) : Prop :=
  (cl = .iterLocked ∧ t = .locked) ∨
  (t ≠ .locked ∧ -1 ≤ i ∧
    ((cl = .ctxErrLive ∧ t = .ctx ∧ ¬ ∃ c, cm.point = some c ∧ c ≤ items.length) ∨
     (cl = .afterUnknown ∧ look = none ∧ ¬ (items = [] ∧ (t = .unknown ∨ t = .ctx))) ∨
     (∃ log, look = some log ∧
        ((cl = .iterShort ∧ t = .fin ∧ items <+: log.drop (i + 1).toNat ∧ items ≠ log.drop (i + 1).toNat) ∨
         (cl = .afterPurgedNothing ∧ t = .purged ∧ log.drop (i + 1).toNat = []) ∨
         (cl = .afterWrong ∧ ¬ Allowed (log.drop (i + 1).toNat) stop t items)))))

def IterSilent (look : Option (List String)) (i : Int) (cm : CtxMode) (stop : Option Nat) (t : Term)
    (items : List String) : Prop :=
  t ≠ .locked ∧ (-1 ≤ i →
    (t = .ctx → ∃ c, cm.point = some c ∧ c ≤ items.length) ∧
    (look = none → items = [] ∧ (t = .unknown ∨ t = .ctx)) ∧
    (∀ log, look = some log →
      Allowed (log.drop (i + 1).toNat) stop t items ∧
      (t = .fin → items <+: log.drop (i + 1).toNat → items = log.drop (i + 1).toNat) ∧
      (t = .purged → (i + 1).toNat < log.length)))

/-- The iteration clause, read: one pass over its branches gives both directions. -/
theorem iterClause_spec (m : MState) (k : Key) (i : Int) (cm : CtxMode) (stop : Option Nat) (t : Term)
    (items : List String) :
    match iterClause m k i cm stop t items with
    | none => IterSilent (m.spec.lookup k) i cm stop t items
    | some cl => IterReported (m.spec.lookup k) i cm stop t items cl := by
  -- decide the outer tests first, so that only the branch in question is ever looked at
  simp only [iterClause]
  by_cases hnl : t = .locked
  · rw [if_pos hnl]; exact .inl ⟨rfl, hnl⟩
  rw [if_neg hnl]
  by_cases hi : i < -1
  · rw [if_pos hi]; exact ⟨hnl, fun h => absurd hi (by omega)⟩
  rw [if_neg hi]
  have hi' : -1 ≤ i := by omega
  cases hl : m.spec.lookup k with
  | none =>
    simp only []
    by_cases hc : t = .ctx
    · rw [if_pos hc]
      cases hp : cm.point with
      | none => exact .inr ⟨hnl, hi', .inl ⟨rfl, hc, by rintro ⟨c, h1, _⟩; rw [hp] at h1; cases h1⟩⟩
      | some c =>
        simp only []
        by_cases hle : c ≤ items.length
        · rw [if_pos hle]
          by_cases he : items = []
          · rw [if_pos he]
            exact ⟨hnl, fun _ => ⟨fun _ => ⟨c, hp, hle⟩, fun _ => ⟨he, .inr hc⟩, fun log hx => nomatch hx⟩⟩
          · rw [if_neg he]; exact .inr ⟨hnl, hi', .inr (.inl ⟨rfl, rfl, fun hx => he hx.1⟩)⟩
        · rw [if_neg hle]
          exact .inr ⟨hnl, hi', .inl ⟨rfl, hc, by rintro ⟨c', h1, h2⟩; rw [hp] at h1; cases h1; exact hle h2⟩⟩
    · rw [if_neg hc]
      by_cases hu : t = .unknown ∧ items = []
      · rw [if_pos hu]
        exact ⟨hnl, fun _ => ⟨fun h => absurd h hc, fun _ => ⟨hu.2, .inl hu.1⟩, fun log hx => nomatch hx⟩⟩
      · rw [if_neg hu]
        exact .inr ⟨hnl, hi', .inr (.inl ⟨rfl, rfl, fun hx => hx.2.elim (fun h1 => hu ⟨h1, hx.1⟩) hc⟩)⟩
  | some log =>
    simp only []
    -- reports on a known stream, and the silent verdict for an outcome other than `purged`
    have wrong : ¬ Allowed (log.drop (i + 1).toNat) stop t items →
        IterReported (some log) i cm stop t items .afterWrong :=
      fun hn => .inr ⟨hnl, hi', .inr (.inr ⟨log, rfl, .inr (.inr ⟨rfl, hn⟩)⟩)⟩
    cases t with
    | locked => exact absurd rfl hnl
    | fin =>
      simp only []
      by_cases he : items = log.drop (i + 1).toNat
      · rw [if_pos he]
        exact ⟨hnl, fun _ => ⟨nofun, nofun, fun log' hx => by cases hx; exact ⟨.inl ⟨rfl, he⟩, fun _ _ => he, nofun⟩⟩⟩
      · rw [if_neg he]
        by_cases hpre : items.isPrefixOf (log.drop (i + 1).toNat) = true
        · rw [if_pos hpre]
          exact .inr ⟨hnl, hi', .inr (.inr ⟨log, rfl, .inl ⟨rfl, rfl, List.isPrefixOf_iff_prefix.1 hpre, he⟩⟩)⟩
        · rw [if_neg hpre]
          refine wrong ?_
          rintro (⟨_, h⟩ | ⟨hc, _⟩ | ⟨hc, _⟩ | ⟨hc, _⟩)
          · exact he h
          all_goals cases hc
    | broke =>
      cases stop with
      | none =>
        refine wrong ?_
        rintro (⟨hc, _⟩ | ⟨_, n, hs, _⟩ | ⟨hc, _⟩ | ⟨hc, _⟩)
        · cases hc
        · cases hs
        all_goals cases hc
      | some n =>
        simp only []
        by_cases hn : 1 ≤ n ∧ n ≤ (log.drop (i + 1).toNat).length ∧ items = (log.drop (i + 1).toNat).take n
        · rw [if_pos hn]
          exact ⟨hnl, fun _ => ⟨nofun, nofun, fun log' hx => by cases hx; exact ⟨.inr (.inl ⟨rfl, n, rfl, hn⟩), nofun, nofun⟩⟩⟩
        · rw [if_neg hn]
          refine wrong ?_
          rintro (⟨hc, _⟩ | ⟨_, n', hs, h1, h2, h3⟩ | ⟨hc, _⟩ | ⟨hc, _⟩)
          · cases hc
          · cases hs; exact hn ⟨h1, h2, h3⟩
          all_goals cases hc
    | purged =>
      simp only []
      by_cases he : items = []
      · rw [if_pos he]
        by_cases hem : (log.drop (i + 1).toNat).isEmpty = true
        · rw [if_pos hem]
          exact .inr ⟨hnl, hi', .inr (.inr ⟨log, rfl, .inr (.inl ⟨rfl, rfl, List.isEmpty_iff.1 hem⟩)⟩)⟩
        · rw [if_neg hem]
          refine ⟨hnl, fun _ => ⟨nofun, nofun, fun log' hx => ?_⟩⟩
          cases hx
          refine ⟨.inr (.inr (.inl ⟨rfl, he⟩)), nofun, fun _ => ?_⟩
          have : log.drop (i + 1).toNat ≠ [] := fun e => hem (by rw [e]; rfl)
          rw [Ne, List.drop_eq_nil_iff] at this; omega
      · rw [if_neg he]
        refine wrong ?_
        rintro (⟨hc, _⟩ | ⟨hc, _⟩ | ⟨_, h⟩ | ⟨hc, _⟩)
        · cases hc
        · cases hc
        · exact he h
        · cases hc
    | ctx =>
      simp only []
      cases hp : cm.point with
      | none => exact .inr ⟨hnl, hi', .inl ⟨rfl, rfl, by rintro ⟨c, h1, _⟩; rw [hp] at h1; cases h1⟩⟩
      | some c =>
        simp only []
        by_cases hle : c ≤ items.length
        · rw [if_pos hle]
          by_cases hpre : items.isPrefixOf (log.drop (i + 1).toNat) = true
          · rw [if_pos hpre]
            exact ⟨hnl, fun _ => ⟨fun _ => ⟨c, hp, hle⟩, nofun, fun log' hx => by
              cases hx; exact ⟨.inr (.inr (.inr ⟨rfl, List.isPrefixOf_iff_prefix.1 hpre⟩)), nofun, nofun⟩⟩⟩
          · rw [if_neg hpre]
            refine wrong ?_
            rintro (⟨hc, _⟩ | ⟨hc, _⟩ | ⟨hc, _⟩ | ⟨_, hx⟩)
            · cases hc
            · cases hc
            · cases hc
            · exact hpre (List.isPrefixOf_iff_prefix.2 hx)
        · rw [if_neg hle]
          exact .inr ⟨hnl, hi', .inl ⟨rfl, rfl, by rintro ⟨c', h1, h2⟩; rw [hp] at h1; cases h1; exact hle h2⟩⟩
    | _ => exact wrong (by rintro (⟨hc, _⟩ | ⟨hc, _⟩ | ⟨hc, _⟩ | ⟨hc, _⟩) <;> cases hc)

theorem iterClause_some {m : MState} {k : Key} {i : Int} {cm : CtxMode} {stop : Option Nat} {t : Term}
    {items : List String} {cl : Clause} (h : iterClause m k i cm stop t items = some cl) :
    IterReported (m.spec.lookup k) i cm stop t items cl := by
  have := iterClause_spec m k i cm stop t items
  rwa [h] at this

theorem iterClause_none {m : MState} {k : Key} {i : Int} {cm : CtxMode} {stop : Option Nat} {t : Term}
    {items : List String} (h : iterClause m k i cm stop t items = none) :
    IterSilent (m.spec.lookup k) i cm stop t items := by
  have := iterClause_spec m k i cm stop t items
  rwa [h] at this

theorem countAfter_cons_after (k : Key) (i : Int) (ops : List (Op String)) :
    countAfter (.after k i :: ops) = countAfter ops + 1 := by
  have : isAfter (.after k i) = true := rfl
  simp [countAfter, this]

/-- The `After`s of a script, judged each at ITS bookkeeping (`pre`: the record's calls before the script). -/
theorem nestedClause_spec (m0 : MState) : ∀ (script pre : List (Op String)) (nested : List AObs),
    match nestedClause (pre.foldl bookOp m0) script nested with
    | none => nested.length = countAfter script ∧
      ∀ q, q ∈ nestedQ pre.length script nested →
        opClause (((pre ++ script).take q.off).foldl bookOp m0) (.after q.k q.i) q.obs = none
    | some cl => (cl = .badIter ∧ nested.length ≠ countAfter script) ∨
      ∃ q, q ∈ nestedQ pre.length script nested ∧
        opClause (((pre ++ script).take q.off).foldl bookOp m0) (.after q.k q.i) q.obs = some cl := by
  intro script
  induction script with
  | nil =>
    intro pre nested
    cases nested with
    | nil => exact ⟨rfl, fun q hq => nomatch hq⟩
    | cons o os => exact .inl ⟨rfl, by simp [countAfter]⟩
  | cons op ops ih =>
    intro pre nested
    -- the rest of the script, after `op` has been booked
    have hstep : ∀ (nested' : List AObs),
        match nestedClause (bookOp (pre.foldl bookOp m0) op) ops nested' with
        | none => nested'.length = countAfter ops ∧
          ∀ q, q ∈ nestedQ (pre.length + 1) ops nested' →
            opClause (((pre ++ op :: ops).take q.off).foldl bookOp m0) (.after q.k q.i) q.obs = none
        | some cl => (cl = .badIter ∧ nested'.length ≠ countAfter ops) ∨
          ∃ q, q ∈ nestedQ (pre.length + 1) ops nested' ∧
            opClause (((pre ++ op :: ops).take q.off).foldl bookOp m0) (.after q.k q.i) q.obs = some cl := by
      intro nested'
      simpa only [List.foldl_append, List.foldl_cons, List.foldl_nil, List.length_append, List.length_cons,
        List.length_nil, List.append_assoc, List.cons_append, List.nil_append, Nat.zero_add] using ih (pre ++ [op]) nested'
    cases op with
    | after k i =>
      cases nested with
      | nil => exact .inl ⟨rfl, by simp [countAfter_cons_after]⟩
      | cons o os =>
        simp only [nestedClause]
        cases hc : opClause (pre.foldl bookOp m0) (.after k i) o.toObs with
        | some cl' => exact .inr ⟨⟨pre.length, k, i, o.toObs⟩, by simp [nestedQ], by simpa using hc⟩
        | none =>
          have hrec := hstep os
          simp only [bookOp] at hrec
          cases hr : nestedClause (pre.foldl bookOp m0) ops os with
          | none =>
            rw [hr] at hrec
            refine ⟨by simp only [List.length_cons, countAfter_cons_after, hrec.1], fun q hq => ?_⟩
            rcases List.mem_cons.1 hq with rfl | hq
            · simpa using hc
            · exact hrec.2 q hq
          | some cl =>
            rw [hr] at hrec
            rcases hrec with ⟨h1, h2⟩ | ⟨q, hq, hcl⟩
            · exact .inl ⟨h1, by simp only [List.length_cons, countAfter_cons_after]; omega⟩
            · exact .inr ⟨q, List.mem_cons_of_mem _ hq, hcl⟩
    | _ => simpa only [nestedClause, nestedQ, countAfter, List.filter, isAfter] using hstep nested

theorem monStep_some {m : MState} {r : Rec} {obs : Obs} {cl : Clause} (h : (monStep m r obs).2 = some cl) :
    (cl = .panicked ∧ opsOf r ≠ [] ∧ obs = .panic) ∨
    (∃ q, q ∈ queries r obs ∧
      opClause (((opsOf r).take q.off).foldl bookOp m) (.after q.k q.i) q.obs = some cl) ∨
    (∃ iq, iterOf r obs = some iq ∧ iterClause m iq.k iq.i iq.cm iq.stop iq.t iq.items = some cl) ∨
    (r = .stat ∧ statClause m obs = some cl) ∨
    (r = .concurrent ∧ cl = .concurrent ∧ obs ≠ .consistent) ∨
    (cl = .badIter ∧ ¬ IterReadable r obs) := by
  cases r with
  | op o =>
    cases o with
    | after k i => exact .inr (.inl ⟨⟨0, k, i, obs⟩, by simp [queries], h⟩)
    | _ =>
      simp only [monStep, opClause] at h
      split at h
      · cases h; exact .inl ⟨rfl, by simp [opsOf], by assumption⟩
      · cases h
  | afteri k i k2 p => exact .inr (.inl ⟨⟨0, k, i, obs⟩, by simp [queries], h⟩)
  | iter k i cm stop script =>
    simp only [monStep] at h
    cases obs with
    | panic => cases h; exact .inl ⟨rfl, by simp [opsOf], rfl⟩
    | iter t items nested =>
      simp only [] at h
      cases hc : iterClause m k i cm stop t items with
      | some cl' =>
        rw [hc] at h; simp only [Option.some.injEq] at h; subst h
        exact .inr (.inr (.inl ⟨⟨k, i, cm, stop, t, items⟩, rfl, hc⟩))
      | none =>
        rw [hc] at h; simp only [] at h
        have hn := nestedClause_spec m script [.after k i] nested
        rw [show nestedClause (List.foldl bookOp m [Op.after k i]) script nested = some cl from h] at hn
        rcases hn with ⟨h1, h2⟩ | ⟨q, hq, hcl⟩
        · refine .inr (.inr (.inr (.inr (.inr ⟨h1, ?_⟩))))
          rintro (hx | ⟨t', items', nested', hx, hy⟩)
          · cases hx
          · cases hx
            rcases hy with hy | hy
            · subst hy; simp [iterClause] at hc
            · exact h2 hy
        · exact .inr (.inl ⟨q, hq, hcl⟩)
    | _ => cases h; exact .inr (.inr (.inr (.inr (.inr ⟨rfl, by rintro (hx | ⟨_, _, _, hx, _⟩) <;> cases hx⟩))))
  | stat => exact .inr (.inr (.inr (.inl ⟨rfl, h⟩)))
  | concurrent =>
    simp only [monStep] at h
    split at h
    · cases h
    · cases h; exact .inr (.inr (.inr (.inr (.inl ⟨rfl, rfl, by assumption⟩))))

theorem monStep_none {m : MState} {r : Rec} {obs : Obs} (h : (monStep m r obs).2 = none) :
    (∀ q, q ∈ queries r obs → opClause (((opsOf r).take q.off).foldl bookOp m) (.after q.k q.i) q.obs = none) ∧
    (∀ iq, iterOf r obs = some iq → iterClause m iq.k iq.i iq.cm iq.stop iq.t iq.items = none) ∧
    (opsOf r ≠ [] → obs ≠ .panic) ∧ IterReadable r obs := by
  cases r with
  | op o =>
    have hp : obs ≠ .panic := by
      intro hx; subst hx; cases o <;> simp [monStep, opClause] at h
    refine ⟨?_, (fun iq hq => by cases hq), fun _ => hp, trivial⟩
    intro q hq
    cases o with
    | after k i =>
      simp only [queries, List.mem_singleton] at hq; subst hq
      exact h
    | _ => simp [queries] at hq
  | afteri k i k2 p =>
    have hp : obs ≠ .panic := by
      intro hx; subst hx; simp [monStep, opClause] at h
    refine ⟨?_, (fun iq hq => by cases hq), fun _ => hp, trivial⟩
    intro q hq
    simp only [queries, List.mem_singleton] at hq; subst hq
    exact h
  | iter k i cm stop script =>
    simp only [monStep] at h
    cases obs with
    | iter t items nested =>
      simp only [] at h
      cases hc : iterClause m k i cm stop t items with
      | some cl' => rw [hc] at h; cases h
      | none =>
        rw [hc] at h; simp only [] at h
        have hn := nestedClause_spec m script [.after k i] nested
        rw [show nestedClause (List.foldl bookOp m [Op.after k i]) script nested = none from h] at hn
        obtain ⟨h1, h2⟩ := hn
        refine ⟨fun q hq => h2 q hq, ?_, (fun _ hx => by cases hx), .inr ⟨t, items, nested, rfl, .inr h1⟩⟩
        intro iq hq
        simp only [iterOf, Option.some.injEq] at hq
        subst hq
        exact hc
    | _ => cases h
  | stat => exact ⟨fun q hq => by simp [queries] at hq, (fun iq hq => by cases hq), fun hx => absurd rfl hx, trivial⟩
  | concurrent => exact ⟨fun q hq => by simp [queries] at hq, (fun iq hq => by cases hq), fun hx => absurd rfl hx, trivial⟩

/-- What a clause asks of ONE record and its observation, given what the history before it says: `look0 k` the abstract log of
stream `k` before the record, `lookQ ops k` after `ops` of the record's own calls, the allowance and the configured maximum.
(The bodies of the `P_…` at one position.) -/
def Holds (look0 : Key → Option (List String)) (lookQ : List (Op String) → Key → Option (List String)) (allow : Nat)
    (cfg : Option Nat) (r : Rec) (obs : Obs) : Clause → Prop
  | .afterUnknown =>
    (∀ q, q ∈ queries r obs → -1 ≤ q.i → lookQ ((opsOf r).take q.off) q.k = none → q.obs = .unknown) ∧
    (∀ iq, iterOf r obs = some iq → iq.t ≠ .locked → -1 ≤ iq.i → look0 iq.k = none →
      iq.items = [] ∧ (iq.t = .unknown ∨ iq.t = .ctx))
  | .afterWrong =>
    (∀ q log, q ∈ queries r obs → -1 ≤ q.i → lookQ ((opsOf r).take q.off) q.k = some log →
      q.obs = .purged ∨ q.obs = .items (log.drop (q.i + 1).toNat)) ∧
    (∀ iq log, iterOf r obs = some iq → iq.t ≠ .locked → -1 ≤ iq.i → look0 iq.k = some log →
      Allowed (log.drop (iq.i + 1).toNat) iq.stop iq.t iq.items)
  | .afterPurgedNothing =>
    (∀ q log, q ∈ queries r obs → -1 ≤ q.i → lookQ ((opsOf r).take q.off) q.k = some log → q.obs = .purged →
      (q.i + 1).toNat < log.length) ∧
    (∀ iq log, iterOf r obs = some iq → iq.t ≠ .locked → -1 ≤ iq.i → look0 iq.k = some log →
      iq.t = .purged → (iq.i + 1).toNat < log.length)
  | .iterShort =>
    ∀ iq log, iterOf r obs = some iq → -1 ≤ iq.i → look0 iq.k = some log → iq.t = .fin →
      iq.items <+: log.drop (iq.i + 1).toNat → iq.items = log.drop (iq.i + 1).toNat
  | .ctxErrLive =>
    ∀ iq, iterOf r obs = some iq → -1 ≤ iq.i → iq.t = .ctx → ∃ c, iq.cm.point = some c ∧ c ≤ iq.items.length
  | .iterLocked => ∀ iq, iterOf r obs = some iq → iq.t ≠ .locked
  | .badIter => IterReadable r obs
  | .bytesBound => ∀ n mx rr, r = .stat → obs = .stat n mx rr → rr ≤ cfg.getD mx + allow
  | .accounting => ∀ n mx rr, r = .stat → obs = .stat n mx rr → n = rr
  | .badStat => r = .stat → ∃ n mx rr, obs = .stat n mx rr
  | .concurrent => r = .concurrent → obs = .consistent
  | .panicked => (opsOf r ≠ [] → obs ≠ .panic) ∧ ∀ q ∈ queries r obs, q.obs ≠ .panic

abbrev MHolds (m : MState) : Rec → Obs → Clause → Prop :=
  Holds (fun k => m.spec.lookup k) (fun ops k => (ops.foldl bookOp m).spec.lookup k) m.lastApp m.maxCfg

abbrev HoldsAt (tr : Trace) (j : Nat) : Rec → Obs → Clause → Prop :=
  Holds (fun k => specLog k (hist tr j)) (fun ops k => specLog k (hist tr j ++ ops)) (allowance (hist tr j)) (cfgMax (hist tr j))

theorem mholds_at (tr : Trace) (j : Nat) : MHolds (stateAfter {} (tr.take j)) = HoldsAt tr j := by
  simp only [MHolds, HoldsAt, spec_atQ, (state_at tr j).1, (state_at tr j).2.1, (state_at tr j).2.2]

theorem monStep_refutes {m : MState} {r : Rec} {obs : Obs} {cl : Clause} (h : (monStep m r obs).2 = some cl) :
    ¬ MHolds m r obs cl := by
  intro H
  rcases monStep_some h with ⟨rfl, h2, h3⟩ | ⟨q, hq, hc⟩ | ⟨iq, hiq, hic⟩ | ⟨rfl, hs⟩ | ⟨rfl, rfl, hn⟩ | ⟨rfl, hn⟩
  · exact H.1 h2 h3
  · rcases opClause_after_some hc with ⟨rfl, hp⟩ | ha
    · exact H.2 q hq hp
    · obtain ⟨hi, hcase⟩ := afterClause_some ha
      rcases hcase with ⟨rfl, hl, hne⟩ | ⟨log, rfl, hl, hp, hd⟩ | ⟨log, rfl, hl, h1, h2⟩
      · exact hne (H.1 q hq hi hl)
      · have := H.1 q log hq hi hl hp
        rw [List.drop_eq_nil_iff] at hd; omega
      · exact (H.1 q log hq hi hl).elim h1 h2
  · rcases iterClause_some hic with ⟨rfl, ht⟩ | ⟨hnl, hi, ⟨rfl, ht, hn⟩ | ⟨rfl, hl, hn⟩ |
      ⟨log, hl, ⟨rfl, ht, hpre, hne⟩ | ⟨rfl, ht, hd⟩ | ⟨rfl, hn⟩⟩⟩
    · exact H iq hiq ht
    · exact hn (H iq hiq hi ht)
    · exact hn (H.2 iq hiq hnl hi hl)
    · exact hne (H iq log hiq hi hl ht hpre)
    · have := H.2 iq log hiq hnl hi hl ht
      rw [List.drop_eq_nil_iff] at hd; omega
    · exact hn (H.2 iq log hiq hnl hi hl)
  · rcases statClause_some hs with ⟨rfl, hn⟩ | ⟨n, mx, rr, rfl, ho, hn⟩ | ⟨n, mx, rr, rfl, ho, hn⟩
    · exact hn (H rfl)
    · exact hn (H n mx rr rfl ho)
    · exact hn (H n mx rr rfl ho)
  · exact hn (H rfl)
  · exact hn H

theorem monStep_silent {m : MState} {r : Rec} {obs : Obs} (h : (monStep m r obs).2 = none) (cl : Clause) :
    MHolds m r obs cl := by
  obtain ⟨hq, hiq, hp, hr⟩ := monStep_none h
  have qn := fun q (hm : q ∈ queries r obs) (hi : -1 ≤ q.i) => afterClause_none (opClause_after_none (hq q hm)).2 hi
  have inn := fun iq (hm : iterOf r obs = some iq) => iterClause_none (hiq iq hm)
  cases cl with
  | afterUnknown => exact ⟨fun q hm hi hl => (qn q hm hi).1 hl, fun iq hm _ hi hl => (((inn iq hm).2 hi).2.1 hl)⟩
  | afterWrong =>
    exact ⟨fun q log hm hi hl => ((qn q hm hi).2 log hl).imp And.left And.right,
      fun iq log hm _ hi hl => ((((inn iq hm).2 hi).2.2 log hl).1)⟩
  | afterPurgedNothing =>
    exact ⟨fun q log hm hi hl hp => ((qn q hm hi).2 log hl).elim And.right fun h2 => absurd hp h2.1,
      fun iq log hm _ hi hl ht => ((((inn iq hm).2 hi).2.2 log hl).2.2 ht)⟩
  | iterShort => exact fun iq log hm hi hl ht hpre => ((((inn iq hm).2 hi).2.2 log hl).2.1 ht hpre)
  | ctxErrLive => exact fun iq hm hi ht => (((inn iq hm).2 hi).1 ht)
  | iterLocked => exact fun iq hm => (inn iq hm).1
  | badIter => exact hr
  | panicked => exact ⟨hp, fun q hm => (opClause_after_none (hq q hm)).1⟩
  | bytesBound =>
    rintro n mx rr rfl rfl
    simp only [monStep, statClause] at h
    split at h
    · cases h
    · split at h
      · assumption
      · cases h
  | accounting =>
    rintro n mx rr rfl rfl
    simp only [monStep, statClause] at h
    split at h
    · cases h
    · rename_i hne; exact Decidable.of_not_not hne
  | badStat =>
    rintro rfl
    cases obs with
    | stat n mx rr => exact ⟨n, mx, rr, rfl⟩
    | _ => simp [monStep, statClause] at h
  | concurrent =>
    rintro rfl
    simp only [monStep] at h
    split at h
    · assumption
    · cases h

theorem P_of.holds {tr : Trace} {cl : Clause} (hP : P_of cl tr) {j : Nat} {r : Rec} {obs : Obs} (hj : tr[j]? = some (r, obs)) :
    HoldsAt tr j r obs cl := by
  cases cl with
  | afterUnknown => exact ⟨fun q => hP.1 j r obs q hj, fun iq => hP.2 j r obs iq hj⟩
  | afterWrong => exact ⟨fun q log => hP.1 j r obs q log hj, fun iq log => hP.2 j r obs iq log hj⟩
  | afterPurgedNothing => exact ⟨fun q log => hP.1 j r obs q log hj, fun iq log => hP.2 j r obs iq log hj⟩
  | iterShort => exact fun iq log => hP j r obs iq log hj
  | ctxErrLive => exact fun iq => hP j r obs iq hj
  | iterLocked => exact fun iq => hP j r obs iq hj
  | badIter => exact hP j r obs hj
  | panicked => exact hP j r obs hj
  | bytesBound => rintro n mx rr rfl rfl; exact hP j n mx rr hj
  | accounting => rintro n mx rr rfl rfl; exact hP j n mx rr hj
  | badStat => rintro rfl; exact hP j obs hj
  | concurrent => rintro rfl; exact hP j obs hj

theorem P_of.of_holds {tr : Trace} {cl : Clause} (H : ∀ j r obs, tr[j]? = some (r, obs) → HoldsAt tr j r obs cl) :
    P_of cl tr := by
  cases cl with
  | afterUnknown => exact ⟨fun j r obs q hj => (H j r obs hj).1 q, fun j r obs iq hj => (H j r obs hj).2 iq⟩
  | afterWrong => exact ⟨fun j r obs q log hj => (H j r obs hj).1 q log, fun j r obs iq log hj => (H j r obs hj).2 iq log⟩
  | afterPurgedNothing =>
    exact ⟨fun j r obs q log hj => (H j r obs hj).1 q log, fun j r obs iq log hj => (H j r obs hj).2 iq log⟩
  | iterShort => exact fun j r obs iq log hj => H j r obs hj iq log
  | ctxErrLive => exact fun j r obs iq hj => H j r obs hj iq
  | iterLocked => exact fun j r obs iq hj => H j r obs hj iq
  | badIter => exact fun j r obs hj => H j r obs hj
  | panicked => exact fun j r obs hj => H j r obs hj
  | bytesBound => exact fun j n mx rr hj => H j _ _ hj n mx rr rfl rfl
  | accounting => exact fun j n mx rr hj => H j _ _ hj n mx rr rfl rfl
  | badStat => exact fun j obs hj => H j _ _ hj rfl
  | concurrent => exact fun j obs hj => H j _ _ hj rfl

theorem fires_sound {tr : Trace} {j : Nat} {cl : Clause} (h : FiresAt tr j cl) : ¬ P_of cl tr := by
  obtain ⟨r, obs, hj, hf⟩ := h
  exact fun hP => monStep_refutes hf (mholds_at tr j ▸ hP.holds hj)

theorem sound_afterUnknown (tr : Trace) (j : Nat) (h : FiresAt tr j .afterUnknown) : ¬ P_unknown_reported tr := fires_sound h

theorem sound_afterWrong (tr : Trace) (j : Nat) (h : FiresAt tr j .afterWrong) : ¬ P_exact_or_purged tr := fires_sound h

theorem sound_afterPurgedNothing (tr : Trace) (j : Nat) (h : FiresAt tr j .afterPurgedNothing) :
    ¬ P_purged_only_if_evicted tr := fires_sound h

/-- **The C20-m12 clause**: the run reports `iterShort` only on a trace on which an iteration ended
normally after a proper prefix of the payloads after its index. -/
theorem sound_iterShort (tr : Trace) (j : Nat) (h : FiresAt tr j .iterShort) : ¬ P_never_silently_short tr := fires_sound h

theorem sound_ctxErrLive (tr : Trace) (j : Nat) (h : FiresAt tr j .ctxErrLive) : ¬ P_ctx_error_only_if_done tr := fires_sound h

theorem sound_iterLocked (tr : Trace) (j : Nat) (h : FiresAt tr j .iterLocked) : ¬ P_delivery_lock_free tr := fires_sound h

theorem sound_badIter (tr : Trace) (j : Nat) (h : FiresAt tr j .badIter) : ¬ P_iter_readable tr := fires_sound h

theorem sound_bytesBound (tr : Trace) (j : Nat) (h : FiresAt tr j .bytesBound) : ¬ P_bytes_bound tr := fires_sound h

theorem sound_accounting (tr : Trace) (j : Nat) (h : FiresAt tr j .accounting) : ¬ P_accounting tr := fires_sound h

theorem sound_badStat (tr : Trace) (j : Nat) (h : FiresAt tr j .badStat) : ¬ P_stat_readable tr := fires_sound h

theorem sound_concurrent (tr : Trace) (j : Nat) (h : FiresAt tr j .concurrent) : ¬ P_concurrent_consistent tr := fires_sound h

theorem sound_panicked (tr : Trace) (j : Nat) (h : FiresAt tr j .panicked) : ¬ P_no_panic tr := fires_sound h

theorem monitor_sound (tr : Trace) (j : Nat) (cl : Clause) (h : runMon tr = some (j, cl)) : ¬ P_of cl tr :=
  fires_sound (runMon_fires h)

theorem monitor_complete (tr : Trace) (h : runMon tr = none) (cl : Clause) : P_of cl tr :=
  P_of.of_holds fun j _ _ hj => mholds_at tr j ▸ monStep_silent (runMon_silent h hj) cl

/-- The predicates are satisfiable: they hold on the model's answers to ANY record sequence. -/
theorem model_satisfies_P (rs : List Rec) (cl : Clause) :
    ∃ s os, recRun init rs = some (s, os) ∧ P_of cl (rs.zip os) := by
  obtain ⟨s, os, h1, _, h3⟩ := monitor_accepts_model rs
  exact ⟨s, os, h1, monitor_complete _ h3 cl⟩

section witnesses
private def kA : Key := ("s", "a")
private def pre : Trace := [(.op (.setMax 4), .ok), (.op (.open kA), .ok), (.op (.append kA "x0102"), .ok)]
private def pre2 : Trace := pre ++ [(.op (.append kA "x03"), .ok), (.op (.append kA "x"), .ok)]

example : runMon (pre ++ [(.op (.after kA (-1)), .items ["x0102"]), (.stat, .stat 2 4 2)]) = none := by decide
example : runMon (pre ++ [(.op (.after ("s", "b") 0), .items [])]) = some (3, .afterUnknown) := by decide
example : runMon (pre ++ [(.op (.after kA (-1)), .items [])]) = some (3, .afterWrong) := by decide
example : runMon (pre ++ [(.op (.after kA (-1)), .partialThenPurged)]) = some (3, .afterWrong) := by decide
example : runMon (pre ++ [(.op (.after kA (-1)), .purged)]) = none := by decide
example : runMon (pre ++ [(.op (.after kA 0), .purged)]) = some (3, .afterPurgedNothing) := by decide
example : runMon (pre ++ [(.stat, .stat 7 4 7)]) = some (3, .bytesBound) := by decide
example : runMon (pre ++ [(.stat, .stat 7 8 7)]) = some (3, .bytesBound) := by decide
example : runMon (pre ++ [(.stat, .ok)]) = some (3, .badStat) := by decide
example : runMon (pre ++ [(.stat, .stat 3 4 2)]) = some (3, .accounting) := by decide
example : runMon (pre ++ [(.concurrent, .other "nBytes=3 retained=2")]) = some (3, .concurrent) := by decide
example : runMon (pre ++ [(.op (.append kA "x03"), .panic)]) = some (3, .panicked) := by decide
example : runMon (pre ++ [(.afteri kA (-1) kA "x03", .items ["x0102"]), (.op (.after kA 0), .items ["x03"])]) = none := by
  decide
-- the iteration protocol: complete; broken by the consumer; calls and a second iteration from inside; a context
-- error once the context is done
example : runMon (pre2 ++ [(.iter kA (-1) .live none [], .iter .fin ["x0102", "x03", "x"] [])]) = none := by decide
example : runMon (pre2 ++ [(.iter kA 0 (.cancel 1) (some 1) [], .iter .broke ["x03"] [])]) = none := by decide
example : runMon (pre2 ++ [(.iter kA 0 .live none [.append kA "x04", .after kA 0, .closed "s", .after kA 0],
    .iter .fin ["x03", "x"] [.items ["x03", "x", "x04"], .unknown])]) = none := by decide
example : runMon (pre2 ++ [(.iter kA (-1) (.deadline 2) none [], .iter .ctx ["x0102", "x03"] [])]) = none := by decide
-- C20-m12: the context ends after the 2nd item and the iterator just returns
example : runMon (pre2 ++ [(.iter kA (-1) (.cancel 2) none [], .iter .fin ["x0102", "x03"] [])]) = some (5, .iterShort) := by
  decide
example : runMon (pre2 ++ [(.iter kA (-1) .live none [], .iter .ctx ["x0102"] [])]) = some (5, .ctxErrLive) := by decide
example : runMon (pre2 ++ [(.iter kA (-1) (.cancel 2) none [], .iter .ctx ["x0102"] [])]) = some (5, .ctxErrLive) := by decide
example : runMon (pre2 ++ [(.iter kA (-1) .live none [], .iter .locked [] [])]) = some (5, .iterLocked) := by decide
example : runMon (pre2 ++ [(.iter kA (-1) .live none [.after kA 0], .iter .fin ["x0102", "x03", "x"] [])]) =
    some (5, .badIter) := by decide
-- an alias instead of a clone: the purge from inside the iteration blanks what is still to be delivered
example : runMon (pre2 ++ [(.iter kA (-1) .live none [.setMax 1], .iter .fin ["x0102", "x", "x"] [])]) =
    some (5, .afterWrong) := by decide
example : runMon (pre2 ++ [(.iter kA (-1) .live (some 2) [], .iter .broke ["x0102"] [])]) = some (5, .afterWrong) := by decide
example : runMon (pre2 ++ [(.iter kA (-1) .live none [], .iter .goesOn [] [])]) = some (5, .afterWrong) := by decide
example : runMon (pre2 ++ [(.iter kA 2 .live none [], .iter .purged [] [])]) = some (5, .afterPurgedNothing) := by decide
example : runMon (pre2 ++ [(.iter ("s", "b") 0 .live none [], .iter .fin [] [])]) = some (5, .afterUnknown) := by decide
example : runMon (pre2 ++ [(.iter kA 0 .live none [.after kA 0], .iter .fin ["x03", "x"] [.panic])]) =
    some (5, .panicked) := by decide
end witnesses

end EventStore
