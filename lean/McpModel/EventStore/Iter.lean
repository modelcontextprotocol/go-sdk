import McpModel.EventStore.Props
/-!
# C20 — the iteration protocol of `After` (model: `EventStore.afterIter`, `EventStore.deliver`)

The iteration as a value (`afterIter`, `deliver`) is described in Model.lean.  The theorems hold both for the code as it is (it ignores the context) and for an iterator that honours
it by yielding its error; one that just returns when the context is done (seeded change C20-m12) is refuted
(`silent_return_is_partial`), and `view_iterator_depends_on_later_ops` says why the snapshot must be a clone.
-/
namespace EventStore
variable {α : Type}

/-- The iterator value of `After(k, i)` after any history: the unknown-stream error iff the stream does
not exist; otherwise the purge error (only if something lies after the index) or a snapshot that is
EXACTLY the payloads appended after the index. -/
theorem afterIter_spec (sz : α → Nat) (ops : List (Op α)) (k : Key) (i : Int) (hi : -1 ≤ i) :
    ∃ s os, run sz init ops = some (s, os) ∧
      match specLog k ops with
      | none => afterIter s k i = ⟨[], some .unknown⟩
      | some log =>
        (afterIter s k i = ⟨[], some .purged⟩ ∧ (i + 1).toNat < log.length) ∨
        afterIter s k i = ⟨log.drop (i + 1).toNat, none⟩ := by
  obtain ⟨s, os, e, h⟩ := reachable_find sz ops k
  refine ⟨s, os, e, ?_⟩
  cases hf : find k s.store with
  | none => rw [hf] at h; rw [h]; simp [afterIter, hf]
  | some dl =>
    rw [hf] at h
    rw [h.1]
    simp only [afterIter, hf]
    rcases afterOut_exact sz dl h.2 i hi with ⟨hp, hlt⟩ | hit
    · left; rw [hp]; exact ⟨rfl, hlt⟩
    · right; rw [hit]; rfl

theorem step_after_iter (sz : α → Nat) (s : Store α) (k : Key) (i : Int) :
    ∃ o, step sz s (.after k i) = some (s, o) ∧ iterOfOut o = afterIter s k i :=
  ⟨_, step_after sz s k i, by simp only [afterIter]; cases find k s.store <;> rfl⟩

/-- The outcomes of an iteration the property allows, given `exp` = the payloads after the index as of
its start (cf. `Allowed` in Sound.lean, on observed traces). -/
def Outcome (exp : List α) (stop cancel : Option Nat) (t : Term) (items : List α) : Prop :=
  (t = .fin ∧ items = exp) ∨
  (t = .broke ∧ ∃ n, stop = some n ∧ 1 ≤ n ∧ n ≤ exp.length ∧ items = exp.take n) ∨
  (t = .purged ∧ items = [] ∧ exp ≠ []) ∨
  (t = .ctx ∧ ∃ c, cancel = some c ∧ c ≤ items.length ∧ items = exp.take c)

theorem deliverPlain_outcome (exp : List α) (stop cancel : Option Nat) :
    Outcome exp stop cancel (deliverPlain exp stop).1 (deliverPlain exp stop).2 := by
  cases stop with
  | none => exact .inl ⟨rfl, rfl⟩
  | some n =>
    simp only [deliverPlain]
    split
    · rename_i hn; exact .inr (.inl ⟨rfl, n, rfl, hn.1, hn.2, rfl⟩)
    · exact .inl ⟨rfl, rfl⟩

theorem deliver_outcome (pol : CtxPolicy) (hpol : pol ≠ .silent) (exp : List α) (stop cancel : Option Nat) :
    Outcome exp stop cancel (deliver pol ⟨exp, none⟩ stop cancel).1 (deliver pol ⟨exp, none⟩ stop cancel).2 := by
  cases pol with
  | silent => exact absurd rfl hpol
  | ignore => simpa [deliver] using deliverPlain_outcome exp stop cancel
  | report =>
    cases cancel with
    | none => simpa [deliver] using deliverPlain_outcome exp stop none
    | some c =>
      simp only [deliver]
      by_cases hc : c = 0
      · subst hc
        simp only [if_true]
        exact .inr (.inr (.inr ⟨rfl, 0, rfl, Nat.zero_le _, by simp⟩))
      · simp only [hc, if_false]
        split
        · rename_i hlt
          simp only [if_true]
          refine .inr (.inr (.inr ⟨rfl, c, rfl, ?_, rfl⟩))
          simp only [List.length_take]; omega
        · exact deliverPlain_outcome exp stop (some c)

/-- On an unknown stream the iteration delivers nothing and ends with an error; otherwise it ends in one of the
`Outcome`s w.r.t. the payloads appended after the index.  `pol ≠ silent`: the code as it is (it ignores the context)
or an iterator that yields the context's error. -/
theorem after_iteration_complete_or_error (sz : α → Nat) (ops : List (Op α)) (k : Key) (i : Int) (hi : -1 ≤ i)
    (pol : CtxPolicy) (hpol : pol ≠ .silent) (stop cancel : Option Nat) :
    ∃ s os, run sz init ops = some (s, os) ∧
      match specLog k ops with
      | none =>
        (deliver pol (afterIter s k i) stop cancel).2 = [] ∧
        ((deliver pol (afterIter s k i) stop cancel).1 = .unknown ∨
         ((deliver pol (afterIter s k i) stop cancel).1 = .ctx ∧ cancel = some 0))
      | some log =>
        Outcome (log.drop (i + 1).toNat) stop cancel (deliver pol (afterIter s k i) stop cancel).1
          (deliver pol (afterIter s k i) stop cancel).2 := by
  obtain ⟨s, os, e, hspec⟩ := afterIter_spec sz ops k i hi
  refine ⟨s, os, e, ?_⟩
  cases hl : specLog k ops with
  | none =>
    rw [hl] at hspec; simp only [] at hspec ⊢
    rw [hspec]
    cases pol with
    | silent => exact absurd rfl hpol
    | ignore => exact ⟨rfl, .inl rfl⟩
    | report =>
      cases cancel with
      | none => exact ⟨rfl, .inl rfl⟩
      | some c =>
        by_cases hc : c = 0
        · subst hc; exact ⟨rfl, .inr ⟨rfl, rfl⟩⟩
        · simp [deliver, hc]
  | some log =>
    rw [hl] at hspec; simp only [] at hspec ⊢
    rcases hspec with ⟨hp, hlt⟩ | hit
    · rw [hp]
      have hne : log.drop (i + 1).toNat ≠ [] := by
        rw [Ne, List.drop_eq_nil_iff]; omega
      cases pol with
      | silent => exact absurd rfl hpol
      | ignore => exact .inr (.inr (.inl ⟨rfl, rfl, hne⟩))
      | report =>
        cases cancel with
        | none => exact .inr (.inr (.inl ⟨rfl, rfl, hne⟩))
        | some c =>
          by_cases hc : c = 0
          · subst hc; exact .inr (.inr (.inr ⟨rfl, 0, rfl, by simp [deliver], by simp [deliver]⟩))
          · simp only [deliver, hc, if_false]; exact .inr (.inr (.inl ⟨rfl, rfl, hne⟩))
    · rw [hit]; exact deliver_outcome pol hpol _ stop cancel

/-- The reading of the property, extracted: an iteration that ended WITHOUT an error and was not broken by
its consumer (`fin`) delivered exactly the payloads appended after the index — whatever the history, the
consumer and the cancellation point. -/
theorem complete_iteration_is_exact (sz : α → Nat) (ops : List (Op α)) (k : Key) (i : Int) (hi : -1 ≤ i)
    (pol : CtxPolicy) (hpol : pol ≠ .silent) (stop cancel : Option Nat) :
    ∃ s os, run sz init ops = some (s, os) ∧ ∀ log, specLog k ops = some log →
      (deliver pol (afterIter s k i) stop cancel).1 = .fin →
      (deliver pol (afterIter s k i) stop cancel).2 = log.drop (i + 1).toNat := by
  obtain ⟨s, os, e, h⟩ := after_iteration_complete_or_error sz ops k i hi pol hpol stop cancel
  refine ⟨s, os, e, fun log hl ht => ?_⟩
  rw [hl] at h; simp only [] at h
  rcases h with ⟨_, h⟩ | ⟨hc, _⟩ | ⟨hc, _⟩ | ⟨hc, _⟩
  · exact h
  · rw [ht] at hc; cases hc
  · rw [ht] at hc; cases hc
  · rw [ht] at hc; cases hc

section witnesses
private def kA : Key := ("s", "a")
private def hist3 : List (Op Nat) := [.open kA, .append kA 1, .append kA 2, .append kA 3]

/-- The code as it is, context cancelled after the first item: everything is delivered. -/
example : (run id init hist3).map (fun p => deliver .ignore (afterIter p.1 kA (-1)) none (some 1)) =
    some (.fin, [1, 2, 3]) := by decide

/-- A context-honouring iterator: the first item, then the context's error. -/
example : (run id init hist3).map (fun p => deliver .report (afterIter p.1 kA (-1)) none (some 1)) =
    some (.ctx, [1]) := by decide

/-- The consumer breaks after two items. -/
example : (run id init hist3).map (fun p => deliver .ignore (afterIter p.1 kA 0) (some 2) none) =
    some (.broke, [2, 3]) := by decide

/-- Seeded change C20-m12: an iterator that just returns once the context
is done ends WITHOUT an error after a proper prefix — no `Outcome`; the hypothesis `pol ≠ silent` of
`after_iteration_complete_or_error` is needed. -/
theorem silent_return_is_partial :
    ∃ (ops : List (Op Nat)) (k : Key) (s : Store Nat) (os : List (Out Nat)) (log : List Nat),
      run id init ops = some (s, os) ∧ specLog k ops = some log ∧
      deliver .silent (afterIter s k (-1)) none (some 1) = (.fin, [1]) ∧ log.drop 0 = [1, 2, 3] ∧
      ¬ Outcome (log.drop 0) none (some 1) .fin [1] := by
  obtain ⟨s, os, e, _⟩ := reachable id hist3
  refine ⟨hist3, kA, s, os, [1, 2, 3], e, by decide, ?_, rfl, ?_⟩
  · have : (run id init hist3).map (fun p => deliver .silent (afterIter p.1 kA (-1)) none (some 1)) =
        some (.fin, [1]) := by decide
    rw [e] at this; simpa using this
  · rintro (⟨_, h⟩ | ⟨h, _⟩ | ⟨h, _⟩ | ⟨h, _⟩)
    · cases h
    · cases h
    · cases h
    · cases h
end witnesses

/-- What a VIEW of the stream's list (`dl.data[start:]`, no clone) shows, at delivery time, of the element
at stream position `pos` of a stream that still exists: `dataList.removeFirst` blanks an evicted element
IN PLACE (`dl.data[0] = nil`), so an evicted position reads as the empty payload (`none`). -/
def viewAt (s : Store α) (k : Key) (pos : Nat) : Option α :=
  match find k s.store with
  | none => none
  | some dl => if pos < dl.first then none else dl.data[pos - dl.first]?

/-- An iterator that handed out a view instead of a clone would
deliver something else than the payloads after the index as soon as a call issued during the delivery
purges: here `After(-1)` starts on `[1, 2, 3]`, `SetMaxBytes(3)` runs after the first item, and the view's
second element has been blanked (seeded changes C20-m2, C20-m6, C08-m7, C19-m12).  The model's iterator
is immune by construction (`iterator_snapshot_independent_of_later_ops`, Concurrent.lean): that is what
the structural fact `eventstore.after_snapshot` (`slices.Clone` under the lock) pins. -/
theorem view_iterator_depends_on_later_ops :
    ∃ (ops : List (Op Nat)) (later : Op Nat) (k : Key) (s s' : Store Nat) (os : List (Out Nat)) (o : Out Nat),
      run id init ops = some (s, os) ∧ step id s later = some (s', o) ∧
      (afterIter s k (-1)).snap = [1, 2, 3] ∧ viewAt s k 1 = some 2 ∧ viewAt s' k 1 = none := by
  -- one evaluation of the history and of the later call; the states are then named by case analysis
  have h : ((run id init hist3).bind fun p => (step id p.1 (.setMax 3)).map fun q =>
      ((afterIter p.1 kA (-1)).snap, viewAt p.1 kA 1, viewAt q.1 kA 1)) = some ([1, 2, 3], some 2, none) := by
    decide +kernel
  cases e : run id init hist3 with
  | none => rw [e] at h; cases h
  | some p =>
    rw [e] at h
    cases e2 : step id p.1 (.setMax 3) with
    | none => simp only [Option.bind_some, e2] at h; cases h
    | some q =>
      simp only [Option.bind_some, e2, Option.map_some, Option.some.injEq, Prod.mk.injEq] at h
      exact ⟨hist3, .setMax 3, kA, p.1, q.1, p.2, q.2, e, e2, h⟩

end EventStore
