import McpModel.Order.Fan
/-!
Engine `order` — the typed core of the C03 monitor (end-to-end half).

The driver (Driver.lean) parses the records of one case into typed observations — per message a `Rec`
(was its sending call seen, did it return without error, did the peer's handler start / end, how often did
it start) and the case's global event log as a `List FEv` (the harness's log, re-assembled in the order of
its sequence numbers) — calls `recClause` per message and `orderClause` on the log, and renders the
`Clause` (`Clause.text`, Driver.lean).  Everything that decides WHICH clause of C03 is violated lives here
on typed data, so that FanProps.lean (no alarm on any run of the model: `fan_monitor_accepts_runs`,
`fan_monitor_accepts_ephemeral_runs`) and Sound.lean (a clause fires only if the property clause, stated on
the observed log alone, fails) can reason about it.  The string layer stays in Driver.lean.

The monitor is written from the property text; it never consults `step`.  It applies per (sender,
receiving peer, direction) pair — `Cfg.pair` — also across a fan-out: when a notifying method that
addresses several sessions (`fret g`) has returned, each of its per-session copies `c` whose send did not
fail counts as returned on the pair of `c`, and whatever is sent on that pair afterwards must find the
handler of `c` finished when its own handler starts.  Core Lean only (linked into the driver).
-/
namespace Order

/-- Why the handler of `i` must have finished before the handler of `j` starts. -/
inductive Why where
  | later            -- the call that sent `i` had returned before `j` was sent
  | body             -- `i` stands before `j` in the body (JSON-RPC batch) that carried both
  | fan (g : Nat)    -- `i` is a per-session copy of the fan-out `g`, whose notifying method had returned before `j` was sent
deriving DecidableEq, Repr

structure Cfg where
  kind : Nat → Kind
  /-- the (direction, receiving peer) pair a message travels on -/
  pair : Nat → Nat
  /-- the per-session copies of a fan-out -/
  copies : Nat → List Nat
  /-- the fan-out a message is a per-session copy of -/
  grp : Nat → Option Nat

structure FMon where
  returned : List (Nat × Why) := []
  failed : List Nat := []
  finished : List Nat := []
  sentAfter : List (Nat × Nat × Why) := []
  bad : Option (Nat × Nat × Why) := none
  /-- messages that have entered their receiver's handler queue -/
  enqd : List Nat := []
  /-- (i, j): `i` stands before `j` in one body (any kinds) -/
  bodies : List (Nat × Nat) := []
  /-- first (i, j) with `j` entering the handler queue before `i` although `i` stands before `j` in their body -/
  badEnq : Option (Nat × Nat) := none

/-- Is `k` a synchronous message on the pair of `j`, other than `j` itself? -/
def Cfg.obliges (cfg : Cfg) (j : Nat) (k : Nat) : Bool := (cfg.kind k).sync && cfg.pair k == cfg.pair j && k != j

def Why.isLater : Why → Bool
  | .later => true
  | _ => false

/-- The returned messages that oblige `j` when `j` is sent.  An obligation that stems from a notifying
method (`fan g`) is judged at the level of the API: for a directed message against the begin of its sending
call, for a per-session copy of a fan-out against the begin of ITS notifying method (`fcall`), not against
the send the method makes internally.  Obligations between sends (`later`) are judged send against send.  As a table: a directed
`j` (no group), at its send: every obligation; a copy `j` at its send (`atApi = false`): the `later` ones only; a copy at the
`fcall` of its method (`atApi = true`): the others. -/
def FMon.owed (cfg : Cfg) (m : FMon) (j : Nat) (atApi : Bool) : List (Nat × Nat × Why) :=
  (m.returned.filter fun r => cfg.obliges j r.1 && (r.2.isLater != atApi || (cfg.grp j).isNone)).map fun r => (r.1, j, r.2)

/-- C03 on a log: when the handler of `j` starts, the handler of every notification (or `initialize`) of
the same pair whose sending call — or the notifying method it is a copy of — had returned before `j` was
sent, or which stands before `j` in the body that carried both, has finished. -/
def FMon.step (cfg : Cfg) (m : FMon) : FEv → FMon
  | .msg (.snd j) => { m with sentAfter := m.sentAfter ++ m.owed cfg j false }
  | .msg (.bsnd ps j) =>
    { m with sentAfter := m.sentAfter ++ m.owed cfg j false
                            ++ ((ps.filter fun k => cfg.obliges j k).map fun k => (k, j, Why.body)),
             bodies := m.bodies ++ ps.map fun k => (k, j) }
  | .msg (.ret i) => { m with returned := (i, .later) :: m.returned }
  | .msg (.beg j) =>
    match m.bad with
    | some _ => m
    | none =>
      match m.sentAfter.find? fun p => p.2.1 == j && !m.finished.contains p.1 with
      | some p => { m with bad := some p }
      | none => m
  | .msg (.fin i) => { m with finished := i :: m.finished }
  | .enq j =>
    -- "dispatched to handlers in the order they were sent": a member of a body enters the queue after the members before it
    match m.badEnq with
    | some _ => { m with enqd := j :: m.enqd }
    | none =>
      match m.bodies.find? fun p => p.2 == j && !m.enqd.contains p.1 with
      | some p => { m with enqd := j :: m.enqd, badEnq := some p }
      | none => { m with enqd := j :: m.enqd }
  | .fcall g => { m with sentAfter := m.sentAfter ++ ((cfg.copies g).filter fun c => cfg.grp c == some g).flatMap fun c => m.owed cfg c true }
  | .ferr c => { m with failed := c :: m.failed }
  | .fret g =>
    { m with returned := (((cfg.copies g).filter fun c => cfg.grp c == some g && !m.failed.contains c).map fun c => (c, Why.fan g)) ++ m.returned }

def fmonitor (cfg : Cfg) (evs : List FEv) : FMon := evs.foldl (FMon.step cfg) {}

def fholdsOn (cfg : Cfg) (evs : List FEv) : Bool := (fmonitor cfg evs).bad.isNone && (fmonitor cfg evs).badEnq.isNone

/-! ### Per message -/

/-- What the case's records say about one message. -/
structure Rec where
  id : Nat
  /-- the sending call was seen to begin -/
  sent : Bool
  /-- the sending call returned without error -/
  acked : Bool
  /-- the peer's handler was seen to start / to end -/
  began : Bool
  ended : Bool
  /-- how often the peer's handler started -/
  runs : Nat
  /-- a notification from the client to a stateless streamable server (classifies F14) -/
  statelessNote : Bool := false

inductive Clause where
  | ranTwice (i n : Nat)
  | neverSent (i : Nat)
  | f14NotDispatched (i : Nat)
  | notHandled (i : Nat)
  | sameBody (i j : Nat)
  | bodyDispatch (i j : Nat)
  | laterSend (i j : Nat)
  | fanout (g i j : Nat)
deriving DecidableEq, Repr

/-- Per-record monitor: a message is handled at most once, only if it was sent, and — judged at
quiescence — to completion if its sending call returned without error. -/
def recClause (r : Rec) : Option Clause :=
  if r.runs > 1 then some (.ranTwice r.id r.runs)
  else if r.began ∧ ¬ r.sent then some (.neverSent r.id)
  else if r.acked ∧ (¬ r.began ∨ ¬ r.ended) then
    if r.statelessNote then some (.f14NotDispatched r.id) else some (.notHandled r.id)
  else none

def clauseOf : Nat × Nat × Why → Clause
  | (i, j, .later) => .laterSend i j
  | (i, j, .body) => .sameBody i j
  | (i, j, .fan g) => .fanout g i j

/-- The ordering clause on the case's event log: handler order first, then the order of entering the queue. -/
def orderClause (cfg : Cfg) (evs : List FEv) : Option Clause :=
  match (fmonitor cfg evs).bad with
  | some x => some (clauseOf x)
  | none => (fmonitor cfg evs).badEnq.map fun p => .bodyDispatch p.1 p.2

end Order
