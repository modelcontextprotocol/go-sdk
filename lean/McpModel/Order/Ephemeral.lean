import McpModel.Order.EphemeralBodyProps
/-!
Engine `order` — the temporary session of a sessionless streamable server, step by step (C03).

`Order.stepE` says in ONE label what a sessionless `StreamableHTTPHandler` (`Stateless`, or a stateful handler whose
`ServerOptions.GetSessionID` returns "") does for the POST that carries message `i`: "`ret i` requires the handler of
`i` to be done".  Here the code that makes this true is modelled statement by statement, and `stepE` is PROVED to be
what is visible of it (`fine_refines_stepE`).  Labels (one POST = one message = one temporary session; the statements
are those of `serveStateless` / `serveStatefulPOST` → `serveEphemeral` → `servePOST`, regenerated fact
`order.ephemeral_session`):

  `post i`    the client's `Write` issues the POST (the sender's API call began: `send i`).
  `hand i`    `connectStreamable` + `transport.ServeHTTP`: `servePOST` hands the message to the temporary session
              (`c.incoming <- msg`).  For a notification it then sets the status 202 on the ResponseWriter —
              nothing reaches the client before the HTTP handler returns — and `ServeHTTP` returns; for a call
              `ServeHTTP` itself stays in `servePOST` until the response has been written to the POST's stream.
  `start i`, `cb i`, `fin i`  the temporary session's reader/dispatcher start the user handler; it calls back; it ends.
  `drain i`   `serveEphemeral`: `close(transport.connection.incoming); session.Wait()` returns — `Wait` returns when the
              session's connection is done, i.e. after every handler it started has finished.  (For a POST with a
              call this label stands for `servePOST` seeing the call's response, which the handler's end produces.)
  `reply i`   the HTTP handler returns (`defer session.Close()`): only now the 202 / the response body's end
              reaches the client; the client's `Write` / `Call` returns: `ret i`.

Nothing is assumed about the schedule.
-/
namespace Order

inductive TPhase where
  | unsent | posted | handed | running | done | drained | replied
deriving DecidableEq, Repr

inductive TLabel where
  | post (i : Nat)
  | hand (i : Nat)
  | start (i : Nat)
  | cb (i : Nat)
  | fin (i : Nat)
  | drain (i : Nat)
  | reply (i : Nat)
deriving DecidableEq, Repr

structure TState where
  phase : Nat → TPhase

def tinit : TState := { phase := fun _ => .unsent }

def TState.set (s : TState) (i : Nat) (p : TPhase) : TState := { phase := fun k => if k = i then p else s.phase k }

def fineStep (s : TState) : TLabel → Option TState
  | .post i => if s.phase i = .unsent then some (s.set i .posted) else none
  | .hand i => if s.phase i = .posted then some (s.set i .handed) else none
  | .start i => if s.phase i = .handed then some (s.set i .running) else none
  | .cb i => if s.phase i = .running then some s else none
  | .fin i => if s.phase i = .running then some (s.set i .done) else none
  | .drain i => if s.phase i = .done then some (s.set i .drained) else none     -- `session.Wait()` returns only then
  | .reply i => if s.phase i = .drained then some (s.set i .replied) else none -- the HTTP handler returns after `Wait`

def fineRun : TState → List TLabel → Option TState
  | s, [] => some s
  | s, l :: ls =>
    match fineStep s l with
    | some s' => fineRun s' ls
    | none => none

/-- The label of `stepE` a fine label stands for (`hand`, `drain` are internal to the server). -/
def TLabel.coarse : TLabel → Option Label
  | .post i => some (.send i)
  | .start i => some (.start i)
  | .cb i => some (.cb i)
  | .fin i => some (.fin i)
  | .reply i => some (.ret i)
  | _ => none

def coarse (ls : List TLabel) : List Label := ls.filterMap TLabel.coarse

def TPhase.abs : TPhase → Phase
  | .unsent => .unsent
  | .posted => .sending
  | .handed => .sending
  | .running => .running
  | .done => .done
  | .drained => .done
  | .replied => .done

structure TAbs (f : TState) (s : State) : Prop where
  phase : ∀ i, s.phase i = (f.phase i).abs
  returned : ∀ i, i ∈ s.returned ↔ f.phase i = .replied

theorem tabs_init : TAbs tinit init := ⟨by intro i; rfl, by intro i; simp [init, tinit]⟩

theorem TState.set_phase (f : TState) (i k : Nat) (p : TPhase) :
    (f.set i p).phase k = if k = i then p else f.phase k := rfl

theorem fineStep_some {f f' : TState} {l : TLabel} (h : fineStep f l = some f') :
    match l with
    | .post i => f.phase i = .unsent ∧ f' = f.set i .posted
    | .hand i => f.phase i = .posted ∧ f' = f.set i .handed
    | .start i => f.phase i = .handed ∧ f' = f.set i .running
    | .cb i => f.phase i = .running ∧ f' = f
    | .fin i => f.phase i = .running ∧ f' = f.set i .done
    | .drain i => f.phase i = .done ∧ f' = f.set i .drained
    | .reply i => f.phase i = .drained ∧ f' = f.set i .replied := by
  cases l <;> simp only [fineStep] at h <;> split at h <;> simp only [Option.some.injEq, reduceCtorEq] at h
  all_goals rename_i hg; exact ⟨hg, h.symm⟩

theorem tabs_set {f : TState} {s : State} (ha : TAbs f s) {i : Nat} {a b : TPhase} (hp : f.phase i = a)
    (hna : a ≠ .replied) (hnb : b ≠ .replied) : TAbs (f.set i b) (s.setPhase i b.abs) := by
  refine ⟨fun k => ?_, fun k => ?_⟩
  · rw [setPhase_phase, TState.set_phase, ha.phase k]; split <;> rfl
  · rw [setPhase_returned, TState.set_phase, ha.returned k]
    split
    · rename_i e; subst e; rw [hp]; exact ⟨fun x => absurd x hna, fun x => absurd x hnb⟩
    · rfl

theorem tabs_set_same {f : TState} {s : State} (ha : TAbs f s) {i : Nat} {a b : TPhase} (hp : f.phase i = a)
    (hna : a ≠ .replied) (hnb : b ≠ .replied) (hab : a.abs = b.abs) : TAbs (f.set i b) s := by
  have e : s.setPhase i b.abs = s := by
    have : (fun k => if k = i then b.abs else s.phase k) = s.phase := by
      funext k; split
      · rename_i e; rw [e, ha.phase i, hp, hab]
      · rfl
    show { s with phase := _ } = s
    rw [this]
  exact e ▸ tabs_set ha hp hna hnb

theorem tabs_step {f f' : TState} {s : State} {l : TLabel} (ha : TAbs f s) (h : fineStep f l = some f') :
    match l.coarse with
    | some c => ∃ s', stepE s c = some s' ∧ TAbs f' s'
    | none => TAbs f' s := by
  -- the guard of the fine step, seen from outside
  have hs : ∀ {i a}, f.phase i = a → s.phase i = a.abs := fun hp => hp ▸ ha.phase _
  cases l <;> obtain ⟨hp, rfl⟩ := fineStep_some h
  case post i => exact ⟨_, if_pos (hs hp), tabs_set ha hp nofun nofun⟩
  case hand i => exact tabs_set_same ha hp nofun nofun rfl
  case start i => exact ⟨_, if_pos (hs hp), tabs_set ha hp nofun nofun⟩
  case cb i => exact ⟨s, if_pos (hs hp), ha⟩
  case fin i => exact ⟨_, if_pos (hs hp), tabs_set ha hp nofun nofun⟩
  case drain i => exact tabs_set_same ha hp nofun nofun rfl
  case reply i =>
    have hn : i ∉ s.returned := fun hk => by have := (ha.returned i).1 hk; rw [hp] at this; cases this
    refine ⟨{ s with returned := i :: s.returned }, (if_neg hn).trans (if_pos (hs hp)), fun k => ?_, fun k => ?_⟩
    · rw [TState.set_phase]; split
      · rename_i e; rw [e]; exact hs (a := .drained) hp
      · exact ha.phase k
    · rw [TState.set_phase]
      show k ∈ i :: s.returned ↔ _
      rw [List.mem_cons, ha.returned k]; split
      · rename_i e; exact ⟨fun _ => rfl, fun _ => .inl e⟩
      · rename_i e; exact ⟨fun q => q.resolve_left e, .inr⟩

theorem fineRun_eq (f : TState) (ls : List TLabel) : fineRun f ls = Run fineStep f ls := by
  induction ls generalizing f with
  | nil => rfl
  | cons l ls ih => simp only [fineRun, Run]; cases fineStep f l <;> simp [ih]

/-- REFINEMENT: for ALL label lists, a run of the statement-level model of the temporary session shows, through
`coarse`, a run of `stepE` — "the POST is answered only after the session has handled what it carried" is a
consequence of `session.Wait()` standing between `ServeHTTP` and the return of the HTTP handler. -/
theorem fine_refines_stepE {f f' : TState} {s : State} {ls : List TLabel} (ha : TAbs f s) (h : fineRun f ls = some f') :
    ∃ s', runE s (coarse ls) = some s' ∧ TAbs f' s' := by
  simp only [runE_eq]
  refine Run.refines (σ := fineStep) (τ := stepE) (R := TAbs) (tr := fun l => l.coarse.toList) (P := coarse) rfl
    (fun l ls => by simp only [coarse, List.filterMap_cons]; cases l.coarse <;> rfl)
    (fun {f f1 s l} ha h1 => ?_) ha (fineRun_eq .. ▸ h)
  have hstep := tabs_step ha h1
  cases hc : l.coarse with
  | none => rw [hc] at hstep; exact ⟨s, rfl, hstep⟩
  | some c =>
    rw [hc] at hstep
    obtain ⟨s1, hs1, ha1⟩ := hstep
    exact ⟨s1, by simp only [Option.toList, Run, hs1]; rfl, ha1⟩

/-- Hence the ordering clause of C03 holds on what an observer sees of EVERY run of the statement-level model,
whatever the kinds of the messages and however long the handlers run. -/
theorem fine_runs_satisfy_monitor (kind : Nat → Kind) {ls : List TLabel} {f : TState}
    (h : fineRun tinit ls = some f) : holdsOn kind (visible (coarse ls)) = true := by
  obtain ⟨s', hr, _⟩ := fine_refines_stepE tabs_init h
  exact ephemeral_runs_satisfy_monitor kind hr

theorem fineStep_done_only_fin {f f' : TState} {l : TLabel} (h : fineStep f l = some f') {k : Nat}
    (hk : f'.phase k = .done ∨ f'.phase k = .drained ∨ f'.phase k = .replied) :
    (f.phase k = .done ∨ f.phase k = .drained ∨ f.phase k = .replied) ∨ l = .fin k := by
  cases l <;> obtain ⟨hp, rfl⟩ := fineStep_some h
  case cb i => exact .inl hk
  all_goals
    rename_i i
    by_cases e : k = i
    · subst e
      first
        | exact .inr rfl
        | exact .inl (.inl hp)
        | exact .inl (.inr (.inl hp))
        | (simp only [TState.set_phase, if_true, reduceCtorEq, or_self] at hk)
    · simp only [TState.set_phase, if_neg e] at hk
      exact .inl hk

/-- For ALL runs: when the client's `Write` for `i` returns (`reply i`), the handler of `i` has finished. -/
theorem reply_after_fin {ls : List TLabel} {f f' : TState} {i : Nat}
    (h : fineRun tinit ls = some f) (hr : fineStep f (.reply i) = some f') : TLabel.fin i ∈ ls := by
  have := Run.label_of_step (σ := fineStep) (I := fun _ => True)
    (P := fun g => g.phase i = .done ∨ g.phase i = .drained ∨ g.phase i = .replied) (fun _ _ => trivial)
    (fun _ h1 q => fineStep_done_only_fin h1 q) trivial (fineRun_eq .. ▸ h) (.inr (.inl (fineStep_some hr).1))
  exact this.resolve_left (by rintro (q | q | q) <;> cases q)

/-- Non-vacuity: a slow notification 0, then call 1 — the call is posted only after the notification's POST was
answered, which is after its handler finished. -/
example : (fineRun tinit [.post 0, .hand 0, .start 0, .cb 0, .fin 0, .drain 0, .reply 0,
                          .post 1, .hand 1, .start 1, .fin 1, .drain 1, .reply 1]).isSome = true := by decide

/-- Seeded change C03-m15 (`serveEphemeral` stops waiting after 10 s and lets the HTTP handler return): `reply 0`
while the handler of 0 is still running is not a step of the model, and what the client then observes is rejected
by the pair monitor `Mon`. -/
theorem bounded_drain_breaks_order :
    (fineRun tinit [.post 0, .hand 0, .start 0, .reply 0]).isNone = true
    ∧ holdsOn (fun k => if k = 0 then .note else .call)
        [.snd 0, .beg 0, .ret 0, .snd 1, .beg 1, .fin 1, .ret 1, .fin 0] = false := by
  constructor <;> decide

end Order
