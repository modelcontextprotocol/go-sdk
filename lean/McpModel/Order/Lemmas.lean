import McpModel.Order.Model
import McpModel.Base.Run
/-
The pair model read once (`step_some`); a step leaves a message where it is in the pipeline or moves it along one edge
of `Moves` (`step_still_or_moves`), from which Props.lean reads off which label a phase is owed to; the inductive
invariant `Inv` is preserved message by message (`row_step`) and pair by pair (`ord_step`).
The notions to learn first: `Ahead q i j` (`i` before `j` in the queue), `Moves l i p q` (the edges of the pipeline, one label
each), `Row` (the clauses of `Inv` about ONE message), `Ord s a b` (the clause of `Inv.pred` about a PAIR: `a` is done or `b`
cannot overtake it).
-/
namespace Order

def Ahead (q : List Nat) (i j : Nat) : Prop := ∃ a b, q = a ++ j :: b ∧ i ∈ a

theorem Ahead.mem {q : List Nat} {a b : Nat} (r : Ahead q a b) : a ∈ q := by
  obtain ⟨x, y, e, hx⟩ := r
  rw [e]; exact List.mem_append_left _ hx

theorem ahead_snoc {q : List Nat} {i j : Nat} (x : Nat) (h : Ahead q i j) : Ahead (q ++ [x]) i j := by
  obtain ⟨a, b, hq, hi⟩ := h
  exact ⟨a, b ++ [x], by simp [hq], hi⟩

theorem ahead_of_mem {q : List Nat} {i : Nat} (j : Nat) (h : i ∈ q) : Ahead (q ++ [j]) i j :=
  ⟨q, [], by simp, h⟩

theorem ahead_cons {q : List Nat} {hd i j : Nat} (h : Ahead (hd :: q) i j) (hn : hd ∉ q) :
    j ≠ hd ∧ (i = hd ∨ Ahead q i j) := by
  obtain ⟨a, b, hq, hi⟩ := h
  cases a with
  | nil => simp at hi
  | cons x xs =>
    simp at hq
    obtain ⟨e1, e2⟩ := hq
    subst e1
    constructor
    · intro e; subst e; apply hn; rw [e2]; simp
    · simp at hi
      rcases hi with rfl | hi
      · left; rfl
      · right; exact ⟨xs, b, e2, hi⟩

/-- The invariant. `qmem`/`qnodup`: the queue holds exactly the queued messages, once each.
`busy`: the dispatcher waits for exactly the message that is dispatched-but-not-released or whose
synchronous handler is running.  `ready`: only asynchronous calls are released early.  `ret`: a
synchronous message whose sending call has returned is in the receiver's queue, holds the dispatcher,
or is done.  `pred`: if `ret i` came before `send j`, or `i` stands before `j` in one body (i synchronous),
then `i` is done, or `j` is not yet dispatched and `i` holds the dispatcher or stands before `j` in the
queue. -/
structure Inv (kind : Nat → Kind) (s : State) : Prop where
  qmem : ∀ i, i ∈ s.queue ↔ s.phase i = .queued
  qnodup : s.queue.Nodup
  busy : ∀ i, s.busy = some i ↔ (s.phase i = .dispatched ∨ (s.phase i = .running ∧ (kind i).sync = true))
  ready : ∀ i, s.phase i = .ready → (kind i).sync = false
  ret : ∀ i, i ∈ s.returned → (kind i).sync = true →
    s.phase i = .queued ∨ s.busy = some i ∨ s.phase i = .done
  pred : ∀ i j, (i, j) ∈ s.pred → (kind i).sync = true ∧
    (i ∈ s.returned ∨ ((i, j) ∈ s.after ∧ s.phase i ≠ .unsent)) ∧
    (s.phase i = .done ∨ s.phase j = .sending ∨
      (s.phase j = .queued ∧ (s.busy = some i ∨ Ahead s.queue i j)))

theorem inv_init (kind : Nat → Kind) : Inv kind init := by
  constructor <;> simp [init]

@[simp] theorem setPhase_phase (s : State) (i : Nat) (p : Phase) (k : Nat) :
    (s.setPhase i p).phase k = if k = i then p else s.phase k := rfl
@[simp] theorem setPhase_queue (s : State) (i : Nat) (p : Phase) : (s.setPhase i p).queue = s.queue := rfl
@[simp] theorem setPhase_busy (s : State) (i : Nat) (p : Phase) : (s.setPhase i p).busy = s.busy := rfl
@[simp] theorem setPhase_returned (s : State) (i : Nat) (p : Phase) : (s.setPhase i p).returned = s.returned := rfl
@[simp] theorem setPhase_pred (s : State) (i : Nat) (p : Phase) : (s.setPhase i p).pred = s.pred := rfl
@[simp] theorem setPhase_after (s : State) (i : Nat) (p : Phase) : (s.setPhase i p).after = s.after := rfl

theorem step_some {kind : Nat → Kind} {s s' : State} {l : Label} (h : step kind s l = some s') :
    match l with
    | .send i => s.phase i = .unsent ∧
        s' = { (s.setPhase i .sending) with
          pred := s.pred ++ (s.returned.filter fun k => (kind k).sync).map fun k => (k, i) }
    | .bsend ps i => (s.phase i = .unsent ∧ ∀ p ∈ ps, s.phase p ≠ .unsent) ∧
        s' = { (s.setPhase i .sending) with
          pred := s.pred ++ ((s.returned.filter fun k => (kind k).sync).map fun k => (k, i))
                    ++ ((ps.filter fun k => (kind k).sync).map fun k => (k, i)),
          after := s.after ++ ps.map fun p => (p, i) }
    | .write i => (s.phase i = .sending ∧
          ∀ p ∈ s.after, p.2 = i → (s.phase p.1 ≠ .unsent ∧ s.phase p.1 ≠ .sending)) ∧
        s' = { (s.setPhase i .queued) with queue := s.queue ++ [i] }
    | .ret i => (i ∉ s.returned ∧ ((kind i = .note ∧ s.phase i ≠ .unsent ∧ s.phase i ≠ .sending) ∨
          (kind i ≠ .note ∧ s.phase i = .done))) ∧
        s' = { s with returned := i :: s.returned }
    | .disp i => (s.busy = none ∧ s.queue = i :: s.queue.tail) ∧
        s' = { (s.setPhase i .dispatched) with queue := s.queue.tail, busy := some i }
    | .rel i => (s.busy = some i ∧ kind i = .call ∧ s.phase i = .dispatched) ∧
        s' = { (s.setPhase i .ready) with busy := none }
    | .start i => ((s.phase i = .dispatched ∧ (kind i).sync = true) ∨ s.phase i = .ready) ∧
        s' = s.setPhase i .running
    | .cb i => s.phase i = .running ∧ s' = s
    | .fin i => s.phase i = .running ∧
        s' = { (s.setPhase i .done) with busy := if s.busy = some i then none else s.busy } := by
  cases l <;> simp only [step] at h
  case disp i =>
    split at h
    · rename_i hd q hb hq
      split at h
      · rename_i e; subst e; exact ⟨⟨hb, by rw [hq]; rfl⟩, by rw [hq]; exact (Option.some.inj h).symm⟩
      · cases h
    · cases h
  case ret i =>
    split at h
    · cases h
    · rename_i hn
      split at h
      · rename_i hg; exact ⟨⟨hn, hg⟩, (Option.some.inj h).symm⟩
      · cases h
  all_goals
    split at h
    · rename_i hg; exact ⟨hg, (Option.some.inj h).symm⟩
    · cases h

theorem stepE_some {s s' : State} {l : Label} (h : stepE s l = some s') :
    match l with
    | .send i => s.phase i = .unsent ∧ s' = s.setPhase i .sending
    | .start i => s.phase i = .sending ∧ s' = s.setPhase i .running
    | .cb i => s.phase i = .running ∧ s' = s
    | .fin i => s.phase i = .running ∧ s' = s.setPhase i .done
    | .ret i => (i ∉ s.returned ∧ s.phase i = .done) ∧ s' = { s with returned := i :: s.returned }
    | _ => False := by
  cases l <;> simp only [stepE] at h
  case ret i =>
    split at h
    · cases h
    · rename_i hn
      split at h
      · rename_i hg; exact ⟨⟨hn, hg⟩, (Option.some.inj h).symm⟩
      · cases h
  case send i | start i | cb i | fin i =>
    split at h
    · rename_i hg; exact ⟨hg, (Option.some.inj h).symm⟩
    · cases h
  all_goals cases h

/-- A synchronous message that has been written is in the queue, holds the dispatcher, or is done. -/
theorem Inv.beyond {kind : Nat → Kind} {s : State} (h : Inv kind s) {i : Nat} (hsync : (kind i).sync = true)
    (h1 : s.phase i ≠ .unsent) (h2 : s.phase i ≠ .sending) :
    s.phase i = .queued ∨ s.busy = some i ∨ s.phase i = .done := by
  cases hp : s.phase i with
  | unsent => exact absurd hp h1
  | sending => exact absurd hp h2
  | queued => left; rfl
  | dispatched => right; left; exact (h.busy i).2 (Or.inl hp)
  | ready => have := h.ready i hp; simp [hsync] at this
  | running => right; left; exact (h.busy i).2 (Or.inr ⟨hp, hsync⟩)
  | done => right; right; rfl

theorem Inv.idle {kind : Nat → Kind} {s : State} (h : Inv kind s) {i : Nat} {a : Phase} (hp : s.phase i = a)
    (h1 : a ≠ .queued) (h2 : a ≠ .dispatched) (h3 : a ≠ .running) : i ∉ s.queue ∧ s.busy ≠ some i :=
  ⟨fun hq => h1 (hp.symm.trans ((h.qmem i).1 hq)),
   fun hb => ((h.busy i).1 hb).elim (fun q => h2 (hp.symm.trans q)) (fun q => h3 (hp.symm.trans q.1))⟩

inductive Moves : Label → Nat → Phase → Phase → Prop
  | send (i : Nat) : Moves (.send i) i .unsent .sending
  | bsend (ps : List Nat) (i : Nat) : Moves (.bsend ps i) i .unsent .sending
  | write (i : Nat) : Moves (.write i) i .sending .queued
  | disp (i : Nat) : Moves (.disp i) i .queued .dispatched
  | rel (i : Nat) : Moves (.rel i) i .dispatched .ready
  | startSync (i : Nat) : Moves (.start i) i .dispatched .running
  | startAsync (i : Nat) : Moves (.start i) i .ready .running
  | fin (i : Nat) : Moves (.fin i) i .running .done

structure Still (k : Nat) (s s' : State) : Prop where
  phase : s'.phase k = s.phase k
  queue : k ∈ s'.queue ↔ k ∈ s.queue
  busy : s'.busy = some k ↔ s.busy = some k

/-- A step that takes `i` along the edge `m` and reads and writes nothing of the other messages. -/
theorem still_or_moves {l : Label} {i : Nat} {p q : Phase} {s s' : State} (hp : s.phase i = p) (m : Moves l i p q)
    (hph : s'.phase = fun k => if k = i then q else s.phase k) (hq : ∀ k, k ≠ i → (k ∈ s'.queue ↔ k ∈ s.queue))
    (hb : ∀ k, k ≠ i → (s'.busy = some k ↔ s.busy = some k)) (k : Nat) :
    Still k s s' ∨ Moves l k (s.phase k) (s'.phase k) := by
  by_cases e : k = i
  · subst e
    have : s'.phase k = q := by rw [hph]; exact if_pos rfl
    rw [this, hp]; exact .inr m
  · exact .inl ⟨by rw [hph]; exact if_neg e, hq k e, hb k e⟩

/-- Phases only advance, and each edge belongs to one kind of label.  (The invariant is needed for `disp`, whose guard
reads the queue, not the phase.) -/
theorem step_still_or_moves {kind : Nat → Kind} {s s' : State} {l : Label} (h : Inv kind s)
    (hs : step kind s l = some s') (k : Nat) : Still k s s' ∨ Moves l k (s.phase k) (s'.phase k) := by
  cases l <;> obtain ⟨hg, rfl⟩ := step_some hs
  case ret i => exact .inl ⟨rfl, Iff.rfl, Iff.rfl⟩
  case cb i => exact .inl ⟨rfl, Iff.rfl, Iff.rfl⟩
  case send i => refine still_or_moves hg (.send i) rfl ?_ ?_ k <;> exact fun _ _ => Iff.rfl
  case bsend ps i => refine still_or_moves hg.1 (.bsend ps i) rfl ?_ ?_ k <;> exact fun _ _ => Iff.rfl
  case write i =>
    refine still_or_moves hg.1 (.write i) rfl (fun k e => ?_) ?_ k
    · show k ∈ s.queue ++ [i] ↔ _
      rw [List.mem_append, List.mem_singleton]; exact ⟨fun q => q.resolve_right e, .inl⟩
    · exact fun _ _ => Iff.rfl
  case disp i =>
    refine still_or_moves ((h.qmem i).1 (by rw [hg.2]; exact List.mem_cons_self ..)) (.disp i) rfl (fun k e => ?_)
      (fun k e => ?_) k
    · show k ∈ s.queue.tail ↔ _
      rw [hg.2, List.tail_cons, List.mem_cons]; exact ⟨.inr, fun q => q.resolve_left e⟩
    · exact ⟨fun q => absurd (Option.some.inj q).symm e, fun q => by rw [hg.1] at q; cases q⟩
  case rel i =>
    refine still_or_moves hg.2.2 (.rel i) rfl ?_ (fun k e => ?_) k
    · exact fun _ _ => Iff.rfl
    · exact ⟨nofun, fun q => by rw [hg.1] at q; exact absurd (Option.some.inj q).symm e⟩
  case start i =>
    rcases hg with ⟨hg, _⟩ | hg
    · refine still_or_moves hg (.startSync i) rfl ?_ ?_ k <;> exact fun _ _ => Iff.rfl
    · refine still_or_moves hg (.startAsync i) rfl ?_ ?_ k <;> exact fun _ _ => Iff.rfl
  case fin i =>
    refine still_or_moves hg (.fin i) rfl ?_ (fun k e => ?_) k
    · exact fun _ _ => Iff.rfl
    · show (if s.busy = some i then none else s.busy) = some k ↔ s.busy = some k
      split
      · rename_i hb; exact ⟨nofun, fun q => by rw [hb] at q; exact absurd (Option.some.inj q).symm e⟩
      · exact Iff.rfl

theorem step_moves {kind : Nat → Kind} {s s' : State} {l : Label} (hinv : Inv kind s)
    (h : step kind s l = some s') (k : Nat) : s'.phase k = s.phase k ∨ Moves l k (s.phase k) (s'.phase k) :=
  (step_still_or_moves hinv h k).imp_left Still.phase

theorem step_not_unsent {kind : Nat → Kind} {s s' : State} {l : Label} (hinv : Inv kind s)
    (h : step kind s l = some s') {j : Nat} (hj : s.phase j ≠ .unsent) : s'.phase j ≠ .unsent := by
  rcases step_moves hinv h j with e | m
  · exact e ▸ hj
  · intro hq; rw [hq] at m; generalize s.phase j = p at m; cases m

theorem step_queue_cases {kind : Nat → Kind} {s s' : State} {l : Label} (hs : step kind s l = some s') :
    s'.queue = s.queue ∨ (∃ i, l = .write i ∧ s.phase i = .sending ∧ s'.queue = s.queue ++ [i]) ∨
      (∃ i, l = .disp i ∧ s.busy = none ∧ s.queue = i :: s'.queue) := by
  cases l <;> obtain ⟨hg, rfl⟩ := step_some hs
  case write i => exact .inr (.inl ⟨i, rfl, hg.1, rfl⟩)
  case disp i => exact .inr (.inr ⟨i, rfl, hg⟩)
  all_goals exact .inl rfl

theorem step_nodup {kind : Nat → Kind} {s s' : State} {l : Label} (h : Inv kind s) (hs : step kind s l = some s') :
    s'.queue.Nodup := by
  rcases step_queue_cases hs with e | ⟨i, _, hp, e⟩ | ⟨i, _, _, e⟩
  · exact e ▸ h.qnodup
  · rw [e]
    exact List.nodup_append.2 ⟨h.qnodup, by simp, fun a ha b hb => by
      rw [List.mem_singleton.1 hb]; exact fun e => (h.idle hp nofun nofun nofun).1 (e ▸ ha)⟩
  · have := h.qnodup; rw [e] at this; exact (List.nodup_cons.1 this).2

theorem step_ahead {kind : Nat → Kind} {s s' : State} {l : Label} (h : Inv kind s) (hs : step kind s l = some s')
    {a b : Nat} (r : Ahead s.queue a b) (ha : a ∈ s'.queue) : Ahead s'.queue a b := by
  rcases step_queue_cases hs with e | ⟨i, _, _, e⟩ | ⟨i, _, _, e⟩
  · exact e ▸ r
  · exact e ▸ ahead_snoc i r
  · have hnd := h.qnodup
    rw [e] at r hnd
    exact ((ahead_cons r (List.nodup_cons.1 hnd).1).2).resolve_left fun e2 => (List.nodup_cons.1 hnd).1 (e2 ▸ ha)

theorem step_ghost {kind : Nat → Kind} {s s' : State} {l : Label} (h : step kind s l = some s') :
    (s'.returned = s.returned ∨ ∃ i, l = .ret i ∧ s'.returned = i :: s.returned) ∧
    (∃ ys, s'.pred = s.pred ++ ys) ∧ ∃ zs, s'.after = s.after ++ zs := by
  cases l <;> obtain ⟨_, rfl⟩ := step_some h
  case ret i => exact ⟨.inr ⟨_, rfl, rfl⟩, ⟨[], (List.append_nil _).symm⟩, ⟨[], (List.append_nil _).symm⟩⟩
  case send i => exact ⟨.inl rfl, ⟨_, rfl⟩, ⟨[], (List.append_nil _).symm⟩⟩
  case bsend ps i => exact ⟨.inl rfl, ⟨_, List.append_assoc ..⟩, ⟨_, rfl⟩⟩
  all_goals exact ⟨.inl rfl, ⟨[], (List.append_nil _).symm⟩, ⟨[], (List.append_nil _).symm⟩⟩

section
variable {kind : Nat → Kind} {s s' : State} {l : Label}

theorem step_returned_mono (h : step kind s l = some s')
    {i : Nat} (hi : i ∈ s.returned) : i ∈ s'.returned := by
  rcases (step_ghost h).1 with e | ⟨k, _, e⟩ <;> rw [e]
  · exact hi
  · exact List.mem_cons_of_mem _ hi

theorem step_returned_only (h : step kind s l = some s')
    {i : Nat} (hi : i ∈ s'.returned) : i ∈ s.returned ∨ l = .ret i := by
  rcases (step_ghost h).1 with e | ⟨k, rfl, e⟩ <;> rw [e] at hi
  · exact .inl hi
  · exact (List.mem_cons.1 hi).symm.imp id fun (e : i = k) => e ▸ rfl

theorem step_pred_mono (h : step kind s l = some s')
    {p : Nat × Nat} (hp : p ∈ s.pred) : p ∈ s'.pred := by
  obtain ⟨ys, e⟩ := (step_ghost h).2.1
  exact e ▸ List.mem_append_left _ hp

theorem step_after_mono (h : step kind s l = some s')
    {p : Nat × Nat} (hp : p ∈ s.after) : p ∈ s'.after := by
  obtain ⟨zs, e⟩ := (step_ghost h).2.2
  exact e ▸ List.mem_append_left _ hp

end

structure Row (kind : Nat → Kind) (s : State) (k : Nat) : Prop where
  qmem : k ∈ s.queue ↔ s.phase k = .queued
  busy : s.busy = some k ↔ (s.phase k = .dispatched ∨ (s.phase k = .running ∧ (kind k).sync = true))
  ready : s.phase k = .ready → (kind k).sync = false
  ret : k ∈ s.returned → (kind k).sync = true → s.phase k = .queued ∨ s.busy = some k ∨ s.phase k = .done

theorem Inv.row {kind : Nat → Kind} {s : State} (h : Inv kind s) (k : Nat) : Row kind s k :=
  ⟨h.qmem k, h.busy k, h.ready k, h.ret k⟩

theorem Row.of_phase {kind : Nat → Kind} {s : State} {k : Nat} {q : Phase} (hq : s.phase k = q)
    (hQ : k ∈ s.queue ↔ q = .queued)
    (hB : s.busy = some k ↔ (q = .dispatched ∨ (q = .running ∧ (kind k).sync = true)))
    (hR : q = .ready → (kind k).sync = false)
    (hT : k ∈ s.returned → (kind k).sync = true → q = .queued ∨ s.busy = some k ∨ q = .done) : Row kind s k := by
  subst hq; exact ⟨hQ, hB, hR, hT⟩

/-- The one-message clauses after a step: a message the step leaves still keeps them (a `ret` of it is backed by the guard);
a message that moves is checked at the edge it moves along. -/
theorem row_step {kind : Nat → Kind} {s s' : State} {l : Label} (h : Inv kind s) (hs : step kind s l = some s')
    (k : Nat) : Row kind s' k := by
  rcases step_still_or_moves h hs k with st | m
  · refine ⟨st.queue.trans (st.phase ▸ h.qmem k), st.busy.trans (st.phase ▸ h.busy k), fun e => h.ready k (st.phase ▸ e),
      fun hk hsync => ?_⟩
    rw [st.phase]
    rcases step_returned_only hs hk with hk | rfl
    · exact (h.ret k hk hsync).imp id (Or.imp st.busy.2 id)
    · obtain ⟨⟨_, hok⟩, rfl⟩ := step_some hs
      rcases hok with ⟨_, h1, h2⟩ | ⟨_, h2⟩
      · exact h.beyond hsync h1 h2
      · exact .inr (.inr h2)
  · -- no `ret` moves a message: what has returned had returned before
    have hret : k ∈ s'.returned → k ∈ s.returned := fun hk =>
      (step_returned_only hs hk).resolve_right (by rintro rfl; generalize s.phase k = p, s'.phase k = q at m; cases m)
    generalize hp : s.phase k = p at m
    generalize hq : s'.phase k = q at m
    have old := h.row k
    have hnq : p ≠ .queued → k ∉ s.queue := fun e x => e (hp.symm.trans (old.qmem.1 x))
    cases m <;> obtain ⟨hg, rfl⟩ := step_some hs
    case send | bsend =>
      obtain ⟨_, hnb⟩ := h.idle hp nofun nofun nofun
      refine .of_phase hq ⟨fun x => absurd x (hnq nofun), nofun⟩ ⟨fun x => absurd x hnb, nofun⟩ nofun fun hk hsync => ?_
      rcases old.ret (hret hk) hsync with x | x | x
      · rw [hp] at x; cases x
      · exact absurd x hnb
      · rw [hp] at x; cases x
    case write =>
      obtain ⟨_, hnb⟩ := h.idle hp nofun nofun nofun
      exact .of_phase hq ⟨fun _ => rfl, fun _ => List.mem_append_right _ (List.mem_singleton_self k)⟩
        ⟨fun x => absurd x hnb, nofun⟩ nofun fun _ _ => .inl rfl
    case disp =>
      have hnd : k ∉ s.queue.tail := by
        have := h.qnodup; rw [hg.2] at this; exact (List.nodup_cons.1 this).1
      exact .of_phase hq ⟨fun x => absurd x hnd, nofun⟩ ⟨fun _ => .inl rfl, fun _ => rfl⟩ nofun fun _ _ => .inr (.inl rfl)
    case rel =>
      have hasync : (kind k).sync = false := by simp [hg.2.1, Kind.sync]
      exact .of_phase hq ⟨fun x => absurd x (hnq nofun), nofun⟩ ⟨nofun, nofun⟩ (fun _ => hasync)
        fun _ hsync => by rw [hasync] at hsync; cases hsync
    case startSync =>
      have hsync : (kind k).sync = true := hg.elim And.right fun e => by rw [hp] at e; cases e
      have hb : s.busy = some k := old.busy.2 (.inl hp)
      exact .of_phase hq ⟨fun x => absurd x (hnq nofun), nofun⟩ ⟨fun _ => .inr ⟨rfl, hsync⟩, fun _ => hb⟩ nofun
        fun _ _ => .inr (.inl hb)
    case startAsync =>
      have hasync : (kind k).sync = false := old.ready hp
      have hnb : s.busy ≠ some k := fun x => by rcases old.busy.1 x with e | ⟨e, _⟩ <;> rw [hp] at e <;> cases e
      exact .of_phase hq ⟨fun x => absurd x (hnq nofun), nofun⟩
        ⟨fun x => absurd x hnb, fun e => e.elim nofun fun e => by rw [hasync] at e; cases e.2⟩ nofun
        fun _ hsync => by rw [hasync] at hsync; cases hsync
    case fin =>
      refine .of_phase hq ⟨fun x => absurd x (hnq nofun), nofun⟩ ⟨fun x => ?_, nofun⟩ nofun fun _ _ => .inr (.inr rfl)
      have x : (if s.busy = some k then none else s.busy) = some k := x
      split at x
      · cases x
      · contradiction

/-- The third conjunct of `Inv.pred`: `a` is done, or `b` cannot overtake it. -/
def Ord (s : State) (a b : Nat) : Prop :=
  s.phase a = .done ∨ s.phase b = .sending ∨ (s.phase b = .queued ∧ (s.busy = some a ∨ Ahead s.queue a b))

theorem step_still_or_moves_from {kind : Nat → Kind} {s s' : State} {l : Label} (h : Inv kind s) (hs : step kind s l = some s')
    {k : Nat} {p : Phase} (hp : s.phase k = p) : Still k s s' ∨ Moves l k p (s'.phase k) :=
  hp ▸ step_still_or_moves h hs k

/-- A pair of `pred` keeps its order.  `b` moves from `sending` by `write b` — `a` has been written before, since its
sending call returned or the body's order was kept — and from `queued` by `disp b`, which takes the head of the queue with
the dispatcher free, so nothing was ahead of it; `a` moves from the queue to the dispatcher, on to its handler, and to
`done`. -/
theorem ord_step {kind : Nat → Kind} {s s' : State} {l : Label} (h : Inv kind s) (hs : step kind s l = some s')
    {a b : Nat} (hab : (a, b) ∈ s.pred) : Ord s' a b := by
  obtain ⟨hsync, hsent, hord⟩ := h.pred a b hab
  rcases hord with q | q | ⟨q, r⟩
  · -- done is final
    rcases step_still_or_moves_from h hs q with st | m
    · exact .inl (st.phase.trans q)
    · generalize s'.phase a = p at m; cases m
  · rcases step_still_or_moves_from h hs q with st | m
    · exact .inr (.inl (st.phase.trans q))
    · generalize hp : s'.phase b = p at m
      cases m
      obtain ⟨⟨hu, hbody⟩, rfl⟩ := step_some hs
      have hbey : s.phase a = .queued ∨ s.busy = some a ∨ s.phase a = .done := by
        rcases hsent with h2 | ⟨h2, _⟩
        · exact h.ret a h2 hsync
        · have := hbody (a, b) h2 rfl
          exact h.beyond hsync this.1 this.2
      rcases hbey with e | e | e
      · exact .inr (.inr ⟨hp, .inr (ahead_of_mem b ((h.qmem a).2 e))⟩)
      · exact .inr (.inr ⟨hp, .inl e⟩)
      · exact .inl ((if_neg fun x => by rw [x, hu] at e; cases e).trans e)
  · rcases step_still_or_moves_from h hs q with stb | m
    · -- `b` waits in the queue; `a` holds the dispatcher or is ahead of it
      have hb' : s'.phase b = .queued := stb.phase.trans q
      rcases step_still_or_moves h hs a with sta | m
      · exact .inr (.inr ⟨hb', r.imp sta.busy.2 fun r => step_ahead h hs r (sta.queue.2 r.mem)⟩)
      · rcases r with r | r
        · rcases (h.busy a).1 r with e | ⟨e, _⟩
          · -- dispatched: only the start of its handler can follow (`rel` is for calls)
            rw [e] at m
            generalize hp : s'.phase a = p at m
            cases m
            · obtain ⟨⟨_, hk, _⟩, _⟩ := step_some hs
              rw [hk] at hsync; cases hsync
            · obtain ⟨_, rfl⟩ := step_some hs
              exact .inr (.inr ⟨hb', .inl r⟩)
          · rw [e] at m
            generalize hp : s'.phase a = p at m
            cases m
            exact .inl hp
        · -- queued ahead of `b`: dispatched now
          rw [(h.qmem a).1 r.mem] at m
          generalize hp : s'.phase a = p at m
          cases m
          obtain ⟨_, rfl⟩ := step_some hs
          exact .inr (.inr ⟨hb', .inl rfl⟩)
    · generalize hp : s'.phase b = p at m
      cases m
      -- `disp b` takes the head of the queue with the dispatcher free: nothing was ahead of `b`
      obtain ⟨⟨hbusy, hqueue⟩, rfl⟩ := step_some hs
      rcases r with r | r
      · rw [hbusy] at r; cases r
      · rw [hqueue] at r
        have hnd : b ∉ s.queue.tail := by
          have := h.qnodup; rw [hqueue] at this; exact (List.nodup_cons.1 this).1
        exact absurd rfl (ahead_cons r hnd).1

theorem step_pred_cases {kind : Nat → Kind} {s s' : State} {l : Label} (hs : step kind s l = some s') {a b : Nat}
    (hab : (a, b) ∈ s'.pred) : (a, b) ∈ s.pred ∨
      ((kind a).sync = true ∧ s'.phase b = .sending ∧
        (a ∈ s.returned ∨ ((a, b) ∈ s'.after ∧ s.phase a ≠ .unsent))) := by
  cases l <;> obtain ⟨hg, rfl⟩ := step_some hs
  case send i =>
    rcases List.mem_append.1 hab with q | q
    · exact .inl q
    · obtain ⟨k, hk, e⟩ := List.mem_map.1 q
      cases e
      exact .inr ⟨(List.mem_filter.1 hk).2, if_pos rfl, .inl (List.mem_filter.1 hk).1⟩
  case bsend ps i =>
    rcases List.mem_append.1 hab with q | q
    · rcases List.mem_append.1 q with q | q
      · exact .inl q
      · obtain ⟨k, hk, e⟩ := List.mem_map.1 q
        cases e
        exact .inr ⟨(List.mem_filter.1 hk).2, if_pos rfl, .inl (List.mem_filter.1 hk).1⟩
    · obtain ⟨k, hk, e⟩ := List.mem_map.1 q
      cases e
      obtain ⟨hk, hsync⟩ := List.mem_filter.1 hk
      exact .inr ⟨hsync, if_pos rfl, .inr ⟨List.mem_append_right _ (List.mem_map.2 ⟨a, hk, rfl⟩), hg.2 a hk⟩⟩
  all_goals exact .inl hab

theorem inv_step {kind : Nat → Kind} {s s' : State} {l : Label} (h : Inv kind s)
    (hs : step kind s l = some s') : Inv kind s' := by
  refine ⟨fun k => (row_step h hs k).qmem, step_nodup h hs, fun k => (row_step h hs k).busy,
    fun k => (row_step h hs k).ready, fun k => (row_step h hs k).ret, fun a b hab => ?_⟩
  rcases step_pred_cases hs hab with hab | ⟨hsync, hb, hsent⟩
  · obtain ⟨hsync, hsent, _⟩ := h.pred a b hab
    exact ⟨hsync, hsent.imp (step_returned_mono hs) (And.imp (step_after_mono hs) (step_not_unsent h hs)), ord_step h hs hab⟩
  · exact ⟨hsync, hsent.imp (step_returned_mono hs) (And.imp id (step_not_unsent h hs)), .inr (.inl hb)⟩

theorem run_eq (kind : Nat → Kind) (s : State) (ls : List Label) : run kind s ls = Run (step kind) s ls := by
  induction ls generalizing s with
  | nil => rfl
  | cons l ls ih => simp only [run, Run]; cases step kind s l <;> simp [ih]

theorem runE_eq (s : State) (ls : List Label) : runE s ls = Run stepE s ls := by
  induction ls generalizing s with
  | nil => rfl
  | cons l ls ih => simp only [runE, Run]; cases stepE s l <;> simp [ih]

theorem inv_run {kind : Nat → Kind} {s s' : State} {ls : List Label} (h : Inv kind s)
    (hs : run kind s ls = some s') : Inv kind s' := Run.preserves inv_step h (run_eq .. ▸ hs)

end Order
