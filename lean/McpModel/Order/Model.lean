import McpModel.Generated.OrderGen
/-
Engine `order` — the end-to-end half of C03 (in-order dispatch between two MCP sessions).

One direction of one session pair (sender → receiver) as a labelled transition system.  Messages are
natural numbers.  What the code does, and which label stands for it:

  `send i`   the sender's API call for message `i` begins (`cs.NotifyProgress`, `cs.CallTool`,
             `ss.Log`, `client.AddRoots`, … ; inside it `jsonrpc2.Connection.Notify` / `Call`).
  `bsend ps i` message `i` is sent as part of ONE transport unit (an HTTP POST body carrying a
             JSON-RPC batch, as a foreign peer may send on protocol versions before 2025-06-18) in
             which the messages `ps` stand before it.  The transport hands the messages of one body
             to the session in body order (`servePOST`: `for _, msg := range incoming { c.incoming <- msg }`,
             one goroutine), so `write i` is enabled only after every `p ∈ ps` has been written;
             the acknowledgement of the body (202) is `ret` of each of its messages, hence enabled
             only when ALL of them are queued.  `send i` does what `bsend [] i` does.
  `write i`  the transport's `Write` has put the message into the receiver's FIFO: the pipe for the
             in-memory / stdio transports, the `incoming` channel of `SSEServerTransport` /
             `streamableServerConn` for HTTP POSTs (written *before* the 202, a regenerated fact),
             the single SSE response stream for server→client traffic.  Reader goroutine
             (`readIncoming`) and `handlerQueue` of the receiving `jsonrpc2.Connection` are FIFO
             too (proved for all schedules by the `conn` engine: `Conn.dispatch_fifo`); here the
             three queues in a row are one queue.
  `ret i`    the sender's API call returns.  A notification returns once its `Write` has returned
             (`Notify`: write, then N2 — a regenerated fact); a call returns once the response has
             arrived, i.e. after the receiver's handler finished.
  `disp i`   the receiver's single dispatcher (`handleAsync`, D1) takes the head of the queue and
             enters `Handle`; it then waits for the message's releaser.
  `rel i`    `ServerSession.handle` / `ClientSession.handle` call `jsonrpc2.Async` — only for calls
             other than `initialize` (regenerated guard, `Generated.Order`) — which releases the
             dispatcher before any user code runs.
  `start i`  user code (receiving middleware, then the handler) starts.
  `cb i`     the running handler of `i` makes an outgoing call to the peer on its own context and
             waits for the answer; the dispatcher is not released by that (only `Async` and the end
             of the handler release it).
  `fin i`    user code and `processResult` are done; for a message that did not call `Async` this
             is what releases the dispatcher (`defer releaser.release(true)`).

Nothing is assumed about the schedule: a run is any list of labels each of which is enabled.
`pred` is ghost state: the pairs (i, j) such that the API call for the synchronous message `i` had
returned before the API call for `j` began.  Core Lean only (linked into the driver).
-/
namespace Order

inductive Kind where
  | note   -- notification: never calls Async, no response
  | init   -- a call that does not call Async (`initialize` on the server)
  | call   -- any other call: calls Async before user code runs
deriving DecidableEq, Repr

/-- Does the dispatcher wait for the handler of such a message to finish? -/
def Kind.sync : Kind → Bool
  | .call => false
  | _ => true

/-- Direction-dependent classification, from the regenerated `Async` guards of
`ServerSession.handle` (receiver of client→server traffic) and `ClientSession.handle`. -/
def classify (toServer : Bool) (isCall : Bool) (method : String) : Kind :=
  if !isCall then .note
  else if (if toServer then Generated.Order.serverSyncCalls else Generated.Order.clientSyncCalls).contains method then .init
  else .call

inductive Phase where
  | unsent | sending | queued | dispatched | ready | running | done
deriving DecidableEq, Repr

inductive Label where
  | send (i : Nat)
  | bsend (ps : List Nat) (i : Nat)
  | write (i : Nat)
  | ret (i : Nat)
  | disp (i : Nat)
  | rel (i : Nat)
  | start (i : Nat)
  | cb (i : Nat)
  | fin (i : Nat)
deriving DecidableEq, Repr

structure State where
  phase : Nat → Phase
  /-- the receiver-side FIFO, head first -/
  queue : List Nat
  /-- the message the dispatcher is waiting for -/
  busy : Option Nat
  /-- messages whose sender-side API call has returned -/
  returned : List Nat
  /-- ghost: (i, j) with `i` synchronous and `ret i` before `send j`, or `i` before `j` in one body -/
  pred : List (Nat × Nat)
  /-- (p, i): `p` stands before `i` in the same transport unit (POST body); the transport writes them in that order -/
  after : List (Nat × Nat)

def init : State :=
  { phase := fun _ => .unsent, queue := [], busy := none, returned := [], pred := [], after := [] }

def State.setPhase (s : State) (i : Nat) (p : Phase) : State :=
  { s with phase := fun k => if k = i then p else s.phase k }

/-- One atomic step; `none` = the label is not enabled. -/
def step (kind : Nat → Kind) (s : State) : Label → Option State
  | .send i =>
    if s.phase i = .unsent then
      some { (s.setPhase i .sending) with
        pred := s.pred ++ (s.returned.filter fun k => (kind k).sync).map fun k => (k, i) }
    else none
  | .bsend ps i =>
    if s.phase i = .unsent ∧ ∀ p ∈ ps, s.phase p ≠ .unsent then
      some { (s.setPhase i .sending) with
        pred := s.pred ++ ((s.returned.filter fun k => (kind k).sync).map fun k => (k, i))
                  ++ ((ps.filter fun k => (kind k).sync).map fun k => (k, i)),
        after := s.after ++ ps.map fun p => (p, i) }
    else none
  | .write i =>
    if s.phase i = .sending ∧ ∀ p ∈ s.after, p.2 = i → (s.phase p.1 ≠ .unsent ∧ s.phase p.1 ≠ .sending) then
      some { (s.setPhase i .queued) with queue := s.queue ++ [i] }
    else none
  | .ret i =>
    if i ∈ s.returned then none
    else if (kind i = .note ∧ s.phase i ≠ .unsent ∧ s.phase i ≠ .sending) ∨ (kind i ≠ .note ∧ s.phase i = .done) then
      some { s with returned := i :: s.returned }
    else none
  | .disp i =>
    match s.busy, s.queue with
    | none, h :: q =>
      if h = i then some { (s.setPhase i .dispatched) with queue := q, busy := some i } else none
    | _, _ => none
  | .rel i =>
    if s.busy = some i ∧ kind i = .call ∧ s.phase i = .dispatched then
      some { (s.setPhase i .ready) with busy := none }
    else none
  | .start i =>
    if (s.phase i = .dispatched ∧ (kind i).sync = true) ∨ s.phase i = .ready then
      some (s.setPhase i .running)
    else none
  | .cb i =>
    -- the running handler of `i` calls back into the peer with its own context and gets the answer
    -- (`jsonrpc2.Connection.Call` + `Await`): this does not touch the releaser
    if s.phase i = .running then some s else none
  | .fin i =>
    if s.phase i = .running then
      some { (s.setPhase i .done) with busy := if s.busy = some i then none else s.busy }
    else none

/-- Run a label list; `none` as soon as a label is not enabled. -/
def run (kind : Nat → Kind) : State → List Label → Option State
  | s, [] => some s
  | s, l :: ls =>
    match step kind s l with
    | some s' => run kind s' ls
    | none => none

/-! ### Ephemeral sessions (stateless streamable HTTP server)

On a stateless `StreamableHTTPHandler` every POST gets a session of its own (`serveStateless`), so there
is no queue and no dispatcher shared between two messages.  What orders messages there is the HTTP
exchange itself: the response to a POST — the 202 of a notification included — is produced only
after the temporary session has handled what the POST carried (`serveEphemeral`: serve, end the
session's input, wait for it, close; F14 repaired), and a call returns with its response anyway.
Hence in this model `ret i` requires the handler of `i` to be done, whatever kind `i` has. -/

def stepE (s : State) : Label → Option State
  | .send i => if s.phase i = .unsent then some (s.setPhase i .sending) else none
  | .start i => if s.phase i = .sending then some (s.setPhase i .running) else none
  | .cb i => if s.phase i = .running then some s else none
  | .fin i => if s.phase i = .running then some (s.setPhase i .done) else none
  | .ret i =>
    if i ∈ s.returned then none
    else if s.phase i = .done then some { s with returned := i :: s.returned } else none
  | _ => none

def runE : State → List Label → Option State
  | s, [] => some s
  | s, l :: ls =>
    match stepE s l with
    | some s' => runE s' ls
    | none => none

/-! ### What an observer of the two sessions sees, and the property as a predicate on it -/

/-- Observable events: API call begins / returns, user handler starts / ends. -/
inductive Ev where
  | snd (i : Nat)
  | bsnd (ps : List Nat) (i : Nat)   -- `i` is sent in one body with `ps` before it
  | ret (i : Nat)
  | beg (i : Nat)
  | fin (i : Nat)
deriving DecidableEq, Repr

def Label.vis : Label → Option Ev
  | .send i => some (.snd i)
  | .bsend ps i => some (.bsnd ps i)
  | .ret i => some (.ret i)
  | .start i => some (.beg i)
  | .fin i => some (.fin i)
  | _ => none

def visible (ls : List Label) : List Ev := ls.filterMap Label.vis

/-- State of the property monitor of ONE pair (written from the property text, no reference to `step`).  The theorems about
model runs are stated with it (`holdsOn`); what the driver evaluates on the implementation is the family monitor `FMon` /
`orderClause` of Monitor.lean (for that one on a single pair: `pair_monitor_accepts_runs`).  It remembers
which messages' sending calls have returned (all of them: the synchronous ones are picked out at `snd`), which handlers
have finished, and for every message the synchronous messages that had returned before it was sent. -/
structure Mon where
  returned : List Nat := []
  finished : List Nat := []
  sentAfter : List (Nat × Nat) := []   -- (i, j), `i` synchronous: `ret i` before `snd j`, or `i` before `j` in one body
  bad : Option (Nat × Nat) := none     -- first (i, j) with `j`'s handler started before `i`'s ended

/-- C03 on a trace: when the handler of `j` starts, the handler of every notification (or
`initialize`) whose sending call had returned before `j` was sent — or which stands before `j` in the
body that carried both — has finished. -/
def Mon.step (kind : Nat → Kind) (m : Mon) : Ev → Mon
  | .snd j => { m with sentAfter := m.sentAfter ++ (m.returned.filter fun k => (kind k).sync).map fun k => (k, j) }
  | .bsnd ps j => { m with sentAfter := m.sentAfter ++ ((m.returned.filter fun k => (kind k).sync).map fun k => (k, j))
                                            ++ ((ps.filter fun k => (kind k).sync).map fun k => (k, j)) }
  | .ret i => { m with returned := i :: m.returned }
  | .beg j =>
    match m.bad with
    | some _ => m
    | none =>
      match m.sentAfter.find? fun p => p.2 == j && !m.finished.contains p.1 with
      | some p => { m with bad := some p }
      | none => m
  | .fin i => { m with finished := i :: m.finished }

def monitor (kind : Nat → Kind) (evs : List Ev) : Mon := evs.foldl (Mon.step kind) {}

/-- The trace satisfies the ordering clause of C03. -/
def holdsOn (kind : Nat → Kind) (evs : List Ev) : Bool := (monitor kind evs).bad.isNone

end Order
