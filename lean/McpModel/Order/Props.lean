import McpModel.Order.Lemmas
/-
Engine `order` — property theorems for C03 (end-to-end half).

C03: "Messages from one peer are dispatched to handlers in the order they were sent.  The handler of a
notification (and of initialize) finishes before the handler of any later message from that peer
starts, so once a notifying method has returned, any notification or call the same goroutine sends
afterwards is observed by the peer after it.  Ordinary calls, by contrast, may run concurrently with
one another and with later messages."

Every theorem quantifies over ALL classifications `kind`, ALL label lists (= all message sequences, all
interleavings of sender, transport, dispatcher and handlers, all handler durations: a duration is just
the number of other labels between `start i` and `fin i`).  "Later" is read as the property states it:
`ret i` (the notifying method has returned) occurs before `send j` (the next API call begins) — this
covers one goroutine issuing both, and any goroutine started after the first call returned.
"The monitor" in this file, in Cancel.lean, EphemeralBodyProps.lean and Ephemeral.lean is the PAIR monitor `Mon` (`monitor`,
`holdsOn`; Model.lean: one pair, no `enq`).  The driver evaluates the FAMILY monitor `FMon` (`orderClause`, Monitor.lean); the
theorems about that one are in FanProps.lean and Sound.lean, and no lemma relates `holdsOn` to `fholdsOn`.
-/
namespace Order

theorem run_append_some {kind : Nat → Kind} {s s' : State} {a b : List Label}
    (h : run kind s (a ++ b) = some s') : ∃ m, run kind s a = some m ∧ run kind m b = some s' := by
  simp only [run_eq] at h ⊢; exact Run.append_some h

theorem run_split {kind : Nat → Kind} {s s' : State} {a b : List Label} {l : Label}
    (h : run kind s (a ++ l :: b) = some s') :
    ∃ m m', run kind s a = some m ∧ step kind m l = some m' ∧ run kind m' b = some s' := by
  simp only [run_eq] at h ⊢; exact Run.split h

theorem inv_reachable {kind : Nat → Kind} {ls : List Label} {s : State}
    (h : run kind init ls = some s) : Inv kind s := inv_run (inv_init kind) h

section
variable {kind : Nat → Kind} {s s' : State} {l : Label}

theorem run_returned_mono {ls : List Label} (h : run kind s ls = some s')
    {i : Nat} (hi : i ∈ s.returned) : i ∈ s'.returned :=
  Run.preserves (σ := step kind) (Q := fun s => i ∈ s.returned) (fun hq h1 => step_returned_mono h1 hq) hi (run_eq .. ▸ h)

theorem run_pred_mono {ls : List Label} (h : run kind s ls = some s')
    {p : Nat × Nat} (hp : p ∈ s.pred) : p ∈ s'.pred :=
  Run.preserves (σ := step kind) (Q := fun s => p ∈ s.pred) (fun hq h1 => step_pred_mono h1 hq) hp (run_eq .. ▸ h)

theorem run_after_mono {ls : List Label} (h : run kind s ls = some s')
    {p : Nat × Nat} (hp : p ∈ s.after) : p ∈ s'.after :=
  Run.preserves (σ := step kind) (Q := fun s => p ∈ s.after) (fun hq h1 => step_after_mono h1 hq) hp (run_eq .. ▸ h)

theorem step_ret_returned {i : Nat} (h : step kind s (.ret i) = some s') :
    i ∈ s'.returned := by
  obtain ⟨_, rfl⟩ := step_some h
  exact List.mem_cons_self ..

theorem step_bsend_pred {ps : List Nat} {p j : Nat}
    (h : step kind s (.bsend ps j) = some s') (hp : p ∈ ps ∨ p ∈ s.returned) (hs : (kind p).sync = true) :
    (p, j) ∈ s'.pred := by
  obtain ⟨_, rfl⟩ := step_some h
  rcases hp with hp | hp
  · exact List.mem_append_right _ (List.mem_map.2 ⟨p, List.mem_filter.2 ⟨hp, hs⟩, rfl⟩)
  · exact List.mem_append_left _ (List.mem_append_right _ (List.mem_map.2 ⟨p, List.mem_filter.2 ⟨hp, hs⟩, rfl⟩))

theorem step_send_pred {i j : Nat} (h : step kind s (.send j) = some s')
    (hi : i ∈ s.returned) (hs : (kind i).sync = true) : (i, j) ∈ s'.pred := by
  obtain ⟨_, rfl⟩ := step_some h
  exact List.mem_append_right _ (List.mem_map.2 ⟨i, List.mem_filter.2 ⟨hi, hs⟩, rfl⟩)

theorem step_bsend_after {ps : List Nat} {p j : Nat}
    (h : step kind s (.bsend ps j) = some s') (hp : p ∈ ps) : (p, j) ∈ s'.after := by
  obtain ⟨_, rfl⟩ := step_some h
  exact List.mem_append_right _ (List.mem_map.2 ⟨p, hp, rfl⟩)

theorem step_done_only_fin (hinv : Inv kind s)
    (h : step kind s l = some s') {i : Nat} (hd : s'.phase i = .done) : s.phase i = .done ∨ l = .fin i := by
  rcases step_moves hinv h i with e | m
  · exact .inl (e ▸ hd)
  · rw [hd] at m; generalize s.phase i = p at m; cases m; exact .inr rfl

theorem step_written_only_write (hinv : Inv kind s)
    (h : step kind s l = some s') {i : Nat} (hw : s'.phase i ≠ .unsent ∧ s'.phase i ≠ .sending) :
    (s.phase i ≠ .unsent ∧ s.phase i ≠ .sending) ∨ l = .write i := by
  rcases step_moves hinv h i with e | m
  · exact .inl (e ▸ hw)
  · generalize s'.phase i = q at m hw; generalize s.phase i = p at m ⊢
    cases m with
    | send | bsend => exact absurd rfl hw.2
    | write => exact .inr rfl
    | _ => exact .inl ⟨nofun, nofun⟩

theorem step_beyond_only_disp (hinv : Inv kind s)
    (h : step kind s l = some s') {i : Nat}
    (hb : s'.phase i ≠ .unsent ∧ s'.phase i ≠ .sending ∧ s'.phase i ≠ .queued) :
    (s.phase i ≠ .unsent ∧ s.phase i ≠ .sending ∧ s.phase i ≠ .queued) ∨ l = .disp i := by
  rcases step_moves hinv h i with e | m
  · exact .inl (e ▸ hb)
  · generalize s'.phase i = q at m hb; generalize s.phase i = p at m ⊢
    cases m with
    | send | bsend => exact absurd rfl hb.2.1
    | write => exact absurd rfl hb.2.2
    | disp => exact .inr rfl
    | _ => exact .inl ⟨nofun, nofun, nofun⟩

theorem step_written_mono (hinv : Inv kind s)
    (h : step kind s l = some s') {i : Nat} (hw : s.phase i ≠ .unsent ∧ s.phase i ≠ .sending) :
    s'.phase i ≠ .unsent ∧ s'.phase i ≠ .sending := by
  rcases step_moves hinv h i with e | m
  · exact e ▸ hw
  · generalize s'.phase i = q at m ⊢; generalize s.phase i = p at m hw
    cases m with
    | send | bsend => exact absurd rfl hw.1
    | write => exact absurd rfl hw.2
    | _ => exact ⟨nofun, nofun⟩

theorem step_queued_of_written (hinv : Inv kind s)
    (h : step kind s l = some s') {i : Nat} (hw : s.phase i ≠ .sending) (hq : s'.phase i = .queued) :
    s.phase i = .queued := by
  rcases step_moves hinv h i with e | m
  · exact e ▸ hq
  · rw [hq] at m; generalize s.phase i = p at m hw; cases m; exact absurd rfl hw

theorem step_unsent_stays (hinv : Inv kind s)
    (h : step kind s l = some s') {j : Nat} (hu : s.phase j = .unsent) :
    s'.phase j = .unsent ∨ l = .send j ∨ ∃ ps, l = .bsend ps j := by
  rcases step_moves hinv h j with e | m
  · exact .inl (e ▸ hu)
  · rw [hu] at m; generalize s'.phase j = q at m
    cases m with
    | send => exact .inr (.inl rfl)
    | bsend ps => exact .inr (.inr ⟨ps, rfl⟩)

end

theorem done_has_fin {kind : Nat → Kind} {s s' : State} {ls : List Label} (hinv : Inv kind s)
    (h : run kind s ls = some s') {i : Nat} (hd : s'.phase i = .done) : s.phase i = .done ∨ Label.fin i ∈ ls :=
  Run.label_of_step (σ := step kind) (P := fun s => s.phase i = .done) inv_step (fun hi h1 q => step_done_only_fin hi h1 q)
    hinv (run_eq .. ▸ h) hd

theorem pred_done_at_start {kind : Nat → Kind} {s s' : State} (hinv : Inv kind s) {i j : Nat}
    (hp : (i, j) ∈ s.pred) (hs : step kind s (.start j) = some s') : s.phase i = .done := by
  obtain ⟨hc, _⟩ := step_some hs
  rcases (hinv.pred i j hp).2.2 with q | q | ⟨q, _⟩
  · exact q
  · rcases hc with ⟨e, _⟩ | e <;> rw [q] at e <;> cases e
  · rcases hc with ⟨e, _⟩ | e <;> rw [q] at e <;> cases e

/-- State form: in every reachable state in which the user handler of `j` can start, every synchronous
message `i` whose sending call had returned before `j` was sent is done. -/
theorem sync_finished_when_later_starts {kind : Nat → Kind} {ls : List Label} {s s' : State}
    (h : run kind init ls = some s) {i j : Nat} (hp : (i, j) ∈ s.pred)
    (hs : step kind s (.start j) = some s') : s.phase i = .done :=
  pred_done_at_start (inv_reachable h) hp hs

theorem fin_before_start {kind : Nat → Kind} {ls : List Label} {s s' : State}
    (h : run kind init ls = some s) {i j : Nat} (hp : (i, j) ∈ s.pred)
    (hs : step kind s (.start j) = some s') : Label.fin i ∈ ls :=
  (done_has_fin (inv_init kind) h (pred_done_at_start (inv_reachable h) hp hs)).resolve_left nofun

/-- The ordering clause of C03 (`Mon.step`, Model.lean) on a run, in trace form. -/
theorem sync_end_before_later_start {kind : Nat → Kind} {l₁ l₂ l₃ : List Label} {i j : Nat} {s : State}
    (h : run kind init (l₁ ++ .ret i :: (l₂ ++ .send j :: (l₃ ++ [.start j]))) = some s)
    (hsync : (kind i).sync = true) :
    Label.fin i ∈ l₁ ++ .ret i :: (l₂ ++ .send j :: l₃) := by
  have h' : run kind init ((l₁ ++ .ret i :: (l₂ ++ .send j :: l₃)) ++ [.start j]) = some s := by
    simpa [List.append_assoc] using h
  obtain ⟨m, _, hm, hstart, _⟩ := run_split h'
  obtain ⟨_, _, _, hret, hrest⟩ := run_split hm
  obtain ⟨s3, _, hs3, hsend, hrest⟩ := run_split hrest
  have hr : i ∈ s3.returned := run_returned_mono hs3 (step_ret_returned hret)
  exact fin_before_start hm (run_pred_mono hrest (step_send_pred hsend hr hsync)) hstart

/-- Non-vacuity: such runs exist (notification 0 with a handler that calls back, then call 1). -/
example : (run (fun k => if k = 0 then .note else .call) init
    [.send 0, .write 0, .ret 0, .send 1, .write 1, .disp 0, .start 0, .cb 0, .fin 0, .disp 1, .rel 1, .start 1]).isSome = true := by
  decide

/-- While a synchronous handler runs it holds the dispatcher: nothing else can be dispatched — in
particular not after the handler called back into the peer (`cb`), which leaves the state unchanged. -/
theorem sync_handler_holds_dispatcher {kind : Nat → Kind} {ls : List Label} {s : State}
    (h : run kind init ls = some s) {i : Nat} (hr : s.phase i = .running) (hs : (kind i).sync = true) (j : Nat) :
    s.busy = some i ∧ step kind s (.disp j) = none := by
  have hb := ((inv_reachable h).busy i).2 (Or.inr ⟨hr, hs⟩)
  refine ⟨hb, ?_⟩
  simp [step, hb]

theorem callback_releases_nothing {kind : Nat → Kind} {s s' : State} {i : Nat}
    (h : step kind s (.cb i) = some s') : s' = s := (step_some h).2

/-- Two synchronous handlers never run at the same time. -/
theorem sync_handlers_exclusive {kind : Nat → Kind} {ls : List Label} {s : State}
    (h : run kind init ls = some s) {i j : Nat} (hi : s.phase i = .running) (hj : s.phase j = .running)
    (si : (kind i).sync = true) (sj : (kind j).sync = true) : i = j := by
  have a := ((inv_reachable h).busy i).2 (Or.inr ⟨hi, si⟩)
  have b := ((inv_reachable h).busy j).2 (Or.inr ⟨hj, sj⟩)
  rw [a] at b
  exact Option.some.inj b

def writesOf (ls : List Label) : List Nat := ls.filterMap fun | .write i => some i | _ => none
def dispsOf (ls : List Label) : List Nat := ls.filterMap fun | .disp i => some i | _ => none

theorem step_queue {kind : Nat → Kind} {s s' : State} {l : Label} (h : step kind s l = some s') :
    s.queue ++ writesOf [l] = dispsOf [l] ++ s'.queue := by
  cases l <;> obtain ⟨hg, rfl⟩ := step_some h
  case write i => rfl
  case disp i => exact (List.append_nil _).trans hg.2
  all_goals exact List.append_nil _

theorem fifo_general {kind : Nat → Kind} {s s' : State} {ls : List Label} (h : run kind s ls = some s') :
    s.queue ++ writesOf ls = dispsOf ls ++ s'.queue := by
  rw [run_eq] at h
  induction ls generalizing s with
  | nil => cases h; exact List.append_nil _
  | cons l ls ih =>
    obtain ⟨m, h1, h2⟩ := Run.cons_some h
    have ew : writesOf (l :: ls) = writesOf [l] ++ writesOf ls := List.filterMap_append (l := [l]) ..
    have ed : dispsOf (l :: ls) = dispsOf [l] ++ dispsOf ls := List.filterMap_append (l := [l]) ..
    rw [ew, ed, ← List.append_assoc, step_queue h1, List.append_assoc, ih h2, List.append_assoc]

/-- The messages handed to the dispatcher so far, followed by the receiver's
queue, are exactly the messages written so far, in write order. -/
theorem dispatch_order_is_write_order {kind : Nat → Kind} {ls : List Label} {s : State}
    (h : run kind init ls = some s) : dispsOf ls ++ s.queue = writesOf ls := by
  have := fifo_general h
  simpa [init] using this.symm

theorem dispatched_is_prefix_of_written {kind : Nat → Kind} {ls : List Label} {s : State}
    (h : run kind init ls = some s) : dispsOf ls <+: writesOf ls :=
  ⟨s.queue, dispatch_order_is_write_order h⟩

/-! Ordinary calls are NOT constrained (so the monitor must not demand it). -/

/-- Two calls, written in the order 0, 1, whose user handlers run at the same time. -/
theorem calls_may_overlap :
    (run (fun _ => .call) init
      [.send 0, .write 0, .send 1, .write 1, .disp 0, .rel 0, .disp 1, .rel 1, .start 0, .start 1]).map
      (fun s => (s.phase 0, s.phase 1)) = some (.running, .running) := by decide

/-- Two calls, written (and dispatched) in the order 0, 1; the user handler of 1 starts — and even
finishes — before that of 0 starts. -/
theorem calls_may_start_out_of_order :
    (run (fun _ => .call) init
      [.send 0, .write 0, .send 1, .write 1, .disp 0, .rel 0, .disp 1, .rel 1, .start 1, .fin 1, .start 0]).map
      (fun s => (s.phase 0, s.phase 1)) = some (.running, .done) := by decide

/-- A call also runs concurrently with a later notification. -/
theorem call_may_overlap_later_notification :
    (run (fun k => if k = 0 then .call else .note) init
      [.send 0, .write 0, .disp 0, .rel 0, .start 0, .send 1, .write 1, .ret 1, .disp 1, .start 1]).map
      (fun s => (s.phase 0, s.phase 1)) = some (.running, .running) := by decide

theorem written_has_write {kind : Nat → Kind} {s s' : State} {ls : List Label} (hinv : Inv kind s)
    (h : run kind s ls = some s') {i : Nat} (hw : s'.phase i ≠ .unsent ∧ s'.phase i ≠ .sending) :
    (s.phase i ≠ .unsent ∧ s.phase i ≠ .sending) ∨ Label.write i ∈ ls :=
  Run.label_of_step (σ := step kind) (P := fun s => s.phase i ≠ .unsent ∧ s.phase i ≠ .sending) inv_step
    (fun hi h1 q => step_written_only_write hi h1 q) hinv (run_eq .. ▸ h) hw

/-- The acknowledgement of a notification (for a body: of each of its notifications) is enabled only
when the message is in the receiver's FIFO or beyond — an acknowledgement while a member of the body
is still outside the queue is not a step of the model. -/
theorem ack_requires_queued {kind : Nat → Kind} {s s' : State} {i : Nat}
    (h : step kind s (.ret i) = some s') (hn : kind i = .note) :
    s.phase i ≠ .unsent ∧ s.phase i ≠ .sending := by
  rcases (step_some h).1.2 with ⟨_, hw⟩ | ⟨h1, _⟩
  · exact hw
  · exact absurd hn h1

/-- When the sending call of a notification returns, its `write` into the
receiver's FIFO has already happened. -/
theorem notify_returns_after_queued {kind : Nat → Kind} {l₁ : List Label} {i : Nat} {s : State}
    (h : run kind init (l₁ ++ [.ret i]) = some s) (hn : kind i = .note) : Label.write i ∈ l₁ := by
  obtain ⟨m, _, hm, hret, _⟩ := run_split h
  exact (written_has_write (inv_init kind) hm (ack_requires_queued hret hn)).resolve_left (fun q => q.1 rfl)

/-- State form: a synchronous message whose sending call has returned is in the receiver's queue,
holds the dispatcher, or has been handled — it can no longer be overtaken. -/
theorem returned_sync_is_queued_or_beyond {kind : Nat → Kind} {ls : List Label} {s : State}
    (h : run kind init ls = some s) {i : Nat} (hr : i ∈ s.returned) (hs : (kind i).sync = true) :
    s.phase i = .queued ∨ s.busy = some i ∨ s.phase i = .done := (inv_reachable h).ret i hr hs

theorem unsent_not_written {kind : Nat → Kind} {s : State} {ls : List Label} (h : run kind init ls = some s)
    {j : Nat} (hu : s.phase j = .unsent) : Label.write j ∉ ls := fun hw => by
  obtain ⟨a, b, rfl⟩ := List.append_of_mem hw
  obtain ⟨m, m1, hm, hwj, hb⟩ := run_split h
  have h1 : m1.phase j ≠ .unsent := by obtain ⟨_, rfl⟩ := step_some hwj; simp
  exact Run.preserves (σ := step kind) (Q := fun s => Inv kind s ∧ s.phase j ≠ .unsent)
    (fun hq hs => ⟨inv_step hq.1 hs, step_not_unsent hq.1 hs hq.2⟩) ⟨inv_step (inv_reachable hm) hwj, h1⟩ (run_eq .. ▸ hb) |>.2 hu

/-- Once the sending call of notification `i` has returned, `i` is in the
receiver's FIFO, and a message `j` whose sending call begins afterwards has not been written yet —
so `j` is written, hence (by `dispatch_order_is_write_order`) dispatched, after `i`. -/
theorem later_send_is_behind {kind : Nat → Kind} {l₁ l₂ l₃ : List Label} {i j : Nat} {s : State}
    (h : run kind init (l₁ ++ .ret i :: (l₂ ++ .send j :: l₃)) = some s) (hn : kind i = .note) :
    Label.write i ∈ l₁ ∧ Label.write j ∉ l₁ ++ .ret i :: l₂ := by
  have h' : run kind init ((l₁ ++ [.ret i]) ++ (l₂ ++ .send j :: l₃)) = some s := by
    simpa [List.append_assoc] using h
  obtain ⟨m, hm, hrest⟩ := run_append_some h'
  refine ⟨notify_returns_after_queued hm hn, ?_⟩
  have h'' : run kind init ((l₁ ++ .ret i :: l₂) ++ .send j :: l₃) = some s := by
    simpa [List.append_assoc] using h
  obtain ⟨m2, _, hm2, hsend, _⟩ := run_split h''
  exact unsent_not_written hm2 (step_some hsend).1

/-! Transport units carrying several messages (a POST body with a JSON-RPC batch).

`bsend ps j`: `j` travels in one body with `ps` before it.  Proved for ALL runs: the body's messages
are written — hence dispatched — in body order; a synchronous member finishes before a later member
starts; the acknowledgement of the body (= `ret` of its members) is possible only when the members are
queued, so whatever is sent after the acknowledgement is behind ALL of them. -/

/-- The messages of one body are handed to the session in body order — when `j`
is written, every `p` that stands before it in the body has been written already. -/
theorem batch_written_in_order {kind : Nat → Kind} {l₁ l₂ l₃ : List Label} {ps : List Nat} {p j : Nat} {s : State}
    (h : run kind init (l₁ ++ .bsend ps j :: (l₂ ++ .write j :: l₃)) = some s) (hp : p ∈ ps) :
    Label.write p ∈ l₁ ++ .bsend ps j :: l₂ := by
  have h' : run kind init ((l₁ ++ .bsend ps j :: l₂) ++ .write j :: l₃) = some s := by
    simpa [List.append_assoc] using h
  obtain ⟨m, _, hm, hw, _⟩ := run_split h'
  obtain ⟨_, _, _, hb, hrest2⟩ := run_split hm
  have haft : (p, j) ∈ m.after := run_after_mono hrest2 (step_bsend_after hb hp)
  exact (written_has_write (inv_init kind) hm ((step_some hw).1.2 (p, j) haft rfl)).resolve_left (fun q => q.1 rfl)

/-- Order invariant for bodies: if `p` stands before `j` in one body and `j` has been written, then so
has `p`, and while both wait in the receiver's queue `p` is ahead of `j`. -/
structure BInv (s : State) : Prop where
  ord : ∀ p j, (p, j) ∈ s.after → s.phase j ≠ .unsent → s.phase j ≠ .sending →
    (s.phase p ≠ .unsent ∧ s.phase p ≠ .sending) ∧ (s.phase j = .queued → s.phase p = .queued → Ahead s.queue p j)

theorem binv_init : BInv init := ⟨by intro p j h; simp [init] at h⟩

theorem binv_step {kind : Nat → Kind} {s s' : State} {l : Label} (hinv : Inv kind s) (hb : BInv s)
    (h : step kind s l = some s') : BInv s' := by
  constructor
  intro p j hpj hj1 hj2
  -- a pair that this step adds has its second member just sent
  have hold : (p, j) ∈ s.after := by
    cases l <;> obtain ⟨_, rfl⟩ := step_some h
    case bsend ps k =>
      rcases List.mem_append.1 hpj with q | q
      · exact q
      · obtain ⟨x, _, e⟩ := List.mem_map.1 q
        cases e; exact absurd (if_pos rfl) hj2
    all_goals exact hpj
  rcases step_written_only_write hinv h ⟨hj1, hj2⟩ with hw | rfl
  · -- `j` had been written before: `p` too, and if both are queued now they were, in this order
    obtain ⟨h1, h2⟩ := hb.ord p j hold hw.1 hw.2
    refine ⟨step_written_mono hinv h h1, fun hq hpq => ?_⟩
    have ha := h2 (step_queued_of_written hinv h hw.2 hq) (step_queued_of_written hinv h h1.2 hpq)
    exact step_ahead hinv h ha (((inv_step hinv h).qmem p).2 hpq)
  · -- `j` is written now: the guard of `write` asks for `p`, which is in the queue if it is queued
    obtain ⟨hg, rfl⟩ := step_some h
    have hw := hg.2 (p, j) hold rfl
    have hpj' : p ≠ j := fun e => hw.2 (e ▸ hg.1)
    simp only [setPhase_phase, hpj', if_false]
    exact ⟨hw, fun _ hq => ahead_of_mem j ((hinv.qmem p).2 hq)⟩

theorem binv_run {kind : Nat → Kind} {s s' : State} {ls : List Label} (hinv : Inv kind s) (hb : BInv s)
    (h : run kind s ls = some s') : BInv s' :=
  (Run.preserves (σ := step kind) (Q := fun s => Inv kind s ∧ BInv s)
    (fun hq hs => ⟨inv_step hq.1 hs, binv_step hq.1 hq.2 hs⟩) ⟨hinv, hb⟩ (run_eq .. ▸ h)).2

theorem beyond_has_disp {kind : Nat → Kind} {s s' : State} {ls : List Label} (hinv : Inv kind s)
    (h : run kind s ls = some s') {i : Nat}
    (hd : s'.phase i ≠ .unsent ∧ s'.phase i ≠ .sending ∧ s'.phase i ≠ .queued) :
    (s.phase i ≠ .unsent ∧ s.phase i ≠ .sending ∧ s.phase i ≠ .queued) ∨ Label.disp i ∈ ls :=
  Run.label_of_step (σ := step kind) (P := fun s => s.phase i ≠ .unsent ∧ s.phase i ≠ .sending ∧ s.phase i ≠ .queued) inv_step
    (fun hi h1 q => step_beyond_only_disp hi h1 q) hinv (run_eq .. ▸ h) hd

theorem before_head_beyond {kind : Nat → Kind} {m : State} (hinv : Inv kind m) (hb : BInv m) {p j : Nat} {q : List Nat}
    (haft : (p, j) ∈ m.after) (hqueue : m.queue = j :: q) :
    m.phase p ≠ .unsent ∧ m.phase p ≠ .sending ∧ m.phase p ≠ .queued := by
  have hnd : j ∉ q := by have := hinv.qnodup; rw [hqueue] at this; exact (List.nodup_cons.1 this).1
  have hph : m.phase j = .queued := (hinv.qmem j).1 (by rw [hqueue]; exact List.mem_cons_self ..)
  obtain ⟨h1, h2⟩ := hb.ord p j haft (by simp [hph]) (by simp [hph])
  refine ⟨h1.1, h1.2, fun hq => ?_⟩
  have := h2 hph hq
  rw [hqueue] at this
  exact (ahead_cons this hnd).1 rfl

/-- The messages of one body reach the dispatcher in body order — when `j` is
dispatched, every `p` that stands before it in the body has been dispatched already (no other message,
of this body or sent after its acknowledgement, can get between them and reverse them). -/
theorem batch_dispatched_in_order {kind : Nat → Kind} {l₁ l₂ l₃ : List Label} {ps : List Nat} {p j : Nat} {s : State}
    (h : run kind init (l₁ ++ .bsend ps j :: (l₂ ++ .disp j :: l₃)) = some s) (hp : p ∈ ps) :
    Label.disp p ∈ l₁ ++ .bsend ps j :: l₂ := by
  have h' : run kind init ((l₁ ++ .bsend ps j :: l₂) ++ .disp j :: l₃) = some s := by
    simpa [List.append_assoc] using h
  obtain ⟨m, _, hm, hdj, _⟩ := run_split h'
  obtain ⟨_, _, _, hb, hrest2⟩ := run_split hm
  have haft : (p, j) ∈ m.after := run_after_mono hrest2 (step_bsend_after hb hp)
  exact (beyond_has_disp (inv_init kind) hm (before_head_beyond (inv_reachable hm)
    (binv_run (inv_init kind) binv_init hm) haft (step_some hdj).1.2)).resolve_left (fun q => q.1 rfl)

/-- A synchronous member of a body finishes before the handler of any later
member of the same body starts. -/
theorem batch_sync_end_before_later_start {kind : Nat → Kind} {l₁ l₃ : List Label} {ps : List Nat} {p j : Nat} {s : State}
    (h : run kind init (l₁ ++ .bsend ps j :: (l₃ ++ [.start j])) = some s) (hp : p ∈ ps)
    (hsync : (kind p).sync = true) : Label.fin p ∈ l₁ ++ .bsend ps j :: l₃ := by
  have h' : run kind init ((l₁ ++ .bsend ps j :: l₃) ++ [.start j]) = some s := by
    simpa [List.append_assoc] using h
  obtain ⟨m, _, hm, hstart, _⟩ := run_split h'
  obtain ⟨_, _, _, hb, hrest⟩ := run_split hm
  exact fin_before_start hm (run_pred_mono hrest (step_bsend_pred hb (Or.inl hp) hsync)) hstart

/-- The same for a body that is sent after the sending call (or the
acknowledged body) of the synchronous message `i` returned. -/
theorem sync_end_before_later_body_start {kind : Nat → Kind} {l₁ l₂ l₃ : List Label} {ps : List Nat} {i j : Nat} {s : State}
    (h : run kind init (l₁ ++ .ret i :: (l₂ ++ .bsend ps j :: (l₃ ++ [.start j]))) = some s)
    (hsync : (kind i).sync = true) :
    Label.fin i ∈ l₁ ++ .ret i :: (l₂ ++ .bsend ps j :: l₃) := by
  have h' : run kind init ((l₁ ++ .ret i :: (l₂ ++ .bsend ps j :: l₃)) ++ [.start j]) = some s := by
    simpa [List.append_assoc] using h
  obtain ⟨m, _, hm, hstart, _⟩ := run_split h'
  obtain ⟨_, _, _, hret, hrest⟩ := run_split hm
  obtain ⟨s3, _, hs3, hsend, hrest⟩ := run_split hrest
  have hr : i ∈ s3.returned := run_returned_mono hs3 (step_ret_returned hret)
  exact fin_before_start hm (run_pred_mono hrest (step_bsend_pred hsend (Or.inr hr) hsync)) hstart

/-- Once notification `i` has been acknowledged, a body member `j` whose body is
sent afterwards has not been written yet, so it is written — hence dispatched — after `i`. -/
theorem later_body_is_behind {kind : Nat → Kind} {l₁ l₂ l₃ : List Label} {ps : List Nat} {i j : Nat} {s : State}
    (h : run kind init (l₁ ++ .ret i :: (l₂ ++ .bsend ps j :: l₃)) = some s) (hn : kind i = .note) :
    Label.write i ∈ l₁ ∧ Label.write j ∉ l₁ ++ .ret i :: l₂ := by
  have h' : run kind init ((l₁ ++ [.ret i]) ++ (l₂ ++ .bsend ps j :: l₃)) = some s := by
    simpa [List.append_assoc] using h
  obtain ⟨m, hm, hrest⟩ := run_append_some h'
  refine ⟨notify_returns_after_queued hm hn, ?_⟩
  have h'' : run kind init ((l₁ ++ .ret i :: l₂) ++ .bsend ps j :: l₃) = some s := by
    simpa [List.append_assoc] using h
  obtain ⟨m2, _, hm2, hsend, _⟩ := run_split h''
  exact unsent_not_written hm2 (step_some hsend).1.1

/-- Non-vacuity: a body of three notifications, acknowledged, then a fourth message. -/
example : (run (fun _ => .note) init
    [.send 0, .bsend [0] 1, .bsend [0, 1] 2, .write 0, .disp 0, .start 0, .write 1, .write 2, .ret 0, .ret 1, .ret 2,
     .send 3, .write 3, .ret 3, .fin 0, .disp 1, .start 1, .fin 1, .disp 2, .start 2, .fin 2, .disp 3, .start 3]).isSome = true := by
  decide

/-- Counter-example for an early acknowledgement (202 written while the tail of the body is still
outside the session's queue): the message sent after the acknowledgement overtakes the tail.  Such a
trace is rejected by the monitor, and the early `ret` is not a step of the model; neither is a write
of the tail out of body order. -/
theorem early_body_ack_breaks_order :
    holdsOn (fun _ => .note)
      (visible [.send 0, .bsend [0] 1, .ret 0, .ret 1, .send 2, .start 0, .fin 0, .start 2, .fin 2, .start 1, .fin 1]) = false
    ∧ run (fun _ => .note) init [.send 0, .bsend [0] 1, .write 0, .ret 0, .ret 1] = none
    ∧ run (fun _ => .note) init [.send 0, .bsend [0] 1, .write 1] = none := by
  refine ⟨?_, ?_, ?_⟩ <;> decide

/-- The monitor's state mirrors the model's ghost state. -/
structure Sim (s : State) (m : Mon) : Prop where
  ret : m.returned = s.returned
  pred : m.sentAfter = s.pred
  fin : ∀ i, i ∈ m.finished ↔ s.phase i = .done
  ok : m.bad = none

def Mon.stepL (kind : Nat → Kind) (m : Mon) (l : Label) : Mon :=
  match l.vis with
  | some e => Mon.step kind m e
  | none => m

theorem finished_setPhase {fin : List Nat} {s : State} (hf : ∀ i, i ∈ fin ↔ s.phase i = .done) {k : Nat} {p q : Phase}
    (hk : s.phase k = q) (hq : q ≠ .done) (hp : p ≠ .done) : ∀ i, i ∈ fin ↔ (s.setPhase k p).phase i = .done := by
  intro i
  rw [hf i, setPhase_phase]
  split
  · rename_i e; subst e; rw [hk]; exact ⟨fun x => absurd x hq, fun x => absurd x hp⟩
  · rfl

theorem finished_setPhase_done {fin : List Nat} {s : State} (hf : ∀ i, i ∈ fin ↔ s.phase i = .done) (k : Nat) :
    ∀ i, i ∈ k :: fin ↔ (s.setPhase k .done).phase i = .done := by
  intro i
  rw [List.mem_cons, hf i, setPhase_phase]
  split
  · rename_i e; exact ⟨fun _ => rfl, fun _ => .inl e⟩
  · rename_i e; exact ⟨fun q => q.resolve_left e, .inr⟩

theorem Mon.step_beg {kind : Nat → Kind} {m : Mon} {j : Nat} (hok : m.bad = none)
    (hall : ∀ p ∈ m.sentAfter, p.2 = j → p.1 ∈ m.finished) : Mon.step kind m (.beg j) = m := by
  have hfind : (m.sentAfter.find? fun p => p.2 == j && !m.finished.contains p.1) = none := by
    rw [List.find?_eq_none]
    intro p hp
    simp only [Bool.and_eq_true, beq_iff_eq, Bool.not_eq_true', List.contains_eq_mem, decide_eq_false_iff_not,
      not_and, Decidable.not_not]
    exact hall p hp
  simp only [Mon.step, hok, hfind]

theorem sim_step {kind : Nat → Kind} {s s' : State} {l : Label} {m : Mon} (hinv : Inv kind s)
    (hsim : Sim s m) (h : step kind s l = some s') : Sim s' (m.stepL kind l) := by
  cases l
  case send k =>
    obtain ⟨hu, rfl⟩ := step_some h
    exact ⟨hsim.ret, by rw [← hsim.pred, ← hsim.ret]; rfl,
      finished_setPhase hsim.fin hu nofun nofun, hsim.ok⟩
  case bsend ps k =>
    obtain ⟨hu, rfl⟩ := step_some h
    exact ⟨hsim.ret, by rw [← hsim.pred, ← hsim.ret]; rfl,
      finished_setPhase hsim.fin hu.1 nofun nofun, hsim.ok⟩
  case write k =>
    obtain ⟨hg, rfl⟩ := step_some h
    exact ⟨hsim.ret, hsim.pred, finished_setPhase hsim.fin hg.1 nofun nofun, hsim.ok⟩
  case ret k =>
    obtain ⟨_, rfl⟩ := step_some h
    exact ⟨congrArg (k :: ·) hsim.ret, hsim.pred, hsim.fin, hsim.ok⟩
  case disp k =>
    obtain ⟨hg, rfl⟩ := step_some h
    have hq : s.phase k = .queued := (hinv.qmem k).1 (by rw [hg.2]; exact List.mem_cons_self ..)
    exact ⟨hsim.ret, hsim.pred, finished_setPhase hsim.fin hq nofun nofun, hsim.ok⟩
  case rel k =>
    obtain ⟨hg, rfl⟩ := step_some h
    exact ⟨hsim.ret, hsim.pred, finished_setPhase hsim.fin hg.2.2 nofun nofun, hsim.ok⟩
  case start k =>
    -- everything `k` was sent after is done, so the monitor finds nothing
    have e : m.stepL kind (.start k) = m := Mon.step_beg (kind := kind) hsim.ok fun p hp hk =>
      (hsim.fin p.1).2 (pred_done_at_start hinv (hk ▸ hsim.pred ▸ hp) h)
    obtain ⟨hc, rfl⟩ := step_some h
    rw [e]
    rcases hc with ⟨q, _⟩ | q <;> exact ⟨hsim.ret, hsim.pred, finished_setPhase hsim.fin q nofun nofun, hsim.ok⟩
  case cb k => obtain ⟨_, rfl⟩ := step_some h; exact hsim
  case fin k =>
    obtain ⟨_, rfl⟩ := step_some h
    exact ⟨hsim.ret, hsim.pred, finished_setPhase_done hsim.fin k, hsim.ok⟩

theorem foldl_visible (kind : Nat → Kind) (m : Mon) (ls : List Label) :
    (visible ls).foldl (Mon.step kind) m = ls.foldl (Mon.stepL kind) m :=
  List.foldl_filterMap.trans (congrArg (List.foldl · m ls) (funext fun m => funext fun l => by unfold Mon.stepL; cases l.vis <;> rfl))

/-- Bridging theorem for the pair monitor `Mon`: for ALL label lists that are runs of the model it holds on what an
observer sees of the run.  (What the driver evaluates on the traces recorded from the real sessions is the family
monitor `FMon`, `orderClause`; for it see `pair_monitor_accepts_runs` and `fan_monitor_accepts_runs`, FanProps.lean.) -/
theorem monitor_accepts_runs {kind : Nat → Kind} {ls : List Label} {s : State}
    (h : run kind init ls = some s) : holdsOn kind (visible ls) = true := by
  have hsim : Sim init ({} : Mon) := ⟨rfl, rfl, by intro i; simp [init], rfl⟩
  have := Run.fold (σ := step kind) (R := fun s m => Inv kind s ∧ Sim s m)
    (fun hq hs => ⟨inv_step hq.1 hs, sim_step hq.1 hq.2 hs⟩) ⟨inv_init kind, hsim⟩ (run_eq .. ▸ h)
  simp [holdsOn, monitor, foldl_visible, this.2.ok]

/-- Counter-example for the behaviour before the repair (F14): if the 202 of a notification may go out
before its handler ran (`ret 0` before `start 0`), a later call can be handled first — such a trace is
rejected by the monitor and is not a run of `stepE`.  (That the runs of `stepE` satisfy the monitor:
`ephemeral_runs_satisfy_monitor`, EphemeralBodyProps.lean, from the body version.) -/
theorem ephemeral_early_ack_breaks_order :
    holdsOn (fun k => if k = 0 then .note else .call)
      (visible [.send 0, .ret 0, .send 1, .start 1, .fin 1, .ret 1, .start 0, .fin 0]) = false
    ∧ runE init [.send 0, .ret 0, .send 1, .start 1, .fin 1, .ret 1, .start 0, .fin 0] = none := by
  constructor <;> decide

/-- The monitor is not vacuous: it rejects a trace in which call 1, sent after notification 0 had
returned, starts while the handler of 0 is still running. -/
example : holdsOn (fun k => if k = 0 then .note else .call)
    [.snd 0, .ret 0, .snd 1, .beg 0, .beg 1, .fin 0, .fin 1] = false := by decide

/-- …it rejects a trace in which a member of a body starts while an earlier synchronous member of the
same body is still running, and accepts the body handled in order. -/
example : holdsOn (fun _ => .note) [.snd 0, .bsnd [0] 1, .beg 0, .beg 1, .fin 0, .fin 1] = false
    ∧ holdsOn (fun _ => .note) [.snd 0, .bsnd [0] 1, .beg 0, .fin 0, .beg 1, .fin 1, .ret 0, .ret 1] = true := by
  constructor <;> decide

/-- …and does not demand anything of two calls. -/
example : holdsOn (fun _ => .call) [.snd 0, .snd 1, .beg 1, .fin 1, .beg 0, .fin 0, .ret 0, .ret 1] = true := by decide

/-- `initialize` is handled synchronously by the server (the `Async` guard excludes it). -/
theorem initialize_is_synchronous : classify true true Generated.Order.methodInitialize = .init := by decide

/-- Notifications never call `Async`, on either side. -/
theorem notifications_are_synchronous (toServer : Bool) (m : String) : classify toServer false m = .note := by
  simp [classify]

/-- Every other call to the server, and every call to the client, declares itself asynchronous. -/
theorem other_calls_are_asynchronous (m : String) :
    classify false true m = .call ∧ (m ≠ Generated.Order.methodInitialize → classify true true m = .call) := by
  constructor
  · simp [classify, Generated.Order.clientSyncCalls]
  · intro h
    simp [classify, Generated.Order.serverSyncCalls]
    intro e; exact h (by simpa [Generated.Order.methodInitialize] using e)

end Order
