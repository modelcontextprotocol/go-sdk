import McpModel.Order.Props
/-!
Engine `order` — cancellation of calls inside the pair model (C03).

The harness issues calls whose context is cancelled while they are under way (message kind `x`), with the
goroutine that performs the cancellation on the receiving connection scheduled late.  What the code does, and
which label stands for it:

  `cancel i`  the context of the sending call for `i` ends: `call` (mcp/transport.go) retires the call
              (`conn.Retire`), starts `go conn.Notify(notifications/cancelled)` and returns the context's error — the
              API call is over WITHOUT `ret i`, and it can never return normally afterwards.  Only calls can be
              cancelled (a notification has no id); the model takes calls other than `initialize` (kind `call`).
  `kill i`    on the receiving side the preempter (`canceller.Preempt`) has read the notice and its goroutine
              `go c.conn.Cancel(id)` cancels the context of the incoming call — at ANY time after `cancel i`
              (nothing is assumed about when that goroutine runs: site K1).  The notice itself is also queued as
              a notification with a no-op handler; it occupies the dispatcher for no user code and is a
              stuttering step here.
  `drop i`    the dispatcher (`handleAsync`, D1) takes the head of the queue, finds its context cancelled
              (`req.ctx.Err() != nil`), answers it with that error (`processResult`) WITHOUT entering `Handle`,
              and goes on with the next element: the head — and only the head — leaves the queue, the
              dispatcher stays free, the user handler of `i` never starts.
  a killed call that is still queued is never handed to `Handle` (`disp` is disabled for it): the check in
  `handleAsync` comes first.  A call that was dispatched before `kill` runs to its end as before.

`XState` adds three sets to `State` (`cancelled`, `killed`, `dropped`; not ghosts: `blocked` and the guards of `kill` / `drop` read them).  Everything is proved by REFINEMENT: a run with cancellations
projects (`xproj`: `drop i` ↦ `disp i`, `rel i`; `cancel`/`kill` ↦ nothing) to a run of `Order.step` with the same
visible events and the same final pair state (`xrun_refines`).  Three theorems of `Props` are carried over, each through its
own instance of `filterMap_xproj`: the ordering clause, FIFO, the acceptance by the pair monitor `Mon`; a statement about the
membership of a label needs `mem_xproj`, which excludes `disp` and `rel` (the image of `drop`).
-/
namespace Order

inductive XLabel where
  | base (l : Label)
  | cancel (i : Nat)
  | kill (i : Nat)
  | drop (i : Nat)
deriving DecidableEq, Repr

structure XState where
  s : State
  /-- calls whose sender gave up (the API call returned the context's error) -/
  cancelled : List Nat
  /-- incoming calls whose context the receiving connection has cancelled -/
  killed : List Nat
  /-- calls the dispatcher answered without entering the handler -/
  dropped : List Nat

def xinit : XState := { s := init, cancelled := [], killed := [], dropped := [] }

/-- Labels of the pair model that cancellation disables. -/
def blocked (x : XState) : Label → Bool
  | .ret i => x.cancelled.contains i     -- the call has already returned the context's error
  | .disp i => x.killed.contains i       -- `handleAsync` checks the context before `Handle`
  | .start i => x.dropped.contains i     -- answered without a handler
  | _ => false

def xstep (kind : Nat → Kind) (x : XState) : XLabel → Option XState
  | .base l =>
    if blocked x l = true then none else (step kind x.s l).map fun s' => { x with s := s' }
  | .cancel i =>
    if kind i = .call ∧ x.s.phase i ≠ .unsent ∧ i ∉ x.s.returned ∧ i ∉ x.cancelled then
      some { x with cancelled := i :: x.cancelled }
    else none
  | .kill i =>
    if i ∈ x.cancelled ∧ i ∉ x.killed then some { x with killed := i :: x.killed } else none
  | .drop i =>
    match x.s.busy, x.s.queue with
    | none, h :: q =>
      if h = i ∧ i ∈ x.killed ∧ kind i = .call then
        -- a dropped call stays in phase `ready` for ever (`blocked` keeps it from `start`): there `ready` means answered by the check in
        -- `handleAsync`, without a handler
        some { x with s := { (x.s.setPhase i .ready) with queue := q, busy := none }, dropped := i :: x.dropped }
      else none
    | _, _ => none

def xrun (kind : Nat → Kind) : XState → List XLabel → Option XState
  | x, [] => some x
  | x, l :: ls =>
    match xstep kind x l with
    | some x' => xrun kind x' ls
    | none => none

/-- The run of `Order.step` a run with cancellations stands for: dropping the head is the dispatcher taking it
and being released at once (no handler), the sender giving up and the receiver's `Cancel` are invisible. -/
def xproj : List XLabel → List Label
  | [] => []
  | .base l :: r => l :: xproj r
  | .drop i :: r => .disp i :: .rel i :: xproj r
  | _ :: r => xproj r

theorem xproj_append (a b : List XLabel) : xproj (a ++ b) = xproj a ++ xproj b := by
  induction a with
  | nil => rfl
  | cons l r ih => cases l <;> simp [xproj, ih]

theorem drop_is_disp_rel {kind : Nat → Kind} {x x' : XState} {i : Nat} (h : xstep kind x (.drop i) = some x') :
    run kind x.s [.disp i, .rel i] = some x'.s := by
  simp only [xstep] at h
  split at h
  · rename_i hd q hb hq
    split at h
    · rename_i hc
      obtain ⟨rfl, _, hk⟩ := hc
      simp only [Option.some.injEq] at h
      subst h
      simp only [run, step, hb, hq, if_true]
      simp [State.setPhase, hk]
      funext k
      by_cases hki : k = hd <;> simp [hki]
    · simp at h
  · simp at h

theorem xstep_base {kind : Nat → Kind} {x x' : XState} {l : Label} (h : xstep kind x (.base l) = some x') :
    step kind x.s l = some x'.s := by
  simp only [xstep] at h
  split at h
  · simp at h
  · cases hs : step kind x.s l with
    | none => simp [hs] at h
    | some s' => simp [hs] at h; subst h; rfl

theorem xrun_eq (kind : Nat → Kind) (x : XState) (ls : List XLabel) : xrun kind x ls = Run (xstep kind) x ls := by
  induction ls generalizing x with
  | nil => rfl
  | cons l ls ih => simp only [xrun, Run]; cases xstep kind x l <;> simp [ih]

theorem xrun_refines {kind : Nat → Kind} {x x' : XState} {ls : List XLabel} (h : xrun kind x ls = some x') :
    run kind x.s (xproj ls) = some x'.s := by
  obtain ⟨s', h1, rfl⟩ := Run.refines (σ := xstep kind) (τ := step kind) (R := fun x s => s = x.s)
    (tr := fun | .base l => [l] | .drop i => [.disp i, .rel i] | _ => []) (P := xproj) rfl
    (fun l ls => by cases l <;> rfl)
    (fun {x x1 s l} hR hx => by
      subst hR
      cases l with
      | base l => exact ⟨x1.s, by simp only [Run, xstep_base hx]; rfl, rfl⟩
      | drop i => exact ⟨x1.s, run_eq .. ▸ drop_is_disp_rel hx, rfl⟩
      | _ =>
        simp only [xstep] at hx
        split at hx <;> simp at hx
        subst hx
        exact ⟨x.s, rfl, rfl⟩) rfl (xrun_eq .. ▸ h)
  rw [run_eq]; exact h1

theorem mem_xproj {ls : List XLabel} {l : Label} (h : l ∈ xproj ls) (hd : ∀ i, l ≠ .disp i) (hr : ∀ i, l ≠ .rel i) :
    XLabel.base l ∈ ls := by
  induction ls with
  | nil => simp [xproj] at h
  | cons a r ih =>
    cases a with
    | base b =>
      simp only [xproj, List.mem_cons] at h
      rcases h with rfl | h
      · simp
      · exact List.mem_cons_of_mem _ (ih h)
    | cancel i => exact List.mem_cons_of_mem _ (ih (by simpa [xproj] using h))
    | kill i => exact List.mem_cons_of_mem _ (ih (by simpa [xproj] using h))
    | drop i =>
      simp only [xproj, List.mem_cons] at h
      rcases h with rfl | rfl | h
      · exact absurd rfl (hd i)
      · exact absurd rfl (hr i)
      · exact List.mem_cons_of_mem _ (ih h)

/-- `sync_end_before_later_start` for runs with cancellations (any call cancelled at any time, the receiver's `Cancel`
arbitrarily late, any queued call dropped). -/
theorem cancel_sync_end_before_later_start {kind : Nat → Kind} {l₁ l₂ l₃ : List XLabel} {i j : Nat} {x : XState}
    (h : xrun kind xinit (l₁ ++ .base (.ret i) :: (l₂ ++ .base (.send j) :: (l₃ ++ [.base (.start j)]))) = some x)
    (hsync : (kind i).sync = true) :
    XLabel.base (.fin i) ∈ l₁ ++ .base (.ret i) :: (l₂ ++ .base (.send j) :: l₃) := by
  have hr := xrun_refines h
  simp only [xproj_append, xproj, xinit] at hr
  have := sync_end_before_later_start (l₁ := xproj l₁) (l₂ := xproj l₂) (l₃ := xproj l₃) hr hsync
  have hm : Label.fin i ∈ xproj (l₁ ++ .base (.ret i) :: (l₂ ++ .base (.send j) :: l₃)) := by
    simpa [xproj_append, xproj] using this
  exact mem_xproj hm (by intro k; simp) (by intro k; simp)

/-- Non-vacuity: notification 0 runs, call 1 is queued behind it, notifications 2 and 3 are queued behind the
call, the caller of 1 gives up, the receiver cancels it late, 4 is sent; the dispatcher drops 1 and hands over
2, 3, 4 in that order. -/
example : (xrun (fun k => if k = 1 then .call else .note) xinit
    [.base (.send 0), .base (.write 0), .base (.ret 0), .base (.disp 0), .base (.start 0),
     .base (.send 1), .base (.write 1), .base (.send 2), .base (.write 2), .base (.ret 2), .base (.send 3), .base (.write 3), .base (.ret 3),
     .cancel 1, .base (.send 4), .base (.write 4), .base (.ret 4), .kill 1, .base (.fin 0), .drop 1,
     .base (.disp 2), .base (.start 2), .base (.fin 2), .base (.disp 3), .base (.start 3), .base (.fin 3),
     .base (.disp 4), .base (.start 4)]).isSome = true := by
  decide

/-- What the dispatcher has taken from the queue, handed to a handler or dropped. -/
def takenOf (ls : List XLabel) : List Nat :=
  ls.filterMap fun | .base (.disp i) => some i | .drop i => some i | _ => none

def xwritesOf (ls : List XLabel) : List Nat := ls.filterMap fun | .base (.write i) => some i | _ => none

theorem filterMap_xproj {β : Type} (f : Label → Option β) (g : XLabel → Option β) (hb : ∀ l, g (.base l) = f l)
    (hd : ∀ i, (g (.drop i)).toList = (f (.disp i)).toList ++ (f (.rel i)).toList)
    (hc : ∀ i, g (.cancel i) = none) (hk : ∀ i, g (.kill i) = none) (ls : List XLabel) :
    (xproj ls).filterMap f = ls.filterMap g := by
  induction ls with
  | nil => rfl
  | cons a r ih =>
    cases a with
    | base b => rw [xproj, List.filterMap_cons, List.filterMap_cons, hb, ih]
    | cancel i => simp only [xproj, List.filterMap_cons, hc, ih]
    | kill i => simp only [xproj, List.filterMap_cons, hk, ih]
    | drop i =>
      have e1 : (xproj (.drop i :: r)).filterMap f =
          (f (.disp i)).toList ++ (f (.rel i)).toList ++ (xproj r).filterMap f := by
        simp only [xproj, List.filterMap_cons]
        cases f (.disp i) <;> cases f (.rel i) <;> rfl
      have e2 : (XLabel.drop i :: r).filterMap g = (g (.drop i)).toList ++ r.filterMap g := by
        rw [List.filterMap_cons]; cases g (.drop i) <;> rfl
      rw [e1, e2, hd, ih]

theorem dispsOf_xproj (ls : List XLabel) : dispsOf (xproj ls) = takenOf ls :=
  filterMap_xproj _ _ (fun l => by cases l <;> rfl) (fun _ => rfl) (fun _ => rfl) (fun _ => rfl) ls

theorem writesOf_xproj (ls : List XLabel) : writesOf (xproj ls) = xwritesOf ls :=
  filterMap_xproj _ _ (fun l => by cases l <;> rfl) (fun _ => rfl) (fun _ => rfl) (fun _ => rfl) ls

/-- FIFO with cancellations, for ALL runs: what the dispatcher has taken so far (handed to a handler, or
dropped because it was cancelled while queued), followed by the queue, is exactly what was written, in write
order.  Answering a cancelled call that is still queued removes it — and nothing else — from the head: the
messages queued behind it keep their order (seeded change C03-m16 removed it from the middle by moving the
LAST element into its place). -/
theorem cancel_dispatch_order_is_write_order {kind : Nat → Kind} {ls : List XLabel} {x : XState}
    (h : xrun kind xinit ls = some x) : takenOf ls ++ x.s.queue = xwritesOf ls := by
  have := dispatch_order_is_write_order (xrun_refines h)
  rwa [dispsOf_xproj, writesOf_xproj] at this

/-- What an observer sees of a run with cancellations (the sender giving up shows as the API call's error,
which the monitor does not read; `kill`/`drop` are internal). -/
def xvisible (ls : List XLabel) : List Ev := ls.filterMap fun | .base l => l.vis | _ => none

theorem visible_xproj (ls : List XLabel) : visible (xproj ls) = xvisible ls :=
  filterMap_xproj Label.vis _ (fun _ => rfl) (fun _ => rfl) (fun _ => rfl) (fun _ => rfl) ls

/-- The monitor is the pair monitor `Mon` (`holdsOn`, Model.lean), not the family monitor the driver evaluates. -/
theorem cancel_monitor_accepts_runs {kind : Nat → Kind} {ls : List XLabel} {x : XState}
    (h : xrun kind xinit ls = some x) : holdsOn kind (xvisible ls) = true := by
  rw [← visible_xproj]
  exact monitor_accepts_runs (xrun_refines h)

theorem xstep_dropped_mono {kind : Nat → Kind} {x x' : XState} {l : XLabel} (h : xstep kind x l = some x') {i : Nat}
    (hi : i ∈ x.dropped) : i ∈ x'.dropped := by
  cases l with
  | base b =>
    simp only [xstep] at h
    split at h
    · simp at h
    · cases hs : step kind x.s b with
      | none => simp [hs] at h
      | some s' => simp [hs] at h; subst h; exact hi
  | cancel k => simp only [xstep] at h; split at h <;> simp at h; subst h; exact hi
  | kill k => simp only [xstep] at h; split at h <;> simp at h; subst h; exact hi
  | drop k =>
    simp only [xstep] at h
    split at h
    · split at h <;> simp at h
      subst h
      exact List.mem_cons_of_mem _ hi
    · simp at h

theorem xstep_drop_dropped {kind : Nat → Kind} {x x' : XState} {i : Nat} (h : xstep kind x (.drop i) = some x') :
    i ∈ x'.dropped := by
  simp only [xstep] at h
  split at h
  · split at h <;> simp at h
    subst h
    simp
  · simp at h

theorem xrun_split {kind : Nat → Kind} {x x' : XState} {a b : List XLabel} {l : XLabel}
    (h : xrun kind x (a ++ l :: b) = some x') :
    ∃ m m', xrun kind x a = some m ∧ xstep kind m l = some m' ∧ xrun kind m' b = some x' := by
  simp only [xrun_eq] at h ⊢; exact Run.split h

theorem no_start_after_dropped {kind : Nat → Kind} {x x' : XState} {ls : List XLabel} {i : Nat}
    (hi : i ∈ x.dropped) (h : xrun kind x ls = some x') : XLabel.base (.start i) ∉ ls := fun hmem => by
  obtain ⟨a, b, rfl⟩ := List.append_of_mem hmem
  obtain ⟨m, _, hm, hst, _⟩ := xrun_split h
  have hd : i ∈ m.dropped :=
    Run.preserves (σ := xstep kind) (Q := fun x => i ∈ x.dropped) (fun hq h1 => xstep_dropped_mono h1 hq) hi (xrun_eq .. ▸ hm)
  have hb : blocked m (.start i) = true := by simpa [blocked] using hd
  simp only [xstep] at hst
  rw [if_pos hb] at hst
  cases hst

theorem dropped_call_never_starts {kind : Nat → Kind} {l₁ l₂ : List XLabel} {i : Nat} {x : XState}
    (h : xrun kind xinit (l₁ ++ .drop i :: l₂) = some x) : XLabel.base (.start i) ∉ l₂ := by
  obtain ⟨_, _, _, hd, h3⟩ := xrun_split h
  exact no_start_after_dropped (xstep_drop_dropped hd) h3

/-- The log of C03-m16 (`Connection.Cancel` takes a cancelled call out of the MIDDLE of the handler queue by
moving the last element into its place): notification 0 is being handled; call 1, notifications 2 and 3 are
queued; the caller of 1 gives up; notification 4 is sent and queued; the late `Cancel` moves 4 to the place of 1,
so the handler of 4 starts before the handlers of 2 and 3 — rejected by the monitor; and handing 4 to the
dispatcher while 2 heads the queue is not a step of the model. -/
theorem swap_remove_breaks_order :
    holdsOn (fun k => if k = 1 then .call else .note)
      [.snd 0, .ret 0, .beg 0, .snd 1, .snd 2, .ret 2, .snd 3, .ret 3, .snd 4, .ret 4, .fin 0, .beg 4, .fin 4, .beg 2, .fin 2, .beg 3, .fin 3] = false
    ∧ (xrun (fun k => if k = 1 then .call else .note) xinit
        [.base (.send 0), .base (.write 0), .base (.ret 0), .base (.disp 0), .base (.start 0),
         .base (.send 1), .base (.write 1), .base (.send 2), .base (.write 2), .base (.ret 2), .base (.send 3), .base (.write 3), .base (.ret 3),
         .cancel 1, .base (.send 4), .base (.write 4), .base (.ret 4), .kill 1, .base (.fin 0), .drop 1,
         .base (.disp 4)]).isNone = true := by
  constructor <;> decide

end Order
