import McpModel.Order.Props
import McpModel.Order.EphemeralBody
/-!
Engine `order` — theorems about `stepB` (sessionless streamable server, POST bodies with several messages).
For ALL classifications, ALL label lists.
-/
namespace Order

theorem stepB_some {kind : Nat → Kind} {s s' : State} {l : Label} (h : stepB kind s l = some s') :
    match l with
    | .send i => s.phase i = .unsent ∧ s' = s.setPhase i .sending
    | .bsend ps i => (s.phase i = .unsent ∧ ∀ p ∈ ps, s.phase p ≠ .unsent) ∧
        s' = { (s.setPhase i .sending) with after := s.after ++ ps.map fun p => (p, i) }
    | .start i => (s.phase i = .sending ∧
          ∀ p ∈ s.after, p.2 = i → (kind p.1).sync = true → s.phase p.1 = .done) ∧ s' = s.setPhase i .running
    | .cb i => s.phase i = .running ∧ s' = s
    | .fin i => s.phase i = .running ∧ s' = s.setPhase i .done
    | .ret i => (i ∉ s.returned ∧ s.phase i = .done ∧
          ∀ p ∈ s.after, (p.2 = i → s.phase p.1 = .done) ∧ (p.1 = i → s.phase p.2 = .done)) ∧
        s' = { s with returned := i :: s.returned }
    | _ => False := by
  cases l <;> simp only [stepB] at h
  case ret i =>
    split at h
    · cases h
    · rename_i hn
      split at h
      · rename_i hg; exact ⟨⟨hn, hg⟩, (Option.some.inj h).symm⟩
      · cases h
  case send i | bsend ps i | start i | cb i | fin i =>
    split at h
    · rename_i hg; exact ⟨hg, (Option.some.inj h).symm⟩
    · cases h
  all_goals cases h

structure SimB (kind : Nat → Kind) (s : State) (m : Mon) : Prop where
  ret : ∀ i, i ∈ m.returned → i ∈ m.finished
  /-- an obligation either is discharged already, or stems from the body and is what `start` waits for -/
  pred : ∀ p, p ∈ m.sentAfter → p.1 ∈ m.finished ∨ (p ∈ s.after ∧ (kind p.1).sync = true)
  fin : ∀ i, i ∈ m.finished ↔ s.phase i = .done
  ok : m.bad = none

theorem simB_step {kind : Nat → Kind} {s s' : State} {l : Label} {m : Mon}
    (hsim : SimB kind s m) (h : stepB kind s l = some s') : SimB kind s' (m.stepL kind l) := by
  -- the obligations of returned messages are discharged
  have hret : ∀ (j : Nat) (p : Nat × Nat), p ∈ (m.returned.filter fun k => (kind k).sync).map (fun k => (k, j)) → p.1 ∈ m.finished := by
    intro j p hp
    obtain ⟨a, ha, rfl⟩ := List.mem_map.1 hp
    exact hsim.ret a (List.mem_filter.1 ha).1
  cases l <;> have hs := stepB_some h
  case send k =>
    obtain ⟨hu, rfl⟩ := hs
    refine ⟨hsim.ret, fun p hp => ?_, finished_setPhase hsim.fin hu nofun nofun, hsim.ok⟩
    rcases List.mem_append.1 hp with q | q
    · exact hsim.pred p q
    · exact .inl (hret k p q)
  case bsend ps k =>
    obtain ⟨hu, rfl⟩ := hs
    refine ⟨hsim.ret, fun p hp => ?_, finished_setPhase hsim.fin hu.1 nofun nofun, hsim.ok⟩
    rcases List.mem_append.1 hp with q | q
    · rcases List.mem_append.1 q with q | q
      · exact (hsim.pred p q).imp id fun r => ⟨List.mem_append_left _ r.1, r.2⟩
      · exact .inl (hret k p q)
    · obtain ⟨a, ha, rfl⟩ := List.mem_map.1 q
      exact .inr ⟨List.mem_append_right _ (List.mem_map.2 ⟨a, (List.mem_filter.1 ha).1, rfl⟩), (List.mem_filter.1 ha).2⟩
  case start k =>
    obtain ⟨hu, rfl⟩ := hs
    have e : m.stepL kind (.start k) = m := Mon.step_beg (kind := kind) hsim.ok fun p hp hk =>
      (hsim.pred p hp).elim id fun r => (hsim.fin p.1).2 (hu.2 p r.1 hk r.2)
    rw [e]
    exact ⟨hsim.ret, hsim.pred, finished_setPhase hsim.fin hu.1 nofun nofun, hsim.ok⟩
  case cb k => obtain ⟨_, rfl⟩ := hs; exact hsim
  case fin k =>
    obtain ⟨_, rfl⟩ := hs
    exact ⟨fun i hi => List.mem_cons_of_mem _ (hsim.ret i hi),
      fun p hp => (hsim.pred p hp).imp (List.mem_cons_of_mem _) id, finished_setPhase_done hsim.fin k, hsim.ok⟩
  case ret k =>
    obtain ⟨hg, rfl⟩ := hs
    refine ⟨fun i hi => ?_, hsim.pred, hsim.fin, hsim.ok⟩
    rcases List.mem_cons.1 hi with rfl | hi
    · exact (hsim.fin _).2 hg.2.1
    · exact hsim.ret i hi
  all_goals exact hs.elim

theorem runB_eq (kind : Nat → Kind) (s : State) (ls : List Label) : runB kind s ls = Run (stepB kind) s ls := by
  induction ls generalizing s with
  | nil => rfl
  | cons l ls ih => simp only [runB, Run]; cases stepB kind s l <;> simp [ih]

/-- Bridging theorem for sessionless servers WITH bodies: for ALL label lists that are runs of `stepB` — all
compositions of bodies, all interleavings, all handler durations — the pair monitor `Mon` holds on what an observer
sees. -/
theorem body_ephemeral_runs_satisfy_monitor (kind : Nat → Kind) {ls : List Label} {s : State}
    (h : runB kind init ls = some s) : holdsOn kind (visible ls) = true := by
  have hsim : SimB kind init ({} : Mon) := ⟨by simp, by simp, by intro i; simp [init], rfl⟩
  have := Run.fold (σ := stepB kind) (R := SimB kind) simB_step hsim (runB_eq .. ▸ h)
  simp [holdsOn, monitor, foldl_visible, this.ok]

/-- Without bodies `stepB` is `stepE`: on a state whose `after` is empty every label other than `bsend` has the
same effect (so the single-message theorems and the family theorems over `stepE` describe the same machine). -/
theorem stepB_eq_stepE {kind : Nat → Kind} {s : State} (ha : s.after = []) (l : Label) (hl : ∀ ps i, l ≠ .bsend ps i) :
    stepB kind s l = stepE s l := by
  cases l <;> simp [stepB, stepE, ha]
  case bsend ps i => exact absurd rfl (hl ps i)

theorem runB_of_runE (kind : Nat → Kind) {s s' : State} {ls : List Label} (ha : s.after = [])
    (h : runE s ls = some s') : runB kind s ls = some s' := by
  rw [runE_eq] at h; rw [runB_eq]
  induction ls generalizing s with
  | nil => exact h
  | cons l ls ih =>
    obtain ⟨s1, h1, h2⟩ := Run.cons_some h
    have hb : stepB kind s l = some s1 := (stepB_eq_stepE ha l (by rintro ps i rfl; cases h1)).trans h1
    have ha1 : s1.after = [] := by
      cases l <;> have hs := stepE_some h1
      case send k | start k | cb k | fin k | ret k => obtain ⟨_, rfl⟩ := hs; exact ha
      all_goals exact hs.elim
    exact Option.bind_eq_some_iff.2 ⟨s1, hb, ih ha1 h2⟩

/-- Stateless streamable server (one temporary session per POST; the POST's response, the 202 of a
notification included, is produced only after that session handled the message): for ALL label lists
that are runs of `stepE`, and whatever the kinds of the messages, the pair monitor `Mon` holds. -/
theorem ephemeral_runs_satisfy_monitor (kind : Nat → Kind) {ls : List Label} {s : State}
    (h : runE init ls = some s) : holdsOn kind (visible ls) = true :=
  body_ephemeral_runs_satisfy_monitor kind (runB_of_runE kind rfl h)

/-- The guard of `start` read back (any state): `start j` is a step of `stepB` only when every synchronous member that stands
before `j` in its body has finished. -/
theorem body_member_finished_when_later_starts {kind : Nat → Kind} {s s' : State} {p j : Nat}
    (hp : (p, j) ∈ s.after) (hsync : (kind p).sync = true) (hs : stepB kind s (.start j) = some s') :
    s.phase p = .done := by
  exact (stepB_some hs).1.2 (p, j) hp rfl hsync

/-- The guard of `ret` read back (any state): the POST that carried `i` is answered only when `i` has been handled to the end. -/
theorem body_ack_requires_done {kind : Nat → Kind} {s s' : State} {i : Nat}
    (hs : stepB kind s (.ret i) = some s') : s.phase i = .done := by
  exact (stepB_some hs).1.2.1

/-- Non-vacuity: body [notification 0, call 1, notification 2]; the call is released and runs beside notification 2;
the POST is answered when all three are done; then notification 3 in a POST of its own. -/
example : (runB (fun k => if k = 1 then .call else .note) init
    [.send 0, .bsend [0] 1, .bsend [0, 1] 2, .start 0, .fin 0, .start 2, .start 1, .fin 2, .fin 1, .ret 0, .ret 1, .ret 2,
     .send 3, .start 3, .fin 3, .ret 3]).isSome = true := by decide

/-- …a later member must wait for a synchronous earlier one, and the POST is not answered while a member runs. -/
example : (runB (fun _ => .note) init [.send 0, .bsend [0] 1, .start 0, .start 1]).isNone = true
    ∧ (runB (fun _ => .note) init [.send 0, .bsend [0] 1, .start 0, .fin 0, .start 1, .ret 0]).isNone = true := by
  constructor <;> decide

end Order
