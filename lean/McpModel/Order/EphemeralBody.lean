import McpModel.Order.Model
/-!
Engine `order` — sessionless streamable servers and POST bodies with several messages (C03).

A foreign peer on a protocol version before 2025-06-18 may POST a JSON-RPC batch to a sessionless
`StreamableHTTPHandler` (`Stateless`, or `GetSessionID` returning "").  The whole body is served by ONE temporary
session (`serveEphemeral`): `servePOST` hands its members to that session in body order, the session's single
dispatcher handles them as any session does — a synchronous member (notification, `initialize`) finishes before the
next member starts, calls are released by `Async` —, and the POST is answered only when the session is through: when
`ServeHTTP` has returned (for a body with calls: their responses are written) `serveEphemeral` ends the session's input
(`close(transport.connection.incoming)`) and `session.Wait()`s, for every body.  (Its early return for a body with calls whose
client has gone away is not modelled.)  Two POSTs share nothing.

`stepB` is `stepE` (one temporary session per POST) extended by `bsend`:
  `bsend ps i`  message `i` is sent in one POST body in which `ps` stand before it (`send i` does what `bsend [] i` does; no lemma states it, and the monitor lists `snd` and `bsnd []` separately);
  `start i`     enabled only when every SYNCHRONOUS member before `i` in its body is done (members that are calls may
                still be running, or may not even have started their user code: `Async` released the dispatcher);
  `ret i`       the POST that carried `i` is answered: `i` and every other member of its body are done.
This file is linked into the driver: core Lean only; the theorems are in `EphemeralBodyProps`.
-/
namespace Order

def stepB (kind : Nat → Kind) (s : State) : Label → Option State
  | .send i => if s.phase i = .unsent then some (s.setPhase i .sending) else none
  | .bsend ps i =>
    if s.phase i = .unsent ∧ ∀ p ∈ ps, s.phase p ≠ .unsent then
      some { (s.setPhase i .sending) with after := s.after ++ ps.map fun p => (p, i) }
    else none
  | .start i =>
    if s.phase i = .sending ∧ ∀ p ∈ s.after, p.2 = i → (kind p.1).sync = true → s.phase p.1 = .done then
      some (s.setPhase i .running)
    else none
  | .cb i => if s.phase i = .running then some s else none
  | .fin i => if s.phase i = .running then some (s.setPhase i .done) else none
  | .ret i =>
    if i ∈ s.returned then none
    else if s.phase i = .done ∧ ∀ p ∈ s.after, (p.2 = i → s.phase p.1 = .done) ∧ (p.1 = i → s.phase p.2 = .done) then
      some { s with returned := i :: s.returned }
    else none
  | _ => none

def runB (kind : Nat → Kind) : State → List Label → Option State
  | s, [] => some s
  | s, l :: ls =>
    match stepB kind s l with
    | some s' => runB kind s' ls
    | none => none

end Order
