import McpModel.Order.Model
/-
Engine `order` — fan-out: one sender, SEVERAL receiving peers.

`Model.lean` describes one direction of one session pair.  A `Client` connected to several servers, or a
`Server` with several client sessions, is a family of such pairs — one `State` per (direction, receiving
peer), indexed by a natural number — which share nothing but the sender.  What couples them is a
*notifying method that addresses every session*: `Client.AddRoots` / `RemoveRoots`
(`changeAndNotify` → `notifySessions` over a snapshot of the client's sessions), `Server.ResourceUpdated`
(the legacy sessions subscribed to the URI) and the server's debounced list-changed notifications
(`Server.notifySessions`).  `notifySessions` (mcp/shared.go) is

    for _, s := range sessions { req := newRequest(s, params); if err := handleNotify(ctx, method, req); err != nil { logger.Warn(…) } }

— one per-session send after the other, each of them a complete `Notify` (regenerated structural fact
`order.fanout_loop`: no `go` statement, no `return`/`break`/`goto` in the loop, `handleNotify` called as
an expression), and the method returns after the loop.  Labels:

  `fcall g`  the notifying method `g` begins; its session snapshot is `copies g` — the per-session copies
             of the notification, each a message of its own (own id, own pair, own handler duration).
  `msg l`    a label of `Model.lean` for the pair `pair l.id`.  For a copy `c` of `g` (`grp c = some g`)
             `send c` is the loop taking the next session — enabled only while `c` is still to be sent and
             no other send of `g` is under way — and `ret c` ends that iteration.
  `ferr c`   the per-session send of `c` failed (`logger.Warn`, the loop goes on); no `ret c` then.
  `fret g`   the notifying method returns: enabled only when every session of the snapshot has been
             dealt with and no send is under way.

The order in which the snapshot is walked is not fixed (`ResourceUpdated` ranges over a map).  Messages
that are not copies of a fan-out (`grp = none`) — and the copies of a *debounced* list-changed
notification, whose notifying method no caller can observe returning: the ordering clause applies to each
per-session send from the instant that send has returned — are unconstrained `msg` labels.
The per-pair step function is a parameter (`step kind`, or `stepE` for the temporary sessions of a
stateless streamable server).  Core Lean only (linked into the driver).
-/
namespace Order

/-- The message a label is about. -/
def Label.id : Label → Nat
  | .send i | .bsend _ i | .write i | .ret i | .disp i | .rel i | .start i | .cb i | .fin i => i

/-- Static addressing: which pair a message travels on, which fan-out it is a copy of, and the session
snapshot of every fan-out. -/
structure Topo where
  pair : Nat → Nat
  grp : Nat → Option Nat
  copies : Nat → List Nat

inductive FLabel where
  | msg (l : Label)
  | fcall (g : Nat)
  | ferr (c : Nat)
  | fret (g : Nat)
deriving DecidableEq, Repr

structure FState where
  peers : Nat → State
  /-- per fan-out: the copies the loop has not reached yet -/
  todo : Nat → List Nat
  /-- per fan-out: the copy whose `handleNotify` is under way -/
  cur : Nat → Option Nat
  called : List Nat
  freturned : List Nat
  /-- copies whose per-session send reported an error -/
  failed : List Nat

def finit : FState :=
  { peers := fun _ => init, todo := fun _ => [], cur := fun _ => none, called := [], freturned := [], failed := [] }

def FState.setPeer (S : FState) (p : Nat) (s : State) : FState :=
  { S with peers := fun q => if q = p then s else S.peers q }

def FState.setTodo (S : FState) (g : Nat) (l : List Nat) : FState :=
  { S with todo := fun h => if h = g then l else S.todo h }

def FState.setCur (S : FState) (g : Nat) (c : Option Nat) : FState :=
  { S with cur := fun h => if h = g then c else S.cur h }

/-- What the fan-out discipline adds to a pair label of a copy of `g`. -/
def fgate (S : FState) (g : Nat) : Label → Option FState
  | .send c => if c ∈ S.todo g ∧ S.cur g = none then some ((S.setTodo g ((S.todo g).erase c)).setCur g (some c)) else none
  | .ret c => if S.cur g = some c then some (S.setCur g none) else none
  | .bsend _ _ => none   -- a copy is sent by the notifying method, one `send` per session; bodies are client→server POSTs
  | _ => some S

/-- One atomic step of the family; `σ` is the step function of a pair. -/
def fstep (σ : State → Label → Option State) (t : Topo) (S : FState) : FLabel → Option FState
  | .msg l =>
    match σ (S.peers (t.pair l.id)) l with
    | none => none
    | some s' =>
      match t.grp l.id with
      | none => some (S.setPeer (t.pair l.id) s')
      | some g => (fgate S g l).map fun S' => S'.setPeer (t.pair l.id) s'
  | .fcall g =>
    if g ∈ S.called then none else some { (S.setTodo g (t.copies g)) with called := g :: S.called }
  | .ferr c =>
    match t.grp c with
    | some g => if S.cur g = some c then some { (S.setCur g none) with failed := c :: S.failed } else none
    | none => none
  | .fret g =>
    if g ∈ S.called ∧ g ∉ S.freturned ∧ S.todo g = [] ∧ S.cur g = none then
      some { S with freturned := g :: S.freturned }
    else none

def frun (σ : State → Label → Option State) (t : Topo) : FState → List FLabel → Option FState
  | S, [] => some S
  | S, l :: ls =>
    match fstep σ t S l with
    | some S' => frun σ t S' ls
    | none => none

/-- Generic run of a pair (`run kind = runG (step kind)`, `runE = runG stepE`). -/
def runG (σ : State → Label → Option State) : State → List Label → Option State
  | s, [] => some s
  | s, l :: ls =>
    match σ s l with
    | some s' => runG σ s' ls
    | none => none

/-- The labels of pair `p` in a run of the family. -/
def proj (t : Topo) (p : Nat) (ls : List FLabel) : List Label :=
  ls.filterMap fun
    | .msg l => if t.pair l.id = p then some l else none
    | _ => none

/-! ### What an observer sees -/

inductive FEv where
  | msg (e : Ev)
  | fcall (g : Nat)
  | ferr (c : Nat)
  | fret (g : Nat)
  /-- message `i` enters the handler queue of the receiving connection (`acceptRequest`, the instant before
  `handlerQueue = append(handlerQueue, req)`; one reader goroutine per connection).  The model has one FIFO
  between `write` and `disp`: messages leave it (`disp`) in the order in which they entered it, so the model's
  counterpart of the order of these events is the order of its `disp` labels. -/
  | enq (i : Nat)
deriving DecidableEq, Repr

def FLabel.vis : FLabel → Option FEv
  | .msg l => l.vis.map .msg
  | .fcall g => some (.fcall g)
  | .ferr c => some (.ferr c)
  | .fret g => some (.fret g)

def fvisible (ls : List FLabel) : List FEv := ls.filterMap FLabel.vis

def Ev.id : Ev → Nat
  | .snd i | .bsnd _ i | .ret i | .beg i | .fin i => i

def Ev.label : Ev → Label
  | .snd i => .send i
  | .bsnd ps i => .bsend ps i
  | .ret i => .ret i
  | .beg i => .start i
  | .fin i => .fin i

def FEv.label : FEv → Option FLabel
  | .msg e => some (.msg e.label)
  | .fcall g => some (.fcall g)
  | .ferr c => some (.ferr c)
  | .fret g => some (.fret g)
  | .enq _ => none

/-- The fan-out discipline alone, on what is observed: every label of the discipline is visible, so the
observed log obeys it iff it is a run of the family whose pairs accept everything. -/
def fanDiscipline (t : Topo) (evs : List FEv) : Bool :=
  (frun (fun s _ => some s) t finit (evs.filterMap FEv.label)).isSome

end Order
