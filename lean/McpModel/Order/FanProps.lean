import McpModel.Order.Props
import McpModel.Order.MonLemmas
/-
Engine `order` — property theorems for C03 about the family model `fstep` (Fan.lean) and the family monitor `FMon`
(Monitor.lean; the one the driver evaluates).  Three parts: the fan-out (one sender, several receiving peers: the ordering
clause for every addressed peer, `fan_monitor_accepts_runs`); stateless streamable servers (every pair a temporary session per
message, `stepE`) with the one-pair corollaries `pair_monitor_accepts_runs`, `pair_monitor_accepts_ephemeral_runs`; the order
of entering the handler queue for the members of a body (`QSim`, `fan_monitor_accepts_runs_with_queue_order`).

All theorems quantify over ALL addressings `t : Topo` (which pair a message travels on, which messages are
the per-session copies of which fan-out), ALL classifications `kind` and ALL label lists of the family
model `fstep` (Fan.lean).
-/
namespace Order

theorem runG_eq (σ : State → Label → Option State) (s : State) (ls : List Label) : runG σ s ls = Run σ s ls := by
  induction ls generalizing s with
  | nil => rfl
  | cons l ls ih => simp only [runG, Run]; cases σ s l <;> simp [ih]

theorem run_eq_runG (kind : Nat → Kind) (s : State) (ls : List Label) : run kind s ls = runG (step kind) s ls :=
  (run_eq ..).trans (runG_eq ..).symm

theorem runE_eq_runG (s : State) (ls : List Label) : runE s ls = runG stepE s ls := (runE_eq ..).trans (runG_eq ..).symm

theorem frun_eq (σ : State → Label → Option State) (t : Topo) (S : FState) (ls : List FLabel) :
    frun σ t S ls = Run (fstep σ t) S ls := by
  induction ls generalizing S with
  | nil => rfl
  | cons l ls ih => simp only [frun, Run]; cases fstep σ t S l <;> simp [ih]

theorem frun_cons_some {σ : State → Label → Option State} {t : Topo} {S S' : FState} {l : FLabel} {ls : List FLabel}
    (h : frun σ t S (l :: ls) = some S') : ∃ M, fstep σ t S l = some M ∧ frun σ t M ls = some S' := by
  simp only [frun_eq] at h ⊢; exact Run.cons_some h

theorem frun_append_some {σ : State → Label → Option State} {t : Topo} {S S' : FState} {a b : List FLabel}
    (h : frun σ t S (a ++ b) = some S') : ∃ M, frun σ t S a = some M ∧ frun σ t M b = some S' := by
  simp only [frun_eq] at h ⊢; exact Run.append_some h

theorem frun_split {σ : State → Label → Option State} {t : Topo} {S S' : FState} {a b : List FLabel} {l : FLabel}
    (h : frun σ t S (a ++ l :: b) = some S') :
    ∃ M M', frun σ t S a = some M ∧ fstep σ t M l = some M' ∧ frun σ t M' b = some S' := by
  simp only [frun_eq] at h ⊢; exact Run.split h

@[simp] theorem setPeer_peers (S : FState) (p : Nat) (s : State) (q : Nat) :
    (S.setPeer p s).peers q = if q = p then s else S.peers q := rfl
@[simp] theorem setPeer_todo (S : FState) (p : Nat) (s : State) : (S.setPeer p s).todo = S.todo := rfl
@[simp] theorem setPeer_cur (S : FState) (p : Nat) (s : State) : (S.setPeer p s).cur = S.cur := rfl
@[simp] theorem setPeer_called (S : FState) (p : Nat) (s : State) : (S.setPeer p s).called = S.called := rfl
@[simp] theorem setPeer_freturned (S : FState) (p : Nat) (s : State) : (S.setPeer p s).freturned = S.freturned := rfl
@[simp] theorem setPeer_failed (S : FState) (p : Nat) (s : State) : (S.setPeer p s).failed = S.failed := rfl
@[simp] theorem setTodo_peers (S : FState) (g : Nat) (l : List Nat) : (S.setTodo g l).peers = S.peers := rfl
@[simp] theorem setTodo_todo (S : FState) (g : Nat) (l : List Nat) (h : Nat) :
    (S.setTodo g l).todo h = if h = g then l else S.todo h := rfl
@[simp] theorem setTodo_cur (S : FState) (g : Nat) (l : List Nat) : (S.setTodo g l).cur = S.cur := rfl
@[simp] theorem setTodo_called (S : FState) (g : Nat) (l : List Nat) : (S.setTodo g l).called = S.called := rfl
@[simp] theorem setTodo_freturned (S : FState) (g : Nat) (l : List Nat) : (S.setTodo g l).freturned = S.freturned := rfl
@[simp] theorem setTodo_failed (S : FState) (g : Nat) (l : List Nat) : (S.setTodo g l).failed = S.failed := rfl
@[simp] theorem setCur_peers (S : FState) (g : Nat) (c : Option Nat) : (S.setCur g c).peers = S.peers := rfl
@[simp] theorem setCur_todo (S : FState) (g : Nat) (c : Option Nat) : (S.setCur g c).todo = S.todo := rfl
@[simp] theorem setCur_cur (S : FState) (g : Nat) (c : Option Nat) (h : Nat) :
    (S.setCur g c).cur h = if h = g then c else S.cur h := rfl
@[simp] theorem setCur_called (S : FState) (g : Nat) (c : Option Nat) : (S.setCur g c).called = S.called := rfl
@[simp] theorem setCur_freturned (S : FState) (g : Nat) (c : Option Nat) : (S.setCur g c).freturned = S.freturned := rfl
@[simp] theorem setCur_failed (S : FState) (g : Nat) (c : Option Nat) : (S.setCur g c).failed = S.failed := rfl

theorem fgate_cases {S S1 : FState} {g : Nat} {l : Label} (h : fgate S g l = some S1) :
    (∃ c, l = .send c ∧ c ∈ S.todo g ∧ S.cur g = none ∧ S1 = (S.setTodo g ((S.todo g).erase c)).setCur g (some c)) ∨
    (∃ c, l = .ret c ∧ S.cur g = some c ∧ S1 = S.setCur g none) ∨
    ((∀ c, l ≠ .send c) ∧ (∀ c, l ≠ .ret c) ∧ S1 = S) := by
  cases l <;> simp only [fgate] at h
  case send c =>
    split at h
    · rename_i hc; exact .inl ⟨c, rfl, hc.1, hc.2, (Option.some.inj h).symm⟩
    · cases h
  case ret c =>
    split at h
    · rename_i hc; exact .inr (.inl ⟨c, rfl, hc, (Option.some.inj h).symm⟩)
    · cases h
  case bsend ps c => cases h
  all_goals exact .inr (.inr ⟨nofun, nofun, (Option.some.inj h).symm⟩)

theorem fgate_frame {S S1 : FState} {g : Nat} {l : Label} (h : fgate S g l = some S1) :
    S1.peers = S.peers ∧ S1.called = S.called ∧ S1.freturned = S.freturned ∧ S1.failed = S.failed := by
  rcases fgate_cases h with ⟨c, _, _, _, rfl⟩ | ⟨c, _, _, rfl⟩ | ⟨_, _, rfl⟩ <;> exact ⟨rfl, rfl, rfl, rfl⟩

theorem fstep_some {σ : State → Label → Option State} {t : Topo} {S S' : FState} {l : FLabel}
    (h : fstep σ t S l = some S') :
    match l with
    | .msg l0 => ∃ s', σ (S.peers (t.pair l0.id)) l0 = some s' ∧
        ((t.grp l0.id = none ∧ S' = S.setPeer (t.pair l0.id) s') ∨
         (∃ g S1, t.grp l0.id = some g ∧ fgate S g l0 = some S1 ∧ S' = S1.setPeer (t.pair l0.id) s'))
    | .fcall g => g ∉ S.called ∧ S' = { (S.setTodo g (t.copies g)) with called := g :: S.called }
    | .ferr c => ∃ g, t.grp c = some g ∧ S.cur g = some c ∧ S' = { (S.setCur g none) with failed := c :: S.failed }
    | .fret g => (g ∈ S.called ∧ g ∉ S.freturned ∧ S.todo g = [] ∧ S.cur g = none) ∧
        S' = { S with freturned := g :: S.freturned } := by
  cases l <;> simp only [fstep] at h
  case msg l0 =>
    cases hs : σ (S.peers (t.pair l0.id)) l0 with
    | none => simp [hs] at h
    | some s' =>
      refine ⟨s', hs, ?_⟩
      simp only [hs] at h
      cases hg : t.grp l0.id with
      | none => rw [hg] at h; exact .inl ⟨rfl, (Option.some.inj h).symm⟩
      | some g =>
        simp only [hg, Option.map_eq_some_iff] at h
        obtain ⟨S1, h1, h2⟩ := h
        exact .inr ⟨g, S1, rfl, h1, h2.symm⟩
  case fcall g =>
    split at h
    · cases h
    · rename_i hn; exact ⟨hn, (Option.some.inj h).symm⟩
  case ferr c =>
    split at h
    · rename_i g hg
      split at h
      · rename_i hc; exact ⟨g, hg, hc, (Option.some.inj h).symm⟩
      · cases h
    · cases h
  case fret g =>
    split at h
    · rename_i hc; exact ⟨hc, (Option.some.inj h).symm⟩
    · cases h

theorem fstep_peers {σ : State → Label → Option State} {t : Topo} {S S' : FState} {l : FLabel}
    (h : fstep σ t S l = some S') (p : Nat) :
    (∃ l0, l = .msg l0 ∧ t.pair l0.id = p ∧ σ (S.peers p) l0 = some (S'.peers p)) ∨
    ((∀ l0, l = .msg l0 → t.pair l0.id ≠ p) ∧ S'.peers p = S.peers p) := by
  cases l <;> have hs := fstep_some h
  case msg l0 =>
    obtain ⟨s', hσ, hc⟩ := hs
    have key : S'.peers = fun q => if q = t.pair l0.id then s' else S.peers q := by
      rcases hc with ⟨_, rfl⟩ | ⟨g, S1, _, hgate, rfl⟩
      · rfl
      · show (fun q => if q = t.pair l0.id then s' else S1.peers q) = _
        rw [(fgate_frame hgate).1]
    rw [key]
    by_cases hp : t.pair l0.id = p
    · subst hp; exact .inl ⟨l0, rfl, rfl, hσ.trans (congrArg some (if_pos rfl).symm)⟩
    · exact .inr ⟨fun l1 e => by cases e; exact hp, if_neg (Ne.symm hp)⟩
  case fcall g => obtain ⟨_, rfl⟩ := hs; exact .inr ⟨nofun, rfl⟩
  case ferr c => obtain ⟨g, _, _, rfl⟩ := hs; exact .inr ⟨nofun, rfl⟩
  case fret g => obtain ⟨_, rfl⟩ := hs; exact .inr ⟨nofun, rfl⟩

theorem peers_preserves {σ : State → Label → Option State} {t : Topo} {S S' : FState} {l : FLabel}
    (hs : fstep σ t S l = some S') (p : Nat) {P : State → Prop}
    (hstep : ∀ {l0 : Label} {s' : State}, σ (S.peers p) l0 = some s' → P (S.peers p) → P s') (h : P (S.peers p)) :
    P (S'.peers p) := by
  rcases fstep_peers hs p with ⟨l0, _, _, hp⟩ | ⟨_, hp⟩
  · exact hstep hp h
  · exact hp ▸ h

/-- Projection: what pair `p` does in a run of the family is a run of the pair model. -/
theorem frun_proj {σ : State → Label → Option State} {t : Topo} {S S' : FState} {ls : List FLabel}
    (h : frun σ t S ls = some S') (p : Nat) : runG σ (S.peers p) (proj t p ls) = some (S'.peers p) := by
  induction ls generalizing S with
  | nil => simp [frun] at h; subst h; rfl
  | cons l ls ih =>
    obtain ⟨M, h1, h2⟩ := frun_cons_some h
    rcases fstep_peers h1 p with ⟨l0, e, hp, hs⟩ | ⟨hne, hs⟩
    · subst e
      simp only [proj, List.filterMap_cons, hp, if_true, runG, hs]
      exact ih h2
    · have : proj t p (l :: ls) = proj t p ls := by
        cases l with
        | msg l0 => simp [proj, hne l0 rfl]
        | _ => simp [proj]
      rw [this, ← hs]
      exact ih h2

theorem frun_proj_run {kind : Nat → Kind} {t : Topo} {S : FState} {ls : List FLabel}
    (h : frun (step kind) t finit ls = some S) (p : Nat) : run kind init (proj t p ls) = some (S.peers p) := by
  rw [run_eq_runG]; exact frun_proj h p

theorem proj_append (t : Topo) (p : Nat) (a b : List FLabel) : proj t p (a ++ b) = proj t p a ++ proj t p b := by
  simp [proj]

theorem proj_msg (t : Topo) (p : Nat) (l : Label) (ls : List FLabel) (h : t.pair l.id = p) :
    proj t p (.msg l :: ls) = l :: proj t p ls := by
  simp [proj, h]

theorem proj_fcall (t : Topo) (p g : Nat) (ls : List FLabel) : proj t p (.fcall g :: ls) = proj t p ls := by simp [proj]
theorem proj_fret (t : Topo) (p g : Nat) (ls : List FLabel) : proj t p (.fret g :: ls) = proj t p ls := by simp [proj]
theorem proj_ferr (t : Topo) (p c : Nat) (ls : List FLabel) : proj t p (.ferr c :: ls) = proj t p ls := by simp [proj]

theorem mem_of_mem_proj {t : Topo} {p : Nat} {l : Label} {ls : List FLabel} (h : l ∈ proj t p ls) : FLabel.msg l ∈ ls := by
  simp only [proj, List.mem_filterMap] at h
  obtain ⟨x, hx, hv⟩ := h
  cases x with
  | msg l0 =>
    simp at hv
    obtain ⟨_, e⟩ := hv
    subst e; exact hx
  | _ => simp at hv

/-- `ret i` records `i` as returned, nothing else does, and nothing forgets it: what the family needs from a pair model about
`returned` (`finv_step`, `frun_returned_has_ret`), so that the family theorems hold for `step kind` and `stepE` alike. -/
structure PairOK (σ : State → Label → Option State) : Prop where
  ret_in : ∀ {s s' : State} {i : Nat}, σ s (.ret i) = some s' → i ∈ s'.returned
  ret_mono : ∀ {s s' : State} {l : Label} {i : Nat}, σ s l = some s' → i ∈ s.returned → i ∈ s'.returned
  ret_only : ∀ {s s' : State} {l : Label} {i : Nat}, σ s l = some s' → i ∈ s'.returned → i ∈ s.returned ∨ l = .ret i

theorem pairOK_step (kind : Nat → Kind) : PairOK (step kind) :=
  ⟨fun h => step_ret_returned h, fun h hi => step_returned_mono h hi, fun h hi => step_returned_only h hi⟩

theorem pairOK_stepE : PairOK stepE := by
  refine ⟨fun h => ?_, fun {s s' l i} h hi => ?_, fun {s s' l i} h hi => ?_⟩
  · obtain ⟨_, rfl⟩ := stepE_some h
    exact List.mem_cons_self ..
  · cases l <;> have hs := stepE_some h
    case ret k => obtain ⟨_, rfl⟩ := hs; exact List.mem_cons_of_mem _ hi
    case send k | start k | cb k | fin k => obtain ⟨_, rfl⟩ := hs; exact hi
    all_goals exact hs.elim
  · cases l <;> have hs := stepE_some h
    case ret k =>
      obtain ⟨_, rfl⟩ := hs
      rcases List.mem_cons.1 hi with rfl | hi
      · exact .inr rfl
      · exact .inl hi
    case send k | start k | cb k | fin k => obtain ⟨_, rfl⟩ := hs; exact .inl hi
    all_goals exact hs.elim

/-- `copy`: once the notifying method `g` has begun, each of its copies is still to be sent, is being
sent, has been sent (its per-session send returned) or failed.  `fret`: a method that has returned has
nothing left to send and no send under way — for good. -/
structure FInv (t : Topo) (S : FState) : Prop where
  todoCalled : ∀ g c, c ∈ S.todo g → g ∈ S.called
  curCalled : ∀ g c, S.cur g = some c → g ∈ S.called
  copy : ∀ g, g ∈ S.called → ∀ c, c ∈ t.copies g → t.grp c = some g →
    c ∈ S.todo g ∨ S.cur g = some c ∨ c ∈ (S.peers (t.pair c)).returned ∨ c ∈ S.failed
  fret : ∀ g, g ∈ S.freturned → g ∈ S.called ∧ S.todo g = [] ∧ S.cur g = none

theorem finv_init (t : Topo) : FInv t finit := by
  constructor <;> simp [finit]

theorem finv_setPeer {σ : State → Label → Option State} (hσ : PairOK σ) {t : Topo} {S : FState} (h : FInv t S)
    {p : Nat} {l : Label} {s' : State} (hs : σ (S.peers p) l = some s') : FInv t (S.setPeer p s') := by
  refine ⟨h.todoCalled, h.curCalled, ?_, h.fret⟩
  intro g hg c hc hgc
  rcases h.copy g hg c hc hgc with q | q | q | q
  · left; exact q
  · right; left; exact q
  · right; right; left
    simp only [setPeer_peers]
    split
    · rename_i e; rw [e] at q; exact hσ.ret_mono hs q
    · exact q
  · right; right; right; exact q

theorem finv_take {t : Topo} {S : FState} (h : FInv t S) {g c : Nat} (hct : c ∈ S.todo g) (hcur : S.cur g = none) :
    FInv t ((S.setTodo g ((S.todo g).erase c)).setCur g (some c)) := by
  have hgc : g ∈ S.called := h.todoCalled g c hct
  refine ⟨fun g' c' hc' => ?_, fun g' c' hc' => ?_, fun g' hg' c' hc' hgc' => ?_, fun g' hg' => ?_⟩
  · simp only [setCur_todo, setTodo_todo] at hc'
    split at hc'
    · rename_i e; exact e ▸ hgc
    · exact h.todoCalled g' c' hc'
  · simp only [setCur_cur] at hc'
    split at hc'
    · rename_i e; exact e ▸ hgc
    · exact h.curCalled g' c' hc'
  · simp only [setCur_todo, setTodo_todo, setCur_cur]
    by_cases e : g' = g
    · subst e
      simp only [if_true]
      rcases h.copy g' hg' c' hc' hgc' with q | q | q | q
      · by_cases e2 : c' = c
        · exact .inr (.inl (e2 ▸ rfl))
        · exact .inl ((List.mem_erase_of_ne e2).2 q)
      · rw [hcur] at q; cases q
      · exact .inr (.inr (.inl q))
      · exact .inr (.inr (.inr q))
    · simp only [e, if_false]; exact h.copy g' hg' c' hc' hgc'
  · obtain ⟨a, b, c0⟩ := h.fret g' hg'
    have hne : g' ≠ g := fun e => by rw [e] at b; rw [b] at hct; cases hct
    simp only [setCur_todo, setTodo_todo, setCur_cur, hne, if_false]
    exact ⟨a, b, c0⟩

theorem finv_setCur_none {t : Topo} {S : FState} (h : FInv t S) {g c : Nat} (hcur : S.cur g = some c)
    (hc : c ∈ (S.peers (t.pair c)).returned ∨ c ∈ S.failed) : FInv t (S.setCur g none) := by
  refine ⟨h.todoCalled, fun g' c' hc' => ?_, fun g' hg' c' hc' hgc' => ?_, fun g' hg' => ?_⟩
  · simp only [setCur_cur] at hc'
    split at hc'
    · cases hc'
    · exact h.curCalled g' c' hc'
  · simp only [setCur_cur]
    rcases h.copy g' hg' c' hc' hgc' with q | q | q | q
    · exact .inl q
    · by_cases e : g' = g
      · subst e; rw [hcur] at q; cases q; exact .inr (.inr hc)
      · simp only [e, if_false]; exact .inr (.inl q)
    · exact .inr (.inr (.inl q))
    · exact .inr (.inr (.inr q))
  · obtain ⟨a, b, c0⟩ := h.fret g' hg'
    have hne : g' ≠ g := fun e => by rw [e] at c0; rw [c0] at hcur; cases hcur
    simp only [setCur_cur, hne, if_false]
    exact ⟨a, b, c0⟩

theorem finv_step {σ : State → Label → Option State} (hσ : PairOK σ) {t : Topo} {S S' : FState} {l : FLabel}
    (h : FInv t S) (hs : fstep σ t S l = some S') : FInv t S' := by
  cases l with
  | msg l0 =>
    obtain ⟨s', hσs, hc⟩ := fstep_some hs
    rcases hc with ⟨_, rfl⟩ | ⟨g, S1, hg, hgate, rfl⟩
    · exact finv_setPeer hσ h hσs
    · rcases fgate_cases hgate with ⟨c, rfl, hct, hcur, rfl⟩ | ⟨c, rfl, hcur, rfl⟩ | ⟨_, _, rfl⟩
      · exact finv_setPeer hσ (finv_take h hct hcur) hσs
      · -- the per-session send returns: first the pair records it, then the loop is free
        exact finv_setCur_none (S := S.setPeer (t.pair c) s') (finv_setPeer hσ h hσs) hcur
          (.inl (by rw [setPeer_peers, if_pos rfl]; exact hσ.ret_in hσs))
      · exact finv_setPeer hσ h hσs
  | fcall g =>
    obtain ⟨hn, rfl⟩ := fstep_some hs
    refine ⟨fun g' c' hc' => ?_, fun g' c' hc' => List.mem_cons_of_mem _ (h.curCalled g' c' hc'),
      fun g' hg' c' hc' hgc' => ?_, fun g' hg' => ?_⟩
    · simp only [setTodo_todo] at hc'
      split at hc'
      · rename_i e; exact e ▸ List.mem_cons_self ..
      · exact List.mem_cons_of_mem _ (h.todoCalled g' c' hc')
    · simp only [setTodo_todo]
      by_cases e : g' = g
      · subst e; rw [if_pos rfl]; exact .inl hc'
      · rw [if_neg e]; exact h.copy g' ((List.mem_cons.1 hg').resolve_left e) c' hc' hgc'
    · obtain ⟨a, b, c0⟩ := h.fret g' hg'
      have hne : g' ≠ g := fun e => hn (e ▸ a)
      simp only [setTodo_todo, hne, if_false]
      exact ⟨List.mem_cons_of_mem _ a, b, c0⟩
  | ferr c =>
    obtain ⟨g, hg, hcur, rfl⟩ := fstep_some hs
    -- the failure is recorded, then the loop is free
    exact finv_setCur_none (S := { S with failed := c :: S.failed })
      ⟨h.todoCalled, h.curCalled, fun g' hg' c' hc' hgc' =>
        (h.copy g' hg' c' hc' hgc').imp id (Or.imp id (Or.imp id (List.mem_cons_of_mem _))), h.fret⟩
      hcur (.inr (List.mem_cons_self ..))
  | fret g =>
    obtain ⟨hc, rfl⟩ := fstep_some hs
    refine ⟨h.todoCalled, h.curCalled, h.copy, fun g' hg' => ?_⟩
    rcases List.mem_cons.1 hg' with rfl | hg'
    · exact ⟨hc.1, hc.2.2.1, hc.2.2.2⟩
    · exact h.fret g' hg'

theorem finv_run {σ : State → Label → Option State} (hσ : PairOK σ) {t : Topo} {S S' : FState} {ls : List FLabel}
    (h : FInv t S) (hs : frun σ t S ls = some S') : FInv t S' :=
  Run.preserves (σ := fstep σ t) (finv_step hσ) h (frun_eq .. ▸ hs)

theorem frun_returned_has_ret {σ : State → Label → Option State} (hσ : PairOK σ) {t : Topo} {S S' : FState}
    {ls : List FLabel} (h : frun σ t S ls = some S') {c : Nat} (hc : c ∈ (S'.peers (t.pair c)).returned) :
    c ∈ (S.peers (t.pair c)).returned ∨ FLabel.msg (.ret c) ∈ ls := by
  refine Run.label_of_step (σ := fstep σ t) (I := fun _ => True) (P := fun S => c ∈ (S.peers (t.pair c)).returned)
    (fun _ _ => trivial) (fun {S S' l} _ h1 q => ?_) trivial (frun_eq .. ▸ h) hc
  rcases fstep_peers h1 (t.pair c) with ⟨l0, e, _, hs⟩ | ⟨_, hs⟩
  · exact (hσ.ret_only hs q).imp id fun r => e.trans (congrArg FLabel.msg r)
  · exact .inl (hs ▸ q)

theorem fstep_failed_only {σ : State → Label → Option State} {t : Topo} {S S' : FState} {l : FLabel}
    (h : fstep σ t S l = some S') {c : Nat} (hc : c ∈ S'.failed) : c ∈ S.failed ∨ l = .ferr c := by
  cases l <;> have hs := fstep_some h
  case msg l0 =>
    obtain ⟨s', _, ⟨_, rfl⟩ | ⟨g, S1, _, hgate, rfl⟩⟩ := hs
    · exact .inl hc
    · exact .inl ((fgate_frame hgate).2.2.2 ▸ hc)
  case fcall g => obtain ⟨_, rfl⟩ := hs; exact .inl hc
  case ferr c' =>
    obtain ⟨g, _, _, rfl⟩ := hs
    rcases List.mem_cons.1 hc with rfl | hc
    · exact .inr rfl
    · exact .inl hc
  case fret g => obtain ⟨_, rfl⟩ := hs; exact .inl hc

theorem frun_failed_has_ferr {σ : State → Label → Option State} {t : Topo} {S S' : FState}
    {ls : List FLabel} (h : frun σ t S ls = some S') {c : Nat} (hc : c ∈ S'.failed) :
    c ∈ S.failed ∨ FLabel.ferr c ∈ ls :=
  Run.label_of_step (σ := fstep σ t) (I := fun _ => True) (P := fun S => c ∈ S.failed) (fun _ _ => trivial)
    (fun _ h1 q => fstep_failed_only h1 q) trivial (frun_eq .. ▸ h) hc

theorem finv_fret_copy {σ : State → Label → Option State} {t : Topo} {S S' : FState} (hinv : FInv t S) {g : Nat}
    (hs : fstep σ t S (.fret g) = some S') {c : Nat} (hc : c ∈ t.copies g) (hg : t.grp c = some g) :
    c ∈ (S.peers (t.pair c)).returned ∨ c ∈ S.failed := by
  obtain ⟨hen, _⟩ := fstep_some hs
  rcases hinv.copy g hen.1 c hc hg with q | q | q | q
  · rw [hen.2.2.1] at q; simp at q
  · rw [hen.2.2.2] at q; cases q
  · left; exact q
  · right; exact q

/-- State form: in every reachable state in which the notifying method `g` can return, the per-session send
of each of its copies has returned (the copy is recorded as returned on its pair) or has failed. -/
theorem fanout_sends_over_when_it_returns {σ : State → Label → Option State} (hσ : PairOK σ) {t : Topo}
    {ls : List FLabel} {S S' : FState} (h : frun σ t finit ls = some S) {g : Nat}
    (hs : fstep σ t S (.fret g) = some S') {c : Nat} (hc : c ∈ t.copies g) (hg : t.grp c = some g) :
    c ∈ (S.peers (t.pair c)).returned ∨ c ∈ S.failed :=
  finv_fret_copy (finv_run hσ (finv_init t) h) hs hc hg

/-- Trace form, for either pair model: when the notifying method `g`
returns, the per-session send of every one of its copies has returned or failed before. -/
theorem fanout_returns_after_every_send {σ : State → Label → Option State} (hσ : PairOK σ) {t : Topo}
    {ls : List FLabel} {S : FState} {g : Nat} (h : frun σ t finit (ls ++ [.fret g]) = some S)
    {c : Nat} (hc : c ∈ t.copies g) (hg : t.grp c = some g) :
    FLabel.msg (.ret c) ∈ ls ∨ FLabel.ferr c ∈ ls := by
  obtain ⟨M, _, hm, hstep, _⟩ := frun_split h
  rcases fanout_sends_over_when_it_returns hσ hm hstep hc hg with q | q
  · rcases frun_returned_has_ret hσ hm q with r | r
    · simp [finit, init] at r
    · left; exact r
  · rcases frun_failed_has_ferr hm q with r | r
    · simp [finit] at r
    · right; exact r

/-- With the pair model of a session (`step kind`): when the notifying method returns, every copy whose
send did not fail is already in its receiver's FIFO. -/
theorem fanout_returns_after_every_write {kind : Nat → Kind} {t : Topo}
    {ls : List FLabel} {S : FState} {g : Nat} (h : frun (step kind) t finit (ls ++ [.fret g]) = some S)
    {c : Nat} (hc : c ∈ t.copies g) (hg : t.grp c = some g) (hn : kind c = .note) (hf : FLabel.ferr c ∉ ls) :
    FLabel.msg (.write c) ∈ ls := by
  obtain ⟨M, hm, _⟩ := frun_append_some h
  rcases fanout_returns_after_every_send (pairOK_step kind) h hc hg with q | q
  · -- split the run at the `ret c`
    obtain ⟨a, b, e⟩ := List.append_of_mem q
    subst e
    have hm' : frun (step kind) t finit ((a ++ [.msg (.ret c)]) ++ b) = some M := by simpa using hm
    obtain ⟨M1, hm1, _⟩ := frun_append_some hm'
    have hp := frun_proj_run hm1 (t.pair c)
    rw [proj_append, proj_msg t (t.pair c) (.ret c) [] rfl] at hp
    have hw := notify_returns_after_queued (by simpa [proj] using hp) hn
    have := mem_of_mem_proj hw
    simp [this]
  · exact absurd q hf

/-- The fan-out discipline is not vacuous: a method cannot return while a copy is still to be sent, and a
second send cannot begin while one is under way. -/
example :
    let t : Topo := { pair := fun i => i, grp := fun _ => some 0, copies := fun _ => [1, 2] }
    (frun (step fun _ => .note) t finit [.fcall 0, .msg (.send 1), .msg (.write 1), .msg (.ret 1), .fret 0]).isSome = false
    ∧ (frun (step fun _ => .note) t finit [.fcall 0, .msg (.send 1), .msg (.send 2)]).isSome = false
    ∧ (frun (step fun _ => .note) t finit [.fcall 0, .msg (.send 2), .msg (.write 2), .msg (.ret 2), .msg (.send 1), .ferr 1, .fret 0]).isSome = true := by
  refine ⟨?_, ?_, ?_⟩ <;> decide

theorem fstep_msg_pair {σ : State → Label → Option State} {t : Topo} {S S' : FState} {l0 : Label}
    (h : fstep σ t S (.msg l0) = some S') : σ (S.peers (t.pair l0.id)) l0 = some (S'.peers (t.pair l0.id)) := by
  rcases fstep_peers h (t.pair l0.id) with ⟨l1, e, _, h1⟩ | ⟨h1, _⟩
  · cases e; exact h1
  · exact absurd rfl (h1 l0 rfl)

theorem fret_copy_returned {kind : Nat → Kind} {t : Topo} {l₁ : List FLabel} {g c : Nat} {S1 S2 : FState}
    (hs1 : frun (step kind) t finit l₁ = some S1) (hfret : fstep (step kind) t S1 (.fret g) = some S2)
    (hc : c ∈ t.copies g) (hg : t.grp c = some g) (hf : FLabel.ferr c ∉ l₁) :
    c ∈ (S1.peers (t.pair c)).returned :=
  (fanout_sends_over_when_it_returns (pairOK_step kind) hs1 hfret hc hg).resolve_right fun q =>
    hf ((frun_failed_has_ferr hs1 q).resolve_left nofun)

/-- If the notifying method `g` has returned, and afterwards the
sending call of a message `j` for a peer to which `g` sent a copy `c` (without error) begins, then the
handler of `c` has finished when the handler of `j` starts. -/
theorem fanout_end_before_later_start {kind : Nat → Kind} {t : Topo} {l₁ l₂ l₃ : List FLabel} {g c j : Nat} {S : FState}
    (h : frun (step kind) t finit (l₁ ++ .fret g :: (l₂ ++ .msg (.send j) :: (l₃ ++ [.msg (.start j)]))) = some S)
    (hc : c ∈ t.copies g) (hg : t.grp c = some g) (hsync : (kind c).sync = true) (hp : t.pair c = t.pair j)
    (hf : FLabel.ferr c ∉ l₁) :
    FLabel.msg (.fin c) ∈ l₁ ++ .fret g :: (l₂ ++ .msg (.send j) :: l₃) := by
  have h' : frun (step kind) t finit ((l₁ ++ .fret g :: (l₂ ++ .msg (.send j) :: l₃)) ++ [.msg (.start j)]) = some S := by
    simpa [List.append_assoc] using h
  obtain ⟨M, _, hm, hstartF, _⟩ := frun_split h'
  have hstart : step kind (M.peers (t.pair j)) (.start j) = some _ := fstep_msg_pair hstartF
  obtain ⟨S1, _, hs1, hfret, _⟩ := frun_split hm
  have hret : c ∈ (S1.peers (t.pair j)).returned := hp ▸ fret_copy_returned hs1 hfret hc hg hf
  -- the pair of `j`, projected
  have hpP := frun_proj_run hm (t.pair j)
  have hp1 := frun_proj_run hs1 (t.pair j)
  have e : proj t (t.pair j) (l₁ ++ .fret g :: (l₂ ++ .msg (.send j) :: l₃))
      = proj t (t.pair j) l₁ ++ (proj t (t.pair j) l₂ ++ .send j :: proj t (t.pair j) l₃) := by
    rw [proj_append, proj_fret, proj_append, proj_msg t (t.pair j) (.send j) l₃ rfl]
  rw [e] at hpP
  obtain ⟨m1, hm1, hr1⟩ := run_append_some hpP
  have : m1 = S1.peers (t.pair j) := Option.some.inj (hm1.symm.trans hp1)
  subst this
  obtain ⟨m2, _, hm2, hsend, hr3⟩ := run_split hr1
  have hpred : (c, j) ∈ (M.peers (t.pair j)).pred :=
    run_pred_mono hr3 (step_send_pred hsend (run_returned_mono hm2 hret) hsync)
  rw [← e] at hpP
  exact mem_of_mem_proj (fin_before_start hpP hpred hstart)

/-- Non-vacuity: AddRoots to two servers, then a tool call to the second. -/
example :
    let t : Topo := { pair := fun i => if i = 1 then 0 else 1, grp := fun i => if i ≤ 2 then some 0 else none, copies := fun _ => [1, 2] }
    (frun (step fun i => if i ≤ 2 then .note else .call) t finit
      [.fcall 0, .msg (.send 1), .msg (.write 1), .msg (.ret 1), .msg (.send 2), .msg (.write 2), .msg (.ret 2), .fret 0,
       .msg (.send 3), .msg (.write 3), .msg (.disp 2), .msg (.start 2), .msg (.fin 2), .msg (.disp 3), .msg (.rel 3), .msg (.start 3)]).isSome = true := by
  decide

/-- The hypothesis "the send of the copy did not fail" is needed: a copy whose send failed was never
written, so nothing orders a later message behind it. -/
example :
    let t : Topo := { pair := fun _ => 0, grp := fun i => if i = 1 then some 0 else none, copies := fun _ => [1] }
    (frun (step fun _ => .note) t finit
      [.fcall 0, .msg (.send 1), .ferr 1, .fret 0, .msg (.send 3), .msg (.write 3), .msg (.disp 3), .msg (.start 3)]).isSome = true := by
  decide

theorem step_unsent_or_pred {kind : Nat → Kind} {s s' : State} {l : Label} (hinv : Inv kind s) (h : step kind s l = some s')
    {i j : Nat} (hu : s.phase j = .unsent) (hi : i ∈ s.returned) (hs : (kind i).sync = true) :
    s'.phase j = .unsent ∨ (i, j) ∈ s'.pred := by
  rcases step_unsent_stays hinv h hu with q | rfl | ⟨ps, rfl⟩
  · exact .inl q
  · exact .inr (step_send_pred h hi hs)
  · exact .inr (step_bsend_pred h (.inr hi) hs)

/-- Every pair satisfies the pair invariant, and a copy of a fan-out whose notifying method has not begun
is unsent. -/
structure FInvK (kind : Nat → Kind) (t : Topo) (S : FState) : Prop where
  pinv : ∀ p, Inv kind (S.peers p)
  unsent : ∀ c g, t.grp c = some g → g ∉ S.called → (S.peers (t.pair c)).phase c = .unsent

theorem finvK_init (kind : Nat → Kind) (t : Topo) : FInvK kind t finit :=
  ⟨fun _ => inv_init kind, fun _ _ _ _ => rfl⟩

theorem fstep_called {σ : State → Label → Option State} {t : Topo} {S S' : FState} {l : FLabel}
    (h : fstep σ t S l = some S') {g : Nat} (hg : g ∈ S.called) : g ∈ S'.called := by
  cases l <;> have hs := fstep_some h
  case msg l0 =>
    obtain ⟨s', _, ⟨_, rfl⟩ | ⟨g', S1, _, hgate, rfl⟩⟩ := hs
    · exact hg
    · exact (fgate_frame hgate).2.1 ▸ hg
  case fcall g' => obtain ⟨_, rfl⟩ := hs; exact List.mem_cons_of_mem _ hg
  case ferr c' => obtain ⟨_, _, _, rfl⟩ := hs; exact hg
  case fret g' => obtain ⟨_, rfl⟩ := hs; exact hg

theorem finvK_step {kind : Nat → Kind} {t : Topo} {S S' : FState} {l : FLabel}
    (hf : FInv t S) (h : FInvK kind t S) (hs : fstep (step kind) t S l = some S') : FInvK kind t S' := by
  constructor
  · exact fun p => peers_preserves hs p (fun hp hi => inv_step hi hp) (h.pinv p)
  · intro c g hg hn
    have hn0 : g ∉ S.called := fun x => hn (fstep_called hs x)
    have hu := h.unsent c g hg hn0
    rcases fstep_peers hs (t.pair c) with ⟨l0, e, hpair, hp⟩ | ⟨_, hp⟩
    · rcases step_unsent_stays (h.pinv _) hp hu with q | q | ⟨ps, q⟩
      · exact q
      · -- `send c` of a copy needs `c ∈ todo g`, hence `g` called
        subst e; subst q
        obtain ⟨s', _, hcs⟩ := fstep_some hs
        rcases hcs with ⟨hn1, _⟩ | ⟨g', S1, hg', hgate, _⟩
        · simp [Label.id, hg] at hn1
        · simp only [Label.id, hg, Option.some.injEq] at hg'
          subst hg'
          simp only [fgate] at hgate
          split at hgate <;> simp at hgate
          rename_i hc
          exact absurd (hf.todoCalled g c hc.1) hn0
      · subst e; subst q
        obtain ⟨s', _, hcs⟩ := fstep_some hs
        rcases hcs with ⟨hn1, _⟩ | ⟨g', S1, hg', hgate, _⟩
        · simp [Label.id, hg] at hn1
        · simp [fgate] at hgate
    · rw [hp]; exact hu

theorem finvs_step {kind : Nat → Kind} {t : Topo} {S S' : FState} {l : FLabel} (h : FInv t S ∧ FInvK kind t S)
    (hs : fstep (step kind) t S l = some S') : FInv t S' ∧ FInvK kind t S' :=
  ⟨finv_step (pairOK_step kind) h.1 hs, finvK_step h.1 h.2 hs⟩

theorem finvK_run {kind : Nat → Kind} {t : Topo} {S S' : FState} {ls : List FLabel}
    (hf : FInv t S) (h : FInvK kind t S) (hs : frun (step kind) t S ls = some S') : FInvK kind t S' :=
  (Run.preserves (σ := fstep (step kind) t) finvs_step ⟨hf, h⟩ (frun_eq .. ▸ hs)).2

theorem run_unsent_or_pred {kind : Nat → Kind} {s s' : State} {ls : List Label} (hinv : Inv kind s)
    (h : run kind s ls = some s') {i j : Nat} (hu : s.phase j = .unsent) (hi : i ∈ s.returned) (hs : (kind i).sync = true) :
    s'.phase j = .unsent ∨ (i, j) ∈ s'.pred :=
  (Run.preserves (σ := step kind)
    (Q := fun s => Inv kind s ∧ i ∈ s.returned ∧ (s.phase j = .unsent ∨ (i, j) ∈ s.pred))
    (fun hq h1 => ⟨inv_step hq.1 h1, step_returned_mono h1 hq.2.1,
      hq.2.2.elim (fun q => step_unsent_or_pred hq.1 h1 q hq.2.1 hs) fun q => .inr (step_pred_mono h1 q)⟩)
    ⟨hinv, hi, .inl hu⟩ (run_eq .. ▸ h)).2.2

/-- The same across two fan-outs — if the notifying method `g` has
returned and afterwards the notifying method `g'` begins (a second `AddRoots`, say), then for a peer that got
the copy `c` of `g` without error the handler of `c` has finished when the handler of that peer's copy `c'`
of `g'` starts. -/
theorem fanout_end_before_later_fanout_start {kind : Nat → Kind} {t : Topo} {l₁ l₂ l₃ : List FLabel} {g g' c c' : Nat} {S : FState}
    (h : frun (step kind) t finit (l₁ ++ .fret g :: (l₂ ++ .fcall g' :: (l₃ ++ [.msg (.start c')]))) = some S)
    (hc : c ∈ t.copies g) (hg : t.grp c = some g) (hsync : (kind c).sync = true) (hp : t.pair c = t.pair c')
    (hg' : t.grp c' = some g') (hf : FLabel.ferr c ∉ l₁) :
    FLabel.msg (.fin c) ∈ l₁ ++ .fret g :: (l₂ ++ .fcall g' :: l₃) := by
  have h' : frun (step kind) t finit ((l₁ ++ .fret g :: (l₂ ++ .fcall g' :: l₃)) ++ [.msg (.start c')]) = some S := by
    simpa [List.append_assoc] using h
  obtain ⟨M, _, hm, hstartF, _⟩ := frun_split h'
  have hstart : step kind (M.peers (t.pair c')) (.start c') = some _ := fstep_msg_pair hstartF
  -- up to the begin of `g'`, and from there to the start of the handler
  have hm' : frun (step kind) t finit ((l₁ ++ .fret g :: l₂) ++ .fcall g' :: l₃) = some M := by
    simpa [List.append_assoc] using hm
  obtain ⟨S3, hrun3, h34⟩ := frun_append_some hm'
  obtain ⟨_, hfcall, _⟩ := frun_cons_some h34
  obtain ⟨S1, hs1, h2⟩ := frun_append_some hrun3
  obtain ⟨_, hfret, _⟩ := frun_cons_some h2
  have hret1 : c ∈ (S1.peers (t.pair c')).returned := hp ▸ fret_copy_returned hs1 hfret hc hg hf
  have hK3 := finvK_run (finv_init t) (finvK_init kind t) hrun3
  have hn : g' ∉ S3.called := (fstep_some hfcall).1
  have hu3 : (S3.peers (t.pair c')).phase c' = .unsent := hK3.unsent c' g' hg' hn
  have hret3 : c ∈ (S3.peers (t.pair c')).returned := by
    have := frun_proj h2 (t.pair c')
    rw [← run_eq_runG] at this
    exact run_returned_mono this hret1
  have hp34 := frun_proj h34 (t.pair c')
  rw [← run_eq_runG] at hp34
  -- `c'` can start, so it is no longer unsent: its `send` has put `(c, c')` into `pred`
  have hpred : (c, c') ∈ (M.peers (t.pair c')).pred :=
    (run_unsent_or_pred (hK3.pinv _) hp34 hu3 hret3 hsync).resolve_left fun q => by
      rcases (step_some hstart).1 with ⟨e, _⟩ | e <;> rw [q] at e <;> cases e
  exact mem_of_mem_proj (fin_before_start (frun_proj_run hm (t.pair c')) hpred hstart)

def Topo.cfg (kind : Nat → Kind) (t : Topo) : Cfg := { kind := kind, pair := t.pair, copies := t.copies, grp := t.grp }

def FMon.stepL (cfg : Cfg) (m : FMon) (l : FLabel) : FMon :=
  match l.vis with
  | some e => FMon.step cfg m e
  | none => m

theorem ffoldl_visible (cfg : Cfg) (m : FMon) (ls : List FLabel) :
    (fvisible ls).foldl (FMon.step cfg) m = ls.foldl (FMon.stepL cfg) m :=
  List.foldl_filterMap.trans (congrArg (List.foldl · m ls) (funext fun m => funext fun l => by unfold FMon.stepL; cases l.vis <;> rfl))

theorem FMon.step_beg {cfg : Cfg} {m : FMon} {j : Nat} (hok : m.bad = none)
    (hall : ∀ x ∈ m.sentAfter, x.2.1 = j → x.1 ∈ m.finished) : FMon.step cfg m (.msg (.beg j)) = m := by
  have hfind : (m.sentAfter.find? fun p => p.2.1 == j && !m.finished.contains p.1) = none := by
    rw [List.find?_eq_none]
    intro x hx
    simp only [Bool.and_eq_true, beq_iff_eq, Bool.not_eq_true', List.contains_eq_mem, decide_eq_false_iff_not,
      not_and, Decidable.not_not]
    exact hall x hx
  simp only [FMon.step, hok, hfind]

theorem stepL_failed_mono (cfg : Cfg) (m : FMon) (l : FLabel) {c : Nat} (h : c ∈ m.failed) :
    c ∈ (m.stepL cfg l).failed := by
  unfold FMon.stepL
  split
  · exact (mem_step cfg m _ c).1.2 (.inl h)
  · exact h

theorem stepL_finished_mono (cfg : Cfg) (m : FMon) (l : FLabel) {i : Nat} (h : i ∈ m.finished) :
    i ∈ (m.stepL cfg l).finished := by
  unfold FMon.stepL
  split
  · exact (mem_step cfg m _ i).2.1.2 (.inl h)
  · exact h

theorem owed_mem {cfg : Cfg} {m : FMon} {j : Nat} {b : Bool} {x : Nat × Nat × Why} (h : x ∈ m.owed cfg j b) :
    ∃ r, r ∈ m.returned ∧ x = (r.1, j, r.2) ∧ (cfg.kind r.1).sync = true ∧ cfg.pair r.1 = cfg.pair j := by
  simp only [FMon.owed, List.mem_map, List.mem_filter] at h
  obtain ⟨r, ⟨hr, hc⟩, rfl⟩ := h
  simp only [Cfg.obliges, Bool.and_eq_true, beq_iff_eq] at hc
  exact ⟨r, hr, rfl, hc.1.1.1, hc.1.1.2⟩

/-- What is visible of a model run contains no `enq` event, so the queue-order clause cannot fire on it (for
the model's own counterpart of these events see `fvisibleQ` below). -/
theorem stepL_badEnq (cfg : Cfg) (m : FMon) (l : FLabel) (h : m.badEnq = none) : (m.stepL cfg l).badEnq = none := by
  cases l with
  | msg l0 =>
    cases l0 with
    | start j => exact (step_beg_frame cfg m j).2.2.2.2.2.2 ▸ h
    | _ => exact h
  | _ => exact h

structure FSim (kind : Nat → Kind) (t : Topo) (S : FState) (m : FMon) : Prop where
  ret : ∀ r, r ∈ m.returned → r.1 ∈ (S.peers (t.pair r.1)).returned
  failed : ∀ c, c ∈ S.failed → c ∈ m.failed
  pred : ∀ x, x ∈ m.sentAfter → t.pair x.1 = t.pair x.2.1 ∧ (kind x.1).sync = true ∧
    ((x.1, x.2.1) ∈ (S.peers (t.pair x.2.1)).pred ∨
      (x.1 ∈ (S.peers (t.pair x.2.1)).returned ∧ (S.peers (t.pair x.2.1)).phase x.2.1 = .unsent))
  fin : ∀ i, (S.peers (t.pair i)).phase i = .done → i ∈ m.finished
  ok : m.bad = none

theorem failed_step {σ : State → Label → Option State} {t : Topo} {S S' : FState} {l : FLabel} {m : FMon} (cfg : Cfg)
    (hf : ∀ c, c ∈ S.failed → c ∈ m.failed) (hs : fstep σ t S l = some S') (c : Nat) (hc : c ∈ S'.failed) :
    c ∈ (m.stepL cfg l).failed := by
  rcases fstep_failed_only hs hc with q | rfl
  · exact stepL_failed_mono cfg m l (hf c q)
  · exact List.mem_cons_self ..

theorem finished_step {σ : State → Label → Option State} {t : Topo} {S S' : FState} {l : FLabel} {m : FMon} (cfg : Cfg)
    (hfin : ∀ i, (S.peers (t.pair i)).phase i = .done → i ∈ m.finished)
    (hdone : ∀ (p : Nat) {l0 : Label} {s' : State} {i : Nat}, σ (S.peers p) l0 = some s' → s'.phase i = .done →
      (S.peers p).phase i = .done ∨ l0 = .fin i)
    (hs : fstep σ t S l = some S') (i : Nat) (hd : (S'.peers (t.pair i)).phase i = .done) :
    i ∈ (m.stepL cfg l).finished := by
  rcases fstep_peers hs (t.pair i) with ⟨l0, rfl, _, hp⟩ | ⟨_, hp⟩
  · rcases hdone _ hp hd with r | rfl
    · exact stepL_finished_mono cfg m _ (hfin i r)
    · exact List.mem_cons_self ..
  · exact stepL_finished_mono cfg m l (hfin i (hp ▸ hd))

theorem peers_returned_mono {kind : Nat → Kind} {t : Topo} {S S' : FState} {l : FLabel}
    (hs : fstep (step kind) t S l = some S') {q i : Nat} (hi : i ∈ (S.peers q).returned) : i ∈ (S'.peers q).returned :=
  peers_preserves hs q (P := fun s => i ∈ s.returned) (fun hp h => step_returned_mono hp h) hi

theorem peers_pred_mono {kind : Nat → Kind} {t : Topo} {S S' : FState} {l : FLabel}
    (hs : fstep (step kind) t S l = some S') {q : Nat} {x : Nat × Nat} (hi : x ∈ (S.peers q).pred) : x ∈ (S'.peers q).pred :=
  peers_preserves hs q (P := fun s => x ∈ s.pred) (fun hp h => step_pred_mono hp h) hi

theorem fsim_step {kind : Nat → Kind} {t : Topo} {S S' : FState} {l : FLabel} {m : FMon}
    (hF : FInv t S) (hK : FInvK kind t S) (hsim : FSim kind t S m) (hs : fstep (step kind) t S l = some S') :
    FSim kind t S' (m.stepL (t.cfg kind) l) := by
  have hfail := failed_step (t.cfg kind) hsim.failed hs
  have hfin := finished_step (t.cfg kind) hsim.fin (fun p _ _ _ h => step_done_only_fin (hK.pinv p) h) hs
  -- what the step leaves of `ret` and `pred` where the monitor's lists do not move
  have fret : ∀ r, r ∈ m.returned → r.1 ∈ (S'.peers (t.pair r.1)).returned :=
    fun r hr => peers_returned_mono hs (hsim.ret r hr)
  have fpred : ∀ x, x ∈ m.sentAfter → t.pair x.1 = t.pair x.2.1 ∧ (kind x.1).sync = true ∧
      ((x.1, x.2.1) ∈ (S'.peers (t.pair x.2.1)).pred ∨
        (x.1 ∈ (S'.peers (t.pair x.2.1)).returned ∧ (S'.peers (t.pair x.2.1)).phase x.2.1 = .unsent)) := by
    intro x hx
    obtain ⟨h1, h2, h3⟩ := hsim.pred x hx
    refine ⟨h1, h2, ?_⟩
    rcases h3 with q | ⟨q1, q2⟩
    · exact .inl (peers_pred_mono hs q)
    · rcases fstep_peers hs (t.pair x.2.1) with ⟨l0, _, _, hp⟩ | ⟨_, hp⟩
      · exact (step_unsent_or_pred (hK.pinv _) hp q2 q1 h2).symm.imp id fun r => ⟨step_returned_mono hp q1, r⟩
      · exact .inr (hp ▸ ⟨q1, q2⟩)
  -- the obligations `j` takes on when it is sent are backed by `pred` of its pair
  have owed : ∀ {j : Nat} {b : Bool} {x : Nat × Nat × Why}, x ∈ m.owed (t.cfg kind) j b →
      ∃ i w, x = (i, j, w) ∧ t.pair i = t.pair j ∧ (kind i).sync = true ∧ i ∈ (S.peers (t.pair j)).returned := by
    intro j b x hx
    obtain ⟨r, hr, rfl, hsy, hpr⟩ := owed_mem hx
    exact ⟨r.1, r.2, rfl, hpr, hsy, (show t.pair r.1 = t.pair j from hpr) ▸ hsim.ret r hr⟩
  cases l with
  | msg l0 =>
    have hp' := fstep_msg_pair hs
    cases l0 with
    | send j =>
      refine ⟨fret, hfail, fun x hx => ?_, hfin, hsim.ok⟩
      rcases List.mem_append.1 hx with hx | hx
      · exact fpred x hx
      · obtain ⟨i, w, rfl, hpr, hsy, hret⟩ := owed hx
        exact ⟨hpr, hsy, .inl (step_send_pred hp' hret hsy)⟩
    | bsend ps j =>
      refine ⟨fret, hfail, fun x hx => ?_, hfin, hsim.ok⟩
      rcases List.mem_append.1 hx with hx | hx
      · rcases List.mem_append.1 hx with hx | hx
        · exact fpred x hx
        · obtain ⟨i, w, rfl, hpr, hsy, hret⟩ := owed hx
          exact ⟨hpr, hsy, .inl (step_bsend_pred hp' (.inr hret) hsy)⟩
      · obtain ⟨k, hk, rfl⟩ := List.mem_map.1 hx
        obtain ⟨hk, hc⟩ := List.mem_filter.1 hk
        simp only [Cfg.obliges, Bool.and_eq_true, beq_iff_eq] at hc
        exact ⟨hc.1.2, hc.1.1, .inl (step_bsend_pred hp' (.inl hk) hc.1.1)⟩
    | ret i =>
      refine ⟨fun r hr => ?_, hfail, fpred, hfin, hsim.ok⟩
      rcases List.mem_cons.1 hr with rfl | hr
      · exact step_ret_returned hp'
      · exact fret r hr
    | start j =>
      -- every obligation on `j` is discharged: its pair has it in `pred`, or `j` would still be unsent
      have hp' : step kind (S.peers (t.pair j)) (.start j) = some _ := hp'
      have e : m.stepL (t.cfg kind) (.msg (.start j)) = m := FMon.step_beg (cfg := t.cfg kind) hsim.ok fun x hx e => by
        obtain ⟨h1, h2, h3⟩ := hsim.pred x hx
        rw [e] at h3 h1
        rcases h3 with q | ⟨_, q⟩
        · exact hsim.fin x.1 (h1 ▸ pred_done_at_start (hK.pinv _) q hp')
        · rcases (step_some hp').1 with ⟨e2, _⟩ | e2 <;> rw [q] at e2 <;> cases e2
      rw [e] at hfail hfin ⊢
      exact ⟨fret, hfail, fpred, hfin, hsim.ok⟩
    | _ => exact ⟨fret, hfail, fpred, hfin, hsim.ok⟩
  | fcall g =>
    refine ⟨fret, hfail, fun x hx => ?_, hfin, hsim.ok⟩
    rcases List.mem_append.1 hx with hx | hx
    · exact fpred x hx
    · obtain ⟨c, hc, hx⟩ := List.mem_flatMap.1 hx
      obtain ⟨i, w, rfl, hpr, hsy, hret⟩ := owed hx
      have hg' : t.grp c = some g := by simpa [Topo.cfg] using (List.mem_filter.1 hc).2
      obtain ⟨hn, rfl⟩ := fstep_some hs
      exact ⟨hpr, hsy, .inr ⟨hret, hK.unsent c g hg' hn⟩⟩
  | ferr c => exact ⟨fret, hfail, fpred, hfin, hsim.ok⟩
  | fret g =>
    refine ⟨fun r hr => ?_, hfail, fpred, hfin, hsim.ok⟩
    rcases List.mem_append.1 hr with hr | hr
    · obtain ⟨c, hc, rfl⟩ := List.mem_map.1 hr
      obtain ⟨hc, hcond⟩ := List.mem_filter.1 hc
      simp only [Bool.and_eq_true, beq_iff_eq, Bool.not_eq_true', Topo.cfg, List.contains_eq_mem,
        decide_eq_false_iff_not] at hcond
      have hpeers : S'.peers = S.peers := by obtain ⟨_, rfl⟩ := fstep_some hs; rfl
      rw [hpeers]
      exact (finv_fret_copy hF hs hc hcond.1).resolve_right fun q => hcond.2 (hsim.failed c q)
    · exact fret r hr

theorem fsim_init (kind : Nat → Kind) (t : Topo) : FSim kind t finit ({} : FMon) :=
  ⟨by simp, by simp [finit], by simp, by intro i; simp [finit, init], rfl⟩

/-- Bridging theorem for the family: for ALL addressings, ALL classifications and ALL label lists that are
runs of the family model — any number of peers, any interleaving of fan-outs (each walking its session
snapshot in any order, with any of its sends failing), directed messages, transports, dispatchers and
handlers — the property monitor that is evaluated on the logs recorded from the real sessions holds on
what an observer sees of the run. -/
theorem fan_monitor_accepts_runs {kind : Nat → Kind} {t : Topo} {ls : List FLabel} {S : FState}
    (h : frun (step kind) t finit ls = some S) : fholdsOn (t.cfg kind) (fvisible ls) = true := by
  have := Run.fold (σ := fstep (step kind) t) (f := FMon.stepL (t.cfg kind))
    (R := fun S m => (FInv t S ∧ FInvK kind t S) ∧ FSim kind t S m ∧ m.badEnq = none)
    (fun hq h1 => ⟨finvs_step hq.1 h1, fsim_step hq.1.1 hq.1.2 hq.2.1 h1, stepL_badEnq _ _ _ hq.2.2⟩)
    ⟨⟨finv_init t, finvK_init kind t⟩, fsim_init kind t, rfl⟩ (frun_eq .. ▸ h)
  simp [fholdsOn, fmonitor, ffoldl_visible, this.2.1.ok, this.2.2]

/-! ### stateless streamable servers: every pair is a temporary session per message (`stepE`) -/

/-- In the model of temporary sessions a sending call returns only after the handler is done. -/
def EInv (s : State) : Prop := ∀ i, i ∈ s.returned → s.phase i = .done

theorem einv_stepE {s s' : State} {l : Label} (h : EInv s) (hs : stepE s l = some s') : EInv s' := by
  intro i hi
  cases l <;> have hq := stepE_some hs
  case ret k =>
    obtain ⟨hg, rfl⟩ := hq
    rcases List.mem_cons.1 hi with rfl | hi
    · exact hg.2
    · exact h i hi
  case cb k => obtain ⟨_, rfl⟩ := hq; exact h i hi
  case fin k =>
    obtain ⟨_, rfl⟩ := hq
    rw [setPhase_phase]; split
    · rfl
    · exact h i hi
  -- `send k`, `start k`: `k` is not done, so it has not returned
  case send k | start k =>
    obtain ⟨hu, rfl⟩ := hq
    have hd := h i hi
    rw [setPhase_phase, if_neg (fun e => by rw [e, hu] at hd; cases hd)]
    exact hd
  all_goals exact hq.elim

theorem stepE_done_only_fin {s s' : State} {l : Label} (h : stepE s l = some s')
    {i : Nat} (hd : s'.phase i = .done) : s.phase i = .done ∨ l = .fin i := by
  cases l <;> have hq := stepE_some h
  case ret k | cb k => obtain ⟨_, rfl⟩ := hq; exact .inl hd
  case fin k =>
    obtain ⟨_, rfl⟩ := hq
    rw [setPhase_phase] at hd; split at hd
    · rename_i e; exact .inr (e ▸ rfl)
    · exact .inl hd
  case send k | start k =>
    obtain ⟨_, rfl⟩ := hq
    rw [setPhase_phase] at hd; split at hd
    · cases hd
    · exact .inl hd
  all_goals exact hq.elim

structure FSimE (t : Topo) (S : FState) (m : FMon) : Prop where
  einv : ∀ p, EInv (S.peers p)
  ret : ∀ r, r ∈ m.returned → r.1 ∈ m.finished
  failed : ∀ c, c ∈ S.failed → c ∈ m.failed
  pred : ∀ x, x ∈ m.sentAfter → x.1 ∈ m.finished
  fin : ∀ i, (S.peers (t.pair i)).phase i = .done → i ∈ m.finished
  ok : m.bad = none

theorem fsimE_step {kind : Nat → Kind} {t : Topo} {S S' : FState} {l : FLabel} {m : FMon}
    (hF : FInv t S) (hsim : FSimE t S m) (hs : fstep stepE t S l = some S') :
    FSimE t S' (m.stepL (t.cfg kind) l) := by
  have heinv : ∀ p, EInv (S'.peers p) := fun p => peers_preserves hs p (fun hp h => einv_stepE h hp) (hsim.einv p)
  have hfail := failed_step (t.cfg kind) hsim.failed hs
  have hfin := finished_step (t.cfg kind) hsim.fin (fun _ _ _ _ h => stepE_done_only_fin h) hs
  -- what a message takes on when it is sent is discharged already
  have owedFin : ∀ j b x, x ∈ m.owed (t.cfg kind) j b → x.1 ∈ m.finished := by
    intro j b x hx
    obtain ⟨r, hr, rfl, _, _⟩ := owed_mem hx
    exact hsim.ret r hr
  cases l with
  | msg l0 =>
    have hp' := fstep_msg_pair hs
    cases l0 with
    | send j =>
      refine ⟨heinv, hsim.ret, hfail, fun x hx => ?_, hfin, hsim.ok⟩
      rcases List.mem_append.1 hx with hx | hx
      · exact hsim.pred x hx
      · exact owedFin _ _ x hx
    | cb i => exact ⟨heinv, hsim.ret, hfail, hsim.pred, hfin, hsim.ok⟩
    | ret i =>
      refine ⟨heinv, fun r hr => ?_, hfail, hsim.pred, hfin, hsim.ok⟩
      rcases List.mem_cons.1 hr with rfl | hr
      · exact hsim.fin i (stepE_some hp').1.2
      · exact hsim.ret r hr
    | fin i =>
      exact ⟨heinv, fun r hr => List.mem_cons_of_mem _ (hsim.ret r hr), hfail,
        fun x hx => List.mem_cons_of_mem _ (hsim.pred x hx), hfin, hsim.ok⟩
    | start j =>
      have e : m.stepL (t.cfg kind) (.msg (.start j)) = m := FMon.step_beg (cfg := t.cfg kind) hsim.ok fun x hx _ => hsim.pred x hx
      rw [e] at hfail hfin ⊢
      exact ⟨heinv, hsim.ret, hfail, hsim.pred, hfin, hsim.ok⟩
    | _ => exact (stepE_some hp').elim
  | fcall g =>
    refine ⟨heinv, hsim.ret, hfail, fun x hx => ?_, hfin, hsim.ok⟩
    rcases List.mem_append.1 hx with hx | hx
    · exact hsim.pred x hx
    · obtain ⟨c, _, hx⟩ := List.mem_flatMap.1 hx
      exact owedFin _ _ x hx
  | ferr c => exact ⟨heinv, hsim.ret, hfail, hsim.pred, hfin, hsim.ok⟩
  | fret g =>
    refine ⟨heinv, fun r hr => ?_, hfail, hsim.pred, hfin, hsim.ok⟩
    rcases List.mem_append.1 hr with hr | hr
    · obtain ⟨c, hc, rfl⟩ := List.mem_map.1 hr
      obtain ⟨hc, hcond⟩ := List.mem_filter.1 hc
      simp only [Bool.and_eq_true, beq_iff_eq, Bool.not_eq_true', Topo.cfg, List.contains_eq_mem,
        decide_eq_false_iff_not] at hcond
      rcases finv_fret_copy hF hs hc hcond.1 with q | q
      · exact hsim.fin c (hsim.einv _ c q)
      · exact absurd (hsim.failed c q) hcond.2
    · exact hsim.ret r hr

/-- One client, several STATELESS streamable servers (every pair a temporary session per POST, answered only
after the message was handled): for ALL addressings, whatever the kinds, and ALL label lists that are runs of
the family over `stepE`, the property monitor holds. -/
theorem fan_monitor_accepts_ephemeral_runs (kind : Nat → Kind) {t : Topo} {ls : List FLabel} {S : FState}
    (h : frun stepE t finit ls = some S) : fholdsOn (t.cfg kind) (fvisible ls) = true := by
  have hsim : FSimE t finit ({} : FMon) :=
    ⟨by intro p i hi; simp [finit, init] at hi, by simp, by simp [finit], by simp, by intro i; simp [finit, init], rfl⟩
  have := Run.fold (σ := fstep stepE t) (f := FMon.stepL (t.cfg kind))
    (R := fun S m => FInv t S ∧ FSimE t S m ∧ m.badEnq = none)
    (fun hq h1 => ⟨finv_step pairOK_stepE hq.1 h1, fsimE_step hq.1 hq.2.1 h1, stepL_badEnq _ _ _ hq.2.2⟩)
    ⟨finv_init t, hsim, rfl⟩ (frun_eq .. ▸ h)
  simp [fholdsOn, fmonitor, ffoldl_visible, this.2.1.ok, this.2.2]

def Topo.single : Topo := { pair := fun _ => 0, grp := fun _ => none, copies := fun _ => [] }

theorem frun_of_runG {σ : State → Label → Option State} {s s' : State} {ls : List Label} (S : FState)
    (hS : S.peers 0 = s) (h : runG σ s ls = some s') :
    ∃ S', frun σ Topo.single S (ls.map .msg) = some S' ∧ S'.peers 0 = s' := by
  simp only [frun_eq]
  refine Run.refines (σ := σ) (τ := fstep σ Topo.single) (R := fun s (S : FState) => S.peers 0 = s)
    (tr := fun l => [FLabel.msg l]) (P := List.map FLabel.msg) rfl (fun _ _ => rfl)
    (fun {s s1 S l} hS h1 => ⟨S.setPeer 0 s1, ?_, (setPeer_peers ..).trans (if_pos rfl)⟩) hS (runG_eq .. ▸ h)
  simp only [Run, fstep, Topo.single, hS, h1]; rfl

theorem fvisible_map_msg (ls : List Label) : fvisible (ls.map .msg) = (visible ls).map .msg := by
  induction ls with
  | nil => rfl
  | cons l ls ih =>
    simp only [List.map_cons, fvisible, List.filterMap_cons, visible] at ih ⊢
    cases hv : l.vis with
    | none => simp [FLabel.vis, hv, ih]
    | some e => simp [FLabel.vis, hv, ih]

/-- The monitor of one pair (what the driver evaluates per direction on a case with one client and one
server): it accepts what an observer sees of every run of the pair model. -/
theorem pair_monitor_accepts_runs {kind : Nat → Kind} {ls : List Label} {s : State}
    (h : run kind init ls = some s) : fholdsOn (Topo.single.cfg kind) ((visible ls).map .msg) = true := by
  rw [run_eq_runG] at h
  obtain ⟨S', h2, _⟩ := frun_of_runG finit rfl h
  rw [← fvisible_map_msg]
  exact fan_monitor_accepts_runs h2

/-- …and of every run of the model of temporary sessions (stateless streamable server). -/
theorem pair_monitor_accepts_ephemeral_runs (kind : Nat → Kind) {ls : List Label} {s : State}
    (h : runE init ls = some s) : fholdsOn (Topo.single.cfg kind) ((visible ls).map .msg) = true := by
  rw [runE_eq_runG] at h
  obtain ⟨S', h2, _⟩ := frun_of_runG finit rfl h
  rw [← fvisible_map_msg]
  exact fan_monitor_accepts_ephemeral_runs kind h2

/-- The log of the seeded change C03-m10 (the notifying method returns before its per-session sends are
over; the send to peer 1 is slow; the same goroutine then sends a tool call to peer 1, which is handled
first): rejected by the monitor, and not a run of the fan-out discipline. -/
theorem detached_fanout_breaks_order :
    let cfg : Cfg := { kind := fun i => if i ≤ 2 then .note else .call, pair := fun i => if i = 1 then 0 else 1,
                       copies := fun _ => [1, 2], grp := fun i => if i ≤ 2 then some 0 else none }
    let t : Topo := { pair := cfg.pair, grp := cfg.grp, copies := cfg.copies }
    let log : List FEv := [.fcall 0, .fret 0, .msg (.snd 3), .msg (.snd 1), .msg (.snd 2), .msg (.ret 1), .msg (.beg 1), .msg (.fin 1),
                           .msg (.beg 3), .msg (.fin 3), .msg (.ret 3), .msg (.ret 2), .msg (.beg 2), .msg (.fin 2)]
    orderClause cfg log = some (.fanout 0 2 3) ∧ fanDiscipline t log = false := by
  refine ⟨?_, ?_⟩ <;> decide

/-- The same messages with the fan-out sequential: accepted. -/
example :
    let cfg : Cfg := { kind := fun i => if i ≤ 2 then .note else .call, pair := fun i => if i = 1 then 0 else 1,
                       copies := fun _ => [1, 2], grp := fun i => if i ≤ 2 then some 0 else none }
    orderClause cfg [.fcall 0, .msg (.snd 1), .msg (.ret 1), .msg (.snd 2), .msg (.beg 1), .msg (.fin 1), .msg (.ret 2), .fret 0,
                     .msg (.snd 3), .msg (.beg 2), .msg (.fin 2), .msg (.beg 3), .msg (.fin 3), .msg (.ret 3)] = none := by
  decide

/-- A later fan-out is judged by the begin of ITS notifying method: the copy for peer 1 of the second
AddRoots must not be handled before the copy for peer 1 of the first. -/
example :
    let cfg : Cfg := { kind := fun _ => .note, pair := fun i => i % 2,
                       copies := fun g => if g = 0 then [0, 1] else [2, 3], grp := fun i => if i ≤ 1 then some 0 else some 1 }
    orderClause cfg [.fcall 0, .fret 0, .fcall 1, .fret 1, .msg (.snd 3), .msg (.ret 3), .msg (.beg 3)] = some (.fanout 0 1 3) := by
  decide

/-! ### the order of entering the handler queue, on the model

The model has one FIFO between `write` and `disp`; the order in which the messages of a pair pass through it is
the order of its `disp` labels.  Showing every `disp i` to the monitor as `enq i` (`fvisibleQ`), the monitor —
both its handler-order clauses and the queue-order clause — accepts every run of the family. -/

def FLabel.visQ : FLabel → Option FEv
  | .msg (.disp i) => some (.enq i)
  | l => l.vis

def fvisibleQ (ls : List FLabel) : List FEv := ls.filterMap FLabel.visQ

def FMon.stepQ (cfg : Cfg) (m : FMon) (l : FLabel) : FMon :=
  match l.visQ with
  | some e => FMon.step cfg m e
  | none => m

theorem ffoldl_visibleQ (cfg : Cfg) (m : FMon) (ls : List FLabel) :
    (fvisibleQ ls).foldl (FMon.step cfg) m = ls.foldl (FMon.stepQ cfg) m :=
  List.foldl_filterMap.trans (congrArg (List.foldl · m ls) (funext fun m => funext fun l => by unfold FMon.stepQ; cases l.visQ <;> rfl))

theorem stepQ_of_not_disp (cfg : Cfg) (m : FMon) (l : FLabel) (h : ∀ i, l ≠ .msg (.disp i)) :
    m.stepQ cfg l = m.stepL cfg l := by
  cases l with
  | msg l0 =>
    cases l0 <;> first | rfl | exact absurd rfl (h _)
  | fcall g => rfl
  | ferr c => rfl
  | fret g => rfl

/-- `i` has left the queue of its pair. -/
def Beyond (s : State) (i : Nat) : Prop := s.phase i ≠ .unsent ∧ s.phase i ≠ .sending ∧ s.phase i ≠ .queued

theorem stepL_enqd (cfg : Cfg) (m : FMon) (l : FLabel) : (m.stepL cfg l).enqd = m.enqd := by
  cases l with
  | msg l0 =>
    cases l0 with
    | start j => exact (step_beg_frame cfg m j).2.2.2.2.1
    | _ => rfl
  | _ => rfl

theorem stepL_bodies (cfg : Cfg) (m : FMon) (l : FLabel) :
    (m.stepL cfg l).bodies = m.bodies ∨ ∃ ps j, l = .msg (.bsend ps j) ∧ (m.stepL cfg l).bodies = m.bodies ++ ps.map fun k => (k, j) := by
  cases l with
  | msg l0 =>
    cases l0 with
    | bsend ps j => exact .inr ⟨ps, j, rfl, rfl⟩
    | start j => exact .inl (step_beg_frame cfg m j).2.2.2.2.2.1
    | _ => exact .inl rfl
  | _ => exact .inl rfl

structure QSim (t : Topo) (S : FState) (m : FMon) : Prop where
  binv : ∀ p, BInv (S.peers p)
  enq : ∀ p i, Beyond (S.peers p) i → i ∈ m.enqd
  bodies : ∀ x, x ∈ m.bodies → (x.1, x.2) ∈ (S.peers (t.pair x.2)).after
  ok : m.badEnq = none

theorem qsim_step {kind : Nat → Kind} {t : Topo} {S S' : FState} {l : FLabel} {m : FMon}
    (hK : FInvK kind t S) (hq : QSim t S m) (hs : fstep (step kind) t S l = some S') :
    QSim t S' (m.stepQ (t.cfg kind) l) := by
  have hbinv : ∀ p, BInv (S'.peers p) := fun p =>
    (peers_preserves hs p (P := fun s => Inv kind s ∧ BInv s) (fun hp h => ⟨inv_step h.1 hp, binv_step h.1 h.2 hp⟩)
      ⟨hK.pinv p, hq.binv p⟩).2
  -- pairs of one body stay recorded on their pair
  have hafter : ∀ y : Nat × Nat, (y.1, y.2) ∈ (S.peers (t.pair y.2)).after → (y.1, y.2) ∈ (S'.peers (t.pair y.2)).after :=
    fun y hy => peers_preserves hs _ (P := fun s => (y.1, y.2) ∈ s.after) (fun hp h => step_after_mono hp h) hy
  by_cases hd : ∃ j, l = .msg (.disp j)
  · obtain ⟨j, rfl⟩ := hd
    -- the model dispatches `j`: the monitor sees `enq j`
    have hp : step kind (S.peers (t.pair j)) (.disp j) = some _ := fstep_msg_pair hs
    have hfind : (m.bodies.find? fun p => p.2 == j && !m.enqd.contains p.1) = none := by
      rw [List.find?_eq_none]
      intro x hx
      simp only [Bool.and_eq_true, beq_iff_eq, Bool.not_eq_true', List.contains_eq_mem, decide_eq_false_iff_not, not_and, Decidable.not_not]
      intro e
      exact hq.enq (t.pair j) x.1
        (before_head_beyond (hK.pinv _) (hq.binv _) (e ▸ hq.bodies x hx) (step_some hp).1.2)
    have hstep : m.stepQ (t.cfg kind) (.msg (.disp j)) = { m with enqd := j :: m.enqd } := by
      simp only [FMon.stepQ, FLabel.visQ, FMon.step, hq.ok, hfind]
    rw [hstep]
    refine ⟨hbinv, ?_, ?_, hq.ok⟩
    · intro p i hbe
      simp only [List.mem_cons]
      rcases fstep_peers hs p with ⟨l1, e, _, h1⟩ | ⟨_, h1⟩
      · cases e
        rcases step_beyond_only_disp (hK.pinv _) h1 hbe with r | r
        · right; exact hq.enq p i r
        · left; cases r; rfl
      · right; rw [h1] at hbe; exact hq.enq p i hbe
    · exact fun x hx => hafter x (hq.bodies x hx)
  · have hnd : ∀ i, l ≠ .msg (.disp i) := fun i e => hd ⟨i, e⟩
    rw [stepQ_of_not_disp _ _ _ hnd]
    refine ⟨hbinv, ?_, ?_, stepL_badEnq _ _ _ hq.ok⟩
    · intro p i hbe
      rw [stepL_enqd]
      rcases fstep_peers hs p with ⟨l1, e, _, h1⟩ | ⟨_, h1⟩
      · rcases step_beyond_only_disp (hK.pinv _) h1 hbe with r | r
        · exact hq.enq p i r
        · subst e; subst r; exact absurd rfl (hnd i)
      · rw [h1] at hbe; exact hq.enq p i hbe
    · intro x hx
      rcases stepL_bodies (t.cfg kind) m l with e | ⟨ps, j, rfl, e⟩
      · rw [e] at hx; exact hafter x (hq.bodies x hx)
      · rw [e] at hx
        simp only [List.mem_append, List.mem_map] at hx
        rcases hx with hx | ⟨k, hk, rfl⟩
        · exact hafter x (hq.bodies x hx)
        · exact step_bsend_after (fstep_msg_pair hs) hk

theorem fsim_stepQ {kind : Nat → Kind} {t : Topo} {S S' : FState} {l : FLabel} {m : FMon}
    (hF : FInv t S) (hK : FInvK kind t S) (hsim : FSim kind t S m) (hs : fstep (step kind) t S l = some S') :
    FSim kind t S' (m.stepQ (t.cfg kind) l) := by
  have h := fsim_step hF hK hsim hs
  by_cases hd : ∃ j, l = .msg (.disp j)
  · obtain ⟨j, rfl⟩ := hd
    obtain ⟨e1, e2, e3, e4, e5, _⟩ := step_enq_frame (t.cfg kind) m j
    exact ⟨e1 ▸ h.ret, e2 ▸ h.failed, e3 ▸ h.pred, e4 ▸ h.fin, e5 ▸ h.ok⟩
  · rw [stepQ_of_not_disp _ _ _ (fun i e => hd ⟨i, e⟩)]; exact h

/-- Bridging theorem with the queue order: for ALL addressings, classifications and label lists that are runs
of the family, the monitor — handler-order clauses AND the clause on the order of entering the handler queue —
accepts the run's visible part with every `disp i` shown as `enq i`. -/
theorem fan_monitor_accepts_runs_with_queue_order {kind : Nat → Kind} {t : Topo} {ls : List FLabel} {S : FState}
    (h : frun (step kind) t finit ls = some S) : fholdsOn (t.cfg kind) (fvisibleQ ls) = true := by
  have hq : QSim t finit ({} : FMon) :=
    ⟨fun _ => binv_init, by intro p i hb; simp [Beyond, finit, init] at hb, by simp, rfl⟩
  have := Run.fold (σ := fstep (step kind) t) (f := FMon.stepQ (t.cfg kind))
    (R := fun S m => (FInv t S ∧ FInvK kind t S) ∧ FSim kind t S m ∧ QSim t S m)
    (fun hq h1 => ⟨finvs_step hq.1 h1, fsim_stepQ hq.1.1 hq.1.2 hq.2.1 h1, qsim_step hq.1.2 hq.2.2 h1⟩)
    ⟨⟨finv_init t, finvK_init kind t⟩, fsim_init kind t, hq⟩ (frun_eq .. ▸ h)
  simp [fholdsOn, fmonitor, ffoldl_visibleQ, this.2.1.ok, this.2.2.ok]

/-- The clause is not vacuous: the log of C03-m11 — body `[call 0, notification 1]`, the notification entering
the queue first — is rejected; in body order it is accepted. -/
theorem body_overtaken_breaks_order :
    let cfg : Cfg := { kind := fun i => if i = 0 then .call else .note, pair := fun _ => 0, copies := fun _ => [], grp := fun _ => none }
    orderClause cfg [.msg (.snd 0), .msg (.bsnd [0] 1), .enq 1, .msg (.beg 1), .msg (.fin 1), .enq 0, .msg (.beg 0), .msg (.fin 0)]
      = some (.bodyDispatch 0 1)
    ∧ orderClause cfg [.msg (.snd 0), .msg (.bsnd [0] 1), .enq 0, .enq 1, .msg (.beg 1), .msg (.beg 0), .msg (.fin 0), .msg (.fin 1)] = none := by
  constructor <;> decide

end Order
