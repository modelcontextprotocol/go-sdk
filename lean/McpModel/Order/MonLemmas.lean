import McpModel.Order.Monitor
/-! What one event does to the fields of the family monitor `FMon` (`FMon.step`, Monitor.lean): the fields `beg` and `enq`
leave alone, and membership in the three lists an event can extend.  Read by the soundness proofs (Sound.lean) and by the
acceptance proofs (FanProps.lean). -/
namespace Order

theorem step_beg_frame (cfg : Cfg) (m : FMon) (j : Nat) :
    (FMon.step cfg m (.msg (.beg j))).returned = m.returned ∧ (FMon.step cfg m (.msg (.beg j))).failed = m.failed ∧
    (FMon.step cfg m (.msg (.beg j))).finished = m.finished ∧ (FMon.step cfg m (.msg (.beg j))).sentAfter = m.sentAfter ∧
    (FMon.step cfg m (.msg (.beg j))).enqd = m.enqd ∧ (FMon.step cfg m (.msg (.beg j))).bodies = m.bodies ∧
    (FMon.step cfg m (.msg (.beg j))).badEnq = m.badEnq := by
  simp only [FMon.step]
  split
  · exact ⟨rfl, rfl, rfl, rfl, rfl, rfl, rfl⟩
  · split <;> exact ⟨rfl, rfl, rfl, rfl, rfl, rfl, rfl⟩

theorem step_enq_frame (cfg : Cfg) (m : FMon) (j : Nat) :
    (FMon.step cfg m (.enq j)).returned = m.returned ∧ (FMon.step cfg m (.enq j)).failed = m.failed ∧
    (FMon.step cfg m (.enq j)).sentAfter = m.sentAfter ∧ (FMon.step cfg m (.enq j)).finished = m.finished ∧
    (FMon.step cfg m (.enq j)).bad = m.bad ∧ (FMon.step cfg m (.enq j)).bodies = m.bodies ∧
    (FMon.step cfg m (.enq j)).enqd = j :: m.enqd := by
  simp only [FMon.step]
  split
  · exact ⟨rfl, rfl, rfl, rfl, rfl, rfl, rfl⟩
  · split <;> exact ⟨rfl, rfl, rfl, rfl, rfl, rfl, rfl⟩

theorem mem_step (cfg : Cfg) (m : FMon) (e : FEv) (x : Nat) :
    (x ∈ (FMon.step cfg m e).failed ↔ x ∈ m.failed ∨ e = .ferr x) ∧
    (x ∈ (FMon.step cfg m e).finished ↔ x ∈ m.finished ∨ e = .msg (.fin x)) ∧
    (x ∈ (FMon.step cfg m e).enqd ↔ x ∈ m.enqd ∨ e = .enq x) := by
  -- a list the event does not touch, and a list it puts its message in front of
  have keep : ∀ {l : List Nat} {P : Prop}, ¬ P → (x ∈ l ↔ x ∈ l ∨ P) := fun hP => ⟨.inl, fun h => h.resolve_right hP⟩
  have cons : ∀ {l : List Nat} {y : Nat} {P : Prop}, (x = y ↔ P) → (x ∈ y :: l ↔ x ∈ l ∨ P) := fun hP =>
    List.mem_cons.trans (or_comm.trans (or_congr Iff.rfl hP))
  cases e with
  | msg ev =>
    cases ev with
    | beg j =>
      obtain ⟨_, e2, e3, _, e5, _⟩ := step_beg_frame cfg m j
      rw [e2, e3, e5]; exact ⟨keep nofun, keep nofun, keep nofun⟩
    | fin k => exact ⟨keep nofun, cons ⟨fun h => h ▸ rfl, fun h => by cases h; rfl⟩, keep nofun⟩
    | _ => exact ⟨keep nofun, keep nofun, keep nofun⟩
  | enq j =>
    obtain ⟨_, e2, _, e4, _, _, e7⟩ := step_enq_frame cfg m j
    rw [e2, e4, e7]; exact ⟨keep nofun, keep nofun, cons ⟨fun h => h ▸ rfl, fun h => by cases h; rfl⟩⟩
  | ferr c => exact ⟨cons ⟨fun h => h ▸ rfl, fun h => by cases h; rfl⟩, keep nofun, keep nofun⟩
  | _ => exact ⟨keep nofun, keep nofun, keep nofun⟩

end Order
