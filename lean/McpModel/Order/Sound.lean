import McpModel.Order.MonLemmas
import McpModel.Base.Logic
/-!
# Clause soundness of the C03 monitor (engine `order`): the family monitor `FMon` / `orderClause`, the one the driver evaluates

For every clause the monitor can report (`Clause`) the corresponding clause of the property is stated as a
predicate `P_…` on what was OBSERVED — the case's event log `tr : List FEv` (the harness's global log:
sending calls begin / return, handlers start / end, notifying methods that address several sessions begin /
return, per-session sends fail; positions in the list are the order of observation) resp. the per-message
records `List Rec` — written from the property text with quantifiers over messages and positions; no monitor
state, no model.  `sound_<clause>`: whenever the monitor reports the clause, the predicate fails.
`monitor_sound` / `rec_sound` package them.

Vocabulary.  `cfg.kind i` classifies message `i` (`sync`: notification or `initialize`), `cfg.pair i` is
the (direction, receiving peer) pair it travels on, `cfg.copies g` / `cfg.grp` say which messages are the
per-session copies of the notifying method `g`.  "Later" is read as the engine states it: the earlier
sending call had returned before the later one began, in the order of observation.
-/
namespace Order

abbrev Log := List FEv

/-- The sending call of `j` begins at position `b` (alone, or as a member of a body). -/
def SentAt (tr : Log) (j b : Nat) : Prop :=
  tr[b]? = some (.msg (.snd j)) ∨ ∃ ps, tr[b]? = some (.msg (.bsnd ps j))

def FinBefore (tr : Log) (i c : Nat) : Prop := ∃ d, d < c ∧ tr[d]? = some (.msg (.fin i))

/-- At position `a` the notifying method `g` returns, `i` is one of its per-session copies, and the send of
that copy has not failed. -/
def FanReturnedAt (cfg : Cfg) (tr : Log) (g i a : Nat) : Prop :=
  tr[a]? = some (.fret g) ∧ i ∈ cfg.copies g ∧ cfg.grp i = some g ∧ ∀ e, e < a → tr[e]? ≠ some (.ferr i)

/-- `j` is sent — at the level of the API — at position `b`: a directed message when its sending call
begins, a per-session copy of a fan-out when ITS notifying method begins. -/
def ApiSentAt (cfg : Cfg) (tr : Log) (j b : Nat) : Prop :=
  (cfg.grp j = none ∧ SentAt tr j b) ∨ ∃ g', cfg.grp j = some g' ∧ j ∈ cfg.copies g' ∧ tr[b]? = some (.fcall g')

/-- "The handler of a notification (and of initialize) finishes before the handler of any later message
from that peer starts": if the sending call of the synchronous message `i` returned (position `a`) before
the sending call of `j` on the same pair began (position `b`), then when the handler of `j` starts
(position `c`) the handler of `i` has ended. -/
def P_laterSend (cfg : Cfg) (tr : Log) : Prop :=
  ∀ i j a b c, (cfg.kind i).sync = true → cfg.pair i = cfg.pair j → i ≠ j →
    tr[a]? = some (.msg (.ret i)) → a < b → SentAt tr j b → b < c → tr[c]? = some (.msg (.beg j)) →
    FinBefore tr i c

/-- "Messages from one peer are dispatched to handlers in the order they were sent" within one transport
unit: if the synchronous message `i` stands before `j` in the body that carried both, the handler of `i` has
ended when the handler of `j` starts. -/
def P_sameBody (cfg : Cfg) (tr : Log) : Prop :=
  ∀ i j ps b c, (cfg.kind i).sync = true → cfg.pair i = cfg.pair j → i ≠ j →
    i ∈ ps → tr[b]? = some (.msg (.bsnd ps j)) → b < c → tr[c]? = some (.msg (.beg j)) →
    FinBefore tr i c

/-- "Messages from one peer are dispatched to handlers in the order they were sent", for the members of one
transport unit and whatever their kinds: if `i` stands before `j` in the body that carried both (position `b`),
then when `j` enters the receiver's handler queue (position `c`) — the queue the single dispatcher drains in
order — `i` has entered it before. -/
def P_bodyDispatch (tr : Log) : Prop :=
  ∀ (i j : Nat) (ps : List Nat) (b c : Nat), i ∈ ps → tr[b]? = some (FEv.msg (.bsnd ps j)) → b < c → tr[c]? = some (FEv.enq j) →
    ∃ d, d < c ∧ tr[d]? = some (FEv.enq i)

/-- "Once a notifying method has returned, any notification or call the same goroutine sends afterwards is
observed by the peer after it", for a notifying method that addresses several sessions: if `g` returned
(position `a`) and `i` is its copy for some peer whose send did not fail, then whatever is sent to that peer
afterwards (position `b`, at the level of the API) finds the handler of `i` ended when its own handler
starts. -/
def P_fanout (cfg : Cfg) (tr : Log) : Prop :=
  ∀ g i j a b c, (cfg.kind i).sync = true → cfg.pair i = cfg.pair j → i ≠ j →
    FanReturnedAt cfg tr g i a → a < b → ApiSentAt cfg tr j b → b < c → tr[c]? = some (.msg (.beg j)) →
    FinBefore tr i c

/-- "Dispatched to handlers": a message is handled at most once. -/
def P_handledAtMostOnce (recs : List Rec) : Prop := ∀ r, r ∈ recs → r.runs ≤ 1

def P_handledOnlyIfSent (recs : List Rec) : Prop := ∀ r, r ∈ recs → r.began = true → r.sent = true

/-- "Messages from one peer are dispatched to handlers": judged at quiescence, every message whose sending
call returned without error has been handled to completion. -/
def P_sentIsHandled (recs : List Rec) : Prop := ∀ r, r ∈ recs → r.acked = true → r.began = true ∧ r.ended = true

/-- The property clause a monitor clause stands for. -/
def P_log (cfg : Cfg) : Clause → Log → Prop
  | .laterSend _ _ => P_laterSend cfg
  | .sameBody _ _ => P_sameBody cfg
  | .bodyDispatch _ _ => fun tr => P_bodyDispatch tr
  | .fanout _ _ _ => P_fanout cfg
  | _ => fun _ => True

def P_recs : Clause → List Rec → Prop
  | .ranTwice _ _ => P_handledAtMostOnce
  | .neverSent _ => P_handledOnlyIfSent
  | .f14NotDispatched _ | .notHandled _ => P_sentIsHandled
  | _ => fun _ => True

theorem recClause_some {r : Rec} {cl : Clause} (h : recClause r = some cl) :
    match cl with
    | .ranTwice _ _ => r.runs > 1
    | .neverSent _ => r.began = true ∧ ¬ r.sent = true
    | .f14NotDispatched _ | .notHandled _ => r.acked = true ∧ (¬ r.began = true ∨ ¬ r.ended = true)
    | _ => False := by
  simp only [recClause, ite_eq_some_iff, Option.some.injEq, reduceCtorEq, and_false, or_false] at h
  rcases h with ⟨hc, rfl⟩ | ⟨_, ⟨hc, rfl⟩ | ⟨_, hc, ⟨_, rfl⟩ | ⟨_, rfl⟩⟩⟩ <;> exact hc

theorem sound_ranTwice {recs : List Rec} {r : Rec} (hr : r ∈ recs) {i n : Nat}
    (h : recClause r = some (.ranTwice i n)) : ¬ P_handledAtMostOnce recs :=
  fun hP => Nat.not_le.2 (recClause_some h) (hP r hr)

theorem sound_neverSent {recs : List Rec} {r : Rec} (hr : r ∈ recs) {i : Nat}
    (h : recClause r = some (.neverSent i)) : ¬ P_handledOnlyIfSent recs :=
  fun hP => (recClause_some h).2 (hP r hr (recClause_some h).1)

theorem sent_not_handled {recs : List Rec} {r : Rec} (hr : r ∈ recs)
    (h : r.acked = true ∧ (¬ r.began = true ∨ ¬ r.ended = true)) : ¬ P_sentIsHandled recs :=
  fun hP => h.2.elim (fun q => q (hP r hr h.1).1) (fun q => q (hP r hr h.1).2)

theorem sound_f14NotDispatched {recs : List Rec} {r : Rec} (hr : r ∈ recs) {i : Nat}
    (h : recClause r = some (.f14NotDispatched i)) : ¬ P_sentIsHandled recs :=
  sent_not_handled hr (recClause_some h)

theorem sound_notHandled {recs : List Rec} {r : Rec} (hr : r ∈ recs) {i : Nat}
    (h : recClause r = some (.notHandled i)) : ¬ P_sentIsHandled recs :=
  sent_not_handled hr (recClause_some h)

/-- Whenever the per-record monitor reports a clause for a record of the case, the property clause it stands
for fails on the case's records. -/
theorem rec_sound {recs : List Rec} {r : Rec} (hr : r ∈ recs) {cl : Clause} (h : recClause r = some cl) :
    ¬ P_recs cl recs := by
  cases cl with
  | ranTwice i n => exact sound_ranTwice hr h
  | neverSent i => exact sound_neverSent hr h
  | f14NotDispatched i => exact sound_f14NotDispatched hr h
  | notHandled i => exact sound_notHandled hr h
  | _ => exact (recClause_some h).elim

/-- Why the handler of `i` must have ended before that of `j` starts, as a fact about the log: the
obligation arose at position `b`. -/
def Owes (cfg : Cfg) (tr : Log) (i j : Nat) : Why → Nat → Prop
  | .later, b => ∃ a, a < b ∧ tr[a]? = some (.msg (.ret i)) ∧ SentAt tr j b
  | .fan g, b => ∃ a, a < b ∧ FanReturnedAt cfg tr g i a ∧ ApiSentAt cfg tr j b
  | .body, b => ∃ ps, i ∈ ps ∧ tr[b]? = some (.msg (.bsnd ps j))

/-- What the monitor's state says about the first `n` events of the log. -/
structure MInv (cfg : Cfg) (tr : Log) (n : Nat) (m : FMon) : Prop where
  ret : ∀ r, r ∈ m.returned →
    match r.2 with
    | .later => ∃ a, a < n ∧ tr[a]? = some (.msg (.ret r.1))
    | .fan g => ∃ a, a < n ∧ FanReturnedAt cfg tr g r.1 a
    | .body => False
  failed : ∀ c, c ∉ m.failed → ∀ e, e < n → tr[e]? ≠ some (.ferr c)
  finished : ∀ i, i ∉ m.finished → ∀ d, d < n → tr[d]? ≠ some (.msg (.fin i))
  owes : ∀ x, x ∈ m.sentAfter → (cfg.kind x.1).sync = true ∧ cfg.pair x.1 = cfg.pair x.2.1 ∧ x.1 ≠ x.2.1 ∧
    ∃ b, b < n ∧ Owes cfg tr x.1 x.2.1 x.2.2 b
  bad : ∀ x, m.bad = some x → (cfg.kind x.1).sync = true ∧ cfg.pair x.1 = cfg.pair x.2.1 ∧ x.1 ≠ x.2.1 ∧
    ∃ b c, b < c ∧ Owes cfg tr x.1 x.2.1 x.2.2 b ∧ tr[c]? = some (.msg (.beg x.2.1)) ∧
      ∀ d, d < c → tr[d]? ≠ some (.msg (.fin x.1))

theorem minv_init (cfg : Cfg) (tr : Log) : MInv cfg tr 0 {} :=
  ⟨fun _ hr => (nomatch hr), fun _ _ _ he => absurd he (Nat.not_lt_zero _), fun _ _ _ hd => absurd hd (Nat.not_lt_zero _),
    fun _ hx => (nomatch hx), fun _ hx => (nomatch hx)⟩

theorem obliges_iff {cfg : Cfg} {j k : Nat} :
    cfg.obliges j k = true ↔ (cfg.kind k).sync = true ∧ cfg.pair k = cfg.pair j ∧ k ≠ j := by
  simp [Cfg.obliges, and_assoc]

/-- The entries `owed` adds when `j` is sent (`atApi = false`) resp. when the notifying method of the copy
`j` begins (`atApi = true`) at position `n`. -/
theorem owed_owes {cfg : Cfg} {tr : Log} {n : Nat} {m : FMon} (hm : MInv cfg tr n m) {j : Nat} {atApi : Bool}
    (hsent : atApi = false → SentAt tr j n)
    (hapi : atApi = true → ∃ g', cfg.grp j = some g' ∧ j ∈ cfg.copies g' ∧ tr[n]? = some (.fcall g'))
    {x : Nat × Nat × Why} (hx : x ∈ m.owed cfg j atApi) :
    (cfg.kind x.1).sync = true ∧ cfg.pair x.1 = cfg.pair x.2.1 ∧ x.1 ≠ x.2.1 ∧ ∃ b, b < n + 1 ∧ Owes cfg tr x.1 x.2.1 x.2.2 b := by
  simp only [FMon.owed, List.mem_map, List.mem_filter] at hx
  obtain ⟨r, ⟨hr, hc⟩, rfl⟩ := hx
  simp only [Bool.and_eq_true, Bool.or_eq_true, bne_iff_ne, ne_eq, Option.isNone_iff_eq_none] at hc
  obtain ⟨hob, hsel⟩ := hc
  obtain ⟨h1, h2, h3⟩ := obliges_iff.1 hob
  refine ⟨h1, h2, h3, n, Nat.lt_succ_self n, ?_⟩
  have hret := hm.ret r hr
  cases hw : r.2 with
  | later =>
    simp only [hw] at hret ⊢
    obtain ⟨a, ha, hra⟩ := hret
    cases atApi with
    | false => exact ⟨a, ha, hra, hsent rfl⟩
    | true =>
      -- a `later` obligation is not taken at the begin of a notifying method
      obtain ⟨g', hg', _, _⟩ := hapi rfl
      simp [hw, Why.isLater, hg'] at hsel
  | fan g =>
    simp only [hw] at hret ⊢
    obtain ⟨a, ha, hra⟩ := hret
    refine ⟨a, ha, hra, ?_⟩
    cases atApi with
    | false =>
      simp only [hw, Why.isLater] at hsel
      rcases hsel with q | q
      · simp at q
      · left; exact ⟨q, hsent rfl⟩
    | true => right; exact hapi rfl
  | body => simp only [hw] at hret

theorem none_before_step {tr : Log} {n : Nat} {e : FEv} (he : tr[n]? = some e) {ev : Nat → FEv}
    {old new : Nat → Prop} (hnew : ∀ x, new x ↔ old x ∨ e = ev x)
    (h : ∀ x, ¬ old x → ∀ d, d < n → tr[d]? ≠ some (ev x)) :
    ∀ x, ¬ new x → ∀ d, d < n + 1 → tr[d]? ≠ some (ev x) := by
  intro x hx d hd
  by_cases hdn : d = n
  · subst hdn; rw [he]; exact fun q => hx ((hnew x).2 (.inr (Option.some.inj q)))
  · exact h x (fun q => hx ((hnew x).2 (.inl q))) d (by omega)

theorem minv_step {cfg : Cfg} {tr : Log} {n : Nat} {m : FMon} {e : FEv} (hm : MInv cfg tr n m)
    (he : tr[n]? = some e) : MInv cfg tr (n + 1) (FMon.step cfg m e) := by
  have hfailed := none_before_step he (ev := .ferr) (fun c => (mem_step cfg m e c).1) hm.failed
  have hfinished := none_before_step he (ev := fun i => .msg (.fin i)) (fun i => (mem_step cfg m e i).2.1)
    hm.finished
  -- what carries over when the monitor keeps a component
  have kret : ∀ r, r ∈ m.returned →
      match r.2 with
      | .later => ∃ a, a < n + 1 ∧ tr[a]? = some (.msg (.ret r.1))
      | .fan g => ∃ a, a < n + 1 ∧ FanReturnedAt cfg tr g r.1 a
      | .body => False := by
    intro r hr
    have := hm.ret r hr
    cases hw : r.2 with
    | later => simp only [hw] at this ⊢; obtain ⟨a, ha, h⟩ := this; exact ⟨a, by omega, h⟩
    | fan g => simp only [hw] at this ⊢; obtain ⟨a, ha, h⟩ := this; exact ⟨a, by omega, h⟩
    | body => simp only [hw] at this
  have kowes : ∀ x, x ∈ m.sentAfter → (cfg.kind x.1).sync = true ∧ cfg.pair x.1 = cfg.pair x.2.1 ∧ x.1 ≠ x.2.1 ∧
      ∃ b, b < n + 1 ∧ Owes cfg tr x.1 x.2.1 x.2.2 b := by
    intro x hx
    obtain ⟨h1, h2, h3, b, hb, h4⟩ := hm.owes x hx
    exact ⟨h1, h2, h3, b, by omega, h4⟩
  cases e with
  | msg ev =>
    cases ev with
    | snd j =>
      refine ⟨kret, hfailed, hfinished, fun x hx => ?_, hm.bad⟩
      rcases List.mem_append.1 hx with hx | hx
      · exact kowes x hx
      · exact owed_owes (atApi := false) hm (fun _ => Or.inl he) nofun hx
    | bsnd ps j =>
      refine ⟨kret, hfailed, hfinished, fun x hx => ?_, hm.bad⟩
      rcases List.mem_append.1 hx with hx | hx
      · rcases List.mem_append.1 hx with hx | hx
        · exact kowes x hx
        · exact owed_owes (atApi := false) hm (fun _ => Or.inr ⟨ps, he⟩) nofun hx
      · obtain ⟨k, hk, rfl⟩ := List.mem_map.1 hx
        obtain ⟨hk, hc⟩ := List.mem_filter.1 hk
        obtain ⟨h1, h2, h3⟩ := obliges_iff.1 hc
        exact ⟨h1, h2, h3, n, Nat.lt_succ_self n, ps, hk, he⟩
    | ret i =>
      refine ⟨fun r hr => ?_, hfailed, hfinished, kowes, hm.bad⟩
      rcases List.mem_cons.1 hr with rfl | hr
      · exact ⟨n, Nat.lt_succ_self n, he⟩
      · exact kret r hr
    | fin i => exact ⟨kret, hfailed, hfinished, kowes, hm.bad⟩
    | beg j =>
      obtain ⟨e1, _, _, e4, _⟩ := step_beg_frame cfg m j
      refine ⟨e1 ▸ kret, hfailed, hfinished, e4 ▸ kowes, fun x hx => ?_⟩
      -- a verdict is old, or is the first undischarged obligation on `j`
      simp only [FMon.step] at hx
      cases hb : m.bad with
      | some y => rw [hb] at hx; exact hm.bad x (hb ▸ hx)
      | none =>
        rw [hb] at hx
        cases hf : m.sentAfter.find? (fun p => p.2.1 == j && !m.finished.contains p.1) with
        | none => rw [hf] at hx; simp only [hb] at hx; cases hx
        | some p =>
          rw [hf] at hx
          have hxp := Option.some.inj hx
          subst hxp
          have hp := List.find?_some hf
          simp only [Bool.and_eq_true, beq_iff_eq, Bool.not_eq_true', List.contains_eq_mem,
            decide_eq_false_iff_not] at hp
          obtain ⟨h1, h2, h3, b, hbn, h4⟩ := hm.owes p (List.mem_of_find?_eq_some hf)
          exact ⟨h1, h2, h3, b, n, hbn, h4, hp.1 ▸ he, fun d hd => hm.finished p.1 hp.2 d hd⟩
  | enq j =>
    obtain ⟨e1, _, e3, _, e5, _⟩ := step_enq_frame cfg m j
    exact ⟨e1 ▸ kret, hfailed, hfinished, e3 ▸ kowes, e5 ▸ hm.bad⟩
  | fcall g =>
    refine ⟨kret, hfailed, hfinished, fun x hx => ?_, hm.bad⟩
    rcases List.mem_append.1 hx with hx | hx
    · exact kowes x hx
    · obtain ⟨c, hc, hx⟩ := List.mem_flatMap.1 hx
      obtain ⟨hc, hg⟩ := List.mem_filter.1 hc
      exact owed_owes (atApi := true) hm nofun (fun _ => ⟨g, by simpa using hg, hc, he⟩) hx
  | ferr c => exact ⟨kret, hfailed, hfinished, kowes, hm.bad⟩
  | fret g =>
    refine ⟨fun r hr => ?_, hfailed, hfinished, kowes, hm.bad⟩
    rcases List.mem_append.1 hr with hr | hr
    · obtain ⟨c, hc, rfl⟩ := List.mem_map.1 hr
      obtain ⟨hc, hcond⟩ := List.mem_filter.1 hc
      simp only [Bool.and_eq_true, beq_iff_eq, Bool.not_eq_true', List.contains_eq_mem, decide_eq_false_iff_not] at hcond
      exact ⟨n, Nat.lt_succ_self n, he, hc, hcond.1, fun x hx => hm.failed c hcond.2 x hx⟩
    · exact kret r hr

theorem fmonitor_inv {cfg : Cfg} {tr : Log} {I : Nat → FMon → Prop} (h0 : I 0 {})
    (hstep : ∀ {n : Nat} {m : FMon} {e : FEv}, I n m → tr[n]? = some e → I (n + 1) (FMon.step cfg m e)) :
    I tr.length (fmonitor cfg tr) := by
  have key : ∀ (l : List FEv) (n : Nat) (m : FMon), tr.drop n = l → I n m →
      I (n + l.length) (l.foldl (FMon.step cfg) m) := by
    intro l
    induction l with
    | nil => intro n m _ hm; exact hm
    | cons e l ih =>
      intro n m hl hm
      have he : tr[n]? = some e := by
        have := congrArg List.head? hl
        simpa [List.head?_drop] using this
      have hl' : tr.drop (n + 1) = l := by
        have := congrArg List.tail hl
        simpa [List.tail_drop] using this
      have := ih (n + 1) (FMon.step cfg m e) hl' (hstep hm he)
      simpa [Nat.add_assoc, Nat.add_comm 1] using this
  simpa [fmonitor] using key tr 0 {} (by simp) h0

/-- The monitor's final state speaks about the whole log. -/
theorem minv_final (cfg : Cfg) (tr : Log) : MInv cfg tr tr.length (fmonitor cfg tr) :=
  fmonitor_inv (minv_init cfg tr) minv_step

theorem orderClause_some {cfg : Cfg} {tr : Log} {cl : Clause} (h : orderClause cfg tr = some cl) :
    match cl with
    | .laterSend i j => (fmonitor cfg tr).bad = some (i, j, .later)
    | .sameBody i j => (fmonitor cfg tr).bad = some (i, j, .body)
    | .fanout g i j => (fmonitor cfg tr).bad = some (i, j, .fan g)
    | .bodyDispatch i j => (fmonitor cfg tr).badEnq = some (i, j)
    | _ => False := by
  simp only [orderClause] at h
  split at h
  · rename_i x hx
    obtain ⟨i, j, w⟩ := x
    cases w <;> (cases h; exact hx)
  · obtain ⟨p, hp, rfl⟩ := Option.map_eq_some_iff.1 h
    exact hp

theorem sound_laterSend {cfg : Cfg} {tr : Log} {i j : Nat} (h : orderClause cfg tr = some (.laterSend i j)) :
    ¬ P_laterSend cfg tr := by
  obtain ⟨h1, h2, h3, b, c, hbc, ⟨a, hab, hra, hs⟩, hbeg, hnofin⟩ := (minv_final cfg tr).bad _ (orderClause_some h)
  intro hP
  obtain ⟨d, hd, hfin⟩ := hP i j a b c h1 h2 h3 hra hab hs hbc hbeg
  exact hnofin d hd hfin

theorem sound_sameBody {cfg : Cfg} {tr : Log} {i j : Nat} (h : orderClause cfg tr = some (.sameBody i j)) :
    ¬ P_sameBody cfg tr := by
  obtain ⟨h1, h2, h3, b, c, hbc, ⟨ps, hps, hbs⟩, hbeg, hnofin⟩ := (minv_final cfg tr).bad _ (orderClause_some h)
  intro hP
  obtain ⟨d, hd, hfin⟩ := hP i j ps b c h1 h2 h3 hps hbs hbc hbeg
  exact hnofin d hd hfin

theorem sound_fanout {cfg : Cfg} {tr : Log} {g i j : Nat} (h : orderClause cfg tr = some (.fanout g i j)) :
    ¬ P_fanout cfg tr := by
  obtain ⟨h1, h2, h3, b, c, hbc, ⟨a, hab, hfr, hs⟩, hbeg, hnofin⟩ := (minv_final cfg tr).bad _ (orderClause_some h)
  intro hP
  obtain ⟨d, hd, hfin⟩ := hP g i j a b c h1 h2 h3 hfr hab hs hbc hbeg
  exact hnofin d hd hfin

/-- What the monitor's state says about the `enq` / `bsnd` events among the first `n` events. -/
structure QInv (tr : Log) (n : Nat) (m : FMon) : Prop where
  enqd : ∀ i, i ∉ m.enqd → ∀ d, d < n → tr[d]? ≠ some (FEv.enq i)
  bodies : ∀ p, p ∈ m.bodies → ∃ (ps : List Nat) (b : Nat), b < n ∧ p.1 ∈ ps ∧ tr[b]? = some (FEv.msg (.bsnd ps p.2))
  bad : ∀ p, m.badEnq = some p → ∃ (ps : List Nat) (b c : Nat), b < c ∧ p.1 ∈ ps ∧ tr[b]? = some (FEv.msg (.bsnd ps p.2)) ∧
    tr[c]? = some (FEv.enq p.2) ∧ ∀ d, d < c → tr[d]? ≠ some (FEv.enq p.1)

theorem qinv_init (tr : Log) : QInv tr 0 {} :=
  ⟨fun _ _ _ hd => absurd hd (Nat.not_lt_zero _), fun _ hp => (nomatch hp), fun _ hp => (nomatch hp)⟩

theorem qinv_step {cfg : Cfg} {tr : Log} {n : Nat} {m : FMon} {e : FEv} (hm : QInv tr n m)
    (he : tr[n]? = some e) : QInv tr (n + 1) (FMon.step cfg m e) := by
  have henq := none_before_step he (ev := .enq) (fun i => (mem_step cfg m e i).2.2) hm.enqd
  have kbod : ∀ p, p ∈ m.bodies → ∃ (ps : List Nat) (b : Nat), b < n + 1 ∧ p.1 ∈ ps ∧ tr[b]? = some (FEv.msg (.bsnd ps p.2)) := by
    intro p hp
    obtain ⟨ps, b, hb, h1, h2⟩ := hm.bodies p hp
    exact ⟨ps, b, by omega, h1, h2⟩
  cases e with
  | msg ev =>
    cases ev with
    | beg j =>
      obtain ⟨_, _, _, _, _, e6, e7⟩ := step_beg_frame cfg m j
      exact ⟨henq, e6 ▸ kbod, e7 ▸ hm.bad⟩
    | bsnd ps j =>
      refine ⟨henq, fun p hp => ?_, hm.bad⟩
      rcases List.mem_append.1 hp with hp | hp
      · exact kbod p hp
      · obtain ⟨k, hk, rfl⟩ := List.mem_map.1 hp
        exact ⟨ps, n, Nat.lt_succ_self n, hk, he⟩
    | _ => exact ⟨henq, kbod, hm.bad⟩
  | enq j =>
    refine ⟨henq, (step_enq_frame cfg m j).2.2.2.2.2.1 ▸ kbod, fun q hq => ?_⟩
    -- a verdict is old, or is the first member of a body that `j` overtakes
    simp only [FMon.step] at hq
    cases hb : m.badEnq with
    | some y => rw [hb] at hq; exact hm.bad q (hb ▸ hq)
    | none =>
      rw [hb] at hq
      cases hf : m.bodies.find? (fun p => p.2 == j && !m.enqd.contains p.1) with
      | none => rw [hf] at hq; simp only [] at hq; cases hq
      | some p =>
        rw [hf] at hq
        have hqp := Option.some.inj hq
        subst hqp
        have hp := List.find?_some hf
        simp only [Bool.and_eq_true, beq_iff_eq, Bool.not_eq_true', List.contains_eq_mem, decide_eq_false_iff_not] at hp
        obtain ⟨ps, b, hbn, h1, h2⟩ := hm.bodies p (List.mem_of_find?_eq_some hf)
        exact ⟨ps, b, n, hbn, h1, h2, hp.1 ▸ he, fun d hd => hm.enqd p.1 hp.2 d hd⟩
  | _ => exact ⟨henq, kbod, hm.bad⟩

theorem qinv_final (cfg : Cfg) (tr : Log) : QInv tr tr.length (fmonitor cfg tr) :=
  fmonitor_inv (qinv_init tr) qinv_step

theorem sound_bodyDispatch {cfg : Cfg} {tr : Log} {i j : Nat} (h : orderClause cfg tr = some (.bodyDispatch i j)) :
    ¬ P_bodyDispatch tr := by
  obtain ⟨ps, b, c, hbc, hps, hb, hc, hno⟩ := (qinv_final cfg tr).bad _ (orderClause_some h)
  intro hP
  obtain ⟨d, hd, he⟩ := hP i j ps b c hps hb hbc hc
  exact hno d hd he

/-- Whenever the monitor reports an ordering clause on a log, the property clause it stands for — a
statement about the observed log alone — fails on that log. -/
theorem monitor_sound {cfg : Cfg} {tr : Log} {cl : Clause} (h : orderClause cfg tr = some cl) : ¬ P_log cfg cl tr := by
  cases cl with
  | laterSend i j => exact sound_laterSend h
  | sameBody i j => exact sound_sameBody h
  | fanout g i j => exact sound_fanout h
  | bodyDispatch i j => exact sound_bodyDispatch h
  | _ => exact (orderClause_some h).elim

/-! ## the predicates are satisfiable on logs that exercise them, and fail on the logs of a broken order

The monitor reports the clause on each log of a broken order; by the theorems above that refutes the predicate. -/

/-- AddRoots-like fan-out `0` with one copy `5`, which is handled before the later message `1` is. -/
example : P_fanout ⟨fun _ => .note, fun _ => 0, fun g => if g = 0 then [5] else [], fun i => if i = 5 then some 0 else none⟩
    [.fcall 0, .msg (.snd 5), .msg (.ret 5), .fret 0, .msg (.beg 5), .msg (.fin 5), .msg (.snd 1), .msg (.beg 1)] := by
  intro g i j a b c _ _ hne hfr hab hs hbc hbeg
  obtain ⟨hfa, hic, _, _⟩ := hfr
  -- the only `fret` is at position 3, of fan-out 0, whose only copy is 5
  rcases a with _|_|_|_|_|_|_|_|a <;> simp at hfa
  subst hfa
  simp at hic
  subst hic
  refine ⟨5, ?_, by simp⟩
  rcases c with _|_|_|_|_|_|_|_|c <;> simp at hbeg
  · exact absurd hbeg hne
  · omega

/-- …and the same fan-out when the later message `1` is handled first: the clause fails. -/
example : ¬ P_fanout ⟨fun _ => .note, fun _ => 0, fun g => if g = 0 then [5] else [], fun i => if i = 5 then some 0 else none⟩
    [.fcall 0, .fret 0, .msg (.snd 1), .msg (.beg 1), .msg (.snd 5), .msg (.ret 5), .msg (.beg 5), .msg (.fin 5)] :=
  sound_fanout (g := 0) (i := 5) (j := 1) (by decide)

/-- A notification handled before the message sent after its call returned: `P_laterSend` holds; with the
handlers swapped it fails. -/
example : P_laterSend ⟨fun _ => .note, fun _ => 0, fun _ => [], fun _ => none⟩
    [.msg (.snd 0), .msg (.ret 0), .msg (.snd 1), .msg (.beg 0), .msg (.fin 0), .msg (.beg 1)] := by
  intro i j a b c _ _ hne hra hab hs hbc hbeg
  rcases a with _|_|_|_|_|_|a <;> simp at hra
  subst hra
  exact ⟨4, by
    rcases c with _|_|_|_|_|_|c <;> simp at hbeg
    · subst hbeg; exact absurd rfl hne
    · omega, by simp⟩

example : ¬ P_laterSend ⟨fun _ => .note, fun _ => 0, fun _ => [], fun _ => none⟩
    [.msg (.snd 0), .msg (.ret 0), .msg (.snd 1), .msg (.beg 1), .msg (.beg 0), .msg (.fin 0)] :=
  sound_laterSend (i := 0) (j := 1) (by decide)

/-- Two members of one body handled in body order: `P_sameBody` holds; in the opposite order it fails. -/
example : P_sameBody ⟨fun _ => .note, fun _ => 0, fun _ => [], fun _ => none⟩
    [.msg (.snd 0), .msg (.bsnd [0] 1), .msg (.beg 0), .msg (.fin 0), .msg (.beg 1)] := by
  intro i j ps b c _ _ hne hps hb hbc hbeg
  rcases b with _|_|_|_|_|b <;> simp at hb
  obtain ⟨rfl, rfl⟩ := hb
  simp at hps
  subst hps
  exact ⟨3, by
    rcases c with _|_|_|_|_|c <;> simp at hbeg
    all_goals omega, by simp⟩

example : ¬ P_sameBody ⟨fun _ => .note, fun _ => 0, fun _ => [], fun _ => none⟩
    [.msg (.snd 0), .msg (.bsnd [0] 1), .msg (.beg 1), .msg (.beg 0), .msg (.fin 0)] :=
  sound_sameBody (i := 0) (j := 1) (by decide)

end Order
