import McpModel.Generated.CancelGen
/-!
Engine `cancel` — C04 end to end: "call, nested call, cancel, notice routed along the same path as the
request it names, peer preempts exactly the indexed request", over an abstract routing function.

Calls are natural numbers.  The static part of a case (`Cfg`) says, per call, in which direction it
travels, in the handler context of which incoming request it is made (`encl`: the value
`idContextKey` of its context — `ServerSession.handle` puts the request id there, a regenerated
fact), and whether the transport faults its cancel notice.  What the code does, and which label
stands for it (every label emits at most one visible event, stamped with the virtual time `now`):

  `call i`     `mcp.call`: `conn.Call` registers the call and writes the request on `callRoute i`
               (event `snd`).  Enabled only when that route exists (a nested call is made inside
               the running handler of its enclosing request).
  `deliver i`  the request reaches the peer's connection and is indexed (`incomingByID`) and queued.
  `start i`    the peer's dispatcher runs the handler (event `beg`); a request whose context was
               cancelled while it was queued is not started: `skip i` answers it without user code.
  `finish i`   the handler returns (event `fin`); the request is un-indexed, the response travels.
  `resp i`     the response reaches the caller's connection: a registered call is completed,
               anything else (the call was retired: a LATE response) is discarded without effect.
  `retOk i`    the caller returns the response (event `ret ok`).
  `cancel i`   the call's context ends (event `can`).  On a stateless server that ties handlers to
               their HTTP exchange (`propagate`) the client aborts the exchange in this very step:
               the "notice" of such a call is the abort (`abortIsNotice`), pending from here on.
  `retire i`   `mcp.call` sees the ended context: `conn.Retire`, then the detached notifier is
               started (the order is a regenerated fact).  Enabled by the caller's own state alone.
  `retCtx i`   … and returns the context's error (event `ret ctx`); the notifier runs concurrently,
               so its effect on the peer may be seen before or after this event.
  `notice i`   the notifier's `conn.Notify(notifications/cancelled)` is written on `noticeRoute i`
               — the route computed from the VALUES of the call's context if `keepValues`
               (`context.WithoutCancel(ctx)`, regenerated), from no values otherwise — and the peer's
               canceller runs `Cancel(id)`: the request indexed under that id ON THE CONNECTION THE
               NOTICE ARRIVED ON has its context cancelled (event `hc` if its handler is running).
               Needs the route to be there (`routeMay`: on a response stream its client has just
               abandoned delivery is a race) and the request to have been delivered (FIFO per route).
  `drop i`     the notice cannot be written (route gone, or fault): nothing happens.
  `tick d`     virtual time advances — only when nothing urgent is pending (`quiet`): as under
               testing/synctest, time moves only when every goroutine is blocked.  Urgent: a request
               in transit, a caller whose context ended and who has not returned, a notice that is
               neither delivered nor dropped (unless the transport stalls it: a faulted notice may
               stay pending while time passes).

`trace` is ghost state: the events emitted so far, oldest first.  Core Lean only (linked into the driver).
-/
namespace Cancel

inductive Tr where
  | pipe        -- one bidirectional channel: in-memory, io pipes, the HTTP+SSE transport
  | stateful    -- streamable HTTP with a session
  | stateless   -- streamable HTTP, every POST a connection of its own
deriving DecidableEq, Repr, Inhabited

inductive Dir where | c2s | s2c
deriving DecidableEq, Repr, Inhabited

structure Info where
  dir : Dir := .c2s
  /-- the incoming request whose id the call's context carries (`idContextKey`) -/
  encl : Option Nat := none
  /-- the transport stalls / rejects this call's cancel notice -/
  fault : Bool := false
  /-- the result carries no payload tag (ping) -/
  plain : Bool := false
deriving Repr, Inhabited

structure Cfg where
  tr : Tr := .pipe
  /-- stateful streamable server with JSONResponse -/
  json : Bool := false
  /-- the client keeps a standalone SSE stream -/
  standalone : Bool := true
  /-- stateless: a handler's context is tied to its HTTP request (2026-07-28 + PropagateRequestCancellation) -/
  propagate : Bool := false
  /-- the notifier keeps the values of the call's context (regenerated: `Generated.Cancel.noticeKeepsValues`) -/
  keepValues : Bool := true
  /-- calls are numbered below `n` -/
  n : Nat := 0
  info : Nat → Info := fun _ => {}

inductive Route where
  | conn                 -- the session's one connection (pipe; a POST of a stateful session)
  | oneShot (k : Nat)    -- stateless: the connection made for POST number k
  | reqStream (p : Nat)  -- the SSE response stream of incoming request p
  | standalone           -- the standalone SSE stream
deriving DecidableEq, Repr

/-- The routing function: `ioConn.Write`, `streamableClientConn.Write` (one POST per message),
`streamableServerConn.Write` (by `idContextKey`; with JSON responses everything but responses goes
to the standalone stream). -/
def route (c : Cfg) (d : Dir) (vals : Option Nat) (post : Nat) : Route :=
  match c.tr, d with
  | .pipe, _ => .conn
  | .stateful, .c2s => .conn
  | .stateless, .c2s => .oneShot post
  | _, .s2c =>
    match vals with
    | some p => if c.json then .standalone else .reqStream p
    | none => .standalone

/-- POSTs are numbered so that no two share a connection: `2 * i` carries the request of call i, `2 * i + 1` its cancel notice. -/
def callRoute (c : Cfg) (i : Nat) : Route := route c (c.info i).dir (c.info i).encl (2 * i)

/-- The values the notifier's context carries. -/
def noticeVals (c : Cfg) (i : Nat) : Option Nat := if c.keepValues then (c.info i).encl else none

/-- On a stateless server the notice is a POST of its own, hence a connection of its own; with
`propagate` what reaches the handler is the end of the request's own HTTP exchange. -/
def noticeRoute (c : Cfg) (i : Nat) : Route :=
  route c (c.info i).dir (noticeVals c i) (if c.propagate then 2 * i else 2 * i + 1)

/-- The jsonrpc2 connection at the far end of a route. -/
inductive Endpoint where | session | oneShot (k : Nat) | client
deriving DecidableEq, Repr

def endpoint : Route → Endpoint
  | .conn => .session
  | .oneShot k => .oneShot k
  | .reqStream _ => .client
  | .standalone => .client

/-- The request and its cancel notice are served by the same connection of the peer: the scope of
"the peer's handler for exactly that request is cancelled". -/
def sameConn (c : Cfg) (i : Nat) : Bool := endpoint (noticeRoute c i) == endpoint (callRoute c i)

inductive RPhase where
  | idle | transit | queued | running | finished | skipped
deriving DecidableEq, Repr, Inhabited

inductive NPhase where
  | none | pending | delivered | dropped
deriving DecidableEq, Repr, Inhabited

inductive Res where
  | ok (p : Option Nat)   -- the peer's result, with the payload tag it carries
  | ctx (dl : Bool)       -- the context's error: Canceled / DeadlineExceeded
  | other (code : Nat)    -- anything else (only in observations; the model never produces it)
deriving DecidableEq, Repr, Inhabited

inductive EvK where
  | snd | beg | fin | hc
  | can (dl : Bool)
  | ret (r : Res)
deriving DecidableEq, Repr, Inhabited

structure Ev where
  k : EvK
  i : Nat
  t : Nat
deriving DecidableEq, Repr, Inhabited

inductive Label where
  | call (i : Nat) | deliver (i : Nat) | start (i : Nat) | skip (i : Nat) | finish (i : Nat)
  | resp (i : Nat) | retOk (i : Nat) | cancel (i : Nat) (dl : Bool) | retire (i : Nat) | retCtx (i : Nat)
  | notice (i : Nat) | drop (i : Nat) | tick (d : Nat)
deriving DecidableEq, Repr, Inhabited

structure St where
  now : Nat := 0
  req : Nat → RPhase := fun _ => .idle
  reg : Nat → Bool := fun _ => false
  got : Nat → Bool := fun _ => false
  /-- the call was retired because its context ended; the caller is about to return -/
  retired : Nat → Bool := fun _ => false
  res : Nat → Option Res := fun _ => none
  ctxDone : Nat → Option Bool := fun _ => none
  notice : Nat → NPhase := fun _ => .none
  /-- virtual time at which the notifier of call i was started (ghost: no guard of `step` reads it) -/
  noticeAt : Nat → Nat := fun _ => 0
  hcan : Nat → Bool := fun _ => false
  respTransit : Nat → Bool := fun _ => false
  trace : List Ev := []

def init : St := {}

/-- Point update. -/
def upd {α : Type} (f : Nat → α) (i : Nat) (v : α) : Nat → α := fun j => if j = i then v else f j

@[simp] theorem upd_same {α : Type} (f : Nat → α) (i : Nat) (v : α) : upd f i v i = v := by simp [upd]
theorem upd_other {α : Type} (f : Nat → α) {i j : Nat} (v : α) (h : j ≠ i) : upd f i v j = f j := by simp [upd, h]

theorem upd_ne {α : Type} {f : Nat → α} {i j : Nat} {v w : α} (h : upd f i v j = w) (hv : v ≠ w) : j ≠ i ∧ f j = w := by
  by_cases hj : j = i
  · subst hj; exact absurd (upd_same f j v ▸ h) hv
  · exact ⟨hj, upd_other f v hj ▸ h⟩

theorem upd_avoids {α : Type} {f : Nat → α} {i : Nat} {v x : α} (hv : v ≠ x) {A : Nat → Prop} (h : ∀ j, A j → f j ≠ x) :
    ∀ j, A j → upd f i v j ≠ x := fun j hj => by
  by_cases e : j = i
  · subst e; rwa [upd_same]
  · rw [upd_other f v e]; exact h j hj

/-- Does the route exist in this state?  The response stream of request p takes server→client messages
while p's handler runs and the client has not abandoned the exchange. -/
def routeExists (c : Cfg) (s : St) : Route → Bool
  | .conn => true
  | .oneShot _ => true
  | .standalone => c.standalone
  | .reqStream p => s.req p == .running && s.ctxDone p == none

/-- A nested call is made by the running handler of its enclosing request. -/
def enclRunning (c : Cfg) (s : St) (i : Nat) : Bool :=
  match (c.info i).encl with
  | some p => s.req p == .running
  | none => true

/-- What reaches the peer is the end of the call's own HTTP exchange, at the moment the context ends. -/
def abortIsNotice (c : Cfg) (i : Nat) : Bool :=
  c.tr == .stateless && c.propagate && (c.info i).dir == .c2s

/-- May a message still get through on this route?  A response stream that the client has just abandoned (its
caller's context ended) may still carry what the server wrote before the client stopped reading: whether a
notice written in that instant arrives is a race; likewise a notice written just before the enclosing handler's
response (which ends the stream) is delivered, one written just after is refused. -/
def routeMay (c : Cfg) (s : St) : Route → Bool
  | .reqStream p => s.req p == .running || s.req p == .finished
  | r => routeExists c s r

def payload (c : Cfg) (i : Nat) : Option Nat := if (c.info i).plain then none else some i

/-- What must happen before virtual time may advance, for call i. -/
def urgent (c : Cfg) (s : St) (i : Nat) : Bool :=
  s.req i == .transit
  || (s.ctxDone i != none && (s.reg i || s.got i || s.retired i) && s.res i == none)
  || (s.notice i == .pending && !(c.info i).fault)

def quiet (c : Cfg) (s : St) : Bool := (List.range c.n).all fun i => !urgent c s i

def emit (s : St) (k : EvK) (i : Nat) : List Ev := s.trace ++ [⟨k, i, s.now⟩]

def step (c : Cfg) (s : St) : Label → Option St
  | .call i =>
    if i < c.n ∧ s.req i = .idle ∧ s.res i = none ∧ s.ctxDone i = none ∧ routeExists c s (callRoute c i) = true
        ∧ enclRunning c s i = true then
      some { s with req := upd s.req i .transit, reg := upd s.reg i true, trace := emit s .snd i }
    else none
  | .deliver i =>
    if s.req i = .transit then some { s with req := upd s.req i .queued } else none
  | .start i =>
    if s.req i = .queued ∧ s.hcan i = false then
      some { s with req := upd s.req i .running, trace := emit s .beg i }
    else none
  | .skip i =>
    if s.req i = .queued ∧ s.hcan i = true then
      some { s with req := upd s.req i .skipped, respTransit := upd s.respTransit i true }
    else none
  | .finish i =>
    if s.req i = .running then
      some { s with req := upd s.req i .finished, respTransit := upd s.respTransit i true, trace := emit s .fin i }
    else none
  | .resp i =>
    if s.respTransit i = true then
      if s.reg i = true then
        some { s with respTransit := upd s.respTransit i false, reg := upd s.reg i false, got := upd s.got i true }
      else
        some { s with respTransit := upd s.respTransit i false }
    else none
  | .retOk i =>
    if s.got i = true ∧ s.res i = none then
      some { s with got := upd s.got i false, res := upd s.res i (some (.ok (payload c i))),
                    trace := emit s (.ret (.ok (payload c i))) i }
    else none
  | .cancel i dl =>
    if i < c.n ∧ s.ctxDone i = none ∧ s.req i ≠ .idle then
      if abortIsNotice c i = true then
        some { s with ctxDone := upd s.ctxDone i (some dl), notice := upd s.notice i .pending,
                      noticeAt := upd s.noticeAt i s.now, trace := emit s (.can dl) i }
      else
        some { s with ctxDone := upd s.ctxDone i (some dl), trace := emit s (.can dl) i }
    else none
  | .retire i =>
    if s.ctxDone i ≠ none ∧ (s.reg i = true ∨ s.got i = true) ∧ s.res i = none then
      if abortIsNotice c i = true then
        some { s with reg := upd s.reg i false, got := upd s.got i false, retired := upd s.retired i true }
      else
        some { s with reg := upd s.reg i false, got := upd s.got i false, retired := upd s.retired i true,
                      notice := upd s.notice i .pending, noticeAt := upd s.noticeAt i s.now }
    else none
  | .retCtx i =>
    match s.ctxDone i with
    | some dl =>
      if s.retired i = true ∧ s.res i = none then
        some { s with res := upd s.res i (some (.ctx dl)), trace := emit s (.ret (.ctx dl)) i }
      else none
    | none => none
  | .notice i =>
    if s.notice i = .pending ∧ (c.info i).fault = false ∧ routeMay c s (noticeRoute c i) = true ∧ s.req i ≠ .transit then
      if sameConn c i = true ∧ (s.req i = .queued ∨ s.req i = .running) then
        some { s with notice := upd s.notice i .delivered, hcan := upd s.hcan i true,
                      trace := if s.req i = .running then emit s .hc i else s.trace }
      else
        some { s with notice := upd s.notice i .delivered }
    else none
  | .drop i =>
    if s.notice i = .pending ∧ ((c.info i).fault = true ∨ routeExists c s (noticeRoute c i) = false) then
      some { s with notice := upd s.notice i .dropped }
    else none
  | .tick d =>
    if 0 < d ∧ quiet c s = true then some { s with now := s.now + d } else none

/-- Every label of `step` is a guarded update. -/
theorem guarded {α : Type} {p : Prop} [Decidable p] {x y : α} (h : (if p then some x else none) = some y) : p ∧ x = y := by
  split at h
  · exact ⟨‹p›, Option.some.inj h⟩
  · cases h

def run (c : Cfg) (s : St) : List Label → Option St
  | [] => some s
  | l :: ls => (step c s l).bind fun s' => run c s' ls

theorem run_cons {c : Cfg} {s s' : St} {l : Label} {ls : List Label} :
    run c s (l :: ls) = some s' ↔ ∃ s1, step c s l = some s1 ∧ run c s1 ls = some s' :=
  Option.bind_eq_some_iff

theorem run_append (c : Cfg) (s : St) (l1 l2 : List Label) :
    run c s (l1 ++ l2) = (run c s l1).bind fun s' => run c s' l2 := by
  induction l1 generalizing s with
  | nil => rfl
  | cons l l1 ih => simp only [List.cons_append, run]; cases step c s l <;> simp [ih]

theorem run_induction {c : Cfg} {P : St → Prop} {ls : List Label}
    (hstep : ∀ l ∈ ls, ∀ s s', P s → step c s l = some s' → P s') {s s' : St} (h0 : P s) (h : run c s ls = some s') : P s' := by
  induction ls generalizing s with
  | nil => cases h; exact h0
  | cons l ls ih =>
    obtain ⟨s1, h1, h⟩ := run_cons.mp h
    exact ih (fun l hl => hstep l (List.mem_cons_of_mem _ hl)) (hstep l List.mem_cons_self s s1 h0 h1) h

/-- The observation trace of a label list: the events of the state it leads to (if allowed). -/
def traceOf (c : Cfg) (ls : List Label) : List Ev :=
  match run c init ls with
  | some s => s.trace
  | none => []

end Cancel
