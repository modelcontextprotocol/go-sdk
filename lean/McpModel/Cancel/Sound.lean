import McpModel.Cancel.MonitorLemmas
/-!
# Clause soundness of the C04 monitor (engine `cancel`)

For every clause `x` of the monitor a predicate `P_x` on the observed event log, stated on the raw list of events
(membership, positions) — independently of the monitor's summary `MSt` and of the model — and a theorem
`sound_x`: whenever the monitor raises `x` on a log, `P_x` is false on that log.  So a `V` is always a violation
of the corresponding sentence of the property on what the implementation was seen doing.  A log on which the clause fires is
exhibited for `peerNotCancelled` (`monitor_rejects_background_notifier`, `skipped_surplus_notice_is_stuck_and_rejected`) and for
`wrongResult` (`canOnce_needed`); for the other four clauses there is none.  Nothing imports this file.
-/
namespace Cancel

/-- A slot of the summary that the events of one kind write through `setFirst`: `key e` is what `e` writes into the slot of
call `e.i` (if anything), `ev i v` the event of call `i` that writes `v`.  The laws hold by the defining equations of `mupd`. -/
structure Slot (α : Type) where
  get : MSt → Nat → Option α
  key : Ev → Option α
  ev : Nat → α → Ev
  step : ∀ m e, get (mupd m e) = match key e with | some v => setFirst (get m) e.i v | none => get m := by
    intro m ⟨k, i, t⟩; cases k <;> rfl
  init : ∀ i, get {} i = none := by intro i; rfl
  key_ev : ∀ i v, (ev i v).i = i ∧ key (ev i v) = some v := by intro i v; exact ⟨rfl, rfl⟩
  ev_key : ∀ e v, key e = some v → e = ev e.i v := by intro ⟨k, i, t⟩ v h; cases k <;> cases h <;> rfl

def sndSlot : Slot Nat where
  get := (·.snd)
  key e := match e.k with | .snd => some e.t | _ => none
  ev i t := ⟨.snd, i, t⟩

def begSlot : Slot Nat where
  get := (·.beg)
  key e := match e.k with | .beg => some e.t | _ => none
  ev i t := ⟨.beg, i, t⟩

def finSlot : Slot Nat where
  get := (·.fin)
  key e := match e.k with | .fin => some e.t | _ => none
  ev i t := ⟨.fin, i, t⟩

def hcSlot : Slot Nat where
  get := (·.hc)
  key e := match e.k with | .hc => some e.t | _ => none
  ev i t := ⟨.hc, i, t⟩

def canSlot : Slot (Nat × Bool) where
  get := (·.can)
  key e := match e.k with | .can dl => some (e.t, dl) | _ => none
  ev i v := ⟨.can v.2, i, v.1⟩

def retSlot : Slot (Nat × Res) where
  get := (·.ret)
  key e := match e.k with | .ret r => some (e.t, r) | _ => none
  ev i v := ⟨.ret v.2, i, v.1⟩

theorem Slot.first {α : Type} (S : Slot α) (tr : List Ev) (i : Nat) (m0 : MSt) :
    S.get (tr.foldl mupd m0) i = (S.get m0 i).or (tr.findSome? fun e => if e.i = i then S.key e else none) := by
  induction tr generalizing m0 with
  | nil => simp
  | cons a tr ih =>
    rw [List.foldl_cons, ih, S.step, List.findSome?_cons]
    cases hk : S.key a <;> by_cases hi : a.i = i
    · simp [hi]
    · simp [hi]
    · subst hi; cases h0 : S.get m0 a.i <;> simp [setFirst, h0]
    · simp [hi, setFirst, Ne.symm hi]

theorem Slot.mem_of_some {α : Type} (S : Slot α) {tr : List Ev} {i : Nat} {v : α} (h : S.get (summ tr) i = some v) : S.ev i v ∈ tr := by
  rw [summ, S.first, S.init, Option.none_or] at h
  obtain ⟨e, he, h⟩ := List.exists_of_findSome?_eq_some h
  split at h
  next hi => exact hi ▸ S.ev_key e v h ▸ he
  next => cases h

theorem Slot.not_mem_of_none {α : Type} (S : Slot α) {tr : List Ev} {i : Nat} (h : S.get (summ tr) i = none) (v : α) : S.ev i v ∉ tr := by
  rw [summ, S.first, S.init, Option.none_or, List.findSome?_eq_none_iff] at h
  intro he
  have := h _ he
  rw [if_pos (S.key_ev i v).1, (S.key_ev i v).2] at this
  cases this

/-- An event that closes the response stream of request p: its handler finished, or its caller's context ended. -/
def Closes (a : Ev) (p : Nat) : Prop := a.i = p ∧ (a.k = .fin ∨ ∃ dl, a.k = .can dl)

theorem closed_foldl (tr : List Ev) (m : MSt) (p x : Nat) (h : m.closed p = some x) :
    ∃ y, (tr.foldl mupd m).closed p = some y ∧ y ≤ x := by
  induction tr generalizing m x with
  | nil => exact ⟨x, h, Nat.le_refl x⟩
  | cons e tr ih =>
    have ⟨y, hy, hyx⟩ : ∃ y, (mupd m e).closed p = some y ∧ y ≤ x := by
      unfold mupd
      cases e.k <;> first | exact ⟨x, h, Nat.le_refl x⟩ | exact setMin_le _ _ _ _ _ h
    obtain ⟨z, hz, hzy⟩ := ih _ y hy
    exact ⟨z, hz, Nat.le_trans hzy hyx⟩

theorem closed_le (tr : List Ev) (m : MSt) (p : Nat) (a : Ev) (ha : a ∈ tr) (hc : Closes a p) :
    ∃ x, (tr.foldl mupd m).closed p = some x ∧ x ≤ a.t := by
  induction tr generalizing m with
  | nil => cases ha
  | cons e tr ih =>
    rcases List.mem_cons.mp ha with rfl | ha
    · have ⟨y, hy, hya⟩ : ∃ y, (mupd m a).closed p = some y ∧ y ≤ a.t := by
        obtain ⟨rfl, hk | ⟨dl, hk⟩⟩ := hc <;> simp only [mupd, hk, setMin] <;> cases m.closed a.i <;> simp <;> omega
      obtain ⟨z, hz, hzy⟩ := closed_foldl tr _ p y hy
      exact ⟨z, hz, Nat.le_trans hzy hya⟩
    · exact ih _ ha

theorem scan_fires (mc : MonCfg) (tr : List Ev) (m0 : MSt) (cl : Clause) (h : scan mc m0 tr = some cl) :
    ∃ pre e post, tr = pre ++ e :: post ∧ checkAt mc (pre.foldl mupd m0) e = some cl := by
  induction tr generalizing m0 with
  | nil => cases h
  | cons a tr ih =>
    simp only [scan] at h
    split at h
    next hc => cases h; exact ⟨[], a, tr, rfl, hc⟩
    next hc =>
      obtain ⟨pre, e, post, rfl, h2⟩ := ih _ h
      exact ⟨a :: pre, e, post, rfl, h2⟩

theorem find_range {n : Nat} {p : Nat → Bool} {i : Nat} (h : (List.range n).find? p = some i) : i < n ∧ p i = true :=
  ⟨List.mem_range.mp (List.mem_of_find?_eq_some h), List.find?_some h⟩

/-- What the monitor has seen when it raises a clause at event `e`, the summary of the log before `e` being `m`. -/
def Fires (mc : MonCfg) (m : MSt) (e : Ev) : Clause → Prop
  | .notPrompt i => i < mc.c.n ∧ lateCaller m e.t i = true
  | .peerNotCancelled i => i < mc.c.n ∧ latePeer mc.c m e.t i = true
  | .otherCancelled j => j = e.i ∧ e.k = .hc ∧ m.can e.i = none
  | .foreignResult i p => i = e.i ∧ e.k = .ret (.ok (some p)) ∧ p ≠ e.i
  | .wrongResult i => i = e.i ∧
      ((∃ dl, e.k = .ret (.ctx dl) ∧ (m.can e.i = none ∨ ∃ t dl', m.can e.i = some (t, dl') ∧ dl ≠ dl')) ∨ ∃ k, e.k = .ret (.other k))
  | .neverReturned _ => False

theorem mon_fires {mc : MonCfg} {tr : List Ev} {cl : Clause} (h : mon mc tr = some cl) :
    ∃ pre e post, tr = pre ++ e :: post ∧ Fires mc (summ pre) e cl := by
  obtain ⟨pre, e, post, htr, hc⟩ := scan_fires mc tr {} cl h
  refine ⟨pre, e, post, htr, ?_⟩
  -- the one place where the monitor's decision tree is taken apart: each leaf that returns a clause is that clause's row of `Fires`
  unfold checkAt evCheck timeCheck at hc
  (repeat' split at hc) <;> grind [Fires, find_range, summ]

/-- "Cancelling the context of an in-flight call makes the call return promptly … even if the peer never answers and
even if the cancellation notice itself cannot be delivered": whenever something is observed more than
`promptBoundMs` after call i was issued and its context had ended, call i has returned before. -/
def P_prompt (n : Nat) (tr : List Ev) : Prop :=
  ∀ pre e post, tr = pre ++ e :: post → ∀ i ts tc dl, i < n → (⟨.snd, i, ts⟩ : Ev) ∈ pre → (⟨.can dl, i, tc⟩ : Ev) ∈ pre →
    max ts tc + promptBoundMs < e.t → ∃ r t, (⟨.ret r, i, t⟩ : Ev) ∈ pre

theorem sound_notPrompt (mc : MonCfg) (tr : List Ev) (i : Nat) (h : mon mc tr = some (.notPrompt i)) :
    ¬ P_prompt mc.c.n tr := by
  obtain ⟨pre, e, post, htr, hj, hl⟩ := mon_fires h
  intro hP
  unfold lateCaller at hl
  split at hl
  next ts tc dl hs hcn hr =>
    obtain ⟨r, t, hmem⟩ := hP pre e post htr i ts tc dl hj (sndSlot.mem_of_some hs) (canSlot.mem_of_some hcn) (by simpa using hl)
    exact retSlot.not_mem_of_none hr (t, r) hmem
  next => cases hl

/-- `routeOpen` (Monitor.lean) on the raw log. -/
def RouteOpenP (c : Cfg) (pre : List Ev) (i t : Nat) : Prop :=
  match callRoute c i with
  | .reqStream p => ∀ a, a ∈ pre → Closes a p → t < a.t
  | .standalone => c.standalone = true
  | _ => True

theorem routeOpenP_of (c : Cfg) (pre : List Ev) (i t : Nat) (h : routeOpen c (summ pre) i t = true) : RouteOpenP c pre i t := by
  unfold routeOpen at h
  unfold RouteOpenP
  cases hr : callRoute c i with
  | conn => trivial
  | oneShot k => trivial
  | standalone => simpa [hr] using h
  | reqStream p =>
    simp only [hr] at h ⊢
    intro a ha hc
    obtain ⟨x, hx, hle⟩ := closed_le pre {} p a ha hc
    rw [summ, hx] at h
    simp only [optAll, decide_eq_true_eq] at h
    omega

/-- "While the connection is healthy, [cancelling] causes the context of the peer's handler for exactly that request
to be cancelled": whenever something is observed more than `promptBoundMs` after call i returned its context's
error and the peer's handler for it had started — request and notice served by the same connection of the peer,
the notice not faulted by the transport, the route of the request still open when the caller returned — the
handler has seen its context end, or has finished, before. -/
def P_peer (c : Cfg) (tr : List Ev) : Prop :=
  ∀ pre e post, tr = pre ++ e :: post → ∀ i tr_ dl tb, i < c.n → (⟨.ret (.ctx dl), i, tr_⟩ : Ev) ∈ pre → (⟨.beg, i, tb⟩ : Ev) ∈ pre →
    expected c i = true → (c.info i).fault = false → RouteOpenP c pre i tr_ → max tr_ tb + promptBoundMs < e.t →
    (∃ t, (⟨.hc, i, t⟩ : Ev) ∈ pre) ∨ (∃ t, (⟨.fin, i, t⟩ : Ev) ∈ pre)

theorem sound_peerNotCancelled (mc : MonCfg) (tr : List Ev) (i : Nat) (h : mon mc tr = some (.peerNotCancelled i)) :
    ¬ P_peer mc.c tr := by
  obtain ⟨pre, e, post, htr, hj, hl⟩ := mon_fires h
  intro hP
  unfold latePeer at hl
  split at hl
  next t_ dl tb hr hb hh hfn =>
    simp only [Bool.and_eq_true, Bool.not_eq_true', decide_eq_true_eq] at hl
    obtain ⟨⟨⟨hex, hfa⟩, hro⟩, hlt⟩ := hl
    rcases hP pre e post htr i t_ dl tb hj (retSlot.mem_of_some hr) (begSlot.mem_of_some hb) hex hfa
        (routeOpenP_of mc.c pre i t_ hro) hlt with ⟨t, hm⟩ | ⟨t, hm⟩
    · exact hcSlot.not_mem_of_none hh t hm
    · exact finSlot.not_mem_of_none hfn t hm
  next => cases hl

/-- "No other in-flight request is cancelled": the context of a handler ends, while the handler runs, only after
the context of that very call ended. -/
def P_other (tr : List Ev) : Prop :=
  ∀ pre e post, tr = pre ++ e :: post → e.k = .hc → ∃ dl t, (⟨.can dl, e.i, t⟩ : Ev) ∈ pre

theorem sound_otherCancelled (mc : MonCfg) (tr : List Ev) (j : Nat) (h : mon mc tr = some (.otherCancelled j)) :
    ¬ P_other tr := by
  obtain ⟨pre, e, post, htr, _, hk, hn⟩ := mon_fires h
  intro hP
  obtain ⟨dl, t, hm⟩ := hP pre e post htr hk
  exact canSlot.not_mem_of_none hn (t, dl) hm

/-- Each context ends at most once, with one error (what `can` records). -/
def CanOnce (tr : List Ev) : Prop :=
  ∀ i dl dl' t t', (⟨.can dl, i, t⟩ : Ev) ∈ tr → (⟨.can dl', i, t'⟩ : Ev) ∈ tr → dl = dl'

/-- "… makes the call return … with the context's error", "the session stays usable for further calls", "a late
response … is discarded without effect": whatever a call returns is the peer's result for that very call (a result
without payload tag, or the tag of this call) or the error with which its own context had ended before. -/
def P_result (tr : List Ev) : Prop :=
  ∀ pre e post r, tr = pre ++ e :: post → e.k = .ret r →
    r = .ok none ∨ r = .ok (some e.i) ∨ ∃ dl t, r = .ctx dl ∧ (⟨.can dl, e.i, t⟩ : Ev) ∈ pre

theorem sound_foreignResult (mc : MonCfg) (tr : List Ev) (i p : Nat) (h : mon mc tr = some (.foreignResult i p)) :
    ¬ P_result tr := by
  obtain ⟨pre, e, post, htr, _, hk, hne⟩ := mon_fires h
  intro hP
  rcases hP pre e post _ htr hk with h' | h' | ⟨dl, t, h', _⟩
  · cases h'
  · injection h' with h'; injection h' with h'; exact hne h'
  · cases h'

theorem sound_wrongResult (mc : MonCfg) (tr : List Ev) (i : Nat) (hco : CanOnce tr) (h : mon mc tr = some (.wrongResult i)) :
    ¬ P_result tr := by
  obtain ⟨pre, e, post, htr, _, hw⟩ := mon_fires h
  intro hP
  have hsub : ∀ a, a ∈ pre → a ∈ tr := fun a ha => by rw [htr]; exact List.mem_append_left _ ha
  rcases hw with ⟨dl, hk, hcan⟩ | ⟨k, hk⟩
  · rcases hP pre e post _ htr hk with h' | h' | ⟨dl', t, h', hm⟩
    · cases h'
    · cases h'
    · injection h' with h'; subst h'
      rcases hcan with hn | ⟨t0, dl0, hs, hne⟩
      · exact canSlot.not_mem_of_none hn (t, dl) hm
      · exact hne (hco e.i dl dl0 t t0 (hsub _ hm) (hsub _ (canSlot.mem_of_some hs)))
  · rcases hP pre e post _ htr hk with h' | h' | ⟨dl', t, h', _⟩ <;> cases h'

/-- The hypothesis `CanOnce` of `sound_wrongResult` is needed (the monitor compares with the FIRST `can` of the
call): on a log in which one context "ends twice" with different errors the clause fires although `P_result` holds. -/
theorem canOnce_needed :
    mon ⟨{ n := 1 }, false⟩ [⟨.can false, 0, 1⟩, ⟨.can true, 0, 1⟩, ⟨.ret (.ctx true), 0, 1⟩] = some (.wrongResult 0) ∧
    P_result [⟨.can false, 0, 1⟩, ⟨.can true, 0, 1⟩, ⟨.ret (.ctx true), 0, 1⟩] := by
  refine ⟨by decide, ?_⟩
  intro pre e post r htr hk
  rcases pre with _ | ⟨_, _ | ⟨_, _ | ⟨_, pre⟩⟩⟩ <;> simp at htr
  · obtain ⟨rfl, _⟩ := htr; cases hk
  · obtain ⟨_, rfl, _⟩ := htr; cases hk
  · obtain ⟨rfl, rfl, rfl, _⟩ := htr; cases hk; exact Or.inr (Or.inr ⟨true, 1, rfl, by simp⟩)

/-- … and it is satisfiable: a log with one `can` per call. -/
example : CanOnce [⟨.snd, 0, 0⟩, ⟨.can false, 0, 1⟩, ⟨.ret (.ctx false), 0, 1⟩] := by
  intro i dl dl' t t' h1 h2
  simp at h1 h2
  rw [h1.1, h2.1]

/-- End of the case, every handler released: every call that was issued has returned. -/
def P_returned (n : Nat) (tr : List Ev) : Prop :=
  ∀ i t, i < n → (⟨.snd, i, t⟩ : Ev) ∈ tr → ∃ r t', (⟨.ret r, i, t'⟩ : Ev) ∈ tr

theorem sound_neverReturned (mc : MonCfg) (tr : List Ev) (i : Nat) (h : monEnd mc tr = some (.neverReturned i)) :
    ¬ P_returned mc.c.n tr := by
  intro hP
  unfold monEnd at h
  split at h
  · cases h
  simp only at h
  split at h
  next j hf =>
    cases h
    obtain ⟨hj, hp⟩ := find_range hf
    simp only [Bool.and_eq_true, Option.isNone_iff_eq_none, Option.isSome_iff_exists] at hp
    obtain ⟨⟨ts, hs⟩, hr⟩ := hp
    obtain ⟨r, t', hm⟩ := hP i ts hj (sndSlot.mem_of_some hs)
    exact retSlot.not_mem_of_none hr (t', r) hm
  next => cases h

end Cancel
