import McpModel.Cancel.Inv
import McpModel.Cancel.Frame
/-!
# C04 end to end — property theorems of the cancel model (engine `cancel`)

For ALL label lists (all interleavings of calls, nested calls, context ends, deliveries, handler starts and
ends, responses, notices, time steps) over an abstract routing function.  `Cfg.keepValues` is the regenerated
fact "the detached notifier of `mcp.call` keeps the values of the call's context" (`gen_keeps_values`).
-/
namespace Cancel

/-- mcp/transport.go `call`: the notifier runs on `context.WithoutCancel(ctx)` (regenerated on every run: if the
code is changed to `context.Background()` this `rfl` fails, and with it `monitor_accepts_model_fromCode`, the one theorem that
discharges the hypothesis `keepValues = true` which the others carry). -/
theorem gen_keeps_values : Generated.Cancel.noticeKeepsValues = true := rfl
/-- mcp/transport.go `call`: Retire, then the notifier goroutine, then return. -/
theorem gen_retire_then_notify : Generated.Cancel.retireThenDetachedNotify = true := rfl
/-- mcp/streamable.go: the server's Write routes by `idContextKey`; JSON responses divert non-responses to the
standalone stream; `ServerSession.handle` puts the request id into the handler's context; the client POSTs each message. -/
theorem gen_routing : (Generated.Cancel.serverRoutesByRequestId && Generated.Cancel.jsonNonResponsesToStandalone
    && Generated.Cancel.handlerCtxCarriesRequestId && Generated.Cancel.clientPostsEachMessage) = true := rfl

/-- A configuration with `keepValues` set to the regenerated flag.  The driver writes the same field by hand (`mkCfg`, Driver.lean:
it cannot import this file). -/
def Cfg.fromCode (c : Cfg) : Cfg := { c with keepValues := Generated.Cancel.noticeKeepsValues }

/-- In every state (the run `_h` is not used), the pending cancel notice of a call in the scope of the monitor's clause
(`expected`; with the values kept this is `sameConn`: request and notice served by the same connection of the peer) takes exactly the route the call itself took;
hence whenever that route exists (and the transport does not fault the notice) the notice can be delivered —
it is never dropped for want of a route the request had. -/
theorem cancel_notice_follows_request_route {c : Cfg} (hk : c.keepValues = true) (ls : List Label) {s : St}
    (_h : run c init ls = some s) (i : Nat) (hp : s.notice i = .pending) (he : expected c i = true) :
    noticeRoute c i = callRoute c i ∧
    (routeExists c s (callRoute c i) = true → (c.info i).fault = false → s.req i ≠ .transit →
      (step c s (.notice i)).isSome = true ∧ step c s (.drop i) = none) := by
  have hr := noticeRoute_eq_callRoute c i hk he
  refine ⟨hr, fun hex hf ht => ⟨?_, by simp [step, hf, hr, hex]⟩⟩
  simp only [step]
  rw [if_pos ⟨hp, hf, hr ▸ routeMay_of_exists hex, ht⟩]
  split <;> rfl

/-- A stateful session with two calls: call 0 client→server, call 1 made by the handler of request 0 on its response stream. -/
def cfgNested (keep standalone : Bool) : Cfg :=
  { tr := .stateful, standalone := standalone, keepValues := keep, n := 2,
    info := fun i => if i = 1 then { dir := .s2c, encl := some 0 } else {} }

def nestedCancelRun : List Label :=
  [.call 0, .deliver 0, .start 0, .call 1, .deliver 1, .start 1, .tick 10, .cancel 1 false, .retire 1, .retCtx 1]

/-- Without the values (a notifier on `context.Background()` instead of `context.WithoutCancel(ctx)`), client without standalone
stream: the request route exists, the notice has no route, the peer's handler is never cancelled and time may pass. -/
theorem background_notice_misses_request_stream :
    (run (cfgNested false false) init nestedCancelRun).map
        (fun s => (routeExists (cfgNested false false) s (callRoute (cfgNested false false) 1),
                   (step (cfgNested false false) s (.notice 1)).isSome,
                   (run (cfgNested false false) s [.drop 1, .tick 1000]).map fun s' => (s'.req 1, s'.hcan 1)))
      = some (true, false, some (.running, false)) := by decide

/-- … and with the values kept the same schedule delivers the notice and cancels the handler. -/
theorem kept_values_notice_reaches_nested_handler :
    (run (cfgNested true false) init nestedCancelRun).map
        (fun s => ((step (cfgNested true false) s (.drop 1)).isSome,
                   (run (cfgNested true false) s [.notice 1]).map fun s' => (s'.req 1, s'.hcan 1, (summ s'.trace).hc 1)))
      = some (false, some (.running, true, some 10)) := by decide

theorem notice_cancels_exactly_named {c : Cfg} {s s' : St} (i : Nat) (h : step c s (.notice i) = some s') :
    (∀ j, j ≠ i → s'.hcan j = s.hcan j) ∧
    (sameConn c i = true → (s.req i = .queued ∨ s.req i = .running) → s'.hcan i = true) ∧
    (¬ (sameConn c i = true ∧ (s.req i = .queued ∨ s.req i = .running)) → s'.hcan i = s.hcan i) := by
  obtain ⟨_, h⟩ := Option.ite_none_right_eq_some.mp h
  split at h <;> cases h
  next hq => exact ⟨fun j hj => upd_other _ _ hj, fun _ _ => upd_same _ _ _, fun hn => absurd hq hn⟩
  next hq => exact ⟨fun _ _ => rfl, fun h1 h2 => absurd ⟨h1, h2⟩ hq, fun _ => rfl⟩

theorem only_notice_cancels {c : Cfg} {s s' : St} (l : Label) (j : Nat) (h : step c s l = some s')
    (h0 : s.hcan j = false) (h1 : s'.hcan j = true) : l = .notice j := by
  cases l with
  | notice i =>
    by_cases hij : j = i
    · rw [hij]
    · rw [(notice_cancels_exactly_named i h).1 j hij, h0] at h1; cases h1
  | tick d => obtain ⟨_, rfl⟩ := guarded h; rw [h0] at h1; cases h1
  | _ =>
    -- no other label writes `hcan`
    rw [(step_writes rfl h).hcan.keep rfl, h0] at h1; cases h1

/-- In every reachable state a request whose handler context is cancelled is one
whose caller's context ended (and whose notice — or, with propagation, the end of its HTTP exchange — was
delivered): no other in-flight request is cancelled. -/
theorem cancelled_handler_was_named {c : Cfg} (hk : c.keepValues = true) (ls : List Label) {s : St}
    (h : run c init ls = some s) (j : Nat) (hj : s.hcan j = true) :
    s.ctxDone j ≠ none ∧ s.notice j = .delivered ∧ (s.retired j = true ∨ abortIsNotice c j = true) := by
  have I := inv_run hk ls h
  have hd := I.hcan_of j hj
  have hn : s.notice j ≠ .none := by rw [hd]; simp
  exact ⟨I.notice_ctx j hn, hd, I.notice_src j hn⟩

/-- A caller whose context ended and who has not returned can retire its call and
return in the very next two steps, whatever the rest of the state is (peer silent, request not even delivered,
notices of other calls pending or undeliverable): `retire` and `retCtx` are enabled by the caller's own state
alone, the result is the context's error, no virtual time passes, and both are urgent — time cannot advance
before they happened. -/
theorem caller_returns_without_peer {c : Cfg} {s : St} (i : Nat) (dl : Bool) (hc : s.ctxDone i = some dl)
    (hr : s.reg i = true ∨ s.got i = true) (hn : s.res i = none) :
    (∃ s', run c s [.retire i, .retCtx i] = some s' ∧ s'.res i = some (.ctx dl) ∧ s'.now = s.now ∧ s'.reg i = false) ∧
    (i < c.n → ∀ d, step c s (.tick d) = none) ∧
    (i < c.n → ∀ s1, step c s (.retire i) = some s1 → ∀ d, step c s1 (.tick d) = none) := by
  refine ⟨?_, fun hi => tick_none_of_urgent hi (by rcases hr with hr | hr <;> simp [urgent, hc, hr, hn]), ?_⟩
  · simp only [run, step]
    rw [if_pos ⟨by rw [hc]; simp, hr, hn⟩]
    by_cases ha : abortIsNotice c i = true <;> simp [ha, upd, hc, hn]
  · intro hi s1 h1
    obtain ⟨_, h1⟩ := Option.ite_none_right_eq_some.mp h1
    refine tick_none_of_urgent hi ?_
    split at h1 <;> cases h1 <;> simp [urgent, hc, hn]

/-- The notifier is a process of its own. -/
theorem notice_fate_does_not_touch_caller {c : Cfg} {s s' : St} (i : Nat) (l : Label)
    (hl : l = .notice i ∨ l = .drop i) (h : step c s l = some s') :
    s'.res = s.res ∧ s'.reg = s.reg ∧ s'.got = s.got ∧ s'.now = s.now := by
  rcases hl with rfl | rfl <;> have W := step_writes rfl h <;> exact ⟨W.res.keep rfl, W.reg.keep rfl, W.got.keep rfl, W.now⟩

theorem late_response_no_effect {c : Cfg} {s s' : St} (i : Nat) (h : step c s (.resp i) = some s') (hr : s.reg i = false) :
    s'.res = s.res ∧ s'.reg = s.reg ∧ s'.got = s.got ∧ s'.hcan = s.hcan ∧ s'.req = s.req ∧ s'.notice = s.notice
      ∧ s'.ctxDone = s.ctxDone ∧ s'.trace = s.trace ∧ s'.now = s.now ∧ s'.respTransit i = false := by
  obtain ⟨_, h⟩ := Option.ite_none_right_eq_some.mp h
  rw [if_neg (by simp [hr])] at h
  cases h
  exact ⟨rfl, rfl, rfl, rfl, rfl, rfl, rfl, rfl, rfl, upd_same _ _ _⟩

theorem result_is_own {c : Cfg} (hk : c.keepValues = true) (ls : List Label) {s : St} (h : run c init ls = some s)
    (i : Nat) (r : Res) (hr : s.res i = some r) : r = .ok (payload c i) ∨ ∃ dl, r = .ctx dl ∧ s.ctxDone i = some dl := by
  have hown : ∀ j r, s.res j = some r → r = .ok (payload c j) ∨ ∃ dl, r = .ctx dl :=
    run_induction (P := fun s => ∀ j r, s.res j = some r → r = .ok (payload c j) ∨ ∃ dl, r = .ctx dl)
      (fun l _ s s' hs h1 j r hj => by have := step_res h1 j; have := hs j r; grind) (fun j r (hj : none = some r) => nomatch hj) h
  rcases hown i r hr with h' | ⟨dl, rfl⟩
  · exact Or.inl h'
  · exact Or.inr ⟨dl, rfl, ((inv_run hk ls h).res_ctx i dl hr).1⟩

/-- In every reachable state — whatever was cancelled, dropped, stalled or answered late
before — a call that has not been made yet, whose route exists, can be made and completes with its own result. -/
theorem usable_after_cancel {c : Cfg} (hk : c.keepValues = true) (ls : List Label) {s : St} (h : run c init ls = some s)
    (k : Nat) (hk' : k < c.n) (hidle : s.req k = .idle) (hctx : s.ctxDone k = none)
    (hroute : routeExists c s (callRoute c k) = true) (hencl : enclRunning c s k = true) :
    ∃ s', run c s [.call k, .deliver k, .start k, .finish k, .resp k, .retOk k] = some s' ∧
      s'.res k = some (.ok (payload c k)) := by
  have I := inv_run hk ls h
  have hres : s.res k = none := by
    cases hr : s.res k with
    | none => rfl
    | some r => exact absurd hidle (I.issued k (by rw [hr]; simp))
  have hcan : s.hcan k = false := by
    cases hh : s.hcan k with
    | false => rfl
    | true =>
      have := I.hcan_of k hh
      exact absurd hctx (I.notice_ctx k (by rw [this]; simp))
  simp [run, step, upd, hidle, hres, hctx, hroute, hencl, hk', hcan]

theorem notice_on_other_connection_cancels_nothing {c : Cfg} {s s' : St} (i : Nat) (h : step c s (.notice i) = some s')
    (hs : sameConn c i = false) : s'.hcan = s.hcan ∧ s'.trace = s.trace ∧ s'.req = s.req ∧ s'.notice i = .delivered := by
  obtain ⟨_, h⟩ := Option.ite_none_right_eq_some.mp h
  rw [if_neg (by simp [hs])] at h
  cases h
  exact ⟨rfl, rfl, rfl, upd_same _ _ _⟩

/-- On a stateless streamable server (every POST a connection of its own, no propagation) request and notice are
never served by the same connection … -/
theorem stateless_notice_is_elsewhere (c : Cfg) (i : Nat) (ht : c.tr = .stateless) (hd : (c.info i).dir = .c2s)
    (hp : c.propagate = false) : sameConn c i = false ∧ expected c i = false := by
  simp [sameConn, noticeRoute, callRoute, route, ht, hd, hp, endpoint, expected]

def cfgStateless (propagate : Bool) : Cfg := { tr := .stateless, propagate := propagate, n := 1 }

/-- … witness: the call is cancelled while its handler runs, the caller returns at once, the notice is delivered
(to a fresh connection), nothing is cancelled, time passes, the handler is still running uncancelled.  This is
the SDK's documented behaviour (handler cancellation on a stateless server is opt-in:
`StreamableHTTPOptions.PropagateRequestCancellation`, 2026-07-28 only) and outside C04's "while the connection
is healthy … the peer's handler for exactly that request": not a finding. -/
theorem stateless_cancel_leaves_handler_running :
    (run (cfgStateless false) init [.call 0, .deliver 0, .start 0, .tick 5, .cancel 0 false, .retire 0, .retCtx 0, .notice 0, .tick 1000]).map
        (fun s => (s.res 0, s.notice 0, s.req 0, s.hcan 0, s.now)) = some (some (.ctx false), .delivered, .running, false, 1005) := by
  decide

/-- With propagation the same schedule cancels the handler. -/
theorem stateless_propagate_cancels_handler :
    (run (cfgStateless true) init [.call 0, .deliver 0, .start 0, .tick 5, .cancel 0 false, .retire 0, .retCtx 0, .notice 0, .tick 1000]).map
        (fun s => (s.res 0, s.req 0, s.hcan 0, (summ s.trace).hc 0)) = some (some (.ctx false), .running, true, some 5) := by
  decide

/-- Also outside the clause (observation, not claimed): when the CLIENT abandons a call whose handler has nested
server→client calls in flight on a stateful streamable server, the nested calls end with the handler's context, but
their notices are routed to the response stream of the abandoned request: whether such a notice still arrives is a
race (`routeMay`); both its delivery and its loss — after which the client's handler of the nested request keeps
running while time passes — are runs of the model.  The monitor's `routeOpen` exempts exactly this. -/
theorem abandoned_request_stream_loses_nested_notice :
    (run (cfgNested true false) init
        [.call 0, .deliver 0, .start 0, .call 1, .deliver 1, .start 1, .tick 10, .cancel 0 false, .retire 0, .retCtx 0, .notice 0,
         .cancel 1 false, .retire 1, .retCtx 1]).map
      (fun s => ((step (cfgNested true false) s (.notice 1)).isSome,
                 (run (cfgNested true false) s [.drop 1, .tick 1000]).map fun s' => (s'.req 1, s'.hcan 1, s'.hcan 0)))
      = some (true, some (.running, false, true)) := by decide

/-- `inv_run` under the name the manifest cites. -/
theorem inv_reachable {c : Cfg} (hk : c.keepValues = true) (ls : List Label) {s : St} (h : run c init ls = some s) : Inv c s :=
  inv_run hk ls h

end Cancel
