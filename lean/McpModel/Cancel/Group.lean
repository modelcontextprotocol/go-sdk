import McpModel.Cancel.Bridge
/-!
# C04 — any number of calls cancelled together (engine `cancel`)

"for all sets of concurrent in-flight calls": the cancel notices of different calls are independent processes —
`mcp.call` starts one detached notifier per cancelled call, unconditionally (the structural fact
`cancel.call_notifier`, facts/cancel.expected.json: between `conn.Retire` and `go` there is no other statement).  In the model the label
`notice i` is enabled by the state of call i and of its route alone; nothing in it counts pending notices.  A bound on
the number of notices in flight that DROPS the surplus (a semaphore of 16, say) is not a run of this
model: `drop` needs a fault or a missing route (`cancel_notice_follows_request_route`).
-/
namespace Cancel

theorem routeMay_congr {c : Cfg} {s s' : St} (h : s'.req = s.req) (r : Route) : routeMay c s' r = routeMay c s r := by
  cases r <;> simp [routeMay, routeExists, h]

theorem notice_frame {c : Cfg} {s s' : St} (j : Nat) (h : step c s (.notice j) = some s') :
    s'.req = s.req ∧ s'.now = s.now ∧ s'.reg = s.reg ∧ s'.got = s.got ∧ s'.res = s.res ∧ s'.ctxDone = s.ctxDone
      ∧ s'.retired = s.retired ∧ s'.notice j = .delivered ∧ (∀ i, i ≠ j → s'.notice i = s.notice i ∧ s'.hcan i = s.hcan i)
      ∧ (s.hcan j = true → s'.hcan j = true) := by
  obtain ⟨_, h⟩ := Option.ite_none_right_eq_some.mp h
  split at h <;> cases h
  · exact ⟨rfl, rfl, rfl, rfl, rfl, rfl, rfl, upd_same _ _ _, fun i hi => ⟨upd_other _ _ hi, upd_other _ _ hi⟩, fun _ => upd_same _ _ _⟩
  · exact ⟨rfl, rfl, rfl, rfl, rfl, rfl, rfl, upd_same _ _ _, fun i hi => ⟨upd_other _ _ hi, rfl⟩, id⟩

/-- When is `notice i` enabled: call i's own notice, fault flag, route and request phase — nothing else. -/
def noticeReady (c : Cfg) (s : St) (i : Nat) : Prop :=
  s.notice i = .pending ∧ (c.info i).fault = false ∧ routeMay c s (noticeRoute c i) = true ∧ s.req i ≠ .transit

theorem notice_enabled_of_ready {c : Cfg} {s : St} {i : Nat} (h : noticeReady c s i) : (step c s (.notice i)).isSome = true := by
  obtain ⟨h1, h2, h3, h4⟩ := h
  simp only [step]
  rw [if_pos ⟨h1, h2, h3, h4⟩]
  split <;> rfl

/-- A deliverable pending notice stays deliverable whatever happens to OTHER calls'
callers and notices: another context ends, another caller retires its call and returns, another notice is
delivered or dropped.  (No label of another call consumes anything the notice of call i needs.) -/
theorem notice_enabled_frame {c : Cfg} {s s' : St} (i j : Nat) (hij : j ≠ i) (l : Label)
    (hl : l = .notice j ∨ l = .drop j ∨ l = .retire j ∨ l = .retCtx j ∨ (∃ dl, l = .cancel j dl))
    (h : step c s l = some s') (hr : noticeReady c s i) : noticeReady c s' i := by
  obtain ⟨h1, h2, h3, h4⟩ := hr
  -- none of these labels writes `req`, and each writes `notice` at its own call only
  have ⟨W, hw⟩ : Writes l j s s' ∧ l.writes .req = false := by
    rcases hl with rfl | rfl | rfl | rfl | ⟨dl, rfl⟩ <;> exact ⟨step_writes rfl h, rfl⟩
  have hreq := W.req.keep hw
  exact ⟨W.notice.other (Ne.symm hij) ▸ h1, h2, routeMay_congr hreq _ ▸ h3, hreq ▸ h4⟩

/-- Any number of pending deliverable notices, in the order of the list — hence in any order. -/
theorem group_notices_all_delivered {c : Cfg} (js : List Nat) (hnd : js.Nodup) (s : St)
    (hp : ∀ j ∈ js, noticeReady c s j) :
    ∃ s', run c s (js.map Label.notice) = some s' ∧ s'.req = s.req ∧ s'.now = s.now ∧ s'.res = s.res ∧ s'.ctxDone = s.ctxDone ∧
      (∀ j ∈ js, s'.notice j = .delivered ∧
        (sameConn c j = true → (s.req j = .queued ∨ s.req j = .running) → s'.hcan j = true)) ∧
      (∀ k, k ∉ js → s'.hcan k = s.hcan k ∧ s'.notice k = s.notice k) := by
  induction js generalizing s with
  | nil => exact ⟨s, rfl, rfl, rfl, rfl, rfl, by simp, fun _ _ => ⟨rfl, rfl⟩⟩
  | cons j js ih =>
    have hj := hp j (by simp)
    obtain ⟨hjnot, hnd'⟩ := List.nodup_cons.mp hnd
    obtain ⟨s1, hs1⟩ := Option.isSome_iff_exists.mp (notice_enabled_of_ready hj)
    obtain ⟨hreq, hnow, _, _, hres, hctx, _, hdel, hoth, hkeep⟩ := notice_frame j hs1
    have hcanj := (notice_cancels_exactly_named j hs1).2.1
    have hp1 : ∀ k ∈ js, noticeReady c s1 k := by
      intro k hk
      have hkj : j ≠ k := fun e => hjnot (e ▸ hk)
      exact notice_enabled_frame k j hkj (.notice j) (Or.inl rfl) hs1 (hp k (by simp [hk]))
    obtain ⟨s', hrun, hreq', hnow', hres', hctx', hall, hout⟩ := ih hnd' s1 hp1
    refine ⟨s', run_cons.mpr ⟨s1, hs1, hrun⟩, by rw [hreq', hreq], by rw [hnow', hnow], by rw [hres', hres], by rw [hctx', hctx], ?_, ?_⟩
    · intro k hk
      rcases List.mem_cons.mp hk with hk | hk
      · subst hk
        obtain ⟨hh, hn⟩ := hout k hjnot
        refine ⟨by rw [hn]; exact hdel, fun hsc hq => by rw [hh]; exact hcanj hsc hq⟩
      · obtain ⟨hd, hc⟩ := hall k hk
        exact ⟨hd, fun hsc hq => hc hsc (by rw [hreq]; exact hq)⟩
    · intro k hk
      have hkj : k ≠ j := fun e => hk (by simp [e])
      have hk' : k ∉ js := fun e => hk (by simp [e])
      obtain ⟨hh, hn⟩ := hout k hk'
      exact ⟨by rw [hh]; exact (hoth k hkj).2, by rw [hn]; exact (hoth k hkj).1⟩

/-- A call in flight whose own state lets its context end and its caller give up: still registered (no answer consumed yet), and
not on a propagating stateless server, where `cancel` itself starts the notice (`abortIsNotice`) and the run below is another. -/
def inFlight (c : Cfg) (s : St) (j : Nat) : Prop :=
  j < c.n ∧ s.ctxDone j = none ∧ s.req j ≠ .idle ∧ s.reg j = true ∧ s.res j = none ∧ abortIsNotice c j = false

/-- One call: its context ends, its caller retires the call and returns the context's error — three steps enabled by
the call's own state. -/
theorem cancel_retire_return {c : Cfg} {s : St} (j : Nat) (dl : Bool) (h : inFlight c s j) :
    ∃ s1, run c s [.cancel j dl, .retire j, .retCtx j] = some s1 ∧ s1.req = s.req ∧ s1.now = s.now ∧ s1.hcan = s.hcan ∧
      s1.notice j = .pending ∧ s1.res j = some (.ctx dl) ∧
      (∀ k, k ≠ j → s1.reg k = s.reg k ∧ s1.res k = s.res k ∧ s1.ctxDone k = s.ctxDone k ∧ s1.notice k = s.notice k) := by
  obtain ⟨h1, h2, h3, h4, h5, h6⟩ := h
  -- the three guards hold by the call's own fields: the run is the three updates
  simp only [run, step, h1, h2, h3, h4, h5, h6, upd_same, ne_eq, not_false_eq_true, and_self, true_or, if_true,
    Bool.false_eq_true, if_false, Option.bind_some, reduceCtorEq]
  exact ⟨_, rfl, rfl, rfl, rfl, upd_same _ _ _, upd_same _ _ _, fun k hk => by simp [upd, hk]⟩

/-- Any finite set of calls in flight whose contexts end together.  In the run exhibited every caller gives up and returns, and only
then the notices travel: ALL notices are pending at the same time. -/
theorem group_cancel_all_return_all_cancelled {c : Cfg} (dl : Bool) (js : List Nat) (hnd : js.Nodup) (s : St)
    (hin : ∀ j ∈ js, inFlight c s j)
    (hrun : ∀ j ∈ js, s.req j = .running)
    (hroute : ∀ j ∈ js, (c.info j).fault = false ∧ routeMay c s (noticeRoute c j) = true ∧ sameConn c j = true) :
    ∃ s1 s2, run c s (js.flatMap fun j => [Label.cancel j dl, .retire j, .retCtx j]) = some s1 ∧
      (∀ j ∈ js, s1.notice j = .pending) ∧
      run c s1 (js.map Label.notice) = some s2 ∧ s2.now = s.now ∧
      (∀ j ∈ js, s2.res j = some (.ctx dl) ∧ s2.notice j = .delivered ∧ s2.hcan j = true) ∧
      (∀ k, k ∉ js → s2.hcan k = s.hcan k ∧ s2.res k = s.res k ∧ s2.ctxDone k = s.ctxDone k) := by
  -- phase 1: all contexts end, all callers return
  have phase1 : ∀ (js : List Nat), js.Nodup → ∀ s : St, (∀ j ∈ js, inFlight c s j) →
      ∃ s1, run c s (js.flatMap fun j => [Label.cancel j dl, .retire j, .retCtx j]) = some s1 ∧ s1.req = s.req ∧ s1.now = s.now ∧
        s1.hcan = s.hcan ∧ (∀ j ∈ js, s1.notice j = .pending ∧ s1.res j = some (.ctx dl)) ∧
        (∀ k, k ∉ js → s1.res k = s.res k ∧ s1.ctxDone k = s.ctxDone k ∧ s1.notice k = s.notice k ∧ s1.reg k = s.reg k) := by
    intro js
    induction js with
    | nil => intro _ s _; exact ⟨s, rfl, rfl, rfl, rfl, by simp, fun _ _ => ⟨rfl, rfl, rfl, rfl⟩⟩
    | cons j js ih =>
      intro hnd s hin
      obtain ⟨hjnot, hnd'⟩ := List.nodup_cons.mp hnd
      obtain ⟨sa, hra, hreqa, hnowa, hhcana, hna, hresa, hotha⟩ := cancel_retire_return j dl (hin j (by simp))
      have hin' : ∀ k ∈ js, inFlight c sa k := by
        intro k hk
        have hkj : k ≠ j := fun e => hjnot (e ▸ hk)
        obtain ⟨a1, a2, a3, a4, a5, a6⟩ := hin k (by simp [hk])
        obtain ⟨b1, b2, b3, _⟩ := hotha k hkj
        exact ⟨a1, by rw [b3]; exact a2, by rw [hreqa]; exact a3, by rw [b1]; exact a4, by rw [b2]; exact a5, a6⟩
      obtain ⟨sb, hrb, hreqb, hnowb, hhcanb, hallb, houtb⟩ := ih hnd' sa hin'
      refine ⟨sb, ?_, by rw [hreqb, hreqa], by rw [hnowb, hnowa], by rw [hhcanb, hhcana], ?_, ?_⟩
      · rw [List.flatMap_cons, run_append, hra]; exact hrb
      · intro k hk
        rcases List.mem_cons.mp hk with hk | hk
        · subst hk
          obtain ⟨o1, _, o3, _⟩ := houtb k hjnot
          exact ⟨by rw [o3]; exact hna, by rw [o1]; exact hresa⟩
        · exact hallb k hk
      · intro k hk
        have hkj : k ≠ j := fun e => hk (by simp [e])
        have hk' : k ∉ js := fun e => hk (by simp [e])
        obtain ⟨o1, o2, o3, o4⟩ := houtb k hk'
        obtain ⟨b1, b2, b3, b4⟩ := hotha k hkj
        exact ⟨by rw [o1, b2], by rw [o2, b3], by rw [o3, b4], by rw [o4, b1]⟩
  obtain ⟨s1, hr1, hreq1, hnow1, hhcan1, hall1, hout1⟩ := phase1 js hnd s hin
  -- phase 2: all notices, all pending at once, are delivered
  have hready : ∀ j ∈ js, noticeReady c s1 j := by
    intro j hj
    obtain ⟨f1, f2, _⟩ := hroute j hj
    exact ⟨(hall1 j hj).1, f1, routeMay_congr hreq1 _ ▸ f2, by rw [hreq1, hrun j hj]; simp⟩
  obtain ⟨s2, hr2, hreq2, hnow2, hres2, hctx2, hall2, hout2⟩ := group_notices_all_delivered js hnd s1 hready
  refine ⟨s1, s2, hr1, fun j hj => (hall1 j hj).1, hr2, by rw [hnow2, hnow1], ?_, ?_⟩
  · intro j hj
    obtain ⟨d1, d2⟩ := hall2 j hj
    exact ⟨by rw [hres2]; exact (hall1 j hj).2, d1, d2 (hroute j hj).2.2 (Or.inr (by rw [hreq1]; exact hrun j hj))⟩
  · intro k hk
    obtain ⟨p1, _⟩ := hout2 k hk
    obtain ⟨q1, q2, _, _⟩ := hout1 k hk
    exact ⟨by rw [p1, hhcan1], by rw [hres2, q1], by rw [hctx2, q2]⟩

/-- `n` calls over a pipe. -/
def cfgMany (n : Nat) : Cfg := { tr := .pipe, n := n }

def manyRun (n : Nat) : List Label :=
  (List.range n).flatMap (fun i => [Label.call i, .deliver i, .start i]) ++ [.tick 10] ++
  (List.range n).map (fun i => Label.cancel i false) ++
  (List.range n).flatMap (fun i => [Label.retire i, .retCtx i]) ++
  (List.range n).map Label.notice

/-- Non-vacuity, more calls than a bound of 16 would let through: 24 calls over a pipe, all running, all cancelled in one instant:
every caller returns its context's error, every notice is delivered, every handler is cancelled. -/
theorem many_cancelled_together_all_handlers_cancelled :
    (run (cfgMany 24) init (manyRun 24)).map (fun s =>
      ((List.range 24).all fun i => s.hcan i && s.res i == some (.ctx false) && s.notice i == .delivered
          && (summ s.trace).hc i == some 10 && (summ s.trace).ret i == some (10, .ctx false), s.now)) = some (true, 10) := by
  decide +kernel

/-- … and in the state in which all 24 notices are pending none of them can be dropped. -/
theorem many_pending_none_droppable :
    (run (cfgMany 24) init ((manyRun 24).take (24 * 3 + 1 + 24 + 48))).map (fun s =>
      (List.range 24).all fun i => s.notice i == .pending && (step (cfgMany 24) s (.drop i)).isNone) = some true := by
  decide +kernel

/-- Non-vacuity of `group_cancel_all_return_all_cancelled`: 24 calls over a pipe, every handler running, satisfy its
hypotheses. -/
example : (run (cfgMany 24) init ((manyRun 24).take (24 * 3 + 1))).map (fun s =>
    (List.range 24).all fun j => decide (j < 24) && s.ctxDone j == none && s.req j == .running && s.reg j && s.res j == none
      && !abortIsNotice (cfgMany 24) j && !((cfgMany 24).info j).fault && routeMay (cfgMany 24) s (noticeRoute (cfgMany 24) j)
      && sameConn (cfgMany 24) j) = some true := by
  decide +kernel

/-- A bound on the notices in flight that silently skips the surplus: the model is stuck (no tick, no drop), and on the log such an
implementation would record the monitor raises `peerNotCancelled` for the skipped call. -/
theorem skipped_surplus_notice_is_stuck_and_rejected :
    (run (cfgMany 24) init ((manyRun 24).dropLast)).map (fun s =>
      (s.notice 23, (step (cfgMany 24) s (.tick 1000)).isSome, (step (cfgMany 24) s (.drop 23)).isSome,
       mon ⟨cfgMany 24, false⟩ (s.trace ++ [⟨.fin, 0, 1010⟩])))
      = some (.pending, false, false, some (.peerNotCancelled 23)) := by
  -- the model's own log is accepted (`monitor_accepts_model`): what is left to evaluate is the check of the added event
  have key : ∀ s, run (cfgMany 24) init (manyRun 24).dropLast = some s → mon ⟨cfgMany 24, false⟩ (s.trace ++ [⟨.fin, 0, 1010⟩]) =
      checkAt ⟨cfgMany 24, false⟩ (summ s.trace) ⟨.fin, 0, 1010⟩ := fun s hs => by
    have := monitor_accepts_model (c := cfgMany 24) rfl _ hs
    rw [traceOf_eq hs, mon] at this
    rw [mon, scan_snoc, this]
    rfl
  rw [Option.map_congr (g := fun s => (s.notice 23, (step (cfgMany 24) s (.tick 1000)).isSome,
    (step (cfgMany 24) s (.drop 23)).isSome, checkAt ⟨cfgMany 24, false⟩ (summ s.trace) ⟨.fin, 0, 1010⟩)) fun s hs => by rw [key s hs]]
  decide +kernel

end Cancel
