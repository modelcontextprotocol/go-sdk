import McpModel.Cancel.Model
/-!
The property monitor of C04 on the IMPLEMENTATION's event log, as a typed function.

Input: the static description of the case (`Cfg`: transport class, per call its direction, the request in
whose handler context it was made, whether the transport faults its cancel notice) and the event log
(`List Ev`: `snd`, `beg`, `fin`, `hc`, `can`, `ret` with call number and virtual time).  The monitor never
consults the model's state; it does not use `Cfg.keepValues` or `noticeRoute` (which describe the code): the
route that matters for "while the connection is healthy" is the route the REQUEST travelled (`callRoute`).

It reads the log once, keeping per call the time of the first event of each kind (`MSt`, `mupd`), and
checks every event against the summary of the events before it (`checkAt`); `monEnd` is evaluated at the
end of the case.  Clauses (`Clause`), from the property text:

* `notPrompt i`         "cancelling the context of an in-flight call makes the call return promptly … even if the
                         peer never answers and even if the cancellation notice itself cannot be delivered": call i
                         was issued, its context ended, and something happened more than `promptBoundMs` of virtual
                         time after both while the call had not returned;
* `wrongResult i`       "… with the context's error": call i returned something that is neither the peer's result nor
                         the error its own context ended with (a call whose context never ended must return the
                         peer's result: "the session stays usable for further calls");
* `foreignResult i p`   "a late response to the abandoned call is discarded without effect": call i returned the
                         result of another call p;
* `peerNotCancelled i`  "while the connection is healthy, causes the context of the peer's handler for exactly that
                         request to be cancelled": call i returned its context's error, the peer's handler for it was
                         running, the request and its notice are served by the same connection of the peer
                         (`expected`), the transport did not fault the notice, the route the request travelled was
                         still open when the caller returned (`routeOpen`), and something happened more than
                         `promptBoundMs` later while the handler had neither seen its context end nor finished;
* `otherCancelled j`    "no other in-flight request is cancelled": the context of the handler of j ended while it was
                         running although the context of call j had not ended;
* `neverReturned i`     (end of case, every handler was released) call i was issued and never returned.

Scope, explicit and decidable: `expected c i` — on a stateless streamable server every POST is a connection of
its own, so the cancel notice arrives on a connection that never saw the request; the clause `peerNotCancelled`
applies there only when the configuration ties a handler to its HTTP exchange (`propagate`).  All other
clauses apply everywhere.  `broken` (the injected fault makes the transport Write fail, which by design
shuts the connection down: every other in-flight call may fail, and a call whose context ends in that very
instant may see the peer's error first) restricts the monitor to the prompt return of cancelled calls, to results
that claim to be a context error or another call's result, and to `otherCancelled` being off.
Core Lean only (linked into the driver).
-/
namespace Cancel

/-- "promptly", in virtual ms.  Under testing/synctest time advances only when every goroutine is blocked, so
anything that does not wait for a timer happens at the same instant; the bound only has to be smaller than
every timeout of the code (`promptBound_lt_notifyTimeout`). -/
def promptBoundMs : Nat := 100

theorem promptBound_lt_notifyTimeout : promptBoundMs < Generated.Cancel.notifyTimeoutMs := by decide

inductive Clause where
  | notPrompt (i : Nat)
  | wrongResult (i : Nat)
  | foreignResult (i p : Nat)
  | peerNotCancelled (i : Nat)
  | otherCancelled (j : Nat)
  | neverReturned (i : Nat)
deriving DecidableEq, Repr, Inhabited

/-- Per call: the virtual time (and argument) of the first event of each kind seen so far. -/
structure MSt where
  snd : Nat → Option Nat := fun _ => none
  beg : Nat → Option Nat := fun _ => none
  fin : Nat → Option Nat := fun _ => none
  hc : Nat → Option Nat := fun _ => none
  can : Nat → Option (Nat × Bool) := fun _ => none
  ret : Nat → Option (Nat × Res) := fun _ => none
  /-- the earliest time at which the handler of the request finished or its caller's context ended -/
  closed : Nat → Option Nat := fun _ => none

/-- Set a slot unless it is already filled. -/
def setFirst {α : Type} (f : Nat → Option α) (i : Nat) (v : α) : Nat → Option α :=
  fun j => if j = i then (f i).or (some v) else f j

/-- Keep the smaller of the slot and the new value. -/
def setMin (f : Nat → Option Nat) (i : Nat) (v : Nat) : Nat → Option Nat :=
  fun j => if j = i then (match f i with | some x => some (min x v) | none => some v) else f j

def mupd (m : MSt) (e : Ev) : MSt :=
  match e.k with
  | .snd => { m with snd := setFirst m.snd e.i e.t }
  | .beg => { m with beg := setFirst m.beg e.i e.t }
  | .fin => { m with fin := setFirst m.fin e.i e.t, closed := setMin m.closed e.i e.t }
  | .hc => { m with hc := setFirst m.hc e.i e.t }
  | .can dl => { m with can := setFirst m.can e.i (e.t, dl), closed := setMin m.closed e.i e.t }
  | .ret r => { m with ret := setFirst m.ret e.i (e.t, r) }

def summ (tr : List Ev) : MSt := tr.foldl mupd {}

/-- Extra, monitor-only description of the case. -/
structure MonCfg where
  c : Cfg
  /-- the injected fault makes the transport Write of the notice FAIL: the connection shuts down by design -/
  broken : Bool := false

/-- The request and its cancel notice are served by the same connection of the peer, or the configuration
propagates the end of the HTTP exchange into the handler. -/
def expected (c : Cfg) (i : Nat) : Bool :=
  match c.tr, (c.info i).dir with
  | .stateless, .c2s => c.propagate
  | _, _ => true

/-- `Option.all`: vacuously true on `none`. -/
def optAll {α : Type} (o : Option α) (p : α → Bool) : Bool :=
  match o with
  | some x => p x
  | none => true

/-- The route the request of call i travelled is still there at time t, as far as the log shows: the response
stream of the enclosing request p carries messages while p's handler runs and p's caller has not abandoned it
(no `fin p`, no `can p` up to and including the instant t: `closed p` is the earliest such event). -/
def routeOpen (c : Cfg) (m : MSt) (i : Nat) (t : Nat) : Bool :=
  match callRoute c i with
  | .reqStream p => optAll (m.closed p) (fun x => decide (t < x))
  | .standalone => c.standalone
  | _ => true

/-- `notPrompt` is due for call i at time `now`. -/
def lateCaller (m : MSt) (now : Nat) (i : Nat) : Bool :=
  match m.snd i, m.can i, m.ret i with
  | some ts, some (tc, _), none => decide (max ts tc + promptBoundMs < now)
  | _, _, _ => false

/-- `peerNotCancelled` is due for call i at time `now`; the route is judged at the instant the caller returned. -/
def latePeer (c : Cfg) (m : MSt) (now : Nat) (i : Nat) : Bool :=
  match m.ret i, m.beg i, m.hc i, m.fin i with
  | some (tr, .ctx _), some tb, none, none =>
    expected c i && !(c.info i).fault && routeOpen c m i tr && decide (max tr tb + promptBoundMs < now)
  | _, _, _, _ => false

/-- The checks that depend only on the time of the new event. -/
def timeCheck (mc : MonCfg) (m : MSt) (now : Nat) : Option Clause :=
  match (List.range mc.c.n).find? (lateCaller m now) with
  | some i => some (.notPrompt i)
  | none =>
    if mc.broken then none else
    match (List.range mc.c.n).find? (latePeer mc.c m now) with
    | some i => some (.peerNotCancelled i)
    | none => none

/-- The checks on the new event itself. -/
def evCheck (mc : MonCfg) (m : MSt) (e : Ev) : Option Clause :=
  match e.k with
  | .hc => if m.can e.i = none && !mc.broken then some (.otherCancelled e.i) else none
  | .ret r =>
    match r with
    | .ok none => none
    | .ok (some p) => if p = e.i then none else some (.foreignResult e.i p)
    | .ctx dl =>
      match m.can e.i with
      | some (_, dl') => if dl = dl' then none else some (.wrongResult e.i)
      | none => if mc.broken then none else some (.wrongResult e.i)
    | .other _ => if mc.broken then none else some (.wrongResult e.i)
  | _ => none

def checkAt (mc : MonCfg) (m : MSt) (e : Ev) : Option Clause :=
  match evCheck mc m e with
  | some cl => some cl
  | none => timeCheck mc m e.t

/-- Read the log from monitor state `m`: the first clause that fires, if any. -/
def scan (mc : MonCfg) (m : MSt) : List Ev → Option Clause
  | [] => none
  | e :: rest =>
    match checkAt mc m e with
    | some cl => some cl
    | none => scan mc (mupd m e) rest

def mon (mc : MonCfg) (tr : List Ev) : Option Clause := scan mc {} tr

/-- End of the case (every handler was released, the harness waited): every call that was issued has returned.
Not evaluated when the injected fault broke the transport's writer (calls in flight on a connection whose writer
is broken are the subject of C01/C05, not of C04). -/
def monEnd (mc : MonCfg) (tr : List Ev) : Option Clause :=
  if mc.broken then none else
  let m := summ tr
  match (List.range mc.c.n).find? (fun i => (m.snd i).isSome && (m.ret i).isNone) with
  | some i => some (.neverReturned i)
  | none => none

end Cancel
