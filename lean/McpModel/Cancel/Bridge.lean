import McpModel.Cancel.Props
/-!
# The bridge between the C04 monitor and the cancel model

The monitor (`mon`, evaluated by the driver on the IMPLEMENTATION's event log) is run here on the log of the model, for
every configuration whose notifier keeps the values of the call's context (the regenerated fact `gen_keeps_values`).  So a
`V` never comes from conforming behaviour; what a `V` means on the observed log is stated per clause in `Sound.lean`.
-/
namespace Cancel

theorem traceOf_eq {c : Cfg} {ls : List Label} {s : St} (h : run c init ls = some s) : traceOf c ls = s.trace := by
  simp [traceOf, h]

/-- For every label list the model allows, no clause of C04 fires on the model's
own event log (nor, the monitor reading the log from left to right, on any prefix of it). -/
theorem monitor_accepts_model {c : Cfg} (hk : c.keepValues = true) (ls : List Label) {s : St}
    (h : run c init ls = some s) : mon ⟨c, false⟩ (traceOf c ls) = none := by
  rw [traceOf_eq h]
  exact (inv_run hk ls h).good

/-- … in particular for the configuration the driver builds from the regenerated flag. -/
theorem monitor_accepts_model_fromCode (c : Cfg) (ls : List Label) {s : St}
    (h : run c.fromCode init ls = some s) : mon ⟨c.fromCode, false⟩ (traceOf c.fromCode ls) = none :=
  monitor_accepts_model (c := c.fromCode) gen_keeps_values ls h

/-- The bridge needs the regenerated fact: with a notifier that drops the values (`context.Background()`) the MODEL itself
violates the clause `peerNotCancelled` — the monitor fires on the model's own log. -/
theorem monitor_rejects_background_notifier :
    mon ⟨cfgNested false false, false⟩ (traceOf (cfgNested false false) (nestedCancelRun ++ [.drop 1, .tick 1000, .finish 1]))
      = some (.peerNotCancelled 1) := by decide

/-- Nothing is left to run: no request in transit, queued or being handled, no response travelling or consumed but
not returned, no retired call whose caller has not returned. -/
def Final (c : Cfg) (s : St) : Prop :=
  ∀ i, i < c.n → (s.req i = .idle ∨ s.req i = .finished ∨ s.req i = .skipped) ∧ s.respTransit i = false ∧ s.got i = false
    ∧ (s.retired i = true → s.res i ≠ none)

/-- In a final state of the model every call that was issued has returned. -/
theorem monEnd_accepts_final {c : Cfg} (hk : c.keepValues = true) (ls : List Label) {s : St}
    (h : run c init ls = some s) (hf : Final c s) : monEnd ⟨c, false⟩ (traceOf c ls) = none := by
  rw [traceOf_eq h]
  have I := inv_run hk ls h
  have : (List.range c.n).find? (fun i => ((M s).snd i).isSome && ((M s).ret i).isNone) = none := by
    rw [List.find?_eq_none]
    intro i hi
    obtain ⟨hreq, hrt, hgot, hretd⟩ := hf i (List.mem_range.mp hi)
    -- an issued call that has not returned is registered (then its response is still travelling), answered or retired
    have := I.snd_iff i; have := I.ret_eq i; have := I.inflight i; have := I.answered i
    cases hr : s.res i <;> cases hx : (M s).ret i <;> simp_all
    grind
  simp [monEnd, this]

end Cancel
