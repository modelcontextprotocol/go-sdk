import McpModel.Cancel.Model
/-!
# C04 — within one session: which label writes which field of which call (engine `cancel`)

"No other in-flight request is cancelled" and "the session stays usable" at the level of the whole state, for ALL labels:
every label other than `tick` belongs to one call (`callOf`), writes only the fields listed for it (`Label.fields`), and
those at its own call only (`step_writes`).  What the other files say about a label NOT writing a field, or leaving the other calls
alone, is read off this table; what a label writes in which branch (`notice_cancels_exactly_named`, `late_response_no_effect`,
`notice_frame`) is read off `step`.  `step_res`, at the end, is one such reading: which labels set a result.
-/
namespace Cancel

/-- The call a label belongs to (`tick` belongs to none). -/
def callOf : Label → Option Nat
  | .call i | .deliver i | .start i | .skip i | .finish i | .resp i | .retOk i | .cancel i _ | .retire i | .retCtx i
  | .notice i | .drop i => some i
  | .tick _ => none

inductive Field where
  | req | reg | got | retired | res | ctxDone | notice | noticeAt | hcan | respTransit
deriving DecidableEq

def Label.fields : Label → List Field
  | .call _ => [.req, .reg]
  | .deliver _ | .start _ => [.req]
  | .skip _ | .finish _ => [.req, .respTransit]
  | .resp _ => [.respTransit, .reg, .got]
  | .retOk _ => [.got, .res]
  | .cancel _ _ => [.ctxDone, .notice, .noticeAt]
  | .retire _ => [.reg, .got, .retired, .notice, .noticeAt]
  | .retCtx _ => [.res]
  | .notice _ => [.notice, .hcan]
  | .drop _ => [.notice]
  | .tick _ => []

def Label.writes (l : Label) (x : Field) : Bool := l.fields.contains x

/-- One field across a step: unchanged, or — only if the label may write it (`w`) — updated at call `i`. -/
def Wr {α : Type} (w : Bool) (i : Nat) (f f' : Nat → α) : Prop := f' = f ∨ w = true ∧ ∃ v, f' = upd f i v

theorem Wr.same {α : Type} {w : Bool} {i : Nat} {f : Nat → α} : Wr w i f f := Or.inl rfl

theorem Wr.upd {α : Type} {w : Bool} {i : Nat} {f : Nat → α} {v : α} (hw : w = true) : Wr w i f (upd f i v) :=
  Or.inr ⟨hw, v, rfl⟩

theorem Wr.other {α : Type} {w : Bool} {i j : Nat} {f f' : Nat → α} (h : Wr w i f f') (hj : j ≠ i) : f' j = f j := by
  rcases h with rfl | ⟨_, v, rfl⟩
  · rfl
  · exact upd_other _ _ hj

theorem Wr.keep {α : Type} {w : Bool} {i : Nat} {f f' : Nat → α} (h : Wr w i f f') (hw : w = false) : f' = f :=
  h.resolve_right fun h => by rw [hw] at h; cases h.1

structure Writes (l : Label) (i : Nat) (s s' : St) : Prop where
  req : Wr (l.writes .req) i s.req s'.req
  reg : Wr (l.writes .reg) i s.reg s'.reg
  got : Wr (l.writes .got) i s.got s'.got
  retired : Wr (l.writes .retired) i s.retired s'.retired
  res : Wr (l.writes .res) i s.res s'.res
  ctxDone : Wr (l.writes .ctxDone) i s.ctxDone s'.ctxDone
  notice : Wr (l.writes .notice) i s.notice s'.notice
  noticeAt : Wr (l.writes .noticeAt) i s.noticeAt s'.noticeAt
  hcan : Wr (l.writes .hcan) i s.hcan s'.hcan
  respTransit : Wr (l.writes .respTransit) i s.respTransit s'.respTransit
  now : s'.now = s.now
  trace : s'.trace = s.trace ∨ ∃ k, s'.trace = emit s k i

theorem step_writes {c : Cfg} {s s' : St} {l : Label} {i : Nat} (hl : callOf l = some i) (h : step c s l = some s') :
    Writes l i s s' := by
  -- in every branch of `step` each field is the old one or `upd` of it at `i`
  cases l <;> cases hl <;> simp only [step] at h <;> (repeat' split at h) <;> first
    | (cases h; done)
    | (cases h
       constructor <;> first | exact Wr.same | exact Wr.upd rfl | rfl | exact Or.inl rfl | exact Or.inr ⟨_, rfl⟩)

theorem step_touches_only_its_call {c : Cfg} {s s' : St} (l : Label) (i : Nat) (hl : callOf l = some i)
    (h : step c s l = some s') (j : Nat) (hj : j ≠ i) :
    s'.req j = s.req j ∧ s'.reg j = s.reg j ∧ s'.got j = s.got j ∧ s'.retired j = s.retired j ∧ s'.res j = s.res j ∧
      s'.ctxDone j = s.ctxDone j ∧ s'.notice j = s.notice j ∧ s'.hcan j = s.hcan j ∧ s'.respTransit j = s.respTransit j ∧
      s'.now = s.now :=
  have W := step_writes hl h
  ⟨W.req.other hj, W.reg.other hj, W.got.other hj, W.retired.other hj, W.res.other hj, W.ctxDone.other hj, W.notice.other hj,
    W.hcan.other hj, W.respTransit.other hj, W.now⟩

theorem run_of_other_calls_preserves_call {c : Cfg} (ls : List Label) (j : Nat)
    (hls : ∀ l ∈ ls, ∃ i, callOf l = some i ∧ i ≠ j) (s s' : St) (h : run c s ls = some s') :
    s'.req j = s.req j ∧ s'.reg j = s.reg j ∧ s'.got j = s.got j ∧ s'.res j = s.res j ∧ s'.ctxDone j = s.ctxDone j ∧
      s'.notice j = s.notice j ∧ s'.hcan j = s.hcan j ∧ s'.now = s.now := by
  refine run_induction (P := fun s1 => s1.req j = s.req j ∧ s1.reg j = s.reg j ∧ s1.got j = s.got j ∧ s1.res j = s.res j ∧
    s1.ctxDone j = s.ctxDone j ∧ s1.notice j = s.notice j ∧ s1.hcan j = s.hcan j ∧ s1.now = s.now)
    (fun l hl s1 s2 ⟨b1, b2, b3, b5, b6, b7, b8, b10⟩ h1 => ?_) ⟨rfl, rfl, rfl, rfl, rfl, rfl, rfl, rfl⟩ h
  obtain ⟨i, hi, hij⟩ := hls l hl
  have W := step_writes hi h1
  have hj := hij.symm
  exact ⟨(W.req.other hj).trans b1, (W.reg.other hj).trans b2, (W.got.other hj).trans b3, (W.res.other hj).trans b5,
    (W.ctxDone.other hj).trans b6, (W.notice.other hj).trans b7, (W.hcan.other hj).trans b8, W.now.trans b10⟩

theorem step_res {c : Cfg} {s s' : St} {l : Label} (h : step c s l = some s') (j : Nat) :
    s'.res j = s.res j ∨ s'.res j = some (.ok (payload c j)) ∨ ∃ dl, s'.res j = some (.ctx dl) := by
  cases l with
  | retOk i => obtain ⟨_, rfl⟩ := guarded h; grind [upd]
  | retCtx i =>
    simp only [step] at h
    split at h
    · obtain ⟨_, rfl⟩ := guarded h; grind [upd]
    · cases h
  | tick d => obtain ⟨_, rfl⟩ := guarded h; exact Or.inl rfl
  | _ => exact Or.inl (congrFun ((step_writes rfl h).res.keep rfl) j)

end Cancel
