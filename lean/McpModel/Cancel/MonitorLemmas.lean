import McpModel.Cancel.Monitor
/-!
How the monitor's summary grows: `summ` and `scan` one event further, what `setFirst` and `setMin` leave in a slot, and that
`routeOpen`, once lost, stays lost.  Nothing here mentions the model's state.
-/
namespace Cancel

theorem summ_snoc (tr : List Ev) (e : Ev) : summ (tr ++ [e]) = mupd (summ tr) e := by
  simp [summ, List.foldl_append]

theorem setFirst_same {α : Type} (f : Nat → Option α) (i : Nat) (v : α) :
    setFirst f i v i = (f i).or (some v) := by simp [setFirst]

theorem setFirst_other {α : Type} (f : Nat → Option α) {i j : Nat} (v : α) (h : j ≠ i) : setFirst f i v j = f j := by
  simp [setFirst, h]

theorem setFirst_none {α : Type} (f : Nat → Option α) (i : Nat) (v : α) (h : f i = none) : setFirst f i v i = some v := by
  simp [setFirst, h]

theorem setFirst_keeps {α : Type} (f : Nat → Option α) (i j : Nat) (v x : α) (h : f j = some x) : setFirst f i v j = some x := by
  grind [setFirst]

theorem setFirst_isSome {α : Type} (f : Nat → Option α) (i j : Nat) (v : α) :
    (setFirst f i v j).isSome = (decide (j = i) || (f j).isSome) := by
  grind [setFirst]

theorem setFirst_some {α : Type} (f : Nat → Option α) (i j : Nat) (v x : α) (h : setFirst f i v j = some x) :
    f j = some x ∨ (j = i ∧ f i = none ∧ x = v) := by
  unfold setFirst at h
  split at h
  next hj => subst hj; cases hf : f j <;> simp_all
  next => exact Or.inl h

theorem setMin_le (f : Nat → Option Nat) (i j v x : Nat) (h : f j = some x) : ∃ y, setMin f i v j = some y ∧ y ≤ x := by
  grind [setMin]

theorem setMin_some (f : Nat → Option Nat) (i j v y : Nat) (h : setMin f i v j = some y) :
    f j = some y ∨ (j = i ∧ y ≤ v ∧ (y = v ∨ f j = some y)) := by
  grind [setMin]

theorem setMin_none_iff (f : Nat → Option Nat) (i j v : Nat) : setMin f i v j = none ↔ (f j = none ∧ j ≠ i) := by
  grind [setMin]

theorem setMin_same_isSome (f : Nat → Option Nat) (i v : Nat) : (setMin f i v i).isSome = true := by
  unfold setMin; cases f i <;> simp

theorem routeOpen_mono (c : Cfg) {m m' : MSt} (hle : ∀ p x, m.closed p = some x → ∃ y, m'.closed p = some y ∧ y ≤ x)
    (i : Nat) {t t' : Nat} (ht : t ≤ t') (h : routeOpen c m i t = false) : routeOpen c m' i t' = false := by
  unfold routeOpen at *
  cases hr : callRoute c i with
  | conn => simp [hr] at h
  | oneShot k => simp [hr] at h
  | standalone => simpa [hr] using h
  | reqStream p =>
    simp only [hr] at h ⊢
    cases hf : m.closed p with
    | none => simp [hf, optAll] at h
    | some x =>
      obtain ⟨y, hy, hle⟩ := hle p x hf
      rw [hf] at h
      rw [hy]
      simp only [optAll, decide_eq_false_iff_not] at h ⊢
      omega

theorem scan_snoc (mc : MonCfg) (m : MSt) (tr : List Ev) (e : Ev) :
    scan mc m (tr ++ [e]) = (scan mc m tr).or (checkAt mc (tr.foldl mupd m) e) := by
  induction tr generalizing m with
  | nil => simp only [List.nil_append, scan, List.foldl_nil]; cases checkAt mc m e <;> rfl
  | cons a tr ih =>
    simp only [List.cons_append, scan, List.foldl_cons]
    cases checkAt mc m a with
    | some cl => rfl
    | none => exact ih (mupd m a)

end Cancel
