import McpModel.Cancel.MonitorLemmas
/-!
The invariant of the cancel model (`Inv`), relating the state to the monitor's summary of the ghost
trace (`summ s.trace`), and its preservation by every label (`inv_step`, `inv_run`).  What the invariant is FOR is
`timeCheck_none`: in a reachable state neither clause that waits for a deadline (`notPrompt`, `peerNotCancelled`) is due, because
whatever would make it due is `urgent` and has stopped the clock.
-/
namespace Cancel

/-- With the notifier keeping the values of the call's
context, the cancel notice of a call takes the route the call itself took — whenever request and notice are
served by the same connection of the peer (everything but a stateless server without propagation). -/
theorem noticeRoute_eq_callRoute (c : Cfg) (i : Nat) (hk : c.keepValues = true) (he : expected c i = true) :
    noticeRoute c i = callRoute c i := by
  unfold noticeRoute callRoute noticeVals expected at *
  simp only [hk, if_true]
  cases htr : c.tr <;> cases hd : (c.info i).dir <;> simp [route, htr, hd] at he ⊢
  simp [he]

abbrev M (s : St) : MSt := summ s.trace

/-- Three groups of clauses.  The summary of the log agrees with the state (`le_closed` … `hc_of` without `le_noticeAt`, `urgent_now`, `good`): each slot
of `M s` is filled iff the call is in the phase that emitted the event, and `can`/`ret` hold the value the state holds.  One call's
own fields fit together (`inflight` … `res_ctx`, `encl_run`, `bounded`).  The fate of the notice (`pending_now`, `dropped`,
`delivered`, `delivered_nt`), read by `timeCheck_none` against the scope of `peerNotCancelled`. -/
structure Inv (c : Cfg) (s : St) : Prop where
  le_closed : ∀ i t, (M s).closed i = some t → t ≤ s.now
  closed_iff : ∀ i, (M s).closed i = none ↔ (s.req i ≠ .finished ∧ s.ctxDone i = none)
  beg_iff : ∀ i, ((M s).beg i).isSome = (s.req i == .running || s.req i == .finished)
  fin_iff : ∀ i, ((M s).fin i).isSome = (s.req i == .finished)
  can_eq : ∀ i, ((M s).can i).map (·.2) = s.ctxDone i
  ret_eq : ∀ i, ((M s).ret i).map (·.2) = s.res i
  /-- `noticeAt` is ghost state (no guard of `step` reads it): the instant the notifier of call i was started -/
  le_noticeAt : ∀ i, s.noticeAt i ≤ s.now
  /-- the caller returns its context's error only after it started the notifier (`retire`, or `cancel` where the abort is the notice) -/
  ret_after : ∀ i t dl, (M s).ret i = some (t, .ctx dl) → s.noticeAt i ≤ t
  snd_iff : ∀ i, ((M s).snd i).isSome = (s.req i != .idle)
  hc_of : ∀ i, s.hcan i = true → s.req i = .running → ((M s).hc i).isSome = true
  /-- an issued call that has not returned is in one of the caller's three phases: registered, answered, retired -/
  inflight : ∀ i, s.req i ≠ .idle → s.res i = none → s.reg i = true ∨ s.got i = true ∨ s.retired i = true
  issued : ∀ i, s.res i ≠ none → s.req i ≠ .idle
  active : ∀ i, s.reg i = true ∨ s.got i = true → s.req i ≠ .idle
  answered : ∀ i, s.reg i = true → (s.req i = .finished ∨ s.req i = .skipped) → s.respTransit i = true
  hcan_of : ∀ i, s.hcan i = true → s.notice i = .delivered
  notice_ctx : ∀ i, s.notice i ≠ .none → s.ctxDone i ≠ none
  /-- `retired_notice`, `abort_notice`, `notice_src`: a notifier exists iff someone started it — `retire`, or, where the end of the
  HTTP exchange is what reaches the peer (`abortIsNotice`), `cancel` itself -/
  retired_notice : ∀ i, s.retired i = true → s.notice i ≠ .none
  ctx_issued : ∀ i, s.ctxDone i ≠ none → s.req i ≠ .idle
  abort_notice : ∀ i, abortIsNotice c i = true → s.ctxDone i ≠ none → s.notice i ≠ .none
  notice_src : ∀ i, s.notice i ≠ .none → s.retired i = true ∨ abortIsNotice c i = true
  retired_excl : ∀ i, s.retired i = true → s.reg i = false ∧ s.got i = false
  res_ctx : ∀ i dl, s.res i = some (.ctx dl) → s.ctxDone i = some dl ∧ s.retired i = true
  /-- a pending notice that the transport does not stall is urgent: the clock has stood since the notifier started -/
  pending_now : ∀ i, s.notice i = .pending → (c.info i).fault = false → s.now = s.noticeAt i
  /-- the three exemptions of `latePeer`, of which a dropped notice has one; the route is judged at `noticeAt`, which is not later than
  the caller's return (`ret_after`), where `latePeer` judges it (`routeOpen_mono`) -/
  dropped : ∀ i, s.notice i = .dropped →
    (c.info i).fault = true ∨ expected c i = false ∨ routeOpen c (M s) i (s.noticeAt i) = false
  delivered : ∀ i, s.notice i = .delivered → sameConn c i = true → (s.req i = .queued ∨ s.req i = .running) → s.hcan i = true
  delivered_nt : ∀ i, s.notice i = .delivered → s.req i ≠ .transit
  /-- a caller whose context ended and who has not returned is urgent: the context ended at this very instant -/
  urgent_now : ∀ i, s.ctxDone i ≠ none → (s.reg i = true ∨ s.got i = true ∨ s.retired i = true) → s.res i = none →
    ∃ dl, (M s).can i = some (s.now, dl)
  /-- a nested call is made by a running handler (`enclRunning`): its request stream was open then -/
  encl_run : ∀ i p, s.req i ≠ .idle → (c.info i).encl = some p → s.req p = .running ∨ s.req p = .finished
  bounded : ∀ i, c.n ≤ i → s.req i = .idle ∧ s.notice i = .none ∧ s.ctxDone i = none
  /-- `mon ⟨c, false⟩ s.trace = none`, unfolded -/
  good : scan ⟨c, false⟩ {} s.trace = none

theorem inv_init (c : Cfg) : Inv c init := by
  constructor <;> simp [init, M, summ, scan]

theorem timeCheck_none {c : Cfg} {s : St} (hk : c.keepValues = true) (I : Inv c s) :
    timeCheck ⟨c, false⟩ (M s) s.now = none := by
  have h1 : ∀ i, lateCaller (M s) s.now i = false := by
    intro i
    unfold lateCaller
    split
    next ts tc dl hs hc hr =>
      have hidle : s.req i ≠ .idle := by have := I.snd_iff i; rw [hs] at this; intro h; simp [h] at this
      have hres : s.res i = none := by simpa [hr] using (I.ret_eq i).symm
      have hctx : s.ctxDone i ≠ none := by rw [← I.can_eq i, hc]; simp
      obtain ⟨dl', hcan⟩ := I.urgent_now i hctx (I.inflight i hidle hres) hres
      rw [hc] at hcan
      cases hcan
      simp only [decide_eq_false_iff_not]
      omega
    next => rfl
  -- a caller that returned its context's error started a notifier not later than that; its notice is still pending (then no
  -- time has passed), was dropped for a reason that held at the return already, or was delivered (then the handler saw it)
  have h2 : ∀ i, latePeer c (M s) s.now i = false := by
    intro i
    unfold latePeer
    split
    next tr dl tb hr hb hh hf =>
      rw [Bool.eq_false_iff]
      intro hall
      simp only [Bool.and_eq_true, Bool.not_eq_true', decide_eq_true_eq] at hall
      obtain ⟨⟨⟨hex, hfa⟩, hro⟩, hlt⟩ := hall
      have hat := I.ret_after i tr dl hr
      have hres : s.res i = some (.ctx dl) := by simpa [hr] using (I.ret_eq i).symm
      cases hnp : s.notice i with
      | none => exact I.retired_notice i (I.res_ctx i dl hres).2 hnp
      | pending => have := I.pending_now i hnp hfa; omega
      | dropped =>
        rcases I.dropped i hnp with h | h | h
        · rw [hfa] at h; cases h
        · rw [hex] at h; cases h
        · rw [routeOpen_mono c (fun _ x hx => ⟨x, hx, Nat.le_refl x⟩) i hat h] at hro; cases hro
      | delivered =>
        have hb' := I.beg_iff i; rw [hb] at hb'
        have hf' := I.fin_iff i; rw [hf] at hf'
        have hrun : s.req i = .running := by cases hq : s.req i <;> simp [hq] at hb' hf' ⊢
        have := I.hc_of i (I.delivered i hnp (by simp [sameConn, noticeRoute_eq_callRoute c i hk hex]) (Or.inr hrun)) hrun
        rw [hh] at this; cases this
    next => rfl
  unfold timeCheck
  rw [List.find?_eq_none.mpr fun i _ => by simp [h1 i], List.find?_eq_none.mpr fun i _ => by simp [h2 i]]
  rfl

section
variable {c : Cfg} {s s' : St}

/-- The clauses of `Inv` that read the summary of the log (all of them but `good`, which reads the log itself), about a summary `m`
in place of `M s`. -/
structure LogInv (c : Cfg) (s : St) (m : MSt) : Prop where
  le_closed : ∀ i t, m.closed i = some t → t ≤ s.now
  closed_iff : ∀ i, m.closed i = none ↔ (s.req i ≠ .finished ∧ s.ctxDone i = none)
  beg_iff : ∀ i, (m.beg i).isSome = (s.req i == .running || s.req i == .finished)
  fin_iff : ∀ i, (m.fin i).isSome = (s.req i == .finished)
  can_eq : ∀ i, (m.can i).map (·.2) = s.ctxDone i
  ret_eq : ∀ i, (m.ret i).map (·.2) = s.res i
  ret_after : ∀ i t dl, m.ret i = some (t, .ctx dl) → s.noticeAt i ≤ t
  snd_iff : ∀ i, (m.snd i).isSome = (s.req i != .idle)
  hc_of : ∀ i, s.hcan i = true → s.req i = .running → (m.hc i).isSome = true
  dropped : ∀ i, s.notice i = .dropped →
    (c.info i).fault = true ∨ expected c i = false ∨ routeOpen c m i (s.noticeAt i) = false
  urgent_now : ∀ i, s.ctxDone i ≠ none → (s.reg i = true ∨ s.got i = true ∨ s.retired i = true) → s.res i = none →
    ∃ dl, m.can i = some (s.now, dl)

theorem Inv.log (I : Inv c s) : LogInv c s (M s) := { I with }

theorem LogInv.of_eq {m : MSt} (L : LogInv c s m) (hm : M s = m) : LogInv c s (M s) := hm ▸ L

/-- How a label that emits an event re-proves the log clauses: about the explicit summary `m` that `mupd` makes of the old one
(`L`), and only then, in `J`, together with the other clauses, about `M` of the new state. -/
theorem Inv.of_log {m : MSt} (hm : M s = m) (L : LogInv c s m) (J : LogInv c s (M s) → Inv c s) : Inv c s :=
  J (L.of_eq hm)

theorem Inv.dropped_mono (I : Inv c s) {m' : MSt}
    (hle : ∀ p x, (M s).closed p = some x → ∃ y, m'.closed p = some y ∧ y ≤ x) (i : Nat) (h : s.notice i = .dropped) :
    (c.info i).fault = true ∨ expected c i = false ∨ routeOpen c m' i (s.noticeAt i) = false :=
  (I.dropped i h).imp_right (Or.imp_right (routeOpen_mono c hle i (Nat.le_refl _)))

theorem good_emit (hk : c.keepValues = true) (I : Inv c s) (k : EvK) (i : Nat)
    (h : evCheck ⟨c, false⟩ (M s) ⟨k, i, s.now⟩ = none) : scan ⟨c, false⟩ {} (emit s k i) = none := by
  unfold emit
  rw [scan_snoc, I.good]
  show checkAt _ (M s) _ = none
  unfold checkAt
  rw [h]
  exact timeCheck_none hk I

theorem evCheck_retOk (c : Cfg) (m : MSt) (i t : Nat) : evCheck ⟨c, false⟩ m ⟨.ret (.ok (payload c i)), i, t⟩ = none := by
  unfold payload
  split <;> simp [evCheck]

theorem evCheck_retCtx (I : Inv c s) (i : Nat) (dl : Bool) (h : s.ctxDone i = some dl) :
    evCheck ⟨c, false⟩ (M s) ⟨.ret (.ctx dl), i, s.now⟩ = none := by
  obtain ⟨⟨t, dl'⟩, hc, rfl⟩ := Option.map_eq_some_iff.mp ((I.can_eq i).trans h)
  simp [evCheck, hc]

theorem evCheck_hc (I : Inv c s) (i : Nat) (h : s.notice i = .pending) :
    evCheck ⟨c, false⟩ (M s) ⟨.hc, i, s.now⟩ = none := by
  have h1 := I.notice_ctx i (by rw [h]; simp)
  have h2 := I.can_eq i
  cases hc : (M s).can i with
  | none => rw [hc] at h2; simp at h2; exact absurd h2.symm h1
  | some x => simp [evCheck, hc]

theorem inv_settle (I : Inv c s) {i : Nat} (hp : s.notice i = .pending) {v : NPhase}
    (hv : v = .delivered ∧ s.req i ≠ .transit ∧ ¬(sameConn c i = true ∧ (s.req i = .queued ∨ s.req i = .running)) ∨
      v = .dropped ∧ ((c.info i).fault = true ∨ expected c i = false ∨ routeOpen c (M s) i s.now = false)) :
    Inv c { s with notice := upd s.notice i v } :=
  { I with
    hcan_of := by grind [upd, I.hcan_of]
    notice_ctx := by grind [upd, I.notice_ctx]
    retired_notice := by grind [upd, I.retired_notice]
    abort_notice := by grind [upd, I.abort_notice]
    notice_src := by grind [upd, I.notice_src]
    pending_now := by grind [upd, I.pending_now]
    dropped := by grind [upd, I.dropped, I.pending_now]
    delivered := by grind [upd, I.delivered]
    delivered_nt := by grind [upd, I.delivered_nt]
    bounded := by grind [upd, I.bounded] }

theorem callRoute_reqStream {i p : Nat} (h : callRoute c i = .reqStream p) : (c.info i).encl = some p := by
  unfold callRoute route at h
  (repeat' split at h) <;> simp_all

/-- The state's reason for dropping a notice, as the LOG shows it. -/
theorem drop_reason (hk : c.keepValues = true) (I : Inv c s) (i : Nat) (hp : s.notice i = .pending)
    (h : (c.info i).fault = true ∨ routeExists c s (noticeRoute c i) = false) :
    (c.info i).fault = true ∨ expected c i = false ∨ routeOpen c (M s) i (s.now) = false := by
  rcases h with h | h
  · exact Or.inl h
  · by_cases hex : expected c i = true
    · right; right
      rw [noticeRoute_eq_callRoute c i hk hex] at h
      unfold routeOpen
      cases hr : callRoute c i with
      | conn => simp [hr, routeExists] at h
      | oneShot k => simp [hr, routeExists] at h
      | standalone => simpa [hr, routeExists] using h
      | reqStream p =>
        simp only [hr, routeExists, Bool.and_eq_false_iff] at h ⊢
        -- the enclosing handler ran when the call was made: a stream that is gone has been closed, not later than now
        have hrun := I.encl_run i p (I.ctx_issued i (I.notice_ctx i (by rw [hp]; simp))) (callRoute_reqStream hr)
        cases hx : (M s).closed p with
        | none => have := (I.closed_iff p).mp hx; grind
        | some t =>
          have := I.le_closed p t hx
          simp only [optAll, decide_eq_false_iff_not]
          omega
    · right; left; simpa using hex

theorem quiet_spec (h : quiet c s = true) (i : Nat) (hi : i < c.n) : urgent c s i = false := by
  unfold quiet at h
  rw [List.all_eq_true] at h
  simpa using h i (List.mem_range.mpr hi)

end

theorem tick_none_of_urgent {c : Cfg} {s : St} {i : Nat} (hi : i < c.n) (hu : urgent c s i = true) (d : Nat) :
    step c s (.tick d) = none := by
  simp only [step]
  rw [if_neg]
  intro ⟨_, hq⟩
  rw [quiet_spec hq i hi] at hu
  cases hu

theorem routeMay_of_exists {c : Cfg} {s : St} {r : Route} (h : routeExists c s r = true) : routeMay c s r = true := by
  cases r <;> simp_all [routeMay, routeExists]

/-- **The invariant is preserved by every label.**  A label writes a few fields of the state and appends at most one
event.  A clause none of whose fields is written carries over by unfolding the record update (`{ I with … }`); a clause
that reads a written field is proved from the old clauses named in its line; the clauses that read the log are proved
about what `mupd` makes of `M s` (`LogInv`, `Inv.of_log`). -/
theorem inv_step {c : Cfg} (hk : c.keepValues = true) {s s' : St} (l : Label) (I : Inv c s) (h : step c s l = some s') : Inv c s' := by
  cases l with
  | call i =>
    obtain ⟨⟨hn, hidle, hres, hctx, hroute, hencl⟩, rfl⟩ := guarded h
    clear h
    -- no notifier was started while the context was alive
    have hnone : s.notice i = .none := by grind [I.notice_ctx]
    refine Inv.of_log (m := { M s with snd := setFirst (M s).snd i s.now }) (summ_snoc _ ⟨.snd, i, s.now⟩) { I.log with
      closed_iff := by grind [upd, I.closed_iff]
      beg_iff := by grind [upd, I.beg_iff]
      fin_iff := by grind [upd, I.fin_iff]
      snd_iff := by grind [upd, setFirst, I.snd_iff]
      hc_of := by grind [upd, I.hc_of]
      urgent_now := by grind [upd, I.urgent_now] } fun L => { L, I with
      inflight := by grind [upd, I.inflight]
      issued := upd_avoids (by decide) I.issued
      active := by grind [upd, I.active]
      answered := by grind [upd, I.answered]
      ctx_issued := upd_avoids (by decide) I.ctx_issued
      retired_excl := by grind [upd, I.retired_excl, I.retired_notice]
      delivered := by grind [upd, I.delivered]
      delivered_nt := by grind [upd, I.delivered_nt]
      encl_run := by grind [upd, enclRunning, I.encl_run]
      bounded := by grind [upd, I.bounded]
      good := good_emit hk I .snd i rfl }
  | deliver i =>
    obtain ⟨hp, rfl⟩ := guarded h
    clear h
    exact { I with
      closed_iff := by grind [upd, I.closed_iff]
      beg_iff := by grind [upd, I.beg_iff]
      fin_iff := by grind [upd, I.fin_iff]
      snd_iff := by grind [upd, I.snd_iff]
      hc_of := by grind [upd, I.hc_of]
      inflight := by grind [upd, I.inflight]
      issued := upd_avoids (by decide) I.issued
      active := upd_avoids (by decide) I.active
      answered := by grind [upd, I.answered]
      ctx_issued := upd_avoids (by decide) I.ctx_issued
      delivered := by grind [upd, I.delivered, I.delivered_nt]
      delivered_nt := upd_avoids (by decide) I.delivered_nt
      encl_run := by grind [upd, I.encl_run]
      bounded := by grind [upd, I.bounded] }
  | start i =>
    obtain ⟨⟨hq, hcan⟩, rfl⟩ := guarded h
    clear h
    refine Inv.of_log (m := { M s with beg := setFirst (M s).beg i s.now }) (summ_snoc _ ⟨.beg, i, s.now⟩) { I.log with
      closed_iff := by grind [upd, I.closed_iff]
      beg_iff := by grind [upd, setFirst, I.beg_iff]
      fin_iff := by grind [upd, I.fin_iff]
      snd_iff := by grind [upd, I.snd_iff]
      hc_of := by grind [upd, I.hc_of] } fun L => { L, I with
      inflight := by grind [upd, I.inflight]
      issued := upd_avoids (by decide) I.issued
      active := upd_avoids (by decide) I.active
      answered := by grind [upd, I.answered]
      ctx_issued := upd_avoids (by decide) I.ctx_issued
      delivered := by grind [upd, I.delivered]
      delivered_nt := upd_avoids (by decide) I.delivered_nt
      encl_run := by grind [upd, I.encl_run]
      bounded := by grind [upd, I.bounded]
      good := good_emit hk I .beg i rfl }
  | skip i =>
    obtain ⟨⟨hq, hcan⟩, rfl⟩ := guarded h
    clear h
    exact { I with
      closed_iff := by grind [upd, I.closed_iff]
      beg_iff := by grind [upd, I.beg_iff]
      fin_iff := by grind [upd, I.fin_iff]
      snd_iff := by grind [upd, I.snd_iff]
      hc_of := by grind [upd, I.hc_of]
      inflight := by grind [upd, I.inflight]
      issued := upd_avoids (by decide) I.issued
      active := upd_avoids (by decide) I.active
      answered := by grind [upd, I.answered]
      ctx_issued := upd_avoids (by decide) I.ctx_issued
      delivered := by grind [upd, I.delivered]
      delivered_nt := upd_avoids (by decide) I.delivered_nt
      encl_run := by grind [upd, I.encl_run]
      bounded := by grind [upd, I.bounded] }
  | finish i =>
    obtain ⟨hrun, rfl⟩ := guarded h
    clear h
    refine Inv.of_log (m := { M s with fin := setFirst (M s).fin i s.now, closed := setMin (M s).closed i s.now })
      (summ_snoc _ ⟨.fin, i, s.now⟩) { I.log with
      le_closed := fun j t => by have := I.le_closed j; grind [setMin_some]
      closed_iff := by grind [upd, setMin_none_iff, I.closed_iff]
      beg_iff := by grind [upd, I.beg_iff]
      fin_iff := by grind [upd, setFirst, I.fin_iff]
      snd_iff := by grind [upd, I.snd_iff]
      hc_of := by grind [upd, I.hc_of]
      dropped := I.dropped_mono fun p x => setMin_le _ i p s.now x } fun L => { L, I with
      inflight := by grind [upd, I.inflight]
      issued := upd_avoids (by decide) I.issued
      active := upd_avoids (by decide) I.active
      answered := by grind [upd, I.answered]
      ctx_issued := upd_avoids (by decide) I.ctx_issued
      delivered := by grind [upd, I.delivered]
      delivered_nt := upd_avoids (by decide) I.delivered_nt
      encl_run := by grind [upd, I.encl_run]
      bounded := by grind [upd, I.bounded]
      good := good_emit hk I .fin i rfl }
  | resp i =>
    obtain ⟨ht, h⟩ := Option.ite_none_right_eq_some.mp h
    split at h <;> cases h <;> clear h
    next hreg => exact { I with
      inflight := by grind [upd, I.inflight]
      active := by grind [upd, I.active]
      answered := by grind [upd, I.answered]
      retired_excl := by grind [upd, I.retired_excl]
      urgent_now := by grind [upd, I.urgent_now] }
    next hreg => exact { I with
      answered := by grind [upd, I.answered] }
  | retOk i =>
    obtain ⟨⟨hgot, hres⟩, rfl⟩ := guarded h
    clear h
    refine Inv.of_log (m := { M s with ret := setFirst (M s).ret i (s.now, .ok (payload c i)) })
      (summ_snoc _ ⟨.ret (.ok (payload c i)), i, s.now⟩) { I.log with
      ret_eq := by grind [upd, setFirst, I.ret_eq]
      ret_after := fun j t dl => by have := I.ret_after j t dl; grind [setFirst_some]
      urgent_now := by grind [upd, I.urgent_now] } fun L => { L, I with
      inflight := by grind [upd, I.inflight]
      issued := by grind [upd, I.issued, I.active]
      active := by grind [upd, I.active]
      retired_excl := by grind [upd, I.retired_excl]
      res_ctx := by grind [upd, I.res_ctx]
      good := good_emit hk I _ i (evCheck_retOk c _ i _) }
  | cancel i dl =>
    obtain ⟨⟨hn, hctx, hidle⟩, h⟩ := Option.ite_none_right_eq_some.mp h
    have hm := summ_snoc s.trace ⟨.can dl, i, s.now⟩
    -- the log clauses do not read the notice: they are the same whether or not the end of the exchange is the notice
    have L : LogInv c { s with ctxDone := upd s.ctxDone i (some dl) }
        { M s with can := setFirst (M s).can i (s.now, dl), closed := setMin (M s).closed i s.now } := { I.log with
      le_closed := fun j t => by have := I.le_closed j; grind [setMin_some]
      closed_iff := by grind [upd, setMin_none_iff, I.closed_iff]
      can_eq := by grind [upd, setFirst, I.can_eq]
      dropped := I.dropped_mono fun p x => setMin_le _ i p s.now x
      urgent_now := fun j h1 h2 h3 => by
        by_cases hj : j = i
        · subst hj; exact ⟨dl, setFirst_none _ _ _ (by simpa [hctx] using I.can_eq j)⟩
        · have h1 : upd s.ctxDone i (some dl) j ≠ none := h1
          rw [upd_other _ _ hj] at h1
          exact (I.urgent_now j h1 h2 h3).imp fun _ h => (setFirst_other _ _ hj).trans h }
    split at h <;> cases h <;> clear h
    next ha =>
      have hnone : s.notice i = .none := by grind [I.notice_ctx]
      refine Inv.of_log hm { L with
        ret_after := fun j t dl' (h : (M s).ret j = _) => by have := I.ret_after j t dl' h; have := I.ret_eq j; have := I.res_ctx j dl'; grind [upd]
        dropped := fun j hj => by
          obtain ⟨hji, hj⟩ := upd_ne hj (by decide)
          simp only [upd_other _ _ hji]
          exact L.dropped j hj } fun L => { L, I with
        le_noticeAt := fun j => by have := I.le_noticeAt j; grind [upd]
        hcan_of := by grind [upd, I.hcan_of]
        notice_ctx := by grind [upd, I.notice_ctx]
        retired_notice := upd_avoids (by decide) I.retired_notice
        ctx_issued := by grind [upd, I.ctx_issued]
        abort_notice := by grind [upd, I.abort_notice]
        notice_src := by grind [upd, I.notice_src]
        res_ctx := by grind [upd, I.res_ctx]
        pending_now := by grind [upd, I.pending_now]
        delivered := by grind [upd, I.delivered]
        delivered_nt := by grind [upd, I.delivered_nt]
        bounded := by grind [upd, I.bounded]
        good := good_emit hk I (.can dl) i rfl }
    next ha =>
      refine Inv.of_log hm { L with } fun L => { L, I with
        notice_ctx := by grind [upd, I.notice_ctx]
        ctx_issued := by grind [upd, I.ctx_issued]
        abort_notice := by grind [upd, I.abort_notice]
        res_ctx := by grind [upd, I.res_ctx]
        bounded := by grind [upd, I.bounded]
        good := good_emit hk I (.can dl) i rfl }
  | retire i =>
    obtain ⟨⟨hctx, hreg, hres⟩, h⟩ := Option.ite_none_right_eq_some.mp h
    split at h <;> cases h <;> clear h
    next ha => exact { I with
      inflight := by grind [upd, I.inflight]
      active := by grind [upd, I.active]
      answered := by grind [upd, I.answered]
      retired_notice := by grind [upd, I.retired_notice, I.abort_notice]
      notice_src := by grind [upd, I.notice_src]
      retired_excl := by grind [upd, I.retired_excl]
      res_ctx := by grind [upd, I.res_ctx]
      urgent_now := by grind [upd, I.urgent_now] }
    next ha =>
      -- the notifier of a call that is still registered or answered has not been started
      have hnone : s.notice i = .none := by grind [I.notice_src, I.retired_excl]
      exact { I with
        le_noticeAt := fun j => by have := I.le_noticeAt j; grind [upd]
        ret_after := fun j t dl => by have := I.ret_after j t dl; have := I.ret_eq j; grind [upd]
        inflight := by grind [upd, I.inflight]
        active := by grind [upd, I.active]
        answered := by grind [upd, I.answered]
        hcan_of := by grind [upd, I.hcan_of]
        notice_ctx := by grind [upd, I.notice_ctx]
        retired_notice := by grind [upd, I.retired_notice]
        abort_notice := by grind [upd, I.abort_notice]
        notice_src := by grind [upd, I.notice_src]
        retired_excl := by grind [upd, I.retired_excl]
        res_ctx := by grind [upd, I.res_ctx]
        pending_now := by grind [upd, I.pending_now]
        dropped := by grind [upd, I.dropped]
        delivered := by grind [upd, I.delivered]
        delivered_nt := by grind [upd, I.delivered_nt]
        urgent_now := by grind [upd, I.urgent_now]
        bounded := by grind [upd, I.bounded, I.ctx_issued] }
  | retCtx i =>
    simp only [step] at h
    split at h
    next dl hdl =>
      obtain ⟨⟨hret, hres⟩, rfl⟩ := guarded h
      clear h
      refine Inv.of_log (m := { M s with ret := setFirst (M s).ret i (s.now, .ctx dl) })
        (summ_snoc _ ⟨.ret (.ctx dl), i, s.now⟩) { I.log with
        ret_eq := by grind [upd, setFirst, I.ret_eq]
        ret_after := fun j t dl' => by have := I.ret_after j t dl'; have := I.le_noticeAt j; grind [setFirst_some]
        urgent_now := by grind [upd, I.urgent_now] } fun L => { L, I with
        inflight := by grind [upd, I.inflight]
        issued := by grind [upd, I.issued, I.ctx_issued]
        res_ctx := by grind [upd, I.res_ctx]
        good := good_emit hk I _ i (evCheck_retCtx I i dl hdl) }
    · cases h
  | notice i =>
    obtain ⟨⟨hp, hf, hroute, hnt⟩, h⟩ := Option.ite_none_right_eq_some.mp h
    split at h <;> cases h <;> clear h
    next hq =>
      -- the clauses that do not read the log, whether or not the handler is running and sees its context end (`hc`)
      have key : ∀ tr, LogInv c { s with notice := upd s.notice i .delivered, hcan := upd s.hcan i true, trace := tr } (summ tr) →
          scan ⟨c, false⟩ {} tr = none →
          Inv c { s with notice := upd s.notice i .delivered, hcan := upd s.hcan i true, trace := tr } := fun tr L hg => { L, I with
        hcan_of := by grind [upd, I.hcan_of]
        notice_ctx := by grind [upd, I.notice_ctx]
        retired_notice := upd_avoids (by decide) I.retired_notice
        abort_notice := by grind [upd, I.abort_notice]
        notice_src := by grind [upd, I.notice_src]
        pending_now := by grind [upd, I.pending_now]
        delivered := by grind [upd, I.delivered]
        delivered_nt := by grind [upd, I.delivered_nt]
        bounded := by grind [upd, I.bounded]
        good := hg }
      by_cases hrun : s.req i = .running
      · rw [if_pos hrun]
        refine key _ (LogInv.of_eq (m := { M s with hc := setFirst (M s).hc i s.now }) { I.log with
          hc_of := by grind [upd, setFirst, I.hc_of]
          dropped := fun j hj => I.dropped j (upd_ne hj (by decide)).2 } (summ_snoc _ ⟨.hc, i, s.now⟩))
          (good_emit hk I .hc i (evCheck_hc I i hp))
      · rw [if_neg hrun]
        exact key _ { I.log with
          hc_of := by grind [upd, I.hc_of]
          dropped := fun j hj => I.dropped j (upd_ne hj (by decide)).2 } I.good
    next hq => exact inv_settle I hp (Or.inl ⟨rfl, hnt, hq⟩)
  | drop i =>
    obtain ⟨⟨hp, hwhy⟩, rfl⟩ := guarded h
    clear h
    exact inv_settle I hp (Or.inr ⟨rfl, drop_reason hk I i hp hwhy⟩)
  | tick d =>
    obtain ⟨⟨hd, hq⟩, rfl⟩ := guarded h
    clear h
    have hq : ∀ i, i < c.n → urgent c s i = false := quiet_spec hq
    unfold urgent at hq
    exact { I with
      le_closed := fun j t => by have := I.le_closed j t; grind
      le_noticeAt := fun j => by have := I.le_noticeAt j; grind
      pending_now := fun j => by have := hq j; grind [I.pending_now, I.bounded]
      urgent_now := fun j => by have := hq j; grind [I.bounded, I.ctx_issued] }

theorem inv_run {c : Cfg} (hk : c.keepValues = true) (ls : List Label) {s : St} (h : run c init ls = some s) : Inv c s :=
  run_induction (fun l _ _ _ I => inv_step hk l I) (inv_init c) h

end Cancel
