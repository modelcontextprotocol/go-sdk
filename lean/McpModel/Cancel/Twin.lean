import McpModel.Cancel.Group
/-!
# C04 — two sessions in one process (engine `cancel`)

One `mcp.Client` connected to two servers, or one `mcp.Server` with two client sessions: every session has a
`jsonrpc2.Connection`, a transport, a table of incoming requests and a set of outgoing calls of its own; `mcp.call`
touches only the connection it is given, and the notifier of a cancelled call is a goroutine per call.  The only thing
two sessions of a process share is the clock.  The model of such a process is therefore the PRODUCT of two pair models
(`Cancel.step`) with a common `tick`: a label of the left session acts on the left component only.

* `left_frames_right`, `right_frames_left`: whatever a session does (any label: contexts end, notices stall, are
  dropped, time-outs …) leaves the other session's state untouched — "cancels only the matching peer handler" and
  "the session stays usable" across sessions;
* `left_right_commute`: labels of different sessions commute (no ordering between the sessions is observable);
* `run2_proj_left`, `run2_proj_right`: every run of the product projects to a run of each pair model with exactly the
  events of that session — so EVERY theorem of the pair model (Props, Group, the bridge) holds per session, and the
  driver may check each session's log against its own pair model (`monitor_accepts_product`);
* `other_session_cannot_block_notice`: nothing in the model bounds the notices in flight per PROCESS — any number of notices of
  the left session pending behind a stalled transport, and whatever else the left session does meanwhile, never disables the
  delivery of a deliverable notice of the right session.
-/
namespace Cancel

structure Cfg2 where
  a : Cfg
  b : Cfg

structure St2 where
  a : St := {}
  b : St := {}

inductive Label2 where
  | left (l : Label)     -- a label of session a other than `tick`
  | right (l : Label)    -- a label of session b other than `tick`
  | tick (d : Nat)       -- the common clock: both sessions must be quiet
deriving Repr

def isTick : Label → Bool
  | .tick _ => true
  | _ => false

def step2 (c : Cfg2) (s : St2) : Label2 → Option St2
  | .left l => if isTick l then none else (step c.a s.a l).map fun a' => { s with a := a' }
  | .right l => if isTick l then none else (step c.b s.b l).map fun b' => { s with b := b' }
  | .tick d =>
    match step c.a s.a (.tick d), step c.b s.b (.tick d) with
    | some a', some b' => some ⟨a', b'⟩
    | _, _ => none

def run2 (c : Cfg2) (s : St2) : List Label2 → Option St2
  | [] => some s
  | l :: ls => (step2 c s l).bind fun s' => run2 c s' ls

def init2 : St2 := {}

theorem step2_left {c : Cfg2} {s s' : St2} {l : Label} (h : step2 c s (.left l) = some s') :
    step c.a s.a l = some s'.a ∧ s'.b = s.b := by
  simp only [step2] at h
  split at h
  · cases h
  · obtain ⟨a', ha, rfl⟩ := Option.map_eq_some_iff.mp h
    exact ⟨ha, rfl⟩

theorem step2_right {c : Cfg2} {s s' : St2} {l : Label} (h : step2 c s (.right l) = some s') :
    step c.b s.b l = some s'.b ∧ s'.a = s.a := by
  simp only [step2] at h
  split at h
  · cases h
  · obtain ⟨b', hb, rfl⟩ := Option.map_eq_some_iff.mp h
    exact ⟨hb, rfl⟩

theorem step2_tick {c : Cfg2} {s s' : St2} {d : Nat} (h : step2 c s (.tick d) = some s') :
    step c.a s.a (.tick d) = some s'.a ∧ step c.b s.b (.tick d) = some s'.b := by
  simp only [step2] at h
  split at h
  · cases h; exact ⟨‹_›, ‹_›⟩
  · cases h

theorem left_frames_right {c : Cfg2} {s s' : St2} (l : Label) (h : step2 c s (.left l) = some s') : s'.b = s.b :=
  (step2_left h).2

theorem right_frames_left {c : Cfg2} {s s' : St2} (l : Label) (h : step2 c s (.right l) = some s') : s'.a = s.a :=
  (step2_right h).2

theorem left_right_commute (c : Cfg2) (s : St2) (l r : Label) :
    (step2 c s (.left l)).bind (fun s1 => step2 c s1 (.right r)) = (step2 c s (.right r)).bind (fun s1 => step2 c s1 (.left l)) := by
  cases hl : isTick l <;> cases hr : isTick r <;> cases ha : step c.a s.a l <;> cases hb : step c.b s.b r <;>
    simp [step2, hl, hr, ha, hb]

def projL : List Label2 → List Label
  | [] => []
  | .left l :: ls => l :: projL ls
  | .right _ :: ls => projL ls
  | .tick d :: ls => .tick d :: projL ls

def projR : List Label2 → List Label
  | [] => []
  | .left _ :: ls => projR ls
  | .right l :: ls => l :: projR ls
  | .tick d :: ls => .tick d :: projR ls

theorem run2_proj_left (c : Cfg2) (ls : List Label2) (s s' : St2) (h : run2 c s ls = some s') :
    run c.a s.a (projL ls) = some s'.a := by
  induction ls generalizing s with
  | nil => cases h; rfl
  | cons l ls ih =>
    obtain ⟨s1, hs, h'⟩ := Option.bind_eq_some_iff.mp h
    cases l with
    | left l => exact run_cons.mpr ⟨_, (step2_left hs).1, ih s1 h'⟩
    | right r => exact (step2_right hs).2 ▸ ih s1 h'
    | tick d => exact run_cons.mpr ⟨_, (step2_tick hs).1, ih s1 h'⟩

theorem run2_proj_right (c : Cfg2) (ls : List Label2) (s s' : St2) (h : run2 c s ls = some s') :
    run c.b s.b (projR ls) = some s'.b := by
  induction ls generalizing s with
  | nil => cases h; rfl
  | cons l ls ih =>
    obtain ⟨s1, hs, h'⟩ := Option.bind_eq_some_iff.mp h
    cases l with
    | left l => exact (step2_left hs).2 ▸ ih s1 h'
    | right r => exact run_cons.mpr ⟨_, (step2_right hs).1, ih s1 h'⟩
    | tick d => exact run_cons.mpr ⟨_, (step2_tick hs).2, ih s1 h'⟩

theorem monitor_accepts_product {c : Cfg2} (hka : c.a.keepValues = true) (hkb : c.b.keepValues = true)
    (ls : List Label2) {s : St2} (h : run2 c init2 ls = some s) :
    mon ⟨c.a, false⟩ s.a.trace = none ∧ mon ⟨c.b, false⟩ s.b.trace = none :=
  ⟨(inv_run hka _ (run2_proj_left c ls init2 s h)).good, (inv_run hkb _ (run2_proj_right c ls init2 s h)).good⟩

theorem other_session_cannot_block_notice (c : Cfg2) (las : List Label) (s s' : St2) (j : Nat)
    (h : run2 c s (las.map Label2.left) = some s') (hr : noticeReady c.b s.b j) :
    s'.b = s.b ∧ ∃ s'', step2 c s' (.right (.notice j)) = some s'' ∧ s''.a = s'.a ∧ s''.b.notice j = .delivered ∧
      (sameConn c.b j = true → (s.b.req j = .queued ∨ s.b.req j = .running) → s''.b.hcan j = true) := by
  have hb : s'.b = s.b := by
    induction las generalizing s with
    | nil => cases h; rfl
    | cons l las ih =>
      obtain ⟨s1, hs, h⟩ := Option.bind_eq_some_iff.mp h
      have hf := left_frames_right l hs
      exact hf ▸ ih s1 h (hf ▸ hr)
  refine ⟨hb, ?_⟩
  have hr' : noticeReady c.b s'.b j := by rw [hb]; exact hr
  obtain ⟨b', hb'⟩ := Option.isSome_iff_exists.mp (notice_enabled_of_ready hr')
  refine ⟨{ s' with b := b' }, by simp [step2, isTick, hb'], rfl, (notice_frame j hb').2.2.2.2.2.2.2.1, ?_⟩
  intro hsc hq
  exact (notice_cancels_exactly_named j hb').2.1 hsc (by rw [hb]; exact hq)

/-- `n` calls over a pipe whose transport stalls every cancel notice. -/
def cfgStalled (n : Nat) : Cfg := { tr := .pipe, n := n, info := fun _ => { fault := true } }

def twinRun : List Label2 :=
  ((List.range 17).flatMap fun i => [Label2.left (.call i), .left (.deliver i), .left (.start i)]) ++
  [.right (.call 0), .right (.deliver 0), .right (.start 0), .tick 10] ++
  ((List.range 17).flatMap fun i => [Label2.left (.cancel i false), .left (.retire i), .left (.retCtx i)]) ++
  [.tick 20, .right (.cancel 0 false), .right (.retire 0), .right (.retCtx 0), .right (.notice 0)]

/-- Witness: session a — 17 calls (more than a bound of 16) whose notices the transport stalls, all cancelled, all notices pending;
session b — one running call, cancelled 20 ms later: its caller returns, its notice is delivered, its handler is cancelled, while
all 17 notices of session a are still pending. -/
theorem stalled_session_does_not_starve_the_other :
    (run2 ⟨cfgStalled 17, cfgMany 1⟩ init2 twinRun).map (fun s =>
      ((List.range 17).all (fun i => s.a.notice i == .pending && s.a.res i == some (.ctx false)),
       s.b.notice 0, s.b.hcan 0, s.b.res 0, (summ s.b.trace).hc 0)) =
      some (true, .delivered, true, some (.ctx false), some 30) := by
  decide +kernel

end Cancel
