/-!
Runs of a transition system given by a partial step function `σ : S → L → Option S` (`none`: the label is not enabled).
An engine whose `run` stops at the first label that is not enabled shows once that it is `Run` of its step function (the
definitions have the same equations); what holds of runs by induction on the label list is proved here once.
-/
variable {S L M : Type} {σ : S → L → Option S}

def Run (σ : S → L → Option S) : S → List L → Option S
  | s, [] => some s
  | s, l :: ls => (σ s l).bind fun s' => Run σ s' ls

theorem Run.cons_some {s s' : S} {l : L} {ls : List L} (h : Run σ s (l :: ls) = some s') :
    ∃ m, σ s l = some m ∧ Run σ m ls = some s' := Option.bind_eq_some_iff.1 h

theorem Run.append (s : S) (a b : List L) : Run σ s (a ++ b) = (Run σ s a).bind fun m => Run σ m b := by
  induction a generalizing s with
  | nil => rfl
  | cons l ls ih => simp only [List.cons_append, Run, Option.bind_assoc, ih]

theorem Run.append_some {s s' : S} {a b : List L} (h : Run σ s (a ++ b) = some s') :
    ∃ m, Run σ s a = some m ∧ Run σ m b = some s' := Option.bind_eq_some_iff.1 (Run.append s a b ▸ h)

/-- A run through `a ++ l :: b`: the run of `a`, the step `l`, the run of `b`. -/
theorem Run.split {s s' : S} {a b : List L} {l : L} (h : Run σ s (a ++ l :: b) = some s') :
    ∃ m m', Run σ s a = some m ∧ σ m l = some m' ∧ Run σ m' b = some s' := by
  obtain ⟨m, h1, h2⟩ := Run.append_some h
  obtain ⟨m', h3, h4⟩ := Run.cons_some h2
  exact ⟨m, m', h1, h3, h4⟩

/-- A relation between the state and a value folded over the labels that every step keeps holds along a run: invariants
(`M = Unit`, see `Run.preserves`) and simulations with a monitor that folds over the labels. -/
theorem Run.fold {f : M → L → M} {R : S → M → Prop}
    (hstep : ∀ {s s' : S} {l : L} {m : M}, R s m → σ s l = some s' → R s' (f m l))
    {s s' : S} {ls : List L} {m : M} (h0 : R s m) (h : Run σ s ls = some s') : R s' (ls.foldl f m) := by
  induction ls generalizing s m with
  | nil => cases h; exact h0
  | cons l ls ih => obtain ⟨s1, h1, h2⟩ := Run.cons_some h; exact ih (hstep h0 h1) h2

theorem Run.preserves {Q : S → Prop} (hstep : ∀ {s s' : S} {l : L}, Q s → σ s l = some s' → Q s')
    {s s' : S} {ls : List L} (h0 : Q s) (h : Run σ s ls = some s') : Q s' :=
  Run.fold (f := fun (_ : Unit) _ => ()) (R := fun s _ => Q s) (m := ()) (fun hq hs => hstep hq hs) h0 h

/-- A fact that holds at the end of a run held at its start or was established by a label of the run, if only the label
`L0` can establish it (in states that satisfy the invariant `I`). -/
theorem Run.label_of_step {I P : S → Prop} {L0 : L}
    (hinv : ∀ {s s' : S} {l : L}, I s → σ s l = some s' → I s')
    (hstep : ∀ {s s' : S} {l : L}, I s → σ s l = some s' → P s' → P s ∨ l = L0)
    {s s' : S} {ls : List L} (hI : I s) (h : Run σ s ls = some s') (hP : P s') : P s ∨ L0 ∈ ls := by
  induction ls generalizing s with
  | nil => cases h; exact .inl hP
  | cons l ls ih =>
    obtain ⟨m, h1, h2⟩ := Run.cons_some h
    rcases ih (hinv hI h1) h2 with q | q
    · exact (hstep hI h1 q).imp id fun (r : l = L0) => r ▸ List.mem_cons_self ..
    · exact .inr (List.mem_cons_of_mem _ q)

/-- Refinement: if, under a relation `R` between the states, every step of `σ` is matched by a run of `τ` over the labels
`tr l`, then every run of `σ` is matched by the run of `τ` over the translated label list (`P`: the translation, given by its
two equations). -/
theorem Run.refines {T K : Type} {τ : T → K → Option T} {R : S → T → Prop} {tr : L → List K} {P : List L → List K}
    (hnil : P [] = []) (hcons : ∀ l ls, P (l :: ls) = tr l ++ P ls)
    (hstep : ∀ {s s' : S} {t : T} {l : L}, R s t → σ s l = some s' → ∃ t', Run τ t (tr l) = some t' ∧ R s' t')
    {s s' : S} {t : T} {ls : List L} (h0 : R s t) (h : Run σ s ls = some s') :
    ∃ t', Run τ t (P ls) = some t' ∧ R s' t' := by
  induction ls generalizing s t with
  | nil => cases h; exact ⟨t, hnil ▸ rfl, h0⟩
  | cons l ls ih =>
    obtain ⟨s1, h1, h2⟩ := Run.cons_some h
    obtain ⟨t1, h3, r1⟩ := hstep h0 h1
    obtain ⟨t', h4, r'⟩ := ih r1 h2
    exact ⟨t', by rw [hcons, Run.append, h3]; exact h4, r'⟩

