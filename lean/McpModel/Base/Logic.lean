/-! Facts about lists and options, for any element type, that the engines' proofs use and core Lean does not state.
The two about `<|>` are for that spelling: `simp` rewrites `a <|> b` to `a.or b`, for which core has
`Option.or_eq_some_iff`, `Option.or_eq_none_iff`. -/

theorem List.snoc_induction {α : Type} {P : List α → Prop} (nil : P [])
    (snoc : ∀ l a, P l → P (l ++ [a])) : ∀ l, P l := by
  intro l
  rw [← List.reverse_reverse l]
  induction l.reverse with
  | nil => exact nil
  | cons a t ih => rw [List.reverse_cons]; exact snoc _ _ ih

theorem Option.alt_eq_some {α : Type} {a b : Option α} {x : α} :
    (a <|> b) = some x ↔ a = some x ∨ (a = none ∧ b = some x) := by
  cases a <;> simp

theorem Option.alt_eq_none {α : Type} {a b : Option α} : (a <|> b) = none ↔ a = none ∧ b = none := by
  cases a <;> simp

/-! One link of a first-match chain `if c then … else …` of options: when it reports, and when it is silent.  Rewriting a
hypothesis `chain = some b` with these (and `Option.some.injEq`, `reduceCtorEq`) turns it into the disjunction of the
reporting paths, each with the negations of the tests before it.  The link `if c then none else k = some b` is core's
`Option.ite_none_left_eq_some`. -/

theorem ite_eq_some_iff {α : Type} {c : Prop} [Decidable c] {x y : Option α} {b : α} :
    (if c then x else y) = some b ↔ (c ∧ x = some b) ∨ (¬ c ∧ y = some b) := by
  split <;> simp [*]

theorem ite_eq_none_iff {α : Type} {c : Prop} [Decidable c] {x y : Option α} :
    (if c then x else y) = none ↔ (c ∧ x = none) ∨ (¬ c ∧ y = none) := by
  split <;> simp [*]

theorem ite_some_eq_some {α : Type} {c : Prop} [Decidable c] {a b : α} {e : Option α} :
    (if c then some a else e) = some b ↔ (c ∧ a = b) ∨ (¬ c ∧ e = some b) := by
  split <;> simp [*]

theorem ite_some_eq_none {α : Type} {c : Prop} [Decidable c] {a : α} {e : Option α} :
    (if c then some a else e) = none ↔ ¬ c ∧ e = none := by
  split <;> simp [*]

theorem ite_none_eq_none {α : Type} {c : Prop} [Decidable c] {k : Option α} :
    (if c then none else k) = none ↔ c ∨ k = none := by
  split <;> simp [*]

theorem ite_eq_iff_of_ne {α : Type} {c : Prop} [Decidable c] {x y v : α} (hx : x ≠ v) :
    (if c then x else y) = v ↔ ¬c ∧ y = v := by
  by_cases h : c <;> simp [h, hx]

/-! Folds, lists extended by one element, lists with a unique key. -/

/-- A fold of functions that all fix a projection fixes it.  (For a predicate kept by every step: core's `List.foldlRecOn`.) -/
theorem List.foldl_fixes {σ α β : Type} (g : σ → β) {f : σ → α → σ} (hf : ∀ s a, g (f s a) = g s) (l : List α) (s : σ) :
    g (l.foldl f s) = g s := by
  induction l generalizing s with
  | nil => rfl
  | cons a t ih => rw [List.foldl_cons, ih, hf]

/-- An entry of a list extended by one element is an old entry or the new one.  (The new one: `List.getElem?_concat_length`.) -/
theorem List.getElem?_snoc {α : Type} {l : List α} {a y : α} {j : Nat} (h : (l ++ [a])[j]? = some y) :
    l[j]? = some y ∨ (j = l.length ∧ y = a) := by
  rw [List.getElem?_append] at h
  split at h
  · exact .inl h
  · cases hk : j - l.length with
    | zero => rw [hk] at h; cases h; exact .inr ⟨by omega, rfl⟩
    | succ k => rw [hk] at h; cases h

theorem List.mem_eraseIdx_of_ne {α : Type} {l : List α} {i : Nat} {x y : α} (hx : x ∈ l) (hy : l[i]? = some y) (hne : x ≠ y) :
    x ∈ l.eraseIdx i := by
  obtain ⟨j, hj⟩ := List.mem_iff_getElem?.mp hx
  exact List.mem_eraseIdx_iff_getElem?.mpr ⟨j, fun e => hne (Option.some.inj ((e ▸ hj).symm.trans hy)), hj⟩

/-- A key that is unique in the list addresses one entry. -/
theorem List.eq_of_nodup_map {α β : Type} (f : α → β) {l : List α} (h : (l.map f).Nodup) {a b : α} (ha : a ∈ l) (hb : b ∈ l)
    (hab : f a = f b) : a = b := by
  induction l with
  | nil => cases ha
  | cons x t ih =>
    simp only [List.map_cons, List.nodup_cons] at h
    cases ha with
    | head =>
      cases hb with
      | head => rfl
      | tail _ hb => exact absurd (List.mem_map.mpr ⟨b, hb, hab.symm⟩) h.1
    | tail _ ha =>
      cases hb with
      | head => exact absurd (List.mem_map.mpr ⟨a, ha, hab⟩) h.1
      | tail _ hb => exact ih h.2 ha hb

theorem List.find?_key_of_nodup {α κ : Type} [BEq κ] [LawfulBEq κ] (f : α → κ) {l : List α} (h : (l.map f).Nodup) {x : α}
    (hx : x ∈ l) : l.find? (fun y => f y == f x) = some x := by
  cases hf : l.find? (fun y => f y == f x) with
  | none => exact absurd (beq_self_eq_true (f x)) (List.find?_eq_none.mp hf x hx)
  | some y =>
    rw [List.eq_of_nodup_map f h (List.mem_of_find?_eq_some hf) hx (eq_of_beq (List.find?_some (p := fun y => f y == f x) hf))]

/-! Association lists read by `List.lookup`, and the last element that a `filterMap` keeps. -/

theorem List.mem_of_lookup_eq_some {α : Type _} {β : Type _} [BEq α] [LawfulBEq α] {l : List (α × β)} {k : α} {v : β}
    (h : l.lookup k = some v) : (k, v) ∈ l := by
  obtain ⟨l₁, l₂, rfl, _⟩ := List.lookup_eq_some_iff.mp h
  simp

theorem List.lookup_of_mem_nodup {α β : Type} [BEq α] [LawfulBEq α] {l : List (α × β)} (hn : (l.map (·.1)).Nodup) {k : α} {v : β}
    (h : (k, v) ∈ l) : l.lookup k = some v := by
  cases hl : l.lookup k with
  | none => simpa using List.lookup_eq_none_iff.mp hl _ h
  | some w => cases List.eq_of_nodup_map (·.1) hn (List.mem_of_lookup_eq_some hl) h rfl; rfl

theorem List.lookup_filter {α β : Type} [BEq α] [LawfulBEq α] (f : α → Bool) (k : α) (l : List (α × β)) :
    (l.filter fun p => f p.1).lookup k = if f k then l.lookup k else none := by
  induction l with
  | nil => cases f k <;> rfl
  | cons p t ih =>
    obtain ⟨k1, v⟩ := p
    by_cases hk : k = k1
    · subst hk; cases hf : f k <;> simp [List.filter, hf, ih, List.lookup]
    · have hb : (k == k1) = false := by simpa using hk
      cases hf1 : f k1 <;> simp [List.filter, hf1, List.lookup, hb, ih]

theorem List.lookup_filter_ne {α β : Type} [BEq α] [LawfulBEq α] (l : List (α × β)) {a b : α} (h : b ≠ a) :
    (l.filter fun p => p.1 != a).lookup b = l.lookup b := by
  rw [List.lookup_filter (· != a), if_pos (by simpa using h)]

theorem List.filterMap_getLast?_iff {α β} (f : α → Option β) (l : List α) (b : β) :
    (l.filterMap f).getLast? = some b ↔
      ∃ pre m post, l = pre ++ m :: post ∧ f m = some b ∧ ∀ x ∈ post, f x = none := by
  constructor
  · intro h
    obtain ⟨ys, hys⟩ := List.getLast?_eq_some_iff.1 h
    obtain ⟨l1, l2, rfl, _, h2⟩ := List.filterMap_eq_append_iff.1 hys
    obtain ⟨l3, a, l4, rfl, h3, h4, h5⟩ := List.filterMap_eq_cons_iff.1 h2
    refine ⟨l1 ++ l3, a, l4, by simp, h4, ?_⟩
    exact List.filterMap_eq_nil_iff.1 h5
  · rintro ⟨pre, m, post, rfl, hm, hpost⟩
    have : post.filterMap f = [] := List.filterMap_eq_nil_iff.2 hpost
    rw [List.filterMap_append, List.filterMap_cons, hm, this]
    simp
