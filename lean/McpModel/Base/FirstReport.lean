/-!
Many trace monitors of the development (EventStore, Gate, Negotiate, OAuth, Paginate) have one shape: a step function that
takes the monitor's state and a record to the next state and, possibly, a clause; the run reports the first position at
which the step reports, with the clause.  (A monitor that folds over the whole trace and keeps what it found in its state,
as Order's does, is not of this shape.)  `first` is that run for an arbitrary step function, and the two theorems say what its results
mean position by position.  An engine shows once that its own run is `first` of its step (an induction of a few
lines, the definitions have the same equations) and reads soundness and completeness off them.
-/
namespace FirstReport
variable {σ ρ κ : Type}

/-- The state after the records of `l`, whatever was reported on the way. -/
def after (step : σ → ρ → σ × Option κ) (s : σ) (l : List ρ) : σ := l.foldl (fun s r => (step s r).1) s

def first (step : σ → ρ → σ × Option κ) : σ → Nat → List ρ → Option (Nat × κ)
  | _, _, [] => none
  | s, i, r :: tr =>
    match (step s r).2 with
    | some c => some (i, c)
    | none => first step (step s r).1 (i + 1) tr

variable {step : σ → ρ → σ × Option κ}

@[simp] theorem after_nil (s : σ) : after step s [] = s := rfl

@[simp] theorem after_cons (s : σ) (r : ρ) (l : List ρ) : after step s (r :: l) = after step (step s r).1 l := rfl

theorem after_append (s : σ) (l l' : List ρ) : after step s (l ++ l') = after step (after step s l) l' :=
  List.foldl_append

theorem after_snoc (s : σ) (l : List ρ) (r : ρ) : after step s (l ++ [r]) = (step (after step s l) r).1 :=
  after_append s l [r]

/-- What the step reports at position `k` of `tr`, started in `s`. -/
def reportAt (step : σ → ρ → σ × Option κ) (s : σ) (tr : List ρ) (k : Nat) (r : ρ) : Option κ :=
  (step (after step s (tr.take k)) r).2

theorem first_eq_none {s : σ} {i : Nat} {tr : List ρ} :
    first step s i tr = none ↔ ∀ k r, tr[k]? = some r → reportAt step s tr k r = none := by
  induction tr generalizing s i with
  | nil => simp [first]
  | cons r0 tr ih =>
    simp only [first]
    cases hc : (step s r0).2 with
    | some c => exact ⟨nofun, fun h => by simpa [reportAt, hc] using h 0 r0 rfl⟩
    | none =>
      refine ih.trans ⟨fun h k r hk => ?_, fun h k r hk => h (k + 1) r hk⟩
      cases k with
      | zero => cases hk; exact hc
      | succ k => exact h k r hk

/-- A report at `j` is the step's report at `j - i`, and the step was silent before. -/
theorem first_eq_some {s : σ} {i j : Nat} {tr : List ρ} {c : κ} :
    first step s i tr = some (j, c) ↔
      ∃ k r, j = i + k ∧ tr[k]? = some r ∧ reportAt step s tr k r = some c ∧
        ∀ k' r', k' < k → tr[k']? = some r' → reportAt step s tr k' r' = none := by
  induction tr generalizing s i with
  | nil => simp [first]
  | cons r0 tr ih =>
    simp only [first]
    cases hc : (step s r0).2 with
    | some c0 =>
      refine ⟨fun h => ?_, fun ⟨k, r, hj, hk, hr, hq⟩ => ?_⟩
      · cases h; exact ⟨0, r0, rfl, rfl, hc, nofun⟩
      · cases k with
        | zero => cases hk; cases hc.symm.trans hr; rw [hj]; rfl
        | succ k => cases hc.symm.trans (hq 0 r0 (Nat.succ_pos k) rfl)
    | none =>
      refine ih.trans ⟨fun ⟨k, r, hj, hk, hr, hq⟩ => ⟨k + 1, r, by omega, hk, hr, fun k' r' hlt hk' => ?_⟩,
        fun ⟨k, r, hj, hk, hr, hq⟩ => ?_⟩
      · cases k' with
        | zero => cases hk'; exact hc
        | succ k' => exact hq k' r' (Nat.lt_of_succ_lt_succ hlt) hk'
      · cases k with
        | zero => cases hk; cases hc.symm.trans hr
        | succ k => exact ⟨k, r, by omega, hk, hr, fun k' r' hlt hk' => hq (k' + 1) r' (Nat.succ_lt_succ hlt) hk'⟩

end FirstReport
