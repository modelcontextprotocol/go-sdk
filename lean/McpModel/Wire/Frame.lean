import McpModel.Wire.Msg
/-!
# E2 Wire — newline-delimited framing, `readBatch`, and the `ioConn` batch bookkeeping
(`mcp/transport.go`: `ioConn`, `addBatch`, `updateBatch`, `msgBatch`, `Read`, `readBatch`, `Write`, `loggingConn`)

* `frame`/`unframe`: the byte-level ndjson framing (payload ++ "\n").
* `readBatch`: one frame ↦ one message or a non-empty array of messages.
* `IOState` + `opRead`/`opWrite`: `ioConn.Read` / `ioConn.Write` as a small state machine: the
  unread `queue`, `t.batches` (id ↦ batch), the `msgBatch` objects (`unresolved`, `responses`),
  the optional outgoing batch.  The two `panic`s reachable in principle ("inconsistent batches", a
  nil `*Response` in a flushed array) are explicit `panicked` states; `Props` proves them unreachable.
  Only calls are tracked (finding F2, fixed in /repo); `trackAll := true` tracks every `*Request`, the
  behaviour the F2 counter-examples are stated about.
* concurrent writers: `cwRun` (whole `Write`s in lock order) and the machine `CW` (the stream takes the
  holder's frame in pieces); `loggingConn` (`logRead`, `logWrite`, `logOf`).
* the specification of batch replies that C02 asks for (`Slots`, `specAccept`, `specRead`, `specWrite`) and the
  label machine that runs model and specification side by side (`IOOp`, `stepBoth`, `runBoth`).
* the order in which `Read` hands messages out, for C03 (`ioStep`, `ioRun`, `readResults`, `pendingMsgs`), and
  what the monitor shares with the theorems about it (`outOfOrder`, `frameDesc`).
-/
namespace Wire

/-! ## ndjson framing on bytes -/

def LF : UInt8 := 10
def CR : UInt8 := 13

/-- `ioConn.Write`: `data = append(data, '\n')` for every payload. -/
def frame (ps : List Bytes) : Bytes := ps.flatMap (· ++ [LF])

/-- Split at LF: the complete lines (without the LF) and the unterminated rest. -/
def splitLines : Bytes → List Bytes × Bytes
  | [] => ([], [])
  | b :: t =>
    let (ls, rest) := splitLines t
    if b = LF then ([] :: ls, rest)
    else match ls with
      | [] => ([], b :: rest)
      | l :: ls' => ((b :: l) :: ls', rest)

/-- The reader side at line granularity: every non-empty complete line is one payload (blank lines
between values are skipped by the JSON stream decoder). -/
def unframe (bs : Bytes) : List Bytes := (splitLines bs).1.filter (· ≠ [])

/-! ## readBatch -/

inductive RErr where
  | decode (e : DErr)     -- DecodeMessage failed
  | emptyBatch
  | noBatching            -- batch under protocol ≥ 2025-06-18
  | dupInBatch            -- "duplicate message ID"
  | seenId                -- addBatch: "batch contains previously seen request"
  | eof
deriving DecidableEq, Repr, Inhabited

def decodeAll : List JVal → Except DErr (List Msg)
  | [] => .ok []
  | v :: t => do
    let m ← decodeMsg v
    let ms ← decodeAll t
    .ok (m :: ms)

/-- `readBatch`: array (or `null`, which unmarshals into a nil slice) ⇒ batch. -/
def readBatch (raw : JVal) : Except RErr (List Msg × Bool) :=
  match raw with
  | .null => .error .emptyBatch
  | .arr [] => .error .emptyBatch
  | .arr l => match decodeAll l with
    | .ok ms => .ok (ms, true)
    | .error e => .error (.decode e)
  | v => match decodeMsg v with
    | .ok m => .ok ([m], false)
    | .error e => .error (.decode e)

/-! ## ioConn -/

/-- `msgBatch` -/
structure Batch where
  unresolved : List (Id × Nat)        -- map id ↦ index into `responses`
  responses : List (Option Msg)       -- nil until answered
deriving Repr, Inhabited

structure IOState where
  wire : List JVal := []              -- frames waiting on the `incoming` channel
  queue : List Msg := []              -- `t.queue`
  byId : List (Id × Nat) := []        -- `t.batches`: id ↦ batch (handle)
  heap : List (Nat × Batch) := []     -- the msgBatch objects still referenced from `t.batches`
  next : Nat := 0                     -- fresh handle
  noBatch : Bool := false             -- protocolVersion ≥ 2025-06-18
  outCap : Nat := 0                   -- cap(outgoingBatch)
  outBuf : List Msg := []             -- outgoingBatch
  panicked : Bool := false
deriving Repr, Inhabited

/-- A Go map as an association list with distinct keys (`Rel` keeps them distinct); the FIRST entry of a key is
found — core's `List.lookup` (`L.alookup_eq_lookup`).  Not `lookup` of Json.lean: a JSON object may repeat a key,
and there the LAST occurrence wins.  Likewise `setAt` below is `List.set` (`L.setAt_eq_set`) and `nodupB` is
`List.Nodup` as a Boolean (`L.nodupB_iff`); LemmasBatch.lean proves the agreements and goes on with core's lemmas. -/
def alookup {α β : Type} [DecidableEq α] (k : α) : List (α × β) → Option β
  | [] => none
  | (k', v) :: t => if k' = k then some v else alookup k t

def aerase {α β : Type} [DecidableEq α] (k : α) (l : List (α × β)) : List (α × β) :=
  l.filter (fun p => p.1 ≠ k)

/-- update in place (the Go code mutates the `msgBatch` object its map entries point to) -/
def aset {α β : Type} [DecidableEq α] (k : α) (v : β) : List (α × β) → List (α × β)
  | [] => []
  | (k', w) :: t => if k' = k then (k, v) :: t else (k', w) :: aset k v t

/-- The loop over `msgs` in `ioConn.Read` that builds the `msgBatch`.
`trackAll = false`: only calls (`req.IsCall()`, F2); `true`: every `*Request`. -/
def trackLoop (trackAll : Bool) : List Msg → Batch → Except RErr Batch
  | [], b => .ok b
  | m :: t, b =>
    match m with
    | .request id _ _ =>
      if trackAll || id ≠ .none then
        if (alookup id b.unresolved).isSome then .error .dupInBatch
        else trackLoop trackAll t { unresolved := b.unresolved ++ [(id, b.responses.length)], responses := b.responses ++ [none] }
      else trackLoop trackAll t b
    | _ => trackLoop trackAll t b

/-- `addBatch` -/
def addBatch (s : IOState) (b : Batch) : Except RErr IOState :=
  if b.unresolved.any (fun p => (alookup p.1 s.byId).isSome) then .error .seenId
  else .ok { s with byId := s.byId ++ b.unresolved.map (fun p => (p.1, s.next)),
                    heap := s.heap ++ [(s.next, b)], next := s.next + 1 }

inductive ReadOut where
  | msg (m : Msg)
  | err (e : RErr)
deriving DecidableEq, Repr, Inhabited

/-- `ioConn.Read` (context handling and `Close` are outside this model). -/
def opRead (trackAll : Bool) (s : IOState) : IOState × ReadOut :=
  match s.queue with
  | m :: q => ({ s with queue := q }, .msg m)
  | [] =>
    match s.wire with
    | [] => (s, .err .eof)
    | raw :: w =>
      let s := { s with wire := w }
      match readBatch raw with
      | .error e => (s, .err e)
      | .ok (msgs, batch) =>
        if batch && s.noBatch then (s, .err .noBatching) else
        match msgs with
        | [] => (s, .err .emptyBatch)            -- unreachable: readBatch never returns []
        | m0 :: rest =>
          let s := { s with queue := rest }
          if batch then
            match trackLoop trackAll msgs { unresolved := [], responses := [] } with
            | .error e => (s, .err e)
            | .ok b =>
              if b.responses.isEmpty then (s, .msg m0)      -- respBatch == nil
              else match addBatch s b with
                | .error e => (s, .err e)
                | .ok s' => (s', .msg m0)
          else (s, .msg m0)

inductive WriteOut where
  | nothing                       -- nothing written (withheld / collected)
  | single (v : JVal)             -- one message
  | array (vs : List JVal)        -- one JSON array
  | panic
deriving DecidableEq, Repr, Inhabited

def allSome : List (Option Msg) → Option (List Msg)
  | [] => some []
  | none :: _ => none
  | some m :: t => (allSome t).map (m :: ·)

def setAt {α : Type} : List α → Nat → α → List α
  | [], _, _ => []
  | _ :: t, 0, x => x :: t
  | a :: t, n + 1, x => a :: setAt t n x

/-- `ioConn.Write` with `updateBatch` inlined. -/
def opWrite (s : IOState) (msg : Msg) : IOState × WriteOut :=
  if s.panicked then (s, .panic) else
  match msg with
  | .response id _ _ =>
    match alookup id s.byId with
    | some h =>
      match alookup h s.heap with
      | none => ({ s with panicked := true }, .panic)
      | some b =>
        match alookup id b.unresolved with
        | none => ({ s with panicked := true }, .panic)     -- "internal error: inconsistent batches"
        | some idx =>
          let b' : Batch := { unresolved := aerase id b.unresolved, responses := setAt b.responses idx (some msg) }
          let byId' := aerase id s.byId
          if b'.unresolved.isEmpty then
            let s' := { s with byId := byId', heap := aerase h s.heap }
            if b'.responses.isEmpty then (s', .nothing)
            else match allSome b'.responses with
              | some ms => (s', .array (ms.map encodeMsg))
              | none => ({ s' with panicked := true }, .panic)   -- nil *Response in marshalMessages
          else
            ({ s with byId := byId', heap := aset h b' s.heap }, .nothing)
    | none => (s, .single (encodeMsg msg))
  | .request .. =>
    if s.outBuf.length < s.outCap then
      let buf := s.outBuf ++ [msg]
      if buf.length = s.outCap then ({ s with outBuf := [] }, .array (buf.map encodeMsg))
      else ({ s with outBuf := buf }, .nothing)
    else (s, .single (encodeMsg msg))

/-! ## concurrent writers (`writeMu` in `ioConn.Write`)

`Write` takes `writeMu` first and holds it until the bytes have been handed to the stream
(`defer t.writeMu.Unlock()`): framing AND the write to `rwc` are ONE atomic section.  Writers that
call `Write` at the same time therefore take effect one after the other, in the order in which they
win the lock; the stream receives their frames whole, in that order — whatever the stream does with
the bytes of one call (it may forward them in pieces). -/

/-- the `Write` calls of several goroutines, in the order in which they win `writeMu` -/
def cwRun (s : IOState) : List Msg → IOState × List WriteOut
  | [] => (s, [])
  | m :: t =>
    let r := opWrite s m
    let r2 := cwRun r.1 t
    (r2.1, r.2 :: r2.2)

/-- the payload of the line a `Write` puts on the stream, if it writes -/
def WriteOut.frame : WriteOut → Option JVal
  | .single v => some v
  | .array vs => some (.arr vs)
  | _ => none

/-- the lines on the stream after the calls -/
def cwLines (outs : List WriteOut) : List JVal := outs.filterMap WriteOut.frame

/-! ## `writeMu`: the stream under concurrent writers, piece by piece -/

/-- writers on one connection: the lock holder (the pieces of its frame that the stream has not
taken yet), the writers that have not won `writeMu` yet (their frames, cut in pieces as the stream
will take them), the bytes on the stream -/
structure CW where
  holder : Option (List Bytes) := none
  waiting : List (List Bytes) := []
  out : Bytes := []

/-- the scheduler's choices: the `k`-th waiting writer wins the lock (possible only while nobody
holds it: `sync.Mutex`); the stream takes the next piece from the holder, which unlocks after its last -/
inductive CWOp where
  | acquire (k : Nat)
  | piece

def CW.step (s : CW) : CWOp → CW
  | .acquire k =>
    match s.holder, s.waiting.drop k with
    | none, w :: b => { s with holder := some w, waiting := s.waiting.take k ++ b }
    | _, _ => s
  | .piece =>
    match s.holder with
    | some (p :: rest) => { s with out := s.out ++ p, holder := if rest = [] then none else some rest }
    | some [] => { s with holder := none }
    | none => s

def CW.run (s : CW) (ops : List CWOp) : CW := ops.foldl CW.step s

/-- the stream holds whole frames, in some order, then a prefix of the holder's frame; frames done, the
holder's and the waiting ones are the frames of the writers -/
def CW.Inv (frames : List Bytes) (s : CW) : Prop :=
  ∃ (done : List Bytes) (pre : Bytes), s.out = done.flatten ++ pre ∧ (s.holder = none → pre = []) ∧
    (done ++ (match s.holder with | none => [] | some r => [pre ++ r.flatten]) ++ s.waiting.map List.flatten).Perm frames

/-! ## `LoggingTransport` (`loggingConn`, `mcp/transport.go`)

A connection around a connection: `Read` and `Write` call the delegate and hand its result on as it is;
beside that they write one line to the log — `read: ` / `write: ` and `EncodeMessage` of the message, or
`read error: …` / `write error: …`. -/

inductive LogEntry where
  | read (v : JVal) | readErr | write (v : JVal) | writeErr
deriving DecidableEq, Repr, Inhabited

/-- `loggingConn.Read` on what the delegate's `Read` returned -/
def logRead (o : ReadOut) : ReadOut × LogEntry :=
  (o, match o with | .msg m => .read (encodeMsg m) | .err _ => .readErr)

/-- `loggingConn.Write` on what the delegate's `Write` did (a panic of the delegate passes through: no line) -/
def logWrite (m : Msg) (o : WriteOut) : WriteOut × Option LogEntry :=
  (o, if o = .panic then none else some (.write (encodeMsg m)))

/-- what passes through a logging connection -/
inductive LogEv where
  | read (o : ReadOut)
  | write (m : Msg) (o : WriteOut)
deriving Repr, Inhabited

def logOf : List LogEv → List LogEntry
  | [] => []
  | .read o :: t => (logRead o).2 :: logOf t
  | .write m o :: t => match (logWrite m o).2 with
    | some e => e :: logOf t
    | none => logOf t

/-! ## The abstract specification of batch replies (what C02 asks for)

Per accepted batch: one slot per CALL of the batch, in batch order, holding the call's id and its
response once it is given.  A batch is accepted iff its call ids are pairwise distinct and none of
them is still unanswered in an open batch.  A response to an unanswered call of an open batch fills
its slot and nothing is written — unless it fills the last empty slot, in which case one array with
exactly the batch's responses, one per call, in call order, is written and the batch is closed.
Everything else is written at once on its own.  Notifications and responses inside a batch have no
slot: they cannot withhold or break anything. -/

abbrev Slots := List (Id × Option Msg)

def callIds : List Msg → List Id
  | [] => []
  | .request id _ _ :: t => if id ≠ .none then id :: callIds t else callIds t
  | _ :: t => callIds t

inductive SOut where
  | nothing | single (m : Msg) | array (ms : List Msg)
deriving DecidableEq, Repr, Inhabited

def slotPending (sl : Slots) (id : Id) : Bool := sl.any (fun p => p.1 = id && p.2.isNone)

def fillSlot (id : Id) (m : Msg) : Slots → Slots
  | [] => []
  | (i, r) :: t => if i = id ∧ r = none then (i, some m) :: t else (i, r) :: fillSlot id m t

def slotsComplete (sl : Slots) : Bool := sl.all (fun p => p.2.isSome)
def slotsMsgs (sl : Slots) : List Msg := sl.filterMap (fun p => p.2)

def specWrite : List Slots → Msg → List Slots × SOut
  | bs, .request id m p => (bs, .single (.request id m p))
  | [], msg => ([], .single msg)
  | b :: bs, msg =>
    if slotPending b msg.id then
      let b' := fillSlot msg.id msg b
      if slotsComplete b' then (bs, .array (slotsMsgs b')) else (b' :: bs, .nothing)
    else
      let r := specWrite bs msg
      (b :: r.1, r.2)

def nodupB : List Id → Bool
  | [] => true
  | a :: t => !t.contains a && nodupB t

/-- acceptance of a batch frame whose messages are `msgs` -/
def specAccept (bs : List Slots) (msgs : List Msg) : Except RErr (List Slots) :=
  let calls := callIds msgs
  if !nodupB calls then .error .dupInBatch
  else if calls.any (fun c => bs.any (fun sl => slotPending sl c)) then .error .seenId
  else .ok (if calls.isEmpty then bs else bs ++ [calls.map (fun c => (c, none))])

/-- `ioConn.Read` as the specification sees it: the same frame handling, with `specAccept` in the
place of the tracking loop and `addBatch`. -/
def specRead (sp : List Slots) (s : IOState) : List Slots × ReadOut :=
  match s.queue with
  | m :: _ => (sp, .msg m)
  | [] =>
    match s.wire with
    | [] => (sp, .err .eof)
    | raw :: _ =>
      match readBatch raw with
      | .error e => (sp, .err e)
      | .ok (msgs, batch) =>
        if batch && s.noBatch then (sp, .err .noBatching) else
        match msgs with
        | [] => (sp, .err .emptyBatch)
        | m0 :: _ =>
          if batch then
            match specAccept sp msgs with
            | .error e => (sp, .err e)
            | .ok sp' => (sp', .msg m0)
          else (sp, .msg m0)

/-- what the writer side shows of an `opWrite` result, as messages -/
def WriteOut.matches : WriteOut → SOut → Bool
  | .nothing, .nothing => true
  | .single v, .single m => v == encodeMsg m
  | .array vs, .array ms => vs == ms.map encodeMsg
  | _, _ => false


/-- every filled slot holds a response bearing the slot's call id -/
def SlotsOK (sl : Slots) : Prop := ∀ p ∈ sl, ∀ m, p.2 = some m → m.id = p.1


/-! ## the label machine: model and specification side by side -/

-- three witnesses of the closed examples in LemmasBatch, Props and BridgeIO
def wNotif : JVal := encodeMsg (.request .none [110] none)
def wCall5 : JVal := encodeMsg (.request (.int 5) [112] none)
def resp5 : Msg := .response (.int 5) (some (.obj [])) none



/-- The labels of the `ioConn` machine: a frame arrives on the stream, the negotiated protocol
version changes (batching allowed or not), the connection calls `Read`, the connection calls
`Write` (a response of a finished handler, or an outgoing request/notification). -/
inductive IOOp where
  | feed (raw : JVal)
  | setNoBatch (b : Bool)
  | read
  | write (m : Msg)
deriving Repr, Inhabited

/-- One label on the model and on the specification side by side; the Boolean says whether what the
model did is what the specification prescribes (`read`: same result; `write`: the encoded
specification output).  Its model component is `ioStep` below, label by label (`feed` and `setNoBatch` by `rfl`,
which `feed_inv` / `ver_inv` of BridgeIO.lean rely on); no theorem states it for `runBoth` and `ioRun`. -/
def stepBoth (st : IOState × List Slots) : IOOp → (IOState × List Slots) × Bool
  | .feed raw => (({ st.1 with wire := st.1.wire ++ [raw] }, st.2), true)
  | .setNoBatch b => (({ st.1 with noBatch := b }, st.2), true)
  | .read => (((opRead false st.1).1, (specRead st.2 st.1).1), decide ((opRead false st.1).2 = (specRead st.2 st.1).2))
  | .write m => (((opWrite st.1 m).1, (specWrite st.2 m).1), (opWrite st.1 m).2.matches (specWrite st.2 m).2)

/-! ## the order in which `Read` hands messages out (C03: messages of one peer reach the dispatcher
in the order in which they were written) -/

/-- the messages a frame carries, in the order in which the peer wrote them (none if the frame is not
a message or a non-empty array of messages) -/
def frameMsgs (raw : JVal) : List Msg :=
  match readBatch raw with
  | .ok (ms, _) => ms
  | .error _ => []

/-- what is still to be handed out: the unread rest of the last frame, then the frames not yet taken -/
def IOState.pendingMsgs (s : IOState) : List Msg := s.queue ++ s.wire.flatMap frameMsgs

/-- one label of the machine (`Read` results are dropped here; see `readResults`) -/
def ioStep (s : IOState) : IOOp → IOState
  | .feed raw => { s with wire := s.wire ++ [raw] }
  | .setNoBatch b => { s with noBatch := b }
  | .read => (opRead false s).1
  | .write m => (opWrite s m).1

def ioRun (s : IOState) : List IOOp → IOState
  | [] => s
  | op :: t => ioRun (ioStep s op) t

/-- what the `Read`s of a label sequence returned, in order -/
def readResults (s : IOState) : List IOOp → List ReadOut
  | [] => []
  | .read :: t => (opRead false s).2 :: readResults (opRead false s).1 t
  | op :: t => readResults (ioStep s op) t

/-- the frames a label sequence puts on the stream, in order -/
def fedFrames : List IOOp → List JVal
  | [] => []
  | .feed raw :: t => raw :: fedFrames t
  | _ :: t => fedFrames t

def ReadOut.msg? : ReadOut → Option Msg
  | .msg m => some m
  | .err _ => none

/-- the messages returned up to the first failing `Read` (a read error ends the connection: the
jsonrpc2 reader stops at the first error) -/
def msgsUntilErr : List ReadOut → List Msg
  | .msg m :: t => m :: msgsUntilErr t
  | _ => []

/-- The order judgement of the monitor (`Mon.ioRead` calls it, `read_order_monitor_sound` is about it).  On what the
peer wrote (`expect`: the wire elements of the
accepted frame not yet handed out) and the message `Read` returned: out of order iff the message is
not the next element but IS one of the later ones. -/
def outOfOrder (same : Msg → JVal → Bool) (expect : List JVal) (m : Msg) : Bool :=
  match expect with
  | [] => false
  | e :: rest => !same m e && rest.any (same m)

/-- a JSON value that is not an object is not a message -/
def notMsgShaped : JVal → Bool
  | .obj _ => false
  | _ => true

/-- how the driver's clause texts name a frame -/
def frameDesc : JVal → String
  | .null => "null"
  | .arr [] => "[] (an array without elements)"
  | .arr l =>
    if l.all notMsgShaped then s!"an array of {l.length} values none of which is an object"
    else s!"a batch of {l.length} elements"
  | .obj _ => "a single object"
  | _ => "a value that is neither an object nor an array"

def runBoth (st : IOState × List Slots) : List IOOp → (IOState × List Slots) × Bool
  | [] => (st, true)
  | op :: t =>
    let r := stepBoth st op
    let r' := runBoth r.1 t
    (r'.1, r.2 && r'.2)

end Wire
