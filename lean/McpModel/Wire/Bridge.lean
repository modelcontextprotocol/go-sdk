import McpModel.Wire.Props
import McpModel.Wire.Sound
/-!
# E2 Wire — `monitor_accepts_model`: the typed monitors raise no clause on what the model produces

For every record kind of the four streams: the typed observation the MODEL yields for an operation
(`model…` below — the typed counterpart of the string the driver prints as the model's observation) is
accepted by the monitor of `Monitor.lean`, for ALL operations (messages, JSON values, byte payloads, event
lists, content values, frames, registries, cursors) — no alarm on conforming behaviour, by theorem.
Where the model computes the observation, the proof shows that it satisfies the clause predicate `P_…` of `Sound.lean`
(that is the property theorem of `Props.lean`), so by `sound_<clause>` the monitor cannot have reported anything.
For the kinds whose observation is only "it returned" (`fuzzdec`, `scan`, `cdec`, `cfuzz`, `post`, `liveIo`, `rfuzz`,
`rcase`) or "unchanged" (`rrt`) the model's observation is a literal (`false`, `none`, `.other`, `some j1`: every
decoder of the model is a total function) and the theorem is `rfl`; `rreg` for roots evaluates the monitor.

Explicit, decidable exclusions:
* **F23** (known finding): the model describes what `/repo` does — a text resource with EMPTY text is
  written without `text` and without `blob` — and the property forbids it, so the monitor DOES fire on the
  model there.  The exclusions are `noF23` (content values), `text ≠ [] ∨ blob.isSome` (resource contents),
  `l.all resourceOK` (the contents list of `resources/read`); `f23_fires_on_model_*` are the
  counter-example theorems (the monitor fires on the model's own observation of the excluded shape).
* `casedec`: the changed member name is not one of the six wire names (`nm ∉ wireNames`; the harness flips
  the case of a wire name); `casedec_needs_foreign_name` shows the hypothesis is needed.  Likewise `nm ∉ wireErrorNames`
  for `casedecErr`.
Further hypotheses: the members an implementation adds to a `tools/call` result are not the three the model prescribes
(`∀ p ∈ extra, p.1 ∉ callNames`); the capabilities value is well-formed (`wfSlots v h`); the method is paged / listed
(`k.isPaged`, `k.isListed`).

The stateful `ioConn` monitor is in `BridgeIO.lean`.
Trusted remainder: the string layer of the driver (token parser, `show…` renderers, `clauseText`).
-/
namespace Wire
namespace Mon
open Generated.Wire

theorem proj_obj (kvs : List (Bytes × JVal)) : ∃ a, proj (.obj kvs) = some a := ⟨_, rfl⟩

theorem validWire_obj (w : JVal) (h : validWire w = true) : ∃ kvs, w = .obj kvs := by
  cases w <;> simp [validWire] at h
  exact ⟨_, rfl⟩

theorem encodeMsg_obj (m : Msg) : ∃ kvs, encodeMsg m = .obj kvs := by
  cases m <;> exact ⟨_, rfl⟩

theorem wireDiff_self_encode (m : Msg) : wireDiff (encodeMsg m) (encodeMsg m) = none := by
  obtain ⟨kvs, h⟩ := encodeMsg_obj m
  rw [h]
  exact wireDiff_none_of_proj _ _ _ rfl rfl

theorem wireDiff_valid (w : JVal) (h : validWire w = true) (m : Msg) (hm : decodeMsg w = .ok m) :
    wireDiff w (encodeMsg m) = none := by
  obtain ⟨m', hm', hp⟩ := encode_decode_preserves w h
  rw [hm] at hm'
  cases hm'
  obtain ⟨kvs, rfl⟩ := validWire_obj w h
  exact wireDiff_none_of_proj _ _ _ rfl hp

def modelEncdec (m : Msg) : Option DecObs := some (DecObs.ofModel (decodeMsg (encodeMsg m)))

theorem encdec_monitor_accepts_model (m : Msg) : encdecMonitor m (modelEncdec m) = none :=
  silent_of_sound (sound_encdec m _) (fun h => by rw [modelEncdec, decode_encode_msg m h]; rfl)

def modelDecenc (w : JVal) : DecEncObs :=
  match decodeMsg w with
  | .ok m => { accepted := true, paired := true, reenc := some (encodeMsg m) }
  | .error _ => { accepted := false, paired := true, reenc := none }

theorem respNoId_rejected (w : JVal) (h : respNoId w = true) : ∃ e, decodeMsg w = .error e := by
  cases w with
  | obj kvs =>
    simp only [respNoId, Bool.and_eq_true, beq_iff_eq, Option.isNone_iff_eq_none] at h
    obtain ⟨⟨⟨⟨_, hv⟩, hm⟩, hi⟩, he⟩ := h
    exact ⟨_, response_needs_id kvs hv hm hi he⟩
  | _ => simp [respNoId] at h

theorem decenc_monitor_accepts_model (w : JVal) : decencMonitor w (modelDecenc w) = none := by
  refine silent_of_sound (P := P_respNeedsId w _ ∧ P_preserves w _)
    (fun c h hp => if hc : c = .respNeedsId then sound_respNeedsId w _ (hc ▸ h) hp.1 else sound_preserves w _ c hc h hp.2)
    ⟨fun h1 => ?_, fun hv _ => ?_⟩
  · obtain ⟨e, he⟩ := respNoId_rejected w h1
    simp only [modelDecenc, he]
  · obtain ⟨m, hm, hp⟩ := encode_decode_preserves w hv
    obtain ⟨kvs, rfl⟩ := validWire_obj w hv
    have : modelDecenc (.obj kvs) = { accepted := true, paired := true, reenc := some (encodeMsg m) } := by
      simp only [modelDecenc, hm]
    rw [this]
    exact ⟨rfl, rfl, _, rfl, _, rfl, hp⟩

def modelCasedec (nm : Bytes) (kvs : List (Bytes × JVal)) : Option (DecObs × DecObs) :=
  some (DecObs.ofModel (decodeMsg (.obj kvs)), DecObs.ofModel (decodeMsg (.obj (kvs.filter (fun p => p.1 ≠ nm)))))

theorem decodeMsg_filter_foreign (nm : Bytes) (kvs : List (Bytes × JVal)) (h : nm ∉ wireNames) :
    decodeMsg (.obj (kvs.filter (fun p => p.1 ≠ nm))) = decodeMsg (.obj kvs) :=
  have hl : ∀ k ∈ wireNames, lookup k (kvs.filter (fun p => p.1 ≠ nm)) = lookup k kvs :=
    fun k hk => L.lookup_filter_ne k nm kvs (fun e => h (e ▸ hk))
  L.decodeMsg_congr _ _ (fun k hk _ => hl k hk) (by rw [hl _ (by decide)])

theorem casedec_monitor_accepts_model (nm : Bytes) (kvs : List (Bytes × JVal)) (h : nm ∉ wireNames) :
    casedecMonitor (modelCasedec nm kvs) = none :=
  silent_of_sound (sound_caseMatched _) ⟨_, by rw [modelCasedec, decodeMsg_filter_foreign nm kvs h]⟩

theorem casedec_needs_foreign_name :
    casedecMonitor (modelCasedec wireDecode_Method_name
      [(wireDecode_VersionTag_name, .str wireVersion), (wireDecode_Method_name, .str [112])]) = some .caseMatched := by
  decide +kernel

example : ([73, 68] : Bytes) ∉ wireNames := by decide

def dropIn (nm : Bytes) : JVal → JVal
  | .obj e => .obj (e.filter (fun p => p.1 ≠ nm))
  | v => v

theorem dropErr_cons (nm k' : Bytes) (v : JVal) (t : List (Bytes × JVal)) :
    dropErrMember nm ((k', v) :: t) =
      (k', if k' = wireDecode_Error_name then dropIn nm v else v) :: dropErrMember nm t := by
  cases v <;> simp only [dropErrMember, dropIn] <;> split <;> rfl

theorem lookup_dropErr_ne (k nm : Bytes) (kvs : List (Bytes × JVal)) (h : k ≠ wireDecode_Error_name) :
    lookup k (dropErrMember nm kvs) = lookup k kvs := by
  induction kvs with
  | nil => rfl
  | cons p t ih =>
    obtain ⟨k', v⟩ := p
    rw [dropErr_cons]
    simp only [lookup, ih]
    by_cases hk : k' = wireDecode_Error_name
    · have : k' ≠ k := by rw [hk]; exact Ne.symm h
      simp [this]
    · simp only [if_neg hk]

theorem lookup_dropErr (nm : Bytes) (kvs : List (Bytes × JVal)) :
    lookup wireDecode_Error_name (dropErrMember nm kvs) = (lookup wireDecode_Error_name kvs).map (dropIn nm) := by
  induction kvs with
  | nil => rfl
  | cons p t ih =>
    obtain ⟨k', v⟩ := p
    rw [dropErr_cons]
    simp only [lookup, ih]
    cases lookup wireDecode_Error_name t with
    | some w => rfl
    | none =>
      by_cases hk : k' = wireDecode_Error_name
      · simp only [if_pos hk]; rfl
      · simp only [if_neg hk]; rfl

theorem asWErr_dropIn (nm : Bytes) (ov : Option JVal) (h : nm ∉ wireErrorNames) :
    asWErr (ov.map (dropIn nm)) = asWErr ov := by
  cases ov with
  | none => rfl
  | some v =>
    cases v with
    | obj e => exact L.asWErr_congr _ _ (fun k hk => L.lookup_filter_ne k nm e (fun e => h (e ▸ hk)))
    | _ => rfl

theorem decodeMsg_dropErr_foreign (nm : Bytes) (kvs : List (Bytes × JVal)) (h : nm ∉ wireErrorNames) :
    decodeMsg (.obj (dropErrMember nm kvs)) = decodeMsg (.obj kvs) :=
  L.decodeMsg_congr _ _ (fun k _ hk => lookup_dropErr_ne k nm kvs hk) (by rw [lookup_dropErr, asWErr_dropIn nm _ h])

def modelCasedecErr (nm : Bytes) (kvs : List (Bytes × JVal)) : Option (DecObs × DecObs) :=
  some (DecObs.ofModel (decodeMsg (.obj kvs)), DecObs.ofModel (decodeMsg (.obj (dropErrMember nm kvs))))

theorem casedecErr_monitor_accepts_model (nm : Bytes) (kvs : List (Bytes × JVal)) (h : nm ∉ wireErrorNames) :
    casedecErrMonitor (modelCasedecErr nm kvs) = none :=
  silent_of_sound (sound_caseMatchedErr _) ⟨_, by rw [modelCasedecErr, decodeMsg_dropErr_foreign nm kvs h]⟩

theorem casedecErr_needs_foreign_name :
    casedecErrMonitor (modelCasedecErr WireError_Code_name
      [(wireDecode_VersionTag_name, .str wireVersion), (wireDecode_ID_name, .int 1),
       (wireDecode_Error_name, .obj [(WireError_Code_name, .int 5), (WireError_Message_name, .str [109])])]) =
      some .caseMatchedErr := by
  decide +kernel

/-- the members of the error object the model writes for a Go error -/
def modelWerr (e : GoErr) : Option (List (Bytes × JVal)) :=
  match encodeErr (toWireError e) with
  | .obj kvs => some kvs
  | _ => none

theorem toWireError_code (e : GoErr) : (toWireError e).code = expectedCode e := by
  cases e <;> rfl

theorem toWireError_message (e : GoErr) : (toWireError e).message = expectedMessage e := by
  cases e <;> rfl

theorem werr_monitor_accepts_model (e : GoErr) : werrMonitor e (modelWerr e) = none := by
  obtain ⟨kvs, h1, h2, h3, _⟩ := L.encodeErr_members (toWireError e)
  exact silent_of_sound (sound_werr e _) ⟨kvs, by rw [modelWerr, h1], by rw [h2, toWireError_code], by rw [h3, toWireError_message]⟩

theorem fuzzdec_monitor_accepts_model : fuzzdecMonitor false = none := rfl

def modelIdecho (idv : JVal) : IdObs :=
  match decodeID idv with
  | .ok id => .echoed (encodeId id)
  | .error _ => .rejected

theorem idecho_monitor_accepts_model (idv : JVal) : idechoMonitor idv (modelIdecho idv) = none :=
  silent_of_sound (sound_idEcho idv _) (fun h => by
    have he := id_echo_exact_wire idv h
    unfold modelIdecho
    cases hd : decodeID idv with
    | error e => rw [hd] at he; cases he
    | ok id => rw [hd] at he; exact ⟨idv, congrArg IdObs.echoed (Except.ok.inj he), rfl⟩)

def modelScan (bs : Bytes) : ScanObs := .res (.scan (scanEvents bs).1 (scanEvents bs).2)

theorem scan_monitor_accepts_model : scanPanicMonitor false = none := rfl

theorem sseRt_monitor_accepts_model (es : List Event) : sseRtMonitor es (modelScan (es.flatMap writeEvent)) = none :=
  silent_of_sound (sound_sseRoundtrip es _) (fun hc => by rw [modelScan, sse_roundtrip es hc])

def scanRes (bs : Bytes) : ScanRes := .scan (scanEvents bs).1 (scanEvents bs).2

def modelLines (ls : List (Bytes × Eol)) (rest : Bytes) : LinesObs :=
  .pair (scanRes (renderLines ls ++ rest)) (scanRes (frame (ls.map (·.1)) ++ rest))

theorem sseLines_monitor_accepts_model (ls : List (Bytes × Eol)) (rest : Bytes) :
    sseLinesMonitor ls rest (modelLines ls rest) = none :=
  silent_of_sound (sound_sseLines ls rest _) ⟨fun c h => (by cases h),
    fun hl _ => ⟨_, by rw [modelLines, scanRes, scanRes, sse_eol_irrelevant ls rest hl]⟩⟩

theorem sseFrn_monitor_accepts_model (es : List FEvent) : sseFrnMonitor es (modelScan (renderStream es)) = none :=
  silent_of_sound (sound_sseFrn es _) ⟨fun c h => (by cases h), fun hw => by rw [modelScan, sse_roundtrip_any_eol es hw, denoted]⟩

mutual
/-- the F23 exclusion on content values: no embedded resource (at any depth) lacks both `text` and `blob` -/
def noF23 : Content → Bool
  | .resource (some r) _ _ => resourceOK r
  | .toolResult _ cs _ _ _ => noF23L cs
  | _ => true
def noF23L : List Content → Bool
  | [] => true
  | c :: t => noF23 c && noF23L t
end

/-! The three members `embeddedOK` looks at (`type`, `resource`, `content`) are read off an encoding by `lookup`
(`L.lookup_members`: the member names of a struct are distinct). -/

/-- `embNested` judges the member `lookup` finds: the last one named `content` -/
theorem embNested_eq (kvs : List (Bytes × JVal)) :
    embNested kvs = match lookup wireContent_NestedContent_name kvs with
      | some v => embArr v
      | none => true := by
  induction kvs with
  | nil => rfl
  | cons p t ih =>
    obtain ⟨k, v⟩ := p
    simp only [embNested, L.hasArrLater_eq, lookup, ih]
    cases lookup wireContent_NestedContent_name t with
    | some w => rfl
    | none => by_cases hk : k = wireContent_NestedContent_name <;> simp only [hk, if_pos] <;> rfl

theorem embeddedTopOK_of_type (kvs : List (Bytes × JVal)) (ty : Bytes)
    (hty : lookup wireContent_Type_name kvs = some (.str ty)) (hne : ty ≠ kResource) : embeddedTopOK kvs = true := by
  simp only [embeddedTopOK, hty]
  cases lookup wireContent_Resource_name kvs with
  | none => rfl
  | some r => exact if_neg hne

theorem embeddedTopOK_of_resource (kvs : List (Bytes × JVal))
    (hr : ∀ r, lookup wireContent_Resource_name kvs = some r → resourceOK r = true) : embeddedTopOK kvs = true := by
  simp only [embeddedTopOK]
  split
  · next r _ h => rw [hr r h]; exact ite_self true
  · rfl

theorem embeddedOK_obj (kvs : List (Bytes × JVal)) (ht : embeddedTopOK kvs = true)
    (hn : ∀ v, lookup wireContent_NestedContent_name kvs = some v → embArr v = true) : embeddedOK (.obj kvs) = true := by
  simp only [embeddedOK, ht, embNested_eq, Bool.true_and]
  split
  · next v h => exact hn v h
  · rfl

theorem lookup_members_absent {k : Bytes} {fs : List (Bytes × Option JVal)} (h : k ∉ fs.map (·.1)) :
    lookup k (members fs) = none :=
  L.lookup_members_none k fs (fun p hp e => h (List.mem_map.mpr ⟨p, hp, e⟩))

theorem of_lookup_members {k : Bytes} {v : JVal} {ov : Option JVal} {fs : List (Bytes × Option JVal)}
    (hv : lookup k (members fs) = some v) (hnd : (fs.map (·.1)).Nodup) (h : (k, ov) ∈ fs) : ov = some v :=
  (L.lookup_members hnd h).symm.trans hv

theorem embeddedOK_plain {fs : List (Bytes × Option JVal)} (ty : Bytes)
    (hnd : (wireContent_NestedContent_name :: fs.map (·.1)).Nodup)
    (hty : (wireContent_Type_name, some (.str ty)) ∈ fs) (hne : ty ≠ kResource) : embeddedOK (.obj (members fs)) = true :=
  embeddedOK_obj _ (embeddedTopOK_of_type _ ty (L.lookup_members (List.nodup_cons.mp hnd).2 hty) hne)
    (fun v hv => by rw [lookup_members_absent (List.nodup_cons.mp hnd).1] at hv; cases hv)

theorem emb_resource (r : Option JVal) (m : Meta) (a : Option JVal)
    (h : ∀ v, r = some v → resourceOK v = true) : embeddedOK (encodeContent (.resource r m a)) = true := by
  have hnd := List.nodup_cons.mp L.resource_names
  refine embeddedOK_obj _ (embeddedTopOK_of_resource _ (fun v hv => ?_))
    (fun v hv => by rw [lookup_members_absent hnd.1] at hv; cases hv)
  have hv := of_lookup_members hv hnd.2 (.tail _ (.head _))
  cases r with
  | none => cases hv
  | some x => cases hv; exact h _ rfl

theorem emb_toolResult (tid : Bytes) (cs : List Content) (st : Option JVal) (ie : Bool) (m : Meta)
    (ih : embList (encodeContents cs) = true) : embeddedOK (encodeContent (.toolResult tid cs st ie m)) = true :=
  embeddedOK_obj _ (embeddedTopOK_of_type (members _) kToolResult (L.lookup_members L.toolResultWire_names (.head _)) (by decide))
    (fun v hv => by
      have hv := of_lookup_members hv L.toolResultWire_names (.tail _ (.tail _ (.head _)))
      split at hv
      · cases hv
      · cases hv; exact ih)

mutual
theorem embeddedOK_encode : ∀ (c : Content), noF23 c = true → embeddedOK (encodeContent c) = true
  | .text .., _ => embeddedOK_plain kText L.textWire_names (.head _) (by decide)
  | .image .., _ => embeddedOK_plain kImage L.imageAudioWire_names (.head _) (by decide)
  | .audio .., _ => embeddedOK_plain kAudio L.imageAudioWire_names (.head _) (by decide)
  | .link .., _ => embeddedOK_plain kLink L.link_names (.head _) (by decide)
  | .resource r m a, h => emb_resource r m a (by
      intro v hv; subst hv; simpa [noF23] using h)
  | .toolUse .., _ => embeddedOK_plain kToolUse L.toolUseWire_names (.head _) (by decide)
  | .toolResult tid cs st ie m, h => emb_toolResult tid cs st ie m (embList_encode cs (by simpa [noF23] using h))
theorem embList_encode : ∀ (cs : List Content), noF23L cs = true → embList (encodeContents cs) = true
  | [], _ => rfl
  | c :: t, h => by
    simp only [noF23L, Bool.and_eq_true] at h
    simp only [encodeContents, embList, embeddedOK_encode c h.1, embList_encode t h.2, Bool.and_self]
end

def modelCenc (c : Content) : Option JVal := some (encodeContent c)

theorem cenc_monitor_accepts_model (c : Content) (h : noF23 c = true) : cencMonitor (modelCenc c) = none :=
  silent_of_sound (sound_cenc _) ⟨_, rfl, required_members_present c, embeddedOK_encode c h⟩

theorem f23_fires_on_model_content :
    cencMonitor (modelCenc (.resource (some (encodeResource [117] [] [] none [])) [] none)) = some .f23 := by
  decide +kernel

example : noF23 (.resource (some (encodeResource [117] [] [116] none [])) [] none) = true := by decide +kernel

def modelCres (uri mime text : Bytes) (blob : Option Bytes) (m : Meta) : Option JVal :=
  some (encodeResource uri mime text blob m)

theorem cres_monitor_accepts_model (uri mime text : Bytes) (blob : Option Bytes) (m : Meta)
    (h : text ≠ [] ∨ blob.isSome = true) : cresMonitor (modelCres uri mime text blob m) = none :=
  silent_of_sound (sound_cres _) ⟨_, rfl, resource_text_present_partial uri mime text blob m h⟩

theorem f23_fires_on_model_resource : cresMonitor (modelCres [117] [] [] none []) = some .f23 := by decide +kernel

def modelCrt (sh : Shape) (allow : Option (List Bytes)) (cs : List Content) : Option (Option (List Content)) :=
  some (match decodeIn sh allow (some (encodeIn sh cs)) with
    | .ok cs' => some cs'
    | .error _ => none)

theorem encodeContent_obj (c : Content) : ∃ kvs, encodeContent c = .obj kvs := by
  cases c <;> (simp only [encodeContent]; exact ⟨_, rfl⟩)

theorem decodeIn_encodeIn (sh : Shape) (allow : Option (List Bytes)) (cs : List Content)
    (h : crtDomain sh allow cs = true) : decodeIn sh allow (some (encodeIn sh cs)) = .ok cs := by
  simp only [crtDomain, Bool.and_eq_true, List.all_eq_true] at h
  obtain ⟨hall, hshape⟩ := h
  cases sh with
  | one =>
    simp only [decide_eq_true_eq] at hshape
    match cs, hshape with
    | [c], _ =>
      have := hall c (by simp)
      simp only [decodeIn, encodeIn, content_roundtrip allow c this.1 this.2]
      rfl
  | list =>
    have hl := contents_roundtrip allow cs hall
    simp only [decodeIn, encodeIn]
    exact hl
  | oneOrMany =>
    match cs, hshape with
    | [c], _ =>
      have := hall c (by simp)
      obtain ⟨kvs, hk⟩ := encodeContent_obj c
      have hr := content_roundtrip allow c this.1 this.2
      simp only [decodeIn, encodeIn]
      rw [hk] at hr ⊢
      simp only [unmarshalContent, hr]
      rfl
    | c1 :: c2 :: t, _ =>
      have hl := contents_roundtrip allow (c1 :: c2 :: t) hall
      simp only [decodeIn, encodeIn, unmarshalContent]
      simpa [decodeContentList, wcNested] using hl
    | [], hs => simp at hs

theorem crt_monitor_accepts_model (sh : Shape) (allow : Option (List Bytes)) (cs : List Content) :
    crtMonitor sh allow cs (modelCrt sh allow cs) = none :=
  silent_of_sound (sound_crt sh allow cs _) (fun h => by rw [modelCrt, decodeIn_encodeIn sh allow cs h])

theorem cdec_monitor_accepts_model (ctx : String) : cdecMonitor ctx false = none := rfl
theorem cfuzz_monitor_accepts_model : cfuzzMonitor false = none := rfl

/-- marshal → unmarshal → marshal of plain tagged structs is the JSON library's identity: the model's observation is `j1` -/
theorem rrt_monitor_accepts_model (j1 : JVal) : rrtMonitor j1 (some j1) = none := silent_of_sound (sound_rrt j1 _) rfl

/-- what the model shows for `tools/call`: the members it prescribes, after whatever other members
(`_meta`, `resultType`) the result carries -/
def modelRcall (extra ms : List (Bytes × JVal)) : ResObs := .obj (extra ++ ms)

def callNames : List Bytes := [CallToolResult_Content_name, CallToolResult_StructuredContent_name, CallToolResult_IsError_name]

theorem modelRcall_callResult (c : Option (List Content)) (s : Option JVal) (e : Bool)
    (extra ms : List (Bytes × JVal)) (hx : ∀ p ∈ extra, p.1 ∉ callNames)
    (hms : sdkCallTool (.result c s e) = .sent ms) (hf : noF23L (c.getD []) = true) :
    P_callResult c s e (modelRcall extra ms) := by
  obtain ⟨ms', h0, h1, h2, h3, h4⟩ := call_tool_content_present c s e
  rw [hms] at h0
  cases h0
  have hk : ∀ k ∈ callNames, lookup k (extra ++ ms) = lookup k ms :=
    fun k hk => L.lookup_append_of_absent k extra ms (fun p hp e => hx p hp (e ▸ hk))
  rw [h1] at h2
  exact ⟨_, rfl, _, (hk _ (by decide)).trans h1, h2, embList_encode _ hf, sameJ_refl _,
    by rw [hk _ (by decide), h3]; exact sameOJ_refl s, (hk _ (by decide)).trans h4⟩

theorem rcall_monitor_accepts_model (c : Option (List Content)) (s : Option JVal) (e : Bool)
    (extra ms : List (Bytes × JVal)) (hx : ∀ p ∈ extra, p.1 ∉ callNames)
    (hms : sdkCallTool (.result c s e) = .sent ms) (hf : noF23L (c.getD []) = true) :
    rcallMonitor (.result c s e) (modelRcall extra ms) = none :=
  silent_of_sound (sound_rcall c s e _) (modelRcall_callResult c s e extra ms hx hms hf)

theorem rcall_nil_monitor_accepts_model (extra ms : List (Bytes × JVal)) (hx : ∀ p ∈ extra, p.1 ∉ callNames)
    (hms : sdkCallTool .nilResult = .sent ms) : rcallMonitor .nilResult (modelRcall extra ms) = none :=
  silent_of_sound (sound_rcall_nil _) (modelRcall_callResult none none false extra ms hx hms rfl)

/-- `r.zero`: any result whose required list member is what the model prescribes (the other members are the
implementation's) is accepted; `resources/read` under the F23 exclusion on the contents the handler returned -/
theorem rzero_monitor_accepts_model (k : RKind) (method : String) (nilres : Bool) (l : RList) (lv : JVal)
    (kvs : List (Bytes × JVal)) (hs : sdkResultList k l = .sent lv) (hp : getPath k.path (.obj kvs) = some lv)
    (hf : k = .readResource → ∀ items, lv = .arr items → items.all resourceOK = true) :
    rzeroMonitor k method nilres (.obj kvs) = none := by
  obtain ⟨items, rfl⟩ := required_lists_present k l lv hs
  exact silent_of_sound (sound_rzero k method nilres _) ⟨_, Or.inr ⟨kvs, rfl, rfl⟩, items, hp, fun hk => hf hk items rfl⟩

/-- F23 counter-example: `resources/read` of an empty text file -/
theorem f23_fires_on_model_read :
    rzeroMonitor .readResource "resources/read" false
      (.obj [([99, 111, 110, 116, 101, 110, 116, 115], .arr [encodeResource [117] [] [] none []])]) = some .f23 := by
  decide +kernel

def modelPg (k : RKind) (keys : List Bytes) (ps : Nat) (c : Cursor) : PgObs :=
  match (listPage k (fun u => .str u) keys ps c).1 with
  | .errorInstead => .fine
  | .sent (.arr _) => .fine
  | .sent _ => .null

theorem rpg_monitor_accepts_model (k : RKind) (hk : k.isPaged = true) (keys : List Bytes) (ps : Nat) (c : Cursor) :
    rpgMonitor k keys ps c (modelPg k keys ps c) = none :=
  silent_of_sound (sound_rpg k keys ps c _) (by
    rcases required_lists_present_paged k hk (fun u => .str u) keys ps c with ⟨_, h⟩ | ⟨items, h, _, _⟩ <;>
      simp only [modelPg, h] <;> rfl)

/-- what the model shows for `r.pg.list` on ANY listed registry, paged or whole (the driver prints the same `listReg`
result as text; it uses neither this definition nor `modelPg`) -/
def modelReg (k : RKind) (keys : List Bytes) (ps : Nat) (c : Cursor) : PgObs :=
  match (listReg k (fun u => .str u) keys ps c).1 with
  | .errorInstead => .fine
  | .sent (.arr _) => .fine
  | .sent _ => .null

theorem rreg_monitor_accepts_model (k : RKind) (hk : k.isListed = true) (keys : List Bytes) (ps : Nat) (c : Cursor) :
    rpgMonitor k keys ps c (modelReg k keys ps c) = none := by
  by_cases hp : k.isPaged = true
  · have : modelReg k keys ps c = modelPg k keys ps c := by simp [modelReg, modelPg, listReg, hp]
    rw [this]; exact rpg_monitor_accepts_model k hp keys ps c
  · have hr : k = .listRoots := by cases k <;> simp_all [RKind.isListed, RKind.isPaged]
    subst hr
    simp [rpgMonitor, modelReg, listReg, RKind.isPaged, L.listAll_sent]

def modelNd (l : List (Bytes × Bytes)) : NdObs := .read (readStream (joinWs l)).1 (readStream (joinWs l)).2

theorem ndSplit_monitor_accepts_model (l : List (Bytes × Bytes)) : ndSplitMonitor l (modelNd l) = none :=
  silent_of_sound (sound_ndSplit l _) ⟨fun c h => (by cases h),
    fun h => by rw [modelNd, ndjson_stream_roundtrip l (fun q hq => (h q hq).1) (fun q hq => (h q hq).2)]⟩

def modelRb (raw : JVal) : RbObs :=
  match readBatch raw with
  | .ok (ms, _) => .ok ms.length
  | .error _ => .other

theorem rb_monitor_accepts_model (raw : JVal) : rbMonitor raw (modelRb raw) = none :=
  silent_of_sound (sound_rb raw _) (by
    unfold modelRb
    cases h : readBatch raw with
    | error e => exact ⟨nofun, nofun⟩
    | ok r =>
      exact ⟨nofun, fun h0 => read_batch_nonempty raw r.1 r.2 h (List.eq_nil_of_length_eq_zero (RbObs.ok.inj h0))⟩)

theorem post_monitor_accepts_model (path : String) (raw : JVal) : postMonitor path raw none = none := rfl
theorem liveIo_monitor_accepts_model (raw : JVal) : liveIoMonitor raw none = none := rfl

def modelCli (raw : JVal) : CliObs :=
  match decodeMsg raw with
  | .ok _ => .other
  | .error _ => .error

theorem liveCli_monitor_accepts_model (kind : String) (framing : Option String) (raw : JVal) :
    liveCliMonitor kind framing raw (modelCli raw) = none :=
  silent_of_sound (sound_liveCli kind framing raw _) (by
    unfold modelCli
    cases h : decodeMsg raw with
    | ok m => exact ⟨fun c h => (by cases h), fun _ _ h => (by cases h)⟩
    | error e => exact ⟨fun c h => (by cases h), fun _ ⟨m, hm⟩ => (by rw [h] at hm; cases hm)⟩)

theorem rfuzz_monitor_accepts_model (ty : String) (j : JVal) : rfuzzMonitor ty j false = none := rfl

theorem rcase_monitor_accepts_model (ty name : String) (j : Option JVal) (idx : List Nat) :
    rcaseMonitor ty name j idx .other = none := rfl

def modelIrm (j : JVal) : IrmObs :=
  match decodeInputRequests j with
  | .ok _ => .ok
  | .error _ => .other

theorem rirm_monitor_accepts_model (j : JVal) : rirmMonitor j (modelIrm j) = none :=
  silent_of_sound (sound_rirm j _) (by
    unfold modelIrm
    cases h : decodeInputRequests j with
    | ok l => exact ⟨nofun, fun _ => ⟨l, h⟩⟩
    | error e => exact ⟨nofun, nofun⟩)

def modelRefRt (r : CRef) : RefRtObs :=
  match encodeRef r with
  | .error _ => .refused
  | .ok v => .written v (match decodeRef v with | .ok r' => some r' | .error _ => none)

def modelRefDec (v : JVal) : RefDecObs :=
  match decodeRef v with
  | .error _ => .rejected
  | .ok r => .accepted r (match encodeRef r with | .ok w => some w | .error _ => none)

theorem encodeRef_ok_of_check (r : CRef) (h : refCheck r = .ok ()) : ∃ v, encodeRef r = .ok v := by
  simp [encodeRef, h]

theorem refCheck_of_encodeRef (r : CRef) (v : JVal) (h : encodeRef r = .ok v) : refCheck r = .ok () := by
  unfold encodeRef at h
  split at h
  · cases h
  · assumption

theorem refRt_monitor_accepts_model (r : CRef) : refRtMonitor r (modelRefRt r) = none :=
  silent_of_sound (sound_refRt r _) (by
    unfold modelRefRt
    cases he : encodeRef r with
    | error e =>
      refine ⟨fun hc => ?_, fun _ => rfl⟩
      obtain ⟨v, hv⟩ := encodeRef_ok_of_check r hc
      rw [hv] at he; cases he
    | ok v =>
      have hc := refCheck_of_encodeRef r v he
      exact ⟨fun _ => ⟨v, by simp only [ref_roundtrip r v he]⟩, fun h => absurd hc h⟩)

theorem refDec_monitor_accepts_model (v : JVal) : refDecMonitor (modelRefDec v) = none :=
  silent_of_sound (sound_refDec _) (by
    unfold modelRefDec
    cases hd : decodeRef v with
    | error e => exact Or.inl rfl
    | ok r =>
      obtain ⟨w, hw, _⟩ := ref_decode_validates v r hd
      exact Or.inr ⟨r, w, w, by simp only [hw], refCheck_of_encodeRef r w hw, hw, sameJ_refl w⟩)

def modelRetry (rs : List (Bytes × JVal)) (state : Bytes) : RetryObs :=
  { sentResp := lookup retry_InputResponses_name (retryParams [] rs state),
    sentState := lookup retry_RequestState_name (retryParams [] rs state),
    back := match decodeRetry (retryParams [] rs state) with | .ok r => some r | .error _ => none }

theorem retry_monitor_accepts_model (rs : List (Bytes × JVal)) (state : Bytes) :
    retryMonitor rs state (modelRetry rs state) = none := by
  obtain ⟨e1, e2⟩ := L.retry_members [] rs state rfl rfl
  have r1 : respIntact rs (modelRetry rs state) = true := by
    simp only [respIntact, modelRetry, e1]
    by_cases hr : rs = [] <;> simp [hr, sameJ_refl]
  have r2 : stateIntact state (modelRetry rs state) = true := by
    simp only [stateIntact, modelRetry, e2]
    by_cases hs : state = [] <;> simp [hs]
  have r3 : backAlike rs state (modelRetry rs state) = true := by
    unfold backAlike
    by_cases hd : allDiscriminated rs = true
    · have hk : ∀ p ∈ rs, respKindOf p.2 = .ok (kindD p.2) := by
        intro p hp
        have := List.all_eq_true.mp hd p hp
        unfold kindD
        cases h : respKindOf p.2 <;> simp_all
      have hb := (L.retry_roundtrip [] rs state kindD rfl rfl hk).2.2
      simp only [modelRetry, hb, hd, Bool.not_true, Bool.false_or, beq_self_eq_true, List.length_map, Bool.true_and]
      rw [List.all_eq_true]
      intro p hp
      exact List.contains_iff_mem.mpr (List.mem_map.mpr ⟨p, hp, rfl⟩)
    · simp [hd]
  exact silent_of_sound (sound_retry rs state _) ⟨r1, r2, r3⟩

def modelAnn (compat : Bool) (a : ToolAnn) : AnnObs :=
  { written := some (encodeAnn compat a),
    back := match decodeAnn (encodeAnn compat a) with | .ok b => some b | .error _ => none }

theorem ann_monitor_accepts_model (compat : Bool) (a : ToolAnn) : annMonitor compat a (modelAnn compat a) = none :=
  silent_of_sound (sound_ann compat a _) ⟨by simp only [modelAnn, tool_annotations_roundtrip], fun hc => by
    subst hc
    obtain ⟨kvs, he, h1, h2⟩ := tool_annotations_hints_present a
    simp only [modelAnn, he, hintsPresent, h1, h2]; rfl⟩

theorem aliasCount_zero (v : CSlots) (h : Heap) (hw : wfSlots v h) (x : JVal) : aliasCount v h x = 0 := by
  unfold aliasCount
  have h1 : (cloneV v h).1.filter (showsInOriginal v h x) = [] := by
    rw [List.filter_eq_nil_iff]
    intro s hs
    cases s with
    | none => simp [showsInOriginal]
    | some a => simp [showsInOriginal, clone_no_alias v h hw a x hs]
  have h2 : v.filter (showsInClone v h x) = [] := by
    rw [List.filter_eq_nil_iff]
    intro s hs
    cases s with
    | none => simp [showsInClone]
    | some a => simp [showsInClone, clone_no_alias_rev v h hw a x hs]
  rw [h1, h2]; rfl

theorem clone_monitor_accepts_model (v : CSlots) (h : Heap) (hw : wfSlots v h) (x : JVal) :
    cloneMonitor (modelClone v h x) = none :=
  silent_of_sound (sound_clone _) ⟨by simp only [modelClone, clone_same_encoding v h hw, beq_self_eq_true], aliasCount_zero v h hw x, rfl⟩

end Mon
end Wire
