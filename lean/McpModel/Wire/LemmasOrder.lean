import McpModel.Wire.LemmasIO
/-!
# E2 Wire — `ioConn.Read` hands the messages of the stream out in the order in which they were written

Accounting invariant: `s.pendingMsgs` (unread rest of the last frame ++ messages of the frames not yet
taken).  A feed appends the frame's messages at the end, a successful `Read` removes the head, a
`Write` and a version change leave it alone.

At the end, apart from order: frames that carry no message (`degenerate_frames_rejected`, `read_degenerate_frame`: what
`readBatch` and `Read` do with them).  The four statements Props.lean registers are said in words there.
-/
namespace Wire
namespace L

theorem opRead_msg (s : IOState) (m : Msg) (h : (opRead false s).2 = .msg m) :
    s.pendingMsgs = m :: (opRead false s).1.pendingMsgs := by
  cases hq : s.queue with
  | cons m0 q =>
    rw [opRead_queued false s m0 q hq] at h ⊢
    cases h
    simp only [IOState.pendingMsgs, hq, List.cons_append]
  | nil =>
    cases hw : s.wire with
    | nil => rw [opRead_eof false s hq hw] at h; cases h
    | cons raw w =>
      obtain ⟨h1, -, h3, h4⟩ := opRead_taken false s raw w hq hw
      obtain ⟨rest, b, hr, hb⟩ := h4 m h
      simp only [IOState.pendingMsgs, hq, hw, h1, h3, hr, hb, frameMsgs, List.flatMap_cons, List.nil_append,
        Bool.false_eq_true, ite_false, List.cons_append]

theorem ioStep_pending_feed (s : IOState) (raw : JVal) :
    (ioStep s (.feed raw)).pendingMsgs = s.pendingMsgs ++ frameMsgs raw := by
  simp [ioStep, IOState.pendingMsgs]

theorem ioStep_pending_ver (s : IOState) (b : Bool) : (ioStep s (.setNoBatch b)).pendingMsgs = s.pendingMsgs := rfl

theorem ioStep_pending_write (s : IOState) (m : Msg) : (ioStep s (.write m)).pendingMsgs = s.pendingMsgs := by
  have h := opWrite_keeps s m
  simp [ioStep, IOState.pendingMsgs, h.1, h.2.1]

theorem msgsUntilErr_all (rs : List ReadOut) (h : ∀ r ∈ rs, ∃ m, r = .msg m) :
    msgsUntilErr rs = rs.filterMap ReadOut.msg? := by
  induction rs with
  | nil => rfl
  | cons r t ih =>
    obtain ⟨m, rfl⟩ := h r (.head _)
    simp only [msgsUntilErr, List.filterMap_cons, ReadOut.msg?, ih fun x hx => h x (.tail _ hx)]

/-- **Accounting.** What was pending and what was fed is what the `Read`s returned up to the first failing one, then a
rest; and if none failed the rest is what is still pending. -/
theorem read_accounting (s : IOState) (ops : List IOOp) :
    ∃ rest, s.pendingMsgs ++ (fedFrames ops).flatMap frameMsgs = msgsUntilErr (readResults s ops) ++ rest ∧
      ((∀ r ∈ readResults s ops, ∃ m, r = .msg m) → rest = (ioRun s ops).pendingMsgs) := by
  induction ops generalizing s with
  | nil => exact ⟨s.pendingMsgs, by simp [fedFrames, readResults, msgsUntilErr], fun _ => rfl⟩
  | cons op t ih =>
    cases op with
    | feed raw =>
      obtain ⟨rest, h, h'⟩ := ih (ioStep s (.feed raw))
      rw [ioStep_pending_feed] at h
      exact ⟨rest, by simpa [fedFrames, readResults, List.append_assoc] using h, h'⟩
    | setNoBatch b =>
      obtain ⟨rest, h, h'⟩ := ih (ioStep s (.setNoBatch b))
      exact ⟨rest, by simpa [fedFrames, readResults, ioStep_pending_ver] using h, h'⟩
    | write m =>
      obtain ⟨rest, h, h'⟩ := ih (ioStep s (.write m))
      exact ⟨rest, by simpa [fedFrames, readResults, ioStep_pending_write] using h, h'⟩
    | read =>
      cases hr : (opRead false s).2 with
      | err e =>
        refine ⟨s.pendingMsgs ++ (fedFrames (.read :: t)).flatMap frameMsgs,
          by simp only [readResults, hr, msgsUntilErr, List.nil_append], fun hok => ?_⟩
        obtain ⟨m, hm⟩ := hok (opRead false s).2 (by simp [readResults])
        rw [hr] at hm; cases hm
      | msg m =>
        obtain ⟨rest, h, h'⟩ := ih (opRead false s).1
        refine ⟨rest, ?_, fun hok => h' fun r hr' => hok r (by simp [readResults, hr'])⟩
        simp only [fedFrames, readResults, hr, msgsUntilErr, opRead_msg s m hr, List.cons_append]
        rw [h]

theorem batch_read_order_prefix (s : IOState) (ops : List IOOp) :
    ∃ rest, s.pendingMsgs ++ (fedFrames ops).flatMap frameMsgs = msgsUntilErr (readResults s ops) ++ rest :=
  let ⟨rest, h, _⟩ := read_accounting s ops
  ⟨rest, h⟩

theorem batch_read_order (s : IOState) (ops : List IOOp)
    (hok : ∀ r ∈ readResults s ops, ∃ m, r = .msg m) :
    (readResults s ops).filterMap ReadOut.msg? ++ (ioRun s ops).pendingMsgs =
      s.pendingMsgs ++ (fedFrames ops).flatMap frameMsgs := by
  obtain ⟨rest, h, h'⟩ := read_accounting s ops
  rw [h, h' hok, msgsUntilErr_all _ hok]

theorem decodeMsg_notMsgShaped (v : JVal) (h : notMsgShaped v = true) : ∃ e, decodeMsg v = .error e := by
  cases v <;> simp [notMsgShaped] at h <;> simp [decodeMsg]

theorem degenerate_frames_rejected (raw : JVal)
    (h : raw = .null ∨ raw = .arr [] ∨ (∃ e t, raw = .arr (e :: t) ∧ notMsgShaped e = true) ∨
      (notMsgShaped raw = true ∧ ∀ l, raw ≠ .arr l)) :
    ∃ e, readBatch raw = .error e := by
  rcases h with rfl | rfl | ⟨e, t, rfl, he⟩ | ⟨hn, hna⟩
  · exact ⟨_, rfl⟩
  · exact ⟨_, rfl⟩
  · obtain ⟨de, hde⟩ := decodeMsg_notMsgShaped e he
    exact ⟨.decode de, by simp [readBatch, decodeAll, hde, bind, Except.bind]⟩
  · cases raw with
    | arr l => exact absurd rfl (hna l)
    | null => exact ⟨_, rfl⟩
    | obj kvs => simp [notMsgShaped] at hn
    | _ => exact ⟨_, rfl⟩

theorem read_degenerate_frame (s : IOState) (raw : JVal) (w : List JVal) (hq : s.queue = []) (hw : s.wire = raw :: w)
    (e : RErr) (h : readBatch raw = .error e) :
    opRead false s = ({ s with wire := w }, .err e) := by
  simp [opRead, hq, hw, h]

end L
end Wire
