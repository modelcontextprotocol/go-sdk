import McpModel.Wire.Msg
import McpModel.Wire.LemmasJson
/-!
# C19 / C02 — message codec theorems (`encodeMsg`, `decodeMsg`, ids, `toWireError`)
The theorems quantify over all messages / JSON values; the closed `decide` examples between them are witnesses
(non-vacuity, the F1 counter-examples on `makeIDFloat`, what the domains exclude).
-/
namespace Wire.L
open Wire Generated.Wire

theorem member_omit {om : Bool} (h : om = true) (k : Bytes) (ov : Option JVal) (d : JVal) :
    (member k om ov d).2 = ov := by
  subst h; cases ov <;> rfl

theorem member_keep {om : Bool} (h : om = false) (k : Bytes) (ov : Option JVal) (d : JVal) :
    (member k om ov d).2 = some (ov.getD d) := by
  subst h; cases ov <;> rfl

theorem member_keep_enc {α : Type} [DecidableEq α] {om : Bool} (h : om = false) (k : Bytes) (f : α → JVal) (x z : α) :
    (member k om (if x = z then none else some (f x)) (f z)).2 = some (f x) := by
  rw [member_keep h]; split <;> simp [*]

/-! `decodeMsg` and `proj` see an object only through `lookup` of the six wire names (three inside `error`); the
encoders write each name once, so each `lookup` is the member of that name. -/

theorem wireNames_nodup : wireNames.Nodup := by decide

theorem wireErrorNames_nodup : wireErrorNames.Nodup := by decide

theorem encodeErr_members (e : WErr) : ∃ kvs, encodeErr e = .obj kvs ∧
    lookup WireError_Code_name kvs = some (.int e.code) ∧ lookup WireError_Message_name kvs = some (.str e.message) ∧
    lookup WireError_Data_name kvs = e.data :=
  ⟨_, rfl, lookup_struct wireErrorNames_nodup _ rfl (member_keep_enc rfl WireError_Code_name .int e.code 0),
    lookup_struct wireErrorNames_nodup _ rfl (member_keep_enc rfl WireError_Message_name .str e.message []),
    lookup_struct wireErrorNames_nodup _ rfl (member_omit rfl WireError_Data_name _ _)⟩

/-- `encodeMsg` writes the names of `wireCombined`, `decodeMsg` reads those of `wireDecode`; the two structs carry the same
tags, which is what the `rfl`s inside `lookup_struct` check here. -/
theorem encode_request_members (id : Id) (method : Bytes) (params : Option JVal) :
    ∃ kvs, encodeMsg (.request id method params) = .obj kvs ∧
      lookup wireDecode_VersionTag_name kvs = some (.str wireVersion) ∧ lookup wireDecode_ID_name kvs = encodeId id ∧
      lookup wireDecode_Method_name kvs = (if method = [] then none else some (.str method)) ∧
      lookup wireDecode_Params_name kvs = params ∧ lookup wireDecode_Result_name kvs = none ∧
      lookup wireDecode_Error_name kvs = none :=
  ⟨_, rfl, lookup_struct wireNames_nodup _, lookup_struct wireNames_nodup _ rfl (member_omit rfl wireDecode_ID_name _ _),
    lookup_struct wireNames_nodup _ rfl (member_omit rfl wireDecode_Method_name _ _),
    lookup_struct wireNames_nodup _ rfl (member_omit rfl wireDecode_Params_name _ _),
    lookup_struct wireNames_nodup _, lookup_struct wireNames_nodup _⟩

theorem encode_response_members (id : Id) (result : Option JVal) (error : Option WErr) :
    ∃ kvs, encodeMsg (.response id result error) = .obj kvs ∧
      lookup wireDecode_VersionTag_name kvs = some (.str wireVersion) ∧ lookup wireDecode_ID_name kvs = encodeId id ∧
      lookup wireDecode_Method_name kvs = none ∧ lookup wireDecode_Params_name kvs = none ∧
      lookup wireDecode_Result_name kvs = result ∧ lookup wireDecode_Error_name kvs = error.map encodeErr :=
  ⟨_, rfl, lookup_struct wireNames_nodup _, lookup_struct wireNames_nodup _ rfl (member_omit rfl wireDecode_ID_name _ _),
    lookup_struct wireNames_nodup _, lookup_struct wireNames_nodup _,
    lookup_struct wireNames_nodup _ rfl (member_omit rfl wireDecode_Result_name _ _),
    lookup_struct wireNames_nodup _ rfl (member_omit rfl wireDecode_Error_name _ _)⟩

/-- the `id` member: absent is `ID{}` -/
def decodeIdMember : Option JVal → Except DErr Id
  | none => .ok .none
  | some v => decodeID v

/-- `decodeMsg` on an object, as a function of the six members it looks at. -/
def decodeMembers (tag idv mv pv rv ev : Option JVal) : Except DErr Msg := do
  let ver ← asString tag
  let err ← asWErr ev
  if ver ≠ wireVersion then .error .version else
  let id ← decodeIdMember idv
  match mv with
  | some mv =>
    let method ← asString (some mv)
    .ok (.request id method pv)
  | none =>
    if id = .none then .error .noId
    else .ok (.response id rv err)

theorem decodeMsg_obj (kvs : List (Bytes × JVal)) :
    decodeMsg (.obj kvs) = decodeMembers (lookup wireDecode_VersionTag_name kvs) (lookup wireDecode_ID_name kvs)
      (lookup wireDecode_Method_name kvs) (lookup wireDecode_Params_name kvs) (lookup wireDecode_Result_name kvs)
      (lookup wireDecode_Error_name kvs) := by
  simp only [decodeMsg, decodeMembers, asRaw]
  cases lookup wireDecode_ID_name kvs <;> rfl

theorem asWErr_congr (e e' : List (Bytes × JVal)) (h : ∀ k ∈ wireErrorNames, lookup k e = lookup k e') :
    asWErr (some (.obj e)) = asWErr (some (.obj e')) := by
  simp only [asWErr, h _ (.head _), h _ (.tail _ (.head _)), h _ (.tail _ (.tail _ (.head _)))]

/-- `decodeMsg` sees an object only through its six members, and the `error` member only through `asWErr`. -/
theorem decodeMsg_congr (kvs kvs' : List (Bytes × JVal))
    (h : ∀ k ∈ wireNames, k ≠ wireDecode_Error_name → lookup k kvs = lookup k kvs')
    (he : asWErr (lookup wireDecode_Error_name kvs) = asWErr (lookup wireDecode_Error_name kvs')) :
    decodeMsg (.obj kvs) = decodeMsg (.obj kvs') := by
  rw [decodeMsg_obj, decodeMsg_obj, decodeMembers, decodeMembers, he, h _ (.head _) (by decide),
    h _ (.tail _ (.head _)) (by decide), h _ (.tail _ (.tail _ (.head _))) (by decide),
    h _ (.tail _ (.tail _ (.tail _ (.head _)))) (by decide), h _ (.tail _ (.tail _ (.tail _ (.tail _ (.head _))))) (by decide)]

theorem id_echo_exact (id : Id) (h : ∀ n, id = .int n → inInt64 n = true) :
    (match encodeId id with
      | none => Except.ok Id.none
      | some v => decodeID v) = .ok id := by
  cases id with
  | none => rfl
  | int n => simp [encodeId, decodeID, h n rfl]
  | str s => simp [encodeId, decodeID, makeIDFloat]

theorem asWErr_encodeErr (e : WErr) (hc : inInt64 e.code = true) : asWErr (some (encodeErr e)) = .ok (some e) := by
  obtain ⟨kvs, he, h1, h2, h3⟩ := encodeErr_members e
  simp only [he, asWErr, h1, h2, h3]
  simp [asInt64, hc, asString, asRaw]

theorem decode_encode_msg (m : Msg) (h : wfMsg m = true) : decodeMsg (encodeMsg m) = .ok m := by
  cases m with
  | request id method params =>
    simp only [wfMsg, Bool.and_eq_true, decide_eq_true_eq] at h
    obtain ⟨kvs, he, h1, h2, h3, h4, h5, h6⟩ := encode_request_members id method params
    have hid : decodeIdMember (encodeId id) = .ok id := id_echo_exact id (by rintro n rfl; exact h.2)
    simp only [he, decodeMsg_obj, h1, h2, h3, h4, h5, h6, if_neg h.1]
    simp [decodeMembers, hid, asString, asWErr]
  | response id result error =>
    simp only [wfMsg, Bool.and_eq_true] at h
    obtain ⟨kvs, he, h1, h2, h3, h4, h5, h6⟩ := encode_response_members id result error
    have hid : decodeIdMember (encodeId id) = .ok id := id_echo_exact id (by rintro n rfl; exact h.1)
    have herr : asWErr (error.map encodeErr) = .ok error := by
      cases error with
      | none => rfl
      | some e => exact asWErr_encodeErr e h.2
    have hne : id ≠ .none := by rintro rfl; simp at h
    simp only [he, decodeMsg_obj, h1, h2, h3, h4, h5, h6]
    simp [decodeMembers, hid, herr, asString, hne]

theorem asWErr_valid (ev : Option JVal) (he : validErr ev = true) :
    ∃ we : Option WErr, asWErr ev = .ok we ∧
      errOf (we.map encodeErr) WireError_Code_name = errOf ev WireError_Code_name ∧
      errOf (we.map encodeErr) WireError_Message_name = errOf ev WireError_Message_name ∧
      errOf (we.map encodeErr) WireError_Data_name = errOf ev WireError_Data_name := by
  rcases ev with _ | ej
  · exact ⟨none, rfl, rfl, rfl, rfl⟩
  · cases ej <;> try (simp [validErr] at he; done)
    rename_i e
    simp only [validErr, Bool.and_eq_true] at he
    obtain ⟨hc, hmsg⟩ := he
    split at hc <;> try (simp at hc; done)
    split at hmsg <;> try (simp at hmsg; done)
    rename_i code hcode _ msg hm
    obtain ⟨kvs, hk, h1, h2, h3⟩ := encodeErr_members ⟨code, msg, lookup WireError_Data_name e⟩
    refine ⟨some ⟨code, msg, lookup WireError_Data_name e⟩, ?_, ?_, ?_, ?_⟩
    · simp only [asWErr, hcode, hm]
      simp [asInt64, asString, asRaw, hc]
    all_goals simp only [Option.map_some, hk, errOf, h1, h2, h3, hcode, hm]

theorem encode_decode_preserves (w : JVal) (h : validWire w = true) :
    ∃ m, decodeMsg w = .ok m ∧ proj (encodeMsg m) = proj w := by
  cases w with
  | obj kvs =>
    simp only [validWire] at h
    simp only [decodeMsg_obj, proj, errMember]
    generalize lookup wireDecode_VersionTag_name kvs = tag at *
    generalize lookup wireDecode_ID_name kvs = idv at *
    generalize lookup wireDecode_Method_name kvs = mv at *
    generalize lookup wireDecode_Params_name kvs = pv at *
    generalize lookup wireDecode_Result_name kvs = rv at *
    generalize lookup wireDecode_Error_name kvs = ev at *
    simp only [Bool.and_eq_true] at h
    obtain ⟨⟨h1, h2⟩, h3⟩ := h
    -- the id token, decoded and written again
    have hid : ∃ id, decodeIdMember idv = .ok id ∧ encodeId id = idv ∧ (id = .none ↔ idv = none) := by
      rcases idv with _ | ij
      · exact ⟨.none, rfl, rfl, by simp⟩
      · cases ij <;> try (simp at h2; done)
        · rename_i n
          exact ⟨.int n, by simp [decodeIdMember, decodeID, (show inInt64 n = true from h2)], rfl, by simp⟩
        · rename_i s
          exact ⟨.str s, by simp [decodeIdMember, decodeID, makeIDFloat], rfl, by simp⟩
    obtain ⟨id, hdec, henc, hnone⟩ := hid
    rcases tag with _ | t
    · simp at h1
    cases t <;> try (simp at h1; done)
    rename_i v
    simp only [decide_eq_true_eq] at h1
    subst h1
    rcases mv with _ | mj
    · -- response
      simp only [Bool.and_eq_true, Option.isSome_iff_ne_none, Option.isNone_iff_eq_none] at h3
      obtain ⟨⟨hidv, hp⟩, he⟩ := h3
      subst hp
      obtain ⟨we, hw, e1, e2, e3⟩ := asWErr_valid ev he
      obtain ⟨kvs', hk, k1, k2, k3, k4, k5, k6⟩ := encode_response_members id rv we
      refine ⟨.response id rv we, ?_, ?_⟩
      · simp [decodeMembers, asString, hw, hdec, mt hnone.mp hidv]
      · simp only [hk, k1, k2, k3, k4, k5, k6, henc, e1, e2, e3]
    · cases mj <;> try (simp at h3; done)
      rename_i m
      simp only [Bool.and_eq_true, decide_eq_true_eq, Option.isNone_iff_eq_none] at h3
      obtain ⟨⟨hm, hr⟩, he⟩ := h3
      subst hr; subst he
      obtain ⟨kvs', hk, k1, k2, k3, k4, k5, k6⟩ := encode_request_members id m pv
      refine ⟨.request id m pv, ?_, ?_⟩
      · simp [decodeMembers, asString, asWErr, hdec]
      · simp only [hk, k1, k2, k3, k4, k5, k6, henc, if_neg hm, errOf]
  | _ => simp [validWire] at h

theorem id_echo_exact_wire (v : JVal)
    (h : (∃ s, v = .str s) ∨ (∃ n, v = .int n ∧ inInt64 n = true)) :
    (decodeID v).map encodeId = .ok (some v) := by
  rcases h with ⟨s, rfl⟩ | ⟨n, rfl, hn⟩
  · simp [decodeID, makeIDFloat, encodeId, Except.map]
  · simp [decodeID, hn, encodeId, Except.map]

/-- The F1 witnesses on `decodeID`: 2^53+1 and 2^63−1 survive. -/
example : (decodeID (.int 9007199254740993)).map encodeId = .ok (some (.int 9007199254740993)) := by decide
example : (decodeID (.int 9223372036854775807)).map encodeId = .ok (some (.int 9223372036854775807)) := by decide

/-- F1, counter-example on the float path alone (`MakeID` of a `float64`): 2^53+1 ↦ 2^53. -/
theorem f1_counterexample_2p53 : makeIDFloat (.int 9007199254740993) = .ok (.int 9007199254740992) := by decide
/-- F1: 2^63−1 ↦ −2^63 (the float rounds up to 2^63, the conversion overflows). -/
theorem f1_counterexample_maxint64 : makeIDFloat (.int 9223372036854775807) = .ok (.int (-9223372036854775808)) := by decide
/-- Below 2^53 the float path is exact (spot values; the general statement needs float theory, which
`decodeID`'s exact parse makes unnecessary). -/
example : makeIDFloat (.int 9007199254740992) = .ok (.int 9007199254740992) := by decide
example : makeIDFloat (.int (-9007199254740991)) = .ok (.int (-9007199254740991)) := by decide
/-- The fractional/exponent forms take the float path: truncation toward zero. -/
example : decodeID (.dec 15 (-1)) = .ok (.int 1) := by decide
example : decodeID (.dec 1 3) = .ok (.int 1000) := by decide
example : decodeID (.dec 99999999999999999 (-17)) = .ok (.int 1) := by decide

theorem wire_error_wrap (e : GoErr) :
    (∀ w, e = .wire w → toWireError e = w) ∧
    (∀ msg ws, e = .other msg ws →
      (toWireError e).message = msg ∧ (toWireError e).data = none ∧
      (toWireError e).code = (match (GoErr.other msg ws).firstWire with | some w => w.code | none => 0)) := by
  constructor
  · intro w h; subst h; rfl
  · intro msg ws h; subst h
    simp only [toWireError, GoErr.firstWire]
    exact ⟨trivial, trivial, rfl⟩

theorem firstWire_chain (ms : List Bytes) (w : WErr) : (chain ms w).firstWire = some w := by
  induction ms with
  | nil => simp [chain, GoErr.firstWire]
  | cons m ms ih => simp [chain, GoErr.firstWire, firstWireL, ih]

example : toWireError (.other [104, 105] [.other [120] [], .wire ⟨-32602, [112], some .null⟩]) =
    { code := -32602, message := [104, 105], data := none } := by decide

theorem decode_case_sensitive (k : Bytes) (v : JVal) (a b : List (Bytes × JVal)) (h : k ∉ wireNames) :
    decodeMsg (.obj (a ++ (k, v) :: b)) = decodeMsg (.obj (a ++ b)) :=
  decodeMsg_congr _ _ (fun n hn _ => lookup_insert_ne n k v a b fun e => h (e ▸ hn))
    (by rw [lookup_insert_ne _ k v a b fun e => h (e ▸ by decide)])

theorem asWErr_case_sensitive (k : Bytes) (v : JVal) (ea eb : List (Bytes × JVal)) (h : k ∉ wireErrorNames) :
    asWErr (some (.obj (ea ++ (k, v) :: eb))) = asWErr (some (.obj (ea ++ eb))) :=
  asWErr_congr _ _ fun n hn => lookup_insert_ne n k v ea eb fun e => h (e ▸ hn)

theorem decode_error_case_sensitive (k : Bytes) (v : JVal) (ea eb pre post : List (Bytes × JVal))
    (h : k ∉ wireErrorNames) :
    decodeMsg (.obj (pre ++ (wireDecode_Error_name, .obj (ea ++ (k, v) :: eb)) :: post)) =
      decodeMsg (.obj (pre ++ (wireDecode_Error_name, .obj (ea ++ eb)) :: post)) := by
  refine decodeMsg_congr _ _ (fun n _ hn => ?_) ?_
  · rw [lookup_insert_ne n _ _ pre post (Ne.symm hn), lookup_insert_ne n _ _ pre post (Ne.symm hn)]
  · rw [lookup_at, lookup_at]
    cases lookup wireDecode_Error_name post with
    | some w => rfl
    | none => exact asWErr_case_sensitive k v ea eb h

/-- `{"jsonrpc":"2.0","id":7,"error":{"code":-32000,"message":"boom","Code":7,"MESSAGE":"decoy"}}` decodes to
the error -32000 "boom"; with only `Code` / `Message` the error is the zero error. -/
example : decodeMsg (.obj [(wireDecode_VersionTag_name, .str wireVersion), (wireDecode_ID_name, .int 7),
    (wireDecode_Error_name, .obj [(WireError_Code_name, .int (-32000)), (WireError_Message_name, .str [98]),
      ([67, 111, 100, 101], .int 7), ([77, 69, 83, 83, 65, 71, 69], .str [100])])]) =
    .ok (.response (.int 7) none (some ⟨-32000, [98], none⟩)) := by decide

example : ([67, 111, 100, 101] : Bytes) ∉ wireErrorNames ∧ ([77, 69, 83, 83, 65, 71, 69] : Bytes) ∉ wireErrorNames ∧
    ([68, 97, 116, 97] : Bytes) ∉ wireErrorNames := by decide

/-- The case variants are indeed not wire names ("ID", "Id", "Method", "JSONRPC", "Params", …). -/
example : ([73, 68] : Bytes) ∉ wireNames ∧ ([73, 100] : Bytes) ∉ wireNames ∧
    ([77, 101, 116, 104, 111, 100] : Bytes) ∉ wireNames ∧ ([74, 83, 79, 78, 82, 80, 67] : Bytes) ∉ wireNames ∧
    ([80, 97, 114, 97, 109, 115] : Bytes) ∉ wireNames := by decide

/-- … so `{"jsonrpc":"2.0","ID":1,"Method":"m"}` is NOT a request: it has neither method nor id. -/
example : decodeMsg (.obj [(wireDecode_VersionTag_name, .str wireVersion), ([73, 68], .int 1),
    ([77, 101, 116, 104, 111, 100], .str [109])]) = .error .noId := by decide

theorem decode_total (w : JVal) :
    (∃ m, decodeMsg w = .ok m) ∨ (∃ e, decodeMsg w = .error e) := by
  cases h : decodeMsg w with
  | ok m => exact .inl ⟨m, rfl⟩
  | error e => exact .inr ⟨e, rfl⟩

theorem decode_non_object (w : JVal) (h1 : w ≠ .null) (h2 : ∀ kvs, w ≠ .obj kvs) :
    decodeMsg w = .error .unmarshal := by
  cases w <;> simp [decodeMsg] at h1 h2 ⊢

theorem response_needs_id (kvs : List (Bytes × JVal))
    (hv : lookup wireDecode_VersionTag_name kvs = some (.str wireVersion))
    (hm : lookup wireDecode_Method_name kvs = none) (hi : lookup wireDecode_ID_name kvs = none)
    (he : validErr (lookup wireDecode_Error_name kvs) = true) :
    decodeMsg (.obj kvs) = .error .noId := by
  obtain ⟨we, hw, -⟩ := asWErr_valid _ he
  simp only [decodeMsg, hv, hm, hi, hw, asString, asRaw]
  simp

end Wire.L
