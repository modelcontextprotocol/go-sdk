import McpModel.Wire.Frame
/-!
# C19 — framing at byte level: the lines of a byte string and the ndjson round trip

A line ends at LF.  Everything about `splitLines` follows from `splitLines_frame_append` and `splitLines_of_noLF`
(what it makes of lines that were joined) and `splitLines_spec` (that every byte string is such a join).
-/
namespace Wire.L
open Wire Generated.Wire

theorem splitLines_line (l rest : Bytes) (h : LF ∉ l) :
    splitLines (l ++ LF :: rest) = (l :: (splitLines rest).1, (splitLines rest).2) := by
  induction l with
  | nil => simp [splitLines]
  | cons b t ih =>
    have hb : b ≠ LF := fun e => h (by simp [e])
    have ht : LF ∉ t := fun e => h (by simp [e])
    simp [splitLines, ih ht, hb]

theorem splitLines_nil : splitLines [] = ([], []) := rfl

theorem frame_cons (l : Bytes) (ls : List Bytes) : frame (l :: ls) = l ++ LF :: frame ls := by simp [frame]

theorem frame_append (a b : List Bytes) : frame (a ++ b) = frame a ++ frame b := List.flatMap_append

theorem splitLines_of_noLF (bs : Bytes) (h : LF ∉ bs) : splitLines bs = ([], bs) := by
  induction bs with
  | nil => rfl
  | cons b t ih =>
    have hb : b ≠ LF := fun e => h (by simp [e])
    simp [splitLines, ih (fun e => h (by simp [e])), hb]

theorem splitLines_frame_append (ls : List Bytes) (rest : Bytes) (h : ∀ l ∈ ls, LF ∉ l) :
    splitLines (frame ls ++ rest) = (ls ++ (splitLines rest).1, (splitLines rest).2) := by
  induction ls with
  | nil => rfl
  | cons l ls ih =>
    rw [frame_cons, List.append_assoc, List.cons_append, splitLines_line l _ (h l (by simp)),
      ih (fun q hq => h q (by simp [hq]))]
    rfl

theorem splitLines_frame (ls : List Bytes) (h : ∀ l ∈ ls, LF ∉ l) : splitLines (frame ls) = (ls, []) := by
  simpa [splitLines] using splitLines_frame_append ls [] h

/-- `splitLines` is `bufio.Reader.ReadBytes('\n')` run to the end of the input, characterised by what it does to the
BYTES: the lines, each followed by LF, then the unterminated rest, are the input — nothing lost, nothing invented —
and no line, and not the rest, contains an LF.  (With `splitLines_frame_append` and `splitLines_of_noLF`: the only
such decomposition.)  So `scanEvents : Bytes → …` is a statement about byte strings, not about pre-split lines. -/
theorem splitLines_spec (bs : Bytes) :
    frame (splitLines bs).1 ++ (splitLines bs).2 = bs ∧ (∀ l ∈ (splitLines bs).1, LF ∉ l) ∧ LF ∉ (splitLines bs).2 := by
  induction bs with
  | nil => exact ⟨rfl, fun _ h => (nomatch h), List.not_mem_nil⟩
  | cons b t ih =>
    obtain ⟨ih1, ih2, ih3⟩ := ih
    by_cases hb : b = LF
    · subst hb
      refine ⟨?_, ?_, ?_⟩ <;> simp only [splitLines, ite_true]
      · exact congrArg (LF :: ·) ih1
      · exact fun l hl => (List.mem_cons.1 hl).elim (fun e => e ▸ List.not_mem_nil) (ih2 l)
      · exact ih3
    · cases hst : (splitLines t).1 with
      | nil =>
        rw [hst] at ih1
        refine ⟨?_, ?_, ?_⟩ <;> simp only [splitLines, hb, ite_false, hst]
        · exact congrArg (b :: ·) ih1
        · exact fun _ h => nomatch h
        · exact fun hm => (List.mem_cons.1 hm).elim (fun e => hb e.symm) ih3
      | cons l ls' =>
        rw [hst] at ih1 ih2
        refine ⟨?_, ?_, ?_⟩ <;> simp only [splitLines, hb, ite_false, hst]
        · exact congrArg (b :: ·) ih1
        · intro x hx
          rcases List.mem_cons.1 hx with rfl | hx
          · exact fun hm => (List.mem_cons.1 hm).elim (fun e => hb e.symm) (ih2 l (by simp))
          · exact ih2 x (by simp [hx])
        · exact ih3

theorem splitLines_join (bs : Bytes) : frame (splitLines bs).1 ++ (splitLines bs).2 = bs := (splitLines_spec bs).1

theorem splitLines_noLF (bs : Bytes) : (∀ l ∈ (splitLines bs).1, LF ∉ l) ∧ LF ∉ (splitLines bs).2 := (splitLines_spec bs).2

theorem ndjson_roundtrip (ps : List Bytes) (h : ∀ p ∈ ps, p ≠ [] ∧ LF ∉ p) :
    unframe (frame ps) = ps ∧ (splitLines (frame ps)).2 = [] := by
  rw [unframe, splitLines_frame ps fun p hp => (h p hp).2]
  exact ⟨List.filter_eq_self.mpr fun p hp => by simpa using (h p hp).1, rfl⟩

example : unframe (frame [[123, 125], [91, 93]]) = [[123, 125], [91, 93]] := by decide

end Wire.L
