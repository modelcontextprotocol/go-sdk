import McpModel.Wire.Content
import McpModel.Wire.LemmasMsg
/-!
# C19 — how the `wireContent` decoder (`wcFields`, `setScalar`) reads a struct encoding, one member at a time

Each step lemma consumes the first member of the encoding and hands the rest of the list, with the updated
accumulator, to its last hypothesis; a decoding is proved by chaining one step per member.
The steps for `omitempty` members (`step_meta`, `step_ann`, …) ask that the accumulator still holds the zero value
of that member (`h0`): an omitted member leaves the accumulator alone, and only then is the result the accumulator
with the (empty) value set.
-/
namespace Wire
open Generated.Wire

theorem wcFields_cons (k : Bytes) (v : JVal) (t : List (Bytes × JVal)) (s : WCS) (n : Option (List (Option WC))) :
    wcFields ((k, v) :: t) (s, n) =
      if k = wireContent_NestedContent_name then (wcNested v >>= fun n' => wcFields t (s, n'))
      else (setScalar k v s >>= fun s' => wcFields t (s', n)) := by
  simp only [wcFields]

theorem wcFields_nil (acc : WCS × Option (List (Option WC))) : wcFields [] acc = .ok acc := by
  simp [wcFields]

theorem wcOfJson_obj {kvs : List (Bytes × JVal)} {s : WCS} {n : Option (List (Option WC))}
    (h : wcFields kvs ({}, none) = .ok (s, n)) : wcOfJson (.obj kvs) = .ok (some (.mk s n)) := by
  simp only [wcOfJson, h, ok_bind]

section steps
variable {k : Bytes} {fs : List (Bytes × Option JVal)} {s s' : WCS} {n : Option (List (Option WC))}
  {r : Except CErr (WCS × Option (List (Option WC)))}

theorem step_some {v : JVal} (hset : setScalar k v s = .ok s') (rest : wcFields (members fs) (s', n) = r)
    (hk : k ≠ wireContent_NestedContent_name := by decide) : wcFields (members ((k, some v) :: fs)) (s, n) = r := by
  simp only [members_cons, List.cons_append, List.nil_append, wcFields_cons, if_neg hk, hset, ok_bind, rest]

theorem step_opt {ov : Option JVal} (hk : k ≠ wireContent_NestedContent_name)
    (hset : ∀ v, ov = some v → setScalar k v s = .ok s') (h0 : ov = none → s' = s)
    (rest : wcFields (members fs) (s', n) = r) : wcFields (members ((k, ov) :: fs)) (s, n) = r := by
  cases ov with
  | none => simpa only [members_cons, List.nil_append, ← h0 rfl] using rest
  | some v => exact step_some (hset v rfl) rest hk

theorem step_omit {om : Bool} {ov : Option JVal} {d : JVal} (hom : om = true) (hk : k ≠ wireContent_NestedContent_name)
    (hset : ∀ v, ov = some v → setScalar k v s = .ok s') (h0 : ov = none → s' = s)
    (rest : wcFields (members fs) (s', n) = r) : wcFields (members (member k om ov d :: fs)) (s, n) = r := by
  rw [show member k om ov d = (k, ov) from Prod.ext rfl (L.member_omit hom k ov d)]
  exact step_opt hk hset h0 rest

theorem step_str {om : Bool} {x : Bytes} (hset : setScalar k (.str x) s = .ok s')
    (rest : wcFields (members fs) (s', n) = r) (hk : k ≠ wireContent_NestedContent_name := by decide)
    (h0 : x = [] → s' = s := by rintro rfl; rfl) :
    wcFields (members (member k om (optStr x) (.str []) :: fs)) (s, n) = r := by
  refine step_opt hk (fun v hv => ?_) (fun hn => ?_) rest
  · have : v = .str x := by
      simp only [optStr] at hv
      split at hv <;> cases om <;> simp_all
    exact this ▸ hset
  · apply h0
    simp only [optStr] at hn
    split at hn <;> cases om <;> simp_all

end steps

/-! `setScalar` on the values the encoders write: the key is a constant, so the chain of comparisons computes.
The keys are the names of `wireContent`, the struct the decoder fills; the encoders write the names of `textWire`,
`imageAudioWire`, `toolUseWire`, `toolResultWire`.  The two meet by `rfl` where a `set_*` lemma is handed to a step of
LemmasContentRoundtrip.lean: the regenerated constants of the per-kind structs are the same byte lists, and a tag
renamed in one Go struct makes exactly those `rfl`s fail. -/

theorem set_type (x : Bytes) (s : WCS) : setScalar wireContent_Type_name (.str x) s = .ok { s with type := x } := rfl

theorem set_text (x : Bytes) (s : WCS) : setScalar wireContent_Text_name (.str x) s = .ok { s with text := x } := rfl

theorem set_mime (x : Bytes) (s : WCS) : setScalar wireContent_MIMEType_name (.str x) s = .ok { s with mime := x } := rfl

theorem set_uri (x : Bytes) (s : WCS) : setScalar wireContent_URI_name (.str x) s = .ok { s with uri := x } := rfl

theorem set_name (x : Bytes) (s : WCS) : setScalar wireContent_Name_name (.str x) s = .ok { s with name := x } := rfl

theorem set_title (x : Bytes) (s : WCS) : setScalar wireContent_Title_name (.str x) s = .ok { s with title := x } := rfl

theorem set_description (x : Bytes) (s : WCS) :
    setScalar wireContent_Description_name (.str x) s = .ok { s with description := x } := rfl

theorem set_id (x : Bytes) (s : WCS) : setScalar wireContent_ID_name (.str x) s = .ok { s with id := x } := rfl

theorem set_toolUseId (x : Bytes) (s : WCS) :
    setScalar wireContent_ToolUseID_name (.str x) s = .ok { s with toolUseId := x } := rfl

theorem set_data (x : Bytes) (s : WCS) : setScalar wireContent_Data_name (.str x) s = .ok { s with data := x } := rfl

theorem set_resource (kvs : List (Bytes × JVal)) (s : WCS) :
    setScalar wireContent_Resource_name (.obj kvs) s = .ok { s with resource := some (.obj kvs) } := rfl

theorem set_size (n : Int) (s : WCS) (h : inInt64 n = true) :
    setScalar wireContent_Size_name (.int n) s = .ok { s with size := some n } := by
  show (cSize (.int n) >>= fun x => Except.ok { s with size := x }) = _
  simp only [cSize, h, ite_true, ok_bind]

theorem set_meta (m : Meta) (s : WCS) : setScalar wireContent_Meta_name (.obj m) s = .ok { s with mta := m } := rfl

theorem set_ann (kvs : List (Bytes × JVal)) (s : WCS) :
    setScalar wireContent_Annotations_name (.obj kvs) s = .ok { s with ann := some (.obj kvs) } := rfl

theorem set_icons (l : List JVal) (s : WCS) (h : cIconList l = .ok l) :
    setScalar wireContent_Icons_name (.arr l) s = .ok { s with icons := l } := by
  show (cIcons (.arr l) >>= fun x => Except.ok { s with icons := x }) = _
  simp only [cIcons, h, ok_bind]

theorem set_input (m : Meta) (s : WCS) : setScalar wireContent_Input_name (.obj m) s = .ok { s with input := m } := rfl

theorem set_structured (v : JVal) (s : WCS) (h : v ≠ .null) :
    setScalar wireContent_StructuredContent_name v s = .ok { s with structured := some v } := by
  show Except.ok { s with structured := cAny v } = _
  cases v <;> first | rfl | exact absurd rfl h

theorem set_isError (b : Bool) (s : WCS) :
    setScalar wireContent_IsError_name (.bool b) s = .ok { s with isError := b } := rfl

theorem step_input {om : Bool} (hom : om = false) {input : Meta} {fs : List (Bytes × Option JVal)} {s : WCS}
    {n : Option (List (Option WC))} {r : Except CErr (WCS × Option (List (Option WC)))}
    (rest : wcFields (members fs) ({ s with input := input }, n) = r) :
    wcFields (members ((wireContent_Input_name, if input = [] ∧ om then none else some (.obj input)) :: fs)) (s, n) = r := by
  rw [if_neg (by simp [hom])]
  exact step_some (set_input input s) rest

theorem step_content {om : Bool} (hom : om = false) {cs : List Content} {l : List JVal} {ws : List (Option WC)}
    {fs : List (Bytes × Option JVal)} {s : WCS} {n : Option (List (Option WC))}
    {r : Except CErr (WCS × Option (List (Option WC)))} (hl : wcList l = .ok ws)
    (rest : wcFields (members fs) (s, some ws) = r) :
    wcFields (members ((wireContent_NestedContent_name, if cs = [] ∧ om then none else some (.arr l)) :: fs)) (s, n) = r := by
  rw [if_neg (by simp [hom])]
  simp only [members_cons, List.cons_append, List.nil_append, wcFields_cons, ite_true, wcNested, hl, ok_bind, rest]

theorem cIconList_of_allObj (l : List JVal) (h : cAllObj l = true) : cIconList l = .ok l := by
  induction l with
  | nil => rfl
  | cons v t ih =>
    cases v <;> simp [cAllObj] at h
    simp [cIconList, ih h, Except.map]

section omitted
variable {om : Bool} {d : JVal} {fs : List (Bytes × Option JVal)} {s : WCS} {n : Option (List (Option WC))}
  {r : Except CErr (WCS × Option (List (Option WC)))} (hom : om = true)
include hom

theorem step_meta (m : Meta) (h0 : s.mta = []) (rest : wcFields (members fs) ({ s with mta := m }, n) = r) :
    wcFields (members (member wireContent_Meta_name om (optObj m) d :: fs)) (s, n) = r := by
  refine step_omit hom (by decide) (fun v hv => ?_) (fun hn => ?_) rest
  · unfold optObj at hv; split at hv <;> cases hv; exact set_meta m s
  · unfold optObj at hn; split at hn <;> cases hn; rename_i h; rw [h, ← h0]

theorem step_ann (a : Option JVal) (ha : isObjOpt a = true) (h0 : s.ann = none)
    (rest : wcFields (members fs) ({ s with ann := a }, n) = r) :
    wcFields (members (member wireContent_Annotations_name om a d :: fs)) (s, n) = r := by
  refine step_omit hom (by decide) (fun v hv => ?_) (fun hn => ?_) rest
  · subst hv; cases v <;> simp [isObjOpt] at ha; exact set_ann _ s
  · subst hn; rw [← h0]

theorem step_resource (a : Option JVal) (ha : isObjOpt a = true) (h0 : s.resource = none)
    (rest : wcFields (members fs) ({ s with resource := a }, n) = r) :
    wcFields (members (member wireContent_Resource_name om a d :: fs)) (s, n) = r := by
  refine step_omit hom (by decide) (fun v hv => ?_) (fun hn => ?_) rest
  · subst hv; cases v <;> simp [isObjOpt] at ha; exact set_resource _ s
  · subst hn; rw [← h0]

theorem step_size (sz : Option Int) (hs : ∀ i, sz = some i → inInt64 i = true) (h0 : s.size = none)
    (rest : wcFields (members fs) ({ s with size := sz }, n) = r) :
    wcFields (members (member wireContent_Size_name om (sz.map .int) d :: fs)) (s, n) = r := by
  refine step_omit hom (by decide) (fun v hv => ?_) (fun hn => ?_) rest
  · obtain ⟨i, rfl, rfl⟩ := Option.map_eq_some_iff.mp hv; exact set_size i s (hs i rfl)
  · rw [Option.map_eq_none_iff.mp hn, ← h0]

theorem step_icons (ic : List JVal) (hi : cAllObj ic = true) (h0 : s.icons = [])
    (rest : wcFields (members fs) ({ s with icons := ic }, n) = r) :
    wcFields (members (member wireContent_Icons_name om (optArr ic) d :: fs)) (s, n) = r := by
  refine step_omit hom (by decide) (fun v hv => ?_) (fun hn => ?_) rest
  · unfold optArr at hv; split at hv <;> cases hv; exact set_icons ic s (cIconList_of_allObj ic hi)
  · unfold optArr at hn; split at hn <;> cases hn; rename_i h; rw [h, ← h0]

theorem step_structured (st : Option JVal) (hst : st ≠ some .null) (h0 : s.structured = none)
    (rest : wcFields (members fs) ({ s with structured := st }, n) = r) :
    wcFields (members (member wireContent_StructuredContent_name om st d :: fs)) (s, n) = r := by
  refine step_omit hom (by decide) (fun v hv => ?_) (fun hn => ?_) rest
  · subst hv; exact set_structured v s (fun h => hst (h ▸ rfl))
  · subst hn; rw [← h0]

theorem step_isError (b : Bool) (h0 : s.isError = false)
    (rest : wcFields (members fs) ({ s with isError := b }, n) = r) :
    wcFields (members (member wireContent_IsError_name om (optBool b) d :: fs)) (s, n) = r := by
  refine step_omit hom (by decide) (fun v hv => ?_) (fun hn => ?_) rest
  · cases b <;> simp [optBool] at hv; subst hv; exact set_isError true s
  · cases b <;> simp [optBool] at hn; rw [← h0]

end omitted

/-! `hasArr` and `reqMembers` of Content.lean by `lookup` and by membership -/

namespace L

theorem hasArrLater_eq (kvs : List (Bytes × JVal)) :
    hasArrLater kvs = (lookup wireContent_NestedContent_name kvs).isSome := by
  induction kvs with
  | nil => rfl
  | cons p t ih =>
    obtain ⟨k, v⟩ := p
    simp only [hasArrLater, ih, lookup]
    cases lookup wireContent_NestedContent_name t <;> by_cases hk : k = wireContent_NestedContent_name <;>
      simp [-wireContent_NestedContent_name, hk]

theorem hasArr_eq (kvs : List (Bytes × JVal)) :
    hasArr kvs = match lookup wireContent_NestedContent_name kvs with | some v => isArr v | none => false := by
  induction kvs with
  | nil => rfl
  | cons p t ih =>
    obtain ⟨k, v⟩ := p
    simp only [hasArr, hasArrLater_eq, ih, lookup]
    cases lookup wireContent_NestedContent_name t <;> by_cases hk : k = wireContent_NestedContent_name <;>
      simp [-wireContent_NestedContent_name, hk]

theorem reqMembers_iff (kvs : List (Bytes × JVal)) :
    reqMembers kvs = true ↔ ∀ v, (wireContent_NestedContent_name, v) ∈ kvs → reqArr v = true := by
  induction kvs with
  | nil => simp [reqMembers]
  | cons p t ih =>
    obtain ⟨k, v⟩ := p
    simp only [reqMembers, Bool.and_eq_true, ih, List.mem_cons, Prod.mk.injEq]
    constructor
    · rintro ⟨h1, h2⟩ w (⟨rfl, rfl⟩ | hw)
      · simpa using h1
      · exact h2 w hw
    · intro h
      refine ⟨?_, fun w hw => h w (.inr hw)⟩
      split
      · rename_i hk; exact h v (.inl ⟨hk.symm, rfl⟩)
      · rfl

end L

end Wire
