import McpModel.Base.Logic
import McpModel.Wire.LemmasFrame
import McpModel.Wire.Sse
/-!
# C19 — SSE framing as a foreign peer writes it: LF / CRLF line ends, comments, fields in any order,
multi-line data (`Wire.renderStream`, `Wire.FEvent.denote`); the SDK's own `writeEvent` is one such writer

Line ends as `mcp/event.go` treats them: a line ends at LF; CR and LF bytes at the END of a line are dropped
(`bytes.TrimRight(line, "\r\n")`: CRLF, and any run of CRs before the LF); a bare CR inside a line is NOT a line end.
-/
namespace Wire.L
open Wire Generated.Wire

theorem stripOne_none_head (seqs : List Bytes) (b : UInt8) (t : Bytes) (h : stripOne seqs (b :: t) = none) :
    isAsciiSpace b = false := by
  unfold stripOne at h
  by_cases hb : isAsciiSpace b = true
  · simp [hb] at h
  · simpa using hb

theorem stripOne_length (seqs : List Bytes) (hs : ∀ q ∈ seqs, q ≠ []) (bs t : Bytes)
    (h : stripOne seqs bs = some t) : t.length < bs.length := by
  cases bs with
  | nil => simp [stripOne] at h
  | cons b r =>
    unfold stripOne at h
    by_cases hb : isAsciiSpace b = true
    · simp [hb] at h; subst h; simp
    · simp only [hb, Bool.false_eq_true, ite_false, Option.map_eq_some_iff] at h
      obtain ⟨q, hq, rfl⟩ := h
      have hmem := List.mem_of_find?_eq_some hq
      have hne := hs q hmem
      have : 0 < q.length := List.length_pos_iff.mpr hne
      simp only [List.length_drop, List.length_cons]
      omega

theorem trimLeftAux_fix (seqs : List Bytes) (hs : ∀ q ∈ seqs, q ≠ []) :
    ∀ (n : Nat) (bs : Bytes), bs.length ≤ n → stripOne seqs (trimLeftAux seqs n bs) = none := by
  intro n
  induction n with
  | zero =>
    intro bs h
    have : bs = [] := List.length_eq_zero_iff.mp (Nat.le_zero.mp h)
    subst this; rfl
  | succ n ih =>
    intro bs h
    simp only [trimLeftAux]
    cases hso : stripOne seqs bs with
    | none => simpa using hso
    | some t =>
      have := stripOne_length seqs hs bs t hso
      exact ih t (by omega)

theorem trimLeftAux_of_none (seqs : List Bytes) (n : Nat) (bs : Bytes) (h : stripOne seqs bs = none) :
    trimLeftAux seqs n bs = bs := by
  cases n with
  | zero => rfl
  | succ n => simp [trimLeftAux, h]

theorem trimLeft_pad (pad v : Bytes) (hp : ∀ b ∈ pad, b = 32 ∨ b = 9) : trimLeft (pad ++ v) = trimLeft v := by
  induction pad with
  | nil => rfl
  | cons b t ih =>
    have hb : isAsciiSpace b = true := by
      rcases hp b (by simp) with h | h <;> subst h <;> decide
    have : stripOne spaceSeqs (b :: (t ++ v)) = some (t ++ v) := by simp [stripOne, hb]
    unfold trimLeft at ih ⊢
    simp only [List.cons_append, List.length_cons, trimLeftAux, this]
    exact ih (fun x hx => hp x (by simp [hx]))

theorem trim_pad (pad v : Bytes) (hp : ∀ b ∈ pad, b = 32 ∨ b = 9) (hv : trim v = v) : trim (pad ++ v) = v := by
  unfold trim at hv ⊢
  rw [trimLeft_pad pad v hp, hv]

theorem spaceSeqs_rev_ne : ∀ q ∈ spaceSeqs.map List.reverse, q ≠ [] := by decide

theorem trim_last (v : Bytes) (hv : trim v = v) (b : UInt8) (hb : v.getLast? = some b) : isAsciiSpace b = false := by
  have h1 : stripOne (spaceSeqs.map List.reverse) v.reverse = none := by
    have := trimLeftAux_fix (spaceSeqs.map List.reverse) spaceSeqs_rev_ne (trimLeft v).length (trimLeft v).reverse (by simp)
    rwa [show trimLeftAux (spaceSeqs.map List.reverse) (trimLeft v).length (trimLeft v).reverse = v.reverse from
      List.reverse_eq_iff.mp hv] at this
  rw [List.getLast?_eq_head?_reverse] at hb
  cases hr : v.reverse with
  | nil => rw [hr] at hb; cases hb
  | cons b' t =>
    rw [hr] at hb h1
    cases hb
    exact stripOne_none_head _ b t h1

theorem cutColon_key (k v : Bytes) (hk : COLON ∉ k) : cutColon (k ++ COLON :: v) = some (k, v) := by
  induction k with
  | nil => simp [cutColon]
  | cons b bs ih =>
    have hb : b ≠ COLON := fun e => hk (by simp [e])
    have := ih (fun h => hk (List.mem_cons_of_mem _ h))
    simp [cutColon, hb, this]

theorem stepLine_blank (a : Scan) (hm : a.malformed = false) : stepLine a [] = yieldEvent a := by
  simp [stepLine, hm, trimRightCRLF]

theorem sseKeys_distinct : sse_idKey ≠ sse_eventKey ∧ sse_retryKey ≠ sse_eventKey ∧ sse_retryKey ≠ sse_idKey ∧
    sse_dataKey ≠ sse_eventKey ∧ sse_dataKey ≠ sse_idKey ∧ sse_dataKey ≠ sse_retryKey := by decide

theorem noLF_cr (l : Bytes) (e : Eol) (h : LF ∉ l) : LF ∉ l ++ e.cr := by
  intro hm
  rcases List.mem_append.mp hm with x | x
  · exact h x
  · cases e with
    | lf => simp [Eol.cr] at x
    | crlf =>
      simp only [Eol.cr, List.mem_cons, List.not_mem_nil, or_false] at x
      exact absurd x.symm (by decide)

theorem line_eol (l : Bytes) (e : Eol) (t : Bytes) : l ++ (e.bytes ++ t) = (l ++ e.cr) ++ LF :: t := by
  cases e <;> simp [Eol.bytes, Eol.cr]

theorem renderLines_eq_frame (ls : List (Bytes × Eol)) : renderLines ls = frame (ls.map fun p => p.1 ++ p.2.cr) := by
  induction ls with
  | nil => rfl
  | cons p t ih => rw [List.map_cons, frame_cons, ← ih]; exact line_eol p.1 p.2 _

theorem renderLines_append (a b : List (Bytes × Eol)) : renderLines (a ++ b) = renderLines a ++ renderLines b := by
  rw [renderLines_eq_frame, renderLines_eq_frame, renderLines_eq_frame, List.map_append, frame_append]

theorem splitLines_render (ls : List (Bytes × Eol)) (rest : Bytes) (h : ∀ p ∈ ls, LF ∉ p.1) :
    splitLines (renderLines ls ++ rest) =
      (ls.map (fun p => p.1 ++ p.2.cr) ++ (splitLines rest).1, (splitLines rest).2) := by
  rw [renderLines_eq_frame]
  exact splitLines_frame_append _ rest fun l hl => by
    obtain ⟨p, hp, rfl⟩ := List.mem_map.1 hl
    exact noLF_cr p.1 p.2 (h p hp)

theorem trimRightCRLF_eolcr (raw : Bytes) (e : Eol) : trimRightCRLF (raw ++ e.cr) = trimRightCRLF raw := by
  cases e with
  | lf => simp [Eol.cr]
  | crlf => simp [Eol.cr, trimRightCRLF]

theorem stepLine_eolcr (a : Scan) (raw : Bytes) (e : Eol) : stepLine a (raw ++ e.cr) = stepLine a raw := by
  simp only [stepLine, trimRightCRLF_eolcr]

theorem foldl_stepLine_eolcr (ls : List (Bytes × Eol)) (a : Scan) :
    (ls.map (fun p => p.1 ++ p.2.cr)).foldl stepLine a = (ls.map (·.1)).foldl stepLine a := by
  induction ls generalizing a with
  | nil => rfl
  | cons p ls ih => simp only [List.map_cons, List.foldl_cons, stepLine_eolcr, ih]

theorem sse_eol_irrelevant (ls : List (Bytes × Eol)) (rest : Bytes) (h : ∀ p ∈ ls, LF ∉ p.1) :
    scanEvents (renderLines ls ++ rest) = scanEvents (frame (ls.map (·.1)) ++ rest) := by
  unfold scanEvents
  rw [splitLines_render ls rest h, splitLines_frame_append _ rest (List.forall_mem_map.2 h)]
  simp only [List.foldl_append, foldl_stepLine_eolcr]

theorem dropWhile_stop {α} (p : α → Bool) (l1 : List α) (c : α) (l2 : List α) (hc : p c = false) :
    (l1 ++ c :: l2).dropWhile p = l1.dropWhile p ++ c :: l2 := by
  induction l1 with
  | nil => simp [List.dropWhile, hc]
  | cons b t ih =>
    by_cases hb : p b = true
    · simp [List.dropWhile, hb, ih]
    · simp [List.dropWhile, hb]

theorem colon_not_crlf : (decide (COLON = CR) || decide (COLON = LF)) = false := by decide

theorem trimRightCRLF_colon (k rest : Bytes) :
    trimRightCRLF (k ++ COLON :: rest) = k ++ COLON :: trimRightCRLF rest := by
  unfold trimRightCRLF
  have : (k ++ COLON :: rest).reverse = rest.reverse ++ COLON :: k.reverse := by simp
  rw [this, dropWhile_stop (fun b => decide (b = CR) || decide (b = LF)) rest.reverse COLON k.reverse colon_not_crlf]
  simp

theorem trimRightCRLF_of_last (bs : Bytes) (h : ∀ b, bs.getLast? = some b → b ≠ CR ∧ b ≠ LF) : trimRightCRLF bs = bs := by
  unfold trimRightCRLF
  cases hr : bs.reverse with
  | nil => rw [List.reverse_eq_nil_iff.mp hr]; rfl
  | cons b t =>
    have := h b (by rw [List.getLast?_eq_head?_reverse, hr]; rfl)
    rw [List.dropWhile_cons_of_neg (by simp [this.1, this.2]), ← hr, List.reverse_reverse]

theorem trim_crlf_pad (pad v : Bytes) (hp : ∀ b ∈ pad, b = 32 ∨ b = 9) (hv : trim v = v) :
    trim (trimRightCRLF (pad ++ v)) = v := by
  rw [trimRightCRLF_of_last, trim_pad pad v hp hv]
  intro b hb
  rw [List.getLast?_append] at hb
  cases hl : v.getLast? with
  | some b' =>
    rw [hl] at hb; cases hb
    have := trim_last v hv b hl
    constructor <;> rintro rfl <;> cases this
  | none =>
    rw [hl] at hb
    rcases hp b (List.mem_of_getLast? hb) with rfl | rfl <;> decide

theorem applyField_unknown (a : Scan) (k v : Bytes) (h : k ∉ sseKeys) : applyField a k v = a := by
  simp only [sseKeys, List.mem_cons, List.not_mem_nil, or_false, not_or] at h
  simp [applyField, h.1, h.2.1, h.2.2.1, h.2.2.2]

/-- The field-wise effect of one line on the event being collected: a known field is stored with
its value, anything else (comment, unknown field) is skipped. -/
def lineEffect (a : Scan) (l : FLine) : Scan := if l.key ∈ sseKeys then applyField a l.key l.val else a

theorem wfFLine_spec (l : FLine) (h : wfFLine l = true) : WfFLine l := by
  simp only [wfFLine, Bool.and_eq_true, Bool.not_eq_true', Bool.or_eq_true, List.all_eq_true,
    decide_eq_true_eq] at h
  obtain ⟨⟨h1, h2⟩, h3⟩ := h
  refine ⟨?_, ?_, ?_⟩
  · intro hm; simp [hm] at h1
  · intro hm; simp [hm] at h2
  · intro hk
    rcases h3 with h3 | h3
    · simp [hk] at h3
    · exact ⟨fun b hb => by simpa using h3.1 b hb, h3.2⟩

theorem stepLine_fline (a : Scan) (l : FLine) (h : WfFLine l) (hm : a.malformed = false) :
    stepLine a l.text = lineEffect a l := by
  have hne : l.key ++ COLON :: trimRightCRLF (l.pad ++ l.val) ≠ [] := by simp
  simp only [stepLine, hm, Bool.false_eq_true, ite_false, FLine.text, trimRightCRLF_colon, hne, procLine,
    cutColon_key _ _ h.nocolon, lineEffect]
  by_cases hk : l.key ∈ sseKeys
  · obtain ⟨hp, hv⟩ := h.known hk
    simp only [hk, ite_true, trim_crlf_pad l.pad l.val hp hv]
  · simp only [hk, ite_false, applyField_unknown a l.key _ hk]

theorem lineEffect_malformed (a : Scan) (l : FLine) : (lineEffect a l).malformed = a.malformed := by
  simp only [lineEffect, applyField, apply_ite Scan.malformed, ite_self]

theorem lineEffect_out (a : Scan) (l : FLine) : (lineEffect a l).out = a.out := by
  simp only [lineEffect, applyField, apply_ite Scan.out, ite_self]

theorem foldl_fields (ls : List FLine) (a : Scan) (hm : a.malformed = false) (h : ∀ l ∈ ls, WfFLine l) :
    (ls.map FLine.text).foldl stepLine a = ls.foldl lineEffect a ∧
      (ls.foldl lineEffect a).out = a.out ∧ (ls.foldl lineEffect a).malformed = false := by
  induction ls generalizing a with
  | nil => exact ⟨rfl, rfl, hm⟩
  | cons l ls ih =>
    have := ih (lineEffect a l) ((lineEffect_malformed a l).trans hm) fun x hx => h x (by simp [hx])
    rw [lineEffect_out] at this
    simpa only [List.map_cons, List.foldl_cons, stepLine_fline a l (h l (by simp)) hm] using this

theorem sseKeys_mem : sse_eventKey ∈ sseKeys ∧ sse_idKey ∈ sseKeys ∧ sse_retryKey ∈ sseKeys ∧ sse_dataKey ∈ sseKeys := by
  decide

def dataVals (ls : List FLine) : List Bytes := (ls.filter (fun l => l.key = sse_dataKey)).map (·.val)

def dataBufOf (ls : List FLine) : Option Bytes := if dataVals ls = [] then none else some (joinLF (dataVals ls))

theorem lastField_snoc (k : Bytes) (ls : List FLine) (l : FLine) :
    lastField k (ls ++ [l]) = if l.key = k then l.val else lastField k ls := by
  unfold lastField
  by_cases h : l.key = k <;> simp [List.filter_append, h]

theorem dataVals_snoc (ls : List FLine) (l : FLine) :
    dataVals (ls ++ [l]) = if l.key = sse_dataKey then dataVals ls ++ [l.val] else dataVals ls := by
  unfold dataVals
  by_cases h : l.key = sse_dataKey <;> simp [List.filter_append, h]

theorem joinLF_snoc (vs : List Bytes) (v : Bytes) : joinLF (vs ++ [v]) = if vs = [] then v else joinLF vs ++ LF :: v := by
  cases vs with
  | nil => rfl
  | cons a t => simp [joinLF, List.foldl_append]

theorem foldl_lineEffect (ls : List FLine) (out : List Event) :
    ls.foldl lineEffect ⟨{}, none, out, false⟩ =
      ⟨{ name := lastField sse_eventKey ls, id := lastField sse_idKey ls, retry := lastField sse_retryKey ls },
        dataBufOf ls, out, false⟩ := by
  obtain ⟨k1, k2, k3, k4, k5, k6⟩ := sseKeys_distinct
  obtain ⟨m1, m2, m3, m4⟩ := sseKeys_mem
  induction ls using List.snoc_induction with
  | nil => rfl
  | snoc ls l ih =>
    rw [List.foldl_append, ih, List.foldl_cons, List.foldl_nil, lineEffect]
    simp only [lastField_snoc, dataBufOf, dataVals_snoc]
    by_cases h1 : l.key = sse_eventKey
    · simp [h1, m1, applyField, Ne.symm k1, Ne.symm k2, Ne.symm k4]
    by_cases h2 : l.key = sse_idKey
    · simp [h2, m2, applyField, k1, Ne.symm k3, Ne.symm k5]
    by_cases h3 : l.key = sse_retryKey
    · simp [h3, m3, applyField, k2, k3, Ne.symm k6]
    by_cases h4 : l.key = sse_dataKey
    · simp only [h4, m4, applyField, k4, k5, k6, ite_true, ite_false, joinLF_snoc]
      by_cases hv : dataVals ls = [] <;> simp [hv]
    · have hk : l.key ∉ sseKeys := by simp [sseKeys, h1, h2, h3, h4]
      simp [hk, h1, h2, h3, h4]

theorem Event.eq_empty_of_isEmpty {e : Event} (h : e.isEmpty = true) : e = {} := by
  obtain ⟨n, i, r, d⟩ := e
  simp only [Event.isEmpty, Bool.and_eq_true, decide_eq_true_eq] at h
  obtain ⟨⟨⟨rfl, rfl⟩, rfl⟩, rfl⟩ := h
  rfl

theorem yieldEvent_eq (evt : Event) (buf : Option Bytes) (out : List Event) :
    yieldEvent ⟨evt, buf, out, false⟩ =
      if ({ evt with data := buf.getD evt.data } : Event).isEmpty then ⟨{ evt with data := buf.getD evt.data }, none, out, false⟩
      else ⟨{}, none, out ++ [{ evt with data := buf.getD evt.data }], false⟩ := by
  cases buf <;> rfl

theorem denote_eq (e : FEvent) : e.denote =
    { name := lastField sse_eventKey e.lines, id := lastField sse_idKey e.lines, retry := lastField sse_retryKey e.lines,
      data := (dataBufOf e.lines).getD [] } := by
  unfold FEvent.denote dataBufOf dataVals
  split
  · rename_i h; rw [h]; rfl
  · rfl

theorem scan_fevent (e : FEvent) (out : List Event) (h : ∀ l ∈ e.lines, WfFLine l) :
    (e.render.map (·.1)).foldl stepLine ⟨{}, none, out, false⟩ =
      ⟨{}, none, out ++ (if e.denote.isEmpty then [] else [e.denote]), false⟩ := by
  simp only [FEvent.render, List.map_append, List.map_map, Function.comp_def, List.map_cons, List.map_nil,
    List.foldl_append, List.foldl_cons, List.foldl_nil]
  rw [show (List.map (fun l => l.text) e.lines) = List.map FLine.text e.lines from rfl, (foldl_fields e.lines _ rfl h).1,
    foldl_lineEffect, stepLine_blank _ rfl, yieldEvent_eq, ← denote_eq]
  split
  · rename_i he
    rw [Event.eq_empty_of_isEmpty he, List.append_nil]
  · rfl

theorem scan_fevents (es : List FEvent) (out : List Event) (h : ∀ e ∈ es, ∀ l ∈ e.lines, WfFLine l) :
    ((es.flatMap FEvent.render).map (·.1)).foldl stepLine ⟨{}, none, out, false⟩ =
      ⟨{}, none, out ++ (es.map FEvent.denote).filter (fun e => !e.isEmpty), false⟩ := by
  induction es generalizing out with
  | nil => simp
  | cons e es ih =>
    simp only [List.flatMap_cons, List.map_append, List.foldl_append]
    rw [scan_fevent e out (h e (by simp)), ih _ (fun x hx => h x (by simp [hx]))]
    by_cases he : e.denote.isEmpty = true <;> simp [he]

theorem render_noLF (es : List FEvent) (h : ∀ e ∈ es, ∀ l ∈ e.lines, WfFLine l) :
    ∀ p ∈ es.flatMap FEvent.render, LF ∉ p.1 := by
  intro p hp
  obtain ⟨e, he, hpe⟩ := List.mem_flatMap.mp hp
  simp only [FEvent.render, List.mem_append, List.mem_map, List.mem_cons, List.not_mem_nil, or_false] at hpe
  rcases hpe with ⟨l, hl, rfl⟩ | rfl
  · exact (h e he l hl).nolf
  · simp

def scanLines (bs : Bytes) : Scan := (splitLines bs).1.foldl stepLine {}

theorem scanEvents_eq (bs : Bytes) :
    scanEvents bs = (let a := finishLine (scanLines bs) (splitLines bs).2; (a.out, a.malformed)) := rfl

/-- **the scanner on an unfinished stream**: complete events, then some complete field lines of the event being
written, then the beginning of a line (no LF yet): the complete events have been dispatched, nothing else, no line
was malformed, and the beginning of the line is still unread -/
theorem scanLines_unfinished (es : List FEvent) (ls : List FLine) (rest : Bytes)
    (h : ∀ e ∈ es, ∀ l ∈ e.lines, WfFLine l) (hls : ∀ l ∈ ls, WfFLine l) (hr : LF ∉ rest) :
    scanLines (renderStream es ++ renderLines (ls.map (fun l => (l.text, l.eol))) ++ rest) =
        ls.foldl lineEffect ⟨{}, none, (es.map FEvent.denote).filter (fun e => !e.isEmpty), false⟩ ∧
      (splitLines (renderStream es ++ renderLines (ls.map (fun l => (l.text, l.eol))) ++ rest)).2 = rest := by
  have hl : ∀ p ∈ es.flatMap FEvent.render ++ ls.map (fun l => (l.text, l.eol)), LF ∉ p.1 := by
    intro p hp
    rcases List.mem_append.mp hp with hp | hp
    · exact render_noLF es h p hp
    · obtain ⟨l, hl, rfl⟩ := List.mem_map.mp hp
      exact (hls l hl).nolf
  unfold scanLines renderStream
  rw [← renderLines_append, splitLines_render _ rest hl, splitLines_of_noLF rest hr]
  refine ⟨?_, rfl⟩
  simp only [List.append_nil, foldl_stepLine_eolcr, List.map_append, List.foldl_append]
  rw [scan_fevents es [] h, List.map_map]
  exact (foldl_fields ls _ rfl hls).1

theorem sse_roundtrip_any_eol (es : List FEvent) (h : ∀ e ∈ es, ∀ l ∈ e.lines, WfFLine l) :
    scanEvents (renderStream es) = ((es.map FEvent.denote).filter (fun e => !e.isEmpty), false) := by
  have := scanLines_unfinished es [] [] h (fun _ hl => nomatch hl) List.not_mem_nil
  simp only [List.map_nil, renderLines, List.append_nil, List.foldl_nil] at this
  rw [scanEvents_eq, this.1, this.2]
  rfl

/-! ## `writeEvent` is one such writer -/

/-- a field as `writeEvent` writes it: the prefix `pre` is `key ":" pad` -/
def wline (pre key v : Bytes) : FLine := ⟨key, pre.drop (key.length + 1), v, .lf⟩

/-- a field that `writeEvent` writes only when it is not empty -/
def optLine (pre key v : Bytes) : List FLine := if v = [] then [] else [wline pre key v]

/-- The event as `writeEvent` frames it: a line for each non-empty field and for `data`, LF line ends. -/
def sdkEvent (e : Event) : FEvent :=
  ⟨optLine sse_writeName sse_eventKey e.name ++ (optLine sse_writeID sse_idKey e.id ++
    (optLine sse_writeRetry sse_retryKey e.retry ++ [wline sse_writeData sse_dataKey e.data])), .lf⟩

/-- what is checked of a regenerated write prefix `pre` for the field `key`: it is `key ":" pad`, the key has no colon,
the prefix no LF, the pad is blanks -/
structure WPre (pre key : Bytes) : Prop where
  split : key ++ COLON :: pre.drop (key.length + 1) = pre
  nocolon : COLON ∉ key
  nolf : LF ∉ pre
  pad : ∀ b ∈ pre.drop (key.length + 1), b = 32 ∨ b = 9

theorem wpre_name : WPre sse_writeName sse_eventKey := ⟨by decide, by decide, by decide, by decide⟩
theorem wpre_id : WPre sse_writeID sse_idKey := ⟨by decide, by decide, by decide, by decide⟩
theorem wpre_retry : WPre sse_writeRetry sse_retryKey := ⟨by decide, by decide, by decide, by decide⟩
theorem wpre_data : WPre sse_writeData sse_dataKey := ⟨by decide, by decide, by decide, by decide⟩

theorem wline_text {pre key : Bytes} (h : WPre pre key) (v : Bytes) : (wline pre key v).text = pre ++ v := by
  simpa [wline, FLine.text] using congrArg (· ++ v) h.split

theorem render_optLine {pre key : Bytes} (h : WPre pre key) (v : Bytes) :
    renderLines ((optLine pre key v).map fun l => (l.text, l.eol)) = if v = [] then [] else pre ++ v ++ [LF] := by
  unfold optLine
  split
  · rfl
  · simp [renderLines, wline_text h v, show (wline pre key v).eol = .lf from rfl, Eol.bytes]

theorem writeEvent_eq (e : Event) : writeEvent e = renderLines (sdkEvent e).render := by
  rw [sdkEvent, FEvent.render]
  simp only [List.map_append, renderLines_append, render_optLine wpre_name, render_optLine wpre_id, render_optLine wpre_retry]
  simp [writeEvent, renderLines, wline_text wpre_data, Eol.bytes, show ∀ p k v, (wline p k v).eol = .lf from fun _ _ _ => rfl]

theorem renderStream_sdk (es : List Event) : renderStream (es.map sdkEvent) = es.flatMap writeEvent := by
  induction es with
  | nil => rfl
  | cons e es ih =>
    simp only [renderStream, List.map_cons, List.flatMap_cons, renderLines_append] at ih ⊢
    rw [ih, writeEvent_eq]

theorem wline_wf {pre key v : Bytes} (h : WPre pre key) (hv : Clean v) : WfFLine (wline pre key v) := by
  refine ⟨h.nocolon, ?_, fun _ => ⟨h.pad, hv.1⟩⟩
  rw [wline_text h v]
  exact fun hm => (List.mem_append.mp hm).elim h.nolf hv.2

theorem sdkEvent_wf (e : Event) (h : CleanEvent e) : ∀ l ∈ (sdkEvent e).lines, WfFLine l := by
  intro l hl
  simp only [sdkEvent, optLine, List.mem_append, List.mem_ite_nil_left, List.mem_singleton] at hl
  rcases hl with ⟨_, rfl⟩ | ⟨_, rfl⟩ | ⟨_, rfl⟩ | rfl
  · exact wline_wf wpre_name h.name
  · exact wline_wf wpre_id h.id
  · exact wline_wf wpre_retry h.retry
  · exact wline_wf wpre_data h.data

theorem sdkEvent_denote (e : Event) : (sdkEvent e).denote = e := by
  obtain ⟨n, i, r, d⟩ := e
  by_cases h1 : n = [] <;> by_cases h2 : i = [] <;> by_cases h3 : r = [] <;>
    simp +decide [sdkEvent, optLine, FEvent.denote, lastField, wline, joinLF, h1, h2, h3]

theorem sse_roundtrip (es : List Event) (h : ∀ e ∈ es, CleanEvent e) :
    scanEvents (es.flatMap writeEvent) = (es, false) := by
  have := sse_roundtrip_any_eol (es.map sdkEvent) (by
    intro fe hfe
    obtain ⟨e, he, rfl⟩ := List.mem_map.mp hfe
    exact sdkEvent_wf e (h e he))
  have hd : es.map (FEvent.denote ∘ sdkEvent) = es :=
    (List.map_congr_left fun e _ => sdkEvent_denote e).trans (List.map_id' es)
  rw [renderStream_sdk, List.map_map, hd, List.filter_eq_self.mpr fun e he => by simp [(h e he).nonempty]] at this
  exact this

/-- Non-vacuity: a JSON-RPC message event with a name and an id. -/
example : CleanEvent { name := [109], id := [49], data := [123, 125] } :=
  ⟨⟨by decide, by decide⟩, ⟨by decide, by decide⟩, ⟨by decide, by decide⟩, ⟨by decide, by decide⟩, by decide⟩
example : scanEvents (writeEvent { name := [109], id := [49], data := [123, 125] } ++ writeEvent { data := [49] }) =
    ([{ name := [109], id := [49], data := [123, 125] }, { data := [49] }], false) := by decide +kernel
/-- … and what the hypothesis excludes really breaks: a payload with a raw LF is not scanned back. -/
example : scanEvents (writeEvent { data := [97, 10, 98] }) ≠ ([{ data := [97, 10, 98] }], false) := by decide +kernel

end Wire.L
