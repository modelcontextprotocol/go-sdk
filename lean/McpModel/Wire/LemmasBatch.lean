import McpModel.Wire.Frame
import McpModel.Base.Logic
/-!
# C02 / C19 — `ioConn` batch bookkeeping refines the slot specification

`Rel s sp` relates the connection's bookkeeping to the list `sp` of open slot batches.  `s.heap` (handle ↦ `msgBatch`) and
`s.byId` (call id ↦ handle) are association lists with distinct keys, read as finite maps: every clause of `Rel` speaks of
their entries as a set, except `heapRel`, which pairs the heap with `sp` position by position (`specWrite` answers in the
FIRST batch that waits for an id).  A `Write` moves one key (`Rel.answer`: the entry under one handle is replaced or gone,
the others are kept), a `Read` adds one (`Rel.add`); `write_refines` and `read_refines` are the two steps,
`L.batch_exactly_once` all runs (it also keeps `Rel`; `Wire.batch_exactly_once` of Props.lean is its first two parts).
-/
namespace Wire.L
open Wire Generated.Wire

section alist
variable {α β : Type} [DecidableEq α]

theorem alookup_eq_lookup (k : α) (l : List (α × β)) : alookup k l = l.lookup k := by
  induction l with
  | nil => rfl
  | cons p t ih =>
    rw [alookup, List.lookup_cons, ih]
    cases h : k == p.1
    · rw [if_neg fun e => by simp [← e] at h]
    · rw [if_pos (eq_of_beq h).symm]

theorem alookup_mem (k : α) (v : β) (l : List (α × β)) (h : alookup k l = some v) : (k, v) ∈ l :=
  List.mem_of_lookup_eq_some (alookup_eq_lookup k l ▸ h)

theorem alookup_of_mem (k : α) (v : β) (l : List (α × β)) (hn : (l.map (·.1)).Nodup) (h : (k, v) ∈ l) :
    alookup k l = some v :=
  (alookup_eq_lookup k l).trans (List.lookup_of_mem_nodup hn h)

theorem alookup_isSome_iff (k : α) (l : List (α × β)) : (alookup k l).isSome = true ↔ k ∈ l.map (·.1) := by
  rw [alookup_eq_lookup]; simp

theorem mem_aerase (k : α) (l : List (α × β)) (p : α × β) : p ∈ aerase k l ↔ p ∈ l ∧ p.1 ≠ k := by
  simp [aerase]

theorem aerase_keys (k i : α) (l : List (α × β)) : i ∈ (aerase k l).map (·.1) ↔ i ∈ l.map (·.1) ∧ i ≠ k := by
  simp only [List.mem_map, mem_aerase]
  constructor
  · rintro ⟨p, ⟨hp, hne⟩, rfl⟩; exact ⟨⟨p, hp, rfl⟩, hne⟩
  · rintro ⟨⟨p, hp, rfl⟩, hne⟩; exact ⟨p, ⟨hp, hne⟩, rfl⟩

theorem aerase_keys_nodup (k : α) (l : List (α × β)) (h : (l.map (·.1)).Nodup) : ((aerase k l).map (·.1)).Nodup := by
  unfold aerase
  exact (List.Nodup.sublist (List.Sublist.map _ (List.filter_sublist)) h)

theorem aset_keys (k : α) (v : β) (l : List (α × β)) : (aset k v l).map (·.1) = l.map (·.1) := by
  induction l with
  | nil => rfl
  | cons p t ih =>
    obtain ⟨k', w⟩ := p
    by_cases h : k' = k <;> simp [aset, h, ih]

end alist

theorem setAt_eq_set {α : Type} (l : List α) (i : Nat) (x : α) : setAt l i x = l.set i x := by
  induction l generalizing i with
  | nil => rfl
  | cons a t ih => cases i <;> simp [setAt, ih]

theorem slotPending_iff (sl : Slots) (id : Id) : slotPending sl id = true ↔ ∃ i : Nat, sl[i]? = some (id, none) := by
  simp only [slotPending, List.any_eq_true, Bool.and_eq_true, decide_eq_true_eq, Option.isNone_iff_eq_none,
    ← List.mem_iff_getElem?]
  constructor
  · rintro ⟨⟨i, r⟩, hp, rfl, rfl⟩; exact hp
  · exact fun h => ⟨_, h, rfl, rfl⟩

theorem fillSlot_ids (sl : Slots) (id : Id) (m : Msg) : (fillSlot id m sl).map (·.1) = sl.map (·.1) := by
  induction sl with
  | nil => rfl
  | cons p t ih =>
    obtain ⟨i, r⟩ := p
    simp only [fillSlot]
    split <;> simp [ih]

theorem fillSlot_eq_setAt (sl : Slots) (id : Id) (m : Msg) (idx : Nat)
    (hn : (sl.map (·.1)).Nodup) (h : sl[idx]? = some (id, none)) :
    fillSlot id m sl = setAt sl idx (id, some m) := by
  induction sl generalizing idx with
  | nil => simp at h
  | cons p t ih =>
    obtain ⟨i0, r⟩ := p
    simp only [List.map_cons, List.nodup_cons] at hn
    cases idx with
    | zero =>
      simp at h
      obtain ⟨rfl, rfl⟩ := h
      simp [fillSlot, setAt]
    | succ j =>
      have hj : t[j]? = some (id, none) := by simpa using h
      have hne : i0 ≠ id := by
        intro e; subst e
        exact hn.1 (List.mem_map.mpr ⟨(i0, none), List.mem_of_getElem? hj, rfl⟩)
      simp [fillSlot, setAt, hne, ih j hn.2 hj]

theorem allSome_slots (sl : Slots) :
    allSome (sl.map (·.2)) = if slotsComplete sl then some (slotsMsgs sl) else none := by
  induction sl with
  | nil => rfl
  | cons p t ih =>
    obtain ⟨i, r⟩ := p
    cases r with
    | none => simp [allSome, slotsComplete]
    | some m =>
      simp only [slotsComplete, slotsMsgs] at ih
      simp only [List.map_cons, allSome, ih, slotsComplete, slotsMsgs, List.all_cons, Option.isSome_some, Bool.true_and,
        List.filterMap_cons]
      split <;> simp [*]

theorem specWrite_single (sp : List Slots) (id : Id) (r : Option JVal) (e : Option WErr)
    (h : ∀ sl ∈ sp, slotPending sl id = false) :
    specWrite sp (.response id r e) = (sp, .single (.response id r e)) := by
  induction sp with
  | nil => rfl
  | cons b t ih =>
    have hb := h b (by simp)
    have := ih (fun sl hsl => h sl (by simp [hsl]))
    simp [specWrite, Msg.id, hb, this]

theorem specWrite_at (pre post : List Slots) (sl : Slots) (id : Id) (r : Option JVal) (e : Option WErr)
    (hpre : ∀ x ∈ pre, slotPending x id = false) (hsl : slotPending sl id = true) :
    specWrite (pre ++ sl :: post) (.response id r e) =
      (if slotsComplete (fillSlot id (.response id r e) sl)
        then (pre ++ post, .array (slotsMsgs (fillSlot id (.response id r e) sl)))
        else (pre ++ fillSlot id (.response id r e) sl :: post, .nothing)) := by
  induction pre with
  | nil =>
    simp only [List.nil_append, specWrite, Msg.id, hsl, ite_true]
    rfl
  | cons b t ih =>
    have hb := hpre b (by simp)
    have := ih (fun x hx => hpre x (by simp [hx]))
    simp only [List.cons_append, specWrite, Msg.id, hb, Bool.false_eq_true, ite_false, this]
    split <;> rfl

theorem specWrite_response (sp : List Slots) (id : Id) (r : Option JVal) (e : Option WErr) :
    specWrite sp (.response id r e) = (sp, .single (.response id r e)) ∨
    ∃ pre sl post, sp = pre ++ sl :: post ∧ slotPending sl id = true ∧
      specWrite sp (.response id r e) =
        (if slotsComplete (fillSlot id (.response id r e) sl)
          then (pre ++ post, .array (slotsMsgs (fillSlot id (.response id r e) sl)))
          else (pre ++ fillSlot id (.response id r e) sl :: post, .nothing)) := by
  cases hf : sp.find? (slotPending · id) with
  | none => exact .inl (specWrite_single sp id r e fun sl hsl => by simpa using List.find?_eq_none.mp hf sl hsl)
  | some sl =>
    obtain ⟨h2, pre, post, rfl, h1⟩ := List.find?_eq_some_iff_append.mp hf
    exact .inr ⟨pre, sl, post, rfl, h2, specWrite_at pre post sl id r e (fun x hx => by simpa using h1 x hx) h2⟩

inductive All₂ {α β : Type} (R : α → β → Prop) : List α → List β → Prop
  | nil : All₂ R [] []
  | cons {a b l1 l2} : R a b → All₂ R l1 l2 → All₂ R (a :: l1) (b :: l2)

theorem All₂.append {α β : Type} {R : α → β → Prop} {a c : List α} {b d : List β}
    (h1 : All₂ R a b) (h2 : All₂ R c d) : All₂ R (a ++ c) (b ++ d) := by
  induction h1 with
  | nil => exact h2
  | cons r _ ih => exact .cons r ih

theorem All₂.split {α β : Type} {R : α → β → Prop} {l1 : List α} {l2 : List β} (h : All₂ R l1 l2)
    (x : α) (hx : x ∈ l1) :
    ∃ a b c d y, l1 = a ++ x :: b ∧ l2 = c ++ y :: d ∧ All₂ R a c ∧ R x y ∧ All₂ R b d := by
  induction h with
  | nil => simp at hx
  | @cons a0 b0 t1 t2 r rest ih =>
    rcases List.mem_cons.mp hx with e | e
    · subst e
      exact ⟨[], t1, [], t2, b0, rfl, rfl, .nil, r, rest⟩
    · obtain ⟨a, b, c, d, y, e1, e2, r1, r2, r3⟩ := ih e
      exact ⟨a0 :: a, b, b0 :: c, d, y, by simp [e1], by simp [e2], .cons r r1, r2, r3⟩

theorem All₂.mem_right {α β : Type} {R : α → β → Prop} {l1 : List α} {l2 : List β} (h : All₂ R l1 l2)
    (y : β) (hy : y ∈ l2) : ∃ x ∈ l1, R x y := by
  induction h with
  | nil => simp at hy
  | @cons a0 b0 t1 t2 r _ ih =>
    rcases List.mem_cons.mp hy with e | e
    · subst e; exact ⟨a0, by simp, r⟩
    · obtain ⟨x, hx, hr⟩ := ih e; exact ⟨x, by simp [hx], hr⟩

theorem ne_key_of_split {α β : Type} {k : α} {v : β} {a b : List (α × β)} (hn : ((a ++ (k, v) :: b).map (·.1)).Nodup)
    (p : α × β) (hp : p ∈ a ∨ p ∈ b) : p.1 ≠ k := by
  simp only [List.map_append, List.map_cons, List.nodup_append, List.nodup_cons] at hn
  rcases hp with hp | hp
  · exact fun e => hn.2.2 p.1 (List.mem_map.mpr ⟨p, hp, rfl⟩) k (.head _) e
  · exact fun e => hn.2.1.1 (List.mem_map.mpr ⟨p, hp, e⟩)

section split
variable {α β : Type} [DecidableEq α]

theorem aerase_split (k : α) (v : β) (a b : List (α × β)) (hn : ((a ++ (k, v) :: b).map (·.1)).Nodup) :
    aerase k (a ++ (k, v) :: b) = a ++ b := by
  have hs := ne_key_of_split hn
  unfold aerase
  rw [List.filter_append, List.filter_cons_of_neg (by simp), List.filter_eq_self.mpr fun p hp => by simpa using hs p (.inl hp),
    List.filter_eq_self.mpr fun p hp => by simpa using hs p (.inr hp)]

theorem aset_split (k : α) (v v' : β) (a b : List (α × β)) (hn : ((a ++ (k, v) :: b).map (·.1)).Nodup) :
    aset k v' (a ++ (k, v) :: b) = a ++ (k, v') :: b := by
  induction a with
  | nil => simp [aset]
  | cons p t ih =>
    obtain ⟨k', w⟩ := p
    rw [List.cons_append, aset, if_neg (ne_key_of_split hn (k', w) (.inl (.head _))), ih (List.nodup_cons.mp hn).2]
    rfl

theorem mem_aset (k : α) (v : β) (l : List (α × β)) (hn : (l.map (·.1)).Nodup) (hk : k ∈ l.map (·.1)) (p : α × β) :
    p ∈ aset k v l ↔ (p = (k, v) ∨ (p ∈ l ∧ p.1 ≠ k)) := by
  obtain ⟨⟨k', w⟩, hq, rfl⟩ := List.mem_map.mp hk
  obtain ⟨a, b, rfl⟩ := List.append_of_mem hq
  have hs := ne_key_of_split hn p
  rw [aset_split k' w v a b hn]
  simp only [List.mem_append, List.mem_cons]
  constructor
  · rintro (h | rfl | h)
    · exact .inr ⟨.inl h, hs (.inl h)⟩
    · exact .inl rfl
    · exact .inr ⟨.inr (.inr h), hs (.inr h)⟩
  · rintro (rfl | ⟨h | rfl | h, hne⟩)
    · exact .inr (.inl rfl)
    · exact .inl h
    · exact absurd rfl hne
    · exact .inr (.inr h)

end split

/-- a `msgBatch` against its slot list.  `unres` is the clause the proofs use: the calls still unresolved are exactly the
empty slots, each under the index of its slot; `resp`: what has been collected is what the slots hold. -/
structure BatchRel (b : Batch) (sl : Slots) : Prop where
  resp : b.responses = sl.map (·.2)
  unres : ∀ (id : Id) (i : Nat), (id, i) ∈ b.unresolved ↔ sl[i]? = some (id, none)
  ids : (sl.map (·.1)).Nodup
  keys : (b.unresolved.map (·.1)).Nodup

/-- The `ioConn` state refines the list of open slot batches `sp`.  (`outCap = 0`: the outgoing batch
buffer has capacity only in the SDK's own tests.  `fresh`: the next handle is no handle of the heap, so a batch that is
added keeps `handles`.  `nonempty`: a batch leaves the heap with its last call, so every entry is still reachable through
`byId`.) -/
structure Rel (s : IOState) (sp : List Slots) : Prop where
  noPanic : s.panicked = false
  noOut : s.outCap = 0
  heapRel : All₂ (fun (p : Nat × Batch) sl => BatchRel p.2 sl) s.heap sp
  handles : (s.heap.map (·.1)).Nodup
  fresh : ∀ p ∈ s.heap, p.1 < s.next
  byIdKeys : (s.byId.map (·.1)).Nodup
  byIdIff : ∀ (id : Id) (h : Nat), (id, h) ∈ s.byId ↔ ∃ b, (h, b) ∈ s.heap ∧ id ∈ b.unresolved.map (·.1)
  nonempty : ∀ p ∈ s.heap, p.2.unresolved ≠ []

theorem BatchRel.pending_iff {b : Batch} {sl : Slots} (h : BatchRel b sl) (id : Id) :
    slotPending sl id = true ↔ id ∈ b.unresolved.map (·.1) := by
  rw [slotPending_iff]
  constructor
  · rintro ⟨i, hi⟩
    exact List.mem_map.mpr ⟨(id, i), (h.unres id i).mpr hi, rfl⟩
  · intro hm
    obtain ⟨⟨id', i⟩, hp, rfl⟩ := List.mem_map.mp hm
    exact ⟨i, (h.unres _ i).mp hp⟩

theorem BatchRel.isEmpty_eq {b : Batch} {sl : Slots} (h : BatchRel b sl) : b.unresolved.isEmpty = slotsComplete sl := by
  apply Bool.eq_iff_iff.mpr
  rw [List.isEmpty_iff, slotsComplete, List.all_eq_true, List.eq_nil_iff_forall_not_mem]
  constructor
  · intro he p hp
    obtain ⟨i, hi⟩ := List.getElem?_of_mem hp
    cases hs : p.2 with
    | some _ => rfl
    | none => exact absurd ((h.unres p.1 i).mpr (by rw [hi, ← hs])) (he _)
  · intro hc ⟨id, i⟩ hm
    cases hc _ (List.mem_of_getElem? ((h.unres id i).mp hm))

theorem BatchRel.flush {b : Batch} {sl : Slots} (h : BatchRel b sl) (hc : slotsComplete sl = true) (hne : sl ≠ []) :
    b.responses.isEmpty = false ∧ allSome b.responses = some (slotsMsgs sl) := by
  rw [h.resp, allSome_slots, hc]
  exact ⟨by cases sl <;> first | exact absurd rfl hne | rfl, rfl⟩

theorem BatchRel.fill {b : Batch} {sl : Slots} (h : BatchRel b sl) (id : Id) (idx : Nat) (msg : Msg)
    (hu : (id, idx) ∈ b.unresolved) :
    BatchRel { unresolved := aerase id b.unresolved, responses := setAt b.responses idx (some msg) }
      (setAt sl idx (id, some msg)) ∧
    fillSlot id msg sl = setAt sl idx (id, some msg) := by
  have hs := (h.unres id idx).mp hu
  have hlt : idx < sl.length := (List.getElem?_eq_some_iff.mp hs).1
  refine ⟨⟨?_, ?_, ?_, ?_⟩, fillSlot_eq_setAt sl id msg idx h.ids hs⟩
  · simp only [h.resp, setAt_eq_set, List.map_set]
  · intro id' i
    simp only [mem_aerase, setAt_eq_set, List.getElem?_set]
    constructor
    · rintro ⟨hm, hne⟩
      have hs' := (h.unres id' i).mp hm
      have : idx ≠ i := by
        intro e; subst e
        rw [hs] at hs'; cases hs'; exact hne rfl
      rw [if_neg this, hs']
    · intro hget
      by_cases e : i = idx
      · subst e; simp [hlt] at hget
      · rw [if_neg (Ne.symm e)] at hget
        refine ⟨(h.unres id' i).mpr hget, ?_⟩
        rintro rfl
        -- `unresolved` is a function of the id
        exact e (Option.some.inj ((alookup_of_mem id' i _ h.keys ((h.unres id' i).mpr hget)).symm.trans
          (alookup_of_mem id' idx _ h.keys hu)))
  · rw [← fillSlot_eq_setAt sl id msg idx h.ids hs, fillSlot_ids]; exact h.ids
  · exact aerase_keys_nodup id _ h.keys

theorem Rel.lookup_key {s : IOState} {sp : List Slots} (h : Rel s sp) {i : Id} {hh : Nat} {b : Batch}
    (hm : (hh, b) ∈ s.heap) (hk : i ∈ b.unresolved.map (·.1)) : alookup i s.byId = some hh :=
  alookup_of_mem i hh _ h.byIdKeys ((h.byIdIff i hh).mpr ⟨b, hm, hk⟩)

theorem Rel.pending_handle {s : IOState} {sp : List Slots} (h : Rel s sp) {hp : List (Nat × Batch)} {p : List Slots}
    (r : All₂ (fun (q : Nat × Batch) sl => BatchRel q.2 sl) hp p) (hsub : ∀ q ∈ hp, q ∈ s.heap) {id : Id} {sl : Slots}
    (hsl : sl ∈ p) (hpend : slotPending sl id = true) : ∃ q ∈ hp, alookup id s.byId = some q.1 := by
  obtain ⟨⟨h0, b0⟩, hm0, r0⟩ := r.mem_right sl hsl
  exact ⟨_, hm0, h.lookup_key (hsub _ hm0) ((r0.pending_iff id).mp hpend)⟩

theorem Rel.pending_iff {s : IOState} {sp : List Slots} (h : Rel s sp) (id : Id) :
    sp.any (fun sl => slotPending sl id) = (alookup id s.byId).isSome := by
  apply Bool.eq_iff_iff.mpr
  simp only [List.any_eq_true]
  constructor
  · rintro ⟨sl, hsl, hp⟩
    obtain ⟨q, _, hq⟩ := h.pending_handle h.heapRel (fun _ hq => hq) hsl hp
    rw [hq]; rfl
  · intro hs
    obtain ⟨⟨i2, h2⟩, hm2, e2⟩ := List.mem_map.mp ((alookup_isSome_iff id s.byId).mp hs)
    cases e2
    obtain ⟨b2, hb2, hk2⟩ := (h.byIdIff _ h2).mp hm2
    obtain ⟨_, _, pre, post, sl, _, esp, _, rb2, _⟩ := h.heapRel.split (h2, b2) hb2
    exact ⟨sl, by rw [esp]; simp, (rb2.pending_iff _).mpr hk2⟩

theorem Rel.answer {s : IOState} {sp : List Slots} (h : Rel s sp) {hh : Nat} {b b' : Batch} {id : Id}
    (hb : (hh, b) ∈ s.heap) (hid : alookup id s.byId = some hh)
    (hkeys : ∀ i, i ∈ b'.unresolved.map (·.1) ↔ i ∈ b.unresolved.map (·.1) ∧ i ≠ id)
    {heap' : List (Nat × Batch)} {sp' : List Slots}
    (hrel : All₂ (fun (q : Nat × Batch) sl => BatchRel q.2 sl) heap' sp') (hnd : (heap'.map (·.1)).Nodup)
    (hmem : ∀ q, q ∈ heap' ↔ (q = (hh, b') ∧ b'.unresolved ≠ []) ∨ (q ∈ s.heap ∧ q.1 ≠ hh)) :
    Rel { s with byId := aerase id s.byId, heap := heap', panicked := false } sp' := by
  refine ⟨rfl, h.noOut, hrel, hnd, fun q hq => ?_, aerase_keys_nodup id _ h.byIdKeys, fun i h2 => ?_, fun q hq => ?_⟩
  · rcases (hmem q).mp hq with ⟨rfl, -⟩ | ⟨hq, -⟩
    · exact h.fresh (hh, b) hb
    · exact h.fresh q hq
  · rw [mem_aerase]
    constructor
    · rintro ⟨hm, hne⟩
      obtain ⟨b2, hb2, hk2⟩ := (h.byIdIff i h2).mp hm
      by_cases e : h2 = hh
      · -- the handle is `hh`: the batch is `b`, and `i` is one of the calls it keeps
        subst e
        cases Option.some.inj ((alookup_of_mem h2 b2 _ h.handles hb2).symm.trans (alookup_of_mem h2 b _ h.handles hb))
        have hk' := (hkeys i).mpr ⟨hk2, hne⟩
        exact ⟨b', (hmem _).mpr (.inl ⟨rfl, fun he => by rw [he] at hk'; cases hk'⟩), hk'⟩
      · exact ⟨b2, (hmem _).mpr (.inr ⟨hb2, e⟩), hk2⟩
    · rintro ⟨b2, hb2, hk2⟩
      rcases (hmem _).mp hb2 with ⟨e, -⟩ | ⟨hq, hne⟩
      · cases e
        have := (hkeys i).mp hk2
        exact ⟨(h.byIdIff i hh).mpr ⟨b, hb, this.1⟩, this.2⟩
      · -- another handle: `byId` is a function, so the call is not `id`
        refine ⟨(h.byIdIff i h2).mpr ⟨b2, hq, hk2⟩, ?_⟩
        rintro rfl
        exact hne (Option.some.inj ((h.lookup_key hq hk2).symm.trans hid))
  · rcases (hmem q).mp hq with ⟨rfl, hne⟩ | ⟨hq, -⟩
    · exact hne
    · exact h.nonempty q hq

theorem write_refines (s : IOState) (sp : List Slots) (h : Rel s sp) (msg : Msg) :
    Rel (opWrite s msg).1 (specWrite sp msg).1 ∧
    (opWrite s msg).2.matches (specWrite sp msg).2 = true := by
  cases msg with
  | request id m p =>
    have : ¬ (s.outBuf.length < s.outCap) := by rw [h.noOut]; omega
    simp only [opWrite, h.noPanic, Bool.false_eq_true, ite_false, this, specWrite]
    exact ⟨h, by simp [WriteOut.matches]⟩
  | response id r e =>
    simp only [opWrite, h.noPanic, Bool.false_eq_true, ite_false]
    cases hl : alookup id s.byId with
    | none =>
      have hno := h.pending_iff id
      rw [hl] at hno
      rw [specWrite_single sp id r e fun sl hsl => by simpa using List.any_eq_false.mp hno sl hsl]
      exact ⟨h, by simp [WriteOut.matches]⟩
    | some hh =>
      obtain ⟨b, hb, hkey⟩ := (h.byIdIff id hh).mp (alookup_mem id hh s.byId hl)
      obtain ⟨hpre, hpost, pre, post, sl, eheap, esp, rpre, rb, rpost⟩ := h.heapRel.split (hh, b) hb
      have hnod : ((hpre ++ (hh, b) :: hpost).map (·.1)).Nodup := by rw [← eheap]; exact h.handles
      have hlook : alookup hh s.heap = some b := alookup_of_mem hh b _ h.handles hb
      obtain ⟨⟨id', idx⟩, hu, hid'⟩ := List.mem_map.mp hkey
      simp only at hid'; subst hid'
      have hlu : alookup id' b.unresolved = some idx := alookup_of_mem id' idx _ rb.keys hu
      obtain ⟨rb', hfill⟩ := rb.fill id' idx (.response id' r e) hu
      -- earlier batches do not wait for `id`: their handles differ from `hh`
      have hprePend : ∀ x ∈ pre, slotPending x id' = false := by
        intro x hx
        cases hp : slotPending x id' with
        | false => rfl
        | true =>
          obtain ⟨q, hq, e0⟩ := h.pending_handle rpre (fun q hq => by rw [eheap]; simp [hq]) hx hp
          exact absurd (Option.some.inj (e0.symm.trans hl)) (ne_key_of_split hnod q (.inl hq))
      rw [esp, specWrite_at pre post sl id' r e hprePend ((rb.pending_iff id').mpr hkey), hfill]
      simp only [hlook, hlu]
      have hrel := fun heap' sp' => h.answer (heap' := heap') (sp' := sp') hb hl
        (b' := { unresolved := aerase id' b.unresolved, responses := setAt b.responses idx (some (.response id' r e)) })
        (aerase_keys id' · b.unresolved)
      rw [show (aerase id' b.unresolved).isEmpty = _ from rb'.isEmpty_eq]
      have hin : hh ∈ s.heap.map (·.1) := List.mem_map.mpr ⟨_, hb, rfl⟩
      cases hcs : slotsComplete (setAt sl idx (id', some (Msg.response id' r e))) with
      | true =>
        -- last open call of the batch: flush
        have hc : aerase id' b.unresolved = [] := List.isEmpty_iff.mp (rb'.isEmpty_eq.trans hcs)
        obtain ⟨hne, hall⟩ := rb'.flush hcs (by
          rw [setAt_eq_set, ne_eq, List.set_eq_nil_iff]
          rintro rfl
          cases (rb.unres id' idx).mp hu)
        simp only at hne hall
        simp only [ite_true, hne, Bool.false_eq_true, ite_false, hall]
        refine ⟨hrel _ _ ?_ (aerase_keys_nodup hh _ h.handles) fun q => ?_, by simp [WriteOut.matches]⟩
        · rw [eheap, aerase_split hh b hpre hpost hnod]; exact rpre.append rpost
        · rw [mem_aerase]; simp [hc]
      | false =>
        -- still open calls: withhold
        have hc : aerase id' b.unresolved ≠ [] := fun hc => by
          have := rb'.isEmpty_eq.symm.trans (List.isEmpty_iff.mpr hc); rw [hcs] at this; cases this
        simp only [Bool.false_eq_true, ite_false]
        refine ⟨hrel _ _ ?_ (by rw [aset_keys]; exact h.handles) fun q => ?_, by simp [WriteOut.matches]⟩
        · rw [eheap, aset_split hh b _ hpre hpost hnod]; exact rpre.append (.cons rb' rpost)
        · rw [mem_aset hh _ _ h.handles hin]; simp [hc]

theorem nodupB_iff (l : List Id) : nodupB l = true ↔ l.Nodup := by
  induction l with
  | nil => simp [nodupB]
  | cons a t ih => simp [nodupB, ih]

/-- the batch after the tracking loop has gone over the call ids `calls`, from `b` on: every call gets the next index -/
def tracked (b : Batch) (calls : List Id) : Batch :=
  { unresolved := b.unresolved ++ calls.zipIdx b.responses.length, responses := b.responses ++ calls.map fun _ => none }

theorem trackLoop_eq (msgs : List Msg) (b : Batch) :
    trackLoop false msgs b =
      if (callIds msgs).Nodup ∧ ∀ c ∈ callIds msgs, c ∉ b.unresolved.map (·.1) then .ok (tracked b (callIds msgs))
      else .error .dupInBatch := by
  induction msgs generalizing b with
  | nil => simp [trackLoop, callIds, tracked]
  | cons m t ih =>
    cases m with
    | response id r e => exact ih b
    | request id me p =>
      by_cases hid : id = .none
      · subst hid; exact ih b
      · simp only [trackLoop, callIds, Bool.false_or, decide_eq_true_eq, ne_eq, hid, not_false_eq_true, if_true]
        by_cases hin : id ∈ b.unresolved.map (·.1)
        · rw [if_pos ((alookup_isSome_iff id _).mpr hin), if_neg fun h => h.2 id (.head _) hin]
        · rw [if_neg (mt (alookup_isSome_iff id _).mp hin), ih]
          have e : tracked { unresolved := b.unresolved ++ [(id, b.responses.length)], responses := b.responses ++ [none] }
              (callIds t) = tracked b (id :: callIds t) := by
            simp [tracked, List.zipIdx_cons]
          rw [e]
          congr 1
          simp only [List.nodup_cons, List.map_append, List.map_cons, List.map_nil, List.mem_append,
            List.mem_cons, forall_eq_or_imp, eq_iff_iff]
          constructor
          · rintro ⟨h1, h2⟩
            exact ⟨⟨fun hm => h2 id hm (.inr (.inl rfl)), h1⟩, hin, fun c hc hk => h2 c hc (.inl hk)⟩
          · rintro ⟨⟨h1, h2⟩, -, h3⟩
            exact ⟨h2, fun c hc hk => hk.elim (h3 c hc) fun e => e.elim (fun e => h1 (e ▸ hc)) (nomatch ·)⟩

theorem BatchRel.of_tracked (calls : List Id) (h : calls.Nodup) :
    BatchRel (tracked { unresolved := [], responses := [] } calls) (calls.map fun c => (c, none)) := by
  refine ⟨by simp [tracked], fun id i => ?_, by simpa [Function.comp_def] using h, by simpa [tracked] using h⟩
  simp [tracked, List.mk_mem_zipIdx_iff_getElem?]

theorem tracked_keys (calls : List Id) :
    (tracked { unresolved := [], responses := [] } calls).unresolved.map (·.1) = calls := by
  simp [tracked]

/-- `Rel` reads the batch bookkeeping only: the unread frames, the queue and the version flag are free -/
theorem Rel.free_fields {s : IOState} {sp : List Slots} (h : Rel s sp) (w : List JVal) (q : List Msg) (nb : Bool) :
    Rel { s with wire := w, queue := q, noBatch := nb } sp :=
  ⟨h.noPanic, h.noOut, h.heapRel, h.handles, h.fresh, h.byIdKeys, h.byIdIff, h.nonempty⟩

theorem Rel.add {s : IOState} {sp : List Slots} (h : Rel s sp) {b : Batch} {sl : Slots} (hr : BatchRel b sl)
    (hne : b.unresolved ≠ []) (hnew : ∀ p ∈ b.unresolved, p.1 ∉ s.byId.map (·.1)) :
    Rel { s with byId := s.byId ++ b.unresolved.map (fun p => (p.1, s.next)), heap := s.heap ++ [(s.next, b)],
                 next := s.next + 1 } (sp ++ [sl]) := by
  refine ⟨h.noPanic, h.noOut, ?_, ?_, ?_, ?_, ?_, ?_⟩
  · exact h.heapRel.append (.cons hr .nil)
  · simp only [List.map_append, List.map_cons, List.map_nil]
    refine List.nodup_append.mpr ⟨h.handles, by simp, ?_⟩
    intro a ha c hc e
    simp at hc; subst hc
    obtain ⟨p, hp, hpe⟩ := List.mem_map.mp ha
    exact absurd (hpe.trans e) (Nat.ne_of_lt (h.fresh p hp))
  · intro p hp
    rcases List.mem_append.mp hp with x | x
    · exact Nat.lt_succ_of_lt (h.fresh p x)
    · simp at x; subst x; exact Nat.lt_succ_self _
  · simp only [List.map_append, List.map_map]
    refine List.nodup_append.mpr ⟨h.byIdKeys, ?_, ?_⟩
    · have : (b.unresolved.map ((fun x => x.1) ∘ fun p => (p.1, s.next))) = b.unresolved.map (·.1) := by
        apply List.map_congr_left; intro a _; rfl
      rw [this]; exact hr.keys
    · intro a ha c hc e
      subst e
      obtain ⟨p, hp, rfl⟩ := List.mem_map.mp hc
      exact hnew p hp ha
  · intro id2 h2
    simp only [List.mem_append, List.mem_map, List.mem_cons, List.not_mem_nil, or_false, Prod.mk.injEq]
    constructor
    · rintro (hm | ⟨p, hp, rfl, rfl⟩)
      · obtain ⟨b2, hb2, hk2⟩ := (h.byIdIff id2 h2).mp hm
        exact ⟨b2, .inl hb2, List.mem_map.mp hk2⟩
      · exact ⟨b, .inr ⟨rfl, rfl⟩, p, hp, rfl⟩
    · rintro ⟨b2, (hb2 | ⟨rfl, rfl⟩), p, hp, rfl⟩
      · exact .inl ((h.byIdIff p.1 h2).mpr ⟨b2, hb2, List.mem_map.mpr ⟨p, hp, rfl⟩⟩)
      · exact .inr ⟨p, hp, rfl, rfl⟩
  · intro p hp
    rcases List.mem_append.mp hp with x | x
    · exact h.nonempty p x
    · simp at x; subst x; exact hne

/-- **The read step.** From related states, `opRead` returns what the specification prescribes —
in particular it rejects a batch exactly when two of its calls share an id (`dup`) or one of its
calls is still unanswered in an open batch (`seen`) — and leaves related states. -/
theorem read_refines (s : IOState) (sp : List Slots) (h : Rel s sp) :
    Rel (opRead false s).1 (specRead sp s).1 ∧ (opRead false s).2 = (specRead sp s).2 := by
  obtain ⟨wire, queue, byId, heap, next, noBatch, outCap, outBuf, panicked⟩ := s
  unfold opRead specRead
  cases queue with
  | cons m q => exact ⟨h.free_fields wire q _, rfl⟩
  | nil =>
    cases wire with
    | nil => exact ⟨h, rfl⟩
    | cons raw w =>
      simp only
      cases hrb : readBatch raw with
      | error e => exact ⟨h.free_fields w [] _, rfl⟩
      | ok mb =>
        obtain ⟨msgs, batch⟩ := mb
        simp only
        by_cases hnb : (batch && noBatch) = true
        · simp only [hnb, ite_true]
          exact ⟨h.free_fields w [] _, trivial⟩
        · simp only [hnb, Bool.false_eq_true, ite_false]
          cases msgs with
          | nil => exact ⟨h.free_fields w [] _, rfl⟩
          | cons m0 rest =>
            simp only
            cases batch with
            | false => exact ⟨h.free_fields w rest _, rfl⟩
            | true =>
              simp only [ite_true]
              rw [trackLoop_eq]
              unfold specAccept
              simp only [List.map_nil, List.not_mem_nil, not_false_eq_true, implies_true, and_true, ← nodupB_iff]
              cases hnd : nodupB (callIds (m0 :: rest)) with
              | false => exact ⟨h.free_fields w rest _, rfl⟩
              | true =>
                have hr := BatchRel.of_tracked _ ((nodupB_iff _).mp hnd)
                have hk := tracked_keys (callIds (m0 :: rest))
                generalize tracked _ (callIds (m0 :: rest)) = b at hr hk
                simp only [ite_true, Bool.not_true, Bool.false_eq_true, ite_false]
                have hresp : b.responses.isEmpty = (callIds (m0 :: rest)).isEmpty := by
                  rw [hr.resp]; cases callIds (m0 :: rest) <;> rfl
                -- the "previously seen" test agrees with the specification's
                have hseen : (b.unresolved.any (fun p => (alookup p.1 byId).isSome)) =
                    (callIds (m0 :: rest)).any (fun c => sp.any (fun sl => slotPending sl c)) := by
                  simp only [h.pending_iff, ← hk, List.any_map, Function.comp_def]
                simp only [addBatch, hresp, hseen]
                cases hce : (callIds (m0 :: rest)).isEmpty with
                | true =>
                  rw [List.isEmpty_iff.mp hce]
                  exact ⟨h.free_fields w rest _, rfl⟩
                | false =>
                  cases hany : (callIds (m0 :: rest)).any (fun c => sp.any (fun sl => slotPending sl c)) with
                  | true => exact ⟨h.free_fields w rest _, rfl⟩
                  | false =>
                    refine ⟨(h.free_fields w rest _).add hr ?_ ?_, rfl⟩
                    · intro he
                      rw [he] at hk
                      rw [← hk] at hce
                      cases hce
                    · intro p hp hin
                      have : (b.unresolved.any (fun p => (alookup p.1 byId).isSome)) = true :=
                        List.any_eq_true.mpr ⟨p, hp, (alookup_isSome_iff p.1 byId).mpr hin⟩
                      rw [hseen, hany] at this; cases this

theorem rel_init : Rel {} [] :=
  ⟨rfl, rfl, .nil, by simp, by intro p hp; simp at hp, by simp, by intro id h; simp, by intro p hp; simp at hp⟩

theorem step_refines (st : IOState × List Slots) (h : Rel st.1 st.2) (op : IOOp) :
    Rel (stepBoth st op).1.1 (stepBoth st op).1.2 ∧ (stepBoth st op).2 = true := by
  cases op with
  | feed raw => exact ⟨h.free_fields _ _ _, rfl⟩
  | setNoBatch b => exact ⟨h.free_fields _ _ b, rfl⟩
  | read =>
    obtain ⟨r1, r2⟩ := read_refines st.1 st.2 h
    exact ⟨r1, by simp [stepBoth, r2]⟩
  | write m => exact write_refines st.1 st.2 h m

/-- `Wire.batch_exactly_once` (Props.lean, where it is said in words) with a third conjunct, `Rel` of the end state; nothing
reads that conjunct (BridgeIO.lean goes through `step_refines`). -/
theorem batch_exactly_once (ops : List IOOp) :
    (runBoth ({}, []) ops).2 = true ∧ (runBoth ({}, []) ops).1.1.panicked = false ∧
    Rel (runBoth ({}, []) ops).1.1 (runBoth ({}, []) ops).1.2 := by
  have key : ∀ (ops : List IOOp) (st : IOState × List Slots), Rel st.1 st.2 →
      (runBoth st ops).2 = true ∧ Rel (runBoth st ops).1.1 (runBoth st ops).1.2 := by
    intro ops
    induction ops with
    | nil => intro st h; exact ⟨rfl, h⟩
    | cons op t ih =>
      intro st h
      obtain ⟨h1, h2⟩ := step_refines st h op
      obtain ⟨i1, i2⟩ := ih (stepBoth st op).1 h1
      exact ⟨by simp [runBoth, h2, i1], i2⟩
  obtain ⟨k1, k2⟩ := key ops ({}, []) rel_init
  exact ⟨k1, k2.noPanic, k2⟩

theorem fillSlot_ok (sl : Slots) (m : Msg) (h : SlotsOK sl) : SlotsOK (fillSlot m.id m sl) := by
  induction sl with
  | nil => exact h
  | cons p t ih =>
    obtain ⟨i, r⟩ := p
    have ht : SlotsOK t := fun q hq => h q (by simp [hq])
    simp only [fillSlot]
    split
    · rename_i hc
      intro q hq m' hm'
      rcases List.mem_cons.mp hq with e | e
      · subst e; simp only at hm'; cases hm'; exact hc.1.symm
      · exact ht q e m' hm'
    · intro q hq m' hm'
      rcases List.mem_cons.mp hq with e | e
      · subst e; exact h (i, r) (by simp) m' hm'
      · exact ih ht q e m' hm'

theorem msgs_ids_of_complete (sl : Slots) (hok : SlotsOK sl) (hc : slotsComplete sl = true) :
    (slotsMsgs sl).map Msg.id = sl.map (·.1) := by
  induction sl with
  | nil => rfl
  | cons p t ih =>
    obtain ⟨i, r⟩ := p
    simp only [slotsComplete, List.all_cons, Bool.and_eq_true] at hc
    cases r with
    | none => simp at hc
    | some m =>
      have := hok (i, some m) (by simp) m rfl
      simp only at this
      simp only [slotsMsgs, List.filterMap_cons, List.map_cons, this]
      congr 1
      exact ih (fun q hq => hok q (by simp [hq])) (by simpa [slotsComplete] using hc.2)

theorem specWrite_single_msg (sp : List Slots) (m m' : Msg) (h : (specWrite sp m).2 = .single m') : m' = m := by
  cases m with
  | request id me p => cases sp <;> exact (SOut.single.inj h).symm
  | response id r e =>
    rcases specWrite_response sp id r e with h' | ⟨_, _, _, _, _, h'⟩ <;> rw [h'] at h
    · exact (SOut.single.inj h).symm
    · split at h <;> cases h

/-- **The array that is flushed** holds, for the batch `sl` it closes, exactly one response per call,
in call order, each bearing its call's id, and the response just written is one of them.  (The
batch leaves the open list, so no second array can ever be written for it.)  `hok` is a hypothesis: that the
specifications reached from `[]` satisfy `SlotsOK` is not proved. -/
theorem spec_flush (sp : List Slots) (hok : ∀ sl ∈ sp, SlotsOK sl) (msg : Msg) (ms : List Msg) (sp' : List Slots)
    (h : specWrite sp msg = (sp', .array ms)) :
    ∃ sl ∈ sp, ms.map Msg.id = sl.map (·.1) ∧ slotPending sl msg.id = true ∧ sp'.length + 1 = sp.length := by
  cases msg with
  | request id m p => cases sp <;> cases h
  | response id r e =>
    rcases specWrite_response sp id r e with h' | ⟨pre, sl, post, rfl, hp, h'⟩ <;> rw [h'] at h
    · cases h
    · split at h <;> cases h
      next hc =>
      have hsl : sl ∈ pre ++ sl :: post := List.mem_append_right _ (.head _)
      exact ⟨sl, hsl, (msgs_ids_of_complete _ (fillSlot_ok sl (.response id r e) (hok sl hsl)) hc).trans (fillSlot_ids ..), hp,
        by simp only [List.length_append, List.length_cons]; omega⟩

/-- tracking of calls only (`trackAll = false`, /repo since the fix of F2): `[notification, call 5]` — both are read, and
answering 5 flushes `[resp 5]`. -/
example :
    let s0 : IOState := { wire := [.arr [wNotif, wCall5]] }
    let r1 := opRead false s0
    let r2 := opRead false r1.1
    let w := opWrite r2.1 resp5
    r1.2 = .msg (.request .none [110] none) ∧ r2.2 = .msg (.request (.int 5) [112] none) ∧
      w.2 = .array [encodeMsg resp5] := by decide

/-- … a batch of two notifications is read without error and tracks nothing. -/
example :
    let s0 : IOState := { wire := [.arr [wNotif, wNotif]] }
    let r1 := opRead false s0
    r1.2 = .msg (.request .none [110] none) ∧ r1.1.byId = [] ∧ r1.1.queue.length = 1 := by decide

/-- F2, counter-example on the tracking of every `*Request` (`trackAll = true`, /repo before the fix): the reply to 5 is
withheld. -/
theorem f2_counterexample_withheld :
    let s0 : IOState := { wire := [.arr [wNotif, wCall5]] }
    let r1 := opRead true s0
    let r2 := opRead true r1.1
    (opWrite r2.1 resp5).2 = .nothing := by decide

/-- F2: two notifications in one batch are a "duplicate message ID" read error. -/
theorem f2_counterexample_dup :
    (opRead true { wire := [.arr [wNotif, wNotif]] }).2 = .err .dupInBatch := by decide

end Wire.L
