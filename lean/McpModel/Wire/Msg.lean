import McpModel.Wire.Json
import McpModel.Generated.WireGen
/-!
# E2 Wire — JSON-RPC message codec (`internal/jsonrpc2/messages.go`, `wire.go`)

`encodeMsg` mirrors `EncodeMessage` (`wireCombined` + `omitempty`), `decodeMsg` mirrors
`DecodeMessage` (`wireDecode`: method presence by key, version tag, id coercion, response needs id).
The id decoder is `decodeID` (finding F1, fixed in /repo: an integer literal in the int64 range is parsed
exactly; every other number is unmarshalled into `any`, a `float64`, and handed to `MakeID`).  `makeIDFloat`
with `f64ToInt64` is that float path: fractional, exponent and out-of-range forms take it, and the F1
counter-examples are stated about it.
Member names and `omitempty` flags come from `Generated.Wire` (regenerated from the struct tags).
-/
namespace Wire
open Generated.Wire

/-- `jsonrpc2.ID`: `ID{}` (invalid / notification), an int64, or a string. -/
inductive Id where
  | none
  | int (n : Int)
  | str (s : Bytes)
deriving DecidableEq, Repr, Inhabited

def minInt64 : Int := -9223372036854775808
def maxInt64 : Int := 9223372036854775807
def inInt64 (n : Int) : Bool := minInt64 ≤ n && n ≤ maxInt64

/-- `WireError` -/
structure WErr where
  code : Int
  message : Bytes
  data : Option JVal        -- json.RawMessage: `none` = empty (omitted)
deriving DecidableEq, Repr, Inhabited

/-- `*Request` / `*Response`.  `json.RawMessage` fields are `Option JVal` (`none` = no bytes). -/
inductive Msg where
  | request (id : Id) (method : Bytes) (params : Option JVal)
  | response (id : Id) (result : Option JVal) (error : Option WErr)
deriving DecidableEq, Repr, Inhabited

def Msg.id : Msg → Id
  | .request i _ _ => i
  | .response i _ _ => i

def Msg.isCall : Msg → Bool
  | .request i _ _ => i != .none
  | _ => false

/-! ## Encoding -/

def encodeId : Id → Option JVal
  | .none => none
  | .int n => some (.int n)
  | .str s => some (.str s)

/-- A struct member with the `omitempty` flag of the regenerated tag table: when the flag is set an
empty value is dropped, otherwise the empty value's encoding `dflt` is written. -/
def member (name : Bytes) (om : Bool) (v : Option JVal) (dflt : JVal) : Bytes × Option JVal :=
  (name, match v with
    | some x => some x
    | none => if om then none else some dflt)

def encodeErr (e : WErr) : JVal :=
  .obj (members [
    member WireError_Code_name WireError_Code_omit (if e.code = 0 then none else some (.int e.code)) (.int 0),
    member WireError_Message_name WireError_Message_omit (if e.message = [] then none else some (.str e.message)) (.str []),
    member WireError_Data_name WireError_Data_omit e.data .null])

/-- `EncodeMessage`: `wireCombined{VersionTag: "2.0"}` filled by `marshal`, then `json.Marshal`. -/
def encodeMsg : Msg → JVal
  | .request id method params =>
    .obj (members [
      member wireCombined_VersionTag_name wireCombined_VersionTag_omit (some (.str wireVersion)) (.str []),
      member wireCombined_ID_name wireCombined_ID_omit (encodeId id) .null,
      member wireCombined_Method_name wireCombined_Method_omit (if method = [] then none else some (.str method)) (.str []),
      member wireCombined_Params_name wireCombined_Params_omit params .null,
      member wireCombined_Result_name wireCombined_Result_omit none .null,
      member wireCombined_Error_name wireCombined_Error_omit none .null])
  | .response id result error =>
    .obj (members [
      member wireCombined_VersionTag_name wireCombined_VersionTag_omit (some (.str wireVersion)) (.str []),
      member wireCombined_ID_name wireCombined_ID_omit (encodeId id) .null,
      member wireCombined_Method_name wireCombined_Method_omit none (.str []),
      member wireCombined_Params_name wireCombined_Params_omit none .null,
      member wireCombined_Result_name wireCombined_Result_omit result .null,
      member wireCombined_Error_name wireCombined_Error_omit (error.map encodeErr) .null])

/-! ## Id coercion -/

/-- ⌊log₂ n⌋ for n > 0 (0 for 0). -/
def log2 (n : Nat) : Nat := Nat.log2 n

/-- Round the positive rational p/q to the nearest integer, ties to even. -/
def roundHalfEven (p q : Nat) : Nat :=
  let d := p / q
  let r := p % q
  if 2 * r < q then d else if 2 * r > q then d + 1 else if d % 2 = 0 then d else d + 1

/-- The `float64` nearest to the positive rational p/q, as (mantissa n, binary exponent k): value
n·2^k with n < 2^53 (n ≥ 2^52 unless subnormal).  `none` when it overflows to +Inf. -/
def toF64 (p q : Nat) : Option (Nat × Int) :=
  if p = 0 then some (0, 0) else
  -- estimate k with 2^52 ≤ p/(q·2^k) < 2^53, then correct: `log2 p - log2 q` is within one of log₂(p/q), so
  -- p/(q·2^k0) lies in (2^51, 2^53) and one round of `fix` settles it; the second round then changes nothing
  let k0 : Int := (log2 p : Int) - (log2 q : Int) - 52
  let scaled (k : Int) : Nat × Nat := if k ≥ 0 then (p, q * 2 ^ k.toNat) else (p * 2 ^ (-k).toNat, q)
  let fix (k : Int) : Int :=
    let (a, b) := scaled k
    if a / b ≥ 2 ^ 53 then k + 1 else if a / b < 2 ^ 52 then k - 1 else k
  let k1 := fix (fix k0)
  let k := if k1 < -1074 then -1074 else k1
  let (a, b) := scaled k
  let n := roundHalfEven a b
  let (n, k) := if n = 2 ^ 53 then (2 ^ 52, k + 1) else (n, k)
  if k > 971 then none else some (n, k)

/-- Go's `int64(f)` on amd64: truncation toward zero; out of range gives the "integer indefinite"
value −2^63. -/
def truncToInt64 (neg : Bool) (n : Nat) (k : Int) : Int :=
  let mag : Nat := if k ≥ 0 then n * 2 ^ k.toNat else n / 2 ^ (-k).toNat
  let v : Int := if neg then -(mag : Int) else mag
  if inInt64 v then v else minInt64

/-- `int64(float64(m·10^e))`, the conversion `MakeID` applies to a JSON number decoded into `any`.
`none` = the number does not fit a `float64` (the decoder rejects it). -/
def f64ToInt64 (m e : Int) : Option Int :=
  let neg := m < 0
  let a := m.natAbs
  let (p, q) : Nat × Nat := if e ≥ 0 then (a * 10 ^ e.toNat, 1) else (a, 10 ^ (-e).toNat)
  (toF64 p q).map fun (n, k) => truncToInt64 neg n k

/-- Errors of `DecodeMessage`, as the harness classifies them (`code` = what `toWireError` would
put on the wire). -/
inductive DErr where
  | unmarshal      -- the JSON does not fit `wireDecode` (wrong member types, not an object …)
  | version        -- jsonrpc ≠ "2.0"
  | idType         -- id is a bool/array/object: wraps ErrParse
  | noId           -- no method and no id: ErrInvalidRequest
deriving DecidableEq, Repr, Inhabited

def DErr.code : DErr → Int
  | .unmarshal => 0
  | .version => 0
  | .idType => codeParse
  | .noId => codeInvalidRequest

/-- `MakeID` on the value Go's decoder produces for an `any`: every number is a `float64`.
Taken alone it is the id path of a `DecodeMessage` without `decodeID`'s exact parse; the F1 counter-examples
are stated about it. -/
def makeIDFloat : JVal → Except DErr Id
  | .null => .ok .none
  | .int n => match f64ToInt64 n 0 with
    | some v => .ok (.int v)
    | none => .error .unmarshal
  | .dec m e => match f64ToInt64 m e with
    | some v => .ok (.int v)
    | none => .error .unmarshal
  | .str s => .ok (.str s)
  | _ => .error .idType

/-- `decodeID` (F1): an integer literal in the int64 range is parsed exactly (`strconv.ParseInt`);
everything else is unmarshalled into `any` and goes through `MakeID`. -/
def decodeID : JVal → Except DErr Id
  | .int n => if inInt64 n then .ok (.int n) else makeIDFloat (.int n)
  | v => makeIDFloat v

/-! ## Decoding -/

/-- A `string` struct field: JSON string, or null (leaves ""); anything else is a type error. -/
def asString : Option JVal → Except DErr Bytes
  | none => .ok []
  | some .null => .ok []
  | some (.str s) => .ok s
  | some _ => .error .unmarshal

/-- A `json.RawMessage` field keeps whatever value is there, including `null`. -/
def asRaw (v : Option JVal) : Option JVal := v

/-- `int64` struct field: integer literal in range, or null (leaves 0). -/
def asInt64 : Option JVal → Except DErr Int
  | none => .ok 0
  | some .null => .ok 0
  | some (.int n) => if inInt64 n then .ok n else .error .unmarshal
  | some _ => .error .unmarshal

/-- `*WireError` field -/
def asWErr : Option JVal → Except DErr (Option WErr)
  | none => .ok none
  | some .null => .ok none
  | some (.obj kvs) => do
    let code ← asInt64 (lookup WireError_Code_name kvs)
    let msg ← asString (lookup WireError_Message_name kvs)
    .ok (some { code := code, message := msg, data := asRaw (lookup WireError_Data_name kvs) })
  | some _ => .error .unmarshal

/-- `DecodeMessage`: unmarshal into `wireDecode` (member types; the `json.RawMessage` members, the id among
them, keep any value), the version tag, the id (`decodeID`; a number that overflows `float64` fails there, with
the error class of a member of the wrong type), then a request iff the `method` key is present, else a response,
which needs an id. -/
def decodeMsg (w : JVal) : Except DErr Msg :=
  match w with
  | .null =>
    -- `null` leaves the zero wireDecode: the version check fails
    .error .version
  | .obj kvs => do
    -- 1. internaljson.Unmarshal(data, &msg): member types
    let ver ← asString (lookup wireDecode_VersionTag_name kvs)
    let idv := lookup wireDecode_ID_name kvs
    let methodRaw := asRaw (lookup wireDecode_Method_name kvs)
    let params := asRaw (lookup wireDecode_Params_name kvs)
    let result := asRaw (lookup wireDecode_Result_name kvs)
    let err ← asWErr (lookup wireDecode_Error_name kvs)
    -- 2. version tag
    if ver ≠ wireVersion then .error .version else
    -- 3. id
    let id ← match idv with
      | none => .ok Id.none
      | some v => decodeID v
    -- 4. request iff the "method" key was present
    match methodRaw with
    | some mv =>
      let method ← asString (some mv)
      .ok (.request id method params)
    | none =>
      if id = .none then .error .noId
      else .ok (.response id result err)
  | _ => .error .unmarshal

/-! ## Domains of the round-trip laws (shared by the theorems and the monitors) -/

/-- A message for which `decodeMsg (encodeMsg m) = ok m` is claimed: a request/notification has a
non-empty method, a response has an id, integers are int64 values. -/
def wfMsg : Msg → Bool
  | .request id m _ => m ≠ [] && (match id with | .int n => inInt64 n | _ => true)
  | .response id _ e => (match id with | .none => false | .int n => inInt64 n | .str _ => true) &&
      (match e with | some e => inInt64 e.code | none => true)

/-- A valid `error` member: an object with an int64 `code` and a string `message`. -/
def validErr : Option JVal → Bool
  | none => true
  | some (.obj e) =>
    (match lookup WireError_Code_name e with | some (.int n) => inInt64 n | _ => false) &&
    (match lookup WireError_Message_name e with | some (.str _) => true | _ => false)
  | _ => false

/-- A valid wire message as C19/C02 quantify: an object with `jsonrpc:"2.0"`, an id that is a
string, an integer in the int64 range, or absent, and the member combination of a request or
notification (non-empty string method, no result/error) or of a response (id, no params, optional
result, optional valid error). -/
def validWire : JVal → Bool
  | .obj kvs =>
    (match lookup wireDecode_VersionTag_name kvs with | some (.str v) => v = wireVersion | _ => false) &&
    (match lookup wireDecode_ID_name kvs with
      | none => true
      | some (.str _) => true
      | some (.int n) => inInt64 n
      | _ => false) &&
    (match lookup wireDecode_Method_name kvs with
      | some (.str m) => m ≠ [] && (lookup wireDecode_Result_name kvs).isNone && (lookup wireDecode_Error_name kvs).isNone
      | some _ => false
      | none => (lookup wireDecode_ID_name kvs).isSome && (lookup wireDecode_Params_name kvs).isNone &&
          validErr (lookup wireDecode_Error_name kvs))
  | _ => false

/-- Member `k` of an `error` value. -/
def errOf (ev : Option JVal) (k : Bytes) : Option JVal :=
  match ev with
  | some (.obj e) => lookup k e
  | _ => none

/-- Member `k` of the `error` object of a wire message. -/
def errMember (k : Bytes) (w : List (Bytes × JVal)) : Option JVal :=
  errOf (lookup wireDecode_Error_name w) k

/-- The members C19 names: id, method, params, result, error code/message/data (and the tag). -/
structure Proj where
  tag : Option JVal
  id : Option JVal
  method : Option JVal
  params : Option JVal
  result : Option JVal
  errCode : Option JVal
  errMessage : Option JVal
  errData : Option JVal
deriving DecidableEq, Repr

def proj : JVal → Option Proj
  | .obj a => some {
      tag := lookup wireDecode_VersionTag_name a
      id := lookup wireDecode_ID_name a
      method := lookup wireDecode_Method_name a
      params := lookup wireDecode_Params_name a
      result := lookup wireDecode_Result_name a
      errCode := errMember WireError_Code_name a
      errMessage := errMember WireError_Message_name a
      errData := errMember WireError_Data_name a }
  | _ => none

/-! ## Error wrapping (`toWireError`) -/

/-- A Go error value as far as `toWireError` can see it: a `*WireError`, or any other error with
its full `Error()` text and the errors it wraps (`Unwrap() error` / `Unwrap() []error`). -/
inductive GoErr where
  | wire (w : WErr)
  | other (msg : Bytes) (wraps : List GoErr)
deriving Repr, Inhabited

mutual
/-- `errors.As(err, &*WireError)`: pre-order, depth-first. -/
def GoErr.firstWire : GoErr → Option WErr
  | .wire w => some w
  | .other _ ws => firstWireL ws
def firstWireL : List GoErr → Option WErr
  | [] => none
  | e :: t => match e.firstWire with
    | some w => some w
    | none => firstWireL t
end

def toWireError : GoErr → WErr
  | .wire w => w
  | .other msg ws =>
    { code := match firstWireL ws with
        | some w => w.code
        | none => 0
      message := msg, data := none }

/-- A linear chain `fmt.Errorf("m₁: %w", fmt.Errorf("m₂: %w", … wireErr))`. -/
def chain : List Bytes → WErr → GoErr
  | [], w => .wire w
  | m :: ms, w => .other m [chain ms w]


/-- The six member names `DecodeMessage` looks at. -/
def wireNames : List Bytes :=
  [wireDecode_VersionTag_name, wireDecode_ID_name, wireDecode_Method_name, wireDecode_Params_name,
   wireDecode_Result_name, wireDecode_Error_name]

/-- The three member names `DecodeMessage` looks at inside the `error` object. -/
def wireErrorNames : List Bytes := [WireError_Code_name, WireError_Message_name, WireError_Data_name]

end Wire
