import McpModel.Wire.Frame
/-! # E2 Wire — the stream under concurrent writers (`writeMu`): `CW.Inv` is kept by every choice of the scheduler -/
namespace Wire
theorem CW.step_inv (frames : List Bytes) (s : CW) (op : CWOp) (h : s.Inv frames) : (s.step op).Inv frames := by
  obtain ⟨done, pre, hout, hpre, hperm⟩ := h
  cases op with
  | acquire k =>
    simp only [CW.step]
    split
    · next w b hh hd =>
      have hw : s.waiting = s.waiting.take k ++ w :: b := by rw [← hd, List.take_append_drop]
      have hp0 := hpre hh
      subst hp0
      refine ⟨done, [], by simpa using hout, by simp, ?_⟩
      rw [hh] at hperm
      rw [hw] at hperm
      simp only [List.append_nil, List.map_append, List.map_cons, List.nil_append] at hperm ⊢
      refine List.Perm.trans ?_ hperm
      simp only [List.append_assoc]
      exact List.Perm.append_left done (by simpa using (List.perm_middle (a := w.flatten) (l₁ := List.map List.flatten (List.take k s.waiting)) (l₂ := List.map List.flatten b)).symm)
    · exact ⟨done, pre, hout, hpre, hperm⟩
  | piece =>
    simp only [CW.step]
    split
    · next p rest hh =>
      by_cases hr : rest = []
      · subst hr
        refine ⟨done ++ [pre ++ p], [], by simp [hout], by simp, ?_⟩
        rw [hh] at hperm
        simpa using hperm
      · refine ⟨done, pre ++ p, by simp [hout], by simp [hr], ?_⟩
        rw [hh] at hperm
        simpa [hr] using hperm
    · next hh =>
      refine ⟨done ++ [pre], [], by simp [hout], by simp, ?_⟩
      rw [hh] at hperm
      simpa using hperm
    · exact ⟨done, pre, hout, hpre, hperm⟩

theorem CW.run_inv (frames : List Bytes) (ops : List CWOp) : ∀ s : CW, s.Inv frames → (s.run ops).Inv frames := by
  induction ops with
  | nil => intro s h; exact h
  | cons op t ih => intro s h; exact ih _ (CW.step_inv frames s op h)

end Wire
