import McpModel.Wire.Clone
/-! # E2 Wire — the capabilities clones: the clone's cells are allocated above the original's heap (`cloneSlots_fresh`),
so it encodes like the original and a write through either value does not show in the other -/
namespace Wire

theorem cloneSlots_fresh (v : CSlots) (base a : Nat) (h : some a ∈ cloneSlots v base) : base ≤ a := by
  induction v generalizing base with
  | nil => simp [cloneSlots] at h
  | cons s t ih =>
    cases s with
    | none =>
      simp only [cloneSlots, List.mem_cons] at h
      rcases h with h | h
      · cases h
      · exact ih base h
    | some b =>
      simp only [cloneSlots, List.mem_cons] at h
      rcases h with h | h
      · injection h with h; omega
      · have := ih (base + 1) h; omega

theorem encSlots_prefix (v : CSlots) (h ext : Heap) (hw : wfSlots v h) : encSlots v (h ++ ext) = encSlots v h := by
  unfold encSlots
  apply List.map_congr_left
  intro s hs
  cases s with
  | none => rfl
  | some a =>
    have := hw a hs
    simp [List.getElem?_append_left this]

/-- `clone_same_encoding` for a clone that starts allocating at `base`, above cells `pre` already allocated:
the form the induction over the slots needs. -/
theorem encSlots_cloneSlots (v : CSlots) (h : Heap) (hw : wfSlots v h) : ∀ (pre : Heap) (base : Nat), base = (h ++ pre).length →
    encSlots (cloneSlots v base) (h ++ pre ++ copies v h) = encSlots v h := by
  induction v with
  | nil => intro _ _ _; rfl
  | cons s t ih =>
    intro pre base hb
    have hwt : wfSlots t h := fun a ha => hw a (List.mem_cons_of_mem _ ha)
    cases s with
    | none =>
      have := ih hwt pre base hb
      have hc : copies (none :: t) h = copies t h := by simp [copies]
      rw [hc]
      simp only [cloneSlots, encSlots, List.map_cons] at this ⊢
      rw [this]; rfl
    | some a =>
      have ha : a < h.length := hw a (by simp)
      have hget : h[a]? = some h[a] := by simp [ha]
      have hc : copies (some a :: t) h = h[a] :: copies t h := by simp [copies, hget]
      have := ih hwt (pre ++ [h[a]]) (base + 1) (by simp [hb]; omega)
      rw [hc]
      have e : h ++ pre ++ h[a] :: copies t h = h ++ (pre ++ [h[a]]) ++ copies t h := by simp
      rw [e]
      simp only [cloneSlots, encSlots, List.map_cons] at this ⊢
      rw [this]
      congr 1
      subst hb
      simp [hget]

theorem clone_same_encoding (v : CSlots) (h : Heap) (hw : wfSlots v h) :
    encSlots (cloneV v h).1 (cloneV v h).2 = encSlots v h := by
  have := encSlots_cloneSlots v h hw [] h.length (by simp)
  simpa [cloneV] using this

theorem encSlots_write_other (v : CSlots) (h : Heap) (a : Nat) (x : JVal) (ha : some a ∉ v) :
    encSlots v (writeCell h a x) = encSlots v h := by
  unfold encSlots writeCell
  apply List.map_congr_left
  intro s hs
  cases s with
  | none => rfl
  | some b => simp [List.getElem?_set_ne fun e : a = b => ha (e ▸ hs)]

/-- **clone_no_alias.** Whatever is written through ANY pointer or into ANY map of the clone, the original encodes as
before: no cell of the clone is a cell of the original. -/
theorem clone_no_alias (v : CSlots) (h : Heap) (hw : wfSlots v h) (a : Nat) (x : JVal) (ha : some a ∈ (cloneV v h).1) :
    encSlots v (writeCell (cloneV v h).2 a x) = encSlots v h := by
  rw [encSlots_write_other v _ a x fun hm => Nat.not_le.mpr (hw a hm) (cloneSlots_fresh v h.length a ha)]
  exact encSlots_prefix v h _ hw

/-- … and the other way round: a write through the original after the clone was taken does not show in the clone. -/
theorem clone_no_alias_rev (v : CSlots) (h : Heap) (hw : wfSlots v h) (a : Nat) (x : JVal) (ha : some a ∈ v) :
    encSlots (cloneV v h).1 (writeCell (cloneV v h).2 a x) = encSlots (cloneV v h).1 (cloneV v h).2 :=
  encSlots_write_other _ _ a x fun hm => Nat.not_le.mpr (hw a ha) (cloneSlots_fresh v h.length a hm)

/-- why every pointer / map member must be copied: a value that keeps a slot's address shares the cell -/
theorem shared_slot_aliases (h : Heap) (a : Nat) (x : JVal) (ha : a < h.length) (hx : h[a]? ≠ some x) :
    encSlots [some a] (writeCell h a x) ≠ encSlots [some a] h := by
  simp [encSlots, writeCell, ha]
  intro hh; apply hx; simp [ha, hh]

end Wire
