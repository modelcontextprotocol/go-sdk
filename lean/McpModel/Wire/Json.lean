/-!
# E2 Wire — JSON values (`JVal`)

The model starts at the *value* level: JSON text ⇄ value is the trusted library (DESIGN §3).
Strings are byte lists (Go strings are byte strings; the harness sends them hex-encoded).
Numbers keep the one syntactic distinction the code under study depends on: an integer literal
(`int`) versus a fractional/exponent form (`dec m e` = m·10^e) — the id decoder (`decodeID`, Msg.lean) parses
the former exactly and sends the latter through `float64`.
Core Lean only (linked into the driver).
-/
namespace Wire

abbrev Bytes := List UInt8

inductive JVal where
  | null
  | bool (b : Bool)
  | int (n : Int)
  | dec (m e : Int)
  | str (s : Bytes)
  | arr (l : List JVal)
  | obj (kvs : List (Bytes × JVal))
deriving Repr, Inhabited

namespace JVal

mutual
def beq : JVal → JVal → Bool
  | .null, .null => true
  | .bool a, .bool b => a == b
  | .int a, .int b => a == b
  | .dec a b, .dec c d => a == c && b == d
  | .str a, .str b => a == b
  | .arr a, .arr b => beqL a b
  | .obj a, .obj b => beqM a b
  | _, _ => false
def beqL : List JVal → List JVal → Bool
  | [], [] => true
  | a :: as, b :: bs => a.beq b && beqL as bs
  | _, _ => false
def beqM : List (Bytes × JVal) → List (Bytes × JVal) → Bool
  | [], [] => true
  | (k, a) :: as, (k', b) :: bs => k == k' && a.beq b && beqM as bs
  | _, _ => false
end

mutual
theorem eq_of_beq : ∀ (a b : JVal), a.beq b = true → a = b
  | .null, b, h => by cases b <;> simp [beq] at h ⊢
  | .bool x, b, h => by cases b <;> simp [beq] at h ⊢; exact h
  | .int x, b, h => by cases b <;> simp [beq] at h ⊢; exact h
  | .dec x y, b, h => by cases b <;> simp [beq] at h ⊢; exact h
  | .str x, b, h => by cases b <;> simp [beq] at h ⊢; exact h
  | .arr x, b, h => by
    cases b <;> simp [beq] at h ⊢
    exact eqL_of_beq _ _ h
  | .obj x, b, h => by
    cases b <;> simp [beq] at h ⊢
    exact eqM_of_beq _ _ h
theorem eqL_of_beq : ∀ (a b : List JVal), beqL a b = true → a = b
  | [], b, h => by cases b <;> simp [beqL] at h ⊢
  | x :: xs, b, h => by
    cases b with
    | nil => simp [beqL] at h
    | cons y ys =>
      simp [beqL] at h
      rw [eq_of_beq x y h.1, eqL_of_beq xs ys h.2]
theorem eqM_of_beq : ∀ (a b : List (Bytes × JVal)), beqM a b = true → a = b
  | [], b, h => by cases b <;> simp [beqM] at h ⊢
  | (k, x) :: xs, b, h => by
    cases b with
    | nil => simp [beqM] at h
    | cons y ys =>
      obtain ⟨k', y⟩ := y
      simp [beqM] at h
      rw [h.1.1, eq_of_beq x y h.1.2, eqM_of_beq xs ys h.2]
end

mutual
theorem beq_refl : ∀ (a : JVal), a.beq a = true
  | .null => by simp [beq]
  | .bool _ => by simp [beq]
  | .int _ => by simp [beq]
  | .dec _ _ => by simp [beq]
  | .str _ => by simp [beq]
  | .arr l => by simp [beq]; exact beqL_refl l
  | .obj m => by simp [beq]; exact beqM_refl m
theorem beqL_refl : ∀ (a : List JVal), beqL a a = true
  | [] => by simp [beqL]
  | x :: xs => by simp [beqL]; exact ⟨beq_refl x, beqL_refl xs⟩
theorem beqM_refl : ∀ (a : List (Bytes × JVal)), beqM a a = true
  | [] => by simp [beqM]
  | (k, x) :: xs => by simp [beqM]; exact ⟨beq_refl x, beqM_refl xs⟩
end

instance : DecidableEq JVal := fun a b =>
  if h : a.beq b = true then isTrue (eq_of_beq a b h)
  else isFalse (fun e => h (e ▸ beq_refl a))

instance : BEq JVal := ⟨beq⟩

instance : LawfulBEq JVal where
  rfl := beq_refl _
  eq_of_beq := eq_of_beq _ _

end JVal

/-- Results of the decoders are compared by the monitors and in closed examples; core has no such instance.
(The instance, like the two `@[simp]` lemmas after it, is global: every importer of this file gets them for every
`Except`.) -/
instance {ε α : Type} [DecidableEq ε] [DecidableEq α] : DecidableEq (Except ε α) := fun a b =>
  match a, b with
  | .ok x, .ok y => if h : x = y then isTrue (by rw [h]) else isFalse (by intro e; injection e; contradiction)
  | .error x, .error y => if h : x = y then isTrue (by rw [h]) else isFalse (by intro e; injection e; contradiction)
  | .ok _, .error _ => isFalse (by intro e; cases e)
  | .error _, .ok _ => isFalse (by intro e; cases e)

@[simp] theorem ok_bind {ε α β : Type} (a : α) (f : α → Except ε β) : (Except.ok a >>= f) = f a := rfl
@[simp] theorem error_bind {ε α β : Type} (e : ε) (f : α → Except ε β) :
    ((Except.error e : Except ε α) >>= f) = Except.error e := rfl

/-- Object member lookup by exact (case-sensitive) key; the LAST occurrence wins, as in Go's
decoders (probed: `{"id":1,"id":2}` decodes to id 2). -/
def lookup (k : Bytes) : List (Bytes × JVal) → Option JVal
  | [] => none
  | (k', v) :: t =>
    match lookup k t with
    | some w => some w
    | none => if k' = k then some v else none

/-- Members of a struct encoding: `none` = omitted. -/
def members (fs : List (Bytes × Option JVal)) : List (Bytes × JVal) :=
  fs.filterMap fun p => p.2.map fun v => (p.1, v)

end Wire
