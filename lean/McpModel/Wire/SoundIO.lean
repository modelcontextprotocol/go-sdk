import McpModel.Wire.Sound
/-!
# C19 / C01–C03 — clause soundness of the stateful `ioConn` monitor (`Mon.ioRead`, `Mon.ioWrite`)

The predicates are stated on the monitor's bookkeeping `IOMon` (fields: Monitor.lean) and on the observation of the
step.  No `IOState`, no `opRead` / `opWrite`.  Every field of `IOMon` is computed from the OBSERVED history alone
(`ioFeed`, `ioVer`, `ioRead`, `ioWrite`); that it holds what its comment says is read off those four functions, no
theorem states it, and the predicates share `frameElems`, `wellFormedBatch`, `sameMsgWire` and `msgMatchesWire` with
the monitor — for the `ioConn` records "written from the property text" reaches less far than for the stateless kinds.

At the end: the two stateless monitors of the `ioConn` records, `cwMonitor` (concurrent writers, `sound_cw`) and
`logMonitor` (`LoggingTransport`, `sound_log`).
-/
namespace Wire
namespace Mon
open Generated.Wire

/-- the elements that have to come out of `Read` next, in the order written: the rest of the frame last taken, else
the elements of the next frame -/
def expected (mon : IOMon) : List JVal :=
  match mon.mexpect with
  | _ :: _ => mon.mexpect
  | [] =>
    match mon.mwire with
    | raw :: _ => (frameElems raw).1
    | [] => []

/-- C19 "never panics", C02 "a reader that is gone answers no call": `Read` returns. -/
def P_readReturns (obs : ReadObs) : Prop := ∀ c, obs ≠ .crash c

theorem crash_reported (mon : IOMon) (c : Crash) :
    ∃ fr, (ioRead mon (.crash c)).2.v19 = some (.dtRead c fr) ∧ (ioRead mon (.crash c)).2.v02 = some (.readGone02 c fr) :=
  ⟨_, rfl, rfl⟩

theorem sound_readCrash (c : Crash) : ¬ P_readReturns (.crash c) := fun h => h c rfl

/-- C03 (and C19 `batch_roundtrip`): the messages of a frame come out of `Read` in the order in which they were
written — the message returned is never one of the LATER elements while it is not the next one. -/
def P_inOrder (mon : IOMon) (obs : ReadObs) : Prop :=
  ∀ m e rest, obs.msg? = some m → expected mon = e :: rest → validWire e = true →
    ¬ (sameMsgWire m e = false ∧ rest.any (sameMsgWire m) = true)

theorem inOrder_ooo (mon : IOMon) (obs : ReadObs) (hp : P_inOrder mon obs) (m : Msg) (e : JVal) (rest : List JVal)
    (hm : obs.msg? = some m) (he : expected mon = e :: rest) :
    (validWire e && outOfOrder sameMsgWire (e :: rest) m) = false := by
  cases ho : (validWire e && outOfOrder sameMsgWire (e :: rest) m) with
  | false => rfl
  | true =>
    rw [Bool.and_eq_true] at ho
    simp only [outOfOrder, Bool.and_eq_true, Bool.not_eq_true'] at ho
    exact absurd ho.2 (hp m e rest hm he ho.1)

theorem sound_order03 (mon : IOMon) (obs : ReadObs) (c : Clause) (h : (ioRead mon obs).2.v03 = some c) :
    ¬ P_inOrder mon obs := by
  intro hp
  -- the verdict is raised in two places, both on a message judged against `expected mon`
  have key : ∀ m e rest, obs.msg? = some m → expected mon = e :: rest →
      (if (validWire e && outOfOrder sameMsgWire (e :: rest) m) = true then some Clause.order03 else none) = some c → False := by
    intro m e rest hm he h
    rw [inOrder_ooo mon obs hp m e rest hm he] at h
    cases h
  obtain ⟨cap, mwire, mopen, mexpect, nb⟩ := mon
  cases obs with
  | crash cr => cases h
  | err k q => cases mexpect <;> cases mwire <;> cases h
  | msg mo q =>
    cases mo with
    | none => cases mexpect <;> cases mwire <;> cases h
    | some m =>
      cases mexpect with
      | cons e rest => exact key m e rest rfl rfl h
      | nil =>
        cases mwire with
        | nil => cases h
        | cons raw w =>
          cases raw with
          | arr l =>
            cases l with
            | nil => cases h
            | cons e rest => exact key m e rest rfl rfl h
          | _ => exact key m _ [] rfl rfl h

/-- C01+C02+C03: every message of a frame `Read` takes is handed to the connection — the first at once, the others
queued for the following reads; none is lost. -/
def P_nothingLost (mon : IOMon) (obs : ReadObs) : Prop :=
  mon.mexpect = [] → ∀ raw w, mon.mwire = raw :: w → ∀ m q, obs = .msg m q → q = (frameElems raw).1.length - 1

/-- C02: a well-formed frame (every element a valid wire message, call ids pairwise distinct and none still
unanswered in an open batch; no batch where batching is off) is accepted. -/
def P_acceptsWellFormed (mon : IOMon) (obs : ReadObs) : Prop :=
  mon.mexpect = [] → ∀ raw w, mon.mwire = raw :: w →
    wellFormedBatch mon.mopen (frameElems raw).1 = true → ((frameElems raw).2 && mon.mnoBatch) = false →
    ∃ m q, obs = .msg m q

theorem read02_fires (mon : IOMon) (obs : ReadObs) (c : Clause) (h : (ioRead mon obs).2.v02 = some c) :
    ¬ P_nothingLost mon obs ∨
      ((∀ n q, c ≠ .lost n q) ∧ (¬ P_readReturns obs ∨ ¬ P_acceptsWellFormed mon obs)) := by
  obtain ⟨cap, mwire, mopen, mexpect, nb⟩ := mon
  cases obs with
  | crash cr =>
    cases h
    exact .inr ⟨nofun, .inl (fun hp => hp cr rfl)⟩
  | msg mo q =>
    cases mexpect with
    | cons e rest => cases h
    | nil =>
      cases mwire with
      | nil => cases h
      | cons raw w =>
        refine .inl (fun hp => ?_)
        have hq : q = (frameElems raw).1.length - 1 := hp rfl raw w rfl mo q rfl
        simp only [ioRead, ReadObs.q, hq, bne_self_eq_false, Bool.false_eq_true, if_false, reduceCtorEq] at h
  | err k q =>
    cases mexpect with
    | cons e rest => cases h
    | nil =>
      cases mwire with
      | nil => cases h
      | cons raw w =>
        simp only [ioRead, ite_eq_some_iff, Option.some.injEq, reduceCtorEq, and_false, false_or, Bool.not_eq_true',
          Bool.not_eq_false, Bool.and_eq_true] at h
        obtain ⟨hwf, hc⟩ := h
        refine .inr ⟨?_, .inr (fun hp => ?_)⟩
        · rintro n q' rfl
          rcases hc with ⟨-, hc⟩ | ⟨-, hc⟩ <;> cases hc
        · obtain ⟨m, q', hq⟩ := hp rfl raw w rfl hwf.1 hwf.2
          cases hq

theorem sound_read02 (mon : IOMon) (obs : ReadObs) (c : Clause) (h : (ioRead mon obs).2.v02 = some c) :
    ¬ (P_readReturns obs ∧ P_nothingLost mon obs ∧ P_acceptsWellFormed mon obs) :=
  fun ⟨p1, p2, p3⟩ => (read02_fires mon obs c h).elim (· p2) (fun ⟨_, h'⟩ => h'.elim (· p1) (· p3))

theorem sound_lost (mon : IOMon) (obs : ReadObs) (n q : Nat) (h : (ioRead mon obs).2.v02 = some (.lost n q)) :
    ¬ P_nothingLost mon obs :=
  fun p2 => (read02_fires mon obs _ h).elim (· p2) (fun ⟨hne, _⟩ => hne n q rfl)

/-- C19 `batch_roundtrip`: the message returned carries the members of the element written (id, method, params,
result, error code / message / data). -/
def P_sameMessage (mon : IOMon) (obs : ReadObs) : Prop :=
  ∀ m e rest, obs.msg? = some m → expected mon = e :: rest → validWire e = true →
    ∃ a, proj e = some a ∧ proj (encodeMsg m) = some a

/-- … a queued message is returned … -/
def P_queuedReturned (mon : IOMon) (obs : ReadObs) : Prop :=
  mon.mexpect ≠ [] → ∃ m q, obs = .msg (some m) q

/-- … and at the end of the input `Read` reports the end. -/
def P_endReported (mon : IOMon) (obs : ReadObs) : Prop :=
  mon.mexpect = [] → mon.mwire = [] → ∃ q, obs = .err .eof q

theorem sameElem_some (m : Msg) (e : JVal) (w : Which) (c : Clause) (h : sameElem m e w = some c) :
    validWire e = true ∧ ¬ ∃ a, proj e = some a ∧ proj (encodeMsg m) = some a := by
  unfold sameElem at h
  by_cases hv : validWire e = true
  · refine ⟨hv, ?_⟩
    simp only [hv, Bool.not_true, Bool.false_eq_true, ite_false] at h
    cases hd : wireDiff e (encodeMsg m) with
    | none => simp [hd] at h
    | some f => exact wireDiff_some_of_ne e (encodeMsg m) f hd
  · simp [hv] at h

theorem sameMessage_elem (mon : IOMon) (obs : ReadObs) (hp : P_sameMessage mon obs) (m : Msg) (e : JVal) (rest : List JVal)
    (w : Which) (hm : obs.msg? = some m) (he : expected mon = e :: rest) : sameElem m e w = none := by
  cases hs : sameElem m e w with
  | none => rfl
  | some c =>
    obtain ⟨hv, hn⟩ := sameElem_some m e w c hs
    exact absurd (hp m e rest hm he hv) hn

theorem sound_read19 (mon : IOMon) (obs : ReadObs) (c : Clause) (h : (ioRead mon obs).2.v19 = some c) :
    ¬ (P_readReturns obs ∧ P_inOrder mon obs ∧ P_sameMessage mon obs ∧ P_queuedReturned mon obs ∧
       P_endReported mon obs ∧ P_nothingLost mon obs ∧ P_acceptsWellFormed mon obs) := by
  rintro ⟨hp1, hp2, hp3, hp4, hp5, hp6, hp7⟩
  -- a message returned in order and with the members of the next element written is judged fine
  have key : ∀ m e rest w, obs.msg? = some m → expected mon = e :: rest →
      (if (validWire e && outOfOrder sameMsgWire (e :: rest) m) = true then some Clause.order19 else sameElem m e w) = none := by
    intro m e rest w hm he
    rw [inOrder_ooo mon obs hp2 m e rest hm he, sameMessage_elem mon obs hp3 m e rest w hm he]
    rfl
  obtain ⟨cap, mwire, mopen, mexpect, nb⟩ := mon
  cases mexpect with
  | cons e rest =>
    obtain ⟨m, q, rfl⟩ := hp4 nofun
    exact nomatch (key m e rest .next rfl rfl).symm.trans h
  | nil =>
    cases mwire with
    | nil =>
      obtain ⟨q, rfl⟩ := hp5 rfl rfl
      cases h
    | cons raw w =>
      cases obs with
      | crash cr => exact hp1 cr rfl
      | err k q =>
        simp only [ioRead, ite_eq_some_iff, Option.some.injEq, reduceCtorEq, and_false, false_or, Bool.not_eq_true',
          Bool.not_eq_false, Bool.and_eq_true] at h
        obtain ⟨m, q', hq⟩ := hp7 rfl raw w rfl h.1.1 h.1.2
        cases hq
      | msg mo q =>
        have hq : q = (frameElems raw).1.length - 1 := hp6 rfl raw w rfl mo q rfl
        cases mo with
        | none =>
          simp only [ioRead, ReadObs.msg?, ReadObs.q, hq, bne_self_eq_false, Bool.and_false, Bool.false_eq_true, if_false,
            reduceCtorEq] at h
        | some m =>
          cases hel : (frameElems raw).1 with
          | nil =>
            simp only [ioRead, ReadObs.msg?, ReadObs.q, hq, hel, bne_self_eq_false, Bool.and_false, Bool.false_eq_true,
              if_false, reduceCtorEq] at h
          | cons e rest =>
            have := key m e rest .first rfl (by simp only [expected, hel])
            simp only [ioRead, ReadObs.msg?, ReadObs.q, hq, hel, this, bne_self_eq_false, Bool.and_false, Bool.false_eq_true,
              if_false, reduceCtorEq] at h

/-- C02 "exactly one response per call, batches answered as batches": what is written is what the slot specification
`specWrite` prescribes for the monitor's open batches (in words at `batch_exactly_once`) — except that a connection which
collects outgoing messages into batches of its own may hold a message due on its own back or send it in an array;
never a panic. -/
def P_batchReply (mon : IOMon) (m : Msg) (o : WriteObs) : Prop :=
  o.kind ≠ .panic ∧
  (match (specWrite (mon.mopen.map (·.slots)) m).2 with
    | .nothing => o.kind = .nothing
    | .single _ => o.kind = .single ∨ (mon.outCap > 0 ∧ (o.kind = .nothing ∨ o.kind = .array))
    | .array ms => o.kind = .array ∧ o.vals.length = ms.length ∧
        (List.zip ms o.vals).all (fun p => msgMatchesWire p.1 p.2) = true)

theorem sound_write02 (mon : IOMon) (m : Msg) (o : WriteObs) (c : Clause) (h : (ioWrite mon m o).2.v02 = some c) :
    ¬ P_batchReply mon m o := by
  rintro ⟨hp1, hp2⟩
  have hexp : (monWrite mon.mopen m).2.1 = (specWrite (mon.mopen.map (·.slots)) m).2 := rfl
  simp only [ioWrite, hexp, hp1, ite_false] at h
  cases hs : (specWrite (mon.mopen.map (·.slots)) m).2 with
  | nothing =>
    rw [hs] at hp2
    simp [hs, hp2] at h
  | single m' =>
    rw [hs] at hp2
    simp only [hs] at h
    rcases hp2 with hk | ⟨hc, hk⟩
    · simp [hk] at h
    · rcases hk with hk | hk <;> simp [hk, hc] at h
  | array ms =>
    rw [hs] at hp2
    obtain ⟨h1, h2, h3⟩ := hp2
    simp [hs, h1, h2, h3] at h

/-- C19: a message written on its own is written as the encoding of the message given, in one well-formed frame -/
def P_writtenAsGiven (m : Msg) (o : WriteObs) : Prop :=
  o.kind ≠ .panic ∧ o.kind ≠ .badframe ∧
  (o.kind = .single → ∃ v, o.vals = [v] ∧ ∃ a, proj v = some a ∧ proj (encodeMsg m) = some a)

theorem sound_write19 (mon : IOMon) (m : Msg) (o : WriteObs) (c : Clause) (h : (ioWrite mon m o).2.v19 = some c) :
    ¬ P_writtenAsGiven m o := by
  rintro ⟨hp1, hp2, hp3⟩
  simp only [ioWrite] at h
  cases hk : o.kind with
  | panic => exact hp1 hk
  | badframe => exact hp2 hk
  | single =>
    obtain ⟨v, hv, a, h1, h2⟩ := hp3 hk
    simp [hk, hv, wireDiff_none_of_proj v (encodeMsg m) a h1 h2] at h
  | nothing => simp [hk] at h
  | array => simp [hk] at h
  | other => simp [hk] at h

/-- the property on the stream after concurrent writes: `Write` returned in every goroutine, every line is
a JSON value of its own, and every message that goes out on its own is one of them, as given -/
def P_concurrentFramed (outCap : Nat) (msgs : List Msg) (o : CwObs) : Prop :=
  ∃ l, o = .lines l ∧ (∀ x ∈ l, x.isSome = true) ∧
    ∀ m ∈ msgs, onItsOwn outCap m = true → ∃ v, some v ∈ l ∧ ∃ a, proj v = some a ∧ proj (encodeMsg m) = some a

theorem sound_cw (outCap : Nat) (msgs : List Msg) (o : CwObs) (c : Clause) (h : cwMonitor outCap msgs o = some c) :
    ¬ P_concurrentFramed outCap msgs o := by
  rintro ⟨l, rfl, hall, hmem⟩
  simp only [cwMonitor] at h
  have h1 : l.any Option.isNone = false := by
    rw [List.any_eq_false]; intro x hx; have := hall x hx; cases x <;> simp at this ⊢
  simp only [h1] at h
  cases hf : msgs.find? (fun m => onItsOwn outCap m && !l.any (lineIs m)) with
  | none => simp [hf] at h
  | some m =>
    have hm := List.mem_of_find?_eq_some hf
    have hpr := List.find?_some hf
    simp only [Bool.and_eq_true, Bool.not_eq_true'] at hpr
    obtain ⟨v, hv, a, h1, h2⟩ := hmem m hm hpr.1
    have : l.any (lineIs m) = true := by
      rw [List.any_eq_true]
      exact ⟨some v, hv, by simp [lineIs, wireDiff_none_of_proj v (encodeMsg m) a h1 h2]⟩
    rw [this] at hpr; exact absurd hpr.2 (by simp)

/-- the log of a logging connection: one entry per message that passed, in order, each carrying an encoding
that agrees with the message in id, method, params, result and error -/
def P_logShows (passed : List Passed) (o : LogObs) : Prop :=
  ∃ l, o = .entries l ∧ l.length = passed.length ∧
    ∀ (i : Nat) (h1 : i < passed.length) (h2 : i < l.length), entryIs passed[i] l[i] = true

theorem entriesAre_of_pointwise : ∀ (ps : List Passed) (l : List (Option LogEntry)), l.length = ps.length →
    (∀ (i : Nat) (h1 : i < ps.length) (h2 : i < l.length), entryIs ps[i] l[i] = true) → entriesAre ps l = true
  | [], [], _, _ => rfl
  | [], _ :: _, hl, _ => nomatch hl
  | _ :: _, [], hl, _ => nomatch hl
  | p :: ps, e :: es, hl, h => by
    simp only [entriesAre, Bool.and_eq_true]
    exact ⟨h 0 (Nat.zero_lt_succ _) (Nat.zero_lt_succ _), entriesAre_of_pointwise ps es (Nat.succ.inj hl)
      (fun i h1 h2 => h (i + 1) (Nat.succ_lt_succ h1) (Nat.succ_lt_succ h2))⟩

theorem sound_log (passed : List Passed) (o : LogObs) (c : Clause) (h : logMonitor passed o = some c) :
    ¬ P_logShows passed o := by
  rintro ⟨l, rfl, hl, hf⟩
  simp [logMonitor, entriesAre_of_pointwise passed l hl hf] at h

end Mon
end Wire
