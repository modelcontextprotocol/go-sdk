import McpModel.Wire.Ref
import McpModel.Wire.LemmasJson
/-! # E2 Wire — the `CompleteReference` codec: `MarshalJSON` and `UnmarshalJSON` apply the same check (`refCheck`) to
the same three members, so each accepts exactly what the other produces -/
namespace Wire.L
open Wire Generated.Wire

theorem strField_strMember {k : Bytes} {kvs : List (Bytes × JVal)} {om : Bool} {s : Bytes}
    (h : lookup k kvs = strMember om s) : strField k kvs = .ok s := by
  rw [strField, h, strMember]
  by_cases hc : (om && decide (s = [])) = true
  · rw [if_pos hc, of_decide_eq_true ((Bool.and_eq_true _ _).mp hc).2]
  · rw [if_neg hc]

theorem completeReference_names : [CompleteReference_Type_name, CompleteReference_Name_name, CompleteReference_URI_name].Nodup := by
  decide

theorem checked_eq_ok {r r' : CRef} : checked r = .ok r' ↔ refCheck r = .ok () ∧ r' = r := by
  unfold checked
  cases refCheck r with
  | error e => simp
  | ok u => simp [eq_comm]

theorem decodeRef_fields (t n u : Bytes) :
    decodeRef (.obj (members [
      (CompleteReference_Type_name, strMember CompleteReference_Type_omit t),
      (CompleteReference_Name_name, strMember CompleteReference_Name_omit n),
      (CompleteReference_URI_name, strMember CompleteReference_URI_omit u)])) =
    checked ⟨t, n, u⟩ := by
  rw [decodeRef, strField_strMember (om := CompleteReference_Type_omit) (s := t) (lookup_struct completeReference_names _ ?_ ?_),
    strField_strMember (om := CompleteReference_Name_omit) (s := n) (lookup_struct completeReference_names _ ?_ ?_),
    strField_strMember (om := CompleteReference_URI_omit) (s := u) (lookup_struct completeReference_names _ ?_ ?_)]
  all_goals rfl

theorem ref_roundtrip (r : CRef) (v : JVal) (h : encodeRef r = .ok v) : decodeRef v = .ok r := by
  obtain ⟨t, n, u⟩ := r
  unfold encodeRef at h
  cases hc : refCheck ⟨t, n, u⟩ with
  | error e => simp [hc] at h
  | ok _ =>
    simp only [hc] at h
    injection h with h
    subst h
    rw [decodeRef_fields]; exact checked_eq_ok.mpr ⟨hc, rfl⟩

theorem refCheck_ok_iff (r : CRef) :
    refCheck r = .ok () ↔ ((r.typ = refPromptType ∧ r.uri = []) ∨ (r.typ = refResourceType ∧ r.name = [])) := by
  have hne : refPromptType ≠ refResourceType := by decide
  have hne' : refResourceType ≠ refPromptType := by decide
  unfold refCheck
  by_cases h1 : r.typ = refPromptType
  · by_cases h2 : r.uri = [] <;> simp [h1, h2, hne]
  · by_cases h1' : r.typ = refResourceType
    · by_cases h2 : r.name = [] <;> simp [h1', h2, hne']
    · simp [h1, h1']

theorem ref_encode_validates (r : CRef) :
    (∃ v, encodeRef r = .ok v) ↔ ((r.typ = refPromptType ∧ r.uri = []) ∨ (r.typ = refResourceType ∧ r.name = [])) := by
  rw [← refCheck_ok_iff]
  unfold encodeRef
  cases refCheck r <;> simp

theorem ref_decode_validates (v : JVal) (r : CRef) (h : decodeRef v = .ok r) :
    ∃ v', encodeRef r = .ok v' ∧ decodeRef v' = .ok r := by
  have hc : refCheck r = .ok () := by
    cases v with
    | obj kvs =>
      simp only [decodeRef] at h
      split at h
      · exact (checked_eq_ok.mp h).2 ▸ (checked_eq_ok.mp h).1
      · cases h
    | _ => simp [decodeRef] at h
  have : ∃ v', encodeRef r = .ok v' := by simp [encodeRef, hc]
  obtain ⟨v', hv⟩ := this
  exact ⟨v', hv, ref_roundtrip r v' hv⟩

theorem ref_decode_case_sensitive (n u : Bytes) :
    decodeRef (.obj [([84, 121, 112, 101], .str refPromptType), (CompleteReference_Name_name, .str n), (CompleteReference_URI_name, .str u)])
      = .error .unknownType := by
  simp [decodeRef, strField, lookup, checked, refCheck, refPromptType, refResourceType]

end Wire.L
