import McpModel.Wire.LemmasContent
/-!
# C19 — content theorems: `content_roundtrip`, `required_members_present` (with the F8 counter-examples),
and the required member of resource contents (F23)
-/
namespace Wire.L
open Wire Generated.Wire

theorem wc_text (t : Bytes) (m : Meta) (a : Option JVal) (ha : isObjOpt a = true) :
    wcOfJson (encodeContent (.text t m a)) = .ok (some (toWC (.text t m a))) := by
  rw [encodeContent, toWC]
  exact wcOfJson_obj <|
    step_some (set_type ..) <|
    step_str (set_text ..) <|
    step_meta rfl m rfl <| step_ann rfl a ha rfl <| wcFields_nil _

theorem wc_image (d mi : Bytes) (m : Meta) (a : Option JVal) (ha : isObjOpt a = true) :
    wcOfJson (encodeContent (.image d mi m a)) = .ok (some (toWC (.image d mi m a))) := by
  rw [encodeContent, toWC]
  exact wcOfJson_obj <|
    step_some (set_type ..) <|
    step_str (set_mime ..) <|
    step_str (set_data ..) <|
    step_meta rfl m rfl <| step_ann rfl a ha rfl <| wcFields_nil _

theorem wc_audio (d mi : Bytes) (m : Meta) (a : Option JVal) (ha : isObjOpt a = true) :
    wcOfJson (encodeContent (.audio d mi m a)) = .ok (some (toWC (.audio d mi m a))) := by
  rw [encodeContent, toWC]
  exact wcOfJson_obj <|
    step_some (set_type ..) <|
    step_str (set_mime ..) <|
    step_str (set_data ..) <|
    step_meta rfl m rfl <| step_ann rfl a ha rfl <| wcFields_nil _

theorem wc_link (uri name title desc mime : Bytes) (size : Option Int) (m : Meta) (a : Option JVal) (icons : List JVal)
    (ha : isObjOpt a = true) (hs : ∀ n, size = some n → inInt64 n = true) (hi : cAllObj icons = true) :
    wcOfJson (encodeContent (.link uri name title desc mime size m a icons)) =
      .ok (some (toWC (.link uri name title desc mime size m a icons))) := by
  rw [encodeContent, toWC]
  exact wcOfJson_obj <|
    step_some (set_type ..) <|
    step_str (set_mime ..) <|
    step_str (set_uri ..) <|
    step_str (set_name ..) <|
    step_str (set_title ..) <|
    step_str (set_description ..) <|
    step_size rfl size hs rfl <| step_meta rfl m rfl <| step_ann rfl a ha rfl <| step_icons rfl icons hi rfl <|
    wcFields_nil _

theorem wc_resource (r : Option JVal) (m : Meta) (a : Option JVal) (ha : isObjOpt a = true) (hr : isObjOpt r = true) :
    wcOfJson (encodeContent (.resource r m a)) = .ok (some (toWC (.resource r m a))) := by
  rw [encodeContent, toWC]
  exact wcOfJson_obj <|
    step_some (set_type ..) <|
    step_resource rfl r hr rfl <| step_meta rfl m rfl <| step_ann rfl a ha rfl <| wcFields_nil _

theorem wc_toolUse (id name : Bytes) (input m : Meta) :
    wcOfJson (encodeContent (.toolUse id name input m)) = .ok (some (toWC (.toolUse id name input m))) := by
  rw [encodeContent, toWC]
  exact wcOfJson_obj <|
    step_some (set_type ..) <|
    step_str (set_id ..) <|
    step_str (set_name ..) <|
    step_input rfl <| step_meta rfl m rfl <| wcFields_nil _

theorem wc_toolResult (tid : Bytes) (cs : List Content) (st : Option JVal) (ie : Bool) (m : Meta)
    (hst : ∀ v, st = some v → v ≠ .null) (ih : wcList (encodeContents cs) = .ok (toWCs cs)) :
    wcOfJson (encodeContent (.toolResult tid cs st ie m)) = .ok (some (toWC (.toolResult tid cs st ie m))) := by
  rw [encodeContent, toWC]
  exact wcOfJson_obj <|
    step_some (set_type ..) <|
    step_str (set_toolUseId ..) <|
    step_content rfl ih <|
    step_structured rfl st (fun h => hst _ h rfl) rfl <| step_isError rfl ie rfl <| step_meta rfl m rfl <|
    wcFields_nil _

mutual
/-- Step 1 of the round trip: the encoding of a well-formed content value unmarshals into the
`wireContent` value `toWC c` — at every nesting depth. -/
theorem wc_of_encode : ∀ (c : Content), wfContent c = true → wcOfJson (encodeContent c) = .ok (some (toWC c))
  | .text t m a, h => wc_text t m a (by simpa [wfContent] using h)
  | .image d mi m a, h => wc_image d mi m a (by simpa [wfContent] using h)
  | .audio d mi m a, h => wc_audio d mi m a (by simpa [wfContent] using h)
  | .link u n t d mi sz m a ic, h => by
    simp only [wfContent, Bool.and_eq_true] at h
    refine wc_link u n t d mi sz m a ic h.1.1 ?_ h.1.2
    intro k hk; subst hk; exact h.2
  | .resource r m a, h => by
    simp only [wfContent, Bool.and_eq_true] at h
    exact wc_resource r m a h.1 h.2
  | .toolUse id n inp m, _ => wc_toolUse id n inp m
  | .toolResult tid cs st ie m, h => by
    simp only [wfContent, Bool.and_eq_true] at h
    refine wc_toolResult tid cs st ie m ?_ (wcs_of_encode cs h.2)
    intro v hv hn; subst hv; subst hn; simp at h
theorem wcs_of_encode : ∀ (cs : List Content), wfNested cs = true → wcList (encodeContents cs) = .ok (toWCs cs)
  | [], _ => rfl
  | c :: t, h => by
    simp only [wfNested, Bool.and_eq_true] at h
    simp only [encodeContents, wcList, wc_of_encode c h.1.1, wcs_of_encode t h.2, ok_bind, toWCs]
end

theorem kinds_distinct : [kText, kImage, kAudio, kLink, kResource, kToolUse, kToolResult].Nodup := by decide

theorem fromWire_allowed (allow : Option (List Bytes)) (w : WCS) (nested : Option (List (Option WC)))
    (hal : allowed allow w.type = true) :
    contentFromWire allow (some (.mk w nested)) =
      if w.type = kText then .ok (.text w.text w.mta w.ann)
      else if w.type = kImage then .ok (.image w.data w.mime w.mta w.ann)
      else if w.type = kAudio then .ok (.audio w.data w.mime w.mta w.ann)
      else if w.type = kLink then .ok (.link w.uri w.name w.title w.description w.mime w.size w.mta w.ann w.icons)
      else if w.type = kResource then .ok (.resource w.resource w.mta w.ann)
      else if w.type = kToolUse then .ok (.toolUse w.id w.name w.input w.mta)
      else if w.type = kToolResult then
        match nested with
        | none => .ok (.toolResult w.toolUseId [] w.structured w.isError w.mta)
        | some ws => contentsFromWire allowNested ws >>= fun cs =>
            .ok (.toolResult w.toolUseId cs w.structured w.isError w.mta)
      else .error .unrecognized := by
  rw [contentFromWire.eq_def]
  simp only [hal, Bool.not_true, Bool.false_eq_true, ite_false]
  rfl

mutual
theorem fromWire_toWC : ∀ (allow : Option (List Bytes)) (c : Content), wfContent c = true →
    allowed allow c.kind = true → contentFromWire allow (some (toWC c)) = .ok c
  | allow, .text t m a, _, hal => by rw [toWC, fromWire_allowed _ _ _ hal]; rfl
  | allow, .image d mi m a, _, hal => by rw [toWC, fromWire_allowed _ _ _ hal]; rfl
  | allow, .audio d mi m a, _, hal => by rw [toWC, fromWire_allowed _ _ _ hal]; rfl
  | allow, .link u n t d mi sz m a ic, _, hal => by rw [toWC, fromWire_allowed _ _ _ hal]; rfl
  | allow, .resource r m a, _, hal => by rw [toWC, fromWire_allowed _ _ _ hal]; rfl
  | allow, .toolUse id n inp m, _, hal => by rw [toWC, fromWire_allowed _ _ _ hal]; rfl
  | allow, .toolResult tid cs st ie m, h, hal => by
    simp only [wfContent, Bool.and_eq_true] at h
    rw [toWC, fromWire_allowed _ _ _ hal]
    show (contentsFromWire allowNested (toWCs cs) >>= fun cs => _) = _
    rw [fromWires_toWCs cs h.2]; rfl
theorem fromWires_toWCs : ∀ (cs : List Content), wfNested cs = true →
    contentsFromWire allowNested (toWCs cs) = .ok cs
  | [], _ => by simp [toWCs, contentsFromWire]
  | c :: t, h => by
    simp only [wfNested, Bool.and_eq_true] at h
    simp only [toWCs, contentsFromWire, fromWire_toWC allowNested c h.1.1 h.1.2, fromWires_toWCs t h.2, ok_bind]
end

theorem content_roundtrip (allow : Option (List Bytes)) (c : Content) (h : wfContent c = true)
    (hal : allowed allow c.kind = true) : decodeContent allow (encodeContent c) = .ok c := by
  simp only [decodeContent, wc_of_encode c h, ok_bind, fromWire_toWC allow c h hal]

/-- … for lists of blocks (`CallToolResult.content`, the array form of `unmarshalContent`). -/
theorem contents_roundtrip (allow : Option (List Bytes)) :
    ∀ (cs : List Content), (∀ c ∈ cs, wfContent c = true ∧ allowed allow c.kind = true) →
      decodeContentList allow (.arr (encodeContents cs)) = .ok cs := by
  have key : ∀ (cs : List Content), (∀ c ∈ cs, wfContent c = true ∧ allowed allow c.kind = true) →
      wcList (encodeContents cs) = .ok (toWCs cs) ∧ contentsFromWire allow (toWCs cs) = .ok cs := by
    intro cs
    induction cs with
    | nil => intro _; exact ⟨rfl, by simp [toWCs, contentsFromWire]⟩
    | cons c t ih =>
      intro h
      obtain ⟨h1, h2⟩ := h c (by simp)
      obtain ⟨i1, i2⟩ := ih (fun x hx => h x (by simp [hx]))
      constructor
      · simp only [encodeContents, wcList, wc_of_encode c h1, i1, ok_bind, toWCs]
      · simp only [toWCs, contentsFromWire, fromWire_toWC allow c h1 h2, i2, ok_bind]
  intro cs h
  obtain ⟨k1, k2⟩ := key cs h
  simp only [decodeContentList, wcNested, k1, ok_bind, k2]

/-- Non-vacuity: an empty text nested in a tool_result next to an image without data. -/
example : wfContent (.toolResult [105] [.text [] [] none, .image [] [] [] none] none false []) = true := by decide

/-- What the domain excludes is really rejected: tool_use nested in tool_result. -/
example : decodeContent none (encodeContent (.toolResult [] [.toolUse [] [] [] []] none false [])) = .error .notAllowed := by
  have h1 := wc_toolUse [] [] [] []
  have h2 : wcList (encodeContents [.toolUse [] [] [] []]) = .ok (toWCs [.toolUse [] [] [] []]) := by
    simp only [encodeContents, wcList, h1, ok_bind, toWCs]
  have h3 := wc_toolResult [] [.toolUse [] [] [] []] none false [] (by intro v h; cases h) h2
  simp [decodeContent, h3, toWC, toWCs, contentFromWire, contentsFromWire, allowed, allowNested, kToolResult, kToolUse, kText,
    kImage, kAudio, kLink, kResource]

/-- What `reqOK` asks of a struct encoding whose member names are distinct, read off the members by name: the `type`
member is `ty`; `text` / `data` are strings where `ty` requires them; and either nothing is called `content` (and `ty`
is not `tool_result`), or `content` holds an array of blocks that are `reqOK`. -/
theorem reqOK_members {fs : List (Bytes × Option JVal)} {ty : Bytes} (hnd : (fs.map (·.1)).Nodup)
    (hty : fieldOf wireContent_Type_name fs = some (.str ty))
    (htext : ty = kText → isStr (fieldOf wireContent_Text_name fs) = true)
    (hdata : ty = kImage ∨ ty = kAudio → isStr (fieldOf wireContent_Data_name fs) = true)
    (hnest : (ty ≠ kToolResult ∧ wireContent_NestedContent_name ∉ fs.map (·.1)) ∨
      ∃ l, fieldOf wireContent_NestedContent_name fs = some (.arr l) ∧ reqList l = true) :
    reqOK (.obj (members fs)) = true := by
  simp only [reqOK, lookup_members_eq hnd, hty, Option.some.injEq, JVal.str.injEq, Bool.and_eq_true]
  refine ⟨⟨⟨?_, ?_⟩, ?_⟩, ?_⟩
  · split
    · next h => exact htext h
    · rfl
  · split
    · next h => exact hdata h
    · rfl
  · split
    · next h =>
      rcases hnest with ⟨hne, _⟩ | ⟨l, hl, _⟩
      · exact absurd h hne
      · rw [hasArr_eq, lookup_members_eq hnd, hl]; rfl
    · rfl
  · rw [reqMembers_iff]
    intro v hv
    rw [mem_members] at hv
    rcases hnest with ⟨_, hno⟩ | ⟨l, hl, hreq⟩
    · exact absurd (List.mem_map.mpr ⟨_, hv, rfl⟩) hno
    · have := (lookup_members hnd hv).symm.trans ((lookup_members_eq hnd _).trans hl)
      cases this
      exact hreq

theorem isStr_member_optStr (k : Bytes) {om : Bool} (h : om = false) (x : Bytes) :
    isStr (member k om (optStr x) (.str [])).2 = true := by
  rw [member_keep h]; unfold optStr; split <;> rfl

/-! The member names of each struct, with `content` in front where the struct has no such member. -/

theorem textWire_names : [wireContent_NestedContent_name, textWire_Type_name, textWire_Text_name, textWire_Meta_name,
    textWire_Annotations_name].Nodup := by decide

theorem imageAudioWire_names : [wireContent_NestedContent_name, imageAudioWire_Type_name, imageAudioWire_MIMEType_name,
    imageAudioWire_Data_name, imageAudioWire_Meta_name, imageAudioWire_Annotations_name].Nodup := by decide

theorem link_names : [wireContent_NestedContent_name, wireContent_Type_name, wireContent_MIMEType_name,
    wireContent_URI_name, wireContent_Name_name, wireContent_Title_name, wireContent_Description_name,
    wireContent_Size_name, wireContent_Meta_name, wireContent_Annotations_name, wireContent_Icons_name].Nodup := by decide

theorem resource_names : [wireContent_NestedContent_name, wireContent_Type_name, wireContent_Resource_name,
    wireContent_Meta_name, wireContent_Annotations_name].Nodup := by decide

theorem toolUseWire_names : [wireContent_NestedContent_name, toolUseWire_Type_name, toolUseWire_ID_name,
    toolUseWire_Name_name, toolUseWire_Input_name, toolUseWire_Meta_name].Nodup := by decide

theorem toolResultWire_names : [toolResultWire_Type_name, toolResultWire_ToolUseID_name, toolResultWire_Content_name,
    toolResultWire_StructuredContent_name, toolResultWire_IsError_name, toolResultWire_Meta_name].Nodup := by decide

mutual
theorem required_members_present : ∀ (c : Content), reqOK (encodeContent c) = true
  | .text t m a => by
    rw [encodeContent]
    exact reqOK_members (ty := kText) (List.nodup_cons.mp textWire_names).2 rfl
      (fun _ => isStr_member_optStr textWire_Text_name rfl t) (fun h => absurd h (by decide))
      (.inl ⟨by decide, (List.nodup_cons.mp textWire_names).1⟩)
  | .image d mi m a => by
    rw [encodeContent]
    exact reqOK_members (ty := kImage) (List.nodup_cons.mp imageAudioWire_names).2 rfl
      (fun h => absurd h (by decide)) (fun _ => isStr_member_optStr imageAudioWire_Data_name rfl d)
      (.inl ⟨by decide, (List.nodup_cons.mp imageAudioWire_names).1⟩)
  | .audio d mi m a => by
    rw [encodeContent]
    exact reqOK_members (ty := kAudio) (List.nodup_cons.mp imageAudioWire_names).2 rfl
      (fun h => absurd h (by decide)) (fun _ => isStr_member_optStr imageAudioWire_Data_name rfl d)
      (.inl ⟨by decide, (List.nodup_cons.mp imageAudioWire_names).1⟩)
  | .link u n t d mi sz m a ic => by
    rw [encodeContent]
    exact reqOK_members (ty := kLink) (List.nodup_cons.mp link_names).2 rfl
      (fun h => absurd h (by decide)) (fun h => absurd h (by decide))
      (.inl ⟨by decide, (List.nodup_cons.mp link_names).1⟩)
  | .resource r m a => by
    rw [encodeContent]
    exact reqOK_members (ty := kResource) (List.nodup_cons.mp resource_names).2 rfl
      (fun h => absurd h (by decide)) (fun h => absurd h (by decide))
      (.inl ⟨by decide, (List.nodup_cons.mp resource_names).1⟩)
  | .toolUse id n inp m => by
    rw [encodeContent]
    exact reqOK_members (ty := kToolUse) (List.nodup_cons.mp toolUseWire_names).2 rfl
      (fun h => absurd h (by decide)) (fun h => absurd h (by decide))
      (.inl ⟨by decide, (List.nodup_cons.mp toolUseWire_names).1⟩)
  | .toolResult tid cs st ie m => by
    rw [encodeContent]
    exact reqOK_members (ty := kToolResult) toolResultWire_names rfl
      (fun h => absurd h (by decide)) (fun h => absurd h (by decide))
      (.inr ⟨_, show (if cs = [] ∧ toolResultWire_Content_omit = true then none else some _) = _ from if_neg (by simp),
        required_members_present_list cs⟩)
theorem required_members_present_list : ∀ (cs : List Content), reqList (encodeContents cs) = true
  | [] => rfl
  | c :: t => by simp only [encodeContents, reqList, required_members_present c, required_members_present_list t, Bool.and_self]
end

/-- F8, counter-example on the nesting through `wireContent` (own output → `wireContent` → `omitempty`): an
empty text block loses `text`, an image without data loses `data`. -/
theorem f8_counterexample_text : (reencodeViaWire (.text [] [] none)).map reqOK = some false := by decide +kernel

theorem f8_counterexample_image : (reencodeViaWire (.image [] [105] [] none)).map reqOK = some false := by
  decide +kernel

theorem resourceContents_names : [ResourceContents_URI_name, ResourceContents_MIMEType_name,
    ResourceContents_Text_name, ResourceContents_Blob_name, ResourceContents_Meta_name].Nodup := by decide

theorem encodeResource_members (uri mime text : Bytes) (blob : Option Bytes) (m : Meta) :
    ∃ kvs, encodeResource uri mime text blob m = .obj kvs ∧ lookup ResourceContents_Text_name kvs = optStr text ∧
      lookup ResourceContents_Blob_name kvs = blob.map .str :=
  ⟨_, rfl, lookup_struct resourceContents_names _ rfl (member_omit rfl ResourceContents_Text_name _ _),
    lookup_struct resourceContents_names _ rfl (member_omit rfl ResourceContents_Blob_name _ _)⟩

theorem resource_text_present_partial (uri mime text : Bytes) (blob : Option Bytes) (m : Meta)
    (h : text ≠ [] ∨ blob.isSome = true) : resourceOK (encodeResource uri mime text blob m) = true := by
  obtain ⟨kvs, he, h1, h2⟩ := encodeResource_members uri mime text blob m
  rw [he, resourceOK, h1, h2, Bool.or_eq_true]
  rcases h with h | h
  · exact .inl (by rw [optStr, if_neg h]; rfl)
  · cases blob with
    | none => cases h
    | some b => exact .inr rfl

/-- F23, counter-example: an empty text resource is written as `{"uri":…}` — neither `text` nor `blob`. -/
theorem f23_counterexample : resourceOK (encodeResource [117] [] [] none []) = false := by decide

end Wire.L
