import McpModel.Wire.Ndjson
/-!
# C19 — `ndjson_roundtrip` at the byte level: the decoder reads the stream value by value
-/
namespace Wire
namespace L

/-- the scanner is deterministic on a prefix: what it consumes does not depend on what follows -/
theorem takeValue_append (s : Sc) (p r : Bytes) (h : takeValue s p = some (p, [])) :
    takeValue s (p ++ r) = some (p, r) := by
  induction p generalizing s with
  | nil => simp [takeValue] at h
  | cons b t ih =>
    simp only [takeValue] at h
    simp only [List.cons_append, takeValue]
    by_cases hd : (scStep s b).done = true
    · simp only [hd, ite_true, Option.some.injEq, Prod.mk.injEq, List.cons.injEq, true_and] at h
      simp [hd, h.1]
    · simp only [hd, Bool.false_eq_true, ite_false] at h ⊢
      cases ht : takeValue (scStep s b) t with
      | none => simp [ht] at h
      | some cr =>
        obtain ⟨c, r'⟩ := cr
        simp only [ht, Option.some.injEq, Prod.mk.injEq, List.cons.injEq, true_and] at h
        obtain ⟨rfl, rfl⟩ := h
        rw [ih (scStep s b) ht]

theorem dropWhile_ws (ws rest : Bytes) (h : ∀ b ∈ ws, isWs b = true) :
    (ws ++ rest).dropWhile isWs = rest.dropWhile isWs := by
  induction ws with
  | nil => rfl
  | cons b t ih =>
    have hb := h b (by simp)
    simp only [List.cons_append, List.dropWhile_cons, hb, ite_true]
    exact ih (fun x hx => h x (by simp [hx]))

theorem framed_spec (p : Bytes) (h : framed p = true) :
    ∃ b t, p = b :: t ∧ opensValue b = true ∧ takeValue {} p = some (p, []) := by
  simp only [framed, Bool.and_eq_true, beq_iff_eq] at h
  cases p with
  | nil => simp at h
  | cons b t => exact ⟨b, t, rfl, h.1, h.2⟩

theorem opens_not_ws (b : UInt8) (h : opensValue b = true) : isWs b = false := by
  simp only [opensValue, Bool.or_eq_true, decide_eq_true_eq] at h
  rcases h with rfl | rfl <;> decide

theorem lineSep_spec (ws : Bytes) (h : lineSep ws = true) :
    (∀ b ∈ ws, isWs b = true) ∧ ∃ c t, ws = c :: t ∧ (c = LF || c = CR) = true := by
  simp only [lineSep, Bool.and_eq_true, List.all_eq_true] at h
  refine ⟨h.1, ?_⟩
  cases ws with
  | nil => simp at h
  | cons c t => exact ⟨c, t, rfl, h.2⟩

theorem joinWs_length (l : List (Bytes × Bytes)) (h : ∀ q ∈ l, framed q.1 = true) : l.length ≤ (joinWs l).length := by
  induction l with
  | nil => simp [joinWs]
  | cons q t ih =>
    obtain ⟨p, ws⟩ := q
    obtain ⟨b, t', hp, _, _⟩ := framed_spec p (h (p, ws) (by simp))
    have := ih (fun x hx => h x (by simp [hx]))
    subst hp
    simp only [joinWs, List.length_cons, List.length_append]
    omega

theorem readStreamAux_step (n : Nat) (pre p ws rest : Bytes) (hpre : ∀ b ∈ pre, isWs b = true) (hp : framed p = true)
    (hws : lineSep ws = true) :
    readStreamAux (n + 1) (pre ++ (p ++ (ws ++ rest))) =
      (p :: (readStreamAux n (ws ++ rest)).1, (readStreamAux n (ws ++ rest)).2) := by
  obtain ⟨b, t, rfl, hb, ht⟩ := framed_spec p hp
  obtain ⟨_, c, t', rfl, hc⟩ := lineSep_spec ws hws
  simp only [readStreamAux]
  rw [dropWhile_ws pre _ hpre]
  simp only [List.cons_append, List.dropWhile_cons, opens_not_ws b hb, Bool.false_eq_true, ite_false, hb, ite_true]
  have := takeValue_append {} (b :: t) (c :: (t' ++ rest)) ht
  simp only [List.cons_append] at this
  rw [this]
  simp only [hc, ite_true]

theorem readStreamAux_ws (n : Nat) (ws : Bytes) (hws : ∀ b ∈ ws, isWs b = true) :
    readStreamAux (n + 1) ws = ([], .eof) := by
  simp only [readStreamAux]
  have := dropWhile_ws ws [] hws
  simp only [List.append_nil] at this
  rw [this]
  rfl

theorem readStreamAux_join (l : List (Bytes × Bytes)) (pre : Bytes) (n : Nat)
    (hf : ∀ q ∈ l, framed q.1 = true) (hw : ∀ q ∈ l, lineSep q.2 = true)
    (hpre : ∀ b ∈ pre, isWs b = true) (hn : l.length + 1 ≤ n) :
    readStreamAux n (pre ++ joinWs l) = (l.map (·.1), .eof) := by
  induction l generalizing pre n with
  | nil =>
    cases n with
    | zero => omega
    | succ n => simp only [joinWs, List.append_nil, readStreamAux_ws n pre hpre, List.map_nil]
  | cons q t ih =>
    obtain ⟨p, ws⟩ := q
    cases n with
    | zero => omega
    | succ n =>
      have hp := hf (p, ws) (by simp)
      have hs := hw (p, ws) (by simp)
      simp only [joinWs]
      rw [readStreamAux_step n pre p ws (joinWs t) hpre hp hs,
        ih ws n (fun x hx => hf x (by simp [hx])) (fun x hx => hw x (by simp [hx])) (lineSep_spec ws hs).1
          (by simp only [List.length_cons] at hn; omega)]
      rfl

theorem ndjson_stream_roundtrip (l : List (Bytes × Bytes)) (hf : ∀ q ∈ l, framed q.1 = true)
    (hw : ∀ q ∈ l, lineSep q.2 = true) :
    readStream (joinWs l) = (l.map (·.1), .eof) := by
  unfold readStream
  have hlen := joinWs_length l hf
  have := readStreamAux_join l [] ((joinWs l).length + 1) hf hw (by simp) (by omega)
  simpa using this

/-- the frames `ioConn.Write` produces: every payload followed by one LF -/
theorem frame_eq_joinWs (ps : List Bytes) : frame ps = joinWs (ps.map (fun p => (p, [LF]))) := by
  induction ps with
  | nil => rfl
  | cons p t ih => simp [frame, joinWs, ← ih]

theorem ndjson_roundtrip_bytes (ps : List Bytes) (h : ∀ p ∈ ps, framed p = true) :
    readStream (frame ps) = (ps, .eof) := by
  rw [frame_eq_joinWs]
  have := ndjson_stream_roundtrip (ps.map (fun p => (p, [LF])))
    (by intro q hq; simp only [List.mem_map] at hq; obtain ⟨p, hp, rfl⟩ := hq; exact h p hp)
    (by intro q hq; simp only [List.mem_map] at hq; obtain ⟨p, hp, rfl⟩ := hq; exact (by decide : lineSep [LF] = true))
  rw [this, List.map_map]
  exact congrArg (·, _) (List.map_id' ps)

end L
end Wire
