import McpModel.Wire.Input
/-!
# E2 Wire — `InputRequestMap.UnmarshalJSON`: a `null` entry is an error (F32), member names
are matched exactly, what is accepted names one of the three methods
-/
namespace Wire
namespace L
open Generated.Wire

theorem decodeInputEntries_null (a b : List (Bytes × JVal)) (k : Bytes) :
    decodeInputEntries (a ++ (k, .null) :: b) = .error () := by
  induction a with
  | nil => simp [decodeInputEntries, decodeInputEntry]
  | cons p a ih =>
    obtain ⟨pk, pv⟩ := p
    simp only [List.cons_append, decodeInputEntries, ih]
    cases decodeInputEntry pv <;> rfl

theorem input_requests_null_entry_rejected (a b : List (Bytes × JVal)) (k : Bytes) :
    decodeInputRequests (.obj (a ++ (k, .null) :: b)) = .error () :=
  decodeInputEntries_null a b k

theorem decodeInputEntry_ok (v : JVal) (m : Bytes) (h : decodeInputEntry v = .ok m) :
    m ∈ inputRequestMethods ∧ ∃ mem, v = .obj mem ∧ lookup irmRaw_Method_name mem = some (.str m) ∧
      paramsOK (lookup irmRaw_Params_name mem) = true := by
  cases v with
  | obj mem =>
    simp only [decodeInputEntry] at h
    split at h
    · rename_i m' hm
      split at h
      · rename_i hc
        cases h
        simp only [Bool.and_eq_true] at hc
        exact ⟨by simpa using hc.1, mem, rfl, hm, hc.2⟩
      · cases h
    · cases h
  | _ => simp [decodeInputEntry] at h

theorem decodeInputEntries_ok (kvs : List (Bytes × JVal)) (l : List (Bytes × Bytes)) (h : decodeInputEntries kvs = .ok l) :
    l.map (·.1) = kvs.map (·.1) ∧ ∀ p ∈ l, p.2 ∈ inputRequestMethods := by
  induction kvs generalizing l with
  | nil => simp [decodeInputEntries] at h; subst h; simp
  | cons p t ih =>
    obtain ⟨k, v⟩ := p
    simp only [decodeInputEntries] at h
    cases hv : decodeInputEntry v with
    | error e => simp [hv] at h
    | ok m =>
      cases ht : decodeInputEntries t with
      | error e => simp [hv, ht] at h
      | ok r =>
        simp [hv, ht] at h
        subst h
        obtain ⟨ih1, ih2⟩ := ih r ht
        refine ⟨by simp [ih1], ?_⟩
        intro q hq
        simp only [List.mem_cons] at hq
        rcases hq with rfl | hq
        · exact (decodeInputEntry_ok v m hv).1
        · exact ih2 q hq

end L
end Wire
