import McpModel.Wire.Json
namespace Wire

/-! # `ClientCapabilities.clone` / `ServerCapabilities.clone` (`mcp/protocol.go`): a copy that shares nothing mutable

A capabilities value reaches its mutable parts through pointers and maps: the members `clone` copies with
`shallowClone` / `maps.Clone` / `x := *p` (fact wire.clone_*: every pointer / map member of the struct is
listed).  Modelled as a heap of cells (the content of a pointed-to struct or of a map, as its encoding) and a
value holding, per such member (a *slot*), nil or the address of its cell.  `clone` allocates a fresh cell per
non-nil slot with the same content.  (Values INSIDE the Extensions / Experimental maps are shared by
design — "shallow-copied" — and are outside the slots.) -/

abbrev Heap := List JVal

/-- per slot: nil, or the address of its cell -/
abbrev CSlots := List (Option Nat)

/-- what an encoder sees of the value: the content of every slot -/
def encSlots (v : CSlots) (h : Heap) : List (Option JVal) := v.map (fun s => s.bind (fun a => h[a]?))

def wfSlots (v : CSlots) (h : Heap) : Prop := ∀ a, some a ∈ v → a < h.length

/-- the copies `clone` allocates, in slot order -/
def copies (v : CSlots) (h : Heap) : List JVal := v.filterMap (fun s => s.bind (fun a => h[a]?))

/-- the clone's slots: the k-th non-nil slot points to the k-th fresh cell, allocated from address `base` on -/
def cloneSlots : CSlots → Nat → CSlots
  | [], _ => []
  | none :: t, base => none :: cloneSlots t base
  | some _ :: t, base => some base :: cloneSlots t (base + 1)

/-- `clone`: the new value and the heap after it -/
def cloneV (v : CSlots) (h : Heap) : CSlots × Heap := (cloneSlots v h.length, h ++ copies v h)

/-- a write through a pointer / into a map: the cell at `a` gets new content -/
def writeCell (h : Heap) (a : Nat) (x : JVal) : Heap := h.set a x

end Wire
