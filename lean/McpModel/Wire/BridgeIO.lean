import McpModel.Wire.Bridge
import McpModel.Wire.SoundIO
/-!
# E2 Wire — `io_monitor_accepts_model`: the stateful `ioConn` monitor raises no clause on the model

The monitor's bookkeeping `IOMon` runs beside the model's `IOState` and the slot specification (`specRead` /
`specWrite`, `batch_exactly_once`); the statement is at `io_monitor_accepts_model`.

Invariant `Inv`: the refinement relation `L.Rel` (model ↔ slot specification) plus monitor ↔ model:
`mwire` = the model's unread frames, the slot lists of `mopen` = the specification's open batches, the
elements still expected decode to the model's queue.

One explicit, decidable hypothesis:
* `frameCallsAgree raw` for every fed frame: on every element the model decodes, the monitor's reading of
  "this is a call with id i" (`isCallW`: a `method` member and an id that is a string or an integer literal)
  agrees with the model's.  It is what one expects of frames of valid wire messages (ids that are strings or
  integer literals in the int64 range are decoded exactly, `id_echo_exact_wire`; the `example` below); it
  fails for ids in fractional / exponent / out-of-range form, which `MakeID` truncates to some integer and
  about which the property does not speak.  `io_monitor_needs_calls_agree` shows the hypothesis is needed (a latent
  false alarm of the monitor outside the generators' range).
The connection is built without an outgoing batch: `runAll {}` starts from `outCap = 0` on both sides (kept as
`Inv.cap` and in `L.Rel`; the SDK sets a capacity only in its own tests).

At the end: the stateless monitors of `io.cw` (`cw_monitor_accepts_model`, through `sound_cw`; for `outCap = 0` and runs
without a panic) and `io.log` (`log_monitor_accepts_model`, by induction over what passed).
-/
namespace Wire
namespace Mon
open Generated.Wire

def errKind : RErr → ErrKind
  | .eof => .eof
  | .dupInBatch => .dup
  | .seenId => .seen
  | _ => .other

/-- what the model shows for `io.read`: the message or the class of the error, and how many messages stay queued.
`opRead false`: `trackAll = false`, the tracking of calls only that /repo has (F2 fixed). -/
def modelRead (s : IOState) : ReadObs :=
  match (opRead false s).2 with
  | .msg m => .msg (some m) (opRead false s).1.queue.length
  | .err e => .err (errKind e) (opRead false s).1.queue.length

def wobs : WriteOut → WriteObs
  | .nothing => { kind := .nothing }
  | .single v => { kind := .single, vals := [v] }
  | .array vs => { kind := .array, vals := vs }
  | .panic => { kind := .panic }

def modelWrite (s : IOState) (m : Msg) : WriteObs := wobs (opWrite s m).2

/-- on an element the model decodes, the monitor reads the same call id as the model -/
def callAgrees (e : JVal) : Bool :=
  match decodeMsg e with
  | .ok (.request id _ _) => isCallW e == (if id ≠ .none then some id else none)
  | .ok (.response ..) => isCallW e == none
  | .error _ => true

def frameCallsAgree (raw : JVal) : Bool := (frameElems raw).1.all callAgrees

/-- model, slot specification and monitor bookkeeping side by side; `stepAll` is one label on all three — `feed` /
`setNoBatch` on the model by `ioStep`, which is what the `stepBoth` of `L.step_refines` does there (by `rfl`); `read` /
`write` by `opRead false` / `opWrite` and `specRead` / `specWrite` — with the monitor's verdicts on the model's
observation -/
structure St where
  s : IOState := {}
  sp : List Slots := []
  mon : IOMon := {}

def stepAll (st : St) : IOOp → St × Verd
  | .feed raw => ({ s := ioStep st.s (.feed raw), sp := st.sp, mon := ioFeed st.mon raw }, {})
  | .setNoBatch b => ({ s := ioStep st.s (.setNoBatch b), sp := st.sp, mon := ioVer st.mon b }, {})
  | .read =>
    ({ s := (opRead false st.s).1, sp := (specRead st.sp st.s).1, mon := (ioRead st.mon (modelRead st.s)).1 },
      (ioRead st.mon (modelRead st.s)).2)
  | .write m =>
    ({ s := (opWrite st.s m).1, sp := (specWrite st.sp m).1, mon := (ioWrite st.mon m (modelWrite st.s m)).1 },
      (ioWrite st.mon m (modelWrite st.s m)).2)

/-- the verdicts of the monitor along a run of the model -/
def runAll (st : St) : List IOOp → List Verd
  | [] => []
  | op :: t => (stepAll st op).2 :: runAll (stepAll st op).1 t

def Verd.clean (v : Verd) : Prop := v.v19 = none ∧ v.v02 = none ∧ v.v03 = none

structure Inv (st : St) : Prop where
  rel : L.Rel st.s st.sp
  wire : st.mon.mwire = st.s.wire
  open_ : st.mon.mopen.map (·.slots) = st.sp
  expect : decodeAll st.mon.mexpect = .ok st.s.queue
  noBatch : st.mon.mnoBatch = st.s.noBatch
  cap : st.mon.outCap = 0
  agree : ∀ raw ∈ st.s.wire, frameCallsAgree raw = true

theorem readBatch_eq (raw : JVal) :
    readBatch raw = if raw = .null ∨ (frameElems raw).1 = [] then .error .emptyBatch else
      match decodeAll (frameElems raw).1 with
      | .ok ms => .ok (ms, (frameElems raw).2)
      | .error e => .error (.decode e) := by
  cases raw with
  | null => rfl
  | arr l =>
    cases l with
    | nil => rfl
    | cons e t => simp only [readBatch, frameElems, reduceCtorEq, false_or, if_false]; cases decodeAll (e :: t) <;> rfl
  | _ => simp only [readBatch, frameElems, decodeAll]; cases decodeMsg _ <;> rfl

theorem readBatch_elems (raw : JVal) (msgs : List Msg) (b : Bool) (h : readBatch raw = .ok (msgs, b)) :
    b = (frameElems raw).2 ∧ decodeAll (frameElems raw).1 = .ok msgs := by
  rw [readBatch_eq] at h
  split at h
  · cases h
  · split at h <;> cases h
    exact ⟨rfl, ‹_›⟩

theorem wf_readBatch (raw : JVal) (mopen : List MBatch) (h : wellFormedBatch mopen (frameElems raw).1 = true) :
    ∃ msgs, readBatch raw = .ok (msgs, (frameElems raw).2) := by
  simp only [wellFormedBatch, Bool.and_eq_true, decide_eq_true_eq, List.all_eq_true] at h
  obtain ⟨⟨⟨hne, hv⟩, _⟩, _⟩ := h
  obtain ⟨ms, hms⟩ := L.decodeAll_valid _ (fun e he => (hv e he).1)
  have hn : raw ≠ .null := by
    rintro rfl
    exact absurd (hv .null (List.mem_singleton.mpr rfl)).1 (by decide)
  exact ⟨ms, by rw [readBatch_eq, if_neg (not_or.mpr ⟨hn, hne⟩), hms]⟩

theorem sameElem_ok (e : JVal) (m : Msg) (w : Which) (h : decodeMsg e = .ok m) : sameElem m e w = none := by
  unfold sameElem
  by_cases hv : validWire e = true
  · simp [hv, wireDiff_valid e hv m h]
  · simp [hv]

theorem ooo_false (e : JVal) (rest : List JVal) (m : Msg) (h : decodeMsg e = .ok m) :
    (validWire e && outOfOrder sameMsgWire (e :: rest) m) = false := by
  by_cases hv : validWire e = true
  · have hs : sameMsgWire m e = true := by simp [sameMsgWire, hv, wireDiff_valid e hv m h]
    rw [read_order_monitor_sound sameMsgWire e rest m hs, Bool.and_false]
  · simp [hv]

theorem calls_agree (elems : List JVal) (msgs : List Msg) (hd : decodeAll elems = .ok msgs)
    (ha : elems.all callAgrees = true) : elems.filterMap isCallW = callIds msgs := by
  induction elems generalizing msgs with
  | nil => simp [decodeAll] at hd; subst hd; rfl
  | cons e t ih =>
    cases msgs with
    | nil => have := L.decodeAll_length _ _ hd; simp at this
    | cons m q =>
      obtain ⟨e', rest', hl, hm, hr⟩ := L.decodeAll_cons_inv _ _ _ hd
      cases hl
      simp only [List.all_cons, Bool.and_eq_true] at ha
      have iht := ih q hr ha.2
      have hc := ha.1
      simp only [callAgrees, hm] at hc
      cases m with
      | request id meth p =>
        simp only [beq_iff_eq] at hc
        by_cases hid : id = .none
        · simp [hid] at hc
          simp [hc, callIds, hid, iht]
        · simp [hid] at hc
          simp [hc, callIds, hid, iht]
      | response id r er =>
        simp only [beq_iff_eq] at hc
        simp [hc, callIds, iht]

theorem zip_slots (l1 : List Slots) (l2 : List MBatch) (h : l1.length = l2.length) :
    ((List.zip l1 l2).map (fun p => ({ p.2 with slots := p.1 } : MBatch))).map (·.slots) = l1 := by
  induction l1 generalizing l2 with
  | nil => simp
  | cons a t ih =>
    cases l2 with
    | nil => simp at h
    | cons b u => simp [List.zip_cons_cons, ih u (by simpa using h)]

theorem specWrite_resp_shape (open_ : List MBatch) (id : Id) (r : Option JVal) (e : Option WErr) :
    (specWrite (open_.map (·.slots)) (.response id r e)).1.length = open_.length ∨
    ((specWrite (open_.map (·.slots)) (.response id r e)).1.length + 1 = open_.length ∧
      (specWrite (open_.map (·.slots)) (.response id r e)).1 = (dropPending id open_).map (·.slots)) := by
  induction open_ with
  | nil => left; rfl
  | cons b bs ih =>
    simp only [List.map_cons, specWrite, Msg.id]
    by_cases hp : slotPending b.slots id = true
    · simp only [hp, ite_true]
      by_cases hc : slotsComplete (fillSlot id (.response id r e) b.slots) = true
      · right
        simp [hc, dropPending, hp]
      · left
        simp [hc]
    · simp only [hp, Bool.false_eq_true, ite_false]
      rcases ih with h | ⟨h1, h2⟩
      · left; simp [h]
      · right
        refine ⟨by simp [h1], ?_⟩
        simp [dropPending, hp, h2]

theorem monWrite_slots (open_ : List MBatch) (msg : Msg) :
    (monWrite open_ msg).1.map (·.slots) = (specWrite (open_.map (·.slots)) msg).1 := by
  unfold monWrite
  simp only
  split
  · next h => exact zip_slots _ _ h
  · next h =>
    cases msg with
    | request id m p => exact absurd (by simp [specWrite]) h
    | response id r e =>
      rcases specWrite_resp_shape open_ id r e with h' | ⟨_, h2⟩
      · exact absurd h' h
      · simp only [h2]

theorem zip_all_matches (ms : List Msg) :
    (List.zip ms (ms.map encodeMsg)).all (fun p => msgMatchesWire p.1 p.2) = true := by
  induction ms with
  | nil => rfl
  | cons m t ih =>
    simp only [List.map_cons, List.zip_cons_cons, List.all_cons, ih, Bool.and_true]
    simp [msgMatchesWire, wireDiff_self_encode]

theorem ioWrite_clean (mon : IOMon) (sp : List Slots) (m : Msg) (x : WriteOut) (ho : mon.mopen.map (·.slots) = sp)
    (hm : x.matches (specWrite sp m).2 = true) : (ioWrite mon m (wobs x)).2.clean := by
  have hexp : (monWrite mon.mopen m).2.1 = (specWrite sp m).2 := by
    simp [monWrite, ho]
  cases x with
  | nothing =>
    cases hs : (specWrite sp m).2 <;> simp [hs, WriteOut.matches] at hm
    simp [ioWrite, hexp, hs, wobs, Verd.clean]
  | single v =>
    cases hs : (specWrite sp m).2 with
    | single m' =>
      simp [hs, WriteOut.matches] at hm
      have := L.specWrite_single_msg sp m m' hs
      subst this
      simp [ioWrite, hexp, hs, wobs, Verd.clean, hm, wireDiff_self_encode]
    | _ => simp [hs, WriteOut.matches] at hm
  | array vs =>
    cases hs : (specWrite sp m).2 with
    | array ms =>
      simp [hs, WriteOut.matches] at hm
      subst hm
      simp [ioWrite, hexp, hs, wobs, Verd.clean, zip_all_matches]
    | _ => simp [hs, WriteOut.matches] at hm
  | panic =>
    cases hs : (specWrite sp m).2 <;> simp [WriteOut.matches] at hm

theorem opRead_noBatch (s : IOState) : (opRead false s).1.noBatch = s.noBatch := by
  cases hq : s.queue with
  | cons m q => rw [L.opRead_queued false s m q hq]
  | nil =>
    cases hw : s.wire with
    | nil => rw [L.opRead_eof false s hq hw]
    | cons raw w => exact (L.opRead_taken false s raw w hq hw).2.1

theorem ioRead_queued (mon : IOMon) (e : JVal) (rest : List JVal) (m : Msg) (q : Nat)
    (hexp : mon.mexpect = e :: rest) (hm : decodeMsg e = .ok m) :
    ioRead mon (.msg (some m) q) = ({ mon with mexpect := rest }, {}) := by
  simp only [ioRead, hexp, ReadObs.msg?, ooo_false e rest m hm, sameElem_ok e m .next hm]
  rfl

theorem ioRead_end (mon : IOMon) (q : Nat) (hexp : mon.mexpect = []) (hw : mon.mwire = []) :
    ioRead mon (.err .eof q) = (mon, {}) := by
  simp only [ioRead, hexp, hw]

theorem ioRead_taken_msg (mon : IOMon) (raw : JVal) (w : List JVal) (e0 : JVal) (erest : List JVal) (m0 : Msg)
    (hexp : mon.mexpect = []) (hw : mon.mwire = raw :: w) (hel : (frameElems raw).1 = e0 :: erest)
    (hm : decodeMsg e0 = .ok m0) :
    ioRead mon (.msg (some m0) erest.length) =
      ({ mon with
          mwire := w, mexpect := ((frameElems raw).1.drop 1).take erest.length,
          mopen := if ((frameElems raw).2 && decide ((frameElems raw).1.filterMap isCallW ≠ [])) = true
            then mon.mopen ++ [{ slots := ((frameElems raw).1.filterMap isCallW).map (fun c => (c, none)),
                                 hasNotif := (frameElems raw).1.any isNotifW }]
            else mon.mopen }, {}) := by
  have h1 : (validWire e0 && outOfOrder sameMsgWire (e0 :: erest) m0) = false := ooo_false e0 erest m0 hm
  simp only [ioRead, hexp, hw, hel, ReadObs.msg?, ReadObs.q, h1, sameElem_ok e0 m0 .first hm, List.length_cons,
    Nat.add_sub_cancel, bne_self_eq_false, Bool.and_false, Bool.false_eq_true, ite_false, Option.isNone_none]
  split <;> rfl

theorem ioRead_taken_err (mon : IOMon) (raw : JVal) (w : List JVal) (k : ErrKind) (q : Nat)
    (hexp : mon.mexpect = []) (hw : mon.mwire = raw :: w)
    (hwf : (wellFormedBatch mon.mopen (frameElems raw).1 && !((frameElems raw).2 && mon.mnoBatch)) = false) :
    ioRead mon (.err k q) = ({ mon with mwire := w, mexpect := ((frameElems raw).1.drop 1).take q }, {}) := by
  simp only [ioRead, hexp, hw, hwf, ReadObs.q]
  simp

theorem clean_empty : ({} : Verd).clean := ⟨rfl, rfl, rfl⟩

theorem feed_inv (st : St) (h : Inv st) (raw : JVal) (ha : frameCallsAgree raw = true) :
    Inv (stepAll st (.feed raw)).1 ∧ (stepAll st (.feed raw)).2.clean := by
  refine ⟨⟨(L.step_refines (st.s, st.sp) h.rel (.feed raw)).1, ?_, h.open_, h.expect, h.noBatch, h.cap, ?_⟩, clean_empty⟩
  · simp [stepAll, ioFeed, ioStep, h.wire]
  · intro r hr
    simp only [stepAll, ioStep, List.mem_append, List.mem_singleton] at hr
    rcases hr with hr | rfl
    · exact h.agree r hr
    · exact ha

theorem ver_inv (st : St) (h : Inv st) (b : Bool) :
    Inv (stepAll st (.setNoBatch b)).1 ∧ (stepAll st (.setNoBatch b)).2.clean :=
  ⟨⟨(L.step_refines (st.s, st.sp) h.rel (.setNoBatch b)).1, h.wire, h.open_, h.expect, rfl, h.cap, h.agree⟩, clean_empty⟩

theorem write_inv (st : St) (h : Inv st) (m : Msg) :
    Inv (stepAll st (.write m)).1 ∧ (stepAll st (.write m)).2.clean := by
  obtain ⟨w1, w2⟩ := L.write_refines st.s st.sp h.rel m
  obtain ⟨k1, k2, k3, _⟩ := L.opWrite_keeps st.s m
  exact ⟨⟨w1, h.wire.trans k2.symm, (monWrite_slots st.mon.mopen m).trans (by rw [h.open_]; rfl), k1.symm ▸ h.expect,
    h.noBatch.trans k3.symm, h.cap, fun r hr => h.agree r (k2 ▸ hr)⟩,
    ioWrite_clean st.mon st.sp m _ h.open_ w2⟩

theorem pending_all (mopen : List MBatch) (c : Id) :
    mopen.all (fun b => !slotPending b.slots c) = !(mopen.map (·.slots)).any (fun sl => slotPending sl c) := by
  induction mopen with
  | nil => rfl
  | cons b u ihu => simp only [List.all_cons, List.map_cons, List.any_cons, Bool.not_or, ihu]

theorem pending_any (mopen : List MBatch) (calls : List Id) :
    calls.all (fun c => mopen.all (fun b => !slotPending b.slots c)) =
      !calls.any (fun c => (mopen.map (·.slots)).any (fun sl => slotPending sl c)) := by
  induction calls with
  | nil => rfl
  | cons c t ih =>
    rw [List.all_cons, List.any_cons, ih, Bool.not_or, pending_all]

theorem read_inv_of (st : St) (h : Inv st) (obs : ReadObs) (mon' : IOMon) (hmr : modelRead st.s = obs)
    (hio : ioRead st.mon obs = (mon', {}))
    (hw : mon'.mwire = (opRead false st.s).1.wire)
    (ho : mon'.mopen.map (·.slots) = (specRead st.sp st.s).1)
    (he : decodeAll mon'.mexpect = .ok (opRead false st.s).1.queue)
    (hb : mon'.mnoBatch = st.mon.mnoBatch) (hc : mon'.outCap = st.mon.outCap) :
    Inv (stepAll st .read).1 ∧ (stepAll st .read).2.clean := by
  have hs : stepAll st .read = ({ s := (opRead false st.s).1, sp := (specRead st.sp st.s).1, mon := mon' }, {}) := by
    simp only [stepAll, hmr, hio]
  rw [hs]
  exact ⟨⟨(L.read_refines st.s st.sp h.rel).1, hw, ho, he, hb.trans (h.noBatch.trans (opRead_noBatch st.s).symm),
    hc.trans h.cap, fun r hr => h.agree r (L.opRead_wire_sub st.s r hr)⟩, clean_empty⟩

/-- `hq` is the queue clause of `L.opRead_taken`, as it stands there -/
theorem taken_expect (raw : JVal) (nb : Bool) (q : List Msg)
    (hq : q = match readBatch raw with
      | .ok (_ :: rest, b) => if (b && nb) = true then [] else rest
      | _ => []) :
    decodeAll (((frameElems raw).1.drop 1).take q.length) = .ok q := by
  subst hq
  split
  · next m0 rest b hrb =>
    split
    · rfl
    · obtain ⟨e0, erest, hel, _, hr⟩ := L.decodeAll_cons_inv _ _ _ (readBatch_elems raw _ b hrb).2
      rw [hel, List.drop_succ_cons, List.drop_zero, L.decodeAll_length _ _ hr, List.take_length]
      exact hr
  · rfl

/-- a frame the monitor calls well-formed is one the specification hands a message out of: its elements decode, batching
is allowed, no two calls share an id and none is still pending -/
theorem spec_accepts (st : St) (h : Inv st) (raw : JVal) (w : List JVal) (hq : st.s.queue = []) (hw : st.s.wire = raw :: w)
    (hwf : (wellFormedBatch st.mon.mopen (frameElems raw).1 && !((frameElems raw).2 && st.mon.mnoBatch)) = true) :
    ∃ m, (specRead st.sp st.s).2 = .msg m := by
  rw [Bool.and_eq_true, Bool.not_eq_true'] at hwf
  obtain ⟨msgs, hrb⟩ := wf_readBatch raw st.mon.mopen hwf.1
  have hcalls := calls_agree _ _ (readBatch_elems raw msgs _ hrb).2 (h.agree raw (by simp [hw]))
  have hwf1 := hwf.1
  simp only [wellFormedBatch, Bool.and_eq_true, hcalls, pending_any, h.open_, Bool.not_eq_true'] at hwf1
  cases msgs with
  | nil => exact absurd rfl (read_batch_nonempty raw _ _ hrb)
  | cons m0 rest =>
    refine ⟨m0, ?_⟩
    simp only [specRead, hq, hw, hrb, h.noBatch ▸ hwf.2, Bool.false_eq_true, if_false, specAccept, hwf1.1.2, hwf1.2,
      Bool.not_true]
    split <;> rfl

theorem read_inv (st : St) (h : Inv st) : Inv (stepAll st .read).1 ∧ (stepAll st .read).2.clean := by
  have r2 := (L.read_refines st.s st.sp h.rel).2
  cases hq : st.s.queue with
  | cons m q =>
    have hop := read_queue_in_order st.s m q hq
    obtain ⟨e, rest, hl, hm, hr⟩ := L.decodeAll_cons_inv _ _ _ (hq ▸ h.expect)
    refine read_inv_of st h _ _ (by simp [modelRead, hop]) (ioRead_queued st.mon e rest m q.length hl hm) ?_ ?_ ?_ rfl rfl
    · rw [hop]; exact h.wire
    · simp only [specRead, hq]; exact h.open_
    · rw [hop]; exact hr
  | nil =>
    have hexp : st.mon.mexpect = [] := List.eq_nil_of_length_eq_zero (L.decodeAll_length _ [] (hq ▸ h.expect)).symm
    cases hw : st.s.wire with
    | nil =>
      have hop := L.opRead_eof false st.s hq hw
      refine read_inv_of st h _ _ (by simp [modelRead, hop, errKind, hq]) (ioRead_end st.mon 0 hexp (by rw [h.wire, hw]))
        ?_ ?_ ?_ rfl rfl
      · rw [hop]; exact h.wire
      · simp only [specRead, hq, hw]; exact h.open_
      · rw [hop]; exact h.expect
    | cons raw w =>
      obtain ⟨t1, _, t3, _⟩ := L.opRead_taken false st.s raw w hq hw
      have hmw : st.mon.mwire = raw :: w := by rw [h.wire, hw]
      have hx := taken_expect raw st.s.noBatch _ t3
      -- the specification returned an error: the monitor does not call the frame well-formed (`spec_accepts`)
      have errCase : ∀ (e : RErr), specRead st.sp st.s = (st.sp, .err e) →
          Inv (stepAll st .read).1 ∧ (stepAll st .read).2.clean := by
        intro e hs
        have hwf := Bool.eq_false_iff.mpr (fun hm => by
          obtain ⟨m, hm'⟩ := spec_accepts st h raw w hq hw hm
          rw [hs] at hm'; cases hm')
        exact read_inv_of st h _ _ (by simp [modelRead, r2, hs])
          (ioRead_taken_err st.mon raw w (errKind e) (opRead false st.s).1.queue.length hexp hmw hwf) t1.symm
          (by rw [hs]; exact h.open_) hx rfl rfl
      cases hrb : readBatch raw with
      | error e => exact errCase e (by simp only [specRead, hq, hw, hrb])
      | ok r =>
        obtain ⟨msgs, b⟩ := r
        obtain ⟨hb, hdec⟩ := readBatch_elems raw msgs b hrb
        cases msgs with
        | nil => exact absurd rfl (read_batch_nonempty raw _ b hrb)
        | cons m0 rest =>
          by_cases hnb : (b && st.s.noBatch) = true
          · exact errCase .noBatching (by simp [specRead, hq, hw, hrb, hnb])
          · obtain ⟨e0, erest, hel, hm0, hrest⟩ := L.decodeAll_cons_inv _ _ _ hdec
            have hqn : (opRead false st.s).1.queue.length = erest.length := by
              rw [t3, hrb]; simp [hnb, L.decodeAll_length erest rest hrest]
            have hcalls : (frameElems raw).1.filterMap isCallW = callIds (m0 :: rest) :=
              calls_agree _ _ hdec (h.agree raw (by simp [hw]))
            -- the specification returned the first message: batches with calls are opened on both sides
            have msgCase : ∀ sp', specRead st.sp st.s = (sp', .msg m0) →
                sp' = (if (b && !(callIds (m0 :: rest)).isEmpty) = true
                  then st.sp ++ [(callIds (m0 :: rest)).map (fun c => (c, none))] else st.sp) →
                Inv (stepAll st .read).1 ∧ (stepAll st .read).2.clean := by
              intro sp' hs hsp
              refine read_inv_of st h _ _ (by simp [modelRead, r2, hs, hqn])
                (ioRead_taken_msg st.mon raw w e0 erest m0 hexp hmw hel hm0) t1.symm ?_ (hqn ▸ hx) rfl rfl
              rw [hs, hsp, ← h.open_, ← hb, hcalls]
              cases callIds (m0 :: rest) <;> cases b <;> simp
            cases b with
            | false => exact msgCase st.sp (by simp [specRead, hq, hw, hrb]) rfl
            | true =>
              have hnb' : st.s.noBatch = false := by simpa using hnb
              by_cases hd : nodupB (callIds (m0 :: rest)) = true
              · by_cases hs : (callIds (m0 :: rest)).any (fun c => st.sp.any (fun sl => slotPending sl c)) = true
                · exact errCase .seenId (by simp [specRead, specAccept, hq, hw, hrb, hnb', hd, hs])
                · exact msgCase (if (callIds (m0 :: rest)).isEmpty = true then st.sp
                      else st.sp ++ [(callIds (m0 :: rest)).map (fun c => (c, none))])
                    (by simp only [specRead, specAccept, hq, hw, hrb, hnb', hd, hs, Bool.and_false, Bool.false_eq_true,
                      ite_false, ite_true, Bool.not_true])
                    (by cases callIds (m0 :: rest) <;> rfl)
              · exact errCase .dupInBatch (by simp [specRead, specAccept, hq, hw, hrb, hnb', hd])

theorem step_inv (st : St) (h : Inv st) (op : IOOp) (ha : ∀ raw, op = .feed raw → frameCallsAgree raw = true) :
    Inv (stepAll st op).1 ∧ (stepAll st op).2.clean := by
  cases op with
  | feed raw => exact feed_inv st h raw (ha raw rfl)
  | setNoBatch b => exact ver_inv st h b
  | read => exact read_inv st h
  | write m => exact write_inv st h m

theorem inv_init : Inv {} :=
  ⟨L.rel_init, rfl, rfl, rfl, rfl, rfl, by intro r hr; simp at hr⟩

/-- **io_monitor_accepts_model** (C19 `batch_roundtrip` / `ndjson_roundtrip` / `decode_total`, C02
`batch_exactly_once`, C03 `batch_read_order`, and the C01+C02+C03 clause on lost messages).  For EVERY
sequence of labels on a fresh `ioConn` — frames of any shape and number, `Read`s, `Write`s of any message in
any order, version changes — in which every fed frame satisfies `frameCallsAgree` (the monitor reads the call
ids of the frame as the model decodes them), the stateful monitor
raises NONE of its verdicts on the typed observations of the model: not under C19, not under C02, not under
C03. -/
theorem io_monitor_accepts_model (ops : List IOOp) (hops : ∀ raw ∈ fedFrames ops, frameCallsAgree raw = true) :
    ∀ v ∈ runAll {} ops, v.clean := by
  have key : ∀ (ops : List IOOp) (st : St), Inv st → (∀ raw ∈ fedFrames ops, frameCallsAgree raw = true) →
      ∀ v ∈ runAll st ops, v.clean := by
    intro ops
    induction ops with
    | nil => intro st _ _ v hv; simp [runAll] at hv
    | cons op t ih =>
      intro st h hf v hv
      obtain ⟨h1, h2⟩ := step_inv st h op (by
        intro raw he; subst he; exact hf raw (by simp [fedFrames]))
      simp only [runAll, List.mem_cons] at hv
      rcases hv with rfl | hv
      · exact h2
      · refine ih _ h1 ?_ v hv
        intro raw hr
        cases op <;> simp only [fedFrames] at hf <;> first | exact hf raw (by simp [hr]) | exact hf raw hr
  exact key ops {} inv_init hops

/-- whichever property the stream is run for, nothing is reported -/
theorem io_monitor_silent (ops : List IOOp) (hops : ∀ raw ∈ fedFrames ops, frameCallsAgree raw = true)
    (pid : Pid) (also03 : Bool) : ∀ v ∈ runAll {} ops, v.select pid also03 = none ∧ v.selectWrite pid = none := by
  intro v hv
  obtain ⟨h1, h2, h3⟩ := io_monitor_accepts_model ops hops v hv
  cases pid <;> cases also03 <;> simp [Verd.select, Verd.selectWrite, h1, h2, h3]

def w15 : JVal :=
  .obj [(wireDecode_VersionTag_name, .str wireVersion), (wireDecode_ID_name, .dec 15 (-1)), (wireDecode_Method_name, .str [109])]

/-- `[{"jsonrpc":"2.0","id":1.5,"method":"m"}]`, read, then the response to id 1: `MakeID` truncates 1.5 to 1, the
model tracks call 1 and flushes the array; the monitor saw no call (1.5 is no integer literal) and reports
`notOnItsOwn` — on the model's own behaviour.  Outside the property's domain (ids are strings or integers). -/
theorem io_monitor_needs_calls_agree :
    frameCallsAgree (.arr [w15]) = false ∧
    (runAll {} [.feed (.arr [w15]), .read, .write (.response (.int 1) (some .null) none)]).map (·.v02) =
      [none, none, some .notOnItsOwn] := by
  decide +kernel

example : frameCallsAgree (.arr [wNotif, wCall5, .null, .arr []]) = true := by decide +kernel

/-- what `io.cw` observes of the model: the frames of the calls, each a line of its own -/
def modelCw (s : IOState) (msgs : List Msg) : CwObs :=
  if (cwRun s msgs).2.contains .panic then .crash .panic
  else .lines ((cwLines (cwRun s msgs).2).map some)

theorem cwRun_request_mem (msgs : List Msg) : ∀ (s : IOState), s.outCap = 0 →
    (cwRun s msgs).2.contains .panic = false →
    ∀ m ∈ msgs, onItsOwn 0 m = true → encodeMsg m ∈ cwLines (cwRun s msgs).2 := by
  induction msgs with
  | nil => intro s _ _ m hm; cases hm
  | cons a t ih =>
    intro s hc hnp m hm ho
    simp only [cwRun, List.contains_cons, Bool.or_eq_false_iff] at hnp
    have hp : s.panicked = false := by
      cases hp : s.panicked with
      | false => rfl
      | true => rw [L.opWrite_of_panicked s a hp] at hnp; cases hnp.1
    have ih' := ih (opWrite s a).1 (by rw [(L.opWrite_keeps s a).2.2.2, hc]) hnp.2
    simp only [cwRun, cwLines, List.filterMap_cons]
    rcases List.mem_cons.mp hm with rfl | hm
    · cases m with
      | request id me p =>
        rw [L.opWrite_request_single s hp hc]
        simp [WriteOut.frame]
      | response => simp [onItsOwn] at ho
    · have := ih' m hm ho
      unfold cwLines at this
      cases hf : (opWrite s a).2.frame <;> simp [this]

theorem cw_monitor_accepts_model (s : IOState) (hp : s.panicked = false) (hc : s.outCap = 0) (msgs : List Msg)
    (hnp : (cwRun s msgs).2.contains .panic = false) :
    cwMonitor 0 msgs (modelCw s msgs) = none := by
  refine silent_of_sound (sound_cw 0 msgs _) ⟨_, by simp only [modelCw, hnp]; rfl, ?_, fun m hm ho => ?_⟩
  · intro x hx
    obtain ⟨v, _, rfl⟩ := List.mem_map.mp hx
    rfl
  · obtain ⟨kvs, hk⟩ := encodeMsg_obj m
    obtain ⟨a, ha⟩ := proj_obj kvs
    exact ⟨_, List.mem_map_of_mem (cwRun_request_mem msgs s hc hnp m hm ho), a, hk ▸ ha, hk ▸ ha⟩

/-- what the driver's list `passed` holds when the implementation does what the model does (the rule of the `io.read` /
`io.write` arms of `stepWire`, written again: the model's writes neither fail nor hang, so only `panic` leaves no entry) -/
def passedOf : List LogEv → List Passed
  | [] => []
  | .read (.msg m) :: t => .read m :: passedOf t
  | .read (.err _) :: t => .readErr :: passedOf t
  | .write m o :: t => if o = .panic then passedOf t else .write m :: passedOf t

theorem log_monitor_accepts_model (evs : List LogEv) :
    logMonitor (passedOf evs) (.entries ((logOf evs).map some)) = none := by
  have h : entriesAre (passedOf evs) ((logOf evs).map some) = true := by
    induction evs with
    | nil => rfl
    | cons e t ih =>
      cases e with
      | read o => cases o <;> simp [passedOf, logOf, logRead, entriesAre, entryIs, wireDiff_self_encode, ih]
      | write m o =>
        by_cases hp : o = .panic
        · simp [passedOf, logOf, logWrite, hp, ih]
        · simp [passedOf, logOf, logWrite, hp, entriesAre, entryIs, wireDiff_self_encode, ih]
  simp [logMonitor, h]

end Mon
end Wire
