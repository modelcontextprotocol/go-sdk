import McpModel.Wire.Frame
import McpModel.Wire.LemmasMsg
/-!
# E2 Wire — `ioConn.Read` / `ioConn.Write` apart from the batch bookkeeping

What `opRead` and `opWrite` do to the queue, the stream and the flags, in either tracking mode; `decodeAll`
element by element.
-/
namespace Wire.L
open Wire Generated.Wire

theorem decodeAll_cons_ok (v : JVal) (t : List JVal) (ms : List Msg) :
    decodeAll (v :: t) = .ok ms ↔ ∃ m q, decodeMsg v = .ok m ∧ decodeAll t = .ok q ∧ ms = m :: q := by
  rw [decodeAll]
  cases decodeMsg v with
  | error e => simp
  | ok m => cases decodeAll t <;> simp [eq_comm]

theorem decodeAll_length (l : List JVal) (ms : List Msg) (h : decodeAll l = .ok ms) : ms.length = l.length := by
  induction l generalizing ms with
  | nil => cases h; rfl
  | cons v t ih =>
    obtain ⟨m, q, -, hq, rfl⟩ := (decodeAll_cons_ok v t ms).mp h
    rw [List.length_cons, List.length_cons, ih q hq]

theorem decodeAll_encode (ms : List Msg) (h : ∀ m ∈ ms, wfMsg m = true) : decodeAll (ms.map encodeMsg) = .ok ms := by
  induction ms with
  | nil => rfl
  | cons m t ih =>
    exact (decodeAll_cons_ok ..).mpr ⟨m, t, decode_encode_msg m (h m (.head _)), ih fun x hx => h x (.tail _ hx), rfl⟩

theorem decodeAll_cons_inv (l : List JVal) (m : Msg) (q : List Msg) (h : decodeAll l = .ok (m :: q)) :
    ∃ e rest, l = e :: rest ∧ decodeMsg e = .ok m ∧ decodeAll rest = .ok q := by
  cases l with
  | nil => cases h
  | cons e rest =>
    obtain ⟨m', q', hm, hq, he⟩ := (decodeAll_cons_ok e rest _).mp h
    cases he
    exact ⟨e, rest, rfl, hm, hq⟩

theorem decodeAll_valid (l : List JVal) (h : ∀ e ∈ l, validWire e = true) : ∃ ms, decodeAll l = .ok ms := by
  induction l with
  | nil => exact ⟨[], rfl⟩
  | cons e t ih =>
    obtain ⟨m, hm, _⟩ := encode_decode_preserves e (h e (.head _))
    obtain ⟨ms, hms⟩ := ih (fun x hx => h x (.tail _ hx))
    exact ⟨m :: ms, (decodeAll_cons_ok e t _).mpr ⟨m, ms, hm, hms, rfl⟩⟩

theorem addBatch_keeps (s s' : IOState) (b : Batch) (h : addBatch s b = .ok s') :
    s'.queue = s.queue ∧ s'.wire = s.wire ∧ s'.noBatch = s.noBatch := by
  unfold addBatch at h
  split at h
  · cases h
  · cases h; exact ⟨rfl, rfl, rfl⟩

theorem opRead_queued (ta : Bool) (s : IOState) (m : Msg) (q : List Msg) (hq : s.queue = m :: q) :
    opRead ta s = ({ s with queue := q }, .msg m) := by
  simp only [opRead, hq]

theorem opRead_eof (ta : Bool) (s : IOState) (hq : s.queue = []) (hw : s.wire = []) : opRead ta s = (s, .err .eof) := by
  simp only [opRead, hq, hw]

theorem opRead_taken (ta : Bool) (s : IOState) (raw : JVal) (w : List JVal) (hq : s.queue = []) (hw : s.wire = raw :: w) :
    (opRead ta s).1.wire = w ∧ (opRead ta s).1.noBatch = s.noBatch ∧
    (opRead ta s).1.queue = (match readBatch raw with
      | .ok (_ :: rest, b) => if (b && s.noBatch) = true then [] else rest
      | _ => []) ∧
    ∀ m, (opRead ta s).2 = .msg m → ∃ rest b, readBatch raw = .ok (m :: rest, b) ∧ (b && s.noBatch) = false := by
  unfold opRead
  rw [hq, hw]
  dsimp only
  cases readBatch raw with
  | error e => exact ⟨rfl, rfl, rfl, fun _ h => nomatch h⟩
  | ok r =>
    obtain ⟨msgs, b⟩ := r
    dsimp only
    by_cases hnb : (b && s.noBatch) = true
    · rw [if_pos hnb]
      exact ⟨rfl, rfl, by cases msgs <;> simp only [hnb, ite_true], fun _ h => nomatch h⟩
    · rw [if_neg hnb]
      cases msgs with
      | nil => exact ⟨rfl, rfl, rfl, fun _ h => nomatch h⟩
      | cons m0 rest =>
        have hm : ∀ m, ReadOut.msg m0 = .msg m → ∃ rest' b', (Except.ok (m0 :: rest, b) : Except RErr _) = .ok (m :: rest', b') ∧
            (b' && s.noBatch) = false := fun m h => ⟨rest, b, by cases h; rfl, Bool.not_eq_true _ ▸ hnb⟩
        dsimp only
        rw [if_neg hnb]
        cases b with
        | false => exact ⟨rfl, rfl, rfl, hm⟩
        | true =>
          rw [if_pos rfl]
          cases trackLoop ta (m0 :: rest) { unresolved := [], responses := [] } with
          | error e => exact ⟨rfl, rfl, rfl, fun _ h => nomatch h⟩
          | ok bb =>
            dsimp only
            split
            · exact ⟨rfl, rfl, rfl, hm⟩
            · split
              · exact ⟨rfl, rfl, rfl, fun _ h => nomatch h⟩
              · next s' hab =>
                obtain ⟨h1, h2, h3⟩ := addBatch_keeps _ _ _ hab
                exact ⟨h2, h3, h1, hm⟩

theorem opWrite_keeps (s : IOState) (m : Msg) :
    (opWrite s m).1.queue = s.queue ∧ (opWrite s m).1.wire = s.wire ∧ (opWrite s m).1.noBatch = s.noBatch ∧
      (opWrite s m).1.outCap = s.outCap := by
  unfold opWrite
  dsimp only
  repeat' split
  all_goals exact ⟨rfl, rfl, rfl, rfl⟩

theorem opRead_wire_sub (s : IOState) (r : JVal) (hr : r ∈ (opRead false s).1.wire) : r ∈ s.wire := by
  cases hq : s.queue with
  | cons m q => rw [opRead_queued false s m q hq] at hr; exact hr
  | nil =>
    cases hw : s.wire with
    | nil => rw [opRead_eof false s hq hw] at hr; rw [← hw]; exact hr
    | cons raw w => rw [(opRead_taken false s raw w hq hw).1] at hr; exact List.mem_cons_of_mem _ hr

theorem opWrite_request_single (s : IOState) (hp : s.panicked = false) (hc : s.outCap = 0) (id : Id) (me : Bytes) (p : Option JVal) :
    opWrite s (.request id me p) = (s, .single (encodeMsg (.request id me p))) := by
  simp [opWrite, hp, hc]

theorem opWrite_of_panicked (s : IOState) (m : Msg) (h : s.panicked = true) : (opWrite s m).2 = .panic := by
  simp only [opWrite, h, if_true]

end Wire.L
