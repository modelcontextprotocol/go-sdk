import McpModel.Wire.Ref
import McpModel.Wire.Clone
import McpModel.Wire.Ann
import McpModel.Wire.Retry
import McpModel.Wire.Sse
import McpModel.Wire.Result
import McpModel.Wire.Input
import McpModel.Wire.Ndjson
/-!
# E2 Wire — the typed core of the property monitors of the four streams (msg, mcp, ids, batch)

The driver (`Driver.lean`) parses every harness record into a typed operation and a typed observation of
the IMPLEMENTATION, calls one of the monitors below and renders the clause it returns.  What decides WHETHER a
clause of C19 (and of the id / batch parts of C01–C03) is violated, and WHICH one, is in this file, with four
exceptions: the order judgement `outOfOrder` that `ioRead` calls is defined in `Frame.lean`; for `io.cw` under C02
the driver itself reports `writePanic02` on a crash and advances `mopen` by `monWrite`; the list `passed` that
`logMonitor` judges the log against is kept by the driver (a read appends what it returned, a write its message unless
it panicked, failed or hung); for `r.pg.list` and `r.case`
the harness and the token parser classify the observation (`null` / `missing` / `other`; `structDiffer`) and the
monitors only map the class to a clause.  The token parser, the renderer of the model's observation and the clause
texts (`Wire.clauseText` in `Driver.lean`) are the string layer.

The monitors are the property written as decidable predicates on what the implementation did.  The records
of the streams msg, mcp and ids are independent evaluations: their monitors are stateless functions
`<op>Monitor : operation → observation → Option Clause`.  The `ioConn` records (`io.*`, streams mcp and
batch) form a history: `ioFeed` / `ioVer` / `ioRead` / `ioWrite` thread the monitor's own bookkeeping
`IOMon` (the frames fed and not yet taken, the elements of the accepted frame still to come out of `Read`,
the open batches as slot lists) — independent of the model's `IOState`; `ioRead` / `ioWrite` return three verdicts
(`Verd`: `v19`, `v02`, `v03`), of which the driver reports the one of the property the stream is run for (`Verd.select`,
`Verd.selectWrite`).  The model's encoders, decoders and
specification that the monitors call: `specWrite` / `slotPending` (`monWrite`), `encodeMsg` (the callers of
`wireDiff` hand it `encodeMsg m`), `encodeContents` (`rcallMonitor`), `decodeMsg` (`liveCliMonitor`), `decodeInputRequests` (`rirmMonitor`),
`refCheck` / `encodeRef` (the reference monitors), `pageSeq` (`rpgMonitor`), `respKindOf` (`retryMonitor`); beside
these they use the model files' predicates on values (`validWire`, `proj`, `wfMsg`, `wfFLine`, `FEvent.denote`, `reqOK`,
`resourceOK`, `contentArrOK`, `wfContent`, `framed`, `lineSep`, `outOfOrder`, `nodupB`, …).

Also here, because driver and bridge theorems share them, are the functions that compute the MODEL's observation for
`c.rt` (`decodeIn` / `encodeIn`), `casedec.err` (`dropErrMember`) and `caps.clone` (`showsInOriginal` … `modelClone`); the
other `model…` functions are in `Bridge.lean` / `BridgeIO.lean`, and the driver renders the same values as text.

Bridging theorems: `Bridge.lean` and, for the `ioConn` records (`ioRead` / `ioWrite`, `cwMonitor`, `logMonitor`),
`BridgeIO.lean` (`…_monitor_accepts_model`: no clause on what the model produces, for ALL operations / label
sequences; the known finding F23 is an explicit, decidable exclusion with a counter-example theorem); `Sound.lean`
and `SoundIO.lean` (`P_<clause>` on the record, `sound_<clause>`: reported ⇒ ¬P).
Core Lean only: linked into `drv_wire`.
-/
namespace Wire
namespace Mon
open Generated.Wire

/-! ## JSON values up to member order (the equality of DESIGN §5 C19: "object member order irrelevant") -/

def bytesLt : Bytes → Bytes → Bool
  | [], [] => false
  | [], _ => true
  | _, [] => false
  | a :: as, b :: bs => if a < b then true else if a > b then false else bytesLt as bs

def insertSorted (p : Bytes × JVal) : List (Bytes × JVal) → List (Bytes × JVal)
  | [] => [p]
  | q :: t => if bytesLt p.1 q.1 then p :: q :: t else q :: insertSorted p t

def sortMembers (l : List (Bytes × JVal)) : List (Bytes × JVal) := l.foldl (fun acc p => insertSorted p acc) []

/-- last-wins de-duplication (objects the model builds never have duplicates; inputs might) -/
def dedupLast : List (Bytes × JVal) → List (Bytes × JVal)
  | [] => []
  | (k, v) :: t => if t.any (fun q => q.1 = k) then dedupLast t else (k, v) :: dedupLast t

mutual
/-- the canonical form the line protocol prints (`Wire.showJ` in `Driver.lean`): members de-duplicated (last wins) and sorted -/
def canonJ : JVal → JVal
  | .arr l => .arr (canonL l)
  | .obj kvs => .obj (sortMembers (dedupLast (canonM kvs)))
  | v => v
def canonL : List JVal → List JVal
  | [] => []
  | v :: t => canonJ v :: canonL t
def canonM : List (Bytes × JVal) → List (Bytes × JVal)
  | [] => []
  | (k, v) :: t => (k, canonJ v) :: canonM t
end

/-- equal as JSON values: member order irrelevant -/
def sameJ (a b : JVal) : Bool := canonJ a == canonJ b

def sameOJ : Option JVal → Option JVal → Bool
  | none, none => true
  | some a, some b => sameJ a b
  | _, _ => false

/-! ## shared vocabulary -/

inductive Crash where
  | panic | hang
deriving DecidableEq, Repr, Inhabited

/-- which property the stream is run for (first driver argument) -/
inductive Pid where
  | c19 | c02 | c03
deriving DecidableEq, Repr, Inhabited

def two53 : Int := 9007199254740992

def bigInt : Option JVal → Bool
  | some (.int n) => n > two53 || n < -two53
  | _ => false

def nodupKeysL : List Bytes → Bool
  | [] => true
  | a :: t => !t.contains a && nodupKeysL t

/-- no member name occurs twice at the top level or in the `error` object (the generators never produce duplicates; the
monitors keep to that) -/
def noDupKeys : JVal → Bool
  | .obj kvs => nodupKeysL (kvs.map (·.1)) &&
      (match lookup wireDecode_Error_name kvs with
        | some (.obj e) => nodupKeysL (e.map (·.1))
        | _ => true)
  | _ => true

/-- the members of a wire message C19 names, the version tag, and `shape` (one of the two values is no object) -/
inductive Field where
  | id | method | params | result | errCode | errMessage | errData | tag | shape
deriving DecidableEq, Repr, Inhabited

/-- The projections named by C19 of two wire objects agree; returns the first differing member. -/
def wireDiff (w w' : JVal) : Option Field :=
  match proj w, proj w' with
  | some a, some b =>
    if a.id != b.id then some .id
    else if a.method != b.method then some .method
    else if a.params != b.params then some .params
    else if a.result != b.result then some .result
    else if a.errCode != b.errCode then some .errCode
    else if a.errMessage != b.errMessage then some .errMessage
    else if a.errData != b.errData then some .errData
    else if a.tag != b.tag then some .tag
    else none
  | _, _ => some .shape

/-- Does a message (as the implementation reports it) carry the members of wire value `w`? -/
def msgMatchesWire (m : Msg) (w : JVal) : Bool := (wireDiff w (encodeMsg m)).isNone

def idOfWire : JVal → Option JVal
  | .obj kvs => lookup wireDecode_ID_name kvs
  | _ => none

def DErr.cls : DErr → String
  | .unmarshal => "unmarshal" | .version => "version" | .idType => "idtype" | .noId => "noid"

/-- what a decoder returned, as the harness prints it -/
inductive DecObs where
  | ok (m : Msg)
  | err (code : Int) (cls : String)
  | other (raw : String)
deriving DecidableEq, Repr, Inhabited

def DecObs.ofModel : Except DErr Msg → DecObs
  | .ok m => .ok m
  | .error e => .err e.code (DErr.cls e)

/-! ## structural equality of content values (`Content` nests `List Content`) -/

mutual
def beqC : Content → Content → Bool
  | .text t m a, .text t' m' a' => t == t' && m == m' && a == a'
  | .image d mi m a, .image d' mi' m' a' => d == d' && mi == mi' && m == m' && a == a'
  | .audio d mi m a, .audio d' mi' m' a' => d == d' && mi == mi' && m == m' && a == a'
  | .link u n t d mi sz m a ic, .link u' n' t' d' mi' sz' m' a' ic' =>
    u == u' && n == n' && t == t' && d == d' && mi == mi' && sz == sz' && m == m' && a == a' && ic == ic'
  | .resource r m a, .resource r' m' a' => r == r' && m == m' && a == a'
  | .toolUse i n inp m, .toolUse i' n' inp' m' => i == i' && n == n' && inp == inp' && m == m'
  | .toolResult t cs st ie m, .toolResult t' cs' st' ie' m' => t == t' && beqCL cs cs' && st == st' && ie == ie' && m == m'
  | _, _ => false
def beqCL : List Content → List Content → Bool
  | [], [] => true
  | a :: as, b :: bs => beqC a b && beqCL as bs
  | _, _ => false
end

/-! ## the clauses -/

inductive EolMix where
  | allLF | allCRLF | mixed
deriving DecidableEq, Repr, Inhabited

/-- what a foreign stream exercises (for the clause text) -/
structure Features where
  mix : EolMix
  comments : Bool
  multiData : Bool
  retry : Bool
  unknown : Bool
  oddPad : Bool
deriving DecidableEq, Repr, Inhabited

inductive NilKind where
  | sentNull | panicked | nothing
deriving DecidableEq, Repr, Inhabited

inductive ContentKind where
  | nilC | emptyC | someC
deriving DecidableEq, Repr, Inhabited

/-- which element a returned message was judged against (for the clause text): the next one of the frame accepted
earlier, or the first one of a frame just taken -/
inductive Which where
  | next | first
deriving DecidableEq, Repr, Inhabited

/-- What a monitor reports (texts: `Wire.clauseText` in `Driver.lean`). -/
inductive Clause where
  -- message codec
  | encdecF1 | encdecNotBack | encdecNoEncoding
  | respNeedsId
  | edpRejected | edpIdF1 | edpId | edpMember (f : Field) | edpReencFailed
  | badObservation
  | caseMatched | caseMatchedErr
  | werrCode | werrMessage | werrNoObject
  | dtDecodeMessage
  -- id echo
  | idRejected | idStrNotExact | idIntF1 | idIntDiff
  -- SSE
  | dtScan (c : Crash)
  | sseRoundtrip
  | sseEolIrrelevant (mix : EolMix) (reportsMalformed : Bool)
  | sseAnyEol (feat : Features) (reportsMalformed : Bool)
  -- content
  | f23
  | f8Nested | contentLacks | contentNoMarshal | resourceNoMarshal
  | contentRoundtrip
  | dtContentCtx (ctx : String)
  | dtContentFuzz
  | protoValueChanged
  -- results
  | nilResult (method : String) (k : NilKind)
  | callContentNull (c : ContentKind) (sc ie : Bool)
  | callBlockLacks | callContentDiffers | callStructuredDiffers | callIsErrorDiffers | callPanicked | callNoResult
  | reqListNull (method : String) (f15 : Bool)
  | zeroNoResult
  | pgNull (k : RKind) (keys : List Bytes) (c : Cursor) (ps : Nat) (emptyPage : Bool)
  | pgMissing (k : RKind) (keys : List Bytes) (c : Cursor) (ps : Nat)
  | pgNotArray (k : RKind) (keys : List Bytes) (c : Cursor) (ps : Nat)
  -- ioConn
  | readGone02 (c : Crash) (frame : Option JVal)
  | dtRead (c : Crash) (frame : Option JVal)
  | order19 | order03
  | sameIdF1 (w : Which) | sameId (w : Which) | sameMember (f : Field) (w : Which)
  | readFailedQueued | readAtEnd
  | queued19 (n q : Nat)
  | lost (n q : Nat)
  | rejectedF2_19 | rejected19 | rejectedF2_02 | rejected02
  | dtWrite | badFrame | writtenDiffers
  | cwCrash (c : Crash) | cwGarbled (n : Nat) | cwLost (m : Msg)
  | logDiffers (passed logged : Nat)
  | retryResponsesAltered | retryStateAltered | retryNotDecodedAlike
  | toolAnnHintLost | toolAnnChanged | cloneAliased | cloneDiffers | extNotStored
  | refRefused | refChanged | refInconsistentWritten | refInconsistentAccepted | refReencDiffers
  | dtNdReader (c : Crash) | ndNotValueByValue
  | writePanic02 | flushedEarly | notOnItsOwn | arrayNotExact | withheld (hasNotif : Bool) | lastOnItsOwn
  -- frames through the other readers
  | dtReadBatch (raw : JVal) | rbAcceptedEmpty (raw : JVal)
  | dtPost (c : Crash) (path : String) (raw : JVal)
  | dtLiveIo (c : Crash) (raw : JVal)
  | dtLiveCli (c : Crash) (kind : String) (raw : JVal)
  | sseCliFailed (framing : String)
  -- decode fuzz of the protocol types
  | f32Null | dtNearValid (ty : String) | dtCase (ty name : String)
  | caseF32 (ty name : String) | caseDeclared (ty name : String)
  | dtIrm | caseIrm
deriving DecidableEq, Repr, Inhabited

/-! ## message codec (streams msg, ids) -/

/-- `encdec`: the implementation's decode of its own encoding (`none`: no `<encoding> | <decoded>` pair). -/
def encdecMonitor (m : Msg) (back : Option DecObs) : Option Clause :=
  if wfMsg m then
    match back with
    | some b =>
      if b = .ok m then none
      else if bigInt (encodeId m.id) then some .encdecF1
      else some .encdecNotBack
    | none => some .encdecNoEncoding
  else none

/-- `decenc`: what `DecodeMessage` then `EncodeMessage` made of a wire value. -/
structure DecEncObs where
  accepted : Bool              -- DecodeMessage returned a message
  paired : Bool                -- the observation has the form `<decoded> | <re-encoding>`
  reenc : Option JVal          -- the re-encoding, if it is a JSON value
deriving Repr, Inhabited

/-- a response (no `method`) without id: must be rejected -/
def respNoId : JVal → Bool
  | .obj kvs => noDupKeys (.obj kvs) && lookup wireDecode_VersionTag_name kvs == some (.str wireVersion) &&
      (lookup wireDecode_Method_name kvs).isNone && (lookup wireDecode_ID_name kvs).isNone &&
      validErr (lookup wireDecode_Error_name kvs)
  | _ => false

def decencMonitor (w : JVal) (o : DecEncObs) : Option Clause :=
  if respNoId w then (if o.accepted then some .respNeedsId else none)
  else if validWire w && noDupKeys w then
    if !o.paired then some .badObservation
    else if !o.accepted then some .edpRejected
    else match o.reenc with
      | some w' =>
        match wireDiff w w' with
        | none => none
        | some .id => if bigInt (idOfWire w) then some .edpIdF1 else some .edpId
        | some f => some (.edpMember f)
      | none => some .edpReencFailed
  else none

/-- `casedec`: the object with ONE member name changed in case, and the object without that member, decoded. -/
def casedecMonitor (obs : Option (DecObs × DecObs)) : Option Clause :=
  match obs with
  | some (a, b) => if a = b then none else some .caseMatched
  | none => some .badObservation

/-- the message whose error object(s) lost every member named `nm` (what `casedec.err` decodes second) -/
def dropErrMember (nm : Bytes) : List (Bytes × JVal) → List (Bytes × JVal)
  | [] => []
  | (k, .obj e) :: t =>
    (if k = wireDecode_Error_name then (k, .obj (e.filter (fun p => p.1 ≠ nm))) else (k, .obj e)) :: dropErrMember nm t
  | p :: t => p :: dropErrMember nm t

/-- `casedec.err`: a response whose error object has a member differing from `code` / `message` / `data` in
case only, and the same response without that member, decoded. -/
def casedecErrMonitor (obs : Option (DecObs × DecObs)) : Option Clause :=
  match obs with
  | some (a, b) => if a = b then none else some .caseMatchedErr
  | none => some .badObservation

/-- the code `toWireError` must put on the wire: that of the first wrapped wire error (pre-order), else 0 -/
def expectedCode : GoErr → Int
  | .wire w => w.code
  | .other _ ws => match firstWireL ws with | some w => w.code | none => 0

def expectedMessage : GoErr → Bytes
  | .wire w => w.message
  | .other m _ => m

/-- `werr`: the members of the error object written for a Go error (`none`: no object). -/
def werrMonitor (e : GoErr) (obs : Option (List (Bytes × JVal))) : Option Clause :=
  match obs with
  | some kvs =>
    if lookup WireError_Code_name kvs != some (.int (expectedCode e)) then some .werrCode
    else if lookup WireError_Message_name kvs != some (.str (expectedMessage e)) then some .werrMessage
    else none
  | none => some .werrNoObject

def fuzzdecMonitor (panicked : Bool) : Option Clause := if panicked then some .dtDecodeMessage else none

/-- `idecho`: the id of the response to a call carrying id token `idv`. -/
inductive IdObs where
  | echoed (v : Option JVal)
  | rejected
  | other
deriving Repr, Inhabited

def idechoMonitor (idv : JVal) (o : IdObs) : Option Clause :=
  let exact : Bool := match o with | .echoed (some v) => v == idv | _ => false
  match idv with
  | .str _ =>
    if exact then none
    else match o with
      | .rejected => some .idRejected
      | _ => some .idStrNotExact
  | .int n =>
    if inInt64 n then
      if exact then none
      else if n > two53 || n < -two53 then some .idIntF1
      else some .idIntDiff
    else none
  | _ => none

/-! ## SSE -/

/-- a scan result as the harness prints it -/
inductive ScanRes where
  | scan (es : List Event) (malformed : Bool)
  | garbled (txt : String)
deriving DecidableEq, Repr, Inhabited

def ScanRes.reportsMalformed : ScanRes → Bool
  | .scan _ m => m
  | .garbled _ => false

inductive ScanObs where
  | crash (c : Crash)
  | res (r : ScanRes)
  | missing
deriving Repr, Inhabited

def cleanField (v : Bytes) : Bool := trim v = v && !v.contains LF

def cleanEvent (e : Event) : Bool :=
  cleanField e.name && cleanField e.id && cleanField e.retry && cleanField e.data && !e.isEmpty

def scanPanicMonitor (panicked : Bool) : Option Clause := if panicked then some (.dtScan .panic) else none

/-- `sse.rt`: the scan of the bytes `writeEvent` wrote for `es`. -/
def sseRtMonitor (es : List Event) (o : ScanObs) : Option Clause :=
  if es.all cleanEvent then
    match o with
    | .missing => some .badObservation
    | .res (.scan es' false) => if es' = es then none else some .sseRoundtrip
    | _ => some .sseRoundtrip
  else none

def eolMix (es : List Eol) : EolMix :=
  if es.all (· == .lf) then .allLF
  else if es.all (· == .crlf) then .allCRLF
  else .mixed

/-- `sse.lines`: the scan of the stream as framed and of the same lines ended by LF. -/
inductive LinesObs where
  | crash (c : Crash)
  | pair (framed lf : ScanRes)
  | garbled
deriving Repr, Inhabited

def sseLinesMonitor (ls : List (Bytes × Eol)) (rest : Bytes) (o : LinesObs) : Option Clause :=
  match o with
  | .crash c => some (.dtScan c)
  | o =>
    if ls.all (fun p => !p.1.contains LF) && !rest.contains LF then
      match o with
      | .pair a b =>
        if a = b then none
        else some (.sseEolIrrelevant (eolMix (ls.map (·.2))) (a.reportsMalformed && !b.reportsMalformed))
      | _ => some .badObservation
    else none

def fstreamEols (es : List FEvent) : List Eol := es.flatMap (fun e => e.lines.map (·.eol) ++ [e.endEol])

def fstreamFeatures (es : List FEvent) : Features :=
  let ls := es.flatMap (·.lines)
  { mix := eolMix (fstreamEols es)
    comments := ls.any (fun l => l.key == [])
    multiData := es.any (fun e => (e.lines.filter (fun l => l.key == sse_dataKey)).length > 1)
    retry := ls.any (fun l => l.key == sse_retryKey)
    unknown := ls.any (fun l => !sseKeys.contains l.key && l.key != [])
    oddPad := ls.any (fun l => sseKeys.contains l.key && l.pad != ([32] : Bytes)) }

/-- the events a foreign stream denotes -/
def denoted (es : List FEvent) : List Event := (es.map FEvent.denote).filter (fun e => !e.isEmpty)

/-- `sse.frn`: the scan of a stream a foreign peer framed. -/
def sseFrnMonitor (es : List FEvent) (o : ScanObs) : Option Clause :=
  match o with
  | .crash c => some (.dtScan c)
  | o =>
    if es.all (fun e => e.lines.all wfFLine) then
      match o with
      | .missing => some .badObservation
      | .res (.scan es' false) =>
        if es' = denoted es then none else some (.sseAnyEol (fstreamFeatures es) false)
      | .res r => some (.sseAnyEol (fstreamFeatures es) r.reportsMalformed)
      | .crash c => some (.dtScan c)   -- not reached: the outer match took `.crash` (in `sseLinesMonitor` and
                                       -- `ndSplitMonitor` the inner `| _ =>` arm is left with `.garbled` alone)
    else none

/-! ## content -/

/-- the required members of the TOP block are present (a failure of `reqOK` then lies in a nested block) -/
def reqTopOK : JVal → Bool
  | .obj kvs =>
    let ty := lookup wireContent_Type_name kvs
    (if ty = some (.str kText) then isStr (lookup wireContent_Text_name kvs) else true) &&
    (if ty = some (.str kImage) ∨ ty = some (.str kAudio) then isStr (lookup wireContent_Data_name kvs) else true) &&
    (if ty = some (.str kToolResult) then hasArr kvs else true)
  | _ => true

/-- the resource member of a block of type `resource` carries `text` or `blob` -/
def embeddedTopOK (kvs : List (Bytes × JVal)) : Bool :=
  match lookup wireContent_Type_name kvs, lookup wireContent_Resource_name kvs with
  | some (.str ty), some r => if ty = kResource then resourceOK r else true
  | _, _ => true

mutual
/-- every embedded resource of a content block (and of the blocks nested in it) is `resourceOK` -/
def embeddedOK : JVal → Bool
  | .obj kvs => embeddedTopOK kvs && embNested kvs
  | _ => true
/-- the LAST member named `content`, if it holds an array, holds only blocks that are `embeddedOK` -/
def embNested : List (Bytes × JVal) → Bool
  | [] => true
  | (k, v) :: t =>
    if hasArrLater t then embNested t
    else (if k = wireContent_NestedContent_name then embArr v else true)
def embArr : JVal → Bool
  | .arr l => embList l
  | _ => true
def embList : List JVal → Bool
  | [] => true
  | v :: t => embeddedOK v && embList t
end

/-- `c.enc`: `MarshalJSON` of a content value (`none`: it did not marshal to a JSON value). -/
def cencMonitor (obs : Option JVal) : Option Clause :=
  match obs with
  | some ji =>
    if reqOK ji then (if embeddedOK ji then none else some .f23)
    else if reqTopOK ji then some .f8Nested
    else some .contentLacks
  | none => some .contentNoMarshal

/-- `c.res`: `json.Marshal(&ResourceContents{…})`. -/
def cresMonitor (obs : Option JVal) : Option Clause :=
  match obs with
  | some ji => if resourceOK ji then none else some .f23
  | none => some .resourceNoMarshal

/-- contexts in which content is decoded -/
inductive Shape where | one | list | oneOrMany
deriving DecidableEq, Repr, Inhabited

/-- decode the `content` member of a wrapper -/
def decodeIn (sh : Shape) (allow : Option (List Bytes)) (j : Option JVal) : Except CErr (List Content) :=
  match sh with
  | .one => match j with
    | none => .error .nilContent
    | some v => (decodeContent allow v).map ([·])
  | .list => match j with
    | none => .ok []
    | some v => decodeContentList allow v
  | .oneOrMany => unmarshalContent allow j

/-- encode the `content` member of a wrapper (SamplingMessageV2 / CreateMessageWithToolsResult
write a single block as an object) -/
def encodeIn (sh : Shape) (cs : List Content) : JVal :=
  match sh, cs with
  | .oneOrMany, [c] => encodeContent c
  | .one, [c] => encodeContent c
  | _, cs => .arr (encodeContents cs)

def crtDomain (sh : Shape) (allow : Option (List Bytes)) (cs : List Content) : Bool :=
  cs.all (fun c => wfContent c && allowed allow c.kind) &&
  (match sh with | .one => cs.length = 1 | .oneOrMany => cs ≠ [] | .list => true)

/-- `c.rt`: a wrapper's content marshalled then unmarshalled (`none`: no pair; inner `none`: not decoded). -/
def crtMonitor (sh : Shape) (allow : Option (List Bytes)) (cs : List Content) (obs : Option (Option (List Content))) : Option Clause :=
  if crtDomain sh allow cs then
    match obs with
    | some (some cs') => if beqCL cs' cs then none else some .contentRoundtrip
    | some none => some .contentRoundtrip
    | none => some .badObservation
  else none

def cdecMonitor (ctx : String) (panicked : Bool) : Option Clause := if panicked then some (.dtContentCtx ctx) else none
def cfuzzMonitor (panicked : Bool) : Option Clause := if panicked then some .dtContentFuzz else none

/-- `r.rt`: marshal → unmarshal → marshal of a protocol value whose first marshalling was `j1`. -/
def rrtMonitor (j1 : JVal) (obs : Option JVal) : Option Clause :=
  if obs = some j1 then none else some .protoValueChanged

/-! ## results -/

/-- what was seen instead of a result object -/
inductive ResObs where
  | obj (kvs : List (Bytes × JVal))
  | val (j : JVal)          -- a JSON value that is no object (`null` = `"result":null`)
  | panic
  | other
deriving Repr, Inhabited

/-- a user handler returned `(nil, nil)`: what must not happen (wire-F30, F31 in DESIGN.md §0.3) -/
def nilResultViol (method : String) : ResObs → Clause
  | .val .null => .nilResult method .sentNull
  | .panic => .nilResult method .panicked
  | _ => .nilResult method .nothing

def contentKind : Option (List Content) → ContentKind
  | none => .nilC
  | some [] => .emptyC
  | some _ => .someC

def methodCallTool : String := "tools/call"

/-- `r.call`: the result sent for a `tools/call` whose raw handler returned `ret` (not an error). -/
def rcallMonitor (ret : ToolRet) (o : ResObs) : Option Clause :=
  match ret with
  | .error => none
  | ret =>
    let isNilRes := match ret with | .nilResult => true | _ => false
    let (c, sc, ie) : Option (List Content) × Option JVal × Bool := match ret with
      | .result c sc ie => (c, sc, ie)
      | _ => (none, none, false)
    match o with
    | .obj kvs =>
      let cur := lookup CallToolResult_Content_name kvs
      if isNilRes && !isArrJ cur then some (nilResultViol methodCallTool o)
      else if !isArrJ cur then some (.callContentNull (contentKind c) sc.isSome ie)
      else if !contentArrOK cur then some .callBlockLacks
      else if (match cur with | some (.arr l) => !embList l | _ => false) then some .f23
      else if !sameOJ cur (some (.arr (encodeContents (c.getD [])))) then some .callContentDiffers
      else if !sameOJ (lookup CallToolResult_StructuredContent_name kvs) sc then some .callStructuredDiffers
      else if lookup CallToolResult_IsError_name kvs != (if ie then some (.bool true) else none) then some .callIsErrorDiffers
      else none
    | o =>
      if isNilRes then some (nilResultViol methodCallTool o)
      else match o with
        | .panic => some .callPanicked
        | _ => some .callNoResult

/-- `r.zero`: the result of a method with a required list whose handler left the list nil / empty, or
returned `(nil, nil)`; `none` when the SDK answers with an error instead. -/
def rzeroMonitor (k : RKind) (method : String) (nilres : Bool) (o : ResObs) : Option Clause :=
  let judge (ji : JVal) : Option Clause :=
    let cur := getPath k.path ji
    if nilres && !isArrJ cur then some (nilResultViol method o)
    else if !isArrJ cur then some (.reqListNull method (k == .getPrompt || k == .complete))
    else if k == .readResource && (match cur with | some (.arr l) => !l.all resourceOK | _ => false) then some .f23
    else none
  match o with
  | .obj kvs => judge (.obj kvs)
  | .val j => judge j
  | o => if nilres then some (nilResultViol method o) else some .zeroNoResult

/-- `r.pg.list`: the list member of the result as written on the wire. -/
inductive PgObs where
  | null | missing | notArray | fine
deriving DecidableEq, Repr, Inhabited

def rpgMonitor (k : RKind) (keys : List Bytes) (ps : Nat) (c : Cursor) (o : PgObs) : Option Clause :=
  match o with
  | .null => some (.pgNull k keys c ps (pageSeq keys c).isEmpty)
  | .missing => some (.pgMissing k keys c ps)
  | .notArray => some (.pgNotArray k keys c ps)
  | .fine => none

/-! ## ioConn: the monitor's bookkeeping (independent of the model state) -/

structure MBatch where
  slots : Slots
  hasNotif : Bool := false
deriving Repr, Inhabited

structure IOMon where
  outCap : Nat := 0                -- capacity of the outgoing batch the connection was built with
  mwire : List JVal := []          -- frames fed, not yet taken
  mopen : List MBatch := []        -- accepted batches with unanswered calls
  mexpect : List JVal := []        -- elements of the accepted frame still to be returned by Read
  mnoBatch : Bool := false
deriving Repr, Inhabited

def frameElems : JVal → List JVal × Bool
  | .arr l => (l, true)
  | v => ([v], false)

def isCallW : JVal → Option Id
  | .obj kvs => match lookup wireDecode_Method_name kvs, lookup wireDecode_ID_name kvs with
    | some _, some (.int n) => some (.int n)
    | some _, some (.str s) => some (.str s)
    | _, _ => none
  | _ => none

def isNotifW : JVal → Bool
  | .obj kvs => (lookup wireDecode_Method_name kvs).isSome &&
      (match lookup wireDecode_ID_name kvs with | none => true | some .null => true | _ => false)
  | _ => false

/-- a frame the property speaks about: non-empty, every element a valid wire message, the call ids pairwise
distinct and none of them still unanswered in an open batch -/
def wellFormedBatch (mopen : List MBatch) (elems : List JVal) : Bool :=
  let calls := elems.filterMap isCallW
  elems ≠ [] && elems.all (fun e => validWire e && noDupKeys e) && nodupB calls &&
  calls.all (fun c => mopen.all (fun b => !slotPending b.slots c))

/-- the open batches after a response closed one: the first batch with that id pending is gone -/
def dropPending (id : Id) : List MBatch → List MBatch
  | [] => []
  | b :: t => if slotPending b.slots id then t else b :: dropPending id t

/-- monitor step for a message written through `ioConn.Write`: what the abstract spec (`specWrite`,
the one `batch_exactly_once` is proved against) expects; also whether the batch concerned held a
notification (to name F2). -/
def monWrite (open_ : List MBatch) (msg : Msg) : List MBatch × SOut × Bool :=
  let r := specWrite (open_.map (·.slots)) msg
  let hasNotif := match msg with
    | .response id _ _ => ((open_.find? (fun b => slotPending b.slots id)).map (·.hasNotif)).getD false
    | _ => false
  -- re-attach the flags: a closed batch disappears, a filled one keeps its place
  let open' : List MBatch :=
    if r.1.length = open_.length then (List.zip r.1 open_).map (fun p => { p.2 with slots := p.1 })
    else match msg with
      | .response id _ _ => dropPending id open_
      | _ => open_
  (open', r.2, hasNotif)

/-- `msgMatchesWire m e` on a VALID wire element (an invalid element matches no message); `lineIs` and the inline
`(wireDiff v (encodeMsg m)).isNone` of `ioWrite` / `entryIs` are `msgMatchesWire` written out -/
def sameMsgWire (m : Msg) (e : JVal) : Bool := validWire e && (wireDiff e (encodeMsg m)).isNone

inductive ErrKind where
  | eof | dup | seen | other
deriving DecidableEq, Repr, Inhabited

/-- what `ioConn.Read` did: the message returned (`none`: not readable as one) or the class of the error,
and the number of messages it left queued for the following reads -/
inductive ReadObs where
  | crash (c : Crash)
  | msg (m : Option Msg) (q : Nat)
  | err (k : ErrKind) (q : Nat)
deriving Repr, Inhabited

def ReadObs.q : ReadObs → Nat
  | .msg _ q => q
  | .err _ q => q
  | .crash _ => 0

def ReadObs.msg? : ReadObs → Option Msg
  | .msg m _ => m
  | _ => none

structure Verd where
  v19 : Option Clause := none
  v02 : Option Clause := none
  v03 : Option Clause := none
deriving Repr, Inhabited

/-- the clause reported under property `pid` (`also03`: the stream also judges C03) -/
def Verd.select (v : Verd) (pid : Pid) (also03 : Bool) : Option Clause :=
  match pid with
  | .c02 => if also03 then v.v02.orElse (fun _ => v.v03) else v.v02
  | .c03 => v.v03
  | .c19 => v.v19

/-- the message returned is (by its C19 members) the wire element `e` -/
def sameElem (m : Msg) (e : JVal) (w : Which) : Option Clause :=
  if !validWire e then none else
  match wireDiff e (encodeMsg m) with
  | none => none
  | some .id => if bigInt (idOfWire e) then some (.sameIdF1 w) else some (.sameId w)
  | some f => some (.sameMember f w)

def ioFeed (mon : IOMon) (w : JVal) : IOMon := { mon with mwire := mon.mwire ++ [w] }
def ioVer (mon : IOMon) (noBatch : Bool) : IOMon := { mon with mnoBatch := noBatch }

/-- `io.read` -/
def ioRead (mon : IOMon) (obs : ReadObs) : IOMon × Verd :=
  match obs with
  | .crash c =>
    -- the reader of the connection is gone (or stuck): everything after this frame is lost
    let fr : Option JVal := match mon.mexpect, mon.mwire with
      | [], raw :: _ => some raw
      | _, _ => none
    let mon1 := match mon.mexpect, mon.mwire with
      | [], _ :: w => { mon with mwire := w }
      | _ :: rest, _ => { mon with mexpect := rest }
      | _, _ => mon
    (mon1, { v19 := some (.dtRead c fr), v02 := some (.readGone02 c fr) })
  | obs =>
    let implMsg := obs.msg?
    let q := obs.q
    match mon.mexpect with
    | e :: rest =>
      -- a message of an already accepted frame; judged only when the next element written is a valid wire
      -- message (what an invalid one decodes to is the model's business, not the order clause's)
      let ooo := match implMsg with
        | some m => validWire e && outOfOrder sameMsgWire (e :: rest) m
        | none => false
      let v := match implMsg with
        | some m => if ooo then some .order19 else sameElem m e .next
        | none => some .readFailedQueued
      ({ mon with mexpect := rest }, { v19 := v, v03 := if ooo then some .order03 else none })
    | [] =>
      match mon.mwire with
      | [] =>
        (mon, { v19 := match obs with | .err .eof _ => none | _ => some .readAtEnd })
      | raw :: w =>
        let mon := { mon with mwire := w }
        let elems := (frameElems raw).1
        let isBatch := (frameElems raw).2
        -- read only where the implementation REJECTS the frame: accepting more than the property asks is not judged
        -- (an accepted batch is opened below whether well-formed or not)
        let wf := wellFormedBatch mon.mopen elems && !(isBatch && mon.mnoBatch)
        let calls := elems.filterMap isCallW
        let hasNotif := elems.any isNotifW
        match obs with
        | .msg _ _ =>
          let ooo := match implMsg, elems with
            | some m, e :: _ => validWire e && outOfOrder sameMsgWire elems m
            | _, _ => false
          let v := match implMsg, elems with
            | some m, e :: _ => if ooo then some .order19 else sameElem m e .first
            | _, _ => none
          let v := if v.isNone && q != elems.length - 1 then some (.queued19 elems.length q) else v
          -- messages of an accepted frame that never come out of Read are lost for every property that
          -- speaks about them: a lost response leaves its call blocked (C01), a lost call is never
          -- answered (C02), a lost notification is never dispatched (C03)
          let vLost : Option Clause := if q != elems.length - 1 then some (.lost elems.length q) else none
          -- expect only as many elements as the implementation says it queued: a loss is reported once, here, and
          -- the following reads are judged against what can still come
          let mon := { mon with mexpect := (elems.drop 1).take q }
          let mon := if isBatch && calls ≠ [] then
              { mon with mopen := mon.mopen ++ [{ slots := calls.map (fun c => (c, none)), hasNotif := hasNotif }] }
            else mon
          (mon, { v19 := v, v02 := vLost, v03 := if ooo then some .order03 else none })
        | obs =>
          let f2 := isBatch && hasNotif && (match obs with | .err .dup _ => true | .err .seen _ => true | _ => false)
          let v19 := if !wf then none else if f2 then some .rejectedF2_19 else some .rejected19
          let v02 := if !wf then none else if f2 then some .rejectedF2_02 else some .rejected02
          ({ mon with mexpect := (elems.drop 1).take q }, { v19 := v19, v02 := v02 })

inductive WKind where
  | nothing | single | array | panic | badframe | other
deriving DecidableEq, Repr, Inhabited

/-- what `ioConn.Write` put on the stream -/
structure WriteObs where
  kind : WKind
  vals : List JVal := []
deriving Repr, Inhabited

/-- `io.write` -/
def ioWrite (mon : IOMon) (m : Msg) (o : WriteObs) : IOMon × Verd :=
  let r := monWrite mon.mopen m
  let exp := r.2.1
  let hasNotif := r.2.2
  -- C19: what is written is a well-framed encoding of the message(s) given
  let v19 : Option Clause :=
    match o.kind with
    | .panic => some .dtWrite
    | .badframe => some .badFrame
    | .single =>
      (match o.vals with
        | [v] => if (wireDiff v (encodeMsg m)).isNone then none else some .writtenDiffers
        | _ => some .badObservation)
    | _ => none
  -- C02: batch replies
  let v02 : Option Clause :=
    if o.kind = .panic then some .writePanic02
    else match exp with
      | .nothing => if o.kind = .nothing then none else some .flushedEarly
      | .single _ =>
        if o.kind = .single then none
        else if mon.outCap > 0 && (o.kind = .nothing || o.kind = .array) then none
        else some .notOnItsOwn
      | .array ms =>
        if o.kind = .array then
          if o.vals.length = ms.length && (List.zip ms o.vals).all (fun p => msgMatchesWire p.1 p.2) then none
          else some .arrayNotExact
        else if o.kind = .nothing then some (.withheld hasNotif)
        else some .lastOnItsOwn
  ({ mon with mopen := r.1 }, { v19 := v19, v02 := v02 })

/-- for `io.write` the C02 stream reports `v02`, every other `v19` -/
def Verd.selectWrite (v : Verd) (pid : Pid) : Option Clause :=
  match pid with
  | .c02 => v.v02
  | _ => v.v19

/-! ## concurrent writers on one connection -/

/-- `io.cw`: the lines of the stream after several goroutines called `Write` at the same time (in any
order; `none`: a line that is no JSON value on its own) -/
inductive CwObs where
  | crash (c : Crash)
  | lines (l : List (Option JVal))
  | other
deriving Repr, Inhabited

/-- messages that are never held back or merged: calls and notifications on a connection without
outgoing batching (responses may be parked in the reply to an incoming batch) -/
def onItsOwn (outCap : Nat) : Msg → Bool
  | .request .. => outCap == 0
  | _ => false

def lineIs (m : Msg) : Option JVal → Bool
  | some v => (wireDiff v (encodeMsg m)).isNone
  | none => false

/-- every line of the stream is a JSON value of its own — the frames of the writers do not run into each
other — and every message that goes out on its own is one of the lines, as given -/
def cwMonitor (outCap : Nat) (msgs : List Msg) (o : CwObs) : Option Clause :=
  match o with
  | .crash c => some (.cwCrash c)
  | .other => some .badObservation
  | .lines l =>
    if l.any Option.isNone then some (.cwGarbled (l.filter Option.isNone).length)
    else match msgs.find? (fun m => onItsOwn outCap m && !l.any (lineIs m)) with
      | some m => some (.cwLost m)
      | none => none

/-! ## a connection behind a `LoggingTransport` -/

/-- what the harness saw pass through the wrapper -/
inductive Passed where
  | read (m : Msg) | readErr | write (m : Msg)
deriving Repr, Inhabited

inductive LogObs where
  | entries (l : List (Option LogEntry))    -- `none`: a line that is no log entry
  | other
deriving Repr, Inhabited

def entryIs : Passed → Option LogEntry → Bool
  | .read m, some (.read v) => (wireDiff v (encodeMsg m)).isNone
  | .readErr, some .readErr => true
  | .write m, some (.write v) => (wireDiff v (encodeMsg m)).isNone
  | _, _ => false

def entriesAre : List Passed → List (Option LogEntry) → Bool
  | [], [] => true
  | p :: ps, e :: es => entryIs p e && entriesAre ps es
  | _, _ => false

/-- `io.log`: the log shows what passed, in order: every message as an encoding of THAT message -/
def logMonitor (passed : List Passed) (o : LogObs) : Option Clause :=
  match o with
  | .other => some .badObservation
  | .entries l => if entriesAre passed l then none else some (.logDiffers passed.length l.length)

/-! ## what a retried request carries (multi round trip) -/

/-- `mrtr.retry`: the two members of the params the client sends again, and what the server's decoder made of them -/
structure RetryObs where
  sentResp : Option JVal
  sentState : Option JVal
  back : Option (List (Bytes × RespKind) × Bytes)
deriving Repr, Inhabited

/-- the kind of a response; `.roots` stands in for one that has none (`backAlike` reads it under `allDiscriminated` only) -/
def kindD (v : JVal) : RespKind := match respKindOf v with | .ok k => k | .error _ => .roots

def allDiscriminated (rs : List (Bytes × JVal)) : Bool := rs.all (fun p => match respKindOf p.2 with | .ok _ => true | .error _ => false)

def respIntact (rs : List (Bytes × JVal)) (o : RetryObs) : Bool :=
  match o.sentResp with
  | none => rs.isEmpty
  | some v => !rs.isEmpty && sameJ v (.obj rs)

def stateIntact (state : Bytes) (o : RetryObs) : Bool :=
  match o.sentState with
  | none => state.isEmpty
  | some v => !state.isEmpty && v == .str state

def backAlike (rs : List (Bytes × JVal)) (state : Bytes) (o : RetryObs) : Bool :=
  !allDiscriminated rs ||
  (match o.back with
    | none => false
    | some (ks, s) => s == state && ks.length == rs.length && rs.all (fun p => ks.contains (p.1, kindD p.2)))

def retryMonitor (rs : List (Bytes × JVal)) (state : Bytes) (o : RetryObs) : Option Clause :=
  if !respIntact rs o then some .retryResponsesAltered
  else if !stateIntact state o then some .retryStateAltered
  else if !backAlike rs state o then some .retryNotDecodedAlike
  else none

/-! ## `ToolAnnotations` -/

/-- `ann.rt`: what `json.Marshal` wrote for the annotations, and what `json.Unmarshal` made of it -/
structure AnnObs where
  written : Option JVal
  back : Option ToolAnn
deriving Repr, Inhabited

def hintsPresent : Option JVal → Bool
  | some (.obj kvs) =>
    (match lookup ToolAnnotations_ReadOnlyHint_name kvs with | some (.bool _) => true | _ => false) &&
    (match lookup ToolAnnotations_IdempotentHint_name kvs with | some (.bool _) => true | _ => false)
  | _ => false

def annMonitor (compat : Bool) (a : ToolAnn) (o : AnnObs) : Option Clause :=
  if !compat && !hintsPresent o.written then some .toolAnnHintLost
  else if o.back ≠ some a then some .toolAnnChanged
  else none

/-! ## capabilities clones -/

/-- `caps.clone`: does the clone encode like the original; in how many cells a write through one showed in the other;
did `AddExtension` on the clone store the (empty, non-nil) settings without touching the original -/
structure CloneObs where
  same : Bool
  aliased : Nat
  ext : Option Bool       -- `none`: the original changed (aliased); `some false`: not stored
deriving Repr, Inhabited

def cloneMonitor (o : CloneObs) : Option Clause :=
  if !o.same then some .cloneDiffers
  else if o.aliased ≠ 0 || o.ext = none then some .cloneAliased
  else if o.ext = some false then some .extNotStored
  else none

/-- the writes the harness tries, on the model: through every cell of the clone (is the original's encoding
changed?) and through every cell of the original (is the clone's?) -/
def showsInOriginal (v : CSlots) (h : Heap) (x : JVal) : Option Nat → Bool
  | some a => encSlots v (writeCell (cloneV v h).2 a x) != encSlots v h
  | none => false

def showsInClone (v : CSlots) (h : Heap) (x : JVal) : Option Nat → Bool
  | some a => encSlots (cloneV v h).1 (writeCell (cloneV v h).2 a x) != encSlots (cloneV v h).1 (cloneV v h).2
  | none => false

def aliasCount (v : CSlots) (h : Heap) (x : JVal) : Nat :=
  ((cloneV v h).1.filter (showsInOriginal v h x)).length + (v.filter (showsInClone v h x)).length

/-- what `caps.clone` observes of the model -/
def modelClone (v : CSlots) (h : Heap) (x : JVal) : CloneObs :=
  { same := encSlots (cloneV v h).1 (cloneV v h).2 == encSlots v h, aliased := aliasCount v h x, ext := some true }

/-! ## the `CompleteReference` codec -/

/-- `ref.rt`: what `json.Marshal` of a reference gave, and what `json.Unmarshal` made of the text -/
inductive RefRtObs where
  | refused
  | written (v : JVal) (back : Option CRef)
  | other
deriving Repr, Inhabited

def refRtMonitor (r : CRef) (o : RefRtObs) : Option Clause :=
  match o with
  | .other => some .badObservation
  | .refused => if refCheck r = .ok () then some .refRefused else none
  | .written _ back =>
    if refCheck r = .ok () then (if back = some r then none else some .refChanged)
    else some .refInconsistentWritten

/-- `ref.dec`: what `json.Unmarshal` made of a JSON value, and what `json.Marshal` wrote for the result -/
inductive RefDecObs where
  | rejected
  | accepted (r : CRef) (reenc : Option JVal)
  | other
deriving Repr, Inhabited

def refDecMonitor (o : RefDecObs) : Option Clause :=
  match o with
  | .other => some .badObservation
  | .rejected => none
  | .accepted r reenc =>
    if refCheck r = .ok () then
      (match reenc, encodeRef r with
        | some w, .ok v => if sameJ w v then none else some .refReencDiffers
        | _, _ => some .refReencDiffers)
    else some .refInconsistentAccepted

/-! ## the byte stream of an io connection through its reader goroutine -/

inductive NdObs where
  | crash (c : Crash)
  | read (vals : List Bytes) (fin : StreamEnd)
  | garbled
deriving DecidableEq, Repr, Inhabited

/-- `nd.split`: values (objects / arrays) each followed by a separator, through the reader of `newIOConn`.  Where
every value is `framed` and every separator is white space beginning with LF or CR (`lineSep`: what `ioConn.Write`
and every line-oriented peer put there), the reader hands on exactly those values, in order, up to the end. -/
def ndSplitMonitor (l : List (Bytes × Bytes)) (o : NdObs) : Option Clause :=
  match o with
  | .crash c => some (.dtNdReader c)
  | o =>
    if l.all (fun q => framed q.1 && lineSep q.2) then
      match o with
      | .read vals fin => if vals = l.map (·.1) && fin = .eof then none else some .ndNotValueByValue
      | _ => some .badObservation
    else none

/-! ## frames through the other readers -/

inductive RbObs where
  | panic
  | ok (n : Nat)
  | other
deriving DecidableEq, Repr, Inhabited

/-- `io.rb`: `readBatch` alone (`ok n`: it returned `n` messages). -/
def rbMonitor (raw : JVal) (o : RbObs) : Option Clause :=
  match o with
  | .panic => some (.dtReadBatch raw)
  | .ok 0 => some (.rbAcceptedEmpty raw)
  | _ => none

/-- `h.post`: the frame as the body of a POST. -/
def postMonitor (path : String) (raw : JVal) (crash : Option Crash) : Option Clause :=
  crash.map (fun c => .dtPost c path raw)

/-- `live.io`: a real server session on an io transport. -/
def liveIoMonitor (raw : JVal) (crash : Option Crash) : Option Clause :=
  crash.map (fun c => .dtLiveIo c raw)

inductive CliObs where
  | crash (c : Crash)
  | error
  | other
deriving DecidableEq, Repr, Inhabited

/-- `live.cli`: a real streamable client whose ping is answered with the frame (`framing`: the foreign
SSE framing the answer arrived in, if any). -/
def liveCliMonitor (kind : String) (framing : Option String) (raw : JVal) (o : CliObs) : Option Clause :=
  match o with
  | .crash c => some (.dtLiveCli c kind raw)
  | .error =>
    match framing, decodeMsg raw with
    | some f, .ok _ => some (.sseCliFailed f)
    | _, _ => none
  | .other => none

/-! ## decode fuzz of the protocol types -/

mutual
/-- some `inputRequests` member somewhere in the value has a `null` entry -/
def hasNullInputRequest : JVal → Bool
  | .obj kvs => hasNullIRM kvs
  | .arr l => hasNullIRL l
  | _ => false
def hasNullIRM : List (Bytes × JVal) → Bool
  | [] => false
  | (k, v) :: t =>
    (k == CallToolResult_InputRequests_name && (match v with | .obj es => es.any (fun e => e.2 == .null) | _ => false)) ||
    hasNullInputRequest v || hasNullIRM t
def hasNullIRL : List JVal → Bool
  | [] => false
  | v :: t => hasNullInputRequest v || hasNullIRL t
end

def rfuzzMonitor (ty : String) (j : JVal) (panicked : Bool) : Option Clause :=
  if !panicked then none
  else if hasNullInputRequest j then some .f32Null
  else some (.dtNearValid ty)

/-- the member names on the way to the node a path (child indices) points to -/
def pathKeys : JVal → List Nat → List Bytes
  | _, [] => []
  | .obj kvs, i :: t => match kvs[i]? with
    | some (k, v) => k :: pathKeys v t
    | none => []
  | .arr l, i :: t => match l[i]? with
    | some v => pathKeys v t
    | none => []
  | _, _ => []

/-- `inputResponses`: a literal copy of the regenerated `retry_InputResponses_name` (the same bytes; no theorem ties the
two, a changed struct tag is not followed here) -/
def inputResponsesName : Bytes := [105, 110, 112, 117, 116, 82, 101, 115, 112, 111, 110, 115, 101, 115]

inductive CaseObs where
  | panic | structDiffer | other
deriving DecidableEq, Repr, Inhabited

/-- `r.case`: one member name changed in case somewhere in a valid value (`j`: the value, if it was given;
`idx`: the path to the member). -/
def rcaseMonitor (ty name : String) (j : Option JVal) (idx : List Nat) (o : CaseObs) : Option Clause :=
  match o with
  | .panic => some (.dtCase ty name)
  | .structDiffer =>
    let above := match j with
      | some j => (pathKeys j idx).dropLast
      | none => []
    if above.contains CallToolResult_InputRequests_name || above.contains inputResponsesName then some (.caseF32 ty name)
    else some (.caseDeclared ty name)
  | .other => none

def lowerB (b : UInt8) : UInt8 := if 65 ≤ b && b ≤ 90 then b + 32 else b

/-- `k` is not `name` but equals it when case is ignored -/
def caseVariant (name k : Bytes) : Bool := k != name && k.map lowerB == name.map lowerB

inductive IrmObs where
  | panic | ok | other
deriving DecidableEq, Repr, Inhabited

/-- `r.irm`: `InputRequestMap.UnmarshalJSON` on a near-valid value. -/
def rirmMonitor (j : JVal) (o : IrmObs) : Option Clause :=
  let entries : List JVal := match j with | .obj kvs => kvs.map (·.2) | _ => []
  let caseVar := entries.any (fun e => match e with
    | .obj mem => mem.any (fun p => caseVariant irmRaw_Method_name p.1 || caseVariant irmRaw_Params_name p.1)
    | _ => false)
  match o with
  | .panic => if entries.any (· == .null) then some .f32Null else some .dtIrm
  | .ok =>
    (match decodeInputRequests j with
      | .error _ => if caseVar then some .caseIrm else none
      | .ok _ => none)
  | .other => none

end Mon
end Wire
