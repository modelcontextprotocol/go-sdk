import McpModel.Wire.LemmasContentRoundtrip
import McpModel.Wire.Result
/-!
Results the SDK sends: `tools/call` results of raw tool handlers (`sdkCallTool`), the required list member of the
list-bearing results (`sdkResultList`), and the registries listed page by page and whole (`listPage`, `keysAbove`,
`listAll`).
-/
namespace Wire.L
open Wire Generated.Wire

theorem callToolResult_names :
    [CallToolResult_Content_name, CallToolResult_StructuredContent_name, CallToolResult_IsError_name].Nodup := by decide

theorem lookup_callToolMembers (c : Option (List Content)) (s : Option JVal) (e : Bool) :
    lookup CallToolResult_Content_name (callToolMembers c s e) = encContentSlice CallToolResult_Content_omit c ∧
    lookup CallToolResult_StructuredContent_name (callToolMembers c s e) = s ∧
    lookup CallToolResult_IsError_name (callToolMembers c s e) = (if e then some (.bool true) else none) :=
  ⟨lookup_struct callToolResult_names _,
    lookup_struct callToolResult_names _ rfl (member_omit rfl CallToolResult_StructuredContent_name _ _),
    lookup_struct callToolResult_names _ rfl (member_omit rfl CallToolResult_IsError_name _ _)⟩

theorem encContentSlice_normalised (c : Option (List Content)) :
    encContentSlice CallToolResult_Content_omit (callToolNormalise c) = some (.arr (encodeContents (c.getD []))) := by
  cases c with
  | none => simp [callToolNormalise, encContentSlice, encodeContents]
  | some l => cases l <;> simp [callToolNormalise, encContentSlice, encodeContents]

theorem call_tool_content_present (c : Option (List Content)) (s : Option JVal) (e : Bool) :
    ∃ ms, sdkCallTool (.result c s e) = .sent ms ∧
      lookup CallToolResult_Content_name ms = some (.arr (encodeContents (c.getD []))) ∧
      contentArrOK (lookup CallToolResult_Content_name ms) = true ∧
      lookup CallToolResult_StructuredContent_name ms = s ∧
      lookup CallToolResult_IsError_name ms = (if e then some (.bool true) else none) := by
  obtain ⟨hc, hs, he⟩ := lookup_callToolMembers (callToolNormalise c) s e
  rw [encContentSlice_normalised] at hc
  exact ⟨_, rfl, hc, hc ▸ required_members_present_list _, hs, he⟩

theorem call_tool_never_without_content (r : ToolRet) (ms : List (Bytes × JVal)) (h : sdkCallTool r = .sent ms) :
    contentArrOK (lookup CallToolResult_Content_name ms) = true := by
  cases r with
  | result c s e =>
    obtain ⟨ms', h1, _, h3, _⟩ := call_tool_content_present c s e
    rw [h1] at h
    cases h
    exact h3
  | nilResult =>
    obtain ⟨ms', h1, _, h3, _⟩ := call_tool_content_present none none false
    simp only [sdkCallTool] at h h1
    rw [h1] at h
    cases h
    exact h3
  | error => simp [sdkCallTool] at h

example : sdkCallTool .nilResult = .sent [(CallToolResult_Content_name, .arr [])] := rfl

theorem required_lists_present (k : RKind) (l : RList) (v : JVal) (h : sdkResultList k l = .sent v) :
    ∃ items, v = .arr items := by
  cases k <;> cases l <;> simp [sdkResultList, nonNil, RList.enc] at h <;> exact ⟨_, h.symm⟩

/-- The one case in which nothing is sent: `resources/read` with nil contents is an error. -/
example : (match sdkResultList .readResource .nil with | .errorInstead => true | _ => false) = true := rfl

/-- "avoid JSON null": a collected slice, nil when nothing was collected, goes out as an array. -/
theorem enc_collected (item : Bytes → JVal) (l : List Bytes) :
    (nonNil (if l = [] then .nil else .items (l.map item))).enc = .arr (l.map item) := by
  cases l <;> rfl

theorem listPage_sent (k : RKind) (hk : k.isPaged = true) (item : Bytes → JVal) (keys : List Bytes) (ps : Nat)
    (c : Cursor) (hc : c ≠ .garbage) :
    (listPage k item keys ps c).1 = .sent (.arr (((pageSeq keys c).take ps).map item)) := by
  cases c with
  | garbage => exact absurd rfl hc
  | first | after uid => cases k <;> first | exact congrArg ROut.sent (enc_collected item _) | cases hk

theorem keysAbove_split (uid : Bytes) (a b : List Bytes) (ha : ∀ k ∈ a, keyLt uid k = false)
    (hb : ∀ h t, b = h :: t → keyLt uid h = true) : keysAbove uid (a ++ b) = b := by
  unfold keysAbove
  induction a with
  | nil =>
    cases b with
    | nil => rfl
    | cons h t => simp [hb h t rfl]
  | cons x xs ih =>
    have hx := ha x (by simp)
    simp only [List.cons_append, List.dropWhile, hx, Bool.not_false]
    exact ih (fun k hk => ha k (by simp [hk]))

theorem required_lists_present_paged (k : RKind) (hk : k.isPaged = true) (item : Bytes → JVal) (keys : List Bytes)
    (ps : Nat) (c : Cursor) :
    (c = .garbage ∧ (listPage k item keys ps c).1 = .errorInstead) ∨
    (∃ items, (listPage k item keys ps c).1 = .sent (.arr items) ∧ items.length ≤ ps ∧
      items = ((pageSeq keys c).take ps).map item) := by
  by_cases hc : c = .garbage
  · subst hc; exact Or.inl ⟨rfl, rfl⟩
  · refine Or.inr ⟨_, listPage_sent k hk item keys ps c hc, ?_, rfl⟩
    simp only [List.length_map, List.length_take]
    omega

theorem listAll_sent (item : Bytes → JVal) (keys : List Bytes) :
    listAll .listRoots item keys = .sent (.arr (keys.map item)) :=
  congrArg ROut.sent (enc_collected item keys)

theorem list_page_at_position (k : RKind) (hk : k.isPaged = true) (item : Bytes → JVal) (a b : List Bytes)
    (ps : Nat) (uid : Bytes) (ha : ∀ x ∈ a, keyLt uid x = false) (hb : ∀ h t, b = h :: t → keyLt uid h = true) :
    (listPage k item (a ++ b) ps (.after uid)).1 = .sent (.arr ((b.take ps).map item)) := by
  rw [listPage_sent k hk item (a ++ b) ps (.after uid) (by simp)]
  simp only [pageSeq, keysAbove_split uid a b ha hb]

theorem keyLt_irrefl (a : Bytes) : keyLt a a = false := by
  induction a with
  | nil => rfl
  | cons x xs ih => simp [keyLt, ih]

/-- Non-vacuity: three tools, page size 2; the cursor the first page issued ("b"), used after "c" was
removed, is answered with the empty array and no further cursor. -/
example : listPage .listTools (fun k => .str k) [[97], [98], [99]] 2 .first = (.sent (.arr [.str [97], .str [98]]), some [98]) := by
  rfl
example : listPage .listTools (fun k => .str k) [[97], [98]] 2 (.after [98]) = (.sent (.arr []), none) := by rfl

end Wire.L
