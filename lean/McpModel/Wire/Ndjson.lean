import McpModel.Wire.Frame
/-!
# E2 Wire — newline-delimited framing at the BYTE level: the reader side (`json.Decoder` in `newIOConn`)

`ioConn` writes `payload ++ "\n"` per frame (`frame`) and reads with `json.NewDecoder(rwc)` / `dec.Decode(&raw)`: the
decoder skips insignificant white space (space, tab, CR, LF) and then reads ONE JSON value — it does not look for
line ends at all.  `unframe` (Frame.lean) is the line view of that; here is the byte view, for the values a peer may
put on the stream as a frame: objects and arrays (a message or a batch).  The extent of such a value is found by the
scanner's bracket depth outside string literals (`scStep`): the value ends with the byte that brings the depth back
to zero.  `readStream` = the reader goroutine: `Decode`, the SDK's own check of the byte that follows the value
(LF or CR, else "invalid trailing data"), until the input is exhausted.

Bare scalars as frames (`0`, `""`, `true`, `null`: never a message, see `degenerate_frames_rejected`) need a
look-ahead byte to find their end and are outside this scanner (`scanValue` answers `none`); well-formedness of the
value's inside is the JSON library's business (DESIGN §3).
Core Lean only (linked into the driver).
-/
namespace Wire

/-- JSON's insignificant white space -/
def isWs (b : UInt8) : Bool := b = 32 || b = 9 || b = 10 || b = 13

structure Sc where
  depth : Nat := 0
  inStr : Bool := false
  esc : Bool := false
deriving DecidableEq, Repr, Inhabited

def QUOTE : UInt8 := 34
def BACKSLASH : UInt8 := 92

/-- one byte of the scanner: string literals (with `\` escapes) hide brackets; `{` `[` open, `}` `]` close -/
def scStep (s : Sc) (b : UInt8) : Sc :=
  if s.inStr then
    (if s.esc then { s with esc := false }
     else if b = BACKSLASH then { s with esc := true }
     else if b = QUOTE then { s with inStr := false }
     else s)
  else if b = QUOTE then { s with inStr := true }
  else if b = 123 || b = 91 then { s with depth := s.depth + 1 }
  else if b = 125 || b = 93 then { s with depth := s.depth - 1 }
  else s

def Sc.done (s : Sc) : Bool := s.depth = 0 && !s.inStr

/-- consume bytes up to and including the one that closes the value; `none`: the input ends inside the value -/
def takeValue : Sc → Bytes → Option (Bytes × Bytes)
  | _, [] => none
  | s, b :: t =>
    if (scStep s b).done then some ([b], t)
    else match takeValue (scStep s b) t with
      | some (c, r) => some (b :: c, r)
      | none => none

def opensValue (b : UInt8) : Bool := b = 123 || b = 91

/-- `dec.Decode(&raw)`: skip white space, read one object / array; the value and the unread rest (nothing calls it:
`readStreamAux` has the two steps inline, to tell the exhausted input from a refused value) -/
def scanValue (bs : Bytes) : Option (Bytes × Bytes) :=
  match bs.dropWhile isWs with
  | [] => none
  | b :: t => if opensValue b then takeValue {} (b :: t) else none

/-- how the reader goroutine of `newIOConn` ends -/
inductive StreamEnd where
  | eof         -- `dec.Decode` reported the end of the input
  | trailing    -- "invalid trailing data at the end of stream": the byte after a value is neither LF nor CR
  | noValue     -- something that is no object / array, or an unterminated one (outside this model)
deriving DecidableEq, Repr, Inhabited

/-- The reader goroutine of `newIOConn` on an input that is available at once: `dec.Decode(&raw)`, then — if a
further byte is buffered — that byte must be LF or CR ("support both Unix and Windows line endings"), otherwise the
value is NOT handed on and the stream ends with an error; repeated until `Decode` fails.  The values handed to
`ioConn.Read`, in order, and how the stream ended.  (`fuel`: every round consumes at least one byte.) -/
def readStreamAux : Nat → Bytes → List Bytes × StreamEnd
  | 0, _ => ([], .noValue)
  | n + 1, bs =>
    match bs.dropWhile isWs with
    | [] => ([], .eof)
    | b :: t =>
      if opensValue b then
        match takeValue {} (b :: t) with
        | some (v, rest) =>
          (match rest with
            | [] => ([v], .eof)
            | c :: _ =>
              if c = LF || c = CR then (v :: (readStreamAux n rest).1, (readStreamAux n rest).2)
              else ([], .trailing))
        | none => ([], .noValue)
      else ([], .noValue)

def readStream (bs : Bytes) : List Bytes × StreamEnd := readStreamAux (bs.length + 1) bs

/-- a payload the byte-level round trip speaks about: it starts with `{` or `[` and the scanner's depth returns to
zero exactly at its last byte (true of the compact text of every JSON object and array) -/
def framed (p : Bytes) : Bool :=
  (match p with | b :: _ => opensValue b | [] => false) && takeValue {} p == some (p, [])

/-- a separator the SDK's reader accepts after a value: white space that begins with LF or CR -/
def lineSep (ws : Bytes) : Bool :=
  ws.all isWs && (match ws with | c :: _ => c = LF || c = CR | [] => false)

/-- values with the white space a peer put after each of them -/
def joinWs : List (Bytes × Bytes) → Bytes
  | [] => []
  | (p, ws) :: t => p ++ (ws ++ joinWs t)

end Wire
