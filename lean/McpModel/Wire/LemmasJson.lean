import McpModel.Wire.Json
/-!
# E2 Wire — what `lookup` finds

`lookup` takes the LAST member of a name: in a concatenation the second part is asked first (`lookup_append`).
A struct encoding `members fs` writes every name once, so there `lookup` finds the member of that name
(`lookup_members_eq`); every decoder but the `wireContent` one sees an encoding only through this.
-/
namespace Wire

theorem members_nil : members [] = [] := rfl

theorem members_cons (k : Bytes) (ov : Option JVal) (fs : List (Bytes × Option JVal)) :
    members ((k, ov) :: fs) = (match ov with | some v => [(k, v)] | none => []) ++ members fs := by
  cases ov <;> simp [members]

theorem mem_members {k : Bytes} {v : JVal} {fs : List (Bytes × Option JVal)} :
    (k, v) ∈ members fs ↔ (k, some v) ∈ fs := by
  simp only [members, List.mem_filterMap, Option.map_eq_some_iff, Prod.mk.injEq]
  constructor
  · rintro ⟨⟨k', ov⟩, hp, w, hw, rfl, rfl⟩
    exact hw ▸ hp
  · exact fun h => ⟨_, h, v, rfl, rfl, rfl⟩

/-- the member of a struct called `k` (the first of that name) -/
def fieldOf (k : Bytes) : List (Bytes × Option JVal) → Option JVal
  | [] => none
  | (k', ov) :: t => if k' = k then ov else fieldOf k t

namespace L

theorem lookup_cons (k k' : Bytes) (v : JVal) (t : List (Bytes × JVal)) :
    lookup k ((k', v) :: t) = (lookup k t).or (if k' = k then some v else none) := by
  rw [lookup]; cases lookup k t <;> rfl

theorem lookup_append (k : Bytes) (a b : List (Bytes × JVal)) : lookup k (a ++ b) = (lookup k b).or (lookup k a) := by
  induction a with
  | nil => exact (Option.or_none).symm
  | cons p t ih => obtain ⟨k', v⟩ := p; rw [List.cons_append, lookup_cons, lookup_cons, ih, Option.or_assoc]

theorem lookup_insert_ne (k k' : Bytes) (v : JVal) (a b : List (Bytes × JVal)) (h : k' ≠ k) :
    lookup k (a ++ (k', v) :: b) = lookup k (a ++ b) := by
  rw [lookup_append, lookup_append, lookup_cons, if_neg h, Option.or_none]

theorem lookup_at (n : Bytes) (x : JVal) (pre post : List (Bytes × JVal)) :
    lookup n (pre ++ (n, x) :: post) = match lookup n post with | some w => some w | none => some x := by
  rw [lookup_append, lookup_cons, if_pos rfl]; cases lookup n post <;> rfl

theorem lookup_members_cons_or (k k' : Bytes) (ov : Option JVal) (fs : List (Bytes × Option JVal)) :
    lookup k (members ((k', ov) :: fs)) = (lookup k (members fs)).or (if k' = k then ov else none) := by
  rw [members_cons, lookup_append]
  cases ov with
  | none => rw [ite_self]; rfl
  | some v => rw [lookup_cons]; rfl

theorem lookup_members_none (k : Bytes) (fs : List (Bytes × Option JVal)) (h : ∀ p ∈ fs, p.1 ≠ k) :
    lookup k (members fs) = none := by
  induction fs with
  | nil => rfl
  | cons p t ih =>
    obtain ⟨k', ov⟩ := p
    rw [lookup_members_cons_or, ih fun q hq => h q (List.mem_cons_of_mem _ hq), if_neg (h (k', ov) (.head _))]
    rfl

theorem lookup_members_eq {fs : List (Bytes × Option JVal)} (hnd : (fs.map (·.1)).Nodup) (k : Bytes) :
    lookup k (members fs) = fieldOf k fs := by
  induction fs with
  | nil => rfl
  | cons p t ih =>
    obtain ⟨k', ov⟩ := p
    rw [List.map_cons, List.nodup_cons] at hnd
    rw [lookup_members_cons_or, fieldOf]
    by_cases h : k' = k
    · rw [if_pos h, if_pos h, lookup_members_none k t fun q hq e => hnd.1 (List.mem_map.mpr ⟨q, hq, e.trans h.symm⟩)]
      rfl
    · rw [if_neg h, if_neg h, ih hnd.2, Option.or_none]

/-- `lookup_members_eq` with the names as a closed list of their own (in term mode `fs` is not found by unifying
`fs.map (·.1)` with a `X_names` hypothesis); `hm`, `hv` close by evaluation. -/
theorem lookup_struct {names : List Bytes} (hn : names.Nodup) {fs : List (Bytes × Option JVal)} (k : Bytes)
    {ov : Option JVal} (hm : fs.map (·.1) = names := by rfl) (hv : fieldOf k fs = ov := by rfl) :
    lookup k (members fs) = ov :=
  hv ▸ lookup_members_eq (hm ▸ hn) k

theorem lookup_members {k : Bytes} {ov : Option JVal} {fs : List (Bytes × Option JVal)}
    (hnd : (fs.map (·.1)).Nodup) (h : (k, ov) ∈ fs) : lookup k (members fs) = ov := by
  rw [lookup_members_eq hnd]
  induction fs with
  | nil => cases h
  | cons p t ih =>
    obtain ⟨k', ov'⟩ := p
    rw [List.map_cons, List.nodup_cons] at hnd
    rw [fieldOf]
    rcases List.mem_cons.mp h with e | e
    · cases e; exact if_pos rfl
    · rw [if_neg fun e' => hnd.1 (List.mem_map.mpr ⟨_, e, e'.symm⟩), ih hnd.2 e]

theorem lookup_filter_ne (k nm : Bytes) (kvs : List (Bytes × JVal)) (h : k ≠ nm) :
    lookup k (kvs.filter (fun p => p.1 ≠ nm)) = lookup k kvs := by
  induction kvs with
  | nil => rfl
  | cons p t ih =>
    obtain ⟨k', v⟩ := p
    by_cases hk : k' = nm
    · rw [List.filter_cons_of_neg (by simp [hk]), ih, L.lookup_cons, if_neg (fun e => h (e.symm.trans hk)), Option.or_none]
    · rw [List.filter_cons_of_pos (by simp [hk]), L.lookup_cons, L.lookup_cons, ih]

theorem lookup_append_of_absent (k : Bytes) (a b : List (Bytes × JVal)) (h : ∀ p ∈ a, p.1 ≠ k) :
    lookup k (a ++ b) = lookup k b := by
  induction a with
  | nil => rfl
  | cons p t ih =>
    obtain ⟨k', v⟩ := p
    simp only [List.cons_append, lookup, ih (fun q hq => h q (List.mem_cons_of_mem _ hq)),
      if_neg (h (k', v) List.mem_cons_self)]
    cases lookup k b <;> rfl

end L

end Wire
