import McpModel.Wire.Spell
/-!
Proofs for `Wire.Spell`: the decoder's state machine `urun` is followed through one spelling unit at a time (`urun_unit`:
a raw byte, a short escape, `\uXXXX` in either case, a surrogate pair), and `unquote_spell` chains the units.
-/
namespace Wire.L
open Wire

theorem hexVal_hexDigit : ∀ (n : Fin 16) (up : Bool), hexVal (hexDigit up n) = some n.val := by decide

theorem hexVal_digit (n : Nib) : hexVal n.digit = some n.1.val := hexVal_hexDigit n.1 n.2

theorem urun_cons (st : USt) (b : UInt8) (rest : Bytes) :
    urun st (b :: rest) = match ustep st b with
      | none => none
      | some (st', out) => (urun st' rest).map (out ++ ·) := by
  cases st <;> rfl

theorem map_nil_append (o : Option Bytes) : o.map (([] : Bytes) ++ ·) = o := by
  cases o <;> simp

theorem ustep_hex (k v : Nat) (hi : Option Nat) (n : Nib) :
    ustep (.hex k v hi) n.digit =
      if k < 3 then some (.hex (k + 1) (16 * v + n.1.val) hi, []) else finishU (16 * v + n.1.val) hi := by
  simp only [ustep, hexVal_digit]

theorem urun_hex_more (k v : Nat) (hi : Option Nat) (n : Nib) (rest : Bytes) (hk : k < 3) :
    urun (.hex k v hi) (n.digit :: rest) = urun (.hex (k + 1) (16 * v + n.1.val) hi) rest := by
  rw [urun_cons, ustep_hex, if_pos hk]
  exact map_nil_append _

theorem urun_hex4 (a b c d : Nib) (hi : Option Nat) (rest : Bytes) :
    urun (.hex 0 0 hi) (a.digit :: b.digit :: c.digit :: d.digit :: rest) =
      match finishU (nibVal a b c d) hi with
      | none => none
      | some (st', out) => (urun st' rest).map (out ++ ·) := by
  rw [urun_hex_more 0 _ _ _ _ (by omega), urun_hex_more 1 _ _ _ _ (by omega),
    urun_hex_more 2 _ _ _ _ (by omega), urun_cons, ustep_hex, if_neg (by omega)]
  rfl

theorem urun_norm_bs (rest : Bytes) : urun .norm (92 :: rest) = urun .esc rest := by
  rw [urun_cons]
  simp only [ustep, if_pos]
  exact map_nil_append _

theorem urun_esc_u (rest : Bytes) : urun .esc (117 :: rest) = urun (.hex 0 0 none) rest := by
  rw [urun_cons]
  simp only [ustep, if_pos]
  exact map_nil_append _

theorem urun_hi_bs_u (h : Nat) (rest : Bytes) : urun (.hi h) (92 :: 117 :: rest) = urun (.hex 0 0 (some h)) rest := by
  rw [urun_cons]
  simp only [ustep, if_pos]
  rw [map_nil_append, urun_cons]
  simp only [ustep, if_pos]
  exact map_nil_append _

theorem urun_unit (x : Sp) (h : x.valid = true) (rest : Bytes) :
    urun .norm (x.text ++ rest) = (urun .norm rest).map (x.denote ++ ·) := by
  cases x with
  | raw b =>
    simp [Sp.valid] at h
    obtain ⟨⟨h1, h2⟩, h3⟩ := h
    have h1' : ¬ b < 32 := by simpa using h1
    simp [Sp.text, Sp.denote, urun_cons, ustep, h1', h2, h3]
  | short e =>
    simp only [Sp.valid] at h
    cases hs : shortEsc e with
    | none => simp [hs] at h
    | some c =>
      have hu : e ≠ 117 := by
        intro he; subst he; simp [shortEsc] at hs
      simp only [Sp.text, Sp.denote, hs, List.cons_append, List.nil_append]
      rw [urun_norm_bs, urun_cons]
      simp only [ustep, if_neg hu, hs, Option.map]
      rfl
  | u4 a b c d =>
    simp [Sp.valid] at h
    simp only [Sp.text, Sp.denote, List.cons_append, List.nil_append]
    rw [urun_norm_bs, urun_esc_u, urun_hex4]
    simp only [finishU, h.1, h.2]
    rfl
  | pair a b c d a' b' c' d' =>
    simp [Sp.valid] at h
    simp only [Sp.text, Sp.denote, List.cons_append, List.nil_append]
    rw [urun_norm_bs, urun_esc_u, urun_hex4]
    simp only [finishU, h.1]
    simp only [if_pos]
    rw [map_nil_append, urun_hi_bs_u, urun_hex4]
    simp only [finishU, h.2]
    rfl

/-- **Every valid spelling of a string denotes that string.** -/
theorem unquote_spell (l : List Sp) (h : ∀ x ∈ l, x.valid = true) : unquote (spell l) = some (denote l) := by
  induction l with
  | nil => rfl
  | cons x xs ih =>
    have hx := h x (by simp)
    have hxs := ih (fun y hy => h y (by simp [hy]))
    simp only [unquote] at hxs ⊢
    simp only [spell, denote, List.flatMap_cons] at hxs ⊢
    rw [urun_unit x hx, hxs]
    simp

end Wire.L
