import McpModel.Wire.Ann
import McpModel.Wire.LemmasJson
/-! # E2 Wire — `ToolAnnotations`: both encodings write every member once, so the decoder reads back, member by
member, what the member encoders wrote (`encodeAnn_members`); the round trip and which hints each encoding writes -/
namespace Wire
open Generated.Wire

theorem toolAnnotations_names : [ToolAnnotations_DestructiveHint_name, ToolAnnotations_IdempotentHint_name,
    ToolAnnotations_OpenWorldHint_name, ToolAnnotations_ReadOnlyHint_name, ToolAnnotations_Title_name].Nodup := by decide

theorem encodeAnn_members (compat : Bool) (a : ToolAnn) : ∃ kvs, encodeAnn compat a = .obj kvs ∧
    lookup ToolAnnotations_DestructiveHint_name kvs = optBoolMember a.destructive ∧
    lookup ToolAnnotations_IdempotentHint_name kvs = boolMember (if compat then ToolAnnotationsCompat_IdempotentHint_omit else ToolAnnotations_IdempotentHint_omit)
      a.idempotent ∧
    lookup ToolAnnotations_OpenWorldHint_name kvs = optBoolMember a.openWorld ∧
    lookup ToolAnnotations_ReadOnlyHint_name kvs = boolMember (if compat then ToolAnnotationsCompat_ReadOnlyHint_omit else ToolAnnotations_ReadOnlyHint_omit)
      a.readOnly ∧
    lookup ToolAnnotations_Title_name kvs = if a.title = [] then none else some (.str a.title) :=
  ⟨_, rfl, L.lookup_struct toolAnnotations_names _, L.lookup_struct toolAnnotations_names _, L.lookup_struct toolAnnotations_names _,
    L.lookup_struct toolAnnotations_names _, L.lookup_struct toolAnnotations_names _⟩

theorem optBoolField_optBoolMember {k : Bytes} {kvs : List (Bytes × JVal)} {d : Option Bool}
    (h : lookup k kvs = optBoolMember d) : optBoolField k kvs = .ok d := by
  cases d <;> simp only [optBoolField, h, optBoolMember]

theorem boolField_boolMember {k : Bytes} {kvs : List (Bytes × JVal)} {om b : Bool}
    (h : lookup k kvs = boolMember om b) : boolField k kvs = .ok b := by
  cases om <;> cases b <;> simp [boolField, h, boolMember]

theorem strFieldA_omitempty {k : Bytes} {kvs : List (Bytes × JVal)} {t : Bytes}
    (h : lookup k kvs = if t = [] then none else some (.str t)) : strFieldA k kvs = .ok t := by
  by_cases ht : t = [] <;> simp [strFieldA, h, ht]

/-- **tool_annotations_roundtrip** (C19): under the default encoding and under `MCPGODEBUG=hintomitempty=1` alike. -/
theorem tool_annotations_roundtrip (compat : Bool) (a : ToolAnn) : decodeAnn (encodeAnn compat a) = .ok a := by
  obtain ⟨kvs, he, hd, hi, ho, hr, ht⟩ := encodeAnn_members compat a
  simp only [he, decodeAnn, optBoolField_optBoolMember hd, boolField_boolMember hi, optBoolField_optBoolMember ho,
    boolField_boolMember hr, strFieldA_omitempty ht]

/-- **tool_annotations_hints_present.**  The default encoding always carries `readOnlyHint` and `idempotentHint`
(as booleans): a client that reads a missing hint by the schema's default does not depend on the server's build. -/
theorem tool_annotations_hints_present (a : ToolAnn) :
    ∃ kvs, encodeAnn false a = .obj kvs ∧ lookup ToolAnnotations_ReadOnlyHint_name kvs = some (.bool a.readOnly) ∧
      lookup ToolAnnotations_IdempotentHint_name kvs = some (.bool a.idempotent) := by
  obtain ⟨kvs, he, -, hi, -, hr, -⟩ := encodeAnn_members false a
  exact ⟨kvs, he, hr, hi⟩

/-- … and the compat encoding leaves exactly the false ones out -/
theorem tool_annotations_compat_omits_false (a : ToolAnn) :
    ∃ kvs, encodeAnn true a = .obj kvs ∧
      lookup ToolAnnotations_ReadOnlyHint_name kvs = (if a.readOnly then some (.bool true) else none) ∧
      lookup ToolAnnotations_IdempotentHint_name kvs = (if a.idempotent then some (.bool true) else none) := by
  obtain ⟨kvs, he, -, hi, -, hr, -⟩ := encodeAnn_members true a
  exact ⟨kvs, he, hr.trans (by cases a.readOnly <;> rfl), hi.trans (by cases a.idempotent <;> rfl)⟩

end Wire
