import McpModel.Wire.Frame
/-!
# E2 Wire — SSE framing: `writeEvent` / `scanEvents` (`mcp/event.go`; the loop is in `scanEventsT`, which `scanEvents` wraps)

Byte level.  `bufio.Reader.ReadBytes('\n')` is `splitLines` (complete lines + the unterminated
rest at EOF).  Field keys and write prefixes are the regenerated constants.
`trim` is Go's `TrimSpace` on byte strings: ASCII blanks and the UTF-8 encodings of the other
code points with the Unicode White_Space property (the harness compares this table with
`unicode.IsSpace` on every run).
-/
namespace Wire
open Generated.Wire

structure Event where
  name : Bytes := []
  id : Bytes := []
  retry : Bytes := []
  data : Bytes := []
deriving DecidableEq, Repr, Inhabited

def Event.isEmpty (e : Event) : Bool := e.name = [] && e.id = [] && e.data = [] && e.retry = []

/-- `writeEvent` -/
def writeEvent (e : Event) : Bytes :=
  (if e.name = [] then [] else sse_writeName ++ e.name ++ [LF]) ++
  ((if e.id = [] then [] else sse_writeID ++ e.id ++ [LF]) ++
  ((if e.retry = [] then [] else sse_writeRetry ++ e.retry ++ [LF]) ++
  (sse_writeData ++ e.data ++ [LF, LF])))

def isAsciiSpace (b : UInt8) : Bool := b = 9 || b = 10 || b = 11 || b = 12 || b = 13 || b = 32

/-- UTF-8 encodings of the non-ASCII code points for which `unicode.IsSpace` holds:
U+0085, U+00A0, U+1680, U+2000–U+200A, U+2028, U+2029, U+202F, U+205F, U+3000. -/
def spaceSeqs : List Bytes :=
  [[0xC2, 0x85], [0xC2, 0xA0], [0xE1, 0x9A, 0x80],
   [0xE2, 0x80, 0x80], [0xE2, 0x80, 0x81], [0xE2, 0x80, 0x82], [0xE2, 0x80, 0x83], [0xE2, 0x80, 0x84],
   [0xE2, 0x80, 0x85], [0xE2, 0x80, 0x86], [0xE2, 0x80, 0x87], [0xE2, 0x80, 0x88], [0xE2, 0x80, 0x89],
   [0xE2, 0x80, 0x8A], [0xE2, 0x80, 0xA8], [0xE2, 0x80, 0xA9], [0xE2, 0x80, 0xAF], [0xE2, 0x81, 0x9F],
   [0xE3, 0x80, 0x80]]

/-- Strip one leading blank (ASCII or one of `seqs`), if any. -/
def stripOne (seqs : List Bytes) (bs : Bytes) : Option Bytes :=
  match bs with
  | [] => none
  | b :: t =>
    if isAsciiSpace b then some t
    else (seqs.find? (fun q => q.isPrefixOf bs)).map (fun q => bs.drop q.length)

/-- Trim leading blanks; `fuel` bounds the iterations (each removes ≥ 1 byte). -/
def trimLeftAux (seqs : List Bytes) : Nat → Bytes → Bytes
  | 0, bs => bs
  | n + 1, bs => match stripOne seqs bs with
    | some t => trimLeftAux seqs n t
    | none => bs

def trimLeft (bs : Bytes) : Bytes := trimLeftAux spaceSeqs bs.length bs
def trimRight (bs : Bytes) : Bytes := (trimLeftAux (spaceSeqs.map List.reverse) bs.length bs.reverse).reverse
/-- `bytes.TrimSpace` / `strings.TrimSpace` -/
def trim (bs : Bytes) : Bytes := trimRight (trimLeft bs)

/-- `bytes.TrimRight(line, "\r\n")` -/
def trimRightCRLF (bs : Bytes) : Bytes := (bs.reverse.dropWhile (fun b => b = CR || b = LF)).reverse

def COLON : UInt8 := 58

/-- `bytes.Cut(line, ":")` -/
def cutColon : Bytes → Option (Bytes × Bytes)
  | [] => none
  | b :: bs => if b = COLON then some ([], bs) else
      match cutColon bs with
      | some (k, v) => some (b :: k, v)
      | none => none

structure Scan where
  evt : Event := {}
  dataBuf : Option Bytes := none     -- non-nil: the preceding field(s) were data
  out : List Event := []
  malformed : Bool := false          -- terminal error yielded
deriving Repr, Inhabited

def yieldEvent (a : Scan) : Scan :=
  let evt := match a.dataBuf with
    | some d => { a.evt with data := d }
    | none => a.evt
  if evt.isEmpty then { a with evt := evt, dataBuf := none }
  else { a with evt := {}, dataBuf := none, out := a.out ++ [evt] }

/-- The field `k` with (trimmed) value `v` applied to the event being collected. -/
def applyField (a : Scan) (k v : Bytes) : Scan :=
  if k = sse_eventKey then { a with evt := { a.evt with name := v } }
  else if k = sse_idKey then { a with evt := { a.evt with id := v } }
  else if k = sse_retryKey then { a with evt := { a.evt with retry := v } }
  else if k = sse_dataKey then
    { a with dataBuf := some (match a.dataBuf with
        | none => v
        | some d => d ++ [LF] ++ v) }
  else a

/-- A non-empty line: `key:value` dispatch. -/
def procLine (a : Scan) (line : Bytes) : Scan :=
  match cutColon line with
  | none => { a with malformed := true }
  | some (k, v) => applyField a k (trim v)

/-- A complete line (terminated by LF; not at EOF). -/
def stepLine (a : Scan) (raw : Bytes) : Scan :=
  if a.malformed then a else
  let line := trimRightCRLF raw
  if line = [] then yieldEvent a else procLine a line

/-- The unterminated rest at EOF (possibly empty). -/
def finishLine (a : Scan) (raw : Bytes) : Scan :=
  if a.malformed then a else
  let line := trimRightCRLF raw
  if line = [] then yieldEvent a
  else
    let a' := procLine a line
    if a'.malformed then a' else yieldEvent a'

/-- `scanEvents` run to the end of the input: the events yielded, and whether it ended with the
"malformed line" error. -/
def scanEvents (bs : Bytes) : List Event × Bool :=
  let (ls, rest) := splitLines bs
  let a := finishLine (ls.foldl stepLine {}) rest
  (a.out, a.malformed)

/-! ## the domain of `sse_roundtrip` -/

/-- A field value the property quantifies over: `TrimSpace` leaves it unchanged (no blank at either
end — true of every compact JSON text, of every event name and id the SDK uses) and it has no LF. -/
def Clean (v : Bytes) : Prop := trim v = v ∧ LF ∉ v

structure CleanEvent (e : Event) : Prop where
  name : Clean e.name
  id : Clean e.id
  retry : Clean e.retry
  data : Clean e.data
  nonempty : e.isEmpty = false

/-! ## event streams as a FOREIGN peer may frame them

`writeEvent` is one writer.  A text/event-stream from another server or through a proxy may end its
lines in CRLF as well as LF (here: chosen line by line), carry comment lines, fields in any order and
more than once, a payload spread over several `data` lines, `retry` lines, fields this SDK does not
know, and any run of spaces/tabs after the colon.  (A bare CR as a line end is outside: the scanner
splits at LF only.) -/

inductive Eol where
  | lf | crlf
deriving DecidableEq, Repr, Inhabited

def Eol.bytes : Eol → Bytes
  | .lf => [LF]
  | .crlf => [CR, LF]

/-- what is left of the line end in front of the LF -/
def Eol.cr : Eol → Bytes
  | .lf => []
  | .crlf => [CR]

/-- lines, each with its own line end -/
def renderLines : List (Bytes × Eol) → Bytes
  | [] => []
  | (l, e) :: t => l ++ (e.bytes ++ renderLines t)

/-- One line `key ":" pad value` with its line end.  The empty key is a comment line. -/
structure FLine where
  key : Bytes
  pad : Bytes := []
  val : Bytes := []
  eol : Eol := .lf
deriving DecidableEq, Repr, Inhabited

def FLine.text (l : FLine) : Bytes := l.key ++ COLON :: (l.pad ++ l.val)

/-- An event as the peer frames it: its lines, then the blank line that dispatches it. -/
structure FEvent where
  lines : List FLine
  endEol : Eol := .lf
deriving DecidableEq, Repr, Inhabited

def FEvent.render (e : FEvent) : List (Bytes × Eol) := e.lines.map (fun l => (l.text, l.eol)) ++ [([], e.endEol)]

def renderStream (es : List FEvent) : Bytes := renderLines (es.flatMap FEvent.render)

def sseKeys : List Bytes := [sse_eventKey, sse_idKey, sse_retryKey, sse_dataKey]

/-- the value of the LAST line with key `k` (empty if there is none) -/
def lastField (k : Bytes) (ls : List FLine) : Bytes :=
  (((ls.filter (fun l => l.key = k)).getLast?).map (·.val)).getD []

/-- the values joined with single line feeds -/
def joinLF : List Bytes → Bytes
  | [] => []
  | v :: t => t.foldl (fun d x => d ++ LF :: x) v

/-- What a framed event denotes (text/event-stream processing model, as far as this SDK reads it):
the last `event`, `id` and `retry` value, and the `data` values in order joined with LF; comments and
unknown fields contribute nothing. -/
def FEvent.denote (e : FEvent) : Event :=
  { name := lastField sse_eventKey e.lines, id := lastField sse_idKey e.lines,
    retry := lastField sse_retryKey e.lines,
    data := joinLF ((e.lines.filter (fun l => l.key = sse_dataKey)).map (·.val)) }

/-- A line the property speaks about: the key has no colon, the line no LF; for the four fields the
SDK reads, the pad is spaces/tabs and the value is trimmed (then it has no blank — so no CR — at
either end).  The value of a comment or of an unknown field is arbitrary. -/
structure WfFLine (l : FLine) : Prop where
  nocolon : COLON ∉ l.key
  nolf : LF ∉ l.text
  known : l.key ∈ sseKeys → (∀ b ∈ l.pad, b = 32 ∨ b = 9) ∧ trim l.val = l.val

/-- decidable form, for the driver -/
def wfFLine (l : FLine) : Bool :=
  !l.key.contains COLON && !l.text.contains LF &&
  (!sseKeys.contains l.key || (l.pad.all (fun b => b = 32 || b = 9) && trim l.val = l.val))

end Wire
