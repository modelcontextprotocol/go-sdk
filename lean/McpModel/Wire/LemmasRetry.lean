import McpModel.Wire.Retry
import McpModel.Wire.LemmasJson
/-! # E2 Wire — what a retried request carries: the two members `setMultiRoundTripRetryParams` adds are read back
as assigned, next to any other params members; the response kinds are told apart by one member each -/
namespace Wire.L
open Wire Generated.Wire

theorem decodeResponses_kinds (rs : List (Bytes × JVal)) (kind : JVal → RespKind) (h : ∀ p ∈ rs, respKindOf p.2 = .ok (kind p.2)) :
    decodeResponses rs = .ok (rs.map (fun p => (p.1, kind p.2))) := by
  induction rs with
  | nil => rfl
  | cons p t ih =>
    obtain ⟨k, v⟩ := p
    have h1 := h (k, v) (by simp)
    have h2 := ih (fun q hq => h q (by simp [hq]))
    simp only [decodeResponses]
    simp only [] at h1
    rw [h1, h2]; rfl

theorem retry_names : [retry_InputResponses_name, retry_RequestState_name].Nodup := by decide

theorem retry_members (rest rs : List (Bytes × JVal)) (state : Bytes)
    (h1 : lookup retry_InputResponses_name rest = none) (h2 : lookup retry_RequestState_name rest = none) :
    lookup retry_InputResponses_name (retryParams rest rs state) = (if rs = [] then none else some (.obj rs)) ∧
    lookup retry_RequestState_name (retryParams rest rs state) = (if state = [] then none else some (.str state)) := by
  rw [retryParams, lookup_append, lookup_append, h1, h2, Option.or_none, Option.or_none]
  exact ⟨lookup_struct retry_names _, lookup_struct retry_names _⟩

theorem retry_roundtrip (rest rs : List (Bytes × JVal)) (state : Bytes) (kind : JVal → RespKind)
    (h1 : lookup retry_InputResponses_name rest = none) (h2 : lookup retry_RequestState_name rest = none)
    (hk : ∀ p ∈ rs, respKindOf p.2 = .ok (kind p.2)) :
    lookup retry_InputResponses_name (retryParams rest rs state) = (if rs = [] then none else some (.obj rs)) ∧
    lookup retry_RequestState_name (retryParams rest rs state) = (if state = [] then none else some (.str state)) ∧
    decodeRetry (retryParams rest rs state) = .ok (rs.map (fun p => (p.1, kind p.2)), state) := by
  obtain ⟨e1, e2⟩ := retry_members rest rs state h1 h2
  refine ⟨e1, e2, ?_⟩
  unfold decodeRetry
  rw [e1, e2]
  have hd := decodeResponses_kinds rs kind hk
  by_cases hr : rs = [] <;> by_cases hs : state = [] <;>
    simp [hr, hs, decodeInputResponses, decodeState, hd]

theorem resp_kind_discriminated (kvs : List (Bytes × JVal)) :
    ((lookup probe_Roots_name kvs).isSome = true → respKindOf (.obj kvs) = .ok .roots) ∧
    ((lookup probe_Roots_name kvs) = none → (lookup probe_Action_name kvs).isSome = true → respKindOf (.obj kvs) = .ok .elicit) ∧
    ((lookup probe_Roots_name kvs) = none → (lookup probe_Action_name kvs) = none → (lookup probe_Role_name kvs).isSome = true →
      respKindOf (.obj kvs) = .ok .sampling) ∧
    ((lookup probe_Roots_name kvs) = none → (lookup probe_Action_name kvs) = none → (lookup probe_Role_name kvs) = none →
      respKindOf (.obj kvs) = .error ()) := by
  refine ⟨?_, ?_, ?_, ?_⟩ <;> intros <;> simp_all [respKindOf]

end Wire.L
