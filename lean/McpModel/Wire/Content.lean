import McpModel.Wire.Msg
/-!
# E2 Wire — content ⇄ `wireContent` (`mcp/content.go`)

`encodeContent` mirrors the seven `MarshalJSON` methods (each with the struct it really marshals:
`textWire`, `imageAudioWire`, `wireContent`, `toolUseWire`, `toolResultWire` — member names and
`omitempty` flags regenerated from the struct tags).  `wcOfJson` mirrors unmarshalling into
`wireContent`, `contentFromWire` the type switch with its allow lists.
Nested content of a `tool_result` is each block's own `MarshalJSON` output (finding F8, fixed in /repo);
`reencodeViaWire` is the other path (own output → `wireContent` → `omitempty`), about which the F8
counter-examples are stated.

Plain tagged sub-structs without SDK code of their own (`Annotations`, `Icon`, `ResourceContents`)
and `any`-typed members (`_meta`, `input`, `structuredContent`) are opaque JSON values here: their
(de)serialisation is `encoding/json`'s (trusted); only their JSON kind is checked on decoding.
`[]byte` members are modelled by their base64 text.
-/
namespace Wire
open Generated.Wire

/-- The members of any JSON object: the Go type `Meta` of `_meta`, and also `map[string]any` (`input` of a tool use). -/
abbrev Meta := List (Bytes × JVal)

inductive Content where
  | text (text : Bytes) (mta : Meta) (ann : Option JVal)
  | image (data mime : Bytes) (mta : Meta) (ann : Option JVal)
  | audio (data mime : Bytes) (mta : Meta) (ann : Option JVal)
  | link (uri name title description mime : Bytes) (size : Option Int) (mta : Meta) (ann : Option JVal) (icons : List JVal)
  | resource (res : Option JVal) (mta : Meta) (ann : Option JVal)
  | toolUse (id name : Bytes) (input : Meta) (mta : Meta)
  | toolResult (toolUseId : Bytes) (content : List Content) (structured : Option JVal) (isError : Bool) (mta : Meta)
deriving Repr, Inhabited

def kText : Bytes := [116, 101, 120, 116]                                             -- "text"
def kImage : Bytes := [105, 109, 97, 103, 101]                                       -- "image"
def kAudio : Bytes := [97, 117, 100, 105, 111]                                       -- "audio"
def kLink : Bytes := [114, 101, 115, 111, 117, 114, 99, 101, 95, 108, 105, 110, 107]  -- "resource_link"
def kResource : Bytes := [114, 101, 115, 111, 117, 114, 99, 101]                      -- "resource"
def kToolUse : Bytes := [116, 111, 111, 108, 95, 117, 115, 101]                       -- "tool_use"
def kToolResult : Bytes := [116, 111, 111, 108, 95, 114, 101, 115, 117, 108, 116]     -- "tool_result"

def Content.kind : Content → Bytes
  | .text .. => kText
  | .image .. => kImage
  | .audio .. => kAudio
  | .link .. => kLink
  | .resource .. => kResource
  | .toolUse .. => kToolUse
  | .toolResult .. => kToolResult

/-! ## Encoding -/

def optStr (s : Bytes) : Option JVal := if s = [] then none else some (.str s)
def optObj (m : Meta) : Option JVal := if m = [] then none else some (.obj m)
def optArr (l : List JVal) : Option JVal := if l = [] then none else some (.arr l)
def optBool (b : Bool) : Option JVal := if b then some (.bool true) else none

mutual
/-- `MarshalJSON` of each content type. -/
def encodeContent : Content → JVal
  | .text t m a => .obj (members [
      member textWire_Type_name textWire_Type_omit (optStr kText) (.str []),
      member textWire_Text_name textWire_Text_omit (optStr t) (.str []),
      member textWire_Meta_name textWire_Meta_omit (optObj m) .null,
      member textWire_Annotations_name textWire_Annotations_omit a .null])
  | .image d mime m a => .obj (members [
      member imageAudioWire_Type_name imageAudioWire_Type_omit (optStr kImage) (.str []),
      member imageAudioWire_MIMEType_name imageAudioWire_MIMEType_omit (optStr mime) (.str []),
      member imageAudioWire_Data_name imageAudioWire_Data_omit (optStr d) (.str []),
      member imageAudioWire_Meta_name imageAudioWire_Meta_omit (optObj m) .null,
      member imageAudioWire_Annotations_name imageAudioWire_Annotations_omit a .null])
  | .audio d mime m a => .obj (members [
      member imageAudioWire_Type_name imageAudioWire_Type_omit (optStr kAudio) (.str []),
      member imageAudioWire_MIMEType_name imageAudioWire_MIMEType_omit (optStr mime) (.str []),
      member imageAudioWire_Data_name imageAudioWire_Data_omit (optStr d) (.str []),
      member imageAudioWire_Meta_name imageAudioWire_Meta_omit (optObj m) .null,
      member imageAudioWire_Annotations_name imageAudioWire_Annotations_omit a .null])
  | .link uri name title desc mime size m a icons => .obj (members [
      member wireContent_Type_name wireContent_Type_omit (optStr kLink) (.str []),
      member wireContent_MIMEType_name wireContent_MIMEType_omit (optStr mime) (.str []),
      member wireContent_URI_name wireContent_URI_omit (optStr uri) (.str []),
      member wireContent_Name_name wireContent_Name_omit (optStr name) (.str []),
      member wireContent_Title_name wireContent_Title_omit (optStr title) (.str []),
      member wireContent_Description_name wireContent_Description_omit (optStr desc) (.str []),
      member wireContent_Size_name wireContent_Size_omit (size.map .int) .null,
      member wireContent_Meta_name wireContent_Meta_omit (optObj m) .null,
      member wireContent_Annotations_name wireContent_Annotations_omit a .null,
      member wireContent_Icons_name wireContent_Icons_omit (optArr icons) .null])
  | .resource r m a => .obj (members [
      member wireContent_Type_name wireContent_Type_omit (optStr kResource) (.str []),
      member wireContent_Resource_name wireContent_Resource_omit r .null,
      member wireContent_Meta_name wireContent_Meta_omit (optObj m) .null,
      member wireContent_Annotations_name wireContent_Annotations_omit a .null])
  | .toolUse id name input m => .obj (members [
      member toolUseWire_Type_name toolUseWire_Type_omit (optStr kToolUse) (.str []),
      member toolUseWire_ID_name toolUseWire_ID_omit (optStr id) (.str []),
      member toolUseWire_Name_name toolUseWire_Name_omit (optStr name) (.str []),
      -- nil map is replaced by an empty one before marshalling: never null
      (toolUseWire_Input_name, if input = [] ∧ toolUseWire_Input_omit then none else some (.obj input)),
      member toolUseWire_Meta_name toolUseWire_Meta_omit (optObj m) .null])
  | .toolResult tid cs st isErr m => .obj (members [
      member toolResultWire_Type_name toolResultWire_Type_omit (optStr kToolResult) (.str []),
      member toolResultWire_ToolUseID_name toolResultWire_ToolUseID_omit (optStr tid) (.str []),
      -- nil slice is replaced by an empty one: never null
      (toolResultWire_Content_name, if cs = [] ∧ toolResultWire_Content_omit then none else some (.arr (encodeContents cs))),
      member toolResultWire_StructuredContent_name toolResultWire_StructuredContent_omit st .null,
      member toolResultWire_IsError_name toolResultWire_IsError_omit (optBool isErr) (.bool false),
      member toolResultWire_Meta_name toolResultWire_Meta_omit (optObj m) .null])
def encodeContents : List Content → List JVal
  | [] => []
  | c :: t => encodeContent c :: encodeContents t
end

/-! ## Decoding -/

inductive CErr where
  | unmarshal       -- JSON does not fit `wireContent`
  | nilContent      -- "nil content"
  | notAllowed      -- "invalid content type" (allow list)
  | unrecognized    -- "unrecognized content type"
deriving DecidableEq, Repr, Inhabited

/-- The non-recursive members of `wireContent`. -/
structure WCS where
  type : Bytes := []
  text : Bytes := []
  mime : Bytes := []
  data : Bytes := []
  resource : Option JVal := none
  uri : Bytes := []
  name : Bytes := []
  title : Bytes := []
  description : Bytes := []
  size : Option Int := none
  mta : Meta := []
  ann : Option JVal := none
  icons : List JVal := []
  id : Bytes := []
  input : Meta := []
  toolUseId : Bytes := []
  structured : Option JVal := none
  isError : Bool := false
deriving Repr, Inhabited

/-- `wireContent`; `nested = none` is a nil `NestedContent` slice, elements `none` are nil pointers. -/
inductive WC where
  | mk (s : WCS) (nested : Option (List (Option WC)))
deriving Repr, Inhabited

def cString : JVal → Except CErr Bytes
  | .null => .ok []
  | .str s => .ok s
  | _ => .error .unmarshal

/-- pointer-to-struct / map members: object or null -/
def cObjOpt : JVal → Except CErr (Option JVal)
  | .null => .ok none
  | .obj kvs => .ok (some (.obj kvs))
  | _ => .error .unmarshal

def cMap : JVal → Except CErr Meta
  | .null => .ok []
  | .obj kvs => .ok kvs
  | _ => .error .unmarshal

def cAllObj : List JVal → Bool
  | [] => true
  | .obj _ :: t => cAllObj t
  | _ => false

/-- The zero `Icon` as `encoding/json` writes it (a `null` array element leaves the zero struct). -/
def zeroIcon : JVal :=
  .obj (members [
    member Icon_Source_name Icon_Source_omit none (.str []),
    member Icon_MIMEType_name Icon_MIMEType_omit none (.str []),
    member Icon_Sizes_name Icon_Sizes_omit none .null,
    member Icon_Theme_name Icon_Theme_omit none (.str [])])

def cIconList : List JVal → Except CErr (List JVal)
  | [] => .ok []
  | .obj kvs :: t => (cIconList t).map (.obj kvs :: ·)
  | .null :: t => (cIconList t).map (zeroIcon :: ·)
  | _ => .error .unmarshal

/-- `[]Icon`: array of objects (or nulls), or null -/
def cIcons : JVal → Except CErr (List JVal)
  | .null => .ok []
  | .arr l => cIconList l
  | _ => .error .unmarshal

/-- `[]byte`: a base64 string (kept as its text), null, or an empty array.  The array-of-numbers
form and non-canonical base64 text belong to the JSON library and are outside this model. -/
def cBytes : JVal → Except CErr Bytes
  | .null => .ok []
  | .str s => .ok s
  | .arr [] => .ok []
  | _ => .error .unmarshal

def cSize : JVal → Except CErr (Option Int)
  | .null => .ok none
  | .int n => if inInt64 n then .ok (some n) else .error .unmarshal
  | _ => .error .unmarshal

def cBool : JVal → Except CErr Bool
  | .null => .ok false
  | .bool b => .ok b
  | _ => .error .unmarshal

/-- `any`: null leaves nil -/
def cAny : JVal → Option JVal
  | .null => none
  | v => some v

/-- One scalar member applied to the struct being filled (unknown names are ignored; names are
compared exactly — `DontMatchCaseInsensitiveStructFields`).  JSON `null` is a no-op for a `string` or `bool`
field (the value an earlier duplicate member wrote stays) but sets a slice, map, pointer or `any` field to nil. -/
def setScalar (k : Bytes) (v : JVal) (w : WCS) : Except CErr WCS :=
  if k = wireContent_Type_name then do let s ← cString v; .ok { w with type := if v = .null then w.type else s }
  else if k = wireContent_Text_name then do let s ← cString v; .ok { w with text := if v = .null then w.text else s }
  else if k = wireContent_MIMEType_name then do let s ← cString v; .ok { w with mime := if v = .null then w.mime else s }
  else if k = wireContent_Data_name then do let s ← cBytes v; .ok { w with data := s }
  else if k = wireContent_Resource_name then do let s ← cObjOpt v; .ok { w with resource := s }
  else if k = wireContent_URI_name then do let s ← cString v; .ok { w with uri := if v = .null then w.uri else s }
  else if k = wireContent_Name_name then do let s ← cString v; .ok { w with name := if v = .null then w.name else s }
  else if k = wireContent_Title_name then do let s ← cString v; .ok { w with title := if v = .null then w.title else s }
  else if k = wireContent_Description_name then do let s ← cString v; .ok { w with description := if v = .null then w.description else s }
  else if k = wireContent_Size_name then do let s ← cSize v; .ok { w with size := s }
  else if k = wireContent_Meta_name then do let s ← cMap v; .ok { w with mta := s }
  else if k = wireContent_Annotations_name then do let s ← cObjOpt v; .ok { w with ann := s }
  else if k = wireContent_Icons_name then do let s ← cIcons v; .ok { w with icons := s }
  else if k = wireContent_ID_name then do let s ← cString v; .ok { w with id := if v = .null then w.id else s }
  else if k = wireContent_Input_name then do let s ← cMap v; .ok { w with input := s }
  else if k = wireContent_ToolUseID_name then do let s ← cString v; .ok { w with toolUseId := if v = .null then w.toolUseId else s }
  else if k = wireContent_StructuredContent_name then .ok { w with structured := cAny v }
  else if k = wireContent_IsError_name then do let s ← cBool v; .ok { w with isError := if v = .null then w.isError else s }
  else .ok w

mutual
/-- Unmarshal into `*wireContent` (`none` = JSON null = nil pointer). -/
def wcOfJson : JVal → Except CErr (Option WC)
  | .null => .ok none
  | .obj kvs => do
    let (s, n) ← wcFields kvs ({}, none)
    .ok (some (.mk s n))
  | _ => .error .unmarshal
/-- Members in document order; a later member overwrites an earlier one of the same name. -/
def wcFields : List (Bytes × JVal) → WCS × Option (List (Option WC)) → Except CErr (WCS × Option (List (Option WC)))
  | [], acc => .ok acc
  | (k, v) :: t, (s, n) =>
    if k = wireContent_NestedContent_name then do
      let n' ← wcNested v
      wcFields t (s, n')
    else do
      let s' ← setScalar k v s
      wcFields t (s', n)
def wcNested : JVal → Except CErr (Option (List (Option WC)))
  | .null => .ok none
  | .arr l => do
    let ws ← wcList l
    .ok (some ws)
  | _ => .error .unmarshal
def wcList : List JVal → Except CErr (List (Option WC))
  | [] => .ok []
  | v :: t => do
    let w ← wcOfJson v
    let ws ← wcList t
    .ok (w :: ws)
end

def allowed (allow : Option (List Bytes)) (k : Bytes) : Bool :=
  match allow with
  | none => true
  | some l => l.contains k

mutual
/-- `contentFromWire` -/
def contentFromWire (allow : Option (List Bytes)) : Option WC → Except CErr Content
  | none => .error .nilContent
  | some (.mk w nested) =>
    if !allowed allow w.type then .error .notAllowed
    else if w.type = kText then .ok (.text w.text w.mta w.ann)
    else if w.type = kImage then .ok (.image w.data w.mime w.mta w.ann)
    else if w.type = kAudio then .ok (.audio w.data w.mime w.mta w.ann)
    else if w.type = kLink then .ok (.link w.uri w.name w.title w.description w.mime w.size w.mta w.ann w.icons)
    else if w.type = kResource then .ok (.resource w.resource w.mta w.ann)
    else if w.type = kToolUse then .ok (.toolUse w.id w.name w.input w.mta)
    else if w.type = kToolResult then
      match nested with
      | none => .ok (.toolResult w.toolUseId [] w.structured w.isError w.mta)
      | some ws => do
        let cs ← contentsFromWire allowNested ws
        .ok (.toolResult w.toolUseId cs w.structured w.isError w.mta)
    else .error .unrecognized
/-- `contentsFromWire` -/
def contentsFromWire (allow : Option (List Bytes)) : List (Option WC) → Except CErr (List Content)
  | [] => .ok []
  | w :: t => do
    let c ← contentFromWire allow w
    let cs ← contentsFromWire allow t
    .ok (c :: cs)
end

/-! ## Well-formed content values (the domain of `content_roundtrip`) -/

/-- an optional plain sub-struct (`*Annotations`, `*ResourceContents`): absent or a JSON object -/
def isObjOpt : Option JVal → Bool
  | none => true
  | some (.obj _) => true
  | _ => false

mutual
/-- A content value as the Go types can hold it: sub-structs are objects, `size` is an int64, a
non-nil `structuredContent` does not marshal to `null`, and the blocks nested in a tool_result are
of the kinds `contentFromWire` admits there (regenerated `allowNested`). -/
def wfContent : Content → Bool
  | .text _ _ a => isObjOpt a
  | .image _ _ _ a => isObjOpt a
  | .audio _ _ _ a => isObjOpt a
  | .link _ _ _ _ _ sz _ a ic => isObjOpt a && cAllObj ic && (match sz with | some n => inInt64 n | none => true)
  | .resource r _ a => isObjOpt a && isObjOpt r
  | .toolUse .. => true
  | .toolResult _ cs st _ _ => (match st with | some .null => false | _ => true) && wfNested cs
def wfNested : List Content → Bool
  | [] => true
  | c :: t => wfContent c && allowed allowNested c.kind && wfNested t
end

mutual
/-- The `wireContent` value a content value unmarshals to. -/
def toWC : Content → WC
  | .text t m a => .mk { type := kText, text := t, mta := m, ann := a } none
  | .image d mi m a => .mk { type := kImage, data := d, mime := mi, mta := m, ann := a } none
  | .audio d mi m a => .mk { type := kAudio, data := d, mime := mi, mta := m, ann := a } none
  | .link u nm t d mi sz m a ic =>
    .mk { type := kLink, uri := u, name := nm, title := t, description := d, mime := mi, size := sz, mta := m, ann := a, icons := ic } none
  | .resource r m a => .mk { type := kResource, resource := r, mta := m, ann := a } none
  | .toolUse id nm inp m => .mk { type := kToolUse, id := id, name := nm, input := inp, mta := m } none
  | .toolResult tid cs st ie m =>
    .mk { type := kToolResult, toolUseId := tid, structured := st, isError := ie, mta := m } (some (toWCs cs))
def toWCs : List Content → List (Option WC)
  | [] => []
  | c :: t => some (toWC c) :: toWCs t
end

/-- Unmarshal one content object (`*wireContent` member) and convert it. -/
def decodeContent (allow : Option (List Bytes)) (j : JVal) : Except CErr Content := do
  let w ← wcOfJson j
  contentFromWire allow w

/-- `[]*wireContent` member (CallToolResult): array or null. -/
def decodeContentList (allow : Option (List Bytes)) (j : JVal) : Except CErr (List Content) := do
  match ← wcNested j with
  | none => .ok []
  | some ws => contentsFromWire allow ws

/-- `unmarshalContent`: absent/null ⇒ "nil content"; an array, else a single object. -/
def unmarshalContent (allow : Option (List Bytes)) : Option JVal → Except CErr (List Content)
  | none => .error .nilContent
  | some .null => .error .nilContent
  | some (.arr l) => do
    -- array first; if the array does not unmarshal, the single-object attempt fails too
    let ws ← wcList l
    contentsFromWire allow ws
  | some j => do
    let c ← decodeContent allow j
    .ok [c]

/-! ## Nesting through `wireContent` (F8) -/

/-- `json.Marshal(&wireContent)`: every member with its `omitempty` flag. -/
def wcsToJson (w : WCS) (nested : Option JVal) : JVal :=
  .obj (members [
    member wireContent_Type_name wireContent_Type_omit (optStr w.type) (.str []),
    member wireContent_Text_name wireContent_Text_omit (optStr w.text) (.str []),
    member wireContent_MIMEType_name wireContent_MIMEType_omit (optStr w.mime) (.str []),
    member wireContent_Data_name wireContent_Data_omit (optStr w.data) .null,
    member wireContent_Resource_name wireContent_Resource_omit w.resource .null,
    member wireContent_URI_name wireContent_URI_omit (optStr w.uri) (.str []),
    member wireContent_Name_name wireContent_Name_omit (optStr w.name) (.str []),
    member wireContent_Title_name wireContent_Title_omit (optStr w.title) (.str []),
    member wireContent_Description_name wireContent_Description_omit (optStr w.description) (.str []),
    member wireContent_Size_name wireContent_Size_omit (w.size.map .int) .null,
    member wireContent_Meta_name wireContent_Meta_omit (optObj w.mta) .null,
    member wireContent_Annotations_name wireContent_Annotations_omit w.ann .null,
    member wireContent_Icons_name wireContent_Icons_omit (optArr w.icons) .null,
    member wireContent_ID_name wireContent_ID_omit (optStr w.id) (.str []),
    member wireContent_Input_name wireContent_Input_omit (optObj w.input) .null,
    member wireContent_ToolUseID_name wireContent_ToolUseID_omit (optStr w.toolUseId) (.str []),
    member wireContent_NestedContent_name wireContent_NestedContent_omit nested .null,
    member wireContent_StructuredContent_name wireContent_StructuredContent_omit w.structured .null,
    member wireContent_IsError_name wireContent_IsError_omit (optBool w.isError) (.bool false)])

/-- What a `ToolResultContent.MarshalJSON` that goes through `wireContent` puts into `content` for a
(non-nested) block: the block's own output, unmarshalled into `wireContent` and marshalled again (F8). -/
def reencodeViaWire (c : Content) : Option JVal :=
  match wcOfJson (encodeContent c) with
  | .ok (some (.mk w _)) => some (wcsToJson w none)
  | _ => none

/-! ## `ResourceContents` (plain tagged struct; only its required-member question is modelled) -/

/-- `json.Marshal(ResourceContents)` with the regenerated tags: `text` has `omitempty`, `blob` has
`omitzero` (a nil slice is dropped, an empty non-nil one is written as ""). -/
def encodeResource (uri mime text : Bytes) (blob : Option Bytes) (m : Meta) : JVal :=
  .obj (members [
    member ResourceContents_URI_name ResourceContents_URI_omit (optStr uri) (.str []),
    member ResourceContents_MIMEType_name ResourceContents_MIMEType_omit (optStr mime) (.str []),
    member ResourceContents_Text_name ResourceContents_Text_omit (optStr text) (.str []),
    member ResourceContents_Blob_name ResourceContents_Blob_omit (blob.map .str) .null,
    member ResourceContents_Meta_name ResourceContents_Meta_omit (optObj m) .null])

def isStr : Option JVal → Bool
  | some (.str _) => true
  | _ => false

/-- A resource contents object carries `text` or `blob` (TextResourceContents / BlobResourceContents). -/
def resourceOK : JVal → Bool
  | .obj kvs => isStr (lookup ResourceContents_Text_name kvs) || isStr (lookup ResourceContents_Blob_name kvs)
  | _ => true

/-! ## Required members (monitor and theorem share this predicate) -/

mutual
/-- Required members of a content object are present and non-null: `text` for text, `data` for
image/audio, a `content` array for tool_result — recursively inside that array. -/
def reqOK : JVal → Bool
  | .obj kvs =>
    let ty := lookup wireContent_Type_name kvs
    (if ty = some (.str kText) then isStr (lookup wireContent_Text_name kvs) else true) &&
    (if ty = some (.str kImage) ∨ ty = some (.str kAudio) then isStr (lookup wireContent_Data_name kvs) else true) &&
    (if ty = some (.str kToolResult) then hasArr kvs else true) &&
    reqMembers kvs
  | _ => true
/-- every member named `content` that holds an array holds only blocks that are `reqOK` -/
def reqMembers : List (Bytes × JVal) → Bool
  | [] => true
  | (k, v) :: t => (if k = wireContent_NestedContent_name then reqArr v else true) && reqMembers t
def reqArr : JVal → Bool
  | .arr l => reqList l
  | _ => true
def reqList : List JVal → Bool
  | [] => true
  | v :: t => reqOK v && reqList t
/-- a member named `content` exists and the last one is an array, i.e. `lookup` finds an array there
(`L.hasArr_eq`); written as its own recursion on the member list, like `reqMembers` beside it -/
def hasArr : List (Bytes × JVal) → Bool
  | [] => false
  | (k, v) :: t => if hasArrLater t then hasArr t else (k = wireContent_NestedContent_name && isArr v)
def hasArrLater : List (Bytes × JVal) → Bool
  | [] => false
  | (k, _) :: t => k = wireContent_NestedContent_name || hasArrLater t
def isArr : JVal → Bool
  | .arr _ => true
  | _ => false
end

end Wire
