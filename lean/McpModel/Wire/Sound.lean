import McpModel.Wire.LemmasSse
import McpModel.Wire.Monitor
import McpModel.Base.Logic
/-!
# C19 (and the id / batch parts of C01–C03) — clause soundness of the typed monitors (`Monitor.lean`)

For every clause a monitor can report, the corresponding clause of the property is a predicate `P_…` on the RECORD alone —
the typed operation and the typed observation of the implementation — written from the property text.  The vocabulary
shared with the model is that of the property itself (`wfMsg`, `validWire`, `proj`, `CleanEvent`, `WfFLine`,
`FEvent.denote`, `reqOK` / `resourceOK`, the slot specification `specWrite`); where the text itself speaks of the SDK's
codec the predicate names the model's function for it: `P_inputRequests` (`decodeInputRequests`), `P_liveCli`
(`decodeMsg`), `P_refRoundtrip` / `P_refAccepted` (`refCheck`, `encodeRef`), `P_callResult` (`encodeContents`),
`P_contentRoundtrip` (`wfContent`, `allowed`).

`sound_<clause>` — or `sound_<kind>` (`sound_encdec`, `sound_werr`, `sound_cenc`, `sound_rcall`, `sound_read19`, …) where one
theorem covers every clause a record kind can report: whenever the monitor reports the clause, the predicate is false on that record; proved in the direct
form (on a record that satisfies the predicate the monitor is silent) and turned round by `not_of_fires`.
`silent_of_sound` turns it back: where the model computes its observation, `<kind>_monitor_accepts_model`
(`Bridge.lean`) is `sound_<clause>` on that observation.  `P_retryIntact`, `P_annRoundtrip`, `P_cloneIndependent` are
conjunctions of the monitor's own Boolean tests (the harness computed the facts), so their `sound_…` only say that the
monitor reports nothing else.  The `ioConn` clauses are in `SoundIO.lean`.
-/
namespace Wire
namespace Mon
open Generated.Wire

theorem not_of_fires {P : Prop} {r : Option Clause} {c : Clause} (silent : P → r = none) (h : r = some c) : ¬ P :=
  fun hp => by rw [silent hp] at h; cases h

theorem silent_of_sound {P : Prop} {r : Option Clause} (sound : ∀ c, r = some c → ¬ P) (hp : P) : r = none := by
  cases h : r with
  | none => rfl
  | some c => exact absurd hp (sound c h)

theorem sameJ_refl (a : JVal) : sameJ a a = true := by simp [sameJ]

theorem sameOJ_refl (a : Option JVal) : sameOJ a a = true := by
  cases a <;> simp [sameOJ, sameJ_refl]

mutual
theorem beqC_refl : ∀ (c : Content), beqC c c = true
  | .text .. => by simp [beqC]
  | .image .. => by simp [beqC]
  | .audio .. => by simp [beqC]
  | .link .. => by simp [beqC]
  | .resource .. => by simp [beqC]
  | .toolUse .. => by simp [beqC]
  | .toolResult _ cs _ _ _ => by simp [beqC, beqCL_refl cs]
theorem beqCL_refl : ∀ (cs : List Content), beqCL cs cs = true
  | [] => by simp [beqCL]
  | c :: t => by simp [beqCL, beqC_refl c, beqCL_refl t]
end

mutual
theorem eq_of_beqC : ∀ (a b : Content), beqC a b = true → a = b
  | .text .., b, h => by
    cases b with
    | text => unfold beqC at h; simp only [Bool.and_eq_true, beq_iff_eq] at h; simp only [h]
    | _ => cases h
  | .image .., b, h => by
    cases b with
    | image => unfold beqC at h; simp only [Bool.and_eq_true, beq_iff_eq] at h; simp only [h]
    | _ => cases h
  | .audio .., b, h => by
    cases b with
    | audio => unfold beqC at h; simp only [Bool.and_eq_true, beq_iff_eq] at h; simp only [h]
    | _ => cases h
  | .link .., b, h => by
    cases b with
    | link => unfold beqC at h; simp only [Bool.and_eq_true, beq_iff_eq] at h; simp only [h]
    | _ => cases h
  | .resource .., b, h => by
    cases b with
    | resource => unfold beqC at h; simp only [Bool.and_eq_true, beq_iff_eq] at h; simp only [h]
    | _ => cases h
  | .toolUse .., b, h => by
    cases b with
    | toolUse => unfold beqC at h; simp only [Bool.and_eq_true, beq_iff_eq] at h; simp only [h]
    | _ => cases h
  | .toolResult _ cs _ _ _, b, h => by
    cases b with
    | toolResult _ cs' _ _ _ =>
      unfold beqC at h
      simp only [Bool.and_eq_true, beq_iff_eq] at h
      simp only [h, eq_of_beqCL cs cs' h.1.1.1.2]
    | _ => cases h
theorem eq_of_beqCL : ∀ (a b : List Content), beqCL a b = true → a = b
  | [], [], _ => rfl
  | x :: xs, y :: ys, h => by
    simp [beqCL] at h
    rw [eq_of_beqC x y h.1, eq_of_beqCL xs ys h.2]
  | [], _ :: _, h => by cases h
  | _ :: _, [], h => by cases h
end

theorem wireDiff_none_of_proj (w w' : JVal) (a : Proj) (h1 : proj w = some a) (h2 : proj w' = some a) :
    wireDiff w w' = none := by
  simp [wireDiff, h1, h2]

/-- a reported difference: the two values do not have the same projection -/
theorem wireDiff_some_of_ne (w w' : JVal) (f : Field) (h : wireDiff w w' = some f) :
    ¬ ∃ a, proj w = some a ∧ proj w' = some a := by
  rintro ⟨a, h1, h2⟩
  rw [wireDiff_none_of_proj w w' a h1 h2] at h
  cases h

theorem cleanField_spec (v : Bytes) (h : cleanField v = true) : Clean v := by
  simp only [cleanField, Bool.and_eq_true, decide_eq_true_eq, Bool.not_eq_true', List.contains_eq_mem,
    decide_eq_false_iff_not] at h
  exact ⟨h.1, h.2⟩

theorem cleanEvent_spec (e : Event) (h : cleanEvent e = true) : CleanEvent e := by
  simp only [cleanEvent, Bool.and_eq_true, Bool.not_eq_true'] at h
  obtain ⟨⟨⟨⟨h1, h2⟩, h3⟩, h4⟩, h5⟩ := h
  exact ⟨cleanField_spec _ h1, cleanField_spec _ h2, cleanField_spec _ h3, cleanField_spec _ h4, h5⟩

/-- "Encoding any JSON-RPC message and decoding it again yields an equal value." -/
def P_roundtrip_msg (m : Msg) (back : Option DecObs) : Prop := wfMsg m = true → back = some (.ok m)

theorem sound_encdec (m : Msg) (back : Option DecObs) (c : Clause) (h : encdecMonitor m back = some c) :
    ¬ P_roundtrip_msg m back :=
  not_of_fires (fun hp => by
    unfold encdecMonitor
    split
    · next hw => rw [hp hw]; exact if_pos rfl
    · rfl) h

theorem sound_encdecF1 (m : Msg) (back : Option DecObs) (h : encdecMonitor m back = some .encdecF1) :
    ¬ P_roundtrip_msg m back := sound_encdec m back _ h
theorem sound_encdecNotBack (m : Msg) (back : Option DecObs) (h : encdecMonitor m back = some .encdecNotBack) :
    ¬ P_roundtrip_msg m back := sound_encdec m back _ h
theorem sound_encdecNoEncoding (m : Msg) (back : Option DecObs) (h : encdecMonitor m back = some .encdecNoEncoding) :
    ¬ P_roundtrip_msg m back := sound_encdec m back _ h

theorem encdecF1_only_big (m : Msg) (back : Option DecObs) (h : encdecMonitor m back = some .encdecF1) :
    ∃ n, m.id = .int n ∧ (n > 9007199254740992 ∨ n < -9007199254740992) := by
  unfold encdecMonitor at h
  by_cases hw : wfMsg m = true
  · simp only [hw, ite_true] at h
    cases back with
    | none => simp at h
    | some b =>
      simp only at h
      by_cases hb : b = .ok m
      · simp [hb] at h
      · simp only [hb, ite_false] at h
        by_cases hbig : bigInt (encodeId m.id) = true
        · cases hid : m.id with
          | int n =>
            simp only [hid, encodeId, bigInt, two53, Bool.or_eq_true] at hbig
            rcases hbig with hb | hb
            · exact ⟨n, rfl, Or.inl (by simpa using hb)⟩
            · exact ⟨n, rfl, Or.inr (of_decide_eq_true hb)⟩
          | none => simp [hid, encodeId, bigInt] at hbig
          | str s => simp [hid, encodeId, bigInt] at hbig
        · simp [hbig] at h
  · simp [hw] at h

/-- "A response carries an id" (a valid wire message without method has one): one without is not accepted. -/
def P_respNeedsId (w : JVal) (o : DecEncObs) : Prop := respNoId w = true → o.accepted = false

/-- "Decoding any valid wire message and re-encoding it preserves its id (type and exact integer value), method,
params, result and error code, message and data": the message is accepted and the re-encoding has the same
projection (`proj` lists exactly those members, and the version tag). -/
def P_preserves (w : JVal) (o : DecEncObs) : Prop :=
  validWire w = true → noDupKeys w = true →
    o.paired = true ∧ o.accepted = true ∧ ∃ w', o.reenc = some w' ∧ ∃ a, proj w = some a ∧ proj w' = some a

/-! `decencMonitor` judges a response without id by `respNeedsId` alone, every other value by the
`encode_decode_preserves` clauses alone. -/

theorem decenc_noId (w : JVal) (o : DecEncObs) (h1 : respNoId w = true) :
    decencMonitor w o = if o.accepted = true then some .respNeedsId else none := by
  simp only [decencMonitor, h1, if_true]

theorem decenc_preserves_silent (w : JVal) (o : DecEncObs) (h1 : respNoId w = false) (hp : P_preserves w o) :
    decencMonitor w o = none := by
  simp only [decencMonitor, h1, Bool.false_eq_true, if_false]
  split
  · next h2 =>
    rw [Bool.and_eq_true] at h2
    obtain ⟨p1, p2, w', p3, a, p4, p5⟩ := hp h2.1 h2.2
    simp only [p1, p2, p3, wireDiff_none_of_proj w w' a p4 p5, Bool.not_true, Bool.false_eq_true, if_false]
  · rfl

theorem decenc_ne_respNeedsId (w : JVal) (o : DecEncObs) (h1 : respNoId w = false) :
    decencMonitor w o ≠ some .respNeedsId := by
  intro h
  simp only [decencMonitor, h1, Bool.false_eq_true, if_false, ite_eq_some_iff, Option.some.injEq, reduceCtorEq, and_false,
    false_or, or_false] at h
  -- what is left is the judgement of the re-encoding, which reports the `edp` clauses only
  obtain ⟨-, -, -, h⟩ := h
  split at h
  · split at h
    · cases h
    · split at h <;> cases h
    · cases h
  · cases h

theorem sound_respNeedsId (w : JVal) (o : DecEncObs) (h : decencMonitor w o = some .respNeedsId) :
    ¬ P_respNeedsId w o := by
  intro hp
  cases h1 : respNoId w with
  | true => rw [decenc_noId w o h1, hp h1] at h; cases h
  | false => exact decenc_ne_respNeedsId w o h1 h

/-- every `encode_decode_preserves` clause (and `bad-observation` of this record kind) refutes the clause -/
theorem sound_preserves (w : JVal) (o : DecEncObs) (c : Clause) (hc : c ≠ .respNeedsId)
    (h : decencMonitor w o = some c) : ¬ P_preserves w o := by
  cases h1 : respNoId w with
  | true =>
    rw [decenc_noId w o h1] at h
    split at h
    · cases h; exact absurd rfl hc
    · cases h
  | false => exact not_of_fires (decenc_preserves_silent w o h1) h

theorem sound_edpRejected (w : JVal) (o : DecEncObs) (h : decencMonitor w o = some .edpRejected) : ¬ P_preserves w o :=
  sound_preserves w o _ (by decide) h
theorem sound_edpIdF1 (w : JVal) (o : DecEncObs) (h : decencMonitor w o = some .edpIdF1) : ¬ P_preserves w o :=
  sound_preserves w o _ (by decide) h
theorem sound_edpId (w : JVal) (o : DecEncObs) (h : decencMonitor w o = some .edpId) : ¬ P_preserves w o :=
  sound_preserves w o _ (by decide) h
theorem sound_edpMember (w : JVal) (o : DecEncObs) (f : Field) (h : decencMonitor w o = some (.edpMember f)) :
    ¬ P_preserves w o := sound_preserves w o _ (by simp) h
theorem sound_edpReencFailed (w : JVal) (o : DecEncObs) (h : decencMonitor w o = some .edpReencFailed) :
    ¬ P_preserves w o := sound_preserves w o _ (by decide) h

/-- "Decoding is case-sensitive": the object with a member whose name differs in case only from a wire name decodes
like the object without that member. -/
def P_caseSensitive (obs : Option (DecObs × DecObs)) : Prop := ∃ a, obs = some (a, a)

theorem sound_caseMatched (obs : Option (DecObs × DecObs)) (c : Clause) (h : casedecMonitor obs = some c) :
    ¬ P_caseSensitive obs :=
  not_of_fires (fun hp => by
    obtain ⟨a, rfl⟩ := hp
    exact if_pos rfl) h

theorem sound_caseMatchedErr (obs : Option (DecObs × DecObs)) (c : Clause) (h : casedecErrMonitor obs = some c) :
    ¬ P_caseSensitive obs :=
  not_of_fires (fun hp => by
    obtain ⟨a, rfl⟩ := hp
    exact if_pos rfl) h

/-- "error code, message": the error object written for a Go error carries the code of the first wire error it
wraps (0 if none) and the outermost error's text. -/
def P_wireErrorWrap (e : GoErr) (obs : Option (List (Bytes × JVal))) : Prop :=
  ∃ kvs, obs = some kvs ∧ lookup WireError_Code_name kvs = some (.int (expectedCode e)) ∧
    lookup WireError_Message_name kvs = some (.str (expectedMessage e))

theorem sound_werr (e : GoErr) (obs : Option (List (Bytes × JVal))) (c : Clause) (h : werrMonitor e obs = some c) :
    ¬ P_wireErrorWrap e obs :=
  not_of_fires (fun hp => by
    obtain ⟨kvs, rfl, h1, h2⟩ := hp
    simp only [werrMonitor, h1, h2, bne_self_eq_false, Bool.false_eq_true, if_false]) h

/-- "never panics on arbitrary bytes" (and does not hang): the decoder returned. -/
def P_returns (crashed : Bool) : Prop := crashed = false

/-! The next seven are named after one clause but stated for EVERY clause `c` their monitor reports (for `rfuzzMonitor` also
`f32Null`). -/

theorem sound_dtDecodeMessage (p : Bool) (c : Clause) (h : fuzzdecMonitor p = some c) : ¬ P_returns p :=
  not_of_fires (fun hp => by cases hp; rfl) h
theorem sound_dtScanPanic (p : Bool) (c : Clause) (h : scanPanicMonitor p = some c) : ¬ P_returns p :=
  not_of_fires (fun hp => by cases hp; rfl) h
theorem sound_dtContentCtx (ctx : String) (p : Bool) (c : Clause) (h : cdecMonitor ctx p = some c) : ¬ P_returns p :=
  not_of_fires (fun hp => by cases hp; rfl) h
theorem sound_dtContentFuzz (p : Bool) (c : Clause) (h : cfuzzMonitor p = some c) : ¬ P_returns p :=
  not_of_fires (fun hp => by cases hp; rfl) h
theorem sound_dtNearValid (ty : String) (j : JVal) (p : Bool) (c : Clause) (h : rfuzzMonitor ty j p = some c) :
    ¬ P_returns p :=
  not_of_fires (fun hp => by cases hp; rfl) h

/-- the same for the readers observed with a crash class -/
def P_noCrash (crash : Option Crash) : Prop := crash = none

theorem sound_dtPost (path : String) (raw : JVal) (cr : Option Crash) (c : Clause) (h : postMonitor path raw cr = some c) :
    ¬ P_noCrash cr :=
  not_of_fires (fun hp => by cases hp; rfl) h
theorem sound_dtLiveIo (raw : JVal) (cr : Option Crash) (c : Clause) (h : liveIoMonitor raw cr = some c) : ¬ P_noCrash cr :=
  not_of_fires (fun hp => by cases hp; rfl) h

/-- "exactly one response bearing that same id (same JSON type and value)", for ids that are strings or integers
in the int64 range. -/
def P_idEcho (idv : JVal) (o : IdObs) : Prop :=
  ((∃ s, idv = .str s) ∨ (∃ n, idv = .int n ∧ inInt64 n = true)) → ∃ v, o = .echoed (some v) ∧ v = idv

theorem sound_idEcho (idv : JVal) (o : IdObs) (c : Clause) (h : idechoMonitor idv o = some c) : ¬ P_idEcho idv o :=
  not_of_fires (fun hp => by
    cases idv with
    | str s =>
      obtain ⟨v, rfl, rfl⟩ := hp (Or.inl ⟨s, rfl⟩)
      simp [idechoMonitor]
    | int n =>
      by_cases hn : inInt64 n = true
      · obtain ⟨v, rfl, rfl⟩ := hp (Or.inr ⟨n, rfl, hn⟩)
        simp [idechoMonitor, hn]
      · simp [idechoMonitor, hn]
    | _ => rfl) h

theorem sound_idRejected (idv : JVal) (o : IdObs) (h : idechoMonitor idv o = some .idRejected) : ¬ P_idEcho idv o :=
  sound_idEcho idv o _ h
theorem sound_idStrNotExact (idv : JVal) (o : IdObs) (h : idechoMonitor idv o = some .idStrNotExact) : ¬ P_idEcho idv o :=
  sound_idEcho idv o _ h
theorem sound_idIntF1 (idv : JVal) (o : IdObs) (h : idechoMonitor idv o = some .idIntF1) : ¬ P_idEcho idv o :=
  sound_idEcho idv o _ h
theorem sound_idIntDiff (idv : JVal) (o : IdObs) (h : idechoMonitor idv o = some .idIntDiff) : ¬ P_idEcho idv o :=
  sound_idEcho idv o _ h

/-- "the same holds through SSE framing for every payload": scanning what `writeEvent` wrote for clean events
returns exactly those events, without error. -/
def P_sseRoundtrip (es : List Event) (o : ScanObs) : Prop :=
  (∀ e ∈ es, CleanEvent e) → o = .res (.scan es false)

theorem sound_sseRoundtrip (es : List Event) (o : ScanObs) (c : Clause) (h : sseRtMonitor es o = some c) :
    ¬ P_sseRoundtrip es o :=
  not_of_fires (fun hp => by
    unfold sseRtMonitor
    split
    · next hc =>
      rw [hp (fun e he => cleanEvent_spec e (List.all_eq_true.mp hc e he))]
      exact if_pos rfl
    · rfl) h

/-- the scanner does not see whether a line ended in LF or CRLF: both scans return, with the same result -/
def P_eolIrrelevant (ls : List (Bytes × Eol)) (rest : Bytes) (o : LinesObs) : Prop :=
  (∀ c, o ≠ .crash c) ∧ ((∀ p ∈ ls, LF ∉ p.1) → LF ∉ rest → ∃ r, o = .pair r r)

theorem sound_sseLines (ls : List (Bytes × Eol)) (rest : Bytes) (o : LinesObs) (c : Clause)
    (h : sseLinesMonitor ls rest o = some c) : ¬ P_eolIrrelevant ls rest o :=
  not_of_fires (fun hp => by
    obtain ⟨hp1, hp2⟩ := hp
    unfold sseLinesMonitor
    split
    · next c => exact absurd rfl (hp1 c)
    · split
      · next hc =>
        rw [Bool.and_eq_true] at hc
        obtain ⟨r, rfl⟩ := hp2 (fun p hp => by simpa using List.all_eq_true.mp hc.1 p hp) (by simpa using hc.2)
        exact if_pos rfl
      · rfl) h

/-- an event stream as any conforming peer frames it is scanned, without error, to the events it denotes -/
def P_anyEol (es : List FEvent) (o : ScanObs) : Prop :=
  (∀ c, o ≠ .crash c) ∧ ((∀ e ∈ es, ∀ l ∈ e.lines, WfFLine l) → o = .res (.scan (denoted es) false))

theorem sound_sseFrn (es : List FEvent) (o : ScanObs) (c : Clause) (h : sseFrnMonitor es o = some c) :
    ¬ P_anyEol es o :=
  not_of_fires (fun hp => by
    obtain ⟨hp1, hp2⟩ := hp
    unfold sseFrnMonitor
    split
    · next c => exact absurd rfl (hp1 c)
    · split
      · next hc =>
        rw [hp2 (fun e he l hl => L.wfFLine_spec l (List.all_eq_true.mp (List.all_eq_true.mp hc e he) l hl))]
        exact if_pos rfl
      · rfl) h

/-- "the same holds through newline-delimited framing for every payload", reader side at the byte level: the values
(objects / arrays), each followed by LF or CRLF (or any white space beginning with one of them), come out of the
connection's reader one by one, as written, and the reader returns. -/
def P_valueByValue (l : List (Bytes × Bytes)) (o : NdObs) : Prop :=
  (∀ c, o ≠ .crash c) ∧ ((∀ q ∈ l, framed q.1 = true ∧ lineSep q.2 = true) → o = .read (l.map (·.1)) .eof)

theorem sound_ndSplit (l : List (Bytes × Bytes)) (o : NdObs) (c : Clause) (h : ndSplitMonitor l o = some c) :
    ¬ P_valueByValue l o :=
  not_of_fires (fun hp => by
    obtain ⟨hp1, hp2⟩ := hp
    unfold ndSplitMonitor
    split
    · next c => exact absurd rfl (hp1 c)
    · split
      · next hc =>
        rw [hp2 (fun q hq => by have := List.all_eq_true.mp hc q hq; rwa [Bool.and_eq_true] at this)]
        simp
      · rfl) h

/-- "required members (content arrays, text, data) are present and non-null", at every nesting depth, and an
embedded resource carries `text` or `blob`. -/
def P_required (obs : Option JVal) : Prop := ∃ ji, obs = some ji ∧ reqOK ji = true ∧ embeddedOK ji = true

theorem sound_cenc (obs : Option JVal) (c : Clause) (h : cencMonitor obs = some c) : ¬ P_required obs :=
  not_of_fires (fun hp => by
    obtain ⟨ji, rfl, h1, h2⟩ := hp
    simp only [cencMonitor, h1, h2, if_true]) h

theorem sound_f8Nested (obs : Option JVal) (h : cencMonitor obs = some .f8Nested) : ¬ P_required obs := sound_cenc obs _ h
theorem sound_contentLacks (obs : Option JVal) (h : cencMonitor obs = some .contentLacks) : ¬ P_required obs := sound_cenc obs _ h
theorem sound_contentNoMarshal (obs : Option JVal) (h : cencMonitor obs = some .contentNoMarshal) : ¬ P_required obs :=
  sound_cenc obs _ h
theorem sound_f23_content (obs : Option JVal) (h : cencMonitor obs = some .f23) : ¬ P_required obs := sound_cenc obs _ h

/-- resource contents carry `text` or `blob` -/
def P_resource (obs : Option JVal) : Prop := ∃ ji, obs = some ji ∧ resourceOK ji = true

theorem sound_cres (obs : Option JVal) (c : Clause) (h : cresMonitor obs = some c) : ¬ P_resource obs :=
  not_of_fires (fun hp => by
    obtain ⟨ji, rfl, h1⟩ := hp
    simp only [cresMonitor, h1, if_true]) h

/-- "Encoding any MCP protocol value and decoding it again yields an equal value", for well-formed content in a
context that admits its kinds. -/
def P_contentRoundtrip (sh : Shape) (allow : Option (List Bytes)) (cs : List Content) (obs : Option (Option (List Content))) : Prop :=
  crtDomain sh allow cs = true → obs = some (some cs)

theorem sound_crt (sh : Shape) (allow : Option (List Bytes)) (cs : List Content) (obs : Option (Option (List Content)))
    (c : Clause) (h : crtMonitor sh allow cs obs = some c) : ¬ P_contentRoundtrip sh allow cs obs :=
  not_of_fires (fun hp => by
    unfold crtMonitor
    split
    · next hd => rw [hp hd]; exact if_pos (beqCL_refl cs)
    · rfl) h

/-- marshal → unmarshal → marshal leaves a protocol value as it was -/
def P_protoStable (j1 : JVal) (obs : Option JVal) : Prop := obs = some j1

theorem sound_rrt (j1 : JVal) (obs : Option JVal) (c : Clause) (h : rrtMonitor j1 obs = some c) : ¬ P_protoStable j1 obs :=
  not_of_fires (fun hp => if_pos hp) h

/-- `tools/call` through a raw handler: the result sent has a `content` ARRAY of exactly the handler's blocks, each
with its required members, `structuredContent` = the handler's value, `isError` iff set. -/
def P_callResult (c : Option (List Content)) (sc : Option JVal) (ie : Bool) (o : ResObs) : Prop :=
  ∃ kvs, o = .obj kvs ∧ ∃ l, lookup CallToolResult_Content_name kvs = some (.arr l) ∧
    reqList l = true ∧ embList l = true ∧
    sameJ (.arr l) (.arr (encodeContents (c.getD []))) = true ∧
    sameOJ (lookup CallToolResult_StructuredContent_name kvs) sc = true ∧
    lookup CallToolResult_IsError_name kvs = (if ie then some (.bool true) else none)

/-- a result that satisfies the clause is accepted whether the handler returned it or returned `(nil, nil)`:
once `content` is an array the two are judged alike -/
theorem rcall_silent (ret : ToolRet) (c : Option (List Content)) (sc : Option JVal) (ie : Bool)
    (hret : ret = .result c sc ie ∨ (ret = .nilResult ∧ c = none ∧ sc = none ∧ ie = false)) (o : ResObs)
    (hp : P_callResult c sc ie o) : rcallMonitor ret o = none := by
  obtain ⟨kvs, rfl, l, h1, h2, h3, h4, h5, h6⟩ := hp
  have h4' : sameOJ (some (.arr l)) (some (.arr (encodeContents (Option.getD c [])))) = true := h4
  rcases hret with rfl | ⟨rfl, rfl, rfl, rfl⟩ <;>
  · simp only [rcallMonitor, h1, isArrJ, contentArrOK, h2, h3, h4', h5, h6]
    simp

theorem sound_rcall (c : Option (List Content)) (sc : Option JVal) (ie : Bool) (o : ResObs) (cl : Clause)
    (h : rcallMonitor (.result c sc ie) o = some cl) : ¬ P_callResult c sc ie o :=
  not_of_fires (rcall_silent _ c sc ie (.inl rfl) o) h

/-- a handler that returned `(nil, nil)` is answered like one that returned an empty result -/
theorem sound_rcall_nil (o : ResObs) (cl : Clause) (h : rcallMonitor .nilResult o = some cl) :
    ¬ P_callResult none none false o :=
  not_of_fires (rcall_silent _ none none false (.inr ⟨rfl, rfl, rfl, rfl⟩) o) h

/-- "list arrays are present and non-null": the required list member of the result is an array (for `resources/read`
of contents that carry `text` or `blob`). -/
def P_requiredList (k : RKind) (o : ResObs) : Prop :=
  ∃ ji, (o = .val ji ∨ ∃ kvs, ji = .obj kvs ∧ o = .obj kvs) ∧ ∃ items, getPath k.path ji = some (.arr items) ∧
    (k = .readResource → items.all resourceOK = true)

theorem sound_rzero (k : RKind) (method : String) (nilres : Bool) (o : ResObs) (c : Clause)
    (h : rzeroMonitor k method nilres o = some c) : ¬ P_requiredList k o :=
  not_of_fires (fun hp => by
    obtain ⟨ji, hji, items, h1, h2⟩ := hp
    have judge : (if (nilres && !isArrJ (getPath k.path ji)) = true then some (nilResultViol method o)
        else if (!isArrJ (getPath k.path ji)) = true then some (.reqListNull method (k == .getPrompt || k == .complete))
        else if (k == .readResource && (match getPath k.path ji with | some (.arr l) => !l.all resourceOK | _ => false)) = true
          then some Clause.f23
        else none) = none := by
      simp only [h1, isArrJ]
      by_cases hk : k = .readResource
      · simp [hk, h2 hk]
      · simp [hk]
    rcases hji with rfl | ⟨kvs, rfl, rfl⟩ <;> exact judge) h

/-- the list member of a paged list result, as written on the wire, is an array (or the request is refused) -/
def P_pagedList (o : PgObs) : Prop := o = .fine

theorem sound_rpg (k : RKind) (keys : List Bytes) (ps : Nat) (cur : Cursor) (o : PgObs) (c : Clause)
    (h : rpgMonitor k keys ps cur o = some c) : ¬ P_pagedList o :=
  not_of_fires (fun hp => by
    cases hp; rfl) h

/-- whatever `readBatch` accepts carries a message, and it returns -/
def P_readBatch (o : RbObs) : Prop := o ≠ .panic ∧ o ≠ .ok 0

theorem sound_rb (raw : JVal) (o : RbObs) (c : Clause) (h : rbMonitor raw o = some c) : ¬ P_readBatch o :=
  not_of_fires (fun hp => by
    obtain ⟨h1, h2⟩ := hp
    cases o with
    | panic => exact absurd rfl h1
    | ok n => cases n with
      | zero => exact absurd rfl h2
      | succ n => rfl
    | other => rfl) h

/-- a live streamable client returns, and a response its own decoder accepts is delivered when it arrives in a
well-formed event stream of a foreign peer -/
def P_liveCli (framing : Option String) (raw : JVal) (o : CliObs) : Prop :=
  (∀ c, o ≠ .crash c) ∧ (framing.isSome = true → (∃ m, decodeMsg raw = .ok m) → o ≠ .error)

theorem sound_liveCli (kind : String) (framing : Option String) (raw : JVal) (o : CliObs) (c : Clause)
    (h : liveCliMonitor kind framing raw o = some c) : ¬ P_liveCli framing raw o :=
  not_of_fires (fun hp => by
    obtain ⟨h1, h2⟩ := hp
    cases o with
    | crash cr => exact absurd rfl (h1 cr)
    | other => rfl
    | error =>
      simp only [liveCliMonitor]
      split
      · next m hd => exact absurd rfl (h2 rfl ⟨m, hd⟩)
      · rfl) h

/-- a member name in another case is ignored wherever a foreign member name is, and the decoder returns -/
def P_caseIgnored (o : CaseObs) : Prop := o = .other

theorem sound_rcase (ty name : String) (j : Option JVal) (idx : List Nat) (o : CaseObs) (c : Clause)
    (h : rcaseMonitor ty name j idx o = some c) : ¬ P_caseIgnored o :=
  not_of_fires (fun hp => by cases hp; rfl) h

/-- `InputRequestMap.UnmarshalJSON` returns, and accepts nothing its case-sensitive reading rejects -/
def P_inputRequests (j : JVal) (o : IrmObs) : Prop :=
  o ≠ .panic ∧ (o = .ok → ∃ l, decodeInputRequests j = .ok l)

theorem sound_rirm (j : JVal) (o : IrmObs) (c : Clause) (h : rirmMonitor j o = some c) : ¬ P_inputRequests j o :=
  not_of_fires (fun hp => by
    obtain ⟨h1, h2⟩ := hp
    cases o with
    | panic => exact absurd rfl h1
    | other => rfl
    | ok =>
      obtain ⟨l, hl⟩ := h2 rfl
      simp only [rirmMonitor, hl]) h

/-- marshal → unmarshal of a reference: a consistent one is written and comes back as itself, an inconsistent one is
refused -/
def P_refRoundtrip (r : CRef) (o : RefRtObs) : Prop :=
  (refCheck r = .ok () → ∃ v, o = .written v (some r)) ∧ (refCheck r ≠ .ok () → o = .refused)

theorem sound_refRt (r : CRef) (o : RefRtObs) (c : Clause) (h : refRtMonitor r o = some c) : ¬ P_refRoundtrip r o :=
  not_of_fires (fun hp => by
    obtain ⟨h1, h2⟩ := hp
    by_cases hc : refCheck r = .ok ()
    · obtain ⟨v, rfl⟩ := h1 hc
      simp [refRtMonitor, hc]
    · rw [h2 hc]
      simp [refRtMonitor, hc]) h

/-- unmarshal → marshal: what is accepted is consistent, and is written again as the encoding of that reference -/
def P_refAccepted (o : RefDecObs) : Prop :=
  o = .rejected ∨ ∃ r w v, o = .accepted r (some w) ∧ refCheck r = .ok () ∧ encodeRef r = .ok v ∧ sameJ w v = true

theorem sound_refDec (o : RefDecObs) (c : Clause) (h : refDecMonitor o = some c) : ¬ P_refAccepted o :=
  not_of_fires (fun hp => by
    rcases hp with rfl | ⟨r, w, v, rfl, hc, hw, hs⟩
    · rfl
    · simp [refDecMonitor, hc, hw, hs]) h

/-- the retried request carries the fulfilled responses and the request state intact, and the server's decoder reads
them as the same keys, each with the kind of its response, and the same state -/
def P_retryIntact (rs : List (Bytes × JVal)) (state : Bytes) (o : RetryObs) : Prop :=
  respIntact rs o = true ∧ stateIntact state o = true ∧ backAlike rs state o = true

theorem sound_retry (rs : List (Bytes × JVal)) (state : Bytes) (o : RetryObs) (c : Clause)
    (h : retryMonitor rs state o = some c) : ¬ P_retryIntact rs state o :=
  not_of_fires (fun hp => by
    obtain ⟨h1, h2, h3⟩ := hp
    simp [retryMonitor, h1, h2, h3]) h

/-- annotations come back as themselves, and the default encoding carries both boolean hints -/
def P_annRoundtrip (compat : Bool) (a : ToolAnn) (o : AnnObs) : Prop :=
  o.back = some a ∧ (compat = false → hintsPresent o.written = true)

theorem sound_ann (compat : Bool) (a : ToolAnn) (o : AnnObs) (c : Clause) (h : annMonitor compat a o = some c) :
    ¬ P_annRoundtrip compat a o :=
  not_of_fires (fun hp => by
    obtain ⟨h1, h2⟩ := hp
    cases compat
    · simp [annMonitor, h1, h2 rfl]
    · simp [annMonitor, h1]) h

/-- the clone encodes like the original, no write through one shows in the other, and an extension added to the
clone is stored there only -/
def P_cloneIndependent (o : CloneObs) : Prop := o.same = true ∧ o.aliased = 0 ∧ o.ext = some true

theorem sound_clone (o : CloneObs) (c : Clause) (h : cloneMonitor o = some c) : ¬ P_cloneIndependent o :=
  not_of_fires (fun hp => by
    obtain ⟨h1, h2, h3⟩ := hp
    simp [cloneMonitor, h1, h2, h3]) h

end Mon
end Wire
