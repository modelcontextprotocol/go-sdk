import McpModel.Wire.LemmasMsg
import McpModel.Wire.LemmasFrame
import McpModel.Wire.LemmasContentRoundtrip
import McpModel.Wire.LemmasBatch
import McpModel.Wire.LemmasSpell
import McpModel.Wire.LemmasResult
import McpModel.Wire.LemmasOrder
import McpModel.Wire.LemmasInput
import McpModel.Wire.LemmasSse
import McpModel.Wire.LemmasNdjson
import McpModel.Wire.LemmasConc
import McpModel.Wire.LemmasRef
import McpModel.Wire.LemmasClone
import McpModel.Wire.LemmasAnn
import McpModel.Wire.LemmasRetry
/-!
# C19 (and the E2 part of C02) — property theorems of the wire engine

Model: `Wire.encodeMsg`/`decodeMsg` (`internal/jsonrpc2/messages.go`, `wire.go`), `decodeID` (the
id path of /repo, F1 fixed), `toWireError`, `frame`/`unframe`, `readBatch`, `opRead`/`opWrite`
(`ioConn`, the batch tracking of /repo, F2 fixed), `writeEvent`/`scanEvents` (`mcp/event.go`; `renderStream`: event streams as any conforming peer frames them),
`encodeContent`/`decodeContent` (`mcp/content.go`, nesting as in /repo, F8 fixed), `sdkResultList`
(normalisation as in /repo, F15 fixed), `listPage` (`paginateList` + the list handlers' `setFunc`, every cursor), `sdkCallTool` (results of raw tool handlers; nil result as in /repo,
wire-F30 = F31 fixed), `unquote` (the spelling of string literals on the wire).  Struct tags, codes and framing constants come from
`Generated.Wire` (regenerated from /repo on every run): a changed tag re-opens these proofs.

Every theorem quantifies over ALL messages / JSON values / byte strings / event lists / label
sequences; nothing is bounded.  What other proofs build on is proved in the `Lemmas*` files (`Wire.L.*`); this file states the
properties — also those of concurrent writers, the retried request, the `CompleteReference` codec and `LoggingTransport`;
the theorems on `ToolAnnotations` and on capabilities clones are stated in `LemmasAnn.lean` / `LemmasClone.lean`.  Counter-example theorems for three of the repaired defects (F1, F2, F8; none for F15 and wire-F30): `L.f1_counterexample_2p53`,
`L.f1_counterexample_maxint64`, `L.f2_counterexample_withheld`, `L.f2_counterexample_dup`,
`L.f8_counterexample_text`, `L.f8_counterexample_image`; for the known finding F23: `L.f23_counterexample`.
-/
namespace Wire
open Generated.Wire

/-- **decode_encode_msg.** Every well-formed message (`wfMsg`: request/notification with a non-empty
method, response with an id; ids: any string incl. empty, any int64; any params/result value; any
error incl. data) decodes from its own encoding to itself. -/
theorem decode_encode_msg (m : Msg) (h : wfMsg m = true) : decodeMsg (encodeMsg m) = .ok m :=
  L.decode_encode_msg m h

example : wfMsg (.response (.int 9223372036854775807) none (some ⟨-32601, [110, 111], some .null⟩)) = true := by decide +kernel

/-- **encode_decode_preserves.** Every valid wire message `w` (`validWire`: `jsonrpc:"2.0"`; id a
string, an integer anywhere in the int64 range, or absent; the member combination of a request,
notification or response; unknown extra members allowed) decodes, and re-encoding the result
preserves the version tag, the id (type and exact value), method, params, result and the error's
code, message and data (`proj`). -/
theorem encode_decode_preserves (w : JVal) (h : validWire w = true) :
    ∃ m, decodeMsg w = .ok m ∧ proj (encodeMsg m) = proj w :=
  L.encode_decode_preserves w h

example : validWire (.obj [(wireDecode_VersionTag_name, .str wireVersion), (wireDecode_ID_name, .int 9007199254740993),
    (wireDecode_Method_name, .str [112]), ([120], .bool true)]) = true := by decide +kernel

/-- **id_echo_exact** (C02 and C19). An id the SDK holds — any string, any int64 — is written and
read back unchanged … -/
theorem id_echo_exact (id : Id) (h : ∀ n, id = .int n → inInt64 n = true) :
    (match encodeId id with
      | none => Except.ok Id.none
      | some v => decodeID v) = .ok id :=
  L.id_echo_exact id h

/-- … and an id token on the wire — a string, or an integer literal anywhere in the int64 range — is
decoded and re-encoded to the identical token (same JSON type, same value).  Before fix F1 this
failed beyond ±2^53 (`L.f1_counterexample_2p53`, `L.f1_counterexample_maxint64`). -/
theorem id_echo_exact_wire (v : JVal) (h : (∃ s, v = .str s) ∨ (∃ n, v = .int n ∧ inInt64 n = true)) :
    (decodeID v).map encodeId = .ok (some v) :=
  L.id_echo_exact_wire v h

/-- **wire_error_wrap.** A `*WireError` goes out unchanged.  Any other error goes out with its own
text as message, no data, and the code of the first `*WireError` in its `Unwrap` tree (0 if none) … -/
theorem wire_error_wrap (e : GoErr) :
    (∀ w, e = .wire w → toWireError e = w) ∧
    (∀ msg ws, e = .other msg ws →
      (toWireError e).message = msg ∧ (toWireError e).data = none ∧
      (toWireError e).code = (match (GoErr.other msg ws).firstWire with | some w => w.code | none => 0)) :=
  L.wire_error_wrap e

/-- … so however deep a wire error is wrapped with `%w`, the wire carries its code and the outermost
message. -/
theorem wire_error_wrap_chain (m : Bytes) (ms : List Bytes) (w : WErr) :
    toWireError (chain (m :: ms) w) = { code := w.code, message := m, data := none } := by
  have := L.firstWire_chain ms w
  simp [chain, toWireError, firstWireL, this]

/-- **decode_case_sensitive.** A member whose name is not exactly one of the six wire names — e.g.
one that differs only in case — has no influence on decoding, wherever it stands. -/
theorem decode_case_sensitive (k : Bytes) (v : JVal) (a b : List (Bytes × JVal)) (h : k ∉ wireNames) :
    decodeMsg (.obj (a ++ (k, v) :: b)) = decodeMsg (.obj (a ++ b)) :=
  L.decode_case_sensitive k v a b h

example : ([73, 68] : Bytes) ∉ wireNames := by decide +kernel   -- "ID"

/-- **decode_error_case_sensitive.** The same one level down, in the `error` object the codec decodes itself:
a member of it whose name is not exactly `code`, `message` or `data` — `Code`, `MESSAGE`, `Data` — has no
influence on decoding, wherever it stands in the error object (before or after the real member, or instead of
it) and wherever the `error` member stands in the message. -/
theorem decode_error_case_sensitive (k : Bytes) (v : JVal) (ea eb pre post : List (Bytes × JVal))
    (h : k ∉ wireErrorNames) :
    decodeMsg (.obj (pre ++ (wireDecode_Error_name, .obj (ea ++ (k, v) :: eb)) :: post)) =
      decodeMsg (.obj (pre ++ (wireDecode_Error_name, .obj (ea ++ eb)) :: post)) :=
  L.decode_error_case_sensitive k v ea eb pre post h

example : ([67, 111, 100, 101] : Bytes) ∉ wireErrorNames := by decide +kernel   -- "Code"

/-- **decode_total.** The model's decoder has no third outcome: a message or an error class for every JSON value — true
of every function into `Except`; the Go side's "never panics on arbitrary bytes" is the fuzzing obligation of the tie. -/
theorem decode_total (w : JVal) : (∃ m, decodeMsg w = .ok m) ∨ (∃ e, decodeMsg w = .error e) :=
  L.decode_total w

theorem response_needs_id (kvs : List (Bytes × JVal))
    (hv : lookup wireDecode_VersionTag_name kvs = some (.str wireVersion))
    (hm : lookup wireDecode_Method_name kvs = none) (hi : lookup wireDecode_ID_name kvs = none)
    (he : validErr (lookup wireDecode_Error_name kvs) = true) :
    decodeMsg (.obj kvs) = .error .noId :=
  L.response_needs_id kvs hv hm hi he

/-- **string_any_spelling.** Every spelling of a string that RFC 8259 allows — each character raw, as
one of the eight short escapes (`\/` included), as `\uXXXX` with hex digits of either case, or as a
UTF-16 surrogate pair — denotes that string: for EVERY list of spelled units, each valid, `unquote` of
the spelled body is the concatenation of what the units denote. -/
theorem string_any_spelling (l : List Sp) (h : ∀ x ∈ l, x.valid = true) : unquote (spell l) = some (denote l) :=
  L.unquote_spell l h

/-- `req\/1` is `req/1`; `\ud83d\uDE00` is U+1F600; a lone surrogate is outside the model. -/
example : unquote [114, 101, 113, 92, 47, 49] = some [114, 101, 113, 47, 49] := by decide +kernel
example : unquote [92, 117, 100, 56, 51, 100, 92, 117, 68, 69, 48, 48] = some [0xF0, 0x9F, 0x98, 0x80] := by decide +kernel
example : unquote [92, 117, 100, 56, 51, 100] = none := by decide +kernel
example : (Sp.pair (13, false) (8, false) (3, false) (13, true) (13, true) (14, true) (0, false) (0, false)).valid = true := by decide +kernel

/-- **string_id_any_spelling** (C02 and C19). A string id is decoded to the string it denotes and
echoed as that string, however the peer spelled it. -/
theorem string_id_any_spelling (l : List Sp) (h : ∀ x ∈ l, x.valid = true) :
    (unquote (spell l)).map (fun s => (decodeID (.str s)).map encodeId) = some (.ok (some (.str (denote l)))) := by
  rw [string_any_spelling l h]
  simp only [Option.map]
  rw [id_echo_exact_wire (.str (denote l)) (Or.inl ⟨_, rfl⟩)]

/-- **ndjson_roundtrip.** For every list of non-empty payloads without a raw line feed (every compact
JSON text), splitting `payload₁ "\n" payload₂ "\n" …` at line feeds gives the payloads back, and
nothing is left over. -/
theorem ndjson_roundtrip (ps : List Bytes) (h : ∀ p ∈ ps, p ≠ [] ∧ LF ∉ p) :
    unframe (frame ps) = ps ∧ (splitLines (frame ps)).2 = [] :=
  L.ndjson_roundtrip ps h

/-- **split_lines_bytes.** `bufio.Reader.ReadBytes('\n')` run to the end of the input, on BYTES: the lines, each
followed by LF, then the unterminated rest, are exactly the input — nothing lost, nothing invented —, no line and
not the rest contains an LF; `split_lines_unique`: this is the only such decomposition.  (So `scanEvents`, `unframe` and the theorems
about them are statements about byte strings.) -/
theorem split_lines_bytes (bs : Bytes) :
    frame (splitLines bs).1 ++ (splitLines bs).2 = bs ∧ (∀ l ∈ (splitLines bs).1, LF ∉ l) ∧ LF ∉ (splitLines bs).2 :=
  ⟨L.splitLines_join bs, L.splitLines_noLF bs⟩

theorem split_lines_unique (ls : List Bytes) (rest : Bytes) (h : ∀ l ∈ ls, LF ∉ l) (hr : LF ∉ rest) :
    splitLines (frame ls ++ rest) = (ls, rest) := by
  rw [L.splitLines_frame_append ls rest h, L.splitLines_of_noLF rest hr, List.append_nil]

/-- **ndjson_stream_roundtrip** (byte level, reader side of `ioConn`).  For EVERY list of values that are JSON
objects or arrays as far as the decoder's scanner sees them (`framed`: the bracket depth outside string literals
returns to zero exactly at the last byte — escapes, quotes and brackets inside strings included), each followed by
ANY separator that is white space beginning with LF or CR (`lineSep`: LF, CRLF, blank lines, further blanks), the
reader goroutine of `newIOConn` — `json.Decoder.Decode` value by value plus the SDK's check of the byte that follows
a value — hands on exactly those values, in order, and ends with the end of the input. -/
theorem ndjson_stream_roundtrip (l : List (Bytes × Bytes)) (hf : ∀ q ∈ l, framed q.1 = true)
    (hw : ∀ q ∈ l, lineSep q.2 = true) : readStream (joinWs l) = (l.map (·.1), .eof) :=
  L.ndjson_stream_roundtrip l hf hw

/-- … in particular what `ioConn.Write` writes (`frame`: every payload followed by one LF) is read back payload by
payload. -/
theorem ndjson_roundtrip_bytes (ps : List Bytes) (h : ∀ p ∈ ps, framed p = true) : readStream (frame ps) = (ps, .eof) :=
  L.ndjson_roundtrip_bytes ps h

/-- Non-vacuity: `{"a":"}\"]{["}` then `[{}]`, ended by CRLF and LF. -/
example : readStream ([123, 34, 97, 34, 58, 34, 125, 92, 34, 93, 123, 91, 34, 125] ++ [CR, LF] ++ [91, 123, 125, 93] ++ [LF]) =
    ([[123, 34, 97, 34, 58, 34, 125, 92, 34, 93, 123, 91, 34, 125], [91, 123, 125, 93]], .eof) := by decide +kernel
example : framed [123, 34, 97, 34, 58, 34, 125, 92, 34, 93, 123, 91, 34, 125] = true := by decide +kernel
/-- what the separator hypothesis excludes — and the SDK's reader refuses, although it is valid JSON text: two values
separated by a blank (`{} {}`), or by nothing (`{}{}`): "invalid trailing data", the first value is not handed on. -/
theorem reader_refuses_other_separators :
    readStream [123, 125, 32, 123, 125] = ([], .trailing) ∧ readStream [123, 125, 123, 125] = ([], .trailing) := by
  decide +kernel

/-- **sse_roundtrip.** For every list of events whose fields are trimmed and LF-free and which are
not entirely empty (`CleanEvent`; every SDK message event is one: its data is a compact JSON text),
scanning the bytes `writeEvent` wrote for them yields exactly those events, in order, without error. -/
theorem sse_roundtrip (es : List Event) (h : ∀ e ∈ es, CleanEvent e) :
    scanEvents (es.flatMap writeEvent) = (es, false) :=
  L.sse_roundtrip es h

/-- **sse_eol_irrelevant.** The scanner does not see whether a line ended in LF or in CRLF: for EVERY
list of LF-free lines — field lines, comments, blank lines, garbage —, every choice of line end per
line, and every unterminated rest, scanning the stream yields the events and the verdict that
scanning the same lines written with LF yields. -/
theorem sse_eol_irrelevant (ls : List (Bytes × Eol)) (rest : Bytes) (h : ∀ p ∈ ls, LF ∉ p.1) :
    scanEvents (renderLines ls ++ rest) = scanEvents (frame (ls.map (·.1)) ++ rest) :=
  L.sse_eol_irrelevant ls rest h

/-- **sse_roundtrip_any_eol.** An event stream as ANY conforming peer may frame it — each line ended
by LF or CRLF (chosen line by line, the dispatching blank line included), comment lines anywhere,
fields in any order and any number of times, the payload spread over several `data` lines, `retry`
lines, unknown fields with arbitrary values, any run of spaces/tabs (or none) after the colon — is
scanned, without error, to exactly the events it denotes (`FEvent.denote`: last `event`/`id`/`retry`
value, the `data` values joined by LF), in order; blocks that denote nothing (comments only, blank
lines) yield nothing.  For EVERY list of such events (`WfFLine`: key without colon, line without LF,
values of the four known fields trimmed). -/
theorem sse_roundtrip_any_eol (es : List FEvent) (h : ∀ e ∈ es, ∀ l ∈ e.lines, WfFLine l) :
    scanEvents (renderStream es) = ((es.map FEvent.denote).filter (fun e => !e.isEmpty), false) :=
  L.sse_roundtrip_any_eol es h

/-- Non-vacuity: `: hi CRLF  data:{ CRLF  event: m LF  data: } CRLF  CRLF` denotes the event `m` with data
`{ LF }`; a comment-only block denotes nothing. -/
example : scanEvents (renderStream [⟨[⟨[], [], [32, 104, 105], .crlf⟩, ⟨sse_dataKey, [], [123], .crlf⟩,
      ⟨sse_eventKey, [32], [109], .lf⟩, ⟨sse_dataKey, [32], [125], .crlf⟩], .crlf⟩, ⟨[⟨[], [], [107], .crlf⟩], .crlf⟩]) =
    ([{ name := [109], data := [123, 10, 125] }], false) := by decide +kernel
example : WfFLine ⟨sse_dataKey, [32, 9], [123, 125], .crlf⟩ := L.wfFLine_spec _ (by decide +kernel)
/-- what the hypothesis excludes: a data value ending in a blank is not read back as it was written -/
example : (scanEvents (renderStream [⟨[⟨sse_dataKey, [], [120, 32], .lf⟩], .lf⟩])).1 ≠ [{ data := [120, 32] }] := by decide +kernel

/-- **batch_roundtrip.** A batch frame made of the encodings of well-formed messages is read back as
exactly those messages (and a single message as itself); `Read` then hands the queue out in order. -/
theorem batch_roundtrip (ms : List Msg) (hne : ms ≠ []) (h : ∀ m ∈ ms, wfMsg m = true) :
    readBatch (.arr (ms.map encodeMsg)) = .ok (ms, true) := by
  cases ms with
  | nil => exact absurd rfl hne
  | cons m t =>
    have := L.decodeAll_encode (m :: t) h
    simp only [List.map_cons] at this ⊢
    simp only [readBatch, this]

theorem single_roundtrip (m : Msg) (h : wfMsg m = true) : readBatch (encodeMsg m) = .ok ([m], false) := by
  have hd := decode_encode_msg m h
  cases m <;> simp only [encodeMsg] at hd ⊢ <;> simp only [readBatch, hd]

theorem read_queue_in_order (s : IOState) (m : Msg) (q : List Msg) (h : s.queue = m :: q) :
    opRead false s = ({ s with queue := q }, .msg m) :=
  L.opRead_queued false s m q h

/-- **batch_exactly_once** (C02; the write side of C19's `batch_roundtrip`). For EVERY sequence of
labels — frames arriving (single messages and batches of any composition of calls, notifications
and responses, well-formed or not), `Read`s, `Write`s of responses in any order incl. duplicates and
unknown ids, outgoing messages, version changes — on a fresh `ioConn`: the model never reaches a
panic state, every `Read` returns what the slot specification (`specRead`/`specAccept`) returns, and
every `Write` writes what `specWrite` prescribes: nothing while another call of the same batch is
unanswered; ONE array with exactly one response per call of the batch, in call order, when the last
call is answered; the message on its own otherwise.  Notifications have no slot: they cannot
withhold or break anything (F2, fixed in /repo; counter-examples `L.f2_counterexample_*` on the tracking of every `*Request`).
(`L.batch_exactly_once` is this with `L.Rel` of the end state as a third conjunct.) -/
theorem batch_exactly_once (ops : List IOOp) :
    (runBoth ({}, []) ops).2 = true ∧ (runBoth ({}, []) ops).1.1.panicked = false :=
  ⟨(L.batch_exactly_once ops).1, (L.batch_exactly_once ops).2.1⟩

/-- What the specification's flushed array is: for the batch it closes, one response per call, in
call order, each bearing its call's id; the batch leaves the open list (no second array). -/
theorem batch_flush_exact (sp : List Slots) (hok : ∀ sl ∈ sp, SlotsOK sl) (msg : Msg) (ms : List Msg)
    (sp' : List Slots) (h : specWrite sp msg = (sp', .array ms)) :
    ∃ sl ∈ sp, ms.map Msg.id = sl.map (·.1) ∧ slotPending sl msg.id = true ∧ sp'.length + 1 = sp.length :=
  L.spec_flush sp hok msg ms sp' h

/-- Non-vacuity: `[notification, call 5]`, then the answer to 5 ⇒ `[response 5]` is flushed. -/
example :
    let s0 : IOState := { wire := [.arr [wNotif, wCall5]] }
    let r2 := opRead false (opRead false s0).1
    (opWrite r2.1 resp5).2 = .array [encodeMsg resp5] := by decide +kernel

/-- **batch_read_order** (C03, C19). For EVERY state of an `ioConn` and EVERY sequence of labels —
frames arriving (single messages, batches of any size and composition), `Read`s, `Write`s, version
changes — in which no `Read` fails: the messages the `Read`s returned, followed by what is still
pending (the unread rest of the last frame, then the messages of the frames not yet taken), are
exactly what was pending before followed by the messages of the frames fed — element by element, in
the order in which the peer wrote them.  Nothing is reordered, duplicated or dropped, whatever the
interleaving of reads with arrivals and writes. -/
theorem batch_read_order (s : IOState) (ops : List IOOp)
    (hok : ∀ r ∈ readResults s ops, ∃ m, r = .msg m) :
    (readResults s ops).filterMap ReadOut.msg? ++ (ioRun s ops).pendingMsgs =
      s.pendingMsgs ++ (fedFrames ops).flatMap frameMsgs :=
  L.batch_read_order s ops hok

/-- … so on a fresh connection that has been read dry, the concatenation of the messages `Read`
returned IS the concatenation of the frames' messages. -/
theorem batch_read_order_fresh (ops : List IOOp)
    (hok : ∀ r ∈ readResults {} ops, ∃ m, r = .msg m) (hdry : (ioRun {} ops).pendingMsgs = []) :
    (readResults {} ops).filterMap ReadOut.msg? = (fedFrames ops).flatMap frameMsgs := by
  have h := batch_read_order {} ops hok
  rw [hdry, List.append_nil] at h
  simpa [IOState.pendingMsgs] using h

/-- Without the proviso: the messages returned BEFORE the first failing `Read` (a read error ends the
connection) are a prefix of what the peer wrote, in order. -/
theorem batch_read_order_prefix (s : IOState) (ops : List IOOp) :
    ∃ rest, s.pendingMsgs ++ (fedFrames ops).flatMap frameMsgs = msgsUntilErr (readResults s ops) ++ rest :=
  L.batch_read_order_prefix s ops

/-- Non-vacuity: the batch `[n, call 5, n]` is handed out as n, call 5, n. -/
example :
    let ops : List IOOp := [.feed (.arr [wNotif, wCall5, wNotif]), .read, .read, .read]
    (readResults {} ops).filterMap ReadOut.msg? = [.request .none [110] none, .request (.int 5) [112] none, .request .none [110] none] := by
  decide +kernel

/-- The monitor's judgement "out of order" (the message returned is not the next element the peer
wrote but IS a later one) cannot fire when `Read` returns the next element. -/
theorem read_order_monitor_sound (same : Msg → JVal → Bool) (e : JVal) (rest : List JVal) (m : Msg)
    (h : same m e = true) : outOfOrder same (e :: rest) m = false := by
  simp [outOfOrder, h]

/-- **read_batch_nonempty.** Whatever `readBatch` accepts carries at least one message: `ioConn.Read`
takes `msgs[0]` and `msgs[1:]` of it. -/
theorem read_batch_nonempty (raw : JVal) (ms : List Msg) (b : Bool) (h : readBatch raw = .ok (ms, b)) : ms ≠ [] := by
  rintro rfl
  cases raw with
  | null => cases h
  | arr l =>
    cases l with
    | nil => cases h
    | cons e t =>
      simp only [readBatch] at h
      split at h <;> cases h
      exact absurd (L.decodeAll_length _ _ ‹_›) (by simp)
  | _ => simp only [readBatch] at h; split at h <;> cases h

/-- **degenerate_frames_rejected.** `null`, `[]`, every array whose first element is not an object
(`[null]`, `[[]]`, `[[],[]]`, `[0]`, `[""]`, …) and every bare non-object are rejected with an error … -/
theorem degenerate_frames_rejected (raw : JVal)
    (h : raw = .null ∨ raw = .arr [] ∨ (∃ e t, raw = .arr (e :: t) ∧ notMsgShaped e = true) ∨
      (notMsgShaped raw = true ∧ ∀ l, raw ≠ .arr l)) :
    ∃ e, readBatch raw = .error e :=
  L.degenerate_frames_rejected raw h

/-- … and a `Read` that takes a rejected frame returns that error and leaves the connection's state
alone: nothing queued, nothing tracked, no panic state. -/
theorem read_degenerate_frame (s : IOState) (raw : JVal) (w : List JVal) (hq : s.queue = []) (hw : s.wire = raw :: w)
    (e : RErr) (h : readBatch raw = .error e) :
    opRead false s = ({ s with wire := w }, .err e) :=
  L.read_degenerate_frame s raw w hq hw e h

example : ∃ e, readBatch (.arr [.arr [], .null]) = .error e :=
  degenerate_frames_rejected _ (Or.inr (Or.inr (Or.inl ⟨_, _, rfl, rfl⟩)))

/-- **content_roundtrip.** Every well-formed content value (`wfContent`) — every kind, empty and
non-empty members, `_meta`, annotations, blocks nested in a tool_result — decodes from its own
encoding to itself, in every context whose allow list admits its kind. -/
theorem content_roundtrip (allow : Option (List Bytes)) (c : Content) (h : wfContent c = true)
    (hal : allowed allow c.kind = true) : decodeContent allow (encodeContent c) = .ok c :=
  L.content_roundtrip allow c h hal

theorem contents_roundtrip (allow : Option (List Bytes)) (cs : List Content)
    (h : ∀ c ∈ cs, wfContent c = true ∧ allowed allow c.kind = true) :
    decodeContentList allow (.arr (encodeContents cs)) = .ok cs :=
  L.contents_roundtrip allow cs h

example : wfContent (.toolResult [105] [.text [] [] none, .image [] [] [] none] none false []) = true := by decide +kernel

/-- **required_members_present**, content: in the encoding of EVERY content value, at every nesting
depth, `text` is present in a text block (also when empty), `data` in image/audio blocks (also when
nil), `content` is a non-null array in a tool_result, and the same holds inside that array.  Before
fix F8 this failed for nested blocks (`L.f8_counterexample_text`, `L.f8_counterexample_image`). -/
theorem required_members_present (c : Content) : reqOK (encodeContent c) = true :=
  L.required_members_present c

/-- **required_members_present**, resource contents — PARTIAL (known finding F23).
Full statement (FALSE on this tree, counter-example `L.f23_counterexample`):
  `∀ uri mime text blob m, resourceOK (encodeResource uri mime text blob m) = true`
i.e. every resource contents object carries `text` or `blob`.  What holds: it does whenever the text
is non-empty or a blob is present; an EMPTY text resource is written as `{"uri":…}` because `text`
has `omitempty` and `ResourceContents` has no `MarshalJSON` (the repository's own test pins that). -/
theorem resource_text_present_partial (uri mime text : Bytes) (blob : Option Bytes) (m : Meta)
    (h : text ≠ [] ∨ blob.isSome = true) : resourceOK (encodeResource uri mime text blob m) = true :=
  L.resource_text_present_partial uri mime text blob m h

example : resourceOK (encodeResource [117] [] [116] none []) = true := by decide +kernel

/-- **required_lists_present** (the result part of `required_members_present`): a result that is sent carries an array for its required
list member — never `null` — whatever the handler or registry left (nil included; F15, fixed in /repo). -/
theorem required_lists_present (k : RKind) (l : RList) (v : JVal) (h : sdkResultList k l = .sent v) :
    ∃ items, v = .arr items :=
  L.required_lists_present k l v h

/-- **required_lists_present, every cursor position.** A list request (`tools/list`, `prompts/list`,
`resources/list`, `resources/templates/list`) against ANY registry (sorted key list), with ANY page
size and ANY cursor — none, one the server issued earlier (stale or not), a forged well-formed one
naming any string — is answered either with an error (the cursor does not decode) or with a result
whose list member is an ARRAY of at most `pageSize` items: the items of the keys the cursor leaves,
in order.  Never `null`. -/
theorem required_lists_present_paged (k : RKind) (hk : k.isPaged = true) (item : Bytes → JVal) (keys : List Bytes)
    (ps : Nat) (c : Cursor) :
    (c = .garbage ∧ (listPage k item keys ps c).1 = .errorInstead) ∨
    (∃ items, (listPage k item keys ps c).1 = .sent (.arr items) ∧ items.length ≤ ps ∧
      items = ((pageSeq keys c).take ps).map item) :=
  L.required_lists_present_paged k hk item keys ps c

/-- … at every position: with the keys split into those not above the cursor's uid and the rest (empty,
or starting with a key above it), the page is the first `pageSize` items of the rest … -/
theorem list_page_at_position (k : RKind) (hk : k.isPaged = true) (item : Bytes → JVal) (a b : List Bytes)
    (ps : Nat) (uid : Bytes) (ha : ∀ x ∈ a, keyLt uid x = false) (hb : ∀ h t, b = h :: t → keyLt uid h = true) :
    (listPage k item (a ++ b) ps (.after uid)).1 = .sent (.arr ((b.take ps).map item)) :=
  L.list_page_at_position k hk item a b ps uid ha hb

/-- … and **the page above the last key is the EMPTY ARRAY** (no further cursor): a cursor at or beyond
the last key — the one page 1 issued, after the items above it were removed — gets `[]`. -/
theorem list_page_beyond_last_is_empty_array (k : RKind) (hk : k.isPaged = true) (item : Bytes → JVal)
    (keys : List Bytes) (ps : Nat) (uid : Bytes) (h : ∀ x ∈ keys, keyLt uid x = false) :
    listPage k item keys ps (.after uid) = (.sent (.arr []), none) := by
  have hs : pageSeq keys (.after uid) = [] := by
    have := L.keysAbove_split uid keys [] h (by intro _ _ hh; cases hh)
    simpa [pageSeq] using this
  have h1 := L.listPage_sent k hk item keys ps (.after uid) (by simp)
  rw [hs] at h1
  have h2 : (listPage k item keys ps (.after uid)).2 = none := by
    simp [listPage, hs]
  rw [Prod.ext_iff]
  exact ⟨by simpa using h1, h2⟩

/-- **required_lists_present after every history** (the client's `roots/list`).  Whatever sequence of
`AddRoots` / `RemoveRoots` calls a client has seen — none, roots added and ALL of them removed again
(one by one, at once, together with names that were never there), refilled … — the `roots` member of
the result it sends is the ARRAY of the roots that are left, in key order; `[]` when none is left.
Never `null`.  (The registry's state after a history is its key set: `regAfter`.) -/
theorem required_lists_present_after_history (item : Bytes → JVal) (h : List RegOp) :
    listAll .listRoots item (regAfter h) = .sent (.arr ((regAfter h).map item)) :=
  L.listAll_sent item (regAfter h)

theorem roots_emptied_is_empty_array (item : Bytes → JVal) (h : List RegOp) (he : regAfter h = []) :
    listAll .listRoots item (regAfter h) = .sent (.arr []) := by
  rw [required_lists_present_after_history, he]; rfl

/-- non-vacuity: a history that fills and empties the registry -/
example : regAfter [.add [[97], [98]], .rm [[97]], .rm [[98], [99]]] = [] := by decide +kernel

/-- every registry the SDK lists (the server's four page by page, the client's roots whole), in every
state and for every cursor that decodes: the list member sent is an array. -/
theorem required_lists_present_listed (k : RKind) (hk : k.isListed = true) (item : Bytes → JVal)
    (keys : List Bytes) (ps : Nat) (c : Cursor) (hc : c ≠ .garbage) :
    ∃ items, (listReg k item keys ps c).1 = .sent (.arr items) := by
  unfold listReg
  by_cases hp : k.isPaged = true
  · simp only [hp, if_true]; exact ⟨_, L.listPage_sent k hp item keys ps c hc⟩
  · have : k = .listRoots := by cases k <;> simp_all [RKind.isListed, RKind.isPaged]
    subst this
    simp only [RKind.isPaged, Bool.false_eq_true, if_false]
    exact ⟨_, L.listAll_sent item keys⟩

/-- **call_tool_content_present** (required_members_present for `tools/call` through the low-level
`Server.AddTool`). Whatever result a raw tool handler returns — `Content` nil, empty or not,
`StructuredContent` nil or any value, `IsError` either way — the result sent has a `content` member
that is an ARRAY of exactly the handler's blocks (none for nil), each with its required members;
`structuredContent` is the handler's value, present iff set; `isError` is present iff set. -/
theorem call_tool_content_present (c : Option (List Content)) (s : Option JVal) (e : Bool) :
    ∃ ms, sdkCallTool (.result c s e) = .sent ms ∧
      lookup CallToolResult_Content_name ms = some (.arr (encodeContents (c.getD []))) ∧
      contentArrOK (lookup CallToolResult_Content_name ms) = true ∧
      lookup CallToolResult_StructuredContent_name ms = s ∧
      lookup CallToolResult_IsError_name ms = (if e then some (.bool true) else none) :=
  L.call_tool_content_present c s e

/-- … and for every handler return (a result, `(nil, nil)`, an error): what is sent as a result has
its `content` array (wire-F30 = F31, fixed in /repo: a nil result goes out as an empty one). -/
theorem call_tool_never_without_content (r : ToolRet) (ms : List (Bytes × JVal)) (h : sdkCallTool r = .sent ms) :
    contentArrOK (lookup CallToolResult_Content_name ms) = true :=
  L.call_tool_never_without_content r ms h

/-- Why the normalisation in `Server.callTool` must look at `Content` alone: a nil slice marshalled
as it is gives `"content":null` — also when structured content is present. -/
theorem call_tool_unnormalised_null (s : Option JVal) (e : Bool) :
    lookup CallToolResult_Content_name (callToolMembers none s e) = some .null ∧
    contentArrOK (lookup CallToolResult_Content_name (callToolMembers none s e)) = false := by
  rw [(L.lookup_callToolMembers none s e).1]
  exact ⟨rfl, rfl⟩

/-- **input_requests_null_entry_rejected.** A `null` entry anywhere in `inputRequests` makes the
decode an error — before fix F32 the nil entry was dereferenced (client crash). -/
theorem input_requests_null_entry_rejected (a b : List (Bytes × JVal)) (k : Bytes) :
    decodeInputRequests (.obj (a ++ (k, .null) :: b)) = .error () :=
  L.input_requests_null_entry_rejected a b k

/-- **input_requests_case_sensitive.** A member of an entry whose name is not exactly `method` or
`params` — e.g. `Method` — has no influence on how the entry decodes. -/
theorem input_requests_case_sensitive (k : Bytes) (v : JVal) (a b : List (Bytes × JVal))
    (h1 : k ≠ irmRaw_Method_name) (h2 : k ≠ irmRaw_Params_name) :
    decodeInputEntry (.obj (a ++ (k, v) :: b)) = decodeInputEntry (.obj (a ++ b)) := by
  simp only [decodeInputEntry]
  rw [L.lookup_insert_ne irmRaw_Method_name k v a b h1, L.lookup_insert_ne irmRaw_Params_name k v a b h2]

example : ([77, 101, 116, 104, 111, 100] : Bytes) ≠ irmRaw_Method_name := by decide +kernel   -- "Method"

/-- What is accepted: the keys of the wire object, in order, each naming one of the methods of the
switch in `InputRequestMap.UnmarshalJSON`. -/
theorem input_requests_methods (kvs : List (Bytes × JVal)) (l : List (Bytes × Bytes))
    (h : decodeInputRequests (.obj kvs) = .ok l) :
    l.map (·.1) = kvs.map (·.1) ∧ ∀ p ∈ l, p.2 ∈ inputRequestMethods :=
  L.decodeInputEntries_ok kvs l h

/-- **concurrent_writes_never_interleave.**  Writers `ws` (each a frame cut into the pieces in which the
stream takes it) call `ioConn.Write` at the same time.  Under EVERY schedule — who wins `writeMu` when,
when the stream takes the next piece — the stream holds, at every moment, whole frames of some of the
writers, in the order in which they won the lock, followed by a prefix of the lock holder's frame: no byte
of one frame ever stands inside another.  The frames done, the holder's and the waiting ones are the
writers' frames (`Perm`: none lost, none twice). -/
theorem concurrent_writes_never_interleave (ws : List (List Bytes)) (ops : List CWOp) :
    (CW.run { waiting := ws } ops).Inv (ws.map List.flatten) :=
  CW.run_inv _ ops _ ⟨[], [], by simp, by simp, by simp⟩

/-- … and when every writer has returned, the stream is the concatenation of the frames in some order. -/
theorem concurrent_writes_framed (ws : List (List Bytes)) (ops : List CWOp)
    (hh : (CW.run { waiting := ws } ops).holder = none) (hw : (CW.run { waiting := ws } ops).waiting = []) :
    ∃ order : List Bytes, order.Perm (ws.map List.flatten) ∧ (CW.run { waiting := ws } ops).out = order.flatten := by
  obtain ⟨done, pre, hout, hpre, hperm⟩ := concurrent_writes_never_interleave ws ops
  have := hpre hh
  subst this
  rw [hh, hw] at hperm
  exact ⟨done, by simpa using hperm, by simpa using hout⟩

/-- non-vacuity: two writers, frames in two pieces each; the second cannot get in between -/
example : (CW.run { waiting := [[[1], [2, 10]], [[3], [4, 10]]] } [.acquire 1, .piece, .acquire 0, .piece, .acquire 0, .piece, .piece]).out
    = [3, 4, 10, 1, 2, 10] := by decide +kernel

/-- **retry_roundtrip.**  For every params value (members `rest`, none of them `inputResponses` / `requestState`),
every set of fulfilled responses — each an object with a discriminating member — and every request state: the
retried request carries the responses and the state INTACT (the member values are exactly the ones
`setMultiRoundTripRetryParams` assigned; both omitted when empty), and the server decodes them
(`InputResponseMap.UnmarshalJSON`) to the same keys, each with the kind of its response, and the same state. -/
theorem retry_roundtrip (rest rs : List (Bytes × JVal)) (state : Bytes) (kind : JVal → RespKind)
    (h1 : lookup retry_InputResponses_name rest = none) (h2 : lookup retry_RequestState_name rest = none)
    (hk : ∀ p ∈ rs, respKindOf p.2 = .ok (kind p.2)) :
    lookup retry_InputResponses_name (retryParams rest rs state) = (if rs = [] then none else some (.obj rs)) ∧
    lookup retry_RequestState_name (retryParams rest rs state) = (if state = [] then none else some (.str state)) ∧
    decodeRetry (retryParams rest rs state) = .ok (rs.map (fun p => (p.1, kind p.2)), state) :=
  L.retry_roundtrip rest rs state kind h1 h2 hk

/-- the three response types are told apart by `roots`, then `action`, then `role`; an object with none is refused -/
theorem resp_kind_discriminated (kvs : List (Bytes × JVal)) :
    ((lookup probe_Roots_name kvs).isSome = true → respKindOf (.obj kvs) = .ok .roots) ∧
    ((lookup probe_Roots_name kvs) = none → (lookup probe_Action_name kvs).isSome = true → respKindOf (.obj kvs) = .ok .elicit) ∧
    ((lookup probe_Roots_name kvs) = none → (lookup probe_Action_name kvs) = none → (lookup probe_Role_name kvs).isSome = true →
      respKindOf (.obj kvs) = .ok .sampling) ∧
    ((lookup probe_Roots_name kvs) = none → (lookup probe_Action_name kvs) = none → (lookup probe_Role_name kvs) = none →
      respKindOf (.obj kvs) = .error ()) :=
  L.resp_kind_discriminated kvs

/-- **ref_roundtrip.** Every reference `CompleteReference.MarshalJSON` accepts decodes (`UnmarshalJSON`) from
what it wrote to itself. -/
theorem ref_roundtrip (r : CRef) (v : JVal) (h : encodeRef r = .ok v) : decodeRef v = .ok r :=
  L.ref_roundtrip r v h

/-- **ref_encode_validates.** `MarshalJSON` writes exactly the consistent references: one of the two known types
and only that type's own member (`name` for a prompt, `uri` for a resource). -/
theorem ref_encode_validates (r : CRef) :
    (∃ v, encodeRef r = .ok v) ↔ ((r.typ = refPromptType ∧ r.uri = []) ∨ (r.typ = refResourceType ∧ r.name = [])) :=
  L.ref_encode_validates r

/-- **ref_decode_validates.** Whatever `UnmarshalJSON` accepts — from ANY JSON value — is consistent: `MarshalJSON`
writes it again, and that decodes to the same reference. -/
theorem ref_decode_validates (v : JVal) (r : CRef) (h : decodeRef v = .ok r) :
    ∃ v', encodeRef r = .ok v' ∧ decodeRef v' = .ok r :=
  L.ref_decode_validates v r h

/-- the member names are matched exactly: a reference whose type stands under `Type` has no type -/
theorem ref_decode_case_sensitive (n u : Bytes) :
    decodeRef (.obj [([84, 121, 112, 101], .str refPromptType), (CompleteReference_Name_name, .str n), (CompleteReference_URI_name, .str u)])
      = .error .unknownType :=
  L.ref_decode_case_sensitive n u

example : encodeRef ⟨refPromptType, [112], []⟩ = .ok (.obj [([116, 121, 112, 101], .str refPromptType), ([110, 97, 109, 101], .str [112])]) := by
  decide +kernel

/-- **logging_transparent.**  A `LoggingTransport` hands every message on unchanged, in both directions: what
its `Read` returns is what the delegate's `Read` returned, what its `Write` does to the stream is what the
delegate's `Write` does. -/
theorem logging_transparent (o : ReadOut) (m : Msg) (w : WriteOut) : (logRead o).1 = o ∧ (logWrite m w).1 = w :=
  ⟨rfl, rfl⟩

/-- **logged_payload_roundtrip.**  The payload logged for a well-formed message that was read or written decodes
to that message. -/
theorem logged_payload_roundtrip (m : Msg) (h : wfMsg m = true) :
    (∃ v, (logRead (.msg m)).2 = .read v ∧ decodeMsg v = .ok m) ∧
    (∀ w, w ≠ WriteOut.panic → ∃ v, (logWrite m w).2 = some (.write v) ∧ decodeMsg v = .ok m) :=
  ⟨⟨_, rfl, decode_encode_msg m h⟩, fun w hw => ⟨_, by simp [logWrite, hw], decode_encode_msg m h⟩⟩

end Wire
