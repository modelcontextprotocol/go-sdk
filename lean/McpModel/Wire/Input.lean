import McpModel.Wire.Msg
/-!
# E2 Wire — `InputRequestMap.UnmarshalJSON` (`mcp/protocol.go`)

`inputRequests` of an input-required result: an object whose members are `{"method": m, "params": p}`
with `m` one of the three methods a server may ask a client (`Generated.Wire.inputRequestMethods`: the
cases of `switch raw.Method`).  The entries are decoded into `map[string]*raw`; a `null` entry is a nil
pointer there, which the loop rejects with an error before it reads `raw.Method` (finding F32, fixed in /repo:
without the check a peer sending `{"inputRequests":{"a":null}}` crashes the client).  The decoder is the SDK's
case-sensitive one (`internaljson.Unmarshal`), as C19 demands.

The three params types are plain tagged structs (their member decoding is the JSON library's
business); the model needs of `params` only: absent ⇒ error (an empty `json.RawMessage` does not
unmarshal), `null` ⇒ fine (no-op), an object ⇒ fine for objects with well-typed members (the
generators keep to `{}` and to values the SDK itself marshalled), anything else ⇒ error.
-/
namespace Wire
open Generated.Wire

def paramsOK : Option JVal → Bool
  | none => false
  | some .null => true
  | some (.obj _) => true
  | some _ => false

/-- one entry ↦ the method it names -/
def decodeInputEntry : JVal → Except Unit Bytes
  | .null => .error ()                       -- F32: the nil entry is refused, not dereferenced
  | .obj mem =>
    match lookup irmRaw_Method_name mem with
    | some (.str m) =>
      if inputRequestMethods.contains m && paramsOK (lookup irmRaw_Params_name mem) then .ok m else .error ()
    | _ => .error ()                          -- absent / null: method "" is unsupported; wrong type: unmarshal error
  | _ => .error ()

def decodeInputEntries : List (Bytes × JVal) → Except Unit (List (Bytes × Bytes))
  | [] => .ok []
  | (k, v) :: t => do
    let m ← decodeInputEntry v
    let r ← decodeInputEntries t
    .ok ((k, m) :: r)

/-- `InputRequestMap.UnmarshalJSON`: key ↦ method of every entry, in wire order -/
def decodeInputRequests : JVal → Except Unit (List (Bytes × Bytes))
  | .null => .ok []
  | .obj kvs => decodeInputEntries kvs
  | _ => .error ()

end Wire
