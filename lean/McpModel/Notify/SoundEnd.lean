import McpModel.Notify.SoundCache
/-!
# Clause soundness of the C18 monitor: the end of a case — the monitor's debts and its held fan-outs are history
(`owed_history`, `fans_history`), and every end-of-case clause contradicts "every connected session entitled to them
receives at least one corresponding list-changed notification sent after the last change of the burst"
-/
namespace Notify.Sound
open Notify Notify.Mon

/-- the kinds with a held fan-out in progress, after one more record: a `cbstep k` record took a snapshot with something to
write (`fan false`) and no `fsend k` record has reported its last write (`done`) since -/
def openStep (o : Kind → Bool) (r : Rec) : Kind → Bool :=
  match r.op, r.obs with
  | .config _ _ _ _, _ => fun _ => false
  | .cbstep k, .fan done => if done then o else fun k' => if k' = k then true else o k'
  | .fsend k, .fsent _ _ l done =>
    if o k && (slotDeliveries l).isSome && done then fun k' => if k' = k then false else o k' else o
  | _, _ => o

def openAfter (tr : Trace) : Kind → Bool := tr.foldl openStep (fun _ => false)
def openAt (tr : Trace) (j : Nat) : Kind → Bool := openAfter (tr.take j)

/-- the record is an effective change of kind `k` that the server must announce (the capability is not switched off) -/
def IsChange (t : Truth) (r : Rec) (k : Kind) : Prop :=
  ∃ f e, r = ⟨.change f e, .ok⟩ ∧ kindOfFSet f = k ∧ (e == .noop || (e == .remove && t.cnt f == 0)) = false ∧ t.cap k ≠ .off

/-- the record is a snapshot of `notifySessions(k)` (of a complete fan-out, or of a held one) -/
def IsSnapshot (r : Rec) (k : Kind) : Prop :=
  (∃ t l ds, r = ⟨.cbrun k, .sent t l⟩ ∧ slotDeliveries l = some ds) ∨ (∃ d, r = ⟨.cbstep k, .fan d⟩)

/-- the record delivers the list-changed notification of kind `k` to the session of slot `i` (a write of a held fan-out
counts while that fan-out is in progress) -/
def DeliversK (tr : Trace) (j : Nat) (r : Rec) (i : Slot) (k : Kind) : Prop :=
  (∃ t l ds, r = ⟨.cbrun k, .sent t l⟩ ∧ slotDeliveries l = some ds ∧ ∃ x ∈ ds, x.slot = i) ∨
  (∃ a t l b ds, r = ⟨.fsend k, .fsent a t l b⟩ ∧ slotDeliveries l = some ds ∧ openAt tr j k = true ∧ ∃ x ∈ ds, x.slot = i)

/-- at position `q` the session of slot `i` is still owed a notification of kind `k`: a change at an earlier position
`p` was to be announced to it (it was connected), it is the same session since, no notification of the kind has
reached it since, and every snapshot taken since found it entitled -/
def Owes (tr : Trace) (q : Nat) (i : Slot) (k : Kind) : Prop :=
  ∃ p rp, p < q ∧ tr[p]? = some rp ∧ IsChange (truthAt tr p) rp k ∧ ((truthAt tr p).slots i).connected = true ∧
    SameSession tr p q i ∧
    ∀ j rj, p < j → j < q → tr[j]? = some rj →
      ¬ DeliversK tr j rj i k ∧ (IsSnapshot rj k → ((truthAt tr j).slots i).entitled k)

/-- at the end of a case (every timer has fired, every callback has run) no connected, entitled session is still owed
a notification -/
def P_notified (tr : Trace) : Prop :=
  ∀ (q : Nat) (obs : Obs), tr[q]? = some (⟨.fin, obs⟩ : Rec) → ∀ (i : Slot) (k : Kind),
    ((truthAt tr q).slots i).entitled k → ¬ Owes tr q i k

theorem fanExpect_entitled (m : MState) (k : Kind) (i : Slot) (h : (fanExpect m k).any (·.1 == i) = true) :
    entitledNow (m.slots i) k = true := by
  rw [List.any_eq_true] at h
  obtain ⟨p, hp, e⟩ := h
  simp only [fanExpect, List.mem_filterMap] at hp
  obtain ⟨j, _, hj⟩ := hp
  split at hj
  · rename_i he
    simp only [Option.some.injEq] at hj
    have : j = i := by rw [← hj] at e; simpa using e
    rw [← this]; exact he
  · simp at hj

theorem openStep_quiet {r : Rec} (o : Kind → Bool) (h : quiet r = true) : openStep o r = o := by
  obtain ⟨op, obs⟩ := r
  cases op with
  | config => cases h
  | cbstep => cases obs <;> first | rfl | cases h
  | fsend =>
    cases obs with
    | fsent a t l b =>
      have h : (slotDeliveries l).isSome = false := by simpa [quiet] using h
      simp only [openStep, h, Bool.and_false, Bool.false_and, Bool.false_eq_true, if_false]
    | _ => rfl
  | _ => rfl

theorem fans_step (m : MState) (o : Kind → Bool) (ho : ∀ k, (m.fans k).isSome = o k) (r : Rec) (k : Kind) :
    ((monNext m r).fans k).isSome = openStep o r k := by
  have hs := monNext_step m r
  generalize monNext m r = m' at hs ⊢
  cases hs with
  | quiet hq hf => rw [hf, openStep_quiet o hq]; exact ho k
  | config => rfl
  | close c => exact (Option.isSome_map ..).trans (ho k)
  | change f e => rw [monChange_fans]; exact ho k
  | cbstep k' done =>
    cases done
    · simp only [cbStepNext, openStep, Bool.false_eq_true, if_false]
      split
      · rfl
      · exact ho k
    · exact ho k
  | fsend k' a t l b fan ds hf hsd =>
    have hok : o k' = true := by rw [← ho, hf]; rfl
    simp only [openStep, hok, hsd, Option.isSome_some, Bool.true_and]
    cases b
    · simp only [fsNext, Bool.false_eq_true, if_false]
      split
      · rename_i e; rw [e, ← ho, hf]; rfl
      · exact ho k
    · simp only [fsNext, if_true]
      split
      · rfl
      · exact ho k
  | fsendNone k' a t l b ds hf =>
    have hok : o k' = false := by rw [← ho, hf]; rfl
    simp only [openStep, hok, Bool.false_and, Bool.false_eq_true, if_false]
    exact ho k
  | _ => exact ho k

theorem fans_history (tr : Trace) (k : Kind) : ((monAfter {} tr).fans k).isSome = openAfter tr k := by
  have : ∀ (l : List Rec) (m : MState) (o : Kind → Bool), (∀ k, (m.fans k).isSome = o k) →
      ∀ k, ((l.foldl monNext m).fans k).isSome = l.foldl openStep o k := by
    intro l
    induction l with
    | nil => intro m o h; exact h
    | cons r rest ih => intro m o h; exact ih _ _ (fun k => fans_step m o h r k)
  exact this tr {} _ (fun _ => rfl) k


/-- the delivery clause of `DeliversK` with the state of the held fan-outs given -/
def DeliversKGiven (o : Kind → Bool) (r : Rec) (i : Slot) (k : Kind) : Prop :=
  (∃ t l ds, r = ⟨.cbrun k, .sent t l⟩ ∧ slotDeliveries l = some ds ∧ ∃ x ∈ ds, x.slot = i) ∨
  (∃ a t l b ds, r = ⟨.fsend k, .fsent a t l b⟩ ∧ slotDeliveries l = some ds ∧ o k = true ∧ ∃ x ∈ ds, x.slot = i)

theorem DeliversKGiven.loud {o : Kind → Bool} {r : Rec} {i : Slot} {k : Kind} (h : DeliversKGiven o r i k) : (quiet r || aside i r) = false := by
  rcases h with ⟨_, _, _, rfl, hs, _⟩ | ⟨_, _, _, _, _, rfl, hs, _⟩ <;> simp [quiet, aside, hs]

theorem IsSnapshot.loud {r : Rec} {k : Kind} (h : IsSnapshot r k) (i : Slot) : (quiet r || aside i r) = false := by
  rcases h with ⟨_, _, _, rfl, hs⟩ | ⟨_, rfl⟩
  · simp [quiet, aside, hs]
  · rfl

theorem owed_step {m : MState} {t : Truth} (hA : Agrees m t) (o : Kind → Bool) (ho : ∀ k, (m.fans k).isSome = o k)
    (r : Rec) (i : Slot) (k : Kind) :
    (Resets r i → k ∉ ((monNext m r).slots i).owed) ∧
    (¬ Resets r i → k ∈ ((monNext m r).slots i).owed →
      (k ∈ (m.slots i).owed ∧ ¬ DeliversKGiven o r i k ∧ (IsSnapshot r k → (t.slots i).entitled k)) ∨
      (k ∉ (m.slots i).owed ∧ IsChange t r k ∧ (t.slots i).connected = true)) := by
  have hs := monNext_slot m r i
  generalize (monNext m r).slots i = d' at hs ⊢
  refine ⟨fun hr => by rw [(hs.of_resets hr).1]; exact List.not_mem_nil, fun hr hk => ?_⟩
  -- a record that neither delivers nor snapshots the kind and leaves the debts alone
  have plain : ∀ {r : Rec}, ¬ DeliversKGiven o r i k → ¬ IsSnapshot r k → k ∈ (m.slots i).owed →
      (k ∈ (m.slots i).owed ∧ ¬ DeliversKGiven o r i k ∧ (IsSnapshot r k → (t.slots i).entitled k)) ∨
      (k ∉ (m.slots i).owed ∧ IsChange t r k ∧ (t.slots i).connected = true) :=
    fun h1 h2 h3 => .inl ⟨h3, h1, fun h => absurd h h2⟩
  have mem_filter : ∀ {k' : Kind}, k ∈ (m.slots i).owed.filter (· != k') → k ∈ (m.slots i).owed ∧ k' ≠ k :=
    fun h => ⟨(List.mem_filter.1 h).1, Ne.symm (by simpa using (List.mem_filter.1 h).2)⟩
  have reached : ∀ {ds : List SDelivery}, ds.any (·.slot == i) = false → ¬ ∃ x ∈ ds, x.slot = i :=
    fun h ⟨x, hx, e⟩ => by simpa [e] using List.any_eq_false.1 h x hx
  cases hs with
  | reset h => exact absurd h hr
  | still hq hkp =>
    rw [hkp.owed] at hk
    exact plain (fun h => by simp [h.loud] at hq) (fun h => by simp [h.loud i] at hq) hk
  | fetch => exact plain (by simp [DeliversKGiven]) (by simp [IsSnapshot]) hk
  | start => exact plain (by simp [DeliversKGiven]) (by simp [IsSnapshot]) hk
  | fill => exact plain (by simp [DeliversKGiven]) (by simp [IsSnapshot]) hk
  | rupdated u v t l ds =>
    refine plain (by simp [DeliversKGiven]) (by simp [IsSnapshot]) ?_
    rw [(keepsAll_ruNext _ v ds i).owed] at hk
    split at hk <;> exact hk
  | fsendNone k' a t l b ds hf =>
    refine plain ?_ (by simp [IsSnapshot]) hk
    rintro (⟨_, _, _, e, _⟩ | ⟨_, _, _, _, _, e, _, h3, _⟩) <;> cases e
    rw [← ho, hf] at h3; cases h3
  | fsend k' a t l b fan ds hf hsd =>
    rw [(keepsAll_fsNext m k' fan ds b i).owed] at hk
    split at hk
    · obtain ⟨h1, h2⟩ := mem_filter hk
      exact plain (by simp [DeliversKGiven, h2]) (by simp [IsSnapshot]) h1
    · rename_i hn
      refine plain ?_ (by simp [IsSnapshot]) hk
      rintro (⟨_, _, _, e, _⟩ | ⟨_, _, _, _, _, e, h3, _, hx⟩) <;> cases e
      rw [hsd] at h3; cases h3
      exact reached (by simpa using hn) hx
  | cbstep k' done =>
    rw [(keepsAll_cbStepNext m k' done i).owed] at hk
    split at hk
    · rename_i he
      exact .inl ⟨hk, by simp [DeliversKGiven], fun h => by
        obtain rfl : k' = k := by rcases h with ⟨_, _, _, e, _⟩ | ⟨_, e⟩ <;> cases e; rfl
        exact (entitledNow_truth hA i k').1 (fanExpect_entitled m k' i he)⟩
    · obtain ⟨h1, h2⟩ := mem_filter hk
      exact plain (by simp [DeliversKGiven]) (by simp [IsSnapshot, h2]) h1
  | cbrun k' t l ds hsd =>
    rw [(keepsAll_cbNext m k' ds i).owed] at hk
    split at hk
    · obtain ⟨h1, h2⟩ := mem_filter hk
      exact plain (by simp [DeliversKGiven, h2]) (by simp [IsSnapshot, h2]) h1
    · rename_i hn
      split at hk
      · rename_i hc
        refine .inl ⟨hk, ?_, fun h => ?_⟩
        · rintro (⟨_, _, _, e, h3, hx⟩ | ⟨_, _, _, _, _, e, _⟩) <;> cases e
          rw [hsd] at h3; cases h3
          exact reached (by simpa using hn) hx
        · obtain rfl : k' = k := by rcases h with ⟨_, _, _, e, _⟩ | ⟨_, e⟩ <;> cases e; rfl
          exact (entitledNow_truth hA i k').1 (by simpa using (Bool.and_eq_true _ _ ▸ hc).2)
      · obtain ⟨h1, h2⟩ := mem_filter hk
        exact plain (by simp [DeliversKGiven, h2]) (by simp [IsSnapshot, h2]) h1
  | change f e =>
    have hnd : ¬ DeliversKGiven o ⟨.change f e, .ok⟩ i k := by simp [DeliversKGiven]
    have hns : ¬ IsSnapshot ⟨.change f e, .ok⟩ k := by simp [IsSnapshot]
    rcases monChange_slots m f e i with h | ⟨heff, hoff, b, h⟩ <;> rw [h] at hk
    · exact plain hnd hns hk
    · rw [(keepsAll_changeSlot _ _ _ _).owed] at hk
      by_cases hold : k ∈ (m.slots i).owed
      · exact plain hnd hns hold
      · split at hk
        · rename_i hc
          rcases List.mem_append.1 hk with hk | hk
          · exact absurd hk hold
          · obtain rfl := List.mem_singleton.1 hk
            simp only [Bool.and_eq_true] at hc
            exact .inr ⟨hold, ⟨f, e, rfl, rfl, by rw [← hA.cnt]; exact heff, by rw [← hA.cap]; exact hoff⟩,
              by rw [← hA.connected]; exact hc.1⟩
        · exact absurd hk hold


theorem owed_at (T : Trace) (n : Nat) (hn : n ≤ T.length) (i : Slot) (k : Kind) (h : k ∈ ((monAt T n).slots i).owed) :
    Owes T n i k := by
  induction n with
  | zero => cases h
  | succ n ih =>
    obtain ⟨r, hr⟩ := get_of_lt (Nat.lt_of_succ_le hn)
    rw [monAt_succ hr] at h
    have hstep := owed_step (agrees_at T n) (openAt T n) (fun k => fans_history (T.take n) k) r i k
    by_cases hres : Resets r i
    · exact absurd h (hstep.1 hres)
    · rcases hstep.2 hres h with ⟨hold, hnd, hsn⟩ | ⟨_, hch, hconn⟩
      · obtain ⟨p, rp, hp, hget, hchg, hc, hss, hall⟩ := ih (by omega) hold
        exact ⟨p, rp, by omega, hget, hchg, hc, span_succ hr hss hres, span_succ hr hall ⟨hnd, hsn⟩⟩
      · exact ⟨n, r, by omega, hr, hch, hconn, fun j _ h1 h2 => by omega, fun j _ h1 h2 => by omega⟩

/-- **history of the monitor's debts**: a debt the monitor holds for the session of a slot is owed in the sense of the
property -/
theorem owed_history (tr : Trace) (i : Slot) (k : Kind) (h : k ∈ ((monAfter {} tr).slots i).owed) : Owes tr tr.length i k :=
  owed_at tr tr.length (Nat.le_refl _) i k (by rwa [monAt_length])

def IsEndClause (c : Clause) : Prop :=
  c = .endMixedRemove ∨ c = .endMidFan ∨ c = .endSkippedAck ∨ c = .endF19 ∨ c = .endSkipped ∨ c = .endNoLost ∨
  (∃ a b w, c = .lostWindow a b w .fin) ∨ (∃ o a b w, c = .lostOverlap o a b w .fin)

/-- every clause of the end of a case contradicts "every connected, entitled session receives a notification sent
after the last change" -/
theorem sound_end (tr : Trace) (r : Rec) (c : Clause) (h : Reports tr r c) (hc : srcOf c = .fin) : ¬ P_notified (tr ++ [r]) := by
  intro hP
  obtain ⟨obs, i, k, er, hk, hent⟩ := fin_why hc (monCheck_why h)
  refine hP tr.length obs (by rw [get_snoc_len, er]) i k ?_
    (owed_at (tr ++ [r]) tr.length (by simp) i k (by rwa [monAt_snoc]))
  rw [truthAt_snoc_len]
  exact (entitledNow_truth (monAfter_truth tr) i k).1 hent

theorem sound_endMixedRemove (tr : Trace) (r : Rec) (h : Reports tr r .endMixedRemove) : ¬ P_notified (tr ++ [r]) := sound_end tr r _ h rfl
theorem sound_endMidFan (tr : Trace) (r : Rec) (h : Reports tr r .endMidFan) : ¬ P_notified (tr ++ [r]) := sound_end tr r _ h rfl
theorem sound_endSkippedAck (tr : Trace) (r : Rec) (h : Reports tr r .endSkippedAck) : ¬ P_notified (tr ++ [r]) := sound_end tr r _ h rfl
theorem sound_endF19 (tr : Trace) (r : Rec) (h : Reports tr r .endF19) : ¬ P_notified (tr ++ [r]) := sound_end tr r _ h rfl
theorem sound_endSkipped (tr : Trace) (r : Rec) (h : Reports tr r .endSkipped) : ¬ P_notified (tr ++ [r]) := sound_end tr r _ h rfl
theorem sound_endNoLost (tr : Trace) (r : Rec) (h : Reports tr r .endNoLost) : ¬ P_notified (tr ++ [r]) := sound_end tr r _ h rfl
theorem sound_lostWindow_fin (tr : Trace) (r : Rec) (a b : Nat) (w : What) (h : Reports tr r (.lostWindow a b w .fin)) :
    ¬ P_notified (tr ++ [r]) := sound_end tr r _ h rfl
theorem sound_lostOverlap_fin (tr : Trace) (r : Rec) (o : Bool) (a b : Nat) (w : What)
    (h : Reports tr r (.lostOverlap o a b w .fin)) : ¬ P_notified (tr ++ [r]) := sound_end tr r _ h rfl

end Notify.Sound
