import McpModel.Notify.BridgeCache
/-!
# Bridge: the relation slot by slot

`Rel` is a row per slot and a few facts besides (`rel_iff`).  The row of a slot in use reads the server only through
what it records of the slot's session, so it survives whatever the server does to other sessions (`Row.frame`).  Every
op has one of two shapes: one slot is replaced and the server moves only the record of one session (`Rel.slot_set`), or
no session and no listen moves and every slot keeps its identity (`Rel.rows`: slot by slot, and for the outstanding
writes kind by kind).
-/
namespace Notify.Bridge
open Notify Notify.Mon Notify.Sys Generated.Notify

variable {seen : List Nat} {y : State} {m : MState}

/-- the debt is backed by the model's ghost `owed` or by an outstanding write (the body of `RelOwed` for one slot) -/
def Backed (s : Server) (sid : Nat) (k : Kind) : Prop :=
  (sid, k) ∈ s.owed ∨ ∃ x ∈ (s.ks k).inflight, x.sid = sid

/-- what `Rel` says of one slot IN USE: `d` and `md` against the server's record of the session `d.sid` -/
structure Row (s : Server) (cur : Key → Nat) (d : DSlot) (md : MSlot) : Prop where
  sess : (d.sid, genB d.modern) ∈ s.sessions
  modern : md.modern = d.modern
  gated : d.connected = !d.gated
  gated_modern : d.gated = true → d.modern = true
  listens : ∀ ml, ml ∈ md.listens ↔ ∃ l ∈ s.listens, l.sid = d.sid ∧ ml = toM l
  luris : d.modern = false → ∀ u, u ∈ md.luris ↔ (d.sid, u) ∈ s.rlive
  sub_live : ∀ u, (∃ l ∈ s.listens, l.sid = d.sid ∧ l.id = ridOf u) → u ∈ d.rsubs ∨ ridOf u ∈ d.cancelHeld
  gated_none : d.gated = true → ∀ l ∈ s.listens, l.sid ≠ d.sid
  owed : ∀ k ∈ md.owed, Backed s d.sid k
  cache : CacheRel cur d md

structure SlotRel (s : Server) (cur : Key → Nat) (d : DSlot) (md : MSlot) : Prop where
  conn : md.connected = d.used
  idle : d.used = false → SlotIdle md
  row : d.used = true → Row s cur d md

/-- what `Rel` says besides the rows: the server alone, the monitor's copies of its configuration, which slot holds which
session, the fan-outs in progress -/
structure Glob (seen : List Nat) (y : State) (m : MState) : Prop where
  reach : SrvOk y.srv
  g : RelG y.srv y.content m
  all_acked : ∀ l ∈ y.srv.listens, (l.sid, l.id) ∈ y.srv.acked ∧ ¬(l.kinds = [] ∧ l.uris = [])
  sess_used : ∀ p ∈ y.srv.sessions, ∃ i, (y.slots i).used = true ∧ (y.slots i).sid = p.1
  sid_inj : ∀ i j, (y.slots i).used = true → (y.slots j).used = true → (y.slots i).sid = (y.slots j).sid → i = j
  fan : RelFan (fun k => (y.srv.ks k).inflight) y.slots m.fans
  seen : RelSeen seen y.srv
  gate : ∀ k, (y.srv.ks k).inflight ≠ [] → gateSend y.srv k = true

theorem rel_iff : Rel seen y m ↔ Glob seen y m ∧ ∀ i, SlotRel y.srv (curVersion y) (y.slots i) (m.slots i) := by
  constructor
  · intro h
    refine ⟨⟨h.reach, h.g, h.lis.all_acked, h.sess.sess_used, h.sess.sid_inj, h.fan, h.seen, h.gate⟩, fun i => ?_⟩
    refine ⟨h.sess.conn i, h.lis.idle i, fun hu => ?_⟩
    exact ⟨h.sess.used_sess i hu, h.sess.modern i hu, h.sess.gated i hu, h.sess.gated_modern i hu, h.lis.listens i hu,
      h.lis.luris i hu, h.lis.sub_live i hu, h.lis.gated_none i hu, fun k hk => (h.owed i k hk).2, h.cache i hu⟩
  · rintro ⟨g, r⟩
    refine { reach := g.reach, g := g.g, sess := ?_, lis := ?_, owed := ?_, fan := g.fan,
             cache := fun i hu => ((r i).row hu).cache, seen := g.seen, gate := g.gate }
    · exact ⟨fun i hu => ((r i).row hu).sess, g.sess_used, g.sid_inj, fun i => (r i).conn, fun i hu => ((r i).row hu).modern,
        fun i hu => ((r i).row hu).gated, fun i hu => ((r i).row hu).gated_modern⟩
    · exact ⟨g.all_acked, fun i hu => ((r i).row hu).listens, fun i hu => ((r i).row hu).luris,
        fun i hu => ((r i).row hu).sub_live, fun i hu => ((r i).row hu).gated_none, fun i => (r i).idle⟩
    · intro i k hk
      cases hu : (y.slots i).used with
      | false => rw [((r i).idle hu).owed] at hk; cases hk
      | true => exact ⟨rfl, ((r i).row hu).owed k hk⟩

theorem Rel.srvOk (h : Rel seen y m) : SrvOk y.srv := h.reach

theorem Rel.row (h : Rel seen y m) (i : Slot) (hu : (y.slots i).used = true) :
    Row y.srv (curVersion y) (y.slots i) (m.slots i) := ((rel_iff.1 h).2 i).row hu

theorem verOfKey_cur (h : Rel seen y m) (key : Key) : m.verOfKey key = curVersion y key := by
  cases key <;> simp only [MState.verOfKey, curVersion_list, curVersion_read, h.g.ver, h.g.content]

/-- `s'` records of the session `sid` what `s` does: its entry, its open listens, its legacy subscriptions -/
structure SameFor (sid : Nat) (s s' : Server) : Prop where
  sessions : ∀ g, (sid, g) ∈ s.sessions → (sid, g) ∈ s'.sessions
  listens : ∀ l : Listen, l.sid = sid → (l ∈ s'.listens ↔ l ∈ s.listens)
  rlive : ∀ u, (sid, u) ∈ s'.rlive ↔ (sid, u) ∈ s.rlive

theorem SameFor.of_eq {s s' : Server} (h1 : s'.sessions = s.sessions) (h2 : s'.listens = s.listens) (h3 : s'.rlive = s.rlive)
    (sid : Nat) : SameFor sid s s' := ⟨fun _ hx => h1 ▸ hx, fun _ _ => by rw [h2], fun _ => by rw [h3]⟩

theorem SameFor.refl (sid : Nat) (s : Server) : SameFor sid s s := .of_eq rfl rfl rfl sid

/-- the part of `MSame` that the session and listen clauses of a row read -/
structure MSameL (md md' : MSlot) : Prop where
  connected : md'.connected = md.connected
  modern : md'.modern = md.modern
  listens : md'.listens = md.listens
  luris : md'.luris = md.luris

theorem MSame.toL {md md' : MSlot} (h : MSame md md') : MSameL md md' := ⟨h.connected, h.modern, h.listens, h.luris⟩

theorem Row.move {s s' : Server} {cur cur' : Key → Nat} {d d' : DSlot} {md md' : MSlot} (h : Row s cur d md)
    (e : SameFor d.sid s s') (hd : DSame d d') (hm : MSameL md md')
    (ho : ∀ k ∈ md'.owed, Backed s' d.sid k) (hc : CacheRel cur' d' md') : Row s' cur' d' md' := by
  have hex : ∀ P : Listen → Prop, (∃ l ∈ s'.listens, l.sid = d.sid ∧ P l) ↔ (∃ l ∈ s.listens, l.sid = d.sid ∧ P l) :=
    fun P => ⟨fun ⟨l, hl, e1, hp⟩ => ⟨l, (e.listens l e1).1 hl, e1, hp⟩, fun ⟨l, hl, e1, hp⟩ => ⟨l, (e.listens l e1).2 hl, e1, hp⟩⟩
  refine ⟨?_, ?_, ?_, ?_, fun ml => ?_, fun hm' u => ?_, fun u hl => ?_, fun hg l hl e1 => ?_, ?_, hc⟩
  · rw [hd.sid, hd.modern]; exact e.sessions _ h.sess
  · rw [hm.modern, hd.modern]; exact h.modern
  · rw [hd.connected, hd.gated]; exact h.gated
  · rw [hd.gated, hd.modern]; exact h.gated_modern
  · rw [hm.listens, hd.sid, hex]; exact h.listens ml
  · rw [hm.luris, hd.sid, e.rlive]; exact h.luris (hd.modern ▸ hm') u
  · rw [hd.sid] at hl; rw [hd.rsubs, hd.cancelHeld]; exact h.sub_live u ((hex _).1 hl)
  · rw [hd.sid] at e1; exact h.gated_none (hd.gated ▸ hg) l ((e.listens l e1).1 hl) e1
  · rw [hd.sid]; exact ho

theorem Row.frame {s s' : Server} {cur : Key → Nat} {d : DSlot} {md : MSlot} (h : Row s cur d md)
    (e : SameFor d.sid s s') (hb : ∀ k, Backed s d.sid k → Backed s' d.sid k) : Row s' cur d md :=
  h.move e (DSame.refl d) ⟨rfl, rfl, rfl, rfl⟩ (fun k hk => hb k (h.owed k hk)) h.cache

/-- `s'` differs from `s` only in what it records of the session `sid`; the debts towards other sessions may only grow -/
structure Only (sid : Nat) (s s' : Server) : Prop where
  cap : s'.cap = s.cap
  ver : s'.ver = s.ver
  cnt : s'.cnt = s.cnt
  infl : ∀ k, (s'.ks k).inflight = (s.ks k).inflight
  sessions : ∀ p : Nat × Gen, p.1 ≠ sid → (p ∈ s'.sessions ↔ p ∈ s.sessions)
  listens : ∀ l : Listen, l.sid ≠ sid → (l ∈ s'.listens ↔ l ∈ s.listens)
  rlive : ∀ p : Nat × Nat, p.1 ≠ sid → (p ∈ s'.rlive ↔ p ∈ s.rlive)
  owed : ∀ p : Nat × Kind, p.1 ≠ sid → p ∈ s.owed → p ∈ s'.owed

theorem SameRest.only {s s' : Server} (h : SameRest s s') {sid : Nat}
    (hl : ∀ l : Listen, l.sid ≠ sid → (l ∈ s'.listens ↔ l ∈ s.listens))
    (hr : ∀ p : Nat × Nat, p.1 ≠ sid → (p ∈ s'.rlive ↔ p ∈ s.rlive)) : Only sid s s' :=
  ⟨h.cap, h.ver, h.cnt, h.infl, fun _ _ => by rw [h.sessions], hl, hr, fun _ _ hp => h.owed ▸ hp⟩

theorem SameRest.backed {s s' : Server} (h : SameRest s s') {sid : Nat} {k : Kind} (hb : Backed s sid k) :
    Backed s' sid k := by
  simp only [Backed, h.owed, h.infl]; exact hb

theorem Only.refl (sid : Nat) (s : Server) : Only sid s s :=
  (SameRest.refl s).only (fun _ _ => .rfl) (fun _ _ => .rfl)

theorem Only.keeps_row {sid : Nat} {s s' : Server} (e : Only sid s s') {cur : Key → Nat} {d : DSlot} {md : MSlot}
    (h : Row s cur d md) (hne : d.sid ≠ sid) : Row s' cur d md := by
  refine h.frame ⟨fun g => (e.sessions (_, g) hne).2, fun l e1 => e.listens l (e1 ▸ hne), fun u => e.rlive (_, u) hne⟩
    fun k hb => ?_
  simp only [Backed, e.infl]
  exact hb.imp_left (e.owed (_, k) hne)

/-- Slot `i` is replaced by `d'` / `md'` and the server moves only its record of the session `sid` (`e`): the session of the old
slot if in use (`hi`), of the new one if in use (`hd`), of no other slot (`hoth`); if the server knows it afterwards the new
slot is in use and the id seen (`hnew`).  To be shown: the new row (`hsl`).  `hfan`: a held fan-out has nothing to write
to a new session and keeps writing to a slot that keeps its identity. -/
theorem Rel.slot_set (h : Rel seen y m) (i : Slot) {sid : Nat} {s' : Server} {d' : DSlot} {md' : MSlot} {seen' : List Nat}
    (hi : (y.slots i).used = true → (y.slots i).sid = sid)
    (hoth : ∀ j, j ≠ i → (y.slots j).used = true → (y.slots j).sid ≠ sid)
    (hok : SrvOk s') (e : Only sid y.srv s')
    (hack : ∀ l ∈ s'.listens, (l.sid, l.id) ∈ s'.acked ∧ ¬(l.kinds = [] ∧ l.uris = []))
    (hseen : ∀ x ∈ seen, x ∈ seen') (hnew : ∀ p ∈ s'.sessions, p.1 = sid → d'.used = true ∧ sid ∈ seen')
    (hd : d'.used = true → d'.sid = sid)
    (hsl : SlotRel s' (curVersion y) d' md')
    (hfan : d'.used = true → (∀ k, ∀ x ∈ (y.srv.ks k).inflight, x.sid ≠ sid) ∨ DSameId (y.slots i) d') :
    Rel seen' (({ y with srv := s' } : State).setSlot i d') (m.setSlot i md') := by
  obtain ⟨g, r⟩ := rel_iff.1 h
  have hinfl : (fun k => (s'.ks k).inflight) = fun k => (y.srv.ks k).inflight := funext e.infl
  refine rel_iff.2 ⟨⟨hok, ⟨g.g.cap.trans e.cap.symm, g.g.ver.trans e.ver.symm, g.g.cnt.trans e.cnt.symm, g.g.content⟩, hack,
    ?_, ?_, ?_, ⟨?_, ?_⟩, ?_⟩, fun j => ?_⟩
  · intro p hp
    by_cases e1 : p.1 = sid
    · exact ⟨i, by rw [setSlot_slots_same]; exact (hnew p hp e1).1, by rw [setSlot_slots_same, hd (hnew p hp e1).1, e1]⟩
    · obtain ⟨j, hj, hs⟩ := g.sess_used p ((e.sessions p e1).1 hp)
      have hji : j ≠ i := fun e2 => e1 (by rw [← hs, e2, hi (e2 ▸ hj)])
      exact ⟨j, by rw [setSlot_slots, if_neg hji]; exact hj, by rw [setSlot_slots, if_neg hji]; exact hs⟩
  · intro a b ha hb hab
    simp only [setSlot_slots] at ha hb hab
    by_cases ea : a = i <;> by_cases eb : b = i
    · rw [ea, eb]
    · simp only [ea, eb, if_true, if_false] at ha hb hab
      exact absurd ((hd ha) ▸ hab.symm) (hoth b eb hb)
    · simp only [ea, eb, if_true, if_false] at ha hb hab
      exact absurd ((hd hb) ▸ hab) (hoth a ea ha)
    · simp only [ea, eb, if_false] at ha hb hab; exact g.sid_inj a b ha hb hab
  · show RelFan (fun k => (s'.ks k).inflight) _ m.fans
    rw [hinfl]
    refine ⟨g.fan.some_of, fun k fan hf => ⟨(g.fan.ok k fan hf).nodup, fun x hx j hj hs => ?_⟩⟩
    rw [setSlot_slots] at hj hs ⊢
    by_cases e1 : j = i
    · rw [if_pos e1] at hj hs ⊢
      rcases hfan hj with hno | hid
      · exact absurd ((hd hj) ▸ hs.symm) (hno k x hx)
      · rw [hid.modern, e1]
        exact (g.fan.ok k fan hf).exp x hx i (hid.used ▸ hj) (hid.sid ▸ hs)
    · rw [if_neg e1] at hj hs ⊢; exact (g.fan.ok k fan hf).exp x hx j hj hs
  · intro p hp
    by_cases e1 : p.1 = sid
    · rw [e1]; exact (hnew p hp e1).2
    · exact hseen _ (g.seen.sess p ((e.sessions p e1).1 hp))
  · intro k x hx; exact hseen _ (g.seen.infl k x ((e.infl k) ▸ hx))
  · intro k hk
    exact (gateSend_congr e.cap k).trans (g.gate k ((e.infl k) ▸ hk))
  · show SlotRel s' (curVersion (({ y with srv := s' } : State).setSlot i d')) _ _
    rw [curVersion_congr (y' := ({ y with srv := s' } : State).setSlot i d') (y := y) e.ver rfl, setSlot_slots, msetSlot_slots]
    split
    · exact hsl
    · rename_i e1
      exact ⟨(r j).conn, (r j).idle, fun hj => e.keeps_row ((r j).row hj) (hoth j e1 hj)⟩

theorem Rel.slot_op (h : Rel seen y m) (i : Slot) (hu : (y.slots i).used = true) {s' : Server} {d' : DSlot} {md' : MSlot}
    (hok : SrvOk s') (e : Only (y.slots i).sid y.srv s') (he : s'.sessions = y.srv.sessions)
    (hack : ∀ l ∈ s'.listens, (l.sid, l.id) ∈ s'.acked ∧ ¬(l.kinds = [] ∧ l.uris = []))
    (d : DSameId (y.slots i) d') (mc : md'.connected = (m.slots i).connected)
    (hrow : Row s' (curVersion y) d' md') :
    Rel seen (({ y with srv := s' } : State).setSlot i d') (m.setSlot i md') :=
  h.slot_set i (fun _ => rfl) (fun j e1 hj e2 => e1 (h.sess.sid_inj j i hj hu e2)) hok e hack (fun _ hx => hx)
    (fun p hp e1 => ⟨d.used.trans hu, e1 ▸ h.seen.sess p (he ▸ hp)⟩) (fun _ => d.sid)
    ⟨mc.trans ((h.sess.conn i).trans d.used.symm), fun hx => absurd ((d.used.trans hu).symm.trans hx) (by simp), fun _ => hrow⟩
    (fun _ => .inr d)

theorem Rel.slot_tweak (h : Rel seen y m) (i : Slot) (hu : (y.slots i).used = true) {d' : DSlot} {md' : MSlot}
    (d : DSameId (y.slots i) d') (mc : md'.connected = (m.slots i).connected)
    (hrow : Row y.srv (curVersion y) (y.slots i) (m.slots i) → Row y.srv (curVersion y) d' md') :
    Rel seen (y.setSlot i d') (m.setSlot i md') :=
  h.slot_op i hu h.srvOk (Only.refl _ _) rfl h.lis.all_acked d mc (hrow (h.row i hu))

/-- the outstanding writes of ONE kind: a held fan-out answers for them, they go to sessions that have existed, and the
kind is not switched off -/
structure KindOk (seen : List Nat) (s : Server) (slots : Slot → DSlot) (fans : Kind → Option MFan) (k : Kind) : Prop where
  some_of : (s.ks k).inflight ≠ [] → ∃ fan, fans k = some fan
  ok : ∀ fan, fans k = some fan → FanOk (s.ks k).inflight slots fan
  seen : ∀ x ∈ (s.ks k).inflight, x.sid ∈ seen
  gate : (s.ks k).inflight ≠ [] → gateSend s k = true

theorem Rel.kind (h : Rel seen y m) (k : Kind) : KindOk seen y.srv y.slots m.fans k :=
  ⟨h.fan.some_of k, h.fan.ok k, h.seen.infl k, h.gate k⟩

theorem KindOk.frame {s s' : Server} {slots : Slot → DSlot} {fans fans' : Kind → Option MFan} {k : Kind}
    (h : KindOk seen s slots fans k) (e1 : (s'.ks k).inflight = (s.ks k).inflight) (e2 : fans' k = fans k)
    (e3 : s'.cap = s.cap) : KindOk seen s' slots fans' k :=
  ⟨fun hne => e2 ▸ h.some_of (e1 ▸ hne), fun fan hf => e1 ▸ h.ok fan (e2 ▸ hf), e1 ▸ h.seen,
    fun hne => (gateSend_congr e3 k).trans (h.gate (e1 ▸ hne))⟩

theorem SlotRel.msame {s : Server} {cur : Key → Nat} {d : DSlot} {md md' : MSlot} (h : SlotRel s cur d md)
    (e : MSame md md') : SlotRel s cur d md' :=
  ⟨e.connected.trans h.conn, fun hu => ⟨e.listens.trans (h.idle hu).listens, e.luris.trans (h.idle hu).luris,
      e.owed.trans (h.idle hu).owed⟩,
    fun hu => (h.row hu).move (.refl _ _) (DSame.refl d) e.toL
      (fun k hk => (h.row hu).owed k (e.owed ▸ hk)) ((h.row hu).cache.msame e)⟩

theorem SlotRel.move {s s' : Server} {cur cur' : Key → Nat} {d d' : DSlot} {md md' : MSlot} (h : SlotRel s cur d md)
    (e : SameFor d.sid s s') (hd : DSame d d') (hm : MSameL md md') (hsub : d.used = false → ∀ k ∈ md'.owed, k ∈ md.owed)
    (ho : d.used = true → ∀ k ∈ md'.owed, Backed s' d.sid k)
    (hc : d.used = true → CacheRel cur d md → CacheRel cur' d' md') : SlotRel s' cur' d' md' := by
  refine ⟨hm.connected.trans (h.conn.trans hd.used.symm), fun hu => ?_, fun hu => ?_⟩
  · have := h.idle (hd.used ▸ hu)
    refine ⟨hm.listens.trans this.listens, hm.luris.trans this.luris, List.eq_nil_iff_forall_not_mem.2 fun k hk => ?_⟩
    have := hsub (hd.used ▸ hu) k hk
    rw [‹SlotIdle md›.owed] at this; cases this
  · have hu' : d.used = true := hd.used ▸ hu
    exact (h.row hu').move e hd hm (ho hu') (hc hu' (h.row hu').cache)

/-- No session, listen or acknowledgement moves (`c1`–`c3`) and every slot keeps its identity (`hd`): to be shown are each
slot's relation, given the old one (`hslot`), and each kind's outstanding writes (`hkind`). -/
theorem Rel.rows (h : Rel seen y m) {y' : State} {m' : MState} (hok : SrvOk y'.srv)
    (c1 : y'.srv.sessions = y.srv.sessions) (c2 : y'.srv.listens = y.srv.listens) (c3 : y'.srv.acked = y.srv.acked)
    (hg : RelG y'.srv y'.content m') (hd : ∀ j, DSameId (y.slots j) (y'.slots j))
    (hslot : ∀ j, SlotRel y.srv (curVersion y) (y.slots j) (m.slots j) →
      SlotRel y'.srv (curVersion y') (y'.slots j) (m'.slots j))
    (hkind : ∀ k, KindOk seen y'.srv y.slots m'.fans k) : Rel seen y' m' := by
  obtain ⟨g, r⟩ := rel_iff.1 h
  refine rel_iff.2 ⟨⟨hok, hg, ?_, ?_, ?_, (⟨fun k => (hkind k).some_of, fun k => (hkind k).ok⟩ : RelFan _ _ _).congr hd,
    ⟨c1 ▸ g.seen.sess, fun k => (hkind k).seen⟩, fun k => (hkind k).gate⟩, fun j => hslot j (r j)⟩
  · rw [c2, c3]; exact g.all_acked
  · intro p hp
    obtain ⟨j, hj, e⟩ := g.sess_used p (c1 ▸ hp)
    exact ⟨j, (hd j).used.trans hj, (hd j).sid.trans e⟩
  · intro a b ha hb hab
    rw [(hd a).used] at ha; rw [(hd b).used] at hb; rw [(hd a).sid, (hd b).sid] at hab
    exact g.sid_inj a b ha hb hab

/-- `Rel.rows` when the server is the same in all the relation reads (timers may fire, the clock may move) -/
theorem Rel.sameAll (h : Rel seen y m) {y' : State} {m' : MState} (hok : SrvOk y'.srv) (e : SameAll y.srv y'.srv)
    (g1 : m'.cap = m.cap) (g2 : m'.ver = m.ver) (g3 : m'.cnt = m.cnt) (g4 : m'.content = y'.content) (mf : m'.fans = m.fans)
    (hd : ∀ j, DSame (y.slots j) (y'.slots j)) (hm : ∀ j, MSameL (m.slots j) (m'.slots j))
    (ho : ∀ j, (m'.slots j).owed = (m.slots j).owed)
    (hc : ∀ j, (y.slots j).used = true → CacheRel (curVersion y) (y.slots j) (m.slots j) →
      CacheRel (curVersion y') (y'.slots j) (m'.slots j)) : Rel seen y' m' :=
  h.rows hok e.rest.sessions e.listens e.acked
    ⟨g1.trans (h.g.cap.trans e.rest.cap.symm), g2.trans (h.g.ver.trans e.rest.ver.symm), g3.trans (h.g.cnt.trans e.rest.cnt.symm), g4⟩
    (fun j => (hd j).toId)
    (fun j r => r.move (.of_eq e.rest.sessions e.listens e.rlive _) (hd j) (hm j)
      (fun _ _ hk => ho j ▸ hk) (fun hu k hk => e.rest.backed ((r.row hu).owed k (ho j ▸ hk))) (hc j))
    fun k => (h.kind k).frame (e.rest.infl k) (congrFun mf k) e.rest.cap

theorem Rel.msame (h : Rel seen y m) {m' : MState} (hs : ∀ j, MSame (m.slots j) (m'.slots j))
    (mf : m'.fans = m.fans) (g1 : m'.cap = m.cap) (g2 : m'.ver = m.ver) (g3 : m'.cnt = m.cnt)
    (g4 : m'.content = m.content) : Rel seen y m' :=
  h.sameAll h.srvOk (SameAll.refl _) g1 g2 g3 (g4.trans h.g.content) mf (fun _ => DSame.refl _) (fun j => (hs j).toL)
    (fun j => (hs j).owed) fun j _ hc => hc.msame (hs j)

theorem Rel.of_eq (h : Rel seen y m) {y' : State} {m' : MState} (e1 : y'.srv = y.srv) (e2 : y'.content = y.content)
    (e3 : y'.slots = y.slots) (g1 : m'.cap = m.cap) (g2 : m'.ver = m.ver) (g3 : m'.cnt = m.cnt)
    (g4 : m'.content = m.content) (g5 : m'.slots = m.slots) (g6 : m'.fans = m.fans) : Rel seen y' m' := by
  cases y; cases y'; cases m; cases m'
  simp only at e1 e2 e3 g1 g2 g3 g4 g5 g6
  subst e1 e2 e3 g1 g2 g3 g4 g5 g6
  exact { h with g := ⟨h.g.cap, h.g.ver, h.g.cnt, h.g.content⟩ }

theorem Rel.seen_cons (h : Rel seen y m) (sid : Nat) : Rel (sid :: seen) y m :=
  { h with seen := ⟨fun p hp => List.mem_cons_of_mem _ (h.seen.sess p hp),
                    fun k x hx => List.mem_cons_of_mem _ (h.seen.infl k x hx)⟩ }

theorem Rel.fresh_sid (h : Rel seen y m) {sid : Nat} (hok : sid ∉ seen) : sid ∉ y.srv.sessions.map Prod.fst := fun hm => by
  obtain ⟨p, hp, e⟩ := List.mem_map.1 hm
  exact hok (e ▸ h.seen.sess p hp)

theorem Rel.fans_forget (h : Rel seen y m) (i : Slot) (hu : (y.slots i).used = false) :
    Rel seen y { m with fans := fun k => (m.fans k).map (fun f =>
      { f with expect := f.expect.filter (·.1 != i), served := f.served.filter (· != i) }) } := by
  refine { h with g := ⟨h.g.cap, h.g.ver, h.g.cnt, h.g.content⟩, fan := ⟨fun k hk => ?_, fun k fan hf => ?_⟩ }
  · obtain ⟨fan, hf⟩ := h.fan.some_of k hk
    exact ⟨_, congrArg (Option.map _) hf⟩
  · obtain ⟨fan0, hf0, rfl⟩ := Option.map_eq_some_iff.1 hf
    have h0 := h.fan.ok k fan0 hf0
    refine ⟨h0.nodup, fun x hx j hj hs => ?_⟩
    have hji : j ≠ i := fun e => by rw [e, hu] at hj; cases hj
    obtain ⟨⟨st, a1, a2⟩, a3, a4⟩ := h0.exp x hx j hj hs
    exact ⟨⟨st, by rw [find?_filter_ne _ _ _ hji]; exact a1, a2⟩, fun hc => a3 (List.mem_filter.1 hc).1, a4⟩

end Notify.Bridge
