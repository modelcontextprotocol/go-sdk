import McpModel.Notify.Lemmas
import McpModel.Base.Logic
/-!
Second invariant of the server-side model, `InvS` (tables, sessions and ghost records agree); what the invariants give in
every reachable state and for the outputs of a run; a third invariant, `InvA`, with its own
entry point `reach_invA` beside `reach_inv`.
-/
namespace Notify
open Generated.Notify

theorem find?_some_of_mem {α} {l : List α} {p : α → Bool} {b : α} (hb : b ∈ l) (hp : p b = true) :
    ∃ b0, l.find? p = some b0 := by
  cases h : l.find? p with
  | some b0 => exact ⟨b0, rfl⟩
  | none => rw [List.find?_eq_none] at h; exact absurd hp (h b hb)

theorem grantsK_iff (t : Kind) (l : Listen) : grantsK t l = true ↔ t ∈ l.kinds := by
  simp [grantsK, listenTable_diag]

theorem grantsU_iff (u : Nat) (l : Listen) : grantsU u l = true ↔ u ∈ l.uris := by
  simp [grantsU]

theorem heir_some {ls : List Listen} {sid : Nat} {g : Listen → Bool} {h : Nat} :
    heir ls sid g = some h ↔ ∃ l, ls.find? (fun l => l.sid == sid && g l) = some l ∧ l.id = h := by
  simp [heir]

theorem heir_mem {ls : List Listen} {sid : Nat} {g : Listen → Bool} {h : Nat} (hh : heir ls sid g = some h) :
    ∃ l ∈ ls, l.sid = sid ∧ l.id = h ∧ g l = true := by
  obtain ⟨l, hf, hid⟩ := heir_some.1 hh
  have h1 := List.mem_of_find?_eq_some hf
  have h2 := List.find?_some hf
  simp at h2
  exact ⟨l, h1, h2.1, hid, h2.2⟩

theorem heir_of_mem {ls : List Listen} {sid : Nat} {g : Listen → Bool} {l : Listen} (hl : l ∈ ls)
    (hs : l.sid = sid) (hg : g l = true) : ∃ h, heir ls sid g = some h := by
  obtain ⟨b0, hb0⟩ := find?_some_of_mem (p := fun l => l.sid == sid && g l) hl (by simp [hs, hg])
  exact ⟨b0.id, heir_some.2 ⟨b0, hb0, rfl⟩⟩

theorem heir_cons (n : Listen) (ls : List Listen) (sid : Nat) (g : Listen → Bool) :
    heir (n :: ls) sid g = if n.sid = sid ∧ g n = true then some n.id else heir ls sid g := by
  simp only [heir, List.find?_cons]
  by_cases h : n.sid = sid ∧ g n = true
  · simp [h]
  · have : (n.sid == sid && g n) = false := by
      cases hg : g n <;> simp_all
    simp [this, h]

theorem heir_filter {ls : List Listen} {sid' : Nat} {g q : Listen → Bool}
    (hq : ∀ l ∈ ls, l.sid = sid' → g l = true → q l = true) : heir (ls.filter q) sid' g = heir ls sid' g := by
  induction ls with
  | nil => rfl
  | cons a t ih =>
    have iht := ih fun l hl => hq l (List.mem_cons_of_mem _ hl)
    by_cases hqa : q a = true
    · rw [List.filter_cons_of_pos hqa, heir_cons, heir_cons, iht]
    · rw [List.filter_cons_of_neg hqa, heir_cons, iht, if_neg fun hc => hqa (hq a List.mem_cons_self hc.1 hc.2)]

/-- **Hand-over.**  After the stream `(sid, id)` is dropped, the newest stream of a session that was
granted the thing is the one it was before, unless that was the dropped stream: then it is the newest
of the remaining ones. -/
theorem heir_drop {ls : List Listen} {sid id sid' id' : Nat} {g : Listen → Bool} :
    heir (ls.filter (fun l' => !(l'.sid == sid && l'.id == id))) sid' g = some id' ↔
      (heir ls sid' g = some id' ∧ ¬(sid' = sid ∧ id' = id)) ∨
      (sid' = sid ∧ heir ls sid g = some id ∧
        heir (ls.filter (fun l' => !(l'.sid == sid && l'.id == id))) sid g = some id') := by
  induction ls with
  | nil => simp [heir]
  | cons a t ih =>
    by_cases hd : a.sid = sid ∧ a.id = id
    · -- the head is the stream that ends
      rw [List.filter_cons_of_neg (by simp [hd])]
      by_cases hs : a.sid = sid' ∧ g a = true
      · -- … and was the heir: the new heir is the heir among the rest
        obtain rfl : sid' = sid := hs.1.symm.trans hd.1
        rw [heir_cons, if_pos hs, hd.2]
        exact ⟨fun h => .inr ⟨rfl, rfl, h⟩, fun h => h.elim (fun h => absurd ⟨rfl, (Option.some.inj h.1).symm⟩ h.2) (·.2.2)⟩
      · rw [ih, heir_cons, if_neg hs]
        refine or_congr_right (and_congr_right fun e => ?_)
        rw [heir_cons, if_neg (e ▸ hs)]
    · rw [List.filter_cons_of_pos (by simp; exact Decidable.not_and_iff_not_or_not.1 hd), heir_cons, heir_cons a t sid']
      by_cases hs : a.sid = sid' ∧ g a = true
      · -- the head stays the heir
        rw [if_pos hs, if_pos hs]
        refine ⟨fun e => .inl ⟨e, fun hc => hd ⟨hs.1.trans hc.1, (Option.some.inj e).trans hc.2⟩⟩, fun h => h.elim And.left fun hc => ?_⟩
        obtain ⟨rfl, h1, _⟩ := hc
        rw [heir_cons, if_pos hs] at h1
        exact absurd ⟨hs.1, Option.some.inj h1⟩ hd
      · rw [if_neg hs, if_neg hs, ih]
        refine or_congr_right (and_congr_right fun e => ?_)
        rw [heir_cons, if_neg (e ▸ hs), heir_cons, if_neg (e ▸ hs)]

/-- The tables against the record of open streams, through `heir`: a session's entry carries the id of its newest open stream
that was granted the kind or the URI. -/
structure InvS (s : Server) : Prop where
  sess_nodup : (s.sessions.map Prod.fst).Nodup
  listen_modern : ∀ l ∈ s.listens, (l.sid, Gen.modern) ∈ s.sessions
  /-- the request ids of the open streams of one session are distinct -/
  listen_ids : ∀ l ∈ s.listens, ∀ l' ∈ s.listens, l.sid = l'.sid → l.id = l'.id → l = l'
  /-- a list-changed table holds, per session, exactly the id of the newest open stream of the session
  that was granted the kind -/
  subs_iff : ∀ t sid id, (sid, id) ∈ (s.ks t).subs ↔ heir s.listens sid (grantsK t) = some id
  /-- a legacy `resources/subscribe`, or a 2026-07-28 session under the id of its heir for the URI -/
  rsubs_owner : ∀ r ∈ s.rsubs, (r.2.1, Gen.legacy) ∈ s.sessions ∨
    ((r.2.1, Gen.modern) ∈ s.sessions ∧ heir s.listens r.2.1 (grantsU r.1) = some r.2.2)
  /-- conversely, the heir for `u` has its entry in `resourceSubscriptions[u]` -/
  listen_rsubs : ∀ u sid id, heir s.listens sid (grantsU u) = some id → (u, sid, id) ∈ s.rsubs
  /-- `resourceSubscriptions[u]` is a map keyed by session -/
  rsubs_fun : ∀ r ∈ s.rsubs, ∀ q ∈ s.rsubs, r.1 = q.1 → r.2.1 = q.2.1 → r = q
  rsubs_nodup : s.rsubs.Nodup
  /-- `rlive`: the live legacy subscriptions -/
  rlive_iff : ∀ sid u, (sid, u) ∈ s.rlive ↔ ((sid, Gen.legacy) ∈ s.sessions ∧ ∃ id, (u, sid, id) ∈ s.rsubs)

theorem invS_init (cap : Kind → Cap) : InvS (init cap) := by
  constructor <;> simp [init, heir]

theorem InvS.subs_listen {s : Server} (h : InvS s) (t : Kind) (p : Nat × Nat) (hp : p ∈ (s.ks t).subs) :
    ∃ l ∈ s.listens, l.sid = p.1 ∧ l.id = p.2 ∧ t ∈ l.kinds := by
  obtain ⟨l, hl, h1, h2, h3⟩ := heir_mem ((h.subs_iff t p.1 p.2).1 hp)
  exact ⟨l, hl, h1, h2, (grantsK_iff t l).1 h3⟩

theorem InvS.listen_served {s : Server} (h : InvS s) (l : Listen) (hl : l ∈ s.listens) (k : Kind)
    (hk : k ∈ l.kinds) : ∃ id, heir s.listens l.sid (grantsK k) = some id ∧ (l.sid, id) ∈ (s.ks k).subs := by
  obtain ⟨id, hid⟩ := heir_of_mem (g := grantsK k) hl rfl ((grantsK_iff k l).2 hk)
  exact ⟨id, hid, (h.subs_iff k l.sid id).2 hid⟩

theorem InvS.listen_served_uri {s : Server} (h : InvS s) (l : Listen) (hl : l ∈ s.listens) (u : Nat)
    (hu : u ∈ l.uris) : ∃ id, heir s.listens l.sid (grantsU u) = some id ∧ (u, l.sid, id) ∈ s.rsubs := by
  obtain ⟨id, hid⟩ := heir_of_mem (g := grantsU u) hl rfl ((grantsU_iff u l).2 hu)
  exact ⟨id, hid, h.listen_rsubs u l.sid id hid⟩

theorem InvS.frame {s s' : Server} (h : InvS s) (h1 : s'.sessions = s.sessions)
    (h2 : ∀ t, (s'.ks t).subs = (s.ks t).subs) (h3 : s'.rsubs = s.rsubs)
    (h4 : s'.listens = s.listens) (h5 : s'.rlive = s.rlive) : InvS s' := by
  obtain ⟨a, b, c, d, e, f, g, i, j⟩ := h
  constructor
  all_goals simp only [h1, h2, h3, h4, h5]
  all_goals assumption

theorem gen_unique {l : List (Nat × Gen)} (h : (l.map Prod.fst).Nodup) {sid : Nat} {g g' : Gen}
    (h1 : (sid, g) ∈ l) (h2 : (sid, g') ∈ l) : g = g' :=
  (Prod.mk.inj (List.eq_of_nodup_map Prod.fst h h1 h2 rfl)).2

theorem genOf_of_mem {s : Server} (h : (s.sessions.map Prod.fst).Nodup) {sid : Nat} {g : Gen}
    (hm : (sid, g) ∈ s.sessions) : genOf s sid = g := by
  unfold genOf
  cases hl : s.sessions.lookup sid with
  | none => exact absurd (List.lookup_eq_none_iff.1 hl _ hm) (by simp)
  | some g' => rw [gen_unique h (List.mem_of_lookup_eq_some hl) hm]; rfl

theorem mem_legacyRecips {s : Server} {x : Send} :
    x ∈ legacyRecips s ↔ ∃ g, (x.sid, g) ∈ s.sessions ∧ g ≠ Gen.modern ∧ x.stamp = none := by
  simp only [legacyRecips, List.mem_map, List.mem_filter]
  constructor
  · rintro ⟨⟨a, g⟩, ⟨hm, hne⟩, rfl⟩
    exact ⟨g, hm, by simpa using hne, rfl⟩
  · rintro ⟨g, hm, hne, he⟩
    exact ⟨(x.sid, g), ⟨hm, by simpa using hne⟩, by cases x; cases he; rfl⟩

theorem mem_subRecips {s : Server} {k : Kind} {x : Send} :
    x ∈ subRecips s k ↔ ∃ id, (x.sid, id) ∈ (s.ks k).subs ∧ x.stamp = some id := by
  simp only [subRecips, subsTable_diag, List.mem_map]
  constructor
  · rintro ⟨⟨a, b⟩, hm, rfl⟩
    exact ⟨b, hm, rfl⟩
  · rintro ⟨id, hm, he⟩
    exact ⟨(x.sid, id), hm, by cases x; cases he; rfl⟩

theorem mem_updList {s : Server} {u : Nat} {x : Send} :
    x ∈ updList s u ↔ ∃ id, (u, x.sid, id) ∈ s.rsubs ∧
      x.stamp = if genOf s x.sid = Gen.modern then some id else none := by
  simp only [updList, List.mem_map, List.mem_filter]
  constructor
  · rintro ⟨⟨a, b, c⟩, ⟨hm, hu⟩, rfl⟩
    obtain rfl : a = u := by simpa using hu
    refine ⟨c, ?_⟩
    split <;> simp [*]
  · rintro ⟨id, hm, he⟩
    refine ⟨(u, x.sid, id), ⟨hm, by simp⟩, ?_⟩
    cases x
    split <;> simp_all

theorem legacy_ne {l : List (Nat × Gen)} (h : (l.map Prod.fst).Nodup) {a b : Nat} (ha : (a, Gen.legacy) ∈ l)
    (hb : (b, Gen.modern) ∈ l) : a ≠ b :=
  fun e => absurd (gen_unique h (e ▸ ha) hb) (by simp)

theorem invS_bind (s : Server) (sid : Nat) (h : InvS s) : InvS (bind s sid) := by
  unfold bind
  split
  · exact h
  · rename_i hn
    obtain ⟨a, b, c, d, e, f, g, i, j⟩ := h
    refine ⟨?_, ?_, c, d, ?_, f, g, i, ?_⟩
    · simp only [List.map_append, List.map_cons, List.map_nil]
      rw [List.nodup_append]
      refine ⟨a, by simp, ?_⟩
      intro x hx y hy; simp at hy; subst hy; intro e; subst e; exact hn hx
    · intro l hl; simp; exact b l hl
    · intro r hr
      rcases e r hr with e | e
      · left; simp; exact e
      · right; refine ⟨by simp; exact e.1, e.2⟩
    · intro sid' u; simp; exact j sid' u

theorem hello_keep {l : List (Nat × Gen)} {sid x : Nat} {g ng : Gen} (h : (x, g) ∈ l) (hne : x ≠ sid) :
    (x, g) ∈ l.map (fun p => if p.1 = sid then (sid, ng) else p) := by
  simp only [List.mem_map]
  exact ⟨(x, g), h, by simp [hne]⟩

theorem invS_hello (s : Server) (sid : Nat) (m : Bool) (h : InvS s) : InvS (hello s sid m) := by
  unfold hello
  split
  · rename_i hu
    obtain ⟨a, b, c, d, e, f, g, i, j⟩ := h
    have keep : ∀ x gg, gg ≠ Gen.uninit → (x, gg) ∈ s.sessions →
        (x, gg) ∈ s.sessions.map (fun p => if p.1 = sid then (sid, if m then Gen.modern else Gen.legacy) else p) := by
      intro x gg hg hx
      apply hello_keep hx
      intro e; subst e; exact hg (gen_unique a hx hu)
    have a' : ((s.sessions.map (fun p => if p.1 = sid then (sid, if m then Gen.modern else Gen.legacy) else p)).map Prod.fst).Nodup := by
      simp only [map_fst_hello]; exact a
    refine ⟨a', ?_, c, d, ?_, f, g, i, ?_⟩
    · intro l hl; exact keep _ _ (by simp) (b l hl)
    · intro r hr
      rcases e r hr with e | e
      · left; exact keep _ _ (by simp) e
      · right; exact ⟨keep _ _ (by simp) e.1, e.2⟩
    · intro sid' u
      constructor
      · intro hr
        obtain ⟨h1, h2⟩ := (j sid' u).1 hr
        exact ⟨keep _ _ (by simp) h1, h2⟩
      · rintro ⟨h1, id, h2⟩
        apply (j sid' u).2
        refine ⟨?_, id, h2⟩
        rcases e _ h2 with e | e
        · exact e
        · have := gen_unique a' h1 (keep _ _ (by simp) e.1)
          cases this
  · exact h

theorem invS_subscribe (s : Server) (sid id u : Nat) (h : InvS s) : InvS (subscribe s sid id u) := by
  unfold subscribe
  split
  · rename_i hl
    obtain ⟨a, b, c, d, e, f, g, i, j⟩ := h
    refine ⟨a, b, c, d, ?_, ?_, ?_, ?_, ?_⟩
    · intro r hr
      simp at hr
      rcases hr with hr | hr
      · exact e r hr.1
      · subst hr; left; exact hl
    · intro u' sid' id' hh
      have h1 := f u' sid' id' hh
      obtain ⟨l, hl', hs, _, _⟩ := heir_mem hh
      have h2 := b l hl'
      have hne : sid' ≠ sid := (legacy_ne a hl (hs ▸ h2)).symm
      simp; left; exact ⟨h1, Or.inr hne⟩
    · intro r hr q hq h1 h2
      simp at hr hq
      rcases hr with hr | hr <;> rcases hq with hq | hq
      · exact g r hr.1 q hq.1 h1 h2
      · subst hq; simp at h1 h2; grind
      · subst hr; simp at h1 h2; grind
      · rw [hr, hq]
    · rw [List.nodup_append]
      refine ⟨i.filter _, by simp, ?_⟩
      intro x hx y hy; simp at hx hy; subst hy; intro e; subst e; simp at hx
    · intro sid' u'
      have := j sid' u'
      simp
      constructor
      · rintro (h1 | ⟨rfl, rfl⟩)
        · obtain ⟨hleg, id', hid⟩ := this.1 h1
          refine ⟨hleg, ?_⟩
          by_cases e : u' = u ∧ sid' = sid
          · exact ⟨id, Or.inr ⟨e.1, e.2, rfl⟩⟩
          · exact ⟨id', Or.inl ⟨hid, by grind⟩⟩
        · exact ⟨hl, id, Or.inr ⟨rfl, rfl, rfl⟩⟩
      · rintro ⟨hleg, id', (h1 | ⟨rfl, rfl, rfl⟩)⟩
        · left; exact this.2 ⟨hleg, id', h1.1⟩
        · right; exact ⟨rfl, rfl⟩
  · exact h

theorem invS_unsubscribe (s : Server) (sid u : Nat) (h : InvS s) : InvS (unsubscribe s sid u) := by
  unfold unsubscribe
  split
  · rename_i hl
    obtain ⟨a, b, c, d, e, f, g, i, j⟩ := h
    refine ⟨a, b, c, d, ?_, ?_, ?_, i.filter _, ?_⟩
    · intro r hr
      simp at hr
      exact e r hr.1
    · intro u' sid' id' hh
      have h1 := f u' sid' id' hh
      obtain ⟨l, hl', hs, _, _⟩ := heir_mem hh
      have h2 := b l hl'
      have hne : sid' ≠ sid := (legacy_ne a hl (hs ▸ h2)).symm
      simp; exact ⟨h1, Or.inr hne⟩
    · intro r hr q hq h1 h2
      simp at hr hq
      exact g r hr.1 q hq.1 h1 h2
    · intro sid' u'
      have := j sid' u'
      simp
      grind
  · exact h

theorem invS_close (s : Server) (sid : Nat) (h : InvS s) : InvS (close s sid) := by
  obtain ⟨a, b, c, d, e, f, g, i, j⟩ := h
  unfold close
  have hheir : ∀ sid' gr, sid' ≠ sid → heir (s.listens.filter (fun l => l.sid != sid)) sid' gr = heir s.listens sid' gr := by
    intro sid' gr hne
    exact heir_filter fun l _ hs _ => by simp [hs, hne]
  have hnone : ∀ gr, heir (s.listens.filter (fun l => l.sid != sid)) sid gr = none := by
    intro gr
    cases hh : heir (s.listens.filter (fun l => l.sid != sid)) sid gr with
    | none => rfl
    | some x =>
      obtain ⟨l, hl, hs, _, _⟩ := heir_mem hh
      simp at hl
      exact absurd hs hl.2
  refine ⟨?_, ?_, ?_, ?_, ?_, ?_, ?_, i.filter _, ?_⟩
  · have : (s.sessions.filter (fun p => p.1 != sid)).map Prod.fst = (s.sessions.map Prod.fst).filter (fun x => x != sid) := by
      rw [List.filter_map]; rfl
    simp only [this]; exact a.filter _
  · intro l hl; simp at hl ⊢; exact ⟨b l hl.1, hl.2⟩
  · intro l hl l' hl'; simp at hl hl'; exact c l hl.1 l' hl'.1
  · intro t sid' id
    simp only []
    by_cases hs : sid' = sid
    · subst hs; rw [hnone]; simp
    · rw [hheir _ _ hs, ← d t sid' id]; simp [hs]
  · intro r hr
    simp at hr
    rcases e r hr.1 with e | e
    · left; simp; exact ⟨e, hr.2⟩
    · right; refine ⟨by simp; exact ⟨e.1, hr.2⟩, ?_⟩
      rw [hheir _ _ hr.2]; exact e.2
  · intro u sid' id hh
    simp only [] at hh
    by_cases hs : sid' = sid
    · subst hs; rw [hnone] at hh; cases hh
    · rw [hheir _ _ hs] at hh
      simp; exact ⟨f u sid' id hh, hs⟩
  · intro r hr q hq; simp at hr hq; exact g r hr.1 q hq.1
  · intro sid' u'
    have := j sid' u'
    simp
    grind

theorem find?_listen {l : List Listen} {sid id : Nat} {x : Listen}
    (h : l.find? (fun l => l.sid == sid && l.id == id) = some x) : x ∈ l ∧ x.sid = sid ∧ x.id = id := by
  have h1 := List.mem_of_find?_eq_some h
  have h2 := List.find?_some h
  simp at h2
  exact ⟨h1, h2.1, h2.2⟩

theorem mem_dropListen {ls : List Listen} {sid id : Nat} {x : Listen} :
    x ∈ ls.filter (fun l' => !(l'.sid == sid && l'.id == id)) ↔ x ∈ ls ∧ ¬(x.sid = sid ∧ x.id = id) := by
  simp only [List.mem_filter, Bool.not_eq_true', Bool.and_eq_false_iff, beq_eq_false_iff_ne, ne_eq]
  exact and_congr_right fun _ => Decidable.not_and_iff_not_or_not.symm

theorem mem_dropAck {l : List (Nat × Nat)} {sid id : Nat} {p : Nat × Nat} :
    p ∈ l.filter (fun p => !(p.1 == sid && p.2 == id)) ↔ p ∈ l ∧ ¬(p.1 = sid ∧ p.2 = id) := by
  simp only [List.mem_filter, Bool.not_eq_true', Bool.and_eq_false_iff, beq_eq_false_iff_ne, ne_eq]
  exact and_congr_right fun _ => Decidable.not_and_iff_not_or_not.symm

theorem listenEnd_listens (s : Server) (sid id : Nat) :
    (listenEnd s sid id).listens = s.listens.filter (fun l' => !(l'.sid == sid && l'.id == id)) := by
  simp only [listenEnd]; split
  · rename_i hn
    exact (List.filter_eq_self.2 fun l hl => by
      rw [Bool.not_eq_true']; exact Bool.eq_false_iff.2 (List.find?_eq_none.1 hn l hl)).symm
  · rfl

theorem listenEnd_acked_mem {s : Server} {sid id : Nat} {p : Nat × Nat} :
    (p ∈ (listenEnd s sid id).acked → p ∈ s.acked) ∧
    (p ∈ s.acked → ¬(p.1 = sid ∧ p.2 = id) → p ∈ (listenEnd s sid id).acked) := by
  simp only [listenEnd]; split
  · exact ⟨fun h => h, fun h _ => h⟩
  · exact ⟨fun h => (mem_dropAck.1 h).1, fun h hne => mem_dropAck.2 ⟨h, hne⟩⟩

theorem mem_put {l : List (Nat × Nat)} {sid id : Nat} {p : Nat × Nat} :
    p ∈ put l sid id ↔ (p ∈ l ∧ p.1 ≠ sid) ∨ p = (sid, id) := by
  simp [put]

theorem listenOk_spec {s : Server} {sid id : Nat} (h : listenOk s sid id = true) :
    ∀ l ∈ s.listens, ¬(l.sid = sid ∧ l.id = id) := by
  intro l hl
  simp [listenOk] at h
  have := h l hl
  intro hc
  rcases this with h1 | h1
  · exact h1 hc.1
  · exact h1 hc.2

theorem invS_listen (s : Server) (sid id : Nat) (kinds : List Kind) (uris : List Nat) (h : InvS s) :
    InvS (listen s sid id kinds uris) := by
  unfold listen
  split
  · rename_i hguard
    obtain ⟨hm, hok, hnd⟩ := hguard
    have ok := listenOk_spec hok
    obtain ⟨a, b, c, d, e, f, g, i, j⟩ := h
    generalize hak : kinds.filter (gateListen s) = ak
    generalize hau : (if resSub s = true then uris else []) = au
    have hau_nd : au.Nodup := by rw [← hau]; split; exact hnd; simp
    simp only []
    generalize hn : (⟨sid, id, ak, au⟩ : Listen) = n
    have hnsid : n.sid = sid := by rw [← hn]
    have hnid : n.id = id := by rw [← hn]
    have hnk : n.kinds = ak := by rw [← hn]
    have hnu : n.uris = au := by rw [← hn]
    have hgK : ∀ t, ak.any (fun k => listenTable k == some t) = grantsK t n := by
      intro t; simp [grantsK, hnk]
    have hgU : ∀ u, grantsU u n = true ↔ u ∈ au := by
      intro u; rw [grantsU_iff, hnu]
    refine ⟨a, ?_, ?_, ?_, ?_, ?_, ?_, ?_, ?_⟩
    · -- listen_modern
      intro l0 hl0
      simp at hl0
      rcases hl0 with h0 | h0
      · subst h0; rw [hnsid]; exact hm
      · exact b l0 h0
    · -- listen_ids
      intro l1 h1 l2 h2 hs hi
      simp at h1 h2
      rcases h1 with e1 | e1 <;> rcases h2 with e2 | e2
      · rw [e1, e2]
      · exfalso; apply ok l2 e2; rw [← hs, ← hi, e1]; exact ⟨hnsid, hnid⟩
      · exfalso; apply ok l1 e1; rw [hs, hi, e2]; exact ⟨hnsid, hnid⟩
      · exact c l1 e1 l2 e2 hs hi
    · -- subs_iff
      intro t sid' id'
      simp only []
      rw [heir_cons, hgK, hnsid, hnid]
      cases hg : grantsK t n with
      | true =>
        simp only [if_true]
        rw [mem_put]
        by_cases hs : sid' = sid
        · subst hs; simp
          constructor
          · intro e; exact e.symm
          · intro e; exact e.symm
        · have hs' : ¬ sid = sid' := fun e => hs e.symm
          simp [hs, hs']
          exact d t sid' id'
      | false =>
        simp
        exact d t sid' id'
    · -- rsubs_owner
      intro r hr
      simp at hr
      rcases hr with hr | ⟨u, hu, rfl⟩
      · rcases e r hr.1 with e | e
        · exact Or.inl e
        · right
          refine ⟨e.1, ?_⟩
          rw [heir_cons, hnsid]
          have : ¬(sid = r.2.1 ∧ grantsU r.1 n = true) := by
            rintro ⟨h1, h2⟩
            have := (hgU r.1).1 h2
            rcases hr.2 with h3 | h3
            · exact h3 h1.symm
            · exact h3 this
          simp only [this, if_false]
          exact e.2
      · right
        refine ⟨hm, ?_⟩
        rw [heir_cons, hnsid, hnid]
        simp [(hgU u).2 hu]
    · -- listen_rsubs
      intro u sid' id' hh
      rw [heir_cons, hnsid, hnid] at hh
      simp only []
      rw [List.mem_append]
      by_cases hc : sid = sid' ∧ grantsU u n = true
      · simp only [hc, and_self, if_true] at hh
        right
        rw [List.mem_map]
        refine ⟨u, (hgU u).1 hc.2, ?_⟩
        cases hh; rw [hc.1]
      · simp only [hc, if_false] at hh
        left
        rw [List.mem_filter]
        refine ⟨f u sid' id' hh, ?_⟩
        by_cases hs : sid' = sid
        · have : ¬ u ∈ au := fun hu => hc ⟨hs.symm, (hgU u).2 hu⟩
          simp [this]
        · simp [hs]
    · -- rsubs_fun
      intro r hr q hq h1 h2
      simp at hr hq
      rcases hr with hr | ⟨u, hu, rfl⟩ <;> rcases hq with hq | ⟨u', hu', rfl⟩
      · exact g r hr.1 q hq.1 h1 h2
      · simp at h1 h2; grind
      · simp at h1 h2; grind
      · simp at h1; rw [h1]
    · -- rsubs_nodup
      rw [List.nodup_append]
      refine ⟨i.filter _, ?_, ?_⟩
      · exact List.Pairwise.map _ (fun x y hxy => by simpa using hxy) hau_nd
      · intro x hx y hy
        simp at hx hy
        obtain ⟨u, hu, rfl⟩ := hy
        intro e; subst e
        simp at hx
        exact hx.2 hu
    · -- rlive_iff: the entries of a legacy session stay
      intro sid' u'
      rw [j sid' u']
      refine and_congr_right fun hleg => exists_congr fun id' => ?_
      have hne : sid' ≠ sid := legacy_ne a hleg hm
      simp [hne, Ne.symm hne]
  · exact h

theorem mem_rewrite {α} {T : List α} {own : α → Bool} {re : α → Option α} {b : α} :
    b ∈ T.filterMap (fun a => if own a = true then re a else some a) ↔
      (b ∈ T ∧ own b = false) ∨ ∃ a ∈ T, own a = true ∧ re a = some b := by
  rw [List.mem_filterMap]
  constructor
  · rintro ⟨a, ha, h⟩
    split at h
    · exact .inr ⟨a, ha, ‹_›, h⟩
    · cases h; exact .inl ⟨ha, Bool.eq_false_iff.2 ‹_›⟩
  · rintro (⟨hb, ho⟩ | ⟨a, ha, ho, hr⟩)
    · exact ⟨b, hb, by rw [if_neg (by simp [ho])]⟩
    · exact ⟨a, ha, by rw [if_pos ho]; exact hr⟩

theorem nodup_filterMap_of_inj_on {α β} {l : List α} {f : α → Option β} (hnd : l.Nodup)
    (hinj : ∀ a ∈ l, ∀ a' ∈ l, ∀ b, f a = some b → f a' = some b → a = a') : (l.filterMap f).Nodup := by
  induction l with
  | nil => simp
  | cons a t ih =>
    simp only [List.nodup_cons] at hnd
    have iht := ih hnd.2 (fun x hx y hy => hinj x (List.mem_cons_of_mem _ hx) y (List.mem_cons_of_mem _ hy))
    cases hfa : f a with
    | none => simp [hfa]; exact iht
    | some b =>
      simp only [List.filterMap_cons, hfa, List.nodup_cons]
      refine ⟨?_, iht⟩
      intro hb
      obtain ⟨a', ha', hfa'⟩ := List.mem_filterMap.1 hb
      have := hinj a (List.mem_cons_self) a' (List.mem_cons_of_mem _ ha') b hfa hfa'
      rw [this] at hnd
      exact hnd.1 ha'

theorem invS_listenEnd (s : Server) (sid id : Nat) (h : InvS s) : InvS (listenEnd s sid id) := by
  unfold listenEnd
  split
  · exact h
  · rename_i l hfind
    obtain ⟨hl, hsid, hid⟩ := find?_listen hfind
    obtain ⟨a, b, c, d, e, f, g, i, j⟩ := h
    have hmod : (sid, Gen.modern) ∈ s.sessions := by rw [← hsid]; exact b l hl
    -- the stream that ends is the only one with its id
    have only : ∀ u, heir s.listens sid (grantsU u) = some id → u ∈ l.uris := by
      intro u hh
      obtain ⟨l0, hl0, h1, h2, h3⟩ := heir_mem hh
      have := c l0 hl0 l hl (by rw [h1, hsid]) (by rw [h2, hid])
      rw [← this]; exact (grantsU_iff u l0).1 h3
    simp only []
    generalize hrest : s.listens.filter (fun l' => !(l'.sid == sid && l'.id == id)) = rest
    have hsub : ∀ x ∈ rest, x ∈ s.listens := by
      intro x hx; rw [← hrest] at hx; exact (List.mem_filter.1 hx).1
    -- what the rewritten resource table contains
    have hG : ∀ r', r' ∈ s.rsubs.filterMap (fun r =>
          if (r.2.1 == sid && r.2.2 == id && l.uris.contains r.1) = true then
            (heir rest sid (grantsU r.1)).map (fun h => (r.1, sid, h))
          else some r) ↔
        (r' ∈ s.rsubs ∧ ¬(r'.2.1 = sid ∧ r'.2.2 = id ∧ r'.1 ∈ l.uris)) ∨
        (r'.2.1 = sid ∧ (r'.1, sid, id) ∈ s.rsubs ∧ r'.1 ∈ l.uris ∧ heir rest sid (grantsU r'.1) = some r'.2.2) := by
      intro r'
      rw [mem_rewrite]
      refine or_congr (and_congr_right fun _ => ?_) ⟨?_, ?_⟩
      · simp
      · rintro ⟨⟨a1, a2, a3⟩, ha, ho, hre⟩
        simp only [Bool.and_eq_true, beq_iff_eq, List.contains_eq_mem, decide_eq_true_eq] at ho
        obtain ⟨⟨rfl, rfl⟩, hu⟩ := ho
        obtain ⟨x, hx, rfl⟩ := Option.map_eq_some_iff.1 hre
        exact ⟨rfl, ha, hu, hx⟩
      · rintro ⟨h1, hr, h3, h4⟩
        refine ⟨(r'.1, sid, id), hr, by simpa using h3, ?_⟩
        obtain ⟨r1, r2, r3⟩ := r'
        cases h1
        simp [h4]
    -- a rewritten entry keeps its URI and its session
    have key : ∀ (r b : Nat × Nat × Nat),
        (if (r.2.1 == sid && r.2.2 == id && l.uris.contains r.1) = true then
          (heir rest sid (grantsU r.1)).map (fun h => (r.1, sid, h))
        else some r) = some b → b.1 = r.1 ∧ b.2.1 = r.2.1 := by
      intro r b hb
      split at hb
      · rename_i c
        simp at c
        obtain ⟨h, _, rfl⟩ := Option.map_eq_some_iff.1 hb
        exact ⟨rfl, c.1.1.symm⟩
      · cases hb; exact ⟨rfl, rfl⟩
    refine ⟨a, ?_, ?_, ?_, ?_, ?_, ?_, ?_, ?_⟩
    · intro l' hl'; exact b l' (hsub l' hl')
    · intro l1 h1 l2 h2; exact c l1 (hsub l1 h1) l2 (hsub l2 h2)
    · -- subs_iff
      intro t sid' id'
      rw [← hrest, heir_drop, hrest, ← d t sid' id', ← d t sid id, mem_rewrite]
      refine or_congr (and_congr_right fun _ => by simp) ⟨?_, ?_⟩
      · rintro ⟨⟨a1, a2⟩, ha, ho, hre⟩
        simp only [Bool.and_eq_true, beq_iff_eq] at ho
        obtain ⟨rfl, rfl⟩ := ho
        obtain ⟨x, hx, e⟩ := Option.map_eq_some_iff.1 hre
        cases e
        exact ⟨rfl, ha, hx⟩
      · rintro ⟨rfl, hr, hh⟩
        exact ⟨(sid', id), hr, by simp, by rw [hh]; rfl⟩
    · -- rsubs_owner
      intro r' hr'
      rcases (hG r').1 hr' with ⟨hr, hc⟩ | ⟨h1, _, _, h4⟩
      · rcases e r' hr with e | e
        · exact Or.inl e
        · right
          refine ⟨e.1, ?_⟩
          rw [← hrest, heir_drop]
          left
          refine ⟨e.2, ?_⟩
          rintro ⟨x, y⟩
          apply hc
          refine ⟨x, y, only r'.1 ?_⟩
          rw [← x, ← y]; exact e.2
      · right
        rw [h1]
        exact ⟨hmod, h4⟩
    · -- listen_rsubs
      intro u sid' id' hh
      rw [← hrest, heir_drop, hrest] at hh
      apply (hG (u, sid', id')).2
      rcases hh with ⟨hh, hne⟩ | ⟨rfl, hh, hr⟩
      · left
        exact ⟨f u sid' id' hh, fun hx => hne ⟨hx.1, hx.2.1⟩⟩
      · right
        exact ⟨rfl, f u sid' id hh, only u hh, hr⟩
    · -- rsubs_fun
      intro r1 hr1 r2 hr2 e1 e2
      obtain ⟨a1, ha1, f1⟩ := List.mem_filterMap.1 hr1
      obtain ⟨a2, ha2, f2⟩ := List.mem_filterMap.1 hr2
      have := g a1 ha1 a2 ha2 (by rw [← (key a1 r1 f1).1, e1, (key a2 r2 f2).1]) (by rw [← (key a1 r1 f1).2, e2, (key a2 r2 f2).2])
      subst this
      exact Option.some.inj (f1.symm.trans f2)
    · -- rsubs_nodup
      apply nodup_filterMap_of_inj_on i
      intro r1 hr1 r2 hr2 b' h1 h2
      exact g r1 hr1 r2 hr2 ((key r1 b' h1).1.symm.trans (key r2 b' h2).1) ((key r1 b' h1).2.symm.trans (key r2 b' h2).2)
    · -- rlive_iff: the entries of a legacy session are not rewritten
      intro sid' u'
      rw [j sid' u']
      refine and_congr_right fun hleg => exists_congr fun id' => ?_
      have hne : sid' ≠ sid := legacy_ne a hleg hmod
      rw [hG]
      exact ⟨fun hr => .inl ⟨hr, fun hc => hne hc.1⟩, fun hr => hr.elim And.left fun hc => absurd hc.1 hne⟩

theorem invS_listenAck (s : Server) (sid id : Nat) (h : InvS s) : InvS (listenAck s sid id).1 := by
  unfold listenAck
  split
  · exact h
  · rename_i l hfind
    obtain ⟨hl, hsid, hid⟩ := find?_listen hfind
    split
    · exact h
    · split
      · rename_i hempty
        obtain ⟨a, b, c, d, e, f, g, i, j⟩ := h
        -- the record that leaves was granted nothing: no heir changes
        have irr : ∀ sid' (gr : Listen → Bool), (∀ x : Listen, x.kinds = [] → x.uris = [] → gr x = false) →
            heir (s.listens.filter (fun l' => !(l'.sid == sid && l'.id == id))) sid' gr = heir s.listens sid' gr := by
          intro sid' gr hgr
          refine heir_filter fun x hx _ hg => Decidable.byContradiction fun hq => ?_
          simp at hq
          rw [c x hx l hl (by rw [hq.1, hsid]) (by rw [hq.2, hid]), hgr l hempty.1 hempty.2] at hg
          cases hg
        have irrK : ∀ t (x : Listen), x.kinds = [] → x.uris = [] → grantsK t x = false := by
          intro t x hk _; simp [grantsK, hk]
        have irrU : ∀ u (x : Listen), x.kinds = [] → x.uris = [] → grantsU u x = false := by
          intro u x _ hu; simp [grantsU, hu]
        refine ⟨a, ?_, ?_, ?_, ?_, ?_, g, i, j⟩
        · intro l' hl'; simp at hl'; exact b l' hl'.1
        · intro l1 h1 l2 h2; simp at h1 h2; exact c l1 h1.1 l2 h2.1
        · intro t sid' id'; simp only []; rw [irr sid' _ (irrK t)]; exact d t sid' id'
        · intro r hr
          rcases e r hr with e | e
          · exact Or.inl e
          · right; refine ⟨e.1, ?_⟩; simp only []; rw [irr _ _ (irrU r.1)]; exact e.2
        · intro u sid' id' hh; simp only [] at hh; rw [irr _ _ (irrU u)] at hh; exact f u sid' id' hh
      · exact h.frame rfl (fun _ => rfl) rfl rfl rfl

theorem invS_step (s : Server) (l : Label) (h : InvS s) : InvS (step s l).1 := by
  have hw := step_writes s l
  cases l with
  | listenRefused sid id kinds uris n =>
    simp only [step, listenRefused]
    split
    · exact invS_listenEnd _ sid id (invS_listen s sid id kinds (uris.take n) h)
    · exact h
  | bind sid => exact invS_bind s sid h
  | hello sid m => exact invS_hello s sid m h
  | listen sid id kinds uris => exact invS_listen s sid id kinds uris h
  | listenAck sid id => exact invS_listenAck s sid id h
  | listenEnd sid id => exact invS_listenEnd s sid id h
  | subscribe sid id u => exact invS_subscribe s sid id u h
  | unsubscribe sid u => exact invS_unsubscribe s sid u h
  | close sid => exact invS_close s sid h
  | _ => exact h.frame (hw.2 .sessions rfl) (hw.2 .subs rfl) (hw.2 .rsubs rfl) (hw.2 .listens rfl) (hw.2 .rlive rfl)

theorem reach_inv {cap : Kind → Cap} {s : Server} (h : Reach cap s) : InvT s ∧ InvS s := by
  induction h with
  | init => exact ⟨invT_init cap, invS_init cap⟩
  | step l _ ih => exact ⟨invT_step _ l ih.1, invS_step _ l ih.2⟩

theorem run_append (s : Server) (a b : List Label) :
    run s (a ++ b) = ((run (run s a).1 b).1, (run s a).2 ++ (run (run s a).1 b).2) := by
  induction a generalizing s with
  | nil => simp [run]
  | cons l a ih => simp only [List.cons_append, run]; rw [ih]; simp

theorem reach_run {cap : Kind → Cap} {s : Server} (h : Reach cap s) (ls : List Label) :
    Reach cap (run s ls).1 := by
  induction ls generalizing s with
  | nil => exact h
  | cons l ls ih => simp only [run]; exact ih (Reach.step l h)

theorem reach_final (cap : Kind → Cap) (ls : List Label) : Reach cap (final cap ls) :=
  reach_run Reach.init ls

theorem outputs_from_reach {cap : Kind → Cap} {s : Server} (h : Reach cap s) (ls : List Label) :
    ∀ o ∈ (run s ls).2, ∃ s' l, Reach cap s' ∧ o ∈ (step s' l).2 := by
  induction ls generalizing s with
  | nil => intro o ho; simp [run] at ho
  | cons l ls ih =>
    intro o ho
    simp only [run, List.mem_append] at ho
    rcases ho with ho | ho
    · exact ⟨s, l, h, ho⟩
    · exact ih (Reach.step l h) o ho

theorem step_out {s : Server} {l : Label} {o : Out} (h : o ∈ (step s l).2) :
    match o with
    | .changed k to => l = .cbrun k ∧ (s.ks k).pending ≠ 0 ∧ to = sendList s k
    | .sent k x => ∃ i, l = .deliver k i ∧ (s.ks k).inflight[i]? = some x
    | .ack sid id ks us => l = .listenAck sid id ∧ (sid, id) ∉ s.acked ∧
        ∃ l0, s.listens.find? (fun l => l.sid == sid && l.id == id) = some l0 ∧ ks = l0.kinds ∧ us = l0.uris
    | .updated u to => l = .updated u ∧ to = updList s u
    | .updatedNamed u v to => l = .updatedNamed u v ∧ to = updList s u := by
  cases l with
  | cbrun k =>
    simp only [step, cbrun] at h
    split at h
    · cases h
    · obtain rfl := List.mem_singleton.1 h
      exact ⟨rfl, ‹_›, rfl⟩
  | deliver k i =>
    simp only [step, deliver] at h
    split at h
    · cases h
    · split at h
      · obtain rfl := List.mem_singleton.1 h
        exact ⟨i, rfl, ‹_›⟩
      · cases h
  | listenAck sid id =>
    simp only [step, listenAck] at h
    split at h
    · cases h
    · rename_i l0 hf
      split at h
      · cases h
      · rename_i hna
        split at h
        · rename_i he
          obtain rfl := List.mem_singleton.1 h
          exact ⟨rfl, hna, l0, hf, he.1.symm, he.2.symm⟩
        · obtain rfl := List.mem_singleton.1 h
          exact ⟨rfl, hna, l0, hf, rfl, rfl⟩
  | updated u => obtain rfl := List.mem_singleton.1 h; exact ⟨rfl, rfl⟩
  | updatedNamed u v => obtain rfl := List.mem_singleton.1 h; exact ⟨rfl, rfl⟩
  | _ => cases h

theorem run_out {cap : Kind → Cap} {ls : List Label} {o : Out} (h : o ∈ outputs cap ls) :
    ∃ s l, Reach cap s ∧ o ∈ (step s l).2 :=
  outputs_from_reach Reach.init ls o h

theorem reach_cap {cap : Kind → Cap} {s : Server} (h : Reach cap s) : s.cap = cap := by
  induction h with
  | init => rfl
  | step l _ ih => rw [step_cap]; exact ih

/-- Every acknowledged listen is still a live handler. -/
def InvA (s : Server) : Prop :=
  ∀ p ∈ s.acked, ∃ l ∈ s.listens, l.sid = p.1 ∧ l.id = p.2

theorem InvA.frame {s s' : Server} (h : InvA s) (h1 : s'.acked = s.acked) (h2 : s'.listens = s.listens) :
    InvA s' := by
  intro p hp; rw [h1] at hp; rw [h2]; exact h p hp

theorem invA_listen (s : Server) (sid id : Nat) (kinds : List Kind) (uris : List Nat) (h : InvA s) :
    InvA (listen s sid id kinds uris) := by
  simp only [listen]
  split
  · intro p hp
    obtain ⟨l0, hl0, h1⟩ := h p hp
    exact ⟨l0, by simp; exact Or.inr hl0, h1⟩
  · exact h

theorem invA_listenEnd (s : Server) (sid id : Nat) (h : InvA s) : InvA (listenEnd s sid id) := by
  simp only [listenEnd]
  split
  · exact h
  · intro p hp
    obtain ⟨hp, hne⟩ := mem_dropAck.1 hp
    obtain ⟨l0, hl0, h1, h2⟩ := h p hp
    exact ⟨l0, mem_dropListen.2 ⟨hl0, by rwa [h1, h2]⟩, h1, h2⟩

theorem invA_step (s : Server) (l : Label) (h : InvA s) : InvA (step s l).1 := by
  have hw := step_writes s l
  cases l with
  | listen sid id kinds uris => exact invA_listen s sid id kinds uris h
  | listenRefused sid id kinds uris n =>
    simp only [step, listenRefused]
    split
    · exact invA_listenEnd _ sid id (invA_listen s sid id kinds (uris.take n) h)
    · exact h
  | listenAck sid id =>
    simp only [step, listenAck]
    split
    · exact h
    · rename_i l hfind
      obtain ⟨hl, hsid, hid⟩ := find?_listen hfind
      split
      · exact h
      · rename_i hna
        split
        · intro p hp
          obtain ⟨l0, hl0, h1, h2⟩ := h p hp
          refine ⟨l0, mem_dropListen.2 ⟨hl0, fun e => hna ?_⟩, h1, h2⟩
          have : p = (sid, id) := by rw [← e.1, ← e.2, h1, h2]
          rw [← this]; exact hp
        · intro p hp
          simp at hp
          rcases hp with hp | hp
          · exact h p hp
          · exact ⟨l, hl, by rw [hp]; exact hsid, by rw [hp]; exact hid⟩
  | listenEnd sid id => exact invA_listenEnd s sid id h
  | close sid =>
    simp only [step, close]
    intro p hp
    simp at hp
    obtain ⟨l0, hl0, h1, h2⟩ := h p hp.1
    refine ⟨l0, ?_, h1, h2⟩
    simp
    exact ⟨hl0, by rw [h1]; exact hp.2⟩
  | _ => exact h.frame (hw.2 .acked rfl) (hw.2 .listens rfl)

theorem reach_invA {cap : Kind → Cap} {s : Server} (h : Reach cap s) : InvA s := by
  induction h with
  | init => intro p hp; simp [init] at hp
  | step l _ ih => exact invA_step _ l ih
