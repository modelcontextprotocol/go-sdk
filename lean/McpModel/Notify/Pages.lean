import McpModel.Notify.Cache
/-!
# E14, client caches with several pages: the harness ops `pages …` on the model `Notify.Cache` (keys = cursors)
and the property monitor on the implementation's observations.  Core Lean only (linked into `drv_notify`).
-/
namespace Notify.Pages
open Notify.Cache

inductive Op where
  | list (k : Nat)
  | listheld (k : Nat)
  | fill (k : Nat)
  | change
  | tick (d : Nat)
  | ttl (n : Nat)
deriving DecidableEq, Repr

/-- `handled n`: notifications handled after a `change`; `held v`: the server answered `v`, the response is held -/
inductive Obs where
  | ok
  | ret (v : Nat) (hit : Bool)
  | held (v : Nat)
  | handled (n : Nat)
  | refused
deriving DecidableEq, Repr

/-- the MODEL's state here; the monitor's is `Mon` -/
structure MState where
  c : Cache.State := {}
  ttl : Nat := 0

/-- the held call for page `k`: a fill the server has answered -/
def heldIdx (c : Cache.State) (k : Nat) : Option Nat :=
  c.fills.findIdx? (fun f => f.key == k && f.stage != .sent)

/-- the model: one harness op = a few labels of `Cache.step true` -/
def step (m : MState) : Op → MState × Obs
  | .ttl n => ({ m with ttl := n }, .ok)
  | .tick d => ({ m with c := (Cache.step true m.c (.tick d)).1 }, .ok)
  | .change =>
    -- every tool replaced (the server's state of every page moves), one debounced notification, sent and handled; 20 ms
    let c := (Cache.step true m.c (.bump (fun _ => true))).1
    let c := (Cache.step true c (.announce none)).1
    let c := (Cache.step true c (.handle (c.inbox.length - 1))).1
    ({ m with c := (Cache.step true c (.tick 20)).1 }, .handled 1)
  | .list k =>
    match Cache.step true m.c (.listStart k) with
    | (c, .ret _ v _ hit :: _) => ({ m with c := c }, .ret v hit)
    | (c, []) =>
      let i := c.fills.length - 1
      let c := (Cache.step true c (.serve i m.ttl)).1
      match Cache.step true c (.fill i) with
      | (c, .ret _ v _ _ :: _) => ({ m with c := c }, .ret v false)
      | (c, []) => ({ m with c := c }, .refused)
  | .listheld k =>
    if (heldIdx m.c k).isSome then (m, .refused) else
    match Cache.step true m.c (.listStart k) with
    | (c, .ret _ v _ hit :: _) => ({ m with c := c }, .ret v hit)
    | (c, []) =>
      let i := c.fills.length - 1
      ({ m with c := (Cache.step true c (.serve i m.ttl)).1 }, .held (c.srv k))
  | .fill k =>
    match heldIdx m.c k with
    | none => (m, .refused)
    | some i =>
      match Cache.step true m.c (.fill i) with
      | (c, .ret _ v _ _ :: _) => ({ m with c := c }, .ret v false)
      | (c, []) => ({ m with c := c }, .refused)

/-! ## the monitor: its state is the history of the ops (how many changes the client has been told about, and for
every held call how many it had been told about when it started) -/

inductive Clause where
  /-- a call started after the client handled list_changed was answered with a page from before that change -/
  | stalePage
  /-- a change of the list (a burst) and the client handled no notification -/
  | notNotified
deriving DecidableEq, Repr

/-- `told`: how many changes the client was told of; every `change` moves every page's version by one from 0, so a call
that starts now must return at least `told` -/
structure Mon where
  told : Nat := 0
  starts : List (Nat × Nat) := []

def monStep (m : Mon) (op : Op) (obs : Obs) : Mon × Option Clause :=
  match op, obs with
  | .change, .handled n => ({ m with told := m.told + 1 }, if n == 0 then some .notNotified else none)
  | .change, _ => ({ m with told := m.told + 1 }, some .notNotified)
  | .list _, .ret v _ => (m, if v < m.told then some .stalePage else none)
  | .listheld k, .held _ => ({ m with starts := (k, m.told) :: m.starts }, none)
  | .listheld _, .ret v _ => (m, if v < m.told then some .stalePage else none)
  | .fill k, .ret v _ =>
    let st := (m.starts.lookup k).getD 0
    ({ m with starts := m.starts.filter (·.1 != k) }, if v < st then some .stalePage else none)
  | _, _ => (m, none)

end Notify.Pages
