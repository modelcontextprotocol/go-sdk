import McpModel.Notify.BridgeStep
/-!
# Bridge: `config`, `change`, `advance`

`config` starts model and monitor afresh (`rel_fresh`).  An effective `change` bumps version and size on both sides, puts
every session in debt unless the capability is switched off — the monitor's slots take on a debt only where the server
books one (`rel_change`) — and the caches of the 2026-07-28 clients see a newer list (`cacheRel_bump`).  `advance` moves
clocks and fires timers, which the relation does not read (`Rel.sameAll`).
-/
namespace Notify.Bridge
open Notify Notify.Mon Notify.Sys Generated.Notify
variable {seen : List Nat} {y : State} {m : MState}

theorem featureKind_eq (f : FSet) : featureKind f = some (kindOfFSet f) := by cases f <;> rfl

theorem change_eff (s : Server) (f : FSet) (e : Eff) (he : ¬(e = .noop ∨ (e = .remove ∧ s.cnt f = 0))) :
    (change s f e).ver = (bumpVer s f e).ver ∧ (change s f e).cnt = (bumpVer s f e).cnt ∧
    (change s f e).owed = if gateSend s (kindOfFSet f) = true ∧ s.sessions ≠ [] then
      s.owed ++ s.sessions.map (fun p => (p.1, kindOfFSet f)) else s.owed := by
  unfold change
  rw [if_neg he]
  simp only [featureKind_eq, notifyChange]
  rw [show gateSend (bumpVer s f e) (kindOfFSet f) = gateSend s (kindOfFSet f) from rfl]
  by_cases hgs : gateSend s (kindOfFSet f) = true
  · rw [if_pos hgs]
    unfold arm
    by_cases hss : s.sessions = []
    · rw [if_pos (show (bumpVer s f e).sessions = [] from hss), if_neg (fun hc => hc.2 hss)]
      exact ⟨rfl, rfl, rfl⟩
    · rw [if_neg (show ¬(bumpVer s f e).sessions = [] from hss), if_pos ⟨hgs, hss⟩]
      exact ⟨rfl, rfl, rfl⟩
  · rw [if_neg hgs, if_neg (fun hc => hgs hc.1)]
    exact ⟨rfl, rfl, rfl⟩

theorem rel_fresh {s : Server} (hok : SrvOk s) (hs : s.sessions = []) (hl : s.listens = [])
    (hi : ∀ k, (s.ks k).inflight = []) (hook : Bool) {m' : MState} (hg : RelG s (fun _ => 0) m')
    (hslots : m'.slots = fun _ => {}) (hfans : m'.fans = fun _ => none) (seen : List Nat) :
    Rel seen { srv := s, hook := hook } m' := by
  refine { reach := hok, g := hg, sess := ?_, lis := ?_, owed := ?_, fan := ?_, cache := ?_, seen := ?_, gate := ?_ }
  · simp only []; rw [hs, hslots]
    exact ⟨fun i hi => by simp at hi, fun p hp => by simp at hp, fun i j hi => by simp at hi, fun _ => rfl,
      fun i hi => by simp at hi, fun i hi => by simp at hi, fun i hi => by simp at hi⟩
  · rw [hslots]
    exact ⟨fun l h => by simp only [] at h; rw [hl] at h; simp at h, fun i hi => by simp at hi, fun i hi => by simp at hi,
      fun i hi => by simp at hi, fun i hi => by simp at hi, fun _ _ => ⟨rfl, rfl, rfl⟩⟩
  · intro i k hk; rw [hslots] at hk; simp at hk
  · rw [hfans]
    exact ⟨fun k hk => absurd (hi k) hk, fun k fan hf => by simp at hf⟩
  · intro i hi; simp at hi
  · exact ⟨fun p hp => by simp only [] at hp; rw [hs] at hp; simp at hp,
      fun k x hx => by simp only [] at hx; rw [hi] at hx; simp at hx⟩
  · intro k hk; exact absurd (hi k) hk

theorem step_config (_ : Rel seen y m) (ca cb cc : Cap) (hk : Bool) (hint : Option Who) :
    StepOk seen y m (.config ca cb cc hk) hint := by
  show OkRes seen m _ (sysStep _ _ _)
  simp only [sysStep]
  refine ⟨rfl, ?_⟩
  show Rel seen _ (freshState ca cb cc)
  generalize hcap : (fun k => match k with | Kind.tools => ca | Kind.prompts => cb | Kind.resources => cc) = cap
  have c0 := change_eff (init cap) .resources .add (by simp)
  have c1 := change_eff (change (init cap) .resources .add) .resources .add (by simp)
  have w0 := step_writes (init cap) (.change .resources .add)
  have w1 := step_writes (change (init cap) .resources .add) (.change .resources .add)
  refine rel_fresh (s := change (change (init cap) .resources .add) .resources .add) ((srvOk_init cap).step (.change .resources .add) |>.step (.change .resources .add))
    ((w1.2 .sessions rfl).trans (w0.2 .sessions rfl)) ((w1.2 .listens rfl).trans (w0.2 .listens rfl))
    (fun k => (w1.2 .inflight rfl k).trans (w0.2 .inflight rfl k)) hk ⟨?_, ?_, ?_, rfl⟩ rfl rfl seen
  · exact hcap.trans (w1.1.trans w0.1).symm
  · simp only [freshState]; rw [c1.1]; simp only [bumpVer, c0.1]; funext f; cases f <;> simp [init]
  · simp only [freshState]; rw [c1.2.1]; simp only [bumpVer, c0.2.1]; funext f; cases f <;> simp [init]

theorem obj_eq_cache {key : Key} {f : FSet} : key.obj = f.cache ↔ key = .list f := by
  cases key with
  | list g => cases g <;> cases f <;> simp [Key.obj, FSet.cache]
  | read u => cases f <;> simp [Key.obj, FSet.cache]

theorem cacheRel_bump {cur cur' : Key → Nat} {d : DSlot} {md : MSlot} (o : CacheObj) (p : Nat → Bool)
    (h : CacheRel cur d md)
    (hcur : ∀ key : Key, cur' key = if key.obj = o ∧ p key.idx = true then cur key + 1 else cur key) :
    CacheRel cur' (if d.modern = true then d.setCache o (Cache.step true (d.caches o) (.bump p)).1 else d) md := by
  have hmono : ∀ key, cur key ≤ cur' key := by
    intro key; rw [hcur]; split <;> omega
  refine cacheRel_iff.2 fun o' => ?_
  have ho := h.obj o'
  by_cases hm : d.modern = true
  · rw [if_pos hm]
    show ObjRel cur' d.modern d.held md o' (if o' = o then _ else d.caches o')
    split
    · rename_i e; subst e
      refine ho.srv_move _ (fun _ => Cache.inv_step _ (.bump p) (ho.inv hm)) (fun _ key e => ?_) fun key _ => hmono key
      rw [hcur, ← (ho.key key e).srv hm]; simp only [e, true_and]
    · rename_i e
      refine ho.srv_move _ ho.inv (fun hm key e' => ?_) fun key _ => hmono key
      rw [hcur, if_neg (fun hx => e (e' ▸ hx.1))]; exact (ho.key key e').srv hm
  · rw [if_neg hm]
    exact ho.srv_move _ (fun hx => absurd hx hm) (fun hx => absurd hx hm) fun key _ => hmono key

theorem cacheAll_slots (y : State) (o : CacheObj) (l : Cache.Label) (i : Slot) :
    (y.cacheAll o l).slots i =
      if ((y.slots i).used && (y.slots i).modern) = true then (y.slots i).setCache o (Cache.step true ((y.slots i).caches o) l).1
      else y.slots i := rfl

theorem cacheAll_same (y : State) (o : CacheObj) (l : Cache.Label) (i : Slot) :
    DSame (y.slots i) ((y.cacheAll o l).slots i) := by
  rw [cacheAll_slots]; split
  · exact .setCache _ _ _
  · exact .refl _

theorem rel_change (h : Rel seen y m) (f : FSet) (e : Eff) (he : ¬(e = .noop ∨ (e = .remove ∧ y.srv.cnt f = 0)))
    (ow : Slot → List Kind)
    (how : ∀ i k, k ∈ ow i → k ∈ (m.slots i).owed ∨
      (k = kindOfFSet f ∧ (m.slots i).connected = true ∧ gateSend y.srv (kindOfFSet f) = true)) :
    Rel seen (({ y with srv := change y.srv f e } : State).cacheAll f.cache (.bump fun _ => true))
      { m with ver := bumpV m.ver f, cnt := bumpC m.cnt f e, slots := fun i => { (m.slots i) with owed := ow i } } := by
  obtain ⟨c2, c3, c9⟩ := change_eff y.srv f e he
  have w := step_writes y.srv (.change f e)
  have c1 : (change y.srv f e).cap = y.srv.cap := w.1
  have c8 : ∀ k, ((change y.srv f e).ks k).inflight = (y.srv.ks k).inflight := w.2 .inflight rfl
  have hcur : ∀ key : Key, curVersion (({ y with srv := change y.srv f e } : State).cacheAll f.cache (.bump fun _ => true)) key =
      if key.obj = f.cache ∧ (fun _ => true) key.idx = true then curVersion y key + 1 else curVersion y key := by
    intro key
    simp only [obj_eq_cache, and_true]
    cases key with
    | list g =>
      rw [curVersion_list, curVersion_list]
      show (change y.srv f e).ver g = _
      rw [c2]
      show (if g = f then _ else _) = _
      split
      · rename_i e1; rw [if_pos (e1 ▸ rfl), e1]
      · rename_i e1; rw [if_neg fun h => e1 (Key.list.inj h)]
    | read u => exact (if_neg nofun).symm
  refine h.rows (y' := ({ y with srv := change y.srv f e } : State).cacheAll f.cache (.bump fun _ => true))
    (h.srvOk.step (.change f e)) (w.2 .sessions rfl) (w.2 .listens rfl) (w.2 .acked rfl) ⟨?_, ?_, ?_, h.g.content⟩
    (fun j => (cacheAll_same _ _ _ j).toId) (fun i r => ?_) fun k => (h.kind k).frame (c8 k) rfl c1
  · show m.cap = (change y.srv f e).cap; rw [c1]; exact h.g.cap
  · show bumpV m.ver f = (change y.srv f e).ver
    rw [c2]; funext f'; simp only [bumpV, bumpVer, h.g.ver]; by_cases e1 : f' = f <;> simp [e1]
  · show bumpC m.cnt f e = (change y.srv f e).cnt
    rw [c3]; funext f'; simp only [bumpC, bumpVer, h.g.cnt]
    by_cases e1 : f' = f
    · simp [e1]; cases e <;> rfl
    · simp [e1]
  refine r.move (.of_eq (w.2 .sessions rfl) (w.2 .listens rfl) (w.2 .rlive rfl) _)
    (cacheAll_same _ _ _ i) ⟨rfl, rfl, rfl, rfl⟩ (fun hu k hk => ?_) (fun hu k hk => ?_) fun hu hc => ?_
  · exact (how i k hk).resolve_right fun ⟨_, h1, _⟩ => by rw [h.sess.conn i, hu] at h1; cases h1
  · show Backed (change y.srv f e) _ k
    simp only [Backed, c8, c9]
    rcases how i k hk with hk0 | ⟨hkk, _, hg⟩
    · refine ((h.row i hu).owed k hk0).imp_left fun h2 => ?_
      split
      · exact List.mem_append_left _ h2
      · exact h2
    · have hmem := h.sess.used_sess i hu
      left
      rw [if_pos ⟨hg, List.ne_nil_of_mem hmem⟩, hkk]
      exact List.mem_append_right _ (List.mem_map.2 ⟨_, hmem, rfl⟩)
  · have := cacheRel_bump f.cache (fun _ => true) hc hcur
    rw [cacheAll_slots]
    simp only [show (y.slots i).used = true from hu, Bool.true_and]
    exact this.congr rfl rfl rfl rfl rfl rfl

theorem step_change (h : Rel seen y m) (f : FSet) (e : Eff) (hint : Option Who) : StepOk seen y m (.change f e) hint := by
  show OkRes seen m _ (sysStep _ _ _)
  simp only [sysStep]
  refine ⟨rfl, ?_⟩
  show Rel seen _ (monChange m f e)
  simp only [monChange, congrFun h.g.cnt f]
  cases heb : (e == .noop || (e == .remove && y.srv.cnt f == 0))
  · have he : ¬(e = .noop ∨ (e = .remove ∧ y.srv.cnt f = 0)) := by simpa using heb
    simp only [Bool.not_false, Bool.false_eq_true, if_true, if_false]
    by_cases hoff : (m.cap (kindOfFSet f) == .off) = true
    · rw [if_pos hoff]
      exact (rel_change h f e he (fun i => (m.slots i).owed) (fun _ _ hk => Or.inl hk)).msame
        (fun _ => .refl _) rfl rfl rfl rfl rfl
    · rw [if_neg hoff]
      have hg : gateSend y.srv (kindOfFSet f) = true := by
        rw [gateSend_cap, ← h.g.cap]
        simpa using hoff
      refine (rel_change h f e he _ (fun i k hk => ?_)).msame (fun i => (Sound.keepsAll_changeSlot _ _ _ (m.slots i)).msame) rfl rfl rfl rfl rfl
      split at hk
      · rename_i hc
        simp only [Bool.and_eq_true] at hc
        exact (List.mem_append.1 hk).imp_right (fun hk0 => ⟨by simpa using hk0, hc.1, hg⟩)
      · exact Or.inl hk
  · have hsrv : change y.srv f e = y.srv := by
      simp only [change, (by simpa using heb : e = .noop ∨ (e = .remove ∧ y.srv.cnt f = 0)), if_true]
    simp only [Bool.not_true, Bool.false_eq_true, if_false, if_true, hsrv]
    exact h

theorem sameAll_fireDue (s : Server) : SameAll s (fireDue s).1 :=
  fireDue_ind (SameAll s) (fun _ k h => h.trans ((step_writes _ (.fireTracked k)).sameAll rfl))
    (fun _ k i h => h.trans ((step_writes _ (.fireOrphan k i)).sameAll rfl))
    (SameAll.refl s)

/-- slots that differ at most in the clocks and the `cs.resourceSubs` copies (`now`, `subs`) of their caches -/
def TickRel (d d' : DSlot) : Prop :=
  DSame d d' ∧ ∀ o, ∃ n subs, d'.caches o = { d.caches o with now := n, subs := subs }

theorem TickRel.refl (d : DSlot) : TickRel d d := ⟨DSame.refl d, fun _ => ⟨_, _, rfl⟩⟩

theorem TickRel.trans {a b c : DSlot} (h1 : TickRel a b) (h2 : TickRel b c) : TickRel a c := by
  refine ⟨h1.1.trans h2.1, fun o => ?_⟩
  obtain ⟨n1, s1, e1⟩ := h1.2 o
  obtain ⟨n2, s2, e2⟩ := h2.2 o
  exact ⟨n2, s2, by rw [e2, e1]⟩

theorem tickRel_cacheAll (y : State) (o : CacheObj) (dt : Nat) (i : Slot) :
    TickRel (y.slots i) ((y.cacheAll o (.tick dt)).slots i) := by
  refine ⟨cacheAll_same y o _ i, fun o' => ?_⟩
  rw [cacheAll_slots]
  split
  · rw [setCache_caches]
    split
    · rename_i e; subst e; exact ⟨_, _, rfl⟩
    · exact ⟨_, _, rfl⟩
  · exact ⟨_, _, rfl⟩

theorem tickAll_spec (y : State) (dt : Nat) : (y.tickAll dt).srv = y.srv ∧ (y.tickAll dt).content = y.content ∧
    ∀ i, TickRel (y.slots i) ((y.tickAll dt).slots i) :=
  List.foldlRecOn (motive := fun y' : State => y'.srv = y.srv ∧ y'.content = y.content ∧ ∀ i, TickRel (y.slots i) (y'.slots i))
    _ _ ⟨rfl, rfl, fun _ => .refl _⟩ fun y' h o _ => ⟨h.1, h.2.1, fun i => (h.2.2 i).trans (tickRel_cacheAll y' o dt i)⟩

theorem step_advance (h : Rel seen y m) (d : Nat) (hint : Option Who) : StepOk seen y m (.advance d) hint := by
  show OkRes seen m _ (sysStep _ _ _)
  simp only [sysStep]
  obtain ⟨y1, hy1⟩ : ∃ y1, y1 = ({ y with srv := { y.srv with now := y.srv.now + d } } : State).tickAll d := ⟨_, rfl⟩
  obtain ⟨hs1, hs2, hT⟩ := tickAll_spec ({ y with srv := { y.srv with now := y.srv.now + d } } : State) d
  rw [← hy1] at hs1 hs2 hT
  obtain ⟨fd, hfd⟩ : ∃ fd, fd = fireDue y1.srv := ⟨_, rfl⟩
  have hall : SameAll y.srv fd.1 := by
    have h0 : SameAll y.srv y1.srv := by
      rw [hs1]; exact ⟨⟨rfl, rfl, rfl, rfl, rfl, fun _ => rfl⟩, rfl, rfl, rfl⟩
    rw [hfd]
    exact h0.trans (sameAll_fireDue _)
  have hok : SrvOk fd.1 := by
    rw [hfd]
    apply srvOk_fireDue
    rw [hs1]
    exact h.srvOk.step (.tick d)
  have key : Rel seen { y1 with srv := fd.1 } m :=
    h.sameAll (y' := { y1 with srv := fd.1 }) hok hall rfl rfl rfl (h.g.content.trans hs2.symm) rfl (fun i => (hT i).1)
      (fun _ => ⟨rfl, rfl, rfl, rfl⟩) (fun _ => rfl) fun j _ hcr => by
        rw [curVersion_congr (y' := { y1 with srv := fd.1 }) (y := y) hall.rest.ver hs2]
        exact hcr.of_caches (hT j).1.modern (hT j).1.held (hT j).2
  rw [← hy1, ← hfd]
  exact .ite (fun _ => ⟨rfl, key⟩) fun _ => ⟨rfl, key⟩

end Notify.Bridge
