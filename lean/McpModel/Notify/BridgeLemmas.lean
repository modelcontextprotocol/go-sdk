import McpModel.Notify.BridgeSrv
import McpModel.Notify.SoundStep
import McpModel.Base.Logic
/-!
# Bridge: facts about lists; what the component relations read of the slots
-/
namespace Notify.Bridge
open Notify Notify.Mon Notify.Sys Generated.Notify

theorem not_mem_eraseIdx_of_nodup {α} {b : α} (l : List α) (i : Nat) (hnd : l.Nodup) (hi : l[i]? = some b) :
    b ∉ l.eraseIdx i := by
  intro hb
  obtain ⟨j, hji, hj⟩ := List.mem_eraseIdx_iff_getElem?.1 hb
  obtain ⟨hlt, _⟩ := List.getElem?_eq_some_iff.1 hj
  exact hji ((List.getElem?_inj hlt hnd).1 (hj.trans hi.symm))

theorem findIdx_getD_lt {α} (l : List α) (p : α → Bool) (hne : l ≠ []) : (l.findIdx? p).getD 0 < l.length := by
  cases hf : l.findIdx? p with
  | none => simp only [Option.getD_none]; exact List.length_pos_iff.2 hne
  | some j =>
    simp only [Option.getD_some]
    rw [List.findIdx?_eq_some_iff_getElem] at hf
    exact hf.1

theorem nodup_of_map {α β} (f : α → β) (l : List α) (h : (l.map f).Nodup) : l.Nodup :=
  List.Pairwise.of_map f (fun _ _ hab e => hab (e ▸ rfl)) h

theorem filter_length_le_one {α} (l : List α) (p : α → Bool) (hnd : l.Nodup)
    (h : ∀ a ∈ l, ∀ b ∈ l, p a = true → p b = true → a = b) : (l.filter p).length ≤ 1 := by
  induction l with
  | nil => simp
  | cons a t ih =>
    simp only [List.nodup_cons] at hnd
    simp only [List.filter_cons]
    split
    · rename_i ha
      have : t.filter p = [] := by
        rw [List.filter_eq_nil_iff]
        intro b hb hpb
        have := h a List.mem_cons_self b (List.mem_cons_of_mem _ hb) ha hpb
        rw [this] at hnd
        exact hnd.1 hb
      simp [this]
    · exact ih hnd.2 (fun x hx z hz => h x (List.mem_cons_of_mem _ hx) z (List.mem_cons_of_mem _ hz))

theorem filter_eq_nil_of {α} (l : List α) (p : α → Bool) (h : ∀ a ∈ l, p a = false) : l.filter p = [] := by
  rw [List.filter_eq_nil_iff]
  intro a ha; rw [h a ha]; simp

theorem any_iff_filter_pos {α} (l : List α) (p : α → Bool) : l.any p = true ↔ 0 < (l.filter p).length := by
  rw [List.any_eq_true, List.length_pos_iff_exists_mem]
  constructor
  · rintro ⟨a, ha, hp⟩; exact ⟨a, List.mem_filter.2 ⟨ha, hp⟩⟩
  · rintro ⟨a, ha⟩; exact ⟨a, (List.mem_filter.1 ha).1, (List.mem_filter.1 ha).2⟩

theorem findIdx_spec {α} (l : List α) (p : α → Bool) (idx : Nat) (h : l.findIdx? p = some idx) :
    ∃ f, l[idx]? = some f ∧ p f = true := by
  rw [List.findIdx?_eq_some_iff_getElem] at h
  obtain ⟨hlt, hp, _⟩ := h
  exact ⟨l[idx], List.getElem?_eq_getElem hlt, hp⟩

theorem getElem?_append_length {α} (l : List α) (a : α) : (l ++ [a])[l.length]? = some a :=
  List.getElem?_concat_length

theorem lookup_append_single_ne {β} (l : List (Nat × β)) (k a : Nat) (e : β) (hne : a ≠ k) (h : l.lookup a = none) :
    (l ++ [(k, e)]).lookup a = none := by
  rw [List.lookup_eq_none_iff] at h ⊢
  intro p hp
  rcases List.mem_append.1 hp with hp | hp
  · exact h p hp
  · rw [List.mem_singleton.1 hp]; simpa using hne

theorem lookup_filter_of_lookup_none {β} (l : List (Nat × β)) (f : Nat × β → Bool) (k : Nat) (h : l.lookup k = none) :
    (l.filter f).lookup k = none := by
  rw [List.lookup_eq_none_iff] at h ⊢
  exact fun p hp => h p (List.mem_filter.1 hp).1

theorem lookup_filter_of_excluded {β} (l : List (Nat × β)) (q : Nat → Bool) (k : Nat) (hq : q k = false) :
    (l.filter (fun p => q p.1)).lookup k = none := by
  rw [List.lookup_eq_none_iff]
  intro p hp
  have := (List.mem_filter.1 hp).2
  simp only [bne_iff_ne]
  intro e; rw [← e, hq] at this; cases this

theorem find?_filter_ne {α} (l : List (Slot × α)) (i j : Slot) (hji : j ≠ i) :
    (l.filter (fun p => p.1 != i)).find? (fun p => p.1 == j) = l.find? (fun p => p.1 == j) := by
  rw [List.find?_filter]
  congr 1
  funext a
  by_cases e : a.1 = j <;> simp [e, hji]

theorem find?_filterMap_key {β : Type} (f : Slot → Option (Slot × β)) (hf : ∀ j p, f j = some p → p.1 = j) (i : Slot) :
    ∀ (l : List Slot), l.Nodup → (l.filterMap f).find? (fun p => p.1 == i) = if i ∈ l then f i else none := by
  intro l
  induction l with
  | nil => intro _; simp
  | cons a t ih =>
    intro hnd
    simp only [List.nodup_cons] at hnd
    simp only [List.filterMap_cons]
    cases hfa : f a with
    | none =>
      simp only []
      rw [ih hnd.2]
      by_cases e : i = a
      · subst e; simp [hnd.1, hfa]
      · simp [e]
    | some p =>
      simp only [List.find?_cons]
      have hp := hf a p hfa
      by_cases e : i = a
      · subst e; simp [hp, hfa]
      · have : (p.1 == i) = false := by rw [hp]; simp; exact fun e2 => e e2.symm
        simp only [this]
        rw [ih hnd.2]
        simp [e]

theorem Slot.all_nodup : Slot.all.Nodup := by decide

theorem _root_.Notify.Mon.first_eq_none (l : List (Option Clause)) : first l = none ↔ ∀ c ∈ l, c = none := by
  simp only [first]
  rw [List.findSome?_eq_none_iff]
  constructor
  · intro h c hc; exact h c hc
  · intro h c hc; exact h c hc

/-- the model's slots `d` and `d'` differ at most in `mask`, `parked` and their caches -/
structure DSame (d d' : DSlot) : Prop where
  used : d'.used = d.used
  sid : d'.sid = d.sid
  modern : d'.modern = d.modern
  connected : d'.connected = d.connected
  gated : d'.gated = d.gated
  rsubs : d'.rsubs = d.rsubs
  cancelHeld : d'.cancelHeld = d.cancelHeld
  held : d'.held = d.held

/-- the part of `DSame` that sessions, debts and fan-outs read: the slot is the same session's, of the same generation -/
structure DSameId (d d' : DSlot) : Prop where
  used : d'.used = d.used
  sid : d'.sid = d.sid
  modern : d'.modern = d.modern

theorem DSame.toId {d d' : DSlot} (h : DSame d d') : DSameId d d' := ⟨h.used, h.sid, h.modern⟩

theorem DSame.refl (d : DSlot) : DSame d d := ⟨rfl, rfl, rfl, rfl, rfl, rfl, rfl, rfl⟩

theorem DSame.setCache (d : DSlot) (o : CacheObj) (c : Cache.State) : DSame d (d.setCache o c) :=
  ⟨rfl, rfl, rfl, rfl, rfl, rfl, rfl, rfl⟩

theorem DSame.trans {a b c : DSlot} (h1 : DSame a b) (h2 : DSame b c) : DSame a c :=
  ⟨h2.used.trans h1.used, h2.sid.trans h1.sid, h2.modern.trans h1.modern, h2.connected.trans h1.connected,
   h2.gated.trans h1.gated, h2.rsubs.trans h1.rsubs, h2.cancelHeld.trans h1.cancelHeld, h2.held.trans h1.held⟩

/-- the fields of a monitor slot the relation reads; the others (ended listens, windows, skipped callbacks,
`cs.resourceSubs`, refused URIs) only select the clause it reports -/
structure MSame (d d' : MSlot) : Prop where
  connected : d'.connected = d.connected
  modern : d'.modern = d.modern
  listens : d'.listens = d.listens
  luris : d'.luris = d.luris
  owed : d'.owed = d.owed
  maxHandled : d'.maxHandled = d.maxHandled
  invalidated : d'.invalidated = d.invalidated
  starts : d'.starts = d.starts

theorem MSame.refl (d : MSlot) : MSame d d := ⟨rfl, rfl, rfl, rfl, rfl, rfl, rfl, rfl⟩

theorem MSame.trans {a b c : MSlot} (h1 : MSame a b) (h2 : MSame b c) : MSame a c :=
  ⟨h2.connected.trans h1.connected, h2.modern.trans h1.modern, h2.listens.trans h1.listens, h2.luris.trans h1.luris,
   h2.owed.trans h1.owed, h2.maxHandled.trans h1.maxHandled, h2.invalidated.trans h1.invalidated,
   h2.starts.trans h1.starts⟩

theorem _root_.Notify.Sound.KeepsAll.msame {d d' : MSlot} (h : Sound.KeepsAll d d') : MSame d d' := by
  have p := h.proj
  simp only [Sound.proj, Sound.TSlot.mk.injEq] at p
  exact ⟨p.1, p.2.1, p.2.2.1, p.2.2.2.1, h.owed, h.maxHandled, h.invalidated, h.starts⟩

theorem FanOk.congr {infl : List Send} {slots slots' : Slot → DSlot} {fan : MFan} (h : FanOk infl slots fan)
    (e : ∀ i, DSameId (slots i) (slots' i)) : FanOk infl slots' fan := by
  refine ⟨h.nodup, ?_⟩
  intro x hx i hu hs
  rw [(e i).used] at hu; rw [(e i).sid] at hs; rw [(e i).modern]
  exact h.exp x hx i hu hs

theorem RelFan.congr {infl : Kind → List Send} {slots slots' : Slot → DSlot} {fans : Kind → Option MFan}
    (h : RelFan infl slots fans) (e : ∀ i, DSameId (slots i) (slots' i)) : RelFan infl slots' fans :=
  ⟨h.some_of, fun k fan hf => (h.ok k fan hf).congr e⟩

/-- `h.congr rfl rfl rfl rfl rfl rfl` retypes a `CacheRel` after a record update that touched none of the fields it reads -/
theorem CacheRel.congr {cur : Key → Nat} {d d' : DSlot} {md md' : MSlot} (h : CacheRel cur d md)
    (e1 : d'.modern = d.modern) (e2 : d'.caches = d.caches) (e3 : d'.held = d.held)
    (m1 : md'.maxHandled = md.maxHandled) (m2 : md'.invalidated = md.invalidated) (m3 : md'.starts = md.starts) :
    CacheRel cur d' md' := by
  constructor
  · rw [e1, e2]; exact h.inv
  · rw [e1, e2]; exact h.srv
  · rw [e1, e2, m1]; exact h.handled
  · rw [e1, e2, m2]; exact h.inval
  · rw [e1, e2]; exact h.inbox
  · rw [e2, e3]; exact h.held_fill
  · rw [e2]; exact h.fill_uniq
  · rw [e1, e2, m3]; exact h.starts
  · rw [m1]; exact h.maxH_le
  · rw [e1, e2, m3]; exact h.leg_fill

theorem CacheRel.of_legacy {cur : Key → Nat} {d : DSlot} {md : MSlot} (hm : d.modern = false)
    (h1 : ∀ key : Key, key ∈ d.held ↔ ∃ f ∈ (d.caches key.obj).fills, f.key = key.idx)
    (h2 : ∀ o, ((d.caches o).fills.map (·.key)).Nodup) (h3 : ∀ key : Key, md.maxHandled key ≤ cur key)
    (h4 : ∀ key : Key, ∀ f ∈ (d.caches key.obj).fills, f.key = key.idx →
      md.starts key ≤ cur key ∧ ∀ v ttl, f.stage = .responded v ttl → md.starts key ≤ v) : CacheRel cur d md :=
  have no : ∀ {P : Prop}, d.modern = true → P := fun hx => absurd (hm.symm.trans hx) (by simp)
  ⟨no, no, no, no, no, h1, h2, no, h3, fun _ => h4⟩

theorem CacheRel.msame {cur : Key → Nat} {d : DSlot} {md md' : MSlot} (h : CacheRel cur d md) (e : MSame md md') :
    CacheRel cur d md' :=
  h.congr rfl rfl rfl e.maxHandled e.invalidated e.starts

theorem RelSess.gen_of {ss : List (Nat × Gen)} {slots : Slot → DSlot} {ms : Slot → MSlot} (h : RelSess ss slots ms)
    (hnd : (ss.map Prod.fst).Nodup) {i : Slot} (hu : (slots i).used = true) {g : Gen}
    (hg : ((slots i).sid, g) ∈ ss) : g = genB (slots i).modern :=
  gen_unique hnd hg (h.used_sess i hu)

theorem RelSess.slot_of {ss : List (Nat × Gen)} {slots : Slot → DSlot} {ms : Slot → MSlot} (h : RelSess ss slots ms)
    (hnd : (ss.map Prod.fst).Nodup) {sid : Nat} {g : Gen} (hg : (sid, g) ∈ ss) :
    ∃ i, (slots i).used = true ∧ (slots i).sid = sid ∧ g = genB (slots i).modern := by
  obtain ⟨i, hu, hs⟩ := h.sess_used _ hg
  simp only [] at hs
  refine ⟨i, hu, hs, ?_⟩
  subst hs
  exact h.gen_of hnd hu hg

theorem RelSess.slot_of_sid {ss : List (Nat × Gen)} {slots : Slot → DSlot} {ms : Slot → MSlot} (h : RelSess ss slots ms)
    {sid : Nat} (hs : sid ∈ ss.map Prod.fst) : ∃ i, (slots i).used = true ∧ (slots i).sid = sid := by
  obtain ⟨p, hp, e⟩ := List.mem_map.1 hs
  obtain ⟨i, hu, hsi⟩ := h.sess_used p hp
  exact ⟨i, hu, hsi.trans e⟩

theorem genB_ne_modern {b : Bool} : genB b ≠ Gen.modern ↔ b = false := by
  cases b <;> simp [genB]

theorem genB_eq_modern {b : Bool} : genB b = Gen.modern ↔ b = true := by
  cases b <;> simp [genB]

theorem genB_eq_legacy {b : Bool} : genB b = Gen.legacy ↔ b = false := by
  cases b <;> simp [genB]

theorem ridOf_inj {u v : Nat} (h : ridOf u = ridOf v) : u = v := by
  simp only [ridOf] at h; omega

end Notify.Bridge
