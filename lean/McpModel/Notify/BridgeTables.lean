import McpModel.Notify.BridgeFan
import McpModel.Notify.BridgeStep
/-!
# Bridge: `tables` and `fin` (table dumps and the end of a case)

The dump lists the model's subscription tables; what the monitor checks of it — every acknowledged grant of a live
listen is listed under the id of a live listen that was granted the same (`granted_listed`), and nothing else is
(`listed_granted`) — is `InvS` read through the relation.  `fin` is accepted because the model is quiet: no debt is
backed any more, so the monitor holds none.
-/
namespace Notify.Bridge
open Notify Notify.Mon Notify.Sys Generated.Notify
variable {seen : List Nat} {y : State} {m : MState}

theorem whoOfSid_slot (h : Rel seen y m) (i : Slot) (hu : (y.slots i).used = true) : whoOfSid y (y.slots i).sid = .slot i := by
  simp only [whoOfSid, slotOfSid_some h.sess.sid_inj hu rfl]

theorem whoOfSid_eq_slot {sid : Nat} {i : Slot} (hw : whoOfSid y sid = .slot i) : (y.slots i).used = true ∧ (y.slots i).sid = sid := by
  simp only [whoOfSid] at hw
  cases hs : slotOfSid y sid with
  | none => rw [hs] at hw; simp at hw
  | some j =>
    rw [hs] at hw
    simp only [Who.slot.injEq] at hw
    subst hw
    exact slotOfSid_spec hs

theorem who_ok (h : Rel seen y m) {sid : Nat} (hs : sid ∈ y.srv.sessions.map Prod.fst) : whoBad m (whoOfSid y sid) = false := by
  obtain ⟨i, hu, this⟩ := h.sess.slot_of_sid hs
  rw [← this, whoOfSid_slot h i hu]
  simp only [whoBad, h.sess.conn i, hu]
  rfl

theorem tagOf_modern (h : Rel seen y m) (i : Slot) (hu : (y.slots i).used = true) (id : Nat) :
    tagOf y (y.slots i).sid id = if (y.slots i).modern then .id id else .q := by
  have hS := h.srvOk.invS
  have := genOf_of_mem hS.sess_nodup (h.sess.used_sess i hu)
  simp only [tagOf, this]
  cases (y.slots i).modern <;> simp [genB]

def tableOf (y : State) : What → List (Nat × Nat)
  | .kind k => (y.srv.ks k).subs
  | .uri u => (y.srv.rsubs.filter (fun r => r.1 == u)).map (fun r => (r.2.1, r.2.2))

def grants : What → Listen → Bool
  | .kind k => grantsK k
  | .uri u => grantsU u

def mgrants : What → MListen → Bool
  | .kind k => (·.kinds.contains k)
  | .uri u => (·.uris.contains u)

theorem tablesOf_uri (y : State) (u : Nat) (hu : u < 3) : (tablesOf y).uri u = dumpTable y (tableOf y (.uri u)) := by
  match u, hu with
  | 0, _ => rfl
  | 1, _ => rfl
  | 2, _ => rfl

theorem hasEntry_dump (h : Rel seen y m) (i : Slot) (hu : (y.slots i).used = true) (l : List (Nat × Nat)) (id : Nat)
    (hm : ((y.slots i).sid, id) ∈ l) :
    hasEntry (dumpTable y l) i (if (y.slots i).modern then .id id else .q) = true := by
  simp only [hasEntry, dumpTable, List.any_eq_true, List.mem_map]
  refine ⟨_, ⟨_, hm, rfl⟩, ?_⟩
  simp only [whoOfSid_slot h i hu, tagOf_modern h i hu]
  simp

theorem tableOf_sess (h : Rel seen y m) (w : What) (p : Nat × Nat) (hp : p ∈ tableOf y w) :
    p.1 ∈ y.srv.sessions.map Prod.fst := by
  have hS := h.srvOk.invS
  cases w with
  | kind k =>
    obtain ⟨l, hl, e1, _, _⟩ := hS.subs_listen k p hp
    exact List.mem_map.2 ⟨_, e1 ▸ hS.listen_modern l hl, rfl⟩
  | uri u =>
    obtain ⟨r, hr, rfl⟩ := List.mem_map.1 hp
    rcases hS.rsubs_owner r (List.mem_filter.1 hr).1 with hg | ⟨hg, _⟩ <;> exact List.mem_map.2 ⟨_, hg, rfl⟩

theorem dump_ok (h : Rel seen y m) (w : What) : (dumpTable y (tableOf y w)).any (fun e => whoBad m e.who) = false := by
  rw [List.any_eq_false]
  intro e he
  obtain ⟨p, hp, rfl⟩ := List.mem_map.1 he
  rw [Bool.not_eq_true]
  exact who_ok h (tableOf_sess h w p hp)

theorem tbBad_false (h : Rel seen y m) : tbBad m (tablesOf y) = false := by
  simp only [tbBad, Bool.or_eq_false_iff]
  refine ⟨⟨?_, ?_⟩, ?_⟩
  · exact List.any_eq_false.2 fun k _ => by rw [Bool.not_eq_true]; exact dump_ok h (.kind k)
  · rw [List.any_eq_false]
    intro p hp
    simp only [tablesOf, List.mem_map] at hp
    obtain ⟨u, _, rfl⟩ := hp
    rw [Bool.not_eq_true]
    exact dump_ok h (.uri u)
  · rw [List.any_eq_false]
    intro e he
    obtain ⟨p, hp, rfl⟩ := List.mem_map.1 he
    rw [Bool.not_eq_true]
    exact who_ok h (List.mem_map.2 ⟨p, hp, rfl⟩)

theorem mgrants_toM (w : What) (l : Listen) : mgrants w (toM l) = true ↔ grants w l = true := by
  cases w with
  | kind k => simpa [mgrants, grants, toM] using (grantsK_iff k l).symm
  | uri u => simpa [mgrants, grants, toM] using (grantsU_iff u l).symm

theorem tableOf_modern (hS : InvS y.srv) {sid : Nat} (hm : (sid, Gen.modern) ∈ y.srv.sessions) (w : What) (id : Nat) :
    (sid, id) ∈ tableOf y w ↔ heir y.srv.listens sid (grants w) = some id := by
  cases w with
  | kind k => exact hS.subs_iff k sid id
  | uri u =>
    rw [grants, ← rsubs_modern_iff hS hm u id]
    simp [tableOf]

theorem slot_modern (h : Rel seen y m) (i : Slot) (hu : (y.slots i).used = true) (hmod : (y.slots i).modern = true) :
    ((y.slots i).sid, Gen.modern) ∈ y.srv.sessions := by
  have := h.sess.used_sess i hu
  rwa [hmod] at this

/-- acked_stays_served for a 2026-07-28 session: a grant of a live listen is in the dumped table, under the id of a live
listen that was granted the same. -/
theorem granted_listed (h : Rel seen y m) (i : Slot) (hu : (y.slots i).used = true) (hmod : (y.slots i).modern = true)
    (w : What) (hg : (m.slots i).listens.any (mgrants w) = true) :
    (m.slots i).listens.any (fun l => mgrants w l && hasEntry (dumpTable y (tableOf y w)) i (.id l.id)) = true := by
  have hS := h.srvOk.invS
  obtain ⟨l, hl, e1, hk⟩ := (listens_any_iff h i hu _).1 hg
  obtain ⟨hh, hheir⟩ := heir_of_mem (g := grants w) hl e1 ((mgrants_toM w l).1 hk)
  obtain ⟨l', hl', f1, f2, f3⟩ := heir_mem hheir
  refine (listens_any_iff h i hu _).2 ⟨l', hl', f1, ?_⟩
  have := hasEntry_dump h i hu _ hh ((tableOf_modern hS (slot_modern h i hu hmod) w hh).2 hheir)
  rw [hmod] at this
  simp only [Bool.and_eq_true]
  exact ⟨(mgrants_toM w l').2 f3, by show hasEntry _ i (.id l'.id) = true; rw [f2]; exact this⟩

theorem listed_granted (h : Rel seen y m) (i : Slot) (hu : (y.slots i).used = true) (hmod : (y.slots i).modern = true)
    (w : What) : (dumpTable y (tableOf y w)).any (fun e =>
      e.who == .slot i && !(m.slots i).listens.any (fun l => mgrants w l && e.tag == .id l.id)) = false := by
  have hS := h.srvOk.invS
  rw [List.any_eq_false]
  intro e he
  simp only [dumpTable, List.mem_map] at he
  obtain ⟨p, hp, rfl⟩ := he
  simp only [Bool.not_eq_true, Bool.and_eq_false_iff, Bool.not_eq_false']
  by_cases hw : whoOfSid y p.1 = .slot i
  · right
    obtain ⟨_, hsid⟩ := whoOfSid_eq_slot hw
    have hmods := slot_modern h i hu hmod
    rw [hsid] at hmods
    obtain ⟨l, hl, e1, e2, e3⟩ := heir_mem ((tableOf_modern hS hmods w p.2).1 hp)
    refine (listens_any_iff h i hu _).2 ⟨l, hl, e1.trans hsid.symm, ?_⟩
    have : tagOf y p.1 p.2 = .id p.2 := by rw [← hsid, tagOf_modern h i hu, hmod]; rfl
    rw [this, (mgrants_toM w l).2 e3]
    simp [toM, e2]
  · left; simpa using hw

theorem kindMiss_nil (h : Rel seen y m) (i : Slot) (hu : (y.slots i).used = true) :
    kindMiss (m.slots i) (tablesOf y) i = [] := by
  simp only [kindMiss]
  split
  · rfl
  · rename_i hmod
    have hmod : (y.slots i).modern = true := by rw [← h.sess.modern i hu]; simpa using hmod
    apply filter_eq_nil_of
    intro k _
    cases hg : (m.slots i).grantedK k
    · rfl
    · simp only [Bool.true_and, Bool.not_eq_false']
      exact granted_listed h i hu hmod (.kind k) hg

theorem uriMiss_nil (h : Rel seen y m) (i : Slot) (hu : (y.slots i).used = true) :
    uriMiss (m.slots i) (tablesOf y) i = [] := by
  have hS := h.srvOk.invS
  simp only [uriMiss]
  apply filter_eq_nil_of
  intro u hu3
  have hu3 : u < 3 := by simpa using hu3
  rw [tablesOf_uri y u hu3]
  cases hg : (m.slots i).grantedU u
  · rfl
  · simp only [Bool.true_and, h.sess.modern i hu]
    cases hmod : (y.slots i).modern with
    | true =>
      simp only [if_true, Bool.not_eq_false']
      refine granted_listed h i hu hmod (.uri u) ?_
      simpa [MSlot.grantedU, h.sess.modern i hu, hmod, mgrants] using hg
    | false =>
      -- a legacy session: its entry stands under no id, and is there as long as the subscription is live
      simp only [Bool.false_eq_true, if_false, Bool.not_eq_false']
      have hgen := h.sess.used_sess i hu
      rw [hmod] at hgen
      have hrl : ((y.slots i).sid, u) ∈ y.srv.rlive := ((grantedU_iff h i hu u).1 hg).resolve_right fun ⟨l, hl, e1, _⟩ =>
        absurd (gen_unique hS.sess_nodup (e1 ▸ hS.listen_modern l hl) hgen) (by simp [genB])
      obtain ⟨_, id, hid⟩ := (hS.rlive_iff _ _).1 hrl
      have := hasEntry_dump h i hu (tableOf y (.uri u)) id
        (List.mem_map.2 ⟨_, List.mem_filter.2 ⟨hid, by simp⟩, rfl⟩)
      rw [hmod] at this
      exact this

theorem tbMissing_none (h : Rel seen y m) (i : Slot) : tbMissing m (tablesOf y) i = none := by
  simp only [tbMissing]
  split
  · rfl
  · rename_i hc
    have hu : (y.slots i).used = true := by
      rw [← h.sess.conn i]; simpa using hc
    rw [kindMiss_nil h i hu, uriMiss_nil h i hu]
    simp [first]

theorem tbForeign_none (h : Rel seen y m) (i : Slot) : tbForeign m (tablesOf y) i = none := by
  simp only [tbForeign]
  split
  · rfl
  · rename_i hc
    simp only [Bool.or_eq_true, not_or, Bool.not_eq_true', Bool.not_eq_false] at hc
    have hu : (y.slots i).used = true := by rw [← h.sess.conn i]; simpa using hc.1
    have hmod : (y.slots i).modern = true := by rw [← h.sess.modern i hu]; simpa using hc.2
    have hbadK : Kind.all.any (fun k => ((tablesOf y).kind k).any (fun e =>
        e.who == .slot i && !(m.slots i).listens.any (fun l => l.kinds.contains k && e.tag == .id l.id))) = false :=
      List.any_eq_false.2 fun k _ => by rw [Bool.not_eq_true]; exact listed_granted h i hu hmod (.kind k)
    have hbadU : (List.range 3).filter (fun u => ((tablesOf y).uri u).any (fun e =>
        e.who == .slot i && !(m.slots i).listens.any (fun l => l.uris.contains u && e.tag == .id l.id))) = [] :=
      filter_eq_nil_of _ _ fun u hu3 => by
        rw [tablesOf_uri y u (by simpa using hu3)]; exact listed_granted h i hu hmod (.uri u)
    rw [hbadK, hbadU]
    simp

theorem step_tables (h : Rel seen y m) (hint : Option Who) : StepOk seen y m .tables hint := by
  unfold StepOk
  simp only [sysStep]
  refine ⟨?_, ?_⟩
  · show tbCheck m (tablesOf y) = none
    simp only [tbCheck]
    rw [first_eq_none]
    intro c hc
    rcases List.mem_cons.1 hc with hc | hc
    · rw [hc, tbBad_false h]; rfl
    · rcases List.mem_append.1 hc with hc | hc
      · obtain ⟨i, _, rfl⟩ := List.mem_map.1 hc
        exact tbMissing_none h i
      · obtain ⟨i, _, rfl⟩ := List.mem_map.1 hc
        exact tbForeign_none h i
  · exact h.msame (fun i => (Sound.keepsAll_tbNext m (tablesOf y) i).msame) rfl rfl rfl rfl rfl

theorem step_fin (h : Rel seen y m) (hint : Option Who) (hok : okOp seen y .fin) : StepOk seen y m .fin hint := by
  unfold StepOk
  simp only [sysStep]
  refine ⟨?_, h⟩
  show endCheck m = none
  simp only [okOp, quietB, List.all_eq_true] at hok
  have hT := h.srvOk.invT
  have hquiet : ∀ k, ¬ active (y.srv.ks k) ∧ (y.srv.ks k).inflight = [] := by
    intro k
    have := hok k (Kind.mem_all k)
    simp only [Bool.and_eq_true, List.isEmpty_iff, beq_iff_eq] at this
    obtain ⟨⟨⟨h1, h2⟩, h3⟩, h4⟩ := this
    refine ⟨?_, h4⟩
    rintro (⟨d, hd⟩ | hh | hh)
    · rw [hd] at h1; simp at h1
    · exact hh h2
    · omega
  have hnone : ∀ i, (m.slots i).owed = [] := by
    intro i
    cases ho : (m.slots i).owed with
    | nil => rfl
    | cons k t =>
      exfalso
      obtain ⟨_, hor⟩ := h.owed i k (by rw [ho]; exact List.mem_cons_self)
      rcases hor with h1 | ⟨x, hx, _⟩
      · exact (hquiet k).1 (hT.no_lost _ h1)
      · have hx : x ∈ (y.srv.ks k).inflight := hx
        rw [(hquiet k).2] at hx; simp at hx
  simp only [endCheck]
  rw [first_eq_none]
  intro c hc
  obtain ⟨i, _, rfl⟩ := List.mem_map.1 hc
  simp only [endSlotClause, hnone i]
  simp [Kind.all]
end Notify.Bridge
