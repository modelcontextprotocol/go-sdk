import McpModel.Notify.SoundChecks
/-!
# Clause soundness of the C18 monitor: client caches — the monitor's `maxHandled` is history
(`maxHandled_history`), and the clauses about a call answered with a version older than a handled notification
-/
namespace Notify.Sound
open Notify Notify.Mon

/-- the session of slot `i` is the same at the positions `p < q` -/
def SameSession (tr : Trace) (p q : Nat) (i : Slot) : Prop :=
  ∀ j r, p < j → j < q → tr[j]? = some r → ¬ Resets r i

/-- the client of slot `i` handled, in record `r`, a notification that covers `key` -/
def Delivers (r : Rec) (i : Slot) (key : Key) : Prop :=
  (∃ k ds, IsFanout r k ds ∧ key ∈ keysOfKind k ∧ ∃ x ∈ ds, x.slot = i) ∨
  (∃ u v ds, IsUpdated r u v ds ∧ key = .read v ∧ ∃ x ∈ ds, x.slot = i)

/-- the version a notification handled in record `p` announces: the server's state when it was delivered -/
def announcedAt (tr : Trace) (p : Nat) (key : Key) : Nat := (truthAt tr (p + 1)).verOfKey key

/-- a call that was started and answered in record `q` by the session that handled a notification covering the key
in an earlier record returns a version at least as new as the announced one -/
def P_fresh_call (tr : Trace) : Prop :=
  ∀ (q : Nat) (i : Slot) (key : Key) (mode : Mode) (v : Nat) (hit : Bool),
    tr[q]? = some (⟨.list i key mode, .ret v hit⟩ : Rec) →
    ∀ (p : Nat) (rp : Rec), p < q → tr[p]? = some rp → Delivers rp i key → SameSession tr p q i → announcedAt tr p key ≤ v

theorem any_slot {ds : List SDelivery} {i : Slot} : ds.any (·.slot == i) = true ↔ ∃ x ∈ ds, x.slot = i := by
  simp [List.any_eq_true]

theorem max_cases (a b : Nat) : max a b = a ∨ max a b = b := by
  rcases Nat.le_total a b with h | h
  · right; exact Nat.max_eq_right h
  · left; exact Nat.max_eq_left h

theorem mh_gotChanged (m : MState) (k : Kind) (d : MSlot) (key : Key) :
    (gotChanged m k d).maxHandled key = if key ∈ keysOfKind k then max (d.maxHandled key) (m.verOfKey key) else d.maxHandled key := rfl

theorem Delivers.loud {r : Rec} {i : Slot} {key : Key} (h : Delivers r i key) : (quiet r || aside i r) = false := by
  rcases h with ⟨_, _, h, _⟩ | ⟨_, _, _, h, _⟩
  · exact h.loud i
  · exact h.loud i

theorem maxHandled_step {m : MState} {t : Truth} (hA : Agrees m t) (r : Rec) (i : Slot) (key : Key) :
    (Resets r i ∧ ((monNext m r).slots i).maxHandled key = 0) ∨
    (¬ Resets r i ∧ (((monNext m r).slots i).maxHandled key = (m.slots i).maxHandled key ∨
      (Delivers r i key ∧ ((monNext m r).slots i).maxHandled key = (truthStep t r).verOfKey key))) := by
  have hs := monNext_slot m r i
  generalize (monNext m r).slots i = d' at hs ⊢
  by_cases hr : Resets r i
  · exact .inl ⟨hr, congrFun (hs.of_resets hr).2.1 key⟩
  refine .inr ⟨hr, ?_⟩
  -- the slot handles a notification that covers `keys` and announces the versions of `m0`
  have handled : ∀ (m0 : MState) (keys : List Key),
      (key ∈ keys → Delivers r i key ∧ m0.verOfKey key = (truthStep t r).verOfKey key) →
      ((m.slots i).handled m0 keys).maxHandled key = (m.slots i).maxHandled key ∨
        (Delivers r i key ∧ ((m.slots i).handled m0 keys).maxHandled key = (truthStep t r).verOfKey key) := by
    intro m0 keys h
    simp only [MSlot.handled]
    split
    · rcases max_cases ((m.slots i).maxHandled key) (m0.verOfKey key) with e | e
      · exact .inl e
      · exact .inr ⟨(h ‹_›).1, e.trans (h ‹_›).2⟩
    · exact .inl rfl
  cases hs with
  | reset h => exact absurd h hr
  | still _ hk => exact .inl (congrFun hk.maxHandled key)
  | change f e =>
    rcases monChange_slots m f e i with h | ⟨_, _, b, h⟩ <;> rw [h]
    · exact .inl rfl
    · exact .inl (congrFun (keepsAll_changeSlot _ _ _ _).maxHandled key)
  | cbstep k done => exact .inl (congrFun (keepsAll_cbStepNext m k done i).maxHandled key)
  | fsendNone => exact .inl rfl
  | fetch => exact .inl rfl
  | start => exact .inl rfl
  | fill => exact .inl rfl
  | cbrun k t l ds hsd =>
    rw [(keepsAll_cbNext m k ds i).maxHandled]
    split
    · exact handled m (keysOfKind k) fun hk =>
        ⟨.inl ⟨k, ds, .inl ⟨t, l, rfl, hsd⟩, hk, any_slot.1 ‹_›⟩, verOfKey_agrees hA key⟩
    · exact .inl rfl
  | fsend k a t l b fan ds _ hsd =>
    rw [(keepsAll_fsNext m k fan ds b i).maxHandled]
    split
    · exact handled m (keysOfKind k) fun hk =>
        ⟨.inl ⟨k, ds, .inr ⟨a, t, l, b, rfl, hsd⟩, hk, any_slot.1 ‹_›⟩, verOfKey_agrees hA key⟩
    · exact .inl rfl
  | rupdated u v t l ds hsd =>
    rw [(keepsAll_ruNext (ruContent m v) v ds i).maxHandled]
    split
    · refine handled (ruContent m v) [.read v] fun hk => ?_
      obtain rfl := List.mem_singleton.1 hk
      exact ⟨.inr ⟨u, v, ds, ⟨t, l, rfl, hsd⟩, rfl, any_slot.1 ‹_›⟩,
        by simp only [MState.verOfKey, ruContent, Truth.verOfKey, truthStep, hA.content]⟩
    · exact .inl rfl

theorem maxHandled_at (T : Trace) (n : Nat) (hn : n ≤ T.length) (i : Slot) (key : Key) :
    ((monAt T n).slots i).maxHandled key = 0 ∨
    ∃ p rp, p < n ∧ T[p]? = some rp ∧ Delivers rp i key ∧ SameSession T p n i ∧
      announcedAt T p key = ((monAt T n).slots i).maxHandled key := by
  induction n with
  | zero => exact .inl rfl
  | succ n ih =>
    obtain ⟨r, hr⟩ := get_of_lt (Nat.lt_of_succ_le hn)
    rw [monAt_succ hr]
    rcases maxHandled_step (agrees_at T n) r i key with ⟨_, h0⟩ | ⟨hnr, hsame | ⟨hd, hnew⟩⟩
    · exact .inl h0
    · rw [hsame]
      exact (ih (by omega)).imp id fun ⟨p, rp, hp, hget, hdel, hss, hann⟩ =>
        ⟨p, rp, by omega, hget, hdel, span_succ hr hss hnr, hann⟩
    · exact .inr ⟨n, r, by omega, hr, hd, fun j _ h1 h2 => by omega, by rw [hnew, announcedAt, truthAt_succ hr]⟩

/-- **history of `maxHandled`**: the newest version the monitor has seen the session of a slot handle for a key is
the version announced by a notification covering the key that this very session handled in an earlier record -/
theorem maxHandled_history (tr : Trace) (i : Slot) (key : Key) :
    ((monAfter {} tr).slots i).maxHandled key = 0 ∨
    ∃ p rp, p < tr.length ∧ tr[p]? = some rp ∧ Delivers rp i key ∧ SameSession tr p tr.length i ∧
      announcedAt tr p key = ((monAfter {} tr).slots i).maxHandled key := by
  rw [← monAt_length]
  exact maxHandled_at tr tr.length (Nat.le_refl _) i key

theorem SawStale.sound (tr : Trace) (r : Rec) (h : SawStale (monAfter {} tr) r) : ¬ P_fresh_call (tr ++ [r]) := by
  intro hP
  obtain ⟨i, key, mode, v, hit, er, hlt⟩ := h
  rw [← monAt_snoc tr r] at hlt
  rcases maxHandled_at (tr ++ [r]) tr.length (by simp) i key with h0 | ⟨p, rp, hp, hget, hdel, hss, hann⟩
  · omega
  · have := hP tr.length i key mode v hit (by rw [get_snoc_len, er]) p rp hp hget hdel hss
    omega

/-- a call answered at once with a version older than one the session had handled: the three clauses that say so -/
theorem sound_fresh_call (tr : Trace) (r : Rec) (c : Clause) (h : Reports tr r c)
    (hc : (∃ b, c = .staleRead b) ∨ c = .f7Stale ∨ c = .staleCall)
    (hl : ∃ i key mode v hit, r = ⟨.list i key mode, .ret v hit⟩) : ¬ P_fresh_call (tr ++ [r]) := by
  refine SawStale.sound tr r ?_
  rcases hc with ⟨_, rfl⟩ | rfl | rfl
  · exact monCheck_why h
  · exact monCheck_why h
  · rcases monCheck_why h with hs | ⟨_, _, _, _, e, _⟩
    · exact hs
    · obtain ⟨_, _, _, _, _, e'⟩ := hl
      rw [e] at e'; cases e'

theorem sound_staleRead (tr : Trace) (r : Rec) (b : Bool) (h : Reports tr r (.staleRead b)) : ¬ P_fresh_call (tr ++ [r]) :=
  SawStale.sound tr r (monCheck_why h)

theorem sound_f7Stale (tr : Trace) (r : Rec) (h : Reports tr r .f7Stale) : ¬ P_fresh_call (tr ++ [r]) :=
  SawStale.sound tr r (monCheck_why h)

end Notify.Sound
