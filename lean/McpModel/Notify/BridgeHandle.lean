import McpModel.Notify.BridgeDeliver
/-!
# Bridge: a client handles a notification (announce + handle back to back on the caches it covers)
-/
namespace Notify.Bridge
open Notify Notify.Mon Notify.Sys Generated.Notify
variable {seen : List Nat} {y : State} {m : MState}

def handleStep (sc : Option Nat) (c : Cache.State) : Cache.State :=
  (Cache.step true (Cache.step true c (.announce sc)).1 (.handle ((Cache.step true c (.announce sc)).1.inbox.length - 1))).1

theorem handleStep_eq (sc : Option Nat) (c : Cache.State) (hc : c.inbox = []) :
    handleStep sc c = { c with entries := c.entries.filter (fun p => !(Cache.Notif.covers ⟨sc, c.srv⟩ p.1)),
                                gen := c.gen + 1,
                                handled := fun k => if Cache.Notif.covers ⟨sc, c.srv⟩ k then max (c.handled k) (c.srv k) else c.handled k } := by
  simp only [handleStep, Cache.step, hc, List.nil_append, List.length_singleton, Nat.sub_self, Cache.handle,
    List.getElem?_cons_zero, List.eraseIdx_cons_zero]

theorem handleStep_inv (sc : Option Nat) (c : Cache.State) (h : Cache.Inv c) : Cache.Inv (handleStep sc c) :=
  Cache.inv_step _ _ (Cache.inv_step _ _ h)

theorem foldl_setCache (g : Cache.State → Cache.State) (os : List CacheObj) (hnd : os.Nodup) (d : DSlot) :
    DSame d (os.foldl (fun d o => d.setCache o (g (d.caches o))) d) ∧
    ∀ o, (os.foldl (fun d o => d.setCache o (g (d.caches o))) d).caches o = if o ∈ os then g (d.caches o) else d.caches o := by
  induction os generalizing d with
  | nil => exact ⟨DSame.refl _, fun o => by simp⟩
  | cons a t ih =>
    simp only [List.nodup_cons] at hnd
    simp only [List.foldl_cons]
    obtain ⟨h1, h2⟩ := ih hnd.2 (d.setCache a (g (d.caches a)))
    refine ⟨(DSame.setCache d a _).trans h1, ?_⟩
    intro o
    rw [h2 o]
    simp only [setCache_caches, List.mem_cons]
    by_cases e : o = a
    · subst e; simp [hnd.1]
    · by_cases e2 : o ∈ t
      · have : a ≠ o := fun e3 => e e3.symm
        simp [e, e2]
      · simp [e, e2]

theorem clientHandleChanged_eq (d : DSlot) (k : Kind) :
    clientHandleChanged d k = if (!d.modern) = true then d else
      (clientInvalidates k).foldl (fun d o => d.setCache o (handleStep none (d.caches o))) d := rfl

theorem clientHandleUpdated_eq (d : DSlot) (v : Nat) :
    clientHandleUpdated d v = if (!d.modern) = true then d else d.setCache .read (handleStep (some v) (d.caches .read)) := by
  simp only [clientHandleUpdated, updated_invalidates, Bool.not_true, Bool.or_false]
  rfl

theorem clientInvalidates_nodup (k : Kind) : (clientInvalidates k).Nodup := by cases k <;> decide

theorem obj_mem_invalidates {key : Key} {k : Kind} : key.obj ∈ clientInvalidates k ↔ key ∈ keysOfKind k := by
  cases k <;> cases key with
  | list f => cases f <;> simp [Key.obj, FSet.cache, clientInvalidates, keysOfKind]
  | read u => simp [Key.obj, clientInvalidates, keysOfKind]

theorem keepsId_changed (k : Kind) : KeepsId (clientHandleChanged · k) := by
  intro d
  show (clientHandleChanged d k).used = d.used ∧ (clientHandleChanged d k).sid = d.sid
  rw [clientHandleChanged_eq]
  split
  · exact ⟨rfl, rfl⟩
  · have := (foldl_setCache (handleStep none) (clientInvalidates k) (clientInvalidates_nodup k) d).1
    exact ⟨this.used, this.sid⟩

theorem keepsId_updated (v : Nat) : KeepsId (clientHandleUpdated · v) := by
  intro d
  show (clientHandleUpdated d v).used = d.used ∧ (clientHandleUpdated d v).sid = d.sid
  rw [clientHandleUpdated_eq]
  split <;> exact ⟨rfl, rfl⟩

theorem ObjRel.handle {cur : Key → Nat} {held : List Key} {md : MSlot} {o : CacheObj} {c : Cache.State}
    (h : ObjRel cur true held md o c) (sc : Option Nat) (mm : MState) (keys : List Key)
    (hver : ∀ key, mm.verOfKey key = cur key)
    (hcov : ∀ key : Key, key.obj = o → (key ∈ keys ↔ Cache.Notif.covers ⟨sc, c.srv⟩ key.idx = true)) :
    ObjRel cur true held (md.handled mm keys) o (handleStep sc c) := by
  refine ⟨fun _ => handleStep_inv _ _ (h.inv rfl), ?_, ?_, fun key e => ?_⟩
  all_goals rw [handleStep_eq sc c (h.inbox rfl)]
  · exact fun _ => h.inbox rfl
  · exact h.fill_uniq
  have hk := h.key key e
  have hsv := hk.srv rfl
  have hhd := hk.handled rfl
  have hle := hk.maxH_le
  by_cases hc : key ∈ keys
  · have hcv := (hcov key e).1 hc
    refine ⟨fun _ => hsv, fun _ => ?_, fun _ _ => ?_, hk.held_fill, hk.starts, ?_, nofun⟩
    · show (if _ then max (c.handled key.idx) (c.srv key.idx) else _) = if key ∈ keys then max _ (mm.verOfKey key) else _
      rw [if_pos hcv, if_pos hc, hhd, hsv, hver]
    · exact lookup_filter_of_excluded _ (fun k => !(Cache.Notif.covers ⟨sc, c.srv⟩ k)) _ (by rw [hcv]; rfl)
    · show (if key ∈ keys then max _ (mm.verOfKey key) else _) ≤ _
      rw [if_pos hc, hver]; omega
  · have hcv : ¬ Cache.Notif.covers ⟨sc, c.srv⟩ key.idx = true := fun hx => hc ((hcov key e).2 hx)
    refine ⟨fun _ => hsv, fun _ => ?_, fun _ hi => ?_, hk.held_fill, hk.starts, ?_, nofun⟩
    · show (if _ then _ else c.handled key.idx) = if key ∈ keys then _ else md.maxHandled key
      rw [if_neg hcv, if_neg hc, hhd]
    · have hi : (decide (key ∈ keys) || md.invalidated key) = true := hi
      rw [decide_eq_false hc, Bool.false_or] at hi
      exact lookup_filter_of_lookup_none _ _ _ (hk.inval rfl hi)
    · show (if key ∈ keys then _ else md.maxHandled key) ≤ _
      rw [if_neg hc]; exact hle

theorem ObjRel.handle_legacy {cur : Key → Nat} {held : List Key} {md : MSlot} {o : CacheObj} {c : Cache.State}
    (h : ObjRel cur false held md o c) (mm : MState) (keys : List Key) (hver : ∀ key, mm.verOfKey key = cur key) :
    ObjRel cur false held (md.handled mm keys) o c := by
  refine ⟨nofun, nofun, h.fill_uniq, fun key e => ?_⟩
  have hk := h.key key e
  refine ⟨nofun, nofun, nofun, hk.held_fill, nofun, ?_, hk.leg_fill⟩
  show (if key ∈ keys then max _ (mm.verOfKey key) else _) ≤ _
  have := hk.maxH_le
  split
  · rw [hver]; omega
  · exact this

/-- `hcov`: `keys` are the keys of the caches `os` that a notification of scope `sc` covers (`covers` reads the scope only:
the versions of the notification are a dummy here). -/
theorem cacheRel_handled {cur : Key → Nat} {d d' : DSlot} {md : MSlot} (h : CacheRel cur d md) (sc : Option Nat)
    (os : List CacheObj) (mm : MState) (keys : List Key) (hver : ∀ key, mm.verOfKey key = cur key)
    (hcov : ∀ key : Key, key ∈ keys ↔ key.obj ∈ os ∧ Cache.Notif.covers ⟨sc, fun _ => 0⟩ key.idx = true)
    (e1 : d'.modern = d.modern) (e2 : d'.held = d.held)
    (hc : d.modern = true → ∀ o, d'.caches o = if o ∈ os then handleStep sc (d.caches o) else d.caches o)
    (hl : d.modern = false → d'.caches = d.caches) : CacheRel cur d' (md.handled mm keys) := by
  refine cacheRel_iff.2 fun o => ?_
  have ho := h.obj o
  rw [e1, e2]
  cases hm : d.modern with
  | false => rw [hl hm]; exact (hm ▸ ho).handle_legacy mm keys hver
  | true =>
    rw [hm] at ho
    rw [hc hm o]
    split
    · rename_i e
      exact ho.handle sc mm keys hver fun key ek => (hcov key).trans ⟨fun hx => hx.2, fun hx => ⟨ek ▸ e, hx⟩⟩
    · rename_i e
      refine ho.congr (fun _ _ => rfl) fun key ek => ?_
      have : key ∉ keys := fun hx => e (ek ▸ ((hcov key).1 hx).1)
      exact ⟨if_neg this, by show (decide (key ∈ keys) || _) = _; rw [decide_eq_false this, Bool.false_or], fun _ => rfl, .rfl⟩

theorem clientHandleChanged_same (d : DSlot) (k : Kind) : DSame d (clientHandleChanged d k) := by
  rw [clientHandleChanged_eq]; split
  · exact DSame.refl _
  · exact (foldl_setCache (handleStep none) (clientInvalidates k) (clientInvalidates_nodup k) d).1

theorem cacheRel_changed {cur : Key → Nat} {d : DSlot} {md : MSlot} (h : CacheRel cur d md) (mm : MState) (k : Kind)
    (hver : ∀ key, mm.verOfKey key = cur key) : CacheRel cur (clientHandleChanged d k) (gotChanged mm k md) := by
  have hd := clientHandleChanged_same d k
  show CacheRel cur _ (MSlot.handled _ mm (keysOfKind k))
  refine cacheRel_handled ?_ none (clientInvalidates k) mm (keysOfKind k) hver
    (fun key => by simp only [Cache.Notif.covers, and_true]; exact obj_mem_invalidates.symm) hd.modern hd.held
    (fun hm o => ?_) fun hm => ?_
  · exact h.congr rfl rfl rfl rfl rfl rfl
  · rw [clientHandleChanged_eq, if_neg (by rw [hm]; decide),
      (foldl_setCache (handleStep none) (clientInvalidates k) (clientInvalidates_nodup k) d).2 o]
  · rw [clientHandleChanged_eq, if_pos (by rw [hm]; rfl)]

theorem clientHandleUpdated_same (d : DSlot) (v : Nat) : DSame d (clientHandleUpdated d v) := by
  rw [clientHandleUpdated_eq]; split
  · exact .refl _
  · exact .setCache _ _ _

theorem cacheRel_updated {cur : Key → Nat} {d : DSlot} {md : MSlot} (h : CacheRel cur d md) (mm : MState) (v : Nat)
    (hver : ∀ key, mm.verOfKey key = cur key) : CacheRel cur (clientHandleUpdated d v) (md.handled mm [Key.read v]) := by
  refine cacheRel_handled h (some v) [.read] mm [Key.read v] hver (fun key => ?_) ?_ ?_ (fun hm o => ?_) fun hm => ?_
  · cases key with
    | list f => cases f <;> simp [Key.obj, FSet.cache]
    | read u =>
      simp only [List.mem_singleton, Key.read.injEq, Key.obj, Key.idx, Cache.Notif.covers, true_and, beq_iff_eq]
      exact eq_comm
  · rw [clientHandleUpdated_eq]; split <;> rfl
  · rw [clientHandleUpdated_eq]; split <;> rfl
  · rw [clientHandleUpdated_eq, if_neg (by rw [hm]; decide), setCache_caches]
    simp only [List.mem_singleton]
    split
    · rename_i e; rw [e]
    · rfl
  · rw [clientHandleUpdated_eq, if_pos (by rw [hm]; rfl)]

theorem SlotRel.changed {s s' : Server} {cur cur' : Key → Nat} {d : DSlot} {md : MSlot} (h : SlotRel s cur d md)
    (e : SameFor d.sid s s') (mm : MState) (k : Kind) (hcur : cur' = cur) (hver : ∀ key, mm.verOfKey key = cur key)
    (ho : d.used = true → ∀ k0 ∈ md.owed, k0 ≠ k → Backed s' d.sid k0) :
    SlotRel s' cur' (clientHandleChanged d k) (gotChanged mm k md) :=
  h.move e (clientHandleChanged_same d k) ⟨rfl, rfl, rfl, rfl⟩ (fun _ k0 hk0 => (List.mem_filter.1 hk0).1)
    (fun hu k0 hk0 => ho hu k0 (List.mem_filter.1 hk0).1 (by simpa using (List.mem_filter.1 hk0).2))
    (fun _ hc => hcur ▸ cacheRel_changed hc mm k hver)

theorem SlotRel.updated {s : Server} {cur : Key → Nat} {d : DSlot} {md : MSlot} (h : SlotRel s cur d md) (mm : MState) (v : Nat)
    (hver : ∀ key, mm.verOfKey key = cur key) : SlotRel s cur (clientHandleUpdated d v) (md.handled mm [Key.read v]) :=
  h.move (.refl _ _) (clientHandleUpdated_same d v) ⟨rfl, rfl, rfl, rfl⟩ (fun _ _ hk => hk) (fun hu k hk => (h.row hu).owed k hk)
    fun _ hc => cacheRel_updated hc mm v hver

end Notify.Bridge
