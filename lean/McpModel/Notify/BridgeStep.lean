import McpModel.Notify.BridgeRow
/-!
# Bridge: what is to be shown of an op (`StepOk`), and the ops that touch nothing the relation reads

An op is a tree of guards with an outcome (next state, observation) at each leaf; `StepOk` says the outcome of the op is
fine, `OkRes` says it of an outcome, and `OkRes.ite` descends one guard — so that the proof about an op follows its tree
and speaks of one leaf at a time.
-/
namespace Notify.Bridge
open Notify Notify.Mon Notify.Sys Generated.Notify

def StepOk (seen : List Nat) (y : State) (m : MState) (op : Op) (hint : Option Who) : Prop :=
  monCheck m ⟨op, (sysStep y op hint).2⟩ = none ∧
  Rel (seenAfter seen op) (sysStep y op hint).1 (monNext m ⟨op, (sysStep y op hint).2⟩)

variable {seen : List Nat} {y : State} {m : MState}

def OkRes (seen : List Nat) (m : MState) (op : Op) (r : State × Obs) : Prop :=
  monCheck m ⟨op, r.2⟩ = none ∧ Rel (seenAfter seen op) r.1 (monNext m ⟨op, r.2⟩)

theorem OkRes.ite {op : Op} {c : Prop} [Decidable c] {a b : State × Obs} (ha : c → OkRes seen m op a)
    (hb : ¬c → OkRes seen m op b) : OkRes seen m op (if c then a else b) := by
  split
  · exact ha ‹_›
  · exact hb ‹_›

theorem OkRes.ite_not {op : Op} {b : Bool} {a c : State × Obs} (ha : b = false → OkRes seen m op a)
    (hc : b = true → OkRes seen m op c) : OkRes seen m op (if (!b) = true then a else c) := by
  cases b
  · exact ha rfl
  · exact hc rfl

theorem step_ttl (h : Rel seen y m) (n : Nat) (hint : Option Who) : StepOk seen y m (.ttl n) hint :=
  ⟨rfl, h.of_eq rfl rfl rfl rfl rfl rfl rfl rfl rfl⟩

theorem step_bad (h : Rel seen y m) (hint : Option Who) : StepOk seen y m .bad hint :=
  ⟨rfl, h⟩

theorem step_policy (h : Rel seen y m) (u : Nat) (r : Bool) (hint : Option Who) : StepOk seen y m (.policy u r) hint := by
  show OkRes seen m _ (sysStep y (.policy u r) hint)
  simp only [sysStep]
  exact .ite (fun _ => ⟨rfl, h.of_eq rfl rfl rfl rfl rfl rfl rfl rfl rfl⟩) fun _ => ⟨rfl, h.of_eq rfl rfl rfl rfl rfl rfl rfl rfl rfl⟩

end Notify.Bridge
