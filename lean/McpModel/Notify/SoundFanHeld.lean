import McpModel.Notify.SoundEnd
import McpModel.Notify.SoundUpd
/-!
# Clause soundness of the C18 monitor: held fan-outs

The monitor's note of a held fan-out (`MState.fans`) is history (`fan_history`): the snapshot record `cbstep k` that
started it — who was entitled then (`truthAt` that record) and under which stamps — less the sessions closed since, and
the sessions written to since.  This decides the four clauses only a write of a held fan-out can raise:
`fanNotEntitled`, `fanBadStamp`, `twice` (second source; `sound_twice` joins both), `fanDropped`.
-/
namespace Notify.Sound
open Notify Notify.Mon

/-- the record is the snapshot of a held fan-out of kind `k` with something to write -/
def IsHeldSnap (r : Rec) (k : Kind) : Prop := r = ⟨.cbstep k, .fan false⟩
/-- the record reports the last write of the held fan-out of kind `k` -/
def ClosesFan (r : Rec) (k : Kind) : Prop := ∃ a t l ds, r = ⟨.fsend k, .fsent a t l true⟩ ∧ slotDeliveries l = some ds
/-- the record ends the held fan-out of kind `k` that was in progress (or starts another one) -/
def FanBreak (r : Rec) (k : Kind) : Prop := (∃ a b c h, r.op = .config a b c h) ∨ IsHeldSnap r k ∨ ClosesFan r k
/-- the held fan-out of kind `k` whose snapshot is record `q0` is still in progress before record `q` -/
def FanSpan (tr : Trace) (q0 q : Nat) (k : Kind) : Prop :=
  tr[q0]? = some (⟨.cbstep k, .fan false⟩ : Rec) ∧ ∀ j rj, q0 < j → j < q → tr[j]? = some rj → ¬ FanBreak rj k
/-- the session of slot `i` was closed between the records `p` and `q` -/
def ClosedIn (tr : Trace) (p q : Nat) (i : Slot) : Prop := ∃ j, p < j ∧ j < q ∧ tr[j]? = some (⟨.close i, .ok⟩ : Rec)
/-- the record is a write of a held fan-out of kind `k` to the session of slot `s` -/
def WritesTo (r : Rec) (k : Kind) (s : Slot) : Prop :=
  ∃ a t l b ds, r = ⟨.fsend k, .fsent a t l b⟩ ∧ slotDeliveries l = some ds ∧ ∃ x ∈ ds, x.slot = s

theorem FanBreak.loud {r : Rec} {k : Kind} (h : FanBreak r k) : quiet r = false := by
  rcases h with ⟨_, _, _, _, e⟩ | rfl | ⟨_, _, _, _, rfl, hs⟩
  · obtain ⟨op, obs⟩ := r; cases e; rfl
  · rfl
  · simp [quiet, hs]

theorem fan_step (m : MState) (r : Rec) (k : Kind) (fan' : MFan) (h : (monNext m r).fans k = some fan') :
    (IsHeldSnap r k ∧ fan' = { expect := fanExpect m k }) ∨
    (¬ FanBreak r k ∧ ∃ fan, m.fans k = some fan ∧
      (∀ p, p ∈ fan'.expect ↔ p ∈ fan.expect ∧ r ≠ ⟨.close p.1, .ok⟩) ∧
      (∀ s ∈ fan'.served, (s ∈ fan.served ∨ WritesTo r k s) ∧ r ≠ ⟨.close s, .ok⟩)) := by
  have hs := monNext_step m r
  generalize monNext m r = m' at hs h
  -- records that leave the held fan-out of this kind alone
  have same : ∀ {r : Rec}, ¬ FanBreak r k → (∀ c, r ≠ ⟨.close c, .ok⟩) → m.fans k = some fan' →
      (IsHeldSnap r k ∧ fan' = { expect := fanExpect m k }) ∨
      (¬ FanBreak r k ∧ ∃ fan, m.fans k = some fan ∧
        (∀ p, p ∈ fan'.expect ↔ p ∈ fan.expect ∧ r ≠ ⟨.close p.1, .ok⟩) ∧
        (∀ s ∈ fan'.served, (s ∈ fan.served ∨ WritesTo r k s) ∧ r ≠ ⟨.close s, .ok⟩)) :=
    fun h1 h2 h => .inr ⟨h1, fan', h, fun p => ⟨fun hp => ⟨hp, h2 _⟩, And.left⟩, fun s hs => ⟨.inl hs, h2 s⟩⟩
  cases hs with
  | quiet hq hf =>
    rw [hf] at h
    exact same (fun hb => by rw [hb.loud] at hq; cases hq) (fun c e => by subst e; cases hq) h
  | config => cases h
  | change f e => rw [monChange_fans] at h; exact same (by simp [FanBreak, IsHeldSnap, ClosesFan]) nofun h
  | close c =>
    have h : (m.fans k).map (fun f => { f with expect := f.expect.filter (·.1 != c), served := f.served.filter (· != c) })
      = some fan' := h
    obtain ⟨fan, hf, rfl⟩ := Option.map_eq_some_iff.1 h
    refine .inr ⟨by simp [FanBreak, IsHeldSnap, ClosesFan], fan, hf, fun p => ?_, fun s hs' => ?_⟩
    · have : (⟨.close c, .ok⟩ : Rec) ≠ ⟨.close p.1, .ok⟩ ↔ p.1 ≠ c :=
        ⟨fun h e => h (by rw [e]), fun h e => by cases e; exact h rfl⟩
      simp only [List.mem_filter, bne_iff_ne, this]
    · obtain ⟨h1, h2⟩ := List.mem_filter.1 hs'
      exact ⟨.inl h1, fun e => by cases e; simp at h2⟩
  | cbstep k' done =>
    by_cases hb : done = false ∧ k' = k
    · obtain ⟨rfl, rfl⟩ := hb
      simp only [cbStepNext, Bool.false_eq_true, if_false, if_true, Option.some.injEq] at h
      exact .inl ⟨rfl, h.symm⟩
    · refine same (by simpa [FanBreak, IsHeldSnap, ClosesFan, and_comm] using hb) nofun ?_
      cases done
      · have hk : k ≠ k' := fun e => hb ⟨rfl, e.symm⟩
        simpa only [cbStepNext, Bool.false_eq_true, if_false, hk] using h
      · exact h
  | fsend k' a t l b fan ds hf hsd =>
    by_cases hk : k' = k
    · subst hk
      cases b
      · simp only [fsNext, Bool.false_eq_true, if_false, if_true, Option.some.injEq] at h
        subst h
        refine .inr ⟨by simp [FanBreak, IsHeldSnap, ClosesFan], fan, hf, fun p => by simp, fun s hs' => ⟨?_, nofun⟩⟩
        rcases List.mem_append.1 hs' with hs' | hs'
        · exact .inl hs'
        · obtain ⟨x, hx, e⟩ := List.mem_map.1 hs'
          exact .inr ⟨a, t, l, false, ds, rfl, hsd, x, hx, e⟩
      · simp only [fsNext, if_true] at h
        cases h
    · refine same (by simp [FanBreak, IsHeldSnap, ClosesFan, hk]) nofun ?_
      have hk' : k ≠ k' := fun e => hk e.symm
      cases b
      · simpa only [fsNext, Bool.false_eq_true, if_false, hk'] using h
      · simpa only [fsNext, if_true, hk', if_false] using h
  | fsendNone k' a t l b ds hf =>
    refine same ?_ nofun h
    rintro (⟨_, _, _, _, e⟩ | e | ⟨_, _, _, _, e, _⟩) <;> cases e
    rw [hf] at h; cases h
  | _ => exact same (by simp [FanBreak, IsHeldSnap, ClosesFan]) nofun h

/-- the stamps that are right for a write of a fan-out of kind `k` to the session -/
def TSlot.stamps (d : TSlot) (k : Kind) : List Stamp :=
  if d.modern then (d.listens.filter (·.kinds.contains k)).map (fun l => Stamp.id l.id) else [.plain]

theorem mem_fanExpect {m : MState} {t : Truth} (hA : Agrees m t) (k : Kind) (i : Slot) (st : List Stamp) :
    (i, st) ∈ fanExpect m k ↔ (t.slots i).entitled k ∧ st = (t.slots i).stamps k := by
  simp only [fanExpect, List.mem_filterMap, Slot.mem_all, true_and]
  constructor
  · rintro ⟨j, hj⟩
    split at hj
    · rename_i he
      simp only [Option.some.injEq, Prod.mk.injEq] at hj
      obtain ⟨rfl, rfl⟩ := hj
      refine ⟨(entitledNow_truth hA j k).1 he, ?_⟩
      simp only [TSlot.stamps, hA.modern j, hA.listens j]
    · cases hj
  · rintro ⟨he, rfl⟩
    refine ⟨i, ?_⟩
    rw [if_pos ((entitledNow_truth hA i k).2 he)]
    simp only [TSlot.stamps, hA.modern i, hA.listens i]

theorem closedIn_succ {T : Trace} {n : Nat} {r : Rec} (hr : T[n]? = some r) (p : Nat) (i : Slot) :
    ClosedIn T p (n + 1) i ↔ ClosedIn T p n i ∨ (p < n ∧ r = ⟨.close i, .ok⟩) := by
  constructor
  · rintro ⟨j, hj1, hj2, hget⟩
    by_cases e : j < n
    · exact .inl ⟨j, hj1, e, hget⟩
    · obtain rfl : j = n := by omega
      rw [hr] at hget
      exact .inr ⟨hj1, Option.some.inj hget⟩
  · rintro (⟨j, hj1, hj2, hget⟩ | ⟨hp, e⟩)
    · exact ⟨j, hj1, by omega, hget⟩
    · exact ⟨n, hp, by omega, by rw [hr, e]⟩

theorem fan_at (T : Trace) (n : Nat) (hn : n ≤ T.length) (k : Kind) : ∀ (fan : MFan), (monAt T n).fans k = some fan →
    ∃ q0, q0 < n ∧ FanSpan T q0 n k ∧
      (∀ i st, (i, st) ∈ fan.expect → ((truthAt T q0).slots i).entitled k ∧ st = ((truthAt T q0).slots i).stamps k ∧
        ¬ ClosedIn T q0 n i) ∧
      (∀ i, ((truthAt T q0).slots i).entitled k → ¬ ClosedIn T q0 n i → ∃ st, (i, st) ∈ fan.expect) ∧
      (∀ s, s ∈ fan.served → ∃ j rj, q0 < j ∧ j < n ∧ T[j]? = some rj ∧ WritesTo rj k s ∧ ¬ ClosedIn T j n s) := by
  induction n with
  | zero => intro fan h; cases h
  | succ n ih =>
    intro fan' h
    obtain ⟨r, hr⟩ := get_of_lt (Nat.lt_of_succ_le hn)
    rw [monAt_succ hr] at h
    rcases fan_step (monAt T n) r k fan' h with ⟨hsnap, hfan⟩ | ⟨hnb, fan, hf, hexp, hserved⟩
    · -- the snapshot is this record
      have hnc : ∀ i, ¬ ClosedIn T n (n + 1) i := by rintro i ⟨j, hj1, hj2, _⟩; omega
      refine ⟨n, by omega, ⟨by rw [hr, hsnap], fun j _ h1 h2 => by omega⟩, ?_, ?_, ?_⟩
      · intro i st hmem
        rw [hfan] at hmem
        have := (mem_fanExpect (agrees_at T n) k i st).1 hmem
        exact ⟨this.1, this.2, hnc i⟩
      · intro i he _
        rw [hfan]
        exact ⟨_, (mem_fanExpect (agrees_at T n) k i _).2 ⟨he, rfl⟩⟩
      · intro s hs; rw [hfan] at hs; cases hs
    · obtain ⟨q0, hq0, ⟨hsnap, hspan⟩, hE1, hE2, hS⟩ := ih (by omega) fan hf
      -- closed up to `n + 1`: closed up to `n`, or by this record
      have hcl : ∀ {p i}, p < n → (¬ ClosedIn T p (n + 1) i ↔ ¬ ClosedIn T p n i ∧ r ≠ ⟨.close i, .ok⟩) := fun hp => by
        rw [closedIn_succ hr]; simp [hp]
      refine ⟨q0, by omega, ⟨hsnap, span_succ hr hspan hnb⟩, ?_, ?_, ?_⟩
      · intro i st hmem
        obtain ⟨hmem, hne⟩ := (hexp (i, st)).1 hmem
        obtain ⟨h1, h2, h3⟩ := hE1 i st hmem
        exact ⟨h1, h2, (hcl hq0).2 ⟨h3, hne⟩⟩
      · intro i he hncl
        obtain ⟨hncl, hne⟩ := (hcl hq0).1 hncl
        obtain ⟨st, hst⟩ := hE2 i he hncl
        exact ⟨st, (hexp (i, st)).2 ⟨hst, hne⟩⟩
      · intro s hs
        obtain ⟨hs | hw, hne⟩ := hserved s hs
        · obtain ⟨j, rj, hj1, hj2, hget, hw, hncl⟩ := hS s hs
          exact ⟨j, rj, hj1, by omega, hget, hw, (hcl hj2).2 ⟨hncl, hne⟩⟩
        · exact ⟨n, r, hq0, by omega, hr, hw, by rintro ⟨j, hj1, hj2, _⟩; omega⟩

/-- **history of a held fan-out**: what the monitor remembers of the held fan-out of a kind is the snapshot record that
started it — who was entitled then, under which stamps — less the sessions closed since, and the sessions written to since -/
theorem fan_history (tr : Trace) (k : Kind) : ∀ (fan : MFan), (monAfter {} tr).fans k = some fan →
    ∃ q0, q0 < tr.length ∧ FanSpan tr q0 tr.length k ∧
      (∀ i st, (i, st) ∈ fan.expect → ((truthAt tr q0).slots i).entitled k ∧ st = ((truthAt tr q0).slots i).stamps k ∧
        ¬ ClosedIn tr q0 tr.length i) ∧
      (∀ i, ((truthAt tr q0).slots i).entitled k → ¬ ClosedIn tr q0 tr.length i → ∃ st, (i, st) ∈ fan.expect) ∧
      (∀ s, s ∈ fan.served → ∃ j rj, q0 < j ∧ j < tr.length ∧ tr[j]? = some rj ∧ WritesTo rj k s ∧ ¬ ClosedIn tr j tr.length s) :=
  fun fan h => fan_at tr tr.length (Nat.le_refl _) k fan (by rwa [monAt_length])

/-- a held fan-out writes only to sessions that were entitled to the kind when its snapshot was taken -/
def P_fanEntitled (tr : Trace) : Prop :=
  ∀ (q : Nat) (k : Kind) (a : Who) (t : Nat) (l : List Delivery) (b : Bool) (ds : List SDelivery),
    tr[q]? = some (⟨.fsend k, .fsent a t l b⟩ : Rec) → slotDeliveries l = some ds → ∀ q0, q0 < q → FanSpan tr q0 q k →
    ∀ x ∈ ds, ((truthAt tr q0).slots x.slot).entitled k ∧ ¬ ClosedIn tr q0 q x.slot

/-- a write of a held fan-out carries a stamp that was right when the snapshot was taken -/
def P_fanStamp (tr : Trace) : Prop :=
  ∀ (q : Nat) (k : Kind) (a : Who) (t : Nat) (l : List Delivery) (b : Bool) (ds : List SDelivery),
    tr[q]? = some (⟨.fsend k, .fsent a t l b⟩ : Rec) → slotDeliveries l = some ds → ∀ q0, q0 < q → FanSpan tr q0 q k →
    ∀ x ∈ ds, ((truthAt tr q0).slots x.slot).entitled k → ¬ ClosedIn tr q0 q x.slot →
      x.stamp ∈ ((truthAt tr q0).slots x.slot).stamps k

/-- a held fan-out writes to a session once -/
def P_fanOnce (tr : Trace) : Prop :=
  ∀ (q : Nat) (k : Kind) (a : Who) (t : Nat) (l : List Delivery) (b : Bool) (ds : List SDelivery),
    tr[q]? = some (⟨.fsend k, .fsent a t l b⟩ : Rec) → slotDeliveries l = some ds → ∀ q0, q0 < q → FanSpan tr q0 q k →
    ∀ x ∈ ds, ∀ j rj, q0 < j → j < q → tr[j]? = some rj → WritesTo rj k x.slot → ClosedIn tr j q x.slot

/-- a write of a held fan-out addressed to a connected session of its snapshot reaches that session -/
def P_fanReaches (tr : Trace) : Prop :=
  ∀ (q : Nat) (k : Kind) (i : Slot) (t : Nat) (l : List Delivery) (b : Bool),
    tr[q]? = some (⟨.fsend k, .fsent (.slot i) t l b⟩ : Rec) → slotDeliveries l = some [] → ∀ q0, q0 < q → FanSpan tr q0 q k →
    ((truthAt tr q).slots i).connected = true → ((truthAt tr q0).slots i).entitled k → ClosedIn tr q0 q i

theorem sound_fanNotEntitled (tr : Trace) (r : Rec) (h : Reports tr r .fanNotEntitled) : ¬ P_fanEntitled (tr ++ [r]) := by
  intro hP
  obtain ⟨k, fan, a, ds, x, hr, hx, hnone⟩ := monCheck_why h
  obtain ⟨t, l, b, e, hf, hsd⟩ := hr
  obtain ⟨q0, hq0, hspan, _, hE2, _⟩ := fan_at (tr ++ [r]) tr.length (by simp) k fan (by rwa [monAt_snoc])
  obtain ⟨hent, hncl⟩ := hP tr.length k a t l b ds (by rw [get_snoc_len, e]) hsd q0 hq0 hspan x hx
  obtain ⟨st, hst⟩ := hE2 x.slot hent hncl
  simpa using List.find?_eq_none.1 hnone (x.slot, st) hst

theorem sound_fanBadStamp (tr : Trace) (r : Rec) (h : Reports tr r .fanBadStamp) : ¬ P_fanStamp (tr ++ [r]) := by
  intro hP
  obtain ⟨k, fan, a, ds, x, st, hr, hx, hfind, hnot⟩ := monCheck_why h
  obtain ⟨t, l, b, e, hf, hsd⟩ := hr
  obtain ⟨q0, hq0, hspan, hE1, _, _⟩ := fan_at (tr ++ [r]) tr.length (by simp) k fan (by rwa [monAt_snoc])
  obtain ⟨hent, hst, hncl⟩ := hE1 x.slot st (List.mem_of_find?_eq_some hfind)
  have := hP tr.length k a t l b ds (by rw [get_snoc_len, e]) hsd q0 hq0 hspan x hx hent hncl
  rw [← hst] at this
  exact hnot this

theorem SawTwiceHeld.sound (tr : Trace) (r : Rec) (h : SawTwiceHeld (monAfter {} tr) r) : ¬ P_fanOnce (tr ++ [r]) := by
  intro hP
  obtain ⟨k, fan, a, ds, x, hr, hx, hserved⟩ := h
  obtain ⟨t, l, b, e, hf, hsd⟩ := hr
  obtain ⟨q0, hq0, hspan, _, _, hS⟩ := fan_at (tr ++ [r]) tr.length (by simp) k fan (by rwa [monAt_snoc])
  obtain ⟨j, rj, h1, h2, hget, hw, hn⟩ := hS x.slot hserved
  exact hn (hP tr.length k a t l b ds (by rw [get_snoc_len, e]) hsd q0 hq0 hspan x hx j rj h1 h2 hget hw)

theorem sound_twice_held (tr : Trace) (r : Rec) (h : Reports tr r .twice)
    (hl : ∃ k a t l b, r = ⟨.fsend k, .fsent a t l b⟩) : ¬ P_fanOnce (tr ++ [r]) := by
  rcases monCheck_why h with ⟨_, _, _, ⟨_, _, e, _⟩, _⟩ | hh
  · obtain ⟨_, _, _, _, _, e'⟩ := hl
    rw [e] at e'; cases e'
  · exact SawTwiceHeld.sound tr r hh

theorem sound_twice (tr : Trace) (r : Rec) (h : Reports tr r .twice) :
    ¬ (P_twice_complete (tr ++ [r]) ∧ P_fanOnce (tr ++ [r])) := by
  rintro ⟨h1, h2⟩
  rcases monCheck_why h with ⟨k, ds, j, ⟨t, l, e, hsd⟩, hj⟩ | hh
  · have := h1 tr.length t l k ds (by rw [get_snoc_len, e]) hsd j
    omega
  · exact SawTwiceHeld.sound tr r hh h2

theorem sound_fanDropped (tr : Trace) (r : Rec) (h : Reports tr r .fanDropped) : ¬ P_fanReaches (tr ++ [r]) := by
  intro hP
  obtain ⟨k, fan, i, hr, hconn, hany⟩ := monCheck_why h
  obtain ⟨t, l, b, e, hf, hsd⟩ := hr
  obtain ⟨q0, hq0, hspan, hE1, _, _⟩ := fan_at (tr ++ [r]) tr.length (by simp) k fan (by rwa [monAt_snoc])
  obtain ⟨p, hp, hpi⟩ := List.any_eq_true.1 hany
  obtain rfl : p.1 = i := by simpa using hpi
  obtain ⟨hent, _, hncl⟩ := hE1 p.1 p.2 hp
  refine hncl (hP tr.length k p.1 t l b (by rw [get_snoc_len, e]) hsd q0 hq0 hspan ?_ hent)
  rw [truthAt_snoc_len, ← (monAfter_truth tr).connected]
  exact hconn

end Notify.Sound
