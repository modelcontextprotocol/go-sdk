import McpModel.Notify.BridgeCbrun
/-!
# Bridge: `fsend` (one write of a held fan-out)

The write the implementation chose (`hint`) goes to the session it was addressed to when the snapshot was taken, if that
session is still there: the monitor expected that slot (`FanOk`), its client handles the notification, and the other
outstanding writes stay answered for (`fanOk_erase`).
-/
namespace Notify.Bridge
open Notify Notify.Mon Notify.Sys Generated.Notify
variable {seen : List Nat} {y : State} {m : MState}

theorem fsNext_glob (m : MState) (k : Kind) (fan : MFan) (ds : List SDelivery) (done : Bool) :
    (fsNext m k fan ds done).cap = m.cap ∧ (fsNext m k fan ds done).ver = m.ver ∧ (fsNext m k fan ds done).cnt = m.cnt ∧
    (fsNext m k fan ds done).content = m.content ∧
    (fsNext m k fan ds done).fans = fun k' => if k' = k then
      (if done then none else some { fan with served := fan.served ++ ds.map (·.slot) }) else m.fans k' := by
  cases done <;> exact ⟨rfl, rfl, rfl, rfl, rfl⟩

theorem fsendIdx_lt (y : State) (infl : List Send) (hint : Option Who) (hne : infl ≠ []) :
    fsendIdx y infl hint < infl.length := by
  simp only [fsendIdx]
  split
  · exact findIdx_getD_lt _ _ hne
  · exact List.length_pos_iff.2 hne

theorem fanOk_erase {infl : List Send} {slots : Slot → DSlot} {fan : MFan} (h : FanOk infl slots fan) (idx : Nat) (x : Send)
    (hx : infl[idx]? = some x) (extra : List Slot)
    (hextra : ∀ j ∈ extra, (slots j).used = true ∧ (slots j).sid = x.sid) :
    FanOk (infl.eraseIdx idx) slots { fan with served := fan.served ++ extra } := by
  have hndl : infl.Nodup := nodup_of_map _ _ h.nodup
  refine ⟨(List.Sublist.map _ (List.eraseIdx_sublist infl idx)).nodup h.nodup, ?_⟩
  intro x' hx' j hj hs
  have hx'm := List.mem_of_mem_eraseIdx hx'
  obtain ⟨h1, h2, h3⟩ := h.exp x' hx'm j hj hs
  refine ⟨h1, ?_, h3⟩
  intro hc
  rcases List.mem_append.1 hc with hc | hc
  · exact h2 hc
  · obtain ⟨_, hsj⟩ := hextra j hc
    have : x' = x := List.eq_of_nodup_map _ h.nodup hx'm (List.mem_of_getElem? hx) (by rw [← hs, hsj])
    rw [this] at hx'
    exact not_mem_eraseIdx_of_nodup _ _ hndl hx hx'

/-- After the write `x` (at `idx`) of the held fan-out `fan`: `yy` is the next state, `ds'` what the clients observed — only
slots of the session `x.sid` (`hgot`), every such slot if the session is still there (`hall`). -/
theorem rel_fsend (h : Rel seen y m) (k : Kind) (idx : Nat) (x : Send) (hx : (y.srv.ks k).inflight[idx]? = some x)
    (fan : MFan) (hfan : m.fans k = some fan) (ds' : List SDelivery) (yy : State)
    (f1 : yy.srv = (deliver y.srv k idx).1) (f2 : yy.content = y.content)
    (f3 : ∀ j, yy.slots j = if ds'.any (·.slot == j) = true then clientHandleChanged (y.slots j) k else y.slots j)
    (hgot : ∀ j, ds'.any (·.slot == j) = true → (y.slots j).used = true ∧ (y.slots j).sid = x.sid)
    (hall : x.sid ∈ y.srv.sessions.map Prod.fst → ∀ j, (y.slots j).used = true → (y.slots j).sid = x.sid → ds'.any (·.slot == j) = true)
    (hmem : ∀ j, j ∈ ds'.map (·.slot) → ds'.any (·.slot == j) = true) :
    Rel seen yy (fsNext m k fan ds' ((deliver y.srv k idx).1.ks k).inflight.isEmpty) := by
  obtain ⟨d1, d2, _⟩ := deliver_spec y.srv k idx x hx
  have hfok := h.fan.ok k fan hfan
  obtain ⟨g1, g2, g3, g4, g5⟩ := fsNext_glob m k fan ds' ((deliver y.srv k idx).1.ks k).inflight.isEmpty
  have hsrv : SameButInfl y.srv yy.srv := f1 ▸ d1
  have hfor : ∀ sid, SameFor sid y.srv yy.srv := .of_eq hsrv.sessions hsrv.listens hsrv.rlive
  refine h.rows (by rw [f1]; exact h.srvOk.step (.deliver k idx)) hsrv.sessions hsrv.listens hsrv.acked
    ⟨g1.trans (h.g.cap.trans hsrv.cap.symm), g2.trans (h.g.ver.trans hsrv.ver.symm), g3.trans (h.g.cnt.trans hsrv.cnt.symm),
      g4.trans (h.g.content.trans f2.symm)⟩ (fun j => (ifChanged_same (f3 j)).toId) (fun j r => ?_) fun k' => ?_
  · -- slot `j`: its client got the notification, or nothing moves for it
    refine SlotRel.msame (md := if ds'.any (·.slot == j) = true then gotChanged m k (m.slots j) else m.slots j) ?_
      (Sound.keepsAll_fsNext m k fan ds' _ j).msame
    rw [f3 j, curVersion_congr hsrv.ver f2]
    have hb : ∀ k0 ∈ (m.slots j).owed, (y.slots j).used = true → (k0 = k → ds'.any (·.slot == j) ≠ true) →
        Backed yy.srv (y.slots j).sid k0 := by
      intro k0 hk0 hu hne
      have hold : Backed y.srv (y.slots j).sid k0 := (h.row j hu).owed k0 hk0
      simp only [Backed, f1, d1.owed, d2 k0] at hold ⊢
      refine hold.imp_right fun ⟨z, hz, hzs⟩ => ?_
      split
      · rename_i e
        subst e
        refine ⟨z, List.mem_eraseIdx_of_ne hz hx fun e => hne rfl ?_, hzs⟩
        subst e
        exact hall (List.mem_map.2 ⟨_, h.sess.used_sess j hu, hzs.symm⟩) j hu hzs.symm
      · exact ⟨z, hz, hzs⟩
    split
    · rename_i hg
      exact r.changed (hfor _) m k rfl (verOfKey_cur h) fun hu k0 hk0 hne => hb k0 hk0 hu fun e => absurd e hne
    · rename_i hg
      exact r.move (hfor _) (DSame.refl _) ⟨rfl, rfl, rfl, rfl⟩ (fun _ _ hk => hk) (fun hu k0 hk0 => hb k0 hk0 hu fun _ => hg)
        fun _ hc => hc
  · by_cases e : k' = k
    · subst e
      have hi : (yy.srv.ks k').inflight = (y.srv.ks k').inflight.eraseIdx idx := by rw [f1, d2, if_pos rfl]
      have hf : (fsNext m k' fan ds' ((deliver y.srv k' idx).1.ks k').inflight.isEmpty).fans k' =
          if (yy.srv.ks k').inflight.isEmpty = true then none else some { fan with served := fan.served ++ ds'.map (·.slot) } := by
        rw [g5, f1]; exact if_pos rfl
      refine ⟨fun hne => ?_, fun fan' hf' => ?_, fun z hz => h.seen.infl k' z (List.mem_of_mem_eraseIdx (hi ▸ hz)),
        fun hne => (gateSend_congr hsrv.cap k').trans (h.gate k' fun e0 => hne (by rw [hi, e0]; rfl))⟩
      · rw [hf, if_neg (by simpa using hne)]; exact ⟨_, rfl⟩
      · rw [hf] at hf'
        split at hf'
        · cases hf'
        · cases hf'
          rw [hi]
          exact fanOk_erase hfok idx x hx (ds'.map (·.slot)) fun j hj => hgot j (hmem j hj)
    · exact (h.kind k').frame (by rw [f1, d2, if_neg e]) (by rw [g5]; exact if_neg e) hsrv.cap

theorem fs_delivery_ok (h : Rel seen y m) (k : Kind) (hg : gateSend y.srv k = true) {fan : MFan}
    (hfok : FanOk (y.srv.ks k).inflight y.slots fan) (sd : SDelivery) (x : Send) (hx : x ∈ (y.srv.ks k).inflight)
    (hu : (y.slots sd.slot).used = true) (hs : (y.slots sd.slot).sid = x.sid)
    (h1 : sd.meth = .changed k) (h2 : sd.stamp = stampOf x.stamp) (h3 : sd.hk = .none ∨ sd.hk = .kind k) :
    fsDeliveryClause m k fan sd = none := by
  obtain ⟨⟨stamps, hfind, hstamp⟩, hnserved, hleg⟩ := hfok.exp x hx sd.slot hu hs
  simp only [fsDeliveryClause, hfind, ite_some_eq_none, and_true]
  refine ⟨by simp [h1], ?_, ?_, ?_, ?_, by simp [hnserved], ?_⟩
  · rw [h.g.cap]; rw [gateSend_cap] at hg; simpa using hg
  · rw [h.sess.conn, hu]; decide
  · rw [h.sess.modern _ hu]
    cases hm0 : (y.slots sd.slot).modern
    · rw [h2, hleg hm0]; decide
    · simp
  · simpa [h2] using hstamp
  · rcases h3 with h3 | h3 <;> simp [h3]

theorem step_fsend (h : Rel seen y m) (k : Kind) (hint : Option Who) : StepOk seen y m (.fsend k) hint := by
  show OkRes seen m _ (sysStep _ _ _)
  simp only [sysStep]
  apply OkRes.ite <;> intro hne
  · exact ⟨rfl, h⟩
  · have hne : (y.srv.ks k).inflight ≠ [] := by simpa using hne
    obtain ⟨idx, hidx⟩ : ∃ idx, idx = fsendIdx y (y.srv.ks k).inflight hint := ⟨_, rfl⟩
    have hlt : idx < (y.srv.ks k).inflight.length := by rw [hidx]; exact fsendIdx_lt _ _ _ hne
    rw [← hidx]
    obtain ⟨x, hx⟩ : ∃ x, (y.srv.ks k).inflight[idx]? = some x := ⟨_, List.getElem?_eq_getElem hlt⟩
    have hxm : x ∈ (y.srv.ks k).inflight := List.mem_of_getElem? hx
    have hgetD : (y.srv.ks k).inflight.getD idx ⟨0, none⟩ = x := by
      rw [List.getD_eq_getElem?_getD, hx]; rfl
    rw [hgetD]
    obtain ⟨-, -, d3⟩ := deliver_spec y.srv k idx x hx
    obtain ⟨fan, hfan⟩ := h.fan.some_of k hne
    have hfok := h.fan.ok k fan hfan
    have hgate := h.gate k hne
    rw [d3]
    by_cases hin : x.sid ∈ y.srv.sessions.map Prod.fst
    · -- the session is there: one delivery
      rw [if_pos hin]
      simp only [List.filterMap_cons, List.filterMap_nil]
      obtain ⟨i, hu, hs⟩ := h.sess.slot_of_sid hin
      obtain ⟨ds', f1', f2', f4, f3', f6, f7, f5⟩ := deliverChanged_spec h (deliver y.srv k idx).1 k [x]
        (by intro z hz; simp only [List.mem_singleton] at hz; subst hz; exact ⟨i, hu, hs⟩) (by simp)
      obtain ⟨yy, hyy⟩ : ∃ yy, yy = deliverChanged { y with srv := (deliver y.srv k idx).1 } k [x] := ⟨_, rfl⟩
      rw [← hyy] at f1' f2' f3' f4 ⊢
      have hgotiff : ∀ j, ds'.any (·.slot == j) = true ↔ j = i := by
        intro j
        rw [f6 j]
        simp only [List.map_cons, List.map_nil, List.mem_singleton]
        constructor
        · rintro ⟨hj, e2⟩; exact h.sess.sid_inj j i hj hu (by rw [e2, hs])
        · rintro rfl; exact ⟨hu, hs⟩
      have hwho : whoOfSid y x.sid = .slot i := by
        simp only [whoOfSid, slotOfSid_some h.sess.sid_inj hu hs]
      rw [hwho]
      have hds_ne : ds' ≠ [] := by
        intro e0
        have := (hgotiff i).2 rfl
        rw [e0] at this; simp at this
      refine ⟨?_, ?_⟩
      · show monCheck m ⟨.fsend k, .fsent (.slot i) y.srv.now yy.2 _⟩ = none
        simp only [monCheck, hfan, f4, fsCheck]
        rw [first_eq_none]
        intro c hc
        rcases List.mem_append.1 hc with hc | hc
        · obtain ⟨sd, hsd, rfl⟩ := List.mem_map.1 hc
          obtain ⟨z, hz, hu', hs', e1, e2, e3⟩ := f5 sd hsd
          simp only [List.mem_singleton] at hz
          subst hz
          exact fs_delivery_ok h k hgate hfok sd z hxm hu' hs' e1 e2 e3
        · simp only [List.mem_singleton] at hc
          rw [hc]
          have : ds'.isEmpty = false := by
            cases ds' with
            | nil => exact absurd rfl hds_ne
            | cons _ _ => rfl
          simp only [this, Bool.false_and, Bool.false_eq_true, if_false]
      · show Rel seen yy.1 (monNext m ⟨.fsend k, .fsent (.slot i) y.srv.now yy.2 _⟩)
        simp only [monNext, hfan, f4]
        refine rel_fsend h k idx x hx fan hfan ds' yy.1 f1' f2' f3' ?_ ?_ ?_
        · intro j hg
          have := (f6 j).1 hg
          exact ⟨this.1, by simpa using this.2⟩
        · intro _ j hj hsj
          exact (f6 j).2 ⟨hj, by simp [hsj]⟩
        · intro j hj
          obtain ⟨sd, hsd, e1⟩ := List.mem_map.1 hj
          rw [List.any_eq_true]
          exact ⟨sd, hsd, by simp [e1]⟩
    · -- the session has gone: nothing is delivered
      rw [if_neg hin]
      simp only [List.filterMap_nil, deliverChanged, deliverAll_nil]
      have hwho : whoOfSid y x.sid = .closed x.sid := by
        simp only [whoOfSid]
        rw [slotOfSid_none]
        intro j hj e
        apply hin
        have := h.sess.used_sess j hj
        exact List.mem_map.2 ⟨_, this, e⟩
      rw [hwho]
      have hsd : slotDeliveries ([] : List Delivery) = some [] := rfl
      refine ⟨?_, ?_⟩
      · show monCheck m ⟨.fsend k, .fsent (.closed x.sid) y.srv.now [] _⟩ = none
        simp only [monCheck, hfan, hsd, fsCheck, List.map_nil, List.nil_append]
        rfl
      · show Rel seen _ (monNext m ⟨.fsend k, .fsent (.closed x.sid) y.srv.now [] _⟩)
        simp only [monNext, hfan, hsd]
        refine rel_fsend h k idx x hx fan hfan [] _ rfl rfl ?_ ?_ ?_ ?_
        · intro j; simp
        · intro j hg; simp at hg
        · intro hc; exact absurd hc hin
        · intro j hj; simp at hj
end Notify.Bridge
