/-!
# E14, client side: `notifications/roots/list_changed` (`mcp/client.go`: `AddRoots`, `RemoveRoots`, the
client's `changeAndNotify`, `Client.shouldSendListChangedNotification`)

The other direction of C18's first sentence: the CLIENT's feature set (its roots) changes, the sessions of
that client — one per server it is connected to — are the ones to tell.  The code that exists, transliterated:

* `AddRoots(roots…)`: nothing at all for an empty argument list; otherwise the roots are put into the set
  (replacing roots with the same URI) and the call COUNTS AS A CHANGE whatever the set held before;
* `RemoveRoots(uris…)`: `featureSet.remove` — a change iff some named URI was in the set when the loop reached it;
* `changeAndNotify`: ONE critical section under `Client.mu`: the change, the capability gate, the snapshot
  `slices.Clone(c.sessions)`; then, outside the lock, one `notifications/roots/list_changed` per snapshot entry,
  in order.  No debounce, no timer;
* the gate (`shouldSendListChangedNotification`): `opts.Capabilities == nil` ⇒ send; else `RootsV2 != nil` ⇒
  `RootsV2.ListChanged`; else `Roots.ListChanged` (regenerated fact `notify.client_roots_gate`);
* `Client.Connect` appends the session to `c.sessions` (before the handshake), `ClientSession.Close` /
  the connection's end removes it (`Client.disconnect`).
* the observation point of the harness is the SERVER's `RootsListChangedHandler`.  It runs whatever version the session
  was negotiated at (`ServerSession.handle` rejects the method only for a message that carries 2026-07-28 `_meta`, and the
  client's `notifySessions` does not stamp it): the generation is kept in the state, the model does not distinguish.

Core Lean only (linked into `drv_notify`).
-/
namespace Notify.Roots

/-- `ClientOptions.Capabilities` as far as the gate reads it -/
structure Cfg where
  /-- `opts.Capabilities == nil` -/
  capsNil : Bool := true
  /-- `caps.RootsV2`: `none` = nil pointer, `some lc` = `&RootCapabilities{ListChanged: lc}` -/
  v2 : Option Bool := none
  /-- `caps.Roots.ListChanged` (the deprecated value field) -/
  v1 : Bool := false
deriving DecidableEq, Repr

/-- `Client.shouldSendListChangedNotification(notificationRootsListChanged)` -/
def gate (c : Cfg) : Bool :=
  if c.capsNil then true else
  match c.v2 with
  | some lc => lc
  | none => c.v1

structure State where
  cfg : Cfg := {}
  /-- URIs of the roots the client holds -/
  roots : List Nat := []
  /-- `c.sessions`, in order: (session number, whether the server speaks 2026-07-28) -/
  sessions : List (Nat × Bool) := []
deriving Repr

inductive Label where
  | add (uris : List Nat)
  | remove (uris : List Nat)
  | connect (sid : Nat) (modern : Bool)
  | close (sid : Nat)
deriving DecidableEq, Repr

/-- `featureSet.remove`: the set afterwards and whether ANY named URI was present when the loop reached it -/
def removeAll : List Nat → List Nat → List Nat × Bool
  | roots, [] => (roots, false)
  | roots, u :: us =>
    let r := removeAll (roots.filter (· != u)) us
    (r.1, roots.contains u || r.2)

def addAll (roots uris : List Nat) : List Nat :=
  uris.foldl (fun acc u => if acc.contains u then acc else acc ++ [u]) roots

/-- the snapshot a change takes under the lock: whom `notifySessions` writes to, in order -/
def snapshot (s : State) (changed : Bool) : List (Nat × Bool) :=
  if changed && gate s.cfg then s.sessions else []

/-- One label; the output is the list of sessions a notification is WRITTEN to (in order). -/
def step (s : State) : Label → State × List (Nat × Bool)
  | .add uris =>
    if uris.isEmpty then (s, []) else
    let s' := { s with roots := addAll s.roots uris }
    (s', snapshot s' true)
  | .remove uris =>
    let r := removeAll s.roots uris
    let s' := { s with roots := r.1 }
    (s', snapshot s' r.2)
  | .connect sid modern =>
    if s.sessions.any (·.1 == sid) then (s, []) else
    ({ s with sessions := s.sessions ++ [(sid, modern)] }, [])
  | .close sid => ({ s with sessions := s.sessions.filter (·.1 != sid) }, [])

def run (s : State) : List Label → State × List (List (Nat × Bool))
  | [] => (s, [])
  | l :: ls =>
    let r := step s l
    let q := run r.1 ls
    (q.1, r.2 :: q.2)

/-- whose `RootsListChangedHandler` runs: every server written to, whatever generation its session has -/
def handled (ws : List (Nat × Bool)) : List Nat := ws.map (·.1)

/-! ## the monitor: the property on what the IMPLEMENTATION did

Its state is the history of the ops (which servers are connected, the roots the client was given, the
configuration), never the model's send list. -/

inductive Clause where
  /-- a connected server was not told about an effective change although the capability is enabled -/
  | missed
  /-- a notification although listChanged is disabled -/
  | disabled
  /-- a notification reached a server whose session is closed or that never connected -/
  | notEntitled
  /-- a notification although the call changed nothing (only absent URIs removed, empty AddRoots) -/
  | noChange
  /-- one call, two notifications to the same server -/
  | twice
deriving DecidableEq, Repr

structure MState where
  cfg : Cfg := {}
  roots : List Nat := []
  conn : List (Nat × Bool) := []
deriving Repr

/-- did the call change the client's roots (by the property's reading: AddRoots with roots always announces;
RemoveRoots iff it named a root the client had)? -/
def effective (m : MState) : Label → Bool
  | .add uris => !uris.isEmpty
  | .remove uris => uris.any m.roots.contains
  | _ => false

def monNext (m : MState) : Label → MState
  | .add uris => { m with roots := addAll m.roots uris }
  | .remove uris => { m with roots := m.roots.filter (fun r => !uris.contains r) }
  | .connect sid modern => if m.conn.any (·.1 == sid) then m else { m with conn := m.conn ++ [(sid, modern)] }
  | .close sid => { m with conn := m.conn.filter (·.1 != sid) }

/-- `got` = the servers whose RootsListChangedHandler ran because of this label -/
def monCheck (m : MState) (l : Label) (got : List Nat) : Option Clause :=
  let eff := effective m l
  if !got.isEmpty && !eff then some .noChange else
  if !got.isEmpty && !gate m.cfg then some .disabled else
  if got.any (fun sid => !m.conn.any (·.1 == sid)) then some .notEntitled else
  if !decide got.Nodup then some .twice else
  if eff && gate m.cfg && m.conn.any (fun p => !got.contains p.1) then some .missed else
  none

def monStep (m : MState) (l : Label) (got : List Nat) : MState × Option Clause :=
  (monNext m l, monCheck m l got)

end Notify.Roots
