import McpModel.Notify.SoundCache
/-!
# Clause soundness of the C18 monitor: held calls and cache hits

Two more histories of the monitor's state: `starts` — what the session of a slot had handled for a key when it started
the call that is still held — decides `staleCall` on the record in which a held call returns; `invalidated` — the
session handled a notification covering the key and no call for the key went to the server since — decides
`hitAfterInvalidate`.
-/
namespace Notify.Sound
open Notify Notify.Mon

/-- the record starts a call of slot `i` for `key` whose response is held -/
def IsStart (r : Rec) (i : Slot) (key : Key) : Prop :=
  ∃ mode, mode ≠ Mode.n ∧ (r = ⟨.list i key mode, .pre⟩ ∨ ∃ v, r = ⟨.list i key mode, .held v⟩)

/-- the held call of slot `i` for `key` returns -/
def IsFill (r : Rec) (i : Slot) (key : Key) : Prop := ∃ v hit, r = ⟨.fill i key, .ret v hit⟩

/-- the held call that returns in record `q` was started in record `q0` -/
def CallSpan (tr : Trace) (q0 q : Nat) (i : Slot) (key : Key) : Prop :=
  ∀ j rj, q0 < j → j < q → tr[j]? = some rj → ¬ Resets rj i ∧ ¬ IsStart rj i key ∧ ¬ IsFill rj i key

/-- a held call returns a version at least as new as every notification covering the key that the session had handled
before the call started -/
def P_fresh_held (tr : Trace) : Prop :=
  ∀ (q : Nat) (i : Slot) (key : Key) (v : Nat) (hit : Bool), tr[q]? = some (⟨.fill i key, .ret v hit⟩ : Rec) →
    ∀ (q0 : Nat) (r0 : Rec), q0 < q → tr[q0]? = some r0 → IsStart r0 i key → CallSpan tr q0 q i key →
    ∀ (p : Nat) (rp : Rec), p < q0 → tr[p]? = some rp → Delivers rp i key → SameSession tr p q0 i → announcedAt tr p key ≤ v

theorem IsStart.loud {r : Rec} {i : Slot} {key : Key} (h : IsStart r i key) : (quiet r || aside i r) = false := by
  obtain ⟨mode, hm, rfl | ⟨_, rfl⟩⟩ := h <;> simp [quiet, aside, hm]

theorem IsFill.loud {r : Rec} {i : Slot} {key : Key} (h : IsFill r i key) : (quiet r || aside i r) = false := by
  obtain ⟨_, _, rfl⟩ := h
  simp [quiet, aside]

theorem starts_step (m : MState) (r : Rec) (i : Slot) (key : Key) :
    (Resets r i ∧ ((monNext m r).slots i).starts key = 0) ∨
    (¬ Resets r i ∧
      ((((monNext m r).slots i).starts key = (m.slots i).starts key ∧ ¬ IsStart r i key ∧ ¬ IsFill r i key) ∨
       (IsStart r i key ∧ ((monNext m r).slots i).starts key = (m.slots i).maxHandled key) ∨
       (IsFill r i key ∧ ((monNext m r).slots i).starts key = 0))) := by
  have hs := monNext_slot m r i
  generalize (monNext m r).slots i = d' at hs ⊢
  by_cases hr : Resets r i
  · exact .inl ⟨hr, congrFun (hs.of_resets hr).2.2.1 key⟩
  refine .inr ⟨hr, ?_⟩
  have same : ∀ {r : Rec} {d' : MSlot}, d'.starts = (m.slots i).starts → ¬ IsStart r i key → ¬ IsFill r i key →
      (d'.starts key = (m.slots i).starts key ∧ ¬ IsStart r i key ∧ ¬ IsFill r i key) ∨
      (IsStart r i key ∧ d'.starts key = (m.slots i).maxHandled key) ∨ (IsFill r i key ∧ d'.starts key = 0) :=
    fun h1 h2 h3 => .inl ⟨congrFun h1 key, h2, h3⟩
  cases hs with
  | reset h => exact absurd h hr
  | still hq hk => exact same hk.starts (fun h => by simp [h.loud] at hq) (fun h => by simp [h.loud] at hq)
  | change f e =>
    rcases monChange_slots m f e i with h | ⟨_, _, b, h⟩ <;> rw [h]
    · exact same rfl (by simp [IsStart]) (by simp [IsFill])
    · exact same (keepsAll_changeSlot _ _ _ _).starts (by simp [IsStart]) (by simp [IsFill])
  | cbrun k t l ds => exact same ((keepsAll_cbNext m k ds i).starts.trans (by split <;> rfl)) (by simp [IsStart]) (by simp [IsFill])
  | cbstep k done => exact same (keepsAll_cbStepNext m k done i).starts (by simp [IsStart]) (by simp [IsFill])
  | fsend k a t l b fan ds =>
    exact same ((keepsAll_fsNext m k fan ds b i).starts.trans (by split <;> rfl)) (by simp [IsStart]) (by simp [IsFill])
  | fsendNone => exact same rfl (by simp [IsStart]) (by simp [IsFill])
  | rupdated u v t l ds =>
    exact same ((keepsAll_ruNext _ v ds i).starts.trans (by split <;> rfl)) (by simp [IsStart]) (by simp [IsFill])
  | fetch => exact same rfl (by simp [IsStart]) (by simp [IsFill])
  | start key' mode obs hm ho =>
    by_cases e : key' = key
    · subst e
      exact .inr (.inl ⟨⟨mode, hm, ho.imp (congrArg _) (fun ⟨v, e⟩ => ⟨v, congrArg _ e⟩)⟩, by simp [MSlot.started]⟩)
    · exact .inl ⟨by simp [MSlot.started, Ne.symm e], by simp [IsStart, e], by simp [IsFill]⟩
  | fill key' v hit =>
    by_cases e : key' = key
    · subst e
      exact .inr (.inr ⟨⟨v, hit, rfl⟩, by simp [MSlot.filled]⟩)
    · exact .inl ⟨by simp [MSlot.filled, Ne.symm e], by simp [IsStart], by simp [IsFill, e]⟩

theorem starts_at (T : Trace) (n : Nat) (hn : n ≤ T.length) (i : Slot) (key : Key) :
    ((monAt T n).slots i).starts key = 0 ∨
    ∃ q0 r0 p rp, q0 < n ∧ T[q0]? = some r0 ∧ IsStart r0 i key ∧ CallSpan T q0 n i key ∧
      p < q0 ∧ T[p]? = some rp ∧ Delivers rp i key ∧ SameSession T p q0 i ∧
      announcedAt T p key = ((monAt T n).slots i).starts key := by
  induction n with
  | zero => exact .inl rfl
  | succ n ih =>
    obtain ⟨r, hr⟩ := get_of_lt (Nat.lt_of_succ_le hn)
    rw [monAt_succ hr]
    rcases starts_step (monAt T n) r i key with ⟨_, h0⟩ | ⟨hnr, ⟨hsame, hnS, hnF⟩ | ⟨hS, hnew⟩ | ⟨_, h0⟩⟩
    · exact .inl h0
    · rw [hsame]
      exact (ih (by omega)).imp id fun ⟨q0, r0, p, rp, hq0, hget0, hst, hspan, rest⟩ =>
        ⟨q0, r0, p, rp, by omega, hget0, hst, span_succ hr hspan ⟨hnr, hnS, hnF⟩, rest⟩
    · rw [hnew]
      exact (maxHandled_at T n (by omega) i key).imp id fun ⟨p, rp, hp, hget, hdel, hss, hann⟩ =>
        ⟨n, r, p, rp, by omega, hr, hS, fun j _ h1 h2 => by omega, hp, hget, hdel, hss, hann⟩
    · exact .inl h0

/-- **history of `starts`**: what the monitor remembers of a held call is the version announced by a notification
covering the key that the session handled before it started the call that is still held -/
theorem starts_history (tr : Trace) (i : Slot) (key : Key) :
    ((monAfter {} tr).slots i).starts key = 0 ∨
    ∃ q0 r0 p rp, q0 < tr.length ∧ tr[q0]? = some r0 ∧ IsStart r0 i key ∧ CallSpan tr q0 tr.length i key ∧
      p < q0 ∧ tr[p]? = some rp ∧ Delivers rp i key ∧ SameSession tr p q0 i ∧
      announcedAt tr p key = ((monAfter {} tr).slots i).starts key := by
  rw [← monAt_length]
  exact starts_at tr tr.length (Nat.le_refl _) i key

theorem SawStaleHeld.sound (tr : Trace) (r : Rec) (h : SawStaleHeld (monAfter {} tr) r) : ¬ P_fresh_held (tr ++ [r]) := by
  intro hP
  obtain ⟨i, key, v, hit, er, hlt⟩ := h
  rw [← monAt_snoc tr r] at hlt
  rcases starts_at (tr ++ [r]) tr.length (by simp) i key with h0 | ⟨q0, r0, p, rp, hq0, hget0, hst, hspan, hp, hget, hdel, hss, hann⟩
  · omega
  · have := hP tr.length i key v hit (by rw [get_snoc_len, er]) q0 r0 hq0 hget0 hst hspan p rp hp hget hdel hss
    omega

/-- a held call returns a version older than one its session had handled before the call started -/
theorem sound_staleCall_held (tr : Trace) (r : Rec) (h : Reports tr r .staleCall)
    (hl : ∃ i key v hit, r = ⟨.fill i key, .ret v hit⟩) : ¬ P_fresh_held (tr ++ [r]) := by
  rcases monCheck_why h with ⟨_, _, _, _, _, e, _⟩ | hh
  · obtain ⟨_, _, _, _, e'⟩ := hl
    rw [e] at e'; cases e'
  · exact SawStaleHeld.sound tr r hh

/-- **staleCall, both sources**: the version a call returns — at once or after being held — is older than one announced
by a notification its session had handled before the call started -/
theorem sound_staleCall (tr : Trace) (r : Rec) (h : Reports tr r .staleCall) :
    ¬ (P_fresh_call (tr ++ [r]) ∧ P_fresh_held (tr ++ [r])) := by
  rintro ⟨h1, h2⟩
  rcases monCheck_why h with hs | hh
  · exact SawStale.sound tr r hs h1
  · exact SawStaleHeld.sound tr r hh h2


/-- the call of slot `i` for `key` is answered by the server (not from the client's cache) at once -/
def IsFetch (r : Rec) (i : Slot) (key : Key) : Prop := ∃ mode v, r = ⟨.list i key mode, .ret v false⟩

theorem iv_gotChanged (m : MState) (k : Kind) (d : MSlot) (key : Key) :
    (gotChanged m k d).invalidated key = (decide (key ∈ keysOfKind k) || d.invalidated key) := rfl

theorem IsFetch.loud {r : Rec} {i : Slot} {key : Key} (h : IsFetch r i key) : (quiet r || aside i r) = false := by
  obtain ⟨_, _, rfl⟩ := h
  simp [quiet, aside]

theorem invalidated_step (m : MState) (r : Rec) (i : Slot) (key : Key)
    (h : ((monNext m r).slots i).invalidated key = true) :
    Delivers r i key ∨ ((m.slots i).invalidated key = true ∧ ¬ Resets r i ∧ ¬ IsFetch r i key ∧ ¬ IsFill r i key) := by
  have hs := monNext_slot m r i
  generalize (monNext m r).slots i = d' at hs h
  by_cases hr : Resets r i
  · rw [(hs.of_resets hr).2.2.2] at h; cases h
  have same : ∀ {r : Rec} {d' : MSlot}, d'.invalidated key = true → d'.invalidated = (m.slots i).invalidated →
      ¬ Resets r i → ¬ IsFetch r i key → ¬ IsFill r i key →
      Delivers r i key ∨ ((m.slots i).invalidated key = true ∧ ¬ Resets r i ∧ ¬ IsFetch r i key ∧ ¬ IsFill r i key) :=
    fun h h1 h2 h3 h4 => .inr ⟨by rw [← h1]; exact h, h2, h3, h4⟩
  -- the slot handles a notification that covers `keys`
  have handled : ∀ {r : Rec} (m0 : MState) (keys : List Key), ((m.slots i).handled m0 keys).invalidated key = true →
      (key ∈ keys → Delivers r i key) → ¬ Resets r i → ¬ IsFetch r i key → ¬ IsFill r i key →
      Delivers r i key ∨ ((m.slots i).invalidated key = true ∧ ¬ Resets r i ∧ ¬ IsFetch r i key ∧ ¬ IsFill r i key) := by
    intro r m0 keys h h1 h2 h3 h4
    simp only [MSlot.handled, Bool.or_eq_true, decide_eq_true_eq] at h
    exact h.elim (fun hk => .inl (h1 hk)) (fun h => .inr ⟨h, h2, h3, h4⟩)
  cases hs with
  | reset h => exact absurd h hr
  | still hq hk => exact same h hk.invalidated hr (fun h => by simp [h.loud] at hq) (fun h => by simp [h.loud] at hq)
  | change f e =>
    rcases monChange_slots m f e i with h' | ⟨_, _, b, h'⟩ <;> rw [h'] at h
    · exact same h rfl hr (by simp [IsFetch]) (by simp [IsFill])
    · exact same h (keepsAll_changeSlot _ _ _ _).invalidated hr (by simp [IsFetch]) (by simp [IsFill])
  | cbstep k done => exact same h (keepsAll_cbStepNext m k done i).invalidated hr (by simp [IsFetch]) (by simp [IsFill])
  | fsendNone => exact same h rfl hr (by simp [IsFetch]) (by simp [IsFill])
  | start key' mode obs _ ho =>
    exact same h rfl hr (by rcases ho with rfl | ⟨_, rfl⟩ <;> simp [IsFetch]) (by simp [IsFill])
  | cbrun k t l ds hsd =>
    rw [(keepsAll_cbNext m k ds i).invalidated] at h
    split at h
    · exact handled m (keysOfKind k) h (fun hk => .inl ⟨k, ds, .inl ⟨t, l, rfl, hsd⟩, hk, any_slot.1 ‹_›⟩) hr
        (by simp [IsFetch]) (by simp [IsFill])
    · exact same h rfl hr (by simp [IsFetch]) (by simp [IsFill])
  | fsend k a t l b fan ds _ hsd =>
    rw [(keepsAll_fsNext m k fan ds b i).invalidated] at h
    split at h
    · exact handled m (keysOfKind k) h (fun hk => .inl ⟨k, ds, .inr ⟨a, t, l, b, rfl, hsd⟩, hk, any_slot.1 ‹_›⟩) hr
        (by simp [IsFetch]) (by simp [IsFill])
    · exact same h rfl hr (by simp [IsFetch]) (by simp [IsFill])
  | rupdated u v t l ds hsd =>
    rw [(keepsAll_ruNext _ v ds i).invalidated] at h
    split at h
    · exact handled _ [.read v] h (fun hk => .inr ⟨u, v, ds, ⟨t, l, rfl, hsd⟩, List.mem_singleton.1 hk, any_slot.1 ‹_›⟩) hr
        (by simp [IsFetch]) (by simp [IsFill])
    · exact same h rfl hr (by simp [IsFetch]) (by simp [IsFill])
  | fetch key' mode v =>
    have e : key ≠ key' := fun e => by simp [MSlot.fetched, e] at h
    exact same (by simpa [MSlot.fetched, e] using h) rfl hr (by simp [IsFetch, Ne.symm e]) (by simp [IsFill])
  | fill key' v hit =>
    have e : key ≠ key' := fun e => by simp [MSlot.filled, e] at h
    exact same (by simpa [MSlot.filled, e] using h) rfl hr (by simp [IsFetch]) (by simp [IsFill, Ne.symm e])


/-- once the session of a slot handled a notification covering a key, an answer from the client's cache needs a call
for that key that went to the server in between -/
def P_refetch (tr : Trace) : Prop :=
  ∀ (q : Nat) (i : Slot) (key : Key) (mode : Mode) (v : Nat), tr[q]? = some (⟨.list i key mode, .ret v true⟩ : Rec) →
    ∀ (p : Nat) (rp : Rec), p < q → tr[p]? = some rp → Delivers rp i key → SameSession tr p q i →
    ∃ j rj, p < j ∧ j < q ∧ tr[j]? = some rj ∧ (IsFetch rj i key ∨ IsFill rj i key)

theorem invalidated_at (T : Trace) (n : Nat) (hn : n ≤ T.length) (i : Slot) (key : Key)
    (h : ((monAt T n).slots i).invalidated key = true) :
    ∃ p rp, p < n ∧ T[p]? = some rp ∧ Delivers rp i key ∧ SameSession T p n i ∧
      ∀ j rj, p < j → j < n → T[j]? = some rj → ¬ IsFetch rj i key ∧ ¬ IsFill rj i key := by
  induction n with
  | zero => cases h
  | succ n ih =>
    obtain ⟨r, hr⟩ := get_of_lt (Nat.lt_of_succ_le hn)
    rw [monAt_succ hr] at h
    rcases invalidated_step (monAt T n) r i key h with hd | ⟨hold, hnr, hnS, hnF⟩
    · exact ⟨n, r, by omega, hr, hd, fun j _ h1 h2 => by omega, fun j _ h1 h2 => by omega⟩
    · obtain ⟨p, rp, hp, hget, hdel, hss, hno⟩ := ih (by omega) hold
      exact ⟨p, rp, by omega, hget, hdel, span_succ hr hss hnr, span_succ hr hno ⟨hnS, hnF⟩⟩

theorem invalidated_history (tr : Trace) (i : Slot) (key : Key)
    (h : ((monAfter {} tr).slots i).invalidated key = true) :
    ∃ p rp, p < tr.length ∧ tr[p]? = some rp ∧ Delivers rp i key ∧ SameSession tr p tr.length i ∧
      ∀ j rj, p < j → j < tr.length → tr[j]? = some rj → ¬ IsFetch rj i key ∧ ¬ IsFill rj i key :=
  invalidated_at tr tr.length (Nat.le_refl _) i key (by rwa [monAt_length])

/-- the client answered from its cache although its session had handled a notification covering the key and had not
asked the server since -/
theorem sound_hitAfterInvalidate (tr : Trace) (r : Rec) (h : Reports tr r .hitAfterInvalidate) : ¬ P_refetch (tr ++ [r]) := by
  intro hP
  obtain ⟨i, key, mode, v, er, hiv⟩ := monCheck_why h
  obtain ⟨p, rp, hp, hget, hdel, hss, hno⟩ := invalidated_at (tr ++ [r]) tr.length (by simp) i key (by rwa [monAt_snoc])
  obtain ⟨j, rj, hj1, hj2, hgetj, hf⟩ := hP tr.length i key mode v (by rw [get_snoc_len, er]) p rp hp hget hdel hss
  exact hf.elim (hno j rj hj1 hj2 hgetj).1 (hno j rj hj1 hj2 hgetj).2

end Notify.Sound
