import McpModel.Notify.Model
/-!
Server-side model: the regenerated tables are the identity (`…_diag`); what each label leaves alone (the frame table,
`step_writes`); the first inductive invariant, `InvT` (timers and debts).  `InvS` and `InvA` are in LemmasSub.
-/
namespace Notify
open Generated.Notify

/-! ### the regenerated tables are the identity (these break when /repo's switches change) -/
theorem sendGate_diag (k : Kind) : sendGate k = some k := by cases k <;> rfl
theorem listenGate_diag (k : Kind) : listenGate k = some k := by cases k <;> rfl
theorem listenTable_diag (k : Kind) : listenTable k = some k := by cases k <;> rfl
theorem subsTable_diag (k : Kind) : subsTable k = some k := by cases k <;> rfl
theorem featureKind_some (f : FSet) : ∃ k, featureKind f = some k := by cases f <;> exact ⟨_, rfl⟩
/-- The client handler of a kind invalidates the list cache of every feature set announced by that kind
(regenerated from mcp/client.go). -/
theorem invalidates_cover (f : FSet) (k : Kind) (h : featureKind f = some k) : f.cache ∈ clientInvalidates k := by
  cases f <;> cases k <;> first | (simp [clientInvalidates, FSet.cache]; done) | (simp [featureKind] at h)
/-- `resources/updated` invalidates the read cache entry (regenerated from mcp/client.go). -/
theorem updated_invalidates : updatedInvalidatesKey = true := rfl

/-- The parts of the server's state that the invariants and the theorems read (`cap` is written by no label; `now`,
which only `tick` writes, is left out).  `Label.writes` is the frame table — the parts a label may write — and
`step_writes` says that a step leaves every other part as it is.  A kept part is read off as
`(step_writes s l).2 .subs rfl`: the table is evaluated with the arguments of the label still variables. -/
inductive Field where
  | ver | cnt | sessions | timers | subs | inflight | rsubs | owed | listens | acked | rlive
deriving DecidableEq

def Label.writes : Label → List Field
  | .change .. => [.ver, .cnt, .timers, .owed]
  | .tick _ | .updated _ | .updatedNamed .. => []
  | .fireTracked _ | .fireOrphan .. => [.timers]
  | .cbrun _ => [.timers, .inflight, .owed]
  | .deliver .. => [.inflight]
  | .bind _ | .hello .. => [.sessions]
  | .listen .. => [.subs, .rsubs, .listens]
  | .listenRefused .. | .listenEnd .. => [.subs, .rsubs, .listens, .acked]
  | .listenAck .. => [.listens, .acked]
  | .subscribe .. | .unsubscribe .. => [.rsubs, .rlive]
  | .close _ => [.sessions, .subs, .rsubs, .owed, .listens, .acked, .rlive]

@[reducible] def Field.same (s s' : Server) : Field → Prop
  | .ver => s'.ver = s.ver
  | .cnt => s'.cnt = s.cnt
  | .sessions => s'.sessions = s.sessions
  | .timers => ∀ k, (s'.ks k).tracked = (s.ks k).tracked ∧ (s'.ks k).orphans = (s.ks k).orphans ∧
      (s'.ks k).pending = (s.ks k).pending
  | .subs => ∀ t, (s'.ks t).subs = (s.ks t).subs
  | .inflight => ∀ k, (s'.ks k).inflight = (s.ks k).inflight
  | .rsubs => s'.rsubs = s.rsubs
  | .owed => s'.owed = s.owed
  | .listens => s'.listens = s.listens
  | .acked => s'.acked = s.acked
  | .rlive => s'.rlive = s.rlive

def Writes (w : List Field) (s s' : Server) : Prop := s'.cap = s.cap ∧ ∀ f, w.contains f = false → f.same s s'

/-- a state written as a record update of `s` in parts of `w`: every other part is the same by `rfl` -/
macro "frame_rfl" : tactic =>
  `(tactic| exact ⟨rfl, fun f hf => by
      cases f <;> first | rfl | exact fun _ => rfl | exact fun _ => ⟨rfl, rfl, rfl⟩ | cases hf⟩)

theorem Writes.refl (w : List Field) (s : Server) : Writes w s s := by frame_rfl

theorem Writes.trans {w : List Field} {a b c : Server} (h1 : Writes w a b) (h2 : Writes w b c) : Writes w a c := by
  refine ⟨h2.1.trans h1.1, fun f hf => ?_⟩
  have x := h1.2 f hf; have y := h2.2 f hf
  cases f
  case timers => exact fun k => ⟨(y k).1.trans (x k).1, (y k).2.1.trans (x k).2.1, (y k).2.2.trans (x k).2.2⟩
  case subs => exact fun k => (y k).trans (x k)
  case inflight => exact fun k => (y k).trans (x k)
  all_goals exact Eq.trans y x

theorem Writes.mono {w w' : List Field} {s s' : Server} (h : Writes w s s')
    (hw : ∀ f, w'.contains f = false → w.contains f = false) : Writes w' s s' :=
  ⟨h.1, fun f hf => h.2 f (hw f hf)⟩

theorem setK_writes (s : Server) (k : Kind) (g : KState → KState) {w : List Field} (hs : ∀ st, (g st).subs = st.subs)
    (ht : w.contains .timers = false → ∀ st, (g st).tracked = st.tracked ∧ (g st).orphans = st.orphans ∧ (g st).pending = st.pending)
    (hi : w.contains .inflight = false → ∀ st, (g st).inflight = st.inflight) : Writes w s (setK s k g) := by
  refine ⟨rfl, fun f hf => ?_⟩
  cases f
  case timers => intro k'; simp only [setK]; split; exact ht hf _; exact ⟨rfl, rfl, rfl⟩
  case subs => intro k'; simp only [setK]; split; exact hs _; rfl
  case inflight => intro k'; simp only [setK]; split; exact hi hf _; rfl
  all_goals rfl

theorem listen_writes (s : Server) (sid id : Nat) (kinds : List Kind) (uris : List Nat) :
    Writes [.subs, .rsubs, .listens] s (listen s sid id kinds uris) := by
  simp only [listen]; split
  · frame_rfl
  · exact .refl _ _

theorem listenEnd_writes (s : Server) (sid id : Nat) :
    Writes [.subs, .rsubs, .listens, .acked] s (listenEnd s sid id) := by
  simp only [listenEnd]; split
  · exact .refl _ _
  · frame_rfl

theorem listenEnd_rlive (s : Server) (sid id : Nat) : (listenEnd s sid id).rlive = s.rlive :=
  (listenEnd_writes s sid id).2 .rlive rfl

theorem step_writes (s : Server) (l : Label) : Writes l.writes s (step s l).1 := by
  cases l with
  | change f e =>
    have hb : Writes [.ver, .cnt, .timers, .owed] s (bumpVer s f e) := by frame_rfl
    simp only [step, change]; split
    · exact .refl _ _
    split
    · exact hb
    simp only [notifyChange]; split
    · simp only [arm]; split
      · exact hb.trans (setK_writes _ _ _ (fun _ => rfl) nofun (fun _ _ => rfl))
      · refine hb.trans (.trans (setK_writes _ ‹Kind› (fun st => { st with tracked := some (some ((bumpVer s f e).now + delay)) })
          (fun _ => rfl) nofun (fun _ _ => rfl)) ?_)
        frame_rfl
    · exact hb
  | tick d => frame_rfl
  | fireTracked k =>
    simp only [step, fireTracked]; split
    · split
      · exact setK_writes _ _ _ (fun _ => rfl) nofun (fun _ _ => rfl)
      · exact .refl _ _
    · exact .refl _ _
  | fireOrphan k i =>
    simp only [step, fireOrphan]; split
    · split
      · exact setK_writes _ _ _ (fun _ => rfl) nofun (fun _ _ => rfl)
      · exact .refl _ _
    · exact .refl _ _
  | cbrun k =>
    simp only [step, cbrun]; split
    · exact .refl _ _
    · refine .trans (setK_writes s k (fun st => { st with
        pending := st.pending - 1, tracked := none,
        orphans := (match st.tracked with | some (some d) => d :: st.orphans | _ => st.orphans),
        inflight := st.inflight ++ sendList s k }) (fun _ => rfl) nofun nofun) ?_
      frame_rfl
  | deliver k i =>
    simp only [step, deliver]; split
    · exact .refl _ _
    · exact setK_writes _ _ _ (fun _ => rfl) (fun _ _ => ⟨rfl, rfl, rfl⟩) nofun
  | bind sid => simp only [step, bind]; split; exact .refl _ _; frame_rfl
  | hello sid m => simp only [step, hello]; split; frame_rfl; exact .refl _ _
  | listen a b c d => exact listen_writes s a b c d
  | listenRefused a b c d n =>
    simp only [step, listenRefused]; split
    · exact ((listen_writes s a b c _).mono (fun f hf => by cases f <;> first | rfl | cases hf)).trans (listenEnd_writes _ a b)
    · exact .refl _ _
  | listenAck a b =>
    simp only [step, listenAck]; split
    · exact .refl _ _
    · split
      · exact .refl _ _
      · split <;> frame_rfl
  | listenEnd a b => exact listenEnd_writes s a b
  | subscribe a b c => simp only [step, subscribe]; split; frame_rfl; exact .refl _ _
  | unsubscribe a b => simp only [step, unsubscribe]; split; frame_rfl; exact .refl _ _
  | close a => frame_rfl
  | updated u => exact .refl _ _
  | updatedNamed u v => exact .refl _ _

theorem step_cap (s : Server) (l : Label) : (step s l).1.cap = s.cap := (step_writes s l).1

structure InvT (s : Server) : Prop where
  owed_sess : ∀ p ∈ s.owed, p.1 ∈ s.sessions.map Prod.fst
  no_lost : ∀ p ∈ s.owed, active (s.ks p.2)
  off_idle : ∀ k, gateSend s k = false →
    (s.ks k).tracked = none ∧ (s.ks k).orphans = [] ∧ (s.ks k).pending = 0

theorem invT_init (cap : Kind → Cap) : InvT (init cap) := by
  constructor <;> simp [init]

theorem invT_bumpVer (s : Server) (f : FSet) (e : Eff) (h : InvT s) : InvT (bumpVer s f e) :=
  ⟨h.1, h.2, h.3⟩

theorem InvT.move {s : Server} (h : InvT s) (k : Kind) (f : KState → KState) (owed' : List (Nat × Kind))
    (hg : gateSend s k = true) (hs : ∀ p ∈ owed', p.1 ∈ s.sessions.map Prod.fst) (ho : ∀ p ∈ owed', p.2 ≠ k → p ∈ s.owed)
    (hact : ∀ p ∈ owed', p.2 = k → active (f (s.ks k))) : InvT { setK s k f with owed := owed' } := by
  refine ⟨hs, fun p hp => ?_, fun k' hk' => ?_⟩
  · by_cases e : p.2 = k
    · simpa [setK, e] using hact p hp e
    · simpa [setK, e] using h.2 p (ho p hp e)
  · have hk'' : gateSend s k' = false := hk'
    have hne : k' ≠ k := by intro e; subst e; simp [hg] at hk''
    simpa [setK, hne] using h.3 k' hk''

theorem invT_arm (s : Server) (k : Kind) (hg : gateSend s k = true) (h : InvT s) : InvT (arm s k) := by
  unfold arm
  split
  · rename_i hs
    refine h.move k (fun st => { st with tracked := none }) s.owed hg h.1 (fun _ hp _ => hp) fun p hp _ => ?_
    have := h.1 p hp; simp [hs] at this
  · refine h.move k _ _ hg (fun p hp => ?_) (fun p hp e => ?_) (fun _ _ _ => by simp [active])
    · rcases List.mem_append.1 hp with hp | hp
      · exact h.1 p hp
      · obtain ⟨q, hq, rfl⟩ := List.mem_map.1 hp; exact List.mem_map.2 ⟨q, hq, rfl⟩
    · rcases List.mem_append.1 hp with hp | hp
      · exact hp
      · obtain ⟨q, hq, rfl⟩ := List.mem_map.1 hp; exact absurd rfl e

theorem change_armed (s : Server) (f : FSet) (e : Eff) (k : Kind)
    (he : ¬(e = .noop ∨ (e = .remove ∧ s.cnt f = 0))) (hk : featureKind f = some k)
    (hg : gateSend s k = true) (hs : s.sessions ≠ []) :
    change s f e = { setK (bumpVer s f e) k (fun st => { st with tracked := some (some (s.now + delay)) }) with
      owed := s.owed ++ s.sessions.map (fun p => (p.1, k)) } := by
  have hg' : gateSend (bumpVer s f e) k = true := hg
  have hs' : ¬ (bumpVer s f e).sessions = [] := hs
  simp only [change, he, if_false, hk, notifyChange, hg', if_true, arm, hs']
  rfl

theorem invT_change (s : Server) (f : FSet) (e : Eff) (h : InvT s) : InvT (change s f e) := by
  unfold change
  split
  · exact h
  · split
    · exact invT_bumpVer s f e h
    · rename_i k _
      unfold notifyChange
      split
      · rename_i hg; exact invT_arm _ k hg (invT_bumpVer s f e h)
      · exact invT_bumpVer s f e h

theorem InvT.frame {s s' : Server} (h : InvT s) (hc : s'.cap = s.cap)
    (ho : ∀ p ∈ s'.owed, p ∈ s.owed ∧ p.1 ∈ s'.sessions.map Prod.fst)
    (hk : ∀ k, (s'.ks k).tracked = (s.ks k).tracked ∧ (s'.ks k).orphans = (s.ks k).orphans ∧
      (s'.ks k).pending = (s.ks k).pending) : InvT s' := by
  refine ⟨fun p hp => (ho p hp).2, ?_, ?_⟩
  · intro p hp
    have := h.2 p (ho p hp).1
    obtain ⟨a, b, c⟩ := hk p.2
    simpa [active, a, b, c] using this
  · intro k hg
    obtain ⟨a, b, c⟩ := hk k
    rw [a, b, c]
    exact h.3 k (by simpa [gateSend, hc] using hg)

theorem InvT.same {s s' : Server} (h : InvT s) (hc : s'.cap = s.cap) (ho : s'.owed = s.owed) (hs : s'.sessions = s.sessions)
    (hk : ∀ k, (s'.ks k).tracked = (s.ks k).tracked ∧ (s'.ks k).orphans = (s.ks k).orphans ∧
      (s'.ks k).pending = (s.ks k).pending) : InvT s' :=
  h.frame hc (fun p hp => by rw [ho] at hp; exact ⟨hp, by rw [hs]; exact h.1 p hp⟩) hk

theorem InvT.gate_of_busy {s : Server} (h : InvT s) {k : Kind}
    (hbusy : ¬((s.ks k).tracked = none ∧ (s.ks k).orphans = [] ∧ (s.ks k).pending = 0)) : gateSend s k = true := by
  cases hg : gateSend s k
  · exact absurd (h.3 k hg) hbusy
  · rfl

/-- a kind that is busy has its capability switched on (`off_idle`), so `InvT.move` applies to a timer that fires -/
theorem InvT.fire {s : Server} (h : InvT s) (k : Kind) (f : KState → KState) (hact : active (f (s.ks k)))
    (hbusy : ¬((s.ks k).tracked = none ∧ (s.ks k).orphans = [] ∧ (s.ks k).pending = 0)) : InvT (setK s k f) :=
  h.move k f s.owed (h.gate_of_busy hbusy) h.1 (fun _ hp _ => hp) (fun _ _ _ => hact)

theorem invT_fireTracked (s : Server) (k : Kind) (h : InvT s) : InvT (fireTracked s k) := by
  unfold fireTracked
  split
  · rename_i d hd
    split
    · exact h.fire k _ (by simp [active]) (fun e => by simp [hd] at e)
    · exact h
  · exact h

theorem invT_fireOrphan (s : Server) (k : Kind) (i : Nat) (h : InvT s) : InvT (fireOrphan s k i) := by
  unfold fireOrphan
  split
  · rename_i d hd
    split
    · exact h.fire k _ (by simp [active]) (fun e => by simp [e.2.1] at hd)
    · exact h
  · exact h

theorem invT_cbrun (s : Server) (k : Kind) (h : InvT s) : InvT (cbrun s k).1 := by
  unfold cbrun
  split
  · exact h
  · rename_i hp0
    refine h.move k _ _ (h.gate_of_busy fun e => hp0 e.2.2) (fun p hp => h.1 p (List.mem_filter.1 hp).1)
      (fun p hp _ => (List.mem_filter.1 hp).1) (fun p hp e => ?_)
    simp [e] at hp

theorem invT_bind (s : Server) (sid : Nat) (h : InvT s) : InvT (bind s sid) := by
  unfold bind
  split
  · exact h
  · refine h.frame rfl ?_ (fun k => ⟨rfl, rfl, rfl⟩)
    intro p hp
    refine ⟨hp, ?_⟩
    have := h.1 p hp
    simp at this ⊢
    obtain ⟨x, hx⟩ := this
    exact Or.inl ⟨x, hx⟩

theorem map_fst_hello (l : List (Nat × Gen)) (sid : Nat) (g : Gen) :
    (l.map (fun p => if p.1 = sid then (sid, g) else p)).map Prod.fst = l.map Prod.fst := by
  induction l with
  | nil => rfl
  | cons a t ih =>
    simp only [List.map_cons, ih]
    by_cases e : a.1 = sid <;> simp [e]

theorem invT_hello (s : Server) (sid : Nat) (m : Bool) (h : InvT s) : InvT (hello s sid m) := by
  unfold hello
  split
  · refine h.frame rfl ?_ (fun k => ⟨rfl, rfl, rfl⟩)
    intro p hp
    refine ⟨hp, ?_⟩
    simp only [map_fst_hello]
    exact h.1 p hp
  · exact h

theorem invT_close (s : Server) (sid : Nat) (h : InvT s) : InvT (close s sid) := by
  refine h.frame rfl ?_ (fun k => ⟨rfl, rfl, rfl⟩)
  intro p hp
  simp [close] at hp ⊢
  refine ⟨hp.1, ?_⟩
  have := h.1 p hp.1
  simp at this
  obtain ⟨x, hx⟩ := this
  exact ⟨⟨x, hx⟩, hp.2⟩

theorem invT_step (s : Server) (l : Label) (h : InvT s) : InvT (step s l).1 := by
  have hw := step_writes s l
  cases l with
  | change f e => exact invT_change s f e h
  | fireTracked k => exact invT_fireTracked s k h
  | fireOrphan k i => exact invT_fireOrphan s k i h
  | cbrun k => exact invT_cbrun s k h
  | bind sid => exact invT_bind s sid h
  | hello sid m => exact invT_hello s sid m h
  | close sid => exact invT_close s sid h
  | _ => exact h.same hw.1 (hw.2 .owed rfl) (hw.2 .sessions rfl) (hw.2 .timers rfl)
