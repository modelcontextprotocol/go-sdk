import McpModel.Notify.Cache
import McpModel.Base.Logic
/-!
Client-side model: the invariant of the cache along a run, where a returned version comes from (`step_ret`, `step_fresh`),
and the ghost `handled`.
-/
namespace Notify.Cache

/-- With the generation check (`fixed = true`).  No version the client holds is ahead of the server; an entry is at least as
new as every notification handled for its key (`entry_fresh`).  F7's argument is the second half of `fill_resp`: a response
whose call read the still-current generation has seen no invalidation since, and `fill` stores only such a response. -/
structure Inv (s : State) : Prop where
  inbox_le : ∀ n ∈ s.inbox, ∀ k, n.vers k ≤ s.srv k
  handled_le : ∀ k, s.handled k ≤ s.srv k
  entry_fresh : ∀ p ∈ s.entries, s.handled p.1 ≤ p.2.v
  fill_gen : ∀ f ∈ s.fills, f.gen ≤ s.gen
  fill_start : ∀ f ∈ s.fills, f.startMax ≤ s.srv f.key
  fill_resp : ∀ f ∈ s.fills, ∀ v ttl, f.stage = .responded v ttl → f.startMax ≤ v ∧ (f.gen = s.gen → s.handled f.key ≤ v)

theorem inv_init : Inv {} := by
  constructor <;> simp

theorem inv_step (s : State) (l : Label) (h : Inv s) : Inv (step true s l).1 := by
  obtain ⟨h1, h2, h3, h4, h5, h6⟩ := h
  cases l with
  | tick d => exact ⟨h1, h2, h3, h4, h5, h6⟩
  | sub k => exact ⟨h1, h2, h3, h4, h5, h6⟩
  | unsub k => exact ⟨h1, h2, h3, h4, h5, h6⟩
  | bump p =>
    refine ⟨?_, ?_, h3, h4, ?_, h6⟩
    · intro n hn k; have := h1 n hn k; simp [step]; split <;> omega
    · intro k; have := h2 k; simp [step]; split <;> omega
    · intro f hf; have := h5 f hf; simp [step]; split <;> omega
  | announce sc =>
    refine ⟨?_, h2, h3, h4, h5, h6⟩
    intro n hn k
    simp [step] at hn
    rcases hn with hn | hn
    · exact h1 n hn k
    · subst hn; simp [step]
  | handle i =>
    simp only [step, handle]
    cases hi : s.inbox[i]? with
    | none => exact ⟨h1, h2, h3, h4, h5, h6⟩
    | some n =>
      have hn : n ∈ s.inbox := List.mem_of_getElem? hi
      refine ⟨?_, ?_, ?_, ?_, h5, ?_⟩
      · intro m hm k; exact h1 m (List.mem_of_mem_eraseIdx hm) k
      · intro k; simp; split
        · have := h1 n hn k; have := h2 k; omega
        · exact h2 k
      · intro p hp; simp at hp; simp [hp.2]; exact h3 p hp.1
      · intro f hf; have := h4 f hf; simp; omega
      · intro f hf v ttl hs
        refine ⟨(h6 f hf v ttl hs).1, ?_⟩
        intro hg; have := h4 f hf; simp at hg; omega
  | listStart k =>
    simp only [step, listStart]
    cases hl : s.entries.lookup k with
    | none =>
      refine ⟨h1, h2, h3, ?_, ?_, ?_⟩
      · intro f hf; simp at hf; rcases hf with hf | hf
        · exact h4 f hf
        · subst hf; simp
      · intro f hf; simp at hf; rcases hf with hf | hf
        · exact h5 f hf
        · subst hf; exact h2 k
      · intro f hf v ttl hs; simp at hf; rcases hf with hf | hf
        · exact h6 f hf v ttl hs
        · subst hf; simp at hs
    | some e =>
      simp only []
      split
      · exact ⟨h1, h2, h3, h4, h5, h6⟩
      · refine ⟨h1, h2, ?_, ?_, ?_, ?_⟩
        · intro p hp; simp at hp; exact h3 p hp.1
        · intro f hf; simp at hf; rcases hf with hf | hf
          · exact h4 f hf
          · subst hf; simp
        · intro f hf; simp at hf; rcases hf with hf | hf
          · exact h5 f hf
          · subst hf; exact h2 k
        · intro f hf v ttl hs; simp at hf; rcases hf with hf | hf
          · exact h6 f hf v ttl hs
          · subst hf; simp at hs
  | serve i ttl =>
    simp only [step, serve]
    cases hi : s.fills[i]? with
    | none => exact ⟨h1, h2, h3, h4, h5, h6⟩
    | some f =>
      have hf : f ∈ s.fills := List.mem_of_getElem? hi
      cases hst : f.stage with
      | responded v t => simp only [hst]; exact ⟨h1, h2, h3, h4, h5, h6⟩
      | sent =>
        simp only [hst]
        refine ⟨h1, h2, h3, ?_, ?_, ?_⟩
        · intro g hg
          rcases List.mem_or_eq_of_mem_set hg with hg | hg
          · exact h4 g hg
          · subst hg; exact h4 f hf
        · intro g hg
          rcases List.mem_or_eq_of_mem_set hg with hg | hg
          · exact h5 g hg
          · subst hg; exact h5 f hf
        · intro g hg v t hs
          rcases List.mem_or_eq_of_mem_set hg with hg | hg
          · exact h6 g hg v t hs
          · subst hg; simp at hs; obtain ⟨rfl, rfl⟩ := hs
            exact ⟨h5 f hf, fun _ => h2 f.key⟩
  | fill i =>
    simp only [step, fill]
    cases hi : s.fills[i]? with
    | none => exact ⟨h1, h2, h3, h4, h5, h6⟩
    | some f =>
      have hf : f ∈ s.fills := List.mem_of_getElem? hi
      cases hst : f.stage with
      | sent => simp only [hst]; exact ⟨h1, h2, h3, h4, h5, h6⟩
      | responded v t =>
        simp only [hst]
        refine ⟨h1, h2, ?_, ?_, ?_, ?_⟩
        · intro p hp
          simp at hp
          split at hp
          · simp at hp; rcases hp with hp | hp
            · exact h3 p hp.1
            · subst hp; rename_i hg; exact (h6 f hf v t hst).2 hg
          · exact h3 p hp
        · intro g hg; exact h4 g (List.mem_of_mem_eraseIdx hg)
        · intro g hg; exact h5 g (List.mem_of_mem_eraseIdx hg)
        · intro g hg; exact h6 g (List.mem_of_mem_eraseIdx hg)

theorem step_ret {fixed : Bool} {s : State} {l : Label} {k v m : Nat} {hit : Bool}
    (h : Out.ret k v m hit ∈ (step fixed s l).2) :
    (hit = true ∧ m = s.handled k ∧ ∃ e, s.entries.lookup k = some e ∧ e.v = v ∧ e.valid s.now = true) ∨
    (hit = false ∧ ∃ f ∈ s.fills, ∃ ttl, f.stage = .responded v ttl ∧ f.key = k ∧ f.startMax = m) := by
  cases l <;> simp only [step] at h <;> try (cases h; done)
  case listStart k' =>
    simp only [listStart] at h
    split at h
    · rename_i e he
      split at h
      · obtain ⟨rfl, rfl, rfl, rfl⟩ : k = k' ∧ v = e.v ∧ m = s.handled k' ∧ hit = true := by simpa using h
        exact .inl ⟨rfl, rfl, e, he, rfl, ‹_›⟩
      · cases h
    · cases h
  case fill i =>
    simp only [fill] at h
    split at h
    · rename_i f hf
      split at h
      · rename_i v' ttl hst
        obtain ⟨rfl, rfl, rfl, rfl⟩ : k = f.key ∧ v = v' ∧ m = f.startMax ∧ hit = false := by simpa using h
        exact .inr ⟨rfl, f, List.mem_of_getElem? hf, ttl, hst, rfl, rfl⟩
      · cases h
    · cases h

theorem inv_run (s : State) (ls : List Label) (h : Inv s) : Inv (run true s ls).1 := by
  induction ls generalizing s with
  | nil => exact h
  | cons l ls ih => simp only [run]; exact ih _ (inv_step s l h)

theorem step_fresh (s : State) (l : Label) (h : Inv s) :
    ∀ k v m hit, Out.ret k v m hit ∈ (step true s l).2 → m ≤ v := by
  intro k v m hit ho
  rcases step_ret ho with ⟨_, rfl, e, he, rfl, _⟩ | ⟨_, f, hf, ttl, hst, rfl, rfl⟩
  · exact h.entry_fresh (k, e) (List.mem_of_lookup_eq_some he)
  · exact (h.fill_resp f hf _ _ hst).1

/-- Meaning of the ghost `handled`: handling a notification that covers `k` raises it to at least
the server version the notification announced (`vers` = `srv` at the `announce` label). -/
theorem handled_announced (s : State) (i : Nat) (n : Notif) (h : s.inbox[i]? = some n) (k : Nat)
    (hc : n.covers k = true) : n.vers k ≤ (handle s i).handled k := by
  simp [handle, h, hc]; omega

theorem handled_mono (fixed : Bool) (s : State) (l : Label) (k : Nat) :
    s.handled k ≤ (step fixed s l).1.handled k := by
  cases l <;> simp only [step] <;> try exact Nat.le_refl _
  case handle i =>
    simp only [handle]; split
    · exact Nat.le_refl _
    · simp; split <;> omega
  case listStart k' => simp only [listStart]; split; split <;> exact Nat.le_refl _; exact Nat.le_refl _
  case serve i ttl => simp only [serve]; split; split <;> exact Nat.le_refl _; exact Nat.le_refl _
  case fill i => simp only [fill]; split; split <;> exact Nat.le_refl _; exact Nat.le_refl _

end Notify.Cache
