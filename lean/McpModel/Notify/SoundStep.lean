import McpModel.Notify.SoundTruth
/-!
# Clause soundness of the C18 monitor: how one record moves the monitor's state

`monNext_step` says what `monNext m r` can be (`Step`); the histories of the monitor's notes go by cases on `Step`, never on
`monNext`.  That an event of the property's vocabulary is not quiet is a lemma `….loud` next to its definition.
-/
namespace Notify.Sound
open Notify Notify.Mon

/-- The record is none of the events the property speaks of; it moves at most the monitor's notes of subscriptions and the
versions of resources.  The patterns must stay those of `monNext`, in order: `monNext_step` evaluates `quiet` in each case
of `monNext`, the last (no pattern matches) included, without looking at the record again. -/
def quiet (r : Rec) : Bool :=
  match r.op, r.obs with
  | .config _ _ _ _, _ => false
  | .change _ _, .ok => false
  | .cbrun _, .sent _ ds => (slotDeliveries ds).isNone
  | .policy _ _, _ => true
  | .cbstep _, .fan _ => false
  | .fsend _, .fsent _ _ ds _ => (slotDeliveries ds).isNone
  | .canceldone _ _, .ok => true
  | .connect _ _ _ _, obs => !obs.isOk
  | .listen _ _, .ack _ _ _ => true
  | .xlisten _ _ _ _ _, .ack _ _ _ => true
  | .xlisten _ _ _ _ _, .noack => true
  | .xend _ _ _, .ok => true
  | .subscribe _ _ _, _ => true
  | .ackdone _ _, _ => true
  | .unsubscribe _ _ _, .ok => true
  | .unsubscribe _ _ _, .okCancelHeld => true
  | .close _, .ok => false
  | .rupdated _ _, .sent _ ds => (slotDeliveries ds).isNone
  | .rupdated _ _, _ => true
  | .list _ _ mode, obs =>
    (match obs with
     | .ret _ hit => hit
     | .pre | .held _ => mode == .n
     | _ => true)
  | .fill _ _, .ret _ _ => false
  | .tables, .tables _ => true
  | _, _ => true

/-- `d'` has the four notes of `d` that the histories read -/
structure Keeps (d d' : MSlot) : Prop where
  owed : d'.owed = d.owed
  maxHandled : d'.maxHandled = d.maxHandled
  starts : d'.starts = d.starts
  invalidated : d'.invalidated = d.invalidated

theorem Keeps.rfl {d : MSlot} : Keeps d d := ⟨.refl _, .refl _, .refl _, .refl _⟩

/-- the ground-truth part of the monitor's slot -/
def proj (d : MSlot) : TSlot := ⟨d.connected, d.modern, d.listens, d.luris, d.window, d.csubs⟩

structure KeepsAll (d d' : MSlot) : Prop extends Keeps d d' where
  proj : proj d' = proj d

theorem KeepsAll.rfl {d : MSlot} : KeepsAll d d := ⟨.rfl, .refl _⟩

theorem keepsAll_endListen (d : MSlot) (x : Nat) :
    KeepsAll { d with listens := d.listens.filter (·.id != x) } (d.endListen x) := by
  simp only [MSlot.endListen]; split
  · rename_i hn
    rw [List.filter_eq_self.2 fun l hl => by simpa using List.find?_eq_none.1 hn l hl]
    exact .rfl
  · exact ⟨⟨rfl, rfl, rfl, rfl⟩, rfl⟩

theorem keepsAll_addListen (d : MSlot) (id : Nat) (ks : List Kind) (us : List Nat) (p : Bool) :
    KeepsAll { d with listens := if ks.isEmpty && us.isEmpty then d.listens else d.listens.filter (·.id != id) ++ [⟨id, ks, us⟩],
                      window := if p then d.window ++ [id] else d.window } (withWindow (d.addListen id ks us) p id) := by
  simp only [MSlot.addListen, withWindow]; split <;> exact ⟨⟨rfl, rfl, rfl, rfl⟩, rfl⟩

theorem keeps_endListen (d : MSlot) (x : Nat) : Keeps d (d.endListen x) :=
  have h := keepsAll_endListen d x; ⟨h.owed, h.maxHandled, h.starts, h.invalidated⟩

theorem keeps_addListen (d : MSlot) (id : Nat) (ks : List Kind) (us : List Nat) (p : Bool) :
    Keeps d (withWindow (d.addListen id ks us) p id) :=
  have h := keepsAll_addListen d id ks us p; ⟨h.owed, h.maxHandled, h.starts, h.invalidated⟩

theorem keeps_setSlot {m : MState} {c : Slot} {d' : MSlot} (h : Keeps (m.slots c) d') (i : Slot) :
    Keeps (m.slots i) ((m.setSlot c d').slots i) := by
  simp only [MState.setSlot]; split
  · subst i; exact h
  · exact .rfl

theorem KeepsAll.trans {a b c : MSlot} (h1 : KeepsAll a b) (h2 : KeepsAll b c) : KeepsAll a c :=
  ⟨⟨h2.owed.trans h1.owed, h2.maxHandled.trans h1.maxHandled, h2.starts.trans h1.starts, h2.invalidated.trans h1.invalidated⟩,
    h2.proj.trans h1.proj⟩

theorem keepsAll_foldl {α} (f : MSlot → α → MSlot) (hf : ∀ d a, KeepsAll d (f d a)) (l : List α) (d : MSlot) :
    KeepsAll d (l.foldl f d) := by
  induction l generalizing d with
  | nil => exact .rfl
  | cons a t ih => exact (hf d a).trans (ih (f d a))

theorem keepsAll_tbNext (m : MState) (tb : Tables) (i : Slot) : KeepsAll (m.slots i) ((tbNext m tb).slots i) := by
  simp only [tbNext]
  split
  · exact .rfl
  · exact (keepsAll_foldl _ (fun d k => by split <;> exact ⟨⟨rfl, rfl, rfl, rfl⟩, rfl⟩) _ _).trans
      (keepsAll_foldl _ (fun d u => by split <;> exact ⟨⟨rfl, rfl, rfl, rfl⟩, rfl⟩) _ _)

theorem keepsAll_cbNext (m : MState) (k : Kind) (ds : List SDelivery) (i : Slot) :
    KeepsAll (if ds.any (·.slot == i) then gotChanged m k (m.slots i) else
        { m.slots i with owed := if (m.slots i).owed.contains k && entitledNow (m.slots i) k then (m.slots i).owed
                                 else (m.slots i).owed.filter (· != k) })
      ((cbNext m k ds).slots i) := by
  simp only [cbNext]
  split
  · exact .rfl
  · split <;> exact ⟨⟨rfl, rfl, rfl, rfl⟩, rfl⟩

theorem keepsAll_cbStepNext (m : MState) (k : Kind) (done : Bool) (i : Slot) :
    KeepsAll { m.slots i with owed := if (fanExpect m k).any (·.1 == i) then (m.slots i).owed else (m.slots i).owed.filter (· != k) }
      ((cbStepNext m k done).slots i) := by
  cases done
  · simp only [cbStepNext, Bool.false_eq_true, if_false]; split <;> exact ⟨⟨rfl, rfl, rfl, rfl⟩, rfl⟩
  · by_cases he : (fanExpect m k).any (·.1 == i) = true
    · simp only [cbStepNext, if_true, he, Bool.true_and]; split <;> exact ⟨⟨rfl, rfl, rfl, rfl⟩, rfl⟩
    · simp only [cbStepNext, if_true, he, Bool.false_and, Bool.false_eq_true, if_false]; exact ⟨⟨rfl, rfl, rfl, rfl⟩, rfl⟩

theorem keepsAll_fsNext (m : MState) (k : Kind) (fan : MFan) (ds : List SDelivery) (done : Bool) (i : Slot) :
    KeepsAll (if ds.any (·.slot == i) then gotChanged m k (m.slots i) else m.slots i) ((fsNext m k fan ds done).slots i) := by
  cases done
  · simp only [fsNext, Bool.false_eq_true, if_false]; split <;> exact .rfl
  · simp only [fsNext, if_true]
    split <;> split <;> exact ⟨⟨rfl, rfl, rfl, rfl⟩, rfl⟩

theorem keepsAll_ruNext (m : MState) (v : Nat) (ds : List SDelivery) (i : Slot) :
    KeepsAll (if ds.any (·.slot == i) then (m.slots i).handled m [.read v] else m.slots i) ((ruNext m v ds).slots i) := by
  simp only [ruNext]
  split
  · split <;> exact ⟨⟨rfl, rfl, rfl, rfl⟩, rfl⟩
  · exact .rfl

theorem keepsAll_changeSlot (k : Kind) (b mx : Bool) (d : MSlot) :
    KeepsAll { d with owed := if d.connected && !d.owed.contains k then d.owed ++ [k] else d.owed } (changeSlot k b mx d) := by
  simp only [changeSlot]
  split <;> split <;> exact ⟨⟨by simp [*], rfl, rfl, rfl⟩, rfl⟩

theorem monChange_fans (m : MState) (f : FSet) (e : Eff) : (monChange m f e).fans = m.fans := by
  simp only [monChange]
  split
  · rfl
  · split <;> rfl

theorem monChange_slots (m : MState) (f : FSet) (e : Eff) (i : Slot) :
    (monChange m f e).slots i = m.slots i ∨
    ((e == .noop || (e == .remove && m.cnt f == 0)) = false ∧ m.cap (kindOfFSet f) ≠ .off ∧
      ∃ b, (monChange m f e).slots i = changeSlot (kindOfFSet f) b (mixedOf e) (m.slots i)) := by
  simp only [monChange]
  split
  · exact .inl rfl
  · rename_i he
    split
    · exact .inl rfl
    · rename_i hc
      exact .inr ⟨by simpa using he, by simpa using hc, _, rfl⟩

/-- A quiet record keeps the held fan-outs and every slot's four notes (`Keeps`); the other twelve shapes have their next
state written out by the monitor's own bookkeeping functions. -/
inductive Step (m : MState) : Rec → MState → Prop
  | quiet {r : Rec} {m' : MState} : quiet r = true → m'.fans = m.fans → (∀ i, Keeps (m.slots i) (m'.slots i)) → Step m r m'
  | config (a b c : Cap) (hk : Bool) (obs : Obs) : Step m ⟨.config a b c hk, obs⟩ (freshState a b c)
  | connect (c : Slot) (sid : Nat) (mo : Bool) (mask : List Kind) (obs : Obs) : obs.isOk = true →
      Step m ⟨.connect c sid mo mask, obs⟩ (m.setSlot c { connected := true, modern := mo })
  | close (c : Slot) : Step m ⟨.close c, .ok⟩ { (m.setSlot c {}) with fans := fun k => (m.fans k).map (fun f =>
      { f with expect := f.expect.filter (·.1 != c), served := f.served.filter (· != c) }) }
  | change (f : FSet) (e : Eff) : Step m ⟨.change f e, .ok⟩ (monChange m f e)
  | cbrun (k : Kind) (t : Nat) (l : List Delivery) (ds : List SDelivery) : slotDeliveries l = some ds →
      Step m ⟨.cbrun k, .sent t l⟩ (cbNext m k ds)
  | cbstep (k : Kind) (done : Bool) : Step m ⟨.cbstep k, .fan done⟩ (cbStepNext m k done)
  | fsend (k : Kind) (a : Who) (t : Nat) (l : List Delivery) (b : Bool) (fan : MFan) (ds : List SDelivery) :
      m.fans k = some fan → slotDeliveries l = some ds → Step m ⟨.fsend k, .fsent a t l b⟩ (fsNext m k fan ds b)
  | fsendNone (k : Kind) (a : Who) (t : Nat) (l : List Delivery) (b : Bool) (ds : List SDelivery) :
      m.fans k = none → slotDeliveries l = some ds → Step m ⟨.fsend k, .fsent a t l b⟩ m
  | rupdated (u v t : Nat) (l : List Delivery) (ds : List SDelivery) : slotDeliveries l = some ds →
      Step m ⟨.rupdated u v, .sent t l⟩ (ruNext (ruContent m v) v ds)
  | fetch (c : Slot) (key : Key) (mode : Mode) (v : Nat) :
      Step m ⟨.list c key mode, .ret v false⟩ (m.setSlot c ((m.slots c).fetched key))
  | start (c : Slot) (key : Key) (mode : Mode) (obs : Obs) : mode ≠ .n → (obs = .pre ∨ ∃ v, obs = .held v) →
      Step m ⟨.list c key mode, obs⟩ (m.setSlot c ((m.slots c).started key))
  | fill (c : Slot) (key : Key) (v : Nat) (hit : Bool) :
      Step m ⟨.fill c key, .ret v hit⟩ (m.setSlot c ((m.slots c).filled key v))

theorem monNext_step (m : MState) (r : Rec) : Step m r (monNext m r) := by
  have idle : ∀ {r}, quiet r = true → Step m r m := fun hq => .quiet hq rfl (fun _ => .rfl)
  have slot : ∀ {r} (c : Slot) (d' : MSlot), quiet r = true → Keeps (m.slots c) d' → Step m r (m.setSlot c d') :=
    fun c d' hq hk => .quiet hq rfl (keeps_setSlot hk)
  obtain ⟨op, obs⟩ := r
  simp only [monNext]
  split
  case h_23 => exact idle (by simp only [quiet])
  case h_1 => exact .config ..
  case h_2 => exact .change ..
  case h_3 k t l =>
    split
    · exact .cbrun k t l _ ‹_›
    · exact idle (by simp only [quiet, *]; rfl)
  case h_4 => exact .quiet rfl rfl (fun _ => .rfl)
  case h_5 => exact .cbstep ..
  case h_6 k a t l b =>
    split
    · exact .fsend k a t l b _ _ ‹_› ‹_›
    · rename_i hno
      cases hs : slotDeliveries l with
      | none => exact idle (by simp only [quiet, hs]; rfl)
      | some ds =>
        cases hf : m.fans k with
        | none => exact .fsendNone k a t l b ds hf hs
        | some fan => exact (hno fan ds hf hs).elim
  case h_7 | h_12 => exact slot _ _ rfl (keeps_endListen _ _)
  case h_8 c sid mo mask =>
    split
    · exact .connect c sid mo mask obs ‹_›
    · exact idle (by simp only [quiet, *]; rfl)
  case h_9 | h_10 => exact slot _ _ rfl (keeps_addListen _ _ _ _ _)
  case h_11 => split <;> first | exact idle rfl | exact slot _ _ rfl ⟨rfl, rfl, rfl, rfl⟩
  case h_13 c u hold =>
    split
    · split
      · split
        · exact slot c _ rfl ⟨rfl, rfl, rfl, rfl⟩
        · exact idle rfl
      · exact idle rfl
    · split
      · have h := keeps_addListen (m.slots c) (ridOf u) ‹_› ‹_› ‹_›
        exact slot c _ rfl ⟨h.1, h.2, h.3, h.4⟩
      · exact slot c _ rfl ⟨rfl, rfl, rfl, rfl⟩
      · exact idle rfl
  case h_14 => split <;> first | exact idle rfl | exact slot _ _ rfl ⟨rfl, rfl, rfl, rfl⟩
  case h_15 c u hold =>
    split
    · have h := keeps_endListen (m.slots c) (ridOf u)
      exact slot c _ rfl ⟨h.1, h.2, h.3, h.4⟩
    · exact slot c _ rfl ⟨rfl, rfl, rfl, rfl⟩
  case h_16 => exact slot _ _ rfl ⟨rfl, rfl, rfl, rfl⟩
  case h_17 => exact .close _
  case h_18 u v t l =>
    split
    · exact .rupdated u v t l _ ‹_›
    · exact .quiet (by simp only [quiet, *]; rfl) rfl (fun _ => .rfl)
  case h_19 => exact .quiet (by simp only [quiet]) rfl (fun _ => .rfl)
  case h_20 c key mode =>
    split
    · rename_i v hit
      cases hit
      · exact .fetch c key mode v
      · exact idle rfl
    · cases mode <;> first | exact idle rfl | exact .start c key _ _ nofun (.inl rfl)
    · cases mode <;> first | exact idle rfl | exact .start c key _ _ nofun (.inr ⟨_, rfl⟩)
    · exact idle (by simp only [quiet])
  case h_21 => exact .fill ..
  case h_22 tb => exact .quiet rfl rfl (fun i => (keepsAll_tbNext m tb i).toKeeps)

/-- the record starts a new case or a new session in slot `i`, or ends the session of slot `i` -/
def Resets (r : Rec) (i : Slot) : Prop :=
  (∃ a b c h, r.op = .config a b c h) ∨ (∃ sid mo mask, r.op = .connect i sid mo mask ∧ r.obs.isOk = true) ∨
  (r.op = .close i ∧ r.obs = .ok)

/-- the record is about one slot, and not about `i` -/
def aside (i : Slot) : Rec → Bool
  | ⟨.connect c _ _ _, _⟩ | ⟨.close c, _⟩ | ⟨.list c _ _, _⟩ | ⟨.fill c _, _⟩ => c != i
  | _ => false

/-- `Step` seen from slot `i` (`monNext_slot`): reset; kept (the record is quiet or about another slot); or slot `i` of a
shape of `Step`. -/
inductive SlotStep (m : MState) (i : Slot) : Rec → MSlot → Prop
  | reset {r : Rec} {d' : MSlot} : Resets r i → d'.owed = [] → d'.maxHandled = (fun _ => 0) → d'.starts = (fun _ => 0) →
      d'.invalidated = (fun _ => false) → SlotStep m i r d'
  | still {r : Rec} {d' : MSlot} : (quiet r || aside i r) = true → Keeps (m.slots i) d' → SlotStep m i r d'
  | change (f : FSet) (e : Eff) : SlotStep m i ⟨.change f e, .ok⟩ ((monChange m f e).slots i)
  | cbrun (k : Kind) (t : Nat) (l : List Delivery) (ds : List SDelivery) : slotDeliveries l = some ds →
      SlotStep m i ⟨.cbrun k, .sent t l⟩ ((cbNext m k ds).slots i)
  | cbstep (k : Kind) (done : Bool) : SlotStep m i ⟨.cbstep k, .fan done⟩ ((cbStepNext m k done).slots i)
  | fsend (k : Kind) (a : Who) (t : Nat) (l : List Delivery) (b : Bool) (fan : MFan) (ds : List SDelivery) :
      m.fans k = some fan → slotDeliveries l = some ds → SlotStep m i ⟨.fsend k, .fsent a t l b⟩ ((fsNext m k fan ds b).slots i)
  | fsendNone (k : Kind) (a : Who) (t : Nat) (l : List Delivery) (b : Bool) (ds : List SDelivery) :
      m.fans k = none → slotDeliveries l = some ds → SlotStep m i ⟨.fsend k, .fsent a t l b⟩ (m.slots i)
  | rupdated (u v t : Nat) (l : List Delivery) (ds : List SDelivery) : slotDeliveries l = some ds →
      SlotStep m i ⟨.rupdated u v, .sent t l⟩ ((ruNext (ruContent m v) v ds).slots i)
  | fetch (key : Key) (mode : Mode) (v : Nat) : SlotStep m i ⟨.list i key mode, .ret v false⟩ ((m.slots i).fetched key)
  | start (key : Key) (mode : Mode) (obs : Obs) : mode ≠ .n → (obs = .pre ∨ ∃ v, obs = .held v) →
      SlotStep m i ⟨.list i key mode, obs⟩ ((m.slots i).started key)
  | fill (key : Key) (v : Nat) (hit : Bool) : SlotStep m i ⟨.fill i key, .ret v hit⟩ ((m.slots i).filled key v)

theorem setSlot_slots_same (m : MState) (c : Slot) (d : MSlot) : (m.setSlot c d).slots c = d := by
  simp [MState.setSlot]

theorem setSlot_other (m : MState) {c i : Slot} (d : MSlot) (h : c ≠ i) : (m.setSlot c d).slots i = m.slots i := by
  simp [MState.setSlot, Ne.symm h]

theorem monNext_slot (m : MState) (r : Rec) (i : Slot) : SlotStep m i r ((monNext m r).slots i) := by
  have hs := monNext_step m r
  generalize monNext m r = m' at hs
  -- a record about slot `c`: it is about `i`, or it leaves `i` alone
  have about : ∀ {r : Rec} (c : Slot) (d : MSlot), (c ≠ i → aside i r = true) →
      (c = i → SlotStep m i r d) → SlotStep m i r ((m.setSlot c d).slots i) := by
    intro r c d h1 h2
    by_cases e : c = i
    · subst e; rw [setSlot_slots_same]; exact h2 rfl
    · rw [setSlot_other m d e]; exact .still (by rw [h1 e, Bool.or_true]) .rfl
  have ne : ∀ {c : Slot}, c ≠ i → (c != i) = true := fun h => by simpa using h
  cases hs with
  | quiet hq _ hk => exact .still (by rw [hq]; rfl) (hk i)
  | config a b c hk obs => exact .reset (.inl ⟨_, _, _, _, rfl⟩) rfl rfl rfl rfl
  | connect c sid mo mask obs hok =>
    exact about c _ ne (fun e => .reset (.inr (.inl ⟨sid, mo, mask, by rw [e], hok⟩)) rfl rfl rfl rfl)
  | close c => exact about c {} ne (fun e => .reset (.inr (.inr ⟨by rw [e], rfl⟩)) rfl rfl rfl rfl)
  | change f e => exact .change f e
  | cbrun k t l ds h => exact .cbrun k t l ds h
  | cbstep k done => exact .cbstep k done
  | fsend k a t l b fan ds h1 h2 => exact .fsend k a t l b fan ds h1 h2
  | fsendNone k a t l b ds h1 h2 => exact .fsendNone k a t l b ds h1 h2
  | rupdated u v t l ds h => exact .rupdated u v t l ds h
  | fetch c key mode v => exact about c _ ne (fun e => by subst e; exact .fetch key mode v)
  | start c key mode obs h1 h2 => exact about c _ ne (fun e => by subst e; exact .start key mode obs h1 h2)
  | fill c key v hit => exact about c _ ne (fun e => by subst e; exact .fill key v hit)

theorem SlotStep.of_resets {m : MState} {i : Slot} {r : Rec} {d' : MSlot} (hs : SlotStep m i r d') (hr : Resets r i) :
    d'.owed = [] ∧ d'.maxHandled = (fun _ => 0) ∧ d'.starts = (fun _ => 0) ∧ d'.invalidated = (fun _ => false) := by
  cases hs with
  | reset _ h1 h2 h3 h4 => exact ⟨h1, h2, h3, h4⟩
  | still hq =>
    obtain ⟨op, obs⟩ := r
    rcases hr with ⟨_, _, _, _, e⟩ | ⟨_, _, _, e, ho⟩ | ⟨e, e'⟩ <;> cases e
    · cases hq
    · simp [quiet, aside, ho] at hq
    · cases e'; simp [quiet, aside] at hq
  | _ => simp [Resets] at hr

end Notify.Sound
