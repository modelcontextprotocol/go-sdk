import McpModel.Notify.SoundStep
/-!
# Clause soundness of the C18 monitor: the monitor's state is history — its copies of the configuration, the versions and
the subscriptions are the ground truth of the trace (`monAfter_truth`)
-/
namespace Notify.Sound
open Notify Notify.Mon

theorem proj_handled (d : MSlot) (m : MState) (keys : List Key) : proj (d.handled m keys) = proj d := rfl
theorem proj_gotChanged (m : MState) (k : Kind) (d : MSlot) : proj (gotChanged m k d) = proj d := rfl
theorem proj_skippedBy (k : Kind) (d : MSlot) : proj (skippedBy k d) = proj d := rfl
theorem proj_present (d : MSlot) (w : What) : proj (d.present w) = proj d := rfl
theorem proj_fetched (d : MSlot) (key : Key) : proj (d.fetched key) = proj d := rfl
theorem proj_started (d : MSlot) (key : Key) : proj (d.started key) = proj d := rfl
theorem proj_filled (d : MSlot) (key : Key) (v : Nat) : proj (d.filled key v) = proj d := rfl

def truthOf (m : MState) : Truth := ⟨m.cap, m.ver, m.cnt, m.content, fun i => proj (m.slots i)⟩

theorem agrees_truthOf {m : MState} {t : Truth} (h : truthOf m = t) : Agrees m t :=
  h ▸ ⟨rfl, rfl, rfl, rfl, fun _ => rfl, fun _ => rfl, fun _ => rfl, fun _ => rfl, fun _ => rfl, fun _ => rfl⟩

theorem truthOf_setSlot (m : MState) (c : Slot) (d : MSlot) : truthOf (m.setSlot c d) = (truthOf m).setSlot c (proj d) := by
  simp only [truthOf, MState.setSlot, Truth.setSlot]
  congr 1; funext j; split <;> rfl

theorem truthOf_eq {m m' : MState} (c1 : m'.cap = m.cap) (c2 : m'.ver = m.ver) (c3 : m'.cnt = m.cnt)
    (c4 : m'.content = m.content) (hp : ∀ i, proj (m'.slots i) = proj (m.slots i)) : truthOf m' = truthOf m := by
  simp only [truthOf, c1, c2, c3, c4, hp]

theorem proj_setSlot {m : MState} {c : Slot} {d : MSlot} (h : proj d = proj (m.slots c)) (i : Slot) :
    proj ((m.setSlot c d).slots i) = proj (m.slots i) := by
  simp only [MState.setSlot]; split
  · subst i; exact h
  · rfl

/-- The cases of `monNext` are taken by number (`h_1` … `h_23`, the order of its patterns; a new pattern renumbers them here
and in `monNext_step`): in each, `truthStep` reduces by the same pattern; in the last, no pattern of either matches. -/
theorem truthOf_monNext (m : MState) (r : Rec) : truthOf (monNext m r) = truthStep (truthOf m) r := by
  obtain ⟨op, obs⟩ := r
  simp only [monNext]
  split
  case h_23 => simp only [truthStep]
  case h_1 | h_4 | h_19 => rfl
  case h_2 f e =>
    show _ = if (e == .noop || e == .remove && m.cnt f == 0) = true then truthOf m else _
    simp only [monChange]
    split
    · rfl
    · split
      · rfl
      · simp only [truthOf]; congr 1; funext i; exact (keepsAll_changeSlot _ _ _ _).proj
  case h_3 k t ds =>
    show _ = truthOf m
    split
    · exact truthOf_eq rfl rfl rfl rfl (fun i => (keepsAll_cbNext _ _ _ i).proj.trans (by split <;> rfl))
    · rfl
  case h_5 k done =>
    exact truthOf_eq (by cases done <;> rfl) (by cases done <;> rfl) (by cases done <;> rfl) (by cases done <;> rfl)
      (fun i => (keepsAll_cbStepNext _ _ _ i).proj)
  case h_6 k a t ds b =>
    show _ = truthOf m
    split
    · exact truthOf_eq (by cases b <;> rfl) (by cases b <;> rfl) (by cases b <;> rfl) (by cases b <;> rfl)
        (fun i => (keepsAll_fsNext _ _ _ _ _ i).proj.trans (by split <;> rfl))
    · rfl
  case h_7 | h_12 => exact (truthOf_setSlot ..).trans (congrArg _ (keepsAll_endListen ..).proj)
  case h_9 | h_10 => exact (truthOf_setSlot ..).trans (congrArg _ (keepsAll_addListen ..).proj)
  case h_8 | h_14 => show _ = if _ then _ else _; split <;> first | rfl | exact truthOf_setSlot ..
  case h_11 => show _ = truthOf m; split <;> first | rfl | exact truthOf_eq rfl rfl rfl rfl (proj_setSlot rfl)
  case h_13 c u hold =>
    show _ = if (!(m.slots c).modern) = true then _ else _
    split
    · split
      · show _ = if (!(m.slots c).luris.contains u) = true then _ else _
        split <;> first | rfl | exact truthOf_setSlot ..
      · split
        · exact (‹obs = Obs.ok → False› ‹_›).elim
        · rfl
    · split
      · refine (truthOf_setSlot ..).trans (congrArg _ ?_)
        simp only [proj, withWindow, MSlot.addListen, TSlot.add, truthOf]
        split <;> rfl
      · exact truthOf_setSlot ..
      · split
        · exact (‹∀ ks us parked, obs = Obs.ack ks us parked → False› _ _ _ ‹_›).elim
        · exact (‹obs = Obs.noack → False› ‹_›).elim
        · rfl
  case h_15 c u hold =>
    show _ = if (m.slots c).modern = true then _ else _
    split
    · refine (truthOf_setSlot ..).trans (congrArg _ ?_)
      show ({ proj ((m.slots c).endListen (ridOf u)) with csubs := (m.slots c).csubs.filter (· != u) } : TSlot) = _
      rw [(keepsAll_endListen ..).proj]; rfl
    · exact truthOf_setSlot ..
  case h_16 => exact truthOf_setSlot ..
  case h_17 c => exact truthOf_setSlot m c {}
  case h_18 u v t ds =>
    show _ = truthOf (ruContent m v)
    split
    · exact truthOf_eq rfl rfl rfl rfl (fun i => (keepsAll_ruNext _ _ _ i).proj.trans (by split <;> rfl))
    · rfl
  case h_20 =>
    show _ = truthOf m
    split <;> (try split) <;> first | rfl | exact truthOf_eq rfl rfl rfl rfl (proj_setSlot rfl)
  case h_21 => exact truthOf_eq rfl rfl rfl rfl (proj_setSlot rfl)
  case h_22 tb => exact truthOf_eq rfl rfl rfl rfl (fun i => (keepsAll_tbNext _ _ i).proj)

theorem monAfter_snoc (m : MState) (tr : Trace) (r : Rec) : monAfter m (tr ++ [r]) = monNext (monAfter m tr) r := by
  simp [monAfter, List.foldl_append]

theorem truth_snoc (tr : Trace) (r : Rec) : truth (tr ++ [r]) = truthStep (truth tr) r := by
  simp [truth, List.foldl_append]

theorem monAfter_truth (tr : Trace) : Agrees (monAfter {} tr) (truth tr) := by
  have : ∀ (l : List Rec) (m : MState), truthOf (l.foldl monNext m) = l.foldl truthStep (truthOf m) := by
    intro l
    induction l with
    | nil => intro m; rfl
    | cons r rest ih => intro m; exact (ih _).trans (by rw [truthOf_monNext]; rfl)
  exact agrees_truthOf (this tr {})

theorem grantedK_truth {m : MState} {t : Truth} (hA : Agrees m t) (j : Slot) (k : Kind) :
    (m.slots j).grantedK k = true ↔ (t.slots j).grantedK k := by
  simp [MSlot.grantedK, TSlot.grantedK, hA.listens j]

theorem grantedU_truth {m : MState} {t : Truth} (hA : Agrees m t) (j : Slot) (u : Nat) :
    (m.slots j).grantedU u = true ↔ (t.slots j).subscribed u := by
  simp only [MSlot.grantedU, TSlot.subscribed, hA.modern j, hA.listens j, hA.luris j]
  split
  · simp [List.any_eq_true]
  · simp

theorem verOfKey_agrees {m : MState} {t : Truth} (hA : Agrees m t) (key : Key) : m.verOfKey key = t.verOfKey key := by
  cases key <;> simp [MState.verOfKey, Truth.verOfKey, hA.ver, hA.content]

theorem entitledNow_truth {m : MState} {t : Truth} (hA : Agrees m t) (i : Slot) (k : Kind) :
    entitledNow (m.slots i) k = true ↔ (t.slots i).entitled k := by
  simp only [entitledNow, TSlot.entitled, TSlot.grantedK, MSlot.grantedK, Bool.and_eq_true, Bool.or_eq_true,
    Bool.not_eq_true', hA.connected i, hA.modern i, hA.listens i, List.any_eq_true]
  constructor
  · rintro ⟨h1, h2 | ⟨l, hl, hk⟩⟩
    · exact ⟨h1, Or.inl h2⟩
    · exact ⟨h1, Or.inr ⟨l, hl, by simpa using hk⟩⟩
  · rintro ⟨h1, h2 | ⟨l, hl, hk⟩⟩
    · exact ⟨h1, Or.inl h2⟩
    · exact ⟨h1, Or.inr ⟨l, hl, by simpa using hk⟩⟩

theorem truthAt_snoc_len (tr : Trace) (r : Rec) : truthAt (tr ++ [r]) tr.length = truth tr := by
  simp [truthAt]

theorem get_snoc_len (tr : Trace) (r : Rec) : (tr ++ [r])[tr.length]? = some r := by simp

/-! ### the monitor before a position of a trace

The histories speak of the monitor before record `n` of a trace `T` that stays fixed, so that earlier positions of `T` need
no transport; a report on the record that extends `tr` is read at `T = tr ++ [r]`, `n = tr.length`. -/

def monAt (T : Trace) (n : Nat) : MState := monAfter {} (T.take n)

theorem monAt_snoc (tr : Trace) (r : Rec) : monAt (tr ++ [r]) tr.length = monAfter {} tr := by
  simp [monAt]

theorem monAt_length (tr : Trace) : monAt tr tr.length = monAfter {} tr := by
  simp [monAt]

theorem take_succ_get {T : Trace} {n : Nat} {r : Rec} (h : T[n]? = some r) : T.take (n + 1) = T.take n ++ [r] := by
  rw [List.take_add_one, h]; rfl

theorem get_of_lt {T : Trace} {n : Nat} (h : n < T.length) : ∃ r, T[n]? = some r := ⟨T[n], List.getElem?_eq_getElem h⟩

theorem monAt_succ {T : Trace} {n : Nat} {r : Rec} (h : T[n]? = some r) : monAt T (n + 1) = monNext (monAt T n) r := by
  rw [monAt, take_succ_get h, monAfter_snoc]; rfl

theorem truthAt_succ {T : Trace} {n : Nat} {r : Rec} (h : T[n]? = some r) : truthAt T (n + 1) = truthStep (truthAt T n) r := by
  rw [truthAt, take_succ_get h, truth_snoc]; rfl

theorem agrees_at (T : Trace) (n : Nat) : Agrees (monAt T n) (truthAt T n) := monAfter_truth _

theorem span_succ {T : Trace} {n p : Nat} {r : Rec} {K : Nat → Rec → Prop} (hr : T[n]? = some r)
    (h : ∀ j rj, p < j → j < n → T[j]? = some rj → K j rj) (hk : K n r) :
    ∀ j rj, p < j → j < n + 1 → T[j]? = some rj → K j rj := by
  intro j rj h1 h2 hget
  by_cases e : j < n
  · exact h j rj h1 e hget
  · obtain rfl : j = n := by omega
    rw [hr] at hget; cases hget; exact hk

end Notify.Sound
