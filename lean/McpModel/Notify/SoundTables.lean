import McpModel.Notify.SoundChecks
/-!
# Clause soundness of the C18 monitor: table dumps ("subscriptions of closed sessions are forgotten";
an acknowledged subscription stays served; nothing is left behind)
-/
namespace Notify.Sound
open Notify Notify.Mon

def whoKnown (t : Truth) : Who → Prop
  | .closed _ => False
  | .slot i => (t.slots i).connected = true

/-- "subscriptions of closed sessions are forgotten": no subscription table and not the session list mentions a
session that is not connected -/
def P_closedForgotten (tr : Trace) : Prop :=
  ∀ (i : Nat) (tb : Tables), tr[i]? = some (⟨.tables, .tables tb⟩ : Rec) →
    (∀ k, ∀ e ∈ tb.kind k, whoKnown (truthAt tr i) e.who) ∧ (∀ p ∈ tb.uris, ∀ e ∈ p.2, whoKnown (truthAt tr i) e.who) ∧
    (∀ w ∈ tb.sess, whoKnown (truthAt tr i) w)

def Registered (t : List TEntry) (j : Slot) (tag : Tag) : Prop := ∃ e ∈ t, e.who = .slot j ∧ e.tag = tag

/-- a subscription the server acknowledged and the client has not ended is in the server's table (so every snapshot
and every ResourceUpdated lookup finds it), under the request id of a live listen that was granted the same thing (`u < 3`:
only u0, u1, u2 are dumped) -/
def P_ackedServed (tr : Trace) : Prop :=
  ∀ (i : Nat) (tb : Tables), tr[i]? = some (⟨.tables, .tables tb⟩ : Rec) → ∀ j : Slot,
    ((truthAt tr i).slots j).connected = true →
    (((truthAt tr i).slots j).modern = true → ∀ k, ((truthAt tr i).slots j).grantedK k →
      ∃ l ∈ ((truthAt tr i).slots j).listens, k ∈ l.kinds ∧ Registered (tb.kind k) j (.id l.id)) ∧
    (∀ u, u < 3 → ((truthAt tr i).slots j).subscribed u →
      if ((truthAt tr i).slots j).modern = true then
        ∃ l ∈ ((truthAt tr i).slots j).listens, u ∈ l.uris ∧ Registered (tb.uri u) j (.id l.id)
      else Registered (tb.uri u) j .q)

/-- a table holds a 2026-07-28 session only under the request id of a live listen of it that was granted the thing
(a refused or ended request leaves nothing behind) -/
def P_noForeign (tr : Trace) : Prop :=
  ∀ (i : Nat) (tb : Tables), tr[i]? = some (⟨.tables, .tables tb⟩ : Rec) → ∀ j : Slot,
    ((truthAt tr i).slots j).connected = true → ((truthAt tr i).slots j).modern = true →
    (∀ k, ∀ e ∈ tb.kind k, e.who = .slot j → ∃ l ∈ ((truthAt tr i).slots j).listens, k ∈ l.kinds ∧ e.tag = .id l.id) ∧
    (∀ u, u < 3 → ∀ e ∈ tb.uri u, e.who = .slot j → ∃ l ∈ ((truthAt tr i).slots j).listens, u ∈ l.uris ∧ e.tag = .id l.id)

theorem hasEntry_iff (t : List TEntry) (j : Slot) (tag : Tag) : hasEntry t j tag = true ↔ Registered t j tag := by
  simp only [hasEntry, Registered, List.any_eq_true, Bool.and_eq_true, beq_iff_eq]

theorem whoBad_iff {m : MState} {t : Truth} (hA : Agrees m t) (w : Who) : whoBad m w = true ↔ ¬ whoKnown t w := by
  cases w with
  | closed s => simp [whoBad, whoKnown]
  | slot i => simp [whoBad, whoKnown, hA.connected i]

def IsMissingClause (c : Clause) : Prop :=
  c = .ackTableWindow ∨ c = .f19Registered ∨ c = .ackedMissing ∨ (∃ a b w, c = .lostWindow a b w .dump) ∨
  (∃ o a b w, c = .lostOverlap o a b w .dump)

theorem sound_closedMentioned (tr : Trace) (r : Rec) (h : Reports tr r .closedMentioned) : ¬ P_closedForgotten (tr ++ [r]) := by
  intro hP
  have hA := monAfter_truth tr
  obtain ⟨tb, e, hb⟩ := monCheck_why h
  have hgood := hP tr.length tb (by rw [get_snoc_len, e])
  rw [truthAt_snoc_len] at hgood
  simp only [tbBad, Bool.or_eq_true, List.any_eq_true] at hb
  rcases hb with (⟨k, _, e', he, hw⟩ | ⟨p, hp, e', he, hw⟩) | ⟨w, hw1, hw⟩
  · exact (whoBad_iff hA _).1 hw (hgood.1 k e' he)
  · exact (whoBad_iff hA _).1 hw (hgood.2.1 p hp e' he)
  · exact (whoBad_iff hA _).1 hw (hgood.2.2 w hw1)

theorem SawMissing.sound (tr : Trace) (r : Rec) (h : SawMissing (monAfter {} tr) r) : ¬ P_ackedServed (tr ++ [r]) := by
  intro hP
  have hA := monAfter_truth tr
  obtain ⟨tb, i, e, hconn, hmiss⟩ := h
  have hg := hP tr.length tb (by rw [get_snoc_len, e]) i (by rw [truthAt_snoc_len, ← hA.connected]; exact hconn)
  rw [truthAt_snoc_len, ← hA.modern] at hg
  rcases hmiss with hk | hu
  · obtain ⟨k, hk⟩ := List.exists_mem_of_ne_nil _ hk
    simp only [kindMiss] at hk
    split at hk
    · cases hk
    · rename_i hmod
      obtain ⟨_, hp⟩ := List.mem_filter.1 hk
      simp only [Bool.and_eq_true, Bool.not_eq_true', List.any_eq_false] at hp
      obtain ⟨l, hl, hk2, hreg⟩ := hg.1 (by simpa using hmod) k ((grantedK_truth hA i k).1 hp.1)
      rw [← hA.listens] at hl
      simpa [hk2, (hasEntry_iff _ _ _).2 hreg] using hp.2 l hl
  · obtain ⟨u, hu⟩ := List.exists_mem_of_ne_nil _ hu
    obtain ⟨hu3, hp⟩ := List.mem_filter.1 hu
    simp only [Bool.and_eq_true] at hp
    have hg2 := hg.2 u (by simpa using hu3) ((grantedU_truth hA i u).1 hp.1)
    cases hm : ((monAfter {} tr).slots i).modern
    · rw [hm] at hg2 hp
      simp only [Bool.false_eq_true, if_false, Bool.not_eq_true'] at hg2 hp
      rw [(hasEntry_iff _ _ _).2 hg2] at hp
      cases hp.2
    · rw [hm] at hg2 hp
      simp only [if_true, Bool.not_eq_true', List.any_eq_false] at hg2 hp
      obtain ⟨l, hl, hk2, hreg⟩ := hg2
      rw [← hA.listens] at hl
      simpa [hk2, (hasEntry_iff _ _ _).2 hreg] using hp.2 l hl

/-- every clause about a missing entry contradicts `P_ackedServed` -/
theorem sound_missing (tr : Trace) (r : Rec) (c : Clause) (h : Reports tr r c) (hc : IsMissingClause c) :
    ¬ P_ackedServed (tr ++ [r]) := by
  refine SawMissing.sound tr r ?_
  rcases hc with rfl | rfl | rfl | ⟨_, _, _, rfl⟩ | ⟨_, _, _, _, rfl⟩ <;> exact monCheck_why h

theorem sound_ackTableWindow (tr : Trace) (r : Rec) (h : Reports tr r .ackTableWindow) : ¬ P_ackedServed (tr ++ [r]) :=
  SawMissing.sound tr r (monCheck_why h)
theorem sound_f19Registered (tr : Trace) (r : Rec) (h : Reports tr r .f19Registered) : ¬ P_ackedServed (tr ++ [r]) :=
  SawMissing.sound tr r (monCheck_why h)
theorem sound_ackedMissing (tr : Trace) (r : Rec) (h : Reports tr r .ackedMissing) : ¬ P_ackedServed (tr ++ [r]) :=
  SawMissing.sound tr r (monCheck_why h)
theorem sound_lostWindow_dump (tr : Trace) (r : Rec) (a b : Nat) (w : What) (h : Reports tr r (.lostWindow a b w .dump)) :
    ¬ P_ackedServed (tr ++ [r]) :=
  SawMissing.sound tr r (monCheck_why h)
theorem sound_lostOverlap_dump (tr : Trace) (r : Rec) (o : Bool) (a b : Nat) (w : What)
    (h : Reports tr r (.lostOverlap o a b w .dump)) : ¬ P_ackedServed (tr ++ [r]) :=
  SawMissing.sound tr r (monCheck_why h)

theorem SawForeign.sound (tr : Trace) (r : Rec) (h : SawForeign (monAfter {} tr) r) : ¬ P_noForeign (tr ++ [r]) := by
  intro hP
  have hA := monAfter_truth tr
  obtain ⟨tb, i, e, hconn, hmod, hbad⟩ := h
  have hg := hP tr.length tb (by rw [get_snoc_len, e]) i (by rw [truthAt_snoc_len, ← hA.connected]; exact hconn)
    (by rw [truthAt_snoc_len, ← hA.modern]; exact hmod)
  rw [truthAt_snoc_len, ← hA.listens] at hg
  rcases hbad with ⟨k, e', he, hw, hno⟩ | ⟨u, hu3, e', he, hw, hno⟩
  · exact hno (hg.1 k e' he hw)
  · exact hno (hg.2 u hu3 e' he hw)

theorem sound_foreign (tr : Trace) (r : Rec) (c : Clause) (h : Reports tr r c) (hc : c = .refusedLeft ∨ c = .foreignEntry) :
    ¬ P_noForeign (tr ++ [r]) := by
  refine SawForeign.sound tr r ?_
  rcases hc with rfl | rfl <;> exact monCheck_why h

theorem sound_refusedLeft (tr : Trace) (r : Rec) (h : Reports tr r .refusedLeft) : ¬ P_noForeign (tr ++ [r]) :=
  SawForeign.sound tr r (monCheck_why h)
theorem sound_foreignEntry (tr : Trace) (r : Rec) (h : Reports tr r .foreignEntry) : ¬ P_noForeign (tr ++ [r]) :=
  SawForeign.sound tr r (monCheck_why h)

end Notify.Sound
