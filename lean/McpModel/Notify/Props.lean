import McpModel.Notify.LemmasSub
import McpModel.Notify.CacheLemmas
/-!
# C18 — change notifications are never lost, reach only entitled sessions, beat caches

Server side: model `Notify.step` (Model.lean); every theorem quantifies over ALL label lists, i.e.
all schedules of changes, timer firings, delayed callbacks, connects, listens, subscribes and
closes, any number of sessions, any capability configuration.  Client side: model
`Notify.Cache.step` (Cache.lean), all interleavings of calls, responses, fills, notifications and
clock ticks, any TTLs.  Nothing here is bounded.

Both models are of /repo with F7, F19 and F35 (`notify-F30` in this engine) fixed (the heads of Model.lean and
Cache.lean name the commits).  One session may have any number of open `subscriptions/listen` streams that
were granted the same kind or URI; they end in any order.  The counter-example at the end shows that
`list_after_notification_fresh` is false for the cache without the generation check (F7).
-/
namespace Notify
open Generated.Notify

/-- A listen that registers under a fresh id and ends at once leaves the record of open streams as it was. -/
theorem listenEnd_listen_listens (s : Server) (sid id : Nat) (kinds : List Kind) (uris : List Nat)
    (hok : listenOk s sid id = true) :
    (listenEnd (listen s sid id kinds uris) sid id).listens = s.listens := by
  have hnot : s.listens.filter (fun l' => !(l'.sid == sid && l'.id == id)) = s.listens :=
    List.filter_eq_self.2 (List.all_eq_true.1 hok)
  rw [listenEnd_listens]
  simp only [listen]; split
  · -- the stream just recorded is the only one dropped
    simp only [List.filter_cons, beq_self_eq_true, Bool.and_self, Bool.not_true, Bool.false_eq_true, if_false, hnot]
  · exact hnot

/-- **no_lost_notification.**  `(sid, k) ∈ owed` says: session `sid` has been connected ever since a
gated change of kind `k` that no `notifySessions` snapshot has covered yet (see `owed_of_change`,
`owed_persists` for the meaning of the ghost).  In every reachable state such a debt is backed by a
timer that is armed or a callback that has started and not yet taken the lock — so a snapshot
taken after the change is still to come. -/
theorem no_lost_notification (cap : Kind → Cap) (ls : List Label) (sid : Nat) (k : Kind)
    (h : (sid, k) ∈ (final cap ls).owed) : active ((final cap ls).ks k) :=
  (reach_inv (reach_final cap ls)).1.no_lost (sid, k) h

/-- Meaning of the ghost, part 1: a change that really happened (`e` effective), whose kind's
capability is not switched off, puts every connected session in debt. -/
theorem owed_of_change (s : Server) (f : FSet) (e : Eff) (k : Kind) (sid : Nat)
    (he : ¬(e = .noop ∨ (e = .remove ∧ s.cnt f = 0))) (hk : featureKind f = some k)
    (hg : gateSend s k = true) (hs : sid ∈ s.sessions.map Prod.fst) :
    (sid, k) ∈ (change s f e).owed := by
  rw [change_armed s f e k he hk hg (by intro e; simp [e] at hs)]
  obtain ⟨p, hp, rfl⟩ := List.mem_map.1 hs
  exact List.mem_append.2 (Or.inr (List.mem_map.2 ⟨p, hp, rfl⟩))

/-- **A `Remove*(names…)` call is a change iff some named feature was present** (`featureSet.remove` sets its
flag in the loop and never resets it): names that were never registered, or that an earlier name of the same call
already removed, do not undo it — wherever they stand in the list. -/
theorem removeEff_changed (names : List NameAt) : removeEff names = .noop ↔ NameAt.present ∉ names := by
  simp only [removeEff]
  constructor
  · intro h
    split at h
    · rename_i hc; exact List.count_eq_zero.1 hc
    · cases h
  · intro h
    rw [if_pos (List.count_eq_zero.2 h)]

/-- a call that names only absent features is no change: nothing is owed for it -/
theorem remove_absent_names_is_no_change (s : Server) (f : FSet) (names : List NameAt) (h : NameAt.present ∉ names) :
    change s f (removeEff names) = s := by
  rw [(removeEff_changed names).2 h]
  simp [change]

/-- **remove_names_announced.**  A `Remove*` call that names at least one registered feature — together with any
number of absent or repeated names, in any position — puts every connected session in debt (so, by
`no_lost_notification` and `at_least_one_after_burst`, a timer is armed or a callback pending, and the next snapshot
contains every session entitled then). -/
theorem remove_names_announced (s : Server) (f : FSet) (names : List NameAt) (k : Kind) (sid : Nat)
    (hp : NameAt.present ∈ names) (hk : featureKind f = some k) (hg : gateSend s k = true)
    (hs : sid ∈ s.sessions.map Prod.fst) : (sid, k) ∈ (change s f (removeEff names)).owed := by
  apply owed_of_change s f _ k sid _ hk hg hs
  have hc : names.count .present ≠ 0 := fun h => (List.count_eq_zero.1 h) hp
  simp only [removeEff, hc, if_false]
  rintro (h | ⟨h, _⟩) <;> cases h

example : removeEff [.present, .absent] = .removeN 1 true ∧ removeEff [.absent, .present, .absent] = .removeN 1 true ∧
    removeEff [.present, .present] = .removeN 2 false ∧ removeEff [.absent, .absent] = .noop := by decide

/-- Meaning of the ghost, part 2: the debt stays until a snapshot of that kind is taken or the
session is closed. -/
theorem owed_persists (s : Server) (l : Label) (sid : Nat) (k : Kind) (h : (sid, k) ∈ s.owed)
    (h1 : l ≠ .cbrun k) (h2 : l ≠ .close sid) : (sid, k) ∈ (step s l).1.owed := by
  have hw := step_writes s l
  cases l with
  | change f e =>
    simp only [step, change]
    split
    · exact h
    · split
      · exact h
      · simp only [notifyChange]; split
        · simp only [arm]; split
          · exact h
          · simp; exact Or.inl h
        · exact h
  | cbrun k' =>
    simp only [step, cbrun]; split
    · exact h
    · simp; exact ⟨h, fun e => h1 (by rw [e])⟩
  | close sid' => simp [step, close]; exact ⟨h, fun e => h2 (by rw [e])⟩
  | _ => rw [hw.2 .owed rfl]; exact h

/-- A session is entitled to kind `k`: it is connected and either does not speak 2026-07-28, or one
of its live `subscriptions/listen` streams was granted `k`.  Stated on the ghost record of live
listens, NOT on the server's tables. -/
def entitled (s : Server) (sid : Nat) (k : Kind) : Prop :=
  (∃ g, (sid, g) ∈ s.sessions ∧ g ≠ Gen.modern) ∨ (∃ l ∈ s.listens, l.sid = sid ∧ k ∈ l.kinds)

theorem sendList_mem {s : Server} (hS : InvS s) (k : Kind) :
    (∀ x ∈ sendList s k,
      (x.stamp = none ∧ ∃ g, (x.sid, g) ∈ s.sessions ∧ g ≠ Gen.modern) ∨
      (∃ id, x.stamp = some id ∧ (x.sid, Gen.modern) ∈ s.sessions ∧
        ∃ l ∈ s.listens, l.sid = x.sid ∧ l.id = id ∧ k ∈ l.kinds)) ∧
    ∀ sid, entitled s sid k → sid ∈ (sendList s k).map Send.sid := by
  refine ⟨fun x hx => ?_, fun sid he => ?_⟩
  · rcases List.mem_append.1 hx with hx | hx
    · obtain ⟨g, hg, hne, hst⟩ := mem_legacyRecips.1 hx
      exact .inl ⟨hst, g, hg, hne⟩
    · obtain ⟨id, hab, hst⟩ := mem_subRecips.1 hx
      obtain ⟨l0, hl0, h1, h2, h3⟩ := hS.subs_listen _ (x.sid, id) hab
      have h1 : l0.sid = x.sid := h1
      exact .inr ⟨id, hst, h1 ▸ hS.listen_modern l0 hl0, l0, hl0, h1, h2, h3⟩
  · rw [List.mem_map]
    rcases he with ⟨g, hg, hne⟩ | ⟨l, hl, h1, h2⟩
    · exact ⟨⟨sid, none⟩, List.mem_append.2 (.inl (mem_legacyRecips.2 ⟨g, hg, hne, rfl⟩)), rfl⟩
    · obtain ⟨id, _, this⟩ := hS.listen_served l hl k h2
      exact ⟨⟨sid, some id⟩, List.mem_append.2 (.inr (mem_subRecips.2 ⟨id, h1 ▸ this, rfl⟩)), rfl⟩

/-- **at_least_one_after_burst.**  When the callback of kind `k` takes its snapshot, every session
that is in debt for `k` (connected since the last change of the burst) and entitled at that instant
is in the snapshot's send list — the notification it gets is sent after the last change. -/
theorem at_least_one_after_burst (cap : Kind → Cap) (ls : List Label) (sid : Nat) (k : Kind)
    (ho : (sid, k) ∈ (final cap ls).owed) (he : entitled (final cap ls) sid k)
    (hp : 0 < ((final cap ls).ks k).pending) :
    ∃ to, (step (final cap ls) (.cbrun k)).2 = [.changed k to] ∧ sid ∈ to.map Send.sid := by
  refine ⟨_, ?_, (sendList_mem (reach_inv (reach_final cap ls)).2 k).2 sid he⟩
  simp only [step, cbrun, Nat.ne_of_gt hp, if_false]

/-- **none_when_disabled.**  With the capability of kind `k` switched off no timer of that kind is
ever armed, no callback ever pending, and no run of `notifySessions(k)` ever happens. -/
theorem none_when_disabled (cap : Kind → Cap) (k : Kind) (hoff : cap k = .off) (ls : List Label) :
    (∀ to, Out.changed k to ∉ outputs cap ls) ∧ ¬ active ((final cap ls).ks k) := by
  have idle : ∀ s, Reach cap s → (s.ks k).tracked = none ∧ (s.ks k).orphans = [] ∧ (s.ks k).pending = 0 := by
    intro s hs
    apply (reach_inv hs).1.off_idle k
    simp [gateSend, sendGate_diag, reach_cap hs, hoff]
  constructor
  · intro to hto
    obtain ⟨s', l, hr, ho⟩ := run_out hto
    exact (step_out ho).2.1 (idle s' hr).2.2
  · have := idle _ (reach_final cap ls)
    simp [active, this]

/-- **fanout_entitled_only.**  Every recipient of every `notifySessions(k)` run is a connected
session that either does not speak 2026-07-28 and gets the plain notification, or speaks it, has a
live listen that was granted `k`, and gets the notification stamped with that listen's request id. -/
theorem fanout_entitled_only (cap : Kind → Cap) (ls : List Label) (k : Kind) (to : List Send)
    (h : Out.changed k to ∈ outputs cap ls) :
    ∃ s, Reach cap s ∧ to = sendList s k ∧ ∀ x ∈ to,
      (x.stamp = none ∧ ∃ g, (x.sid, g) ∈ s.sessions ∧ g ≠ Gen.modern) ∨
      (∃ id, x.stamp = some id ∧ (x.sid, Gen.modern) ∈ s.sessions ∧
        ∃ l ∈ s.listens, l.sid = x.sid ∧ l.id = id ∧ k ∈ l.kinds) := by
  obtain ⟨s, l, hr, ho⟩ := run_out h
  obtain ⟨_, _, rfl⟩ := step_out ho
  exact ⟨s, hr, rfl, (sendList_mem (reach_inv hr).2 k).1⟩

/-- The subscription of session `sid` to `u` is live: a legacy `resources/subscribe` not yet undone,
or an open listen of the session that was granted `u`.  Stated on the ghost `rlive` and the record of
open streams, NOT on `resourceSubscriptions`. -/
def subscribed (s : Server) (sid u : Nat) : Prop :=
  (sid, u) ∈ s.rlive ∨ ∃ l ∈ s.listens, l.sid = sid ∧ u ∈ l.uris

/-- What the lookup half of `ResourceUpdated(u)` finds in a state satisfying the invariant: exactly
the sessions whose subscription to `u` is live, each once, legacy sessions plain, 2026-07-28 sessions
stamped with the id of an open listen of theirs that was granted `u`. -/
theorem updList_spec {s : Server} (hS : InvS s) (u : Nat) :
    (∀ sid, sid ∈ (updList s u).map Send.sid ↔ subscribed s sid u) ∧ ((updList s u).map Send.sid).Nodup ∧
      ∀ x ∈ updList s u,
        (x.stamp = none ∧ (x.sid, Gen.legacy) ∈ s.sessions) ∨
        (∃ id, x.stamp = some id ∧ (x.sid, Gen.modern) ∈ s.sessions ∧
          ∃ l ∈ s.listens, l.sid = x.sid ∧ l.id = id ∧ u ∈ l.uris) := by
  refine ⟨?_, ?_, ?_⟩
  · intro sid
    rw [List.mem_map]
    constructor
    · rintro ⟨x, hx, rfl⟩
      obtain ⟨id, hm, _⟩ := mem_updList.1 hx
      rcases hS.rsubs_owner _ hm with g | ⟨_, g⟩
      · exact Or.inl ((hS.rlive_iff x.sid u).2 ⟨g, id, hm⟩)
      · obtain ⟨l0, hl0, h1, _, h3⟩ := heir_mem g
        exact Or.inr ⟨l0, hl0, h1, (grantsU_iff u l0).1 h3⟩
    · rintro (hl | ⟨l0, hl0, h1, h3⟩)
      · obtain ⟨_, id, hm⟩ := (hS.rlive_iff sid u).1 hl
        exact ⟨⟨sid, if genOf s sid = Gen.modern then some id else none⟩, mem_updList.2 ⟨id, hm, rfl⟩, rfl⟩
      · obtain ⟨id, _, hm⟩ := hS.listen_served_uri l0 hl0 u h3
        rw [h1] at hm
        exact ⟨⟨sid, if genOf s sid = Gen.modern then some id else none⟩, mem_updList.2 ⟨id, hm, rfl⟩, rfl⟩
  · have hmap : (updList s u).map Send.sid = (s.rsubs.filter (fun r => r.1 == u)).map (fun r => r.2.1) := by
      simp only [updList, List.map_map]
      apply List.map_congr_left
      intro r _
      simp only [Function.comp]
      split <;> rfl
    rw [hmap]
    have hnd : (s.rsubs.filter (fun r => r.1 == u)).Nodup := List.Pairwise.filter _ hS.rsubs_nodup
    have hfun : ∀ r ∈ s.rsubs.filter (fun r => r.1 == u), ∀ q ∈ s.rsubs.filter (fun r => r.1 == u),
        r.2.1 = q.2.1 → r = q := by
      intro r hr' q hq' e
      simp at hr' hq'
      exact hS.rsubs_fun r hr'.1 q hq'.1 (by rw [hr'.2, hq'.2]) e
    rw [← List.filterMap_eq_map]
    exact nodup_filterMap_of_inj_on hnd fun r hr' q hq' b h1 h2 =>
      hfun r hr' q hq' ((Option.some.inj h1).trans (Option.some.inj h2).symm)
  · intro x hx
    obtain ⟨id, hm, hst⟩ := mem_updList.1 hx
    rcases hS.rsubs_owner _ hm with g | ⟨g, hh⟩
    · left
      have := genOf_of_mem hS.sess_nodup g
      simp only [] at this
      rw [this] at hst
      exact ⟨by simpa using hst, g⟩
    · right
      have := genOf_of_mem hS.sess_nodup g
      simp only [] at this
      rw [this] at hst
      obtain ⟨l0, hl0, h1, h2, h3⟩ := heir_mem hh
      exact ⟨id, by simpa using hst, g, l0, hl0, h1, h2, (grantsU_iff u l0).1 h3⟩

/-- **updated_reaches_exactly_subscribers.**  A `ResourceUpdated(u)` call reaches exactly the
sessions whose subscription to `u` is live at the call (legacy `resources/subscribe` not yet
undone, or at least one open listen that was granted `u` — however many such listens the session
has opened and ended before, whether a refused listen of the session named `u` before), each exactly
once; legacy sessions get it plain, 2026-07-28 sessions stamped with the id of an open listen of
theirs that was granted `u`. -/
theorem updated_reaches_exactly_subscribers (cap : Kind → Cap) (ls : List Label) (u : Nat) (to : List Send)
    (h : Out.updated u to ∈ outputs cap ls) :
    ∃ s, Reach cap s ∧ (∀ sid, sid ∈ to.map Send.sid ↔ subscribed s sid u) ∧ (to.map Send.sid).Nodup ∧
      ∀ x ∈ to,
        (x.stamp = none ∧ (x.sid, Gen.legacy) ∈ s.sessions) ∨
        (∃ id, x.stamp = some id ∧ (x.sid, Gen.modern) ∈ s.sessions ∧
          ∃ l ∈ s.listens, l.sid = x.sid ∧ l.id = id ∧ u ∈ l.uris) := by
  obtain ⟨s, l, hr, ho⟩ := run_out h
  obtain ⟨_, rfl⟩ := step_out ho
  exact ⟨s, hr, updList_spec (reach_inv hr).2 u⟩

/-- **updatedNamed_reaches_exactly_subscribers.**  The same for a fan-out whose notification names
another URI `v` (a sub-resource of `u`): the recipients are exactly the sessions subscribed to `u`. -/
theorem updatedNamed_reaches_exactly_subscribers (cap : Kind → Cap) (ls : List Label) (u v : Nat) (to : List Send)
    (h : Out.updatedNamed u v to ∈ outputs cap ls) :
    ∃ s, Reach cap s ∧ (∀ sid, sid ∈ to.map Send.sid ↔ subscribed s sid u) ∧ (to.map Send.sid).Nodup ∧
      ∀ x ∈ to,
        (x.stamp = none ∧ (x.sid, Gen.legacy) ∈ s.sessions) ∨
        (∃ id, x.stamp = some id ∧ (x.sid, Gen.modern) ∈ s.sessions ∧
          ∃ l ∈ s.listens, l.sid = x.sid ∧ l.id = id ∧ u ∈ l.uris) := by
  obtain ⟨s, l, hr, ho⟩ := run_out h
  obtain ⟨_, rfl⟩ := step_out ho
  exact ⟨s, hr, updList_spec (reach_inv hr).2 u⟩

/-- **closed_sessions_forgotten.**  In every reachable state a session that is not connected is
mentioned by no subscription table and no resource subscription, owes nothing, and is in no send
list.  (`close_disconnects`: `disconnect` does remove the session.) -/
theorem closed_sessions_forgotten (cap : Kind → Cap) (ls : List Label) (sid : Nat)
    (h : sid ∉ (final cap ls).sessions.map Prod.fst) :
    (∀ t, ∀ p ∈ ((final cap ls).ks t).subs, p.1 ≠ sid) ∧ (∀ r ∈ (final cap ls).rsubs, r.2.1 ≠ sid) ∧
    (∀ p ∈ (final cap ls).owed, p.1 ≠ sid) ∧ (∀ l ∈ (final cap ls).listens, l.sid ≠ sid) ∧
    (∀ k, ∀ x ∈ sendList (final cap ls) k, x.sid ≠ sid) ∧ (∀ u, ∀ x ∈ updList (final cap ls) u, x.sid ≠ sid) := by
  obtain ⟨hT, hS⟩ := reach_inv (reach_final cap ls)
  generalize final cap ls = s at *
  have notin : ∀ g, (sid, g) ∉ s.sessions := by
    intro g hg; apply h; simp; exact ⟨g, hg⟩
  have hsubs : ∀ t, ∀ p ∈ (s.ks t).subs, p.1 ≠ sid := by
    intro t p hp e
    obtain ⟨l0, hl0, h1, _, _⟩ := hS.subs_listen t p hp
    have := hS.listen_modern l0 hl0
    rw [h1, e] at this; exact notin _ this
  have hrs : ∀ r ∈ s.rsubs, r.2.1 ≠ sid := by
    intro r hr e
    rcases hS.rsubs_owner r hr with g | g
    · rw [e] at g; exact notin _ g
    · rw [e] at g; exact notin _ g.1
  refine ⟨hsubs, hrs, ?_, ?_, ?_, ?_⟩
  · intro p hp e; have := hT.owed_sess p hp; rw [e] at this; exact h this
  · intro l hl e; have := hS.listen_modern l hl; rw [e] at this; exact notin _ this
  · intro k x hx
    simp only [sendList, List.mem_append] at hx
    rcases hx with hx | hx
    · obtain ⟨g, hg, _, _⟩ := mem_legacyRecips.1 hx
      intro e; rw [e] at hg; exact notin _ hg
    · obtain ⟨id, hab, _⟩ := mem_subRecips.1 hx
      exact hsubs k (x.sid, id) hab
  · intro u x hx
    obtain ⟨id, hm, _⟩ := mem_updList.1 hx
    exact hrs _ hm

theorem close_disconnects (s : Server) (sid : Nat) : sid ∉ (close s sid).sessions.map Prod.fst := by
  simp [close]

/-! ### the acknowledgement of a listen comes after its registration -/

/-- The session `sid` is SERVED for the grants `ks` / `us`: it is in every list-changed table of `ks`
and subscribed to every URI of `us`, under the id `h` of the newest open stream of the session that
was granted the same thing — hence in the snapshot of any `notifySessions(k)` and in the lookup of any
`ResourceUpdated(u)` taken in this state, stamped `h`. -/
def served (s : Server) (sid : Nat) (ks : List Kind) (us : List Nat) : Prop :=
  (sid, Gen.modern) ∈ s.sessions ∧
  (∀ k ∈ ks, ∃ h, heir s.listens sid (grantsK k) = some h ∧ (sid, h) ∈ (s.ks k).subs ∧
    (⟨sid, some h⟩ : Send) ∈ sendList s k) ∧
  (∀ u ∈ us, ∃ h, heir s.listens sid (grantsU u) = some h ∧ (u, sid, h) ∈ s.rsubs ∧
    (⟨sid, some h⟩ : Send) ∈ updList s u)

/-- … and REGISTERED under its own id: what holds for a listen that no newer open stream of its
session overlaps. -/
def registered (s : Server) (sid id : Nat) (ks : List Kind) (us : List Nat) : Prop :=
  (sid, Gen.modern) ∈ s.sessions ∧
  (∀ k ∈ ks, (sid, id) ∈ (s.ks k).subs ∧ (⟨sid, some id⟩ : Send) ∈ sendList s k) ∧
  (∀ u ∈ us, (u, sid, id) ∈ s.rsubs ∧ (⟨sid, some id⟩ : Send) ∈ updList s u)

theorem served_of_listen {s : Server} (hS : InvS s) {l : Listen} (hl : l ∈ s.listens) :
    served s l.sid l.kinds l.uris := by
  have hm := hS.listen_modern l hl
  refine ⟨hm, ?_, ?_⟩
  · intro k hk
    obtain ⟨h, hh, this⟩ := hS.listen_served l hl k hk
    exact ⟨h, hh, this, List.mem_append.2 (Or.inr (mem_subRecips.2 ⟨h, this, rfl⟩))⟩
  · intro u hu
    obtain ⟨h, hh, this⟩ := hS.listen_served_uri l hl u hu
    refine ⟨h, hh, this, mem_updList.2 ⟨h, this, ?_⟩⟩
    have hg := genOf_of_mem hS.sess_nodup hm
    simp [hg]

/-- No other open stream of the session shares a kind or a URI with `l`: then the heir is `l` itself. -/
def sole (s : Server) (l : Listen) : Prop :=
  ∀ l' ∈ s.listens, l'.sid = l.sid → l'.id ≠ l.id →
    (∀ k ∈ l.kinds, k ∉ l'.kinds) ∧ (∀ u ∈ l.uris, u ∉ l'.uris)

theorem registered_of_sole {s : Server} (hS : InvS s) {l : Listen} (hl : l ∈ s.listens) (hsole : sole s l) :
    registered s l.sid l.id l.kinds l.uris := by
  obtain ⟨hm, hk, hu⟩ := served_of_listen hS hl
  -- the heir is a stream of the session that was granted the thing: by `sole`, the stream itself
  have own : ∀ {g : Listen → Bool} {h : Nat}, heir s.listens l.sid g = some h →
      (∀ l0 ∈ s.listens, l0.sid = l.sid → l0.id ≠ l.id → g l0 = true → False) → h = l.id := by
    intro g h hh hno
    obtain ⟨l0, hl0, e1, e2, e3⟩ := heir_mem hh
    exact Classical.byContradiction fun hne => hno l0 hl0 e1 (by rw [e2]; exact hne) e3
  refine ⟨hm, fun k hkk => ?_, fun u huu => ?_⟩
  · obtain ⟨h, hh, h1, h2⟩ := hk k hkk
    rw [own hh fun l0 hl0 e1 e2 e3 => (hsole l0 hl0 e1 e2).1 k hkk ((grantsK_iff k l0).1 e3)] at h1 h2
    exact ⟨h1, h2⟩
  · obtain ⟨h, hh, h1, h2⟩ := hu u huu
    rw [own hh fun l0 hl0 e1 e2 e3 => (hsole l0 hl0 e1 e2).2 u huu ((grantsU_iff u l0).1 e3)] at h1 h2
    exact ⟨h1, h2⟩

/-- **ack_after_registration.**  Whenever a `notifications/subscriptions/acknowledged` is written —
in any schedule, with any number of other open streams of the same session — the state it is written
in already has the session in every table the acknowledgement names (under this listen's id, or that
of a NEWER open stream of the session that was granted the same thing: `served`); the write itself
changes no table.  So from the instant the client can hold the acknowledgement there is no window in
which a `notifySessions` snapshot or a `ResourceUpdated` lookup misses the session. -/
theorem ack_after_registration (cap : Kind → Cap) (ls : List Label) (sid id : Nat) (ks : List Kind)
    (us : List Nat) (h : Out.ack sid id ks us ∈ outputs cap ls) :
    ∃ s, Reach cap s ∧ (step s (.listenAck sid id)).2 = [.ack sid id ks us] ∧
      served s sid ks us ∧
      (∀ t, ((step s (.listenAck sid id)).1.ks t).subs = (s.ks t).subs) ∧
      (step s (.listenAck sid id)).1.rsubs = s.rsubs ∧
      (step s (.listenAck sid id)).1.sessions = s.sessions := by
  obtain ⟨s, l, hr, ho⟩ := run_out h
  obtain ⟨rfl, hna, l0, hfind, rfl, rfl⟩ := step_out ho
  obtain ⟨hl, hsid, _⟩ := find?_listen hfind
  have hreg := served_of_listen (reach_inv hr).2 hl
  rw [hsid] at hreg
  refine ⟨s, hr, ?_⟩
  simp only [step, listenAck, hfind, hna, if_false]
  split
  · rename_i he
    rw [he.1, he.2] at hreg ⊢
    exact ⟨rfl, hreg, fun _ => rfl, rfl, rfl⟩
  · exact ⟨rfl, hreg, fun _ => rfl, rfl, rfl⟩

/-- Meaning of the ghost `acked`, part 1: writing a non-empty acknowledgement records the listen. -/
theorem acked_of_ack (s : Server) (sid id : Nat) (ks : List Kind) (us : List Nat)
    (h : (step s (.listenAck sid id)).2 = [.ack sid id ks us]) (hne : ks ≠ [] ∨ us ≠ []) :
    (sid, id) ∈ (step s (.listenAck sid id)).1.acked := by
  simp only [step, listenAck] at h ⊢
  split at h
  · simp at h
  · split at h
    · simp at h
    · split at h
      · simp at h
        obtain ⟨rfl, rfl⟩ := h
        simp at hne
      · rename_i hna hnempty
        simp [hna, hnempty]

/-- Meaning of the ghost `acked`, part 2: it stays until that listen ends or the session closes (in
every reachable state; a refused listen of the same session ends nothing but itself). -/
theorem acked_persists (cap : Kind → Cap) (s : Server) (hr : Reach cap s) (l : Label) (sid id : Nat)
    (h : (sid, id) ∈ s.acked)
    (h1 : l ≠ .listenEnd sid id) (h2 : l ≠ .close sid) : (sid, id) ∈ (step s l).1.acked := by
  have hw := step_writes s l
  cases l with
  | listenAck a b =>
    simp only [step, listenAck]; split; exact h; split; exact h; split
    · exact h
    · simp; exact Or.inl h
  | listenEnd a b =>
    exact listenEnd_acked_mem.2 h fun e => h1 (by rw [show sid = a from e.1, show id = b from e.2])
  | close sid' => simp [step, close]; exact ⟨h, fun e => h2 (by rw [e])⟩
  | listenRefused a b c d n =>
    simp only [step, listenRefused]
    split
    · rename_i hg
      obtain ⟨l0, hl0, e1, e2⟩ := reach_invA hr (sid, id) h
      refine listenEnd_acked_mem.2 (((listen_writes ..).2 .acked rfl).symm ▸ h) fun e => ?_
      exact listenOk_spec hg.2.1 l0 hl0 ⟨e1.trans e.1, e2.trans e.2⟩
    · exact h
  | _ => rw [hw.2 .acked rfl]; exact h

/-- **acked_stays_served.**  In every reachable state an acknowledged listen is a live handler whose
session is in every table the listen was granted: no schedule of changes, callbacks, OTHER LISTENS OF
THE SAME SESSION — overlapping it in kinds or URIs, opened before or after it — ENDING IN ANY ORDER,
subscribes, unsubscribes or other sessions closing takes the session of an acknowledged subscription
out of a snapshot (this is where the by-id clean-up of F19 and the hand-over of notify-F30 are
needed).  The stamp is the id of the newest open stream of the session that was granted the same
thing. -/
theorem acked_stays_served (cap : Kind → Cap) (ls : List Label) (sid id : Nat)
    (h : (sid, id) ∈ (final cap ls).acked) :
    ∃ l ∈ (final cap ls).listens, l.sid = sid ∧ l.id = id ∧
      served (final cap ls) sid l.kinds l.uris := by
  have hr := reach_final cap ls
  obtain ⟨l, hl, h1, h2⟩ := reach_invA hr (sid, id) h
  have := served_of_listen (reach_inv hr).2 hl
  rw [h1] at this
  exact ⟨l, hl, h1, h2, this⟩

/-- **acked_stays_registered.**  … and an acknowledged listen that no other open stream of its session
overlaps — because there never was one, or because the overlapping ones have ended, in whatever
order: the SURVIVING listen — is registered under its own id. -/
theorem acked_stays_registered (cap : Kind → Cap) (ls : List Label) (sid id : Nat)
    (h : (sid, id) ∈ (final cap ls).acked) :
    ∃ l ∈ (final cap ls).listens, l.sid = sid ∧ l.id = id ∧
      (sole (final cap ls) l → registered (final cap ls) sid id l.kinds l.uris) := by
  have hr := reach_final cap ls
  obtain ⟨l, hl, h1, h2⟩ := reach_invA hr (sid, id) h
  refine ⟨l, hl, h1, h2, fun hsole => ?_⟩
  have := registered_of_sole (reach_inv hr).2 hl hsole
  rw [h1, h2] at this
  exact this

/-- **one_stamp_per_session.**  However many open listens of a session were granted `k`, a
`notifySessions(k)` snapshot has the session under ONE request id (that of the newest of them). -/
theorem one_stamp_per_session (cap : Kind → Cap) (ls : List Label) (k : Kind) (sid id id' : Nat)
    (h1 : (sid, id) ∈ ((final cap ls).ks k).subs) (h2 : (sid, id') ∈ ((final cap ls).ks k).subs) : id = id' := by
  have hS := (reach_inv (reach_final cap ls)).2
  have e1 := (hS.subs_iff k sid id).1 h1
  have e2 := (hS.subs_iff k sid id').1 h2
  rw [e1] at e2
  exact Option.some.inj e2

/-- **listenEnd_keeps_other_listens.**  The end of one listen — whichever — removes no other open
stream from the record and leaves the session of every other open stream served for everything that
stream was granted: if the entry carried the id of the stream that ends, it now carries the id of
the newest remaining stream that was granted the same thing. -/
theorem listenEnd_keeps_other_listens (cap : Kind → Cap) (s : Server) (hr : Reach cap s) (sid id : Nat)
    (l' : Listen) (hl' : l' ∈ s.listens) (hne : ¬(l'.sid = sid ∧ l'.id = id)) :
    l' ∈ (step s (.listenEnd sid id)).1.listens ∧
      served (step s (.listenEnd sid id)).1 l'.sid l'.kinds l'.uris := by
  have hmem : l' ∈ (step s (.listenEnd sid id)).1.listens :=
    (listenEnd_listens s sid id).symm ▸ mem_dropListen.2 ⟨hl', hne⟩
  exact ⟨hmem, served_of_listen (reach_inv (Reach.step (.listenEnd sid id) hr)).2 hmem⟩

/-- **listenEnd_touches_own_entries_only.**  The clean-up of a stream that ends decides by the id the entry
carries AT THE TIME IT RUNS: whatever happened between the cancellation and the clean-up (the application's
`UnsubscribeHandler` is called in between, outside the lock: another stream of the session may have taken
the URI or the kind over), an entry of a resource-subscription or list-changed table that does not carry
the id of the stream that ends is still there afterwards, unchanged.  (A clean-up that reads the owner
before it calls the application and deletes afterwards without reading again breaks
exactly this; the harness's `park` window shows it.) -/
theorem listenEnd_touches_own_entries_only (s : Server) (sid id : Nat) :
    (∀ r ∈ s.rsubs, ¬(r.2.1 = sid ∧ r.2.2 = id) → r ∈ (listenEnd s sid id).rsubs) ∧
    (∀ (t : Kind), ∀ p ∈ (s.ks t).subs, ¬(p.1 = sid ∧ p.2 = id) → p ∈ ((listenEnd s sid id).ks t).subs) := by
  refine ⟨?_, ?_⟩
  · intro r hr hne
    simp only [listenEnd]
    split
    · exact hr
    · refine List.mem_filterMap.2 ⟨r, hr, if_neg ?_⟩
      simp only [Bool.and_eq_true, beq_iff_eq]
      exact fun h => hne ⟨h.1.1, h.1.2⟩
  · intro t p hp hne
    simp only [listenEnd]
    split
    · exact hp
    · refine List.mem_filterMap.2 ⟨p, hp, if_neg ?_⟩
      simp only [Bool.and_eq_true, beq_iff_eq]
      exact fun h => hne ⟨h.1, h.2⟩

/-- The situation of the `park` window is reachable and the theorem is not vacuous: a session subscribes a URI
on stream 3, subscribes it again on stream 4 (the entry is 4's), stream 3 ends: the session is still
subscribed, under 4's id. -/
example :
    let s := (run (init (fun _ => .on)) [.bind 1, .hello 1 true, .listen 1 3 [] [7], .listen 1 4 [] [7], .listenEnd 1 3]).1
    (7, 1, 4) ∈ s.rsubs := by decide

/-- Meaning of the record `listens`, part 1: the registration section of a handler records the stream
with what it was granted. -/
theorem listen_recorded (s : Server) (sid id : Nat) (kinds : List Kind) (uris : List Nat)
    (hg : (sid, Gen.modern) ∈ s.sessions ∧ listenOk s sid id = true ∧ uris.Nodup) :
    (⟨sid, id, kinds.filter (gateListen s), if resSub s then uris else []⟩ : Listen) ∈
      (step s (.listen sid id kinds uris)).1.listens := by
  simp only [step, listen, hg, and_self, if_true]
  simp

/-- Meaning of the record `listens`, part 2: a stream that was granted something stays in the record
until it ends or its session closes. -/
theorem listens_persist (cap : Kind → Cap) (s : Server) (hr : Reach cap s) (lab : Label) (l : Listen)
    (hl : l ∈ s.listens) (hgr : l.kinds ≠ [] ∨ l.uris ≠ [])
    (h1 : lab ≠ .listenEnd l.sid l.id) (h2 : lab ≠ .close l.sid) : l ∈ (step s lab).1.listens := by
  have hS := (reach_inv hr).2
  have hw := step_writes s lab
  cases lab with
  | listen a b c d =>
    simp only [step, listen]; split
    · simp; exact Or.inr hl
    · exact hl
  | listenAck a b =>
    simp only [step, listenAck]; split; exact hl; split; exact hl; split
    · rename_i l0 hfind _ hempty
      obtain ⟨hl0, hsid, hid⟩ := find?_listen hfind
      refine mem_dropListen.2 ⟨hl, fun e => ?_⟩
      rw [hS.listen_ids l hl l0 hl0 (by rw [e.1, hsid]) (by rw [e.2, hid])] at hgr
      exact hgr.elim (· hempty.1) (· hempty.2)
    · exact hl
  | listenEnd a b =>
    show l ∈ (listenEnd s a b).listens
    rw [listenEnd_listens]
    exact mem_dropListen.2 ⟨hl, fun e => h1 (by rw [e.1, e.2])⟩
  | close sid' => simp [step, close]; exact ⟨hl, fun e => h2 (by rw [e])⟩
  | listenRefused a b c d n =>
    simp only [step, listenRefused]
    split
    · rename_i hg
      rw [listenEnd_listen_listens s a b c _ hg.2.1]; exact hl
    · exact hl
  | _ => rw [hw.2 .listens rfl]; exact hl

/-- An acknowledged grant of `k` makes the session entitled. -/
theorem entitled_of_acked (cap : Kind → Cap) (ls : List Label) (sid id : Nat) (k : Kind)
    (h : (sid, id) ∈ (final cap ls).acked)
    (hk : ∀ l ∈ (final cap ls).listens, l.sid = sid → l.id = id → k ∈ l.kinds) :
    entitled (final cap ls) sid k := by
  obtain ⟨l, hl, h1, h2, _⟩ := acked_stays_served cap ls sid id h
  exact Or.inr ⟨l, hl, h1, hk l hl h1 h2⟩

/-- **at_least_one_after_ack.**  A 2026-07-28 session that holds the acknowledgement of a listen
granted `k` and is in debt for `k` (a gated change since it connected — before or after the
acknowledgement — that no snapshot has covered) is in the send list of the next `notifySessions(k)`
run, stamped with the id of its newest open listen that was granted `k` (that listen's own id unless
a newer one overlaps it); and such a run is still to come (`no_lost_notification`). -/
theorem at_least_one_after_ack (cap : Kind → Cap) (ls : List Label) (sid id : Nat) (k : Kind)
    (ha : (sid, id) ∈ (final cap ls).acked)
    (hk : ∀ l ∈ (final cap ls).listens, l.sid = sid → l.id = id → k ∈ l.kinds)
    (ho : (sid, k) ∈ (final cap ls).owed) :
    active ((final cap ls).ks k) ∧
    (0 < ((final cap ls).ks k).pending →
      ∃ to h, (step (final cap ls) (.cbrun k)).2 = [.changed k to] ∧ (⟨sid, some h⟩ : Send) ∈ to ∧
        heir (final cap ls).listens sid (grantsK k) = some h) := by
  refine ⟨no_lost_notification cap ls sid k ho, ?_⟩
  intro hp
  obtain ⟨l, hl, h1, h2, hreg⟩ := acked_stays_served cap ls sid id ha
  obtain ⟨h, hh, _, hsend⟩ := hreg.2.1 k (hk l hl h1 h2)
  refine ⟨sendList (final cap ls) k, h, ?_, hsend, hh⟩
  simp only [step, cbrun]; split
  · omega
  · rfl

/-- **acked_updated.**  A `ResourceUpdated(u)` call made while the session holds the acknowledgement
of a listen granted `u` reaches the session, stamped with the id of its newest open listen that was
granted `u`. -/
theorem acked_updated (cap : Kind → Cap) (ls : List Label) (sid id u : Nat)
    (ha : (sid, id) ∈ (final cap ls).acked)
    (hu : ∀ l ∈ (final cap ls).listens, l.sid = sid → l.id = id → u ∈ l.uris) :
    ∃ to h, (step (final cap ls) (.updated u)).2 = [.updated u to] ∧ (⟨sid, some h⟩ : Send) ∈ to ∧
      heir (final cap ls).listens sid (grantsU u) = some h := by
  obtain ⟨l, hl, h1, h2, hreg⟩ := acked_stays_served cap ls sid id ha
  obtain ⟨h, hh, _, hsend⟩ := hreg.2.2 u (hu l hl h1 h2)
  exact ⟨updList (final cap ls) u, h, rfl, hsend, hh⟩

/-! ### a fan-out that blocks between two sessions -/

theorem run_after_change (cap : Kind → Cap) (ls : List Label) (f : FSet) (e : Eff) (mid : List Label) :
    (run (change (final cap ls) f e) mid).1 = final cap (ls ++ (.change f e :: mid)) := by
  simp only [final]
  rw [run_append]
  simp only [run, step]

/-- The schedule takes no snapshot of kind `k` and does not close `sid` — it may contain any number of
writes of fan-outs in progress (`deliver`), changes, timer firings, snapshots of other kinds, … -/
def quiet (k : Kind) (sid : Nat) (mid : List Label) : Prop := ∀ l ∈ mid, l ≠ .cbrun k ∧ l ≠ .close sid

theorem owed_through (s : Server) (mid : List Label) (sid : Nat) (k : Kind) (h : (sid, k) ∈ s.owed)
    (hq : quiet k sid mid) : (sid, k) ∈ (run s mid).1.owed := by
  induction mid generalizing s with
  | nil => exact h
  | cons l mid ih =>
    simp only [run]
    exact ih _ (owed_persists s l sid k h (hq l List.mem_cons_self).1 (hq l List.mem_cons_self).2)
      (fun l' hl' => hq l' (List.mem_cons_of_mem _ hl'))

/-- **change_during_fanout_announced** (at_least_one_after_burst with a BLOCKED fan-out).  Take any
reachable state — in particular one in which a `notifySessions(k)` fan-out is in progress, some
sessions already written to, a later write still blocked (`inflight ≠ []`) — and make a change of kind
`k` there.  Then (1) a timer is armed for `notificationDelay` from now: the change does not rely on
the call that is on its way; (2) every connected session is in debt, and whatever happens next short
of a NEW snapshot of kind `k` (the remaining writes of the blocked fan-out, further changes, timers,
other kinds' callbacks) the debt stays and is backed by an armed timer or a started callback — the
writes of the old fan-out discharge nothing; (3) when that callback takes its snapshot the session, if
entitled, is in it (`at_least_one_after_burst`). -/
theorem change_during_fanout_announced (cap : Kind → Cap) (ls : List Label) (f : FSet) (e : Eff) (k : Kind)
    (sid : Nat) (he : ¬(e = .noop ∨ (e = .remove ∧ (final cap ls).cnt f = 0))) (hk : featureKind f = some k)
    (hg : gateSend (final cap ls) k = true) (hs : sid ∈ (final cap ls).sessions.map Prod.fst)
    (mid : List Label) (hq : quiet k sid mid) :
    ((change (final cap ls) f e).ks k).tracked = some (some ((final cap ls).now + delay)) ∧
    (sid, k) ∈ (run (change (final cap ls) f e) mid).1.owed ∧
    active ((run (change (final cap ls) f e) mid).1.ks k) := by
  have ho := owed_of_change (final cap ls) f e k sid he hk hg hs
  have hthrough := owed_through _ mid sid k ho hq
  refine ⟨?_, hthrough, ?_⟩
  · rw [change_armed _ f e k he hk hg (by intro e'; simp [e'] at hs)]
    simp [setK]
  · rw [run_after_change] at hthrough ⊢
    exact no_lost_notification cap _ sid k hthrough

/-- … and (3) spelled out: in the state reached, the next snapshot of kind `k` contains the session if
it is entitled then — the notification it gets is sent after the change, however the blocked fan-out
and everything else was scheduled in between. -/
theorem change_during_fanout_reaches (cap : Kind → Cap) (ls : List Label) (f : FSet) (e : Eff) (k : Kind)
    (sid : Nat) (he : ¬(e = .noop ∨ (e = .remove ∧ (final cap ls).cnt f = 0))) (hk : featureKind f = some k)
    (hg : gateSend (final cap ls) k = true) (hs : sid ∈ (final cap ls).sessions.map Prod.fst)
    (mid : List Label) (hq : quiet k sid mid)
    (hent : entitled (run (change (final cap ls) f e) mid).1 sid k)
    (hp : 0 < ((run (change (final cap ls) f e) mid).1.ks k).pending) :
    ∃ to, (step (run (change (final cap ls) f e) mid).1 (.cbrun k)).2 = [.changed k to] ∧ sid ∈ to.map Send.sid := by
  have ho := (change_during_fanout_announced cap ls f e k sid he hk hg hs mid hq).2.1
  rw [run_after_change] at ho hent hp ⊢
  exact at_least_one_after_burst cap _ sid k ho hent hp

/-- A label other than a snapshot adds nothing to the outstanding writes of kind `k`. -/
theorem step_inflight (s : Server) (l : Label) (k : Kind) (x : Send)
    (h : x ∈ ((step s l).1.ks k).inflight) :
    x ∈ (s.ks k).inflight ∨ ∃ to, Out.changed k to ∈ (step s l).2 ∧ x ∈ to := by
  have hw := step_writes s l
  cases l with
  | cbrun k' =>
    simp only [step, cbrun] at h ⊢
    split
    · rename_i hp; simp only [hp, if_true] at h; exact Or.inl h
    · rename_i hp
      simp only [hp, if_false, setK] at h
      split at h
      · rename_i e
        simp only [List.mem_append] at h
        rcases h with h | h
        · exact Or.inl (e ▸ h)
        · right; exact ⟨sendList s k', by rw [e]; simp, h⟩
      · exact Or.inl h
  | deliver k' i =>
    left
    simp only [step, deliver] at h
    split at h
    · exact h
    · simp only [setK] at h
      split at h
      · rename_i e; subst e; exact List.mem_of_mem_eraseIdx h
      · exact h
  | _ => rw [hw.2 .inflight rfl k] at h; exact .inl h

theorem sent_from (s : Server) (ls : List Label) (k : Kind) (x : Send) (h : Out.sent k x ∈ (run s ls).2) :
    x ∈ (s.ks k).inflight ∨ ∃ to, Out.changed k to ∈ (run s ls).2 ∧ x ∈ to := by
  induction ls generalizing s with
  | nil => simp [run] at h
  | cons l ls ih =>
    simp only [run, List.mem_append] at h ⊢
    rcases h with h | h
    · obtain ⟨i, _, hy⟩ := step_out h
      exact .inl (List.mem_of_getElem? hy)
    · rcases ih _ h with h1 | ⟨to, h1, h2⟩
      · rcases step_inflight s l k x h1 with h3 | ⟨to, h3, h4⟩
        · exact Or.inl h3
        · exact Or.inr ⟨to, Or.inl h3, h4⟩
      · exact Or.inr ⟨to, Or.inr h1, h2⟩

/-- **sent_was_snapshot.**  Every write of every fan-out loop — however long it was blocked, whatever
happened meanwhile — goes to a session that some snapshot of that kind contained (so: entitled when
the snapshot was taken, `fanout_entitled_only`). -/
theorem sent_was_snapshot (cap : Kind → Cap) (ls : List Label) (k : Kind) (x : Send)
    (h : Out.sent k x ∈ outputs cap ls) : ∃ to, Out.changed k to ∈ outputs cap ls ∧ x ∈ to := by
  rcases sent_from (init cap) ls k x h with h1 | h1
  · simp [init] at h1
  · exact h1

/-- In a state satisfying the invariant, the `resourceSubscriptions` entries of a 2026-07-28 session
are exactly the ids of its newest open streams. -/
theorem rsubs_modern_iff {s : Server} (hS : InvS s) {sid : Nat} (hm : (sid, Gen.modern) ∈ s.sessions) (u id : Nat) :
    (u, sid, id) ∈ s.rsubs ↔ heir s.listens sid (grantsU u) = some id := by
  constructor
  · intro h
    rcases hS.rsubs_owner _ h with g | g
    · exact absurd (gen_unique hS.sess_nodup g hm) (by simp)
    · exact g.2
  · exact hS.listen_rsubs u sid id

/-- **refused_listen_leaves_no_subscription.**  A `subscriptions/listen` that `SubscribeHandler`
refuses at its `n`-th URI — after the handler has entered the kinds and the URIs before it into the
tables — leaves, in every reachable state: the record of open streams, the live legacy subscriptions,
the sessions and the acknowledged listens as they were; every list-changed table with exactly the
entries it had; every `ResourceUpdated(u)` lookup with exactly the recipients it had (so the session
receives resource-updated notifications for a URI of the refused request only if another, live
subscription of it says so); and no table entry, no resource subscription and no acknowledgement
under the id of the refused request (a fresh id of a 2026-07-28 session: the label's guard). -/
theorem refused_listen_leaves_no_subscription (cap : Kind → Cap) (s : Server) (hr : Reach cap s)
    (sid id : Nat) (kinds : List Kind) (uris : List Nat) (n : Nat) :
    let s' := (step s (.listenRefused sid id kinds uris n)).1
    s'.listens = s.listens ∧ s'.rlive = s.rlive ∧ s'.sessions = s.sessions ∧
    (∀ p, p ∈ s'.acked ↔ p ∈ s.acked) ∧
    (∀ t p, p ∈ (s'.ks t).subs ↔ p ∈ (s.ks t).subs) ∧
    (∀ u x, x ∈ (updList s' u).map Send.sid ↔ x ∈ (updList s u).map Send.sid) ∧
    ((sid, Gen.modern) ∈ s.sessions → listenOk s sid id = true →
      (∀ t, (sid, id) ∉ (s'.ks t).subs) ∧ (∀ r ∈ s'.rsubs, ¬(r.2.1 = sid ∧ r.2.2 = id)) ∧ (sid, id) ∉ s'.acked) := by
  intro s'
  have hr' : Reach cap s' := Reach.step _ hr
  have hS := (reach_inv hr).2
  have hS' := (reach_inv hr').2
  have hA := reach_invA hr
  have hlist : s'.listens = s.listens := by
    show (listenRefused s sid id kinds uris n).listens = s.listens
    simp only [listenRefused]; split
    · rename_i hg; exact listenEnd_listen_listens s sid id kinds _ hg.2.1
    · rfl
  have hrl : s'.rlive = s.rlive := (step_writes s _).2 .rlive rfl
  have hsess : s'.sessions = s.sessions := (step_writes s _).2 .sessions rfl
  have hack : ∀ p, p ∈ s'.acked ↔ p ∈ s.acked := by
    refine fun p => ⟨fun hp => ?_, fun hp => acked_persists cap s hr _ p.1 p.2 hp nofun nofun⟩
    have hp : p ∈ (listenRefused s sid id kinds uris n).acked := hp
    simp only [listenRefused] at hp
    split at hp
    · have := listenEnd_acked_mem.1 hp
      rwa [(listen_writes ..).2 .acked rfl] at this
    · exact hp
  refine ⟨hlist, hrl, hsess, hack, ?_, ?_, ?_⟩
  · intro t p
    obtain ⟨a, b⟩ := p
    rw [hS'.subs_iff t a b, hS.subs_iff t a b, hlist]
  · intro u x
    rw [(updList_spec hS' u).1 x, (updList_spec hS u).1 x]
    simp only [subscribed, hlist, hrl]
  · intro hmod hok
    have ok := listenOk_spec hok
    refine ⟨?_, ?_, ?_⟩
    · intro t hmem
      obtain ⟨l0, hl0, e1, e2, _⟩ := hS'.subs_listen t (sid, id) hmem
      rw [hlist] at hl0
      exact ok l0 hl0 ⟨e1, e2⟩
    · intro r hr0 ⟨e1, e2⟩
      rcases hS'.rsubs_owner r hr0 with g | g
      · rw [hsess, e1] at g
        exact absurd (gen_unique hS.sess_nodup g hmod) (by simp)
      · obtain ⟨l0, hl0, h1, h2, _⟩ := heir_mem g.2
        rw [hlist] at hl0
        exact ok l0 hl0 ⟨by rw [h1]; exact e1, by rw [h2]; exact e2⟩
    · intro hmem
      obtain ⟨l0, hl0, h1, h2⟩ := hA _ ((hack _).1 hmem)
      exact ok l0 hl0 ⟨h1, h2⟩

/-- Non-vacuity for a blocked fan-out: two legacy sessions; the fan-out of the first burst has written
to session 1 and is blocked before session 2 when a further change is made; a fresh timer is armed by
that change and its callback reaches BOTH sessions — session 1, served before the change, too. -/
example :
    outputs (fun _ => .unset)
      [.bind 1, .hello 1 false, .bind 2, .hello 2 false, .change .tools .add, .tick 10, .fireTracked .tools,
       .cbrun .tools, .deliver .tools 0, .change .tools .add, .deliver .tools 0,
       .tick 10, .fireTracked .tools, .cbrun .tools, .deliver .tools 1, .deliver .tools 0] =
      [.changed .tools [⟨1, none⟩, ⟨2, none⟩], .sent .tools ⟨1, none⟩, .sent .tools ⟨2, none⟩,
       .changed .tools [⟨1, none⟩, ⟨2, none⟩], .sent .tools ⟨2, none⟩, .sent .tools ⟨1, none⟩] := by
  decide

example :
    ((final (fun _ => .unset)
      [.bind 1, .hello 1 false, .bind 2, .hello 2 false, .change .tools .add, .tick 10, .fireTracked .tools,
       .cbrun .tools, .deliver .tools 0]).ks .tools).inflight = [⟨2, none⟩] := by
  decide

/-- … a write to a session closed since the snapshot sends nothing. -/
example :
    outputs (fun _ => .unset)
      [.bind 1, .hello 1 false, .bind 2, .hello 2 false, .change .tools .add, .tick 10, .fireTracked .tools,
       .cbrun .tools, .close 2, .deliver .tools 1, .deliver .tools 0] =
      [.changed .tools [⟨1, none⟩, ⟨2, none⟩], .sent .tools ⟨1, none⟩] := by
  decide

/-- Non-vacuity for a refused listen: the request 9 of session 2 names kind `tools` and the URIs 5, 6
and 7; `SubscribeHandler` refuses 6 (index 1), after `tools` and 5 have been entered under id 9.
Afterwards `ResourceUpdated(5)` reaches nobody, and the list-changed entry is back with the older
stream 7 that request 9 had shadowed. -/
example :
    outputs (fun _ => .on)
      [.bind 2, .hello 2 true, .listen 2 7 [.tools] [], .listenAck 2 7, .listenRefused 2 9 [.tools] [5, 6, 7] 1,
       .updated 5, .listenAck 2 9, .change .tools .add, .tick 10, .fireTracked .tools, .cbrun .tools] =
      [.ack 2 7 [.tools] [], .updated 5 [], .changed .tools [⟨2, some 7⟩]] := by
  decide

/-- … whereas the same request with an accepting handler subscribes the session to all three. -/
example :
    outputs (fun _ => .on)
      [.bind 2, .hello 2 true, .listen 2 9 [.tools] [5, 6, 7], .listenAck 2 9, .updated 5, .updatedNamed 7 70] =
      [.ack 2 9 [.tools] [5, 6, 7], .updated 5 [⟨2, some 9⟩], .updatedNamed 7 70 [⟨2, some 9⟩]] := by
  decide

/-- Non-vacuity of the server-side statements: a burst of two tool changes with one legacy and one
subscribed 2026-07-28 session, the second change landing between the timer firing and its callback
taking the lock; the re-armed timer's callback still reaches both sessions. -/
example :
    outputs (fun _ => .unset)
      [.change .tools .add, .bind 1, .hello 1 false, .bind 2, .hello 2 true, .listen 2 7 [.tools] [],
       .listenAck 2 7, .change .tools .add, .tick 10, .fireTracked .tools, .change .tools .add, .cbrun .tools,
       .tick 10, .fireOrphan .tools 0, .cbrun .tools] =
      [.ack 2 7 [.tools] [], .changed .tools [⟨1, none⟩, ⟨2, some 7⟩], .changed .tools [⟨1, none⟩, ⟨2, some 7⟩]] := by
  decide

example : (final (fun _ => .unset) [.bind 1, .change .tools .add]).owed = [(1, .tools)] := by decide

/-- Non-vacuity of the acknowledgement theorems: the whole burst (change, timer, callback) falls
between the acknowledgement write and the next step of the handler; the session is reached.  And a
burst that falls between the registration section and the acknowledgement write reaches it too (the
notification then precedes the acknowledgement on the wire). -/
example :
    outputs (fun _ => .unset)
      [.change .tools .add, .bind 2, .hello 2 true, .listen 2 7 [.tools] [], .listenAck 2 7,
       .change .tools .add, .tick 10, .fireTracked .tools, .cbrun .tools] =
      [.ack 2 7 [.tools] [], .changed .tools [⟨2, some 7⟩]] := by
  decide

example :
    outputs (fun _ => .unset)
      [.change .tools .add, .bind 2, .hello 2 true, .listen 2 7 [.tools] [],
       .change .tools .add, .tick 10, .fireTracked .tools, .cbrun .tools, .listenAck 2 7] =
      [.changed .tools [⟨2, some 7⟩], .ack 2 7 [.tools] []] := by
  decide

example : (final (fun _ => .unset)
    [.change .tools .add, .bind 2, .hello 2 true, .listen 2 7 [.tools] [], .listenAck 2 7]).acked = [(2, 7)] := by
  decide

/-- Non-vacuity for overlapping listens.  Two streams of one session granted `tools`: whichever ends
first, the change that follows reaches the session, stamped with the survivor's id (the older one
ending leaves the newer one's entry alone; the newer one ending hands the entry over). -/
example :
    outputs (fun _ => .unset)
      [.change .tools .add, .bind 2, .hello 2 true, .listen 2 7 [.tools] [], .listenAck 2 7,
       .listen 2 8 [.tools] [], .listenAck 2 8, .listenEnd 2 7,
       .change .tools .add, .tick 10, .fireTracked .tools, .cbrun .tools] =
      [.ack 2 7 [.tools] [], .ack 2 8 [.tools] [], .changed .tools [⟨2, some 8⟩]] := by
  decide

example :
    outputs (fun _ => .unset)
      [.change .tools .add, .bind 2, .hello 2 true, .listen 2 7 [.tools] [], .listenAck 2 7,
       .listen 2 8 [.tools] [], .listenAck 2 8, .listenEnd 2 8,
       .change .tools .add, .tick 10, .fireTracked .tools, .cbrun .tools] =
      [.ack 2 7 [.tools] [], .ack 2 8 [.tools] [], .changed .tools [⟨2, some 7⟩]] := by
  decide

/-- Three streams on one URI, ended newest, oldest, middle: served until the last one has ended. -/
example :
    outputs (fun _ => .on)
      [.bind 2, .hello 2 true, .listen 2 3 [] [5], .listenAck 2 3, .listen 2 4 [] [5], .listenAck 2 4,
       .listen 2 6 [] [5], .listenAck 2 6, .updated 5, .listenEnd 2 6, .updated 5, .listenEnd 2 3, .updated 5,
       .listenEnd 2 4, .updated 5] =
      [.ack 2 3 [] [5], .ack 2 4 [] [5], .ack 2 6 [] [5], .updated 5 [⟨2, some 6⟩], .updated 5 [⟨2, some 4⟩],
       .updated 5 [⟨2, some 4⟩], .updated 5 []] := by
  decide

/-- A per-URI listen (what `ClientSession.Subscribe` opens): acknowledged, then updated. -/
example :
    outputs (fun _ => .on)
      [.bind 2, .hello 2 true, .listen 2 3 [] [5], .listenAck 2 3, .updated 5, .listenEnd 2 3, .updated 5] =
      [.ack 2 3 [] [5], .updated 5 [⟨2, some 3⟩], .updated 5 []] := by
  decide

end Notify

namespace Notify.Cache

/-- **list_after_notification_fresh.**  For every interleaving of list/read calls, responses, cache
fills, notifications being sent and handled, server changes and clock ticks, with any TTLs: a call
never returns a version older than the newest version announced by a notification (covering its
key) that the client had handled when the call started.  `m` is the ghost recorded at the start of
the call (`handled_announced`, `handled_mono` give its meaning). -/
theorem list_after_notification_fresh (ls : List Label) :
    ∀ k v m hit, Out.ret k v m hit ∈ (run true {} ls).2 → m ≤ v := by
  suffices H : ∀ s, Inv s → ∀ k v m hit, Out.ret k v m hit ∈ (run true s ls).2 → m ≤ v from H {} inv_init
  induction ls with
  | nil => intro s _ k v m hit ho; simp [run] at ho
  | cons l ls ih =>
    intro s hs k v m hit ho
    simp only [run, List.mem_append] at ho
    rcases ho with ho | ho
    · exact step_fresh s l hs k v m hit ho
    · exact ih _ (inv_step s l hs) k v m hit ho

/-- **invalidate_on_notification.**  Handling a notification removes every cache entry it covers
(and moves the generation), so the next call for such a key goes to the server. -/
theorem invalidate_on_notification (s : State) (i : Nat) (n : Notif) (h : s.inbox[i]? = some n) (k : Nat)
    (hc : n.covers k = true) :
    (handle s i).entries.lookup k = none ∧ (handle s i).gen = s.gen + 1 ∧
      (listStart (handle s i) k).2 = [] := by
  have h1 : (handle s i).entries.lookup k = none := by
    simp only [handle, h]
    rw [List.lookup_eq_none_iff]
    intro p hp
    simp at hp
    simp
    intro e; rw [← e] at hp; simp [hc] at hp
  refine ⟨h1, by simp [handle, h], ?_⟩
  simp [listStart, h1]

/-- **invalidate_on_every_handled_update.**  Handling a resource-updated notification that names `k`
removes the read-cache entry of `k` and moves the generation — whatever `cs.resourceSubs` holds: with
or without a Subscribe entry for `k` (an update naming a sub-resource of the subscribed URI, a stream
opened below `Subscribe`, an update that overtakes the asynchronous cancellation after `Unsubscribe`
has removed the entry).  `handle` does not read the table at all (`handle_ignores_subscriptions`). -/
theorem invalidate_on_every_handled_update (s : State) (i : Nat) (n : Notif) (h : s.inbox[i]? = some n) (k : Nat)
    (hs : n.scope = some k) :
    (handle s i).entries.lookup k = none ∧ (handle s i).gen = s.gen + 1 ∧
      (listStart (handle s i) k).2 = [] :=
  invalidate_on_notification s i n h k (by simp [Notif.covers, hs])

theorem handle_ignores_subscriptions (s : State) (subs' : List Nat) (i : Nat) :
    (handle { s with subs := subs' } i).entries = (handle s i).entries ∧
    (handle { s with subs := subs' } i).gen = (handle s i).gen ∧
    (handle { s with subs := subs' } i).fills = (handle s i).fills ∧
    (handle { s with subs := subs' } i).inbox = (handle s i).inbox ∧
    (handle { s with subs := subs' } i).handled = (handle s i).handled := by
  simp only [handle]
  split <;> simp

/-- … so a read that starts after the client handled an update naming `k` is answered by the server,
not from the cache, until a response obtained after the update has been stored: combined with
`list_after_notification_fresh` (which holds for every schedule of `sub`/`unsub` labels too) the read
returns a version at least as new as the one the update announced. -/
example :
    (run true {} [.listStart 5, .serve 0 60000, .fill 0, .listStart 5, .bump (fun k => k == 5),
       .announce (some 5), .handle 0, .listStart 5, .serve 0 60000, .fill 0]).2 =
      [.ret 5 0 0 false, .ret 5 0 0 true, .ret 5 1 1 false] := by decide

/-- **gated_invalidation_counterexample.**  For the variant that invalidates only URIs in
`cs.resourceSubs` the freshness theorem is FALSE, in both situations: (1) the client is subscribed to
6 and has 5 cached; an update names 5 (a sub-resource of 6); (2) the client subscribes to 5, reads it,
unsubscribes — the entry is gone at once — and an update for 5, sent before the server processed the
cancellation, is handled.  In both a read that starts after the notification was handled is served the
cached version 0 although version 1 was announced.  (`unsub 5 ∉ ls` / `sub 5 ∈ ls` tell the two apart.) -/
theorem gated_invalidation_counterexample :
    (∃ ls k v m hit, Out.ret k v m hit ∈ (runGated {} ls).2 ∧ ¬ m ≤ v ∧ Label.unsub 5 ∉ ls) ∧
    (∃ ls k v m hit, Out.ret k v m hit ∈ (runGated {} ls).2 ∧ ¬ m ≤ v ∧ Label.sub 5 ∈ ls) :=
  ⟨⟨[.sub 6, .listStart 5, .serve 0 60000, .fill 0, .bump (fun k => k == 5), .announce (some 5), .handle 0, .listStart 5],
     5, 0, 1, true, by decide, by decide, by simp⟩,
   ⟨[.sub 5, .listStart 5, .serve 0 60000, .fill 0, .unsub 5, .bump (fun k => k == 5), .announce (some 5), .handle 0,
     .listStart 5],
     5, 0, 1, true, by decide, by decide, by simp⟩⟩

/-- The same two schedules on the code that exists: the read goes to the server and returns version 1. -/
example :
    (run true {} [.sub 6, .listStart 5, .serve 0 60000, .fill 0, .bump (fun k => k == 5), .announce (some 5),
       .handle 0, .listStart 5, .serve 0 60000, .fill 0]).2 = [.ret 5 0 0 false, .ret 5 1 1 false] := by decide

example :
    (run true {} [.sub 5, .listStart 5, .serve 0 60000, .fill 0, .unsub 5, .bump (fun k => k == 5),
       .announce (some 5), .handle 0, .listStart 5, .serve 0 60000, .fill 0]).2 =
      [.ret 5 0 0 false, .ret 5 1 1 false] := by decide

/-- Non-vacuity, and what the generation check is for.  Schedule: list (miss, TTL 60 s) … response obtained
at version 0 … server change … notification sent and handled … the held response is put into the
cache … a later list.  With the check the stale fill is skipped, the later list misses and returns
version 1. -/
def f7Schedule : List Label :=
  [.listStart 0, .serve 0 60000, .bump (fun _ => true), .announce none, .handle 0, .fill 0,
   .listStart 0, .serve 0 60000, .fill 0]

example : (run true {} f7Schedule).2 = [.ret 0 0 0 false, .ret 0 1 1 false] := by decide

/-- **F7.**  Without the generation check the same schedule serves version 0 from
the cache to a call that started after the client handled the notification announcing version 1:
`list_after_notification_fresh` is false for `fixed = false`. -/
theorem f7_counterexample :
    ∃ ls k v m hit, Out.ret k v m hit ∈ (run false {} ls).2 ∧ ¬ m ≤ v :=
  ⟨[.listStart 0, .serve 0 60000, .bump (fun _ => true), .announce none, .handle 0, .fill 0, .listStart 0],
   0, 0, 1, true, by decide, by decide⟩

end Notify.Cache
