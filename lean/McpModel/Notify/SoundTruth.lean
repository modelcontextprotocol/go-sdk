import McpModel.Notify.Monitor
/-!
# Clause soundness of the C18 monitor (E14): the ground truth of an observation trace

A trace is the list of records of one case: the harness's ops with the IMPLEMENTATION's observations.
What the property speaks about — which slots hold a connected session and of which protocol generation,
which subscriptions/listen streams of a session are live (acknowledged by the implementation and not
ended by the client) and what they were granted, which legacy resources/subscribe calls are live, how
the capabilities are configured, which version every list and resource has — is a function of the
records alone (`truth`, a fold of `truthStep`).  It mentions no judgement of the monitor (debts, skipped
callbacks, ended-listen records, handled versions, held fan-outs); `monAfter_truth` shows that the
monitor's copies of these facts are exactly this ground truth.
-/
namespace Notify.Sound
open Notify Notify.Mon

abbrev Trace := List Rec

/-- what is true of a client slot after a prefix of the trace -/
structure TSlot where
  connected : Bool := false
  modern : Bool := false
  /-- live listens: acknowledged by the implementation with a non-empty grant, not ended by the client; oldest first -/
  listens : List MListen := []
  /-- live legacy subscriptions -/
  luris : List Nat := []
  /-- listens whose handler is held right after its acknowledgement write -/
  window : List Nat := []
  /-- cs.resourceSubs -/
  csubs : List Nat := []

structure Truth where
  cap : Kind → Cap := fun _ => .unset
  ver : FSet → Nat := fun _ => 0
  cnt : FSet → Nat := fun _ => 0
  content : Nat → Nat := fun _ => 0
  slots : Slot → TSlot := fun _ => {}

def Truth.setSlot (t : Truth) (i : Slot) (d : TSlot) : Truth :=
  { t with slots := fun j => if j = i then d else t.slots j }

def TSlot.add (d : TSlot) (id : Nat) (ks : List Kind) (us : List Nat) (parked : Bool) : TSlot :=
  { d with listens := if ks.isEmpty && us.isEmpty then d.listens else d.listens.filter (·.id != id) ++ [⟨id, ks, us⟩],
           window := if parked then d.window ++ [id] else d.window }

def TSlot.end_ (d : TSlot) (id : Nat) : TSlot := { d with listens := d.listens.filter (·.id != id) }

/-- the ground truth after one more record (the 2 at `config`: the harness's two permanent resources, as in `freshState`) -/
def truthStep (t : Truth) (r : Rec) : Truth :=
  match r.op, r.obs with
  | .config ca cb cc _, _ =>
    { cap := fun k => match k with | .tools => ca | .prompts => cb | .resources => cc,
      ver := fun f => if f == .resources then 2 else 0,
      cnt := fun f => if f == .resources then 2 else 0 }
  | .change f e, .ok =>
    if e == .noop || (e == .remove && t.cnt f == 0) then t else { t with ver := bumpV t.ver f, cnt := bumpC t.cnt f e }
  | .connect c _ modern _, obs => if obs.isOk then t.setSlot c { connected := true, modern := modern } else t
  | .close c, .ok => t.setSlot c {}
  | .listen c _, .ack ks us parked => t.setSlot c ((t.slots c).add 0 ks us parked)
  | .xlisten c id _ _ _, .ack ks us parked => t.setSlot c ((t.slots c).add id ks us parked)
  | .subscribe c u _, obs =>
    let d := t.slots c
    if !d.modern then
      (match obs with
       | .ok => if !d.luris.contains u then t.setSlot c { d with luris := d.luris ++ [u] } else t
       | _ => t)
    else
      (match obs with
       | .ack ks us parked => t.setSlot c { (d.add (ridOf u) ks us parked) with csubs := addNew d.csubs u }
       | .noack => t.setSlot c { d with csubs := addNew d.csubs u }
       | _ => t)
  | .xend c id _, .ok => t.setSlot c ((t.slots c).end_ id)
  | .canceldone c id, .ok => t.setSlot c ((t.slots c).end_ id)
  | .unsubscribe c u _, .ok =>
    let d := t.slots c
    if d.modern then t.setSlot c { (d.end_ (ridOf u)) with csubs := d.csubs.filter (· != u) }
    else t.setSlot c { d with luris := d.luris.filter (· != u) }
  | .unsubscribe c u _, .okCancelHeld =>
    let d := t.slots c
    t.setSlot c { d with csubs := d.csubs.filter (· != u) }
  | .ackdone c id, obs =>
    let d := t.slots c
    if obs.isOk then t.setSlot c { d with window := d.window.filter (· != id) } else t
  | .rupdated _ v, _ => { t with content := fun k => if k == v then t.content v + 1 else t.content k }
  | _, _ => t

def truth (tr : Trace) : Truth := tr.foldl truthStep {}

def truthAt (tr : Trace) (i : Nat) : Truth := truth (tr.take i)

def TSlot.grantedK (d : TSlot) (k : Kind) : Prop := ∃ l ∈ d.listens, k ∈ l.kinds

def TSlot.subscribed (d : TSlot) (u : Nat) : Prop :=
  if d.modern then ∃ l ∈ d.listens, u ∈ l.uris else u ∈ d.luris

/-- "connected sessions entitled to them (legacy sessions, or 2026-07-28 sessions with a matching subscription)" -/
def TSlot.entitled (d : TSlot) (k : Kind) : Prop := d.connected = true ∧ (d.modern = false ∨ d.grantedK k)

def Truth.verOfKey (t : Truth) : Key → Nat
  | .list f => t.ver f
  | .read u => t.content u

structure Agrees (m : MState) (t : Truth) : Prop where
  cap : m.cap = t.cap
  ver : m.ver = t.ver
  cnt : m.cnt = t.cnt
  content : m.content = t.content
  connected : ∀ i, (m.slots i).connected = (t.slots i).connected
  modern : ∀ i, (m.slots i).modern = (t.slots i).modern
  listens : ∀ i, (m.slots i).listens = (t.slots i).listens
  luris : ∀ i, (m.slots i).luris = (t.slots i).luris
  window : ∀ i, (m.slots i).window = (t.slots i).window
  csubs : ∀ i, (m.slots i).csubs = (t.slots i).csubs

end Notify.Sound
