import McpModel.Notify.LemmasSub
/-!
# `InvN`: a list-changed subscription table holds at most one entry per session

`InvS.subs_iff` characterises the MEMBERS of a table; that no member occurs twice (so no session is
written to twice by one fan-out) is the invariant `InvN`, preserved by every label.
-/
namespace Notify
open Generated.Notify

def InvN (s : Server) : Prop := ∀ t, ((s.ks t).subs.map Prod.fst).Nodup

theorem invN_init (cap : Kind → Cap) : InvN (init cap) := by
  intro t; simp [init]

theorem InvN.of_subs_eq {s s' : Server} (h : InvN s) (e : ∀ t, (s'.ks t).subs = (s.ks t).subs) : InvN s' := by
  intro t; rw [e]; exact h t

theorem setK_subs (s : Server) (k : Kind) (f : KState → KState) (hf : ∀ st, (f st).subs = st.subs) (t : Kind) :
    ((setK s k f).ks t).subs = (s.ks t).subs := by
  simp only [setK]; split
  · exact hf _
  · rfl

theorem nodup_put {l : List (Nat × Nat)} (h : (l.map Prod.fst).Nodup) (sid id : Nat) :
    ((put l sid id).map Prod.fst).Nodup := by
  simp only [put, List.map_append, List.map_cons, List.map_nil]
  rw [List.nodup_append]
  refine ⟨(List.Sublist.map _ List.filter_sublist).nodup h, by simp, ?_⟩
  intro a ha b hb
  simp only [List.mem_singleton] at hb
  subst hb
  rw [List.mem_map] at ha
  obtain ⟨p, hp, rfl⟩ := ha
  simpa using (List.mem_filter.1 hp).2

theorem sublist_filterMap_fst {l : List (Nat × Nat)} {f : Nat × Nat → Option (Nat × Nat)}
    (hf : ∀ p q, f p = some q → q.1 = p.1) : List.Sublist ((l.filterMap f).map Prod.fst) (l.map Prod.fst) := by
  induction l with
  | nil => simp
  | cons a t ih =>
    simp only [List.filterMap_cons]
    cases hfa : f a with
    | none => simp only [List.map_cons]; exact List.Sublist.cons _ ih
    | some q =>
      simp only [List.map_cons]
      rw [hf a q hfa]
      exact ih.cons_cons _

theorem invN_listen (s : Server) (sid id : Nat) (ks : List Kind) (us : List Nat) (h : InvN s) :
    InvN (listen s sid id ks us) := by
  intro t
  simp only [listen]
  split
  · simp only []
    split
    · exact nodup_put (h t) sid id
    · exact h t
  · exact h t

theorem invN_listenEnd (s : Server) (sid id : Nat) (h : InvN s) : InvN (listenEnd s sid id) := by
  intro t
  simp only [listenEnd]
  split
  · exact h t
  · simp only []
    refine (sublist_filterMap_fst ?_).nodup (h t)
    intro p q hpq
    split at hpq
    · rename_i hc
      simp only [Bool.and_eq_true, beq_iff_eq] at hc
      cases hh : heir _ sid (grantsK t) with
      | none => rw [hh] at hpq; simp at hpq
      | some x => rw [hh] at hpq; simp at hpq; rw [← hpq]; exact hc.1.symm
    · simp at hpq; rw [hpq]

theorem invN_close (s : Server) (sid : Nat) (h : InvN s) : InvN (close s sid) := by
  intro t
  simp only [close]
  exact (List.Sublist.map _ List.filter_sublist).nodup (h t)

/-- only the labels that open or end a listen, and `close`, write the tables (`step_writes`) -/
theorem invN_step (s : Server) (l : Label) (h : InvN s) : InvN (step s l).1 := by
  cases l with
  | listen sid id ks us => exact invN_listen s sid id ks us h
  | listenRefused sid id ks us n =>
    simp only [step, listenRefused]
    split
    · exact invN_listenEnd _ _ _ (invN_listen s sid id ks _ h)
    · exact h
  | listenEnd sid id => exact invN_listenEnd s sid id h
  | close sid => exact invN_close s sid h
  | _ => exact h.of_subs_eq ((step_writes s _).2 .subs rfl)

theorem reach_invN {cap : Kind → Cap} {s : Server} (h : Reach cap s) : InvN s := by
  induction h with
  | init => exact invN_init cap
  | step l _ ih => exact invN_step _ l ih

end Notify
