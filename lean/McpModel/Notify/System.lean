import McpModel.Notify.Monitor
import McpModel.Notify.Cache
/-!
# The composed model of E14 as a typed function on the harness's records

One `Notify.Server` and, per client slot, five `Notify.Cache.State`s whose `bump` / `announce` /
`handle` labels are driven by the server model's outputs.  `sysStep` replays one op of the harness on
it and predicts the observation; `Driver.lean` parses the op tokens into `Mon.Op` and renders the
predicted `Mon.Obs`, rewriting a `park`ed end of a stream and the `nohandlers` configuration (`config`, then
`policy u refuse` for u0 … u7) on the way.
`Bridge.lean` proves that the typed monitor accepts every behaviour of this function.

`listen` / `subscribe` / `xlisten` of a 2026-07-28 session are the labels `listen` and `listenAck` back to back; `ackdone` is a
no-op on the server: it only takes the id off the slot's `parked` list, which the guards of later ops read (head of
Driver.lean).
Core Lean only (linked into the driver).
-/
namespace Notify.Sys
open Generated.Notify Notify.Mon

def _root_.Notify.Mon.Key.obj : Key → CacheObj
  | .list f => f.cache
  | .read _ => .read

def _root_.Notify.Mon.Key.idx : Key → Nat
  | .list _ => 0
  | .read u => u

def objFSet : CacheObj → Option FSet
  | .tools => some .tools | .prompts => some .prompts | .resources => some .resources
  | .templates => some .templates | .read => none

structure DSlot where
  used : Bool := false
  sid : Nat := 0
  modern : Bool := false
  mask : List Kind := []
  /-- the connect-time subscriptions/listen request is held by the sending middleware -/
  gated : Bool := false
  connected : Bool := false
  /-- the CLIENT's `cs.resourceSubs` (`Server.rsubs` is the server's `resourceSubscriptions`) -/
  rsubs : List Nat := []
  caches : CacheObj → Cache.State := fun _ => {}
  /-- list / read calls whose response is held -/
  held : List Key := []
  /-- listen handlers held right after their ack write -/
  parked : List Nat := []
  /-- listens whose notifications/cancelled is held in the client's transport -/
  cancelHeld : List Nat := []

structure State where
  srv : Server := init (fun _ => .unset)
  hook : Bool := false
  ttl : Nat := 0
  content : Nat → Nat := fun _ => 0
  slots : Slot → DSlot := fun _ => {}
  /-- URIs ServerOptions.SubscribeHandler refuses -/
  refused : List Nat := []

def State.setSlot (y : State) (i : Slot) (d : DSlot) : State :=
  { y with slots := fun j => if j = i then d else y.slots j }

def curVersionObj (y : State) (o : CacheObj) (key : Nat) : Nat :=
  match objFSet o with
  | some f => y.srv.ver f
  | none => y.content key

def curVersion (y : State) (key : Key) : Nat := curVersionObj y key.obj key.idx

def freshCaches (y : State) : CacheObj → Cache.State :=
  fun o => { now := y.srv.now, srv := fun k => curVersionObj y o k }

def DSlot.setCache (d : DSlot) (o : CacheObj) (c : Cache.State) : DSlot :=
  { d with caches := fun o' => if o' = o then c else d.caches o' }

/-- Apply a cache label to one cache of every modern slot in use (connected or gated). -/
def State.cacheAll (y : State) (o : CacheObj) (l : Cache.Label) : State :=
  { y with slots := fun i =>
      let d := y.slots i
      if d.used && d.modern then d.setCache o (Cache.step true (d.caches o) l).1 else d }

def State.tickAll (y : State) (dt : Nat) : State :=
  CacheObj.all.foldl (fun y o => y.cacheAll o (.tick dt)) y

def slotOfSid (y : State) (sid : Nat) : Option Slot :=
  Slot.all.find? (fun i => (y.slots i).used && (y.slots i).sid == sid)

def whoOfSid (y : State) (sid : Nat) : Who :=
  match slotOfSid y sid with
  | some i => .slot i
  | none => .closed sid

def stampOf : Option Nat → Stamp
  | none => .plain
  | some n => .id n

/-- A client handles a list-changed notification: the caches named by the regenerated table are
invalidated (announce + handle on each). -/
def clientHandleChanged (d : DSlot) (k : Kind) : DSlot :=
  if !d.modern then d else
  (clientInvalidates k).foldl (fun d o =>
    let c := (Cache.step true (d.caches o) (.announce none)).1
    d.setCache o (Cache.step true c (.handle (c.inbox.length - 1))).1) d

def clientHandleUpdated (d : DSlot) (u : Nat) : DSlot :=
  if !d.modern || !updatedInvalidatesKey then d else
  let c := (Cache.step true (d.caches .read) (.announce (some u))).1
  d.setCache .read (Cache.step true c (.handle (c.inbox.length - 1))).1

/-- The fan-out of one notification to the sessions of `to`: the client of each handles it (`handle`);
`mk` renders what that client observed.  A session that has no slot any more shows up as `x<sid>`. -/
def deliverOne (handle : DSlot → DSlot) (mk : Who → DSlot → Send → Delivery) (acc : State × List Delivery)
    (x : Send) : State × List Delivery :=
  match slotOfSid acc.1 x.sid with
  | none => (acc.1, acc.2 ++ [mk (.closed x.sid) {} x])
  | some i => (acc.1.setSlot i (handle (acc.1.slots i)), acc.2 ++ [mk (.slot i) (acc.1.slots i) x])

def deliverAll (handle : DSlot → DSlot) (mk : Who → DSlot → Send → Delivery) (y : State) (to : List Send) :
    State × List Delivery :=
  to.foldl (deliverOne handle mk) (y, [])

def mkChanged (k : Kind) (w : Who) (d : DSlot) (x : Send) : Delivery :=
  ⟨w, .changed k, stampOf x.stamp,
   match w with
   | .slot _ => if d.mask.contains k then Hk.kind k else Hk.none
   | .closed _ => .other⟩

def mkUpdated (v : Nat) (w : Who) (_d : DSlot) (x : Send) : Delivery :=
  ⟨w, .updated, stampOf x.stamp,
   match w with
   | .slot _ => .uri v
   | .closed _ => .other⟩

def deliverChanged (y : State) (k : Kind) (to : List Send) : State × List Delivery :=
  deliverAll (clientHandleChanged · k) (mkChanged k) y to

/-- The subscribers of `u` (`to`) get a notification that names `v`; each client invalidates `v`. -/
def deliverUpdated (y : State) (v : Nat) (to : List Send) : State × List Delivery :=
  deliverAll (clientHandleUpdated · v) (mkUpdated v) y to

def fireOrphansDue (k : Kind) : Nat → Server → List Nat → Server × List Nat
  | 0, s, acc => (s, acc)
  | fuel + 1, s, acc =>
    match (s.ks k).orphans.findIdx? (fun d => d ≤ s.now) with
    | some i => fireOrphansDue k fuel (fireOrphan s k i) (acc ++ [(s.ks k).orphans.getD i 0])
    | none => (s, acc)

/-- All timers that are due fire (tracked first, then orphans, per kind). Returns (kind, deadline) of
each firing. -/
def fireDue (s : Server) : Server × List (Kind × Nat) :=
  Kind.all.foldl (fun (acc : Server × List (Kind × Nat)) k =>
    let s := acc.1
    let (s, f1) := match (s.ks k).tracked with
      | some (some d) => if d ≤ s.now then (fireTracked s k, [(k, d)]) else (s, [])
      | _ => (s, [])
    let (s, f2) := fireOrphansDue k ((s.ks k).orphans.length) s []
    (s, acc.2 ++ f1 ++ f2.map (fun d => (k, d)))) (s, [])

def tagOf (y : State) (sid id : Nat) : Tag := if genOf y.srv sid == .modern then .id id else .q

def dumpTable (y : State) (l : List (Nat × Nat)) : List TEntry :=
  l.map (fun p => ⟨whoOfSid y p.1, tagOf y p.1 p.2⟩)

def tablesOf (y : State) : Tables :=
  { kind := fun k => dumpTable y (y.srv.ks k).subs,
    uris := (List.range 3).map (fun u => (u, dumpTable y ((y.srv.rsubs.filter (fun r => r.1 == u)).map (fun r => (r.2.1, r.2.2))))),
    sess := y.srv.sessions.map (fun p => whoOfSid y p.1) }

def firstAck (outs : List Out) : Option (List Kind × List Nat) :=
  outs.findSome? (fun o => match o with | .ack _ _ ks us => some (ks, us) | _ => none)

def listenBoth (s : Server) (sid id : Nat) (kinds : List Kind) (uris : List Nat) : Server × List Out :=
  listenAck (listen s sid id kinds uris) sid id

/-- `listenBoth`, unless `SubscribeHandler` refuses one of the granted URIs: then the handler returns the error
without acknowledging, and its deferred functions undo what it had registered. -/
def listenOrRefuse (y : State) (sid id : Nat) (kinds : List Kind) (uris : List Nat) : Server × List Out :=
  let au := if resSub y.srv then uris else []
  match au.findIdx? (fun u => y.refused.contains u) with
  | some n => (listenRefused y.srv sid id kinds uris n, [])
  | none => listenBoth y.srv sid id kinds uris

/-- The first `n` writes of the newest snapshot of kind `k` (the outstanding sends from index `old` on). -/
def deliverFrom (s : Server) (k : Kind) (old : Nat) : Nat → List Send → Server × List Send
  | 0, acc => (s, acc)
  | n + 1, acc =>
    let (s1, o) := deliver s k old
    deliverFrom s1 k old n (acc ++ o.filterMap (fun x => match x with | .sent _ x => some x | _ => none))

/-- the observation of an acknowledged / refused listen, and whether its handler is now parked -/
def ackObs (a : Option (List Kind × List Nat)) (hold : Bool) : Obs × Bool :=
  match a with
  | some (ks, us) => (.ack ks us hold, hold)
  | none => (.noack, false)

/-- which outstanding write of a held fan-out goes on: the one addressed to whom the implementation's record
names (the first one if that names nobody the model knows) -/
def fsendIdx (y : State) (infl : List Send) (hint : Option Who) : Nat :=
  let hintSid : Option Nat := match hint with
    | some (.closed sid) => some sid
    | some (.slot i) => if (y.slots i).used then some (y.slots i).sid else none
    | none => none
  match hintSid with
  | some sid => (infl.findIdx? (fun x => x.sid == sid)).getD 0
  | none => 0

/-- One op on the composed model: new state and the predicted observation.  `hint`: whom the
IMPLEMENTATION's `fsend` record says its write was addressed to (the order of the fan-out loop over a
Go map is not determined: the model follows the implementation). -/
def sysStep (y : State) (op : Op) (hint : Option Who) : State × Obs :=
  match op with
  | .config ca cb cc h =>
    let cap : Kind → Cap := fun k => match k with | .tools => ca | .prompts => cb | .resources => cc
    -- the two permanent resources of the harness: two effective changes before anyone connects
    let s := (init cap) |> (change · .resources .add) |> (change · .resources .add)
    ({ srv := s, hook := h }, .ok)
  | .ttl n => ({ y with ttl := n }, .ok)
  | .change f e =>
    let eff := !(e == .noop || (e == .remove && y.srv.cnt f == 0))
    let y := { y with srv := change y.srv f e }
    (if eff then y.cacheAll f.cache (.bump (fun _ => true)) else y, .ok)
  | .advance d =>
    let y := ({ y with srv := { y.srv with now := y.srv.now + d } } : State).tickAll d
    let (s, fired) := fireDue y.srv
    let y := { y with srv := s }
    if y.hook then (y, .fired (fired.map (·.1))) else (y, .ok)
  | .cbrun k =>
    let old := (y.srv.ks k).inflight.length
    let (s, outs) := cbrun y.srv k
    (match outs with
     | [.changed _ to] =>
       -- the whole fan-out of this snapshot at once (a held fan-out of the same kind stays where it is)
       let (s, sent) := deliverFrom s k old to.length []
       let (y', ds) := deliverChanged { y with srv := s } k sent
       (y', .sent y.srv.now ds)
     | _ => (y, .none_))
  | .cbstep k =>
    if !y.hook || !(y.srv.ks k).inflight.isEmpty then (y, .refused) else
    let (s, outs) := cbrun y.srv k
    (match outs with
     | [.changed _ to] => ({ y with srv := s }, .fan to.isEmpty)
     | _ => (y, .none_))
  | .fsend k =>
    let infl := (y.srv.ks k).inflight
    if infl.isEmpty then (y, .refused) else
    -- the order of the loop over the subscriber map is not determined: follow the implementation
    let idx := fsendIdx y infl hint
    let addr := whoOfSid y (infl.getD idx ⟨0, none⟩).sid
    let (s, outs) := deliver y.srv k idx
    let sent := outs.filterMap (fun x => match x with | .sent _ x => some x | _ => none)
    let (y', ds) := deliverChanged { y with srv := s } k sent
    (y', .fsent addr y.srv.now ds (s.ks k).inflight.isEmpty)
  | .policy u refuse =>
    if refuse then ({ y with refused := if y.refused.contains u then y.refused else y.refused ++ [u] }, .ok)
    else ({ y with refused := y.refused.filter (· != u) }, .ok)
  | .connect i sid modern mask =>
    if (y.slots i).used then (y, .refused) else
    let s := hello (bind y.srv sid) sid modern
    let gated := modern && !mask.isEmpty
    let y := { y with srv := s }
    let d : DSlot := { used := true, sid := sid, modern := modern, mask := mask, gated := gated,
                       connected := !gated, caches := freshCaches y }
    (y.setSlot i d, if gated then .okListenHeld else .ok)
  | .listen i hold =>
    let d := y.slots i
    if !d.used || !d.gated then (y, .refused) else
    let (s, outs) := listenOrRefuse y d.sid 0 d.mask []
    let (o, parks) := ackObs (firstAck outs) hold
    let d := { d with gated := false, connected := true, parked := if parks then d.parked ++ [0] else d.parked }
    (({ y with srv := s } : State).setSlot i d, o)
  | .subscribe i u hold =>
    let d := y.slots i
    if !d.used || !d.connected then (y, .refused) else
    if !d.modern then
      if hold then (y, .refused) else
      -- 99: a legacy entry needs an id; nothing reads it
      if y.refused.contains u then (y, .err) else ({ y with srv := subscribe y.srv d.sid 99 u }, .ok) else
    if d.cancelHeld.contains (ridOf u) then (y, .refused) else
    if d.rsubs.contains u then (y, .noop) else
    let (s, outs) := listenOrRefuse y d.sid (ridOf u) [] [u]
    let (o, parks) := ackObs (firstAck outs) hold
    let d := { d with rsubs := d.rsubs ++ [u], parked := if parks then d.parked ++ [ridOf u] else d.parked }
    let d := d.setCache .read (Cache.step true (d.caches .read) (.sub u)).1
    (({ y with srv := s } : State).setSlot i d, o)
  | .xlisten i id kinds uris hold =>
    let d := y.slots i
    if !d.used || !d.connected || !d.modern || !isRaw id || !decide uris.Nodup || d.parked.contains id
       || d.cancelHeld.contains id
       || y.srv.listens.any (fun l => l.sid == d.sid && l.id == id) then (y, .refused) else
    let (s, outs) := listenOrRefuse y d.sid id kinds uris
    let (o, parks) := ackObs (firstAck outs) hold
    let d := { d with parked := if parks then d.parked ++ [id] else d.parked }
    (({ y with srv := s } : State).setSlot i d, o)
  | .xend i id hold =>
    let d := y.slots i
    if isSub id then (y, .badOp) else
    if !d.used || !d.connected || !d.modern || d.parked.contains id || d.cancelHeld.contains id
       || !y.srv.acked.contains (d.sid, id) then (y, .refused) else
    if hold then (y.setSlot i { d with cancelHeld := d.cancelHeld ++ [id] }, .okCancelHeld) else
    ({ y with srv := listenEnd y.srv d.sid id }, .ok)
  | .canceldone i id =>
    let d := y.slots i
    if !d.used || !d.cancelHeld.contains id then (y, .refused) else
    (({ y with srv := listenEnd y.srv d.sid id } : State).setSlot i { d with cancelHeld := d.cancelHeld.filter (· != id) }, .ok)
  | .ackdone i id =>
    let d := y.slots i
    if !d.used || !d.parked.contains id then (y, .refused) else
    -- the handler goes on: in the code that exists it has nothing left to do but wait for its end
    (y.setSlot i { d with parked := d.parked.filter (· != id) }, .ok)
  | .unsubscribe i u hold =>
    let d := y.slots i
    if !d.used || !d.connected || d.parked.contains (ridOf u) || d.cancelHeld.contains (ridOf u) then (y, .refused) else
    if !d.modern then
      if hold then (y, .refused) else
      -- `Server.unsubscribe`: the application's UnsubscribeHandler refuses ⇒ the error is returned BEFORE the table is touched
      if y.refused.contains u then (y, .err) else ({ y with srv := unsubscribe y.srv d.sid u }, .ok) else
    if !d.rsubs.contains u then (if hold then (y, .refused) else (y, .ok)) else
    let d := { d with rsubs := d.rsubs.filter (· != u) }
    let d := d.setCache .read (Cache.step true (d.caches .read) (.unsub u)).1
    if hold then (y.setSlot i { d with cancelHeld := d.cancelHeld ++ [ridOf u] }, .okCancelHeld) else
    (({ y with srv := listenEnd y.srv d.sid (ridOf u) } : State).setSlot i d, .ok)
  | .close i =>
    let d := y.slots i
    if !d.used || !d.connected || !d.held.isEmpty || !d.parked.isEmpty || !d.cancelHeld.isEmpty then (y, .refused) else
    (({ y with srv := close y.srv d.sid } : State).setSlot i {}, .ok)
  | .rupdated u v =>
    let y := { y with content := fun k => if k == v then y.content v + 1 else y.content k }
    let y := y.cacheAll .read (.bump (fun k => k == v))
    let (y', ds) := deliverUpdated y v (updList y.srv u)
    (y', .sent y.srv.now ds)
  | .list i key mode =>
    let d := y.slots i
    let o := key.obj
    let k := key.idx
    if !d.used || !d.connected || d.held.contains key then (y, .refused) else
    if !d.modern then
      -- no cache under the legacy protocol: every call is answered by the server
      let v := curVersion y key
      match mode with
      | .n => (y, .ret v false)
      | .post =>
        let c1 : Cache.State := { d.caches o with fills := (d.caches o).fills ++ [⟨k, 0, .responded v y.ttl, 0⟩] }
        (y.setSlot i { (d.setCache o c1) with held := d.held ++ [key] }, .held v)
      | .pre =>
        let c1 : Cache.State := { d.caches o with fills := (d.caches o).fills ++ [⟨k, 0, .sent, 0⟩] }
        (y.setSlot i { (d.setCache o c1) with held := d.held ++ [key] }, .pre)
    else
      let (c1, o1) := Cache.step true (d.caches o) (.listStart k)
      match o1 with
      | [.ret _ v _ _] => (y.setSlot i (d.setCache o c1), .ret v true)
      | _ =>
        let idx := c1.fills.length - 1
        match mode with
        | .pre => (y.setSlot i { (d.setCache o c1) with held := d.held ++ [key] }, .pre)
        | .post =>
          let c2 := (Cache.step true c1 (.serve idx y.ttl)).1
          (y.setSlot i { (d.setCache o c2) with held := d.held ++ [key] }, .held (c1.srv k))
        | .n =>
          let c2 := (Cache.step true c1 (.serve idx y.ttl)).1
          let (c3, _) := Cache.step true c2 (.fill idx)
          (y.setSlot i (d.setCache o c3), .ret (c1.srv k) false)
  | .send i key =>
    let d := y.slots i
    let o := key.obj
    let k := key.idx
    let cst := d.caches o
    (match cst.fills.findIdx? (fun f => f.key == k && f.stage == .sent) with
     | some idx =>
       if !d.used || !d.held.contains key then (y, .refused) else
       if !d.modern then
         let v := curVersion y key
         (y.setSlot i (d.setCache o { cst with fills := cst.fills.set idx ⟨k, 0, .responded v y.ttl, 0⟩ }), .held v)
       else
         (y.setSlot i (d.setCache o (Cache.step true cst (.serve idx y.ttl)).1), .held (cst.srv k))
     | none => (y, .refused))
  | .fill i key =>
    let d := y.slots i
    let o := key.obj
    let k := key.idx
    let cst := d.caches o
    (match cst.fills.findIdx? (fun f => f.key == k && f.stage != .sent) with
     | some idx =>
       if !d.used || !d.held.contains key then (y, .refused) else
       let v := match (cst.fills.getD idx ⟨0, 0, .sent, 0⟩).stage with | .responded v _ => v | _ => 0
       let d := { d with held := d.held.filter (· != key) }
       if !d.modern then
         (y.setSlot i (d.setCache o { cst with fills := cst.fills.eraseIdx idx }), .ret v false)
       else
         (y.setSlot i (d.setCache o (Cache.step true cst (.fill idx)).1), .ret v false)
     | none => (y, .refused))
  | .tables => (y, .tables (tablesOf y))
  | .fin => (y, .ok)
  | .bad => (y, .badOp)

end Notify.Sys
