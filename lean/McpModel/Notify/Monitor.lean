import McpModel.Notify.Model
/-!
# The typed C18 monitor (E14)

The code that decides, from the IMPLEMENTATION's observations, which clause of C18 is violated.
`Driver.lean` parses the harness's records into the typed data of this file (`Op`, `Obs`, `Rec`), calls
`monStep`, and renders the `Clause` it returns (`Clause.text`, in the driver); nothing else of the
monitor lives in the string layer.  `System.lean` is the composed model (one `Notify.Server`, per client
slot five `Notify.Cache.State`s) as a typed function on the same records; `Bridge.lean` proves that the
monitor raises no clause on any behaviour of that model (`monitor_accepts_model`), `Sound.lean` that
every clause it raises contradicts the corresponding clause of the property, stated on observation
traces.

The monitor is built only from the labels and the implementation's observations (acks it sent,
deliveries it made, versions it returned, tables it dumped) — never from the model state.

Listen names ↔ request ids (`m` = 0, `r<j>` = 2j+1, `L<n>` = 2n+2): head of Driver.lean.
Core Lean only (linked into the driver).
-/
namespace Notify.Mon

/-! ### vocabulary of the records -/

/-- the three client slots `c0`, `c1`, `c2` of the harness -/
abbrev Slot := Fin 3

def Slot.all : List Slot := [0, 1, 2]

theorem Slot.mem_all (i : Slot) : i ∈ Slot.all := by
  match i with
  | ⟨0, _⟩ => simp [Slot.all]
  | ⟨1, _⟩ => simp [Slot.all]
  | ⟨2, _⟩ => simp [Slot.all]

/-- request id of the listen `ClientSession.Subscribe(u<j>)` opens -/
def ridOf (u : Nat) : Nat := 2 * u + 1

/-- the id names a raw listen `L<n>` -/
def isRaw (id : Nat) : Bool := id != 0 && id % 2 == 0

/-- the id names a per-URI listen `r<j>` -/
def isSub (id : Nat) : Bool := id % 2 == 1

/-- what a list / read call fetches: one of the four lists, or the resource `u<j>` -/
inductive Key where
  | list (f : FSet)
  | read (u : Nat)
deriving DecidableEq, Repr

def Key.isRead : Key → Bool
  | .read _ => true
  | .list _ => false

/-- `c<i>`: the session in slot `i`; `x<sid>`: a session that has no slot any more -/
inductive Who where
  | slot (i : Slot)
  | closed (sid : Nat)
deriving DecidableEq, Repr

inductive Stamp where
  | plain
  | id (n : Nat)
  | bad
deriving DecidableEq, Repr

inductive Meth where
  | changed (k : Kind)
  | updated
  | other
deriving DecidableEq, Repr

/-- which client handler ran (`-`: none registered; a kind letter) resp. which URI the notification named -/
inductive Hk where
  | none
  | kind (k : Kind)
  | uri (u : Nat)
  | other
deriving DecidableEq, Repr

structure Delivery where
  who : Who
  meth : Meth
  stamp : Stamp
  hk : Hk
deriving DecidableEq, Repr

structure SDelivery where
  slot : Slot
  meth : Meth
  stamp : Stamp
  hk : Hk
deriving DecidableEq, Repr

def Delivery.toSlot (x : Delivery) : Option SDelivery :=
  match x.who with
  | .slot i => some ⟨i, x.meth, x.stamp, x.hk⟩
  | .closed _ => none

/-- the deliveries, if every one of them went to the session of a slot -/
def slotDeliveries (ds : List Delivery) : Option (List SDelivery) :=
  if ds.all (fun x => x.toSlot.isSome) then some (ds.filterMap Delivery.toSlot) else none

/-- `q`: the entry of a legacy session (no request id); `bad`: an id that is no listen of the session -/
inductive Tag where
  | q
  | id (n : Nat)
  | bad
deriving DecidableEq, Repr

/-- an entry of a dumped subscription table: `c0=m`, `c1=q`, `x7=L0` -/
structure TEntry where
  who : Who
  tag : Tag
deriving DecidableEq, Repr

/-- the `tables` observation: the three list-changed tables, `resourceSubscriptions[u<j>]`, `Server.sessions` -/
structure Tables where
  kind : Kind → List TEntry
  uris : List (Nat × List TEntry)
  sess : List Who

def Tables.uri (t : Tables) (u : Nat) : List TEntry := (t.uris.lookup u).getD []

/-- `n`: the call runs to its end (`ret v hit`); `post`: its response is held after the server answered (`held v`); `pre`:
the request is held before (`pre`).  A held call goes on by `send` (the server answers: `held v`) and `fill` (the
client gets and stores the response: `ret v miss`). -/
inductive Mode where
  | n | post | pre
deriving DecidableEq, Repr

/-- The op tokens of a record (grammar, and what each op does to the real server: head of Driver.lean).  `hook`: the tree
under test has the schedule point at the start of `notifySessions`; then `advance` answers `fired ks` and each callback
is an op, `cbrun k` (snapshot and whole fan-out) or `cbstep k` (`cbrun k step`: the snapshot alone; the loop is held
before every write and goes on by `fsend k`); without it `advance` answers `ok` and the harness adds the `cbrun` records.
`mask`: the kinds the connect-time listen asks for.  `policy`: what `SubscribeHandler` answers for `u` from now on.
`ackdone` / `canceldone`: a handler held after its acknowledgement write goes on / a held `notifications/cancelled`
arrives.  `fin` (`end`): emitted when no timer is armed and no callback or fan-out is pending. -/
inductive Op where
  | config (ct cp cr : Cap) (hook : Bool)
  | ttl (ms : Nat)
  | change (f : FSet) (e : Eff)
  | advance (d : Nat)
  | cbrun (k : Kind)
  | cbstep (k : Kind)
  | fsend (k : Kind)
  | policy (u : Nat) (refuse : Bool)
  | canceldone (c : Slot) (id : Nat)
  | connect (c : Slot) (sid : Nat) (modern : Bool) (mask : List Kind)
  | listen (c : Slot) (hold : Bool)
  | subscribe (c : Slot) (u : Nat) (hold : Bool)
  | xlisten (c : Slot) (id : Nat) (kinds : List Kind) (uris : List Nat) (hold : Bool)
  | xend (c : Slot) (id : Nat) (hold : Bool)
  | ackdone (c : Slot) (id : Nat)
  | unsubscribe (c : Slot) (u : Nat) (hold : Bool)
  | close (c : Slot)
  | rupdated (u v : Nat)
  | list (c : Slot) (key : Key) (mode : Mode)
  | send (c : Slot) (key : Key)
  | fill (c : Slot) (key : Key)
  | tables
  | fin
  | bad

/-- What the implementation (resp. the model) answered to an op.  `none_`: no callback of the kind was pending; `noop`:
already subscribed; `refused`: the op does not apply in this state; `fan done`: the snapshot of a `cbstep` (`done`: empty,
nothing is held); `sent t ds`: the deliveries of one complete fan-out or `ResourceUpdated` call at virtual time `t`;
`fsent addr t ds done`: one write of a held fan-out to `addr` (`ds = []` if that session has been closed; `done`: the
last); `ack … parked`: the handler is held right after the write; `noack`: the listen was refused. -/
inductive Obs where
  | ok
  | okListenHeld
  | okCancelHeld
  | none_
  | noop
  | err
  | noack
  | refused
  | badOp
  | pre
  | fan (done : Bool)
  | fired (ks : List Kind)
  | sent (t : Nat) (ds : List Delivery)
  | fsent (addr : Who) (t : Nat) (ds : List Delivery) (done : Bool)
  | ack (kinds : List Kind) (uris : List Nat) (parked : Bool)
  | ret (v : Nat) (hit : Bool)
  | held (v : Nat)
  | tables (tb : Tables)
  /-- anything else (the implementation only) -/
  | other

def Obs.isOk : Obs → Bool
  | .ok | .okListenHeld | .okCancelHeld => true
  | _ => false

structure Rec where
  op : Op
  obs : Obs

/-! ### the clauses -/

inductive What where
  | kind (k : Kind)
  | uri (u : Nat)
deriving DecidableEq, Repr

def What.isUri : What → Bool
  | .uri _ => true
  | .kind _ => false

inductive Seen where
  | updated
  | dump
  | fin
deriving DecidableEq, Repr

inductive Clause where
  | malformed
  -- a list-changed fan-out
  | wrongKind
  | disabled
  | notConnected
  | legacyStamped
  | noSubscription
  | badStamp
  | wrongHandler
  | twice
  | fanNotEntitled
  | fanBadStamp
  | fanDropped
  -- overlapping listens: an end removed the entry of a live listen
  | lostWindow (ended survivor : Nat) (what : What) (seen : Seen)
  | lostOverlap (endedOlder : Bool) (ended survivor : Nat) (what : What) (seen : Seen)
  -- ResourceUpdated
  | updAckWindow
  | updMissed
  | updRefused
  | updNotSubscribed
  | updTwice
  | updMethod
  | updOtherUri
  | updLegacyStamped
  | updBadStamp
  -- client caches
  | staleRead (offTable : Bool)
  | f7Stale
  | staleCall
  | hitAfterInvalidate
  -- table dumps
  | closedMentioned
  | ackTableWindow
  | f19Registered
  | ackedMissing
  | refusedLeft
  | foreignEntry
  -- the end of a case
  | endMixedRemove
  | endMidFan
  | endSkippedAck
  | endF19
  | endSkipped
  | endNoLost
deriving DecidableEq, Repr

/-! ### the monitor's bookkeeping -/

/-- A live listen as the IMPLEMENTATION acknowledged it. -/
structure MListen where
  id : Nat
  kinds : List Kind
  uris : List Nat
deriving DecidableEq, Repr

/-- A listen ended while a live, acknowledged listen of the same session shared a grant with it. -/
structure MLost where
  ended : Nat
  survivor : Nat
  what : What
  endedOlder : Bool
deriving DecidableEq, Repr

structure MSlot where
  connected : Bool := false
  modern : Bool := false
  /-- live listens of the session with a non-empty acknowledged grant, oldest first -/
  listens : List MListen := []
  /-- legacy resources/subscribe answered ok and not undone -/
  luris : List Nat := []
  /-- a listen of this session ended while another one was live (F19 shape) -/
  endedOther : Bool := false
  /-- grants an ended listen shared with a live one, until a dump shows the entry (`endListen`, `lostClause`) -/
  lost : List MLost := []
  /-- kinds changed since the session connected, not yet notified and not rightly left out by a snapshot -/
  owed : List Kind := []
  /-- owed kinds for which a callback ran without reaching this (entitled) session -/
  skipped : List Kind := []
  /-- listen handlers held right after the write of their ack -/
  window : List Nat := []
  /-- those of `skipped` whose callback ran inside the window of a listen granted the kind -/
  skippedAck : List Kind := []
  /-- per key, the newest version a handled notification announced -/
  maxHandled : Key → Nat := fun _ => 0
  /-- a notification covering the key was handled and no call for it went to the server since -/
  invalidated : Key → Bool := fun _ => false
  /-- the version a held call stored although a newer one had been handled meanwhile (`filled`): F7's stale entry -/
  suspect : Key → Option Nat := fun _ => none
  /-- held calls: `maxHandled` when the call started -/
  starts : Key → Nat := fun _ => 0
  /-- a held fan-out of the kind had written to this session when a further change was made -/
  midFan : List Kind := []
  /-- URIs of subscriptions/listen requests of this session that got no acknowledgement while the
  SubscribeHandler refused one of them -/
  refusedUris : List Nat := []
  /-- cs.resourceSubs as the calls of Subscribe / Unsubscribe leave it -/
  csubs : List Nat := []
  /-- read keys whose resource-updated was handled while the URI was not in cs.resourceSubs -/
  offTable : List Key := []
  /-- kinds whose last effective change was a `removeN _ true` (`Eff`, Model.lean) -/
  rmMixed : List Kind := []

/-- A fan-out of `notifySessions(kind)` whose loop is held before every write. -/
structure MFan where
  /-- slots entitled when the snapshot was taken, and the stamps that were right then -/
  expect : List (Slot × List Stamp) := []
  served : List Slot := []

structure MState where
  cap : Kind → Cap := fun _ => .unset
  ver : FSet → Nat := fun _ => 0
  cnt : FSet → Nat := fun _ => 0
  /-- per resource, its version: how often a `ResourceUpdated` named it -/
  content : Nat → Nat := fun _ => 0
  slots : Slot → MSlot := fun _ => {}
  /-- URIs the application's SubscribeHandler refuses at present (`policy`) -/
  refused : List Nat := []
  fans : Kind → Option MFan := fun _ => none

def MState.setSlot (m : MState) (i : Slot) (d : MSlot) : MState :=
  { m with slots := fun j => if j = i then d else m.slots j }

def MState.mapSlots (m : MState) (f : MSlot → MSlot) : MState :=
  { m with slots := fun j => f (m.slots j) }

def keysOfKind : Kind → List Key
  | .tools => [.list .tools]
  | .prompts => [.list .prompts]
  | .resources => [.list .resources, .list .templates]

def kindOfFSet : FSet → Kind
  | .tools => .tools
  | .prompts => .prompts
  | _ => .resources

def MState.verOfKey (m : MState) : Key → Nat
  | .list f => m.ver f
  | .read u => m.content u

def MSlot.handled (d : MSlot) (m : MState) (keys : List Key) : MSlot :=
  { d with maxHandled := fun k => if k ∈ keys then max (d.maxHandled k) (m.verOfKey k) else d.maxHandled k,
           invalidated := fun k => decide (k ∈ keys) || d.invalidated k }

/-- Some live, acknowledged listen of the session was granted the kind. -/
def MSlot.grantedK (d : MSlot) (k : Kind) : Bool := d.listens.any (·.kinds.contains k)

/-- The session's subscription to the URI is live. -/
def MSlot.grantedU (d : MSlot) (u : Nat) : Bool :=
  if d.modern then d.listens.any (·.uris.contains u) else d.luris.contains u

/-- The handler of a live listen that was granted the kind / URI is held right after its ack write. -/
def MSlot.windowK (d : MSlot) (k : Kind) : Bool :=
  d.listens.any (fun l => l.kinds.contains k && d.window.contains l.id)
def MSlot.windowU (d : MSlot) (u : Nat) : Bool :=
  d.listens.any (fun l => l.uris.contains u && d.window.contains l.id)

def entitledNow (d : MSlot) (k : Kind) : Bool :=
  d.connected && (!d.modern || d.grantedK k)

/-- A listen the implementation acknowledged with a non-empty grant is live from now on. -/
def MSlot.addListen (d : MSlot) (id : Nat) (kinds : List Kind) (uris : List Nat) : MSlot :=
  if kinds.isEmpty && uris.isEmpty then d else
  { d with listens := d.listens.filter (·.id != id) ++ [⟨id, kinds, uris⟩] }

/-- The listen `x` ended (the client cancelled it and the implementation's handler has returned).
Every live listen of the session that shares a grant with it is remembered: if the session is later
found missing from that table, it was this end that removed the entry. -/
def MSlot.endListen (d : MSlot) (x : Nat) : MSlot :=
  match d.listens.find? (·.id == x) with
  | none => d
  | some lx =>
    let idx (n : Nat) : Nat := (d.listens.findIdx? (·.id == n)).getD 0
    let others := d.listens.filter (·.id != x)
    let recs := others.flatMap (fun y =>
      (Kind.all.filter (fun k => lx.kinds.contains k && y.kinds.contains k)).map
        (fun k => (⟨x, y.id, .kind k, idx x < idx y.id⟩ : MLost)) ++
      (lx.uris.filter y.uris.contains).map (fun u => (⟨x, y.id, .uri u, idx x < idx y.id⟩ : MLost)))
    { d with listens := others, endedOther := d.endedOther || !others.isEmpty,
             lost := d.lost.filter (fun r => r.survivor != x) ++ recs }

/-- A table dump shows the session in the table of `what`: the ends recorded so far removed nothing. -/
def MSlot.present (d : MSlot) (what : What) : MSlot := { d with lost := d.lost.filter (·.what != what) }

/-- The session is missing from the table of `what` although a live, acknowledged listen was granted it:
was it the end of an overlapping listen that removed the entry? -/
def MSlot.lostClause (d : MSlot) (what : What) (seen : Seen) : Option Clause :=
  -- the most recent such end
  match d.lost.reverse.find? (fun r => r.what == what && d.listens.any (·.id == r.survivor)) with
  | none => none
  | some r =>
    if d.window.contains r.survivor then some (.lostWindow r.ended r.survivor what seen)
    else some (.lostOverlap r.endedOlder r.ended r.survivor what seen)

/-- Check a returned version against the notifications handled before the call started. -/
def checkRet (d : MSlot) (key : Key) (v : Nat) (hit : Bool) (startMax : Nat) : Option Clause :=
  if v < startMax then
    if hit && key.isRead && d.suspect key != some v then some (.staleRead (d.offTable.contains key))
    else if hit && d.suspect key == some v then some .f7Stale
    else some .staleCall
  else if hit && d.invalidated key then some .hitAfterInvalidate
  else none

def first (l : List (Option Clause)) : Option Clause := l.findSome? id

def addNew [BEq α] (l : List α) (a : α) : List α := if l.contains a then l else l ++ [a]

/-! ### one record -/

/-- the 2: the harness's server starts with two permanent resources (two effective changes, `sysStep` `.config`) -/
def freshState (ca cb cc : Cap) : MState :=
  { cap := fun k => match k with | .tools => ca | .prompts => cb | .resources => cc,
    ver := fun f => if f == .resources then 2 else 0,
    cnt := fun f => if f == .resources then 2 else 0 }

/-- one slot at an effective change of kind `k` (`servedMid`: a held fan-out of the kind has already
written to this slot: what it writes from now on was decided before this change) -/
def changeSlot (k : Kind) (servedMid : Bool) (mixed : Bool) (d : MSlot) : MSlot :=
  let d := { d with rmMixed := if mixed then addNew d.rmMixed k else d.rmMixed.filter (· != k) }
  let d := if servedMid && !d.midFan.contains k then { d with midFan := d.midFan ++ [k] } else d
  if d.connected && !d.owed.contains k then { d with owed := d.owed ++ [k] } else d

def bumpV (ver : FSet → Nat) (f : FSet) : FSet → Nat :=
  fun f' => if f' == f then ver f + 1 else ver f'

def bumpC (cnt : FSet → Nat) (f : FSet) (e : Eff) : FSet → Nat :=
  fun f' => if f' == f then (match e with | .add => cnt f + 1 | .remove => cnt f - 1 | .removeN n _ => cnt f - n | _ => cnt f) else cnt f'

/-- the slots a held fan-out of kind `k` has already written to -/
def servedMidOf (fans : Kind → Option MFan) (k : Kind) : List Slot :=
  match fans k with
  | some fan => fan.served
  | none => []

def mixedOf : Eff → Bool
  | .removeN _ mixed => mixed
  | _ => false

/-- `change f e`, answered `ok`: an effective change of a kind whose capability is not switched off puts
every connected session in debt. -/
def monChange (m : MState) (f : FSet) (e : Eff) : MState :=
  if e == .noop || (e == .remove && m.cnt f == 0) then m else
  let k := kindOfFSet f
  let m := { m with ver := bumpV m.ver f, cnt := bumpC m.cnt f e }
  if m.cap k == .off then m else
  { m with slots := fun i => changeSlot k ((servedMidOf m.fans k).contains i) (mixedOf e) (m.slots i) }

def cbDeliveryClause (m : MState) (k : Kind) (x : SDelivery) : Option Clause :=
  let d := m.slots x.slot
  if x.meth != .changed k then some .wrongKind
  else if m.cap k == .off then some .disabled
  else if !d.connected then some .notConnected
  else if !d.modern && x.stamp != .plain then some .legacyStamped
  else if d.modern && !d.grantedK k then some .noSubscription
  else if d.modern && !d.listens.any (fun l => Stamp.id l.id == x.stamp && l.kinds.contains k) then some .badStamp
  else if x.hk != .none && x.hk != .kind k then some .wrongHandler
  else none

def cbCheck (m : MState) (k : Kind) (ds : List SDelivery) : Option Clause :=
  let dup := Slot.all.any (fun i => (ds.filter (·.slot == i)).length > 1)
  first (ds.map (cbDeliveryClause m k) ++ [if dup then some .twice else none])

/-- a session received the list-changed notification of kind `k`: its debt of that kind is discharged (the
notification was sent after the change that created it) and its client handled the notification -/
def gotChanged (m : MState) (k : Kind) (d : MSlot) : MSlot :=
  ({ d with owed := d.owed.filter (· != k), skipped := d.skipped.filter (· != k),
            skippedAck := d.skippedAck.filter (· != k), midFan := d.midFan.filter (· != k),
            rmMixed := d.rmMixed.filter (· != k) }).handled m (keysOfKind k)

/-- an entitled session in debt was not reached by a callback -/
def skippedBy (k : Kind) (d : MSlot) : MSlot :=
  { d with skipped := addNew d.skipped k,
           skippedAck := if d.modern && d.windowK k && !d.skippedAck.contains k
                         then d.skippedAck ++ [k] else d.skippedAck }

/-- bookkeeping of a complete fan-out: a recipient's debt of kind k is discharged; a session that is not
entitled at this snapshot is owed nothing; an entitled session that was skipped stays in debt — `end`
reports it unless a later callback reaches it -/
def cbNext (m : MState) (k : Kind) (ds : List SDelivery) : MState :=
  { m with slots := fun i =>
      let d := m.slots i
      if ds.any (·.slot == i) then gotChanged m k d
      else if d.owed.contains k && entitledNow d k then skippedBy k d
      else { d with owed := d.owed.filter (· != k) } }

/-- `cbrun k step`: the snapshot is taken now: who is entitled now is to be written to, under a stamp
that is right now -/
def fanExpect (m : MState) (k : Kind) : List (Slot × List Stamp) :=
  Slot.all.filterMap (fun i =>
    let d := m.slots i
    if entitledNow d k then
      some (i, if d.modern then (d.listens.filter (·.kinds.contains k)).map (fun l => Stamp.id l.id) else [.plain])
    else none)

def cbStepNext (m : MState) (k : Kind) (done : Bool) : MState :=
  let expect := fanExpect m k
  let m : MState := { m with slots := (fun i =>
      let d := m.slots i
      if expect.any (·.1 == i) then d else { d with owed := d.owed.filter (· != k) }) }
  if done then
    -- nothing to write: every entitled session in debt was skipped
    { m with slots := fun i =>
        let d := m.slots i
        if expect.any (·.1 == i) && d.owed.contains k then skippedBy k d else d }
  else { m with fans := fun k' => if k' = k then some { expect := expect } else m.fans k' }

def fsDeliveryClause (m : MState) (k : Kind) (fan : MFan) (x : SDelivery) : Option Clause :=
  let d := m.slots x.slot
  if x.meth != .changed k then some .wrongKind
  else if m.cap k == .off then some .disabled
  else if !d.connected then some .notConnected
  else if !d.modern && x.stamp != .plain then some .legacyStamped
  else match fan.expect.find? (·.1 == x.slot) with
    | none => some .fanNotEntitled
    | some (_, stamps) =>
      if !stamps.contains x.stamp then some .fanBadStamp
      else if fan.served.contains x.slot then some .twice
      else if x.hk != .none && x.hk != .kind k then some .wrongHandler
      else none

def fsCheck (m : MState) (k : Kind) (fan : MFan) (addr : Who) (ds : List SDelivery) : Option Clause :=
  let dropped := match addr with
    | .slot i => if ds.isEmpty && (m.slots i).connected && fan.expect.any (·.1 == i) then some Clause.fanDropped else none
    | .closed _ => none
  first (ds.map (fsDeliveryClause m k fan) ++ [dropped])

/-- the session handles this notification NOW, after every change made so far — also those made since
the snapshot: its debt is discharged (the sessions written to BEFORE such a change are the ones that
depend on the change arming a timer of its own: `change_during_fanout_announced`) -/
def fsNext (m : MState) (k : Kind) (fan : MFan) (ds : List SDelivery) (done : Bool) : MState :=
  let m : MState := { m with slots := (fun i =>
      let d := m.slots i
      if ds.any (·.slot == i) then gotChanged m k d else d) }
  let fan := { fan with served := fan.served ++ ds.map (·.slot) }
  if done then
    { m with fans := fun k' => if k' = k then none else m.fans k',
             slots := fun i =>
               let d := m.slots i
               if fan.expect.any (·.1 == i) && !fan.served.contains i && d.owed.contains k && entitledNow d k then
                 { d with skipped := addNew d.skipped k }
               else d }
  else { m with fans := fun k' => if k' = k then some fan else m.fans k' }

/-- the clause of slot `i` for a `ResourceUpdated(u)` whose deliveries are `ds` -/
def ruSlotClause (m : MState) (u : Nat) (ds : List SDelivery) (i : Slot) : Option Clause :=
  let d := m.slots i
  let want := d.connected && d.grantedU u
  let n := (ds.filter (·.slot == i)).length
  if want && n == 0 then
    match d.lostClause (.uri u) .updated with
    | some c => some c
    | none => if d.modern && d.windowU u then some .updAckWindow else some .updMissed
  else if !want && n > 0 then
    if d.refusedUris.contains u then some .updRefused else some .updNotSubscribed
  else if n > 1 then some .updTwice
  else none

def ruDeliveryClause (m : MState) (u v : Nat) (x : SDelivery) : Option Clause :=
  let d := m.slots x.slot
  if x.meth != .updated then some .updMethod
  else if x.hk != .uri v then some .updOtherUri
  else if !d.modern && x.stamp != .plain then some .updLegacyStamped
  else if d.modern && !d.listens.any (fun l => Stamp.id l.id == x.stamp && l.uris.contains u) then
    if d.refusedUris.contains u && !d.grantedU u then none   -- reported per slot
    else some .updBadStamp
  else none

def ruCheck (m : MState) (u v : Nat) (ds : List SDelivery) : Option Clause :=
  first (Slot.all.map (ruSlotClause m u ds) ++ ds.map (ruDeliveryClause m u v))

/-- the subscribers of u are notified; the notification names v, whose content has changed -/
def ruContent (m : MState) (v : Nat) : MState :=
  { m with content := fun k => if k == v then m.content v + 1 else m.content k }

def ruNext (m : MState) (v : Nat) (ds : List SDelivery) : MState :=
  { m with slots := fun i =>
      let d := m.slots i
      if ds.any (·.slot == i) then
        let key := Key.read v
        let d := d.handled m [key]
        if d.modern && !d.csubs.contains v then { d with offTable := addNew d.offTable key }
        else { d with offTable := d.offTable.filter (· != key) }
      else d }

/-! #### table dumps -/

def hasEntry (t : List TEntry) (i : Slot) (tag : Tag) : Bool := t.any (fun e => e.who == .slot i && e.tag == tag)

def whoBad (m : MState) : Who → Bool
  | .closed _ => true
  | .slot i => !(m.slots i).connected

/-- closed_sessions_forgotten: no table and not the session list may mention a session that is not
connected (`x<sid>`: a session the harness saw closing; `c<i>`: a slot the monitor saw closing) -/
def tbBad (m : MState) (tb : Tables) : Bool :=
  Kind.all.any (fun k => (tb.kind k).any (fun e => whoBad m e.who)) ||
  tb.uris.any (fun p => p.2.any (fun e => whoBad m e.who)) ||
  tb.sess.any (whoBad m)

def kindMiss (d : MSlot) (tb : Tables) (i : Slot) : List Kind :=
  if !d.modern then [] else Kind.all.filter (fun k => d.grantedK k &&
    !d.listens.any (fun l => l.kinds.contains k && hasEntry (tb.kind k) i (.id l.id)))

/-- `List.range 3`, here and below: the `tables` observation dumps u0, u1, u2 only -/
def uriMiss (d : MSlot) (tb : Tables) (i : Slot) : List Nat :=
  (List.range 3).filter (fun u => d.grantedU u &&
    (if d.modern then !d.listens.any (fun l => l.uris.contains u && hasEntry (tb.uri u) i (.id l.id))
     else !hasEntry (tb.uri u) i .q))

/-- acked_stays_served: the session of every listen the implementation acknowledged (and the client has
not ended) is in the implementation's table of everything that listen was granted, under the request id
of a live listen of the session that was granted the same thing -/
def tbMissing (m : MState) (tb : Tables) (i : Slot) : Option Clause :=
  let d := m.slots i
  if !d.connected then none else
  let km := kindMiss d tb i
  let um := uriMiss d tb i
  match first (km.map (fun k => d.lostClause (.kind k) .dump) ++ um.map (fun u => d.lostClause (.uri u) .dump)) with
  | some c => some c
  | none =>
    if km.any d.windowK || (d.modern && um.any d.windowU) then some .ackTableWindow
    else if !km.isEmpty && d.endedOther then some .f19Registered
    else if !km.isEmpty || !um.isEmpty then some .ackedMissing
    else none

/-- no table holds an entry of a 2026-07-28 session under an id that is not the id of a live, acknowledged
listen of that session granted the table's kind / URI (a refused request leaves nothing behind) -/
def tbForeign (m : MState) (tb : Tables) (i : Slot) : Option Clause :=
  let d := m.slots i
  if !d.connected || !d.modern then none else
  let badK := Kind.all.any (fun k => (tb.kind k).any (fun e =>
    e.who == .slot i && !d.listens.any (fun l => l.kinds.contains k && e.tag == .id l.id)))
  let badU := (List.range 3).filter (fun u => (tb.uri u).any (fun e =>
    e.who == .slot i && !d.listens.any (fun l => l.uris.contains u && e.tag == .id l.id)))
  if badU.any d.refusedUris.contains then some .refusedLeft
  else if badK || !badU.isEmpty then some .foreignEntry
  else none

def tbCheck (m : MState) (tb : Tables) : Option Clause :=
  first ((if tbBad m tb then some Clause.closedMentioned else none) ::
    Slot.all.map (tbMissing m tb) ++ Slot.all.map (tbForeign m tb))

def tbNext (m : MState) (tb : Tables) : MState :=
  { m with slots := fun i =>
      let d := m.slots i
      if !d.connected || !d.modern then d else
      let d := Kind.all.foldl (fun d k =>
        if d.listens.any (fun l => l.kinds.contains k && hasEntry (tb.kind k) i (.id l.id)) then d.present (.kind k) else d) d
      (List.range 3).foldl (fun d u =>
        if d.listens.any (fun l => l.uris.contains u && hasEntry (tb.uri u) i (.id l.id)) then d.present (.uri u) else d) d }

/-! #### the end of a case -/

def endSlotClause (m : MState) (i : Slot) : Option Clause :=
  let d := m.slots i
  match Kind.all.find? (fun k => d.owed.contains k && entitledNow d k) with
  | none => none
  | some k =>
    match (if d.modern then d.lostClause (.kind k) .fin else none) with
    | some c => some c
    | none =>
      if d.rmMixed.contains k then some .endMixedRemove
      else if d.midFan.contains k then some .endMidFan
      else if d.modern && d.skippedAck.contains k then some .endSkippedAck
      else if d.modern && d.endedOther then some .endF19
      else if d.skipped.contains k then some .endSkipped
      else some .endNoLost

def endCheck (m : MState) : Option Clause := first (Slot.all.map (endSlotClause m))

/-! #### all records -/

def withWindow (d : MSlot) (parked : Bool) (id : Nat) : MSlot :=
  { d with window := if parked then d.window ++ [id] else d.window }

/-- a call for `key` was answered by the server: whatever invalidated the cache before, it is refilled now -/
def MSlot.fetched (d : MSlot) (key : Key) : MSlot :=
  { d with invalidated := fun k => if k = key then false else d.invalidated k,
           suspect := fun k => if k = key then none else d.suspect k }

/-- a call for `key` whose response is held has started -/
def MSlot.started (d : MSlot) (key : Key) : MSlot :=
  { d with starts := fun k => if k = key then d.maxHandled key else d.starts k }

/-- the held call for `key` returned version `v` and filled the cache: a notification covering the key that was
handled while the call was in flight makes what it stores suspect -/
def MSlot.filled (d : MSlot) (key : Key) (v : Nat) : MSlot :=
  let susp := d.maxHandled key > d.starts key && v < d.maxHandled key
  { d with starts := fun k => if k = key then 0 else d.starts k,
           invalidated := fun k => if k = key then false else d.invalidated k,
           suspect := fun k => if k = key then (if susp then some v else none) else d.suspect k }

def monNext (m : MState) (r : Rec) : MState :=
  match r.op, r.obs with
  | .config ca cb cc _, _ => freshState ca cb cc
  | .change f e, .ok => monChange m f e
  | .cbrun k, .sent _ ds =>
    (match slotDeliveries ds with
     | some ds => cbNext m k ds
     | none => m)
  | .policy u refuse, _ =>
    { m with refused := if refuse then m.refused ++ [u] else m.refused.filter (· != u) }
  | .cbstep k, .fan done => cbStepNext m k done
  | .fsend k, .fsent _ _ ds done =>
    (match m.fans k, slotDeliveries ds with
     | some fan, some ds => fsNext m k fan ds done
     | _, _ => m)
  | .canceldone c id, .ok => m.setSlot c ((m.slots c).endListen id)
  | .connect c _ modern _, obs =>
    if obs.isOk then m.setSlot c { connected := true, modern := modern } else m
  | .listen c _, .ack ks us parked => m.setSlot c (withWindow ((m.slots c).addListen 0 ks us) parked 0)
  | .xlisten c id _ _ _, .ack ks us parked => m.setSlot c (withWindow ((m.slots c).addListen id ks us) parked id)
  | .xlisten c _ _ us _, .noack =>
    let d := m.slots c
    if us.any m.refused.contains then
      m.setSlot c { d with refusedUris := d.refusedUris ++ us.filter (fun u => !d.refusedUris.contains u) }
    else m
  | .xend c id _, .ok => m.setSlot c ((m.slots c).endListen id)
  | .subscribe c u _, obs =>
    let d := m.slots c
    if !d.modern then
      (match obs with
       | .ok => if !d.luris.contains u then m.setSlot c { d with luris := d.luris ++ [u] } else m
       | _ => m)
    else
      (match obs with
       | .ack ks us parked =>
         let d := withWindow (d.addListen (ridOf u) ks us) parked (ridOf u)
         m.setSlot c { d with csubs := addNew d.csubs u }
       | .noack =>
         m.setSlot c { d with csubs := addNew d.csubs u,
                              refusedUris := if m.refused.contains u && !d.refusedUris.contains u then d.refusedUris ++ [u] else d.refusedUris }
       | _ => m)
  | .ackdone c id, obs =>
    let d := m.slots c
    if obs.isOk then m.setSlot c { d with window := d.window.filter (· != id) } else m
  | .unsubscribe c u _, .ok =>
    let d := m.slots c
    if d.modern then m.setSlot c { (d.endListen (ridOf u)) with csubs := d.csubs.filter (· != u) }
    else m.setSlot c { d with luris := d.luris.filter (· != u) }
  | .unsubscribe c u _, .okCancelHeld =>
    -- Unsubscribe has returned: cs.resourceSubs no longer has the URI; the stream is live until the cancellation arrives
    let d := m.slots c
    m.setSlot c { d with csubs := d.csubs.filter (· != u) }
  | .close c, .ok =>
    { (m.setSlot c {}) with fans := fun k => (m.fans k).map (fun f =>
        { f with expect := f.expect.filter (·.1 != c), served := f.served.filter (· != c) }) }
  | .rupdated _ v, .sent _ ds =>
    let m := ruContent m v
    (match slotDeliveries ds with
     | some ds => ruNext m v ds
     | none => m)
  | .rupdated _ v, _ => ruContent m v
  | .list c key mode, obs =>
    let d := m.slots c
    (match obs with
     | .ret _ hit => if hit then m else m.setSlot c (d.fetched key)
     | .pre | .held _ => if mode != .n then m.setSlot c (d.started key) else m
     | _ => m)
  | .fill c key, .ret v _ => m.setSlot c ((m.slots c).filled key v)
  | .tables, .tables tb => tbNext m tb
  | _, _ => m

def monCheck (m : MState) (r : Rec) : Option Clause :=
  match r.op, r.obs with
  | .cbrun _, .none_ => none
  | .cbrun k, .sent _ ds =>
    (match slotDeliveries ds with
     | some ds => cbCheck m k ds
     | none => some .malformed)
  | .cbrun _, _ => some .malformed
  | .fsend k, .fsent addr _ ds _ =>
    (match m.fans k, slotDeliveries ds with
     | some fan, some ds => fsCheck m k fan addr ds
     | _, _ => none)
  | .rupdated u v, .sent _ ds =>
    (match slotDeliveries ds with
     | some ds => ruCheck (ruContent m v) u v ds
     | none => some .malformed)
  | .rupdated _ _, _ => some .malformed
  | .list c key _, .ret v hit => checkRet (m.slots c) key v hit ((m.slots c).maxHandled key)
  | .fill c key, .ret v _ => if v < (m.slots c).starts key then some .staleCall else none
  | .tables, .tables tb => tbCheck m tb
  | .fin, _ => endCheck m
  | _, _ => none

def monStep (m : MState) (r : Rec) : MState × Option Clause := (monNext m r, monCheck m r)

def monAfter (m : MState) (tr : List Rec) : MState := tr.foldl monNext m

def runMon (m : MState) : List Rec → Option Clause
  | [] => none
  | r :: tr =>
    match monCheck m r with
    | some c => some c
    | none => runMon (monNext m r) tr

end Notify.Mon
