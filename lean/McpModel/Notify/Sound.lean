import McpModel.Notify.SoundUpd
import McpModel.Notify.SoundTables
import McpModel.Notify.SoundHeld
import McpModel.Notify.SoundFanHeld
/-!
# E14: clause soundness of the typed C18 monitor

For every clause the monitor (`Mon.monCheck`, Monitor.lean) can report, the corresponding clause of the
property is a predicate `P_…` on observation traces (lists of records: the harness's op and the
IMPLEMENTATION's observation), written from the property text over the ground truth of the trace
(`truth`: who is connected, which listens are live and what they were granted, the configuration, the
versions) — no monitor state, no model.  `sound_<clause>`: whenever the monitor reports the clause on the
record that extends a trace, the predicate fails on the extended trace; `monitor_sound` goes through these, one per
clause constructor (39).  Each starts from `monCheck_why` (what the check read off the record and the monitor's state)
and, where the check read a note of the monitor, from that note's history (`…_history`).  Where several clauses report
the same sight, the refutation is proved once from the sight (`SawX.sound`, `sound_end`); the per-clause lemmas and the
grouped `sound_<predicate>` (the same for a set of clauses) are its one-line corollaries.

`P_of` is a conjunction for three clauses: `twice` and `staleCall` have two sources each (a complete fan-out / a write
of a held one; a call answered at once / a held call that returns), and `updBadStamp` judges the stamp of a recipient that is
subscribed, which `P_updOnly` supplies.
-/
namespace Notify.Sound
open Notify Notify.Mon

def seenP : Seen → Trace → Prop
  | .updated => P_updReaches
  | .dump => P_ackedServed
  | .fin => P_notified

/-- the clause of the property a monitor clause contradicts -/
def P_of : Clause → Trace → Prop
  | .malformed => P_malformed
  | .wrongKind => P_wrongKind
  | .disabled => P_disabled
  | .notConnected => P_notConnected
  | .legacyStamped => P_legacyStamped
  | .noSubscription => P_noSubscription
  | .badStamp => P_badStamp
  | .wrongHandler => P_wrongHandler
  | .twice => fun tr => P_twice_complete tr ∧ P_fanOnce tr
  | .fanNotEntitled => P_fanEntitled
  | .fanBadStamp => P_fanStamp
  | .fanDropped => P_fanReaches
  | .hitAfterInvalidate => P_refetch
  | .lostWindow _ _ _ s => seenP s
  | .lostOverlap _ _ _ _ s => seenP s
  | .updAckWindow | .updMissed => P_updReaches
  | .updRefused | .updNotSubscribed => P_updOnly
  | .updTwice => P_updOnce
  | .updMethod => P_updMethod
  | .updOtherUri => P_updOtherUri
  | .updLegacyStamped => P_updLegacyStamped
  | .updBadStamp => fun tr => P_updBadStamp tr ∧ P_updOnly tr
  | .staleRead _ | .f7Stale => P_fresh_call
  | .staleCall => fun tr => P_fresh_call tr ∧ P_fresh_held tr
  | .closedMentioned => P_closedForgotten
  | .ackTableWindow | .f19Registered | .ackedMissing => P_ackedServed
  | .refusedLeft | .foreignEntry => P_noForeign
  | .endMixedRemove | .endMidFan | .endSkippedAck | .endF19 | .endSkipped | .endNoLost => P_notified

/-- **monitor_sound.**  Whenever the monitor reports a clause on the record that extends a trace, the corresponding
clause of the property is false of the extended trace. -/
theorem monitor_sound (tr : Trace) (r : Rec) (c : Clause) (h : Reports tr r c) : ¬ P_of c (tr ++ [r]) := by
  cases c with
  | malformed => exact sound_malformed tr r h
  | wrongKind => exact sound_wrongKind tr r h
  | disabled => exact sound_disabled tr r h
  | notConnected => exact sound_notConnected tr r h
  | legacyStamped => exact sound_legacyStamped tr r h
  | noSubscription => exact sound_noSubscription tr r h
  | badStamp => exact sound_badStamp tr r h
  | wrongHandler => exact sound_wrongHandler tr r h
  | twice => exact sound_twice tr r h
  | fanNotEntitled => exact sound_fanNotEntitled tr r h
  | fanBadStamp => exact sound_fanBadStamp tr r h
  | fanDropped => exact sound_fanDropped tr r h
  | staleCall => exact sound_staleCall tr r h
  | hitAfterInvalidate => exact sound_hitAfterInvalidate tr r h
  | lostWindow a b w s =>
    cases s with
    | updated => exact sound_lostWindow_updated tr r a b w h
    | dump => exact sound_lostWindow_dump tr r a b w h
    | fin => exact sound_lostWindow_fin tr r a b w h
  | lostOverlap o a b w s =>
    cases s with
    | updated => exact sound_lostOverlap_updated tr r o a b w h
    | dump => exact sound_lostOverlap_dump tr r o a b w h
    | fin => exact sound_lostOverlap_fin tr r o a b w h
  | updAckWindow => exact sound_updAckWindow tr r h
  | updMissed => exact sound_updMissed tr r h
  | updRefused => exact sound_updRefused tr r h
  | updNotSubscribed => exact sound_updNotSubscribed tr r h
  | updTwice => exact sound_updTwice tr r h
  | updMethod => exact sound_updMethod tr r h
  | updOtherUri => exact sound_updOtherUri tr r h
  | updLegacyStamped => exact sound_updLegacyStamped tr r h
  | updBadStamp => exact sound_updBadStamp tr r h
  | staleRead b => exact sound_staleRead tr r b h
  | f7Stale => exact sound_f7Stale tr r h
  | closedMentioned => exact sound_closedMentioned tr r h
  | ackTableWindow => exact sound_ackTableWindow tr r h
  | f19Registered => exact sound_f19Registered tr r h
  | ackedMissing => exact sound_ackedMissing tr r h
  | refusedLeft => exact sound_refusedLeft tr r h
  | foreignEntry => exact sound_foreignEntry tr r h
  | endMixedRemove => exact sound_endMixedRemove tr r h
  | endMidFan => exact sound_endMidFan tr r h
  | endSkippedAck => exact sound_endSkippedAck tr r h
  | endF19 => exact sound_endF19 tr r h
  | endSkipped => exact sound_endSkipped tr r h
  | endNoLost => exact sound_endNoLost tr r h

/-- every predicate quantifies over the records of the trace: the empty trace satisfies it (eleven of them here) -/
example : P_disabled [] ∧ P_updReaches [] ∧ P_ackedServed [] ∧ P_notified [] ∧ P_fresh_call [] ∧ P_fresh_held [] ∧
    P_refetch [] ∧ P_fanEntitled [] ∧ P_fanStamp [] ∧ P_fanOnce [] ∧ P_fanReaches [] := by
  refine ⟨?_, ?_, ?_, ?_, ?_, ?_, ?_, ?_, ?_, ?_, ?_⟩ <;> intro i <;> simp

/-! ### traces on which the monitor raises the clauses of a held fan-out and of a held call -/

def legacy2 : Trace :=
  [⟨.config .on .on .on false, .ok⟩, ⟨.connect 0 1 false [], .ok⟩, ⟨.connect 1 2 false [], .ok⟩,
   ⟨.change .tools .add, .ok⟩, ⟨.advance 10, .fired [.tools]⟩]

def wr (i : Slot) : Delivery := ⟨.slot i, .changed .tools, .plain, .none⟩

set_option maxRecDepth 20000 in
example : Reports (legacy2 ++ [⟨.cbstep .tools, .fan false⟩, ⟨.fsend .tools, .fsent (.slot 0) 1 [wr 0] false⟩])
    ⟨.fsend .tools, .fsent (.slot 0) 1 [wr 0] true⟩ .twice := by unfold Reports; decide

set_option maxRecDepth 20000 in
example : Reports (legacy2 ++ [⟨.cbstep .tools, .fan false⟩, ⟨.connect 2 3 false [], .ok⟩])
    ⟨.fsend .tools, .fsent (.slot 2) 1 [wr 2] false⟩ .fanNotEntitled := by unfold Reports; decide

set_option maxRecDepth 20000 in
example : Reports (legacy2 ++ [⟨.cbstep .tools, .fan false⟩])
    ⟨.fsend .tools, .fsent (.slot 0) 1 [] false⟩ .fanDropped := by unfold Reports; decide

set_option maxRecDepth 20000 in
example : Reports ([⟨.config .on .on .on false, .ok⟩, ⟨.connect 0 1 true [.tools], .ok⟩, ⟨.listen 0 false, .ack [.tools] [] false⟩,
      ⟨.change .tools .add, .ok⟩, ⟨.advance 10, .fired [.tools]⟩, ⟨.cbstep .tools, .fan false⟩,
      ⟨.xlisten 0 2 [.tools] [] false, .ack [.tools] [] false⟩])
    ⟨.fsend .tools, .fsent (.slot 0) 1 [⟨.slot 0, .changed .tools, .id 2, .none⟩] true⟩ .fanBadStamp := by unfold Reports; decide

set_option maxRecDepth 20000 in
example : Reports (legacy2 ++ [⟨.cbrun .tools, .sent 1 [wr 0, wr 1]⟩, ⟨.list 0 (.list .tools) .post, .pre⟩])
    ⟨.fill 0 (.list .tools), .ret 0 false⟩ .staleCall := by unfold Reports; decide

set_option maxRecDepth 20000 in
example : Reports (legacy2 ++ [⟨.list 0 (.list .tools) .n, .ret 1 false⟩, ⟨.cbrun .tools, .sent 1 [wr 0, wr 1]⟩])
    ⟨.list 0 (.list .tools) .n, .ret 1 true⟩ .hitAfterInvalidate := by unfold Reports; decide


end Notify.Sound
