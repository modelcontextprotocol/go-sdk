import McpModel.Notify.BridgeSession
import McpModel.Notify.BridgeListen
import McpModel.Notify.BridgeCalls
import McpModel.Notify.BridgeCbstep
import McpModel.Notify.BridgeFsend
import McpModel.Notify.BridgeRupdated
import McpModel.Notify.BridgeTables
/-!
# E14 bridge: the typed C18 monitor accepts every behaviour of the composed model

`monitor_accepts_model`: for ALL lists of ops of the harness (server side: changes, clock advances = timer
firings, callbacks — complete or held before every write —, connects, listens, subscribes, unsubscribes,
raw listens and their ends in any order, held acknowledgements and cancellations, closes, ResourceUpdated
calls, SubscribeHandler policies; client side: list / read calls with their cache fills, hits and held
responses; table dumps) and all hints of the implementation for the order of a held fan-out, the typed
monitor (`Mon.runMon`: the first clause of `Mon.monStep`, which the driver runs record by record) raises NO clause on
the records the composed model (`Sys.sysStep`, the function the driver runs) produces.  The proof is the simulation
`Rel` (BridgeInv.lean) between the model's state and the monitor's bookkeeping, preserved by every op (`step_ok`).

Two environment hypotheses (`okRun`, decidable): a `connect` uses a session id not used before in the
case (the harness numbers its sessions), and `end` is issued when the model is quiet — no armed timer, no
started callback, no fan-out in progress (the harness drains before `end`).  Both are needed:
`fresh_sid_needed`, `quiet_needed` are runs that violate exactly one of them, on which the monitor
reports a clause on the model's own records.

The end of the file is about `sysStep` alone (no `Rel`, no monitor): a legacy `resources/unsubscribe` that the
application's UnsubscribeHandler refuses leaves the subscription in place (`refused_unsubscribe_keeps_subscription`, with
the decided run `refusedUnsubRun`).
-/
namespace Notify.Bridge
open Notify Notify.Mon Notify.Sys Generated.Notify

/-- One op of the harness, with any hint.  Only `connect` (a fresh id) and `fin` (a quiet model) use
the environment hypothesis `hok`. -/
theorem step_ok {seen : List Nat} {y : State} {m : MState} (h : Rel seen y m) (op : Op) (hint : Option Who)
    (hok : okOp seen y op) : StepOk seen y m op hint := by
  cases op with
  | config ca cb cc hk => exact step_config h ca cb cc hk hint
  | ttl n => exact step_ttl h n hint
  | change f e => exact step_change h f e hint
  | advance d => exact step_advance h d hint
  | cbrun k => exact step_cbrun h k hint
  | cbstep k => exact step_cbstep h k hint
  | fsend k => exact step_fsend h k hint
  | policy u r => exact step_policy h u r hint
  | canceldone c id => exact step_canceldone h c id hint
  | connect c sid modern mask => exact step_connect h c sid modern mask hint hok
  | listen c hold => exact step_listen h c hold hint
  | subscribe c u hold => exact step_subscribe h c u hold hint
  | xlisten c id ks us hold => exact step_xlisten h c id ks us hold hint
  | xend c id hold => exact step_xend h c id hold hint
  | ackdone c id => exact step_ackdone h c id hint
  | unsubscribe c u hold => exact step_unsubscribe h c u hold hint
  | close c => exact step_close h c hint
  | rupdated u v => exact step_rupdated h u v hint
  | list c key mode => exact step_list h c key mode hint
  | send c key => exact step_send h c key hint
  | fill c key => exact step_fill h c key hint
  | tables => exact step_tables h hint
  | fin => exact step_fin h hint hok
  | bad => exact step_bad h hint

/-- the driver's `reset` -/
theorem rel_init : Rel [] ({} : State) ({} : MState) :=
  rel_fresh (m' := {}) (srvOk_init fun _ => .unset) rfl rfl (fun _ => rfl) false ⟨rfl, rfl, rfl, rfl⟩ rfl rfl []

theorem monitor_accepts_run : ∀ (ops : List (Op × Option Who)) (seen : List Nat) (y : State) (m : MState),
    Rel seen y m → okRun seen y ops → runMon m (modelTrace y ops) = none := by
  intro ops
  induction ops with
  | nil => intro _ _ _ _ _; rfl
  | cons a t ih =>
    intro seen y m h hok
    obtain ⟨op, hint⟩ := a
    obtain ⟨hok1, hok2⟩ := hok
    obtain ⟨hc, hr⟩ := step_ok h op hint hok1
    simp only [modelTrace, runMon, hc]
    exact ih _ _ _ hr hok2

theorem monitor_accepts_model (ops : List (Op × Option Who)) (hok : okRun [] {} ops) :
    runMon {} (modelTrace {} ops) = none :=
  monitor_accepts_run ops [] {} {} rel_init hok

theorem runMon_take : ∀ (tr : List Rec) (m : MState), runMon m tr = none → ∀ n, runMon m (tr.take n) = none := by
  intro tr
  induction tr with
  | nil => intro m _ n; simp [runMon]
  | cons r t ih =>
    intro m h n
    cases n with
    | zero => simp [runMon]
    | succ k =>
      simp only [List.take_succ_cons, runMon] at h ⊢
      cases hc : monCheck m r with
      | some c => rw [hc] at h; simp at h
      | none => rw [hc] at h; simp only [] at h ⊢; exact ih _ h k

theorem monitor_accepts_model_each (ops : List (Op × Option Who)) (hok : okRun [] {} ops) :
    ∀ n, runMon {} ((modelTrace {} ops).take n) = none :=
  runMon_take _ _ (monitor_accepts_model ops hok)



def stateAfter (y : State) : List (Op × Option Who) → State
  | [] => y
  | (op, h) :: rest => stateAfter (sysStep y op h).1 rest

/-- a run the hypotheses allow: two sessions of both protocol generations, a listen, a burst, the timer, a held
fan-out with a change between its writes, a ResourceUpdated, cached calls, a table dump, a close, the end -/
def sampleRun : List (Op × Option Who) :=
  [(.config .on .unset .on true, none), (.connect 0 1 true [.tools], none), (.listen 0 false, none),
   (.connect 1 2 false [], none), (.subscribe 1 0 false, none), (.subscribe 0 1 true, none),
   (.change .tools .add, none), (.change .tools .replace, none), (.advance 10, none), (.cbstep .tools, none),
   (.change .tools .remove, none), (.fsend .tools, some (.slot 1)), (.fsend .tools, none), (.advance 10, none),
   (.cbrun .tools, none), (.rupdated 0 0, none), (.rupdated 1 2, none), (.list 0 (.list .tools) .post, none),
   (.fill 0 (.list .tools), none), (.list 0 (.read 1) .n, none), (.tables, none), (.ackdone 0 3, none),
   (.unsubscribe 0 1 false, none), (.close 1, none), (.tables, none), (.fin, none)]

set_option maxRecDepth 20000 in
example : okRun [] {} sampleRun := by decide +kernel

set_option maxRecDepth 20000 in
example : (modelTrace {} sampleRun).length = 26 ∧ runMon {} (modelTrace {} sampleRun) = none := by decide +kernel

/-- Two slots connected under ONE session id (a connect that reuses an id): the model writes to the first slot
only, the monitor — which counts slots — sees an entitled session that no callback reached.  Session ids must
not be reused: the only hypothesis this run violates (its `end` is issued in a quiet state). -/
def reuseRun : List (Op × Option Who) :=
  [(.connect 0 5 false [], none), (.connect 1 5 false [], none), (.change .tools .add, none), (.advance 10, none),
   (.cbrun .tools, none), (.fin, none)]

theorem fresh_sid_needed :
    runMon {} (modelTrace {} reuseRun) = some .endSkipped ∧ ¬ okRun [] {} reuseRun ∧
    quietB (stateAfter {} reuseRun.dropLast).srv = true := by decide +kernel

/-- `end` while the debounce timer is still armed: the monitor's `end` clause speaks about a case in which every
timer has fired and every callback has run.  `end` must be issued in a quiet state: the only hypothesis this run
violates (its one connect uses a fresh id). -/
def earlyEnd : List (Op × Option Who) :=
  [(.connect 0 1 false [], none), (.change .tools .add, none), (.fin, none)]

theorem quiet_needed :
    runMon {} (modelTrace {} earlyEnd) = some .endNoLost ∧ ¬ okRun [] {} earlyEnd ∧
    quietB (stateAfter {} earlyEnd.dropLast).srv = false := by decide +kernel

/-- `Server.unsubscribe` calls the application's `UnsubscribeHandler`
first and returns its error before it touches the table: a legacy session whose `resources/unsubscribe` the
application refuses gets the error and STAYS subscribed (nothing of the composed state changes). -/
theorem refused_unsubscribe_keeps_subscription (y : State) (i : Slot) (u : Nat) (hint : Option Who)
    (hu : (y.slots i).used = true) (hc : (y.slots i).connected = true) (hm : (y.slots i).modern = false)
    (hp : (y.slots i).parked.contains (ridOf u) = false) (hh : (y.slots i).cancelHeld.contains (ridOf u) = false)
    (hr : y.refused.contains u = true) :
    sysStep y (.unsubscribe i u false) hint = (y, .err) := by
  have hp' : ridOf u ∉ (y.slots i).parked := by simpa using hp
  have hh' : ridOf u ∉ (y.slots i).cancelHeld := by simpa using hh
  have hr' : u ∈ y.refused := by simpa using hr
  simp [sysStep, hu, hc, hm, hp', hh', hr']

/-- a legacy session subscribes, the application starts refusing, the session's unsubscribe fails and it stays subscribed
(`rlive` after six ops) while a ResourceUpdated goes out; the application accepts again, the unsubscribe succeeds (`rlive`
is empty at the end) and a ResourceUpdated goes out once more.  The monitor, which wants every ResourceUpdated to reach
exactly the subscribed sessions, raises no clause. -/
def refusedUnsubRun : List (Op × Option Who) :=
  [(.config .on .on .on true, none), (.connect 0 1 false [], none), (.subscribe 0 0 false, none), (.policy 0 true, none),
   (.unsubscribe 0 0 false, none), (.rupdated 0 0, none), (.policy 0 false, none), (.unsubscribe 0 0 false, none),
   (.rupdated 0 0, none), (.fin, none)]

set_option maxRecDepth 20000 in
example : (stateAfter {} (refusedUnsubRun.take 6)).srv.rlive = [(1, 0)] ∧ (stateAfter {} refusedUnsubRun).srv.rlive = [] ∧
    okRun [] {} refusedUnsubRun ∧ runMon {} (modelTrace {} refusedUnsubRun) = none := by decide +kernel

end Notify.Bridge
