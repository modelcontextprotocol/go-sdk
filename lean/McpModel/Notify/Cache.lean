/-
E14 — client side: one `methodCache` of a `ClientSession` together with the list/read calls that
fill it and the notifications that invalidate it (mcp/cache.go; mcp/client.go: ListPrompts …
ReadResource, the `call…ChangedHandler`s, `callResourceUpdatedHandler`).

Keys are cursors (list caches) or URIs (`readResourceCache`), abstracted to `Nat`.  The server side
is reduced to what matters here: a monotone version `srv k` of whatever key `k` fetches.  Labels:
  `bump p`      the server changes everything selected by `p` (a feature set, or one resource);
  `announce sc` the server sends a notification (`sc = none`: list-changed, covers every key;
                `some k`: resource-updated for key `k`); the ghost `vers` records `srv` at that
                instant — the state the notification announces;
  `handle i`    the client handles the i-th undelivered notification: `invalidate`/`invalidateKey`;
  `listStart k` `cachedListResult`/`get`: a hit returns at once, a miss reads the generation and
                creates an in-flight call;
  `serve i ttl` the server answers the i-th in-flight call from its current state;
  `fill i`      the caller resumes after `handleSend` and calls `putIfCurrent`;
  `tick d`      virtual time passes;
  `sub k` / `unsub k`  `ClientSession.Subscribe` / `Unsubscribe` enter / remove the URI in
                `cs.resourceSubs` (`subs`).  NOTHING else reads that table: a handled
                resource-updated notification invalidates the key it NAMES whether or not the client
                holds a Subscribe entry for it — the server may name a sub-resource of what was
                subscribed, the stream may have been opened below `Subscribe`, and `Unsubscribe`
                removes the entry at once while the cancellation of the stream travels
                asynchronously (an update the server sends before it processes the cancellation is
                still handled).  `handleGated` / `stepGated` describe the variant that consults the
                table (`gated_invalidation_counterexample`).
Notifications are delivered in any order relative to responses (more schedules than a FIFO
connection allows — the theorems hold for all of them).

`fixed = true` is the cache of /repo (F7: /repo `5a735af`, fixes/F07-cache-generation.patch): a fill is
skipped when an invalidation happened since the call read the generation.  `fixed = false` is the cache
without that check (every fill is stored: `f7_counterexample`).

Ghost fields: `Notif.vers`, `Fill.startMax`, `State.handled`.
Core Lean only (linked into the driver).
-/
namespace Notify.Cache

structure Entry where
  v : Nat
  ttl : Nat
  t : Nat
deriving Repr, DecidableEq

inductive Stage where
  | sent
  | responded (v ttl : Nat)
deriving Repr, DecidableEq

structure Fill where
  key : Nat
  gen : Nat
  stage : Stage
  /-- ghost: `handled key` when the call started -/
  startMax : Nat
deriving Repr, DecidableEq

structure Notif where
  scope : Option Nat
  /-- ghost: the server versions when the notification was sent -/
  vers : Nat → Nat

def Notif.covers (n : Notif) (k : Nat) : Bool :=
  match n.scope with
  | none => true
  | some k' => k' == k

structure State where
  now : Nat := 0
  srv : Nat → Nat := fun _ => 0
  entries : List (Nat × Entry) := []
  gen : Nat := 0
  fills : List Fill := []
  inbox : List Notif := []
  /-- ghost: per key, the newest version announced by a handled notification that covers it -/
  handled : Nat → Nat := fun _ => 0
  /-- `cs.resourceSubs`: the URIs `ClientSession.Subscribe` has opened a stream for (read cache only) -/
  subs : List Nat := []

inductive Out where
  /-- a list/read call returned version `v` for `key`; `hit`: served from the cache;
  ghost `startMax`: the newest version announced by notifications handled before the call started -/
  | ret (key v startMax : Nat) (hit : Bool)
deriving Repr, DecidableEq

inductive Label where
  | tick (d : Nat)
  | bump (p : Nat → Bool)
  | announce (scope : Option Nat)
  | handle (i : Nat)
  | listStart (k : Nat)
  | serve (i ttl : Nat)
  | fill (i : Nat)
  | sub (k : Nat)
  | unsub (k : Nat)

/-- `cacheEntry.isValid` and the `GetTTLMs() <= 0` test of `get`. -/
def Entry.valid (e : Entry) (now : Nat) : Bool := 0 < e.ttl && now - e.t < e.ttl

def listStart (s : State) (k : Nat) : State × List Out :=
  match s.entries.lookup k with
  | some e =>
    if e.valid s.now then (s, [.ret k e.v (s.handled k) true])
    else ({ s with entries := s.entries.filter (fun p => p.1 != k),
                   fills := s.fills ++ [⟨k, s.gen, .sent, s.handled k⟩] }, [])
  | none => ({ s with fills := s.fills ++ [⟨k, s.gen, .sent, s.handled k⟩] }, [])

def handle (s : State) (i : Nat) : State :=
  match s.inbox[i]? with
  | none => s
  | some n =>
    { s with inbox := s.inbox.eraseIdx i,
             entries := s.entries.filter (fun p => !n.covers p.1),
             gen := s.gen + 1,
             handled := fun k => if n.covers k then max (s.handled k) (n.vers k) else s.handled k }

def serve (s : State) (i ttl : Nat) : State :=
  match s.fills[i]? with
  | some f =>
    (match f.stage with
     | .sent => { s with fills := s.fills.set i { f with stage := .responded (s.srv f.key) ttl } }
     | _ => s)
  | none => s

def fill (fixed : Bool) (s : State) (i : Nat) : State × List Out :=
  match s.fills[i]? with
  | some f =>
    (match f.stage with
     | .responded v ttl =>
       ({ s with fills := s.fills.eraseIdx i,
                 entries := if !fixed || f.gen == s.gen then
                              s.entries.filter (fun p => p.1 != f.key) ++ [(f.key, ⟨v, ttl, s.now⟩)]
                            else s.entries },
        [.ret f.key v f.startMax false])
     | _ => (s, []))
  | none => (s, [])

def step (fixed : Bool) (s : State) : Label → State × List Out
  | .tick d => ({ s with now := s.now + d }, [])
  | .bump p => ({ s with srv := fun k => if p k then s.srv k + 1 else s.srv k }, [])
  | .announce sc => ({ s with inbox := s.inbox ++ [⟨sc, s.srv⟩] }, [])
  | .handle i => (handle s i, [])
  | .listStart k => listStart s k
  | .serve i ttl => (serve s i ttl, [])
  | .fill i => fill fixed s i
  | .sub k => ({ s with subs := k :: s.subs.filter (· != k) }, [])
  | .unsub k => ({ s with subs := s.subs.filter (· != k) }, [])

/-- NOT the code that exists: a handler that invalidates the read cache only when the URI the
notification names is in `cs.resourceSubs` (the notification is handled all the same: the ghost
`handled` moves). -/
def handleGated (s : State) (i : Nat) : State :=
  match s.inbox[i]? with
  | none => s
  | some n =>
    if (match n.scope with | none => true | some k => s.subs.contains k) then handle s i
    else { s with inbox := s.inbox.eraseIdx i,
                  handled := fun k => if n.covers k then max (s.handled k) (n.vers k) else s.handled k }

def stepGated (s : State) : Label → State × List Out
  | .handle i => (handleGated s i, [])
  | l => step true s l

def runGated (s : State) : List Label → State × List Out
  | [] => (s, [])
  | l :: ls =>
    let (s1, o1) := stepGated s l
    let (s2, o2) := runGated s1 ls
    (s2, o1 ++ o2)

def run (fixed : Bool) (s : State) : List Label → State × List Out
  | [] => (s, [])
  | l :: ls =>
    let (s1, o1) := step fixed s l
    let (s2, o2) := run fixed s1 ls
    (s2, o1 ++ o2)

end Notify.Cache
