import McpModel.Notify.BridgeStep
/-!
# Bridge: client calls (`list`, `send`, `fill`)

A call for a key is up to three steps on the cache that serves it — it starts (`listStart`, a miss), it is answered
(`serve`), it returns (`fill`) — and the harness takes them one at a time (held responses) or all at once.  What a step
does to the cache, as far as the relation reads it, is `CallStep`; steps compose, and under the legacy protocol, where
there is no cache, the harness edits the list of calls in flight directly (`CallStep.of_fills`).
-/
namespace Notify.Bridge
open Notify Notify.Mon Notify.Sys Generated.Notify
variable {seen : List Nat} {y : State} {m : MState}

/-- `c'` is `c` after steps of a call for `k` that leave the call `o` in flight: what the cache knows of the server and of the
notifications handled, and everything about the other keys, is the same -/
structure CallStep (c c' : Cache.State) (k : Nat) (o : Option Cache.Fill) : Prop where
  fills : FillsAt c.fills c'.fills k o
  srv : c'.srv = c.srv
  handled : c'.handled = c.handled
  inbox : c'.inbox = c.inbox
  entries : ∀ k', k' ≠ k → c.entries.lookup k' = none → c'.entries.lookup k' = none

theorem CallStep.trans {a b c : Cache.State} {k : Nat} {o o' : Option Cache.Fill} (h1 : CallStep a b k o)
    (h2 : CallStep b c k o') : CallStep a c k o' :=
  ⟨h1.fills.trans h2.fills, h2.srv.trans h1.srv, h2.handled.trans h1.handled, h2.inbox.trans h1.inbox,
   fun k' hne hl => h2.entries k' hne (h1.entries k' hne hl)⟩

theorem CallStep.of_fills {c : Cache.State} {l' : List Cache.Fill} {k : Nat} {o : Option Cache.Fill}
    (h : FillsAt c.fills l' k o) : CallStep c { c with fills := l' } k o :=
  ⟨h, rfl, rfl, rfl, fun _ _ hl => hl⟩

theorem listStart_cases (c : Cache.State) (k : Nat) (hnd : (c.fills.map (·.key)).Nodup) (hno : ∀ f ∈ c.fills, f.key ≠ k) :
    (∃ e, c.entries.lookup k = some e ∧ Cache.listStart c k = (c, [.ret k e.v (c.handled k) true])) ∨
    (∃ c1, Cache.listStart c k = (c1, []) ∧ CallStep c c1 k (some ⟨k, c.gen, .sent, c.handled k⟩) ∧
      c1.fills = c.fills ++ [⟨k, c.gen, .sent, c.handled k⟩] ∧ (c.entries.lookup k = none → c1.entries.lookup k = none)) := by
  have hf := FillsAt.append hnd ⟨k, c.gen, .sent, c.handled k⟩ hno
  simp only [Cache.listStart]
  cases hl : c.entries.lookup k with
  | none => exact .inr ⟨_, rfl, ⟨hf, rfl, rfl, rfl, fun _ _ hx => hx⟩, rfl, fun hx => hl⟩
  | some e =>
    simp only []
    by_cases hv : e.valid c.now = true
    · left; simp only [hv, if_true]; exact ⟨e, rfl, rfl⟩
    · right
      simp only [hv]
      exact ⟨_, rfl, ⟨hf, rfl, rfl, rfl, fun _ _ hx => lookup_filter_of_lookup_none _ _ _ hx⟩, rfl, nofun⟩

theorem serve_step {c : Cache.State} {idx : Nat} {f : Cache.Fill} (ttl : Nat) (hnd : (c.fills.map (·.key)).Nodup)
    (hget : c.fills[idx]? = some f) (hs : f.stage = .sent) :
    CallStep c (Cache.serve c idx ttl) f.key (some { f with stage := .responded (c.srv f.key) ttl }) ∧
    (Cache.serve c idx ttl).fills[idx]? = some { f with stage := .responded (c.srv f.key) ttl } ∧
    (Cache.serve c idx ttl).entries = c.entries := by
  have : Cache.serve c idx ttl = { c with fills := c.fills.set idx { f with stage := .responded (c.srv f.key) ttl } } := by
    simp only [Cache.serve, hget, hs]
  rw [this]
  exact ⟨.of_fills (.set hnd hget rfl), List.getElem?_set_self (List.getElem?_eq_some_iff.1 hget).1, rfl⟩

theorem fill_step {c : Cache.State} {idx : Nat} {f : Cache.Fill} {v ttl : Nat} (hnd : (c.fills.map (·.key)).Nodup)
    (hget : c.fills[idx]? = some f) (hs : f.stage = .responded v ttl) :
    CallStep c (Cache.fill true c idx).1 f.key none ∧ (Cache.fill true c idx).2 = [.ret f.key v f.startMax false] := by
  simp only [Cache.fill, hget, hs]
  refine ⟨⟨.erase hnd hget, rfl, rfl, rfl, fun k' hne hl => ?_⟩, trivial⟩
  simp only []
  split
  · exact lookup_append_single_ne _ _ _ _ hne (lookup_filter_of_lookup_none _ _ _ hl)
  · exact hl

theorem noteSame_started {md : MSlot} {held : List Key} {key key' : Key} (e : key' ≠ key) :
    NoteSame md (md.started key) held (held ++ [key]) key' := ⟨rfl, rfl, fun _ => if_neg e, by simp [e]⟩

theorem noteSame_fetched {md : MSlot} {held : List Key} {key key' : Key} (e : key' ≠ key) :
    NoteSame md (md.fetched key) held held key' := ⟨rfl, if_neg e, fun _ => rfl, .rfl⟩

theorem noteSame_filled {md : MSlot} {held : List Key} {key key' : Key} (v : Nat) (e : key' ≠ key) :
    NoteSame md (md.filled key v) held (held.filter (· != key)) key' :=
  ⟨rfl, if_neg e, fun _ => if_neg e, by simp [e]⟩

/-- Steps of a call for `key` by the client of slot `i` (`hs`; `hinv`: the cache stays well-formed).  `md'` differs in its notes
for `key` only (`hl`, `ho`, `hoth`); to be shown is what `KeyRel` asks of them: the newest handled notification is the same
(`hmax`), a noted invalidation has emptied the entry (`hinval`), held iff in flight (`hheld`), the noted start is the
call's (`hst`). -/
theorem rel_call (h : Rel seen y m) (i : Slot) (hu : (y.slots i).used = true) (key : Key) {c' : Cache.State}
    {held' : List Key} {md' : MSlot} {o : Option Cache.Fill}
    (hs : CallStep ((y.slots i).caches key.obj) c' key.idx o)
    (hinv : (y.slots i).modern = true → Cache.Inv c')
    (hl : MSameL (m.slots i) md') (ho : md'.owed = (m.slots i).owed)
    (hoth : ∀ key' : Key, key' ≠ key → NoteSame (m.slots i) md' (y.slots i).held held' key')
    (hmax : md'.maxHandled key = (m.slots i).maxHandled key)
    (hinval : (y.slots i).modern = true → md'.invalidated key = true → c'.entries.lookup key.idx = none)
    (hheld : key ∈ held' ↔ o.isSome = true)
    (hst : ∀ f, o = some f → ((y.slots i).modern = true → f.startMax = md'.starts key) ∧
      ((y.slots i).modern = false → md'.starts key ≤ curVersion y key ∧
        ∀ v ttl, f.stage = .responded v ttl → md'.starts key ≤ v)) :
    Rel seen (y.setSlot i { ((y.slots i).setCache key.obj c') with held := held' }) (m.setSlot i md') :=
  Rel.slot_tweak h i hu ⟨rfl, rfl, rfl⟩ hl.connected fun r =>
    ⟨r.sess, hl.modern.trans r.modern, r.gated, r.gated_modern, hl.listens ▸ r.listens, hl.luris ▸ r.luris, r.sub_live,
      r.gated_none, ho ▸ r.owed,
      r.cache.set_obj key.obj (fun key' e => hoth key' fun e' => e (e' ▸ rfl))
        ((r.cache.obj key.obj).call hs.fills hinv hs.srv hs.handled hs.inbox hs.entries hoth hmax hinval hheld hst)⟩

theorem step_list (h : Rel seen y m) (i : Slot) (key : Key) (mode : Mode) (hint : Option Who) :
    StepOk seen y m (.list i key mode) hint := by
  show OkRes seen m _ (sysStep _ _ _)
  simp only [sysStep]
  apply OkRes.ite <;> intro hg
  · exact ⟨rfl, h⟩
  simp only [Bool.or_eq_true, not_or, Bool.not_eq_true', Bool.not_eq_false, Bool.not_eq_true] at hg
  have hu : (y.slots i).used = true := hg.1.1
  have hnh : key ∉ (y.slots i).held := by simpa using hg.2
  have r := h.row i hu
  have hk := r.cache.key key
  have ho := r.cache.obj key.obj
  have hno : ∀ f ∈ ((y.slots i).caches key.obj).fills, f.key ≠ key.idx := fun f hf e => hnh (hk.held_fill.2 ⟨f, hf, e⟩)
  have hst : ((m.slots i).started key).starts key = (m.slots i).maxHandled key := if_pos rfl
  apply OkRes.ite_not <;> intro hmod
  · -- no cache under the legacy protocol: the server answers; a held call is recorded as in flight
    have hleg : ∀ {P : Prop}, (y.slots i).modern = true → P := fun hx => absurd (hmod.symm.trans hx) (by simp)
    have hstart : ∀ nf : Cache.Fill, nf.key = key.idx → (∀ v ttl, nf.stage = .responded v ttl → v = curVersion y key) →
        Rel seen (y.setSlot i { ((y.slots i).setCache key.obj { (y.slots i).caches key.obj with
            fills := ((y.slots i).caches key.obj).fills ++ [nf] }) with held := (y.slots i).held ++ [key] })
          (m.setSlot i ((m.slots i).started key)) := fun nf hk' hv =>
      rel_call h i hu key (.of_fills (hk' ▸ FillsAt.append ho.fill_uniq nf fun f hf => hk'.symm ▸ hno f hf)) hleg
        ⟨rfl, rfl, rfl, rfl⟩ rfl (fun _ => noteSame_started) rfl hleg (by simp) fun f e => ⟨hleg, fun _ => by
          rw [hst]; exact ⟨hk.maxH_le, fun v ttl hs => hv v ttl (Option.some.inj e ▸ hs) ▸ hk.maxH_le⟩⟩
    cases mode <;> simp only []
    · refine ⟨?_, ?_⟩
      · have := hk.maxH_le
        have hlt : ¬ curVersion y key < (m.slots i).maxHandled key := by omega
        simp [monCheck, checkRet, hlt]
      · show Rel seen y (m.setSlot i ((m.slots i).fetched key))
        have := Rel.slot_tweak h i hu (d' := y.slots i) (md' := (m.slots i).fetched key) ⟨rfl, rfl, rfl⟩ rfl fun r => { r with
          cache := CacheRel.of_legacy hmod r.cache.held_fill r.cache.fill_uniq r.cache.maxH_le (r.cache.leg_fill hmod) }
        rw [setSlot_self] at this; exact this
    · exact ⟨rfl, hstart ⟨key.idx, 0, .responded (curVersion y key) y.ttl, 0⟩ rfl
        (fun v ttl hs => by simp only [Cache.Stage.responded.injEq] at hs; exact hs.1.symm)⟩
    · exact ⟨rfl, hstart ⟨key.idx, 0, .sent, 0⟩ rfl (fun v ttl hs => by simp at hs)⟩
  have hinv := ho.inv hmod
  have hstep : ∀ c k, Cache.step true c (.listStart k) = Cache.listStart c k := fun _ _ => rfl
  rw [hstep]
  rcases listStart_cases _ key.idx ho.fill_uniq hno with ⟨e, he, hls⟩ | ⟨c1, hls, s1, h1, h6⟩
  · -- a hit: the entry is at least as new as what the client has handled, and nothing has invalidated it
    rw [hls]
    refine ⟨?_, ?_⟩
    · have hfresh := hinv.entry_fresh _ (List.mem_of_lookup_eq_some he)
      simp only [] at hfresh
      rw [hk.handled hmod] at hfresh
      have hlt : ¬ e.v < (m.slots i).maxHandled key := by omega
      have hni : (m.slots i).invalidated key = false := by
        cases hx : (m.slots i).invalidated key
        · rfl
        · have := hk.inval hmod hx
          rw [he] at this; cases this
      simp [monCheck, checkRet, hlt, hni]
    · show Rel seen (y.setSlot i ((y.slots i).setCache key.obj ((y.slots i).caches key.obj))) m
      rw [setCache_self, setSlot_self]; exact h
  -- a miss: the call starts, and goes as far as the mode says
  rw [hls]
  simp only []
  have hinv1 : Cache.Inv c1 := by
    have := Cache.inv_step _ (.listStart key.idx) hinv
    rwa [hstep, hls] at this
  have hget1 : c1.fills[c1.fills.length - 1]? = some ⟨key.idx, ((y.slots i).caches key.obj).gen, .sent,
      ((y.slots i).caches key.obj).handled key.idx⟩ := by rw [h1]; simp
  obtain ⟨s2, hget2, e2⟩ := serve_step y.ttl s1.fills.nodup hget1 rfl
  have hinv2 := Cache.inv_step _ (.serve (c1.fills.length - 1) y.ttl) hinv1
  have hstarted : ∀ {c' : Cache.State} {f : Cache.Fill}, CallStep ((y.slots i).caches key.obj) c' key.idx (some f) →
      Cache.Inv c' → f.startMax = ((y.slots i).caches key.obj).handled key.idx →
      (((y.slots i).caches key.obj).entries.lookup key.idx = none → c'.entries.lookup key.idx = none) →
      Rel seen (y.setSlot i { ((y.slots i).setCache key.obj c') with held := (y.slots i).held ++ [key] })
        (m.setSlot i ((m.slots i).started key)) := fun cs hi hf he =>
    rel_call h i hu key cs (fun _ => hi) ⟨rfl, rfl, rfl, rfl⟩ rfl (fun _ => noteSame_started) rfl
      (fun hm hx => he (hk.inval hm hx)) (by simp) fun f e => ⟨fun hm => by
        rw [hst, ← Option.some.inj e, hf]; exact hk.handled hm, fun hx => absurd (hmod.symm.trans hx) (by simp)⟩
  cases mode <;> simp only []
  · -- answered and stored at once
    obtain ⟨s3, _⟩ := fill_step (s1.trans s2).fills.nodup hget2 rfl
    have hinv3 := Cache.inv_step _ (.fill (c1.fills.length - 1)) hinv2
    refine ⟨?_, ?_⟩
    · have := hk.maxH_le
      rw [← hk.srv hmod, ← s1.srv] at this
      have hlt : ¬ c1.srv key.idx < (m.slots i).maxHandled key := by omega
      simp [monCheck, checkRet, hlt]
    · show Rel seen (y.setSlot i ((y.slots i).setCache key.obj (Cache.fill true (Cache.serve c1 _ _) _).1))
        (m.setSlot i ((m.slots i).fetched key))
      exact rel_call h i hu key ((s1.trans s2).trans s3) (fun _ => hinv3) ⟨rfl, rfl, rfl, rfl⟩ rfl
        (fun _ => noteSame_fetched) rfl (fun _ hx => by simp [MSlot.fetched] at hx) (by simpa using hnh) nofun
  · exact ⟨rfl, hstarted (s1.trans s2) hinv2 rfl fun hx => e2 ▸ h6 hx⟩
  · exact ⟨rfl, hstarted s1 hinv1 rfl h6⟩

theorem step_send (h : Rel seen y m) (i : Slot) (key : Key) (hint : Option Who) : StepOk seen y m (.send i key) hint := by
  show OkRes seen m _ (sysStep _ _ _)
  simp only [sysStep]
  split
  · rename_i idx hfi
    apply OkRes.ite <;> intro hg
    · exact ⟨rfl, h⟩
    simp only [Bool.or_eq_true, not_or, Bool.not_eq_true', Bool.not_eq_false] at hg
    have hu : (y.slots i).used = true := hg.1
    obtain ⟨fold, hget, hp⟩ := findIdx_spec _ _ _ hfi
    simp only [Bool.and_eq_true, beq_iff_eq] at hp
    have r := h.row i hu
    have hk := r.cache.key key
    have hfold : fold ∈ ((y.slots i).caches key.obj).fills := List.mem_of_getElem? hget
    -- the held call is answered: the monitor notes nothing
    have hans : ∀ {c' : Cache.State} {fnew : Cache.Fill},
        CallStep ((y.slots i).caches key.obj) c' fold.key (some fnew) → ((y.slots i).modern = true → Cache.Inv c') →
        c'.entries = ((y.slots i).caches key.obj).entries → ((y.slots i).modern = true → fnew.startMax = fold.startMax) →
        ((y.slots i).modern = false → ∀ v ttl, fnew.stage = .responded v ttl → v = curVersion y key) →
        Rel seen (y.setSlot i ((y.slots i).setCache key.obj c')) m := fun {c' fnew} cs hi he hs hv => by
      have := rel_call h i hu key (held' := (y.slots i).held) (md' := m.slots i) (hp.1 ▸ cs) hi ⟨rfl, rfl, rfl, rfl⟩ rfl
        (fun _ _ => .rfl) rfl (fun hm hx => he ▸ hk.inval hm hx)
        (by simpa using hk.held_fill.2 ⟨fold, hfold, hp.1⟩) fun f e => by
          rw [← Option.some.inj e]
          exact ⟨fun hm => (hs hm).trans (hk.starts hm fold hfold hp.1), fun hm =>
            ⟨(hk.leg_fill hm fold hfold hp.1).1, fun v ttl hst => hv hm v ttl hst ▸ (hk.leg_fill hm fold hfold hp.1).1⟩⟩
      rw [msetSlot_self] at this; exact this
    apply OkRes.ite_not <;> intro hmod
    · exact ⟨rfl, hans (.of_fills (.set (r.cache.fill_uniq _) hget hp.1.symm)) (fun hx => absurd (hmod.symm.trans hx) (by simp))
        rfl (fun hx => absurd (hmod.symm.trans hx) (by simp))
        fun _ v ttl hs => by simp only [Cache.Stage.responded.injEq] at hs; exact hs.1.symm⟩
    · obtain ⟨s2, _, e2⟩ := serve_step y.ttl (r.cache.fill_uniq _) hget hp.2
      exact ⟨rfl, hans s2 (fun _ => Cache.inv_step _ (.serve idx y.ttl) (r.cache.inv hmod _)) e2 (fun _ => rfl)
        fun hx => absurd (hmod.symm.trans hx) (by simp)⟩
  · exact ⟨rfl, h⟩

theorem step_fill (h : Rel seen y m) (i : Slot) (key : Key) (hint : Option Who) : StepOk seen y m (.fill i key) hint := by
  show OkRes seen m _ (sysStep _ _ _)
  simp only [sysStep]
  split
  · rename_i idx hfi
    apply OkRes.ite <;> intro hg
    · exact ⟨rfl, h⟩
    simp only [Bool.or_eq_true, not_or, Bool.not_eq_true', Bool.not_eq_false] at hg
    have hu : (y.slots i).used = true := hg.1
    obtain ⟨fold, hget, hp⟩ := findIdx_spec _ _ _ hfi
    simp only [Bool.and_eq_true, beq_iff_eq, bne_iff_ne, ne_eq] at hp
    have r := h.row i hu
    have hk := r.cache.key key
    have hfold : fold ∈ ((y.slots i).caches key.obj).fills := List.mem_of_getElem? hget
    have hgd : ((y.slots i).caches key.obj).fills.getD idx ⟨0, 0, .sent, 0⟩ = fold := by
      rw [List.getD_eq_getElem?_getD, hget]; rfl
    rw [hgd]
    obtain ⟨v, ttl, hst⟩ : ∃ v ttl, fold.stage = .responded v ttl := by
      cases hs : fold.stage with
      | sent => exact absurd hs hp.2
      | responded v ttl => exact ⟨v, ttl, rfl⟩
    simp only [hst]
    -- the held call returns: the monitor forgets its start
    have hret : ∀ {c' : Cache.State}, CallStep ((y.slots i).caches key.obj) c' fold.key none →
        ((y.slots i).modern = true → Cache.Inv c') →
        Rel seen (y.setSlot i { ((y.slots i).setCache key.obj c') with held := (y.slots i).held.filter (· != key) })
          (m.setSlot i ((m.slots i).filled key v)) := fun cs hi =>
      rel_call (o := none) h i hu key (hp.1 ▸ cs) hi ⟨rfl, rfl, rfl, rfl⟩ rfl (fun _ => noteSame_filled v) rfl
        (fun _ hx => by simp [MSlot.filled] at hx) (by simp) fun _ e => nomatch e
    have hchk : (m.slots i).starts key ≤ v → monCheck m ⟨.fill i key, .ret v false⟩ = none := fun hle => by
      have hlt : ¬ v < (m.slots i).starts key := by omega
      simp [monCheck, hlt]
    apply OkRes.ite_not <;> intro hmod
    · exact ⟨hchk ((hk.leg_fill hmod fold hfold hp.1).2 v ttl hst),
        hret (.of_fills (.erase (r.cache.fill_uniq _) hget)) fun hx => absurd (hmod.symm.trans hx) (by simp)⟩
    · have hinv := r.cache.inv hmod key.obj
      refine ⟨hchk ?_, hret (fill_step (r.cache.fill_uniq _) hget hst).1 fun _ => Cache.inv_step _ (.fill idx) hinv⟩
      rw [← hk.starts hmod fold hfold hp.1]
      exact (hinv.fill_resp fold hfold v ttl hst).1
  · exact ⟨rfl, h⟩

end Notify.Bridge
