import McpModel.Notify.BridgeFan
import McpModel.Notify.BridgeStep
/-!
# Bridge: `cbstep` (the snapshot of a held fan-out; `cbrun k step` in the harness)

The callback takes its snapshot and writes nothing yet: the server's ghost debts of the kind are cleared, and the
monitor keeps a debt of the kind only with a slot it expects the fan-out to write to — a session in the snapshot, whose
outstanding write backs the debt from now on.
-/
namespace Notify.Bridge
open Notify Notify.Mon Notify.Sys Generated.Notify
variable {seen : List Nat} {y : State} {m : MState}

theorem cbStepNext_glob (m : MState) (k : Kind) (done : Bool) :
    (cbStepNext m k done).cap = m.cap ∧ (cbStepNext m k done).ver = m.ver ∧ (cbStepNext m k done).cnt = m.cnt ∧
    (cbStepNext m k done).content = m.content ∧
    (cbStepNext m k done).fans = fun k' => if k' = k ∧ done = false then some { expect := fanExpect m k } else m.fans k' := by
  cases done
  · exact ⟨rfl, rfl, rfl, rfl, funext fun k' => by simp only [and_true]; rfl⟩
  · exact ⟨rfl, rfl, rfl, rfl, funext fun k' => by simp only [Bool.true_eq_false, and_false, if_false]; rfl⟩

theorem rel_cbstep (h : Rel seen y m) (k : Kind) (hinfl : (y.srv.ks k).inflight = []) (hp : (y.srv.ks k).pending ≠ 0) :
    Rel seen { y with srv := (cbrun y.srv k).1 } (cbStepNext m k (sendList y.srv k).isEmpty) := by
  obtain ⟨-, c1, c2, c3, c4, c5, c6, c7, c8, c9⟩ := cbrun_spec y.srv k hp
  have hS := h.srvOk.invS
  have hN := h.srvOk.invN
  obtain ⟨g1, g2, g3, g4, g5⟩ := cbStepNext_glob m k (sendList y.srv k).isEmpty
  have hfor : ∀ sid, SameFor sid y.srv (cbrun y.srv k).1 := .of_eq c9 c1 c3
  have hent : ∀ i, (y.slots i).used = true → entitledNow (m.slots i) k = true →
      ∃ x ∈ sendList y.srv k, x.sid = (y.slots i).sid := by
    intro i hu he
    obtain ⟨x, hx, e⟩ := List.mem_map.1 (((sendList_spec hS hN k).2.2 (y.slots i).sid).2 ((entitledNow_iff h i hu k).1 he))
    exact ⟨x, hx, e⟩
  refine h.rows (y' := { y with srv := (cbrun y.srv k).1 }) (h.srvOk.step (.cbrun k)) c9 c1 c2
    ⟨g1.trans (h.g.cap.trans c6.symm), g2.trans (h.g.ver.trans c7.symm), g3.trans (h.g.cnt.trans c8.symm), g4.trans h.g.content⟩
    (fun _ => ⟨rfl, rfl, rfl⟩) (fun i r => ?_) fun k' => ?_
  · refine SlotRel.msame (md := { (m.slots i) with owed := if (fanExpect m k).any (fun p => p.1 == i) = true
      then (m.slots i).owed else (m.slots i).owed.filter (· != k) }) ?_ (Sound.keepsAll_cbStepNext m k _ i).msame
    rw [curVersion_congr (y' := { y with srv := (cbrun y.srv k).1 }) (y := y) c7 rfl]
    refine r.move (hfor _) (DSame.refl _) ⟨rfl, rfl, rfl, rfl⟩ (fun _ k0 hk0 => ?_) (fun hu k0 hk0 => ?_)
      fun _ hc => hc.congr rfl rfl rfl rfl rfl rfl
    · change k0 ∈ (if _ then _ else _) at hk0
      split at hk0
      · exact hk0
      · exact (List.mem_filter.1 hk0).1
    · change k0 ∈ (if _ then _ else _) at hk0
      simp only [Backed, c4, c5, hinfl, List.nil_append]
      by_cases hkk : k0 = k
      · subst hkk
        rw [if_pos rfl]
        split at hk0
        · rename_i hany
          exact .inr (hent i hu (fanExpect_any m k0 i ▸ hany))
        · simp at hk0
      · rw [if_neg hkk]
        have hk : k0 ∈ (m.slots i).owed := by
          split at hk0
          · exact hk0
          · exact (List.mem_filter.1 hk0).1
        exact ((h.row i hu).owed k0 hk).imp_left fun ho => List.mem_filter.2 ⟨ho, by simpa using hkk⟩
  · by_cases e : k' = k
    · subst e
      have hi : (((cbrun y.srv k').1).ks k').inflight = sendList y.srv k' := by rw [c5, if_pos rfl, hinfl]; rfl
      have hf5 : (cbStepNext m k' (sendList y.srv k').isEmpty).fans k' =
          if (sendList y.srv k').isEmpty = false then some { expect := fanExpect m k' } else m.fans k' := by
        rw [g5]; simp only [true_and]
      have hne : ∀ {P : Prop}, sendList y.srv k' ≠ [] → ((sendList y.srv k').isEmpty = false → P) → P := fun hne hP =>
        hP (by cases hx : sendList y.srv k' with | nil => exact absurd hx hne | cons _ _ => rfl)
      refine ⟨fun hx => hne (hi ▸ hx) fun hd => ⟨_, by rw [hf5, if_pos hd]⟩, fun fan hf => ?_,
        fun x hx => ?_, fun _ => (gateSend_congr c6 k').trans (h.srvOk.invT.gate_of_busy fun e => hp e.2.2)⟩
      · rw [hi]
        rw [hf5] at hf
        split at hf
        · cases hf
          refine ⟨(sendList_spec hS hN k').1, fun x hx i hu hs => ?_⟩
          have hst := sendList_stamp h i hu k' x hx hs
          have hent' : entitledNow (m.slots i) k' = true :=
            (entitledNow_iff h i hu k').2 (((sendList_spec hS hN k').2.2 _).1 (List.mem_map.2 ⟨x, hx, hs.symm⟩))
          exact ⟨⟨stampsOf (m.slots i) k', by rw [fanExpect_find, hent']; rfl, hst.2.1⟩, by simp, hst.1⟩
        · rename_i hd
          have : sendList y.srv k' = [] := by
            cases hx : sendList y.srv k' with
            | nil => rfl
            | cons a t => exact absurd (by rw [hx]; rfl) hd
          rw [this]
          exact ⟨by simp, by intro x hx; simp at hx⟩
      · obtain ⟨p, hp', e⟩ := List.mem_map.1 (sendList_sess hS hN k' x (hi ▸ hx))
        rw [← e]; exact h.seen.sess p hp'
    · exact (h.kind k').frame (by rw [c5, if_neg e]) (by rw [g5]; exact if_neg fun hx => e hx.1) c6

theorem step_cbstep (h : Rel seen y m) (k : Kind) (hint : Option Who) : StepOk seen y m (.cbstep k) hint := by
  show OkRes seen m _ (sysStep _ _ _)
  simp only [sysStep]
  apply OkRes.ite <;> intro hg
  · exact ⟨rfl, h⟩
  · simp only [Bool.or_eq_true, not_or, Bool.not_eq_true', Bool.not_eq_false] at hg
    have hinfl : (y.srv.ks k).inflight = [] := by simpa using hg.2
    by_cases hp : (y.srv.ks k).pending = 0
    · rw [cbrun_none _ _ hp]
      exact ⟨rfl, h⟩
    · rw [(cbrun_spec y.srv k hp).1]
      exact ⟨rfl, rel_cbstep h k hinfl hp⟩

end Notify.Bridge
