import McpModel.Notify.System
import McpModel.Notify.Props
/-!
# Bridge: the simulation relation between the composed model and the typed monitor

`Rel seen y m`: the monitor's bookkeeping `m` after a list of records describes the state `y` of the composed model that
produced their observations.  It is a conjunction of component relations, each stated on the projections of the two states
it depends on; the proofs read it slot by slot (BridgeRow.lean).  Then the run the theorem is about: the environment
hypotheses (`okOp`, `okRun`) and the records of the model (`modelTrace`).
-/
namespace Notify.Bridge
open Notify Notify.Mon Notify.Sys Generated.Notify

/-- the protocol generation of a slot, as the server records it for the session -/
def genB (modern : Bool) : Gen := if modern then .modern else .legacy

/-- an open listen of the server as the monitor lists it (without the session: the monitor lists per slot) -/
def toM (l : Listen) : MListen := ⟨l.id, l.kinds, l.uris⟩

/-- the monitor's copies of the server's capabilities, versions and sizes, and of the harness's resource contents -/
structure RelG (s : Server) (content : Nat → Nat) (m : MState) : Prop where
  cap : m.cap = s.cap
  ver : m.ver = s.ver
  cnt : m.cnt = s.cnt
  content : m.content = content

/-- sessions of the server ↔ used slots of the harness ↔ connected slots of the monitor (the monitor's `connected` follows
`DSlot.used`; `DSlot.connected` is `!gated` on a used slot: the client has its connect-time listen through) -/
structure RelSess (sessions : List (Nat × Gen)) (slots : Slot → DSlot) (ms : Slot → MSlot) : Prop where
  used_sess : ∀ i, (slots i).used = true → ((slots i).sid, genB (slots i).modern) ∈ sessions
  sess_used : ∀ p ∈ sessions, ∃ i, (slots i).used = true ∧ (slots i).sid = p.1
  sid_inj : ∀ i j, (slots i).used = true → (slots j).used = true → (slots i).sid = (slots j).sid → i = j
  conn : ∀ i, (ms i).connected = (slots i).used
  modern : ∀ i, (slots i).used = true → (ms i).modern = (slots i).modern
  /-- `gated`: the connect-time listen of the slot is still held; until it goes out the client counts as not connected -/
  gated : ∀ i, (slots i).used = true → (slots i).connected = !(slots i).gated
  /-- only a 2026-07-28 session has a connect-time listen -/
  gated_modern : ∀ i, (slots i).used = true → (slots i).gated = true → (slots i).modern = true

/-- a slot that is not in use has the monitor's initial bookkeeping, as far as the checks read it -/
structure SlotIdle (d : MSlot) : Prop where
  listens : d.listens = []
  luris : d.luris = []
  owed : d.owed = []

/-- open listens and legacy subscriptions of the server ↔ what the monitor lists per slot -/
structure RelListen (s : Server) (slots : Slot → DSlot) (ms : Slot → MSlot) : Prop where
  all_acked : ∀ l ∈ s.listens, (l.sid, l.id) ∈ s.acked ∧ ¬(l.kinds = [] ∧ l.uris = [])
  listens : ∀ i, (slots i).used = true → ∀ ml, ml ∈ (ms i).listens ↔
    ∃ l ∈ s.listens, l.sid = (slots i).sid ∧ ml = toM l
  luris : ∀ i, (slots i).used = true → (slots i).modern = false → ∀ u, u ∈ (ms i).luris ↔ ((slots i).sid, u) ∈ s.rlive
  /-- a listen opened by `subscribe u` is open only while the harness remembers it: the id `ridOf u` is free when a
  `subscribe u` passes its guards -/
  sub_live : ∀ i, (slots i).used = true → ∀ u, (∃ l ∈ s.listens, l.sid = (slots i).sid ∧ l.id = ridOf u) →
    u ∈ (slots i).rsubs ∨ ridOf u ∈ (slots i).cancelHeld
  /-- while the connect-time listen is held the session has no open listen: its id 0 is free when it goes out -/
  gated_none : ∀ i, (slots i).used = true → (slots i).gated = true → ∀ l ∈ s.listens, l.sid ≠ (slots i).sid
  idle : ∀ i, (slots i).used = false → SlotIdle (ms i)

/-- debts: what the monitor still expects to be announced is backed by the model's ghost, or by a write
of a fan-out in progress -/
def RelOwed (owed : List (Nat × Kind)) (infl : Kind → List Send) (slots : Slot → DSlot) (ms : Slot → MSlot) : Prop :=
  ∀ i k, k ∈ (ms i).owed → (slots i).used = true ∧
    (((slots i).sid, k) ∈ owed ∨ ∃ x ∈ infl k, x.sid = (slots i).sid)

/-- a held fan-out: every outstanding write goes to a slot the monitor expects, under a stamp it expects -/
structure FanOk (infl : List Send) (slots : Slot → DSlot) (fan : MFan) : Prop where
  nodup : (infl.map Send.sid).Nodup
  exp : ∀ x ∈ infl, ∀ i, (slots i).used = true → (slots i).sid = x.sid →
    (∃ stamps, fan.expect.find? (·.1 == i) = some (i, stamps) ∧ stampOf x.stamp ∈ stamps) ∧
    i ∉ fan.served ∧ ((slots i).modern = false → x.stamp = none)

/-- a fan-out of kind `k` has writes outstanding only while the monitor holds a fan for `k`, which answers for them -/
structure RelFan (infl : Kind → List Send) (slots : Slot → DSlot) (fans : Kind → Option MFan) : Prop where
  some_of : ∀ k, infl k ≠ [] → ∃ fan, fans k = some fan
  ok : ∀ k fan, fans k = some fan → FanOk (infl k) slots fan

/-- the client caches of one used slot against the monitor's bookkeeping of handled notifications -/
structure CacheRel (cur : Key → Nat) (d : DSlot) (md : MSlot) : Prop where
  inv : d.modern = true → ∀ o, Cache.Inv (d.caches o)
  srv : d.modern = true → ∀ key : Key, (d.caches key.obj).srv key.idx = cur key
  handled : d.modern = true → ∀ key : Key, (d.caches key.obj).handled key.idx = md.maxHandled key
  inval : d.modern = true → ∀ key : Key, md.invalidated key = true → (d.caches key.obj).entries.lookup key.idx = none
  inbox : d.modern = true → ∀ o, (d.caches o).inbox = []
  held_fill : ∀ key : Key, key ∈ d.held ↔ ∃ f ∈ (d.caches key.obj).fills, f.key = key.idx
  fill_uniq : ∀ o, ((d.caches o).fills.map (·.key)).Nodup
  starts : d.modern = true → ∀ key : Key, ∀ f ∈ (d.caches key.obj).fills, f.key = key.idx → f.startMax = md.starts key
  maxH_le : ∀ key : Key, md.maxHandled key ≤ cur key
  /-- legacy protocol, no cache: `fills` only lists the held calls; the monitor's `starts` is at most the version held -/
  leg_fill : d.modern = false → ∀ key : Key, ∀ f ∈ (d.caches key.obj).fills, f.key = key.idx →
    md.starts key ≤ cur key ∧ ∀ v ttl, f.stage = .responded v ttl → md.starts key ≤ v

def RelCache (cur : Key → Nat) (slots : Slot → DSlot) (ms : Slot → MSlot) : Prop :=
  ∀ i, (slots i).used = true → CacheRel cur (slots i) (ms i)

/-- every session id in `sessions` or in an outstanding write is in `seen`: a `connect` with an id not in `seen` brings a
session nothing on the server speaks of -/
structure RelSeen (seen : List Nat) (s : Server) : Prop where
  sess : ∀ p ∈ s.sessions, p.1 ∈ seen
  infl : ∀ k, ∀ x ∈ (s.ks k).inflight, x.sid ∈ seen

structure Rel (seen : List Nat) (y : State) (m : MState) : Prop where
  reach : ∃ cap, Reach cap y.srv
  g : RelG y.srv y.content m
  sess : RelSess y.srv.sessions y.slots m.slots
  lis : RelListen y.srv y.slots m.slots
  owed : RelOwed y.srv.owed (fun k => (y.srv.ks k).inflight) y.slots m.slots
  fan : RelFan (fun k => (y.srv.ks k).inflight) y.slots m.fans
  cache : RelCache (curVersion y) y.slots m.slots
  seen : RelSeen seen y.srv
  /-- a fan-out is in progress only for a kind whose capability is not switched off -/
  gate : ∀ k, (y.srv.ks k).inflight ≠ [] → gateSend y.srv k = true

def quietB (s : Server) : Bool :=
  Kind.all.all (fun k =>
    (match (s.ks k).tracked with | some (some _) => false | _ => true) &&
    (s.ks k).orphans.isEmpty && (s.ks k).pending == 0 && (s.ks k).inflight.isEmpty)

def okOp (seen : List Nat) (y : State) : Op → Prop
  | .connect _ sid _ _ => sid ∉ seen
  | .fin => quietB y.srv = true
  | _ => True

instance (seen : List Nat) (y : State) (op : Op) : Decidable (okOp seen y op) := by
  cases op <;> simp only [okOp] <;> infer_instance

def seenAfter (seen : List Nat) : Op → List Nat
  | .connect _ sid _ _ => sid :: seen
  | _ => seen

def okRun (seen : List Nat) (y : State) : List (Op × Option Who) → Prop
  | [] => True
  | (op, h) :: rest => okOp seen y op ∧ okRun (seenAfter seen op) (sysStep y op h).1 rest

def decOkRun : ∀ (ops : List (Op × Option Who)) (seen : List Nat) (y : State), Decidable (okRun seen y ops)
  | [], _, _ => isTrue trivial
  | (op, h) :: rest, seen, y =>
    match (inferInstance : Decidable (okOp seen y op)), decOkRun rest (seenAfter seen op) (sysStep y op h).1 with
    | isTrue h1, isTrue h2 => isTrue ⟨h1, h2⟩
    | isFalse h1, _ => isFalse (fun hc => h1 hc.1)
    | _, isFalse h2 => isFalse (fun hc => h2 hc.2)

instance (seen : List Nat) (y : State) (ops : List (Op × Option Who)) : Decidable (okRun seen y ops) := decOkRun ops seen y

def modelTrace (y : State) : List (Op × Option Who) → List Rec
  | [] => []
  | (op, h) :: rest => ⟨op, (sysStep y op h).2⟩ :: modelTrace (sysStep y op h).1 rest

theorem setSlot_slots (y : State) (i j : Slot) (d : DSlot) :
    (y.setSlot i d).slots j = if j = i then d else y.slots j := rfl

@[simp] theorem setSlot_slots_same (y : State) (i : Slot) (d : DSlot) : (y.setSlot i d).slots i = d := by
  simp [State.setSlot]

@[simp] theorem setSlot_srv (y : State) (i : Slot) (d : DSlot) : (y.setSlot i d).srv = y.srv := rfl
@[simp] theorem setSlot_content (y : State) (i : Slot) (d : DSlot) : (y.setSlot i d).content = y.content := rfl

theorem msetSlot_slots (m : MState) (i j : Slot) (d : MSlot) :
    (m.setSlot i d).slots j = if j = i then d else m.slots j := rfl

@[simp] theorem msetSlot_fans (m : MState) (i : Slot) (d : MSlot) : (m.setSlot i d).fans = m.fans := rfl
@[simp] theorem msetSlot_cap (m : MState) (i : Slot) (d : MSlot) : (m.setSlot i d).cap = m.cap := rfl
@[simp] theorem msetSlot_ver (m : MState) (i : Slot) (d : MSlot) : (m.setSlot i d).ver = m.ver := rfl
@[simp] theorem msetSlot_cnt (m : MState) (i : Slot) (d : MSlot) : (m.setSlot i d).cnt = m.cnt := rfl
@[simp] theorem msetSlot_content (m : MState) (i : Slot) (d : MSlot) : (m.setSlot i d).content = m.content := rfl

theorem setSlot_self (y : State) (i : Slot) : y.setSlot i (y.slots i) = y := by
  cases y
  simp only [State.setSlot, State.mk.injEq, true_and, and_true]
  funext j
  split
  · rename_i e; rw [e]
  · rfl

theorem msetSlot_self (m : MState) (i : Slot) : m.setSlot i (m.slots i) = m := by
  cases m
  simp only [MState.setSlot, MState.mk.injEq, true_and, and_true]
  funext j
  split
  · rename_i e; rw [e]
  · rfl

theorem RelG.frame {s s' : Server} {c : Nat → Nat} {m m' : MState} (h : RelG s c m)
    (h1 : s'.cap = s.cap) (h2 : s'.ver = s.ver) (h3 : s'.cnt = s.cnt)
    (g1 : m'.cap = m.cap) (g2 : m'.ver = m.ver) (g3 : m'.cnt = m.cnt) (g4 : m'.content = m.content) : RelG s' c m' :=
  ⟨by rw [g1, h1, h.cap], by rw [g2, h2, h.ver], by rw [g3, h3, h.cnt], by rw [g4, h.content]⟩

theorem slotOfSid_spec {y : State} {sid : Nat} {i : Slot} (h : slotOfSid y sid = some i) :
    (y.slots i).used = true ∧ (y.slots i).sid = sid := by
  have := List.find?_some h
  simpa using this

theorem slotOfSid_none {y : State} {sid : Nat} (h : ∀ i, (y.slots i).used = true → (y.slots i).sid ≠ sid) :
    slotOfSid y sid = none := by
  unfold slotOfSid
  rw [List.find?_eq_none]
  intro i _
  simp
  intro hu
  exact h i hu

theorem slotOfSid_some {y : State} {sid : Nat} {i : Slot}
    (hinj : ∀ i j, (y.slots i).used = true → (y.slots j).used = true → (y.slots i).sid = (y.slots j).sid → i = j)
    (hu : (y.slots i).used = true) (hs : (y.slots i).sid = sid) : slotOfSid y sid = some i := by
  cases hf : slotOfSid y sid with
  | none =>
    rw [slotOfSid, List.find?_eq_none] at hf
    have := hf i (Slot.mem_all i)
    simp [hu, hs] at this
  | some j =>
    have := slotOfSid_spec hf
    rw [hinj j i this.1 hu (this.2.trans hs.symm)]

@[simp] theorem curVersion_list (y : State) (f : FSet) : curVersion y (.list f) = y.srv.ver f := by cases f <;> rfl

@[simp] theorem curVersion_read (y : State) (u : Nat) : curVersion y (.read u) = y.content u := rfl

theorem curVersion_congr {y y' : State} (h1 : y'.srv.ver = y.srv.ver) (h2 : y'.content = y.content) :
    curVersion y' = curVersion y := by
  funext key
  cases key <;> simp only [curVersion_list, curVersion_read, h1, h2]

theorem gateSend_congr {s s' : Server} (h : s'.cap = s.cap) (k : Kind) : gateSend s' k = gateSend s k := by
  simp only [gateSend, h]

theorem gateSend_cap (s : Server) (k : Kind) : gateSend s k = (s.cap k != .off) := by
  simp [gateSend, sendGate_diag]

end Notify.Bridge
