import McpModel.Notify.BridgeLemmas
/-!
# Bridge: the client caches key by key

`CacheRel` relates the five caches of a slot to the monitor's notes about handled notifications and calls in flight.  It
is a statement per cache object (`ObjRel`), and there per key the cache serves (`KeyRel`): `cacheRel_iff`.  What happens to
a cache happens to one object (`CacheRel.set_obj`: the others carry over), and a call happens to one key of it
(`ObjRel.call`: the other keys carry over; what it does to the calls in flight is `FillsAt`).
-/
namespace Notify.Bridge
open Notify Notify.Mon Notify.Sys Generated.Notify

theorem key_ext {a b : Key} (h1 : a.obj = b.obj) (h2 : a.idx = b.idx) : a = b := by
  cases a with
  | list f => cases b with
    | list g => cases f <;> cases g <;> simp_all [Key.obj, FSet.cache]
    | read u => cases f <;> simp [Key.obj, FSet.cache] at h1
  | read u => cases b with
    | list g => cases g <;> simp [Key.obj, FSet.cache] at h1
    | read w => simp only [Key.idx] at h2; rw [h2]

theorem setCache_caches (d : DSlot) (o o' : CacheObj) (c : Cache.State) :
    (d.setCache o c).caches o' = if o' = o then c else d.caches o' := rfl

theorem setCache_self (d : DSlot) (o : CacheObj) : d.setCache o (d.caches o) = d := by
  cases d
  simp only [DSlot.setCache, DSlot.mk.injEq, true_and, and_true]
  funext o'
  split
  · rename_i e; rw [e]
  · rfl

structure KeyRel (cur : Key → Nat) (modern : Bool) (held : List Key) (md : MSlot) (c : Cache.State) (key : Key) : Prop where
  srv : modern = true → c.srv key.idx = cur key
  handled : modern = true → c.handled key.idx = md.maxHandled key
  inval : modern = true → md.invalidated key = true → c.entries.lookup key.idx = none
  held_fill : key ∈ held ↔ ∃ f ∈ c.fills, f.key = key.idx
  starts : modern = true → ∀ f ∈ c.fills, f.key = key.idx → f.startMax = md.starts key
  maxH_le : md.maxHandled key ≤ cur key
  leg_fill : modern = false → ∀ f ∈ c.fills, f.key = key.idx →
    md.starts key ≤ cur key ∧ ∀ v ttl, f.stage = .responded v ttl → md.starts key ≤ v

structure ObjRel (cur : Key → Nat) (modern : Bool) (held : List Key) (md : MSlot) (o : CacheObj) (c : Cache.State) : Prop where
  inv : modern = true → Cache.Inv c
  inbox : modern = true → c.inbox = []
  fill_uniq : (c.fills.map (·.key)).Nodup
  key : ∀ key : Key, key.obj = o → KeyRel cur modern held md c key

theorem cacheRel_iff {cur : Key → Nat} {d : DSlot} {md : MSlot} :
    CacheRel cur d md ↔ ∀ o, ObjRel cur d.modern d.held md o (d.caches o) := by
  constructor
  · intro h o
    refine ⟨fun hm => h.inv hm o, fun hm => h.inbox hm o, h.fill_uniq o, ?_⟩
    rintro key rfl
    exact ⟨fun hm => h.srv hm key, fun hm => h.handled hm key, fun hm => h.inval hm key, h.held_fill key,
      fun hm => h.starts hm key, h.maxH_le key, fun hm => h.leg_fill hm key⟩
  · intro h
    exact ⟨fun hm o => (h o).inv hm, fun hm key => ((h _).key key rfl).srv hm, fun hm key => ((h _).key key rfl).handled hm,
      fun hm key => ((h _).key key rfl).inval hm, fun hm o => (h o).inbox hm, fun key => ((h _).key key rfl).held_fill,
      fun o => (h o).fill_uniq, fun hm key => ((h _).key key rfl).starts hm, fun key => ((h _).key key rfl).maxH_le,
      fun hm key => ((h _).key key rfl).leg_fill hm⟩

theorem CacheRel.obj {cur : Key → Nat} {d : DSlot} {md : MSlot} (h : CacheRel cur d md) (o : CacheObj) :
    ObjRel cur d.modern d.held md o (d.caches o) := cacheRel_iff.1 h o

theorem CacheRel.key {cur : Key → Nat} {d : DSlot} {md : MSlot} (h : CacheRel cur d md) (key : Key) :
    KeyRel cur d.modern d.held md (d.caches key.obj) key := (h.obj _).key key rfl

/-- the monitor's notes for `key`, and whether a call for it is held, are the same (`starts` counts only while a call is in
flight) -/
structure NoteSame (md md' : MSlot) (held held' : List Key) (key : Key) : Prop where
  maxHandled : md'.maxHandled key = md.maxHandled key
  invalidated : md'.invalidated key = md.invalidated key
  starts : key ∈ held → md'.starts key = md.starts key
  held : key ∈ held' ↔ key ∈ held

theorem NoteSame.rfl {md : MSlot} {held : List Key} {key : Key} : NoteSame md md held held key :=
  ⟨.refl _, .refl _, fun _ => .refl _, .rfl⟩

theorem KeyRel.congr {cur cur' : Key → Nat} {mo : Bool} {held held' : List Key} {md md' : MSlot} {c : Cache.State} {key : Key}
    (h : KeyRel cur mo held md c key) (hc : cur' key = cur key) (hn : NoteSame md md' held held' key) :
    KeyRel cur' mo held' md' c key := by
  obtain ⟨n1, n2, n3, n4⟩ := hn
  have hst : ∀ f ∈ c.fills, f.key = key.idx → md'.starts key = md.starts key :=
    fun f hf e => n3 (h.held_fill.2 ⟨f, hf, e⟩)
  refine ⟨?_, ?_, ?_, ?_, fun hm f hf e => ?_, ?_, fun hm f hf e => ?_⟩
  · rw [hc]; exact h.srv
  · rw [n1]; exact h.handled
  · rw [n2]; exact h.inval
  · rw [n4]; exact h.held_fill
  · rw [hst f hf e]; exact h.starts hm f hf e
  · rw [n1, hc]; exact h.maxH_le
  · rw [hst f hf e, hc]; exact h.leg_fill hm f hf e

theorem ObjRel.congr {cur cur' : Key → Nat} {mo : Bool} {held held' : List Key} {md md' : MSlot} {o : CacheObj} {c : Cache.State}
    (h : ObjRel cur mo held md o c) (hc : ∀ key : Key, key.obj = o → cur' key = cur key)
    (hn : ∀ key : Key, key.obj = o → NoteSame md md' held held' key) : ObjRel cur' mo held' md' o c :=
  ⟨h.inv, h.inbox, h.fill_uniq, fun key e => (h.key key e).congr (hc key e) (hn key e)⟩

theorem CacheRel.set_obj {cur : Key → Nat} {d : DSlot} {md md' : MSlot} (h : CacheRel cur d md) (o : CacheObj)
    {c' : Cache.State} {held' : List Key}
    (hoth : ∀ key : Key, key.obj ≠ o → NoteSame md md' d.held held' key)
    (ho : ObjRel cur d.modern held' md' o c') :
    CacheRel cur { (d.setCache o c') with held := held' } md' := by
  refine cacheRel_iff.2 fun o' => ?_
  show ObjRel cur d.modern held' md' o' (if o' = o then c' else d.caches o')
  split
  · rename_i e; subst e; exact ho
  · rename_i e; exact (h.obj o').congr (fun _ _ => rfl) (fun key e' => hoth key (e' ▸ e))

theorem ObjRel.srv_move {cur cur' : Key → Nat} {mo : Bool} {held : List Key} {md : MSlot} {o : CacheObj} {c : Cache.State}
    (h : ObjRel cur mo held md o c) (srv' : Nat → Nat) (hinv : mo = true → Cache.Inv { c with srv := srv' })
    (hsrv : mo = true → ∀ key : Key, key.obj = o → srv' key.idx = cur' key)
    (hle : ∀ key : Key, key.obj = o → cur key ≤ cur' key) : ObjRel cur' mo held md o { c with srv := srv' } := by
  refine ⟨hinv, h.inbox, h.fill_uniq, fun key e => ?_⟩
  have hk := h.key key e
  exact ⟨fun hm => hsrv hm key e, hk.handled, hk.inval, hk.held_fill, hk.starts, Nat.le_trans hk.maxH_le (hle key e),
    fun hm f hf e1 => ⟨Nat.le_trans (hk.leg_fill hm f hf e1).1 (hle key e), (hk.leg_fill hm f hf e1).2⟩⟩

theorem ObjRel.of_now_subs {cur : Key → Nat} {mo : Bool} {held : List Key} {md : MSlot} {o : CacheObj} {c : Cache.State}
    (h : ObjRel cur mo held md o c) (n : Nat) (subs : List Nat) : ObjRel cur mo held md o { c with now := n, subs := subs } := by
  refine ⟨fun hm => ?_, h.inbox, h.fill_uniq, fun key e => ?_⟩
  · have hc := h.inv hm
    exact ⟨hc.inbox_le, hc.handled_le, hc.entry_fresh, hc.fill_gen, hc.fill_start, hc.fill_resp⟩
  · have hk := h.key key e
    exact ⟨hk.srv, hk.handled, hk.inval, hk.held_fill, hk.starts, hk.maxH_le, hk.leg_fill⟩

theorem CacheRel.of_caches {cur : Key → Nat} {d d' : DSlot} {md : MSlot} (h : CacheRel cur d md)
    (e1 : d'.modern = d.modern) (e3 : d'.held = d.held)
    (ec : ∀ o, ∃ n subs, d'.caches o = { d.caches o with now := n, subs := subs }) : CacheRel cur d' md := by
  refine cacheRel_iff.2 fun o => ?_
  obtain ⟨n, s, hs⟩ := ec o
  rw [hs, e1, e3]
  exact (h.obj o).of_now_subs n s

/-- the calls in flight `l'` are those of `l`, but for the key `k` it is `o` -/
structure FillsAt (l l' : List Cache.Fill) (k : Nat) (o : Option Cache.Fill) : Prop where
  other : ∀ f : Cache.Fill, f.key ≠ k → (f ∈ l' ↔ f ∈ l)
  this : ∀ f : Cache.Fill, f.key = k → (f ∈ l' ↔ o = some f)
  key : ∀ f, o = some f → f.key = k
  nodup : (l'.map (·.key)).Nodup

theorem FillsAt.append {l : List Cache.Fill} (hnd : (l.map (·.key)).Nodup) (nf : Cache.Fill)
    (hno : ∀ f ∈ l, f.key ≠ nf.key) : FillsAt l (l ++ [nf]) nf.key (some nf) := by
  refine ⟨fun f hne => ?_, fun f e => ?_, fun f e => (Option.some.inj e) ▸ rfl, ?_⟩
  · rw [List.mem_append, List.mem_singleton]
    exact ⟨fun hx => hx.resolve_right fun e => hne (e ▸ rfl), Or.inl⟩
  · rw [List.mem_append, List.mem_singleton, Option.some.injEq]
    exact ⟨fun hx => (hx.resolve_left fun hx => hno f hx e).symm, fun hx => Or.inr hx.symm⟩
  · rw [List.map_append, List.nodup_append]
    refine ⟨hnd, by simp, ?_⟩
    rintro a ha b hb rfl
    obtain ⟨f, hf, rfl⟩ := List.mem_map.1 ha
    exact hno f hf (List.mem_singleton.1 hb)

theorem idx_of_key {l : List Cache.Fill} (hnd : (l.map (·.key)).Nodup) {idx j : Nat} {fold f : Cache.Fill}
    (hget : l[idx]? = some fold) (hj : l[j]? = some f) (e : f.key = fold.key) : j = idx := by
  have h1 : (l.map (·.key))[j]? = (l.map (·.key))[idx]? := by
    rw [List.getElem?_map, List.getElem?_map, hj, hget]; simp [e]
  have hlt : j < (l.map (·.key)).length := by rw [List.length_map]; exact (List.getElem?_eq_some_iff.1 hj).1
  exact (List.getElem?_inj hlt hnd).1 h1

theorem FillsAt.erase {l : List Cache.Fill} (hnd : (l.map (·.key)).Nodup) {idx : Nat} {fold : Cache.Fill}
    (hget : l[idx]? = some fold) : FillsAt l (l.eraseIdx idx) fold.key none := by
  refine ⟨fun f hne => ?_, fun f e => ?_, nofun, (List.Sublist.map _ (List.eraseIdx_sublist l idx)).nodup hnd⟩
  · rw [List.mem_eraseIdx_iff_getElem?]
    refine ⟨fun ⟨j, _, hj⟩ => List.mem_of_getElem? hj, fun hf => ?_⟩
    obtain ⟨j, hj⟩ := List.getElem?_of_mem hf
    exact ⟨j, fun e => hne (by rw [e, hget] at hj; rw [Option.some.inj hj]), hj⟩
  · rw [List.mem_eraseIdx_iff_getElem?]
    exact ⟨fun ⟨j, hne, hj⟩ => absurd (idx_of_key hnd hget hj e) hne, nofun⟩

theorem FillsAt.set {l : List Cache.Fill} (hnd : (l.map (·.key)).Nodup) {idx : Nat} {fold fnew : Cache.Fill}
    (hget : l[idx]? = some fold) (hk : fnew.key = fold.key) : FillsAt l (l.set idx fnew) fold.key (some fnew) := by
  have hlt : idx < l.length := (List.getElem?_eq_some_iff.1 hget).1
  have hnew : (l.set idx fnew)[idx]? = some fnew := List.getElem?_set_self hlt
  refine ⟨fun f hne => ⟨fun hf => ?_, fun hf => ?_⟩, fun f e => ⟨fun hf => ?_, fun hf => ?_⟩,
    fun f e => (Option.some.inj e) ▸ hk, ?_⟩
  · obtain ⟨j, hj⟩ := List.getElem?_of_mem hf
    by_cases e : idx = j
    · rw [← e, hnew] at hj; exact absurd ((Option.some.inj hj) ▸ hk) hne
    · rw [List.getElem?_set_ne e] at hj; exact List.mem_of_getElem? hj
  · obtain ⟨j, hj⟩ := List.getElem?_of_mem hf
    have e : idx ≠ j := fun e => hne (by rw [← e, hget] at hj; rw [Option.some.inj hj])
    exact List.mem_of_getElem? ((List.getElem?_set_ne e).trans hj)
  · obtain ⟨j, hj⟩ := List.getElem?_of_mem hf
    by_cases e1 : idx = j
    · rw [← e1, hnew] at hj; exact hj
    · rw [List.getElem?_set_ne e1] at hj; exact absurd (idx_of_key hnd hget hj e).symm e1
  · exact List.mem_of_getElem? (hf ▸ hnew)
  · have : (l.set idx fnew).map (·.key) = l.map (·.key) := by
      rw [List.map_set]
      apply List.ext_getElem?
      intro j
      by_cases e : idx = j
      · rw [← e, List.getElem?_set_self (by rw [List.length_map]; exact hlt), List.getElem?_map, hget, hk]; rfl
      · rw [List.getElem?_set_ne e]
    rw [this]; exact hnd

theorem FillsAt.trans {l l' l'' : List Cache.Fill} {k : Nat} {o o' : Option Cache.Fill} (h1 : FillsAt l l' k o)
    (h2 : FillsAt l' l'' k o') : FillsAt l l'' k o' :=
  ⟨fun f hne => (h2.other f hne).trans (h1.other f hne), h2.this, h2.key, h2.nodup⟩

/-- `o`: the call in flight for `key` afterwards.  The other keys carry over when `c'` keeps what `c` knows of the server and
of the notifications handled and loses no invalidation. -/
theorem ObjRel.call {cur : Key → Nat} {mo : Bool} {held held' : List Key} {md md' : MSlot} {c c' : Cache.State} {key : Key}
    {o : Option Cache.Fill} (h : ObjRel cur mo held md key.obj c) (hf : FillsAt c.fills c'.fills key.idx o)
    (hinv : mo = true → Cache.Inv c') (hsrv : c'.srv = c.srv) (hh : c'.handled = c.handled) (hib : c'.inbox = c.inbox)
    (hent : ∀ k, k ≠ key.idx → c.entries.lookup k = none → c'.entries.lookup k = none)
    (hoth : ∀ key' : Key, key' ≠ key → NoteSame md md' held held' key')
    (hmax : md'.maxHandled key = md.maxHandled key)
    (hinval : mo = true → md'.invalidated key = true → c'.entries.lookup key.idx = none)
    (hheld : key ∈ held' ↔ o.isSome = true)
    (hst : ∀ f, o = some f → (mo = true → f.startMax = md'.starts key) ∧
      (mo = false → md'.starts key ≤ cur key ∧ ∀ v ttl, f.stage = .responded v ttl → md'.starts key ≤ v)) :
    ObjRel cur mo held' md' key.obj c' := by
  refine ⟨hinv, fun hm => hib.trans (h.inbox hm), hf.nodup, fun key' e => ?_⟩
  by_cases ek : key' = key
  · subst ek
    have hk := h.key key' rfl
    refine ⟨?_, ?_, hinval, ?_, fun hm f hf' e1 => ?_, hmax ▸ hk.maxH_le, fun hm f hf' e1 => ?_⟩
    · rw [hsrv]; exact hk.srv
    · rw [hh, hmax]; exact hk.handled
    · rw [hheld]
      cases o with
      | none => exact ⟨nofun, fun ⟨f, hf', e1⟩ => nomatch (hf.this f e1).1 hf'⟩
      | some f0 => exact ⟨fun _ => ⟨f0, (hf.this f0 (hf.key f0 rfl)).2 rfl, hf.key f0 rfl⟩, fun _ => rfl⟩
    · exact (hst f ((hf.this f e1).1 hf')).1 hm
    · exact (hst f ((hf.this f e1).1 hf')).2 hm
  · have hidx : key'.idx ≠ key.idx := fun e2 => ek (key_ext e e2)
    have hmem : ∀ f ∈ c'.fills, f.key = key'.idx → f ∈ c.fills := fun f hf' e1 => (hf.other f (e1 ▸ hidx)).1 hf'
    obtain ⟨n1, n2, n3, n4⟩ := hoth key' ek
    have hk := h.key key' e
    have hst' : ∀ f ∈ c'.fills, f.key = key'.idx → md'.starts key' = md.starts key' :=
      fun f hf' e1 => n3 (hk.held_fill.2 ⟨f, hmem f hf' e1, e1⟩)
    refine ⟨?_, ?_, ?_, ?_, fun hm f hf' e1 => ?_, n1 ▸ hk.maxH_le, fun hm f hf' e1 => ?_⟩
    · rw [hsrv]; exact hk.srv
    · rw [hh, n1]; exact hk.handled
    · rw [n2]; exact fun hm hi => hent _ hidx (hk.inval hm hi)
    · rw [n4, hk.held_fill]
      exact ⟨fun ⟨f, hf', e1⟩ => ⟨f, (hf.other f (e1 ▸ hidx)).2 hf', e1⟩, fun ⟨f, hf', e1⟩ => ⟨f, hmem f hf' e1, e1⟩⟩
    · rw [hst' f hf' e1]; exact hk.starts hm f (hmem f hf' e1) e1
    · rw [hst' f hf' e1]; exact hk.leg_fill hm f (hmem f hf' e1) e1

end Notify.Bridge
