import McpModel.Notify.BridgeChange
import McpModel.Notify.BridgeFan
import McpModel.Notify.BridgeHandle
/-!
# Bridge: `rupdated` (a ResourceUpdated fan-out)

Two steps with the relation in between: the content of `v` changes (`rel_content`), then the subscribers of `u` are
written to at once — exactly the slots the monitor counts as subscribed (`grantedU_iff`), under the stamp of their
generation (`ru_delivery_ok`).
-/
namespace Notify.Bridge
open Notify Notify.Mon Notify.Sys Generated.Notify
variable {seen : List Nat} {y : State} {m : MState}

theorem mkUpdated_who (v : Nat) (i : Slot) (d : DSlot) (x : Send) : (mkUpdated v (.slot i) d x).who = .slot i := rfl

theorem ruSlotClause_none (m : MState) (u : Nat) (ds : List SDelivery) (i : Slot)
    (hgot : ds.any (·.slot == i) = true ↔ ((m.slots i).connected && (m.slots i).grantedU u) = true)
    (hle : (ds.filter (·.slot == i)).length ≤ 1) : ruSlotClause m u ds i = none := by
  have hpos := any_iff_filter_pos ds (·.slot == i)
  unfold ruSlotClause
  cases hw : ((m.slots i).connected && (m.slots i).grantedU u)
  · have : (ds.filter (·.slot == i)).length = 0 := by
      have : ¬ 0 < (ds.filter (·.slot == i)).length := fun hc => by simpa [hw] using hgot.1 (hpos.2 hc)
      omega
    simp [hw, this]
  · have : (ds.filter (·.slot == i)).length = 1 := by
      have := hpos.1 (hgot.2 hw)
      omega
    simp [hw, this]

theorem ruDeliveryClause_none (m : MState) (u v : Nat) (sd : SDelivery) (h1 : sd.meth = .updated) (h2 : sd.hk = .uri v)
    (h3 : (m.slots sd.slot).modern = false → sd.stamp = .plain)
    (h4 : (m.slots sd.slot).modern = true →
      (m.slots sd.slot).listens.any (fun l => Stamp.id l.id == sd.stamp && l.uris.contains u) = true) :
    ruDeliveryClause m u v sd = none := by
  unfold ruDeliveryClause
  cases hm : (m.slots sd.slot).modern
  · simp [h1, h2, hm, h3 hm]
  · have := h4 hm
    simp only [h1, h2, hm, this]
    simp

/-- the stamp of the write tells the generation of the session -/
theorem ru_delivery_ok (h : Rel seen y m) (u v : Nat) (sd : SDelivery) (x : Send) (hx : x ∈ updList y.srv u)
    (hu : (y.slots sd.slot).used = true) (hs : (y.slots sd.slot).sid = x.sid)
    (h1 : sd.meth = .updated) (h2 : sd.stamp = stampOf x.stamp) (h3 : sd.hk = .uri v) : ruDeliveryClause m u v sd = none := by
  have hS := h.srvOk.invS
  have hmod := h.sess.modern sd.slot hu
  have hgen := h.sess.used_sess sd.slot hu
  rw [hs] at hgen
  rcases (updList_spec hS u).2.2 x hx with ⟨hst, hg⟩ | ⟨id, hst, hg, l, hl, l1, l2, l3⟩
  · have hleg : (m.slots sd.slot).modern = false := by
      rw [hmod]; exact genB_eq_legacy.1 (gen_unique hS.sess_nodup hgen hg)
    exact ruDeliveryClause_none _ _ _ _ h1 h3 (fun _ => by rw [h2, hst]; rfl)
      (fun hm1 => absurd (hleg.symm.trans hm1) (by simp))
  · have hmo : (m.slots sd.slot).modern = true := by
      rw [hmod]; exact genB_eq_modern.1 (gen_unique hS.sess_nodup hgen hg)
    refine ruDeliveryClause_none _ _ _ _ h1 h3 (fun hm0 => absurd (hmo.symm.trans hm0) (by simp)) (fun _ => ?_)
    exact (listens_any_iff h sd.slot hu _).2 ⟨l, hl, l1.trans hs.symm, by rw [h2, hst]; simp [toM, stampOf, l2, l3]⟩

theorem rel_content (h : Rel seen y m) (v : Nat) :
    Rel seen (({ y with content := fun k => if k == v then y.content v + 1 else y.content k } : State).cacheAll
      .read (.bump (fun k => k == v))) (ruContent m v) := by
  refine h.sameAll h.srvOk (SameAll.refl _) rfl rfl rfl ?_ rfl (cacheAll_same _ _ _) (fun _ => ⟨rfl, rfl, rfl, rfl⟩) (fun _ => rfl)
    fun j hj hc => ?_
  · show (ruContent m v).content = fun k => if k == v then y.content v + 1 else y.content k
    simp only [ruContent, h.g.content]
  · have hb := cacheRel_bump CacheObj.read (fun k => k == v) hc (cur' := curVersion
      ({ y with content := fun k => if k == v then y.content v + 1 else y.content k } : State)) fun key => by
        cases key with
        | list f => cases f <;> simp [Key.obj, FSet.cache]
        | read w => by_cases e : w = v <;> simp [Key.obj, Key.idx, e]
    rw [cacheAll_slots]
    show CacheRel _ (if (((y.slots j).used && (y.slots j).modern) = true) then _ else _) _
    rw [hj, Bool.true_and]
    exact hb.congr rfl rfl rfl rfl rfl rfl

theorem step_rupdated (h : Rel seen y m) (u v : Nat) (hint : Option Who) : StepOk seen y m (.rupdated u v) hint := by
  show OkRes seen m _ (sysStep _ _ _)
  simp only [sysStep]
  have h2 := rel_content h v
  obtain ⟨y2, hy2⟩ : ∃ y2, y2 = ({ y with content := fun k => if k == v then y.content v + 1 else y.content k } : State).cacheAll
      .read (.bump (fun k => k == v)) := ⟨_, rfl⟩
  rw [← hy2] at h2 ⊢
  clear hy2 h
  generalize hm2 : ruContent m v = m2 at h2
  have hS := h2.srvOk.invS
  obtain ⟨u1, u2, u3⟩ := updList_spec hS u
  have hslot : ∀ x ∈ updList y2.srv u, ∃ i, (y2.slots i).used = true ∧ (y2.slots i).sid = x.sid := by
    intro x hx
    refine h2.sess.slot_of_sid ?_
    rcases u3 x hx with ⟨_, hg⟩ | ⟨_, _, hg, _⟩
    · exact List.mem_map.2 ⟨_, hg, rfl⟩
    · exact List.mem_map.2 ⟨_, hg, rfl⟩
  obtain ⟨f1, f2, f3, ds', f4, f5, f6, f7⟩ := fanout_spec (clientHandleUpdated · v) (mkUpdated v) (keepsId_updated v)
    (mkUpdated_who v) y2 (updList y2.srv u) h2.sess.sid_inj hslot u2
  simp only [deliverUpdated]
  obtain ⟨yy, hyy⟩ : ∃ yy, yy = deliverAll (fun x => clientHandleUpdated x v) (mkUpdated v) y2 (updList y2.srv u) := ⟨_, rfl⟩
  rw [← hyy] at f1 f2 f3 f4 ⊢
  have hgot : ∀ i, ds'.any (·.slot == i) = true ↔ ((m2.slots i).connected && (m2.slots i).grantedU u) = true := by
    intro i
    rw [f6 i]
    by_cases hu : (y2.slots i).used = true
    · rw [u1, ← grantedU_iff h2 i hu u, h2.sess.conn i, hu]
      simp
    · have : (m2.slots i).connected = false := by rw [h2.sess.conn i]; simpa using hu
      simp [hu, this]
  refine ⟨?_, ?_⟩
  · show monCheck m ⟨.rupdated u v, .sent y2.srv.now yy.2⟩ = none
    simp only [monCheck, f4, ruCheck, hm2]
    rw [first_eq_none]
    intro c hc
    rcases List.mem_append.1 hc with hc | hc
    · obtain ⟨i, _, rfl⟩ := List.mem_map.1 hc
      exact ruSlotClause_none _ _ _ _ (hgot i) (f7 i)
    · obtain ⟨sd, hsd, rfl⟩ := List.mem_map.1 hc
      obtain ⟨x, hx, hu', hs', e1, e2, e3⟩ := f5 sd hsd
      exact ru_delivery_ok h2 u v sd x hx hu' hs' e1 e2 e3
  · show Rel seen yy.1 (monNext m ⟨.rupdated u v, .sent y2.srv.now yy.2⟩)
    simp only [monNext, f4, hm2]
    refine h2.rows (y' := yy.1) (f1 ▸ h2.srvOk) (by rw [f1]) (by rw [f1]) (by rw [f1])
      ⟨h2.g.cap.trans (by rw [f1]), h2.g.ver.trans (by rw [f1]), h2.g.cnt.trans (by rw [f1]), h2.g.content.trans f2.symm⟩
      (fun j => by rw [f3]; split; exact (clientHandleUpdated_same _ _).toId; exact ⟨rfl, rfl, rfl⟩) (fun j r => ?_)
      fun k' => (h2.kind k').frame (by rw [f1]) rfl (by rw [f1])
    refine SlotRel.msame ?_ (Sound.keepsAll_ruNext m2 v ds' j).msame
    rw [f3 j, f1, curVersion_congr (y' := yy.1) (y := y2) (by rw [f1]) f2]
    by_cases hg : ds'.any (·.slot == j) = true
    · rw [if_pos ((f6 j).1 hg), if_pos hg]
      exact r.updated m2 v (verOfKey_cur h2)
    · rw [if_neg (fun hc' => hg ((f6 j).2 hc')), if_neg hg]
      exact r
end Notify.Bridge
