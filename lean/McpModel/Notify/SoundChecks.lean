import McpModel.Notify.SoundAgree
import McpModel.Base.Logic
/-!
# Clause soundness of the C18 monitor: what the monitor saw when it raises a clause (`Why`, `monCheck_why`); every
`sound_<clause>` starts from there
-/
namespace Notify.Sound
open Notify Notify.Mon

theorem first_some {l : List (Option Clause)} {c : Clause} (h : first l = some c) : some c ∈ l := by
  simp only [first] at h
  obtain ⟨a, ha, e⟩ := List.exists_of_findSome?_eq_some h
  simp only [id] at e
  rw [← e]; exact ha

/-- `r` is a record of a list-changed fan-out of kind `k` whose deliveries `ds` all went to slots -/
def IsFanout (r : Rec) (k : Kind) (ds : List SDelivery) : Prop :=
  (∃ t l, r = ⟨.cbrun k, .sent t l⟩ ∧ slotDeliveries l = some ds) ∨
  (∃ a t l b, r = ⟨.fsend k, .fsent a t l b⟩ ∧ slotDeliveries l = some ds)

theorem IsFanout.loud {r : Rec} {k : Kind} {ds : List SDelivery} (h : IsFanout r k ds) (i : Slot) : (quiet r || aside i r) = false := by
  rcases h with ⟨_, _, rfl, hs⟩ | ⟨_, _, _, _, rfl, hs⟩ <;> simp [quiet, aside, hs]

def IsComplete (r : Rec) (k : Kind) (ds : List SDelivery) : Prop :=
  ∃ t l, r = ⟨.cbrun k, .sent t l⟩ ∧ slotDeliveries l = some ds

def IsHeldWrite (m : MState) (r : Rec) (k : Kind) (fan : MFan) (a : Who) (ds : List SDelivery) : Prop :=
  ∃ t l b, r = ⟨.fsend k, .fsent a t l b⟩ ∧ m.fans k = some fan ∧ slotDeliveries l = some ds

theorem IsHeldWrite.fanout {m : MState} {r : Rec} {k : Kind} {fan : MFan} {a : Who} {ds : List SDelivery}
    (h : IsHeldWrite m r k fan a ds) : IsFanout r k ds :=
  let ⟨t, l, b, e, _, hs⟩ := h; .inr ⟨a, t, l, b, e, hs⟩

/-- on which kind of record a clause is raised: `sound_end` speaks of all clauses with `srcOf c = .fin` at once -/
inductive Src where
  | mal | fan | upd | cache | tab | fin
deriving DecidableEq

def seenSrc : Seen → Src
  | .updated => .upd
  | .dump => .tab
  | .fin => .fin

def srcOf : Clause → Src
  | .malformed => .mal
  | .wrongKind | .disabled | .notConnected | .legacyStamped | .noSubscription | .badStamp | .wrongHandler | .twice
  | .fanNotEntitled | .fanBadStamp | .fanDropped => .fan
  | .lostWindow _ _ _ s => seenSrc s
  | .lostOverlap _ _ _ _ s => seenSrc s
  | .updAckWindow | .updMissed | .updRefused | .updNotSubscribed | .updTwice | .updMethod | .updOtherUri
  | .updLegacyStamped | .updBadStamp => .upd
  | .staleRead _ | .f7Stale | .staleCall | .hitAfterInvalidate => .cache
  | .closedMentioned | .ackTableWindow | .f19Registered | .ackedMissing | .refusedLeft | .foreignEntry => .tab
  | .endMixedRemove | .endMidFan | .endSkippedAck | .endF19 | .endSkipped | .endNoLost => .fin


/-- `r` is a ResourceUpdated(u) record whose notification names `v`, delivered to `ds` -/
def IsUpdated (r : Rec) (u v : Nat) (ds : List SDelivery) : Prop :=
  ∃ t l, r = ⟨.rupdated u v, .sent t l⟩ ∧ slotDeliveries l = some ds

theorem IsUpdated.loud {r : Rec} {u v : Nat} {ds : List SDelivery} (h : IsUpdated r u v ds) (i : Slot) : (quiet r || aside i r) = false := by
  obtain ⟨_, _, rfl, hs⟩ := h
  simp [quiet, aside, hs]

/-- the monitor reports `c` on the record that extends the trace `tr` -/
def Reports (tr : Trace) (r : Rec) (c : Clause) : Prop := monCheck (monAfter {} tr) r = some c

/-! ### what the monitor saw when it raises a clause

`Why m r c`: the shape of the record `r` and the fact about the monitor's state `m` that the check read off when it
answers `some c` (`monCheck_why`).  Clauses that differ only in the diagnosis they offer share their entry.  (`Why` is
reducible: once the clause is known, its entry is given and taken apart as the conjunction it is.) -/

def SawUnreached (m : MState) (r : Rec) : Prop :=
  ∃ u v ds j, IsUpdated r u v ds ∧ ((m.slots j).connected && (m.slots j).grantedU u) = true ∧ (ds.filter (·.slot == j)).length = 0

def SawUnwanted (m : MState) (r : Rec) : Prop :=
  ∃ u v ds j, IsUpdated r u v ds ∧ ((m.slots j).connected && (m.slots j).grantedU u) = false ∧ (ds.filter (·.slot == j)).length > 0

def SawStale (m : MState) (r : Rec) : Prop :=
  ∃ i key mode v hit, r = ⟨.list i key mode, .ret v hit⟩ ∧ v < (m.slots i).maxHandled key

def SawStaleHeld (m : MState) (r : Rec) : Prop :=
  ∃ i key v hit, r = ⟨.fill i key, .ret v hit⟩ ∧ v < (m.slots i).starts key

def SawTwiceHeld (m : MState) (r : Rec) : Prop :=
  ∃ k fan a ds x, IsHeldWrite m r k fan a ds ∧ x ∈ ds ∧ x.slot ∈ fan.served

def SawMissing (m : MState) (r : Rec) : Prop :=
  ∃ tb i, r = ⟨.tables, .tables tb⟩ ∧ (m.slots i).connected = true ∧ (kindMiss (m.slots i) tb i ≠ [] ∨ uriMiss (m.slots i) tb i ≠ [])

def SawForeign (m : MState) (r : Rec) : Prop :=
  ∃ tb i, r = ⟨.tables, .tables tb⟩ ∧ (m.slots i).connected = true ∧ (m.slots i).modern = true ∧
    ((∃ k, ∃ e ∈ tb.kind k, e.who = .slot i ∧ ¬ ∃ l ∈ (m.slots i).listens, k ∈ l.kinds ∧ e.tag = .id l.id) ∨
     (∃ u, u < 3 ∧ ∃ e ∈ tb.uri u, e.who = .slot i ∧ ¬ ∃ l ∈ (m.slots i).listens, u ∈ l.uris ∧ e.tag = .id l.id))

def SawUnpaid (m : MState) (r : Rec) : Prop :=
  ∃ obs i k, r = ⟨.fin, obs⟩ ∧ k ∈ (m.slots i).owed ∧ entitledNow (m.slots i) k = true

def sawLost (m : MState) (r : Rec) : Seen → Prop
  | .updated => SawUnreached m r
  | .dump => SawMissing m r
  | .fin => SawUnpaid m r

@[reducible] def Why (m : MState) (r : Rec) : Clause → Prop
  | .malformed =>
    (∃ k, r.op = .cbrun k ∧ r.obs ≠ .none_ ∧ ∀ t l ds, r.obs = .sent t l → slotDeliveries l ≠ some ds) ∨
    (∃ u v, r.op = .rupdated u v ∧ ∀ t l ds, r.obs = .sent t l → slotDeliveries l ≠ some ds)
  | .wrongKind => ∃ k ds x, IsFanout r k ds ∧ x ∈ ds ∧ x.meth ≠ .changed k
  | .disabled => ∃ k ds x, IsFanout r k ds ∧ x ∈ ds ∧ x.meth = .changed k ∧ m.cap k = .off
  | .notConnected => ∃ k ds x, IsFanout r k ds ∧ x ∈ ds ∧ (m.slots x.slot).connected = false
  | .legacyStamped => ∃ k ds x, IsFanout r k ds ∧ x ∈ ds ∧
      (m.slots x.slot).connected = true ∧ (m.slots x.slot).modern = false ∧ x.stamp ≠ .plain
  | .wrongHandler => ∃ k ds x, IsFanout r k ds ∧ x ∈ ds ∧ x.hk ≠ .none ∧ x.hk ≠ .kind k
  | .noSubscription => ∃ k ds x, IsComplete r k ds ∧ x ∈ ds ∧
      (m.slots x.slot).modern = true ∧ (m.slots x.slot).grantedK k = false
  | .badStamp => ∃ k ds x, IsComplete r k ds ∧ x ∈ ds ∧ (m.slots x.slot).modern = true ∧
      (m.slots x.slot).listens.any (fun l => Stamp.id l.id == x.stamp && l.kinds.contains k) = false
  | .twice =>
    (∃ k ds j, IsComplete r k ds ∧ (ds.filter (·.slot == j)).length > 1) ∨ SawTwiceHeld m r
  | .fanNotEntitled => ∃ k fan a ds x, IsHeldWrite m r k fan a ds ∧ x ∈ ds ∧ fan.expect.find? (·.1 == x.slot) = none
  | .fanBadStamp => ∃ k fan a ds x st, IsHeldWrite m r k fan a ds ∧ x ∈ ds ∧
      fan.expect.find? (·.1 == x.slot) = some (x.slot, st) ∧ x.stamp ∉ st
  | .fanDropped => ∃ k fan i, IsHeldWrite m r k fan (.slot i) [] ∧ (m.slots i).connected = true ∧
      fan.expect.any (·.1 == i) = true
  | .lostWindow _ _ _ s | .lostOverlap _ _ _ _ s => sawLost m r s
  | .updAckWindow | .updMissed => SawUnreached m r
  | .updRefused | .updNotSubscribed => SawUnwanted m r
  | .updTwice => ∃ u v ds j, IsUpdated r u v ds ∧ (ds.filter (·.slot == j)).length > 1
  | .updMethod => ∃ u v ds x, IsUpdated r u v ds ∧ x ∈ ds ∧ x.meth ≠ .updated
  | .updOtherUri => ∃ u v ds x, IsUpdated r u v ds ∧ x ∈ ds ∧ x.hk ≠ .uri v
  | .updLegacyStamped => ∃ u v ds x, IsUpdated r u v ds ∧ x ∈ ds ∧ (m.slots x.slot).modern = false ∧ x.stamp ≠ .plain
  | .updBadStamp => ∃ u v ds x, IsUpdated r u v ds ∧ x ∈ ds ∧ (m.slots x.slot).modern = true ∧
      (m.slots x.slot).listens.any (fun l => Stamp.id l.id == x.stamp && l.uris.contains u) = false
  | .staleRead _ | .f7Stale => SawStale m r
  | .staleCall => SawStale m r ∨ SawStaleHeld m r
  | .hitAfterInvalidate => ∃ i key mode v, r = ⟨.list i key mode, .ret v true⟩ ∧ (m.slots i).invalidated key = true
  | .closedMentioned => ∃ tb, r = ⟨.tables, .tables tb⟩ ∧ tbBad m tb = true
  | .ackTableWindow | .f19Registered | .ackedMissing => SawMissing m r
  | .refusedLeft | .foreignEntry => SawForeign m r
  | .endMixedRemove | .endMidFan | .endSkippedAck | .endF19 | .endSkipped | .endNoLost => SawUnpaid m r

theorem lost_why {m : MState} {r : Rec} {d : MSlot} {w : What} {s : Seen} {c : Clause} (h : d.lostClause w s = some c)
    (hs : sawLost m r s) : Why m r c := by
  simp only [MSlot.lostClause] at h
  split at h
  · cases h
  · split at h <;> (cases h; exact hs)

theorem cbDelivery_why {m : MState} {r : Rec} {k : Kind} {ds : List SDelivery} {x : SDelivery} {c : Clause}
    (hr : IsComplete r k ds) (hx : x ∈ ds) (h : cbDeliveryClause m k x = some c) : Why m r c := by
  have hf : IsFanout r k ds := .inl hr
  simp only [cbDeliveryClause] at h
  obtain ⟨h1, rfl⟩ | ⟨h1, h⟩ := ite_some_eq_some.1 h
  · exact ⟨k, ds, x, hf, hx, by simpa using h1⟩
  obtain ⟨h2, rfl⟩ | ⟨h2, h⟩ := ite_some_eq_some.1 h
  · exact ⟨k, ds, x, hf, hx, by simpa using h1, by simpa using h2⟩
  obtain ⟨h3, rfl⟩ | ⟨h3, h⟩ := ite_some_eq_some.1 h
  · exact ⟨k, ds, x, hf, hx, by simpa using h3⟩
  obtain ⟨h4, rfl⟩ | ⟨_, h⟩ := ite_some_eq_some.1 h
  · exact ⟨k, ds, x, hf, hx, by simpa using h3, by simpa using h4⟩
  obtain ⟨h5, rfl⟩ | ⟨_, h⟩ := ite_some_eq_some.1 h
  · exact ⟨k, ds, x, hr, hx, by simpa using h5⟩
  obtain ⟨h6, rfl⟩ | ⟨_, h⟩ := ite_some_eq_some.1 h
  · exact ⟨k, ds, x, hr, hx, by simpa using h6⟩
  obtain ⟨h7, rfl⟩ | ⟨_, h⟩ := ite_some_eq_some.1 h
  · exact ⟨k, ds, x, hf, hx, by simpa using h7⟩
  · cases h

theorem cbCheck_why {m : MState} {r : Rec} {k : Kind} {ds : List SDelivery} {c : Clause}
    (hr : IsComplete r k ds) (h : cbCheck m k ds = some c) : Why m r c := by
  rcases List.mem_append.1 (first_some h) with hm | hm
  · obtain ⟨x, hx, e⟩ := List.mem_map.1 hm
    exact cbDelivery_why hr hx e
  · obtain ⟨hd, rfl⟩ | ⟨_, e⟩ := ite_some_eq_some.1 (List.mem_singleton.1 hm).symm
    · obtain ⟨j, _, hj⟩ := List.any_eq_true.1 hd
      exact .inl ⟨k, ds, j, hr, by simpa using hj⟩
    · cases e

theorem fsDelivery_why {m : MState} {r : Rec} {k : Kind} {fan : MFan} {a : Who} {ds : List SDelivery} {x : SDelivery}
    {c : Clause} (hr : IsHeldWrite m r k fan a ds) (hx : x ∈ ds) (h : fsDeliveryClause m k fan x = some c) : Why m r c := by
  have hf := hr.fanout
  simp only [fsDeliveryClause] at h
  obtain ⟨h1, rfl⟩ | ⟨h1, h⟩ := ite_some_eq_some.1 h
  · exact ⟨k, ds, x, hf, hx, by simpa using h1⟩
  obtain ⟨h2, rfl⟩ | ⟨h2, h⟩ := ite_some_eq_some.1 h
  · exact ⟨k, ds, x, hf, hx, by simpa using h1, by simpa using h2⟩
  obtain ⟨h3, rfl⟩ | ⟨h3, h⟩ := ite_some_eq_some.1 h
  · exact ⟨k, ds, x, hf, hx, by simpa using h3⟩
  obtain ⟨h4, rfl⟩ | ⟨_, h⟩ := ite_some_eq_some.1 h
  · exact ⟨k, ds, x, hf, hx, by simpa using h3, by simpa using h4⟩
  split at h
  · cases h; exact ⟨k, fan, a, ds, x, hr, hx, ‹_›⟩
  · rename_i j st hfind
    obtain rfl : j = x.slot := by simpa using List.find?_some hfind
    obtain ⟨h5, rfl⟩ | ⟨_, h⟩ := ite_some_eq_some.1 h
    · exact ⟨k, fan, a, ds, x, st, hr, hx, hfind, by simpa using h5⟩
    obtain ⟨h6, rfl⟩ | ⟨_, h⟩ := ite_some_eq_some.1 h
    · exact .inr ⟨k, fan, a, ds, x, hr, hx, by simpa using h6⟩
    obtain ⟨h7, rfl⟩ | ⟨_, h⟩ := ite_some_eq_some.1 h
    · exact ⟨k, ds, x, hf, hx, by simpa using h7⟩
    · cases h

theorem fsCheck_why {m : MState} {r : Rec} {k : Kind} {fan : MFan} {a : Who} {ds : List SDelivery} {c : Clause}
    (hr : IsHeldWrite m r k fan a ds) (h : fsCheck m k fan a ds = some c) : Why m r c := by
  rcases List.mem_append.1 (first_some h) with hm | hm
  · obtain ⟨x, hx, e⟩ := List.mem_map.1 hm
    exact fsDelivery_why hr hx e
  · have hm := (List.mem_singleton.1 hm).symm
    cases a with
    | closed sid => cases hm
    | slot i =>
      obtain ⟨hd, rfl⟩ | ⟨_, e⟩ := ite_some_eq_some.1 hm
      · simp only [Bool.and_eq_true, List.isEmpty_iff] at hd
        obtain ⟨⟨rfl, h1⟩, h2⟩ := hd
        exact ⟨k, fan, i, hr, h1, h2⟩
      · cases e

theorem ruSlot_why {m : MState} {r : Rec} {u v : Nat} {ds : List SDelivery} {j : Slot} {c : Clause}
    (hr : IsUpdated r u v ds) (h : ruSlotClause m u ds j = some c) : Why m r c := by
  simp only [ruSlotClause] at h
  split at h
  · rename_i hw
    have hs : SawUnreached m r := ⟨u, v, ds, j, hr, by simpa using hw⟩
    split at h
    · rename_i hl; cases h; exact lost_why (s := .updated) hl hs
    · split at h <;> (cases h; exact hs)
  · split at h
    · rename_i hw
      simp only [Bool.and_eq_true, Bool.not_eq_true', decide_eq_true_eq] at hw
      have hs : SawUnwanted m r := ⟨u, v, ds, j, hr, hw⟩
      split at h <;> (cases h; exact hs)
    · obtain ⟨hn, rfl⟩ | ⟨_, e⟩ := ite_some_eq_some.1 h
      · exact ⟨u, v, ds, j, hr, by simpa using hn⟩
      · cases e

theorem ruDelivery_why {m : MState} {r : Rec} {u v : Nat} {ds : List SDelivery} {x : SDelivery} {c : Clause}
    (hr : IsUpdated r u v ds) (hx : x ∈ ds) (h : ruDeliveryClause m u v x = some c) : Why m r c := by
  simp only [ruDeliveryClause] at h
  obtain ⟨h1, rfl⟩ | ⟨_, h⟩ := ite_some_eq_some.1 h
  · exact ⟨u, v, ds, x, hr, hx, by simpa using h1⟩
  obtain ⟨h2, rfl⟩ | ⟨_, h⟩ := ite_some_eq_some.1 h
  · exact ⟨u, v, ds, x, hr, hx, by simpa using h2⟩
  obtain ⟨h3, rfl⟩ | ⟨_, h⟩ := ite_some_eq_some.1 h
  · exact ⟨u, v, ds, x, hr, hx, by simpa using h3⟩
  split at h
  · rename_i h4
    split at h
    · cases h
    · cases h; exact ⟨u, v, ds, x, hr, hx, by simpa using h4⟩
  · cases h

theorem ruCheck_why {m : MState} {r : Rec} {u v : Nat} {ds : List SDelivery} {c : Clause}
    (hr : IsUpdated r u v ds) (h : ruCheck m u v ds = some c) : Why m r c := by
  rcases List.mem_append.1 (first_some h) with hm | hm
  · obtain ⟨i, _, e⟩ := List.mem_map.1 hm
    exact ruSlot_why hr e
  · obtain ⟨x, hx, e⟩ := List.mem_map.1 hm
    exact ruDelivery_why hr hx e

theorem checkRet_why {m : MState} {i : Slot} {key : Key} {mode : Mode} {v : Nat} {hit : Bool} {c : Clause}
    (h : checkRet (m.slots i) key v hit ((m.slots i).maxHandled key) = some c) : Why m ⟨.list i key mode, .ret v hit⟩ c := by
  simp only [checkRet] at h
  split at h
  · have hs : SawStale m ⟨.list i key mode, .ret v hit⟩ := ⟨i, key, mode, v, hit, rfl, ‹_›⟩
    obtain ⟨_, rfl⟩ | ⟨_, h⟩ := ite_some_eq_some.1 h
    · exact hs
    obtain ⟨_, rfl⟩ | ⟨_, h⟩ := ite_some_eq_some.1 h
    · exact hs
    · cases h; exact .inl hs
  · obtain ⟨hc, rfl⟩ | ⟨_, e⟩ := ite_some_eq_some.1 h
    · simp only [Bool.and_eq_true] at hc
      obtain ⟨rfl, hi⟩ := hc
      exact ⟨i, key, mode, v, rfl, hi⟩
    · cases e

theorem tbMissing_why {m : MState} {tb : Tables} {i : Slot} {c : Clause} (h : tbMissing m tb i = some c) :
    Why m ⟨.tables, .tables tb⟩ c := by
  have saw : (kindMiss (m.slots i) tb i ≠ [] ∨ uriMiss (m.slots i) tb i ≠ []) → (m.slots i).connected = true →
      SawMissing m ⟨.tables, .tables tb⟩ := fun hm hc => ⟨tb, i, rfl, hc, hm⟩
  simp only [tbMissing] at h
  split at h
  · cases h
  · rename_i hc
    have hc : (m.slots i).connected = true := by simpa using hc
    split at h
    · rename_i hf
      cases h
      rcases List.mem_append.1 (first_some hf) with hm | hm
      · obtain ⟨k, hk, e⟩ := List.mem_map.1 hm
        exact lost_why e (saw (.inl (List.ne_nil_of_mem hk)) hc)
      · obtain ⟨u, hu, e⟩ := List.mem_map.1 hm
        exact lost_why e (saw (.inr (List.ne_nil_of_mem hu)) hc)
    · obtain ⟨hw, rfl⟩ | ⟨_, h⟩ := ite_some_eq_some.1 h
      · simp only [Bool.or_eq_true, Bool.and_eq_true, List.any_eq_true] at hw
        rcases hw with ⟨k, hk, _⟩ | ⟨_, u, hu, _⟩
        · exact saw (.inl (List.ne_nil_of_mem hk)) hc
        · exact saw (.inr (List.ne_nil_of_mem hu)) hc
      obtain ⟨hw, rfl⟩ | ⟨_, h⟩ := ite_some_eq_some.1 h
      · simp only [Bool.and_eq_true, Bool.not_eq_true', List.isEmpty_eq_false_iff] at hw
        exact saw (.inl hw.1) hc
      obtain ⟨hw, rfl⟩ | ⟨_, e⟩ := ite_some_eq_some.1 h
      · simp only [Bool.or_eq_true, Bool.not_eq_true', List.isEmpty_eq_false_iff] at hw
        exact saw hw hc
      · cases e

theorem tbForeign_why {m : MState} {tb : Tables} {i : Slot} {c : Clause} (h : tbForeign m tb i = some c) :
    Why m ⟨.tables, .tables tb⟩ c := by
  simp only [tbForeign] at h
  split at h
  · cases h
  · rename_i hc
    simp only [Bool.or_eq_true, not_or, Bool.not_eq_true', Bool.not_eq_false] at hc
    -- an entry of table `t` under a tag that no live listen granted `a` carries
    have bad : ∀ {α} [BEq α] [LawfulBEq α] (t : List TEntry) (g : MListen → List α) (a : α),
        t.any (fun e => e.who == .slot i && !(m.slots i).listens.any (fun l => (g l).contains a && e.tag == .id l.id)) = true →
        ∃ e ∈ t, e.who = .slot i ∧ ¬ ∃ l ∈ (m.slots i).listens, a ∈ g l ∧ e.tag = .id l.id := by
      intro α _ _ t g a ha
      obtain ⟨e, he, hp⟩ := List.any_eq_true.1 ha
      simp only [Bool.and_eq_true, beq_iff_eq, Bool.not_eq_true', List.any_eq_false] at hp
      refine ⟨e, he, hp.1, ?_⟩
      rintro ⟨l, hl, h3, h4⟩
      simpa [h3, h4] using hp.2 l hl
    have saw : ((∃ k, ∃ e ∈ tb.kind k, e.who = .slot i ∧ ¬ ∃ l ∈ (m.slots i).listens, k ∈ l.kinds ∧ e.tag = .id l.id) ∨
        (∃ u, u < 3 ∧ ∃ e ∈ tb.uri u, e.who = .slot i ∧ ¬ ∃ l ∈ (m.slots i).listens, u ∈ l.uris ∧ e.tag = .id l.id)) →
        SawForeign m ⟨.tables, .tables tb⟩ := fun hb => ⟨tb, i, rfl, by simpa using hc.1, by simpa using hc.2, hb⟩
    have badU : ∀ u, u ∈ (List.range 3).filter (fun u => (tb.uri u).any (fun e =>
        e.who == .slot i && !(m.slots i).listens.any (fun l => l.uris.contains u && e.tag == .id l.id))) →
        SawForeign m ⟨.tables, .tables tb⟩ := fun u hu =>
      saw (.inr ⟨u, by simpa using (List.mem_filter.1 hu).1, bad _ (·.uris) u (List.mem_filter.1 hu).2⟩)
    obtain ⟨hr, rfl⟩ | ⟨_, h⟩ := ite_some_eq_some.1 h
    · obtain ⟨u, hu, _⟩ := List.any_eq_true.1 hr
      exact badU u hu
    obtain ⟨hb, rfl⟩ | ⟨_, e⟩ := ite_some_eq_some.1 h
    · simp only [Bool.or_eq_true, Bool.not_eq_true', List.isEmpty_eq_false_iff] at hb
      rcases hb with hb | hb
      · obtain ⟨k, _, hk⟩ := List.any_eq_true.1 hb
        exact saw (.inl ⟨k, bad _ (·.kinds) k hk⟩)
      · obtain ⟨u, hu⟩ := List.exists_mem_of_ne_nil _ hb
        exact badU u hu
    · cases e

theorem tbCheck_why {m : MState} {tb : Tables} {c : Clause} (h : tbCheck m tb = some c) : Why m ⟨.tables, .tables tb⟩ c := by
  rcases List.mem_cons.1 (first_some h) with hm | hm
  · obtain ⟨hb, rfl⟩ | ⟨_, e⟩ := ite_some_eq_some.1 hm.symm
    · exact ⟨tb, rfl, hb⟩
    · cases e
  · rcases List.mem_append.1 hm with hm | hm
    · obtain ⟨i, _, e⟩ := List.mem_map.1 hm; exact tbMissing_why e
    · obtain ⟨i, _, e⟩ := List.mem_map.1 hm; exact tbForeign_why e

theorem endCheck_why {m : MState} {obs : Obs} {c : Clause} (h : endCheck m = some c) : Why m ⟨.fin, obs⟩ c := by
  obtain ⟨i, _, h⟩ := List.mem_map.1 (first_some h)
  simp only [endSlotClause] at h
  split at h
  · cases h
  · rename_i k hk
    have hk := List.find?_some hk
    simp only [Bool.and_eq_true] at hk
    have hs : SawUnpaid m ⟨.fin, obs⟩ := ⟨obs, i, k, rfl, by simpa using hk.1, hk.2⟩
    split at h
    · rename_i hl
      cases h
      split at hl
      · exact lost_why hl hs
      · cases hl
    · obtain ⟨_, rfl⟩ | ⟨_, h⟩ := ite_some_eq_some.1 h
      · exact hs
      obtain ⟨_, rfl⟩ | ⟨_, h⟩ := ite_some_eq_some.1 h
      · exact hs
      obtain ⟨_, rfl⟩ | ⟨_, h⟩ := ite_some_eq_some.1 h
      · exact hs
      obtain ⟨_, rfl⟩ | ⟨_, h⟩ := ite_some_eq_some.1 h
      · exact hs
      obtain ⟨_, rfl⟩ | ⟨_, h⟩ := ite_some_eq_some.1 h
      · exact hs
      · cases h; exact hs

/-- The cases of `monCheck` are taken by number (`h_1` … `h_11`, the order of its patterns). -/
theorem monCheck_why {m : MState} {r : Rec} {c : Clause} (h : monCheck m r = some c) : Why m r c := by
  obtain ⟨op, obs⟩ := r
  simp only [monCheck] at h
  split at h
  case h_1 | h_11 => cases h
  case h_2 k t l =>
    split at h
    · exact cbCheck_why ⟨t, l, rfl, ‹_›⟩ h
    · rename_i hs
      cases h
      exact .inl ⟨k, rfl, nofun, fun t' l' ds e => by cases e; rw [hs]; nofun⟩
  case h_3 k hnone hsent =>
    cases h
    exact .inl ⟨k, rfl, hnone, fun t l ds e => (hsent t l e).elim⟩
  case h_4 k a t l b =>
    split at h
    · exact fsCheck_why ⟨t, l, b, rfl, ‹_›, ‹_›⟩ h
    · cases h
  case h_5 u v t l =>
    split at h
    · exact ruCheck_why ⟨t, l, rfl, ‹_›⟩ h
    · rename_i hs
      cases h
      exact .inr ⟨u, v, rfl, fun t' l' ds e => by cases e; rw [hs]; nofun⟩
  case h_6 u v hsent =>
    cases h
    exact .inr ⟨u, v, rfl, fun t l ds e => (hsent t l e).elim⟩
  case h_7 => exact checkRet_why h
  case h_8 i key v hit =>
    obtain ⟨hlt, rfl⟩ | ⟨_, e⟩ := ite_some_eq_some.1 h
    · exact .inr ⟨i, key, v, hit, rfl, hlt⟩
    · cases e
  case h_9 => exact tbCheck_why h
  case h_10 => exact endCheck_why h

theorem fin_why {m : MState} {r : Rec} {c : Clause} (hc : srcOf c = .fin) (hw : Why m r c) : SawUnpaid m r := by
  cases c <;> first | exact hw | cases hc | (rename_i s; cases s <;> first | exact hw | cases hc)

end Notify.Sound
