import McpModel.Notify.BridgeStep
/-!
# Bridge: connect and close

The two ops that change the sessions of the server.  Both replace one slot of the model and of the monitor
(`Rel.slot_set`): a session with a new id enters a free slot, resp. the session of a slot goes.
-/
namespace Notify.Bridge
open Notify Notify.Mon Notify.Sys Generated.Notify

variable {seen : List Nat} {y : State} {m : MState}

theorem hello_bind {s : Server} {sid : Nat} (h : sid ∉ s.sessions.map Prod.fst) (modern : Bool) :
    hello (bind s sid) sid modern = { s with sessions := s.sessions ++ [(sid, genB modern)] } := by
  have hmap : s.sessions.map (fun p => if p.1 = sid then (sid, if modern then Gen.modern else Gen.legacy) else p) = s.sessions := by
    conv => rhs; rw [← List.map_id s.sessions]
    apply List.map_congr_left
    intro p hp
    have : p.1 ≠ sid := fun e => h (List.mem_map.2 ⟨p, hp, e⟩)
    simp [this]
  simp only [bind, h, hello, if_false]
  simp [hmap, genB]

theorem cacheRel_fresh (y : State) {d : DSlot} {md : MSlot} (hc : d.caches = freshCaches y) (hh : d.held = [])
    (m1 : md.maxHandled = fun _ => 0) (m2 : md.invalidated = fun _ => false) : CacheRel (curVersion y) d md := by
  constructor
  · intro _ o; rw [hc]; constructor <;> simp [freshCaches]
  · intro _ key; rw [hc]; rfl
  · intro _ key; rw [hc, m1]; rfl
  · intro _ key hk; rw [m2] at hk; simp at hk
  · intro _ o; rw [hc]; rfl
  · intro key; rw [hc, hh]; simp [freshCaches]
  · intro o; rw [hc]; simp [freshCaches]
  · intro _ key f hf; rw [hc] at hf; simp [freshCaches] at hf
  · intro key; rw [m1]; exact Nat.zero_le _
  · intro _ key f hf; rw [hc] at hf; simp [freshCaches] at hf

/-- Nothing on the server speaks of the fresh id yet (no listen, no legacy subscription, no outstanding write), so the new
slots are related as soon as they agree with each other. -/
theorem rel_connect (h : Rel seen y m) (i : Slot) (sid : Nat) (modern : Bool)
    (hu : (y.slots i).used = false) (hok : sid ∉ seen) {d' : DSlot}
    (d1 : d'.used = true) (d2 : d'.sid = sid) (d3 : d'.modern = modern)
    (d4 : d'.connected = !d'.gated) (d5 : d'.gated = true → d'.modern = true)
    (dc : CacheRel (curVersion y) d' { connected := true, modern := modern }) :
    Rel (sid :: seen)
      (({ y with srv := { y.srv with sessions := y.srv.sessions ++ [(sid, genB modern)] } } : State).setSlot i d')
      (m.setSlot i { connected := true, modern := modern }) := by
  have hS := h.srvOk.invS
  have hfresh := h.fresh_sid hok
  have hnol : ∀ l ∈ y.srv.listens, l.sid ≠ sid := fun l hl e => hok (e ▸ h.seen.sess _ (hS.listen_modern l hl))
  refine h.slot_set i (sid := sid) (fun hx => absurd (hu ▸ hx) (by simp))
    (fun j _ hj e => hok (e ▸ h.seen.sess _ (h.sess.used_sess j hj)))
    (by rw [← hello_bind hfresh]; exact (h.srvOk.step (.bind sid)).step (.hello sid modern))
    ⟨rfl, rfl, rfl, fun _ => rfl, fun p hp => ?_, fun _ _ => .rfl, fun _ _ => .rfl, fun _ _ hx => hx⟩
    h.lis.all_acked (fun _ => List.mem_cons_of_mem _) (fun _ _ _ => ⟨d1, List.mem_cons_self⟩) (fun _ => d2)
    ⟨d1.symm, fun hx => absurd (d1 ▸ hx) (by simp), fun _ => ⟨?_, d3.symm, d4, d5, fun ml => ?_, fun _ u => ?_, ?_, ?_, nofun, dc⟩⟩
    (fun _ => .inl fun k x hx e => hok (e ▸ h.seen.infl k x hx))
  · show p ∈ y.srv.sessions ++ [(sid, genB modern)] ↔ p ∈ y.srv.sessions
    rw [List.mem_append, List.mem_singleton]
    exact ⟨fun hx => hx.resolve_right fun e => hp (by rw [e]), Or.inl⟩
  · rw [d2, d3]; exact List.mem_append_right _ (List.mem_singleton.2 rfl)
  · exact ⟨nofun, fun ⟨l, hl, e, _⟩ => absurd (e.trans d2) (hnol l hl)⟩
  · exact ⟨nofun, fun hx => absurd (List.mem_map.2 ⟨_, ((hS.rlive_iff _ u).1 hx).1, d2⟩) hfresh⟩
  · rintro u ⟨l, hl, e, _⟩; exact absurd (e.trans d2) (hnol l hl)
  · intro _ l hl; exact d2 ▸ hnol l hl

theorem step_connect (h : Rel seen y m) (i : Slot) (sid : Nat) (modern : Bool) (mask : List Kind) (hint : Option Who)
    (hok : okOp seen y (.connect i sid modern mask)) : StepOk seen y m (.connect i sid modern mask) hint := by
  simp only [okOp] at hok
  show OkRes seen m _ (sysStep _ _ _)
  simp only [sysStep]
  apply OkRes.ite <;> intro hu
  · exact ⟨rfl, h.seen_cons sid⟩
  · rw [hello_bind (h.fresh_sid hok)]
    have key := rel_connect h i sid modern (by simpa using hu) hok
      (d' := { used := true, sid := sid, modern := modern, mask := mask, gated := modern && !mask.isEmpty,
               connected := !(modern && !mask.isEmpty),
               caches := freshCaches { y with srv := { y.srv with sessions := y.srv.sessions ++ [(sid, genB modern)] } } })
      rfl rfl rfl rfl (fun hg => (Bool.and_eq_true _ _ ▸ hg).1) (cacheRel_fresh _ rfl rfl rfl rfl)
    cases hg : (modern && !mask.isEmpty) <;> simp only [hg] at key ⊢ <;> exact ⟨rfl, key⟩

theorem only_close (s : Server) (sid : Nat) : Only sid s (close s sid) := by
  have keep : ∀ {α} (l : List α) (f : α → Nat) (a : α), f a ≠ sid → (a ∈ l.filter (fun x => f x != sid) ↔ a ∈ l) :=
    fun l f a hne => by rw [List.mem_filter]; exact ⟨fun hx => hx.1, fun hx => ⟨hx, by simpa using hne⟩⟩
  exact ⟨rfl, rfl, rfl, fun _ => rfl, fun p => keep _ Prod.fst p, fun l => keep _ Listen.sid l, fun p => keep _ Prod.fst p,
    fun p hp => (keep _ Prod.fst p hp).2⟩

theorem rel_close (h : Rel seen y m) (i : Slot) (hu : (y.slots i).used = true) :
    Rel seen (({ y with srv := close y.srv (y.slots i).sid } : State).setSlot i {})
      { (m.setSlot i {}) with fans := fun k => (m.fans k).map (fun f =>
          { f with expect := f.expect.filter (·.1 != i), served := f.served.filter (· != i) }) } := by
  have hgone : ∀ {α} (l : List α) (f : α → Nat) (a : α), a ∈ l.filter (fun x => f x != (y.slots i).sid) →
      f a ≠ (y.slots i).sid := fun l f a hx => by simpa using (List.mem_filter.1 hx).2
  refine Rel.fans_forget (h.slot_set i (d' := {}) (md' := {}) (fun _ => rfl) (fun j e hj e2 => e (h.sess.sid_inj j i hj hu e2))
    (h.srvOk.step (.close _)) (only_close _ _) (fun l hl => ?_) (fun _ hx => hx)
    (fun p hp e => absurd e (hgone _ Prod.fst p hp)) nofun ⟨rfl, fun _ => ⟨rfl, rfl, rfl⟩, nofun⟩ nofun) i
    (congrArg DSlot.used (setSlot_slots_same _ i {}))
  have := h.lis.all_acked l (List.mem_filter.1 hl).1
  exact ⟨List.mem_filter.2 ⟨this.1, by simpa using hgone _ Listen.sid l hl⟩, this.2⟩

theorem step_close (h : Rel seen y m) (i : Slot) (hint : Option Who) : StepOk seen y m (.close i) hint := by
  show OkRes seen m _ (sysStep _ _ _)
  simp only [sysStep]
  apply OkRes.ite <;> intro hg
  · exact ⟨rfl, h⟩
  · simp only [Bool.or_eq_true, not_or, Bool.not_eq_true', Bool.not_eq_false] at hg
    have hu : (y.slots i).used = true := hg.1.1.1.1
    exact ⟨rfl, rel_close h i hu⟩

end Notify.Bridge
