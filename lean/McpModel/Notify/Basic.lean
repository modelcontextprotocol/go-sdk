/-
E14 — vocabulary shared by the hand-written model and the REGENERATED tables
(`Generated/NotifyGen.lean` imports this file, the model imports the generated file).
Core Lean only (linked into the driver).
-/
namespace Notify

/-- The three list-changed notification kinds (keys of `Server.pendingNotifications`). -/
inductive Kind where
  | tools | prompts | resources
deriving DecidableEq, Repr

/-- The four feature sets of a `Server` (`tools`, `prompts`, `resources`, `resourceTemplates`). -/
inductive FSet where
  | tools | prompts | resources | templates
deriving DecidableEq, Repr

/-- The five `methodCache`s of a `ClientSession`. -/
inductive CacheObj where
  | tools | prompts | resources | templates | read
deriving DecidableEq, Repr

def Kind.all : List Kind := [.tools, .prompts, .resources]
def FSet.all : List FSet := [.tools, .prompts, .resources, .templates]
def CacheObj.all : List CacheObj := [.tools, .prompts, .resources, .templates, .read]

theorem Kind.mem_all (k : Kind) : k ∈ Kind.all := by cases k <;> simp [Kind.all]

def Kind.name : Kind → String
  | .tools => "tools" | .prompts => "prompts" | .resources => "resources"
def FSet.name : FSet → String
  | .tools => "tools" | .prompts => "prompts" | .resources => "resources" | .templates => "templates"
def CacheObj.name : CacheObj → String
  | .tools => "tools" | .prompts => "prompts" | .resources => "resources" | .templates => "templates"
  | .read => "read"

def FSet.cache : FSet → CacheObj
  | .tools => .tools | .prompts => .prompts | .resources => .resources | .templates => .templates

end Notify
