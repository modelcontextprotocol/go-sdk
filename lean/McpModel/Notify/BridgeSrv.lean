import McpModel.Notify.BridgeInv
import McpModel.Notify.InvN
/-!
# Bridge: what the ops of the harness do to the server model

Every op of `sysStep` moves the server by labels of `Notify.step`, so reachability and the invariants `InvT`, `InvS`,
`InvA` carry over (`SrvOk.step`).  Which fields an op leaves alone is said in one of three shapes: `SameRest` and `SameAll` are
read off the write table of the labels (`Writes.sameRest`, `Writes.sameAll`), `SameButInfl` (a write of a fan-out) is shown
field by field where `deliver` is (`deliver_spec`).  The loops of `sysStep` go by their own induction (`fireDue_ind`).
-/
namespace Notify.Bridge
open Notify Notify.Mon Notify.Sys Generated.Notify

def SrvOk (s : Server) : Prop := ∃ cap, Reach cap s

/-- `(step s l).1` unfolds to the function of the label, so this covers every op that is one label -/
theorem SrvOk.step {s : Server} (h : SrvOk s) (l : Label) : SrvOk (step s l).1 := by
  obtain ⟨cap, hr⟩ := h
  exact ⟨cap, Reach.step l hr⟩

theorem SrvOk.invT {s : Server} (h : SrvOk s) : InvT s := by
  obtain ⟨cap, hr⟩ := h; exact (reach_inv hr).1
theorem SrvOk.invS {s : Server} (h : SrvOk s) : InvS s := by
  obtain ⟨cap, hr⟩ := h; exact (reach_inv hr).2
theorem SrvOk.invA {s : Server} (h : SrvOk s) : InvA s := by
  obtain ⟨cap, hr⟩ := h; exact reach_invA hr

theorem SrvOk.invN {s : Server} (h : SrvOk s) : InvN s := by
  obtain ⟨cap, hr⟩ := h; exact reach_invN hr

theorem srvOk_init (cap : Kind → Cap) : SrvOk (init cap) := ⟨cap, Reach.init⟩

/-- everything the relation reads besides `listens`, `acked` and `rlive` is the same -/
structure SameRest (s s' : Server) : Prop where
  cap : s'.cap = s.cap
  ver : s'.ver = s.ver
  cnt : s'.cnt = s.cnt
  sessions : s'.sessions = s.sessions
  owed : s'.owed = s.owed
  infl : ∀ k, (s'.ks k).inflight = (s.ks k).inflight

theorem SameRest.refl (s : Server) : SameRest s s := ⟨rfl, rfl, rfl, rfl, rfl, fun _ => rfl⟩

theorem SameRest.trans {a b c : Server} (h1 : SameRest a b) (h2 : SameRest b c) : SameRest a c :=
  ⟨h2.cap.trans h1.cap, h2.ver.trans h1.ver, h2.cnt.trans h1.cnt, h2.sessions.trans h1.sessions,
   h2.owed.trans h1.owed, fun k => (h2.infl k).trans (h1.infl k)⟩

/-- everything the relation reads of the server is the same (timers and the clock may differ) -/
structure SameAll (s s' : Server) : Prop where
  rest : SameRest s s'
  listens : s'.listens = s.listens
  acked : s'.acked = s.acked
  rlive : s'.rlive = s.rlive

theorem SameAll.refl (s : Server) : SameAll s s := ⟨SameRest.refl s, rfl, rfl, rfl⟩
theorem SameAll.trans {a b c : Server} (h1 : SameAll a b) (h2 : SameAll b c) : SameAll a c :=
  ⟨h1.rest.trans h2.rest, h2.listens.trans h1.listens, h2.acked.trans h1.acked, h2.rlive.trans h1.rlive⟩

/-- what a write of a fan-out leaves alone: all that the relation reads but the outstanding writes -/
structure SameButInfl (s s' : Server) : Prop where
  cap : s'.cap = s.cap
  ver : s'.ver = s.ver
  cnt : s'.cnt = s.cnt
  sessions : s'.sessions = s.sessions
  owed : s'.owed = s.owed
  listens : s'.listens = s.listens
  acked : s'.acked = s.acked
  rlive : s'.rlive = s.rlive

theorem SameButInfl.refl (s : Server) : SameButInfl s s := ⟨rfl, rfl, rfl, rfl, rfl, rfl, rfl, rfl⟩
theorem SameButInfl.trans {a b c : Server} (h1 : SameButInfl a b) (h2 : SameButInfl b c) : SameButInfl a c :=
  ⟨h2.cap.trans h1.cap, h2.ver.trans h1.ver, h2.cnt.trans h1.cnt, h2.sessions.trans h1.sessions, h2.owed.trans h1.owed,
   h2.listens.trans h1.listens, h2.acked.trans h1.acked, h2.rlive.trans h1.rlive⟩

/-- for a label `l` that writes none of the parts named: `(step_writes s l).sameRest rfl` -/
theorem _root_.Notify.Writes.sameRest {w : List Field} {s s' : Server} (h : Writes w s s')
    (hw : [Field.ver, .cnt, .sessions, .owed, .inflight].all (fun f => !w.contains f) = true) : SameRest s s' := by
  simp only [List.all_cons, List.all_nil, Bool.and_true, Bool.and_eq_true, Bool.not_eq_true'] at hw
  exact ⟨h.1, h.2 .ver hw.1, h.2 .cnt hw.2.1, h.2 .sessions hw.2.2.1, h.2 .owed hw.2.2.2.1, h.2 .inflight hw.2.2.2.2⟩

theorem _root_.Notify.Writes.sameAll {w : List Field} {s s' : Server} (h : Writes w s s')
    (hw : [Field.ver, .cnt, .sessions, .owed, .inflight, .listens, .acked, .rlive].all (fun f => !w.contains f) = true) :
    SameAll s s' := by
  simp only [List.all_cons, List.all_nil, Bool.and_true, Bool.and_eq_true, Bool.not_eq_true'] at hw
  exact ⟨⟨h.1, h.2 .ver hw.1, h.2 .cnt hw.2.1, h.2 .sessions hw.2.2.1, h.2 .owed hw.2.2.2.1, h.2 .inflight hw.2.2.2.2.1⟩,
    h.2 .listens hw.2.2.2.2.2.1, h.2 .acked hw.2.2.2.2.2.2.1, h.2 .rlive hw.2.2.2.2.2.2.2⟩

theorem fireOrphansDue_ind (P : Server → Prop) (hO : ∀ s k i, P s → P (fireOrphan s k i)) (k : Kind) (fuel : Nat) :
    ∀ (s : Server) (acc : List Nat), P s → P (fireOrphansDue k fuel s acc).1 := by
  induction fuel with
  | zero => intro s acc h; exact h
  | succ n ih =>
    intro s acc h
    simp only [fireOrphansDue]
    split
    · exact ih _ _ (hO _ _ _ h)
    · exact h

theorem fireDue_ind (P : Server → Prop) (hT : ∀ s k, P s → P (fireTracked s k))
    (hO : ∀ s k i, P s → P (fireOrphan s k i)) {s : Server} (h : P s) : P (fireDue s).1 := by
  unfold fireDue
  refine List.foldlRecOn (motive := fun acc : Server × _ => P acc.1) _ _ h fun acc hacc k _ => ?_
  simp only []
  split
  · split
    · exact fireOrphansDue_ind P hO k _ _ _ (hT _ _ hacc)
    · exact fireOrphansDue_ind P hO k _ _ _ hacc
  · exact fireOrphansDue_ind P hO k _ _ _ hacc

theorem srvOk_fireDue {s : Server} (h : SrvOk s) : SrvOk (fireDue s).1 :=
  fireDue_ind SrvOk (fun _ k h => h.step (.fireTracked k)) (fun _ k i h => h.step (.fireOrphan k i)) h

theorem srvOk_deliverFrom (k : Kind) (old : Nat) (n : Nat) : ∀ (s : Server) (acc : List Send), SrvOk s →
    SrvOk (deliverFrom s k old n acc).1 := by
  induction n with
  | zero => intro s acc h; exact h
  | succ n ih =>
    intro s acc h
    simp only [deliverFrom]
    exact ih _ _ (h.step (.deliver k old))

theorem srvOk_listenOrRefuse {y : State} (h : SrvOk y.srv) (sid id ks us) :
    SrvOk (listenOrRefuse y sid id ks us).1 := by
  simp only [listenOrRefuse]
  split
  · exact h.step (.listenRefused _ _ _ _ _)
  · exact (h.step (.listen _ _ _ _)).step (.listenAck _ _)

end Notify.Bridge
