import McpModel.Notify.BridgeFan
import McpModel.Notify.BridgeStep
import McpModel.Notify.BridgeHandle
/-!
# Bridge: `cbrun` (a complete fan-out)

Snapshot and all its writes in one op.  An entitled session in debt is in the snapshot, so the monitor finds nobody
skipped; every slot written to handles the notification once, and a debt of the kind that is left is cleared on both
sides.
-/
namespace Notify.Bridge
open Notify Notify.Mon Notify.Sys Generated.Notify
variable {seen : List Nat} {y : State} {m : MState}

theorem mkChanged_who (k : Kind) (i : Slot) (d : DSlot) (x : Send) : (mkChanged k (.slot i) d x).who = .slot i := rfl

theorem deliverChanged_spec (h : Rel seen y m) (s1 : Server) (k : Kind) (to : List Send)
    (hslot : ∀ x ∈ to, ∃ i, (y.slots i).used = true ∧ (y.slots i).sid = x.sid) (hnd : (to.map Send.sid).Nodup) :
    ∃ ds', (deliverChanged { y with srv := s1 } k to).1.srv = s1 ∧
      (deliverChanged { y with srv := s1 } k to).1.content = y.content ∧
      slotDeliveries (deliverChanged { y with srv := s1 } k to).2 = some ds' ∧
      (∀ i, (deliverChanged { y with srv := s1 } k to).1.slots i =
        if ds'.any (·.slot == i) = true then clientHandleChanged (y.slots i) k else y.slots i) ∧
      (∀ i, ds'.any (·.slot == i) = true ↔ ((y.slots i).used = true ∧ (y.slots i).sid ∈ to.map Send.sid)) ∧
      (∀ i, (ds'.filter (·.slot == i)).length ≤ 1) ∧
      (∀ sd ∈ ds', ∃ x ∈ to, (y.slots sd.slot).used = true ∧ (y.slots sd.slot).sid = x.sid ∧
        sd.meth = .changed k ∧ sd.stamp = stampOf x.stamp ∧ (sd.hk = .none ∨ sd.hk = .kind k)) := by
  obtain ⟨f1, f2, f3, ds', f4, f5, f6, f7⟩ := fanout_spec (clientHandleChanged · k) (mkChanged k) (keepsId_changed k)
    (mkChanged_who k) ({ y with srv := s1 } : State) to h.sess.sid_inj hslot hnd
  refine ⟨ds', f1, f2, f4, fun i => ?_, f6, f7, fun sd hsd => ?_⟩
  · refine (f3 i).trans ?_
    by_cases hg : ds'.any (·.slot == i) = true
    · rw [if_pos hg, if_pos ((f6 i).1 hg)]
    · rw [if_neg hg, if_neg (fun hc => hg ((f6 i).2 hc))]
  · obtain ⟨x, hx, hu, hs, e1, e2, e3⟩ := f5 sd hsd
    refine ⟨x, hx, hu, hs, e1, e2, ?_⟩
    rw [e3]; simp only [mkChanged]; split
    · exact Or.inr rfl
    · exact Or.inl rfl

theorem ifChanged_same {ds' : List SDelivery} {i : Slot} {k : Kind} {d d' : DSlot}
    (e : d' = if ds'.any (·.slot == i) = true then clientHandleChanged d k else d) : DSame d d' := by
  rw [e]; split
  · exact clientHandleChanged_same _ _
  · exact DSame.refl _

theorem cb_delivery_ok (h : Rel seen y m) (k : Kind) (hg : gateSend y.srv k = true) (sd : SDelivery) (x : Send)
    (hx : x ∈ sendList y.srv k) (hu : (y.slots sd.slot).used = true) (hs : (y.slots sd.slot).sid = x.sid)
    (h1 : sd.meth = .changed k) (h2 : sd.stamp = stampOf x.stamp) (h3 : sd.hk = .none ∨ sd.hk = .kind k) :
    cbDeliveryClause m k sd = none := by
  obtain ⟨s1, s2, s3⟩ := sendList_stamp h sd.slot hu k x hx hs
  have hmod := h.sess.modern sd.slot hu
  simp only [cbDeliveryClause, ite_some_eq_none, and_true]
  refine ⟨by simp [h1], ?_, ?_, ?_, ?_, ?_, ?_⟩
  · rw [h.g.cap]; rw [gateSend_cap] at hg; simpa using hg
  · rw [h.sess.conn, hu]; decide
  · rw [hmod]
    cases hm : (y.slots sd.slot).modern
    · rw [h2, s1 hm]; decide
    · simp
  · rw [hmod]
    cases hm : (y.slots sd.slot).modern
    · simp
    · obtain ⟨ml, hml, _, e2⟩ := s3 hm
      simp only [MSlot.grantedK, Bool.true_and, Bool.not_eq_true', Bool.not_eq_false, List.any_eq_true]
      exact ⟨ml, hml, by simpa using e2⟩
  · rw [hmod]
    cases hm : (y.slots sd.slot).modern
    · simp
    · obtain ⟨ml, hml, e1, e2⟩ := s3 hm
      simp only [Bool.true_and, Bool.not_eq_true', Bool.not_eq_false, List.any_eq_true]
      exact ⟨ml, hml, by rw [h2, ← e1]; simpa using e2⟩
  · rcases h3 with h3 | h3 <;> simp [h3]
theorem step_cbrun (h : Rel seen y m) (k : Kind) (hint : Option Who) : StepOk seen y m (.cbrun k) hint := by
  show OkRes seen m _ (sysStep _ _ _)
  simp only [sysStep]
  by_cases hp : (y.srv.ks k).pending = 0
  · rw [cbrun_none _ _ hp]
    exact ⟨rfl, h⟩
  · obtain ⟨c0, c1, c2, c3, c4, c5, c6, c7, c8, c9⟩ := cbrun_spec y.srv k hp
    rw [c0]
    simp only []
    have hS := h.srvOk.invS
    have hN := h.srvOk.invN
    have hT := h.srvOk.invT
    have hgate := hT.gate_of_busy fun e => hp e.2.2
    obtain ⟨sl1, sl2, sl3⟩ := sendList_spec hS hN k
    have df := deliverFrom_spec k (y.srv.ks k).inflight (sendList y.srv k) (cbrun y.srv k).1 []
      (by rw [c5 k, if_pos rfl]) (by intro x hx; rw [c9]; exact sendList_sess hS hN k x hx)
    obtain ⟨r, hr⟩ : ∃ r, r = deliverFrom (cbrun y.srv k).1 k (y.srv.ks k).inflight.length (sendList y.srv k).length [] := ⟨_, rfl⟩
    rw [← hr] at df ⊢
    obtain ⟨d1, d2, d3, d4⟩ := df
    simp only [List.nil_append] at d1
    rw [d1]
    have hinfl : ∀ k', (r.1.ks k').inflight = (y.srv.ks k').inflight := by
      intro k'
      by_cases e : k' = k
      · subst e; exact d2
      · rw [d3 k' e, c5 k', if_neg e]
    have hok : SrvOk r.1 := by
      rw [hr]; exact srvOk_deliverFrom k _ _ _ _ (h.srvOk.step (.cbrun k))
    have hslot : ∀ x ∈ sendList y.srv k, ∃ i, (y.slots i).used = true ∧ (y.slots i).sid = x.sid :=
      fun x hx => h.sess.slot_of_sid (sendList_sess hS hN k x hx)
    obtain ⟨ds', f1', f2', f4, f3', f6, f7, f5⟩ := deliverChanged_spec h r.1 k (sendList y.srv k) hslot sl1
    obtain ⟨yy, hyy⟩ : ∃ yy, yy = deliverChanged { y with srv := r.1 } k (sendList y.srv k) := ⟨_, rfl⟩
    rw [← hyy] at f1' f2' f3' f4 ⊢
    have hslotsB : ∀ i, DSame (y.slots i) (yy.1.slots i) := fun i => ifChanged_same (f3' i)
    have hgot : ∀ i, (y.slots i).used = true → entitledNow (m.slots i) k = true → ds'.any (·.slot == i) = true := by
      intro i hu he
      exact (f6 i).2 ⟨hu, (sl3 _).2 ((entitledNow_iff h i hu k).1 he)⟩
    refine ⟨?_, ?_⟩
    · show monCheck m ⟨.cbrun k, .sent y.srv.now yy.2⟩ = none
      simp only [monCheck, f4, cbCheck]
      rw [first_eq_none]
      intro c hc
      rcases List.mem_append.1 hc with hc | hc
      · obtain ⟨sd, hsd, rfl⟩ := List.mem_map.1 hc
        obtain ⟨x, hx, hu, hs, e1, e2, e3⟩ := f5 sd hsd
        exact cb_delivery_ok h k hgate sd x hx hu hs e1 e2 e3
      · simp only [List.mem_singleton] at hc
        rw [hc]
        have : Slot.all.any (fun i => decide ((ds'.filter (·.slot == i)).length > 1)) = false := by
          rw [List.any_eq_false]
          intro i _
          have := f7 i
          simp only [decide_eq_true_eq]
          omega
        simp only [this, Bool.false_eq_true, if_false]
    · show Rel seen yy.1 (monNext m ⟨.cbrun k, .sent y.srv.now yy.2⟩)
      simp only [monNext, f4]
      have hcb : ∀ i, MSame (if ds'.any (·.slot == i) = true then gotChanged m k (m.slots i)
          else { (m.slots i) with owed := (m.slots i).owed.filter (· != k) }) ((cbNext m k ds').slots i) := by
        intro i
        refine MSame.trans ?_ (Sound.keepsAll_cbNext m k ds' i).msame
        by_cases hr : ds'.any (·.slot == i) = true
        · rw [if_pos hr, if_pos hr]; exact MSame.refl _
        · have : ¬ ((m.slots i).owed.contains k && entitledNow (m.slots i) k) = true := fun ho => by
            simp only [Bool.and_eq_true] at ho
            have hc : (m.slots i).connected = true := by
              have := ho.2
              simp only [entitledNow, Bool.and_eq_true] at this
              exact this.1
            exact hr (hgot i ((h.sess.conn i).symm.trans hc) ho.2)
          rw [if_neg hr, if_neg hr, if_neg this]; exact MSame.refl _
      have hsrv : SameButInfl (cbrun y.srv k).1 yy.1.srv := f1' ▸ d4
      have hfor : ∀ sid, SameFor sid y.srv yy.1.srv :=
        .of_eq (hsrv.sessions.trans c9) (hsrv.listens.trans c1) (hsrv.rlive.trans c3)
      refine h.rows (y' := yy.1) (by rw [f1']; exact hok) (hsrv.sessions.trans c9) (hsrv.listens.trans c1) (hsrv.acked.trans c2)
        ⟨h.g.cap.trans (hsrv.cap.trans c6).symm, h.g.ver.trans (hsrv.ver.trans c7).symm, h.g.cnt.trans (hsrv.cnt.trans c8).symm,
          h.g.content.trans f2'.symm⟩ (fun j => (hslotsB j).toId) (fun j r => ?_)
        fun k' => (h.kind k').frame (by rw [f1']; exact hinfl k') rfl (hsrv.cap.trans c6)
      refine SlotRel.msame ?_ (hcb j)
      rw [f3' j, curVersion_congr (hsrv.ver.trans c7) f2']
      have hb : ∀ k0 ∈ (m.slots j).owed, (y.slots j).used = true → k0 ≠ k → Backed yy.1.srv (y.slots j).sid k0 := by
        intro k0 hk0 hu hne
        show (_, k0) ∈ yy.1.srv.owed ∨ ∃ x ∈ (yy.1.srv.ks k0).inflight, _
        rw [hsrv.owed, c4, f1', hinfl]
        exact ((h.row j hu).owed k0 hk0).imp_left fun ho => List.mem_filter.2 ⟨ho, by simpa using hne⟩
      split
      · exact r.changed (hfor _) m k rfl (verOfKey_cur h) fun hu k0 hk0 hne => hb k0 hk0 hu hne
      · exact r.move (hfor _) (DSame.refl _) ⟨rfl, rfl, rfl, rfl⟩ (fun _ k0 hk0 => (List.mem_filter.1 hk0).1)
          (fun hu k0 hk0 => hb k0 (List.mem_filter.1 hk0).1 hu (by simpa using (List.mem_filter.1 hk0).2))
          fun _ hc => hc.congr rfl rfl rfl rfl rfl rfl
end Notify.Bridge
