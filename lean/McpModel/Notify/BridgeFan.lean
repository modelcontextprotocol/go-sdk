import McpModel.Notify.BridgeRow
/-!
# Bridge: the snapshot of a fan-out against the slots the monitor expects

Who is in the snapshot of `notifySessions(k)` (`sendList_spec`, `cbrun_spec`) is who the monitor counts as entitled
(`entitledNow_iff`; `grantedU_iff` for a ResourceUpdated), and the stamp of each member is one the monitor accepts for
its slot (`sendList_stamp`, `fanExpect_find`).
-/
namespace Notify.Bridge
open Notify Notify.Mon Notify.Sys Generated.Notify
variable {seen : List Nat} {y : State} {m : MState}

theorem sendList_spec {s : Server} (hS : InvS s) (hN : InvN s) (k : Kind) :
    ((sendList s k).map Send.sid).Nodup ∧
    (∀ x ∈ sendList s k,
      (x.stamp = none ∧ ∃ g, (x.sid, g) ∈ s.sessions ∧ g ≠ Gen.modern) ∨
      (∃ id, x.stamp = some id ∧ (x.sid, Gen.modern) ∈ s.sessions ∧
        ∃ l ∈ s.listens, l.sid = x.sid ∧ l.id = id ∧ k ∈ l.kinds)) ∧
    (∀ sid, sid ∈ (sendList s k).map Send.sid ↔ entitled s sid k) := by
  obtain ⟨hmem, hent⟩ := sendList_mem hS k
  refine ⟨?_, hmem, fun sid => ⟨?_, hent sid⟩⟩
  · simp only [sendList, List.map_append]
    rw [List.nodup_append]
    refine ⟨?_, ?_, ?_⟩
    · have : (legacyRecips s).map Send.sid = (s.sessions.filter (fun p => p.2 != .modern)).map Prod.fst := by
        simp only [legacyRecips, List.map_map]; rfl
      rw [this]
      exact (List.Sublist.map _ List.filter_sublist).nodup hS.sess_nodup
    · have : (subRecips s k).map Send.sid = ((s.ks k).subs).map Prod.fst := by
        simp only [subRecips, subsTable_diag, List.map_map]; rfl
      rw [this]
      exact hN k
    · intro a ha b hb e
      obtain ⟨x, hx, rfl⟩ := List.mem_map.1 ha
      obtain ⟨z, hz, rfl⟩ := List.mem_map.1 hb
      obtain ⟨g, hg, hne, _⟩ := mem_legacyRecips.1 hx
      rcases hmem z (List.mem_append_right _ hz) with ⟨hst, _⟩ | ⟨_, _, hm, _⟩
      · obtain ⟨id, _, hst'⟩ := mem_subRecips.1 hz
        rw [hst] at hst'; cases hst'
      · exact hne (gen_unique hS.sess_nodup (e ▸ hg) hm)
  · intro hm
    obtain ⟨x, hx, rfl⟩ := List.mem_map.1 hm
    rcases hmem x hx with ⟨_, g, hg, hne⟩ | ⟨id, _, _, l, hl, h1, _, h3⟩
    · exact .inl ⟨g, hg, hne⟩
    · exact .inr ⟨l, hl, h1, h3⟩

theorem sendList_sess {s : Server} (hS : InvS s) (hN : InvN s) (k : Kind) (x : Send) (hx : x ∈ sendList s k) :
    x.sid ∈ s.sessions.map Prod.fst := by
  rcases (sendList_spec hS hN k).2.1 x hx with ⟨_, g, hg, _⟩ | ⟨_, _, hg, _⟩
  · exact List.mem_map.2 ⟨_, hg, rfl⟩
  · exact List.mem_map.2 ⟨_, hg, rfl⟩

theorem cbrun_spec (s : Server) (k : Kind) (hp : (s.ks k).pending ≠ 0) :
    (cbrun s k).2 = [.changed k (sendList s k)] ∧
    (cbrun s k).1.listens = s.listens ∧ (cbrun s k).1.acked = s.acked ∧ (cbrun s k).1.rlive = s.rlive ∧
    (cbrun s k).1.owed = s.owed.filter (fun p => p.2 != k) ∧
    (∀ k', ((cbrun s k).1.ks k').inflight = if k' = k then (s.ks k).inflight ++ sendList s k else (s.ks k').inflight) ∧
    (cbrun s k).1.cap = s.cap ∧ (cbrun s k).1.ver = s.ver ∧ (cbrun s k).1.cnt = s.cnt ∧
    (cbrun s k).1.sessions = s.sessions := by
  simp only [cbrun, hp, if_false]
  refine ⟨?_, ?_, ?_, ?_, ?_, ?_, ?_, ?_, ?_, ?_⟩ <;> first | rfl | trivial | skip
  intro k'; simp only [setK]; split
  · rename_i e; subst e; rfl
  · rfl

theorem cbrun_none (s : Server) (k : Kind) (hp : (s.ks k).pending = 0) : cbrun s k = (s, []) := by
  simp only [cbrun, hp, if_true]

theorem listens_any_iff (h : Rel seen y m) (i : Slot) (hu : (y.slots i).used = true) (p : MListen → Bool) :
    (m.slots i).listens.any p = true ↔ ∃ l ∈ y.srv.listens, l.sid = (y.slots i).sid ∧ p (toM l) = true := by
  rw [List.any_eq_true]
  constructor
  · rintro ⟨ml, hml, hp⟩
    obtain ⟨l, hl, e1, rfl⟩ := (h.lis.listens i hu ml).1 hml
    exact ⟨l, hl, e1, hp⟩
  · rintro ⟨l, hl, e1, hp⟩
    exact ⟨toM l, (h.lis.listens i hu _).2 ⟨l, hl, e1, rfl⟩, hp⟩

theorem entitledNow_iff (h : Rel seen y m) (i : Slot) (hu : (y.slots i).used = true) (k : Kind) :
    entitledNow (m.slots i) k = true ↔ entitled y.srv (y.slots i).sid k := by
  have hgen := h.sess.used_sess i hu
  simp only [entitledNow, h.sess.conn i, hu, Bool.true_and, h.sess.modern i hu]
  cases hm : (y.slots i).modern with
  | false =>
    rw [hm] at hgen
    simp only [Bool.not_false, Bool.true_or, true_iff]
    exact Or.inl ⟨Gen.legacy, hgen, by simp⟩
  | true =>
    rw [hm] at hgen
    simp only [Bool.not_true, Bool.false_or, MSlot.grantedK, listens_any_iff h i hu, toM, List.contains_iff_mem]
    exact ⟨Or.inr, fun hx => hx.resolve_left fun ⟨g, hg, hne⟩ => hne (gen_unique h.srvOk.invS.sess_nodup hg hgen)⟩

theorem grantedU_iff (h : Rel seen y m) (i : Slot) (hu : (y.slots i).used = true) (u : Nat) :
    (m.slots i).grantedU u = true ↔ subscribed y.srv (y.slots i).sid u := by
  have hS := h.srvOk.invS
  have hgen := h.sess.used_sess i hu
  simp only [MSlot.grantedU, h.sess.modern i hu, subscribed]
  cases hm : (y.slots i).modern with
  | false =>
    rw [hm] at hgen
    simp only [Bool.false_eq_true, if_false]
    rw [List.contains_iff_mem (a := u)]
    rw [h.lis.luris i hu hm u]
    constructor
    · exact Or.inl
    · rintro (h1 | ⟨l, hl, e1, _⟩)
      · exact h1
      · have := hS.listen_modern l hl
        rw [e1] at this
        exact absurd (gen_unique hS.sess_nodup this hgen) (by simp [genB])
  | true =>
    rw [hm] at hgen
    simp only [if_true, listens_any_iff h i hu, toM, List.contains_iff_mem]
    refine ⟨Or.inr, fun hx => hx.resolve_left fun h1 => ?_⟩
    exact absurd (gen_unique hS.sess_nodup ((hS.rlive_iff _ _).1 h1).1 hgen) (by simp [genB])

/-- the stamps the monitor accepts for a write of a fan-out of kind `k` to a slot it knows as `d` (the expression in
`Mon.fanExpect`) -/
def stampsOf (d : MSlot) (k : Kind) : List Stamp :=
  if d.modern then (d.listens.filter (·.kinds.contains k)).map (fun l => Stamp.id l.id) else [.plain]

theorem sendList_stamp (h : Rel seen y m) (i : Slot) (hu : (y.slots i).used = true) (k : Kind) (x : Send)
    (hx : x ∈ sendList y.srv k) (hs : (y.slots i).sid = x.sid) :
    ((y.slots i).modern = false → x.stamp = none) ∧ stampOf x.stamp ∈ stampsOf (m.slots i) k ∧
    ((y.slots i).modern = true → ∃ ml ∈ (m.slots i).listens, Stamp.id ml.id = stampOf x.stamp ∧ k ∈ ml.kinds) := by
  have hS := h.srvOk.invS
  have hgen := h.sess.used_sess i hu
  rw [hs] at hgen
  simp only [stampsOf, h.sess.modern i hu]
  rcases (sendList_spec hS h.srvOk.invN k).2.1 x hx with ⟨hst, g, hg, hne⟩ | ⟨id, hst, hg, l, hl, e1, e2, e3⟩
  · have := gen_unique hS.sess_nodup hg hgen
    rw [this] at hne
    have hm := genB_ne_modern.1 hne
    refine ⟨fun _ => hst, ?_, fun hc => absurd hc (by simp [hm])⟩
    simp [hm, hst, stampOf]
  · have := gen_unique hS.sess_nodup hg hgen
    have hm := genB_eq_modern.1 this.symm
    have hml : toM l ∈ (m.slots i).listens := (h.lis.listens i hu _).2 ⟨l, hl, by rw [e1, hs], rfl⟩
    refine ⟨fun hc => absurd hc (by simp [hm]), ?_, fun _ => ⟨toM l, hml, by simp [toM, hst, stampOf, e2], e3⟩⟩
    simp only [hm, if_true, List.mem_map, List.mem_filter]
    exact ⟨toM l, ⟨hml, by simpa [toM] using e3⟩, by simp [toM, hst, stampOf, e2]⟩

theorem fanExpect_find (m : MState) (k : Kind) (i : Slot) :
    (fanExpect m k).find? (fun p => p.1 == i) =
      if entitledNow (m.slots i) k = true then some (i, stampsOf (m.slots i) k) else none := by
  unfold fanExpect
  rw [find?_filterMap_key _ _ i Slot.all Slot.all_nodup]
  · simp only [Slot.mem_all, if_true, stampsOf]
  · intro j p hp
    simp only [] at hp
    split at hp
    · simp at hp; rw [← hp]
    · simp at hp

theorem fanExpect_any (m : MState) (k : Kind) (i : Slot) :
    (fanExpect m k).any (fun p => p.1 == i) = entitledNow (m.slots i) k := by
  have := fanExpect_find m k i
  cases he : entitledNow (m.slots i) k
  · rw [he] at this
    simp only [Bool.false_eq_true, if_false] at this
    rw [List.find?_eq_none] at this
    rw [List.any_eq_false]
    intro p hp
    simpa using this p hp
  · rw [he] at this
    simp only [if_true] at this
    rw [List.any_eq_true]
    exact ⟨_, List.mem_of_find?_eq_some this, by simp⟩
end Notify.Bridge
