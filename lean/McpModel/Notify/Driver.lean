import McpModel.Base.Proto
import McpModel.Notify.System
import McpModel.Notify.Roots
import McpModel.Notify.Pages
/-!
Driver for E14 (C18): the STRING LAYER only.  It parses the harness's op tokens and the implementation's
observation into the typed records of `Monitor.lean` (`Mon.Op`, `Mon.Obs`), replays the op on the typed
composed model (`Sys.sysStep`, System.lean) and renders the predicted observation, runs the typed C18
monitor (`Mon.monStep`, Monitor.lean) on the IMPLEMENTATION's observation and renders the clause it
returns (`clauseText`).  Neither the model nor the monitor lives here.

Listen names and request ids: `m` (connect-time listen) = 0, `r<j>` (`ClientSession.Subscribe(u<j>)`) = 2j+1,
`L<n>` (raw listen opened by `xlisten`) = 2n+2 (`parseName` / `nameStr` are inverse bijections).  Any number
of them may be open on one session and be granted the same kinds / URI; they end in any order (`xend`,
`unsubscribe`).

`listen` / `subscribe` / `xlisten` of a 2026-07-28 session are the model labels `listen` (registration section)
and `listenAck` (acknowledgement write) back to back — the harness has no schedule point between
them.  With `hold` the server goroutine that runs the handler is parked right after the write of the
acknowledgement returned (the client has it) until `ackdone`: every other op can be placed in that
window.  In the model nothing is left to do for the handler there (`ackdone` is a no-op on the
server: it only takes the id off the slot's `parked` list, which the guards of later ops read); a tree that
registers after acknowledging shows up in the window.

Op grammar (one label per record; observation after `=>`):
  config <capT> <capP> <capR> <hook0|hook1>      => ok          caps: unset|on|off
  config <capT> <capP> <on|off> <hook0|hook1> nohandlers => ok    (ServerOptions without Subscribe/UnsubscribeHandler, explicit capabilities with resources.subscribe: every resources/subscribe, resources/unsubscribe and every URI of a subscriptions/listen fails; = the application refuses u0…u7 from the start)
  ttl <ms>                                         => ok
  change <tools|prompts|resources|templates> <add|replace|remove|noop>  => ok
  change <set> rm <p|a|d>+                         => ok          (ONE Remove*(names…) call: p a registered feature, a a never-registered name, d a name named before in the call)
  advance <ms>                                     => hook1: `fired <kinds…>` ; hook0: ok (the harness then emits the cbrun records itself)
  cbrun <kind>                                     => sent@<t> c<slot>:<method>:<stamp>:<handler>…   | none
  cbrun <kind> step                                => fan open | fan done | none    (the callback takes its snapshot; its fan-out loop is then held before every write)
  fsend <kind>                                     => <c<i>|x<sid>> sent@<t> [c<i>:<method>:<stamp>:<handler>] more|done   (the write the held fan-out is blocked in goes on; the first token says whom it is addressed to — the loop's order over a Go map is not determined, the model follows it)
  policy u<j> refuse|accept                        => ok          (what ServerOptions.SubscribeHandler answers for that URI from now on)
  canceldone c<i> <m|r<j>|L<n>>                    => ok          (the held notifications/cancelled of that listen is written; its handler ends)
  connect c<i> <sid> legacy|modern <mask>          => ok | ok listen-held
  listen c<i> [hold]                               => ack <kinds|-> [parked]
  subscribe c<i> u<j> [hold] / unsubscribe c<i> u<j>  => ok | noop | ack - u<j> [parked]
  xlisten c<i> L<n> <mask|-> u<j>… [hold]          => ack <kinds|-> u<j>… [parked] | noack   (a further, raw subscriptions/listen of a connected 2026-07-28 session: any kinds and any number of distinct URIs; noack: the SubscribeHandler refused one of them)
  xend c<i> <m|L<n>> [hold]                        => ok | ok cancel-held   (that listen is cancelled and its handler has ended; r<j> ends through unsubscribe; hold: the client's notifications/cancelled is held in its transport until `canceldone`)
  unsubscribe c<i> u<j> hold                       => ok cancel-held   (2026-07-28: ClientSession.Unsubscribe has returned — cs.resourceSubs no longer has the URI —, the cancellation is held)
  xend c<i> L<n> park / unsubscribe c<i> u<j> park => ok unsub-held    (the stream has ended on the server; its clean-up is parked in the application's UnsubscribeHandler, before its first critical section, until `unsubdone`)
  unsubdone c<i> <r<j>|L<n>>                       => ok          (that UnsubscribeHandler call returns; the clean-up runs)
  ackdone c<i> <m|r<j>|L<n>>                       => ok          (the handler held right after its ack write goes on)
  close c<i> [drop]                                => ok          (drop: the connection is cut under the client — no notifications/cancelled for its open listens, no orderly ClientSession.Close: the server reads EOF, the connection cancels the parked handlers, their clean-up runs, then Server.disconnect; the same label `close` of the model)
  rupdated u<j> [names u<k>]                       => sent@<t> …   (names: the notification the subscribers of u<j> get names u<k>, whose content changed)
  list c<i> <tools|prompts|resources|templates|read:j> <n|post|pre>  => ret v<N> hit|miss | held v<N> | pre
  send c<i> <key> => held v<N> ;  fill c<i> <key> => ret v<N> miss
  tables                                           => T[..] P[..] R[..] U0[..] U1[..] U2[..] S[..]
  end                                              => ok
-/
namespace Notify.Drv
open Proto Generated.Notify Notify.Mon

/-! ### tokens → typed records -/

def kindLetter : Kind → String
  | .tools => "t" | .prompts => "p" | .resources => "r"

def parseCap : String → Option Cap
  | "unset" => some .unset | "on" => some .on | "off" => some .off | _ => none

def parseKind : String → Option Kind
  | "tools" => some .tools | "prompts" => some .prompts | "resources" => some .resources | _ => none

def parseFSet : String → Option FSet
  | "tools" => some .tools | "prompts" => some .prompts | "resources" => some .resources
  | "templates" => some .templates | _ => none

def parseEff : String → Option Eff
  | "add" => some .add | "replace" => some .replace | "remove" => some .remove | "noop" => some .noop | _ => none

/-- the names of one `Remove*(names…)` call: `p` a registered feature (not named before in the call), `a` a name
that was never registered, `d` a name already named in the call (gone when the loop reaches it) -/
def parseNames (pat : String) : Option (List NameAt) :=
  pat.toList.mapM (fun c => if c == 'p' then some NameAt.present else if c == 'a' || c == 'd' then some NameAt.absent else none)

def parseMask (m : String) : List Kind :=
  Kind.all.filter (fun k => m.toList.contains ((kindLetter k).toList.getD 0 '?'))

def parseSlot (s : String) : Option Slot :=
  match s.toList with
  | ['c', '0'] => some 0
  | ['c', '1'] => some 1
  | ['c', '2'] => some 2
  | _ => none

def parseUri (s : String) : Option Nat :=
  if s.startsWith "u" then (s.drop 1).toNat? else none

/-- `tools` … `read:1` -/
def parseKey (s : String) : Option Key :=
  match parseFSet s with
  | some f => some (.list f)
  | none => if s.startsWith "read:" then (s.drop 5).toNat?.map Key.read else none

def parseMode : String → Option Mode
  | "n" => some .n | "post" => some .post | "pre" => some .pre | _ => none

/-- `m` ↦ 0, `r<j>` ↦ 2j+1, `L<n>` ↦ 2n+2. -/
def parseName (s : String) : Option Nat :=
  if s == "m" then some 0
  else if s.startsWith "r" then (s.drop 1).toNat?.map (fun j => 2 * j + 1)
  else if s.startsWith "L" then (s.drop 1).toNat?.map (fun n => 2 * n + 2)
  else none

def nameStr (id : Nat) : String :=
  if id == 0 then "m" else if id % 2 == 1 then s!"r{(id - 1) / 2}" else s!"L{(id - 2) / 2}"

def holdTok : List String → Option Bool
  | [] => some false
  | ["hold"] => some true
  | _ => none

def parseOp (toks : List String) : Op :=
  ((match toks with
   | ["config", a, b, c, h] => do some (Op.config (← parseCap a) (← parseCap b) (← parseCap c) (h == "hook1"))
   | ["ttl", n] => n.toNat?.map Op.ttl
   | ["change", f, e] => do some (Op.change (← parseFSet f) (← parseEff e))
   | ["change", f, "rm", pat] => do some (Op.change (← parseFSet f) (removeEff (← parseNames pat)))
   | ["advance", d] => d.toNat?.map Op.advance
   | ["cbrun", k] => (parseKind k).map Op.cbrun
   | ["cbrun", k, "step"] => (parseKind k).map Op.cbstep
   | ["fsend", k] => (parseKind k).map Op.fsend
   | ["policy", u, pol] =>
     if pol == "refuse" then (parseUri u).map (Op.policy · true)
     else if pol == "accept" then (parseUri u).map (Op.policy · false)
     else none
   | ["canceldone", c, name] => do some (Op.canceldone (← parseSlot c) (← parseName name))
   | ["connect", c, sid, g, m] => do some (Op.connect (← parseSlot c) (← sid.toNat?) (g == "modern") (parseMask m))
   | "listen" :: c :: rest => do some (Op.listen (← parseSlot c) (← holdTok rest))
   | "subscribe" :: c :: u :: rest => do some (Op.subscribe (← parseSlot c) (← parseUri u) (← holdTok rest))
   | "xlisten" :: c :: name :: mask :: rest =>
     let us := rest.takeWhile (fun (w : String) => w.startsWith "u")
     let rest := rest.dropWhile (fun (w : String) => w.startsWith "u")
     do some (Op.xlisten (← parseSlot c) (← parseName name) (parseMask mask) (← us.mapM parseUri) (← holdTok rest))
   | "xend" :: c :: name :: rest => do some (Op.xend (← parseSlot c) (← parseName name) (← holdTok rest))
   | ["ackdone", c, which] => do some (Op.ackdone (← parseSlot c) (← parseName which))
   | "unsubscribe" :: c :: u :: rest => do some (Op.unsubscribe (← parseSlot c) (← parseUri u) (← holdTok rest))
   | ["close", c] => (parseSlot c).map Op.close
   | ["close", c, "drop"] => (parseSlot c).map Op.close
   | ["rupdated", u] => (parseUri u).map (fun u => Op.rupdated u u)
   | ["rupdated", u, "names", v] => do some (Op.rupdated (← parseUri u) (← parseUri v))
   | ["list", c, key, mode] => do some (Op.list (← parseSlot c) (← parseKey key) (← parseMode mode))
   | ["send", c, key] => do some (Op.send (← parseSlot c) (← parseKey key))
   | ["fill", c, key] => do some (Op.fill (← parseSlot c) (← parseKey key))
   | ["tables"] => some .tables
   | ["end"] => some .fin
   | _ => none) : Option Op).getD .bad

def parseWho (s : String) : Option Who :=
  match parseSlot s with
  | some i => some (.slot i)
  | none => if s.startsWith "x" then (s.drop 1).toNat?.map Who.closed else none

def parseMeth (s : String) : Meth :=
  match Kind.all.find? (fun k => listChangedMethod k == s) with
  | some k => .changed k
  | none => if s == resourceUpdatedMethod then .updated else .other

def parseStamp (s : String) : Stamp :=
  if s == "plain" then .plain else
  match parseName s with
  | some n => .id n
  | none => .bad

def parseHk (s : String) : Hk :=
  if s == "-" then .none else
  match Kind.all.find? (fun k => kindLetter k == s) with
  | some k => .kind k
  | none => match parseUri s with
    | some u => .uri u
    | none => .other

/-- `sent@<t> c<i>:<method>:<stamp>:<handler>…` -/
def parseDeliveries (ws : List String) : Option (Nat × List Delivery) :=
  match ws with
  | hd :: rest =>
    if !hd.startsWith "sent@" then none else
    match (hd.drop 5).toNat? with
    | none => none
    | some t =>
      (rest.mapM (fun (tok : String) =>
        match tok.splitOn ":" with
        | [c, m, st, hk] => (parseSlot c).map (fun i => (⟨.slot i, parseMeth m, parseStamp st, parseHk hk⟩ : Delivery))
        | _ => none)).map (fun ds => (t, ds))
  | [] => none

def parseTag (s : String) : Tag :=
  if s == "q" then .q else
  match parseName s with
  | some n => .id n
  | none => .bad

/-- `T[c0=m c1=m] P[] … S[c0 c1]` -/
def parseTables (impl : String) : Tables :=
  let pieces : List (String × List String) := (impl.splitOn "] ").map (fun piece =>
    match piece.splitOn "[" with
    | [name, body] => (name, words (body.replace "]" ""))
    | _ => ("", []))
  let entries (ws : List String) : List TEntry := ws.filterMap (fun w =>
    match w.splitOn "=" with
    | [a, b] => (parseWho a).map (fun who => ⟨who, parseTag b⟩)
    | _ => none)
  let tab (n : String) : List TEntry := entries ((pieces.lookup n).getD [])
  { kind := fun k => tab (kindLetter k).toUpper,
    uris := pieces.filterMap (fun p => if p.1.startsWith "U" then (p.1.drop 1).toNat?.map (fun u => (u, entries p.2)) else none),
    sess := ((pieces.lookup "S").getD []).filterMap parseWho }

/-- The implementation's observation.  The observation of a `tables` op is always read as a table dump
(an empty or broken dump shows no subscription at all). -/
def parseObs (op : Op) (impl : String) : Obs :=
  match op with
  | .tables => .tables (parseTables impl)
  | _ =>
  match impl with
  | "ok" => .ok
  | "ok listen-held" => .okListenHeld
  | "ok cancel-held" => .okCancelHeld
  | "none" => .none_
  | "noop" => .noop
  | "err" => .err
  | "noack" => .noack
  | "refused" => .refused
  | "bad-op" => .badOp
  | "pre" => .pre
  | "fan done" => .fan true
  | _ =>
    if impl.startsWith "fan" then .fan false else
    let ws := words impl
    match ws with
    | "ack" :: ks :: rest => .ack (parseMask ks) (rest.filterMap parseUri) (rest.contains "parked")
    | ["ret", v, h] =>
      (match (if v.startsWith "v" then (v.drop 1).toNat? else none) with
       | some n => .ret n (h == "hit")
       | none => .other)
    | hd :: rest =>
      if hd.startsWith "held" then .held (((rest.headD "").drop 1).toNat?.getD 0) else
      if hd.startsWith "sent@" then
        (match parseDeliveries ws with
         | some (t, ds) => .sent t ds
         | none => .other)
      else if rest.isEmpty then .other else
      let last := rest.getLast?.getD ""
      (match parseDeliveries rest.dropLast with
       | some (t, ds) => .fsent ((parseWho hd).getD (.closed 0)) t ds (last == "done")
       | none => .other)
    | [] => .other

/-- whom the implementation's `fsend` record says its write was addressed to -/
def hintOf (impl : String) : Option Who := (words impl).head?.bind parseWho

/-! ### typed observation → string -/

def maskStr (ks : List Kind) : String :=
  if ks.isEmpty then "-" else String.join (ks.map kindLetter)

def insertBy (le : α → α → Bool) (a : α) : List α → List α
  | [] => [a]
  | b :: t => if le a b then a :: b :: t else b :: insertBy le a t

def sortBy (le : α → α → Bool) (l : List α) : List α := l.foldr (insertBy le) []

def stampStr : Stamp → String
  | .plain => "plain"
  | .id n => nameStr n
  | .bad => "?"

def methStr : Meth → String
  | .changed k => listChangedMethod k
  | .updated => resourceUpdatedMethod
  | .other => "?"

def hkStr : Hk → String
  | .none => "-"
  | .kind k => kindLetter k
  | .uri u => s!"u{u}"
  | .other => "?"

def whoStr : Who → String
  | .slot i => s!"c{i.val}"
  | .closed sid => s!"x{sid}"

def deliveryTok (x : Delivery) : Nat × String :=
  match x.who with
  | .slot i => (i.val, s!"c{i.val}:{methStr x.meth}:{stampStr x.stamp}:{hkStr x.hk}")
  | .closed sid => (9, s!"c?{sid}:{methStr x.meth}:{stampStr x.stamp}:{hkStr x.hk}")

def fmtSent (now : Nat) (ds : List Delivery) : String :=
  let sorted := sortBy (fun a b => a.1 ≤ b.1) (ds.map deliveryTok)
  String.intercalate " " (s!"sent@{now}" :: sorted.map (·.2))

def tagStr : Tag → String
  | .q => "q"
  | .id n => nameStr n
  | .bad => "?"

def dumpStr (l : List TEntry) : String :=
  "[" ++ String.intercalate " " (sortBy (fun a b => a ≤ b) (l.map (fun e => s!"{whoStr e.who}={tagStr e.tag}"))) ++ "]"

def tablesStr (tb : Tables) : String :=
  String.intercalate " " ([s!"T{dumpStr (tb.kind .tools)}", s!"P{dumpStr (tb.kind .prompts)}", s!"R{dumpStr (tb.kind .resources)}"] ++
    tb.uris.map (fun p => s!"U{p.1}{dumpStr p.2}") ++
    ["S[" ++ String.intercalate " " (sortBy (fun a b => a ≤ b) (tb.sess.map whoStr)) ++ "]"])

def ackStr (kinds : List Kind) (uris : List Nat) : String :=
  String.intercalate " " (["ack", maskStr (Kind.all.filter kinds.contains)] ++ (sortBy (· ≤ ·) uris).map (fun u => s!"u{u}"))

def obsStr : Obs → String
  | .ok => "ok"
  | .okListenHeld => "ok listen-held"
  | .okCancelHeld => "ok cancel-held"
  | .none_ => "none"
  | .noop => "noop"
  | .err => "err"
  | .noack => "noack"
  | .refused => "refused"
  | .badOp => "bad-op"
  | .pre => "pre"
  | .fan done => if done then "fan done" else "fan open"
  | .fired ks => String.intercalate " " ("fired" :: ks.map (·.name))
  | .sent t ds => fmtSent t ds
  | .fsent addr t ds done => s!"{whoStr addr} {fmtSent t ds} " ++ (if done then "done" else "more")
  | .ack ks us parked => ackStr ks us ++ (if parked then " parked" else "")
  | .ret v hit => s!"ret v{v} " ++ (if hit then "hit" else "miss")
  | .held v => s!"held v{v}"
  | .tables tb => tablesStr tb
  | .other => "?"

/-! ### the clause texts (known_findings.json and seeded/*/meta.json quote them) -/

def whatStr : What → String
  | .kind k => kindLetter k
  | .uri u => s!"u{u}"

def seenStr : Seen → String
  | .updated => "a ResourceUpdated call did not reach the session"
  | .dump => "table dump"
  | .fin => "no notification reached the session after the last change"

def clauseText : Clause → String
  | .malformed => "C18: malformed delivery record"
  | .wrongKind => "C18: fanout_entitled_only: a callback of one kind sent another kind's notification"
  | .disabled => "C18: none_when_disabled: list_changed delivered although the capability is switched off"
  | .notConnected => "C18: fanout_entitled_only: delivery to a session that is not connected"
  | .legacyStamped => "C18: fanout_entitled_only: legacy session got a stamped notification"
  | .noSubscription => "C18: fanout_entitled_only: 2026-07-28 session without a matching subscription got the notification"
  | .badStamp => "C18: fanout_entitled_only: notification not stamped with the request id of a live listen of the session that was granted the kind"
  | .wrongHandler => "C18: fanout_entitled_only: notification dispatched to the wrong client handler"
  | .twice => "C18: fanout_entitled_only: a session got the same notification twice"
  | .fanNotEntitled => "C18: sent_was_snapshot / fanout_entitled_only: a held fan-out wrote to a session that was not entitled when its snapshot was taken"
  | .fanBadStamp => "C18: sent_was_snapshot / fanout_entitled_only: a held fan-out stamped its notification with an id that belonged to no listen of the session granted the kind when the snapshot was taken"
  | .fanDropped => "C18: at_least_one_after_burst (blocked fan-out): the write of the fan-out to a connected, entitled session delivered nothing"
  | .lostWindow ended survivor what seen =>
    s!"C18: ack_after_registration or acked_stays_served (overlapping listens): the session is missing from the table of a subscription while the handler of its live listen that was granted it is still held right after its acknowledgement write AND another listen of the session that was granted the same thing has ended (registered after the acknowledgement, or removed by that end) [ended={nameStr ended} survivor={nameStr survivor} what={whatStr what}; seen: {seenStr seen}]"
  | .lostOverlap endedOlder ended survivor what seen =>
    let tab := if what.isUri then "resource" else "list-changed"
    let head := s!"C18: acked_stays_served (overlapping listens, {tab}): "
    let body :=
      if what.isUri then
        if endedOlder then
          "the end of the OLDER subscriptions/listen stream unsubscribed the session from the URI although a newer, still live, acknowledged stream of the same session was granted the same URI"
        else
          "the end of the NEWER subscriptions/listen stream unsubscribed the session from the URI although an older, still live, acknowledged stream of the same session was granted the same URI"
      else
        if endedOlder then
          "the end of the OLDER subscriptions/listen stream took the session out of the list-changed table although a newer, still live, acknowledged stream of the same session was granted the same kind"
        else
          "the end of the NEWER subscriptions/listen stream took the session out of the list-changed table although an older, still live, acknowledged stream of the same session was granted the same kind"
    head ++ body ++ s!" [ended={nameStr ended} survivor={nameStr survivor} what={whatStr what}; seen: {seenStr seen}]"
  | .updAckWindow => "C18: ack_after_registration: the server acknowledged the session's subscription to the URI, but a ResourceUpdated call made while the listen handler was still held right after the acknowledgement write did not reach the session (the subscription is registered after it is acknowledged)"
  | .updMissed => "C18: updated_reaches_exactly_subscribers: a session subscribed to the URI was not notified"
  | .updRefused => "C18: refused_listen_leaves_no_subscription: the session's subscriptions/listen request naming the URI was refused by the SubscribeHandler (no acknowledgement, no stream), yet a ResourceUpdated call for the URI reached the session: the URIs registered before the refused one stayed subscribed"
  | .updNotSubscribed => "C18: updated_reaches_exactly_subscribers: a session not subscribed to the URI was notified"
  | .updTwice => "C18: updated_reaches_exactly_subscribers: a subscriber was notified more than once"
  | .updMethod => "C18: updated_reaches_exactly_subscribers: wrong notification method"
  | .updOtherUri => "C18: updated_reaches_exactly_subscribers: notification for another URI"
  | .updLegacyStamped => "C18: updated_reaches_exactly_subscribers: legacy session got a stamped notification"
  | .updBadStamp => "C18: updated_reaches_exactly_subscribers: not stamped with the request id of a live listen of the session that carries the subscription"
  | .staleRead offTable =>
    "C18: invalidate_on_every_handled_update: a read issued after the client handled a notifications/resources/updated naming that URI was answered from the cache with the content from before the update — the handled notification did not invalidate the read cache" ++
      (if offTable then " (the client held no Subscribe entry for the URI when it handled the update: the update named a sub-resource of what it subscribed to, or arrived on a stream opened below Subscribe, or overtook the cancellation after Unsubscribe)" else "")
  | .f7Stale => "C18: F7 list_after_notification_fresh: a response obtained before the notification was put into the cache after the client handled it and is served to a later call (cache has no generation)"
  | .staleCall => "C18: list_after_notification_fresh: call started after a handled notification returned an older version"
  | .hitAfterInvalidate => "C18: invalidate_on_notification: cache hit although nothing was fetched since the invalidating notification"
  | .closedMentioned => "C18: closed_sessions_forgotten: a subscription table or the session list still mentions a closed session"
  | .ackTableWindow => "C18: ack_after_registration: the server has written the acknowledgement of a subscriptions/listen (the handler is held right after that write) but the subscription it acknowledges is not in the server's table"
  | .f19Registered => "C18: F19 acked_stays_registered: the session's acknowledged list-changed subscription left the table when another subscriptions/listen of the same session ended"
  | .ackedMissing => "C18: acked_stays_registered: a subscription the server acknowledged, and the client has not ended, is missing from the server's table"
  | .refusedLeft => "C18: refused_listen_leaves_no_subscription: resourceSubscriptions still holds the session for a URI of a subscriptions/listen request that the SubscribeHandler refused (no acknowledgement, no stream): the URIs registered before the refused one were not unsubscribed"
  | .foreignEntry => "C18: acked_stays_registered / refused_listen_leaves_no_subscription: a subscription table holds a 2026-07-28 session under a request id that is not the id of a live, acknowledged listen of that session granted that kind or URI"
  | .endMixedRemove => "C18: at_least_one_after_burst (Remove* naming several features): a Remove call that named a registered feature together with names that were not registered (or no longer, a repeated name) changed the list, and no list-changed notification sent after it reached this connected, entitled session although every timer has fired and every callback has run — the call did not count as a change (featureSet.remove must report whether ANY named feature was present)"
  | .endMidFan => "C18: at_least_one_after_burst (blocked fan-out) / change_during_fanout_announced: a change was made while a list-changed fan-out of the same kind was in progress — this session had already been written to, a later write of the loop was still blocked — and the change was never announced to the session: no notification sent after the change reached it although every timer has fired and every callback has run"
  | .endSkippedAck => "C18: ack_after_registration / at_least_one_after_burst: the session held the acknowledgement of its list-changed subscription when the callback took its snapshot (the listen handler was held right after the acknowledgement write), the snapshot did not include it, and no later notification reached it"
  | .endF19 => "C18: F19 at_least_one_after_burst: the session's list-changed subscription was dropped when another subscriptions/listen of the same session ended"
  | .endSkipped => "C18: at_least_one_after_burst: callbacks ran after the last change but none of them notified this entitled session"
  | .endNoLost => "C18: no_lost_notification: changes were made, every timer has fired and every callback has run, yet an entitled session was never notified after the last change"

/-! ### the engine -/

/-! ### `park` / `unsubdone`: the end of a listen parked in the application's UnsubscribeHandler

`xend c<i> L<n> park` / `unsubscribe c<i> u<j> park`: the cancellation reaches the server, the handler's context
ends, its deferred functions begin: the FIRST of them is `unsubscribeListen` for the last URI the stream was
granted, and its first statement is the call of `ServerOptions.UnsubscribeHandler` — application code, outside
the server lock, before every critical section of the clean-up (regenerated fact `notify.listen_handover`:
`unsubscribeListen:handler,lock,…`).  The harness parks THAT call until `unsubdone c<i> <name>`.  In the code
that exists nothing has been read or written at that point, so for the typed model the window is the one of
a cancellation held on its way (`hold` … `canceldone`: the stream is registered in every table, `listenEnd`
runs at the release); the tokens are mapped onto those labels here, the observation is spelled
`ok unsub-held`.  A tree whose clean-up reads the tables BEFORE it calls the application and acts on what it
read afterwards (check-then-act around user code) differs inside that window only.  `park` is a label only
for a live listen that was granted a URI (no other end calls the handler): anything else is `bad-op`. -/

def isPark (toks : List String) : Bool := toks.getLast? == some "park"

/-- the listen the op ends: (slot, request id) -/
def endedListen (toks : List String) : Option (Slot × Nat) :=
  match toks with
  | ["xend", c, name, _] => do some (← parseSlot c, ← parseName name)
  | ["unsubscribe", c, u, _] => do some (← parseSlot c, 2 * (← parseUri u) + 1)
  | _ => none

def parkable (y : Sys.State) (toks : List String) : Bool :=
  match endedListen toks with
  | some (i, id) => y.srv.listens.any (fun l => l.sid == (y.slots i).sid && l.id == id && !l.uris.isEmpty)
  | none => false

def normToks (toks : List String) : List String :=
  if isPark toks then toks.dropLast ++ ["hold"] else
  match toks with
  | "unsubdone" :: rest => "canceldone" :: rest
  | _ => toks

/-! ### the client side: `roots …` records (model and monitor: `Roots.lean`) -/

def parseRootsCfg (tok : String) : Option Roots.Cfg :=
  if tok == "nil" then some {} else
  if tok == "empty" then some { capsNil := false } else
  (tok.splitOn "+").foldlM (fun (c : Roots.Cfg) part =>
    if part == "v2on" then some { c with v2 := some true }
    else if part == "v2off" then some { c with v2 := some false }
    else if part == "v1on" then some { c with v1 := true }
    else if part == "v1off" then some { c with v1 := false }
    else none) { capsNil := false }

def parseRootsLabel : List String → Option Roots.Label
  | "add" :: us => (us.mapM parseUri).map Roots.Label.add
  | "remove" :: us => (us.mapM parseUri).map Roots.Label.remove
  | ["connect", sid, g] =>
    if g == "legacy" || g == "modern" then sid.toNat?.map (Roots.Label.connect · (g == "modern")) else none
  | ["close", sid] => sid.toNat?.map Roots.Label.close
  | _ => none

def gotStr (l : List Nat) : String :=
  if l.isEmpty then "got -" else String.intercalate " " ("got" :: (sortBy (· ≤ ·) l).map toString)

/-- `got 1 3` / `got -`; anything else is no observation of a roots call -/
def parseGot (impl : String) : Option (List Nat) :=
  match words impl with
  | ["got", "-"] => some []
  | "got" :: rest => rest.mapM (·.toNat?)
  | _ => none

def rootsClauseText : Roots.Clause → String
  | .missed => "C18: at_least_one_after_burst (client roots): AddRoots / RemoveRoots changed the client's roots with listChanged enabled, and a connected session was not sent notifications/roots/list_changed"
  | .disabled => "C18: none_when_disabled (client roots): notifications/roots/list_changed delivered although the client's roots listChanged capability is switched off (RootsV2 before Roots)"
  | .notEntitled => "C18: fanout_entitled_only (client roots): notifications/roots/list_changed reached a server whose session is closed or was never connected"
  | .noChange => "C18: at_least_one_after_burst (client roots): a notification although the call changed nothing (AddRoots without roots, RemoveRoots naming only URIs the client does not have)"
  | .twice => "C18: fanout_entitled_only (client roots): one call notified the same session twice"

structure RDState where
  on : Bool := false
  s : Roots.State := {}
  m : Roots.MState := {}

/-- one `roots …` record: (state, model observation, clause) -/
def rootsStep (d : RDState) (toks : List String) (impl : String) : RDState × String × Option String :=
  match toks with
  | ["config", c] =>
    match parseRootsCfg c, d.on with
    | some cfg, false => ({ on := true, s := { cfg := cfg }, m := { cfg := cfg } }, "ok", none)
    | _, _ => (d, "bad-op", none)
  | _ =>
    if !d.on then (d, "bad-op", none) else
    match parseRootsLabel toks with
    | none => (d, "bad-op", none)
    | some l =>
      let r := Roots.step d.s l
      let model := match l with
        | .add _ | .remove _ => gotStr (Roots.handled r.2)
        | _ => "ok"
      -- the monitor reads the IMPLEMENTATION's observation; an unreadable one of a call shows nobody
      let got := match l with
        | .add _ | .remove _ => (parseGot impl).getD []
        | _ => []
      let (m', viol) := Roots.monStep d.m l got
      ({ d with s := r.1, m := m' }, model, viol.map rootsClauseText)

/-! ### client caches with several pages: `pages …` records (model and monitor: `Pages.lean`) -/

def parsePagesOp : List String → Option Pages.Op
  | ["list", k] => k.toNat?.map Pages.Op.list
  | ["listheld", k] => k.toNat?.map Pages.Op.listheld
  | ["fill", k] => k.toNat?.map Pages.Op.fill
  | ["change"] => some .change
  | ["tick", d] => d.toNat?.map Pages.Op.tick
  | ["ttl", n] => n.toNat?.map Pages.Op.ttl
  | _ => none

def pagesObsStr : Pages.Obs → String
  | .ok => "ok"
  | .ret v hit => s!"ret v{v} " ++ (if hit then "hit" else "miss")
  | .held v => s!"held v{v}"
  | .handled n => s!"handled {n}"
  | .refused => "refused"

def parsePagesObs (impl : String) : Option Pages.Obs :=
  let num (s : String) : Option Nat := if s.startsWith "v" then (s.drop 1).toNat? else none
  match words impl with
  | ["ok"] => some .ok
  | ["refused"] => some .refused
  | ["ret", v, h] => (num v).map (Pages.Obs.ret · (h == "hit"))
  | ["held", v] => (num v).map Pages.Obs.held
  | ["handled", n] => n.toNat?.map Pages.Obs.handled
  | _ => none

def pagesClauseText : Pages.Clause → String
  | .stalePage => "C18: list_after_notification_fresh (paginated list): a list call for one cursor, started after the client handled notifications/tools/list_changed, returned that page with the content from before the change — the cache entry of EVERY cursor must go when the notification is handled (no_page_from_before_notification)"
  | .notNotified => "C18: at_least_one_after_burst (paginated list): every tool was replaced and the subscribed 2026-07-28 client handled no list_changed notification within twice the debounce delay"

structure PDState where
  on : Bool := false
  m : Pages.MState := {}
  mon : Pages.Mon := {}

def pagesStep (d : PDState) (toks : List String) (impl : String) : PDState × String × Option String :=
  match toks with
  | ["config", n] =>
    match n.toNat?, d.on with
    | some ttl, false => ({ on := true, m := { ttl := ttl } }, "ok", none)
    | _, _ => (d, "bad-op", none)
  | _ =>
    if !d.on then (d, "bad-op", none) else
    match parsePagesOp toks with
    | none => (d, "bad-op", none)
    | some op =>
      let (m', model) := Pages.step d.m op
      -- an unreadable observation of a call is judged as the oldest possible answer
      let obs := (parsePagesObs impl).getD (match op with | .change => .handled 0 | _ => .ret 0 false)
      let (mon', viol) := Pages.monStep d.mon op obs
      ({ d with m := m', mon := mon' }, pagesObsStr model, viol.map pagesClauseText)

structure DState where
  sys : Sys.State := {}
  mon : MState := {}
  roots : RDState := {}
  pages : PDState := {}
  /-- the server of this case has no Subscribe/UnsubscribeHandler: `policy … accept` changes nothing -/
  nosub : Bool := false

def engine : Engine DState where
  init := {}
  step d toks impl :=
    match toks with
    | ["reset"] => ({}, { model := "ok" })
    | ["config", a, b, c, h, "nohandlers"] =>
      -- A server with neither SubscribeHandler nor UnsubscribeHandler (explicit capabilities that still say
      -- resources.subscribe): `Server.subscribe` returns "does not support resource subscriptions" before it
      -- touches the table, `Server.unsubscribe` returns method-not-found: for the typed model this is an
      -- application that refuses EVERY URI from the start — the `config` label followed by `policy u refuse`
      -- for the URIs of the harness (u0 … u7), fed through model and monitor like any other ops.
      if c == "unset" then ({ d with nosub := false }, { model := "bad-op" }) else
      let run := (Op.config ((parseCap a).getD .unset) ((parseCap b).getD .unset) ((parseCap c).getD .unset) (h == "hook1")) ::
        (List.range 8).map (fun u => Op.policy u true)
      let (sys', mon') := run.foldl (fun (p : Sys.State × MState) op =>
        ((Sys.sysStep p.1 op none).1, (monStep p.2 ⟨op, .ok⟩).1)) (d.sys, d.mon)
      ({ d with sys := sys', mon := mon', nosub := true }, { model := "ok" })
    | "pages" :: rest =>
      let (p', model, viol) := pagesStep d.pages rest impl
      ({ d with pages := p' }, { model := model, violated := viol })
    | "roots" :: rest =>
      let (r', model, viol) := rootsStep d.roots rest impl
      ({ d with roots := r' }, { model := model, violated := viol })
    | _ =>
      let park := isPark toks
      let toks := match d.nosub, toks with
        | true, ["policy", u, _] => ["policy", u, "refuse"]
        | _, _ => toks
      let op := if park && !parkable d.sys toks then Op.bad else parseOp (normToks toks)
      let impl' := if park && impl == "ok unsub-held" then "ok cancel-held"
                   else if impl == "ok cancel-held" && park then "?" else impl
      let (sys', model) := Sys.sysStep d.sys op (hintOf impl')
      let (mon', viol) := monStep d.mon ⟨op, parseObs op impl'⟩
      let shown := if park && obsStr model == "ok cancel-held" then "ok unsub-held" else obsStr model
      ({ d with sys := sys', mon := mon' }, { model := shown, violated := viol.map clauseText })

end Notify.Drv

def main : IO Unit := Proto.run Notify.Drv.engine
