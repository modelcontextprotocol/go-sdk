import McpModel.Base.Logic
import McpModel.Notify.Roots
/-!
# C18, client side: a change of the client's roots reaches every connected session, none when disabled

Theorems about `Notify.Roots` (the client's `changeAndNotify`): all label lists, any number of sessions,
every capability configuration.
-/
namespace Notify.Roots

theorem removeAll_set (roots uris : List Nat) :
    (removeAll roots uris).1 = roots.filter (fun r => !uris.contains r) := by
  induction uris generalizing roots with
  | nil => exact (List.filter_eq_self.mpr (by simp)).symm
  | cons u us ih =>
    simp only [removeAll, ih, List.filter_filter]
    apply List.filter_congr
    intro r _
    by_cases h : r = u
    · simp [h]
    · have h' : ¬ u = r := fun e => h e.symm
      simp [h, h', List.contains_cons]

/-- **roots_remove_changed_iff.**  `RemoveRoots(uris…)` reports a change iff it names a root the client has —
wherever in the call, next to absent or repeated URIs. -/
theorem roots_remove_changed_iff (roots uris : List Nat) :
    (removeAll roots uris).2 = true ↔ ∃ u ∈ uris, u ∈ roots := by
  induction uris generalizing roots with
  | nil => simp [removeAll]
  | cons u us ih =>
    simp only [removeAll, Bool.or_eq_true, ih, List.mem_cons, List.contains_iff_mem]
    constructor
    · rintro (h | ⟨v, hv, hvr⟩)
      · exact ⟨u, Or.inl rfl, h⟩
      · exact ⟨v, Or.inr hv, (List.mem_filter.mp hvr).1⟩
    · rintro ⟨v, (rfl | hv), hvr⟩
      · exact Or.inl hvr
      · by_cases e : v = u
        · exact Or.inl (e ▸ hvr)
        · exact Or.inr ⟨v, hv, List.mem_filter.mpr ⟨hvr, by simpa using e⟩⟩

/-- the three branches of `shouldSendListChangedNotification`, in the order of the code -/
theorem gate_spec (c : Cfg) :
    (c.capsNil = true → gate c = true) ∧
    (c.capsNil = false → ∀ b, c.v2 = some b → gate c = b) ∧
    (c.capsNil = false → c.v2 = none → gate c = c.v1) := by
  refine ⟨?_, ?_, ?_⟩ <;> intros <;> simp_all [gate]

/-- does the call count as a change of the roots (`AddRoots` with a root: always; `RemoveRoots`: the flag of `featureSet.remove`) -/
def changed (s : State) : Label → Bool
  | .add uris => !uris.isEmpty
  | .remove uris => (removeAll s.roots uris).2
  | _ => false

/-- **What a label does to the configuration, the sessions and the wire**: a call that changes the roots, with the gate open,
writes to the sessions the client has — which it leaves as they are —, every other label to nobody. -/
theorem step_spec (s : State) (l : Label) :
    (step s l).1.cfg = s.cfg ∧
    (step s l).2 = (if changed s l && gate s.cfg then s.sessions else []) ∧
    (changed s l = true → (step s l).1.sessions = s.sessions) := by
  cases l with
  | add uris => cases uris <;> simp [step, changed, snapshot]
  | remove uris => simp [step, changed, snapshot]
  | connect sid modern => simp only [step, changed]; split <;> simp
  | close sid => simp [step, changed]

theorem run_cfg (s : State) (ls : List Label) : (run s ls).1.cfg = s.cfg := by
  induction ls generalizing s with
  | nil => rfl
  | cons l ls ih => simp [run, ih, (step_spec s l).1]

/-- **roots_change_reaches_every_session.**  A call that changes the roots, with the capability enabled, writes
one notification to EVERY session the client has at that moment (taken in the same critical section as the
change: no session that connected before the change is skipped, whatever happens afterwards), in the order
of `c.sessions`, and to nobody else. -/
theorem roots_change_reaches_every_session (s : State) (hg : gate s.cfg = true) :
    (∀ uris, uris ≠ [] → (step s (.add uris)).2 = s.sessions) ∧
    (∀ uris, (∃ u ∈ uris, u ∈ s.roots) → (step s (.remove uris)).2 = s.sessions) := by
  refine ⟨fun uris h => ?_, fun uris h => ?_⟩
  · rw [(step_spec s _).2.1, hg]; cases uris <;> simp_all [changed]
  · rw [(step_spec s _).2.1, hg]; simp [changed, (roots_remove_changed_iff s.roots uris).mpr h]

/-- **roots_no_change_no_notification.**  `AddRoots()` with no root and `RemoveRoots` naming only URIs the
client does not have notify nobody. -/
theorem roots_no_change_no_notification (s : State) :
    (step s (.add [])).2 = [] ∧
    (∀ uris, (∀ u ∈ uris, u ∉ s.roots) → (step s (.remove uris)).2 = []) := by
  refine ⟨rfl, fun uris h => ?_⟩
  have : changed s (.remove uris) = false := by
    rw [changed, ← Bool.not_eq_true, roots_remove_changed_iff]
    exact fun ⟨u, hu, hr⟩ => h u hu hr
  rw [(step_spec s _).2.1, this]; rfl

/-- **roots_none_when_disabled.**  With listChanged switched off (`RootsV2.ListChanged = false`, or no RootsV2 and
`Roots.ListChanged = false`) no run ever writes a roots notification. -/
theorem roots_none_when_disabled (s : State) (hg : gate s.cfg = false) (ls : List Label) :
    ∀ ws ∈ (run s ls).2, ws = [] := by
  induction ls generalizing s with
  | nil => simp [run]
  | cons l ls ih =>
    intro ws h
    simp only [run, List.mem_cons] at h
    rcases h with rfl | h
    · rw [(step_spec s l).2.1, hg]; simp
    · exact ih (step s l).1 (by rw [(step_spec s l).1]; exact hg) ws h

theorem sent_subset_sessions (s : State) (l : Label) : ∀ p ∈ (step s l).2, p ∈ (step s l).1.sessions := by
  intro p hp
  rw [(step_spec s l).2.1] at hp
  split at hp
  · rename_i h
    rw [(step_spec s l).2.2 (by simp only [Bool.and_eq_true] at h; exact h.1)]; exact hp
  · cases hp

/-- **roots_closed_forgotten.**  A closed session is not in `c.sessions`; as long as it does not connect again no
later change writes to it. -/
theorem roots_closed_forgotten (s : State) (sid : Nat) (ls : List Label)
    (hno : ∀ m, Label.connect sid m ∉ ls) :
    ∀ ws ∈ (run (step s (.close sid)).1 ls).2, ∀ p ∈ ws, p.1 ≠ sid := by
  have key : ∀ (ls : List Label) (s : State), (∀ m, Label.connect sid m ∉ ls) → (∀ p ∈ s.sessions, p.1 ≠ sid) →
      ∀ ws ∈ (run s ls).2, ∀ p ∈ ws, p.1 ≠ sid := by
    intro ls
    induction ls with
    | nil => intro s _ _ ws h; simp [run] at h
    | cons l ls ih =>
      intro s hno hs ws h
      have hs' : ∀ p ∈ (step s l).1.sessions, p.1 ≠ sid := by
        cases l with
        | add uris => simp only [step]; split <;> exact hs
        | remove uris => exact hs
        | connect sid' m =>
          simp only [step]
          split
          · exact hs
          · intro p hp
            simp only [List.mem_append, List.mem_singleton] at hp
            rcases hp with hp | rfl
            · exact hs p hp
            · intro e
              have e' : sid' = sid := e
              subst e'
              exact hno m (by simp)
        | close sid' =>
          intro p hp
          exact hs p (List.mem_filter.mp hp).1
      simp only [run, List.mem_cons] at h
      rcases h with h | h
      · subst h
        intro p hp
        exact hs' p (sent_subset_sessions s l p hp)
      · exact ih (step s l).1 (fun m hm => hno m (List.mem_cons_of_mem _ hm)) hs' ws h
  apply key ls _ hno
  intro p hp
  have : p ∈ s.sessions ∧ ¬p.1 = sid := by simpa [step] using hp
  exact this.2

structure Link (s : State) (m : MState) : Prop where
  cfg : m.cfg = s.cfg
  roots : m.roots = s.roots
  conn : m.conn = s.sessions
  nodup : (s.sessions.map (·.1)).Nodup

theorem link_init (c : Cfg) : Link { cfg := c } { cfg := c } := ⟨rfl, rfl, rfl, by simp⟩

theorem link_step {s : State} {m : MState} (h : Link s m) (l : Label) : Link (step s l).1 (monNext m l) := by
  obtain ⟨h1, h2, h3, h4⟩ := h
  cases l with
  | add uris =>
    simp only [step, monNext]
    split
    · rename_i e
      have : uris = [] := by cases uris <;> simp_all
      subst this
      exact ⟨h1, by simp [addAll, h2], h3, h4⟩
    · exact ⟨h1, by simp [h2], h3, h4⟩
  | remove uris => exact ⟨h1, by simp [step, monNext, removeAll_set, h2], h3, h4⟩
  | connect sid modern =>
    simp only [step, monNext, h3]
    split
    · exact ⟨h1, h2, h3, h4⟩
    · rename_i e
      refine ⟨h1, h2, rfl, ?_⟩
      simp only [List.map_append, List.map_cons, List.map_nil]
      refine List.nodup_append.mpr ⟨h4, by simp, ?_⟩
      intro a ha b hb
      simp only [List.mem_singleton] at hb
      subst hb
      intro e2
      subst e2
      obtain ⟨p, hp, rfl⟩ := List.mem_map.mp ha
      exact e (List.any_eq_true.mpr ⟨p, hp, by simp⟩)
  | close sid =>
    refine ⟨h1, h2, by simp [step, monNext, h3], ?_⟩
    simp only [step]
    exact (List.Nodup.sublist (List.Sublist.map _ List.filter_sublist) h4)

theorem handled_of_sessions {ss : List (Nat × Bool)} (hn : (ss.map (·.1)).Nodup) :
    (handled ss).Nodup ∧ (∀ sid ∈ handled ss, ∃ p ∈ ss, p.1 = sid) ∧
      (∀ p ∈ ss, p.1 ∈ handled ss) := by
  refine ⟨hn, ?_, ?_⟩
  · intro sid h
    obtain ⟨p, hp, rfl⟩ := List.mem_map.mp h
    exact ⟨p, hp, rfl⟩
  · intro p hp
    exact List.mem_map.mpr ⟨p, hp, rfl⟩

theorem check_silent (m : MState) (l : Label) (h : effective m l = false ∨ gate m.cfg = false) :
    monCheck m l [] = none := by
  rcases h with h | h <;> simp [monCheck, h]

theorem check_full (m : MState) (l : Label) (hg : gate m.cfg = true) (he : effective m l = true)
    (hn : (m.conn.map (·.1)).Nodup) : monCheck m l (handled m.conn) = none := by
  have hh := handled_of_sessions hn
  have h3 : (handled m.conn).any (fun sid => !m.conn.any (·.1 == sid)) = false := by
    rw [List.any_eq_false]
    intro sid hs
    obtain ⟨p, hp, e⟩ := hh.2.1 sid hs
    have : m.conn.any (·.1 == sid) = true := List.any_eq_true.mpr ⟨p, hp, by simp [e]⟩
    simp [this]
  have h5 : m.conn.any (fun p => !(handled m.conn).contains p.1) = false := by
    rw [List.any_eq_false]
    intro p hp
    simpa using hh.2.2 p hp
  simp only [monCheck, hg, he, h3, h5, hh.1]
  simp

theorem effective_eq {s : State} {m : MState} (h : Link s m) (l : Label) : effective m l = changed s l := by
  cases l with
  | remove uris =>
    rw [Bool.eq_iff_iff, changed, roots_remove_changed_iff, ← h.roots]
    simp [effective, List.any_eq_true]
  | _ => rfl

/-- **roots_monitor_accepts_model.**  On the model's own answer (the servers written to) the
monitor raises no clause, for every label in every linked state (`link_init`, `link_step` are the two halves of the
induction along a run, which is not stated). -/
theorem roots_monitor_accepts_model {s : State} {m : MState} (h : Link s m) (l : Label) :
    monCheck m l (handled (step s l).2) = none := by
  rw [(step_spec s l).2.1, ← effective_eq h l, ← h.cfg, ← h.conn]
  cases he : effective m l
  · exact check_silent m l (Or.inl he)
  · cases hg : gate m.cfg
    · exact check_silent m l (Or.inr hg)
    · exact check_full m l hg he (h.conn ▸ h.nodup)

/-- **roots_monitor_sound.**  What each clause means on the history the monitor has recorded (`m`: the configuration,
the roots the client was given and not taken, the servers connected and not closed) and the servers `got` whose
handler ran because of the call `l`: the clause is a violation of the property's sentence it is named after. -/
theorem roots_monitor_sound (m : MState) (l : Label) (got : List Nat) (c : Clause) (h : monCheck m l got = some c) :
    match c with
    | .noChange => got ≠ [] ∧ effective m l = false
    | .disabled => got ≠ [] ∧ gate m.cfg = false
    | .notEntitled => ∃ sid ∈ got, ∀ p ∈ m.conn, p.1 ≠ sid
    | .twice => ¬ got.Nodup
    | .missed => effective m l = true ∧ gate m.cfg = true ∧ ∃ p ∈ m.conn, p.1 ∉ got := by
  -- the chain of five tests: the clause is that of the first test that holds
  simp only [monCheck, ite_some_eq_some, Bool.and_eq_true, Bool.not_eq_true', List.isEmpty_eq_false_iff, decide_eq_false_iff_not,
    reduceCtorEq, and_false, or_false] at h
  rcases h with ⟨e, rfl⟩ | ⟨_, ⟨e, rfl⟩ | ⟨_, ⟨e, rfl⟩ | ⟨_, ⟨e, rfl⟩ | ⟨_, e, rfl⟩⟩⟩⟩
  · exact e
  · exact e
  · obtain ⟨sid, hs, hc⟩ := List.any_eq_true.mp e
    refine ⟨sid, hs, fun p hp e2 => ?_⟩
    have : m.conn.any (·.1 == sid) = true := List.any_eq_true.mpr ⟨p, hp, by simp [e2]⟩
    simp [this] at hc
  · exact e
  · obtain ⟨p, hp, hc⟩ := List.any_eq_true.mp e.2
    exact ⟨e.1.1, e.1.2, p, hp, by simpa using hc⟩

/-- the clauses are reachable: a disabled client that notifies, a skipped server -/
example : monCheck { cfg := { capsNil := false, v2 := some false }, conn := [(1, false)] } (.add [1]) [1] = some .disabled := by decide
example : monCheck { conn := [(1, false), (2, false)] } (.add [1]) [1] = some .missed := by decide
example : monCheck { roots := [4], conn := [(1, false)] } (.remove [5, 5]) [1] = some .noChange := by decide

end Notify.Roots
