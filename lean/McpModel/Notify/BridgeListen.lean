import McpModel.Notify.BridgeStep
/-!
# Bridge: listens and legacy subscriptions (`listen`, `subscribe`, `xlisten`, `ackdone`, `xend`, `canceldone`, `unsubscribe`)

A listen request of a 2026-07-28 session opens at most one listen, the one the server acknowledged with a non-empty
grant, and the monitor lists exactly that one (`Opened`, `rel_open`); the end of a listen takes it off both lists
(`rel_end`).  A legacy session has no listens: its `resources/subscribe` moves `rlive` and the monitor's `luris`
(`rel_legacy`).  The ops differ in what the harness remembers besides (`rsubs`, `parked`, `cancelHeld`, `cs.resourceSubs`).
-/
namespace Notify.Bridge
open Notify Notify.Mon Notify.Sys Generated.Notify

/-- the monitor's live listens after the observation `o` of a listen request: an acknowledgement with a non-empty grant
replaces what stood under the id -/
def listensAfter (L : List MListen) (id : Nat) : Option (List Kind × List Nat) → List MListen
  | some (ak, au) => if ak.isEmpty && au.isEmpty then L else L.filter (·.id != id) ++ [⟨id, ak, au⟩]
  | none => L

/-- What a `subscriptions/listen` under the free id `id`, observed as `o`, opens: nothing (refused, or granted nothing), or
the one listen it acknowledged with a non-empty grant — on the server (`new`) and in the monitor's list alike. -/
structure Opened (s s' : Server) (sid id : Nat) (o : Option (List Kind × List Nat)) (new : List Listen) : Prop where
  listens : s'.listens = new ++ s.listens
  mine : ∀ l ∈ new, l.sid = sid ∧ l.id = id
  acked : ∀ p ∈ s.acked, p ∈ s'.acked
  new_acked : ∀ l ∈ new, (l.sid, l.id) ∈ s'.acked ∧ ¬(l.kinds = [] ∧ l.uris = [])
  after : ∀ L : List MListen, (∀ ml ∈ L, ml.id ≠ id) → ∀ ml, ml ∈ listensAfter L id o ↔ ml ∈ L ∨ ∃ l ∈ new, ml = toM l

theorem Opened.nothing {s s' : Server} {sid id : Nat} {o : Option (List Kind × List Nat)} (h1 : s'.listens = s.listens)
    (h2 : ∀ p ∈ s.acked, p ∈ s'.acked) (ho : o = none ∨ o = some ([], [])) : Opened s s' sid id o [] :=
  ⟨h1, nofun, h2, nofun, fun L _ ml => by rcases ho with rfl | rfl <;> simp [listensAfter]⟩

theorem listenOk_find_none {s : Server} {sid id : Nat} (h : listenOk s sid id = true) :
    s.listens.find? (fun l => l.sid == sid && l.id == id) = none := by
  rw [List.find?_eq_none]
  intro l hl
  have := listenOk_spec h l hl
  simp
  exact fun e1 e2 => this ⟨e1, e2⟩

theorem listenOk_filter {s : Server} {sid id : Nat} (h : listenOk s sid id = true) :
    s.listens.filter (fun l' => !(l'.sid == sid && l'.id == id)) = s.listens := by
  rw [List.filter_eq_self]
  intro l hl
  have := listenOk_spec h l hl
  by_cases e : l.sid = sid
  · have e2 : l.id ≠ id := fun e2 => this ⟨e, e2⟩
    simp [e2]
  · simp [e]

theorem listenOk_of {s : Server} {sid id : Nat} (h : ∀ l ∈ s.listens, ¬(l.sid = sid ∧ l.id = id)) :
    listenOk s sid id = true := by
  simp only [listenOk, List.all_eq_true]
  intro l hl
  have := h l hl
  by_cases e1 : l.sid = sid
  · have e2 : l.id ≠ id := fun e2 => this ⟨e1, e2⟩
    simp [e2]
  · simp [e1]

theorem listenEnd_absent {s : Server} {sid id : Nat} (h : ∀ l ∈ s.listens, ¬(l.sid = sid ∧ l.id = id)) :
    listenEnd s sid id = s := by
  simp only [listenEnd, listenOk_find_none (listenOk_of h)]

theorem listenBoth_spec {s : Server} (hA : InvA s) {sid id : Nat} (ks : List Kind) (us : List Nat)
    (hm : (sid, Gen.modern) ∈ s.sessions) (hid : listenOk s sid id = true) (hnd : us.Nodup) :
    ∃ new, Opened s (listenBoth s sid id ks us).1 sid id (firstAck (listenBoth s sid id ks us).2) new := by
  have hnack : (sid, id) ∉ s.acked := by
    intro hc
    obtain ⟨l, hl, e1, e2⟩ := hA _ hc
    exact listenOk_spec hid l hl ⟨e1, e2⟩
  simp only [listenBoth, listen, hm, hid, hnd, and_self, if_true, listenAck, List.find?_cons, beq_self_eq_true,
    Bool.and_self]
  simp only [hnack, if_false]
  generalize List.filter (gateListen s) ks = ak
  generalize (if resSub s = true then us else []) = au
  by_cases hg : ak = [] ∧ au = []
  · simp only [hg, and_self, if_true, firstAck, List.findSome?_cons]
    refine ⟨[], .nothing ?_ (fun _ hp => hp) (.inr rfl)⟩
    simp only [List.filter_cons, beq_self_eq_true, Bool.and_self, Bool.not_true, Bool.false_eq_true, if_false]
    exact listenOk_filter hid
  · simp only [hg, if_false, firstAck, List.findSome?_cons]
    refine ⟨[⟨sid, id, ak, au⟩], rfl, fun l hl => by rw [List.mem_singleton.1 hl]; exact ⟨rfl, rfl⟩,
      fun _ => List.mem_append_left _, fun l hl => ?_, fun L hL ml => ?_⟩
    · rw [List.mem_singleton.1 hl]; exact ⟨List.mem_append_right _ (List.mem_singleton.2 rfl), hg⟩
    · have hb : (ak.isEmpty && au.isEmpty) = false := by cases ak <;> cases au <;> simp_all
      simp only [listensAfter, hb, Bool.false_eq_true, if_false, List.mem_append, List.mem_filter, List.mem_singleton, exists_eq_left, toM]
      exact or_congr_left ⟨fun hx => hx.1, fun hx => ⟨hx, by simpa using hL ml hx⟩⟩

theorem listenOrRefuse_rlive (y : State) (sid id : Nat) (ks : List Kind) (us : List Nat) :
    (listenOrRefuse y sid id ks us).1.rlive = y.srv.rlive := by
  simp only [listenOrRefuse]
  split
  · exact (step_writes y.srv (.listenRefused sid id ks us _)).2 .rlive rfl
  · exact ((step_writes _ (.listenAck sid id)).2 .rlive rfl).trans ((step_writes y.srv (.listen sid id ks us)).2 .rlive rfl)

theorem listenOrRefuse_spec {y : State} (hok : SrvOk y.srv) {sid id : Nat} (ks : List Kind) (us : List Nat)
    (hm : (sid, Gen.modern) ∈ y.srv.sessions) (hid : listenOk y.srv sid id = true) (hnd : us.Nodup) :
    SameRest y.srv (listenOrRefuse y sid id ks us).1 ∧
    ∃ new, Opened y.srv (listenOrRefuse y sid id ks us).1 sid id (firstAck (listenOrRefuse y sid id ks us).2) new := by
  simp only [listenOrRefuse]
  split
  · rename_i n _
    refine ⟨(step_writes y.srv (.listenRefused sid id ks us n)).sameRest rfl, [], ?_⟩
    obtain ⟨cap, hr⟩ := hok
    have := refused_listen_leaves_no_subscription cap y.srv hr sid id ks us n
    simp only [step] at this
    exact .nothing this.1 (fun p hp => (this.2.2.2.1 p).2 hp) (.inl rfl)
  · exact ⟨((step_writes y.srv (.listen sid id ks us)).sameRest rfl).trans ((step_writes _ (.listenAck sid id)).sameRest rfl),
      listenBoth_spec hok.invA ks us hm hid hnd⟩

theorem listenEnd_acked_iff (s : Server) (sid id : Nat) (hA : InvA s) :
    ∀ p, p ∈ (listenEnd s sid id).acked ↔ (p ∈ s.acked ∧ ¬(p.1 = sid ∧ p.2 = id)) := by
  intro p
  refine ⟨fun hp => ⟨listenEnd_acked_mem.1 hp, fun e => ?_⟩, fun hp => listenEnd_acked_mem.2 hp.1 hp.2⟩
  -- an acknowledged listen is open (`InvA`), and the end of an open listen takes its acknowledgement along
  obtain ⟨l, hl, h1, h2⟩ := hA p (listenEnd_acked_mem.1 hp)
  simp only [listenEnd] at hp
  split at hp
  · rename_i hn
    have := List.find?_eq_none.1 hn l hl
    simp [h1, h2, e.1, e.2] at this
  · exact (mem_dropAck.1 hp).2 e

variable {seen : List Nat} {y : State} {m : MState}

theorem endListen_same (d : MSlot) (x : Nat) :
    MSame { d with listens := d.listens.filter (·.id != x) } (d.endListen x) := (Sound.keepsAll_endListen d x).msame

theorem withWindow_frame (d : MSlot) (p : Bool) (id : Nat) :
    (withWindow d p id).listens = d.listens ∧ (withWindow d p id).luris = d.luris ∧ (withWindow d p id).owed = d.owed ∧
    (withWindow d p id).connected = d.connected ∧ (withWindow d p id).modern = d.modern ∧
    (withWindow d p id).maxHandled = d.maxHandled ∧ (withWindow d p id).invalidated = d.invalidated ∧
    (withWindow d p id).starts = d.starts := ⟨rfl, rfl, rfl, rfl, rfl, rfl, rfl, rfl⟩

theorem csubs_same (d : MSlot) (c : List Nat) : MSame d { d with csubs := c } :=
  ⟨rfl, rfl, rfl, rfl, rfl, rfl, rfl, rfl⟩

theorem addListen_window_same (d : MSlot) (id : Nat) (ks : List Kind) (us : List Nat) (p : Bool) :
    MSame { d with listens := listensAfter d.listens id (some (ks, us)) } (withWindow (d.addListen id ks us) p id) :=
  have h := (Sound.keepsAll_addListen d id ks us p).msame
  ⟨h.connected, h.modern, h.listens, h.luris, h.owed, h.maxHandled, h.invalidated, h.starts⟩

theorem listens_iff_end {ls : List Listen} {L : List MListen} {sid id : Nat}
    (h : ∀ ml, ml ∈ L ↔ ∃ l ∈ ls, l.sid = sid ∧ ml = toM l) :
    ∀ ml, ml ∈ L.filter (·.id != id) ↔
      ∃ l ∈ ls.filter (fun l' => !(l'.sid == sid && l'.id == id)), l.sid = sid ∧ ml = toM l := by
  intro ml
  simp only [mem_dropListen]
  simp only [List.mem_filter]
  constructor
  · rintro ⟨hm, hne⟩
    obtain ⟨l, hl, e1, rfl⟩ := (h ml).1 hm
    exact ⟨l, ⟨hl, fun e => by simp [toM, e.2] at hne⟩, e1, rfl⟩
  · rintro ⟨l, ⟨hl, hne⟩, e1, rfl⟩
    exact ⟨(h _).2 ⟨l, hl, e1, rfl⟩, by simpa [toM] using fun e => hne ⟨e1, e⟩⟩

/-- A listen request of the 2026-07-28 session of slot `i` under the free id `id` (`hfree`).  The new slot `d'` is connected
and no longer gated (`d4`, `d4c`), forgets no `subscribe` (`d5`, `d6`), remembers the URI if the id is that of a `subscribe`
(`d7`: `RelListen.sub_live`), and its caches are as good as the old ones (`dc`); `md'` lists the listen as `listensAfter`
says (`hs`). -/
theorem rel_open (h : Rel seen y m) (i : Slot) (hu : (y.slots i).used = true) (hmod : (y.slots i).modern = true)
    (id : Nat) (ks : List Kind) (us : List Nat) (hnd : us.Nodup)
    (hfree : ∀ l ∈ y.srv.listens, ¬(l.sid = (y.slots i).sid ∧ l.id = id))
    {d' : DSlot} {md' : MSlot}
    (d : DSameId (y.slots i) d') (d4 : d'.gated = false) (d4c : d'.connected = true)
    (d5 : ∀ u, u ∈ (y.slots i).rsubs → u ∈ d'.rsubs) (d6 : d'.cancelHeld = (y.slots i).cancelHeld)
    (d7 : ∀ u, id = ridOf u → u ∈ d'.rsubs)
    (dc : CacheRel (curVersion y) (y.slots i) (m.slots i) → CacheRel (curVersion y) d' (m.slots i))
    (hs : MSame { (m.slots i) with
      listens := listensAfter (m.slots i).listens id (firstAck (listenOrRefuse y (y.slots i).sid id ks us).2) } md') :
    Rel seen (({ y with srv := (listenOrRefuse y (y.slots i).sid id ks us).1 } : State).setSlot i d')
      (m.setSlot i md') := by
  have r := h.row i hu
  have hm : ((y.slots i).sid, Gen.modern) ∈ y.srv.sessions := by have := r.sess; rwa [hmod] at this
  obtain ⟨hrest, new, hout⟩ := listenOrRefuse_spec h.srvOk ks us hm (listenOk_of hfree) hnd
  have hrl := listenOrRefuse_rlive y (y.slots i).sid id ks us
  have hnl := hout.listens
  have hnew := hout.mine
  have hml := hout.after (m.slots i).listens fun ml hml e => by
    obtain ⟨l, hl, e1, rfl⟩ := (r.listens ml).1 hml
    exact hfree l hl ⟨e1, e⟩
  have hack : ∀ l ∈ (listenOrRefuse y (y.slots i).sid id ks us).1.listens,
      (l.sid, l.id) ∈ (listenOrRefuse y (y.slots i).sid id ks us).1.acked ∧ ¬(l.kinds = [] ∧ l.uris = []) := fun l hl => by
    rcases List.mem_append.1 (hnl ▸ hl) with hl | hl
    · exact hout.new_acked l hl
    · exact ⟨hout.acked _ (h.lis.all_acked l hl).1, (h.lis.all_acked l hl).2⟩
  refine h.slot_op i hu (srvOk_listenOrRefuse h.srvOk _ _ _ _)
    (hrest.only (fun l hne => ?_) fun _ _ => by rw [hrl]) hrest.sessions hack d hs.connected
    ⟨?_, ?_, ?_, ?_, fun ml => ?_, ?_, ?_, ?_, ?_, ?_⟩
  · rw [hnl, List.mem_append]
    exact ⟨fun hx => hx.resolve_left fun hx => hne (hnew l hx).1, Or.inr⟩
  · rw [d.sid, d.modern, hrest.sessions]; exact r.sess
  · rw [hs.modern, d.modern]; exact r.modern
  · rw [d4, d4c]; rfl
  · intro hg; rw [d4] at hg; cases hg
  · rw [hs.listens, d.sid]
    show ml ∈ listensAfter _ _ _ ↔ _
    rw [hml, r.listens, hnl]
    simp only [List.mem_append, or_and_right, exists_or]
    exact (or_comm.trans (or_congr_left ⟨fun ⟨l, hl, e⟩ => ⟨l, hl, (hnew l hl).1, e⟩, fun ⟨l, hl, _, e⟩ => ⟨l, hl, e⟩⟩))
  · rw [hs.luris, hrl, d.sid, d.modern]; exact r.luris
  · rintro u ⟨l, hl, e1, e2⟩
    rw [d6]
    rcases List.mem_append.1 (hnl ▸ hl) with hl | hl
    · exact Or.inl (d7 u ((hnew l hl).2.symm.trans e2))
    · exact (r.sub_live u ⟨l, hl, d.sid ▸ e1, e2⟩).imp_left (d5 u)
  · intro hg; rw [d4] at hg; cases hg
  · rw [hs.owed, d.sid]; exact fun k hk => hrest.backed (r.owed k hk)
  · exact (dc r.cache).congr rfl rfl rfl hs.maxHandled hs.invalidated hs.starts

/-- The listen `id` of the session of slot `i` ends (a no-op if it is not open).  `d'` may forget the `subscribe` and the held
cancellation of that id, nothing else (`d5`, `d6`); `md'` drops the listen from its list (`hs`). -/
theorem rel_end (h : Rel seen y m) (i : Slot) (hu : (y.slots i).used = true) (id : Nat)
    {d' : DSlot} {md' : MSlot}
    (d : DSameId (y.slots i) d') (d4 : d'.gated = (y.slots i).gated) (d4c : d'.connected = (y.slots i).connected)
    (d5 : ∀ u, ridOf u ≠ id → u ∈ (y.slots i).rsubs → u ∈ d'.rsubs)
    (d6 : ∀ x, x ≠ id → x ∈ (y.slots i).cancelHeld → x ∈ d'.cancelHeld)
    (dc : CacheRel (curVersion y) (y.slots i) (m.slots i) → CacheRel (curVersion y) d' (m.slots i))
    (hs : MSame { (m.slots i) with listens := (m.slots i).listens.filter (·.id != id) } md') :
    Rel seen (({ y with srv := listenEnd y.srv (y.slots i).sid id } : State).setSlot i d') (m.setSlot i md') := by
  have r := h.row i hu
  have hrest : SameRest y.srv (listenEnd y.srv (y.slots i).sid id) := (step_writes _ (.listenEnd _ _)).sameRest rfl
  refine h.slot_op i hu (h.srvOk.step (.listenEnd _ _)) (hrest.only (fun l hne => ?_) fun _ _ => by rw [listenEnd_rlive])
    hrest.sessions (fun l hl => ?_) d hs.connected ⟨?_, ?_, ?_, ?_, ?_, ?_, ?_, ?_, ?_, ?_⟩
  · rw [listenEnd_listens, mem_dropListen]
    exact ⟨fun hx => hx.1, fun hx => ⟨hx, fun e => hne e.1⟩⟩
  · rw [listenEnd_listens, mem_dropListen] at hl
    have := h.lis.all_acked l hl.1
    exact ⟨(listenEnd_acked_iff _ _ _ h.srvOk.invA _).2 ⟨this.1, hl.2⟩, this.2⟩
  · rw [d.sid, d.modern, hrest.sessions]; exact r.sess
  · rw [hs.modern, d.modern]; exact r.modern
  · rw [d4, d4c]; exact r.gated
  · rw [d4, d.modern]; exact r.gated_modern
  · rw [listenEnd_listens, hs.listens, d.sid]; exact listens_iff_end r.listens
  · rw [hs.luris, listenEnd_rlive, d.sid, d.modern]; exact r.luris
  · rintro u ⟨l, hl, e1, e2⟩
    rw [listenEnd_listens, mem_dropListen] at hl
    rw [d.sid] at e1
    have hid : ridOf u ≠ id := fun e3 => hl.2 ⟨e1, e2.trans e3⟩
    exact (r.sub_live u ⟨l, hl.1, e1, e2⟩).imp (d5 u hid) (d6 _ hid)
  · intro hg l hl
    rw [listenEnd_listens, mem_dropListen] at hl
    rw [d.sid]
    exact r.gated_none (d4 ▸ hg) l hl.1
  · rw [hs.owed, d.sid]; exact fun k hk => hrest.backed (r.owed k hk)
  · exact (dc r.cache).congr rfl rfl rfl hs.maxHandled hs.invalidated hs.starts

/-- A legacy `resources/subscribe` / `unsubscribe`: the server moves `rlive` of that session only (`h4`), and `md'.luris` is the
session's part of it afterwards (`h3`). -/
theorem rel_legacy (h : Rel seen y m) (i : Slot) (hu : (y.slots i).used = true)
    {s' : Server} (hok : SrvOk s') (hrest : SameRest y.srv s') (h1 : s'.listens = y.srv.listens) (h2 : s'.acked = y.srv.acked)
    (lu : List Nat) (h3 : ∀ u, u ∈ lu ↔ ((y.slots i).sid, u) ∈ s'.rlive)
    (h4 : ∀ sid u, sid ≠ (y.slots i).sid → ((sid, u) ∈ s'.rlive ↔ (sid, u) ∈ y.srv.rlive)) :
    Rel seen { y with srv := s' } (m.setSlot i { (m.slots i) with luris := lu }) := by
  have r := h.row i hu
  have := h.slot_op i hu hok (hrest.only (fun _ _ => by rw [h1]) fun p => h4 p.1 p.2) hrest.sessions
    (by rw [h1, h2]; exact h.lis.all_acked) (d' := y.slots i) (md' := { (m.slots i) with luris := lu }) ⟨rfl, rfl, rfl⟩ rfl
    ⟨hrest.sessions ▸ r.sess, r.modern, r.gated, r.gated_modern, h1 ▸ r.listens, fun _ => h3, h1 ▸ r.sub_live,
      h1 ▸ r.gated_none, fun k hk => hrest.backed (r.owed k hk), r.cache.congr rfl rfl rfl rfl rfl rfl⟩
  rw [setSlot_self] at this
  exact this

theorem step_listen (h : Rel seen y m) (i : Slot) (hold : Bool) (hint : Option Who) : StepOk seen y m (.listen i hold) hint := by
  show OkRes seen m _ (sysStep _ _ _)
  simp only [sysStep]
  apply OkRes.ite <;> intro hg
  · exact ⟨rfl, h⟩
  · simp only [Bool.or_eq_true, not_or, Bool.not_eq_true', Bool.not_eq_false] at hg
    obtain ⟨hu, hgt⟩ := hg
    have key := fun P md' => rel_open h i hu (h.sess.gated_modern i hu hgt) 0 (y.slots i).mask [] List.nodup_nil
      (fun l hl e => h.lis.gated_none i hu hgt l hl e.1)
      (d' := { (y.slots i) with gated := false, connected := true, parked := P }) (md' := md') ⟨rfl, rfl, rfl⟩ rfl rfl
      (fun _ hx => hx) rfl (fun u e => by simp [ridOf] at e) (fun hc => hc.congr rfl rfl rfl rfl rfl rfl)
    cases hfa : firstAck (listenOrRefuse y (y.slots i).sid 0 (y.slots i).mask []).2 with
    | none =>
      have := key (y.slots i).parked (m.slots i) (by rw [hfa]; exact MSame.refl _)
      rw [msetSlot_self] at this
      exact ⟨rfl, this⟩
    | some p =>
      exact ⟨rfl, key _ _ (by rw [hfa]; exact addListen_window_same (m.slots i) 0 p.1 p.2 hold)⟩

theorem monNext_subscribe_same (m : MState) (i : Slot) (u : Nat) (hold : Bool) {o : Obs}
    (ho : o = .refused ∨ o = .err ∨ o = .noop) : monNext m ⟨.subscribe i u hold, o⟩ = m := by
  rcases ho with rfl | rfl | rfl <;> (simp only [monNext]; split <;> rfl)

/-- `ClientSession.Subscribe` / `Unsubscribe` touch `cs.resourceSubs` of the read cache only -/
theorem setCache_subs (d : DSlot) (c : Cache.State) (hc : ∃ subs, c = { d.caches .read with subs := subs }) (o : CacheObj) :
    ∃ n subs, (d.setCache .read c).caches o = { d.caches o with now := n, subs := subs } := by
  obtain ⟨s, rfl⟩ := hc
  simp only [DSlot.setCache]
  split
  · rename_i e; subst e; exact ⟨_, _, rfl⟩
  · exact ⟨_, _, rfl⟩

theorem mem_subscribe_rlive {s : Server} {sid : Nat} (hleg : (sid, Gen.legacy) ∈ s.sessions) (id u : Nat) (p : Nat × Nat) :
    p ∈ (subscribe s sid id u).rlive ↔ p ∈ s.rlive ∨ p = (sid, u) := by
  simp only [subscribe, hleg, if_true, List.mem_append, List.mem_singleton]

theorem mem_unsubscribe_rlive {s : Server} {sid : Nat} (hleg : (sid, Gen.legacy) ∈ s.sessions) (u : Nat) (p : Nat × Nat) :
    p ∈ (unsubscribe s sid u).rlive ↔ p ∈ s.rlive ∧ ¬(p.1 = sid ∧ p.2 = u) := by
  simp only [unsubscribe, hleg, if_true, List.mem_filter, Bool.not_eq_true', Bool.and_eq_false_iff, beq_eq_false_iff_ne,
    ne_eq, Classical.not_and_iff_not_or_not]

theorem step_subscribe (h : Rel seen y m) (i : Slot) (u : Nat) (hold : Bool) (hint : Option Who) :
    StepOk seen y m (.subscribe i u hold) hint := by
  show OkRes seen m _ (sysStep _ _ _)
  simp only [sysStep]
  apply OkRes.ite <;> intro hg
  · exact ⟨rfl, by rw [monNext_subscribe_same _ _ _ _ (.inl rfl)]; exact h⟩
  · simp only [Bool.or_eq_true, not_or, Bool.not_eq_true', Bool.not_eq_false] at hg
    obtain ⟨hu, hc⟩ := hg
    apply OkRes.ite_not <;> intro hmod
    · apply OkRes.ite <;> intro _
      · exact ⟨rfl, by rw [monNext_subscribe_same _ _ _ _ (.inl rfl)]; exact h⟩
      · apply OkRes.ite <;> intro _
        · exact ⟨rfl, by rw [monNext_subscribe_same _ _ _ _ (.inr (.inl rfl))]; exact h⟩
        · have hmm : (m.slots i).modern = false := by rw [h.sess.modern i hu]; exact hmod
          have hleg : ((y.slots i).sid, Gen.legacy) ∈ y.srv.sessions := by
            have := h.sess.used_sess i hu
            rw [hmod] at this; exact this
          have w := step_writes y.srv (.subscribe (y.slots i).sid 99 u)
          refine ⟨rfl, ?_⟩
          show Rel seen { y with srv := subscribe y.srv (y.slots i).sid 99 u } (monNext m ⟨.subscribe i u hold, .ok⟩)
          have hnext : monNext m ⟨.subscribe i u hold, .ok⟩ =
              m.setSlot i { (m.slots i) with luris := if (m.slots i).luris.contains u then (m.slots i).luris else (m.slots i).luris ++ [u] } := by
            simp only [monNext]
            rw [if_pos (by rw [hmm]; rfl)]
            by_cases hcn : (m.slots i).luris.contains u = true
            · rw [if_neg (by rw [hcn]; decide), if_pos hcn]
              exact (msetSlot_self m i).symm
            · rw [if_pos (by rw [Bool.eq_false_iff.2 hcn]; decide), if_neg hcn]
          rw [hnext]
          refine rel_legacy h i hu (s' := subscribe y.srv (y.slots i).sid 99 u) (h.srvOk.step (.subscribe _ _ _))
            (w.sameRest rfl) (w.2 .listens rfl) (w.2 .acked rfl) _ ?_ ?_
          · intro u'
            rw [mem_subscribe_rlive hleg, ← h.lis.luris i hu hmod u', Prod.mk.injEq, eq_self, true_and]
            by_cases hcn : (m.slots i).luris.contains u = true
            · rw [if_pos hcn]
              exact ⟨Or.inl, fun h1 => h1.elim id (fun h1 => by subst h1; simpa using hcn)⟩
            · rw [if_neg hcn, List.mem_append, List.mem_singleton]
          · intro sid u' hne
            rw [mem_subscribe_rlive hleg, Prod.mk.injEq]
            exact ⟨fun h1 => h1.elim id (fun h1 => absurd h1.1 hne), Or.inl⟩
    · apply OkRes.ite <;> intro hch
      · exact ⟨rfl, by rw [monNext_subscribe_same _ _ _ _ (.inl rfl)]; exact h⟩
      · apply OkRes.ite <;> intro hrs
        · exact ⟨rfl, by rw [monNext_subscribe_same _ _ _ _ (.inr (.inr rfl))]; exact h⟩
        · have hmm : (m.slots i).modern = true := by rw [h.sess.modern i hu]; exact hmod
          have hgf : (y.slots i).gated = false := by
            have := h.sess.gated i hu
            rwa [hc, eq_comm, Bool.not_eq_true'] at this
          have hfree : ∀ l ∈ y.srv.listens, ¬(l.sid = (y.slots i).sid ∧ l.id = ridOf u) := by
            intro l hl e
            rcases h.lis.sub_live i hu u ⟨l, hl, e.1, e.2⟩ with h1 | h1
            · exact absurd (by simpa using h1) hrs
            · exact absurd (by simpa using h1) hch
          -- the slot of the model after the call, whatever its outcome
          have key := fun P md' => rel_open h i hu hmod (ridOf u) [] [u] (by simp) hfree
            (d' := ({ (y.slots i) with rsubs := (y.slots i).rsubs ++ [u], parked := P } : DSlot).setCache .read
              (Cache.step true ((y.slots i).caches .read) (.sub u)).1) (md' := md')
            ⟨rfl, rfl, rfl⟩ hgf hc (fun _ hx => List.mem_append_left _ hx) rfl
            (fun u' e => by rw [ridOf_inj e]; simp [DSlot.setCache])
            (fun hcr => hcr.of_caches rfl rfl (setCache_subs _ _ ⟨_, rfl⟩))
          cases hfa : firstAck (listenOrRefuse y (y.slots i).sid (ridOf u) [] [u]).2 with
          | none =>
            refine ⟨rfl, ?_⟩
            show Rel seen _ (monNext m ⟨.subscribe i u hold, .noack⟩)
            simp only [monNext]
            rw [if_neg (show ¬(!(m.slots i).modern) = true by rw [hmm]; decide)]
            exact key _ _ (by rw [hfa]; exact ⟨rfl, rfl, rfl, rfl, rfl, rfl, rfl, rfl⟩)
          | some p =>
            refine ⟨rfl, ?_⟩
            show Rel seen _ (monNext m ⟨.subscribe i u hold, .ack p.1 p.2 hold⟩)
            simp only [monNext]
            rw [if_neg (show ¬(!(m.slots i).modern) = true by rw [hmm]; decide)]
            exact key _ _ (by rw [hfa]; exact (addListen_window_same (m.slots i) (ridOf u) p.1 p.2 hold).trans (csubs_same _ _))

theorem step_xlisten (h : Rel seen y m) (i : Slot) (id : Nat) (ks : List Kind) (us : List Nat) (hold : Bool)
    (hint : Option Who) : StepOk seen y m (.xlisten i id ks us hold) hint := by
  show OkRes seen m _ (sysStep _ _ _)
  simp only [sysStep]
  apply OkRes.ite <;> intro hg
  · exact ⟨rfl, h⟩
  · simp only [Bool.or_eq_true, not_or, Bool.not_eq_true', Bool.not_eq_false, Bool.not_eq_true] at hg
    obtain ⟨⟨⟨⟨⟨⟨⟨hu, hc⟩, hmod⟩, hraw⟩, hnd⟩, hpk⟩, hch⟩, hlis⟩ := hg
    have hgf : (y.slots i).gated = false := by
      have := h.sess.gated i hu
      rwa [hc, eq_comm, Bool.not_eq_true'] at this
    have hfree : ∀ l ∈ y.srv.listens, ¬(l.sid = (y.slots i).sid ∧ l.id = id) := by
      intro l hl e
      have := List.any_eq_false.1 hlis l hl
      simp [e.1, e.2] at this
    have hd7 : ∀ u, id = ridOf u → False := by
      intro u e
      simp only [isRaw, ridOf] at hraw e
      simp at hraw
      omega
    have key := fun P md' => rel_open h i hu hmod id ks us (of_decide_eq_true hnd) hfree (d' := { (y.slots i) with parked := P }) (md' := md')
      ⟨rfl, rfl, rfl⟩ hgf hc (fun _ hx => hx) rfl (fun u' e => (hd7 u' e).elim) (fun hcr => hcr.congr rfl rfl rfl rfl rfl rfl)
    cases hfa : firstAck (listenOrRefuse y (y.slots i).sid id ks us).2 with
    | none =>
      refine ⟨rfl, ?_⟩
      show Rel seen _ (monNext m ⟨.xlisten i id ks us hold, .noack⟩)
      by_cases hr : us.any m.refused.contains = true
      · simp only [monNext, hr, if_true]
        exact key _ _ (by rw [hfa]; exact ⟨rfl, rfl, rfl, rfl, rfl, rfl, rfl, rfl⟩)
      · have hnext : monNext m ⟨.xlisten i id ks us hold, .noack⟩ = m := by
          simp only [monNext, hr]; rfl
        rw [hnext]
        have := key (y.slots i).parked (m.slots i) (by rw [hfa]; exact MSame.refl _)
        rw [msetSlot_self] at this
        exact this
    | some p =>
      exact ⟨rfl, key _ _ (by rw [hfa]; exact addListen_window_same (m.slots i) id p.1 p.2 hold)⟩

theorem step_ackdone (h : Rel seen y m) (i : Slot) (id : Nat) (hint : Option Who) :
    StepOk seen y m (.ackdone i id) hint := by
  show OkRes seen m _ (sysStep _ _ _)
  simp only [sysStep]
  apply OkRes.ite <;> intro hg
  · exact ⟨rfl, h⟩
  · simp only [Bool.or_eq_true, not_or, Bool.not_eq_true', Bool.not_eq_false] at hg
    exact ⟨rfl, Rel.slot_tweak h i hg.1 ⟨rfl, rfl, rfl⟩ rfl fun r => { r with cache := r.cache.congr rfl rfl rfl rfl rfl rfl }⟩

theorem step_xend (h : Rel seen y m) (i : Slot) (id : Nat) (hold : Bool) (hint : Option Who) :
    StepOk seen y m (.xend i id hold) hint := by
  show OkRes seen m _ (sysStep _ _ _)
  simp only [sysStep]
  apply OkRes.ite <;> intro _
  · exact ⟨rfl, h⟩
  · apply OkRes.ite <;> intro hg
    · exact ⟨rfl, h⟩
    · simp only [Bool.or_eq_true, not_or, Bool.not_eq_true', Bool.not_eq_false, Bool.not_eq_true] at hg
      have hu : (y.slots i).used = true := hg.1.1.1.1.1
      apply OkRes.ite <;> intro _
      · refine ⟨rfl, ?_⟩
        show Rel seen _ m
        have key := Rel.slot_tweak h i hu (d' := { (y.slots i) with cancelHeld := (y.slots i).cancelHeld ++ [id] })
          (md' := m.slots i) ⟨rfl, rfl, rfl⟩ rfl fun r => { r with
            sub_live := fun u hx => (r.sub_live u hx).imp_right (List.mem_append_left _)
            cache := r.cache.congr rfl rfl rfl rfl rfl rfl }
        rw [msetSlot_self] at key
        exact key
      · refine ⟨rfl, ?_⟩
        show Rel seen _ (m.setSlot i ((m.slots i).endListen id))
        have key := rel_end h i hu id (d' := y.slots i) ⟨rfl, rfl, rfl⟩ rfl rfl (fun _ _ hx => hx) (fun _ _ hx => hx)
          (fun hc => hc) (endListen_same (m.slots i) id)
        rw [setSlot_self] at key
        exact key

theorem step_canceldone (h : Rel seen y m) (i : Slot) (id : Nat) (hint : Option Who) :
    StepOk seen y m (.canceldone i id) hint := by
  show OkRes seen m _ (sysStep _ _ _)
  simp only [sysStep]
  apply OkRes.ite <;> intro hg
  · exact ⟨rfl, h⟩
  · simp only [Bool.or_eq_true, not_or, Bool.not_eq_true', Bool.not_eq_false] at hg
    have hu : (y.slots i).used = true := hg.1
    exact ⟨rfl, rel_end h i hu id ⟨rfl, rfl, rfl⟩ rfl rfl (fun _ _ hx => hx)
      (fun x hne hx => List.mem_filter.2 ⟨hx, by simpa using hne⟩) (fun hc => hc.congr rfl rfl rfl rfl rfl rfl)
      (endListen_same (m.slots i) id)⟩

theorem step_unsubscribe (h : Rel seen y m) (i : Slot) (u : Nat) (hold : Bool) (hint : Option Who) :
    StepOk seen y m (.unsubscribe i u hold) hint := by
  show OkRes seen m _ (sysStep _ _ _)
  simp only [sysStep]
  apply OkRes.ite <;> intro hg
  · exact ⟨rfl, h⟩
  · simp only [Bool.or_eq_true, not_or, Bool.not_eq_true', Bool.not_eq_false, Bool.not_eq_true] at hg
    obtain ⟨⟨⟨hu, hc⟩, hpk⟩, hch⟩ := hg
    apply OkRes.ite_not <;> intro hmod
    · have hmm : (m.slots i).modern = false := by rw [h.sess.modern i hu]; exact hmod
      apply OkRes.ite <;> intro _
      · exact ⟨rfl, h⟩
      · split
        · exact ⟨rfl, h⟩
        refine ⟨rfl, ?_⟩
        have hleg : ((y.slots i).sid, Gen.legacy) ∈ y.srv.sessions := by
          have := h.sess.used_sess i hu
          rw [hmod] at this; exact this
        have w := step_writes y.srv (.unsubscribe (y.slots i).sid u)
        show Rel seen { y with srv := unsubscribe y.srv (y.slots i).sid u } (monNext m ⟨.unsubscribe i u hold, .ok⟩)
        simp only [monNext]
        rw [if_neg (show ¬(m.slots i).modern = true by rw [hmm]; decide)]
        refine rel_legacy h i hu (s' := unsubscribe y.srv (y.slots i).sid u) (h.srvOk.step (.unsubscribe _ _))
          (w.sameRest rfl) (w.2 .listens rfl) (w.2 .acked rfl) _ ?_ ?_
        · intro u'
          rw [mem_unsubscribe_rlive hleg, ← h.lis.luris i hu hmod u', List.mem_filter]
          by_cases e : u' = u
          · subst e; simp
          · simp [e]
        · intro sid u' hne
          rw [mem_unsubscribe_rlive hleg]
          exact ⟨fun hx => hx.1, fun hx => ⟨hx, fun e => hne e.1⟩⟩
    · have hmm : (m.slots i).modern = true := by rw [h.sess.modern i hu]; exact hmod
      have hnextOk : monNext m ⟨.unsubscribe i u hold, .ok⟩ =
          m.setSlot i { ((m.slots i).endListen (ridOf u)) with csubs := (m.slots i).csubs.filter (· != u) } := by
        simp only [monNext]
        rw [if_pos hmm]
      have hend : MSame { (m.slots i) with listens := (m.slots i).listens.filter (·.id != ridOf u) }
          { ((m.slots i).endListen (ridOf u)) with csubs := (m.slots i).csubs.filter (· != u) } :=
        (endListen_same (m.slots i) (ridOf u)).trans (csubs_same _ _)
      apply OkRes.ite <;> intro hrs
      · apply OkRes.ite <;> intro _
        · exact ⟨rfl, h⟩
        · refine ⟨rfl, ?_⟩
          show Rel seen y (monNext m ⟨.unsubscribe i u hold, .ok⟩)
          rw [hnextOk]
          have habs : ∀ l ∈ y.srv.listens, ¬(l.sid = (y.slots i).sid ∧ l.id = ridOf u) := by
            intro l hl e
            rcases h.lis.sub_live i hu u ⟨l, hl, e.1, e.2⟩ with h1 | h1
            · simp [h1] at hrs
            · simp [h1] at hch
          have key := rel_end h i hu (ridOf u) (d' := y.slots i) ⟨rfl, rfl, rfl⟩ rfl rfl (fun _ _ hx => hx) (fun _ _ hx => hx)
            (fun hc => hc) hend
          rw [listenEnd_absent habs, setSlot_self] at key
          exact key
      · have hcache : ∀ C, CacheRel (curVersion y) (y.slots i) (m.slots i) → CacheRel (curVersion y)
            (({ (y.slots i) with rsubs := (y.slots i).rsubs.filter (· != u), cancelHeld := C } : DSlot).setCache .read
              (Cache.step true ((y.slots i).caches .read) (.unsub u)).1) (m.slots i) :=
          fun C hc => hc.of_caches rfl rfl (setCache_subs _ _ ⟨_, rfl⟩)
        apply OkRes.ite <;> intro _
        · refine ⟨rfl, ?_⟩
          show Rel seen _ (m.setSlot i { (m.slots i) with csubs := (m.slots i).csubs.filter (· != u) })
          refine Rel.slot_tweak h i hu ⟨rfl, rfl, rfl⟩ rfl fun r => { r with
            sub_live := fun u' hx => ?_, cache := (hcache _ r.cache).congr rfl rfl rfl rfl rfl rfl }
          replace hx := r.sub_live u' hx
          by_cases e : u' = u
          · subst e; right; simp [DSlot.setCache]
          · rcases hx with hx | hx
            · left; simp [DSlot.setCache, hx, e]
            · right; simp [DSlot.setCache, hx]
        · refine ⟨rfl, ?_⟩
          show Rel seen _ (monNext m ⟨.unsubscribe i u hold, .ok⟩)
          rw [hnextOk]
          refine rel_end h i hu (ridOf u) ⟨rfl, rfl, rfl⟩ rfl rfl ?_ (fun _ _ hx => hx) (hcache _) hend
          intro u' hne hx
          have : u' ≠ u := fun e => hne (by rw [e])
          simp [DSlot.setCache, hx, this]

end Notify.Bridge
