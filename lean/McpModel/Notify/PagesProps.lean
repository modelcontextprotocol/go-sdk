import McpModel.Notify.CacheLemmas
import McpModel.Notify.Pages
/-!
# C18, client caches with several pages (mcp/cache.go: one entry per cursor)

`Notify.Cache` keys ARE cursors: a paginated list is one entry per cursor, filled and expiring (TTL) independently.
A `notifications/…/list_changed` has scope `none`: it covers every cursor.  The theorems below say what the
property asks of such a cache: after the client has handled the notification NO page — first or later, whatever
its TTL has left — that was cached before is served; every page served from the cache afterwards was fetched
after the notification was handled and is at least as new as the state the notification announced.  The second half
(`Notify.Pages`) is about the harness ops `pages …`: what a report of their monitor means, and that an unheld miss
returns the server's current version (`miss_roundtrip`).
-/
namespace Notify.Cache

/-- **list_changed_drops_every_page.**  `methodCache.invalidate`: handling a list-changed notification empties the
cache — the entry of EVERY cursor goes, not only the first page's — and moves the generation, so that every page in
flight at that moment is not stored either (`fill` with `fixed`). -/
theorem list_changed_drops_every_page (s : State) (i : Nat) (n : Notif) (h : s.inbox[i]? = some n)
    (hs : n.scope = none) :
    (handle s i).entries = [] ∧ (handle s i).gen = s.gen + 1 ∧ ∀ k, (listStart (handle s i) k).2 = [] := by
  have he : (handle s i).entries = [] := by
    simp only [handle, h]
    apply List.filter_eq_nil_iff.mpr
    intro p _
    simp [Notif.covers, hs]
  refine ⟨he, by simp [handle, h], ?_⟩
  intro k
  simp [listStart, he]

/-- a cache hit is a call that starts and returns in one step: its ghost is `handled` of that state -/
theorem hit_ghost (s : State) (l : Label) (k v m : Nat) (h : Out.ret k v m true ∈ (step true s l).2) :
    m = s.handled k := by
  rcases step_ret h with ⟨_, e, _⟩ | ⟨e, _⟩
  · exact e
  · cases e

theorem hits_above (ls : List Label) : ∀ (s : State), Inv s → ∀ (k c : Nat), c ≤ s.handled k →
    ∀ v m, Out.ret k v m true ∈ (run true s ls).2 → c ≤ v := by
  induction ls with
  | nil => intro s _ k c _ v m ho; simp [run] at ho
  | cons l ls ih =>
    intro s hs k c hc v m ho
    simp only [run, List.mem_append] at ho
    rcases ho with ho | ho
    · have h1 := hit_ghost s l k v m ho
      have h2 := step_fresh s l hs k v m true ho
      omega
    · exact ih _ (inv_step s l hs) k c (Nat.le_trans hc (handled_mono true s l k)) v m ho

/-- **no_page_from_before_notification.**  Any history `ls1`, then the client handles a list-changed notification
`n`, then any history `ls2` (calls for any cursors, responses, fills, further changes and notifications, the clock
moving past any TTL or not): every page the cache serves in `ls2` (a hit, for ANY cursor `k`) carries a version at
least as new as what `n` announced for it — no page cached before the notification was handled is ever served
again, whatever TTL it had left. -/
theorem no_page_from_before_notification (ls1 ls2 : List Label) (i : Nat) (n : Notif)
    (h : (run true {} ls1).1.inbox[i]? = some n) (hs : n.scope = none) :
    ∀ k v m, Out.ret k v m true ∈ (run true (handle (run true {} ls1).1 i) ls2).2 → n.vers k ≤ v := by
  intro k v m ho
  have hinv : Inv (run true {} ls1).1 := inv_run {} ls1 inv_init
  have hinv' : Inv (handle (run true {} ls1).1 i) := inv_step _ (.handle i) hinv
  have hc : n.covers k = true := by simp [Notif.covers, hs]
  exact hits_above ls2 _ hinv' k (n.vers k) (handled_announced _ i n h k hc) v m ho

/-- **expired_page_not_served.**  TTL expiry is per page: a hit for cursor `k` means the entry of `k` itself is
within its own TTL now (a positive one); the age of other pages is irrelevant. -/
theorem expired_page_not_served (s : State) (k v m : Nat) (h : Out.ret k v m true ∈ (listStart s k).2) :
    ∃ e, s.entries.lookup k = some e ∧ e.v = v ∧ 0 < e.ttl ∧ s.now - e.t < e.ttl := by
  rcases step_ret (fixed := true) (l := .listStart k) h with ⟨_, _, e, he, hv, hval⟩ | ⟨hf, _⟩
  · exact ⟨e, he, hv, by simpa [Entry.valid] using hval⟩
  · cases hf

/-- three pages cached with a long TTL, a change, the notification handled: the call for the THIRD page goes to the
server (no output at `listStart`), although its entry had 60 s left — and a cache that only dropped the first page
would have answered it with version 0 -/
example :
    let ls := [Label.listStart 0, .serve 0 60000, .fill 0, .listStart 1, .serve 0 60000, .fill 0, .listStart 2, .serve 0 60000, .fill 0,
               .bump (fun _ => true), .announce none, .handle 0]
    (run true {} ls).1.entries = [] ∧ (listStart (run true {} ls).1 2).2 = [] := by decide

end Notify.Cache

namespace Notify.Pages
open Notify.Cache

def runModel (m : MState) : List Op → List (Op × Obs)
  | [] => []
  | op :: ops => let r := step m op; (op, r.2) :: runModel r.1 ops

def runMon (m : Mon) : List (Op × Obs) → Option Clause
  | [] => none
  | (op, obs) :: rest => match monStep m op obs with
    | (_, some c) => some c
    | (m', none) => runMon m' rest

theorem monStep_clause {m : Mon} {op : Op} {obs : Obs} {c : Clause} (h : (monStep m op obs).2 = some c) :
    match c with
    | .stalePage => (∃ k v hit, (op = .list k ∨ op = .listheld k) ∧ obs = .ret v hit ∧ v < m.told) ∨
        (∃ k v hit, op = .fill k ∧ obs = .ret v hit ∧ v < (m.starts.lookup k).getD 0)
    | .notNotified => op = .change ∧ ∀ n, obs = .handled n → n = 0 := by
  unfold monStep at h
  split at h <;> dsimp only at h
  · split at h <;> cases h
    rename_i e
    exact ⟨rfl, fun n' hn => by cases hn; simpa using e⟩
  · rename_i hno
    cases h
    exact ⟨rfl, fun n hn => absurd hn (hno n)⟩
  · split at h <;> cases h
    exact .inl ⟨_, _, _, .inl rfl, rfl, ‹_›⟩
  · cases h
  · split at h <;> cases h
    exact .inl ⟨_, _, _, .inr rfl, rfl, ‹_›⟩
  · split at h <;> cases h
    exact .inr ⟨_, _, _, rfl, rfl, ‹_›⟩
  · cases h

/-- **pages_stalePage_sound.**  What the report means on the history the monitor has recorded (`told` = the changes whose
notification the client has handled; `starts` = for every held call that number when it started): a call that
started after `t` changes had been handled returned a version older than `t`. -/
theorem pages_stalePage_sound (m : Mon) (op : Op) (obs : Obs) (h : (monStep m op obs).2 = some .stalePage) :
    (∃ k v hit, (op = .list k ∨ op = .listheld k) ∧ obs = .ret v hit ∧ v < m.told) ∨
    (∃ k v hit, op = .fill k ∧ obs = .ret v hit ∧ v < (m.starts.lookup k).getD 0) :=
  monStep_clause h

/-- **pages_notNotified_sound.**  The report means: the op was a change of every tool and the client handled no
list-changed notification within the 20 ms that follow. -/
theorem pages_notNotified_sound (m : Mon) (op : Op) (obs : Obs) (h : (monStep m op obs).2 = some .notNotified) :
    op = .change ∧ ∀ n, obs = .handled n → n = 0 :=
  monStep_clause h

/-- on the model's own answers the monitor is silent (three pages, a held call across a change, TTL expiry) … -/
example : runMon {} (runModel { ttl := 60000 }
    [.list 0, .list 1, .listheld 2, .change, .fill 2, .list 2, .list 2, .tick 70000, .list 2, .change, .list 1]) = none := by decide

/-- … and a later page served from before the change is reported -/
example : runMon {} [(.list 2, .ret 0 false), (.change, .handled 1), (.list 0, .ret 1 false), (.list 2, .ret 0 true)] = some .stalePage := by
  decide

theorem eraseIdx_concat {α} (l : List α) (a : α) : (l ++ [a]).eraseIdx l.length = l := by
  induction l with
  | nil => rfl
  | cons b l ih => simp [List.eraseIdx, ih]

/-- **miss_roundtrip.**  An unheld miss of the harness op `pages list k` — `listStart` appended the call, `serve` and
`fill` of that call follow at once — returns the server's CURRENT version of that page and leaves the other calls
in flight as they were. -/
theorem miss_roundtrip (c : Cache.State) (f0 : Fill) (ttl : Nat) (hs : f0.stage = .sent) :
    let c1 := { c with fills := c.fills ++ [f0] }
    let i := c1.fills.length - 1
    let c2 := (Cache.step true c1 (.serve i ttl)).1
    (Cache.step true c2 (.fill i)).2 = [.ret f0.key (c.srv f0.key) f0.startMax false] ∧
    (Cache.step true c2 (.fill i)).1.fills = c.fills := by
  simp only [Cache.step, serve, fill, List.length_append, List.length_singleton, Nat.add_sub_cancel]
  simp [hs, eraseIdx_concat]

end Notify.Pages
