import McpModel.Notify.SoundChecks
/-!
# Clause soundness of the C18 monitor: the clauses decided by the ground truth at the record — first those of a
list-changed fan-out, then those of `ResourceUpdated` ("reach exactly the sessions currently subscribed")
-/
namespace Notify.Sound
open Notify Notify.Mon

/-- "every connected session entitled to them … receives … a corresponding list-changed notification": what a
callback of kind `k` sends is the notification of kind `k` -/
def P_wrongKind (tr : Trace) : Prop :=
  ∀ (i : Nat) (r : Rec) (k : Kind) (ds : List SDelivery), tr[i]? = some r → IsFanout r k ds → ∀ x ∈ ds, x.meth = .changed k

/-- "and none when the capability is disabled" -/
def P_disabled (tr : Trace) : Prop :=
  ∀ (i : Nat) (r : Rec) (k : Kind) (ds : List SDelivery), tr[i]? = some r → IsFanout r k ds → ∀ x ∈ ds, x.meth = .changed k → (truthAt tr i).cap k ≠ .off

/-- notifications reach CONNECTED sessions -/
def P_notConnected (tr : Trace) : Prop :=
  ∀ (i : Nat) (r : Rec) (k : Kind) (ds : List SDelivery), tr[i]? = some r → IsFanout r k ds → ∀ x ∈ ds, ((truthAt tr i).slots x.slot).connected = true

/-- a legacy session gets the plain notification (no subscription id) -/
def P_legacyStamped (tr : Trace) : Prop :=
  ∀ (i : Nat) (r : Rec) (k : Kind) (ds : List SDelivery), tr[i]? = some r → IsFanout r k ds → ∀ x ∈ ds,
    ((truthAt tr i).slots x.slot).connected = true → ((truthAt tr i).slots x.slot).modern = false → x.stamp = .plain

/-- the client dispatches the notification to the handler of its kind (or to none) -/
def P_wrongHandler (tr : Trace) : Prop :=
  ∀ (i : Nat) (r : Rec) (k : Kind) (ds : List SDelivery), tr[i]? = some r → IsFanout r k ds → ∀ x ∈ ds, x.hk = .none ∨ x.hk = .kind k

/-- "2026-07-28 sessions with a matching subscription": a complete fan-out reaches a 2026-07-28 session only if a
live listen of it was granted the kind -/
def P_noSubscription (tr : Trace) : Prop :=
  ∀ (i : Nat) (t : Nat) (l : List Delivery) (k : Kind) (ds : List SDelivery), tr[i]? = some (⟨.cbrun k, .sent t l⟩ : Rec) → slotDeliveries l = some ds → ∀ x ∈ ds,
    ((truthAt tr i).slots x.slot).modern = true → ((truthAt tr i).slots x.slot).grantedK k

/-- … and the notification carries the request id of a live listen of the session that was granted the kind -/
def P_badStamp (tr : Trace) : Prop :=
  ∀ (i : Nat) (t : Nat) (l : List Delivery) (k : Kind) (ds : List SDelivery), tr[i]? = some (⟨.cbrun k, .sent t l⟩ : Rec) → slotDeliveries l = some ds → ∀ x ∈ ds,
    ((truthAt tr i).slots x.slot).modern = true →
    ∃ ls ∈ ((truthAt tr i).slots x.slot).listens, Stamp.id ls.id = x.stamp ∧ k ∈ ls.kinds

/-- one run of `notifySessions` writes to a session once -/
def P_twice_complete (tr : Trace) : Prop :=
  ∀ (i : Nat) (t : Nat) (l : List Delivery) (k : Kind) (ds : List SDelivery), tr[i]? = some (⟨.cbrun k, .sent t l⟩ : Rec) → slotDeliveries l = some ds →
    ∀ j : Slot, (ds.filter (·.slot == j)).length ≤ 1

/-- the record of a fan-out or of a ResourceUpdated call lists deliveries to sessions the harness knows -/
def P_malformed (tr : Trace) : Prop :=
  ∀ (i : Nat) (r : Rec), tr[i]? = some r →
    (∀ k, r.op = .cbrun k → r.obs = .none_ ∨ ∃ t l ds, r.obs = .sent t l ∧ slotDeliveries l = some ds) ∧
    (∀ u v, r.op = .rupdated u v → ∃ t l ds, r.obs = .sent t l ∧ slotDeliveries l = some ds)

theorem sound_wrongKind (tr : Trace) (r : Rec) (h : Reports tr r .wrongKind) : ¬ P_wrongKind (tr ++ [r]) := by
  intro hP
  obtain ⟨k, ds, x, hf, hx, hne⟩ := monCheck_why h
  exact hne (hP tr.length r k ds (get_snoc_len tr r) hf x hx)

theorem sound_disabled (tr : Trace) (r : Rec) (h : Reports tr r .disabled) : ¬ P_disabled (tr ++ [r]) := by
  intro hP
  obtain ⟨k, ds, x, hf, hx, h1, h2⟩ := monCheck_why h
  have hgood := hP tr.length r k ds (get_snoc_len tr r) hf x hx h1
  rw [truthAt_snoc_len, ← (monAfter_truth tr).cap] at hgood
  exact hgood h2

theorem sound_notConnected (tr : Trace) (r : Rec) (h : Reports tr r .notConnected) : ¬ P_notConnected (tr ++ [r]) := by
  intro hP
  obtain ⟨k, ds, x, hf, hx, h1⟩ := monCheck_why h
  have hgood := hP tr.length r k ds (get_snoc_len tr r) hf x hx
  rw [truthAt_snoc_len, ← (monAfter_truth tr).connected, h1] at hgood
  cases hgood

theorem sound_legacyStamped (tr : Trace) (r : Rec) (h : Reports tr r .legacyStamped) : ¬ P_legacyStamped (tr ++ [r]) := by
  intro hP
  have hA := monAfter_truth tr
  obtain ⟨k, ds, x, hf, hx, h1, h2, h3⟩ := monCheck_why h
  have hgood := hP tr.length r k ds (get_snoc_len tr r) hf x hx
  rw [truthAt_snoc_len, ← hA.connected, ← hA.modern] at hgood
  exact h3 (hgood h1 h2)

theorem sound_wrongHandler (tr : Trace) (r : Rec) (h : Reports tr r .wrongHandler) : ¬ P_wrongHandler (tr ++ [r]) := by
  intro hP
  obtain ⟨k, ds, x, hf, hx, h1, h2⟩ := monCheck_why h
  exact (hP tr.length r k ds (get_snoc_len tr r) hf x hx).elim h1 h2

theorem sound_noSubscription (tr : Trace) (r : Rec) (h : Reports tr r .noSubscription) : ¬ P_noSubscription (tr ++ [r]) := by
  intro hP
  have hA := monAfter_truth tr
  obtain ⟨k, ds, x, ⟨t, l, e, hsd⟩, hx, h1, h2⟩ := monCheck_why h
  have hgood := hP tr.length t l k ds (by rw [get_snoc_len, e]) hsd x hx
  rw [truthAt_snoc_len, ← hA.modern] at hgood
  rw [(grantedK_truth hA _ k).2 (hgood h1)] at h2
  cases h2

theorem sound_badStamp (tr : Trace) (r : Rec) (h : Reports tr r .badStamp) : ¬ P_badStamp (tr ++ [r]) := by
  intro hP
  have hA := monAfter_truth tr
  obtain ⟨k, ds, x, ⟨t, l, e, hsd⟩, hx, h1, h2⟩ := monCheck_why h
  have hgood := hP tr.length t l k ds (by rw [get_snoc_len, e]) hsd x hx
  rw [truthAt_snoc_len, ← hA.modern, ← hA.listens] at hgood
  obtain ⟨ls, hls, hst, hk⟩ := hgood h1
  simpa [hst, hk] using List.any_eq_false.1 h2 ls hls

theorem sound_malformed (tr : Trace) (r : Rec) (h : Reports tr r .malformed) : ¬ P_malformed (tr ++ [r]) := by
  intro hP
  have hgood := hP tr.length r (get_snoc_len tr r)
  rcases monCheck_why h with ⟨k, e1, e2, e3⟩ | ⟨u, v, e1, e3⟩
  · rcases hgood.1 k e1 with g | ⟨t, l, ds, g1, g2⟩
    · exact e2 g
    · exact e3 t l ds g1 g2
  · obtain ⟨t, l, ds, g1, g2⟩ := hgood.2 u v e1
    exact e3 t l ds g1 g2

/-- whom `ResourceUpdated(u)` has to reach -/
def TSlot.wants (d : TSlot) (u : Nat) : Prop := d.connected = true ∧ d.subscribed u

/-- "resource-updated notifications reach exactly the sessions currently subscribed to that URI": every
subscribed session is reached … -/
def P_updReaches (tr : Trace) : Prop :=
  ∀ (i : Nat) (r : Rec) (u v : Nat) (ds : List SDelivery), tr[i]? = some r → IsUpdated r u v ds →
    ∀ j : Slot, ((truthAt tr i).slots j).wants u → ∃ x ∈ ds, x.slot = j

/-- … no other session is … -/
def P_updOnly (tr : Trace) : Prop :=
  ∀ (i : Nat) (r : Rec) (u v : Nat) (ds : List SDelivery), tr[i]? = some r → IsUpdated r u v ds →
    ∀ x ∈ ds, ((truthAt tr i).slots x.slot).wants u

/-- … and each once -/
def P_updOnce (tr : Trace) : Prop :=
  ∀ (i : Nat) (r : Rec) (u v : Nat) (ds : List SDelivery), tr[i]? = some r → IsUpdated r u v ds →
    ∀ j : Slot, (ds.filter (·.slot == j)).length ≤ 1

/-- what a `ResourceUpdated` call sends is the resource-updated notification -/
def P_updMethod (tr : Trace) : Prop :=
  ∀ (i : Nat) (r : Rec) (u v : Nat) (ds : List SDelivery), tr[i]? = some r → IsUpdated r u v ds → ∀ x ∈ ds, x.meth = .updated

/-- the client hands the resource-updated notification to its handler with the URI the call named -/
def P_updOtherUri (tr : Trace) : Prop :=
  ∀ (i : Nat) (r : Rec) (u v : Nat) (ds : List SDelivery), tr[i]? = some r → IsUpdated r u v ds → ∀ x ∈ ds, x.hk = .uri v

/-- a legacy session gets the resource-updated notification plain (no subscription id) -/
def P_updLegacyStamped (tr : Trace) : Prop :=
  ∀ (i : Nat) (r : Rec) (u v : Nat) (ds : List SDelivery), tr[i]? = some r → IsUpdated r u v ds → ∀ x ∈ ds,
    ((truthAt tr i).slots x.slot).modern = false → x.stamp = .plain

/-- a 2026-07-28 subscriber gets the notification under the request id of a live listen that carries the subscription -/
def P_updBadStamp (tr : Trace) : Prop :=
  ∀ (i : Nat) (r : Rec) (u v : Nat) (ds : List SDelivery), tr[i]? = some r → IsUpdated r u v ds → ∀ x ∈ ds,
    ((truthAt tr i).slots x.slot).modern = true → ((truthAt tr i).slots x.slot).wants u →
    ∃ ls ∈ ((truthAt tr i).slots x.slot).listens, Stamp.id ls.id = x.stamp ∧ u ∈ ls.uris

theorem wants_truth {m : MState} {t : Truth} (hA : Agrees m t) (j : Slot) (u : Nat) :
    ((m.slots j).connected && (m.slots j).grantedU u) = true ↔ (t.slots j).wants u := by
  simp only [Bool.and_eq_true, TSlot.wants, grantedU_truth hA, hA.connected j]

theorem SawUnreached.sound (tr : Trace) (r : Rec) (h : SawUnreached (monAfter {} tr) r) : ¬ P_updReaches (tr ++ [r]) := by
  intro hP
  obtain ⟨u, v, ds, j, hf, hw, hn⟩ := h
  obtain ⟨x, hx, e⟩ := hP tr.length r u v ds (get_snoc_len tr r) hf j (by
    rw [truthAt_snoc_len]; exact (wants_truth (monAfter_truth tr) j u).1 hw)
  have : x ∈ ds.filter (·.slot == j) := List.mem_filter.2 ⟨hx, by simp [e]⟩
  rw [List.length_eq_zero_iff.1 hn] at this
  cases this

theorem sound_updReaches (tr : Trace) (r : Rec) (c : Clause) (h : Reports tr r c)
    (hc : c = .updMissed ∨ c = .updAckWindow ∨ (∃ a b w, c = .lostWindow a b w .updated) ∨ (∃ o a b w, c = .lostOverlap o a b w .updated)) :
    ¬ P_updReaches (tr ++ [r]) := by
  refine SawUnreached.sound tr r ?_
  rcases hc with rfl | rfl | ⟨_, _, _, rfl⟩ | ⟨_, _, _, _, rfl⟩ <;> exact monCheck_why h

theorem sound_updMissed (tr : Trace) (r : Rec) (h : Reports tr r .updMissed) : ¬ P_updReaches (tr ++ [r]) :=
  SawUnreached.sound tr r (monCheck_why h)

theorem sound_updAckWindow (tr : Trace) (r : Rec) (h : Reports tr r .updAckWindow) : ¬ P_updReaches (tr ++ [r]) :=
  SawUnreached.sound tr r (monCheck_why h)

theorem sound_lostWindow_updated (tr : Trace) (r : Rec) (a b : Nat) (w : What) (h : Reports tr r (.lostWindow a b w .updated)) :
    ¬ P_updReaches (tr ++ [r]) :=
  SawUnreached.sound tr r (monCheck_why h)

theorem sound_lostOverlap_updated (tr : Trace) (r : Rec) (o : Bool) (a b : Nat) (w : What)
    (h : Reports tr r (.lostOverlap o a b w .updated)) : ¬ P_updReaches (tr ++ [r]) :=
  SawUnreached.sound tr r (monCheck_why h)

theorem SawUnwanted.sound (tr : Trace) (r : Rec) (h : SawUnwanted (monAfter {} tr) r) : ¬ P_updOnly (tr ++ [r]) := by
  intro hP
  obtain ⟨u, v, ds, j, hf, hw, hn⟩ := h
  obtain ⟨x, hx⟩ := List.exists_mem_of_length_pos hn
  obtain ⟨hx1, hx2⟩ := List.mem_filter.1 hx
  obtain rfl : x.slot = j := by simpa using hx2
  have := hP tr.length r u v ds (get_snoc_len tr r) hf x hx1
  rw [truthAt_snoc_len] at this
  rw [(wants_truth (monAfter_truth tr) x.slot u).2 this] at hw
  cases hw

theorem sound_updOnly (tr : Trace) (r : Rec) (c : Clause) (h : Reports tr r c) (hc : c = .updRefused ∨ c = .updNotSubscribed) :
    ¬ P_updOnly (tr ++ [r]) := by
  refine SawUnwanted.sound tr r ?_
  rcases hc with rfl | rfl <;> exact monCheck_why h

theorem sound_updRefused (tr : Trace) (r : Rec) (h : Reports tr r .updRefused) : ¬ P_updOnly (tr ++ [r]) :=
  SawUnwanted.sound tr r (monCheck_why h)

theorem sound_updNotSubscribed (tr : Trace) (r : Rec) (h : Reports tr r .updNotSubscribed) : ¬ P_updOnly (tr ++ [r]) :=
  SawUnwanted.sound tr r (monCheck_why h)

theorem sound_updTwice (tr : Trace) (r : Rec) (h : Reports tr r .updTwice) : ¬ P_updOnce (tr ++ [r]) := by
  intro hP
  obtain ⟨u, v, ds, j, hf, hn⟩ := monCheck_why h
  have := hP tr.length r u v ds (get_snoc_len tr r) hf j
  omega

theorem sound_updMethod (tr : Trace) (r : Rec) (h : Reports tr r .updMethod) : ¬ P_updMethod (tr ++ [r]) := by
  intro hP
  obtain ⟨u, v, ds, x, hf, hx, hne⟩ := monCheck_why h
  exact hne (hP tr.length r u v ds (get_snoc_len tr r) hf x hx)

theorem sound_updOtherUri (tr : Trace) (r : Rec) (h : Reports tr r .updOtherUri) : ¬ P_updOtherUri (tr ++ [r]) := by
  intro hP
  obtain ⟨u, v, ds, x, hf, hx, hne⟩ := monCheck_why h
  exact hne (hP tr.length r u v ds (get_snoc_len tr r) hf x hx)

theorem sound_updLegacyStamped (tr : Trace) (r : Rec) (h : Reports tr r .updLegacyStamped) : ¬ P_updLegacyStamped (tr ++ [r]) := by
  intro hP
  obtain ⟨u, v, ds, x, hf, hx, h1, h2⟩ := monCheck_why h
  have := hP tr.length r u v ds (get_snoc_len tr r) hf x hx
  rw [truthAt_snoc_len, ← (monAfter_truth tr).modern] at this
  exact h2 (this h1)

theorem sound_updBadStamp (tr : Trace) (r : Rec) (h : Reports tr r .updBadStamp) :
    ¬ (P_updBadStamp (tr ++ [r]) ∧ P_updOnly (tr ++ [r])) := by
  rintro ⟨hP, hO⟩
  have hA := monAfter_truth tr
  obtain ⟨u, v, ds, x, hf, hx, h1, h2⟩ := monCheck_why h
  have hw := hO tr.length r u v ds (get_snoc_len tr r) hf x hx
  have := hP tr.length r u v ds (get_snoc_len tr r) hf x hx
  rw [truthAt_snoc_len] at hw this
  rw [← hA.modern, ← hA.listens] at this
  obtain ⟨ls, hls, hst, hk⟩ := this h1 hw
  simpa [hst, hk] using List.any_eq_false.1 h2 ls hls

end Notify.Sound
