import McpModel.Generated.NotifyGen
/-
E14 — server side of change notifications (mcp/server.go: changeAndNotify, notifySessions, ResourceUpdated, subscribe,
unsubscribe, subscriptionsListen with handOver, bind, disconnect).  Serves C18.

One `Label` is one atomic section of the Go code: a critical section under `Server.mu`
(changeAndNotify, the snapshot half of notifySessions, bind, disconnect, the registration and the
deferred clean-up of subscriptionsListen, subscribe, unsubscribe, the lookup half of
ResourceUpdated), or a runtime event (virtual time passing, a `time.AfterFunc` timer firing —
which only *starts* the callback goroutine; the callback takes the lock in its own label `cbrun`).
A schedule is a list of labels; "for all schedules" is "for all label lists".

The debounce timers of one notification kind are modelled as
  `tracked`  — `pendingNotifications[n]`: `none` = nil; `some (some d)` = a timer armed for instant
               `d`; `some none` = a timer that has fired and was not re-armed;
  `orphans`  — deadlines of armed timers that are no longer in `pendingNotifications` (a callback
               set the slot to nil while `Reset` had re-armed the timer it came from);
  `pending`  — callbacks started by a firing timer that have not yet taken `Server.mu`.
`Timer.Reset` on a fired `AfterFunc` timer re-arms it (trusted runtime semantics, DESIGN §3).

The deferred clean-up of `subscriptionsListen` touches only table entries that carry the id of the
listen that ends (F19: /repo `2f67705`, fixes/F19-listen-cleanup-by-id.patch), and such an entry is
handed over to the newest other open stream of the session that was granted the same notification
(F35, `notify-F30` in this engine: /repo `08480b4`, fixes/notify-F30-overlapping-listens.patch;
`Server.listens` is the field `listens`).

A `subscriptionsListen` handler is TWO labels: `listen` = its registration section under `Server.mu`
(the list-changed tables, resp. the one `subscribe` call), `listenAck` = the write of
`notifications/subscriptions/acknowledged`.  Every other label may be scheduled between the two, and
between the acknowledgement and whatever the handler does next (nothing, in the code that exists:
it parks on `ctx.Done()`).  `ack_after_registration` (Props.lean) is the statement that the code
registers BEFORE it acknowledges: from the instant the client can hold the acknowledgement, every
`notifySessions` snapshot and every `ResourceUpdated` lookup finds the session.

`notifySessions(k)` is a SNAPSHOT under the lock (`cbrun`: the send list is fixed, the timer slot is
cleared) followed by a fan-out loop that writes to one session after the other WITHOUT the lock; a
write may block (back-pressure of one transport, a sending middleware).  The writes are the labels
`deliver k i`: `KState.inflight` holds the sends of every snapshot of kind `k` whose write is still
to come (of any number of concurrent fan-outs), and any other label — a change, a timer, another
callback, a close — may be scheduled between two writes.  A write to a session that has been closed
meanwhile fails (nothing is sent).

A `subscriptions/listen` request may name any number of list-changed kinds AND any number of distinct
URIs (a raw peer; the SDK client sends kinds only, or exactly one URI).  Its registration is, in the
Go code, one critical section for the list-changed tables followed by one `subscribe` call per URI
(each first asks `ServerOptions.SubscribeHandler`); they are ONE label here (`listen`: the handler
accepts every URI; `listenRefused … n`: it refuses the URI at index `n` — the handler has then
registered the kinds and the URIs before it, returns the error, and its deferred functions run: the
label is literally `listenEnd` after the partial `listen`).

`updatedNamed u v` is a `ResourceUpdated` fan-out to the subscribers of `u` whose notification NAMES
`v` (a server that reports a sub-resource of what the client subscribed to — legal per the protocol
text quoted at `ResourceUpdatedNotificationParams.URI`; `updated u` is the case `v = u`).

Environment assumptions, enforced as guards of the labels (a label whose guard fails is a no-op):
`subscriptions/listen` is opened only on a 2026-07-28 session, the request ids of the open listens of
one session are distinct (JSON-RPC), the URIs of one listen are distinct, and `resources/subscribe` /
`resources/unsubscribe` are used only by legacy sessions (`ClientSession.Subscribe` does exactly
this).  ANY number of open listens of one session may ask for the same kind or the same URI, and
they end in any order.

`listens` is `Server.listens` (open streams, NEWEST FIRST here, oldest first in Go) and at the same
time the record of the live handlers the theorems speak about: it is written only by the labels that
are the begin and the end of a handler (`listen_recorded`, `listens_persist` in Props.lean).
Ghost fields: `owed`, `acked`, `rlive`; `acked` is read by `listenAck` (its once-guard) and by System.lean (`.xend`).
Core Lean only (linked into the driver).
-/
namespace Notify
open Generated.Notify

/-- Protocol generation of a server session: `uninit` = bound, no InitializeParams yet. -/
inductive Gen where
  | uninit | legacy | modern
deriving DecidableEq, Repr

/-- `ServerOptions.Capabilities.<X>`: nil, `{ListChanged: true}`, `{ListChanged: false}`. -/
inductive Cap where
  | unset | on | off
deriving DecidableEq, Repr

/-- What a feature-set mutation does: `noop` = `change()` returned false (nothing removed);
`removeN n mixed` = one `Remove*(names…)` call that named `n ≥ 1` registered features (`mixed`: together with names
that were not registered, or no longer when the loop of `featureSet.remove` reached them — the model does not read it). -/
inductive Eff where
  | add | replace | remove | noop
  | removeN (n : Nat) (mixed : Bool)
deriving DecidableEq, Repr

/-- how a name of a `Remove*(names…)` call relates to the feature set when the loop of `featureSet.remove` reaches it:
`absent` = never registered, or removed earlier in the same call (a repeated name) -/
inductive NameAt where
  | present | absent
deriving DecidableEq, Repr

/-- `featureSet.remove(uids…)` as the server sees it: the call is a change iff SOME named feature was present
(`changed` is set in the loop, never reset), and it removes every present one -/
def removeEff (names : List NameAt) : Eff :=
  if names.count .present = 0 then .noop else .removeN (names.count .present) (names.contains .absent)

def delay : Nat := notificationDelayMs

/-- one write of a fan-out; `stamp`: `none` = plain (legacy session), `some id` = the request id of the listen -/
structure Send where
  sid : Nat
  stamp : Option Nat
deriving DecidableEq, Repr

structure KState where
  tracked : Option (Option Nat) := none
  orphans : List Nat := []
  pending : Nat := 0
  /-- `toolChangeSubscriptions` etc.: session id ↦ listen request id -/
  subs : List (Nat × Nat) := []
  /-- sends of snapshots already taken whose write is still to come (fan-out loops in progress) -/
  inflight : List Send := []

/-- `listenStream`: a live `subscriptionsListen` handler (from its registration section on) and what
it was granted (`allowed`) -/
structure Listen where
  sid : Nat
  id : Nat
  kinds : List Kind
  uris : List Nat
deriving DecidableEq, Repr

structure Server where
  cap : Kind → Cap
  now : Nat
  ver : FSet → Nat
  cnt : FSet → Nat
  sessions : List (Nat × Gen)
  ks : Kind → KState
  /-- `resourceSubscriptions`: (uri, session id, request id) -/
  rsubs : List (Nat × Nat × Nat)
  /-- ghost: (session, kind) — the session has been connected since a gated change of that kind
  that no snapshot has covered yet -/
  owed : List (Nat × Kind)
  /-- `Server.listens`: the open streams, newest first -/
  listens : List Listen
  /-- ghost: (session, listen id) — live listen handlers that have written their acknowledgement,
  i.e. subscriptions the CLIENT may know to be live -/
  acked : List (Nat × Nat)
  /-- ghost: (session, uri) — `resources/subscribe` requests of legacy sessions that were registered
  and not yet undone (the live subscriptions of a 2026-07-28 session are the grants of its open
  listens) -/
  rlive : List (Nat × Nat)

def init (cap : Kind → Cap) : Server :=
  { cap := cap, now := 0, ver := fun _ => 0, cnt := fun _ => 0, sessions := [], ks := fun _ => {},
    rsubs := [], owed := [], listens := [], acked := [], rlive := [] }

inductive Out where
  /-- one run of `notifySessions(n)`: the snapshot's send list -/
  | changed (k : Kind) (to : List Send)
  | updated (uri : Nat) (to : List Send)
  | ack (sid id : Nat) (kinds : List Kind) (uris : List Nat)
  /-- one write of a fan-out loop of `notifySessions(k)` -/
  | sent (k : Kind) (x : Send)
  /-- a `ResourceUpdated` fan-out to the subscribers of `uri` whose notification names `named` -/
  | updatedNamed (uri named : Nat) (to : List Send)
deriving Repr, DecidableEq

inductive Label where
  | change (f : FSet) (e : Eff)
  | tick (d : Nat)
  | fireTracked (k : Kind)
  | fireOrphan (k : Kind) (i : Nat)
  | cbrun (k : Kind)
  | deliver (k : Kind) (i : Nat)
  | bind (sid : Nat)
  | hello (sid : Nat) (modern : Bool)
  | listen (sid id : Nat) (kinds : List Kind) (uris : List Nat)
  | listenRefused (sid id : Nat) (kinds : List Kind) (uris : List Nat) (n : Nat)
  | listenAck (sid id : Nat)
  | listenEnd (sid id : Nat)
  | subscribe (sid id uri : Nat)
  | unsubscribe (sid uri : Nat)
  | close (sid : Nat)
  | updated (uri : Nat)
  | updatedNamed (uri named : Nat)
deriving Repr

def setK (s : Server) (k : Kind) (f : KState → KState) : Server :=
  { s with ks := fun k' => if k' = k then f (s.ks k') else s.ks k' }

/-- `shouldSendListChangedNotification` (with `opts.Capabilities` non-nil fields only). -/
def gateSend (s : Server) (k : Kind) : Bool :=
  match sendGate k with
  | none => true
  | some g => s.cap g != .off

def hasFeatures (s : Server) : Kind → Bool
  | .tools => s.cnt .tools > 0
  | .prompts => s.cnt .prompts > 0
  | .resources => s.cnt .resources > 0 || s.cnt .templates > 0

/-- `Server.capabilities()`: a capability left unset is inferred from the features present. -/
def effCap (s : Server) (g : Kind) : Bool :=
  match s.cap g with
  | .on => true
  | .off => false
  | .unset => hasFeatures s g

/-- `allowedSubscriptions`, list-changed part. -/
def gateListen (s : Server) (k : Kind) : Bool :=
  match listenGate k with
  | none => false
  | some g => effCap s g

/-- `allowedSubscriptions`, resource part: `caps.Resources != nil && caps.Resources.Subscribe`
(the harness sets `Subscribe: true` whenever it sets `Resources`; without a SubscribeHandler every URI is refused,
`Sys.State.refused` in System.lean). -/
def resSub (s : Server) : Bool :=
  match s.cap .resources with
  | .unset => hasFeatures s .resources
  | _ => true

def active (st : KState) : Prop :=
  (∃ d, st.tracked = some (some d)) ∨ st.orphans ≠ [] ∨ 0 < st.pending

def genOf (s : Server) (sid : Nat) : Gen := (s.sessions.lookup sid).getD .uninit

def put (l : List (Nat × Nat)) (sid id : Nat) : List (Nat × Nat) :=
  l.filter (fun p => p.1 != sid) ++ [(sid, id)]

/-! ### the atomic sections -/

/-- The feature-set mutation itself (`change()` returned true): version and size move. -/
def bumpVer (s : Server) (f : FSet) (e : Eff) : Server :=
  { s with
    ver := fun f' => if f' = f then s.ver f + 1 else s.ver f',
    cnt := fun f' => if f' = f then (match e with | .add => s.cnt f + 1 | .remove => s.cnt f - 1 | .removeN n _ => s.cnt f - n | _ => s.cnt f)
                     else s.cnt f' }

/-- The body of `if change() && s.shouldSendListChangedNotification(n)`: stop-and-forget when no
session is connected, otherwise create or reset the timer. -/
def arm (s : Server) (k : Kind) : Server :=
  if s.sessions = [] then setK s k (fun st => { st with tracked := none })
  else { setK s k (fun st => { st with tracked := some (some (s.now + delay)) }) with
         owed := s.owed ++ s.sessions.map (fun p => (p.1, k)) }

def notifyChange (s : Server) (k : Kind) : Server := if gateSend s k then arm s k else s

/-- `changeAndNotify`, one critical section under `Server.mu`.  `remove` on an empty set names a feature that is not
there; `removeN n _` needs no guard, `removeEff` builds it only for `n ≥ 1` registered names. -/
def change (s : Server) (f : FSet) (e : Eff) : Server :=
  if e = .noop ∨ (e = .remove ∧ s.cnt f = 0) then s else
  match featureKind f with
  | none => bumpVer s f e
  | some k => notifyChange (bumpVer s f e) k

def legacyRecips (s : Server) : List Send :=
  (s.sessions.filter (fun p => p.2 != .modern)).map (fun p => ⟨p.1, none⟩)

def subRecips (s : Server) (k : Kind) : List Send :=
  match subsTable k with
  | none => []
  | some t => (s.ks t).subs.map (fun p => ⟨p.1, some p.2⟩)

/-- The snapshot `notifySessions(k)` takes under the lock. -/
def sendList (s : Server) (k : Kind) : List Send := legacyRecips s ++ subRecips s k

def cbrun (s : Server) (k : Kind) : Server × List Out :=
  if (s.ks k).pending = 0 then (s, []) else
  ({ setK s k (fun st => { st with
        pending := st.pending - 1, tracked := none,
        orphans := (match st.tracked with | some (some d) => d :: st.orphans | _ => st.orphans),
        inflight := st.inflight ++ sendList s k }) with
     owed := s.owed.filter (fun p => p.2 != k) },
   [.changed k (sendList s k)])

/-- One iteration of the fan-out loop: the `i`-th outstanding send of kind `k` is written (nothing is
sent if its session has been closed since the snapshot). -/
def deliver (s : Server) (k : Kind) (i : Nat) : Server × List Out :=
  match (s.ks k).inflight[i]? with
  | none => (s, [])
  | some x =>
    (setK s k (fun st => { st with inflight := st.inflight.eraseIdx i }),
     if x.sid ∈ s.sessions.map Prod.fst then [.sent k x] else [])

def fireTracked (s : Server) (k : Kind) : Server :=
  match (s.ks k).tracked with
  | some (some d) =>
    if d ≤ s.now then setK s k (fun st => { st with tracked := some none, pending := st.pending + 1 }) else s
  | _ => s

def fireOrphan (s : Server) (k : Kind) (i : Nat) : Server :=
  match (s.ks k).orphans[i]? with
  | some d =>
    if d ≤ s.now then setK s k (fun st => { st with orphans := st.orphans.eraseIdx i, pending := st.pending + 1 }) else s
  | none => s

def bind (s : Server) (sid : Nat) : Server :=
  if sid ∈ s.sessions.map Prod.fst then s else { s with sessions := s.sessions ++ [(sid, .uninit)] }

def hello (s : Server) (sid : Nat) (modern : Bool) : Server :=
  if (sid, Gen.uninit) ∈ s.sessions then
    { s with sessions := s.sessions.map (fun p => if p.1 = sid then (sid, if modern then .modern else .legacy) else p) }
  else s

/-- The request ids of the open listens of one session are distinct. -/
def listenOk (s : Server) (sid id : Nat) : Bool :=
  s.listens.all (fun l => !(l.sid == sid && l.id == id))

/-- The stream was granted a kind whose subscription table is `t`. -/
def grantsK (t : Kind) (l : Listen) : Bool := l.kinds.any (fun k => listenTable k == some t)

def grantsU (u : Nat) (l : Listen) : Bool := l.uris.contains u

/-- `handOver`: the id of the newest stream of session `sid` among `ls` (newest first) for which
`granted` holds. -/
def heir (ls : List Listen) (sid : Nat) (granted : Listen → Bool) : Option Nat :=
  (ls.find? (fun l => l.sid == sid && granted l)).map (·.id)

/-- The registration sections of `subscriptionsListen` (`allowedSubscriptions`, then the tables under
`Server.mu`, then the `subscribe` call of every granted URI, none of which the SubscribeHandler
refuses).  Nothing is written to the client here.
An entry of the same session is overwritten: the tables hold the id of the newest stream. -/
def listen (s : Server) (sid id : Nat) (kinds : List Kind) (uris : List Nat) : Server :=
  if (sid, Gen.modern) ∈ s.sessions ∧ listenOk s sid id = true ∧ uris.Nodup then
    let ak := kinds.filter (gateListen s)
    let au := if resSub s then uris else []
    { s with
        ks := fun t => { s.ks t with
          subs := if ak.any (fun k => listenTable k == some t) then put (s.ks t).subs sid id else (s.ks t).subs },
        rsubs := s.rsubs.filter (fun r => !(r.2.1 == sid && au.contains r.1)) ++ au.map (fun u => (u, sid, id)),
        listens := ⟨sid, id, ak, au⟩ :: s.listens }
  else s

/-- `req.Session.notifySubscriptionAcked(ctx, ackParams)`: the handler that registered as `(sid, id)`
writes its acknowledgement (once).  It touches no table.  A handler that was granted nothing returns
right afterwards (its deferred clean-up finds nothing to delete or hand over); any other handler parks
on `ctx.Done()` and is from now on recorded in `acked`. -/
def listenAck (s : Server) (sid id : Nat) : Server × List Out :=
  match s.listens.find? (fun l => l.sid == sid && l.id == id) with
  | none => (s, [])
  | some l =>
    if (sid, id) ∈ s.acked then (s, []) else
    if l.kinds = [] ∧ l.uris = [] then
      ({ s with listens := s.listens.filter (fun l' => !(l'.sid == sid && l'.id == id)) }, [.ack sid id [] []])
    else ({ s with acked := s.acked ++ [(sid, id)] }, [.ack sid id l.kinds l.uris])

/-- The deferred functions of `subscriptionsListen`.  Only entries that carry the id of
the stream that ends are touched (`unsubscribeListen` for its URIs, the by-id clean-up for the
list-changed tables); each is handed over (`handOver`) to the newest OTHER open stream of the session
that was granted the same thing, and deleted if there is none. -/
def listenEnd (s : Server) (sid id : Nat) : Server :=
  match s.listens.find? (fun l => l.sid == sid && l.id == id) with
  | none => s
  | some l =>
    let rest := s.listens.filter (fun l' => !(l'.sid == sid && l'.id == id))
    { s with
      ks := fun t => { s.ks t with subs := (s.ks t).subs.filterMap (fun p =>
        if p.1 == sid && p.2 == id then (heir rest sid (grantsK t)).map (fun h => (sid, h)) else some p) },
      rsubs := s.rsubs.filterMap (fun r =>
        if r.2.1 == sid && r.2.2 == id && l.uris.contains r.1 then
          (heir rest sid (grantsU r.1)).map (fun h => (r.1, sid, h))
        else some r),
      listens := rest,
      acked := s.acked.filter (fun p => !(p.1 == sid && p.2 == id)) }

/-- `subscriptionsListen` when `SubscribeHandler` refuses the granted URI at index `n`: the handler has
registered the kinds and the URIs before it (`listen … (uris.take n)`), returns the error without
acknowledging anything, and its deferred functions run (`listenEnd`). -/
def listenRefused (s : Server) (sid id : Nat) (kinds : List Kind) (uris : List Nat) (n : Nat) : Server :=
  if (sid, Gen.modern) ∈ s.sessions ∧ listenOk s sid id = true ∧ uris.Nodup ∧ n < uris.length ∧ resSub s = true then
    listenEnd (listen s sid id kinds (uris.take n)) sid id
  else s

def subscribe (s : Server) (sid id uri : Nat) : Server :=
  if (sid, Gen.legacy) ∈ s.sessions then
    { s with rsubs := s.rsubs.filter (fun r => !(r.1 == uri && r.2.1 == sid)) ++ [(uri, sid, id)],
             rlive := s.rlive ++ [(sid, uri)] }
  else s

def unsubscribe (s : Server) (sid uri : Nat) : Server :=
  if (sid, Gen.legacy) ∈ s.sessions then
    { s with rsubs := s.rsubs.filter (fun r => !(r.1 == uri && r.2.1 == sid)),
             rlive := s.rlive.filter (fun p => !(p.1 == sid && p.2 == uri)) }
  else s

/-- `Server.disconnect` (the open streams of the session end with it: their deferred clean-up
finds nothing left to delete). -/
def close (s : Server) (sid : Nat) : Server :=
  { s with
    sessions := s.sessions.filter (fun p => p.1 != sid),
    ks := fun t => { s.ks t with subs := (s.ks t).subs.filter (fun p => p.1 != sid) },
    rsubs := s.rsubs.filter (fun r => r.2.1 != sid),
    owed := s.owed.filter (fun p => p.1 != sid),
    listens := s.listens.filter (fun l => l.sid != sid),
    acked := s.acked.filter (fun p => p.1 != sid),
    rlive := s.rlive.filter (fun p => p.1 != sid) }

/-- `ResourceUpdated`: the subscribers of the URI, split by protocol generation. -/
def updList (s : Server) (uri : Nat) : List Send :=
  (s.rsubs.filter (fun r => r.1 == uri)).map
    (fun r => if genOf s r.2.1 = .modern then ⟨r.2.1, some r.2.2⟩ else ⟨r.2.1, none⟩)

def step (s : Server) : Label → Server × List Out
  | .change f e => (change s f e, [])
  | .tick d => ({ s with now := s.now + d }, [])
  | .fireTracked k => (fireTracked s k, [])
  | .fireOrphan k i => (fireOrphan s k i, [])
  | .cbrun k => cbrun s k
  | .deliver k i => deliver s k i
  | .bind sid => (bind s sid, [])
  | .hello sid m => (hello s sid m, [])
  | .listen sid id kinds uris => (listen s sid id kinds uris, [])
  | .listenRefused sid id kinds uris n => (listenRefused s sid id kinds uris n, [])
  | .listenAck sid id => listenAck s sid id
  | .listenEnd sid id => (listenEnd s sid id, [])
  | .subscribe sid id u => (subscribe s sid id u, [])
  | .unsubscribe sid u => (unsubscribe s sid u, [])
  | .close sid => (close s sid, [])
  | .updated u => (s, [.updated u (updList s u)])
  | .updatedNamed u v => (s, [.updatedNamed u v (updList s u)])

/-- Run a schedule; outputs oldest first. -/
def run (s : Server) : List Label → Server × List Out
  | [] => (s, [])
  | l :: ls =>
    let (s1, o1) := step s l
    let (s2, o2) := run s1 ls
    (s2, o1 ++ o2)

def final (cap : Kind → Cap) (ls : List Label) : Server := (run (init cap) ls).1
def outputs (cap : Kind → Cap) (ls : List Label) : List Out := (run (init cap) ls).2

inductive Reach (cap : Kind → Cap) : Server → Prop where
  | init : Reach cap (init cap)
  | step {s} (l : Label) : Reach cap s → Reach cap (step s l).1

end Notify
