import McpModel.Sessions.BridgeAppend
import McpModel.Sessions.BridgeOpLemmas
/-!
Bridge (E7/C11): POST without a session id on a stateful endpoint (`post -`), and the same with a server-side close
between `Connect` and the publication (`postx`): the entry that results (`createdE`, `racyE`), the labels on a table
with one new entry, the two operations.
-/
namespace Sessions

/-- the entry of a new session after its creating POST has ended and the table has settled -/
def createdE (now T : Nat) (cf : Bool) (e0 : Sess) (k : Kind) (ok : Bool) : Sess :=
  settleE now cf (tryF (endPost now T true) (hdK k ok (tryF (publishF true T ok) e0)))

/-- … when the server closed it between `Connect` and the publication -/
def racyE (now T : Nat) (cf : Bool) (e0 : Sess) (ok : Bool) : Sess :=
  settleE now cf (tryF (endPost now T true) (tryF (publishF true T ok) (tryF (closeDoneF cf) (tryF closeF e0))))

/-- A creating POST is answered at once.  The session lives on exactly when it carried `initialize` and the transport
could open the stream for the answer; otherwise the failed-initialize cleanup closes it, and with no handler in
flight the close completes in the same settling. -/
theorem createdE_eq (s : State) (T : Nat) (u : User) (k : Kind) (ok : Bool) (cf : Bool) :
    createdE s.now T cf (newSess s u k) k ok =
      { newSess s u k with
          pending := none, creating := false, posts := 0, initialized := k == .init && ok,
          closing := !(k == .init && ok), removed := !(k == .init && ok), inMap := k == .init && ok,
          closeErr := !(k == .init && ok) && cf,
          timer := if (k == .init && ok) = true ∧ T ≠ 0 then .armed (s.now + T) else .nil } := by
  -- the publication of the fresh entry and its handler: published, and initialized by an `initialize` that was handed over
  have hpub : hdK k ok (tryF (publishF true T ok) (newSess s u k)) =
      { publishedSess T (newSess s u k) with initialized := k == .init && ok } := by
    have h := hdK_deliver ok k (x := publishedSess T (newSess s u k)) (c := false) rfl nofun
    simp only [Bool.not_false, Bool.and_true] at h
    simpa [tryF, publishF, newSess, publishedSess] using h
  have hle : T ≠ 0 → ¬ s.now + T ≤ s.now := by omega
  rw [createdE, hpub]
  -- the end of the creating POST arms the timer or begins the failed-initialize close, which settling completes
  by_cases hT : T = 0 <;> cases (k == .init && ok) <;>
    simp [newSess, publishedSess, tryF, endPost, settleE, timerFireF, closeDoneF, hT, hle]

/-- Closed and removed before the publication: `publishF` with the check only clears `pending`, and neither the end of the
POST nor the settling finds anything left to do. -/
theorem racyE_eq (s : State) (T : Nat) (u : User) (k : Kind) (ok : Bool) (cf : Bool) :
    racyE s.now T cf (newSess s u k) ok =
      { newSess s u k with pending := none, creating := false, posts := 0, closing := true, removed := true, closeErr := cf } := by
  simp [racyE, newSess, publishF, closeF, tryF, endPost, settleE, timerFireF, closeDoneF]

theorem created_facts (cfg : Cfg) (s : State) (hcfg : s.cfg = cfg) (u : User) (k : Kind) (ok : Bool) (cf : Bool) :
    let E := createdE s.now cfg.timeout cf (newSess s u k) k ok
    E.id = s.next ∧ E.owner = u ∧ EOk cfg s.now 0 0 E ∧
    (if k = .init ∧ ok = true then E.removed = false ∧ E.closing = false ∧ (cfg.timeout ≠ 0 → E.timer = .armed (s.now + cfg.timeout))
     else E.removed = true) := by
  intro E
  have hE : E = _ := createdE_eq s cfg.timeout u k ok cf
  clear_value E
  have hiff : (k = .init ∧ ok = true) ↔ (k == Kind.init && ok) = true := by simp
  cases hlv : (k == Kind.init && ok) <;> rw [hlv] at hE hiff <;> subst hE
  · rw [if_neg (fun h => Bool.noConfusion (hiff.mp h))]
    refine ⟨rfl, rfl, ⟨⟨rfl, rfl, rfl, rfl, rfl, rfl, ?_, ?_, ?_⟩, ?_⟩, rfl⟩ <;> simp
  · rw [if_pos (hiff.mpr rfl)]
    refine ⟨rfl, rfl, ⟨⟨rfl, rfl, rfl, rfl, rfl, rfl, fun _ => ?_, fun _ _ hn _ => ?_, fun d hd => ?_⟩,
      fun h => Bool.noConfusion h⟩, rfl, rfl, fun hT => if_pos ⟨rfl, hT⟩⟩
    · by_cases hT : cfg.timeout = 0 <;> simp [hT]
    · by_cases hT : cfg.timeout = 0 <;> simp [hT, Timer.isArmed] at hn ⊢
    · by_cases hT : cfg.timeout = 0 <;> simp [hT] at hd
      omega

theorem racy_facts (cfg : Cfg) (s : State) (u : User) (k : Kind) (ok : Bool) (cf : Bool) :
    let E := racyE s.now cfg.timeout cf (newSess s u k) ok
    E.id = s.next ∧ E.owner = u ∧ EOk cfg s.now 0 0 E ∧ E.removed = true := by
  intro E
  have hE : E = _ := racyE_eq s cfg.timeout u k ok cf
  clear_value E
  subst hE
  refine ⟨rfl, rfl, ⟨⟨rfl, rfl, rfl, rfl, rfl, rfl, ?_, ?_, ?_⟩, ?_⟩, rfl⟩ <;> simp [newSess]

theorem failed_facts (cfg : Cfg) (s : State) (u : User) :
    (failedSess s u).id = s.next ∧ (failedSess s u).owner = u ∧ EOk cfg s.now 0 0 (failedSess s u) ∧ (failedSess s u).removed = true := by
  refine ⟨rfl, rfl, ⟨⟨?_, ?_, ?_, ?_, ?_, ?_, ?_, ?_, ?_⟩, ?_⟩, rfl⟩ <;> simp [failedSess]

theorem created_upl (s : State) (T : Nat) (u : User) (k : Kind) (ok : Bool) (cf : Bool) :
    (createdE s.now T cf (newSess s u k) k ok).upl = 0 := by
  rw [createdE_eq]; rfl

theorem racy_upl (s : State) (T : Nat) (u : User) (k : Kind) (ok : Bool) (cf : Bool) :
    (racyE s.now T cf (newSess s u k) ok).upl = 0 := by
  rw [racyE_eq]; rfl

def withNew (s : State) (x : Sess) : State := { s with tbl := s.tbl ++ [x], next := s.next + 1 }

theorem map_lift_append_new {t : List Sess} {E : Sess} {next : Nat} (hlt : ∀ e ∈ t, e.id < next) (hE : E.id = next)
    (g : Sess → Sess) : (t ++ [E]).map (lift next g) = t ++ [g E] := by
  rw [List.map_append, map_lift_of_not_mem (fun x hx => Nat.ne_of_lt (hlt x hx))]
  simp [lift, hE]

theorem withNew_nodup {s : State} (hi : Inv s) {x : Sess} (hx : x.id = s.next) : NodupIds (s.tbl ++ [x]) := by
  unfold NodupIds
  rw [List.map_append, List.nodup_append]
  refine ⟨inv_nodupIds hi, by simp, ?_⟩
  intro a ha b hb hab
  simp at hb; subst hb
  obtain ⟨e, he, rfl⟩ := List.mem_map.mp ha
  have := ids_lt hi e he
  omega

theorem withNew_lift {s : State} (hi : Inv s) {x : Sess} (hx : x.id = s.next) (g : Sess → Sess) :
    ({ withNew s x with tbl := (withNew s x).tbl.map (lift s.next g) } : State) = withNew s (g x) := by
  show ({ withNew s x with tbl := (s.tbl ++ [x]).map (lift s.next g) } : State) = _
  rw [map_lift_append_new (ids_lt hi) hx]
  rfl

/-- a label that rewrites the entry of the newest id, on a table whose last entry it is -/
theorem withNew_on {s : State} (hi : Inv s) {x : Sess} (hx : x.id = s.next) {s' : State} {g : Sess → Sess}
    (h : NodupIds (withNew s x).tbl → s' = { withNew s x with tbl := (withNew s x).tbl.map (lift s.next g) }) :
    s' = withNew s (g x) :=
  (h (withNew_nodup hi hx)).trans (withNew_lift hi hx g)

theorem doL_handlerDone_new {s : State} (hst : s.cfg.stateless = false) (hi : Inv s) {x : Sess} (hx : x.id = s.next) (b : Bool) :
    doL (withNew s x) (.handlerDone s.next b) = withNew s (tryF (handlerDoneF b) x) :=
  withNew_on hi hx fun hn => doL_handlerDone (s := withNew s x) hst hn _ _

theorem doL_postEnd_new {s : State} (hst : s.cfg.stateless = false) (hi : Inv s) {x : Sess} (hx : x.id = s.next) (c : Bool) :
    doL (withNew s x) (.postEnd (some s.next) c) = withNew s (tryF (endPost s.now s.cfg.timeout c) x) :=
  withNew_on hi hx fun hn => doL_postEnd (s := withNew s x) hst hn _ _

theorem doL_serverClose_new {s : State} (hst : s.cfg.stateless = false) (hi : Inv s) {x : Sess} (hx : x.id = s.next) :
    doL (withNew s x) (.serverClose s.next) = withNew s (tryF closeF x) :=
  withNew_on hi hx fun hn => doL_serverClose (s := withNew s x) hst hn _

theorem doL_closeDone_new {s : State} (hst : s.cfg.stateless = false) (hi : Inv s) {x : Sess} (hx : x.id = s.next) :
    doL (withNew s x) (.closeDone s.next) = withNew s (tryF (closeDoneF s.closeFails) x) :=
  withNew_on hi hx fun hn => doL_closeDone (s := withNew s x) hst hn _

theorem runHandler_new {s : State} (hst : s.cfg.stateless = false) (hi : Inv s) {x : Sess} (hx : x.id = s.next) (k : Kind) (dlv : Bool) :
    runHandler (withNew s x) s.next k dlv = withNew s (hdK k dlv x) :=
  withNew_on hi hx fun hn => runHandler_eq (s1 := withNew s x) hst hn _ _ _

theorem settle_new {s : State} (hst : s.cfg.stateless = false) (hi : Inv s) {x : Sess} (hx : x.id = s.next)
    (hset : ∀ e ∈ s.tbl, settleE s.now s.closeFails e = e) :
    settle (withNew s x) = withNew s (settleE s.now s.closeFails x) := by
  rw [settle_eq (s := withNew s x) hst (withNew_nodup hi hx)]
  show ({ withNew s x with tbl := (s.tbl ++ [x]).map (settleE s.now s.closeFails) } : State) = _
  rw [List.map_append, map_fixed hset]
  rfl

theorem step_postBegin_none {s : State} (hst : s.cfg.stateless = false) (u : User) (k : Kind) :
    step s (.postBegin none u k) =
      some (if s.connectFails then (withNew s (failedSess s u), .reject 500) else (withNew s (newSess s u k), .tau)) := by
  simp only [step, hst, stepStateful, Bool.false_eq_true, if_false]
  split <;> simp [withNew, stConnectFailed, Generated.Sessions.connectFailed]

theorem findSess_new {s : State} (hi : Inv s) {x : Sess} (hx : x.id = s.next) : findSess s.next (withNew s x).tbl = some x := by
  show findSess s.next (s.tbl ++ [x]) = _
  rw [findSess_append_new (ids_lt hi) hx, if_pos rfl]

theorem step_publish_new {s : State} (hst : s.cfg.stateless = false) (hi : Inv s) {x : Sess} (hx : x.id = s.next) {k : Kind}
    (hp : x.pending = some k) :
    step (withNew s x) (.publish s.next) =
      some (withNew s (tryF (publishF true s.cfg.timeout (s.accepts k)) x),
            postResp s k (if k.isInitialize then some s.next else none) x.closing) := by
  have hf := findSess_new hi hx
  obtain ⟨e', he'⟩ : ∃ e', publishF true s.cfg.timeout (s.accepts k) x = some e' := by
    unfold publishF; rw [hp]; simp only []; split <;> exact ⟨_, rfl⟩
  have hm := modify_eq_map (f := publishF s.cfg.publishChecks s.cfg.timeout (s.accepts k)) (withNew_nodup hi hx) hf
    (by rw [hi.fixed]; exact he')
  rw [map_lift_append_new (ids_lt hi) hx] at hm
  have := step_does.mpr (.rewrite (s := withNew s x) hst (.publish hf hp) hm)
  rw [hi.fixed] at this
  exact this

theorem wasInitialized_new {s : State} (hi : Inv s) : wasInitialized s s.next = false := by
  simp [wasInitialized, findSess_none_of_ge hi (Nat.le_refl _)]

theorem chkAnswer_create {cfg : Cfg} (hst : cfg.stateless = false) (fl : Faults) (tbl : List MSess) (u : UserTok)
    (kind : PKind) (racy : Bool) {st : St}
    (hacc : (st.accepted2xx || (kind != .notif && fl.reqOpen && st == .code 500) || (fl.connOpen && st == .code 500)) = true) :
    chkAnswer cfg fl tbl { verb := .post, ref := .absent, user := u, kind := some kind, racy := racy } st = none := by
  have h1 : ((Verb.post == Verb.other) = false) := rfl
  have h2 : ((some kind : Option PKind) != some PKind.notif) = (kind != PKind.notif) := by cases kind <;> rfl
  simp only [chkAnswer, hst, Bool.false_eq_true, if_false, Ref.name, beq_self_eq_true, if_true, Bool.true_and, h1, h2, hacc]

theorem chkNoId_create {cfg : Cfg} (u : UserTok) {kind : PKind} (racy : Bool) {st : St} {hdr : Option Name}
    (h : kind = .init → st.accepted2xx = true → hdr.isSome = true) :
    chkNoId cfg (some { verb := .post, ref := .absent, user := u, kind := some kind, racy := racy }) st hdr = false := by
  simp only [chkNoId, beq_self_eq_true, Bool.true_and]
  by_cases hk : kind = .init
  · subst hk
    cases hac : st.accepted2xx with
    | false => simp
    | true => have := h rfl hac; cases hdr <;> simp_all
  · have : ((some kind : Option PKind) == some PKind.init) = false := by cases kind <;> simp_all
    simp [this]

/-- The common end of `post -` and `postx` (`racy`): one entry `E` was appended to the table — a session that lives on
(the creation proper: `initialize`, answered 2xx with its id), or an id that is dead already. -/
theorem appended_entry_accepts {cfg : Cfg} {d : RState} {m : Mon} (hs : Sim cfg d m) {op : Op} {u : UserTok} {kind : PKind}
    {racy : Bool} (hreq : op.req = some { verb := .post, ref := .absent, user := u, kind := some kind, racy := racy })
    (hcnt : ∀ st, countersAfter m op st =
      (if kind == .slow then d.nslow + 1 else d.nslow, if kind == .slow then d.nasync else d.nasync + 1))
    (hba : ∀ st, bookAnswer cfg (effFaults cfg m) m.now (tagOf m op) m.tbl m.pend op st = (m.tbl, m.pend))
    (hbs : ∀ st, bookSlots m.tbl m.pend m.run op st = (m.tbl, m.run))
    (hnotick : nowAfter m op = m.now) (hfault : ∀ st, faultsAfter m op st = m.faults)
    {st1 : State} {E : Sess} {status : St} {hdr : Option Name} {log : List LogEnt}
    (hmo : modelOp d op = some { st := st1, status := status, hdr := hdr, hang := false, done := [], log := log, pend := d.pend, nslow := (if kind == .slow then d.nslow + 1 else d.nslow), nasync := (if kind == .slow then d.nasync else d.nasync + 1), released := d.released })
    (hset : settle st1 = withNew d.st E) (hinv1 : Inv st1)
    (hEid : E.id = d.st.next) (hEo : E.owner = u.user) (hEok : EOk cfg d.st.now 0 0 E) (hEu : E.upl = 0)
    (hE : (E.removed = false ∧ E.closing = false ∧ (cfg.timeout ≠ 0 → E.timer = .armed (d.st.now + cfg.timeout)) ∧
            kind = .init ∧ status.accepted2xx = true ∧ hdr = some (sname d.st.next) ∧ racy = false) ∨
          (E.removed = true ∧ (hdr = none ∨ hdr = some (sname d.st.next))))
    (hacc : (status.accepted2xx || (kind != .notif && (effFaults cfg m).reqOpen && status == .code 500) ||
      ((effFaults cfg m).connOpen && status == .code 500)) = true)
    (hlog : chkLog cfg (some { verb := .post, ref := .absent, user := u, kind := some kind, racy := racy }) status log = none)
    (hmint : ∀ h, hdr = some h → isInitKind (some kind) = true ∧ status.accepted2xx = true)
    (hnoid : kind = .init → status.accepted2xx = true → hdr.isSome = true) : Accepts cfg d m op := by
  have hinv2 : Inv (withNew d.st E) := by rw [← hset]; exact settle_inv hinv1
  refine append_accepts (E := E) hs hreq rfl rfl hmo hset rfl rfl rfl rfl rfl hinv2 hEid hEo hEok hEu ?_
    (chkAnswer_create hs.stateful _ _ u kind racy hacc) hlog hmint (chkNoId_create u racy hnoid) (hba _) (hbs _) hnotick
    (hfault _) (hcnt _) (by split <;> omega) (by split <;> omega)
  rcases hE with ⟨a, b, c, dd, e, f, g⟩ | h
  · exact Or.inl ⟨a, b, c, by rw [dd], e, f, g⟩
  · exact Or.inr h

theorem countersAfter_postx (m : Mon) (u : UserTok) (kind : PKind) (st : St) :
    countersAfter m (.postx u kind) st =
      (if kind == .slow then m.nslow + 1 else m.nslow, if kind == .slow then m.nasync else m.nasync + 1) := by
  cases kind <;> rfl

def creatingOp (racy : Bool) (u : UserTok) (kind : PKind) : Op :=
  match racy with
  | false => .post .absent u kind
  | true => .postx u kind

/-- Both run the same labels on the entry `Connect` appends — the publication, the handler when the message is handed
over, the end of the creating POST — and differ in what the entry is when it is published (`racy`: closed and gone) and,
once the POST is forwarded, in what is answered. -/
theorem creating_accepts {cfg : Cfg} {d : RState} {m : Mon} (hs : Sim cfg d m) (racy : Bool) (u : UserTok) (kind : PKind) :
    Accepts cfg d m (creatingOp racy u kind) := by
  have hst := hs.stateful_st
  have hcnt : ∀ st, countersAfter m (creatingOp racy u kind) st =
      (if kind == .slow then d.nslow + 1 else d.nslow, if kind == .slow then d.nasync else d.nasync + 1) := by
    intro st
    rw [← hs.nslow, ← hs.nasync]
    cases racy
    · exact countersAfter_post m .absent u kind st
    · exact countersAfter_postx m u kind st
  have hset0 : ∀ e ∈ d.st.tbl, settleE d.st.now d.st.closeFails e = e := hs.settleE_id _ _ rfl
  have hstep0 := step_postBegin_none (s := d.st) hst u.user kind.kind
  have appended := @appended_entry_accepts cfg d m hs (creatingOp racy u kind) u kind racy (by cases racy <;> rfl) hcnt
    (fun _ => by cases racy <;> simp [creatingOp, bookAnswer, hs.stateful, Ref.name]) (fun _ => by cases racy <;> rfl)
    (by cases racy <;> rfl) (fun _ => by cases racy <;> rfl)
  cases hcf : d.st.connectFails with
  | true =>
    -- the event store refuses `Connect`: the id is born dead
    rw [hcf] at hstep0
    simp only [if_true] at hstep0
    obtain ⟨f1, f2, f3, f4⟩ := failed_facts cfg d.st u.user
    refine appended (st1 := withNew d.st (failedSess d.st u.user)) (status := .code 500) (hdr := none) (log := []) ?_ ?_
      (step_inv hs.inv hstep0) f1 f2 f3 rfl (Or.inr ⟨f4, Or.inl rfl⟩) ?_ (chkLog_nil _ _ _) (fun h hh => by cases hh)
      (fun _ hacc => by simp [St.accepted2xx] at hacc)
    · cases racy <;>
        (dsimp only [creatingOp, modelOp]; simp only [Ref.sid, Option.isNone_none, hst, Bool.not_false, Bool.and_self, if_true, Bool.false_eq_true,
          if_false, hstep0])
    · rw [settle_new hst hs.inv f1 hset0, settleE_removed_id f4]
    · simp [hs.effFaults_after.2.2, hcf]
  | false =>
    rw [hcf] at hstep0
    simp only [Bool.false_eq_true, if_false] at hstep0
    have hinv0 := step_inv hs.inv hstep0
    -- the entry when it is published — fresh, or (`racy`) closed by the server and gone — and what the rest of the chain makes of it
    obtain ⟨x1, hpre, hx1id, hx1p, hx1c, hinv1, hfacts⟩ : ∃ x1 : Sess,
        (bif racy then doL (doL (withNew d.st (newSess d.st u.user kind.kind)) (.serverClose d.st.next)) (.closeDone d.st.next)
          else withNew d.st (newSess d.st u.user kind.kind)) = withNew d.st x1 ∧
        x1.id = d.st.next ∧ x1.pending = some kind.kind ∧ x1.closing = racy ∧ Inv (withNew d.st x1) ∧
        ∀ ok : Bool,
          let E := settleE d.st.now d.st.closeFails (tryF (endPost d.st.now d.st.cfg.timeout true)
            (hdK kind.kind (ok && !racy) (tryF (publishF true d.st.cfg.timeout ok) x1)))
          E.id = d.st.next ∧ E.owner = u.user ∧ EOk cfg d.st.now 0 0 E ∧ E.upl = 0 ∧
          (if racy = false ∧ kind.kind = .init ∧ ok = true then
            E.removed = false ∧ E.closing = false ∧ (cfg.timeout ≠ 0 → E.timer = .armed (d.st.now + cfg.timeout))
           else E.removed = true) := by
      cases racy
      · refine ⟨_, rfl, rfl, rfl, rfl, hinv0, fun ok => ?_⟩
        obtain ⟨f1, f2, f3, f4⟩ := created_facts cfg d.st hs.cfg_eq u.user kind.kind ok d.st.closeFails
        simp only [Bool.not_false, Bool.and_true, true_and, hs.cfg_eq]
        exact ⟨f1, f2, f3, created_upl _ _ _ _ _ _, f4⟩
      · refine ⟨tryF (closeDoneF d.st.closeFails) (tryF closeF (newSess d.st u.user kind.kind)), ?_, ?_, ?_, ?_, ?_, fun ok => ?_⟩
        · rw [cond_true, doL_serverClose_new hst hs.inv rfl, doL_closeDone_new hst hs.inv (by rw [keepsId_close]; rfl)]
        · rw [keepsId_closeDone, keepsId_close]; rfl
        · simp [tryF, closeF, closeDoneF, newSess]
        · simp [tryF, closeF, closeDoneF, newSess]
        · rw [← doL_closeDone_new hst hs.inv (by rw [keepsId_close]; rfl), ← doL_serverClose_new hst hs.inv rfl]
          exact doL_inv (doL_inv hinv0 _) _
        · obtain ⟨f1, f2, f3, f4⟩ := racy_facts cfg d.st u.user kind.kind ok d.st.closeFails
          simp only [Bool.not_true, Bool.and_false, hdK_false, id, reduceCtorEq, false_and, if_false, hs.cfg_eq]
          exact ⟨f1, f2, f3, racy_upl _ _ _ _ _ _, f4⟩
    have hpub := step_publish_new hst hs.inv hx1id hx1p
    rw [hx1c] at hpub
    have haccD : d.st.accepts kind.kind = !(kind.kind.hasCall && d.st.openFails) := rfl
    generalize d.st.accepts kind.kind = ok at hpub haccD
    have hyid : (tryF (publishF true d.st.cfg.timeout ok) x1).id = d.st.next := by
      cases hf : publishF true d.st.cfg.timeout ok x1 with
      | none => simpa [tryF, hf] using hx1id
      | some y => simpa [tryF, hf] using (keeps_publishF hf).1.trans hx1id
    have hsettle : ∀ dlv, settle (doL (runHandler (withNew d.st (tryF (publishF true d.st.cfg.timeout ok) x1))
          d.st.next kind.kind dlv) (.postEnd (some d.st.next) true)) =
        withNew d.st (settleE d.st.now d.st.closeFails (tryF (endPost d.st.now d.st.cfg.timeout true)
          (hdK kind.kind dlv (tryF (publishF true d.st.cfg.timeout ok) x1)))) := by
      intro dlv
      rw [runHandler_new hst hs.inv hyid, doL_postEnd_new hst hs.inv (by rw [keepsId_hdK]; exact hyid),
        settle_new hst hs.inv (by rw [keepsId_endPost, keepsId_hdK]; exact hyid) hset0]
    have hinv2 : ∀ dlv, Inv (doL (runHandler (withNew d.st (tryF (publishF true d.st.cfg.timeout ok) x1))
          d.st.next kind.kind dlv) (.postEnd (some d.st.next) true)) :=
      fun dlv => doL_inv (runHandler_inv (step_inv hinv1 hpub) _ _ _) _
    have hnoH : ∀ st : State, runHandler st d.st.next kind.kind false = st := fun st => by cases kind.kind <;> rfl
    obtain ⟨f1, f2, f3, fu, f4⟩ := hfacts ok
    cases ok with
    | false =>
      -- the transport cannot open the stream for the answer: nothing is handed over, the failed-initialize cleanup closes the session
      have hacc' : kind.kind.hasCall = true ∧ d.st.openFails = true := by simpa using haccD
      have hresp : postResp d.st kind.kind (if kind.kind.isInitialize then some d.st.next else none) racy = .storeRefused 500 := by
        simp [postResp, State.accepts, ← haccD, stStoreOpenFailed, Generated.Sessions.storeOpenFailed]
      rw [hresp] at hpub
      simp only [Bool.false_and] at f1 f2 f3 fu f4
      rw [if_neg (fun h => Bool.noConfusion h.2.2)] at f4
      refine appended (status := .code 500) (hdr := none) (log := []) ?_ (hsettle false) (hinv2 false) f1 f2 f3 fu
        (Or.inr ⟨f4, Or.inl rfl⟩) ?_ (chkLog_nil _ _ _) (fun h hh => by cases hh) (fun _ hac => by simp [St.accepted2xx] at hac)
      · cases racy <;> simp only [cond_false, cond_true] at hpre <;>
          (dsimp only [creatingOp, modelOp]; simp only [Ref.sid, Option.isNone_none, hst, Bool.not_false, Bool.and_self, if_true, hstep0, hpre, hpub,
            Option.getD_none, Bool.false_eq_true, if_false, hnoH])
      · rw [kind_hasCall] at hacc'
        simp [hs.effFaults_after.2.1, hacc'.1, hacc'.2]
    | true =>
      have hresp : postResp d.st kind.kind (if kind.kind.isInitialize then some d.st.next else none) racy =
          .forward (if kind.kind.isInitialize then some d.st.next else none) (!racy) := by
        simp [postResp, State.accepts, ← haccD]
      rw [hresp] at hpub
      cases racy with
      | false =>
        -- forwarded and handed over: the handler runs, the POST is answered as any POST; the session lives on iff it was `initialize`
        simp only [cond_false] at hpre
        have hwas := wasInitialized_new hs.inv
        refine appended (status := postStatus kind) (hdr := postHdr kind ((if kind.kind.isInitialize then some d.st.next else none).map sname))
          (log := postLog (sname d.st.next) u kind true true) ?_ (hsettle true) (hinv2 true) f1 f2 f3 fu ?_
          (by simp [postStatus_accepted])
          (chkLog_post hs.stateful (fun n h => by cases h) (postStatus_rejected kind) fun l hl => postLog_mem hl) ?_
          (fun hk _ => by subst hk; rfl)
        · dsimp only [creatingOp, modelOp]; simp only [Ref.sid, Option.isNone_none, hst, Bool.not_false, Bool.and_self, if_true, hstep0, hpre, hpub,
            Option.getD_none, Bool.false_eq_true, if_false, hwas, Bool.and_false]
        · by_cases hk : kind = .init
          · subst hk
            rw [if_pos ⟨rfl, rfl, rfl⟩] at f4
            exact Or.inl ⟨f4.1, f4.2.1, f4.2.2, rfl, rfl, rfl, rfl⟩
          · rw [if_neg (fun h => hk ((kind_init kind).mp h.2.1))] at f4
            refine Or.inr ⟨f4, ?_⟩
            rw [postHdr_sname]
            cases isInitKind (some kind)
            · exact Or.inl rfl
            · exact Or.inr rfl
        · intro h hh
          rw [postHdr_sname] at hh
          split at hh
          · exact ⟨‹_›, postStatus_accepted kind⟩
          · cases hh
      | true =>
        -- forwarded to a session that is closed and gone: answered 200 by the connection, nothing is handed over
        simp only [cond_true] at hpre
        rw [if_neg (fun h => Bool.noConfusion h.1)] at f4
        refine appended (status := .code 200) (hdr := (if kind.kind.isInitialize then some d.st.next else none).map sname) (log := []) ?_
          (hsettle false) (hinv2 false) f1 f2 f3 fu (Or.inr ⟨f4, ?_⟩) (by simp [St.accepted2xx])
          (chkLog_nil _ _ _) ?_ (fun hk _ => by subst hk; simp [PKind.kind, Kind.isInitialize])
        · dsimp only [creatingOp, modelOp]; simp only [hst, Bool.false_eq_true, if_false, hstep0, hpre, hpub, hnoH]
        · cases kind.kind.isInitialize <;> simp
        · intro h hh
          rw [kind_isInit] at hh
          cases hik : isInitKind (some kind) with
          | false => rw [hik] at hh; simp at hh
          | true => exact ⟨rfl, rfl⟩

theorem post_absent_accepts {cfg : Cfg} {d : RState} {m : Mon} (hs : Sim cfg d m) (u : UserTok) (kind : PKind) :
    Accepts cfg d m (.post .absent u kind) := creating_accepts hs false u kind

theorem sim_post_absent {cfg : Cfg} {d d' : RState} {m : Mon} {o : Obs} (hs : Sim cfg d m) (u : UserTok) (kind : PKind)
    (hop : replayOp d (.post .absent u kind) = some (d', o)) :
    (monStep cfg m (.post .absent u kind) o).viol = none ∧ Sim cfg d' (monStep cfg m (.post .absent u kind) o).mon :=
  (post_absent_accepts hs u kind).of_replay hop

theorem postx_accepts {cfg : Cfg} {d : RState} {m : Mon} (hs : Sim cfg d m) (u : UserTok) (kind : PKind) :
    Accepts cfg d m (.postx u kind) := creating_accepts hs true u kind

theorem sim_postx {cfg : Cfg} {d d' : RState} {m : Mon} {o : Obs} (hs : Sim cfg d m) (u : UserTok) (kind : PKind)
    (hop : replayOp d (.postx u kind) = some (d', o)) :
    (monStep cfg m (.postx u kind) o).viol = none ∧ Sim cfg d' (monStep cfg m (.postx u kind) o).mon :=
  (postx_accepts hs u kind).of_replay hop

end Sessions
