import McpModel.Sessions.Gate
import McpModel.Sessions.Bridge
/-!
E7 — requests refused before the session layer (Gate.lean): the bridge and the property.

`gate_sim_step` is `sim_step` for these requests: on the model's observation of a refused request the monitor
reports nothing and the simulation relation between replay state and monitor state is kept.  (Only the step: `Op` has no refused
request, so no theorem over histories mixes the two.)
`gate_no_effect`: in the model a refused request changes nothing — the replay state, hence every later
observation, is the one of a `tick 0`.
-/
namespace Sessions

/-- 415 / 400 as the handler's documentation says, on both kinds of endpoint; a stateless endpoint refuses a GET
for its method (405) before it looks at `Accept`. -/
theorem gate_status_codes :
    Why.status false .ctype = 415 ∧ Why.status true .ctype = 415 ∧ Why.status false .accept = 400 ∧
    Why.status true .accept = 400 ∧ Why.status false .getAccept = 400 ∧ Why.status true .getAccept = 405 ∧
    Why.status false .noServer = 400 ∧ Why.status true .noServer = 400 ∧
    (∀ b, Why.status b .origin = 403) ∧ (∀ b, Why.status b .host = 403) := by decide

theorem status_refused (w : Why) (b : Bool) : (St.code (w.status b)).refused4xx = true := by
  cases w <;> cases b <;> decide

/-- A refused request has **no effect** on the model: the state after it is the state after `tick 0`, and the
observation differs from that of `tick 0` in the status only. -/
theorem gate_no_effect {d d' : RState} {o : Obs} {w : Why} (h : gateModel d w = some (d', o)) :
    ∃ o0, replayOp d (.tick 0) = some (d', o0) ∧ o = { o0 with status := .code (w.status d.st.cfg.stateless) } := by
  simp only [gateModel] at h
  split at h
  · rename_i d1 o1 h1
    simp at h
    exact ⟨o1, by rw [h1, h.1], h.2.symm⟩
  · simp at h

theorem tick_status {d d' : RState} {o : Obs} {n : Nat} (h : replayOp d (.tick n) = some (d', o)) : o.status = .ok := by
  simp only [replayOp, modelOp] at h
  simp at h
  rw [← h.2]

/-- **The monitor is silent on the model's refused requests**, and the simulation relation is kept. -/
theorem gate_sim_step {cfg : Cfg} {d d' : RState} {m : Mon} {o : Obs} {w : Why} (hs : SimAny cfg d m)
    (hcfg : d.st.cfg.stateless = cfg.stateless) (h : gateModel d w = some (d', o)) :
    (gateJudge cfg m w o).2 = none ∧ SimAny cfg d' (gateJudge cfg m w o).1 := by
  obtain ⟨o0, h0, ho⟩ := gate_no_effect h
  have hst := tick_status h0
  have key := sim_step hs (.tick 0) h0
  have e : ({ o with status := St.ok } : Obs) = o0 := by
    subst ho
    cases o0
    simp at hst ⊢
    exact hst.symm
  simp only [gateJudge, e]
  refine ⟨?_, key.2⟩
  have : o.status.refused4xx = true := by
    rw [ho]
    exact status_refused w _
  simp [this, key.1]

theorem gate_answer_sound {cfg : Cfg} {m : Mon} {w : Why} {o : Obs} {w' : Why} {st : St}
    (h : (gateJudge cfg m w o).2 = some (.answered w' st)) :
    w' = w ∧ st = o.status ∧ o.status.refused4xx = false := by
  simp only [gateJudge] at h
  split at h
  · rename_i hne
    simp at h
    exact ⟨h.1.symm, h.2.symm, by simpa using hne⟩
  · cases hv : (monStep cfg m (.tick 0) { o with status := .ok }).viol <;> simp [hv] at h

/-- soundness of the effect clause: it is the clause the C11 monitor reports for "nothing happened" — its meaning
is given by `monitor_sound` (Sound.lean) on the trace in which the refused request is replaced by `tick 0`. -/
theorem gate_effect_sound {cfg : Cfg} {m : Mon} {w : Why} {o : Obs} {c : Clause}
    (h : (gateJudge cfg m w o).2 = some (.effect c)) :
    (monStep cfg m (.tick 0) { o with status := .ok }).viol = some c := by
  simp only [gateJudge] at h
  split at h
  · simp at h
  · cases hv : (monStep cfg m (.tick 0) { o with status := .ok }).viol <;> simp [hv] at h
    rw [h]

end Sessions
