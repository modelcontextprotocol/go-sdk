import McpModel.Sessions.BridgeOne
import McpModel.Sessions.BridgeOpLemmas
/-!
Bridge (E7/C11): the operations GET and other methods.
-/
namespace Sessions

theorem get_accepts {cfg : Cfg} {d : RState} {m : Mon} (hs : Sim cfg d m) (ref : Ref) (u : UserTok) :
    Accepts cfg d m (.get ref u) := by
  have hst := hs.stateful_st
  have hbook : ∀ st, bookAnswer cfg (effFaults cfg m) m.now (tagOf m (.get ref u)) m.tbl m.pend (.get ref u) st = (m.tbl, m.pend) := by
    intro st; simp [bookAnswer, hs.stateful]
  have hcnt : ∀ st, countersAfter m (.get ref u) st = (d.nslow, d.nasync + 1) := by
    intro st; simp [countersAfter, hs.nslow, hs.nasync]
  have hreq : (Op.get ref u).req = some { verb := .get, ref := ref, user := u } := rfl
  have answered : ∀ (st : St) (hang : Bool),
      modelOp d (.get ref u) = some { st := d.st, status := st, hang := hang, pend := d.pend, nslow := d.nslow, nasync := d.nasync + 1, released := d.released } →
      chkAnswer cfg (effFaults cfg m) m.tbl { verb := .get, ref := ref, user := u } st = none →
      Accepts cfg d m (.get ref u) := by
    intro st hang hmo hans
    exact quiet_accepts hs hmo (hcnt st) (by rw [hreq]; exact hans) (hbook st) rfl rfl rfl
      (by simp [chkNoId, hreq]) (Nat.le_refl _) (Nat.le_succ _)
  rcases ref_lookup hs ref u with hr | ⟨i, n, hsid, hname, hlk⟩
  · subst hr
    apply answered (.code 400) false
    · dsimp only [modelOp]; simp [Ref.sid, step, hst, stepStateful, stMissingIdGet, Generated.Sessions.serveStatefulGETMissingID]
    · simp [chkAnswer, hs.stateful, Ref.name]
  · cases hl : lookup d.st.tbl i u.user with
    | error c =>
      rw [hl] at hlk
      exact answered (.code c) false (by dsimp only [modelOp]; simp [hsid, step, hst, stepStateful, hl]) (hlk.2 _ _ rfl rfl (by simp))
    | ok e =>
      rw [hl] at hlk
      obtain ⟨hi, rfl⟩ := hlk
      cases hrf : d.st.replayFails with
      | true =>
        apply answered (.code 400) false
        · dsimp only [modelOp]; simp [hsid, step, hst, stepStateful, hl, hrf, stReplayFailed, Generated.Sessions.replayFailed]
        · apply chkAnswer_admitted hs _ _ (by simp) hi hname hl <;> simp [hs.effFaults_after.1, hrf]
      | false =>
        apply answered (.code 200) true
        · dsimp only [modelOp]; simp [hsid, step, hst, stepStateful, hl, hrf]
        · apply chkAnswer_admitted hs _ _ (by simp) hi hname hl <;> simp [St.accepted2xx]

theorem sim_get {cfg : Cfg} {d d' : RState} {m : Mon} {o : Obs} (hs : Sim cfg d m) (ref : Ref) (u : UserTok)
    (hop : replayOp d (.get ref u) = some (d', o)) :
    (monStep cfg m (.get ref u) o).viol = none ∧ Sim cfg d' (monStep cfg m (.get ref u) o).mon :=
  (get_accepts hs ref u).of_replay hop

theorem other_accepts {cfg : Cfg} {d : RState} {m : Mon} (hs : Sim cfg d m) (ref : Ref) (u : UserTok) :
    Accepts cfg d m (.other ref u) := by
  have hst := hs.stateful_st
  have hmo : modelOp d (.other ref u) = some { st := d.st, status := .code 405, pend := d.pend, nslow := d.nslow, nasync := d.nasync + 1, released := d.released } := by
    dsimp only [modelOp]; simp [step, hst, stepStateful, stOtherMethod, Generated.Sessions.statefulOtherMethod]
  exact quiet_accepts hs hmo (by simp [countersAfter, hs.nslow, hs.nasync])
    (by simp [chkAnswerO, Op.req, chkAnswer, hs.stateful]) (by simp [bookAnswer, hs.stateful]) rfl rfl rfl
    (by simp [chkNoId, Op.req]) (Nat.le_refl _) (Nat.le_succ _)

theorem sim_other {cfg : Cfg} {d d' : RState} {m : Mon} {o : Obs} (hs : Sim cfg d m) (ref : Ref) (u : UserTok)
    (hop : replayOp d (.other ref u) = some (d', o)) :
    (monStep cfg m (.other ref u) o).viol = none ∧ Sim cfg d' (monStep cfg m (.other ref u) o).mon :=
  (other_accepts hs ref u).of_replay hop

end Sessions
