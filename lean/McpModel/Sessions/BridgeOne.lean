import McpModel.Sessions.BridgeRecord
/-!
Bridge (E7/C11): the step for an operation that moves ONE entry of the model's table (a POST on an existing
session, release, abandon, DELETE, server-side close), as an instance of `sim_record`, and the step for an operation on
which nothing moves.
-/
namespace Sessions

/-- The monitor's table changes at the name of the session that moves (by `G`) only; the other entries are related as before. -/
theorem one_accepts {cfg : Cfg} {d : RState} {m : Mon} (hs : Sim cfg d m) {op : Op}
    {i : Nat} {G : Sess → Sess} {st1 st2 : State} {P : List Pend} {status : St} {hdr : Option Name} {hang : Bool} {done0 : List (Tag × Nat)}
    {log : List LogEnt} {ns' na' : Nat} {rel' : List Nat} {tblX : List MSess}
    (hmo : modelOp d op = some { st := st1, status := status, hdr := hdr, hang := hang, done := done0, log := log, pend := P, nslow := ns', nasync := na', released := rel' })
    (hset : st1 = st2 ∨ settle st1 = st2)
    (htbl : st2.tbl = d.st.tbl.map (lift i G)) (hG : KeepsId G) (hcfg : st2.cfg = d.st.cfg) (hnext : st2.next = d.st.next)
    (hnow : st2.now = d.st.now) (hinv : Inv st2)
    (hpw : PendOkW P ns' na' rel' d.st.next)
    (hcntP : ∀ j, j ≠ i → nsOf P j = nsOf d.pend j ∧ nrOf P j = nrOf d.pend j)
    (hbook : bookDone m.now
      (bookSlots (bookAnswer cfg (effFaults cfg m) m.now (tagOf m op) m.tbl m.pend op status).1
        (bookAnswer cfg (effFaults cfg m) m.now (tagOf m op) m.tbl m.pend op status).2 m.run op status).1
      (bookAnswer cfg (effFaults cfg m) m.now (tagOf m op) m.tbl m.pend op status).2 done0 = (tblX, P.filterMap pendOf))
    (hrun : (bookSlots (bookAnswer cfg (effFaults cfg m) m.now (tagOf m op) m.tbl m.pend op status).1
        (bookAnswer cfg (effFaults cfg m) m.now (tagOf m op) m.tbl m.pend op status).2 m.run op status).2 = P.filterMap runOf)
    (hmonX : ∀ j, j ≠ i → monFind tblX (sname j) = monFind m.tbl (sname j))
    (hnodupX : (tblX.map (·.name)).Nodup) (hmintedX : ∀ a ∈ tblX, ∃ j, j < d.st.next ∧ a.name = sname j)
    (htarget : ∀ e ∈ d.st.tbl, e.id = i → EOk cfg d.st.now (nsOf P i) (nrOf P i) (G e) ∧ RelPreAt cfg P tblX (G e))
    (hans : chkAnswerO cfg (effFaults cfg m) m.tbl op.req status = none)
    (hlog : chkLogOp cfg m.pend op status log = none)
    (hnoid : chkNoId cfg op.req status hdr = false)
    (hmint : chkMint cfg m.tbl op.req status hdr = none)
    (hhdr : ∀ h, hdr = some h → h = sname i ∧ (monFind tblX (sname i)).isSome = true)
    (hnotick : nowAfter m op = m.now) (hfault : faultsAfter m op status = st2.faults)
    (hcnt : countersAfter m op status = (ns', na')) :
    Accepts cfg d m op := by
  have hcfg' : st2.cfg = cfg := by rw [hcfg]; exact hs.cfg_eq
  have hP0 := tblpre_one hs (pend' := P) (tbl2 := tblX) htbl hG hcfg' hnext hnow hinv hcntP hmonX htarget hnodupX hmintedX
  have hsettle : settle st2 = st2 :=
    settle_settled hinv hP0.1.stateful fun e he => settleE_of_eok _ (hP0.2 e he)
  have hs1 : settle st1 = st2 := by
    rcases hset with h | h
    · rw [h]; exact hsettle
    · exact h
  have hexp : m.tbl.map (expire cfg (nowAfter m op)) = m.tbl := by rw [hnotick]; exact hs.expire_id
  rw [← hnext] at hpw hmintedX
  exact sim_record hs hmo hs1 hinv hcfg' hpw
    (by simp only [booked]; rw [hexp, hnotick]; exact Prod.ext hbook hrun) hnodupX hmintedX
    (fun e he => ⟨hP0.2 e he, hP0.1.rel e he⟩) (by rw [hnotick, hnow]; exact hs.now) hfault hcnt (by rw [hexp]; exact hans) hlog
    (by rw [hexp]; exact hmint) hnoid (fun h hh => by obtain ⟨rfl, h2⟩ := hhdr h hh; exact h2)

/-- `one_accepts` for a given observation (the proof does not use `hliveP`). -/
theorem sim_one_op' {cfg : Cfg} {d d' : RState} {m : Mon} {o : Obs} (hs : Sim cfg d m) {op : Op}
    {i : Nat} {G : Sess → Sess} {st1 st2 : State} {P : List Pend} {status : St} {hdr : Option Name} {hang : Bool} {done0 : List (Tag × Nat)}
    {log : List LogEnt} {ns' na' : Nat} {rel' : List Nat} {tblX : List MSess}
    (hmo : modelOp d op = some { st := st1, status := status, hdr := hdr, hang := hang, done := done0, log := log, pend := P, nslow := ns', nasync := na', released := rel' })
    (hset : st1 = st2 ∨ settle st1 = st2)
    (htbl : st2.tbl = d.st.tbl.map (lift i G)) (hG : KeepsId G) (hcfg : st2.cfg = d.st.cfg) (hnext : st2.next = d.st.next)
    (hnow : st2.now = d.st.now) (hinv : Inv st2)
    (hpw : PendOkW P ns' na' rel' d.st.next)
    (hcntP : ∀ j, j ≠ i → nsOf P j = nsOf d.pend j ∧ nrOf P j = nrOf d.pend j)
    (hliveP : ∀ p ∈ P, ∀ j, sidOf p = some j → j ≠ i → keepOf d.st p = true)
    (hbook : bookDone m.now
      (bookSlots (bookAnswer cfg (effFaults cfg m) m.now (tagOf m op) m.tbl m.pend op status).1
        (bookAnswer cfg (effFaults cfg m) m.now (tagOf m op) m.tbl m.pend op status).2 m.run op status).1
      (bookAnswer cfg (effFaults cfg m) m.now (tagOf m op) m.tbl m.pend op status).2 done0 = (tblX, P.filterMap pendOf))
    (hrun : (bookSlots (bookAnswer cfg (effFaults cfg m) m.now (tagOf m op) m.tbl m.pend op status).1
        (bookAnswer cfg (effFaults cfg m) m.now (tagOf m op) m.tbl m.pend op status).2 m.run op status).2 = P.filterMap runOf)
    (hmonX : ∀ j, j ≠ i → monFind tblX (sname j) = monFind m.tbl (sname j))
    (hnodupX : (tblX.map (·.name)).Nodup) (hmintedX : ∀ a ∈ tblX, ∃ j, j < d.st.next ∧ a.name = sname j)
    (htarget : ∀ e ∈ d.st.tbl, e.id = i → EOk cfg d.st.now (nsOf P i) (nrOf P i) (G e) ∧ RelPreAt cfg P tblX (G e))
    (hans : chkAnswerO cfg (effFaults cfg m) m.tbl op.req status = none)
    (hlog : chkLogOp cfg m.pend op status log = none)
    (hnoid : chkNoId cfg op.req status hdr = false)
    (hmint : chkMint cfg m.tbl op.req status hdr = none)
    (hhdr : ∀ h, hdr = some h → h = sname i ∧ (monFind tblX (sname i)).isSome = true)
    (hnotick : nowAfter m op = m.now) (hfault : faultsAfter m op status = st2.faults)
    (hcnt : countersAfter m op status = (ns', na'))
    (hop : replayOp d op = some (d', o)) :
    (monStep cfg m op o).viol = none ∧ Sim cfg d' (monStep cfg m op o).mon :=
  (one_accepts hs hmo hset htbl hG hcfg hnext hnow hinv hpw hcntP hbook hrun hmonX hnodupX hmintedX htarget hans hlog hnoid hmint hhdr
    hnotick hfault hcnt).of_replay hop

theorem sim_one_op {cfg : Cfg} {d d' : RState} {m : Mon} {o : Obs} (hs : Sim cfg d m) {op : Op}
    {i : Nat} {G : Sess → Sess} {st1 st2 : State} {P : List Pend} {status : St} {hdr : Option Name} {hang : Bool} {done0 : List (Tag × Nat)}
    {log : List LogEnt} {ns' na' : Nat} {rel' : List Nat} {tblX : List MSess}
    (hmo : modelOp d op = some { st := st1, status := status, hdr := hdr, hang := hang, done := done0, log := log, pend := P, nslow := ns', nasync := na', released := rel' })
    (hset : st1 = st2 ∨ settle st1 = st2)
    (htbl : st2.tbl = d.st.tbl.map (lift i G)) (hG : KeepsId G) (hcfg : st2.cfg = d.st.cfg) (hnext : st2.next = d.st.next)
    (hnow : st2.now = d.st.now) (hfl : st2.faults = d.st.faults) (hinv : Inv st2)
    (hpw : PendOkW P ns' na' rel' d.st.next)
    (hcntP : ∀ j, j ≠ i → nsOf P j = nsOf d.pend j ∧ nrOf P j = nrOf d.pend j)
    (hliveP : ∀ p ∈ P, ∀ j, sidOf p = some j → j ≠ i → keepOf d.st p = true)
    (hbook : bookDone m.now
      (bookSlots (bookAnswer cfg (effFaults cfg m) m.now (tagOf m op) m.tbl m.pend op status).1
        (bookAnswer cfg (effFaults cfg m) m.now (tagOf m op) m.tbl m.pend op status).2 m.run op status).1
      (bookAnswer cfg (effFaults cfg m) m.now (tagOf m op) m.tbl m.pend op status).2 done0 = (tblX, P.filterMap pendOf))
    (hrun : (bookSlots (bookAnswer cfg (effFaults cfg m) m.now (tagOf m op) m.tbl m.pend op status).1
        (bookAnswer cfg (effFaults cfg m) m.now (tagOf m op) m.tbl m.pend op status).2 m.run op status).2 = P.filterMap runOf)
    (hmonX : ∀ j, j ≠ i → monFind tblX (sname j) = monFind m.tbl (sname j))
    (hnodupX : (tblX.map (·.name)).Nodup) (hmintedX : ∀ a ∈ tblX, ∃ j, j < d.st.next ∧ a.name = sname j)
    (htarget : ∀ e ∈ d.st.tbl, e.id = i → EOk cfg d.st.now (nsOf P i) (nrOf P i) (G e) ∧ RelPreAt cfg P tblX (G e))
    (hans : chkAnswerO cfg (effFaults cfg m) m.tbl op.req status = none)
    (hlog : chkLogOp cfg m.pend op status log = none)
    (hnoid : chkNoId cfg op.req status hdr = false)
    (hmint : chkMint cfg m.tbl op.req status hdr = none)
    (hhdr : ∀ h, hdr = some h → h = sname i ∧ (monFind tblX (sname i)).isSome = true)
    (hnotick : nowAfter m op = m.now) (hfault : faultsAfter m op status = m.faults)
    (hcnt : countersAfter m op status = (ns', na'))
    (hop : replayOp d op = some (d', o)) :
    (monStep cfg m op o).viol = none ∧ Sim cfg d' (monStep cfg m op o).mon :=
  sim_one_op' hs hmo hset htbl hG hcfg hnext hnow hinv hpw hcntP hliveP hbook hrun hmonX hnodupX hmintedX htarget hans hlog hnoid hmint hhdr hnotick
    (hfault.trans (hs.faults.trans hfl.symm)) hcnt hop

/-- The target hypothesis of `one_accepts` at `(i := 0) (G := id)`: for an operation on which no entry moves but `released` grows
or the event store's script changes (which `quiet_accepts` excludes). -/
theorem Sim.idTarget {cfg : Cfg} {d : RState} {m : Mon} (hs : Sim cfg d m) :
    ∀ e ∈ d.st.tbl, e.id = 0 → EOk cfg d.st.now (nsOf d.pend 0) (nrOf d.pend 0) (id e) ∧ RelPreAt cfg d.pend m.tbl (id e) := by
  intro e he hid0
  have hk0 := hs.eok e he
  rw [hid0] at hk0
  exact ⟨hk0, (hs.rel e he).pre⟩

/-- Refused requests, GET, other methods, no-ops: the model's state does not move, the monitor books nothing; only the
harness's counters advance. -/
theorem quiet_accepts {cfg : Cfg} {d : RState} {m : Mon} (hs : Sim cfg d m) {op : Op} {status : St} {hang : Bool} {ns na : Nat}
    (hmo : modelOp d op = some { st := d.st, status := status, hang := hang, pend := d.pend, nslow := ns, nasync := na, released := d.released })
    (hcnt : countersAfter m op status = (ns, na))
    (hans : chkAnswerO cfg (effFaults cfg m) m.tbl op.req status = none)
    (hbook : bookAnswer cfg (effFaults cfg m) m.now (tagOf m op) m.tbl m.pend op status = (m.tbl, m.pend))
    (hslots : bookSlots m.tbl m.pend m.run op status = (m.tbl, m.run))
    (hnotick : nowAfter m op = m.now) (hfault : faultsAfter m op status = m.faults)
    (hnoid : chkNoId cfg op.req status none = false)
    (hns : d.nslow ≤ ns) (hna : d.nasync ≤ na) : Accepts cfg d m op := by
  have hexp : m.tbl.map (expire cfg (nowAfter m op)) = m.tbl := by rw [hnotick]; exact hs.expire_id
  exact sim_record (tblX := m.tbl) hs hmo hs.settle hs.inv hs.cfg_eq (pendOkW_counters hs.pok.weak hns hna)
    (by simp only [booked]; rw [hexp, hnotick, hbook, hslots, hs.pend, hs.run]; rfl) hs.mnodup hs.minted
    (fun e he => ⟨hs.eok e he, (hs.rel e he).pre⟩) (hnotick.trans hs.now) (hfault.trans hs.faults) hcnt (by rw [hexp]; exact hans)
    (chkLogOp_nil _ _ _ _) rfl hnoid nofun

theorem sim_quiet_op {cfg : Cfg} {d d' : RState} {m : Mon} {o : Obs} (hs : Sim cfg d m) {op : Op} {mo : ROut}
    (hmo : modelOp d op = some mo) (h1 : mo.st = d.st) (h2 : mo.pend = d.pend) (h3 : mo.done = [])
    (h4 : mo.log = []) (h5 : mo.hdr = none) (h6 : mo.released = d.released)
    (hcnt : countersAfter m op mo.status = (mo.nslow, mo.nasync))
    (hans : chkAnswerO cfg (effFaults cfg m) m.tbl op.req mo.status = none)
    (hbook : bookAnswer cfg (effFaults cfg m) m.now (tagOf m op) m.tbl m.pend op mo.status = (m.tbl, m.pend))
    (hslots : bookSlots m.tbl m.pend m.run op mo.status = (m.tbl, m.run))
    (hnotick : nowAfter m op = m.now) (hfault : faultsAfter m op mo.status = m.faults)
    (hnoid : chkNoId cfg op.req mo.status none = false)
    (hns : d.nslow ≤ mo.nslow) (hna : d.nasync ≤ mo.nasync)
    (hop : replayOp d op = some (d', o)) :
    (monStep cfg m op o).viol = none ∧ Sim cfg d' (monStep cfg m op o).mon := by
  obtain ⟨st, status, hdr, hang, done, log, pend, nslow, nasync, released⟩ := mo
  simp only [] at h1 h2 h3 h4 h5 h6
  subst h1 h2 h3 h4 h5 h6
  exact (quiet_accepts hs hmo hcnt hans hbook hslots hnotick hfault hnoid hns hna).of_replay hop

/-- The labels of the operation act as `g` on the entry `e` of session `i`, the monitor's bookkeeping as `F` on the abstract session
of the same name: what is left to show speaks of these two only.  (`st1`, the state `modelOp` returns, may be settled already.) -/
theorem upd_accepts {cfg : Cfg} {d : RState} {m : Mon} (hs : Sim cfg d m) {op : Op}
    {i : Nat} {g : Sess → Sess} {F : MSess → MSess} {e e2 : Sess} {st1 : State} {P : List Pend} {status : St}
    {hdr : Option Name} {hang : Bool} {done0 : List (Tag × Nat)} {log : List LogEnt} {ns' na' : Nat} {rel' : List Nat}
    (hmo : modelOp d op = some { st := st1, status := status, hdr := hdr, hang := hang, done := done0, log := log, pend := P, nslow := ns', nasync := na', released := rel' })
    (hst1 : st1 = { d.st with tbl := d.st.tbl.map (lift i g) } ∨
      st1 = { d.st with tbl := d.st.tbl.map (lift i (settleE d.st.now d.st.closeFails ∘ g)) })
    (hinv : Inv { d.st with tbl := d.st.tbl.map (lift i g) }) (hg : KeepsId g) (hF : KeepsName F)
    (hfe : findSess i d.st.tbl = some e) (hge : g e = e2)
    (hpw : PendOkW P ns' na' rel' d.st.next)
    (hcntP : ∀ j, j ≠ i → nsOf P j = nsOf d.pend j ∧ nrOf P j = nrOf d.pend j)
    (hbook : bookDone m.now
      (bookSlots (bookAnswer cfg (effFaults cfg m) m.now (tagOf m op) m.tbl m.pend op status).1
        (bookAnswer cfg (effFaults cfg m) m.now (tagOf m op) m.tbl m.pend op status).2 m.run op status).1
      (bookAnswer cfg (effFaults cfg m) m.now (tagOf m op) m.tbl m.pend op status).2 done0 =
        (monUpd m.tbl (sname i) F, P.filterMap pendOf))
    (hrun : (bookSlots (bookAnswer cfg (effFaults cfg m) m.now (tagOf m op) m.tbl m.pend op status).1
        (bookAnswer cfg (effFaults cfg m) m.now (tagOf m op) m.tbl m.pend op status).2 m.run op status).2 = P.filterMap runOf)
    (hq : EOkQ cfg d.st.now (nsOf P i) (nrOf P i) e2)
    (hrel : match monFind m.tbl (sname i) with
      | some a => ERelPre cfg (nsOf P i) (nrOf P i) (settleE d.st.now d.st.closeFails e2) (F a)
      | none => (settleE d.st.now d.st.closeFails e2).removed = true)
    (hans : chkAnswerO cfg (effFaults cfg m) m.tbl op.req status = none)
    (hlog : chkLogOp cfg m.pend op status log = none)
    (hnoid : chkNoId cfg op.req status hdr = false)
    (hmint : chkMint cfg m.tbl op.req status hdr = none)
    (hhdr : ∀ h, hdr = some h → h = sname i ∧ (monFind m.tbl (sname i)).isSome = true)
    (hnotick : nowAfter m op = m.now) (hfault : faultsAfter m op status = m.faults)
    (hcnt : countersAfter m op status = (ns', na')) :
    Accepts cfg d m op := by
  have hsettle := settle_lift hs.inv hs.stateful_st (i := i) hg (fun e he _ => hs.settleE_id _ _ rfl e he)
  have hmem := (findSess_some hfe).1
  have hid := (findSess_some hfe).2
  refine one_accepts (st2 := { d.st with tbl := d.st.tbl.map (lift i (settleE d.st.now d.st.closeFails ∘ g)) })
    (tblX := monUpd m.tbl (sname i) F) hs hmo ?_ rfl (keepsId_comp hg (keepsId_settleE _ _)) rfl rfl rfl
    (by rw [← hsettle]; exact settle_inv hinv) hpw hcntP hbook hrun
    (fun j hj => monFind_monUpd_ne hF _ (sname_ne hj)) (by rw [monUpd_names hF]; exact hs.mnodup) ?_ ?_
    hans hlog hnoid hmint ?_ hnotick (hfault.trans hs.faults) hcnt
  · rcases hst1 with h | h
    · exact Or.inr (by rw [h]; exact hsettle)
    · exact Or.inl h
  · intro x hx
    obtain ⟨b, hb, hxb⟩ := monUpd_mem hF hx
    obtain ⟨j, hj, hn⟩ := hs.minted b hb
    exact ⟨j, hj, by rw [hxb]; exact hn⟩
  · intro e' he' hid'
    have : e' = e := entry_unique hs.inv he' hmem (by rw [hid', hid])
    subst this
    have hi2 : (settleE d.st.now d.st.closeFails e2).id = i := by rw [keepsId_settleE, ← hge, hg e', hid]
    show EOk cfg d.st.now _ _ (settleE _ _ (g e')) ∧ RelPreAt cfg P _ (settleE _ _ (g e'))
    rw [hge]
    refine ⟨eok_settle _ hq, ?_⟩
    unfold RelPreAt
    rw [hi2, monFind_monUpd_self hF]
    cases ha : monFind m.tbl (sname i) <;> rw [ha] at hrel <;> exact hrel
  · intro h hh
    obtain ⟨h1, h2⟩ := hhdr h hh
    refine ⟨h1, ?_⟩
    rw [monFind_monUpd_self hF]
    cases ha : monFind m.tbl (sname i) with
    | none => rw [ha] at h2; cases h2
    | some a => rfl

end Sessions
