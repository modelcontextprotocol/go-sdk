import McpModel.Sessions.BridgeRecord
/-!
Bridge (E7/C11): the stateless endpoint.

`SLKeeps` (read off `step_does`) is what a label of such an endpoint leaves alone;
`modelOp_sl` reads `modelOp` backwards on such an endpoint: whatever record it yields, the state is reached by such
labels and the answer is one of the few a stateless endpoint gives.  `slOut` adds the settling and the snapshot,
`sim_sl_step` is the step of the simulation (`SimSL`) on such an endpoint.
-/
namespace Sessions

/-- what a label of a stateless endpoint leaves alone: it counts temporary sessions and moves the clock, nothing else
(the event store's script is the environment's own label) -/
def SLKeeps (s s' : State) : Prop := s'.cfg = s.cfg ∧ s'.tbl = s.tbl ∧ s'.next = s.next ∧ s'.faults = s.faults

theorem SLKeeps.refl (s : State) : SLKeeps s s := ⟨rfl, rfl, rfl, rfl⟩

theorem SLKeeps.step {s x y : State} {l : Label} {r : Resp} (h : SLKeeps s x) (hsl : s.cfg.stateless = true)
    (hl : ∀ f, l ≠ .faults f) (hst : step x l = some (y, r)) : SLKeeps s y := by
  have hx : x.cfg.stateless = true := by rw [h.1]; exact hsl
  cases step_does.mp hst
  case tick | slPost | slEnd | slGet | slDelete | slOther => exact h
  case faults f => exact absurd rfl (hl f)
  all_goals exact Bool.noConfusion (hx.symm.trans ‹x.cfg.stateless = false›)

theorem SLKeeps.doL {s x : State} (h : SLKeeps s x) (hsl : s.cfg.stateless = true) (l : Label)
    (hl : ∀ f, l ≠ .faults f := by exact fun _ => Label.noConfusion) : SLKeeps s (Sessions.doL x l) := by
  unfold Sessions.doL
  cases hst : Sessions.step x l with
  | none => exact h
  | some p => exact h.step hsl hl hst

/-- the event store's script after an operation -/
def faultsOfOp (d : RState) (op : Op) : Faults :=
  match op with
  | .fault f => if d.st.cfg.eventStore then f else d.st.faults
  | _ => d.st.faults

/-- what a record of a stateless endpoint looks like, and where it leaves the model -/
structure SLOut (d : RState) (op : Op) (d' : RState) (o : Obs) : Prop where
  cfg : d'.st.cfg = d.st.cfg
  tbl : d'.st.tbl = []
  next : d'.st.next = d.st.next
  faults : d'.st.faults = faultsOfOp d op
  map : o.map = []
  hdr : o.hdr = none
  srv : ∀ n ∈ o.srv, n = Name.e
  fstat : ∀ f, op = .fault f → o.status = (if d.st.cfg.eventStore then .ok else .noop)
  ans : ∀ r, op.req = some r →
    (r.verb ≠ .post → o.status = .code 405 ∧ o.log = []) ∧
    (r.verb = .post →
      (o.status = .pending ∨ o.status = .code 200 ∨ o.status = .code 202 ∨
        (o.status = .code 500 ∧ d.st.connectFails = true) ∨
        (o.status = .code 500 ∧ d.st.openFails = true ∧ r.kind ≠ some .notif)) ∧
      ∀ l ∈ o.log, l.sess = .e ∧ l.who = .tok r.user)
  nolog : op.req = none → o.log = []
  stale : o.stale = []
  notBody : ∀ n f, op ≠ .body n f

theorem showSrv_stateless {s : State} (hsl : s.cfg.stateless = true) : ∀ n ∈ showSrv s, n = Name.e := by
  intro n hn
  simp only [showSrv, hsl, if_true] at hn
  exact (List.mem_replicate.mp hn).2

theorem SLKeeps.of_op {d : RState} {s' : State} (h : SLKeeps d.st s') {op : Op} (hf : ∀ f, op ≠ .fault f) :
    s'.cfg = d.st.cfg ∧ s'.tbl = d.st.tbl ∧ s'.next = d.st.next ∧ s'.faults = faultsOfOp d op := by
  refine ⟨h.1, h.2.1, h.2.2.1, h.2.2.2.trans ?_⟩
  cases op <;> first | rfl | exact absurd rfl (hf _)

/-- what `modelOp` yields on a stateless endpoint -/
structure SLModelOut (d : RState) (op : Op) (mo : ROut) : Prop where
  st : mo.st.cfg = d.st.cfg ∧ mo.st.tbl = d.st.tbl ∧ mo.st.next = d.st.next ∧ mo.st.faults = faultsOfOp d op
  hdr : mo.hdr = none
  fstat : ∀ f, op = .fault f → mo.status = (if d.st.cfg.eventStore then .ok else .noop)
  ans : ∀ r, op.req = some r →
    (r.verb ≠ .post → mo.status = .code 405 ∧ mo.log = []) ∧
    (r.verb = .post →
      (mo.status = .pending ∨ mo.status = .code 200 ∨ mo.status = .code 202 ∨
        (mo.status = .code 500 ∧ d.st.connectFails = true) ∨
        (mo.status = .code 500 ∧ d.st.openFails = true ∧ r.kind ≠ some .notif)) ∧
      ∀ l ∈ mo.log, l.sess = .e ∧ l.who = .tok r.user)
  nolog : op.req = none → mo.log = []

theorem SLModelOut.quiet {d : RState} {op : Op} {mo : ROut} (hreq : op.req = none) (hf : ∀ f, op ≠ .fault f)
    (hk : SLKeeps d.st mo.st) (hh : mo.hdr = none) (hl : mo.log = []) : SLModelOut d op mo :=
  ⟨hk.of_op hf, hh, fun f h => absurd h (hf f), fun r h => (by rw [hreq] at h; cases h), fun _ => hl⟩

theorem modelOp_sl {d : RState} (hsl : d.st.cfg.stateless = true) (op : Op) :
    (∃ mo, modelOp d op = some mo ∧ SLModelOut d op mo) ∨
    (modelOp d op = none ∧ ((∃ u k, op = .postx u k) ∨ (∃ r u, op = .postb r u) ∨ ∃ n f, op = .body n f)) := by
  have k0 := SLKeeps.refl d.st
  -- each branch: reduce the goal's `modelOp d op` under the conditions that decide it, then `⟨_, rfl, …⟩`
  cases op with
  | postx u kind => exact .inr ⟨by simp [modelOp, hsl], .inl ⟨_, _, rfl⟩⟩
  | postb ref u => exact .inr ⟨by simp [modelOp, hsl], .inr (.inl ⟨_, _, rfl⟩)⟩
  | body n fin => exact .inr ⟨by simp [modelOp, hsl], .inr (.inr ⟨_, _, rfl⟩)⟩
  | tick n => exact .inl ⟨_, rfl, .quiet rfl (fun _ => Op.noConfusion) (k0.doL hsl _) rfl rfl⟩
  | release k =>
    have q : ∀ {mo : ROut}, SLKeeps d.st mo.st → mo.hdr = none → mo.log = [] → SLModelOut d (.release k) mo :=
      .quiet rfl fun _ => Op.noConfusion
    refine .inl ?_
    dsimp only [modelOp]
    by_cases hno : (k = 0 || k > d.nslow || d.released.contains k) = true
    · rw [if_pos hno]; exact ⟨_, rfl, q k0 rfl rfl⟩
    rw [if_neg hno]
    cases d.pend.find? (slotIs k) with
    | none => exact ⟨_, rfl, q k0 rfl rfl⟩
    | some p =>
      obtain ⟨tag, kd⟩ := p
      rcases kd with ⟨_ | i, slot⟩ | _ | _ | _ | _
      · exact ⟨_, rfl, q (k0.doL hsl _) rfl rfl⟩
      · exact ⟨_, rfl, q ((k0.doL hsl _).doL hsl _) rfl rfl⟩
      · exact ⟨_, rfl, q (k0.doL hsl _) rfl rfl⟩
      all_goals exact ⟨_, rfl, q k0 rfl rfl⟩
  | abandon k =>
    have q : ∀ {mo : ROut}, SLKeeps d.st mo.st → mo.hdr = none → mo.log = [] → SLModelOut d (.abandon k) mo :=
      .quiet rfl fun _ => Op.noConfusion
    refine .inl ?_
    dsimp only [modelOp]
    cases d.pend.find? (fun p => p.tag == Tag.p k) with
    | none => exact ⟨_, rfl, q k0 rfl rfl⟩
    | some p =>
      obtain ⟨tag, kd⟩ := p
      rcases kd with ⟨_ | i, slot⟩ | _ | _ | _ | _
      · exact ⟨_, rfl, q k0 rfl rfl⟩
      · exact ⟨_, rfl, q (k0.doL hsl _) rfl rfl⟩
      all_goals exact ⟨_, rfl, q k0 rfl rfl⟩
  | close ref =>
    refine .inl ?_
    dsimp only [modelOp]; simp only [hsl, Bool.not_true, Bool.false_and, Bool.false_eq_true, if_false]
    cases ref.sid d.st.next <;> exact ⟨_, rfl, .quiet rfl (fun _ => Op.noConfusion) k0 rfl rfl⟩
  | fault f =>
    refine .inl ?_
    cases he : d.st.cfg.eventStore <;> (dsimp only [modelOp]; simp only [he, if_true, Bool.false_eq_true, if_false])
    · exact ⟨_, rfl, ⟨rfl, rfl, rfl, by simp [faultsOfOp, he]⟩, rfl, fun _ _ => (by rw [he]; rfl), fun _ h => (nomatch h), fun _ => rfl⟩
    · rw [doL_faults]
      exact ⟨_, rfl, ⟨rfl, rfl, rfl, by simp [faultsOfOp, he]⟩, rfl, fun _ _ => (by rw [he]; rfl), fun _ h => (nomatch h), fun _ => rfl⟩
  | get ref u | delete ref u | other ref u =>
    refine .inl ?_
    dsimp only [modelOp]; simp only [step, hsl, if_true, stepStateless]
    exact ⟨_, rfl, k0.of_op (fun _ h => nomatch h), rfl, fun _ h => (nomatch h),
      fun r hr => by cases hr; exact ⟨fun _ => ⟨rfl, rfl⟩, fun h => (nomatch h)⟩, fun h => (nomatch h)⟩
  | post ref u kind =>
    have kE : SLKeeps d.st { d.st with eph := d.st.eph + 1 } := ⟨rfl, rfl, rfl, rfl⟩
    have post : ∀ {mo : ROut}, mo.hdr = none → SLKeeps d.st mo.st →
        (mo.status = .pending ∨ mo.status = .code 200 ∨ mo.status = .code 202 ∨
          (mo.status = .code 500 ∧ d.st.connectFails = true) ∨
          (mo.status = .code 500 ∧ d.st.openFails = true ∧ kind ≠ .notif)) →
        (∀ l ∈ mo.log, l.sess = .e ∧ l.who = .tok u) → SLModelOut d (.post ref u kind) mo :=
      fun hh hk hs hl => ⟨hk.of_op (fun _ h => nomatch h), hh, fun _ h => (nomatch h), fun r hr => by
        cases hr
        exact ⟨fun h => absurd rfl h, fun _ => ⟨hs.imp_right (.imp_right (.imp_right (.imp_right
          (.imp_right (.imp_right fun hn h => hn (Option.some.inj h)))))), hl⟩⟩, fun h => (nomatch h)⟩
    refine .inl ?_
    dsimp only [modelOp]; simp only [hsl, Bool.not_true, Bool.and_false, Bool.false_eq_true, if_false, if_true, step, stepStateless,
      postResp]
    cases hcf : d.st.connectFails
    · cases hacc : d.st.accepts kind.kind <;> simp only [Bool.false_eq_true, if_false, if_true]
      · -- the event store refuses the stream of the answer
        have hacc' : kind.kind.hasCall = true ∧ d.st.openFails = true := by simpa [State.accepts] using hacc
        refine ⟨_, rfl, post rfl (kE.doL hsl _) (.inr (.inr (.inr (.inr ⟨rfl, hacc'.2, ?_⟩)))) (fun _ h => nomatch h)⟩
        rintro rfl; cases hacc'.1
      · split
        · exact ⟨_, rfl, post rfl kE (.inl rfl) fun l hl => by cases List.mem_singleton.1 hl; exact ⟨rfl, rfl⟩⟩
        · refine ⟨_, rfl, post rfl (kE.doL hsl _) ?_ fun l hl => ?_⟩
          · cases kind <;> simp
          · cases kind <;> simp [slLog] at hl <;> (try subst hl) <;> first | exact ⟨rfl, rfl⟩ | cases hl
    · exact ⟨_, rfl, post rfl k0 (.inr (.inr (.inr (.inl ⟨rfl, hcf⟩)))) (fun _ h => nomatch h)⟩

/-- every record of a stateless endpoint is an `SLOut` -/
theorem slOut {d d' : RState} {op : Op} {o : Obs} (hsl : d.st.cfg.stateless = true) (ht : d.st.tbl = [])
    (hop : replayOp d op = some (d', o)) : SLOut d op d' o := by
  unfold replayOp at hop
  rcases modelOp_sl hsl op with ⟨mo, hmo, ⟨h1, h2, h3, h4⟩, hh, hf, ha, hn⟩ | ⟨hmo, _⟩
  · rw [ht] at h2
    simp only [hmo, settle_stateless h2, Option.some.injEq, Prod.mk.injEq] at hop
    obtain ⟨rfl, rfl⟩ := hop
    exact ⟨h1, h2, h3, h4, by simp [showMap, h2], hh, showSrv_stateless (by rw [h1]; exact hsl), hf, ha, hn,
      by simp [showStale, h2], fun n f hb => by subst hb; simp [modelOp, hsl] at hmo⟩
  · rw [hmo] at hop; cases hop

theorem bookDone_nil_pend (now : Nat) (tbl : List MSess) (done : List (Tag × Nat)) :
    bookDone now tbl [] done = (tbl, []) := by
  unfold bookDone
  induction done with
  | nil => rfl
  | cons c rest ih => simp only [List.foldl_cons, bookDone1, List.find?_nil]; exact ih

theorem sim_sl_step {cfg : Cfg} {d d' : RState} {m : Mon} {o : Obs} (hs : SimSL cfg d m) (op : Op)
    (hop : replayOp d op = some (d', o)) :
    (monStep cfg m op o).viol = none ∧ SimSL cfg d' (monStep cfg m op o).mon := by
  have hsl : d.st.cfg.stateless = true := by rw [hs.cfg_eq]; exact hs.stateless
  have ht : d.st.tbl = [] := hs.inv.stateless hsl
  have ho := slOut hsl ht hop
  have hba : ∀ now tag, bookAnswer cfg (effFaults cfg m) now tag [] [] op o.status = ([], []) := by
    intro now tag; simp [bookAnswer, hs.stateless]
  have hbs : bookSlots [] [] [] op o.status = ([], []) := by
    cases op <;> simp [bookSlots]
  have hfl := effFaults_read hs.cfg_eq hs.faults
  constructor
  · apply monStep_viol_none
    · rw [hs.mtbl]
      simp only [List.map_nil]
      cases hr : op.req with
      | none => rfl
      | some r =>
        have ha := ho.ans r hr
        simp only [chkAnswerO, chkAnswer, hs.stateless, if_true]
        by_cases hv : r.verb = .post
        · obtain ⟨hstat, _⟩ := ha.2 hv
          simp only [hv, beq_self_eq_true, Bool.not_true, Bool.false_eq_true, if_false, Bool.true_and]
          rcases hstat with h | h | h | ⟨h, hc⟩ | ⟨h, hc, hk⟩ <;> rw [h]
          · simp [St.accepted2xx]
          · simp [St.accepted2xx]
          · simp [St.accepted2xx]
          · simp [St.accepted2xx, hfl.2.2, hc]
          · have : (r.kind != some PKind.notif) = true := by simp [hk]
            simp [St.accepted2xx, hfl.2.1, hc, this]
        · have := (ha.1 hv).1
          have hv' : (r.verb == Verb.post) = false := by simp [hv]
          simp [hv', this]
    · rw [chkLogOp_eq ho.notBody]
      unfold chkLog
      cases hr : op.req with
      | none => simp [ho.nolog hr]
      | some r =>
        have ha := ho.ans r hr
        by_cases hv : r.verb = .post
        · obtain ⟨hstat, hlog⟩ := ha.2 hv
          have hrj : o.status.rejected = false := by
            rcases hstat with h | h | h | ⟨h, _⟩ | ⟨h, _⟩ <;> rw [h] <;> rfl
          simp only [hrj, Bool.false_and, Bool.false_eq_true, if_false, hs.stateless, if_true]
          apply firstSome_none
          intro l hl
          obtain ⟨h1, h2⟩ := hlog l hl
          simp [h1, h2]
        · simp [(ha.1 hv).2, firstSome]
    · rw [ho.hdr]; rfl
    · rw [hs.mtbl, hs.mpend, hs.mrun]
      simp only [List.map_nil, hba, hbs, bookDone_nil_pend, ho.map, scanMap]
    · rw [ho.map]; rfl
    · rw [hs.mtbl, hs.mpend, hs.mrun]
      simp only [List.map_nil, hba, hbs, bookDone_nil_pend, ho.map, scanMap]
      rfl
    · simp only [chkSrv, hs.stateless, if_true]
      have : o.srv.any (· != Name.e) = false := by
        rw [List.any_eq_false]
        intro n hn; simp [ho.srv n hn]
      simp [this]
    · unfold chkNoId
      cases op.req <;> simp [hs.stateless]
    · rw [ho.map, ho.stale]; rfl
  · obtain ⟨e1, e2, e3, e4, e5, e6, e7⟩ := monStep_mon cfg m op o
    have hcfg' : d'.st.cfg = cfg := by rw [ho.cfg]; exact hs.cfg_eq
    refine ⟨hcfg', ?_, hs.stateless, ?_, ?_, ?_, ?_⟩
    · -- the model's invariant
      refine ⟨(by rw [ho.cfg]; exact hs.inv.fixed), ?_, (by rw [ho.tbl]; intro e he; cases he), fun _ => ho.tbl⟩
      rw [ho.tbl, ho.next]
      have := hs.inv.ids
      rw [ht] at this
      exact this
    · rw [e5, ho.faults]
      unfold faultsAfter faultsOfOp
      cases op with
      | fault f =>
        simp only []
        rw [ho.fstat f rfl, hs.faults]
        cases d.st.cfg.eventStore <;> simp
      | _ => exact hs.faults
    · rw [e1, hs.mtbl, hs.mpend, hs.mrun, ho.hdr]
      simp only [List.map_nil, hba, hbs, bookDone_nil_pend, ho.map, scanMap, noteFailedInit, reapDying]
    · rw [e3, hs.mtbl, hs.mpend, hs.mrun]
      simp only [List.map_nil, hba, hbs, bookDone_nil_pend]
    · rw [e4, hs.mtbl, hs.mpend, hs.mrun]
      simp only [List.map_nil, hba, hbs]

end Sessions
