import McpModel.Sessions.BridgeSim
/-!
Bridge (E7/C11): one record of the monitor on a settled state of the model.

The first half of a record is the operation's own: its labels take the model to a state that is then settled, and the
monitor books the answer, the slots and the completions the operation itself reports.  The second half is the same
for every operation and is proved here once: the completions of DELETEs and server-side closes (`completions_rel`),
the scan of the snapshot against the monitor's table, the reaping, the note of a failed initialize and the checks
(`sim_scanned`); `sim_record` puts them together.
-/
namespace Sessions

theorem Sim.tblpre {cfg : Cfg} {d : RState} {m : Mon} (hs : Sim cfg d m) : TblPre cfg d.st d.pend m.tbl :=
  ⟨hs.inv, hs.stateful_st, fun e he => (hs.eok e he).inMap, hs.mnodup, hs.minted, fun e he => (hs.rel e he).pre⟩

theorem firstViol_none {α} : firstViol (none : Option α) none = none := rfl

theorem chkAnswerOp_of_O {cfg : Cfg} {fl : Faults} {tbl : List MSess} {op : Op} {st : St}
    (h : chkAnswerO cfg fl tbl op.req st = none) : chkAnswerOp cfg fl tbl op st = none := by
  unfold chkAnswerOp
  split
  · split
    · rfl
    · exact h
  · exact h

theorem chkLogOp_eq {cfg : Cfg} {pend : List (Tag × Name)} {op : Op} {st : St} {log : List LogEnt}
    (h : ∀ n f, op ≠ .body n f) : chkLogOp cfg pend op st log = chkLog cfg op.req st log := by
  cases op <;> first | rfl | exact absurd rfl (h _ _)

theorem chkLogOp_nil (cfg : Cfg) (pend : List (Tag × Name)) (op : Op) (st : St) : chkLogOp cfg pend op st [] = none := by
  unfold chkLogOp
  split
  · unfold chkBodyLog; split <;> simp [firstSome]
  · unfold chkLog; cases op.req <;> simp [firstSome]

theorem chkClose_model {cfg : Cfg} {st : State} (hi : Inv st)
    (hk : ∀ e ∈ st.tbl, ∃ ns nr, EOk cfg st.now ns nr e) : chkClose (showMap st) (showStale st) = none := by
  have h1 : firstSome (fun (e : MapEnt) => if e.closing && e.busy == 0 then some (CloseClause.stuck e.name) else none)
      (showMap st) = none := by
    apply firstSome_none
    intro x hx
    rw [showMap_eq] at hx
    obtain ⟨e, he, rfl⟩ := List.mem_map.mp hx
    have hm := List.mem_filter.mp he
    obtain ⟨ns, nr, hke⟩ := hk e hm.1
    have hr : e.removed = false := by
      have := hke.inMap; rw [hm.2] at this
      cases hr : e.removed with
      | false => rfl
      | true => rw [hr] at this; cases this
    cases hc : e.closing with
    | false => simp [entOf, hc]
    | true =>
      have := hke.quiet hc hr
      have hb := hke.busy
      have : (e.busy + e.initBusy == 0) = false := by simp; omega
      simp [entOf, hc, this]
  have h2 : showStale st = [] := by
    unfold showStale
    rw [List.map_eq_nil_iff, List.filter_eq_nil_iff]
    intro e he hx
    simp only [Bool.and_eq_true, Bool.not_eq_true'] at hx
    have := ((hi.good e he).unpublished hx.1).1
    rw [this] at hx
    cases hx.2
  unfold chkClose
  rw [h1, h2]
  rfl

theorem monStep_viol_none {cfg : Cfg} {m : Mon} {op : Op} {o : Obs}
    (h1 : chkAnswerO cfg (effFaults cfg m) (m.tbl.map (expire cfg (nowAfter m op))) op.req o.status = none)
    (h2 : chkLogOp cfg m.pend op o.status o.log = none)
    (h3 : chkMint cfg (m.tbl.map (expire cfg (nowAfter m op))) op.req o.status o.hdr = none)
    (h5a : (scanMap cfg (nowAfter m op) op.req o.status o.hdr
      (bookDone (nowAfter m op)
        (bookSlots (bookAnswer cfg (effFaults cfg m) (nowAfter m op) (tagOf m op) (m.tbl.map (expire cfg (nowAfter m op))) m.pend op o.status).1
          (bookAnswer cfg (effFaults cfg m) (nowAfter m op) (tagOf m op) (m.tbl.map (expire cfg (nowAfter m op))) m.pend op o.status).2 m.run op o.status).1
        (bookAnswer cfg (effFaults cfg m) (nowAfter m op) (tagOf m op) (m.tbl.map (expire cfg (nowAfter m op))) m.pend op o.status).2 o.done).1
      o.map).2 = none)
    (h5b : chkKeys o.map = none)
    (h5c : chkGone (o.map.map (·.name)) (scanMap cfg (nowAfter m op) op.req o.status o.hdr
      (bookDone (nowAfter m op)
        (bookSlots (bookAnswer cfg (effFaults cfg m) (nowAfter m op) (tagOf m op) (m.tbl.map (expire cfg (nowAfter m op))) m.pend op o.status).1
          (bookAnswer cfg (effFaults cfg m) (nowAfter m op) (tagOf m op) (m.tbl.map (expire cfg (nowAfter m op))) m.pend op o.status).2 m.run op o.status).1
        (bookAnswer cfg (effFaults cfg m) (nowAfter m op) (tagOf m op) (m.tbl.map (expire cfg (nowAfter m op))) m.pend op o.status).2 o.done).1
      o.map).1 = none)
    (h5d : chkSrv cfg (o.map.map (·.name)) o.srv = none)
    (h5e : chkNoId cfg op.req o.status o.hdr = false)
    (h6 : chkClose o.map o.stale = none) :
    (monStep cfg m op o).viol = none := by
  simp only [monStep]
  rw [chkAnswerOp_of_O h1, h2, h3, h5a, h5b, h5c, h5d, h5e, h6]
  simp only [firstViol, Option.map_none, Bool.false_eq_true, if_false, ite_self]

theorem monStep_mon (cfg : Cfg) (m : Mon) (op : Op) (o : Obs) :
    let now := nowAfter m op
    let tbl0 := m.tbl.map (expire cfg now)
    let ba := bookAnswer cfg (effFaults cfg m) now (tagOf m op) tbl0 m.pend op o.status
    let bs := bookSlots ba.1 ba.2 m.run op o.status
    let bd := bookDone now bs.1 ba.2 o.done
    let sm := scanMap cfg now op.req o.status o.hdr bd.1 o.map
    (monStep cfg m op o).mon.tbl =
      noteFailedInit now (reqOwner op.req) o.hdr
        (reapDying (o.map.map (·.name)) sm.1) ∧
    (monStep cfg m op o).mon.now = now ∧
    (monStep cfg m op o).mon.pend = bd.2 ∧
    (monStep cfg m op o).mon.run = bs.2 ∧
    (monStep cfg m op o).mon.faults = faultsAfter m op o.status ∧
    (monStep cfg m op o).mon.nslow = (countersAfter m op o.status).1 ∧
    (monStep cfg m op o).mon.nasync = (countersAfter m op o.status).2 := by
  refine ⟨rfl, rfl, rfl, rfl, rfl, rfl, rfl⟩

theorem chkLog_nil (cfg : Cfg) (req : Option Req) (st : St) : chkLog cfg req st [] = none := by
  unfold chkLog
  cases req <;> simp [firstSome]

/-- the harness-side list of asynchronous requests, without the liveness of the sessions being closed -/
structure PendOkW (P : List Pend) (nslow nasync : Nat) (released : List Nat) (next : Nat) : Prop where
  tags : (P.map (·.tag)).Nodup
  slots : (P.filterMap slotOf).Nodup
  shape : ∀ p ∈ P,
    match p.kind with
    | .slow _ slot => p.tag = .p slot ∧ 1 ≤ slot ∧ slot ≤ nslow ∧ slot ∉ released
    | .run _ slot => p.tag = .r slot ∧ 1 ≤ slot ∧ slot ≤ nslow ∧ slot ∉ released
    | .del _ _ => ∃ n, p.tag = .d n ∧ n ≤ nasync
    | .cls _ => ∃ n, p.tag = .c n ∧ n ≤ nasync
    | .upl _ n _ => p.tag = .u n ∧ n ≤ nasync
  minted : ∀ p ∈ P, ∀ i, sidOf p = some i → i < next
  sids : ∀ p ∈ P, (sidOf p).isSome = true
  relLe : ∀ k ∈ released, k ≤ nslow

theorem PendOk.weak {d : RState} (h : PendOk d) : PendOkW d.pend d.nslow d.nasync d.released d.st.next := by
  refine ⟨h.tags, h.slots, ?_, h.minted, h.sids, h.relLe⟩
  intro p hp
  have := h.shape p hp
  cases hk : p.kind with
  | slow a b => rw [hk] at this; exact this
  | run a b => rw [hk] at this; exact this
  | upl a b c => rw [hk] at this; exact this
  | del i f => rw [hk] at this; exact this.1
  | cls i => rw [hk] at this; exact this.1

theorem PendOk.keep {d : RState} (h : PendOk d) {p : Pend} (hp : p ∈ d.pend) : keepOf d.st p = true := by
  have := h.shape p hp
  unfold keepOf
  cases hk : p.kind with
  | slow a b => rfl
  | run a b => rfl
  | upl a b c => rfl
  | del i f => rw [hk] at this; exact this.2
  | cls i => rw [hk] at this; exact this.2

theorem keepOf_live {s : State} {p : Pend} (h : keepOf s p = true) :
    match p.kind with
    | .del i _ => isLive s i = true
    | .cls i => isLive s i = true
    | _ => True := by
  unfold keepOf at h
  cases hk : p.kind <;> simp_all

theorem filter_map_sublist {α β} (q : α → Bool) (f : α → β) (l : List α) : ((l.filter q).map f).Sublist (l.map f) :=
  List.Sublist.map f List.filter_sublist

theorem filter_filterMap_sublist {α β} (q : α → Bool) (f : α → Option β) (l : List α) :
    ((l.filter q).filterMap f).Sublist (l.filterMap f) :=
  List.Sublist.filterMap f List.filter_sublist

theorem PendOkW.strong {P : List Pend} {ns na : Nat} {rel : List Nat} {st : State} (h : PendOkW P ns na rel st.next) :
    PendOk { st := st, nslow := ns, nasync := na, released := rel, pend := P.filter (keepOf st) } := by
  refine ⟨List.Nodup.sublist (filter_map_sublist _ _ _) h.tags,
    List.Nodup.sublist (filter_filterMap_sublist _ _ _) h.slots, ?_, ?_, ?_, ?_⟩
  · intro p hp
    have hp' := List.mem_filter.mp hp
    have hsh := h.shape p hp'.1
    have hl := keepOf_live hp'.2
    cases hk : p.kind with
    | slow a b => rw [hk] at hsh; exact hsh
    | run a b => rw [hk] at hsh; exact hsh
    | upl a b c => rw [hk] at hsh; exact hsh
    | del i f => rw [hk] at hsh hl; exact ⟨hsh, hl⟩
    | cls i => rw [hk] at hsh hl; exact ⟨hsh, hl⟩
  · intro p hp; exact h.minted p (List.mem_filter.mp hp).1
  · intro p hp; exact h.sids p (List.mem_filter.mp hp).1
  · exact h.relLe

theorem PendOkW.tag_cases {P : List Pend} {ns na : Nat} {rel : List Nat} {next : Nat} (h : PendOkW P ns na rel next) {q : Pend}
    (hq : q ∈ P) :
    (∃ s, (q.tag = .p s ∨ q.tag = .r s) ∧ slotOf q = some s ∧ s ≤ ns) ∨
    (∃ n, (q.tag = .d n ∨ q.tag = .c n ∨ q.tag = .u n) ∧ n ≤ na ∧ slotOf q = none) := by
  have := h.shape q hq
  unfold slotOf
  cases hk : q.kind <;> rw [hk] at this
  · exact Or.inl ⟨_, Or.inl this.1, rfl, this.2.2.1⟩
  · exact Or.inl ⟨_, Or.inr this.1, rfl, this.2.2.1⟩
  · obtain ⟨n, hn, hle⟩ := this; exact Or.inr ⟨n, Or.inl hn, hle, rfl⟩
  · obtain ⟨n, hn, hle⟩ := this; exact Or.inr ⟨n, Or.inr (Or.inl hn), hle, rfl⟩
  · exact Or.inr ⟨_, Or.inr (Or.inr this.1), this.2, rfl⟩

theorem pendOkW_counters {P : List Pend} {ns na : Nat} {rel : List Nat} {next : Nat} (h : PendOkW P ns na rel next)
    {ns' na' : Nat} (h1 : ns ≤ ns') (h2 : na ≤ na') : PendOkW P ns' na' rel next := by
  refine ⟨h.tags, h.slots, ?_, h.minted, h.sids, fun k hk => Nat.le_trans (h.relLe k hk) h1⟩
  intro p hp
  have := h.shape p hp
  cases hk : p.kind with
  | slow a b => rw [hk] at this; exact ⟨this.1, this.2.1, Nat.le_trans this.2.2.1 h1, this.2.2.2⟩
  | run a b => rw [hk] at this; exact ⟨this.1, this.2.1, Nat.le_trans this.2.2.1 h1, this.2.2.2⟩
  | upl a b c => rw [hk] at this; exact ⟨this.1, Nat.le_trans this.2 h2⟩
  | del i f => rw [hk] at this; obtain ⟨n, hn, hle⟩ := this; exact ⟨n, hn, Nat.le_trans hle h2⟩
  | cls i => rw [hk] at this; obtain ⟨n, hn, hle⟩ := this; exact ⟨n, hn, Nat.le_trans hle h2⟩

theorem pendOk_counters {d : RState} (h : PendOk d) {ns na : Nat} (h1 : d.nslow ≤ ns) (h2 : d.nasync ≤ na) :
    PendOk { d with nslow := ns, nasync := na } := by
  have := (pendOkW_counters h.weak h1 h2).strong (st := d.st)
  rwa [List.filter_eq_self.mpr fun p hp => h.keep hp] at this

theorem pendOkW_append {P : List Pend} {ns na ns' na' : Nat} {rel : List Nat} {next : Nat} (h : PendOkW P ns na rel next)
    (h1 : ns ≤ ns') (h2 : na ≤ na') (p : Pend) (hfresh : ∀ q ∈ P, q.tag ≠ p.tag)
    (hslot : ∀ q ∈ P, ∀ k, slotOf q = some k → slotOf p ≠ some k) {i : Nat} (hsid : sidOf p = some i) (hi : i < next)
    (hsh : match p.kind with
      | .slow _ slot => p.tag = .p slot ∧ 1 ≤ slot ∧ slot ≤ ns' ∧ slot ∉ rel
      | .run _ slot => p.tag = .r slot ∧ 1 ≤ slot ∧ slot ≤ ns' ∧ slot ∉ rel
      | .del _ _ => ∃ n, p.tag = .d n ∧ n ≤ na'
      | .cls _ => ∃ n, p.tag = .c n ∧ n ≤ na'
      | .upl _ n _ => p.tag = .u n ∧ n ≤ na') :
    PendOkW (P ++ [p]) ns' na' rel next := by
  refine ⟨?_, ?_, ?_, ?_, ?_, (pendOkW_counters h h1 h2).relLe⟩
  · rw [List.map_append, List.nodup_append]
    refine ⟨h.tags, by simp, ?_⟩
    intro a ha b hb hab
    simp at hb; subst hb
    obtain ⟨q, hq, rfl⟩ := List.mem_map.mp ha
    exact hfresh q hq hab
  · rw [List.filterMap_append, List.nodup_append]
    refine ⟨h.slots, by cases hp : slotOf p <;> simp [hp], ?_⟩
    intro a ha b hb hab
    obtain ⟨q, hq, hqa⟩ := List.mem_filterMap.mp ha
    cases hp : slotOf p <;> simp [hp] at hb
    subst hb
    exact hslot q hq a hqa (by rw [hp, hab])
  · intro q hq
    rcases List.mem_append.mp hq with hq | hq
    · exact (pendOkW_counters h h1 h2).shape q hq
    · simp at hq; subst hq; exact hsh
  · intro q hq j hj
    rcases List.mem_append.mp hq with hq | hq
    · exact h.minted q hq j hj
    · simp at hq; subst hq; rw [hsid] at hj; cases hj; exact hi
  · intro q hq
    rcases List.mem_append.mp hq with hq | hq
    · exact h.sids q hq
    · simp at hq; subst hq; rw [hsid]; rfl

theorem isLive_eq {s : State} {i : Nat} {e : Sess} (h : findSess i s.tbl = some e) : isLive s i = !e.removed := by
  simp [isLive, h]

theorem bookDone_append (now : Nat) (tbl : List MSess) (pend : List (Tag × Name)) (d1 d2 : List (Tag × Nat)) :
    bookDone now tbl pend (d1 ++ d2) = bookDone now (bookDone now tbl pend d1).1 (bookDone now tbl pend d1).2 d2 := by
  unfold bookDone
  rw [List.foldl_append]

theorem pendOf_sid {p : Pend} {x : Tag × Name} (h : pendOf p = some x) : ∃ i, sidOf p = some i ∧ x.2 = sname i := by
  unfold pendOf at h
  unfold sidOf
  cases hk : p.kind with
  | slow a b =>
    cases a with
    | none => simp [hk] at h
    | some v => simp [hk] at h; exact ⟨v, rfl, by rw [← h]⟩
  | run a b => simp [hk] at h
  | del i f =>
    cases f with
    | false => simp [hk] at h
    | true => simp [hk] at h; exact ⟨i, rfl, by rw [← h]⟩
  | cls i => simp [hk] at h; exact ⟨i, rfl, by rw [← h]⟩
  | upl i n usr => simp [hk] at h; exact ⟨i, rfl, by rw [← h]⟩

theorem relPreAt_dead {cfg : Cfg} {P : List Pend} {tbl : List MSess} {e : Sess} (h : RelPreAt cfg P tbl e)
    (hr : e.removed = true) : RelPreAt cfg P (monUpd tbl (sname e.id) mDead) e := by
  unfold RelPreAt at h ⊢
  rw [monFind_monUpd_self keepsName_mDead]
  cases hf : monFind tbl (sname e.id) with
  | none => rw [hf] at h; exact h
  | some a =>
    rw [hf] at h
    simp only [Option.map_some]
    apply rel_nonlive
    · exact h.owner
    · simp [mDead]
    · intro _; exact hr
    · left; exact hr

theorem bookDone1_found (now : Nat) (tbl : List MSess) {pend : List (Tag × Name)} {c : Tag × Nat} {t : Tag} {nm : Name}
    (hf : pend.find? (·.1 == c.1) = some (t, nm)) (hnp : (∀ k, c.1 ≠ .p k) ∧ (∀ k, c.1 ≠ .u k)) :
    (bookDone1 now (tbl, pend) c).1 = monUpd tbl nm mDead := by
  unfold bookDone1
  rw [hf]
  cases hc : c.1 with
  | p k => exact absurd hc (hnp.1 k)
  | u k => exact absurd hc (hnp.2 k)
  | q k => rfl
  | d k => rfl
  | c k => rfl
  | r k => rfl
  | raw s => rfl

/-- (Second hypothesis: every completion that finds its tag in the monitor's table is one of a DELETE or a server-side close —
not `p`, not `u` — and belongs to an entry that is removed.) -/
theorem bookDone_rel {cfg : Cfg} {tblS : List Sess} (hnS : NodupIds tblS) (now : Nat) (P : List Pend) :
    ∀ (done : List (Tag × Nat)) (tbl : List MSess) (pend : List (Tag × Name)),
      (∀ e ∈ tblS, RelPreAt cfg P tbl e) →
      (∀ c ∈ done, ∀ x ∈ pend, x.1 = c.1 → ((∀ k, c.1 ≠ .p k) ∧ (∀ k, c.1 ≠ .u k)) ∧ ∃ e ∈ tblS, x.2 = sname e.id ∧ e.removed = true) →
      (∀ e ∈ tblS, RelPreAt cfg P (bookDone now tbl pend done).1 e) ∧
      ((bookDone now tbl pend done).1.map (·.name) = tbl.map (·.name)) := by
  intro done
  induction done with
  | nil => intro tbl pend h _; exact ⟨h, rfl⟩
  | cons c rest ih =>
    intro tbl pend hrel hdone
    unfold bookDone
    simp only [List.foldl_cons]
    have hsub : ∀ x, x ∈ (bookDone1 now (tbl, pend) c).2 → x ∈ pend := by
      intro x hx; rw [bookDone1_pend] at hx; exact (List.mem_filter.mp hx).1
    have h1 : (∀ e ∈ tblS, RelPreAt cfg P (bookDone1 now (tbl, pend) c).1 e) ∧
        (bookDone1 now (tbl, pend) c).1.map (·.name) = tbl.map (·.name) := by
      unfold bookDone1
      cases hf : pend.find? (·.1 == c.1) with
      | none => exact ⟨hrel, rfl⟩
      | some x =>
        obtain ⟨t, nm⟩ := x
        have hx := List.mem_of_find?_eq_some hf
        have ht : t = c.1 := by simpa using List.find?_some hf
        obtain ⟨hnp, e0, he0, hnm, hrm⟩ := hdone c List.mem_cons_self (t, nm) hx ht
        simp only [] at hnm
        have hupd := bookDone1_found now tbl hf hnp
        unfold bookDone1 at hupd
        rw [hf] at hupd
        simp only [] at hupd ⊢
        rw [hupd, monUpd_names keepsName_mDead]
        refine ⟨?_, rfl⟩
        intro e he
        by_cases hid : e.id = e0.id
        · have : e = e0 := inj_of_nodup_ids hnS e he e0 he0 hid
          subst this
          rw [hnm]
          exact relPreAt_dead (hrel e he) hrm
        · have := hrel e he
          unfold RelPreAt at this ⊢
          rw [hnm, monFind_monUpd_ne keepsName_mDead _ (sname_ne hid)]
          exact this
    have hrec := ih (bookDone1 now (tbl, pend) c).1 (bookDone1 now (tbl, pend) c).2 h1.1
      (fun c' hc' x hx => hdone c' (List.mem_cons_of_mem _ hc') x (hsub x hx))
    unfold bookDone at hrec
    rw [show (bookDone1 now (tbl, pend) c) = ((bookDone1 now (tbl, pend) c).1, (bookDone1 now (tbl, pend) c).2) from rfl]
    exact ⟨hrec.1, by rw [hrec.2, h1.2]⟩

def booked (cfg : Cfg) (m : Mon) (op : Op) (st : St) (done : List (Tag × Nat)) :
    (List MSess × List (Tag × Name)) × List (Nat × Name) :=
  let now := nowAfter m op
  let ba := bookAnswer cfg (effFaults cfg m) now (tagOf m op) (m.tbl.map (expire cfg now)) m.pend op st
  let bs := bookSlots ba.1 ba.2 m.run op st
  (bookDone now bs.1 ba.2 done, bs.2)

theorem booked_append (cfg : Cfg) (m : Mon) (op : Op) (st : St) (d1 d2 : List (Tag × Nat)) :
    booked cfg m op st (d1 ++ d2) =
      (bookDone (nowAfter m op) (booked cfg m op st d1).1.1 (booked cfg m op st d1).1.2 d2, (booked cfg m op st d1).2) := by
  simp only [booked, bookDone_append]

/-- The snapshot of a settled model state `d'.st` is scanned against the monitor's table `tbl2` as the bookkeeping left it; `tbl3` is
where the scan ends (`tbl2`, or `tbl2` with the session this record created).  `hhdr` is what `noteFailedInit` needs: an
`Mcp-Session-Id` names a session the monitor knows, or an entry of the model bound to the request's owner (gone, and noted dead). -/
theorem sim_scanned {cfg : Cfg} {d' : RState} {m : Mon} {op : Op} {o : Obs} {tbl2 tbl3 : List MSess}
    (hcfg : d'.st.cfg = cfg) (hsf : cfg.stateless = false)
    (hmap : o.map = showMap d'.st) (hsrv : o.srv = showSrv d'.st) (hstale : o.stale = showStale d'.st)
    (hbd : booked cfg m op o.status o.done = ((tbl2, d'.pend.filterMap pendOf), d'.pend.filterMap runOf))
    (hscan : scanMap cfg (nowAfter m op) op.req o.status o.hdr tbl2 (showMap d'.st) = (tbl3, none))
    (hpre : TblPre cfg d'.st d'.pend tbl3)
    (heok : ∀ e ∈ d'.st.tbl, EOk cfg d'.st.now (nsOf d'.pend e.id) (nrOf d'.pend e.id) e)
    (hpok : PendOk d')
    (hnow : nowAfter m op = d'.st.now) (hfl : faultsAfter m op o.status = d'.st.faults)
    (hcnt : countersAfter m op o.status = (d'.nslow, d'.nasync))
    (hans : chkAnswerO cfg (effFaults cfg m) (m.tbl.map (expire cfg (nowAfter m op))) op.req o.status = none)
    (hlog : chkLogOp cfg m.pend op o.status o.log = none)
    (hmint : chkMint cfg (m.tbl.map (expire cfg (nowAfter m op))) op.req o.status o.hdr = none)
    (hnoid : chkNoId cfg op.req o.status o.hdr = false)
    (hhdr : ∀ h, o.hdr = some h → (monFind tbl3 h).isSome = true ∨
      ∃ e ∈ d'.st.tbl, h = sname e.id ∧ ownerOf e.owner = reqOwner op.req) :
    (monStep cfg m op o).viol = none ∧ Sim cfg d' (monStep cfg m op o).mon := by
  have htc := table_checks hpre hsf (nowAfter m op) op.req o.status o.hdr
  have hbd1 : bookDone (nowAfter m op) _ _ o.done = (tbl2, d'.pend.filterMap pendOf) := congrArg Prod.fst hbd
  have hbs : (bookSlots _ _ m.run op o.status).2 = d'.pend.filterMap runOf := congrArg Prod.snd hbd
  constructor
  · apply monStep_viol_none hans hlog hmint
    · rw [hbd1, hmap, hscan]
    · rw [hmap]; exact htc.2.1
    · rw [hbd1, hmap, hscan]; exact htc.2.2.1
    · rw [hmap, hsrv]; exact htc.2.2.2.1
    · exact hnoid
    · rw [hmap, hstale]; exact chkClose_model hpre.inv (fun e he => ⟨_, _, heok e he⟩)
  · obtain ⟨e1, e2, e3, e4, e5, e6, e7⟩ := monStep_mon cfg m op o
    rw [hbd1, hmap, hscan] at e1
    rw [hbd1] at e3
    rw [hbs] at e4
    have hrelR := htc.2.2.2.2
    generalize hR : reapDying ((showMap d'.st).map (·.name)) tbl3 = tblR at e1 hrelR
    have hnodupR : (tblR.map (·.name)).Nodup := by rw [← hR]; exact reapDying_nodup hpre.mnodup
    have hmintedR : ∀ a ∈ tblR, ∃ j, j < d'.st.next ∧ a.name = sname j := by
      intro a ha
      rw [← hR] at ha
      obtain ⟨b, hb, hab⟩ := reapDying_mem ha
      obtain ⟨j, hj, hn⟩ := hpre.minted b hb
      exact ⟨j, hj, by rw [hab]; exact hn⟩
    -- the note of a failed initialize: nothing, or one more dead session for an entry that is gone
    have hshape : (monStep cfg m op o).mon.tbl = tblR ∨
        ∃ e ∈ d'.st.tbl, monFind tblR (sname e.id) = none ∧ ownerOf e.owner = reqOwner op.req ∧
          (monStep cfg m op o).mon.tbl =
            tblR ++ [{ name := sname e.id, owner := reqOwner op.req, life := .dead, posts := 0, idleSince := nowAfter m op }] := by
      rw [e1]
      unfold noteFailedInit
      cases hh : o.hdr with
      | none => exact Or.inl rfl
      | some h =>
        simp only []
        cases hf : monFind tblR h with
        | some x => exact Or.inl (by simp)
        | none =>
          rcases hhdr h hh with h3 | ⟨e, he, rfl, ho⟩
          · exfalso
            rw [← hR, reapDying_eq, monFind_map (keepsName_reap1 _)] at hf
            cases h3' : monFind tbl3 h <;> simp [h3'] at h3 hf
          · exact Or.inr ⟨e, he, hf, ho, by simp⟩
    refine ⟨hcfg, hpre.inv, hsf, by rw [e2, hnow], by rw [e5, hfl], by rw [e6, hcnt], by rw [e7, hcnt], ?_, ?_, heok, ?_,
      e3, e4, hpok⟩
    · rcases hshape with h | ⟨e, _, hnf, _, h⟩ <;> rw [h]
      · exact hnodupR
      · rw [List.map_append, List.nodup_append]
        refine ⟨hnodupR, by simp, ?_⟩
        intro a ha b hb hab
        simp at hb; subst hb
        obtain ⟨x, hx, rfl⟩ := List.mem_map.mp ha
        exact monFind_none hnf x hx hab
    · intro a ha
      rcases hshape with h | ⟨e, he, _, _, h⟩ <;> rw [h] at ha
      · exact hmintedR a ha
      · rcases List.mem_append.mp ha with ha | ha
        · exact hmintedR a ha
        · simp at ha; subst ha
          exact ⟨e.id, ids_lt hpre.inv e he, rfl⟩
    · intro e' he'
      have hr0 := hrelR e' he'
      unfold RelAt at hr0 ⊢
      rcases hshape with h | ⟨e, he, hnf, ho, h⟩ <;> rw [h]
      · exact hr0
      · rw [monFind_append]
        cases hf : monFind tblR (sname e'.id) with
        | some a => rw [hf] at hr0; exact hr0
        | none =>
          rw [hf] at hr0
          simp only [monFind, List.find?_cons, List.find?_nil]
          by_cases hid : e.id = e'.id
          · have : e = e' := entry_unique hpre.inv he he' hid
            subst this
            simp only [beq_self_eq_true]
            exact ⟨⟨ho.symm, fun _ => hr0, ⟨nofun, fun h => by rw [hr0] at h; cases h.1⟩, nofun, nofun⟩, fun _ => rfl⟩
          · have : (sname e.id == sname e'.id) = false := by simp; exact fun h => hid (sname_inj h)
            simp only [this]; exact hr0

/-- A session whose close completes is removed, so booking it dead keeps every entry related, whatever session the
completions belong to. -/
theorem completions_rel {cfg : Cfg} {st2 : State} {P : List Pend} {ns na : Nat} {rel : List Nat} {tblX : List MSess}
    (hinv : Inv st2) (hpw : PendOkW P ns na rel st2.next) (now : Nat)
    (hrel : ∀ e ∈ st2.tbl, RelPreAt cfg P tblX e) :
    (∀ e ∈ st2.tbl, RelPreAt cfg (P.filter (keepOf st2)) (bookDone now tblX (P.filterMap pendOf) (P.filterMap (doneOf st2))).1 e) ∧
    (bookDone now tblX (P.filterMap pendOf) (P.filterMap (doneOf st2))).1.map (·.name) = tblX.map (·.name) ∧
    (bookDone now tblX (P.filterMap pendOf) (P.filterMap (doneOf st2))).2 = (P.filter (keepOf st2)).filterMap pendOf := by
  have hdone := bookDone_rel (cfg := cfg) (inv_nodupIds hinv) now P (P.filterMap (doneOf st2)) tblX (P.filterMap pendOf) hrel (by
    intro c hc x hx hxc
    obtain ⟨q, hq, hqc⟩ := List.mem_filterMap.mp hc
    obtain ⟨q', hq', hqx⟩ := List.mem_filterMap.mp hx
    have hqt := doneOf_tag hqc
    have : q' = q := pend_unique hpw.tags hq' hq (by rw [← pendOf_tag hqx, hxc, hqt.1])
    subst this
    obtain ⟨j, hj, hxn⟩ := pendOf_sid hqx
    obtain ⟨e, hfe⟩ := findSess_of_lt hinv (hpw.minted q' hq' j hj)
    have hsh := hpw.shape q' hq'
    have hkeep := hqt.2
    unfold keepOf at hkeep
    unfold sidOf at hj
    have key : isLive st2 j = false → ∃ e ∈ st2.tbl, x.2 = sname e.id ∧ e.removed = true := fun hl => by
      rw [isLive_eq hfe] at hl
      exact ⟨e, (findSess_some hfe).1, by rw [hxn, (findSess_some hfe).2], by simpa using hl⟩
    cases hkind : q'.kind with
    | slow a b => rw [hkind] at hkeep; cases hkeep
    | run a b => rw [hkind] at hkeep; cases hkeep
    | upl a b c => rw [hkind] at hkeep; cases hkeep
    | del i f =>
      rw [hkind] at hkeep hsh hj
      obtain ⟨nn, hn, _⟩ := hsh
      simp at hj; subst hj
      exact ⟨⟨(by intro k hk'; rw [hqt.1, hn] at hk'; cases hk'), (by intro k hk'; rw [hqt.1, hn] at hk'; cases hk')⟩, key hkeep⟩
    | cls i =>
      rw [hkind] at hkeep hsh hj
      obtain ⟨nn, hn, _⟩ := hsh
      simp at hj; subst hj
      exact ⟨⟨(by intro k hk'; rw [hqt.1, hn] at hk'; cases hk'), (by intro k hk'; rw [hqt.1, hn] at hk'; cases hk')⟩, key hkeep⟩)
  refine ⟨fun e he => ?_, hdone.2, pend_after_completions hpw.tags now tblX⟩
  have := hdone.1 e he
  unfold RelPreAt at this ⊢
  rw [nsOf_filter_keep, nrOf_filter_keep]
  exact this

/-- The operation has an observation, the monitor is silent on it, and the relation holds afterwards. -/
def Accepts (cfg : Cfg) (d : RState) (m : Mon) (op : Op) : Prop :=
  ∃ d' o, replayOp d op = some (d', o) ∧ (monStep cfg m op o).viol = none ∧ Sim cfg d' (monStep cfg m op o).mon

theorem Accepts.of_replay {cfg : Cfg} {d d' : RState} {m : Mon} {op : Op} {o : Obs} (h : Accepts cfg d m op)
    (hop : replayOp d op = some (d', o)) : (monStep cfg m op o).viol = none ∧ Sim cfg d' (monStep cfg m op o).mon := by
  obtain ⟨_, _, hop', h⟩ := h
  rw [hop] at hop'; cases hop'; exact h

theorem Accepts.modelOp {cfg : Cfg} {d : RState} {m : Mon} {op : Op} (h : Accepts cfg d m op) :
    ∃ mo, modelOp d op = some mo := by
  obtain ⟨_, _, hop, _⟩ := h
  unfold replayOp at hop
  cases hm : Sessions.modelOp d op with
  | none => rw [hm] at hop; cases hop
  | some mo => exact ⟨mo, rfl⟩

/-- The labels of the operation and the settling have taken the model to `st2`; the monitor's bookkeeping of the answer, the
slots and the completions `done0` that the operation itself reports has left the table `tblX`; every entry of `st2` is
quiescent (`EOk`) and related to `tblX`. -/
theorem sim_record {cfg : Cfg} {d : RState} {m : Mon} (hs : Sim cfg d m) {op : Op}
    {st1 st2 : State} {P : List Pend} {status : St} {hdr : Option Name} {hang : Bool} {done0 : List (Tag × Nat)}
    {log : List LogEnt} {ns' na' : Nat} {rel' : List Nat} {tblX : List MSess}
    (hmo : modelOp d op = some { st := st1, status := status, hdr := hdr, hang := hang, done := done0, log := log, pend := P, nslow := ns', nasync := na', released := rel' })
    (hset : settle st1 = st2) (hinv : Inv st2) (hcfg : st2.cfg = cfg)
    (hpw : PendOkW P ns' na' rel' st2.next)
    (hbook : booked cfg m op status done0 = ((tblX, P.filterMap pendOf), P.filterMap runOf))
    (hnodupX : (tblX.map (·.name)).Nodup) (hmintedX : ∀ a ∈ tblX, ∃ j, j < st2.next ∧ a.name = sname j)
    (hent : ∀ e ∈ st2.tbl, EOk cfg st2.now (nsOf P e.id) (nrOf P e.id) e ∧ RelPreAt cfg P tblX e)
    (hnow : nowAfter m op = st2.now) (hfl : faultsAfter m op status = st2.faults)
    (hcnt : countersAfter m op status = (ns', na'))
    (hans : chkAnswerO cfg (effFaults cfg m) (m.tbl.map (expire cfg (nowAfter m op))) op.req status = none)
    (hlog : chkLogOp cfg m.pend op status log = none)
    (hmint : chkMint cfg (m.tbl.map (expire cfg (nowAfter m op))) op.req status hdr = none)
    (hnoid : chkNoId cfg op.req status hdr = false)
    (hhdr : ∀ h, hdr = some h → (monFind tblX h).isSome = true) :
    Accepts cfg d m op := by
  have hsf := hs.stateful
  obtain ⟨hrel2, hnames2, hpend2⟩ := completions_rel hinv hpw (nowAfter m op) (fun e he => (hent e he).2)
  generalize htbl2 : (bookDone (nowAfter m op) tblX (P.filterMap pendOf) (P.filterMap (doneOf st2))).1 = tbl2
    at hrel2 hnames2
  have hpre : TblPre cfg st2 (P.filter (keepOf st2)) tbl2 :=
    ⟨hinv, by rw [hcfg]; exact hsf, fun e he => (hent e he).1.inMap, by rw [hnames2]; exact hnodupX, fun a ha => by
      have : a.name ∈ tblX.map (·.name) := by rw [← hnames2]; exact List.mem_map.mpr ⟨a, ha, rfl⟩
      obtain ⟨b, hb, hab⟩ := List.mem_map.mp this
      obtain ⟨j, hj, hn⟩ := hmintedX b hb
      exact ⟨j, hj, by rw [← hab]; exact hn⟩, hrel2⟩
  refine ⟨{ st := st2, nslow := ns', nasync := na', released := rel', pend := P.filter (keepOf st2) },
    { status := status, hdr := hdr, hang := hang, done := done0 ++ P.filterMap (doneOf st2), map := showMap st2,
      srv := showSrv st2, log := log, stale := showStale st2 }, by simp only [replayOp, hmo, hset, completions_eq], ?_⟩
  refine sim_scanned (tbl2 := tbl2) (tbl3 := tbl2) hcfg hsf rfl rfl rfl ?_
    (table_checks hpre hsf _ _ _ _).1 hpre (fun e he => by rw [nsOf_filter_keep, nrOf_filter_keep]; exact (hent e he).1)
    hpw.strong hnow hfl hcnt hans hlog hmint hnoid (fun h hh => Or.inl ?_)
  · show booked cfg m op status (done0 ++ P.filterMap (doneOf st2)) = _
    rw [booked_append, hbook, runOf_filter_keep]
    exact Prod.ext (Prod.ext htbl2 hpend2) rfl
  · have := hhdr h hh
    rw [monFind_isSome, hnames2, ← monFind_isSome]; exact this

end Sessions
