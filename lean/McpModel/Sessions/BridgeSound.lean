import McpModel.Sessions.Bridge
import McpModel.Sessions.Complete
/-!
# E7 / C11: the model satisfies every clause of the property, as read on observation traces

`monitor_silent_iff`: the monitor is silent on a trace iff every clause predicate of Sound.lean holds of it.
`model_satisfies_P`: on the observation trace of ANY operation list of the model every clause predicate
holds (`monitor_accepts_model` + `monitor_complete`) — the property, as the monitor reads it on
observations, is a theorem about the model, for all histories.
-/
namespace Sessions

theorem monitor_silent_iff (cfg : Cfg) (tr : Trace) : runMon cfg tr = none ↔ ∀ c, P_of cfg c tr := by
  constructor
  · exact fun h c => monitor_complete h c
  · intro h
    cases hr : runMon cfg tr with
    | none => rfl
    | some jc =>
      obtain ⟨j, c⟩ := jc
      exact absurd (h c) (monitor_sound hr)

theorem model_satisfies_P (cfg : Cfg) (hfix : cfg.publishChecks = true) (ops : List Op) (c : Clause) :
    P_of cfg c (modelTrace cfg ops) :=
  monitor_complete (monitor_accepts_model cfg hfix ops) c

theorem model_satisfies_PEnd (cfg : Cfg) (hfix : cfg.publishChecks = true) (ops : List Op) :
    PEnd (some { stuck := 0, map := endLeft (replayFrom (.init cfg) ops), srv := 0 }) := by
  rw [endLeft_zero (sim_after_model cfg hfix ops)]
  rfl

/-- Non-vacuity of the clause predicates: they are not satisfied by every trace.  A terminated session
(DELETE answered 204) that is honoured afterwards refutes `P_deadAnswered`; the monitor reports exactly that. -/
example :
    let cfg : Cfg := ⟨false, 100, true, false⟩
    let s1 : MapEnt := { name := .s 1, owner := .u 1 }
    let tr : Trace := [
      (.post .absent (.u 1) .init, { status := .code 200, hdr := some (.s 1), map := [s1], srv := [.s 1] }),
      (.delete (.s 1) (.u 1), { status := .code 204 }),
      (.get (.s 1) (.u 1), { status := .code 200 })]
    runMon cfg tr = some (2, .ans (.deadAnswered .get (.code 200))) := by
  decide

example :
    let cfg : Cfg := ⟨false, 100, true, false⟩
    let s1 : MapEnt := { name := .s 1, owner := .u 1 }
    let tr : Trace := [
      (.post .absent (.u 1) .init, { status := .code 200, hdr := some (.s 1), map := [s1], srv := [.s 1] }),
      (.delete (.s 1) (.u 1), { status := .code 204 }),
      (.get (.s 1) (.u 1), { status := .code 200 })]
    ¬ P_deadAnswered cfg .get (.code 200) tr :=
  sound_deadAnswered .get (.code 200) (j := 2) (by decide)

end Sessions
