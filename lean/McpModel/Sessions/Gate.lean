import McpModel.Sessions.Replay
import McpModel.Sessions.Monitor
/-!
E7 — requests that `StreamableHTTPHandler` refuses **before the session layer** (mcp/streamable.go
`serveStatefulPOST` / `serveStateless`: the `Content-Type` check (415), the `Accept` check (400), `getServer`
returning nil on the creation path (400); `serveStatefulGET`: the `Accept` check (400); `ServeHTTP` itself: DNS rebinding protection and cross-origin protection, 403 —
the same status as a user mismatch, from the session's owner too).  They come before the
`Mcp-Session-Id` header is even read, so C11 demands of them exactly one thing: **no effect** — whatever id and
identity they carry, no session is looked up, created or kept alive, no id is minted, no idle timer is stopped or
re-armed, no handler runs.

That is stated by reduction: for the model and for the monitor such a request *is* a `tick 0` (the operation in
which nothing happens and no time passes: the whole table, the server's list, the handler log and the timers of
departed sessions are compared / judged exactly as after any operation) plus the status of its answer.
GateProps.lean has `sim_step` for these requests.  Core Lean only.
-/
namespace Sessions

inductive Why where
  | ctype        -- POST whose Content-Type is not application/json
  | accept       -- POST whose Accept lacks application/json or text/event-stream
  | getAccept    -- GET whose Accept lacks text/event-stream
  | noServer     -- POST without a session id for which `getServer` returns nil
  | origin       -- POST from another origin (`Sec-Fetch-Site: cross-site`) with `CrossOriginProtection` configured
  | host         -- request that arrived on a loopback address with a foreign `Host` (DNS rebinding protection)
deriving DecidableEq, Repr

/-- regenerated from mcp/streamable.go on every run -/
def Why.status (stateless : Bool) : Why → Nat
  | .ctype => if stateless then Generated.Sessions.statelessBadContentType else Generated.Sessions.statefulBadContentType
  | .accept => if stateless then Generated.Sessions.statelessBadAccept else Generated.Sessions.statefulBadAccept
  | .getAccept => if stateless then Generated.Sessions.statelessNotPost else Generated.Sessions.statefulGETBadAccept
  | .noServer => if stateless then Generated.Sessions.statelessNoServer else Generated.Sessions.statefulNoServer
  | .origin => Generated.Sessions.serveCrossOrigin
  | .host => Generated.Sessions.serveBadHost

/-- The model's observation of a refused request: the status, and the unchanged world. -/
def gateModel (d : RState) (w : Why) : Option (RState × Obs) :=
  match replayOp d (.tick 0) with
  | some (d', o) => some (d', { o with status := .code (w.status d.st.cfg.stateless) })
  | none => none

def St.refused4xx : St → Bool
  | .code n => 400 ≤ n && n < 500
  | _ => false

inductive GateClause where
  | answered (w : Why) (st : St)     -- served (or not answered) instead of being refused
  | effect (c : Clause)              -- the refused request had an effect: the clause a `tick 0` would have violated
deriving Repr

/-- The monitor on a refused request: it is refused (C11 does not say with which status: that it is the status of
the first failing check — 415 / 400 / 405, not the 403 / 404 of the session lookup — is part of the comparison with
the model, `Why.status`), and nothing else has happened. -/
def gateJudge (cfg : Cfg) (m : Mon) (w : Why) (o : Obs) : Mon × Option GateClause :=
  let r := monStep cfg m (.tick 0) { o with status := .ok }
  (r.mon, if !o.status.refused4xx then some (.answered w o.status) else r.viol.map .effect)

end Sessions
