import McpModel.Sessions.Bridge
/-!
# E7 / C11: every operation in scope has an observation

`modelTrace` skips an operation only when `replayOp` yields none.  `replayOp_total`: in every state related to
the monitor's (hence in every state the replay reaches) `replayOp` yields an observation for every
operation in scope (`Op.inScope`); on a stateful endpoint this is half of what the cases of
the simulation prove (`step_accepts`), on a stateless one it is `modelOp_sl`.
So `monitor_accepts_model` speaks about one record per operation in scope: `modelTrace_length`.
-/
namespace Sessions

/-- The operations that have a meaning in a configuration: no `postx` on a stateless endpoint (no session is ever
published there); a POST whose body arrives in pieces (`postb`, `body`) only on a stateful endpoint, and `postb` only
with a session id (the creation path reads its body after the publication: not modelled apart).  The harness
generates no others and answers `bad-op` to the latter. -/
def Op.inScope (cfg : Cfg) : Op → Bool
  | .postx _ _ => !cfg.stateless
  | .postb ref _ => !cfg.stateless && ref != .absent
  | .body _ _ => !cfg.stateless
  | _ => true

/-- the exclusions are needed: outside the scope the replay has no observation … -/
example : replayOp (.init ⟨true, 100, true, false⟩) (.postx .anon .init) = none ∧
    replayOp (.init ⟨true, 100, true, false⟩) (.postb (.s 1) .anon) = none ∧
    replayOp (.init ⟨true, 100, true, false⟩) (.body 1 true) = none ∧
    replayOp (.init ⟨false, 100, true, false⟩) (.postb .absent .anon) = none := by decide

/-- … and the scope is not empty for any operation shape on a stateful endpoint -/
example : Op.inScope ⟨false, 100, true, false⟩ (.postb (.s 1) (.u 1)) = true ∧ Op.inScope ⟨false, 100, true, false⟩ (.body 2 true) = true ∧
    Op.inScope ⟨false, 100, true, false⟩ (.postx (.u 1) .init) = true := by decide

theorem step_accepts {cfg : Cfg} {d : RState} {m : Mon} (hs : Sim cfg d m) (op : Op) (hsc : op.inScope cfg = true) :
    Accepts cfg d m op :=
  op_accepts hs op fun u h => by subst h; simp [Op.inScope] at hsc

theorem modelOp_total {cfg : Cfg} {d : RState} {m : Mon} (hs : SimAny cfg d m) (op : Op)
    (hsc : op.inScope cfg = true) : ∃ mo, modelOp d op = some mo := by
  rcases hs with ⟨_, hs⟩ | ⟨hsl', hs⟩
  · exact (step_accepts hs op hsc).modelOp
  -- stateless: an operation without a record is one of the three out of scope
  rcases modelOp_sl (by rw [hs.cfg_eq]; exact hsl') op with ⟨mo, hmo, _⟩ | ⟨_, h⟩
  · exact ⟨mo, hmo⟩
  · rcases h with ⟨u, k, rfl⟩ | ⟨r, u, rfl⟩ | ⟨n, f, rfl⟩ <;> simp [Op.inScope, hsl'] at hsc

theorem replayOp_total {cfg : Cfg} {d : RState} {m : Mon} (hs : SimAny cfg d m) (op : Op)
    (hsc : op.inScope cfg = true) : ∃ d' o, replayOp d op = some (d', o) := by
  obtain ⟨mo, hmo⟩ := modelOp_total hs op hsc
  simp only [replayOp, hmo]
  exact ⟨_, _, rfl⟩

theorem modelTraceFrom_length {cfg : Cfg} : ∀ (ops : List Op) (d : RState) (m : Mon), SimAny cfg d m →
    (∀ op ∈ ops, op.inScope cfg = true) →
    (modelTraceFrom d ops).length = ops.length := by
  intro ops
  induction ops with
  | nil => intro d m _ _; rfl
  | cons op ops ih =>
    intro d m hs hpx
    obtain ⟨d', o, hop⟩ := replayOp_total hs op (hpx op List.mem_cons_self)
    simp only [modelTraceFrom, hop, List.length_cons]
    rw [ih d' _ (sim_step hs op hop).2 (fun op' hop' => hpx op' (List.mem_cons_of_mem _ hop'))]

theorem modelTrace_length (cfg : Cfg) (hfix : cfg.publishChecks = true) (ops : List Op)
    (hpx : ∀ op ∈ ops, op.inScope cfg = true) :
    (modelTrace cfg ops).length = ops.length :=
  modelTraceFrom_length ops (.init cfg) {} (sim_init cfg hfix) hpx

end Sessions
