import McpModel.Sessions.Monitor
/-!
E7 — the two configurations of `mcp.StreamableHTTPHandler` in which **no session is ever kept**, apart from
the ordinary stateless endpoint (which is part of Model.lean):

* `legacy` — `StreamableHTTPOptions.Stateless` with the compatibility parameter `MCPGODEBUG
  allowsessionsinstateless=1` (mcp/streamable.go `serveStateless`, the branches under `legacySessions`, and
  `serveStatelessLegacyDELETE`): a POST's temporary session carries the `Mcp-Session-Id` of the request or,
  when the request has none, an id minted by `ServerOptions.GetSessionID` (minted for *every* such POST, named
  in the response to an `initialize` only); DELETE is a no-op that demands an id (204 / 400); GET and any other
  method are answered 405.  The flag deliberately switches the C11 clause "stateless endpoints neither issue
  nor honour session ids" off; what remains of C11 is that nothing is kept (the id addresses nothing after the
  request), that an answer names the session the request named, and that a minted id is fresh.
* `noIds` — a stateful endpoint whose `ServerOptions.GetSessionID` returns `""` (`serveStatefulPOST`, the
  branch `if sessionID == ""`): a POST without a session id is served by a temporary session that is never
  published in `h.sessions` and is closed when the POST ends; no id is ever minted, so every request that
  carries one is answered 404 (GET, POST, DELETE), GET/DELETE without one 400, other methods 405.

With an event store (`es`) the model also says when the store is told that a temporary session is over (`told`, the field `closed` of
the observation), what its failures change (`fault`), and what a server-side `Close()` of a parked temporary session (`close`), the
client's going away (`abandon`) and the handler's return (`release`) do.

Model (`modelOp`), property monitor on the implementation's observation (`judge`), both total and typed;
the theorems are in EphemeralProps.lean.  Core Lean only (linked into the driver).
-/
namespace Sessions.Eph

inductive Mode where
  | legacy | noIds
deriving DecidableEq, Repr

/-- Both regenerated from `serveStatelessLegacyDELETE` on every run. -/
def stLegacyDeleteMissingId : Nat := Generated.Sessions.statelessLegacyDeleteMissingID
def stLegacyDeleteOK : Nat := Generated.Sessions.statelessLegacyDeleteOK

/-- A POST in progress (its handler is blocked in slot `slot`) and the name of its temporary session. -/
structure Slow where
  slot : Nat
  name : Name
deriving DecidableEq, Repr

structure State where
  mode : Mode
  es : Bool := false            -- the handler has an `EventStore`
  next : Nat := 0               -- ids minted so far (`legacy` only)
  nslow : Nat := 0              -- the harness's slot counter
  released : List Nat := []
  slow : List Slow := []        -- temporary sessions in progress, oldest first
  failClosed : Bool := false    -- the store's `SessionClosed` currently fails (`fault c`)
  closing : List Nat := []      -- one entry per server-side `Close()` that waits for the handler in that slot
deriving DecidableEq, Repr

def names (s : State) : List Name := s.slow.map (·.name)

/-- The name of the temporary session that serves a POST (`none`: the reference means nothing here). -/
def tempName (s : State) : Ref → Option Name
  | .absent => match s.mode with
    | .legacy => some (.s (s.next + 1))       -- `server.opts.GetSessionID()`
    | .noIds => some .e                        -- `GetSessionID` returned ""
  | .s k => if 1 ≤ k ∧ k ≤ s.next then some (.s k) else none
  | .x n => some (.x n)

/-- only the answer to an `initialize` carries the header, and only if the session has an id -/
def hdrOf (k : PKind) (nm : Name) : Option Name :=
  match k with
  | .init | .badinit => if nm == .e then none else some nm
  | _ => none

def logOf (nm : Name) (u : UserTok) : PKind → List LogEnt
  | .init => [⟨nm, .tok u, .initialize⟩]
  | .ping => [⟨nm, .tok u, .ping⟩]
  | .notif => [⟨nm, .tok u, .initialized⟩]     -- handled before the POST is acknowledged (`serveEphemeral`)
  | .slow => [⟨nm, .tok u, .toolsCall⟩]
  | .badinit => []

def rejectObs (s : State) (c : Nat) : Obs := { status := .code c, srv := names s }

/-- `streamableServerConn.Close`: the event store (if any) is told that the session is over. -/
def told (s : State) (nm : Name) : List Name := if s.es then [nm] else []

/-- One harness operation. `none`: the operation is not part of these configurations' alphabet, or (`close` of an id that several
temporary sessions share) its outcome is left open. -/
def modelOp (s : State) (op : Op) : Option (State × Obs) :=
  match op with
  | .post ref u k =>
    let s1 := if k == .slow then { s with nslow := s.nslow + 1 } else s
    if s.mode == .noIds && ref != .absent then some (s1, rejectObs s1 stNotFound)    -- `lookupSession`
    else match tempName s ref with
      | none => none
      | some nm =>
        let s2 := if s.mode == .legacy && ref == .absent then { s1 with next := s1.next + 1 } else s1
        match k with
        | .slow =>
          let s3 := { s2 with slow := s2.slow ++ [⟨s2.nslow, nm⟩] }
          some (s3, { status := .pending, srv := names s3, log := logOf nm u k })
        | .notif => some (s2, { status := .code 202, srv := names s2, log := logOf nm u k, closed := told s nm })
        | _ => some (s2, { status := .code 200, hdr := hdrOf k nm, srv := names s2, log := logOf nm u k, closed := told s nm })
  | .release k =>
    if k = 0 || k > s.nslow || s.released.contains k then some (s, { status := .noop, srv := names s })
    else
      let s1 := { s with released := s.released ++ [k] }
      match s.slow.find? (·.slot == k) with
      | some p =>
        let s2 := { s1 with slow := s1.slow.filter (·.slot != k) }
        -- the server-side `Close()` calls that waited for this handler return too (with the store's error, if any)
        let cls := (s.closing.filter (· == k)).map fun _ => ((Tag.c 0, if s.es && s.failClosed then 2 else 1) : Tag × Nat)
        let s3 := { s2 with closing := s2.closing.filter (· != k) }
        some (s3, { status := .ok, done := (.p k, 200) :: cls, srv := names s3, closed := told s p.name })
      | none => some (s1, { status := .ok, srv := names s1 })
  | .get ref _ =>
    match s.mode with
    | .legacy => some (s, rejectObs s stStatelessNotPost)
    | .noIds => some (s, rejectObs s (if ref == .absent then stMissingIdGet else stNotFound))
  | .delete ref _ =>
    match s.mode with
    | .legacy => some (s, rejectObs s (if ref == .absent then stLegacyDeleteMissingId else stLegacyDeleteOK))
    | .noIds => some (s, rejectObs s (if ref == .absent then stMissingIdDelete else stNotFound))
  | .other _ _ =>
    match s.mode with
    | .legacy => some (s, rejectObs s stStatelessNotPost)
    | .noIds => some (s, rejectObs s stOtherMethod)
  | .tick _ => some (s, { status := .ok, srv := names s })
  -- the store's failures (of `SessionClosed`) change nothing for the POST: `serveEphemeral` drops what `Close` returns; a waiting
  -- server-side `Close()` returns the error (`release`)
  | .fault f => some ({ s with failClosed := f.closed }, { status := if s.es then .ok else .noop, srv := names s })
  -- `ServerSession.Close()` on the temporary session with that id, found through `Server.Sessions()`: it waits for
  -- the running handler; the POST is answered and the store told when the handler returns (`release`)
  | .close ref =>
    match s.mode, ref.name with
    | .legacy, some n =>
      match s.slow.filter (·.name == n) with
      | [] => some (s, { status := .noop, srv := names s })
      | [p] => some ({ s with closing := s.closing ++ [p.slot] }, { status := .pending, srv := names s })
      | _ => none     -- several temporary sessions under one id: which of them `Server.Sessions()` yields last is open
    | _, _ => some (s, { status := .noop, srv := names s })     -- (a session without id cannot be named)
  -- the client of a parked POST goes away: the POST waits in `session.Close()` for its handler — nothing observable
  | .abandon k => some (s, { status := if s.slow.any (·.slot == k) then .ok else .noop, srv := names s })
  | _ => none

/-- The observation trace of the model over an operation list; operations the model does not answer are skipped (so every list
is a history). -/
def modelTraceFrom (s : State) : List Op → List (Op × Obs)
  | [] => []
  | op :: ops =>
    match modelOp s op with
    | some (s', o) => (op, o) :: modelTraceFrom s' ops
    | none => modelTraceFrom s ops

def modelTrace (m : Mode) (es : Bool) (ops : List Op) : List (Op × Obs) := modelTraceFrom { mode := m, es := es } ops

/-! ## the property monitor -/

inductive EClause where
  | methodAnswered (v : Verb) (st : St)     -- GET / other method not answered 405
  | legacyDelete (hasId : Bool) (st : St)   -- legacy DELETE: 204 with an id, 400 without
  | unknownHonoured (v : Verb) (st : St)    -- noIds: a request with a session id not answered 404
  | missingId (v : Verb) (st : St)          -- noIds: GET/DELETE without a session id not answered 400
  | postAnswered (st : St)                  -- a POST that a temporary session must serve was not served
  | issued                                  -- noIds: an `Mcp-Session-Id` on a response
  | hdrNotInitialize                        -- legacy: `Mcp-Session-Id` on the answer to something else than `initialize`
  | hdrDifferent                            -- legacy: the answer names another session than the request
  | hdrReused                               -- legacy: the minted id already named a session
  | keeps                                   -- an entry in `h.sessions`
  | notClosed                               -- more server sessions than POSTs in progress
  | sessionWithId                           -- noIds: a server session / a handler's session with an id
  | rejectedReached                         -- a handler ran for a request that was refused
  | misrouted                               -- legacy: the handler's session is not the one the request named
  | timerLeft                               -- an idle timer although no session is ever kept
  | storeTold (want got : Nat)              -- `SessionClosed` calls ≠ temporary sessions that ended in this operation
deriving DecidableEq, Repr

structure MState where
  mode : Mode
  es : Bool := false    -- the handler has an `EventStore`
  seen : Nat := 0       -- the largest ordinal of a minted id that a response, a handler or the server has shown
  inprog : Nat := 0     -- POSTs answered `pending` whose completion has not been seen
deriving DecidableEq, Repr

def nameOrd : Name → Nat
  | .s k => k
  | _ => 0

def maxOrd (l : List Name) : Nat := l.foldl (fun a n => max a (nameOrd n)) 0

def isInit : PKind → Bool
  | .init | .badinit => true
  | _ => false

/-- Does a temporary session serve this request? -/
def served (m : Mode) (op : Op) : Bool :=
  match op with
  | .post ref _ _ => m == .legacy || ref == .absent
  | _ => false

/-- the answer itself (404 is the regenerated `stNotFound`; the other codes are literals, which `eph_status_codes` ties to the
regenerated constants the model answers with) -/
def chkAnswer (m : Mode) (op : Op) (st : St) : Option EClause :=
  match op with
  | .post ref _ _ =>
    if m == .noIds && ref != .absent then (if st == .code stNotFound then none else some (.unknownHonoured .post st))
    else if st == .code 200 || st == .code 202 || st == .pending then none else some (.postAnswered st)
  | .get ref _ =>
    match m with
    | .legacy => if st == .code 405 then none else some (.methodAnswered .get st)
    | .noIds =>
      if ref == .absent then (if st == .code 400 then none else some (.missingId .get st))
      else if st == .code stNotFound then none else some (.unknownHonoured .get st)
  | .delete ref _ =>
    match m with
    | .legacy =>
      if ref == .absent then (if st == .code 400 then none else some (.legacyDelete false st))
      else if st == .code 204 then none else some (.legacyDelete true st)
    | .noIds =>
      if ref == .absent then (if st == .code 400 then none else some (.missingId .delete st))
      else if st == .code stNotFound then none else some (.unknownHonoured .delete st)
  | .other _ _ => if st == .code 405 then none else some (.methodAnswered .other st)
  | _ => none

def chkHdr (ms : MState) (op : Op) (hdr : Option Name) : Option EClause :=
  match hdr with
  | none => none
  | some h =>
    match ms.mode with
    | .noIds => some .issued
    | .legacy =>
      match op with
      | .post ref _ k =>
        if !isInit k then some .hdrNotInitialize
        else match ref.name with
          | some n => if h == n then none else some .hdrDifferent
          | none => if nameOrd h > ms.seen then none else some .hdrReused
      | _ => some .hdrNotInitialize

def chkLog (m : Mode) (op : Op) (log : List LogEnt) : Option EClause :=
  if log.isEmpty then none
  else if !served m op then some .rejectedReached
  else match m with
    | .noIds => if log.all (·.sess == .e) then none else some .sessionWithId
    | .legacy =>
      match op with
      | .post ref _ _ =>
        match ref.name with
        | some n => if log.all (·.sess == n) then none else some .misrouted
        | none => none
      | _ => none

def bookInprog (ms : MState) (o : Obs) : Nat :=
  (if o.status == .pending then ms.inprog + 1 else ms.inprog) - o.done.length

def chkKept (ms : MState) (o : Obs) : Option EClause :=
  if !o.map.isEmpty then some .keeps
  else if o.srv.length > bookInprog ms o then some .notClosed
  else if ms.mode == .noIds && !o.srv.all (· == .e) then some .sessionWithId
  else if !o.stale.isEmpty then some .timerLeft
  else none

def isPostTag : Tag × Nat → Bool
  | (.p _, _) => true
  | _ => false

/-- Temporary sessions that ended during this operation: a served POST that was answered, and every completion of a POST. -/
def ended (m : Mode) (op : Op) (o : Obs) : Nat :=
  (if served m op && (o.status == .code 200 || o.status == .code 202) then 1 else 0) + (o.done.filter isPostTag).length

def chkTold (ms : MState) (op : Op) (o : Obs) : Option EClause :=
  let want := if ms.es then ended ms.mode op o else 0
  if o.closed.length == want then none else some (.storeTold want o.closed.length)

def firstOf : List (Option EClause) → Option EClause
  | [] => none
  | some c :: _ => some c
  | none :: t => firstOf t

def judge (ms : MState) (op : Op) (o : Obs) : Option EClause × MState :=
  let v := firstOf [chkAnswer ms.mode op o.status, chkHdr ms op o.hdr, chkLog ms.mode op o.log, chkKept ms o, chkTold ms op o]
  let seen := max ms.seen (max (maxOrd (o.hdr.toList)) (max (maxOrd (o.log.map (·.sess))) (maxOrd o.srv)))
  (v, { ms with seen := seen, inprog := bookInprog ms o })

def runJudge (ms : MState) : List (Op × Obs) → Option EClause
  | [] => none
  | (op, o) :: t =>
    match judge ms op o with
    | (some c, _) => some c
    | (none, ms') => runJudge ms' t

end Sessions.Eph
