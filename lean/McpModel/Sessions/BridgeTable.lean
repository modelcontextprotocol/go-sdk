import McpModel.Sessions.BridgeInv
/-!
Bridge (E7/C11): the table checks (5a–5d) of the monitor pass on the snapshot of any model state that is
related to the monitor's table, and reaping the dying sessions re-establishes the full relation.
-/
namespace Sessions

theorem scanMap_known (cfg : Cfg) (now : Nat) (req : Option Req) (st : St) (hdr : Option Name) (tbl : List MSess) :
    ∀ (l : List MapEnt),
      (∀ ent ∈ l, ∃ a, monFind tbl ent.name = some a ∧ a.owner = ent.owner ∧ a.life ≠ .dead ∧
        ¬(a.life = .live ∧ ent.closing = true)) →
      scanMap cfg now req st hdr tbl l = (tbl, none) := by
  intro l
  induction l with
  | nil => intro _; rfl
  | cons ent rest ih =>
    intro h
    obtain ⟨a, ha, ho, hd, hc⟩ := h ent List.mem_cons_self
    have hj : judgeEntry cfg now req st hdr tbl ent = (tbl, none) := by
      unfold judgeEntry
      rw [ha]
      have h1 : (a.owner != ent.owner) = false := by simp [ho]
      have h2 : (a.life == Life.dead) = false := by simp [hd]
      have h3 : (a.life == Life.live && ent.closing) = false := by
        cases hcl : ent.closing with
        | false => simp
        | true => have : a.life ≠ .live := fun hl => hc ⟨hl, hcl⟩; simp [this]
      simp [h1, h2, h3]
    simp only [scanMap, hj]
    rw [ih (fun e he => h e (List.mem_cons_of_mem _ he))]
    rfl

theorem scanMap_append (cfg : Cfg) (now : Nat) (req : Option Req) (st : St) (hdr : Option Name) :
    ∀ (l₁ l₂ : List MapEnt) (tbl : List MSess),
      scanMap cfg now req st hdr tbl (l₁ ++ l₂) =
        ((scanMap cfg now req st hdr (scanMap cfg now req st hdr tbl l₁).1 l₂).1,
         firstViol (scanMap cfg now req st hdr tbl l₁).2 (scanMap cfg now req st hdr (scanMap cfg now req st hdr tbl l₁).1 l₂).2) := by
  intro l₁
  induction l₁ with
  | nil => intro l₂ tbl; simp [scanMap, firstViol]
  | cons ent rest ih =>
    intro l₂ tbl
    simp only [List.cons_append, scanMap]
    rw [ih]
    cases (judgeEntry cfg now req st hdr tbl ent).2 <;> simp [firstViol]

def entOf (e : Sess) : MapEnt :=
  { name := sname e.id, owner := ownerOf e.owner, refs := e.refs, timer := e.timer != .nil, closing := e.closing,
    busy := e.busy + e.initBusy }

theorem showMap_eq (s : State) : showMap s = (s.tbl.filter (·.inMap)).map entOf := rfl

theorem showMap_names (s : State) : (showMap s).map (·.name) = (s.tbl.filter (·.inMap)).map (fun e => sname e.id) := by
  simp [showMap_eq, entOf, Function.comp_def]

theorem names_nodup {t : List Sess} (hn : NodupIds t) (p : Sess → Bool) :
    ((t.filter p).map (fun e => sname e.id)).Nodup := by
  induction t with
  | nil => simp
  | cons x t ih =>
    have hc := List.nodup_cons.mp hn
    have hrest := ih hc.2
    simp only [List.filter_cons]
    split
    · simp only [List.map_cons, List.nodup_cons]
      refine ⟨?_, hrest⟩
      intro hm
      obtain ⟨y, hy, hyx⟩ := List.mem_map.mp hm
      have := sname_inj hyx
      exact hc.1 (List.mem_map.mpr ⟨y, (List.mem_filter.mp hy).1, this⟩)
    · exact hrest

theorem mem_names_iff {s : State} (hi : Inv s) {e : Sess} (he : e ∈ s.tbl) :
    sname e.id ∈ (showMap s).map (·.name) ↔ e.inMap = true := by
  rw [showMap_names]
  constructor
  · intro hm
    obtain ⟨y, hy, hyx⟩ := List.mem_map.mp hm
    have hy' := List.mem_filter.mp hy
    have := entry_unique hi hy'.1 he (sname_inj hyx)
    rw [← this]; exact hy'.2
  · intro h
    exact List.mem_map.mpr ⟨e, List.mem_filter.mpr ⟨he, h⟩, rfl⟩

/-- The state after the labels, the settling and the completions, against the monitor's table BEFORE the reaping (the `Pre` of
`ERelPre`): what `table_checks` needs and the reaping turns into `Sim.rel`.  (`st.cfg` is not tied to `cfg` here — the callers know
it — so `table_checks` asks for `cfg.stateless = false` beside `stateful`.) -/
structure TblPre (cfg : Cfg) (st : State) (pend : List Pend) (tbl : List MSess) : Prop where
  inv : Inv st
  stateful : st.cfg.stateless = false
  inmap : ∀ e ∈ st.tbl, e.inMap = !e.removed
  mnodup : (tbl.map (·.name)).Nodup
  minted : ∀ a ∈ tbl, ∃ i, i < st.next ∧ a.name = sname i
  rel : ∀ e ∈ st.tbl, RelPreAt cfg pend tbl e

def reap1 (names : List Name) (e : MSess) : MSess :=
  if e.life == .dying && !names.contains e.name then { e with life := .dead } else e

theorem reapDying_eq (names : List Name) (tbl : List MSess) : reapDying names tbl = tbl.map (reap1 names) := rfl

theorem keepsName_reap1 (names : List Name) : KeepsName (reap1 names) := by
  intro a; unfold reap1; split <;> rfl

theorem table_checks {cfg : Cfg} {st : State} {pend : List Pend} {tbl : List MSess}
    (h : TblPre cfg st pend tbl) (hcfg : cfg.stateless = false) (now : Nat) (req : Option Req) (stt : St) (hdr : Option Name) :
    scanMap cfg now req stt hdr tbl (showMap st) = (tbl, none) ∧
    chkKeys (showMap st) = none ∧
    chkGone ((showMap st).map (·.name)) tbl = none ∧
    chkSrv cfg ((showMap st).map (·.name)) (showSrv st) = none ∧
    (∀ e ∈ st.tbl, RelAt cfg pend (reapDying ((showMap st).map (·.name)) tbl) e) := by
  have hi := h.inv
  refine ⟨?_, ?_, ?_, ?_, ?_⟩
  · -- (5a)
    apply scanMap_known
    intro ent hent
    rw [showMap_eq] at hent
    obtain ⟨e, he, rfl⟩ := List.mem_map.mp hent
    have he' := List.mem_filter.mp he
    have hrel := h.rel e he'.1
    have hrm : e.removed = false := by
      have := h.inmap e he'.1; rw [he'.2] at this; simpa using this.symm
    unfold RelPreAt at hrel
    cases hf : monFind tbl (sname e.id) with
    | none => rw [hf] at hrel; rw [hrel] at hrm; cases hrm
    | some a =>
      rw [hf] at hrel
      refine ⟨a, hf, hrel.owner, ?_, ?_⟩
      · intro hd; have := hrel.dead hd; rw [this] at hrm; cases hrm
      · intro ⟨hl, hc⟩
        have := (hrel.live.mp hl).2
        simp only [entOf] at hc
        rw [this] at hc; cases hc
  · -- (5b)
    unfold chkKeys
    have hnd : ((showMap st).map (·.name)).Nodup := by
      rw [showMap_names]; exact names_nodup (inv_nodupIds hi) _
    have hbk : (showMap st).any (·.badKey) = false := by
      rw [showMap_eq]
      simp [List.any_eq_false, entOf]
    simp [eraseDups_of_nodup hnd, hbk]
  · -- (5c)
    unfold chkGone
    apply firstSome_none
    intro a ha
    obtain ⟨i, hi', hname⟩ := h.minted a ha
    obtain ⟨e, hfe⟩ := findSess_of_lt hi hi'
    have hmem := (findSess_some hfe).1
    have hid := (findSess_some hfe).2
    have hfa : monFind tbl (sname e.id) = some a := by
      rw [hid, ← hname]; exact monFind_of_mem h.mnodup ha
    have hrel := h.rel e hmem
    unfold RelPreAt at hrel
    rw [hfa] at hrel
    cases hl : a.life with
    | live =>
      have := hrel.live.mp hl
      have hin : e.inMap = true := by rw [h.inmap e hmem, this.1]; rfl
      have : a.name ∈ (showMap st).map (·.name) := by rw [hname, ← hid]; exact (mem_names_iff hi hmem).mpr hin
      simp [this]
    | dying => simp
    | dead => simp
  · -- (5d)
    unfold chkSrv
    rw [hcfg]
    have hsrv : showSrv st = (showMap st).map (·.name) := by
      rw [showMap_names]
      unfold showSrv
      rw [h.stateful]
      simp only [Bool.false_eq_true, if_false]
      congr 1
      apply List.filter_congr
      intro e he
      rw [h.inmap e he]
    rw [hsrv]
    simp only [Bool.false_eq_true, if_false]
    rw [firstSome_none (by intro n hn; simp [hn]), firstSome_none (by intro n hn; simp [hn])]
    rfl
  · -- reaping
    intro e he
    have hrel := h.rel e he
    unfold RelPreAt at hrel
    unfold RelAt
    rw [reapDying_eq, monFind_map (keepsName_reap1 _)]
    cases hf : monFind tbl (sname e.id) with
    | none => rw [hf] at hrel; simpa using hrel
    | some a =>
      rw [hf] at hrel
      have hname := (monFind_name hf).1
      simp only [Option.map_some]
      have hin : (((showMap st).map (·.name)).contains a.name) = e.inMap := by
        rw [hname]
        cases hm : e.inMap with
        | true => simpa using (mem_names_iff hi he).mpr hm
        | false =>
          have : ¬ sname e.id ∈ (showMap st).map (·.name) := fun hx => by
            have := (mem_names_iff hi he).mp hx; rw [hm] at this; cases this
          simpa using this
      unfold reap1
      rw [hin, h.inmap e he]
      cases hl : a.life with
      | live =>
        simp only [show (Life.live == Life.dying) = false from rfl, Bool.false_and, Bool.false_eq_true, if_false]
        refine { hrel with removed := ?_ }
        intro hr; have := (hrel.live.mp hl).1; rw [hr] at this; cases this
      | dead =>
        simp only [show (Life.dead == Life.dying) = false from rfl, Bool.false_and, Bool.false_eq_true, if_false]
        exact { hrel with removed := fun _ => hl }
      | dying =>
        cases hr : e.removed with
        | false =>
          simp only [Bool.not_false, Bool.not_true, Bool.and_false, Bool.false_eq_true, if_false]
          refine { hrel with removed := ?_ }
          intro hx; rw [hr] at hx; cases hx
        | true =>
          simp only [Bool.not_true, Bool.not_false, Bool.and_true, beq_self_eq_true, if_true]
          refine ⟨⟨hrel.owner, fun _ => hr, ?_, ?_, ?_⟩, fun _ => rfl⟩
          · constructor
            · intro hx; cases hx
            · intro hx; rw [hr] at hx; cases hx.1
          · intro hx; cases hx
          · intro hx; cases hx

theorem reapDying_nodup {names : List Name} {tbl : List MSess} (h : (tbl.map (·.name)).Nodup) :
    ((reapDying names tbl).map (·.name)).Nodup := by
  rw [reapDying_eq, map_names_keeps (keepsName_reap1 _)]; exact h

theorem reapDying_mem {names : List Name} {tbl : List MSess} {a : MSess} (h : a ∈ reapDying names tbl) :
    ∃ b ∈ tbl, a.name = b.name := by
  rw [reapDying_eq] at h
  obtain ⟨b, hb, rfl⟩ := List.mem_map.mp h
  exact ⟨b, hb, keepsName_reap1 _ b⟩

end Sessions
