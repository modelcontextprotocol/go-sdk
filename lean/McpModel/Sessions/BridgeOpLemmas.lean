import McpModel.Sessions.BridgeRecord
/-!
Bridge (E7/C11): what several operations share — `lookupSession` read on the monitor's table, one asynchronous request
appended to / removed by its tag from the harness-side list, and the first label and the kinds of a POST on a session.
-/
namespace Sessions

theorem lookup_mon {cfg : Cfg} {d : RState} {m : Mon} (hs : Sim cfg d m) {i : Nat} (hi : i < d.st.next) (u : UserTok) :
    match lookup d.st.tbl i u.user with
    | .error c => (c = 404 ∧ ∀ a, monFind m.tbl (sname i) = some a → a.life = .dead) ∨
                  (c = 403 ∧ ∃ a, monFind m.tbl (sname i) = some a ∧ a.life ≠ .dead ∧ entitled a.owner u = false)
    | .ok e => findSess i d.st.tbl = some e ∧ e.removed = false ∧
        ∃ a, monFind m.tbl (sname i) = some a ∧ a.life ≠ .dead ∧ entitled a.owner u = true ∧
          ERel cfg (nsOf d.pend i) (nrOf d.pend i) e a := by
  obtain ⟨e, hfe, hk, _, hrel⟩ := hs.entry hi
  unfold lookup
  rw [hfe]
  cases hr : e.removed with
  | true =>
    have him : e.inMap = false := by rw [hk.inMap, hr]; rfl
    simp only [him, Bool.not_false, if_true]
    left
    refine ⟨by decide, ?_⟩
    intro a ha
    rw [ha] at hrel
    exact hrel.removed hr
  | false =>
    have him : e.inMap = true := by rw [hk.inMap, hr]; rfl
    simp only [him, Bool.not_true, Bool.false_eq_true, if_false]
    cases hf : monFind m.tbl (sname i) with
    | none => rw [hf] at hrel; rw [hr] at hrel; cases hrel
    | some a =>
      rw [hf] at hrel
      have hnd : a.life ≠ .dead := fun hd => by have := hrel.dead hd; rw [hr] at this; cases this
      have hent := entitled_ownerOf e.owner u
      rw [← hrel.owner] at hent
      cases ho : e.owner with
      | none =>
        rw [ho] at hent
        exact ⟨rfl, hr, a, rfl, hnd, hent, hrel⟩
      | some x =>
        rw [ho] at hent
        simp only [] at hent ⊢
        by_cases hu : u.user = some x
        · rw [if_pos hu]
          exact ⟨rfl, hr, a, rfl, hnd, by rw [hent]; simp [hu], hrel⟩
        · rw [if_neg hu]
          right
          exact ⟨by decide, a, rfl, hnd, by rw [hent]; simp [hu]⟩

theorem chkAnswer_refused {c : Nat} {cfg : Cfg} {d : RState} {m : Mon} (hs : Sim cfg d m) (fl : Faults) (r : Req)
    (hv : r.verb ≠ .other) {i : Nat} {n : Name} (hn : r.ref.name = some n)
    (h : (d.st.next ≤ i ∧ monFind m.tbl n = none ∧ c = 404) ∨
         (i < d.st.next ∧ n = sname i ∧ lookup d.st.tbl i r.user.user = .error c)) :
    chkAnswer cfg fl m.tbl r (.code c) = none := by
  unfold chkAnswer
  rw [hs.stateful]
  have hv' : (r.verb == Verb.other) = false := by simp [hv]
  simp only [Bool.false_eq_true, if_false, hv', hn]
  rcases h with ⟨_, hf, hc⟩ | ⟨hi, hname, hl⟩
  · rw [hf, hc]; simp
  · have := lookup_mon hs hi r.user
    rw [hl] at this
    rw [hname]
    rcases this with ⟨hc, hdead⟩ | ⟨hc, a, ha, hnd, hent⟩
    · subst hc
      cases hf : monFind m.tbl (sname i) with
      | none => simp
      | some a => simp [hdead a hf]
    · subst hc
      rw [ha]
      simp only [hent]
      cases hl : a.life with
      | dead => exact absurd hl hnd
      | dying => simp
      | live => simp

theorem ref_lookup {cfg : Cfg} {d : RState} {m : Mon} (hs : Sim cfg d m) (ref : Ref) (u : UserTok) :
    ref = .absent ∨ ∃ i n, ref.sid d.st.next = some i ∧ ref.name = some n ∧
      match lookup d.st.tbl i u.user with
      | .error c => (c = 403 ∨ c = 404) ∧ ∀ (fl : Faults) (r : Req), r.ref = ref → r.user = u → r.verb ≠ .other →
          chkAnswer cfg fl m.tbl r (.code c) = none
      | .ok _ => i < d.st.next ∧ n = sname i := by
  rcases ref_cases hs ref with ⟨hr, _, _⟩ | ⟨i, hi, hsid, hname⟩ | ⟨j, n, hsid, hj, hname, hnone⟩
  · exact Or.inl hr
  · refine Or.inr ⟨i, _, hsid, hname, ?_⟩
    have hlm := lookup_mon hs hi u
    cases hl : lookup d.st.tbl i u.user with
    | error c =>
      rw [hl] at hlm
      refine ⟨by rcases hlm with ⟨h, _⟩ | ⟨h, _⟩ <;> omega, fun fl r hr hu hv => ?_⟩
      subst hr hu
      exact chkAnswer_refused hs fl r hv hname (Or.inr ⟨hi, rfl, hl⟩)
    | ok e => exact ⟨hi, rfl⟩
  · refine Or.inr ⟨j, n, hsid, hname, ?_⟩
    have hl : lookup d.st.tbl j u.user = .error 404 := by
      simp [lookup, findSess_none_of_ge hs.inv hj, stNotFound, Generated.Sessions.lookupMissing]
    rw [hl]
    refine ⟨Or.inr rfl, fun fl r hr hu hv => ?_⟩
    subst hr hu
    exact chkAnswer_refused hs fl r hv hname (Or.inl ⟨hj, hnone, rfl⟩)

theorem bookAnswer_rejected (cfg : Cfg) (fl : Faults) (now : Nat) (tag : Tag) (tbl : List MSess) (pend : List (Tag × Name))
    (op : Op) {c : Nat} (hc : c = 400 ∨ c = 403 ∨ c = 404) :
    bookAnswer cfg fl now tag tbl pend op (.code c) = (tbl, pend) := by
  have h2 : (St.code c).accepted2xx = false := by rcases hc with h | h | h <;> subst h <;> rfl
  have h5 : c ≠ 500 ∧ c ≠ 204 := by omega
  have e1 : (St.code c == St.pending) = false := rfl
  have e2 : (St.code c == St.code 500) = false := by simp [h5.1]
  have e3 : (St.code c == St.code 204) = false := by simp [h5.2]
  have e4 : (St.code c == St.ok) = false := rfl
  have e5 : (St.code c == St.err) = false := rfl
  simp only [bookAnswer, h2, e1, e2, e3, e4, e5, Bool.and_false, Bool.or_false, Bool.false_eq_true, if_false]
  split
  · rfl
  · split <;> first | rfl | (split <;> rfl)

theorem chkAnswer_admitted {cfg : Cfg} {d : RState} {m : Mon} (hs : Sim cfg d m) (fl : Faults) (r : Req)
    (hv : r.verb ≠ .other) {i : Nat} (hi : i < d.st.next) (hn : r.ref.name = some (sname i)) {e : Sess}
    (hl : lookup d.st.tbl i r.user.user = .ok e) (st : St) (h403 : st ≠ .code 403) (h404 : st ≠ .code 404)
    (hok : (st.accepted2xx || (r.verb == .post && r.kind != some .notif && fl.reqOpen && st == .code 500) ||
            (r.verb == .get && fl.after && st == .code 400)) = true) :
    chkAnswer cfg fl m.tbl r st = none := by
  unfold chkAnswer
  rw [hs.stateful]
  have hv' : (r.verb == Verb.other) = false := by simp [hv]
  simp only [Bool.false_eq_true, if_false, hv', hn]
  have := lookup_mon hs hi r.user
  rw [hl] at this
  obtain ⟨_, _, a, ha, hnd, hent, _⟩ := this
  rw [ha]
  simp only [hent]
  have e403 : (st == St.code 403) = false := by simp [h403]
  have e404 : (st == St.code 404) = false := by simp [h404]
  cases hlf : a.life with
  | dead => exact absurd hlf hnd
  | dying => simp [e403]
  | live =>
    simp only [Bool.not_true, Bool.false_eq_true, if_false, e403, e404]
    rw [hok]; simp

/-- `effFaults_read` on a stateful endpoint. -/
theorem Sim.effFaults_after {cfg : Cfg} {d : RState} {m : Mon} (hs : Sim cfg d m) :
    (effFaults cfg m).after = d.st.replayFails ∧ (effFaults cfg m).reqOpen = d.st.openFails ∧
    (effFaults cfg m).connOpen = d.st.connectFails :=
  effFaults_read hs.cfg_eq hs.faults

theorem nsOf_append_other (P : List Pend) (p : Pend) (j : Nat) (h : isSlowOf j p = false) : nsOf (P ++ [p]) j = nsOf P j := by
  simp [nsOf, List.filter_append, h]

theorem nrOf_append_other (P : List Pend) (p : Pend) (j : Nat) (h : isRunOf j p = false) : nrOf (P ++ [p]) j = nrOf P j := by
  simp [nrOf, List.filter_append, h]

theorem filter_tag_ne {P : List Pend} (hn : (P.map (·.tag)).Nodup) {p : Pend} (hp : p ∈ P) (q : Pend → Bool) :
    ((P.filter (fun x => x.tag != p.tag)).filter q).length + (if q p then 1 else 0) = (P.filter q).length := by
  obtain ⟨l₁, l₂, rfl, h1, h2⟩ := split_at_tag hn hp
  rw [filter_tag_split h1 h2]
  simp only [List.filter_append, List.filter_cons, List.length_append]
  split <;> simp <;> omega

theorem nsOf_filter_tag {P : List Pend} (hn : (P.map (·.tag)).Nodup) {p : Pend} (hp : p ∈ P) (j : Nat) :
    nsOf (P.filter (fun x => x.tag != p.tag)) j + (if isSlowOf j p then 1 else 0) = nsOf P j :=
  filter_tag_ne hn hp (isSlowOf j)

theorem nrOf_filter_tag {P : List Pend} (hn : (P.map (·.tag)).Nodup) {p : Pend} (hp : p ∈ P) (j : Nat) :
    nrOf (P.filter (fun x => x.tag != p.tag)) j + (if isRunOf j p then 1 else 0) = nrOf P j :=
  filter_tag_ne hn hp (isRunOf j)

theorem counts_filter_tag {P : List Pend} (hn : (P.map (·.tag)).Nodup) {p : Pend} (hp : p ∈ P) {j : Nat}
    (hs : isSlowOf j p = false) (hr : isRunOf j p = false) :
    nsOf (P.filter (fun x => x.tag != p.tag)) j = nsOf P j ∧ nrOf (P.filter (fun x => x.tag != p.tag)) j = nrOf P j := by
  have h1 := nsOf_filter_tag hn hp j
  have h2 := nrOf_filter_tag hn hp j
  rw [hs] at h1
  rw [hr] at h2
  exact ⟨h1, h2⟩

theorem filter_tag_sub (P : List Pend) (t : Tag) : ∀ x ∈ P.filter (fun x => x.tag != t), x ∈ P ∧ x.tag ≠ t := by
  intro x hx
  have := List.mem_filter.mp hx
  exact ⟨this.1, by simpa using this.2⟩

theorem pendOkW_filter {P : List Pend} {ns na : Nat} {rel : List Nat} {next : Nat} (h : PendOkW P ns na rel next)
    (q : Pend → Bool) : PendOkW (P.filter q) ns na rel next := by
  refine ⟨List.Nodup.sublist (filter_map_sublist _ _ _) h.tags,
    List.Nodup.sublist (filter_filterMap_sublist _ _ _) h.slots, ?_, ?_, ?_, h.relLe⟩
  · intro p hp; exact h.shape p (List.mem_filter.mp hp).1
  · intro p hp; exact h.minted p (List.mem_filter.mp hp).1
  · intro p hp; exact h.sids p (List.mem_filter.mp hp).1

theorem pendOkW_release {P : List Pend} {ns na : Nat} {rel : List Nat} {next : Nat} (h : PendOkW P ns na rel next)
    (k : Nat) (hk : ∀ p ∈ P, slotOf p ≠ some k) (hkle : k ≤ ns) : PendOkW P ns na (rel ++ [k]) next := by
  refine ⟨h.tags, h.slots, ?_, h.minted, h.sids, ?_⟩
  rotate_left
  · intro x hx
    rcases List.mem_append.mp hx with hx | hx
    · exact h.relLe x hx
    · simp at hx; subst hx; exact hkle
  intro p hp
  have := h.shape p hp
  have hs := hk p hp
  cases hkind : p.kind with
  | slow a b =>
    rw [hkind] at this
    refine ⟨this.1, this.2.1, this.2.2.1, ?_⟩
    intro hm
    rcases List.mem_append.mp hm with hm | hm
    · exact this.2.2.2 hm
    · simp at hm; apply hs; simp [slotOf, hkind, hm]
  | run a b =>
    rw [hkind] at this
    refine ⟨this.1, this.2.1, this.2.2.1, ?_⟩
    intro hm
    rcases List.mem_append.mp hm with hm | hm
    · exact this.2.2.2 hm
    · simp at hm; apply hs; simp [slotOf, hkind, hm]
  | del i f => rw [hkind] at this; exact this
  | cls i => rw [hkind] at this; exact this
  | upl a b c => rw [hkind] at this; exact this

theorem slots_split {l₁ l₂ : List Pend} {p : Pend} {k : Nat} (hn : ((l₁ ++ p :: l₂).filterMap slotOf).Nodup)
    (hk : slotOf p = some k) : (∀ x ∈ l₁, slotOf x ≠ some k) ∧ (∀ x ∈ l₂, slotOf x ≠ some k) := by
  rw [List.filterMap_append, List.filterMap_cons, hk, List.nodup_append] at hn
  exact ⟨fun x hx h => hn.2.2 _ (List.mem_filterMap.mpr ⟨x, hx, h⟩) _ List.mem_cons_self rfl,
    fun x hx h => (List.nodup_cons.mp hn.2.1).1 (List.mem_filterMap.mpr ⟨x, hx, h⟩)⟩

theorem slot_unique {P : List Pend} (hn : (P.filterMap slotOf).Nodup) {p q : Pend} (hp : p ∈ P) (hq : q ∈ P) {k : Nat}
    (h1 : slotOf p = some k) (h2 : slotOf q = some k) : p = q := by
  obtain ⟨l₁, l₂, rfl⟩ := List.append_of_mem hq
  obtain ⟨g1, g2⟩ := slots_split hn h2
  rcases List.mem_append.mp hp with h | h
  · exact absurd h1 (g1 p h)
  · rcases List.mem_cons.mp h with h | h
    · exact h
    · exact absurd h1 (g2 p h)

theorem runOf_slot {p : Pend} {x : Nat × Name} (h : runOf p = some x) : slotOf p = some x.1 ∧ ∃ i, p.kind = .run i x.1 ∧ x.2 = sname i := by
  unfold runOf at h
  unfold slotOf
  cases hk : p.kind with
  | run i s => simp [hk] at h; subst h; exact ⟨rfl, i, rfl, rfl⟩
  | slow a b => simp [hk] at h
  | del i f => simp [hk] at h
  | cls i => simp [hk] at h
  | upl a b c => simp [hk] at h

theorem filterMap_filter_tag_other {β} (f : Pend → Option β) {P : List Pend} (hn : (P.map (·.tag)).Nodup) {p : Pend}
    (hp : p ∈ P) (hf : f p = none) : (P.filter (fun x => x.tag != p.tag)).filterMap f = P.filterMap f := by
  obtain ⟨l₁, l₂, rfl, h1, h2⟩ := split_at_tag hn hp
  rw [filter_tag_split h1 h2]; simp [List.filterMap_append, hf]

theorem runOf_filter_tag_other {P : List Pend} (hn : (P.map (·.tag)).Nodup) {p : Pend} (hp : p ∈ P) (hr : runOf p = none) :
    (P.filter (fun x => x.tag != p.tag)).filterMap runOf = P.filterMap runOf :=
  filterMap_filter_tag_other runOf hn hp hr

theorem find_pendOf_none {P : List Pend} {t : Tag} (h : ∀ q ∈ P, q.tag ≠ t) : (P.filterMap pendOf).find? (·.1 == t) = none := by
  apply List.find?_eq_none.mpr
  intro x hx
  obtain ⟨q, hq, hqx⟩ := List.mem_filterMap.mp hx
  have := pendOf_tag hqx
  simp [this, h q hq]

theorem find_pendOf {P : List Pend} (hn : (P.map (·.tag)).Nodup) {p : Pend} (hp : p ∈ P) {x : Tag × Name}
    (hx : pendOf p = some x) : (P.filterMap pendOf).find? (·.1 == p.tag) = some x := by
  obtain ⟨l₁, l₂, rfl, h1, _⟩ := split_at_tag hn hp
  rw [List.filterMap_append, List.find?_append, find_pendOf_none h1]
  simp [hx, pendOf_tag hx]

theorem find_runOf_none {P : List Pend} {k : Nat} (h : ∀ q ∈ P, ∀ x, runOf q = some x → x.1 ≠ k) :
    (P.filterMap runOf).find? (·.1 == k) = none := by
  apply List.find?_eq_none.mpr
  intro x hx
  obtain ⟨q, hq, hqx⟩ := List.mem_filterMap.mp hx
  simp [h q hq x hqx]

theorem find_runOf {P : List Pend} (hs : (P.filterMap slotOf).Nodup) {p : Pend} (hp : p ∈ P) {x : Nat × Name}
    (hx : runOf p = some x) : (P.filterMap runOf).find? (·.1 == x.1) = some x := by
  obtain ⟨l₁, l₂, rfl⟩ := List.append_of_mem hp
  have h1 : (l₁.filterMap runOf).find? (·.1 == x.1) = none := find_runOf_none fun q hq y hy hyx =>
    (slots_split hs (runOf_slot hx).1).1 q hq (by rw [← hyx]; exact (runOf_slot hy).1)
  rw [List.filterMap_append, List.find?_append, h1]
  simp [hx]

theorem runOf_filter_tag_run {P : List Pend} (hn : (P.map (·.tag)).Nodup) (hs : (P.filterMap slotOf).Nodup) {p : Pend}
    (hp : p ∈ P) {k : Nat} (hk : slotOf p = some k) :
    (P.filter (fun x => x.tag != p.tag)).filterMap runOf = (P.filterMap runOf).filter (fun x => x.1 != k) := by
  obtain ⟨l₁, l₂, rfl, h1, h2⟩ := split_at_tag hn hp
  obtain ⟨g1, g2⟩ := slots_split hs hk
  have keep : ∀ {l : List Pend}, (∀ x ∈ l, slotOf x ≠ some k) → (l.filterMap runOf).filter (fun x => x.1 != k) = l.filterMap runOf :=
    fun h => List.filter_eq_self.mpr fun y hy => by
      obtain ⟨q, hq, hqy⟩ := List.mem_filterMap.mp hy
      have := (runOf_slot hqy).1
      simp only [bne_iff_ne]
      intro hyk; rw [hyk] at this; exact h q hq this
  rw [filter_tag_split h1 h2, List.filterMap_append, List.filterMap_append, List.filter_append, keep g1, List.filterMap_cons]
  cases hr : runOf p with
  | none => simp only [keep g2]
  | some y =>
    have := (runOf_slot hr).1
    rw [hk] at this; cases this
    simp [keep g2]

theorem slot_free {P : List Pend} (hs : (P.filterMap slotOf).Nodup) {p : Pend} (hp : p ∈ P) {k : Nat} (hk : slotOf p = some k)
    {t : Tag} (ht : p.tag = t) : ∀ q ∈ P.filter (fun q => q.tag != t), slotOf q ≠ some k := by
  intro q hq hsl
  have hq' := filter_tag_sub _ _ q hq
  have := slot_unique hs hq'.1 hp hsl hk
  exact hq'.2 (by rw [this, ht])

theorem bookDone1_post {P : List Pend} (hn : (P.map (·.tag)).Nodup) {p : Pend} (hp : p ∈ P) {nm : Name}
    (hpo : pendOf p = some (p.tag, nm)) (hk : (∃ k, p.tag = .p k) ∨ ∃ k, p.tag = .u k) (now : Nat) (tbl : List MSess) (c : Nat) :
    bookDone1 now (tbl, P.filterMap pendOf) (p.tag, c) =
      (monUpd tbl nm (mPostDone now), (P.filter (fun q => q.tag != p.tag)).filterMap pendOf) := by
  unfold bookDone1
  simp only []
  rw [find_pendOf hn hp hpo, ← filterMap_pendOf_filter P (fun t => t != p.tag)]
  rcases hk with ⟨k, hk⟩ | ⟨k, hk⟩ <;> rw [hk] <;> rfl

theorem mem_of_find? {α} {q : α → Bool} {l : List α} {a : α} (h : l.find? q = some a) : a ∈ l ∧ q a = true :=
  ⟨List.mem_of_find?_eq_some h, List.find?_some h⟩

theorem step_postBegin_ok {s : State} (hst : s.cfg.stateless = false) (hn : NodupIds s.tbl) {i : Nat} {u : User} {e : Sess}
    (hl : lookup s.tbl i u = .ok e) (k : Kind) :
    step s (.postBegin (some i) u k) =
      some ({ s with tbl := s.tbl.map (lift i (startPost (s.accepts k) k)) },
            postResp s k (if k.isInitialize then some i else none) e.closing) :=
  step_does.mpr (.rewrite hst (.postBegin hl) (modify_eq_map hn (lookup_ok hl).1 rfl))

theorem step_postBegin_err {s : State} (hst : s.cfg.stateless = false) {i : Nat} {u : User} {c : Nat}
    (hl : lookup s.tbl i u = .error c) (k : Kind) : step s (.postBegin (some i) u k) = some (s, .reject c) :=
  step_does.mpr (.refusePost hst hl)

theorem kind_hasCall (k : PKind) : k.kind.hasCall = (k != .notif) := by cases k <;> rfl

theorem kind_isInit (k : PKind) : k.kind.isInitialize = isInitKind (some k) := by cases k <;> rfl

theorem kind_init (k : PKind) : k.kind = .init ↔ k = .init := by cases k <;> simp [PKind.kind]

theorem postHdr_sname (kind : PKind) (i : Nat) :
    postHdr kind ((if kind.kind.isInitialize then some i else none).map sname) =
      if isInitKind (some kind) = true then some (sname i) else none := by
  cases kind <;> rfl

theorem postStatus_accepted (kind : PKind) : (postStatus kind).accepted2xx = true := by cases kind <;> rfl

theorem postStatus_rejected (kind : PKind) : (postStatus kind).rejected = false := by cases kind <;> rfl

theorem postLog_mem {nm : Name} {u : UserTok} {kind : PKind} {dlv creator : Bool} {l : LogEnt}
    (h : l ∈ postLog nm u kind dlv creator) : l.sess = nm ∧ l.who = .tok u := by
  unfold postLog at h
  split at h <;> (try split at h) <;> simp at h <;> subst h <;> exact ⟨rfl, rfl⟩

theorem chkLog_post {cfg : Cfg} (hst : cfg.stateless = false) {ref : Ref} {nm : Name} (hn : ∀ n, ref.name = some n → n = nm)
    {u : UserTok} {k : Option PKind} {racy : Bool} {st : St} (hrj : st.rejected = false) {log : List LogEnt}
    (h : ∀ l ∈ log, l.sess = nm ∧ l.who = .tok u) :
    chkLog cfg (some { verb := .post, ref := ref, user := u, kind := k, racy := racy }) st log = none := by
  simp only [chkLog, hrj, Bool.false_and, Bool.false_eq_true, if_false, hst]
  apply firstSome_none
  intro l hl
  obtain ⟨h1, h2⟩ := h l hl
  cases hr : ref.name with
  | none => simp [h2]
  | some n => simp [h1, h2, hn n hr]

theorem countersAfter_post (m : Mon) (ref : Ref) (u : UserTok) (kind : PKind) (st : St) :
    countersAfter m (.post ref u kind) st =
      (if kind == .slow then m.nslow + 1 else m.nslow, if kind == .slow then m.nasync else m.nasync + 1) := by
  cases kind <;> rfl

end Sessions
