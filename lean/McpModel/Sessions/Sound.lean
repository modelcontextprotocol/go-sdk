import McpModel.Sessions.MonitorLemmas
import McpModel.Base.Logic
/-!
# Clause soundness of the C11 monitor (E7)

For every clause the monitor can report the corresponding clause of the property is stated as a predicate
on **observation traces** — the list of records `(op, obs)` of a case: the harness operation and what the
IMPLEMENTATION answered and exposed (status, `Mcp-Session-Id`, completions, `h.sessions`, `Server.Sessions()`,
handler invocation log).  The predicates are written from the property text and do not mention the model.
Per check `sound_chk…`: a clause the check yields refutes its predicate on the record.  `monitor_sound`, proved from these:
`runMon cfg tr = some (j, c) → ¬ P_of cfg c tr`; the `sound_<clause>` at the end of the file are its instances.  The converse —
silence of the monitor means that every clause holds — is Complete.lean.

Vocabulary — the history's reading of the property's notions:
* `Abs cfg pre` — the abstract session table after the records `pre`: for every session name ever seen (in a
  snapshot of `h.sessions` or in an `Mcp-Session-Id` header) its owner, whether it is *live*, *dying* (a DELETE,
  a server-side close or the idle timeout has begun and waits for running handlers) or *dead* (terminated: an
  accepted DELETE answered 204, a completed DELETE / close, a server-side close that returned, an initialize
  that failed, `timeout` ms without a POST in progress), the number of POSTs in progress (answered `pending`,
  not yet completed), the instant the last POST ended, and the handlers that outlived an abandoned POST.  It is
  the fold of the monitor's bookkeeping (`monStep … .mon`), which consults no clause.
* `tableAt` — that table at the instant of a record (idle sessions whose timeout has elapsed are dead by then).
* `Refusal` / `RefusalLive` — the error statuses the transport may answer *after* the session layer let the
  request through, explained by the event store's current fault script (`faultsAt`).
-/
namespace Sessions

abbrev Trace := List (Op × Obs)

def Abs (cfg : Cfg) (pre : Trace) : Mon := monAfter cfg {} pre

def nowAt (cfg : Cfg) (pre : Trace) (op : Op) : Nat := nowAfter (Abs cfg pre) op

def tableAt (cfg : Cfg) (pre : Trace) (op : Op) : List MSess := (Abs cfg pre).tbl.map (expire cfg (nowAt cfg pre op))

def faultsAt (cfg : Cfg) (pre : Trace) : Faults := effFaults cfg (Abs cfg pre)

/-- the abstract sessions after the answer, the slots and the completions of the record have been booked -/
def bookedAt (cfg : Cfg) (pre : Trace) (op : Op) (o : Obs) : List MSess :=
  let m := Abs cfg pre
  let ba := bookAnswer cfg (faultsAt cfg pre) (nowAt cfg pre op) (tagOf m op) (tableAt cfg pre op) m.pend op o.status
  let bs := bookSlots ba.1 ba.2 m.run op o.status
  (bookDone (nowAt cfg pre op) bs.1 ba.2 o.done).1

/-- … and after the entries `seen` of `h.sessions` have been read (sessions that appear are noted) -/
def scannedAt (cfg : Cfg) (pre : Trace) (op : Op) (o : Obs) (seen : List MapEnt) : List MSess :=
  (scanMap cfg (nowAt cfg pre op) op.req o.status o.hdr (bookedAt cfg pre op o) seen).1

theorem monAfter_snoc (cfg : Cfg) (m : Mon) (tr : Trace) (r : Op × Obs) :
    monAfter cfg m (tr ++ [r]) = (monStep cfg (monAfter cfg m tr) r.1 r.2).mon := by
  induction tr generalizing m with
  | nil => rfl
  | cons x tr ih => obtain ⟨op, o⟩ := x; simp only [List.cons_append, monAfter]; exact ih _

/-- the transport may refuse a creating / stateless POST when the event store cannot open a stream -/
def Refusal (fl : Faults) (r : Req) (st : St) : Prop :=
  (r.verb = .post ∧ r.kind ≠ some .notif ∧ fl.reqOpen = true ∧ st = .code 500) ∨
  (r.verb = .post ∧ fl.connOpen = true ∧ st = .code 500)

/-- … and a request to a live session when it cannot open the answer's stream / replay -/
def RefusalLive (fl : Faults) (r : Req) (st : St) : Prop :=
  (r.verb = .post ∧ r.kind ≠ some .notif ∧ fl.reqOpen = true ∧ st = .code 500) ∨
  (r.verb = .get ∧ fl.after = true ∧ st = .code 400)

/-- (1) the answer to request `r`, given the abstract sessions `tbl` -/
def PAns (cfg : Cfg) (fl : Faults) (tbl : List MSess) (r : Req) (st : St) : AnsClause → Prop
  | .statelessNotPost _ _ => cfg.stateless = true → r.verb ≠ .post → st = .code 405
  | .statelessHonoured _ => cfg.stateless = true → r.verb = .post → st ≠ .code 403 ∧ st ≠ .code 404
  | .statelessPost _ => cfg.stateless = true → r.verb = .post → st.accepted2xx = true ∨ Refusal fl r st
  | .otherMethod _ => cfg.stateless = false → r.verb = .other → st = .code 405
  | .createAnswered _ => cfg.stateless = false → r.verb = .post → r.ref.name = none → st.accepted2xx = true ∨ Refusal fl r st
  | .missingId _ _ => cfg.stateless = false → r.verb ≠ .post → r.verb ≠ .other → r.ref.name = none → st = .code 400
  | .unknownHonoured _ _ => cfg.stateless = false → r.verb ≠ .other → ∀ n, r.ref.name = some n → monFind tbl n = none → st = .code 404
  | .deadAnswered _ _ => cfg.stateless = false → r.verb ≠ .other → ∀ n a, r.ref.name = some n → monFind tbl n = some a →
      a.life = .dead → st = .code 404
  | .ownerRejected => cfg.stateless = false → r.verb ≠ .other → ∀ n a, r.ref.name = some n → monFind tbl n = some a →
      a.life ≠ .dead → entitled a.owner r.user = true → st ≠ .code 403
  | .foreignAnswered _ _ => cfg.stateless = false → r.verb ≠ .other → ∀ n a, r.ref.name = some n → monFind tbl n = some a →
      a.life ≠ .dead → entitled a.owner r.user = false → st = .code 403 ∨ (a.life = .dying ∧ st = .code 404)
  | .goneDuringPost => cfg.stateless = false → r.verb ≠ .other → ∀ n a, r.ref.name = some n → monFind tbl n = some a →
      a.life = .live → entitled a.owner r.user = true → 0 < a.posts → st ≠ .code 404
  | .liveNotHonoured _ => cfg.stateless = false → r.verb ≠ .other → ∀ n a, r.ref.name = some n → monFind tbl n = some a →
      a.life = .live → entitled a.owner r.user = true → st ≠ .code 404
  | .liveAnswered _ _ => cfg.stateless = false → r.verb ≠ .other → ∀ n a, r.ref.name = some n → monFind tbl n = some a →
      a.life = .live → entitled a.owner r.user = true →
      st = .code 403 ∨ st = .code 404 ∨ st.accepted2xx = true ∨ RefusalLive fl r st

theorem sound_chkAnswer {cfg : Cfg} {fl : Faults} {tbl : List MSess} {r : Req} {st : St} {c : AnsClause}
    (h : chkAnswer cfg fl tbl r st = some c) : ¬ PAns cfg fl tbl r st c := by
  intro hp
  -- in each situation `h` becomes the disjunction of the paths on which `chkAnswer` reports; the clause a path names,
  -- applied to the situation, contradicts the test that failed on it
  cases hs : cfg.stateless
  · by_cases hv : r.verb = .other
    · simp only [chkAnswer, hs, hv, if_true, Bool.false_eq_true, if_false, beq_self_eq_true,
        ite_eq_some_iff, Option.some.injEq, reduceCtorEq, and_false, false_or] at h
      obtain ⟨h1, rfl⟩ := h
      simp only [PAns] at hp; grind
    · cases hn : r.ref.name with
      | none =>
        simp only [chkAnswer, hs, hn, beq_iff_eq, hv, Bool.false_eq_true, if_false,
          ite_eq_some_iff, Option.some.injEq, reduceCtorEq, and_false, false_or] at h
        rcases h with ⟨h1, h2, rfl⟩ | ⟨h1, h2, rfl⟩ <;> simp only [PAns, Refusal] at hp <;> grind
      | some n =>
        cases hf : monFind tbl n with
        | none =>
          simp only [chkAnswer, hs, hn, hf, beq_iff_eq, hv, Bool.false_eq_true, if_false,
            ite_eq_some_iff, Option.some.injEq, reduceCtorEq, and_false, false_or] at h
          obtain ⟨h1, rfl⟩ := h
          simp only [PAns] at hp; grind
        | some e =>
          cases hl : e.life <;>
            simp only [chkAnswer, hs, hn, hf, hl, beq_iff_eq, hv, Bool.false_eq_true, if_false,
              ite_eq_some_iff, Option.some.injEq, reduceCtorEq, and_false, false_or, or_false] at h
          · rcases h with ⟨h1, h2, rfl⟩ | ⟨h1, ⟨h2, rfl⟩ | ⟨h2, ⟨h3, ⟨h4, rfl⟩ | ⟨h4, rfl⟩⟩ | ⟨h3, h4, rfl⟩⟩⟩ <;>
              simp only [PAns, RefusalLive] at hp <;> grind
          · rcases h with ⟨h1, h2, rfl⟩ | ⟨h1, h2, rfl⟩ <;> simp only [PAns] at hp <;> grind
          · obtain ⟨h1, rfl⟩ := h
            simp only [PAns] at hp; grind
  · simp only [chkAnswer, hs, if_true, ite_eq_some_iff, Option.some.injEq, reduceCtorEq, and_false, false_or, or_false] at h
    rcases h with ⟨h1, h2, rfl⟩ | ⟨h1, ⟨h2, rfl⟩ | ⟨h2, h3, rfl⟩⟩ <;> simp only [PAns, Refusal] at hp <;> grind

def PLog (cfg : Cfg) (req : Option Req) (st : St) (log : List LogEnt) : LogClause → Prop
  | .rejectedReached => ∀ r, req = some r → st.rejected = true → log = []
  | .otherUser => ∀ r, req = some r → ∀ l ∈ log, l.who = .tok r.user
  | .statelessWithId => cfg.stateless = true → ∀ r, req = some r → ∀ l ∈ log, l.sess = .e
  | .misrouted => cfg.stateless = false → ∀ r n, req = some r → r.ref.name = some n → ∀ l ∈ log, l.sess = n
  | .noRequest => req = none → log = []

theorem sound_chkLog {cfg : Cfg} {req : Option Req} {st : St} {log : List LogEnt} {c : LogClause}
    (h : chkLog cfg req st log = some c) : ¬ PLog cfg req st log c := by
  intro hp
  cases req with
  | none =>
    simp only [chkLog, ite_eq_some_iff, Option.some.injEq, reduceCtorEq, and_false, or_false] at h
    obtain ⟨h1, rfl⟩ := h
    simp [hp rfl] at h1
  | some r =>
    simp only [chkLog, ite_eq_some_iff, Option.some.injEq] at h
    rcases h with ⟨h1, rfl⟩ | ⟨_, h⟩
    · simp only [Bool.and_eq_true] at h1
      simp [hp r rfl h1.1] at h1
    · obtain ⟨l, hmem, hf⟩ := firstSome_some h
      simp only [ite_eq_some_iff, Option.some.injEq, reduceCtorEq, and_false, false_or] at hf
      rcases hf with ⟨hc, rfl⟩ | ⟨_, ⟨hs, hc, rfl⟩ | ⟨hs, hf⟩⟩
      · simp [hp r rfl l hmem] at hc
      · simp [hp hs r rfl l hmem] at hc
      · cases hn : r.ref.name with
        | none => rw [hn] at hf; cases hf
        | some n =>
          simp only [hn, ite_eq_some_iff, Option.some.injEq, reduceCtorEq, and_false, or_false] at hf
          obtain ⟨hc, rfl⟩ := hf
          simp [hp (by simpa using hs) r n rfl hn l hmem] at hc

def PMint (cfg : Cfg) (tbl : List MSess) (req : Option Req) (st : St) (hdr : Option Name) : MintClause → Prop
  | .stateless => cfg.stateless = true → hdr = none
  | .notCreating => cfg.stateless = false → ∀ h, hdr = some h →
      ∃ r, req = some r ∧ r.verb = .post ∧ isInitKind r.kind = true ∧ st.accepted2xx = true
  | .reused => cfg.stateless = false → ∀ h r, hdr = some h → req = some r → r.ref.name = none → monFind tbl h = none
  | .different => cfg.stateless = false → ∀ h r n, hdr = some h → req = some r → r.ref.name = some n → h = n

theorem sound_chkMint {cfg : Cfg} {tbl : List MSess} {req : Option Req} {st : St} {hdr : Option Name} {c : MintClause}
    (h : chkMint cfg tbl req st hdr = some c) : ¬ PMint cfg tbl req st hdr c := by
  intro hp
  cases hdr with
  | none => cases h
  | some x =>
    cases hs : cfg.stateless with
    | true => simp only [chkMint, hs, if_true] at h; cases h; cases hp hs
    | false =>
      cases req with
      | none =>
        simp only [chkMint, hs, Bool.false_eq_true, if_false] at h; cases h
        obtain ⟨r, hr, _⟩ := hp hs x rfl; cases hr
      | some r =>
        simp only [chkMint, hs, Bool.false_eq_true, if_false] at h
        split at h
        · cases h
          next hc => obtain ⟨r', hr, h1, h2, h3⟩ := hp hs x rfl; cases hr; simp [h1, h2, h3] at hc
        · cases hn : r.ref.name with
          | none =>
            simp only [hn] at h
            split at h <;> cases h
            next hc => simp [hp hs x r rfl rfl hn] at hc
          | some n =>
            simp only [hn] at h
            split at h <;> cases h
            next hc => simp [hp hs x r n rfl rfl hn] at hc

def PKeys (map : List MapEnt) : KeyClause → Prop
  | .duplicate => (map.map (·.name)).Nodup
  | .badKey => ∀ e ∈ map, e.badKey = false

theorem sound_chkKeys {map : List MapEnt} {c : KeyClause} (h : chkKeys map = some c) : ¬ PKeys map c := by
  intro hp
  unfold chkKeys at h
  simp only [] at h
  split at h
  · rename_i hd
    cases h
    simp only [PKeys] at hp
    rw [eraseDups_of_nodup hp] at hd
    simp at hd
  · split at h
    · rename_i hb
      cases h
      simp only [PKeys] at hp
      rw [List.any_eq_true] at hb
      obtain ⟨e, he, hbk⟩ := hb
      rw [hp e he] at hbk; cases hbk
    · cases h

def PGone (names : List Name) (tbl : List MSess) : GoneClause → Prop
  | .duringPost _ => ∀ a ∈ tbl, a.life = .live → 0 < a.posts → a.name ∈ names
  | .dropped _ => ∀ a ∈ tbl, a.life = .live → a.posts = 0 → a.name ∈ names

theorem sound_chkGone {names : List Name} {tbl : List MSess} {c : GoneClause} (h : chkGone names tbl = some c) :
    ¬ PGone names tbl c := by
  intro hp
  unfold chkGone at h
  obtain ⟨a, hmem, hf⟩ := firstSome_some h
  split at hf
  · rename_i hc
    simp only [Bool.and_eq_true, beq_iff_eq, Bool.not_eq_true', List.contains_eq_mem, decide_eq_false_iff_not] at hc
    split at hf
    · rename_i hpos
      cases hf
      exact hc.2 (hp a hmem hc.1 (by simpa using hpos))
    · rename_i hpos
      cases hf
      exact hc.2 (hp a hmem hc.1 (by simpa using hpos))
  · cases hf

def PSrv (cfg : Cfg) (names srv : List Name) : SrvClause → Prop
  | .statelessId => cfg.stateless = true → ∀ n ∈ srv, n = .e
  | .notForgotten _ => cfg.stateless = false → ∀ n ∈ srv, n ∈ names
  | .tableKeeps _ => cfg.stateless = false → ∀ n ∈ names, n ∈ srv

theorem sound_chkSrv {cfg : Cfg} {names srv : List Name} {c : SrvClause} (h : chkSrv cfg names srv = some c) :
    ¬ PSrv cfg names srv c := by
  intro hp
  unfold chkSrv at h
  split at h
  · rename_i hsl
    split at h
    · rename_i ha
      cases h
      rw [List.any_eq_true] at ha
      obtain ⟨n, hn, hne⟩ := ha
      have := hp hsl n hn
      simp [this] at hne
    · cases h
  · rename_i hsl
    have hsl' : cfg.stateless = false := by simpa using hsl
    rcases firstViol_some h with h1 | ⟨_, h1⟩
    · obtain ⟨n, hmem, hf⟩ := firstSome_some h1
      split at hf
      · cases hf
      · rename_i hc; cases hf; exact hc (by simpa using hp hsl' n hmem)
    · obtain ⟨n, hmem, hf⟩ := firstSome_some h1
      split at hf
      · cases hf
      · rename_i hc; cases hf; exact hc (by simpa using hp hsl' n hmem)

/-- (5e) the creating initialize is answered with the new session's id -/
def PNoId (cfg : Cfg) (req : Option Req) (st : St) (hdr : Option Name) : Prop :=
  ∀ r, req = some r → r.verb = .post → r.ref = .absent → r.kind = some .init → cfg.stateless = false →
    st.accepted2xx = true → hdr.isSome = true

theorem sound_chkNoId {cfg : Cfg} {req : Option Req} {st : St} {hdr : Option Name} (h : chkNoId cfg req st hdr = true) :
    ¬ PNoId cfg req st hdr := by
  intro hp
  unfold chkNoId at h
  cases req with
  | none => cases h
  | some r =>
    simp only [Bool.and_eq_true, beq_iff_eq, Bool.not_eq_true'] at h
    obtain ⟨⟨⟨⟨⟨h1, h2⟩, h3⟩, h4⟩, h5⟩, h6⟩ := h
    have := hp r rfl h1 h2 h3 h4 h5
    cases hdr <;> simp_all

/-- (5a) one entry `ent` of `h.sessions`, read when the abstract sessions are `tbl` -/
def PTbl (cfg : Cfg) (req : Option Req) (st : St) (hdr : Option Name) (tbl : List MSess) (ent : MapEnt) : TblClause → Prop
  | .ownerChanged => ∀ a, monFind tbl ent.name = some a → a.owner = ent.owner
  | .deadInTable _ => ∀ a, monFind tbl ent.name = some a → a.life ≠ .dead
  | .closingDuringPost _ => ∀ a, monFind tbl ent.name = some a → a.life = .live → 0 < a.posts → ent.closing = false
  | .closingNoCause _ => ∀ a, monFind tbl ent.name = some a → a.life = .live → a.posts = 0 → ent.closing = false
  | .f20 => monFind tbl ent.name = none → reqRacy req = false
  | .keptAfterFailedInit => monFind tbl ent.name = none → ∀ r, req = some r → r.verb = .post → r.ref = .absent →
      cfg.stateless = false → r.kind = some .init
  | .keptAfterRefusal _ => monFind tbl ent.name = none → ∀ r, req = some r → r.verb = .post → r.ref = .absent →
      cfg.stateless = false → st.accepted2xx = true
  | .boundToOther => monFind tbl ent.name = none → ∀ r, req = some r → r.verb = .post → r.ref = .absent →
      cfg.stateless = false → ent.owner = r.user.owner
  | .notTheNamed => monFind tbl ent.name = none → ∀ r, req = some r → r.verb = .post → r.ref = .absent →
      cfg.stateless = false → hdr = some ent.name
  | .statelessKeeps => cfg.stateless = true → (monFind tbl ent.name).isSome = true
  | .appeared => cfg.stateless = false → monFind tbl ent.name = none →
      ∃ r, req = some r ∧ r.verb = .post ∧ r.ref = .absent

theorem sound_judgeEntry {cfg : Cfg} {now : Nat} {req : Option Req} {st : St} {hdr : Option Name} {tbl : List MSess}
    {ent : MapEnt} {c : TblClause} (h : (judgeEntry cfg now req st hdr tbl ent).2 = some c) :
    ¬ PTbl cfg req st hdr tbl ent c := by
  intro hp
  cases hf : monFind tbl ent.name with
  | some e =>
    rw [judgeEntry_known hf] at h
    simp only [ite_eq_some_iff, Option.some.injEq, reduceCtorEq, and_false, or_false] at h
    rcases h with ⟨h1, rfl⟩ | ⟨h1, ⟨h2, rfl⟩ | ⟨h2, h3, rfl⟩⟩ <;> simp only [PTbl] at hp <;> grind
  | none =>
    cases hr : reqRacy req with
    | true => rw [judgeEntry_racy hf hr] at h; cases h; rw [hp hf] at hr; cases hr
    | false =>
      by_cases hc : ∃ r, req = some r ∧ r.verb = .post ∧ r.ref = .absent ∧ cfg.stateless = false
      · obtain ⟨r, hq, hv, ha, hs⟩ := hc
        rw [judgeEntry_creating hf hq (by simpa [hq, reqRacy] using hr) hv ha hs] at h
        simp only [ite_eq_some_iff, Option.some.injEq, reduceCtorEq, and_false, or_false] at h
        rcases h with ⟨h1, rfl⟩ | ⟨h1, ⟨h2, rfl⟩ | ⟨h2, ⟨h3, rfl⟩ | ⟨h3, h4, rfl⟩⟩⟩ <;> simp only [PTbl] at hp <;> grind
      · rw [judgeEntry_appeared hf hr (fun r hq hx => hc ⟨r, hq, hx⟩)] at h
        split at h <;> cases h <;> simp only [PTbl] at hp <;> grind

/-- (2') the handler invocation log of a record that completes an earlier POST (`body`): what the body carried
reaches only the session the POST was admitted to — the one booked for the request `u<n>` in the history's reading
(`pend`) — and a POST that was never booked reaches no handler -/
def PBodyLog (pend : List (Tag × Name)) (n : Nat) (log : List LogEnt) : LogClause → Prop
  | .misrouted => ∀ t nm, pend.find? (·.1 == Tag.u n) = some (t, nm) → ∀ l ∈ log, l.sess = nm
  | .noRequest => pend.find? (·.1 == Tag.u n) = none → log = []
  | _ => True

theorem sound_chkBodyLog {pend : List (Tag × Name)} {n : Nat} {log : List LogEnt} {c : LogClause}
    (h : chkBodyLog pend n log = some c) : ¬ PBodyLog pend n log c := by
  intro hp
  unfold chkBodyLog at h
  cases hf : pend.find? (·.1 == Tag.u n) with
  | none =>
    rw [hf] at h
    simp only [] at h
    split at h
    · cases h
      have := hp hf
      simp_all
    · cases h
  | some x =>
    obtain ⟨t, nm⟩ := x
    rw [hf] at h
    simp only [] at h
    obtain ⟨a, hmem, hfa⟩ := firstSome_some h
    split at hfa
    · cases hfa
      have := hp t nm hf a hmem
      simp_all
    · cases hfa

/-- the log clause of one record: of the operation's own request, or of the POST whose body is now complete -/
def PLogOp (cfg : Cfg) (pend : List (Tag × Name)) (op : Op) (st : St) (log : List LogEnt) (c : LogClause) : Prop :=
  match op with
  | .body n _ => PBodyLog pend n log c
  | _ => PLog cfg op.req st log c

/-- a request is judged by its answer once it has one: a POST of which only the headers have arrived (`postb`) and
that is still `pending` is not -/
def Answered (op : Op) (st : St) : Prop := ∀ ref u, op = .postb ref u → st ≠ .pending

theorem chkAnswerOp_judges {cfg : Cfg} {fl : Faults} {tbl : List MSess} {op : Op} {st : St} :
    (∀ x, chkAnswerOp cfg fl tbl op st = some x → Answered op st) ∧
    (Answered op st → chkAnswerOp cfg fl tbl op st = chkAnswerO cfg fl tbl op.req st) := by
  unfold chkAnswerOp
  constructor
  · intro x h ref u hop hst
    subst hop
    simp [hst] at h
  · intro ha
    split
    · next ref u => rw [if_neg (by simpa using ha ref u rfl)]
    · rfl

/-- (6) C05 "Close … returns, the session is removed …, shutdown leaves no … timer behind" ∩ C11 "closed and
forgotten", on one snapshot: every session of the handler's table whose `Close` has begun has a handler that is still
running (else the close has completed and the session is gone); no session that has left the table has an armed
idle timer. -/
def PClose (map : List MapEnt) (stale : List Name) : CloseClause → Prop
  | .stuck _ => ∀ e ∈ map, e.closing = true → e.busy ≠ 0
  | .timerLeft _ => stale = []

theorem sound_chkClose {map : List MapEnt} {stale : List Name} {c : CloseClause}
    (h : chkClose map stale = some c) : ¬ PClose map stale c := by
  intro hp
  unfold chkClose at h
  rcases firstViol_some h with h1 | ⟨_, h1⟩
  · obtain ⟨a, hmem, hfa⟩ := firstSome_some h1
    split at hfa
    · rename_i hc
      cases hfa
      simp only [Bool.and_eq_true, beq_iff_eq] at hc
      exact hp a hmem hc.1 hc.2
    · cases hfa
  · obtain ⟨a, hmem, hfa⟩ := firstSome_some h1
    cases hfa
    simp only [PClose] at hp
    rw [hp] at hmem
    cases hmem

/-- The end-of-case record is there and reports nothing left: no stuck request, no session in the handler's table or the server's
list, no armed timer (`timers` defaults to 0). -/
def PEnd (o : Option EndObs) : Prop := o = some { stuck := 0, map := 0, srv := 0 }

theorem sound_monEnd {m : Mon} {o : Option EndObs} {c : EndClause} (h : monEnd m o = some c) : ¬ PEnd o := by
  intro hp
  unfold monEnd at h
  rw [hp] at h
  simp at h

/-- **the property clause behind a monitor clause**, as a predicate on the observation trace: it holds of every
record of the trace, with the history before the record read as `Abs` does.  (A clause wrapped as "F20 …; then c"
stands for `c`; the arguments of a clause — the status, the name it was reported with — do not enter: `∀ c, P_of cfg c tr` ranges
over one predicate per constructor.) -/
def P_of (cfg : Cfg) : Clause → Trace → Prop
  | .ans c, tr => ∀ pre op o post r, tr = pre ++ (op, o) :: post → op.req = some r → Answered op o.status →
      PAns cfg (faultsAt cfg pre) (tableAt cfg pre op) r o.status c
  | .log c, tr => ∀ pre op o post, tr = pre ++ (op, o) :: post → PLogOp cfg (Abs cfg pre).pend op o.status o.log c
  | .mint c, tr => ∀ pre op o post, tr = pre ++ (op, o) :: post → PMint cfg (tableAt cfg pre op) op.req o.status o.hdr c
  | .tbl c, tr => ∀ pre op o post seen ent rest, tr = pre ++ (op, o) :: post → o.map = seen ++ ent :: rest →
      PTbl cfg op.req o.status o.hdr (scannedAt cfg pre op o seen) ent c
  | .key c, tr => ∀ pre op o post, tr = pre ++ (op, o) :: post → PKeys o.map c
  | .gone c, tr => ∀ pre op o post, tr = pre ++ (op, o) :: post →
      PGone (o.map.map (·.name)) (scannedAt cfg pre op o o.map) c
  | .srv c, tr => ∀ pre op o post, tr = pre ++ (op, o) :: post → PSrv cfg (o.map.map (·.name)) o.srv c
  | .close c, tr => ∀ pre op o post, tr = pre ++ (op, o) :: post → PClose o.map o.stale c
  | .noId, tr => ∀ pre op o post, tr = pre ++ (op, o) :: post → PNoId cfg op.req o.status o.hdr
  | .zombieThen c, tr => P_of cfg c tr

/-- the clause that the checks of the record after `pre` yield, before the F20 classification.  This is the chain of `monStep`
(Monitor.lean) written a second time, over `tableAt`/`bookedAt`; `monStep_viol` ties the two by `rfl`.  A new check goes into both,
and into `rawViol_source`, `rawViol_none`, `P_of`, `monitor_sound`, `monitor_complete`. -/
def rawViol (cfg : Cfg) (pre : Trace) (op : Op) (o : Obs) : Option Clause :=
  let sm := scanMap cfg (nowAt cfg pre op) op.req o.status o.hdr (bookedAt cfg pre op o) o.map
  firstViol ((chkAnswerOp cfg (faultsAt cfg pre) (tableAt cfg pre op) op o.status).map Clause.ans)
    (firstViol ((chkLogOp cfg (Abs cfg pre).pend op o.status o.log).map Clause.log)
      (firstViol ((chkMint cfg (tableAt cfg pre op) op.req o.status o.hdr).map Clause.mint)
        (firstViol (sm.2.map Clause.tbl)
          (firstViol ((chkKeys o.map).map Clause.key)
            (firstViol ((chkGone (o.map.map (·.name)) sm.1).map Clause.gone)
              (firstViol ((chkSrv cfg (o.map.map (·.name)) o.srv).map Clause.srv)
                (firstViol (if chkNoId cfg op.req o.status o.hdr then some Clause.noId else none)
                  ((chkClose o.map o.stale).map Clause.close))))))))

theorem monStep_viol (cfg : Cfg) (pre : Trace) (op : Op) (o : Obs) : (monStep cfg (Abs cfg pre) op o).viol =
    (if (o.map.map (·.name)).any (monStep cfg (Abs cfg pre) op o).mon.zombies.contains then (rawViol cfg pre op o).map zombieWrap
     else rawViol cfg pre op o) := rfl

theorem viol_raw {cfg : Cfg} {pre : Trace} {op : Op} {o : Obs} {c : Clause} (h : (monStep cfg (Abs cfg pre) op o).viol = some c) :
    ∃ c0, rawViol cfg pre op o = some c0 ∧ (c = c0 ∨ c = .zombieThen c0) := by
  rw [monStep_viol] at h
  split at h
  · cases hr : rawViol cfg pre op o with
    | none => rw [hr] at h; cases h
    | some c0 =>
      rw [hr] at h
      simp only [Option.map_some, Option.some.injEq] at h
      refine ⟨c0, rfl, ?_⟩
      rw [← h]
      unfold zombieWrap
      split
      · left; rfl
      · right; rfl
  · exact ⟨c, h, Or.inl rfl⟩

theorem rawViol_source {cfg : Cfg} {pre : Trace} {op : Op} {o : Obs} {c : Clause} (h : rawViol cfg pre op o = some c) :
    match c with
    | .ans x => chkAnswerOp cfg (faultsAt cfg pre) (tableAt cfg pre op) op o.status = some x
    | .log x => chkLogOp cfg (Abs cfg pre).pend op o.status o.log = some x
    | .mint x => chkMint cfg (tableAt cfg pre op) op.req o.status o.hdr = some x
    | .tbl x => (scanMap cfg (nowAt cfg pre op) op.req o.status o.hdr (bookedAt cfg pre op o) o.map).2 = some x
    | .key x => chkKeys o.map = some x
    | .gone x => chkGone (o.map.map (·.name)) (scannedAt cfg pre op o o.map) = some x
    | .srv x => chkSrv cfg (o.map.map (·.name)) o.srv = some x
    | .close x => chkClose o.map o.stale = some x
    | .noId => chkNoId cfg op.req o.status o.hdr = true
    | .zombieThen _ => False := by
  unfold rawViol at h
  simp only [] at h
  -- the first seven checks report through `Option.map`
  repeat (rcases firstViol_some h with h1 | ⟨_, h⟩; · obtain ⟨x, hx, rfl⟩ := Option.map_eq_some_iff.mp h1; exact hx)
  rcases firstViol_some h with h1 | ⟨_, h⟩
  · split at h1
    · rename_i hn; cases h1; exact hn
    · cases h1
  · obtain ⟨x, hx, rfl⟩ := Option.map_eq_some_iff.mp h; exact hx

theorem runMonFrom_some {cfg : Cfg} {c : Clause} : ∀ {tr : Trace} {m : Mon} {i j : Nat}, runMonFrom cfg m i tr = some (j, c) →
    ∃ pre op o post, tr = pre ++ (op, o) :: post ∧ (monStep cfg (monAfter cfg m pre) op o).viol = some c := by
  intro tr
  induction tr with
  | nil => intro m i j h; cases h
  | cons x tr ih =>
    intro m i j h
    obtain ⟨op, o⟩ := x
    simp only [runMonFrom] at h
    cases hv : (monStep cfg m op o).viol with
    | some c' =>
      rw [hv] at h
      simp only [Option.some.injEq, Prod.mk.injEq] at h
      exact ⟨[], op, o, tr, rfl, by rw [← h.2]; exact hv⟩
    | none =>
      rw [hv] at h
      obtain ⟨pre, op', o', post, h1, h2⟩ := ih h
      exact ⟨(op, o) :: pre, op', o', post, by rw [h1]; rfl, h2⟩

theorem runMonFrom_none {cfg : Cfg} : ∀ {tr : Trace} {m : Mon} {i : Nat}, runMonFrom cfg m i tr = none →
    ∀ pre op o post, tr = pre ++ (op, o) :: post → (monStep cfg (monAfter cfg m pre) op o).viol = none := by
  intro tr
  induction tr with
  | nil => intro m i _ pre op o post h; cases pre <;> cases h
  | cons x tr ih =>
    intro m i h pre op o post htr
    obtain ⟨op0, o0⟩ := x
    simp only [runMonFrom] at h
    cases hv : (monStep cfg m op0 o0).viol with
    | some c => rw [hv] at h; cases h
    | none =>
      rw [hv] at h
      cases pre with
      | nil =>
        simp only [List.nil_append, List.cons.injEq, Prod.mk.injEq] at htr
        obtain ⟨⟨rfl, rfl⟩, _⟩ := htr
        exact hv
      | cons p pre' =>
        simp only [List.cons_append, List.cons.injEq] at htr
        rw [← htr.1]
        exact ih h pre' op o post htr.2

theorem monitor_sound {cfg : Cfg} {tr : Trace} {j : Nat} {c : Clause} (h : runMon cfg tr = some (j, c)) : ¬ P_of cfg c tr := by
  obtain ⟨pre, op, o, post, htr, hv⟩ := runMonFrom_some h
  obtain ⟨c0, hraw, hc⟩ := viol_raw hv
  have hsrc := rawViol_source hraw
  have key : ¬ P_of cfg c0 tr := by
    intro hp
    cases c0 with
    | ans x =>
      simp only [] at hsrc
      have hansw := chkAnswerOp_judges.1 x hsrc
      rw [chkAnswerOp_judges.2 hansw] at hsrc
      unfold chkAnswerO at hsrc
      cases hr : op.req with
      | none => rw [hr] at hsrc; cases hsrc
      | some r =>
        rw [hr] at hsrc
        exact sound_chkAnswer hsrc (hp pre op o post r htr hr hansw)
    | log x =>
      simp only [] at hsrc
      have hpl := hp pre op o post htr
      cases op <;> simp only [chkLogOp] at hsrc <;> simp only [PLogOp] at hpl <;>
        first | exact sound_chkBodyLog hsrc hpl | exact sound_chkLog hsrc hpl
    | mint x => exact sound_chkMint hsrc (hp pre op o post htr)
    | tbl x =>
      obtain ⟨seen, ent, rest, hl, hj⟩ := scanMap_some hsrc
      exact sound_judgeEntry hj (hp pre op o post seen ent rest htr hl)
    | key x => exact sound_chkKeys hsrc (hp pre op o post htr)
    | gone x => exact sound_chkGone hsrc (hp pre op o post htr)
    | srv x => exact sound_chkSrv hsrc (hp pre op o post htr)
    | close x => exact sound_chkClose hsrc (hp pre op o post htr)
    | noId => exact sound_chkNoId hsrc (hp pre op o post htr)
    | zombieThen x => exact hsrc
  rcases hc with rfl | rfl
  · exact key
  · exact key

theorem monitor_sound_end {m : Mon} {o : Option EndObs} {c : EndClause} (h : monEnd m o = some c) : ¬ PEnd o :=
  sound_monEnd h

/-! From here to the end: per clause constructor the predicate `P_<clause>` and `sound_<clause>`, instances of `P_of` and `monitor_sound`
under the names the manifest and DESIGN.md cite. -/

def P_statelessNotPost (cfg : Cfg) (v : Verb) (st : St) (tr : Trace) : Prop := P_of cfg (.ans (.statelessNotPost v st)) tr

theorem sound_statelessNotPost {cfg : Cfg} (v : Verb) (st : St) {tr : Trace} {j : Nat} (h : runMon cfg tr = some (j, (.ans (.statelessNotPost v st)))) :
    ¬ P_statelessNotPost cfg v st tr := monitor_sound h

def P_statelessHonoured (cfg : Cfg) (st : St) (tr : Trace) : Prop := P_of cfg (.ans (.statelessHonoured st)) tr

theorem sound_statelessHonoured {cfg : Cfg} (st : St) {tr : Trace} {j : Nat} (h : runMon cfg tr = some (j, (.ans (.statelessHonoured st)))) :
    ¬ P_statelessHonoured cfg st tr := monitor_sound h

def P_statelessPost (cfg : Cfg) (st : St) (tr : Trace) : Prop := P_of cfg (.ans (.statelessPost st)) tr

theorem sound_statelessPost {cfg : Cfg} (st : St) {tr : Trace} {j : Nat} (h : runMon cfg tr = some (j, (.ans (.statelessPost st)))) :
    ¬ P_statelessPost cfg st tr := monitor_sound h

def P_otherMethod (cfg : Cfg) (st : St) (tr : Trace) : Prop := P_of cfg (.ans (.otherMethod st)) tr

theorem sound_otherMethod {cfg : Cfg} (st : St) {tr : Trace} {j : Nat} (h : runMon cfg tr = some (j, (.ans (.otherMethod st)))) :
    ¬ P_otherMethod cfg st tr := monitor_sound h

def P_createAnswered (cfg : Cfg) (st : St) (tr : Trace) : Prop := P_of cfg (.ans (.createAnswered st)) tr

theorem sound_createAnswered {cfg : Cfg} (st : St) {tr : Trace} {j : Nat} (h : runMon cfg tr = some (j, (.ans (.createAnswered st)))) :
    ¬ P_createAnswered cfg st tr := monitor_sound h

def P_missingId (cfg : Cfg) (v : Verb) (st : St) (tr : Trace) : Prop := P_of cfg (.ans (.missingId v st)) tr

theorem sound_missingId {cfg : Cfg} (v : Verb) (st : St) {tr : Trace} {j : Nat} (h : runMon cfg tr = some (j, (.ans (.missingId v st)))) :
    ¬ P_missingId cfg v st tr := monitor_sound h

def P_unknownHonoured (cfg : Cfg) (v : Verb) (st : St) (tr : Trace) : Prop := P_of cfg (.ans (.unknownHonoured v st)) tr

theorem sound_unknownHonoured {cfg : Cfg} (v : Verb) (st : St) {tr : Trace} {j : Nat} (h : runMon cfg tr = some (j, (.ans (.unknownHonoured v st)))) :
    ¬ P_unknownHonoured cfg v st tr := monitor_sound h

def P_deadAnswered (cfg : Cfg) (v : Verb) (st : St) (tr : Trace) : Prop := P_of cfg (.ans (.deadAnswered v st)) tr

theorem sound_deadAnswered {cfg : Cfg} (v : Verb) (st : St) {tr : Trace} {j : Nat} (h : runMon cfg tr = some (j, (.ans (.deadAnswered v st)))) :
    ¬ P_deadAnswered cfg v st tr := monitor_sound h

def P_ownerRejected (cfg : Cfg)  (tr : Trace) : Prop := P_of cfg (.ans (.ownerRejected)) tr

theorem sound_ownerRejected {cfg : Cfg}  {tr : Trace} {j : Nat} (h : runMon cfg tr = some (j, (.ans (.ownerRejected)))) :
    ¬ P_ownerRejected cfg  tr := monitor_sound h

def P_foreignAnswered (cfg : Cfg) (v : Verb) (st : St) (tr : Trace) : Prop := P_of cfg (.ans (.foreignAnswered v st)) tr

theorem sound_foreignAnswered {cfg : Cfg} (v : Verb) (st : St) {tr : Trace} {j : Nat} (h : runMon cfg tr = some (j, (.ans (.foreignAnswered v st)))) :
    ¬ P_foreignAnswered cfg v st tr := monitor_sound h

def P_goneDuringPost (cfg : Cfg)  (tr : Trace) : Prop := P_of cfg (.ans (.goneDuringPost)) tr

theorem sound_goneDuringPost {cfg : Cfg}  {tr : Trace} {j : Nat} (h : runMon cfg tr = some (j, (.ans (.goneDuringPost)))) :
    ¬ P_goneDuringPost cfg  tr := monitor_sound h

def P_liveNotHonoured (cfg : Cfg) (v : Verb) (tr : Trace) : Prop := P_of cfg (.ans (.liveNotHonoured v)) tr

theorem sound_liveNotHonoured {cfg : Cfg} (v : Verb) {tr : Trace} {j : Nat} (h : runMon cfg tr = some (j, (.ans (.liveNotHonoured v)))) :
    ¬ P_liveNotHonoured cfg v tr := monitor_sound h

def P_liveAnswered (cfg : Cfg) (v : Verb) (st : St) (tr : Trace) : Prop := P_of cfg (.ans (.liveAnswered v st)) tr

theorem sound_liveAnswered {cfg : Cfg} (v : Verb) (st : St) {tr : Trace} {j : Nat} (h : runMon cfg tr = some (j, (.ans (.liveAnswered v st)))) :
    ¬ P_liveAnswered cfg v st tr := monitor_sound h

def P_log_rejectedReached (cfg : Cfg)  (tr : Trace) : Prop := P_of cfg (.log (.rejectedReached)) tr

theorem sound_log_rejectedReached {cfg : Cfg}  {tr : Trace} {j : Nat} (h : runMon cfg tr = some (j, (.log (.rejectedReached)))) :
    ¬ P_log_rejectedReached cfg  tr := monitor_sound h

def P_log_otherUser (cfg : Cfg)  (tr : Trace) : Prop := P_of cfg (.log (.otherUser)) tr

theorem sound_log_otherUser {cfg : Cfg}  {tr : Trace} {j : Nat} (h : runMon cfg tr = some (j, (.log (.otherUser)))) :
    ¬ P_log_otherUser cfg  tr := monitor_sound h

def P_log_statelessWithId (cfg : Cfg)  (tr : Trace) : Prop := P_of cfg (.log (.statelessWithId)) tr

theorem sound_log_statelessWithId {cfg : Cfg}  {tr : Trace} {j : Nat} (h : runMon cfg tr = some (j, (.log (.statelessWithId)))) :
    ¬ P_log_statelessWithId cfg  tr := monitor_sound h

def P_log_misrouted (cfg : Cfg)  (tr : Trace) : Prop := P_of cfg (.log (.misrouted)) tr

theorem sound_log_misrouted {cfg : Cfg}  {tr : Trace} {j : Nat} (h : runMon cfg tr = some (j, (.log (.misrouted)))) :
    ¬ P_log_misrouted cfg  tr := monitor_sound h

def P_log_noRequest (cfg : Cfg)  (tr : Trace) : Prop := P_of cfg (.log (.noRequest)) tr

theorem sound_log_noRequest {cfg : Cfg}  {tr : Trace} {j : Nat} (h : runMon cfg tr = some (j, (.log (.noRequest)))) :
    ¬ P_log_noRequest cfg  tr := monitor_sound h

def P_mint_stateless (cfg : Cfg)  (tr : Trace) : Prop := P_of cfg (.mint (.stateless)) tr

theorem sound_mint_stateless {cfg : Cfg}  {tr : Trace} {j : Nat} (h : runMon cfg tr = some (j, (.mint (.stateless)))) :
    ¬ P_mint_stateless cfg  tr := monitor_sound h

def P_mint_notCreating (cfg : Cfg)  (tr : Trace) : Prop := P_of cfg (.mint (.notCreating)) tr

theorem sound_mint_notCreating {cfg : Cfg}  {tr : Trace} {j : Nat} (h : runMon cfg tr = some (j, (.mint (.notCreating)))) :
    ¬ P_mint_notCreating cfg  tr := monitor_sound h

def P_mint_reused (cfg : Cfg)  (tr : Trace) : Prop := P_of cfg (.mint (.reused)) tr

theorem sound_mint_reused {cfg : Cfg}  {tr : Trace} {j : Nat} (h : runMon cfg tr = some (j, (.mint (.reused)))) :
    ¬ P_mint_reused cfg  tr := monitor_sound h

def P_mint_different (cfg : Cfg)  (tr : Trace) : Prop := P_of cfg (.mint (.different)) tr

theorem sound_mint_different {cfg : Cfg}  {tr : Trace} {j : Nat} (h : runMon cfg tr = some (j, (.mint (.different)))) :
    ¬ P_mint_different cfg  tr := monitor_sound h

def P_tbl_ownerChanged (cfg : Cfg)  (tr : Trace) : Prop := P_of cfg (.tbl (.ownerChanged)) tr

theorem sound_tbl_ownerChanged {cfg : Cfg}  {tr : Trace} {j : Nat} (h : runMon cfg tr = some (j, (.tbl (.ownerChanged)))) :
    ¬ P_tbl_ownerChanged cfg  tr := monitor_sound h

def P_tbl_deadInTable (cfg : Cfg) (n : Name) (tr : Trace) : Prop := P_of cfg (.tbl (.deadInTable n)) tr

theorem sound_tbl_deadInTable {cfg : Cfg} (n : Name) {tr : Trace} {j : Nat} (h : runMon cfg tr = some (j, (.tbl (.deadInTable n)))) :
    ¬ P_tbl_deadInTable cfg n tr := monitor_sound h

def P_tbl_closingDuringPost (cfg : Cfg) (n : Name) (tr : Trace) : Prop := P_of cfg (.tbl (.closingDuringPost n)) tr

theorem sound_tbl_closingDuringPost {cfg : Cfg} (n : Name) {tr : Trace} {j : Nat} (h : runMon cfg tr = some (j, (.tbl (.closingDuringPost n)))) :
    ¬ P_tbl_closingDuringPost cfg n tr := monitor_sound h

def P_tbl_closingNoCause (cfg : Cfg) (n : Name) (tr : Trace) : Prop := P_of cfg (.tbl (.closingNoCause n)) tr

theorem sound_tbl_closingNoCause {cfg : Cfg} (n : Name) {tr : Trace} {j : Nat} (h : runMon cfg tr = some (j, (.tbl (.closingNoCause n)))) :
    ¬ P_tbl_closingNoCause cfg n tr := monitor_sound h

def P_tbl_f20 (cfg : Cfg)  (tr : Trace) : Prop := P_of cfg (.tbl (.f20)) tr

theorem sound_tbl_f20 {cfg : Cfg}  {tr : Trace} {j : Nat} (h : runMon cfg tr = some (j, (.tbl (.f20)))) :
    ¬ P_tbl_f20 cfg  tr := monitor_sound h

def P_tbl_keptAfterFailedInit (cfg : Cfg)  (tr : Trace) : Prop := P_of cfg (.tbl (.keptAfterFailedInit)) tr

theorem sound_tbl_keptAfterFailedInit {cfg : Cfg}  {tr : Trace} {j : Nat} (h : runMon cfg tr = some (j, (.tbl (.keptAfterFailedInit)))) :
    ¬ P_tbl_keptAfterFailedInit cfg  tr := monitor_sound h

def P_tbl_keptAfterRefusal (cfg : Cfg) (st : St) (tr : Trace) : Prop := P_of cfg (.tbl (.keptAfterRefusal st)) tr

theorem sound_tbl_keptAfterRefusal {cfg : Cfg} (st : St) {tr : Trace} {j : Nat} (h : runMon cfg tr = some (j, (.tbl (.keptAfterRefusal st)))) :
    ¬ P_tbl_keptAfterRefusal cfg st tr := monitor_sound h

def P_tbl_boundToOther (cfg : Cfg)  (tr : Trace) : Prop := P_of cfg (.tbl (.boundToOther)) tr

theorem sound_tbl_boundToOther {cfg : Cfg}  {tr : Trace} {j : Nat} (h : runMon cfg tr = some (j, (.tbl (.boundToOther)))) :
    ¬ P_tbl_boundToOther cfg  tr := monitor_sound h

def P_tbl_notTheNamed (cfg : Cfg)  (tr : Trace) : Prop := P_of cfg (.tbl (.notTheNamed)) tr

theorem sound_tbl_notTheNamed {cfg : Cfg}  {tr : Trace} {j : Nat} (h : runMon cfg tr = some (j, (.tbl (.notTheNamed)))) :
    ¬ P_tbl_notTheNamed cfg  tr := monitor_sound h

def P_tbl_statelessKeeps (cfg : Cfg)  (tr : Trace) : Prop := P_of cfg (.tbl (.statelessKeeps)) tr

theorem sound_tbl_statelessKeeps {cfg : Cfg}  {tr : Trace} {j : Nat} (h : runMon cfg tr = some (j, (.tbl (.statelessKeeps)))) :
    ¬ P_tbl_statelessKeeps cfg  tr := monitor_sound h

def P_tbl_appeared (cfg : Cfg)  (tr : Trace) : Prop := P_of cfg (.tbl (.appeared)) tr

theorem sound_tbl_appeared {cfg : Cfg}  {tr : Trace} {j : Nat} (h : runMon cfg tr = some (j, (.tbl (.appeared)))) :
    ¬ P_tbl_appeared cfg  tr := monitor_sound h

def P_key_duplicate (cfg : Cfg)  (tr : Trace) : Prop := P_of cfg (.key (.duplicate)) tr

theorem sound_key_duplicate {cfg : Cfg}  {tr : Trace} {j : Nat} (h : runMon cfg tr = some (j, (.key (.duplicate)))) :
    ¬ P_key_duplicate cfg  tr := monitor_sound h

def P_key_badKey (cfg : Cfg)  (tr : Trace) : Prop := P_of cfg (.key (.badKey)) tr

theorem sound_key_badKey {cfg : Cfg}  {tr : Trace} {j : Nat} (h : runMon cfg tr = some (j, (.key (.badKey)))) :
    ¬ P_key_badKey cfg  tr := monitor_sound h

def P_gone_duringPost (cfg : Cfg) (n : Name) (tr : Trace) : Prop := P_of cfg (.gone (.duringPost n)) tr

theorem sound_gone_duringPost {cfg : Cfg} (n : Name) {tr : Trace} {j : Nat} (h : runMon cfg tr = some (j, (.gone (.duringPost n)))) :
    ¬ P_gone_duringPost cfg n tr := monitor_sound h

def P_gone_dropped (cfg : Cfg) (n : Name) (tr : Trace) : Prop := P_of cfg (.gone (.dropped n)) tr

theorem sound_gone_dropped {cfg : Cfg} (n : Name) {tr : Trace} {j : Nat} (h : runMon cfg tr = some (j, (.gone (.dropped n)))) :
    ¬ P_gone_dropped cfg n tr := monitor_sound h

def P_srv_statelessId (cfg : Cfg)  (tr : Trace) : Prop := P_of cfg (.srv (.statelessId)) tr

theorem sound_srv_statelessId {cfg : Cfg}  {tr : Trace} {j : Nat} (h : runMon cfg tr = some (j, (.srv (.statelessId)))) :
    ¬ P_srv_statelessId cfg  tr := monitor_sound h

def P_srv_notForgotten (cfg : Cfg) (n : Name) (tr : Trace) : Prop := P_of cfg (.srv (.notForgotten n)) tr

theorem sound_srv_notForgotten {cfg : Cfg} (n : Name) {tr : Trace} {j : Nat} (h : runMon cfg tr = some (j, (.srv (.notForgotten n)))) :
    ¬ P_srv_notForgotten cfg n tr := monitor_sound h

def P_srv_tableKeeps (cfg : Cfg) (n : Name) (tr : Trace) : Prop := P_of cfg (.srv (.tableKeeps n)) tr

theorem sound_srv_tableKeeps {cfg : Cfg} (n : Name) {tr : Trace} {j : Nat} (h : runMon cfg tr = some (j, (.srv (.tableKeeps n)))) :
    ¬ P_srv_tableKeeps cfg n tr := monitor_sound h

def P_close_stuck (cfg : Cfg) (n : Name) (tr : Trace) : Prop := P_of cfg (.close (.stuck n)) tr

theorem sound_close_stuck {cfg : Cfg} (n : Name) {tr : Trace} {j : Nat} (h : runMon cfg tr = some (j, (.close (.stuck n)))) :
    ¬ P_close_stuck cfg n tr := monitor_sound h

def P_close_timerLeft (cfg : Cfg) (n : Name) (tr : Trace) : Prop := P_of cfg (.close (.timerLeft n)) tr

theorem sound_close_timerLeft {cfg : Cfg} (n : Name) {tr : Trace} {j : Nat} (h : runMon cfg tr = some (j, (.close (.timerLeft n)))) :
    ¬ P_close_timerLeft cfg n tr := monitor_sound h

end Sessions
