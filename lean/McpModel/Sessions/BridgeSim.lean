import McpModel.Sessions.BridgeTable
import McpModel.Sessions.BridgeEntryRel
/-!
Bridge (E7/C11): list-level assembly — label chains on one entry of the table (`settle_lift`, `answered_eq`), what `Sim`
gives about one session or one reference (`Sim.entry`, `Sim.expire_id`, `ref_cases`), how the relation is re-established
after an operation that moves one entry (`tblpre_one`), the harness-side list of asynchronous requests as a list keyed
by tag (`split_at_tag`), and what the monitor's bookkeeping does to its tag tables under completions (`bookDone`).
-/
namespace Sessions

theorem map_lift_comp {i : Nat} {g₁ g₂ : Sess → Sess} (h₁ : KeepsId g₁) (t : List Sess) :
    (t.map (lift i g₁)).map (lift i g₂) = t.map (lift i (g₂ ∘ g₁)) := by
  rw [List.map_map]
  apply List.map_congr_left
  intro e _
  exact lift_lift h₁ e

theorem map_lift_id (i : Nat) (t : List Sess) : t.map (lift i id) = t :=
  map_fixed fun e _ => by simp [lift]

theorem settle_lift {s : State} (hi : Inv s) (hst : s.cfg.stateless = false) {i : Nat} {g : Sess → Sess} (hg : KeepsId g)
    (hset : ∀ e ∈ s.tbl, e.id ≠ i → settleE s.now s.closeFails e = e) :
    settle { s with tbl := s.tbl.map (lift i g) } =
      { s with tbl := s.tbl.map (lift i (settleE s.now s.closeFails ∘ g)) } := by
  rw [settle_eq (s := { s with tbl := s.tbl.map (lift i g) }) hst (nodupIds_map (keepsId_lift hg) (inv_nodupIds hi))]
  show ({ s with tbl := (s.tbl.map (lift i g)).map (settleE s.now s.closeFails) } : State) = _
  congr 1
  rw [List.map_map]
  apply List.map_congr_left
  intro e he
  simp only [Function.comp, lift]
  split
  · rfl
  · rename_i hne; exact hset e he hne

theorem runHandler_eq {s1 : State} (hst : s1.cfg.stateless = false) (hn : NodupIds s1.tbl) (i : Nat) (k : Kind) (dlv : Bool) :
    runHandler s1 i k dlv = { s1 with tbl := s1.tbl.map (lift i (hdK k dlv)) } := by
  have hid : ({ s1 with tbl := s1.tbl.map (lift i id) } : State) = s1 := by rw [map_lift_id]
  cases k <;> cases dlv <;> simp only [runHandler, Bool.false_eq_true, if_false, if_true] <;>
    first
    | exact doL_handlerDone hst hn i _
    | exact hid.symm

/-- A POST that is answered at once, on the table: after the labels `X` of its arrival on entry `i`, the handler (if the
message was delivered) and `endPOST`.  (`dlv = false`: nothing was delivered, no handler runs.) -/
theorem answered_eq {s : State} (hst : s.cfg.stateless = false) (hn : NodupIds s.tbl) {i : Nat} {X : Sess → Sess} (hX : KeepsId X)
    (k : Kind) (dlv : Bool) :
    doL (runHandler { s with tbl := s.tbl.map (lift i X) } i k dlv) (.postEnd (some i) false) =
      { s with tbl := s.tbl.map (lift i (tryF (endPost s.now s.cfg.timeout false) ∘ (hdK k dlv ∘ X))) } := by
  have hn1 : NodupIds (s.tbl.map (lift i X)) := nodupIds_map (keepsId_lift hX) hn
  rw [runHandler_eq (s1 := { s with tbl := s.tbl.map (lift i X) }) hst hn1,
    doL_postEnd (s := { s with tbl := (s.tbl.map (lift i X)).map (lift i (hdK k dlv)) }) hst
      (nodupIds_map (keepsId_lift (keepsId_hdK _ _)) hn1)]
  show ({ s with tbl := ((s.tbl.map _).map _).map _ } : State) = _
  rw [map_lift_comp hX, map_lift_comp (keepsId_comp hX (keepsId_hdK _ _))]

theorem runHandler_false (s : State) (i : Nat) (k : Kind) : runHandler s i k false = s := by cases k <;> rfl

theorem runHandler_inv {s1 : State} (hi : Inv s1) (i : Nat) (k : Kind) (dlv : Bool) : Inv (runHandler s1 i k dlv) := by
  cases k <;> cases dlv <;> simp only [runHandler, Bool.false_eq_true, if_false, if_true] <;>
    first | exact hi | exact doL_inv hi _

theorem settle_settled {s : State} (hi : Inv s) (hst : s.cfg.stateless = false)
    (hset : ∀ e ∈ s.tbl, settleE s.now s.closeFails e = e) : settle s = s := by
  rw [settle_eq hst (inv_nodupIds hi), map_fixed hset]

theorem Sim.settleE_id {cfg : Cfg} {d : RState} {m : Mon} (hs : Sim cfg d m) (now' : Nat) (cf : Bool)
    (hnow : now' = d.st.now) : ∀ e ∈ d.st.tbl, settleE now' cf e = e := by
  intro e he; subst hnow; exact settleE_of_eok cf (hs.eok e he)

theorem Sim.stateful_st {cfg : Cfg} {d : RState} {m : Mon} (hs : Sim cfg d m) : d.st.cfg.stateless = false := by
  rw [hs.cfg_eq]; exact hs.stateful

theorem Sim.settle {cfg : Cfg} {d : RState} {m : Mon} (hs : Sim cfg d m) : settle d.st = d.st :=
  settle_settled hs.inv hs.stateful_st (hs.settleE_id _ _ rfl)

theorem Sim.good {cfg : Cfg} {d : RState} {m : Mon} (hs : Sim cfg d m) {e : Sess} (he : e ∈ d.st.tbl) :
    Good cfg d.st.now e := by
  have := hs.inv.good e he; rw [hs.cfg_eq] at this; exact this

theorem Sim.entry {cfg : Cfg} {d : RState} {m : Mon} (hs : Sim cfg d m) {i : Nat} (hi : i < d.st.next) :
    ∃ e, findSess i d.st.tbl = some e ∧ EOk cfg d.st.now (nsOf d.pend i) (nrOf d.pend i) e ∧ Good cfg d.st.now e ∧
      match monFind m.tbl (sname i) with
      | some a => ERel cfg (nsOf d.pend i) (nrOf d.pend i) e a
      | none => e.removed = true := by
  obtain ⟨e, hfe⟩ := findSess_of_lt hs.inv hi
  have hmem := (findSess_some hfe).1
  have hk := hs.eok e hmem
  have hrel := hs.rel e hmem
  unfold RelAt at hrel
  rw [(findSess_some hfe).2] at hk hrel
  exact ⟨e, hfe, hk, hs.good hmem, hrel⟩

theorem PendOk.completions {d : RState} (h : PendOk d) : completions d.st d.pend = ([], d.pend) := by
  rw [completions_eq]
  have h1 : d.pend.filterMap (doneOf d.st) = [] := by
    apply List.filterMap_eq_nil_iff.mpr
    intro p hp
    have := h.shape p hp
    unfold doneOf
    cases hk : p.kind with
    | slow a b => rfl
    | run a b => rfl
    | upl a b c => rfl
    | del i f => rw [hk] at this; simp [this.2]
    | cls i => rw [hk] at this; simp [this.2]
  have h2 : d.pend.filter (keepOf d.st) = d.pend := by
    apply List.filter_eq_self.mpr
    intro p hp
    have := h.shape p hp
    unfold keepOf
    cases hk : p.kind with
    | slow a b => rfl
    | run a b => rfl
    | upl a b c => rfl
    | del i f => rw [hk] at this; simp [this.2]
    | cls i => rw [hk] at this; simp [this.2]
  rw [h1, h2]

theorem Sim.entry_of_mem {cfg : Cfg} {d : RState} {m : Mon} (hs : Sim cfg d m) {a : MSess} (ha : a ∈ m.tbl) :
    ∃ e ∈ d.st.tbl, a.name = sname e.id ∧ monFind m.tbl (sname e.id) = some a ∧
      ERel cfg (nsOf d.pend e.id) (nrOf d.pend e.id) e a := by
  obtain ⟨i, hi, hname⟩ := hs.minted a ha
  obtain ⟨e, hfe⟩ := findSess_of_lt hs.inv hi
  have hmem := (findSess_some hfe).1
  have hid := (findSess_some hfe).2
  have hfa : monFind m.tbl (sname e.id) = some a := by
    rw [hid, ← hname]; exact monFind_of_mem hs.mnodup ha
  have hrel := hs.rel e hmem
  unfold RelAt at hrel
  rw [hfa] at hrel
  exact ⟨e, hmem, by rw [hid]; exact hname, hfa, hrel⟩

theorem Sim.expire_id {cfg : Cfg} {d : RState} {m : Mon} (hs : Sim cfg d m) :
    m.tbl.map (expire cfg m.now) = m.tbl := by
  apply map_fixed
  intro a ha
  obtain ⟨e, he, _, _, hrel⟩ := hs.entry_of_mem ha
  rw [hs.now]
  exact expire_notDue hrel (hs.eok e he).notDue

theorem ref_cases {cfg : Cfg} {d : RState} {m : Mon} (hs : Sim cfg d m) (ref : Ref) :
    (ref = .absent ∧ ref.sid d.st.next = none ∧ ref.name = none) ∨
    (∃ i, i < d.st.next ∧ ref.sid d.st.next = some i ∧ ref.name = some (sname i)) ∨
    (∃ j n, ref.sid d.st.next = some j ∧ d.st.next ≤ j ∧ ref.name = some n ∧ monFind m.tbl n = none) := by
  cases ref with
  | absent => left; exact ⟨rfl, rfl, rfl⟩
  | s k =>
    by_cases hk : 1 ≤ k ∧ k - 1 < d.st.next
    · right; left
      refine ⟨k - 1, hk.2, by simp [Ref.sid, hk], ?_⟩
      simp only [Ref.name, sname]
      congr 2; omega
    · right; right
      refine ⟨d.st.next + k, .s k, by simp [Ref.sid, hk], by omega, rfl, ?_⟩
      cases hf : monFind m.tbl (.s k) with
      | none => rfl
      | some a =>
        exfalso
        have hn := monFind_name hf
        obtain ⟨i, hi, hname⟩ := hs.minted a hn.2
        rw [hn.1] at hname
        simp only [sname, Name.s.injEq] at hname
        apply hk; omega
  | x n =>
    right; right
    refine ⟨d.st.next + n, .x n, rfl, by omega, rfl, ?_⟩
    cases hf : monFind m.tbl (.x n) with
    | none => rfl
    | some a =>
      exfalso
      have hn := monFind_name hf
      obtain ⟨i, hi, hname⟩ := hs.minted a hn.2
      rw [hn.1] at hname
      simp [sname] at hname

/-- One entry moves by `G`; the requests of the other sessions (`hcnt`) and the monitor's view of them (`hmon`) stay; the moved entry
is quiescent and related (`htarget`): then every entry is. -/
theorem tblpre_one {cfg : Cfg} {d : RState} {m : Mon} (hs : Sim cfg d m) {st' : State} {i : Nat} {G : Sess → Sess}
    {pend' : List Pend} {tbl2 : List MSess}
    (htbl : st'.tbl = d.st.tbl.map (lift i G)) (hG : KeepsId G) (hcfg : st'.cfg = cfg) (hnext : st'.next = d.st.next)
    (hnow : st'.now = d.st.now) (hinv : Inv st')
    (hcnt : ∀ j, j ≠ i → nsOf pend' j = nsOf d.pend j ∧ nrOf pend' j = nrOf d.pend j)
    (hmon : ∀ j, j ≠ i → monFind tbl2 (sname j) = monFind m.tbl (sname j))
    (htarget : ∀ e ∈ d.st.tbl, e.id = i →
      EOk cfg d.st.now (nsOf pend' i) (nrOf pend' i) (G e) ∧ RelPreAt cfg pend' tbl2 (G e))
    (hnodup : (tbl2.map (·.name)).Nodup) (hminted : ∀ a ∈ tbl2, ∃ j, j < d.st.next ∧ a.name = sname j) :
    TblPre cfg st' pend' tbl2 ∧
    ∀ e' ∈ st'.tbl, EOk cfg st'.now (nsOf pend' e'.id) (nrOf pend' e'.id) e' := by
  have hmem : ∀ e' ∈ st'.tbl, ∃ e ∈ d.st.tbl, e' = lift i G e := by
    intro e' he'; rw [htbl] at he'
    obtain ⟨e, he, rfl⟩ := List.mem_map.mp he'
    exact ⟨e, he, rfl⟩
  have hboth : ∀ e' ∈ st'.tbl, EOk cfg st'.now (nsOf pend' e'.id) (nrOf pend' e'.id) e' ∧ RelPreAt cfg pend' tbl2 e' := by
    intro e' he'
    obtain ⟨e, he, rfl⟩ := hmem e' he'
    rw [hnow]
    unfold lift
    by_cases hid : e.id = i
    · rw [if_pos hid, hG e, hid]
      exact htarget e he hid
    · rw [if_neg hid]
      have hc := hcnt e.id hid
      refine ⟨by rw [hc.1, hc.2]; exact hs.eok e he, ?_⟩
      have hrel := (hs.rel e he).pre
      unfold RelPreAt at hrel ⊢
      rw [hmon e.id hid, hc.1, hc.2]
      exact hrel
  refine ⟨⟨hinv, by rw [hcfg]; exact hs.stateful, ?_, hnodup, ?_, fun e' he' => (hboth e' he').2⟩,
    fun e' he' => (hboth e' he').1⟩
  · intro e' he'; exact (hboth e' he').1.inMap
  · intro a ha; rw [hnext]; exact hminted a ha

theorem bookDone1_pend (now : Nat) (acc : List MSess × List (Tag × Name)) (c : Tag × Nat) :
    (bookDone1 now acc c).2 = acc.2.filter (·.1 != c.1) := by
  unfold bookDone1
  cases hf : acc.2.find? (·.1 == c.1) with
  | none =>
    simp only []
    symm
    apply List.filter_eq_self.mpr
    intro x hx
    have := List.find?_eq_none.mp hf x hx
    simpa using this
  | some x =>
    obtain ⟨t, nm⟩ := x
    cases c.1 <;> rfl

theorem bookDone_pend (now : Nat) (tbl : List MSess) (pend : List (Tag × Name)) (done : List (Tag × Nat)) :
    (bookDone now tbl pend done).2 = pend.filter (fun x => !(done.map (·.1)).contains x.1) := by
  unfold bookDone
  induction done generalizing tbl pend with
  | nil =>
    simp only [List.foldl_nil, List.map_nil, List.contains_nil, Bool.not_false]
    exact (List.filter_eq_self.mpr (fun _ _ => rfl)).symm
  | cons c rest ih =>
    simp only [List.foldl_cons]
    have := ih (bookDone1 now (tbl, pend) c).1 (bookDone1 now (tbl, pend) c).2
    rw [show (bookDone1 now (tbl, pend) c) = ((bookDone1 now (tbl, pend) c).1, (bookDone1 now (tbl, pend) c).2) from rfl]
    rw [this, bookDone1_pend, List.filter_filter]
    apply List.filter_congr
    intro x _
    simp only [List.map_cons, List.contains_cons, Bool.not_or, bne, Bool.and_comm]

theorem keepsName_mDead : KeepsName mDead := fun _ => rfl
theorem keepsName_mDying : KeepsName mDying := fun _ => rfl
theorem keepsName_dyingF : KeepsName dyingF := by intro a; unfold dyingF; split <;> rfl
theorem keepsName_mPend : KeepsName mPend := fun _ => rfl
theorem keepsName_mRunInc : KeepsName mRunInc := fun _ => rfl
theorem keepsName_mRunDec : KeepsName mRunDec := fun _ => rfl
theorem keepsName_mTouch (now : Nat) : KeepsName (mTouch now) := by intro a; unfold mTouch; split <;> rfl
theorem keepsName_touchF (now : Nat) : KeepsName (touchF now) := by
  intro a; unfold touchF; split
  · exact keepsName_mTouch now a
  · rfl
theorem keepsName_mPostDone (now : Nat) : KeepsName (mPostDone now) := by intro a; unfold mPostDone; split <;> rfl

theorem split_at_tag {P : List Pend} (hn : (P.map (·.tag)).Nodup) {p : Pend} (hp : p ∈ P) :
    ∃ l₁ l₂, P = l₁ ++ p :: l₂ ∧ (∀ x ∈ l₁, x.tag ≠ p.tag) ∧ (∀ x ∈ l₂, x.tag ≠ p.tag) := by
  obtain ⟨l₁, l₂, rfl⟩ := List.append_of_mem hp
  rw [List.map_append, List.map_cons, List.nodup_append] at hn
  exact ⟨l₁, l₂, rfl, fun x hx => hn.2.2 _ (List.mem_map.mpr ⟨x, hx, rfl⟩) _ List.mem_cons_self,
    fun x hx h => (List.nodup_cons.mp hn.2.1).1 (List.mem_map.mpr ⟨x, hx, h⟩)⟩

theorem filter_tag_split {l₁ l₂ : List Pend} {p : Pend} (h1 : ∀ x ∈ l₁, x.tag ≠ p.tag) (h2 : ∀ x ∈ l₂, x.tag ≠ p.tag) :
    (l₁ ++ p :: l₂).filter (fun x => x.tag != p.tag) = l₁ ++ l₂ := by
  rw [List.filter_append, List.filter_cons, bne_self_eq_false, if_neg Bool.false_ne_true,
    List.filter_eq_self.mpr fun x hx => by simp [h1 x hx], List.filter_eq_self.mpr fun x hx => by simp [h2 x hx]]

theorem pend_unique {P : List Pend} (hn : (P.map (·.tag)).Nodup) {p q : Pend} (hp : p ∈ P) (hq : q ∈ P)
    (ht : p.tag = q.tag) : p = q :=
  List.eq_of_nodup_map (·.tag) hn hp hq ht

theorem pendOf_tag {p : Pend} {x : Tag × Name} (h : pendOf p = some x) : x.1 = p.tag := by
  unfold pendOf at h
  split at h <;> first | (cases h; rfl) | cases h

theorem filterMap_pendOf_filter (P : List Pend) (q : Tag → Bool) :
    (P.filterMap pendOf).filter (fun x => q x.1) = (P.filter (fun p => q p.tag)).filterMap pendOf := by
  induction P with
  | nil => rfl
  | cons p P ih =>
    simp only [List.filterMap_cons, List.filter_cons]
    cases hp : pendOf p with
    | none =>
      simp only []
      split
      · simp [hp, ih]
      · exact ih
    | some x =>
      have := pendOf_tag hp
      simp only [List.filter_cons, this]
      split
      · simp [hp, ih]
      · exact ih

theorem doneOf_tag {s : State} {p : Pend} {c : Tag × Nat} (h : doneOf s p = some c) : c.1 = p.tag ∧ keepOf s p = false := by
  unfold doneOf at h
  unfold keepOf
  split at h
  · split at h
    · cases h
    · rename_i hl; cases h; exact ⟨rfl, by simpa using hl⟩
  · split at h
    · cases h
    · rename_i hl; cases h; exact ⟨rfl, by simpa using hl⟩
  · cases h

theorem doneOf_of_not_keep {s : State} {p : Pend} (h : keepOf s p = false) : ∃ c, doneOf s p = some c ∧ c.1 = p.tag := by
  unfold keepOf at h
  unfold doneOf
  split at h
  · simp [h]
  · simp [h]
  · cases h

theorem filter_keepOf_eq {s : State} {P : List Pend} (hn : (P.map (·.tag)).Nodup) :
    P.filter (fun p => !((P.filterMap (doneOf s)).map (·.1)).contains p.tag) = P.filter (keepOf s) := by
  apply List.filter_congr
  intro p hp
  cases hk : keepOf s p with
  | false =>
    obtain ⟨c, hc, hct⟩ := doneOf_of_not_keep hk
    have : p.tag ∈ (P.filterMap (doneOf s)).map (·.1) :=
      List.mem_map.mpr ⟨c, List.mem_filterMap.mpr ⟨p, hp, hc⟩, hct⟩
    rw [List.contains_iff_mem.mpr this]; rfl
  | true =>
    have : ¬ p.tag ∈ (P.filterMap (doneOf s)).map (·.1) := by
      intro hm
      obtain ⟨c, hc, hct⟩ := List.mem_map.mp hm
      obtain ⟨q, hq, hqc⟩ := List.mem_filterMap.mp hc
      have hqt := doneOf_tag hqc
      have hpq : q = p := pend_unique hn hq hp (by rw [← hqt.1, hct])
      rw [hpq] at hqt
      rw [hk] at hqt; cases hqt.2
    rw [Bool.eq_false_iff.mpr (mt List.contains_iff_mem.mp this)]; rfl

theorem pend_after_completions {s : State} {P : List Pend} (hn : (P.map (·.tag)).Nodup) (now : Nat) (tbl : List MSess) :
    (bookDone now tbl (P.filterMap pendOf) (P.filterMap (doneOf s))).2 = (P.filter (keepOf s)).filterMap pendOf := by
  rw [bookDone_pend, filterMap_pendOf_filter P (fun t => !((P.filterMap (doneOf s)).map (·.1)).contains t),
    filter_keepOf_eq hn]

theorem isSlowOf_keep {s : State} {i : Nat} {p : Pend} (h : isSlowOf i p = true) : keepOf s p = true := by
  unfold isSlowOf at h; unfold keepOf
  cases hk : p.kind <;> simp_all

theorem isRunOf_keep {s : State} {i : Nat} {p : Pend} (h : isRunOf i p = true) : keepOf s p = true := by
  unfold isRunOf at h; unfold keepOf
  cases hk : p.kind <;> simp_all

theorem nsOf_filter_keep (s : State) (P : List Pend) (i : Nat) : nsOf (P.filter (keepOf s)) i = nsOf P i := by
  unfold nsOf
  rw [List.filter_filter]
  congr 1
  apply List.filter_congr
  intro p _
  cases h : isSlowOf i p with
  | false => simp
  | true => simp [isSlowOf_keep h]

theorem nrOf_filter_keep (s : State) (P : List Pend) (i : Nat) : nrOf (P.filter (keepOf s)) i = nrOf P i := by
  unfold nrOf
  rw [List.filter_filter]
  congr 1
  apply List.filter_congr
  intro p _
  cases h : isRunOf i p with
  | false => simp
  | true => simp [isRunOf_keep h]

theorem runOf_filter_keep (s : State) (P : List Pend) : (P.filter (keepOf s)).filterMap runOf = P.filterMap runOf := by
  induction P with
  | nil => rfl
  | cons p P ih =>
    simp only [List.filter_cons]
    cases hk : keepOf s p with
    | true => simp only [if_true, List.filterMap_cons, ih]
    | false =>
      have : runOf p = none := by
        unfold keepOf at hk; unfold runOf
        cases hkk : p.kind <;> simp_all
      simp [this, ih]

end Sessions
