import McpModel.Sessions.Monitor
/-!
E7 — what the folds of the monitor mean: `firstSome` is `List.findSome?`, `firstViol` keeps the first report,
`chkKeys` compares a list with its `eraseDups`, `judgeEntry` case by case, `scanMap` reports what `judgeEntry` reports of some entry; `monFind` / `monUpd` as list operations.  Used by the bridge (silence on the model) and by Sound.lean / Complete.lean.
-/
namespace Sessions

theorem firstSome_eq {α β} (f : α → Option β) (l : List α) : firstSome f l = l.findSome? f := by
  induction l with
  | nil => rfl
  | cons a t ih => simp only [firstSome, List.findSome?_cons, ih]; cases f a <;> rfl

theorem firstSome_some {α β} {f : α → Option β} {l : List α} {b : β} (h : firstSome f l = some b) :
    ∃ a ∈ l, f a = some b := by
  rw [firstSome_eq] at h
  exact List.exists_of_findSome?_eq_some h

theorem firstSome_eq_none_iff {α β} {f : α → Option β} {l : List α} : firstSome f l = none ↔ ∀ x ∈ l, f x = none := by
  rw [firstSome_eq]
  exact List.findSome?_eq_none_iff

theorem firstSome_none {α β} {f : α → Option β} {l : List α} (h : ∀ x ∈ l, f x = none) : firstSome f l = none :=
  firstSome_eq_none_iff.mpr h

theorem firstViol_some {α} {a b : Option α} {c : α} (h : firstViol a b = some c) : a = some c ∨ (a = none ∧ b = some c) := by
  cases a with
  | some x => left; exact h
  | none => right; exact ⟨rfl, h⟩

theorem firstViol_eq_none {α} {a b : Option α} (h : firstViol a b = none) : a = none ∧ b = none := by
  cases a with
  | some x => cases h
  | none => exact ⟨rfl, h⟩

theorem eraseDups_of_nodup {α} [BEq α] [LawfulBEq α] : ∀ {l : List α}, l.Nodup → l.eraseDups = l := by
  intro l
  induction l with
  | nil => intro _; simp
  | cons a t ih =>
    intro h
    have h' := List.nodup_cons.mp h
    rw [List.eraseDups_cons]
    have : t.filter (fun b => !b == a) = t := by
      apply List.filter_eq_self.mpr
      intro b hb
      have : b ≠ a := fun hh => h'.1 (hh ▸ hb)
      simp [this]
    rw [this, ih h'.2]

/-- `eraseDups` only shortens a list, and keeps its length only if nothing was dropped.  (It recurses on a filtered
tail, hence the induction on a bound of the length.) -/
theorem eraseDups_length {α} [BEq α] [LawfulBEq α] : ∀ (n : Nat) (l : List α), l.length ≤ n →
    l.eraseDups.length ≤ l.length ∧ (l.eraseDups.length = l.length → l.Nodup) := by
  intro n
  induction n with
  | zero => intro l hl; have : l = [] := List.length_eq_zero_iff.mp (by omega); subst this; simp
  | succ n ih =>
    intro l hl
    cases l with
    | nil => simp
    | cons a t =>
      rw [List.eraseDups_cons]
      simp only [List.length_cons] at hl ⊢
      have h1 : (t.filter (fun b => !b == a)).length ≤ t.length := List.length_filter_le _ _
      obtain ⟨h2, h3⟩ := ih (t.filter (fun b => !b == a)) (by omega)
      refine ⟨by omega, fun h => ?_⟩
      have hfe : t.filter (fun b => !b == a) = t :=
        List.filter_eq_self.mpr (List.length_filter_eq_length_iff.mp (by omega))
      rw [hfe] at h h3
      refine List.nodup_cons.mpr ⟨fun hm => ?_, h3 (by omega)⟩
      have := List.filter_eq_self.mp hfe a hm
      simp at this

section
variable {cfg : Cfg} {now : Nat} {req : Option Req} {st : St} {hdr : Option Name} {tbl : List MSess} {ent : MapEnt}
  {e : MSess} {r : Req}

theorem judgeEntry_known (hf : monFind tbl ent.name = some e) :
    (judgeEntry cfg now req st hdr tbl ent).2 =
      if e.owner != ent.owner then some .ownerChanged
      else if e.life == .dead then some (.deadInTable ent.name)
      else if e.life == .live && ent.closing then
        some (if e.posts > 0 then .closingDuringPost ent.name else .closingNoCause ent.name)
      else none := by
  simp only [judgeEntry, hf, apply_ite Prod.snd]

theorem judgeEntry_racy (hf : monFind tbl ent.name = none) (hr : reqRacy req = true) :
    (judgeEntry cfg now req st hdr tbl ent).2 = some .f20 := by
  simp only [judgeEntry, hf, hr, if_true]

theorem judgeEntry_creating (hf : monFind tbl ent.name = none) (hq : req = some r) (hr : r.racy = false)
    (hv : r.verb = .post) (ha : r.ref = .absent) (hs : cfg.stateless = false) :
    (judgeEntry cfg now req st hdr tbl ent).2 =
      if r.kind != some .init then some .keptAfterFailedInit
      else if !st.accepted2xx then some (.keptAfterRefusal st)
      else if ent.owner != r.user.owner then some .boundToOther
      else if hdr != some ent.name then some .notTheNamed
      else none := by
  simp [judgeEntry, hf, hq, reqRacy, hr, hv, ha, hs]

theorem judgeEntry_appeared (hf : monFind tbl ent.name = none) (hr : reqRacy req = false)
    (hc : ∀ r, req = some r → ¬ (r.verb = .post ∧ r.ref = .absent ∧ cfg.stateless = false)) :
    (judgeEntry cfg now req st hdr tbl ent).2 = if cfg.stateless then some .statelessKeeps else some .appeared := by
  cases req with
  | none => simp only [judgeEntry, hf, hr, Bool.false_eq_true, if_false]
  | some r =>
    have hc : (r.verb == .post && r.ref == .absent && !cfg.stateless) = false := by
      have := hc r rfl; revert this; cases r.verb <;> cases r.ref <;> cases cfg.stateless <;> simp
    simp only [judgeEntry, hf, hr, hc, Bool.false_eq_true, if_false]
end

theorem scanMap_some {cfg : Cfg} {now : Nat} {req : Option Req} {st : St} {hdr : Option Name} {c : TblClause} :
    ∀ {l : List MapEnt} {tbl : List MSess}, (scanMap cfg now req st hdr tbl l).2 = some c →
      ∃ pre ent post, l = pre ++ ent :: post ∧
        (judgeEntry cfg now req st hdr (scanMap cfg now req st hdr tbl pre).1 ent).2 = some c := by
  intro l
  induction l with
  | nil => intro tbl h; simp [scanMap] at h
  | cons ent rest ih =>
    intro tbl h
    simp only [scanMap] at h
    rcases firstViol_some h with h1 | ⟨_, h1⟩
    · exact ⟨[], ent, rest, rfl, by simpa [scanMap] using h1⟩
    · obtain ⟨pre, e, post, hl, hj⟩ := ih h1
      refine ⟨ent :: pre, e, post, by rw [hl]; rfl, ?_⟩
      simpa [scanMap] using hj

theorem scanMap_none {cfg : Cfg} {now : Nat} {req : Option Req} {st : St} {hdr : Option Name} :
    ∀ {l : List MapEnt} {tbl : List MSess}, (scanMap cfg now req st hdr tbl l).2 = none →
      ∀ pre ent post, l = pre ++ ent :: post →
        (judgeEntry cfg now req st hdr (scanMap cfg now req st hdr tbl pre).1 ent).2 = none := by
  intro l
  induction l with
  | nil => intro tbl _ pre ent post hl; cases pre <;> cases hl
  | cons x rest ih =>
    intro tbl h pre ent post hl
    simp only [scanMap] at h
    have hx : (judgeEntry cfg now req st hdr tbl x).2 = none := by
      cases hj : (judgeEntry cfg now req st hdr tbl x).2 with
      | none => rfl
      | some y => rw [hj] at h; cases h
    rw [hx] at h
    cases pre with
    | nil =>
      simp only [List.nil_append, List.cons.injEq] at hl
      rw [← hl.1]; simpa [scanMap] using hx
    | cons p pre' =>
      simp only [List.cons_append, List.cons.injEq] at hl
      rw [← hl.1]
      have := ih (tbl := (judgeEntry cfg now req st hdr tbl x).1) h pre' ent post hl.2
      simpa [scanMap] using this

/-! ## `monFind` / `monUpd` on a table with pairwise distinct names, under updates that keep the name -/

def KeepsName (g : MSess → MSess) : Prop := ∀ a, (g a).name = a.name

theorem monFind_map {g : MSess → MSess} (h : KeepsName g) (t : List MSess) (n : Name) :
    monFind (t.map g) n = (monFind t n).map g := by
  unfold monFind
  induction t with
  | nil => rfl
  | cons x t ih =>
    simp only [List.map_cons, List.find?_cons, h x]
    split
    · rfl
    · exact ih

theorem monUpd_eq_map (t : List MSess) (n : Name) (f : MSess → MSess) :
    monUpd t n f = t.map (fun e => if e.name == n then f e else e) := rfl

theorem monFind_monUpd {f : MSess → MSess} (h : KeepsName f) (t : List MSess) (n n' : Name) :
    monFind (monUpd t n f) n' = (monFind t n').map (fun a => if n' = n then f a else a) := by
  rw [monUpd_eq_map, monFind_map]
  · cases hf : monFind t n' with
    | none => rfl
    | some a =>
      have : a.name = n' := by
        unfold monFind at hf
        have := List.find?_some hf
        simpa using this
      simp [this]
  · intro a
    show (if (a.name == n) = true then f a else a).name = a.name
    split
    · exact h a
    · rfl

theorem monFind_append (t u : List MSess) (n : Name) :
    monFind (t ++ u) n = match monFind t n with | some a => some a | none => monFind u n := by
  unfold monFind
  rw [List.find?_append]
  cases List.find? (fun x => x.name == n) t <;> rfl

theorem monFind_name {t : List MSess} {n : Name} {a : MSess} (h : monFind t n = some a) : a.name = n ∧ a ∈ t := by
  unfold monFind at h
  exact ⟨by simpa using List.find?_some h, List.mem_of_find?_eq_some h⟩

theorem monFind_of_mem {t : List MSess} (hn : (t.map (·.name)).Nodup) {a : MSess} (h : a ∈ t) :
    monFind t a.name = some a := by
  unfold monFind
  induction t with
  | nil => cases h
  | cons x t ih =>
    simp only [List.map_cons, List.nodup_cons] at hn
    simp only [List.find?_cons]
    cases h with
    | head => simp
    | tail _ hm =>
      have hne : (x.name == a.name) = false := by
        have : x.name ≠ a.name := fun he => hn.1 (List.mem_map.mpr ⟨a, hm, he.symm⟩)
        simp [this]
      simp [hne, ih hn.2 hm]

theorem monFind_none {t : List MSess} {n : Name} (h : monFind t n = none) : ∀ a ∈ t, a.name ≠ n := by
  unfold monFind at h
  intro a ha
  have := List.find?_eq_none.mp h a ha
  simpa using this

theorem monFind_isSome (t : List MSess) (n : Name) : (monFind t n).isSome = (t.map (·.name)).contains n := by
  induction t with
  | nil => rfl
  | cons x t ih =>
    simp only [monFind, List.find?_cons, List.map_cons, List.contains_cons] at ih ⊢
    cases h : x.name == n
    · simpa [BEq.comm (a := n), h] using ih
    · simp [BEq.comm (a := n), h]

theorem map_fixed {α} {f : α → α} {l : List α} (h : ∀ x ∈ l, f x = x) : l.map f = l :=
  (List.map_congr_left h).trans (List.map_id l)

theorem map_names_keeps {g : MSess → MSess} (h : KeepsName g) (t : List MSess) :
    (t.map g).map (·.name) = t.map (·.name) := by
  induction t with
  | nil => rfl
  | cons x t ih => simp [h x, ih]

theorem monUpd_names {f : MSess → MSess} (h : KeepsName f) (t : List MSess) (n : Name) :
    (monUpd t n f).map (·.name) = t.map (·.name) := by
  rw [monUpd_eq_map]
  apply map_names_keeps
  intro a
  show (if (a.name == n) = true then f a else a).name = a.name
  split
  · exact h a
  · rfl

theorem monUpd_mem {f : MSess → MSess} (h : KeepsName f) {t : List MSess} {n : Name} {a : MSess}
    (ha : a ∈ monUpd t n f) : ∃ b ∈ t, a.name = b.name := by
  rw [monUpd_eq_map] at ha
  obtain ⟨b, hb, rfl⟩ := List.mem_map.mp ha
  refine ⟨b, hb, ?_⟩
  show (if (b.name == n) = true then f b else b).name = b.name
  split
  · exact h b
  · rfl

theorem monFind_monUpd_ne {f : MSess → MSess} (h : KeepsName f) (t : List MSess) {n n' : Name} (hne : n' ≠ n) :
    monFind (monUpd t n f) n' = monFind t n' := by
  rw [monFind_monUpd h]
  cases monFind t n' <;> simp [hne]

theorem monFind_monUpd_self {f : MSess → MSess} (h : KeepsName f) (t : List MSess) (n : Name) :
    monFind (monUpd t n f) n = (monFind t n).map f := by
  rw [monFind_monUpd h]
  cases monFind t n <;> simp

theorem monUpd_congr_at {t : List MSess} (hn : (t.map (·.name)).Nodup) {n : Name} {a : MSess} (ha : monFind t n = some a)
    {f g : MSess → MSess} (h : f a = g a) : monUpd t n f = monUpd t n g := by
  simp only [monUpd_eq_map]
  apply List.map_congr_left
  intro x hx
  by_cases hxn : x.name = n
  · have : x = a := by
      have := monFind_of_mem hn hx
      rw [hxn, ha] at this; cases this; rfl
    subst this; simp [hxn, h]
  · simp [hxn]

theorem monUpd_id_at {t : List MSess} (hn : (t.map (·.name)).Nodup) {n : Name} {a : MSess} (ha : monFind t n = some a)
    {f : MSess → MSess} (h : f a = a) : monUpd t n f = t := by
  have := monUpd_congr_at hn ha (f := f) (g := id) h
  rw [this, monUpd_eq_map]
  exact map_fixed fun x _ => by simp

theorem monUpd_monUpd (t : List MSess) (n : Name) {f g : MSess → MSess} (hf : KeepsName f) :
    monUpd (monUpd t n f) n g = monUpd t n (g ∘ f) := by
  simp only [monUpd_eq_map, List.map_map]
  apply List.map_congr_left
  intro a _
  simp only [Function.comp]
  by_cases h : a.name = n
  · simp [h, hf a]
  · simp [h]

end Sessions
