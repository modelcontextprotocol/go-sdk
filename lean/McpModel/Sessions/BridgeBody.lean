import McpModel.Sessions.BridgeOne
import McpModel.Sessions.BridgeOpLemmas
/-!
Bridge (E7/C11 ∩ C05): POSTs whose body arrives in pieces — `postb` (the request headers arrive: `lookupSession`,
`startPOST`, the transport blocks reading the body) and `body` (a piece / the last piece arrives: the message is
handed over unless `Close` has begun, answered, the POST ends).  Between the two the POST is in progress without a
handler: closes complete, the idle timer stays stopped.
-/
namespace Sessions

theorem step_postHead_ok {s : State} (hst : s.cfg.stateless = false) (hn : NodupIds s.tbl) {i : Nat} {u : User} {e : Sess}
    (hl : lookup s.tbl i u = .ok e) :
    step s (.postHead (some i) u) = some ({ s with tbl := s.tbl.map (lift i headF) }, .forward none (!e.closing)) :=
  step_does.mpr (.rewrite hst (.postHead hl) (modify_eq_map hn (lookup_ok hl).1 rfl))

theorem step_postHead_err {s : State} (hst : s.cfg.stateless = false) {i : Nat} {u : User} {c : Nat}
    (hl : lookup s.tbl i u = .error c) : step s (.postHead (some i) u) = some (s, .reject c) :=
  step_does.mpr (.refuseHead hst hl)

theorem step_postBody_ok {s : State} (hst : s.cfg.stateless = false) (hn : NodupIds s.tbl) {i : Nat} {e e' : Sess}
    (hfe : findSess i s.tbl = some e) (hb : bodyF (s.accepts .call) .call e = some e') :
    step s (.postBody i .call) =
      some ({ s with tbl := s.tbl.map (lift i (tryF (bodyF (s.accepts .call) .call))) }, postResp s .call none e.closing) :=
  step_does.mpr (.rewrite hst (.postBody rfl hfe) (modify_eq_map hn hfe hb))

theorem step_postBody_none {s : State} (hst : s.cfg.stateless = false) {i : Nat} {e : Sess}
    (hfe : findSess i s.tbl = some e) (hb : bodyF (s.accepts .call) .call e = none) :
    step s (.postBody i .call) = none := by
  have : modify i (bodyF (s.accepts .call) .call) s.tbl = none := by
    cases hm : modify i (bodyF (s.accepts .call) .call) s.tbl with
    | none => rfl
    | some t =>
      obtain ⟨_, e1, _, e1', _, _, _, _, p5, p6⟩ := modify_some hm
      rw [hfe] at p6; cases p6
      rw [hb] at p5; cases p5
  simp only [step, hst, stepStateful, hfe, Bool.false_eq_true, if_false, this, Kind.isInitialize]

theorem nsOf_append_upl (P : List Pend) (t : Tag) (i n : Nat) (u : UserTok) (j : Nat) :
    nsOf (P ++ [Pend.mk t (.upl i n u)]) j = nsOf P j ∧ nrOf (P ++ [Pend.mk t (.upl i n u)]) j = nrOf P j :=
  ⟨nsOf_append_other _ _ _ rfl, nrOf_append_other _ _ _ rfl⟩

theorem pendOkW_append_upl {P : List Pend} {ns na : Nat} {rel : List Nat} {next : Nat} (h : PendOkW P ns na rel next)
    {i : Nat} (hi : i < next) (u : UserTok) :
    PendOkW (P ++ [⟨.u (na + 1), .upl i (na + 1) u⟩]) ns (na + 1) rel next := by
  refine pendOkW_append h (Nat.le_refl _) (Nat.le_succ _) _ ?_ (fun q _ k _ hp => by cases hp) rfl hi ⟨rfl, Nat.le_refl _⟩
  intro q hq hqt
  rcases h.tag_cases hq with ⟨s, ht | ht, _⟩ | ⟨n, ht | ht | ht, hle, _⟩ <;> rw [ht] at hqt <;> cases hqt
  omega

theorem postb_accepts {cfg : Cfg} {d : RState} {m : Mon} (hs : Sim cfg d m) (ref : Ref) (href : ref ≠ .absent) (u : UserTok) :
    Accepts cfg d m (.postb ref u) := by
  have hst := hs.stateful_st
  have hnid := inv_nodupIds hs.inv
  have hreq : (Op.postb ref u).req = some { verb := .post, ref := ref, user := u, kind := some .ping } := rfl
  have hcnt : ∀ st, countersAfter m (.postb ref u) st = (d.nslow, d.nasync + 1) := by
    intro st; simp [countersAfter, hs.nslow, hs.nasync]
  have hpw := hs.pok.weak
  have refused : ∀ (c : Nat), (c = 403 ∨ c = 404) →
      modelOp d (.postb ref u) = some { st := d.st, status := .code c, pend := d.pend, nslow := d.nslow, nasync := d.nasync + 1, released := d.released } →
      chkAnswer cfg (effFaults cfg m) m.tbl { verb := .post, ref := ref, user := u, kind := some .ping } (.code c) = none →
      Accepts cfg d m (.postb ref u) := by
    intro c hc hmo hans
    exact quiet_accepts hs hmo (hcnt _) (by rw [hreq]; exact hans)
      (bookAnswer_rejected _ _ _ _ _ _ _ (Or.inr hc)) rfl rfl rfl
      (by simp [chkNoId, hreq])
      (Nat.le_refl _) (Nat.le_succ _)
  rcases ref_lookup hs ref u with hr | ⟨i, n, hsid, hname, hlk⟩
  · exact absurd hr href
  · cases hl : lookup d.st.tbl i u.user with
    | error c =>
      rw [hl] at hlk
      exact refused c hlk.1 (by dsimp only [modelOp]; simp only [hsid, hst, Bool.false_eq_true, if_false, step_postHead_err hst hl])
        (hlk.2 _ _ rfl rfl (by simp))
    | ok e =>
      rw [hl] at hlk
      obtain ⟨hi, rfl⟩ := hlk
      have hlm := lookup_mon hs hi u
      rw [hl] at hlm
      obtain ⟨hfe, hr, a, ha, hnd, hent, hrel⟩ := hlm
      have hk := hs.eok e (findSess_some hfe).1
      rw [(findSess_some hfe).2] at hk
      have hstep := step_postHead_ok hst hnid hl
      have hmo : modelOp d (.postb ref u) = some { st := { d.st with tbl := d.st.tbl.map (lift i headF) }, status := .pending, pend := d.pend ++ [⟨.u (d.nasync + 1), .upl i (d.nasync + 1) u⟩], nslow := d.nslow, nasync := d.nasync + 1, released := d.released } := by
        dsimp only [modelOp]; simp only [hsid, hst, Bool.false_eq_true, if_false, hstep, Option.getD_some]
      have hba : bookAnswer cfg (effFaults cfg m) m.now (tagOf m (.postb ref u)) m.tbl m.pend (.postb ref u) .pending =
          (monUpd m.tbl (sname i) mPend, (d.pend ++ [Pend.mk (.u (d.nasync + 1)) (.upl i (d.nasync + 1) u)]).filterMap pendOf) := by
        simp [bookAnswer, hs.stateful, hname, ha, hent, tagOf, hs.nasync, hs.pend, pendOf]
        rfl
      have hcP := nsOf_append_upl d.pend (.u (d.nasync + 1)) i (d.nasync + 1) u
      refine upd_accepts hs hmo (Or.inl rfl) (step_inv hs.inv hstep) (fun x => (headF_fields x).2.1) keepsName_mPend hfe rfl
        (pendOkW_append_upl hpw hi u) (fun j _ => hcP j) ?_ ?_ ?_ ?_ ?_ (chkLogOp_nil _ _ _ _) (by simp [chkNoId, hreq]) rfl
        (fun h hh => by cases hh) rfl rfl (hcnt _)
      · rw [hba]; show bookDone _ _ _ [] = _; simp [bookSlots, bookDone]
      · rw [hba]
        simp only [bookSlots]
        rw [hs.run, List.filterMap_append]
        simp [runOf]
      · rw [(hcP i).1, (hcP i).2]; exact (eok_head hk).toEOkQ
      · rw [ha, (hcP i).1, (hcP i).2]
        exact relpre_settle _ (rel_head hrel hr) (eok_head hk).notDue
      · rw [hreq]
        exact chkAnswer_admitted hs _ _ (by simp) hi hname hl _ (by simp) (by simp) (by simp [St.accepted2xx])

theorem sim_postb {cfg : Cfg} {d d' : RState} {m : Mon} {o : Obs} (hs : Sim cfg d m) (ref : Ref) (u : UserTok)
    (hop : replayOp d (.postb ref u) = some (d', o)) :
    (monStep cfg m (.postb ref u) o).viol = none ∧ Sim cfg d' (monStep cfg m (.postb ref u) o).mon := by
  by_cases href : ref = .absent
  · subst href
    simp [replayOp, modelOp, hs.stateful_st, Ref.sid, step, stepStateful] at hop
  · exact (postb_accepts hs ref href u).of_replay hop

theorem keepsId_bodyF (ok : Bool) (k : Kind) : KeepsId (tryF (bodyF ok k)) :=
  keepsId_tryF fun _ _ h => (bodyF_fields h).2.1

theorem body_accepts {cfg : Cfg} {d : RState} {m : Mon} (hs : Sim cfg d m) (n : Nat) (fin : Bool) :
    Accepts cfg d m (.body n fin) := by
  have hst := hs.stateful_st
  have hreq : (Op.body n fin).req = none := rfl
  have hnid := inv_nodupIds hs.inv
  have hba : ∀ st, bookAnswer cfg (effFaults cfg m) m.now (tagOf m (.body n fin)) m.tbl m.pend (.body n fin) st = (m.tbl, m.pend) := by
    intro st; simp [bookAnswer, hs.stateful]
  have hpw := hs.pok.weak
  -- nothing happens: no such POST in progress, or a piece that is not the last one
  have quiet : ∀ (status : St),
      modelOp d (.body n fin) = some { st := d.st, status := status, pend := d.pend, nslow := d.nslow, nasync := d.nasync, released := d.released } →
      Accepts cfg d m (.body n fin) := by
    intro status hmo
    exact quiet_accepts hs hmo (by simp [countersAfter, hs.nslow, hs.nasync]) (by rw [hreq]; rfl)
      (hba _) rfl rfl rfl (by simp [chkNoId, hreq]) (Nat.le_refl _) (Nat.le_refl _)
  cases hfind : d.pend.find? (fun p => p.tag == Tag.u n) with
  | none => apply quiet .noop; dsimp only [modelOp]; simp only [hst, Bool.false_eq_true, if_false, hfind]
  | some p =>
    obtain ⟨hp, hpred⟩ := mem_of_find? hfind
    have hptag : p.tag = .u n := by simpa using hpred
    cases fin with
    | false => apply quiet .ok; dsimp only [modelOp]; simp only [hst, Bool.false_eq_true, if_false, hfind, Bool.not_false, if_true]
    | true =>
      cases hpk : p.kind with
      | upl i n' usr =>
        have hi : i < d.st.next := hs.pok.minted p hp i (by simp [sidOf, hpk])
        obtain ⟨e, hfe, hk, hg, hrel⟩ := hs.entry hi
        cases hb : bodyF (d.st.accepts .call) .call e with
        | none =>
          -- (`bodyF` refuses: the relation does not tie `e.upl` to the `.upl` requests of the list, so the branch is not
          -- excluded here; the model answers `noop` and nothing moves)
          apply quiet .noop
          dsimp only [modelOp]; simp only [hst, Bool.false_eq_true, if_false, hfind, Bool.not_true, hpk, step_postBody_none hst hfe hb]
        | some e1 =>
          have hu : e.upl ≠ 0 := (bodyF_fields hb).2.2.2.2.2.2.2.2.1
          have hstep := step_postBody_ok hst hnid hfe hb
          have hrc : e.removed = true → e.closing = true := fun h => (hg.removed h).2.2.2
          have hpne : e.posts ≠ 0 := by rw [hk.posts]; omega
          have hcntP : ∀ j, nsOf (d.pend.filter (fun q => q.tag != p.tag)) j = nsOf d.pend j ∧
              nrOf (d.pend.filter (fun q => q.tag != p.tag)) j = nrOf d.pend j :=
            fun j => counts_filter_tag hs.pok.tags hp (by simp [isSlowOf, hpk]) (by simp [isRunOf, hpk])
          have hpo : pendOf p = some (p.tag, sname i) := by simp [pendOf, hpk]
          have hq := eokq_body hk hg.no_timeout hu
          have key : ∀ (ok : Bool) (st3 : State) (c : Nat) (log : List LogEnt),
              st3 = { d.st with tbl := d.st.tbl.map (lift i (tryF (endPost d.st.now d.st.cfg.timeout false) ∘ (hdK .call (ok && !e.closing) ∘ tryF (bodyF ok .call)))) } →
              Inv st3 →
              modelOp d (.body n true) = some { st := st3, status := .ok, done := [(p.tag, c)], log := log, pend := d.pend.filter (fun q => q.tag != p.tag), nslow := d.nslow, nasync := d.nasync, released := d.released } →
              (∀ l ∈ log, l.sess = sname i) →
              Accepts cfg d m (.body n true) := by
            intro ok st3 c log hst3 hinv3 hmo hlog
            subst hst3
            refine upd_accepts (F := mPostDone m.now) hs hmo (Or.inl rfl) hinv3
              (keepsId_comp (keepsId_comp (keepsId_bodyF _ _) (keepsId_hdK _ _)) (keepsId_endPost _ _ _)) (keepsName_mPostDone _) hfe
              (body_eq ok hk.creating hpne hu hk.pending hrc) (pendOkW_filter hpw _) (fun j _ => hcntP j)
              ?_ ?_ ?_ ?_ (by rw [hreq]; rfl) ?_ (by simp [chkNoId, hreq]) rfl
              (fun h hh => by cases hh) rfl rfl (by simp [countersAfter, hs.nslow, hs.nasync])
            · rw [hba]
              simp only [bookSlots]
              show bookDone1 m.now (m.tbl, m.pend) (p.tag, c) = _
              rw [hs.pend]
              exact bookDone1_post hs.pok.tags hp hpo (Or.inr ⟨_, hptag⟩) _ _ _
            · rw [hba]
              simp only [bookSlots]
              rw [hs.run, runOf_filter_tag_other hs.pok.tags hp (by simp [runOf, hpk])]
            · rw [(hcntP i).1, (hcntP i).2, hs.cfg_eq]; exact hq
            · rw [(hcntP i).1, (hcntP i).2, hs.cfg_eq, hs.now]
              cases hf : monFind m.tbl (sname i) <;> rw [hf] at hrel
              · rw [settleE_removed_id (e := bodyE d.st.now cfg.timeout e) hrel]; exact hrel
              · exact relpre_settle _ (rel_body hrel.toERelPre hk.posts hu (fun ht => hg.refs_posts ht) (fun h => hk.tmr h))
                  hq.notDue
            · show chkBodyLog m.pend n log = none
              unfold chkBodyLog
              rw [hs.pend, ← hptag, find_pendOf hs.pok.tags hp hpo]
              simp only []
              apply firstSome_none
              intro l hl
              simp [hlog l hl]
          cases hacc : d.st.accepts .call with
          | false =>
            rw [hacc] at hstep
            have hresp : postResp d.st .call none e.closing = .storeRefused 500 := by
              simp [postResp, hacc, stStoreOpenFailed, Generated.Sessions.storeOpenFailed]
            rw [hresp] at hstep
            apply key false (doL { d.st with tbl := d.st.tbl.map (lift i (tryF (bodyF false .call))) } (.postEnd (some i) false)) 500 []
            · have h := answered_eq hst hnid (i := i) (keepsId_bodyF false .call) .call false
              rw [runHandler_false] at h
              exact h
            · exact doL_inv (step_inv hs.inv hstep) _
            · dsimp only [modelOp]; simp only [hst, Bool.false_eq_true, if_false, hfind, Bool.not_true, hpk, hstep]
            · intro l hl; cases hl
          | true =>
            rw [hacc] at hstep
            have hresp : postResp d.st .call none e.closing = .forward none (!e.closing) := by
              simp [postResp, hacc]
            rw [hresp] at hstep
            apply key true (doL (runHandler { d.st with tbl := d.st.tbl.map (lift i (tryF (bodyF true .call))) } i .call (!e.closing)) (.postEnd (some i) false))
              200 (if (!e.closing) = true then [⟨sname i, .tok usr, .ping⟩] else [])
            · rw [answered_eq hst hnid (keepsId_bodyF _ _)]
              rfl
            · exact doL_inv (runHandler_inv (step_inv hs.inv hstep) _ _ _) _
            · dsimp only [modelOp]; simp only [hst, Bool.false_eq_true, if_false, hfind, Bool.not_true, hpk, hstep]
            · intro l hl
              split at hl
              · simp at hl; subst hl; rfl
              · cases hl
      | _ => apply quiet .noop; dsimp only [modelOp]; simp only [hst, Bool.false_eq_true, if_false, hfind, Bool.not_true, hpk]

theorem sim_body {cfg : Cfg} {d d' : RState} {m : Mon} {o : Obs} (hs : Sim cfg d m) (n : Nat) (fin : Bool)
    (hop : replayOp d (.body n fin) = some (d', o)) :
    (monStep cfg m (.body n fin) o).viol = none ∧ Sim cfg d' (monStep cfg m (.body n fin) o).mon :=
  (body_accepts hs n fin).of_replay hop

/-- **A POST whose body arrives together with its headers is the special case**: for a POST with a session id that
`lookupSession` lets through (and that does not carry `initialize`), the label `postBegin` is `postHead` followed by
`postBody` — same state, same answer. -/
theorem post_is_head_then_body {s : State} (hi : Inv s) (hst : s.cfg.stateless = false) {i : Nat} {u : User} {k : Kind} {e : Sess}
    (hk : k.isInitialize = false) (hl : lookup s.tbl i u = .ok e) :
    ∃ s1, step s (.postHead (some i) u) = some (s1, .forward none (!e.closing)) ∧
      step s1 (.postBody i k) = step s (.postBegin (some i) u k) := by
  have hn := inv_nodupIds hi
  have hlk := lookup_ok hl
  have hmem := (findSess_some hlk.1).1
  have hpn := (good_inMap (hi.good e hmem) hlk.2.1).2
  have hkH : KeepsId headF := fun x => (headF_fields x).2.1
  refine ⟨{ s with tbl := s.tbl.map (lift i headF) }, step_postHead_ok hst hn hl, ?_⟩
  rw [step_postBegin_ok hst hn hl k]
  have hn1 : NodupIds (s.tbl.map (lift i headF)) := nodupIds_map (keepsId_lift hkH) hn
  have hfe1 : findSess i (s.tbl.map (lift i headF)) = some (headF e) := by
    rw [findSess_map_lift hkH, if_pos rfl, hlk.1]; rfl
  have hbody : ∀ x : Sess, x.pending = none → tryF (bodyF (s.accepts k) k) (headF x) = startPost (s.accepts k) k x := by
    intro x hx
    rcases x with ⟨id, owner, refs, timer, closing, removed, inMap, pending, initialized, creating, busy, initBusy, posts, idleSince, closeErr, upl⟩
    simp only [] at hx
    subst hx
    cases timer <;> simp [tryF, bodyF, headF, startPost, startTimer]
  have hb : bodyF (s.accepts k) k (headF e) = some (startPost (s.accepts k) k e) := by
    have := hbody e hpn
    unfold tryF at this
    cases hbf : bodyF (s.accepts k) k (headF e) with
    | some y => rw [hbf] at this; simpa using this
    | none =>
      exfalso
      have hf := headF_fields e
      unfold bodyF at hbf
      rw [if_neg (by rw [hf.2.2.2.2.2.2.2.2.2, hf.2.2.2.2.2.2.1, hpn]; simp)] at hbf
      cases hbf
  have hm := modify_eq_map hn1 hfe1 hb
  have hacc : ({ s with tbl := s.tbl.map (lift i headF) } : State).accepts k = s.accepts k := rfl
  simp only [step, hst, stepStateful, hk, Bool.false_eq_true, if_false, hfe1, hacc, hm]
  have htbl : (s.tbl.map (lift i headF)).map (lift i (tryF (bodyF (s.accepts k) k))) = s.tbl.map (lift i (startPost (s.accepts k) k)) := by
    rw [map_lift_comp hkH]
    apply List.map_congr_left
    intro x hx
    unfold lift
    by_cases hxi : x.id = i
    · rw [if_pos hxi, if_pos hxi]
      have : x = e := entry_unique hi hx hmem (by rw [hxi, (findSess_some hlk.1).2])
      rw [this]; exact hbody e hpn
    · rw [if_neg hxi, if_neg hxi]
  rw [htbl]
  have hcl : (headF e).closing = e.closing := (headF_fields e).2.2.2.1
  simp [postResp, hcl, State.accepts, State.openFails]

end Sessions
