import McpModel.Sessions.BridgeStateless
import McpModel.Sessions.BridgeGet
import McpModel.Sessions.BridgeClose
import McpModel.Sessions.BridgeRelease
import McpModel.Sessions.BridgePost
import McpModel.Sessions.BridgeTick
import McpModel.Sessions.BridgeCreate
import McpModel.Sessions.BridgeBody
/-!
# Bridge (E7 / C11): the monitor raises no clause on any observation trace of the model

`monitor_accepts_model`: for every configuration with the repaired publication (`publishChecks`, F20) and
EVERY list of harness operations — POST (init / badinit / ping / notif / slow) with no, minted, never-minted
ids by any user, `postx`, POSTs whose body arrives in pieces (`postb` / `body`: in progress from the arrival of
their headers, without a handler until the last piece), GET, DELETE, other methods, release / abandon of parked
handlers, clock ticks of any length, event-store fault scripts, server-side closes; each operation is the label list that the real
handler executes for it, followed by the internal labels enabled at quiescence — the typed monitor
(`runMon`) reports nothing on the model's own observations (`modelTrace`), and the end-of-case clause is
silent on the model's final record (`monEnd_accepts_model`).

The proof is a simulation: `Sim` (stateful) / `SimSL` (stateless) relate the replay state of the model to the
state of the monitor (BridgeInv.lean); every operation re-establishes it (`sim_step`) without a clause.
No hypothesis besides `publishChecks = true` is needed: an operation without meaning in the configuration (outside
`Op.inScope`, BridgeTotal.lean) has no record and `modelTrace` skips it; every other one has exactly one.
-/
namespace Sessions

def SimAny (cfg : Cfg) (d : RState) (m : Mon) : Prop :=
  (cfg.stateless = false ∧ Sim cfg d m) ∨ (cfg.stateless = true ∧ SimSL cfg d m)

theorem sim_init (cfg : Cfg) (hfix : cfg.publishChecks = true) : SimAny cfg (.init cfg) {} := by
  have hinv : Inv (init cfg) := inv_init cfg hfix
  cases hsl : cfg.stateless with
  | false =>
    left
    refine ⟨hsl, ?_⟩
    exact {
      cfg_eq := rfl, inv := hinv, stateful := hsl, now := rfl, faults := rfl, nslow := rfl, nasync := rfl,
      mnodup := (by simp), minted := (by intro a ha; cases ha), eok := (by intro e he; cases he),
      rel := (by intro e he; cases he), pend := rfl, run := rfl,
      pok := {
        tags := (by simp [RState.init]), slots := (by simp [RState.init]), shape := (by intro p hp; cases hp),
        minted := (by intro p hp; cases hp), sids := (by intro p hp; cases hp), relLe := (by intro k hk; cases hk) } }
  | true =>
    right
    exact ⟨hsl, { cfg_eq := rfl, inv := hinv, stateless := hsl, faults := rfl, mtbl := rfl, mpend := rfl, mrun := rfl }⟩

theorem op_accepts {cfg : Cfg} {d : RState} {m : Mon} (hs : Sim cfg d m) (op : Op) (h : ∀ u, op ≠ .postb .absent u) :
    Accepts cfg d m op := by
  cases op with
  | post ref u kind =>
    by_cases href : ref = .absent
    · subst href; exact post_absent_accepts hs u kind
    · exact post_ref_accepts hs ref href u kind
  | postx u kind => exact postx_accepts hs u kind
  | release k => exact release_accepts hs k
  | abandon k => exact abandon_accepts hs k
  | get ref u => exact get_accepts hs ref u
  | delete ref u => exact delete_accepts hs ref u
  | other ref u => exact other_accepts hs ref u
  | tick n => exact tick_accepts hs n
  | fault f => exact fault_accepts hs f
  | close ref => exact close_accepts hs ref
  | postb ref u => exact postb_accepts hs ref (fun hr => h u (hr ▸ rfl)) u
  | body n fin => exact body_accepts hs n fin

theorem sim_step {cfg : Cfg} {d d' : RState} {m : Mon} {o : Obs} (hs : SimAny cfg d m) (op : Op)
    (hop : replayOp d op = some (d', o)) :
    (monStep cfg m op o).viol = none ∧ SimAny cfg d' (monStep cfg m op o).mon := by
  rcases hs with ⟨hsl, hs⟩ | ⟨hsl, hs⟩
  · have key : (monStep cfg m op o).viol = none ∧ Sim cfg d' (monStep cfg m op o).mon := by
      by_cases hb : ∃ u, op = .postb .absent u
      · obtain ⟨u, rfl⟩ := hb; exact sim_postb hs _ u hop
      · exact (op_accepts hs op fun u h => hb ⟨u, h⟩).of_replay hop
    exact ⟨key.1, Or.inl ⟨hsl, key.2⟩⟩
  · have key := sim_sl_step hs op hop
    exact ⟨key.1, Or.inr ⟨hsl, key.2⟩⟩

theorem runMonFrom_model {cfg : Cfg} : ∀ (ops : List Op) (d : RState) (m : Mon) (i : Nat), SimAny cfg d m →
    runMonFrom cfg m i (modelTraceFrom d ops) = none ∧
    SimAny cfg (replayFrom d ops) (monAfter cfg m (modelTraceFrom d ops)) := by
  intro ops
  induction ops with
  | nil => intro d m i hs; exact ⟨rfl, hs⟩
  | cons op ops ih =>
    intro d m i hs
    simp only [modelTraceFrom, replayFrom]
    cases hop : replayOp d op with
    | none => exact ih d m i hs
    | some p =>
      obtain ⟨d', o⟩ := p
      obtain ⟨hv, hs'⟩ := sim_step hs op hop
      simp only [runMonFrom, hv, monAfter]
      exact ih d' _ (i + 1) hs'

theorem monitor_accepts_model (cfg : Cfg) (hfix : cfg.publishChecks = true) (ops : List Op) :
    runMon cfg (modelTrace cfg ops) = none :=
  (runMonFrom_model ops (.init cfg) {} 0 (sim_init cfg hfix)).1

theorem sim_after_model (cfg : Cfg) (hfix : cfg.publishChecks = true) (ops : List Op) :
    SimAny cfg (replayFrom (.init cfg) ops) (monAfter cfg {} (modelTrace cfg ops)) :=
  (runMonFrom_model ops (.init cfg) {} 0 (sim_init cfg hfix)).2

/-- with the repaired publication the model never leaves a dead session in the handler's table -/
theorem endLeft_zero {cfg : Cfg} {d : RState} {m : Mon} (hs : SimAny cfg d m) : endLeft d = 0 := by
  have hinv : Inv d.st := by
    rcases hs with ⟨_, hs⟩ | ⟨_, hs⟩
    · exact hs.inv
    · exact hs.inv
  unfold endLeft
  rw [List.length_eq_zero_iff, List.filter_eq_nil_iff]
  intro e he h
  simp only [Bool.and_eq_true] at h
  have := (good_inMap (hinv.good e he) h.1).1
  rw [h.2] at this; cases this

theorem monEnd_accepts_model (cfg : Cfg) (hfix : cfg.publishChecks = true) (ops : List Op) :
    monEnd (monAfter cfg {} (modelTrace cfg ops))
      (some { stuck := 0, map := endLeft (replayFrom (.init cfg) ops), srv := 0 }) = none := by
  rw [endLeft_zero (sim_after_model cfg hfix ops)]
  simp [monEnd]

/-- Non-vacuity: a history with two users, a parked handler, a DELETE that waits for it, an idle timeout and a
server-side close that finds its session gone (`noop`) has one record per operation, and the monitor is silent on it. -/
example :
    let ops : List Op := [.post .absent (.u 1) .init, .post .absent (.u 2) .init, .post (.s 1) (.u 1) .slow,
      .delete (.s 1) (.u 2), .delete (.s 1) (.u 1), .tick 100, .release 1, .get (.s 1) (.u 1), .close (.s 2), .post (.s 2) (.u 2) .ping]
    (modelTrace ⟨false, 100, true, false⟩ ops).length = 10 ∧
    (modelTrace ⟨false, 100, true, false⟩ ops).map (·.2.status) =
      [.code 200, .code 200, .pending, .code 403, .pending, .ok, .ok, .code 404, .noop, .code 404] ∧
    runMon ⟨false, 100, true, false⟩ (modelTrace ⟨false, 100, true, false⟩ ops) = none := by
  decide

end Sessions
