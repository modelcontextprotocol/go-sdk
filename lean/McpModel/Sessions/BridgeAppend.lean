import McpModel.Sessions.BridgeRecord
/-!
Bridge (E7/C11): the general step for a POST without a session id on a stateful endpoint — an id is
minted, one entry is appended to the model's table (a live session, or an id that is dead already).
-/
namespace Sessions

theorem findSess_append_new {t : List Sess} {E : Sess} {next : Nat} (hlt : ∀ e ∈ t, e.id < next) (hE : E.id = next) (j : Nat) :
    findSess j (t ++ [E]) = if j = next then some E else findSess j t := by
  rw [findSess_append]
  by_cases hj : j = next
  · rw [if_pos hj]
    have : findSess j t = none := by
      cases hf : findSess j t with
      | none => rfl
      | some e => have := findSess_some hf; have := hlt e this.1; omega
    rw [this]; simp [findSess, hE, hj]
  · rw [if_neg hj]
    cases hf : findSess j t with
    | some e => rfl
    | none => simp [findSess, hE]; exact fun h => absurd h.symm hj

theorem counts_zero_of_minted {P : List Pend} {next : Nat} (h : ∀ p ∈ P, ∀ i, sidOf p = some i → i < next) :
    nsOf P next = 0 ∧ nrOf P next = 0 := by
  constructor
  · unfold nsOf
    rw [List.length_eq_zero_iff, List.filter_eq_nil_iff]
    intro p hp hs
    unfold isSlowOf at hs
    cases hk : p.kind with
    | slow a b =>
      cases a with
      | none => simp [hk] at hs
      | some v => simp [hk] at hs; have := h p hp v (by simp [sidOf, hk]); omega
    | run a b => simp [hk] at hs
    | del i f => simp [hk] at hs
    | cls i => simp [hk] at hs
    | upl a b c => simp [hk] at hs
  · unfold nrOf
    rw [List.length_eq_zero_iff, List.filter_eq_nil_iff]
    intro p hp hs
    unfold isRunOf at hs
    cases hk : p.kind with
    | slow a b => simp [hk] at hs
    | run a b => simp [hk] at hs; have := h p hp a (by simp [sidOf, hk]); omega
    | del i f => simp [hk] at hs
    | cls i => simp [hk] at hs
    | upl a b c => simp [hk] at hs

/-- `hE`: the appended entry is a session that lives on — the creation proper: `initialize`, answered 2xx, the header names it,
its idle timer armed — or an id that is dead already (then the header is absent or names that id). -/
theorem append_accepts {cfg : Cfg} {d : RState} {m : Mon} (hs : Sim cfg d m) {op : Op} {r : Req}
    {st1 st2 : State} {E : Sess} {status : St} {hdr : Option Name} {log : List LogEnt} {ns' na' : Nat}
    (hreq : op.req = some r) (hrv : r.verb = .post) (hrr : r.ref = .absent)
    (hmo : modelOp d op = some { st := st1, status := status, hdr := hdr, hang := false, done := [], log := log, pend := d.pend, nslow := ns', nasync := na', released := d.released })
    (hset : settle st1 = st2) (htbl : st2.tbl = d.st.tbl ++ [E]) (hcfg : st2.cfg = d.st.cfg) (hnext : st2.next = d.st.next + 1)
    (hnow : st2.now = d.st.now) (hfl : st2.faults = d.st.faults) (hinv : Inv st2)
    (hEid : E.id = d.st.next) (hEo : E.owner = r.user.user) (hEok : EOk cfg d.st.now 0 0 E) (hEu : E.upl = 0)
    (hE : (E.removed = false ∧ E.closing = false ∧ (cfg.timeout ≠ 0 → E.timer = .armed (d.st.now + cfg.timeout)) ∧
            r.kind = some .init ∧ status.accepted2xx = true ∧ hdr = some (sname d.st.next) ∧ r.racy = false) ∨
          (E.removed = true ∧ (hdr = none ∨ hdr = some (sname d.st.next))))
    (hans : chkAnswer cfg (effFaults cfg m) m.tbl r status = none)
    (hlog : chkLog cfg (some r) status log = none)
    (hmint : ∀ h, hdr = some h → isInitKind r.kind = true ∧ status.accepted2xx = true)
    (hnoid : chkNoId cfg (some r) status hdr = false)
    (hba : bookAnswer cfg (effFaults cfg m) m.now (tagOf m op) m.tbl m.pend op status = (m.tbl, m.pend))
    (hbs : bookSlots m.tbl m.pend m.run op status = (m.tbl, m.run))
    (hnotick : nowAfter m op = m.now) (hfault : faultsAfter m op status = m.faults)
    (hcnt : countersAfter m op status = (ns', na')) (hns : d.nslow ≤ ns') (hna : d.nasync ≤ na') :
    Accepts cfg d m op := by
  have hst2 : st2.cfg.stateless = false := by rw [hcfg]; exact hs.stateful_st
  have hcfg' : st2.cfg = cfg := by rw [hcfg]; exact hs.cfg_eq
  have hlt : ∀ e ∈ d.st.tbl, e.id < d.st.next := ids_lt hs.inv
  have hfnew := fun j => findSess_append_new hlt hEid j
  obtain ⟨hz1, hz2⟩ := counts_zero_of_minted hs.pok.minted
  have hnone : monFind m.tbl (sname d.st.next) = none := by
    cases hf : monFind m.tbl (sname d.st.next) with
    | none => rfl
    | some a =>
      obtain ⟨j, hj, hn⟩ := hs.minted a (monFind_name hf).2
      rw [(monFind_name hf).1] at hn
      have := sname_inj hn; omega
  have hkeep : d.pend.filter (keepOf st2) = d.pend ∧ d.pend.filterMap (doneOf st2) = [] := by
    have hk : ∀ p ∈ d.pend, keepOf st2 p = true := by
      intro p hp
      have h0 := hs.pok.keep hp
      unfold keepOf at h0 ⊢
      cases hkind : p.kind with
      | slow a b => rfl
      | run a b => rfl
      | upl a b c => rfl
      | del i f =>
        rw [hkind] at h0
        have hi := hs.pok.minted p hp i (by simp [sidOf, hkind])
        simp only [isLive, htbl, hfnew i, if_neg (Nat.ne_of_lt hi)]; exact h0
      | cls i =>
        rw [hkind] at h0
        have hi := hs.pok.minted p hp i (by simp [sidOf, hkind])
        simp only [isLive, htbl, hfnew i, if_neg (Nat.ne_of_lt hi)]; exact h0
    refine ⟨List.filter_eq_self.mpr hk, ?_⟩
    apply List.filterMap_eq_nil_iff.mpr
    intro p hp
    cases hd : doneOf st2 p with
    | none => rfl
    | some c => have := (doneOf_tag hd).2; rw [hk p hp] at this; cases this
  refine ⟨{ st := st2, nslow := ns', nasync := na', released := d.released, pend := d.pend },
    { status := status, hdr := hdr, done := [], map := showMap st2, srv := showSrv st2, log := log, stale := showStale st2 },
    by simp only [replayOp, hmo, completions_eq, hset, hkeep.1, hkeep.2, List.append_nil], ?_⟩
  have hshow : showMap st2 = showMap d.st ++ (if E.inMap then [entOf E] else []) := by
    simp only [showMap_eq, htbl, List.filter_append, List.map_append]
    congr 1
    cases h : E.inMap <;> simp [h]
  have hexp : m.tbl.map (expire cfg (nowAfter m op)) = m.tbl := by rw [hnotick]; exact hs.expire_id
  have htc0 := table_checks hs.tblpre hs.stateful m.now (some r) status hdr
  let anew : MSess := { name := sname d.st.next, owner := ownerOf E.owner, life := .live, posts := 0, idleSince := m.now }
  have hscan : scanMap cfg m.now (some r) status hdr m.tbl (showMap st2) =
      (if E.inMap then m.tbl ++ [anew] else m.tbl, none) := by
    rw [hshow, scanMap_append, htc0.1]
    cases hin : E.inMap with
    | false => simp [scanMap, firstViol]
    | true =>
      have hrm : E.removed = false := by have := hEok.inMap; rw [hin] at this; simpa using this.symm
      rcases hE with ⟨_, hcl, _, hk, hacc, hh, hracy⟩ | ⟨hr, _⟩
      · simp only [if_true, scanMap, judgeEntry, entOf, hEid, hnone, reqRacy, hracy, hrv, hrr, hs.stateful, hacc, hh, hEo,
          ownerOf_user, firstViol]
        simp [anew, hEo, ownerOf_user, hk]
      · rw [hr] at hrm; cases hrm
  have htbl3nodup : ((if E.inMap then m.tbl ++ [anew] else m.tbl).map (·.name)).Nodup := by
    split
    · rw [List.map_append, List.nodup_append]
      refine ⟨hs.mnodup, by simp, ?_⟩
      intro a ha b hb hab
      simp at hb; subst hb
      obtain ⟨x, hx, rfl⟩ := List.mem_map.mp ha
      have := monFind_none hnone x hx
      exact this hab
    · exact hs.mnodup
  have hfind3 : ∀ j, j ≠ d.st.next → monFind (if E.inMap then m.tbl ++ [anew] else m.tbl) (sname j) = monFind m.tbl (sname j) := by
    intro j hj
    split
    · rw [monFind_append]
      cases hf : monFind m.tbl (sname j) with
      | some a => rfl
      | none =>
        simp only [monFind, List.find?_cons, anew]
        have : (sname d.st.next == sname j) = false := by simp; exact fun h => hj (sname_inj h).symm
        simp [this]
    · rfl
  have hpre : TblPre cfg st2 d.pend (if E.inMap then m.tbl ++ [anew] else m.tbl) := by
    refine ⟨hinv, hst2, ?_, htbl3nodup, ?_, ?_⟩
    · intro e he; rw [htbl] at he
      rcases List.mem_append.mp he with he | he
      · exact (hs.eok e he).inMap
      · have he' : e = E := by simpa using he
        rw [he']; exact hEok.inMap
    · intro a ha
      rw [hnext]
      split at ha
      · rcases List.mem_append.mp ha with ha | ha
        · obtain ⟨j, hj, hn⟩ := hs.minted a ha; exact ⟨j, by omega, hn⟩
        · simp at ha; subst ha; exact ⟨d.st.next, by omega, rfl⟩
      · obtain ⟨j, hj, hn⟩ := hs.minted a ha; exact ⟨j, by omega, hn⟩
    · intro e he; rw [htbl] at he
      rcases List.mem_append.mp he with he | he
      · have hne : e.id ≠ d.st.next := Nat.ne_of_lt (hlt e he)
        have := (hs.rel e he).pre
        unfold RelPreAt at this ⊢
        rw [hfind3 e.id hne]
        exact this
      · have he' : e = E := by simpa using he
        rw [he']
        unfold RelPreAt
        rw [hEid, hz1, hz2]
        cases hin : E.inMap with
        | false =>
          simp only [Bool.false_eq_true, if_false, hnone]
          have := hEok.inMap; rw [hin] at this; simpa using this.symm
        | true =>
          have hrm : E.removed = false := by have := hEok.inMap; rw [hin] at this; simpa using this.symm
          simp only [if_true, monFind_append, hnone]
          have : monFind [anew] (sname d.st.next) = some anew := by simp [monFind, anew]
          rw [this]
          rcases hE with ⟨_, hcl, htm, _⟩ | ⟨hr, _⟩
          · refine ⟨rfl, (by intro h; cases h), ?_, (by intro _; exact ⟨by rw [hEu], rfl⟩), ?_⟩
            · constructor
              · intro _; exact ⟨hrm, hcl⟩
              · intro _; rfl
            · intro _ _ _ hT; rw [htm hT]; show _ = Timer.armed (m.now + cfg.timeout); rw [hs.now]
          · rw [hr] at hrm; cases hrm
  have heok2 : ∀ e' ∈ st2.tbl, EOk cfg st2.now (nsOf d.pend e'.id) (nrOf d.pend e'.id) e' := by
    intro e he; rw [htbl] at he; rw [hnow]
    rcases List.mem_append.mp he with he | he
    · exact hs.eok e he
    · have he' : e = E := by simpa using he
      rw [he']; rw [hEid, hz1, hz2]; exact hEok
  generalize htbl3 : (if E.inMap then m.tbl ++ [anew] else m.tbl) = tbl3 at hscan hpre
  have hnowE : nowAfter m op = st2.now := by rw [hnotick, hnow]; exact hs.now
  refine sim_scanned (tbl2 := m.tbl) (tbl3 := tbl3) hcfg' hs.stateful rfl rfl rfl ?_ (by rw [hnotick, hreq]; exact hscan) hpre heok2 ?_
    hnowE (by rw [hfl]; exact hfault.trans hs.faults) hcnt (by rw [hexp, hreq]; exact hans)
    (by rw [chkLogOp_eq (by intro n f h; rw [h] at hreq; cases hreq), hreq]; exact hlog) ?_ (by rw [hreq]; exact hnoid) ?_
  · simp only [booked]
    rw [hexp, hnotick, hba, hbs, hs.pend, hs.run]; rfl
  · have w := pendOkW_counters hs.pok.weak hns hna
    have := PendOkW.strong (st := st2)
      ⟨w.tags, w.slots, w.shape, fun p hp i hi => by rw [hnext]; exact Nat.lt_succ_of_lt (w.minted p hp i hi), w.sids, w.relLe⟩
    rw [hkeep.1] at this
    exact this
  · rw [hexp, hreq]
    cases hh : hdr with
    | none => rfl
    | some h =>
      obtain ⟨h1, h2⟩ := hmint h hh
      have hhn : h = sname d.st.next := by
        rcases hE with ⟨_, _, _, _, _, hx, _⟩ | ⟨_, hx | hx⟩ <;> rw [hh] at hx <;> first | (cases hx; rfl) | cases hx
      simp [chkMint, hs.stateful, hrv, h1, h2, hrr, Ref.name, hhn, hnone]
  · intro h hh
    have hh : hdr = some h := hh
    refine Or.inr ⟨E, by rw [htbl]; simp, ?_, by rw [hreq, hEo, ownerOf_user]; rfl⟩
    rcases hE with ⟨_, _, _, _, _, hx, _⟩ | ⟨_, hx | hx⟩ <;> rw [hh] at hx <;> first | (cases hx; rw [hEid]) | cases hx

theorem sim_append_op {cfg : Cfg} {d d' : RState} {m : Mon} {o : Obs} (hs : Sim cfg d m) {op : Op} {r : Req}
    {st1 st2 : State} {E : Sess} {status : St} {hdr : Option Name} {log : List LogEnt} {ns' na' : Nat}
    (hreq : op.req = some r) (hrv : r.verb = .post) (hrr : r.ref = .absent)
    (hmo : modelOp d op = some { st := st1, status := status, hdr := hdr, hang := false, done := [], log := log, pend := d.pend, nslow := ns', nasync := na', released := d.released })
    (hset : settle st1 = st2) (htbl : st2.tbl = d.st.tbl ++ [E]) (hcfg : st2.cfg = d.st.cfg) (hnext : st2.next = d.st.next + 1)
    (hnow : st2.now = d.st.now) (hfl : st2.faults = d.st.faults) (hinv : Inv st2)
    (hEid : E.id = d.st.next) (hEo : E.owner = r.user.user) (hEok : EOk cfg d.st.now 0 0 E) (hEu : E.upl = 0)
    (hE : (E.removed = false ∧ E.closing = false ∧ (cfg.timeout ≠ 0 → E.timer = .armed (d.st.now + cfg.timeout)) ∧
            r.kind = some .init ∧ status.accepted2xx = true ∧ hdr = some (sname d.st.next) ∧ r.racy = false) ∨
          (E.removed = true ∧ (hdr = none ∨ hdr = some (sname d.st.next))))
    (hans : chkAnswer cfg (effFaults cfg m) m.tbl r status = none)
    (hlog : chkLog cfg (some r) status log = none)
    (hmint : ∀ h, hdr = some h → isInitKind r.kind = true ∧ status.accepted2xx = true)
    (hnoid : chkNoId cfg (some r) status hdr = false)
    (hba : bookAnswer cfg (effFaults cfg m) m.now (tagOf m op) m.tbl m.pend op status = (m.tbl, m.pend))
    (hbs : bookSlots m.tbl m.pend m.run op status = (m.tbl, m.run))
    (hnotick : nowAfter m op = m.now) (hfault : faultsAfter m op status = m.faults)
    (hcnt : countersAfter m op status = (ns', na')) (hns : d.nslow ≤ ns') (hna : d.nasync ≤ na')
    (hop : replayOp d op = some (d', o)) :
    (monStep cfg m op o).viol = none ∧ Sim cfg d' (monStep cfg m op o).mon :=
  (append_accepts hs hreq hrv hrr hmo hset htbl hcfg hnext hnow hfl hinv hEid hEo hEok hEu hE hans hlog hmint hnoid hba hbs hnotick
    hfault hcnt hns hna).of_replay hop

end Sessions
