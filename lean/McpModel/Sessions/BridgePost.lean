import McpModel.Sessions.BridgeOne
import McpModel.Sessions.BridgeOpLemmas
/-!
Bridge (E7/C11): a POST that carries a session id.
-/
namespace Sessions

theorem pendOkW_append_slow {P : List Pend} {ns na : Nat} {rel : List Nat} {next : Nat} (h : PendOkW P ns na rel next)
    {i : Nat} (hi : i < next) : PendOkW (P ++ [⟨.p (ns + 1), .slow (some i) (ns + 1)⟩]) (ns + 1) na rel next := by
  refine pendOkW_append h (Nat.le_succ _) (Nat.le_refl _) _ ?_ ?_ rfl hi
    ⟨rfl, by omega, Nat.le_refl _, fun hm => by have := h.relLe _ hm; omega⟩
  · intro q hq hqt
    rcases h.tag_cases hq with ⟨s, ht | ht, _, hle⟩ | ⟨n, ht | ht | ht, _⟩ <;> rw [ht] at hqt <;> cases hqt
    omega
  · intro q hq k hk hpk
    cases hpk
    rcases h.tag_cases hq with ⟨s, _, hs, hle⟩ | ⟨n, _, _, hs⟩ <;> rw [hs] at hk <;> cases hk
    omega

theorem bookAnswer_post_touch {cfg : Cfg} {d : RState} {m : Mon} (hs : Sim cfg d m) (fl : Faults) (tag : Tag)
    {ref : Ref} {i : Nat} (hname : ref.name = some (sname i)) (u : UserTok) (kind : PKind) {a : MSess}
    (ha : monFind m.tbl (sname i) = some a) (hent : entitled a.owner u = true) {st : St}
    (hacc : (st.accepted2xx || (kind != .notif && fl.reqOpen && st == .code 500)) = true) (hnp : st ≠ .pending) :
    bookAnswer cfg fl m.now tag m.tbl m.pend (.post ref u kind) st = (monUpd m.tbl (sname i) (touchF m.now), m.pend) := by
  have hnp' : (st == St.pending) = false := by simp [hnp]
  simp only [bookAnswer, hs.stateful, Bool.false_eq_true, if_false, hname, ha, hent, Bool.and_true, hacc, hnp']
  by_cases hl : a.life = .live
  · simp only [hl, beq_self_eq_true, if_true]
    congr 1
    apply monUpd_congr_at hs.mnodup ha
    simp [touchF, hl, mTouch]
  · have : (a.life == Life.live) = false := by simp [hl]
    simp only [this, Bool.false_eq_true, if_false]
    congr 1
    exact (monUpd_id_at hs.mnodup ha (by simp [touchF, hl])).symm

theorem post_ref_accepts {cfg : Cfg} {d : RState} {m : Mon} (hs : Sim cfg d m) (ref : Ref) (href : ref ≠ .absent)
    (u : UserTok) (kind : PKind) : Accepts cfg d m (.post ref u kind) := by
  have hst := hs.stateful_st
  have hnid := inv_nodupIds hs.inv
  have hreq : (Op.post ref u kind).req = some { verb := .post, ref := ref, user := u, kind := some kind } := rfl
  have hra : (ref == Ref.absent) = false := by simpa using href
  have hcnt := countersAfter_post m ref u kind
  rw [hs.nslow, hs.nasync] at hcnt
  have hpw := hs.pok.weak
  have refused : ∀ (c : Nat), (c = 403 ∨ c = 404) →
      modelOp d (.post ref u kind) = some { st := d.st, status := .code c, pend := d.pend, nslow := (if kind == .slow then d.nslow + 1 else d.nslow), nasync := (if kind == .slow then d.nasync else d.nasync + 1), released := d.released } →
      chkAnswer cfg (effFaults cfg m) m.tbl { verb := .post, ref := ref, user := u, kind := some kind } (.code c) = none →
      Accepts cfg d m (.post ref u kind) := by
    intro c hc hmo hans
    exact quiet_accepts hs hmo (hcnt _) (by rw [hreq]; exact hans)
      (bookAnswer_rejected _ _ _ _ _ _ _ (Or.inr hc)) rfl rfl rfl
      (by simp [chkNoId, hreq, hra])
      (by show d.nslow ≤ (if kind == .slow then d.nslow + 1 else d.nslow); split <;> omega)
      (by show d.nasync ≤ (if kind == .slow then d.nasync else d.nasync + 1); split <;> omega)
  rcases ref_lookup hs ref u with hr | ⟨i, n, hsid, hname, hlk⟩
  · exact absurd hr href
  · cases hl : lookup d.st.tbl i u.user with
    | error c =>
      rw [hl] at hlk
      exact refused c hlk.1 (by
        dsimp only [modelOp]; simp only [hsid, Option.isNone_some, Bool.false_and, Bool.false_eq_true, if_false, step_postBegin_err hst hl])
        (hlk.2 _ _ rfl rfl (by simp))
    | ok e =>
      rw [hl] at hlk
      obtain ⟨hi, rfl⟩ := hlk
      have hlm := lookup_mon hs hi u
      rw [hl] at hlm
      obtain ⟨hfe, hr, a, ha, hnd, hent, hrel⟩ := hlm
      have hmem := (findSess_some hfe).1
      have hid := (findSess_some hfe).2
      have hk := hs.eok e hmem
      have hg := hs.good hmem
      rw [hid] at hk
      have hstep := step_postBegin_ok hst hnid hl kind.kind
      have hGk : ∀ ok, KeepsId (tryF (endPost d.st.now d.st.cfg.timeout false) ∘ (hdK kind.kind (ok && !e.closing) ∘ startPost ok kind.kind)) := by
        intro ok
        apply keepsId_comp _ (keepsId_endPost _ _ _)
        exact keepsId_comp (keepsId_startPost _ _) (keepsId_hdK _ _)
      -- a POST that is let through and answered at once
      have touch : ∀ (ok : Bool) (st3 : State) (status : St) (hdr : Option Name) (log : List LogEnt),
          st3 = { d.st with tbl := d.st.tbl.map (lift i (tryF (endPost d.st.now d.st.cfg.timeout false) ∘ (hdK kind.kind (ok && !e.closing) ∘ startPost ok kind.kind))) } →
          Inv st3 →
          modelOp d (.post ref u kind) = some { st := st3, status := status, hdr := hdr, hang := false, done := [], log := log, pend := d.pend, nslow := (if kind == .slow then d.nslow + 1 else d.nslow), nasync := (if kind == .slow then d.nasync else d.nasync + 1), released := d.released } →
          (status.accepted2xx || (kind != .notif && (effFaults cfg m).reqOpen && status == .code 500)) = true →
          status ≠ .pending → status ≠ .code 403 → status ≠ .code 404 →
          chkLog cfg (some { verb := .post, ref := ref, user := u, kind := some kind }) status log = none →
          (hdr = none ∨ (hdr = some (sname i) ∧ isInitKind (some kind) = true ∧ status.accepted2xx = true)) →
          Accepts cfg d m (.post ref u kind) := by
        intro ok st3 status hdr log hst3 hinv3 hmo hacc hnp h403 h404 hlog hhdr
        subst hst3
        have hke := eok_touch (kind.kind == .init && ok && !e.closing) hk hg hr
        have hba := bookAnswer_post_touch hs (effFaults cfg m) (tagOf m (.post ref u kind)) hname u kind ha hent hacc hnp
        have h2 : ((some kind : Option PKind) != some PKind.notif) = (kind != PKind.notif) := by cases kind <;> rfl
        refine upd_accepts (F := touchF m.now) hs hmo (Or.inl rfl) hinv3 (hGk ok) (keepsName_touchF _) hfe
          (touch_eq kind.kind ok hr hk.creating hg.refs_posts fun d hd => (hg.armed d hd).1) (pendOkW_counters hpw (by split <;> omega) (by split <;> omega))
          (fun j _ => ⟨rfl, rfl⟩) ?_ ?_ ?_ ?_ ?_ ?_ ?_ ?_ ?_ rfl rfl (hcnt _)
        · rw [hba]; show bookDone _ _ _ [] = _; simp [bookSlots, bookDone, hs.pend]
        · rw [hba]; simp [bookSlots, hs.run]
        · rw [hs.cfg_eq]; exact hke.toEOkQ
        · rw [ha, hs.cfg_eq, hs.now]
          exact relpre_settle _ (rel_touch _ hrel hk hg hr) hke.notDue
        · rw [hreq]
          exact chkAnswer_admitted hs _ _ (by simp) hi hname hl _ h403 h404 (by
            simp only [beq_self_eq_true, Bool.true_and, h2, hacc, show (Verb.post == Verb.get) = false from rfl, Bool.false_and,
              Bool.or_false])
        · rw [chkLogOp_eq (by intro n f h; cases h), hreq]; exact hlog
        · simp [chkNoId, hreq, hra]
        · rcases hhdr with h | ⟨h, h2, h3⟩
          · subst h; rfl
          · subst h; simp [chkMint, hs.stateful, hreq, h2, h3, hname]
        · intro h hh
          rcases hhdr with h0 | ⟨h0, _, _⟩ <;> rw [h0] at hh <;> cases hh
          exact ⟨rfl, by rw [ha]; rfl⟩
      have hwas : wasInitialized d.st i = e.initialized := by simp [wasInitialized, hfe]
      cases hacc : d.st.accepts kind.kind with
      | false =>
        -- the transport cannot open the stream for the answer: 500, nothing is handed over
        have hacc' : kind.kind.hasCall = true ∧ d.st.openFails = true := by
          simpa [State.accepts] using hacc
        rw [hacc] at hstep
        have hresp : postResp d.st kind.kind (if kind.kind.isInitialize then some i else none) e.closing = .storeRefused 500 := by
          simp [postResp, hacc, stStoreOpenFailed, Generated.Sessions.storeOpenFailed]
        rw [hresp] at hstep
        apply touch false (doL { d.st with tbl := d.st.tbl.map (lift i (startPost false kind.kind)) } (.postEnd (some i) false)) (.code 500) none []
        · have h := answered_eq hst hnid (i := i) (keepsId_startPost false kind.kind) kind.kind false
          rw [runHandler_false] at h
          exact h
        · exact doL_inv (step_inv hs.inv hstep) _
        · dsimp only [modelOp]; simp only [hsid, Option.isNone_some, Bool.false_and, Bool.false_eq_true, if_false, hstep, hst, Option.getD_some]
        · rw [kind_hasCall] at hacc'
          simp [hs.effFaults_after.2.1, hacc'.1, hacc'.2]
        · simp
        · simp
        · simp
        · exact chkLog_nil _ _ _
        · left; rfl
      | true =>
        rw [hacc] at hstep
        have hresp : postResp d.st kind.kind (if kind.kind.isInitialize then some i else none) e.closing =
            .forward (if kind.kind.isInitialize then some i else none) (!e.closing) := by
          simp [postResp, hacc]
        rw [hresp] at hstep
        by_cases hpd : (kind == .slow && !e.closing && e.initialized) = true
        · -- the handler parks: the POST stays pending
          have hks : kind = .slow := by
            cases kind <;> simp at hpd <;> rfl
          subst hks
          have hc : e.closing = false := by
            cases hc : e.closing with
            | false => rfl
            | true => simp [hc] at hpd
          have hin : e.initialized = true := by
            cases hin : e.initialized with
            | true => rfl
            | false => simp [hin] at hpd
          have hpd' : ((PKind.slow == PKind.slow) && !e.closing && wasInitialized d.st i) = true := by rw [hwas, hc, hin]; rfl
          have hlv := hrel.life_live hr hc
          have hke := eokq_pend hk hg hr hc
          have hmo : modelOp d (.post ref u .slow) = some { st := { d.st with tbl := d.st.tbl.map (lift i (startPost true Kind.call)) }, status := .pending, log := [⟨sname i, .tok u, .toolsCall⟩], pend := d.pend ++ [⟨.p (d.nslow + 1), .slow (some i) (d.nslow + 1)⟩], nslow := d.nslow + 1, nasync := d.nasync, released := d.released } := by
            dsimp only [modelOp]; simp only [hsid, Option.isNone_some, Bool.false_and, Bool.false_eq_true, if_false, hstep, hst, Option.getD_some, hpd']
            rfl
          have hba : bookAnswer cfg (effFaults cfg m) m.now (tagOf m (.post ref u .slow)) m.tbl m.pend (.post ref u .slow) .pending =
              (monUpd m.tbl (sname i) mPend, (d.pend ++ [Pend.mk (.p (d.nslow + 1)) (.slow (some i) (d.nslow + 1))]).filterMap pendOf) := by
            simp [bookAnswer, hs.stateful, hname, ha, hlv, hent, St.accepted2xx, tagOf, hs.nslow, hs.pend, pendOf]
            rfl
          have hnsP : ∀ j, nsOf (d.pend ++ [⟨.p (d.nslow + 1), .slow (some i) (d.nslow + 1)⟩]) j = nsOf d.pend j + (if j = i then 1 else 0) ∧
              nrOf (d.pend ++ [⟨.p (d.nslow + 1), .slow (some i) (d.nslow + 1)⟩]) j = nrOf d.pend j := by
            intro j
            refine ⟨?_, nrOf_append_other _ _ _ rfl⟩
            simp only [nsOf, List.filter_append, List.length_append]
            by_cases hji : j = i
            · simp [isSlowOf, hji]
            · have : (i == j) = false := by simp; exact fun h => hji h.symm
              simp [isSlowOf, hji, this]
          refine upd_accepts (F := mPend) hs hmo (Or.inl rfl) (step_inv hs.inv hstep) (keepsId_startPost true Kind.call)
            keepsName_mPend hfe (pend_eq hc) (pendOkW_append_slow hpw hi)
            (fun j hj => by rw [(hnsP j).1, (hnsP j).2, if_neg hj]; exact ⟨rfl, rfl⟩) ?_ ?_ ?_ ?_ ?_ ?_ (by simp [chkNoId, hreq]) rfl
            (fun h hh => by cases hh) rfl rfl (by rw [hcnt]; rfl)
          · rw [hba]; show bookDone _ _ _ [] = _; simp [bookSlots, bookDone]
          · rw [hba]
            simp only [bookSlots]
            rw [hs.run, List.filterMap_append]
            simp [runOf]
          · rw [(hnsP i).1, (hnsP i).2, if_pos rfl]; exact hke.toEOkQ
          · rw [ha, (hnsP i).1, (hnsP i).2, if_pos rfl]
            exact relpre_settle _ (rel_pend hrel hr hc) hke.notDue
          · rw [hreq]
            exact chkAnswer_admitted hs _ _ (by simp) hi hname hl _ (by simp) (by simp) (by simp [St.accepted2xx])
          · rw [chkLogOp_eq (by intro n f h; cases h), hreq]
            simp [chkLog, St.rejected, hs.stateful, hname, firstSome]
        · -- answered at once
          have hpd' : (kind == .slow && !e.closing && wasInitialized d.st i) = false := by rw [hwas]; simpa using hpd
          apply touch true (doL (runHandler { d.st with tbl := d.st.tbl.map (lift i (startPost true kind.kind)) } i kind.kind (!e.closing)) (.postEnd (some i) false))
            (postStatus kind) (postHdr kind ((if kind.kind.isInitialize then some i else none).map sname))
            (postLog (sname i) u kind (!e.closing) false)
          · rw [answered_eq hst hnid (keepsId_startPost _ _)]
            rfl
          · exact doL_inv (runHandler_inv (step_inv hs.inv hstep) _ _ _) _
          · dsimp only [modelOp]; simp only [hsid, Option.isNone_some, Bool.false_and, Bool.false_eq_true, if_false, hstep, hst, Option.getD_some, hpd']
          · simp [postStatus_accepted]
          · cases kind <;> simp [postStatus]
          · cases kind <;> simp [postStatus]
          · cases kind <;> simp [postStatus]
          · exact chkLog_post hs.stateful (fun n h => by rw [hname] at h; cases h; rfl) (postStatus_rejected kind)
              fun l hl => postLog_mem hl
          · rw [postHdr_sname]
            split
            · exact Or.inr ⟨rfl, ‹_›, postStatus_accepted kind⟩
            · exact Or.inl rfl

theorem sim_post_ref {cfg : Cfg} {d d' : RState} {m : Mon} {o : Obs} (hs : Sim cfg d m) (ref : Ref) (href : ref ≠ .absent)
    (u : UserTok) (kind : PKind) (hop : replayOp d (.post ref u kind) = some (d', o)) :
    (monStep cfg m (.post ref u kind) o).viol = none ∧ Sim cfg d' (monStep cfg m (.post ref u kind) o).mon :=
  (post_ref_accepts hs ref href u kind).of_replay hop

end Sessions
