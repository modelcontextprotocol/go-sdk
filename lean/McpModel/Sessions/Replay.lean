import McpModel.Sessions.Obs
/-!
E7 — the typed **model replay**: every harness operation (`Op`) is translated into the label list the
real handler executes for it (request labels, then the internal labels that are enabled at quiescence:
timer callbacks whose deadline has passed, `closeDone` of closing sessions without handlers in flight)
and the model's full observation (`Obs`: status, `Mcp-Session-Id`, async completions, `h.sessions`,
`Server.Sessions()`, handler invocation log) is produced for comparison with the implementation's.

`replayOp` is what the driver runs per record; `modelTrace` (the observation trace of the model over
an operation list) is what Bridge.lean feeds to the monitor.  Core Lean only (linked into the driver).
-/
namespace Sessions

inductive PendKind where
  | slow (sid : Option Nat) (slot : Nat)
  | run (sid : Nat) (slot : Nat)   -- handler still running after its POST was abandoned by the client
  | del (sid : Nat) (fresh : Bool)   -- `fresh` (ghost): the session was not yet closing when the DELETE was accepted
  | cls (sid : Nat)
  -- POST number `n` whose body is still on its way; `user`: whom the handler will see
  | upl (sid : Nat) (n : Nat) (user : UserTok)
deriving DecidableEq, Repr

structure Pend where
  tag : Tag
  kind : PendKind
deriving DecidableEq, Repr

def doL (s : State) (l : Label) : State :=
  match step s l with
  | some (s', _) => s'
  | none => s

/-- Internal labels enabled at quiescence: expired timers fire, closes without handlers complete. -/
def settle (s : State) : State :=
  s.tbl.foldl (fun s e => doL (doL s (.timerFire e.id)) (.closeDone e.id)) s

def isLive (s : State) (i : Nat) : Bool :=
  match findSess i s.tbl with
  | some e => !e.removed
  | none => false

/-- What `Close()` of that session returns: closing the connection reported an error. -/
def closeErrOf (s : State) (i : Nat) : Bool :=
  match findSess i s.tbl with
  | some e => e.closeErr
  | none => false

def showMap (s : State) : List MapEnt :=
  (s.tbl.filter (fun e => e.inMap)).map fun e =>
    { name := sname e.id, owner := ownerOf e.owner, refs := e.refs, timer := e.timer != .nil, closing := e.closing,
      busy := e.busy + e.initBusy }

/-- Sessions that are not (or no longer) in `h.sessions` and whose idle timer is armed. -/
def showStale (s : State) : List Name :=
  (s.tbl.filter (fun e => !e.inMap && e.timer.isArmed)).map fun e => sname e.id

def showSrv (s : State) : List Name :=
  if s.cfg.stateless then List.replicate s.eph .e
  else (s.tbl.filter (fun e => !e.removed)).map fun e => sname e.id

/-- Pending DELETEs / server closes whose session has been removed complete now. -/
def completions (s : State) (pend : List Pend) : List (Tag × Nat) × List Pend :=
  pend.foldl (fun (acc : List (Tag × Nat) × List Pend) p =>
    let (done, keep) := acc
    match p.kind with
    | .del i _ => if isLive s i then (done, keep ++ [p]) else (done ++ [(p.tag, stDeleted)], keep)
    | .cls i => if isLive s i then (done, keep ++ [p])
                else (done ++ [(p.tag, if closeErrOf s i then 2 else 1)], keep)
    | .slow _ _ => (done, keep ++ [p])
    | .run _ _ => (done, keep ++ [p])
    | .upl _ _ _ => (done, keep ++ [p])) ([], [])

/-- The replay state: the model state and the harness-side bookkeeping of asynchronous requests. -/
structure RState where
  st : State
  nslow : Nat := 0
  nasync : Nat := 0
  released : List Nat := []
  pend : List Pend := []

def RState.init (cfg : Cfg) : RState := { st := Sessions.init cfg }

structure ROut where
  st : State
  status : St
  hdr : Option Name := none
  hang : Bool := false
  done : List (Tag × Nat) := []
  log : List LogEnt := []
  pend : List Pend
  nslow : Nat
  nasync : Nat
  released : List Nat

/-- `InitializeParams() != nil` of session `i` -/
def wasInitialized (s : State) (i : Nat) : Bool :=
  match findSess i s.tbl with
  | some e => e.initialized
  | none => false

/-- the handler of a POST that is answered at once runs to completion (if the message was delivered) -/
def runHandler (st1 : State) (i : Nat) (k : Kind) (deliver : Bool) : State :=
  match k with
  | .init => if deliver then doL st1 (.handlerDone i true) else st1
  | .badInit | .call => if deliver then doL st1 (.handlerDone i false) else st1
  | .notif => st1

/-- the handler invocations of a POST on a stateful endpoint that is answered at once -/
def postLog (nm : Name) (user : UserTok) (kind : PKind) (deliver creator : Bool) : List LogEnt :=
  match kind with
  | .init => if deliver then [⟨nm, .tok user, .initialize⟩] else []
  | .ping => if deliver then [⟨nm, .tok user, .ping⟩] else []
  | .notif => if deliver && !creator then [⟨nm, .tok user, .initialized⟩] else []
  | _ => []

/-- the handler invocation of a POST on a stateless endpoint that is answered at once
(a notification is handled by the temporary session before the POST is acknowledged) -/
def slLog (user : UserTok) (kind : PKind) : List LogEnt :=
  match kind with
  | .init => [⟨.e, .tok user, .initialize⟩]
  | .ping => [⟨.e, .tok user, .ping⟩]
  | .notif => [⟨.e, .tok user, .initialized⟩]
  | _ => []

def postStatus (kind : PKind) : St :=
  match kind with
  | .notif => .code 202
  | _ => .code 200

/-- only the answer to an `initialize` carries the `Mcp-Session-Id` header -/
def postHdr (kind : PKind) (hdrN : Option Name) : Option Name :=
  match kind with
  | .init | .badinit => hdrN
  | _ => none

/-- the asynchronous request that occupies handler slot `k` -/
def slotIs (k : Nat) (p : Pend) : Bool :=
  match p.kind with
  | .slow _ s => s == k
  | .run _ s => s == k
  | _ => false

/-- Replay one harness operation on the model (before the final settling). `none` = the operation has
no meaning in this configuration (`postx`, `postb`, `body` on a stateless endpoint; `postb` without a session id) or a label
that must be enabled is not (in no state the replay reaches: BridgeTotal.lean). -/
def modelOp (d : RState) (op : Op) : Option ROut :=
  let st := d.st
  let base : ROut := { st := st, status := .ok, pend := d.pend, nslow := d.nslow, nasync := d.nasync, released := d.released }
  match op with
  | .post ref user kind =>
    let sid := ref.sid st.next
    let u := user.user
    let k := kind.kind
    let slow := kind == .slow
    let nslow := if slow then d.nslow + 1 else d.nslow
    let nasync := if slow then d.nasync else d.nasync + 1
    let tag := if slow then Tag.p nslow else Tag.q nasync
    let base := { base with nslow := nslow, nasync := nasync }
    -- without a session id on a stateful endpoint: `Connect`, then the publication answers
    let first : Option (State × Resp) :=
      if sid.isNone && !st.cfg.stateless then
        match step st (.postBegin none u k) with
        | some (st0, .tau) => step st0 (.publish st.next)
        | r => r      -- `Connect` refused by the event store: answered at once, no session
      else step st (.postBegin sid u k)
    match first with
    | none => none
    | some (st1, .reject c) => some { base with st := st1, status := .code c }
    | some (st1, .storeRefused c) =>
      -- the session layer let the POST through, the transport could not open the stream for the
      -- answer: nothing reaches a handler, the POST ends (for a creating POST: failed initialize)
      if st.cfg.stateless then some { base with st := doL st1 (.postEnd none false), status := .code c }
      else some { base with st := doL st1 (.postEnd (some (sid.getD st.next)) sid.isNone), status := .code c }
    | some (st1, .forward hdr deliver) =>
      let hdrN := hdr.map sname
      if st.cfg.stateless then
        if slow then
          some { base with st := st1, status := .pending, log := [⟨.e, .tok user, .toolsCall⟩],
                           pend := d.pend ++ [⟨tag, .slow none nslow⟩] }
        else
          let st2 := doL st1 (.postEnd none false)
          some { base with st := st2, status := (if kind == .notif then .code 202 else .code 200), log := slLog user kind }
      else
        let i := sid.getD st.next
        let creator := sid.isNone
        let wasInit := wasInitialized st i
        let nm := sname i
        if slow && deliver && wasInit then
          some { base with st := st1, status := .pending, log := [⟨nm, .tok user, .toolsCall⟩],
                           pend := d.pend ++ [⟨tag, .slow (some i) nslow⟩] }
        else
          let st3 := doL (runHandler st1 i k deliver) (.postEnd (some i) creator)
          some { base with st := st3, status := postStatus kind, hdr := postHdr kind hdrN,
                           log := postLog nm user kind deliver creator }
    | some _ => none
  | .postx user kind =>
    let u := user.user
    let k := kind.kind
    let slow := kind == .slow
    let nslow := if slow then d.nslow + 1 else d.nslow
    let nasync := if slow then d.nasync else d.nasync + 1
    let base := { base with nslow := nslow, nasync := nasync }
    if st.cfg.stateless then none
    else
      let i := st.next
      match step st (.postBegin none u k) with
      | some (st0, .reject c) => some { base with st := st0, status := .code c }
      | some (st0, _) =>
        let st1 := doL (doL st0 (.serverClose i)) (.closeDone i)
        match step st1 (.publish i) with
        | some (st2, .forward hdr _) =>
          some { base with st := doL st2 (.postEnd (some i) true), status := .code 200, hdr := hdr.map sname }
        | some (st2, .storeRefused c) => some { base with st := doL st2 (.postEnd (some i) true), status := .code c }
        | _ => none
      | none => none
  | .release k =>
    if k = 0 || k > d.nslow || d.released.contains k then some { base with status := .noop }
    else
      let base := { base with status := .ok, released := d.released ++ [k] }
      match d.pend.find? (slotIs k) with
      | some p =>
        let rest := d.pend.filter (fun q => q.tag != p.tag)
        match p.kind with
        | .slow (some i) _ =>
          -- (also after `Close` has begun: the answer of a handler that was admitted before the close
          -- still passes the connection's write gate — F26 — so the POST is answered and ends)
          some { base with st := doL (doL st (.handlerDone i false)) (.postEnd (some i) false),
                           done := [(p.tag, 200)], pend := rest }
        | .slow none _ => some { base with st := doL st (.postEnd none false), done := [(p.tag, 200)], pend := rest }
        | .run i _ => some { base with st := doL st (.handlerDone i false), pend := rest }
        | _ => some base
      | none => some base
  | .abandon k =>
    let tag := Tag.p k
    match d.pend.find? (fun p => p.tag == tag) with
    | none => some { base with status := .noop }
    | some p =>
      let rest := d.pend.filter (fun q => q.tag != tag)
      match p.kind with
      | .slow (some i) slot =>
        -- the POST ends (endPOST), the handler stays in flight
        some { base with st := doL st (.postEnd (some i) false), status := .ok, done := [(tag, 200)],
                         pend := rest ++ [⟨.r k, .run i slot⟩] }
      | .slow none _ =>
        -- stateless: the POST now waits in `defer session.Close()` for its handler: nothing observable
        some { base with status := .ok }
      | _ => some { base with status := .noop }
  | .get ref user =>
    let sid := ref.sid st.next
    let u := user.user
    let base := { base with nasync := d.nasync + 1 }
    match step st (.get sid u) with
    | some (st1, .reject c) => some { base with st := st1, status := .code c }
    | some (st1, .stream) => some { base with st := st1, status := .code 200, hang := true }
    | some (st1, .storeRefused c) => some { base with st := st1, status := .code c }
    | _ => none
  | .delete ref user =>
    let sid := ref.sid st.next
    let u := user.user
    let base := { base with nasync := d.nasync + 1 }
    match step st (.delete sid u) with
    | some (st1, .reject c) => some { base with st := st1, status := .code c }
    | some (st1, .closeAccepted) =>
      let i := sid.getD 0
      let st2 := settle st1
      let fresh := match findSess i st.tbl with | some e => !e.closing | none => false
      if isLive st2 i then some { base with st := st2, status := .pending, pend := d.pend ++ [⟨.d (d.nasync + 1), .del i fresh⟩] }
      else some { base with st := st2, status := .code stDeleted }
    | _ => none
  | .other ref user =>
    let sid := ref.sid st.next
    let u := user.user
    let base := { base with nasync := d.nasync + 1 }
    match step st (.other sid u) with
    | some (st1, .reject c) => some { base with st := st1, status := .code c }
    | _ => none
  | .tick n => some { base with st := doL st (.tick n), status := .ok }
  | .fault f =>
    if st.cfg.eventStore then some { base with st := doL st (.faults f), status := .ok }
    else some { base with status := .noop }
  | .close ref =>
    match ref.sid st.next with
    | some i =>
      if !st.cfg.stateless && isLive st i then
        let st2 := settle (doL st (.serverClose i))
        if isLive st2 i then
          some { base with st := st2, nasync := d.nasync + 1, status := .pending, pend := d.pend ++ [⟨.c (d.nasync + 1), .cls i⟩] }
        else some { base with st := st2, nasync := d.nasync + 1, status := (if closeErrOf st2 i then .err else .ok) }
      else some { base with status := .noop }
    | none => some { base with status := .noop }
  | .postb ref user =>
    -- the request HEADERS arrive: `lookupSession`, `startPOST`; the transport blocks reading the body
    let base := { base with nasync := d.nasync + 1 }
    if st.cfg.stateless then none
    else
      match step st (.postHead (ref.sid st.next) user.user) with
      | some (st1, .reject c) => some { base with st := st1, status := .code c }
      | some (st1, .forward _ _) =>
        some { base with st := st1, status := .pending,
                         pend := d.pend ++ [⟨.u (d.nasync + 1), .upl ((ref.sid st.next).getD 0) (d.nasync + 1) user⟩] }
      | _ => none
  | .body n fin =>
    if st.cfg.stateless then none else
    match d.pend.find? (fun p => p.tag == Tag.u n) with
    | none => some { base with status := .noop }
    | some p =>
      if !fin then some { base with status := .ok }     -- a piece that is not the last one: the transport keeps reading
      else
        let rest := d.pend.filter (fun q => q.tag != p.tag)
        match p.kind with
        | .upl i _ user =>
          -- the body is complete: the `ping` is handed over (unless `Close` has begun), answered, the POST ends
          match step st (.postBody i .call) with
          | some (st1, .forward _ dlv) =>
            some { base with st := doL (runHandler st1 i .call dlv) (.postEnd (some i) false), status := .ok,
                             done := [(p.tag, 200)], log := (if dlv then [⟨sname i, .tok user, .ping⟩] else []), pend := rest }
          | some (st1, .storeRefused c) =>
            some { base with st := doL st1 (.postEnd (some i) false), status := .ok, done := [(p.tag, c)], pend := rest }
          | _ => some { base with status := .noop }   -- (`bodyF` refuses: `e.upl = 0`; `e.upl` and the `.upl` requests move together, which no theorem states)
        | _ => some { base with status := .noop }

/-- One record: the operation, the settling at quiescence, the completions, the snapshot. -/
def replayOp (d : RState) (op : Op) : Option (RState × Obs) :=
  match modelOp d op with
  | none => none
  | some m =>
    let st := settle m.st
    let cp := completions st m.pend
    some ({ st := st, nslow := m.nslow, nasync := m.nasync, released := m.released, pend := cp.2 },
          { status := m.status, hdr := m.hdr, hang := m.hang, done := m.done ++ cp.1,
            map := showMap st, srv := showSrv st, log := m.log, stale := showStale st })

/-- The model's answer to the harness's final sweep (everything released, every request cancelled,
every session closed by the server): nothing is stuck, nothing is left — except the dead sessions that
the unrepaired publication of F20 left in the handler's table. -/
def endLeft (d : RState) : Nat := (d.st.tbl.filter (fun e => e.inMap && e.removed)).length

/-- The observation trace of the model over an operation list: one `(op, obs)` per operation the model
can replay (an operation without meaning in the configuration is skipped, like a disabled label). -/
def modelTraceFrom (d : RState) : List Op → List (Op × Obs)
  | [] => []
  | op :: ops =>
    match replayOp d op with
    | some (d', o) => (op, o) :: modelTraceFrom d' ops
    | none => modelTraceFrom d ops

def modelTrace (cfg : Cfg) (ops : List Op) : List (Op × Obs) := modelTraceFrom (.init cfg) ops

/-- The replay state after an operation list. -/
def replayFrom (d : RState) : List Op → RState
  | [] => d
  | op :: ops =>
    match replayOp d op with
    | some (d', _) => replayFrom d' ops
    | none => replayFrom d ops

end Sessions
