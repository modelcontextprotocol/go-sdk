import McpModel.Sessions.BridgeOne
import McpModel.Sessions.BridgeOpLemmas
/-!
Bridge (E7/C11): release of a parked handler, abandoning a pending POST.
-/
namespace Sessions

theorem Sim.busy_entry {cfg : Cfg} {d : RState} {m : Mon} (hs : Sim cfg d m) {i : Nat} (hi : i < d.st.next)
    (hb : nsOf d.pend i + nrOf d.pend i ≠ 0) :
    ∃ e a, findSess i d.st.tbl = some e ∧ e.removed = false ∧
      EOk cfg d.st.now (nsOf d.pend i) (nrOf d.pend i) e ∧ Good cfg d.st.now e ∧
      monFind m.tbl (sname i) = some a ∧ ERel cfg (nsOf d.pend i) (nrOf d.pend i) e a := by
  obtain ⟨e, hfe, hk, hg, hrel⟩ := hs.entry hi
  have hr : e.removed = false := by
    cases hr : e.removed with
    | false => rfl
    | true => have := (hg.removed hr).2.1; have := hk.busy; omega
  cases ha : monFind m.tbl (sname i) with
  | none => rw [ha] at hrel; rw [hr] at hrel; cases hrel
  | some a => rw [ha] at hrel; exact ⟨e, a, hfe, hr, hk, hg, rfl, hrel⟩

theorem Sim.parked {cfg : Cfg} {d : RState} {m : Mon} (hs : Sim cfg d m) {p : Pend} (hp : p ∈ d.pend) {i slot : Nat}
    (hpk : p.kind = .slow (some i) slot) :
    i < d.st.next ∧ nsOf d.pend i ≠ 0 ∧ nsOf (d.pend.filter (fun q => q.tag != p.tag)) i = nsOf d.pend i - 1 ∧
    nrOf (d.pend.filter (fun q => q.tag != p.tag)) i = nrOf d.pend i := by
  have hns1 := nsOf_filter_tag hs.pok.tags hp i
  have hnr1 := nrOf_filter_tag hs.pok.tags hp i
  rw [show isSlowOf i p = true by simp [isSlowOf, hpk]] at hns1
  rw [show isRunOf i p = false by simp [isRunOf, hpk]] at hnr1
  simp only [if_true] at hns1
  exact ⟨hs.pok.minted p hp i (by simp [sidOf, hpk]), by omega, by omega, hnr1⟩

theorem release_accepts {cfg : Cfg} {d : RState} {m : Mon} (hs : Sim cfg d m) (k : Nat) :
    Accepts cfg d m (.release k) := by
  have hst := hs.stateful_st
  have hreq : (Op.release k).req = none := rfl
  have hnid := inv_nodupIds hs.inv
  have hba : ∀ st, bookAnswer cfg (effFaults cfg m) m.now (tagOf m (.release k)) m.tbl m.pend (.release k) st = (m.tbl, m.pend) := by
    intro st; simp [bookAnswer, hs.stateful]
  have hpw := hs.pok.weak
  by_cases hno : (k = 0 || k > d.nslow || d.released.contains k) = true
  · -- nothing to release
    have hmo : modelOp d (.release k) = some { st := d.st, status := .noop, pend := d.pend, nslow := d.nslow, nasync := d.nasync, released := d.released } := by
      dsimp only [modelOp]; rw [if_pos hno]
    refine quiet_accepts hs hmo (by simp [countersAfter, hs.nslow, hs.nasync]) (by rw [hreq]; rfl)
      (hba _) ?_ rfl rfl (by simp [chkNoId, hreq]) (Nat.le_refl _) (Nat.le_refl _)
    simp only [bookSlots]
    rw [hs.run, find_runOf_none]
    intro q hq x hx
    obtain ⟨hsl, i, hki, _⟩ := runOf_slot hx
    have := hs.pok.shape q hq
    rw [hki] at this
    intro hxk
    rw [hxk] at this
    simp only [Bool.or_eq_true, decide_eq_true_eq, List.contains_eq_mem] at hno
    rcases hno with (h | h) | h
    · omega
    · omega
    · exact this.2.2.2 (by simpa using h)
  · have hno' : (k = 0 || k > d.nslow || d.released.contains k) = false := by simpa using hno
    have hkle : k ≤ d.nslow := by
      simp only [Bool.or_eq_false_iff, decide_eq_false_iff_not] at hno'
      omega
    cases hfind : d.pend.find? (slotIs k) with
    | none =>
      -- the slot was never used by a request that is still around
      have hnoslot : ∀ q ∈ d.pend, slotOf q ≠ some k := by
        intro q hq hsl
        have := List.find?_eq_none.mp hfind q hq
        unfold slotIs at this
        unfold slotOf at hsl
        cases hqk : q.kind <;> rw [hqk] at hsl this <;> cases hsl <;> exact this (beq_self_eq_true _)
      have hmo : modelOp d (.release k) = some { st := d.st, status := .ok, pend := d.pend, nslow := d.nslow, nasync := d.nasync, released := d.released ++ [k] } := by
        dsimp only [modelOp]; rw [if_neg hno, hfind]
      have hrun0 : m.run.find? (·.1 == k) = none := by
        rw [hs.run]
        exact find_runOf_none fun q hq x hx hxk => hnoslot q hq (by rw [← hxk]; exact (runOf_slot hx).1)
      refine one_accepts (i := 0) (G := id) (tblX := m.tbl) hs hmo (Or.inl rfl) (by rw [map_lift_id 0]) (fun _ => rfl) rfl rfl rfl
        hs.inv (pendOkW_release hpw k hnoslot hkle) (fun j _ => ⟨rfl, rfl⟩) ?_ ?_
        (fun j _ => rfl) hs.mnodup hs.minted hs.idTarget (by rw [hreq]; rfl) (chkLogOp_nil _ _ _ _) (by simp [chkNoId, hreq]) rfl
        (fun h hh => by cases hh) rfl hs.faults (by simp [countersAfter, hs.nslow, hs.nasync])
      · rw [hba]
        simp only [bookSlots, hrun0]
        show bookDone _ _ _ [] = _
        simp [bookDone, hs.pend]
      · rw [hba]
        simp only [bookSlots, hrun0]
        exact hs.run
    | some p =>
      obtain ⟨hp, hpred⟩ := mem_of_find? hfind
      unfold slotIs at hpred
      have hshape := hs.pok.shape p hp
      have hsid := hs.pok.sids p hp
      cases hpk : p.kind with
      | del j f => rw [hpk] at hpred; cases hpred
      | cls j => rw [hpk] at hpred; cases hpred
      | upl j n usr => rw [hpk] at hpred; cases hpred
      | slow sid slot =>
        rw [hpk] at hpred hshape
        have hslot : slot = k := by simpa using hpred
        subst hslot
        cases sid with
        | none => simp [sidOf, hpk] at hsid
        | some i =>
          have hptag : p.tag = .p slot := hshape.1
          obtain ⟨hi, hns, e1, hnr1⟩ := hs.parked hp hpk
          obtain ⟨e, a, hfe, hr, hk, hg, ha, hrel⟩ := hs.busy_entry hi (by omega)
          have hst1 : doL (doL d.st (.handlerDone i false)) (.postEnd (some i) false) =
              { d.st with tbl := d.st.tbl.map (lift i (tryF (endPost d.st.now d.st.cfg.timeout false) ∘ tryF (handlerDoneF false))) } := by
            have h := answered_eq hst hnid (i := i) (X := id) (fun _ => rfl) .call true
            rw [map_lift_id] at h
            exact h
          have hge : (tryF (endPost d.st.now d.st.cfg.timeout false) ∘ tryF (handlerDoneF false)) e =
              endE d.st.now cfg.timeout (hdoneE e) := by
            show tryF _ (tryF _ e) = _
            rw [hdone_eq hr (by rw [hk.busy]; omega), endPost_eq (e := hdoneE e) (by show e.posts ≠ 0; rw [hk.posts]; omega) hk.creating, hs.cfg_eq]
          have hq := eokq_release hk hg hr hns
          have hmo : modelOp d (.release slot) = some { st := doL (doL d.st (.handlerDone i false)) (.postEnd (some i) false), status := .ok, done := [(p.tag, 200)], pend := d.pend.filter (fun q => q.tag != p.tag), nslow := d.nslow, nasync := d.nasync, released := d.released ++ [slot] } := by
            dsimp only [modelOp]; rw [if_neg hno, hfind]; simp only [hpk]
          have hrun0 : m.run.find? (·.1 == slot) = none := by
            rw [hs.run]
            apply find_runOf_none
            intro q hq x hx hxk
            have h1 := (runOf_slot hx).1
            rw [hxk] at h1
            have := slot_unique hs.pok.slots hq hp h1 (by simp [slotOf, hpk])
            subst this
            simp [runOf, hpk] at hx
          have hpo : pendOf p = some (p.tag, sname i) := by simp [pendOf, hpk]
          have hPslot := slot_free hs.pok.slots hp (k := slot) (by simp [slotOf, hpk]) rfl
          refine upd_accepts (F := mPostDone m.now) hs hmo (Or.inl hst1) (by rw [← hst1]; exact doL_inv (doL_inv hs.inv _) _)
            (keepsId_comp (keepsId_handlerDone _) (keepsId_endPost _ _ _)) (keepsName_mPostDone _) hfe hge
            (pendOkW_release (pendOkW_filter hpw _) slot hPslot hkle) ?_
            ?_ ?_ (by rw [e1, hnr1]; exact hq) ?_ (by rw [hreq]; rfl)
            (chkLogOp_nil _ _ _ _) (by simp [chkNoId, hreq]) rfl (fun h hh => by cases hh) rfl rfl
            (by simp [countersAfter, hs.nslow, hs.nasync])
          · exact fun j hj => counts_filter_tag hs.pok.tags hp (by simp [isSlowOf, hpk]; exact fun h => hj h.symm) (by simp [isRunOf, hpk])
          · rw [hba]
            simp only [bookSlots, hrun0]
            show bookDone1 m.now (m.tbl, m.pend) (p.tag, 200) = _
            rw [hs.pend]
            exact bookDone1_post hs.pok.tags hp hpo (Or.inl ⟨_, hptag⟩) _ _ _
          · rw [hba]
            simp only [bookSlots, hrun0]
            rw [hs.run, runOf_filter_tag_other hs.pok.tags hp (by simp [runOf, hpk])]
          · rw [ha, e1, hnr1, hs.now]
            exact relpre_settle _ (rel_endE (rel_hdoneE hrel.toERelPre) (fun hl => (hrel.cnt hl).2) hk.posts
              (fun ht => hg.refs_posts ht) (fun h => hk.tmr h) hns) hq.notDue
      | run i slot =>
        rw [hpk] at hpred hshape
        have hslot : slot = k := by simpa using hpred
        subst hslot
        have hi : i < d.st.next := hs.pok.minted p hp i (by simp [sidOf, hpk])
        have hptag : p.tag = .r slot := hshape.1
        have hns1 := nsOf_filter_tag hs.pok.tags hp i
        have hslowp : isSlowOf i p = false := by simp [isSlowOf, hpk]
        rw [hslowp] at hns1
        simp only [Bool.false_eq_true, if_false, Nat.add_zero] at hns1
        have hnr1 := nrOf_filter_tag hs.pok.tags hp i
        have hrunp : isRunOf i p = true := by simp [isRunOf, hpk]
        rw [hrunp] at hnr1
        simp only [if_true] at hnr1
        obtain ⟨e, a, hfe, hr, hk, hg, ha, hrel⟩ := hs.busy_entry hi (by omega)
        have hnr : nrOf d.pend i ≠ 0 := by omega
        have hd1 := doL_handlerDone hst hnid i false
        have hq := eokq_runDone hk hnr
        have hmo : modelOp d (.release slot) = some { st := doL d.st (.handlerDone i false), status := .ok, pend := d.pend.filter (fun q => q.tag != p.tag), nslow := d.nslow, nasync := d.nasync, released := d.released ++ [slot] } := by
          dsimp only [modelOp]; rw [if_neg hno, hfind]; simp only [hpk]
        have hro : runOf p = some (slot, sname i) := by simp [runOf, hpk]
        have hrun1 : m.run.find? (·.1 == slot) = some (slot, sname i) := by
          rw [hs.run]; exact find_runOf hs.pok.slots hp hro
        have hPslot := slot_free hs.pok.slots hp (k := slot) (by simp [slotOf, hpk]) rfl
        have e1 : nrOf (d.pend.filter (fun q => q.tag != p.tag)) i = nrOf d.pend i - 1 := by omega
        refine upd_accepts (F := mRunDec) hs hmo (Or.inl hd1) (by rw [← hd1]; exact doL_inv hs.inv _) (keepsId_handlerDone false)
          keepsName_mRunDec hfe (hdone_eq hr (by rw [hk.busy]; omega)) (pendOkW_release (pendOkW_filter hpw _) slot hPslot hkle) ?_
          ?_ ?_ (by rw [e1, hns1]; exact hq) ?_ (by rw [hreq]; rfl)
          (chkLogOp_nil _ _ _ _) (by simp [chkNoId, hreq]) rfl (fun h hh => by cases hh) rfl rfl
          (by simp [countersAfter, hs.nslow, hs.nasync])
        · exact fun j hj => counts_filter_tag hs.pok.tags hp (by simp [isSlowOf, hpk]) (by simp [isRunOf, hpk]; exact fun h => hj h.symm)
        · rw [hba]
          simp only [bookSlots, hrun1]
          show bookDone _ _ _ [] = _
          simp only [bookDone, List.foldl_nil]
          rw [hs.pend, filterMap_filter_tag_other pendOf hs.pok.tags hp (by simp [pendOf, hpk])]
          rfl
        · rw [hba]
          simp only [bookSlots, hrun1]
          rw [hs.run, runOf_filter_tag_run (k := slot) hs.pok.tags hs.pok.slots hp (by simp [slotOf, hpk])]
        · rw [ha, e1, hns1]
          exact relpre_settle _ (rel_runDec (rel_hdoneE hrel.toERelPre)) hq.notDue

theorem sim_release {cfg : Cfg} {d d' : RState} {m : Mon} {o : Obs} (hs : Sim cfg d m) (k : Nat)
    (hop : replayOp d (.release k) = some (d', o)) :
    (monStep cfg m (.release k) o).viol = none ∧ Sim cfg d' (monStep cfg m (.release k) o).mon :=
  (release_accepts hs k).of_replay hop

theorem pendOkW_append_run {P : List Pend} {ns na : Nat} {rel : List Nat} {next : Nat} (h : PendOkW P ns na rel next)
    {i k : Nat} (hi : i < next) (hk1 : 1 ≤ k) (hk2 : k ≤ ns) (hk3 : k ∉ rel) (hslot : ∀ q ∈ P, slotOf q ≠ some k) :
    PendOkW (P ++ [⟨.r k, .run i k⟩]) ns na rel next := by
  refine pendOkW_append h (Nat.le_refl _) (Nat.le_refl _) _ ?_ (fun q hq k' hk' hp => by cases hp; exact hslot q hq hk') rfl hi
    ⟨rfl, hk1, hk2, hk3⟩
  intro q hq hqt
  rcases h.tag_cases hq with ⟨s, ht | ht, hs, _⟩ | ⟨n, ht | ht | ht, _⟩ <;> rw [ht] at hqt <;> cases hqt
  exact hslot q hq hs

theorem abandon_accepts {cfg : Cfg} {d : RState} {m : Mon} (hs : Sim cfg d m) (k : Nat) :
    Accepts cfg d m (.abandon k) := by
  have hst := hs.stateful_st
  have hreq : (Op.abandon k).req = none := rfl
  have hnid := inv_nodupIds hs.inv
  have hba : ∀ st, bookAnswer cfg (effFaults cfg m) m.now (tagOf m (.abandon k)) m.tbl m.pend (.abandon k) st = (m.tbl, m.pend) := by
    intro st; simp [bookAnswer, hs.stateful]
  have hpw := hs.pok.weak
  have noop : modelOp d (.abandon k) = some { st := d.st, status := .noop, pend := d.pend, nslow := d.nslow, nasync := d.nasync, released := d.released } →
      Accepts cfg d m (.abandon k) := by
    intro hmo
    exact quiet_accepts hs hmo (by simp [countersAfter, hs.nslow, hs.nasync]) (by rw [hreq]; rfl)
      (hba _) (by simp [bookSlots]) rfl rfl (by simp [chkNoId, hreq]) (Nat.le_refl _) (Nat.le_refl _)
  cases hfind : d.pend.find? (fun p => p.tag == Tag.p k) with
  | none => apply noop; dsimp only [modelOp]; rw [hfind]
  | some p =>
    obtain ⟨hp, hpred⟩ := mem_of_find? hfind
    have hptag : p.tag = .p k := by simpa using hpred
    have hshape := hs.pok.shape p hp
    have hsid := hs.pok.sids p hp
    cases hpk : p.kind with
    | run j s => rw [hpk] at hshape; rw [hshape.1] at hptag; cases hptag
    | del j f => rw [hpk] at hshape; obtain ⟨⟨n, hn, _⟩, _⟩ := hshape; rw [hn] at hptag; cases hptag
    | cls j => rw [hpk] at hshape; obtain ⟨⟨n, hn, _⟩, _⟩ := hshape; rw [hn] at hptag; cases hptag
    | upl j n usr => rw [hpk] at hshape; rw [hshape.1] at hptag; cases hptag
    | slow sid slot =>
      rw [hpk] at hshape
      have hslot : slot = k := by have := hshape.1; rw [hptag] at this; cases this; rfl
      subst hslot
      cases sid with
      | none => simp [sidOf, hpk] at hsid
      | some i =>
        obtain ⟨hi, hns, hns1, hnr1⟩ := hs.parked hp hpk
        obtain ⟨e, a, hfe, hr, hk, hg, ha, hrel⟩ := hs.busy_entry hi (by omega)
        have hd1 := doL_postEnd hst hnid i false
        have hq := eokq_abandon hk hg hr hns
        have hmo : modelOp d (.abandon slot) = some { st := doL d.st (.postEnd (some i) false), status := .ok, done := [(Tag.p slot, 200)], pend := d.pend.filter (fun q => q.tag != Tag.p slot) ++ [⟨.r slot, .run i slot⟩], nslow := d.nslow, nasync := d.nasync, released := d.released } := by
          dsimp only [modelOp]; rw [hfind]; simp only [hpk]
        have hpo : pendOf p = some (p.tag, sname i) := by simp [pendOf, hpk]
        have hfp : m.pend.find? (·.1 == Tag.p slot) = some (p.tag, sname i) := by
          rw [hs.pend, ← hptag]; exact find_pendOf hs.pok.tags hp hpo
        have hPslot := slot_free hs.pok.slots hp (k := slot) (by simp [slotOf, hpk]) hptag
        have hrestP : d.pend.filter (fun q => q.tag != Tag.p slot) = d.pend.filter (fun q => q.tag != p.tag) := by rw [hptag]
        have hnsP : ∀ j, nsOf (d.pend.filter (fun q => q.tag != Tag.p slot) ++ [⟨.r slot, .run i slot⟩]) j =
              nsOf (d.pend.filter (fun q => q.tag != p.tag)) j ∧
            nrOf (d.pend.filter (fun q => q.tag != Tag.p slot) ++ [⟨.r slot, .run i slot⟩]) j =
              nrOf (d.pend.filter (fun q => q.tag != p.tag)) j + (if j = i then 1 else 0) := by
          intro j
          rw [hrestP]
          refine ⟨nsOf_append_other _ _ _ rfl, ?_⟩
          simp only [nrOf, List.filter_append, List.length_append]
          by_cases hji : j = i
          · simp [isRunOf, hji]
          · have : (i == j) = false := by simp; exact fun h => hji h.symm
            simp [isRunOf, hji, this]
        have e1 : nsOf (d.pend.filter (fun q => q.tag != Tag.p slot) ++ [⟨.r slot, .run i slot⟩]) i = nsOf d.pend i - 1 := by
          rw [(hnsP i).1]; exact hns1
        have e2 : nrOf (d.pend.filter (fun q => q.tag != Tag.p slot) ++ [⟨.r slot, .run i slot⟩]) i = nrOf d.pend i + 1 := by
          rw [(hnsP i).2, if_pos rfl, hnr1]
        have hkn : KeepsName (mPostDone m.now ∘ mRunInc) := fun x => by
          show (mPostDone m.now (mRunInc x)).name = x.name; rw [keepsName_mPostDone]; rfl
        refine upd_accepts (F := mPostDone m.now ∘ mRunInc) hs hmo (Or.inl hd1) (by rw [← hd1]; exact doL_inv hs.inv _)
          (keepsId_endPost d.st.now d.st.cfg.timeout false) hkn hfe
          (by rw [endPost_eq (by rw [hk.posts]; omega) hk.creating, hs.cfg_eq])
          (pendOkW_append_run (pendOkW_filter hpw _) hi hshape.2.1 hshape.2.2.1 hshape.2.2.2 hPslot) ?_ ?_ ?_
          (by rw [e1, e2]; exact hq) ?_ (by rw [hreq]; rfl) (chkLogOp_nil _ _ _ _) (by simp [chkNoId, hreq]) rfl
          (fun h hh => by cases hh) rfl rfl (by simp [countersAfter, hs.nslow, hs.nasync])
        · intro j hj
          rw [(hnsP j).1, (hnsP j).2, if_neg hj]
          exact counts_filter_tag hs.pok.tags hp (by simp [isSlowOf, hpk]; exact fun h => hj h.symm) (by simp [isRunOf, hpk])
        · rw [hba]
          simp only [bookSlots, beq_self_eq_true, if_true, hfp]
          show bookDone1 m.now (monUpd m.tbl (sname i) mRunInc, m.pend) (Tag.p slot, 200) = _
          rw [hs.pend, ← hptag, bookDone1_post hs.pok.tags hp hpo (Or.inl ⟨_, hptag⟩), monUpd_monUpd _ _ keepsName_mRunInc,
            List.filterMap_append]
          congr 1
          simp [pendOf]
        · rw [hba]
          simp only [bookSlots, beq_self_eq_true, if_true, hfp]
          rw [List.filterMap_append, hrestP, runOf_filter_tag_other hs.pok.tags hp (by simp [runOf, hpk]), hs.run]
          simp [runOf]
        · rw [ha, e1, e2, hs.now]
          have hri := rel_runInc hrel.toERelPre
          exact relpre_settle _ (rel_endE hri (fun hl => (hri.cnt hl).2) hk.posts (fun ht => hg.refs_posts ht) (fun h => hk.tmr h) hns)
            hq.notDue

theorem sim_abandon {cfg : Cfg} {d d' : RState} {m : Mon} {o : Obs} (hs : Sim cfg d m) (k : Nat)
    (hop : replayOp d (.abandon k) = some (d', o)) :
    (monStep cfg m (.abandon k) o).viol = none ∧ Sim cfg d' (monStep cfg m (.abandon k) o).mon :=
  (abandon_accepts hs k).of_replay hop

end Sessions
