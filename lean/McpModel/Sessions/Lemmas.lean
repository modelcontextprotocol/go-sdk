import McpModel.Sessions.Step
import McpModel.Base.Logic
/-!
E7: the per-entry invariant `Good`, kept by every entry function, and the global invariant `Inv`, kept by
every label; reachability (`Reach`, `reach_inv`, `exec_append`, `reach_step`, what a run keeps of `cfg`); and what `Inv` says of
the table (ids are distinct, an id finds its entry) — the facts Props.lean and the bridge start from.
-/
namespace Sessions

/-- What holds of every entry of the table in every reachable state (with the repaired publication). -/
structure Good (cfg : Cfg) (now : Nat) (e : Sess) : Prop where
  /-- once published (`timer ≠ nil`) `refs` is the number of POSTs in progress -/
  refs_posts : e.timer ≠ .nil → e.refs = e.posts
  /-- the timer is armed only by the `endPOST` that made the session idle, for `timeout` from that instant -/
  armed : ∀ d, e.timer = .armed d → e.refs = 0 ∧ d = e.idleSince + cfg.timeout
  removed : e.removed = true → e.inMap = false ∧ e.busy = 0 ∧ e.initBusy = 0 ∧ e.closing = true
  /-- an entry outside `h.sessions` has no `sessionInfo` timer: it is gone, or not yet published -/
  unpublished : e.inMap = false → e.timer = .nil ∧ (e.removed = true ∨ e.pending.isSome = true)
  pending : e.pending.isSome = true →
    e.creating = true ∧ e.inMap = false ∧ e.busy = 0 ∧ e.initBusy = 0 ∧ e.posts = 1
  no_timeout : cfg.timeout = 0 → e.timer = .nil
  creating : e.creating = true → 1 ≤ e.posts
  idle : e.idleSince ≤ now
  /-- only the completion of a close records an error, and only an event store can fail -/
  closeErr : e.closeErr = true → e.removed = true ∧ cfg.eventStore = true

theorem Good.mono {cfg : Cfg} {now now' : Nat} {e : Sess} (h : Good cfg now e) (hn : now ≤ now') :
    Good cfg now' e :=
  { h with idle := Nat.le_trans h.idle hn }

theorem good_newSess (s : State) (u : User) (k : Kind) : Good s.cfg s.now (newSess s u k) := by
  constructor <;> simp [newSess]

theorem good_failedSess (s : State) (u : User) : Good s.cfg s.now (failedSess s u) := by
  constructor <;> simp [failedSess]

/-- `Good` reads the counts of handlers in flight only to say that they are 0 on an entry that is removed or
waits for its publication; it never reads `initialized` or `upl`. -/
theorem good_handlers {cfg : Cfg} {now : Nat} {e : Sess} (h : Good cfg now e) (b ib : Nat) (i : Bool) (u : Nat)
    (hq : e.removed = true ∨ e.pending.isSome = true → b = 0 ∧ ib = 0) :
    Good cfg now { e with busy := b, initBusy := ib, initialized := i, upl := u } :=
  { h with
    removed := fun hr => ⟨(h.removed hr).1, (hq (.inl hr)).1, (hq (.inl hr)).2, (h.removed hr).2.2.2⟩
    pending := fun hp => ⟨(h.pending hp).1, (h.pending hp).2.1, (hq (.inr hp)).1, (hq (.inr hp)).2, (h.pending hp).2.2.2.2⟩ }

theorem good_inMap {cfg : Cfg} {now : Nat} {e : Sess} (h : Good cfg now e) (hm : e.inMap = true) :
    e.removed = false ∧ e.pending = none := by
  refine ⟨?_, ?_⟩
  · cases hr : e.removed with
    | false => rfl
    | true => have := (h.removed hr).1; rw [hm] at this; cases this
  · cases hp : e.pending with
    | none => rfl
    | some k => have := (h.pending (by simp [hp])).2.1; rw [hm] at this; cases this

theorem good_startTimer {cfg : Cfg} {now : Nat} {e : Sess} (h : Good cfg now e) (hm : e.inMap = true) :
    Good cfg now (startTimer e) := by
  have ⟨hr, hp⟩ := good_inMap h hm
  rw [startTimer_update]
  refine ⟨?_, ?_, ?_, ?_, ?_, ?_, ?_, h.idle, h.closeErr⟩ <;> dsimp only
  · intro ht
    have hn : e.timer ≠ .nil := fun hn => ht (by simp [hn])
    rw [if_neg hn, h.refs_posts hn]
  · -- an armed timer has `refs = 0`, so `startPOST` stops it
    intro d hd
    split at hd
    · cases hd
    · next hc => exact absurd ⟨by simp [hd], (h.armed d hd).1⟩ hc
  · intro hx; rw [hr] at hx; cases hx
  · intro hx; rw [hm] at hx; cases hx
  · intro hx; rw [hp] at hx; cases hx
  · intro hz; simp [h.no_timeout hz]
  · intro _; omega

theorem good_deliver {cfg : Cfg} {now : Nat} {e : Sess} (ok : Bool) (k : Kind) (h : Good cfg now e)
    (hm : e.inMap = true) : Good cfg now (deliver ok k e) := by
  have ⟨hr, hp⟩ := good_inMap h hm
  rw [deliver_update]
  exact good_handlers h _ _ _ _ fun hx => by rcases hx with hx | hx <;> simp [hr, hp] at hx

theorem good_startPost {cfg : Cfg} {now : Nat} {e : Sess} (ok : Bool) (k : Kind) (h : Good cfg now e)
    (hm : e.inMap = true) : Good cfg now (startPost ok k e) :=
  good_deliver ok k (good_startTimer h hm) (by rw [startTimer_update]; exact hm)

theorem good_publish {cfg : Cfg} {now : Nat} {e e' : Sess} {ok : Bool} (h : Good cfg now e)
    (he : publishF true cfg.timeout ok e = some e') : Good cfg now e' := by
  obtain ⟨k, hk, rfl⟩ := publishF_some.mp he
  have hp := h.pending (by simp [hk])
  split
  · -- closed before its publication: it is dropped, not published
    next hr =>
    have hr : e.removed = true := by simpa using hr
    exact { h with
      unpublished := fun hm => ⟨(h.unpublished hm).1, Or.inl hr⟩
      pending := fun hx => by cases hx }
  · next hr =>
    have hr : e.removed = false := by simpa using hr
    refine good_deliver ok k ?_ rfl
    unfold publishedSess
    refine ⟨?_, ?_, ?_, ?_, ?_, ?_, h.creating, h.idle, h.closeErr⟩ <;> dsimp only
    · intro ht; split at ht
      · exact absurd rfl ht
      · next hz => rw [if_neg hz, hp.2.2.2.2]
    · intro d hd; split at hd <;> cases hd
    · intro hx; rw [hr] at hx; cases hx
    · intro hx; cases hx
    · intro hx; cases hx
    · intro hz; rw [if_pos hz]

theorem good_endPost {cfg : Cfg} {now : Nat} {e e' : Sess} (creator : Bool) (h : Good cfg now e)
    (he : endPost now cfg.timeout creator e = some e') : Good cfg now e' := by
  obtain ⟨hp, hc1, hc0, rfl⟩ := endPost_some he
  -- a timer that exists counts the POSTs in progress, and an armed one counts none: here it is stopped
  have hrefs : e.timer ≠ .nil → e.refs = e.posts ∧ e.timer = .stopped := fun ht => by
    have hr := h.refs_posts ht
    cases hd : e.timer with
    | nil => exact absurd hd ht
    | stopped => exact ⟨hr, rfl⟩
    | armed d => have := (h.armed d hd).1; omega
  refine ⟨?_, ?_, ?_, ?_, ?_, ?_, ?_, ?_, ?_⟩ <;> dsimp only
  · intro ht
    have hn : e.timer ≠ .nil := fun hn => ht (by simp [hn])
    rw [if_neg hn, (hrefs hn).1]
  · intro d hd
    by_cases hn : e.timer = .nil ∨ e.refs - 1 ≠ 0
    · rw [if_pos hn] at hd; rcases hn with hn | hn
      · rw [hn] at hd; cases hd
      · rw [(hrefs (by rw [hd]; simp)).2] at hd; cases hd
    · rw [if_neg hn] at hd; rw [if_neg hn]
      have hn' : e.timer ≠ .nil := fun h' => hn (Or.inl h')
      rw [if_neg hn']
      cases hd
      exact ⟨by omega, rfl⟩
  · intro hr
    have := h.removed hr
    exact ⟨this.1, this.2.1, this.2.2.1, by simp [this.2.2.2]⟩
  · intro hm
    have := h.unpublished hm
    exact ⟨by simp [this.1], this.2⟩
  · intro hpd
    have := h.pending hpd
    cases creator
    · exact absurd this.2.2.2.2 (hc0 rfl this.1)
    · rw [(hc1 rfl).2] at hpd; cases hpd
  · intro hz
    simp [h.no_timeout hz]
  · intro hcr
    simp at hcr
    have := h.creating hcr.1
    have := hc0 hcr.2 hcr.1
    omega
  · split
    · exact h.idle
    · exact Nat.le_refl _
  · exact h.closeErr

theorem good_handlerDone {cfg : Cfg} {now : Nat} {e e' : Sess} (b : Bool) (h : Good cfg now e)
    (he : handlerDoneF b e = some e') : Good cfg now e' := by
  obtain ⟨hr, hb, rfl⟩ := handlerDoneF_some.mp he
  -- an entry with a handler in flight is neither removed nor waiting for its publication
  refine good_handlers h _ _ _ _ fun hx => ?_
  rcases hx with hx | hx
  · rw [hr] at hx; cases hx
  · have := h.pending hx; cases b <;> simp [this.2.2.1, this.2.2.2.1] at hb

theorem good_timerFire {cfg : Cfg} {now : Nat} {e e' : Sess} (h : Good cfg now e)
    (he : timerFireF now e = some e') : Good cfg now e' := by
  obtain ⟨hr, ⟨d, ht, _⟩, rfl⟩ := timerFireF_some.mp he
  have hn : e.timer ≠ .nil := by simp [ht]
  refine ⟨fun _ => h.refs_posts hn, fun d' hd => (by cases hd), fun hx => (by rw [hr] at hx; cases hx), ?_, h.pending, ?_,
    h.creating, h.idle, h.closeErr⟩
  · intro hm; exact absurd (h.unpublished hm).1 hn
  · intro hz; exact absurd (h.no_timeout hz) hn

theorem good_close {cfg : Cfg} {now : Nat} {e e' : Sess} (h : Good cfg now e)
    (he : closeF e = some e') : Good cfg now e' := by
  obtain ⟨_, rfl⟩ := closeF_some.mp he
  exact { h with removed := fun hr => ⟨(h.removed hr).1, (h.removed hr).2.1, (h.removed hr).2.2.1, rfl⟩ }

theorem good_closeDone {cfg : Cfg} {now : Nat} {e e' : Sess} {err : Bool} (h : Good cfg now e)
    (herr : err = true → cfg.eventStore = true) (he : closeDoneF err e = some e') : Good cfg now e' := by
  obtain ⟨⟨_, hcl, hb, hib⟩, rfl⟩ := closeDoneF_some.mp he
  exact ⟨fun ht => absurd rfl ht, fun d hd => (by cases hd), fun _ => ⟨rfl, hb, hib, hcl⟩,
    fun _ => ⟨rfl, Or.inl rfl⟩, fun hx => ⟨(h.pending hx).1, rfl, (h.pending hx).2.2⟩, fun _ => rfl, h.creating, h.idle,
    fun hx => ⟨rfl, herr hx⟩⟩

theorem good_upl {cfg : Cfg} {now : Nat} {e : Sess} (n : Nat) (h : Good cfg now e) : Good cfg now { e with upl := n } :=
  { h with }

theorem good_head {cfg : Cfg} {now : Nat} {e : Sess} (h : Good cfg now e) (hm : e.inMap = true) :
    Good cfg now (headF e) := good_upl _ (good_startTimer h hm)

theorem good_body {cfg : Cfg} {now : Nat} {e e' : Sess} {ok : Bool} {k : Kind} (h : Good cfg now e)
    (he : bodyF ok k e = some e') : Good cfg now e' := by
  obtain ⟨hc, rfl⟩ := bodyF_some.mp he
  by_cases hcl : e.closing = true
  · rw [deliver_closing ok k (e := { e with upl := e.upl - 1 }) hcl]; exact good_upl _ h
  · -- a removed entry is closing, so this one is neither removed nor waiting for its publication
    rw [deliver_update]
    exact good_handlers h _ _ _ _ fun hx => by
      rcases hx with hx | hx
      · exact absurd (h.removed hx).2.2.2 hcl
      · rw [hc.2] at hx; cases hx

theorem rewrites_good {s : State} {l : Label} {i : Nat} {f : Sess → Option Sess} {r : Resp} {e e' : Sess}
    (hfix : s.cfg.publishChecks = true) (hw : Rewrites s l i f r) (hf : findSess i s.tbl = some e) (he : f e = some e')
    (hg : Good s.cfg s.now e) : Good s.cfg s.now e' := by
  -- the entry `lookupSession` lets through is the one that is rewritten, and it is in the map
  have inMap : ∀ {u x}, lookup s.tbl i u = .ok x → e.inMap = true := fun hl => by
    have := lookup_ok hl; rw [hf] at this; cases this.1; exact this.2.1
  cases hw with
  | postBegin hl => cases he; exact good_startPost _ _ hg (inMap hl)
  | postHead hl => cases he; exact good_head hg (inMap hl)
  | postBody => exact good_body hg he
  | publish => rw [hfix] at he; exact good_publish hg he
  | handlerDone => exact good_handlerDone _ hg he
  | postEnd => exact good_endPost _ hg he
  | delete | serverClose => exact good_close hg he
  | timerFire => exact good_timerFire hg he
  | closeDone => exact good_closeDone hg (by intro hx; simp [State.closeFails] at hx; exact hx.1) he

/-- `fixed`: the publication checks for a closed session (F20) — every consumer of `Inv` assumes it; `ids`: the ids are 0 … `next`-1 in
table order (minted by a counter, never reused); `stateless`: a stateless endpoint keeps no table at all (what
`stateless_no_ids_405` rests on). -/
structure Inv (s : State) : Prop where
  fixed : s.cfg.publishChecks = true
  ids : s.tbl.map (·.id) = List.range s.next
  good : ∀ e ∈ s.tbl, Good s.cfg s.now e
  stateless : s.cfg.stateless = true → s.tbl = []

theorem inv_init (cfg : Cfg) (hfix : cfg.publishChecks = true) : Inv (init cfg) := by
  constructor <;> simp [init, hfix]

theorem step_inv {s s' : State} {l : Label} {r : Resp} (hi : Inv s) (h : step s l = some (s', r)) :
    Inv s' := by
  have nost : ∀ {x : State}, x.cfg = s.cfg → s.cfg.stateless = false → x.cfg.stateless = true → x.tbl = [] :=
    fun hc hst hx => by rw [hc, hst] at hx; cases hx
  cases step_does.mp h with
  | mint hst =>
    refine ⟨hi.fixed, ?_, ?_, nost rfl hst⟩
    · show (s.tbl ++ _).map _ = _
      rw [List.map_append, hi.ids, List.range_succ]
      split <;> rfl
    · intro e he
      rcases List.mem_append.mp he with he | he
      · exact hi.good e he
      · simp at he; subst he
        split
        · exact good_failedSess s _
        · exact good_newSess s _ _
  | rewrite hst hw hm =>
    obtain ⟨pre, e, post, e', h1, h2, _, _, h5, h6⟩ := modify_some hm
    refine ⟨hi.fixed, ?_, ?_, nost rfl hst⟩
    · show List.map _ _ = _
      rw [h2, ← hi.ids, h1]; simp [(rewrites_keeps hw h5).1]
    · intro x hx
      have hg : ∀ y ∈ pre ++ e :: post, Good s.cfg s.now y := by rw [← h1]; exact hi.good
      rw [show ({ s with tbl := _ } : State).tbl = _ from h2] at hx
      rcases List.mem_append.mp hx with hx | hx
      · exact hg x (List.mem_append_left _ hx)
      · cases hx with
        | head => exact rewrites_good (s := s) hi.fixed hw h6 h5 (hg e (by simp))
        | tail _ hx => exact hg x (List.mem_append_right _ (List.mem_cons_of_mem _ hx))
  | tick => exact ⟨hi.fixed, hi.ids, fun e he => (hi.good e he).mono (Nat.le_add_right _ _), hi.stateless⟩
  | faults | slPost | slEnd => exact ⟨hi.fixed, hi.ids, hi.good, hi.stateless⟩
  | _ => exact hi

theorem exec_inv {s : State} (hi : Inv s) (ls : List Label) : Inv (exec s ls) := by
  induction ls generalizing s with
  | nil => exact hi
  | cons l ls ih =>
    simp only [exec]
    split
    · rename_i s' r h; exact ih (step_inv hi h)
    · exact ih hi

def Reach (cfg : Cfg) (s : State) : Prop := ∃ ls, exec (init cfg) ls = s

theorem reach_inv {cfg : Cfg} {s : State} (h : Reach cfg s) (hfix : cfg.publishChecks = true) : Inv s := by
  obtain ⟨ls, rfl⟩ := h
  exact exec_inv (inv_init cfg hfix) ls

theorem exec_append (s : State) (a b : List Label) : exec s (a ++ b) = exec (exec s a) b := by
  induction a generalizing s with
  | nil => rfl
  | cons l a ih =>
    simp only [List.cons_append, exec]
    split <;> exact ih _

theorem reach_exec {cfg : Cfg} {s : State} (h : Reach cfg s) (ls : List Label) : Reach cfg (exec s ls) := by
  obtain ⟨l0, rfl⟩ := h
  exact ⟨l0 ++ ls, exec_append _ _ _⟩

theorem reach_step {cfg : Cfg} {s s' : State} {l : Label} {r : Resp} (h : Reach cfg s)
    (hs : step s l = some (s', r)) : Reach cfg s' := by
  have := reach_exec h [l]
  simpa [exec, hs] using this

theorem step_cfg {s s' : State} {l : Label} {r : Resp} (h : step s l = some (s', r)) : s'.cfg = s.cfg := by
  cases step_does.mp h <;> rfl

theorem exec_cfg (s : State) (ls : List Label) : (exec s ls).cfg = s.cfg := by
  induction ls generalizing s with
  | nil => rfl
  | cons l ls ih =>
    simp only [exec]
    split
    · rename_i s' r h; rw [ih, step_cfg h]
    · exact ih _

theorem reach_cfg {cfg : Cfg} {s : State} (h : Reach cfg s) : s.cfg = cfg := by
  obtain ⟨ls, rfl⟩ := h
  rw [exec_cfg]; rfl

theorem ids_lt {s : State} (hi : Inv s) : ∀ e ∈ s.tbl, e.id < s.next := by
  intro e he
  have : e.id ∈ s.tbl.map (·.id) := List.mem_map.mpr ⟨e, he, rfl⟩
  rw [hi.ids] at this
  exact List.mem_range.mp this

theorem ids_nodup {s : State} (hi : Inv s) : (s.tbl.map (·.id)).Nodup := by
  rw [hi.ids]; exact List.nodup_range

theorem inj_of_nodup_ids {l : List Sess} (h : (l.map (·.id)).Nodup) :
    ∀ a ∈ l, ∀ b ∈ l, a.id = b.id → a = b :=
  fun _ ha _ hb hab => List.eq_of_nodup_map (·.id) h ha hb hab

theorem entry_unique {s : State} (hi : Inv s) {e₁ e₂ : Sess} (h₁ : e₁ ∈ s.tbl) (h₂ : e₂ ∈ s.tbl)
    (h : e₁.id = e₂.id) : e₁ = e₂ :=
  inj_of_nodup_ids (ids_nodup hi) e₁ h₁ e₂ h₂ h

theorem findSess_mem {s : State} (hi : Inv s) {e : Sess} (he : e ∈ s.tbl) : findSess e.id s.tbl = some e := by
  cases hf : findSess e.id s.tbl with
  | none => exact absurd rfl (findSess_none hf e he)
  | some e' =>
    have := findSess_some hf
    rw [entry_unique hi this.1 he this.2]

theorem step_keeps {s s' : State} {l : Label} {r : Resp} (h : step s l = some (s', r)) :
    ∀ e ∈ s.tbl, ∃ e' ∈ s'.tbl, Keeps e e' := by
  intro e he
  cases step_does.mp h with
  | mint => exact ⟨e, List.mem_append_left _ he, .refl e⟩
  | rewrite _ hw hm =>
    obtain ⟨pre, e0, post, e0', h1, h2, _, _, h5, _⟩ := modify_some hm
    show ∃ e' ∈ _, _
    rw [h2]
    rw [h1] at he
    rcases List.mem_append.mp he with he | he
    · exact ⟨e, List.mem_append_left _ he, .refl e⟩
    · cases he with
      | head => exact ⟨e0', by simp, rewrites_keeps hw h5⟩
      | tail _ he => exact ⟨e, List.mem_append_right _ (List.mem_cons_of_mem _ he), .refl e⟩
  | _ => exact ⟨e, he, .refl e⟩

theorem exec_keeps (s : State) (ls : List Label) : ∀ e ∈ s.tbl, ∃ e' ∈ (exec s ls).tbl, Keeps e e' := by
  induction ls generalizing s with
  | nil => intro e he; exact ⟨e, he, .refl e⟩
  | cons l ls ih =>
    intro e he
    simp only [exec]
    split
    · rename_i s' r h
      obtain ⟨e1, h1, k1⟩ := step_keeps h e he
      obtain ⟨e2, h2, k2⟩ := ih s' e1 h1
      exact ⟨e2, h2, k1.trans k2⟩
    · exact ih s e he

theorem stateful_of_mem {s : State} (hi : Inv s) {e : Sess} (he : e ∈ s.tbl) :
    s.cfg.stateless = false := by
  cases hst : s.cfg.stateless with
  | false => rfl
  | true => have := hi.stateless hst; rw [this] at he; cases he

end Sessions
