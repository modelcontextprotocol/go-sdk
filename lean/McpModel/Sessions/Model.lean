import McpModel.Generated.SessionsGen
/-!
E7 — model of the session layer of `mcp.StreamableHTTPHandler` (mcp/streamable.go:47-125 sessionInfo,
refs, idle timer; 341-460 ServeHTTP, stateless path; 587-799 serveStateful*, lookupSession, creation
path, onClose removal, DELETE).  Serves C11, and the session half of C05 (closing terminates and leaves
no timer behind).

A labelled transition system.  One label = one atomic section of the Go code:

* `postBegin`   with a session id: `lookupSession` (critical section under `h.mu` + the owner check on
                the immutable `userID`) followed by `startPOST` (critical section under `timerMu`) and
                the hand-over of the message to the session's transport; without a session id:
                `GetSessionID` + `Server.Connect` — the new server session exists and is listed by
                `Server.Sessions()`, but is not yet in `h.sessions`.
* `postHead`    the request HEADERS of a POST with a session id have arrived: `lookupSession` + `startPOST`; the
                session's transport now blocks reading the body.  The POST is in progress from here (`posts`, and the
                ghost `upl` = POSTs in progress whose body is still on its way); no handler is in flight for it, so a
                close of the session can complete while it lasts.
* `postBody`    the body of such a POST is complete: the message is handed to the server session — unless its `Close`
                has begun (then the connection answers itself; on a closed session nothing is delivered at all).
                `postBegin` with a session id and a message other than `initialize` is `postHead` and `postBody` back to back
                (a body that arrives at once; `post_is_head_then_body`, BridgeBody.lean).
* `publish`     the rest of the creation path: `time.AfterFunc`, the publication critical section
                under `h.mu` (F20: it must not publish a session whose `onClose` has already run),
                `startPOST`, hand-over of the creating POST's message to the transport.
* `handlerDone` a request handler of the server session returns (for `initialize`: sets
                `InitializeParams`).
* `postEnd`     the deferred `endPOST` (under `timerMu`); for the creating POST also the deferred
                "initialization failed → `session.Close()`" check, which runs right after it.
* `get`         `lookupSession`, then the transport serves the standalone stream.
* `delete`      `lookupSession`, then `session.Close()` begins; 204 is written when it returns.
* `other`       any other HTTP method.
* `tick d`      the virtual clock advances.
* `timerFire`   the runtime runs the `AfterFunc` callback, which calls `session.Close()`.
* `serverClose` the server closes the session itself (`ServerSession.Close`, keep-alive failure).
* `closeDone`   `conn.Close()` completes (possible once no handler is in flight), the session is
                disconnected from `Server.sessions`, and `onClose` (under `h.mu`) stops the timer for
                good and deletes the map entry.  (DESIGN §5 C11: modelled as one label.)  Closing the
                connection may *report an error* (`streamableServerConn.Close` returns what
                `EventStore.SessionClosed` returned); `ServerSession.Close` hands that error to its
                caller **after** running `onClose` (structural fact `sessions.close_runs_onclose`), so
                the label removes the entry on the error outcome exactly as on the normal one and only
                records the error (`closeErr`).
* `faults f`    the environment: from now on the methods of the configured `EventStore` named by `f`
                fail.  The collaborator's outcomes are an input of the session layer, like the clock.
                With a failing `Open` the transport refuses a creating POST at `Connect` (the id was
                minted, no session ever exists) or answers a POST that carries a call with an error
                status after the session layer has let it through; with a failing `After` a GET is
                answered with an error status by the transport; a failing `Append` changes nothing
                at this layer.

Removed entries stay in the model's table, flagged `removed` (server-side session closed and
forgotten, `onClose` done); `inMap` says whether the id is a key of `h.sessions`.  Keeping the history
is what lets "an id addresses one session" and "dead after removal" be stated at all.  Ghost fields
(no counterpart in the Go code): `posts` and `upl`, which the guards of `endPost` and `bodyF` read so that only a POST that is in
progress can end or receive its body; `idleSince`, which `endPost` writes and only the invariant (`Good.armed`) reads.

F20 (fixes/F20-publish-after-close.patch, applied in /repo): a server-side close that lands between
`Connect` and the publication runs `onClose` before there is anything to delete; an unconditional
publication then leaves a dead session in `h.sessions` for ever.  `Cfg.publishChecks` selects the
publication that checks for this (`true`; the driver sets it from the regenerated
`Generated.Sessions.publishChecksClosed`) or the unconditional one (`false`, for the counter-example theorem).

Session ids are minted by `ServerOptions.GetSessionID` (default `crypto/rand.Text`): modelled as a
counter, i.e. freshness of minted ids is part of the trusted base.

Core Lean only (linked into the driver).
-/
namespace Sessions

/-- The status codes, each regenerated from mcp/streamable.go on every run (this and the nine below). -/
def stNotFound : Nat := Generated.Sessions.lookupMissing
def stForbidden : Nat := Generated.Sessions.lookupUserMismatch
def stMissingIdGet : Nat := Generated.Sessions.serveStatefulGETMissingID
def stMissingIdDelete : Nat := Generated.Sessions.serveStatefulDELETEMissingID
def stDeleted : Nat := Generated.Sessions.deleteOK
def stStatelessNotPost : Nat := Generated.Sessions.statelessNotPost
def stOtherMethod : Nat := Generated.Sessions.statefulOtherMethod
def stConnectFailed : Nat := Generated.Sessions.connectFailed
def stStoreOpenFailed : Nat := Generated.Sessions.storeOpenFailed
def stReplayFailed : Nat := Generated.Sessions.replayFailed

/-- The user id of the request's `TokenInfo`; `none` = no `TokenInfo` or an empty `UserID`. -/
abbrev User := Option Nat

/-- What a POST carries. `call` = any call other than `initialize`. -/
inductive Kind where
  | init | badInit | call | notif
deriving DecidableEq, Repr

def Kind.isInitialize : Kind → Bool
  | .init | .badInit => true
  | _ => false

/-- The POST carries a call (so the transport opens a logical stream for its answer). -/
def Kind.hasCall : Kind → Bool
  | .notif => false
  | _ => true

/-- Which methods of the configured `EventStore` currently fail (chosen by the environment). -/
structure Faults where
  closed : Bool := false     -- `SessionClosed` returns an error: closing the connection reports it
  connOpen : Bool := false   -- `Open` of the standalone stream fails: `Transport.Connect` fails
  reqOpen : Bool := false    -- `Open` of a request's stream fails
  append : Bool := false     -- `Append` fails
  after : Bool := false      -- `After` (replay) fails
deriving DecidableEq, Repr

/-- `sessionInfo.timer`: `nil` (no timeout configured, or stopped for good by `stopTimer`),
a stopped/expired timer object, or an armed one with its deadline. -/
inductive Timer where
  | nil | stopped | armed (deadline : Nat)
deriving DecidableEq, Repr

def Timer.isArmed : Timer → Bool
  | .armed _ => true
  | _ => false

structure Sess where
  id : Nat
  owner : User
  refs : Nat
  timer : Timer
  closing : Bool          -- `Close` has begun on the server session (`connClosing`)
  removed : Bool          -- server session closed, disconnected from the server, `onClose` has run
  inMap : Bool            -- the id is a key of `h.sessions`
  pending : Option Kind   -- creating POST between `Connect` and publication: its message
  initialized : Bool      -- `InitializeParams() != nil`
  creating : Bool         -- the creating POST has not ended yet
  busy : Nat              -- handlers in flight other than `initialize`
  initBusy : Nat          -- `initialize` handlers in flight
  posts : Nat             -- ghost: POSTs in progress on this session
  idleSince : Nat         -- ghost: instant at which `refs` last dropped to 0
  closeErr : Bool         -- closing the connection reported an error: what every `Close()` returns
  upl : Nat := 0          -- ghost: POSTs in progress whose body has not arrived yet (counted in `posts` too)
deriving DecidableEq, Repr

structure Cfg where
  stateless : Bool
  timeout : Nat           -- `SessionTimeout` in ms; 0 = none
  publishChecks : Bool := true  -- F20: the publication skips a session whose `onClose` has already run
  eventStore : Bool := false    -- `StreamableHTTPOptions.EventStore` is set
deriving DecidableEq, Repr

structure State where
  cfg : Cfg
  now : Nat
  next : Nat              -- number of ids minted so far
  tbl : List Sess
  eph : Nat               -- stateless: temporary sessions in progress
  faults : Faults         -- environment: the event store's methods that currently fail
deriving DecidableEq, Repr

def init (cfg : Cfg) : State := { cfg := cfg, now := 0, next := 0, tbl := [], eph := 0, faults := {} }

/-- Without an event store nothing can fail. -/
def State.connectFails (s : State) : Bool := s.cfg.eventStore && s.faults.connOpen
def State.openFails (s : State) : Bool := s.cfg.eventStore && s.faults.reqOpen
def State.closeFails (s : State) : Bool := s.cfg.eventStore && s.faults.closed
def State.replayFails (s : State) : Bool := s.cfg.eventStore && s.faults.after

inductive Label where
  | postBegin (sid : Option Nat) (u : User) (k : Kind)
  | postHead (sid : Option Nat) (u : User)
  | postBody (sid : Nat) (k : Kind)
  | handlerDone (sid : Nat) (isInit : Bool)
  | publish (sid : Nat)
  | postEnd (sid : Option Nat) (creator : Bool)
  | get (sid : Option Nat) (u : User)
  | delete (sid : Option Nat) (u : User)
  | other (sid : Option Nat) (u : User)
  | tick (d : Nat)
  | timerFire (sid : Nat)
  | serverClose (sid : Nat)
  | closeDone (sid : Nat)
  | faults (f : Faults)
deriving DecidableEq, Repr

/-- What the session layer does with a request. -/
inductive Resp where
  | tau                                           -- internal label, nothing observable
  | reject (status : Nat)                         -- answered by the handler itself
  | forward (hdr : Option Nat) (deliver : Bool)   -- POST handed to the session's transport; `hdr` = the
                                                  -- `Mcp-Session-Id` response header; `deliver` = the
                                                  -- server session still accepts the message
  | stream                                        -- GET handed to the session's transport
  | storeRefused (status : Nat)                   -- the session layer let the request through; the
                                                  -- transport answered with an error status because
                                                  -- the event store failed
  | closeAccepted                                 -- DELETE accepted: `Close()` called, then 204
deriving DecidableEq, Repr

def findSess (i : Nat) : List Sess → Option Sess
  | [] => none
  | e :: t => if e.id = i then some e else findSess i t

/-- Apply `f` to the first entry with id `i`; `none` if there is none or `f` refuses. -/
def modify (i : Nat) (f : Sess → Option Sess) : List Sess → Option (List Sess)
  | [] => none
  | e :: t =>
    if e.id = i then
      match f e with
      | some e' => some (e' :: t)
      | none => none
    else
      match modify i f t with
      | some t' => some (e :: t')
      | none => none

/-- `lookupSession`: the status to answer with, or the entry of `h.sessions`. -/
def lookup (tbl : List Sess) (i : Nat) (u : User) : Except Nat Sess :=
  match findSess i tbl with
  | none => .error stNotFound
  | some e =>
    if !e.inMap then .error stNotFound
    else match e.owner with
      | none => .ok e
      | some o => if u = some o then .ok e else .error stForbidden

/-- `sessionInfo.startPOST`: count the POST and, when it is the first one in progress, STOP the idle timer.  Nothing is started here,
whatever the Lean name says; `startPost` below is `startPOST` plus the hand-over. -/
def startTimer (e : Sess) : Sess :=
  match e.timer with
  | .nil => { e with posts := e.posts + 1 }
  | t => { e with posts := e.posts + 1, refs := e.refs + 1, timer := if e.refs = 0 then .stopped else t }

/-- Hand-over of the message to the server session.  Once `Close` has begun no handler is started any
more: the connection answers a new call itself (server closing), and that answer, like the answer of a
handler admitted before the close, passes the write gate of a connection that is shutting down
(fixes/F26-responses-pass-shutdown-gate.patch, applied in /repo): the POST is answered and ends.  `ok = false`: the transport could not
open the stream for the answer and hands nothing over. -/
def deliver (ok : Bool) (k : Kind) (e : Sess) : Sess :=
  if e.closing || !ok then e
  else match k with
    | .init => { e with initBusy := e.initBusy + 1 }
    | .badInit | .call => { e with busy := e.busy + 1 }
    | .notif => e

def startPost (ok : Bool) (k : Kind) (e : Sess) : Sess := deliver ok k (startTimer e)

/-- The request HEADERS of a POST have arrived (`lookupSession`, `startPOST`); the transport now reads the
body, which is still on its way: the POST is in progress, nothing has been handed over. -/
def headF (e : Sess) : Sess := { startTimer e with upl := e.upl + 1 }

/-- The body of such a POST is complete: the message is handed to the server session (if its `Close`
has not begun — on a session that is closed and gone nothing is delivered). -/
def bodyF (ok : Bool) (k : Kind) (e : Sess) : Option Sess :=
  if e.upl = 0 || e.pending.isSome then none
  else some (deliver ok k { e with upl := e.upl - 1 })

/-- The transport can open the stream a POST of kind `k` needs. -/
def State.accepts (s : State) (k : Kind) : Bool := !(k.hasCall && s.openFails)

/-- What the transport answers to a POST that the session layer let through. -/
def postResp (s : State) (k : Kind) (hdr : Option Nat) (closing : Bool) : Resp :=
  if s.accepts k then .forward hdr (!closing) else .storeRefused stStoreOpenFailed

/-- `endPOST`, then (creating POST only) the failed-initialize cleanup.  The guards say which POST may end: one that is in progress;
the creating POST only once, after the publication; and not another POST in the place of the creating one (third guard: with
`creating` still set and one POST in progress, that POST is the creating one). -/
def endPost (now timeout : Nat) (creator : Bool) (e : Sess) : Option Sess :=
  if e.posts = 0 then none
  else if creator && (!e.creating || e.pending.isSome) then none
  else if !creator && e.creating && e.posts = 1 then none
  else
    let e := { e with posts := e.posts - 1 }
    let e := match e.timer with
      | .nil => e
      | t =>
        if e.refs - 1 = 0 then { e with refs := e.refs - 1, timer := .armed (now + timeout), idleSince := now }
        else { e with refs := e.refs - 1, timer := t }
    if creator then
      some { e with creating := false, closing := e.closing || (!e.initialized && !e.removed) }
    else some e

def handlerDoneF (isInit : Bool) (e : Sess) : Option Sess :=
  if e.removed then none
  else if isInit then
    if e.initBusy = 0 then none else some { e with initBusy := e.initBusy - 1, initialized := true }
  else
    if e.busy = 0 then none else some { e with busy := e.busy - 1 }

def timerFireF (now : Nat) (e : Sess) : Option Sess :=
  if e.removed then none
  else match e.timer with
    | .armed d => if d ≤ now then some { e with timer := .stopped, closing := true } else none
    | _ => none

def closeF (e : Sess) : Option Sess :=
  if e.removed then none else some { e with closing := true }

/-- `err`: closing the connection reported an error.  The entry is removed all the same. -/
def closeDoneF (err : Bool) (e : Sess) : Option Sess :=
  if e.removed || !e.closing || e.busy ≠ 0 || e.initBusy ≠ 0 then none
  else some { e with removed := true, inMap := false, timer := .nil, closeErr := err }

/-- `Server.Connect` on the creation path: the server session exists, nothing is published yet.  The creating POST counts in the
ghost `posts` from here, in `refs` only from the publication (there is no `sessionInfo` before). -/
def newSess (s : State) (u : User) (k : Kind) : Sess :=
  { id := s.next, owner := u, refs := 0, timer := .nil,
    closing := false, removed := false, inMap := false, pending := some k,
    initialized := false, creating := true, busy := 0, initBusy := 0,
    posts := 1, idleSince := s.now, closeErr := false }

/-- `Transport.Connect` failed on the creation path: the id was minted, no session ever exists. -/
def failedSess (s : State) (u : User) : Sess :=
  { id := s.next, owner := u, refs := 0, timer := .nil,
    closing := true, removed := true, inMap := false, pending := none,
    initialized := false, creating := false, busy := 0, initBusy := 0,
    posts := 0, idleSince := s.now, closeErr := false }

/-- `time.AfterFunc`, insertion into `h.sessions`, `startPOST` (which stops the fresh timer). -/
def publishedSess (timeout : Nat) (e : Sess) : Sess :=
  { e with pending := none, inMap := true,
           timer := (if timeout = 0 then Timer.nil else Timer.stopped),
           refs := (if timeout = 0 then 0 else 1) }

/-- The rest of the creation path: timer, publication under `h.mu`, `startPOST`, hand-over. -/
def publishF (checks : Bool) (timeout : Nat) (ok : Bool) (e : Sess) : Option Sess :=
  match e.pending with
  | none => none
  | some k =>
    if checks && e.removed then some { e with pending := none }
    else some (deliver ok k (publishedSess timeout e))

def stepStateless (s : State) : Label → Option (State × Resp)
  | .postBegin _ _ k =>
    if s.connectFails then some (s, .reject stConnectFailed)
    else some ({ s with eph := s.eph + 1 }, postResp s k none false)
  | .faults f => some ({ s with faults := f }, .tau)
  | .postEnd none _ => if s.eph = 0 then none else some ({ s with eph := s.eph - 1 }, .tau)
  | .get _ _ => some (s, .reject stStatelessNotPost)
  | .delete _ _ => some (s, .reject stStatelessNotPost)
  | .other _ _ => some (s, .reject stStatelessNotPost)
  | .tick d => some ({ s with now := s.now + d }, .tau)
  | _ => none

def stepStateful (s : State) : Label → Option (State × Resp)
  | .postBegin none u k =>
    if s.connectFails then
      some ({ s with tbl := s.tbl ++ [failedSess s u], next := s.next + 1 }, .reject stConnectFailed)
    else
      some ({ s with tbl := s.tbl ++ [newSess s u k], next := s.next + 1 }, .tau)
  | .publish i =>
    match findSess i s.tbl with
    | some e =>
      match e.pending with
      | some k =>
        match modify i (publishF s.cfg.publishChecks s.cfg.timeout (s.accepts k)) s.tbl with
        | some t =>
          some ({ s with tbl := t }, postResp s k (if k.isInitialize then some i else none) e.closing)
        | none => none
      | none => none
    | none => none
  | .postBegin (some i) u k =>
    match lookup s.tbl i u with
    | .error st => some (s, .reject st)
    | .ok e =>
      match modify i (fun x => some (startPost (s.accepts k) k x)) s.tbl with
      | none => none
      | some t => some ({ s with tbl := t }, postResp s k (if k.isInitialize then some i else none) e.closing)
  | .postHead none _ => none     -- (a creating POST reads its body after the publication: not modelled apart)
  | .postHead (some i) u =>
    match lookup s.tbl i u with
    | .error st => some (s, .reject st)
    | .ok e =>
      match modify i (fun x => some (headF x)) s.tbl with
      | none => none
      | some t => some ({ s with tbl := t }, .forward none (!e.closing))
  | .postBody i k =>
    -- (a piecewise body that carries `initialize` is not modelled: the label is for calls and notifications)
    if k.isInitialize then none
    else match findSess i s.tbl with
    | none => none
    | some e =>
      match modify i (bodyF (s.accepts k) k) s.tbl with
      | none => none
      | some t => some ({ s with tbl := t }, postResp s k none e.closing)
  | .handlerDone i isInit =>
    match modify i (handlerDoneF isInit) s.tbl with
    | none => none
    | some t => some ({ s with tbl := t }, .tau)
  | .postEnd none _ => none
  | .postEnd (some i) creator =>
    match modify i (endPost s.now s.cfg.timeout creator) s.tbl with
    | none => none
    | some t => some ({ s with tbl := t }, .tau)
  | .get none _ => some (s, .reject stMissingIdGet)
  | .get (some i) u =>
    match lookup s.tbl i u with
    | .error st => some (s, .reject st)
    | .ok _ => if s.replayFails then some (s, .storeRefused stReplayFailed) else some (s, .stream)
  | .delete none _ => some (s, .reject stMissingIdDelete)
  | .delete (some i) u =>
    match lookup s.tbl i u with
    | .error st => some (s, .reject st)
    | .ok _ =>
      match modify i closeF s.tbl with
      | none => some (s, .closeAccepted)       -- `Close` on an already closed session is a no-op
      | some t => some ({ s with tbl := t }, .closeAccepted)
  | .other _ _ => some (s, .reject stOtherMethod)
  | .tick d => some ({ s with now := s.now + d }, .tau)
  | .timerFire i =>
    match modify i (timerFireF s.now) s.tbl with
    | none => none
    | some t => some ({ s with tbl := t }, .tau)
  | .serverClose i =>
    match modify i closeF s.tbl with
    | none => none
    | some t => some ({ s with tbl := t }, .tau)
  | .closeDone i =>
    match modify i (closeDoneF s.closeFails) s.tbl with
    | none => none
    | some t => some ({ s with tbl := t }, .tau)
  | .faults f => some ({ s with faults := f }, .tau)

/-- One label. `none` = the label is not enabled in `s`. -/
def step (s : State) (l : Label) : Option (State × Resp) :=
  if s.cfg.stateless then stepStateless s l else stepStateful s l

/-- Run a label list; labels that are not enabled are skipped (so *every* list is a schedule). -/
def exec (s : State) : List Label → State
  | [] => s
  | l :: ls =>
    match step s l with
    | some (s', _) => exec s' ls
    | none => exec s ls

/-- The responses along a run, oldest first (an internal label gives `.tau`, a disabled label nothing). -/
def trace (s : State) : List Label → List (Label × Resp)
  | [] => []
  | l :: ls =>
    match step s l with
    | some (s', r) => (l, r) :: trace s' ls
    | none => trace s ls

/-- Keys of `h.sessions`. -/
def liveIds (s : State) : List Nat := (s.tbl.filter (fun e => e.inMap)).map (·.id)

/-- `Server.Sessions()` (stateful endpoint). -/
def serverIds (s : State) : List Nat := (s.tbl.filter (fun e => !e.removed)).map (·.id)

end Sessions
