import McpModel.Sessions.Model
/-!
E7 — the typed record language of the `http` stream (C11): harness operations and observations.

The driver (Driver.lean) parses the blank-separated tokens of a record into an `Op` and the
implementation's observation string into an `Obs`; the typed model replay (Replay.lean) produces an
`Obs` for the same `Op`; the typed monitor (Monitor.lean) judges the implementation's `Obs`.  Every
field that the implementation controls has a `raw` constructor, so parsing is total and the clause
texts can print exactly what was observed; the operations (written by the harness generator) have no
`raw` escape: an operation that does not parse is answered `bad-op` by the driver.

Core Lean only (linked into the driver).
-/
namespace Sessions

/-- A session name as the harness prints it: `s<k>` = the k-th id minted by `GetSessionID`, `e` = the
empty id (temporary session of a stateless endpoint), `x<n>` = an id that was never minted (the harness
prints the hex of the raw id), anything else verbatim. -/
inductive Name where
  | s (k : Nat)
  | e
  | x (n : Nat)
  | raw (str : String)
deriving DecidableEq, Repr

/-- The identity a request is sent with: no `TokenInfo`, a `TokenInfo` with an empty `UserID`, user n. -/
inductive UserTok where
  | anon | ue | u (n : Nat)
deriving DecidableEq, Repr

/-- The user a handler saw, as printed in the invocation log. -/
inductive LogWho where
  | tok (u : UserTok)
  | raw (str : String)
deriving DecidableEq, Repr

/-- `sessionInfo.userID` as printed: `-` (empty), `u<n>`, anything else verbatim. -/
inductive Owner where
  | unbound
  | u (n : Nat)
  | raw (str : String)
deriving DecidableEq, Repr

/-- First word of an observation: an HTTP status, `pending` (no answer at quiescence), or the outcome
of a non-request operation (`ok`, `noop`, `err`). -/
inductive St where
  | code (n : Nat)
  | pending | ok | noop | err
  | raw (str : String)
deriving DecidableEq, Repr

/-- What a POST carries (harness vocabulary). `slow` = a `tools/call` whose handler blocks until released. -/
inductive PKind where
  | init | badinit | ping | notif | slow
deriving DecidableEq, Repr

/-- Session reference of an operation: none, `s<k>`, `x<n>` (never minted). -/
inductive Ref where
  | absent
  | s (k : Nat)
  | x (n : Nat)
deriving DecidableEq, Repr

/-- Tag of an asynchronous completion: `p<slot>` slow POST, `q<n>` other request, `d<n>` DELETE,
`c<n>` server-side close, `r<slot>` (model-internal: handler of an abandoned POST), `u<n>` the n-th POST
whose body arrives in pieces (`postb`). -/
inductive Tag where
  | p (n : Nat) | q (n : Nat) | d (n : Nat) | c (n : Nat) | r (n : Nat) | u (n : Nat)
  | raw (str : String)
deriving DecidableEq, Repr

inductive Op where
  | post (ref : Ref) (u : UserTok) (k : PKind)
  | postx (u : UserTok) (k : PKind)
  | release (slot : Nat)
  | abandon (slot : Nat)
  | get (ref : Ref) (u : UserTok)
  | delete (ref : Ref) (u : UserTok)
  | other (ref : Ref) (u : UserTok)
  | tick (ms : Nat)
  | fault (f : Faults)
  | close (ref : Ref)
  | postb (ref : Ref) (u : UserTok)   -- the HEADERS of a POST (a `ping`) arrive; its body follows in pieces
  | body (n : Nat) (fin : Bool)       -- a piece of the body of the n-th such POST arrives; `fin`: the last one
deriving DecidableEq, Repr

/-- JSON-RPC method of a handler invocation (only rendered, never judged). -/
inductive Method where
  | initialize | ping | initialized | toolsCall
  | raw (str : String)
deriving DecidableEq, Repr

/-- One entry of `h.sessions` as printed: `<name>[!key]/<owner>/r<refs>/t<0|1>/c<0|1>/h<handlers in flight>`. -/
structure MapEnt where
  name : Name
  badKey : Bool := false     -- the table key differs from the id of the session stored under it
  owner : Owner
  refs : Nat := 0
  timer : Bool := false
  closing : Bool := false
  busy : Nat := 0            -- request handlers of the session that have been entered and have not returned
deriving DecidableEq, Repr

/-- One handler invocation: `<session>/<user>/<method>`. -/
structure LogEnt where
  sess : Name
  who : LogWho
  method : Method
deriving DecidableEq, Repr

/-- One observation, taken at quiescence. -/
structure Obs where
  status : St
  hdr : Option Name := none          -- `Mcp-Session-Id` of the response
  hang : Bool := false               -- a GET whose stream stays open (rendered, never judged)
  done : List (Tag × Nat) := []      -- asynchronous completions with their status (HTTP status; for a `c` tag, a `Close()`: 1 = nil, 2 = error)
  map : List MapEnt := []            -- `h.sessions`
  srv : List Name := []              -- `Server.Sessions()`
  log : List LogEnt := []            -- handler invocations during this operation
  stale : List Name := []            -- sessions that have left `h.sessions` whose idle timer is armed
  closed : List Name := []           -- (`legacy` / `noids` cases only) sessions for which the event store's
                                     -- `SessionClosed` was called during this operation
deriving DecidableEq, Repr

/-! ### reading operations -/

def PKind.kind : PKind → Kind
  | .init => .init
  | .badinit => .badInit
  | .ping => .call
  | .slow => .call
  | .notif => .notif

def UserTok.user : UserTok → User
  | .anon | .ue => none
  | .u n => some n

/-- The owner a session created by this identity is bound to. -/
def UserTok.owner : UserTok → Owner
  | .anon | .ue => .unbound
  | .u n => .u n

/-- `sessionInfo.userID` of the model. -/
def ownerOf : User → Owner
  | none => .unbound
  | some n => .u n

/-- The name under which the harness prints the session an operation refers to. -/
def Ref.name : Ref → Option Name
  | .absent => none
  | .s k => some (.s k)
  | .x n => some (.x n)

/-- The model id a reference stands for: the (k-1)-th minted id, or an id that has not been minted. -/
def Ref.sid (next : Nat) : Ref → Option Nat
  | .absent => none
  | .s k => if 1 ≤ k ∧ k - 1 < next then some (k - 1) else some (next + k)
  | .x n => some (next + n)

/-- Name of the model's session `i`. -/
def sname (i : Nat) : Name := .s (i + 1)

end Sessions
