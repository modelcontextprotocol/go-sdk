import McpModel.Sessions.Lemmas
import McpModel.Sessions.Replay
import McpModel.Sessions.MonitorLemmas
/-!
Bridge (E7/C11): the simulation relation between the replay state of the model (`RState`) and the state of the monitor
(`Mon`), and the list-level normal forms it is used with (Step.lean's, with the settling and the completions).

The relation:
* `EOk`   — what holds of every entry of the model's table at quiescence (nothing pending, nothing due);
* `ERel`  — how the monitor's abstract session corresponds to the model's entry: `dead ↔ removed`,
            `live ↔ ¬removed ∧ ¬closing`, POSTs in progress = parked handlers' POSTs + POSTs whose body is on its way,
            idle deadline = the timer's;
* `PendOk`/`pendOf`/`runOf` — the monitor's tag tables are images of the harness-side list of asynchronous requests;
* `Sim`   — all of it, for a stateful endpoint; `SimSL` for a stateless one.
-/
namespace Sessions

/-- `modify_enabled`. -/
theorem modify_isSome {i : Nat} {f : Sess → Option Sess} {t : List Sess} {e e' : Sess}
    (hf : findSess i t = some e) (he : f e = some e') : ∃ t', modify i f t = some t' :=
  modify_enabled hf he

/-- Writing a state's own table back changes nothing. -/
theorem State.ext' {s : State} {t : List Sess} (h : t = s.tbl) : { s with tbl := t } = s := by
  subst h; rfl

theorem doL_modify {s : State} (hn : NodupIds s.tbl) {l : Label} {i : Nat} {f : Sess → Option Sess}
    (h : step s l = (modify i f s.tbl).map fun t => ({ s with tbl := t }, Resp.tau)) :
    doL s l = { s with tbl := s.tbl.map (lift i (tryF f)) } := by
  have hg := modify_getD (i := i) (f := f) hn
  unfold doL
  rw [h]
  cases hm : modify i f s.tbl <;> rw [hm] at hg <;> simp at hg <;> simp [← hg]

theorem doL_handlerDone {s : State} (hst : s.cfg.stateless = false) (hn : NodupIds s.tbl) (i : Nat) (b : Bool) :
    doL s (.handlerDone i b) = { s with tbl := s.tbl.map (lift i (tryF (handlerDoneF b))) } :=
  doL_modify hn (by simp only [step, hst, stepStateful]; cases modify i (handlerDoneF b) s.tbl <;> rfl)

theorem doL_postEnd {s : State} (hst : s.cfg.stateless = false) (hn : NodupIds s.tbl) (i : Nat) (c : Bool) :
    doL s (.postEnd (some i) c) = { s with tbl := s.tbl.map (lift i (tryF (endPost s.now s.cfg.timeout c))) } :=
  doL_modify hn (by simp only [step, hst, stepStateful]; cases modify i (endPost s.now s.cfg.timeout c) s.tbl <;> rfl)

theorem doL_timerFire {s : State} (hst : s.cfg.stateless = false) (hn : NodupIds s.tbl) (i : Nat) :
    doL s (.timerFire i) = { s with tbl := s.tbl.map (lift i (tryF (timerFireF s.now))) } :=
  doL_modify hn (by simp only [step, hst, stepStateful]; cases modify i (timerFireF s.now) s.tbl <;> rfl)

theorem doL_serverClose {s : State} (hst : s.cfg.stateless = false) (hn : NodupIds s.tbl) (i : Nat) :
    doL s (.serverClose i) = { s with tbl := s.tbl.map (lift i (tryF closeF)) } :=
  doL_modify hn (by simp only [step, hst, stepStateful]; cases modify i closeF s.tbl <;> rfl)

theorem doL_closeDone {s : State} (hst : s.cfg.stateless = false) (hn : NodupIds s.tbl) (i : Nat) :
    doL s (.closeDone i) = { s with tbl := s.tbl.map (lift i (tryF (closeDoneF s.closeFails))) } :=
  doL_modify hn (by simp only [step, hst, stepStateful]; cases modify i (closeDoneF s.closeFails) s.tbl <;> rfl)

theorem doL_tick (s : State) (n : Nat) : doL s (.tick n) = { s with now := s.now + n } := by
  by_cases h : s.cfg.stateless = true <;> simp [doL, step, h, stepStateless, stepStateful]

theorem doL_faults (s : State) (f : Faults) : doL s (.faults f) = { s with faults := f } := by
  by_cases h : s.cfg.stateless = true <;> simp [doL, step, h, stepStateless, stepStateful]

/-- What quiescence does to one entry: an expired timer fires, a close without handlers completes. -/
def settleE (now : Nat) (closeFails : Bool) (e : Sess) : Sess :=
  tryF (closeDoneF closeFails) (tryF (timerFireF now) e)

theorem keepsId_settleE (now : Nat) (cf : Bool) : KeepsId (settleE now cf) := by
  intro e; unfold settleE
  rw [keepsId_closeDone cf, keepsId_timerFire now]

theorem lift_lift {i : Nat} {g₁ g₂ : Sess → Sess} (h₁ : KeepsId g₁) (e : Sess) :
    lift i g₂ (lift i g₁ e) = lift i (g₂ ∘ g₁) e := by
  unfold lift
  by_cases h : e.id = i
  · simp [h, h₁ e]
  · simp [h]

/-- one round of the settling loop -/
def settle1 (s : State) (i : Nat) : State := doL (doL s (.timerFire i)) (.closeDone i)

theorem settle1_eq {s : State} (hst : s.cfg.stateless = false) (hn : NodupIds s.tbl) (i : Nat) :
    settle1 s i = { s with tbl := s.tbl.map (lift i (settleE s.now s.closeFails)) } := by
  unfold settle1
  rw [doL_timerFire hst hn]
  rw [doL_closeDone (by exact hst) (nodupIds_map (keepsId_lift (keepsId_timerFire _)) hn)]
  simp only [List.map_map]
  congr 1
  apply List.map_congr_left
  intro e _
  simp only [Function.comp]
  rw [lift_lift (keepsId_timerFire _)]
  rfl

theorem settle_fold_eq (s : State) (l : List Sess) :
    l.foldl (fun s e => doL (doL s (.timerFire e.id)) (.closeDone e.id)) s = (l.map (·.id)).foldl settle1 s := by
  induction l generalizing s with
  | nil => rfl
  | cons x l ih => simp only [List.foldl_cons, List.map_cons]; rw [ih]; rfl

theorem settle_ids_eq :
    ∀ (ids : List Nat) (s : State), s.cfg.stateless = false → NodupIds s.tbl → ids.Nodup →
      ids.foldl settle1 s =
        { s with tbl := s.tbl.map (fun x => if x.id ∈ ids then settleE s.now s.closeFails x else x) } := by
  intro ids
  induction ids with
  | nil => intro s _ _ _; simp
  | cons i ids ih =>
    intro s hst hn hids
    rw [List.foldl_cons, settle1_eq hst hn i]
    have hn' : NodupIds (s.tbl.map (lift i (settleE s.now s.closeFails))) :=
      nodupIds_map (keepsId_lift (keepsId_settleE _ _)) hn
    rw [ih { s with tbl := s.tbl.map (lift i (settleE s.now s.closeFails)) } hst hn' (List.nodup_cons.mp hids).2]
    show ({ s with tbl := (s.tbl.map (lift i (settleE s.now s.closeFails))).map _ } : State) = _
    congr 1
    rw [List.map_map]
    apply List.map_congr_left
    intro e _
    show (if (lift i (settleE s.now s.closeFails) e).id ∈ ids then settleE s.now s.closeFails (lift i (settleE s.now s.closeFails) e)
          else lift i (settleE s.now s.closeFails) e) = _
    simp only [lift]
    by_cases he : e.id = i
    · have hni : i ∉ ids := (List.nodup_cons.mp hids).1
      simp [he, keepsId_settleE s.now s.closeFails e, hni]
    · simp [he]

theorem settle_eq {s : State} (hst : s.cfg.stateless = false) (hn : NodupIds s.tbl) :
    settle s = { s with tbl := s.tbl.map (settleE s.now s.closeFails) } := by
  unfold settle
  rw [settle_fold_eq]
  rw [settle_ids_eq (s.tbl.map (·.id)) s hst hn hn]
  congr 1
  apply List.map_congr_left
  intro e he
  have : e.id ∈ s.tbl.map (·.id) := List.mem_map.mpr ⟨e, he, rfl⟩
  simp [this]

theorem settle_stateless {s : State} (ht : s.tbl = []) : settle s = s := by
  unfold settle; rw [ht]; rfl

/-- (`1` / `2`: the status the harness prints for the completion `c<n>` of a server-side close — `Close()` returned nil / the
error of closing the connection; `completions` in Replay.lean.) -/
def doneOf (s : State) (p : Pend) : Option (Tag × Nat) :=
  match p.kind with
  | .del i _ => if isLive s i then none else some (p.tag, stDeleted)
  | .cls i => if isLive s i then none else some (p.tag, if closeErrOf s i then 2 else 1)
  | _ => none

def keepOf (s : State) (p : Pend) : Bool :=
  match p.kind with
  | .del i _ => isLive s i
  | .cls i => isLive s i
  | _ => true

theorem completions_eq (s : State) (pend : List Pend) :
    completions s pend = (pend.filterMap (doneOf s), pend.filter (keepOf s)) := by
  unfold completions
  have : ∀ (l : List Pend) (d0 : List (Tag × Nat)) (k0 : List Pend),
      l.foldl (fun (acc : List (Tag × Nat) × List Pend) p =>
        let (done, keep) := acc
        match p.kind with
        | .del i _ => if isLive s i then (done, keep ++ [p]) else (done ++ [(p.tag, stDeleted)], keep)
        | .cls i => if isLive s i then (done, keep ++ [p])
                    else (done ++ [(p.tag, if closeErrOf s i then 2 else 1)], keep)
        | .slow _ _ => (done, keep ++ [p])
        | .run _ _ => (done, keep ++ [p])
        | .upl _ _ _ => (done, keep ++ [p])) (d0, k0)
      = (d0 ++ l.filterMap (doneOf s), k0 ++ l.filter (keepOf s)) := by
    intro l
    induction l with
    | nil => intro d0 k0; simp
    | cons p l ih =>
      intro d0 k0
      simp only [List.foldl_cons]
      cases hk : p.kind with
      | slow a b => simp [ih, doneOf, keepOf, hk]
      | run a b => simp [ih, doneOf, keepOf, hk]
      | upl a b c => simp [ih, doneOf, keepOf, hk]
      | del i f =>
        by_cases hl : isLive s i <;> simp [ih, doneOf, keepOf, hk, hl]
      | cls i =>
        by_cases hl : isLive s i <;> simp [ih, doneOf, keepOf, hk, hl]
  have h := this pend [] []
  simp only [List.nil_append] at h
  exact h

def isSlowOf (i : Nat) (p : Pend) : Bool :=
  match p.kind with
  | .slow (some j) _ => j == i
  | _ => false

def isRunOf (i : Nat) (p : Pend) : Bool :=
  match p.kind with
  | .run j _ => j == i
  | _ => false

/-- POSTs of session `i` whose handler is parked (slow POSTs in progress) -/
def nsOf (pend : List Pend) (i : Nat) : Nat := (pend.filter (isSlowOf i)).length

/-- handlers of session `i` that outlived their (abandoned) POST -/
def nrOf (pend : List Pend) (i : Nat) : Nat := (pend.filter (isRunOf i)).length

/-- The monitor's `pend` entry of an asynchronous request.  Three kinds have none (`bookAnswer` / `bookSlots` register none): a
DELETE accepted when the session was no longer `live` (`.del i false`: the ghost flag `fresh` records `bookAnswer`'s test), a parked
POST of a stateless endpoint (`.slow none`), a handler that outlived its POST (`.run`: it is in the `run` table, `runOf`). -/
def pendOf (p : Pend) : Option (Tag × Name) :=
  match p.kind with
  | .slow (some i) _ => some (p.tag, sname i)
  | .del i true => some (p.tag, sname i)
  | .cls i => some (p.tag, sname i)
  | .upl i _ _ => some (p.tag, sname i)
  | _ => none

def runOf (p : Pend) : Option (Nat × Name) :=
  match p.kind with
  | .run i slot => some (slot, sname i)
  | _ => none

def slotOf (p : Pend) : Option Nat :=
  match p.kind with
  | .slow _ s => some s
  | .run _ s => some s
  | _ => none

def sidOf (p : Pend) : Option Nat :=
  match p.kind with
  | .slow s _ => s
  | .run i _ => some i
  | .del i _ => some i
  | .cls i => some i
  | .upl i _ _ => some i

/-- The model's entry between the labels of an operation and the settling: nothing is waiting for
publication, no `initialize` is in flight, the counters agree with the asynchronous requests
(`ns` parked POSTs, `nr` handlers without POST; the POSTs in progress are the parked ones and those whose
body is still on its way, `e.upl`), no timer is overdue.  (`EOk` below is the quiescent one, not this.) -/
structure EOkQ (cfg : Cfg) (now ns nr : Nat) (e : Sess) : Prop where
  pending : e.pending = none
  creating : e.creating = false
  initBusy : e.initBusy = 0
  busy : e.busy = ns + nr
  posts : e.posts = ns + e.upl
  inMap : e.inMap = !e.removed
  tmr : e.removed = false → (e.timer = .nil ↔ cfg.timeout = 0)
  armed : e.removed = false → e.closing = false → e.timer ≠ .nil → e.refs = 0 → e.timer.isArmed = true
  notDue : ∀ d, e.timer = .armed d → now < d

/-- … and at quiescence: a close that could complete has completed. -/
structure EOk (cfg : Cfg) (now ns nr : Nat) (e : Sess) : Prop extends EOkQ cfg now ns nr e where
  quiet : e.closing = true → e.removed = false → ns + nr ≠ 0

/-- The monitor's abstract session `a` against the model's entry `e`, before dying sessions that left the table are reaped. -/
structure ERelPre (cfg : Cfg) (ns nr : Nat) (e : Sess) (a : MSess) : Prop where
  owner : a.owner = ownerOf e.owner
  dead : a.life = .dead → e.removed = true
  live : a.life = .live ↔ (e.removed = false ∧ e.closing = false)
  cnt : a.life = .live → a.posts = ns + e.upl ∧ a.running = nr
  idle : a.life = .live → ns = 0 → e.upl = 0 → cfg.timeout ≠ 0 → e.timer = .armed (a.idleSince + cfg.timeout)

structure ERel (cfg : Cfg) (ns nr : Nat) (e : Sess) (a : MSess) : Prop extends ERelPre cfg ns nr e a where
  removed : e.removed = true → a.life = .dead

/-- the monitor's view of one model entry: a related abstract session, or none for a session that is gone -/
def RelAt (cfg : Cfg) (pend : List Pend) (tbl : List MSess) (e : Sess) : Prop :=
  match monFind tbl (sname e.id) with
  | some a => ERel cfg (nsOf pend e.id) (nrOf pend e.id) e a
  | none => e.removed = true

def RelPreAt (cfg : Cfg) (pend : List Pend) (tbl : List MSess) (e : Sess) : Prop :=
  match monFind tbl (sname e.id) with
  | some a => ERelPre cfg (nsOf pend e.id) (nrOf pend e.id) e a
  | none => e.removed = true

theorem RelAt.pre {cfg : Cfg} {pend : List Pend} {tbl : List MSess} {e : Sess} (h : RelAt cfg pend tbl e) :
    RelPreAt cfg pend tbl e := by
  unfold RelAt at h
  unfold RelPreAt
  cases hf : monFind tbl (sname e.id) <;> rw [hf] at h
  · exact h
  · exact h.toERelPre

structure PendOk (d : RState) : Prop where
  tags : (d.pend.map (·.tag)).Nodup
  slots : (d.pend.filterMap slotOf).Nodup
  shape : ∀ p ∈ d.pend,
    match p.kind with
    | .slow _ slot => p.tag = .p slot ∧ 1 ≤ slot ∧ slot ≤ d.nslow ∧ slot ∉ d.released
    | .run _ slot => p.tag = .r slot ∧ 1 ≤ slot ∧ slot ≤ d.nslow ∧ slot ∉ d.released
    | .del i _ => (∃ n, p.tag = .d n ∧ n ≤ d.nasync) ∧ isLive d.st i = true
    | .cls i => (∃ n, p.tag = .c n ∧ n ≤ d.nasync) ∧ isLive d.st i = true
    | .upl _ n _ => p.tag = .u n ∧ n ≤ d.nasync
  minted : ∀ p ∈ d.pend, ∀ i, sidOf p = some i → i < d.st.next
  sids : ∀ p ∈ d.pend, (sidOf p).isSome = true    -- (stateful endpoint: every request belongs to a session)
  relLe : ∀ k ∈ d.released, k ≤ d.nslow

structure Sim (cfg : Cfg) (d : RState) (m : Mon) : Prop where
  cfg_eq : d.st.cfg = cfg
  inv : Inv d.st
  stateful : cfg.stateless = false
  now : m.now = d.st.now
  faults : m.faults = d.st.faults
  nslow : m.nslow = d.nslow
  nasync : m.nasync = d.nasync
  mnodup : (m.tbl.map (·.name)).Nodup
  minted : ∀ a ∈ m.tbl, ∃ i, i < d.st.next ∧ a.name = sname i
  eok : ∀ e ∈ d.st.tbl, EOk cfg d.st.now (nsOf d.pend e.id) (nrOf d.pend e.id) e
  rel : ∀ e ∈ d.st.tbl, RelAt cfg d.pend m.tbl e
  pend : m.pend = d.pend.filterMap pendOf
  run : m.run = d.pend.filterMap runOf
  pok : PendOk d

/-- stateless endpoint: the model keeps no table, the monitor learns of no session -/
structure SimSL (cfg : Cfg) (d : RState) (m : Mon) : Prop where
  cfg_eq : d.st.cfg = cfg
  inv : Inv d.st
  stateless : cfg.stateless = true
  faults : m.faults = d.st.faults
  mtbl : m.tbl = []
  mpend : m.pend = []
  mrun : m.run = []

theorem sname_inj {i j : Nat} (h : sname i = sname j) : i = j := by
  simp only [sname, Name.s.injEq] at h; omega

theorem sname_ne {i j : Nat} (h : j ≠ i) : sname j ≠ sname i := fun hh => h (sname_inj hh)

theorem ownerOf_user (u : UserTok) : ownerOf u.user = u.owner := by cases u <;> rfl

/-- `lookupSession`'s owner check is the monitor's `entitled` on the printed owner. -/
theorem entitled_ownerOf (o : User) (u : UserTok) :
    entitled (ownerOf o) u = (match o with | none => true | some x => decide (u.user = some x)) := by
  cases o with
  | none => simp [entitled, ownerOf]
  | some x =>
    cases u with
    | anon => simp [entitled, ownerOf, UserTok.user]
    | ue => simp [entitled, ownerOf, UserTok.user]
    | u n =>
      by_cases h : x = n
      · subst h; simp [entitled, ownerOf, UserTok.user]
      · have h' : n ≠ x := fun hh => h hh.symm
        simp [entitled, ownerOf, UserTok.user, h, h']

theorem effFaults_read {cfg : Cfg} {d : RState} {m : Mon} (hc : d.st.cfg = cfg) (hf : m.faults = d.st.faults) :
    (effFaults cfg m).after = d.st.replayFails ∧ (effFaults cfg m).reqOpen = d.st.openFails ∧
    (effFaults cfg m).connOpen = d.st.connectFails := by
  unfold effFaults State.replayFails State.openFails State.connectFails
  rw [hc, hf]
  cases cfg.eventStore <;> simp

/-- `ids_nodup`, read as `NodupIds`. -/
theorem inv_nodupIds {s : State} (hi : Inv s) : NodupIds s.tbl := ids_nodup hi

theorem findSess_of_lt {s : State} (hi : Inv s) {i : Nat} (h : i < s.next) : ∃ e, findSess i s.tbl = some e := by
  have : i ∈ s.tbl.map (·.id) := by rw [hi.ids]; exact List.mem_range.mpr h
  obtain ⟨e, he, hid⟩ := List.mem_map.mp this
  exact ⟨e, by rw [← hid]; exact findSess_mem hi he⟩

theorem findSess_none_of_ge {s : State} (hi : Inv s) {i : Nat} (h : s.next ≤ i) : findSess i s.tbl = none := by
  cases hf : findSess i s.tbl with
  | none => rfl
  | some e =>
    have := findSess_some hf
    have := ids_lt hi e this.1
    omega

theorem doL_inv {s : State} (hi : Inv s) (l : Label) : Inv (doL s l) := by
  unfold doL
  split
  · rename_i s' r h; exact step_inv hi h
  · exact hi

theorem settle_inv {s : State} (hi : Inv s) : Inv (settle s) := by
  unfold settle
  have : ∀ (l : List Sess) (s : State), Inv s →
      Inv (l.foldl (fun s e => doL (doL s (.timerFire e.id)) (.closeDone e.id)) s) := by
    intro l
    induction l with
    | nil => intro s h; exact h
    | cons x l ih => intro s h; exact ih _ (doL_inv (doL_inv h _) _)
  exact this _ _ hi

end Sessions
