import McpModel.Sessions.BridgeOne
import McpModel.Sessions.BridgeOpLemmas
/-!
Bridge (E7/C11): DELETE and server-side close.
-/
namespace Sessions

theorem step_delete_ok {s : State} (hst : s.cfg.stateless = false) (hn : NodupIds s.tbl) {i : Nat} {u : User} {e : Sess}
    (hl : lookup s.tbl i u = .ok e) :
    step s (.delete (some i) u) = some ({ s with tbl := s.tbl.map (lift i (tryF closeF)) }, .closeAccepted) := by
  have h := modify_getD (i := i) (f := closeF) hn
  simp only [step, hst, stepStateful, hl, Bool.false_eq_true, if_false]
  cases hm : modify i closeF s.tbl with
  | none => rw [hm] at h; simp at h; simp [← h]
  | some t => rw [hm] at h; simp at h; simp [h]

theorem pendOkW_append_close {P : List Pend} {ns na : Nat} {rel : List Nat} {next : Nat} (h : PendOkW P ns na rel next)
    (p : Pend) {i : Nat} (hi : i < next) (hk : (∃ f, p.kind = .del i f ∧ p.tag = .d (na + 1)) ∨ (p.kind = .cls i ∧ p.tag = .c (na + 1))) :
    PendOkW (P ++ [p]) ns (na + 1) rel next := by
  have hsl : slotOf p = none := by unfold slotOf; rcases hk with ⟨f, hk1, _⟩ | ⟨hk1, _⟩ <;> rw [hk1]
  have hsid : sidOf p = some i := by unfold sidOf; rcases hk with ⟨f, hk1, _⟩ | ⟨hk1, _⟩ <;> rw [hk1]
  refine pendOkW_append h (Nat.le_refl _) (Nat.le_succ _) p ?_ (fun q _ k _ => by rw [hsl]; simp) hsid hi ?_
  · intro q hq hqt
    rcases h.tag_cases hq with ⟨s, ht | ht, _⟩ | ⟨n, ht | ht | ht, hle, _⟩ <;> rw [ht] at hqt <;>
      rcases hk with ⟨f, _, hk2⟩ | ⟨_, hk2⟩ <;> rw [hk2] at hqt <;> cases hqt <;> omega
  · rcases hk with ⟨f, hk1, hk2⟩ | ⟨hk1, hk2⟩ <;> rw [hk1] <;> exact ⟨_, hk2, Nat.le_refl _⟩

theorem close_settled {cfg : Cfg} {now ns nr : Nat} {cf : Bool} {e : Sess} (hk : EOk cfg now ns nr e) (hr : e.removed = false) :
    (settleE now cf (closeE e)).removed = decide (ns + nr = 0) ∧ (settleE now cf (closeE e)).owner = e.owner := by
  have hf := settleE_removed (now := now) (cf := cf) (eokq_close hk).notDue (show (closeE e).removed = false from hr)
  refine ⟨?_, hf.2.2.2.1⟩
  rw [hf.1]
  simp only [closeE, hk.busy, hk.initBusy]
  by_cases h1 : ns = 0 <;> by_cases h2 : nr = 0 <;> simp [h1, h2]

theorem closeG_facts {cfg : Cfg} {now ns nr : Nat} {cf : Bool} {e : Sess} (hk : EOk cfg now ns nr e) (hr : e.removed = false) :
    let e' := (settleE now cf ∘ tryF closeF) e
    e' = settleE now cf (closeE e) ∧ EOk cfg now ns nr e' ∧ e'.removed = decide (ns + nr = 0) ∧ e'.id = e.id ∧
    e'.owner = e.owner ∧ (e'.removed = false → e'.closing = true) := by
  have hf := settleE_removed (now := now) (cf := cf) (eokq_close hk).notDue (show (closeE e).removed = false from hr)
  dsimp only [Function.comp]
  rw [close_eq hr]
  exact ⟨rfl, eok_settle cf (eokq_close hk), (close_settled hk hr).1, hf.2.2.1, hf.2.2.2.1, fun _ => hf.2.1⟩

theorem isLive_after_close {cfg : Cfg} {d : RState} {m : Mon} (hs : Sim cfg d m) {i : Nat} {e : Sess}
    (hfe : findSess i d.st.tbl = some e) (hr : e.removed = false) :
    isLive { d.st with tbl := d.st.tbl.map (lift i (settleE d.st.now d.st.closeFails ∘ tryF closeF)) } i =
      !decide (nsOf d.pend i + nrOf d.pend i = 0) := by
  have hk := hs.eok e (findSess_some hfe).1
  rw [(findSess_some hfe).2] at hk
  have hf2 : findSess i (d.st.tbl.map (lift i (settleE d.st.now d.st.closeFails ∘ tryF closeF))) =
      some (settleE d.st.now d.st.closeFails (closeE e)) := by
    rw [findSess_map_lift (keepsId_comp keepsId_close (keepsId_settleE _ _)), if_pos rfl, hfe, ← close_eq hr]; rfl
  rw [isLive_eq hf2, (close_settled hk hr).1]

theorem rel_closed {cfg : Cfg} {now ns nr : Nat} {cf : Bool} {e : Sess} {a : MSess} (hk : EOk cfg now ns nr e)
    (hr : e.removed = false) (ho : a.owner = ownerOf e.owner) (hbz : ns + nr = 0) :
    ERelPre cfg ns nr (settleE now cf (closeE e)) (mDead a) := by
  obtain ⟨g3, g5⟩ := close_settled (cf := cf) hk hr
  have hrm : (settleE now cf (closeE e)).removed = true := by rw [g3]; simp [hbz]
  exact rel_nonlive (by rw [g5]; exact ho) (by simp [mDead]) (fun _ => hrm) (Or.inl hrm)

theorem delete_accepts {cfg : Cfg} {d : RState} {m : Mon} (hs : Sim cfg d m) (ref : Ref) (u : UserTok) :
    Accepts cfg d m (.delete ref u) := by
  have hst := hs.stateful_st
  have hcnt : ∀ st, countersAfter m (.delete ref u) st = (d.nslow, d.nasync + 1) := by
    intro st; simp [countersAfter, hs.nslow, hs.nasync]
  have hreq : (Op.delete ref u).req = some { verb := .delete, ref := ref, user := u } := rfl
  have refused : ∀ (c : Nat), (c = 400 ∨ c = 403 ∨ c = 404) →
      modelOp d (.delete ref u) = some { st := d.st, status := .code c, pend := d.pend, nslow := d.nslow, nasync := d.nasync + 1, released := d.released } →
      chkAnswer cfg (effFaults cfg m) m.tbl { verb := .delete, ref := ref, user := u } (.code c) = none →
      Accepts cfg d m (.delete ref u) := by
    intro c hc hmo hans
    exact quiet_accepts hs hmo (hcnt _) (by rw [hreq]; exact hans)
      (bookAnswer_rejected _ _ _ _ _ _ _ hc) rfl rfl rfl
      (by simp [chkNoId, hreq]) (Nat.le_refl _) (Nat.le_succ _)
  rcases ref_lookup hs ref u with hr | ⟨i, n, hsid, hname, hlk⟩
  · subst hr
    apply refused 400 (Or.inl rfl)
    · dsimp only [modelOp]; simp [Ref.sid, step, hst, stepStateful, stMissingIdDelete, Generated.Sessions.serveStatefulDELETEMissingID]
    · simp [chkAnswer, hs.stateful, Ref.name]
  · cases hl : lookup d.st.tbl i u.user with
    | error c =>
      rw [hl] at hlk
      exact refused c (Or.inr hlk.1) (by dsimp only [modelOp]; simp [hsid, step, hst, stepStateful, hl])
        (hlk.2 _ _ rfl rfl (by simp))
    | ok e =>
      rw [hl] at hlk
      obtain ⟨hi, rfl⟩ := hlk
      have hlm := lookup_mon hs hi u
      rw [hl] at hlm
      obtain ⟨hfe, hr, a, ha, hnd, hent, hrel⟩ := hlm
      have hk := hs.eok e (findSess_some hfe).1
      rw [(findSess_some hfe).2] at hk
      have hstep := step_delete_ok hst (inv_nodupIds hs.inv) hl
      have hsettle := settle_lift hs.inv hst (i := i) keepsId_close (fun e he _ => hs.settleE_id _ _ rfl e he)
      have hlive2 := isLive_after_close hs hfe hr
      have hans : chkAnswerO cfg (effFaults cfg m) m.tbl (Op.delete ref u).req (.code 204) = none ∧
          chkAnswerO cfg (effFaults cfg m) m.tbl (Op.delete ref u).req .pending = none := by
        rw [hreq]
        constructor <;> exact chkAnswer_admitted hs _ _ (by simp) hi hname hl _ (by simp) (by simp) (by simp [St.accepted2xx])
      by_cases hbz : nsOf d.pend i + nrOf d.pend i = 0
      · -- the close completes at once: 204
        have hnc : e.closing = false := by
          cases hc : e.closing with
          | false => rfl
          | true => exact absurd hbz (hk.quiet hc hr)
        have hlv := hrel.life_live hr hnc
        have hmo : modelOp d (.delete ref u) = some { st := { d.st with tbl := d.st.tbl.map (lift i (settleE d.st.now d.st.closeFails ∘ tryF closeF)) }, status := .code 204, pend := d.pend, nslow := d.nslow, nasync := d.nasync + 1, released := d.released } := by
          dsimp only [modelOp]; simp only [hsid, hstep, Option.getD_some, hsettle, hlive2, hbz]
          simp [stDeleted, Generated.Sessions.deleteOK]
        have hba : bookAnswer cfg (effFaults cfg m) m.now (tagOf m (.delete ref u)) m.tbl m.pend (.delete ref u) (.code 204) =
            (monUpd m.tbl (sname i) mDead, m.pend) := by
          simp [bookAnswer, hs.stateful, hname, ha, hlv, hent]; rfl
        refine upd_accepts (F := mDead) hs hmo (Or.inr rfl) (step_inv hs.inv hstep) keepsId_close keepsName_mDead hfe (close_eq hr)
          (pendOkW_counters hs.pok.weak (Nat.le_refl _) (Nat.le_succ _)) (fun j _ => ⟨rfl, rfl⟩)
          ?_ ?_ (eokq_close hk) ?_ hans.1 (chkLogOp_nil _ _ _ _) (by simp [chkNoId, hreq]) rfl
          (fun h hh => by cases hh) rfl rfl (hcnt _)
        · rw [hba]; show bookDone _ _ _ [] = _; simp [bookSlots, bookDone, hs.pend]
        · rw [hba]; simp [bookSlots, hs.run]
        · rw [ha]; exact rel_closed hk hr hrel.owner hbz
      · -- handlers are still running: the DELETE waits
        have hmo : modelOp d (.delete ref u) = some { st := { d.st with tbl := d.st.tbl.map (lift i (settleE d.st.now d.st.closeFails ∘ tryF closeF)) }, status := .pending, pend := d.pend ++ [⟨Tag.d (d.nasync + 1), PendKind.del i (!e.closing)⟩], nslow := d.nslow, nasync := d.nasync + 1, released := d.released } := by
          dsimp only [modelOp]; simp only [hsid, hstep, Option.getD_some, hsettle, hlive2, hbz, hfe]
          simp
        have hba : bookAnswer cfg (effFaults cfg m) m.now (tagOf m (.delete ref u)) m.tbl m.pend (.delete ref u) .pending =
            (monUpd m.tbl (sname i) dyingF,
             (d.pend ++ [Pend.mk (Tag.d (d.nasync + 1)) (PendKind.del i (!e.closing))]).filterMap pendOf) := by
          cases hc : e.closing with
          | false =>
            have hlv := hrel.life_live hr hc
            simp [bookAnswer, hs.stateful, hname, ha, hlv, hent, tagOf, hs.nasync, hs.pend, pendOf]
            exact monUpd_congr_at hs.mnodup ha (by simp [dyingF, hlv, mDying])
          | true =>
            have hlv := hrel.life_dying hr hc
            simp [bookAnswer, hs.stateful, hname, ha, hlv, hent, hs.pend, pendOf]
            exact (monUpd_id_at hs.mnodup ha (by simp [dyingF, hlv])).symm
        have hnsP : ∀ j, nsOf (d.pend ++ [⟨Tag.d (d.nasync + 1), PendKind.del i (!e.closing)⟩]) j = nsOf d.pend j ∧
            nrOf (d.pend ++ [⟨Tag.d (d.nasync + 1), PendKind.del i (!e.closing)⟩]) j = nrOf d.pend j :=
          fun j => ⟨nsOf_append_other _ _ _ rfl, nrOf_append_other _ _ _ rfl⟩
        refine upd_accepts hs hmo (Or.inr rfl) (step_inv hs.inv hstep) keepsId_close keepsName_dyingF hfe (close_eq hr)
          (pendOkW_append_close hs.pok.weak ⟨Tag.d (d.nasync + 1), PendKind.del i (!e.closing)⟩ hi (Or.inl ⟨_, rfl, rfl⟩))
          (fun j _ => hnsP j) ?_ ?_ (by rw [(hnsP i).1, (hnsP i).2]; exact eokq_close hk) ?_ hans.2 (chkLogOp_nil _ _ _ _)
          (by simp [chkNoId, hreq]) rfl (fun h hh => by cases hh) rfl rfl (hcnt _)
        · rw [hba]; show bookDone _ _ _ [] = _; simp [bookSlots, bookDone]
        · rw [hba]
          simp only [bookSlots]
          rw [hs.run, List.filterMap_append]
          simp [runOf]
        · rw [ha, (hnsP i).1, (hnsP i).2]
          exact relpre_settle _ (rel_closing hrel.toERelPre hr) (eokq_close hk).notDue

theorem sim_delete {cfg : Cfg} {d d' : RState} {m : Mon} {o : Obs} (hs : Sim cfg d m) (ref : Ref) (u : UserTok)
    (hop : replayOp d (.delete ref u) = some (d', o)) :
    (monStep cfg m (.delete ref u) o).viol = none ∧ Sim cfg d' (monStep cfg m (.delete ref u) o).mon :=
  (delete_accepts hs ref u).of_replay hop

theorem close_accepts {cfg : Cfg} {d : RState} {m : Mon} (hs : Sim cfg d m) (ref : Ref) :
    Accepts cfg d m (.close ref) := by
  have hst := hs.stateful_st
  have hreq : (Op.close ref).req = none := rfl
  have noop : modelOp d (.close ref) = some { st := d.st, status := .noop, pend := d.pend, nslow := d.nslow, nasync := d.nasync, released := d.released } →
      Accepts cfg d m (.close ref) := by
    intro hmo
    refine quiet_accepts hs hmo (by simp [countersAfter, hs.nslow, hs.nasync]) (by rw [hreq]; rfl)
      ?_ rfl rfl rfl (by simp [chkNoId, hreq]) (Nat.le_refl _) (Nat.le_refl _)
    simp only [bookAnswer, hs.stateful, Bool.false_eq_true, if_false]
    cases ref.name with
    | none => rfl
    | some n => simp
  rcases ref_cases hs ref with ⟨hr, hsid, hname⟩ | ⟨i, hi, hsid, hname⟩ | ⟨j, n, hsid, hj, hname, hnone⟩
  · apply noop; dsimp only [modelOp]; simp [hsid]
  · obtain ⟨e, hfe, hk, _, hrel0⟩ := hs.entry hi
    cases hr : e.removed with
    | true => apply noop; dsimp only [modelOp]; simp [hsid, isLive, hfe, hr]
    | false =>
      cases ha : monFind m.tbl (sname i) with
      | none => rw [ha] at hrel0; rw [hr] at hrel0; cases hrel0
      | some a =>
      rw [ha] at hrel0
      have hrel : ERel cfg (nsOf d.pend i) (nrOf d.pend i) e a := hrel0
      have hdoL := doL_serverClose hst (inv_nodupIds hs.inv) i
      have hsettle := settle_lift hs.inv hst (i := i) keepsId_close (fun e he _ => hs.settleE_id _ _ rfl e he)
      have hinv1 : Inv { d.st with tbl := d.st.tbl.map (lift i (tryF closeF)) } := by rw [← hdoL]; exact doL_inv hs.inv _
      have hlive2 := isLive_after_close hs hfe hr
      have hlive1 : isLive d.st i = true := by rw [isLive_eq hfe, hr]; rfl
      by_cases hbz : nsOf d.pend i + nrOf d.pend i = 0
      · -- the close completes at once
        have hmo : ∃ stt, (stt = St.ok ∨ stt = St.err) ∧ modelOp d (.close ref) = some { st := { d.st with tbl := d.st.tbl.map (lift i (settleE d.st.now d.st.closeFails ∘ tryF closeF)) }, status := stt, pend := d.pend, nslow := d.nslow, nasync := d.nasync + 1, released := d.released } := by
          dsimp only [modelOp]; simp only [hsid, hst, hlive1, hdoL, hsettle, hlive2, hbz]
          cases closeErrOf { d.st with tbl := d.st.tbl.map (lift i (settleE d.st.now d.st.closeFails ∘ tryF closeF)) } i
          · exact ⟨.ok, Or.inl rfl, by simp⟩
          · exact ⟨.err, Or.inr rfl, by simp⟩
        obtain ⟨stt, hstt, hmo⟩ := hmo
        have hba : bookAnswer cfg (effFaults cfg m) m.now (tagOf m (.close ref)) m.tbl m.pend (.close ref) stt =
            (monUpd m.tbl (sname i) mDead, m.pend) := by
          rcases hstt with h | h <;> subst h <;> simp [bookAnswer, hs.stateful, hname] <;> rfl
        have hne : stt ≠ .noop := by rcases hstt with h | h <;> subst h <;> simp
        refine upd_accepts (F := mDead) hs hmo (Or.inr rfl) hinv1 keepsId_close keepsName_mDead hfe (close_eq hr)
          (pendOkW_counters hs.pok.weak (Nat.le_refl _) (Nat.le_succ _)) (fun j _ => ⟨rfl, rfl⟩)
          ?_ ?_ (eokq_close hk) ?_ (by rw [hreq]; rfl) (chkLogOp_nil _ _ _ _)
          (by simp [chkNoId, hreq]) rfl (fun h hh => by cases hh) rfl rfl (by simp [countersAfter, hne, hs.nslow, hs.nasync])
        · rw [hba]; show bookDone _ _ _ [] = _; simp [bookSlots, bookDone, hs.pend]
        · rw [hba]; simp [bookSlots, hs.run]
        · rw [ha]; exact rel_closed hk hr hrel.owner hbz
      · -- handlers are still running: `Close()` waits
        have hmo : modelOp d (.close ref) = some { st := { d.st with tbl := d.st.tbl.map (lift i (settleE d.st.now d.st.closeFails ∘ tryF closeF)) }, status := .pending, pend := d.pend ++ [⟨Tag.c (d.nasync + 1), PendKind.cls i⟩], nslow := d.nslow, nasync := d.nasync + 1, released := d.released } := by
          dsimp only [modelOp]; simp only [hsid, hst, hlive1, hdoL, hsettle, hlive2, hbz]
          simp
        have hba : bookAnswer cfg (effFaults cfg m) m.now (tagOf m (.close ref)) m.tbl m.pend (.close ref) .pending =
            (monUpd m.tbl (sname i) dyingF, (d.pend ++ [Pend.mk (Tag.c (d.nasync + 1)) (PendKind.cls i)]).filterMap pendOf) := by
          simp [bookAnswer, hs.stateful, hname, tagOf, hs.nasync, hs.pend, pendOf]
          congr 1
        have hnsP : ∀ j, nsOf (d.pend ++ [⟨Tag.c (d.nasync + 1), PendKind.cls i⟩]) j = nsOf d.pend j ∧
            nrOf (d.pend ++ [⟨Tag.c (d.nasync + 1), PendKind.cls i⟩]) j = nrOf d.pend j :=
          fun j => ⟨nsOf_append_other _ _ _ rfl, nrOf_append_other _ _ _ rfl⟩
        refine upd_accepts hs hmo (Or.inr rfl) hinv1 keepsId_close keepsName_dyingF hfe (close_eq hr)
          (pendOkW_append_close hs.pok.weak ⟨Tag.c (d.nasync + 1), PendKind.cls i⟩ hi (Or.inr ⟨rfl, rfl⟩))
          (fun j _ => hnsP j) ?_ ?_ (by rw [(hnsP i).1, (hnsP i).2]; exact eokq_close hk) ?_ (by rw [hreq]; rfl)
          (chkLogOp_nil _ _ _ _) (by simp [chkNoId, hreq]) rfl (fun h hh => by cases hh) rfl rfl
          (by simp [countersAfter, hs.nslow, hs.nasync])
        · rw [hba]; show bookDone _ _ _ [] = _; simp [bookSlots, bookDone]
        · rw [hba]
          simp only [bookSlots]
          rw [hs.run, List.filterMap_append]
          simp [runOf]
        · rw [ha, (hnsP i).1, (hnsP i).2]
          exact relpre_settle _ (rel_closing hrel.toERelPre hr) (eokq_close hk).notDue
  · apply noop
    have hf := findSess_none_of_ge hs.inv hj
    dsimp only [modelOp]; simp [hsid, isLive, hf]

theorem sim_close {cfg : Cfg} {d d' : RState} {m : Mon} {o : Obs} (hs : Sim cfg d m) (ref : Ref)
    (hop : replayOp d (.close ref) = some (d', o)) :
    (monStep cfg m (.close ref) o).viol = none ∧ Sim cfg d' (monStep cfg m (.close ref) o).mon :=
  (close_accepts hs ref).of_replay hop

end Sessions
