import McpModel.Sessions.Model
/-!
E7 — how a label acts on the table.

`modify` rewrites the first entry with the given id; when ids are distinct (`NodupIds`, a consequence of the invariant:
`ids_nodup`, Lemmas.lean) that is a `List.map` of `lift i (tryF f)`, enabled or not.  Each entry function is a guard and a record
update (`…_update`, `…_some`; field by field, for `simp`: `…_fields`, `…_id`, `keepsId_…`).  `Keeps` is what no entry function undoes: the id, the owner, `removed`, `closing`, and `Quiet`
(closing with no handler in flight); it is a preorder, and every entry function is a composition of updates that keep it.
`Does` is the transition relation — the outcomes of `step`, state and response written out — and `step_does` says that
`step` computes it: statements about one label invert it by cases or apply one of its constructors.
-/
namespace Sessions

theorem findSess_some {i : Nat} {t : List Sess} {e : Sess} (h : findSess i t = some e) :
    e ∈ t ∧ e.id = i := by
  induction t with
  | nil => simp [findSess] at h
  | cons x t ih =>
    simp only [findSess] at h
    split at h
    · cases h; exact ⟨List.mem_cons_self, by assumption⟩
    · have := ih h; exact ⟨List.mem_cons_of_mem _ this.1, this.2⟩

theorem findSess_none {i : Nat} {t : List Sess} (h : findSess i t = none) : ∀ e ∈ t, e.id ≠ i := by
  induction t with
  | nil => intro e he; cases he
  | cons x t ih =>
    simp only [findSess] at h
    split at h
    · cases h
    · intro e he
      cases he with
      | head => assumption
      | tail _ hm => exact ih h e hm

theorem modify_some {i : Nat} {f : Sess → Option Sess} {t t' : List Sess} (h : modify i f t = some t') :
    ∃ pre e post e', t = pre ++ e :: post ∧ t' = pre ++ e' :: post ∧ (∀ x ∈ pre, x.id ≠ i) ∧
      e.id = i ∧ f e = some e' ∧ findSess i t = some e := by
  induction t generalizing t' with
  | nil => simp [modify] at h
  | cons x t ih =>
    simp only [modify] at h
    split at h
    · rename_i hx
      split at h
      · rename_i e' he'
        cases h
        exact ⟨[], x, t, e', rfl, rfl, (by intro y hy; cases hy), hx, he', (by simp [findSess, hx])⟩
      · cases h
    · rename_i hx
      split at h
      · rename_i t'' ht''
        cases h
        obtain ⟨pre, e, post, e', h1, h2, h3, h4, h5, h6⟩ := ih ht''
        refine ⟨x :: pre, e, post, e', by simp [h1], by simp [h2], ?_, h4, h5, by simp [findSess, hx, h6]⟩
        intro y hy
        cases hy with
        | head => exact hx
        | tail _ hm => exact h3 y hm
      · cases h

theorem modify_found {i : Nat} {f : Sess → Option Sess} {t t' : List Sess} (h : modify i f t = some t') :
    ∃ e e', findSess i t = some e ∧ e ∈ t ∧ e.id = i ∧ f e = some e' ∧ e' ∈ t' := by
  obtain ⟨pre, e, post, e', _, h2, _, h4, h5, h6⟩ := modify_some h
  exact ⟨e, e', h6, (findSess_some h6).1, h4, h5, by rw [h2]; simp⟩

theorem modify_enabled {i : Nat} {f : Sess → Option Sess} {t : List Sess} {e e' : Sess}
    (h : findSess i t = some e) (hf : f e = some e') : ∃ t', modify i f t = some t' := by
  induction t with
  | nil => simp [findSess] at h
  | cons x t ih =>
    simp only [findSess] at h
    split at h
    · rename_i hx
      cases h
      exact ⟨e' :: t, by simp [modify, hx, hf]⟩
    · rename_i hx
      obtain ⟨t', ht'⟩ := ih h
      exact ⟨x :: t', by simp [modify, hx, ht']⟩

theorem lookup_ok {t : List Sess} {i : Nat} {u : User} {e : Sess} (h : lookup t i u = .ok e) :
    findSess i t = some e ∧ e.inMap = true ∧ (e.owner = none ∨ e.owner = u) := by
  unfold lookup at h
  split at h
  · cases h
  · rename_i e0 hf
    split at h
    · cases h
    · rename_i hr
      split at h
      · rename_i ho
        cases h
        exact ⟨hf, by simpa using hr, Or.inl ho⟩
      · rename_i o ho
        split at h
        · rename_i hu
          cases h
          exact ⟨hf, by simpa using hr, Or.inr (by rw [ho, hu])⟩
        · cases h

/-- `g` at the entries with id `i`, the identity elsewhere: what `modify` is under `List.map` when ids are distinct. -/
def lift (i : Nat) (g : Sess → Sess) (e : Sess) : Sess := if e.id = i then g e else e

/-- An entry function made total: a disabled one changes nothing. -/
def tryF (f : Sess → Option Sess) (e : Sess) : Sess := (f e).getD e

abbrev NodupIds (t : List Sess) : Prop := (t.map (·.id)).Nodup

def KeepsId (g : Sess → Sess) : Prop := ∀ e, (g e).id = e.id

theorem keepsId_lift {i : Nat} {g : Sess → Sess} (h : KeepsId g) : KeepsId (lift i g) := by
  intro e; unfold lift; split
  · exact h e
  · rfl

theorem keepsId_comp {g₁ g₂ : Sess → Sess} (h₁ : KeepsId g₁) (h₂ : KeepsId g₂) : KeepsId (g₂ ∘ g₁) := by
  intro e; simp [Function.comp, h₂ (g₁ e), h₁ e]

theorem map_ids {g : Sess → Sess} (h : KeepsId g) (t : List Sess) : (t.map g).map (·.id) = t.map (·.id) := by
  induction t with
  | nil => rfl
  | cons x t ih => simp [h x, ih]

theorem nodupIds_map {g : Sess → Sess} (h : KeepsId g) {t : List Sess} (hn : NodupIds t) : NodupIds (t.map g) := by
  unfold NodupIds; rw [map_ids h]; exact hn

theorem map_lift_of_not_mem {i : Nat} {g : Sess → Sess} {t : List Sess} (h : ∀ x ∈ t, x.id ≠ i) :
    t.map (lift i g) = t := by
  induction t with
  | nil => rfl
  | cons x t ih =>
    have hx : x.id ≠ i := h x List.mem_cons_self
    simp [lift, hx, ih (fun y hy => h y (List.mem_cons_of_mem _ hy))]

theorem findSess_map {g : Sess → Sess} (h : KeepsId g) (j : Nat) (t : List Sess) :
    findSess j (t.map g) = (findSess j t).map g := by
  induction t with
  | nil => rfl
  | cons x t ih =>
    simp only [List.map_cons, findSess, h x]
    split
    · rfl
    · exact ih

theorem findSess_append (j : Nat) (t u : List Sess) :
    findSess j (t ++ u) = match findSess j t with | some e => some e | none => findSess j u := by
  induction t with
  | nil => simp [findSess]
  | cons x t ih =>
    simp only [List.cons_append, findSess]
    split
    · rfl
    · exact ih

theorem findSess_map_lift {i : Nat} {g : Sess → Sess} (h : KeepsId g) (j : Nat) (t : List Sess) :
    findSess j (t.map (lift i g)) = if j = i then (findSess j t).map g else findSess j t := by
  rw [findSess_map (keepsId_lift h)]
  cases hf : findSess j t with
  | none => simp
  | some e =>
    have hid := (findSess_some hf).2
    simp only [Option.map_some, lift, hid]
    split <;> rfl

theorem modify_eq {i : Nat} {f : Sess → Option Sess} {t : List Sess} (hn : NodupIds t) :
    modify i f t = ((findSess i t).bind f).map fun _ => t.map (lift i (tryF f)) := by
  induction t with
  | nil => rfl
  | cons x t ih =>
    have hn' := List.nodup_cons.mp (show (x.id :: t.map (·.id)).Nodup from hn)
    simp only [modify, findSess, List.map_cons, lift]
    split
    · next hx =>
      -- no later entry has this id
      rw [map_lift_of_not_mem fun y hy hid => hn'.1 (List.mem_map.mpr ⟨y, hy, hid.trans hx.symm⟩)]
      cases hf : f x <;> simp [tryF, hf]
    · rw [ih hn'.2]
      cases (findSess i t).bind f <;> rfl

theorem modify_eq_map {i : Nat} {f : Sess → Option Sess} {t : List Sess} {e e' : Sess} (hn : NodupIds t)
    (hf : findSess i t = some e) (he : f e = some e') : modify i f t = some (t.map (lift i (tryF f))) := by
  rw [modify_eq hn, hf, Option.bind_some, he, Option.map_some]

theorem modify_getD {i : Nat} {f : Sess → Option Sess} {t : List Sess} (hn : NodupIds t) :
    (modify i f t).getD t = t.map (lift i (tryF f)) := by
  induction t with
  | nil => rfl
  | cons x t ih =>
    have hn' : NodupIds t := (List.nodup_cons.mp hn).2
    simp only [modify]
    split
    · rename_i hx
      have hnot : ∀ y ∈ t, y.id ≠ i := by
        intro y hy hyi
        have := (List.nodup_cons.mp hn).1
        exact this (List.mem_map.mpr ⟨y, hy, by simp [hyi, hx]⟩)
      rw [List.map_cons, map_lift_of_not_mem hnot]
      cases hf : f x <;> simp [lift, hx, tryF, hf]
    · rename_i hx
      rw [List.map_cons]
      have ih' := ih hn'
      cases hm : modify i f t with
      | none => rw [hm] at ih'; simp only [Option.getD_none] at ih'; simp [lift, hx, ← ih']
      | some t' => rw [hm] at ih'; simp only [Option.getD_some] at ih'; simp [lift, hx, ← ih']

theorem startTimer_update (e : Sess) :
    startTimer e = { e with
      posts := e.posts + 1
      refs := if e.timer = .nil then e.refs else e.refs + 1
      timer := if e.timer ≠ .nil ∧ e.refs = 0 then .stopped else e.timer } := by
  unfold startTimer
  split
  · next hn => simp [hn]
  · next hn => simp [show e.timer ≠ .nil from hn]

theorem startTimer_fields (e : Sess) :
    (startTimer e).removed = e.removed ∧ (startTimer e).id = e.id ∧ (startTimer e).owner = e.owner ∧
    (startTimer e).closing = e.closing ∧ (startTimer e).posts = e.posts + 1 ∧
    (startTimer e).inMap = e.inMap ∧ (startTimer e).pending = e.pending ∧
    (startTimer e).busy = e.busy ∧ (startTimer e).initBusy = e.initBusy := by
  rw [startTimer_update]
  exact ⟨rfl, rfl, rfl, rfl, rfl, rfl, rfl, rfl, rfl⟩

theorem headF_fields (e : Sess) :
    (headF e).removed = e.removed ∧ (headF e).id = e.id ∧ (headF e).owner = e.owner ∧
    (headF e).closing = e.closing ∧ (headF e).posts = e.posts + 1 ∧
    (headF e).inMap = e.inMap ∧ (headF e).pending = e.pending ∧
    (headF e).busy = e.busy ∧ (headF e).initBusy = e.initBusy ∧ (headF e).upl = e.upl + 1 := by
  rw [headF, startTimer_update]
  exact ⟨rfl, rfl, rfl, rfl, rfl, rfl, rfl, rfl, rfl, rfl⟩

theorem deliver_update (ok : Bool) (k : Kind) (e : Sess) :
    deliver ok k e = { e with busy := (deliver ok k e).busy, initBusy := (deliver ok k e).initBusy } := by
  unfold deliver
  split
  · rfl
  · cases k <;> rfl

theorem deliver_fields (ok : Bool) (k : Kind) (e : Sess) :
    (deliver ok k e).removed = e.removed ∧ (deliver ok k e).timer = e.timer ∧ (deliver ok k e).refs = e.refs ∧
    (deliver ok k e).posts = e.posts ∧ (deliver ok k e).creating = e.creating ∧
    (deliver ok k e).idleSince = e.idleSince ∧ (deliver ok k e).id = e.id ∧ (deliver ok k e).owner = e.owner ∧
    (deliver ok k e).closing = e.closing ∧ (deliver ok k e).inMap = e.inMap ∧ (deliver ok k e).pending = e.pending ∧
    (deliver ok k e).closeErr = e.closeErr := by
  rw [deliver_update]
  exact ⟨rfl, rfl, rfl, rfl, rfl, rfl, rfl, rfl, rfl, rfl, rfl, rfl⟩

theorem deliver_closing (ok : Bool) (k : Kind) {e : Sess} (h : e.closing = true) : deliver ok k e = e := by
  simp [deliver, h]

theorem handlerDoneF_some {b : Bool} {e e' : Sess} : handlerDoneF b e = some e' ↔
    e.removed = false ∧ (if b then e.initBusy ≠ 0 else e.busy ≠ 0) ∧
    { e with busy := if b then e.busy else e.busy - 1, initBusy := if b then e.initBusy - 1 else e.initBusy,
             initialized := b || e.initialized } = e' := by
  unfold handlerDoneF; cases e.removed <;> cases b <;> simp

theorem timerFireF_some {now : Nat} {e e' : Sess} : timerFireF now e = some e' ↔
    e.removed = false ∧ (∃ d, e.timer = .armed d ∧ d ≤ now) ∧ { e with timer := .stopped, closing := true } = e' := by
  unfold timerFireF; cases e.removed <;> cases e.timer <;> simp

theorem closeF_some {e e' : Sess} : closeF e = some e' ↔ e.removed = false ∧ { e with closing := true } = e' := by
  unfold closeF; cases e.removed <;> simp

theorem closeDoneF_some {err : Bool} {e e' : Sess} : closeDoneF err e = some e' ↔
    (e.removed = false ∧ e.closing = true ∧ e.busy = 0 ∧ e.initBusy = 0) ∧
    { e with removed := true, inMap := false, timer := .nil, closeErr := err } = e' := by
  unfold closeDoneF; cases e.removed <;> cases e.closing <;> simp [and_assoc]

theorem publishF_some {c : Bool} {T : Nat} {ok : Bool} {e e' : Sess} : publishF c T ok e = some e' ↔
    ∃ k, e.pending = some k ∧
      (if c && e.removed then { e with pending := none } else deliver ok k (publishedSess T e)) = e' := by
  unfold publishF; cases e.pending <;> simp <;> split <;> simp

theorem bodyF_some {ok : Bool} {k : Kind} {e e' : Sess} : bodyF ok k e = some e' ↔
    (e.upl ≠ 0 ∧ e.pending = none) ∧ deliver ok k { e with upl := e.upl - 1 } = e' := by
  unfold bodyF; cases e.pending <;> simp


theorem bodyF_fields {ok : Bool} {k : Kind} {e e' : Sess} (h : bodyF ok k e = some e') :
    e'.removed = e.removed ∧ e'.id = e.id ∧ e'.owner = e.owner ∧ e'.closing = e.closing ∧ e'.posts = e.posts ∧
    e'.inMap = e.inMap ∧ e'.timer = e.timer ∧ e'.refs = e.refs ∧ e.upl ≠ 0 ∧
    (e.closing = true → e'.busy = e.busy ∧ e'.initBusy = e.initBusy) := by
  obtain ⟨hc, rfl⟩ := bodyF_some.mp h
  refine ⟨?_, ?_, ?_, ?_, ?_, ?_, ?_, ?_, hc.1, fun hcl => ?_⟩
  all_goals try rw [deliver_update]
  rw [deliver_closing ok k (e := { e with upl := e.upl - 1 }) hcl]
  exact ⟨rfl, rfl⟩

/-- One direction only (the other `…_some` are equivalences); the converse has no user. -/
theorem endPost_some {now T : Nat} {c : Bool} {e e' : Sess} (h : endPost now T c e = some e') :
    e.posts ≠ 0 ∧ (c = true → e.creating = true ∧ e.pending = none) ∧ (c = false → e.creating = true → e.posts ≠ 1) ∧
    e' = { e with
      posts := e.posts - 1
      refs := if e.timer = .nil then e.refs else e.refs - 1
      timer := if e.timer = .nil ∨ e.refs - 1 ≠ 0 then e.timer else .armed (now + T)
      idleSince := if e.timer = .nil ∨ e.refs - 1 ≠ 0 then e.idleSince else now
      creating := e.creating && !c
      closing := e.closing || (c && (!e.initialized && !e.removed)) } := by
  unfold endPost at h
  split at h
  · cases h
  split at h
  · cases h
  split at h
  · cases h
  rename_i h1 h2 h3
  refine ⟨h1, ?_, ?_, ?_⟩
  · intro hc; simpa [hc] using h2
  · intro hc; simpa [hc] using h3
  · cases ht : e.timer <;> cases c <;> by_cases hz : e.refs - 1 = 0 <;> simp [ht, hz] at h <;> simp [← h, hz]

theorem endPost_fields {now timeout : Nat} {c : Bool} {e e' : Sess} (h : endPost now timeout c e = some e') :
    e'.id = e.id ∧ e'.owner = e.owner ∧ e'.removed = e.removed ∧ (e.closing = true → e'.closing = true) ∧
    e'.posts = e.posts - 1 ∧ 0 < e.posts := by
  obtain ⟨hp, _, _, rfl⟩ := endPost_some h
  exact ⟨rfl, rfl, rfl, fun hc => by simp [hc], rfl, Nat.pos_of_ne_zero hp⟩

/-- A session whose close has begun and that has no handler in flight. -/
def Quiet (e : Sess) : Prop := e.closing = true ∧ e.busy = 0 ∧ e.initBusy = 0

/-- What no entry function undoes. -/
def Keeps (e e' : Sess) : Prop :=
  e'.id = e.id ∧ e'.owner = e.owner ∧ (e.removed = true → e'.removed = true) ∧ (e.closing = true → e'.closing = true) ∧
    (Quiet e → Quiet e')

theorem Keeps.refl (e : Sess) : Keeps e e := ⟨rfl, rfl, id, id, id⟩

theorem Keeps.trans {a b c : Sess} (h : Keeps a b) (h' : Keeps b c) : Keeps a c :=
  ⟨h'.1.trans h.1, h'.2.1.trans h.2.1, h'.2.2.1 ∘ h.2.2.1, h'.2.2.2.1 ∘ h.2.2.2.1, h'.2.2.2.2 ∘ h.2.2.2.2⟩

theorem keeps_startTimer (e : Sess) : Keeps e (startTimer e) := by
  rw [startTimer_update]; exact ⟨rfl, rfl, id, id, id⟩

theorem keeps_deliver (ok : Bool) (k : Kind) (e : Sess) : Keeps e (deliver ok k e) := by
  refine ⟨?_, ?_, ?_, ?_, fun hq => ?_⟩
  · rw [deliver_update]
  · rw [deliver_update]
  · rw [deliver_update]; exact id
  · rw [deliver_update]; exact id
  · rw [deliver_closing ok k hq.1]; exact hq

theorem keeps_startPost (ok : Bool) (k : Kind) (e : Sess) : Keeps e (startPost ok k e) :=
  (keeps_startTimer e).trans (keeps_deliver ..)

theorem keeps_headF (e : Sess) : Keeps e (headF e) := (keeps_startTimer e).trans ⟨rfl, rfl, id, id, id⟩

theorem keeps_handlerDoneF {b : Bool} {e e' : Sess} (h : handlerDoneF b e = some e') : Keeps e e' := by
  obtain ⟨_, hb, rfl⟩ := handlerDoneF_some.mp h
  exact ⟨rfl, rfl, id, id, fun hq => by cases b <;> simp [hq.2.1, hq.2.2] at hb⟩

theorem keeps_endPost {now T : Nat} {c : Bool} {e e' : Sess} (h : endPost now T c e = some e') : Keeps e e' := by
  obtain ⟨_, _, _, rfl⟩ := endPost_some h
  exact ⟨rfl, rfl, id, fun hc => by simp [hc], fun hq => ⟨by simp [hq.1], hq.2⟩⟩

theorem keeps_publishF {c : Bool} {T : Nat} {ok : Bool} {e e' : Sess} (h : publishF c T ok e = some e') : Keeps e e' := by
  obtain ⟨k, _, rfl⟩ := publishF_some.mp h
  split
  · exact ⟨rfl, rfl, id, id, id⟩
  · exact Keeps.trans (b := publishedSess T e) ⟨rfl, rfl, id, id, id⟩ (keeps_deliver ..)

theorem keeps_timerFireF {now : Nat} {e e' : Sess} (h : timerFireF now e = some e') : Keeps e e' := by
  obtain ⟨_, _, rfl⟩ := timerFireF_some.mp h
  exact ⟨rfl, rfl, id, fun _ => rfl, fun hq => ⟨rfl, hq.2⟩⟩

theorem keeps_closeF {e e' : Sess} (h : closeF e = some e') : Keeps e e' := by
  obtain ⟨_, rfl⟩ := closeF_some.mp h
  exact ⟨rfl, rfl, id, fun _ => rfl, fun hq => ⟨rfl, hq.2⟩⟩

theorem keeps_closeDoneF {err : Bool} {e e' : Sess} (h : closeDoneF err e = some e') : Keeps e e' := by
  obtain ⟨_, rfl⟩ := closeDoneF_some.mp h
  exact ⟨rfl, rfl, fun _ => rfl, id, id⟩

theorem keeps_bodyF {ok : Bool} {k : Kind} {e e' : Sess} (h : bodyF ok k e = some e') : Keeps e e' := by
  obtain ⟨_, rfl⟩ := bodyF_some.mp h
  exact Keeps.trans (b := { e with upl := e.upl - 1 }) ⟨rfl, rfl, id, id, id⟩ (keeps_deliver ..)

theorem keepsId_tryF {f : Sess → Option Sess} (h : ∀ e e', f e = some e' → e'.id = e.id) : KeepsId (tryF f) := by
  intro e; unfold tryF
  cases hf : f e with
  | none => rfl
  | some e' => exact h e e' hf

theorem handlerDoneF_id {b : Bool} {e e' : Sess} (h : handlerDoneF b e = some e') : e'.id = e.id := (keeps_handlerDoneF h).1

theorem timerFireF_id {now : Nat} {e e' : Sess} (h : timerFireF now e = some e') : e'.id = e.id := (keeps_timerFireF h).1

theorem closeF_id {e e' : Sess} (h : closeF e = some e') : e'.id = e.id := (keeps_closeF h).1

theorem closeDoneF_id {c : Bool} {e e' : Sess} (h : closeDoneF c e = some e') : e'.id = e.id := (keeps_closeDoneF h).1

theorem endPost_id {now t : Nat} {c : Bool} {e e' : Sess} (h : endPost now t c e = some e') : e'.id = e.id :=
  (keeps_endPost h).1

theorem startPost_id (ok : Bool) (k : Kind) (e : Sess) : (startPost ok k e).id = e.id := (keeps_startPost ok k e).1

theorem keepsId_handlerDone (b : Bool) : KeepsId (tryF (handlerDoneF b)) := keepsId_tryF fun _ _ h => handlerDoneF_id h
theorem keepsId_timerFire (n : Nat) : KeepsId (tryF (timerFireF n)) := keepsId_tryF fun _ _ h => timerFireF_id h
theorem keepsId_close : KeepsId (tryF closeF) := keepsId_tryF fun _ _ h => closeF_id h
theorem keepsId_closeDone (c : Bool) : KeepsId (tryF (closeDoneF c)) := keepsId_tryF fun _ _ h => closeDoneF_id h
theorem keepsId_endPost (n t : Nat) (c : Bool) : KeepsId (tryF (endPost n t c)) := keepsId_tryF fun _ _ h => endPost_id h
theorem keepsId_startPost (ok : Bool) (k : Kind) : KeepsId (startPost ok k) := startPost_id ok k

/-- The labels that rewrite one entry of the table: which entry, by which function, with which response. -/
inductive Rewrites (s : State) : Label → Nat → (Sess → Option Sess) → Resp → Prop where
  | postBegin {i u k e} : lookup s.tbl i u = .ok e →
      Rewrites s (.postBegin (some i) u k) i (fun x => some (startPost (s.accepts k) k x))
        (postResp s k (if k.isInitialize then some i else none) e.closing)
  | postHead {i u e} : lookup s.tbl i u = .ok e →
      Rewrites s (.postHead (some i) u) i (fun x => some (headF x)) (.forward none (!e.closing))
  | postBody {i k e} : k.isInitialize = false → findSess i s.tbl = some e →
      Rewrites s (.postBody i k) i (bodyF (s.accepts k) k) (postResp s k none e.closing)
  | publish {i k e} : findSess i s.tbl = some e → e.pending = some k →
      Rewrites s (.publish i) i (publishF s.cfg.publishChecks s.cfg.timeout (s.accepts k))
        (postResp s k (if k.isInitialize then some i else none) e.closing)
  | handlerDone {i b} : Rewrites s (.handlerDone i b) i (handlerDoneF b) .tau
  | postEnd {i c} : Rewrites s (.postEnd (some i) c) i (endPost s.now s.cfg.timeout c) .tau
  | delete {i u e} : lookup s.tbl i u = .ok e → Rewrites s (.delete (some i) u) i closeF .closeAccepted
  | timerFire {i} : Rewrites s (.timerFire i) i (timerFireF s.now) .tau
  | serverClose {i} : Rewrites s (.serverClose i) i closeF .tau
  | closeDone {i} : Rewrites s (.closeDone i) i (closeDoneF s.closeFails) .tau

/-- One label, as a relation: the outcomes of `step`, each with its state and its response written out.  A stateful
endpoint mints an id, rewrites an entry, or answers without touching anything; a stateless one only counts its
temporary sessions. -/
inductive Does (s : State) : Label → State → Resp → Prop where
  | mint {u k} : s.cfg.stateless = false → Does s (.postBegin none u k)
      { s with tbl := s.tbl ++ [if s.connectFails then failedSess s u else newSess s u k], next := s.next + 1 }
      (if s.connectFails then .reject stConnectFailed else .tau)
  | rewrite {l i f r t} : s.cfg.stateless = false → Rewrites s l i f r → modify i f s.tbl = some t →
      Does s l { s with tbl := t } r
  | refusePost {i u k c} : s.cfg.stateless = false → lookup s.tbl i u = .error c → Does s (.postBegin (some i) u k) s (.reject c)
  | refuseHead {i u c} : s.cfg.stateless = false → lookup s.tbl i u = .error c → Does s (.postHead (some i) u) s (.reject c)
  | refuseGet {i u c} : s.cfg.stateless = false → lookup s.tbl i u = .error c → Does s (.get (some i) u) s (.reject c)
  | refuseDelete {i u c} : s.cfg.stateless = false → lookup s.tbl i u = .error c → Does s (.delete (some i) u) s (.reject c)
  | getNoId {u} : s.cfg.stateless = false → Does s (.get none u) s (.reject stMissingIdGet)
  | deleteNoId {u} : s.cfg.stateless = false → Does s (.delete none u) s (.reject stMissingIdDelete)
  | other {sid u} : s.cfg.stateless = false → Does s (.other sid u) s (.reject stOtherMethod)
  | get {i u e} : s.cfg.stateless = false → lookup s.tbl i u = .ok e →
      Does s (.get (some i) u) s (if s.replayFails then .storeRefused stReplayFailed else .stream)
  | deleteNoop {i u e} : s.cfg.stateless = false → lookup s.tbl i u = .ok e → modify i closeF s.tbl = none →
      Does s (.delete (some i) u) s .closeAccepted
  | tick {d} : Does s (.tick d) { s with now := s.now + d } .tau
  | faults {f} : Does s (.faults f) { s with faults := f } .tau
  | slPost {sid u k} : s.cfg.stateless = true → Does s (.postBegin sid u k)
      { s with eph := if s.connectFails then s.eph else s.eph + 1 }
      (if s.connectFails then .reject stConnectFailed else postResp s k none false)
  | slEnd {c} : s.cfg.stateless = true → s.eph ≠ 0 → Does s (.postEnd none c) { s with eph := s.eph - 1 } .tau
  | slGet {sid u} : s.cfg.stateless = true → Does s (.get sid u) s (.reject stStatelessNotPost)
  | slDelete {sid u} : s.cfg.stateless = true → Does s (.delete sid u) s (.reject stStatelessNotPost)
  | slOther {sid u} : s.cfg.stateless = true → Does s (.other sid u) s (.reject stStatelessNotPost)

theorem step_does {s s' : State} {l : Label} {r : Resp} : step s l = some (s', r) ↔ Does s l s' r := by
  constructor
  · intro h
    -- the arms of `stepStateless` / `stepStateful` are addressed by position (`h_1` …): a new label renumbers them
    cases hst : s.cfg.stateless
    case true =>
      simp only [step, hst, if_true] at h
      unfold stepStateless at h
      split at h
      case h_1 sid u k =>
        have := @Does.slPost s sid u k hst
        split at h <;> cases h <;> simpa [*] using this
      case h_2 f => cases h; exact .faults
      case h_3 c => split at h <;> cases h; next he => exact .slEnd hst he
      case h_4 => cases h; exact .slGet hst
      case h_5 => cases h; exact .slDelete hst
      case h_6 => cases h; exact .slOther hst
      case h_7 d => cases h; exact .tick
      case h_8 => cases h
    simp only [step, hst, Bool.false_eq_true, if_false] at h
    unfold stepStateful at h
    split at h
    case h_1 u k =>
      have := @Does.mint s u k hst
      split at h <;> cases h <;> simpa [*] using this
    case h_2 i =>
      split at h
      · next e hf =>
        split at h
        · next k hp =>
          split at h <;> cases h
          next t hm => exact .rewrite hst (.publish hf hp) hm
        · cases h
      · cases h
    case h_3 i u k =>
      split at h
      · next c hl => cases h; exact .refusePost hst hl
      next e hl =>
      split at h <;> cases h
      next t hm => exact .rewrite hst (.postBegin hl) hm
    case h_4 => cases h
    case h_5 i u =>
      split at h
      · next c hl => cases h; exact .refuseHead hst hl
      next e hl =>
      split at h <;> cases h
      next t hm => exact .rewrite hst (.postHead hl) hm
    case h_6 i k =>
      split at h
      · cases h
      next hk =>
      split at h
      · cases h
      next e hf =>
      split at h <;> cases h
      next t hm => exact .rewrite hst (.postBody (by simpa using hk) hf) hm
    case h_7 i b => split at h <;> cases h; next t hm => exact .rewrite hst .handlerDone hm
    case h_8 => cases h
    case h_9 i c => split at h <;> cases h; next t hm => exact .rewrite hst .postEnd hm
    case h_10 u => cases h; exact .getNoId hst
    case h_11 i u =>
      split at h
      · next c hl => cases h; exact .refuseGet hst hl
      next e hl =>
      have := @Does.get s i u e hst hl
      split at h <;> cases h <;> simpa [*] using this
    case h_12 u => cases h; exact .deleteNoId hst
    case h_13 i u =>
      split at h
      · next c hl => cases h; exact .refuseDelete hst hl
      next e hl =>
      split at h <;> cases h
      · next hm => exact .deleteNoop hst hl hm
      · next t hm => exact .rewrite hst (.delete hl) hm
    case h_14 => cases h; exact .other hst
    case h_15 d => cases h; exact .tick
    case h_16 i => split at h <;> cases h; next t hm => exact .rewrite hst .timerFire hm
    case h_17 i => split at h <;> cases h; next t hm => exact .rewrite hst .serverClose hm
    case h_18 i => split at h <;> cases h; next t hm => exact .rewrite hst .closeDone hm
    case h_19 f => cases h; exact .faults
  · intro h
    cases h with
    | rewrite _ hw hm => cases hw <;> simp [step, stepStateful, *]
    | mint => cases hcf : s.connectFails <;> simp [step, stepStateful, *]
    | get _ hl => cases hrf : s.replayFails <;> simp [step, stepStateful, *]
    | slPost => cases hcf : s.connectFails <;> simp [step, stepStateless, *]
    | tick | faults => cases hst : s.cfg.stateless <;> simp [step, stepStateful, stepStateless, *]
    | _ => simp [step, stepStateful, stepStateless, *]

theorem rewrites_keeps {s : State} {l : Label} {i : Nat} {f : Sess → Option Sess} {r : Resp} {e e' : Sess}
    (hw : Rewrites s l i f r) (he : f e = some e') : Keeps e e' := by
  cases hw with
  | postBegin => cases he; exact keeps_startPost ..
  | postHead => cases he; exact keeps_headF e
  | postBody => exact keeps_bodyF he
  | publish => exact keeps_publishF he
  | handlerDone => exact keeps_handlerDoneF he
  | postEnd => exact keeps_endPost he
  | delete | serverClose => exact keeps_closeF he
  | timerFire => exact keeps_timerFireF he
  | closeDone => exact keeps_closeDoneF he

end Sessions
