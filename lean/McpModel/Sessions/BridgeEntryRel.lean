import McpModel.Sessions.BridgeInv
/-!
Bridge (E7/C11), entry level: what the label sequence of each harness operation does to ONE entry of the model's table
(pure record reasoning, no lists), in explicit form: every explicit form is a flat record update of the entry, so a field
that an operation leaves alone is read off by `rfl` (`endE_fields`, `touchE_fields`, `pendE_fields`, `hdoneE_fields` list such
fields; no proof here needs them).  Two of them carry the whole timer discipline, `startE` (`startPOST`)
and `endE` (`endPOST`); the timer clauses of `EOkQ` (`TimerOk`) are shown once for each.  Each entry transition keeps
`EOkQ` (`eok_*`: `EOk`, where nothing is left to settle; so does `eokq_pend`), and the monitor's bookkeeping for the same
operation keeps the abstract session related: every `rel_*` lemma concludes `ERelPre`, `relpre_settle` turns it into `ERel`.
-/
namespace Sessions

theorem timerFireF_notDue {now : Nat} {e : Sess} (hnd : ∀ d, e.timer = .armed d → now < d) : timerFireF now e = none := by
  unfold timerFireF
  split
  · rfl
  · split
    · rename_i d hd
      have := hnd d hd
      split
      · omega
      · rfl
    · rfl

theorem settleE_id {now : Nat} {cf : Bool} {e : Sess} (hnd : ∀ d, e.timer = .armed d → now < d)
    (hq : ¬(e.removed = false ∧ e.closing = true ∧ e.busy = 0 ∧ e.initBusy = 0)) : settleE now cf e = e := by
  have h2 : closeDoneF cf e = none := by
    unfold closeDoneF
    split
    · rfl
    · rename_i hx
      exfalso; apply hq
      simp only [Bool.or_eq_true, Bool.not_eq_true', decide_eq_true_eq, not_or, Bool.not_eq_true, Decidable.not_not] at hx
      exact ⟨hx.1.1.1, by simpa using hx.1.1.2, hx.1.2, hx.2⟩
  simp [settleE, tryF, timerFireF_notDue hnd, h2]

theorem settleE_of_eok {cfg : Cfg} {now ns nr : Nat} {e : Sess} (cf : Bool) (h : EOk cfg now ns nr e) :
    settleE now cf e = e := by
  apply settleE_id h.notDue
  intro ⟨h1, h2, h3, _⟩
  have := h.quiet h2 h1
  have := h.busy
  omega

/-- what `closeDoneF cf` makes of an entry whose close can complete (`closeE`, with one letter less, is the beginning of a close) -/
def closedE (cf : Bool) (e : Sess) : Sess := { e with removed := true, inMap := false, timer := .nil, closeErr := cf }

theorem settleE_close {now : Nat} {cf : Bool} {e : Sess} (hnd : ∀ d, e.timer = .armed d → now < d)
    (hr : e.removed = false) (hc : e.closing = true) (hb : e.busy = 0) (hib : e.initBusy = 0) :
    settleE now cf e = closedE cf e := by
  simp [settleE, tryF, timerFireF_notDue hnd, closeDoneF, hr, hc, hb, hib, closedE]

/-- what settling makes of an entry whose idle timer is due: `timerFireF`, then `closeDoneF cf` if no handler is in flight -/
def firedE (cf : Bool) (e : Sess) : Sess :=
  if e.busy = 0 ∧ e.initBusy = 0 then closedE cf { e with timer := .stopped, closing := true }
  else { e with timer := .stopped, closing := true }

theorem settleE_fire {now : Nat} {cf : Bool} {e : Sess} {d : Nat} (hr : e.removed = false) (ht : e.timer = .armed d)
    (hd : d ≤ now) : settleE now cf e = firedE cf e := by
  have h1 : timerFireF now e = some { e with timer := .stopped, closing := true } := by
    simp [timerFireF, hr, ht, hd]
  unfold firedE
  by_cases hb : e.busy = 0 ∧ e.initBusy = 0
  · simp [settleE, tryF, h1, closeDoneF, hr, hb, closedE]
  · simp only [settleE, tryF, h1, Option.getD_some, closeDoneF, hr, if_neg hb]
    have hx : (¬e.busy = 0 ∨ ¬e.initBusy = 0) := by
      by_cases h0 : e.busy = 0
      · exact Or.inr (fun h => hb ⟨h0, h⟩)
      · exact Or.inl h0
    simp [hx]

/-- `startPOST` in explicit form: the POST is counted; with a timer, so is the reference, and the
first reference stops it -/
def startE (e : Sess) : Sess :=
  { e with posts := e.posts + 1,
           refs := if e.timer = .nil then e.refs else e.refs + 1,
           timer := if e.timer ≠ .nil ∧ e.refs = 0 then .stopped else e.timer }

theorem startTimer_startE (e : Sess) : startTimer e = startE e := startTimer_update e

/-- `endPOST` of a POST that did not create the session: the last reference re-arms the timer -/
def endE (now T : Nat) (e : Sess) : Sess :=
  { e with posts := e.posts - 1,
           refs := if e.timer = .nil then e.refs else e.refs - 1,
           timer := if e.timer = .nil ∨ e.refs - 1 ≠ 0 then e.timer else .armed (now + T),
           idleSince := if e.timer = .nil ∨ e.refs - 1 ≠ 0 then e.idleSince else now }

theorem endPost_eq {now T : Nat} {e : Sess} (hp : e.posts ≠ 0) (hcr : e.creating = false) :
    tryF (endPost now T false) e = endE now T e := by
  cases h : endPost now T false e with
  | none => simp [endPost, hp, hcr] at h
  | some e' =>
    obtain ⟨_, _, _, rfl⟩ := endPost_some h
    simp [tryF, h, endE]

theorem endE_fields (now T : Nat) (e : Sess) : (endE now T e).id = e.id ∧ (endE now T e).owner = e.owner ∧
    (endE now T e).removed = e.removed ∧ (endE now T e).closing = e.closing ∧
    (endE now T e).timer = (match e.timer with | .nil => .nil | t => if e.refs - 1 = 0 then .armed (now + T) else t) ∧
    (endE now T e).busy = e.busy ∧ (endE now T e).initBusy = e.initBusy ∧ (endE now T e).upl = e.upl := by
  refine ⟨rfl, rfl, rfl, rfl, ?_, rfl, rfl, rfl⟩
  show (if e.timer = .nil ∨ e.refs - 1 ≠ 0 then e.timer else Timer.armed (now + T)) = _
  cases e.timer <;> by_cases h0 : e.refs - 1 = 0 <;> simp [h0]

/-- The timer clauses of `EOkQ`.  They speak of `removed`, `closing`, `timer` and `refs` only, so they pass unchanged
through every step that leaves these four alone. -/
structure TimerOk (cfg : Cfg) (now : Nat) (e : Sess) : Prop where
  tmr : e.removed = false → (e.timer = .nil ↔ cfg.timeout = 0)
  armed : e.removed = false → e.closing = false → e.timer ≠ .nil → e.refs = 0 → e.timer.isArmed = true
  notDue : ∀ d, e.timer = .armed d → now < d

theorem EOkQ.timerOk {cfg : Cfg} {now ns nr : Nat} {e : Sess} (h : EOkQ cfg now ns nr e) : TimerOk cfg now e :=
  ⟨h.tmr, h.armed, h.notDue⟩

theorem startE_timer_nil (e : Sess) : (startE e).timer = .nil ↔ e.timer = .nil := by
  show (if e.timer ≠ .nil ∧ e.refs = 0 then Timer.stopped else e.timer) = .nil ↔ _
  split
  · next h => simp [h.1]
  · rfl

theorem endE_timer_nil (now T : Nat) (e : Sess) : (endE now T e).timer = .nil ↔ e.timer = .nil := by
  show (if e.timer = .nil ∨ e.refs - 1 ≠ 0 then e.timer else Timer.armed (now + T)) = .nil ↔ _
  split
  · rfl
  · next h => simp [(not_or.mp h).1]

/-- A started POST holds a reference: nothing can be due, nothing needs to be armed. -/
theorem TimerOk.startE {cfg : Cfg} {now : Nat} {e : Sess} (h : TimerOk cfg now e) : TimerOk cfg now (startE e) := by
  refine ⟨fun hr => (startE_timer_nil e).trans (h.tmr hr), fun _ _ hn h0 => ?_, fun d hd => h.notDue d ?_⟩
  · have hne : e.timer ≠ .nil := fun ht => hn ((startE_timer_nil e).mpr ht)
    have h0 : (if e.timer = .nil then e.refs else e.refs + 1) = 0 := h0
    rw [if_neg hne] at h0
    cases h0
  · have hd : (if e.timer ≠ .nil ∧ e.refs = 0 then Timer.stopped else e.timer) = .armed d := hd
    split at hd
    · cases hd
    · exact hd

/-- When the last reference goes the timer is armed afresh, `timeout` ms ahead: armed as it must be, and not due —
a session with a timer has a positive timeout (`hT`, from `Good.no_timeout`). -/
theorem TimerOk.endE {cfg : Cfg} {now : Nat} {e : Sess} (h : TimerOk cfg now e) (hT : cfg.timeout = 0 → e.timer = .nil) :
    TimerOk cfg now (endE now cfg.timeout e) := by
  refine ⟨fun hr => (endE_timer_nil _ _ e).trans (h.tmr hr), fun _ _ hn h0 => ?_, fun d hd => ?_⟩
  · have hne : e.timer ≠ .nil := fun ht => hn ((endE_timer_nil _ _ e).mpr ht)
    have h0 : (if e.timer = .nil then e.refs else e.refs - 1) = 0 := h0
    rw [if_neg hne] at h0
    show (if e.timer = .nil ∨ e.refs - 1 ≠ 0 then e.timer else Timer.armed (now + cfg.timeout)).isArmed = true
    rw [if_neg (not_or.mpr ⟨hne, fun hn => hn h0⟩)]
    rfl
  · have hd : (if e.timer = .nil ∨ e.refs - 1 ≠ 0 then e.timer else Timer.armed (now + cfg.timeout)) = .armed d := hd
    split at hd
    · exact h.notDue d hd
    · next hn =>
      cases hd
      exact Nat.lt_add_of_pos_right (Nat.pos_of_ne_zero fun h0 => (not_or.mp hn).1 (hT h0))

/-- the handler of a POST that is answered at once returns (`handlerDone`, by the POST's kind) -/
def hdK (k : Kind) (dlv : Bool) (x : Sess) : Sess :=
  match k with
  | .init => if dlv then tryF (handlerDoneF true) x else x
  | .badInit | .call => if dlv then tryF (handlerDoneF false) x else x
  | .notif => x

theorem hdK_false (k : Kind) : hdK k false = id := by
  funext x; cases k <;> rfl

theorem keepsId_hdK (k : Kind) (dlv : Bool) : KeepsId (hdK k dlv) := by
  intro x; cases k <;> cases dlv <;> simp only [hdK, Bool.false_eq_true, if_false, if_true] <;>
    first | rfl | exact keepsId_handlerDone _ x

/-- The handler that returns before the POST is answered undoes the hand-over; what remains is that `initialize`
has initialized the session.  (`c` is the entry's `closing`; a removed entry is closing, so nothing was handed over.) -/
theorem hdK_deliver (ok : Bool) (k : Kind) {x : Sess} {c : Bool} (hc : x.closing = c) (hr : x.removed = true → c = true) :
    hdK k (ok && !c) (deliver ok k x) = { x with initialized := (k == .init && ok && !c) || x.initialized } := by
  rcases x with ⟨id, owner, refs, timer, closing, removed, inMap, pending, initialized, creating, busy, initBusy, posts, idleSince, closeErr, upl⟩
  simp only [] at hc hr
  subst hc
  cases closing
  · cases removed
    · cases ok <;> cases k <;> simp [hdK, deliver, tryF, handlerDoneF]
    · simp at hr
  · simp [hdK_false, deliver]

/-- net effect: the idle period restarts when no other POST is in progress; `initialize` initializes -/
def touchE (now T : Nat) (ini : Bool) (e : Sess) : Sess :=
  endE now T { startE e with initialized := ini || e.initialized }

theorem touch_eq {now T : Nat} {e : Sess} (k : Kind) (ok : Bool) (hr : e.removed = false) (hcr : e.creating = false)
    (hrp : e.timer ≠ .nil → e.refs = e.posts) (harm : ∀ d, e.timer = .armed d → e.refs = 0) :
    tryF (endPost now T false) (hdK k (ok && !e.closing) (startPost ok k e)) =
      touchE now T (k == .init && ok && !e.closing) e := by
  unfold startPost
  rw [startTimer_startE, hdK_deliver ok k (x := startE e) (c := e.closing) rfl (fun h => absurd (hr.symm.trans h) (by simp))]
  exact endPost_eq (Nat.succ_ne_zero _) hcr

theorem touchE_timer (now T : Nat) (ini : Bool) (e : Sess) :
    (touchE now T ini e).timer = if e.timer = .nil then .nil else if e.refs = 0 then .armed (now + T) else e.timer := by
  simp only [touchE, endE, startE]
  by_cases h : e.timer = .nil
  · simp [h]
  · by_cases h0 : e.refs = 0 <;> simp [h, h0]

theorem touchE_fields (now T : Nat) (ini : Bool) (e : Sess) :
    (touchE now T ini e).id = e.id ∧ (touchE now T ini e).owner = e.owner ∧ (touchE now T ini e).removed = e.removed ∧
    (touchE now T ini e).closing = e.closing ∧
    (touchE now T ini e).timer = (match e.timer with | .nil => .nil | t => if e.refs = 0 then .armed (now + T) else t) ∧
    (touchE now T ini e).upl = e.upl := by
  refine ⟨rfl, rfl, rfl, rfl, ?_, rfl⟩
  rw [touchE_timer]
  cases e.timer <;> simp

/-- `startPOST` + hand-over of a call whose handler parks -/
def pendE (e : Sess) : Sess := { startE e with busy := e.busy + 1 }

theorem pend_eq {e : Sess} (hc : e.closing = false) : startPost true .call e = pendE e := by
  unfold startPost
  rw [startTimer_startE]
  simp [deliver, hc, pendE, startE]

theorem pendE_fields (e : Sess) : (pendE e).id = e.id ∧ (pendE e).owner = e.owner ∧ (pendE e).removed = e.removed ∧
    (pendE e).closing = e.closing ∧ (pendE e).upl = e.upl :=
  ⟨rfl, rfl, rfl, rfl, rfl⟩

/-- a parked handler returns -/
def hdoneE (e : Sess) : Sess := { e with busy := e.busy - 1 }

theorem hdone_eq {e : Sess} (hr : e.removed = false) (hb : e.busy ≠ 0) : tryF (handlerDoneF false) e = hdoneE e := by
  simp [tryF, handlerDoneF, hr, hb, hdoneE]

/-- `Close()` begins -/
def closeE (e : Sess) : Sess := { e with closing := true }

theorem close_eq {e : Sess} (hr : e.removed = false) : tryF closeF e = closeE e := by
  simp [tryF, closeF, hr, closeE]

theorem close_removed {e : Sess} (hr : e.removed = true) : tryF closeF e = e := by
  simp [tryF, closeF, hr]

theorem headF_eq (e : Sess) : headF e = { startE e with upl := e.upl + 1 } := by
  unfold headF; rw [startTimer_startE]

/-- net effect of the arrival of the last piece: the POST ends (`endPOST`), whatever was or was not delivered -/
def bodyE (now T : Nat) (e : Sess) : Sess := endE now T { e with upl := e.upl - 1 }

theorem body_eq {now T : Nat} {e : Sess} (ok : Bool) (hcr : e.creating = false) (hp : e.posts ≠ 0) (hu : e.upl ≠ 0)
    (hpn : e.pending = none) (hrc : e.removed = true → e.closing = true) :
    tryF (endPost now T false) (hdK .call (ok && !e.closing) (tryF (bodyF ok .call) e)) = bodyE now T e := by
  have hb : tryF (bodyF ok .call) e = deliver ok .call { e with upl := e.upl - 1 } := by simp [tryF, bodyF, hu, hpn]
  rw [hb, hdK_deliver ok .call (x := { e with upl := e.upl - 1 }) rfl hrc]
  exact endPost_eq (e := { e with upl := e.upl - 1 }) hp hcr

/-! The entry updates of the monitor's bookkeeping (anonymous in Monitor.lean), named.  `bookAnswer`: `mTouch` (a POST answered at
once), `mPend` (a POST that stays pending), `mDead` / `mDying` (DELETE, server-side close: done / waiting); `bookSlots`: `mRunInc`
(abandon), `mRunDec` (release of a handler without POST); `bookDone1`: `mPostDone` (completion `p`/`u`), `mDead` (any other). -/

def mTouch (now : Nat) (a : MSess) : MSess := if a.posts == 0 then { a with idleSince := now } else a
def mPend (a : MSess) : MSess := { a with posts := a.posts + 1 }
def mPostDone (now : Nat) (a : MSess) : MSess :=
  if a.posts ≤ 1 then { a with posts := 0, idleSince := now } else { a with posts := a.posts - 1 }
def mDead (a : MSess) : MSess := { a with life := .dead }
def mDying (a : MSess) : MSess := { a with life := .dying }
def mRunInc (a : MSess) : MSess := { a with running := a.running + 1 }
def mRunDec (a : MSess) : MSess := { a with running := a.running - 1 }
/-- a close that waits: a live session starts dying (an update of the monitor's abstract session like `mDying`, not an entry function of the model) -/
def dyingF (a : MSess) : MSess := if a.life = .live then mDying a else a
/-- a POST answered at once on a session that is not `live` books nothing (of the monitor's abstract session too: `mTouch` on a live one) -/
def touchF (now : Nat) (a : MSess) : MSess := if a.life = .live then mTouch now a else a

theorem rel_nonlive {cfg : Cfg} {ns nr : Nat} {e : Sess} {a : MSess} (ho : a.owner = ownerOf e.owner)
    (hl : a.life ≠ .live) (hd : a.life = .dead → e.removed = true) (hc : e.removed = true ∨ e.closing = true) :
    ERelPre cfg ns nr e a := by
  refine ⟨ho, hd, ⟨fun h => absurd h hl, fun h => ?_⟩, fun h => absurd h hl, fun h => absurd h hl⟩
  rcases hc with hc | hc
  · rw [h.1] at hc; cases hc
  · rw [h.2] at hc; cases hc

theorem ERel.life_dying {cfg : Cfg} {ns nr : Nat} {e : Sess} {a : MSess} (h : ERel cfg ns nr e a)
    (hr : e.removed = false) (hc : e.closing = true) : a.life = .dying := by
  cases hl : a.life with
  | live => have := (h.live.mp hl).2; rw [hc] at this; cases this
  | dying => rfl
  | dead => have := h.dead hl; rw [hr] at this; cases this

theorem ERel.life_live {cfg : Cfg} {ns nr : Nat} {e : Sess} {a : MSess} (h : ERel cfg ns nr e a)
    (hr : e.removed = false) (hc : e.closing = false) : a.life = .live := h.live.mpr ⟨hr, hc⟩

theorem eok_touch {cfg : Cfg} {now ns nr : Nat} {e : Sess} (ini : Bool) (h : EOk cfg now ns nr e)
    (hg : Good cfg now e) (hr : e.removed = false) : EOk cfg now ns nr (touchE now cfg.timeout ini e) :=
  have t : TimerOk cfg now (endE now cfg.timeout (startE e)) :=
    h.timerOk.startE.endE fun h0 => (startE_timer_nil e).mpr (hg.no_timeout h0)
  ⟨⟨h.pending, h.creating, h.initBusy, h.busy, h.posts, h.inMap, t.tmr, t.armed, t.notDue⟩, h.quiet⟩

theorem rel_touch {cfg : Cfg} {now ns nr : Nat} {e : Sess} {a : MSess} (ini : Bool) (h : ERel cfg ns nr e a)
    (hk : EOk cfg now ns nr e) (hg : Good cfg now e) (hr : e.removed = false) :
    ERelPre cfg ns nr (touchE now cfg.timeout ini e) (if a.life = .live then mTouch now a else a) := by
  by_cases hl : a.life = .live
  · rw [if_pos hl]
    have hml : (mTouch now a).life = .live := by unfold mTouch; split <;> exact hl
    have hmo : (mTouch now a).owner = a.owner := by unfold mTouch; split <;> rfl
    refine ⟨hmo.trans h.owner, fun hd => ?_, ⟨fun _ => h.live.mp hl, fun _ => hml⟩, fun _ => ?_, fun _ hns hu hT => ?_⟩
    · rw [hml] at hd; cases hd
    · have := h.cnt hl
      unfold mTouch; split <;> exact this
    · have hu : e.upl = 0 := hu
      have hap : a.posts = 0 := by rw [(h.cnt hl).1, hns, hu]
      have hid : (mTouch now a).idleSince = now := by simp [mTouch, hap]
      have htn : e.timer ≠ .nil := fun hx => hT ((hk.tmr hr).mp hx)
      have hrf : e.refs = 0 := by rw [hg.refs_posts htn, hk.posts, hns, hu]
      rw [touchE_timer, if_neg htn, if_pos hrf, hid]
  · rw [if_neg hl]
    refine rel_nonlive h.owner hl (fun hd => ?_) (Or.inr ?_)
    · have := h.dead hd; rw [hr] at this; cases this
    · cases hc : e.closing with
      | true => exact hc
      | false => exact absurd (h.live.mpr ⟨hr, hc⟩) hl

theorem eok_closed {cfg : Cfg} {now ns nr : Nat} {e : Sess} (cf : Bool) (h : EOkQ cfg now ns nr e) : EOk cfg now ns nr (closedE cf e) := by
  obtain ⟨h1, h2, h3, h4, h5, h6, h7, h8, h9⟩ := h
  refine ⟨⟨h1, h2, h3, h4, h5, rfl, ?_, ?_, ?_⟩, ?_⟩ <;> simp [closedE]

theorem eok_settle {cfg : Cfg} {now ns nr : Nat} {e : Sess} (cf : Bool) (h : EOkQ cfg now ns nr e) :
    EOk cfg now ns nr (settleE now cf e) := by
  by_cases hq : e.removed = false ∧ e.closing = true ∧ e.busy = 0 ∧ e.initBusy = 0
  · rw [settleE_close h.notDue hq.1 hq.2.1 hq.2.2.1 hq.2.2.2]
    exact eok_closed cf h
  · rw [settleE_id h.notDue hq]
    refine ⟨h, ?_⟩
    intro hc hr hz
    apply hq
    have := h.busy
    exact ⟨hr, hc, by omega, h.initBusy⟩

theorem relpre_settle {cfg : Cfg} {now ns nr : Nat} {e : Sess} {a : MSess} (cf : Bool)
    (h : ERelPre cfg ns nr e a) (hnd : ∀ d, e.timer = .armed d → now < d) :
    ERelPre cfg ns nr (settleE now cf e) a := by
  by_cases hq : e.removed = false ∧ e.closing = true ∧ e.busy = 0 ∧ e.initBusy = 0
  · rw [settleE_close hnd hq.1 hq.2.1 hq.2.2.1 hq.2.2.2]
    apply rel_nonlive
    · exact h.owner
    · intro hl; have := (h.live.mp hl).2; rw [hq.2.1] at this; cases this
    · intro _; rfl
    · left; rfl
  · rw [settleE_id hnd hq]; exact h

theorem settleE_removed {now : Nat} {cf : Bool} {e : Sess} (hnd : ∀ d, e.timer = .armed d → now < d) (hr : e.removed = false) :
    (settleE now cf e).removed = (e.closing && e.busy == 0 && e.initBusy == 0) ∧
    (settleE now cf e).closing = e.closing ∧ (settleE now cf e).id = e.id ∧ (settleE now cf e).owner = e.owner ∧
    (settleE now cf e).closeErr = (if e.closing && e.busy == 0 && e.initBusy == 0 then cf else e.closeErr) := by
  by_cases hq : e.removed = false ∧ e.closing = true ∧ e.busy = 0 ∧ e.initBusy = 0
  · rw [settleE_close hnd hq.1 hq.2.1 hq.2.2.1 hq.2.2.2]
    simp [closedE, hq.2.1, hq.2.2.1, hq.2.2.2]
  · rw [settleE_id hnd hq]
    have : (e.closing && e.busy == 0 && e.initBusy == 0) = false := by
      cases hc : e.closing with
      | false => simp
      | true =>
        by_cases hb : e.busy = 0
        · have : e.initBusy ≠ 0 := fun h => hq ⟨hr, hc, hb, h⟩
          simp [hb, this]
        · simp [hb]
    simp [this, hr]

/-- (concludes `EOk`: a POST that stays pending leaves nothing to settle) -/
theorem eokq_pend {cfg : Cfg} {now ns nr : Nat} {e : Sess} (h : EOk cfg now ns nr e) (hg : Good cfg now e)
    (hr : e.removed = false) (hc : e.closing = false) : EOk cfg now (ns + 1) nr (pendE e) :=
  have t := h.timerOk.startE
  ⟨⟨h.pending, h.creating, h.initBusy, by show e.busy + 1 = _; rw [h.busy]; omega,
      by show e.posts + 1 = ns + 1 + e.upl; rw [h.posts]; omega, h.inMap, t.tmr, t.armed, t.notDue⟩,
    fun hc' => absurd (hc.symm.trans hc') (by simp)⟩

theorem rel_pend {cfg : Cfg} {ns nr : Nat} {e : Sess} {a : MSess} (h : ERel cfg ns nr e a)
    (hr : e.removed = false) (hc : e.closing = false) : ERelPre cfg (ns + 1) nr (pendE e) (mPend a) := by
  have hl := h.life_live hr hc
  refine ⟨h.owner, fun hd => ?_, ⟨fun _ => ⟨hr, hc⟩, fun _ => hl⟩, fun _ => ?_, fun _ hns => by omega⟩
  · rw [show (mPend a).life = a.life from rfl, hl] at hd; cases hd
  · have := h.cnt hl
    exact ⟨by show a.posts + 1 = ns + 1 + e.upl; omega, this.2⟩

theorem eokq_release {cfg : Cfg} {now ns nr : Nat} {e : Sess} (h : EOk cfg now ns nr e) (hg : Good cfg now e)
    (hr : e.removed = false) (hns : ns ≠ 0) : EOkQ cfg now (ns - 1) nr (endE now cfg.timeout (hdoneE e)) :=
  have t := (⟨h.tmr, h.armed, h.notDue⟩ : TimerOk cfg now (hdoneE e)).endE hg.no_timeout
  ⟨h.pending, h.creating, h.initBusy, by show e.busy - 1 = _; rw [h.busy]; omega,
    by show e.posts - 1 = ns - 1 + e.upl; rw [h.posts]; omega, h.inMap, t.tmr, t.armed, t.notDue⟩

theorem eokq_abandon {cfg : Cfg} {now ns nr : Nat} {e : Sess} (h : EOk cfg now ns nr e) (hg : Good cfg now e)
    (hr : e.removed = false) (hns : ns ≠ 0) : EOkQ cfg now (ns - 1) (nr + 1) (endE now cfg.timeout e) :=
  have t := h.timerOk.endE hg.no_timeout
  ⟨h.pending, h.creating, h.initBusy, by show e.busy = _; rw [h.busy]; omega,
    by show e.posts - 1 = ns - 1 + e.upl; rw [h.posts]; omega, h.inMap, t.tmr, t.armed, t.notDue⟩

theorem eokq_runDone {cfg : Cfg} {now ns nr : Nat} {e : Sess} (h : EOk cfg now ns nr e)
    (hnr : nr ≠ 0) : EOkQ cfg now ns (nr - 1) (hdoneE e) :=
  ⟨h.pending, h.creating, h.initBusy, by show e.busy - 1 = _; rw [h.busy]; omega, h.posts, h.inMap, h.tmr, h.armed, h.notDue⟩

theorem rel_endE {cfg : Cfg} {now ns nr nr' : Nat} {e : Sess} {a : MSess}
    (h : ERelPre cfg ns nr' e a) (hcnt : a.life = .live → a.running = nr) (hp : e.posts = ns + e.upl)
    (hrp : e.timer ≠ .nil → e.refs = e.posts) (htm : e.removed = false → (e.timer = .nil ↔ cfg.timeout = 0)) (hns : ns ≠ 0) :
    ERelPre cfg (ns - 1) nr (endE now cfg.timeout e) (mPostDone now a) := by
  have hlife : (mPostDone now a).life = a.life := by unfold mPostDone; split <;> rfl
  have hown : (mPostDone now a).owner = a.owner := by unfold mPostDone; split <;> rfl
  refine ⟨hown.trans h.owner, hlife ▸ h.dead, hlife ▸ h.live, ?_, ?_⟩
  · rw [hlife]; intro hl
    have c := h.cnt hl
    have r := hcnt hl
    show _ = ns - 1 + e.upl ∧ _
    unfold mPostDone
    split
    · exact ⟨by simp; omega, by simpa using r⟩
    · exact ⟨by simp; omega, by simpa using r⟩
  · rw [hlife]; intro hl hz hu hT
    have hu : e.upl = 0 := hu
    have c := h.cnt hl
    have hr := (h.live.mp hl).1
    have hap : a.posts ≤ 1 := by omega
    have hid : (mPostDone now a).idleSince = now := by simp [mPostDone, hap]
    have htn : e.timer ≠ .nil := fun hx => hT ((htm hr).mp hx)
    have hrf : e.refs - 1 = 0 := by rw [hrp htn, hp]; omega
    show (if e.timer = .nil ∨ e.refs - 1 ≠ 0 then e.timer else Timer.armed (now + cfg.timeout)) = _
    rw [if_neg (not_or.mpr ⟨htn, fun hn => hn hrf⟩), hid]

theorem hdoneE_fields (e : Sess) : (hdoneE e).id = e.id ∧ (hdoneE e).owner = e.owner ∧ (hdoneE e).removed = e.removed ∧
    (hdoneE e).closing = e.closing ∧ (hdoneE e).timer = e.timer ∧ (hdoneE e).posts = e.posts ∧ (hdoneE e).refs = e.refs := by
  simp [hdoneE]

theorem rel_hdoneE {cfg : Cfg} {ns nr : Nat} {e : Sess} {a : MSess} (h : ERelPre cfg ns nr e a) :
    ERelPre cfg ns nr (hdoneE e) a := by
  exact ⟨h.owner, h.dead, h.live, h.cnt, h.idle⟩

theorem rel_runInc {cfg : Cfg} {ns nr : Nat} {e : Sess} {a : MSess} (h : ERelPre cfg ns nr e a) :
    ERelPre cfg ns (nr + 1) e (mRunInc a) := by
  refine ⟨h.owner, h.dead, h.live, ?_, h.idle⟩
  intro hl; have := h.cnt hl; exact ⟨this.1, by simp [mRunInc, this.2]⟩

theorem rel_runDec {cfg : Cfg} {ns nr : Nat} {e : Sess} {a : MSess} (h : ERelPre cfg ns nr e a) :
    ERelPre cfg ns (nr - 1) e (mRunDec a) := by
  refine ⟨h.owner, h.dead, h.live, ?_, h.idle⟩
  intro hl; have := h.cnt hl; exact ⟨this.1, by simp [mRunDec, this.2]⟩

theorem eok_head {cfg : Cfg} {now ns nr : Nat} {e : Sess} (h : EOk cfg now ns nr e) : EOk cfg now ns nr (headF e) := by
  rw [headF_eq]
  have t := h.timerOk.startE
  exact ⟨⟨h.pending, h.creating, h.initBusy, h.busy, by show e.posts + 1 = ns + (e.upl + 1); rw [h.posts]; omega, h.inMap,
    t.tmr, t.armed, t.notDue⟩, h.quiet⟩

theorem rel_head {cfg : Cfg} {ns nr : Nat} {e : Sess} {a : MSess} (h : ERel cfg ns nr e a) (hr : e.removed = false) :
    ERelPre cfg ns nr (headF e) (mPend a) := by
  rw [headF_eq]
  by_cases hl : a.life = .live
  · refine ⟨h.owner, fun hd => ?_, ⟨fun _ => h.live.mp hl, fun _ => hl⟩, fun _ => ?_, fun _ _ hu => ?_⟩
    · rw [show (mPend a).life = a.life from rfl, hl] at hd; cases hd
    · have := h.cnt hl
      exact ⟨by show a.posts + 1 = ns + (e.upl + 1); omega, this.2⟩
    · exact absurd hu (Nat.succ_ne_zero _)
  · refine rel_nonlive h.owner hl (fun hd => ?_) (Or.inr ?_)
    · have := h.dead hd; rw [hr] at this; cases this
    · cases hc : e.closing with
      | true => exact hc
      | false => exact absurd (h.live.mpr ⟨hr, hc⟩) hl

theorem eokq_body {cfg : Cfg} {now ns nr : Nat} {e : Sess} (h : EOk cfg now ns nr e)
    (hT : cfg.timeout = 0 → e.timer = .nil) (hu : e.upl ≠ 0) : EOkQ cfg now ns nr (bodyE now cfg.timeout e) :=
  have t := (⟨h.tmr, h.armed, h.notDue⟩ : TimerOk cfg now { e with upl := e.upl - 1 }).endE hT
  ⟨h.pending, h.creating, h.initBusy, h.busy, by show e.posts - 1 = ns + (e.upl - 1); rw [h.posts]; omega, h.inMap,
    t.tmr, t.armed, t.notDue⟩

/-- a POST whose body is still on its way counts like a parked one -/
theorem ERelPre.upl_to_ns {cfg : Cfg} {ns nr : Nat} {e : Sess} {a : MSess} (h : ERelPre cfg ns nr e a) (hu : e.upl ≠ 0) :
    ERelPre cfg (ns + 1) nr { e with upl := e.upl - 1 } a :=
  ⟨h.owner, h.dead, h.live, fun hl => ⟨by have := (h.cnt hl).1; show a.posts = ns + 1 + (e.upl - 1); omega, (h.cnt hl).2⟩,
    fun _ h0 => absurd h0 (Nat.succ_ne_zero _)⟩

theorem rel_body {cfg : Cfg} {now ns nr : Nat} {e : Sess} {a : MSess}
    (h : ERelPre cfg ns nr e a) (hp : e.posts = ns + e.upl) (hu : e.upl ≠ 0)
    (hrp : e.timer ≠ .nil → e.refs = e.posts) (htm : e.removed = false → (e.timer = .nil ↔ cfg.timeout = 0)) :
    ERelPre cfg ns nr (bodyE now cfg.timeout e) (mPostDone now a) :=
  rel_endE (h.upl_to_ns hu) (fun hl => (h.cnt hl).2) (by show e.posts = ns + 1 + (e.upl - 1); omega) hrp htm
    (Nat.succ_ne_zero ns)

theorem eokq_close {cfg : Cfg} {now ns nr : Nat} {e : Sess} (h : EOk cfg now ns nr e) :
    EOkQ cfg now ns nr (closeE e) := by
  obtain ⟨⟨h1, h2, h3, h4, h5, h6, h7, h8, h9⟩, h10⟩ := h
  refine ⟨h1, h2, h3, h4, h5, h6, h7, ?_, h9⟩
  intro _ hc; simp [closeE] at hc

theorem rel_closing {cfg : Cfg} {ns nr : Nat} {e : Sess} {a : MSess} (h : ERelPre cfg ns nr e a)
    (hr : e.removed = false) : ERelPre cfg ns nr (closeE e) (if a.life = .live then mDying a else a) := by
  apply rel_nonlive
  · split <;> exact h.owner
  · split
    · simp [mDying]
    · assumption
  · intro hd
    split at hd
    · simp [mDying] at hd
    · have := h.dead hd; rw [hr] at this; cases this
  · right; rfl

theorem settleE_removed_id {now : Nat} {cf : Bool} {e : Sess} (hr : e.removed = true) : settleE now cf e = e := by
  simp [settleE, tryF, timerFireF, closeDoneF, hr]

theorem firedE_fields (cf : Bool) (e : Sess) : (firedE cf e).id = e.id ∧ (firedE cf e).owner = e.owner ∧
    (firedE cf e).closing = true ∧ (firedE cf e).removed = (e.removed || (e.busy == 0 && e.initBusy == 0)) := by
  unfold firedE
  split
  · rename_i h; simp [closedE, h.1, h.2]
  · rename_i h
    have : (e.busy == 0 && e.initBusy == 0) = false := by
      by_cases hb : e.busy = 0
      · have : e.initBusy ≠ 0 := fun hh => h ⟨hb, hh⟩
        simp [hb, this]
      · simp [hb]
    simp [this]

theorem settleE_tick {cfg : Cfg} {now ns nr : Nat} {e : Sess} (t : Nat) (cf : Bool) (h : EOk cfg now ns nr e)
    (hg : Good cfg now e) :
    (settleE t cf e = e ∧ ∀ d, e.timer = .armed d → t < d) ∨
    (∃ d, e.removed = false ∧ e.timer = .armed d ∧ d ≤ t ∧ settleE t cf e = firedE cf e) := by
  by_cases hr : e.removed = true
  · have htn : e.timer = .nil := (hg.unpublished (hg.removed hr).1).1
    exact Or.inl ⟨settleE_removed_id hr, fun d hd => by rw [htn] at hd; cases hd⟩
  · have hr : e.removed = false := by simpa using hr
    by_cases hdue : ∃ d, e.timer = .armed d ∧ d ≤ t
    · obtain ⟨d, ht, hd⟩ := hdue
      exact Or.inr ⟨d, hr, ht, hd, settleE_fire hr ht hd⟩
    · have hnd : ∀ d, e.timer = .armed d → t < d := fun d hd => Nat.lt_of_not_le fun hge => hdue ⟨d, hd, hge⟩
      refine Or.inl ⟨settleE_id hnd ?_, hnd⟩
      intro ⟨_, h2, h3, _⟩
      have := h.quiet h2 hr
      have := h.busy
      omega

theorem eok_tick {cfg : Cfg} {now ns nr : Nat} {e : Sess} (n : Nat) (cf : Bool) (h : EOk cfg now ns nr e)
    (hg : Good cfg now e) : EOk cfg (now + n) ns nr (settleE (now + n) cf e) := by
  rcases settleE_tick (now + n) cf h hg with ⟨hs, hnd⟩ | ⟨d, hr, ht, hd, hs⟩ <;> rw [hs]
  · exact ⟨⟨h.pending, h.creating, h.initBusy, h.busy, h.posts, h.inMap, h.tmr, h.armed, hnd⟩, h.quiet⟩
  · have hq : EOkQ cfg (now + n) ns nr { e with timer := .stopped, closing := true } := by
      refine ⟨h.pending, h.creating, h.initBusy, h.busy, h.posts, h.inMap, fun _ => ?_, ?_, ?_⟩
      · have := h.tmr hr
        rw [ht] at this
        constructor
        · intro hx; cases hx
        · intro hx; cases this.mpr hx
      · intro _ hc; cases hc
      · intro d' hd'; cases hd'
    unfold firedE
    split
    · exact eok_closed cf hq
    · rename_i hb
      exact ⟨hq, fun _ _ hz => hb ⟨by have := h.busy; omega, h.initBusy⟩⟩

theorem expire_nonlive {cfg : Cfg} {now : Nat} {a : MSess} (h : a.life ≠ .live) : expire cfg now a = a := by
  unfold expire
  have : (a.life == Life.live) = false := by simp [h]
  simp [this]

/-- no timer of the entry is due: the abstract session does not expire -/
theorem expire_notDue {cfg : Cfg} {now ns nr : Nat} {e : Sess} {a : MSess} (h : ERel cfg ns nr e a)
    (hnd : ∀ d, e.timer = .armed d → now < d) : expire cfg now a = a := by
  by_cases hl : a.life = .live
  · unfold expire
    by_cases hp : a.posts = 0
    · by_cases hT : cfg.timeout = 0
      · simp [hT]
      · have hnu : ns = 0 ∧ e.upl = 0 := by have := (h.cnt hl).1; omega
        have := hnd _ (h.idle hl hnu.1 hnu.2 hT)
        have h4 : decide (a.idleSince + cfg.timeout ≤ now) = false := by simp; omega
        simp [h4]
    · have : (a.posts == 0) = false := by simp [hp]
      simp [this]
  · exact expire_nonlive hl

/-- The model's idle timer and the monitor's idle deadline are the same instant (`ERelPre.idle`): the timer fires at a
tick exactly when the abstract session expires. -/
theorem rel_tick {cfg : Cfg} {now ns nr : Nat} {e : Sess} {a : MSess} (n : Nat) (cf : Bool)
    (h : ERel cfg ns nr e a) (hk : EOk cfg now ns nr e) (hg : Good cfg now e) :
    ERelPre cfg ns nr (settleE (now + n) cf e) (expire cfg (now + n) a) := by
  rcases settleE_tick (now + n) cf hk hg with ⟨hs, hnd⟩ | ⟨d, hr, ht, hd, hs⟩ <;> rw [hs]
  · rw [expire_notDue h hnd]; exact h.toERelPre
  · obtain ⟨_, f2, f3, f4⟩ := firedE_fields cf e
    by_cases hl : a.life = .live
    · have hcnt := h.cnt hl
      have htn : e.timer ≠ .nil := by rw [ht]; simp
      have hT : cfg.timeout ≠ 0 := fun hx => htn ((hk.tmr hr).mpr hx)
      have hnu : ns = 0 ∧ e.upl = 0 := by
        have h1 := hk.posts; have h2 := hg.refs_posts htn; have := (hg.armed d ht).1; omega
      have hid := h.idle hl hnu.1 hnu.2 hT
      rw [ht] at hid
      have hdd : d = a.idleSince + cfg.timeout := by cases hid; rfl
      have hex : (expire cfg (now + n) a).life = (if a.running > 0 then Life.dying else Life.dead) ∧
          (expire cfg (now + n) a).owner = a.owner := by
        unfold expire
        have h1 : (a.life == Life.live) = true := by simp [hl]
        have h2 : (a.posts == 0) = true := by simp [hcnt.1, hnu.1, hnu.2]
        have h3 : decide (cfg.timeout > 0) = true := by simp; omega
        have h4 : decide (a.idleSince + cfg.timeout ≤ now + n) = true := by simp; omega
        simp [h1, h2, h3, h4]
      refine rel_nonlive (by rw [f2, hex.2]; exact h.owner) (by rw [hex.1]; split <;> simp) ?_ (Or.inr f3)
      rw [hex.1, f4, hr]
      intro hd'
      split at hd'
      · cases hd'
      · have : e.busy = 0 := by rw [hk.busy, hnu.1, ← hcnt.2]; omega
        simp [this, hk.initBusy]
    · rw [expire_nonlive hl]
      exact rel_nonlive (by rw [f2]; exact h.owner) hl (fun hd' => by have := h.dead hd'; rw [hr] at this; cases this) (Or.inr f3)

end Sessions
