import McpModel.Sessions.Obs
/-!
E7 — the typed **property monitor** of C11 (and, clause group `close`, of the session half of C05).

The C11 clauses as a total, decidable function on the *implementation's* observations (`Obs`), derived
from an abstract session table that does not use the model's state: a session is a name, an owner, the
number of POSTs in progress, the instant it last became idle and the number of handlers that outlived
their POST; it dies by an accepted DELETE, a server-side close, a failed initialize, or `timeout` ms of
idleness.  The monitor has two parts:

* bookkeeping (`expire`, `bookAnswer`, `bookSlots`, `bookDone`, `scanMap`, `reapDying`,
  `noteFailedInit`): what the history says about each session — the ground truth the clauses refer to;
* the checks `chkAnswer` … `chkClose`, one per group of clauses, each returning the first violated clause.

The groups are numbered by the part of a record they read, and the numbers are used in the comments here and in Sound.lean: (1) the
answer, (2) the handler log ((2') of a record that completes an earlier POST), (3) the `Mcp-Session-Id` header, (4) — not a check —
the bookkeeping from the answer, (5a)–(5e) the snapshot of `h.sessions` and `Server.Sessions()`, (6) closing.  `monStep` reports
the first violation in this order.

`monStep` runs one record; `monEnd` judges the end-of-case record; `runMon` runs a trace.  The driver
(Driver.lean) only parses tokens into `Op`/`Obs`, calls these, and renders the clause (`Clause.text`
lives there).  Bridge.lean: no clause on any observation trace of the model.  Sound.lean: a reported
clause refutes the corresponding clause of the property on the observed trace.

Core Lean only (linked into the driver).
-/
namespace Sessions

/-! ## the abstract session table -/

inductive Life where
  | live      -- honoured
  | dying     -- a DELETE / server-side close / idle timeout has begun and waits for running handlers
  | dead      -- terminated
deriving DecidableEq, Repr

structure MSess where
  name : Name
  owner : Owner
  life : Life
  posts : Nat
  idleSince : Nat
  running : Nat := 0      -- handlers still running after their POST was abandoned
deriving DecidableEq, Repr

structure Mon where
  tbl : List MSess := []
  now : Nat := 0
  pend : List (Tag × Name) := []    -- async tag ↦ session name
  zombies : List Name := []         -- F20: sessions closed during creation that were published anyway
  run : List (Nat × Name) := []     -- slot of an abandoned POST whose handler still runs ↦ session name
  faults : Faults := {}             -- what the last `fault` op made the event store fail (the environment's script)
  nslow : Nat := 0                  -- the harness's counters, from which it names asynchronous requests
  nasync : Nat := 0
deriving Repr

def monFind (m : List MSess) (n : Name) : Option MSess := m.find? (·.name == n)

def monUpd (m : List MSess) (n : Name) (f : MSess → MSess) : List MSess :=
  m.map fun e => if e.name == n then f e else e

/-! ## clauses -/

inductive Verb where
  | post | get | delete | other
deriving DecidableEq, Repr

/-- (1) the answer of a request -/
inductive AnsClause where
  | statelessNotPost (v : Verb) (st : St)     -- stateless_no_ids_405: GET/DELETE/other not answered 405
  | statelessHonoured (st : St)               -- stateless_no_ids_405: 403/404, i.e. the id was looked at
  | statelessPost (st : St)                   -- stateless_no_ids_405: POST neither served nor refused by the store
  | otherMethod (st : St)                     -- other HTTP method not answered 405
  | createAnswered (st : St)                  -- id_minted_only_on_creating_post: POST without id
  | missingId (v : Verb) (st : St)            -- GET/DELETE without id not answered 400
  | unknownHonoured (v : Verb) (st : St)      -- id_addresses_one_session
  | deadAnswered (v : Verb) (st : St)         -- dead_after_removal
  | ownerRejected                             -- owner_binding: the owner got 403
  | foreignAnswered (v : Verb) (st : St)      -- owner_binding: another user not answered 403
  | goneDuringPost                            -- timer_never_fires_during_post
  | liveNotHonoured (v : Verb)                -- dead_after_removal (converse): live session answered 404
  | liveAnswered (v : Verb) (st : St)         -- a live session answered with an unexplained status
deriving DecidableEq, Repr

/-- (2) the handler invocation log -/
inductive LogClause where
  | rejectedReached      -- owner_binding: handler invoked for a rejected request
  | otherUser            -- owner_binding: handler saw another user
  | statelessWithId      -- stateless_no_ids_405: handler ran on a session with an id
  | misrouted            -- id_addresses_one_session: message routed to another session
  | noRequest            -- handler invoked without a request
deriving DecidableEq, Repr

/-- (3) the `Mcp-Session-Id` response header -/
inductive MintClause where
  | stateless            -- stateless_no_ids_405: stateless endpoint issued a session id
  | notCreating          -- id_minted_only_on_creating_post: header on a response that created no session
  | reused               -- id_addresses_one_session: minted id already names a session
  | different            -- id_minted_only_on_creating_post: response names a different session
deriving DecidableEq, Repr

/-- (5a) the entries of `h.sessions` against the abstract table -/
inductive TblClause where
  | ownerChanged                               -- owner_binding: the entry of a known session names another owner
  | deadInTable (n : Name)                     -- dead_after_removal: a terminated session is (again) a key
  | closingDuringPost (n : Name)               -- timer_never_fires_during_post: closing although a POST is in progress
  | closingNoCause (n : Name)                  -- closing although live: no DELETE, no server-side close, not idle long enough
  | f20                                        -- closed during its creating POST, published anyway
  | keptAfterFailedInit                        -- a new entry, but the creating POST carried no `initialize`
  | keptAfterRefusal (st : St)                 -- a new entry, but the creating POST was refused
  | boundToOther                               -- owner_binding: the new entry is bound to another user than the creator
  | notTheNamed                                -- the new entry is not the session the response header names
  | statelessKeeps                             -- stateless_no_ids_405: a stateless endpoint keeps a session
  | appeared                                   -- id_minted_only_on_creating_post: a new entry without a creating POST
deriving DecidableEq, Repr

/-- (5b) shape of `h.sessions` -/
inductive KeyClause where
  | duplicate | badKey     -- a name occurs twice; a key is not the id of the session stored under it
deriving DecidableEq, Repr

/-- (5c) a live session must still be in `h.sessions` -/
inductive GoneClause where
  | duringPost (n : Name)  -- timer_never_fires_during_post: gone while a POST on it is in progress
  | dropped (n : Name)     -- gone without cause
deriving DecidableEq, Repr

/-- (5d) `Server.Sessions()` against `h.sessions` -/
inductive SrvClause where
  | statelessId            -- stateless_no_ids_405: a server session with an id
  | notForgotten (n : Name) -- the server still lists a session that has left `h.sessions`
  | tableKeeps (n : Name)  -- `h.sessions` keeps a session the server has forgotten
deriving DecidableEq, Repr

/-- (6) closing a session terminates and leaves nothing behind (C05, and C11 "closed and forgotten") -/
inductive CloseClause where
  | stuck (n : Name)       -- `Close` has begun, none of the session's handlers is running, yet it is still in the table
  | timerLeft (n : Name)   -- the idle timer of a session that has left the table is armed
deriving DecidableEq, Repr

inductive Clause where
  | ans (c : AnsClause)
  | log (c : LogClause)
  | mint (c : MintClause)
  | tbl (c : TblClause)
  | key (c : KeyClause)
  | gone (c : GoneClause)
  | srv (c : SrvClause)
  | close (c : CloseClause)
  | noId                      -- (5e) creating initialize answered without a session id
  | zombieThen (c : Clause)   -- F20: a published dead session is in the table; `c` is what it broke now
deriving DecidableEq, Repr

inductive EndClause where
  | left             -- requests or sessions left after every session was closed
  | zombieLeft       -- … and a session published after its close (F20) is among the causes
  | timersLeft (n : Nat)   -- everything is closed and gone, but idle timers of closed sessions are still armed
deriving DecidableEq, Repr

/-! ## reading a record -/

/-- A request as the monitor sees it. -/
structure Req where
  verb : Verb
  ref : Ref
  user : UserTok
  kind : Option PKind := none     -- POST only
  racy : Bool := false            -- `postx`: the server closes the new session before it is published
deriving DecidableEq, Repr

def Op.req : Op → Option Req
  | .post r u k => some { verb := .post, ref := r, user := u, kind := some k }
  | .postx u k => some { verb := .post, ref := .absent, user := u, kind := some k, racy := true }
  | .get r u => some { verb := .get, ref := r, user := u }
  | .delete r u => some { verb := .delete, ref := r, user := u }
  | .other r u => some { verb := .other, ref := r, user := u }
  | .postb r u => some { verb := .post, ref := r, user := u, kind := some .ping }
  | _ => none

def reqRacy : Option Req → Bool
  | some r => r.racy
  | none => false

/-- the owner a session created by this request would be bound to -/
def reqOwner : Option Req → Owner
  | some r => r.user.owner
  | none => .unbound

/-- Not refused so far: a 2xx, or no answer yet (`pending`). -/
def St.accepted2xx : St → Bool
  | .code 200 | .code 202 | .code 204 | .pending => true
  | _ => false

def St.rejected : St → Bool
  | .code 400 | .code 403 | .code 404 | .code 405 => true
  | _ => false

/-- `e.owner == "-" || e.owner == user` on the printed forms. -/
def entitled (o : Owner) (u : UserTok) : Bool :=
  o == .unbound ||
  match u with
  | .u n => o == .u n
  | .anon => o == .raw "anon"
  | .ue => o == .raw "ue"

/-- The event store's failures in force (none without an event store). -/
def effFaults (cfg : Cfg) (m : Mon) : Faults := if cfg.eventStore then m.faults else {}

def isInitKind : Option PKind → Bool
  | some .init | some .badinit => true
  | _ => false

/-! ## bookkeeping (what the history says) -/

/-- Idle sessions die when their timeout has elapsed (observed at quiescence after the tick); with a
handler still running the close cannot complete yet: the session is going away. -/
def expire (cfg : Cfg) (now : Nat) (e : MSess) : MSess :=
  if e.life == .live && e.posts == 0 && decide (cfg.timeout > 0) && decide (e.idleSince + cfg.timeout ≤ now) then
    { e with life := if e.running > 0 then .dying else .dead }
  else e

def nowAfter (m : Mon) : Op → Nat
  | .tick ms => m.now + ms
  | _ => m.now

/-- The tag under which the harness will report the completion of this request if it stays pending
(`raw ""`: the harness reports no completion that the monitor follows). -/
def tagOf (m : Mon) : Op → Tag
  | .post _ _ .slow => .p (m.nslow + 1)
  | .postx _ .slow => .p (m.nslow + 1)
  | .delete _ _ => .d (m.nasync + 1)
  | .close _ => .c (m.nasync + 1)
  | .postb _ _ => .u (m.nasync + 1)
  | _ => .raw ""

def countersAfter (m : Mon) (op : Op) (st : St) : Nat × Nat :=
  match op with
  | .post _ _ .slow | .postx _ .slow => (m.nslow + 1, m.nasync)
  | .post _ _ _ | .postx _ _ | .get _ _ | .delete _ _ | .other _ _ | .postb _ _ => (m.nslow, m.nasync + 1)
  | .close _ => if st == .noop then (m.nslow, m.nasync) else (m.nslow, m.nasync + 1)
  | _ => (m.nslow, m.nasync)

/-- (4) bookkeeping from the answer: POSTs in progress, sessions going away. -/
def bookAnswer (cfg : Cfg) (fl : Faults) (now : Nat) (tag : Tag) (tbl : List MSess) (pend : List (Tag × Name))
    (op : Op) (st : St) : List MSess × List (Tag × Name) :=
  if cfg.stateless then (tbl, pend)
  else
    let reg (n : Name) := pend ++ [(tag, n)]
    match op with
    | .post ref u k =>
      match ref.name with
      | none => (tbl, pend)
      | some n =>
        let entitledLive := match monFind tbl n with
          | some e => e.life == .live && entitled e.owner u
          | none => false
        let openRefusal := k != .notif && fl.reqOpen && st == .code 500
        if entitledLive && (st.accepted2xx || openRefusal) then
          if st == .pending then (monUpd tbl n (fun e => { e with posts := e.posts + 1 }), reg n)
          else (monUpd tbl n (fun e => if e.posts == 0 then { e with idleSince := now } else e), pend)
        else (tbl, pend)
    | .postb ref u =>
      -- a POST whose body is still on its way is in progress from the arrival of its headers (booked for
      -- every known session the user is entitled to: for one that is going away the count is never read)
      match ref.name with
      | none => (tbl, pend)
      | some n =>
        let admitted := match monFind tbl n with
          | some e => entitled e.owner u
          | none => false
        if admitted && st == .pending then (monUpd tbl n (fun e => { e with posts := e.posts + 1 }), reg n)
        else (tbl, pend)
    | .delete ref u =>
      match ref.name with
      | none => (tbl, pend)
      | some n =>
        let entitledLive := match monFind tbl n with
          | some e => e.life == .live && entitled e.owner u
          | none => false
        if entitledLive && st == .code 204 then (monUpd tbl n (fun e => { e with life := .dead }), pend)
        else if entitledLive && st == .pending then (monUpd tbl n (fun e => { e with life := .dying }), reg n)
        else (tbl, pend)
    | .close ref =>
      match ref.name with
      | none => (tbl, pend)
      | some n =>
        -- (`err`: Close reported the error of closing the connection; the session has ended all the same)
        if st == .ok || st == .err then (monUpd tbl n (fun e => { e with life := .dead }), pend)
        else if st == .pending then
          (monUpd tbl n (fun e => if e.life == .live then { e with life := .dying } else e), reg n)
        else (tbl, pend)
    | _ => (tbl, pend)

/-- Abandoned POSTs: the handler keeps running; released handlers stop running. -/
def bookSlots (tbl : List MSess) (pend : List (Tag × Name)) (run : List (Nat × Name)) (op : Op) (st : St) :
    List MSess × List (Nat × Name) :=
  match op with
  | .abandon k =>
    if st == .ok then
      match pend.find? (·.1 == Tag.p k) with
      | some (_, nm) => (monUpd tbl nm (fun e => { e with running := e.running + 1 }), run ++ [(k, nm)])
      | none => (tbl, run)
    else (tbl, run)
  | .release k =>
    match run.find? (·.1 == k) with
    | some (_, nm) => (monUpd tbl nm (fun e => { e with running := e.running - 1 }), run.filter (·.1 != k))
    | none => (tbl, run)
  | _ => (tbl, run)

/-- One asynchronous completion: a POST that ends, a DELETE / server-side close that completes. -/
def bookDone1 (now : Nat) (acc : List MSess × List (Tag × Name)) (c : Tag × Nat) : List MSess × List (Tag × Name) :=
  match acc.2.find? (·.1 == c.1) with
  | none => acc
  | some (_, nm) =>
    let rest := acc.2.filter (·.1 != c.1)
    match c.1 with
    | .p _ =>
      (monUpd acc.1 nm (fun e => if e.posts ≤ 1 then { e with posts := 0, idleSince := now } else { e with posts := e.posts - 1 }), rest)
    | .u _ =>
      (monUpd acc.1 nm (fun e => if e.posts ≤ 1 then { e with posts := 0, idleSince := now } else { e with posts := e.posts - 1 }), rest)
    | _ => (monUpd acc.1 nm (fun e => { e with life := .dead }), rest)

def bookDone (now : Nat) (tbl : List MSess) (pend : List (Tag × Name)) (done : List (Tag × Nat)) :
    List MSess × List (Tag × Name) :=
  done.foldl (bookDone1 now) (tbl, pend)

def firstViol {α} (a b : Option α) : Option α := match a with | some x => some x | none => b

/-- (5a) One entry of `h.sessions`: a known session must agree with the abstract table; an unknown one is
a new session, legitimate only as the creation of this very request. -/
def judgeEntry (cfg : Cfg) (now : Nat) (req : Option Req) (st : St) (hdr : Option Name) (tbl : List MSess)
    (ent : MapEnt) : List MSess × Option TblClause :=
  match monFind tbl ent.name with
  | some e =>
    if e.owner != ent.owner then (tbl, some .ownerChanged)
    else if e.life == .dead then (tbl, some (.deadInTable ent.name))
    else if e.life == .live && ent.closing then
      (tbl, some (if e.posts > 0 then .closingDuringPost ent.name else .closingNoCause ent.name))
    else (tbl, none)
  | none =>
    let e : MSess := { name := ent.name, owner := ent.owner, life := .live, posts := 0, idleSince := now }
    let creating : Option Req := match req with
      | some r => if r.verb == .post && r.ref == .absent && !cfg.stateless then some r else none
      | none => none
    let v : Option TblClause :=
      if reqRacy req then some .f20
      else match creating with
        | some r =>
          if r.kind != some .init then some .keptAfterFailedInit
          else if !st.accepted2xx then some (.keptAfterRefusal st)
          else if ent.owner != r.user.owner then some .boundToOther
          else if hdr != some ent.name then some .notTheNamed
          else none
        | none =>
          if cfg.stateless then some .statelessKeeps else some .appeared
    (tbl ++ [e], v)

def scanMap (cfg : Cfg) (now : Nat) (req : Option Req) (st : St) (hdr : Option Name) :
    List MSess → List MapEnt → List MSess × Option TblClause
  | tbl, [] => (tbl, none)
  | tbl, ent :: rest =>
    let (tbl1, v) := judgeEntry cfg now req st hdr tbl ent
    let (tbl2, v') := scanMap cfg now req st hdr tbl1 rest
    (tbl2, firstViol v v')

/-- Dying sessions that have left the table are dead. -/
def reapDying (names : List Name) (tbl : List MSess) : List MSess :=
  tbl.map fun e => if e.life == .dying && !names.contains e.name then { e with life := .dead } else e

/-- A creating initialize that answered with an id but left no session: failed initialize, the id is dead. -/
def noteFailedInit (now : Nat) (owner : Owner) (hdr : Option Name) (tbl : List MSess) : List MSess :=
  match hdr with
  | none => tbl
  | some h =>
    if (monFind tbl h).isNone then tbl ++ [{ name := h, owner := owner, life := .dead, posts := 0, idleSince := now }]
    else tbl

/-! ## the checks -/

def firstSome {α β} (f : α → Option β) : List α → Option β
  | [] => none
  | a :: t => match f a with
    | some b => some b
    | none => firstSome f t

/-- (1) expected answer of a request. `tbl` is the abstract table at the instant of the request. -/
def chkAnswer (cfg : Cfg) (fl : Faults) (tbl : List MSess) (r : Req) (st : St) : Option AnsClause :=
  let isPost := r.verb == .post
  -- error statuses that the transport may answer with *after* the session layer has let the request
  -- through, because the configured event store fails right now
  let openRefusal := isPost && r.kind != some .notif && fl.reqOpen && st == .code 500
  let connRefusal := isPost && fl.connOpen && st == .code 500
  let replayRefusal := r.verb == .get && fl.after && st == .code 400
  if cfg.stateless then
    if !isPost then (if st == .code 405 then none else some (.statelessNotPost r.verb st))
    else if st == .code 403 || st == .code 404 then some (.statelessHonoured st)
    else if !(st.accepted2xx || openRefusal || connRefusal) then some (.statelessPost st)
    else none
  else if r.verb == .other then
    (if st == .code 405 then none else some (.otherMethod st))
  else match r.ref.name with
    | none =>
      if isPost then (if st.accepted2xx || openRefusal || connRefusal then none else some (.createAnswered st))
      else (if st == .code 400 then none else some (.missingId r.verb st))
    | some n =>
      match monFind tbl n with
      | none => if st == .code 404 then none else some (.unknownHonoured r.verb st)
      | some e =>
        let ent := entitled e.owner r.user
        match e.life with
        | .dead => if st == .code 404 then none else some (.deadAnswered r.verb st)
        | .dying =>
          if ent then (if st == .code 403 then some .ownerRejected else none)
          else (if st == .code 403 || st == .code 404 then none else some (.foreignAnswered r.verb st))
        | .live =>
          if !ent then (if st == .code 403 then none else some (.foreignAnswered r.verb st))
          else if st == .code 403 then some .ownerRejected
          else if st == .code 404 then
            (if e.posts > 0 then some .goneDuringPost else some (.liveNotHonoured r.verb))
          else if !(st.accepted2xx || openRefusal || replayRefusal) then some (.liveAnswered r.verb st)
          else none

/-- (2) a rejected request reaches no handler; an accepted one reaches only its own session, as its own user. -/
def chkLog (cfg : Cfg) (req : Option Req) (st : St) (log : List LogEnt) : Option LogClause :=
  match req with
  | some r =>
    if st.rejected && !log.isEmpty then some .rejectedReached
    else firstSome (fun (l : LogEnt) =>
      if l.who != .tok r.user then some LogClause.otherUser
      else if cfg.stateless then (if l.sess == .e then none else some .statelessWithId)
      else match r.ref.name with
        | some n => if l.sess != n then some .misrouted else none
        | none => none) log
  | none => if !log.isEmpty then some .noRequest else none

/-- (2') the body of a POST that began earlier is complete: what it carries reaches only the session the POST
was admitted to (the session named by the monitor's entry of the request `u<n>`; a POST that was not booked —
its session was already going away — reaches no handler).  The user a handler sees is not judged here. -/
def chkBodyLog (pend : List (Tag × Name)) (n : Nat) (log : List LogEnt) : Option LogClause :=
  match pend.find? (·.1 == Tag.u n) with
  | some (_, nm) => firstSome (fun (l : LogEnt) => if l.sess != nm then some LogClause.misrouted else none) log
  | none => if !log.isEmpty then some .noRequest else none

def chkLogOp (cfg : Cfg) (pend : List (Tag × Name)) (op : Op) (st : St) (log : List LogEnt) : Option LogClause :=
  match op with
  | .body n _ => chkBodyLog pend n log
  | _ => chkLog cfg op.req st log

/-- (3) minting. `tbl` is the abstract table at the instant of the request. -/
def chkMint (cfg : Cfg) (tbl : List MSess) (req : Option Req) (st : St) (hdr : Option Name) : Option MintClause :=
  match hdr with
  | none => none
  | some h =>
    if cfg.stateless then some .stateless
    else match req with
      | some r =>
        if !(r.verb == .post && isInitKind r.kind && st.accepted2xx) then some .notCreating
        else match r.ref.name with
          | none => if (monFind tbl h).isSome then some .reused else none
          | some n => if h == n then none else some .different
      | none => some .notCreating

/-- (5b) the keys of `h.sessions` are distinct and each is the id of its session. -/
def chkKeys (map : List MapEnt) : Option KeyClause :=
  let names := map.map (·.name)
  if names.eraseDups.length != names.length then some .duplicate
  else if map.any (·.badKey) then some .badKey
  else none

/-- (5c) live sessions must still be there; dying ones may go. -/
def chkGone (names : List Name) (tbl : List MSess) : Option GoneClause :=
  firstSome (fun (e : MSess) =>
    if e.life == .live && !names.contains e.name then
      some (if e.posts > 0 then GoneClause.duringPost e.name else .dropped e.name)
    else none) tbl

/-- (5d) `Server.Sessions()` and `h.sessions` list the same sessions (stateless: the server's sessions carry no id). -/
def chkSrv (cfg : Cfg) (names : List Name) (srv : List Name) : Option SrvClause :=
  if cfg.stateless then
    (if srv.any (· != .e) then some .statelessId else none)
  else
    firstViol
      (firstSome (fun n => if names.contains n then none else some (SrvClause.notForgotten n)) srv)
      (firstSome (fun n => if srv.contains n then none else some (SrvClause.tableKeeps n)) names)

/-- (5e) an accepted creating `initialize` names the new session in its response header. -/
def chkNoId (cfg : Cfg) (req : Option Req) (st : St) (hdr : Option Name) : Bool :=
  match req with
  | some r => r.verb == .post && r.ref == .absent && r.kind == some .init && !cfg.stateless && st.accepted2xx && hdr.isNone
  | none => false

/-- (6) C05 / C11: a session whose `Close` has begun and none of whose handlers is running must be closed
(gone from the table) at quiescence; a session that has left the table has no armed idle timer. -/
def chkClose (map : List MapEnt) (stale : List Name) : Option CloseClause :=
  firstViol
    (firstSome (fun (e : MapEnt) => if e.closing && e.busy == 0 then some (CloseClause.stuck e.name) else none) map)
    (firstSome (fun n => some (CloseClause.timerLeft n)) stale)

/-! ## one record -/

/-- `chkAnswer` on an operation that may carry no request (`chkAnswerOp` below is the one on an `Op`). -/
def chkAnswerO (cfg : Cfg) (fl : Faults) (tbl : List MSess) (req : Option Req) (st : St) : Option AnsClause :=
  match req with
  | some r => chkAnswer cfg fl tbl r st
  | none => none

/-- (1) per operation: a POST of which only the headers have arrived and that is not answered yet (`postb`
answered `pending`) is judged by nothing but the bookkeeping — whom it addresses shows when it completes. -/
def chkAnswerOp (cfg : Cfg) (fl : Faults) (tbl : List MSess) (op : Op) (st : St) : Option AnsClause :=
  match op with
  | .postb _ _ => if st == .pending then none else chkAnswerO cfg fl tbl op.req st
  | _ => chkAnswerO cfg fl tbl op.req st

def faultsAfter (m : Mon) (op : Op) (st : St) : Faults :=
  match op with
  | .fault f => if st == .ok then f else m.faults
  | _ => m.faults

def zombieWrap (c : Clause) : Clause :=
  match c with
  | .tbl .f20 => c
  | _ => .zombieThen c

structure StepOut where
  mon : Mon
  viol : Option Clause

/-- The C11 clauses evaluated on one observation of the implementation. -/
def monStep (cfg : Cfg) (m : Mon) (op : Op) (o : Obs) : StepOut :=
  let now := nowAfter m op
  let req := op.req
  let st := o.status
  let fl := effFaults cfg m
  let tbl0 := m.tbl.map (expire cfg now)
  let v1 := (chkAnswerOp cfg fl tbl0 op st).map Clause.ans
  let v2 := (chkLogOp cfg m.pend op st o.log).map Clause.log
  let v3 := (chkMint cfg tbl0 req st o.hdr).map Clause.mint
  let ba := bookAnswer cfg fl now (tagOf m op) tbl0 m.pend op st
  let bs := bookSlots ba.1 ba.2 m.run op st
  let bd := bookDone now bs.1 ba.2 o.done
  let tbl2 := bd.1
  let names := o.map.map (·.name)
  let sm := scanMap cfg now req st o.hdr tbl2 o.map
  let tbl3 := sm.1
  let v5a := sm.2
  let v5b := (chkKeys o.map).map Clause.key
  let v5c := (chkGone names tbl3).map Clause.gone
  let tbl4 := reapDying names tbl3
  let tbl5 := noteFailedInit now (reqOwner req) o.hdr tbl4
  let v5d := (chkSrv cfg names o.srv).map Clause.srv
  let v5e := if chkNoId cfg req st o.hdr then some Clause.noId else none
  let v6 := (chkClose o.map o.stale).map Clause.close
  -- F20: once a session that the server closed during its creation sits in the handler's table, every
  -- clause it breaks afterwards is the same defect
  let zombies := m.zombies ++ (if reqRacy req then names.filter (fun n => (monFind tbl2 n).isNone) else [])
  let viol := firstViol v1 (firstViol v2 (firstViol v3 (firstViol (v5a.map Clause.tbl)
    (firstViol v5b (firstViol v5c (firstViol v5d (firstViol v5e v6)))))))
  let viol := if names.any zombies.contains then
      viol.map zombieWrap
    else viol
  let faults := faultsAfter m op st
  let cnt := countersAfter m op st
  { mon := { tbl := tbl5, now := now, pend := bd.2, zombies := zombies, run := bs.2, faults := faults,
             nslow := cnt.1, nasync := cnt.2 },
    viol := viol }

/-- The end-of-case record: after the harness released every handler, cancelled every request and closed
every session, it reports how many requests are stuck and how many sessions the handler's table and the
server still hold. -/
structure EndObs where
  stuck : Nat
  map : Nat
  srv : Nat
  timers : Nat := 0     -- idle timers (of sessions that are all closed by now) still armed
deriving DecidableEq, Repr

/-- `o = none`: the end record is missing or unreadable, which counts as something left.  Timers are judged only when nothing else is
left; what a session that the server closed during its creation (F20, `zombies`) leaves is reported as that defect. -/
def monEnd (m : Mon) (o : Option EndObs) : Option EndClause :=
  if o == some { stuck := 0, map := 0, srv := 0, timers := 0 } then none
  else if (o.map fun e => e.stuck == 0 && e.map == 0 && e.srv == 0) == some true then
    some (.timersLeft ((o.map (·.timers)).getD 0))
  else if !m.zombies.isEmpty then some .zombieLeft
  else some .left

/-! ## a whole case -/

def monAfter (cfg : Cfg) (m : Mon) : List (Op × Obs) → Mon
  | [] => m
  | (op, o) :: tr => monAfter cfg (monStep cfg m op o).mon tr

/-- Run the monitor over a trace: the first record (index) at which a clause is reported. -/
def runMonFrom (cfg : Cfg) : Mon → Nat → List (Op × Obs) → Option (Nat × Clause)
  | _, _, [] => none
  | m, i, (op, o) :: tr =>
    match (monStep cfg m op o).viol with
    | some c => some (i, c)
    | none => runMonFrom cfg (monStep cfg m op o).mon (i + 1) tr

def runMon (cfg : Cfg) (tr : List (Op × Obs)) : Option (Nat × Clause) := runMonFrom cfg {} 0 tr

end Sessions
