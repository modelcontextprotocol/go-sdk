import McpModel.Sessions.Ephemeral
import McpModel.Base.Logic
/-!
E7 — theorems about the configurations without kept sessions (Ephemeral.lean): a stateless endpoint under the
compatibility parameter `allowsessionsinstateless=1` (`legacy`) and a stateful endpoint whose `GetSessionID`
returns `""` (`noIds`).

* what C11 says about them, over **all** operation histories (every element of every observation trace of the
  model): nothing is ever kept, the server lists exactly the POSTs in progress, `noIds` never issues or honours an
  id, `legacy` names in its answer the session the request named, mints a fresh id for every POST without one, and
  its DELETE changes nothing; what the event store hears (`told_step`, `eph_store_told`);
* the bridge `eph_monitor_accepts_model`: the property monitor `judge` is silent on every observation trace of the
  model;
* the monitor's checks, each sound and complete (`chk…_iff`): a clause is reported for an observation exactly when the corresponding
  statement of the property fails on it (`eph_monitor_silent_iff`, for an arbitrary monitor state);
* `modelOp_total`: the model answers every operation of the harness's alphabet for these cases (`inScope`).
-/
namespace Sessions.Eph

/-- 404 / 400 / 405 / 204 as the property (and the compatibility parameter's documentation) says. -/
theorem eph_status_codes :
    stNotFound = 404 ∧ stMissingIdGet = 400 ∧ stMissingIdDelete = 400 ∧ stOtherMethod = 405 ∧
    stStatelessNotPost = 405 ∧ stLegacyDeleteMissingId = 400 ∧ stLegacyDeleteOK = 204 := by decide

/-- Names of temporary sessions in progress were minted (`legacy`) or are empty (`noIds`). -/
structure Good (s : State) : Prop where
  ord : ∀ p ∈ s.slow, nameOrd p.name ≤ s.next
  empty : s.mode = .noIds → ∀ p ∈ s.slow, p.name = .e

theorem good_init (m : Mode) (es : Bool) : Good { mode := m, es := es } := ⟨by simp, by simp⟩

theorem temp_le_next {s : State} {ref : Ref} {nm : Name} (hnm : tempName s ref = some nm) :
    nameOrd nm ≤ (if s.mode = .legacy ∧ ref = .absent then s.next + 1 else s.next) := by
  cases ref with
  | absent => cases hm : s.mode <;> simp [tempName, hm] at hnm <;> subst hnm <;> simp [nameOrd]
  | s k =>
    simp only [tempName] at hnm
    split at hnm <;> cases hnm
    simp [nameOrd]; omega
  | x n => cases hnm; simp [nameOrd]

theorem tempName_named {s : State} {ref : Ref} {nm n : Name} (h : tempName s ref = some nm) (hn : ref.name = some n) :
    nm = n := by
  cases ref with
  | absent => cases hn
  | s j =>
    simp only [tempName] at h
    split at h <;> cases h
    exact Option.some.inj hn
  | x j => cases h; exact Option.some.inj hn

theorem tempName_noIds {s : State} {ref : Ref} {nm : Name} (hm : s.mode = .noIds)
    (hc : ¬(s.mode = .noIds ∧ ref ≠ .absent)) (h : tempName s ref = some nm) : ref = .absent ∧ nm = .e := by
  have ha : ref = .absent := Decidable.byContradiction fun ha => hc ⟨hm, ha⟩
  subst ha
  simp [tempName, hm] at h
  exact ⟨rfl, h.symm⟩

/-- the status with which a request that no temporary session serves is refused -/
def refusal (m : Mode) : Op → Option Nat
  | .get ref _ => some (match m with
    | .legacy => stStatelessNotPost
    | .noIds => if ref == .absent then stMissingIdGet else stNotFound)
  | .delete ref _ => some (match m with
    | .legacy => if ref == .absent then stLegacyDeleteMissingId else stLegacyDeleteOK
    | .noIds => if ref == .absent then stMissingIdDelete else stNotFound)
  | .other _ _ => some (match m with
    | .legacy => stStatelessNotPost
    | .noIds => stOtherMethod)
  | _ => none

/-- The outcomes of `modelOp`, each with its state and its observation written out: a POST is refused by
`lookupSession` (`unknown`), parked in a slot (`parked`) or answered at once (`answered`); the rest by operation.  Some rows leave
out their guard, so only `modelOp_does` (→) holds — unlike `Sessions.Does`, which `step_does` characterises. -/
inductive Does (s : State) : Op → State → Obs → Prop where
  | unknown {ref u k ns} : s.mode = .noIds → ref ≠ .absent →
      Does s (.post ref u k) { s with nslow := ns } { status := .code stNotFound, srv := names s }
  | parked {ref u nm ns n} : ¬(s.mode = .noIds ∧ ref ≠ .absent) → tempName s ref = some nm →
      n = (if s.mode = .legacy ∧ ref = .absent then s.next + 1 else s.next) →
      Does s (.post ref u .slow) { s with nslow := ns, next := n, slow := s.slow ++ [⟨ns, nm⟩] }
        { status := .pending, srv := names { s with slow := s.slow ++ [⟨ns, nm⟩] }, log := logOf nm u .slow }
  | answered {ref u k nm n} : ¬(s.mode = .noIds ∧ ref ≠ .absent) → tempName s ref = some nm → k ≠ .slow →
      n = (if s.mode = .legacy ∧ ref = .absent then s.next + 1 else s.next) →
      Does s (.post ref u k) { s with next := n }
        { status := if k = .notif then .code 202 else .code 200, hdr := hdrOf k nm, srv := names s, log := logOf nm u k,
          closed := told s nm }
  | releaseNoop {k} : Does s (.release k) s { status := .noop, srv := names s }
  | released {k p} : s.slow.find? (·.slot == k) = some p →
      Does s (.release k)
        { s with released := s.released ++ [k], slow := s.slow.filter (·.slot != k), closing := s.closing.filter (· != k) }
        { status := .ok, srv := (s.slow.filter (·.slot != k)).map (·.name), closed := told s p.name,
          done := (.p k, 200) :: (s.closing.filter (· == k)).map fun _ => (Tag.c 0, if s.es && s.failClosed then 2 else 1) }
  | releaseNone {k} : Does s (.release k) { s with released := s.released ++ [k] } { status := .ok, srv := names s }
  | refused {op c} : refusal s.mode op = some c → Does s op s { status := .code c, srv := names s }
  | tick {n} : Does s (.tick n) s { status := .ok, srv := names s }
  | fault {f} : Does s (.fault f) { s with failClosed := f.closed } { status := if s.es then .ok else .noop, srv := names s }
  | closeNoop {ref} : Does s (.close ref) s { status := .noop, srv := names s }
  | closeWaits {ref slot} : Does s (.close ref) { s with closing := s.closing ++ [slot] } { status := .pending, srv := names s }
  | abandon {k} : Does s (.abandon k) s { status := if s.slow.any (·.slot == k) then .ok else .noop, srv := names s }

theorem modelOp_does {s s' : State} {op : Op} {o : Obs} (h : modelOp s op = some (s', o)) : Does s op s' o := by
  cases op
  case post ref u k =>
    -- whether `lookupSession` refuses the POST, and whether it mints an id
    by_cases hc : s.mode = .noIds ∧ ref ≠ .absent
    · have hc' : (s.mode == .noIds && ref != .absent) = true := by simpa using hc
      cases k <;> simp only [modelOp, hc', if_true] at h <;> cases h <;> exact .unknown hc.1 hc.2
    have hc' : (s.mode == .noIds && ref != .absent) = false := by simpa using hc
    cases hn : tempName s ref with
    | none => simp only [modelOp, hc', hn] at h; cases h
    | some nm =>
      by_cases hl : s.mode = .legacy ∧ ref = .absent
      · have hl' : (s.mode == .legacy && ref == .absent) = true := by simpa using hl
        cases k <;> simp only [modelOp, hc', hn, hl', beq_iff_eq, reduceCtorEq, if_false, if_true, Bool.false_eq_true] at h <;>
          cases h
        iterate 4 exact .answered hc hn (by decide) (if_pos hl).symm
        exact .parked hc hn (if_pos hl).symm
      · have hl' : (s.mode == .legacy && ref == .absent) = false := by simpa using hl
        cases k <;> simp only [modelOp, hc', hn, hl', beq_iff_eq, reduceCtorEq, if_false, if_true, Bool.false_eq_true] at h <;>
          cases h
        iterate 4 exact .answered hc hn (by decide) (if_neg hl).symm
        exact .parked hc hn (if_neg hl).symm
  all_goals simp only [modelOp] at h
  case release k =>
    split at h
    · cases h; exact .releaseNoop
    split at h <;> cases h
    · next p hp => exact .released hp
    · exact .releaseNone
  case get ref u => cases hm : s.mode <;> simp only [hm] at h <;> cases h <;> exact .refused (by simp [refusal, hm])
  case delete ref u => cases hm : s.mode <;> simp only [hm] at h <;> cases h <;> exact .refused (by simp [refusal, hm])
  case other ref u => cases hm : s.mode <;> simp only [hm] at h <;> cases h <;> exact .refused (by simp [refusal, hm])
  case tick n => cases h; exact .tick
  case fault f => cases h; exact .fault
  case close ref =>
    split at h
    · split at h <;> cases h
      · exact .closeNoop
      · exact .closeWaits
    · cases h; exact .closeNoop
  case abandon k => cases h; exact .abandon
  all_goals cases h

theorem config_step {s s' : State} {op : Op} {o : Obs} (h : modelOp s op = some (s', o)) :
    s'.mode = s.mode ∧ s'.es = s.es := by
  cases modelOp_does h <;> exact ⟨rfl, rfl⟩

theorem es_step {s s' : State} {op : Op} {o : Obs} (h : modelOp s op = some (s', o)) : s'.es = s.es :=
  (config_step h).2

theorem next_mono {s s' : State} {op : Op} {o : Obs} (h : modelOp s op = some (s', o)) : s.next ≤ s'.next := by
  cases modelOp_does h with
  | parked _ _ hn | answered _ _ _ hn => subst hn; dsimp only; split <;> omega
  | _ => exact Nat.le_refl _

/-- the environment's operations: the store starts / stops failing, the server closes a temporary session -/
def isEnv : Op → Bool
  | .fault _ | .close _ => true
  | _ => false

theorem filter_split (l : List Nat) (k : Nat) :
    (l.filter (· == k)).length + (l.filter (· != k)).length = l.length := by
  induction l with
  | nil => simp
  | cons a t ih => by_cases h : a = k <;> simp [h] <;> omega

theorem cls_filter (l : List Nat) (v : Nat) :
    ((l.map fun _ => ((Tag.c 0, v) : Tag × Nat)).filter isPostTag) = [] := by
  induction l <;> simp_all [isPostTag]

theorem served_post {s : State} {ref : Ref} {u : UserTok} {k : PKind} (hc : ¬(s.mode = .noIds ∧ ref ≠ .absent)) :
    served s.mode (.post ref u k) = true := by
  cases hm : s.mode <;> by_cases ha : ref = .absent <;> simp_all [served]

/-- Only a POST and a `release` tell the store anything.  (`hq` is not needed: `env_cases` shows the same of the environment's
operations.) -/
theorem quiet_closed {s s' : State} {o : Obs} {op : Op} (h : modelOp s op = some (s', o))
    (hp : ∀ ref u k, op ≠ .post ref u k) (hr : ∀ k, op ≠ .release k) (hq : isEnv op = false) : o.closed = [] := by
  cases modelOp_does h
  case unknown | parked | answered => exact absurd rfl (hp _ _ _)
  case releaseNoop | released | releaseNone => exact absurd rfl (hr _)
  all_goals rfl

/-- `fault`, `close`: the environment acts — no temporary session begins or ends, nothing is answered to a client;
a server-side `Close()` that found its session waits (`pending`) for the running handler. -/
theorem env_cases {s s' : State} {o : Obs} {op : Op} (h : modelOp s op = some (s', o)) (he : isEnv op = true) :
    s'.slow = s.slow ∧ s'.next = s.next ∧ o.hdr = none ∧ o.log = [] ∧ o.map = [] ∧ o.stale = [] ∧ o.srv = names s' ∧
    o.done = [] ∧ o.closed = [] ∧ served s.mode op = false ∧ chkAnswer s.mode op o.status = none ∧
    s'.closing.length = s.closing.length + (if o.status = .pending then 1 else 0) := by
  cases modelOp_does h
  case refused hc => cases op <;> cases he <;> cases hc
  case fault => simp [names, served, chkAnswer]; split <;> simp
  case closeNoop | closeWaits => simp [names, served, chkAnswer]
  all_goals cases he

/-- **The event store is told exactly once per temporary session that ends** (`streamableServerConn.Close` →
`EventStore.SessionClosed`): once when a served POST is answered, once per completion of a parked POST — also when the
client has gone away (`abandon`) and whatever `SessionClosed` returns; never for a refused request, never without a store. -/
theorem told_step {s s' : State} {op : Op} {o : Obs} (h : modelOp s op = some (s', o)) :
    o.closed.length = if s.es then ended s.mode op o else 0 := by
  cases modelOp_does h
  case unknown hm hr => simp [ended, served, hm, hr]
  case answered ref u k nm n hc _ hk _ =>
    by_cases hn : k = .notif <;> cases he : s.es <;> simp [ended, served_post hc, told, hn, he]
  case released => cases he : s.es <;> simp [ended, served, told, he, List.filter_cons, isPostTag, cls_filter]
  case refused hc => cases op <;> simp [refusal] at hc <;> simp [ended, served]
  all_goals simp [ended, served]

theorem good_step {s s' : State} {op : Op} {o : Obs} (g : Good s) (h : modelOp s op = some (s', o)) : Good s' := by
  cases modelOp_does h
  case parked ref u nm ns n hc hnm hn =>
    -- the new entry carries the temporary session's name: minted by now (`legacy`), or empty (`noIds`)
    have hmono : s.next ≤ n := by rw [hn]; split <;> omega
    refine ⟨fun p hp => ?_, fun hno p hp => ?_⟩ <;> rcases List.mem_append.mp hp with hp | hp
    · exact Nat.le_trans (g.ord p hp) hmono
    · simp at hp; subst hp; rw [hn]; exact temp_le_next hnm
    · exact g.empty hno p hp
    · simp at hp; subst hp; exact (tempName_noIds (s := s) hno hc hnm).2
  case answered => exact ⟨fun p hp => Nat.le_trans (g.ord p hp) (next_mono h), g.empty⟩
  case released => exact ⟨fun p hp => g.ord p (List.mem_filter.mp hp).1, fun hno p hp => g.empty hno p (List.mem_filter.mp hp).1⟩
  all_goals exact ⟨g.ord, g.empty⟩

/-- **Nothing is kept** and **the server lists exactly the POSTs in progress**: after every operation the
handler's table is empty, no idle timer exists, and `Server.Sessions()` is the list of the temporary sessions
whose POST has not ended — a temporary session is closed and forgotten when its POST ends. -/
theorem nothing_kept_step {s s' : State} {op : Op} {o : Obs} (h : modelOp s op = some (s', o)) :
    o.map = [] ∧ o.stale = [] ∧ o.srv = names s' := by
  cases modelOp_does h <;> exact ⟨rfl, rfl, rfl⟩

theorem closing_post {s s' : State} {o : Obs} {ref : Ref} {u : UserTok} {k : PKind}
    (h : modelOp s (.post ref u k) = some (s', o)) : s'.closing = s.closing := by
  cases modelOp_does h <;> rfl

/-- What is in progress (parked POSTs and server-side `Close()` calls that wait for one) is counted by the answers:
one more for each `pending`, one less for each completion. -/
theorem inprog_step {s s' : State} {op : Op} {o : Obs} (h : modelOp s op = some (s', o)) :
    s'.slow.length + s'.closing.length + o.done.length ≤
      s.slow.length + s.closing.length + (if o.status = .pending then 1 else 0) := by
  cases modelOp_does h
  case released k p hp =>
    -- the POST in slot `k` leaves `slow`; the closes that waited for it leave `closing` and are reported
    have : (s.slow.filter (·.slot != k)).length < s.slow.length :=
      List.length_filter_lt_length_iff_exists.mpr ⟨p, List.mem_of_find?_eq_some hp, by simpa using List.find?_some hp⟩
    have := filter_split s.closing k
    simp; omega
  case parked | closeWaits => simp; omega
  all_goals simp

/-- `noIds` **neither issues nor shows an id**: no `Mcp-Session-Id`, every handler runs on a session without id,
every server session is one without id. -/
theorem noids_step {s s' : State} {op : Op} {o : Obs} (hm : s.mode = .noIds) (g : Good s)
    (h : modelOp s op = some (s', o)) :
    o.hdr = none ∧ (∀ l ∈ o.log, l.sess = .e) ∧ (∀ n ∈ o.srv, n = .e) := by
  have g' := good_step g h
  have hsrv : ∀ n ∈ o.srv, n = .e := by
    rw [(nothing_kept_step h).2.2]
    intro n hn
    simp [names] at hn
    obtain ⟨p, hp, rfl⟩ := hn
    exact g'.empty ((config_step h).1.trans hm) p hp
  -- a POST that is served names no session, so its temporary session has the empty name
  refine ⟨?_, ?_, hsrv⟩ <;> cases modelOp_does h
  case refine_1.answered ref u k nm n hc hnm _ _ => rw [(tempName_noIds hm hc hnm).2]; cases k <;> simp [hdrOf]
  case refine_2.answered ref u k nm n hc hnm _ _ => rw [(tempName_noIds hm hc hnm).2]; cases k <;> simp [logOf]
  case refine_2.parked ref u nm ns n hc hnm _ => rw [(tempName_noIds hm hc hnm).2]; simp [logOf]
  all_goals simp

/-- `noIds` **honours no id**: a POST, GET or DELETE that carries a session id is answered 404, reaches no
handler and leaves everything as it was. -/
theorem noids_ids_dead {s s' : State} {o : Obs} {op : Op} {ref : Ref} {u : UserTok} (hm : s.mode = .noIds)
    (hop : (∃ k, op = .post ref u k) ∨ op = .get ref u ∨ op = .delete ref u) (hr : ref ≠ .absent)
    (h : modelOp s op = some (s', o)) :
    o.status = .code 404 ∧ o.log = [] ∧ s'.slow = s.slow ∧ o.hdr = none := by
  -- GET and DELETE with an id are refused with the status of `lookupSession`
  have refused : ∀ {c : Nat}, refusal s.mode op = some c → op = .get ref u ∨ op = .delete ref u → c = stNotFound := by
    intro c hc hop
    rcases hop with rfl | rfl <;> simp [refusal, hm, hr] at hc <;> exact hc.symm
  rcases hop with ⟨k, rfl⟩ | hop
  · cases modelOp_does h with
    | unknown => exact ⟨rfl, rfl, rfl, rfl⟩
    | parked hc | answered hc => exact absurd ⟨hm, hr⟩ hc
    | refused hc => cases hc
  · cases modelOp_does h with
    | refused hc => cases refused hc hop; exact ⟨rfl, rfl, rfl, rfl⟩
    | _ => rcases hop with hop | hop <;> cases hop

/-- `legacy`: an `Mcp-Session-Id` is only on the answer to an `initialize`, and it names the session **the request
named**; when the request named none it is the id minted for this request — larger than every id minted before,
hence the name of no earlier session. -/
theorem legacy_hdr {s s' : State} {op : Op} {o : Obs} {h : Name} (hm : s.mode = .legacy)
    (hs : modelOp s op = some (s', o)) (hh : o.hdr = some h) :
    ∃ ref u k, op = .post ref u k ∧ isInit k = true ∧ (∀ n, ref.name = some n → h = n) ∧
      (ref = .absent → h = .s (s.next + 1) ∧ s'.next = s.next + 1) := by
  cases modelOp_does hs
  case answered ref u k nm n hc hnm hk hn =>
    -- `hdrOf` shows the temporary session's name, on the answer to an `initialize` only
    have hi : isInit k = true ∧ h = nm := by
      cases k <;> simp [hdrOf] at hh <;> simp [isInit] <;> exact hh.2.symm
    obtain ⟨hi, rfl⟩ := hi
    refine ⟨ref, u, k, rfl, hi, fun n hn => tempName_named hnm hn, fun ha => ?_⟩
    subst ha
    simp [tempName, hm] at hnm
    exact ⟨hnm.symm, by rw [hn]; simp [hm]⟩
  all_goals cases hh

/-- `legacy`: every POST without a session id consumes a fresh id of `GetSessionID` (whether or not the answer
names it). -/
theorem legacy_mints_per_post {s s' : State} {o : Obs} {u : UserTok} {k : PKind} (hm : s.mode = .legacy)
    (h : modelOp s (.post .absent u k) = some (s', o)) : s'.next = s.next + 1 := by
  cases modelOp_does h with
  | unknown hno => rw [hm] at hno; cases hno
  | parked _ _ hn | answered _ _ _ hn => rw [hn]; simp [hm]
  | refused hc => cases hc

/-- `legacy`: DELETE is a no-op that only demands an id (204 with, 400 without); it changes nothing and reaches no handler. -/
theorem legacy_delete_noop {s s' : State} {o : Obs} {ref : Ref} {u : UserTok} (hm : s.mode = .legacy)
    (h : modelOp s (.delete ref u) = some (s', o)) :
    s' = s ∧ o.status = .code (if ref = .absent then 400 else 204) ∧ o.log = [] := by
  cases modelOp_does h with
  | refused hc =>
    simp [refusal, hm] at hc
    subst hc
    refine ⟨rfl, ?_, rfl⟩
    by_cases ha : ref = .absent <;> simp [ha] <;> decide

/-- `legacy`: GET and other methods are refused with 405, change nothing and reach no handler. -/
theorem legacy_405 {s s' : State} {o : Obs} {ref : Ref} {u : UserTok} {op : Op} (hm : s.mode = .legacy)
    (hop : op = .get ref u ∨ op = .other ref u) (h : modelOp s op = some (s', o)) :
    s' = s ∧ o.status = .code 405 ∧ o.log = [] := by
  rcases hop with rfl | rfl <;> cases modelOp_does h with
  | refused hc => simp [refusal, hm] at hc; subst hc; exact ⟨rfl, rfl, rfl⟩

/-- A handler runs on the temporary session of its own request, with the identity the request carried. -/
theorem log_routed {s s' : State} {o : Obs} {ref : Ref} {u : UserTok} {k : PKind}
    (h : modelOp s (.post ref u k) = some (s', o)) :
    ∀ l ∈ o.log, tempName s ref = some l.sess ∧ l.who = .tok u := by
  cases modelOp_does h
  case unknown => simp
  case parked hnm _ => simp [logOf, hnm]
  case answered hnm _ _ => cases k <;> simp [logOf, hnm]
  case refused hc => cases hc

theorem trace_mem_es {s : State} (g : Good s) {ops : List Op} {p : Op × Obs} (hp : p ∈ modelTraceFrom s ops) :
    ∃ s0 s1, Good s0 ∧ s0.mode = s.mode ∧ s0.es = s.es ∧ modelOp s0 p.1 = some (s1, p.2) := by
  induction ops generalizing s with
  | nil => simp [modelTraceFrom] at hp
  | cons op ops ih =>
    simp only [modelTraceFrom] at hp
    split at hp
    · rename_i s' o hs
      rcases List.mem_cons.mp hp with rfl | hp
      · exact ⟨s, s', g, rfl, rfl, hs⟩
      · obtain ⟨s0, s1, g0, hm0, he0, h0⟩ := ih (good_step g hs) hp
        exact ⟨s0, s1, g0, by rw [hm0, (config_step hs).1], by rw [he0, (config_step hs).2], h0⟩
    · exact ih g hp

theorem trace_mem {s : State} (g : Good s) {ops : List Op} {p : Op × Obs} (hp : p ∈ modelTraceFrom s ops) :
    ∃ s0 s1, Good s0 ∧ s0.mode = s.mode ∧ modelOp s0 p.1 = some (s1, p.2) :=
  let ⟨s0, s1, g0, hm, _, h⟩ := trace_mem_es g hp
  ⟨s0, s1, g0, hm, h⟩

/-- **C11 on an endpoint that keeps no session**: `nothing_kept_step` over all histories. -/
theorem eph_nothing_kept (m : Mode) (es : Bool) (ops : List Op) :
    ∀ p ∈ modelTrace m es ops, p.2.map = [] ∧ p.2.stale = [] := by
  intro p hp
  obtain ⟨s0, s1, _, _, h⟩ := trace_mem (good_init m es) hp
  exact ⟨(nothing_kept_step h).1, (nothing_kept_step h).2.1⟩

/-- `told_step` over all histories. -/
theorem eph_store_told (m : Mode) (es : Bool) (ops : List Op) :
    ∀ p ∈ modelTrace m es ops, p.2.closed.length = if es then ended m p.1 p.2 else 0 := by
  intro p hp
  obtain ⟨s0, s1, _, hm, he, h⟩ := trace_mem_es (good_init m es) hp
  have := told_step h
  rwa [show s0.mode = m from hm, show s0.es = es from he] at this

/-- **`GetSessionID` returning "" (all histories)**: no response carries an `Mcp-Session-Id`, no handler and no
server session ever has an id, and every POST / GET / DELETE that carries a session id is answered 404 without
reaching a handler — no id is minted, so none is honoured. -/
theorem noids_neither_issues_nor_honours (es : Bool) (ops : List Op) :
    ∀ p ∈ modelTrace .noIds es ops,
      p.2.hdr = none ∧ (∀ l ∈ p.2.log, l.sess = .e) ∧ (∀ n ∈ p.2.srv, n = .e) ∧
      (∀ ref u, ref ≠ .absent → ((∃ k, p.1 = .post ref u k) ∨ p.1 = .get ref u ∨ p.1 = .delete ref u) →
        p.2.status = .code 404 ∧ p.2.log = []) := by
  intro p hp
  obtain ⟨s0, s1, g0, hm0, h⟩ := trace_mem (good_init .noIds es) hp
  have hm : s0.mode = .noIds := hm0
  obtain ⟨a, b, c⟩ := noids_step hm g0 h
  refine ⟨a, b, c, ?_⟩
  intro ref u hr hop
  have := noids_ids_dead hm hop hr h
  exact ⟨this.1, this.2.1⟩

/-- **The compatibility mode of a stateless endpoint (all histories)**: an `Mcp-Session-Id` appears only on the
answer to an `initialize` and names the session the request named; DELETE answers 204 / 400 and GET / other
methods 405 without any effect; handlers run on the session of their own request. -/
theorem legacy_answers (es : Bool) (ops : List Op) :
    ∀ p ∈ modelTrace .legacy es ops,
      (∀ h, p.2.hdr = some h → ∃ ref u k, p.1 = .post ref u k ∧ isInit k = true ∧ (∀ n, ref.name = some n → h = n)) ∧
      (∀ ref u, p.1 = .delete ref u → p.2.status = .code (if ref = .absent then 400 else 204) ∧ p.2.log = []) ∧
      (∀ ref u, p.1 = .get ref u ∨ p.1 = .other ref u → p.2.status = .code 405 ∧ p.2.log = []) ∧
      (∀ ref u k n, p.1 = .post ref u k → ref.name = some n → ∀ l ∈ p.2.log, l.sess = n ∧ l.who = .tok u) := by
  intro p hp
  obtain ⟨s0, s1, g0, hm0, h⟩ := trace_mem (good_init .legacy es) hp
  have hm : s0.mode = .legacy := hm0
  refine ⟨?_, ?_, ?_, ?_⟩
  · intro hd hh
    obtain ⟨ref, u, k, e, hi, hn, _⟩ := legacy_hdr hm h hh
    exact ⟨ref, u, k, e, hi, hn⟩
  · intro ref u e
    rw [e] at h
    exact (legacy_delete_noop hm h).2
  · intro ref u e
    exact (legacy_405 hm e h).2
  · intro ref u k n e hn l hl
    rw [e] at h
    obtain ⟨ht, hw⟩ := log_routed h l hl
    exact ⟨tempName_named ht hn, hw⟩

/-- The ordinal of the id that the answer to a POST without a session id names. -/
def mintOf (p : Op × Obs) : Option Nat :=
  match p.1 with
  | .post .absent _ _ => p.2.hdr.map nameOrd
  | _ => none

def mintedOrds (t : List (Op × Obs)) : List Nat := t.filterMap mintOf

theorem minted_from {s : State} (hm : s.mode = .legacy) (ops : List Op) :
    (∀ n ∈ mintedOrds (modelTraceFrom s ops), s.next < n) ∧
    (mintedOrds (modelTraceFrom s ops)).Pairwise (· < ·) := by
  induction ops generalizing s with
  | nil => simp [modelTraceFrom, mintedOrds]
  | cons op ops ih =>
    simp only [modelTraceFrom]
    split
    · rename_i s' o hs
      have hm' : s'.mode = .legacy := by rw [(config_step hs).1]; exact hm
      obtain ⟨ih1, ih2⟩ := ih hm'
      have hmono := next_mono hs
      simp only [mintedOrds, List.filterMap_cons]
      cases hmint : mintOf (op, o) with
      | none =>
        exact ⟨fun n hn => Nat.lt_of_le_of_lt hmono (ih1 n hn), ih2⟩
      | some k =>
        -- the head answer names the id minted for it
        have hk : k = s.next + 1 ∧ s'.next = s.next + 1 := by
          simp only [mintOf] at hmint
          split at hmint
          · rename_i u kk
            cases hh : o.hdr with
            | none => simp [hh] at hmint
            | some h =>
              simp [hh] at hmint
              obtain ⟨_, _, _, e, _, _, f⟩ := legacy_hdr hm hs hh
              cases e
              obtain ⟨rfl, n1⟩ := f rfl
              simp [nameOrd] at hmint
              exact ⟨hmint.symm, n1⟩
          · simp at hmint
        obtain ⟨rfl, hn'⟩ := hk
        refine ⟨?_, ?_⟩
        · intro n hn
          rcases List.mem_cons.mp hn with rfl | hn
          · omega
          · have := ih1 n hn; omega
        · exact List.pairwise_cons.mpr ⟨fun n hn => by have := ih1 n hn; omega, ih2⟩
    · exact ih hm

/-- **Minted ids are fresh (all histories)**: along every run of the compatibility mode the ids named by the
answers to POSTs without a session id are strictly increasing in the order of `GetSessionID`'s calls — two such
answers never name the same session. -/
theorem legacy_minted_fresh (es : Bool) (ops : List Op) : (mintedOrds (modelTrace .legacy es ops)).Pairwise (· < ·) :=
  (minted_from (s := { mode := .legacy, es := es }) rfl ops).2

/-- The answer C11 (for `legacy`: the documentation of the compatibility parameter) demands. -/
def AnswerOK (m : Mode) (op : Op) (st : St) : Prop :=
  match op with
  | .post ref _ _ =>
    if m = .noIds ∧ ref ≠ .absent then st = .code 404        -- an id that was never minted is not honoured
    else st = .code 200 ∨ st = .code 202 ∨ st = .pending      -- served by a temporary session
  | .get ref _ =>
    match m with
    | .legacy => st = .code 405
    | .noIds => if ref = .absent then st = .code 400 else st = .code 404
  | .delete ref _ =>
    match m with
    | .legacy => if ref = .absent then st = .code 400 else st = .code 204
    | .noIds => if ref = .absent then st = .code 400 else st = .code 404
  | .other _ _ => st = .code 405
  | _ => True

theorem or3_iff {a b c : Prop} [Decidable a] [Decidable b] : (¬a → ¬b → c) ↔ a ∨ b ∨ c := by
  by_cases ha : a <;> by_cases hb : b <;> simp [ha, hb]

theorem chkAnswer_iff (m : Mode) (op : Op) (st : St) : chkAnswer m op st = none ↔ AnswerOK m op st := by
  have e404 : stNotFound = 404 := by decide
  cases op <;> simp only [chkAnswer, AnswerOK]
  case post ref u k =>
    cases m <;> by_cases ha : ref = .absent <;> simp [ha, e404] <;> exact or3_iff
  case get ref u =>
    cases m <;> by_cases ha : ref = .absent <;> simp [ha, e404]
  case delete ref u =>
    cases m <;> by_cases ha : ref = .absent <;> simp [ha, e404]
  case other ref u => simp

/-- An `Mcp-Session-Id` may only be on the answer of the compatibility mode to an `initialize`; it names the
session the request named, or — the request named none — a session that nothing has shown before. -/
def HdrOK (ms : MState) (op : Op) (hdr : Option Name) : Prop :=
  ∀ h, hdr = some h → ms.mode = .legacy ∧ ∃ ref u k, op = .post ref u k ∧ isInit k = true ∧
    (∀ n, ref.name = some n → h = n) ∧ (ref.name = none → ms.seen < nameOrd h)

theorem chkHdr_iff (ms : MState) (op : Op) (hdr : Option Name) : chkHdr ms op hdr = none ↔ HdrOK ms op hdr := by
  cases hdr with
  | none => simp [chkHdr, HdrOK]
  | some h =>
    have hP : HdrOK ms op (some h) ↔ (ms.mode = .legacy ∧ ∃ ref u k, op = .post ref u k ∧ isInit k = true ∧
        (∀ n, ref.name = some n → h = n) ∧ (ref.name = none → ms.seen < nameOrd h)) := by
      simp only [HdrOK]
      constructor
      · intro hh; exact hh h rfl
      · intro hh h' e; cases e; exact hh
    rw [hP]
    simp only [chkHdr]
    cases hm : ms.mode with
    | noIds => simp
    | legacy =>
      cases op
      case post ref u k =>
        constructor
        · intro hc
          have hi : isInit k = true := by
            cases hi : isInit k
            · simp [hi] at hc
            · rfl
          refine ⟨rfl, ref, u, k, rfl, hi, ?_, ?_⟩
          · intro n hn; simp [hi, hn] at hc; exact hc
          · intro hn; simp [hi, hn] at hc; exact hc
        · rintro ⟨_, ref', u', k', e, hi, h1, h2⟩
          cases e
          simp only [hi]
          cases hrn : ref.name with
          | some n => simp [h1 n hrn]
          | none => simp; exact h2 hrn
      all_goals simp

/-- Handlers run only for requests a temporary session serves, and on that request's session. -/
def LogOK (m : Mode) (op : Op) (log : List LogEnt) : Prop :=
  log ≠ [] → served m op = true ∧ (m = .noIds → ∀ l ∈ log, l.sess = .e) ∧
    (m = .legacy → ∀ ref u k n, op = .post ref u k → ref.name = some n → ∀ l ∈ log, l.sess = n)

theorem chkLog_iff (m : Mode) (op : Op) (log : List LogEnt) : chkLog m op log = none ↔ LogOK m op log := by
  simp only [chkLog, LogOK]
  cases log with
  | nil => simp
  | cons l0 t =>
    simp only [List.isEmpty_cons, Bool.false_eq_true, if_false]
    cases hs : served m op
    · simp
    · cases m with
      | noIds => simp
      | legacy =>
        cases op <;> simp [served] at hs ⊢
        case post ref u k =>
          cases hrn : ref.name with
          | none =>
            simp
            intro r u' k' n e _ _ hn
            subst e; rw [hrn] at hn; cases hn
          | some n =>
            simp
            constructor
            · intro h r u' k' n' e _ _ hn
              subst e; rw [hrn] at hn; cases hn; exact h
            · intro h; exact h ref u k n rfl rfl rfl hrn

def KeptOK (ms : MState) (o : Obs) : Prop :=
  o.map = [] ∧ o.srv.length ≤ bookInprog ms o ∧ (ms.mode = .noIds → ∀ n ∈ o.srv, n = .e) ∧ o.stale = []

theorem chkKept_iff (ms : MState) (o : Obs) : chkKept ms o = none ↔ KeptOK ms o := by
  simp only [chkKept, KeptOK, ite_eq_none_iff, reduceCtorEq, and_false, false_or, and_true]
  simp

def ToldOK (ms : MState) (op : Op) (o : Obs) : Prop :=
  o.closed.length = if ms.es then ended ms.mode op o else 0

theorem chkTold_iff (ms : MState) (op : Op) (o : Obs) : chkTold ms op o = none ↔ ToldOK ms op o := by
  simp [chkTold, ToldOK]

theorem firstOf_none {l : List (Option EClause)} : firstOf l = none ↔ ∀ x ∈ l, x = none := by
  induction l with
  | nil => simp [firstOf]
  | cons a t ih => cases a <;> simp [firstOf, ih]

/-- **Sound and complete**: the monitor reports a clause on an observation of the implementation exactly when
that observation fails one of the five statements of the property (`AnswerOK`, `HdrOK`, `LogOK`, `KeptOK`, `ToldOK`). -/
theorem eph_monitor_silent_iff (ms : MState) (op : Op) (o : Obs) :
    (judge ms op o).1 = none ↔
      AnswerOK ms.mode op o.status ∧ HdrOK ms op o.hdr ∧ LogOK ms.mode op o.log ∧ KeptOK ms o ∧ ToldOK ms op o := by
  simp only [judge, firstOf_none]
  simp [chkAnswer_iff, chkHdr_iff, chkLog_iff, chkKept_iff, chkTold_iff]

theorem eph_monitor_sound (ms : MState) (op : Op) (o : Obs) (c : EClause) (h : (judge ms op o).1 = some c) :
    ¬(AnswerOK ms.mode op o.status ∧ HdrOK ms op o.hdr ∧ LogOK ms.mode op o.log ∧ KeptOK ms o ∧ ToldOK ms op o) := by
  intro hp
  rw [(eph_monitor_silent_iff ms op o).mpr hp] at h
  cases h

/-- non-vacuity: the monitor does report — an id honoured by `noIds`, an `Mcp-Session-Id` issued by it, a session
kept by `legacy`, a foreign name in its answer. -/
example : (judge { mode := .noIds } (.get (.x 1) .anon) { status := .code 200 }).1 = some (.unknownHonoured .get (.code 200)) := by decide
example : (judge { mode := .noIds } (.post .absent .anon .init) { status := .code 200, hdr := some (.s 1) }).1 = some .issued := by decide
example : (judge { mode := .legacy } (.post (.x 1) .anon .init) { status := .code 200, hdr := some (.x 2) }).1 = some .hdrDifferent := by decide
example : (judge { mode := .legacy } (.delete (.x 1) .anon) { status := .code 204, srv := [.x 1] }).1 = some .notClosed := by decide

theorem foldl_max_le {l : List Name} {a b : Nat} (ha : a ≤ b) (hl : ∀ n ∈ l, nameOrd n ≤ b) :
    l.foldl (fun a n => max a (nameOrd n)) a ≤ b := by
  induction l generalizing a with
  | nil => simpa using ha
  | cons x t ih =>
    simp only [List.foldl_cons]
    apply ih
    · exact Nat.max_le.mpr ⟨ha, hl x (by simp)⟩
    · intro n hn; exact hl n (by simp [hn])

theorem maxOrd_le {l : List Name} {b : Nat} (hl : ∀ n ∈ l, nameOrd n ≤ b) : maxOrd l ≤ b :=
  foldl_max_le (Nat.zero_le _) hl

theorem shown_le_next {s s' : State} {op : Op} {o : Obs} (g : Good s) (h : modelOp s op = some (s', o)) :
    (∀ hd, o.hdr = some hd → nameOrd hd ≤ s'.next) ∧ (∀ l ∈ o.log, nameOrd l.sess ≤ s'.next) ∧
    (∀ n ∈ o.srv, nameOrd n ≤ s'.next) := by
  have g' := good_step g h
  have hsrv : ∀ n ∈ o.srv, nameOrd n ≤ s'.next := by
    rw [(nothing_kept_step h).2.2]
    intro n hn
    simp [names] at hn
    obtain ⟨p, hp, rfl⟩ := hn
    exact g'.ord p hp
  -- the header and the handlers' sessions are the temporary session of the POST
  have temp : ∀ {ref : Ref} {nm : Name}, tempName s ref = some nm →
      s'.next = (if s.mode = .legacy ∧ ref = .absent then s.next + 1 else s.next) → nameOrd nm ≤ s'.next :=
    fun hnm hn => hn ▸ temp_le_next hnm
  refine ⟨fun hd hh => ?_, fun l hl => ?_, hsrv⟩
  · cases modelOp_does h with
    | @answered ref u k nm n _ hnm _ hn =>
      have : hd = nm := by cases k <;> simp [hdrOf] at hh <;> exact hh.2.symm
      subst this; exact temp hnm hn
    | _ => cases hh
  · cases modelOp_does h with
    | @parked ref u nm ns n _ hnm hn => simp [logOf] at hl; subst hl; exact temp hnm hn
    | @answered ref u k nm n _ hnm _ hn =>
      have : l.sess = nm := by cases k <;> simp [logOf] at hl <;> subst hl <;> rfl
      rw [this]; exact temp hnm hn
    | _ => cases hl

/-- The monitor's bookkeeping follows the model. -/
structure Rel (s : State) (ms : MState) : Prop where
  mode : ms.mode = s.mode
  es : ms.es = s.es
  inprog : s.slow.length + s.closing.length ≤ ms.inprog
  seen : ms.seen ≤ s.next

theorem refusal_answer {m : Mode} {op : Op} {c : Nat} (h : refusal m op = some c) : chkAnswer m op (.code c) = none := by
  cases op <;> simp only [refusal, Option.some.injEq, reduceCtorEq] at h <;> subst h
  case get ref u | delete ref u => cases m <;> by_cases ha : ref = .absent <;> simp [chkAnswer, ha] <;> decide
  case other => cases m <;> simp [chkAnswer] <;> decide

theorem answer_model {s s' : State} {op : Op} {o : Obs} (h : modelOp s op = some (s', o)) :
    chkAnswer s.mode op o.status = none := by
  cases modelOp_does h with
  | unknown hm hr => simp [chkAnswer, hm, hr]
  | parked hc => simp only [chkAnswer]; rw [if_neg (by simpa using hc)]; simp
  | answered hc => simp only [chkAnswer]; rw [if_neg (by simpa using hc)]; split <;> simp
  | refused hc => exact refusal_answer hc
  | _ => simp [chkAnswer]

theorem hdr_model {s s' : State} {ms : MState} {op : Op} {o : Obs} (g : Good s) (r : Rel s ms)
    (h : modelOp s op = some (s', o)) : chkHdr ms op o.hdr = none := by
  refine (chkHdr_iff _ _ _).mpr fun hd hh => ?_
  cases hm : s.mode with
  | noIds => rw [(noids_step hm g h).1] at hh; cases hh
  | legacy =>
    obtain ⟨ref, u, k, rfl, hi, hn, ha⟩ := legacy_hdr hm h hh
    refine ⟨r.mode.trans hm, ref, u, k, rfl, hi, hn, fun hrn => ?_⟩
    obtain ⟨rfl, _⟩ := ha (by cases ref <;> simp [Ref.name] at hrn; rfl)
    exact Nat.lt_succ_of_le r.seen

theorem log_model {s s' : State} {op : Op} {o : Obs} (g : Good s) (h : modelOp s op = some (s', o)) :
    chkLog s.mode op o.log = none := by
  refine (chkLog_iff _ _ _).mpr fun he => ?_
  cases modelOp_does h with
  | parked hc | answered hc =>
    exact ⟨served_post hc, fun hm => (noids_step hm g h).2.1,
      fun _ _ _ _ n e hn l hl => by cases e; exact tempName_named (log_routed h l hl).1 hn⟩
  | _ => exact absurd rfl he

theorem book_model {s s' : State} {ms : MState} {op : Op} {o : Obs} (r : Rel s ms)
    (h : modelOp s op = some (s', o)) : s'.slow.length + s'.closing.length ≤ bookInprog ms o := by
  have h1 := inprog_step h
  have h2 := r.inprog
  simp only [bookInprog]
  by_cases hp : o.status = .pending
  · simp [hp] at h1 ⊢; omega
  · have : (o.status == St.pending) = false := by simpa using hp
    simp [hp, this] at h1 ⊢; omega

theorem kept_model {s s' : State} {ms : MState} {op : Op} {o : Obs} (g : Good s) (r : Rel s ms)
    (h : modelOp s op = some (s', o)) : chkKept ms o = none := by
  obtain ⟨hmap, hstale, hsrv⟩ := nothing_kept_step h
  refine (chkKept_iff _ _).mpr ⟨hmap, ?_, fun hm => (noids_step (r.mode ▸ hm) g h).2.2, hstale⟩
  rw [hsrv]
  simpa [names] using Nat.le_trans (Nat.le_add_right _ _) (book_model r h)

theorem told_model {s s' : State} {ms : MState} {op : Op} {o : Obs} (r : Rel s ms)
    (h : modelOp s op = some (s', o)) : chkTold ms op o = none := by
  simp only [chkTold, r.es, r.mode, told_step h]
  simp

theorem judge_model {s s' : State} {ms : MState} {op : Op} {o : Obs} (g : Good s) (r : Rel s ms)
    (h : modelOp s op = some (s', o)) : (judge ms op o).1 = none ∧ Rel s' (judge ms op o).2 := by
  constructor
  · simp only [judge]
    rw [told_model r h, r.mode, answer_model h, hdr_model g r h, log_model g h, kept_model g r h]
    simp [firstOf]
  · obtain ⟨a, b, c⟩ := shown_le_next g h
    have hmono := next_mono h
    refine ⟨by simp [judge, r.mode, (config_step h).1], by simp [judge, r.es, es_step h], by simpa [judge] using book_model r h, ?_⟩
    simp only [judge]
    refine Nat.max_le.mpr ⟨Nat.le_trans r.seen hmono, Nat.max_le.mpr ⟨?_, Nat.max_le.mpr ⟨?_, ?_⟩⟩⟩
    · apply maxOrd_le
      intro n hn
      cases hh : o.hdr with
      | none => simp [hh] at hn
      | some hd => simp [hh] at hn; rw [hn]; exact a hd hh
    · apply maxOrd_le
      intro n hn
      simp at hn
      obtain ⟨l, hl, rfl⟩ := hn
      exact b l hl
    · exact maxOrd_le c

theorem runJudge_model {s : State} {ms : MState} (g : Good s) (r : Rel s ms) (ops : List Op) :
    runJudge ms (modelTraceFrom s ops) = none := by
  induction ops generalizing s ms with
  | nil => simp [modelTraceFrom, runJudge]
  | cons op ops ih =>
    simp only [modelTraceFrom]
    split
    · rename_i s' o hs
      obtain ⟨h1, h2⟩ := judge_model g r hs
      simp only [runJudge]
      cases hj : judge ms op o with
      | mk v ms' =>
        rw [hj] at h1 h2
        simp at h1; subst h1
        exact ih (good_step g hs) h2
    · exact ih g r

/-- **The monitor is silent on the model**: over every operation history of either configuration, no clause of
the property monitor is violated by the model's own observations. -/
theorem eph_monitor_accepts_model (m : Mode) (es : Bool) (ops : List Op) :
    runJudge { mode := m, es := es } (modelTrace m es ops) = none :=
  runJudge_model (good_init m es) ⟨rfl, rfl, by simp, by simp⟩ ops

/-- The operations on which the replay is shown total.  `close` is left out although the harness generates it and `modelOp` answers
most of them: when several temporary sessions share the id, which of them `Server.Sessions()` yields is open and `modelOp` says
`none`. -/
def inScope (s : State) : Op → Bool
  | .post (.s k) _ _ => s.mode == .noIds || (1 ≤ k && k ≤ s.next)
  | .post _ _ _ | .release _ | .get _ _ | .delete _ _ | .other _ _ | .tick _ | .fault _ | .abandon _ => true
  | _ => false

/-- **The replay is total on the alphabet**: the model answers every operation in scope (so a `bad-op` of the
driver in a `legacy` / `noids` case can only come from an operation outside the alphabet). -/
theorem modelOp_total (s : State) (op : Op) (h : inScope s op = true) : ∃ r, modelOp s op = some r := by
  cases op <;> simp only [inScope] at h <;> simp only [modelOp]
  case post ref u k =>
    split
    · exact ⟨_, rfl⟩
    next hc =>
    -- a POST that `lookupSession` lets through names a temporary session: `inScope` rules out unminted ids
    have : ∃ nm, tempName s ref = some nm := by
      cases ref with
      | absent => cases hm : s.mode <;> simp only [tempName, hm] <;> exact ⟨_, rfl⟩
      | x n => exact ⟨_, rfl⟩
      | s j =>
        cases hm : s.mode <;> simp [hm] at h hc
        simp only [tempName, h, and_self, if_true]; exact ⟨_, rfl⟩
    obtain ⟨nm, hnm⟩ := this
    rw [hnm]
    cases k <;> exact ⟨_, rfl⟩
  case release k => split <;> (try split) <;> exact ⟨_, rfl⟩
  case get ref u | delete ref u | other ref u => cases s.mode <;> exact ⟨_, rfl⟩
  case tick n | fault f | abandon k => exact ⟨_, rfl⟩
  all_goals cases h

end Sessions.Eph
