import McpModel.Sessions.BridgeOne
/-!
Bridge (E7/C11): the clock advances (every entry settles again), the event store changes its mind.
-/
namespace Sessions

theorem keepsName_expire (cfg : Cfg) (now : Nat) : KeepsName (expire cfg now) := by
  intro a; unfold expire; split <;> rfl

theorem tick_accepts {cfg : Cfg} {d : RState} {m : Mon} (hs : Sim cfg d m) (n : Nat) : Accepts cfg d m (.tick n) := by
  have hst := hs.stateful_st
  have hnid := inv_nodupIds hs.inv
  have hmo : modelOp d (.tick n) = some { st := { d.st with now := d.st.now + n }, status := .ok, pend := d.pend, nslow := d.nslow, nasync := d.nasync, released := d.released } := by
    dsimp only [modelOp]; simp only [doL_tick]
  have hset : settle { d.st with now := d.st.now + n } =
      { d.st with now := d.st.now + n, tbl := d.st.tbl.map (settleE (d.st.now + n) d.st.closeFails) } :=
    settle_eq (s := { d.st with now := d.st.now + n }) hst hnid
  have hinv' := settle_inv (doL_inv hs.inv (.tick n))
  rw [doL_tick, hset] at hinv'
  exact sim_record (tblX := m.tbl.map (expire cfg (m.now + n))) hs hmo hset hinv' hs.cfg_eq hs.pok.weak
    (by simp only [booked, bookAnswer, hs.stateful, bookSlots, bookDone, hs.pend, hs.run]; rfl)
    (by rw [map_names_keeps (keepsName_expire _ _)]; exact hs.mnodup)
    (fun a ha => by
      obtain ⟨b, hb, rfl⟩ := List.mem_map.mp ha
      rw [keepsName_expire]; exact hs.minted b hb)
    (fun e' he' => by
      obtain ⟨e, he, rfl⟩ := List.mem_map.mp he'
      rw [keepsId_settleE]
      refine ⟨eok_tick n _ (hs.eok e he) (hs.good he), ?_⟩
      have hrel := hs.rel e he
      unfold RelAt at hrel
      unfold RelPreAt
      rw [keepsId_settleE, monFind_map (keepsName_expire _ _)]
      cases hf : monFind m.tbl (sname e.id) <;> rw [hf] at hrel
      · rw [settleE_removed_id hrel]; exact hrel
      · rw [hs.now]; exact rel_tick n _ hrel (hs.eok e he) (hs.good he))
    (by show m.now + n = d.st.now + n; rw [hs.now]) hs.faults (by simp [countersAfter, hs.nslow, hs.nasync]) rfl
    (chkLogOp_nil _ _ _ _) rfl rfl nofun

theorem sim_tick {cfg : Cfg} {d d' : RState} {m : Mon} {o : Obs} (hs : Sim cfg d m) (n : Nat)
    (hop : replayOp d (.tick n) = some (d', o)) :
    (monStep cfg m (.tick n) o).viol = none ∧ Sim cfg d' (monStep cfg m (.tick n) o).mon :=
  (tick_accepts hs n).of_replay hop

theorem fault_accepts {cfg : Cfg} {d : RState} {m : Mon} (hs : Sim cfg d m) (f : Faults) : Accepts cfg d m (.fault f) := by
  have hreq : (Op.fault f).req = none := rfl
  have hba : ∀ st, bookAnswer cfg (effFaults cfg m) m.now (tagOf m (.fault f)) m.tbl m.pend (.fault f) st = (m.tbl, m.pend) := by
    intro st; simp [bookAnswer, hs.stateful]
  cases hes : d.st.cfg.eventStore with
  | false =>
    have hmo : modelOp d (.fault f) = some { st := d.st, status := .noop, pend := d.pend, nslow := d.nslow, nasync := d.nasync, released := d.released } := by
      dsimp only [modelOp]; simp [hes]
    exact quiet_accepts hs hmo (by simp [countersAfter, hs.nslow, hs.nasync]) (by rw [hreq]; rfl)
      (hba _) rfl rfl (by simp [faultsAfter]) (by simp [chkNoId, hreq]) (Nat.le_refl _) (Nat.le_refl _)
  | true =>
    have hmo : modelOp d (.fault f) = some { st := { d.st with faults := f }, status := .ok, pend := d.pend, nslow := d.nslow, nasync := d.nasync, released := d.released } := by
      dsimp only [modelOp]; simp [hes, doL_faults]
    have hinv : Inv { d.st with faults := f } := by
      have := doL_inv hs.inv (.faults f); rw [doL_faults] at this; exact this
    apply one_accepts (i := 0) (G := id) (st2 := { d.st with faults := f }) hs hmo (Or.inl rfl) (by rw [map_lift_id 0]) (fun _ => rfl) rfl rfl rfl hinv
      hs.pok.weak (fun j _ => ⟨rfl, rfl⟩) (tblX := m.tbl)
    · rw [hba]; show bookDone _ _ _ [] = _; simp [bookSlots, bookDone, hs.pend]
    · rw [hba]; simp [bookSlots, hs.run]
    · intro j _; rfl
    · exact hs.mnodup
    · exact hs.minted
    · exact hs.idTarget
    · rw [hreq]; rfl
    · exact chkLogOp_nil _ _ _ _
    · simp [chkNoId, hreq]
    · rfl
    · intro h hh; cases hh
    · rfl
    · simp [faultsAfter]
    · simp [countersAfter, hs.nslow, hs.nasync]

theorem sim_fault {cfg : Cfg} {d d' : RState} {m : Mon} {o : Obs} (hs : Sim cfg d m) (f : Faults)
    (hop : replayOp d (.fault f) = some (d', o)) :
    (monStep cfg m (.fault f) o).viol = none ∧ Sim cfg d' (monStep cfg m (.fault f) o).mon :=
  (fault_accepts hs f).of_replay hop

end Sessions
