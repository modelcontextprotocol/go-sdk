import McpModel.Sessions.Lemmas
/-!
# C11 — HTTP session ids: one live session, dead after termination, bound to its user

Model: `Sessions.step` (E7).  Every theorem quantifies over all reachable states
`Reach cfg s := ∃ ls, exec (init cfg) ls = s`, i.e. over **all label lists** — all interleavings of
POST begin/end, handler completions, GET, DELETE, clock ticks, timer callbacks, server-side closes and
close completions, with any number of sessions, users and requests; nothing is bounded.  The status
codes are the ones the extractor regenerates from `mcp/streamable.go`; the statements spell them as
literals (404, 403, 405), so a changed code in the source re-opens the proofs.

F20.  Every theorem about reachable states carries the decidable hypothesis `cfg.publishChecks = true` (the constants, the
one-step facts and the counter-examples at the end do not): the publication of a
new session skips a session whose `onClose` has already run (fixes/F20-publish-after-close.patch).
`Generated.Sessions.publishChecksClosed` says whether the source has that check (structural fact
`sessions.publish_checks_closed`, expected `true`), and `zombie_without_publish_check` proves that
without it the property fails: a session closed by the server while its creating POST is between
`Connect` and the publication stays in `h.sessions` for ever and keeps being honoured.

The last part of the file is about closing (the session half of C05: `closed_session_timer_never_rearmed`,
`close_total_with_posts_in_progress`), about POSTs whose body arrives after the headers (`postHead` / `postBody`), and about two
altered entry functions (`endPostNoSentinel`, `closeDoneBailF`) with what goes wrong with them.
-/
namespace Sessions

theorem status_codes : stNotFound = 404 ∧ stForbidden = 403 ∧ stStatelessNotPost = 405 ∧
    stOtherMethod = 405 ∧ stDeleted = 204 ∧ stMissingIdGet = 400 ∧ stMissingIdDelete = 400 ∧
    stConnectFailed = 500 ∧ stStoreOpenFailed = 500 ∧ stReplayFailed = 400 := by decide

theorem header_name : Generated.Sessions.sessionIDHeader = "Mcp-Session-Id" := by decide

theorem lookup_unpublished {s : State} (hi : Inv s) {e : Sess} (he : e ∈ s.tbl) (hr : e.inMap = false)
    (u : User) : lookup s.tbl e.id u = .error 404 := by
  unfold lookup
  rw [findSess_mem hi he]
  simp [hr, status_codes.1]

theorem lookup_foreign {s : State} (hi : Inv s) {e : Sess} (he : e ∈ s.tbl) (hr : e.inMap = true)
    {o : Nat} (ho : e.owner = some o) {u : User} (hu : u ≠ some o) : lookup s.tbl e.id u = .error 403 := by
  unfold lookup
  rw [findSess_mem hi he]
  simp [hr, ho, hu, status_codes.2.1]

/-- A response carries an `Mcp-Session-Id` only in two cases: (a) it answers the POST *without* a
session id that created session `i` (label `publish i`: the entry is the one a `postBegin none` step
appended, still marked `creating` with its `initialize` message pending, not yet in the map) — the
header is that session's id; (b) a POST *with* session id `i` that passed `lookupSession` (entry in the
map, entitled user) and carries `initialize`: the header repeats the request's own id.  GET, DELETE,
other methods, internal labels and stateless endpoints never produce one. -/
theorem id_minted_only_on_creating_post {cfg : Cfg} {s s' : State} {l : Label} {i : Nat} {d : Bool}
    (hr : Reach cfg s) (hfix : cfg.publishChecks = true) (h : step s l = some (s', .forward (some i) d)) :
    s.cfg.stateless = false ∧ s'.tbl.length = s.tbl.length ∧
    ((l = .publish i ∧ ∃ e ∈ s.tbl, ∃ k, e.id = i ∧ e.creating = true ∧ e.pending = some k ∧
        k.isInitialize = true ∧ e.inMap = false) ∨
     (∃ u k e, l = .postBegin (some i) u k ∧ k.isInitialize = true ∧ lookup s.tbl i u = .ok e)) := by
  have hi := reach_inv hr hfix
  -- only the transport's answer to a POST is a `forward`, and `postResp` names the id only for an `initialize`
  have hdr : ∀ {k : Kind} {c : Bool} {j : Option Nat}, postResp s k j c = .forward (some i) d → j = some i := by
    intro k c j hp
    unfold postResp at hp
    split at hp <;> cases hp
    rfl
  have init : ∀ {k : Kind} {j : Nat}, (if k.isInitialize then some j else none) = some i → k.isInitialize = true ∧ j = i := by
    intro k j hj
    cases hk : k.isInitialize <;> simp [hk] at hj
    exact ⟨rfl, hj⟩
  generalize hrr : Resp.forward (some i) d = r at h
  cases step_does.mp h with
  | rewrite hst hw hm =>
    obtain ⟨pre, e1, post, e1', p1, p2, _⟩ := modify_some hm
    refine ⟨hst, by simp [p1, p2], ?_⟩
    cases hw with
    | publish hf hp =>
      obtain ⟨hk, rfl⟩ := init (hdr hrr.symm)
      have hmem := (findSess_some hf).1
      have hg := (hi.good _ hmem).pending (by simp [hp])
      exact .inl ⟨rfl, _, hmem, _, (findSess_some hf).2, hg.1, hp, hk, hg.2.1⟩
    | postBegin hl =>
      obtain ⟨hk, rfl⟩ := init (hdr hrr.symm)
      exact .inr ⟨_, _, _, rfl, hk, hl⟩
    | postBody => cases hdr hrr.symm
    | _ => cases hrr
  | mint | get | slPost => split at hrr <;> (try unfold postResp at hrr; split at hrr) <;> cases hrr
  | _ => cases hrr

/-- The table only ever grows by a POST without a session id (nothing else mints an id), and the id it
mints is fresh: no entry, live or removed, ever had it.  Either a session is created (`newSess`: bound
to the POST's user, waiting for its publication), or — the event store refuses `Transport.Connect` —
the POST is answered 500 and the minted id is born dead (`failedSess`: never in the handler's table,
never listed by the server; `dead_after_removal` applies to it from the start). -/
theorem session_created_only_by_post_without_id {cfg : Cfg} {s s' : State} {l : Label} {r : Resp}
    (hr : Reach cfg s) (hfix : cfg.publishChecks = true)
    (h : step s l = some (s', r)) (hlen : s'.tbl.length ≠ s.tbl.length) :
    ∃ u k e0, l = .postBegin none u k ∧ s.cfg.stateless = false ∧ s'.tbl = s.tbl ++ [e0] ∧
      e0.id = s.next ∧ e0.owner = u ∧ (∀ e ∈ s.tbl, e.id ≠ s.next) ∧
      ((e0 = newSess s u k ∧ r = .tau) ∨
       (e0 = failedSess s u ∧ r = .reject 500 ∧ cfg.eventStore = true ∧ s.faults.connOpen = true ∧
          e0.removed = true ∧ e0.inMap = false)) := by
  have hi := reach_inv hr hfix
  have hcfg := reach_cfg hr
  cases step_does.mp h with
  | @mint u k hst =>
    have hfresh : ∀ e ∈ s.tbl, e.id ≠ s.next := fun e he hid => by have := ids_lt hi e he; omega
    refine ⟨u, k, _, rfl, hst, rfl, ?_, ?_, hfresh, ?_⟩
    · split <;> rfl
    · split <;> rfl
    · cases hcf : s.connectFails
      · exact .inl ⟨by simp, by simp⟩
      · simp only [State.connectFails, Bool.and_eq_true] at hcf
        exact .inr ⟨by simp, by simp [status_codes], by rw [← hcfg]; exact hcf.1, hcf.2, by simp [failedSess], by simp [failedSess]⟩
  | rewrite _ _ hm =>
    obtain ⟨pre, e0, post, e0', h1, h2, _⟩ := modify_some hm
    exact absurd (by simp [h1, h2]) hlen
  | _ => exact absurd rfl hlen

/-- Non-vacuity of the refused creation: the id is consumed, nothing is ever listed or honoured. -/
example :
    let s := exec (init ⟨false, 100, true, true⟩) [.faults { connOpen := true }, .postBegin none (some 1) .init]
    s.next = 1 ∧ liveIds s = [] ∧ serverIds s = [] ∧
    step s (.postBegin (some 0) (some 1) .call) = some (s, .reject 404) := by decide

example : (step (exec (init ⟨false, 100, true, false⟩) [.postBegin none (some 1) .init]) (.publish 0)).map (·.2)
    = some (.forward (some 0) true) := by decide

/-- In every reachable state the ids of the table (live *and* removed entries — ids are never reused)
are pairwise distinct, so `lookupSession` is a function; and along every continuation an id keeps
naming the same session with the same owner. -/
theorem id_addresses_one_session {cfg : Cfg} {s : State} (hr : Reach cfg s) (hfix : cfg.publishChecks = true) :
    (s.tbl.map (·.id)).Nodup ∧
    (∀ e₁ ∈ s.tbl, ∀ e₂ ∈ s.tbl, e₁.id = e₂.id → e₁ = e₂) ∧
    (∀ e ∈ s.tbl, findSess e.id s.tbl = some e) ∧
    (∀ e ∈ s.tbl, ∀ ls, ∃ e' ∈ (exec s ls).tbl, e'.id = e.id ∧ e'.owner = e.owner ∧
        ∀ e'' ∈ (exec s ls).tbl, e''.id = e.id → e'' = e') := by
  have hi := reach_inv hr hfix
  refine ⟨ids_nodup hi, fun e₁ h₁ e₂ h₂ h => entry_unique hi h₁ h₂ h, fun e he => findSess_mem hi he, ?_⟩
  intro e he ls
  obtain ⟨e', h1, h2, h3, _⟩ := exec_keeps s ls e he
  have hi' := reach_inv (reach_exec hr ls) hfix
  exact ⟨e', h1, h2, h3, fun e'' h'' hid => entry_unique hi' h'' h1 (hid.trans h2.symm)⟩

/-- The one-state core of `dead_after_removal`. -/
theorem dead_now {s : State} (hi : Inv s) {e : Sess} (he : e ∈ s.tbl) (hrem : e.removed = true) :
    (e.inMap = false ∧ e.timer = .nil ∧ e.busy = 0 ∧ e.initBusy = 0) ∧
    e.id ∉ liveIds s ∧ e.id ∉ serverIds s ∧
    (∀ u k, step s (.postBegin (some e.id) u k) = some (s, .reject 404)) ∧
    (∀ u, step s (.get (some e.id) u) = some (s, .reject 404)) ∧
    (∀ u, step s (.delete (some e.id) u) = some (s, .reject 404)) ∧
    step s (.timerFire e.id) = none ∧ step s (.serverClose e.id) = none ∧
    step s (.closeDone e.id) = none ∧ (∀ b, step s (.handlerDone e.id b) = none) := by
  have hg := (hi.good e he).removed hrem
  have hst := stateful_of_mem hi he
  have hl := lookup_unpublished hi he hg.1
  -- an entry function that refuses the entry disables its label
  have hmod : ∀ f : Sess → Option Sess, f e = none → modify e.id f s.tbl = none := fun f hfe => by
    rw [modify_eq (ids_nodup hi), findSess_mem hi he, Option.bind_some, hfe]; rfl
  have huniq : ∀ x ∈ s.tbl, x.id = e.id → x = e := fun x hx hid => entry_unique hi hx he hid
  refine ⟨⟨hg.1, ((hi.good e he).unpublished hg.1).1, hg.2.1, hg.2.2.1⟩, ?_, ?_,
    fun u k => step_does.mpr (.refusePost hst (hl u)), fun u => step_does.mpr (.refuseGet hst (hl u)),
    fun u => step_does.mpr (.refuseDelete hst (hl u)), ?_, ?_, ?_, fun b => ?_⟩
  · intro hmem
    simp only [liveIds, List.mem_map, List.mem_filter] at hmem
    obtain ⟨x, ⟨hx, hxr⟩, hid⟩ := hmem
    cases huniq x hx hid; simp [hg.1] at hxr
  · intro hmem
    simp only [serverIds, List.mem_map, List.mem_filter] at hmem
    obtain ⟨x, ⟨hx, hxr⟩, hid⟩ := hmem
    cases huniq x hx hid; simp [hrem] at hxr
  · simp [step, hst, stepStateful, hmod (timerFireF s.now) (by simp [timerFireF, hrem])]
  · simp [step, hst, stepStateful, hmod closeF (by simp [closeF, hrem])]
  · simp [step, hst, stepStateful, hmod (closeDoneF s.closeFails) (by simp [closeDoneF, hrem])]
  · simp [step, hst, stepStateful, hmod (handlerDoneF b) (by simp [handlerDoneF, hrem])]

/-- Once a session has been removed (whatever began the close: DELETE, idle timeout, server-side close
— also one that lands while the creating POST is still between `Connect` and the publication —, failed
initialize), then after **every** continuation: it is still removed, is not a key of `h.sessions` nor
listed by `Server.Sessions()`, has no timer and no handler in flight, every POST, GET and DELETE
carrying its id — from any user, the owner included — is answered 404 and changes nothing, and neither
its timer nor a close can act on it any more. -/
theorem dead_after_removal {cfg : Cfg} {s : State} (hr : Reach cfg s) (hfix : cfg.publishChecks = true)
    {e : Sess} (he : e ∈ s.tbl) (hrem : e.removed = true) (ls : List Label) :
    let s' := exec s ls
    (∃ e' ∈ s'.tbl, e'.id = e.id ∧ e'.owner = e.owner ∧ e'.removed = true ∧ e'.inMap = false ∧
        e'.timer = .nil ∧ e'.busy = 0 ∧ e'.initBusy = 0) ∧
    e.id ∉ liveIds s' ∧ e.id ∉ serverIds s' ∧
    (∀ u k, step s' (.postBegin (some e.id) u k) = some (s', .reject 404)) ∧
    (∀ u, step s' (.get (some e.id) u) = some (s', .reject 404)) ∧
    (∀ u, step s' (.delete (some e.id) u) = some (s', .reject 404)) ∧
    step s' (.timerFire e.id) = none ∧ step s' (.serverClose e.id) = none ∧
    step s' (.closeDone e.id) = none ∧ (∀ b, step s' (.handlerDone e.id b) = none) := by
  intro s'
  obtain ⟨e', h1, h2, h3, h4, _⟩ := exec_keeps s ls e he
  have hd := dead_now (reach_inv (reach_exec hr ls) hfix) h1 (h4 hrem)
  rw [h2] at hd
  exact ⟨⟨e', h1, h2, h3, h4 hrem, hd.1⟩, hd.2⟩

/-- Each of the four ways a session ends begins the close of exactly that session: an accepted DELETE,
the idle timer's callback, a server-side close, and the end of a creating POST that did not
initialize. -/
theorem removal_causes_begin_close {cfg : Cfg} {s s' : State} {i : Nat} (hr : Reach cfg s)
    (hfix : cfg.publishChecks = true) :
    (∀ u, step s (.delete (some i) u) = some (s', .closeAccepted) →
        ∃ e' ∈ s'.tbl, e'.id = i ∧ e'.closing = true) ∧
    (∀ r, step s (.timerFire i) = some (s', r) → ∃ e' ∈ s'.tbl, e'.id = i ∧ e'.closing = true ∧ e'.timer = .stopped) ∧
    (∀ r, step s (.serverClose i) = some (s', r) → ∃ e' ∈ s'.tbl, e'.id = i ∧ e'.closing = true) ∧
    (∀ r e, step s (.postEnd (some i) true) = some (s', r) → findSess i s.tbl = some e →
        e.initialized = false → e.removed = false → ∃ e' ∈ s'.tbl, e'.id = i ∧ e'.closing = true) := by
  have hi := reach_inv hr hfix
  have closes : ∀ {t : List Sess}, modify i closeF s.tbl = some t → ∃ e' ∈ t, e'.id = i ∧ e'.closing = true := by
    intro t hm
    obtain ⟨e, e', _, _, h4, h2, h3⟩ := modify_found hm
    obtain ⟨_, rfl⟩ := closeF_some.mp h2
    exact ⟨_, h3, h4, rfl⟩
  refine ⟨fun u h => ?_, fun r h => ?_, fun r h => ?_, fun r e h hf hinit hrem => ?_⟩
  · cases step_does.mp h with
    | rewrite _ hw hm => cases hw; exact closes hm
    | @deleteNoop _ _ e _ hl hm =>
      -- an entry in the map is not removed, so `closeF` is enabled
      have hlk := lookup_ok hl
      have hrem := (good_inMap (hi.good e (findSess_some hlk.1).1) hlk.2.1).1
      obtain ⟨t, ht⟩ := modify_enabled hlk.1 (closeF_some.mpr ⟨hrem, rfl⟩)
      rw [ht] at hm; cases hm
  · cases step_does.mp h with
    | rewrite _ hw hm =>
      cases hw
      obtain ⟨e, e', _, _, h4, h2, h3⟩ := modify_found hm
      obtain ⟨_, _, rfl⟩ := timerFireF_some.mp h2
      exact ⟨_, h3, h4, rfl, rfl⟩
  · cases step_does.mp h with
    | rewrite _ hw hm => cases hw; exact closes hm
  · cases step_does.mp h with
    | rewrite _ hw hm =>
      cases hw
      obtain ⟨e0, e', h1, _, h4, h2, h3⟩ := modify_found hm
      rw [hf] at h1; cases h1
      obtain ⟨_, _, _, rfl⟩ := endPost_some h2
      exact ⟨_, h3, h4, by simp [hinit, hrem]⟩

/-- A close that has begun stays begun until the entry is removed, and it *can* complete as soon as no
handler is in flight: `closeDone` is enabled, removes the entry and takes it out of the map (after
which `dead_after_removal` applies) — whether or not closing the connection reports an error
(`s.closeFails`: the configured event store's `SessionClosed` fails); the error is only recorded. -/
theorem close_completes {cfg : Cfg} {s : State} (hr : Reach cfg s) (hfix : cfg.publishChecks = true)
    {e : Sess} (he : e ∈ s.tbl) (hc : e.closing = true) :
    (∀ ls, ∃ e' ∈ (exec s ls).tbl, e'.id = e.id ∧ e'.closing = true) ∧
    (e.removed = false → e.busy = 0 → e.initBusy = 0 →
      ∃ s', step s (.closeDone e.id) = some (s', .tau) ∧
        ∃ e' ∈ s'.tbl, e'.id = e.id ∧ e'.removed = true ∧ e'.inMap = false ∧ e'.timer = .nil ∧
          e'.closeErr = s.closeFails) := by
  have hi := reach_inv hr hfix
  refine ⟨fun ls => ?_, ?_⟩
  · obtain ⟨e', h1, h2, _, _, h5, _⟩ := exec_keeps s ls e he
    exact ⟨e', h1, h2, h5 hc⟩
  · intro hrem hb hib
    have hf := findSess_mem hi he
    have hcd := (closeDoneF_some (err := s.closeFails)).mpr ⟨⟨hrem, hc, hb, hib⟩, rfl⟩
    obtain ⟨t, ht⟩ := modify_enabled hf hcd
    refine ⟨{ s with tbl := t }, step_does.mpr (.rewrite (stateful_of_mem hi he) .closeDone ht), ?_⟩
    obtain ⟨e1, e1', p6, _, _, p5, p7⟩ := modify_found ht
    rw [hf] at p6; cases p6
    rw [hcd] at p5; cases p5
    exact ⟨_, p7, rfl, rfl, rfl, rfl, rfl⟩

theorem faults_only_change_environment (s : State) (f : Faults) :
    step s (.faults f) = some ({ s with faults := f }, .tau) := by
  exact step_does.mpr .faults

/-- **Close completion is total in the collaborators' outcomes.**  Take any reachable state and any
session whose close has begun (by DELETE, idle timeout, server-side close or failed initialize:
`removal_causes_begin_close`) and that has no handler in flight.  Let the environment choose *any* set
`f` of failing event-store methods for the moment the connection is closed.  Then the close completes;
afterwards the entry is removed, it is neither a key of `h.sessions` nor listed by `Server.Sessions()`,
its timer is gone, and every POST, GET and DELETE with its id is answered 404 and changes nothing.  The
only trace of the collaborator's failure is the error that `Close()` reports
(`closeErr = eventStore ∧ f.closed`).  No outcome of the collaborator leaves the entry behind. -/
theorem close_total {cfg : Cfg} {s : State} (hr : Reach cfg s) (hfix : cfg.publishChecks = true)
    {e : Sess} (he : e ∈ s.tbl) (hc : e.closing = true) (hrem : e.removed = false)
    (hb : e.busy = 0) (hib : e.initBusy = 0) (f : Faults) :
    ∃ s₁ s₂, step s (.faults f) = some (s₁, .tau) ∧ step s₁ (.closeDone e.id) = some (s₂, .tau) ∧
      (∃ e' ∈ s₂.tbl, e'.id = e.id ∧ e'.owner = e.owner ∧ e'.removed = true ∧ e'.inMap = false ∧
          e'.timer = .nil ∧ e'.closeErr = (cfg.eventStore && f.closed)) ∧
      e.id ∉ liveIds s₂ ∧ e.id ∉ serverIds s₂ ∧
      (∀ u k, step s₂ (.postBegin (some e.id) u k) = some (s₂, .reject 404)) ∧
      (∀ u, step s₂ (.get (some e.id) u) = some (s₂, .reject 404)) ∧
      (∀ u, step s₂ (.delete (some e.id) u) = some (s₂, .reject 404)) := by
  have h1 := faults_only_change_environment s f
  have hr1 : Reach cfg { s with faults := f } := reach_step hr h1
  have he1 : e ∈ ({ s with faults := f } : State).tbl := he
  obtain ⟨s₂, h2, e', he', hid, hrm, him, htm, hce⟩ := (close_completes hr1 hfix he1 hc).2 hrem hb hib
  have hr2 : Reach cfg s₂ := reach_step hr1 h2
  have hi2 := reach_inv hr2 hfix
  obtain ⟨_, d2, d3, d4, d5, d6, _⟩ := dead_now hi2 he' hrm
  have how : e'.owner = e.owner := by
    obtain ⟨x, hx, hxid, hxo, _⟩ := step_keeps h2 e he1
    have := entry_unique hi2 hx he' (hxid.trans hid.symm)
    rw [← this]; exact hxo
  have hcfg := reach_cfg hr
  refine ⟨_, s₂, h1, h2, ⟨e', he', hid, how, hrm, him, htm, ?_⟩, ?_, ?_, ?_, ?_, ?_⟩
  · rw [hce]; simp [State.closeFails, hcfg]
  · rw [← hid]; exact d2
  · rw [← hid]; exact d3
  · rw [← hid]; exact d4
  · rw [← hid]; exact d5
  · rw [← hid]; exact d6

/-- Until it is taken, the completion of a close stays enabled: once a close has begun and no handler
is in flight, then after **every** continuation — further requests, clock ticks, timer callbacks,
repeated closes, and every change of mind of the event store — the session is still closing, still has
no handler in flight (nothing is handed to a closing session), and either it has been removed or
`closeDone` is enabled.  So nothing the clients or the collaborators do can make a session that has
ended stay. -/
theorem close_stays_enabled {cfg : Cfg} {s : State} (hr : Reach cfg s) (hfix : cfg.publishChecks = true)
    {e : Sess} (he : e ∈ s.tbl) (hc : e.closing = true) (hb : e.busy = 0) (hib : e.initBusy = 0)
    (ls : List Label) :
    ∃ e' ∈ (exec s ls).tbl, e'.id = e.id ∧ e'.closing = true ∧ e'.busy = 0 ∧ e'.initBusy = 0 ∧
      (e'.removed = true ∨ ∃ s', step (exec s ls) (.closeDone e.id) = some (s', .tau)) := by
  obtain ⟨e', h1, h2, _, _, _, hq⟩ := exec_keeps s ls e he
  obtain ⟨h3, h4, h5⟩ := hq ⟨hc, hb, hib⟩
  refine ⟨e', h1, h2, h3, h4, h5, ?_⟩
  cases hrem : e'.removed with
  | true => exact Or.inl rfl
  | false =>
    obtain ⟨s', hs', _⟩ := (close_completes (reach_exec hr ls) hfix h1 h3).2 hrem h4 h5
    exact Or.inr ⟨s', by rw [← h2]; exact hs'⟩

/-- A close error is only ever reported for a session that is gone, and only with an event store: in
every reachable state an entry whose `Close()` reports an error is removed, out of the handler's table,
without timer or handlers. -/
theorem close_error_leaves_nothing_behind {cfg : Cfg} {s : State} (hr : Reach cfg s)
    (hfix : cfg.publishChecks = true) {e : Sess} (he : e ∈ s.tbl) (herr : e.closeErr = true) :
    cfg.eventStore = true ∧ e.removed = true ∧ e.inMap = false ∧ e.timer = .nil ∧ e.busy = 0 ∧
      e.initBusy = 0 ∧ e.id ∉ liveIds s ∧ e.id ∉ serverIds s := by
  have hi := reach_inv hr hfix
  have hg := hi.good e he
  have h1 := hg.closeErr herr
  have h2 := hg.removed h1.1
  have hd := dead_now hi he h1.1
  exact ⟨by rw [← reach_cfg hr]; exact h1.2, h1.1, h2.1, (hg.unpublished h2.1).1, h2.2.1, h2.2.2.1, hd.2.1, hd.2.2.1⟩

/-- Non-vacuity: the three ways a published session ends, each with `SessionClosed` failing at that
moment: the entry is removed, `Close()` reports the error. -/
example :
    ((exec (init ⟨false, 100, true, true⟩) [.postBegin none (some 1) .init, .publish 0, .handlerDone 0 true,
        .postEnd (some 0) true, .faults { closed := true }, .delete (some 0) (some 1), .closeDone 0]).tbl.map
      (fun e => (e.removed, e.inMap, e.closeErr))) = [(true, false, true)] := by decide

example :
    ((exec (init ⟨false, 100, true, true⟩) [.postBegin none (some 1) .init, .publish 0, .handlerDone 0 true,
        .postEnd (some 0) true, .faults { closed := true }, .tick 100, .timerFire 0, .closeDone 0]).tbl.map
      (fun e => (e.removed, e.inMap, e.closeErr))) = [(true, false, true)] := by decide

example :
    ((exec (init ⟨false, 100, true, true⟩) [.postBegin none (some 1) .init, .publish 0, .handlerDone 0 true,
        .postEnd (some 0) true, .faults { closed := true }, .serverClose 0, .closeDone 0]).tbl.map
      (fun e => (e.removed, e.inMap, e.closeErr))) = [(true, false, true)] := by decide

/-- … and the fourth: a creating POST whose stream the event store refuses to open is answered 500, did
not initialize, and its session is closed and forgotten (with the close error reported as well). -/
example :
    let s := exec (init ⟨false, 100, true, true⟩) [.faults { closed := true, reqOpen := true },
        .postBegin none (some 1) .init]
    (step s (.publish 0)).map (·.2) = some (.storeRefused 500) ∧
    ((exec s [.publish 0, .postEnd (some 0) true, .closeDone 0]).tbl.map
      (fun e => (e.removed, e.inMap, e.closeErr))) = [(true, false, true)] := by decide

/-- Without an event store nothing fails, whatever the environment says. -/
example :
    ((exec (init ⟨false, 100, true, false⟩) [.faults { closed := true, connOpen := true, reqOpen := true },
        .postBegin none (some 1) .init, .publish 0, .handlerDone 0 true, .postEnd (some 0) true,
        .serverClose 0, .closeDone 0]).tbl.map
      (fun e => (e.removed, e.inMap, e.closeErr))) = [(true, false, false)] := by decide

/-- The handler's map and the server's list agree except while a POST is creating the session: every
key of `h.sessions` is a live server session, and a live server session that is not (yet) a key is one
whose creating POST has not reached the publication. -/
theorem map_agrees_with_server {cfg : Cfg} {s : State} (hr : Reach cfg s) (hfix : cfg.publishChecks = true) :
    ∀ e ∈ s.tbl, (e.inMap = true → e.removed = false) ∧
      (e.removed = false → e.inMap = false → e.creating = true ∧ e.pending.isSome = true) := by
  intro e he
  have hg := (reach_inv hr hfix).good e he
  refine ⟨fun hm => (good_inMap hg hm).1, fun hrem hm => ?_⟩
  rcases (hg.unpublished hm).2 with h | h
  · rw [hrem] at h; cases h
  · exact ⟨(hg.pending h).1, h⟩

/-- Non-vacuity: a session is created, initialized, idles for exactly its timeout, the timer fires, the
close completes — and the entry is removed. -/
example :
    ((exec (init ⟨false, 100, true, false⟩) [.postBegin none (some 1) .init, .publish 0, .handlerDone 0 true,
        .postEnd (some 0) true, .tick 100, .timerFire 0, .closeDone 0]).tbl.map (·.removed)) = [true] := by decide

/-- … while one millisecond earlier the timer cannot fire and the session stays. -/
example :
    ((exec (init ⟨false, 100, true, false⟩) [.postBegin none (some 1) .init, .publish 0, .handlerDone 0 true,
        .postEnd (some 0) true, .tick 99, .timerFire 0, .closeDone 0]).tbl.map (·.removed)) = [false] := by decide

/-- F20, repaired: the server closes the session between `Connect` and the publication; the
publication then leaves nothing in the map. -/
example :
    ((exec (init ⟨false, 100, true, false⟩) [.postBegin none (some 1) .init, .serverClose 0, .closeDone 0, .publish 0,
        .postEnd (some 0) true]).tbl.map (fun e => (e.removed, e.inMap))) = [(true, false)] := by decide

/-- F20, the defect: with the unconditional publication of the original code, the same schedule leaves
a removed session in `h.sessions`; GET and DELETE with its id are then served instead of answered 404,
for ever (nothing can remove the entry: its timer never fires and `closeDone` is not enabled). -/
theorem zombie_without_publish_check :
    let s := exec (init ⟨false, 100, false, false⟩) [.postBegin none (some 1) .init, .serverClose 0, .closeDone 0,
        .publish 0, .postEnd (some 0) true, .tick 1000]
    Reach ⟨false, 100, false, false⟩ s ∧
    s.tbl.map (fun e => (e.removed, e.inMap)) = [(true, true)] ∧ liveIds s = [0] ∧ serverIds s = [] ∧
    step s (.get (some 0) (some 1)) = some (s, .stream) ∧
    step s (.delete (some 0) (some 1)) = some (s, .closeAccepted) ∧
    step s (.timerFire 0) = none ∧ step s (.closeDone 0) = none := by
  refine ⟨⟨_, rfl⟩, ?_⟩
  decide

/-- A session in the map that was created by an authenticated user `o` answers every POST, GET and
DELETE that carries its id but comes from a different user, or from no user at all, with 403 — and the
state is **unchanged** (no ref taken, timer untouched, nothing delivered, no close). -/
theorem owner_binding {cfg : Cfg} {s : State} (hr : Reach cfg s) (hfix : cfg.publishChecks = true)
    {e : Sess} (he : e ∈ s.tbl) (hlive : e.inMap = true) {o : Nat} (ho : e.owner = some o)
    {u : User} (hu : u ≠ some o) :
    (∀ k, step s (.postBegin (some e.id) u k) = some (s, .reject 403)) ∧
    step s (.get (some e.id) u) = some (s, .reject 403) ∧
    step s (.delete (some e.id) u) = some (s, .reject 403) := by
  have hi := reach_inv hr hfix
  have hst := stateful_of_mem hi he
  have hl := lookup_foreign hi he hlive ho hu
  exact ⟨fun k => step_does.mpr (.refusePost hst hl), step_does.mpr (.refuseGet hst hl), step_does.mpr (.refuseDelete hst hl)⟩

/-- The owner (and anybody, for a session created without a user id) is let through: the binding does
not lock the legitimate user out.  (With an event store whose replay fails the transport answers the
GET 400 after the session layer has let it through; the state is unchanged either way.) -/
theorem owner_admitted {cfg : Cfg} {s : State} (hr : Reach cfg s) (hfix : cfg.publishChecks = true)
    {e : Sess} (he : e ∈ s.tbl) (hlive : e.inMap = true) {u : User} (hu : e.owner = none ∨ e.owner = u) :
    lookup s.tbl e.id u = .ok e ∧
    step s (.get (some e.id) u) = some (s, if s.replayFails then .storeRefused 400 else .stream) := by
  have hi := reach_inv hr hfix
  have hst := stateful_of_mem hi he
  have hl : lookup s.tbl e.id u = .ok e := by
    unfold lookup
    rw [findSess_mem hi he]
    rcases hu with h | h
    · simp [hlive, h]
    · cases ho : e.owner with
      | none => simp [hlive, ho]
      | some o => simp [hlive, ho]; rw [← h, ho]
  exact ⟨hl, step_does.mpr (.get hst hl)⟩

example : ∃ s, Reach ⟨false, 100, true, false⟩ s ∧ ∃ e ∈ s.tbl, e.inMap = true ∧ e.owner = some 1 :=
  ⟨_, ⟨[.postBegin none (some 1) .init, .publish 0], rfl⟩, _, List.mem_cons_self, by decide, by decide⟩

/-- A failing event store cannot end, open or hijack a session through a request.  When the transport
answers with an error status because the event store failed (`storeRefused`):
* a GET was answered 400 after it had passed `lookupSession` (entry in the map, entitled user), and the
  state is unchanged;
* a POST with a session id was answered 500 after it had passed `lookupSession`; it carries a call, and
  the only change is that the POST is counted (`startPOST`, to be undone by the `endPOST` that
  follows): nothing was handed to the server session, no close began, nothing was removed. -/
theorem store_refusal_is_harmless {cfg : Cfg} {s s' : State} {i : Nat} {u : User} (hr : Reach cfg s)
    (hfix : cfg.publishChecks = true) (hsf : cfg.stateless = false) :
    (∀ c, step s (.get (some i) u) = some (s', .storeRefused c) →
      c = 400 ∧ s' = s ∧ cfg.eventStore = true ∧ ∃ e, lookup s.tbl i u = .ok e) ∧
    (∀ k c, step s (.postBegin (some i) u k) = some (s', .storeRefused c) →
      c = 500 ∧ cfg.eventStore = true ∧ k.hasCall = true ∧
      ∃ e, lookup s.tbl i u = .ok e ∧ startTimer e ∈ s'.tbl ∧ s'.tbl.length = s.tbl.length ∧
        (startTimer e).busy = e.busy ∧ (startTimer e).initBusy = e.initBusy ∧
        (startTimer e).closing = e.closing ∧ (startTimer e).removed = false ∧ (startTimer e).inMap = true) := by
  have hi := reach_inv hr hfix
  have hcfg := reach_cfg hr
  refine ⟨fun c h => ?_, fun k c h => ?_⟩
  · generalize hrr : Resp.storeRefused c = r at h
    cases step_does.mp h with
    | get _ hl =>
      split at hrr <;> cases hrr
      next hrf =>
      simp only [State.replayFails, Bool.and_eq_true] at hrf
      exact ⟨by decide, rfl, by rw [← hcfg]; exact hrf.1, _, hl⟩
    | rewrite _ hw => cases hw
    | _ => cases hrr
  · generalize hrr : Resp.storeRefused c = r at h
    cases step_does.mp h with
    | rewrite _ hw hm =>
      cases hw with
      | @postBegin _ _ _ e hl =>
        -- the transport refuses only a POST that carries a call, and then hands nothing over
        unfold postResp at hrr
        split at hrr <;> cases hrr
        next hac =>
        have hac : s.accepts k = false := by simpa using hac
        obtain ⟨e1, e1', p6, hmem, _, p5, p7⟩ := modify_found hm
        have hlk := lookup_ok hl
        rw [hlk.1] at p6; cases p6
        have he' : e1' = startTimer e := by simpa [startPost, deliver, hac] using p5.symm
        subst he'
        simp only [State.accepts, Bool.not_eq_false', Bool.and_eq_true, State.openFails] at hac
        obtain ⟨pre, _, post, _, p1, p2, _⟩ := modify_some hm
        have hs := startTimer_fields e
        refine ⟨by decide, by rw [← hcfg]; exact hac.2.1, hac.1, e, hl, p7, by simp [p1, p2],
          hs.2.2.2.2.2.2.2.1, hs.2.2.2.2.2.2.2.2, hs.2.2.2.1, ?_, by rw [hs.2.2.2.2.2.1]; exact hlk.2.1⟩
        rw [hs.1]; exact (good_inMap (hi.good e hmem) hlk.2.1).1
    | slPost hsl => rw [hcfg, hsf] at hsl; cases hsl
    | _ => cases hrr

/-- In every reachable state: a session with a POST in progress has no armed timer (so its callback
cannot be scheduled); the timer callback can only run for a live session with **no** POST in progress
whose deadline has passed, and that deadline is exactly one full `SessionTimeout` after the instant the
session last became idle.  (`posts` is the ghost count of POSTs between `startPOST` and `endPOST`; for
the creating POST it counts from `Connect`.) -/
theorem timer_never_fires_during_post {cfg : Cfg} {s : State} (hr : Reach cfg s)
    (hfix : cfg.publishChecks = true) :
    (∀ e ∈ s.tbl, 0 < e.posts → e.timer.isArmed = false) ∧
    (∀ i s' r, step s (.timerFire i) = some (s', r) →
      ∃ e ∈ s.tbl, e.id = i ∧ e.posts = 0 ∧ e.removed = false ∧
        ∃ d, e.timer = .armed d ∧ d ≤ s.now ∧ d = e.idleSince + cfg.timeout ∧ e.idleSince ≤ s.now) := by
  have hi := reach_inv hr hfix
  have hcfg := reach_cfg hr
  refine ⟨?_, ?_⟩
  · intro e he hp
    have hg := hi.good e he
    cases ht : e.timer with
    | nil => rfl
    | stopped => rfl
    | armed d =>
      have h1 := hg.refs_posts (by simp [ht])
      have h2 := (hg.armed d ht).1
      omega
  · intro i s' r h
    cases step_does.mp h with
    | rewrite _ hw hm =>
      cases hw
      obtain ⟨e, e', _, he, p4, p5, _⟩ := modify_found hm
      obtain ⟨hrem, ⟨d, ht, hd⟩, _⟩ := timerFireF_some.mp p5
      have hg := hi.good e he
      have h1 := hg.refs_posts (by simp [ht])
      have h2 := hg.armed d ht
      exact ⟨e, he, p4, by omega, hrem, d, ht, hd, by rw [← hcfg]; exact h2.2, hg.idle⟩

/-- The Go `assert(i.refs >= 0, "negative ref count")` in `endPOST` can never fail: whenever a POST
ends on a session whose timer has not been stopped for good, `refs` is at least 1. -/
theorem refs_assert_never_fails {cfg : Cfg} {s s' : State} {r : Resp} {i : Nat} {c : Bool} {e : Sess}
    (hr : Reach cfg s) (hfix : cfg.publishChecks = true)
    (h : step s (.postEnd (some i) c) = some (s', r)) (hf : findSess i s.tbl = some e)
    (ht : e.timer ≠ .nil) : 0 < e.refs := by
  have hi := reach_inv hr hfix
  have hg := hi.good e (findSess_some hf).1
  cases step_does.mp h with
  | rewrite _ hw hm =>
    cases hw
    obtain ⟨e1, e1', p6, _, _, p5, _⟩ := modify_found hm
    rw [hf] at p6; cases p6
    have := (endPost_fields p5).2.2.2.2.2
    have := hg.refs_posts ht
    omega

/-- Non-vacuity: with a POST in progress across the whole timeout the timer label is not enabled … -/
example :
    step (exec (init ⟨false, 100, true, false⟩) [.postBegin none (some 1) .init, .publish 0, .handlerDone 0 true,
        .postEnd (some 0) true, .postBegin (some 0) (some 1) .call, .tick 500]) (.timerFire 0) = none := by decide

/-- … and it is as soon as the POST has ended and a full timeout has passed again. -/
example :
    (step (exec (init ⟨false, 100, true, false⟩) [.postBegin none (some 1) .init, .publish 0, .handlerDone 0 true,
        .postEnd (some 0) true, .postBegin (some 0) (some 1) .call, .tick 500, .handlerDone 0 false,
        .postEnd (some 0) false, .tick 100])
      (.timerFire 0)).isSome = true := by decide

/-- On a stateless endpoint, in every reachable state: no session is ever kept, no response ever
carries an `Mcp-Session-Id`, a POST is treated the same whatever session id and user it carries (it is
handed to a temporary session — or refused with 500 when the event store does not let the temporary
session connect), and GET, DELETE and any other method are answered 405 without any effect. -/
theorem stateless_no_ids_405 {cfg : Cfg} {s : State} (hr : Reach cfg s) (hfix : cfg.publishChecks = true)
    (hst : cfg.stateless = true) :
    s.tbl = [] ∧ liveIds s = [] ∧ serverIds s = [] ∧
    (∀ sid u k, step s (.postBegin sid u k) = step s (.postBegin none none k)) ∧
    (∀ sid u k, s.connectFails = false → s.accepts k = true →
      step s (.postBegin sid u k) = some ({ s with eph := s.eph + 1 }, .forward none true)) ∧
    (∀ sid u, step s (.get sid u) = some (s, .reject 405)) ∧
    (∀ sid u, step s (.delete sid u) = some (s, .reject 405)) ∧
    (∀ sid u, step s (.other sid u) = some (s, .reject 405)) ∧
    (∀ l s' i d, step s l ≠ some (s', .forward (some i) d)) := by
  have hi := reach_inv hr hfix
  have hs : s.cfg.stateless = true := by rw [reach_cfg hr]; exact hst
  have ht := hi.stateless hs
  refine ⟨ht, by simp [liveIds, ht], by simp [serverIds, ht], ?_, ?_, ?_, ?_, ?_, ?_⟩
  · intro sid u k; exact (step_does.mpr (.slPost hs)).trans (step_does.mpr (.slPost hs)).symm
  · intro sid u k hcf hac; simpa [hcf, postResp, hac] using step_does.mpr (@Does.slPost s sid u k hs)
  · intro sid u; exact step_does.mpr (.slGet hs)
  · intro sid u; exact step_does.mpr (.slDelete hs)
  · intro sid u; exact step_does.mpr (.slOther hs)
  · intro l s' i d h
    have := (id_minted_only_on_creating_post hr hfix h).1
    rw [hs] at this; cases this

example : Reach ⟨true, 100, true, false⟩ (exec (init ⟨true, 100, true, false⟩) [.postBegin (some 7) none .init, .get (some 7) none]) :=
  ⟨_, rfl⟩

/-- **A POST is in progress from the arrival of its request headers.**  When the headers of a POST with a
session id have passed `lookupSession` (label `postHead`, answered by the transport's `forward`: it now reads
the body), the session's count of POSTs in progress is positive and its idle timer is not armed — in that
state, and it cannot be armed again before an `endPOST`: by `timer_never_fires_during_post` no reachable
state has a POST in progress and an armed timer.  The body arrives in a later label (`postBody`). -/
theorem post_in_progress_from_headers {cfg : Cfg} {s s' : State} {i : Nat} {u : User} {d : Bool}
    (hr : Reach cfg s) (hfix : cfg.publishChecks = true)
    (h : step s (.postHead (some i) u) = some (s', .forward none d)) :
    ∃ e ∈ s.tbl, ∃ e' ∈ s'.tbl, lookup s.tbl i u = .ok e ∧ e'.id = i ∧ e'.posts = e.posts + 1 ∧ e'.upl = e.upl + 1 ∧
      e'.timer.isArmed = false ∧ e'.busy = e.busy ∧ e'.initBusy = e.initBusy ∧ d = !e.closing := by
  have hr' : Reach cfg s' := reach_step hr h
  generalize hrr : Resp.forward none d = r at h
  cases step_does.mp h with
  | rewrite _ hw hm =>
    cases hw with
    | @postHead _ _ e hl =>
      cases hrr
      obtain ⟨e1, e1', p6, hmem, p4, p5, hmem'⟩ := modify_found hm
      rw [(lookup_ok hl).1] at p6; cases p6
      cases p5
      have hf := headF_fields e
      refine ⟨e, hmem, headF e, hmem', hl, by rw [hf.2.1]; exact p4, hf.2.2.2.2.1, hf.2.2.2.2.2.2.2.2.2, ?_,
        hf.2.2.2.2.2.2.2.1, hf.2.2.2.2.2.2.2.2.1, rfl⟩
      exact (timer_never_fires_during_post hr' hfix).1 _ hmem' (by rw [hf.2.2.2.2.1]; omega)
  | _ => cases hrr

/-- The arrival of the body hands the message over and changes nothing else: the POST stays in progress (it
ends with `postEnd`), the timer and `refs` are untouched; nothing is delivered to a session whose `Close`
has begun — in particular to one that is closed and gone. -/
theorem body_arrival_only_delivers {s s' : State} {i : Nat} {k : Kind} {r : Resp}
    (h : step s (.postBody i k) = some (s', r)) :
    ∃ e ∈ s.tbl, ∃ e' ∈ s'.tbl, e.id = i ∧ e'.id = i ∧ e'.posts = e.posts ∧ e'.timer = e.timer ∧ e'.refs = e.refs ∧
      e'.removed = e.removed ∧ e'.inMap = e.inMap ∧ e.upl ≠ 0 ∧
      (e.closing = true → e'.busy = e.busy ∧ e'.initBusy = e.initBusy) := by
  cases step_does.mp h with
  | rewrite _ hw hm =>
    cases hw
    obtain ⟨e1, e1', _, he1, p4, p5, he1'⟩ := modify_found hm
    have hf := bodyF_fields p5
    exact ⟨e1, he1, e1', he1', p4, by rw [hf.2.1]; exact p4, hf.2.2.2.2.1,
      hf.2.2.2.2.2.2.1, hf.2.2.2.2.2.2.2.1, hf.1, hf.2.2.2.2.2.1, hf.2.2.2.2.2.2.2.2.1, hf.2.2.2.2.2.2.2.2.2⟩

/-- **closed_session_timer_never_rearmed** (C05 "shutdown leaves no timer behind", C11 "closed and forgotten").
Once a session has been closed (`removed`: the connection is closed, the session is disconnected from the server,
`onClose` has run — by DELETE, idle timeout, server-side close or failed initialize, with or without an error of
the event store), then after EVERY continuation — in particular the POSTs that were still in progress when it
was closed (their bodies arriving, `postBody`; their ending, `postEnd`), new requests with its id, clock ticks,
repeated closes, any fault script — the session is still closed, it is neither a key of `h.sessions` nor listed by
the server, its idle timer is `nil` (stopped for good, hence not armed), and the timer callback is not enabled. -/
theorem closed_session_timer_never_rearmed {cfg : Cfg} {s : State} (hr : Reach cfg s)
    (hfix : cfg.publishChecks = true) {e : Sess} (he : e ∈ s.tbl) (hrem : e.removed = true) (ls : List Label) :
    ∃ e' ∈ (exec s ls).tbl, e'.id = e.id ∧ e'.removed = true ∧ e'.inMap = false ∧ e'.timer = .nil ∧
      e'.timer.isArmed = false ∧ e.id ∉ liveIds (exec s ls) ∧ e.id ∉ serverIds (exec s ls) ∧
      step (exec s ls) (.timerFire e.id) = none := by
  obtain ⟨⟨e', h1, h2, _, hrm, hmap, htm, _⟩, hl, hsv, _, _, _, htf, _⟩ := dead_after_removal hr hfix he hrem ls
  exact ⟨e', h1, h2, hrm, hmap, htm, by rw [htm]; rfl, hl, hsv, htf⟩

/-- Non-vacuity, and the scenario of the seeded change C05-m11: a POST whose headers have arrived is in progress
while its session is deleted (no handler is running: the close completes at once); the body arrives and the POST
ends on the closed session — the timer stays `nil`, nothing is delivered, every label stays harmless. -/
example :
    let s := exec (init ⟨false, 100, true, false⟩) [.postBegin none (some 1) .init, .publish 0, .handlerDone 0 true,
        .postEnd (some 0) true, .postHead (some 0) (some 1), .delete (some 0) (some 1), .closeDone 0]
    (s.tbl.map fun e => (e.removed, e.timer, e.posts, e.upl, e.refs)) = [(true, Timer.nil, 1, 1, 1)] ∧
    ((exec s [.postBody 0 .call, .postEnd (some 0) false, .tick 1000]).tbl.map
      fun e => (e.removed, e.timer, e.posts, e.upl, e.busy)) = [(true, Timer.nil, 0, 0, 0)] ∧
    (step s (.postBody 0 .call)).map (·.2) = some (.forward none false) := by decide

/-- `endPOST` *without* the "timer == nil: stopped for good" test: `refs` is decremented and the timer re-armed whenever it
reaches 0, as for a live session. -/
def endPostNoSentinel (now timeout : Nat) (e : Sess) : Sess :=
  if timeout = 0 then { e with posts := e.posts - 1 }
  else if e.refs - 1 = 0 then { e with posts := e.posts - 1, refs := e.refs - 1, timer := .armed (now + timeout), idleSince := now }
  else { e with posts := e.posts - 1, refs := e.refs - 1 }

/-- The sentinel is needed: without it `endPOST` arms the idle timer of a closed session when a POST that outlived the close
ends — in a reachable state. -/
theorem timer_rearmed_without_sentinel :
    ∃ s e, Reach ⟨false, 100, true, false⟩ s ∧ e ∈ s.tbl ∧ e.removed = true ∧ e.timer = .nil ∧
      (endPostNoSentinel s.now s.cfg.timeout e).timer.isArmed = true :=
  ⟨_, _, ⟨[.postBegin none (some 1) .init, .publish 0, .handlerDone 0 true, .postEnd (some 0) true,
      .postHead (some 0) (some 1), .delete (some 0) (some 1), .closeDone 0, .postBody 0 .call], rfl⟩,
    List.mem_singleton.mpr rfl, rfl, rfl, rfl⟩

/-- **Closing is total, whatever the store answers, also with POSTs in progress** (C05 "Close … returns and the
session is removed", the clause C05-m12 breaks).  A session whose close has begun and that has no handler in
flight — whatever its number of POSTs in progress (bodies still on their way) and whatever set `f` of event-store
methods fails at that moment, `SessionClosed` included — completes its close in one label: the connection is
done, the session is disconnected from the server and `onClose` has run (`removed`), it is out of `h.sessions`,
its timer is stopped for good; the store's error is only reported.  Until that label is taken it stays enabled
(`close_stays_enabled`), and afterwards nothing re-arms or re-lists the session (`closed_session_timer_never_rearmed`). -/
theorem close_total_with_posts_in_progress {cfg : Cfg} {s : State} (hr : Reach cfg s) (hfix : cfg.publishChecks = true)
    {e : Sess} (he : e ∈ s.tbl) (hc : e.closing = true) (hrem : e.removed = false)
    (hb : e.busy = 0) (hib : e.initBusy = 0) (f : Faults) (ls : List Label) :
    ∃ s₁ s₂, step s (.faults f) = some (s₁, .tau) ∧ step s₁ (.closeDone e.id) = some (s₂, .tau) ∧
      ∃ e' ∈ (exec s₂ ls).tbl, e'.id = e.id ∧ e'.removed = true ∧ e'.inMap = false ∧ e'.timer = .nil ∧
        e.id ∉ liveIds (exec s₂ ls) ∧ e.id ∉ serverIds (exec s₂ ls) := by
  obtain ⟨s₁, s₂, h1, h2, ⟨e2, he2, hid, _, hrm, _, _, _⟩, _⟩ := close_total hr hfix he hc hrem hb hib f
  have hr2 : Reach cfg s₂ := reach_step (reach_step hr h1) h2
  obtain ⟨e', h', a, b, c, d, _, g, k, _⟩ := closed_session_timer_never_rearmed hr2 hfix he2 hrm ls
  exact ⟨s₁, s₂, h1, h2, e', h', a.trans hid, b, c, d, by rw [← hid]; exact g, by rw [← hid]; exact k⟩

/-- A `closeDone` that bails out on the store's error: closing the connection returns the error of `SessionClosed` *without*
marking the connection done. -/
def closeDoneBailF (err : Bool) (e : Sess) : Option Sess := if err then none else closeDoneF false e

/-- What the statement says is the first branch of the definition above: with the store failing this completion is not enabled in
any entry (so the session would stay listed by the server and in the handler's table); nothing is said about runs.  The `example`
below sets it against `closeDoneF`, which is enabled there. -/
theorem close_that_bails_never_completes (e : Sess) : closeDoneBailF true e = none := rfl

example : ∀ e : Sess, e.closing = true → e.removed = false → e.busy = 0 → e.initBusy = 0 →
    (closeDoneF true e).isSome = true ∧ closeDoneBailF true e = none := by
  intro e h1 h2 h3 h4; simp [closeDoneF, closeDoneBailF, h1, h2, h3, h4]

end Sessions
