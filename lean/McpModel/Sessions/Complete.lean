import McpModel.Sessions.Sound
/-!
# Completeness of the C11 monitor (E7): silence means that every clause holds

`complete_<check>`: if a check yields no clause, every clause of its group (the record-level predicates of
Sound.lean) holds; `rawViol_none`: a record on which the monitor is silent passes every check;
`monitor_complete`: if the monitor reports nothing on a trace, `P_of cfg c tr` holds for EVERY clause `c`.
Together with `monitor_sound`: the monitor reports a clause on a trace iff some clause of the property fails on it
(and the clause it reports is one that fails) — stated as `monitor_silent_iff` in BridgeSound.lean.  There is no such converse for
the end-of-case record (`sound_monEnd` only).
-/
namespace Sessions

theorem complete_chkAnswer {cfg : Cfg} {fl : Faults} {tbl : List MSess} {r : Req} {st : St}
    (h : chkAnswer cfg fl tbl r st = none) (c : AnsClause) : PAns cfg fl tbl r st c := by
  -- the guards of a clause select one branch of `chkAnswer`; there `none` says what the clause demands
  cases c <;> simp only [PAns, Refusal, RefusalLive]
  case statelessNotPost | statelessHonoured | statelessPost =>
    intro hs hv
    simp only [chkAnswer, hs, if_true, ite_eq_none_iff, reduceCtorEq, and_false, or_false, false_or, and_true] at h
    grind
  case otherMethod =>
    intro hs hv
    simp only [chkAnswer, hs, hv, if_true, Bool.false_eq_true, if_false, beq_self_eq_true,
      ite_eq_none_iff, reduceCtorEq, and_false, or_false, and_true] at h
    grind
  case createAnswered | missingId =>
    intro hs hv
    first | (intro hv' hn) | (intro hn)
    simp only [chkAnswer, hs, hn, Bool.false_eq_true, if_false, ite_eq_none_iff, reduceCtorEq, and_false, or_false, and_true] at h
    grind
  case unknownHonoured =>
    intro hs hv n hn hf
    simp only [chkAnswer, hs, hn, hf, Bool.false_eq_true, if_false, ite_eq_none_iff, reduceCtorEq, and_false, or_false, and_true] at h
    grind
  case ownerRejected | foreignAnswered =>
    intro hs hv n a hn hf hl
    cases hl' : a.life <;>
      simp only [chkAnswer, hs, hn, hf, hl', Bool.false_eq_true, if_false, ite_eq_none_iff, reduceCtorEq, and_false, or_false, false_or, and_true] at h <;>
      grind
  all_goals
    intro hs hv n a hn hf hl
    simp only [chkAnswer, hs, hn, hf, hl, Bool.false_eq_true, if_false, ite_eq_none_iff, reduceCtorEq, and_false, or_false, false_or, and_true] at h
    grind

theorem complete_chkMint {cfg : Cfg} {tbl : List MSess} {req : Option Req} {st : St} {hdr : Option Name}
    (h : chkMint cfg tbl req st hdr = none) (c : MintClause) : PMint cfg tbl req st hdr c := by
  cases hdr with
  | none =>
    cases c <;> simp only [PMint]
    · intro _; trivial
    · intro _ y hy; cases hy
    · intro _ y _ hy; cases hy
    · intro _ y _ _ hy; cases hy
  | some x =>
    cases hs : cfg.stateless with
    | true => simp only [chkMint, hs, if_true] at h; cases h
    | false =>
      cases req with
      | none => simp only [chkMint, hs, Bool.false_eq_true, if_false] at h; cases h
      | some r =>
        simp only [chkMint, hs, Bool.false_eq_true, if_false] at h
        obtain ⟨h1, h⟩ := ite_some_eq_none.mp h
        cases c <;> simp only [PMint]
        · intro hs'; rw [hs] at hs'; cases hs'
        · intro _ _ _; exact ⟨r, rfl, by simpa [and_assoc] using h1⟩
        · intro _ y r' hy hr hn; cases hy; cases hr
          simp only [hn] at h
          simpa using (ite_some_eq_none.mp h).1
        · intro _ y r' n hy hr hn; cases hy; cases hr
          simp only [hn] at h
          split at h
          · next hc => simpa using hc
          · cases h

theorem complete_chkLog {cfg : Cfg} {req : Option Req} {st : St} {log : List LogEnt}
    (h : chkLog cfg req st log = none) (c : LogClause) : PLog cfg req st log c := by
  unfold chkLog at h
  cases req with
  | none =>
    simp only [] at h
    split at h
    · cases h
    · cases c <;> simp only [PLog] <;> simp_all
  | some r =>
    simp only [] at h
    split at h
    · cases h
    · rename_i hrj
      have hall := firstSome_eq_none_iff.mp h
      have hw : ∀ l ∈ log, l.who = .tok r.user := fun l hl => by
        have := hall l hl
        by_cases hw : l.who = .tok r.user
        · exact hw
        · simp [hw] at this
      cases c <;> simp only [PLog]
      · intro r' hr' hst; cases hr'
        cases hl : log with
        | nil => rfl
        | cons x t => simp [hst, hl] at hrj
      · intro r' hr' l hl; cases hr'; exact hw l hl
      · intro hsl r' hr' l hl; cases hr'; simpa [hw l hl, hsl] using hall l hl
      · intro hsl r' n hr' hn l hl; cases hr'; simpa [hw l hl, hsl, hn] using hall l hl
      · intro hr'; cases hr'

theorem complete_chkKeys {map : List MapEnt} (h : chkKeys map = none) (c : KeyClause) : PKeys map c := by
  unfold chkKeys at h
  simp only [] at h
  split at h
  · cases h
  · rename_i hd
    split at h
    · cases h
    · rename_i hb
      cases c <;> simp only [PKeys]
      · exact (eraseDups_length _ _ (Nat.le_refl _)).2 (by simpa using hd)
      · intro e he
        cases hbk : e.badKey with
        | false => rfl
        | true => exact absurd (List.any_eq_true.mpr ⟨e, he, hbk⟩) hb

theorem complete_chkGone {names : List Name} {tbl : List MSess} (h : chkGone names tbl = none) (c : GoneClause) :
    PGone names tbl c := by
  unfold chkGone at h
  have hall := firstSome_eq_none_iff.mp h
  cases c <;> simp only [PGone] <;> intro a ha hl hp <;> have := hall a ha <;>
    (by_cases hm : a.name ∈ names
     · exact hm
     · simp [hl, hm] at this)

theorem complete_chkSrv {cfg : Cfg} {names srv : List Name} (h : chkSrv cfg names srv = none) (c : SrvClause) :
    PSrv cfg names srv c := by
  unfold chkSrv at h
  cases hsl : cfg.stateless with
  | true =>
    rw [hsl] at h
    simp only [if_true] at h
    cases c <;> simp only [PSrv, hsl] <;> (try (intro hx; cases hx))
    intro n hn
    split at h
    · cases h
    · rename_i ha
      by_cases hne : n = .e
      · exact hne
      · exact absurd (List.any_eq_true.mpr ⟨n, hn, by simp [hne]⟩) ha
  | false =>
    rw [hsl] at h
    simp only [Bool.false_eq_true, if_false] at h
    obtain ⟨h1, h2⟩ := firstViol_eq_none h
    cases c <;> simp only [PSrv, hsl] <;> (try (intro hx; cases hx))
    · intro n hn; simpa using firstSome_eq_none_iff.mp h1 n hn
    · intro n hn; simpa using firstSome_eq_none_iff.mp h2 n hn

theorem complete_chkNoId {cfg : Cfg} {req : Option Req} {st : St} {hdr : Option Name} (h : chkNoId cfg req st hdr = false) :
    PNoId cfg req st hdr := by
  intro r hr h1 h2 h3 h4 h5
  subst hr
  unfold chkNoId at h
  cases hdr with
  | some x => rfl
  | none => simp [h1, h2, h3, h4, h5] at h

theorem complete_judgeEntry {cfg : Cfg} {now : Nat} {req : Option Req} {st : St} {hdr : Option Name} {tbl : List MSess}
    {ent : MapEnt} (h : (judgeEntry cfg now req st hdr tbl ent).2 = none) (c : TblClause) :
    PTbl cfg req st hdr tbl ent c := by
  have racy : monFind tbl ent.name = none → reqRacy req = false := fun hf => by
    cases hr : reqRacy req with
    | false => rfl
    | true => rw [judgeEntry_racy hf hr] at h; cases h
  -- an entry that appears without a creating request is reported, stateless or not
  have other : monFind tbl ent.name = none → ∃ r, req = some r ∧ r.verb = .post ∧ r.ref = .absent ∧ cfg.stateless = false :=
    fun hf => Classical.byContradiction fun hc => by
      rw [judgeEntry_appeared hf (racy hf) (fun r hq hx => hc ⟨r, hq, hx⟩)] at h
      split at h <;> cases h
  cases c <;> simp only [PTbl]
  case ownerChanged | deadInTable | closingDuringPost | closingNoCause =>
    intro a hf
    rw [judgeEntry_known hf] at h
    simp only [ite_eq_none_iff, reduceCtorEq, and_false, false_or, and_true] at h
    grind
  case f20 => exact racy
  case keptAfterFailedInit | keptAfterRefusal | boundToOther | notTheNamed =>
    intro hf r hq hv ha hs
    rw [judgeEntry_creating hf hq (by simpa [hq, reqRacy] using racy hf) hv ha hs] at h
    simp only [ite_eq_none_iff, reduceCtorEq, and_false, false_or, and_true] at h
    grind
  case statelessKeeps =>
    intro hs
    cases hf : monFind tbl ent.name with
    | some a => rfl
    | none => obtain ⟨r, _, _, _, hs'⟩ := other hf; rw [hs] at hs'; cases hs'
  case appeared =>
    intro _ hf
    obtain ⟨r, hq, hv, ha, _⟩ := other hf
    exact ⟨r, hq, hv, ha⟩

theorem complete_chkBodyLog {pend : List (Tag × Name)} {n : Nat} {log : List LogEnt}
    (h : chkBodyLog pend n log = none) (c : LogClause) : PBodyLog pend n log c := by
  unfold chkBodyLog at h
  cases hf : pend.find? (·.1 == Tag.u n) with
  | none =>
    rw [hf] at h
    simp only [] at h
    split at h
    · cases h
    · rename_i hne
      cases c <;> simp only [PBodyLog]
      · intro t nm hx; rw [hf] at hx; cases hx
      · intro _
        cases hl : log with
        | nil => rfl
        | cons x t => simp [hl] at hne
  | some x =>
    obtain ⟨t, nm⟩ := x
    rw [hf] at h
    simp only [] at h
    have hall := firstSome_eq_none_iff.mp h
    cases c <;> simp only [PBodyLog]
    · intro t' nm' hx l hl
      rw [hf] at hx
      cases hx
      have := hall l hl
      simp only [ite_eq_right_iff] at this
      cases hs : (l.sess != nm) with
      | false => simpa using hs
      | true => exact absurd (this hs) (by simp)
    · intro hx; rw [hf] at hx; cases hx

theorem complete_chkClose {map : List MapEnt} {stale : List Name} (h : chkClose map stale = none) (c : CloseClause) :
    PClose map stale c := by
  unfold chkClose at h
  have h1 := firstSome_eq_none_iff.mp (firstViol_eq_none h).1
  have h2 := firstSome_eq_none_iff.mp (firstViol_eq_none h).2
  cases c <;> simp only [PClose]
  · intro e he hc hb
    have := h1 e he
    simp [hc, hb] at this
  · cases hs : stale with
    | nil => rfl
    | cons x t => have := h2 x (by rw [hs]; simp); cases this

theorem viol_none_raw {cfg : Cfg} {pre : Trace} {op : Op} {o : Obs} (h : (monStep cfg (Abs cfg pre) op o).viol = none) :
    rawViol cfg pre op o = none := by
  rw [monStep_viol] at h
  split at h
  · exact Option.map_eq_none_iff.mp h
  · exact h

theorem rawViol_none {cfg : Cfg} {pre : Trace} {op : Op} {o : Obs} (h : rawViol cfg pre op o = none) :
    chkAnswerOp cfg (faultsAt cfg pre) (tableAt cfg pre op) op o.status = none ∧
    chkLogOp cfg (Abs cfg pre).pend op o.status o.log = none ∧
    chkMint cfg (tableAt cfg pre op) op.req o.status o.hdr = none ∧
    (scanMap cfg (nowAt cfg pre op) op.req o.status o.hdr (bookedAt cfg pre op o) o.map).2 = none ∧ chkKeys o.map = none ∧
    chkGone (o.map.map (·.name)) (scannedAt cfg pre op o o.map) = none ∧ chkSrv cfg (o.map.map (·.name)) o.srv = none ∧
    chkNoId cfg op.req o.status o.hdr = false ∧ chkClose o.map o.stale = none := by
  unfold rawViol at h
  obtain ⟨h1, h⟩ := firstViol_eq_none h
  obtain ⟨h2, h⟩ := firstViol_eq_none h
  obtain ⟨h3, h⟩ := firstViol_eq_none h
  obtain ⟨h4, h⟩ := firstViol_eq_none h
  obtain ⟨h5, h⟩ := firstViol_eq_none h
  obtain ⟨h6, h⟩ := firstViol_eq_none h
  obtain ⟨h7, h⟩ := firstViol_eq_none h
  obtain ⟨h8, h9⟩ := firstViol_eq_none h
  refine ⟨Option.map_eq_none_iff.mp h1, Option.map_eq_none_iff.mp h2, Option.map_eq_none_iff.mp h3,
    Option.map_eq_none_iff.mp h4, Option.map_eq_none_iff.mp h5, Option.map_eq_none_iff.mp h6,
    Option.map_eq_none_iff.mp h7, ?_, Option.map_eq_none_iff.mp h9⟩
  cases hn : chkNoId cfg op.req o.status o.hdr with
  | false => rfl
  | true => rw [hn] at h8; cases h8

theorem monitor_complete {cfg : Cfg} {tr : Trace} (h : runMon cfg tr = none) (c : Clause) : P_of cfg c tr := by
  have silent := fun {pre : Trace} {op : Op} {o : Obs} {post : Trace} (htr : tr = pre ++ (op, o) :: post) =>
    rawViol_none (viol_none_raw (runMonFrom_none h pre op o post htr))
  induction c with
  | zombieThen c ih => exact ih
  | ans x =>
    intro pre op o post r htr hr hansw
    have h1 := (silent htr).1
    rw [chkAnswerOp_judges.2 hansw] at h1
    unfold chkAnswerO at h1
    rw [hr] at h1
    exact complete_chkAnswer h1 x
  | log x =>
    intro pre op o post htr
    have h2 := (silent htr).2.1
    show PLogOp cfg (monAfter cfg {} pre).pend op o.status o.log x
    cases op <;> simp only [chkLogOp] at h2 <;> simp only [PLogOp] <;>
      first | exact complete_chkBodyLog h2 x | exact complete_chkLog h2 x
  | mint x => exact fun pre op o post htr => complete_chkMint (silent htr).2.2.1 x
  | tbl x =>
    exact fun pre op o post seen ent rest htr hl => complete_judgeEntry (scanMap_none (silent htr).2.2.2.1 seen ent rest hl) x
  | key x => exact fun pre op o post htr => complete_chkKeys (silent htr).2.2.2.2.1 x
  | gone x => exact fun pre op o post htr => complete_chkGone (silent htr).2.2.2.2.2.1 x
  | srv x => exact fun pre op o post htr => complete_chkSrv (silent htr).2.2.2.2.2.2.1 x
  | noId => exact fun pre op o post htr => complete_chkNoId (silent htr).2.2.2.2.2.2.2.1
  | close x => exact fun pre op o post htr => complete_chkClose (silent htr).2.2.2.2.2.2.2.2 x

end Sessions
