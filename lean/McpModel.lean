-- Root of the `McpModel` library: imports every engine's theorems so `lake build` checks them all.
-- (Driver modules define `main` and are built as lean_exe targets; they are not imported here.)
import McpModel.Base.Proto
import McpModel.Base.FirstReport
import McpModel.Base.Logic
import McpModel.Base.Run
import McpModel.EventStore.Props
import McpModel.EventStore.Bridge
import McpModel.EventStore.Sound
import McpModel.EventStore.Iter
import McpModel.EventStore.Concurrent
import McpModel.EventStore.Window
import McpModel.Conn.Props
import McpModel.Conn.Deadlock
import McpModel.Conn.PcStep
import McpModel.Conn.Variant
import McpModel.Conn.Obligations
import McpModel.Conn.Terminate
import McpModel.Conn.Stuck
import McpModel.Conn.CallerLive
import McpModel.Conn.CallerProps
import McpModel.Conn.TerminateEnv
import McpModel.Conn.TerminatePeer
import McpModel.Conn.Bridge
import McpModel.Conn.Sound
import McpModel.SessClose.Props
import McpModel.SessClose.MonitorProps
import McpModel.SessClose.WireProps
import McpModel.SessClose.CallsProps
import McpModel.Bearer.Props
import McpModel.Bearer.Bridge
import McpModel.Bearer.Sound
import McpModel.Bearer.SessionProps
import McpModel.KeepAlive.Props
import McpModel.KeepAlive.CloseProps
import McpModel.KeepAlive.Bridge
import McpModel.KeepAlive.Sound
import McpModel.KeepAlive.Independence
import McpModel.KeepAlive.PeerProps
import McpModel.KeepAlive.StarveProps
import McpModel.OAuth.Props
import McpModel.OAuth.Bridge
import McpModel.OAuth.Sound
import McpModel.OAuth.Concurrent
import McpModel.OAuth.NewHandler
import McpModel.OAuth.Scopes
import McpModel.OAuth.Discovery
import McpModel.OAuth.Challenge
import McpModel.Paginate.Props
import McpModel.Paginate.Accept
import McpModel.Paginate.IterSpec
import McpModel.Paginate.Sound
import McpModel.Paginate.TwoPhase
import McpModel.Negotiate.Props
import McpModel.Negotiate.Sound
import McpModel.Negotiate.Stack
-- (Paginate/Negotiate drivers are roots of their own executables; two `main`s cannot be imported together)
import McpModel.TypedTool.Props
import McpModel.TypedTool.DispatchTable
import McpModel.TypedTool.Bridge
import McpModel.TypedTool.Sound
import McpModel.TypedTool.Overlap
import McpModel.TypedTool.HandlerSet
import McpModel.TypedTool.Refusal
import McpModel.TypedTool.MarshalFail
import McpModel.Preflight.Props
import McpModel.Preflight.SeqProps
import McpModel.Preflight.Sound
import McpModel.Preflight.Bridge
import McpModel.Notify.Props
import McpModel.Notify.Bridge
import McpModel.Notify.Sound
import McpModel.Notify.PagesProps
import McpModel.Notify.RootsProps
import McpModel.ClientStream.Props
import McpModel.ClientStream.AsBuilt
import McpModel.ClientStream.Bridge
import McpModel.ClientStream.Sound
import McpModel.ClientStream.Pair
import McpModel.ClientWrite.Props
import McpModel.ClientWrite.OpenProps
import McpModel.ClientWrite.CloseProps
import McpModel.ClientWrite.ModesProps
-- (McpModel.ClientStream.Driver defines its own top-level `main`; it is built by the lean_exe drv_clientstream)
import McpModel.Sessions.Props
import McpModel.Sessions.Bridge
import McpModel.Sessions.Sound
import McpModel.Sessions.Complete
import McpModel.Sessions.BridgeSound
import McpModel.Sessions.BridgeTotal
import McpModel.Sessions.EphemeralProps
import McpModel.Sessions.GateProps
import McpModel.Wire.Props
import McpModel.Wire.Bridge
import McpModel.Wire.BridgeIO
import McpModel.Wire.Sound
import McpModel.Wire.SoundIO
import McpModel.Gate.Props
import McpModel.Gate.Sound
import McpModel.Gate.Accept
import McpModel.Gate.Custom
import McpModel.Gate.Mid
import McpModel.Resume.Props
import McpModel.Resume.Witness
import McpModel.Resume.Accept08
import McpModel.Resume.Sound08
import McpModel.Resume.Purge
import McpModel.Resume.Window
import McpModel.Resume.Accept10
import McpModel.Resume.Sound10
import McpModel.Resume.WitnessBridge
import McpModel.Resume.HoldBridge
import McpModel.Resume.BatchBridge
import McpModel.Resume.Witness2
import McpModel.Resume.Fanout
import McpModel.Resume.FanBridge
import McpModel.Resume.Pressure
import McpModel.Resume.AppendFail
import McpModel.Resume.KeepBridge
import McpModel.Resume.Lifecycle
import McpModel.Resume.IdBridge
import McpModel.Resume.KeepProps
import McpModel.Order.Props
import McpModel.Cancel.Props
import McpModel.Cancel.Bridge
import McpModel.Cancel.Sound
import McpModel.Cancel.Group
import McpModel.Cancel.Twin
import McpModel.Cancel.Frame
import McpModel.Order.FanProps
import McpModel.Order.Sound
import McpModel.Order.Cancel
import McpModel.Order.Ephemeral
import McpModel.Order.EphemeralBodyProps
import McpModel.SseClient.Props
import McpModel.SseClient.Sound
import McpModel.SseClient.Bridge
import McpModel.SseClient.Examples
-- (McpModel.SseClient.Driver defines its own top-level `main`; it is built by the lean_exe drv_sseclient)
import McpModel.CmdTransport.Props
import McpModel.CmdTransport.Bridge
